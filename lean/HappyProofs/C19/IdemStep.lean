import HappyProofs.C19.IdemInv
/-!
C19 / idem — the branches of `step` as an inductive relation, and the invariant along each of them.

On a literal line the history functions (`live`, `flying`, …, the `countP`s of lines that do not count)
reduce by computation, so the clauses of `Inv` a branch does not move are those of the state before:
each case below is `{ I with … }`, naming only what the line changes.
-/
namespace HappyModel.C19.Idem

variable {cfg : Cfg} {s : St} {h : List Obs} {lo t : Nat} {a : Act} {r : St × Out}

/-- holds of `r = step cfg s t a` (`step_spec`); one constructor per branch of the code (guards as hypotheses); every
    refused delivery is `bad`, which carries no guard -/
inductive Step (cfg : Cfg) (s : St) (t : Nat) : Act → St × Out → Prop
  | keyless (rid : Nat) : Step cfg s t (.req rid none) (forward cfg { s with total := s.total + 1 } t rid none)
  | dup (rid : Nat) (k : Key) : known s k = true →
      Step cfg s t (.req rid (some k))
        ({ s with total := s.total + 1, hits := s.hits + 1 }, .sup { s with total := s.total + 1, hits := s.hits + 1 }.ctr)
  | fresh (rid : Nat) (k : Key) : known s k = false →
      Step cfg s t (.req rid (some k))
        (forward cfg { s with total := s.total + 1, misses := s.misses + 1, infl := s.infl ++ [k] } t rid (some k))
  | recv (rid r : Nat) (k : Option Key) : findRid rid s.sent = some (r, k, t) →
      Step cfg s t (.recv rid) ({ s with sent := dropRid rid s.sent, work := s.work ++ [(rid, k)] }, .got k t)
  | done (rid r : Nat) (k : Option Key) : findRid rid s.work = some (r, k) →
      Step cfg s t (.done rid) ({ s with work := dropRid rid s.work, fins := s.fins ++ [k] }, .fin k)
  | resp (k : Option Key) : s.fins.contains k = true → respOk s k = true →
      Step cfg s t (.resp k) (respSt cfg s t k, .ok (respSt cfg s t k).ctr)
  | sweep : s.pend.contains t = true →
      Step cfg s t .sweep (sweepSt cfg s t, .swept (nextSweep cfg s t) (sweepSt cfg s t).ctr)
  | bad (a : Act) : Step cfg s t a (s, .bad)

theorem step_spec (cfg : Cfg) (s : St) (t : Nat) (a : Act) : Step cfg s t a (step cfg s t a) := by
  cases a with
  | req rid k =>
    cases k with
    | none => exact .keyless rid
    | some k =>
      cases hk : known s k with
      | true => simpa only [step, stepReq, hk, if_true] using Step.dup rid k hk
      | false => simpa only [step, stepReq, hk, Bool.false_eq_true, if_false] using Step.fresh rid k hk
  | recv rid =>
    simp only [step, stepRecv]
    split
    · next r k st hf =>
      split
      · next hst => exact (beq_iff_eq.1 hst) ▸ .recv rid r k (beq_iff_eq.1 hst ▸ hf)
      · exact .bad _
    · exact .bad _
  | done rid =>
    simp only [step, stepDone]
    split
    · next r k hf => exact .done rid r k hf
    · exact .bad _
  | resp k =>
    simp only [step, stepResp]
    split
    · next hg => exact .resp k (Bool.and_eq_true_iff.1 hg).1 (Bool.and_eq_true_iff.1 hg).2
    · exact .bad _
  | sweep =>
    simp only [step, stepSweep]
    split
    · next hg => exact .sweep hg
    · exact .bad _

attribute [local simp] nReq nKeyless nSup nMiss nStored List.countP_cons isReq isKeyless isSup isMiss isStore

theorem Inv.raise (I : Inv cfg s h lo) (ht : lo ≤ t) : Inv cfg s h t :=
  { I with mono := fun x hx => Nat.le_trans (I.mono x hx) ht }

/-- a fresh keyed forward starts a chain exactly when nothing was cached or in flight before, so one cleanup event
    is pending afterwards: the old one, or one an interval ahead -/
theorem fresh_pend (I : Inv cfg s h lo) (k : Key) (t : Nat) :
    ∃ p, s.pend ++ (cleanupAt cfg { s with total := s.total + 1, misses := s.misses + 1, infl := s.infl ++ [k] }
      true t).toList = [p] ∧ (p ∈ s.pend ∨ p = t + cfg.interval) := by
  rcases I.chain with ⟨hc, hf, hp⟩ | ⟨hb, p, hp⟩
  · exact ⟨t + cfg.interval, by simp [cleanupAt, wantCleanup, hc, hf, hp], .inr rfl⟩
  · refine ⟨p, ?_, .inl (by simp [hp])⟩
    rcases hb with hc | hf
    · simp [cleanupAt, wantCleanup, hc, hp]
    · cases hi : s.infl with
      | nil => exact absurd hi hf
      | cons => simp [cleanupAt, wantCleanup, hp]

theorem remember_size (hm : 1 ≤ cfg.maxE) (c : List (Key × Nat)) (k : Key) (t : Nat) :
    (remember cfg c k t).length + evicted cfg c = c.length + 1 := by
  unfold remember evicted
  split
  · simp [List.length_tail]; omega
  · simp

theorem remember_bound (c : List (Key × Nat)) (k : Key) (t : Nat) (hb : c.length ≤ cfg.maxE) (hm : 1 ≤ cfg.maxE) :
    (remember cfg c k t).length ≤ cfg.maxE := by
  unfold remember
  split
  · simp [List.length_tail]; omega
  · simp; omega

theorem remember_ne_nil (c : List (Key × Nat)) (k : Key) (t : Nat) : remember cfg c k t ≠ [] := by
  simp [remember]

theorem pend_single (I : Inv cfg s h lo) (t : Nat) (hp : s.pend.contains t = true) : s.pend = [t] := by
  rcases I.chain with ⟨_, _, he⟩ | ⟨_, p, hp'⟩
  · simp [he] at hp
  · rw [hp'] at hp ⊢
    simp at hp
    rw [hp]

/-- `hl`: in the repaired code a key-less request starts no cleanup chain -/
theorem Step.inv (hl : cfg.legacy = false) (hm : 1 ≤ cfg.maxE) (S : Step cfg s t a r) (I : Inv cfg s h lo)
    (ht : lo ≤ t) (hb : r.2 ≠ .bad) : Inv cfg r.1 (⟨t, a, r.2⟩ :: h) t := by
  replace I := I.raise ht
  cases S with
  | bad => exact absurd rfl hb
  | keyless rid =>
    have hc : cleanupAt cfg { s with total := s.total + 1 } false t = none := by
      simp [cleanupAt, wantCleanup, hl]
    simp only [forward, Option.isSome_none, hc, Option.toList_none, List.append_nil]
    exact { I with
      sent := I.sent ▸ rfl
      pend := I.pend.trans (List.append_nil _).symm
      total := by simp [I.total]
      addup := by simp [I.addup]; omega }
  | dup rid k hk =>
    exact { I with
      total := by simp [I.total]
      hits := by simp [I.hits]
      addup := by simp [I.addup]; omega }
  | fresh rid k hk =>
    obtain ⟨p, hp, hor⟩ := fresh_pend I k t
    simp only [forward, Option.isSome_some]
    exact { I with
      infl := I.infl ▸ rfl
      sent := I.sent ▸ rfl
      pend := I.pend ▸ rfl
      total := by simp [I.total]
      misses := by simp [I.misses]
      addup := by simp [I.addup]; omega
      idle := fun _ hf => by simp at hf
      busy := fun _ => ⟨p, hp⟩
      gap := fun x q hx hq => by
        have := I.mono x hx
        have := I.gap x q hx
        simp only [hp, List.mem_singleton] at hq
        grind }
  | recv rid r k hf => exact { I with sent := I.sent ▸ rfl, work := I.work ▸ rfl }
  | done rid r k hf => exact { I with work := I.work ▸ rfl, fins := I.fins ▸ rfl }
  | resp k hfin hok =>
    cases k with
    | none => exact { I with fins := by simp only [respSt]; exact I.fins ▸ rfl }
    | some k =>
      simp only [respSt]
      have hin : s.infl ≠ [] := by
        intro he
        simp [respOk, he] at hok
      exact { I with
        cache := I.cache ▸ rfl
        infl := I.infl ▸ rfl
        fins := I.fins ▸ rfl
        stored := by simp [I.stored]
        size := by
          have := remember_size hm s.cache k t
          have := I.size
          show (remember cfg s.cache k t).length + (s.expired + evicted cfg s.cache) = s.stored + 1
          omega
        bound := remember_bound s.cache k t I.bound hm
        idle := fun hc _ => absurd hc (remember_ne_nil s.cache k t)
        busy := fun _ => I.busy (.inr hin) }
  | sweep hg =>
    have hp := pend_single I t hg
    have hn : nextSweep cfg s t = (if keep cfg t s.cache = [] ∧ s.infl = [] then none else some (t + cfg.interval)) := by
      unfold nextSweep
      cases keep cfg t s.cache <;> cases s.infl <;> rfl
    simp only [sweepSt]
    exact { I with
      cache := I.cache ▸ rfl
      pend := I.pend ▸ rfl
      size := by
        have := filter_split_length (isExpired cfg t) s.cache
        have := I.size
        show (keep cfg t s.cache).length + (s.expired + (s.cache.filter (isExpired cfg t)).length) = s.stored
        unfold keep
        omega
      bound := Nat.le_trans (List.length_filter_le _ _) I.bound
      idle := fun hc hf => by simp [hp, hn, show keep cfg t s.cache = [] from hc, show s.infl = [] from hf]
      busy := fun hor => ⟨t + cfg.interval, by
        have : ¬ (keep cfg t s.cache = [] ∧ s.infl = []) := fun ⟨h1, h2⟩ => hor.elim (· h1) (· h2)
        simp [hp, hn, this]⟩
      gap := fun x q hx hq => by
        obtain rfl : t = x := Option.some.inj hx
        simp only [hp, hn] at hq
        split at hq <;> simp at hq
        omega
      mono := fun x hx => Nat.le_of_eq (Option.some.inj hx).symm }

end HappyModel.C19.Idem
