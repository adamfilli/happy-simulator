import HappyProofs.C18.UnionRounds
/-!
The two facts about one lossless round in a state with `TInv`; (b) also needs `Fresh`.

(a) What a round owes flows (`round_flows`): in each of the four phases of a round (`round_cases`) the
knowledge of a key moves from the sender to the new message entity, or from the message entity to the
receiver.
(b) After a round a store knows only what some store knew before (`round_learns_only_known`): every merge
of the round reads from a store or from one of the two message entities the round creates, and those
are fresh.
-/
namespace HappyModel.C18

def SrcAll (P : Nat → Prop) (ops : List (Nat × XOp)) : Prop :=
  ∀ e ∈ ops, ∀ dd ss, e.2 = XOp.base (.merge dd ss) → P ss

theorem SrcAll.append {P : Nat → Prop} {x y : List (Nat × XOp)} (hx : SrcAll P x) (hy : SrcAll P y) :
    SrcAll P (x ++ y) := by
  intro e he
  rcases List.mem_append.mp he with h | h
  · exact hx e h
  · exact hy e h

theorem emit_src (p : PSt) (s d : Nat) (push : Bool) (P : Nat → Prop) (hs : P s) :
    SrcAll P (p.emit .repaired s d push).2 := by
  intro e he dd ss ho
  obtain ⟨kn, _, rfl⟩ := List.mem_map.mp (emit_ops p s d push ▸ he)
  cases ho
  exact hs

theorem mergeKeys_src (p : PSt) (d m : Nat) (keys : List (Nat × Nat)) (P : Nat → Prop) (hm : P (p.n + m)) :
    SrcAll P (p.mergeKeys .repaired d m keys).2 := by
  intro e he dd ss ho
  obtain ⟨kn, _, rfl⟩ := List.mem_map.mp (mergeKeys_ops p d m keys ▸ he)
  cases ho
  exact hm

theorem round_learns_only_known (kind : Kind) {n : Nat} {j : JSt} {st : SSt} {ops : List (Nat × XOp)}
    (T : TInv n j st ops) (hF : Fresh st.p ops) (s jx k x : Nat) (hs : s < n) (a : Nat) (ha : a < n)
    (hx : x ∈ knowOf k (ops ++ (st.p.step .repaired kind (.round s jx)).2) a) :
    ∃ b, b < n ∧ x ∈ knowOf k ops b := by
  have hn : st.p.n = n := T.j.n_eq
  let len := st.p.msgs.length
  let P : Nat → Prop := fun r => r < n ∨ r = n + len ∨ r = n + len + 1
  -- every merge of the round reads from a store or from one of the two messages the round builds
  have hsrc : SrcAll P (st.p.step .repaired kind (.round s jx)).2 := by
    rcases round_cases kind st.p s jx with ⟨_, _, he⟩ | ⟨q, qs, d, hps, hd, ⟨_, he⟩ | ⟨_, he⟩⟩
    · rw [he]; exact fun _ he => nomatch he
    · rw [he]
      exact (emit_src _ s d true P (Or.inl hs)).append (mergeKeys_src _ d _ _ P (Or.inr (Or.inl (hn ▸ rfl))))
    · rw [he]
      have hn2 : (rE2 st.p s d).1.n = n := (rE2_facts st.p s d).1.trans hn
      exact (((emit_src _ s d true P (Or.inl hs)).append
        (mergeKeys_src _ d _ _ P (Or.inr (Or.inl (hn ▸ rfl))))).append
        (emit_src _ d s false P (Or.inl (hd ▸ peer_lt T.wfp s jx q qs hps)))).append
        (mergeKeys_src _ s _ _ P (Or.inr (Or.inr (hn2 ▸ (Nat.add_assoc _ _ _).symm))))
  -- the round's operations of key k are merges
  have hmer := gossip_step_merge kind st.p (.round s jx) rfl
  have hkey := keyOps_of_merges k _ hmer
  unfold knowOf at hx ⊢
  rw [keyOps_append, SpecSys.run_append, hkey] at hx
  let R := List.range n ++ [n + len, n + len + 1]
  have hclosed : ∀ e ∈ mergePairs (keyOps k (st.p.step .repaired kind (.round s jx)).2), e.1 ∈ R → e.2 ∈ R := by
    intro e he _
    simp only [mergePairs, List.mem_filterMap] at he
    obtain ⟨o, ho, hoe⟩ := he
    cases o <;> simp at hoe
    rename_i dd ss
    subst hoe
    rw [mem_keyOps] at ho
    have := hsrc _ ho dd ss rfl
    simp only [R, List.mem_append, List.mem_range, List.mem_cons, List.not_mem_nil, or_false]
    exact this
  obtain ⟨r0, hr0, hx0⟩ := closed_bounded _ _ R x hclosed a
    (by simp only [R, List.mem_append, List.mem_range]; exact Or.inl ha) hx
  simp only [R, List.mem_append, List.mem_range, List.mem_cons, List.not_mem_nil, or_false] at hr0
  rcases hr0 with h | h
  · exact ⟨r0, h, hx0⟩
  · -- a message the round is about to build has received nothing yet
    exfalso
    have hne : (SpecSys.run {} (keyOps k ops)).know r0 ≠ [] := List.ne_nil_of_mem hx0
    rcases know_origin _ _ r0 hne with h' | ⟨o, ho, hr⟩
    · exact h' rfl
    · rw [mem_keyOps] at ho
      have := hF _ ho o rfl
      rw [hr, hn] at this
      rcases h with h | h <;> omega

theorem knowOf_mono (k : Nat) (ops more : List (Nat × XOp)) (x r : Nat) (h : x ∈ knowOf k ops r) :
    x ∈ knowOf k (ops ++ more) r := by
  unfold knowOf at h ⊢
  rw [keyOps_append, SpecSys.run_append]
  exact know_mono_run _ x r _ h

theorem emit_flow (p : PSt) (hp : PInv p) (ops : List (Nat × XOp)) (s d : Nat) (push : Bool) (k x : Nat)
    (hk : k ∈ (p.keysOf s).map (·.1)) (h : x ∈ knowOf k ops s) :
    x ∈ knowOf k (ops ++ (p.emit .repaired s d push).2) (p.n + p.msgs.length) := by
  unfold knowOf at h ⊢
  rw [keyOps_append, SpecSys.run_append, keyOps_emit p hp, if_pos hk]
  simp only [SpecSys.run, SpecSys.step_merge]
  rw [SpecSys.mem_know_merge]
  exact Or.inr ⟨rfl, h⟩

theorem mergeKeys_flow (p : PSt) (ops : List (Nat × XOp)) (d m : Nat) (keys : List (Nat × Nat)) (k x : Nat)
    (hnd : (keys.map (·.1)).Nodup) (hk : k ∈ keys.map (·.1)) (h : x ∈ knowOf k ops (p.n + m)) :
    x ∈ knowOf k (ops ++ (p.mergeKeys .repaired d m keys).2) d := by
  unfold knowOf at h ⊢
  rw [keyOps_append, SpecSys.run_append, keyOps_mergeKeys p d m keys k hnd, if_pos hk]
  simp only [SpecSys.run, SpecSys.step_merge]
  rw [SpecSys.mem_know_merge]
  exact Or.inr ⟨rfl, h⟩

theorem knowOf_ne {k : Nat} {ops : List (Nat × XOp)} {r x : Nat} (h : x ∈ knowOf k ops r) :
    (SpecSys.run {} (keyOps k ops)).know r ≠ [] := List.ne_nil_of_mem h

theorem round_push_flow {n : Nat} {j : JSt} {st : SSt} {ops : List (Nat × XOp)} (T : TInv n j st ops)
    (s d k x : Nat) (hs : s < n) (h : x ∈ knowOf k ops s) :
    x ∈ knowOf k (ops ++ ((rE1 st.p s d).2 ++ (rMk st.p s d).2)) d := by
  have hne := knowOf_ne h
  rw [← T.j.spec k] at hne
  have hk := (holds_keysOf st.p s k).mp (known_held T.j T.good s k hs hne)
  have h1 := emit_flow st.p T.j.pinv ops s d true k x hk h
  have h2 := mergeKeys_flow (rE1 st.p s d).1 (ops ++ (rE1 st.p s d).2) d st.p.msgs.length (st.p.keysOf s) k x
    (keysOf_nodup st.p T.j.pinv s) hk h1
  rw [List.append_assoc] at h2
  exact h2

theorem round_answer_flow {n : Nat} {j : JSt} {st : SSt} {ops : List (Nat × XOp)} (T : TInv n j st ops)
    (s d k x : Nat) (hd : d < n) (h : x ∈ knowOf k ops d) :
    x ∈ knowOf k (ops ++ ((rE1 st.p s d).2 ++ (rMk st.p s d).2 ++ (rE2 st.p s d).2 ++ (rMk2 st.p s d).2)) s := by
  have hne := knowOf_ne h
  rw [← T.j.spec k] at hne
  have hh := known_held T.j T.good d k hd hne
  have hg : Grows st.p (rMk st.p s d).1 := (grows_emit _ _ _ _).trans (grows_mergeKeys _ _ _ _).1
  have hk := (holds_keysOf (rMk st.p s d).1 d k).mp (hg.2 _ _ hh)
  have hpinv : PInv (rMk st.p s d).1 := pinv_mergeKeys _ (pinv_emit st.p T.j.pinv s d true) _ _ _
  have h0 : x ∈ knowOf k (ops ++ (rE1 st.p s d).2 ++ (rMk st.p s d).2) d := knowOf_mono k _ _ x d (knowOf_mono k _ _ x d h)
  have h1 := emit_flow (rMk st.p s d).1 hpinv _ d s false k x hk h0
  have hidx : (rMk st.p s d).1.n + (rMk st.p s d).1.msgs.length = (rE2 st.p s d).1.n + (st.p.msgs.length + 1) := by
    rw [(rMk_facts st.p s d).1, (rMk_facts st.p s d).2.1, (rE2_facts st.p s d).1, List.length_append]; rfl
  rw [hidx] at h1
  have h2 := mergeKeys_flow (rE2 st.p s d).1 _ s (st.p.msgs.length + 1) ((rMk st.p s d).1.keysOf d) k x
    (keysOf_nodup _ hpinv d) hk h1
  simp only [← List.append_assoc]
  exact h2

/-- the pair `(d, s)` is the owed flow `s → d` -/
theorem reachB_one {K : Nat → Prop} (d s : Nat) (S : List Nat) (hS : ∀ r ∈ S, K r) (hd : s ∈ S → K d) :
    ∀ r ∈ reachB [(d, s)] S, K r := by
  intro r hr
  simp only [reachB] at hr
  split at hr
  · next hin => exact (List.mem_cons.mp hr).elim (fun e => e ▸ hd (by simpa using hin)) (hS r)
  · exact hS r hr

theorem round_flows (kind : Kind) {n : Nat} {j : JSt} {st : SSt} {ops : List (Nat × XOp)}
    (T : TInv n j st ops) (s jx k x : Nat) (hs : s < n) (S : List Nat)
    (hS : ∀ r ∈ S, x ∈ knowOf k ops r) :
    ∀ r ∈ reachB (owedFlows st.p.peers (.round s jx)) S,
      x ∈ knowOf k (ops ++ (st.p.step .repaired kind (.round s jx)).2) r := by
  have hmono : ∀ r ∈ S, x ∈ knowOf k (ops ++ (st.p.step .repaired kind (.round s jx)).2) r :=
    fun r hr => knowOf_mono k _ _ x r (hS r hr)
  rcases round_cases kind st.p s jx with ⟨_, how, _⟩ | ⟨q, qs, d, hps, hd, ⟨how, he⟩ | ⟨how, he⟩⟩
  · rw [how]; exact hmono
  · rw [how, he]
    rw [he] at hmono
    exact reachB_one d s S hmono fun hin => round_push_flow T s _ k x hs (hS s hin)
  · rw [how, he]
    rw [he] at hmono
    have hpush : s ∈ S → x ∈ knowOf k (ops ++ ((rE1 st.p s d).2 ++ (rMk st.p s d).2 ++
        (rE2 st.p s d).2 ++ (rMk2 st.p s d).2)) d := fun hin => by
      have := knowOf_mono k _ ((rE2 st.p s d).2 ++ (rMk2 st.p s d).2) x d
        (round_push_flow T s d k x hs (hS s hin))
      simpa only [List.append_assoc] using this
    -- `d` is among what `S` has flowed into because `s ∈ S` (then `s` knows already) or because `d ∈ S`
    refine reachB_one s d _ (reachB_one d s S hmono hpush) fun hin => ?_
    by_cases hsS : s ∈ S
    · exact hmono s hsS
    · have hdS : d ∈ S := by simpa [reachB, hsS] using hin
      exact round_answer_flow T _ d k x (hd ▸ peer_lt T.wfp _ jx q qs hps) (hS d hdS)

theorem rounds_know (kind : Kind) (n : Nat) (scriptB : List SStep) (k x : Nat) :
    ∀ {j : JSt} {st : SSt} {ops : List (Nat × XOp)}, TInv n j st ops → Fresh st.p ops →
    (∀ y ∈ scriptB, WFStep n y) → (∀ y ∈ scriptB, isRound y = true) →
    (∀ S : List Nat, (∀ r ∈ S, x ∈ knowOf k ops r) →
      ∀ r ∈ reachB (scriptB.flatMap (owedFlows st.p.peers)) S,
        x ∈ knowOf k (ops ++ PSt.ops .repaired kind st.p scriptB) r) ∧
    (∀ a, a < n → x ∈ knowOf k (ops ++ PSt.ops .repaired kind st.p scriptB) a →
      ∃ b, b < n ∧ x ∈ knowOf k ops b) := by
  induction scriptB with
  | nil =>
    intro j st ops _ _ _ _
    simp only [List.flatMap_nil, reachB, PSt.ops, List.append_nil]
    exact ⟨fun S h => h, fun a ha h => ⟨a, ha, h⟩⟩
  | cons y ys ih =>
    intro j st ops T hF hw hr
    have hy := hr y List.mem_cons_self
    cases y with
    | w _ _ _ => simp [isRound] at hy
    | tick _ _ => simp [isRound] at hy
    | dl _ => simp [isRound] at hy
    | round s jx =>
      have hs : s < n := hw _ List.mem_cons_self
      obtain ⟨T', F', _⟩ := step_ok kind 0 [] T (.round s jx) hs
      have f1 := round_flows kind T s jx k x hs
      have f2 := round_learns_only_known kind T hF s jx k x hs
      have hpe := step_peers kind st.p (.round s jx)
      -- the step is made a variable before the induction hypothesis is used: its unfolding is not wanted
      have T' : TInv n _ ⟨(st.p.step .repaired kind (.round s jx)).1,
          applyOps st.sys (st.p.step .repaired kind (.round s jx)).2⟩ _ := T'
      simp only [PSt.ops, List.flatMap_cons, ← List.append_assoc]
      generalize st.p.step .repaired kind (.round s jx) = res at T' F' f1 f2 hpe ⊢
      obtain ⟨i1, i2⟩ := ih T' (F' hF)
        (fun z hz => hw z (List.mem_cons_of_mem _ hz)) (fun z hz => hr z (List.mem_cons_of_mem _ hz))
      refine ⟨fun S hS r hr' => ?_, fun a ha h => ?_⟩
      · rw [reachB_append] at hr'
        exact i1 _ (f1 S hS) r (hpe ▸ hr')
      · obtain ⟨b, hb, h'⟩ := i2 a ha h
        exact f2 b hb h'

theorem union_after_rounds (kind : Kind) (n : Nat) (peers : List (List Nat))
    {jA : JSt} {stA : SSt} {opsA : List (Nat × XOp)} (TA : TInv n jA stA opsA) (hFA : Fresh stA.p opsA)
    (hpe : stA.p.peers = peers) (scriptB : List SStep)
    (hw : ∀ y ∈ scriptB, WFStep n y) (hr : ∀ y ∈ scriptB, isRound y = true)
    (hfull : fullRounds n peers scriptB = true) :
    UnionAfter n opsA (PSt.ops .repaired kind stA.p scriptB) := by
  intro k a ha
  simp only [fullRounds, List.all_eq_true, List.mem_range, List.contains_eq_mem,
    decide_eq_true_eq] at hfull
  refine ⟨fun x hx => ?_, fun x hx => ?_⟩
  · obtain ⟨b, hb, hxb⟩ := (unionAll_know n _ a x ha).mp hx
    exact (rounds_know kind n scriptB k x TA hFA hw hr).1 [b]
      (fun r hr' => List.mem_singleton.mp hr' ▸ hxb) a (hpe ▸ hfull b hb a ha)
  · obtain ⟨b, hb, hxb⟩ := (rounds_know kind n scriptB k x TA hFA hw hr).2 a ha hx
    exact (unionAll_know n _ a x ha).mpr ⟨b, hb, hxb⟩

end HappyModel.C18
