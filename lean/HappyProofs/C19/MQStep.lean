import HappyModel.C19.Spec
import HappyProofs.C19.Lists
/-!
`Step cfg t s a s' o`: the ways through `MQ.step`, one constructor per effect on the state (`fire` excepted, see below), the guards
of the code as hypotheses.  Every refusal that leaves the state alone is the one constructor `stay`, with a silent
output; a `redeliv` that delivers nothing still clears its timer (`redelivNone`).
-/
namespace HappyModel.C19

theorem dropPending_eq (cfg : Cfg) (hl : cfg.legacy = false) (s : MQ) (k : Nat) :
    s.dropPending cfg k = s.pending.erase k := by
  simp [MQ.dropPending, hl]

theorem nextConsumer_some (s : MQ) (h : s.cons ≠ []) : ∃ c, s.nextConsumer = some c :=
  ⟨_, List.getElem?_eq_getElem (Nat.mod_lt _ (List.length_pos_iff.2 h))⟩

/-- the answers an action that changed nothing can give -/
def Out.silent (o : Out) : Prop :=
  o = .pubFull ∨ o = .idle ∨ o = .none ∨ o = .bad ∨ o = .unit ∨ o = .tmoNone

/- `stay` says of a refusal what the judges need to know of it: an `ack` / `rej` was refused because the id is not
live (the ledger clauses), a `tmo` of an in-flight id without a timer only because the id is not live (clause 4c), a
`redeliv` is never a refusal (it always clears its timer), and the action is no change of subscription (the views
of the consumer list).  `fire` alone keeps both variants of the code in one constructor (the disjunction fixes `tix'`
and `stamp`): every judge but the delivery one treats them alike, and `reach_check` drops the legacy disjunct at once. -/
inductive Step (cfg : Cfg) (t : Nat) (s : MQ) : Act → MQ → Out → Prop
  | stay {a o} (ho : o.silent) (hack : ∀ k, a = .ack k → k ∉ s.live) (hrej : ∀ k rq, a = .rej k rq → k ∉ s.live)
      (htmo : ∀ k, a = .tmo k → k ∈ s.inflight → k ∉ s.sched → k ∉ s.live) (hred : ∀ k, a ≠ .redeliv k)
      (hsub : subsAfter s.cons a = s.cons) : Step cfg t s a s o
  | pub (hf : s.full cfg = false) :
      Step cfg t s .pub
        { s with npub := s.npub + 1, live := s.live ++ [s.npub], pending := s.pending ++ [s.npub] } (.pubOk s.npub)
  | poll {k rest c} (hp : s.pending = k :: rest) (hk : k ∈ s.live) (hc : s.nextConsumer = some c) :
      Step cfg t s .poll (s.dispatch t k c) (.disp s.nd k c (s.cnt k + 1))
  | redeliv {k c} (hk : k ∈ s.live) (hc : s.nextConsumer = some c) :
      Step cfg t s (.redeliv k) (MQ.dispatch { s with sched := s.sched.erase k } t k c) (.disp s.nd k c (s.cnt k + 1))
  | redelivNone {k} (h : k ∈ s.live → s.cons = []) :
      Step cfg t s (.redeliv k) { s with sched := s.sched.erase k } .none
  | fire {d x tix' stamp} (hx : s.tix.find? (fun x => x.d == d) = some x) (hf : x.fired = none)
      (ht : t = x.t0 + cfg.lat)
      (h : (cfg.legacy = true ∧ x.t0 < t ∧ tix' = s.tix.filter (fun y => y.d != d) ∧ stamp = x.t0) ∨
        (¬ (cfg.legacy = true ∧ x.t0 < t) ∧ tix' = s.tix.map (Ticket.fire d (s.cnt x.k) t) ∧ stamp = t)) :
      Step cfg t s (.fire d) { s with tix := tix' } (.emit x.k x.c (s.cnt x.k) stamp)
  | recv {d x n} (hx : s.tix.find? (fun x => x.d == d) = some x) (hf : x.fired = some (n, t)) :
      Step cfg t s (.recv d) { s with tix := s.tix.filter (fun y => y.d != d) } (.recv x.k x.c n)
  | ack {k} (hk : k ∈ s.live) :
      Step cfg t s (.ack k)
        { s with inflight := s.inflight.erase k, pending := s.dropPending cfg k, live := s.live.erase k,
                 sched := s.sched.erase k, nAck := s.nAck + 1 } .unit
  | requeue {k rq} (hk : k ∈ s.live) (hrq : rq = true) (hc : s.cnt k < cfg.maxRe) :
      Step cfg t s (.rej k rq) (s.requeue cfg k) .unit
  | dlq {a o k}
      (ha : (∃ rq, a = .rej k rq ∧ ¬ (rq = true ∧ s.cnt k < cfg.maxRe) ∧ o = .unit) ∨
        (a = .tmo k ∧ k ∈ s.inflight ∧ k ∉ s.sched ∧ cfg.maxRe ≤ s.cnt k ∧ o = .tmoNone))
      (hk : k ∈ s.live) : Step cfg t s a (s.toDlq cfg k) o
  | tmoEv {k} (hi : k ∈ s.inflight) (hs : k ∉ s.sched) (hc : s.cnt k < cfg.maxRe) :
      Step cfg t s (.tmo k)
        { s with sched := k :: s.sched, inflight := s.inflight.erase k, pending := k :: s.pending } .tmoEv
  | subs {a} (ha : (∃ c, a = .sub c) ∨ ∃ c, a = .unsub c) :
      Step cfg t s a { s with cons := subsAfter s.cons a } .unit

theorem Step.idle {cfg : Cfg} {t : Nat} {s : MQ} {a : Act} {o : Out} (ho : o.silent)
    (ha : a = .pub ∨ a = .poll ∨ (∃ d, a = .fire d) ∨ ∃ d, a = .recv d) : Step cfg t s a s o := by
  rcases ha with rfl | rfl | ⟨d, rfl⟩ | ⟨d, rfl⟩ <;>
    exact .stay ho (by simp) (by simp) (by simp) (by simp) rfl

theorem deliverBegin_cases (s : MQ) (t k : Nat) :
    (∃ c, k ∈ s.live ∧ s.nextConsumer = some c ∧
      s.deliverBegin t k = (s.dispatch t k c, .disp s.nd k c (s.cnt k + 1))) ∨
    ((k ∈ s.live → s.cons = []) ∧ s.deliverBegin t k = (s, .none)) := by
  unfold MQ.deliverBegin
  by_cases hk : k ∈ s.live
  · rw [if_pos hk]
    cases hc : s.nextConsumer with
    | some c => exact Or.inl ⟨c, hk, rfl, rfl⟩
    | none =>
      refine Or.inr ⟨fun _ => Classical.byContradiction fun hne => ?_, rfl⟩
      obtain ⟨c, hc'⟩ := nextConsumer_some s hne
      rw [hc] at hc'
      cases hc'
  · rw [if_neg hk]
    exact Or.inr ⟨fun h => absurd h hk, rfl⟩

theorem reject_cases (cfg : Cfg) (s : MQ) (k : Nat) (rq : Bool) :
    (k ∉ s.live ∧ s.reject cfg k rq = s) ∨
    (k ∈ s.live ∧ rq = true ∧ s.cnt k < cfg.maxRe ∧ s.reject cfg k rq = s.requeue cfg k) ∨
    (k ∈ s.live ∧ ¬ (rq = true ∧ s.cnt k < cfg.maxRe) ∧ s.reject cfg k rq = s.toDlq cfg k) := by
  unfold MQ.reject
  by_cases hk : k ∈ s.live
  · rw [if_pos hk]
    by_cases hc : rq = true ∧ s.cnt k < cfg.maxRe
    · exact Or.inr (Or.inl ⟨hk, hc.1, hc.2, if_pos hc⟩)
    · exact Or.inr (Or.inr ⟨hk, hc, if_neg hc⟩)
  · exact Or.inl ⟨hk, if_neg hk⟩

theorem step_spec (cfg : Cfg) (t : Nat) (s : MQ) (a : Act) :
    Step cfg t s a (s.step cfg t a).1 (s.step cfg t a).2 := by
  cases a with
  | pub =>
    simp only [MQ.step, MQ.publish]
    cases hf : s.full cfg with
    | true => exact .idle (Or.inl rfl) (Or.inl rfl)
    | false => exact .pub hf
  | poll =>
    simp only [MQ.step]
    unfold MQ.pollA
    split
    · next k rest _ _ hp _ =>
      rcases deliverBegin_cases s t k with ⟨c, hk, hc, e⟩ | ⟨_, e⟩ <;> rw [e]
      · exact .poll hp hk hc
      · exact .idle (Or.inr (Or.inr (Or.inl rfl))) (Or.inr (Or.inl rfl))
    · exact .idle (Or.inr (Or.inl rfl)) (Or.inr (Or.inl rfl))
  | redeliv k =>
    simp only [MQ.step]
    rcases deliverBegin_cases { s with sched := s.sched.erase k } t k with ⟨c, hk, hc, e⟩ | ⟨h, e⟩ <;> rw [e]
    · exact .redeliv hk hc
    · exact .redelivNone h
  | fire d =>
    simp only [MQ.step, MQ.fire]
    cases hx : s.tix.find? (fun x => x.d == d) with
    | none => exact .idle (Or.inr (Or.inr (Or.inr (Or.inl rfl)))) (Or.inr (Or.inr (Or.inl ⟨d, rfl⟩)))
    | some x =>
      dsimp only
      by_cases hc : x.fired = none ∧ t = x.t0 + cfg.lat
      · rw [if_pos hc]
        by_cases hl : cfg.legacy = true ∧ x.t0 < t
        · rw [if_pos hl]
          exact .fire hx hc.1 hc.2 (Or.inl ⟨hl.1, hl.2, rfl, rfl⟩)
        · rw [if_neg hl]
          exact .fire hx hc.1 hc.2 (Or.inr ⟨hl, rfl, rfl⟩)
      · rw [if_neg hc]
        exact .idle (Or.inr (Or.inr (Or.inr (Or.inl rfl)))) (Or.inr (Or.inr (Or.inl ⟨d, rfl⟩)))
  | recv d =>
    have bad : Step cfg t s (.recv d) s .bad :=
      .idle (Or.inr (Or.inr (Or.inr (Or.inl rfl)))) (Or.inr (Or.inr (Or.inr ⟨d, rfl⟩)))
    simp only [MQ.step, MQ.recv]
    cases hx : s.tix.find? (fun x => x.d == d) with
    | none => exact bad
    | some x =>
      dsimp only
      cases hf : x.fired with
      | none => exact bad
      | some ns =>
        obtain ⟨n, stamp⟩ := ns
        dsimp only
        by_cases hst : stamp = t
        · rw [if_pos hst]
          exact .recv hx (hst ▸ hf)
        · rw [if_neg hst]
          exact bad
  | ack k =>
    simp only [MQ.step, MQ.ackMsg]
    by_cases hk : k ∈ s.live
    · rw [if_pos hk]; exact .ack hk
    · rw [if_neg hk]
      exact .stay (Or.inr (Or.inr (Or.inr (Or.inr (Or.inl rfl))))) (fun _ h => by cases h; exact hk) (by simp)
        (by simp) (by simp) rfl
  | rej k rq =>
    simp only [MQ.step]
    rcases reject_cases cfg s k rq with ⟨hk, e⟩ | ⟨hk, hrq, hc, e⟩ | ⟨hk, hc, e⟩ <;> rw [e]
    · exact .stay (Or.inr (Or.inr (Or.inr (Or.inr (Or.inl rfl))))) (by simp) (fun _ _ h => by cases h; exact hk)
        (by simp) (by simp) rfl
    · exact .requeue hk hrq hc
    · exact .dlq (Or.inl ⟨rq, rfl, hc, rfl⟩) hk
  | tmo k =>
    have stay : (k ∈ s.inflight → k ∉ s.sched → k ∉ s.live) → Step cfg t s (.tmo k) s .tmoNone := fun h =>
      .stay (Or.inr (Or.inr (Or.inr (Or.inr (Or.inr rfl))))) (by simp) (by simp) (fun _ e => by cases e; exact h)
        (by simp) rfl
    simp only [MQ.step, MQ.timeout]
    by_cases hi : k ∈ s.inflight
    · rw [if_pos hi]
      by_cases hs : k ∈ s.sched
      · rw [if_pos hs]; exact stay fun _ h => absurd hs h
      · rw [if_neg hs]
        by_cases hc : cfg.maxRe ≤ s.cnt k
        · rw [if_pos hc]
          rcases reject_cases cfg s k false with ⟨hk, e⟩ | ⟨_, hrq, _⟩ | ⟨hk, _, e⟩
          · rw [e]; exact stay fun _ _ => hk
          · cases hrq
          · rw [e]; exact .dlq (Or.inr ⟨rfl, hi, hs, hc, rfl⟩) hk
        · rw [if_neg hc]; exact .tmoEv hi hs (Nat.lt_of_not_le hc)
    · rw [if_neg hi]; exact stay fun h => absurd h hi
  | sub c => exact .subs (Or.inl ⟨c, rfl⟩)
  | unsub c => exact .subs (Or.inr ⟨c, rfl⟩)

theorem Out.silent.ne {o : Out} (ho : o.silent) :
    (∀ k, o ≠ .pubOk k) ∧ (∀ d k c n, o ≠ .disp d k c n) ∧ o ≠ .tmoEv := by
  rcases ho with rfl | rfl | rfl | rfl | rfl | rfl <;> simp

theorem Step.disp_live {cfg : Cfg} {t : Nat} {s s' : MQ} {a : Act} {o : Out} (h : Step cfg t s a s' o)
    {d k c n : Nat} (ho : o = .disp d k c n) : k ∈ s.live := by
  cases h with
  | stay hs => exact absurd ho (hs.ne.2.1 d k c n)
  | poll _ hk => cases ho; exact hk
  | redeliv hk => cases ho; exact hk
  | dlq ha => rcases ha with ⟨_, _, _, rfl⟩ | ⟨_, _, _, _, rfl⟩ <;> cases ho
  | _ => cases ho

theorem Step.tmoEv_inflight {cfg : Cfg} {t : Nat} {s s' : MQ} {a : Act} {o : Out} (h : Step cfg t s a s' o)
    (ho : o = .tmoEv) {k : Nat} (ha : a = .tmo k) : k ∈ s.inflight := by
  cases h with
  | stay hs => exact absurd ho hs.ne.2.2
  | tmoEv hi => cases ha; exact hi
  | dlq ha' => rcases ha' with ⟨_, _, _, rfl⟩ | ⟨_, _, _, _, rfl⟩ <;> cases ho
  | _ => cases ho

theorem Step.cnt {cfg : Cfg} {t : Nat} {s s' : MQ} {a : Act} {o : Out} (h : Step cfg t s a s' o) :
    (∀ x, s.cnt x ≤ s'.cnt x) ∧ ((∀ x ∈ s.inflight, 1 ≤ s.cnt x) → ∀ x ∈ s'.inflight, 1 ≤ s'.cnt x) := by
  have same : ∀ s' : MQ, s'.dlog = s.dlog → (∀ x ∈ s'.inflight, x ∈ s.inflight) →
      (∀ x, s.cnt x ≤ s'.cnt x) ∧ ((∀ x ∈ s.inflight, 1 ≤ s.cnt x) → ∀ x ∈ s'.inflight, 1 ≤ s'.cnt x) := by
    intro s' h1 h2
    simp only [MQ.cnt, h1]
    exact ⟨fun x => Nat.le_refl _, fun h x hx => h x (h2 x hx)⟩
  have disp : ∀ (s0 : MQ) (k c : Nat), s0.dlog = s.dlog → s0.inflight = s.inflight →
      (∀ x, s.cnt x ≤ (s0.dispatch t k c).cnt x) ∧
      ((∀ x ∈ s.inflight, 1 ≤ s.cnt x) → ∀ x ∈ (s0.dispatch t k c).inflight, 1 ≤ (s0.dispatch t k c).cnt x) := by
    intro s0 k c hd hi
    simp only [MQ.cnt, MQ.dispatch, hd, hi]
    refine ⟨fun x => List.count_le_count_cons, fun h x hx => ?_⟩
    rcases (mem_insertNew _ _ _).1 hx with hx | rfl
    · exact Nat.le_trans (h x hx) List.count_le_count_cons
    · simp
  cases h with
  | poll => exact disp s _ _ rfl rfl
  | redeliv => exact disp { s with sched := s.sched.erase _ } _ _ rfl rfl
  | ack | requeue | dlq | tmoEv => exact same _ rfl fun x hx => List.mem_of_mem_erase hx
  | _ => exact same _ rfl fun x hx => hx

end HappyModel.C19
