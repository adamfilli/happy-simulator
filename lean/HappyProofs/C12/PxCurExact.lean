import HappyModel.C12.Paxos
/-!
# C12 — where exactly `stepCur` (single-decree Paxos as on the pinned tree) is an approximation

The model keeps the network as one slot per (kind, ballot, peer).  The repaired code sends at most one message of
each kind per (ballot, peer), so for `step` the slots are exact.  The pinned tree calls `_start_phase2(b)` on
*every* promise at or beyond the quorum, and each call sends `Accept(b, v)` to every peer again (possibly with
another `v`); every delivered `Accept` is answered with an `Accepted`, and every delivered `Accepted` is counted.
So on the pinned tree two `Accept(b)` for one peer, or two `Accepted(b)` of one acceptor, can be in flight at once.
`stepCur` is built to differ from the pinned tree in these two situations only:

* **A (Accept overwritten).** `_start_phase2(b)` runs again while an `Accept(b)` to peer `d` is still undelivered:
  the slot `(b, d)` then holds only the newer message (newer value); on the pinned tree both are in flight and
  either may be delivered first, the other later.  From then on the slot `(b, d)` is *ambiguous*.
* **B (Accepted merged).** acceptor `d` answers a second `Accept(b)` while its first `Accepted(b)` is still
  undelivered: the flag `(b, d)` stands for both, so the proposer counts one acknowledgement where the pinned
  tree counts two.  From then on the flag `(b, d)` is *ambiguous*.

Everything else (`propose`, `retry`, `nack`, `Prepare` / `Promise` / `Decided` traffic, a restart after the earlier
`Accept(b) → d` was delivered or lost, an `Accepted` sent after the previous one was delivered, the reset of the
acknowledgement count on a self-accept, the decision of `_proposed_values.get(b)` for an abandoned ballot) is
mirrored exactly.  A schedule is replayed exactly iff it never *delivers* from an ambiguous slot or flag (losing
such a message is harmless: both copies are then lost or still in flight, which no later delivery observes).
`curExact` decides that for a schedule; both corpus witnesses of the pinned tree satisfy it
(`Props.lean`: `witnessAgreement_exact`, `witnessNone_exact`).  That `curExact` means exact replay is a modelling claim,
argued above and checked by replaying the corpus schedules; what is proved here is `stepCur_eq_step` (the two step
functions coincide outside `_handle_promise` / `_handle_accepted`).
-/
namespace HappyModel.C12.Px

/-- ambiguous `Accept` slots and `Accepted` flags, as (ballot, peer) -/
structure Amb where
  acpt : List (Nat × Nat) := []
  acptd : List (Nat × Nat) := []
deriving Repr

/-- the ambiguity set after the step, and whether the step itself is mirrored exactly -/
def curTrack (s : St) (m : Amb) : Act → Amb × Bool
  | .recvPromise b f =>
    if (s.mProm b f).isSome && (s.ownVal b).isSome && decide (s.cfg.q1 ≤ (s.p1 b).length + 1) then
      ({ m with acpt := m.acpt ++ ((List.range s.cfg.n).filter fun d => (s.mAcpt b d).isSome).map fun d => (b, d) }, true)
    else (m, true)
  | .recvAccept b d =>
    if m.acpt.contains (b, d) then (m, false)
    else if (s.mAcpt b d).isSome && decide (d < s.cfg.n) && decide (leOpt (s.acc d).promised b) && s.mAcptd b d then
      ({ m with acptd := (b, d) :: m.acptd }, true)
    else (m, true)
  | .recvAccepted b f => if m.acptd.contains (b, f) then (m, false) else (m, true)
  | _ => (m, true)

/-- no step of the schedule delivers from an ambiguous slot or flag -/
def curExact (s : St) (m : Amb) : List Act → Bool
  | [] => true
  | a :: as => (curTrack s m a).2 && curExact (stepCur s a) (curTrack s m a).1 as

/-- outside `_handle_promise` and `_handle_accepted` the pinned tree and the repaired code are the same function -/
theorem stepCur_eq_step (s : St) (a : Act) (h1 : ∀ b f, a ≠ .recvPromise b f) (h2 : ∀ b f, a ≠ .recvAccepted b f) :
    stepCur s a = step s a := by
  cases a with
  | recvPromise b f => exact absurd rfl (h1 b f)
  | recvAccepted b f => exact absurd rfl (h2 b f)
  | _ => rfl

end HappyModel.C12.Px
