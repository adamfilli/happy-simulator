import HappyProofs.C09.PreemptSpecLemmas
namespace HappyModel.C09.Preempt

/-- the judge's books (`b`, kept from the reported results only) and the driver's `gone` list describe the
    model state `s` -/
structure Core (cap : Int) (b : Book) (s : St) (gone : List Nat) : Prop where
  num : Num s
  ord : Ord s
  cap : s.cap = cap
  held : b.held = s.active
  granted : b.granted = s.grantLog
  bgone : b.gone = gone
  nPre : s.preemptions = gone.length
  nRel : b.nRel = s.releases
  nCon : b.nCon = s.contentions
  nAcq : s.acquisitions = s.grantLog.length
  waitPerm : b.waiting.Perm s.waiters
  waitArr : b.waiting.Pairwise idLt
  -- the judge's checks read neither of the last two: they make its lookup by id find the model's victim (`find_by_id`)
  -- and feed `PreemptCb.RetOk`
  actNodup : (s.active.map G.id).Nodup
  actLogged : ∀ g ∈ s.active, g.id ∈ s.grantLog

theorem insWaiter_perm (w : G) (l : List G) : (insWaiter w l).Perm (w :: l) := by
  induction l with
  | nil => simp [insWaiter]
  | cons h t ih =>
    simp only [insWaiter]
    split
    · exact (List.Perm.cons h ih).trans (List.Perm.swap w h t)
    · exact List.Perm.refl _

theorem ids_nodup_append {act l : List G} {log : List Nat} (ha : (act.map G.id).Nodup) (hl : (l.map G.id).Nodup)
    (hlog : ∀ g ∈ act, g.id ∈ log) (hnew : ∀ g ∈ l, g.id ∉ log) : ((act ++ l).map G.id).Nodup := by
  rw [List.map_append, List.nodup_append]
  refine ⟨ha, hl, fun a ha' x hx hax => ?_⟩
  obtain ⟨y, hy, rfl⟩ := List.mem_map.mp ha'
  obtain ⟨z, hz, rfl⟩ := List.mem_map.mp hx
  exact hnew z hz (hax ▸ hlog y hy)

theorem core_bump {cap : Int} {b : Book} {s : St} {gone : List Nat} (c : Core cap b s gone) :
    Core cap b (bump s) gone :=
  { c with num := bump_num c.num, ord := bump_ord c.ord }

theorem Core.heldSum {cap : Int} {b : Book} {s : St} {gone : List Nat} (c : Core cap b s gone) :
    heldSum b = cap - s.avail := by
  unfold Preempt.heldSum; rw [c.held, ← c.cap]; have := c.num.conserve; omega

theorem core_evict1 {cap : Int} {b : Book} {s : St} {gone : List Nat} (v : G) (c : Core cap b s gone)
    (hm : v ∈ s.active) :
    Core cap { b with held := b.held.erase v, gone := b.gone ++ [v.id] } (PreemptCb.evict1 s v) (gone ++ [v.id]) :=
  { c with
    num := evict1_num v c.num hm
    ord := evict1_ord v c.ord
    held := by show b.held.erase v = s.active.erase v; rw [c.held]
    bgone := by show b.gone ++ [v.id] = gone ++ [v.id]; rw [c.bgone]
    nPre := by show s.preemptions + 1 = (gone ++ [v.id]).length; rw [c.nPre]; simp
    actNodup := nodup_ids_erase _ _ c.actNodup
    actLogged := fun x hx => c.actLogged x (List.mem_of_mem_erase hx) }

theorem core_evict {cap : Int} {b : Book} {s : St} {gone : List Nat} (pre : Bool) (amt p : Int) (c : Core cap b s gone) :
    ∃ b', b.evict cap amt p (tryPreempt pre amt p s).2 = .ok b' ∧
      Core cap b' (tryPreempt pre amt p s).1 (gone ++ (tryPreempt pre amt p s).2) ∧
      ((tryPreempt pre amt p s).2 ≠ [] → pre = true) := by
  refine tryPreempt_rel (R := fun s r evs => ∀ b gone, Core cap b s gone →
      ∃ b', b.evict cap amt p evs = .ok b' ∧ Core cap b' r (gone ++ evs) ∧ (evs ≠ [] → pre = true)) pre amt p s
    (fun s b gone c => ⟨b, rfl, (List.append_nil gone).symm ▸ c, fun h => absurd rfl h⟩) ?_ b gone c
  intro s v r evs hpre hna hv ih b gone c
  have hm := victim_mem _ _ _ hv
  obtain ⟨b', h1, c', _⟩ := ih _ _ (core_evict1 v c hm)
  refine ⟨b', ?_, by rw [List.append_assoc] at c'; exact c', fun _ => hpre⟩
  rw [evict_cons, show b.held.find? (·.id == v.id) = some v by rw [c.held]; exact find_by_id _ _ hm c.actNodup]
  dsimp only
  rw [if_neg (by have := victim_prio _ _ _ hv; omega), if_neg (by rw [c.heldSum]; omega), if_neg (by rw [c.held, hv]; simp)]
  exact h1

theorem core_grant {cap : Int} {b : Book} {s : St} {gone : List Nat} (g : G) (c : Core cap b s gone)
    (hpos : 0 < g.amt) (hfit : g.amt ≤ s.avail) (hg : Fresh s g) :
    Core cap { b with held := b.held ++ [g], granted := b.granted ++ [g.id] } (grantNow s g) gone :=
  { c with
    num := grantNow_num s g c.num hpos hfit
    ord := grantNow_ord s g c.ord hg
    held := by show b.held ++ [g] = s.active ++ [g]; rw [c.held]
    granted := by show b.granted ++ [g.id] = s.grantLog ++ [g.id]; rw [c.granted]
    nAcq := by show s.acquisitions + 1 = (s.grantLog ++ [g.id]).length; rw [c.nAcq, List.length_append]; rfl
    actNodup := ids_nodup_append c.actNodup (List.pairwise_singleton _ _) c.actLogged
      (fun x hx => by rw [List.mem_singleton.mp hx]; exact hg.log)
    actLogged := snoc_all (l := s.active) (fun x hx => List.mem_append_left [g.id] (c.actLogged x hx))
      (List.mem_append_right _ (List.mem_singleton_self _)) }

theorem core_enqueue {cap : Int} {b : Book} {s : St} {gone : List Nat} (g : G) (c : Core cap b s gone)
    (hpos : 0 < g.amt) (hg : Fresh s g) :
    Core cap { b with waiting := b.waiting ++ [g], nCon := b.nCon + 1 } (enqueue s g) gone :=
  { c with
    num := enqueue_num g c.num hpos
    ord := enqueue_ord s g c.ord hg
    nCon := by show b.nCon + 1 = s.contentions + 1; rw [c.nCon]
    waitPerm := by
      show (b.waiting ++ [g]).Perm (insWaiter g s.waiters)
      exact List.perm_append_singleton g b.waiting |>.trans
        ((List.Perm.cons g c.waitPerm).trans (insWaiter_perm g s.waiters).symm)
    waitArr := by
      show (b.waiting ++ [g]).Pairwise idLt
      rw [List.pairwise_append]
      refine ⟨c.waitArr, List.pairwise_singleton _ _, ?_⟩
      intro x hx y hy
      rw [List.mem_singleton.mp hy]
      exact hg.wait x (c.waitPerm.mem_iff.mp hx) }

theorem core_wake {cap : Int} {b : Book} {s : St} {gone : List Nat} (woke : List Nat) (c : Core cap b s gone)
    (hw : ∀ i, i ∈ woke ↔ i ∈ (wake s).2) :
    ∃ b', b.wakeSet cap b.waiting.length woke = .ok b' ∧ Core cap b' (wake s).1 gone := by
  have hsum : s.avail = cap - heldSum b := by rw [c.heldSum]; omega
  obtain ⟨b', h1, h2, h3, h4, h5, h6, h7, h8⟩ :=
    wakeSet_ok cap s.waiters s.avail b.waiting.length b woke c.waitPerm c.waitArr c.ord.sorted c.ord.waitNodup
      (by intro g hg; rw [c.granted]; exact c.ord.waitNotLogged g hg)
      (by rw [c.waitPerm.length_eq]; exact Nat.le_refl _) hsum hw
  refine ⟨b', h1, ?_⟩
  have hsplit := woken_append_rest s.avail s.waiters
  have hnd := c.ord.waitNodup
  rw [← hsplit, List.map_append, List.nodup_append] at hnd
  exact
    { num := (wake_inv s c.num).num
      ord := wake_ord s c.ord
      cap := c.cap
      held := by rw [h2, c.held]; rfl
      granted := by rw [h3, c.granted]; rfl
      bgone := by rw [h6]; exact c.bgone
      nPre := c.nPre
      nRel := by rw [h7]; exact c.nRel
      nCon := by rw [h8]; exact c.nCon
      nAcq := by
        show s.acquisitions + (wokenOf s.avail s.waiters).length
          = (s.grantLog ++ (wokenOf s.avail s.waiters).map G.id).length
        rw [c.nAcq]; simp
      waitPerm := h4
      waitArr := h5
      actNodup := ids_nodup_append c.actNodup hnd.1 c.actLogged
        (fun z hz => c.ord.waitNotLogged z ((woken_sublist _ _).subset hz))
      actLogged := by
        intro x hx
        have hx' : x ∈ s.active ++ wokenOf s.avail s.waiters := hx
        show x.id ∈ s.grantLog ++ (wokenOf s.avail s.waiters).map G.id
        rcases List.mem_append.mp hx' with h | h
        · exact List.mem_append_left _ (c.actLogged x h)
        · exact List.mem_append_right _ (List.mem_map_of_mem h) }

theorem core_free {cap : Int} {b : Book} {s : St} {gone : List Nat} (g : G) (c : Core cap b s gone)
    (hm : g ∈ s.active) :
    Core cap { b with held := b.held.erase g, nRel := b.nRel + 1 } (freed s g) gone :=
  { c with
    num := freed_num g c.num hm
    ord := freed_ord g c.ord
    held := by show b.held.erase g = s.active.erase g; rw [c.held]
    nRel := by show b.nRel + 1 = s.releases + 1; rw [c.nRel]
    actNodup := nodup_ids_erase _ _ c.actNodup
    actLogged := fun x hx => c.actLogged x (List.mem_of_mem_erase hx) }

theorem init_core (cap : Int) (h : 0 < cap) : Core cap {} (St.init cap) [] :=
  { num := (init_inv cap h).num, ord := init_ord cap, cap := rfl, held := rfl, granted := rfl, bgone := rfl
    nPre := rfl, nRel := rfl, nCon := rfl, nAcq := rfl, waitPerm := List.Perm.refl _
    waitArr := List.Pairwise.nil, actNodup := List.nodup_nil, actLogged := fun _ h => by cases h }

end HappyModel.C09.Preempt
