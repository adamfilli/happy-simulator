import HappyModel.C18.Spec
import HappyModel.C18.Store
/-!
Invariants of the CRDT specification system `SpecSys` alone (ids, knowledge sets, recorded pasts),
and the interface `Den` through which each CRDT is shown to hold the specified value along
`Sys.run` / `SpecSys.run` in lock step: a replica's value denotes the set of updates it has
seen; a local operation is `Rep.apply` on that set plus the new record, a merge is `Rep.merge` on the
union, and nobody else's denotation changes.
-/
namespace HappyModel.C18

def COp.origin : COp → Nat
  | .inc r _ => r
  | .dec r _ => r
  | .lset r _ _ _ _ => r
  | .oadd r _ => r
  | .orem r _ => r
  | .merge d _ => d

theorem SpecSys.local_recs (t : SpecSys) (r : Nat) (op : COp) :
    (t.local r op).recs = ⟨t.cnt, op, t.know r⟩ :: t.recs := rfl

theorem SpecSys.local_cnt (t : SpecSys) (r : Nat) (op : COp) : (t.local r op).cnt = t.cnt + 1 := rfl

theorem SpecSys.mem_know_local (t : SpecSys) (r : Nat) (op : COp) (r' x : Nat) :
    x ∈ (t.local r op).know r' ↔ x ∈ t.know r' ∨ (r' = r ∧ x = t.cnt) := by
  simp only [SpecSys.local, upd]
  by_cases h : r' = r
  · subst h; simp [or_comm]
  · simp [h]

def Seen (t : SpecSys) (r : Nat) (a : OpRec) : Prop := a ∈ t.recs ∧ a.id ∈ t.know r

/-- `SpecSys.step` of a merge, named so that it can be rewritten -/
def SpecSys.mergeStep (t : SpecSys) (d sr : Nat) : SpecSys :=
  { t with know := upd t.know d (kunion (t.know d) (t.know sr)) }

theorem SpecSys.mem_know_merge (t : SpecSys) (d sr r' x : Nat) :
    x ∈ (t.mergeStep d sr).know r' ↔ x ∈ t.know r' ∨ (r' = d ∧ x ∈ t.know sr) := by
  simp only [SpecSys.mergeStep, upd]
  by_cases h : r' = d
  · subst h; simp [mem_kunion]
  · simp [h]

theorem Sys.set_rep (s : Sys) (r : Nat) (x : Rep) (r' : Nat) :
    (s.set r x).rep r' = if r' = r then x else s.rep r' := by
  simp [Sys.set, upd]

def Rep.apply (x : Rep) (r : Nat) : COp → Rep
  | .inc _ k => { x with pn := x.pn.inc r k }
  | .dec _ k => { x with pn := x.pn.dec r k }
  | .lset _ v p l nd => { x with lww := x.lww.set v ⟨p, l, nd⟩ }
  | .oadd _ y => { x with os := x.os.add r y }
  | .orem _ y => { x with os := x.os.remove y }
  | .merge _ _ => x

/-- the first disjunct is an increment or decrement by 0 -/
theorem step_cases (s : Sys) (t : SpecSys) (o : COp) :
    (s.step o = s ∧ t.step o = t) ∨
    ((∀ d sr, o ≠ .merge d sr) ∧
      s.step o = s.set o.origin ((s.rep o.origin).apply o.origin o) ∧ t.step o = t.local o.origin o) ∨
    (∃ d sr, o = .merge d sr ∧ s.step o = s.set d (Rep.merge (s.rep d) (s.rep sr)) ∧
      t.step o = t.mergeStep d sr) := by
  cases o with
  | inc r k =>
    by_cases hk : k = 0
    · exact Or.inl ⟨by simp [Sys.step, hk], by simp [SpecSys.step, hk]⟩
    · exact Or.inr (Or.inl ⟨(fun _ _ h => nomatch h), by simp [Sys.step, hk, Rep.apply, COp.origin],
        by simp [SpecSys.step, hk, COp.origin]⟩)
  | dec r k =>
    by_cases hk : k = 0
    · exact Or.inl ⟨by simp [Sys.step, hk], by simp [SpecSys.step, hk]⟩
    · exact Or.inr (Or.inl ⟨(fun _ _ h => nomatch h), by simp [Sys.step, hk, Rep.apply, COp.origin],
        by simp [SpecSys.step, hk, COp.origin]⟩)
  | lset r v p l nd => exact Or.inr (Or.inl ⟨(fun _ _ h => nomatch h), rfl, rfl⟩)
  | oadd r x => exact Or.inr (Or.inl ⟨(fun _ _ h => nomatch h), rfl, rfl⟩)
  | orem r x => exact Or.inr (Or.inl ⟨(fun _ _ h => nomatch h), rfl, rfl⟩)
  | merge d sr => exact Or.inr (Or.inr ⟨d, sr, rfl, rfl, rfl⟩)

theorem SpecSys.step_cases (t : SpecSys) (o : COp) :
    t.step o = t ∨ ((∀ d sr, o ≠ .merge d sr) ∧ t.step o = t.local o.origin o) ∨
    (∃ d sr, o = .merge d sr ∧ t.step o = t.mergeStep d sr) :=
  (HappyModel.C18.step_cases Sys.init t o).imp And.right <| Or.imp (fun h => ⟨h.1, h.2.2⟩)
    fun ⟨d, sr, h⟩ => ⟨d, sr, h.1, h.2.2⟩

structure SpecInv (t : SpecSys) : Prop where
  idLt : ∀ rc ∈ t.recs, rc.id < t.cnt
  knowLt : ∀ r, ∀ x ∈ t.know r, x < t.cnt
  kLt : ∀ rc ∈ t.recs, ∀ y ∈ rc.K, y < rc.id
  idUniq : ∀ a ∈ t.recs, ∀ b ∈ t.recs, a.id = b.id → a = b
  /-- a replica knows its own operations -/
  own : ∀ rc ∈ t.recs, rc.id ∈ t.know rc.op.origin
  /-- an operation has observed the earlier operations of its replica -/
  ownK : ∀ a ∈ t.recs, ∀ b ∈ t.recs, a.op.origin = b.op.origin → a.id < b.id → a.id ∈ b.K
  /-- knowledge is closed under recorded pasts -/
  closed : ∀ r, ∀ d ∈ t.recs, d.id ∈ t.know r → ∀ y ∈ d.K, y ∈ t.know r
  noMerge : ∀ rc ∈ t.recs, ∀ d s, rc.op ≠ .merge d s

theorem specInv_init : SpecInv {} := by
  constructor <;> simp

theorem specInv_local (t : SpecSys) (h : SpecInv t) (op : COp) (hm : ∀ d s, op ≠ .merge d s) :
    SpecInv (t.local op.origin op) := by
  constructor
  · intro rc hrc
    rw [SpecSys.local_recs, List.mem_cons] at hrc
    rw [SpecSys.local_cnt]
    rcases hrc with rfl | hrc
    · exact Nat.lt_succ_self _
    · exact Nat.lt_succ_of_lt (h.idLt rc hrc)
  · intro r x hx
    rw [SpecSys.mem_know_local] at hx
    rw [SpecSys.local_cnt]
    rcases hx with hx | ⟨_, rfl⟩
    · exact Nat.lt_succ_of_lt (h.knowLt r x hx)
    · exact Nat.lt_succ_self _
  · intro rc hrc y hy
    rw [SpecSys.local_recs, List.mem_cons] at hrc
    rcases hrc with rfl | hrc
    · exact h.knowLt _ y hy
    · exact h.kLt rc hrc y hy
  · intro a ha b hb hab
    rw [SpecSys.local_recs, List.mem_cons] at ha hb
    rcases ha with rfl | ha <;> rcases hb with rfl | hb
    · rfl
    · have := h.idLt b hb; simp only at hab; omega
    · have := h.idLt a ha; simp only at hab; omega
    · exact h.idUniq a ha b hb hab
  · intro rc hrc
    rw [SpecSys.local_recs, List.mem_cons] at hrc
    rw [SpecSys.mem_know_local]
    rcases hrc with rfl | hrc
    · exact Or.inr ⟨rfl, rfl⟩
    · exact Or.inl (h.own rc hrc)
  · intro a ha b hb hor hlt
    rw [SpecSys.local_recs, List.mem_cons] at ha hb
    rcases ha with rfl | ha <;> rcases hb with rfl | hb
    · simp only at hlt; omega
    · have := h.idLt b hb; simp only at hlt; omega
    · simp only at hor ⊢; rw [← hor]; exact h.own a ha
    · exact h.ownK a ha b hb hor hlt
  · intro r d hd hin y hy
    rw [SpecSys.local_recs, List.mem_cons] at hd
    rw [SpecSys.mem_know_local] at hin ⊢
    rcases hd with rfl | hd
    · simp only at hin hy
      rcases hin with hin | ⟨rfl, _⟩
      · have := h.knowLt r _ hin; omega
      · exact Or.inl hy
    · rcases hin with hin | ⟨_, hin⟩
      · exact Or.inl (h.closed r d hd hin y hy)
      · have := h.idLt d hd; omega
  · intro rc hrc
    rw [SpecSys.local_recs, List.mem_cons] at hrc
    rcases hrc with rfl | hrc
    · exact hm
    · exact h.noMerge rc hrc

theorem specInv_merge (t : SpecSys) (h : SpecInv t) (d s : Nat) : SpecInv (t.mergeStep d s) := by
  have hrecs : (t.mergeStep d s).recs = t.recs := rfl
  have hcnt : (t.mergeStep d s).cnt = t.cnt := rfl
  constructor
  · rw [hrecs, hcnt]; exact h.idLt
  · intro r x hx
    rw [SpecSys.mem_know_merge] at hx
    rw [hcnt]
    rcases hx with hx | ⟨_, hx⟩
    · exact h.knowLt r x hx
    · exact h.knowLt s x hx
  · rw [hrecs]; exact h.kLt
  · rw [hrecs]; exact h.idUniq
  · intro rc hrc
    rw [SpecSys.mem_know_merge]
    exact Or.inl (h.own rc hrc)
  · rw [hrecs]; exact h.ownK
  · intro r rc hrc hin y hy
    rw [hrecs] at hrc
    rw [SpecSys.mem_know_merge] at hin ⊢
    rcases hin with hin | ⟨hr, hin⟩
    · exact Or.inl (h.closed r rc hrc hin y hy)
    · exact Or.inr ⟨hr, h.closed s rc hrc hin y hy⟩
  · rw [hrecs]; exact h.noMerge

theorem specInv_step (t : SpecSys) (h : SpecInv t) (o : COp) : SpecInv (t.step o) := by
  rcases t.step_cases o with e | ⟨hm, e⟩ | ⟨d, s, _, e⟩ <;> rw [e]
  · exact h
  · exact specInv_local t h o hm
  · exact specInv_merge t h d s

theorem SpecSys.run_append (t : SpecSys) (a b : List COp) :
    SpecSys.run t (a ++ b) = SpecSys.run (SpecSys.run t a) b := by
  induction a generalizing t with
  | nil => rfl
  | cons o os ih => simp [SpecSys.run, ih]

theorem Sys.run_append (s : Sys) (a b : List COp) : Sys.run s (a ++ b) = Sys.run (Sys.run s a) b := by
  induction a generalizing s with
  | nil => rfl
  | cons o os ih => simp [Sys.run, ih]

theorem know_mono_run (ops : List COp) (x r : Nat) :
    ∀ t : SpecSys, x ∈ t.know r → x ∈ (SpecSys.run t ops).know r := by
  induction ops with
  | nil => intro t h; exact h
  | cons o os ih =>
    intro t h
    apply ih
    rcases t.step_cases o with e | ⟨_, e⟩ | ⟨d, s, _, e⟩ <;> rw [e]
    · exact h
    · rw [SpecSys.mem_know_local]; exact Or.inl h
    · rw [SpecSys.mem_know_merge]; exact Or.inl h

theorem know_origin (ops : List COp) (t : SpecSys) (r : Nat)
    (h : (SpecSys.run t ops).know r ≠ []) : t.know r ≠ [] ∨ ∃ o ∈ ops, o.origin = r := by
  induction ops generalizing t with
  | nil => exact Or.inl h
  | cons o os ih =>
    rcases ih (t.step o) h with h1 | ⟨o', ho', hr⟩
    · rcases t.step_cases o with e | ⟨_, e⟩ | ⟨d, s, hds, e⟩ <;> rw [e] at h1
      · exact Or.inl h1
      · by_cases hr : r = o.origin
        · exact Or.inr ⟨o, List.mem_cons_self, hr.symm⟩
        · left
          obtain ⟨x, hx⟩ := List.exists_mem_of_ne_nil _ h1
          rw [SpecSys.mem_know_local] at hx
          rcases hx with hx | ⟨hx, _⟩
          · exact List.ne_nil_of_mem hx
          · exact absurd hx hr
      · by_cases hr : r = d
        · exact Or.inr ⟨o, List.mem_cons_self, by rw [hds]; exact hr.symm⟩
        · left
          obtain ⟨x, hx⟩ := List.exists_mem_of_ne_nil _ h1
          rw [SpecSys.mem_know_merge] at hx
          rcases hx with hx | ⟨hx, _⟩
          · exact List.ne_nil_of_mem hx
          · exact absurd hx hr
    · exact Or.inr ⟨o', List.mem_cons_of_mem _ ho', hr⟩

theorem recs_from_ops (ops : List COp) (t : SpecSys) :
    ∀ rc ∈ (SpecSys.run t ops).recs, rc ∈ t.recs ∨ rc.op ∈ ops := by
  induction ops generalizing t with
  | nil => intro rc h; exact Or.inl h
  | cons o os ih =>
    intro rc h
    simp only [SpecSys.run] at h
    rcases ih (t.step o) rc h with h1 | h1
    · rcases t.step_cases o with e | ⟨_, e⟩ | ⟨d, s, _, e⟩ <;> rw [e] at h1
      · exact Or.inl h1
      · rw [SpecSys.local_recs, List.mem_cons] at h1
        rcases h1 with rfl | h1
        · exact Or.inr List.mem_cons_self
        · exact Or.inl h1
      · exact Or.inl h1
    · exact Or.inr (List.mem_cons_of_mem _ h1)

theorem run_merges_recs (ops : List COp) (hm : ∀ o ∈ ops, ∃ d s, o = .merge d s) (t : SpecSys) :
    (SpecSys.run t ops).recs = t.recs := by
  induction ops generalizing t with
  | nil => rfl
  | cons o os ih =>
    obtain ⟨d, s, rfl⟩ := hm _ List.mem_cons_self
    simp only [SpecSys.run]
    rw [ih (fun o ho => hm o (List.mem_cons_of_mem _ ho))]
    rfl

/-! A step changes what a replica has seen by one disjunct: the new record at the replica that performs a
local operation (its id is fresh, so nothing else changes), the source's past at the destination of a merge. -/

theorem SpecSys.mem_know_local_old (t : SpecSys) (h : SpecInv t) (r : Nat) (op : COp) (r' : Nat) {rc : OpRec}
    (hrc : rc ∈ t.recs) : rc.id ∈ (t.local r op).know r' ↔ rc.id ∈ t.know r' := by
  rw [SpecSys.mem_know_local]
  exact ⟨fun hh => hh.elim id fun ⟨_, e⟩ => absurd (e ▸ h.idLt rc hrc) (Nat.lt_irrefl _), Or.inl⟩

theorem SpecSys.cnt_mem_know_local (t : SpecSys) (h : SpecInv t) (r : Nat) (op : COp) (r' : Nat) :
    t.cnt ∈ (t.local r op).know r' ↔ r' = r := by
  rw [SpecSys.mem_know_local]
  exact ⟨fun hh => hh.elim (fun hk => absurd (h.knowLt r' _ hk) (Nat.lt_irrefl _)) And.left, fun e => Or.inr ⟨e, rfl⟩⟩

theorem seen_local (t : SpecSys) (h : SpecInv t) (r : Nat) (op : COp) (r' : Nat) (a : OpRec) :
    Seen (t.local r op) r' a ↔ Seen t r' a ∨ (r' = r ∧ a = ⟨t.cnt, op, t.know r⟩) := by
  simp only [Seen, SpecSys.local_recs, List.mem_cons]
  constructor
  · rintro ⟨rfl | ha, hk⟩
    · exact Or.inr ⟨(t.cnt_mem_know_local h r op r').mp hk, rfl⟩
    · exact Or.inl ⟨ha, (t.mem_know_local_old h r op r' ha).mp hk⟩
  · rintro (⟨ha, hk⟩ | ⟨hr, rfl⟩)
    · exact ⟨Or.inr ha, (t.mem_know_local_old h r op r' ha).mpr hk⟩
    · exact ⟨Or.inl rfl, (t.cnt_mem_know_local h r op r').mpr hr⟩

theorem seen_merge (t : SpecSys) (d s r' : Nat) (a : OpRec) :
    Seen (t.mergeStep d s) r' a ↔ Seen t r' a ∨ (r' = d ∧ Seen t s a) := by
  simp only [Seen, SpecSys.mem_know_merge]
  show a ∈ t.recs ∧ _ ↔ _
  exact ⟨fun ⟨ha, hk⟩ => hk.imp (⟨ha, ·⟩) fun ⟨hr, hk⟩ => ⟨hr, ha, hk⟩,
    fun hh => hh.elim (fun ⟨ha, hk⟩ => ⟨ha, Or.inl hk⟩) fun ⟨hr, ha, hk⟩ => ⟨ha, Or.inr ⟨hr, hk⟩⟩⟩

theorem exists_seen_local (t : SpecSys) (h : SpecInv t) (r : Nat) (op : COp) (r' : Nat) (Q : OpRec → Prop) :
    (∃ a, Seen (t.local r op) r' a ∧ Q a) ↔ (∃ a, Seen t r' a ∧ Q a) ∨ (r' = r ∧ Q ⟨t.cnt, op, t.know r⟩) := by
  simp only [seen_local t h]
  constructor
  · rintro ⟨a, h1 | ⟨hr, rfl⟩, hq⟩
    · exact Or.inl ⟨a, h1, hq⟩
    · exact Or.inr ⟨hr, hq⟩
  · rintro (⟨a, h1, hq⟩ | ⟨hr, hq⟩)
    · exact ⟨a, Or.inl h1, hq⟩
    · exact ⟨_, Or.inr ⟨hr, rfl⟩, hq⟩

theorem exists_seen_merge (t : SpecSys) (d s r' : Nat) (Q : OpRec → Prop) :
    (∃ a, Seen (t.mergeStep d s) r' a ∧ Q a) ↔ (∃ a, Seen t r' a ∧ Q a) ∨ (r' = d ∧ ∃ a, Seen t s a ∧ Q a) := by
  simp only [seen_merge]
  constructor
  · rintro ⟨a, h1 | ⟨hr, h1⟩, hq⟩
    · exact Or.inl ⟨a, h1, hq⟩
    · exact Or.inr ⟨hr, a, h1, hq⟩
  · rintro (⟨a, h1, hq⟩ | ⟨hr, a, h1, hq⟩)
    · exact ⟨a, Or.inl h1, hq⟩
    · exact ⟨a, Or.inr ⟨hr, h1⟩, hq⟩

theorem local_K_lt (t : SpecSys) (h : SpecInv t) (r : Nat) (op : COp) (d : OpRec)
    (hd : d ∈ (t.local r op).recs) (y : Nat) (hy : y ∈ d.K) : y < t.cnt := by
  rw [SpecSys.local_recs, List.mem_cons] at hd
  rcases hd with rfl | hd
  · exact h.knowLt r y hy
  · have := h.kLt d hd y hy; have := h.idLt d hd; omega

/-- `D g r t x`: the value `x` of replica `r` is what the specification `t` says of the updates `r`
    has seen. `g` is ghost data that a local operation may extend (the tags of the recorded adds of
    an OR-set). -/
structure Den {G : Type} (D : G → Nat → SpecSys → Rep → Prop) : Prop where
  /-- stated for every `op`; `Den.step` uses it for the operations that are not merges (for a merge `Rep.apply`
  is the identity while `t.local` would record it: that case does not occur) -/
  loc : ∀ {t : SpecSys}, SpecInv t → ∀ (g : G) (r : Nat) (op : COp) (x : Rep), op.origin = r → D g r t x →
    ∃ g', D g' r (t.local r op) (x.apply r op) ∧ ∀ r', r' ≠ r → ∀ y, D g r' t y → D g' r' (t.local r op) y
  mrg : ∀ {t : SpecSys}, SpecInv t → ∀ (g : G) (d sr : Nat) (x y : Rep), D g d t x → D g sr t y →
    D g d (t.mergeStep d sr) (Rep.merge x y)
  keep : ∀ {t : SpecSys} (g : G) (d sr r' : Nat) (x : Rep), r' ≠ d → D g r' t x → D g r' (t.mergeStep d sr) x

theorem Den.step {G : Type} {D : G → Nat → SpecSys → Rep → Prop} (hD : Den D) (s : Sys) (t : SpecSys)
    (o : COp) (hi : SpecInv t) (h : ∃ g, ∀ r, D g r t (s.rep r)) :
    ∃ g, ∀ r, D g r (t.step o) ((s.step o).rep r) := by
  obtain ⟨g, h⟩ := h
  rcases step_cases s t o with ⟨e1, e2⟩ | ⟨_, e1, e2⟩ | ⟨d, sr, _, e1, e2⟩ <;> rw [e1, e2]
  · exact ⟨g, h⟩
  · obtain ⟨g', h1, h2⟩ := hD.loc hi g _ o _ rfl (h o.origin)
    refine ⟨g', fun r => ?_⟩
    rw [Sys.set_rep]
    split
    · next e => exact e ▸ h1
    · next e => exact h2 r e _ (h r)
  · refine ⟨g, fun r => ?_⟩
    rw [Sys.set_rep]
    split
    · next e => exact e ▸ hD.mrg hi g d sr _ _ (h d) (h sr)
    · next e => exact hD.keep g d sr r _ e (h r)

theorem Den.run {G : Type} {D : G → Nat → SpecSys → Rep → Prop} (hD : Den D) (ops : List COp) :
    ∀ (s : Sys) (t : SpecSys), SpecInv t → (∃ g, ∀ r, D g r t (s.rep r)) →
      ∃ g, ∀ r, D g r (SpecSys.run t ops) ((Sys.run s ops).rep r) := by
  induction ops with
  | nil => exact fun _ _ _ h => h
  | cons o os ih => exact fun s t hi h => ih _ _ (specInv_step t hi o) (hD.step s t o hi h)

end HappyModel.C18
