import HappyProofs.C12.PxFinal
import HappyModel.C12.Spec
/-!
# C12 — the single-decree judge accepts the model's own transcript (repaired variant): stability is read off the transcript
step by step (`stable_run`), the other three clauses off the final state (`rep_final`, `final_mem`)
-/
namespace HappyModel.C12.Px

/-- `rep node v|-` lines: after every step the report of one node (`who a`: any choice; the harness prints the node
    whose handler ran), and at the end the report of every node -/
def repRun (who : Act → Nat) (n : Nat) (s : St) : List Act → List (Nat × Option Nat)
  | [] => (List.range n).map fun i => (i, s.decided i)
  | a :: as => (who a, (step s a).decided (who a)) :: repRun who n (step s a) as

/-- `fut id v` lines: every resolved future -/
def futsOf (s : St) : List (Nat × Nat) := (List.range s.nfut).filterMap fun k => (s.futRes k).map fun v => (k, v)

def instOf (who : Act → Nat) (n : Nat) (s : St) (as : List Act) : Spec.Inst :=
  { proposed := (runActs s as).proposedVals, reports := repRun who n s as, futs := futsOf (runActs s as) }

theorem rep_final (who : Act → Nat) (n : Nat) : ∀ (as : List Act) (s : St) (i w : Nat),
    (i, some w) ∈ repRun who n s as → (runActs s as).decided i = some w := by
  intro as
  induction as with
  | nil =>
    intro s i w h
    simp only [repRun, List.mem_map] at h
    obtain ⟨j, _, hj⟩ := h
    simp only [Prod.mk.injEq] at hj
    obtain ⟨rfl, h2⟩ := hj
    exact h2
  | cons a rest ih =>
    intro s i w h
    simp only [repRun, List.mem_cons] at h
    rcases h with h | h
    · simp only [Prod.mk.injEq] at h
      obtain ⟨rfl, h2⟩ := h
      exact decided_stable_run (step s a) rest (who a) w h2.symm
    · exact ih _ i w h

theorem final_mem (who : Act → Nat) (n : Nat) : ∀ (as : List Act) (s : St) (i : Nat), i < n →
    (i, (runActs s as).decided i) ∈ repRun who n s as := by
  intro as
  induction as with
  | nil => intro s i hi; simp only [repRun, List.mem_map]; exact ⟨i, List.mem_range.2 hi, rfl⟩
  | cons a rest ih => intro s i hi; exact List.mem_cons_of_mem _ (ih _ i hi)

theorem mem_decisions {o : Spec.Inst} {w : Nat} : w ∈ o.decisions ↔ ∃ i, (i, some w) ∈ o.reports := by
  simp only [Spec.Inst.decisions, List.mem_filterMap]
  constructor
  · rintro ⟨r, hr, h⟩; obtain ⟨i, x⟩ := r; simp only at h; subst h; exact ⟨i, hr⟩
  · rintro ⟨i, h⟩; exact ⟨(i, some w), h, rfl⟩

theorem allEq_of_forall {l : List Nat} (h : ∀ x ∈ l, ∀ y ∈ l, x = y) : Spec.allEq l = true := by
  cases l with
  | nil => rfl
  | cons a t =>
    simp only [Spec.allEq, List.all_eq_true, beq_iff_eq]
    intro y hy
    exact h y (List.mem_cons_of_mem _ hy) a List.mem_cons_self

theorem stableFrom_const (d : Option Nat) : ∀ (xs : List (Option Nat)) (cur : Option Nat),
    (∀ x ∈ xs, x = d) → (∀ v, cur = some v → d = some v) → Spec.stableFrom cur xs = true := by
  intro xs
  induction xs with
  | nil => intro cur _ _; cases cur <;> rfl
  | cons x xs ih =>
    intro cur hall hc
    have hx : x = d := hall x List.mem_cons_self
    have hall' : ∀ y ∈ xs, y = d := fun y hy => hall y (List.mem_cons_of_mem _ hy)
    cases cur with
    | none => simp only [Spec.stableFrom]; exact ih x hall' (fun v hv => by rw [← hx]; exact hv)
    | some v =>
      have hd := hc v rfl
      simp only [Spec.stableFrom, Bool.and_eq_true, beq_iff_eq]
      exact ⟨by rw [hx, hd], ih (some v) hall' (fun v' hv' => by cases hv'; exact hd)⟩

theorem stable_run (who : Act → Nat) (n nd : Nat) : ∀ (as : List Act) (s : St) (cur : Option Nat),
    (∀ v, cur = some v → s.decided nd = some v) →
    Spec.stableFrom cur (((repRun who n s as).filter (·.1 == nd)).map (·.2)) = true := by
  intro as
  induction as with
  | nil =>
    intro s cur hc
    apply stableFrom_const (s.decided nd) _ cur _ hc
    intro x hx
    simp only [repRun, List.mem_map, List.mem_filter, beq_iff_eq] at hx
    obtain ⟨r, ⟨⟨j, _, rfl⟩, hj⟩, rfl⟩ := hx
    simp only at hj; subst hj; rfl
  | cons a rest ih =>
    intro s cur hc
    have hstep := decided_stable_step s a nd
    simp only [repRun, List.filter_cons]
    split
    · rename_i hw
      simp only [beq_iff_eq] at hw
      simp only [List.map_cons]
      cases cur with
      | none =>
        simp only [Spec.stableFrom]
        exact ih _ _ (fun v hv => by rw [← hw]; exact hv)
      | some v =>
        have h1 := hstep v (hc v rfl)
        simp only [Spec.stableFrom, Bool.and_eq_true, beq_iff_eq]
        exact ⟨by rw [hw]; exact h1, ih _ _ (fun v' hv' => by cases hv'; exact h1)⟩
    · exact ih _ cur (fun v hv => hstep v (hc v hv))

section
variable (who : Act → Nat) (n q1 q2 : Nat) (as : List Act)

theorem stability_on_model : Spec.stability (instOf who n (init n q1 q2) as) = true := by
  simp only [Spec.stability, List.all_eq_true]
  intro nd _
  exact stable_run who n nd as (init n q1 q2) none (by intro v h; cases h)

theorem agreement_on_model (hq : n < q1 + q2) (hq2 : 0 < q2) :
    Spec.agreement (instOf who n (init n q1 q2) as) = true := by
  have r := reach_run n q1 q2 as
  apply allEq_of_forall
  intro x hx y hy
  obtain ⟨i, hi⟩ := mem_decisions.1 hx
  obtain ⟨j, hj⟩ := mem_decisions.1 hy
  exact r.agree hq hq2
    (rep_final who n as _ i x hi) (rep_final who n as _ j y hj)

theorem validity_on_model (hq2 : 0 < q2) : Spec.validity (instOf who n (init n q1 q2) as) = true := by
  have r := reach_run n q1 q2 as
  simp only [Spec.validity, List.all_eq_true, List.contains_iff_mem]
  intro w hw
  obtain ⟨i, hi⟩ := mem_decisions.1 hw
  have hd := rep_final who n as _ i w hi
  exact r.valid hq2 hd

theorem futures_on_model (hq : n < q1 + q2) (hq2 : 0 < q2) :
    Spec.futures (instOf who n (init n q1 q2) as) = true := by
  have r := reach_run n q1 q2 as
  simp only [Spec.futures, List.all_eq_true, Bool.and_eq_true, List.contains_iff_mem, beq_iff_eq]
  intro f hf
  simp only [instOf, futsOf, List.mem_filterMap, List.mem_range] at hf
  obtain ⟨k, hk, hkv⟩ := hf
  cases hres : (runActs (init n q1 q2) as).futRes k with
  | none => rw [hres] at hkv; cases hkv
  | some v =>
    rw [hres] at hkv
    simp only [Option.map_some, Option.some.injEq] at hkv
    subst hkv
    have hown := r.fut.res k v hres
    have hlt : (runActs (init n q1 q2) as).futOwner k < n := by
      have := r.fut.lt k hk; rw [r.cfg] at this; exact this
    refine ⟨mem_decisions.2 ⟨(runActs (init n q1 q2) as).futOwner k, ?_⟩, ?_⟩
    · have := final_mem who n as (init n q1 q2) _ hlt
      rw [hown] at this; exact this
    · intro w hw
      obtain ⟨i, hi⟩ := mem_decisions.1 hw
      exact r.agree hq hq2
        (rep_final who n as _ i w hi) hown

/-- The single-decree judge accepts the model: for every action sequence of the repaired variant (any proposers,
    values, ballots, interleavings, retries, losses), with intersecting quorums, `judgeInst` evaluated on the run's
    own transcript — values proposed, the report of a node after every step and of every node at the end, the
    resolved futures — finds no violated clause. -/
theorem paxos_judge_silent_on_model (pfx : String) (hq : n < q1 + q2) (hq2 : 0 < q2) :
    Spec.judgeInst pfx (instOf who n (init n q1 q2) as) = none := by
  simp [Spec.judgeInst, stability_on_model who n q1 q2 as, agreement_on_model who n q1 q2 as hq hq2,
    validity_on_model who n q1 q2 as hq2, futures_on_model who n q1 q2 as hq hq2]

end

/-- non-vacuity: a run with two competing proposers, three learners and three futures, two of them resolved — the
    transcript has reports, decisions and resolved futures, and the judge is silent on it -/
example :
    let o := instOf (fun _ => 0) 3 (init 3 2 2)
      [.propose 0 3 70, .propose 1 4 71, .recvPrepare 4 0, .recvPrepare 4 2, .recvPromise 4 0, .recvAccept 4 0,
       .recvAccept 4 2, .recvAccepted 4 0, .recvDecided 1 0, .recvDecided 1 2, .propose 0 9 72]
    o.decisions.length = 6 ∧ o.futs = [(1, 71), (2, 71)] ∧ Spec.judgeInst "paxos" o = none := by decide +kernel

end HappyModel.C12.Px
