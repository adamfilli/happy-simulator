import HappyProofs.C15.Phases
import HappyProofs.C15.Survive
/-!
A later phase starts from a recovered state with the frames of earlier phases still in the list (`KStart`).  `IsNew y0`
picks the frames that began in the phase, `Track y0 y` relates a later system `y` to `y0`.  The judge reads `KeyFacts`
with `New := IsNew y0` and the values read at the start as baseline (`judgePhase_of_facts`).
-/
namespace HappyModel.C15
open HappyModel.C14

/-- operation `i` had not started when the phase began -/
def NewId (y0 : Sys) (i : Nat) : Prop := ∃ f0 ∈ y0.frames, f0.id = i ∧ f0.b = none

def IsNew (y0 : Sys) (f : Frame) : Prop := f.b ≠ none ∧ NewId y0 f.id

/-- how the frames at a later point `y` of a phase relate to those of the system `y0` it started from: a frame is
    untouched or began in the phase, the frames that had begun before are still there, begin / end indices are in
    order and `synced_up_to` has not gone back -/
structure Track (y0 y : Sys) : Prop where
  old : ∀ f ∈ y.frames, f ∈ y0.frames ∨ IsNew y0 f
  keep : ∀ f ∈ y0.frames, f.b ≠ none → f ∈ y.frames
  bn : ∀ f ∈ y.frames, ∀ b, f.b = some b → b < y.n
  ended : ∀ f ∈ y.frames, ∀ b e, f.b = some b → f.e = some e → b ≤ e
  synced : y0.st.synced ≤ y.st.synced

theorem Track.step {cfg : Cfg} {y0 y : Sys} (h : Track y0 y) (id : Nat) (hs : SyncOk y id)
    (hun : ∀ f ∈ y0.frames, f.id = id → f.b = none) : Track y0 (y.step cfg id) := by
  rcases gstep_cases cfg y id with ⟨h0, _⟩ | ⟨pre, f, post, h1, h2, _, _, h5, _, h6⟩
  · rw [h0]
    exact ⟨h.old, h.keep, fun f hf b hb => Nat.lt_succ_of_lt (h.bn f hf b hb), h.ended, h.synced⟩
  · rw [h5]
    have hmono := Nat.le_trans h.synced (synced_le_stepOp cfg y.st (hs f h6))
    obtain ⟨st, frames, n⟩ := y
    simp only at h1 ⊢
    subst h1
    have ha := adv_spec cfg st n f
    have hnid : NewId y0 f.id := (h.old f mem_mid_self).elim (fun hf0 => ⟨f, hf0, rfl, hun f hf0 h2⟩) (·.2)
    have hbn' : ∀ b, (advFrame cfg st n f).b = some b → b ≤ n := fun b hb =>
      (ha.inv hb).elim (fun e => Nat.le_of_lt (h.bn f mem_mid_self b e.1)) fun e => Nat.le_of_eq e.2.1
    refine ⟨forall_mid.mpr ⟨Or.inr ⟨ha.started, ha.id ▸ hnid⟩, fun g o => h.old g (mem_mid_of o)⟩, fun g hg0 hgb => ?_,
      forall_mid.mpr ⟨fun b hb => Nat.lt_succ_of_le (hbn' b hb), fun g o b hb => Nat.lt_succ_of_lt (h.bn g (mem_mid_of o) b hb)⟩,
      forall_mid.mpr ⟨fun b e hb he => ha.e e he ▸ hbn' b hb, fun g o => h.ended g (mem_mid_of o)⟩, hmono⟩
    rcases mem_mid.mp (h.keep g hg0 hgb) with rfl | hg
    · exact absurd (hun g hg0 h2) hgb
    · exact mem_mid_of hg

theorem Track.run {cfg : Cfg} {y0 : Sys} (sched : List Nat) (hun : ∀ f ∈ y0.frames, f.id ∈ sched → f.b = none) :
    ∀ {y : Sys}, Track y0 y → syncsInOrderB cfg y sched = true → Track y0 (y.run cfg sched) := by
  induction sched with
  | nil => exact fun h _ => h
  | cons id ids ih =>
    exact fun h hs => ih (fun f hf hi => hun f hf (List.mem_cons_of_mem _ hi))
      (h.step id (syncsInOrderB_cons hs).1 fun f hf e => hun f hf (e ▸ List.mem_cons_self ..)) (syncsInOrderB_cons hs).2

section
variable {cfg : Cfg} {p : Policy} {start : Nat → Pc} {y0 y y1 : Sys} {acc : List Nat}

/-- the state the next phase starts from -/
def _root_.HappyModel.C14.St.recovered (s : St) : St := s.crash.recover.recover.crash.recover

theorem recovered_wal (s : St) : s.recovered.wal = durableLog s :=
  durableLog_crash_recover s

theorem mem_recovered_wal {s : St} {e : WalE} (h : e ∈ s.recovered.wal) : e ∈ s.wal ∧ e.seq ≤ s.synced := by
  rw [recovered_wal] at h
  exact ⟨(List.mem_filter.mp h).1, of_decide_eq_true (List.mem_filter.mp h).2⟩

/-- what the system a later phase starts from satisfies -/
structure KStart (start : Nat → Pc) (y : Sys) : Prop where
  sorted : (y.st.wal.map (·.seq)).Pairwise (· < ·)
  walLt : ∀ e ∈ y.st.wal, e.seq < y.st.nextSeq
  dur : ∀ e ∈ y.st.wal, e.seq ≤ y.st.synced
  abs : ∀ k, y.st.abs k = (match lastFor k y.st.wal none with
      | some c => some c
      | none => lookLevels k y.st.levels).join
  bn : ∀ f ∈ y.frames, ∀ b, f.b = some b → b < y.n
  ended : ∀ f ∈ y.frames, ∀ b e, f.b = some b → f.e = some e → b ≤ e
  baseOld : ∀ k v, y.st.abs k = some v → ∃ f ∈ y.frames, f.b ≠ none ∧ ∃ k', start f.id = .pStart k' (some v)
  ids : (y.frames.map (·.id)).Nodup

theorem not_new_of_mem (hids : (y0.frames.map (·.id)).Nodup) {f : Frame} (hf : f ∈ y0.frames)
    (hn : IsNew y0 f) : False := by
  obtain ⟨hb, f0, hf0, hid, hb0⟩ := hn
  have := inj_of_nodup_map (·.id) hids hf0 hf hid
  subst this
  exact hb hb0

theorem track_refl (hK : KStart start y) : Track y y :=
  ⟨fun _ hf => Or.inl hf, fun _ hf _ => hf, hK.bn, hK.ended, Nat.le_refl _⟩

theorem kstart_recovered (hsorted : (y.st.wal.map (·.seq)).Pairwise (· < ·))
    (hwalLt : ∀ e ∈ y.st.wal, e.seq < y.st.nextSeq) (hbn : ∀ f ∈ y.frames, ∀ b, f.b = some b → b < y.n)
    (hended : ∀ f ∈ y.frames, ∀ b e, f.b = some b → f.e = some e → b ≤ e)
    (hbase : ∀ k v, y.st.crash.recover.abs k = some v →
      ∃ f ∈ y.frames, f.b ≠ none ∧ ∃ k', start f.id = .pStart k' (some v))
    (hids : (y.frames.map (·.id)).Nodup) : KStart start { y with st := y.st.recovered } := by
  exact {
    sorted := by
      show (y.st.recovered.wal.map (·.seq)).Pairwise (· < ·)
      rw [recovered_wal]
      exact hsorted.sublist (List.filter_sublist.map _)
    walLt := fun e he => hwalLt e (mem_recovered_wal he).1
    dur := fun e he => (mem_recovered_wal he).2
    abs := fun k => by
      show y.st.recovered.abs k = (match lastFor k y.st.recovered.wal none with
        | some c => some c
        | none => lookLevels k y.st.levels).join
      rw [recovered_wal]
      exact (abs_second_crash y.st k).trans (abs_crash_recover y.st k)
    bn := hbn
    ended := hended
    baseOld := fun k v hv => hbase k v ((abs_second_crash y.st k).symm.trans hv)
    ids := hids }

/-- `baseOld` again: a value read after the crash was written by a frame of the phase, or is a baseline value, whose frame is
    still there -/
theorem kstart_next (hK : KStart start y0) (hF : ∀ k, KeyFacts start (IsNew y0) y0.st.abs y1 k)
    (hkeep : ∀ f ∈ y0.frames, f.b ≠ none → f ∈ y1.frames) (hsorted : (y1.st.wal.map (·.seq)).Pairwise (· < ·))
    (hwalLt : ∀ e ∈ y1.st.wal, e.seq < y1.st.nextSeq) (hbn : ∀ f ∈ y1.frames, ∀ b, f.b = some b → b < y1.n)
    (hended : ∀ f ∈ y1.frames, ∀ b e, f.b = some b → f.e = some e → b ≤ e) (hids : (y1.frames.map (·.id)).Nodup) :
    KStart start { y1 with st := y1.st.recovered } := by
  refine kstart_recovered hsorted hwalLt hbn hended (fun k v hv => ?_) hids
  rcases hF k with ⟨w, hw, wnew, _, wst, _⟩ | ⟨hb, _⟩
  · rw [hv] at wst
    exact ⟨w, hw, wnew.1, k, wst⟩
  · rw [hv] at hb
    obtain ⟨f, hf, hfb, hst⟩ := hK.baseOld k v hb.symm
    exact ⟨f, hkeep f hf hfb, hfb, hst⟩

end

/-- records of the writes that started during the phase `y0 → y1` (the `ws` of `obsOf`) -/
def phaseWs (ops : List (Nat × OKind)) (y0 y1 : Sys) : List WRec :=
  (wObsOf ops y1).filter fun w => !((wObsOf ops y0).map (·.id)).contains w.id

section
variable {cfg : Cfg} {p : Policy} {ops : List (Nat × OKind)} {nkeys : Nat} {y0 y1 : Sys} {acc : List Nat}

theorem mem_phaseWs (hids0 : (y0.frames.map (·.id)).Nodup)
    (hold : ∀ f ∈ y1.frames, f ∈ y0.frames ∨ IsNew y0 f) {r : WRec} :
    r ∈ phaseWs ops y0 y1 ↔ ∃ f ∈ y1.frames, IsNew y0 f ∧ wrecOf ops f = some r := by
  unfold phaseWs
  rw [List.mem_filter, mem_wObsOf]
  constructor
  · rintro ⟨⟨f, hf, hrec⟩, hp⟩
    rcases hold f hf with h0 | hn
    · have : r.id ∈ (wObsOf ops y0).map (·.id) := List.mem_map.mpr ⟨r, mem_wObsOf.mpr ⟨f, h0, hrec⟩, rfl⟩
      rw [← List.contains_iff_mem] at this
      rw [this] at hp
      cases hp
    · exact ⟨f, hf, hn, hrec⟩
  · rintro ⟨f, hf, hn, hr⟩
    refine ⟨⟨f, hf, hr⟩, ?_⟩
    cases hc : ((wObsOf ops y0).map (·.id)).contains r.id with
    | false => rfl
    | true =>
      exfalso
      obtain ⟨r', hr', hid⟩ := List.mem_map.mp (List.contains_iff_mem.mp hc)
      obtain ⟨f1, hf1, hrec1⟩ := mem_wObsOf.mp hr'
      obtain ⟨hb1, hid1, _⟩ := wrecOf_some hrec1
      obtain ⟨_, hid2, _⟩ := wrecOf_some hr
      obtain ⟨f0, hf0, hid0, hb0⟩ := hn.2
      have : f1 = f0 := inj_of_nodup_map (·.id) hids0 hf1 hf0 (by rw [← hid1, hid, hid2, hid0])
      subst this
      rw [hb0] at hb1; cases hb1

theorem mem_baselineRecs {base : List (Option Nat)} {r : WRec} :
    r ∈ baselineRecs base ↔ ∃ k v, base[k]? = some (some v) ∧ r = ⟨baselineId k, k, some v, 0, 0, some 0⟩ := by
  unfold baselineRecs
  rw [List.mem_filterMap]
  constructor
  · rintro ⟨⟨x, k⟩, hm, hr⟩
    have hg := List.mem_zipIdx_iff_getElem?.mp hm
    cases x with
    | none => simp at hr
    | some v =>
      simp only [Option.map_some, Option.some.injEq] at hr
      exact ⟨k, v, hg, hr.symm⟩
  · rintro ⟨k, v, hg, rfl⟩
    exact ⟨(some v, k), List.mem_zipIdx_iff_getElem?.mpr hg, rfl⟩

theorem base_rec_abs {r : WRec} (h : r ∈ baselineRecs (readsOf nkeys y0.st)) :
    r.b = 0 ∧ r.seq = 0 ∧ ∃ v, r.cell = some v ∧ y0.st.abs r.key = some v := by
  obtain ⟨k, v, hg, rfl⟩ := mem_baselineRecs.mp h
  rw [readsOf_getElem?] at hg
  split at hg
  · injection hg with hg; exact ⟨rfl, rfl, v, rfl, hg⟩
  · cases hg

theorem judgePhase_of_facts (hd : DistinctPuts ops) (hK : KStart (startFor ops) y0)
    (hids1 : (y1.frames.map (·.id)).Nodup) (hold : ∀ f ∈ y1.frames, f ∈ y0.frames ∨ IsNew y0 f)
    (hF : ∀ k, KeyFacts (startFor ops) (IsNew y0) y0.st.abs y1 k) (every : Bool) (stale done : List Nat)
    (hack : ackBound every (baselineRecs (readsOf nkeys y0.st) ++ phaseWs ops y0 y1) done ≤ y1.st.synced) :
    judgePhase every (readsOf nkeys y0.st) stale (phaseWs ops y0 y1) done y1.st.synced
      (readsOf nkeys y1.st.crash.recover) (readsOf nkeys y1.st.crash.recover.recover)
      (readsOf nkeys y1.st.crash.recover.recover.crash.recover) = none := by
  unfold judgePhase
  split
  · rename_i x k heq
    exfalso
    have hp := List.find?_some heq
    obtain ⟨hi, rfl⟩ := mem_zipIdx_readsOf (List.mem_of_find?_eq_some heq)
    cases hx : y1.st.crash.recover.abs k with
    | none => simp [hx] at hp
    | some v =>
      simp only [hx, Bool.and_eq_true, Bool.not_eq_true', bne_iff_ne, ne_eq] at hp
      obtain ⟨⟨h1, h2⟩, _⟩ := hp
      rcases hF k with ⟨w, hw, wnew, _, wst, _⟩ | ⟨hxb, _⟩
      · obtain ⟨b, hb⟩ := Option.ne_none_iff_exists'.mp wnew.1
        have hmem := (mem_phaseWs hK.ids hold).mpr ⟨w, hw, wnew, wrecOf_of_start hb wst⟩
        rw [hx] at hmem
        have := List.any_eq_false.mp h1 _ hmem
        simp at this
      · apply h2
        rw [List.getD_eq_getElem?_getD, readsOf_getElem?, if_pos hi, ← hxb, hx]
        rfl
  · unfold judgeCrashAck
    rw [Nat.max_eq_left hack]
    refine judgeCrash_of_keys fun k hk => judgeKey_base hd hids1 (fun r hr => ?_)
      (fun r => mem_phaseWs hK.ids hold) (fun v hv => ?_) (hF k)
    · -- a baseline value was written by an operation that had started before the phase
      obtain ⟨h1, _, v, hc, ha⟩ := base_rec_abs hr
      refine ⟨h1, v, hc, ha, fun w hw wnew k' hst => ?_⟩
      obtain ⟨f0, hf0, hfb0, k0, hst0⟩ := hK.baseOld _ v ha
      exact not_new_of_mem hK.ids hf0 ⟨hfb0, put_value_names_id hd hst0 hst ▸ wnew.2⟩
    · exact ⟨_, mem_baselineRecs.mpr ⟨k, v, by rw [readsOf_getElem?, if_pos hk, hv], rfl⟩, rfl, rfl⟩

theorem syncDoneRun_acc (cfg : Cfg) (sched : List Nat) (y : Sys) (acc : List Nat) :
    (syncDoneRun cfg y acc sched).2 = (syncDoneRun cfg y [] sched).2 ++ acc := by
  induction sched generalizing y acc with
  | nil => rfl
  | cons id ids ih =>
    simp only [syncDoneRun]
    rw [ih, ih (y.step cfg id) (if atSync y id = true then [id] else [])]
    by_cases h : atSync y id = true <;> simp [h]

theorem ack_bound_phase {done : List Nat} {every : Bool} (hA1 : AInv cfg (startFor ops) y1 acc) (hids0 : (y0.frames.map (·.id)).Nodup)
    (hold : ∀ f ∈ y1.frames, f ∈ y0.frames ∨ IsNew y0 f)
    (hsub : ∀ i ∈ done, i ∈ acc) (he : every = true → cfg.wal = some .every) :
    ackBound every (baselineRecs (readsOf nkeys y0.st) ++ phaseWs ops y0 y1) done ≤ y1.st.synced := by
  refine hA1.ackBound_le (fun w hw => ?_) hsub he
  rcases List.mem_append.mp hw with hb | hw
  · exact Or.inl (base_rec_abs hb).2.1
  · obtain ⟨f, hf, _, hrec⟩ := (mem_phaseWs hids0 hold).mp hw
    exact Or.inr ⟨f, hf, hrec⟩

theorem next_eq (cfg : Cfg) (y0 : Sys) (sched : List Nat) :
    (phaseOut cfg y0 sched).next = { y0.run cfg sched with st := (y0.run cfg sched).st.recovered } := by
  unfold PhaseOut.next
  rw [phaseOut_s3, phaseOut_y]
  rfl

theorem ainv_recovered {start : Nat → Pc} (h : AInv cfg start y1 acc) :
    AInv cfg start { y1 with st := y1.st.recovered } acc :=
  ⟨h.ids, h.cons, h.unstarted, h.started, h.logq, h.done, h.ended, h.every⟩

theorem kstart_first (oracle : List Bool) (sched : List Nat)
    (hw : cfg.wal = some p) (h2 : 2 ≤ cfg.maxLevels) (hd : DistinctPuts ops)
    (ho : InOrder cfg (sysOf cfg oracle ops) sched) :
    KStart (startFor ops) (phaseOut cfg (sysOf cfg oracle ops) sched).next := by
  obtain ⟨hL, g, hW⟩ := crash_invariants cfg p ops oracle sched hw h2 hd ho
  rw [next_eq]
  refine kstart_recovered hW.core.walSorted hW.core.walLt (fun f hf b hb => ((hL.frames f hf).started b hb).1)
    (fun f hf => (hL.frames f hf).b_le_e) (fun k v hv => ?_) hL.ids
  obtain ⟨w, hwm, hwb, hws, _⟩ := (crash_facts hw hL hW).some k v hv
  exact ⟨w, hwm, hwb, k, hws⟩

end

end HappyModel.C15
