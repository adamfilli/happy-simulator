import HappyProofs.C13.Detect
import HappyProofs.C13.SafetyInv
/-! Observers that have nobody to relay an indirect probe through: a pair (`n = 2`),
`indirect_probe_count = 0`, or every other peer already DEAD.  The repaired ack-timeout handler
suspects the probed member *before* it looks for delegates, so the no-delegate branch sends nothing
and still leaves the member not-ALIVE with the suspicion timer armed; a lone observer probes its only
peer at every tick. -/
set_option linter.unusedSectionVars false
namespace HappyModel.C13
variable {D : Type} [Inhabited D] [Detector D]

theorem mem_delegateCands (n a x y : Nat) (nd : Node D) :
    y ∈ delegateCands n a x nd ↔ y < n ∧ isMember n a y = true ∧ y ≠ x ∧ nd.view y ≠ .dead := by
  unfold delegateCands
  simp [List.mem_filter, and_assoc]

theorem delegateCands_all_dead (n a x : Nat) (nd : Node D)
    (h : ∀ y, y < n → y ≠ a → y ≠ x → nd.view y = .dead) : delegateCands n a x nd = [] := by
  apply List.eq_nil_iff_forall_not_mem.mpr
  intro y hy
  rw [mem_delegateCands] at hy
  obtain ⟨hn, hm, hx, hd⟩ := hy
  have hya : y ≠ a := by
    intro e; subst e; simp [isMember] at hm
  exact hd (h y hn hya hx)

theorem indirectOuts_nil (x : Nat) (ups : List Update) : indirectOuts x ups [] = [] := rfl

theorem upds_suspect_pend (nd : Node D) (x y : Nat) : (suspect nd x).pendOf y = nd.pendOf y :=
  (sameCtl_suspect nd x).pendOf y

/-- `shuf.take c.indirect = []`: `indirect_probe_count` is 0, or the shuffled candidate list is empty -/
theorem onIndTimeout_no_delegate (c : Cfg) (hfix : c.fix = true) (a now x : Nat) (shuf : List Nat)
    (nd : Node D) (h : shuf.take c.indirect = []) :
    (onIndTimeout c a now x shuf nd).2 = [] ∧
    NA x (onIndTimeout c a now x shuf nd).1 ∧
    (onIndTimeout c a now x shuf nd).1.pendOf x = some ⟨.susp, now + c.susp⟩ ∧
    (onIndTimeout c a now x shuf nd).1.upds = (suspect nd x).upds := by
  obtain ⟨nd0, nd1, h0, h1, e⟩ := onIndTimeout_eq c a now x shuf nd
  refine ⟨by rw [e, h]; rfl, na_onIndTimeout_self c hfix a now x shuf nd,
    ((onIndTimeout_ctl c a now x shuf nd).pendOf x).trans (if_pos rfl), ?_⟩
  -- no delegate: the queue is not drained
  obtain rfl : nd1 = nd0 := h1.resolve_right fun h' => h'.1 h
  obtain rfl : nd1 = suspect nd x := h0.resolve_right fun h' => nomatch hfix.symm.trans h'.1
  rw [e]
  rfl

/-- a node whose probe order is `[x]`, with `x` not DEAD (a pair; or everybody else is gone) -/
def Lone (x : Nat) (nd : Node D) : Prop := nd.order = [x] ∧ nd.view x ≠ .dead

theorem lone_phiCheck (n a now x : Nat) (nd : Node D) (h : Lone x nd) : Lone x (phiCheck n a now nd) :=
  ⟨(sameCtl_phiCheck n a now nd).order.trans h.1,
   entry_phiCheck (notDead_respects (now := now)) x n a now nd h.2⟩

theorem aliveOrder_lone (n a x : Nat) (nd : Node D) (hm : isMember n a x = true) (h : Lone x nd) :
    aliveOrder n a nd = [x] := by
  unfold aliveOrder
  rw [h.1]
  have hv : (nd.view x != MState.dead) = true := by simpa using h.2
  simp [List.filter, hm, hv]

/-- whether or not the round is exhausted: the reshuffle of a one-element list is that list -/
theorem nextTarget_lone (n a x : Nat) (nd : Node D) (hm : isMember n a x = true) (h : Lone x nd) :
    (nextTarget n a nd [x]).2 = some x ∧ (nextTarget n a nd [x]).1.order = [x] := by
  have hal := aliveOrder_lone n a x nd hm h
  rcases nextTarget_cases n a nd [x] with ⟨h0, _⟩ | ⟨_, e⟩ | ⟨hp, e⟩
  · exact nomatch hal.symm.trans h0
  · rw [e]
    exact ⟨rfl, rfl⟩
  · rw [e, hal]
    rw [hal] at hp
    rw [Nat.lt_one_iff.mp hp]
    exact ⟨rfl, h.1⟩

theorem onTick_lone (c : Cfg) (a now x : Nat) (nd : Node D) (hm : isMember c.n a x = true)
    (h : Lone x nd) :
    (onTick c a now [x] nd).1.pendOf x = some ⟨.ind, now + c.half⟩ ∧
    Lone x (onTick c a now [x] nd).1 ∧
    (∃ us, (onTick c a now [x] nd).2 = [⟨.ping, x, none, us⟩]) ∧
    (onTick c a now [x] nd).1.nextTick = now + c.interval := by
  have h1 := lone_phiCheck c.n a now x nd h
  obtain ⟨ht, ho⟩ := nextTarget_lone c.n a x _ hm h1
  obtain ⟨hmem, hord, _, htick⟩ := armProbe_fields c a now (nextTarget c.n a (phiCheck c.n a now nd) [x])
  obtain ⟨hp, hout⟩ := armProbe_target c a now _ ht hm
  refine ⟨hp, ⟨hord.trans ho, ?_⟩, hout, htick⟩
  show (lget default (onTick c a now [x] nd).1.mem x).st ≠ .dead
  rw [onTick_mem]
  exact h1.2

theorem onSuspTimeout_view_self (x : Nat) (nd : Node D) (h : NA x nd) :
    (onSuspTimeout x nd).view x = .dead := by
  rcases onSuspTimeout_cases x nd with ⟨hs, e⟩ | ⟨_, e⟩ <;> rw [e]
  · -- neither ALIVE nor SUSPECT
    show (nd.member x).st = .dead
    cases hst : (nd.member x).st
    · exact absurd hst h
    · exact absurd hst hs
    · rfl
  · show ((nd.setMember x _).member x).st = .dead
    rw [member_setMember_same]

end HappyModel.C13
