import HappyProofs.C02.Run
/-!
# C02 — a process finishes at most once

`finCount obs pid` = number of `finish _ pid` entries of the observable log.  Along a run it equals
1 for a finished process and 0 otherwise, and a finished process has no completion hooks left.
-/
namespace HappyModel.C01

def isFinish (pid : Nat) : Obs → Bool
  | .finish _ q => q == pid
  | _ => false

def finCount (obs : List Obs) (pid : Nat) : Nat := obs.countP (isFinish pid)

def doneInd (L : List Proc) (pid : Nat) : Nat := ind ((L[pid]?).any (·.done))

def ObsFin (C : Nat → Nat) (e : Eff) : Prop := ∀ q, finCount e.ps.obs q = C q

theorem finCount_cons (o : Obs) (obs : List Obs) (q : Nat) : finCount (o :: obs) q = finCount obs q + ind (isFinish q o) := by
  unfold finCount ind
  rw [List.countP_cons]

theorem finCount_cons_other (o : Obs) (obs : List Obs) (q : Nat) (h : ∀ t pid, o ≠ .finish t pid) :
    finCount (o :: obs) q = finCount obs q := by
  rw [finCount_cons]
  cases o with
  | finish t pid => exact absurd rfl (h t pid)
  | _ => rfl

theorem ObsFin_closed (C : Nat → Nat) : Closed (ObsFin C) :=
  closed_of_frame (fun e e' _ _ ho h q => by rw [ho]; exact h q)
    (fun e o ho h q => by rw [addObs_obs, finCount_cons_other o _ q ho]; exact h q)

/-- the log agrees with the process table on who has finished (`E`ntries = `F`inished): one finish entry per finished
    process, none otherwise; finished processes have no hooks left -/
def EF (L : List Proc) (C : Nat → Nat) : Prop :=
  (∀ q, C q = doneInd L q) ∧ ∀ p ∈ L, p.done = true → p.hooks = [] ∧ p.segs = []

def isRet : Term → Bool
  | .ret => true
  | _ => false

theorem finalProc_done (p : Proc) (rest : List Seg) (t : Term) : (finalProc p rest t).done = (isRet t || p.done) := by
  cases t <;> rfl

theorem segTerm_obsfin (C : Nat → Nat) (now : Nat) (e1 : Eff) (pid : Nat) (p1 : Proc) (rest : List Seg)
    (t : Term) (h : ObsFin C e1) :
    ObsFin (fun q => C q + ind (isRet t && pid == q)) (segTerm now e1 pid p1 rest t) := by
  cases t with
  | yieldD d => exact h
  | yieldF f =>
    intro q
    simp only [segTerm]
    split
    · rw [resumeParked_obs]; exact h q
    · exact h q
  | ret =>
    refine runHooks_closed (ObsFin_closed _) now _ _ (fun q => ?_)
    rw [addObs_obs, finCount_cons, ← h q]
    rfl

theorem segBody_obsfin (C : Nat → Nat) (now : Nat) (e : Eff) (pid tag : Nat) (p : Proc) (seg : Seg)
    (rest : List Seg) (h : ObsFin C e) :
    ObsFin (fun q => C q + ind (isRet seg.term && pid == q)) (segBody now e pid tag p seg rest) := by
  have h0 : ObsFin C (segStart now e pid tag p) := by
    unfold segStart
    intro q
    simp only [setCur_obs, setProc_obs]
    split
    · rw [addObs_obs, finCount_cons_other _ _ q (by intro t pid; simp)]; exact h q
    · exact h q
  exact segTerm_obsfin C now _ pid _ rest seg.term (acts_closed (ObsFin_closed C) now seg.acts _ h0)

theorem EF_of_frame {L : List Proc} {C : Nat → Nat} {r : Eff} (h : EF L C) (hp : ProcsAre L r) (ho : ObsFin C r) :
    EF (r.ps.procs.map strip) (fun q => finCount r.ps.obs q) := by
  unfold ProcsAre at hp
  rw [hp, show (fun q => finCount r.ps.obs q) = C from funext ho]
  exact h

/-- an unfinished process gets a new record: if that one is marked done, the log needs one more finish entry -/
theorem EF_set {L : List Proc} {C : Nat → Nat} (h : EF L C) {pid : Nat} {p : Proc} (hp : L[pid]? = some p)
    (hd : p.done = false) (x : Proc) (hx : x.done = true → x.hooks = [] ∧ x.segs = []) :
    EF (L.set pid x) (fun q => C q + ind (x.done && pid == q)) := by
  refine ⟨fun q => ?_, fun p' hp' => ?_⟩
  · have hC := h.1 q
    unfold doneInd at hC ⊢
    show C q + _ = _
    rw [List.getElem?_set, hC]
    by_cases hq : pid = q
    · subst hq
      rw [hp]
      simp [hd, getElem?_some_lt hp, ind]
    · simp [hq, ind]
  · rcases List.mem_or_eq_of_mem_set hp' with hm | rfl
    · exact h.2 p' hm
    · exact hx

theorem EF_append {L : List Proc} {C : Nat → Nat} (h : EF L C) (pn : Proc) (hd : pn.done = false) : EF (L ++ [pn]) C := by
  refine ⟨fun q => ?_, fun p' hp' => ?_⟩
  · rw [h.1 q]
    unfold doneInd
    rw [List.getElem?_append]
    split
    · rfl
    · rw [List.getElem?_eq_none (by omega)]
      cases q - L.length <;> simp [hd]
  · rcases List.mem_append.mp hp' with hm | hm
    · exact h.2 p' hm
    · rw [List.mem_singleton.mp hm, hd]; exact fun hh => nomatch hh

theorem runSegment_ef (now : Nat) (e : Eff) (pid tag : Nat)
    (h : EF (e.ps.procs.map strip) (fun q => finCount e.ps.obs q)) :
    EF ((runSegment now e pid tag).ps.procs.map strip) (fun q => finCount (runSegment now e pid tag).ps.obs q) := by
  rcases runSegment_cases now e pid tag with ⟨h', _⟩ | ⟨p, seg, rest, hp, hs, h'⟩ <;> rw [h']
  · exact h
  have hLp : (e.ps.procs.map strip)[pid]? = some (strip p) := by rw [List.getElem?_map, hp]; rfl
  have hpd : p.done = false := Bool.eq_false_iff.mpr fun hpd => by
    have := (h.2 (strip p) (List.mem_of_getElem? hLp) hpd).2
    rw [show (strip p).segs = p.segs from rfl, hs] at this
    cases this
  have hfd : (strip (finalProc p rest seg.term)).done = isRet seg.term := by
    rw [show (strip (finalProc p rest seg.term)).done = _ from finalProc_done p rest seg.term, hpd, Bool.or_false]
  refine EF_of_frame (EF_set h hLp hpd (strip (finalProc p rest seg.term)) ?_) (segBody_procs now e pid tag p seg rest) ?_
  · rw [hfd]
    cases seg.term with
    | ret => exact fun _ => ⟨rfl, rfl⟩
    | _ => exact fun hd => nomatch hd
  · rw [hfd]
    exact segBody_obsfin (fun q => finCount e.ps.obs q) now e pid tag p seg rest (fun q => rfl)

def FinInv (s : St PS) : Prop := EF (s.ent.procs.map strip) (fun q => finCount s.ent.obs q)

theorem procEff_ef (ps : PS) (now : Nat) (ev : Ev)
    (h : EF (ps.procs.map strip) (fun q => finCount ps.obs q)) :
    EF ((procEff ps now ev).ps.procs.map strip) (fun q => finCount (procEff ps now ev).ps.obs q) := by
  have hobs : ∀ o : Obs, (∀ t pid, o ≠ .finish t pid) → ObsFin (fun q => finCount ps.obs q) (addObs { ps := ps } o) :=
    fun o ho q => finCount_cons_other o _ q ho
  rcases procEff_cases ps now ev with ⟨_, _, h'⟩ | ⟨d, _, _, h'⟩ | ⟨_, h'⟩ <;> rw [h']
  · exact EF_of_frame h (runHooks_closed (ProcsAre_closed _) now _ (addObs { ps := ps } _) rfl)
      (runHooks_closed (ObsFin_closed _) now _ _ (hobs _ (fun _ _ h => nomatch h)))
  · exact runSegment_ef _ _ _ _ (EF_of_frame (EF_append h (strip (newProc ps ev d)) rfl) List.map_append
      (hobs _ (fun _ _ h => nomatch h)))
  · exact runSegment_ef now { ps := ps } (ev.data - 1) ev.tag h

theorem step_finInv (s : St PS) (m : Ev) (h : FinInv s) : FinInv (stepWith procMachine s m) := by
  unfold FinInv
  rcases stepWith_proc s m with k | k <;> rw [k.ent]
  · exact h
  · exact procEff_ef s.ent m.time m h

theorem run_finInv (endT : Option Nat) (n : Nat) (s : St PS) (h : FinInv s) :
    FinInv (run procMachine endT n s) :=
  run_induction procMachine endT (fun s m h _ _ _ => step_finInv s m h) n s h

theorem doneInd_strip_one (L : List Proc) (q : Nat) :
    doneInd (L.map strip) q = 1 ↔ ∃ p, L[q]? = some p ∧ p.done = true := by
  unfold doneInd
  rw [List.getElem?_map]
  cases L[q]? with
  | none => simp [ind]
  | some p => cases hd : p.done <;> simp [strip, hd, ind]

theorem finInv_of_no_process (s : St PS) (hprocs : s.ent.procs = []) (hobs : ∀ q, finCount s.ent.obs q = 0) :
    FinInv s := by
  unfold FinInv
  rw [hprocs]
  exact ⟨fun q => (hobs q).trans rfl, fun p hp => nomatch hp⟩

theorem runHooks_obs (now : Nat) (hooks : List Nat) (e : Eff) :
    (runHooks now e hooks).ps.obs = (hooks.map (fun h => Obs.hook now h)).reverse ++ e.ps.obs := by
  unfold runHooks
  induction hooks generalizing e with
  | nil => rfl
  | cons h t ih =>
    simp only [List.foldl_cons, List.map_cons, List.reverse_cons, List.append_assoc]
    rw [ih]
    rfl

theorem runHooks_specs_length (now : Nat) (hooks : List Nat) (e : Eff) :
    (runHooks now e hooks).specs.length = e.specs.length + hooks.length := by
  unfold runHooks
  induction hooks generalizing e with
  | nil => rfl
  | cons h t ih =>
    simp only [List.foldl_cons, List.length_cons]
    rw [ih]
    simp only [push_specs, addObs_specs, List.length_append, List.length_singleton]
    omega

/-- **the finishing step**: the segment that returns logs `finish` at the current instant and then runs
    each completion hook of the originating event exactly once, in order, at that same instant (one
    `hook` entry and one hook event per hook) — the hooks the event had when the process started and
    then those added to it while the process was in flight, up to and including this last segment -/
theorem finishing_step_runs_hooks_once (now : Nat) (e : Eff) (pid tag : Nat) (p : Proc) (acts : List Act)
    (rest : List Seg) (hp : e.ps.procs[pid]? = some p) (hs : p.segs = ⟨acts, .ret⟩ :: rest) :
    (runSegment now e pid tag).ps.obs
      = ((p.hooks ++ lateOf (acts.foldl (runAct now) (segStart now e pid tag p)).ps pid).map
            (fun h => Obs.hook now h)).reverse ++
          Obs.finish now pid :: (acts.foldl (runAct now) (segStart now e pid tag p)).ps.obs ∧
    (runSegment now e pid tag).specs.length
      = (acts.foldl (runAct now) (segStart now e pid tag p)).specs.length +
          (p.hooks ++ lateOf (acts.foldl (runAct now) (segStart now e pid tag p)).ps pid).length := by
  rw [runSegment_eq now e pid tag p _ rest hp hs]
  unfold segBody
  simp only [segTerm]
  rw [runHooks_obs, runHooks_specs_length]
  exact ⟨rfl, rfl⟩

end HappyModel.C01
