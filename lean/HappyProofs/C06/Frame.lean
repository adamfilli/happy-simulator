import HappyModel.C06.Engine
/-! Frame lemmas, read off one walk over the engine.  Only fault events touch the window state and
the fired / cancelled records (`Frame`, for every other event: `frame_step`), and a process advances
only when its *own* delivery / continuation is processed: whatever any event does (resolving futures,
releasing grants, waking waiters, a fault resizing the resource), the program counter of every other
job stays where it is (`PcFrame`, for every event: `pcFrame_step`). -/
namespace HappyModel.C06

def PcFrame (j : Option Nat) (s s' : St) : Prop := ∀ i, some i ≠ j → (s'.procs i).pc = (s.procs i).pc

/-- what only fault events touch is unchanged, and no job but `j` has advanced -/
structure Frame (j : Option Nat) (s s' : St) : Prop where
  ws : s'.ws = s.ws
  fired : s'.fired = s.fired
  cancelled : s'.cancelled = s.cancelled
  pc : PcFrame j s s'

theorem Frame.refl (j) (s : St) : Frame j s s := ⟨rfl, rfl, rfl, fun _ _ => rfl⟩
theorem Frame.trans {j} {a b c : St} (h1 : Frame j a b) (h2 : Frame j b c) : Frame j a c :=
  ⟨h2.ws.trans h1.ws, h2.fired.trans h1.fired, h2.cancelled.trans h1.cancelled,
    fun i hi => (h2.pc i hi).trans (h1.pc i hi)⟩
theorem Frame.weaken {j} {a b : St} (h : Frame none a b) : Frame j a b :=
  ⟨h.ws, h.fired, h.cancelled, fun i _ => h.pc i (by simp)⟩

theorem Frame.of_procs_eq {j} {s s' : St} (hw : s'.ws = s.ws) (hf : s'.fired = s.fired)
    (hc : s'.cancelled = s.cancelled) (hp : s'.procs = s.procs) : Frame j s s' :=
  ⟨hw, hf, hc, fun _ _ => by rw [hp]⟩

theorem Frame.of_upd {j} {s s' : St} (hw : s'.ws = s.ws) (hf : s'.fired = s.fired)
    (hc : s'.cancelled = s.cancelled) {i : Nat} {p : Proc} (hp : s'.procs = upd s.procs i p)
    (h : some i = j ∨ p.pc = (s.procs i).pc) : Frame j s s' := by
  refine ⟨hw, hf, hc, fun i' hi => ?_⟩
  rw [hp]
  by_cases he : i' = i
  · subst he
    rcases h with h | h
    · exact absurd h hi
    · rw [upd_same, h]
  · rw [upd_other _ _ _ _ he]

theorem frame_setSt (s : St) (j : Nat) (st : Status) : Frame none s (s.setSt j st) :=
  .of_upd rfl rfl rfl rfl (.inr rfl)
theorem frame_suspend (s : St) (j k : Nat) (st : Status) : Frame (some j) s (s.suspend j k st) :=
  .of_upd rfl rfl rfl rfl (.inl rfl)

theorem frame_resolve (s : St) (f : Nat) : Frame none s (s.resolve f) := by
  unfold St.resolve
  split
  · exact .refl _ s
  · split
    · refine .trans ?_ (frame_setSt _ _ _)
      exact .of_procs_eq rfl rfl rfl rfl
    · exact .of_procs_eq rfl rfl rfl rfl

theorem frame_wake : ∀ (l : List (Nat × Nat)) (s : St), Frame none s (s.wake l)
  | [], s => .of_procs_eq rfl rfl rfl rfl
  | (j, a) :: rest, s => by
    unfold St.wake
    split
    · refine .trans ?_ (frame_wake rest _)
      exact .of_upd rfl rfl rfl rfl (.inr rfl)
    · exact .of_procs_eq rfl rfl rfl rfl

theorem frame_ite {j} {s : St} {c : Prop} [Decidable c] {a b : St × List Tok}
    (ha : Frame j s a.1) (hb : Frame j s b.1) : Frame j s (if c then a else b).1 := by
  split <;> assumption

theorem frame_exec (c : Case) (j now : Nat) : ∀ (ops : List Op) (k : Nat) (s : St),
    Frame (some j) s (exec c j now ops k s).1
  | [], k, s => (frame_setSt s j .done).weaken
  | .sleep d :: _, k, s => frame_suspend _ _ _ _
  | .emit d :: _, k, s => .of_upd rfl rfl rfl rfl (.inl rfl)
  | .wait f :: _, k, s => frame_ite (frame_suspend _ _ _ _) (.of_upd rfl rfl rfl rfl (.inl rfl))
  | .res f :: rest, k, s => .trans (frame_resolve s f).weaken (frame_exec c j now rest (k + 1) _)
  | .acq a :: rest, k, s =>
    frame_ite (frame_exec c j now rest (k + 1) s)
      (frame_ite (.of_upd rfl rfl rfl rfl (.inl rfl)) (.of_upd rfl rfl rfl rfl (.inl rfl)))
  | .rel :: rest, k, s => by
    simp only [exec]
    split
    · exact frame_exec c j now rest (k + 1) s
    · refine .trans (.trans ?_ (frame_wake _ _).weaken) (frame_exec c j now rest (k + 1) _)
      exact .of_upd rfl rfl rfl rfl (.inl rfl)

theorem frame_dropPop (s : St) (p : Pop) : Frame none s (dropPop s p) := by
  cases p with
  | job t j cont => exact frame_setSt s j .dead
  | _ => exact .of_procs_eq rfl rfl rfl rfl

theorem frame_resumeJob (c : Case) (s : St) (t j : Nat) : Frame (some j) s (resumeJob c s t j).1 := by
  unfold resumeJob
  refine .trans ?_ (frame_exec c j t _ _ _)
  split
  · exact .of_upd rfl rfl rfl rfl (.inl rfl)
  · exact .refl _ s

theorem frame_setCap (s : St) (o n : Nat) : Frame none s (s.setCap o n) := by
  unfold St.setCap
  split
  · refine .trans ?_ (frame_wake _ _)
    exact .of_procs_eq rfl rfl rfl rfl
  · exact .of_procs_eq rfl rfl rfl rfl

/-- the events that act on faults: fault events, `FaultHandle.cancel`, `Network.heal_partition` -/
def Pop.isFault : Pop → Bool
  | .fault .. => true
  | .cancel .. => true
  | .healall .. => true
  | _ => false

def popJob : Pop → Option Nat
  | .job _ j _ => some j
  | _ => none

theorem frame_stepOpen (c : Case) (s : St) (p : Pop) (h : p.isFault = false) :
    Frame (popJob p) s (stepOpen c s p).1 := by
  cases p with
  | fault t f a => cases h
  | cancel t f => cases h
  | healall t k => cases h
  | setcap t v => exact .trans (b := { s with base := v }) (.of_procs_eq rfl rfl rfl rfl) (frame_setCap _ _ _)
  | job t j cont =>
    cases cont with
    | false => exact frame_ite (frame_exec c j t _ _ _) (.refl _ s)
    | true =>
      simp only [stepOpen]
      split
      · exact frame_ite (frame_resumeJob c s t j) (.refl _ s)
      · exact frame_resumeJob c s t j
      · exact .refl _ s
  | sink t j k => exact frame_ite (.of_procs_eq rfl rfl rfl rfl) (.refl _ s)
  | nsend t p =>
    exact frame_ite (.refl _ s) (frame_ite (.of_procs_eq rfl rfl rfl rfl)
      (frame_ite (.of_procs_eq rfl rfl rfl rfl) (.of_procs_eq rfl rfl rfl rfl)))
  | nhop t p => exact frame_ite (.of_procs_eq rfl rfl rfl rfl) (.refl _ s)
  | recv t p => exact frame_ite (.of_procs_eq rfl rfl rfl rfl) (.refl _ s)

/-- the crash gate of `Event.invoke` / `ProcessContinuation.invoke`: closed, the event is dropped -/
theorem step_down {c : Case} {s : St} {p : Pop} {e : Nat} (he : popEntity c p = some e)
    (hd : s.ws.down e = true) : step c s p = (dropPop s p, []) := by
  unfold step; rw [he]; exact if_pos hd

theorem step_up {c : Case} {s : St} {p : Pop} {e : Nat} (he : popEntity c p = some e)
    (hd : s.ws.down e = false) : step c s p = stepOpen c s p := by
  unfold step; rw [he]; exact if_neg (by simp [hd])

theorem frame_step (c : Case) (s : St) (p : Pop) (h : p.isFault = false) :
    Frame (popJob p) s (step c s p).1 := by
  unfold step
  split
  · split
    · exact (frame_dropPop s p).weaken
    · exact frame_stepOpen c s p h
  · exact frame_stepOpen c s p h

/-- a fault event the engine can have delivered (`faultBad = false`: the handle is not cancelled,
    activation first, each event of a scheduled fault once) applies exactly its closure to the window
    state.  In a run the guard is discharged by `ginv_step` from `wfFrom`, `legitFrom` and the
    fired / cancelled bookkeeping of `GInv`. -/
theorem step_fault (c : Case) (s : St) (t f : Nat) (a : Bool) (ft : Fault)
    (hf : c.faults[f]? = some ft) (hg : faultBad s f a ft.kind = false) :
    (step c s (.fault t f a)).1.ws =
        (if a then s.ws.activate f ft.kind else s.ws.deactivate f ft.kind) ∧
    (step c s (.fault t f a)).1.fired = (f, a) :: s.fired ∧
    (step c s (.fault t f a)).1.cancelled = s.cancelled := by
  simp only [step, popEntity, stepOpen, faultPop, hf, hg]
  have := frame_setCap
    { s with ws := if a then s.ws.activate f ft.kind else s.ws.deactivate f ft.kind,
             fired := (f, a) :: s.fired }
    (s.ws.capOf s.base)
    ((if a then s.ws.activate f ft.kind else s.ws.deactivate f ft.kind).capOf s.base)
  exact ⟨by simpa using this.ws, by simpa using this.fired, by simpa using this.cancelled⟩

theorem wake_base : ∀ (l : List (Nat × Nat)) (s : St), (s.wake l).base = s.base
  | [], s => rfl
  | (j, a) :: rest, s => by
    unfold St.wake
    split
    · exact wake_base rest _
    · rfl

theorem setCap_base (s : St) (o n : Nat) : (s.setCap o n).base = s.base := by
  unfold St.setCap
  split
  · exact wake_base _ _
  · rfl

theorem step_setcap (c : Case) (s : St) (t v : Nat) :
    (step c s (.setcap t v)).1 = { s with base := v }.setCap (s.ws.capOf s.base) (s.ws.capOf v) := rfl

theorem step_healall (c : Case) (s : St) (t k : Nat) :
    (step c s (.healall t k)).1 = { s with ws := s.ws.healAll k (c.partOn k) } := by
  simp [step, popEntity, stepOpen]

theorem step_cancel (c : Case) (s : St) (t f : Nat) :
    (step c s (.cancel t f)).1 = { s with cancelled := f :: s.cancelled } := by
  simp [step, popEntity, stepOpen]

/-- for every event, fault events included: a fault event resizes the resource at most; waiters are
    woken, none advances -/
theorem pcFrame_step (c : Case) (s : St) (p : Pop) : PcFrame (popJob p) s (step c s p).1 := by
  cases hf : p.isFault
  · exact (frame_step c s p hf).pc
  · cases p with
    | fault t f a =>
      show PcFrame none s (faultPop c s f a).1
      unfold faultPop
      cases c.faults[f]? with
      | none => exact fun _ _ => rfl
      | some ft =>
        dsimp only
        split
        · exact fun _ _ => rfl
        · exact (frame_setCap _ _ _).pc
    | cancel t f => exact fun _ _ => rfl
    | healall t k => exact fun _ _ => rfl
    | _ => cases hf

/-- **a process advances only at its own events**: processing any event leaves the program counter
    of every job other than the one the event belongs to unchanged -/
theorem process_advances_only_at_own_events (c : Case) (s : St) (p : Pop) (i : Nat)
    (h : popJob p ≠ some i) : ((step c s p).1.procs i).pc = (s.procs i).pc :=
  pcFrame_step c s p i fun h' => h h'.symm

end HappyModel.C06
