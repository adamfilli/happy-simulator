import HappyProofs.C02.JudgeTrace
import HappyProofs.C02.JudgeFutureRun
/-!
# C02 — the full trace of the process model (with the `r` lines), plain futures

`c02FullTraceOf` is `c02TraceOf` with the `r` lines of the `resolve` actions written where they happen (between the
`h` lines, in action order).  For programs with plain futures the three monitors and the settle fold of the C02
judge all accept it: every clause of `Spec.judgeLines` except the end-of-trace clause
`future/resolved-but-never-resumed` is silent on the model's own trace.
-/
namespace HappyModel.C01
open HappyModel.C02.Spec (Line HSt hookStep hookMonitor delayMonitor waitMonitor SSt stepLine)

/-- the `h` and `r` lines of the actions of a segment, in action order -/
def actsAllLines (now : Nat) : Eff → List Act → List Line
  | _, [] => []
  | e, a :: r => hAddLines e a ++ fActLines a ++ actsAllLines now (runAct now e a) r

/-- (JudgeHooks' `segLines` over `actsAllLines`, `FV.segAllLines_eq`) -/
def segAllLines (now : Nat) (e : Eff) (pid tag : Nat) : List Line :=
  match e.ps.procs[pid]? with
  | some p =>
    match p.segs with
    | seg :: _ =>
      actsAllLines now (segStart now e pid tag p) seg.acts ++
        (match seg.term with
         | .ret => Line.finish now pid ::
             hRunLines now (p.hooks ++ lateOf (seg.acts.foldl (runAct now) (segStart now e pid tag p)).ps pid)
         | _ => [])
    | [] => []
  | none => []

/-- (JudgeHooks' `invLines` over `actsAllLines`, by `rfl`: `HI_run2` and `fullRun_HR` pass it to `HR_run` as such) -/
def allHookLines (ps : PS) (now : Nat) (ev : Ev) : List Line :=
  (if ev.data = 0 then
    match ps.defs.find? (fun d => d.ent == ev.target && d.kind == ev.kind) with
    | none => Line.skipped now (ev.id + 1) :: hRunLines now (hookOfFor ps ev.id)
    | some d =>
      Line.start now (ev.id + 1) ::
        segAllLines now (spawn (addObs { ps := ps } (.start now ev.target ev.kind ev.tag)) (newProc ps ev d))
          ps.procs.length 0
  else segAllLines now { ps := ps } (ev.data - 1) ev.tag) ++ [Line.other]

def fhStep (s : St PS) (ls : List Line) (m : Ev) : List Line :=
  if s.cancelled.contains m.id then ls
  else if m.time < s.now then ls
  else if procMachine.crashed s.ent m then ls
  else ls ++ allHookLines s.ent m.time m

/-- the hook view with the `r` lines in between (no `R` / `y` / `w` line) -/
def fhRun (endT : Option Nat) : Nat → St PS → List Line → List Line
  | 0, _, ls => ls
  | n+1, s, ls =>
    match s.heap with
    | [] => ls
    | x :: xs =>
      if continues endT s then fhRun endT n (stepWith procMachine s (minOf x xs)) (fhStep s ls (minOf x xs))
      else ls

def fullLines (s : St PS) (m : Ev) : List Line :=
  rLine s.ent m ++ allHookLines s.ent m.time m ++ yLines (procEff s.ent m.time m).specs ++ wLine s.ent m.time m

def fullStep (s : St PS) (ls : List Line) (m : Ev) : List Line :=
  if s.cancelled.contains m.id then ls
  else if m.time < s.now then ls
  else if procMachine.crashed s.ent m then ls
  else ls ++ fullLines s m

def fullRun (endT : Option Nat) : Nat → St PS → List Line → List Line
  | 0, _, ls => ls
  | n+1, s, ls =>
    match s.heap with
    | [] => ls
    | x :: xs =>
      if continues endT s then fullRun endT n (stepWith procMachine s (minOf x xs)) (fullStep s ls (minOf x xs))
      else ls

def c02FullTraceOf (endT : Option Nat) (n : Nat) (s0 : St PS) : List Line := fullRun endT n s0 (initHookLines s0.ent)

theorem fActLines_resolve (a : Act) : ∀ l ∈ fActLines a, ∃ f v, l = Line.resolve f v := by
  intro l hl
  cases a <;> simp [fActLines] at hl
  exact ⟨_, _, hl⟩

theorem acts_HR_all {closed : List Nat} (now : Nat) (acts : List Act) (e : Eff) (h : HSt) (hr : HR closed e.ps h) :
    HR closed (acts.foldl (runAct now) e).ps ((actsAllLines now e acts).foldl hookStep h) := by
  induction acts generalizing e h with
  | nil => simpa [actsAllLines] using hr
  | cons a r ih =>
    simp only [List.foldl_cons, actsAllLines, List.foldl_append]
    have h1 := runAct_HR now e h a hr
    rw [fold_hookNeutral (fActLines a) _ h1.due (fun l hl => by obtain ⟨f, v, rfl⟩ := fActLines_resolve a l hl; rfl)]
    exact ih _ _ h1

theorem fhRun_isView (endT : Option Nat) : IsView endT (fun s m => allHookLines s.ent m.time m) (fhRun endT) :=
  ⟨fun _ _ => rfl, fun _ _ _ => rfl⟩

theorem fullRun_isView (endT : Option Nat) : IsView endT fullLines (fullRun endT) := ⟨fun _ _ => rfl, fun _ _ _ => rfl⟩

theorem HI_run2 (endT : Option Nat) (n : Nat) (s : St PS) (ls : List Line) (inv : Inv s) (hk : HookInv s)
    (pinv : ProcInv s) (hr : HR (closedOf s) s.ent (ls.foldl hookStep {})) :
    HR (closedOf (run procMachine endT n s)) (run procMachine endT n s).ent ((fhRun endT n s ls).foldl hookStep {}) :=
  HR_run (fhRun_isView endT) actsAllLines (fun now _ acts e h hr => acts_HR_all now acts e h hr)
    (fun _ _ _ _ _ => rfl) n s ls inv hk pinv hr

theorem actsAllLines_dw (now : Nat) (acts : List Act) (e : Eff) : ∀ l ∈ actsAllLines now e acts, dw l = false := by
  induction acts generalizing e with
  | nil => exact nofun
  | cons a r ih =>
    intro l hl
    simp only [actsAllLines, List.mem_append] at hl
    rcases hl with (hl | hl) | hl
    · exact hAddLines_dw e a l hl
    · obtain ⟨f, v, rfl⟩ := fActLines_resolve a l hl
      rfl
    · exact ih _ l hl

theorem fullLines_dw (s : St PS) (m : Ev) : (fullLines s m).filter dw = delayLines s m :=
  deliv_dw s m _ (invLines_dw _ (fun e acts => actsAllLines_dw m.time acts e) s.ent m.time m)

theorem c02FullTrace_dw (endT : Option Nat) (n : Nat) (s0 : St PS) :
    (c02FullTraceOf endT n s0).filter dw = delayView endT n s0 := by
  unfold c02FullTraceOf delayView
  rw [view_filter (fullRun_isView endT) (viewRun_isView endT) dw fullLines_dw, initHookLines_dw]

theorem fullRun_HR (endT : Option Nat) (n : Nat) (s : St PS) (ls : List Line) (inv : Inv s) (hk : HookInv s)
    (pinv : ProcInv s) (hr : HR (closedOf s) s.ent (ls.foldl hookStep {})) :
    HR (closedOf (run procMachine endT n s)) (run procMachine endT n s).ent ((fullRun endT n s ls).foldl hookStep {}) :=
  HR_run (fullRun_isView endT) actsAllLines (fun now _ acts e h hr => acts_HR_all now acts e h hr)
    (fun s m h hd hd' => fold_wrapped s m _ h hd hd') n s ls inv hk pinv hr

end HappyModel.C01

namespace HappyModel.C01.FV
open HappyModel.C01
open HappyModel.C02.Spec (Line SSt FObj FExpr stepLine settle)
variable {chk : Bool}

theorem hAddLines_neutK (e : Eff) (a : Act) : ∀ l ∈ hAddLines e a, neutK l = true := by
  intro l hl
  obtain ⟨t, k, rfl⟩ := hAddLines_shape e a l hl
  rfl

theorem hRunLines_neut (now : Nat) (hooks : List Nat) : ∀ l ∈ hRunLines now hooks, neut l = true :=
  fun l hl => (hRunLines_mem hl).elim (fun ⟨_, h⟩ => h ▸ rfl) (fun h => h ▸ rfl)

theorem yLines_neutK (specs : List Spec) : ∀ l ∈ yLines specs, neutK l = true := by
  intro l hl
  unfold yLines at hl
  obtain ⟨sp, _, rfl⟩ := List.mem_map.mp hl
  rfl

theorem segAllLines_eq (now : Nat) (e : Eff) (pid tag : Nat) :
    segAllLines now e pid tag = segLines (actsAllLines now) now e pid tag := rfl

theorem acts_FN_full (now : Nat) (acts : List Act) {X : Nat → Nat → Prop} {me : Nat} :
    ∀ (e : Eff) (j : SSt) (k : Nat), (∀ a ∈ acts, PlainAct a) → FN chk j k X me now e →
      FN chk (foldFrom k (actsAllLines now e acts) j) (k + (actsAllLines now e acts).length) X me now
        (acts.foldl (runAct now) e) := by
  induction acts with
  | nil => intro e j k _ h; exact h
  | cons a r ih =>
    intro e j k hp h
    simp only [actsAllLines, foldFrom_append, List.foldl_cons, List.length_append]
    have h1 := FN_neutrals (hAddLines e a) j k (hAddLines_neutK e a) h
    have h2 := runAct_FN now e a (hp a (by simp)) h1
    have h3 := ih _ _ _ (fun b hb => hp b (List.mem_cons_of_mem _ hb)) h2
    simp only [Nat.add_assoc] at h3 ⊢
    exact h3

/-- `N`: the lines of the other layers that keep the clock (the closing line and the `y` lines), between the hook lines
    and the `w` line -/
theorem runSegment_FB_full (now : Nat) (e : Eff) (pid tag k : Nat) (N : List Line) {j : SSt} {X : Nat → Nat → Prop}
    (hN : ∀ l ∈ N, neutK l = true)
    (hpl : ∀ p, e.ps.procs[pid]? = some p → ∀ seg ∈ p.segs, PlainSeg seg)
    (h : FN chk j k X pid now e) :
    FB chk (runSegment now e pid tag) (foldFrom k (segAllLines now e pid tag ++ N ++ termLines e pid) j)
      (k + (segAllLines now e pid tag ++ N ++ termLines e pid).length) X := by
  rw [segAllLines_eq]
  rcases runSegment_cases now e pid tag with ⟨he, hidle⟩ | ⟨p, seg, rest, hp, hs, he⟩
  · rw [he, segLines_idle hidle, termLines_idle hidle, List.nil_append, List.append_nil]
    exact FB_neutrals _ j k (fun l hl => neut_of_neutK l (hN l hl)) h.fb
  · -- the action lines, then `segTerm_FB` over the lines between them and the `w` line
    rw [he, segLines_cons hp hs, termLines_cons hp hs, List.append_assoc _ _ N, List.append_assoc _ _ (termLine _ _ _),
      foldFrom_append, List.length_append, ← Nat.add_assoc]
    refine segTerm_FB now _ pid _ rest seg.term _ _ ?_ ?_
      (acts_FN_full now seg.acts _ j k (hpl p hp seg (hs ▸ List.mem_cons_self ..)) (FN_segStart h tag p))
    · intro l hl
      rcases List.mem_append.mp hl with hl | hl
      · split at hl
        · exact (List.mem_cons.mp hl).elim (fun heq => heq ▸ rfl) (hRunLines_neut now _ l)
        · cases hl
      · exact neut_of_neutK l (hN l hl)
    · intro f hf l hl
      rw [hf] at hl
      exact hN l hl

def restLines (ps : PS) (now : Nat) (ev : Ev) (N : List Line) : List Line :=
  (if ev.data = 0 then
    match ps.defs.find? (fun d => d.ent == ev.target && d.kind == ev.kind) with
    | none => hRunLines now (hookOfFor ps ev.id)
    | some d =>
      segAllLines now (spawn (addObs { ps := ps } (.start now ev.target ev.kind ev.tag)) (newProc ps ev d))
        ps.procs.length 0
  else segAllLines now { ps := ps } (ev.data - 1) ev.tag) ++ N ++ wLine ps now ev

theorem procEff_FB_full (ps : PS) (now : Nat) (ev : Ev) (k : Nat) (N : List Line) {j : SSt} {X : Nat → Nat → Prop}
    (hN : ∀ l ∈ N, neutK l = true) (hpp : PPV ps)
    (h : FN chk j k X (if ev.data = 0 then ps.procs.length else ev.data - 1) now { ps := ps }) :
    FB chk (procEff ps now ev) (foldFrom k (restLines ps now ev N) j) (k + (restLines ps now ev N).length) X := by
  rcases procEff_cases ps now ev with ⟨hd, hf, he⟩ | ⟨d, hd, hf, he⟩ | ⟨hd, he⟩
  · simp only [he, restLines, wLine, hd, hf, if_true, List.append_nil] at h ⊢
    refine FB_neutrals _ j k ?_ (runHooks_FN (me := ps.procs.length) (now := now) now _ _ ?_).fb
    · exact fun l hl => (List.mem_append.mp hl).elim (hRunLines_neut now _ l) (fun hl => neut_of_neutK l (hN l hl))
    · exact FN_same h rfl rfl rfl rfl
  · simp only [he, restLines, wLine, hd, hf, if_true] at h ⊢
    exact runSegment_FB_full now _ _ _ _ N hN
      (fun p hp => spawn_last hp ▸ hpp.defs d (List.mem_of_find?_eq_some hf)) (FN_spawn h _ _)
  · simp only [he, restLines, wLine, hd, if_false] at h ⊢
    exact runSegment_FB_full _ _ _ _ _ N hN (fun p hp => (hpp.procs _ p hp).1) h

theorem fullLines_split (s : St PS) (m : Ev) :
    fullLines s m = openLine s.ent m ++ restLines s.ent m.time m ([Line.other] ++ yLines (procEff s.ent m.time m).specs) := by
  unfold fullLines allHookLines openLine restLines
  by_cases hd : m.data = 0
  · have hr : rLine s.ent m = [] := by simp [rLine, hd]
    simp only [hd, if_true, hr, List.nil_append]
    cases s.ent.defs.find? (fun d => d.ent == m.target && d.kind == m.kind) <;> simp [List.append_assoc]
  · simp only [hd, if_false]
    simp [List.append_assoc]

theorem deliver_FB_full (s : St PS) (ls : List Line) (m : Ev) (hm : m ∈ s.heap) (pinv : ProcInv s)
    (h : FI true s.heap s.ent ls) :
    FB true (procEff s.ent m.time m) (foldFrom 0 (ls ++ fullLines s m) {}) (ls ++ fullLines s m).length
      (XT (s.heap.erase m)) := by
  rw [fullLines_split]
  generalize hNdef : [Line.other] ++ yLines (procEff s.ent m.time m).specs = N
  have hN : ∀ l ∈ N, neutK l = true := by
    rw [← hNdef]
    exact fun l hl => (List.mem_cons.mp hl).elim (fun heq => heq ▸ rfl) (yLines_neutK _ l)
  have hfold : foldFrom 0 (ls ++ (openLine s.ent m ++ restLines s.ent m.time m N)) {} =
      foldFrom (ls.length + (openLine s.ent m).length) (restLines s.ent m.time m N)
        (foldFrom ls.length (openLine s.ent m) (foldFrom 0 ls {})) := by
    rw [foldFrom_append, foldFrom_append, Nat.zero_add]
  have hlen : (ls ++ (openLine s.ent m ++ restLines s.ent m.time m N)).length =
      ls.length + (openLine s.ent m).length + (restLines s.ent m.time m N).length := by
    simp only [List.length_append]; omega
  rw [hfold, hlen]
  by_cases hline : m.data = 0 ∨ rLine s.ent m ≠ []
  · have hopen := FB_open s m hm pinv (foldFrom 0 ls {}) ls.length h.fb hline
    exact procEff_FB_full s.ent m.time m (ls.length + (openLine s.ent m).length) N hN h.pp hopen
  · have hd : m.data ≠ 0 := fun h0 => hline (Or.inl h0)
    have hr : rLine s.ent m = [] := Classical.not_not.mp (fun hne => hline (Or.inr hne))
    obtain ⟨hidle, e1, _, e3⟩ := noline s.ent m.time m hd hr h.pp
    have hop : openLine s.ent m = [] := by unfold openLine; simp only [hd, if_false, hr]
    have hrest : restLines s.ent m.time m N = N := by
      unfold restLines
      simp only [hd, if_false, segAllLines_eq, segLines_idle (e := ({ ps := s.ent } : Eff)) hidle, e3, List.nil_append,
        List.append_nil]
    rw [e1, hop, hrest]
    exact FB_neutrals _ _ _ (fun l hl => neut_of_neutK l (hN l hl)) (FB_close h.fb (fun q t a => Or.inl (XT_erase q t a)))

end HappyModel.C01.FV

namespace HappyModel.C01
open HappyModel.C02.Spec (Line HSt hookStep hookMonitor delayMonitor waitMonitor SSt stepLine)

/-- **the full trace of the process model passes every check of the C02 judge but the end-of-trace clause,
    plain futures**: for every handler table with plain futures (`FV.PlainSegV`; its clause on the printed form of
    resolved values excludes nothing, `FV.okv_all`), from every initial state as in `hook_clauses_silent_on_model` with
    no future, every end time and number of iterations, the trace the model writes (`c02FullTraceOf`: the `h` lines of
    the pre-run hooks, then per delivery the `R` line, the `S` / `K` line, the `h` and `r` lines in action order, `F`
    and the `H` / `c` lines, a closing neutral line, the `y` and `w` lines) is accepted by the hook monitor, the delay
    monitor, the wait monitor and the settle fold — `Spec.judgeLines` can only answer with its last clause, `future/resolved-but-never-resumed` -/
theorem plain_full_trace_satisfies_c02_spec (endT : Option Nat) (n : Nat) (s0 : St PS) (inv : Inv s0)
    (hk : HookInv s0) (h0 : InitOk s0) (hlog : s0.log = []) (hlate : s0.ent.late = [])
    (hf2 : ∀ x ∈ s0.ent.hookOf, x.1 < s0.ent.nid) (hlk : ∀ x ∈ s0.ent.lastKind, x.2 < s0.ent.nid)
    (hpl : ∀ d ∈ s0.ent.defs, ∀ seg ∈ d.segs, FV.PlainSegV seg) (hfut : s0.ent.futs = []) :
    hookMonitor (c02FullTraceOf endT n s0) = none ∧ delayMonitor (c02FullTraceOf endT n s0) = none ∧
    waitMonitor (c02FullTraceOf endT n s0) = none ∧
    ((enum (c02FullTraceOf endT n s0)).foldl (fun st p => stepLine st p.1 p.2) {}).err = none := by
  have hr := fullRun_HR endT n s0 _ inv hk h0.procInv (HR_init s0 h0 hlog hlate hf2 hlk)
  have hdw := process_trace_satisfies_c02_spec_delay_wait endT n s0 inv h0 (c02FullTraceOf endT n s0)
    (c02FullTrace_dw endT n s0)
  refine ⟨?_, hdw.1, hdw.2, ?_⟩
  · unfold hookMonitor c02FullTraceOf
    simp [hr.err, hr.due]
  · rw [fold_enum_eq]
    have hpp : FV.PPV s0.ent := ⟨fun d hd seg hs => (hpl d hd seg hs).plain, by intro q p hq; rw [h0.noProcs] at hq; simp at hq⟩
    have hinit : ∀ l ∈ initHookLines s0.ent, FV.neut l = true := by
      intro l hl
      unfold initHookLines at hl
      obtain ⟨x, _, rfl⟩ := List.mem_map.mp hl
      rfl
    have hb1 := FV.FB_neutrals (initHookLines s0.ent) {} 0 hinit (FV.FB_init (chk := true) s0 h0 hfut)
    rw [Nat.zero_add] at hb1
    exact (FV.FI_run (fullRun_isView endT) FV.deliver_FB_full n s0 _ h0.procInv ⟨hb1, hpp⟩).fb.errN rfl

theorem plain_program_full_trace_satisfies_c02_spec (p : Program) (gateCont : Bool) (hp : p.Plain)
    (hf : p.PlainFuturesV) (endT : Option Nat) (n : Nat) :
    hookMonitor (c02FullTraceOf endT n (p.initState gateCont)) = none ∧
    delayMonitor (c02FullTraceOf endT n (p.initState gateCont)) = none ∧
    waitMonitor (c02FullTraceOf endT n (p.initState gateCont)) = none ∧
    ((enum (c02FullTraceOf endT n (p.initState gateCont))).foldl (fun st q => stepLine st q.1 q.2) {}).err = none :=
  plain_full_trace_satisfies_c02_spec endT n _ (initState_inv p gateCont) (initState_hookInv p gateCont)
    (initState_ok p gateCont hp) rfl rfl (initState_hookOf_fresh p gateCont) (initState_lastKind_fresh p gateCont) hf rfl

end HappyModel.C01
