import HappyProofs.C08.PolicyInv
/-! A policy never holds more than its capacity (all policies that take `capacity`). -/
namespace HappyModel.C08

theorem capFull_false {k n : Nat} (h : ¬ capFull (some k) n = true) : n < k := by
  simpa [capFull] using h

theorem pushRed_q_le {c : Cfg} {k : Nat} (hc : c.cap = some k) {s : St} (h : s.q.length ≤ k) (it : Item)
    (rd : Bool) : (pushRed c s it rd).1.q.length ≤ k := by
  unfold pushRed
  rw [hc]
  split
  · exact h
  · rename_i hfull
    have := capFull_false hfull
    split
    · exact h
    · simp; omega

theorem pushWfq_total_le {c : Cfg} {k : Nat} (hc : c.cap = some k) {s : St} (h : s.total ≤ k) (it : Item) :
    (pushWfq c s it).1.total ≤ k := by
  unfold pushWfq
  rw [hc]
  split
  · exact h
  · rename_i hfull
    have := capFull_false hfull
    split
    · exact this
    · split
      · exact h
      · exact this

theorem pushInner_len_le (c : Cfg) (s : St) (it : Item) (rd : Bool) (hf : c.kind ≠ .fair) (k : Nat)
    (hc : c.cap = some k) (h : len c s ≤ k) : len c (pushInner c s it rd).1 ≤ k := by
  cases hk : c.kind <;> simp only [pushInner, hk]
  case fair => exact absurd hk hf
  case wfq =>
    rw [len_total (congrArg Kind.isFlow hk)] at h ⊢
    exact pushWfq_total_le hc h it
  all_goals rw [len_q (congrArg Kind.isFlow hk)] at h ⊢
  case red => exact pushRed_q_le hc h it rd
  all_goals exact pushList_eq c s it ▸ pushRed_q_le hc h it false

theorem push_len_le (c : Cfg) (s : St) (it : Item) (coin rd : Bool) (hf : c.kind ≠ .fair) (k : Nat)
    (hc : c.cap = some k) (h : len c s ≤ k) : len c (push c s it coin rd).1 ≤ k :=
  push_ind (P := fun s' => len c s' ≤ k) it coin rd (by rw [len_balked]; exact h) (pushInner_len_le c s it rd hf k hc h)

theorem purge_len_le (c : Cfg) (s : St) (now : Nat) : len c (purge c s now).1 ≤ len c s := by
  unfold purge
  cases hk : c.kind <;> simp only <;> try exact Nat.le_refl _
  simp only [len, hk]
  exact List.length_filter_le _ _

theorem step_cap (c : Cfg) (s : St) (o : Op) (hf : c.kind ≠ .fair) (k : Nat) (hc : c.cap = some k)
    (h : len c s ≤ k) : len c (step c s o).1 ≤ k := by
  cases o with
  | push it now coin rd => exact push_len_le c s it coin rd hf k hc h
  | pop now kk => exact Nat.le_trans (pop_len_le c s now kk) h
  | peek now => exact h
  | purge now => exact Nat.le_trans (purge_len_le c s now) h
  | query now f => exact h

end HappyModel.C08
