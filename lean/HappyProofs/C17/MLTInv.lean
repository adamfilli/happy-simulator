import HappyProofs.C17.MLTShape
import HappyProofs.C17.MLAux
/-!
With a resolver that returns one of its inputs, versions only enter through client writes (`TInv P`), and on a
coherent family `_install` only moves a replica's version up in the total order `vlt`, so an anti-entropy copy is
never above the current version of its sender (`SubInv`).
-/
namespace HappyModel.C17.MLT
open HappyModel.C17.ML (Version Msg Proc MKind PKind vcGet dominates vcMerge vcTick Coherent vlt)
open HappyModel.C17.MLM (Join)
open HappyModel.C17.LN (Res AeShape StepShape foldl_send_ind core)

theorem auxInv_iff {s : St} : AuxInv s ↔ LN.AuxInv (core s.view) :=
  ⟨fun ⟨a, b, c, d⟩ => ⟨a, b, c, d⟩, fun ⟨a, b, c, d⟩ => ⟨a, b, c, d⟩⟩

theorem subInv_iff {s : St} : SubInv s ↔ LN.SubInv OGe (core s.view) :=
  ⟨fun ⟨a, b⟩ => ⟨a, b⟩, fun ⟨a, b⟩ => ⟨a, b⟩⟩

/-- `TInv P` of a state, as a predicate of the core of its view -/
structure TI (P : Nat → Version → Prop) (c : LN.Core) : Prop where
  freshP : ∀ pid, c.np ≤ pid → c.procs pid = none
  freshM : ∀ mid, c.nm ≤ mid → c.msgs mid = none
  versP : ∀ i k v, c.vers i k = some v → P k v
  store : ∀ i k, c.store i k = (c.vers i k).map (·.val)
  msgP : ∀ mid m, c.msgs mid = some m → (m.kind = .repl → P m.key m.ver) ∧ ∀ kv, kv ∈ m.items → P kv.1 kv.2
  procP : ∀ pid p, c.procs pid = some p →
    ((p.kind = .write ∨ p.kind = .repl) → P p.key p.ver) ∧ ∀ kv, kv ∈ p.items → P kv.1 kv.2

theorem tinv_iff {P} {s : St} : TInv P s ↔ TI P (core s.view) :=
  ⟨fun ⟨a, b, c, d, e, f⟩ => ⟨a, b, c, d, e, f⟩, fun ⟨a, b, c, d, e, f⟩ => ⟨a, b, c, d, e, f⟩⟩

section
variable {P : Nat → Version → Prop} {s : ML.St}

theorem TI.procs_lt (h : TI P (core s)) {pid : Nat} {p : Proc} (h0 : s.procs pid = some p) : pid < s.np :=
  lt_of_fresh h.freshP h0

theorem TI.msgs_lt (h : TI P (core s)) {mid : Nat} {m : Msg} (h0 : s.msgs mid = some m) : mid < s.nm :=
  lt_of_fresh h.freshM h0

theorem tinv_setProc (h : TI P (core s)) {pid : Nat} (hlt : pid < s.np) (p : Proc)
    (hp : (p.kind = .write ∨ p.kind = .repl) → P p.key p.ver) (hi : ∀ kv, kv ∈ p.items → P kv.1 kv.2) :
    TI P (core (s.setProc pid p)) := by
  refine ⟨fun pid1 hp' => ?_, h.freshM, h.versP, h.store, h.msgP, fun pid1 q hq => ?_⟩
  · exact (upd_other _ _ _ _ (Nat.ne_of_gt (Nat.lt_of_lt_of_le hlt hp'))).trans (h.freshP pid1 hp')
  · rcases upd_some hq with ⟨_, rfl⟩ | ⟨_, hq⟩
    · exact ⟨hp, hi⟩
    · exact h.procP pid1 q hq

theorem tinv_spawn (h : TI P (core s)) (p : Proc)
    (hp : (p.kind = .write ∨ p.kind = .repl) → P p.key p.ver) (hi : ∀ kv, kv ∈ p.items → P kv.1 kv.2) :
    TI P (core (s.spawn p)) := by
  refine ⟨fun pid hp' => ?_, h.freshM, h.versP, h.store, h.msgP, fun pid q hq => ?_⟩
  · have : s.np + 1 ≤ pid := hp'
    exact (upd_other _ _ _ _ (Nat.ne_of_gt this)).trans (h.freshP pid (Nat.le_of_succ_le this))
  · rcases upd_some hq with ⟨_, rfl⟩ | ⟨_, hq⟩
    · exact ⟨hp, hi⟩
    · exact h.procP pid q hq

theorem tinv_setMsg (h : TI P (core s)) {mid : Nat} (hlt : mid < s.nm) (m : Msg)
    (hr : m.kind = .repl → P m.key m.ver) (hi : ∀ kv, kv ∈ m.items → P kv.1 kv.2) :
    TI P (core (s.setMsg mid m)) := by
  refine ⟨h.freshP, fun mid1 hp' => ?_, h.versP, h.store, fun mid1 q hq => ?_, h.procP⟩
  · exact (upd_other _ _ _ _ (Nat.ne_of_gt (Nat.lt_of_lt_of_le hlt hp'))).trans (h.freshM mid1 hp')
  · rcases upd_some hq with ⟨_, rfl⟩ | ⟨_, hq⟩
    · exact ⟨hr, hi⟩
    · exact h.msgP mid1 q hq

theorem tinv_send (h : TI P (core s)) (m : Msg)
    (hr : m.kind = .repl → P m.key m.ver) (hi : ∀ kv, kv ∈ m.items → P kv.1 kv.2) : TI P (core (s.send m)) := by
  refine ⟨h.freshP, fun mid hp' => ?_, h.versP, h.store, fun mid q hq => ?_, h.procP⟩
  · have : s.nm + 1 ≤ mid := hp'
    exact (upd_other _ _ _ _ (Nat.ne_of_gt this)).trans (h.freshM mid (Nat.le_of_succ_le this))
  · rcases upd_some hq with ⟨_, rfl⟩ | ⟨_, hq⟩
    · exact ⟨hr, hi⟩
    · exact h.msgP mid q hq

theorem tinv_inst (h : TI P (core s)) {r : Res} (hr : ∀ e inc, r.pick e inc = inc) (i k : Nat) (inc : Version)
    (hinc : P k inc) : TI P (core (r.inst s i k inc)) := by
  have hst := r.inst_store s i k inc h.store
  have hvs := r.inst_vers s i k inc
  unfold Res.inst Res.merged at *
  split
  · rename_i ht
    rw [if_pos ht] at hst hvs
    refine ⟨h.freshP, h.freshM, fun i' k' w hw => ?_, hst, h.msgP, h.procP⟩
    have hw' := (hvs i' k').symm.trans hw
    split at hw'
    · rename_i e; cases hw'; rw [e.2, hr]; exact hinc
    · exact h.versP i' k' w hw'
  · exact h

theorem versionsOf_P (h : TI P (core s)) (i : Nat) : ∀ kv, kv ∈ ML.versionsOf s i → P kv.1 kv.2 := by
  intro kv hkv
  obtain ⟨k, _, hk⟩ := List.mem_filterMap.mp hkv
  cases hv : s.vers i k with
  | none => rw [hv] at hk; cases hk
  | some v =>
    rw [hv] at hk; cases hk
    exact h.versP i k v hv

theorem tinv_aeContinue {r : Res} {s' : ML.St} {pid : Nat} {p p' : Proc} {items : List (Nat × Version)}
    (sh : AeShape r s pid p items p' s') (h : TI P (core s)) (hlt : pid < s.np)
    (hk : p.kind = .aereq ∨ p.kind = .aeresp) (hi : ∀ kv, kv ∈ items → P kv.1 kv.2) : TI P (core s') := by
  have hnw : ¬(p'.kind = .write ∨ p'.kind = .repl) := by
    rw [sh.kind]; exact PKind.not_wr (.inr (.inr hk))
  rcases sh.eq with e | ⟨_, _, e⟩
  · rw [e]
    exact tinv_setProc h hlt p' (fun c => absurd c hnw) (fun kv hkv => hi kv (sh.sub kv hkv))
  · rw [e]
    exact tinv_setProc (tinv_send h _ (fun c => by cases c) (versionsOf_P h p.node)) hlt p'
      (fun c => absurd c hnw) (fun kv hkv => hi kv (sh.sub kv hkv))

theorem step_ti {r : Res} {s' : ML.St} {a : Act} (sh : StepShape r s a s') (hr : ∀ e inc, r.pick e inc = inc)
    (h : TI P (core s))
    (hP : ∀ op node k v, a = .cw op node k v → node < s.n → P k ⟨v, s.now, node, vcTick s.n (s.clock node) node⟩) :
    TI P (core s') := by
  cases sh with
  | fail e hv he => rw [he]; exact h
  | tick t ha he => rw [he]; exact h
  | cw op node k v ha hn he =>
    rw [he]
    exact tinv_spawn h _ (fun _ => hP op node k v ha hn) (fun _ hkv => nomatch hkv)
  | cr op node k ha hn he =>
    rw [he]; exact tinv_spawn h _ nofun (fun _ hkv => nomatch hkv)
  | ae node peer ha hn hp hl he =>
    rw [he]
    exact tinv_spawn (tinv_send h _ (fun c => by cases c) (versionsOf_P h node)) _
      nofun (fun _ hkv => nomatch hkv)
  | dlRepl mid m fin ha h0 hd hk hfin he =>
    rw [he]
    have hmw := h.msgP mid m h0
    exact tinv_spawn (tinv_setMsg h (h.msgs_lt h0) { m with delivered := true } hmw.1 hmw.2) _
      (fun _ => hmw.1 hk) (fun _ hkv => nomatch hkv)
  | dlAe mid m p p' ha h0 hd hk hpk hpk2 hnode hsrc hop hfin hsent hitems sh =>
    have hmw := h.msgP mid m h0
    exact tinv_aeContinue sh
      (tinv_spawn (tinv_setMsg h (h.msgs_lt h0) { m with delivered := true } hmw.1 hmw.2) p
        (fun c => absurd c (PKind.not_wr (.inr (.inr hpk2)))) (by rw [hitems]; exact fun _ hkv => nomatch hkv))
      (Nat.lt_succ_self _) hpk2 hmw.2
  | write1 pid p0 ha h0 hf hk hs he =>
    rw [he]
    have hpw := h.procP pid p0 h0
    have hv : P p0.key p0.ver := hpw.1 (.inl hk)
    have f2 := foldl_send_ind (fun s' => TI P (core s') ∧ s'.np = s.np)
      (fun j => ({ kind := .repl, src := p0.node, dst := j, key := p0.key, ver := p0.ver } : Msg))
      (fun s' j hs' => ⟨tinv_send hs'.1 _ (fun _ => hv) (fun _ hkv => nomatch hkv), hs'.2⟩)
      (r.peers p0.node) _ ⟨tinv_inst h hr p0.node p0.key p0.ver hv, (r.inst_frame s p0.node p0.key p0.ver).2.1⟩
    exact tinv_setProc f2.1 (f2.2 ▸ h.procs_lt h0) _ (fun _ => hv) hpw.2
  | write2 pid p0 ha h0 hf hk hs he =>
    rw [he]
    have hpw := h.procP pid p0 h0
    exact tinv_setProc h (h.procs_lt h0) _ (fun _ => hpw.1 (.inl hk)) hpw.2
  | repl pid p0 ha h0 hf hk he =>
    rw [he]
    have hpw := h.procP pid p0 h0
    have hv : P p0.key p0.ver := hpw.1 (.inr hk)
    exact tinv_setProc (tinv_inst h hr p0.node p0.key p0.ver hv)
      ((r.inst_frame s p0.node p0.key p0.ver).2.1 ▸ h.procs_lt h0) _ (fun _ => hv) hpw.2
  | quiet pid p0 rep ha h0 hf hk he =>
    rw [he]
    exact tinv_setProc h (h.procs_lt h0) _
      (fun c => absurd c (PKind.not_wr (by rcases hk with e | e <;> simp only [e, true_or, or_true])))
      (h.procP pid p0 h0).2
  | sent pid p0 ha h0 hf hk hs he =>
    rw [he]
    exact tinv_setProc h (h.procs_lt h0) _ (fun c => absurd c (PKind.not_wr (.inr (.inr hk)))) (h.procP pid p0 h0).2
  | wait pid p0 p' k v rest ha h0 hf hk hs hit sh =>
    have hiw : ∀ kv, kv ∈ (k, v) :: rest → P kv.1 kv.2 := hit ▸ (h.procP pid p0 h0).2
    exact tinv_aeContinue sh (tinv_inst h hr p0.node k v (hiw (k, v) (List.mem_cons_self ..)))
      ((r.inst_frame s p0.node k v).2.1 ▸ h.procs_lt h0) hk (fun kv hkv => hiw kv (List.mem_cons_of_mem _ hkv))

end

theorem step_tinv {P} (s : St) (a : Act) (hl : s.lww = true) (h : TInv P s)
    (hP : ∀ op node k v, a = .cw op node k v → node < s.n → P k (stamp s node v)) : TInv P (step s a) :=
  tinv_iff.2 (step_ti (step_shape s a) (pickR_lww hl) (tinv_iff.1 h) hP)

theorem init_tinv {P} (n nk : Nat) (jn : Join) (lww : Bool) (adj : List (List Nat)) :
    TInv P (init n nk jn lww adj) :=
  ⟨fun _ _ => rfl, fun _ _ => rfl, fun _ _ _ hv => (by cases hv), fun _ _ => rfl, fun _ _ hm => (by cases hm),
   fun _ _ hp => (by cases hp)⟩

theorem oge_inst {P} {s : St} (hl : s.lww = true) (hc : ∀ k, Coherent s.n (P k)) (hT : TInv P s) (i k : Nat)
    (inc : Version) (hinc : P k inc) (src k' : Nat) (v : Version) (hg : OGe (s.vers src k') v) :
    OGe ((s.res.inst s.view i k inc).vers src k') v := by
  rw [inst_vers_lww s hl]
  split
  · rename_i e
    obtain ⟨⟨e1, e2⟩, ht⟩ := e
    subst e1; subst e2
    obtain ⟨u, hu, hnv⟩ := hg
    rw [hu] at ht
    have hlt := (ML.takes_iff_lt s.n (P k') (hc k') u inc (hT.versP src k' u hu) hinc).mp ht
    exact ⟨inc, rfl, fun h => hnv (ML.vlt_trans u inc v hlt h)⟩
  · exact hg

theorem step_sub {P} (s : St) (a : Act) (hl : s.lww = true) (hc : ∀ k, Coherent s.n (P k)) (hT : TInv P s)
    (h : SubInv s) : SubInv (step s a) :=
  subInv_iff.2 (LN.step_sub (step_shape s a) (fun v => ⟨v, rfl, ML.vlt_irrefl v⟩) (subInv_iff.1 h) P hT.procP
    (fun i k inc => oge_inst hl hc hT i k inc))

theorem step_aux {P} (s : St) (a : Act) (h : AuxInv s) (hT : TInv P s) : AuxInv (step s a) :=
  auxInv_iff.2 (LN.step_aux (step_shape s a) (auxInv_iff.1 h) (fun _ _ => (tinv_iff.1 hT).msgs_lt))

theorem init_sub (n nk : Nat) (jn : Join) (lww : Bool) (adj : List (List Nat)) :
    SubInv (init n nk jn lww adj) :=
  ⟨fun _ _ hm => (by cases hm), fun _ _ hp => (by cases hp)⟩

theorem init_aux (n nk : Nat) (jn : Join) (lww : Bool) (adj : List (List Nat)) :
    AuxInv (init n nk jn lww adj) :=
  ⟨fun _ _ hm => (by cases hm), fun _ _ hp => (by cases hp), fun _ _ hs => (by cases hs),
   fun _ _ hp => (by cases hp)⟩

theorem run_all_from {P} : ∀ (acts : List Act) (s : St), s.lww = true → (∀ k, Coherent s.n (P k)) →
    TInv P s → AuxInv s → SubInv s → (∀ kv, kv ∈ created s acts → P kv.1 kv.2) →
    TInv P (run s acts) ∧ AuxInv (run s acts) ∧ SubInv (run s acts)
  | [], _, _, _, hT, hA, hS, _ => ⟨hT, hA, hS⟩
  | a :: as, s, hl, hc, hT, hA, hS, hP => by
    rw [run]
    have hT' : TInv P (step s a) := by
      refine step_tinv s a hl hT ?_
      intro op node k v ha hn
      subst ha
      exact hP (k, stamp s node v) (List.mem_append_left _ (by simp only [newOf, hn, if_true, List.mem_singleton]))
    exact run_all_from as (step s a) (by rw [step_lww]; exact hl) (by rw [step_n]; exact hc) hT'
      (step_aux s a hA hT) (step_sub s a hl hc hT hS) (fun kv hkv => hP kv (List.mem_append_right _ hkv))

theorem run_all {P} (n nk : Nat) (jn : MLM.Join) (adj : List (List Nat)) (acts : List Act)
    (hc : ∀ k, Coherent n (P k))
    (hP : ∀ kv, kv ∈ created (init n nk jn true adj) acts → P kv.1 kv.2) :
    TInv P (run (init n nk jn true adj) acts) ∧ AuxInv (run (init n nk jn true adj) acts) ∧
    SubInv (run (init n nk jn true adj) acts) :=
  run_all_from acts (init n nk jn true adj) rfl hc (init_tinv n nk jn true adj) (init_aux n nk jn true adj)
    (init_sub n nk jn true adj) hP

end HappyModel.C17.MLT
