import HappyProofs.C11.Basic
/-! What one call of a handler does, as a relation (`Does`): one constructor per distinct result of the handlers' decision
    trees, with the result written out and the guard that selects it.  Above `Basic` and this file no handler is unfolded; every
    classification of handler results further up is read off `Does` by one `cases`.  There are four descriptions of a handler
    result because there are four sets of hypotheses: `Shape` (`Basic`; every variant: which data a call touches), `Does` (exact),
    `HK` (under `Rep`, in the vocabulary of `HInv`), `LStep` (what is left of `Does` at a stable leader). -/
namespace HappyModel.C11

/-- the log a `submit` to a leader creates, for the ledger `created` -/
def Inp.created (x : Node) : Inp → List (List Entry)
  | .submit _ c => if x.role = .leader then [x.log ++ [⟨x.term, c⟩]] else []
  | _ => []

/-- the answer of node `me`, in term `t`, to a message from `src` that it does not act on -/
def Inp.refusal (me src t : Nat) : Inp → List (Nat × Body)
  | .msg (.rv ..) => [(src, .vr t false me)]
  | .msg (.ae ..) => [(src, .ar t false me 0)]
  | _ => []

def Refusals (snd : List (Nat × Body)) : Prop :=
  ∀ d b, (d, b) ∈ snd → (∃ t f, b = .vr t false f) ∨ ∃ t f m, b = .ar t false f m

theorem Refusals.nil : Refusals [] := fun _ _ h => nomatch h

theorem Inp.refusals (me src t : Nat) : ∀ inp : Inp, Refusals (inp.refusal me src t)
  | .msg (.rv ..) => fun _ _ h => by
    simp only [Inp.refusal, List.mem_singleton, Prod.mk.injEq] at h; exact Or.inl ⟨_, _, h.2⟩
  | .msg (.ae ..) => fun _ _ h => by
    simp only [Inp.refusal, List.mem_singleton, Prod.mk.injEq] at h; exact Or.inr ⟨_, _, _, h.2⟩
  | .msg (.vr ..) | .msg (.ar ..) | .timeout | .hb | .submit .. => .nil

/-- when a handler leaves the node as it is -/
def Ignores (v : Variant) (x : Node) : Inp → Prop
  | .msg (.rv t c li lt) => t ≤ x.term ∧ rvGrant x t c li lt = false
  | .msg (.vr t _ _) => t ≤ x.term ∧ (x.role ≠ .candidate ∨ t ≠ x.term)
  | .msg (.ae t ..) => t < x.term
  | .msg (.ar t ..) => t ≤ x.term ∧ ((v.staleAck = true ∧ t < x.term) ∨ x.role ≠ .leader)
  | .timeout => x.role = .leader
  | .hb => x.role ≠ .leader
  | .submit .. => x.role ≠ .leader

def Body.term : Body → Nat
  | .rv t .. | .vr t .. | .ae t .. | .ar t .. => t

/-- when a handler only steps down to the term of the message -/
def Declines (v : Variant) (x : Node) : Body → Prop
  | .rv t c li lt => x.term < t ∧ rvGrant (stepDown v x t) t c li lt = false
  | .vr t .. => x.term < t
  | .ae t _ pi pt .. => x.term ≤ t ∧ aeBad (stepDown v x t) pi pt = true
  | .ar t .. => x.term < t

theorem Declines.le {v : Variant} {x : Node} : ∀ {b : Body}, Declines v x b → x.term ≤ b.term
  | .rv .., h => Nat.le_of_lt h.1
  | .vr .., h | .ar .., h => Nat.le_of_lt h
  | .ae .., h => h.1

/-- only a refused AppendEntries steps a node down within its own term -/
theorem Declines.ae_of_eq {v : Variant} {x : Node} : ∀ {b : Body}, Declines v x b → b.term = x.term →
    ∃ l pi pt es lc, b = .ae x.term l pi pt es lc
  | .rv .., h, e => absurd e (Nat.ne_of_gt h.1)
  | .vr .., h, e | .ar .., h, e => absurd e (Nat.ne_of_gt h)
  | .ae .., _, e => ⟨_, _, _, _, _, by rw [← e]; rfl⟩

theorem Ignores.created {v : Variant} {x : Node} : ∀ {inp : Inp}, Ignores v x inp → inp.created x = []
  | .submit .., h => if_neg h
  | .msg _, _ | .timeout, _ | .hb, _ => rfl

/-- `Does v n x me src inp r`: the handler of node `me`, in state `x` in a cluster of `n`, called with `inp` (sent by `src`
    when it is a message), returns `r`. -/
inductive Does (v : Variant) (n : Nat) (x : Node) (me src : Nat) : Inp → HR → Prop
  /-- ignored, or refused in the node's own term -/
  | same (inp) (hi : Ignores v x inp) : Does v n x me src inp { node := x, sends := inp.refusal me src x.term }
  /-- `_step_down`, and the refusal when the message is a RequestVote or an AppendEntries -/
  | down (b) (hd : Declines v x b) :
      Does v n x me src (.msg b) { node := stepDown v x b.term, sends := (Inp.msg b).refusal me src b.term }
  /-- a vote is granted, by the node as it is or stepped down to the newer term `t` -/
  | grant (t c li lt) (x1 : Node) (h1 : (x1 = x ∧ x.term = t) ∨ (x1 = stepDown v x t ∧ x.term < t))
      (hg : rvGrant x1 t c li lt = true) :
      Does v n x me src (.msg (.rv t c li lt))
        { node := { x1 with votedFor := some c, term := t }, sends := [(src, .vr t true me)] }
  | campaign (hnl : x.role ≠ .leader) (hq : ¬ (startElection x me).votes.length ≥ quorum n) :
      Does v n x me src .timeout { node := startElection x me, sends := rvsFor n (startElection x me) me }
  /-- a cluster of one: the candidate's own vote is a quorum -/
  | campaignWin (hnl : x.role ≠ .leader) (hq : (startElection x me).votes.length ≥ quorum n) :
      Does v n x me src .timeout (becomeLeader n (startElection x me) me (rvsFor n (startElection x me) me))
  | vote (g f) (hc : x.role = .candidate) (hq : ¬ (addVote x g f).votes.length ≥ quorum n) :
      Does v n x me src (.msg (.vr x.term g f)) { node := addVote x g f }
  | elect (g f) (hc : x.role = .candidate) (hq : (addVote x g f).votes.length ≥ quorum n) :
      Does v n x me src (.msg (.vr x.term g f)) (becomeLeader n (addVote x g f) me [])
  | hb (hl : x.role = .leader) : Does v n x me src .hb { node := x, sends := sendAEs n x me }
  | accept (t l pi pt es lc) (hle : x.term ≤ t) (hbad : aeBad (stepDown v x t) pi pt = false) :
      Does v n x me src (.msg (.ae t l pi pt es lc)) (aeAccept v (stepDown v x t) me src pi es lc)
  /-- a leader takes an acknowledgement of its own term (of an older one too, without repair D3) -/
  | ack (t f m) (hle : t ≤ x.term) (hsa : v.staleAck = true → t = x.term) (hl : x.role = .leader) :
      Does v n x me src (.msg (.ar t true f m)) (tryAdvance n (ackNode x f m) me)
  | nack (t f m) (hle : t ≤ x.term) (hsa : v.staleAck = true → t = x.term) (hl : x.role = .leader) :
      Does v n x me src (.msg (.ar t false f m))
        { node := nackNode x f, sends := if f < n ∧ f ≠ me then [(f, aeFor (nackNode x f) me f)] else [] }
  | append (f c) (hl : x.role = .leader) : Does v n x me src (.submit f c) { node := submitNode x f c }

variable {v : Variant} {n : Nat} {x : Node} {me src : Nat}

/- `handleRV` and `handleTimeout` are opened here: their branches are the constructors as they stand. -/
theorem handleRV_does (t c li lt : Nat) : Does v n x me src (.msg (.rv t c li lt)) (handleRV v x me src t c li lt) := by
  unfold handleRV rvCore
  by_cases ht : t > x.term
  · rw [if_pos ht]
    split
    · rename_i hg; exact .grant t c li lt _ (Or.inr ⟨rfl, ht⟩) hg
    · rename_i hg; exact .down _ ⟨ht, by simpa using hg⟩
  · rw [if_neg ht]
    split
    · rename_i hg
      have : x.term = t := by
        simp only [rvGrant, Bool.and_eq_true, decide_eq_true_eq] at hg; omega
      exact .grant t c li lt _ (Or.inl ⟨rfl, this⟩) hg
    · rename_i hg; exact .same _ ⟨Nat.le_of_not_lt ht, by simpa using hg⟩

theorem handleVR_does (t : Nat) (g : Bool) (f : Nat) : Does v n x me src (.msg (.vr t g f)) (handleVR v n x me t g f) := by
  by_cases ht : x.term < t
  · rw [handleVR_newer ht]; exact .down _ ht
  · by_cases h : x.role ≠ .candidate ∨ t ≠ x.term
    · rw [handleVR_ignored ht h]; exact .same _ ⟨Nat.le_of_not_lt ht, h⟩
    · have hc : x.role = .candidate := Classical.not_not.mp fun hc => h (Or.inl hc)
      obtain rfl : t = x.term := Classical.not_not.mp fun hc => h (Or.inr hc)
      rw [handleVR_count hc rfl]
      unfold vrCount
      split
      · rename_i hq; exact .elect g f hc hq
      · rename_i hq; exact .vote g f hc hq

theorem handleAE_does (t l pi pt : Nat) (es : List Entry) (lc : Nat) :
    Does v n x me src (.msg (.ae t l pi pt es lc)) (handleAE v x me src t pi pt es lc) := by
  by_cases h : t < x.term
  · rw [handleAE_stale h]; exact .same _ h
  · cases hb : aeBad (stepDown v x t) pi pt
    · rw [handleAE_accept h hb]; exact .accept t l pi pt es lc (Nat.le_of_not_lt h) hb
    · rw [handleAE_refuse h hb]; exact .down _ ⟨Nat.le_of_not_lt h, hb⟩

theorem handleAR_does (t : Nat) (s : Bool) (f m : Nat) : Does v n x me src (.msg (.ar t s f m)) (handleAR v n x me t s f m) := by
  by_cases h : x.term < t
  · rw [handleAR_newer h]; exact .down _ h
  · by_cases h' : (v.staleAck = true ∧ t < x.term) ∨ x.role ≠ .leader
    · rw [handleAR_ignored h h']; exact .same _ ⟨Nat.le_of_not_lt h, h'⟩
    · have hs : ¬ (v.staleAck = true ∧ t < x.term) := fun hs => h' (Or.inl hs)
      have hl : x.role = .leader := Classical.not_not.mp fun hl => h' (Or.inr hl)
      have hsa : v.staleAck = true → t = x.term := fun hsa =>
        Nat.le_antisymm (Nat.le_of_not_lt h) (Nat.le_of_not_lt fun hlt => hs ⟨hsa, hlt⟩)
      cases s
      · rw [handleAR_nack h hs hl]; exact .nack t f m (Nat.le_of_not_lt h) hsa hl
      · rw [handleAR_ack h hs hl]; exact .ack t f m (Nat.le_of_not_lt h) hsa hl

theorem handleMsg_does (v : Variant) (n : Nat) (x : Node) (e : Env) :
    Does v n x e.dst e.src (.msg e.body) (handleMsg v n x e) := by
  unfold handleMsg
  split
  · rename_i hb; rw [hb]; exact handleRV_does ..
  · rename_i hb; rw [hb]; exact handleVR_does ..
  · rename_i hb; rw [hb]; exact handleAE_does ..
  · rename_i hb; rw [hb]; exact handleAR_does ..

theorem handleTimeout_does : Does v n x me src .timeout (handleTimeout n x me) := by
  unfold handleTimeout
  split
  · rename_i hl; exact .same _ hl
  · rename_i hnl
    split
    · rename_i hq; exact .campaignWin hnl hq
    · rename_i hq; exact .campaign hnl hq

theorem handleHB_does : Does v n x me src .hb (handleHB n x me) := by
  by_cases h : x.role = .leader
  · rw [handleHB_leader h]; exact .hb h
  · rw [handleHB_other h]; exact .same _ h

theorem handleSubmit_does (f : Nat) (c : Cmd) : Does v n x me src (.submit f c) (handleSubmit x f c) := by
  by_cases h : x.role = .leader
  · rw [handleSubmit_leader h]; exact .append f c h
  · rw [handleSubmit_other h]; exact .same _ h

variable {inp : Inp} {r : HR}

theorem Does.shape (h : Does v n x me src inp r) : Shape v n x me inp r := by
  cases h with
  | same | down | campaign | vote | hb | nack => exact .same rfl rfl
  | grant _ _ _ _ _ h1 => rcases h1 with ⟨rfl, _⟩ | ⟨rfl, _⟩ <;> exact .same rfl rfl
  | campaignWin | elect => exact .quiet ⟨rfl, Or.inr rfl, rfl, rfl⟩
  | accept t l pi pt es lc =>
    obtain ⟨N, hN⟩ := aeCommit_eq (appendLoop v (stepDown v x t) (pi + 1) es) lc
    exact .adv _ N (Or.inl ⟨t, l, pi, pt, es, lc, rfl, rfl⟩) (by rw [← hN]; rfl) (by rw [← hN]; rfl) (by rw [← hN]; rfl)
  | ack t f m _ _ hl =>
    obtain ⟨N, hN⟩ := tryAdvance_eq n (ackNode x f m) me
    rw [hN]; exact .adv _ N (Or.inr ⟨t, f, m, rfl, hl, rfl⟩) rfl rfl rfl
  | append f c hl => exact .append f c rfl hl rfl

end HappyModel.C11
