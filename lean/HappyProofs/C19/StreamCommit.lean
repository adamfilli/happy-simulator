import HappyProofs.C19.Lists
import HappyProofs.C19.StreamStep
/-!
"A key always maps to the same partition" (for every sharding hash: the hash is a parameter of the
append action) and "committed offsets never move backwards" (for the code after
`fixes/C19-commit-moves-backwards.diff`; the code before it has a two-commit counterexample).
-/
namespace HappyModel.C19

theorem getD_lookup_setCommitted (l : List ((Nat × Nat) × Nat)) (c p v c' p' : Nat) :
    ((setCommitted l c p v).lookup (c', p')).getD 0 =
      if c' = c ∧ p' = p then v else (l.lookup (c', p')).getD 0 := by
  unfold setCommitted
  by_cases h : c' = c ∧ p' = p
  · obtain ⟨rfl, rfl⟩ := h
    simp
  · have hne : (c', p') ≠ (c, p) := by
      intro e; injection e with e1 e2; exact h ⟨e1, e2⟩
    have h1 : ((c', p') == (c, p)) = false := by simpa using hne
    rw [List.lookup_cons, h1, lookup_filter_ne _ hne, if_neg h]

/-- the sharding hash is a function of the key in this schedule -/
def HashFn (sched : List (Nat × SAct)) : Prop :=
  ∀ t1 t2 k h1 h2, (t1, SAct.append k h1) ∈ sched → (t2, SAct.append k h2) ∈ sched → h1 = h2

theorem jKeys_run (cfg : SCfg) : ∀ (sched : List (Nat × SAct)) (s : Stream) (kp : List (Nat × Nat)),
    (∀ k p, kp.lookup k = some p → ∀ t h, (t, SAct.append k h) ∈ sched → h % cfg.n = p) ∧ HashFn sched →
    jKeys kp (Stream.run cfg s sched) = none := by
  refine run_accepts cfg jKeys (fun _ => rfl) _ ?_
  intro s kp t a rest ⟨hkp, hh⟩
  have hh' : HashFn rest := fun t1 t2 k h1 h2 m1 m2 =>
    hh t1 t2 k h1 h2 (List.mem_cons_of_mem _ m1) (List.mem_cons_of_mem _ m2)
  have hkp' : ∀ k p, kp.lookup k = some p → ∀ t h, (t, SAct.append k h) ∈ rest → h % cfg.n = p :=
    fun k p hl t h m => hkp k p hl t h (List.mem_cons_of_mem _ m)
  cases a with
  | append key h =>
    cases hl : kp.lookup key with
    | some p' =>
      have := hkp key p' hl t h (List.mem_cons_self ..)
      exact ⟨kp, fun rs => by simp [Stream.step, Stream.append, jKeys, hl, this], hkp', hh'⟩
    | none =>
      refine ⟨(key, h % cfg.n) :: kp, fun rs => by simp [Stream.step, Stream.append, jKeys, hl], ?_, hh'⟩
      intro k p hlk t' h' m
      rw [List.lookup_cons] at hlk
      by_cases hk : k = key
      · subst hk
        simp at hlk
        rw [← hlk, hh t' t k h' h (List.mem_cons_of_mem _ m) (List.mem_cons_self ..)]
      · have : (k == key) = false := by simpa using hk
        rw [this] at hlk
        exact hkp' k p hlk t' h' m
  | _ => exact ⟨kp, fun rs => by simp only [jKeys], hkp', hh'⟩

theorem key_partition_stable (cfg : SCfg) (sched : List (Nat × SAct)) (hh : HashFn sched) :
    jKeys [] (Stream.run cfg (Stream.init cfg.n) sched) = none :=
  jKeys_run cfg sched _ [] ⟨fun _ _ h => by simp at h, hh⟩

/-- non-vacuity: three partitions, repeated keys, a read, a retention sweep -/
example : jKeys [] (Stream.run {n := 3, ret := .size 1} (Stream.init 3)
    [(0, .append 7 4), (1, .append 8 5), (2, .append 7 4), (3, .read 1 0 5), (4, .retention),
     (5, .append 7 4), (6, .append 9 1)]) = none := by decide +kernel

/-- the judge does reject a key whose hash changes between appends -/
example : jKeys [] (Stream.run {n := 3} (Stream.init 3)
    [(0, .append 7 4), (1, .append 7 5)]) = some "log/key/partition-changed" := by decide +kernel

theorem committedOf_commitOne (cfg : SCfg) (s : Stream) (c : Nat) (po : Nat × Nat) (c' p' : Nat) :
    (s.commitOne cfg c po).committedOf c' p' =
      if c' = c ∧ p' = po.1 then
        (if cfg.legacyCommit then po.2 else max (s.committedOf c po.1) po.2)
      else s.committedOf c' p' := by
  simp only [Stream.commitOne, Stream.committedOf, getD_lookup_setCommitted]

theorem committedOf_commitOne_le (cfg : SCfg) (hc : cfg.legacyCommit = false) (s : Stream)
    (c : Nat) (po : Nat × Nat) (c' p' : Nat) :
    s.committedOf c' p' ≤ (s.commitOne cfg c po).committedOf c' p' := by
  rw [committedOf_commitOne, hc]
  split
  · next h => obtain ⟨rfl, rfl⟩ := h; simp only [Bool.false_eq_true, if_false]; omega
  · exact Nat.le_refl _

theorem committedOf_commit_le (cfg : SCfg) (hc : cfg.legacyCommit = false) (s : Stream)
    (c : Nat) (offs : List (Nat × Nat)) (c' p' : Nat) :
    s.committedOf c' p' ≤ (s.commit cfg c offs).committedOf c' p' := by
  induction offs generalizing s with
  | nil => exact Nat.le_refl _
  | cons po rest ih =>
    simp only [Stream.commit]
    exact Nat.le_trans (committedOf_commitOne_le cfg hc s c po c' p') (ih _)

/-- `≤`, not `=`: the judge notes only what `observeCommitted` shows (the assigned partitions), so its table lags behind -/
def CRel (last : List ((Nat × Nat) × Nat)) (s : Stream) : Prop :=
  ∀ c p, lastOf last c p ≤ s.committedOf c p

theorem lastOf_setCommitted (l : List ((Nat × Nat) × Nat)) (c p v c' p' : Nat) :
    lastOf (setCommitted l c p v) c' p' = if c' = c ∧ p' = p then v else lastOf l c' p' := by
  simp only [lastOf, getD_lookup_setCommitted]

theorem crel_note (s : Stream) (c : Nat) (cs : List (Nat × Nat)) (last : List ((Nat × Nat) × Nat))
    (h : CRel last s) (hcs : ∀ pv ∈ cs, pv.2 = s.committedOf c pv.1) :
    CRel (noteCommitted last c cs) s := by
  induction cs generalizing last with
  | nil => exact h
  | cons pv rest ih =>
    simp only [noteCommitted]
    refine ih _ ?_ (fun x hx => hcs x (List.mem_cons_of_mem _ hx))
    intro c' p'
    rw [lastOf_setCommitted]
    split
    · next e => obtain ⟨rfl, rfl⟩ := e; rw [hcs pv (List.mem_cons_self ..)]; exact Nat.le_refl _
    · exact h c' p'

theorem jCommit_run (cfg : SCfg) (hc : cfg.legacyCommit = false) :
    ∀ (sched : List (Nat × SAct)) (s : Stream) (last : List ((Nat × Nat) × Nat)), CRel last s →
    jCommit last (Stream.run cfg s sched) = none := by
  refine run_accepts cfg jCommit (fun _ => rfl) (fun s last _ => CRel last s) ?_
  intro s last t a rest h
  cases a with
  | commit c offs =>
    have h' : CRel last (s.commit cfg c offs) := fun c' p' =>
      Nat.le_trans (h c' p') (committedOf_commit_le cfg hc s c offs c' p')
    have hok : commitOk last c ((s.commit cfg c offs).observeCommitted c) = true := by
      simp only [commitOk, Stream.observeCommitted, List.all_eq_true, List.mem_map, decide_eq_true_eq]
      rintro pv ⟨p, _, rfl⟩
      exact h' c p
    refine ⟨noteCommitted last c ((s.commit cfg c offs).observeCommitted c),
      fun rs => by simp only [Stream.step, jCommit, hok, if_true], crel_note _ c _ last h' ?_⟩
    simp only [Stream.observeCommitted, List.mem_map]
    rintro pv ⟨p, _, rfl⟩
    rfl
  | _ => exact ⟨last, fun rs => by simp only [jCommit], h⟩

theorem committed_monotone (cfg : SCfg) (hc : cfg.legacyCommit = false) (sched : List (Nat × SAct)) :
    jCommit [] (Stream.run cfg (Stream.init cfg.n) sched) = none :=
  jCommit_run cfg hc sched _ [] (fun c p => by simp [lastOf])

/-- non-vacuity: two partitions, one member, increasing commits, then a smaller one (ignored by the repaired code) -/
example : jCommit [] (Stream.run {n := 2} (Stream.init 2)
    [(0, .joinA 0), (1, .joinB 0), (2, .commit 0 [(1, 3)]), (3, .commit 0 [(1, 5), (0, 2)]),
     (4, .commit 0 [(1, 4)])]) = none := by decide +kernel

example : ((Stream.exec {n := 2} (Stream.init 2)
    [(0, .joinA 0), (1, .joinB 0), (2, .commit 0 [(1, 3)]), (3, .commit 0 [(1, 5), (0, 2)]),
     (4, .commit 0 [(1, 4)])]).observeCommitted 0) = [(0, 2), (1, 5)] := by decide +kernel

theorem legacy_commit_witness :
    jCommit [] (Stream.run {n := 2, legacyCommit := true} (Stream.init 2)
      [(0, .joinA 0), (1, .joinB 0), (2, .commit 0 [(1, 5)]), (3, .commit 0 [(1, 3)])])
      = some "group/commit/moved-backwards" := by decide +kernel

end HappyModel.C19
