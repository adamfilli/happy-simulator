import HappyModel.C13.Model
-- `{D} [Inhabited D] [Detector D]` are section variables of the files that carry this option, so every statement has
-- the instances its neighbours have; lemmas whose proofs need only one of them would otherwise be flagged, and
-- omitting an instance from one flags its users in turn.
set_option linter.unusedSectionVars false
namespace HappyModel.C13
variable {D : Type} [Inhabited D] [Detector D]

@[simp] theorem member_setMember_same (nd : Node D) (x : Nat) (m : Member D) :
    (nd.setMember x m).member x = m := by simp [Node.member, Node.setMember]

theorem member_setMember_other {nd : Node D} {x y : Nat} {m : Member D} (h : y ≠ x) :
    (nd.setMember x m).member y = nd.member y := by
  simp [Node.member, Node.setMember, lget_lset_other h]

@[simp] theorem member_setPend (nd : Node D) (x y : Nat) (t : Option Timer) :
    (nd.setPend x t).member y = nd.member y := rfl

@[simp] theorem pendOf_setMember (nd : Node D) (x y : Nat) (m : Member D) :
    (nd.setMember x m).pendOf y = nd.pendOf y := rfl

@[simp] theorem upds_setMember (nd : Node D) (x : Nat) (m : Member D) :
    (nd.setMember x m).upds = nd.upds := rfl

@[simp] theorem upds_setPend (nd : Node D) (x : Nat) (t : Option Timer) :
    (nd.setPend x t).upds = nd.upds := rfl

@[simp] theorem pendOf_setPend_same (nd : Node D) (x : Nat) (t : Option Timer) :
    (nd.setPend x t).pendOf x = t := by simp [Node.pendOf, Node.setPend]

theorem pendOf_setPend_other {nd : Node D} {x y : Nat} {t : Option Timer} (h : y ≠ x) :
    (nd.setPend x t).pendOf y = nd.pendOf y := by
  simp [Node.pendOf, Node.setPend, lget_lset_other h]

theorem view_def (nd : Node D) (x : Nat) : nd.view x = (nd.member x).st := rfl

theorem foldl_rel {α β} (R : α → α → Prop) (hr : ∀ a, R a a) (ht : ∀ a b c, R a b → R b c → R a c)
    (f : α → β → α) (hf : ∀ a b, R a (f a b)) (l : List β) (a : α) : R a (l.foldl f a) := by
  induction l generalizing a with
  | nil => exact hr a
  | cons b bs ih => exact ht _ _ _ (hf a b) (ih (f a b))

theorem foldl_pred {α β} (P : α → Prop) (f : α → β → α) (hf : ∀ a b, P a → P (f a b))
    (l : List β) (a : α) (h : P a) : P (l.foldl f a) := by
  induction l generalizing a with
  | nil => exact h
  | cons b bs ih => exact ih _ (hf a b h)

theorem node_commit_same (s : Sys D) (a now : Nat) (r : Node D × List Out) (soup : List Msg) :
    (s.commit a now r soup).node a = r.1 := by simp [Sys.commit, Sys.node]

theorem node_commit_other {s : Sys D} {a b now : Nat} {r : Node D × List Out} {soup : List Msg}
    (h : b ≠ a) : (s.commit a now r soup).node b = s.node b := by
  simp [Sys.commit, Sys.node, lget_lset_other h]

theorem init_node (c : Cfg) (det : D) (orders : List (List Nat)) (offs : List Nat) (a : Nat) :
    (∀ x, ((Sys.init c det orders offs).node a).pendOf x = none) ∧
    (∀ x, ((Sys.init c det orders offs).node a).view x = .alive) ∧
    ((Sys.init c det orders offs).node a).upds = [] := by
  unfold Sys.node Sys.init
  simp only []
  rcases lget_default_or_mem (default : Node D) ((List.range c.n).map fun a =>
      Node.init c det (lget [] orders a) (lget 0 offs a)) a with h | h
  · rw [h]
    exact ⟨fun x => lget_nil _ _, fun x => by simp [Node.view, Node.member, default, lget_nil], rfl⟩
  · obtain ⟨b, _, hb⟩ := List.mem_map.mp h
    rw [← hb]
    refine ⟨fun x => ?_, fun x => ?_, rfl⟩
    · rcases lget_default_or_mem (none : Option Timer) (List.replicate c.n none) x with h1 | h1
      · exact h1
      · exact List.eq_of_mem_replicate h1
    · unfold Node.view Node.member Node.init
      simp only []
      rcases lget_default_or_mem (default : Member D) (List.replicate c.n { det := det }) x with h1 | h1
      · rw [h1]; rfl
      · rw [List.eq_of_mem_replicate h1]

theorem init_node_eq (c : Cfg) (det : D) (orders : List (List Nat)) (offs : List Nat) (a : Nat)
    (ha : a < c.n) :
    (Sys.init c det orders offs).node a = Node.init c det (lget [] orders a) (lget 0 offs a) := by
  unfold Sys.node Sys.init
  simp only []
  exact lget_map_range _ _ _ _ ha

def obsRow (n : Nat) (s : Sys D) (a : Nat) : List MState := (List.range n).map (s.view a)

theorem length_obsRow (n : Nat) (s : Sys D) (a : Nat) : (obsRow n s a).length = n := by
  simp [obsRow]

theorem lget_obsRow {n : Nat} (s : Sys D) (a : Nat) {x : Nat} (h : x < n) :
    lget .alive (obsRow n s a) x = s.view a x :=
  lget_map_range _ _ _ _ h

end HappyModel.C13
