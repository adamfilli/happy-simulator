import HappyProofs.Lib.Lists
import HappyProofs.C08.PipeInv
import HappyProofs.C08.PolRel
/-! `PInv` is preserved by every admissible delivery of the repaired driver (`step_pinv`), and the
specification's queue state is carried along a run as a ghost (`sstep`, `sfinal`), in `PolRel` with
the policy's state after every delivery (`step_rel`). -/
namespace HappyModel.C08.Pipe

def Act.isShift : Act → Bool
  | .shift _ => true
  | _ => false

/-- admissible delivery: a `QueueDispatchedEvent` is handled only after the payload it was created
    behind has reached the worker (engine FIFO tie order); the limit of a `Server` is fixed -/
def Adm (s : PSt) (a : Act) : Prop :=
  (a = .disp → s.works = []) ∧ a.isShift = false

instance (s : PSt) (a : Act) : Decidable (Adm s a) := by unfold Adm; exact inferInstance

/-- the queue policies the pipeline theorems cover: FIFO, LIFO, stable priority, deadline, adaptive
    LIFO, fair and weighted fair share, each with or without the balking wrapper.  (The
    correspondence runs build `Server` with FIFO, LIFO or priority.)  RED and CoDel are left out on
    purpose: the pipeline model passes the policy no early-drop decision and no CoDel drop count,
    so inside a pipeline run they would only repeat FIFO.  The pipeline model also polls at clock 0
    and never draws the balking coin: a deadline queue never expires an item inside a pipeline run
    and a balking wrapper refuses only what its inner policy refuses. -/
def Plain (p : Cfg) : Prop :=
  p.kind = .fifo ∨ p.kind = .lifo ∨ p.kind = .prio ∨ p.kind = .deadline ∨ p.kind = .adaptive ∨
  p.kind = .fair ∨ p.kind = .wfq

/-- the setting of the property theorems; their proofs read `hv` only (`step_pinv`, `final_run`) -/
structure Setting (c : PCfg) : Prop where
  hv : c.variant = .repaired
  hw : c.worker = .server
  hp : Plain c.pol

section
variable {c : PCfg} {s b : PSt} {ss : SSt} {a : Act} {r : Res} {p : Bool}

/- Each clause of the new invariant is linear arithmetic over a few clauses of the old one; `omega`
   is called with just those in reach, since it reads every hypothesis it finds. -/

/-- every admissible delivery of the repaired driver keeps the protocol invariant up to the
    no-strand clause, which a handler that does not end in `_poll_if_ready` keeps itself -/
theorem Eff.pinv (hv : c.variant = .repaired) (hr : PolRel c.pol s.q ss) (ha : Adm s a) (d : Eff c s a b r p)
    (h : PInv c s) : PInv0 c b ∧ (p = false → NoStrand c b) := by
  cases d with
  | err _ _ => exact ⟨h.toPInv0, fun _ => h.strand⟩
  | accept it hok =>
    have hl := rel_push_len hr it false false
    rw [hok, if_pos rfl] at hl
    refine ⟨⟨h.rt, h.wf, h.res, h.act, h.le, h.rej, ?_⟩, fun _ hd hlt => ?_⟩
    · have := h.count
      dsimp only [PSt.depth] at this ⊢
      omega
    · -- the first item of an empty queue raises the notify that will fetch it
      dsimp only
      by_cases he : s.depth c = 0
      · rw [if_pos he]
        exact .inl (Nat.succ_pos _)
      · rw [if_neg he]
        exact h.strand (Nat.pos_of_ne_zero he) hlt
  | refuse it hok =>
    have hl := rel_push_len hr it false false
    rw [hok, if_neg (by decide), Nat.add_zero] at hl
    refine ⟨⟨h.rt, h.wf, h.res, h.act, h.le, h.rej, ?_⟩, fun _ hd hlt => h.strand ?_ hlt⟩
    · dsimp only [PSt.depth]
      rw [hl]
      exact h.count
    · dsimp only [PSt.depth] at hd ⊢
      rw [← hl]
      exact hd
  | notify _ hn => exact ⟨⟨h.rt, h.wf, h.res, h.act, h.le, h.rej, h.count⟩, fun e => nomatch e⟩
  | dequeue it hp hit =>
    have hres := h.res (by omega)
    have hq := (rel_pop_len hr).1 it hit
    have hd : (s.delivers ++ [it.id]).length = s.delivers.length + 1 := List.length_append
    refine ⟨⟨?_, h.wf, fun _ => hres, h.act, h.le, h.rej, ?_⟩, fun _ _ _ => .inr (.inr (.inl ?_))⟩
    · have := h.rt
      dsimp only
      omega
    · have := h.count
      dsimp only [PSt.depth] at this ⊢
      omega
    · dsimp only
      omega
  | empty hp hit =>
    -- the queue is empty: nothing can be stranded
    have hres := h.res (by omega)
    have hq := (rel_pop_len hr).2 hit
    rw [if_pos hv]
    refine ⟨⟨?_, h.wf, fun _ => hres, h.act, h.le, h.rej, ?_⟩, fun _ hd _ => absurd hd ?_⟩
    · have := h.rt
      dsimp only
      omega
    · have := h.count
      dsimp only [PSt.depth] at this ⊢
      omega
    · dsimp only [PSt.depth]
      omega
  | hand i hm =>
    have hd := length_erase_succ hm
    have hw : (s.works ++ [i]).length = s.works.length + 1 := List.length_append
    have hres := h.res (by omega)
    rw [if_pos hv]
    refine ⟨⟨?_, ?_, fun _ => hres, h.act, h.le, h.rej, ?_⟩, fun _ _ _ => .inr (.inr (.inr (.inl (Nat.succ_pos _))))⟩
    · have := h.rt
      dsimp only
      omega
    · have := h.wf
      dsimp only
      omega
    · have := h.count
      dsimp only [PSt.depth] at this ⊢
      omega
  | answer _ hne =>
    -- the empty answer closes the round trip: it was the one pending event, and `busy` is reset
    refine ⟨⟨?_, h.wf, h.res, h.act, h.le, h.rej, h.count⟩, fun hr hd hlt => ?_⟩
    · have := h.toPInv0.busy_iff
      dsimp only
      rw [if_neg (by decide)]
      omega
    · rcases h.strand hd hlt with g | g | g | g | ⟨_, g⟩
      · exact .inl g
      · exact .inr (.inl g)
      · exact .inr (.inr (.inl g))
      · exact .inr (.inr (.inr (.inl g)))
      · rw [hr] at g
        cases g
  | disp _ hne =>
    -- the note was the one pending event: the round trip is over
    have hb := h.toPInv0.busy_iff
    refine ⟨⟨?_, by rw [show s.works = [] from ha.1 rfl]; exact Nat.zero_le _, h.res, h.act, h.le, h.rej, h.count⟩,
      fun e => nomatch e⟩
    dsimp only
    rw [if_neg (by decide)]
    omega
  | start i hm hc =>
    have hw := length_erase_succ hm
    have hi : (s.inService ++ [i]).length = s.inService.length + 1 := List.length_append
    have hlt := h.toPInv0.reserved hm
    refine ⟨⟨h.rt, ?_, fun hh => absurd hh ?_, ?_, hlt, h.rej, ?_⟩, fun _ _ _ => .inr (.inr (.inr (.inl ?_)))⟩
    · have := h.wf
      dsimp only
      omega
    · -- the one event in flight is the `QueueDispatchedEvent` behind this payload
      have := h.toPInv0.busy_iff
      have := h.wf
      dsimp only
      omega
    · have := h.act
      dsimp only
      omega
    · have := h.count
      dsimp only [PSt.depth] at this ⊢
      omega
    · have := h.wf
      dsimp only
      omega
  | reject i hm hc => exact absurd (.inr (h.toPInv0.reserved hm)) hc
  | fin i hm =>
    have hi := length_erase_succ hm
    have act := h.act
    have le := h.le
    refine ⟨⟨h.rt, h.wf, fun _ => ?_, ?_, ?_, h.rej, ?_⟩, fun e => nomatch e⟩
    · dsimp only
      omega
    · dsimp only
      omega
    · dsimp only
      omega
    · have := h.count
      dsimp only [PSt.depth] at this ⊢
      omega
  | shift cap n _ => exact absurd ha.2 (by simp [Act.isShift])

end

/-- the protocol invariant is kept by every admissible delivery of the repaired driver, whatever
    the worker and the queue policy (`Adm` admits no shift change: a `ShiftedServer` is covered while
    its capacity stays) -/
theorem step_pinv {c : PCfg} {s : PSt} {ss : SSt} (hv : c.variant = .repaired) (hr : PolRel c.pol s.q ss) (a : Act)
    (ha : Adm s a) (h : PInv c s) : PInv c (step c s a).1 := by
  obtain ⟨b, p, d, e⟩ := step_eff c s a
  obtain ⟨h0, hs⟩ := d.pinv hv hr ha h
  rw [e]
  cases p with
  | true => exact pollIfReady_inv hv h0
  | false => exact ⟨h0, hs rfl⟩

theorem step_inv {c : PCfg} {s : PSt} {ss : SSt} (st : Setting c) (hr : PolRel c.pol s.q ss) (a : Act)
    (ha : Adm s a) (h : PInv c s) : PInv c (step c s a).1 :=
  step_pinv st.hv hr a ha h

def Sched (c : PCfg) : PSt → List Act → Prop
  | _, [] => True
  | s, a :: as => Adm s a ∧ Sched c (step c s a).1 as

instance instDecSched (c : PCfg) : ∀ (as : List Act) (s : PSt), Decidable (Sched c s as)
  | [], _ => isTrue trivial
  | a :: as, s =>
    match (inferInstance : Decidable (Adm s a)), instDecSched c as (step c s a).1 with
    | isTrue h1, isTrue h2 => isTrue ⟨h1, h2⟩
    | isFalse h1, _ => isFalse fun h => h1 h.1
    | _, isFalse h2 => isFalse fun h => h2 h.2


def sstep (c : PCfg) (s : PSt) (ss : SSt) : Act → SSt
  | .arr it => (sPush c.pol ss it false false).1
  | .poll => if s.nPoll = 0 then ss else (sPop c.pol ss 0 0).1
  | _ => ss

def sfinal (c : PCfg) : PSt → SSt → List Act → SSt
  | _, ss, [] => ss
  | s, ss, a :: as => sfinal c (step c s a).1 (sstep c s ss a) as

theorem sstep_err {c : PCfg} {s : PSt} {a : Act} (h1 : ∀ it, a ≠ .arr it) (h2 : a = .poll → s.nPoll = 0) (ss : SSt) :
    sstep c s ss a = ss := by
  cases a with
  | arr it => exact absurd rfl (h1 it)
  | poll => exact if_pos (h2 rfl)
  | _ => rfl

section
variable {c : PCfg} {s b : PSt} {ss : SSt} {a : Act} {r : Res} {p : Bool}

theorem Eff.rel (d : Eff c s a b r p) (hr : PolRel c.pol s.q ss) : PolRel c.pol b.q (sstep c s ss a) := by
  cases d with
  | err a h1 h2 => rw [sstep_err h1 h2]; exact hr
  | accept it | refuse it => exact (polrel_push hr it false false).2
  | dequeue it hp | empty hp => rw [sstep, if_neg hp]; exact (polrel_pop hr 0 0).2
  | _ => exact hr

theorem Eff.limit (d : Eff c s a b r p) (ha : a.isShift = false) : b.limit = s.limit := by
  cases d <;> first | rfl | cases ha

theorem step_rel (hr : PolRel c.pol s.q ss) (a : Act) : PolRel c.pol (step c s a).1.q (sstep c s ss a) :=
  step_ind (I := fun b => PolRel c.pol b.q (sstep c s ss a)) (fun _ _ _ _ h => h) fun _ _ d => d.rel hr

theorem step_limit (a : Act) (ha : a.isShift = false) : (step c s a).1.limit = s.limit :=
  step_ind (I := fun b => b.limit = s.limit) (fun _ _ _ _ h => h) fun _ _ d => d.limit ha

end

end HappyModel.C08.Pipe
