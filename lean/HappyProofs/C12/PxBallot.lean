import HappyProofs.C12.PxStep
import HappyProofs.C12.PxSafe
/-!
`beginBallot` and `startPhase2` keep `Inv`: each is a broadcast (`openSt1`, `openSt2`) followed, when the proposer
answers itself, by the delivery of its own copy (`promiseSt` then `countSt`, `voteSt` then `ackSt`); `startPhase2` then
looks at the acknowledgement count (`phase2St`, `startPhase2_eq`).
-/
namespace HappyModel.C12.Px

/-- phase 2 of `b` opened with value `v`: `Accept` to the acceptors in `D`, nobody counted yet -/
def openSt2 (D : Nat → Prop) [DecidablePred D] (s : St) (b : Nat) (v : Val) : St :=
  { s with started2 := upd s.started2 b (some v), acks := upd s.acks b [],
           mAcpt := fun b' d => if b' = b ∧ D d ∧ d < s.cfg.n then some v else s.mAcpt b' d }

theorem Inv.open2 {s : St} (inv : Inv s) (D : Nat → Prop) [DecidablePred D] {b : Nat} {v : Val}
    (hnone : s.started2 b = none) (hown : s.ownVal b ≠ none) (hsafe : SafeAt s b v) : Inv (openSt2 D s b v) := by
  have noVoteAtB := inv.sem.noVote hnone
  obtain ⟨hacks0, hslots0⟩ := inv.n2.none_ b hnone
  unfold openSt2
  refine ⟨inv.n1.frame rfl, ⟨?_, ?_, ?_, ?_, ?_⟩,
          ⟨?_, inv.sem.vprom, inv.sem.vacc, inv.sem.vmax, inv.sem.pr, ?_⟩,
          inv.learn.frame rfl rfl rfl (fun _ h => h)⟩
  · intro b' hb'
    simp only [upd_apply] at hb' ⊢
    split at hb'
    · cases hb'
    · rename_i hbb
      obtain ⟨a1, a2⟩ := inv.n2.none_ b' hb'
      rw [if_neg hbb]
      exact ⟨a1, fun d => ⟨by rw [if_neg (fun h => hbb h.1)]; exact (a2 d).1, (a2 d).2⟩⟩
  · intro b' d v' hb'
    simp only [upd_apply] at hb' ⊢
    split at hb'
    · rename_i h; obtain ⟨rfl, _, _⟩ := h
      cases hb'
      exact ⟨if_pos rfl, (hslots0 d).2, by simp, noVoteAtB d⟩
    · have hbb : b' ≠ b := by
        intro h; subst h; rw [(hslots0 d).1] at hb'; cases hb'
      rw [if_neg hbb, if_neg hbb]
      exact inv.n2.acpt b' d v' hb'
  · intro b' f hb'
    have hbb : b' ≠ b := by
      intro h; subst h; rw [show s.mAcptd b' f = false from (hslots0 f).2] at hb'; cases hb'
    simp only [upd_other _ _ _ _ hbb]
    exact inv.n2.acptd b' f hb'
  · intro b'
    simp only [upd_apply]
    split
    · simp
    · exact inv.n2.acks b'
  · intro b' hb'
    have hbb : b' ≠ b := by intro h; subst h; exact hown hb'
    simp only [upd_other _ _ _ _ hbb]; exact inv.n2.fresh b' hb'
  · intro a b' v' hv'
    have hbb : b' ≠ b := by intro hb; subst hb; exact noVoteAtB a v' hv'
    simp only [upd_other _ _ _ _ hbb]; exact inv.sem.one a b' v' hv'
  · intro b' v' hs'
    have mono : ∀ b'' v'', SafeAt s b'' v'' → SafeAt (openSt2 D s b v) b'' v'' := fun b'' v'' =>
      safeAt_mono (s := s) rfl (fun _ h => h) (fun a q hq1 => ⟨q, hq1, Nat.le_refl _⟩) (fun a c v'' hx => Or.inl hx)
    simp only [upd_apply] at hs'
    split at hs'
    · rename_i hbb; subst hbb; cases hs'; exact mono _ _ hsafe
    · exact mono _ _ (inv.sem.safe b' v' hs')

/-- the state `_start_phase2` builds before it looks at the acknowledgement count -/
def phase2St (s : St) (b : Nat) : St :=
  let p := b % s.cfg.n
  let v := phase2Val s b
  let selfOk := decide ((s.acc p).promised = some b)
  { s with
    started2 := upd s.started2 b (some v),
    acc := if selfOk then upd s.acc p { (s.acc p) with accepted := some (b, v) } else s.acc,
    acks := upd s.acks b (if selfOk then [p] else []),
    votes := if selfOk then (p, b, v) :: s.votes else s.votes,
    mAcpt := fun b' d => if b' = b ∧ d ≠ p ∧ d < s.cfg.n then some v else s.mAcpt b' d }

theorem startPhase2_eq (s : St) (b : Nat) : startPhase2 s b =
    if s.cfg.q2 ≤ ((phase2St s b).acks b).length then decide_ (phase2St s b) b (phase2Val s b) else phase2St s b := rfl

theorem phase2St_self {s : St} {b : Nat} (hself : (s.acc (b % s.cfg.n)).promised = some b)
    (h1 : s.mAcpt b (b % s.cfg.n) = none) (h2 : s.mAcptd b (b % s.cfg.n) = false) :
    phase2St s b = ackSt (voteSt (openSt2 (fun _ => True) s b (phase2Val s b)) b (b % s.cfg.n) (phase2Val s b)) b (b % s.cfg.n) := by
  simp only [phase2St, ackSt, voteSt, openSt2, upd_same, upd_upd, bcast_upd2 h1, upd2_upd2 h2, hself, decide_true, if_true]

theorem phase2_inv {s : St} (inv : Inv s) {b : Nat} (hnone : s.started2 b = none) (hq : s.cfg.q1 ≤ (s.p1 b).length)
    (hown : s.ownVal b ≠ none) (hp : b % s.cfg.n < s.cfg.n) : Inv (phase2St s b) := by
  obtain ⟨_, hslots0⟩ := inv.n2.none_ b hnone
  have hsafe := safe_from_quorum inv.n1 inv.sem b hnone hq
  by_cases hself : (s.acc (b % s.cfg.n)).promised = some b
  · rw [phase2St_self hself (hslots0 _).1 (hslots0 _).2]
    exact ((inv.open2 (fun _ => True) hnone hown hsafe).vote (d := b % s.cfg.n) (if_pos ⟨rfl, trivial, hp⟩) hp
      (by show leOpt (s.acc _).promised b; rw [hself]; exact Nat.le_refl b)).ack (if_pos ⟨rfl, rfl⟩)
  · have e : phase2St s b = openSt2 (· ≠ b % s.cfg.n) s b (phase2Val s b) := by
      simp only [phase2St, openSt2, decide_eq_false hself, Bool.false_eq_true, if_false]
    rw [e]
    exact inv.open2 (· ≠ b % s.cfg.n) hnone hown hsafe

theorem startPhase2_inv {s : St} (inv : Inv s) (b : Nat)
    (hnone : s.started2 b = none) (hq : s.cfg.q1 ≤ (s.p1 b).length)
    (hown : s.ownVal b ≠ none) (hp : b % s.cfg.n < s.cfg.n) : Inv (startPhase2 s b) := by
  have inv2 := phase2_inv inv hnone hq hown hp
  rw [startPhase2_eq]
  split
  · rename_i hq2; exact decide_inv inv2 b _ ⟨b, chosen_of_acks inv2.n2 (upd_same _ _ _) hq2⟩
  · exact inv2

/-- ballot `b` of node `p` registered with value `v`: `Prepare` to the acceptors in `D`, no promise counted yet -/
def openSt1 (D : Nat → Prop) [DecidablePred D] (s : St) (p b : Nat) (v : Val) : St :=
  { s with ownVal := upd s.ownVal b (some v), live := upd s.live b true, cur := upd s.cur p (b / s.cfg.n),
           p1 := upd s.p1 b [],
           mPrep := fun b' d => if b' = b ∧ D d ∧ d < s.cfg.n then true else s.mPrep b' d }

theorem Inv.open1 {s : St} (inv : Inv s) (D : Nat → Prop) [DecidablePred D] (p : Nat) {b : Nat} (v : Val)
    (hown0 : s.ownVal b = none) : Inv (openSt1 D s p b v) := by
  obtain ⟨_, hslots⟩ := inv.n1.fresh b hown0
  have hne : ∀ b', (upd s.ownVal b (some v)) b' = none → b' ≠ b := by
    intro b' hb' h; subst h; rw [upd_same] at hb'; cases hb'
  unfold openSt1
  refine ⟨⟨?_, ?_, ?_, ?_⟩, ⟨inv.n2.none_, inv.n2.acpt, inv.n2.acptd, inv.n2.acks, ?_⟩,
          inv.sem.frame rfl, inv.learn.frame rfl rfl rfl (fun _ h => h)⟩
  · intro b' d hb'
    simp only [upd_apply] at hb' ⊢
    split at hb'
    · rename_i h; obtain ⟨rfl, _, hdn⟩ := h
      exact ⟨hdn, (hslots d).2, by simp⟩
    · have hbb : b' ≠ b := by intro h; subst h; rw [(hslots d).1] at hb'; cases hb'
      rw [if_neg hbb]; exact inv.n1.prep b' d hb'
  · intro b' f r hb'
    have hbb : b' ≠ b := by
      intro h; subst h; rw [show s.mProm b' f = none from (hslots f).2] at hb'; cases hb'
    simp only [upd_other _ _ _ _ hbb]
    exact inv.n1.prom b' f r hb'
  · intro b'
    simp only [upd_apply]
    split
    · simp
    · exact inv.n1.p1 b'
  · intro b' hb'
    have hbb := hne b' hb'
    simp only [upd_other _ _ _ _ hbb] at hb' ⊢
    obtain ⟨a1, a2⟩ := inv.n1.fresh b' hb'
    exact ⟨a1, fun d => ⟨by rw [if_neg (fun h => hbb h.1)]; exact (a2 d).1, (a2 d).2⟩⟩
  · intro b' hb'
    have hbb := hne b' hb'
    simp only [upd_other _ _ _ _ hbb] at hb'
    exact inv.n2.fresh b' hb'

theorem beginBallot_self {s : St} {p b : Nat} (v : Val) (hle : leOpt (s.acc p).promised b)
    (h1 : s.mPrep b p = false) (h2 : s.mProm b p = none) :
    beginBallot s p b v = countSt (promiseSt (openSt1 (fun _ => True) s p b v) b p) b p (s.acc p).accepted := by
  simp only [beginBallot, countSt, promiseSt, openSt1, upd_same, upd_upd, bcast_upd2 h1, upd2_upd2 h2, hle, decide_true, if_true]

theorem beginBallot_inv {s : St} (inv : Inv s) (p b : Nat) (v : Val) (hpn : p < s.cfg.n)
    (hown0 : s.ownVal b = none) : Inv (beginBallot s p b v) := by
  obtain ⟨_, hslots⟩ := inv.n1.fresh b hown0
  by_cases hle : leOpt (s.acc p).promised b
  · rw [beginBallot_self v hle (hslots _).1 (hslots _).2]
    exact ((inv.open1 (fun _ => True) p v hown0).promise (d := p) (if_pos ⟨rfl, trivial, hpn⟩) hpn hle).count
      (r := (s.acc p).accepted) (if_pos ⟨rfl, rfl⟩) (by show upd s.ownVal b (some v) b ≠ none; rw [upd_same]; nofun)
  · have e : beginBallot s p b v = openSt1 (· ≠ p) s p b v := by
      simp only [beginBallot, openSt1, decide_eq_false hle, Bool.false_eq_true, if_false]
    rw [e]
    exact inv.open1 (· ≠ p) p v hown0

end HappyModel.C12.Px
