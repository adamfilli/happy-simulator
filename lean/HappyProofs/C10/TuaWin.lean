import HappyProofs.C10.Tua
import HappyProofs.C10.Fixed
namespace HappyModel.C10

/-- reachable fixed-window states: the current window start is aligned and not in the future, the counter within `N`
    (`FInv` with the empty history, `FW.Ok.inv`, and `cnt ≤ N` also while no window is open) -/
def FW.Ok (c : WCfg) (s : FW) (t : Nat) : Prop :=
  s.cnt ≤ c.N ∧ ∀ w, s.cur = some w → ∃ k0, w = k0 * c.W ∧ w ≤ t

section fw
variable (c : WCfg) (s : FW) (t : Nat)

theorem FW.Ok.inv {c : WCfg} {s : FW} {t : Nat} (h : FW.Ok c s t) : FInv c s [] t :=
  ⟨fun _ => rfl, fun w hw => by
    obtain ⟨k0, a, b⟩ := h.2 w hw
    exact ⟨k0, a, b, by simp, by simp [cntWin], h.1⟩⟩

theorem FW.Ok.later {c : WCfg} {s : FW} {t t' : Nat} (h : FW.Ok c s t) (ht : t ≤ t') : FW.Ok c s t' :=
  ⟨h.1, fun w hw => by obtain ⟨k0, a, b⟩ := h.2 w hw; exact ⟨k0, a, Nat.le_trans b ht⟩⟩

theorem FW.reset_cur (hW : 0 < c.W) (s : FW) (t : Nat) (h : FW.Ok c s t) :
    (s.reset c t).cur = some (t / c.W * c.W) :=
  (FW.reset_spec c hW s [] t h.inv).1

theorem FW.reset_fix (r : FW) (t' : Nat) (k : Nat) (h : r.cur = some (k * c.W))
    (hk : t' / c.W = k) : r.reset c t' = r := by
  unfold FW.reset; rw [h, hk]; exact if_neg (Nat.lt_irrefl _)

theorem FW.reset_cur_gt (hW : 0 < c.W) (s : FW) (t : Nat) :
    ∃ w, (s.reset c t).cur = some w ∧ t < w + c.W := by
  have hlt := Nat.lt_div_mul_add (a := t) hW
  cases hc : s.cur with
  | none => exact ⟨_, by unfold FW.reset; rw [hc], hlt⟩
  | some w =>
    by_cases h : w < t / c.W * c.W
    · exact ⟨_, by rw [FW.reset_advance c s t w hc h], hlt⟩
    · have e : s.reset c t = s := by unfold FW.reset; rw [hc]; exact if_neg h
      refine ⟨w, by rw [e]; exact hc, ?_⟩
      exact Nat.lt_of_lt_of_le hlt (Nat.add_le_add_right (Nat.le_of_not_lt h) _)

theorem FW.Ok.reset {c : WCfg} (hW : 0 < c.W) {s : FW} {t : Nat} (h : FW.Ok c s t) : FW.Ok c (s.reset c t) t := by
  obtain ⟨r1, _, _, r4⟩ := FW.reset_spec c hW s [] t h.inv
  exact ⟨r4, fun w hw => by rw [r1] at hw; cases hw; exact ⟨t / c.W, rfl, Nat.div_mul_le_self _ _⟩⟩

theorem fw_stable (hW : 0 < c.W) : Stable (fwPolicy c) (FW.Ok c) :=
  (fwNorm c).stable (fun _ _ _ h ht => h.later ht) (fun _ _ h => h.reset hW)
    (fun _ _ h _ hok => ⟨Nat.succ_le_of_lt hok, h.2⟩)

theorem FW.tua_full (hW : 0 < c.W) (s : FW) (t : Nat) (h : FW.Ok c s t) (hq : ¬ (s.reset c t).cnt < c.N) :
    (FW.tua c s t).2 = t / c.W * c.W + c.W - t := by
  have hlt := Nat.lt_div_mul_add (a := t) hW
  simp only [FW.tua, FW.wait, hq, if_false, FW.reset_cur c hW s t h]
  rw [if_neg (by omega)]

theorem fw_waitPos (hW : 0 < c.W) : (fwNorm c).WaitPos := by
  intro s t h
  change ¬ (s.reset c t).cnt < c.N at h
  obtain ⟨w, hw, hlt⟩ := FW.reset_cur_gt c hW s t
  show 0 < (s.reset c t).wait c t
  unfold FW.wait
  rw [if_neg h, hw]
  show 0 < if w + c.W ≤ t then 0 else w + c.W - t
  rw [if_neg (Nat.not_le.mpr hlt)]
  exact Nat.sub_pos_of_lt hlt

theorem fw_timed (hW : 0 < c.W) : (fwNorm c).Timed (FW.Ok c) where
  comp s t _ t' t'' _ h2 := FW.reset_reset c _ h2
  early s t t' hg hok h1 h2 := by
    have hlt := Nat.lt_div_mul_add (a := t) hW
    change ¬ (s.reset c t).cnt < c.N at hok
    change t' < t + (FW.tua c s t).2 at h2
    rw [FW.tua_full c hW s t hg hok] at h2
    show ¬ ((s.reset c t).reset c t').cnt < c.N
    rw [FW.reset_fix c _ t' (t / c.W) (FW.reset_cur c hW s t hg)
      (Nat.div_eq_of_lt_le (Nat.le_trans (Nat.div_mul_le_self t c.W) h1) (by rw [Nat.add_mul, Nat.one_mul]; omega))]
    exact hok

theorem fw_tua_reaches_admission (hW : 0 < c.W) (hN : 1 ≤ c.N) (s : FW) (t : Nat)
    (h : FW.Ok c s t) :
    (FW.tua c s t).2 = 0 ∨ (FW.tua c (FW.tua c s t).1 (t + (FW.tua c s t).2)).2 = 0 := by
  have rc := FW.reset_cur c hW s t h
  by_cases hq : (s.reset c t).cnt < c.N
  · exact .inl (if_pos hq)
  · right
    have hlt := Nat.lt_div_mul_add (a := t) hW
    have hlo := Nat.div_mul_le_self t c.W
    have e1 := FW.tua_full c hW s t h hq
    -- the wait ends at the start of the next window, where the counter is reset
    have e2 : t + (FW.tua c s t).2 = (t / c.W + 1) * c.W := by rw [e1, Nat.add_mul, Nat.one_mul]; omega
    rw [e2]
    simp only [FW.tua]
    rw [FW.reset_advance c _ _ _ rc (by rw [Nat.mul_div_cancel _ hW, Nat.add_mul, Nat.one_mul]; omega)]
    exact if_pos hN

end fw

section sw
variable (c : WCfg) (s : SW) (t : Nat)

theorem SW.prune_head (t o : Nat) (rest : List Nat) (h : (s.prune c t).log = o :: rest) :
    ¬ o + c.W < t := by
  have := List.head?_dropWhile_not (fun e => decide (e + c.W < t)) s.log
  rw [show s.log.dropWhile _ = o :: rest from h] at this
  exact of_decide_eq_false this

theorem sw_prune_keep (o : Nat) (rest : List Nat) (t' : Nat) (h : ¬ o + c.W < t') :
    (⟨o :: rest⟩ : SW).prune c t' = ⟨o :: rest⟩ := by
  unfold SW.prune; rw [List.dropWhile_cons_of_neg (by simpa using h)]

theorem sw_prune_drop (o : Nat) (rest : List Nat) (t' : Nat) (h : o + c.W < t') :
    ((⟨o :: rest⟩ : SW).prune c t').log.length ≤ rest.length := by
  unfold SW.prune
  rw [List.dropWhile_cons_of_pos (by simpa using h)]
  exact (List.dropWhile_sublist _).length_le

theorem SW.prune_length_le : (s.prune c t).log.length ≤ s.log.length :=
  (List.dropWhile_sublist _).length_le

theorem sw_tua_zero_of_lt (h : (s.prune c t).log.length < c.N) :
    (SW.tua c s t).2 = 0 := by
  unfold SW.tua; rw [if_pos h]

theorem sw_tua_of_full (t o : Nat) (rest : List Nat)
    (h : (s.prune c t).log = o :: rest) (hf : ¬ (s.prune c t).log.length < c.N) :
    (SW.tua c s t).2 = (if o + c.W - t = 0 then 1 else o + c.W - t) := by
  unfold SW.tua; simp only [hf, if_false]; rw [h]

theorem sw_stable : Stable (swPolicy c) (fun s _ => s.log.length ≤ c.N) :=
  (swNorm c).stable (fun _ _ _ h _ => h) (fun s t h => Nat.le_trans (SW.prune_length_le c s t) h)
    (fun _ _ _ _ hok => Nat.le_trans (Nat.le_of_eq List.length_append) (Nat.succ_le_of_lt hok))

theorem sw_waitPos (hN : 1 ≤ c.N) : (swNorm c).WaitPos := by
  intro s t h
  change ¬ (s.prune c t).log.length < c.N at h
  show 0 < SW.wait c (s.prune c t) t
  unfold SW.wait
  split
  · next he => rw [he] at h; exact absurd hN h
  · split <;> omega

theorem sw_timed : (swNorm c).Timed (fun _ _ => True) where
  comp s t _ t' t'' _ h2 := SW.prune_prune c _ h2
  early s t t' _ hok h1 h2 := by
    change t' < t + SW.wait c (s.prune c t) t at h2
    show ¬ ((s.prune c t).prune c t').log.length < c.N
    unfold SW.wait at h2
    cases hl : (s.prune c t).log with
    | nil => rw [hl] at h2; exact absurd h1 (Nat.not_le.mpr h2)
    | cons o rest =>
      rw [hl] at h2
      have := SW.prune_head c s t o rest hl
      have e : s.prune c t = ⟨o :: rest⟩ := congrArg SW.mk hl
      rw [e, sw_prune_keep c o rest t' (by simp only at h2; split at h2 <;> omega), ← e]
      exact hok

/-- sliding window: zero is reached after at most two positive waits (the expiry instant itself is
    still inside the closed window, so the second wait is the 1 ns guard) -/
theorem sw_tua_reaches_admission (hN : 1 ≤ c.N) (s : SW) (t : Nat)
    (hlen : s.log.length ≤ c.N) :
    (SW.tua c s t).2 = 0 ∨
    (SW.tua c (SW.tua c s t).1 (t + (SW.tua c s t).2)).2 = 0 ∨
    (SW.tua c (SW.tua c (SW.tua c s t).1 (t + (SW.tua c s t).2)).1
        (t + (SW.tua c s t).2 + (SW.tua c (SW.tua c s t).1 (t + (SW.tua c s t).2)).2)).2 = 0 := by
  by_cases hq : (s.prune c t).log.length < c.N
  · exact .inl (sw_tua_zero_of_lt c s t hq)
  · have hpl := SW.prune_length_le c s t
    cases hl : (s.prune c t).log with
    | nil => rw [hl] at hq; exact absurd hN hq
    | cons o rest =>
      rw [hl] at hpl hq
      have hh := SW.prune_head c s t o rest hl
      have e : s.prune c t = ⟨o :: rest⟩ := congrArg SW.mk hl
      -- once `o` has expired the log is short
      have z : ∀ t', o + c.W < t' → (SW.tua c ⟨o :: rest⟩ t').2 = 0 := fun t' h =>
        sw_tua_zero_of_lt _ _ _ (Nat.lt_of_le_of_lt (sw_prune_drop c o rest t' h) (by simp only [List.length_cons] at hpl; omega))
      rw [SW.tua_fst, sw_tua_of_full c s t o rest hl (by rwa [hl]), e]
      right
      by_cases hz : o + c.W - t = 0
      · -- we are exactly at the expiry instant: the guard moves 1 ns past it
        rw [if_pos hz]; exact .inl (z _ (by omega))
      · have keep := sw_prune_keep c o rest (o + c.W) (Nat.lt_irrefl _)
        rw [if_neg hz, Nat.add_sub_cancel' (Nat.le_of_lt (Nat.lt_of_sub_ne_zero hz)), SW.tua_fst,
          sw_tua_of_full c ⟨o :: rest⟩ (o + c.W) o rest (by rw [keep]) (by rwa [keep]), keep, Nat.sub_self, if_pos rfl]
        exact .inr (z _ (Nat.lt_succ_self _))

end sw

end HappyModel.C10
