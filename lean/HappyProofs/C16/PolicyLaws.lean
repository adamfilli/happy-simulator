import HappyModel.C16.Policies
/-!
The contract every eviction policy keeps with its cache, uniformly for all nine (`Pol`):
under the per-policy representation invariant `Pol.Inv`, each call updates the tracked key set
(`Pol.tracked`) exactly like a set, and `evict` returns a key iff the set is non-empty
(`Pol.access_law` … `Pol.evictOk` in `PolicyCalls.lean`).
-/
namespace HappyModel.C16

/-- representation invariant of each policy -/
def Pol.Inv : Pol → Prop
  | .lru s => s.order.Nodup
  | .lfu s => (akeys s.counts).Nodup
  | .ttl s => (akeys s.times).Nodup
  | .fifo s => s.order.Nodup
  | .rnd s => s.keys.Nodup
  | .slru s => (s.prob ++ s.prot).Nodup
  | .sampled s => (akeys s.times).Nodup
  | .clock s => (akeys s.ring).Nodup ∧ (s.ring = [] → s.hand = 0) ∧ (s.ring ≠ [] → s.hand < s.ring.length)
  | .twoq s => (s.a1in ++ s.am).Nodup

end HappyModel.C16
