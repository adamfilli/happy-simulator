import HappyModel.C12.ElSoup
import HappyProofs.C12.ElRing
import HappyProofs.C12.ElBase
/-!
# C12 — identical static member views: every strategy only ever announces the highest node

Invariant of the message-soup system `El.Sys` started from identical views of `n` nodes: every `Victory`
and every `LeaderHeartbeat` in the soup names node `n - 1`, every ring `Token` has collected the nodes of the
ring segment it has travelled, and every node's `current_leader` is `n - 1` or unset.
-/
namespace HappyModel.C12.El

theorem maxOf_le {l : List Nat} {m : Nat} (hle : ∀ c ∈ l, c ≤ m) : maxOf l ≤ m := by
  induction l with
  | nil => simp [maxOf]
  | cons x xs ih =>
    simp only [maxOf]
    have hx : x ≤ m := hle x List.mem_cons_self
    have := ih (fun c hc => hle c (List.mem_cons_of_mem _ hc))
    omega

theorem le_maxOf {l : List Nat} {m : Nat} (hm : m ∈ l) : m ≤ maxOf l := by
  induction l with
  | nil => cases hm
  | cons x xs ih =>
    simp only [maxOf]
    rcases List.mem_cons.1 hm with rfl | hm'
    · omega
    · have := ih hm'; omega

theorem maxOf_eq {l : List Nat} {m : Nat} (hm : m ∈ l) (hle : ∀ c ∈ l, c ≤ m) : maxOf l = m :=
  Nat.le_antisymm (maxOf_le hle) (le_maxOf hm)

def goodMsg (n : Nat) : Msg → Prop
  | .victory _ l _ => l = n - 1
  | .lhb _ l _ => l = n - 1
  | .token d init cands _ =>
    init < n ∧ (∀ c ∈ cands, c < n) ∧
      ∃ k, 1 ≤ k ∧ k ≤ n ∧ d = (init + k) % n ∧ ∀ j, j < k → (init + j) % n ∈ cands
  | _ => True

def LOK (n : Nat) (nd : Node) : Prop := ∀ l, nd.leader = some l → l = n - 1

def MOK (n : Nat) (nd : Node) : Prop := nd.members.Nodup ∧ ∀ x, x ∈ nd.members ↔ x < n

structure SInv (n : Nat) (y : Sys) : Prop where
  len : y.st.nodes.length = n
  mem : ∀ i, i < n → MOK n (getNode y.st i)
  ldr : ∀ i, i < n → LOK n (getNode y.st i)
  soup : ∀ m ∈ y.soup, goodMsg n m

theorem SInv.update {n : Nat} {y : Sys} (h : SInv n y) (p : Nat) (nd' : Node) (msgs : List Msg)
    (hm : nd'.members = (getNode y.st p).members) (hl : LOK n nd') (hg : ∀ m ∈ msgs, goodMsg n m) :
    SInv n { st := setNode y.st p nd', soup := msgs ++ y.soup } := by
  refine ⟨by simp [length_setNode, h.len], ?_, ?_, ?_⟩
  · intro i hi
    simp only [getNode_setNode]
    split
    · rename_i hc; obtain ⟨rfl, _⟩ := hc
      unfold MOK; rw [hm]; exact h.mem i hi
    · exact h.mem i hi
  · intro i hi
    simp only [getNode_setNode]
    split
    · exact hl
    · exact h.ldr i hi
  · intro m hm'
    rcases List.mem_append.1 hm' with h1 | h1
    · exact hg m h1
    · exact h.soup m h1

/-- `n - 1` is a member and passes every filter that lets through the nodes above `p`, unless `p` is `n - 1` itself -/
theorem highest_of_filter_nil {n p : Nat} {nd : Node} (hm : MOK n nd) (hp : p < n) {q : Nat → Bool}
    (hq : ∀ x, p < x → q x = true) (h : nd.members.filter q = []) : p = n - 1 := by
  by_cases hc : p = n - 1
  · exact hc
  · have h2 : n - 1 ∈ nd.members.filter q :=
      List.mem_filter.2 ⟨(hm.2 (n - 1)).2 (by omega), hq _ (by omega)⟩
    rw [h] at h2; cases h2

/-- the messages of a new election name a leader only if the node is the highest one -/
theorem electionMsgs_good (n : Nat) (st : Strat) (p term draw : Nat) (nd : Node) (hp : p < n) (hm : MOK n nd) :
    ∀ m ∈ electionMsgs st p nd.members term draw, goodMsg n m := by
  intro m hmem
  cases st with
  | bully =>
    simp only [electionMsgs] at hmem
    split at hmem
    · rename_i hh
      have : p = n - 1 := highest_of_filter_nil hm hp (q := (· > p)) (fun x hx => by simpa using hx) (by simpa using hh)
      simp only [List.mem_map] at hmem
      obtain ⟨x, _, rfl⟩ := hmem
      exact this
    · simp only [List.mem_map] at hmem
      obtain ⟨x, _, rfl⟩ := hmem
      trivial
  | ring =>
    simp only [electionMsgs, List.mem_singleton] at hmem
    subst hmem
    refine ⟨hp, by simp [hp], 1, by omega, by omega, ringNext_eq _ n p hm.1 hm.2 hp, ?_⟩
    intro j hj
    have : j = 0 := by omega
    subst this
    simp [Nat.mod_eq_of_lt hp]
  | rand =>
    simp only [electionMsgs, List.mem_map] at hmem
    obtain ⟨x, _, rfl⟩ := hmem
    trivial

/-- no message at all, or victory messages only: the node is the highest one -/
theorem electionMsgs_self_elect (n : Nat) (st : Strat) (p term draw : Nat) (nd : Node) (hp : p < n) (hm : MOK n nd)
    (h : (electionMsgs st p nd.members term draw).isEmpty = true ∨
         (electionMsgs st p nd.members term draw).all Msg.isVictory = true) : p = n - 1 := by
  cases st with
  | bully =>
    simp only [electionMsgs] at h
    split at h
    · rename_i hh
      exact highest_of_filter_nil hm hp (q := (· > p)) (fun x hx => by simpa using hx) (by simpa using hh)
    · rename_i hh
      exfalso
      cases hf : nd.members.filter (· > p) with
      | nil => simp [hf] at hh
      | cons a t => simp [hf, Msg.isVictory] at h
  | ring =>
    simp [electionMsgs, Msg.isVictory] at h
  | rand =>
    simp only [electionMsgs] at h
    cases hf : nd.members.filter (· != p) with
    | nil => exact highest_of_filter_nil hm hp (q := (· != p)) (fun x hx => by simp; omega) hf
    | cons a t => simp [hf, Msg.isVictory] at h

theorem startElection_ok (n : Nat) (st : Strat) (p : Nat) (nd : Node) (draw : Nat) (hp : p < n)
    (hm : MOK n nd) (hl : LOK n nd) :
    (startElection st p nd draw).1.members = nd.members ∧ LOK n (startElection st p nd draw).1 ∧
    ∀ m ∈ (startElection st p nd draw).2, goodMsg n m := by
  refine ⟨startElection_members st p nd draw, ?_, ?_⟩
  · intro l hl'
    rcases startElection_leader st p nd draw with h | ⟨h, hs⟩
    · rw [h] at hl'; exact hl l hl'
    · rw [h] at hl'
      have := electionMsgs_self_elect n st p (nd.term + 1) draw nd hp hm hs
      cases hl'; exact this
  · intro m hmem
    simp only [startElection, List.mem_filter] at hmem
    exact electionMsgs_good n st p (nd.term + 1) draw nd hp hm m hmem.1

theorem finish_ok (n : Nat) (st : Strat) (d : Nat) (nd : Node) (resp : List Msg) (leader : Option Nat)
    (startOwn suppress : Bool) (draw : Nat) (hd : d < n) (hm : MOK n nd) (hl : LOK n nd)
    (hr : ∀ m ∈ resp, goodMsg n m) (hL : ∀ l, leader = some l → l = n - 1) :
    (finish st d nd resp leader startOwn suppress draw).1.members = nd.members ∧
    LOK n (finish st d nd resp leader startOwn suppress draw).1 ∧
    ∀ m ∈ (finish st d nd resp leader startOwn suppress draw).2, goodMsg n m := by
  have ham : (adopt nd leader).members = nd.members := by cases leader <;> rfl
  have hal : LOK n (adopt nd leader) := by
    cases leader with
    | none => exact hl
    | some l => intro l' h'; simp only [adopt, Option.some.injEq] at h'; subst h'; exact hL l rfl
  have hamk : MOK n (adopt nd leader) := by unfold MOK; rw [ham]; exact hm
  rw [finish_eq]
  have sup : ∀ x : Node, (if suppress then { x with inProg := false } else x).members = x.members ∧
      (LOK n x → LOK n (if suppress then { x with inProg := false } else x)) := by
    intro x; split <;> exact ⟨rfl, id⟩
  by_cases hc : (startOwn && !(adopt nd leader).inProg) = true
  · obtain ⟨h1, h2, h3⟩ := startElection_ok n st d (adopt nd leader) draw hd hamk hal
    simp only [hc, if_true]
    refine ⟨(sup _).1.trans (h1.trans ham), (sup _).2 h2, fun m hmem => ?_⟩
    rcases List.mem_append.1 hmem with h | h
    · exact hr m (List.mem_filter.1 h).1
    · exact h3 m h
  · simp only [hc, Bool.false_eq_true, if_false, List.append_nil]
    exact ⟨(sup _).1.trans ham, (sup _).2 hal, fun m hmem => hr m (List.mem_filter.1 hmem).1⟩

end HappyModel.C12.El
