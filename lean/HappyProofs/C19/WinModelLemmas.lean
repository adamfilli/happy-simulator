import HappyModel.C19.WinModel
/-!
What one action of the stream-processor model does: a `Process` event in the shape of the judge's
own `afterProc` (everything a function of the reported status), and for every action what becomes of the
window list and of the six counters.
-/
namespace HappyModel.C19.Win

/-- the status `stepProc` reports: 0 on time, else 1 + the policy (anything above 1 is UPDATE) -/
def procStatus (cfg : Cfg) (wm : Nat) (r : Rec) : Nat :=
  if isLate cfg wm r.et then min cfg.policy 2 + 1 else 0

theorem startDaemon_eq (cfg : Cfg) (t : Nat) (r : Rec) (s : St) :
    ∃ st wq, startDaemon cfg t r s = { s with started := st, wq := wq } := by
  unfold startDaemon
  split
  · exact ⟨s.started, s.wq, rfl⟩
  · exact ⟨true, _, rfl⟩

theorem stepProc_eq (cfg : Cfg) (t : Nat) (r : Rec) (s : St) : ∃ st wq,
    stepProc cfg t r s =
      ({ s with
          ep := s.ep + 1
          le := if isLate cfg s.wm r.et then s.le + 1 else s.le
          ld := if procStatus cfg s.wm r = 1 then s.ld + 1 else s.ld
          ls := if procStatus cfg s.wm r = 2 then s.ls + 1 else s.ls
          lu := if procStatus cfg s.wm r = 3 then s.lu + 1 else s.lu
          fly := if procStatus cfg s.wm r = 2 && cfg.side then s.fly ++ [r] else s.fly
          wins := if procStatus cfg s.wm r = 0 ∨ procStatus cfg s.wm r = 3 then addWindows cfg r s.wins
                  else s.wins
          started := st
          wq := wq }, procStatus cfg s.wm r) := by
  unfold stepProc procStatus
  by_cases hl : isLate cfg s.wm r.et = true
  · by_cases hp0 : cfg.policy = 0
    · exact ⟨s.started, s.wq, by simp [hl, hp0]⟩
    · by_cases hp1 : cfg.policy = 1
      · exact ⟨s.started, s.wq, by simp [hl, hp1]⟩
      · have hmin : min cfg.policy 2 = 2 := by omega
        simp only [hl, hp0, hp1, hmin, if_true, if_false]
        obtain ⟨st, wq, e⟩ := startDaemon_eq cfg t r
          { s with ep := s.ep + 1, le := s.le + 1, lu := s.lu + 1, wins := addWindows cfg r s.wins }
        exact ⟨st, wq, by rw [e]; simp⟩
  · simp only [hl, if_false, Bool.false_eq_true]
    obtain ⟨st, wq, e⟩ := startDaemon_eq cfg t r { s with ep := s.ep + 1, wins := addWindows cfg r s.wins }
    exact ⟨st, wq, by rw [e]; simp⟩

theorem stepWmA_eq (t : Nat) (ext : Bool) (w : Nat) (s : St) :
    ∃ wq, (stepWmA t ext w s).1 = { s with wm := max s.wm w, wq := wq } := by
  unfold stepWmA
  cases ext with
  | true => exact ⟨s.wq, rfl⟩
  | false =>
    by_cases hc : s.wq.contains (t, w) = true
    · exact ⟨eraseFirst (t, w) s.wq, by simp only [Bool.false_eq_true, if_false, hc, if_true]⟩
    · exact ⟨s.wq, by simp only [Bool.false_eq_true, if_false, hc]⟩

/-- the results of a firing: one for every window that is not yet emitted and whose end the watermark has reached -/
abbrev fired (wm : Nat) (wins : List Win) : List Em := (wins.filter (closable wm)).map toEm

theorem stepWmB_ems (cfg : Cfg) (t : Nat) (s : St) : (stepWmB cfg t s).2 = fired s.wm s.wins := rfl

theorem stepLate_eq (id : Nat) (s : St) :
    (∃ r, s.fly.find? (fun r => r.id == id) = some r ∧
      stepLate id s = ({ s with fly := s.fly.filter fun x => !(x.id == id) }, .late true r)) ∨
    (s.fly.find? (fun r => r.id == id) = none ∧
      stepLate id s = (s, .late false { id := id, key := 0, et := 0, val := 0 })) := by
  unfold stepLate
  cases hf : s.fly.find? (fun r => r.id == id) with
  | some r => exact Or.inl ⟨r, rfl, rfl⟩
  | none => exact Or.inr ⟨rfl, rfl⟩

theorem step_wins (cfg : Cfg) (s : St) (ln : Line) :
    (step cfg s ln).1.wins =
      match ln.act with
      | .proc r =>
        if procStatus cfg s.wm r = 0 ∨ procStatus cfg s.wm r = 3 then addWindows cfg r s.wins else s.wins
      | .wmB =>
        if cfg.kind = 2 then s.wins.filter (fun w => !closable s.wm w) else s.wins.map (markEmitted s.wm)
      | _ => s.wins := by
  obtain ⟨t, act⟩ := ln
  cases act with
  | proc r =>
    obtain ⟨st, wq, e⟩ := stepProc_eq cfg t r s
    simp only [step, e]
  | wmA ext w =>
    obtain ⟨wq, e⟩ := stepWmA_eq t ext w s
    simp only [step, e]
  | wmB => rfl
  | lateRecv id =>
    rcases stepLate_eq id s with ⟨r, _, e⟩ | ⟨_, e⟩ <;> simp only [step, e]
  | fin => rfl

end HappyModel.C19.Win
