import HappyProofs.C14.TxnRunInv
namespace HappyModel.C14.SM.LM
open HappyModel.C14 HappyModel.C14.BT

variable {ok : Store → Prop} {init : Key → Option Nat} {ops : List (Nat × TOp)} {tm : TM}
  {fs fs' : List (Frame TPc)} {n : Nat} {tlog : List (Nat × Ev)}

/-- a read that is still inside the store's `get` belongs to an active transaction -/
theorem RInv.inflight (R : RInv ok init ops tm fs n tlog) (hwf : WFProg ops) {id b s : Nat} {k : Key}
    {f : Frame TPc} (hlk : ops.lookup id = some (.read s k)) (hf : frameOf fs id = some f) (hb : f.b = some b)
    (hnd : f.pc.isDone = false) :
    ∃ (j : SPc) (tx : Tx), f.pc = .rd s k j ∧ (wsetBefore ops id s).lookup k = none ∧
      tm.tx? s = some tx ∧ tx.stat = .active ∧ k ∈ tx.rset := by
  rcases (R.frames id f _ hf hlk).kind b hb with ⟨j, h1, h2, tx, h3, h4⟩ | ⟨c, h1, _⟩
  · obtain ⟨pre, post, hsp⟩ := lookup_split hlk
    exact ⟨j, tx, h1, h2, h3, R.active hwf hsp hf hnd (fun h => by cases h) h3, h4⟩
  · rw [h1] at hnd
    cases hnd

theorem mem_log_new (tlog : List (Nat × Ev)) (n : Nat) (e : Ev) :
    (n, e) ∈ tlog ++ [e].map fun e => (n, e) := by simp

theorem readAdvance_cases (tm : TM) (s : Nat) (k : Key) (p : SPc) :
    (∃ r, (readAdvance tm s k p).2 = .done r) ∨ ∃ p', (readAdvance tm s k p).2 = .rd s k p' := by
  unfold readAdvance
  split
  · exact .inl ⟨_, rfl⟩
  · exact .inl ⟨_, rfl⟩
  · exact .inr ⟨_, rfl⟩

/-- for a store whose `get` is `.wait (.get k) j` (KVStore, B-tree) a completing read returns `fetchVal` outright -/
theorem fetch_of_wait (tm : TM) (s : Nat) (k : Key) (j : Nat) (r : SRes)
    (h : (readAdvance tm s k (.wait (.get k) j)).2 = .done r) : r = .val (fetchVal tm s k) := by
  rcases readAdvance_wait tm s k j with e | ⟨j', e⟩ <;> rw [e] at h
  · injection h with h
    exact h.symm
  · cases h

/-- the segment of a read in which the store's `get` generator runs on, from `p` -/
theorem eff_get (L : MapLaws ok) {tm' : TM} {id b s : Nat} {k : Key} {p : SPc} {tx : Tx}
    (hI : Inv ok init tm' (tlog.map (·.2))) (hI2 : Inv2 init tm' (tlog.map (·.2)))
    (hx : tm'.tx? s = some tx) (ha : tx.stat = .active) (hk : k ∈ tx.rset)
    (hlook : (wsetBefore ops id s).lookup k = none) (hbn : b ≤ n)
    (hF : ∀ r, (readAdvance tm' s k p).2 = .done r → r = .val (fetchVal tm' s k)) :
    ∃ evs, Eff ok init ops tlog n id b (.read s k) tm' (readAdvance tm' s k p).2 evs := by
  rcases readAdvance_cases tm' s k p with ⟨r, hr⟩ | ⟨p', hp⟩
  · obtain rfl := hF r hr
    rw [hr]
    obtain ⟨j1, j2⟩ := inv_act L hI hI2 (stepA_readFetch hx ha hk)
    refine ⟨[.fetched s k (fetchVal tm' s k)], j1, j2, Nat.le_refl _, fun f' hpc he => ?_, fun _ _ h => by simp at h⟩
    refine .inr ⟨_, hpc, fun v' hv' => ?_, fun _ => ?_⟩
    · rw [hlook] at hv'
      cases hv'
    · exact ⟨n, n, by simpa [TPc.isDone] using he, hbn, Nat.le_refl _, mem_log_new _ _ _⟩
  · rw [hp]
    exact ⟨[], .silent (by rwa [List.append_nil]) (by rwa [List.append_nil]) fun f' hpc =>
      .inl ⟨p', hpc, hlook, tx, hx, hk⟩⟩

theorem eff1_stepT (L : MapLaws ok)
    (hF1 : ∀ s k r, (readAdvance (tm.readStart s k) s k (.start (.get k))).2 = .done r →
      r = .val (fetchVal (tm.readStart s k) s k))
    (R : RInv ok init ops tm fs n tlog) {pre post : List (Nat × TOp)} {id : Nat} {op : TOp}
    (FF : FirstFacts ops tm fs n pre post id op) :
    Upd tm (stepT tm (.start op)).1 op ∧
    ∃ evs, Eff ok init ops tlog n id n op (stepT tm (.start op)).1 (stepT tm (.start op)).2 evs := by
  have u := upd_start FF.fresh FF.active
  refine ⟨u, ?_⟩
  cases op with
  | «begin» s l =>
    have hx : tm.tx? s = none := FF.fresh rfl
    obtain ⟨i1, i2⟩ := inv_act L R.inv R.inv2 (stepA_begin l hx)
    obtain ⟨tx', h1, _, _, _, h5, _⟩ := u.self
    exact ⟨[.began s], i1, i2, Nat.le_refl _,
      fun f' hpc _ => ⟨⟨_, .inl hpc⟩, mem_log_new _ _ _, tx', h1, h5 l rfl⟩, fun _ _ h => by simp at h⟩
  | write s k v =>
    obtain ⟨i1, i2⟩ := inv_act L R.inv R.inv2 (a := .write s k v) rfl
    exact ⟨[], .silent i1 i2 fun f' hpc => ⟨_, .inl hpc⟩⟩
  | abort s =>
    obtain ⟨i1, i2⟩ := inv_act L R.inv R.inv2 (a := .abort s) rfl
    exact ⟨[], .silent i1 i2 fun f' hpc => ⟨_, hpc⟩⟩
  | commit s =>
    obtain ⟨tx, hx, ha⟩ := FF.active rfl
    replace hx : tm.tx? s = some tx := hx
    have hw' : tx.wset = wsetBefore ops id s := by simpa [curW, TOp.slot, hx] using FF.wset
    obtain ⟨i1, i2⟩ := inv_act L R.inv R.inv2 (stepA_commit hx)
    show ∃ evs, Eff ok init ops tlog n id n (.commit s) (tm.commit s).1
      (if (tm.commit s).2 then .fin (.flag true) else .done (.flag false)) evs
    cases hc : (tm.commit s).2 with
    | true =>
      rw [hc, if_pos rfl] at i1 i2
      refine ⟨[.committed s tx.wset], i1, i2, Nat.le_refl _, fun f' hpc _ => ?_, fun s' w h => ?_⟩
      · exact ⟨.inl hpc, fun _ => hw' ▸ mem_log_new _ _ _⟩
      · cases List.mem_singleton.1 h
        exact ⟨rfl, rfl, rfl, hw'⟩
    | false =>
      rw [hc, if_neg Bool.false_ne_true] at i1 i2
      refine ⟨[], .silent i1 i2 fun f' hpc => ⟨.inr ⟨false, hpc⟩, fun h => ?_⟩⟩
      rw [hpc] at h
      rcases h with h | h <;> cases h
  | read s k =>
    obtain ⟨tx, hx, ha⟩ := FF.active rfl
    replace hx : tm.tx? s = some tx := hx
    have hw' : tx.wset = wsetBefore ops id s := by simpa [curW, TOp.slot, hx] using FF.wset
    obtain ⟨i1, i2⟩ := inv_act L R.inv R.inv2 (a := .readStart s k) rfl
    rw [List.append_nil] at i1 i2
    rw [(stepT_state tm).2.1] at u
    obtain ⟨tx1, h1, _, _, h4, _, h6⟩ := u.self
    cases hlk : tx.wset.lookup k with
    | some v =>
      rw [stepT_read_own (by rw [hx]; exact hlk)]
      refine ⟨[], .silent (by rwa [List.append_nil]) (by rwa [List.append_nil]) fun f' hpc =>
        .inr ⟨some v, hpc, fun v' hv' => ?_, fun hn => ?_⟩⟩
      · rw [← hw', hlk] at hv'
        rw [hv']
      · rw [← hw', hlk] at hn
        cases hn
    | none =>
      rw [stepT_read_store (by rw [hx]; exact hlk), readAdvance_state]
      exact eff_get L i1 i2 h1 (h4 rfl) (h6 k rfl) (hw' ▸ hlk) (Nat.le_refl n) (hF1 s k)

theorem eff2_stepT (L : MapLaws ok) (R : RInv ok init ops tm fs n tlog) (hwf : WFProg ops) {id b : Nat} {op : TOp}
    {f : Frame TPc} (hlk : ops.lookup id = some op) (hf : frameOf fs id = some f) (hb : f.b = some b)
    (hnd : f.pc.isDone = false)
    (hF2 : ∀ s k p, f.pc = .rd s k p → ∀ r, (readAdvance tm s k p).2 = .done r → r = .val (fetchVal tm s k)) :
    (stepT tm f.pc).1 = tm ∧ ∃ evs, Eff ok init ops tlog n id b op tm (stepT tm f.pc).2 evs := by
  have K := (R.frames id f op hf hlk).kind b hb
  have i1 : Inv ok init tm (tlog.map (·.2) ++ []) := by rw [List.append_nil]; exact R.inv
  have i2 : Inv2 init tm (tlog.map (·.2) ++ []) := by rw [List.append_nil]; exact R.inv2
  cases op with
  | «begin» s l =>
    obtain ⟨⟨r, h | h⟩, hev, htx⟩ := K
    · rw [h]
      exact ⟨rfl, [], .silent i1 i2 fun f' hpc => ⟨⟨r, .inr hpc⟩, hev, htx⟩⟩
    · rw [h] at hnd; cases hnd
  | write s k v =>
    obtain ⟨r, h | h⟩ := K
    · rw [h]
      exact ⟨rfl, [], .silent i1 i2 fun f' hpc => ⟨r, .inr hpc⟩⟩
    · rw [h] at hnd; cases hnd
  | abort s =>
    obtain ⟨r, h⟩ := K
    rw [h] at hnd; cases hnd
  | commit s =>
    obtain ⟨h | ⟨fl, h⟩, hev⟩ := K
    · rw [h]
      exact ⟨rfl, [], .silent i1 i2 fun f' hpc => ⟨.inr ⟨true, hpc⟩, fun _ => hev (.inl h)⟩⟩
    · rw [h] at hnd; cases hnd
  | read s k =>
    obtain ⟨j, tx, hpc0, hlook, htx, hact, hk⟩ := R.inflight hwf hlk hf hb hnd
    rw [hpc0]
    exact ⟨readAdvance_state _ _ _ _, eff_get L R.inv R.inv2 htx hact hk hlook
      (Nat.le_of_lt ((R.frames id f _ hf hlk).blt b hb)) (hF2 s k j hpc0)⟩

end HappyModel.C14.SM.LM
