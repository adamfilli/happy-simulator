import HappyProofs.Lib.Lists
namespace HappyModel.C09

theorem mem_snoc {α} {x a : α} {l : List α} (h : x ∈ l ++ [a]) : x ∈ l ∨ x = a :=
  (List.mem_append.1 h).imp_right List.mem_singleton.1

theorem snoc_all {α} {P : α → Prop} {l : List α} {a : α} (h : ∀ x ∈ l, P x) (ha : P a) : ∀ x ∈ l ++ [a], P x :=
  fun x hx => (mem_snoc hx).elim (h x) fun e => e ▸ ha

theorem nodup_of_map {α β : Type} (f : α → β) (l : List α) (h : (l.map f).Nodup) : l.Nodup := by
  rw [List.Nodup, List.pairwise_map] at h
  exact h.imp (by intro a b hne heq; exact hne (by rw [heq]))

theorem keyed_entry {l : List (Nat × Nat)} {k v : Nat} (hnd : (l.map (·.1)).Nodup) (hm : (k, v) ∈ l) :
    l.find? (·.1 == k) = some (k, v) ∧ l.filter (· != (k, v)) = l.filter (·.1 != k) :=
  ⟨find_key (·.1) hnd hm, List.filter_congr fun x hx => congrArg not (Bool.eq_iff_iff.2 (by
    simp only [beq_iff_eq]
    exact ⟨fun h => h ▸ rfl, inj_of_nodup_map (·.1) hnd hx hm⟩))⟩

theorem find_fst (l : List (Nat × Nat)) (tid : Nat) (h : tid ∈ l.map (·.1)) :
    ∃ e, l.find? (·.1 == tid) = some e ∧ e.1 = tid ∧ e ∈ l := by
  cases hf : l.find? (·.1 == tid) with
  | none =>
    obtain ⟨e, he, rfl⟩ := List.mem_map.1 h
    exact absurd (by simp) (List.find?_eq_none.1 hf e he)
  | some e => exact ⟨e, rfl, by simpa using List.find?_some hf, List.mem_of_find?_eq_some hf⟩

theorem filter_fst_erase (l : List (Nat × Nat)) (tid : Nat) (h : (l.map (·.1)).Nodup) :
    (l.filter (·.1 != tid)).map (·.1) = (l.map (·.1)).erase tid := by
  rw [List.Nodup.erase_eq_filter h, List.filter_map]
  rfl

theorem filter_ne_length_nodup {α : Type} [BEq α] [LawfulBEq α] (l : List α) (x : α) (hnd : l.Nodup) (hm : x ∈ l) :
    (l.filter (· != x)).length + 1 = l.length := by
  rw [← hnd.erase_eq_filter, List.length_erase_of_mem hm]
  have := List.length_pos_of_mem hm
  omega

theorem filter_ne_cons {c : Nat} {rest : List Nat} (h : (c :: rest).Nodup) : (c :: rest).filter (· != c) = rest := by
  have hc := List.nodup_cons.1 h
  rw [List.filter_cons]; simp only [bne_self_eq_false, Bool.false_eq_true, if_false]
  rw [List.filter_eq_self]; intro a ha
  have : a ≠ c := fun e => hc.1 (e ▸ ha)
  simpa using this

theorem head_snoc {α} {P : α → Prop} {l : List α} {a : α} (hl : ∀ w ws, l = w :: ws → P w) (ha : l = [] → P a) :
    ∀ w ws, l ++ [a] = w :: ws → P w := by
  intro w ws h
  rcases List.append_eq_cons_iff.mp h with ⟨hq, h1⟩ | ⟨xs, hq, _⟩
  · cases h1; exact ha hq
  · exact hl w xs hq

end HappyModel.C09
