import HappyProofs.C02.Pending
/-!
# C02 — the pending resumptions of the processes during one handler invocation, by kind

A pending resumption of a process is a continuation among the specs created so far — tagged (a `yield delay` of the
running process itself, created by the terminator of its segment) or untagged (`SimFuture._resume` of a parked
process) — or a park on a future.  `Bnd` (`Pending.lean`) counts them; `Qual` says of which kind they are while the
actions of a segment run: nothing is tagged yet, only processes that were parked when the invocation began are woken or
still parked, and a process that was not woken is sent what it was to be sent before.
-/
namespace HappyModel.C01

def pendingU (e : Eff) (q : Nat) : Prop :=
  (∃ sp ∈ e.specs, sp.data = q + 1 ∧ sp.tag = 0) ∨ (∃ f, (futGet e.ps.futs f).parked = some q)

/-- `Pk q`: process `q` is entitled to a resumption by a future (it was parked when the invocation began, or parks itself
    now); `S q`: the value to be sent to `q` unless it is woken; `base`: the tag counter when the invocation began -/
structure Qual (Pk : Nat → Prop) (S : Nat → Val) (base : Nat) (e : Eff) : Prop where
  conts : ∀ sp ∈ e.specs, sp.data = 0 ∨ (sp.tag = 0 ∧ ∃ q, sp.data = q + 1 ∧ Pk q)
  parks : ∀ g q, (futGet e.ps.futs g).parked = some q → Pk q
  sends : ∀ q p, e.ps.procs[q]? = some p → cntSpec e.specs q = 0 → p.send = S q
  tagc : base ≤ e.ps.tagc
  held : ∀ x ∈ e.ps.held, x.2.data = 0

variable {Pk : Nat → Prop} {S : Nat → Val} {base : Nat}

theorem Qual.frame {e e' : Eff} (h : Qual Pk S base e) (hs : e'.specs = e.specs := by rfl)
    (hf : e'.ps.futs = e.ps.futs := by rfl) (hp : e'.ps.procs = e.ps.procs := by rfl)
    (ht : e.ps.tagc ≤ e'.ps.tagc := by exact Nat.le_refl _)
    (hh : ∀ x ∈ e'.ps.held, x ∈ e.ps.held := by exact fun _ h => h) : Qual Pk S base e' :=
  ⟨hs ▸ h.conts, hf ▸ h.parks, by rw [hs, hp]; exact h.sends, Nat.le_trans h.tagc ht, fun x hx => h.held x (hh x hx)⟩

theorem Qual.plain {e e' : Eff} (h : Qual Pk S base e) (sp : Spec) (hd : sp.data = 0) (hs : e'.specs = e.specs ++ [sp])
    (ht : e.ps.tagc ≤ e'.ps.tagc) (hf : e'.ps.futs = e.ps.futs := by rfl) (hp : e'.ps.procs = e.ps.procs := by rfl)
    (hh : ∀ x ∈ e'.ps.held, x ∈ e.ps.held := by exact fun _ h => h) : Qual Pk S base e' := by
  refine ⟨?_, hf ▸ h.parks, ?_, Nat.le_trans h.tagc ht, fun x hx => h.held x (hh x hx)⟩
  · intro s hs'
    rcases List.mem_append.mp (hs ▸ hs') with hs' | hs'
    · exact h.conts s hs'
    · exact Or.inl (List.mem_singleton.mp hs' ▸ hd)
  · rw [hs, hp]
    intro q p hq hc
    rw [cntSpec_append, cntSpec_single, hd, ind_zero_succ] at hc
    exact h.sends q p hq hc

theorem Qual.setFut {e : Eff} (h : Qual Pk S base e) (f : Nat) (x : Fut) (hx : ∀ q, x.parked = some q → Pk q) :
    Qual Pk S base (e.setFut f x) := by
  refine ⟨h.conts, ?_, h.sends, h.tagc, h.held⟩
  intro g q hg
  rw [setFut_futs, futGet_futSet] at hg
  split at hg
  · exact hx q hg
  · exact h.parks g q hg

theorem Qual.setProc {S' : Nat → Val} {e : Eff} (h : Qual Pk S base e) (i : Nat) (x : Proc) (hi : S' i = x.send)
    (ho : ∀ q, q ≠ i → S' q = S q) : Qual Pk S' base (e.setProc i x) := by
  refine ⟨h.conts, h.parks, ?_, h.tagc, h.held⟩
  intro q p hq hc
  rcases getElem?_set_cases (show (e.ps.procs.set i x)[q]? = some p from hq) with ⟨rfl, rfl⟩ | ⟨hne, hq'⟩
  · exact hi.symm
  · exact (h.sends q p hq' hc).trans (ho q hne).symm

/-- `_resume`: the continuation is untagged and of a process that was parked; the value is stored for a process that
    now has a continuation -/
theorem Qual.resumeParked {e : Eff} (h : Qual Pk S base e) (now f : Nat) : Qual Pk S base (resumeParked e now f) := by
  rcases resumeParked_cases e now f with he | ⟨pid, p, hpk, hp, he⟩ <;> rw [he]
  · exact h
  refine ⟨?_, ?_, ?_, h.tagc, h.held⟩
  · intro s hs
    rcases List.mem_append.mp (show s ∈ e.specs ++ [contSpec p pid now] from hs) with hs | hs
    · exact h.conts s hs
    · rw [List.mem_singleton.mp hs]; exact Or.inr ⟨rfl, pid, rfl, h.parks f pid hpk⟩
  · intro g q hg
    rw [show (resumed e now f pid p).ps.futs = futSet e.ps.futs f { futGet e.ps.futs f with parked := none } from rfl,
      futGet_futSet] at hg
    split at hg
    · cases hg
    · exact h.parks g q hg
  · intro q p' hq hc
    rw [show (resumed e now f pid p).specs = e.specs ++ [contSpec p pid now] from rfl, cntSpec_append, cntSpec_single] at hc
    have hqp : pid ≠ q := fun heq => by
      rw [heq, show (contSpec p q now).data = q + 1 from rfl, beq_self_eq_true] at hc
      exact absurd (Nat.eq_zero_of_add_eq_zero_left hc) (by decide)
    rw [show (resumed e now f pid p).ps.procs = e.ps.procs.set pid _ from rfl, List.getElem?_set_ne hqp] at hq
    exact h.sends q p' hq (Nat.eq_zero_of_add_eq_zero_right hc)

theorem Qual_closed (Pk : Nat → Prop) (S : Nat → Val) (base : Nat) : Closed (Qual Pk S base) where
  resolve := fun e now f v h _ =>
    (h.setFut f { futGet e.ps.futs f with resolved := true, value := v, cbs := [] } (h.parks f)).resumeParked now f
  allUpd := fun _ c _ _ h _ => h.setFut c _ (h.parks c)
  cbAdd := fun _ g _ h _ => h.setFut g _ (h.parks g)
  bind := fun _ f _ _ h => h.setFut f _ (fun _ hq => nomatch hq)
  push := fun e sp _ tagged hd h =>
    h.plain { sp with tag := if tagged then e.ps.tagc + 1 else 0 } hd (push_specs ..) (by unfold Eff.push; cases tagged <;> simp)
  release := fun _ i sp h hm =>
    h.plain sp (h.held (i, sp) hm) rfl (Nat.le_refl _) rfl rfl (fun _ hx => (List.mem_filter.mp hx).1)
  crashed := fun _ _ h => h.frame
  cancels := fun _ _ h => h.frame
  hookLate := fun _ _ _ h => h.frame
  hookEarly := fun _ _ _ h => h.frame
  level := fun _ _ h => h.frame
  hops := fun _ _ h => h.frame
  obs := fun _ _ _ h => h.frame

theorem Qual.mono {Pk' : Nat → Prop} {e : Eff} (h : Qual Pk S base e) (hm : ∀ q, Pk q → Pk' q) : Qual Pk' S base e :=
  ⟨fun sp hsp => (h.conts sp hsp).imp_right (fun ⟨a, q, b, c⟩ => ⟨a, q, b, hm q c⟩), fun g q hq => hm q (h.parks g q hq),
    h.sends, h.tagc, h.held⟩

theorem Qual_init (ps : PS) (hh : ∀ q ∈ ps.held, q.2.data = 0) :
    Qual (fun q => ∃ f, (futGet ps.futs f).parked = some q) (fun q => ((ps.procs[q]?).map (·.send)).getD .none) ps.tagc
      ({ ps := ps } : Eff) :=
  ⟨nofun, fun g q hq => ⟨g, hq⟩, fun q p hq _ => by rw [show ps.procs[q]? = some p from hq]; rfl, Nat.le_refl _, hh⟩

theorem Qual.pend {e : Eff} (h : Qual Pk S base e) {q : Nat} : pendingU e q → Pk q := by
  rintro (⟨sp, hsp, hd, _⟩ | ⟨g, hg⟩)
  · rcases h.conts sp hsp with h0 | ⟨_, q', hq', hk⟩
    · omega
    · cases (by omega : q' = q); exact hk
  · exact h.parks g q hg

theorem Qual.quiet {e : Eff} (h : Qual Pk S base e) {q : Nat} (hk : ¬ Pk q) :
    (∀ f, (futGet e.ps.futs f).parked ≠ some q) ∧ ∀ p, e.ps.procs[q]? = some p → p.send = S q := by
  refine ⟨fun g hg => hk (h.parks g q hg), fun p hp => h.sends q p hp ?_⟩
  unfold cntSpec
  rw [List.countP_eq_zero]
  intro sp hsp hd
  exact hk (h.pend (Or.inl ⟨sp, hsp, by simpa using hd, (h.conts sp hsp).elim (fun h0 => by simp [h0] at hd) (·.1)⟩))

end HappyModel.C01
