import HappyProofs.C12.MPBasic
/-!
# C12 — Multi-Paxos / Flexible Paxos: the leader commits a slot only on a phase-2 quorum

`Spec.commitQuorum q2` along every run (`MP.commit_needs_phase2_quorum` in Props.lean).  The invariant: the per-slot counter `_slot_acks[slot]` of node `p` never exceeds
`1 + #(Accepted for slot delivered to p)`.
-/
namespace HappyModel.C12.MP
open HappyModel.C12.Spec

def AcksLe (B : Nat → Nat) (nd : Node) : Prop := ∀ k, ackOf nd k ≤ B k

def InvB (s : St) (B : Nat → Nat → Nat) : Prop := ∀ i, AcksLe (B i) (getNode s i)

def notAck : LogObs → Bool
  | .ack _ _ _ _ _ _ => false
  | _ => true

theorem isAck_of_notAck {o : LogObs} (h : notAck o = true) (p k : Nat) : isAck p k o = false := by
  cases o <;> first | rfl | cases h

theorem commitAcksOk_of_notAck {o : LogObs} (h : notAck o = true) (q2 : Nat) (hist : List LogObs) :
    commitAcksOk q2 hist o = true := by
  cases o <;> first | rfl | cases h

theorem ackCnt_append (l hist : List LogObs) (p k : Nat) :
    ackCnt (l.reverse ++ hist) p k = l.countP (isAck p k) + ackCnt hist p k := by
  unfold ackCnt
  rw [List.countP_append, List.countP_reverse]

theorem obsStep_notAck (s : St) (a : Act) (ha : a.isAccepted = false) : ∀ o ∈ obsStep s a, notAck o = true := by
  intro o ho
  cases mem_obsStep ho with
  | ack => cases ha
  | _ => rfl

def Inv (s : St) (hist : List LogObs) : Prop := InvB s (fun p k => 1 + ackCnt hist p k)

theorem init_inv (n q1 q2 : Nat) (flex : Bool) : Inv (init n q1 q2 flex) [] := by
  intro i k
  rw [init_node]
  exact Nat.zero_le _

theorem step_inv (s : St) (a : Act) (hist : List LogObs) (h : Inv s hist) :
    commitQuorum s.q2 hist (obsStep s a) = true ∧ Inv (step s a).1 ((obsStep s a).reverse ++ hist) := by
  cases ha : a.isAccepted with
  | false =>
    -- no acknowledgement is observed, and a counter the handler touches restarts at 1
    have hno := obsStep_notAck s a ha
    refine ⟨checkAll_of_forall _ _ _ fun o ho hh => commitAcksOk_of_notAck (hno o ho) _ hh, fun i k => ?_⟩
    show ackOf _ k ≤ 1 + ackCnt _ i k
    rw [ackCnt_append, List.countP_eq_zero.2 fun o ho => by rw [isAck_of_notAck (hno o ho)]; decide]
    have : ackOf _ k ≤ 1 + ackCnt hist i k := h i k
    rcases (step_keeps s a i).acks ha k with e | e <;> rw [e] <;> omega
  | true =>
    obtain ⟨p, slot, rfl⟩ : ∃ p slot, a = .accepted p slot := by
      cases a <;> first | exact ⟨_, _, rfl⟩ | cases ha
    -- one more acknowledgement for `(p, slot)` in the history, one more in the counter
    have hcnt : ∀ i k, ackCnt ((obsStep s (.accepted p slot)).reverse ++ hist) i k =
        ackCnt hist i k + (if i = p ∧ k = slot then 1 else 0) := by
      intro i k
      simp only [obsStep, List.reverse_cons, List.reverse_nil, List.nil_append, List.singleton_append, ackCnt,
        List.countP_cons, isAck]
      by_cases hi : i = p <;> by_cases hs : k = slot <;> simp [hi, hs] <;> omega
    have hnode : ∀ i, getNode (step s (.accepted p slot)).1 i =
        getNode (setNode s p (ackNode s.q2 (getNode s p) slot)) i :=
      getNode_nodes (step_accepted_nodes s p slot)
    constructor
    · simp only [obsStep, commitQuorum, checkAll, commitAcksOk, Bool.and_true, Bool.or_eq_true, decide_eq_true_eq]
      have hk : ackOf _ slot ≤ 1 + ackCnt hist p slot := h p slot
      rw [hnode]
      rcases getNode_setNode_self s p (ackNode s.q2 (getNode s p) slot) with e | e <;> rw [e]
      · rw [ackNode_commit]
        split
        · right; omega
        · left; exact Nat.le_refl _
      · left; exact Nat.le_refl _
    · intro i
      rw [hnode]
      refine forall_getNode_setNode (P := fun i nd => AcksLe (fun k => 1 + ackCnt _ i k) nd) p _ ?_ ?_ i
      · intro i k
        have : ackOf _ k ≤ 1 + ackCnt hist i k := h i k
        show ackOf _ k ≤ 1 + ackCnt _ i k
        rw [hcnt]; omega
      · intro k
        have : ackOf _ k ≤ 1 + ackCnt hist p k := h p k
        show ackOf _ k ≤ 1 + ackCnt _ p k
        rw [hcnt, ackNode_ackOf]
        split
        · rename_i hks; subst hks; simp; omega
        · omega

theorem run_commitQuorum (as : List Act) (s : St) (hist : List LogObs) (h : Inv s hist) :
    commitQuorum s.q2 hist (obsRun s as) = true :=
  checkAll_obsRun (ok := commitAcksOk) step_q2 (A := fun _ => True) (fun s' a hist _ h => step_inv s' a hist h)
    as s hist (fun _ _ => trivial) h

end HappyModel.C12.MP
