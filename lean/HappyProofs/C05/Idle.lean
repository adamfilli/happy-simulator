import HappyProofs.C05.Coord
import HappyModel.C05.Idle
import HappyModel.C05.Driver
/-!
Idle fast-forward: which barrier moves keep the conservative-synchronisation invariant `Safe` —
any move up to the earliest pending event does (`idle_skip_safe`), so every schedule of windows and
such skips is safe (`sched_safe`); rounding the idle stretch to the nearest window is not.
-/
namespace HappyModel.C05

variable {σ : Type}

/-- **idle_skip_safe** — the barrier can be advanced to any `b'` that is not after any pending
    event, without running a window for the skipped stretch. -/
theorem idle_skip_safe (c : Cfg) (b b' : Nat) (ps : List (Part σ)) (safe : Safe c b ps)
    (hb : b ≤ b') (hdue : ∀ p ∈ ps, ∀ e ∈ p.heap, b' ≤ e.time) : Safe c b' ps := by
  constructor
  · intro p hp
    have inv := safe.inv p hp
    refine ⟨inv.geClock, hdue p hp, inv.owned, inv.noTT, ?_⟩
    intro x hx
    simp [safe.outEmpty p hp] at hx
  · intro p hp
    have := safe.clock p hp
    omega
  · exact safe.outEmpty
  · exact safe.good

theorem nextDue_le {ps : List (Part σ)} {d : Nat} (hd : nextDue ps = some d) :
    ∀ p ∈ ps, ∀ e ∈ p.heap, d ≤ e.time := by
  intro p hp e he
  unfold nextDue at hd
  have hmem : e.time ∈ (ps.flatMap (·.heap)).map (·.time) :=
    List.mem_map.mpr ⟨e, List.mem_flatMap.mpr ⟨p, hp, he⟩, rfl⟩
  exact (List.min?_eq_some_iff.mp hd).2 _ hmem

theorem idle_skip_nextDue (c : Cfg) (b b' d : Nat) (ps : List (Part σ)) (safe : Safe c b ps)
    (hd : nextDue ps = some d) (hb : b ≤ b') (hle : b' ≤ d) : Safe c b' ps :=
  idle_skip_safe c b b' ps safe hb (fun p hp e he => Nat.le_trans hle (nextDue_le hd p hp e he))

theorem floor_skip_le (b d w : Nat) (hbd : b ≤ d) : b + (d - b) / w * w ≤ d := by
  have := Nat.div_mul_le_self (d - b) w
  omega

theorem runWin_idle (h : Handler σ) (r : Nat → Route) (we : Nat) (p : Part σ)
    (hgt : ∀ e ∈ p.heap, we < e.time) : ∀ n, runWin h r true we n p = p :=
  runWin_of_none (stepWin_eq_none_iff.mpr (.inr (.inr (.inr ⟨rfl, hgt⟩))))

/-- **idle_window_noop** — a window in which every pending event lies after its end and no outbox
    holds anything changes nothing: skipping it is indistinguishable from executing it. -/
theorem idle_window_noop (h : Handler σ) (c : Cfg) (fuel we : Nat) (ps : List (Part σ))
    (hout : ∀ p ∈ ps, p.outbox = []) (hidle : ∀ p ∈ ps, ∀ e ∈ p.heap, we < e.time) :
    oneWindow h c true fuel we ps = ps := by
  have hex : execAll h c true fuel we ps = ps := by
    unfold execAll
    conv => rhs; rw [← List.map_id ps]
    apply List.map_congr_left
    intro p hp
    simpa using runWin_idle h (c.route p.pid) we p (hidle p hp) fuel
  have hmsgs : allMsgs ps = [] := by
    simp only [allMsgs, List.flatMap_eq_nil_iff]
    intro p hp
    simp [msgsOf, hout p hp]
  unfold oneWindow exchange
  rw [hex, hmsgs]
  conv => rhs; rw [← List.map_id ps]
  apply List.map_congr_left
  intro p hp
  have := hout p hp
  cases p
  simp_all [inject]

/-- admissible: every window ends within one window size of the barrier and passes the coordinator's
    own checks, every skip stays at or before every pending event -/
def SchedOk (h : Handler σ) (c : Cfg) (fuel w : Nat) : List Act → Nat × List (Part σ) → Prop
  | [], _ => True
  | .win we :: as, s =>
      s.1 ≤ we ∧ we ≤ s.1 + w ∧ WindowOk h c fuel we s.2 ∧
        SchedOk h c fuel w as (we, oneWindow h c true fuel we s.2)
  | .skip b' :: as, s =>
      s.1 ≤ b' ∧ (∀ p ∈ s.2, ∀ e ∈ p.heap, b' ≤ e.time) ∧ SchedOk h c fuel w as (b', s.2)

theorem sched_safe (h : Handler σ) (c : Cfg) (fuel w : Nat) (hw : WindowLeLat c w) :
    ∀ (as : List Act) (s : Nat × List (Part σ)), Safe c s.1 s.2 → SchedOk h c fuel w as s →
      Safe c (schedRun h c true fuel as s).1 (schedRun h c true fuel as s).2 := by
  intro as
  induction as with
  | nil => intro s safe _; simpa [schedRun] using safe
  | cons a as ih =>
    intro s safe ok
    cases a with
    | win we =>
      obtain ⟨hb, hle, wok, rest⟩ := ok
      simp only [schedRun]
      exact ih _ ((execAll_ran hw hb safe wok).safe hle) rest
    | skip b' =>
      obtain ⟨hb, hdue, rest⟩ := ok
      simp only [schedRun]
      exact ih _ (idle_skip_safe c s.1 b' s.2 safe hb hdue) rest

/-- **sched_no_time_travel** — along every admissible schedule of windows and idle skips (any number
    of either, in any order) from a safe state no partition discards an event as being in the past. -/
theorem sched_no_time_travel (h : Handler σ) (c : Cfg) (fuel w : Nat) (hw : WindowLeLat c w)
    (as : List Act) (b : Nat) (ps : List (Part σ)) (safe : Safe c b ps)
    (ok : SchedOk h c fuel w as (b, ps)) :
    ∀ p ∈ (schedRun h c true fuel as (b, ps)).2, p.tt = [] :=
  (sched_safe h c fuel w hw as (b, ps) safe ok).noTT


/-- node a (partition 0) handles `go` at 560 and sends to node b (partition 1) with delay 100 =
    link latency = window; node b has a local `tick` at 670.  Everything is idle before 560. -/
def idleCfg : Cfg := { partOf := #[0, 1], nparts := 2, links := [⟨0, 1, 100⟩] }
def idleProg : List (Nat × Nat × Emit) := [(0, 0, ⟨100, 1, 1⟩)]
def idleParts : List (Part Unit) :=
  [Part.init 0 0 () [⟨560, 0, 0, 0⟩], Part.init 1 0 () [⟨670, 1, 1, 2⟩]]

/-- **idle_skip_round_unsafe** — at barrier 100 the earliest pending event is at 560; rounding the
    idle stretch 460 to the nearest multiple of the window gives 5 windows, i.e. barrier 600 > 560
    (flooring gives 500 ≤ 560).  With the rounded skip the next window `(600, 700]` runs the sender
    at 560 and the destination's tick at 670 together, and the message due at 660 is discarded;
    with the floored skip it is delivered. -/
theorem idle_skip_round_unsafe :
    nextDue idleParts = some 560
    ∧ 100 + roundDiv (560 - 100) 100 * 100 = 600
    ∧ 100 + (560 - 100) / 100 * 100 = 500
    ∧ ((schedRun (Driver.scriptHandler idleProg) idleCfg true 10
          [.win 100, .skip 600, .win 700, .win 800] (0, idleParts)).2.map (·.tt.length)) = [0, 1]
    ∧ ((schedRun (Driver.scriptHandler idleProg) idleCfg true 10
          [.win 100, .skip 500, .win 600, .win 700, .win 800] (0, idleParts)).2.map (·.tt.length)) = [0, 0]
    ∧ ((schedRun (Driver.scriptHandler idleProg) idleCfg true 10
          [.win 100, .skip 500, .win 600, .win 700, .win 800] (0, idleParts)).2.map (·.log.length)) = [1, 2] := by
  decide +kernel

/-- the hypotheses of `sched_no_time_travel` hold on the witness -/
example : Safe idleCfg 0 idleParts ∧ WindowLeLat idleCfg 100 :=
  ⟨Safe.init _ 0 _ (by decide) (by decide) (by decide) (by decide), by simp [WindowLeLat, idleCfg]⟩

/-- … and those of `idle_window_noop` / `idle_skip_safe`: first window idle, skip to 500 sound -/
example :
    (∀ p ∈ idleParts, p.outbox = []) ∧ (∀ p ∈ idleParts, ∀ e ∈ p.heap, 100 < e.time)
    ∧ (∀ p ∈ idleParts, ∀ e ∈ p.heap, 500 ≤ e.time) := by
  decide

end HappyModel.C05
