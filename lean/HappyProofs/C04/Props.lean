import HappyProofs.C04.Breakpoint
import HappyProofs.C04.Session
/-!
"Attaching the control surface (pause, step, resume, breakpoints, event and time hooks), a trace
recorder or event tracing does not change which events are delivered, their order, their times or
the resulting component state: a run driven by any sequence of pause/step/resume calls ends in the
same state as an uninterrupted run. step(n) delivers exactly n events unless the run ends first, a
breakpoint pauses right after the first delivery that satisfies it …"

The instrumented loop `ctlLoop` is written out separately from the plain loop `run` of C01 (as the
code has two loops); the theorems relate the two.  The monitor of `HappyModel/C04/Spec.lean` judges recorded sessions
at run time; no theorem here says that it accepts the model.
-/
namespace HappyModel.C04
open HappyModel.C01 HappyModel.C03

variable {σ : Type} [Probe σ]

/-- the examples over `Unit` have nothing to watch -/
instance : Probe Unit := ⟨fun _ _ _ => none⟩

theorem run_add (m : Machine σ) (endT : Option Nat) (a b : Nat) (s : St σ) :
    run m endT a (run m endT b s) = run m endT (b + a) s :=
  C01.run_add m endT a b s

/-- one call of run()/resume()/step(n) under any control state only ever performs iterations of the
    plain loop: the engine state it returns is the plain run after some number `k` of iterations;
    and when it reports completion, the plain loop has halted too -/
theorem ctlLoop_is_run_prefix (m : Machine σ) (endT : Option Nat) (fuel : Nat) (s : St σ) (c : Ctl) :
    ∃ k, (ctlLoop m endT fuel s c).1 = run m endT k s ∧
      ((ctlLoop m endT fuel s c).2.2 = .complete → step m endT (ctlLoop m endT fuel s c).1 = none) := by
  exact ctl_induction
    (motive := fun s _ r _ => ∃ k, r.1 = run m endT k s ∧ (r.2.2 = .complete → step m endT r.1 = none)) m endT
    (fun s c => ⟨0, rfl, nofun⟩) (fun s c h => ⟨0, rfl, fun _ => h⟩) (fun s c _ => ⟨0, rfl, nofun⟩)
    (fun _ _ _ _ _ hs _ ⟨k, hk, hc⟩ => ⟨k + 1, hk.trans (run_succ hs k).symm, hc⟩)
    (fun _ _ _ _ _ _ _ hs _ _ _ _ ⟨k, hk, hc⟩ => ⟨k + 1, hk.trans (run_succ hs k).symm, hc⟩)
    (fun _ _ _ _ _ hs _ _ => ⟨1, (run_succ hs 0).symm, nofun⟩) fuel s c

@[elab_as_elim]
theorem Sess.apply_cases {motive : St σ → Prop} (m : Machine σ) (x : Ext σ) (endT : Option Nat) (fuel : Nat)
    (z : Sess σ) (cmd : Cmd) (same : motive z.s) (loop : ∀ c, motive (ctlLoop m endT fuel z.s c).1)
    (outside : cmd.isControl = false →
      motive (resetSt z.s.nextId z.start (x.reseat z.s.ent z.pre.length) z.pre) ∧
      ∀ ent' sp, motive (injectSt z.s ent' sp)) :
    motive (Sess.apply m x endT fuel z cmd).s := by
  cases cmd with
  | pause | bp | clear | pauseAt | bpAt => exact same
  | reset => exact (outside rfl).1
  | go | step =>
    simp only [Sess.apply]
    split
    · exact same
    · exact loop _
  | sched sp rel =>
    simp only [Sess.apply]
    split
    · exact same
    · exact (outside rfl).2 _ _

/-- **control invariance**: whatever sequence of pause / resume / step(n) / breakpoint / hook
    commands drives the run, the engine state is always a state of the uninterrupted run
    (`reset()` starts another run and `schedule()` from outside changes the model being run: they are
    the two commands this statement does not cover — see `reset_state_is_init`, `session_inv`) -/
theorem control_prefix (m : Machine σ) (x : Ext σ) (endT : Option Nat) (fuel : Nat) (cmds : List Cmd)
    (hc : ∀ c ∈ cmds, c.isControl = true) (z : Sess σ)
    (s0 : St σ) (k0 : Nat) (hz : z.s = run m endT k0 s0) :
    ∃ k, (cmds.foldl (Sess.apply m x endT fuel) z).s = run m endT k s0 := by
  induction cmds generalizing z k0 with
  | nil => exact ⟨k0, hz⟩
  | cons cmd rest ih =>
    obtain ⟨k1, h1⟩ : ∃ k1, (Sess.apply m x endT fuel z cmd).s = run m endT k1 s0 := by
      refine Sess.apply_cases m x endT fuel z cmd ⟨k0, hz⟩ (fun c => ?_)
        fun h => Bool.noConfusion (h.symm.trans (hc cmd List.mem_cons_self))
      obtain ⟨k, hk, _⟩ := ctlLoop_is_run_prefix m endT fuel z.s c
      exact ⟨k0 + k, by rw [hk, hz, run_add]⟩
    exact ih (fun c hcm => hc c (List.mem_cons_of_mem _ hcm)) _ k1 h1

/-- … and once a controlled run reports completion it *is* the uninterrupted run: same delivery log,
    same entity state, same clock, for every larger number of iterations of the plain loop -/
theorem control_invariance (m : Machine σ) (endT : Option Nat) (fuel : Nat) (s : St σ) (c : Ctl)
    (k0 : Nat) (s0 : St σ) (hs : s = run m endT k0 s0)
    (hdone : (ctlLoop m endT fuel s c).2.2 = .complete) :
    ∃ k, ∀ n, k ≤ n → run m endT n s0 = (ctlLoop m endT fuel s c).1 := by
  obtain ⟨k, hk, hc⟩ := ctlLoop_is_run_prefix m endT fuel s c
  refine ⟨k0 + k, fun n hn => ?_⟩
  have hfin : (ctlLoop m endT fuel s c).1 = run m endT (k0 + k) s0 := by rw [hk, hs, run_add]
  obtain ⟨d, rfl⟩ : ∃ d, n = (k0 + k) + d := ⟨n - (k0 + k), by omega⟩
  rw [← run_add, ← hfin, halted_run m endT d _ (hc hdone)]

/-- `step(n)`: with no pause request, breakpoint or pausing hook, a call that comes back paused has
    processed exactly `n` more events (cancelled and stale pops do not count) -/
theorem step_exact (m : Machine σ) (endT : Option Nat) (fuel : Nat) (s : St σ) (r : Nat) :
    (ctlLoop m endT fuel s { steps := some r }).2.2 = .paused →
      (ctlLoop m endT fuel s { steps := some r }).1.processed = s.processed + r := by
  refine ctl_induction (motive := fun s c r _ => ∀ k, c = { steps := some k } → r.2.2 = .paused →
    r.1.processed = s.processed + k) m endT ?_ ?_ ?_ ?_ ?_ ?_ fuel s _ r rfl
  · exact fun _ _ _ _ h => nomatch h
  · exact fun _ _ _ _ _ h => nomatch h
  · rintro s c hp k rfl -
    have : k = 0 := by simpa [shouldPause] using hp
    exact this ▸ rfl
  · rintro s c s' r D - hq ih k rfl hpz
    exact hq ▸ ih k rfl hpz
  · rintro s c s' e c' r D - hp hq rfl - ih k rfl hpz
    have := ih (k - 1) rfl hpz
    have : k ≠ 0 := by rintro rfl; simp [shouldPause] at hp
    omega
  · rintro s c s' e c' - rfl ⟨b, hb, -⟩ k rfl
    exact absurd hb List.not_mem_nil

/-- non-vacuity: stepping 2 out of 3 events and then resuming gives the uninterrupted log -/
example :
    let mc : Machine Unit := { handle := fun _ _ _ => { ent := () } }
    let s0 : St Unit := init () 0 [⟨1, 0, 0, false, 0, 0⟩, ⟨2, 0, 1, false, 0, 0⟩, ⟨2, 0, 2, false, 0, 0⟩]
    let z1 := (Sess.apply mc {} (some 10) 100 { s := s0 } .pause)
    let z2 := Sess.apply mc {} (some 10) 100 z1 .go
    let z3 := Sess.apply mc {} (some 10) 100 z2 (.step 2)
    let z4 := Sess.apply mc {} (some 10) 100 z3 .go
    z3.s.processed = 2 ∧ z3.paused = true ∧ z4.running = false ∧
      z4.s.log.map (·.id) = (run mc (some 10) 100 s0).log.map (·.id) := by decide +kernel

theorem concat_eq_append_cons {α} {pre' pre post : List α} {x' x : α} (h : pre' ++ [x'] = pre ++ x :: post) :
    (post = [] ∧ pre' = pre ∧ x' = x) ∨ x ∈ pre' := by
  induction pre generalizing pre' with
  | nil =>
    cases pre' with
    | nil => exact .inl ⟨(List.cons.inj h).2.symm, rfl, (List.cons.inj h).1⟩
    | cons p ps => exact .inr ((List.cons.inj h).1 ▸ List.mem_cons_self)
  | cons a as ih =>
    cases pre' with
    | nil => exact absurd (List.cons.inj h).2.symm (List.append_ne_nil_of_right_ne_nil _ (List.cons_ne_nil _ _))
    | cons p ps =>
      refine (ih (List.cons.inj h).2).imp (fun h' => ⟨h'.1, ?_, h'.2.2⟩) (List.mem_cons_of_mem _)
      rw [(List.cons.inj h).1, h'.2.1]

/-- **"a breakpoint pauses right after the first delivery that satisfies it"**: in any call of
    run()/resume()/step(n), a delivery on which some breakpoint registered at that moment fires —
    registered before the call, or by an on_event hook during it, the hooks of that very delivery
    included — is the *last* delivery of the call, no earlier delivery of the call fired any
    breakpoint registered at its moment, and the call comes back paused in the engine state right
    after that delivery -/
theorem breakpoint_first (m : Machine σ) (endT : Option Nat) (fuel : Nat) (s : St σ) (c : Ctl)
    (pre : List ((St σ × Ev) × List Bp)) (x : (St σ × Ev) × List Bp) (post : List ((St σ × Ev) × List Bp))
    (hD : ctlDelivs m endT fuel s c = pre ++ x :: post) (hf : fires x.2 x.1) :
    post = [] ∧ (∀ q ∈ pre, ¬ fires q.2 q.1) ∧
      (ctlLoop m endT fuel s c).2.2 = .paused ∧ (ctlLoop m endT fuel s c).1 = x.1.1 := by
  obtain ⟨h, -⟩ | ⟨pre', x', hD', hpre, _, hp, hr, -⟩ := (callFacts m endT fuel s c).ends
  · exact absurd hf (h x (hD ▸ List.mem_append_right _ List.mem_cons_self))
  · rcases concat_eq_append_cons (hD'.symm.trans hD) with ⟨rfl, rfl, rfl⟩ | hx
    · exact ⟨rfl, hpre, hp, hr⟩
    · exact absurd hf (hpre x hx)

/-- in particular for the breakpoints registered when the call starts: they stay registered through
    the call (`CallFacts.grow`), so the first delivery that satisfies one of them is the last one -/
theorem breakpoint_first_registered (m : Machine σ) (endT : Option Nat) (fuel : Nat) (s : St σ) (c : Ctl)
    (pre : List ((St σ × Ev) × List Bp)) (x : (St σ × Ev) × List Bp) (post : List ((St σ × Ev) × List Bp))
    (hD : ctlDelivs m endT fuel s c = pre ++ x :: post) (hf : fires c.bps x.1) :
    post = [] ∧ (∀ q ∈ pre, ¬ fires c.bps q.1) ∧
      (ctlLoop m endT fuel s c).2.2 = .paused ∧ (ctlLoop m endT fuel s c).1 = x.1.1 := by
  have F := callFacts m endT fuel s c
  have hmem : ∀ y ∈ ctlDelivs m endT fuel s c, fires c.bps y.1 → fires y.2 y.1 := by
    intro y hy ⟨b, hb, hh⟩
    exact ⟨b, F.grow y hy b hb, hh⟩
  have hx : x ∈ ctlDelivs m endT fuel s c := by rw [hD]; simp
  obtain ⟨h1, h2, h3, h4⟩ := breakpoint_first m endT fuel s c pre x post hD (hmem x hx hf)
  refine ⟨h1, ?_, h3, h4⟩
  intro q hq hfq
  exact h2 q hq (hmem q (by rw [hD]; exact List.mem_append_left _ hq) hfq)

/-- **a breakpoint registered by a hook while the loop is running is in force at once**: if an
    on_event hook adds breakpoint `b` after the delivery that makes `processed = k`, and `b` is
    satisfied right after that delivery, the call pauses there — there is no need for the registry
    to have been non-empty when the call entered the loop -/
theorem hook_added_breakpoint_first (m : Machine σ) (endT : Option Nat) (fuel : Nat) (s : St σ) (c : Ctl)
    (k : Nat) (b : Bp) (ha : (k, b) ∈ c.addAt)
    (pre : List ((St σ × Ev) × List Bp)) (x : (St σ × Ev) × List Bp) (post : List ((St σ × Ev) × List Bp))
    (hD : ctlDelivs m endT fuel s c = pre ++ x :: post) (hk : x.1.1.processed = k)
    (hh : b.hit x.1.1 x.1.2 = true) :
    post = [] ∧ (ctlLoop m endT fuel s c).2.2 = .paused ∧ (ctlLoop m endT fuel s c).1 = x.1.1 := by
  have F := callFacts m endT fuel s c
  have hx : x ∈ ctlDelivs m endT fuel s c := by rw [hD]; simp
  have hb : b ∈ x.2 := F.hooked x hx (k, b) ha hk.symm
  obtain ⟨h1, _, h3, h4⟩ := breakpoint_first m endT fuel s c pre x post hD ⟨b, hb, hh⟩
  exact ⟨h1, h3, h4⟩

-- non-vacuity: no breakpoint is registered when run() enters the loop; an on_event hook registers
-- "time ≥ 2" after the third event (t = 3), which is satisfied at once: the run pauses with exactly three
-- events processed (of five), and the one-shot breakpoint is gone
example :
    let mc : Machine Unit := { handle := fun _ _ _ => { ent := () } }
    let s0 : St Unit := init () 0 [⟨1, 0, 0, false, 0, 0⟩, ⟨2, 0, 0, false, 0, 0⟩, ⟨3, 0, 0, false, 0, 0⟩,
                                  ⟨4, 0, 0, false, 0, 0⟩, ⟨5, 0, 0, false, 0, 0⟩]
    let r := ctlLoop mc (some 10) 100 s0 { addAt := [(3, .time 2 true)] }
    r.2.2 = .paused ∧ r.1.processed = 3 ∧ r.2.1.bps = [] ∧
    (ctlLoop mc (some 10) 100 s0 {}).2.2 = .complete := by decide +kernel

/-- conversely, a call comes back paused only for a cause: a pause request or an exhausted step
    budget (`shouldPause`), or a breakpoint registered at that moment that fires on the last delivery
    — which then is the first delivery of the call that fires one -/
theorem breakpoint_pause_cause (m : Machine σ) (endT : Option Nat) (fuel : Nat) (s : St σ) (c : Ctl)
    (hp : (ctlLoop m endT fuel s c).2.2 = .paused) :
    shouldPause (ctlLoop m endT fuel s c).2.1 = true ∨
    ∃ pre x, ctlDelivs m endT fuel s c = pre ++ [x] ∧ (ctlLoop m endT fuel s c).1 = x.1.1 ∧
      fires x.2 x.1 ∧ ∀ q ∈ pre, ¬ fires q.2 q.1 :=
  (callFacts m endT fuel s c).ends.imp (fun h => h.2.2 hp)
    fun ⟨pre, x, hD, hpre, hf, _, hr, _⟩ => ⟨pre, x, hD, hr, hf, hpre⟩

/-- a MetricBreakpoint fires exactly when the watched attribute *has a value* and the value compares
    as asked — whatever the value: `0` (and `False`, which is `0`) is a value like any other -/
theorem metric_hit_iff (s : St σ) (last : Ev) (ent attr : Nat) (op : Cmp) (thr2 : Int) (o : Bool) :
    (Bp.metric ent attr op thr2 o).hit s last = true ↔
      ∃ v, Probe.read s.ent ent attr = some v ∧ op.holds (2 * v) thr2 = true := by
  simp only [Bp.hit]
  cases h : Probe.read s.ent ent attr with
  | none => simp
  | some v => simp

theorem metric_zero_is_a_value (s : St σ) (last : Ev) (ent attr : Nat) (op : Cmp) (thr2 : Int) (o : Bool)
    (h0 : Probe.read s.ent ent attr = some 0) :
    (Bp.metric ent attr op thr2 o).hit s last = op.holds 0 thr2 := by
  simp [Bp.hit, h0]

theorem metric_missing_never_fires (s : St σ) (last : Ev) (ent attr : Nat) (op : Cmp) (thr2 : Int) (o : Bool)
    (h0 : Probe.read s.ent ent attr = none) : (Bp.metric ent attr op thr2 o).hit s last = false := by
  simp [Bp.hit, h0]

/-- **a MetricBreakpoint pauses right after the first delivery at which the attribute satisfies it**,
    also when that happens at the value 0: if after some delivery `p` of a call the watched attribute
    reads `v` with `v op thr` (e.g. `level ≤ 0` at `v = 0`), then `p` is the last delivery of the
    call, no earlier delivery of the call satisfied any registered breakpoint, and the call returns
    paused in the state right after `p` -/
theorem metric_breakpoint_first (m : Machine σ) (endT : Option Nat) (fuel : Nat) (s : St σ) (c : Ctl)
    (ent attr : Nat) (op : Cmp) (thr2 : Int) (o : Bool) (hb : Bp.metric ent attr op thr2 o ∈ c.bps)
    (pre : List ((St σ × Ev) × List Bp)) (x : (St σ × Ev) × List Bp) (post : List ((St σ × Ev) × List Bp))
    (hD : ctlDelivs m endT fuel s c = pre ++ x :: post) (v : Int)
    (hv : Probe.read x.1.1.ent ent attr = some v) (hc : op.holds (2 * v) thr2 = true) :
    post = [] ∧ (∀ q ∈ pre, ¬ fires c.bps q.1) ∧
      (ctlLoop m endT fuel s c).2.2 = .paused ∧ (ctlLoop m endT fuel s c).1 = x.1.1 :=
  breakpoint_first_registered m endT fuel s c pre x post hD
    ⟨_, hb, (metric_hit_iff x.1.1 x.1.2 ent attr op thr2 o).mpr ⟨v, hv, hc⟩⟩

/-- an `Int` state is a level a breakpoint can watch (below: a tank that every event lowers by one) -/
instance : Probe Int := ⟨fun l _ _ => some l⟩

-- non-vacuity: level 3, three drain events and a fourth; `level ≤ 0`, `level == 0` and `level < 1`
-- each pause the run right after the third delivery, at level 0; `level ≥ 7` never does
example :
    let mc : Machine Int := { handle := fun l _ _ => { ent := l - 1 } }
    let s0 : St Int := init 3 0 [⟨1, 0, 0, false, 0, 0⟩, ⟨2, 0, 0, false, 0, 0⟩, ⟨3, 0, 0, false, 0, 0⟩, ⟨4, 0, 0, false, 0, 0⟩]
    (∀ b ∈ [Bp.metric 0 0 .le 0 false, Bp.metric 0 0 .eq 0 true, Bp.metric 0 0 .lt 2 false],
      let r := ctlLoop mc (some 10) 100 s0 { bps := [b] }
      r.2.2 = .paused ∧ r.1.processed = 3 ∧ r.1.ent = 0) ∧
    (ctlLoop mc (some 10) 100 s0 { bps := [Bp.metric 0 0 .ge 14 false] }).2.2 = .complete := by decide +kernel

/-- a one-shot breakpoint disappears only by firing (and a persistent one never): a breakpoint that
    was registered before a call and is not after it is one-shot and fired on the last delivery of
    that call -/
theorem oneshot_removed_only_if_fired (m : Machine σ) (endT : Option Nat) (fuel : Nat) (s : St σ)
    (c : Ctl) (b : Bp) (hb : b ∈ c.bps) (hgone : b ∉ (ctlLoop m endT fuel s c).2.1.bps) :
    b.oneShot = true ∧ ∃ pre x, ctlDelivs m endT fuel s c = pre ++ [x] ∧ b.hit x.1.1 x.1.2 = true := by
  have F := callFacts m endT fuel s c
  obtain h | ⟨pre, x, hD, -, -, -, -, hbps⟩ := F.ends
  · exact absurd (h.2.1 b hb) hgone
  · have hbx : b ∈ x.2 := F.grow x (hD ▸ List.mem_append_right _ List.mem_cons_self) b hb
    have : (b.hit x.1.1 x.1.2 && b.oneShot) = true := by
      simpa [hbps, List.mem_filter, hbx] using hgone
    exact ⟨(Bool.and_eq_true _ _ ▸ this).2, pre, x, hD, (Bool.and_eq_true _ _ ▸ this).1⟩

/-- with nothing armed — no pause request, no step budget, no breakpoint, no pausing hook — a call
    never comes back paused (in particular the run() after a reset() when no breakpoint or hook is registered) -/
theorem no_cause_no_pause (m : Machine σ) (endT : Option Nat) (fuel : Nat) (s : St σ) :
    (ctlLoop m endT fuel s {}).2.2 ≠ .paused := by
  refine ctl_induction (motive := fun _ c r _ => c = {} → r.2.2 ≠ .paused) m endT ?_ ?_ ?_ ?_ ?_ ?_ fuel s _ rfl
  · exact fun _ _ _ h => nomatch h
  · exact fun _ _ _ _ h => nomatch h
  · rintro s c hp rfl
    simp [shouldPause] at hp
  · exact fun _ _ _ _ _ _ _ ih h => ih h
  · rintro s c s' e c' r D - - - rfl - ih rfl
    exact ih rfl
  · rintro s c s' e c' - rfl ⟨b, hb, -⟩ rfl
    exact absurd hb List.not_mem_nil

/-- non-vacuity: two breakpoints, the earlier-registered persistent one (type 1) fires at the second
    delivery while the later one-shot (count ≥ 3) is not yet satisfied: the one-shot stays registered
    and stops the resumed run after delivery 3 -/
example :
    let mc : Machine Unit := { handle := fun _ _ _ => { ent := () } }
    let s0 : St Unit := init () 0 [⟨1, 0, 0, false, 0, 0⟩, ⟨2, 0, 1, false, 0, 0⟩, ⟨3, 0, 2, false, 0, 0⟩, ⟨4, 0, 2, false, 0, 0⟩]
    let z0 : Sess Unit := { s := s0 }
    let z1 := Sess.apply mc {} (some 10) 100 z0 (.bp (.kind 1 false))
    let z2 := Sess.apply mc {} (some 10) 100 z1 (.bp (.count 3 true))
    let z3 := Sess.apply mc {} (some 10) 100 z2 .go
    let z4 := Sess.apply mc {} (some 10) 100 z3 .go
    let z5 := Sess.apply mc {} (some 10) 100 z4 .go
    z3.paused = true ∧ z3.s.processed = 2 ∧ z3.c.bps.length = 2 ∧
    z4.paused = true ∧ z4.s.processed = 3 ∧ z4.c.bps.length = 1 ∧
    z5.running = false ∧ z5.s.processed = 4 := by decide +kernel

/-- `reset()` leaves nothing of the previous round armed except what the user registered:
    pause request and step budget are cleared, breakpoints and pausing hooks are kept -/
theorem reset_clears_control (m : Machine σ) (x : Ext σ) (endT : Option Nat) (fuel : Nat) (z : Sess σ) :
    let z' := Sess.apply m x endT fuel z .reset
    z'.c.pauseReq = false ∧ z'.c.steps = none ∧ z'.c.bps = z.c.bps ∧ z'.c.pauseAt = z.c.pauseAt ∧
    z'.started = false ∧ z'.paused = false ∧ z'.running = false ∧ z'.pre = z.pre := by
  simp [Sess.apply, Ctl.reset]

/-- **the state after `reset()` is the initial state of the same pre-run schedule**, creation indices
    shifted by a constant (the events are re-created, in the original order); clock and counters
    are back at the start clock and zero; entity state is whatever it was -/
theorem reset_state_is_init (m : Machine σ) (x : Ext σ) (endT : Option Nat) (fuel : Nat) (z : Sess σ) :
    (Sess.apply m x endT fuel z .reset).s =
      renSt (· + z.s.nextId) id (z.s.nextId + z.pre.length) (init (x.reseat z.s.ent z.pre.length) z.start z.pre) := by
  simp only [Sess.apply]
  exact reset_is_init _ _ _ _

/-- **reset() + run() repeats the original run** for models that do not compute with creation
    indices (C03 `IdOblivious`) and whose entity state is back at its initial value `ent0`
    ("stateless"): same observable delivery sequence (time, target, type, payload, tag), same clock,
    same number of processed events, after any number of loop iterations -/
theorem reset_replays (mc : Machine σ) (ho : IdOblivious mc) (base start : Nat) (ent0 : σ) (pre : List Spec)
    (endT : Option Nat) (n : Nat) :
    (run mc endT n (resetSt base start ent0 pre)).log.map obs = (run mc endT n (init ent0 start pre)).log.map obs ∧
    (run mc endT n (resetSt base start ent0 pre)).now = (run mc endT n (init ent0 start pre)).now ∧
    (run mc endT n (resetSt base start ent0 pre)).processed = (run mc endT n (init ent0 start pre)).processed := by
  rw [reset_is_init]
  have h := run_shift_const mc base id (ho.equivariant _) endT n (init ent0 start pre)
  rw [show (init ent0 start pre).nextId + base = base + pre.length by simp [init, Nat.add_comm]] at h
  refine ⟨?_, h.2.1, h.2.2.1⟩
  rw [h.1]
  simp [List.map_map, Function.comp_def, obs_ren]

/-- non-vacuity of `reset_replays`: a machine whose handler emits a follow-up event without looking
    at creation indices is `IdOblivious` -/
example : IdOblivious ({ handle := fun (n : Nat) now e =>
    { ent := n + 1, specs := if e.kind = 0 then [⟨now + 1, e.target, 1, false, 0, 0⟩] else [] } } : Machine Nat) :=
  ⟨fun _ _ _ _ => rfl, fun _ _ _ => rfl, fun _ _ _ => rfl⟩

/-- the engine invariant of C01 (fresh creation indices, delivery log sorted by (time, index), log
    below heap, …) holds in every state a session can reach — whatever is scheduled from outside and
    however often the run is reset -/
theorem session_inv (m : Machine σ) (x : Ext σ) (endT : Option Nat) (fuel : Nat) (cmds : List Cmd)
    (z : Sess σ) (inv : Inv z.s) : Inv (cmds.foldl (Sess.apply m x endT fuel) z).s := by
  induction cmds generalizing z with
  | nil => exact inv
  | cons cmd rest ih =>
    refine ih _ (Sess.apply_cases m x endT fuel z cmd inv (fun c => ?_)
      fun _ => ⟨reset_inv _ _ _ _, fun _ _ => inject_inv _ _ _ inv⟩)
    obtain ⟨k, hk, _⟩ := ctlLoop_is_run_prefix m endT fuel z.s c
    exact hk ▸ run_inv m endT k z.s inv

/-- **time order with FIFO ties in every session** (stated for sessions whose first round starts at clock 0; `session_inv`
    is the form for any state with the invariant): deliveries of the current round are strictly
    increasing in (time, creation index), also across pauses, injections from outside (which always
    get the youngest index, `injected_is_youngest`) and resets -/
theorem session_fifo (m : Machine σ) (x : Ext σ) (endT : Option Nat) (fuel : Nat) (cmds : List Cmd)
    (ent : σ) (pre : List Spec) :
    (cmds.foldl (Sess.apply m x endT fuel) { s := init ent 0 pre, pre := pre }).s.log.Pairwise
      (fun a b => a.time < b.time ∨ (a.time = b.time ∧ a.id < b.id)) := by
  have inv := session_inv m x endT fuel cmds { s := init ent 0 pre, pre := pre } (init_inv ent 0 pre)
  exact (logSorted_pairwise _ inv.sorted).imp keyLt_iff.mp

/-- non-vacuity: pause after 2 of 3 deliveries, schedule an event for the timestamp of the pending
    one from outside: it is delivered after it; then reset() and run(): the original three deliveries -/
example :
    let mc : Machine Unit := { handle := fun _ _ _ => { ent := () } }
    let pre : List Spec := [⟨1, 0, 0, false, 0, 1⟩, ⟨2, 0, 1, false, 0, 2⟩, ⟨2, 0, 2, false, 0, 3⟩]
    let z0 : Sess Unit := { s := init () 0 pre, pre := pre }
    let z1 := Sess.apply mc {} (some 10) 100 z0 .pause
    let z2 := Sess.apply mc {} (some 10) 100 z1 .go
    let z3 := Sess.apply mc {} (some 10) 100 z2 (.step 2)
    let z4 := Sess.apply mc {} (some 10) 100 z3 (.sched ⟨0, 0, 7, false, 0, 9⟩ true)
    let z5 := Sess.apply mc {} (some 10) 100 z4 .go
    let z6 := Sess.apply mc {} (some 10) 100 z5 .reset
    let z7 := Sess.apply mc {} (some 10) 100 z6 .go
    z5.s.log.map (·.tag) = [1, 2, 3, 9] ∧ z6.s.now = 0 ∧ z6.s.heap.map (·.id) = [4, 5, 6] ∧
      z7.running = false ∧ z7.s.log.map (·.tag) = [1, 2, 3] := by decide +kernel

end HappyModel.C04
