import HappyModel.C19.IdemSpec
/-!
C19 / idem — the invariant: the model state is what the observed history says it is.
-/
namespace HappyModel.C19.Idem

theorem chk_none {b : Bool} {sig : String} {rest : Option String} (hb : b = true) (hr : rest = none) :
    chk b sig rest = none := by
  simp [chk, hb, hr]

theorem filter_split_length {α : Type} (p : α → Bool) (l : List α) :
    (l.filter (fun e => !p e)).length + (l.filter p).length = l.length := by
  induction l with
  | nil => rfl
  | cons a l ih =>
    by_cases h : p a
    · simp [h]; omega
    · simp [h]; omega

/-- model state ↔ observed history (`lo` = a lower bound for the time of the next delivery); `busy` is the
    single-chain fact, the one that fails for the code before the fix (`legacy = true`) -/
structure Inv (cfg : Cfg) (s : St) (h : List Obs) (lo : Nat) : Prop where
  cache : s.cache = live cfg h
  infl : s.infl = flying h
  sent : s.sent = awaiting h
  work : s.work = working h
  fins : s.fins = finished h
  pend : s.pend = pendingCl h
  total : s.total = nReq h
  hits : s.hits = nSup h
  misses : s.misses = nMiss h
  stored : s.stored = nStored h
  addup : s.total = s.hits + s.misses + nKeyless h
  size : s.cache.length + s.expired = s.stored
  bound : s.cache.length ≤ cfg.maxE
  idle : s.cache = [] → s.infl = [] → s.pend = []
  busy : (s.cache ≠ [] ∨ s.infl ≠ []) → ∃ p, s.pend = [p]
  gap : ∀ x p, lastSweep h = some x → p ∈ s.pend → x + cfg.interval ≤ p
  mono : ∀ x, lastSweep h = some x → x ≤ lo

theorem inv_init (cfg : Cfg) (lo : Nat) : Inv cfg {} [] lo := by
  refine ⟨rfl, rfl, rfl, rfl, rfl, rfl, rfl, rfl, rfl, rfl, rfl, rfl, Nat.zero_le _, fun _ _ => rfl, ?_, ?_, ?_⟩
  · intro h; rcases h with h | h <;> exact absurd rfl h
  · intro x p h; simp [lastSweep] at h
  · intro x h; simp [lastSweep] at h

theorem ctr_ok {cfg : Cfg} {s : St} {h : List Obs} {lo : Nat} (I : Inv cfg s h lo) (b : Bool) :
    ctrCheck cfg h b s.ctr = none := by
  have e8 : s.cache.length = (live cfg h).length := congrArg List.length I.cache
  have e9 : s.infl.length = (flying h).length := congrArg List.length I.infl
  simp only [ctrCheck, St.ctr]
  refine chk_none (by simpa using I.addup) ?_
  refine chk_none (by simpa using I.total) ?_
  refine chk_none (by simp [I.hits, I.misses]) ?_
  refine chk_none (by simpa using I.stored) ?_
  refine chk_none (by simpa using I.size) ?_
  refine chk_none (decide_eq_true I.bound) ?_
  refine chk_none (by simp [e8]) ?_
  refine chk_none (by simp [e8]) ?_
  refine chk_none (by simpa using e8) ?_
  exact chk_none (by simpa using e9) rfl

theorem Inv.chain {cfg : Cfg} {s : St} {h : List Obs} {lo : Nat} (I : Inv cfg s h lo) :
    (s.cache = [] ∧ s.infl = [] ∧ s.pend = []) ∨ ((s.cache ≠ [] ∨ s.infl ≠ []) ∧ ∃ p, s.pend = [p]) := by
  by_cases hc : s.cache = []
  · by_cases hf : s.infl = []
    · exact .inl ⟨hc, hf, I.idle hc hf⟩
    · exact .inr ⟨.inr hf, I.busy (.inr hf)⟩
  · exact .inr ⟨.inl hc, I.busy (.inl hc)⟩

theorem chain_ok {cfg : Cfg} {s : St} {h : List Obs} {lo : Nat} (I : Inv cfg s h lo) : chainOk cfg h = true := by
  unfold chainOk
  rw [← I.cache, ← I.infl, ← I.pend]
  rcases I.chain with ⟨hc, hf, _⟩ | ⟨_, p, hp⟩
  · simp [hc, hf]
  · simp [hp]

end HappyModel.C19.Idem
