import HappyProofs.C16.ORawOrd
/-!
Read-after-write with overlapping writes ordered (write-through stores): the instance `OkPair` of the walk.

`raw_stepG` asks three facts of the order at the acting id.  For `OkPair` they need, besides the invariant, that an
id that has not started has no observation (`OSide.ns`; true when no segment is attempted before the first one,
`lateOk`) and that every started write is in flight or has completed (`OSide.lim`; true of write-through stores, where
the backing-store write is a continuation of the operation).  Both are kept by every segment (`oside_step`), whatever
the order; with them `oraw_step` is `raw_stepG` at `OkPair`.
-/
namespace HappyModel.C16

structure OSide (g : Gh) (s : St) : Prop where
  ns : ∀ i, i ∉ g.started → firstIdx g.evs i = none
  lim : ∀ j op k, j ∈ g.started → (j, op) ∈ g.ops → wk op = some k → BP s k j ∨ (endIdx g.evs j).isSome

theorem Leaves.bw {cfg : Cfg} {op : OpK} {p : Pend} {k : Key} (h : Leaves cfg op p) (hwt : cfg.wt = true)
    (hk : wk op = some k) : bwKey p = some k := by
  cases op with
  | put k' v => cases (wk_put k' v k).mp hk; simp only [Leaves, hwt, if_true] at h; rw [h]; rfl
  | del k' => cases (wk_del k' k).mp hk; obtain ⟨b, rfl⟩ := h; rfl
  | _ => cases hk

/-- every started id is resumed only after its first segment -/
def lateOk : List Nat → List Act → Bool
  | _, [] => true
  | st, .start i _ _ :: as => lateOk (st ++ [i]) as
  | st, .resume i _ :: as => st.contains i && lateOk st as

theorem oside_step {R : WOrd} (cfg : Cfg) (hwt : cfg.wt = true) {g : Gh} {s : St} (h : RInvG R g s) (hs : OSide g s)
    (a : Act) (hadm : Adm g a) (hlate : ∀ i now, a = .resume i now → i ∈ g.started)
    (o : Obs) (hoi : o.i = actId a) (hor : o.res = (step cfg s a).2) :
    OSide (g.ext o (newIds a)) (step cfg s a).1 := by
  have hold : ∀ {j}, j ∈ g.started → j ≠ actId a ∨ ∃ i now, a = .resume i now := by
    intro j hj
    cases a with
    | start i op now => exact Or.inl fun e => (hadm i op now rfl).1 (by rw [show j = i from e] at hj; exact hj)
    | resume i now => exact Or.inr ⟨i, now, rfl⟩
  refine ⟨fun j hj => ?_, fun j opj k hj hjm hk => ?_⟩
  · have hj' : j ∉ g.started ++ newIds a := hj
    have hj0 : j ∉ g.started := fun hh => hj' (List.mem_append_left _ hh)
    show firstIdx (g.evs ++ [o]) j = none
    rw [firstIdx_snoc_none o (hs.ns j hj0), hoi, if_neg]
    intro e
    simp only [beq_iff_eq] at e
    cases a with
    | start i op now => exact hj' (List.mem_append_right _ (by simp [newIds, ← e, actId]))
    | resume i now => exact hj0 (e ▸ hlate i now rfl)
  · show BP _ k j ∨ (endIdx (g.evs ++ [o]) j).isSome
    cases a with
    | start i op now =>
      obtain ⟨hi, op', hop, hso⟩ := hadm i op now rfl
      rcases List.mem_append.mp hj with hj | hj
      · refine (hs.lim j opj k hj hjm hk).imp (fun ⟨q, hq, hqk⟩ => ⟨q, ?_, hqk⟩) (endIdx_snoc_isSome o)
        show (j, q) ∈ (start cfg s i op now).1.pend
        rcases start_pend cfg s i op now with ⟨_, e, _⟩ | ⟨e, _⟩ <;> rw [e]
        · exact List.mem_append_left _ hq
        · exact hq
      · cases List.mem_singleton.mp hj
        cases ops_unique h.gi.nd hjm hop
        rcases hso with ⟨o1, o2, rfl, rfl⟩ | rfl
        · cases hk
        · rcases start_pend cfg s j opj now with ⟨p, e, _, hp⟩ | ⟨_, _, ⟨_, rfl⟩ | rfl | ⟨_, rfl⟩⟩
          · exact Or.inl ⟨p, by show (j, p) ∈ (start cfg s j opj now).1.pend; rw [e]; simp, hp.bw hwt hk⟩
          all_goals cases hk
    | resume i now =>
      have hj : j ∈ g.started := by simpa [Gh.ext, newIds] using hj
      rcases hs.lim j opj k hj hjm hk with ⟨q, hq, hqk⟩ | hc
      · simp only [step] at hor ⊢
        by_cases e : j = i
        · subst e
          cases hf : s.pend.find? (fun x => x.1 == j) with
          | none => exact absurd (by simp) (List.find?_eq_none.mp hf _ hq)
          | some x =>
            obtain ⟨j', p⟩ := x
            have hj' : j' = j := by simpa using List.find?_some hf
            subst hj'
            cases ops_unique h.pi.pendND hq (List.mem_of_find?_eq_some hf)
            simp only [hf] at hor ⊢
            right
            have hr : (resume cfg s j' q now).2.isSome :=
              (resume_pend cfg s j' q now).elim (·.2) fun ⟨_, _, _, hfl, _⟩ => by cases q <;> first | exact hfl.elim | cases hqk
            have := endIdx_snoc_done g.evs (o := o) (by rw [hor]; exact hr)
            rwa [hoi] at this
        · left
          cases hf : s.pend.find? (fun x => x.1 == i) with
          | none => simp only []; exact ⟨q, hq, hqk⟩
          | some x =>
            have hc : (j, q) ∈ (s.clearPend i).pend := mem_clear.mpr ⟨hq, e⟩
            refine ⟨q, ?_, hqk⟩
            rcases resume_pend cfg s i x.2 now with ⟨e', _⟩ | ⟨_, e', _⟩ <;> simp only [e']
            · exact hc
            · exact List.mem_append_left _ hc
      · exact Or.inr (endIdx_snoc_isSome o hc)

theorem oraw_step (cfg : Cfg) (hrep : cfg.rep = true) (hwt : cfg.wt = true) {g : Gh} {s : St} (h : RInvG OkPair g s)
    (hs : OSide g s) (a : Act) (hadm : Adm g a) (hlate : ∀ i now, a = .resume i now → i ∈ g.started)
    (o : Obs) (hoi : o.i = actId a) (hor : o.res = (step cfg s a).2) :
    RInvG OkPair (g.ext o (newIds a)) (step cfg s a).1 ∧ OSide (g.ext o (newIds a)) (step cfg s a).1 := by
  refine ⟨raw_stepG okLaws cfg hrep h a hadm o hoi hor ?_ ?_ ?_, oside_step cfg hwt h hs a hadm hlate o hoi hor⟩
  · exact fun _ hi j hj => ok_issue (hs.ns _ hi) hoi ((mem_ext_started.mp hj).imp (h.gi.s1 j) List.mem_singleton.mp)
  · intro hr p k hm _ j op' hj hjm hk hn
    have hie := (h.pi.pendS _ hm).2
    by_cases e : j = actId a
    · subst e; exact ok_land hie hoi hr (by rw [← hoi]; exact endIdx_snoc_done g.evs hr)
    · rcases hs.lim j op' k hj hjm hk with ⟨q, hq, hqk⟩ | hc
      · exact absurd ⟨q, mem_clear.mpr ⟨hq, e⟩, hqk⟩ hn
      · exact ok_land hie hoi hr (endIdx_snoc_isSome o hc)
  · exact fun hr he j r _ ⟨e, hje, _⟩ => ok_land he hoi hr (by rw [hje]; rfl)

theorem oraw_run (cfg : Cfg) (hrep : cfg.rep = true) (hwt : cfg.wt = true) (mk : Nat → St → Option Res → Obs)
    (hmi : ∀ i s r, (mk i s r).i = i) (hmr : ∀ i s r, (mk i s r).res = r) :
    ∀ (as : List Act) (g : Gh) (s : St), RInvG OkPair g s → OSide g s → AdmAll g as → lateOk g.started as = true →
      ∃ g', g'.ops = g.ops ∧ g'.evs = g.evs ++ obsRunG mk cfg s as ∧ RInvG OkPair g' (run cfg s as) := by
  intro as
  induction as with
  | nil => intro g s h _ _ _; exact ⟨g, rfl, by simp [obsRunG], h⟩
  | cons a as ih =>
    intro g s h hs hadm hlate
    have hl1 : ∀ i now, a = .resume i now → i ∈ g.started := by
      intro i now e
      subst e
      simp only [lateOk, Bool.and_eq_true, List.contains_iff_mem] at hlate
      exact hlate.1
    obtain ⟨h', hs'⟩ := oraw_step cfg hrep hwt h hs a hadm.head hl1 (mk (actId a) (step cfg s a).1 (step cfg s a).2)
      (hmi _ _ _) (hmr _ _ _)
    have hlate' : lateOk (g.ext (mk (actId a) (step cfg s a).1 (step cfg s a).2) (newIds a)).started as = true := by
      cases a with
      | start i op now => simpa [lateOk, Gh.ext, newIds] using hlate
      | resume i now =>
        simp only [lateOk, Bool.and_eq_true] at hlate
        simpa [Gh.ext, newIds] using hlate.2
    obtain ⟨g', h1, h2, h3⟩ := ih _ _ h' hs' (hadm.tail _) hlate'
    refine ⟨g', h1, ?_, h3⟩
    rw [h2]
    simp [Gh.ext, obsRunG]

theorem oraw_judge (cfg : Cfg) (hrep : cfg.rep = true) (hwt : cfg.wt = true) (mk : Nat → St → Option Res → Obs)
    (hmi : ∀ i s r, (mk i s r).i = i) (hmr : ∀ i s r, (mk i s r).res = r)
    (ops : List (Nat × OpK)) (hnd : (ops.map (·.1)).Nodup) (p : Pol) (as : List Act)
    (hadm : AdmAll ⟨ops, [], []⟩ as) (hlate : lateOk [] as = true) :
    judgeReadsOrd cfg ops (obsRunG mk cfg { pol := p } as) = none := by
  obtain ⟨g', h1, h2, h3⟩ := oraw_run cfg hrep hwt mk hmi hmr as _ _ (rinvG_init OkPair ops hnd p)
    ⟨fun _ _ => rfl, fun _ _ _ hj => nomatch hj⟩ hadm hlate
  have := judgeReadsOrd_none (cfg := cfg) h3.d
  rw [h1, h2] at this
  exact this

end HappyModel.C16
