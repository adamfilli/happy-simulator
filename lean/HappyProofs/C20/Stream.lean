import HappyModel.C20.Spec
namespace HappyModel.C20

theorem trueCount_append (xs ys : Stream) (x : Nat) :
    trueCount (xs ++ ys) x = trueCount xs x + trueCount ys x := by
  induction xs with
  | nil => simp [trueCount]
  | cons p ps ih => obtain ⟨y, c⟩ := p; simp [trueCount, ih]; omega

theorem total_append (xs ys : Stream) : total (xs ++ ys) = total xs + total ys := by
  induction xs with
  | nil => simp [total]
  | cons p ps ih => obtain ⟨y, c⟩ := p; simp [total, ih]; omega

theorem exists_of_trueCount_pos (xs : Stream) (x : Nat) (h : 0 < trueCount xs x) :
    ∃ c, (x, c) ∈ xs ∧ c ≠ 0 := by
  induction xs with
  | nil => simp [trueCount] at h
  | cons p ps ih =>
    obtain ⟨y, c⟩ := p
    simp only [trueCount] at h
    by_cases hy : y = x ∧ c ≠ 0
    · exact ⟨c, by simp [hy.1], hy.2⟩
    · obtain ⟨c', h1, h2⟩ := ih (by split at h <;> omega)
      exact ⟨c', List.mem_cons_of_mem _ h1, h2⟩

theorem foldl_keeps {σ α β : Type} {f : σ → α → σ} (g : σ → β) (h : ∀ s a, g (f s a) = g s)
    (xs : List α) (s : σ) : g (xs.foldl f s) = g s := by
  induction xs generalizing s with
  | nil => rfl
  | cons a l ih => rw [List.foldl_cons, ih, h]

theorem foldl_total {σ : Type} {f : σ → Nat × Nat → σ} (n : σ → Nat) (h : ∀ s p, n (f s p) = n s + p.2)
    (xs : Stream) (s : σ) : n (xs.foldl f s) = n s + total xs := by
  induction xs generalizing s with
  | nil => rfl
  | cons p l ih => rw [List.foldl_cons, ih, h, total, Nat.add_assoc]

theorem lowerOk_map (lower f : Nat → Nat) (ps : List Nat) (h : ∀ x, lower x ≤ f x) :
    lowerOk lower ps (ps.map f) = true := by
  induction ps with
  | nil => simp [lowerOk]
  | cons p ps ih => simp [lowerOk, ih, h p]

end HappyModel.C20
