import HappyProofs.C12.MPBasic
/-!
# C12 — Multi-Paxos / Flexible Paxos: a stable leader commits every slot, in whatever order the acknowledgements
arrive, and resolves the future of every slot it commits with that slot's own command

`_handle_accepted` counts acknowledgements per slot and, when a slot with a phase-2 quorum lies above the commit
index, advances the commit index *to that slot* (committing the whole prefix).  So the order in which the
acknowledgements of different slots come back does not matter: once the last acknowledgement a slot needs has
been delivered, the slot is committed — even if a later slot reached its quorum first.

`_apply_committed` walks the newly committed entries in slot order; for a leader that has applied everything it
committed (`_last_applied = commit_index`), every entry of the new prefix is applied and the future registered
for its slot is resolved with `(slot, result of that entry's command)`.
-/
namespace HappyModel.C12.MP

def isAck (p m : Nat) : Act → Bool
  | .accepted p' s' => p' == p && s' == m
  | _ => false

theorem isAck_accepted (p m p' s' : Nat) : isAck p m (.accepted p' s') = (p' == p && s' == m) := rfl

/-- what happens while a leader `p` is stable: acknowledgements arrive (for any slot, in any order, at `p` or
    elsewhere) and the other nodes run their handlers (Accepts, heartbeats, Prepares delivered to them, their own
    client calls).  No handler of `p` other than `_handle_accepted` runs. -/
def StableAct (p : Nat) : Act → Prop
  | .accepted _ _ => True
  | a => actor a ≠ p

/-- induction along a stable action sequence, `I rest s` speaking of the state reached and of the actions still to
    come: a stable action is an acknowledgement delivered to `p`, which runs `ackNode` there, or leaves the record
    of `p` alone -/
theorem stable_run_ind {p : Nat} {I : List Act → St → Prop}
    (hack : ∀ slot rest s, getNode (step s (.accepted p slot)).1 p = ackNode s.q2 (getNode s p) slot →
      I (.accepted p slot :: rest) s → I rest (step s (.accepted p slot)).1)
    (hoth : ∀ a rest s, getNode (step s a).1 p = getNode s p → (∀ m, isAck p m a = false) →
      I (a :: rest) s → I rest (step s a).1) :
    ∀ (as : List Act) (s : St), p < s.nodes.length → (∀ a ∈ as, StableAct p a) → I as s → I [] (run s as) := by
  intro as
  induction as with
  | nil => intro s _ _ h; exact h
  | cons a rest ih =>
    intro s hp hall h
    refine ih _ (by rw [step_nodes_length]; exact hp) (fun a' ha' => hall a' (List.mem_cons_of_mem _ ha')) ?_
    by_cases hA : ∃ slot, a = .accepted p slot
    · obtain ⟨slot, rfl⟩ := hA
      exact hack slot rest s (step_accepted_node s p slot hp) h
    · have other : getNode (step s a).1 p = getNode s p ∧ ∀ m, isAck p m a = false := by
        cases a with
        | accepted p' s' =>
          have hp : p' ≠ p := fun e => hA ⟨s', by rw [e]⟩
          exact ⟨step_other_node _ _ _ hp, fun m => by simp [isAck_accepted, hp]⟩
        | _ => exact ⟨step_other_node _ _ _ (hall _ List.mem_cons_self), fun _ => rfl⟩
      exact hoth a rest s other.1 other.2 h

theorem stable_run_commit (p m : Nat) (as : List Act) (s : St) (hp : p < s.nodes.length)
    (hall : ∀ a ∈ as, StableAct p a) (hcl : (getNode s p).commit ≤ (getNode s p).log.length)
    (hml : m ≤ (getNode s p).log.length)
    (h : m ≤ (getNode s p).commit ∨
      (0 < as.countP (isAck p m) ∧ s.q2 ≤ ackOf (getNode s p) m + as.countP (isAck p m))) :
    m ≤ (getNode (run s as) p).commit ∧ (getNode (run s as) p).log = (getNode s p).log := by
  -- the potential `acknowledgements counted + acknowledgements to come` of slot `m` is kept until `m` is committed
  have := stable_run_ind (p := p) (I := fun rest s' => (getNode s' p).log = (getNode s p).log ∧
      (getNode s' p).commit ≤ (getNode s p).log.length ∧ (m ≤ (getNode s' p).commit ∨
        (0 < rest.countP (isAck p m) ∧ s'.q2 ≤ ackOf (getNode s' p) m + rest.countP (isAck p m)))) ?_ ?_
    as s hp hall ⟨rfl, hcl, h⟩
  · exact ⟨this.2.2.resolve_right (fun h => absurd h.1 (Nat.lt_irrefl 0)), this.1⟩
  · intro slot rest s' hnode ⟨hl, hc, h⟩
    have hcnt : (Act.accepted p slot :: rest).countP (isAck p m) =
        rest.countP (isAck p m) + if slot = m then 1 else 0 := by
      rw [List.countP_cons]
      by_cases e : slot = m <;> simp [isAck_accepted, e]
    rw [hcnt] at h
    rw [hnode, ackNode_log, ackNode_commit, ackNode_ackOf, step_q2, hl]
    refine ⟨rfl, by split <;> omega, ?_⟩
    by_cases e : slot = m
    · subst e
      simp only [if_true] at h ⊢
      split <;> omega
    · simp only [if_neg e, if_neg (Ne.symm e), Nat.add_zero] at h ⊢
      split <;> omega
  · intro a rest s' hnode hno ⟨hl, hc, h⟩
    rw [List.countP_cons, hno m] at h
    rw [hnode, step_q2]
    exact ⟨hl, hc, by simpa using h⟩

/-- Stable leader, any order of acknowledgements.  From any state in which node `p` holds a log of at least `m`
    entries and a commit index inside it, along any sequence of acknowledgements (for any slots, in any order, duplicated or not) interleaved
    with handlers of the other nodes: if an acknowledgement for slot `m` is among them and the acknowledgements
    counted for `m` reach the phase-2 quorum by the end, then `m` is committed on `p` at the end (its log
    unchanged) — whether or not a later slot reached its quorum before `m` did. -/
theorem stable_leader_commits_any_ack_order (s : St) (p m : Nat) (as : List Act)
    (hp : p < s.nodes.length) (hall : ∀ a ∈ as, StableAct p a)
    (hcl : (getNode s p).commit ≤ (getNode s p).log.length) (hm : m ≤ (getNode s p).log.length)
    (hin : 0 < as.countP (isAck p m))
    (hq : s.q2 ≤ ackOf (getNode s p) m + as.countP (isAck p m)) :
    m ≤ (getNode (run s as) p).commit ∧ (getNode (run s as) p).log = (getNode s p).log :=
  stable_run_commit p m as s hp hall hcl hm (Or.inr ⟨hin, hq⟩)

theorem applyFrom_resolves : ∀ (es : List Entry) (nd : Node) (idx j f : Nat),
    nd.applied < idx → idx ≤ j → j < idx + es.length → lookup nd.futs j = some f →
    ∃ e, es[j - idx]? = some e ∧ (f, j, e.cmd) ∈ (applyFrom nd idx es).2 := by
  intro es
  induction es with
  | nil => intro nd idx j f _ h1 h2 _; simp at h2; omega
  | cons e es ih =>
    intro nd idx j f ha h1 h2 hf
    simp only [applyFrom, if_pos ha]
    by_cases hj : j = idx
    · subst hj
      refine ⟨e, by simp, ?_⟩
      rw [hf]
      simp
    · have hlt : idx + 1 ≤ j := by omega
      have hf' : lookup (nd.futs.filter (·.1 != idx)) j = some f := by
        rw [lookup_filter_ne _ _ _ hj]; exact hf
      obtain ⟨e', he', hm⟩ := ih { nd with applied := idx, futs := nd.futs.filter (·.1 != idx) } (idx + 1) j f
        (by simp) hlt (by simp only [List.length_cons] at h2; omega) hf'
      refine ⟨e', ?_, List.mem_append_right _ hm⟩
      have : j - idx = (j - (idx + 1)) + 1 := by omega
      rw [this, List.getElem?_cons_succ]; exact he'

theorem applyFrom_applied : ∀ (es : List Entry) (nd : Node) (idx : Nat),
    nd.applied + 1 = idx → (applyFrom nd idx es).1.applied = nd.applied + es.length := by
  intro es
  induction es with
  | nil => intro nd idx _; rfl
  | cons e es ih =>
    intro nd idx ha
    rw [applyFrom, if_pos (by omega), ih _ (idx + 1) rfl, List.length_cons]
    dsimp only
    omega

theorem applyFrom_futs_above : ∀ (es : List Entry) (nd : Node) (idx j : Nat),
    idx + es.length ≤ j → lookup (applyFrom nd idx es).1.futs j = lookup nd.futs j := by
  intro es
  induction es with
  | nil => intro nd idx j _; rfl
  | cons e es ih =>
    intro nd idx j h
    simp only [List.length_cons] at h
    simp only [applyFrom]
    split
    · rw [ih _ (idx + 1) j (by omega)]
      exact lookup_filter_ne _ _ _ (by omega)
    · exact ih _ (idx + 1) j (by omega)

theorem applyFrom_applied_nil (nd : Node) (idx : Nat) : (applyFrom nd idx []).1.applied = nd.applied := rfl

def Caught (nd : Node) : Prop := nd.applied = nd.commit ∧ nd.commit ≤ nd.log.length

theorem drop_take_getElem? (l : List Entry) (c0 c1 j : Nat) (h0 : c0 < j) (h1 : j ≤ c1) :
    ((l.drop c0).take (c1 - c0))[j - (c0 + 1)]? = l[j - 1]? := by
  rw [List.getElem?_take, if_pos (by omega), List.getElem?_drop]
  congr 1; omega

theorem take_drop_length (l : List Entry) (c0 c1 : Nat) (h : c1 ≤ l.length) :
    ((l.drop c0).take (c1 - c0)).length = c1 - c0 := by
  simp only [List.length_take, List.length_drop]; omega

theorem advanceCommit_caught (nd : Node) (c : Nat) (h : Caught nd) : Caught (advanceCommit nd c).1 := by
  obtain ⟨ha, hc⟩ := h
  unfold advanceCommit
  split
  · exact ⟨ha, hc⟩
  · obtain ⟨ap, fu, e⟩ := applyFrom_frame ((nd.log.drop nd.commit).take (min c nd.log.length - nd.commit))
      { nd with commit := min c nd.log.length } (nd.commit + 1)
    have happ := applyFrom_applied ((nd.log.drop nd.commit).take (min c nd.log.length - nd.commit))
      { nd with commit := min c nd.log.length } (nd.commit + 1) (by rw [← ha])
    rw [take_drop_length nd.log nd.commit _ (Nat.min_le_right _ _)] at happ
    rw [e] at happ ⊢
    exact ⟨by dsimp only at happ ⊢; omega, Nat.min_le_right _ _⟩

theorem ackNode_caught (q2 : Nat) (nd : Node) (slot : Nat) (h : Caught nd) : Caught (ackNode q2 nd slot) := by
  unfold ackNode
  split
  · exact advanceCommit_caught _ slot h
  · exact h

theorem advanceCommit_resolves (nd : Node) (c m f : Nat) (hc : Caught nd) (hlt : nd.commit < c)
    (h0 : nd.commit < m) (h1 : m ≤ min c nd.log.length) (hf : lookup nd.futs m = some f) :
    ∃ e, nd.log[m - 1]? = some e ∧ (f, m, e.cmd) ∈ (advanceCommit nd c).2 := by
  obtain ⟨ha, hcl⟩ := hc
  unfold advanceCommit
  rw [if_neg (by omega)]
  simp only []
  have hlen := take_drop_length nd.log nd.commit (min c nd.log.length) (Nat.min_le_right _ _)
  obtain ⟨e, he, hm⟩ := applyFrom_resolves ((nd.log.drop nd.commit).take (min c nd.log.length - nd.commit))
    { nd with commit := min c nd.log.length } (nd.commit + 1) m f (by simp only []; omega) (by omega)
    (by rw [hlen]; omega) hf
  rw [drop_take_getElem? nd.log nd.commit _ m h0 h1] at he
  exact ⟨e, he, hm⟩

theorem advanceCommit_futs_above (nd : Node) (c m : Nat) (hc : Caught nd) (hlt : nd.commit < c)
    (hm : min c nd.log.length < m) : lookup (advanceCommit nd c).1.futs m = lookup nd.futs m := by
  obtain ⟨ha, hcl⟩ := hc
  unfold advanceCommit
  rw [if_neg (by omega)]
  simp only []
  have hlen := take_drop_length nd.log nd.commit (min c nd.log.length) (Nat.min_le_right _ _)
  rw [applyFrom_futs_above _ _ _ m (by rw [hlen]; omega)]

theorem stable_run_future (p m f : Nat) (e : Entry) (as : List Act) (s : St) (hp : p < s.nodes.length)
    (hall : ∀ a ∈ as, StableAct p a) (hca : Caught (getNode s p)) (hlog : (getNode s p).log[m - 1]? = some e)
    (h : (f, m, e.cmd) ∈ s.futRes ∨ (lookup (getNode s p).futs m = some f ∧ (getNode s p).commit < m)) :
    (f, m, e.cmd) ∈ (run s as).futRes ∨
      (lookup (getNode (run s as) p).futs m = some f ∧ (getNode (run s as) p).commit < m) := by
  have := stable_run_ind (p := p) (I := fun _ s' => Caught (getNode s' p) ∧ (getNode s' p).log[m - 1]? = some e ∧
      ((f, m, e.cmd) ∈ s'.futRes ∨ (lookup (getNode s' p).futs m = some f ∧ (getNode s' p).commit < m))) ?_ ?_
    as s hp hall ⟨hca, hlog, h⟩
  · exact this.2.2
  · intro slot _ s hnode ⟨hca, hlog, h⟩
    refine ⟨by rw [hnode]; exact ackNode_caught _ _ _ hca, by rw [hnode, ackNode_log]; exact hlog, ?_⟩
    rcases h with h | ⟨hf, hcm⟩
    · exact Or.inl (step_futRes_mono _ _ _ h)
    · rw [hnode, ackNode_commit, step_accepted_futRes]
      unfold ackNode ackOf
      split
      · rename_i hc
        by_cases hle : m ≤ min slot (getNode s p).log.length
        · obtain ⟨e2, he2, hmem⟩ := advanceCommit_resolves
            { getNode s p with acks := setKV (getNode s p).acks slot ((lookup (getNode s p).acks slot).getD 0 + 1) }
            slot m f hca hc.2 hcm hle hf
          rw [show (getNode s p).log[m - 1]? = some e2 from he2] at hlog
          cases hlog
          exact Or.inl (List.mem_append_right _ hmem)
        · refine Or.inr ⟨?_, by omega⟩
          rw [advanceCommit_futs_above { getNode s p with acks := setKV (getNode s p).acks slot ((lookup (getNode s p).acks slot).getD 0 + 1) } slot m hca hc.2 (by simp only []; omega)]
          exact hf
      · exact Or.inr ⟨hf, hcm⟩
  · intro a _ s hnode _ ⟨hca, hlog, h⟩
    rw [hnode]
    exact ⟨hca, hlog, h.imp_left (step_futRes_mono _ _ _)⟩

/-- Stable leader, futures.  A leader `p` that has applied everything it committed, holds entry `e` at slot `m`
    (not yet committed) and the `submit()` future `f` registered for that slot: along any stable action sequence
    in which the acknowledgements for `m` complete its phase-2 quorum — in any order relative to the other slots —
    future `f` ends up resolved with `(m, result of e's command)`. -/
theorem stable_leader_resolves_future (s : St) (p m f : Nat) (e : Entry) (as : List Act)
    (hp : p < s.nodes.length) (hall : ∀ a ∈ as, StableAct p a) (hca : Caught (getNode s p))
    (hm1 : 1 ≤ m) (hlog : (getNode s p).log[m - 1]? = some e) (hf : lookup (getNode s p).futs m = some f)
    (hcm : (getNode s p).commit < m) (hin : 0 < as.countP (isAck p m))
    (hq : s.q2 ≤ ackOf (getNode s p) m + as.countP (isAck p m)) :
    (f, m, e.cmd) ∈ (run s as).futRes :=
  (stable_run_future p m f e as s hp hall hca hlog (Or.inr ⟨hf, hcm⟩)).resolve_right fun h =>
    absurd (stable_leader_commits_any_ack_order s p m as hp hall hca.2
      (by have := (List.getElem?_eq_some_iff.1 hlog).1; omega) hin hq).1 (Nat.not_le.2 h.2)

theorem stable_run_caught (p : Nat) (as : List Act) (s : St) (hp : p < s.nodes.length)
    (hall : ∀ a ∈ as, StableAct p a) (hca : Caught (getNode s p)) :
    Caught (getNode (run s as) p) ∧ (getNode (run s as) p).log = (getNode s p).log := by
  refine stable_run_ind (p := p) (I := fun _ s' => Caught (getNode s' p) ∧ (getNode s' p).log = (getNode s p).log)
    ?_ ?_ as s hp hall ⟨hca, rfl⟩
  · intro slot _ s' hnode ⟨hca, hl⟩
    rw [hnode, ackNode_log]
    exact ⟨ackNode_caught _ _ _ hca, hl⟩
  · intro a _ s' hnode _ h
    rw [hnode]
    exact h

/-- 3 nodes, majority quorums: two commands parked on node 0, `start()`, one promise: node 0 leads with slots 1, 2 -/
def demoLeader : St := run (init 3 2 2 false) [.submit 0 1, .submit 0 2, .start 0, .promise 0 1]

/-- slot 2 is acknowledged before slot 1; node 1's handler runs in between -/
def demoAcks : List Act := [.accepted 0 2, .accept 1 0 3 1 1 0, .accepted 0 1]

example : 0 < demoLeader.nodes.length ∧ (getNode demoLeader 0).log.length = 2 ∧ (getNode demoLeader 0).commit = 0 ∧
    (getNode demoLeader 0).applied = 0 ∧ lookup (getNode demoLeader 0).futs 1 = some 0 ∧
    lookup (getNode demoLeader 0).futs 2 = some 1 ∧ ackOf (getNode demoLeader 0) 1 = 1 ∧ demoLeader.q2 = 2 ∧
    demoAcks.countP (isAck 0 1) = 1 := by decide +kernel

example : ∀ a ∈ demoAcks, StableAct 0 a := by
  intro a ha
  simp only [demoAcks, List.mem_cons, List.not_mem_nil, or_false] at ha
  rcases ha with rfl | rfl | rfl <;> simp [StableAct, actor]

example : (getNode (run demoLeader demoAcks) 0).commit = 2 ∧
    (run demoLeader demoAcks).futRes = [(0, 1, 1), (1, 2, 2)] := by decide +kernel

/-- the Spec flags a quiet fault-free stable-leader run in which a replicated slot stays uncommitted (what a leader
    that commits only `commit_index + 1` and never looks at later slots again leaves behind) -/
theorem stuck_stable_leader_violates_spec :
    Spec.judgeProgress "mpaxos" ⟨0, 1, 0, 12, 12⟩ [.prop 0 3 1 1, .prop 0 3 2 2] [1] [(0, 1), (1, 2)] [(0, 1, 1)]
      = some "mpaxos/progress/replicated-slot-never-committed-by-stable-leader" := by decide +kernel

/-- … and one whose slot is committed but whose future stays pending -/
theorem pending_future_violates_spec :
    Spec.judgeProgress "mpaxos" ⟨0, 1, 0, 12, 12⟩ [.prop 0 3 1 1, .prop 0 3 2 2] [1, 2] [(0, 1), (1, 2)] [(0, 1, 1)]
      = some "mpaxos/progress/future-never-resolved-by-stable-leader" := by decide +kernel

/-- silent when everything replicated is committed and resolved, and on runs that are not quiet stable-leader runs -/
example : Spec.judgeProgress "mpaxos" ⟨0, 1, 0, 12, 12⟩ [.prop 0 3 1 1, .prop 0 3 2 2] [1, 2] [(0, 1), (1, 2)]
    [(0, 1, 1), (1, 2, 2)] = none := by decide +kernel
example : Spec.judgeProgress "mpaxos" ⟨0, 2, 0, 12, 12⟩ [.prop 0 3 1 1] [] [(0, 1)] [] = none := by decide +kernel
example : Spec.judgeProgress "mpaxos" ⟨0, 1, 0, 12, 11⟩ [.prop 0 3 1 1] [] [(0, 1)] [] = none := by decide +kernel

/-- the statement of `stable_leader_progress` (`MPFull.lean`, described there); the `example` after `demoAcks` is its
    instance n = 3, cs = [1, 2].  The proof does not use `1 ≤ q1`, `1 ≤ q2`. -/
def stable_leader_progress_full : Prop :=
  ∀ (n q1 q2 : Nat) (flex : Bool) (p : Nat) (cs : List Nat) (as : List Act),
    p < n → 1 ≤ q1 → 1 ≤ q2 →
    (∀ a ∈ as, StableAct p a) →
    (∀ m, 1 ≤ m → m ≤ cs.length → 0 < as.countP (isAck p m) ∧ q2 ≤ 1 + as.countP (isAck p m)) →
    (getNode (run (init n q1 q2 flex)
        (cs.map (.submit p) ++ [.start p] ++ List.replicate (q1 - 1) (.promise p 1) ++ as)) p).commit = cs.length ∧
    ∀ k, k < cs.length →
      (k, k + 1, cs.getD k 0) ∈ (run (init n q1 q2 flex)
        (cs.map (.submit p) ++ [.start p] ++ List.replicate (q1 - 1) (.promise p 1) ++ as)).futRes

end HappyModel.C12.MP
