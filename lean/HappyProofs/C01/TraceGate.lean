import HappyProofs.C01.TraceLive
/-!
A `GateModel` says what the crash predicate of a machine is made of: a per-entity `down` flag in the user's state
that handlers switch (`entity._crashed`), with the gate consulting the flag of the popped event's target.  The trace
of such a model carries a `C` / `U` line for every entity whose flag a handler changed (`GateModel.flags`); these
lines keep up with the flag (`GateModel.toFlags`), so the theorems of `TraceLive.lean` apply.
-/
namespace HappyModel.C01
open HappyModel.C01.Spec (Trace Created Deliv)

variable {σ : Type}

structure GateModel (mc : Machine σ) where
  /-- `entity._crashed` -/
  down : σ → Nat → Bool
  /-- the entities that may be down in a state -/
  support : σ → List Nat
  supp : ∀ ent x, down ent x = true → x ∈ support ent
  sound : ∀ ent e, mc.crashed ent e = true → down ent e.target = true

def GateModel.flags {mc : Machine σ} (g : GateModel mc) (a b : σ) : List (Nat × Bool) :=
  ((g.support a ++ g.support b).filter (fun x => g.down a x != g.down b x)).map (fun x => (x, g.down b x))

theorem GateModel.mem_flags {mc : Machine σ} (gm : GateModel mc) {a b : σ} {f : Nat × Bool}
    (hf : f ∈ gm.flags a b) : gm.down a f.1 ≠ gm.down b f.1 ∧ f.2 = gm.down b f.1 := by
  obtain ⟨y, hy, rfl⟩ := List.mem_map.mp hf
  exact ⟨by simpa using (List.mem_filter.mp hy).2, rfl⟩

/-- the lines of a gate model keep up with its flag: an entity without a new line kept its flag, and the last new
    line of an entity carries its new flag -/
theorem GateModel.flags_follow {mc : Machine σ} (gm : GateModel mc) (a b : σ) (old : List (Nat × Bool × Nat)) (p : Nat)
    (h : ∀ x, gm.down a x = true → LastDown old x) (x : Nat) (hx : gm.down b x = true) :
    LastDown (old ++ mkFlags p (gm.flags a b)) x := by
  rw [LastDown, List.filter_append]
  cases hnx : (mkFlags p (gm.flags a b)).filter (·.1 == x) with
  | nil =>
    rw [List.append_nil]
    refine h x ?_
    by_cases hchg : gm.down a x = gm.down b x
    · exact hchg ▸ hx
    · have hin : (x, gm.down b x) ∈ gm.flags a b :=
        List.mem_map.mpr ⟨x, List.mem_filter.mpr
          ⟨List.mem_append_right _ (gm.supp b x hx), by simpa using hchg⟩, rfl⟩
      obtain ⟨q, hq⟩ := numbered_of_mem (fun f q => (f.1, f.2, q)) p hin
      have hmem : (x, gm.down b x, q) ∈ ([] : List (Nat × Bool × Nat)) :=
        hnx ▸ List.mem_filter.mpr ⟨mkFlags_eq _ _ ▸ hq, beq_self_eq_true x⟩
      exact absurd hmem List.not_mem_nil
  | cons f r =>
    obtain ⟨g, hg⟩ : ∃ g, (f :: r).getLast? = some g := ⟨_, List.getLast?_eq_some_getLast (List.cons_ne_nil f r)⟩
    obtain ⟨hgm, hgx⟩ := List.mem_filter.mp (hnx ▸ List.mem_of_getLast? hg)
    obtain ⟨a', ha', q, rfl, -⟩ := mem_numbered (mkFlags_eq _ _ ▸ hgm)
    refine ⟨_, by rw [List.getLast?_append, hg]; rfl, ?_⟩
    rw [(gm.mem_flags ha').2, beq_iff_eq.mp hgx]
    exact hx

def GateModel.toFlags {mc : Machine σ} (gm : GateModel mc) : Flags gm.flags := ⟨gm.down, gm.flags_follow⟩

theorem gated_event_is_exempt {mc : Machine σ} (gm : GateModel mc) (s : St σ) (t : Trace)
    {endT : Option Nat} (lk : Link gm.toFlags mc endT s t) (e : Ev) (he : (e, Verdict.gated) ∈ s.popped)
    (c : Created) (hc : c ∈ t.created) (hce : c = cOf e c.pos) : Spec.mayBeDown t c = true :=
  lk.exempt gm.sound e he c hc hce

/-- **clause 6 with the crash-window exemption**: on a finished run of a model with a crash gate (all
    entities up at the start), the judge finds no lost event — every created event that is live, due
    within the horizon and whose target is *not* down at any moment of the stretch in which it falls
    due has a delivery line; every event the gate dropped is covered by the exemption (which asks only that the
    target be down at some moment of the stretch, so it may cover a delivered event too) -/
theorem engine_trace_no_lost_event_gate {mc : Machine σ} (gm : GateModel mc) (ent : σ) (start : Nat)
    (pre : List Spec) (endT : Option Nat) (n : Nat) (hup : ∀ x, gm.down ent x = false)
    (hhalt : step mc endT (runFrom mc ent start pre endT n) = none)
    (hlen : (traceOf gm.flags mc ent start pre endT n).len < 1000000000) :
    Spec.lostEvent (traceOf gm.flags mc ent start pre endT n) = none :=
  engine_trace_no_lost_event_flags gm.toFlags gm.sound ent start pre endT n hup hhalt hlen

/-- **the trace of a model with a crash gate satisfies the trace Spec**: clauses 1–6 raise nothing on a
    finished run; with no end time clause 7 can only report its second grade (the known finding) -/
theorem engine_trace_satisfies_spec_gate {mc : Machine σ} (gm : GateModel mc) (ent : σ) (start : Nat)
    (pre : List Spec) (endT : Option Nat) (n : Nat) (hup : ∀ x, gm.down ent x = false)
    (hhalt : step mc endT (runFrom mc ent start pre endT n) = none)
    (hlen : (traceOf gm.flags mc ent start pre endT n).len < 1000000000) :
    Spec.judge (traceOf gm.flags mc ent start pre endT n) = none ∨
    (endT = none ∧ Spec.judge (traceOf gm.flags mc ent start pre endT n)
        = some "engine/autoterm/ran-with-no-primary-pending") :=
  engine_trace_satisfies_spec_flags gm.toFlags gm.sound ent start pre endT n hup hhalt hlen

/-- a model with a crash gate: the state is the list of entities that are down; the handler of kind 1
    crashes entity 0, kind 3 restores it, kind 2 sends entity 0 two events (due in 1 and in 4) -/
def demoGateMachine : Machine (List Nat) :=
  { handle := fun dn now e =>
      { ent := if e.kind = 1 then 0 :: dn else if e.kind = 3 then dn.filter (· != 0) else dn,
        specs := if e.kind = 2 then [⟨now + 1, 0, 7, false, 0, 0⟩, ⟨now + 4, 0, 8, false, 0, 0⟩] else [] },
    crashed := fun dn e => dn.contains e.target }

def demoGate : GateModel demoGateMachine :=
  { down := fun dn x => dn.contains x, support := fun dn => dn,
    supp := by intro dn x h; simpa using h,
    sound := by intro dn e h; exact h }

-- non-vacuity: entity 0 is down from t = 5 to t = 8; of the two events scheduled for it at t = 6 the one
-- due at 7 is dropped at the gate (and exempt: a `C` line precedes it, the `U` line follows), the one due at
-- 10 is delivered; the judge accepts the trace
example :
    let pre : List Spec := [⟨5, 1, 1, false, 0, 0⟩, ⟨6, 1, 2, false, 0, 0⟩, ⟨8, 1, 3, false, 0, 0⟩]
    step demoGateMachine (some 20) (runFrom demoGateMachine [] 0 pre (some 20) 20) = none ∧
    (traceOf demoGate.flags demoGateMachine [] 0 pre (some 20) 20).flags.map (fun f => (f.1, f.2.1)) = [(0, true), (0, false)] ∧
    (traceOf demoGate.flags demoGateMachine [] 0 pre (some 20) 20).delivs.map (·.clock) = [5, 6, 8, 10] ∧
    ((runFrom demoGateMachine [] 0 pre (some 20) 20).popped.filter (fun p => p.2 == .gated)).length = 1 ∧
    Spec.judge (traceOf demoGate.flags demoGateMachine [] 0 pre (some 20) 20) = none := by decide +kernel

end HappyModel.C01
