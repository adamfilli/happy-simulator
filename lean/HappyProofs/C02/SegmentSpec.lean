import HappyProofs.C02.Segment
/-!
# C02 — what one call of `runSegment` does to the pending-resumption accounting and to the process table
-/
namespace HappyModel.C01

/-- the process record the running process ends the segment with (`send` aside) -/
def finalProc (p : Proc) (rest : List Seg) : Term → Proc
  | .ret => { p with started := true, send := .none, segs := [], done := true, hooks := [] }
  | _ => { p with started := true, send := .none, segs := rest }

theorem segTerm_procs (L : List Proc) (now : Nat) (e1 : Eff) (pid : Nat) (p : Proc) (rest : List Seg)
    (t : Term) (h : ProcsAre L e1) :
    ProcsAre (L.set pid (strip (finalProc p rest t)))
      (segTerm now e1 pid { p with started := true, send := .none } rest t) := by
  have hset : ∀ x, ProcsAre (L.set pid (strip x)) (e1.setProc pid x) := by
    intro x
    unfold ProcsAre at *
    simp only [setProc_procs, List.map_set, h]
  cases t with
  | yieldD d => exact hset _
  | yieldF f =>
    simp only [segTerm, finalProc]
    split
    · exact (resumeParked_strip _ now f).trans (hset _)
    · exact hset _
  | ret =>
    simp only [segTerm, finalProc]
    apply runHooks_closed (ProcsAre_closed _)
    exact hset _

theorem segBody_procs (now : Nat) (e : Eff) (pid tag : Nat) (p : Proc) (seg : Seg) (rest : List Seg) :
    ProcsAre ((e.ps.procs.map strip).set pid (strip (finalProc p rest seg.term)))
      (segBody now e pid tag p seg rest) := by
  have h1 := acts_closed (ProcsAre_closed _) now seg.acts _ (segStart_procsAre now e pid tag p)
  have h2 := segTerm_procs _ now _ pid p rest seg.term h1
  rw [List.set_set] at h2
  exact h2

theorem DefsAre_closed (D : List HandlerDef) : Closed (fun e : Eff => e.ps.defs = D) :=
  closed_of_frame (fun _ _ hd _ _ h => hd.trans h) (fun _ _ _ h => h)

theorem runSegment_defs (now : Nat) (e : Eff) (pid tag : Nat) : (runSegment now e pid tag).ps.defs = e.ps.defs := by
  rcases runSegment_cases now e pid tag with ⟨he, _⟩ | ⟨p, seg, rest, _, _, he⟩ <;> rw [he]
  unfold segBody
  have h1 : (seg.acts.foldl (runAct now) (segStart now e pid tag p)).ps.defs = e.ps.defs :=
    acts_closed (DefsAre_closed _) now seg.acts _ (by unfold segStart; split <;> rfl)
  generalize seg.acts.foldl (runAct now) (segStart now e pid tag p) = e1 at h1
  cases seg.term with
  | yieldD d => exact h1
  | yieldF f =>
    simp only [segTerm]
    split
    · rw [resumeParked_defs]; exact h1
    · exact h1
  | ret => exact runHooks_closed (DefsAre_closed _) now _ _ h1

theorem segBody_proc_pid (now : Nat) (e : Eff) (pid tag : Nat) (p : Proc) (seg : Seg) (rest : List Seg)
    (hp : e.ps.procs[pid]? = some p) :
    ∃ q, (segBody now e pid tag p seg rest).ps.procs[pid]? = some q ∧ strip q = strip (finalProc p rest seg.term) :=
  (segBody_procs now e pid tag p seg rest).get
    (List.getElem?_set_self (by rw [List.length_map]; exact getElem?_some_lt hp))

/-- what a handler invocation that runs process `pid`, which had nothing pending, leaves of a state whose processes
    were `L`: a well-formed effect in which only `pid` may have gained a pending resumption, the other processes
    untouched (`send` aside), and `pid`, if it finished, without code and with nothing pending -/
structure Ran (B : Nat → Nat) (L : List Proc) (pid : Nat) (r : Eff) : Prop where
  wf : WF r
  bound : ∀ q, cnt r q ≤ B q + ind (pid == q)
  len : L.length ≤ r.ps.procs.length
  frame : ∀ q, q ≠ pid → (r.ps.procs[q]?).map strip = (L[q]?).map strip
  done : ∀ p', r.ps.procs[pid]? = some p' → p'.done = true → p'.segs = [] ∧ cnt r pid = 0

theorem Ran.of_frame {B : Nat → Nat} {L : List Proc} {pid : Nat} {r : Eff} (hb : Bnd B r) (hp : ProcsAre (L.map strip) r)
    (hd : ∀ p', r.ps.procs[pid]? = some p' → p'.done = true → p'.segs = [] ∧ cnt r pid = 0) : Ran B L pid r :=
  ⟨hb.1, fun q => Nat.le_trans (hb.2 q) (Nat.le_add_right _ _),
    Nat.le_of_eq (by rw [ProcsAre_length hp, List.length_map]),
    fun q _ => by simpa only [List.getElem?_map] using congrArg (·[q]?) hp, hd⟩

/-- `hB`: the continuation of `pid` was just popped, or `pid` was just created -/
theorem runSegment_spec (B : Nat → Nat) (now : Nat) (e : Eff) (pid tag : Nat) (h : Bnd B e) (hB : B pid = 0)
    (hdone : ∀ p, e.ps.procs[pid]? = some p → p.done = true → p.segs = []) :
    Ran B e.ps.procs pid (runSegment now e pid tag) := by
  have hsame : Ran B e.ps.procs pid e :=
    Ran.of_frame h rfl (fun p' hp' hd => ⟨hdone p' hp' hd, by have := h.2 pid; omega⟩)
  rcases runSegment_cases now e pid tag with ⟨h', _⟩ | ⟨p, seg, rest, hp, hs, h'⟩ <;> rw [h']
  · exact hsame
  have hb := segBody_bnd B now e pid tag p seg rest h hp
  have hpr : _ = _ := segBody_procs now e pid tag p seg rest
  refine ⟨hb.1, hb.2.1, ?_, ?_, ?_⟩
  · have := congrArg List.length hpr
    simp only [List.length_map, List.length_set] at this
    exact Nat.le_of_eq this.symm
  · intro q hq
    have := congrArg (·[q]?) hpr
    simpa only [List.getElem?_map, List.getElem?_set_ne (Ne.symm hq)] using this
  · intro p' hp' hd
    obtain ⟨q, hq, hst⟩ := segBody_proc_pid now e pid tag p seg rest hp
    cases hq.symm.trans hp'
    have hpd : p.done = false :=
      Bool.eq_false_iff.mpr (fun hpd => by have := hdone p hp hpd; rw [hs] at this; cases this)
    have hdn : (finalProc p rest seg.term).done = true := (congrArg (·.done) hst).symm.trans hd
    cases ht : seg.term with
    | ret => exact ⟨(congrArg (·.segs) hst).trans (by rw [ht]; rfl), by have := hb.2.2 ht pid; omega⟩
    | yieldD d | yieldF f => rw [ht] at hdn; cases hpd.symm.trans hdn

end HappyModel.C01
