import HappyProofs.C09.BulkheadInv
import HappyProofs.C09.ThreadPoolInv
import HappyProofs.C09.PreemptOrder
/-! Bulkhead, ThreadPool and PreemptibleResource.  Same clauses as for the other capacity primitives (`Props.lean`):
outstanding ≤ limit, conservation, a release never pushes above capacity, the head of the line is never left grantable, grants go in the order
the class defines (FIFO; priority then arrival), each at most once.  The theorems quantify over all
parameters and over an arbitrary list of deliveries / calls (`preempt_current_leaves_head_grantable` is one concrete run).
-/
namespace HappyModel.C09

section BulkheadProps
open Bulkhead

theorem bh_inv (max maxQ wait : Nat) (h : 0 < max) (ops : List Bulkhead.Op) :
    Bulkhead.Inv (Bulkhead.run (bhInit max maxQ wait) ops) :=
  Bulkhead.run_inv _ ops (Bulkhead.init_inv max maxQ wait h)

/-- the number of outstanding requests never exceeds `max_concurrent`, and it is exactly the number of
    requests in flight -/
theorem bulkhead_active_le_limit (max maxQ wait : Nat) (h : 0 < max) (ops : List Bulkhead.Op) :
    (Bulkhead.run (bhInit max maxQ wait) ops).active ≤ max
    ∧ (Bulkhead.run (bhInit max maxQ wait) ops).active = (Bulkhead.run (bhInit max maxQ wait) ops).inflight.length := by
  have inv := bh_inv max maxQ wait h ops
  have := inv.bound
  rw [(bh_run_params _ ops).1] at this
  exact ⟨this, inv.act⟩

example : (Bulkhead.run (bhInit 1 1 0) [.request 0 0, .request 1 0, .request 2 0]).active = 1
    ∧ (Bulkhead.run (bhInit 1 1 0) [.request 0 0, .request 1 0, .request 2 0]).queue.length = 1
    ∧ (Bulkhead.run (bhInit 1 1 0) [.request 0 0, .request 1 0, .request 2 0]).rejected = 1 := by decide +kernel

/-- `active_count + available_permits = max_concurrent`, and every request is accounted for:
    total = accepted + rejected + timed out + still waiting; queued = admitted from the queue + waiting + timed out -/
theorem bulkhead_conservation (max maxQ wait : Nat) (h : 0 < max) (ops : List Bulkhead.Op) :
    let s := Bulkhead.run (bhInit max maxQ wait) ops
    s.active + Bulkhead.permits s = max
    ∧ s.total = s.accepted + s.rejected + s.timedOut + s.queue.length
    ∧ s.queued = s.admittedQ.length + s.queue.length + s.timedOut := by
  have inv := bh_inv max maxQ wait h ops
  have hb := inv.bound
  have hm : (Bulkhead.run (bhInit max maxQ wait) ops).max = max := (bh_run_params (bhInit max maxQ wait) ops).1
  refine ⟨?_, inv.reqs, ?_⟩
  · show (Bulkhead.run (bhInit max maxQ wait) ops).active
        + ((Bulkhead.run (bhInit max maxQ wait) ops).max - (Bulkhead.run (bhInit max maxQ wait) ops).active) = max
    rw [hm] at hb ⊢; omega
  · rw [inv.qcount, inv.tcount]

example : let s := Bulkhead.run (bhInit 1 2 250) [.request 0 0, .request 1 0, .request 2 100, .timeout 2 250, .response 1 300]
    s.active = 1 ∧ s.timedOut = 1 ∧ s.accepted = 2 ∧ s.queue = [] ∧ s.admittedQ = [3] ∧ s.expired = [2] := by decide +kernel

/-- a response never pushes the permits above the limit: one for an id that is not in flight changes
    nothing (so a duplicate cannot decrement twice), one for an id in flight finds `active ≥ 1` (the clamp
    `max(0, …)` never acts), and the bound holds afterwards -/
theorem bulkhead_release_never_exceeds (max maxQ wait : Nat) (h : 0 < max) (ops : List Bulkhead.Op) (bid t : Nat) :
    let s := Bulkhead.run (bhInit max maxQ wait) ops
    (s.inflight.any (·.1 == bid) = false → (Bulkhead.step s (.response bid t)).1 = s)
    ∧ (s.inflight.any (·.1 == bid) = true → 0 < s.active)
    ∧ (Bulkhead.step s (.response bid t)).1.active ≤ max := by
  have inv := bh_inv max maxQ wait h ops
  refine ⟨?_, ?_, ?_⟩
  · intro hno; rw [Bulkhead.step_resp_unknown _ bid t hno]
  · intro hyes
    rw [List.any_eq_true] at hyes
    obtain ⟨e, he, _⟩ := hyes
    have := List.length_pos_of_mem he
    rw [inv.act]; exact this
  · have := (Bulkhead.step_inv _ (.response bid t) inv).bound
    rw [(Bulkhead.step_params _ _).1, (bh_run_params _ ops).1] at this
    exact this

example : (Bulkhead.step (Bulkhead.run (bhInit 2 0 0) [.request 0 0, .response 1 5]) (.response 1 6)).1.active = 0
    ∧ (Bulkhead.step (Bulkhead.run (bhInit 2 0 0) [.request 0 0, .response 1 5]) (.response 1 6)).2 = .unknown := by decide +kernel

/-- "as soon as capacity allows": after every delivery, if somebody is waiting then no permit is free;
    and the wait queue never exceeds `max_wait_queue` -/
theorem bulkhead_head_not_grantable (max maxQ wait : Nat) (h : 0 < max) (ops : List Bulkhead.Op) :
    let s := Bulkhead.run (bhInit max maxQ wait) ops
    (s.queue ≠ [] → Bulkhead.permits s = 0) ∧ s.queue.length ≤ maxQ := by
  have inv := bh_inv max maxQ wait h ops
  have hq := inv.qbound
  rw [(bh_run_params _ ops).2.1] at hq
  refine ⟨?_, hq⟩
  intro hne
  have := inv.head hne
  simp only [Bulkhead.permits]; omega

example : (Bulkhead.run (bhInit 1 2 0) [.request 0 0, .request 1 0, .request 2 0, .response 1 8]).queue.length = 1
    ∧ Bulkhead.permits (Bulkhead.run (bhInit 1 2 0) [.request 0 0, .request 1 0, .request 2 0, .response 1 8]) = 0 := by decide +kernel

/-- FIFO ledger: the requests queued so far, in queueing order, minus those that timed out, are exactly
    the ones admitted from the queue (in admission order) followed by the ones still waiting (in queue
    order); ids grow along that list, so the request admitted next is always the oldest one still waiting -/
theorem bulkhead_fifo_ledger (max maxQ wait : Nat) (h : 0 < max) (ops : List Bulkhead.Op) :
    let s := Bulkhead.run (bhInit max maxQ wait) ops
    s.everQ.filter (Bulkhead.notIn s.expired) = s.admittedQ ++ Bulkhead.qids s
    ∧ (s.admittedQ ++ Bulkhead.qids s).Pairwise (· < ·) := by
  have inv := bh_inv max maxQ wait h ops
  exact ⟨inv.ledger, inv.sorted⟩

example : let s := Bulkhead.run (bhInit 1 3 0) [.request 0 0, .request 1 0, .request 2 0, .request 3 0, .response 1 8, .response 5 9]
    s.everQ = [2, 3, 4] ∧ s.admittedQ = [2, 3] ∧ Bulkhead.qids s = [4] := by decide +kernel

/-- each queued request is admitted at most once, and one that timed out is never admitted (nor still waiting) -/
theorem bulkhead_admitted_at_most_once (max maxQ wait : Nat) (h : 0 < max) (ops : List Bulkhead.Op) :
    let s := Bulkhead.run (bhInit max maxQ wait) ops
    (s.admittedQ ++ Bulkhead.qids s).Nodup
    ∧ ∀ x ∈ s.expired, x ∉ s.admittedQ ∧ x ∉ Bulkhead.qids s := by
  have inv := bh_inv max maxQ wait h ops
  refine ⟨inv.sorted.imp Nat.ne_of_lt, ?_⟩
  intro x hx
  have key : x ∉ (Bulkhead.run (bhInit max maxQ wait) ops).admittedQ ++ Bulkhead.qids (Bulkhead.run (bhInit max maxQ wait) ops) := by
    intro hmem
    rw [← inv.ledger, List.mem_filter] at hmem
    have := hmem.2
    simp only [Bulkhead.notIn, Bool.not_eq_true', ← Bool.not_eq_true, List.contains_iff_mem] at this
    exact this hx
  exact ⟨fun h1 => key (List.mem_append_left _ h1), fun h2 => key (List.mem_append_right _ h2)⟩

example : let s := Bulkhead.run (bhInit 1 2 250) [.request 0 0, .request 1 0, .request 2 0, .timeout 2 250, .response 1 250]
    s.expired = [2] ∧ s.admittedQ = [3] ∧ s.inflight = [(4, 2)] := by decide +kernel

end BulkheadProps

/-! All but `preempt_current_leaves_head_grantable` are about the repaired model (`_wake_waiters` after a preemption). -/
section PreemptProps
open Preempt

theorem pr_inv (cap : Int) (h : 0 < cap) (ops : List Preempt.Op) : Preempt.Inv (Preempt.run (Preempt.St.init cap) ops) :=
  Preempt.run_inv _ ops (Preempt.init_inv cap h)

/-- the amount held by live grants never exceeds the capacity — also through preemption -/
theorem preempt_held_le_capacity (cap : Int) (h : 0 < cap) (ops : List Preempt.Op) :
    Preempt.amtSum (Preempt.run (Preempt.St.init cap) ops).active ≤ cap := by
  have inv := pr_inv cap h ops
  have := inv.num.conserve; have := inv.num.availNonneg
  rw [Preempt.run_cap] at *; simp [Preempt.St.init] at *; omega

/-- held plus available equals capacity after every call list (preempted amounts return exactly once) -/
theorem preempt_conservation (cap : Int) (h : 0 < cap) (ops : List Preempt.Op) :
    (Preempt.run (Preempt.St.init cap) ops).avail + Preempt.amtSum (Preempt.run (Preempt.St.init cap) ops).active = cap := by
  have := (pr_inv cap h ops).num.conserve
  rw [Preempt.run_cap] at this; exact this

example : let s := Preempt.run (Preempt.St.init 3) [.acquire 2 5 false, .acquire 1 4 false, .acquire 2 0 true, .release 0, .release 0]
    s.avail = 0 ∧ s.active = [⟨1, 1, 4⟩, ⟨2, 2, 0⟩] ∧ s.preemptions = 1 ∧ s.releases = 0 := by decide +kernel

/-- a release never pushes `available` above the capacity: `0 ≤ available ≤ capacity` always, and the
    release of a grant that is not live (released before, or preempted) changes nothing -/
theorem preempt_release_never_exceeds (cap : Int) (h : 0 < cap) (ops : List Preempt.Op) (id : Nat) :
    let s := Preempt.run (Preempt.St.init cap) ops
    0 ≤ s.avail ∧ s.avail ≤ cap
    ∧ (s.active.find? (·.id == id) = none → Preempt.step s (.release id) = (s, { res := .noop })) := by
  have inv := pr_inv cap h ops
  have hc := inv.num.conserve
  have hnn := Preempt.amtSum_nonneg _ inv.num.actPos
  have hcap : (Preempt.run (Preempt.St.init cap) ops).cap = cap := by rw [Preempt.run_cap]; rfl
  rw [hcap] at hc
  refine ⟨inv.num.availNonneg, by show (Preempt.run (Preempt.St.init cap) ops).avail ≤ cap; omega, ?_⟩
  intro hnone
  simp only [Preempt.step, hnone]

example : (Preempt.step (Preempt.run (Preempt.St.init 2) [.acquire 2 5 false, .acquire 2 0 true]) (.release 0)).2.res = .noop
    ∧ (Preempt.run (Preempt.St.init 2) [.acquire 2 5 false, .acquire 2 0 true, .release 0]).avail = 0 := by decide +kernel

/-- "as soon as capacity allows": after every call the waiter at the head of the priority queue does not fit -/
theorem preempt_head_not_grantable (cap : Int) (h : 0 < cap) (ops : List Preempt.Op) (w : Preempt.G) (ws : List Preempt.G)
    (hw : (Preempt.run (Preempt.St.init cap) ops).waiters = w :: ws) :
    (Preempt.run (Preempt.St.init cap) ops).avail < w.amt :=
  (pr_inv cap h ops).head w ws hw

example : (Preempt.run (Preempt.St.init 3) [.acquire 3 5 false, .acquire 2 7 false, .acquire 1 0 true]).waiters = []
    ∧ (Preempt.run (Preempt.St.init 3) [.acquire 3 5 false, .acquire 2 7 false, .acquire 1 0 true]).grantLog = [0, 2, 1] := by decide +kernel

/-- the code as it is (`acquire` does not wake waiters after a preemption) violates that clause: holder of
    3 at priority 5, a waiter for 2 at priority 7, then a preempting request for 1 at priority 0 frees 3,
    takes 1, and leaves 2 available while the waiter for 2 stays queued -/
theorem preempt_current_leaves_head_grantable :
    let s := Preempt.run (Preempt.St.init 3 false) [.acquire 3 5 false, .acquire 2 7 false, .acquire 1 0 true]
    s.waiters = [⟨1, 2, 7⟩] ∧ s.avail = 2 := by decide

/-- waiters are queued by (priority, arrival) and `_wake_waiters` always serves a prefix of that queue:
    everybody it grants comes before everybody it leaves waiting -/
theorem preempt_wake_order (cap : Int) (ops : List Preempt.Op) :
    let s := Preempt.run (Preempt.St.init cap) ops
    s.waiters.Pairwise Preempt.before
    ∧ ∀ a, ∀ x ∈ Preempt.wokenOf a s.waiters, ∀ y ∈ Preempt.restOf a s.waiters, Preempt.before x y := by
  have o := Preempt.run_ord _ ops (Preempt.init_ord cap)
  exact ⟨o.sorted, fun a => Preempt.wake_prefix a _ o.sorted⟩

example : (Preempt.run (Preempt.St.init 1) [.acquire 1 0 false, .acquire 1 2 false, .acquire 1 1 false, .acquire 1 1 false]).waiters
    = [⟨2, 1, 1⟩, ⟨3, 1, 1⟩, ⟨1, 1, 2⟩] := by decide +kernel

/-- nobody is granted twice: the ids in the grant log are pairwise distinct, and no waiter has been granted -/
theorem preempt_grant_at_most_once (cap : Int) (ops : List Preempt.Op) :
    let s := Preempt.run (Preempt.St.init cap) ops
    s.grantLog.Nodup ∧ ∀ g ∈ s.waiters, g.id ∉ s.grantLog := by
  have o := Preempt.run_ord _ ops (Preempt.init_ord cap)
  exact ⟨o.logNodup, o.waitNotLogged⟩

/-- only grants of strictly lower priority (larger value) are ever chosen as victims -/
theorem preempt_victim_lower_priority (p : Int) (l : List Preempt.G) (v : Preempt.G) (h : Preempt.victim p l = some v) :
    p < v.prio ∧ v ∈ l :=
  ⟨Preempt.victim_prio p l v h, Preempt.victim_mem p l v h⟩

example : Preempt.victim 1 [⟨0, 1, 1⟩, ⟨1, 1, 3⟩, ⟨2, 1, 2⟩, ⟨3, 2, 3⟩] = some ⟨1, 1, 3⟩
    ∧ Preempt.victim 3 [⟨0, 1, 1⟩, ⟨1, 1, 3⟩] = none := by decide +kernel

end PreemptProps

section TPoolProps
open TPool

theorem tp_inv (n : Nat) (qcap : Option Nat) (ops : List TPool.Op) : TPool.Inv (TPool.run (tpInit n qcap) ops) :=
  TPool.run_inv _ ops (TPool.init_inv n qcap)

/-- the number of busy workers never exceeds `num_workers` and is the number of tasks in service -/
theorem tpool_active_le_workers (n : Nat) (qcap : Option Nat) (ops : List TPool.Op) :
    (TPool.run (tpInit n qcap) ops).active ≤ n
    ∧ (TPool.run (tpInit n qcap) ops).active = (TPool.run (tpInit n qcap) ops).running.length := by
  have inv := tp_inv n qcap ops
  have := inv.bound
  rw [tp_run_n] at this
  exact ⟨this, inv.act⟩

/-- nothing accepted is lost: the "failed to acquire worker" branch is never taken, and every accepted task
    is queued, on its way to a worker, in service, or completed -/
theorem tpool_no_task_lost (n : Nat) (qcap : Option Nat) (ops : List TPool.Op) :
    let s := TPool.run (tpInit n qcap) ops
    s.rejected = 0 ∧ s.accepted = s.queue.length + TPool.inTransit s.pend + s.active + s.completed := by
  have inv := tp_inv n qcap ops
  exact ⟨inv.noLoss, inv.conserve⟩

example : let s := TPool.run (tpInit 1 none) [.submit 0, .submit 1, .notify, .poll, .deliver, .work 0, .disp, .finish 0, .poll, .deliver, .work 1]
    s.active = 1 ∧ s.completed = 1 ∧ s.accepted = 2 ∧ s.started = [0, 1] ∧ s.pend = [.disp] := by decide +kernel

/-- FIFO ledger: the accepted tasks, in acceptance order, are the started ones (in start order), then the
    one on its way to a worker, then the queued ones (in queue order); so, when the submitted ids are distinct, no task is
    started twice (the model accepts a repeated id as a second task, and then starts it twice) -/
theorem tpool_fifo_ledger (n : Nat) (qcap : Option Nat) (ops : List TPool.Op) :
    let s := TPool.run (tpInit n qcap) ops
    s.acceptedL = s.started ++ TPool.transit s.pend ++ s.queue
    ∧ (s.acceptedL.Nodup → s.started.Nodup) := by
  have inv := tp_inv n qcap ops
  exact ⟨inv.order, inv.started_nodup⟩

/-- work conservation: when nothing is on its way inside the pool (no internal event pending), a queued
    task means every worker is busy -/
theorem tpool_head_not_grantable (n : Nat) (qcap : Option Nat) (ops : List TPool.Op)
    (hp : (TPool.run (tpInit n qcap) ops).pend = []) (hq : (TPool.run (tpInit n qcap) ops).queue ≠ []) :
    (TPool.run (tpInit n qcap) ops).active = n := by
  have inv := tp_inv n qcap ops
  have lv : TPool.Live (TPool.run (tpInit n qcap) ops) :=
    TPool.run_live _ ops (TPool.init_inv n qcap) (by intro h; exact absurd rfl h)
  have hb := inv.bound
  have hd := lv.drained inv hp hq
  have hn : (TPool.run (tpInit n qcap) ops).n = n := tp_run_n _ ops
  rw [hn] at hb hd
  omega

example : let s := TPool.run (tpInit 1 (some 1)) [.submit 0, .notify, .poll, .deliver, .work 0, .disp, .submit 1, .submit 2, .notify]
    s.pend = [] ∧ s.queue = [1] ∧ s.active = 1 ∧ s.dropped = 1 := by decide +kernel

end TPoolProps

end HappyModel.C09
