import HappyProofs.C11.Accept
import HappyProofs.C11.Completeness
import HappyProofs.C11.LogMatching
/-! The setting of one handler step (`Ctx`) and the kind-independent facts read off `HK`. -/
namespace HappyModel.C11

structure Ctx (v : Variant) (g : GSt) (i : Nat) (inp : Option Body) (r : HR) (cr : List (List Entry)) : Prop where
  rep : Rep v
  ei : EInv g
  li : LInv g
  hi : HInv g
  cl : CLen g.s
  ei' : EInv (gApply g i r cr)
  li' : LInv (gApply g i r cr)
  cl' : CLen (gApply g i r cr).s
  hlt : i < g.s.n
  lok : LogOk g i r cr
  hk : HK v g.s.n (g.s.nodes i) i inp r
  hin : ∀ b, inp = some b → ∃ e ∈ g.s.msgs, e.body = b

/-- what a successful acknowledgement `(f, m)` of its term leaves of a leader `x` -/
structure Acked (n : Nat) (x : Node) (me f m : Nat) (y : Node) : Prop where
  term : y.term = x.term
  role : y.role = x.role
  vf : y.votedFor = x.votedFor
  log : y.log = x.log
  mi : y.matchIndex = x.matchIndex.set f m
  commit : y.commit = x.commit ∨ ∃ N, x.commit < N ∧ N ≤ x.log.length ∧ termAt x.log N = x.term
    ∧ quorum n ≤ countMatch n (ackNode x f m) me N ∧ y.commit = N

theorem ack_facts (n : Nat) (x : Node) (me f m : Nat) (hcl : x.commit ≤ x.log.length) :
    Acked n x me f m (tryAdvance n (ackNode x f m) me).node := by
  have hk := tryAdvance_kept n (ackNode x f m) me
  have hev := ev_eq hk.fr.ev
  refine ⟨hev.1, hev.2.2.1, hev.2.1, hk.log, hk.fr.mi, ?_⟩
  by_cases hc : (tryAdvance n (ackNode x f m) me).node.commit = (ackNode x f m).commit
  · exact Or.inl hc
  · exact Or.inr (leader_completeness_partial n (ackNode x f m) me hcl hc)

namespace Ctx
variable {v : Variant} {g : GSt} {i : Nat} {inp : Option Body} {r : HR} {cr : List (List Entry)}

theorem gle (_ : Ctx v g i inp r cr) : GLe g (gApply g i r cr) := gle_apply g i r cr

theorem ack (c : Ctx v g i inp r cr) {f m : Nat} (hnode : r.node = (tryAdvance g.s.n (ackNode (g.s.nodes i) f m) i).node) :
    Acked g.s.n (g.s.nodes i) i f m r.node := hnode ▸ ack_facts _ _ _ _ _ (c.cl i)

theorem node_self (_ : Ctx v g i inp r cr) : (gApply g i r cr).s.nodes i = r.node := by simp
theorem node_other (_ : Ctx v g i inp r cr) {j : Nat} (h : j ≠ i) : (gApply g i r cr).s.nodes j = g.s.nodes j := by
  simp [upd_other _ _ _ _ h]

theorem rec_post (c : Ctx v g i inp r cr) : Rec (gApply g i r cr).created r.node.log := c.node_self ▸ c.li'.b i

theorem led_post (c : Ctx v g i inp r cr) (h : r.node.role = .leader) : (r.node.term, i) ∈ (gApply g i r cr).leaders := by
  have := c.ei'.l0 i
  rw [c.node_self] at this
  exact this h

theorem ae_accepted (c : Ctx v g i inp r cr) {t l pi pt : Nat} {es : List Entry} {lc : Nat} (hin : inp = some (.ae t l pi pt es lc))
    (hle : (g.s.nodes i).term ≤ t) (hbad : aeBad (stepDown v (g.s.nodes i) t) pi pt = false)
    (hnode : r.node = (aeCommit (appendLoop v (stepDown v (g.s.nodes i) t) (pi + 1) es) lc).node) :
    ∃ X, AeAccepted g (g.s.nodes i) t pi es lc r.node X := by
  obtain ⟨e, he, hb⟩ := c.hin _ hin
  exact accept_facts v c.rep c.li c.hi (g.s.nodes i) (c.li.b i) (c.cl i) (c.hi.n_cn i)
    (c.hi.m_ae e he t l pi pt es lc hb) hle hbad r.node hnode

theorem accept (c : Ctx v g i inp r cr) {t l pi pt : Nat} {es : List Entry} {lc : Nat} (hin : inp = some (.ae t l pi pt es lc))
    (hle : (g.s.nodes i).term ≤ t) (hbad : aeBad (stepDown v (g.s.nodes i) t) pi pt = false)
    (hnode : r.node = (aeCommit (appendLoop v (stepDown v (g.s.nodes i) t) (pi + 1) es) lc).node) :
    r.node.term = t ∧ r.node.role = .follower ∧ (r.node.votedFor = none ∨ (r.node.votedFor = (g.s.nodes i).votedFor ∧ r.node.term = (g.s.nodes i).term)) ∧
    ∃ X, LeaderLog g t X ∧ pi + es.length = X.length ∧ X <+: r.node.log ∧
      (r.node.log = (g.s.nodes i).log ∨ (r.node.log = X ∧ ¬ X <+: (g.s.nodes i).log)) ∧
      (g.s.nodes i).commit ≤ r.node.commit ∧ r.node.commit ≤ r.node.log.length ∧
      (r.node.log.take r.node.commit = (g.s.nodes i).log.take (g.s.nodes i).commit
        ∨ (r.node.log.take r.node.commit = X.take lc ∧ CommB g (X.take lc) t)) :=
  let ⟨X, a⟩ := c.ae_accepted hin hle hbad hnode
  ⟨a.term, a.role, a.vf, X, a.ll, a.len, a.pre, a.log, a.commit_le, a.clen, a.comm⟩

theorem rt (c : Ctx v g i inp r cr) :
    (r.node.role = (g.s.nodes i).role ∧ r.node.term = (g.s.nodes i).term
      ∧ ((g.s.nodes i).role ≠ .leader → r.node.log = (g.s.nodes i).log))
    ∨ (r.node.role = .follower ∧ (g.s.nodes i).term ≤ r.node.term)
    ∨ ((g.s.nodes i).role ≠ .leader ∧ r.node.term = (g.s.nodes i).term + 1 ∧ r.node.log = (g.s.nodes i).log
        ∧ r.node.commit = (g.s.nodes i).commit ∧ r.node.votedFor = some i
        ∧ (r.node.role = .candidate ∨ (r.node.role = .leader ∧ r.node.matchIndex = List.replicate g.s.n 0)))
    ∨ ((g.s.nodes i).role = .candidate ∧ r.node.role = .leader ∧ r.node.term = (g.s.nodes i).term
        ∧ r.node.log = (g.s.nodes i).log ∧ r.node.commit = (g.s.nodes i).commit ∧ r.node.matchIndex = List.replicate g.s.n 0) := by
  cases c.hk with
  | quiet hlog _ _ rt =>
    rcases rt with h | h
    · exact Or.inl ⟨h.1, h.2, fun _ => hlog⟩
    · exact Or.inr (Or.inl h)
  | grant t _ _ _ _ _ hlog _ _ rt ht =>
    rcases rt with h | h
    · exact Or.inl ⟨h.1, ht.trans h.2.symm, fun _ => hlog⟩
    · exact Or.inr (Or.inl ⟨h.1, ht ▸ Nat.le_of_lt h.2⟩)
  | campaign hlog hcommit hnl ht vf role => exact Or.inr (Or.inr (Or.inl ⟨hnl, ht, hlog, hcommit, vf, role⟩))
  | elect hlog hcommit hc ht _ role hmi => exact Or.inr (Or.inr (Or.inr ⟨hc, role, ht, hlog, hcommit, hmi⟩))
  | lsend hlog _ _ hl role ht => exact Or.inl ⟨role.trans hl.symm, ht, fun _ => hlog⟩
  | accept t l pi pt es lc _ hin hle hbad hnode =>
    obtain ⟨_, a⟩ := c.ae_accepted hin hle hbad hnode
    exact Or.inr (Or.inl ⟨a.role, a.term ▸ hle⟩)
  | ack f m _ hl hnode => exact Or.inl ⟨(c.ack hnode).role, (c.ack hnode).term, fun h => absurd hl h⟩
  | append _ hl _ _ _ role ht => exact Or.inl ⟨role.trans hl.symm, ht, fun h => absurd hl h⟩

theorem term_le (c : Ctx v g i inp r cr) : (g.s.nodes i).term ≤ r.node.term := by
  rcases c.rt with h | h | h | h
  · exact Nat.le_of_eq h.2.1.symm
  · exact h.2
  · exact h.2.1 ▸ Nat.le_succ _
  · exact Nat.le_of_eq h.2.2.1.symm

/-- only `campaign` (cluster of one) and `elect` make a leader -/
theorem newleader (c : Ctx v g i inp r cr) (h1 : r.node.role = .leader) (h2 : (g.s.nodes i).role ≠ .leader) :
    r.node.log = (g.s.nodes i).log ∧ r.node.commit = (g.s.nodes i).commit ∧ r.node.matchIndex = List.replicate g.s.n 0 ∧
    (((g.s.nodes i).role = .candidate ∧ r.node.term = (g.s.nodes i).term) ∨ r.node.term = (g.s.nodes i).term + 1) := by
  rcases c.rt with h | h | ⟨_, ht, hlog, hcommit, _, role⟩ | ⟨hc, _, ht, hlog, hcommit, hmi⟩
  · exact absurd (h.1 ▸ h1) h2
  · rw [h.1] at h1; cases h1
  · rcases role with h | h
    · rw [h] at h1; cases h1
    · exact ⟨hlog, hcommit, h.2, Or.inr ht⟩
  · exact ⟨hlog, hcommit, hmi, Or.inl ⟨hc, ht⟩⟩

theorem mem_llogDiff {x x' : Node} {i t c : Nat} {L : List Entry} (h : (t, c, L) ∈ llogDiff x x' i) :
    t = x'.term ∧ c = i ∧ L = x'.log ∧ x'.role = .leader ∧ x.role ≠ .leader := by
  unfold llogDiff at h
  split at h
  · rename_i hc
    simp only [List.mem_singleton, Prod.mk.injEq] at h
    exact ⟨h.1, h.2.1, h.2.2, hc.1, hc.2⟩
  · cases h

/-- only `campaign` records a candidacy -/
theorem mem_candDiff (c : Ctx v g i inp r cr) {U k : Nat} {Lc : List Entry} (h : (U, k, Lc) ∈ candDiff (g.s.nodes i) r.node i) :
    U = (g.s.nodes i).term + 1 ∧ k = i ∧ Lc = (g.s.nodes i).log ∧ r.node.term = U ∧ r.node.log = (g.s.nodes i).log
    ∧ (g.s.nodes i).role ≠ .leader ∧ r.node.votedFor = some i := by
  unfold candDiff at h
  split at h
  · rename_i hc
    simp only [List.mem_singleton, Prod.mk.injEq] at h
    obtain ⟨e1, e2, e3⟩ := h
    rcases c.rt with h | h | ⟨hnl, ht, hlog, _, vf, _⟩ | h
    · exact absurd h.2.1 (Nat.ne_of_gt hc.1)
    · exact absurd h.1 hc.2
    · exact ⟨by omega, e2, by rw [e3, hlog], by omega, hlog, hnl, vf⟩
    · exact absurd h.2.2.1 (Nat.ne_of_gt hc.1)
  · cases h

theorem accepted_post (_ : Ctx v g i inp r cr) {f T : Nat} {K : List Entry} (a : Accepted (gApply g i r cr) f T K) :
    Accepted g f T K ∨ (f = i ∧ T = r.node.term ∧ K <+: r.node.log) := by
  obtain ⟨h1, h2, L, h3, h4⟩ := a
  simp only [gApply_seen, List.mem_cons, Prod.mk.injEq] at h3
  rcases h3 with ⟨e1, e2, e3⟩ | h3
  · right; exact ⟨e1, e2, by rw [← e3]; exact h4⟩
  · left; exact ⟨h1, h2, L, h3, h4⟩

theorem term_post (c : Ctx v g i inp r cr) (j : Nat) : (g.s.nodes j).term ≤ ((gApply g i r cr).s.nodes j).term := by
  by_cases hj : j = i
  · rw [hj, c.node_self]; exact c.term_le
  · rw [c.node_other hj]; exact Nat.le_refl _

end Ctx
end HappyModel.C11
