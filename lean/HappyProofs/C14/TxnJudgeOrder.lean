import HappyProofs.C14.TxnObs
import HappyProofs.C14.TxnLists
/-!
# The transaction judge accepts observations that satisfy `TxnFacts`: states and the commit order

Under `TxnFacts` the commit order the judge computes (`commitOrder`, a `mergeSort` of the committed transactions by
the position of their commit call) is the commit history `h`, entry by entry.
-/
namespace HappyModel.C14.SM
open HappyModel.C14 HappyModel.C14.BT HappyModel.C14.TxSpec

/-- what a history entry records about a committed transaction -/
def keyOf (t : TObs) : Nat × Nat × KV := (t.commitPos, t.slot, t.wset)

def runW (s : State) (l : List TObs) : State := l.foldl (fun s t => applyW s t.wset) s

@[simp] theorem runW_nil (s : State) : runW s [] = s := rfl
@[simp] theorem runW_cons (s : State) (t : TObs) (l : List TObs) :
    runW s (t :: l) = runW (applyW s t.wset) l := rfl

theorem lookup_setKey (k : Key) (v : Nat) (s : State) (k' : Key) :
    (setKey k v s).lookup k' = if k' = k then some v else s.lookup k' := by
  induction s with
  | nil => simp only [setKey, lookup_cons_ite, List.lookup_nil]
  | cons x r ih =>
    obtain ⟨a, b⟩ := x
    simp only [setKey]
    by_cases hak : a = k
    · subst hak
      simp only [if_true, lookup_cons_ite]
      by_cases h : k' = a <;> simp [h]
    · simp only [hak, if_false, lookup_cons_ite, ih]
      by_cases h : k' = k
      · subst h
        have : ¬ k' = a := fun e => hak e.symm
        simp [this]
      · simp [h]

theorem lookup_applyW (w : State) : ∀ (s : State) (f : Key → Option Nat), (∀ k, s.lookup k = f k) →
    ∀ k, (applyW s w).lookup k = applyF f w k := by
  induction w with
  | nil => intro s f h k; simpa [applyW, applyF] using h k
  | cons e r ih =>
    intro s f h k
    have := ih (setKey e.1 e.2 s) (putF f e.1 e.2) (by
      intro k'
      rw [lookup_setKey]
      simp only [putF, h k']) k
    simpa [applyW, applyF] using this

theorem stateEnd_nil (f : Key → Option Nat) : stateEnd f [] = f := rfl
theorem stateEnd_cons (f : Key → Option Nat) (c : Nat × Nat × KV) (h : Hist) :
    stateEnd f (c :: h) = stateEnd (applyF f c.2.2) h := rfl

theorem lookup_runW (l : List TObs) : ∀ (s : State) (f : Key → Option Nat), (∀ k, s.lookup k = f k) →
    ∀ k, (runW s l).lookup k = stateEnd f (l.map keyOf) k := by
  induction l with
  | nil => intro s f h k; simpa [stateEnd_nil] using h k
  | cons t r ih =>
    intro s f h k
    simp only [runW_cons, List.map_cons, stateEnd_cons]
    exact ih _ _ (lookup_applyW t.wset s f h) k

theorem serialOk_of (b : Bool) (nkeys : Nat) (final : List (Option Nat)) (l : List TObs) : ∀ (s : State),
    (∀ p t q, l = p ++ t :: q → t.level = .ser → readsMatch (runW s p) t = true) →
    (∀ k, k < nkeys → (runW s l).lookup k = final.getD k none) →
    serialOk b nkeys final s l = true := by
  induction l with
  | nil =>
    intro s _ hfin
    simp only [serialOk, List.all_eq_true, List.mem_range]
    intro k hk
    have := hfin k hk
    simp only [runW_nil] at this
    simp [this]
  | cons t r ih =>
    intro s hr hfin
    simp only [serialOk, Bool.and_eq_true, Bool.or_eq_true, Bool.not_eq_true']
    refine ⟨?_, ?_⟩
    · by_cases hl : t.level = .ser
      · right
        exact hr [] t r rfl hl
      · left
        simp [hl]
    · apply ih
      · intro p t' q hpq hl
        have := hr (t :: p) t' q (by simp [hpq]) hl
        simpa using this
      · intro k hk
        simpa using hfin k hk

theorem mem_prefixStates_self (s : State) (l : List TObs) : s ∈ prefixStates s l := by
  cases l <;> simp [prefixStates]

/-- among the states after the prefixes of a filtered, position-sorted list there is the state "before
    position `nb`", if everything before `nb` survives the filter -/
theorem prefixStates_before (P : TObs → Bool) (nb : Nat) (l : List TObs) : ∀ (s : State) (f : Key → Option Nat),
    l.Pairwise (fun a b => a.commitPos ≤ b.commitPos) →
    (∀ c ∈ l, c.commitPos < nb → P c = true) →
    (∀ k, s.lookup k = f k) →
    ∃ s' ∈ prefixStates s (l.filter P), ∀ k, s'.lookup k = stateEnd f ((l.map keyOf).filter fun c => c.1 < nb) k := by
  induction l with
  | nil =>
    intro s f _ _ h
    exact ⟨s, by simp [prefixStates], by simpa [stateEnd_nil] using h⟩
  | cons x r ih =>
    intro s f hs hP h
    rw [List.pairwise_cons] at hs
    by_cases hx : x.commitPos < nb
    · have hPx := hP x (by simp) hx
      have hk : (fun c : Nat × Nat × KV => decide (c.1 < nb)) (keyOf x) = true := decide_eq_true hx
      obtain ⟨s', hm, hl⟩ := ih (applyW s x.wset) (applyF f x.wset) hs.2
        (fun c hc => hP c (by simp [hc])) (lookup_applyW x.wset s f h)
      refine ⟨s', ?_, ?_⟩
      · rw [List.filter_cons_of_pos hPx]
        simp only [prefixStates, List.mem_cons]
        exact Or.inr hm
      · intro k
        rw [List.map_cons, List.filter_cons_of_pos (p := fun c : Nat × Nat × KV => decide (c.1 < nb)) hk,
          stateEnd_cons]
        exact hl k
    · refine ⟨s, mem_prefixStates_self _ _, ?_⟩
      have hnil : ((x :: r).map keyOf).filter (fun c => decide (c.1 < nb)) = [] :=
        filter_lt_append [] _ nb (fun _ h => nomatch h) fun c hc => by
          obtain ⟨y, hy, rfl⟩ := List.mem_map.1 (List.map_cons ▸ hc)
          rcases List.mem_cons.1 hy with rfl | hy
          · exact Nat.not_lt.1 hx
          · exact Nat.le_trans (Nat.not_lt.1 hx) (hs.1 y hy)
      intro k
      rw [hnil, stateEnd_nil]
      exact h k

theorem filter_before_entry (a : Hist) (x : Nat × Nat × KV) (b : Hist)
    (hs : ((a ++ x :: b).map (·.1)).Pairwise (· < ·)) :
    (a ++ x :: b).filter (fun c => c.1 < x.1) = a := by
  rw [List.map_append, List.pairwise_append, List.map_cons, List.pairwise_cons] at hs
  obtain ⟨_, hb, hab⟩ := hs
  refine filter_lt_append a (x :: b) x.1 (fun c hc => hab c.1 (List.mem_map_of_mem hc) x.1 (by simp)) fun c hc => ?_
  rcases List.mem_cons.1 hc with rfl | hc
  · exact Nat.le_refl _
  · exact Nat.le_of_lt (hb.1 c.1 (List.mem_map_of_mem hc))

theorem le_foldl_max (l : List (Key × Option Nat × Nat)) : ∀ (m : Nat),
    m ≤ l.foldl (fun m r => max m r.2.2) m ∧ ∀ r ∈ l, r.2.2 ≤ l.foldl (fun m r => max m r.2.2) m := by
  induction l with
  | nil => intro m; simp
  | cons x r ih =>
    intro m
    have := ih (max m x.2.2)
    simp only [List.foldl_cons, List.mem_cons]
    refine ⟨by omega, ?_⟩
    intro y hy
    rcases hy with rfl | hy
    · omega
    · exact this.2 y hy

theorem mem_commitOrder (ts : List TObs) (t : TObs) :
    t ∈ commitOrder ts ↔ t ∈ ts ∧ t.committed = true := by
  simp only [commitOrder, List.mem_mergeSort, List.mem_filter]

theorem commitOrder_sorted (ts : List TObs) :
    (commitOrder ts).Pairwise (fun a b => a.commitPos ≤ b.commitPos) := by
  have := List.pairwise_mergeSort (le := fun a b : TObs => decide (a.commitPos ≤ b.commitPos))
    (by intro a b c hab hbc
        have h1 : a.commitPos ≤ b.commitPos := of_decide_eq_true hab
        have h2 : b.commitPos ≤ c.commitPos := of_decide_eq_true hbc
        exact decide_eq_true (Nat.le_trans h1 h2))
    (by intro a b
        rcases Nat.le_total a.commitPos b.commitPos with h | h
        · simp [h]
        · simp [h])
    (ts.filter (·.committed))
  exact this.imp (fun h => of_decide_eq_true h)

theorem hist_inj (h : Hist) (hs : (h.map (·.1)).Pairwise (· < ·)) :
    ∀ a ∈ h, ∀ b ∈ h, a.1 = b.1 → a = b := by
  rw [List.pairwise_map] at hs
  have h2 : h.Pairwise (fun a b => a.1 = b.1 → a = b) :=
    hs.imp (fun {a b} hlt he => by omega)
  have h3 : h.Pairwise (flip fun a b : Nat × Nat × KV => a.1 = b.1 → a = b) :=
    hs.imp (fun {a b} hlt => show b.1 = a.1 → b = a from fun he => by omega)
  intro a ha b hb
  exact List.Pairwise.forall_of_forall_of_flip (fun x _ _ => rfl) h2 h3 ha hb

theorem hist_nodup (h : Hist) (hs : (h.map (·.1)).Pairwise (· < ·)) : h.Nodup := by
  rw [List.pairwise_map] at hs
  exact hs.imp (fun {a b} hlt he => by subst he; omega)

theorem committed_keys_nodup (ts : List TObs) (hn : (ts.map (·.slot)).Nodup) :
    ((ts.filter (·.committed)).map keyOf).Nodup := by
  have h1 : ((ts.filter (·.committed)).map (·.slot)).Nodup :=
    List.Nodup.sublist (List.filter_sublist.map _) hn
  unfold List.Nodup at h1 ⊢
  rw [List.pairwise_map] at h1 ⊢
  exact h1.imp (fun {a b} hne he => hne (by
    have := congrArg (fun c : Nat × Nat × KV => c.2.1) he
    simpa [keyOf] using this))

theorem commitOrder_map {init finalF : Key → Option Nat} {ts : List TObs} {h : Hist}
    (hf : TxnFacts init finalF ts h) : (commitOrder ts).map keyOf = h := by
  have hperm1 : List.Perm ((commitOrder ts).map keyOf) ((ts.filter (·.committed)).map keyOf) :=
    (List.mergeSort_perm _ _).map keyOf
  have hperm2 : List.Perm ((ts.filter (·.committed)).map keyOf) h := by
    rw [List.perm_ext_iff_of_nodup (committed_keys_nodup ts hf.slots) (hist_nodup h hf.sorted)]
    intro a
    constructor
    · intro ha
      obtain ⟨t, ht, rfl⟩ := List.mem_map.1 ha
      rw [List.mem_filter] at ht
      exact hf.comm_hist t ht.1 ht.2
    · intro ha
      obtain ⟨t, ht, hc, h1, h2, h3⟩ := hf.hist_comm a ha
      refine List.mem_map.2 ⟨t, List.mem_filter.2 ⟨ht, hc⟩, ?_⟩
      obtain ⟨a1, a2, a3⟩ := a
      simp only at h1 h2 h3
      simp only [keyOf, h1, h2, h3]
  have hperm : List.Perm ((commitOrder ts).map keyOf) h := hperm1.trans hperm2
  refine List.Perm.eq_of_pairwise (le := fun a b : Nat × Nat × KV => a.1 ≤ b.1) ?_ ?_ ?_ hperm
  · intro a b ha hb hab hba
    exact hist_inj h hf.sorted a (hperm.mem_iff.1 ha) b hb (Nat.le_antisymm hab hba)
  · rw [List.pairwise_map]
    exact (commitOrder_sorted ts).imp (fun {a b} hle => by simpa [keyOf] using hle)
  · have := hf.sorted
    rw [List.pairwise_map] at this
    exact this.imp (fun {a b} hlt => Nat.le_of_lt hlt)

end HappyModel.C14.SM
