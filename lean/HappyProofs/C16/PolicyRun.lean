import HappyProofs.C16.PolicyCalls
/-!
A policy run side by side with its history specification (`SpecSt`, computed from the calls and from
what `evict` returned only).
-/
namespace HappyModel.C16

def runBoth (p : Pol) (s : SpecSt) : List POp → Pol × SpecSt
  | [] => (p, s)
  | op :: ops => runBoth (p.step op).2 (s.step op (p.step op).1) ops

structure KeysRel (p : Pol) (s : SpecSt) : Prop where
  inv : p.Inv
  same : ∀ x, x ∈ p.tracked ↔ x ∈ s.keys

theorem spec_has_iff (s : SpecSt) (k : Key) : s.has k = true ↔ k ∈ s.keys := by
  simp [SpecSt.has, SpecSt.keys]

theorem keys_filter (l : List HRec) (k : Key) :
    (l.filter (fun r => r.key != k)).map (·.key) = (l.map (·.key)).filter (fun x => x != k) := by
  rw [List.filter_map]; rfl

/-- what `access` does to one record -/
def touch (t : Nat) (k : Key) (r : HRec) : HRec :=
  if r.key == k then { r with last := t, cnt := r.cnt + 1 } else r

@[simp] theorem touch_key (t : Nat) (k : Key) (r : HRec) : (touch t k r).key = r.key := by
  unfold touch; split <;> rfl

@[simp] theorem touch_ins (t : Nat) (k : Key) (r : HRec) : (touch t k r).ins = r.ins := by
  unfold touch; split <;> rfl

@[simp] theorem touch_insNow (t : Nat) (k : Key) (r : HRec) : (touch t k r).insNow = r.insNow := by
  unfold touch; split <;> rfl

theorem touch_of_ne {t : Nat} {k : Key} {r : HRec} (h : r.key ≠ k) : touch t k r = r := by
  unfold touch; simp [h]

theorem touch_of_eq {t : Nat} {k : Key} {r : HRec} (h : r.key = k) :
    touch t k r = { r with last := t, cnt := r.cnt + 1 } := by
  unfold touch; simp [h]

theorem touch_last_lt {t : Nat} {k : Key} {r : HRec} (h : r.last < t) : (touch t k r).last < t + 1 := by
  unfold touch; split
  · simp
  · omega

theorem map_touch_not_mem {t : Nat} {k : Key} {l : List HRec} (h : k ∉ l.map (·.key)) :
    l.map (touch t k) = l := by
  induction l with
  | nil => rfl
  | cons a r ih =>
    simp only [List.map_cons, List.mem_cons, not_or] at h
    rw [List.map_cons, ih h.2, touch_of_ne (fun e => h.1 e.symm)]

theorem step_access (s : SpecSt) (k : Key) (res : Option Key) :
    s.step (.access k) res = { s with tick := s.tick + 1, held := s.held.map (touch s.tick k) } := rfl

theorem step_insert_wf (s : SpecSt) (k now : Nat) (res : Option Key) (h : s.has k = false) :
    s.step (.insert k now) res =
      { s with tick := s.tick + 1, held := s.held ++ [⟨k, s.tick, s.tick, 1, now⟩] } := by
  simp [SpecSt.step, h]

theorem step_remove (s : SpecSt) (k : Key) (res : Option Key) :
    s.step (.remove k) res =
      { s with tick := s.tick + 1, held := s.held.filter (fun r => r.key != k) } := rfl

theorem step_evict_some (s : SpecSt) (now : Nat) (pick : List Key) (k : Key) :
    s.step (.evict now pick) (some k) =
      { s with tick := s.tick + 1, held := s.held.filter (fun r => r.key != k) } := rfl

theorem step_evict_none (s : SpecSt) (now : Nat) (pick : List Key) :
    s.step (.evict now pick) none = { s with tick := s.tick + 1 } := rfl

theorem step_clear (s : SpecSt) (res : Option Key) :
    s.step .clear res = { s with tick := s.tick + 1, held := [] } := rfl

theorem step_keys_access (s : SpecSt) (k : Key) (r : Option Key) :
    (s.step (.access k) r).keys = s.keys := by
  simp [step_access, SpecSt.keys, Function.comp_def]

theorem step_keys_insert (s : SpecSt) (k now : Nat) (r : Option Key) (h : s.has k = false) :
    (s.step (.insert k now) r).keys = s.keys ++ [k] := by
  simp [step_insert_wf _ _ _ _ h, SpecSt.keys]

theorem wf_insert_not_has (s : SpecSt) (k now : Nat) (res : Option Key)
    (h : (s.step (.insert k now) res).wf = true) : s.has k = false := by
  cases hb : s.has k with
  | false => rfl
  | true => simp [SpecSt.step, hb] at h

theorem not_mem_keys_of_not_has {s : SpecSt} {k : Key} (h : s.has k = false) : k ∉ s.keys := by
  intro hm; rw [← spec_has_iff] at hm; rw [h] at hm; cases hm

theorem keysRel_init (name : String) (arg : Nat) (p : Pol) (h : Pol.ofName name arg = some p) :
    KeysRel p {} := by
  obtain ⟨hi, ht⟩ := Pol.ofName_inv name arg p h
  exact ⟨hi, fun x => by rw [ht]; simp [SpecSt.keys]⟩

theorem keysRel_step (p : Pol) (s : SpecSt) (op : POp) (h : KeysRel p s)
    (hwf : (s.step op (p.step op).1).wf = true) :
    KeysRel (p.step op).2 (s.step op (p.step op).1) := by
  obtain ⟨hi, hs⟩ := h
  cases op with
  | access k =>
    obtain ⟨i', m'⟩ := Pol.access_law p hi k
    exact ⟨i', fun x => (m' x).trans (by rw [step_keys_access]; exact hs x)⟩
  | insert k now =>
    have hh := wf_insert_not_has _ _ _ _ hwf
    obtain ⟨i', m'⟩ := Pol.insert_law p hi k now (fun hm => not_mem_keys_of_not_has hh ((hs k).mp hm))
    exact ⟨i', fun x => (m' x).trans (by rw [step_keys_insert _ _ _ _ hh, hs x]; simp [Or.comm])⟩
  | remove k =>
    obtain ⟨i', m'⟩ := Pol.remove_law p hi k
    exact ⟨i', fun x => (m' x).trans (by rw [step_remove, SpecSt.keys, keys_filter, List.mem_filter, hs x]; simp [SpecSt.keys])⟩
  | evict now pick =>
    simp only [Pol.step]
    cases hr : (p.evict now pick).1 with
    | none =>
      rw [Pol.evict_none_state p hi now pick hr]
      exact ⟨hi, fun x => by rw [step_evict_none]; exact hs x⟩
    | some k =>
      obtain ⟨_, i', m'⟩ := Pol.evict_some_law p hi now pick k hr
      exact ⟨i', fun x => by rw [step_evict_some, SpecSt.keys, keys_filter, List.mem_filter, m' x, hs x]; simp [SpecSt.keys]⟩
  | clear =>
    obtain ⟨i', t'⟩ := Pol.clear_law p
    exact ⟨i', fun x => by rw [Pol.step, t']; simp [SpecSt.step, SpecSt.keys]⟩

theorem wf_step_mono (s : SpecSt) (op : POp) (res : Option Key) (h : (s.step op res).wf = true) :
    s.wf = true := by
  cases op with
  | insert k now =>
    simp only [SpecSt.step] at h
    split at h
    · cases h
    · exact h
  | evict now pick => cases res <;> exact h
  | access k => exact h
  | remove k => exact h
  | clear => exact h

theorem wf_runBoth_mono (p : Pol) (s : SpecSt) (ops : List POp) (h : (runBoth p s ops).2.wf = true) :
    s.wf = true := by
  induction ops generalizing p s with
  | nil => exact h
  | cons op ops ih =>
    simp only [runBoth] at h
    exact wf_step_mono s op _ (ih _ _ h)

theorem rel_run (R : Pol → SpecSt → Prop)
    (hstep : ∀ p s op, R p s → (s.step op (p.step op).1).wf = true →
      R (p.step op).2 (s.step op (p.step op).1))
    (p : Pol) (s : SpecSt) (ops : List POp) (h : R p s) (hwf : (runBoth p s ops).2.wf = true) :
    R (runBoth p s ops).1 (runBoth p s ops).2 := by
  induction ops generalizing p s with
  | nil => exact h
  | cons op ops ih =>
    simp only [runBoth] at hwf ⊢
    exact ih _ _ (hstep p s op h (wf_runBoth_mono _ _ ops hwf)) hwf

theorem keysRel_run (p : Pol) (s : SpecSt) (ops : List POp) (h : KeysRel p s)
    (hwf : (runBoth p s ops).2.wf = true) : KeysRel (runBoth p s ops).1 (runBoth p s ops).2 :=
  rel_run KeysRel keysRel_step p s ops h hwf

end HappyModel.C16
