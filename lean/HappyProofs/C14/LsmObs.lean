import HappyModel.C14.Driver
import HappyProofs.C14.LsmBookRun
/-! Observations of a model run in the vocabulary of the Spec. -/
namespace HappyModel.C14

def obsOf (ops : List (Nat × OKind)) (y : Sys) : List ORec :=
  y.frames.filterMap fun f =>
    match f.b, ops.lookup f.id with
    | some b, some kind =>
      some { id := f.id, kind := kind, b := b, e := f.e,
             got := match f.pc with | .done (.val c) => c | _ => none,
             rows := match f.pc with | .done (.rows d) => d | _ => [] }
    | _, _ => none

def DistinctPuts (ops : List (Nat × OKind)) : Prop :=
  (ops.map (·.1)).Nodup ∧
  (ops.filterMap fun o => match o.2 with | .put _ v => some v | _ => none).Nodup

def startFor (ops : List (Nat × OKind)) (id : Nat) : Pc :=
  match ops.lookup id with
  | some kind => Driver.startPc kind
  | none => .done .ok

def sysOf (cfg : Cfg) (oracle : List Bool) (ops : List (Nat × OKind)) : Sys :=
  { st := St.init cfg oracle, frames := ops.map fun o => { id := o.1, pc := Driver.startPc o.2 } }

theorem startPc_isStart (k : OKind) : (Driver.startPc k).isStart = true := by cases k <;> rfl

theorem sysOf_init (cfg : Cfg) (oracle : List Bool) (ops : List (Nat × OKind)) : InitSys cfg (sysOf cfg oracle ops) := by
  refine ⟨⟨oracle, rfl⟩, ?_, rfl⟩
  intro f hf
  obtain ⟨o, _, rfl⟩ := List.mem_map.mp hf
  exact ⟨startPc_isStart o.2, rfl, rfl⟩

theorem sysOf_ids (cfg : Cfg) (oracle : List Bool) (ops : List (Nat × OKind)) :
    (sysOf cfg oracle ops).frames.map (·.id) = ops.map (·.1) := by
  simp [sysOf, List.map_map, Function.comp_def]

theorem sysOf_start (cfg : Cfg) (oracle : List Bool) {ops : List (Nat × OKind)} (hn : (ops.map (·.1)).Nodup) :
    ∀ f ∈ (sysOf cfg oracle ops).frames, startFor ops f.id = f.pc := by
  intro f hf
  obtain ⟨o, ho, rfl⟩ := List.mem_map.mp hf
  simp only [startFor, mem_lookup hn ho]

theorem linv_sysOf (cfg : Cfg) (oracle : List Bool) {ops : List (Nat × OKind)} (hd : DistinctPuts ops) (h2 : 2 ≤ cfg.maxLevels) :
    LInv cfg (startFor ops) (sysOf cfg oracle ops) [] :=
  linv_init (sysOf_init cfg oracle ops) h2 (by rw [sysOf_ids]; exact hd.1) (startFor ops) (sysOf_start cfg oracle hd.1)

theorem inOrder_take {cfg : Cfg} {y : Sys} {sched : List Nat} (h : InOrder cfg y sched) (k : Nat) :
    InOrder cfg y (sched.take k) := by
  intro n f hf t b hpc hs
  by_cases hnk : n < k
  · have e1 : (sched.take k).take n = sched.take n := by rw [List.take_take]; congr 1; omega
    rw [e1] at hf ⊢
    refine h n f hf t b hpc ?_
    rw [List.getElem?_take] at hs
    simpa [hnk] using hs
  · rw [List.getElem?_take] at hs
    simp [hnk] at hs

section
variable {k : Key} {c : Cell} {ops : List (Nat × OKind)} {kind : OKind}

theorem startPc_cellKind (k : Key) (c : Cell) : Driver.startPc (cellKind k c) = .pStart k c := by
  cases c <;> rfl

theorem cellKind_of_startPc (h : Driver.startPc kind = .pStart k c) :
    kind = cellKind k c := by
  cases kind <;> cases h <;> rfl

theorem startFor_of_lookup {id : Nat} (h : ops.lookup id = some kind) :
    startFor ops id = Driver.startPc kind := by
  unfold startFor; rw [h]

theorem lookup_of_startFor {id : Nat}
    (h : startFor ops id = .pStart k c) : ops.lookup id = some (cellKind k c) := by
  unfold startFor at h
  cases hl : ops.lookup id with
  | none => rw [hl] at h; cases h
  | some kind => rw [hl] at h; rw [cellKind_of_startPc h]

end

end HappyModel.C14
