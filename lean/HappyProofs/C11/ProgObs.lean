import HappyProofs.C11.Progress
import HappyProofs.C11.Safety
/-! Bounded progress as an observer sees it (`Spec.Frame`s): the leader reports the command at its
    index exactly once, the future is reported resolved with that index, and — by State-Machine
    Safety — no node ever reports another command at that index. -/
namespace HappyModel.C11
open Spec

theorem hit_frames (v : Variant) {L k f : Nat} {c : Cmd} : ∀ (as : List Act) (s : St), Hit (outs v s as) L k f c →
    ∃ fr ∈ framesFrom v s as, (L, k, c.id) ∈ fr.apps ∧ (L, f, k) ∈ fr.ress := by
  intro as
  induction as with
  | nil => intro s h; obtain ⟨o, ho, _⟩ := h; simp [outs] at ho
  | cons a as ih =>
    intro s h
    obtain ⟨o, ho, ht, res, r1, r2⟩ := h
    simp only [outs, List.mem_cons] at ho
    rcases ho with ho | ho
    · refine ⟨frameOf (step v s a).1 (step v s a).2 a, by simp [framesFrom], ?_, ?_⟩
      · simp only [frameOf, List.mem_map]
        refine ⟨(k, c, res), by rw [← ho]; exact r1, ?_⟩
        simp [tgt, ← ho, ht]
      · simp only [frameOf, List.mem_map]
        refine ⟨(f, k, res), by rw [← ho]; exact r2, ?_⟩
        simp [tgt, ← ho, ht]
    · obtain ⟨fr, hfr, h1, h2⟩ := ih (step v s a).1 ⟨o, ho, ht, res, r1, r2⟩
      exact ⟨fr, by simp only [framesFrom]; exact List.mem_cons_of_mem _ hfr, h1, h2⟩

theorem consec_ge : ∀ (l : List (Nat × Nat)) (m : Nat), consecutiveFrom m l = true → ∀ q ∈ l, m ≤ q.1 := by
  intro l
  induction l with
  | nil => intro m _ q hq; cases hq
  | cons a r ih =>
    intro m h q hq
    simp only [consecutiveFrom, Bool.and_eq_true, beq_iff_eq] at h
    simp only [List.mem_cons] at hq
    rcases hq with hq | hq
    · rw [hq]; omega
    · have := ih (m + 1) h.2 q hq; omega

theorem consec_filter {k : Nat} : ∀ (l : List (Nat × Nat)) (m : Nat), consecutiveFrom m l = true → ∀ x, (k, x) ∈ l →
    l.filter (fun q => q.1 == k) = [(k, x)] := by
  intro l
  induction l with
  | nil => intro m _ x hx; cases hx
  | cons a r ih =>
    intro m h x hx
    simp only [consecutiveFrom, Bool.and_eq_true, beq_iff_eq] at h
    simp only [List.mem_cons] at hx
    rcases hx with hx | hx
    · have hnone : r.filter (fun q => q.1 == k) = [] := by
        rw [List.filter_eq_nil_iff]
        intro q hq
        have := consec_ge r (m + 1) h.2 q hq
        have hk : k = m := by rw [← hx] at h; exact h.1
        simp; omega
      rw [List.filter_cons_of_pos (by rw [← hx]; simp), hnone, hx]
    · have hge := consec_ge r (m + 1) h.2 (k, x) hx
      rw [List.filter_cons_of_neg (by simp; omega)]
      exact ih (m + 1) h.2 x hx

/-- the hypotheses of `stable_leader_commits`, bundled (all decidable) -/
structure StableFair (v : Variant) (n : Nat) (pre : List Act) (L t f : Nat) (c : Cmd) (Q : List Nat) (as : List Act) : Prop where
  est : established (run v (init n) pre) L t = true
  qnd : Q.Nodup
  qne : Q ≠ []
  qq : quorum n ≤ Q.length + 1
  sync : ∀ p ∈ Q, inSync (run v (init n) pre) L t p = true
  stable : stableRun v t (L :: Q) (run v (init n) pre) (.submit L f c :: as) = true
  fair : ∀ p ∈ Q, ackedRun v L t (nextIdx (run v (init n) pre) L) p (run v (init n) pre) (.submit L f c :: as) = true
  nr : noRegressRun v L t (nextIdx (run v (init n) pre) L) Q (run v (init n) pre) (.submit L f c :: as) = true

instance (v : Variant) (n : Nat) (pre : List Act) (L t f : Nat) (c : Cmd) (Q : List Nat) (as : List Act) :
    Decidable (StableFair v n pre L t f c Q as) :=
  decidable_of_iff (established (run v (init n) pre) L t = true ∧ Q.Nodup ∧ Q ≠ [] ∧ quorum n ≤ Q.length + 1
      ∧ (∀ p ∈ Q, inSync (run v (init n) pre) L t p = true)
      ∧ stableRun v t (L :: Q) (run v (init n) pre) (.submit L f c :: as) = true
      ∧ (∀ p ∈ Q, ackedRun v L t (nextIdx (run v (init n) pre) L) p (run v (init n) pre) (.submit L f c :: as) = true)
      ∧ noRegressRun v L t (nextIdx (run v (init n) pre) L) Q (run v (init n) pre) (.submit L f c :: as) = true)
    ⟨fun ⟨a, b, c, d, e, f, g, h⟩ => ⟨a, b, c, d, e, f, g, h⟩, fun h => ⟨h.est, h.qnd, h.qne, h.qq, h.sync, h.stable, h.fair, h.nr⟩⟩

theorem obs_of_hit (v : Variant) (hr : Rep v) (n : Nat) (pre : List Act) (L f k : Nat) (c : Cmd) (as : List Act)
    (hhit : Hit (outs v (run v (init n) pre) as) L k f c) :
    (appsOf (framesFrom v (run v (init n) pre) as) L).filter (fun q => q.1 == k) = [(k, c.id)]
    ∧ (L, f, k) ∈ (framesFrom v (run v (init n) pre) as).flatMap (·.ress)
    ∧ ∀ x ∈ allApps (frames v n (pre ++ as)), x.2.1 = k → x.2.2 = c.id := by
  obtain ⟨fr, hfr, h1, h2⟩ := hit_frames v _ _ hhit
  refine ⟨?_, ?_, ?_⟩
  · exact consec_filter _ _ (run_apps v _ _ (reachable v hr n pre).caught L) _ (mem_appsOf hfr h1)
  · rw [List.mem_flatMap]; exact ⟨fr, hfr, h2⟩
  · intro x hx hxk
    have hmem : (L, k, c.id) ∈ allApps (frames v n (pre ++ as)) := by
      unfold allApps
      rw [frames_append, List.flatMap_append, List.mem_append]
      exact Or.inr (List.mem_flatMap.mpr ⟨fr, hfr, h1⟩)
    exact applyAgree_of (state_machine_safety v hr n (pre ++ as)).2 hx hmem hxk

/-- BOUNDED PROGRESS, OBSERVED.  Under the hypotheses of `stable_leader_commits`: in the frames after the
    submit the leader reports exactly one application at index `k`, that of the submitted command; the
    future is reported resolved with `k`; and in the frames of the whole run no node reports any other
    command at `k`. -/
theorem stable_leader_commits_obs (v : Variant) (hr : Rep v) (n : Nat) (pre : List Act) (L t f : Nat) (c : Cmd) (Q : List Nat)
    (as : List Act) (h : StableFair v n pre L t f c Q as) :
    (appsOf (framesFrom v (run v (init n) pre) (.submit L f c :: as)) L).filter (fun q => q.1 == nextIdx (run v (init n) pre) L)
        = [(nextIdx (run v (init n) pre) L, c.id)]
    ∧ (L, f, nextIdx (run v (init n) pre) L) ∈ (framesFrom v (run v (init n) pre) (.submit L f c :: as)).flatMap (·.ress)
    ∧ ∀ x ∈ allApps (frames v n (pre ++ .submit L f c :: as)), x.2.1 = nextIdx (run v (init n) pre) L → x.2.2 = c.id :=
  obs_of_hit v hr n pre L f _ c _
    (stable_leader_commits v hr n pre L t f c Q as h.est h.qnd h.qne h.qq h.sync h.stable h.fair h.nr).2.2.2.2

end HappyModel.C11
