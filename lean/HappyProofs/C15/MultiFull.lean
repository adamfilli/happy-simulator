import HappyProofs.C15.MultiStart
import HappyProofs.C15.Props
/-!
Every phase after the first crash starts from a recovered state.  The abandoned frames are dropped
(`Sys.live`, `run_live`), the data present at the start is described by base events (`log0Of`), the invariants
`LInvB` / `WInvB` hold along the phase whatever flushes and compactions install (`winvB_run`), and
`recovered_casesB` yields the per-key facts `KeyFacts` that the judge link `judgePhase_of_facts` needs.
-/
namespace HappyModel.C15
open HappyModel.C14

section
variable {cfg : Cfg} {p : Policy} {ops : List (Nat × OKind)}

theorem later_phase_judgeB {y0 : Sys} {acc : List Nat}
    (nkeys : Nat) (sched : List Nat) (every : Bool) (stale : List Nat)
    (hw : cfg.wal = some p) (hd : DistinctPuts ops) (hK : KStart (startFor ops) y0)
    (hA : AInv cfg (startFor ops) y0 acc) (hX : KX cfg (baselineId 0) (startFor ops) y0)
    (ho : InOrder cfg y0 sched) (hs : syncsInOrderB cfg y0 sched = true)
    (hun : ∀ f ∈ y0.frames, f.id ∈ sched → f.b = none) (he : every = true → cfg.wal = some .every) :
    judgePhase every (readsOf nkeys y0.st) stale (phaseWs ops y0 (phaseOut cfg y0 sched).y) (phaseOut cfg y0 sched).done
      (phaseOut cfg y0 sched).y.st.synced (readsOf nkeys (phaseOut cfg y0 sched).s1)
      (readsOf nkeys (phaseOut cfg y0 sched).s2) (readsOf nkeys (phaseOut cfg y0 sched).s3) = none ∧
    KStart (startFor ops) (phaseOut cfg y0 sched).next ∧
    AInv cfg (startFor ops) (phaseOut cfg y0 sched).next ((phaseOut cfg y0 sched).done ++ acc) ∧
    KX cfg (baselineId 0) (startFor ops) (phaseOut cfg y0 sched).next := by
  have hLs := live_sched hun
  -- `baselineId 0` is used as a bound on the operation ids only; any bound would do
  have hL0 := linvB_start hK hA hX
  obtain ⟨hL1, g, hW1⟩ := winvB_run hw sched (y0.live (liveOf y0)) _ hL0 ⟨_, winvB_start hK hA hX⟩
    (inOrder_live cfg (liveOf y0) sched y0 hLs ho)
  have hsp := logRun_new cfg sched (y0.live (liveOf y0)) (log0Of (baselineId 0) y0.st) hL0.idLt
  rw [run_live cfg (liveOf y0) sched y0 hLs] at hL1 hW1
  have hA1 := ainv_run sched y0 acc hA hs
  rw [syncDoneRun_acc] at hA1
  have hT := (track_refl hK).run (cfg := cfg) sched hun hs
  rw [next_eq, phaseOut_s1, phaseOut_s2, phaseOut_s3, phaseOut_done, phaseOut_y]
  generalize y0.run cfg sched = y1 at *
  generalize logRun cfg (y0.live (liveOf y0)) (log0Of (baselineId 0) y0.st) sched = log1 at *
  -- the live frames at the crash are those that began in the phase or were never scheduled
  have hnewlive : ∀ f, IsNew y0 f → liveOf y0 f.id = true := by
    intro f hn
    obtain ⟨_, f0, hf0, hid, hb0⟩ := hn
    rw [← hid]; exact (live_iff hK.ids hf0).mpr hb0
  have hlive : ∀ f ∈ y1.frames, liveOf y0 f.id = true → f ∈ (y1.live (liveOf y0)).frames :=
    fun f hf hl => List.mem_filter.mpr ⟨hf, hl⟩
  have hsub : ∀ f ∈ (y1.live (liveOf y0)).frames, f ∈ y1.frames := fun f hf => (List.mem_filter.mp hf).1
  have hlivenew : ∀ f ∈ (y1.live (liveOf y0)).frames, f.b ≠ none → IsNew y0 f := by
    intro f hf hb
    have hf' := List.mem_filter.mp hf
    rcases hT.old f hf'.1 with h | h
    · exact absurd ((live_iff hK.ids h).mp hf'.2) hb
    · exact h
  have hB := base0_of (baselineId 0) y0.st hK.sorted hK.dur hX.mem hX.imms
  have hF : ∀ k, KeyFacts (startFor ops) (IsNew y0) y0.st.abs y1 k := by
    intro k
    rcases recovered_casesB hw hL1 hW1 hB hsp hT.synced k with ⟨w, hwf, _, wb, wst, hns⟩ | ⟨ha, hno⟩
    · exact Or.inl ⟨w, hsub w hwf, hlivenew w hwf wb, wb, wst, fun w' hw' hn' =>
        hns w' (hlive w' hw' (hnewlive w' hn')) trivial⟩
    · exact Or.inr ⟨ha, fun w' hw' hn' => hno w' (hlive w' hw' (hnewlive w' hn')) trivial⟩
  -- a frame at the crash is a live one (the invariants speak of it) or was abandoned before the phase
  have hall : ∀ {P : Frame → Prop}, (∀ f ∈ (y1.live (liveOf y0)).frames, P f) → (∀ f ∈ y0.frames, P f) →
      ∀ f ∈ y1.frames, P f := by
    intro P h1 h0 f hf
    by_cases hl : liveOf y0 f.id = true
    · exact h1 f (hlive f hf hl)
    · exact h0 f ((hT.old f hf).resolve_right fun hn => hl (hnewlive f hn))
  refine ⟨?_, ?_, ainv_recovered hA1, kx_recovered hL1.sys.sinv hW1.core (hall hL1.idLt hX.idLt) (hall hL1.starts hX.starts)⟩
  · exact judgePhase_of_facts hd hK hA1.ids hT.old hF every stale _
      (ack_bound_phase hA1 hK.ids hT.old (fun i hi => List.mem_append_left _ hi) he)
  · exact kstart_next hK hF hT.keep hW1.core.walSorted hW1.core.walLt hT.bn hT.ended hA1.ids

theorem kx_first (oracle : List Bool) (sched : List Nat)
    (hw : cfg.wal = some p) (h2 : 2 ≤ cfg.maxLevels) (hd : DistinctPuts ops) (hid : ∀ o ∈ ops, o.1 < baselineId 0)
    (ho : InOrder cfg (sysOf cfg oracle ops) sched) :
    KX cfg (baselineId 0) (startFor ops) (phaseOut cfg (sysOf cfg oracle ops) sched).next := by
  obtain ⟨hL, g, hW⟩ := crash_invariants cfg p ops oracle sched hw h2 hd ho
  rw [next_eq]
  refine kx_recovered hL.sys.sinv hW.core (fun f hf => ?_) hL.starts
  have hm : f.id ∈ ((sysOf cfg oracle ops).run cfg sched).frames.map (·.id) := List.mem_map_of_mem hf
  rw [run_ids, sysOf_ids] at hm
  obtain ⟨o, ho', hoe⟩ := List.mem_map.mp hm
  rw [← hoe]; exact hid o ho'

end

theorem multi_crash_spec_full_proved : multi_crash_spec_full := by
  intro cfg p nkeys ops oracle ps every hw h2 hd hid hph he
  cases ps with
  | nil => rfl
  | cons sched rest =>
    have h0 := hph _ (List.mem_cons_self ..)
    refine judgePhases_first p rest hw h2 hd h0.1 h0.2.1 he fun stale => ?_
    exact judgePhases_induct
      (fun y acc => KStart (startFor ops) y ∧ AInv cfg (startFor ops) y acc ∧ KX cfg (baselineId 0) (startFor ops) y) _
      (fun y0 acc sched stale hI h0 =>
        later_phase_judgeB nkeys sched every stale hw hd hI.1 hI.2.1 hI.2.2 h0.1 h0.2.1 h0.2.2 he) rest _ _ stale 1
      ⟨kstart_first oracle sched hw h2 hd h0.1, ainv_first hd h0.2.1, kx_first oracle sched hw h2 hd hid h0.1⟩
      fun ys hys => hph ys (List.mem_cons_of_mem _ hys)

end HappyModel.C15
