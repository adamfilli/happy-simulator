import HappyProofs.C10.AdaptiveCredit
/-!
Adaptive bucket: the admission bound **across** rate changes, in integral form.

`_refill` is lazy: the time since the previous `try_acquire` / `time_until_available` call is credited, as
a whole, at the rate in force *at the call that closes it*.  So a run's elapsed time `[l, T]` (`l` = refill
clock at the start, `T` = time of the last call) is partitioned into **epochs** — maximal runs of calls
made at the same rate —, epoch `e` owning the span from the last call before it to its own last call, and

    admissions · one + tokens left  ≤  tokens at the start + Σₑ rateₑ · lengthₑ ,   Σₑ lengthₑ = T − l ,

with tokens at the start ≤ `cap(rate)` and every `rateₑ ∈ [pmin, pmax]`.  (Attributing each instant to the
rate in force *at that instant* instead is false of the code: `adaptive_naive_integral_bound_false`.)
-/
namespace HappyModel.C10

/-- time of the last `try_acquire` / `time_until_available` call (feedback does not touch the refill clock) -/
def callEnd (l : Nat) : List Op → Nat
  | [] => l
  | .acq t :: os => callEnd t os
  | .tua t :: os => callEnd t os
  | .succ _ :: os => callEnd l os
  | .fail _ :: os => callEnd l os

/-- the time a `_refill` at `t` credits -/
def AD.gap (s : AD) (t : Nat) : Nat :=
  match s.last with
  | some l => t - l
  | none => 0

/-- add the span `(p, len)` to the epoch list (newest first); same rate as the newest epoch: extend it -/
def addSpan (p len : Nat) : List (Nat × Nat) → List (Nat × Nat)
  | [] => [(p, len)]
  | (q, n) :: es => if q = p then (q, n + len) :: es else (p, len) :: (q, n) :: es

/-- the epochs of a run as `(rate, length)` pairs, newest first; `acc` = epochs so far -/
def AD.epochs (c : ADCfg) : AD → List (Nat × Nat) → List Op → List (Nat × Nat)
  | _, acc, [] => acc
  | s, acc, .acq t :: os => AD.epochs c (s.step c (.acq t)) (addSpan s.p (s.gap t) acc) os
  | s, acc, .tua t :: os => AD.epochs c (s.step c (.tua t)) (addSpan s.p (s.gap t) acc) os
  | s, acc, .succ t :: os => AD.epochs c (s.step c (.succ t)) acc os
  | s, acc, .fail t :: os => AD.epochs c (s.step c (.fail t)) acc os

def spanSum : List (Nat × Nat) → Nat
  | [] => 0
  | (p, n) :: es => p * n + spanSum es

def spanLen : List (Nat × Nat) → Nat
  | [] => 0
  | (_, n) :: es => n + spanLen es

/-- consecutive epochs have different rates (the epochs are maximal) -/
def AdjDistinct : List (Nat × Nat) → Prop
  | [] => True
  | [_] => True
  | a :: b :: es => a.1 ≠ b.1 ∧ AdjDistinct (b :: es)

theorem addSpan_spec (p n : Nat) : ∀ es : List (Nat × Nat),
    spanSum (addSpan p n es) = spanSum es + p * n ∧ spanLen (addSpan p n es) = spanLen es + n
  | [] => by simp [addSpan, spanSum, spanLen]
  | (q, m) :: es => by
    simp only [addSpan]
    split <;> simp only [spanSum, spanLen, Nat.mul_add, *] <;> omega

structure EpOk (c : ADCfg) (es : List (Nat × Nat)) : Prop where
  adj : AdjDistinct es
  range : ∀ e ∈ es, c.pmin ≤ e.1 ∧ e.1 ≤ c.pmax

theorem EpOk.nil (c : ADCfg) : EpOk c [] := ⟨trivial, fun _ h => nomatch h⟩

theorem EpOk.add {c : ADCfg} {p : Nat} (hp : c.pmin ≤ p ∧ p ≤ c.pmax) (n : Nat) :
    ∀ {es : List (Nat × Nat)}, EpOk c es → EpOk c (addSpan p n es)
  | [], _ => ⟨trivial, fun e he => List.mem_singleton.mp he ▸ hp⟩
  | (q, m) :: es, ⟨ha, hr⟩ => by
    simp only [addSpan]
    split
    · next hq =>
      refine ⟨by cases es <;> exact ha, fun e he => ?_⟩
      rcases List.mem_cons.mp he with rfl | he
      · exact hq ▸ hp
      · exact hr e (List.mem_cons_of_mem _ he)
    · next hq =>
      refine ⟨⟨fun h' => hq h'.symm, ha⟩, fun e he => ?_⟩
      rcases List.mem_cons.mp he with rfl | he
      · exact hp
      · exact hr e he

theorem AD.credit1_eq (s : AD) (t : Nat) : s.credit1 t = s.p * s.gap t := by
  unfold AD.credit1 AD.gap; cases s.last <;> simp

theorem callEnd_ge : ∀ (os : List Op) (t : Nat), MonoOps t os → t ≤ callEnd t os
  | [], _, _ => Nat.le_refl _
  | .acq t' :: os, _, hm | .tua t' :: os, _, hm => Nat.le_trans hm.1 (callEnd_ge os t' hm.2)
  | .succ _ :: os, t, hm | .fail _ :: os, t, hm => callEnd_ge os t (hm.2.weaken hm.1)

theorem AD.gap_some (s : AD) (t l : Nat) (hl : s.last = some l) : s.gap t = t - l := by
  unfold AD.gap; rw [hl]

theorem epochs_spec (c : ADCfg) (hc : ADOk c) : ∀ (ops : List Op) (s : AD) (acc : List (Nat × Nat)) (l : Nat),
    s.InRange c → s.last = some l → MonoOps l ops → EpOk c acc →
    EpOk c (AD.epochs c s acc ops) ∧ spanSum (AD.epochs c s acc ops) = spanSum acc + AD.credit c s ops ∧
      spanLen (AD.epochs c s acc ops) = spanLen acc + (callEnd l ops - l)
  | [], _, _, _, _, _, _, h => ⟨h, rfl, by rw [callEnd, Nat.sub_self]; rfl⟩
  | .acq t :: os, s, acc, l, hr, hl, hm, h | .tua t :: os, s, acc, l, hr, hl, hm, h => by
    obtain ⟨a2, a3⟩ := addSpan_spec s.p (s.gap t) acc
    obtain ⟨b1, b2, b3⟩ := epochs_spec c hc os _ _ t (AD.step_range c hc s _ hr)
      ((AD.step_call c s (by trivial)).2.2 fun l' h => Nat.le_trans (Nat.le_of_eq (eq_of_some hl l' h)) hm.1) hm.2
      (h.add hr (s.gap t))
    refine ⟨b1, ?_, ?_⟩
    · rw [AD.epochs, AD.credit, b2, a2, AD.credit1_eq, Nat.add_assoc]
    · rw [AD.epochs, callEnd, b3, a3, AD.gap_some s t l hl, Nat.add_assoc, Nat.add_comm (t - l),
        Nat.sub_add_sub_cancel (callEnd_ge os t hm.2) hm.1]
  | .succ t :: os, s, acc, l, hr, hl, hm, h | .fail t :: os, s, acc, l, hr, hl, hm, h =>
    epochs_spec c hc os _ acc l (AD.step_range c hc s _ hr) hl (hm.2.weaken hm.1) h

theorem spanSum_le (P : Nat) : ∀ es : List (Nat × Nat), (∀ e ∈ es, e.1 ≤ P) → spanSum es ≤ P * spanLen es
  | [], _ => Nat.le_refl _
  | (p, n) :: es, h => by
    rw [spanSum, spanLen, Nat.mul_add]
    exact Nat.add_le_add (Nat.mul_le_mul_right n (h _ List.mem_cons_self))
      (spanSum_le P es fun e he => h e (List.mem_cons_of_mem _ he))

theorem callEnd_le_endTime : ∀ (os : List Op) (l now : Nat), l ≤ now → MonoOps now os →
    callEnd l os ≤ endTime now os
  | [], _, _, h, _ => h
  | .acq t :: os, _, _, _, hm | .tua t :: os, _, _, _, hm => callEnd_le_endTime os t t (Nat.le_refl t) hm.2
  | .succ t :: os, l, _, h, hm | .fail t :: os, l, _, h, hm =>
    callEnd_le_endTime os l t (Nat.le_trans h hm.1) hm.2

end HappyModel.C10
