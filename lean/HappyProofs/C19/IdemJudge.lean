import HappyProofs.C19.IdemStep
/-!
C19 / idem — the Spec accepts the line the model prints for every delivery the engine can make.
-/
namespace HappyModel.C19.Idem

variable {cfg : Cfg} {s : St} {h : List Obs} {lo : Nat}

theorem step_inv (hl : cfg.legacy = false) (hm : 1 ≤ cfg.maxE) (I : Inv cfg s h lo) (t : Nat) (a : Act)
    (ht : lo ≤ t) (hb : (step cfg s t a).2 ≠ .bad) :
    Inv cfg (step cfg s t a).1 (⟨t, a, (step cfg s t a).2⟩ :: h) t :=
  (step_spec cfg s t a).inv hl hm I ht hb

theorem remembered_eq (I : Inv cfg s h lo) (k : Key) : remembered cfg h k = known s k := by
  unfold remembered known
  rw [← I.cache, ← I.infl]

/-- both places that schedule a cleanup (`cleanupAt`, `nextSweep`) schedule it one interval ahead, or not at all -/
theorem clTimeOk_ite (c : Prop) [Decidable c] (t : Nat) :
    clTimeOk cfg t (if c then some (t + cfg.interval) else none) = true := by
  split <;> simp [clTimeOk]

theorem fwd_ok {o : Obs} {s' : St} {lo' : Nat} (I' : Inv cfg s' (o :: h) lo') (t : Nat) (cl : Option Nat)
    (ht : o.t = t) (hcl : clTimeOk cfg t cl = true) : fwdCheck cfg h o t cl s'.ctr = none := by
  unfold fwdCheck
  refine chk_none (by simp [ht]) (chk_none (by rw [ht]; exact hcl) (chk_none (chain_ok I') (ctr_ok I' false)))

theorem Step.judge {t : Nat} {a : Act} {r : St × Out} (hl : cfg.legacy = false) (hm : 1 ≤ cfg.maxE)
    (S : Step cfg s t a r) (I : Inv cfg s h lo) (ht : lo ≤ t) (hb : r.2 ≠ .bad) :
    judgeOne cfg h ⟨t, a, r.2⟩ = none := by
  have I' := S.inv hl hm I ht hb
  cases S with
  | bad => exact absurd rfl hb
  | keyless rid => exact fwd_ok I' t _ rfl (clTimeOk_ite _ t)
  | dup rid k hk =>
    show (if remembered cfg h k then _ else _) = none
    rw [remembered_eq I, hk]
    exact ctr_ok I' false
  | fresh rid k hk =>
    show (if remembered cfg h k then _ else _) = none
    rw [remembered_eq I, hk]
    exact fwd_ok I' t _ rfl (clTimeOk_ite _ t)
  | recv rid r k hf =>
    show (match findRid rid (awaiting h) with | none => _ | some (_, k', st') => _) = none
    rw [← I.sent, hf]
    exact chk_none (by simp) (chk_none (by simp) rfl)
  | done rid r k hf =>
    show (match findRid rid (working h) with | none => _ | some (_, k') => _) = none
    rw [← I.work, hf]
    exact chk_none (by simp) rfl
  | resp k hfin hok => exact chk_none (I.fins ▸ hfin) (chk_none (chain_ok I') (ctr_ok I' false))
  | sweep hg =>
    have hsp : spaced cfg h t = true := by
      unfold spaced
      cases hx : lastSweep h with
      | none => rfl
      | some x => simpa using I.gap x t hx (by simpa using hg)
    exact chk_none (I.pend ▸ hg) (chk_none hsp (chk_none (clTimeOk_ite _ t) (chk_none (chain_ok I') (ctr_ok I' true))))

/-- times of a schedule never go backwards (the engine's clock, C01) -/
def Sorted : Nat → List (Nat × Act) → Prop
  | _, [] => True
  | lo, (t, _) :: rest => lo ≤ t ∧ Sorted t rest

/-- every delivery of the schedule is one the engine can make (the event exists) -/
def Deliverable (cfg : Cfg) (s : St) (sched : List (Nat × Act)) : Prop :=
  ∀ o ∈ run cfg s sched, o.out ≠ .bad

theorem run_ok (hl : cfg.legacy = false) (hm : 1 ≤ cfg.maxE) (sched : List (Nat × Act)) (s : St) (h : List Obs)
    (lo : Nat) (I : Inv cfg s h lo) (hs : Sorted lo sched) (hd : Deliverable cfg s sched) :
    judgeIdem cfg h (run cfg s sched) = none ∧
    ∃ lo', Inv cfg (finalSt cfg s sched) ((run cfg s sched).reverse ++ h) lo' := by
  induction sched generalizing s h lo with
  | nil => exact ⟨rfl, lo, by simpa [run, finalSt] using I⟩
  | cons e rest ih =>
    obtain ⟨t, a⟩ := e
    have hb : (step cfg s t a).2 ≠ .bad := hd ⟨t, a, (step cfg s t a).2⟩ (by simp [run])
    have hd' : Deliverable cfg (step cfg s t a).1 rest := by
      intro o ho
      exact hd o (by simp [run, ho])
    obtain ⟨h1, lo', h2⟩ := ih (step cfg s t a).1 (⟨t, a, (step cfg s t a).2⟩ :: h) t
      (step_inv hl hm I t a hs.1 hb) hs.2 hd'
    refine ⟨?_, lo', ?_⟩
    · simp only [run, judgeIdem, (step_spec cfg s t a).judge hl hm I hs.1 hb]
      exact h1
    · simpa [run, finalSt] using h2

end HappyModel.C19.Idem
