import HappyProofs.C05.StatefulCore
import HappyProofs.C05.Full
/-!
The main clause for entity-local *stateful* handlers (emissions may depend on the entity's own
state, i.e. on its whole delivery history), on the executable coordinator loop `coordLoop`
(`StatefulR.lean`: the same for `coordLoopR`): each `par_eq_seq_*` / `agree_*` theorem is
`stateful_core_of` or `agree_before_first_tie_of` at the outcome `par_exec` gives.  The sequential run
starts with any creation counter `n0` (`Part.initCtr … n0`; `n0 = 0` is `Part.init`).
-/
namespace HappyModel.C05

variable {τ : Type}

/-- **par_eq_seq_tie_commutative** — C05 main clause for entity-local stateful handlers that commute on
    two deliveries to one entity at one timestamp (no condition at different times): if the
    coordinated run (executable `coordLoop`, repaired window rule, `0 < wEff ≤` every link latency)
    returns without error and the sequential run halts, every entity's deliveries up to the end time
    are the same up to the order inside a timestamp, and it ends the partitioned run in the state the
    handler reaches on the sequential deliveries to it. -/
theorem par_eq_seq_tie_commutative (hE : EHandler τ) (c : Cfg) (ids : List Nat)
    (fuel wEff endT n start n0 : Nat) (st : Nat → τ) (evs : List Ev) (ps : List (Part (Nat → τ)))
    (htc : TieCommutative hE)
    (hids : ids.Nodup) (hlinks : ∀ l ∈ c.links, l.dst ∈ ids)
    (hw : WindowLeLat c wEff) (hpos : 0 < wEff) (hse : start ≤ endT)
    (hstart : ∀ e ∈ evs, start ≤ e.time) (hi : ParInit c ids start evs ps) (hst : ∀ p ∈ ps, p.st = st)
    (hpar : (coordLoop (liftP hE) c true fuel wEff endT n
        { parts := ps, cur := start, windows := 0, injected := 0, outboxed := 0, err := none }).err = none)
    (hseq : Halted (liftP hE) seqRoute false endT (runSeq (liftP hE) endT fuel (Part.initCtr 0 start st evs n0))) :
    (∀ x, TieEquiv (upTo endT ((runSeq (liftP hE) endT fuel (Part.initCtr 0 start st evs n0)).obsLog x))
      (upTo endT (parObs (coordLoop (liftP hE) c true fuel wEff endT n
        { parts := ps, cur := start, windows := 0, injected := 0, outboxed := 0, err := none }).parts x)))
    ∧ (∀ p ∈ (coordLoop (liftP hE) c true fuel wEff endT n
        { parts := ps, cur := start, windows := 0, injected := 0, outboxed := 0, err := none }).parts,
        ∀ x, c.part x = p.pid →
          p.st x = replay hE (st x) ((seqTrace hE endT fuel start st evs n0).filter (fun d => d.tgt == x))) :=
  stateful_core_of hE c ids fuel endT start n0 st evs _ hids hstart hseq
    (par_exec hE c ids fuel wEff endT n
      { parts := ps, cur := start, windows := 0, injected := 0, outboxed := 0, err := none }
      ⟨st, evs.map proj⟩ hids hlinks hw hpos rfl hse (TInv.init hi hstart hse hst) hpar)
    (Or.inr fun _ _ a _ d _ _ ht htm => htc a d ht htm)

/-- **par_eq_seq_no_ties_observed** — arbitrary handlers: if in the *partitioned* run no entity received
    two deliveries with one timestamp, the per-entity logs of the two runs are *equal* (final entity
    states as in `par_eq_seq_no_ties`). -/
theorem par_eq_seq_no_ties_observed (hE : EHandler τ) (c : Cfg) (ids : List Nat)
    (fuel wEff endT n start n0 : Nat) (st : Nat → τ) (evs : List Ev) (ps : List (Part (Nat → τ)))
    (hids : ids.Nodup) (hlinks : ∀ l ∈ c.links, l.dst ∈ ids)
    (hw : WindowLeLat c wEff) (hpos : 0 < wEff) (hse : start ≤ endT)
    (hstart : ∀ e ∈ evs, start ≤ e.time) (hi : ParInit c ids start evs ps) (hst : ∀ p ∈ ps, p.st = st)
    (hpar : (coordLoop (liftP hE) c true fuel wEff endT n
        { parts := ps, cur := start, windows := 0, injected := 0, outboxed := 0, err := none }).err = none)
    (hseq : Halted (liftP hE) seqRoute false endT (runSeq (liftP hE) endT fuel (Part.initCtr 0 start st evs n0)))
    (hnt : ∀ x, NoTies (parObs (coordLoop (liftP hE) c true fuel wEff endT n
        { parts := ps, cur := start, windows := 0, injected := 0, outboxed := 0, err := none }).parts x)) :
    (∀ x, upTo endT ((runSeq (liftP hE) endT fuel (Part.initCtr 0 start st evs n0)).obsLog x)
      = upTo endT (parObs (coordLoop (liftP hE) c true fuel wEff endT n
        { parts := ps, cur := start, windows := 0, injected := 0, outboxed := 0, err := none }).parts x))
    ∧ (∀ p ∈ (coordLoop (liftP hE) c true fuel wEff endT n
        { parts := ps, cur := start, windows := 0, injected := 0, outboxed := 0, err := none }).parts,
        ∀ x, c.part x = p.pid →
          p.st x = replay hE (st x) ((seqTrace hE endT fuel start st evs n0).filter (fun d => d.tgt == x))) := by
  have core := stateful_core_of hE c ids fuel endT start n0 st evs _ hids hstart hseq
    (par_exec hE c ids fuel wEff endT n
      { parts := ps, cur := start, windows := 0, injected := 0, outboxed := 0, err := none }
      ⟨st, evs.map proj⟩ hids hlinks hw hpos rfl hse (TInv.init hi hstart hse hst) hpar) (Or.inr ?_)
  · exact ⟨fun x => (core.1 x).eq_of_noTies (List.Pairwise.filter _ (hnt x)), core.2⟩
  · -- an execution whose projections are the tie-free observed logs has no ties to commute
    intro E2 hpar a ha d hd hne ht htm
    have hntl : NoTieL E2 := noTieL_of_inj fun x u hu v hv =>
      NoTies.inj (List.Pairwise.filter _ (hnt x)) u ((hpar x).mem_iff.mpr hu) v ((hpar x).mem_iff.mpr hv)
    exact absurd htm (hntl a ha d hd hne ht)

/-- **par_eq_seq_no_ties** — arbitrary (order-sensitive) handlers: if in the *sequential* run no entity
    receives two deliveries with one timestamp, neither does it in the partitioned run, the logs are
    *equal* and the final entity states are those of the sequential deliveries. -/
theorem par_eq_seq_no_ties (hE : EHandler τ) (c : Cfg) (ids : List Nat)
    (fuel wEff endT n start n0 : Nat) (st : Nat → τ) (evs : List Ev) (ps : List (Part (Nat → τ)))
    (hids : ids.Nodup) (hlinks : ∀ l ∈ c.links, l.dst ∈ ids)
    (hw : WindowLeLat c wEff) (hpos : 0 < wEff) (hse : start ≤ endT)
    (hstart : ∀ e ∈ evs, start ≤ e.time) (hi : ParInit c ids start evs ps) (hst : ∀ p ∈ ps, p.st = st)
    (hpar : (coordLoop (liftP hE) c true fuel wEff endT n
        { parts := ps, cur := start, windows := 0, injected := 0, outboxed := 0, err := none }).err = none)
    (hseq : Halted (liftP hE) seqRoute false endT (runSeq (liftP hE) endT fuel (Part.initCtr 0 start st evs n0)))
    (hnt : ∀ x, NoTies (upTo endT ((runSeq (liftP hE) endT fuel (Part.initCtr 0 start st evs n0)).obsLog x))) :
    (∀ x, upTo endT ((runSeq (liftP hE) endT fuel (Part.initCtr 0 start st evs n0)).obsLog x)
      = upTo endT (parObs (coordLoop (liftP hE) c true fuel wEff endT n
        { parts := ps, cur := start, windows := 0, injected := 0, outboxed := 0, err := none }).parts x))
    ∧ (∀ p ∈ (coordLoop (liftP hE) c true fuel wEff endT n
        { parts := ps, cur := start, windows := 0, injected := 0, outboxed := 0, err := none }).parts,
        ∀ x, c.part x = p.pid →
          p.st x = replay hE (st x) ((seqTrace hE endT fuel start st evs n0).filter (fun d => d.tgt == x))) := by
  have core := stateful_core_of hE c ids fuel endT start n0 st evs _ hids hstart hseq
    (par_exec hE c ids fuel wEff endT n
      { parts := ps, cur := start, windows := 0, injected := 0, outboxed := 0, err := none }
      ⟨st, evs.map proj⟩ hids hlinks hw hpos rfl hse (TInv.init hi hstart hse hst) hpar)
    (Or.inl (noTieL_of_inj fun x => seqTrace_entProj hE endT fuel start st evs n0 x ▸ (hnt x).inj))
  exact ⟨fun x => ((core.1 x).symm.eq_of_noTies (hnt x)).symm, core.2⟩

/-- **agree_before_first_tie** — any handler: the logs of the two runs are *equal* up to every `T'` before
    which the sequential run has no two deliveries to one entity with one timestamp; a divergence
    never starts before the first same-timestamp group of the sequential run. -/
theorem agree_before_first_tie (hE : EHandler τ) (c : Cfg) (ids : List Nat)
    (fuel wEff endT n start n0 T' : Nat) (st : Nat → τ) (evs : List Ev) (ps : List (Part (Nat → τ)))
    (hids : ids.Nodup) (hlinks : ∀ l ∈ c.links, l.dst ∈ ids)
    (hw : WindowLeLat c wEff) (hpos : 0 < wEff) (hse : start ≤ endT) (hT : T' ≤ endT)
    (hstart : ∀ e ∈ evs, start ≤ e.time) (hi : ParInit c ids start evs ps) (hst : ∀ p ∈ ps, p.st = st)
    (hpar : (coordLoop (liftP hE) c true fuel wEff endT n
        { parts := ps, cur := start, windows := 0, injected := 0, outboxed := 0, err := none }).err = none)
    (hseq : Halted (liftP hE) seqRoute false endT (runSeq (liftP hE) endT fuel (Part.initCtr 0 start st evs n0)))
    (hnt : ∀ x, NoTies (upTo T' ((runSeq (liftP hE) endT fuel (Part.initCtr 0 start st evs n0)).obsLog x))) :
    ∀ x, upTo T' ((runSeq (liftP hE) endT fuel (Part.initCtr 0 start st evs n0)).obsLog x)
      = upTo T' (parObs (coordLoop (liftP hE) c true fuel wEff endT n
        { parts := ps, cur := start, windows := 0, injected := 0, outboxed := 0, err := none }).parts x) :=
  agree_before_first_tie_of hE c ids fuel endT start n0 T' st evs _ hids hT hstart hseq
    (par_exec hE c ids fuel wEff endT n
      { parts := ps, cur := start, windows := 0, injected := 0, outboxed := 0, err := none }
      ⟨st, evs.map proj⟩ hids hlinks hw hpos rfl hse (TInv.init hi hstart hse hst) hpar) hnt

/-- **seq_final_state** — when the sequential run delivered nothing beyond the end time (no horizon
    overshoot), its final entity states are the replay of its own per-entity logs; together with the
    state clause of the three `par_eq_seq_*` theorems above: the final entity states of the two runs
    are equal. -/
theorem seq_final_state (hE : EHandler τ) (T fuel start : Nat) (st : Nat → τ) (evs : List Ev) (n0 : Nat)
    (hstart : ∀ e ∈ evs, start ≤ e.time)
    (hno : ∀ d ∈ (runSeq (liftP hE) T fuel (Part.initCtr 0 start st evs n0)).log, d.time ≤ T) (x : Nat) :
    (runSeq (liftP hE) T fuel (Part.initCtr 0 start st evs n0)).st x
      = replay hE (st x) ((seqTrace hE T fuel start st evs n0).filter (fun d => d.tgt == x)) := by
  obtain ⟨_, _, sim, _, _⟩ := seq_sim hE T fuel start st evs n0 hstart _ rfl
  have htr : seqTrace hE T fuel start st evs n0
      = (runSeq (liftP hE) T fuel (Part.initCtr 0 start st evs n0)).log.reverse.map proj := by
    unfold seqTrace
    rw [List.filter_eq_self]
    intro e he
    simp only [List.mem_map, List.mem_reverse] at he
    obtain ⟨d, hd, rfl⟩ := he
    exact decide_eq_true (hno d hd)
  rw [htr, ← arun_st_replay hE x _ ⟨st, evs.map proj⟩]
  exact (sim.st x trivial).symm

/-- a counting handler: scripted emissions per (entity, kind), plus — state-dependent — a kind-7 event
    to itself when its delivery counter reaches 3.  Which delivery is the third depends on the order
    inside a timestamp; the handler nevertheless commutes on ties. -/
def countHandler : EHandler Nat := fun σ d =>
  (σ + 1,
   (if d.tgt = 0 ∧ d.kind = 0 then [⟨100, 1, 2⟩] else if d.tgt = 1 ∧ d.kind = 0 then [⟨50, 1, 1⟩] else [])
     ++ (if σ + 1 = 3 then [⟨10, d.tgt, 7⟩] else []))

theorem countHandler_tieCommutative : TieCommutative countHandler := by
  intro a d htg _ σ0
  refine ⟨rfl, ?_⟩
  simp only [countHandler, htg]
  rw [List.perm_iff_count]
  intro x
  simp only [List.count_append]
  omega

/-- `par_eq_seq_tie_commutative` on the two-partition tie scenario (`tieCfg`): entity 1 receives its two
    100 ns deliveries in different orders in the two runs, the third delivery — a different event in
    each run — triggers the kind-7 event in both. -/
example :
    ParInit tieCfg [0, 1] 0 tieEvs tieParts ∧ (∀ p ∈ tieParts, p.st = tieSt)
    ∧ [0, 1].Nodup ∧ (∀ l ∈ tieCfg.links, l.dst ∈ [0, 1]) ∧ WindowLeLat tieCfg 100 :=
  ⟨⟨by decide, by decide, by decide, by decide, by decide⟩,
    by simp [tieParts, Part.init], by decide, by decide, by simp [WindowLeLat, tieCfg]⟩

example :
    (coordLoop (liftP countHandler) tieCfg true 10 100 1000 20
        { parts := tieParts, cur := 0, windows := 0, injected := 0, outboxed := 0, err := none }).err = none
    ∧ haltedB (liftP countHandler) seqRoute false 1000
        (runSeq (liftP countHandler) 1000 10 (Part.initCtr 0 0 tieSt tieEvs 0)) = true
    ∧ (runSeq (liftP countHandler) 1000 10 (Part.initCtr 0 0 tieSt tieEvs 0)).obsLog 1
        = [(50, 0), (100, 2), (100, 1), (110, 7)]
    ∧ parObs (coordLoop (liftP countHandler) tieCfg true 10 100 1000 20
        { parts := tieParts, cur := 0, windows := 0, injected := 0, outboxed := 0, err := none }).parts 1
        = [(50, 0), (100, 1), (100, 2), (110, 7)] := by
  decide +kernel

/-- the order-sensitive witness handler of `par_eq_seq_full_false_for_order_sensitive_handlers`, on
    events without index, with the delay `dl` of entity 1's local kind-1 event as a parameter
    (`dl = 50`: tie at 100 ns; `dl = 49`: no tie) -/
def tieHandlerP (dl : Nat) : EHandler Nat := fun s e =>
  if e.tgt = 0 then (s, if e.kind = 0 then [⟨100, 1, 2⟩] else [])
  else if e.kind = 0 then (s, [⟨dl, 1, 1⟩])
  else if e.kind = 1 then (1, [])
  else if e.kind = 2 then (s, if s = 0 then [⟨10, 1, 7⟩] else [])
  else (s, [])

/-- `par_eq_seq_no_ties` / `par_eq_seq_no_ties_observed`: with `dl = 49` the sequential run has no
    ties, neither has the partitioned one, the runs return without error (entity 1: local 99 ns, cross
    100 ns);
    with `dl = 50` the hypothesis fails in both runs — and so does the conclusion. -/
example :
    (coordLoop (liftP (tieHandlerP 49)) tieCfg true 10 100 1000 20
        { parts := tieParts, cur := 0, windows := 0, injected := 0, outboxed := 0, err := none }).err = none
    ∧ haltedB (liftP (tieHandlerP 49)) seqRoute false 1000
        (runSeq (liftP (tieHandlerP 49)) 1000 10 (Part.initCtr 0 0 tieSt tieEvs 0)) = true
    ∧ (∀ x ∈ [0, 1], NoTies (upTo 1000 ((runSeq (liftP (tieHandlerP 49)) 1000 10 (Part.initCtr 0 0 tieSt tieEvs 0)).obsLog x)))
    ∧ (∀ x ∈ [0, 1], NoTies (parObs (coordLoop (liftP (tieHandlerP 49)) tieCfg true 10 100 1000 20
        { parts := tieParts, cur := 0, windows := 0, injected := 0, outboxed := 0, err := none }).parts x))
    ∧ parObs (coordLoop (liftP (tieHandlerP 49)) tieCfg true 10 100 1000 20
        { parts := tieParts, cur := 0, windows := 0, injected := 0, outboxed := 0, err := none }).parts 1
        = [(50, 0), (99, 1), (100, 2)] := by
  decide +kernel

example :
    ¬ NoTies (upTo 1000 ((runSeq (liftP (tieHandlerP 50)) 1000 10 (Part.initCtr 0 0 tieSt tieEvs 0)).obsLog 1))
    ∧ ¬ NoTies (parObs (coordLoop (liftP (tieHandlerP 50)) tieCfg true 10 100 1000 20
        { parts := tieParts, cur := 0, windows := 0, injected := 0, outboxed := 0, err := none }).parts 1)
    ∧ upTo 1000 ((runSeq (liftP (tieHandlerP 50)) 1000 10 (Part.initCtr 0 0 tieSt tieEvs 0)).obsLog 1)
      ≠ upTo 1000 (parObs (coordLoop (liftP (tieHandlerP 50)) tieCfg true 10 100 1000 20
        { parts := tieParts, cur := 0, windows := 0, injected := 0, outboxed := 0, err := none }).parts 1) := by
  decide +kernel

/-- non-vacuity on the order-sensitive witness (`tieHandlerP 50`, tie at 100 ns): up to 99 ns the
    sequential run has no ties and the logs agree; at 100 ns the first tie, after it the divergence -/
example :
    (∀ x ∈ [0, 1], NoTies (upTo 99 ((runSeq (liftP (tieHandlerP 50)) 1000 10 (Part.initCtr 0 0 tieSt tieEvs 0)).obsLog x)))
    ∧ ¬ NoTies (upTo 100 ((runSeq (liftP (tieHandlerP 50)) 1000 10 (Part.initCtr 0 0 tieSt tieEvs 0)).obsLog 1))
    ∧ upTo 99 ((runSeq (liftP (tieHandlerP 50)) 1000 10 (Part.initCtr 0 0 tieSt tieEvs 0)).obsLog 1)
      = upTo 99 (parObs (coordLoop (liftP (tieHandlerP 50)) tieCfg true 10 100 1000 20
        { parts := tieParts, cur := 0, windows := 0, injected := 0, outboxed := 0, err := none }).parts 1) := by
  decide +kernel

end HappyModel.C05
