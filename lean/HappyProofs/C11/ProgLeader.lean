import HappyProofs.C11.AllInv
import HappyProofs.C11.ApplyOrder
/-! Groundwork for the bounded-progress theorem: runs split at any point, message ids in the soup lie below
    `nextId` (`IdsOk`), and under the repairs `_last_applied` never runs ahead of `commit_index` (`LaOk`), so an
    entry appended at `len(log) + 1` has not been applied yet.

    A stable leader: the one thing that could demote a leader without raising a term is an AppendEntries of its own term;
    `AeSrc` (every AppendEntries in flight was sent by a node recorded as leader of its term) and
    Election Safety exclude that. -/
namespace HappyModel.C11
open Spec

theorem framesFrom_append (v : Variant) (as bs : List Act) : ∀ s,
    framesFrom v s (as ++ bs) = framesFrom v s as ++ framesFrom v (run v s as) bs := by
  induction as with
  | nil => intro s; rfl
  | cons a as ih => intro s; simp only [List.cons_append, framesFrom, run, ih]

theorem frames_append (v : Variant) (n : Nat) (as bs : List Act) :
    frames v n (as ++ bs) = frames v n as ++ framesFrom v (run v (init n) as) bs := by
  simp only [frames, framesFrom_append, List.cons_append]

def IdsOk (s : St) : Prop := ∀ e ∈ s.msgs, e.id < s.nextId

theorem step_ids (v : Variant) (s : St) (a : Act) :
    s.nextId ≤ (step v s a).1.nextId ∧
    ∀ e ∈ (step v s a).1.msgs, e ∈ s.msgs ∨ (s.nextId ≤ e.id ∧ e.id < (step v s a).1.nextId) := by
  refine ⟨?_, fun e he => ?_⟩
  · rcases step_cases v s a with h | ⟨i, _, _, r, h⟩
    · exact Nat.le_of_eq h.nextId.symm
    · rw [h.eq]; exact Nat.le_add_right _ _
  · by_cases hold : e ∈ s.msgs
    · exact Or.inl hold
    · obtain ⟨_, _, r, h, _, h1, h2⟩ := step_new_msg v s a he hold
      exact Or.inr ⟨h1, by rw [h.eq]; exact h2⟩

theorem idsOk_step (v : Variant) (s : St) (a : Act) (h : IdsOk s) : IdsOk (step v s a).1 := by
  intro e he
  obtain ⟨h1, h2⟩ := step_ids v s a
  rcases h2 e he with h3 | h3
  · have := h e h3; omega
  · exact h3.2

theorem idsOk_run (v : Variant) (as : List Act) : ∀ s, IdsOk s → IdsOk (run v s as) := by
  exact fun s => run_keeps (idsOk_step v) as

theorem findMsg_id {s : St} {m : Nat} {e : Env} (h : findMsg s m = some e) : e.id = m := by
  have := List.find?_some h
  simpa using this

/-- `_last_applied ≤ commit_index` (the converse is `CaughtUp`) -/
def LaOk (s : St) : Prop := ∀ j, (s.nodes j).lastApplied ≤ (s.nodes j).commit

theorem laOk_step (v : Variant) (hr : Rep v) (g : GSt) (inv : AllInv g) (hcl : CaughtUp g.s) (h : LaOk g.s) (a : Act) :
    LaOk (step v g.s a).1 := fun j =>
  step_nodes (R := fun x y => x.commit ≤ x.lastApplied → x.lastApplied ≤ x.commit → x.commit ≤ y.commit → y.lastApplied ≤ y.commit)
    (fun _ _ h _ => h) (fun sh hcl hla hm => (sh.apOk hcl).la.elim (fun hl => hl ▸ Nat.le_trans hla hm) id) j (hcl j) (h j)
    ((commit_step v hr g inv a).2 j)

theorem caughtUp_init (n : Nat) : CaughtUp (init n) := by intro j; simp [init, initNode]

theorem Shape.miLen {v : Variant} {n : Nat} {x : Node} {me : Nat} {inp : Inp} {r : HR} (sh : Shape v n x me inp r)
    (h : x.matchIndex.length = n) : r.node.matchIndex.length = n := by
  cases sh with
  | quiet q =>
    rcases q.hmi with hm | hm
    · rw [hm]; exact h
    · rw [hm]; exact List.length_replicate
  | adv y N hy hn _ _ =>
    rw [hn, (advanceCommit_kept ..).fr.mi]
    rcases hy with ⟨t, l, pi, pt, es, lc, _, rfl⟩ | ⟨t, f, m, _, _, rfl⟩
    · rw [(appendLoop_fr ..).mi]; exact h
    · exact (List.length_set ..).trans h
  | append f c _ _ hr => subst hr; exact h

def MiLen (s : St) : Prop := ∀ j, (s.nodes j).matchIndex.length = s.n

theorem miLen_step (v : Variant) (s : St) (a : Act) (h : MiLen s) : MiLen (step v s a).1 := fun j => by
  rw [step_n]
  exact step_nodes (R := fun x y => x.matchIndex.length = s.n → y.matchIndex.length = s.n) (fun _ h => h) (fun sh => sh.miLen) j (h j)

def AeSrc (g : GSt) : Prop :=
  ∀ e ∈ g.s.msgs, ∀ t l pi pt es lc, e.body = .ae t l pi pt es lc → (t, e.src) ∈ g.leaders

theorem new_ae (v : Variant) (hr : Rep v) (s : St) (a : Act) {e : Env} (he : e ∈ (step v s a).1.msgs) (hnew : e ∉ s.msgs)
    {t l pi pt lc : Nat} {es : List Entry} (hb : e.body = .ae t l pi pt es lc) :
    e.src < s.n ∧ ((step v s a).1.nodes e.src).role = .leader ∧ ((step v s a).1.nodes e.src).term = t := by
  obtain ⟨src, inp, r, h, hsend, _⟩ := step_new_msg v s a he hnew
  rw [h.node, if_pos rfl]
  rcases (h.does.hk hr).sent hsend with ⟨_, _, _, hx⟩ | ⟨_, _, _, hx⟩ | ⟨hx, _⟩ | ⟨hrole, p, hx⟩
    | ⟨_, _, _, _, _, _, _, _, _, _, hx⟩
  iterate 3 rw [hb] at hx; cases hx
  · rw [hb, aeFor_prev] at hx
    cases hx
    exact ⟨h.hi, hrole, rfl⟩
  · rw [hb] at hx; cases hx

theorem aeSrc_step (v : Variant) (hr : Rep v) (g : GSt) (inv : AllInv g) (h : AeSrc g) (a : Act) : AeSrc (gstep v g a) := by
  intro e he t l pi pt es lc hb
  by_cases hold : e ∈ g.s.msgs
  · exact leaders_mono_step v g a _ (h e hold t l pi pt es lc hb)
  · rw [gstep_s] at he
    obtain ⟨_, hrole, hterm⟩ := new_ae v hr g.s a he hold hb
    rw [← gstep_s] at hrole hterm
    exact hterm ▸ (einv_step v hr.kv g inv.ei a).l0 e.src hrole

/-- Everything the progress proof keeps about a reachable state.  The state is the executable part of a proof state with the
    safety invariants (`ghost`); the ledgers are read only where Election Safety or Leader Completeness is needed, so the
    progress proof is stated about the model's state alone. -/
structure Inv (s : St) : Prop where
  ghost : ∃ g : GSt, g.s = s ∧ AllInv g ∧ AeSrc g
  ids : IdsOk s
  caught : CaughtUp s
  la : LaOk s
  ml : MiLen s

theorem inv_init (n : Nat) : Inv (init n) :=
  ⟨⟨ginit n, rfl, allInv_init n, by intro e he; simp [ginit, init] at he⟩, by intro e he; simp [init] at he, caughtUp_init n,
    by intro j; simp [init, initNode], by intro j; simp [init, initNode]⟩

theorem Inv.step {v : Variant} (hr : Rep v) {s : St} (inv : Inv s) (a : Act) : Inv (step v s a).1 := by
  obtain ⟨g, rfl, all, src⟩ := inv.ghost
  exact ⟨⟨_, gstep_s v g a, allInv_step v hr g all a, aeSrc_step v hr g all src a⟩, idsOk_step v g.s a inv.ids,
    (step_apps v g.s a inv.caught).1, laOk_step v hr g all inv.caught inv.la a, miLen_step v g.s a inv.ml⟩

theorem reachable (v : Variant) (hr : Rep v) (n : Nat) (as : List Act) : Inv (run v (init n) as) :=
  run_keeps (fun _ a h => h.step hr a) as (inv_init n)

theorem laOk_reach (v : Variant) (hr : Rep v) (n : Nat) (as : List Act) : LaOk (run v (init n) as) :=
  (reachable v hr n as).la

theorem Inv.clen {s : St} (inv : Inv s) : CLen s := by
  obtain ⟨g, rfl, all, _⟩ := inv.ghost
  exact all.hi.n_cl

end HappyModel.C11
