import HappyProofs.C09.PreemptSpec
/-! The re-entrant PreemptibleResource machine (`HappyModel/C09/PreemptCb.lean`): the relation between the judge's
books + call stack and the machine state, and the pieces every `tick` is made of. -/
namespace HappyModel.C09.PreemptCb
open HappyModel.C09.Preempt

theorem bumpId_eq (s : St) : bumpId s = Preempt.bump s := rfl
theorem enq_eq (s : St) (g : G) : enq s g = Preempt.enqueue s g := rfl
theorem giveBack_eq (s : St) (g : G) : giveBack s g = Preempt.freed s g := rfl

/-- the acquire calls that are in the middle of a preemption: the `loop` frames that have evicted somebody -/
def callsOf : List Frame → List Call
  | [] => []
  | .prog _ _ :: fs => callsOf fs
  | .loop amt prio _ snap evs :: fs =>
    if evs = [] then callsOf fs else ⟨amt, prio, snap, evs⟩ :: callsOf fs

/-- `doAct` pushes a `loop` frame only for an amount it has let through; `finish` does not test the amount again, and
    `Book.apply` rejects a bad one -/
def FrameOk (cap : Int) : Frame → Prop
  | .prog _ _ => True
  | .loop amt _ _ _ _ => 0 < amt ∧ amt ≤ cap

/-- the amounts that went back to `available`: each grant at most once, and never one that is still held -/
structure RetOk (s : St) (rl : List Nat) : Prop where
  nodup : rl.Nodup
  logged : ∀ i ∈ rl, i ∈ s.grantLog
  dead : ∀ g ∈ s.active, g.id ∉ rl

structure Agree (cap : Int) (j : JB) (m : M) : Prop where
  core : Core cap j.b m.s m.gone
  calls : j.calls = callsOf m.stack
  head : j.calls = [] → ∀ w ws, m.s.waiters = w :: ws → m.s.avail < w.amt
  ret : RetOk m.s m.retLog
  valid : ∀ f ∈ m.stack, FrameOk cap f

/-- the observation the driver prints for an event and the judge parses back; `cnt`: nested lines carry counters -/
def cobs (cnt : Bool) (e : Ev) : CObs := { tag := e.tag, cnt := e.ctx.isNone || cnt, o := e.o }

def Step (cap : Int) (cnt : Bool) (j : JB) (r : M × Option Ev) : Prop :=
  match r.2 with
  | none => Agree cap j r.1
  | some e => ∃ j', j.apply cap (cobs cnt e) = .ok j' ∧ j'.check cap (cobs cnt e) = none ∧ Agree cap j' r.1

theorem Step.silent {cap : Int} {cnt : Bool} {j : JB} {m : M} (h : Agree cap j m) : Step cap cnt j (m, none) := h

theorem Step.loud {cap : Int} {cnt : Bool} {j j' : JB} {m : M} {e : Ev}
    (h1 : j.apply cap (cobs cnt e) = .ok j') (h2 : j'.check cap (cobs cnt e) = none) (h3 : Agree cap j' m) :
    Step cap cnt j (m, some e) := ⟨j', h1, h2, h3⟩

theorem checkMid_ok (cap : Int) (b : Book) (s : St) (gone : List Nat) (o : Obs) (c : Core cap b s gone)
    (hp : o.pset = sortedIds gone) (ha : o.avail = s.avail) (h1 : o.sAcq = s.acquisitions)
    (h2 : o.sRel = s.releases) (h3 : o.sPre = s.preemptions) (h4 : o.sCon = s.contentions) :
    checkMid cap b o = none := by
  obtain ⟨hsum, hnn, hheld, hrest⟩ := check_counters c o hp h1 h2 h3 h4
  unfold checkMid
  rw [hrest, ha, hsum]
  rw [if_neg (by omega), if_neg (by omega), if_neg (by omega), if_neg (by simp; omega)]

theorem check_obsAt (cap : Int) (cnt : Bool) (j : JB) (m : M) (ctx : Option Nat) (tag : Tag) (k : Kind) (res : Res)
    (ev wk : List Nat) (ag : Agree cap j m) :
    j.check cap (cobs cnt ⟨ctx, tag, obsAt m k res ev wk⟩) = none := by
  unfold JB.check
  split
  · rfl
  · split
    · rename_i hc
      exact Preempt.check_ok cap j.b m.s m.gone _ ⟨ag.core, ag.head hc⟩ rfl rfl rfl rfl rfl rfl
    · exact checkMid_ok cap j.b m.s m.gone _ ag.core rfl rfl rfl rfl rfl rfl

theorem erase_id_ne (l : List G) (g x : G) (hn : (l.map G.id).Nodup) (hg : g ∈ l) (hx : x ∈ l.erase g) : x.id ≠ g.id :=
  fun he => ((List.Nodup.mem_erase_iff (nodup_of_map G.id l hn)).mp hx).1
    (inj_of_nodup_map G.id hn (List.mem_of_mem_erase hx) hg he)

theorem retok_return {cap : Int} {b : Book} {s s' : St} {gone : List Nat} {rl : List Nat} (g : G)
    (c : Core cap b s gone) (r : RetOk s rl) (hm : g ∈ s.active)
    (hact : s'.active = s.active.erase g) (hlog : s'.grantLog = s.grantLog) : RetOk s' (rl ++ [g.id]) :=
  { nodup := nodup_snoc r.nodup (r.dead g hm)
    logged := hlog ▸ snoc_all r.logged (c.actLogged g hm)
    dead := by
      intro x hx hin
      rw [hact] at hx
      exact (mem_snoc hin).elim (r.dead x (List.mem_of_mem_erase hx)) (erase_id_ne _ _ _ c.actNodup hm hx) }

theorem retok_bump {s : St} {rl : List Nat} (r : RetOk s rl) : RetOk (bumpId s) rl := ⟨r.nodup, r.logged, r.dead⟩

theorem retok_enq {s : St} {rl : List Nat} (g : G) (r : RetOk s rl) : RetOk (enq s g) rl := ⟨r.nodup, r.logged, r.dead⟩

theorem retok_grant {s : St} {rl : List Nat} (g : G) (r : RetOk s rl) (hnew : g.id ∉ s.grantLog) :
    RetOk (grantNow s g) rl :=
  { nodup := r.nodup
    logged := fun i hi => by
      show i ∈ s.grantLog ++ [g.id]
      exact List.mem_append_left _ (r.logged i hi)
    dead := fun x hx hin => by
      have hx' : x ∈ s.active ++ [g] := hx
      rcases List.mem_append.mp hx' with h | h
      · exact r.dead x h hin
      · simp at h; rw [h] at hin; exact hnew (r.logged _ hin) }

theorem retok_wake {s : St} {rl : List Nat} (r : RetOk s rl) (hwn : ∀ g ∈ s.waiters, g.id ∉ s.grantLog) :
    RetOk (wake s).1 rl :=
  { nodup := r.nodup
    logged := fun i hi => by
      show i ∈ s.grantLog ++ (wokenOf s.avail s.waiters).map G.id
      exact List.mem_append_left _ (r.logged i hi)
    dead := fun x hx hin => by
      have hx' : x ∈ s.active ++ wokenOf s.avail s.waiters := hx
      rcases List.mem_append.mp hx' with h | h
      · exact r.dead x h hin
      · exact hwn x ((woken_sublist _ _).subset h) (r.logged _ hin) }

theorem callsOf_prog (o : Option Nat) (acts : List Act) (fs : List Frame) : callsOf (.prog o acts :: fs) = callsOf fs := rfl

theorem callsOf_loop_nil (amt prio : Int) (cb : Nat) (snap : List G) (fs : List Frame) :
    callsOf (.loop amt prio cb snap [] :: fs) = callsOf fs := by
  simp [callsOf]

theorem callsOf_loop_cons (amt prio : Int) (cb : Nat) (snap : List G) (evs : List Nat) (fs : List Frame) (h : evs ≠ []) :
    callsOf (.loop amt prio cb snap evs :: fs) = ⟨amt, prio, snap, evs⟩ :: callsOf fs := by
  simp [callsOf, h]

theorem Agree.restack {cap : Int} {j : JB} {m : M} (ag : Agree cap j m) (st : List Frame)
    (hc : callsOf st = callsOf m.stack) (hv : ∀ f ∈ st, FrameOk cap f) : Agree cap j { m with stack := st } :=
  { core := ag.core, calls := by rw [ag.calls]; exact hc.symm, head := ag.head, ret := ag.ret, valid := hv }

end HappyModel.C09.PreemptCb
