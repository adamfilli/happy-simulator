import HappyModel.C07.Rearm
/-!
The self-perpetuating schedule timer: the old one spins at a lossy boundary, the new one cannot.
All statements are for every boundary list (sorted by instant), every clock value and every fuel.
-/
namespace HappyModel.C07.Rearm

/-- boundaries in schedule order have non-decreasing instants (`int(b * 1e9)` is monotone in `b`) -/
def Sorted (bs : List Boundary) : Prop := bs.Pairwise (fun a b => a.ns ≤ b.ns)

/-- some boundary stamped `t` reads back strictly before itself -/
def LossyAt (bs : List Boundary) (t : Nat) : Prop := ∃ b ∈ bs, b.ns = t ∧ b.lossy = true

theorem find_le (bs : List Boundary) (hs : Sorted bs) (P : Boundary → Bool) (b : Boundary)
    (hb : b ∈ bs) (hP : P b = true) : ∃ x, bs.find? P = some x ∧ P x = true ∧ x.ns ≤ b.ns := by
  cases hf : bs.find? P with
  | none => exact absurd hP (by simpa using List.find?_eq_none.mp hf b hb)
  | some x =>
    obtain ⟨hPx, as, cs, rfl, has⟩ := List.find?_eq_some_iff_append.mp hf
    refine ⟨x, rfl, hPx, ?_⟩
    rcases List.mem_append.mp hb with h | h
    · exact absurd hP (by simpa using has b h)
    · rcases List.mem_cons.mp h with rfl | h
      · exact Nat.le_refl _
      · exact List.rel_of_pairwise_cons (List.pairwise_append.mp hs).2.1 h

/-- **the defect**: at a lossy boundary the old timer finds a boundary stamped with the *current*
    instant as "the next transition after now" -/
theorem old_rearms_same_instant (bs : List Boundary) (hs : Sorted bs) (t : Nat) (h : LossyAt bs t) :
    ∃ x, nextOld bs t = some x ∧ x.ns = t := by
  obtain ⟨b, hb, hbt, hbl⟩ := h
  have hP : afterReading t b = true := by simp [afterReading, hbt, hbl]
  obtain ⟨x, hx, hxP, hxl⟩ := find_le bs hs (afterReading t) b hb hP
  refine ⟨x, hx, ?_⟩
  simp [afterReading] at hxP
  rcases hxP with h1 | h2
  · omega
  · exact h2.1

/-- so every further delivery of the self-perpetuating event happens at the same instant -/
theorem old_spins (bs : List Boundary) (hs : Sorted bs) (t : Nat) (h : LossyAt bs t) :
    ∀ n, chainOld bs n t = List.replicate n t := by
  intro n
  induction n with
  | zero => rfl
  | succ n ih =>
    obtain ⟨x, hx, hxt⟩ := old_rearms_same_instant bs hs t h
    simp [chainOld, hx, hxt, ih, List.replicate_succ]

/-- … unboundedly many: no bound on the deliveries at instant `t` holds for all run lengths -/
theorem old_unbounded (bs : List Boundary) (hs : Sorted bs) (t : Nat) (h : LossyAt bs t) (bound : Nat) :
    ∃ n, bound < (chainOld bs n t).count t := by
  refine ⟨bound + 1, ?_⟩
  rw [old_spins bs hs t h]
  simp

example : LossyAt [⟨1000000000, false⟩, ⟨2049999999, true⟩, ⟨2450000000, false⟩] 2049999999 ∧
    Sorted [⟨1000000000, false⟩, ⟨2049999999, true⟩, ⟨2450000000, false⟩] := by
  refine ⟨⟨⟨2049999999, true⟩, by simp, rfl, rfl⟩, by simp [Sorted]⟩

example : chainOld [⟨1000000000, false⟩, ⟨2049999999, true⟩, ⟨2450000000, false⟩] 5 1000000000 =
    [1000000000, 2049999999, 2049999999, 2049999999, 2049999999] := by decide

/-- induction over the deliveries of the timer: the chain ends, or the event for boundary `i` is delivered at
    `max b.ns now` and the rest of the chain is that of boundary `i + 1` scheduled at that instant -/
@[elab_as_elim]
theorem chain_induction {motive : Nat → Nat → List (Nat × Nat) → Prop} (bs : List Boundary)
    (stop : ∀ i now, motive i now [])
    (next : ∀ i now b l, bs[i]? = some b → motive (i + 1) (max b.ns now) l →
      motive i now ((max b.ns now, i) :: l)) :
    ∀ fuel i now, motive i now (chain bs fuel i now)
  | 0, i, now => stop i now
  | fuel + 1, i, now => by
    unfold chain
    cases hb : bs[i]? with
    | none => exact stop i now
    | some b => exact next i now b _ hb (chain_induction bs stop next fuel (i + 1) _)

theorem chain_length_le (bs : List Boundary) : ∀ (fuel i now : Nat),
    (chain bs fuel i now).length ≤ bs.length - i := by
  refine chain_induction bs (fun _ _ => Nat.zero_le _) fun i now b l hb ih => ?_
  have := (List.getElem?_eq_some_iff.mp hb).1
  simp only [List.length_cons]
  omega

/-- every delivery happens at or after the clock value at which it was scheduled (nothing is emitted
    into the past), and the delivery instants never decrease -/
theorem chain_not_past (bs : List Boundary) : ∀ (fuel i now : Nat),
    (∀ p ∈ chain bs fuel i now, now ≤ p.1) ∧ (chain bs fuel i now).Pairwise (fun a b => a.1 ≤ b.1) := by
  refine chain_induction bs (fun _ _ => ⟨nofun, .nil⟩) fun i now b l _ ⟨h1, h2⟩ => ?_
  exact ⟨List.forall_mem_cons.mpr ⟨Nat.le_max_right _ _, fun p hp => Nat.le_trans (Nat.le_max_right _ _) (h1 p hp)⟩,
    List.pairwise_cons.mpr ⟨h1, h2⟩⟩

/-- the deliveries walk through the schedule in order: indices `i, i+1, i+2, …` — each boundary once -/
theorem chain_indices (bs : List Boundary) : ∀ (fuel i now : Nat),
    (chain bs fuel i now).map (·.2) = List.range' i (chain bs fuel i now).length := by
  refine chain_induction bs (fun _ _ => rfl) fun i now b l _ ih => ?_
  rw [List.map_cons, List.length_cons, List.range'_succ, ih]

/-- when the schedule is sorted and the timer is armed for a boundary that is not yet past, every
    delivery happens exactly at its boundary's instant -/
theorem chain_exact (bs : List Boundary) (hs : Sorted bs) : ∀ (fuel i now : Nat),
    (∀ b, bs[i]? = some b → now ≤ b.ns) →
    ∀ p ∈ chain bs fuel i now, ∃ b, bs[p.2]? = some b ∧ p.1 = b.ns := by
  refine chain_induction bs (fun _ _ _ => nofun) fun i now b l hb ih hnow => ?_
  have hmax : max b.ns now = b.ns := Nat.max_eq_left (hnow b hb)
  refine List.forall_mem_cons.mpr ⟨⟨b, hb, hmax⟩, ih fun b' hb' => ?_⟩
  -- the next boundary is not before this one
  obtain ⟨hi, rfl⟩ := List.getElem?_eq_some_iff.mp hb
  obtain ⟨hi', rfl⟩ := List.getElem?_eq_some_iff.mp hb'
  rw [hmax]
  exact List.pairwise_iff_getElem.mp hs i (i + 1) hi hi' (Nat.lt_succ_self i)

example : chain [⟨1000000000, false⟩, ⟨2049999999, true⟩, ⟨2450000000, false⟩] 3 0 100000370 =
    [(1000000000, 0), (2049999999, 1), (2450000000, 2)] := by decide

end HappyModel.C07.Rearm
