import HappyProofs.C14.TxnLsmJ
import HappyProofs.C14.TxnTraceSide
import HappyProofs.C14.TxnMach
/-!
# C14 — `txn_trace_satisfies_spec_lsm`: transactions over an `LSMTree`, reads suspended across commits

For every program of SNAPSHOT_ISOLATION / SERIALIZABLE transactions (`WFProg`, `NoRC`), every initial contents, an
LSM tree without WAL with ≥ 2 levels (any compaction strategy, any bloom-filter table) and every schedule with
`SlotSeq` and `Quiesced`, the judge `judgeTxn` accepts the model's transcript — including reads whose `get` generator
is suspended at SSTable page reads while other transactions commit (memtable inserts, flushes and compactions of
`put_sync` in between).  The store obeys the read laws (`lsm_reads`): every cell a read in progress may still return is
as good as the current value for the reader's snapshot (`SV`).
-/
namespace HappyModel.C14.SM.LM
open HappyModel.C14 HappyModel.C14.SM HappyModel.C14.BT HappyModel.C14.TxSpec

theorem txn_trace_satisfies_spec_lsm (cfg : Cfg) (hw : cfg.wal = none) (h2 : 2 ≤ cfg.maxLevels)
    (initKV : List (Key × Nat)) (nkeys : Nat) (ops : List (Nat × TOp)) (sched : List Nat)
    (hwf : WFProg ops) (hnr : NoRC ops)
    (hseq : SlotSeq ops { store := initKV.foldl (fun s e => s.putSync e.1 e.2) (.lsm cfg (St.init cfg)) } sched)
    (hq : Quiesced (runFrames stepT TPc.isDone
      { store := initKV.foldl (fun s e => s.putSync e.1 e.2) (.lsm cfg (St.init cfg)) } (framesOfT ops) 0 sched).2) :
    judgeTxn (initKV.foldl (fun s e => setKey e.1 e.2 s) []) nkeys
      ((List.range nkeys).map (runFrames stepT TPc.isDone
        { store := initKV.foldl (fun s e => s.putSync e.1 e.2) (.lsm cfg (St.init cfg)) } (framesOfT ops) 0 sched).1.store.getSync)
      (tobsOf ops (runFrames stepT TPc.isDone
        { store := initKV.foldl (fun s e => s.putSync e.1 e.2) (.lsm cfg (St.init cfg)) } (framesOfT ops) 0 sched).2) = none :=
  txn_trace_satisfies_spec_side lsmOk lsm_mapLaws (.lsm cfg (St.init cfg)) (lsmOk_init cfg hw h2)
    (fun k => abs_init cfg k) initKV nkeys ops sched hwf hseq (side_of_reads hwf lsm_reads hnr.levels)
    (reads_init _ ops) hq

/-! Memtable of one entry, two levels, size-tiered compaction; the reader's `get` of key 0 is
    suspended at a page read of an SSTable while the writer's commit inserts, flushes and compacts. -/

def lsCfg : Cfg := { memSize := 1, maxLevels := 2, strat := .sizeTiered 2 }

def lsOps : List (Nat × TOp) :=
  [(1, .begin 0 .si), (2, .begin 1 .ser), (3, .read 0 0), (4, .write 1 0 99), (5, .write 1 1 98), (6, .commit 1),
   (7, .read 0 1), (8, .commit 0)]

def lsSched : List Nat := [1, 1, 2, 2, 3, 4, 4, 5, 5, 6, 6, 3, 3, 3, 7, 7, 7, 7, 8, 8]

def lsInit : List (Key × Nat) := [(0, 10), (1, 11), (2, 12)]

def lsTm : TM := { store := lsInit.foldl (fun s e => s.putSync e.1 e.2) (.lsm lsCfg (St.init lsCfg)) }

example : lsCfg.wal = none ∧ 2 ≤ lsCfg.maxLevels := ⟨rfl, by decide +kernel⟩

example : WFProg lsOps := ⟨by decide +kernel, by decide +kernel, by decide +kernel⟩

example : NoRC lsOps := by
  intro o ho s
  simp only [lsOps, List.mem_cons, List.mem_nil_iff, or_false] at ho
  rcases ho with rfl | rfl | rfl | rfl | rfl | rfl | rfl | rfl <;> intro h <;> cases h

example : slotSeqB lsOps lsTm lsSched = true := by decide +kernel

/-- every operation completed; the reader's `get` of key 0 ran over segments 4–11 (suspended at a page read),
    across the writer's commit at segment 9, and returned the snapshot value 10, as did its later read of key 1 -/
example :
    (runFrames stepT TPc.isDone lsTm (framesOfT lsOps) 0 lsSched).2.all (fun f => f.pc.isDone) = true ∧
    (runFrames stepT TPc.isDone lsTm (framesOfT lsOps) 0 lsSched).2.map (fun f => (f.id, f.b, f.e)) =
      [(1, some 0, some 1), (2, some 2, some 3), (3, some 4, some 11), (4, some 5, some 6), (5, some 7, some 8),
       (6, some 9, some 10), (7, some 14, some 15), (8, some 18, some 19)] ∧
    (tobsOf lsOps (runFrames stepT TPc.isDone lsTm (framesOfT lsOps) 0 lsSched).2).map (·.ext) =
      [[(0, some 10, 11), (1, some 11, 15)], []] ∧
    (List.range 3).map (runFrames stepT TPc.isDone lsTm (framesOfT lsOps) 0 lsSched).1.store.getSync =
      [some 99, some 98, some 12] := by
  refine ⟨by decide +kernel, by decide +kernel, by decide +kernel, by decide +kernel⟩

end HappyModel.C14.SM.LM
