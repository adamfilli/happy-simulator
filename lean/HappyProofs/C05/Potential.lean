import HappyProofs.C05.Tree
import HappyProofs.C05.Window
/-!
The potential of a partition: what it has delivered up to `T` plus the delivery trees of everything
still pending (heap and outbox).  One loop iteration that delivers (does not discard) preserves it
as a multiset; so does a whole window.
-/
namespace HappyModel.C05

variable {σ : Type}

section
variable (em : PEv → List Emit) (rank : PEv → Nat) (T : Nat)

def F (l : List Ev) : List PEv := (l.map proj).flatMap (tree em rank T)

theorem F_append (a b : List Ev) : F em rank T (a ++ b) = F em rank T a ++ F em rank T b := by
  simp [F, List.map_append, List.flatMap_append]

theorem F_cons (m : Ev) (l : List Ev) : F em rank T (m :: l) = tree em rank T (proj m) ++ F em rank T l := by
  simp [F, List.flatMap_cons]

theorem F_perm {a b : List Ev} (h : a.Perm b) : (F em rank T a).Perm (F em rank T b) :=
  (h.map proj).flatMap_right _

theorem F_nil_of_gt (l : List Ev) (h : ∀ e ∈ l, T < e.time) : F em rank T l = [] := by
  unfold F
  rw [List.flatMap_eq_nil_iff]
  intro e he
  obtain ⟨x, hx, rfl⟩ := List.mem_map.mp he
  exact tree_of_gt T _ (h x hx)

def logPart (p : Part σ) : List PEv := (p.log.map proj).filter (fun e => e.time ≤ T)

def pot (p : Part σ) : List PEv :=
  logPart T p ++ (F em rank T p.heap ++ F em rank T (p.outbox.map (·.1)))

end

variable {em : PEv → List Emit} {rank : PEv → Nat} {T : Nat}

theorem pot_eq (p : Part σ) : pot em rank T p = logPart T p ++ F em rank T (pendOf p) := by
  simp [pot, pendOf, F_append]

/-- a delivery moves `m` from the pending part of the potential to the delivered part (when
    `m.time ≤ T`) and replaces its tree by the trees of its children, now pending -/
theorem pot_deliver {h : Handler σ} {r : Nat → Route} (hr : Ranked em rank) (hed : EventDetermined h em)
    (p : Part σ) (m : Ev) (rest : List Ev) (hp : p.heap.Perm (m :: rest))
    (hnb : (deliver h r p m rest).bad = false) :
    (pot em rank T (deliver h r p m rest)).Perm (pot em rank T p) := by
  -- the tree of `m` is `m` itself (up to `T`) and the trees of what its delivery emits
  have ht : tree em rank T (proj m)
      = (if m.time ≤ T then [proj m] else []) ++ F em rank T (mkEvents m.time p.ctr (h p.st m).2) := by
    have hFe : F em rank T (mkEvents m.time p.ctr (h p.st m).2)
        = (childrenOf em (proj m)).flatMap (tree em rank T) := by
      unfold F
      rw [proj_mkEvents, hed]
      rfl
    rw [tree_unfold hr, hFe]
    show (if m.time ≤ T then _ else _) = _
    split
    · rfl
    · rw [← hFe, F_nil_of_gt]
      · rfl
      · intro e he
        have := mkEvents_time_ge he
        omega
  have hl : logPart T (deliver h r p m rest) = (if m.time ≤ T then [proj m] else []) ++ logPart T p := by
    by_cases hT : m.time ≤ T <;> simp [logPart, deliver, proj, hT]
  rw [pot_eq, pot_eq, hl, List.perm_iff_count]
  intro a
  have c := (F_perm em rank T (deliver_pend p m rest hp hnb)).count_eq a
  rw [F_cons, F_append, ht] at c
  simp only [List.count_append] at c ⊢
  omega

/-- `pot` is guarded: a router that raised has dropped the emissions it could place neither locally nor
    in the outbox, so nothing is conserved from there on (`split_loc_out` needs `any (isBad r) = false`). -/
structure PInv (em : PEv → List Emit) (rank : PEv → Nat) (T : Nat) (r : Nat → Route)
    (own : Ev → Prop) (b : Nat) (p0 p : Part σ) : Prop where
  w : WInv r own b p
  logOwned : ∀ d ∈ p.log, own d
  pot : p.bad = false → (pot em rank T p).Perm (pot em rank T p0)

theorem PInv.step {h : Handler σ} {r : Nat → Route} {own : Ev → Prop} {b : Nat} {strict : Bool}
    {we : Nat} {p0 p p' : Part σ} (hr : Ranked em rank) (hed : EventDetermined h em)
    (hown : ∀ ev : Ev, r ev.tgt = .loc → own ev)
    (inv : PInv em rank T r own b p0 p) (hs : stepWin h r strict we p = some p') :
    PInv em rank T r own b p0 p' := by
  have hw' := inv.w.step hown hs
  obtain ⟨m, rest, hp, _, hpb, _, rfl⟩ := inv.w.delivers hs
  refine ⟨hw', ?_, fun hnb => (pot_deliver hr hed p _ _ hp hnb).trans (inv.pot hpb)⟩
  intro d hd
  simp only [deliver, List.mem_cons] at hd
  rcases hd with rfl | hd
  · exact inv.w.owned _ (hp.symm.subset List.mem_cons_self)
  · exact inv.logOwned d hd

theorem PInv.run {h : Handler σ} {r : Nat → Route} {own : Ev → Prop} {b : Nat} {strict : Bool}
    {we : Nat} {p0 : Part σ} (hr : Ranked em rank) (hed : EventDetermined h em)
    (hown : ∀ ev : Ev, r ev.tgt = .loc → own ev) (n : Nat) {p : Part σ}
    (inv : PInv em rank T r own b p0 p) : PInv em rank T r own b p0 (runWin h r strict we n p) :=
  runWin_induct h r strict we (PInv em rank T r own b p0) (fun _ _ i hs => i.step hr hed hown hs) n p inv

theorem PInv.refl {r : Nat → Route} {own : Ev → Prop} {b : Nat} {p : Part σ}
    (w : WInv r own b p) (lo : ∀ d ∈ p.log, own d) : PInv em rank T r own b p p :=
  ⟨w, lo, fun _ => List.Perm.refl _⟩

end HappyModel.C05
