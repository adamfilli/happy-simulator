import HappyProofs.C08.FairRel
/-!
Fair-share policies: every operation of FairQueue / WeightedFairQueue (with or without the balking
wrapper) answers like the list specification — the backlogged flow that was served, or became
backlogged, least recently is served next, oldest item first; a flow of weight w keeps its turn for
w consecutive items.
-/
namespace HappyModel.C08

variable {c : Cfg} {fair : Bool} {s : St} {ss : SSt} {fl : FlowSt} {rest : List FlowSt} {it : Item} {q' : List Item}
  {a : Act} {as : List Act}

theorem qs_after (h : FRel fair s ss) (hfl : s.flows = fl :: rest) (hf : HeadFacts ss fl rest it q' a as) (g : Nat)
    : (if fl.fid = g then q' else flowQ rest g) = (removeFirst (·.flow == a.fid) ss.held).filter (·.flow == g) := by
  have hafid : a.fid = fl.fid := by
    have := hf.asig; simp only [sig3, asig3, Prod.mk.injEq] at this; exact this.1
  by_cases hg : fl.fid = g
  · subst hg; rw [if_pos rfl, ← hafid]; exact hf.self.symm
  · rw [if_neg hg, hf.other g (by rw [hafid]; exact fun e => hg e.symm), ← h.qs g, hfl, flowQ_cons, if_neg hg]

theorem serveAct_held (s : SSt) (a : Act) (b : Bool) : (serveAct s a b).held = s.held := by
  unfold serveAct; (repeat' split) <;> rfl

theorem FRel.pop_gone (h : FRel fair s ss) (hfl : s.flows = fl :: rest) (hf : HeadFacts ss fl rest it [] a as)
    (s' : St) (h1 : s'.flows = rest) (h2 : s'.total = s.total - 1) :
    FRel fair s' (serveAct { ss with held := removeFirst (·.flow == a.fid) ss.held, deq := ss.deq + 1 } a false) := by
  generalize hss : serveAct _ _ _ = ss'
  have h3 : ss'.held = removeFirst (·.flow == a.fid) ss.held := by rw [← hss, serveAct_held]
  have h4 : ss'.act = as := by rw [← hss]; simp [serveAct, hf.others]
  have h5 : ss'.clock = ss.clock := by rw [← hss]; simp [serveAct]
  have d := h.dict
  rw [hfl, hf.act] at d
  refine Dict.frel (by rw [h1, h4, h5]; exact d.tail) (fun g => ?_) (by rw [h2, h3, h.total]; have := hf.len; omega)
  rw [h1, h3, ← qs_after h hfl hf g]
  by_cases hg : fl.fid = g
  · subst hg; rw [if_pos rfl]; exact flowQ_not_mem hf.notin
  · rw [if_neg hg]

theorem FRel.pop_rotate (h : FRel fair s ss) (hfl : s.flows = fl :: rest) (hf : HeadFacts ss fl rest it q' a as)
    (hq' : q' ≠ []) (hcr : fl.credits ≤ 1) (fl2 : FlowSt) (e1 : fl2.fid = fl.fid) (e2 : fl2.q = q')
    (e3 : fl2.weight = fl.weight) (e4 : fl2.credits = fl.weight) (s' : St) (h1 : s'.flows = rest ++ [fl2])
    (h2 : s'.total = s.total - 1) :
    FRel fair s' (serveAct { ss with held := removeFirst (·.flow == a.fid) ss.held, deq := ss.deq + 1 } a true) := by
  have hsig := hf.asig; simp only [sig3, asig3, Prod.mk.injEq] at hsig
  have hc : a.credits ≤ 1 := by omega
  generalize hss : serveAct _ _ _ = ss'
  have h3 : ss'.held = removeFirst (·.flow == a.fid) ss.held := by rw [← hss, serveAct_held]
  have h4 : ss'.act = as ++ [{ a with ticket := ss.clock, credits := a.weight }] := by
    rw [← hss]; simp [serveAct, hf.others, hc]
  have h5 : ss'.clock = ss.clock + 1 := by rw [← hss]; simp [serveAct, hc]
  have hnot2 : fl2.fid ∉ rest.map (·.fid) := by rw [e1]; exact hf.notin
  have d := h.dict
  rw [hfl, hf.act] at d
  have ok := d.ok fl List.mem_cons_self
  refine Dict.frel ?_ (fun g => ?_) (by rw [h2, h3, h.total]; have := hf.len; omega)
  · rw [h1, h4, h5]
    refine d.tail.snoc hnot2 ⟨e2 ▸ hq', ?_, fun hfair => ?_⟩ (by simp [sig3, asig3, e1, e3, e4, hsig.1, hsig.2.1]) rfl
    · rw [e3, e4]; exact ⟨ok.2.1.2, ok.2.1.2⟩
    · rw [e3, e4]; exact ⟨(ok.2.2 hfair).1, (ok.2.2 hfair).1⟩
  · rw [h1, h3, flowQ_append_new _ _ _ hnot2, e1, e2]
    exact qs_after h hfl hf g

theorem FRel.pop_stay (h : FRel false s ss) (hfl : s.flows = fl :: rest) (hf : HeadFacts ss fl rest it q' a as)
    (hq' : q' ≠ []) (hcr : 1 < fl.credits) (fl3 : FlowSt) (e1 : fl3.fid = fl.fid) (e2 : fl3.q = q')
    (e3 : fl3.weight = fl.weight) (e4 : fl3.credits = fl.credits - 1) (s' : St) (h1 : s'.flows = fl3 :: rest)
    (h2 : s'.total = s.total - 1) :
    FRel false s' (serveAct { ss with held := removeFirst (·.flow == a.fid) ss.held, deq := ss.deq + 1 } a true) := by
  have hsig := hf.asig; simp only [sig3, asig3, Prod.mk.injEq] at hsig
  have hc : ¬ a.credits ≤ 1 := by omega
  have d := h.dict
  rw [hfl, hf.act] at d
  -- the other backlogged flows have other ids: the credit update touches only `a`
  have hmap : as.map (fun b => if b.fid = a.fid then { b with credits := b.credits - 1 } else b) = as := by
    have hn : a.fid ∉ as.map (·.fid) := by
      have := sig_fids d.sig
      rw [List.map_cons, List.map_cons] at this
      rw [← (List.cons.inj this).2, (List.cons.inj this).1.symm]
      exact (List.nodup_cons.mp d.nodup).1
    conv => rhs; rw [← List.map_id as]
    apply List.map_congr_left
    intro b hb
    have : b.fid ≠ a.fid := fun e => hn (by rw [← e]; exact List.mem_map_of_mem hb)
    simp [this]
  generalize hss : serveAct _ _ _ = ss'
  have h3 : ss'.held = removeFirst (·.flow == a.fid) ss.held := by rw [← hss, serveAct_held]
  have h4 : ss'.act = { a with credits := a.credits - 1 } :: as := by
    rw [← hss]; simp [serveAct, hc, hf.act, hmap]
  have h5 : ss'.clock = ss.clock := by rw [← hss]; simp [serveAct, hc]
  have ok := d.ok fl List.mem_cons_self
  refine Dict.frel ?_ (fun g => ?_) (by rw [h2, h3, h.total]; have := hf.len; omega)
  · rw [h1, h4, h5]
    exact d.head e1 rfl (by simp [sig3, asig3, e1, e3, e4, hsig.1, hsig.2.1, hsig.2.2])
      ⟨e2 ▸ hq', by rw [e3, e4]; exact ⟨by omega, ok.2.1.2⟩, fun hfair => by cases hfair⟩
  · rw [h1, h3, flowQ_cons, e1, e2]
    exact qs_after h hfl hf g

def Kind.fairB : Kind → Bool
  | .fair => true
  | _ => false

theorem weightOf_pos (c : Cfg) (f : Nat) : 0 < weightOf c f := by
  unfold weightOf; simp only; split <;> omega

/-- an item of a flow that has a deque: both sides decide by the same per-flow test `b` -/
theorem FRel.push_existing (h : FRel fair s ss) (it : Item) {fl : FlowSt} (hfind : findFlow s.flows it.flow = some fl)
    (b : Bool) :
    let m := if b = true then ({ s with rejA := s.rejA + 1 }, false)
      else ({ s with flows := appendTo s.flows it.flow it, total := s.total + 1, enq := s.enq + 1 }, true)
    let sp := if b = true then (ss, false) else (ss.accept it, true)
    m.2 = sp.2 ∧ FRel fair m.1 sp.1 := by
  cases b
  · exact ⟨rfl, h.more it hfind _ rfl rfl⟩
  · exact ⟨rfl, h.same _ rfl rfl⟩

theorem pushFair_frel (hk : c.kind = .fair) (h : FRel true s ss) (it : Item) (rd : Bool) :
    (pushFair c s it).2 = (sPushInner c ss it rd).2 ∧ FRel true (pushFair c s it).1 (sPushInner c ss it rd).1 := by
  unfold pushFair sPushInner
  simp only [hk]
  cases hfind : findFlow s.flows it.flow with
  | none =>
    have he := h.flow_none hfind
    have hlen := sig_length h.sig
    simp only [he, List.isEmpty_nil, if_true, ← hlen]
    cases hcf : capFull c.maxFlows s.flows.length with
    | true => simp only [if_true]; exact ⟨trivial, h.same _ rfl rfl⟩
    | false =>
      simp only [Bool.false_eq_true, if_false]
      exact ⟨trivial, h.new_flow it 1 (by omega) (fun _ => rfl) hfind _ rfl rfl⟩
  | some fl =>
    simp only [(h.flow_some hfind).1, (h.flow_some hfind).2, Bool.false_eq_true, if_false]
    exact h.push_existing it hfind _

theorem pushWfq_frel (hk : c.kind = .wfq) (h : FRel false s ss) (it : Item) (rd : Bool) :
    (pushWfq c s it).2 = (sPushInner c ss it rd).2 ∧ FRel false (pushWfq c s it).1 (sPushInner c ss it rd).1 := by
  unfold pushWfq sPushInner
  simp only [hk, ← h.total]
  cases hcap : capFull c.cap s.total with
  | true => simp only [if_true]; exact ⟨trivial, h.same _ rfl rfl⟩
  | false =>
    simp only [Bool.false_eq_true, if_false]
    cases hfind : findFlow s.flows it.flow with
    | none =>
      have he := h.flow_none hfind
      simp only [he, List.isEmpty_nil, if_true]
      exact ⟨trivial, h.new_flow it (weightOf c it.flow) (weightOf_pos c _) (fun e => by cases e) hfind _ rfl rfl⟩
    | some fl =>
      simp only [(h.flow_some hfind).1, (h.flow_some hfind).2, Bool.false_eq_true, if_false]
      exact h.push_existing it hfind _


theorem push_frel (hk : (c.kind = .fair ∧ fair = true) ∨ (c.kind = .wfq ∧ fair = false)) (h : FRel fair s ss)
    (it : Item) (coin rd : Bool) : (push c s it coin rd).2 = (sPush c ss it coin rd).2 ∧ FRel fair
    (push c s it coin rd).1 (sPush c ss it coin rd).1 := by
  have hl : len c s = ss.held.length := by
    rw [← h.total]; unfold len; rcases hk with ⟨hk, _⟩ | ⟨hk, _⟩ <;> simp [hk]
  have inner : (pushInner c s it rd).2 = (sPushInner c ss it rd).2 ∧
      FRel fair (pushInner c s it rd).1 (sPushInner c ss it rd).1 := by
    unfold pushInner
    rcases hk with ⟨hk, hf⟩ | ⟨hk, hf⟩
    · subst hf; simp only [hk]; exact pushFair_frel hk h it rd
    · subst hf; simp only [hk]; exact pushWfq_frel hk h it rd
  exact push_sim hl it coin rd (h.same _ rfl rfl) inner

theorem sPop_fair_empty (hk : c.kind = .fair ∨ c.kind = .wfq) (ha : ss.act = []) (now k : Nat) :
    sPop c ss now k = (ss, none) := by
  unfold sPop
  rcases hk with hk | hk <;> simp [hk, ha, minAct]

theorem sPop_fair_head (hk : c.kind = .fair ∨ c.kind = .wfq) (hf : HeadFacts ss fl rest it q' a as) (now k : Nat) :
    sPop c ss now k =
      (serveAct { ss with held := removeFirst (·.flow == a.fid) ss.held, deq := ss.deq + 1 } a (!q'.isEmpty), some it) := by
  unfold sPop
  rcases hk with hk | hk <;> simp only [hk, hf.min, hf.find, hf.any]

theorem popFair_frel (hk : c.kind = .fair) (h : FRel true s ss) (now k : Nat) :
    (popFair (s.flows.length + 1) s).2 = (sPop c ss now k).2 ∧
    FRel true (popFair (s.flows.length + 1) s).1 (sPop c ss now k).1 := by
  unfold popFair
  rcases h.head_cases with ⟨hfl, ha⟩ | ⟨fl, rest, it, q', a, as, hfl, hq, hf⟩
  · rw [sPop_fair_empty (Or.inl hk) ha]
    simp only [hfl]
    exact ⟨trivial, h⟩
  have hone := h.one rfl fl (by rw [hfl]; exact List.mem_cons_self)
  rw [sPop_fair_head (Or.inl hk) hf]
  simp only [hfl, hq]
  cases hq' : q' with
  | nil =>
    subst hq'
    simp only [List.isEmpty_nil, if_true]
    exact ⟨trivial, h.pop_gone hfl hf _ rfl rfl⟩
  | cons y ys =>
    rw [← hq']
    have hne : q' ≠ [] := by rw [hq']; simp
    have hemp : q'.isEmpty = false := by rw [hq']; rfl
    simp only [hemp, Bool.false_eq_true, if_false]
    exact ⟨trivial, h.pop_rotate hfl hf hne (Nat.le_of_eq hone.2) { fl with q := q' } rfl rfl rfl
      (hone.2.trans hone.1.symm) _ rfl rfl⟩

theorem popWfq_frel (hk : c.kind = .wfq) (h : FRel false s ss) (now k : Nat) :
    (popWfq (2 * s.flows.length) s).2 = (sPop c ss now k).2 ∧
    FRel false (popWfq (2 * s.flows.length) s).1 (sPop c ss now k).1 := by
  rcases h.head_cases with ⟨hfl, ha⟩ | ⟨fl, rest, it, q', a, as, hfl, hq, hf⟩
  · rw [sPop_fair_empty (Or.inr hk) ha, hfl]
    simp only [List.length_nil, Nat.mul_zero, popWfq]
    exact ⟨trivial, h⟩
  -- one unfolding of the loop suffices: `FRel.credits` rules out the recharge branch and `nonempty` the
  -- delete branch, so the first flow is served at once
  have hfuel : 2 * s.flows.length = (2 * rest.length + 1) + 1 := by rw [hfl]; simp; omega
  have hcr := h.credits fl (by rw [hfl]; exact List.mem_cons_self)
  rw [hfuel, sPop_fair_head (Or.inr hk) hf]
  unfold popWfq
  simp only [hfl, hq, hcr.1, if_true]
  cases hq' : q' with
  | nil =>
    subst hq'
    simp only [List.isEmpty_nil, if_true]
    exact ⟨trivial, h.pop_gone hfl hf _ rfl rfl⟩
  | cons y ys =>
    rw [← hq']
    have hne : q' ≠ [] := by rw [hq']; simp
    have hemp : q'.isEmpty = false := by rw [hq']; rfl
    simp only [hemp, Bool.false_eq_true, if_false]
    by_cases hex : fl.credits - 1 = 0
    · simp only [hex, decide_true, if_true]
      exact ⟨trivial, h.pop_rotate hfl hf hne (by omega) ⟨fl.fid, q', fl.weight, fl.weight⟩ rfl rfl rfl rfl _ rfl rfl⟩
    · simp only [hex, decide_false, Bool.false_eq_true, if_false]
      exact ⟨trivial, h.pop_stay hfl hf hne (by omega) ⟨fl.fid, q', fl.weight, fl.credits - 1⟩ rfl rfl rfl rfl _ rfl rfl⟩

theorem pop_frel (hk : (c.kind = .fair ∧ fair = true) ∨ (c.kind = .wfq ∧ fair = false)) (h : FRel fair s ss)
    (now k : Nat) : (pop c s now k).2 = (sPop c ss now k).2 ∧ FRel fair (pop c s now k).1 (sPop c ss now k).1 := by
  unfold pop
  rcases hk with ⟨hk, hf⟩ | ⟨hk, hf⟩
  · subst hf; simp only [hk]; exact popFair_frel hk h now k
  · subst hf; simp only [hk]; exact popWfq_frel hk h now k


theorem peek_frel (hk : c.kind = .fair ∨ c.kind = .wfq) (h : FRel fair s ss) (now : Nat) : peek c s now = sChoose c
    ss now := by
  have hp : peek c s now = (s.flows.find? fun fl => !fl.q.isEmpty).bind (·.q.head?) := by
    unfold peek; rcases hk with hk | hk <;> simp [hk]
  have hs : sChoose c ss now = (match minAct ss.act with
      | none => none
      | some a => ss.held.find? (·.flow == a.fid)) := by
    unfold sChoose; rcases hk with hk | hk <;> (simp only [hk]; try rfl)
  rw [hp, hs]
  rcases h.head_cases with ⟨hfl, ha⟩ | ⟨fl, rest, it, q', a, as, hfl, hq, hf⟩
  · rw [hfl, ha]; simp [minAct]
  · simp [hfl, hf.min, hf.find, hq]

theorem flowDepth_eq (fs : List FlowSt) (f : Nat) : flowDepth fs f = (flowQ fs f).length := by
  unfold flowDepth flowQ; cases findFlow fs f <;> rfl

/-- both sides look the weight up in the same list of (id, weight, credits) -/
theorem weight_lookup (d f : Nat) {fs : List FlowSt} {as : List Act} (h : fs.map sig3 = as.map asig3) :
    (match findFlow fs f with | some fl => fl.weight | none => d) =
    (match as.find? (·.fid == f) with | some a => a.weight | none => d) := by
  have e : (findFlow fs f).map (·.weight) = (as.find? (·.fid == f)).map (·.weight) := by
    have h1 : (findFlow fs f).map (·.weight) = ((fs.map sig3).find? (·.1 == f)).map (·.2.1) := by
      simp [findFlow, List.find?_map, Function.comp_def, sig3]
    have h2 : (as.find? (·.fid == f)).map (·.weight) = ((as.map asig3).find? (·.1 == f)).map (·.2.1) := by
      simp [List.find?_map, Function.comp_def, asig3]
    rw [h1, h2, h]
  cases h1 : findFlow fs f <;> cases h2 : as.find? (·.fid == f) <;> simp_all

theorem query_frel (hk : c.kind = .fair ∨ c.kind = .wfq) (h : FRel fair s ss) (now f : Nat) :
    query c s now f = sQuery c ss now f := by
  have hlen := sig_length h.sig
  unfold query sQuery
  rcases hk with hk | hk
  · simp only [hk]; rw [flowDepth_eq, h.qs f, hlen]
  · simp only [hk]; rw [flowDepth_eq, h.qs f, hlen]
    have hw := weight_lookup (c.weights.getD f 1) f h.sig
    have : ∀ (A B x y : Nat), x = y → [A, B, x] = [A, B, y] := by intro A B x y e; rw [e]
    exact this _ _ _ _ hw

theorem frel_sim (hk : (c.kind = .fair ∧ fair = true) ∨ (c.kind = .wfq ∧ fair = false)) : Sim c (FRel fair) := by
  have hk' : c.kind = .fair ∨ c.kind = .wfq := hk.imp And.left And.left
  exact ⟨push_frel hk, pop_frel hk, peek_frel hk', purge_sim_other fun e => by rw [e] at hk'; cases hk' <;> contradiction,
    query_frel hk'⟩

end HappyModel.C08
