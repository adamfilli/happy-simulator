import HappyProofs.C17.MLMAlg
/-!
"Anti-entropy having run", abstractly.  Once every leader holds the same vector clock for a key
(`mlm_quiescent_clocks_agree`), an anti-entropy exchange only *joins values* (`pick_same_clock`); the counting
argument that `Spec.gossipComplete` evaluates on a delivery log, on a machine of its own:

* a tick `tick t a` snapshots leader `a`'s value (and what is known to be included in it) into
  request `t`; `recv t b`: leader `b` has merged request `t`; `noise b v`: leader `b` merges any other
  value that is below the join of the initial values (an `AntiEntropyResponse`, a request ticked
  earlier — all copies of values some leader held);
* `k b` lists the leaders whose *initial* value is known to be included in `b`'s value.

If in the end every leader knows every leader, all leaders hold the same value: the join of all
initial values (`gossip_complete_converges`).  Any interleaving, any overlap of exchanges (requests
that cross), any amount of extra traffic.  The run-level theorem (`MLMPhase.lean`) does not go through this
machine: it carries the same argument on the model's runs (`MLKnow.lean`, `MLPhase.lean`).
-/
namespace HappyModel.C17.MLM

def bigJoin (j : Join) (x : Nat → Nat) : Nat → Nat
  | 0 => 0
  | m + 1 => joinVal j (bigJoin j x m) (x m)

theorem le_bigJoin (j : Join) (x : Nat → Nat) (m h : Nat) (hh : h < m) : Le j (x h) (bigJoin j x m) := by
  induction m with
  | zero => omega
  | succ m ih =>
    by_cases e : h = m
    · subst e; exact le_join_right j _ _
    · exact le_trans (ih (by omega)) (le_join_left j _ _)

theorem bigJoin_le (j : Join) (x : Nat → Nat) (m c : Nat) (h : ∀ h, h < m → Le j (x h) c) :
    Le j (bigJoin j x m) c := by
  induction m with
  | zero => exact zero_le j c
  | succ m ih =>
    exact join_le (ih (fun h' hh => h h' (by omega))) (h m (by omega))

inductive GEv
  | tick (t a : Nat)
  | recv (t b : Nat)
  | noise (b v : Nat)

structure GSt where
  x : Nat → Nat
  k : Nat → List Nat
  sx : Nat → Nat
  sk : Nat → List Nat

def gstep (j : Join) (s : GSt) : GEv → GSt
  | .tick t a => { s with sx := upd s.sx t (s.x a), sk := upd s.sk t (s.k a) }
  | .recv t b => { s with x := upd s.x b (joinVal j (s.x b) (s.sx t)), k := upd s.k b (s.k b ++ s.sk t) }
  | .noise b v => { s with x := upd s.x b (joinVal j (s.x b) v) }

def grun (j : Join) (s : GSt) (evs : List GEv) : GSt := evs.foldl (gstep j) s

def ginit (x0 : Nat → Nat) : GSt := ⟨x0, fun i => [i], fun _ => 0, fun _ => []⟩

/-- ticks come from leaders; stray values are below the join of everything -/
def EvOK (j : Join) (n g : Nat) : GEv → Prop
  | .tick _ a => a < n
  | .recv _ _ => True
  | .noise _ v => Le j v g

structure GInv (j : Join) (n : Nat) (x0 : Nat → Nat) (s : GSt) : Prop where
  xle : ∀ b, b < n → Le j (s.x b) (bigJoin j x0 n)
  sle : ∀ t, Le j (s.sx t) (bigJoin j x0 n)
  kx : ∀ b h, h ∈ s.k b → Le j (x0 h) (s.x b)
  ks : ∀ t h, h ∈ s.sk t → Le j (x0 h) (s.sx t)

theorem ginit_inv (j : Join) (n : Nat) (x0 : Nat → Nat) : GInv j n x0 (ginit x0) :=
  ⟨fun b hb => le_bigJoin j x0 n b hb, fun _ => zero_le j _,
   fun b h hh => by
     have : h = b := by simpa [ginit] using hh
     subst this; exact le_refl j _,
   fun t h hh => by simp [ginit] at hh⟩

theorem gstep_inv (j : Join) (n : Nat) (x0 : Nat → Nat) (s : GSt) (e : GEv)
    (h : GInv j n x0 s) (he : EvOK j n (bigJoin j x0 n) e) : GInv j n x0 (gstep j s e) := by
  cases e with
  | tick t a =>
    refine ⟨h.xle, ?_, h.kx, ?_⟩
    · intro t'
      show Le j (upd s.sx t (s.x a) t') _
      rw [upd_apply]; split
      · exact h.xle a he
      · exact h.sle t'
    · intro t' h'
      show h' ∈ upd s.sk t (s.k a) t' → Le j (x0 h') (upd s.sx t (s.x a) t')
      rw [upd_apply, upd_apply]; split
      · exact h.kx a h'
      · exact h.ks t' h'
  | recv t b =>
    refine ⟨?_, h.sle, ?_, h.ks⟩
    · intro b' hb'
      show Le j (upd s.x b (joinVal j (s.x b) (s.sx t)) b') _
      rw [upd_apply]; split
      · rename_i e; subst e; exact join_le (h.xle b' hb') (h.sle t)
      · exact h.xle b' hb'
    · intro b' h'
      show h' ∈ upd s.k b (s.k b ++ s.sk t) b' → Le j (x0 h') (upd s.x b (joinVal j (s.x b) (s.sx t)) b')
      rw [upd_apply, upd_apply]; split
      · intro hm
        rcases List.mem_append.mp hm with hm | hm
        · exact le_trans (h.kx b h' hm) (le_join_left j _ _)
        · exact le_trans (h.ks t h' hm) (le_join_right j _ _)
      · exact h.kx b' h'
  | noise b v =>
    refine ⟨?_, h.sle, ?_, h.ks⟩
    · intro b' hb'
      show Le j (upd s.x b (joinVal j (s.x b) v) b') _
      rw [upd_apply]; split
      · rename_i e; subst e; exact join_le (h.xle b' hb') he
      · exact h.xle b' hb'
    · intro b' h'
      show h' ∈ s.k b' → Le j (x0 h') (upd s.x b (joinVal j (s.x b) v) b')
      rw [upd_apply]; split
      · rename_i e; subst e
        intro hm; exact le_trans (h.kx b' h' hm) (le_join_left j _ _)
      · exact h.kx b' h'

theorem grun_inv (j : Join) (n : Nat) (x0 : Nat → Nat) (evs : List GEv) (s : GSt)
    (h : GInv j n x0 s) (he : ∀ e, e ∈ evs → EvOK j n (bigJoin j x0 n) e) : GInv j n x0 (grun j s evs) := by
  induction evs generalizing s with
  | nil => exact h
  | cons e es ih =>
    exact ih _ (gstep_inv j n x0 s e h (he e (by simp))) (fun e' he' => he e' (by simp [he']))

def Complete (n : Nat) (s : GSt) : Prop := ∀ i, i < n → ∀ h, h < n → h ∈ s.k i

theorem gossip_complete_converges (j : Join) (n : Nat) (x0 : Nat → Nat) (evs : List GEv)
    (he : ∀ e, e ∈ evs → EvOK j n (bigJoin j x0 n) e) (hc : Complete n (grun j (ginit x0) evs))
    (i : Nat) (hi : i < n) : (grun j (ginit x0) evs).x i = bigJoin j x0 n := by
  have h := grun_inv j n x0 evs (ginit x0) (ginit_inv j n x0) he
  exact le_antisymm (h.xle i hi) (bigJoin_le j x0 n _ (fun h' hh => h.kx i h' (hc i hi h' hh)))

end HappyModel.C17.MLM
