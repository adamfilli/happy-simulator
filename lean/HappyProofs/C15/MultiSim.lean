import HappyProofs.C15.Ack
/-!
`L : Nat → Bool` marks the "live" operation ids.  A schedule that only names live ids never advances a dead
frame, so filtering the dead frames out commutes with `Sys.step` / `Sys.run`; `InOrder` passes to the filtered system,
`syncsInOrderB` and `syncDoneRun` are unchanged.
-/
namespace HappyModel.C15
open HappyModel.C14

/-- declared in the namespace of `Sys` so that `y.live L` resolves -/
def _root_.HappyModel.C14.Sys.live (L : Nat → Bool) (y : Sys) : Sys := { y with frames := y.frames.filter (fun f => L f.id) }

@[simp] theorem _root_.HappyModel.C14.Sys.live_st (L : Nat → Bool) (y : Sys) : (y.live L).st = y.st := rfl
@[simp] theorem _root_.HappyModel.C14.Sys.live_n (L : Nat → Bool) (y : Sys) : (y.live L).n = y.n := rfl
@[simp] theorem _root_.HappyModel.C14.Sys.live_frames (L : Nat → Bool) (y : Sys) :
    (y.live L).frames = y.frames.filter (fun f => L f.id) := rfl

theorem stepFrames_live (cfg : Cfg) (st : St) (n id : Nat) (L : Nat → Bool) (hL : L id = true)
    (fs : List Frame) :
    stepFrames cfg st n id (fs.filter (fun f => L f.id)) =
      ((stepFrames cfg st n id fs).1, (stepFrames cfg st n id fs).2.filter (fun f => L f.id)) := by
  induction fs with
  | nil => rfl
  | cons f fs ih =>
    by_cases hid : f.id = id
    · by_cases hd : f.pc.isDone = true <;> simp [stepFrames, hid, hL, hd]
    · by_cases hLf : L f.id = true <;> simp [stepFrames, hid, hLf, ih]

theorem step_live (cfg : Cfg) (L : Nat → Bool) (y : Sys) (id : Nat) (hL : L id = true) :
    (y.live L).step cfg id = (y.step cfg id).live L := by
  unfold Sys.step Sys.live
  simp only [stepFrames_live cfg y.st y.n id L hL y.frames]

theorem run_live (cfg : Cfg) (L : Nat → Bool) (sched : List Nat) (y : Sys)
    (hL : ∀ id ∈ sched, L id = true) :
    (y.live L).run cfg sched = (y.run cfg sched).live L := by
  induction sched generalizing y with
  | nil => rfl
  | cons id ids ih =>
    simp only [Sys.run]
    rw [step_live cfg L y id (hL id (by simp))]
    exact ih _ (fun i hi => hL i (by simp [hi]))

theorem run_live_st (cfg : Cfg) (L : Nat → Bool) (sched : List Nat) (y : Sys)
    (hL : ∀ id ∈ sched, L id = true) :
    ((y.live L).run cfg sched).st = (y.run cfg sched).st := by
  rw [run_live cfg L sched y hL]; rfl

theorem run_live_n (cfg : Cfg) (L : Nat → Bool) (sched : List Nat) (y : Sys)
    (hL : ∀ id ∈ sched, L id = true) :
    ((y.live L).run cfg sched).n = (y.run cfg sched).n := by
  rw [run_live cfg L sched y hL]; rfl

theorem run_live_frames (cfg : Cfg) (L : Nat → Bool) (sched : List Nat) (y : Sys)
    (hL : ∀ id ∈ sched, L id = true) :
    ((y.live L).run cfg sched).frames = (y.run cfg sched).frames.filter (fun f => L f.id) := by
  rw [run_live cfg L sched y hL]; rfl

theorem inOrder_live (cfg : Cfg) (L : Nat → Bool) (sched : List Nat) (y : Sys)
    (hL : ∀ id ∈ sched, L id = true) (ho : InOrder cfg y sched) :
    InOrder cfg (y.live L) sched := by
  intro n f hf t b hpc hs
  have hLt : ∀ id ∈ sched.take n, L id = true := fun i hi => hL i (List.mem_of_mem_take hi)
  rw [run_live cfg L (sched.take n) y hLt] at hf ⊢
  have hf' : f ∈ (y.run cfg (sched.take n)).frames := (List.mem_filter.mp hf).1
  exact ho n f hf' t b hpc hs

theorem headNow_live (L : Nat → Bool) (y : Sys) (id : Nat) (h : HeadNow y id) : HeadNow (y.live L) id := by
  intro f hf t b hpc hid
  exact h f (List.mem_filter.mp hf).1 t b hpc hid

theorem find?_id_filter (L : Nat → Bool) (id : Nat) (hL : L id = true) (fs : List Frame) :
    (fs.filter (fun f => L f.id)).find? (fun f => f.id == id) = fs.find? (fun f => f.id == id) := by
  induction fs with
  | nil => rfl
  | cons f fs ih =>
    by_cases hid : f.id = id
    · simp [hid, hL]
    · by_cases hLf : L f.id = true <;> simp [hid, hLf, ih]

theorem atSync_live (L : Nat → Bool) (y : Sys) (id : Nat) (hL : L id = true) :
    atSync (y.live L) id = atSync y id := by
  unfold atSync
  rw [Sys.live_frames, find?_id_filter L id hL]

theorem syncsInOrderB_live (cfg : Cfg) (L : Nat → Bool) (sched : List Nat) (y : Sys)
    (hL : ∀ id ∈ sched, L id = true) :
    syncsInOrderB cfg (y.live L) sched = syncsInOrderB cfg y sched := by
  induction sched generalizing y with
  | nil => rfl
  | cons id ids ih =>
    have h1 : L id = true := hL id (by simp)
    simp only [syncsInOrderB]
    rw [step_live cfg L y id h1, ih _ (fun i hi => hL i (by simp [hi])),
      Sys.live_frames, find?_id_filter L id h1, Sys.live_st]

theorem syncDoneRun_live (cfg : Cfg) (L : Nat → Bool) (sched : List Nat) (y : Sys) (acc : List Nat)
    (hL : ∀ id ∈ sched, L id = true) :
    (syncDoneRun cfg (y.live L) acc sched).2 = (syncDoneRun cfg y acc sched).2 := by
  induction sched generalizing y acc with
  | nil => rfl
  | cons id ids ih =>
    have h1 : L id = true := hL id (by simp)
    simp only [syncDoneRun]
    rw [step_live cfg L y id h1, atSync_live L y id h1]
    exact ih _ _ (fun i hi => hL i (by simp [hi]))

theorem syncDoneRun_live_fst (cfg : Cfg) (L : Nat → Bool) (sched : List Nat) (y : Sys) (acc : List Nat)
    (hL : ∀ id ∈ sched, L id = true) :
    (syncDoneRun cfg (y.live L) acc sched).1 = (syncDoneRun cfg y acc sched).1.live L := by
  rw [syncDoneRun_fst, syncDoneRun_fst, run_live cfg L sched y hL]

end HappyModel.C15
