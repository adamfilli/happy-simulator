import HappyModel.C10.Distributed
namespace HappyModel.C10

def DRL.F (s : DRL) : List Nat := s.fwd.map (·.2.1)
def DRL.I (s : DRL) : List Nat := s.flights.map (·.id)

def DRL.Inv (s : DRL) : Prop := ∀ x, (s.F ++ s.I ++ s.dropped).count x = s.recv.count x

theorem count_map_erase (l : List DFlight) (f : DFlight) (hf : f ∈ l) (x : Nat) :
    (l.map (·.id)).count x = ((l.erase f).map (·.id)).count x + (if f.id == x then 1 else 0) := by
  have hp : (l.map (·.id)).Perm (f.id :: (l.erase f).map (·.id)) := by
    simpa using (List.perm_cons_erase hf).map (·.id)
  rw [hp.count_eq x, List.count_cons]

theorem find_flight {l : List DFlight} {i id : Nat} {f : DFlight}
    (h : l.find? (fun f => f.inst == i && f.id == id) = some f) : f ∈ l ∧ f.id = id := by
  refine ⟨List.mem_of_find?_eq_some h, ?_⟩
  have := List.find?_some h
  simp only [Bool.and_eq_true, beq_iff_eq] at this
  exact this.2

/-- every segment moves one id: an arrival adds it to the received and to the dropped or in-flight ones,
    a resumption moves it from the in-flight ones to the dropped, the in-flight or the forwarded ones -/
theorem DRL.step_inv (W : Nat → Nat) (N : Nat) (s : DRL) (a : DAct) (h : s.Inv) : (s.step W N a).1.Inv := by
  intro x
  have hx := h x
  simp only [DRL.F, DRL.I, List.count_append] at hx
  cases a with
  | arr i id t =>
    simp only [DRL.step]
    split <;>
    · simp only [DRL.F, DRL.I, DRL.setInst, List.count_append, List.count_cons, List.map_cons]
      omega
  | res i id t =>
    simp only [DRL.step]
    split
    · simp only [DRL.F, DRL.I, List.count_append]; exact hx
    · rename_i f hfind
      obtain ⟨hmem, hid⟩ := find_flight hfind
      have hc := count_map_erase s.flights f hmem x
      rw [hid] at hc
      split
      · split <;>
        · simp only [DRL.F, DRL.I, DRL.setInst, List.count_append, List.count_cons, List.map_cons, hid]
          omega
      · simp only [DRL.F, DRL.I, DRL.setInst, List.count_append, List.count_cons, List.map_cons]
        omega

theorem DRL.run_inv (W : Nat → Nat) (N : Nat) : ∀ (acts : List DAct) (s : DRL), s.Inv → (DRL.run W N s acts).Inv
  | [], _, h => h
  | a :: as, s, h => DRL.run_inv W N as _ (DRL.step_inv W N s a h)

variable (wid : Nat → Nat) (N : Nat) (s : DRL)

theorem DRL.step_recv (a : DAct) : (s.step wid N a).1.recv = dReqIds [a] ++ s.recv := by
  cases a with
  | arr i id t => simp only [DRL.step]; split <;> rfl
  | res i id t =>
    simp only [DRL.step]
    split
    · rfl
    · split
      · split <;> rfl
      · rfl

theorem dReqIds_cons (a : DAct) (as : List DAct) : dReqIds (a :: as) = dReqIds as ++ dReqIds [a] := by
  cases a <;> simp [dReqIds]

theorem DRL.run_recv (wid : Nat → Nat) (N : Nat) : ∀ (acts : List DAct) (s : DRL),
    (DRL.run wid N s acts).recv = dReqIds acts ++ s.recv
  | [], _ => by simp [DRL.run, dReqIds]
  | a :: as, s => by
    have e := dReqIds_cons a as
    rw [DRL.run, DRL.run_recv wid N as, DRL.step_recv, e, List.append_assoc]

def DRL.Seq (N : Nat) (s : DRL) : Prop :=
  s.flights = [] ∧ ∀ w, s.fwdWin.count w = s.count w ∧ s.count w ≤ N

theorem DRL.count_cons (w c w' : Nat) :
    ({ s with store := (w, c) :: s.store } : DRL).count w' = if w = w' then c else s.count w' := by
  simp only [DRL.count, List.find?_cons]
  by_cases h : w = w'
  · simp [h]
  · have hb : (w == w') = false := by simp [h]
    simp [hb, h]

theorem DRL.count_congr {s s' : DRL} (h : s'.store = s.store) (w : Nat) : s'.count w = s.count w := by
  unfold DRL.count; rw [h]

theorem DRL.step_arr (i id t : Nat) :
    (s.step wid N (.arr i id t)).1.store = s.store ∧ (s.step wid N (.arr i id t)).1.fwdWin = s.fwdWin ∧
    ((s.step wid N (.arr i id t)).1.flights = s.flights ∨
      (s.step wid N (.arr i id t)).1.flights = ⟨i, id, t, wid t, none⟩ :: s.flights) := by
  simp only [DRL.step]
  split
  · exact ⟨rfl, rfl, Or.inl rfl⟩
  · exact ⟨rfl, rfl, Or.inr rfl⟩

theorem DRL.step_res_idle (i id t : Nat) (h : s.flights = []) :
    (s.step wid N (.res i id t)).1 = s := by
  simp [DRL.step, h]

theorem DRL.step_res_read (i id a w t : Nat)
    (h : s.flights = [⟨i, id, a, w, none⟩]) :
    (s.step wid N (.res i id t)).1.store = s.store ∧ (s.step wid N (.res i id t)).1.fwdWin = s.fwdWin ∧
    ((N ≤ s.count w ∧ (s.step wid N (.res i id t)).1.flights = []) ∨
      (¬ N ≤ s.count w ∧ (s.step wid N (.res i id t)).1.flights = [⟨i, id, a, w, some (s.count w + 1)⟩])) := by
  by_cases hg : N ≤ s.count w
  · simp [DRL.step, h, hg, DRL.setInst]
  · simp [DRL.step, h, hg, DRL.setInst]

theorem DRL.step_res_write (i id a w c t : Nat)
    (h : s.flights = [⟨i, id, a, w, some c⟩]) :
    (s.step wid N (.res i id t)).1.store = (w, c) :: s.store ∧
    (s.step wid N (.res i id t)).1.fwdWin = w :: s.fwdWin ∧ (s.step wid N (.res i id t)).1.flights = [] := by
  simp [DRL.step, h, DRL.setInst]

theorem DRL.serve_seq (r : Nat × Nat × Nat × Nat × Nat) (h : s.Seq N) :
    (s.serve wid N r).Seq N := by
  obtain ⟨i, id, t, t1, t2⟩ := r
  obtain ⟨hf, hc⟩ := h
  simp only [DRL.serve]
  obtain ⟨a1, a2, a3⟩ := DRL.step_arr wid N s i id t
  rw [hf] at a3
  generalize (s.step wid N (.arr i id t)).1 = s1 at a1 a2 a3
  rcases a3 with a3 | a3
  · -- local rejection: nothing in flight, the two `res` find nothing
    rw [DRL.step_res_idle wid N s1 i id t1 a3, DRL.step_res_idle wid N s1 i id t2 a3]
    exact ⟨a3, fun w => by rw [a2, DRL.count_congr a1]; exact hc w⟩
  · obtain ⟨b1, b2, b3⟩ := DRL.step_res_read wid N s1 i id t (wid t) t1 a3
    generalize (s1.step wid N (.res i id t1)).1 = s2 at b1 b2 b3
    rcases b3 with ⟨_, b3⟩ | ⟨hg, b3⟩
    · rw [DRL.step_res_idle wid N s2 i id t2 b3]
      exact ⟨b3, fun w => by rw [b2, a2, DRL.count_congr (b1.trans a1)]; exact hc w⟩
    · -- write issued, then forwarded: the counter of `wid t` and its forwards both go up by one
      obtain ⟨d1, d2, d3⟩ := DRL.step_res_write wid N s2 i id t (wid t) _ t2 b3
      generalize (s2.step wid N (.res i id t2)).1 = s3 at d1 d2 d3
      refine ⟨d3, fun w => ?_⟩
      have e : s3.count w = if wid t = w then s1.count (wid t) + 1 else s2.count w := by
        have := DRL.count_cons s2 (wid t) (s1.count (wid t) + 1) w
        unfold DRL.count at this ⊢
        rw [d1]; exact this
      have h1 := DRL.count_congr a1 w
      have h2 := DRL.count_congr b1 w
      have := hc w
      rw [e, d2, b2, a2, List.count_cons]
      by_cases hw : wid t = w
      · subst hw
        rw [if_pos rfl, if_pos (beq_self_eq_true _)]
        omega
      · rw [if_neg hw, if_neg (by simpa using hw), h2, h1]
        exact this

theorem DRL.serveAll_seq (wid : Nat → Nat) (N : Nat) : ∀ (rs : List (Nat × Nat × Nat × Nat × Nat)) (s : DRL), s.Seq N →
    (DRL.serveAll wid N s rs).Seq N
  | [], _, h => h
  | r :: rs, s, h => DRL.serveAll_seq wid N rs _ (DRL.serve_seq wid N s r h)

/-- the ghost lists stay aligned: `fwdWin` is `fwdArr` mapped through `wid`, provided every flight
    records `win = wid arr` -/
def DRL.Ghost (wid : Nat → Nat) (s : DRL) : Prop :=
  s.fwdWin = s.fwdArr.map wid ∧ ∀ f ∈ s.flights, f.win = wid f.arr

theorem DRL.step_ghost (a : DAct) (h : s.Ghost wid) : (s.step wid N a).1.Ghost wid := by
  obtain ⟨h1, h2⟩ := h
  cases a with
  | arr i id t =>
    simp only [DRL.step]
    split
    · exact ⟨h1, h2⟩
    · refine ⟨h1, fun f hf => ?_⟩
      rcases List.mem_cons.mp hf with rfl | hf
      · rfl
      · exact h2 f hf
  | res i id t =>
    simp only [DRL.step]
    split
    · exact ⟨h1, h2⟩
    · rename_i f hfind
      have hf := h2 f (find_flight hfind).1
      have hsub : ∀ g ∈ s.flights.erase f, g.win = wid g.arr := fun g hg => h2 g (List.mem_of_mem_erase hg)
      split
      · split
        · exact ⟨h1, hsub⟩
        · refine ⟨h1, fun g hg => ?_⟩
          rcases List.mem_cons.mp hg with rfl | hg
          · exact hf
          · exact hsub g hg
      · exact ⟨by simp only [List.map_cons, h1, hf], hsub⟩

theorem DRL.serve_ghost (r : Nat × Nat × Nat × Nat × Nat) (h : s.Ghost wid) :
    (s.serve wid N r).Ghost wid :=
  DRL.step_ghost wid N _ _ (DRL.step_ghost wid N _ _ (DRL.step_ghost wid N _ _ h))

theorem DRL.serveAll_ghost (wid : Nat → Nat) (N : Nat) : ∀ (rs : List (Nat × Nat × Nat × Nat × Nat)) (s : DRL),
    s.Ghost wid → (DRL.serveAll wid N s rs).Ghost wid
  | [], _, h => h
  | r :: rs, s, h => DRL.serveAll_ghost wid N rs _ (DRL.serve_ghost wid N s r h)

theorem cntWin_eq_count (W k : Nat) (ts : List Nat) : cntWin W k ts = (ts.map (aligned W)).count k := by
  induction ts with
  | nil => rfl
  | cons t ts ih =>
    simp only [cntWin, List.filter_cons, List.map_cons, List.count_cons, aligned] at ih ⊢
    by_cases h : t / W = k <;> simp [h, ih]

end HappyModel.C10
