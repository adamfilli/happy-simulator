import HappyProofs.C08.PolicyCap
/-!
FairQueue never holds more than `max_flows × per_flow_capacity` items (the class's `capacity` property;
it has no `capacity` argument, so `held_le_capacity` does not cover it).  A pop that empties a flow
deletes its entry, so the number of flows only shrinks on pop.

The constructor refuses `per_flow_capacity < 1`; the model's `pushFair` does not test a fresh flow against
`perFlow` (the Python tests it, which never fires for `per_flow_capacity ≥ 1`, the only values the
constructor admits), so the statement needs `1 ≤ P` (see the `P = 0` example at the end).
The invariant is stated for a bound `B` with `P ≤ B` and `1 ≤ B`, which gives both the theorem under
the constructor's precondition (`B = P`) and the unconditional variant (`B = max P 1`).
-/
namespace HappyModel.C08

structure FairCapInv (c : Cfg) (F B : Nat) (s : St) : Prop where
  cons : Cons c s
  nflows : s.flows.length ≤ F
  each : ∀ fl ∈ s.flows, fl.q.length ≤ B

theorem flowSum_le (B : Nat) : ∀ (fs : List FlowSt), (∀ fl ∈ fs, fl.q.length ≤ B) → flowSum fs ≤ fs.length * B
  | [], _ => by simp [flowSum]
  | x :: xs, h => by
    have h1 := h x List.mem_cons_self
    have h2 := flowSum_le B xs (fun fl hfl => h fl (List.mem_cons_of_mem _ hfl))
    simp only [flowSum, List.length_cons, Nat.add_one_mul]
    omega

theorem FairCapInv.held {c : Cfg} {F B : Nat} {s : St} (hk : c.kind = .fair) (h : FairCapInv c F B s) :
    len c s ≤ F * B := by
  rw [len_total (by simp [Kind.isFlow, hk]), h.cons.tot]
  exact Nat.le_trans (flowSum_le B _ h.each) (Nat.mul_le_mul_right B h.nflows)

theorem fairCapInv_init (c : Cfg) (F B : Nat) : FairCapInv c F B {} :=
  ⟨cons_init c, Nat.zero_le _, fun fl h => by simp at h⟩

theorem appendTo_length (fs : List FlowSt) (f : Nat) (it : Item) : (appendTo fs f it).length = fs.length := by
  have := congrArg List.length (appendTo_fids fs f it)
  simpa using this

theorem pushFair_shape {c : Cfg} {F P B : Nat} (hF : c.maxFlows = some F) (hP : c.perFlow = some P)
    (hPB : P ≤ B) (hB : 1 ≤ B) {s : St} (h1 : s.flows.length ≤ F) (h2 : ∀ fl ∈ s.flows, fl.q.length ≤ B)
    (it : Item) :
    (pushFair c s it).1.flows.length ≤ F ∧ ∀ fl ∈ (pushFair c s it).1.flows, fl.q.length ≤ B := by
  unfold pushFair
  split
  · rw [hF]
    split
    · exact ⟨h1, h2⟩
    · rename_i hfull
      have hlt := capFull_false hfull
      refine ⟨by simp; omega, ?_⟩
      intro x hx
      simp only [List.mem_append, List.mem_singleton] at hx
      rcases hx with hx | hx
      · exact h2 x hx
      · subst hx; simpa using hB
  · rename_i fl hfl
    rw [hP]
    split
    · exact ⟨h1, h2⟩
    · rename_i hfull
      have hlt := capFull_false hfull
      refine ⟨by simpa [appendTo_length] using h1, appendTo_forall it.flow it h2 fun x hx => ?_⟩
      rw [hfl] at hx
      cases hx
      simp
      omega


theorem popFair_flows_le : ∀ (fuel : Nat) (s : St), (popFair fuel s).1.flows.length ≤ s.flows.length
  | 0, s => by simp [popFair]
  | fuel + 1, s => by
    unfold popFair
    split
    · exact Nat.le_refl _
    · rename_i fl rest hfl
      split
      · exact Nat.le_trans (popFair_flows_le fuel _) (by simp [hfl])
      · split <;> simp [hfl]

theorem popFair_each (B : Nat) : ∀ (fuel : Nat) (s : St), (∀ fl ∈ s.flows, fl.q.length ≤ B) →
    ∀ fl ∈ (popFair fuel s).1.flows, fl.q.length ≤ B
  | 0, s, h => h
  | fuel + 1, s, h => by
    unfold popFair
    split
    · exact h
    · rename_i fl rest hfl
      rw [hfl] at h
      have hrest : ∀ x ∈ rest, x.q.length ≤ B := fun x hx => h x (List.mem_cons_of_mem _ hx)
      split
      · exact popFair_each B fuel _ hrest
      · rename_i it q' hq
        split
        · exact hrest
        · intro x hx
          simp only [List.mem_append, List.mem_singleton] at hx
          rcases hx with hx | hx
          · exact hrest x hx
          · subst hx
            have := h fl List.mem_cons_self
            rw [hq] at this
            exact Nat.le_of_succ_le this

theorem pop_capInv {c : Cfg} {F B : Nat} (hk : c.kind = .fair) {s : St} (h : FairCapInv c F B s)
    (now k : Nat) : FairCapInv c F B (pop c s now k).1 := by
  have hp : pop c s now k = popFair (s.flows.length + 1) s := by simp only [pop, hk]
  rw [hp]
  exact ⟨(popFair_flowPop _ s).cons (congrArg Kind.isFlow hk) h.cons,
    Nat.le_trans (popFair_flows_le _ s) h.nflows, popFair_each B _ s h.each⟩

section
variable {c : Cfg} {F P B : Nat} (hk : c.kind = .fair) (hF : c.maxFlows = some F) (hP : c.perFlow = some P)
  (hPB : P ≤ B) (hB : 1 ≤ B)
include hk hF hP hPB hB

theorem push_capInv {s : St} (h : FairCapInv c F B s) (it : Item) (coin rd : Bool) : FairCapInv c F B (push c s it coin rd).1 := by
  refine push_ind (P := FairCapInv c F B) it coin rd ⟨cons_balked h.cons, h.nflows, h.each⟩ ?_
  have : pushInner c s it rd = pushFair c s it := by simp only [pushInner, hk]
  rw [this]
  have hs := pushFair_shape hF hP hPB hB h.nflows h.each it
  exact ⟨pushFair_cons it (congrArg Kind.isFlow hk) h.cons, hs.1, hs.2⟩

theorem step_capInv {s : St} (h : FairCapInv c F B s) (o : Op) : FairCapInv c F B (step c s o).1 := by
  cases o with
  | push it now coin rd => exact push_capInv hk hF hP hPB hB h it coin rd
  | pop now k => exact pop_capInv hk h now k
  | peek now => exact h
  | purge now =>
    show FairCapInv c F B (purge c s now).1
    rw [purge_other (fun e => by rw [hk] at e; cases e)]; exact h
  | query now f => exact h

theorem finalSt_capInv (ops : List Op) (s : St) (h : FairCapInv c F B s) : FairCapInv c F B (finalSt c s ops) :=
  finalSt_ind (P := FairCapInv c F B) (fun h => step_capInv hk hF hP hPB hB h _) ops h

theorem run_capInv : ∀ (ops : List Op) (s : St), FairCapInv c F B s → ∀ p ∈ run c s ops, FairCapInv c F B p.2
  | [], _, _, p, hp => by simp [run] at hp
  | o :: os, s, h, p, hp => by
    have hs := step_capInv hk hF hP hPB hB h o
    simp only [run, List.mem_cons] at hp
    rcases hp with hp | hp
    · rw [hp]; exact hs
    · exact run_capInv os _ hs p hp

end

/-- **FairQueue never holds more than `max_flows × per_flow_capacity` items** (its `capacity` property), for
    every operation list, with or without the BalkingQueue wrapper.  `1 ≤ P` is the constructor's precondition
    (`per_flow_capacity < 1` raises). -/
theorem fair_held_le_capacity (c : Cfg) (hk : c.kind = .fair) (F P : Nat) (hF : c.maxFlows = some F)
    (hP : c.perFlow = some P) (hP1 : 1 ≤ P) (ops : List Op) :
    len c (finalSt c {} ops) ≤ F * P :=
  (finalSt_capInv hk hF hP (Nat.le_refl P) hP1 ops {} (fairCapInv_init c F P)).held hk

/-- the two factors separately: at most `F` flows have a queue, and every flow's queue holds at most `P` items
    (also as answered by `get_flow_depth`) -/
theorem fair_flows_le_capacity (c : Cfg) (hk : c.kind = .fair) (F P : Nat) (hF : c.maxFlows = some F)
    (hP : c.perFlow = some P) (hP1 : 1 ≤ P) (ops : List Op) :
    (finalSt c {} ops).flows.length ≤ F ∧
    (∀ fl ∈ (finalSt c {} ops).flows, fl.q.length ≤ P) ∧
    (∀ f, flowDepth (finalSt c {} ops).flows f ≤ P) ∧
    (finalSt c {} ops).total = flowSum (finalSt c {} ops).flows := by
  have inv := finalSt_capInv hk hF hP (Nat.le_refl P) hP1 ops {} (fairCapInv_init c F P)
  refine ⟨inv.nflows, inv.each, ?_, inv.cons.tot⟩
  intro f
  unfold flowDepth
  cases hf : findFlow (finalSt c {} ops).flows f with
  | none => exact Nat.zero_le _
  | some fl => exact inv.each fl (findFlow_some hf).1

/-- the bound holds after every operation of the run, not only at its end -/
theorem fair_held_le_capacity_run (c : Cfg) (hk : c.kind = .fair) (F P : Nat) (hF : c.maxFlows = some F)
    (hP : c.perFlow = some P) (hP1 : 1 ≤ P) (ops : List Op) :
    ∀ p ∈ run c {} ops, len c p.2 ≤ F * P ∧ p.2.flows.length ≤ F ∧ ∀ fl ∈ p.2.flows, fl.q.length ≤ P := by
  intro p hp
  have inv := run_capInv hk hF hP (Nat.le_refl P) hP1 ops {} (fairCapInv_init c F P) p hp
  exact ⟨inv.held hk, inv.nflows, inv.each⟩

/-- without the constructor's precondition: a fresh flow is accepted with one item whatever `P` is -/
theorem fair_held_le_capacity_any (c : Cfg) (hk : c.kind = .fair) (F P : Nat) (hF : c.maxFlows = some F)
    (hP : c.perFlow = some P) (ops : List Op) :
    len c (finalSt c {} ops) ≤ F * max P 1 :=
  (finalSt_capInv hk hF hP (Nat.le_max_left P 1) (Nat.le_max_right P 1) ops {}
    (fairCapInv_init c F (max P 1))).held hk


/-- `F = 2`, `P = 2`: four pushes (two flows, two each) are accepted and fill the queue; a fifth item of an
    existing flow is refused by `per_flow_capacity`, an item of a third flow by `max_flows`; a pop that empties
    nothing rotates; after popping flow 0 empty its entry is deleted and a third flow is accepted -/
example :
    let c : Cfg := { kind := .fair, maxFlows := some 2, perFlow := some 2 }
    let ops : List Op :=
      [.push ⟨1, 0, 0⟩ 0 false false, .push ⟨2, 0, 0⟩ 0 false false,
       .push ⟨3, 0, 1⟩ 0 false false, .push ⟨4, 0, 1⟩ 0 false false,
       .push ⟨5, 0, 0⟩ 0 false false, .push ⟨6, 0, 2⟩ 0 false false]
    (run c {} ops).map (·.1) =
      [.pushed true, .pushed true, .pushed true, .pushed true, .pushed false, .pushed false] ∧
    len c (finalSt c {} ops) = 4 ∧ (finalSt c {} ops).flows.length = 2 ∧
    (finalSt c {} ops).rejA = 1 ∧ (finalSt c {} ops).rejB = 1 ∧
    len c (finalSt c {} (ops ++ [.pop 0 0, .pop 0 0, .pop 0 0])) = 1 ∧
    (finalSt c {} (ops ++ [.pop 0 0, .pop 0 0, .pop 0 0])).flows.length = 1 ∧
    (step c (finalSt c {} (ops ++ [.pop 0 0, .pop 0 0, .pop 0 0])) (.push ⟨7, 0, 2⟩ 0 false false)).2 =
      .pushed true := by
  decide +kernel

/-- the hypothesis `1 ≤ P` is needed: with `per_flow_capacity = 0` (refused by the constructor) the model
    still accepts the first item of a fresh flow (the Python `push` would refuse it) -/
example :
    let c : Cfg := { kind := .fair, maxFlows := some 1, perFlow := some 0 }
    len c (finalSt c {} [.push ⟨1, 0, 0⟩ 0 false false]) = 1 := by
  decide

end HappyModel.C08
