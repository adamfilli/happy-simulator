import HappyProofs.C14.TxnSnap
import HappyProofs.C14.BTreeLeaf
/-!
# Transaction manager: commit-order serializability and consistent snapshot reads

(`components/storage/transaction_manager.py` with fix C14-txn-snapshot-reads; model `HappyModel/C14/Txn.lean`.)
-/
namespace HappyModel.C14.SM
open HappyModel.C14 HappyModel.C14.BT

/-- C14, commit-order serializability: for a store obeying the map laws and every sequence of atomic actions, the final
    store is the serial replay of the committed write sets in commit order, and every value a committed SERIALIZABLE
    transaction fetched from the store equals the serial-replay state just before its own commit (the committed
    SERIALIZABLE transactions are view-equivalent to the serial execution in commit order). -/
theorem serializable_commit_order
    (ok : Store → Prop) (ok_put : ∀ s k v, ok s → ok (s.putSync k v))
    (get_put : ∀ s k v k', ok s → (s.putSync k v).getSync k' = if k' = k then some v else s.getSync k')
    (s0 : Store) (h0 : ok s0) (acts : List Act) :
    let r := runA { store := s0 } acts
    (∀ k, r.1.store.getSync k = replay s0.getSync r.2 k) ∧
    ∀ pre post slot wset tx, r.2 = pre ++ Ev.committed slot wset :: post →
      r.1.tx? slot = some tx → tx.level = .ser →
      ∀ k val, Ev.fetched slot k val ∈ pre → val = replay s0.getSync pre k := by
  intro r
  have hI := (inv_runA ⟨ok_put, get_put⟩ s0 h0 acts).1
  exact ⟨hI.store_eq, fun pre post slot wset tx hd ht hl k val hf =>
    hI.comm pre post slot wset hd tx ht hl k val hf⟩

/-- C14, snapshot reads: every value a SNAPSHOT_ISOLATION / SERIALIZABLE transaction fetched equals the serial-replay
    state at the moment it began. -/
theorem snapshot_reads_consistent
    (ok : Store → Prop) (ok_put : ∀ s k v, ok s → ok (s.putSync k v))
    (get_put : ∀ s k v k', ok s → (s.putSync k v).getSync k' = if k' = k then some v else s.getSync k')
    (s0 : Store) (h0 : ok s0) (acts : List Act) :
    let r := runA { store := s0 } acts
    ∀ pre mid post slot k val tx, r.2 = pre ++ Ev.began slot :: mid ++ Ev.fetched slot k val :: post →
      r.1.tx? slot = some tx → tx.level ≠ .rc → val = replay s0.getSync pre k := by
  intro r pre mid post slot k val tx hd ht hl
  have hI := (inv_runA ⟨ok_put, get_put⟩ s0 h0 acts).2
  have hb := hI.began pre (mid ++ Ev.fetched slot k val :: post) slot (by simpa using hd) tx ht
  have hr := hI.reads (pre ++ Ev.began slot :: mid) post slot k val hd tx ht hl
  rw [hr, hb]
  exact congrFun (replayN_prefix _ _ _) k

/-- The same fact about states instead of events: in every reachable state, whatever a transaction of
    level SNAPSHOT_ISOLATION / SERIALIZABLE would fetch for any key is the replay state at its `begin`. -/
theorem fetchVal_eq_snapshot
    (ok : Store → Prop) (ok_put : ∀ s k v, ok s → ok (s.putSync k v))
    (get_put : ∀ s k v k', ok s → (s.putSync k v).getSync k' = if k' = k then some v else s.getSync k')
    (s0 : Store) (h0 : ok s0) (acts : List Act) :
    let r := runA { store := s0 } acts
    ∀ pre post slot tx, r.2 = pre ++ Ev.began slot :: post → r.1.tx? slot = some tx → tx.level ≠ .rc →
      ∀ k, fetchVal r.1 slot k = replay s0.getSync pre k := by
  intro r pre post slot tx hd ht hl k
  obtain ⟨hI1, hI⟩ := inv_runA ⟨ok_put, get_put⟩ s0 h0 acts
  rw [fetchVal_snap ht hl, hI.snapv _ (hI1.snap_le _ _ ht), hI.began pre post slot hd tx ht, hd]
  exact congrFun (replayN_prefix _ _ _) k

/-- a `KVStore` whose dict is (modelled as) a strictly sorted association list -/
def kvOk (s : Store) : Prop := ∃ d, s = .kv d ∧ SortedKV d

theorem kv_laws :
    (∀ s k v, kvOk s → kvOk (s.putSync k v)) ∧
    (∀ s k v k', kvOk s → (s.putSync k v).getSync k' = if k' = k then some v else s.getSync k') := by
  constructor
  · rintro s k v ⟨d, rfl, hd⟩
    exact ⟨upsert k v d, rfl, map_sorted_upsert k v d hd⟩
  · rintro s k v k' ⟨d, rfl, hd⟩
    exact map_lookup_upsert d hd k k' v

theorem serializable_commit_order_kv (d : KV) (hd : SortedKV d) (acts : List Act) :
    let r := runA { store := .kv d } acts
    (∀ k, r.1.store.getSync k = replay (fun k => d.lookup k) r.2 k) ∧
    ∀ pre post slot wset tx, r.2 = pre ++ Ev.committed slot wset :: post →
      r.1.tx? slot = some tx → tx.level = .ser →
      ∀ k val, Ev.fetched slot k val ∈ pre → val = replay (fun k => d.lookup k) pre k :=
  serializable_commit_order kvOk kv_laws.1 kv_laws.2 (.kv d) ⟨d, rfl, hd⟩ acts

theorem snapshot_reads_consistent_kv (d : KV) (hd : SortedKV d) (acts : List Act) :
    let r := runA { store := .kv d } acts
    ∀ pre mid post slot k val tx, r.2 = pre ++ Ev.began slot :: mid ++ Ev.fetched slot k val :: post →
      r.1.tx? slot = some tx → tx.level ≠ .rc → val = replay (fun k => d.lookup k) pre k :=
  snapshot_reads_consistent kvOk kv_laws.1 kv_laws.2 (.kv d) ⟨d, rfl, hd⟩ acts


def exStore : Store := .kv [(0, 10), (1, 11)]

example : kvOk exStore := ⟨_, rfl, by unfold SortedKV; decide +kernel⟩

/-- write skew at SERIALIZABLE: T0 reads key 0 and writes key 1, T1 reads key 1 and writes key 0 -/
def exSkew : List Act :=
  [.begin 0 .ser, .begin 1 .ser, .readStart 0 0, .readFetch 0 0, .readStart 1 1, .readFetch 1 1,
   .write 0 1 100, .write 1 0 200, .commit 0]

/-- the first commit succeeds, the adjacent second one is refused (read-write conflict on key 1); the
    committed transaction's fetch is the replay value before its commit, the final store the replay -/
example :
    (runA { store := exStore } exSkew).2 =
      [.began 0, .began 1, .fetched 0 0 (some 10), .fetched 1 1 (some 11), .committed 0 [(1, 100)]] ∧
    ((runA { store := exStore } exSkew).1.commit 1).2 = false ∧
    (runA { store := exStore } (exSkew ++ [.commit 1])).2 = (runA { store := exStore } exSkew).2 ∧
    ((runA { store := exStore } exSkew).1.tx? 0).map (fun t => (t.level, t.stat)) = some (.ser, .committed) ∧
    ((runA { store := exStore } (exSkew ++ [.commit 1])).1.tx? 1).map (·.stat) = some .aborted ∧
    replay exStore.getSync [.began 0, .began 1, .fetched 0 0 (some 10), .fetched 1 1 (some 11)] 0 = some 10 ∧
    (runA { store := exStore } exSkew).1.store.getSync 1 = some 100 ∧
    replay exStore.getSync (runA { store := exStore } exSkew).2 1 = some 100 := by
  decide +kernel

/-- the same schedule at SNAPSHOT_ISOLATION lets both commit (write skew is allowed there) -/
example :
    ((runA { store := exStore }
      [.begin 0 .si, .begin 1 .si, .readStart 0 0, .readFetch 0 0, .readStart 1 1, .readFetch 1 1,
       .write 0 1 100, .write 1 0 200, .commit 0]).1.commit 1).2 = true := by
  decide +kernel

/-- SNAPSHOT_ISOLATION: T1 commits a write of key 0 after T0 began; T0's later fetch of key 0 still
    returns the value of its snapshot (10), although the store now holds 99 -/
def exSnap : List Act :=
  [.begin 0 .si, .begin 1 .si, .write 1 0 99, .commit 1, .readStart 0 0, .readFetch 0 0]

example :
    (runA { store := exStore } exSnap).2 =
      [.began 0, .began 1, .committed 1 [(0, 99)], .fetched 0 0 (some 10)] ∧
    (runA { store := exStore } exSnap).1.store.getSync 0 = some 99 ∧
    replay exStore.getSync [] 0 = some 10 := by
  decide +kernel

/-- at READ_COMMITTED the same fetch sees the concurrent commit -/
example :
    (runA { store := exStore }
      [.begin 0 .rc, .begin 1 .si, .write 1 0 99, .commit 1, .readStart 0 0, .readFetch 0 0]).2 =
      [.began 0, .began 1, .committed 1 [(0, 99)], .fetched 0 0 (some 99)] := by
  decide +kernel

end HappyModel.C14.SM
