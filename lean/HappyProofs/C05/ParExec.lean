import HappyProofs.C05.SysSim
/-!
The whole coordinated run (the executable `coordLoop`, repaired window rule) of an entity-local
handler is one execution `E` of the abstract system: valid, in time order for every entity, complete
up to the end time, ending in the partitions' entity states, and — restricted to the entities of a
partition — equal to that partition's delivery log.
-/
namespace HappyModel.C05

variable {τ : Type}

structure TInv (hE : EHandler τ) (c : Cfg) (ids : List Nat) (s0 : AS τ) (T b : Nat)
    (ps : List (Part (Nat → τ))) : Prop where
  safe : Safe c b ps
  le : b ≤ T
  pids : ps.map (·.pid) = ids
  logInv : ∀ p ∈ ps, LogInv p
  exec : ∃ E, Valid hE s0 E ∧ SSim c (arun hE s0 E) ps []
    ∧ (∀ p ∈ ps, E.filter (ownB c p.pid) = p.log.reverse.map proj)
    ∧ (∀ d ∈ E, c.part d.tgt ∈ ids)

theorem TInv.window {hE : EHandler τ} {c : Cfg} {ids : List Nat} {s0 : AS τ} {fuel T b we w : Nat}
    {ps : List (Part (Nat → τ))} (hids : ids.Nodup) (hlinks : ∀ l ∈ c.links, l.dst ∈ ids)
    (hw : WindowLeLat c w) (hb : b ≤ we) (hwe : we ≤ b + w) (hT : we ≤ T)
    (inv : TInv hE c ids s0 T b ps) (ok : WindowOk (liftP hE) c fuel we ps) :
    TInv hE c ids s0 T we (oneWindow (liftP hE) c true fuel we ps) := by
  have ran := execAll_ran hw hb inv.safe ok
  have hranpids : (execAll (liftP hE) c true fuel we ps).map (·.pid) = ids := by
    rw [execAll_pids]; exact inv.pids
  obtain ⟨E, hv, sim, hlogs, htg⟩ := inv.exec
  obtain ⟨seg, hvs, sim', hlog', htg'⟩ := execAll_sim hE c b fuel we true ps (arun hE s0 E) []
    (inv.pids ▸ hids) inv.safe.inv sim ok.good
  refine ⟨ran.safe hwe, hT, ?_, oneWindow_logInv (liftP hE) c true fuel we ps inv.logInv, E ++ seg, ?_, ?_, ?_, ?_⟩
  · simp only [oneWindow]; rw [exchange_pids]; exact hranpids
  · exact (Valid_append hE E seg s0).mpr ⟨hv, hvs⟩
  · rw [arun_append]
    exact exchange_ssim c _ _ [] (hranpids ▸ hids) (ran.dest_mem (hranpids ▸ hlinks)) sim'
  · refine List.forall_mem_map.mpr (List.forall_mem_map.mpr fun q hq => ?_)
    have h1 := hlog' q hq
    have h2 := hlogs q hq
    simp only [inject, runWin_pid]
    rw [List.filter_append, h2]
    exact h1.symm
  · intro d hd
    simp only [List.mem_append] at hd
    rcases hd with hd | hd
    · exact htg d hd
    · rw [← inv.pids]; exact htg' d hd

/-- two deliveries to one entity lie in the same partition's filter of `E`, which is that partition's
    log, which `LogInv` sorts -/
theorem tgtSorted_of_filters {c : Cfg} {ids : List Nat} {ps : List (Part (Nat → τ))} {E : List PEv}
    (htg : ∀ d ∈ E, c.part d.tgt ∈ ids) (hp : ps.map (·.pid) = ids)
    (hf : ∀ p ∈ ps, E.filter (ownB c p.pid) = p.log.reverse.map proj)
    (hl : ∀ p ∈ ps, LogInv p) : TgtSorted E := by
  unfold TgtSorted
  rw [List.pairwise_iff_forall_sublist]
  intro a b hsub htgt
  have ha : a ∈ E := hsub.subset (by simp)
  have := htg a ha
  rw [← hp, List.mem_map] at this
  obtain ⟨p, hpm, hpid⟩ := this
  have h1 : ([a, b].filter (ownB c p.pid)).Sublist (E.filter (ownB c p.pid)) := hsub.filter _
  have h2 : [a, b].filter (ownB c p.pid) = [a, b] := by
    simp [ownB, hpid, ← htgt]
  rw [h2, hf p hpm] at h1
  have h3 : (p.log.reverse.map proj).Pairwise (fun x y => x.time ≤ y.time) := by
    rw [List.pairwise_map, List.pairwise_reverse]
    exact (hl p hpm).sorted.imp (fun h => by simpa [proj] using h)
  have := List.Pairwise.sublist h1 h3
  simpa using this

def ParExecOf (hE : EHandler τ) (c : Cfg) (ids : List Nat) (s0 : AS τ) (T : Nat)
    (parts : List (Part (Nat → τ))) : Prop :=
  ∃ E, Valid hE s0 E ∧ TgtSorted E ∧ (∀ e ∈ E, e.time ≤ T)
    ∧ (∀ e ∈ (arun hE s0 E).pend, T < e.time)
    ∧ (∀ p ∈ parts, ∀ x, c.part x = p.pid → (arun hE s0 E).st x = p.st x)
    ∧ (∀ p ∈ parts, E.filter (ownB c p.pid) = p.log.reverse.map proj)
    ∧ (∀ d ∈ E, c.part d.tgt ∈ ids)
    ∧ parts.map (·.pid) = ids
    ∧ (∀ p ∈ parts, LogInv p)

theorem TInv.execOf {hE : EHandler τ} {c : Cfg} {ids : List Nat} {s0 : AS τ} {T b : Nat}
    {ps : List (Part (Nat → τ))} (tinv : TInv hE c ids s0 T b ps)
    (hQ : ∀ p ∈ ps, ∀ e ∈ p.heap, T < e.time) : ParExecOf hE c ids s0 T ps := by
  obtain ⟨E, hv, sim, hlogs, htg⟩ := tinv.exec
  refine ⟨E, hv, tgtSorted_of_filters htg tinv.pids hlogs tinv.logInv, ?_, ?_, sim.st, hlogs, htg,
    tinv.pids, tinv.logInv⟩
  · intro e he
    have := htg e he
    rw [← tinv.pids, List.mem_map] at this
    obtain ⟨p, hp, hpid⟩ := this
    have h1 : e ∈ E.filter (ownB c p.pid) := by
      simp [List.mem_filter, he, ownB, hpid]
    rw [hlogs p hp] at h1
    simp only [List.mem_map, List.mem_reverse] at h1
    obtain ⟨d, hd, rfl⟩ := h1
    have h2 := (tinv.logInv p hp).leClock d hd
    have h3 := tinv.safe.clock p hp
    have h4 := tinv.le
    simp only [proj]
    omega
  · intro e he
    have := sim.pend.mem_iff.mp he
    rw [List.append_nil, sysPend_of_outEmpty tinv.safe.outEmpty] at this
    obtain ⟨e0, h0, rfl⟩ := List.mem_map.mp this
    obtain ⟨p, hp, h1⟩ := List.mem_flatMap.mp h0
    exact hQ p hp e0 h1

theorem par_exec (hE : EHandler τ) (c : Cfg) (ids : List Nat) (fuel wEff endT n : Nat)
    (s : Coord (Nat → τ)) (s0 : AS τ) (hids : ids.Nodup) (hlinks : ∀ l ∈ c.links, l.dst ∈ ids)
    (hw : WindowLeLat c wEff) (hpos : 0 < wEff) (he : s.err = none) (hcur : s.cur ≤ endT)
    (inv : TInv hE c ids s0 endT s.cur s.parts)
    (hres : (coordLoop (liftP hE) c true fuel wEff endT n s).err = none) :
    ParExecOf hE c ids s0 endT (coordLoop (liftP hE) c true fuel wEff endT n s).parts := by
  have key := coordLoop_inv (exchange c) (liftP hE) c fuel wEff endT _ (coordLoop_eq _ c true fuel wEff endT)
    (fun b ps => TInv hE c ids s0 endT b ps)
    (fun ps => ∀ p ∈ ps, ∀ e ∈ p.heap, endT < e.time)
    (fun b we ps i hb hle hT ok => i.window hids hlinks hw hb hle hT ok)
    (fun _ => heap_gt_of_all_empty)
    -- the final pass at `endT`, the one use of `hpos`: `endT < endT + wEff`
    (fun _ i ok => (execAll_ran hw (Nat.le_refl _) i.safe ok).heap_gt (by omega))
    n s he hcur inv hres
  exact key.1.execOf key.2

end HappyModel.C05
