import HappyProofs.C16.OrderLaws
/-!
The order law of sampled LRU: the policy's logical clock readings order the held keys exactly as the
history's last-touch indices do, so the minimum reading of the drawn sample is its least recently
touched key.
-/
namespace HappyModel.C16

def SampOrd (times : List (Key × Nat)) (held : List HRec) : Prop :=
  ∀ ra ∈ held, ∀ rb ∈ held, ∀ ta tb, aget? times ra.key = some ta → aget? times rb.key = some tb →
    (ta < tb ↔ ra.last < rb.last)

def SampRel (size : Nat) (p : Pol) (held : List HRec) : Prop :=
  ∃ s, p = .sampled s ∧ s.size = size ∧ akeys s.times = held.map (·.key) ∧
    (∀ q ∈ s.times, q.2 ≤ s.clock) ∧ SampOrd s.times held

/-- giving key `k` a reading above all others and a last-touch index above all others keeps the
    two orders aligned -/
theorem sampOrd_set {times : List (Key × Nat)} {held held' : List HRec} {k : Key} {c tick : Nat}
    (ho : SampOrd times held) (hb : ∀ q ∈ times, q.2 ≤ c) (hl : ∀ r ∈ held, r.last < tick)
    (hn : (held'.map (·.key)).Nodup)
    (hh : ∀ r' ∈ held', (r'.key = k ∧ r'.last = tick) ∨ (r'.key ≠ k ∧ r' ∈ held)) :
    SampOrd (aset times k (c + 1)) held' := by
  intro ra hra rb hrb ta tb hta htb
  rcases hh ra hra with ⟨ea, la⟩ | ⟨ea, ma⟩ <;> rcases hh rb hrb with ⟨eb, lb⟩ | ⟨eb, mb⟩ <;>
    simp only [ea, eb, aget?_aset_self, aget?_aset_other, ne_eq, not_false_eq_true, Option.some.injEq]
      at hta htb
  · cases rec_unique hn hra hrb (ea.trans eb.symm)
    omega
  · have h1 := hb _ (aget?_mem_pair _ _ _ htb)
    have h2 := hl rb mb
    simp only at h1
    omega
  · have h1 := hb _ (aget?_mem_pair _ _ _ hta)
    have h2 := hl ra ma
    simp only at h1
    omega
  · exact ho ra ma rb mb ta tb hta htb

theorem mem_aset_bound (l : List (Key × Nat)) (k c : Nat) (hb : ∀ q ∈ l, q.2 ≤ c) :
    ∀ q ∈ aset l k (c + 1), q.2 ≤ c + 1 := by
  intro q hq
  unfold aset at hq
  split at hq
  · obtain ⟨p, hp, rfl⟩ := List.mem_map.mp hq
    split
    · exact Nat.le_refl _
    · exact Nat.le_succ_of_le (hb p hp)
  · rcases List.mem_append.mp hq with hq | hq
    · exact Nat.le_succ_of_le (hb q hq)
    · simp only [List.mem_singleton] at hq; subst hq; exact Nat.le_refl _

theorem sampRel_drop (s : SpecSt) (t : List (Key × Nat)) (k c : Nat) (ha : akeys t = s.keys)
    (hb : ∀ q ∈ t, q.2 ≤ c) (ho : SampOrd t s.held) :
    akeys (adel t k) = (s.held.filter (fun r => r.key != k)).map (·.key) ∧
      (∀ q ∈ adel t k, q.2 ≤ c) ∧ SampOrd (adel t k) (s.held.filter (fun r => r.key != k)) := by
  refine ⟨?_, ?_, ?_⟩
  · rw [akeys_adel, ha, keys_filter]; rfl
  · intro q hq; exact hb q (List.mem_filter.mp hq).1
  · intro ra hra rb hrb ta tb hta htb
    obtain ⟨ma, na⟩ := List.mem_filter.mp hra
    obtain ⟨mb, nb⟩ := List.mem_filter.mp hrb
    simp only [bne_iff_ne, ne_eq] at na nb
    rw [aget?_adel_other _ _ _ na] at hta
    rw [aget?_adel_other _ _ _ nb] at htb
    exact ho ra ma rb mb ta tb hta htb

theorem sampRel_evict (size : Nat) (p : Pol) (s : SpecSt) (now : Nat) (pick : List Key) (k : Key)
    (hi : SpecInv s) (h : SampRel size p s.held) (he : (p.evict now pick).1 = some k) :
    ∃ v, s.rec? k = some v ∧ orderOk (.sampled size) s now pick v = true := by
  obtain ⟨⟨sz, t, c⟩, rfl, hs, (ha : akeys t = s.keys), hb, ho⟩ := h
  simp only at hs hb ho
  subst hs
  simp only [Pol.evict, Sampled.evict] at he
  cases hm : argminFirst (Sampled.sample ⟨sz, t, c⟩ pick) with
  | none => simp [hm] at he
  | some q =>
    simp only [hm, Option.some.injEq] at he; subst he
    obtain ⟨hq, hle⟩ := argminFirst_spec _ _ hm
    have hqt : q ∈ t := sampled_sample_mem _ _ _ hq
    have hqk : q.1 ∈ s.keys := ha ▸ mem_akeys_of_mem hqt
    obtain ⟨v, hv, hvk⟩ := List.mem_map.mp hqk
    refine ⟨v, by rw [← hvk]; exact rec?_of_mem hi.nodup hv, ?_⟩
    -- the Spec's sample is the model's
    have hdr : ((pick.filter fun c' => s.held.any (·.key == c')).take sz) = Sampled.drawn ⟨sz, t, c⟩ pick := by
      unfold Sampled.drawn
      simp only
      congr 1
      apply List.filter_congr
      intro x _
      rw [ha, Bool.eq_iff_iff]
      simp [SpecSt.keys, List.any_eq_true]
    simp only [orderOk, hdr]
    split
    · rfl
    · rename_i hne
      -- the drawn sample names tracked keys, so the filtered candidate list is not empty
      have hcne : (t.filter (fun p => (Sampled.drawn ⟨sz, t, c⟩ pick).contains p.1)).isEmpty = false := by
        obtain ⟨d, hdm⟩ := List.exists_mem_of_ne_nil (Sampled.drawn ⟨sz, t, c⟩ pick) (fun e => hne (by rw [e]; rfl))
        have hdt : d ∈ akeys t := by
          unfold Sampled.drawn at hdm
          simpa [List.contains_iff_mem] using (List.mem_filter.mp (List.mem_of_mem_take hdm)).2
        obtain ⟨pd, hpd, rfl⟩ := List.mem_map.mp hdt
        rw [Bool.eq_false_iff, Ne, List.isEmpty_iff, List.filter_eq_nil_iff]
        exact fun h => h pd hpd (List.contains_iff_mem.mpr ‹_›)
      have hsample : Sampled.sample ⟨sz, t, c⟩ pick =
          t.filter (fun p => (Sampled.drawn ⟨sz, t, c⟩ pick).contains p.1) := by
        unfold Sampled.sample
        simp only [hcne, Bool.false_eq_true, if_false]
      rw [hsample] at hq hle
      have hqd := (List.mem_filter.mp hq).2
      simp only [Bool.and_eq_true, List.all_eq_true, Bool.or_eq_true, Bool.not_eq_true',
        decide_eq_true_eq]
      refine ⟨by rw [hvk]; exact hqd, ?_⟩
      intro r hr
      by_cases hrd : (Sampled.drawn ⟨sz, t, c⟩ pick).contains r.key = true
      · right
        have hrt : r.key ∈ akeys t := ha ▸ mem_keys_of_mem hr
        obtain ⟨pr, hpr, hpre⟩ := List.mem_map.mp hrt
        have hprs : pr ∈ t.filter (fun p => (Sampled.drawn ⟨sz, t, c⟩ pick).contains p.1) := by
          rw [List.mem_filter]; exact ⟨hpr, by rw [hpre]; exact hrd⟩
        have hle' := hle pr hprs
        have hnd : (akeys t).Nodup := ha ▸ hi.nodup
        have hgq : aget? t v.key = some q.2 := by
          rw [hvk]; exact aget?_of_mem_nodup t q hnd hqt
        have hgr : aget? t r.key = some pr.2 := by
          rw [← hpre]; exact aget?_of_mem_nodup t pr hnd hpr
        -- the chosen entry has the smallest reading of the sample; `SampOrd` turns that into the smallest `last`
        have := (ho r hr v hv pr.2 q.2 hgr hgq)
        omega
      · left
        simpa using hrd

/-- sampled LRU evicts the least recently touched key of the drawn sample; nothing is claimed when the draw names no
    held key or the sample size is 0 (`orderOk` is then `true`; the model evicts the least recently touched key overall) -/
theorem sampled_evicts_lru_of_sample (size : Nat) : OrderLaw (.sampled { size := size }) := by
  refine orderLaw_of_held _ rfl rfl (SampRel size) ⟨_, rfl, rfl, rfl, nofun, nofun⟩ ?_ ?_ ?_ (sampRel_evict size)
  · rintro _ s k hi ⟨⟨sz, t, c⟩, rfl, hs, (ha : akeys t = s.keys), hb, ho⟩
    simp only at hs hb ho
    have hkeys : (s.held.map (touch s.tick k)).map (·.key) = s.keys := step_keys_access s k none
    simp only [Pol.access, Sampled.access]
    by_cases hk : k ∈ akeys t
    · rw [if_pos hk]
      refine ⟨_, rfl, hs, ?_, mem_aset_bound t k c hb, ?_⟩
      · show akeys (aset t k (c + 1)) = _
        rw [akeys_aset_mem _ _ _ hk, hkeys]; exact ha
      · refine sampOrd_set ho hb hi.last_lt (hkeys ▸ hi.nodup) fun r' hr' => ?_
        obtain ⟨r, hr, rfl⟩ := List.mem_map.mp hr'
        by_cases e : r.key = k
        · exact Or.inl ⟨by rw [touch_key]; exact e, by rw [touch_of_eq e]⟩
        · exact Or.inr ⟨by rw [touch_key]; exact e, by rw [touch_of_ne e]; exact hr⟩
    · rw [if_neg hk, map_touch_not_mem (show k ∉ s.keys from ha ▸ hk)]
      exact ⟨_, rfl, hs, ha, hb, ho⟩
  · rintro _ s k now hi hk ⟨⟨sz, t, c⟩, rfl, hs, (ha : akeys t = s.keys), hb, ho⟩
    simp only at hs hb ho
    refine ⟨_, rfl, hs, ?_, mem_aset_bound t k c hb, ?_⟩
    · show akeys (aset t k (c + 1)) = _
      rw [akeys_aset_not_mem _ _ _ (ha ▸ hk), ha, List.map_append]; rfl
    · refine sampOrd_set ho hb hi.last_lt ?_ fun r' hr' => ?_
      · rw [List.map_append]; exact nodup_append_singleton hi.nodup hk
      · rcases List.mem_append.mp hr' with hr | hr
        · exact Or.inr ⟨fun e => hk (e ▸ mem_keys_of_mem hr), hr⟩
        · cases List.mem_singleton.mp hr
          exact Or.inl ⟨rfl, rfl⟩
  · rintro _ s k - ⟨⟨sz, t, c⟩, rfl, hs, ha, hb, ho⟩
    obtain ⟨h1, h2, h3⟩ := sampRel_drop s t k c ha hb ho
    exact ⟨_, rfl, hs, h1, h2, h3⟩

end HappyModel.C16
