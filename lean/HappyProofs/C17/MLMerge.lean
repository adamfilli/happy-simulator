import HappyModel.C17.ML
/-!
The per-key merge decision (`takes`, i.e. `LeaderNode._pick`) is "keep the greater version" for a total order,
provided the versions are *coherent*: vector-clock dominance agrees with the `(timestamp, writer, writer's own
counter)` order, and two versions of one writer with one timestamp are causally ordered.  Both hold for runs whose
messages take positive time (the harness uses latencies ≥ 1 ns).  Then merging is a semilattice join: the result is
the maximum of the set, whatever the order, grouping and duplication.
-/
namespace HappyModel.C17.ML

theorem vcGet_map_range (n : Nat) (f : Nat → Nat) (c : Nat) (h : c < n) :
    vcGet ((List.range n).map f) c = f c := by
  unfold vcGet
  rw [List.getD_eq_getElem?_getD, List.getElem?_map, List.getElem?_range h]
  rfl

theorem vcGet_merge (n : Nat) (a b : List Nat) (c : Nat) (hc : c < n) :
    vcGet (vcMerge n a b) c = max (vcGet a c) (vcGet b c) :=
  vcGet_map_range n _ c hc

theorem dominates_iff {n : Nat} {a b : List Nat} :
    dominates n a b = true ↔ (∀ c, c < n → vcGet b c ≤ vcGet a c) ∧ ∃ c, c < n ∧ vcGet b c < vcGet a c := by
  unfold dominates
  simp only [Bool.and_eq_true, List.all_eq_true, List.any_eq_true, List.mem_range, decide_eq_true_eq]

theorem dominates_le {n : Nat} {a b : List Nat} (h : dominates n a b = true) :
    ∀ c, c < n → vcGet b c ≤ vcGet a c :=
  (dominates_iff.mp h).1

theorem dominates_strict {n : Nat} {a b : List Nat} (h : dominates n a b = true) :
    ∃ c, c < n ∧ vcGet b c < vcGet a c :=
  (dominates_iff.mp h).2

theorem dominates_eq_false_of_le {n : Nat} {a b : List Nat} (h : ∀ c, c < n → vcGet a c ≤ vcGet b c) :
    dominates n a b = false := by
  cases hd : dominates n a b with
  | false => rfl
  | true =>
    obtain ⟨c, hc, hlt⟩ := dominates_strict hd
    exact absurd (h c hc) (Nat.not_le_of_gt hlt)

/-- `_vc_dominates` reads a missing component as 0, so it is a strict partial order whatever the supports of the
two clocks are: leaders on a star or a line carry snapshots with different id sets -/
theorem dominates_irrefl (n : Nat) (a : List Nat) : dominates n a a = false :=
  dominates_eq_false_of_le fun _ _ => Nat.le_refl _

theorem dominates_asymm (n : Nat) (a b : List Nat) (h : dominates n a b = true) : dominates n b a = false :=
  dominates_eq_false_of_le (dominates_le h)

theorem dominates_trans (n : Nat) (a b c : List Nat) (h1 : dominates n a b = true) (h2 : dominates n b c = true) :
    dominates n a c = true := by
  refine dominates_iff.mpr ⟨fun x hx => Nat.le_trans (dominates_le h2 x hx) (dominates_le h1 x hx), ?_⟩
  obtain ⟨x, hx, hlt⟩ := dominates_strict h1
  exact ⟨x, hx, Nat.lt_of_le_of_lt (dominates_le h2 x hx) hlt⟩

def own (v : Version) : Nat := vcGet v.vc v.writer

/-- `(ts, writer, own)` lexicographic -/
def vlt (a b : Version) : Prop :=
  a.ts < b.ts ∨ (a.ts = b.ts ∧ (a.writer < b.writer ∨ (a.writer = b.writer ∧ own a < own b)))

instance (a b : Version) : Decidable (vlt a b) := by unfold vlt; exact inferInstance

theorem vlt_irrefl (a : Version) : ¬ vlt a a := by unfold vlt; omega
theorem vlt_asymm (a b : Version) : vlt a b → ¬ vlt b a := by unfold vlt; omega
theorem vlt_trans (a b c : Version) : vlt a b → vlt b c → vlt a c := by unfold vlt; omega

structure Coherent (n : Nat) (P : Version → Prop) : Prop where
  /-- causally later ⇒ greater -/
  causal : ∀ a b, P a → P b → dominates n b.vc a.vc = true → vlt a b
  /-- one writer, one instant ⇒ causally ordered (or the same version) -/
  sameWriter : ∀ a b, P a → P b → a.ts = b.ts → a.writer = b.writer →
    a = b ∨ dominates n a.vc b.vc = true ∨ dominates n b.vc a.vc = true

theorem lwwLt_iff (a b : Version) : lwwLt a b = true ↔ (a.ts < b.ts ∨ (a.ts = b.ts ∧ a.writer < b.writer)) := by
  unfold lwwLt; simp

theorem takes_iff_lt (n : Nat) (P : Version → Prop) (hc : Coherent n P) (a b : Version) (ha : P a) (hb : P b) :
    takes n (some a) b = true ↔ vlt a b := by
  unfold takes
  by_cases h1 : dominates n b.vc a.vc = true
  · simp only [h1, if_true]
    exact ⟨fun _ => hc.causal a b ha hb h1, fun _ => trivial⟩
  · simp only [h1]
    by_cases h2 : dominates n a.vc b.vc = true
    · simp only [h2, if_true]
      have := hc.causal b a hb ha h2
      exact ⟨fun hf => by simp at hf, fun hlt => absurd hlt (vlt_asymm b a this)⟩
    · simp only [h2, Bool.false_eq_true, if_false]
      rw [lwwLt_iff]
      constructor
      · intro hl; unfold vlt; omega
      · intro hl
        unfold vlt at hl
        rcases hl with hl | ⟨e1, hl | ⟨e2, hl⟩⟩
        · exact Or.inl hl
        · exact Or.inr ⟨e1, hl⟩
        · rcases hc.sameWriter a b ha hb e1 e2 with h | h | h
          · subst h; omega
          · exact absurd h h2
          · exact absurd h h1

theorem vlt_total (n : Nat) (P : Version → Prop) (hc : Coherent n P) (a b : Version) (ha : P a) (hb : P b) :
    vlt a b ∨ a = b ∨ vlt b a := by
  by_cases h1 : vlt a b
  · exact Or.inl h1
  · by_cases h2 : vlt b a
    · exact Or.inr (Or.inr h2)
    · right; left
      have e1 : a.ts = b.ts := by unfold vlt at h1 h2; omega
      have e2 : a.writer = b.writer := by unfold vlt at h1 h2; omega
      rcases hc.sameWriter a b ha hb e1 e2 with h | h | h
      · exact h
      · exact absurd (hc.causal b a hb ha h) h2
      · exact absurd (hc.causal a b ha hb h) h1

theorem nlt_trans (n : Nat) (Q : Version → Prop) (hc : Coherent n Q) (c u v : Version) (hq : Q c) (hu : Q u)
    (h1 : ¬ vlt c u) (h2 : ¬ vlt u v) : ¬ vlt c v := by
  intro h
  rcases vlt_total n Q hc c u hq hu with t | t | t
  · exact h1 t
  · subst t; exact h2 h
  · exact h2 (vlt_trans u c v t h)

theorem agree_of_ge {n : Nat} {Pk : Version → Prop} (hc : Coherent n Pk) {a b : Option Version}
    (ha : ∀ u, a = some u → Pk u) (hb : ∀ u, b = some u → Pk u)
    (hab : ∀ u, a = some u → ∃ w, b = some w ∧ ¬ vlt w u) (hba : ∀ u, b = some u → ∃ w, a = some w ∧ ¬ vlt w u) :
    a = b := by
  cases a with
  | none =>
    cases b with
    | none => rfl
    | some w => obtain ⟨_, e, _⟩ := hba w rfl; cases e
  | some u =>
    obtain ⟨w, rfl, hnw⟩ := hab u rfl
    obtain ⟨_, e, hnu⟩ := hba w rfl
    cases e
    rcases vlt_total n Pk hc u w (ha u rfl) (hb w rfl) with x | x | x
    · exact absurd x hnu
    · rw [x]
    · exact absurd x hnw

/-- what `_install` does to the local version of a key -/
def mergeOpt (n : Nat) (cur : Option Version) (inc : Version) : Option Version :=
  if takes n cur inc then some inc else cur

def mergeAll (n : Nat) (cur : Option Version) (l : List Version) : Option Version :=
  l.foldl (mergeOpt n) cur

def IsMax (l : List Version) (r : Option Version) : Prop :=
  match r with
  | none => l = []
  | some v => v ∈ l ∧ ∀ w, w ∈ l → ¬ vlt v w

theorem mergeOpt_max (n : Nat) (P : Version → Prop) (hc : Coherent n P) (l : List Version) (cur : Option Version)
    (inc : Version) (hl : ∀ v, v ∈ l → P v) (hi : P inc) (hm : IsMax l cur) :
    IsMax (l ++ [inc]) (mergeOpt n cur inc) := by
  unfold mergeOpt
  cases cur with
  | none =>
    simp only [takes, if_true]
    unfold IsMax at hm ⊢
    subst hm
    exact ⟨by simp, fun w hw => by simp at hw; subst hw; exact vlt_irrefl _⟩
  | some c =>
    obtain ⟨hcl, hmax⟩ := hm
    have hiff := takes_iff_lt n P hc c inc (hl c hcl) hi
    split
    · next ht =>
      refine ⟨by simp, fun w hw => ?_⟩
      rcases List.mem_append.mp hw with hw | hw
      · exact fun hiw => hmax w hw (vlt_trans c inc w (hiff.mp ht) hiw)
      · rw [List.mem_singleton.mp hw]; exact vlt_irrefl _
    · next ht =>
      refine ⟨by simp [hcl], fun w hw => ?_⟩
      rcases List.mem_append.mp hw with hw | hw
      · exact hmax w hw
      · rw [List.mem_singleton.mp hw]; exact fun h => ht (hiff.mpr h)

theorem mergeAll_max (n : Nat) (P : Version → Prop) (hc : Coherent n P) (l : List Version)
    (hl : ∀ v, v ∈ l → P v) : ∀ (pre : List Version) (cur : Option Version), (∀ v, v ∈ pre → P v) →
    IsMax pre cur → IsMax (pre ++ l) (mergeAll n cur l) := by
  induction l with
  | nil => intro pre cur _ hm; simpa [mergeAll] using hm
  | cons x xs ih =>
    intro pre cur hpre hm
    have h1 := mergeOpt_max n P hc pre cur x hpre (hl x (by simp)) hm
    have h2 := ih (fun v hv => hl v (by simp [hv])) (pre ++ [x]) (mergeOpt n cur x)
      (fun v hv => by
        simp only [List.mem_append, List.mem_singleton] at hv
        rcases hv with hv | hv
        · exact hpre v hv
        · subst hv; exact hl _ (by simp)) h1
    simpa [mergeAll, List.append_assoc] using h2

theorem IsMax.ge {l : List Version} {r : Option Version} (h : IsMax l r) {v : Version} (hv : v ∈ l) :
    ∃ w, r = some w ∧ ¬ vlt w v := by
  cases r with
  | none => cases (show l = [] from h); cases hv
  | some w => exact ⟨w, rfl, h.2 v hv⟩

theorem isMax_unique (n : Nat) (P : Version → Prop) (hc : Coherent n P) (l1 l2 : List Version)
    (h1 : ∀ v, v ∈ l1 → P v) (hset : ∀ v, v ∈ l1 ↔ v ∈ l2) (r1 r2 : Option Version)
    (hm1 : IsMax l1 r1) (hm2 : IsMax l2 r2) : r1 = r2 := by
  refine agree_of_ge hc (fun u e => ?_) (fun u e => ?_) (fun u e => ?_) (fun u e => ?_) <;> subst e
  · exact h1 u hm1.1
  · exact h1 u ((hset u).mpr hm2.1)
  · exact hm2.ge ((hset u).mp hm1.1)
  · exact hm1.ge ((hset u).mpr hm2.1)

end HappyModel.C17.ML
