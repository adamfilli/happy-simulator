import HappyModel.C12.ElObs
import HappyProofs.Lib.Lists
/-!
# C12 — `LeaderElection`: what one handler does

`step_outcome` is the one case walk over `El.step` (`stale_heartbeat_ignored` reads off a single branch): a handler
rewrites only the record of `actor a`, in one of ten ways (`Outcome`), and returns the messages named there.
-/
namespace HappyModel.C12.El

theorem getNode_setNode (s : St) (i j : Nat) (x : Node) :
    getNode (setNode s i x) j = if j = i ∧ i < s.nodes.length then x else getNode s j :=
  getD_set s.nodes i j x _

theorem length_setNode (s : St) (i : Nat) (x : Node) : (setNode s i x).nodes.length = s.nodes.length := by
  simp [setNode]

theorem setNode_getNode (s : St) (i : Nat) : setNode s i (getNode s i) = s := by
  simp only [setNode, getNode, List.getD_eq_getElem?_getD]
  congr 1
  exact List.ext_getElem? fun j => by
    rw [List.getElem?_set]
    split
    · rename_i h; subst h
      split
      · rename_i hl; simp [hl]
      · rename_i hl; simp [List.getElem?_eq_none (Nat.le_of_not_lt hl)]
    · rfl

theorem startElection_members (st : Strat) (p : Nat) (nd : Node) (draw : Nat) :
    (startElection st p nd draw).1.members = nd.members := by
  simp only [startElection]
  split <;> split <;> rfl

theorem startElection_term (st : Strat) (p : Nat) (nd : Node) (draw : Nat) :
    (startElection st p nd draw).1.term = nd.term + 1 := by
  simp only [startElection]
  split <;> split <;> rfl

theorem startElection_leader (st : Strat) (p : Nat) (nd : Node) (draw : Nat) :
    (startElection st p nd draw).1.leader = nd.leader ∨
    ((startElection st p nd draw).1.leader = some p ∧
      ((electionMsgs st p nd.members (nd.term + 1) draw).isEmpty = true ∨
       (electionMsgs st p nd.members (nd.term + 1) draw).all Msg.isVictory = true)) := by
  simp only [startElection]
  split
  · rename_i h1
    simp only [Bool.and_eq_true] at h1
    right; exact ⟨rfl, Or.inr h1.2⟩
  · split
    · rename_i h2
      right; exact ⟨rfl, Or.inl h2⟩
    · left; rfl

/-- `nd1` of `finish` -/
def adopt (nd : Node) : Option Nat → Node
  | some l => { nd with leader := some l, term := nd.term + 1, inProg := false }
  | none => nd

theorem finish_eq (st : Strat) (d : Nat) (nd : Node) (resp : List Msg) (leader : Option Nat)
    (startOwn suppress : Bool) (draw : Nat) :
    finish st d nd resp leader startOwn suppress draw =
      (let r := if startOwn && !(adopt nd leader).inProg then startElection st d (adopt nd leader) draw
                else (adopt nd leader, [])
       (if suppress then { r.1 with inProg := false } else r.1,
        resp.filter (fun m => nd.members.contains m.dst) ++ r.2)) := by
  cases leader <;> rfl

/-- the record the handler of an action writes for its node, whose record was `nd`, and the messages it returns -/
inductive Outcome (st : Strat) (draw : Nat) (nd : Node) : Act → Node × List Msg → Prop
  -- nothing written; the side condition on the messages (the timer, or heartbeats of a node that is its own leader) is
  -- the shape in which `SInv` can check them
  | quiet (a : Act) {ms : List Msg}
      (h : ∀ m ∈ ms, m = .timer ∨ ∃ d, m = .lhb d (actor a) nd.term ∧ nd.leader = some (actor a)) :
      Outcome st draw nd a (nd, ms)
  | member (p m : Nat) : Outcome st draw nd (.addMember p m)
      ({ nd with members := if nd.members.contains m then nd.members else nd.members ++ [m] }, [])
  | elect (p : Nat) (e : Bool) : Outcome st draw nd (.timeout p e)
      ((startElection st p nd draw).1, (startElection st p nd draw).2 ++ [.timer])
  | challenge (d c : Nat) : Outcome st draw nd (.challenge d c) (finish st d nd [.suppress c d] none true false draw)
  | calm (d : Nat) : Outcome st draw nd (.suppress d) ({ nd with inProg := false }, [])
  | victory (d l : Nat) : Outcome st draw nd (.victory d l) (finish st d nd [] (some l) false true draw)
  | home (d t : Nat) (cs : List Nat) : Outcome st draw nd (.token d d t cs)
      (finish st d nd ((nd.members.filter (· != d)).map fun m => .victory m (maxOf cs) t) (some (maxOf cs)) false true draw)
  | forward (d i t : Nat) (cs : List Nat) (h : ¬ i = d) : Outcome st draw nd (.token d i t cs)
      (finish st d nd [.token (ringNext nd.members d) i (cs ++ [d]) t] none false false draw)
  | ballot (d f t my : Nat) : Outcome st draw nd (.ballot d f t my)
      (finish st d nd [.ballotResp f d my t] none false false draw)
  | heartbeat (d l t : Nat) (h : t ≥ nd.term) : Outcome st draw nd (.lhb d l t)
      ({ nd with leader := some l, term := t, inProg := false }, [])

theorem step_outcome (s : St) (draw : Nat) (a : Act) : ∃ r,
    step s draw a = (setNode s (actor a) r.1, r.2) ∧ Outcome s.strat draw (getNode s (actor a)) a r := by
  have quiet : ∀ ms, (∀ m ∈ ms, m = .timer ∨
        ∃ d, m = .lhb d (actor a) (getNode s (actor a)).term ∧ (getNode s (actor a)).leader = some (actor a)) →
      ∃ r, (s, ms) = (setNode s (actor a) r.1, r.2) ∧ Outcome s.strat draw (getNode s (actor a)) a r :=
    fun ms h => ⟨_, by rw [setNode_getNode], .quiet a h⟩
  cases a with
  | addMember p m => exact ⟨_, rfl, .member p m⟩
  | timeout p expired =>
    simp only [step]
    split
    · rename_i hlead
      refine quiet _ fun m hm => ?_
      rcases List.mem_append.1 hm with hm | hm
      · obtain ⟨x, _, rfl⟩ := List.mem_map.1 hm
        exact Or.inr ⟨x, rfl, hlead⟩
      · exact Or.inl (List.mem_singleton.1 hm)
    · split
      · exact ⟨_, rfl, .elect p expired⟩
      · exact quiet _ fun m hm => Or.inl (List.mem_singleton.1 hm)
  | challenge d c =>
    simp only [step]
    split
    · split
      · exact ⟨_, rfl, .challenge d c⟩
      · exact quiet _ nofun
    · exact quiet _ nofun
  | suppress d =>
    simp only [step]
    split
    · exact ⟨_, rfl, .calm d⟩
    · exact quiet _ nofun
  | victory d leader => exact ⟨_, rfl, .victory d leader⟩
  | token d init term cands =>
    simp only [step]
    split
    · split
      · rename_i he; subst he; exact ⟨_, rfl, .home init term cands⟩
      · rename_i hne; exact ⟨_, rfl, .forward d init term cands hne⟩
    · exact quiet _ nofun
  | ballot d frm term my =>
    simp only [step]
    split
    · exact ⟨_, rfl, .ballot d frm term my⟩
    · exact quiet _ nofun
  | ballotResp d => exact quiet _ nofun
  | lhb d leader term =>
    simp only [step]
    split
    · rename_i h; exact ⟨_, rfl, .heartbeat d leader term h⟩
    · exact quiet _ nofun

end HappyModel.C12.El
