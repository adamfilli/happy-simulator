import HappyProofs.C14.BTreeOps
/-!
For every order `≥ 3` and every sequence of puts and deletes starting from the empty tree, the
contents of the B-tree (`toList`) are exactly the sorted association list obtained by replaying the
same operations with `upsert` / `eraseKey`; `get`, `scan`, `size` and the "found" flag of `del` are
`lookup`, range filter, `length` and `lookup.isSome` of that list.
-/
namespace HappyModel.C14.BT
open HappyModel.C14

inductive BOp where
  | put (k : Key) (v : Nat)
  | del (k : Key)

def BTree.apply (t : BTree) : BOp → BTree
  | .put k v => t.put k v
  | .del k => (t.del k).1

def mapApply (m : KV) : BOp → KV
  | .put k v => upsert k v m
  | .del k => eraseKey k m

/-- the tree invariant: the root is a bounded search tree that the fuel `depth` traverses completely,
    and `size` counts the stored pairs -/
structure TreeInv (order : Nat) (t : BTree) : Prop where
  ord : t.order = order
  inv : ∃ hi, InvF t.depth 0 hi t.root
  size : t.size = (toListN t.depth t.root).length

theorem treeInv_empty (order : Nat) : TreeInv order { order := order } :=
  ⟨rfl, ⟨0, by simp [InvF, SortedKV, keysIn]⟩, rfl⟩

theorem get_eq (order : Nat) (t : BTree) (h : TreeInv order t) (k : Key) :
    t.get k = leafGet k t.toList := by
  obtain ⟨hi, hinv⟩ := h.inv
  exact getN_spec k t.depth 0 hi t.root hinv

theorem toList_sorted (order : Nat) (t : BTree) (h : TreeInv order t) : SortedKV t.toList := by
  obtain ⟨hi, hinv⟩ := h.inv
  exact invF_sorted t.depth 0 hi t.root hinv

theorem put_spec (order : Nat) (ho : 3 ≤ order) (t : BTree) (h : TreeInv order t) (k : Key) (v : Nat) :
    TreeInv order (t.put k v) ∧ (t.put k v).toList = upsert k v t.toList := by
  obtain ⟨hi, hinv⟩ := h.inv
  have hget := get_eq order t h k
  obtain rfl := h.ord
  -- widen the upper bound so that it covers `k`
  have hinv' : InvF t.depth 0 (max hi (k + 1)) t.root :=
    invF_mono_hi t.depth 0 hi _ t.root hinv (Nat.le_max_left _ _)
  have hk : k < max hi (k + 1) := Nat.lt_of_lt_of_le (Nat.lt_succ_self k) (Nat.le_max_right _ _)
  -- the tree after a full root has been split: same contents, still a search tree
  have hg : ∀ g : BTree, g = (if full t.order t.root then
        { t with root := .inner (split t.root).1 [((split t.root).2.1, (split t.root).2.2)], depth := t.depth + 1 }
      else t) → InvF g.depth 0 (max hi (k + 1)) g.root ∧ toListN g.depth g.root = toListN t.depth t.root ∧
        g.order = t.order := by
    intro g hg
    by_cases hf : full t.order t.root = true
    · rw [if_pos hf] at hg
      subst hg
      obtain ⟨s1, s2, s3, s4, s5⟩ := split_ok t.order ho t.depth 0 _ t.root hinv' hf
      exact ⟨⟨s1, s3, s2, s4⟩, s5, rfl⟩
    · rw [if_neg hf] at hg
      subst hg
      exact ⟨hinv', rfl, rfl⟩
  obtain ⟨g1, g2, g3⟩ := hg _ rfl
  have hspec := insNF_spec t.order ho k v _ 0 _ _ g1 (Nat.zero_le _) hk
  rw [g2] at hspec
  have e4 : (t.put k v).size = if (t.get k).isNone then t.size + 1 else t.size := rfl
  refine ⟨⟨g3, ⟨_, hspec.1⟩, e4.trans ?_⟩, hspec.2⟩
  rw [hget, h.size]
  exact ((congrArg List.length hspec.2).trans (length_upsert k v _)).symm

theorem del_spec (order : Nat) (t : BTree) (h : TreeInv order t) (k : Key) :
    TreeInv order (t.del k).1 ∧ (t.del k).1.toList = eraseKey k t.toList ∧
      (t.del k).2 = (leafGet k t.toList).isSome := by
  obtain ⟨hi, hinv⟩ := h.inv
  have hget := get_eq order t h k
  have hspec := delN_spec k t.depth 0 hi t.root hinv
  have hlen := length_eraseKey k (toListN t.depth t.root)
  by_cases hg : (t.get k).isSome = true
  · have hg' : (leafGet k (toListN t.depth t.root)).isSome = true := by
      have := hget; simp only [BTree.toList] at this; rw [← this]; exact hg
    simp only [BTree.del, hg, if_true]
    refine ⟨⟨h.ord, ⟨hi, hspec.1⟩, ?_⟩, hspec.2, ?_⟩
    · show t.size - 1 = (toListN t.depth (delN t.depth t.root k)).length
      rw [hspec.2, hlen, h.size]
      simp only [hg', if_true]
    · rw [← hget, hg]
  · simp only [BTree.del, hg]
    have hnone : leafGet k t.toList = none := by
      rw [← hget]
      cases hx : t.get k with
      | none => rfl
      | some x => rw [hx] at hg; simp at hg
    refine ⟨h, (eraseKey_of_get_none k _ hnone).symm, ?_⟩
    rw [hnone]; rfl

theorem fold_spec (order : Nat) (ho : 3 ≤ order) :
    ∀ (ops : List BOp) (t : BTree) (m : KV), TreeInv order t → t.toList = m →
      TreeInv order (ops.foldl BTree.apply t) ∧ (ops.foldl BTree.apply t).toList = ops.foldl mapApply m
  | [], _, _, h, hm => ⟨h, hm⟩
  | .put k v :: ops, t, m, h, hm => by
    obtain ⟨h1, h2⟩ := put_spec order ho t h k v
    exact fold_spec order ho ops (t.put k v) (upsert k v m) h1 (hm ▸ h2)
  | .del k :: ops, t, m, h, hm => by
    obtain ⟨h1, h2, _⟩ := del_spec order t h k
    exact fold_spec order ho ops (t.del k).1 (eraseKey k m) h1 (hm ▸ h2)

/-- a concrete run: order 3, nine scrambled puts over eight keys (one overwrites the separator key 50), one delete -/
def demoOps : List BOp :=
  [.put 50 1, .put 20 2, .put 80 3, .put 10 4, .put 60 5, .put 30 6, .put 50 7, .put 70 8, .put 40 9, .del 20]

def SortedKV' (m : KV) : Bool := (m.map (·.1)).zip ((m.map (·.1)).drop 1) |>.all fun p => p.1 < p.2

/-- for every order `≥ 3` and every sequence of puts and deletes starting from the empty tree, the
    in-order contents are strictly sorted by key -/
theorem btree_sorted (order : Nat) (h : 3 ≤ order) (ops : List BOp) :
    SortedKV (ops.foldl BTree.apply { order := order }).toList :=
  toList_sorted order _ (fold_spec order h ops _ _ (treeInv_empty order) rfl).1

example : (demoOps.foldl BTree.apply { order := 3 }).toList =
    [(10, 4), (30, 6), (40, 9), (50, 7), (60, 5), (70, 8), (80, 3)] := by decide +kernel
example : (demoOps.foldl BTree.apply { order := 3 }).depth = 4 := by decide +kernel
example : (demoOps.foldl BTree.apply { order := 3 }).dump =
    "[[[(10=4)|20|()|30|(30=6,40=9)]|50|[(50=7)|60|(60=5,70=8)]]|80|[[(80=3)]]]" := by decide +kernel
example : SortedKV' (demoOps.foldl BTree.apply { order := 3 }).toList = true := by decide +kernel

/-- the tree is a refinement of the sorted association list: same contents, `get` is `lookup`, `scan`
    is the range filter, `size` is the length and `del` reports whether the key was present -/
theorem btree_refines_map (order : Nat) (h : 3 ≤ order) (ops : List BOp) :
    let t := ops.foldl BTree.apply { order := order }
    let m := ops.foldl mapApply []
    t.toList = m ∧ (∀ k, t.get k = m.lookup k) ∧ (∀ lo hi, t.scan lo hi = inRange lo hi m) ∧
    t.size = m.length ∧ (∀ k, (t.del k).2 = (m.lookup k).isSome) := by
  intro t m
  obtain ⟨hinv, hm⟩ := fold_spec order h ops _ _ (treeInv_empty order) rfl
  have hm' : t.toList = m := hm
  have hs : SortedKV t.toList := toList_sorted order t hinv
  refine ⟨hm', ?_, ?_, ?_, ?_⟩
  · intro k
    rw [get_eq order t hinv k, leafGet_eq_lookup k _ hs, hm']
  · intro lo hi
    obtain ⟨b, hb⟩ := hinv.inv
    rw [← hm']
    exact scanN_spec lo hi t.depth 0 b t.root hb
  · rw [← hm']; exact hinv.size
  · intro k
    rw [(del_spec order t hinv k).2.2, leafGet_eq_lookup k _ hs, hm']

example : (demoOps.foldl mapApply []) = [(10, 4), (30, 6), (40, 9), (50, 7), (60, 5), (70, 8), (80, 3)] := by
  decide +kernel
example : (demoOps.foldl BTree.apply { order := 3 }).get 50 = some 7 ∧
    (demoOps.foldl BTree.apply { order := 3 }).get 20 = none ∧
    (demoOps.foldl BTree.apply { order := 3 }).get 80 = some 3 := by decide +kernel
example : (demoOps.foldl BTree.apply { order := 3 }).scan 30 70 = [(30, 6), (40, 9), (50, 7), (60, 5)] ∧
    inRange 30 70 (demoOps.foldl mapApply []) = [(30, 6), (40, 9), (50, 7), (60, 5)] := by decide +kernel
example : (demoOps.foldl BTree.apply { order := 3 }).size = 7 := by decide +kernel
example : ((demoOps.foldl BTree.apply { order := 3 }).del 60).2 = true ∧
    ((demoOps.foldl BTree.apply { order := 3 }).del 20).2 = false ∧
    ((demoOps.foldl BTree.apply { order := 3 }).del 60).1.toList =
      [(10, 4), (30, 6), (40, 9), (50, 7), (70, 8), (80, 3)] := by decide +kernel

example : List.lookup 50 (upsert 50 7 [(20, 2), (50, 1), (80, 3)]) = some 7 ∧
    List.lookup 80 (upsert 50 7 [(20, 2), (50, 1), (80, 3)]) = some 3 ∧
    SortedKV' (upsert 50 7 [(20, 2), (50, 1), (80, 3)]) = true := by decide +kernel
example : List.lookup 50 (eraseKey 50 [(20, 2), (50, 1), (80, 3)]) = none ∧
    List.lookup 80 (eraseKey 50 [(20, 2), (50, 1), (80, 3)]) = some 3 ∧
    SortedKV' (eraseKey 50 [(20, 2), (50, 1), (80, 3)]) = true := by decide +kernel

end HappyModel.C14.BT
