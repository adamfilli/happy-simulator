import HappyProofs.C09.ThreadPoolAgree
/-! ThreadPool: one schedule line — the judge accepts the model's observation and its books move with the model.  A line
other than `fin` asks for one delivery (`mkLine`), so the work is one walk over the leaves of `step` (`Leaf.follows`). -/
namespace HappyModel.C09.TPool

variable {s s' : St} {o : Op} {r : Res} {rd : List (Nat × Nat)} {due : Due}

/-- the counter checks pass on a line that carries the model's counters: with the books read off the model state every
    comparison is `x ≠ x` or a field of the invariants; the two `settled` clauses use `quiet` -/
theorem check_ok (settled : Bool) (t : Nat) (k : Kind) (res : ORes) (item : Option Nat)
    (pt : Nat) (inv : Inv s) (x : Inv2 s) (dk : DueOk s rd due) (hq : settled = true → quiet s = true) :
    (bookOf s rd).check s.n settled (mkObs s t k res item pt) = none := by
  have hb := inv.bound
  have hcons := inv.conserve
  have hrl : rd.length = s.active := by rw [inv.act, ← dk.run, List.length_map]
  have c3 : s.active + (s.n - s.active) = s.n := by omega
  simp only [Book.check, mkObs, bookOf, hrl, ← x.accLen, inv.noLoss,
    ← hcons, c3, Nat.not_lt.mpr hb, ne_eq, not_true_eq_false, or_self, if_false]
  cases settled with
  | false => simp
  | true =>
    have hq' := hq rfl
    simp only [quiet, Bool.and_eq_true, Bool.or_eq_true, List.isEmpty_iff, decide_eq_true_eq] at hq'
    obtain ⟨ht, hqq⟩ := hq'
    rw [ht] at hcons
    rw [if_neg (by simp at hcons ⊢; omega), if_neg]
    rcases hqq with h | h
    · simp [h]
    · simp; omega

/-- the judge accepts the observation of line `l`, which carries the counters of the model's next state, and its
    books are those of that state -/
def Follows (s : St) (rd : List (Nat × Nat)) (due : Due) (l : Line) : Prop :=
  ∃ rd' k res item pt, (bookOf s rd).apply s.qcap (obsOf s due l) = .ok (bookOf (next s due l).1 rd')
    ∧ obsOf s due l = mkObs (next s due l).1 l.time k res item pt
    ∧ DueOk (next s due l).1 rd' (next s due l).2

/-- the schedule line that asks for delivery `o` at clock `t` (`pt`: the processing time a `work` line carries) -/
def mkLine (t pt : Nat) : Op → Line
  | .submit tid => .submit t tid | .notify => .notify t | .poll => .poll t | .deliver => .deliver t
  | .work tid => .work t tid pt | .finish tid => .finish t tid | .disp => .disp t

theorem line_cases (l : Line) : (∃ t, l = .fin t) ∨ ∃ t pt o, l = mkLine t pt o := by
  cases l with
  | fin t => exact .inl ⟨t, rfl⟩
  | submit t tid => exact .inr ⟨t, 0, .submit tid, rfl⟩
  | notify t => exact .inr ⟨t, 0, .notify, rfl⟩
  | poll t => exact .inr ⟨t, 0, .poll, rfl⟩
  | deliver t => exact .inr ⟨t, 0, .deliver, rfl⟩
  | work t tid pt => exact .inr ⟨t, pt, .work tid, rfl⟩
  | finish t tid => exact .inr ⟨t, 0, .finish tid, rfl⟩
  | disp t => exact .inr ⟨t, 0, .disp, rfl⟩

/-- the unused hypothesis names the state `s1` of a leaf that ends in `_poll_if_ready` -/
theorem poll_res_of {s1 : St} (_ : step s o = ((pollIfReady s1).1, (pollIfReady s1).2)) :
    (pollIfReady s1).2 = .idle ∨ (pollIfReady s1).2 = .polled := by
  simp only [pollIfReady]; split; · exact Or.inl rfl
  split
  · exact Or.inl rfl
  · exact Or.inr rfl

theorem Leaf.follows (lf : Leaf s o s' r) (hst : step s o = (s', r)) (t pt : Nat) (inv : Inv s) (x : Inv2 s)
    (dk : DueOk s rd due) (ok : lineOk s due (mkLine t pt o) = true) : Follows s rd due (mkLine t pt o) := by
  cases lf <;> simp only [Follows, mkLine, obsOf, next, lineOk, hst] at ok ⊢
  case bad ho => cases o <;> first | exact absurd rfl (ho _) | simp [hst] at ok
  case full tid hf =>
    refine ⟨rd, _, _, _, _, ?_, rfl, dk.congr rfl rfl⟩
    cases hc : s.qcap with
    | none => simp [TPool.full, hc] at hf
    | some c =>
      have hle : ¬ s.queue.length < c := by simpa [TPool.full, hc] using hf
      simp [Book.apply, mkObs, bookOf, hle]
  case room tid _ =>
    have hnew : tid ∉ s.acceptedL := by simpa using ok
    exact ⟨rd, _, _, _, _, by simp [Book.apply, mkObs, bookOf, hnew, (notify_frame _ _).1], rfl, dk.congr rfl rfl⟩
  case pollNone hp hq | pollSome hp hq =>
    exact ⟨rd, _, _, _, _, by simp [Book.apply, mkObs, bookOf, hq, hp, transit_append, transit], rfl, dk.congr rfl rfl⟩
  case idle hp _ =>
    exact ⟨rd, _, _, _, _, by simp [Book.apply, mkObs, bookOf, hp, transit], rfl, dk.congr rfl rfl⟩
  case forward tk rest hp =>
    have htr := transit_of_core_nil rest (inv.shape.head hp nofun).2.2
    exact ⟨rd, _, _, _, _, by simp [Book.apply, mkObs, bookOf, hp, transit, transit_append, htr], rfl, dk.congr rfl rfl⟩
  case reject hp hnlt => exact absurd ((inv.shape.head hp nofun).2.1 (by simp) (by simp)) hnlt
  case start tid rest hp hlt =>
    have htr : transit rest = [] := by rw [← transit_core, (inv.shape.head hp nofun).2.2]; rfl
    have hord : s.acceptedL = s.started ++ tid :: s.queue := by simpa [hp, transit, htr] using inv.order
    have hnotin : tid ∉ s.started := fun hm =>
      (List.nodup_append.mp (hord ▸ x.nodup)).2.2 tid hm tid List.mem_cons_self rfl
    have hsub : ∀ e ∈ rd, e.1 ∈ s.started := fun e he => x.runSub.subset (dk.run ▸ List.mem_map_of_mem he)
    refine ⟨rd ++ [(tid, t + pt)], _, _, _, _, ?_, rfl, by simp [dk.run], ?_, ?_⟩
    · simp [Book.apply, mkObs, bookOf, hp, transit, htr, hord, hnotin]
    · exact fun y hy => (List.mem_cons.1 hy).elim (fun h => h ▸ List.mem_append_right _ (.head _))
        fun h => List.mem_append_left _ (dk.started y h)
    · intro e he d hd
      rcases List.mem_append.mp he with he' | he' <;> rcases List.mem_cons.mp hd with h | h
      · have h1 : e.1 = tid := congrArg Prod.fst h
        exact absurd (h1 ▸ hsub e he') hnotin
      · exact dk.uniq e he' d h
      · rw [List.mem_singleton.1 he'] at h ⊢; exact congrArg Prod.snd h
      · rw [List.mem_singleton.1 he'] at h; exact absurd (dk.started _ h) hnotin
  case finish tid hrun =>
    obtain ⟨hdue, hnb⟩ : due.contains (tid, t) = true ∧ ¬ (pollIfReady _).2 = .bad := by simpa using ok
    obtain ⟨e, hfind, he1, hel⟩ := find_fst rd tid (dk.run ▸ hrun)
    have he2 : e.2 = t := (dk.uniq e hel t (by rw [he1]; simpa using hdue)).symm
    have hnr : (rd.map (·.1)).Nodup := dk.run ▸ running_nodup s inv x
    simp only [hdue, bookOf_poll, show ((pollIfReady _).2 == Res.bad) = false from by simpa using hnb, Bool.not_true,
      Bool.false_eq_true, if_false, if_true]
    refine ⟨rd.filter (·.1 != tid), _, _, _, _, ?_, rfl,
      DueOk.poll ⟨?_, dk.started, fun e' he' => dk.uniq e' (List.mem_filter.1 he').1⟩⟩
    · simp [Book.apply, mkObs, bookOf, hfind, he2]
    · rw [filter_fst_erase _ _ hnr, dk.run]
  -- `notify`, `disp` and the empty `deliver` with `recheck` end in `_poll_if_ready`: the line only reports whether the
  -- driver polled, and the books do not move
  all_goals
    rcases poll_res_of hst with hr | hr <;> simp only [hr, bookOf_poll] <;>
      exact ⟨rd, _, _, _, _, by simp [Book.apply, mkObs, bookOf, transit, *], rfl, DueOk.poll (dk.congr rfl rfl)⟩

theorem fin_ok (t : Nat) (dk : DueOk s rd due) (ok : lineOk s due (.fin t) = true) (hq : quiet s = true) :
    Follows s rd due (.fin t) := by
  have hrun : s.running = [] := by simpa [lineOk] using ok
  have htr : transit s.pend = [] := by
    simp only [quiet, Bool.and_eq_true, List.isEmpty_iff] at hq
    exact hq.1
  have hbr : rd = [] := by simpa [hrun] using dk.run
  exact ⟨rd, _, _, _, _, by simp [obsOf, next, Book.apply, mkObs, bookOf, htr, hbr], rfl, dk⟩

theorem line_ok (l : Line) (inv : Inv s) (x : Inv2 s) (dk : DueOk s rd due) (ok : lineOk s due l = true)
    (hq : l.isFin = true → quiet s = true) : Follows s rd due l := by
  rcases line_cases l with ⟨t, rfl⟩ | ⟨t, pt, o, rfl⟩
  · exact fin_ok t dk ok (hq rfl)
  · obtain ⟨s', r, hst, lf⟩ := step_cases s o
    exact lf.follows hst t pt inv x dk ok

end HappyModel.C09.TPool
