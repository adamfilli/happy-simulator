import HappyProofs.C17.ChainStep
namespace HappyModel.C17.Chain

def Reflects (s : St) (i k q : Nat) : Prop :=
  ∃ q', q ≤ q' ∧ s.wk q' = k ∧ s.store i k = some (s.wv q')

theorem Core.between {s : St} (hc : Core s) (i k : Nat) (hi : i < s.n) :
    s.aseq (s.n - 1) k ≤ s.aseq i k ∧ s.aseq i k ≤ s.aseq 0 k :=
  ⟨hc.order i (s.n - 1) k (Nat.le_sub_one_of_lt hi) (Nat.sub_lt (Nat.lt_of_lt_of_le Nat.zero_lt_two hc.n2) Nat.one_pos),
    hc.order 0 i k (Nat.zero_le _) hi⟩

theorem Core.store_eq {s : St} (hc : Core s) (i j k : Nat) (h : s.aseq i k = s.aseq j k) :
    s.store i k = s.store j k := by
  obtain ⟨-, a2, a3⟩ := hc.store i k
  obtain ⟨-, b2, b3⟩ := hc.store j k
  by_cases hz : s.aseq i k = 0
  · rw [a2 hz, b2 (h ▸ hz)]
  · rw [(a3 hz).2, (b3 (h ▸ hz)).2, h]

theorem acked_everywhere (s : St) (h : Inv s) (pid : Nat) (p : Proc) (hp : s.procs pid = some p)
    (hk : p.kind = .write) (hf : p.fin = true) (i : Nat) (hi : i < s.n) : Reflects s i p.key p.seq := by
  obtain ⟨w1, -, w3, -, -, -, w7⟩ := (procOK_write hk).1 (h.procs pid p hp)
  have hge : p.seq ≤ s.aseq i p.key :=
    Nat.le_trans (w3 ▸ h.core.ackd p.seq (w7 hf)) (h.core.between i p.key hi).1
  have hne : s.aseq i p.key ≠ 0 := Nat.ne_of_gt (Nat.lt_of_lt_of_le w1 hge)
  exact ⟨s.aseq i p.key, hge, (h.core.store i p.key).2.2 hne⟩

theorem local_read_is_tail_value (s : St) (h : Inv s) (i k : Nat) (hi : i < s.n)
    (hc : i = s.n - 1 ∨ (s.craq = true ∧ s.dirty i k = false)) : s.store i k = s.store (s.n - 1) k := by
  rcases hc with hc | ⟨hc1, hc2⟩
  · rw [hc]
  · exact h.core.store_eq i (s.n - 1) k (Nat.le_antisymm
      (Nat.le_trans (h.core.clean i k hc1 hc2) (h.core.commit i k)) (h.core.between i k hi).1)

theorem caught_up_agree (s : St) (h : Inv s) (k : Nat) (hk : s.aseq (s.n - 1) k = s.aseq 0 k)
    (i : Nat) (hi : i < s.n) : s.store i k = s.store 0 k :=
  h.core.store_eq i 0 k (Nat.le_antisymm (h.core.between i k hi).2 (hk ▸ (h.core.between i k hi).1))

/-- at quiescence nothing carries anything, so every applied write has reached every node -/
theorem quiescent_agree (s : St) (hi : Inv s) (h : FR s) (hq : quiescent s) (i : Nat) (hlt : i < s.n) (k : Nat) :
    s.store i k = s.store 0 k := by
  obtain ⟨-, q2, q3⟩ := hq
  apply caught_up_agree s hi k (Nat.le_antisymm (hi.core.between 0 k (Nat.lt_of_lt_of_le Nat.zero_lt_two hi.core.n2)).1 ?_) i hlt
  by_cases hz : s.aseq 0 k = 0
  · rw [hz]; exact Nat.zero_le _
  · obtain ⟨b1, -, b3⟩ := hi.core.store 0 k
    have hn2 := hi.core.n2
    rcases h.reach (s.aseq 0 k) (Nat.pos_of_ne_zero hz) b1 (s.n - 1) (Nat.le_sub_one_of_lt hn2)
        (Nat.sub_lt (Nat.lt_of_lt_of_le Nat.zero_lt_two hn2) Nat.one_pos)
      with c | ⟨x, mx, c1, -, -, -, c5⟩ | ⟨x, r, c1, -, -, -, -, c6⟩
    · rw [(b3 hz).1] at c; exact c
    · rw [q2 x (h.fresh.lt_nm c1) mx c1] at c5; cases c5
    · rw [q3 x (h.fresh.lt_np c1) r c1] at c6; cases c6

end HappyModel.C17.Chain
