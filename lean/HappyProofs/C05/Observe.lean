import HappyProofs.C05.Coord
import HappyProofs.C05.Tree
import HappyModel.C05.Spec
/-!
The vocabulary both proofs of the main clause share: what an entity observes of a run
(`Part.obsLog`, `parObs`; their `(time, kind)` projections `entProj`; sortedness from `LogInv`), how
a partitioned run starts (`ParInit`), and entity-local handlers (`liftLocal`).
-/
namespace HappyModel.C05

variable {σ : Type}

def obsOf (e : Ev) : Obs := (e.time, e.kind)

/-- what a harness entity `x` observes: (time, kind) of its deliveries, in delivery order -/
def Part.obsLog (p : Part σ) (x : Nat) : List Obs :=
  ((p.log.reverse).filter (fun e => e.tgt == x)).map obsOf

/-- the log entity `x` observes in a partitioned run (only its own partition delivers to it) -/
def parObs (ps : List (Part σ)) (x : Nat) : List Obs :=
  ((ps.flatMap (fun p => p.log.reverse)).filter (fun e => e.tgt == x)).map obsOf

theorem execAll_logInv (h : Handler σ) (c : Cfg) (strict : Bool) (fuel we : Nat) {ps : List (Part σ)}
    (hl : ∀ p ∈ ps, LogInv p) : ∀ p ∈ execAll h c strict fuel we ps, LogInv p :=
  List.forall_mem_map.mpr fun q hq => (hl q hq).run fuel

theorem exchange_logInv (c : Cfg) (ps : List (Part σ)) (hl : ∀ p ∈ ps, LogInv p) :
    ∀ p ∈ exchange c ps, LogInv p :=
  List.forall_mem_map.mpr fun q hq => ⟨(hl q hq).sorted, (hl q hq).leClock⟩

theorem oneWindow_logInv (h : Handler σ) (c : Cfg) (strict : Bool) (fuel we : Nat) (ps : List (Part σ))
    (hl : ∀ p ∈ ps, LogInv p) : ∀ p ∈ oneWindow h c strict fuel we ps, LogInv p :=
  exchange_logInv c _ (execAll_logInv h c strict fuel we hl)

theorem coordRun_logInv (h : Handler σ) (c : Cfg) (strict : Bool) (fuel : Nat) (ws : List Nat) :
    ∀ ps : List (Part σ), (∀ p ∈ ps, LogInv p) → ∀ p ∈ coordRun h c strict fuel ws ps, LogInv p := by
  induction ws with
  | nil => intro ps hl; simpa [coordRun] using hl
  | cons we ws ih =>
    intro ps hl
    simp only [coordRun]
    exact ih _ (oneWindow_logInv h c strict fuel we ps hl)

theorem obsLog_sorted {p : Part σ} (inv : LogInv p) (x : Nat) : TimeSorted (p.obsLog x) := by
  unfold TimeSorted Part.obsLog
  rw [List.pairwise_map]
  apply List.Pairwise.filter
  rw [List.pairwise_reverse]
  exact inv.sorted.imp (fun hab => by simpa [obsOf] using hab)

def entProj (x : Nat) (l : List PEv) : List Obs :=
  (l.filter (fun e => e.tgt == x)).map (fun e => (e.time, e.kind))

theorem upTo_obs (T x : Nat) (l : List Ev) :
    upTo T ((l.filter (fun e => e.tgt == x)).map obsOf)
      = entProj x ((l.map proj).filter (fun e => e.time ≤ T)) := by
  induction l with
  | nil => rfl
  | cons a l ih =>
    unfold upTo entProj at ih ⊢
    by_cases h1 : a.tgt = x <;> by_cases h2 : a.time ≤ T <;>
      simp [h1, h2, obsOf, proj, ih]

theorem entProj_perm {x : Nat} {a b : List PEv} (h : a.Perm b) : (entProj x a).Perm (entProj x b) :=
  (h.filter _).map _

theorem parObs_sorted (c : Cfg) (ps : List (Part σ)) (x : Nat)
    (hn : (ps.map (·.pid)).Nodup) (hown : ∀ p ∈ ps, ∀ d ∈ p.log, Owns c p.pid d)
    (hl : ∀ p ∈ ps, LogInv p) : TimeSorted (parObs ps x) := by
  unfold TimeSorted parObs
  rw [List.pairwise_map, List.filter_flatMap, List.pairwise_flatMap]
  constructor
  · intro p hp
    apply List.Pairwise.filter
    rw [List.pairwise_reverse]
    exact (hl p hp).sorted.imp (fun hab => by simpa [obsOf] using hab)
  · have hp : ps.Pairwise (fun a b => a.pid ≠ b.pid) := by
      have := hn
      unfold List.Nodup at this
      rwa [List.pairwise_map] at this
    refine hp.imp_of_mem ?_
    intro a b ha hb hne u hu v hv
    simp only [List.mem_filter, List.mem_reverse, beq_iff_eq] at hu hv
    have h1 := hown a ha u hu.1
    have h2 := hown b hb v hv.1
    unfold Owns at h1 h2
    rw [hu.2] at h1
    rw [hv.2] at h2
    exact absurd (h1.symm.trans h2) hne

/-- an entity-local stateful handler: `hE` sees and updates only the state of the entity the event
    is addressed to -/
def liftLocal {τ : Type} (hE : τ → Ev → τ × List Emit) : Handler (Nat → τ) :=
  fun st e => (fun x => if x = e.tgt then (hE (st e.tgt) e).1 else st x, (hE (st e.tgt) e).2)

/-- the initial state of a partitioned run of the events `evs` (what `ParallelSimulation.__init__`
    and `schedule(..., partition=…)` build) -/
structure ParInit (c : Cfg) (ids : List Nat) (start : Nat) (evs : List Ev) (ps : List (Part σ)) : Prop where
  pids : ps.map (·.pid) = ids
  clock : ∀ p ∈ ps, p.clock = start
  fresh : ∀ p ∈ ps, p.log = [] ∧ p.tt = [] ∧ p.outbox = [] ∧ p.bad = false
  owned : ∀ p ∈ ps, ∀ e ∈ p.heap, c.part e.tgt = p.pid
  split : (ps.flatMap (·.heap)).Perm evs

theorem ParInit.safe {c : Cfg} {ids : List Nat} {start : Nat} {evs : List Ev} {ps : List (Part σ)}
    (hi : ParInit c ids start evs ps) (hstart : ∀ e ∈ evs, start ≤ e.time) : Safe c start ps :=
  Safe.init c start ps hi.clock
    (fun p hp e he => hstart e (hi.split.mem_iff.mp (List.mem_flatMap.mpr ⟨p, hp, he⟩))) hi.owned
    (fun p hp => (hi.fresh p hp).2)

theorem ParInit.logInv {c : Cfg} {ids : List Nat} {start : Nat} {evs : List Ev} {ps : List (Part σ)}
    (hi : ParInit c ids start evs ps) : ∀ p ∈ ps, LogInv p :=
  fun p hp => .of_log_nil (hi.fresh p hp).1

theorem ParInit.outEmpty {c : Cfg} {ids : List Nat} {start : Nat} {evs : List Ev} {ps : List (Part σ)}
    (hi : ParInit c ids start evs ps) : ∀ p ∈ ps, p.outbox = [] :=
  fun p hp => (hi.fresh p hp).2.2.1

end HappyModel.C05
