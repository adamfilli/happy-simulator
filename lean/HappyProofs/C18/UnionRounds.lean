import HappyProofs.C18.StoreJudgeStep
import HappyProofs.C18.StoreGossip
/-!
The final clause of the store judge as a statement about knowledge (`fullRounds`, `UnionAfter`), for `RoundsFull`
and `TraceFinal`.  `RoundFacts` … `unionAfter_of_roundFacts` are off that path: `RoundFacts` is only a hypothesis, of
`unionAfter_of_roundFacts` and `store_trace_satisfies_spec_given_round_facts`; nothing proves it, and `not_roundFacts` refutes it.
-/
namespace HappyModel.C18

/-- the owed-flow reachability test of the final clause (`full` of `judgeFinal`, a `let` there), on a script -/
def fullRounds (n : Nat) (peers : List (List Nat)) (scriptB : List SStep) : Bool :=
  (List.range n).all fun a => (List.range n).all fun b =>
    (reachB (scriptB.flatMap (owedFlows peers)) [a]).contains b

/-- the knowledge statement behind the final clause, for a phase `scriptB` of rounds that follows a
    state with operations `opsA` and produces `opsB` -/
def UnionAfter (n : Nat) (opsA opsB : List (Nat × XOp)) : Prop :=
  ∀ k a, a < n →
    SameSet ((unionAll n (SpecSys.run {} (keyOps k opsA))).know a)
            ((SpecSys.run {} (keyOps k (opsA ++ opsB))).know a)

theorem inner_know (a : Nat) (l : List Nat) (x r : Nat) :
    ∀ t : SpecSys, x ∈ (l.foldl (fun t b => t.step (.merge a b)) t).know r ↔
      x ∈ t.know r ∨ (r = a ∧ ∃ b ∈ l, x ∈ t.know b) := by
  induction l with
  | nil => intro t; simp
  | cons b bs ih =>
    intro t
    simp only [List.foldl_cons]
    rw [ih]
    simp only [SpecSys.step_merge, SpecSys.mem_know_merge, List.mem_cons]
    constructor
    · rintro ((h | ⟨h1, h2⟩) | ⟨hra, b', hb', (h | ⟨_, h⟩)⟩)
      · exact Or.inl h
      · exact Or.inr ⟨h1, b, Or.inl rfl, h2⟩
      · exact Or.inr ⟨hra, b', Or.inr hb', h⟩
      · exact Or.inr ⟨hra, b, Or.inl rfl, h⟩
    · rintro (h | ⟨hra, b', (hb' | hb'), h⟩)
      · exact Or.inl (Or.inl h)
      · subst hb'; exact Or.inl (Or.inr ⟨hra, h⟩)
      · exact Or.inr ⟨hra, b', hb', Or.inl h⟩

theorem outer_know (l : List Nat) (x : Nat) :
    ∀ (l' : List Nat) (t : SpecSys) (r : Nat),
      x ∈ (l'.foldl (fun t a => l.foldl (fun t b => t.step (.merge a b)) t) t).know r ↔
        x ∈ t.know r ∨ (r ∈ l' ∧ ∃ b ∈ l, x ∈ t.know b) := by
  intro l'
  induction l' with
  | nil => intro t r; simp
  | cons a as ih =>
    intro t r
    simp only [List.foldl_cons]
    rw [ih]
    have hex : (∃ b ∈ l, x ∈ (l.foldl (fun t b => t.step (.merge a b)) t).know b) ↔ ∃ b ∈ l, x ∈ t.know b := by
      constructor
      · rintro ⟨b, hb, h⟩
        rw [inner_know] at h
        rcases h with h | ⟨_, b', hb', h⟩
        · exact ⟨b, hb, h⟩
        · exact ⟨b', hb', h⟩
      · rintro ⟨b, hb, h⟩
        exact ⟨b, hb, (inner_know a l x b t).mpr (Or.inl h)⟩
    rw [hex, inner_know]
    simp only [List.mem_cons]
    constructor
    · rintro ((h | ⟨rfl, h⟩) | ⟨hr, h⟩)
      · exact Or.inl h
      · exact Or.inr ⟨Or.inl rfl, h⟩
      · exact Or.inr ⟨Or.inr hr, h⟩
    · rintro (h | ⟨rfl | hr, h⟩)
      · exact Or.inl (Or.inl h)
      · exact Or.inl (Or.inr ⟨rfl, h⟩)
      · exact Or.inr ⟨hr, h⟩

theorem unionAll_know (n : Nat) (sp : SpecSys) (a x : Nat) (ha : a < n) :
    x ∈ (unionAll n sp).know a ↔ ∃ b, b < n ∧ x ∈ sp.know b := by
  unfold unionAll
  rw [outer_know]
  simp only [List.mem_range]
  constructor
  · rintro (h | ⟨_, b, hb, h⟩)
    · exact ⟨a, ha, h⟩
    · exact ⟨b, hb, h⟩
  · rintro ⟨b, hb, h⟩
    exact Or.inr ⟨ha, b, hb, h⟩

theorem run_peers (kind : Kind) (steps : List SStep) :
    ∀ st : SSt, (SSt.run .repaired kind st steps).p.peers = st.p.peers := by
  induction steps with
  | nil => intro st; rfl
  | cons x xs ih =>
    intro st
    simp only [SSt.run]
    rw [ih]
    exact step_peers kind st.p x

def knowOf (k : Nat) (ops : List (Nat × XOp)) (r : Nat) : List Nat :=
  (SpecSys.run {} (keyOps k ops)).know r

/-- the two facts about one lossless round — what it owes flows (`round_flows`); the stores learn nothing
    that no store knew (`round_learns_only_known`) — asked of EVERY state with `TInv`, reachable or not.
    `TInv` does not contain `Fresh`, and without it the second fact fails: an operation recorded at the
    entity of a message that is not built yet is learnt by the stores in the round that builds it
    (`not_roundFacts`: no `n ≥ 1` satisfies this).  `round_learns_only_known` assumes `Fresh`. -/
def RoundFacts (kind : Kind) (n : Nat) : Prop :=
  ∀ (j : JSt) (st : SSt) (ops : List (Nat × XOp)) (s jx k x : Nat), TInv n j st ops → s < n →
    let ops' := ops ++ (st.p.step .repaired kind (.round s jx)).2
    (∀ S : List Nat, (∀ r ∈ S, x ∈ knowOf k ops r) →
      ∀ r ∈ reachB (owedFlows st.p.peers (.round s jx)) S, x ∈ knowOf k ops' r) ∧
    (∀ a, a < n → x ∈ knowOf k ops' a → ∃ b, b < n ∧ x ∈ knowOf k ops b)

/-- the counterexample: store 0 of `rfP n` holds key 0 and has itself as its peer; `rfOps n` records, besides
    store 0's own increment, an increment at the entity `n` of the first message, which is not built yet -/
def rfOps (n : Nat) : List (Nat × XOp) := [(0, .base (.inc 0 1)), (0, .base (.inc n 7))]
def rfP (n : Nat) : PSt := { n := n, peers := [[0]], held := [((0, 0), 0)] }

theorem rf_tinv (n : Nat) (hn : 1 ≤ n) :
    TInv n { spec := [SpecSys.run {} (keyOps 0 (rfOps n))] } ⟨rfP n, [Sys.run Sys.init (keyOps 0 (rfOps n))]⟩ (rfOps n) := by
  refine ⟨⟨rfl, ⟨by simp [rfP], (fun m hm => nomatch hm)⟩, fun k => ?_, rfl⟩, ?_, (fun m hm => nomatch hm), ?_, fun k => ?_⟩
  · cases k <;> rfl
  · intro e he o ho hlt
    simp only [rfOps, List.mem_cons, List.not_mem_nil, or_false] at he
    rcases he with rfl | rfl
    · cases ho; rfl
    · cases ho; exact absurd hlt (Nat.lt_irrefl _)
  · intro ps hps q hq
    simp only [rfP, List.mem_singleton] at hps
    subst hps
    rw [List.mem_singleton.mp hq]; exact hn
  · cases k <;> rfl

theorem not_roundFacts (kind : Kind) (n : Nat) (hn : 1 ≤ n) : ¬ RoundFacts kind n := by
  intro h
  obtain ⟨_, hB⟩ := h _ _ _ 0 0 0 1 (rf_tinv n hn) hn
  have hstep : ((rfP n).step .repaired kind (.round 0 0)).2 =
      [(0, .base (.merge (n + 0) 0)), (0, .base (.merge 0 (n + 0))), (0, .base (.merge (n + 1) 0)),
       (0, .base (.merge 0 (n + 1)))] := by
    simp [PSt.step, PSt.tickStep, PSt.dlStep, PSt.peersOf, PSt.emit, PSt.keysOf, PSt.mergeKeys, PSt.holds,
      PSt.nidOf, rfP]
  have hne : n ≠ 0 := by omega
  obtain ⟨b, hb, hx⟩ := hB 0 hn (by
    show 1 ∈ knowOf 0 (rfOps n ++ ((rfP n).step .repaired kind (.round 0 0)).2) 0
    rw [hstep]
    simp [knowOf, rfOps, keyOps, XOp.toCOp?, SpecSys.run, SpecSys.step, SpecSys.local, upd, mem_kunion, hne])
  have hbn : b ≠ n := Nat.ne_of_lt hb
  revert hx
  simp [knowOf, rfOps, keyOps, XOp.toCOp?, SpecSys.run, SpecSys.step, SpecSys.local, upd, hbn, hne]

/-- `UnionAfter` from `RoundFacts`: there are no stores, or the hypothesis is false -/
theorem unionAfter_of_roundFacts (kind : Kind) (n : Nat) (peers : List (List Nat))
    (hf : RoundFacts kind n) {jA : JSt} {stA : SSt} {opsA : List (Nat × XOp)}
    (_ : TInv n jA stA opsA) (_ : stA.p.peers = peers) (scriptB : List SStep)
    (_ : ∀ y ∈ scriptB, WFStep n y) (_ : ∀ y ∈ scriptB, isRound y = true)
    (_ : fullRounds n peers scriptB = true) :
    UnionAfter n opsA (PSt.ops .repaired kind stA.p scriptB) := by
  cases n with
  | zero => exact fun _ _ ha => nomatch ha
  | succ n => exact absurd hf (not_roundFacts kind _ (Nat.succ_le_succ (Nat.zero_le n)))

theorem reachB_append (a b : List (Nat × Nat)) : ∀ S, reachB (a ++ b) S = reachB b (reachB a S) := by
  induction a with
  | nil => intro S; rfl
  | cons e es ih => intro S; obtain ⟨d, s⟩ := e; simp [reachB, ih]

/-- what the comment on `reachB` in StoreSpec.lean says ("`reach` of Exchange.lean, restated here").  No proof
    uses it: `reach_learns` follows the merges of one replica system, `rounds_know` the owed flows between stores,
    which are merges only for keys the sender holds -/
theorem reachB_eq_reach : ∀ (ex : List (Nat × Nat)) (S : List Nat), reachB ex S = reach ex S
  | [], _ => rfl
  | (_, _) :: rest, _ => reachB_eq_reach rest _

end HappyModel.C18
