import HappyProofs.C19.AssignLemmas
import HappyProofs.Lib.Lists
import HappyProofs.Lib.Keyed
/-!
Each of `RangeAssignment`, `RoundRobinAssignment`, `StickyAssignment` (`consumer_group.py`) gives every consumer exactly one
entry and puts every partition into exactly one member's list, and no foreign partition anywhere; for sticky after every
call of any sequence of calls on one object (joins, leaves, partition-set changes).
-/
namespace HappyModel.C19

theorem lookup_disjoint {prev : Assignment} (hnd : (flat prev).Nodup) {c c' x : Nat}
    {l l' : List Nat} (hcc : c ≠ c') (h : prev.lookup c = some l) (h' : prev.lookup c' = some l')
    (hx : x ∈ l) (hx' : x ∈ l') : False :=
  pairwise_mem_ne (fun h x hx y hy e => h y hy x hx e.symm) (List.pairwise_flatMap.1 hnd).2 _ (mem_of_lookup h) _ (mem_of_lookup h')
    (fun e => hcc (congrArg Prod.fst e)) x hx x hx' rfl

theorem keys_keepAll (prev : Assignment) (parts scons : List Nat) :
    keys (keepAll prev parts scons) = scons := by
  simp [keys, keepAll, Function.comp_def]

theorem mem_keepFor {prev : Assignment} {parts : List Nat} {c x : Nat}
    (h : x ∈ keepFor prev parts c) : x ∈ parts ∧ ∃ l, prev.lookup c = some l ∧ x ∈ l := by
  unfold keepFor at h
  split at h
  · next l hl =>
    rw [List.mem_filter, List.contains_iff_mem] at h
    exact ⟨h.2, l, hl, h.1⟩
  · simp at h

theorem keepFor_nodup {prev : Assignment} (hnd : (flat prev).Nodup) (parts : List Nat) (c : Nat) :
    (keepFor prev parts c).Nodup := by
  unfold keepFor
  split
  · next l hl => exact List.Sublist.nodup List.filter_sublist ((List.pairwise_flatMap.1 hnd).1 _ (mem_of_lookup hl))
  · exact List.nodup_nil

theorem mem_flat_keepAll {prev : Assignment} {parts scons : List Nat} {x : Nat}
    (h : x ∈ flat (keepAll prev parts scons)) : ∃ c ∈ scons, x ∈ keepFor prev parts c := by
  simp only [flat, keepAll, List.flatMap_map] at h
  exact List.mem_flatMap.mp h

theorem flat_keepAll_sub {prev : Assignment} {parts scons : List Nat} {x : Nat}
    (h : x ∈ flat (keepAll prev parts scons)) : x ∈ parts := by
  obtain ⟨c, _, hc⟩ := mem_flat_keepAll h
  exact (mem_keepFor hc).1

theorem flat_keepAll_nodup {prev : Assignment} (hnd : (flat prev).Nodup) (parts : List Nat)
    {scons : List Nat} (hs : scons.Nodup) : (flat (keepAll prev parts scons)).Nodup := by
  simp only [flat, keepAll, List.flatMap_map]
  refine List.pairwise_flatMap.2 ⟨fun c _ => keepFor_nodup hnd parts c, hs.imp fun {c c'} hcc x hx y hy hxy => ?_⟩
  subst hxy
  obtain ⟨_, l, hl, hxl⟩ := mem_keepFor hx
  obtain ⟨_, l', hl', hxl'⟩ := mem_keepFor hy
  exact lookup_disjoint hnd hcc hl hl' hxl hxl'

theorem keys_sortEach (a : Assignment) : keys (sortEach a) = keys a := by
  simp [keys, sortEach, Function.comp_def]

theorem flat_sortEach (a : Assignment) : (flat (sortEach a)).Perm (flat a) := by
  induction a with
  | nil => exact List.Perm.refl _
  | cons e rest ih =>
    show (sortNat e.2 ++ flat (sortEach rest)).Perm (e.2 ++ flat rest)
    exact List.Perm.append (sortNat_perm _) ih

theorem stickyAssign_deals (prev : Assignment) (parts cons : List Nat) (hne : cons ≠ []) :
    Deals (unassigned parts (keepAll prev parts (sortNat cons))) (keepAll prev parts (sortNat cons))
      (stickyAssign prev parts cons) := by
  simp only [stickyAssign, if_neg hne]
  have hk : keepAll prev parts (sortNat cons) ≠ [] := by
    intro e
    have := keys_keepAll prev parts (sortNat cons)
    rw [e] at this
    exact sortNat_ne_nil hne this.symm
  have hd := distribute_deals (unassigned parts (keepAll prev parts (sortNat cons))) _ hk
  exact ⟨(keys_sortEach _).trans hd.1, (flat_sortEach _).trans hd.2⟩

theorem keys_stickyAssign (prev : Assignment) (parts cons : List Nat) (hne : cons ≠ []) :
    keys (stickyAssign prev parts cons) = sortNat cons :=
  (stickyAssign_deals prev parts cons hne).1.trans (keys_keepAll _ _ _)

theorem flat_stickyAssign (prev : Assignment) (hprev : (flat prev).Nodup) (parts cons : List Nat)
    (hc : cons.Nodup) (hp : parts.Nodup) (hne : cons ≠ []) :
    (flat (stickyAssign prev parts cons)).Perm parts := by
  refine (stickyAssign_deals prev parts cons hne).2.trans ?_
  have hK := flat_keepAll_nodup hprev parts ((sortNat_perm cons).nodup_iff.mpr hc)
  have hmemU : ∀ x, x ∈ unassigned parts (keepAll prev parts (sortNat cons)) ↔
      x ∈ parts ∧ x ∉ flat (keepAll prev parts (sortNat cons)) := by
    intro x
    simp only [unassigned, (sortNat_perm _).mem_iff, List.mem_filter, Bool.not_eq_true', flat]
    rw [← Bool.not_eq_true, List.contains_iff_mem]
  have hU : (unassigned parts (keepAll prev parts (sortNat cons))).Nodup :=
    (sortNat_perm _).nodup_iff.mpr (List.Sublist.nodup List.filter_sublist hp)
  rw [List.perm_ext_iff_of_nodup _ hp]
  · intro x
    rw [List.mem_append, hmemU]
    constructor
    · rintro (h | h)
      · exact h.1
      · exact flat_keepAll_sub h
    · intro h
      by_cases hx : x ∈ flat (keepAll prev parts (sortNat cons))
      · exact Or.inr hx
      · exact Or.inl ⟨h, hx⟩
  · refine List.nodup_append.mpr ⟨hU, hK, ?_⟩
    intro x hx y hy hxy
    subst hxy
    exact ((hmemU x).mp hx).2 hy

/-- `_hc`: only sticky needs it; here (and in `rr_is_partition`) so that the two have the hypotheses of
    `sticky_step_is_partition` and are the first two conjuncts of `assignment_is_partition` -/
theorem range_is_partition (parts cons : List Nat) (_hc : cons.Nodup) (hp : parts.Nodup)
    (hne : cons ≠ []) : isPartition parts cons (rangeAssign parts cons) = true := by
  refine isPartition_of_perm ?_ ?_ hp
  · simp only [rangeAssign, if_neg hne]; exact keys_rangeGo _ _ _ _ _
  · rw [flat_rangeAssign parts cons hne]; exact sortNat_perm parts

example : isPartition [4, 2, 0, 3, 1] [2, 0, 1] (rangeAssign [4, 2, 0, 3, 1] [2, 0, 1]) = true := by
  decide +kernel
example : rangeAssign [0, 1, 2, 3, 4] [1, 0] = [(0, [0, 1, 2]), (1, [3, 4])] := by decide +kernel
example : rangeAssign [4, 2, 0, 3, 1] [2, 0, 1] = [(0, [0, 1]), (1, [2, 3]), (2, [4])] := by decide +kernel
/-- the spec does reject: a dropped partition, a doubly assigned one, a missing member, a foreign partition -/
example : isPartition [0, 1, 2] [0, 1] [(0, [0]), (1, [1])] = false := by decide +kernel
example : isPartition [0, 1, 2] [0, 1] [(0, [0, 1]), (1, [1, 2])] = false := by decide +kernel
example : isPartition [0, 1, 2] [0, 1] [(0, [0, 1, 2])] = false := by decide +kernel
example : isPartition [0, 1] [0, 1] [(0, [0, 1, 7]), (1, [])] = false := by decide +kernel

theorem rr_is_partition (parts cons : List Nat) (_hc : cons.Nodup) (hp : parts.Nodup)
    (hne : cons ≠ []) : isPartition parts cons (rrAssign parts cons) = true := by
  have hd := rrGo_deals _ 0 (sortNat parts) (emptyAssign (sortNat cons))
    (List.length_pos_iff.mpr (sortNat_ne_nil hne)) (by simp [emptyAssign])
  refine isPartition_of_perm ?_ ?_ hp
  · simp only [rrAssign, if_neg hne]
    exact hd.1.trans (keys_emptyAssign _)
  · simp only [rrAssign, if_neg hne]
    refine hd.2.trans ?_
    rw [flat_emptyAssign, List.append_nil]
    exact sortNat_perm parts

example : isPartition [4, 2, 0, 3, 1] [2, 0, 1] (rrAssign [4, 2, 0, 3, 1] [2, 0, 1]) = true := by
  decide +kernel
example : rrAssign [0, 1, 2, 3, 4] [0, 1] = [(0, [0, 2, 4]), (1, [1, 3])] := by decide +kernel
example : rrAssign [4, 2, 0, 3, 1] [2, 0, 1] = [(0, [0, 3]), (1, [1, 4]), (2, [2])] := by decide +kernel

theorem sticky_step_is_partition (prev : Assignment) (hprev : (prev.flatMap (·.2)).Nodup)
    (parts cons : List Nat) (hc : cons.Nodup) (hp : parts.Nodup) (hne : cons ≠ []) :
    isPartition parts cons (stickyAssign prev parts cons) = true :=
  isPartition_of_perm (keys_stickyAssign prev parts cons hne)
    (flat_stickyAssign prev hprev parts cons hc hp hne) hp

example : isPartition [0, 1, 2, 3, 4, 5] [2, 0, 1]
    (stickyAssign [(0, [0, 1, 2, 3]), (1, [])] [0, 1, 2, 3, 4, 5] [2, 0, 1]) = true := by decide +kernel
example : stickyAssign [] [0, 1, 2, 3] [0] = [(0, [0, 1, 2, 3])] := by decide +kernel
/-- a joining member gets nothing when nothing is unassigned: sticky keeps, it does not rebalance -/
example : stickyAssign [(0, [0, 1, 2, 3])] [0, 1, 2, 3] [0, 1] = [(0, [0, 1, 2, 3]), (1, [])] := by
  decide +kernel

/-- what is threaded through a sequence of calls: the remembered lists stay disjoint -/
theorem flat_stickyAssign_nodup (prev : Assignment) (hprev : (flat prev).Nodup)
    (parts cons : List Nat) (hc : cons.Nodup) (hp : parts.Nodup) :
    (flat (stickyAssign prev parts cons)).Nodup := by
  by_cases hne : cons = []
  · simp [stickyAssign, hne]
  · exact (flat_stickyAssign prev hprev parts cons hc hp hne).nodup_iff.mpr hp

theorem callOk_stickyAssign (prev : Assignment) (hprev : (flat prev).Nodup)
    (call : List Nat × List Nat) (hp : call.1.Nodup) (hc : call.2.Nodup) :
    callOk call (stickyAssign prev call.1 call.2) = true := by
  unfold callOk
  by_cases hne : call.2 = []
  · simp [stickyAssign, hne]
  · have : call.2.isEmpty = false := by simpa using hne
    simp only [this]
    exact sticky_step_is_partition prev hprev _ _ hc hp hne

theorem sticky_run_ok (prev : Assignment) (hprev : (flat prev).Nodup)
    (calls : List (List Nat × List Nat)) (h : ∀ c ∈ calls, c.1.Nodup ∧ c.2.Nodup) :
    runOk calls (stickyRun prev calls) = true := by
  induction calls generalizing prev with
  | nil => rfl
  | cons call rest ih =>
    have hc := h call (List.mem_cons_self ..)
    simp only [stickyRun, runOk, Bool.and_eq_true]
    exact ⟨callOk_stickyAssign prev hprev call hc.1 hc.2,
      ih _ (flat_stickyAssign_nodup prev hprev _ _ hc.2 hc.1)
        (fun c hm => h c (List.mem_cons_of_mem _ hm))⟩

theorem sticky_is_partition (calls : List (List Nat × List Nat))
    (h : ∀ c ∈ calls, c.1.Nodup ∧ c.2.Nodup) : runOk calls (stickyRun [] calls) = true :=
  sticky_run_ok [] List.nodup_nil calls h

theorem runOk_at {calls : List (List Nat × List Nat)} {res : List Assignment}
    (h : runOk calls res = true) (i : Nat) {call : List Nat × List Nat} {a : Assignment}
    (hc : calls[i]? = some call) (ha : res[i]? = some a) : callOk call a = true := by
  induction calls generalizing res i with
  | nil => simp at hc
  | cons c cs ih =>
    cases res with
    | nil => simp at ha
    | cons r rs =>
      simp only [runOk, Bool.and_eq_true] at h
      cases i with
      | zero =>
        simp only [List.getElem?_cons_zero, Option.some.injEq] at hc ha
        subst hc; subst ha; exact h.1
      | succ i =>
        simp only [List.getElem?_cons_succ] at hc ha
        exact ih h.2 i hc ha

/-- sticky, the i-th call of any sequence on a fresh object: `{}` for no consumers, else a partition of that call's
    partitions among that call's consumers -/
theorem sticky_is_partition_at (calls : List (List Nat × List Nat))
    (h : ∀ c ∈ calls, c.1.Nodup ∧ c.2.Nodup) (i : Nat) (call : List Nat × List Nat)
    (a : Assignment) (hc : calls[i]? = some call) (ha : (stickyRun [] calls)[i]? = some a) :
    (call.2 = [] → a = []) ∧ (call.2 ≠ [] → isPartition call.1 call.2 a = true) := by
  have := runOk_at (sticky_is_partition calls h) i hc ha
  unfold callOk at this
  constructor
  · intro e; simpa [e] using this
  · intro e
    have he : call.2.isEmpty = false := by simpa using e
    simpa [he] using this

theorem stickyRun_length (prev : Assignment) (calls : List (List Nat × List Nat)) :
    (stickyRun prev calls).length = calls.length := by
  induction calls generalizing prev with
  | nil => rfl
  | cons c cs ih => simp [stickyRun, ih]

/-- first member, join (and two more partitions), join, leave, everyone leaves, rejoin with fewer partitions -/
example : stickyRun [] [([0, 1, 2, 3], [0]), ([0, 1, 2, 3, 4, 5], [1, 0]),
      ([0, 1, 2, 3, 4, 5], [2, 0, 1]), ([0, 1, 2, 3, 4, 5], [2, 1]), ([0, 1, 2], []),
      ([0, 1, 2], [2, 1])] =
    [[(0, [0, 1, 2, 3])], [(0, [0, 1, 2, 3]), (1, [4, 5])],
     [(0, [0, 1, 2, 3]), (1, [4, 5]), (2, [])], [(1, [2, 4, 5]), (2, [0, 1, 3])], [],
     [(1, [0, 2]), (2, [1])]] := by decide +kernel
example : runOk [([0, 1, 2, 3], [0]), ([0, 1, 2, 3, 4, 5], [1, 0]), ([0, 1, 2, 3, 4, 5], [2, 1])]
    (stickyRun [] [([0, 1, 2, 3], [0]), ([0, 1, 2, 3, 4, 5], [1, 0]),
      ([0, 1, 2, 3, 4, 5], [2, 1])]) = true := by decide +kernel

theorem assignment_is_partition :
    (∀ parts cons : List Nat, cons.Nodup → parts.Nodup → cons ≠ [] →
      isPartition parts cons (rangeAssign parts cons) = true) ∧
    (∀ parts cons : List Nat, cons.Nodup → parts.Nodup → cons ≠ [] →
      isPartition parts cons (rrAssign parts cons) = true) ∧
    (∀ calls : List (List Nat × List Nat), (∀ c ∈ calls, c.1.Nodup ∧ c.2.Nodup) →
      runOk calls (stickyRun [] calls) = true) :=
  ⟨range_is_partition, rr_is_partition, sticky_is_partition⟩

end HappyModel.C19
