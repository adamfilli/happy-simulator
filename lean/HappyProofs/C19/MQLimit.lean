import HappyProofs.C19.MQLedger
/-!
# C19 — the redelivery limit moves a message to the dead-letter queue

What the judge `jLimit` remembers can be read off the model state (`limOf`): the deliveries started are `dlog`, its
dead ids are the dead-letter queue, latest first; that a dead-lettered id is not live is in `Inv`.
-/
namespace HappyModel.C19

/-- what `LimSt.next` produces when the counters in the record are those of `s'` -/
def LimSt.after (s' : MQ) (seen dead : List Nat) : LimSt :=
  { seen := seen, dead := dead, D := s'.dlq.length, rej := s'.nRej, F := s'.inflight.length }

theorem LimSt.next_ctr (j : LimSt) (t : Nat) (a : Act) (o : Out) (s' : MQ) (seen dead : List Nat) :
    j.next ⟨t, a, o, s'.ctr⟩ seen dead = LimSt.after s' seen dead := rfl

def limOf (s : MQ) : LimSt := LimSt.after s s.dlog s.dlq.reverse

theorem lim_quiet {maxRe : Nat} {s s' : MQ} (t : Nat) (a : Act) (o : Out)
    (ho : ∀ d k c n, o ≠ .disp d k c n) (ho' : o ≠ .tmoEv) (hl : s'.dlog = s.dlog) (hD : s'.dlq = s.dlq)
    (hR : ∀ k rq, a = .rej k rq → s'.nRej = s.nRej) (hF : ∀ k, a = .tmo k → s'.inflight = s.inflight) :
    (limOf s).check maxRe ⟨t, a, o, s'.ctr⟩ = .ok (limOf s') := by
  unfold LimSt.check
  split
  · next ho2 => exact absurd ho2 (ho _ _ _ _)
  · next ho2 => exact absurd ho2 ho'
  · split
    · next k rq ha => simp [LimSt.next, limOf, LimSt.after, MQ.ctr, hl, hD, hR k rq ha]
    · next k ha => simp [LimSt.next, limOf, LimSt.after, MQ.ctr, hl, hD, hF k ha]
    · simp [LimSt.next, limOf, LimSt.after, MQ.ctr, hl, hD]

theorem lim_check {cfg : Cfg} {t : Nat} {s s' : MQ} {a : Act} {o : Out} (inv : Inv s) (h : Step cfg t s a s' o) :
    (limOf s).check cfg.maxRe ⟨t, a, o, s'.ctr⟩ = .ok (limOf s') := by
  have disp : ∀ (s0 : MQ) (k c : Nat), k ∈ s.live → s0.dlog = s.dlog → s0.dlq = s.dlq → s0.nRej = s.nRej →
      (limOf s).check cfg.maxRe ⟨t, a, .disp s.nd k c (s.cnt k + 1), (s0.dispatch t k c).ctr⟩ =
        .ok (limOf (s0.dispatch t k c)) := fun s0 k c hk h1 h2 h3 => by
    -- a delivery starts: of a live id, so not of a dead one
    have hd : k ∉ s.dlq := fun hd => (inv.dB k hd).2 hk
    simp [LimSt.check, LimSt.next, limOf, LimSt.after, MQ.ctr, MQ.dispatch, hd, h1, h2, h3]
  cases h with
  | stay ho => exact lim_quiet t a o ho.ne.2.1 ho.ne.2.2 rfl rfl (fun _ _ _ => rfl) (fun _ _ => rfl)
  | poll _ hk => exact disp s _ _ hk rfl rfl rfl
  | redeliv hk => exact disp { s with sched := s.sched.erase _ } _ _ hk rfl rfl rfl
  | @requeue k rq hk hrq hc =>
    -- a reject that is counted and asked to requeue below the limit: the judge wants the dead-letter queue unchanged
    have hc' : s.dlog.count k < cfg.maxRe := hc
    simp [LimSt.check, LimSt.next, limOf, LimSt.after, MQ.ctr, MQ.requeue, hrq, hc']
  | @dlq _ _ k ha hk =>
    rcases ha with ⟨rq, rfl, hc, rfl⟩ | ⟨rfl, _, _, hc, rfl⟩
    · -- a counted reject that is not a requeue below the limit: the judge wants the queue one longer; `k` joins `dead`
      have hc' : ¬ (rq = true ∧ s.dlog.count k < cfg.maxRe) := hc
      simp [LimSt.check, LimSt.next, limOf, LimSt.after, MQ.ctr, MQ.toDlq]
      intro h1; exact decide_eq_false fun h2 => hc' ⟨h1, h2⟩
    · -- a timeout that dead-letters: allowed only at the limit
      have hc' : cfg.maxRe ≤ s.dlog.count k := hc
      simp [LimSt.check, LimSt.next, limOf, LimSt.after, MQ.ctr, MQ.toDlq, hc']
  | @tmoEv k hi hs hc =>
    -- a redelivery event is handed out: allowed only below the limit, the dead-letter queue unchanged
    have hc' : s.dlog.count k < cfg.maxRe := hc
    simp [LimSt.check, LimSt.next, limOf, LimSt.after, MQ.ctr, hc']
  | subs ha => rcases ha with ⟨c, rfl⟩ | ⟨c, rfl⟩ <;> refine lim_quiet t _ _ ?_ ?_ rfl rfl ?_ ?_ <;> simp
  | _ => refine lim_quiet t _ _ ?_ ?_ rfl rfl ?_ ?_ <;> simp

theorem redelivery_limit_to_dlq (cfg : Cfg) (hl : cfg.legacy = false) (sched : List (Nat × Act)) :
    jLimit cfg.maxRe {} (MQ.run cfg {} sched) = none :=
  run_view cfg hl (LimSt.check cfg.maxRe) (jLimit cfg.maxRe) (fun _ => rfl) (fun _ _ _ _ h => by simp only [jLimit, h])
    (fun s _ => limOf s) (fun L h => lim_check L.inv h) sched

/-! message 0 is delivered, times out, is redelivered (attempt 2 = the limit), is
rejected with `requeue = true` and goes to the dead-letter queue; a later redelivery event for it
delivers nothing.  The judge is not trivially `none`: told a different limit it objects. -/

def limitDemo : List (Nat × Act) :=
  [(0, .sub 0), (1, .pub), (2, .poll), (3, .tmo 0), (4, .redeliv 0), (5, .rej 0 true), (6, .redeliv 0)]

example : (MQ.exec {lat := 5, maxRe := 2} {} limitDemo).dlq = [0] := by decide +kernel
example : (MQ.run {lat := 5, maxRe := 2} {} limitDemo).map (·.out) =
    [.unit, .pubOk 0, .disp 0 0 0 1, .tmoEv, .disp 1 0 0 2, .unit, .none] := by decide +kernel
example : jLimit 2 {} (MQ.run {lat := 5, maxRe := 2} {} limitDemo) = none := by decide +kernel
example : jLimit 3 {} (MQ.run {lat := 5, maxRe := 2} {} limitDemo) =
    some "mq/limit/dead-lettered-below-limit" := by decide +kernel
example : jLimit 1 {} (MQ.run {lat := 5, maxRe := 2} {} limitDemo) =
    some "mq/limit/requeued-at-limit" := by decide +kernel

end HappyModel.C19
