import HappyProofs.C09.ThreadPoolStep
/-!
`TPool.judge` (`HappyModel/C09/ThreadPool.lean`) is the predicate that judges *implementation* transcripts
(`judge-tpool` mode of the driver).  Here: on the transcript the *model* prints for a schedule
(`TPool.obsTrace`, see `ThreadPoolTrace.lean`), it answers `none`, for every worker count, queue capacity and
every well-formed schedule (`TPool.wf`).

`wf` is a decidable predicate over (initial state, schedule).  Every conjunct is needed — the judge *rejects*
the model's transcript of a schedule that violates it (examples at the end of this file):

* `lineOk` on internal deliveries / `finish`: a delivery that is not the head of `pend`, a `finish` of a task
  that is not running or at a clock value other than start + processing time is not a behaviour of the
  engine; the driver prints `!unexpected` (read back as a bare observation, which the judge rejects) or `res=!bad`
  (which `parseTObs` refuses).
* `lineOk` on `submit`: an *accepted* task id is new (`tpool/task/accepted-twice` otherwise; the judge
  identifies tasks by id).  A dropped id may be submitted again.
* `lineOk` on `fin`: no task is in service (`tpool/task/never-finished`).
* `quiet` after the last line of an instant and at `fin`: the judge's `settled` checks (`tpool/task/lost`,
  `tpool/head/grantable-but-blocked`) state that an instant leaves no task between queue and worker and no
  queued task next to a free worker; the engine delivers every same-instant internal event before the clock
  advances, a schedule that advances the clock earlier is not an engine behaviour.  `drained` (nothing
  pending inside the pool) is the natural sufficient condition, see `wfDrained_wf`.

No monotonicity of the clock values is needed.
-/
namespace HappyModel.C09.TPool

theorem poll_qcap' (s : St) : (pollIfReady s).1.qcap = s.qcap := (poll_params s).2

theorem next_step (s : St) (due : Due) (l : Line) : (next s due l).1 = s ∨ ∃ o, (next s due l).1 = (step s o).1 := by
  cases l with
  | finish t tid =>
    simp only [next]
    split
    · exact .inr ⟨_, rfl⟩
    · exact .inl rfl
  | fin => exact .inl rfl
  | _ => exact .inr ⟨_, rfl⟩

theorem next_params (s : St) (due : Due) (l : Line) : (next s due l).1.n = s.n ∧ (next s due l).1.qcap = s.qcap := by
  rcases next_step s due l with h | ⟨o, h⟩ <;> rw [h]
  · exact ⟨rfl, rfl⟩
  · exact step_params s o

theorem next_inv (s : St) (due : Due) (l : Line) (inv : Inv s) : Inv (next s due l).1 := by
  rcases next_step s due l with h | ⟨o, h⟩ <;> rw [h]
  · exact inv
  · exact step_inv s o inv

theorem obsOf_t (s : St) (due : Due) (l : Line) : (obsOf s due l).t = l.time := by
  cases l <;> simp only [obsOf] <;> repeat' split
  all_goals rfl

theorem obsOf_fin (s : St) (due : Due) (l : Line) : ((obsOf s due l).k == Kind.fin) = l.isFin := by
  cases l <;> simp only [obsOf] <;> repeat' split
  all_goals rfl

theorem settled_eq (s : St) (due : Due) (l : Line) (s' : St) (due' : Due) (ls : List Line) :
    isSettled (obsOf s due l) (obsTrace s' due' ls) = lastOfInstant l ls := by
  cases ls with
  | nil => rfl
  | cons l' ls' => simp only [obsTrace, isSettled, lastOfInstant, obsOf_t, obsOf_fin]

theorem next_inv2 {s : St} {due : Due} (l : Line) (x : Inv2 s) (ok : lineOk s due l = true) : Inv2 (next s due l).1 := by
  rcases line_cases l with ⟨t, rfl⟩ | ⟨t, pt, o, rfl⟩
  · exact x
  · obtain ⟨s', r, hst, lf⟩ := step_cases s o
    have hx : Inv2 s' := lf.inv2 x (by
      rintro tid n rfl rfl
      simpa [mkLine, lineOk, hst] using ok)
    cases o <;> simp only [mkLine, next, hst] <;> first | exact hx | (split <;> first | exact hx | exact x)

theorem judge_model {s : St} {rd : List (Nat × Nat)} {due : Due} (ls : List Line) (inv : Inv s) (x : Inv2 s)
    (dk : DueOk s rd due) (h : wf s due ls = true) : judge s.n s.qcap (bookOf s rd) (obsTrace s due ls) = none := by
  induction ls generalizing s rd due with
  | nil => rfl
  | cons l ls ih =>
    simp only [wf, Bool.and_eq_true] at h
    obtain ⟨⟨hok, hq⟩, hwf⟩ := h
    have hq' : (l.isFin || lastOfInstant l ls) = true → quiet (next s due l).1 = true := by
      intro hs; rw [hs] at hq; simpa using hq
    have hfin : l.isFin = true → quiet s = true := by
      intro hf
      have h1 := hq' (by rw [hf]; rfl)
      cases l <;> first | exact h1 | cases hf
    obtain ⟨rd', k, res, item, pt, hap, hobs, hdk⟩ := line_ok l inv x dk hok hfin
    have inv' := next_inv s due l inv
    have hx := next_inv2 l x hok
    have hcc : (bookOf (next s due l).1 rd').check s.n ((obsOf s due l).k == Kind.fin || isSettled (obsOf s due l)
        (obsTrace (next s due l).1 (next s due l).2 ls)) (obsOf s due l) = none := by
      rw [settled_eq, obsOf_fin, hobs]
      have := check_ok (l.isFin || lastOfInstant l ls) l.time k res item pt inv' hx hdk hq'
      rw [(next_params s due l).1] at this
      exact this
    simp only [obsTrace, judge, hap, hcc]
    have := ih inv' hx hdk hwf
    rw [(next_params s due l).1, (next_params s due l).2] at this
    exact this

theorem quiet_of_drained (s : St) (inv : Inv s) (lv : Live s) (h : drained s = true) : quiet s = true := by
  have hp : s.pend = [] := by simpa [drained] using h
  by_cases hq : s.queue = []
  · simp [quiet, hp, hq, transit]
  · simp [quiet, hp, transit, lv.drained inv hp hq]

theorem next_live (s : St) (due : Due) (l : Line) (inv : Inv s) (lv : Live s) : Live (next s due l).1 := by
  rcases next_step s due l with h | ⟨o, h⟩ <;> rw [h]
  · exact lv
  · exact step_live s o inv lv

/-- `wf` with the stronger, simpler end-of-instant condition -/
def wfDrained (s : St) (due : Due) : List Line → Bool
  | [] => true
  | l :: ls =>
    lineOk s due l
    && (!(l.isFin || lastOfInstant l ls) || drained (next s due l).1)
    && wfDrained (next s due l).1 (next s due l).2 ls

theorem wfDrained_wf (s : St) (due : Due) (ls : List Line) (inv : Inv s) (lv : Live s)
    (h : wfDrained s due ls = true) : wf s due ls = true := by
  induction ls generalizing s due with
  | nil => rfl
  | cons l ls ih =>
    simp only [wfDrained, Bool.and_eq_true] at h
    obtain ⟨⟨hok, hq⟩, hwf⟩ := h
    have inv' := next_inv s due l inv
    have lv' := next_live s due l inv lv
    simp only [wf, Bool.and_eq_true]
    refine ⟨⟨hok, ?_⟩, ih _ _ inv' lv' hwf⟩
    cases hs : (l.isFin || lastOfInstant l ls) with
    | false => rfl
    | true =>
      rw [hs] at hq
      exact quiet_of_drained _ inv' lv' (by simpa using hq)

end HappyModel.C09.TPool

namespace HappyModel.C09
open TPool

/-- **The ThreadPool model's own transcript satisfies the executable Spec predicate.**  For every worker
    count, queue capacity and every well-formed schedule of deliveries (with their clock values and
    processing times, as the driver reads them), `TPool.judge` — the judge of implementation transcripts —
    answers `none` on what `runTPool` prints. -/
theorem tpool_trace_satisfies_spec (n : Nat) (qcap : Option Nat) (ls : List TPool.Line)
    (h : TPool.wf (tpInit n qcap) [] ls = true) :
    TPool.judge n qcap {} (TPool.obsTrace (tpInit n qcap) [] ls) = none :=
  TPool.judge_model (rd := []) ls (TPool.init_inv n qcap) (TPool.init_inv2 n qcap) ⟨rfl, nofun, nofun⟩ h

/-- the same under the simpler hypothesis that every instant (and the run) ends with nothing pending inside the pool -/
theorem tpool_trace_satisfies_spec_drained (n : Nat) (qcap : Option Nat) (ls : List TPool.Line)
    (h : TPool.wfDrained (tpInit n qcap) [] ls = true) :
    TPool.judge n qcap {} (TPool.obsTrace (tpInit n qcap) [] ls) = none :=
  tpool_trace_satisfies_spec n qcap ls
    (TPool.wfDrained_wf _ _ ls (TPool.init_inv n qcap) (by intro hq; exact absurd rfl hq) h)

/-- one worker, queue capacity 1: task 0 starts at once (service 5); at clock 1 task 1 is queued while the
    worker is busy; at clock 2 task 2 is dropped (queue full); at clock 5 task 0 finishes, the completion hook
    polls and task 1 starts; it finishes at 8; the run ends quiescent -/
def tpDemo : List TPool.Line :=
  [.submit 0 0, .notify 0, .poll 0, .deliver 0, .work 0 0 5, .disp 0,
   .submit 1 1, .notify 1, .submit 2 2,
   .finish 5 0, .poll 5, .deliver 5, .work 5 1 3, .disp 5,
   .finish 8 1, .poll 8, .deliver 8, .fin 0]

set_option maxRecDepth 8000 in
example : TPool.wf (tpInit 1 (some 1)) [] tpDemo = true
    ∧ TPool.wfDrained (tpInit 1 (some 1)) [] tpDemo = true
    ∧ TPool.judge 1 (some 1) {} (TPool.obsTrace (tpInit 1 (some 1)) [] tpDemo) = none := by decide +kernel

set_option maxRecDepth 8000 in
example : ((TPool.obsTrace (tpInit 1 (some 1)) [] tpDemo).map (fun o => (o.q, o.aw, o.drop, o.done)))
    = [(1,0,0,0), (1,0,0,0), (0,0,0,0), (0,0,0,0), (0,1,0,0), (0,1,0,0),
       (1,1,0,0), (1,1,0,0), (1,1,1,0),
       (1,0,1,1), (0,0,1,1), (0,0,1,1), (0,1,1,1), (0,1,1,1),
       (0,0,1,2), (0,0,1,2), (0,0,1,2), (0,0,1,2)] := by decide +kernel

/-- a hand-written transcript, one worker: task 0 is started (accepted by the judge up to here: `tpBad.take 6`),
    task 1 is accepted while the worker is busy — and a broken driver polls it out of the queue anyway -/
def tpBad : List TPool.Obs :=
  [{ t := 0, k := .submit 0, res := .accepted, aw := 0, iw := 1, q := 1, acc := 1, cap := true },
   { t := 0, k := .notify, res := .polled, aw := 0, iw := 1, q := 1, acc := 1, cap := true },
   { t := 0, k := .poll, res := .item, item := some 0, aw := 0, iw := 1, q := 0, acc := 1, cap := true },
   { t := 0, k := .deliver, res := .item, item := some 0, aw := 0, iw := 1, q := 0, acc := 1, cap := true },
   { t := 0, k := .work 0, res := .started, pt := 5, aw := 1, iw := 0, q := 0, acc := 1 },
   { t := 0, k := .disp, res := .idle, aw := 1, iw := 0, q := 0, acc := 1 },
   { t := 1, k := .submit 1, res := .accepted, aw := 1, iw := 0, q := 1, acc := 2 },
   { t := 1, k := .notify, res := .polled, aw := 1, iw := 0, q := 1, acc := 2 },
   { t := 1, k := .poll, res := .item, item := some 1, aw := 1, iw := 0, q := 0, acc := 2 },
   { t := 1, k := .deliver, res := .item, item := some 1, aw := 1, iw := 0, q := 0, acc := 2 }]

example : TPool.judge 1 none {} (tpBad.take 6) = none := by decide +kernel

/-- over-admission: a second task is started on the only worker -/
example : TPool.judge 1 none {}
    (tpBad ++ [{ t := 1, k := .work 1, res := .started, pt := 3, aw := 2, iw := 0, q := 0, acc := 2 }])
    = some "tpool/active/exceeds-workers" := by decide +kernel

/-- a lost task: the worker adapter finds no free slot and counts the task as rejected -/
example : TPool.judge 1 none {}
    (tpBad ++ [{ t := 1, k := .work 1, res := .rejected, pt := 3, aw := 1, iw := 0, q := 0, acc := 2, rej := 1 }])
    = some "tpool/task/lost" := by decide +kernel

/-- a leak: the instant ends with a queued task next to a free worker -/
example : TPool.judge 1 none {}
    [{ t := 0, k := .submit 0, res := .accepted, aw := 0, iw := 1, q := 1, acc := 1, cap := true },
     { t := 0, k := .notify, res := .idle, aw := 0, iw := 1, q := 1, acc := 1, cap := true }]
    = some "tpool/head/grantable-but-blocked" := by decide +kernel

/-- the clock advances while the queue's notification is still pending -/
example : TPool.wf (tpInit 1 none) [] [.submit 0 0, .notify 1] = false
    ∧ TPool.judge 1 none {} (TPool.obsTrace (tpInit 1 none) [] [.submit 0 0, .notify 1])
      = some "tpool/head/grantable-but-blocked" := by decide +kernel

/-- the clock advances in the middle of the driver's round trip -/
example : TPool.judge 1 none {} (TPool.obsTrace (tpInit 1 none) []
    [.submit 0 0, .notify 0, .poll 0, .deliver 1, .work 1 0 5, .disp 1]) = some "tpool/task/lost" := by decide +kernel

/-- the same task id accepted twice -/
example : TPool.judge 1 none {} (TPool.obsTrace (tpInit 1 none) [] [.submit 0 0, .submit 0 0])
    = some "tpool/task/accepted-twice" := by decide +kernel

/-- an internal delivery that is not the head of `pend` (`poll 0 !unexpected`) -/
example : TPool.judge 1 none {} (TPool.obsTrace (tpInit 1 none) [] [.poll 0]) = some "tpool/unknown-observation" := by
  decide +kernel

/-- a `finish` at a clock value other than start + processing time (`finish 4 0 !unexpected-time`) -/
example : TPool.judge 1 none {} (TPool.obsTrace (tpInit 1 none) []
    [.submit 0 0, .notify 0, .poll 0, .deliver 0, .work 0 0 5, .disp 0, .finish 4 0]) = some "tpool/task/service-time" := by
  decide +kernel

/-- the run ends while a task is in service -/
example : TPool.judge 1 none {} (TPool.obsTrace (tpInit 1 none) []
    [.submit 0 0, .notify 0, .poll 0, .deliver 0, .work 0 0 5, .disp 0, .fin 0]) = some "tpool/task/never-finished" := by
  decide +kernel

end HappyModel.C09
