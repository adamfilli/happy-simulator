import HappyProofs.C11.ProgAll
/-! The judge's bounded-progress clause (`Spec.stableOk`) accepts the model's own transcript of a
    settled stable run: if only `L` is ever seen leading (`onlyLeader`) and at the end every node's
    `_last_applied` equals the length of `L`'s log (`settledAt`, which `stable_leader_commits` and
    `stable_all_apply` establish index by index under the schedule predicates), then every node has
    applied exactly the accepted commands, in submission order (`stableOk_settled`);
    `stableOk_of_progress`: the same from the schedule predicates, for a run whose last accepted command is the submitted one. -/
namespace HappyModel.C11
open Spec

/-- only `L` is ever seen in the leader role -/
def onlyLeader (L : Nat) (tr : List Frame) : Bool := tr.all (fun fr => (leaderObs fr).all (fun p => p.2 == L))

/-- every node has applied as many entries as `L`'s log holds -/
def settledAt (s : St) (L : Nat) : Bool := (List.range s.n).all (fun i => (s.nodes i).lastApplied == (s.nodes L).log.length)

theorem leaderObs_mem {s : St} {fr : Frame} (hf : fr.views = viewsOf s) {i : Nat} (hi : i < s.n) (hl : (s.nodes i).role = .leader) :
    ((s.nodes i).term, i) ∈ leaderObs fr := by
  unfold leaderObs
  rw [List.mem_filterMap]
  refine ⟨(viewOf (s.nodes i), i), ?_, ?_⟩
  · rw [List.mem_zipIdx_iff_getElem?, hf]; exact getElem?_viewsOf_lt hi
  · have : (viewOf (s.nodes i)).role = .leader := hl
    simp only [this, if_true]; rfl

theorem only_L {s : St} {fr : Frame} {L : Nat} (hf : fr.views = viewsOf s) (ho : (leaderObs fr).all (fun p => p.2 == L) = true)
    {i : Nat} (hi : i < s.n) (hl : (s.nodes i).role = .leader) : i = L := by
  have := leaderObs_mem hf hi hl
  simp only [List.all_eq_true, beq_iff_eq] at ho
  exact ho _ this

/-- what a transcript in which only `L` is ever seen leading gives, without the ledgers (`AeSrc` is the ledger form) -/
def AeL (s : St) (L : Nat) : Prop := ∀ e ∈ s.msgs, ∀ t l pi pt es lc, e.body = .ae t l pi pt es lc → e.src = L

theorem aeL_step (v : Variant) (hr : Rep v) {s : St} {L : Nat} (h : AeL s L) (a : Act)
    (ho : (leaderObs (frameOf (step v s a).1 (step v s a).2 a)).all (fun p => p.2 == L) = true) : AeL (step v s a).1 L := by
  intro e he t l pi pt es lc hb
  by_cases hold : e ∈ s.msgs
  · exact h e hold t l pi pt es lc hb
  · obtain ⟨hlt, hrole, _⟩ := new_ae v hr s a he hold hb
    exact only_L (s := (step v s a).1) rfl ho (by rw [step_n]; exact hlt) hrole

/-- what a frame contributes to `acceptedCmds` -/
def accOf (f : Frame) : List Nat :=
  match f.submit with
  | some (i, _, c) => match f.views[i]? with
    | some w => if w.role = .leader then [c] else []
    | none => []
  | none => []

theorem acceptedCmds_cons (f : Frame) (tr : List Frame) : acceptedCmds (f :: tr) = accOf f ++ acceptedCmds tr := by
  unfold acceptedCmds accOf
  rw [List.filterMap_cons]
  cases hs : f.submit with
  | none => simp
  | some p =>
    obtain ⟨i, f', c⟩ := p
    simp only []
    cases hv : f.views[i]? with
    | none => simp
    | some w =>
      by_cases hw : w.role = .leader <;> simp [hw]

theorem acc_step (v : Variant) (s : St) {L : Nat} (hL : L < s.n) (h : AeL s L) (a : Act)
    (ho : (leaderObs (frameOf (step v s a).1 (step v s a).2 a)).all (fun p => p.2 == L) = true) :
    ∃ ids : List Entry, ((step v s a).1.nodes L).log = (s.nodes L).log ++ ids
      ∧ accOf (frameOf (step v s a).1 (step v s a).2 a) = ids.map (·.cmd.id) := by
  have nosub : submitOf a = none → accOf (frameOf (step v s a).1 (step v s a).2 a) = [] := by
    intro h; simp [accOf, frameOf, h]
  rcases step_cases v s a with hI | ⟨i, src, inp, r, hF⟩
  · refine ⟨[], by rw [hI.nodes, List.append_nil], ?_⟩
    cases a with
    | submit i f c =>
      have hv : (viewsOf (step v s (.submit i f c)).1)[i]? = none := by
        cases h : (viewsOf (step v s (.submit i f c)).1)[i]? with
        | none => rfl
        | some w => exact absurd (hI.n ▸ (getElem?_viewsOf h).1) (hI.sub i f c rfl)
      simp [accOf, frameOf, submitOf, hv]
    | _ => exact nosub rfl
  · have hview : (viewsOf (step v s a).1)[i]? = some (viewOf r.node) := by
      rw [getElem?_viewsOf_lt (by rw [step_n]; exact hF.hi), hF.node, if_pos rfl]
    by_cases happ : ∃ f c, inp = .submit f c ∧ (s.nodes i).role = .leader
    · -- the leader accepts a command
      obtain ⟨f, c, rfl, hl⟩ := happ
      have hr : r = { node := submitNode (s.nodes i) f c } := by
        cases hF.does with
        | same _ hi => exact absurd hl hi
        | append => rfl
      obtain ⟨f', c', hin, ha⟩ := hF.sub.resolve_right fun hn => hn.1 f c rfl
      cases hin
      have hl' : ((step v s a).1.nodes i).role = .leader := by rw [hF.node, if_pos rfl, hr]; exact hl
      obtain rfl : i = L := only_L (s := (step v s a).1) rfl ho (by rw [step_n]; exact hF.hi) hl'
      refine ⟨[⟨(s.nodes i).term, c⟩], by rw [hF.node, if_pos rfl, hr]; rfl, ?_⟩
      have : (viewOf r.node).role = .leader := by rw [hr]; exact hl
      subst ha
      simp [accOf, frameOf, submitOf, hview, this]
    · refine ⟨[], ?_, ?_⟩
      · rw [List.append_nil, hF.node]
        split
        · rename_i hj
          cases hF.does.shape with
          | quiet q => rw [hj]; exact (dv_eq q.hd).1
          | adv y N hy hn _ _ =>
            rw [hn, (advanceCommit_kept ..).log]
            rcases hy with ⟨t, l, pi, pt, es, lc, hin, _⟩ | ⟨_, _, _, _, _, rfl⟩
            · -- an AppendEntries comes from `L`, and no node sends to itself
              obtain ⟨_, e, d⟩ := hF.msg _ hin
              exact absurd ((d.sender.symm.trans (h e d.mem t l pi pt es lc d.body)).trans hj) d.ne
            · rw [hj]; rfl
          | append f c hin hl _ => exact absurd ⟨f, c, hin, hl⟩ happ
        · rfl
      · obtain ⟨f, c, rfl, ha⟩ | ⟨_, hnone⟩ := hF.sub
        · have : ¬ (viewOf r.node).role = .leader := by
            cases hF.does with
            | same _ hi => exact hi
            | append _ _ hl => exact absurd ⟨f, c, rfl, hl⟩ happ
          subst ha
          simp [accOf, frameOf, submitOf, hview, this]
        · exact nosub hnone

/-- along a run on which only `L` is seen leading: `L`'s log only grows, by exactly the accepted commands, and every
    frame shows a prefix of its final log -/
theorem acc_run (v : Variant) (hr : Rep v) {L : Nat} : ∀ (as : List Act) (s : St), Inv s → L < s.n → AeL s L →
    onlyLeader L (framesFrom v s as) = true →
    ∃ ids : List Entry, ((run v s as).nodes L).log = (s.nodes L).log ++ ids
      ∧ acceptedCmds (framesFrom v s as) = ids.map (·.cmd.id)
      ∧ ∀ fr ∈ framesFrom v s as, ∀ w, fr.views[L]? = some w → ∃ K, K <+: ((run v s as).nodes L).log ∧ w.log = K.map oe := by
  intro as
  induction as with
  | nil =>
    intro s _ _ _ _
    exact ⟨[], by simp [run], by simp [framesFrom, acceptedCmds], by intro fr hfr; simp [framesFrom] at hfr⟩
  | cons a as ih =>
    intro s inv hL hae ho
    simp only [framesFrom, onlyLeader, List.all_cons, Bool.and_eq_true] at ho
    obtain ⟨ids0, hlog0, hacc0⟩ := acc_step v s hL hae a ho.1
    obtain ⟨ids1, hlog1, hacc1, hfr1⟩ := ih _ (inv.step hr a) (by rw [step_n]; exact hL) (aeL_step v hr hae a ho.1) ho.2
    refine ⟨ids0 ++ ids1, ?_, ?_, ?_⟩
    · simp only [run]; rw [hlog1, hlog0, List.append_assoc]
    · simp only [framesFrom]; rw [acceptedCmds_cons, hacc0, hacc1, List.map_append]
    · intro fr hfr w hw
      simp only [framesFrom, List.mem_cons] at hfr
      rcases hfr with hfr | hfr
      · rw [hfr] at hw
        have : (viewsOf (step v s a).1)[L]? = some (viewOf ((step v s a).1.nodes L)) :=
          getElem?_viewsOf_lt (by rw [step_n]; exact hL)
        rw [show (frameOf (step v s a).1 (step v s a).2 a).views = viewsOf (step v s a).1 from rfl, this] at hw
        simp only [Option.some.injEq] at hw
        refine ⟨((step v s a).1.nodes L).log, ?_, by rw [← hw]; rfl⟩
        simp only [run]; rw [hlog1]; exact List.prefix_append _ _
      · simp only [run]; exact hfr1 fr hfr w hw

theorem snd_of_idx (l : List (Nat × Nat)) (ids : List Nat) (h1 : l.map (·.1) = List.range' 1 ids.length)
    (h2 : ∀ q ∈ l, ids[q.1 - 1]? = some q.2) : l.map (·.2) = ids := by
  have hlen : l.length = ids.length := by
    have := congrArg List.length h1
    simpa using this
  apply List.ext_getElem?
  intro r
  by_cases hr : r < l.length
  · have hq : l[r] ∈ l := List.getElem_mem hr
    have hfst : (l[r]).1 = 1 + r := by
      have h3 : (l.map (·.1))[r]? = some (l[r]).1 := by rw [List.getElem?_map, List.getElem?_eq_getElem hr]; rfl
      rw [h1, List.getElem?_range' (by omega)] at h3
      simp only [Nat.one_mul, Option.some.injEq] at h3
      exact h3.symm
    have := h2 _ hq
    rw [hfst] at this
    rw [List.getElem?_map, List.getElem?_eq_getElem hr]
    simp only [Option.map_some]
    rw [← this]; congr 1; omega
  · rw [List.getElem?_eq_none (by rw [List.length_map]; omega), List.getElem?_eq_none (by omega)]

/-- THE JUDGE ACCEPTS A SETTLED STABLE RUN.  For every run of the model in which only `L` is ever seen leading and
    at whose end every node's `_last_applied` equals the length of `L`'s log, `Spec.stableOk` holds of the run's frames:
    every node has applied exactly the accepted commands, in submission order. -/
theorem stableOk_settled (v : Variant) (hr : Rep v) (n : Nat) (as : List Act) (L : Nat) (hL : L < n)
    (h1 : onlyLeader L (frames v n as) = true) (h2 : settledAt (run v (init n) as) L = true) :
    stableOk (frames v n as) = true := by
  have hn : (run v (init n) as).n = n := by rw [run_n]; rfl
  simp only [frames, onlyLeader, List.all_cons, Bool.and_eq_true] at h1
  obtain ⟨ids, hlog, hacc, hfr⟩ := acc_run v hr as (init n) (inv_init n) hL (by intro e he; simp [init] at he)
    (by show onlyLeader L (framesFrom v (init n) as) = true; exact h1.2)
  change ((run v (init n) as).nodes L).log = ((init n).nodes L).log ++ ids at hlog
  change acceptedCmds (framesFrom v (init n) as) = _ at hacc
  change ∀ fr ∈ framesFrom v (init n) as, ∀ w, fr.views[L]? = some w →
    ∃ K, K <+: ((run v (init n) as).nodes L).log ∧ w.log = K.map oe at hfr
  have hlog' : ((run v (init n) as).nodes L).log = ids := by rw [hlog]; simp [init, initNode]
  have hset : ∀ i, i < n → ((run v (init n) as).nodes i).lastApplied = ids.length := by
    intro i hi
    simp only [settledAt, List.all_eq_true, beq_iff_eq, List.mem_range] at h2
    rw [h2 i (by rw [hn]; exact hi), hlog']
  unfold stableOk
  simp only [List.all_eq_true, beq_iff_eq, List.mem_range]
  intro i hi
  have hin : i < n := by simpa [nNodes, frames, viewsOf, init] using hi
  have hacc' : acceptedCmds (frames v n as) = ids.map (·.cmd.id) := by
    unfold frames; rw [acceptedCmds_cons, hacc]; rfl
  rw [hacc']
  have happs : appsOf (frames v n as) i = appsOf (framesFrom v (init n) as) i := by
    unfold frames; rw [appsOf_cons]; rfl
  rw [happs]
  apply snd_of_idx
  · have := run_apps_idx v as (init n) (caughtUp_init n) i
    rw [hset i hin] at this
    simpa [init, initNode] using this
  · intro q hq
    -- the index is within 1 … `ids.length`
    have hqi : q.1 ∈ (appsOf (framesFrom v (init n) as) i).map (·.1) := List.mem_map.mpr ⟨q, hq, rfl⟩
    have hidx := run_apps_idx v as (init n) (caughtUp_init n) i
    rw [hset i hin] at hidx
    rw [hidx, List.mem_range'_1] at hqi
    have h0 : ((init n).nodes i).lastApplied = 0 := by simp [init, initNode]
    rw [h0] at hqi
    -- node i's report, and L's report for the same index
    obtain ⟨fr, hfr0, hin0⟩ := appsOf_mem hq
    have hmem_i : (i, q.1, q.2) ∈ allApps (frames v n as) := by
      unfold allApps frames
      exact List.mem_flatMap.mpr ⟨fr, List.mem_cons_of_mem _ hfr0, hin0⟩
    obtain ⟨y, hy⟩ := applied_reported v n as L q.1 (by omega) (by rw [hset L hL]; omega)
    have hagree := applyAgree_of (state_machine_safety v hr n as).2 hmem_i hy rfl
    -- L's report is entry q.1 of the log it showed then, a prefix of its final log
    obtain ⟨fr', hfr', hin'⟩ := List.mem_flatMap.mp hy
    obtain ⟨w, hv, hal'⟩ := appliesLog_of (apply_from_log v n as) hfr' hin'
    simp only [frames, List.mem_cons] at hfr'
    rcases hfr' with hfr' | hfr'
    · rw [hfr'] at hin'; cases hin'
    · obtain ⟨K, hK, hwK⟩ := hfr fr' hfr' w hv
      rw [hwK, List.getElem?_map] at hal'
      cases hKe : K[q.1 - 1]? with
      | none => rw [hKe] at hal'; cases hal'
      | some e =>
        rw [hKe] at hal'
        simp only [Option.map_some, oe, Option.some.injEq] at hal'
        have hLe : ids[q.1 - 1]? = some e := by
          rw [← hlog']
          obtain ⟨t', ht'⟩ := hK
          rw [← ht', List.getElem?_append_left (List.getElem?_eq_some_iff.mp hKe).1]
          exact hKe
        rw [List.getElem?_map, hLe]
        simp only [Option.map_some, Option.some.injEq]
        rw [hagree]; exact hal'

theorem stableRun_sub {v : Variant} {t : Nat} {ns ms : List Nat} (hsub : ∀ i ∈ ms, i ∈ ns) : ∀ (as : List Act) (s : St),
    stableRun v t ns s as = true → stableRun v t ms s as = true := by
  have here : ∀ s, termsLe s t ns = true → termsLe s t ms = true := by
    intro s h
    simp only [termsLe, List.all_eq_true, decide_eq_true_eq] at h ⊢
    exact fun i hi => h i (hsub i hi)
  intro as
  induction as with
  | nil => intro s h; exact here s h
  | cons a as ih =>
    intro s h
    simp only [stableRun, Bool.and_eq_true] at h ⊢
    exact ⟨here s h.1, ih _ h.2⟩

theorem stableRun_end {v : Variant} {t : Nat} {ns : List Nat} : ∀ (as : List Act) (s : St),
    stableRun v t ns s as = true → termsLe (run v s as) t ns = true := by
  intro as
  induction as with
  | nil => intro s h; exact h
  | cons a as ih => intro s h; exact ih _ (stableRun_cons h)

theorem est_run (v : Variant) (hr : Rep v) {L t : Nat} : ∀ (as : List Act) (s : St), Inv s → Est s L t →
    stableRun v t [L] s as = true → Est (run v s as) L t := by
  intro as
  induction as with
  | nil => intro s _ h _; exact h
  | cons a as ih =>
    intro s inv hest hst
    have hst' := stableRun_cons hst
    exact ih _ (inv.step hr a) (est_step ⟨hr, inv, hest, termsLe_mem (stableRun_here hst') (by simp)⟩) hst'

theorem commit_le_leader {s : St} (hs : Inv s) {L i : Nat} (hl : (s.nodes L).role = .leader)
    (hle : (s.nodes i).term ≤ (s.nodes L).term) : (s.nodes i).commit ≤ (s.nodes L).log.length := by
  obtain ⟨g, rfl, inv, _⟩ := hs.ghost
  have := ((inv.hi.n_cn i).in_leader_node inv.li inv.hi hl hle).length_le
  rw [List.length_take] at this
  have := inv.hi.n_cl i
  omega

/-- FROM THE SCHEDULE TO THE JUDGE.  A run in which only `L` is ever seen leading, one command is submitted to `L` once it is
    established with every other node in sync, no node ever sees a higher term, every other node is handed the entry
    and the commit notice and `L` their replies (`StableFair` and `toldRun` for all peers), and `L` accepts nothing after
    it: the judge's bounded-progress clause holds of the run's transcript. -/
theorem stableOk_of_progress (v : Variant) (hr : Rep v) (n : Nat) (pre : List Act) (L t f : Nat) (c : Cmd) (as : List Act)
    (h : StableFair v n pre L t f c (peers n L) as)
    (htold : ∀ p ∈ peers n L, toldRun v L t (nextIdx (run v (init n) pre) L) p (run v (init n) pre) (.submit L f c :: as) = true)
    (hone : onlyLeader L (frames v n (pre ++ .submit L f c :: as)) = true)
    (hlast : ((run v (init n) (pre ++ .submit L f c :: as)).nodes L).log.length = nextIdx (run v (init n) pre) L) :
    stableOk (frames v n (pre ++ .submit L f c :: as)) = true := by
  have est0 := established_iff.mp h.est
  have hn0 : (run v (init n) pre).n = n := by rw [run_n]; rfl
  have hLn : L < n := by rw [← hn0]; exact est0.lt
  apply stableOk_settled v hr n _ L hLn hone
  obtain ⟨hge, _⟩ := stable_all_apply v hr n pre L t f c (peers n L) (peers n L) as h h.sync
    (fun p hp => stableRun_sub (by intro i hi; simp only [List.mem_cons, List.not_mem_nil, or_false] at hi ⊢
                                   rcases hi with hi | hi
                                   · exact Or.inl hi
                                   · exact Or.inr (hi ▸ hp)) _ _ h.stable) htold
  have invE := reachable v hr n (pre ++ .submit L f c :: as)
  have estE : Est (run v (init n) (pre ++ .submit L f c :: as)) L t := by
    rw [run_append]
    exact est_run v hr (.submit L f c :: as) _ (reachable v hr n pre) est0
      (stableRun_sub (by intro i hi; simp only [List.mem_singleton] at hi; rw [hi]; simp) _ _ h.stable)
  have htE := stableRun_end _ _ h.stable
  rw [← run_append] at htE
  simp only [settledAt, List.all_eq_true, beq_iff_eq, List.mem_range]
  intro i hi
  rw [run_n] at hi
  change i < n at hi
  have hiL : i ∈ L :: peers n L := by
    by_cases hc : i = L
    · rw [hc]; simp
    · exact List.mem_cons_of_mem _ (mem_peers.mpr ⟨hi, hc⟩)
  have h1 := hge i hiL
  have h2 : ((run v (init n) (pre ++ .submit L f c :: as)).nodes i).lastApplied ≤ ((run v (init n) (pre ++ .submit L f c :: as)).nodes L).log.length := by
    have hla := invE.la i
    have hcm := commit_le_leader invE (L := L) (i := i) estE.role (by rw [estE.term]; exact termsLe_mem htE hiL)
    omega
  omega

end HappyModel.C11
