import HappyModel.C18.Clocks
/-!
Models of `happysimulator/components/crdt/`: `GCounter`, `PNCounter`, `LWWRegister`, `ORSet`
(with tombstones, i.e. the code after the `fix:` commit), as pure values with the same
operations as the Python classes, and replica *systems* (`Nat → replica`) driven by operation lists.
Node ids are natural numbers (the harness uses "0".."9", whose string order is the numeric one).
-/
namespace HappyModel.C18

/-! ### G-counter / PN-counter -/

structure PN where
  p : Vec := []
  n : Vec := []
deriving Repr, DecidableEq

def PN.value (c : PN) : Int := (Vec.sum c.p : Int) - (Vec.sum c.n : Int)
def PN.merge (a b : PN) : PN := ⟨Vec.vmax a.p b.p, Vec.vmax a.n b.n⟩
def PN.inc (c : PN) (node k : Nat) : PN := { c with p := Vec.addAt c.p node k }
def PN.dec (c : PN) (node k : Nat) : PN := { c with n := Vec.addAt c.n node k }

/-! ### LWW register -/

structure Ts where
  p : Nat
  l : Nat
  node : Nat
deriving Repr, DecidableEq

/-- `HLCTimestamp.__lt__`: lexicographic on (physical_ns, logical, node_id) -/
def Ts.lt (a b : Ts) : Bool :=
  a.p < b.p || (a.p == b.p && (a.l < b.l || (a.l == b.l && a.node < b.node)))

structure LWW where
  cur : Option (Ts × Nat) := none
deriving Repr, DecidableEq

/-- `LWWRegister.set` -/
def LWW.set (r : LWW) (v : Nat) (t : Ts) : LWW :=
  match r.cur with
  | none => ⟨some (t, v)⟩
  | some (t0, _) => if Ts.lt t0 t then ⟨some (t, v)⟩ else r

/-- `LWWRegister.merge` -/
def LWW.merge (a b : LWW) : LWW :=
  match b.cur with
  | none => a
  | some (t, v) => a.set v t

/-! ### OR-set with tombstones -/

structure Tag where
  node : Nat
  seq : Nat
deriving Repr, DecidableEq

def lunion {α} [DecidableEq α] (a b : List α) : List α := a ++ b.filter (fun x => !a.contains x)

theorem mem_lunion {α} [DecidableEq α] (a b : List α) (x : α) : x ∈ lunion a b ↔ x ∈ a ∨ x ∈ b :=
  mem_append_filter_not_contains a b x

structure ORSet where
  seq : Nat := 0
  ents : List (Nat × Tag) := []     -- live (element, tag) pairs
  tomb : List Tag := []             -- tags observed by a remove
deriving Repr, DecidableEq

/-- `ORSet.add` at replica `node` -/
def ORSet.add (s : ORSet) (node x : Nat) : ORSet :=
  { s with seq := s.seq + 1, ents := lunion s.ents [(x, ⟨node, s.seq⟩)] }

/-- `ORSet.remove` -/
def ORSet.remove (s : ORSet) (x : Nat) : ORSet :=
  { s with tomb := lunion s.tomb ((s.ents.filter (fun e => e.1 == x)).map (·.2)),
           ents := s.ents.filter (fun e => !(e.1 == x)) }

/-- `ORSet.merge` -/
def ORSet.merge (a b : ORSet) : ORSet :=
  let tomb := lunion a.tomb b.tomb
  { a with tomb := tomb, ents := (lunion a.ents b.ents).filter (fun e => !tomb.contains e.2) }

def ORSet.has (s : ORSet) (x : Nat) : Bool := s.ents.any (fun e => e.1 == x)

/-! ### Replica systems -/

inductive COp
  | inc (r k : Nat)              -- PNCounter.increment(k) at replica r (k ≥ 1)
  | dec (r k : Nat)
  | lset (r v p l nd : Nat)      -- LWWRegister.set(v, HLCTimestamp(p, l, nd)) at replica r
  | oadd (r x : Nat)
  | orem (r x : Nat)
  | merge (dst src : Nat)        -- dst.merge(src) for all three CRDTs of the replicas
deriving Repr, DecidableEq

structure Rep where
  pn : PN := {}
  lww : LWW := {}
  os : ORSet := {}
deriving Repr, DecidableEq

/-- replicas by index; a structure (not a bare function) so that a step is evaluated once, when it
    is taken, and not again at every lookup -/
structure Sys where
  rep : Nat → Rep := fun _ => {}

@[noinline] def Sys.set (s : Sys) (r : Nat) (x : Rep) : Sys := ⟨upd s.rep r x⟩

def Sys.step (s : Sys) : COp → Sys
  | .inc r k => if k = 0 then s else s.set r { s.rep r with pn := (s.rep r).pn.inc r k }
  | .dec r k => if k = 0 then s else s.set r { s.rep r with pn := (s.rep r).pn.dec r k }
  | .lset r v p l nd => s.set r { s.rep r with lww := (s.rep r).lww.set v ⟨p, l, nd⟩ }
  | .oadd r x => s.set r { s.rep r with os := (s.rep r).os.add r x }
  | .orem r x => s.set r { s.rep r with os := (s.rep r).os.remove x }
  | .merge d sr =>
    s.set d { pn := (s.rep d).pn.merge (s.rep sr).pn, lww := (s.rep d).lww.merge (s.rep sr).lww,
              os := (s.rep d).os.merge (s.rep sr).os }

def Sys.run (s : Sys) : List COp → Sys
  | [] => s
  | o :: os => Sys.run (s.step o) os

def Sys.init : Sys := {}

end HappyModel.C18
