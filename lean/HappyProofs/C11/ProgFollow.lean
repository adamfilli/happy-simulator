import HappyProofs.C11.ProgStep
/-! A follower in sync with a stable leader stays in sync (`sync_step`): its log only ever changes
    to a longer prefix of the leader's log, the leader's `next_index` for it never overshoots, and
    every AppendEntries / acknowledgement exchanged between them refers to a prefix it holds. -/
namespace HappyModel.C11
open Spec

theorem fstep_log {v : Variant} {s : St} {a : Act} {L t p : Nat} (S : Stable v s a L t)
    (hpne : p ≠ L) (hpt : (s.nodes p).term = t) (hle : ((step v s a).1.nodes p).term ≤ t) :
    ((step v s a).1.nodes p).term = t ∧
    (((step v s a).1.nodes p).log = (s.nodes p).log
      ∨ ∃ X, X <+: (s.nodes L).log ∧ ((step v s a).1.nodes p).log = X ∧ ¬ X <+: (s.nodes p).log) := by
  obtain ⟨g, rfl, all, _⟩ := S.inv.ghost
  refine gstep_nodes v S.rep g all a (R := fun p x y => p ≠ L → x.term = t → y.term ≤ t →
    y.term = t ∧ (y.log = x.log ∨ ∃ X, X <+: (g.s.nodes L).log ∧ y.log = X ∧ ¬ X <+: x.log))
    (fun _ _ _ h _ => ⟨h, Or.inl rfl⟩) (fun {p} _ r _ c hpne hpt hle => ?_) p hpne hpt hle
  have hterm : r.node.term = t := by have := c.term_le; omega
  refine ⟨hterm, ?_⟩
  rcases c.log_cases with h | ⟨k, _, hl, _⟩ | ⟨X, hX, h1, h2⟩
  · exact Or.inl h
  · exfalso
    have h1 := all.ei.l0 p hl
    have h2 := all.ei.l0 L S.est.role
    rw [hpt] at h1; rw [S.est.term] at h2
    exact hpne (leaders_unique all.ei h1 h2)
  · exact Or.inr ⟨X, S.est.ll_prefix all (hterm ▸ hX), h1, h2⟩

theorem agree_step {v : Variant} {s : St} {a : Act} {L t p : Nat} (S : Stable v s a L t)
    (hpne : p ≠ L) (hpt : (s.nodes p).term = t) (hleP : ((step v s a).1.nodes p).term ≤ t) {k : Nat}
    (h : Agree (s.nodes L).log (s.nodes p).log k) :
    Agree ((step v s a).1.nodes L).log ((step v s a).1.nodes p).log k := by
  have hp := S.post
  obtain ⟨_, hlog⟩ := fstep_log S hpne hpt hleP
  rcases hlog with h1 | ⟨X, hXL, h1, h2⟩
  · rw [h1]; exact h.left hp.log
  · rw [h1]; exact (h.replace hXL h2).left hp.log

theorem new_ar_sync {v : Variant} {s : St} {a : Act} {L t p : Nat} (S : Stable v s a L t)
    (hpne : p ≠ L) {e : Env} (he : e ∈ (step v s a).1.msgs) (hnew : e ∉ s.msgs) {m : Nat} (hb : e.body = .ar t true p m) :
    Agree ((step v s a).1.nodes L).log ((step v s a).1.nodes p).log m := by
  obtain ⟨g, rfl, all, _⟩ := S.inv.ghost
  rcases gstep_case v S.rep g all a with ⟨_, hm, _, _⟩ | ⟨i, inp, r, cr, _, hs, c⟩
  · exact absurd (hm e he) hnew
  · rw [hs] at he ⊢
    rcases applyHR_msgs he with h0 | ⟨_, hsend, _⟩
    · exact absurd h0 hnew
    · rw [hb] at hsend
      obtain ⟨hf, _, X, hX, hm, hpre⟩ := c.ar_sent hsend
      subst hf
      rw [applyHR_node, applyHR_node, if_pos rfl, if_neg hpne.symm]
      have hXL : X <+: (g.s.nodes L).log := S.est.ll_prefix all hX
      refine ⟨by rw [hm]; exact hXL.length_le, ?_⟩
      rw [hm, ← List.prefix_iff_eq_take.mp hXL]; exact hpre

theorem new_ae_sync {v : Variant} {s : St} {a : Act} {L t : Nat} (S : Stable v s a L t)
    {e : Env} (he : e ∈ (step v s a).1.msgs) (hnew : e ∉ s.msgs) {l pi pt lc : Nat} {es : List Entry}
    (hb : e.body = .ae t l pi pt es lc) :
    e.src = L ∧ e.body = aeFor ((step v s a).1.nodes L) L e.dst := by
  have hsrc : e.src = L := (S.inv.step S.rep a).ae_src (est_step S) he hb
  refine ⟨hsrc, ?_⟩
  have fromL : ∀ r, step v s a = applyHR s L r → (e.dst, e.body) ∈ r.sends := fun r hs =>
    ((applyHR_msgs (hs ▸ he)).resolve_left hnew).2.1
  cases lstep S with
  | away _ hs =>
    rcases hs e he with h | h
    · exact absurd h hnew
    · exact absurd hsrc h
  | same r hs h =>
    exfalso
    rcases h.snd _ _ (fromL _ hs) with ⟨_, _, _, h'⟩ | ⟨_, _, _, h'⟩ <;> rw [hb] at h' <;> cases h'
  | hb hs =>
    rw [step_nodeL hs]
    exact mem_sendAEs (fromL _ hs)
  | submit f c hs => have := fromL _ hs; simp at this
  | ack _ e' _ _ _ _ _ f m _ hs =>
    have := fromL _ hs
    rw [(tryAdvance_kept ..).sends] at this; cases this
  | nack f r hs hn snd =>
    rw [step_nodeL hs, hn]
    have := fromL _ hs
    rcases snd with snd | snd
    · rw [snd] at this
      simp only [List.mem_singleton, Prod.mk.injEq] at this
      rw [this.2, this.1]
    · rw [snd] at this; cases this

theorem nx_step {v : Variant} {s : St} {a : Act} {L t p : Nat} (S : Stable v s a L t) :
    ((step v s a).1.nodes L).nextIndex.getD p 1 - 1 ≤ (s.nodes L).nextIndex.getD p 1 - 1
    ∨ ∃ e ∈ s.msgs, ∃ m, e.body = .ar t true p m ∧ ((step v s a).1.nodes L).nextIndex.getD p 1 - 1 = m := by
  cases lstep S with
  | away hn => rw [hn]; exact Or.inl (Nat.le_refl _)
  | same r hs h => rw [step_nodeL hs, (lsame_node h).ni]; exact Or.inl (Nat.le_refl _)
  | hb hs => rw [step_nodeL hs]; exact Or.inl (Nat.le_refl _)
  | submit f c hs => rw [step_nodeL hs]; exact Or.inl (Nat.le_refl _)
  | ack _ e' _ _ _ he' _ f m hb hs =>
    have hni : ((step v s a).1.nodes L).nextIndex = (s.nodes L).nextIndex.set f (m + 1) := by
      rw [step_nodeL hs]; exact (tryAdvance_kept ..).fr.ni
    rw [hni, getD_set]
    split
    · rename_i hc
      right
      rw [S.est.term, ← hc.1] at hb
      exact ⟨e', he', m, hb, by omega⟩
    · exact Or.inl (Nat.le_refl _)
  | nack f r hs hn =>
    have hni : ((step v s a).1.nodes L).nextIndex
        = (s.nodes L).nextIndex.set f (max 1 ((s.nodes L).nextIndex.getD f 1 - 1)) := by
      rw [step_nodeL hs, hn]; rfl
    rw [hni, getD_set]
    left
    split
    · rename_i hc; rw [← hc.1]; omega
    · exact Nat.le_refl _

/-- SYNC IS KEPT.  Under a stable leader a follower in sync stays in sync across any step. -/
theorem sync_step {v : Variant} {s : St} {a : Act} {L t p : Nat} (S : Stable v s a L t)
    (hs : Sync s L t p) (hleP : ((step v s a).1.nodes p).term ≤ t) :
    Sync (step v s a).1 L t p := by
  have keep : ∀ {k : Nat}, Agree (s.nodes L).log (s.nodes p).log k →
      Agree ((step v s a).1.nodes L).log ((step v s a).1.nodes p).log k :=
    fun h => agree_step S hs.pne hs.pterm hleP h
  have hp := S.post
  have hnx : Agree ((step v s a).1.nodes L).log ((step v s a).1.nodes p).log
      (((step v s a).1.nodes L).nextIndex.getD p 1 - 1) := by
    rcases nx_step (p := p) S with h | ⟨e, he, m, hb, hm⟩
    · exact (keep hs.nx).le h
    · rw [hm]; exact keep (hs.ar e he m hb)
  refine ⟨by rw [step_n]; exact hs.pn, hs.pne, (fstep_log S hs.pne hs.pterm hleP).1, hnx, ?_, ?_⟩
  · intro e he hd l pi pt es lc hb
    by_cases hold : e ∈ s.msgs
    · obtain ⟨h1, h2⟩ := hs.ae e hold hd l pi pt es lc hb
      refine ⟨keep h1, ?_⟩
      rw [h2]
      by_cases hpi : pi > 0
      · -- the leader's log only grew: the entry at `pi` is the same
        obtain ⟨k, rfl⟩ : ∃ k, pi = k + 1 := ⟨pi - 1, by omega⟩
        have hk : k < (s.nodes L).log.length := h1.1
        have hget : getE (s.nodes L).log (k + 1) = some (s.nodes L).log[k] := by
          rw [getE_succ, List.getElem?_eq_getElem hk]
        rw [if_pos hpi, if_pos hpi, termAt_of_getE hget, termAt_of_getE (getE_prefix hget hp.log)]
      · rw [if_neg hpi, if_neg hpi]
    · obtain ⟨_, hbody⟩ := new_ae_sync S he hold hb
      rw [hd, hb, aeFor_prev] at hbody
      cases hbody
      exact ⟨hnx, rfl⟩
  · intro e he m hb
    by_cases hold : e ∈ s.msgs
    · exact keep (hs.ar e hold m hb)
    · exact new_ar_sync S hs.pne he hold hb

end HappyModel.C11
