import HappyProofs.C14.TxnInv
namespace HappyModel.C14.SM
open HappyModel.C14 HappyModel.C14.BT

variable {ok : Store → Prop} {init : Key → Option Nat} {tm : TM} {evs : List Ev}

/-- the log entry a successful commit of `tx` appends -/
def commitEntry (tm : TM) (tx : Tx) : LogE :=
  { txid := tx.id, version := tm.version + 1, wkeys := tx.wset.map (·.1), rkeys := tx.rset,
    prior := tx.wset.map fun e => (e.1, tm.store.getSync e.1) }

structure CommitOk (tm : TM) (slot : Nat) (tx : Tx) (tm' : TM) : Prop where
  store : tm'.store = applyWrites tm.store tx.wset
  version : tm'.version = tm.version + 1
  log : tm'.log = tm.log ++ [commitEntry tm tx]
  nextId : tm'.nextId = tm.nextId
  txs : ∀ s, tm'.tx? s = if s = slot then some { tx with stat := .committed } else tm.tx? s

theorem commit_ok {slot : Nat} {tx : Tx} (hx : tm.tx? slot = some tx) (hact : tx.stat = .active)
    (hc : checkConflict tm tx = false) :
    (tm.commit slot).2 = true ∧ CommitOk tm slot tx (tm.commit slot).1 := by
  have e : tm.commit slot = ({ (tm.setTx { tx with stat := .committed }) with
          store := applyWrites tm.store tx.wset,
          version := tm.version + 1,
          log := tm.log ++ [commitEntry tm tx],
          nCommitted := tm.nCommitted + 1 }, true) := by
    simp [TM.commit, hx, hact, hc, commitEntry]
  rw [e]
  exact ⟨rfl, rfl, rfl, rfl, rfl, tx?_upd hx rfl rfl⟩

theorem no_conflict_ser {tx : Tx} {e : LogE} (h : conflictWith tx e = false) (hl : tx.level = .ser)
    (hv : tx.snap < e.version) (hid : e.txid ≠ tx.id) : inter tx.rset e.wkeys = false := by
  simp only [conflictWith, Nat.not_le.2 hv, if_false, hid, hl, Bool.or_eq_false_iff] at h
  exact h.1.2

/-- A successful commit.  The transaction table changes first (a frame step to the manager that has the new table
    and still the old store, version and log: `h1`), then store, version and log. -/
theorem Inv.commit (ok_put : ∀ s k v, ok s → ok (s.putSync k v))
    (get_put : ∀ s k v k', ok s → (s.putSync k v).getSync k' = if k' = k then some v else s.getSync k')
    (h : Inv ok init tm evs) {slot : Nat} {tx : Tx} {tm' : TM} (hx : tm.tx? slot = some tx)
    (hact : tx.stat = .active) (hc : checkConflict tm tx = false) (c : CommitOk tm slot tx tm') :
    Inv ok init tm' (evs ++ [.committed slot tx.wset]) := by
  have h1 : Inv ok init { tm' with store := tm.store, version := tm.version, log := tm.log } evs :=
    h.frame (sim_of_upd hx c.txs rfl rfl rfl (fun h => by cases h) (fun _ h => h)) rfl rfl rfl c.nextId
  have hs : tm'.tx? slot = some { tx with stat := .committed } := by rw [c.txs, if_pos rfl]
  have hw := applyWrites_spec ⟨ok_put, get_put⟩ tx.wset tm.store (replay init evs) h.store_ok h.store_eq
  have hrep : ∀ k, replay init (evs ++ [.committed slot tx.wset]) k = applyF (replay init evs) tx.wset k :=
    fun k => by rw [replay_append]; rfl
  refine
    { store_eq := fun k => by rw [c.store, hrep]; exact hw.2 k
      store_ok := by rw [c.store]; exact hw.1
      snap_le := fun s t ht => by rw [c.version]; exact Nat.le_succ_of_le (h1.snap_le s t ht)
      id_lt := h1.id_lt
      id_inj := h1.id_inj
      log_id_lt := fun e he => ?_
      log_txid := fun e he s t ht ha => ?_
      ev_slot := fun e he => ?_
      fetched := fun s k val hf t ht ha => ?_
      comm := fun pre post s w hd t ht hl => ?_ }
  · rw [c.log] at he
    rcases List.mem_append.1 he with he | he
    · exact h1.log_id_lt e he
    · cases List.mem_singleton.1 he
      exact c.nextId ▸ h.id_lt slot tx hx
  · rw [c.log] at he
    rcases List.mem_append.1 he with he | he
    · exact h1.log_txid e he s t ht ha
    · cases List.mem_singleton.1 he
      intro hid
      cases h1.id_inj s slot t _ ht hs hid.symm
      cases hs.symm.trans ht
      cases ha
  · rcases List.mem_append.1 he with he | he
    · exact h1.ev_slot e he
    · cases List.mem_singleton.1 he
      simp [Ev.slot, hs]
  · obtain ⟨g1, g2⟩ := h1.fetched s k val (by simpa using hf) t ht ha
    refine ⟨g1, ?_⟩
    rw [c.log]
    rcases g2 with g2 | ⟨e, he, g3⟩
    · by_cases hk : k ∈ tx.wset.map (·.1)
      · exact .inr ⟨commitEntry tm tx, by simp, Nat.lt_succ_of_le (h1.snap_le s t ht), hk⟩
      · refine .inl ?_
        rw [c.store, hw.2 k, applyF_notin _ _ _ hk, ← h.store_eq k]
        exact g2
    · exact .inr ⟨e, by simp [he], g3⟩
  · rcases split_snoc hd with ⟨h2, h3⟩ | ⟨post', h2⟩
    · cases h3
      subst h2
      cases hs.symm.trans ht
      intro k val hf
      obtain ⟨g1, g2⟩ := h.fetched slot k val hf tx hx hact
      rcases g2 with g2 | ⟨e, he, g3, g4⟩
      · rw [g2]; exact h.store_eq k
      · have hce : conflictWith tx e = false := by
          simp only [checkConflict, List.any_eq_false] at hc
          simpa using hc e he
        exact absurd g4 (inter_false (no_conflict_ser hce hl g3 (h.log_txid e he slot tx hx hact)) k g1)
    · exact h1.comm pre post' s w h2 t ht hl

/-- What an action does: nothing; it begins a fresh slot; it changes transaction records only, each continuing the old
    one (`Sim`), and leaves store, version, log and next id alone (an abort or a refused commit also moves the
    counters); it fetches for a transaction that has the key in its read set; it commits. -/
theorem stepA_cases (tm : TM) (a : Act) :
    stepA tm a = (tm, []) ∨
    (∃ s l, tm.tx? s = none ∧ stepA tm a = (tm.begin s l, [.began s])) ∨
    (∃ tm', stepA tm a = (tm', []) ∧ Sim tm tm' ∧ tm'.store = tm.store ∧ tm'.version = tm.version ∧
      tm'.log = tm.log ∧ tm'.nextId = tm.nextId) ∨
    (∃ s k tx, tm.tx? s = some tx ∧ k ∈ tx.rset ∧ stepA tm a = (tm, [.fetched s k (fetchVal tm s k)])) ∨
    ∃ s tx, tm.tx? s = some tx ∧ tx.stat = .active ∧ checkConflict tm tx = false ∧
      CommitOk tm s tx (tm.commit s).1 ∧ stepA tm a = ((tm.commit s).1, [.committed s tx.wset]) := by
  -- the record `tx` of `slot` becomes `tx'`; `tm'` stands on its own right side so that the one statement covers
  -- the steps that leave the counters alone (readStart, write) and those that move them (abort, refused commit)
  have upd : ∀ {slot : Nat} {tx tx' : Tx} {tm' : TM}, tm.tx? slot = some tx → tx.stat = .active →
      tm' = { tm.setTx tx' with nAborted := tm'.nAborted, nConflicts := tm'.nConflicts } → tx'.slot = tx.slot →
      tx'.id = tx.id → tx'.level = tx.level → tx'.snap = tx.snap → (∀ k ∈ tx.rset, k ∈ tx'.rset) →
      Sim tm tm' ∧ tm'.store = tm.store ∧ tm'.version = tm.version ∧ tm'.log = tm.log ∧
        tm'.nextId = tm.nextId := by
    intro slot tx tx' tm' hx ha e h1 h2 h3 h4 h5
    refine ⟨sim_of_upd hx (tx?_upd hx (by rw [e]) h1) h2 h3 h4 (fun _ => ha) h5, ?_, ?_, ?_, ?_⟩ <;> rw [e] <;> rfl
  cases a with
  | begin slot lvl =>
    cases hx : tm.tx? slot with
    | none => exact .inr (.inl ⟨slot, lvl, hx, stepA_begin lvl hx⟩)
    | some tx => exact .inl (by simp [stepA, hx, TM.begin])
  | readStart slot k =>
    cases hx : tm.tx? slot with
    | none => exact .inl (by simp [stepA, hx, TM.readStart])
    | some tx =>
      by_cases ha : tx.stat = .active
      · refine .inr (.inr (.inl ⟨tm.readStart slot k, rfl, ?_⟩))
        exact upd (tx' := { tx with rset := addKey k tx.rset }) hx ha (by simp [TM.readStart, hx, ha]) rfl rfl rfl rfl
          fun _ => mem_addKey
      · exact .inl (by simp [stepA, hx, TM.readStart, ha])
  | readFetch slot k =>
    cases hx : tm.tx? slot with
    | none => exact .inl (by simp [stepA, hx])
    | some tx =>
      by_cases hg : tx.stat = .active ∧ k ∈ tx.rset
      · exact .inr (.inr (.inr (.inl ⟨slot, k, tx, hx, hg.2, stepA_readFetch hx hg.1 hg.2⟩)))
      · exact .inl (by simp [stepA, hx, hg])
  | write slot k v =>
    cases hx : tm.tx? slot with
    | none => exact .inl (by simp [stepA, hx, TM.write])
    | some tx =>
      by_cases ha : tx.stat = .active
      · refine .inr (.inr (.inl ⟨tm.write slot k v, rfl, ?_⟩))
        exact upd (tx' := { tx with wset := dictSet k v tx.wset }) hx ha (by simp [TM.write, hx, ha]) rfl rfl rfl rfl
          fun _ h => h
      · exact .inl (by simp [stepA, hx, TM.write, ha])
  | commit slot =>
    cases hx : tm.tx? slot with
    | none => exact .inl (by simp [stepA, hx, TM.commit])
    | some tx =>
      by_cases ha : tx.stat = .active
      · cases hc : checkConflict tm tx with
        | true =>
          refine .inr (.inr (.inl ⟨(tm.commit slot).1, by simp [stepA, hx, TM.commit, ha, hc], ?_⟩))
          exact upd (tx' := { tx with stat := .aborted }) hx ha (by simp [TM.commit, hx, ha, hc]) rfl rfl rfl rfl
            fun _ h => h
        | false =>
          obtain ⟨c1, c2⟩ := commit_ok hx ha hc
          exact .inr (.inr (.inr (.inr ⟨slot, tx, hx, ha, hc, c2, by rw [stepA_commit hx, c1, if_pos rfl]⟩)))
      · exact .inl (by simp [stepA, hx, TM.commit, ha])
  | abort slot =>
    cases hx : tm.tx? slot with
    | none => exact .inl (by simp [stepA, hx, TM.abort])
    | some tx =>
      by_cases ha : tx.stat = .active
      · refine .inr (.inr (.inl ⟨tm.abort slot, rfl, ?_⟩))
        exact upd (tx' := { tx with stat := .aborted }) hx ha (by simp [TM.abort, hx, ha]) rfl rfl rfl rfl
          fun _ h => h
      · exact .inl (by simp [stepA, hx, TM.abort, ha])

theorem stepA_store (tm : TM) (a : Act) :
    ((stepA tm a).1.store = tm.store ∧ (stepA tm a).1.log = tm.log) ∨
    ∃ s tx, CommitOk tm s tx (stepA tm a).1 := by
  rcases stepA_cases tm a with e | ⟨s, l, hx, e⟩ | ⟨tm', e, _, h1, _, h3, _⟩ | ⟨s, k, tx, _, _, e⟩ |
    ⟨s, tx, _, _, _, c, e⟩ <;> rw [e]
  · exact .inl ⟨rfl, rfl⟩
  · exact .inl (by simp [TM.begin, hx])
  · exact .inl ⟨h1, h3⟩
  · exact .inl ⟨rfl, rfl⟩
  · exact .inr ⟨s, tx, c⟩

theorem Inv.start (s0 : Store) (h0 : ok s0) : Inv ok s0.getSync { store := s0 } [] where
  store_eq _ := rfl
  store_ok := h0
  snap_le s tx h := by simp [TM.tx?] at h
  id_lt s tx h := by simp [TM.tx?] at h
  id_inj s1 s2 t1 t2 h := by simp [TM.tx?] at h
  log_id_lt e he := by simp at he
  log_txid e he := by simp at he
  ev_slot e he := by simp at he
  fetched s k val hf := by simp at hf
  comm pre post s w hd := by simp at hd

end HappyModel.C14.SM
