import HappyProofs.C19.Assign
import HappyProofs.C19.MQAccount
import HappyProofs.C19.MQAck
import HappyProofs.C19.MQRedeliv
import HappyProofs.C19.MQHyp
import HappyProofs.C19.MQOrder
import HappyProofs.C19.MQLimit
import HappyProofs.C19.MQReach
import HappyProofs.C19.StreamCommit
import HappyProofs.C19.StreamLog
import HappyProofs.C19.StreamGroup
import HappyProofs.C19.StreamRead
import HappyProofs.C19.StreamRetention
import HappyProofs.C19.TopicOnce
import HappyProofs.C19.WinProps
import HappyProofs.C19.OutboxProps
import HappyProofs.C19.IdemProps
/-!
"Message queue: every published message stays accounted for (pending, in flight, acknowledged or
dead-lettered) and is never lost; every delivery and every requested redelivery reaches a
subscribed consumer at the delivery instant, first deliveries follow publish order, the redelivery
limit moves a message to the dead-letter queue, and nothing is delivered again after it was
acknowledged. Topic: every published message reaches every subscriber active at publish time
exactly once. Event log and consumer group: offsets within a partition are gap-free and
increasing, a key always maps to the same partition, after every rebalance each partition belongs
to exactly one member, and committed offsets never move backwards."

The statements of the queue, the topic, the event log and the consumer group under one namespace (those of the
windows, the outbox relay and the idempotency store are in `WinProps`, `OutboxProps`, `IdemProps`).  Most are
`<Spec predicate> (<model run on an arbitrary schedule>) = none`; the set-level `accounted_partition` and
`assignment_is_partition`, the exact verdict of `delivery_safe_on_every_schedule` and the `legacy_*_witness`
theorems (`= some …`) are not.  The Spec predicates (`HappyModel/C19/Spec.lean`, `StreamSpec.lean`, `ReadSpec.lean`, `Assign.lean`)
are the same functions the driver uses to judge traces of the real implementation; the schedule (which generator
segment the engine ran at which instant) is universally quantified.  The proofs are in the sibling files.
`cfg.legacy = false` / `cfg.legacyCommit = false` select the code after `fixes/C19-*.diff`; the `legacy_*_witness`
theorems show the clause failing for the code before the fix on a concrete schedule.
-/
namespace HappyModel.C19.Props
open HappyModel.C19

/-- the public counters add up, pending + in flight + acknowledged + dead-lettered = published, after every action of
    every schedule -/
theorem message_accounted (cfg : Cfg) (hl : cfg.legacy = false) (sched : List (Nat × Act)) :
    jAccounted (MQ.run cfg {} sched) = none :=
  HappyModel.C19.message_accounted cfg hl sched

/-- set-level form: pending and in-flight partition the live messages; dead-lettered ids are
    published, not live; live + acknowledged + dead-lettered = published -/
theorem accounted_partition (cfg : Cfg) (hl : cfg.legacy = false) (sched : List (Nat × Act)) :
    let s := MQ.exec cfg {} sched
    s.pending.Nodup ∧ s.inflight.Nodup ∧ s.live.Nodup ∧
    (∀ k, k ∈ s.live ↔ (k ∈ s.pending ∨ k ∈ s.inflight)) ∧
    (∀ k, ¬ (k ∈ s.pending ∧ k ∈ s.inflight)) ∧
    (∀ k ∈ s.live, k < s.npub) ∧ (∀ k ∈ s.dlq, k < s.npub ∧ k ∉ s.live) ∧
    s.live.length + s.nAck + s.dlq.length = s.npub :=
  HappyModel.C19.accounted_partition cfg hl sched

/-- first deliveries follow publish order (redelivery events exist only for messages that were delivered
    before: `RedelivLegit`); the clause stops judging after a `reject(requeue=True)` of a message that was never
    delivered, which puts it behind later ones by the API's own definition (`OrdSt.misuse`) -/
theorem first_deliveries_in_publish_order (cfg : Cfg) (hl : cfg.legacy = false)
    (sched : List (Nat × Act)) (h : RedelivLegit cfg {} sched) :
    jOrder {} (MQ.run cfg {} sched) = none :=
  HappyModel.C19.first_deliveries_in_publish_order cfg hl sched h

/-- the same under the engine fact "only events that exist are delivered": a
    `message_redelivery` event reaches the queue only if `schedule_redelivery` handed one out that has not been
    delivered yet (`TimerCausal`; it implies `RedelivLegit`, a condition on model states) -/
theorem first_deliveries_in_publish_order_causal (cfg : Cfg) (hl : cfg.legacy = false)
    (sched : List (Nat × Act)) (h : TimerCausal cfg {} [] sched) :
    jOrder {} (MQ.run cfg {} sched) = none :=
  HappyModel.C19.first_deliveries_in_publish_order_causal cfg hl sched h

/-- deliveries on every schedule, quiescent at its end or not: the judge's clauses about consumers, stamps
    and receipt instants hold at every step; its only possible objection is the end-of-run one, raised exactly when a
    delivery is still suspended or in the engine's heap at the cut -/
theorem delivery_safe_on_every_schedule (cfg : Cfg) (hl : cfg.legacy = false) (sched : List (Nat × Act)) :
    jReach cfg.lat {} (MQ.run cfg {} sched) =
      if (MQ.exec cfg {} sched).tix = [] then none else some "mq/delivery/never-reached-consumer" :=
  HappyModel.C19.delivery_safe_on_every_schedule cfg hl sched

/-- the dead-letter queue grows only by an effective reject that does not requeue (not asked to, or at the
    redelivery limit) or by a timeout at the limit; a requeue and a redelivery event happen only below the limit;
    a dead-lettered message is never delivered again -/
theorem redelivery_limit_to_dlq (cfg : Cfg) (hl : cfg.legacy = false) (sched : List (Nat × Act)) :
    jLimit cfg.maxRe {} (MQ.run cfg {} sched) = none :=
  HappyModel.C19.redelivery_limit_to_dlq cfg hl sched

/-- no delivery of a message starts after an acknowledgement of it moved the acknowledged counter; the counter moves
    by one, only on an `ack`, at most once per message -/
theorem no_delivery_after_ack (cfg : Cfg) (hl : cfg.legacy = false) (sched : List (Nat × Act)) :
    jAck {} (MQ.run cfg {} sched) = none :=
  HappyModel.C19.no_delivery_after_ack cfg hl sched

/-- the consumer's call is what counts: once `acknowledge(k)` was called for a published message — while
    in flight, while back in the pending queue after a visibility timeout (late ack, before the
    redelivery event fires), after a reject/requeue, or after dead-lettering — no delivery of `k` starts -/
theorem ack_is_final (cfg : Cfg) (hl : cfg.legacy = false) (sched : List (Nat × Act)) :
    jAckFinal {} (MQ.run cfg {} sched) = none :=
  HappyModel.C19.ack_is_final cfg hl sched

/-- an acknowledgement (a reject) of a message the queue still owes (published, never acknowledged, not
    dead-lettered) is counted exactly once; any other acknowledgement (reject) is counted zero times -/
theorem ack_of_owed_message_takes_effect (cfg : Cfg) (hl : cfg.legacy = false)
    (sched : List (Nat × Act)) :
    jAckTakes {} (MQ.run cfg {} sched) = none :=
  HappyModel.C19.ack_of_owed_message_takes_effect cfg hl sched

/-- a requested redelivery is never lost: `schedule_redelivery(k)` on a message that is in flight with no redelivery
    timer pending hands out a redelivery event or, at the limit, dead-letters (never "nothing to do": no message stuck
    in flight for ever), and a timer that fires for a message the queue owes while a consumer is subscribed starts a
    delivery — whatever subscribe / unsubscribe operations happen around the timer -/
theorem redelivery_never_stuck (cfg : Cfg) (hl : cfg.legacy = false) (sched : List (Nat × Act)) :
    jRedeliv {} (MQ.run cfg {} sched) = none :=
  HappyModel.C19.redelivery_never_stuck cfg hl sched

/-- every delivery picks a subscribed consumer, is not stamped in the past, and is received by that
    consumer exactly once at t0 + latency; at a quiescent end nothing is missing -/
theorem delivery_reaches_consumer (cfg : Cfg) (hl : cfg.legacy = false) (sched : List (Nat × Act))
    (hq : (MQ.exec cfg {} sched).tix = []) :
    jReach cfg.lat {} (MQ.run cfg {} sched) = none :=
  HappyModel.C19.delivery_reaches_consumer cfg hl sched hq

/-- the code before `fixes/C19-stale-delivery-stamp.diff` -/
theorem legacy_stale_stamp_witness :
    jReach 5 {} (MQ.run {lat := 5, maxRe := 2, legacy := true} {} [(0,.sub 0),(1,.pub),(2,.poll),(7,.fire 0)])
      = some "mq/delivery/stamped-in-the-past" :=
  HappyModel.C19.legacy_stale_stamp_witness

/-- the code before `fixes/C19-ack-leaves-ghost-in-pending.diff` -/
theorem legacy_ghost_pending_witness :
    jAccounted (MQ.run {lat := 0, maxRe := 3, legacy := true} {}
      [(0,.sub 0),(1,.pub),(2,.pub),(3,.poll),(3,.fire 0),(3,.recv 0),(4,.tmo 0),(5,.ack 0)])
      = some "mq/accounted/counters-do-not-add-up" :=
  HappyModel.C19.legacy_ghost_pending_witness

/-- range, round-robin and sticky (for every sequence of memberships on one sticky object):
    every partition is in exactly one member's list -/
theorem assignment_is_partition :
    (∀ parts cons : List Nat, cons.Nodup → parts.Nodup → cons ≠ [] →
      isPartition parts cons (rangeAssign parts cons) = true) ∧
    (∀ parts cons : List Nat, cons.Nodup → parts.Nodup → cons ≠ [] →
      isPartition parts cons (rrAssign parts cons) = true) ∧
    (∀ calls : List (List Nat × List Nat), (∀ c ∈ calls, c.1.Nodup ∧ c.2.Nodup) →
      runOk calls (stickyRun [] calls) = true) :=
  HappyModel.C19.assignment_is_partition

/-- inside the group, after every rebalance (all strategies, every join / leave order, overlapping
    rebalances) the assignment is a partition of `0 … n-1` over the current members -/
theorem rebalance_is_partition (cfg : SCfg) (sched : List (Nat × SAct)) :
    jRebalance cfg.n [] (Stream.run cfg (Stream.init cfg.n) sched) = none :=
  HappyModel.C19.rebalance_is_partition cfg sched

/-- committed offsets never move backwards -/
theorem committed_monotone (cfg : SCfg) (hc : cfg.legacyCommit = false) (sched : List (Nat × SAct)) :
    jCommit [] (Stream.run cfg (Stream.init cfg.n) sched) = none :=
  HappyModel.C19.committed_monotone cfg hc sched

/-- the code before `fixes/C19-commit-moves-backwards.diff` -/
theorem legacy_commit_witness :
    jCommit [] (Stream.run {n := 2, legacyCommit := true} (Stream.init 2)
      [(0, .joinA 0), (1, .joinB 0), (2, .commit 0 [(1, 5)]), (3, .commit 0 [(1, 3)])])
      = some "group/commit/moved-backwards" :=
  HappyModel.C19.legacy_commit_witness

/-- the i-th append to a partition gets offset i; reads and polls return appended records whose
    offsets increase by exactly one per partition (every retention policy; clock monotone) -/
theorem offsets_gap_free_increasing (cfg : SCfg) (hn : 0 < cfg.n) (sched : List (Nat × SAct))
    (ht : TimesMono sched) :
    jOffsets cfg.n [] (Stream.run cfg (Stream.init cfg.n) sched) = none :=
  HappyModel.C19.offsets_gap_free_increasing cfg hn sched ht

/-- a key always maps to the same partition, for every sharding hash (the hash is a parameter) -/
theorem key_partition_stable (cfg : SCfg) (sched : List (Nat × SAct)) (hh : HashFn sched) :
    jKeys [] (Stream.run cfg (Stream.init cfg.n) sched) = none :=
  HappyModel.C19.key_partition_stable cfg sched hh

/-- a read returns exactly the retained suffix: every retention sweep leaves a contiguous run of
    offsets ending at the newest record; a read of `p` from offset `o` with limit `m` returns the
    retained records with offset ≥ `o`, in increasing offset order, the first `min(m, count)` — none
    skipped, none below `o`, none expired; a poll returns that for the member's assigned partitions
    (assignment order, shared limit) from the largest offsets it committed, so a member that
    commits what it read never gets a record twice and never misses a retained one; the committed
    offset shown by `consumer_lag` is the largest committed one -/
theorem read_returns_retained_suffix (cfg : SCfg) (hn : 0 < cfg.n) (hc : cfg.legacyCommit = false)
    (sched : List (Nat × SAct)) (ht : TimesMono sched) :
    jReads cfg.n (RSt.init cfg.n) (Stream.run cfg (Stream.init cfg.n) sched) = none :=
  HappyModel.C19.read_returns_retained_suffix cfg hn hc sched ht

/-- a retention sweep keeps what its policy says: everything without a policy, the newest
    `min(n, count)` records of every partition under size retention, exactly the records younger
    than the maximum age under age retention -/
theorem retention_keeps_policy (cfg : SCfg) (hn : 0 < cfg.n) (sched : List (Nat × SAct))
    (ht : TimesMono sched) :
    jRetention cfg.n cfg.ret (PSt.init cfg.n) (Stream.run cfg (Stream.init cfg.n) sched) = none :=
  HappyModel.C19.retention_keeps_policy cfg hn sched ht

/-- every published message reaches every subscriber active at publish time exactly once, on every schedule that ends
    with no publish suspended and the heap drained -/
theorem topic_exactly_once_per_active_subscriber (sched : List (Nat × TAct))
    (hq1 : (Topic.exec false {} sched).inprog = []) (hq2 : (Topic.exec false {} sched).heap = []) :
    jTopic {} (Topic.run false {} sched) = none :=
  HappyModel.C19.topic_exactly_once_per_active_subscriber sched hq1 hq2

/-- the code before `fixes/C19-stale-delivery-stamp.diff` (Topic part) -/
theorem legacy_topic_witness :
    jTopic {} (Topic.run true {} [(0, .sub 0), (1, .pubA), (6, .pubEnd 0)])
      = some "topic/delivery/stamped-in-the-past" :=
  HappyModel.C19.legacy_topic_witness

/-- non-vacuity: the hypotheses hold on a concrete schedule with a delivery, an ack, a timeout at
    the limit and a dead-lettering -/
example :
    let cfg : Cfg := {lat := 5, maxRe := 1}
    let sched : List (Nat × Act) :=
      [(0,.sub 0),(1,.pub),(1,.pub),(2,.poll),(7,.fire 0),(7,.recv 0),(8,.ack 0),(9,.poll),
       (14,.fire 1),(14,.recv 1),(20,.tmo 1)]
    cfg.legacy = false ∧ RedelivLegit cfg {} sched ∧ (MQ.exec cfg {} sched).tix = [] ∧
      (MQ.exec cfg {} sched).dlq = [1] ∧ (MQ.exec cfg {} sched).nAck = 1 := by decide +kernel

/-- the stream hypotheses: a monotone schedule with repeated keys -/
example :
    let sched : List (Nat × SAct) :=
      [(0, .joinA 0), (1, .append 7 3), (1, .joinB 0), (2, .append 7 3), (3, .append 4 2), (4, .read 1 0 10),
       (5, .commit 0 [(1, 2)]), (6, .poll 0 5)]
    TimesMono sched ∧ HashFn sched := by
  refine ⟨by unfold TimesMono; decide, ?_⟩
  intro t1 t2 k h1 h2 a b
  simp at a b
  omega

/-- the topic's quiescence: a run with two subscribers -/
example :
    let sched : List (Nat × TAct) :=
      [(0, .sub 0), (0, .sub 1), (1, .pubA), (2, .unsub 1), (11, .pubEnd 0), (11, .recv 0 0), (11, .recv 0 1)]
    (Topic.exec false {} sched).inprog = [] ∧ (Topic.exec false {} sched).heap = [] := by decide +kernel

end HappyModel.C19.Props
