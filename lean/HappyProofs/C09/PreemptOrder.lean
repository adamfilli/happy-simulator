import HappyProofs.C09.PreemptInv
/-! Order invariants of the PreemptibleResource model: the waiter queue is sorted by (priority, arrival),
wake-ups take a prefix of it, and nobody is granted twice. -/
namespace HappyModel.C09.Preempt

/-- `a` is served before `b`: higher priority (smaller value), or the same priority and an earlier call -/
def before (a b : G) : Prop := a.prio < b.prio ∨ (a.prio = b.prio ∧ a.id < b.id)

structure Ord (s : St) : Prop where
  sorted : s.waiters.Pairwise before
  waitFresh : ∀ g ∈ s.waiters, g.id < s.nextId
  logFresh : ∀ i ∈ s.grantLog, i < s.nextId
  logNodup : s.grantLog.Nodup
  waitNotLogged : ∀ g ∈ s.waiters, g.id ∉ s.grantLog
  waitNodup : (s.waiters.map G.id).Nodup

theorem init_ord (cap : Int) : Ord (St.init cap) :=
  ⟨by simp [St.init], by simp [St.init], by simp [St.init], by simp [St.init], by simp [St.init], by simp [St.init]⟩

theorem insWaiter_sorted (w : G) (l : List G) (hs : l.Pairwise before) (hid : ∀ g ∈ l, g.id < w.id) :
    (insWaiter w l).Pairwise before := by
  induction l with
  | nil => simp [insWaiter]
  | cons h t ih =>
    rw [List.pairwise_cons] at hs
    obtain ⟨hh, ht⟩ := hs
    simp only [insWaiter]
    split
    · rename_i hle
      refine List.pairwise_cons.mpr ⟨fun x hx => ?_, ih ht (fun g hg => hid g (List.mem_cons_of_mem _ hg))⟩
      rcases (mem_insWaiter _ _ _).mp hx with rfl | hxt
      · have := hid h List.mem_cons_self
        unfold before; omega
      · exact hh x hxt
    · rename_i hgt
      refine List.pairwise_cons.mpr ⟨fun x hx => ?_, List.pairwise_cons.mpr ⟨hh, ht⟩⟩
      rcases List.mem_cons.mp hx with rfl | hxt
      · exact Or.inl (by omega)
      · have := hh x hxt
        unfold before at this ⊢; omega

theorem insWaiter_ids_nodup (w : G) (l : List G) (hn : (l.map G.id).Nodup) (hid : ∀ g ∈ l, g.id ≠ w.id) :
    ((insWaiter w l).map G.id).Nodup := by
  induction l with
  | nil => simp [insWaiter]
  | cons h t ih =>
    rw [List.map_cons, List.nodup_cons] at hn
    obtain ⟨hh, ht⟩ := hn
    simp only [insWaiter]
    split
    · rw [List.map_cons, List.nodup_cons]
      refine ⟨fun hmem => ?_, ih ht (fun g hg => hid g (List.mem_cons_of_mem _ hg))⟩
      obtain ⟨x, hx, hxe⟩ := List.mem_map.mp hmem
      rcases (mem_insWaiter _ _ _).mp hx with rfl | hxt
      · exact hid h List.mem_cons_self hxe.symm
      · exact hh (List.mem_map.mpr ⟨x, hxt, hxe⟩)
    · rw [List.map_cons, List.nodup_cons]
      refine ⟨fun hmem => ?_, by rw [List.map_cons, List.nodup_cons]; exact ⟨hh, ht⟩⟩
      obtain ⟨x, hx, hxe⟩ := List.mem_map.mp hmem
      exact hid x hx hxe

theorem wake_prefix (a : Int) (l : List G) (hs : l.Pairwise before) :
    ∀ x ∈ wokenOf a l, ∀ y ∈ restOf a l, before x y := by
  have h := woken_append_rest a l
  rw [← h, List.pairwise_append] at hs
  exact hs.2.2

theorem wake_ord (s : St) (o : Ord s) : Ord (wake s).1 := by
  have hsplit := woken_append_rest s.avail s.waiters
  have hsubR := rest_sublist s.avail s.waiters
  have hnd := o.waitNodup
  rw [← hsplit, List.map_append, List.nodup_append] at hnd
  obtain ⟨hwkN, hrestN, hdisj⟩ := hnd
  have hwkMem := (woken_sublist s.avail s.waiters).subset
  refine ⟨List.Pairwise.sublist hsubR o.sorted, fun g hg => o.waitFresh g (hsubR.subset hg), ?_, ?_, ?_, hrestN⟩
  · intro i hi
    have hi' : i ∈ s.grantLog ++ (wokenOf s.avail s.waiters).map G.id := hi
    rcases List.mem_append.mp hi' with h | h
    · exact o.logFresh i h
    · obtain ⟨g, hg, hge⟩ := List.mem_map.mp h
      rw [← hge]; exact o.waitFresh g (hwkMem hg)
  · show (s.grantLog ++ (wokenOf s.avail s.waiters).map G.id).Nodup
    rw [List.nodup_append]
    refine ⟨o.logNodup, hwkN, ?_⟩
    intro a ha b hb hab
    obtain ⟨g, hg, hge⟩ := List.mem_map.mp hb
    apply o.waitNotLogged g (hwkMem hg)
    rw [hge, ← hab]; exact ha
  · intro g hg hmem
    have hg' : g ∈ restOf s.avail s.waiters := hg
    have hmem' : g.id ∈ s.grantLog ++ (wokenOf s.avail s.waiters).map G.id := hmem
    rcases List.mem_append.mp hmem' with h | h
    · exact o.waitNotLogged g (hsubR.subset hg') h
    · exact hdisj g.id h g.id (List.mem_map_of_mem hg') rfl

/-- `g` carries the call id just taken: nobody queued or granted has it, and every waiter arrived earlier -/
structure Fresh (s : St) (g : G) : Prop where
  id : g.id < s.nextId
  log : g.id ∉ s.grantLog
  wait : ∀ w ∈ s.waiters, w.id < g.id

theorem Ord.fresh {s : St} (o : Ord s) (amt prio : Int) : Fresh (bump s) ⟨s.nextId, amt, prio⟩ :=
  ⟨Nat.lt_succ_self _, fun h => Nat.lt_irrefl _ (o.logFresh _ h), o.waitFresh⟩

theorem tryPreempt_fresh (pre : Bool) (amt prio : Int) {s : St} {g : G} (h : Fresh s g) :
    Fresh (tryPreempt pre amt prio s).1 g :=
  tryPreempt_keeps (P := fun s => Fresh s g) pre amt prio s (fun _ _ _ h => ⟨h.id, h.log, h.wait⟩) h

theorem bump_ord {s : St} (o : Ord s) : Ord (bump s) :=
  ⟨o.sorted, fun g hg => Nat.lt_succ_of_lt (o.waitFresh g hg), fun i hi => Nat.lt_succ_of_lt (o.logFresh i hi),
   o.logNodup, o.waitNotLogged, o.waitNodup⟩

theorem freed_ord {s : St} (g : G) (o : Ord s) : Ord (freed s g) :=
  ⟨o.sorted, o.waitFresh, o.logFresh, o.logNodup, o.waitNotLogged, o.waitNodup⟩

theorem evict1_ord {s : St} (v : G) (o : Ord s) : Ord (PreemptCb.evict1 s v) :=
  ⟨o.sorted, o.waitFresh, o.logFresh, o.logNodup, o.waitNotLogged, o.waitNodup⟩

theorem grantNow_ord (s : St) (g : G) (o : Ord s) (hg : Fresh s g) : Ord (grantNow s g) := by
  refine ⟨o.sorted, o.waitFresh, ?_, ?_, ?_, o.waitNodup⟩
  · exact snoc_all o.logFresh hg.id
  · exact nodup_snoc o.logNodup hg.log
  · exact fun w hw hmem => (mem_snoc hmem).elim (o.waitNotLogged w hw) (Nat.ne_of_lt (hg.wait w hw))

theorem enqueue_ord (s : St) (g : G) (o : Ord s) (hg : Fresh s g) : Ord (enqueue s g) := by
  refine ⟨insWaiter_sorted _ _ o.sorted hg.wait, fun x hx => ?_, o.logFresh, o.logNodup, fun x hx => ?_,
    insWaiter_ids_nodup _ _ o.waitNodup (fun x hx => Nat.ne_of_lt (hg.wait x hx))⟩
  · rcases (mem_insWaiter _ _ _).mp hx with h | h
    · rw [h]; exact hg.id
    · exact o.waitFresh x h
  · rcases (mem_insWaiter _ _ _).mp hx with h | h
    · rw [h]; exact hg.log
    · exact o.waitNotLogged x h

theorem place_ord (s : St) (g : G) (o : Ord s) (hg : Fresh s g) : Ord (place s g).1 := by
  unfold place; split
  · exact grantNow_ord s g o hg
  · exact enqueue_ord s g o hg

theorem step_ord (s : St) (op : Op) (o : Ord s) : Ord (step s op).1 := by
  cases op with
  | release id =>
    cases hf : s.active.find? (·.id == id) with
    | none => rw [step_release_none s id hf]; exact o
    | some g => rw [step_release_some s id g hf]; exact wake_ord _ (freed_ord g o)
  | acquire amt prio pre =>
    rw [step_acquire_seq]
    split
    · exact bump_ord o
    · have op := place_ord _ ⟨s.nextId, amt, prio⟩
        (tryPreempt_keeps pre amt prio _ (fun _ v _ o => evict1_ord v o) (bump_ord o))
        (tryPreempt_fresh pre amt prio (o.fresh amt prio))
      exact wakeIf_fst _ _ op (wake_ord _ op)

theorem run_ord (s : St) (ops : List Op) (o : Ord s) : Ord (run s ops) := by
  induction ops generalizing s with
  | nil => exact o
  | cons op os ih => exact ih _ (step_ord s op o)

end HappyModel.C09.Preempt
