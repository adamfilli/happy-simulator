import HappyProofs.C19.StreamGroup
import HappyProofs.C19.StreamLogLemmas
/-!
Offsets within a partition are gap-free and increasing, for every retention policy and assignment strategy: size retention
drops a prefix, age retention too because time stamps are nondecreasing under a monotone clock (`Clocked` carries the state
invariant `LInv` along such a schedule), and a poll walks the member's assigned partitions, which are distinct.
-/
namespace HappyModel.C19

/-- `tb`: no time stamp exceeds `T`, so that an append at `t ≥ T` keeps `ts` sorted — which is what makes age retention
    drop a prefix -/
structure LInv (cfg : SCfg) (s : Stream) (T : Nat) : Prop where
  pl : s.parts.length = cfg.n
  hl : s.hw.length = cfg.n
  ok : ∀ p, p < cfg.n → OkFrom (s.hwOf p) (s.part p)
  ts : ∀ p, p < cfg.n → (s.part p).Pairwise (fun a b => a.ts ≤ b.ts)
  tb : ∀ p, p < cfg.n → ∀ r ∈ s.part p, r.ts ≤ T
  grp : GInv s

theorem LInv.mono {cfg : SCfg} {s : Stream} {T T' : Nat} (h : LInv cfg s T) (hT : T ≤ T') :
    LInv cfg s T' :=
  { h with tb := fun p hp r hr => Nat.le_trans (h.tb p hp r hr) hT }

theorem part_init (n p : Nat) : (Stream.init n).part p = [] := by
  simp only [Stream.init, Stream.part, List.getD_eq_getElem?_getD, List.getElem?_replicate]
  split <;> rfl

theorem hwOf_init (n p : Nat) : (Stream.init n).hwOf p = 0 := by
  simp only [Stream.init, Stream.hwOf, List.getD_eq_getElem?_getD, List.getElem?_replicate]
  split <;> rfl

theorem log_init_inv (cfg : SCfg) : LInv cfg (Stream.init cfg.n) 0 := by
  refine ⟨by simp [Stream.init], by simp [Stream.init], ?_, ?_, ?_, List.nodup_nil, List.nodup_nil, List.nodup_nil⟩
  · intro p _; rw [part_init]; trivial
  · intro p _; rw [part_init]; exact List.Pairwise.nil
  · intro p _ r hr; rw [part_init] at hr; cases hr

theorem LInv.part_append {cfg : SCfg} {s : Stream} {T : Nat} (hi : LInv cfg s T) (hn : 0 < cfg.n) (t key h q : Nat) :
    (s.append cfg t key h).1.part q =
      if q = h % cfg.n then s.part (h % cfg.n) ++ [⟨s.hwOf (h % cfg.n), key, t⟩] else s.part q :=
  (getD_set s.parts _ q _ []).trans (by simp only [hi.pl, Nat.mod_lt _ hn, and_true]; rfl)

theorem LInv.hwOf_append {cfg : SCfg} {s : Stream} {T : Nat} (hi : LInv cfg s T) (hn : 0 < cfg.n) (t key h q : Nat) :
    (s.append cfg t key h).1.hwOf q = if q = h % cfg.n then s.hwOf (h % cfg.n) + 1 else s.hwOf q :=
  (getD_set s.hw _ q _ 0).trans (by simp only [hi.hl, Nat.mod_lt _ hn, and_true]; rfl)

theorem log_append_inv (cfg : SCfg) (hn : 0 < cfg.n) (s : Stream) (t key h : Nat) (hi : LInv cfg s t) :
    LInv cfg (s.append cfg t key h).1 t := by
  have hp : h % cfg.n < cfg.n := Nat.mod_lt _ hn
  refine { hi with grp := hi.grp.step cfg t (.append key h), pl := by simp [Stream.append, hi.pl],
                   hl := by simp [Stream.append, hi.hl], ok := ?_, ts := ?_, tb := ?_ }
  · intro q hq
    rw [hi.part_append hn, hi.hwOf_append hn]
    split
    · exact (hi.ok _ hp).snoc key t
    · exact hi.ok q hq
  · intro q hq
    rw [hi.part_append hn]
    split
    · refine List.pairwise_append.mpr ⟨hi.ts _ hp, List.pairwise_singleton _ _, ?_⟩
      intro a ha b hb
      rw [List.mem_singleton.mp hb]
      exact hi.tb _ hp a ha
    · exact hi.ts q hq
  · intro q hq r hr
    rw [hi.part_append hn] at hr
    split at hr
    · rcases List.mem_append.mp hr with hm | hm
      · exact hi.tb _ hp r hm
      · rw [List.mem_singleton.mp hm]; exact Nat.le_refl _
    · exact hi.tb q hq r hr

theorem part_retention (cfg : SCfg) (s : Stream) (t q : Nat) :
    (s.retention cfg t).part q = retainPart cfg.ret t (s.part q) := by
  simp only [Stream.retention, Stream.part, List.getD_eq_getElem?_getD, List.getElem?_map]
  cases s.parts[q]? with
  | none => cases cfg.ret <;> simp [retainPart]
  | some l => rfl

theorem log_retention_inv (cfg : SCfg) (s : Stream) (t : Nat) (hi : LInv cfg s t) :
    LInv cfg (s.retention cfg t) t := by
  have hd : ∀ q, q < cfg.n → ∃ k, (s.retention cfg t).part q = (s.part q).drop k := fun q hq => by
    rw [part_retention]; exact retainPart_eq_drop cfg.ret t (s.part q) (hi.ts q hq)
  refine { hi with pl := by simp [Stream.retention, hi.pl], ok := ?_, ts := ?_, tb := ?_, grp := hi.grp.step cfg t .retention }
  · intro q hq
    obtain ⟨k, hk⟩ := hd q hq
    rw [hk]
    exact (hi.ok q hq).drop k
  · intro q hq
    obtain ⟨k, hk⟩ := hd q hq
    rw [hk]
    exact (hi.ts q hq).sublist (List.drop_sublist _ _)
  · intro q hq r hr
    obtain ⟨k, hk⟩ := hd q hq
    rw [hk] at hr
    exact hi.tb q hq r (List.mem_of_mem_drop hr)

theorem log_step_hw (cfg : SCfg) (s : Stream) (t : Nat) (a : SAct) (ha : ∀ k h, a ≠ .append k h) :
    (s.step cfg t a).1.hw = s.hw := by
  cases a with
  | append key h => exact absurd rfl (ha key h)
  | commit c offs => exact commit_hw cfg s c offs
  | _ => rfl

theorem log_step_parts (cfg : SCfg) (s : Stream) (t : Nat) (a : SAct) (ha : ∀ k h, a ≠ .append k h)
    (hr : a ≠ .retention) : (s.step cfg t a).1.parts = s.parts := by
  cases a with
  | append key h => exact absurd rfl (ha key h)
  | retention => exact absurd rfl hr
  | commit c offs => exact commit_parts cfg s c offs
  | _ => rfl

theorem LInv.frame {cfg : SCfg} {s s' : Stream} {T : Nat} (hi : LInv cfg s T) (hp : s'.parts = s.parts)
    (hh : s'.hw = s.hw) (hg : GInv s') : LInv cfg s' T :=
  ⟨hp ▸ hi.pl, hh ▸ hi.hl, by simpa only [Stream.part, Stream.hwOf, hp, hh] using hi.ok,
    by simpa only [Stream.part, hp] using hi.ts, by simpa only [Stream.part, hp] using hi.tb, hg⟩

theorem log_step_inv (cfg : SCfg) (hn : 0 < cfg.n) (s : Stream) (t : Nat) (a : SAct)
    (hi : LInv cfg s t) : LInv cfg (s.step cfg t a).1 t := by
  have hg := hi.grp.step cfg t a
  cases a with
  | append key h => exact log_append_inv cfg hn s t key h hi
  | retention => exact log_retention_inv cfg s t hi
  | _ => exact hi.frame (log_step_parts cfg s t _ (by simp) (by simp)) (log_step_hw cfg s t _ (by simp)) hg

/-- schedule times never decrease (the engine's clock is monotone) -/
def TimesMono (sched : List (Nat × SAct)) : Prop := (sched.map (·.1)).Pairwise (· ≤ ·)

/-- the log invariant at some instant not after the rest of a schedule whose times never decrease -/
def Clocked (cfg : SCfg) (s : Stream) (sched : List (Nat × SAct)) : Prop :=
  ∃ T, LInv cfg s T ∧ (∀ x ∈ sched, T ≤ x.1) ∧ TimesMono sched

theorem Clocked.init (cfg : SCfg) {sched : List (Nat × SAct)} (ht : TimesMono sched) :
    Clocked cfg (Stream.init cfg.n) sched :=
  ⟨0, log_init_inv cfg, fun _ _ => Nat.zero_le _, ht⟩

theorem Clocked.step {cfg : SCfg} (hn : 0 < cfg.n) {s : Stream} {t : Nat} {a : SAct} {rest : List (Nat × SAct)}
    (h : Clocked cfg s ((t, a) :: rest)) : LInv cfg s t ∧ Clocked cfg (s.step cfg t a).1 rest := by
  obtain ⟨T, hi, hT, ht⟩ := h
  have hi' : LInv cfg s t := hi.mono (hT _ (List.mem_cons_self ..))
  obtain ⟨ht1, ht'⟩ := List.pairwise_cons.mp (show ((t :: rest.map (·.1)).Pairwise (· ≤ ·)) from ht)
  exact ⟨hi', t, log_step_inv cfg hn s t a hi', fun x hx => ht1 _ (List.mem_map.mpr ⟨x, hx, rfl⟩), ht'⟩

/-- `run_accepts` under a monotone clock, with `LInv` carried along -/
theorem stream_run_ok {σ : Type} (cfg : SCfg) (hn : 0 < cfg.n) (J : σ → List SRecd → Option String)
    (hnil : ∀ j, J j [] = none) (Rel : Stream → σ → Prop)
    (hstep : ∀ s j t a, LInv cfg s t → Rel s j →
      ∃ j', (∀ rs, J j (⟨t, a, (s.step cfg t a).2⟩ :: rs) = J j' rs) ∧ Rel (s.step cfg t a).1 j') :
    ∀ (sched : List (Nat × SAct)) (s : Stream) (j : σ), Clocked cfg s sched ∧ Rel s j →
      J j (Stream.run cfg s sched) = none :=
  run_accepts cfg J hnil (fun s j sched => Clocked cfg s sched ∧ Rel s j) fun s j t a _ ⟨hc, hr⟩ =>
    have ⟨hi, hc'⟩ := hc.step hn
    have ⟨j', hj, hr'⟩ := hstep s j t a hi hr
    ⟨j', hj, hc', hr'⟩

theorem jOffsets_run (cfg : SCfg) (hn : 0 < cfg.n) : ∀ (sched : List (Nat × SAct)) (s : Stream) (next : List (Nat × Nat)),
    Clocked cfg s sched ∧ (∀ p, p < cfg.n → nextOf next p = s.hwOf p) →
    jOffsets cfg.n next (Stream.run cfg s sched) = none := by
  refine stream_run_ok cfg hn (jOffsets cfg.n) (fun _ => rfl) (fun s next => ∀ p, p < cfg.n → nextOf next p = s.hwOf p) ?_
  intro s next t a hi hnx
  have keep : (∀ k h, a ≠ .append k h) → ∀ p, p < cfg.n → nextOf next p = (s.step cfg t a).1.hwOf p := fun hna p hp => by
    rw [hnx p hp, Stream.hwOf, Stream.hwOf, log_step_hw cfg s t a hna]
  have hall : ∀ recs : List (Nat × Nat), (∀ x ∈ recs, x.1 < cfg.n ∧ x.2 < s.hwOf x.1) →
      (recs.all fun po => decide (po.2 < nextOf next po.1)) = true := by
    intro recs h
    rw [List.all_eq_true]
    intro x hx
    rw [hnx _ (h x hx).1]
    exact decide_eq_true (h x hx).2
  cases a with
  | append key h =>
    have hp : h % cfg.n < cfg.n := Nat.mod_lt _ hn
    have hck : (decide (h % cfg.n < cfg.n) && s.hwOf (h % cfg.n) == nextOf next (h % cfg.n)) = true := by
      simp [hp, hnx _ hp]
    refine ⟨setNext next (h % cfg.n) (s.hwOf (h % cfg.n) + 1),
      fun rs => by simp only [Stream.step, Stream.append, jOffsets, hck, if_true], fun q hq => ?_⟩
    show nextOf (setNext next _ _) q = (s.append cfg t key h).1.hwOf q
    rw [nextOf_setNext, hi.hwOf_append hn]
    split
    · rfl
    · exact hnx q hq
  | read p off max =>
    refine ⟨next, fun rs => ?_, keep (by simp)⟩
    have hm := readPart_mem cfg s p off max (hi.ok p)
    have h1 := readPart_consecutive cfg s p off max (hi.ok p)
    have h2 := hall _ (fun x hx => by
      obtain ⟨e1, e2, _, e4⟩ := hm x hx
      rw [e1]; exact ⟨e2, e4⟩)
    have h3 : ((s.readPart cfg p off max).all fun po => po.1 == p && decide (off ≤ po.2)) = true := by
      rw [List.all_eq_true]
      intro x hx
      obtain ⟨e1, _, e3, _⟩ := hm x hx
      simp [e1, e3]
    simp only [Stream.step, jOffsets, h1, h2, h3, Bool.not_true, Bool.false_eq_true, if_false, if_true]
  | poll c max =>
    refine ⟨next, fun rs => ?_, keep (by simp)⟩
    obtain ⟨h1, hq⟩ := pollGo_ok cfg s c max hi.ok (s.mine c) [] (mine_nodup s c hi.grp.asg) rfl
      (fun x hx => by cases hx) (fun x hx => by cases hx)
    have h2 := hall _ hq
    simp only [Stream.step, jOffsets, h1, h2, Bool.not_true, Bool.false_eq_true, if_false]
  | _ => exact ⟨next, fun rs => by simp only [Stream.step, jOffsets], keep (by simp)⟩

theorem offsets_gap_free_increasing (cfg : SCfg) (hn : 0 < cfg.n) (sched : List (Nat × SAct))
    (ht : TimesMono sched) :
    jOffsets cfg.n [] (Stream.run cfg (Stream.init cfg.n) sched) = none := by
  refine jOffsets_run cfg hn sched _ [] ⟨Clocked.init cfg ht, fun p _ => ?_⟩
  rw [hwOf_init]; rfl

/-- non-vacuity: three partitions, several appends to one partition, reads, a size-retention sweep,
    a member that joins and polls its assigned partitions -/
example : jOffsets 3 [] (Stream.run {n := 3, ret := .size 2} (Stream.init 3)
    [(0, .append 7 4), (1, .append 8 4), (2, .append 9 4), (3, .append 5 2), (4, .read 1 0 5),
     (5, .retention), (6, .read 1 0 5), (7, .append 7 4), (8, .joinA 0), (9, .joinB 0),
     (10, .poll 0 10), (11, .read 1 3 0)]) = none := by decide +kernel

/-- the same with age retention under a monotone clock -/
example : jOffsets 2 [] (Stream.run {n := 2, ret := .age 3} (Stream.init 2)
    [(0, .append 7 1), (1, .append 8 1), (4, .append 9 1), (5, .retention), (5, .read 1 0 5),
     (6, .append 5 1), (7, .read 1 1 2)]) = none := by decide +kernel

/-- what those reads return: the survivors of the sweep, offsets increasing by one -/
example : (Stream.run {n := 2, ret := .age 3} (Stream.init 2)
    [(0, .append 7 1), (1, .append 8 1), (4, .append 9 1), (5, .retention), (5, .read 1 0 5),
     (6, .append 5 1), (7, .read 1 1 2)]).map (·.out) =
    [.appended 1 0, .appended 1 1, .appended 1 2, .total 1 [[], [2]], .records [(1, 2)], .appended 1 3,
     .records [(1, 2), (1, 3)]] := by decide +kernel

/-- the judge does reject a trace with a gap -/
example : jOffsets 2 [] [⟨0, .append 7 1, .appended 1 0⟩, ⟨1, .append 7 1, .appended 1 2⟩]
    = some "log/offsets/not-gap-free" := by decide +kernel
example : jOffsets 2 [(1, 5)] [⟨0, .read 1 0 5, .records [(1, 2), (1, 4)]⟩]
    = some "log/read/offsets-not-increasing-by-one" := by decide +kernel

end HappyModel.C19
