import HappyProofs.C12.PxInv
/-!
The atomic changes a message handler of `Px.step` makes, as state transformers, each with the hypotheses under which it
keeps `Inv`.  A proposer's own promise and own vote are deliveries to itself, so `beginBallot` and `startPhase2` are
compositions of these transformers after a broadcast (`PxBallot`).
-/
namespace HappyModel.C12.Px

theorem upd_apply {β} (f : Nat → β) (i : Nat) (x : β) (j : Nat) : upd f i x j = if j = i then x else f j := rfl

theorem upd2_apply {β} (f : Nat → Nat → β) (i j : Nat) (x : β) (a b : Nat) :
    upd2 f i j x a b = if a = i ∧ b = j then x else f a b := rfl

theorem upd2_other {β} (f : Nat → Nat → β) (i j : Nat) (x : β) (a b : Nat) (h : b ≠ j) : upd2 f i j x a b = f a b := by
  rw [upd2_apply, if_neg (fun e => h e.2)]

theorem upd_upd {β} (f : Nat → β) (i : Nat) (x y : β) : upd (upd f i x) i y = upd f i y := by
  funext j; simp only [upd_apply]; split <;> rfl

theorem upd2_upd2 {β} {f : Nat → Nat → β} {i j : Nat} {y : β} (h : f i j = y) (x : β) :
    upd2 (upd2 f i j x) i j y = f := by
  funext a b; simp only [upd2_apply]; split
  · rename_i e; rw [e.1, e.2, h]
  · rfl

/-- a broadcast to everybody with the copy addressed to `j` taken out again; the `True` is what the destination filter
    `fun _ => True` of `openSt1` / `openSt2` unfolds to -/
theorem bcast_upd2 {β} {f : Nat → Nat → β} {i j : Nat} {y : β} (h : f i j = y) (n : Nat) (x : β) :
    upd2 (fun a c => if a = i ∧ True ∧ c < n then x else f a c) i j y =
      fun a c => if a = i ∧ c ≠ j ∧ c < n then x else f a c := by
  funext a c; simp only [upd2_apply]
  by_cases ha : a = i <;> by_cases hc : c = j <;> simp [ha, hc, h]

theorem upd2_ne {β} {f : Nat → Nat → β} {i j a b : Nat} {x y : β} (h : upd2 f i j x a b = y) (hxy : x ≠ y) :
    f a b = y ∧ ¬ (a = i ∧ b = j) := by
  rw [upd2_apply] at h; split at h
  · exact absurd h hxy
  · exact ⟨h, by assumption⟩

theorem upd2_of {β} {f : Nat → Nat → β} {i j a b : Nat} {x : β} (h : f a b = x) : upd2 f i j x a b = x := by
  rw [upd2_apply]; split <;> simp [h]

theorem leOpt_some {p : Option Nat} {b q : Nat} (h : leOpt p b) (hq : p = some q) : q ≤ b := by
  subst hq; simpa [leOpt] using h

theorem ltOpt_some {p : Option Nat} {b q : Nat} (h : ltOpt p b) (hq : p = some q) : q < b := by
  subst hq; simpa [ltOpt] using h

def clearPrep (s : St) (b d : Nat) : St := { s with mPrep := upd2 s.mPrep b d false }
def clearProm (s : St) (b f : Nat) : St := { s with mProm := upd2 s.mProm b f none }
def clearAcpt (s : St) (b d : Nat) : St := { s with mAcpt := upd2 s.mAcpt b d none }
def clearAcptd (s : St) (b f : Nat) : St := { s with mAcptd := upd2 s.mAcptd b f false }
def clearDec (s : St) (f d : Nat) : St := { s with mDec := upd2 s.mDec f d none }

theorem Inv.frame {s s' : St} (h : Inv s) (e1 : s'.view1 = s.view1) (e2 : s'.view2 = s.view2)
    (e3 : s'.viewSem = s.viewSem) (e4 : s'.decided = s.decided) (e5 : s'.mDec = s.mDec) : Inv s' :=
  ⟨h.n1.frame e1, h.n2.frame e2, h.sem.frame e3,
   h.learn.frame (congrArg (·.1) e1) e4 e5 (fun _ hx => (congrArg (·.2.1) e3 : s'.votes = s.votes) ▸ hx)⟩

theorem Inv.clearPrep {s : St} (inv : Inv s) (b d : Nat) : Inv (clearPrep s b d) := by
  refine ⟨⟨?_, inv.n1.prom, inv.n1.p1, ?_⟩, inv.n2.frame rfl, inv.sem.frame rfl, inv.learn.frame rfl rfl rfl (fun _ h => h)⟩
  · intro b' d' hb; exact inv.n1.prep b' d' (upd2_ne hb nofun).1
  · intro b' hb'
    obtain ⟨a1, a2⟩ := inv.n1.fresh b' hb'
    exact ⟨a1, fun d' => ⟨upd2_of (a2 d').1, (a2 d').2⟩⟩

theorem Inv.clearProm {s : St} (inv : Inv s) (b f : Nat) : Inv (clearProm s b f) := by
  refine ⟨⟨?_, ?_, inv.n1.p1, ?_⟩, inv.n2.frame rfl, inv.sem.frame rfl, inv.learn.frame rfl rfl rfl (fun _ h => h)⟩
  · intro b' d' hb
    obtain ⟨a1, a2, a3⟩ := inv.n1.prep b' d' hb
    exact ⟨a1, upd2_of a2, a3⟩
  · intro b' f' r hb; exact inv.n1.prom b' f' r (upd2_ne hb nofun).1
  · intro b' hb'
    obtain ⟨a1, a2⟩ := inv.n1.fresh b' hb'
    exact ⟨a1, fun d' => ⟨(a2 d').1, upd2_of (a2 d').2⟩⟩

theorem Inv.clearAcpt {s : St} (inv : Inv s) (b d : Nat) : Inv (clearAcpt s b d) := by
  refine ⟨inv.n1.frame rfl, ⟨?_, ?_, inv.n2.acptd, inv.n2.acks, inv.n2.fresh⟩, inv.sem.frame rfl,
    inv.learn.frame rfl rfl rfl (fun _ h => h)⟩
  · intro b' hb'
    obtain ⟨a1, a2⟩ := inv.n2.none_ b' hb'
    exact ⟨a1, fun d' => ⟨upd2_of (a2 d').1, (a2 d').2⟩⟩
  · intro b' d' v hb; exact inv.n2.acpt b' d' v (upd2_ne hb nofun).1

theorem Inv.clearAcptd {s : St} (inv : Inv s) (b f : Nat) : Inv (clearAcptd s b f) := by
  refine ⟨inv.n1.frame rfl, ⟨?_, ?_, ?_, inv.n2.acks, inv.n2.fresh⟩, inv.sem.frame rfl,
    inv.learn.frame rfl rfl rfl (fun _ h => h)⟩
  · intro b' hb'
    obtain ⟨a1, a2⟩ := inv.n2.none_ b' hb'
    exact ⟨a1, fun d' => ⟨(a2 d').1, upd2_of (a2 d').2⟩⟩
  · intro b' d' v hb
    obtain ⟨a1, a2, a3, a4⟩ := inv.n2.acpt b' d' v hb
    exact ⟨a1, upd2_of a2, a3, a4⟩
  · intro b' f' hb; exact inv.n2.acptd b' f' (upd2_ne hb nofun).1

theorem Inv.clearDec {s : St} (inv : Inv s) (f d : Nat) : Inv (clearDec s f d) :=
  ⟨inv.n1.frame rfl, inv.n2.frame rfl, inv.sem.frame rfl,
   inv.learn.node, fun f' d' v hb => inv.learn.msg f' d' v (upd2_ne hb nofun).1⟩

def learnSt (s : St) (d : Nat) (v : Val) : St := { s with decided := upd s.decided d (some v) }

theorem Inv.adopt {s : St} (inv : Inv s) {f d : Nat} {v : Val} (hv : s.mDec f d = some v) : Inv (learnSt s d v) := by
  refine ⟨inv.n1.frame rfl, inv.n2.frame rfl, inv.sem.frame rfl, ⟨fun d' v' hd' => ?_, inv.learn.msg⟩⟩
  simp only [learnSt, upd_apply] at hd'
  split at hd'
  · cases hd'; exact inv.learn.msg f d v hv
  · exact inv.learn.node d' v' hd'

theorem decide_inv {s : St} (inv : Inv s) (b0 : Nat) (v : Val) (hc : ∃ b, Chosen s b v) :
    Inv (decide_ s b0 v) := by
  unfold decide_
  split
  · exact inv
  · refine ⟨inv.n1.frame rfl, inv.n2.frame rfl, inv.sem.frame rfl, ⟨?_, ?_⟩⟩
    · intro d' v' hd'
      simp only [upd_apply] at hd'
      split at hd'
      · cases hd'; exact hc
      · exact inv.learn.node d' v' hd'
    · intro f d' v' hd'
      simp only [] at hd'
      split at hd'
      · cases hd'; exact hc
      · exact inv.learn.msg f d' v' hd'

theorem chosen_of_acks {s : St} (n2 : Net2 s) {b : Nat} {v : Val} (hst : s.started2 b = some v)
    (hq : s.cfg.q2 ≤ (s.acks b).length) : Chosen s b v := by
  refine ⟨s.acks b, (n2.acks b).1, fun a ha => ?_, hq⟩
  obtain ⟨c1, v', c2, c3⟩ := (n2.acks b).2 a ha
  rw [hst] at c2; cases c2
  exact ⟨c1, c3⟩

theorem promised_upd {s : St} {b d : Nat} (hle : leOpt (s.acc d).promised b) (x : Acceptor) (hx : x.promised = some b)
    (a q : Nat) (hq : (s.acc a).promised = some q) : ∃ q', ((upd s.acc d x) a).promised = some q' ∧ q ≤ q' := by
  rw [upd_apply]; split
  · rename_i had; subst had; exact ⟨b, hx, leOpt_some hle hq⟩
  · exact ⟨q, hq, Nat.le_refl _⟩

theorem PromGe.mono {s s' : St} {a c : Nat}
    (hp : ∀ q, (s.acc a).promised = some q → ∃ q', (s'.acc a).promised = some q' ∧ q ≤ q') (h : PromGe s a c) :
    PromGe s' a c := by
  obtain ⟨q, hq, hqc⟩ := h
  obtain ⟨q', h1, h2⟩ := hp q hq
  exact ⟨q', h1, by omega⟩

/-- acceptor `d` answers `Prepare(b)` with a promise -/
def promiseSt (s : St) (b d : Nat) : St :=
  { s with mPrep := upd2 s.mPrep b d false, acc := upd s.acc d { (s.acc d) with promised := some b },
           proms := (d, b, (s.acc d).accepted) :: s.proms, mProm := upd2 s.mProm b d (some (s.acc d).accepted) }

/-- the owner of `b` counts the promise `r` of `f` -/
def countSt (s : St) (b f : Nat) (r : AccV) : St :=
  { s with mProm := upd2 s.mProm b f none, p1 := upd s.p1 b ((f, r) :: s.p1 b) }

theorem Sem.promise {s : St} (h : Sem s) {b d : Nat} (hdn : d < s.cfg.n) (hle : leOpt (s.acc d).promised b) :
    Sem (promiseSt s b d) := by
  unfold promiseSt
  have hp := promised_upd hle { (s.acc d) with promised := some b } rfl
  have hge : ∀ a c, PromGe s a c → PromGe (promiseSt s b d) a c := fun a c => PromGe.mono (hp a)
  have hacc : ∀ a, ((upd s.acc d { (s.acc d) with promised := some b }) a).accepted = (s.acc a).accepted := by
    intro a; rw [upd_apply]; split
    · rename_i had; rw [had]
    · rfl
  refine ⟨h.one, ?_, ?_, ?_, ?_, ?_⟩
  · intro a b' v' hv'
    exact ⟨(h.vprom a b' v' hv').1, hge a b' (h.vprom a b' v' hv').2⟩
  · intro a b' v' hacc'; rw [hacc] at hacc'; exact h.vacc a b' v' hacc'
  · intro a b' v' hv'; simp only [hacc]; exact h.vmax a b' v' hv'
  · intro f b0 r hpr
    rcases List.mem_cons.mp hpr with hnw | hold
    · simp only [Prod.mk.injEq] at hnw
      obtain ⟨rfl, rfl, rfl⟩ := hnw
      refine ⟨hdn, ⟨b0, by simp, Nat.le_refl _⟩, fun b' v' hv' _ => h.vmax f b' v' hv', ?_⟩
      intro bm vm hr
      have hv := h.vacc f bm vm hr
      obtain ⟨_, q, hq, hqb⟩ := h.vprom f bm vm hv
      exact ⟨hv, by have := leOpt_some hle hq; omega⟩
    · obtain ⟨a1, a2, a3, a4⟩ := h.pr f b0 r hold
      exact ⟨a1, hge f b0 a2, a3, a4⟩
  · intro b' v' hs'
    exact safeAt_mono (s := s) rfl (fun _ hx => hx) hp (fun _ _ _ hx => Or.inl hx) (h.safe b' v' hs')

theorem Inv.promise {s : St} (inv : Inv s) {b d : Nat} (hslot : s.mPrep b d = true) (hdn : d < s.cfg.n)
    (hle : leOpt (s.acc d).promised b) : Inv (promiseSt s b d) := by
  obtain ⟨_, hnoprom, hnotin⟩ := inv.n1.prep b d hslot
  refine ⟨⟨?_, ?_, ?_, ?_⟩, inv.n2.frame rfl, inv.sem.promise hdn hle,
          inv.learn.frame rfl rfl rfl (fun _ h => h)⟩
  · intro b' d' hb'
    obtain ⟨hb1, hb2⟩ := upd2_ne hb' nofun
    obtain ⟨a1, a2, a3⟩ := inv.n1.prep b' d' hb1
    exact ⟨a1, by show upd2 _ _ _ _ _ _ = _; rw [upd2_apply, if_neg hb2]; exact a2, a3⟩
  · intro b' f' r hb'
    simp only [promiseSt, upd2_apply] at hb'
    split at hb'
    · rename_i h; obtain ⟨rfl, rfl⟩ := h
      cases hb'
      exact ⟨hdn, hnotin, List.mem_cons_self⟩
    · obtain ⟨a1, a2, a3⟩ := inv.n1.prom b' f' r hb'
      exact ⟨a1, a2, List.mem_cons_of_mem _ a3⟩
  · intro b'
    obtain ⟨a1, a2⟩ := inv.n1.p1 b'
    exact ⟨a1, fun f r hfr => ⟨(a2 f r hfr).1, List.mem_cons_of_mem _ (a2 f r hfr).2⟩⟩
  · intro b' hb'
    obtain ⟨a1, a2⟩ := inv.n1.fresh b' hb'
    refine ⟨a1, fun d' => ⟨upd2_of (a2 d').1, ?_⟩⟩
    show upd2 _ _ _ _ _ _ = _
    rw [upd2_apply]; split
    · rename_i h; obtain ⟨rfl, rfl⟩ := h
      have := (a2 d').1; rw [hslot] at this; cases this
    · exact (a2 d').2

theorem Inv.count {s : St} (inv : Inv s) {b f : Nat} {r : AccV} (hslot : s.mProm b f = some r)
    (hown : s.ownVal b ≠ none) : Inv (countSt s b f r) := by
  obtain ⟨hfn, hfnot, hfpr⟩ := inv.n1.prom b f r hslot
  refine ⟨⟨?_, ?_, ?_, ?_⟩, inv.n2.frame rfl, inv.sem.frame rfl, inv.learn.frame rfl rfl rfl (fun _ h => h)⟩
  · intro b' d' hb'
    obtain ⟨a1, a2, a3⟩ := inv.n1.prep b' d' hb'
    refine ⟨a1, upd2_of a2, ?_⟩
    simp only [countSt, upd_apply]
    split
    · rename_i hbb; subst hbb
      simp only [List.map_cons, List.mem_cons, not_or]
      exact ⟨fun hdf => (by subst hdf; rw [hslot] at a2; cases a2), a3⟩
    · exact a3
  · intro b' f' r' hb'
    obtain ⟨hb1, hb2⟩ := upd2_ne hb' nofun
    obtain ⟨a1, a2, a3⟩ := inv.n1.prom b' f' r' hb1
    refine ⟨a1, ?_, a3⟩
    simp only [countSt, upd_apply]
    split
    · rename_i hbb; subst hbb
      simp only [List.map_cons, List.mem_cons, not_or]
      exact ⟨fun hff => hb2 ⟨rfl, hff⟩, a2⟩
    · exact a2
  · intro b'
    simp only [countSt, upd_apply]
    split
    · rename_i hbb; subst hbb
      obtain ⟨a1, a2⟩ := inv.n1.p1 b'
      refine ⟨List.nodup_cons.mpr ⟨hfnot, a1⟩, ?_⟩
      intro f' r' hm
      rcases List.mem_cons.mp hm with hm | hm
      · cases hm; exact ⟨hfn, hfpr⟩
      · exact a2 f' r' hm
    · exact inv.n1.p1 b'
  · intro b' hb'
    have hbb : b' ≠ b := by intro h; subst h; exact hown hb'
    obtain ⟨a1, a2⟩ := inv.n1.fresh b' hb'
    exact ⟨by simp only [countSt, upd_other _ _ _ _ hbb]; exact a1, fun d' => ⟨(a2 d').1, upd2_of (a2 d').2⟩⟩

/-- acceptor `d` accepts `Accept(b, v)` -/
def voteSt (s : St) (b d : Nat) (v : Val) : St :=
  { s with mAcpt := upd2 s.mAcpt b d none, acc := upd s.acc d { promised := some b, accepted := some (b, v) },
           votes := (d, b, v) :: s.votes, mAcptd := upd2 s.mAcptd b d true }

/-- the owner of `b` counts the `Accepted` of `f` -/
def ackSt (s : St) (b f : Nat) : St :=
  { s with mAcptd := upd2 s.mAcptd b f false, acks := upd s.acks b (f :: s.acks b) }

theorem voted_voteSt {s : St} {b d a b' : Nat} {v v' : Val} :
    Voted (voteSt s b d v) a b' v' ↔ (a = d ∧ b' = b ∧ v' = v) ∨ Voted s a b' v' := by
  simp [Voted, voteSt]

theorem Sem.vote {s : St} (h : Sem s) {b d : Nat} {v : Val} (hdn : d < s.cfg.n)
    (hle : leOpt (s.acc d).promised b) (hst : s.started2 b = some v) : Sem (voteSt s b d v) := by
  have hvsub : ∀ x, x ∈ s.votes → x ∈ (voteSt s b d v).votes := fun x hx => List.mem_cons_of_mem _ hx
  have hp : ∀ a q, (s.acc a).promised = some q → ∃ q', ((voteSt s b d v).acc a).promised = some q' ∧ q ≤ q' :=
    promised_upd hle { promised := some b, accepted := some (b, v) } rfl
  have hge : ∀ a c, PromGe s a c → PromGe (voteSt s b d v) a c := fun a c => PromGe.mono (hp a)
  -- an earlier vote of `d` is for a ballot it had promised, hence at most `b`
  have hold : ∀ b' v', Voted s d b' v' → b' ≤ b := by
    intro b' v' hv'
    obtain ⟨_, q, hq, hqb⟩ := h.vprom d b' v' hv'
    have := leOpt_some hle hq; omega
  refine ⟨?_, ?_, ?_, ?_, ?_, ?_⟩
  · intro a b' v' hv'
    rcases voted_voteSt.mp hv' with ⟨_, rfl, rfl⟩ | hv'
    · exact hst
    · exact h.one a b' v' hv'
  · intro a b' v' hv'
    rcases voted_voteSt.mp hv' with ⟨rfl, rfl, rfl⟩ | hv'
    · exact ⟨hdn, b', by simp [voteSt], Nat.le_refl _⟩
    · exact ⟨(h.vprom a b' v' hv').1, hge a b' (h.vprom a b' v' hv').2⟩
  · intro a b' v' hacc
    simp only [voteSt, upd_apply] at hacc
    split at hacc
    · rename_i had; cases hacc; exact voted_voteSt.mpr (Or.inl ⟨had, rfl, rfl⟩)
    · exact hvsub _ (h.vacc a b' v' hacc)
  · intro a b' v' hv'
    simp only [voteSt, upd_apply]
    split
    · rename_i had; subst had
      refine ⟨b, v, rfl, ?_⟩
      rcases voted_voteSt.mp hv' with ⟨_, rfl, _⟩ | hv'
      · exact Nat.le_refl _
      · exact hold b' v' hv'
    · rename_i had
      rcases voted_voteSt.mp hv' with ⟨rfl, _⟩ | hv'
      · exact absurd rfl had
      · exact h.vmax a b' v' hv'
  · intro f b0 r hpr
    obtain ⟨a1, a2, a3, a4⟩ := h.pr f b0 r hpr
    refine ⟨a1, hge f b0 a2, ?_, fun bm vm hr => ⟨hvsub _ (a4 bm vm hr).1, (a4 bm vm hr).2⟩⟩
    intro b' v' hv' hlt
    rcases voted_voteSt.mp hv' with ⟨rfl, rfl, rfl⟩ | hv'
    · obtain ⟨q, hq, hqb⟩ := a2
      have := leOpt_some hle hq; omega
    · exact a3 b' v' hv' hlt
  · intro b' v' hs'
    refine safeAt_mono (s := s) rfl hvsub hp ?_ (h.safe b' v' hs')
    intro a c v'' hx
    rcases voted_voteSt.mp hx with ⟨rfl, rfl, rfl⟩ | hx
    · right; intro ⟨q, hq, hlt⟩
      have := leOpt_some hle hq; omega
    · exact Or.inl hx

theorem Inv.vote {s : St} (inv : Inv s) {b d : Nat} {v : Val} (hslot : s.mAcpt b d = some v) (hdn : d < s.cfg.n)
    (hle : leOpt (s.acc d).promised b) : Inv (voteSt s b d v) := by
  obtain ⟨hst, hnoad, hnack, hnovote⟩ := inv.n2.acpt b d v hslot
  have hvsub : ∀ x, x ∈ s.votes → x ∈ (d, b, v) :: s.votes := fun x hx => List.mem_cons_of_mem _ hx
  refine ⟨inv.n1.frame rfl, ⟨?_, ?_, ?_, ?_, inv.n2.fresh⟩,
          inv.sem.vote hdn hle hst, inv.learn.frame rfl rfl rfl hvsub⟩
  · intro b' hb'
    obtain ⟨a1, a2⟩ := inv.n2.none_ b' hb'
    refine ⟨a1, fun d' => ⟨upd2_of (a2 d').1, ?_⟩⟩
    show upd2 _ _ _ _ _ _ = _
    rw [upd2_apply]; split
    · rename_i h; obtain ⟨rfl, rfl⟩ := h; rw [show s.started2 b' = none from hb'] at hst; cases hst
    · exact (a2 d').2
  · intro b' d' v' hb'
    obtain ⟨hb1, hb2⟩ := upd2_ne hb' nofun
    obtain ⟨a1, a2, a3, a4⟩ := inv.n2.acpt b' d' v' hb1
    refine ⟨a1, ?_, a3, ?_⟩
    · show upd2 _ _ _ _ _ _ = _
      rw [upd2_apply, if_neg hb2]; exact a2
    · intro v'' hv''
      rcases voted_voteSt.mp hv'' with ⟨h1, h2, _⟩ | hv''
      · exact hb2 ⟨h2, h1⟩
      · exact a4 v'' hv''
  · intro b' f' hb'
    simp only [voteSt, upd2_apply] at hb'
    split at hb'
    · rename_i h; obtain ⟨rfl, rfl⟩ := h
      exact ⟨hdn, hnack, v, hst, List.mem_cons_self⟩
    · obtain ⟨a1, a2, v', a3, a4⟩ := inv.n2.acptd b' f' hb'
      exact ⟨a1, a2, v', a3, hvsub _ a4⟩
  · intro b'
    obtain ⟨a1, a2⟩ := inv.n2.acks b'
    refine ⟨a1, fun f hf => ?_⟩
    obtain ⟨c1, v', c2, c3⟩ := a2 f hf
    exact ⟨c1, v', c2, hvsub _ c3⟩

theorem Inv.ack {s : St} (inv : Inv s) {b f : Nat} (hslot : s.mAcptd b f = true) : Inv (ackSt s b f) := by
  obtain ⟨hfn, hfa, v, hst, hvo⟩ := inv.n2.acptd b f hslot
  refine ⟨inv.n1.frame rfl, ⟨?_, ?_, ?_, ?_, inv.n2.fresh⟩, inv.sem.frame rfl, inv.learn.frame rfl rfl rfl (fun _ h => h)⟩
  · intro b' hb'
    have hbb : b' ≠ b := by intro h; subst h; rw [show s.started2 b' = none from hb'] at hst; cases hst
    obtain ⟨a1, a2⟩ := inv.n2.none_ b' hb'
    exact ⟨by simp only [ackSt, upd_other _ _ _ _ hbb]; exact a1, fun d' => ⟨(a2 d').1, upd2_of (a2 d').2⟩⟩
  · intro b' d' v' hb'
    obtain ⟨a1, a2, a3, a4⟩ := inv.n2.acpt b' d' v' hb'
    refine ⟨a1, upd2_of a2, ?_, a4⟩
    simp only [ackSt, upd_apply]
    split
    · rename_i hbb; subst hbb
      simp only [List.mem_cons, not_or]
      exact ⟨fun hdf => (by subst hdf; rw [hslot] at a2; cases a2), a3⟩
    · exact a3
  · intro b' f' hb'
    obtain ⟨hb1, hb2⟩ := upd2_ne hb' nofun
    obtain ⟨a1, a2, a3⟩ := inv.n2.acptd b' f' hb1
    refine ⟨a1, ?_, a3⟩
    simp only [ackSt, upd_apply]
    split
    · rename_i hbb; subst hbb
      simp only [List.mem_cons, not_or]
      exact ⟨fun hff => hb2 ⟨rfl, hff⟩, a2⟩
    · exact a2
  · intro b'
    simp only [ackSt, upd_apply]
    split
    · rename_i hbb; subst hbb
      obtain ⟨a1, a2⟩ := inv.n2.acks b'
      refine ⟨List.nodup_cons.mpr ⟨hfa, a1⟩, fun f' hf' => ?_⟩
      rcases List.mem_cons.mp hf' with rfl | hf'
      · exact ⟨hfn, v, hst, hvo⟩
      · exact a2 f' hf'
    · exact inv.n2.acks b'

end HappyModel.C12.Px
