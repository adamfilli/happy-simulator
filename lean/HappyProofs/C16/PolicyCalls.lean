import HappyModel.C16.PolicySpec
import HappyProofs.C16.PolicyContainers
/-!
Set-like behaviour of every policy call, for all nine policies at once by cases on `Pol`: each case
is the law of the policy's container.  `clear()` yields the state the constructor yields, so a call
sequence containing a `clear` behaves, from that call on, like the rest of the sequence on a fresh policy.
-/
namespace HappyModel.C16

theorem Pol.inv_tracked_nodup (p : Pol) (h : p.Inv) : p.tracked.Nodup := by
  cases p with
  | clock s => exact h.1
  | _ => exact h

theorem Pol.access_law (p : Pol) (h : p.Inv) (k : Key) :
    (p.access k).Inv ∧ ∀ x, x ∈ (p.access k).tracked ↔ x ∈ p.tracked := by
  have same : p.Inv ∧ ∀ x, x ∈ p.tracked ↔ x ∈ p.tracked := ⟨h, fun _ => Iff.rfl⟩
  cases p with
  | ttl s | fifo s | rnd s => exact same
  | lru s =>
    simp only [Pol.access, LRU.access]
    split
    · exact ⟨nodup_erase_append h, mem_erase_append h ‹_›⟩
    · exact same
  | lfu s =>
    simp only [Pol.access, LFU.access]
    split
    · rename_i c hc
      show (akeys (aset s.counts k (c + 1))).Nodup ∧ ∀ x, x ∈ akeys (aset s.counts k (c + 1)) ↔ _
      rw [akeys_aset_mem _ _ _ (mem_akeys_of_some _ _ _ hc)]
      exact same
    · exact same
  | sampled s =>
    simp only [Pol.access, Sampled.access]
    split
    · rename_i hk
      show (akeys (aset s.times k (s.clock + 1))).Nodup ∧ ∀ x, x ∈ akeys (aset s.times k (s.clock + 1)) ↔ _
      rw [akeys_aset_mem _ _ _ hk]
      exact same
    · exact same
  | slru s =>
    simp only [Pol.access, SLRU.access]
    split
    · rename_i hk; exact two_move h (List.mem_append_left _ hk)
    · split
      · rename_i hk; exact two_move_right h hk
      · exact same
  | twoq s =>
    simp only [Pol.access, TwoQ.access]
    split
    · rename_i hk; exact two_move_right h hk
    · exact same
  | clock s => exact clock_access s h k

/-- `hk`: the protocol `CachedStore._cache_put` follows -/
theorem Pol.insert_law (p : Pol) (h : p.Inv) (k now : Nat) (hk : k ∉ p.tracked) :
    (p.insert k now).Inv ∧ ∀ x, x ∈ (p.insert k now).tracked ↔ x = k ∨ x ∈ p.tracked := by
  cases p with
  | lru s | fifo s | rnd s =>
    simp only [Pol.insert, LRU.insert, FIFO.insert, Rnd.insert]
    split
    · exact absurd ‹_› hk
    · exact list_insert_law h hk
  | lfu s | ttl s | sampled s => exact aset_insert_law _ _ _ h hk
  | slru s =>
    simp only [Pol.insert, SLRU.insert, if_neg (fun hp : k ∈ s.prob => hk (List.mem_append_left _ hp))]
    exact two_insert_mid h hk
  | twoq s =>
    simp only [Pol.insert, TwoQ.insert]
    split
    · rw [if_neg (fun hp => hk (List.mem_append_right _ hp))]
      exact two_insert_right h hk
    · exact two_insert_mid h hk
  | clock s => exact clock_insert s h k now hk

theorem Pol.remove_law (p : Pol) (h : p.Inv) (k : Key) :
    (p.remove k).Inv ∧ ∀ x, x ∈ (p.remove k).tracked ↔ x ∈ p.tracked ∧ x ≠ k := by
  cases p with
  | lru s | fifo s | rnd s => exact list_remove_law k h
  | lfu s | ttl s | sampled s => exact adel_remove_law _ _ h
  | slru s | twoq s => exact two_remove k h
  | clock s => exact clock_remove s h k

/-- Clock moves its hand and clears reference bits while it looks for a victim and 2Q remembers the victim in its
    ghost queue; the other seven policies evict by choosing a tracked key and doing what `on_remove` does -/
def Kind.evictRemoves : Kind → Bool
  | .clock | .twoq => false
  | _ => true

theorem Pol.evict_choice (p : Pol) (h : p.Inv) (hk : p.kind.evictRemoves = true) (now : Nat) (pick : List Key) :
    (p.tracked = [] ∧ p.evict now pick = (none, p)) ∨
      ∃ k ∈ p.tracked, p.evict now pick = (some k, p.remove k) := by
  cases p with
  | clock s | twoq s => cases hk
  | lru s | fifo s =>
    obtain ⟨l⟩ := s
    cases l with
    | nil => exact Or.inl ⟨rfl, rfl⟩
    | cons a r =>
      exact Or.inr ⟨a, List.mem_cons_self, by simp [Pol.evict, Pol.remove, LRU.evict, LRU.remove, FIFO.evict, FIFO.remove]⟩
  | slru s =>
    obtain ⟨a, b⟩ := s
    cases a with
    | cons c r =>
      have hc : c ∉ b := fun hb => (List.nodup_append.mp h).2.2 c List.mem_cons_self c hb rfl
      exact Or.inr ⟨c, List.mem_cons_self, by simp [Pol.evict, Pol.remove, SLRU.evict, SLRU.remove, List.erase_of_not_mem hc]⟩
    | nil =>
      cases b with
      | nil => exact Or.inl ⟨rfl, rfl⟩
      | cons c r => exact Or.inr ⟨c, List.mem_cons_self, by simp [Pol.evict, Pol.remove, SLRU.evict, SLRU.remove]⟩
  | rnd s =>
    cases hc : s.choose pick with
    | none => exact Or.inl ⟨(rnd_choose_none s pick).mp hc, by simp only [Pol.evict, Rnd.evict, hc]⟩
    | some c => exact Or.inr ⟨c, rnd_choose_mem s pick c hc, by simp only [Pol.evict, Rnd.evict, hc]; rfl⟩
  | lfu s =>
    cases hc : argminFirst s.counts with
    | none =>
      exact Or.inl ⟨by rw [Pol.tracked, (argminFirst_eq_none _).mp hc]; rfl, by simp only [Pol.evict, LFU.evict, hc]⟩
    | some c =>
      exact Or.inr ⟨c.1, mem_akeys_of_mem (argminFirst_spec _ _ hc).1, by simp only [Pol.evict, LFU.evict, hc]; rfl⟩
  | ttl s =>
    cases hc : s.victim now with
    | none =>
      exact Or.inl ⟨by rw [Pol.tracked, (ttl_victim_none _ _).mp hc]; rfl, by simp only [Pol.evict, TTL.evict, hc]⟩
    | some c =>
      exact Or.inr ⟨c.1, mem_akeys_of_mem (ttl_victim_mem _ _ _ hc), by simp only [Pol.evict, TTL.evict, hc]; rfl⟩
  | sampled s =>
    cases hc : argminFirst (s.sample pick) with
    | none =>
      exact Or.inl ⟨by rw [Pol.tracked, (sampled_sample_nil s pick).mp ((argminFirst_eq_none _).mp hc)]; rfl,
        by simp only [Pol.evict, Sampled.evict, hc]⟩
    | some c =>
      exact Or.inr ⟨c.1, mem_akeys_of_mem (sampled_sample_mem _ _ _ (argminFirst_spec _ _ hc).1),
        by simp only [Pol.evict, Sampled.evict, hc]; rfl⟩

theorem Pol.evictOk (p : Pol) (h : p.Inv) (now : Nat) (pick : List Key) : EvictOk p now pick := by
  cases p with
  | clock s => exact clock_evict s h now pick
  | twoq s =>
    obtain ⟨a, o, b⟩ := s
    cases a with
    | cons c r => exact evictOk_head rfl List.mem_cons_self (list_head_law h)
    | nil =>
      cases b with
      | nil => exact evictOk_none rfl rfl
      | cons c r => exact evictOk_head rfl List.mem_cons_self (list_head_law h)
  | _ =>
    obtain ⟨ht, e⟩ | ⟨k, hk, e⟩ := Pol.evict_choice _ h rfl now pick
    · exact evictOk_none e ht
    · exact evictOk_head e hk (Pol.remove_law _ h k)

theorem Pol.evict_none_iff (p : Pol) (h : p.Inv) (now : Nat) (pick : List Key) :
    (p.evict now pick).1 = none ↔ p.tracked = [] :=
  (Pol.evictOk p h now pick).1

theorem Pol.evict_none_state (p : Pol) (h : p.Inv) (now : Nat) (pick : List Key)
    (hn : (p.evict now pick).1 = none) : (p.evict now pick).2 = p :=
  (Pol.evictOk p h now pick).2.1 hn

theorem Pol.evict_some_law (p : Pol) (h : p.Inv) (now : Nat) (pick : List Key) (k : Key)
    (hs : (p.evict now pick).1 = some k) :
    k ∈ p.tracked ∧ (p.evict now pick).2.Inv ∧
      ∀ x, x ∈ (p.evict now pick).2.tracked ↔ x ∈ p.tracked ∧ x ≠ k :=
  (Pol.evictOk p h now pick).2.2 k hs

theorem Pol.kind_access (p : Pol) (k : Key) : (p.access k).kind = p.kind := by
  cases p <;> simp only [Pol.access, Pol.kind]
  case sampled s => simp only [Sampled.access]; split <;> rfl
theorem Pol.kind_insert (p : Pol) (k now : Nat) : (p.insert k now).kind = p.kind := by
  cases p <;> rfl
theorem Pol.kind_remove (p : Pol) (k : Key) : (p.remove k).kind = p.kind := by
  cases p <;> rfl
theorem Pol.kind_evict (p : Pol) (now : Nat) (pick : List Key) : (p.evict now pick).2.kind = p.kind := by
  cases p <;> simp only [Pol.evict, Pol.kind]
  case ttl s => simp only [TTL.evict]; split <;> rfl
  case sampled s => simp only [Sampled.evict]; split <;> rfl
theorem Pol.kind_clear (p : Pol) : p.clear.kind = p.kind := by
  cases p <;> rfl

/-- the policy of a kind as its constructor makes it -/
def Kind.fresh : Kind → Pol
  | .lru => .lru {} | .lfu => .lfu {} | .ttl t => .ttl { ttl := t } | .fifo => .fifo {} | .rnd => .rnd {}
  | .slru => .slru {} | .sampled n => .sampled { size := n } | .clock => .clock {} | .twoq => .twoq {}

theorem Pol.clear_eq_fresh (p : Pol) : p.clear = p.kind.fresh := by
  cases p <;> rfl

theorem Kind.fresh_inv (kd : Kind) : kd.fresh.Inv ∧ kd.fresh.tracked = [] := by
  cases kd <;> simp [Kind.fresh, Pol.Inv, Pol.tracked, akeys]

theorem Pol.clear_law (p : Pol) : p.clear.Inv ∧ p.clear.tracked = [] :=
  p.clear_eq_fresh ▸ p.kind.fresh_inv

theorem Pol.ofName_clear (name : String) (arg : Nat) (p0 : Pol) (h0 : Pol.ofName name arg = some p0) :
    p0.clear = p0 := by
  unfold Pol.ofName at h0
  split at h0 <;> first | (injection h0 with h; subst h; rfl) | cases h0

theorem Pol.ofName_inv (name : String) (arg : Nat) (p : Pol) (h : Pol.ofName name arg = some p) :
    p.Inv ∧ p.tracked = [] :=
  Pol.ofName_clear name arg p h ▸ p.clear_law

theorem Pol.kind_step (p : Pol) (op : POp) : (p.step op).2.kind = p.kind := by
  cases op with
  | access k => exact p.kind_access k
  | insert k now => exact p.kind_insert k now
  | remove k => exact p.kind_remove k
  | evict now pick => exact p.kind_evict now pick
  | clear => exact p.kind_clear

/-- the construction parameters (TTL, sample size) are never touched -/
theorem Pol.step_clear (p : Pol) (op : POp) : (p.step op).2.clear = p.clear := by
  rw [Pol.clear_eq_fresh, Pol.clear_eq_fresh, p.kind_step]

theorem Pol.run_clear (p : Pol) (ops : List POp) : (Pol.run p ops).clear = p.clear := by
  induction ops generalizing p with
  | nil => rfl
  | cons o os ih => simp only [Pol.run]; rw [ih, Pol.step_clear]

theorem Pol.run_append (p : Pol) (xs ys : List POp) : Pol.run p (xs ++ ys) = Pol.run (Pol.run p xs) ys := by
  induction xs generalizing p with
  | nil => rfl
  | cons o os ih => simp only [List.cons_append, Pol.run]; exact ih _

end HappyModel.C16
