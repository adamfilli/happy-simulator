import HappyProofs.C19.WinSessSep
/-!
Session windows, the invariant of the active sessions (`SessInv`).  Every session is *good* (`GoodS`): not emitted, holds
records of its key only, spans exactly `[min et, max et + gap]` of them (both attained) and is *gap-connected* — every record
but a last one has a successor within the gap.  Two sessions of one key are apart (`sepKey`), hence two records of one key in
different sessions are further apart than the gap — "events within the gap threshold are merged into the same session".
(The code before `fixes/C19-win-*.diff` breaks this: it does not move the start for an earlier record.)
`sessAdd` (`_add_to_session_window` + `_merge_sessions`) keeps the invariant.
-/
namespace HappyModel.C19.Win

structure GoodS (gap : Nat) (w : Win) : Prop where
  em : w.emitted = false
  keys : ∀ r ∈ w.recs, r.key = w.key
  bnd : ∀ r ∈ w.recs, w.s ≤ r.et ∧ r.et + gap ≤ w.e
  lo : ∃ r ∈ w.recs, r.et = w.s
  hi : ∃ r ∈ w.recs, r.et + gap = w.e
  conn : ∀ r ∈ w.recs, r.et + gap = w.e ∨ ∃ r' ∈ w.recs, r.et < r'.et ∧ r'.et ≤ r.et + gap

/-- walking up the chain of successors from `x ≤ τ` one crosses `τ` by a step of at most `gap` -/
theorem conn_cross (gap : Nat) (w : Win) (g : GoodS gap w) (τ : Nat) (hτ : τ + gap < w.e) :
    ∀ (n : Nat) (x : Rec), x ∈ w.recs → w.e - (x.et + gap) ≤ n → x.et ≤ τ →
      ∃ z ∈ w.recs, τ < z.et ∧ z.et ≤ τ + gap := by
  intro n
  induction n with
  | zero =>
    intro x hx hn hxt
    have := (g.bnd x hx).2
    omega
  | succ n ih =>
    intro x hx hn hxt
    rcases g.conn x hx with h | ⟨x', hx', h1, h2⟩
    · omega
    · by_cases hc : τ < x'.et
      · exact ⟨x', hx', hc, by omega⟩
      · have := (g.bnd x' hx').2
        exact ih x' hx' (by omega) (by omega)

/-- in the union of two overlapping sessions a record of the first keeps a successor within the gap,
    unless it is the last of the union -/
theorem GoodS.conn_union {gap : Nat} {a b : Win} (ga : GoodS gap a) (gb : GoodS gap b) (hm : b.s ≤ a.e)
    {x : Rec} (hx : x ∈ a.recs) :
    x.et + gap = max a.e b.e ∨ ∃ r', (r' ∈ a.recs ∨ r' ∈ b.recs) ∧ x.et < r'.et ∧ r'.et ≤ x.et + gap := by
  obtain ⟨bl, hbl, hblo⟩ := gb.lo
  rcases ga.conn x hx with h | ⟨x', hx', h1, h2⟩
  · by_cases hc : b.e ≤ a.e
    · left; omega
    · right
      by_cases hb : x.et < b.s
      · exact ⟨bl, .inr hbl, by omega, by omega⟩
      · obtain ⟨z, hz, h1, h2⟩ := conn_cross gap b gb x.et (by omega) _ bl hbl (Nat.le_refl _) (by omega)
        exact ⟨z, .inr hz, h1, h2⟩
  · exact .inr ⟨x', .inl hx', h1, h2⟩

theorem goodS_union (gap : Nat) (cur b : Win) (gc : GoodS gap cur) (gb : GoodS gap b) (hk : b.key = cur.key)
    (h1 : b.s ≤ cur.e) (h2 : cur.s ≤ b.e) :
    GoodS gap { cur with s := min cur.s b.s, e := max cur.e b.e, recs := cur.recs ++ b.recs } := by
  refine ⟨gc.em, ?_, ?_, ?_, ?_, ?_⟩
  · intro x hx
    rcases List.mem_append.1 hx with hx | hx
    · exact gc.keys x hx
    · exact (gb.keys x hx).trans hk
  · intro x hx
    show min cur.s b.s ≤ x.et ∧ x.et + gap ≤ max cur.e b.e
    rcases List.mem_append.1 hx with hx | hx
    · exact ⟨Nat.le_trans (Nat.min_le_left _ _) (gc.bnd x hx).1, Nat.le_trans (gc.bnd x hx).2 (Nat.le_max_left _ _)⟩
    · exact ⟨Nat.le_trans (Nat.min_le_right _ _) (gb.bnd x hx).1, Nat.le_trans (gb.bnd x hx).2 (Nat.le_max_right _ _)⟩
  · show ∃ x ∈ cur.recs ++ b.recs, x.et = min cur.s b.s
    obtain ⟨cl, hcl, hclo⟩ := gc.lo
    obtain ⟨bl, hbl, hblo⟩ := gb.lo
    by_cases h : cur.s ≤ b.s
    · exact ⟨cl, List.mem_append_left _ hcl, hclo.trans (Nat.min_eq_left h).symm⟩
    · exact ⟨bl, List.mem_append_right _ hbl, hblo.trans (Nat.min_eq_right (Nat.le_of_not_le h)).symm⟩
  · show ∃ x ∈ cur.recs ++ b.recs, x.et + gap = max cur.e b.e
    obtain ⟨ch, hch, hchi⟩ := gc.hi
    obtain ⟨bh, hbh, hbhi⟩ := gb.hi
    by_cases h : b.e ≤ cur.e
    · exact ⟨ch, List.mem_append_left _ hch, hchi.trans (Nat.max_eq_left h).symm⟩
    · exact ⟨bh, List.mem_append_right _ hbh, hbhi.trans (Nat.max_eq_right (Nat.le_of_not_le h)).symm⟩
  · intro x hx
    show x.et + gap = max cur.e b.e ∨ ∃ r' ∈ cur.recs ++ b.recs, x.et < r'.et ∧ r'.et ≤ x.et + gap
    simp only [List.mem_append]
    rcases List.mem_append.1 hx with hx | hx
    · exact gc.conn_union gb h1 hx
    · rw [Nat.max_comm]
      exact (gb.conn_union gc h2 hx).imp_right fun ⟨z, hz, h⟩ => ⟨z, hz.symm, h⟩

theorem goodS_single (gap : Nat) (r : Rec) :
    GoodS gap { key := r.key, s := r.et, e := r.et + gap, recs := [r], emitted := false } := by
  refine ⟨rfl, ?_, ?_, ⟨r, by simp, rfl⟩, ⟨r, by simp, rfl⟩, ?_⟩
  · intro x hx; rw [List.mem_singleton.1 hx]
  · intro x hx; rw [List.mem_singleton.1 hx]; exact ⟨Nat.le_refl _, Nat.le_refl _⟩
  · intro x hx; rw [List.mem_singleton.1 hx]; exact .inl rfl

/-- a new record within the session's range joins it: the union with the record's own session -/
theorem goodS_join (gap : Nat) (w : Win) (r : Rec) (g : GoodS gap w) (hk : r.key = w.key)
    (hin : inSession gap r.et w = true) :
    GoodS gap { w with recs := w.recs ++ [r], e := max w.e (r.et + gap), s := min w.s r.et } := by
  simp only [inSession, Bool.and_eq_true, decide_eq_true_eq] at hin
  exact goodS_union gap w _ g (goodS_single gap r) hk hin.2 hin.1

/-- `_merge_sessions`: the later session starts inside the current one -/
theorem goodS_merge (gap : Nat) (cur b : Win) (gc : GoodS gap cur) (gb : GoodS gap b) (hk : b.key = cur.key)
    (hs : cur.s ≤ b.s) (hm : b.s ≤ cur.e) :
    GoodS gap { cur with e := max cur.e b.e, recs := cur.recs ++ b.recs } := by
  have := goodS_union gap cur b gc gb hk hm (Nat.le_trans hs (by obtain ⟨x, hx, _⟩ := gb.lo; have := gb.bnd x hx; omega))
  rwa [Nat.min_eq_left hs] at this

theorem GoodS.le {gap : Nat} {w : Win} (g : GoodS gap w) : w.s ≤ w.e := by
  obtain ⟨r, hr, h⟩ := g.lo
  have := (g.bnd r hr).2
  omega

def sepKey (a b : Win) : Prop := a.key = b.key → a.e < b.s ∨ b.e < a.s

structure SessInv (gap : Nat) (wins : List Win) : Prop where
  good : ∀ w ∈ wins, GoodS gap w
  sep : wins.Pairwise sepKey

theorem SessInv.nil (gap : Nat) : SessInv gap [] := ⟨by simp, List.Pairwise.nil⟩

theorem SessInv.add {gap : Nat} {wins : List Win} (h : SessInv gap wins) (r : Rec) : SessInv gap (sessAdd gap r wins) := by
  have hmine : ∀ w ∈ mergeSessions (joinedOf gap r wins), GoodS gap w ∧ w.key = r.key :=
    sessAdd_all (P := fun w => GoodS gap w ∧ w.key = r.key) gap r
      (fun cur b hc hb hs hm => ⟨goodS_merge gap cur b hc.1 hb.1 (hb.2.trans hc.2.symm) hs hm, hc.2⟩)
      (fun w hw hin => ⟨goodS_join gap w r hw.1 hw.2.symm hin, hw.2⟩) ⟨goodS_single gap r, rfl⟩ wins
      (fun w hw hk => ⟨h.good w hw, hk⟩)
  rw [sessAdd_eq]
  refine ⟨fun w hw => ?_, ?_⟩
  · rcases List.mem_append.1 hw with hw | hw
    · exact h.good w (List.mem_filter.mp hw).1
    · exact (hmine w hw).1
  · rw [List.pairwise_append]
    refine ⟨h.sep.filter _, (mergeSessions_chain _).imp (fun hab _ => Or.inl hab), ?_⟩
    intro a ha b hb hkey
    have h1 : ¬ a.key = r.key := by simpa using (List.mem_filter.mp ha).2
    exact absurd (hkey.trans (hmine b hb).2) h1

theorem SessInv.step {cfg : Cfg} (hk : cfg.kind = 2) {s : St} (h : SessInv cfg.gap s.wins) (ln : Line) :
    SessInv cfg.gap (step cfg s ln).1.wins := by
  rw [step_wins]
  obtain ⟨t, act⟩ := ln
  cases act with
  | proc r =>
    simp only [addWindows, hk, if_true]
    split
    · exact h.add r
    · exact h
  | wmB =>
    simp only [hk, if_true]
    exact ⟨fun w hw' => h.good w (List.mem_filter.mp hw').1, h.sep.filter _⟩
  | _ => exact h

theorem SessInv.run {cfg : Cfg} (hk : cfg.kind = 2) : ∀ (sched : List Line) (s : St), SessInv cfg.gap s.wins →
    SessInv cfg.gap (finalState cfg s sched).wins := by
  intro sched
  induction sched with
  | nil => intro s h; exact h
  | cons ln rest ih => intro s h; exact ih _ (h.step hk ln)

end HappyModel.C19.Win
