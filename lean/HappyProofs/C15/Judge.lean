import HappyProofs.C15.Sem
import HappyProofs.C15.Crash
import HappyProofs.C14.LsmObs
/-! From facts about frames (`KeyFacts`, `CrashFacts`) to acceptance by the Spec judge of the model's own observations. -/
namespace HappyModel.C15
open HappyModel.C14

/-- the function `wObsOf` maps over the frames, written out a second time: `mem_wObsOf` holds because the two `match`es are
    syntactically the same; an edit to one of them breaks it without touching its statement -/
def wrecOf (ops : List (Nat × OKind)) (f : Frame) : Option WRec :=
  match f.b, ops.lookup f.id with
  | some b, some (.put k v) => some ⟨f.id, k, some v, f.seq0, b, f.e⟩
  | some b, some (.del k) => some ⟨f.id, k, none, f.seq0, b, f.e⟩
  | _, _ => none

section
variable {ops : List (Nat × OKind)} {y : Sys} {f : Frame}

theorem wrecOf_of_start {b : Nat} {k : Key} {c : Cell}
    (hb : f.b = some b) (hs : startFor ops f.id = .pStart k c) :
    wrecOf ops f = some ⟨f.id, k, c, f.seq0, b, f.e⟩ := by
  unfold wrecOf
  rw [hb, lookup_of_startFor hs]
  cases c <;> rfl

theorem wrecOf_some {r : WRec} (h : wrecOf ops f = some r) :
    f.b = some r.b ∧ r.id = f.id ∧ r.seq = f.seq0 ∧ r.e = f.e ∧ startFor ops f.id = .pStart r.key r.cell := by
  unfold wrecOf at h
  split at h
  · rename_i hb hl
    injection h with h; subst h
    exact ⟨hb, rfl, rfl, rfl, startFor_of_lookup hl⟩
  · rename_i hb hl
    injection h with h; subst h
    exact ⟨hb, rfl, rfl, rfl, startFor_of_lookup hl⟩
  · cases h

theorem mem_wObsOf {r : WRec} :
    r ∈ wObsOf ops y ↔ ∃ f ∈ y.frames, wrecOf ops f = some r :=
  List.mem_filterMap

theorem put_value_names_id (hd : DistinctPuts ops) {i j : Nat} {k k' : Key} {v : Nat}
    (hi : startFor ops i = .pStart k (some v)) (hj : startFor ops j = .pStart k' (some v)) : i = j :=
  value_names_id (fun o => match o with | .put _ v => some v | _ => none) hd.2 (lookup_of_startFor hi)
    (lookup_of_startFor hj) rfl rfl

end

theorem abs_recover_recover (s : St) (k : Key) : s.recover.recover.abs k = s.recover.abs k := by
  unfold St.abs; rw [recover_idempotent]

theorem abs_second_crash (s : St) (k : Key) :
    s.crash.recover.recover.crash.recover.abs k = s.crash.recover.abs k := by
  have h1 : s.crash.recover.recover.crash = s.crash.recover.crash := rfl
  unfold St.abs
  rw [h1, recover_crash_idempotent]

theorem readsOf_congr (nkeys : Nat) (s t : St) (h : ∀ k, s.abs k = t.abs k) : readsOf nkeys s = readsOf nkeys t := by
  unfold readsOf
  have : s.abs = t.abs := funext h
  rw [this]

theorem readsOf_getElem? (nkeys : Nat) (s : St) (k : Nat) :
    (readsOf nkeys s)[k]? = if k < nkeys then some (s.abs k) else none := by
  unfold readsOf
  rw [List.getElem?_map]
  by_cases h : k < nkeys
  · rw [List.getElem?_range h, if_pos h]; rfl
  · rw [if_neg h, List.getElem?_eq_none (by simpa using h)]; rfl

theorem mem_zipIdx_readsOf {nkeys : Nat} {s : St} {x : Option Nat} {i : Nat} (h : (x, i) ∈ (readsOf nkeys s).zipIdx) :
    i < nkeys ∧ x = s.abs i := by
  have hget := List.mem_zipIdx_iff_getElem?.mp h
  rw [readsOf_getElem?] at hget
  split at hget
  · rename_i hi
    injection hget with hget
    exact ⟨hi, hget.symm⟩
  · cases hget

theorem judgeCrash_of_keys {ws : List WRec} {S nkeys : Nat} {s : St}
    (h : ∀ k < nkeys, judgeKey ws S k (s.crash.recover.abs k) = none) :
    judgeCrash ws S (readsOf nkeys s.crash.recover) (readsOf nkeys s.crash.recover.recover)
      (readsOf nkeys s.crash.recover.recover.crash.recover) = none := by
  rw [readsOf_congr nkeys s.crash.recover.recover s.crash.recover (abs_recover_recover _),
    readsOf_congr nkeys s.crash.recover.recover.crash.recover s.crash.recover (abs_second_crash _)]
  unfold judgeCrash
  rw [bne_self_eq_false]
  simp only [Bool.false_eq_true, if_false]
  rw [List.findSome?_eq_none_iff]
  rintro ⟨x, i⟩ hx
  obtain ⟨hi, rfl⟩ := mem_zipIdx_readsOf hx
  simp only [Option.map_eq_none_iff]
  exact h i hi

theorem judgeKey_none {ws : List WRec} {S : Nat} {k : Key} {x : Option Nat}
    (hsome : ∀ v, x = some v → (∃ r ∈ ws, r.key = k ∧ r.cell = some v) ∧
      ∀ r ∈ ws, r.key = k → r.cell = some v → supersededBy ws S k r = none)
    (hnone : x = none → (∃ d ∈ ws, d.key = k ∧ d.cell = none ∧ supersededBy ws S k d = none) ∨
      ∀ r ∈ ws, r.key = k → ¬ r.seq ≤ S) : judgeKey ws S k x = none := by
  cases x with
  | some v =>
    obtain ⟨⟨r0, hr0, hk0, hc0⟩, hsup⟩ := hsome v rfl
    simp only [judgeKey]
    cases hf : ws.find? fun w => w.key == k && w.cell == some v with
    | none =>
      have := List.find?_eq_none.mp hf r0 hr0
      simp [hk0, hc0] at this
    | some r =>
      have hp := List.find?_some hf
      simp only [Bool.and_eq_true, beq_iff_eq] at hp
      simp only [hsup r (List.mem_of_find?_eq_some hf) hp.1 hp.2]
  | none =>
    simp only [judgeKey]
    rcases hnone rfl with ⟨d, hd, hk, hc, hs⟩ | hno
    · have : (ws.any fun d => d.key == k && d.cell.isNone && (supersededBy ws S k d).isNone) = true :=
        List.any_eq_true.mpr ⟨d, hd, by simp [hk, hc, hs]⟩
      rw [this, Bool.or_true]
      rfl
    · have : (ws.any fun w' => w'.key == k && w'.durable S) = false := by
        rw [List.any_eq_false]
        intro r hr hp
        simp only [Bool.and_eq_true, beq_iff_eq, WRec.durable, decide_eq_true_eq] at hp
        exact hno r hr hp.1 hp.2
      rw [this]
      rfl

/-- per key, what `crash(); recover_from_crash()` reads, relative to the value `abs0 k` the key had before the
    frames `New` began: the value of a write among them that no durable one of them began after, or the old value
    with none of them durable.  Used with every frame and every key absent (a fresh tree, `crashFacts_iff`), with every
    frame and any baseline (`recovered_casesB`), and with `IsNew y0` and the values `y0.st.abs` read at the start of a later
    phase (`judgePhase_of_facts`). -/
def KeyFacts (start : Nat → Pc) (New : Frame → Prop) (abs0 : Key → Option Nat) (y : Sys) (k : Key) : Prop :=
  (∃ w ∈ y.frames, New w ∧ w.b ≠ none ∧ start w.id = .pStart k (y.st.crash.recover.abs k) ∧
    ∀ w' ∈ y.frames, New w' → w'.id ≠ w.id → ∀ b' c', w'.b = some b' → start w'.id = .pStart k c' →
      w'.seq0 ≤ y.st.synced → ∀ e, w.e = some e → ¬ e < b') ∨
  (y.st.crash.recover.abs k = abs0 k ∧
    ∀ w' ∈ y.frames, New w' → w'.b ≠ none → ∀ c', start w'.id = .pStart k c' → ¬ w'.seq0 ≤ y.st.synced)

theorem crashFacts_iff {start : Nat → Pc} {y : Sys} :
    CrashFacts start y ↔ ∀ k, KeyFacts start (fun _ => True) (fun _ => none) y k := by
  constructor
  · intro hC k
    cases hx : y.st.crash.recover.abs k with
    | some v =>
      obtain ⟨w, hw, hb, hs, hns⟩ := hC.some k v hx
      exact Or.inl ⟨w, hw, trivial, hb, hx ▸ hs, fun w' hw' _ => hns w' hw'⟩
    | none =>
      rcases hC.none k hx with h | ⟨d, hd, hb, hs, hns⟩
      · exact Or.inr ⟨hx, fun w' hw' _ hb' c' => h w' hw' c' hb'⟩
      · exact Or.inl ⟨d, hd, trivial, hb, hx ▸ hs, fun w' hw' _ => hns w' hw'⟩
  · intro h
    constructor
    · intro k v hv
      rcases h k with ⟨w, hw, _, hb, hs, hns⟩ | ⟨h0, _⟩
      · exact ⟨w, hw, hb, hv ▸ hs, fun w' hw' => hns w' hw' trivial⟩
      · rw [hv] at h0; cases h0
    · intro k hn
      rcases h k with ⟨w, hw, _, hb, hs, hns⟩ | ⟨_, h0⟩
      · exact Or.inr ⟨w, hw, hb, hn ▸ hs, fun w' hw' => hns w' hw' trivial⟩
      · exact Or.inl fun w hw c hb hs => h0 w hw trivial hb c hs

section
variable {ops : List (Nat × OKind)} {y : Sys} {New : Frame → Prop} {abs0 : Key → Option Nat} {base ws : List WRec}

/-- baseline records begin before every segment and supersede nothing; a record of a frame supersedes `r` only if
    the frame does -/
theorem supersededBy_none (hbase : ∀ r ∈ base, r.b = 0)
    (hws : ∀ r ∈ ws, ∃ f ∈ y.frames, New f ∧ wrecOf ops f = some r) {k : Key} {S : Nat} {r : WRec}
    (hns : ∀ w' ∈ y.frames, New w' → w'.id ≠ r.id → ∀ b' c', w'.b = some b' → startFor ops w'.id = .pStart k c' →
      w'.seq0 ≤ S → ∀ e, r.e = some e → ¬ e < b') :
    supersededBy (base ++ ws) S k r = none := by
  unfold supersededBy
  rw [List.find?_eq_none]
  intro r' hr' hp
  simp only [Bool.and_eq_true, beq_iff_eq, bne_iff_ne, ne_eq, WRec.durable, decide_eq_true_eq] at hp
  obtain ⟨⟨⟨hk, hne⟩, hdur⟩, hlt⟩ := hp
  cases hre : r.e with
  | none => rw [hre] at hlt; cases hlt
  | some e =>
    rw [hre] at hlt
    simp only [decide_eq_true_eq] at hlt
    rcases List.mem_append.mp hr' with hb | hw
    · rw [hbase r' hb] at hlt; cases hlt
    · obtain ⟨w', hw', hn', hrec⟩ := hws r' hw
      obtain ⟨hb', hid', hseq', _, hst'⟩ := wrecOf_some hrec
      rw [hk] at hst'; rw [hseq'] at hdur
      exact hns w' hw' hn' (hid' ▸ hne) r'.b r'.cell hb' hst' hdur e hre hlt

/-- `base`: records of the old values (none of them the value of a write among `New`); `ws`: the records of the frames `New` -/
theorem judgeKey_base (hd : DistinctPuts ops) (hids : (y.frames.map (·.id)).Nodup)
    (hbase : ∀ r ∈ base, r.b = 0 ∧ ∃ v, r.cell = some v ∧ abs0 r.key = some v ∧
      ∀ w ∈ y.frames, New w → ∀ k', startFor ops w.id ≠ .pStart k' (some v))
    (hws : ∀ r, r ∈ ws ↔ ∃ f ∈ y.frames, New f ∧ wrecOf ops f = some r) {k : Key}
    (hk : ∀ v, abs0 k = some v → ∃ r ∈ base, r.key = k ∧ r.cell = some v)
    (hF : KeyFacts (startFor ops) New abs0 y k) :
    judgeKey (base ++ ws) y.st.synced k (y.st.crash.recover.abs k) = none := by
  have hsup := fun r => supersededBy_none (k := k) (S := y.st.synced) (r := r) (fun r hr => (hbase r hr).1)
    fun r hr => (hws r).mp hr
  rcases hF with ⟨w, hw, wnew, wb, wst, hns⟩ | ⟨hxb, hnd⟩
  · obtain ⟨b, hb⟩ := Option.ne_none_iff_exists'.mp wb
    have hmem := List.mem_append_right base ((hws _).mpr ⟨w, hw, wnew, wrecOf_of_start hb wst⟩)
    have hsw : ∀ r : WRec, r.id = w.id → r.e = w.e → supersededBy (base ++ ws) y.st.synced k r = none :=
      fun r hi he => hsup r (by rw [hi, he]; exact hns)
    refine judgeKey_none (fun v hx => ⟨⟨_, hmem, rfl, hx⟩, fun r hr hkr hcr => ?_⟩)
      fun hx => Or.inl ⟨_, hmem, rfl, hx, hsw _ rfl rfl⟩
    -- distinct put values: a record carrying `v` is the record of `w`
    rw [hx] at wst
    rcases List.mem_append.mp hr with hbm | hwm
    · obtain ⟨_, v', hc', _, hnew⟩ := hbase r hbm
      rw [hcr] at hc'
      injection hc' with hc'
      exact absurd wst (hc' ▸ hnew w hw wnew k)
    · obtain ⟨f, hfm, _, hrec⟩ := (hws r).mp hwm
      obtain ⟨_, hid, _, he, hst⟩ := wrecOf_some hrec
      rw [hkr, hcr] at hst
      have := inj_of_nodup_map (·.id) hids hfm hw (put_value_names_id hd hst wst)
      subst this
      exact hsw r hid he
  · have hs : ∀ r, supersededBy (base ++ ws) y.st.synced k r = none := fun r =>
      hsup r fun w' hw' hn' _ b' c' hb' hs' hdur _ _ => absurd hdur (hnd w' hw' hn' (hb' ▸ Option.some_ne_none _) c' hs')
    refine judgeKey_none (fun v hx => ⟨?_, fun r _ _ _ => hs r⟩) fun hx => Or.inr fun r hr hkr hdur => ?_
    · obtain ⟨r, hr, h1, h2⟩ := hk v (hxb ▸ hx)
      exact ⟨r, List.mem_append_left _ hr, h1, h2⟩
    · rcases List.mem_append.mp hr with hbm | hwm
      · obtain ⟨_, v', _, ha', _⟩ := hbase r hbm
        rw [hkr, ← hxb, hx] at ha'
        cases ha'
      · obtain ⟨f, hfm, hfn, hrec⟩ := (hws r).mp hwm
        obtain ⟨hb, _, hseq, _, hst⟩ := wrecOf_some hrec
        rw [hkr] at hst
        exact hnd f hfm hfn (hb ▸ Option.some_ne_none _) r.cell hst (hseq ▸ hdur)

end

/-- the model's own observations of a crash (write records, `synced_up_to`, the three rounds of reads)
    satisfy the Spec predicate whenever the semantic crash facts hold -/
theorem judgeCrash_of_facts (cfg : Cfg) (nkeys : Nat) (ops : List (Nat × OKind)) (y : Sys) (log : List Ev)
    (hd : DistinctPuts ops) (hL : LInv cfg (startFor ops) y log) (hC : CrashFacts (startFor ops) y) :
    judgeCrash (wObsOf ops y) y.st.synced (readsOf nkeys y.st.crash.recover)
      (readsOf nkeys y.st.crash.recover.recover) (readsOf nkeys y.st.crash.recover.recover.crash.recover) = none :=
  judgeCrash_of_keys fun k _ => judgeKey_base (base := []) (ws := wObsOf ops y) hd hL.ids (fun _ h => nomatch h)
    (fun _ => by simp only [mem_wObsOf, true_and]) (fun _ h => by cases h) (crashFacts_iff.mp hC k)

end HappyModel.C15
