import HappyProofs.C08.PipeFifo
import HappyProofs.C08.PipeParts
import HappyProofs.C08.FairCap
/-!
# C08 — property theorems

"For any arrival pattern, each event offered to a queue-fronted component (queue plus driver, queued
resources, servers and their industrial variants) is at every instant exactly one of
rejected-and-counted, waiting, in service, or completed exactly once; work in service never exceeds
the concurrency limit, and no simulated time passes while an item waits and the worker has free
capacity for it. Items leave a queue in the order its policy defines (FIFO, LIFO, stable priority,
deadline, fair share) and a policy never holds more than its capacity, with
enqueued = dequeued + dropped + held at all times."

Part 1 is about `HappyModel.C08.step` (nine policies + balking wrapper, operation lists with
arbitrary clock values, random draws and CoDel drop counts); part 2 about `HappyModel.C08.Pipe.step`
(Queue + QueueDriver + Server, every schedule of pending deliveries).
-/
namespace HappyModel.C08


/-- enqueued = dequeued + dropped + held after every operation sequence, for every policy,
    configuration, clock reading, random draw and CoDel decision -/
theorem conservation (c : Cfg) (ops : List Op) :
    (finalSt c {} ops).enq =
      (finalSt c {} ops).deq + (finalSt c {} ops).deqL + (finalSt c {} ops).drp + len c (finalSt c {} ops) :=
  (finalSt_ind (fun h => step_cons _ h) ops (cons_init c)).cons

/-- a policy constructed with `capacity = k` never holds more than k items
    (FIFO, LIFO, priority, deadline, adaptive LIFO, RED, CoDel, weighted fair; with or without balking) -/
theorem held_le_capacity (c : Cfg) (hf : c.kind ≠ .fair) (k : Nat) (hc : c.cap = some k) (ops : List Op) :
    len c (finalSt c {} ops) ≤ k :=
  finalSt_ind (P := fun s => len c s ≤ k) (step_cap c _ _ hf k hc) ops (by cases hk : c.kind <;> simp [len, hk])

/-- FIFO order (FIFOQueue, REDQueue, CoDelQueue, with or without BalkingQueue): for every operation
    list the model answers exactly like the list specification, in which a pop returns the oldest
    held item (`sPop_answer` with `sChoose`; `spec_fifo_pop` spells it out for FIFOQueue), CoDel's
    drops remove the next-oldest ones, and peek shows the next pop.  The proof, `run_polrel` from the
    empty states, holds for every kind: the five order theorems are its instances by name -/
theorem fifo_order (c : Cfg) (hk : c.kind = .fifo ∨ c.kind = .red ∨ c.kind = .codel) (ops : List Op) :
    (run c {} ops).map (·.1) = (sRun c {} ops).map (·.1) :=
  run_polrel (polrel_init c) ops

/-- LIFO order (LIFOQueue; AdaptiveLIFO: newest first while `len ≥ threshold`, oldest first below) -/
theorem lifo_order (c : Cfg) (hk : c.kind = .lifo ∨ c.kind = .adaptive) (ops : List Op) :
    (run c {} ops).map (·.1) = (sRun c {} ops).map (·.1) :=
  run_polrel (polrel_init c) ops

theorem spec_fifo_pop (c : Cfg) (hk : c.kind = .fifo) (ss : SSt) (now k : Nat) :
    (sPop c ss now k).2 = ss.held.head? := by
  rw [sPop_answer, sChoose, hk]

theorem spec_lifo_pop (c : Cfg) (hk : c.kind = .lifo) (ss : SSt) (now k : Nat) :
    (sPop c ss now k).2 = ss.held.getLast? := by
  rw [sPop_answer, sChoose, hk]

/-- stable priority order (PriorityQueue, with or without BalkingQueue): for every operation list the
    heap model — extract-minimum under `(priority, insert_order)` — answers exactly like the list
    specification, in which a pop returns the first held item (in acceptance order) whose key is ≤
    every held key (`spec_prio_pop`) and peek shows the next pop -/
theorem prio_stable (c : Cfg) (hk : c.kind = .prio) (ops : List Op) :
    (run c {} ops).map (·.1) = (sRun c {} ops).map (·.1) :=
  run_polrel (polrel_init c) ops

/-- deadline order with expiry (DeadlineQueue): for every operation list — pushes, pops at arbitrary
    clock readings, peeks, `purge_expired()` calls, `count_expired()`/`count_valid()` — the heap
    model answers exactly like the list specification: every held item whose deadline has passed is
    dropped (by the pop that meets it or by the purge) and never returned, a pop returns the stable
    minimum of the live ones (`spec_deadline_pop`), and the order law keeps holding after a purge -/
theorem deadline_order_expiry (c : Cfg) (hk : c.kind = .deadline) (ops : List Op) :
    (run c {} ops).map (·.1) = (sRun c {} ops).map (·.1) :=
  run_polrel (polrel_init c) ops

theorem spec_prio_pop (c : Cfg) (hk : c.kind = .prio) (ss : SSt) (now k : Nat) :
    (sPop c ss now k).2 = firstMin ss.held := by
  rw [sPop_answer, sChoose, hk]

theorem spec_deadline_pop (c : Cfg) (hk : c.kind = .deadline) (ss : SSt) (now k : Nat) :
    (sPop c ss now k).2 = firstMin (ss.held.filter fun x => decide (now ≤ x.key)) := by
  rw [sPop_answer, sChoose, hk]

/-- the stable minimum really is one: it is held, its key is minimal, and nothing before it has the same key -/
theorem firstMin_is_stable_min (l : List Item) (m : Item) (h : firstMin l = some m) :
    m ∈ l ∧ (∀ y ∈ l, m.key ≤ y.key) ∧ ∃ pre post, l = pre ++ m :: post ∧ ∀ y ∈ pre, m.key < y.key := by
  obtain ⟨hm, pre, post, hl, hpre⟩ := List.find?_eq_some_iff_append.mp h
  have hmin := (isMinIn_iff l m).mp hm
  refine ⟨List.mem_of_find?_eq_some h, hmin, pre, post, hl, fun y hy => Nat.lt_of_not_le fun hle => ?_⟩
  -- an earlier item with a key as small would be minimal too, and the first minimal one
  have := hpre y hy
  rw [(isMinIn_iff l y).mpr fun z hz => Nat.le_trans hle (hmin z hz)] at this
  cases this

/-- fair share (FairQueue, WeightedFairQueue, with or without BalkingQueue): for every operation list
    the `OrderedDict`-of-deques model answers exactly like the list specification, in which the
    backlogged flow that was served — or became backlogged — least recently is served next, oldest
    item of that flow first (`spec_fair_pop`), a flow of weight w keeping its turn for w consecutive
    items; `get_flow_depth`, `flow_count`, `get_flow_weight` agree with the held list -/
theorem fair_rr (c : Cfg) (hk : c.kind = .fair ∨ c.kind = .wfq) (ops : List Op) :
    (run c {} ops).map (·.1) = (sRun c {} ops).map (·.1) :=
  run_polrel (polrel_init c) ops

/-- what the specification's fair-share pop returns: the oldest held item of the flow holding the
    smallest service ticket -/
theorem spec_fair_pop (c : Cfg) (hk : c.kind = .fair ∨ c.kind = .wfq) (ss : SSt) (now k : Nat) :
    (sPop c ss now k).2 = (minAct ss.act).bind fun a => ss.held.find? (·.flow == a.fid) := by
  rw [sPop_answer, sChoose]
  rcases hk with hk | hk <;> rw [hk] <;> cases minAct ss.act <;> rfl

/-- three flows, round robin; flow 0 has two items -/
example : (run { kind := .fair } {} [.push ⟨0, 0, 0⟩ 0 false false, .push ⟨1, 0, 0⟩ 0 false false,
      .push ⟨2, 0, 1⟩ 0 false false, .push ⟨3, 0, 2⟩ 0 false false, .pop 0 0, .pop 0 0, .pop 0 0, .pop 0 0]).map (·.1)
    = [.pushed true, .pushed true, .pushed true, .pushed true,
       .popped (some ⟨0, 0, 0⟩), .popped (some ⟨2, 0, 1⟩), .popped (some ⟨3, 0, 2⟩), .popped (some ⟨1, 0, 0⟩)] := by decide +kernel

/-- weighted: flow 0 (weight 2) is served twice per turn -/
example : (run { kind := .wfq, weights := [2, 1] } {} [.push ⟨0, 0, 0⟩ 0 false false, .push ⟨1, 0, 0⟩ 0 false false,
      .push ⟨2, 0, 0⟩ 0 false false, .push ⟨3, 0, 1⟩ 0 false false, .pop 0 0, .pop 0 0, .pop 0 0, .pop 0 0]).map (·.1)
    = [.pushed true, .pushed true, .pushed true, .pushed true,
       .popped (some ⟨0, 0, 0⟩), .popped (some ⟨1, 0, 0⟩), .popped (some ⟨3, 0, 1⟩), .popped (some ⟨2, 0, 0⟩)] := by decide +kernel

/-- a purge between the pushes and the pops: two expired entries leave, the survivors come out
    earliest-deadline-first (the input shape of a heap compaction that would lose the order) -/
example : (run { kind := .deadline } {}
    [.push ⟨0, 2, 0⟩ 1 false false, .push ⟨1, 3, 0⟩ 1 false false, .push ⟨2, 60, 0⟩ 1 false false,
     .push ⟨3, 90, 0⟩ 1 false false, .push ⟨4, 50, 0⟩ 1 false false, .push ⟨5, 40, 0⟩ 1 false false,
     .purge 4, .pop 4 0, .pop 4 0, .pop 4 0]).map (·.1)
    = [.pushed true, .pushed true, .pushed true, .pushed true, .pushed true, .pushed true,
       .purged 2, .popped (some ⟨5, 40, 0⟩), .popped (some ⟨4, 50, 0⟩), .popped (some ⟨2, 60, 0⟩)] := by decide +kernel

example : (run { kind := .lifo, cap := some 2 } {}
    [.push ⟨0, 0, 0⟩ 0 false false, .push ⟨1, 0, 0⟩ 0 false false, .push ⟨2, 0, 0⟩ 0 false false, .pop 0 0]).map (·.1)
    = [.pushed true, .pushed true, .pushed false, .popped (some ⟨1, 0, 0⟩)] := by decide +kernel

example : (run { kind := .prio } {} [.push ⟨0, 5, 0⟩ 0 false false, .push ⟨1, 3, 0⟩ 0 false false,
      .push ⟨2, 3, 0⟩ 0 false false, .pop 0 0, .pop 0 0]).map (·.1)
    = (sRun { kind := .prio } {} [.push ⟨0, 5, 0⟩ 0 false false, .push ⟨1, 3, 0⟩ 0 false false,
      .push ⟨2, 3, 0⟩ 0 false false, .pop 0 0, .pop 0 0]).map (·.1) := by decide +kernel

example : len { kind := .prio, cap := some 1 } (finalSt { kind := .prio, cap := some 1 } {}
    [.push ⟨0, 5, 0⟩ 0 false false, .push ⟨1, 3, 0⟩ 0 false false, .pop 0 0, .push ⟨2, 1, 0⟩ 0 false false]) = 1 := by decide +kernel

example : (finalSt { kind := .deadline } {}
    [.push ⟨0, 5, 0⟩ 0 false false, .push ⟨1, 9, 0⟩ 0 false false, .pop 7 0]).drp = 1 := by decide +kernel

end HappyModel.C08

namespace HappyModel.C08.Pipe

/-! Part 2 — Queue + QueueDriver + Server (repaired driver).  `Setting`, `Sched`: see `PipeStep`; the proofs
read the first field of `Setting` only.  Every statement but `item_state_partition_any_schedule` is about
every admissible `as`, hence by `sched_take` after every event of every run. -/

theorem final_pinv {c : PCfg} (hv : c.variant = .repaired) (lim : Nat) (as : List Act) (hs : Sched c { limit := lim } as) :
    PInv c (final c { limit := lim } as) :=
  (final_run hv as hs (run_init c lim)).inv

/-- work in service never exceeds the concurrency limit, for every admissible delivery schedule -/
theorem in_service_le_limit {c : PCfg} (st : Setting c) (lim : Nat) (as : List Act)
    (hs : Sched c { limit := lim } as) :
    (final c { limit := lim } as).inService.length ≤ lim ∧
    (final c { limit := lim } as).active = (final c { limit := lim } as).inService.length := by
  have h := final_pinv st.hv lim as hs
  have hl : (final c { limit := lim } as).limit = lim := final_limit as _ hs
  refine ⟨?_, h.act⟩
  have := h.le
  rw [h.act, hl] at this
  exact this

/-- an item the queue accepted is never discarded by the worker (`requests_rejected` stays 0):
    the only rejection is the counted one at offer time -/
theorem no_accepted_item_discarded {c : PCfg} (st : Setting c) (lim : Nat) (as : List Act)
    (hs : Sched c { limit := lim } as) : (final c { limit := lim } as).rejected = 0 :=
  (final_pinv st.hv lim as hs).rej

/-- every accepted item is waiting, in transit inside the current instant, in service or completed:
    the four populations add up to `stats_accepted` at every point of every admissible schedule.
    (Counting form of `item_state_partition_full`.) -/
theorem item_state_partition_partial {c : PCfg} (st : Setting c) (lim : Nat) (as : List Act)
    (hs : Sched c { limit := lim } as) :
    let s := final c { limit := lim } as
    s.acc = s.depth c + (s.delivers.length + s.works.length) + s.inService.length + s.completed := by
  have h := (final_pinv st.hv lim as hs).count
  simp only; omega

/-- **item_state_partition**, identities: for every setting, limit and admissible schedule whose
    offered item ids are pairwise distinct, at the end of the schedule — hence, every prefix of an
    admissible schedule being one (`item_state_partition_every_event`), after every event — every
    offered id is in exactly one of rejected-and-counted (`refused`, `dropped` counts them) /
    waiting (`waitIds`: the queue policy's contents) / in transit (`delivers`, `works`) / in
    service / completed (`done`, `completed` counts them): the concatenation of the populations
    is a permutation of the offered ids and every offered id occurs in it exactly once; `done`
    has no duplicates (completed at most once); nothing was discarded after dequeue.
    `ghost` reads the refused / accepted / completed ids off the visible trace of `run`
    (`ghost_eq_fold`). -/
theorem item_state_partition_full {c : PCfg} (st : Setting c) (lim : Nat) (as : List Act)
    (hs : Sched c { limit := lim } as) (hd : (offeredIds as).Nodup) :
    Partition c (final c { limit := lim } as) (ghost c { limit := lim } {} as) (offeredIds as) := by
  have hf := final_run st.hv as hs (run_init c lim)
  exact partition_of_inv hf.rel hf.ids hf.inv.rej (ghost_offered c as _ {}) hd

/-- the same after every event: the state after the first `n` deliveries of an admissible schedule -/
theorem item_state_partition_every_event {c : PCfg} (st : Setting c) (lim : Nat) (as : List Act)
    (hs : Sched c { limit := lim } as) (hd : (offeredIds as).Nodup) (n : Nat) :
    Partition c (final c { limit := lim } (as.take n)) (ghost c { limit := lim } {} (as.take n))
      (offeredIds (as.take n)) :=
  item_state_partition_full st lim (as.take n) (sched_take n as _ hs) (offeredIds_take_nodup hd n)

/-- no item is lost or duplicated by **any** variant, worker or schedule (admissible or not): with
    the seventh population "discarded by the `Server` after dequeue" (`requests_rejected`), every
    offered id is in exactly one population — also under the unrepaired driver, whose defect
    (`double_poll_discards`) is that the seventh population is not empty -/
theorem item_state_partition_any_schedule (c : PCfg) (lim : Nat) (as : List Act) (hd : (offeredIds as).Nodup) :
    Partition7 c (final c { limit := lim } as) (ghost c { limit := lim } {} as) (offeredIds as) :=
  have hf := final_ginv c as { limit := lim } {} {} (polrel_init _) (ginv_init lim)
  partition7_of_inv hf.1 hf.2 (ghost_offered c as _ {}) hd

/-- **fifo_end_to_end**, service starts: with a FIFO queue (any limit) the accepted ids, in
    acceptance order, are exactly: the ids whose service has started, in start order, then the (at
    most one) id in transit, then the waiting ids in queue order — so items start service in the
    order they were accepted, after every event of every admissible schedule -/
theorem fifo_start_order {c : PCfg} (st : Setting c) (hk : c.pol.kind = .fifo) (lim : Nat) (as : List Act)
    (hs : Sched c { limit := lim } as) :
    let s := final c { limit := lim } as
    let g := ghost c { limit := lim } {} as
    g.accepted = g.started ++ ((s.delivers ++ s.works) ++ waitIds c.pol s.q) ∧
    (s.delivers ++ s.works).length ≤ 1 ∧ g.started <+: g.accepted := by
  have hf := final_run st.hv as hs (run_init c lim)
  have ho := (hf.ord hk).ord
  rw [← polrel_waitIds_eq hf.rel (by simp [Kind.isFlow, hk])] at ho
  exact ⟨ho, List.length_append ▸ hf.inv.toPInv0.transit_le_one, ho ▸ List.prefix_append _ _⟩

/-- **fifo_end_to_end**: with a FIFO queue and one slot (concurrency limit 1) the accepted ids, in
    acceptance order, are exactly: the completed ids in completion order, then the (at most one)
    id in service or on its way to the worker, then the waiting ids in queue order — so items
    complete in the order they were accepted: `done` is a prefix of `accepted` after every event
    of every admissible schedule -/
theorem fifo_end_to_end {c : PCfg} (st : Setting c) (hk : c.pol.kind = .fifo) (as : List Act)
    (hs : Sched c { limit := 1 } as) :
    let s := final c { limit := 1 } as
    let g := ghost c { limit := 1 } {} as
    g.accepted = g.done ++ ((s.inService ++ (s.delivers ++ s.works)) ++ waitIds c.pol s.q) ∧
    (s.inService ++ (s.delivers ++ s.works)).length ≤ 1 ∧ g.done <+: g.accepted := by
  have hf := final_run st.hv as hs (run_init c 1)
  have hl : (final c { limit := 1 } as).limit = 1 := final_limit as _ hs
  have ho := (hf.ord hk).ord
  rw [← polrel_waitIds_eq hf.rel (by simp [Kind.isFlow, hk]), (hf.ord hk).one hl, List.append_assoc,
    ← List.append_assoc (final c { limit := 1 } as).inService] at ho
  exact ⟨ho, busy_le_one hf.inv hl, ho ▸ List.prefix_append _ _⟩

/-- no strand: whenever the component is quiescent (no protocol event pending, so simulated time is
    about to pass) and an item waits, the worker has no free slot -/
theorem no_strand {c : PCfg} (st : Setting c) (lim : Nat) (as : List Act)
    (hs : Sched c { limit := lim } as) :
    quiescent (final c { limit := lim } as) = true → 0 < (final c { limit := lim } as).depth c →
      (final c { limit := lim } as).limit ≤ (final c { limit := lim } as).active := by
  have h := final_pinv st.hv lim as hs
  exact fun hq hd => Nat.le_of_not_lt fun hlt => quiescent_no_pending hq (h.strand hd hlt)

/-! ### non-vacuity: the repaired run of the §9-8 input is an admissible schedule that ends with
    three completions, and at one point has an item waiting while the server is full -/

def cfgR : PCfg := { variant := .repaired, worker := .server, pol := { kind := .fifo } }
def cfgC : PCfg := { variant := .current, worker := .server, pol := { kind := .fifo } }
def itA : Item := ⟨0, 0, 0⟩
def itC : Item := ⟨1, 0, 0⟩
def itD : Item := ⟨2, 0, 0⟩

/-- deliveries of the patched implementation for A@1s, C and D @2s behind A's continuation -/
def schedR : List Act :=
  [.arr itA, .notify, .poll, .deliver (some 0), .work 0, .disp,
   .fin 0, .arr itC, .arr itD, .poll, .notify, .deliver (some 1), .work 1, .disp,
   .fin 1, .poll, .deliver (some 2), .work 2, .disp, .fin 2, .poll, .deliver none]

example : Setting cfgR := ⟨rfl, rfl, Or.inl rfl⟩
example : Sched cfgR { limit := 1 } schedR := by decide +kernel
example : (final cfgR { limit := 1 } schedR).completed = 3 ∧ (final cfgR { limit := 1 } schedR).acc = 3 := by decide +kernel
example : let s := final cfgR { limit := 1 } (schedR.take 14)
    quiescent s = true ∧ s.depth cfgR = 1 ∧ s.active = 1 := by decide +kernel

/-! ### non-vacuity of the identity and order theorems: a FIFO queue of capacity 1 in front of a
    one-slot server; item 2 is refused (queue full), items 1 and 3 wait, three items complete -/

def cfgK : PCfg := { variant := .repaired, worker := .server, pol := { kind := .fifo, cap := some 1 } }
def itm (i : Nat) : Item := ⟨i, 0, 0⟩

def schedK : List Act :=
  [.arr (itm 0), .notify, .poll, .arr (itm 1), .arr (itm 2), .deliver (some 0), .work 0, .disp,
   .fin 0, .poll, .arr (itm 3), .deliver (some 1), .work 1, .disp, .notify,
   .fin 1, .poll, .deliver (some 3), .work 3, .disp, .fin 3, .poll, .deliver none]

example : Setting cfgK := ⟨rfl, rfl, Or.inl rfl⟩
/-- the hypotheses of `item_state_partition_full` and `fifo_end_to_end` hold of it -/
example : Sched cfgK { limit := 1 } schedK ∧ (offeredIds schedK).Nodup ∧ cfgK.pol.kind = .fifo := by decide +kernel
/-- at the end: one refused and counted, three completed once each, in acceptance order -/
example : ghost cfgK { limit := 1 } {} schedK =
    { offered := [0, 1, 2, 3], refused := [2], accepted := [0, 1, 3], started := [0, 1, 3], done := [0, 1, 3] } ∧
    (final cfgK { limit := 1 } schedK).dropped = 1 ∧ (final cfgK { limit := 1 } schedK).completed = 3 := by decide +kernel
/-- after 14 events every population but "in transit" is inhabited: item 2 refused, item 3 waiting,
    item 1 in service, item 0 completed — and the conclusions of the theorems, computed -/
example : let s := final cfgK { limit := 1 } (schedK.take 14)
    let g := ghost cfgK { limit := 1 } {} (schedK.take 14)
    g.refused = [2] ∧ waitIds cfgK.pol s.q = [3] ∧ s.delivers ++ s.works = [] ∧ s.inService = [1] ∧ g.done = [0] ∧
    populations cfgK s g = [2, 3, 1, 0] ∧ g.accepted = g.done ++ ((s.inService ++ (s.delivers ++ s.works)) ++ waitIds cfgK.pol s.q) := by
  decide +kernel
/-- after 10 events item 1 is in transit (dequeued, not yet at the worker) -/
example : (final cfgK { limit := 1 } (schedK.take 10)).delivers = [1] := by decide +kernel

/-- the wider setting: a fair queue behind the balking wrapper; flow 0 holds items 0 and 1, flow 1
    item 2 — served round robin, item 1 still waits -/
def cfgF : PCfg := { variant := .repaired, worker := .server, pol := { kind := .fair, balk := some 1 } }
def schedF : List Act :=
  [.arr ⟨0, 0, 0⟩, .arr ⟨1, 0, 0⟩, .arr ⟨2, 0, 1⟩, .notify, .poll, .deliver (some 0), .work 0, .disp,
   .fin 0, .poll, .deliver (some 2), .work 2, .disp]

example : Setting cfgF := ⟨rfl, rfl, Or.inr (Or.inr (Or.inr (Or.inr (Or.inr (Or.inl rfl)))))⟩
example : Sched cfgF { limit := 1 } schedF ∧ (offeredIds schedF).Nodup := by decide +kernel
example : populations cfgF (final cfgF { limit := 1 } schedF) (ghost cfgF { limit := 1 } {} schedF) = [1, 2, 0] ∧
    (final cfgF { limit := 1 } schedF).inService = [2] := by decide +kernel

/-! ### the driver before the repair falsifies the clauses (DESIGN §9-8): the `current` variant is the
    `QueueDriver` of /repo at 7d08bcf, before `_poll_if_ready` (/repo 35177a9); concrete delivery
    sequences of that implementation, replayed on it -/

/-- deliveries of the unpatched implementation for the same input -/
def schedC : List Act :=
  [.arr itA, .notify, .poll, .deliver (some 0), .work 0,
   .fin 0, .arr itC, .arr itD, .poll, .notify, .deliver (some 1), .work 1, .poll, .deliver (some 2), .work 2]

/-- a completion-hook poll and a notify poll in one instant dequeue two items for one slot; the
    `Server` discards the second after dequeue: accepted 3, and one accepted item is rejected -/
theorem double_poll_discards :
    (final cfgC { limit := 1 } schedC).rejected = 1 ∧ (final cfgC { limit := 1 } schedC).acc = 3 ∧
    (final cfgC { limit := 1 } schedC).depth cfgC = 0 := by decide +kernel

/-- the unrepaired driver on the §9-8 input: nothing is lost, but item 2 ends in the seventh population -/
example : (ghost cfgC { limit := 1 } {} schedC).discarded = [2] ∧ (offeredIds schedC).Nodup := by decide +kernel

/-- with a worker that does not re-check (plain QueuedResource / ShiftedServer) the limit is exceeded -/
theorem double_poll_over_admits :
    (final { cfgC with worker := .shifted } { limit := 1 } schedC).inService.length = 2 := by decide +kernel

/-- a burst of two on one nanosecond at a two-slot server: one notify, one poll — the second item
    waits beside a free slot with nothing pending (the `current` driver strands it for a service time) -/
theorem burst_strands_current :
    let s := final cfgC { limit := 2 } [.arr itA, .arr itC, .notify, .poll, .deliver (some 0), .work 0]
    quiescent s = true ∧ s.depth cfgC = 1 ∧ s.active < s.limit := by decide +kernel

/-- ShiftedServer, capacity 0 → 2 with three jobs queued: nothing is pending afterwards (the shape of §9-8b) -/
theorem shift_change_strands_current :
    let s := final { cfgC with worker := .shifted } { limit := 0 }
      [.arr itA, .notify, .arr itC, .arr itD, .shift 2]
    quiescent s = true ∧ s.depth cfgC = 3 ∧ s.active < s.limit := by decide +kernel

/-- the repaired shift change wakes the driver -/
example :
    let s := final { cfgR with worker := .shifted } { limit := 0 } [.arr itA, .notify, .arr itC, .arr itD, .shift 2]
    quiescent s = false := by decide +kernel

/-- the schedule hypothesis is needed: if the engine delivered the driver's note before the payload
    it follows, the repaired driver would over-poll too -/
theorem dispatched_before_payload_breaks :
    (final cfgR { limit := 1 }
      [.arr itA, .arr itC, .notify, .poll, .deliver (some 0), .disp, .poll, .deliver (some 1), .work 0, .work 1]).rejected = 1 := by
  decide +kernel

end HappyModel.C08.Pipe
