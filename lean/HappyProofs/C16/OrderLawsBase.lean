import HappyProofs.C16.PolicyRun
/-!
The invariant of the history alone (`SpecInv`) and the two shapes a policy's container takes against the held
records: a projection of them (`Proj`: LFU, TTL) and a key list kept sorted by last touch (`LruSeg`: LRU, SLRU's
protected segment).
-/
namespace HappyModel.C16

theorem mem_keys_of_mem {s : SpecSt} {r : HRec} (h : r ∈ s.held) : r.key ∈ s.keys :=
  List.mem_map.mpr ⟨r, h, rfl⟩

structure SpecInv (s : SpecSt) : Prop where
  nodup : s.keys.Nodup
  ins_lt : ∀ r ∈ s.held, r.ins < s.tick
  last_lt : ∀ r ∈ s.held, r.last < s.tick
  sorted : s.held.Pairwise (fun a b => a.ins < b.ins)

theorem specInv_init : SpecInv {} :=
  ⟨by simp [SpecSt.keys], by simp, by simp, by simp⟩

theorem specInv_filter (s : SpecSt) (k : Key) (h : SpecInv s) :
    SpecInv { s with tick := s.tick + 1, held := s.held.filter (fun r => r.key != k) } := by
  obtain ⟨hn, hi, hl, hs⟩ := h
  refine ⟨?_, ?_, ?_, hs.sublist List.filter_sublist⟩
  · simp only [SpecSt.keys] at hn ⊢
    rw [keys_filter]; exact hn.sublist List.filter_sublist
  · intro r hr
    have := hi r (List.mem_filter.mp hr).1
    simp only; omega
  · intro r hr
    have := hl r (List.mem_filter.mp hr).1
    simp only; omega

theorem specInv_step (s : SpecSt) (op : POp) (res : Option Key) (h : SpecInv s)
    (hwf : (s.step op res).wf = true) : SpecInv (s.step op res) := by
  obtain ⟨hn, hi, hl, hs⟩ := h
  cases op with
  | access k =>
    refine ⟨by rw [step_keys_access]; exact hn, ?_, ?_, ?_⟩ <;> rw [step_access]
    · simp only [List.forall_mem_map, touch_ins]
      exact fun r hr => Nat.lt_succ_of_lt (hi r hr)
    · simp only [List.forall_mem_map]
      exact fun r hr => touch_last_lt (hl r hr)
    · simp only [List.pairwise_map, touch_ins]
      exact hs
  | insert k now =>
    have hh := wf_insert_not_has s k now res hwf
    refine ⟨by rw [step_keys_insert _ _ _ _ hh]; exact nodup_append_singleton hn (not_mem_keys_of_not_has hh),
      ?_, ?_, ?_⟩ <;> rw [step_insert_wf _ _ _ _ hh]
    · simp only [List.mem_append, List.mem_singleton]
      rintro r (hr | rfl)
      · exact Nat.lt_succ_of_lt (hi r hr)
      · exact Nat.lt_succ_self _
    · simp only [List.mem_append, List.mem_singleton]
      rintro r (hr | rfl)
      · exact Nat.lt_succ_of_lt (hl r hr)
      · exact Nat.lt_succ_self _
    · simp only [List.pairwise_append]
      exact ⟨hs, List.pairwise_singleton _ _, fun a ha b hb => List.mem_singleton.mp hb ▸ hi a ha⟩
  | remove k => exact specInv_filter s k ⟨hn, hi, hl, hs⟩
  | evict now pick =>
    cases res with
    | some k => exact specInv_filter s k ⟨hn, hi, hl, hs⟩
    | none => exact ⟨hn, fun r hr => Nat.lt_succ_of_lt (hi r hr), fun r hr => Nat.lt_succ_of_lt (hl r hr), hs⟩
  | clear => exact ⟨List.nodup_nil, nofun, nofun, List.Pairwise.nil⟩

theorem find_of_mem {l : List HRec} (h : (l.map (·.key)).Nodup) {r : HRec} (hr : r ∈ l) :
    l.find? (fun x => x.key == r.key) = some r := by
  induction l with
  | nil => cases hr
  | cons a t ih =>
    simp only [List.map_cons, List.nodup_cons] at h
    rw [List.find?_cons]
    by_cases e : a.key = r.key
    · simp only [e, beq_self_eq_true]
      rcases List.mem_cons.mp hr with rfl | hr'
      · rfl
      · exact absurd (List.mem_map.mpr ⟨r, hr', rfl⟩) (e ▸ h.1)
    · have : (a.key == r.key) = false := by simpa using e
      simp only [this]
      rcases List.mem_cons.mp hr with rfl | hr'
      · exact absurd rfl e
      · exact ih h.2 hr'

theorem rec_unique {l : List HRec} (h : (l.map (·.key)).Nodup) {a b : HRec} (ha : a ∈ l) (hb : b ∈ l)
    (e : a.key = b.key) : a = b := by
  have h1 := find_of_mem h ha
  have h2 := find_of_mem h hb
  rw [e, h2] at h1
  exact (Option.some.inj h1).symm

theorem rec?_of_mem {s : SpecSt} (h : s.keys.Nodup) {r : HRec} (hr : r ∈ s.held) :
    s.rec? r.key = some r := find_of_mem h hr

theorem akeys_proj {α} (l : List HRec) (f : HRec → α) :
    akeys (l.map (fun r => (r.key, f r))) = l.map (·.key) := by
  simp [akeys, Function.comp_def]

theorem proj_filter {α} (l : List HRec) (f : HRec → α) (k : Key) :
    adel (l.map (fun r => (r.key, f r))) k =
      (l.filter (fun r => r.key != k)).map (fun r => (r.key, f r)) := by
  simp only [adel]; rw [List.filter_map]; rfl

theorem aget?_proj {α} (l : List HRec) (f : HRec → α) (k : Key) :
    aget? (l.map (fun r => (r.key, f r))) k = (l.find? (fun r => r.key == k)).map f := by
  induction l with
  | nil => rfl
  | cons a t ih =>
    simp only [aget?, List.map_cons, List.find?_cons] at ih ⊢
    by_cases e : a.key = k
    · simp [e]
    · have : (a.key == k) = false := by simpa using e
      simp only [this]; exact ih

/-- the association list `al` of a policy lists `f` of every held record, in the history's order
    (LFU: the touch count, TTL: the insertion reading) -/
def Proj (f : HRec → Nat) (al : List (Key × Nat)) (held : List HRec) : Prop :=
  al = held.map (fun r => (r.key, f r))

theorem Proj.insert {f : HRec → Nat} {al : List (Key × Nat)} {held : List HRec} {r : HRec}
    (h : Proj f al held) (hk : r.key ∉ held.map (·.key)) : Proj f (aset al r.key (f r)) (held ++ [r]) := by
  have hk' : r.key ∉ akeys (held.map (fun r => (r.key, f r))) := by rw [akeys_proj]; exact hk
  unfold Proj at *
  simp [h, aset, hk']

theorem Proj.drop {f : HRec → Nat} {al : List (Key × Nat)} {held : List HRec} (h : Proj f al held) (k : Key) :
    Proj f (adel al k) (held.filter (fun r => r.key != k)) := by
  unfold Proj at *
  rw [h, proj_filter]

theorem Proj.argmin {f : HRec → Nat} {al : List (Key × Nat)} {s : SpecSt} {q : Key × Nat} (h : Proj f al s.held)
    (hn : s.keys.Nodup) (hm : argminFirst al = some q) :
    ∃ v ∈ s.held, s.rec? q.1 = some v ∧ f v = q.2 ∧ ∀ r ∈ s.held, f v ≤ f r := by
  obtain ⟨hq, hle⟩ := argminFirst_spec _ _ hm
  rw [h] at hq hle
  obtain ⟨v, hv, rfl⟩ := List.mem_map.mp hq
  exact ⟨v, hv, rec?_of_mem hn hv, rfl, fun r hr => hle (r.key, f r) (List.mem_map.mpr ⟨r, hr, rfl⟩)⟩

def LruOrd (held : List HRec) (a b : Key) : Prop :=
  ∀ ra ∈ held, ∀ rb ∈ held, ra.key = a → rb.key = b → ra.last < rb.last

theorem lruOrd_mono {h h' : List HRec} (hs : ∀ r ∈ h', r ∈ h) {a b : Key} (ho : LruOrd h a b) :
    LruOrd h' a b :=
  fun ra ha rb hb ea eb => ho ra (hs ra ha) rb (hs rb hb) ea eb

theorem lruOrd_touch {held : List HRec} {l : List Key} {k : Key} {tick : Nat} (hn : l.Nodup)
    (hl : ∀ r ∈ held, r.last < tick) (hp : l.Pairwise (LruOrd held)) :
    (l.erase k ++ [k]).Pairwise (LruOrd (held.map (touch tick k))) := by
  rw [List.pairwise_append]
  refine ⟨?_, List.pairwise_singleton _ _, ?_⟩
  · refine (hp.sublist List.erase_sublist).imp_of_mem ?_
    intro a b ha hb hab ra' hra rb' hrb ea eb
    have ha' : a ≠ k := (hn.mem_erase_iff.mp ha).1
    have hb' : b ≠ k := (hn.mem_erase_iff.mp hb).1
    obtain ⟨ra, hra0, rfl⟩ := List.mem_map.mp hra
    obtain ⟨rb, hrb0, rfl⟩ := List.mem_map.mp hrb
    rw [touch_key] at ea eb
    rw [touch_of_ne (ea ▸ ha'), touch_of_ne (eb ▸ hb')]
    exact hab ra hra0 rb hrb0 ea eb
  · intro a ha b hb
    simp only [List.mem_singleton] at hb; subst hb
    intro ra' hra rb' hrb ea eb
    have ha' : a ≠ b := (hn.mem_erase_iff.mp ha).1
    obtain ⟨ra, hra0, rfl⟩ := List.mem_map.mp hra
    obtain ⟨rb, hrb0, rfl⟩ := List.mem_map.mp hrb
    rw [touch_key] at ea eb
    rw [touch_of_ne (ea ▸ ha'), touch_of_eq eb]
    exact hl ra hra0

theorem mem_of_mem_snoc {held : List HRec} {r x : HRec} (hx : x ∈ held ++ [r]) (hne : x.key ≠ r.key) : x ∈ held := by
  rcases List.mem_append.mp hx with h | h
  · exact h
  · exact absurd (congrArg HRec.key (List.mem_singleton.mp h)) hne

theorem lruOrd_snoc {held : List HRec} {l : List Key} {r : HRec} (hk : ∀ a ∈ l, a ≠ r.key)
    (hp : l.Pairwise (LruOrd held)) : l.Pairwise (LruOrd (held ++ [r])) :=
  hp.imp_of_mem fun ha hb hab ra hra rb hrb ea eb =>
    hab ra (mem_of_mem_snoc hra (ea ▸ hk _ ha)) rb (mem_of_mem_snoc hrb (eb ▸ hk _ hb)) ea eb

/-- `l` lists, without repetition and sorted by last touch, the keys of the held records that satisfy `q`
    (LRU: all of them; SLRU's protected segment: the re-accessed ones) -/
structure LruSeg (q : HRec → Bool) (l : List Key) (held : List HRec) : Prop where
  nodup : l.Nodup
  mem : ∀ x, x ∈ l ↔ ∃ r ∈ held, r.key = x ∧ q r = true
  ord : l.Pairwise (LruOrd held)

theorem LruSeg.nil (q : HRec → Bool) : LruSeg q [] [] :=
  ⟨List.nodup_nil, by simp, List.Pairwise.nil⟩

theorem LruSeg.drop {q : HRec → Bool} {l : List Key} {held : List HRec} (h : LruSeg q l held) (k : Key) :
    LruSeg q (l.erase k) (held.filter (fun r => r.key != k)) := by
  refine ⟨h.nodup.erase k, fun x => ?_,
    (h.ord.sublist List.erase_sublist).imp (lruOrd_mono fun _ hr => (List.mem_filter.mp hr).1)⟩
  rw [h.nodup.mem_erase_iff, h.mem x]
  constructor
  · rintro ⟨hne, r, hr, rfl, hq⟩
    exact ⟨r, List.mem_filter.mpr ⟨hr, by simpa using hne⟩, rfl, hq⟩
  · rintro ⟨r, hr, rfl, hq⟩
    obtain ⟨hr1, hr2⟩ := List.mem_filter.mp hr
    exact ⟨by simpa using hr2, r, hr1, rfl, hq⟩

/-- an access to a held key `k` that `q` admits afterwards moves `k` to the recent end -/
theorem LruSeg.touch {q : HRec → Bool} {l : List Key} {held : List HRec} {k : Key} {tick : Nat}
    (h : LruSeg q l held) (hk : k ∈ held.map (·.key)) (hl : ∀ r ∈ held, r.last < tick)
    (hq : ∀ r ∈ held, q (touch tick k r) = (q r || r.key == k)) :
    LruSeg q (l.erase k ++ [k]) (held.map (touch tick k)) := by
  refine ⟨nodup_erase_append h.nodup, fun x => ?_, lruOrd_touch h.nodup hl h.ord⟩
  rw [List.mem_append, h.nodup.mem_erase_iff, List.mem_singleton, h.mem x]
  constructor
  · rintro (⟨_, r, hr, rfl, hqr⟩ | rfl)
    · exact ⟨_, List.mem_map_of_mem hr, touch_key .., by rw [hq r hr, hqr]; rfl⟩
    · obtain ⟨r, hr, e⟩ := List.mem_map.mp hk
      exact ⟨_, List.mem_map_of_mem hr, (touch_key ..).trans e, by rw [hq r hr, beq_iff_eq.mpr e, Bool.or_true]⟩
  · rintro ⟨r', hr', rfl, hqr⟩
    obtain ⟨r, hr, rfl⟩ := List.mem_map.mp hr'
    rw [touch_key]
    by_cases ek : r.key = k
    · exact Or.inr ek
    · rw [hq r hr, beq_false_of_ne ek, Bool.or_false] at hqr
      exact Or.inl ⟨ek, r, hr, rfl, hqr⟩

theorem LruSeg.snoc {q : HRec → Bool} {l : List Key} {held : List HRec} {r : HRec} (h : LruSeg q l held)
    (hk : r.key ∉ held.map (·.key)) (hl : ∀ x ∈ held, x.last < r.last) :
    LruSeg q (if q r then l ++ [r.key] else l) (held ++ [r]) := by
  have hne : ∀ a ∈ l, a ≠ r.key := fun a ha e => by
    obtain ⟨r', hr', e', _⟩ := (h.mem a).mp ha
    exact hk (e ▸ e' ▸ List.mem_map_of_mem hr')
  cases hq : q r
  · exact ⟨h.nodup, fun x => by simp [h.mem x, or_and_right, exists_or, hq], lruOrd_snoc hne h.ord⟩
  · rw [if_pos rfl]
    refine ⟨nodup_append_singleton h.nodup fun hx => hne _ hx rfl, fun x => ?_, ?_⟩
    · simp [h.mem x, or_and_right, exists_or, hq, eq_comm (a := x)]
    · rw [List.pairwise_append]
      refine ⟨lruOrd_snoc hne h.ord, List.pairwise_singleton _ _, fun a ha b hb ra hra rb hrb ea eb => ?_⟩
      cases List.mem_singleton.mp hb
      rcases List.mem_append.mp hrb with hrb | hrb
      · exact absurd (eb ▸ List.mem_map_of_mem hrb) hk
      · cases List.mem_singleton.mp hrb
        exact hl ra (mem_of_mem_snoc hra (ea ▸ hne a ha))

theorem LruSeg.head {q : HRec → Bool} {a : Key} {rest : List Key} {held : List HRec}
    (h : LruSeg q (a :: rest) held) (hn : (held.map (·.key)).Nodup) :
    ∃ v ∈ held, v.key = a ∧ q v = true ∧ ∀ r ∈ held, q r = true → v.last ≤ r.last := by
  obtain ⟨v, hv, rfl, hqv⟩ := (h.mem a).mp List.mem_cons_self
  refine ⟨v, hv, rfl, hqv, fun r hr hqr => ?_⟩
  rcases List.mem_cons.mp ((h.mem r.key).mpr ⟨r, hr, rfl, hqr⟩) with e | hin
  · rw [rec_unique hn hr hv e]; exact Nat.le_refl _
  · exact Nat.le_of_lt ((List.pairwise_cons.mp h.ord).1 r.key hin v hv r hr rfl rfl)

end HappyModel.C16
