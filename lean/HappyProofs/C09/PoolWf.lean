import HappyProofs.C09.PoolInv
/-! The well-formedness of a *schedule of generator segments*
(what the engine guarantees about the order in which it resumes `acquire()` generators, delivers
`_pool_idle_timeout` events and raises `TimeoutError`), and the structural invariants of the pool state
that the judge's bookkeeping relies on. -/
namespace HappyModel.C09.Pool

/-- one transcript line (`Driver.runPool`): clock, segment, result, and the four public counters
    `a=` / `i=` / `n=` / `p=` of the post-state -/
def obsOf (t : Nat) (o : Op) (r : Res) (s' : St) : Obs :=
  ⟨t, o, r, s'.active.length, s'.idle.length, s'.total, s'.waiters.length⟩

/-- the model's transcript on a schedule of `(clock, segment)` pairs: every segment is executed with
    `stepAt` (the clock of the entry is the pool's `now`), as `Driver.runPool` does.  A segment answered `.bad` is the
    exception: the driver prints `res=!bad-segment`, a line `judgePool` cannot read (`pool/malformed-judge-input`);
    `SchedOk` excludes those -/
def obsTrace (s : St) : List (Nat × Op) → List Obs
  | [] => []
  | e :: rest =>
    obsOf e.1 e.2 (stepAt s e.1 e.2).2 (stepAt s e.1 e.2).1 :: obsTrace (stepAt s e.1 e.2).1 rest

/-- the id of a new `acquire()` call is not the id of a call that is still pending inside the pool
    (queued, or handed a connection it has not noticed yet) -/
def freshId (s : St) (id : Nat) : Bool := !s.waiters.contains id && !s.handed.any (·.1 == id)

/-- the engine's timer: `TimeoutError` is raised only in a call that did queue, and not earlier than
    `timeoutNs` after it queued; `since` = (call id, clock of its queueing `acq`), latest first -/
def timerOk (timeoutNs : Nat) (since : List (Nat × Nat)) (t id : Nat) : Bool :=
  match since.find? (·.1 == id) with
  | some st => decide (st.2 + timeoutNs ≤ t)
  | none => false

def headFree (s : St) (id : Nat) : Bool :=
  s.waiters.head? == some id && (!s.idle.isEmpty || decide (s.total < s.max))

/-- one schedule entry `(t, o)` is possible in state `s`:

* the segment exists (`stepAt` does not answer `bad`: `made id` only while call `id` has a set-up in
  flight, `wmade` only while a warm-up set-up is in flight, `timeout` not in a call that was handed a
  connection);
* `acq id`: the call id is fresh (not queued, not handed a connection it has not noticed);
* `timeout id`: the timer ran out (`timerOk`), and the call is not the first waiter with capacity free
  (the real acquirer polls before it looks at its deadline, so it would have taken that capacity);
* `idleCheck c e`: the event armed at `e` is delivered no earlier than `e + idleNs`. -/
def opOk (timeoutNs idleNs : Nat) (s : St) (since : List (Nat × Nat)) (t : Nat) (o : Op) : Bool :=
  (stepAt s t o).2 != .bad &&
  match o with
  | .acq id => freshId s id
  | .timeout id => timerOk timeoutNs since t id && !headFree s id
  | .idleCheck _ e => decide (e + idleNs ≤ t)
  | _ => true

def sinceStep (since : List (Nat × Nat)) (t : Nat) (o : Op) (r : Res) : List (Nat × Nat) :=
  match o, r with
  | .acq id, .waiting => (id, t) :: since
  | _, _ => since

def sinceAfter (s : St) (since : List (Nat × Nat)) (t : Nat) (o : Op) : List (Nat × Nat) :=
  sinceStep since t o (stepAt s t o).2

/-- a schedule the engine can produce, threaded through the (timed) model run and the queueing times -/
def SchedOk (timeoutNs idleNs : Nat) : St → List (Nat × Nat) → List (Nat × Op) → Bool
  | _, _, [] => true
  | s, since, e :: rest =>
    opOk timeoutNs idleNs s since e.1 e.2
      && SchedOk timeoutNs idleNs (stepAt s e.1 e.2).1 (sinceAfter s since e.1 e.2) rest

/-- connections are distinct and were all created (`≤ nextConn`) -/
structure ConnOk (idle active closed : List Nat) (n : Nat) : Prop where
  idleNodup : idle.Nodup
  activeNodup : active.Nodup
  disj : ∀ c ∈ idle, c ∉ active
  idleLe : ∀ c ∈ idle, c ≤ n
  activeLe : ∀ c ∈ active, c ≤ n
  closedLe : ∀ c ∈ closed, c ≤ n

structure QueueOk (w : List Nat) (hd : List (Nat × Nat)) : Prop where
  waitNodup : w.Nodup
  handNodup : (hd.map (·.1)).Nodup
  waitHand : ∀ x ∈ w, x ∉ hd.map (·.1)

abbrev St.ConnOk (s : St) : Prop := Pool.ConnOk s.idle s.active s.closed s.nextConn
abbrev St.QueueOk (s : St) : Prop := Pool.QueueOk s.waiters s.handed

structure Wf (s : St) : Prop where
  inv : Inv s
  conn : s.ConnOk
  queue : s.QueueOk

theorem init_wf (max min : Nat) (h : min ≤ max) : Wf { max := max, min := min } :=
  ⟨init_inv' max min h, ⟨List.nodup_nil, List.nodup_nil, by simp, by simp, by simp, by simp⟩,
   ⟨List.nodup_nil, List.nodup_nil, by simp⟩⟩

theorem wf_now {s : St} (t : Nat) (wf : Wf s) : Wf { s with now := t } := ⟨inv_now t wf.inv, wf.conn, wf.queue⟩

theorem freshId_spec {s : St} {id : Nat} (h : freshId s id = true) :
    id ∉ s.waiters ∧ id ∉ s.handed.map (·.1) := by
  simp only [freshId, Bool.and_eq_true, Bool.not_eq_true'] at h
  constructor
  · intro hm
    have : s.waiters.contains id = true := List.contains_iff_mem.2 hm
    rw [h.1] at this; cases this
  · intro hm
    obtain ⟨x, hx, hxe⟩ := List.mem_map.1 hm
    have : s.handed.any (·.1 == id) = true := List.any_eq_true.2 ⟨x, hx, by simp [hxe]⟩
    rw [h.2] at this; cases this

variable {i a cl : List Nat} {n : Nat}

theorem ConnOk.fresh (h : ConnOk i a cl n) : n + 1 ∉ i ∧ n + 1 ∉ a ∧ n + 1 ∉ cl :=
  ⟨fun hm => Nat.not_succ_le_self n (h.idleLe _ hm), fun hm => Nat.not_succ_le_self n (h.activeLe _ hm),
   fun hm => Nat.not_succ_le_self n (h.closedLe _ hm)⟩

theorem conn_take {c : Nat} {rest : List Nat} (h : ConnOk (c :: rest) a cl n) : ConnOk rest (a ++ [c]) cl n :=
  have hc := List.nodup_cons.1 h.idleNodup
  ⟨hc.2, nodup_snoc h.activeNodup (h.disj c (.head _)),
   fun x hx hxa => snoc_all (P := (· ∉ rest)) (fun y hy hyr => h.disj y (.tail _ hyr) hy) hc.1 x hxa hx,
   fun x hx => h.idleLe x (.tail _ hx), snoc_all h.activeLe (h.idleLe c (.head _)), h.closedLe⟩

theorem conn_new_active (h : ConnOk i a cl n) : ConnOk i (a ++ [n + 1]) cl (n + 1) :=
  have ⟨hni, hna, _⟩ := h.fresh
  ⟨h.idleNodup, nodup_snoc h.activeNodup hna,
   fun x hx hxa => snoc_all (P := (· ∉ i)) (fun y hy hyi => h.disj y hyi hy) hni x hxa hx,
   fun x hx => Nat.le_succ_of_le (h.idleLe x hx),
   snoc_all (fun x hx => Nat.le_succ_of_le (h.activeLe x hx)) (Nat.le_refl _),
   fun x hx => Nat.le_succ_of_le (h.closedLe x hx)⟩

theorem conn_new_idle (h : ConnOk i a cl n) : ConnOk (i ++ [n + 1]) a cl (n + 1) :=
  have ⟨hni, hna, _⟩ := h.fresh
  ⟨nodup_snoc h.idleNodup hni, h.activeNodup, snoc_all h.disj hna,
   snoc_all (fun x hx => Nat.le_succ_of_le (h.idleLe x hx)) (Nat.le_refl _),
   fun x hx => Nat.le_succ_of_le (h.activeLe x hx), fun x hx => Nat.le_succ_of_le (h.closedLe x hx)⟩

theorem conn_to_idle {c : Nat} (hm : c ∈ a) (h : ConnOk i a cl n) : ConnOk (i ++ [c]) (a.erase c) cl n :=
  have hsub : ∀ x ∈ a.erase c, x ≠ c ∧ x ∈ a := fun _ hx => (List.Nodup.mem_erase_iff h.activeNodup).1 hx
  ⟨nodup_snoc h.idleNodup fun hi => h.disj c hi hm, List.Nodup.erase c h.activeNodup,
   snoc_all (fun x hx hxa => h.disj x hx (hsub x hxa).2) fun hca => (hsub c hca).1 rfl,
   snoc_all h.idleLe (h.activeLe c hm), fun x hx => h.activeLe x (hsub x hx).2, h.closedLe⟩

theorem conn_close {c : Nat} (hm : c ∈ i) (h : ConnOk i a cl n) : ConnOk (i.erase c) a (cl ++ [c]) n :=
  ⟨List.Nodup.erase c h.idleNodup, h.activeNodup, fun x hx => h.disj x (List.mem_of_mem_erase hx),
   fun x hx => h.idleLe x (List.mem_of_mem_erase hx), h.activeLe, snoc_all h.closedLe (h.idleLe c hm)⟩

variable {w : List Nat} {hd : List (Nat × Nat)}

theorem queue_push {id : Nat} (h : QueueOk w hd) (h1 : id ∉ w) (h2 : id ∉ hd.map (·.1)) :
    QueueOk (w ++ [id]) hd :=
  ⟨nodup_snoc h.waitNodup h1, h.handNodup, snoc_all h.waitHand h2⟩

theorem queue_hand {x c : Nat} {ws : List Nat} (h : QueueOk (x :: ws) hd) : QueueOk ws (hd ++ [(x, c)]) := by
  have hw := List.nodup_cons.1 h.waitNodup
  refine ⟨hw.2, ?_, fun y hy hm => ?_⟩
  · rw [List.map_append]; exact nodup_snoc h.handNodup (h.waitHand x (.head _))
  · rw [List.map_append] at hm
    exact snoc_all (P := (· ∉ ws)) (fun z hz hzw => h.waitHand z (.tail _ hzw) hz) hw.1 y hm hy

theorem queue_wsub {w' : List Nat} (hs : w'.Sublist w) (h : QueueOk w hd) : QueueOk w' hd :=
  ⟨h.waitNodup.sublist hs, h.handNodup, fun x hx => h.waitHand x (hs.subset hx)⟩

theorem queue_hfilter (p : Nat × Nat → Bool) (h : QueueOk w hd) : QueueOk w (hd.filter p) := by
  have hsub : ((hd.filter p).map (·.1)).Sublist (hd.map (·.1)) := List.Sublist.map _ List.filter_sublist
  exact ⟨h.waitNodup, h.handNodup.sublist hsub, fun x hx hm => h.waitHand x hx (hsub.subset hm)⟩

variable {s s' : St} {o : Op} {r : Res}

theorem Leaf.conn (h : Leaf s o s' r) (hc : s.ConnOk) : s'.ConnOk := by
  have hc' : ConnOk s.idle s.active s.closed s.nextConn := hc
  cases h with
  | acqIdle _ hi | pollIdle _ _ _ hi => rw [hi] at hc'; exact conn_take hc'
  | made => exact conn_new_active hc'
  | relIdle _ hm | abIdle _ _ _ hm => exact conn_to_idle hm hc'
  | closed _ _ hm => exact conn_close hm hc'
  | wmade => exact conn_new_idle hc'
  | _ => exact hc

theorem Leaf.queue (h : Leaf s o s' r) (hq : s.QueueOk) (hfresh : ∀ id, o = .acq id → freshId s id = true) :
    s'.QueueOk := by
  have hq' : QueueOk s.waiters s.handed := hq
  cases h with
  | acqWait id =>
    have hf := freshId_spec (hfresh id rfl)
    exact queue_push hq' hf.1 hf.2
  | pollGot | abStale | abIdle => exact queue_hfilter _ hq'
  | pollIdle | pollCreate => exact queue_wsub (List.tail_sublist _) hq'
  | timeout | abWaiter => exact queue_wsub List.filter_sublist hq'
  | relHand _ _ hw => rw [hw] at hq'; exact queue_hand hq'
  | abHand _ _ _ _ hw => rw [hw] at hq'; exact queue_hand (queue_hfilter _ hq')
  | _ => exact hq

theorem stepAt_wf (s : St) (t : Nat) (o : Op) (wf : Wf s) (hfresh : ∀ id, o = .acq id → freshId s id = true) :
    Wf (stepAt s t o).1 :=
  have wt := wf_now t wf
  have l := step_leaf { s with now := t } o
  ⟨step_inv _ o wt.inv, l.conn wt.conn, l.queue wt.queue hfresh⟩

end HappyModel.C09.Pool
