import HappyProofs.C19.WinCounters
import HappyProofs.C19.WinFixed
import HappyProofs.C19.WinSession
import HappyProofs.C19.WinSessRun
/-!
C19 extension family `Win` — property theorems for the stream-processor windows
(`streaming/stream_processor.py` after `fixes/C19-win-*.diff`): the Spec judge accepts the model's own transcript for
every window kind and schedule, session windows neither lose nor split records, the public counters add up; beside
them runs on which the hypotheses hold, and transcripts of the code before the fixes that the judge rejects.
-/
namespace HappyModel.C19.Win

/-- **Exactly-once accounting of windowed records** (tumbling and sliding windows).  For every size, every positive
slide, allowed lateness, late-event policy and every schedule of generator segments (records in any
order with any event times, self-scheduled and injected watermarks, side-output deliveries), the core clauses of the
Spec judge (`judgeCore`) accept the transcript of the model.  `legit` is the engine's part: a LateEvent is delivered only while in
flight and none is in flight at the end. -/
theorem window_records_accounted_once (cfg : Cfg) (sched : List Line) (hk : cfg.kind ≠ 2)
    (hs : cfg.kind = 0 ∨ 0 < cfg.slide) (hl : legit cfg {} sched = true) :
    judgeCore cfg {} (sched.zip (run cfg {} sched)) = none :=
  judge_run_ok cfg hk hs sched {} {} ⟨R0_init, winRel_nil⟩ hl

/-- **The full statement**: every window kind the library has (tumbling, sliding, session), every policy /
lateness / schedule, against the core *and* extra clauses of the judge (`judgeSafety`): late classification,
counters, watermark, results = records owed, never twice, never dropped, side output, `active_windows`; for
sessions: an emitted session consists of pending records of its key, spans `[min et, max et + gap]`, is
gap-connected and maximal, no closed session is left, `active_windows` = number of gap groups.
For sessions the judge recognises the members of a result by record id, hence the hypothesis that the schedule's
record ids are distinct (`session_judge_needs_distinct_ids` shows it cannot be dropped); tumbling / sliding need none. -/
theorem window_records_accounted_once_full (cfg : Cfg) (sched : List Line)
    (hs : cfg.kind = 0 ∨ cfg.kind = 2 ∨ 0 < cfg.slide) (hl : legit cfg {} sched = true)
    (hid : cfg.kind = 2 → (procIds sched).Nodup) :
    judgeSafety cfg {} (sched.zip (run cfg {} sched)) = none := by
  by_cases hk : cfg.kind = 2
  · exact judge_safety_run_kind (sessLaws cfg hk) sched {} {} R0_init (SessRel.nil _) hl fun _ => by simpa using hid hk
  · exact judge_safety_run_kind (fixedLaws cfg hk (by omega)) sched {} {} R0_init winRel_nil hl fun h => absurd h hk

/-- all window kinds against the core clauses — no hypothesis on record ids -/
theorem window_core_clauses_all_kinds (cfg : Cfg) (sched : List Line)
    (hs : cfg.kind = 0 ∨ cfg.kind = 2 ∨ 0 < cfg.slide) (hl : legit cfg {} sched = true) :
    judgeCore cfg {} (sched.zip (run cfg {} sched)) = none := by
  by_cases hk : cfg.kind = 2
  · exact judge_core_run_sess cfg hk sched {} {} R0_init hl
  · exact window_records_accounted_once cfg sched hk (by omega) hl

/-- two session records with the same id: the judge cannot tell which of them a result with that id carries and
rejects the model's (correct) transcript — the distinct-ids hypothesis of the full statement is needed -/
theorem session_judge_needs_distinct_ids :
    legit { kind := 2, size := 0, slide := 0, gap := 2, late := 0, policy := 0, side := false, interval := 1 } {}
      [⟨0, .proc ⟨0, 0, 1, 1⟩⟩, ⟨0, .proc ⟨0, 0, 10, 1⟩⟩, ⟨1, .wmA true 5⟩, ⟨1, .wmB⟩] = true ∧
    judgeSafety { kind := 2, size := 0, slide := 0, gap := 2, late := 0, policy := 0, side := false, interval := 1 } {}
      (([⟨0, .proc ⟨0, 0, 1, 1⟩⟩, ⟨0, .proc ⟨0, 0, 10, 1⟩⟩, ⟨1, .wmA true 5⟩, ⟨1, .wmB⟩] : List Line).zip
        (run { kind := 2, size := 0, slide := 0, gap := 2, late := 0, policy := 0, side := false, interval := 1 } {}
          [⟨0, .proc ⟨0, 0, 1, 1⟩⟩, ⟨0, .proc ⟨0, 0, 10, 1⟩⟩, ⟨1, .wmA true 5⟩, ⟨1, .wmB⟩])) ≠ none := by
  decide +kernel

/-! non-vacuity: a run with two keys, a window emitted, re-opened by a record inside the allowed lateness
and emitted again with both records, a late record sent to the side output and received -/
def demoCfg : Cfg := { kind := 1, size := 4, slide := 2, gap := 0, late := 3, policy := 1, side := true, interval := 1 }

def demoSched : List Line :=
  [⟨0, .proc ⟨0, 0, 1, 5⟩⟩, ⟨0, .proc ⟨1, 1, 3, 2⟩⟩, ⟨1, .wmA false 1⟩, ⟨1, .wmB⟩,
   ⟨2, .wmA true 6⟩, ⟨2, .wmB⟩, ⟨3, .proc ⟨2, 0, 3, 7⟩⟩, ⟨3, .wmA false 2⟩, ⟨3, .wmB⟩,
   ⟨4, .proc ⟨3, 0, 0, 1⟩⟩, ⟨4, .lateRecv 3⟩, ⟨4, .fin⟩]

example : legit demoCfg {} demoSched = true := by decide +kernel

example : (run demoCfg {} demoSched).filterMap (fun o => match o with | .emits _ ems _ => some ems | _ => none) =
    [[], [⟨0, 0, 4, 1, 5, [0]⟩, ⟨1, 0, 4, 1, 2, [1]⟩, ⟨1, 2, 6, 1, 2, [1]⟩],
     [⟨0, 0, 4, 2, 12, [0, 2]⟩, ⟨0, 2, 6, 1, 7, [2]⟩]] := by decide +kernel

example : judgeFull demoCfg {} (demoSched.zip (run demoCfg {} demoSched)) = none := by decide +kernel

/-- the unrepaired code's answer to a record inside the allowed lateness — a second result for window [0, 4)
carrying only the new record — is rejected -/
theorem judge_rejects_double_emission :
    judgeCore { kind := 0, size := 4, slide := 1, gap := 0, late := 9, policy := 0, side := false, interval := 1 } {}
      [(⟨0, .proc ⟨0, 0, 1, 5⟩⟩, .proc 0 ⟨1, 0, 0, 0, 0, 0, 1, 0⟩),
       (⟨1, .wmA true 4⟩, .wm false ⟨1, 0, 0, 0, 0, 0, 1, 4⟩),
       (⟨1, .wmB⟩, .emits 1 [⟨0, 0, 4, 1, 5, [0]⟩] ⟨1, 1, 0, 0, 0, 0, 0, 4⟩),
       (⟨2, .proc ⟨1, 0, 2, 7⟩⟩, .proc 0 ⟨2, 1, 0, 0, 0, 0, 1, 4⟩),
       (⟨3, .wmA true 5⟩, .wm false ⟨2, 1, 0, 0, 0, 0, 1, 5⟩),
       (⟨3, .wmB⟩, .emits 1 [⟨0, 0, 4, 1, 7, [1]⟩] ⟨2, 2, 0, 0, 0, 0, 0, 5⟩)]
      = some "win/emit/records-not-those-assigned" := by decide +kernel

/-- a firing that leaves a closed window out is rejected, and so is a second emission without a new record -/
theorem judge_rejects_dropped_window :
    judgeCore { kind := 0, size := 4, slide := 1, gap := 0, late := 0, policy := 0, side := false, interval := 1 } {}
      [(⟨0, .proc ⟨0, 0, 1, 5⟩⟩, .proc 0 ⟨1, 0, 0, 0, 0, 0, 1, 0⟩),
       (⟨1, .wmA true 4⟩, .wm false ⟨1, 0, 0, 0, 0, 0, 1, 4⟩),
       (⟨1, .wmB⟩, .emits 0 [] ⟨1, 0, 0, 0, 0, 0, 1, 4⟩)]
      = some "win/emit/closed-window-not-emitted" ∧
    judgeCore { kind := 0, size := 4, slide := 1, gap := 0, late := 0, policy := 0, side := false, interval := 1 } {}
      [(⟨0, .proc ⟨0, 0, 1, 5⟩⟩, .proc 0 ⟨1, 0, 0, 0, 0, 0, 1, 0⟩),
       (⟨1, .wmA true 4⟩, .wm false ⟨1, 0, 0, 0, 0, 0, 1, 4⟩),
       (⟨1, .wmB⟩, .emits 1 [⟨0, 0, 4, 1, 5, [0]⟩] ⟨1, 1, 0, 0, 0, 0, 0, 4⟩),
       (⟨2, .wmA true 5⟩, .wm false ⟨1, 1, 0, 0, 0, 0, 0, 5⟩),
       (⟨2, .wmB⟩, .emits 1 [⟨0, 0, 4, 1, 5, [0]⟩] ⟨1, 2, 0, 0, 0, 0, 0, 5⟩)]
      = some "win/emit/window-emitted-twice" := by decide +kernel

/-- **Session windows never lose or duplicate a record.**  For every schedule: the records in the active
sessions plus the records in all emitted results are the accepted records — by count, by sum of values,
and id by id (each accepted id appears exactly as often as it was accepted). -/
theorem session_records_conserved (cfg : Cfg) (hk : cfg.kind = 2) (sched : List Line) :
    let s := finalState cfg {} sched
    let tr := sched.zip (run cfg {} sched)
    measure (fun _ => 1) s.wins + emM (·.cnt) (run cfg {} sched) = accM (fun _ => 1) tr ∧
    measure (·.val) s.wins + emM (·.sum) (run cfg {} sched) = accM (·.val) tr ∧
    ∀ i, measure (fun r => if r.id = i then 1 else 0) s.wins + emM (fun em => em.ids.count i) (run cfg {} sched)
      = accM (fun r => if r.id = i then 1 else 0) tr := by
  refine ⟨?_, ?_, ?_⟩
  · have := session_measure (fun _ => 1) (·.cnt) cnt_toEm cfg hk sched {}
    simpa [measure_nil] using this
  · have := session_measure (·.val) (·.sum) sum_toEm cfg hk sched {}
    simpa [measure_nil] using this
  · intro i
    have := session_measure (fun r => if r.id = i then 1 else 0) (fun em => em.ids.count i) (idcount_toEm i) cfg hk sched {}
    simpa [measure_nil] using this

/-- **Records within the gap are in the same session.**  For every schedule, two different active sessions
of one key hold records further apart than the gap, and every session spans its records
(`start ≤ et`, `et + gap ≤ end`) — the class's promise "events within the gap threshold are merged into the
same session", which the code before `fixes/C19-win-*.diff` breaks by not moving the start. -/
theorem session_records_within_gap_together (cfg : Cfg) (hk : cfg.kind = 2) (sched : List Line) :
    let wins := (finalState cfg {} sched).wins
    (∀ w ∈ wins, ∀ r ∈ w.recs, w.s ≤ r.et ∧ r.et + cfg.gap ≤ w.e) ∧
    wins.Pairwise fun a b => a.key = b.key →
      ∀ r1 ∈ a.recs, ∀ r2 ∈ b.recs, r1.et + cfg.gap < r2.et ∨ r2.et + cfg.gap < r1.et := by
  have h := SessInv.run hk sched {} (SessInv.nil _)
  refine ⟨fun w hw => (h.good w hw).bnd, ?_⟩
  refine h.sep.imp_of_mem fun {a b} ha hb hsep hkey r1 hr1 r2 hr2 => ?_
  have h1 := (h.good a ha).bnd r1 hr1
  have h2 := (h.good b hb).bnd r2 hr2
  cases hsep hkey with
  | inl hlt => left; omega
  | inr hlt => right; omega

def sessCfg : Cfg := { kind := 2, size := 0, slide := 0, gap := 2, late := 0, policy := 2, side := false, interval := 1 }

/-- non-vacuity: event times 10, 8, 7 arriving in that order end up in one session [7, 12] (the repaired
behaviour), which the full judge accepts -/
def sessSched : List Line :=
  [⟨0, .proc ⟨0, 0, 10, 1⟩⟩, ⟨0, .proc ⟨1, 0, 8, 2⟩⟩, ⟨0, .proc ⟨2, 0, 7, 3⟩⟩, ⟨1, .wmA true 12⟩, ⟨1, .wmB⟩, ⟨1, .fin⟩]

example : (run sessCfg {} sessSched).filterMap (fun o => match o with | .emits _ ems _ => some ems | _ => none) =
    [[⟨0, 7, 12, 3, 6, [0, 1, 2]⟩]] := by decide +kernel

example : judgeFull sessCfg {} (sessSched.zip (run sessCfg {} sessSched)) = none := by decide +kernel

example : legit sessCfg {} sessSched = true ∧ (procIds sessSched).Nodup := by decide +kernel

/-- two sessions of one key that stay apart: 1 and 5 with gap 2 -/
example : ((finalState sessCfg {} [⟨0, .proc ⟨0, 0, 5, 1⟩⟩, ⟨0, .proc ⟨1, 0, 1, 2⟩⟩]).wins.map fun w => (w.s, w.e)) = [(1, 3), (5, 7)] := by
  decide +kernel

/-- for the first two records of that input the unrepaired code answers [10, 12] holding 10 and 8 (start not moved): rejected -/
example : (judgeFull sessCfg {}
      [(⟨0, .proc ⟨0, 0, 10, 1⟩⟩, .proc 0 ⟨1, 0, 0, 0, 0, 0, 1, 0⟩),
       (⟨0, .proc ⟨1, 0, 8, 2⟩⟩, .proc 0 ⟨2, 0, 0, 0, 0, 0, 1, 0⟩),
       (⟨1, .wmA true 12⟩, .wm false ⟨2, 0, 0, 0, 0, 0, 1, 12⟩),
       (⟨1, .wmB⟩, .emits 1 [⟨0, 10, 12, 2, 3, [0, 1]⟩] ⟨2, 1, 0, 0, 0, 0, 0, 12⟩)])
      = some "win/session/bounds-do-not-span-the-records" := by decide +kernel

/-- **The public counters add up**, for every window kind, policy and schedule: `events_processed` is the
number of Process events, `windows_emitted` the number of results handed to the sink, every late record is
counted in exactly one of dropped / updated / side-output, and late ≤ processed. -/
theorem stats_conservation (cfg : Cfg) (sched : List Line) :
    let s := finalState cfg {} sched
    s.ep = countProc sched ∧ s.we = emLen (run cfg {} sched) ∧ s.le = s.ld + s.lu + s.ls ∧ s.le ≤ s.ep := by
  have := counters_run cfg sched {} rfl (Nat.le_refl _)
  simpa using this

example : (finalState demoCfg {} demoSched).stats = ⟨4, 5, 1, 0, 0, 1, 0, 6⟩ := by decide +kernel

end HappyModel.C19.Win
