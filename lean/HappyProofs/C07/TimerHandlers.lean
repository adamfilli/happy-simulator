import HappyProofs.C07.Ranked
import HappyProofs.C07.Timers
import HappyProofs.C07.Rearm
/-!
`Timers.lean` / `Rearm.lean` describe the timer idioms as chains of delivery instants.  Here handlers (`Machine`) of
the C01 engine model are written for the same idioms and shown to satisfy the handler hypotheses of the engine
theorems, so that nothing of theirs is ever discarded and the per-instant bounds hold for every run length, every end
time and every pending workload they are mixed with.  That their engine runs are the chains is checked on decided
instances only (last example).
-/
namespace HappyModel.C07
open HappyModel.C01

def tickMachine (iv : Nat) : Machine Unit :=
  { handle := fun _ now e => { ent := (), specs := [⟨now + iv, e.target, e.kind, e.daemon, 0, 0⟩] } }

theorem tickMachine_emitsGeNow (iv : Nat) : EmitsGeNow (tickMachine iv) := by
  intro ent now ev sp hsp
  simp [tickMachine] at hsp
  subst hsp; simp

/-- with the ≥ 1 ns guard passed the daemon is strictly-future -/
theorem tickMachine_strictFuture (iv : Nat) (h : 1 ≤ iv) : StrictFuture (tickMachine iv) := by
  intro ent now ev sp hsp
  simp [tickMachine] at hsp
  subst hsp; simp; omega

/-- and only then: the sub-nanosecond interval is not strictly-future -/
theorem tickMachine_zero_not_strictFuture : ¬ StrictFuture (tickMachine 0) := by
  intro h
  have := h () 0 ⟨0, 0, 0, 0, false, 0, 0, 0⟩ ⟨0, 0, 0, false, 0, 0⟩ (by simp [tickMachine])
  simp at this

/-- the engine never discards an event of a periodic daemon, whatever its interval -/
theorem timers_no_stale_pop (iv : Nat) (start : Nat) (pre : List Spec) (hP : PreGeStart start pre)
    (endT : Option Nat) (n : Nat) :
    (runFrom (tickMachine iv) () start pre endT n).nStale = 0 ∧
    ∀ p ∈ (runFrom (tickMachine iv) () start pre endT n).popped, p.2 ≠ Verdict.stale :=
  no_stale_pop (tickMachine iv) (tickMachine_emitsGeNow iv) () start pre hP endT n

/-- a guarded daemon never adds to an instant: deliveries at `t` are
    bounded by what was pending for `t` when the clock got there, for every number of daemons / pending events -/
theorem timers_deliveries_at_instant_bounded (iv : Nat) (h : 1 ≤ iv) (endT : Option Nat) (n : Nat) (s : St Unit)
    (t : Nat) (ht : t ≤ s.now) :
    delivAt (run (tickMachine iv) endT n s) t ≤ delivAt s t + pendingAt s t :=
  deliveries_at_instant_bounded (tickMachine iv) (tickMachine_strictFuture iv h) endT n s t ht

example : delivAt (runFrom (tickMachine 250) () 0 [⟨1000, 0, 0, true, 0, 0⟩, ⟨1250, 0, 1, false, 0, 0⟩] (some 1600) 20) 1250 = 2 ∧
    (runFrom (tickMachine 250) () 0 [⟨1000, 0, 0, true, 0, 0⟩, ⟨1250, 0, 1, false, 0, 0⟩] (some 1600) 20).nStale = 0 := by decide +kernel

def manualMachine (iv : Nat) : Machine Unit :=
  { handle := fun _ now e => { ent := (), specs := (Timers.rearmNew iv now).map (fun t => ⟨t, e.target, e.kind, e.daemon, 0, 0⟩) } }

/-- the handler that exists is strictly-future for EVERY interval, 0 (= disabled) included -/
theorem manualMachine_strictFuture (iv : Nat) : StrictFuture (manualMachine iv) := by
  intro ent now ev sp hsp
  unfold manualMachine Timers.rearmNew at hsp
  by_cases h : iv = 0
  · simp [h] at hsp
  · simp [h] at hsp
    subst hsp; simp; omega

theorem manualMachine_emitsGeNow (iv : Nat) : EmitsGeNow (manualMachine iv) := by
  intro ent now ev sp hsp
  exact Nat.le_of_lt (manualMachine_strictFuture iv ent now ev sp hsp)

theorem manual_no_stale_pop (iv : Nat) (start : Nat) (pre : List Spec) (hP : PreGeStart start pre)
    (endT : Option Nat) (n : Nat) :
    (runFrom (manualMachine iv) () start pre endT n).nStale = 0 :=
  (no_stale_pop (manualMachine iv) (manualMachine_emitsGeNow iv) () start pre hP endT n).1

/-- for every interval, 0 (= gossip disabled) included: deliveries at `t` are bounded by what was pending for `t` when the
    clock got there -/
theorem manual_deliveries_at_instant_bounded (iv : Nat) (endT : Option Nat) (n : Nat) (s : St Unit)
    (t : Nat) (ht : t ≤ s.now) :
    delivAt (run (manualMachine iv) endT n s) t ≤ delivAt s t + pendingAt s t :=
  deliveries_at_instant_bounded (manualMachine iv) (manualMachine_strictFuture iv) endT n s t ht

/-- the pre-fix handler (`Timers.rearmOld`) with interval 0 is the zero-delay poll -/
def manualOldMachine (iv : Nat) : Machine Unit :=
  { handle := fun _ now e => { ent := (), specs := (Timers.rearmOld iv now).map (fun t => ⟨t, e.target, e.kind, e.daemon, 0, 0⟩) } }

theorem manualOldMachine_zero_not_strictFuture : ¬ StrictFuture (manualOldMachine 0) := by
  intro h
  have := h () 5 ⟨0, 5, 0, 0, false, 0, 0, 0⟩ ⟨5, 0, 0, false, 0, 0⟩ (by simp [manualOldMachine, Timers.rearmOld])
  simp at this

example : delivAt (runFrom (manualMachine 0) () 0 [⟨500, 0, 0, true, 0, 0⟩, ⟨500, 0, 0, true, 0, 0⟩] (some 2000) 50) 500 = 2 ∧
    delivAt (runFrom (manualOldMachine 0) () 0 [⟨500, 0, 0, true, 0, 0⟩] (some 2000) 50) 500 = 50 := by decide +kernel

/-- the `_ShiftChange` handler: `e.data` = boundaries left after this one; the event stands for boundary
    `bs.length - e.data - 1` and arms the one for `bs.length - e.data` -/
def rearmSpecs (bs : List Rearm.Boundary) (now : Nat) (e : Ev) : List Spec :=
  if e.data = 0 then []
  else match bs[bs.length - e.data]? with
    | none => []
    | some b => [⟨max b.ns now, e.target, e.kind, e.daemon, e.data - 1, 0⟩]

def rearmMachine (bs : List Rearm.Boundary) : Machine Unit :=
  { handle := fun _ now e => { ent := (), specs := rearmSpecs bs now e } }

/-- it may re-arm at `now` (a boundary that is already past), but then with one boundary less to go -/
theorem rearmMachine_ranked (bs : List Rearm.Boundary) : Ranked (rearmMachine bs) 1 := by
  intro ent now ev
  show (rearmSpecs bs now ev).length ≤ 1 ∧ ∀ sp ∈ rearmSpecs bs now ev, now < sp.time ∨ (now = sp.time ∧ sp.data < ev.data)
  unfold rearmSpecs
  by_cases hd : ev.data = 0
  · simp [hd]
  · cases bs[bs.length - ev.data]? with
    | none => simp [hd]
    | some b =>
      simp only [hd, if_false, List.length_singleton, Nat.le_refl, List.mem_singleton, forall_eq, true_and]
      by_cases h : now < max b.ns now
      · exact Or.inl h
      · refine Or.inr ⟨?_, ?_⟩
        · have := Nat.le_max_right b.ns now
          show now = max b.ns now
          omega
        · show ev.data - 1 < ev.data
          omega

theorem rearmMachine_emitsGeNow (bs : List Rearm.Boundary) : EmitsGeNow (rearmMachine bs) := by
  intro ent now ev sp hsp
  rcases (rearmMachine_ranked bs ent now ev).2 sp hsp with h | h <;> omega

/-- no `_ShiftChange` event is ever discarded, for every schedule (lossy boundaries included) -/
theorem rearm_no_stale_pop (bs : List Rearm.Boundary) (start : Nat) (pre : List Spec) (hP : PreGeStart start pre)
    (endT : Option Nat) (n : Nat) :
    (runFrom (rearmMachine bs) () start pre endT n).nStale = 0 ∧
    ∀ p ∈ (runFrom (rearmMachine bs) () start pre endT n).popped, p.2 ≠ Verdict.stale :=
  no_stale_pop (rearmMachine bs) (rearmMachine_emitsGeNow bs) () start pre hP endT n

/-- at any instant the timer is delivered at most once per boundary it still
    has to go (`W 1 r = r + 1`) for each timer event pending there — never unboundedly, unlike the old timer -/
theorem rearm_deliveries_at_instant_bounded (bs : List Rearm.Boundary) (endT : Option Nat) (n : Nat) (s : St Unit)
    (t : Nat) (ht : t ≤ s.now) :
    delivAt (run (rearmMachine bs) endT n s) t ≤ delivAt s t + wsum 1 s.heap t :=
  deliveries_at_instant_ranked_bound (rearmMachine bs) 1 (rearmMachine_ranked bs) endT n s t ht

theorem W_one (r : Nat) : W 1 r = r + 1 := by
  induction r with
  | zero => rfl
  | succ r ih => simp [W, ih]; omega

/-- the schedule of the genuine defect (2.05 s is lossy): three shift changes, each delivered once, none discarded -/
example :
    let bs : List Rearm.Boundary := [⟨1000000000, false⟩, ⟨2049999999, true⟩, ⟨2450000000, false⟩]
    ((runFrom (rearmMachine bs) () 0 [⟨1000000000, 0, 0, true, 2, 0⟩] (some 3000000000) 20).log.map (·.time)) =
      [1000000000, 2049999999, 2450000000] ∧
    (runFrom (rearmMachine bs) () 0 [⟨1000000000, 0, 0, true, 2, 0⟩] (some 3000000000) 20).nStale = 0 := by decide +kernel

/-- the engine runs of the handlers reproduce the chains of `Timers.lean` / `Rearm.lean` (decided instances; the loose
    horizon rule of `_execute_until` delivers one tick beyond the end time) -/
example :
    ((runFrom (tickMachine 250) () 0 [⟨1000, 0, 0, false, 0, 0⟩] (some 1600) 20).log.map (·.time)) = Timers.tickChain 250 4 1000 ∧
    ((runFrom (manualMachine 0) () 0 [⟨500, 0, 0, false, 0, 0⟩] (some 2000) 20).log.map (·.time)) = Timers.roundChain Timers.rearmNew 0 20 500 ∧
    (let bs : List Rearm.Boundary := [⟨1000000000, false⟩, ⟨2049999999, true⟩, ⟨2450000000, false⟩]
     ((runFrom (rearmMachine bs) () 0 [⟨1000000000, 0, 0, false, 2, 0⟩] (some 3000000000) 20).log.map (·.time)) =
       (Rearm.chain bs 3 0 0).map (·.1)) := by decide +kernel

end HappyModel.C07
