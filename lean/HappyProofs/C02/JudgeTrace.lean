import HappyProofs.C02.JudgeWait
import HappyProofs.C02.JudgeHooks
/-!
# C02 — one trace of the process model, accepted by the three monitors

`c02TraceOf` puts the two views together in the order in which the lines are written: per delivery the
`R` line (a process resumes), the `S` / `K` line and the hook lines of the segment (`h` lines in action
order, `F` and the `H` / `c` lines of a finishing process), then the line of the terminator (`y`: yield
delay, `w`: yield future).  What it leaves out are the lines of the future layer proper (`n`, `a`,
`l`, `r`: they feed the settle fold of the judge; `JudgeFull.lean` adds the `r` lines and links that
fold to the model for programs with plain futures).
-/
namespace HappyModel.C01
open HappyModel.C02.Spec (Line HSt hookStep hookMonitor delayMonitor waitMonitor)

def traceLines (s : St PS) (m : Ev) : List Line :=
  rLine s.ent m ++ hookLines s.ent m.time m ++ yLines (procEff s.ent m.time m).specs ++ wLine s.ent m.time m

def tStep (s : St PS) (ls : List Line) (m : Ev) : List Line :=
  if s.cancelled.contains m.id then ls
  else if m.time < s.now then ls
  else if procMachine.crashed s.ent m then ls
  else ls ++ traceLines s m

def tRun (endT : Option Nat) : Nat → St PS → List Line → List Line
  | 0, _, ls => ls
  | n+1, s, ls =>
    match s.heap with
    | [] => ls
    | x :: xs =>
      if continues endT s then tRun endT n (stepWith procMachine s (minOf x xs)) (tStep s ls (minOf x xs))
      else ls

/-- the trace of a run: the `h` lines of the pre-run hooks, then the lines of the deliveries -/
def c02TraceOf (endT : Option Nat) (n : Nat) (s0 : St PS) : List Line := tRun endT n s0 (initHookLines s0.ent)

def dw (l : Line) : Bool := isDelayLine l || isWaitLine l

/-- neutral for the hook monitor while nothing is due -/
def hookNeutral : Line → Bool
  | .resolve _ _ => true
  | .resume _ _ _ _ => true
  | .ydelay _ _ _ => true
  | .wait _ _ _ => true
  | .other => true
  | _ => false

theorem fold_hookNeutral (ls : List Line) (h : HSt) (hd : h.due = []) (hn : ∀ l ∈ ls, hookNeutral l = true) :
    ls.foldl hookStep h = h := by
  refine foldl_fixed _ _ _ (fun l hl => ?_)
  have := hn l hl
  cases l <;> simp [hookNeutral] at this <;> simp [hookStep, hd]

theorem rLine_neutral (ps : PS) (m : Ev) : ∀ l ∈ rLine ps m, hookNeutral l = true ∧ dw l = true := by
  rcases rLine_cases ps m with hr | ⟨p, _, _, _, hr⟩
  · rw [hr]; exact nofun
  · rw [hr]; intro l hl; rw [List.mem_singleton.mp hl]; exact ⟨rfl, rfl⟩

theorem yLines_neutral (specs : List Spec) : ∀ l ∈ yLines specs, hookNeutral l = true ∧ dw l = true := by
  intro l hl
  unfold yLines at hl
  obtain ⟨sp, _, rfl⟩ := List.mem_map.mp hl
  simp [hookNeutral, dw, isDelayLine]

theorem wLine_neutral (ps : PS) (now : Nat) (ev : Ev) : ∀ l ∈ wLine ps now ev, hookNeutral l = true ∧ dw l = true := by
  intro l hl
  obtain ⟨p, f, dm, rfl⟩ := wLine_waits ps now ev l hl
  simp [hookNeutral, dw, isDelayLine, isWaitLine]

theorem hAddLines_shape (e : Eff) (a : Act) : ∀ l ∈ hAddLines e a, ∃ t k, l = Line.hookAdd t k := by
  intro l hl
  cases a with
  | emit t k d dm hk =>
    simp only [hAddLines] at hl
    split at hl
    · cases hl
    · exact ⟨_, _, List.mem_singleton.mp hl⟩
  | addHook k hk =>
    simp only [hAddLines] at hl
    split at hl
    · exact ⟨_, _, List.mem_singleton.mp hl⟩
    · cases hl
  | _ => cases hl

theorem hAddLines_dw (e : Eff) (a : Act) : ∀ l ∈ hAddLines e a, dw l = false := by
  intro l hl
  obtain ⟨t, k, rfl⟩ := hAddLines_shape e a l hl
  rfl

theorem actsHookLines_dw (now : Nat) (acts : List Act) (e : Eff) : ∀ l ∈ actsHookLines now e acts, dw l = false := by
  induction acts generalizing e with
  | nil => intro l hl; simp [actsHookLines] at hl
  | cons a r ih =>
    intro l hl
    simp only [actsHookLines, List.mem_append] at hl
    rcases hl with hl | hl
    · exact hAddLines_dw e a l hl
    · exact ih _ l hl

theorem hRunLines_mem {now : Nat} {hooks : List Nat} {l : Line} (hl : l ∈ hRunLines now hooks) :
    (∃ k, l = .hookRun now k) ∨ l = .created := by
  obtain ⟨k, _, hk⟩ := List.mem_flatMap.mp hl
  simp only [List.mem_cons, List.not_mem_nil, or_false] at hk
  exact hk.imp (fun h => ⟨k, h⟩) id

theorem invLines_forall (p : Line → Prop) (A : Eff → List Act → List Line) (hA : ∀ e acts, ∀ l ∈ A e acts, p l)
    (hF : ∀ c q, p (.finish c q)) (hH : ∀ c k, p (.hookRun c k)) (hc : p .created) (hS : ∀ c t, p (.start c t))
    (hK : ∀ c t, p (.skipped c t)) (ho : p .other) (ps : PS) (now : Nat) (ev : Ev) : ∀ l ∈ invLines A ps now ev, p l := by
  have hrun : ∀ hooks, ∀ l ∈ hRunLines now hooks, p l := fun hooks l hl =>
    (hRunLines_mem hl).elim (fun ⟨k, h⟩ => h ▸ hH now k) (fun h => h ▸ hc)
  have hseg : ∀ e pid tag, ∀ l ∈ segLines A now e pid tag, p l := by
    intro e pid tag l hl
    unfold segLines at hl
    split at hl
    · split at hl
      · simp only [List.mem_append] at hl
        rcases hl with hl | hl
        · exact hA _ _ l hl
        · split at hl
          · rcases List.mem_cons.mp hl with rfl | hl
            · exact hF _ _
            · exact hrun _ l hl
          · simp at hl
      · simp at hl
    · simp at hl
  intro l hl
  unfold invLines at hl
  simp only [List.mem_append, List.mem_singleton] at hl
  rcases hl with hl | rfl
  · split at hl
    · split at hl
      · rcases List.mem_cons.mp hl with rfl | hl
        · exact hK _ _
        · exact hrun _ l hl
      · rcases List.mem_cons.mp hl with rfl | hl
        · exact hS _ _
        · exact hseg _ _ _ l hl
    · exact hseg _ _ _ l hl
  · exact ho

theorem invLines_dw (A : Eff → List Act → List Line) (hA : ∀ e acts, ∀ l ∈ A e acts, dw l = false)
    (ps : PS) (now : Nat) (ev : Ev) : ∀ l ∈ invLines A ps now ev, dw l = false :=
  invLines_forall (dw · = false) A hA (fun _ _ => rfl) (fun _ _ => rfl) rfl (fun _ _ => rfl) (fun _ _ => rfl) rfl ps now ev

theorem hookLines_dw (ps : PS) (now : Nat) (ev : Ev) : ∀ l ∈ hookLines ps now ev, dw l = false :=
  invLines_dw _ (fun e acts => actsHookLines_dw now acts e) ps now ev

theorem deliv_dw (s : St PS) (m : Ev) (H : List Line) (hH : ∀ l ∈ H, dw l = false) :
    (rLine s.ent m ++ H ++ yLines (procEff s.ent m.time m).specs ++ wLine s.ent m.time m).filter dw = delayLines s m := by
  unfold delayLines
  simp only [List.filter_append]
  rw [List.filter_eq_self.mpr (fun l hl => (rLine_neutral s.ent m l hl).2),
    List.filter_eq_nil_iff.mpr (fun l hl => Bool.not_eq_true _ ▸ hH l hl),
    List.filter_eq_self.mpr (fun l hl => (yLines_neutral _ l hl).2),
    List.filter_eq_self.mpr (fun l hl => (wLine_neutral _ _ _ l hl).2),
    List.append_nil]

theorem traceLines_dw (s : St PS) (m : Ev) : (traceLines s m).filter dw = delayLines s m :=
  deliv_dw s m _ (hookLines_dw s.ent m.time m)

theorem initHookLines_dw (ps : PS) : (initHookLines ps).filter dw = [] := by
  refine List.filter_eq_nil_iff.mpr (fun l hl => ?_)
  obtain ⟨x, _, rfl⟩ := List.mem_map.mp hl
  exact Bool.false_ne_true

theorem tRun_isView (endT : Option Nat) : IsView endT traceLines (tRun endT) := ⟨fun _ _ => rfl, fun _ _ _ => rfl⟩

theorem c02Trace_dw (endT : Option Nat) (n : Nat) (s0 : St PS) :
    (c02TraceOf endT n s0).filter dw = delayView endT n s0 := by
  unfold c02TraceOf delayView
  rw [view_filter (tRun_isView endT) (viewRun_isView endT) dw traceLines_dw, initHookLines_dw]

theorem fold_wrapped (s : St PS) (m : Ev) (H : List Line) (h : HSt) (hd : h.due = [])
    (hd' : (H.foldl hookStep h).due = []) :
    (rLine s.ent m ++ H ++ yLines (procEff s.ent m.time m).specs ++ wLine s.ent m.time m).foldl hookStep h
      = H.foldl hookStep h := by
  simp only [List.foldl_append]
  rw [fold_hookNeutral (rLine s.ent m) _ hd (fun l hl => (rLine_neutral s.ent m l hl).1),
    fold_hookNeutral _ _ hd' (fun l hl => (yLines_neutral _ l hl).1),
    fold_hookNeutral _ _ hd' (fun l hl => (wLine_neutral _ _ _ l hl).1)]

theorem tRun_HR (endT : Option Nat) (n : Nat) (s : St PS) (ls : List Line) (inv : Inv s) (hk : HookInv s)
    (pinv : ProcInv s) (hr : HR (closedOf s) s.ent (ls.foldl hookStep {})) :
    HR (closedOf (run procMachine endT n s)) (run procMachine endT n s).ent ((tRun endT n s ls).foldl hookStep {}) :=
  HR_run (tRun_isView endT) actsHookLines (fun now _ acts e h hr => acts_HR now acts e h hr)
    (fun s m h hd hd' => fold_wrapped s m _ h hd hd') n s ls inv hk pinv hr

/-- **the trace of the process model is accepted by the hook, delay and wait monitors of the C02 judge**:
    for every handler table, from every initial state as in `hook_clauses_silent_on_model` (`Inv`, `HookInv`, empty
    delivery log, `InitOk`, no pending late hook, attachments and handles below the creation counter), every end time
    and number of iterations.  On this trace the judge raises none of
    `process/hook/{not-run-at-finish, ran-without-being-due, ran-out-of-order, ran-at-wrong-instant}`,
    `process/{resumed-without-pending-delay, delay-resume-at-wrong-time, delay-resume-raised,
    delay-resume-with-value}`, `future/resumed-without-wait` (each of them is raised by its monitor only) -/
theorem process_trace_satisfies_c02_spec (endT : Option Nat) (n : Nat) (s0 : St PS) (inv : Inv s0) (hk : HookInv s0)
    (h0 : InitOk s0) (hlog : s0.log = []) (hlate : s0.ent.late = [])
    (hf2 : ∀ x ∈ s0.ent.hookOf, x.1 < s0.ent.nid) (hlk : ∀ x ∈ s0.ent.lastKind, x.2 < s0.ent.nid) :
    hookMonitor (c02TraceOf endT n s0) = none ∧ delayMonitor (c02TraceOf endT n s0) = none ∧
    waitMonitor (c02TraceOf endT n s0) = none := by
  have hr := tRun_HR endT n s0 _ inv hk h0.procInv (HR_init s0 h0 hlog hlate hf2 hlk)
  have hdw := process_trace_satisfies_c02_spec_delay_wait endT n s0 inv h0 (c02TraceOf endT n s0)
    (c02Trace_dw endT n s0)
  refine ⟨?_, hdw.1, hdw.2⟩
  unfold hookMonitor c02TraceOf
  simp [hr.err, hr.due]

theorem program_trace_satisfies_c02_spec (p : Program) (gateCont : Bool) (hp : p.Plain) (endT : Option Nat) (n : Nat) :
    hookMonitor (c02TraceOf endT n (p.initState gateCont)) = none ∧
    delayMonitor (c02TraceOf endT n (p.initState gateCont)) = none ∧
    waitMonitor (c02TraceOf endT n (p.initState gateCont)) = none :=
  process_trace_satisfies_c02_spec endT n _ (initState_inv p gateCont) (initState_hookInv p gateCont)
    (initState_ok p gateCont hp) rfl rfl (initState_hookOf_fresh p gateCont) (initState_lastKind_fresh p gateCont)

end HappyModel.C01
