import HappyModel.C19.WinSpec
/-!
The relation between the model's windows (tumbling / sliding) and the judge's obligations, and its preservation by adding a
record.
-/
namespace HappyModel.C19.Win

def ident (w : Win) : Nat × Nat × Nat := (w.key, w.s, w.e)
def pairOfRec (r : Rec) : Nat × Nat := (r.id, r.val)
def pairOfObl (o : Obl) : Nat × Nat := (o.id, o.val)

/-- every window holds exactly the obligations of its identity (in arrival order), is marked emitted
exactly when all of them are done, every obligation has its window, identities are distinct.  Records are compared as
`(id, val)` pairs: an `Obl` carries no event time, and `emOk` checks ids, count and sum only -/
structure WinRel (wins : List Win) (obl : List Obl) : Prop where
  recs : ∀ w ∈ wins, w.recs.map pairOfRec = (obl.filter (oblFor w.key w.s w.e)).map pairOfObl
  emitted : ∀ w ∈ wins, w.emitted = (obl.filter (oblFor w.key w.s w.e)).all (·.done)
  cover : ∀ o ∈ obl, ∃ w ∈ wins, oblFor w.key w.s w.e o = true
  nodup : (wins.map ident).Nodup

theorem winRel_nil : WinRel [] [] :=
  ⟨by simp, by simp, by simp, by simp⟩

theorem oblFor_iff (k s e : Nat) (o : Obl) : oblFor k s e o = true ↔ o.key = k ∧ o.s = s ∧ o.e = e := by
  simp [oblFor, and_assoc]

theorem sameWin_iff (k s e : Nat) (w : Win) : sameWin k s e w = true ↔ ident w = (k, s, e) := by
  simp [sameWin, ident, and_assoc]

theorem oblFor_mk (k s e : Nat) (r : Rec) (se : Nat × Nat) :
    oblFor k s e (mkObl r se) = true ↔ (r.key, se.1, se.2) = (k, s, e) := by
  simp [oblFor, mkObl, and_assoc]

theorem WinRel.open_of_undone {wins : List Win} {obl : List Obl} (h : WinRel wins obl) {w : Win} (hw : w ∈ wins)
    {o : Obl} (ho : o ∈ obl) (hwo : oblFor w.key w.s w.e o = true) (hd : o.done = false) : w.emitted = false := by
  rw [h.emitted w hw, List.all_eq_false]
  exact ⟨o, List.mem_filter.mpr ⟨ho, hwo⟩, by simp [hd]⟩

theorem WinRel.undone_of_open {wins : List Win} {obl : List Obl} (h : WinRel wins obl) {w : Win} (hw : w ∈ wins)
    (hem : w.emitted = false) : ∃ o ∈ obl, oblFor w.key w.s w.e o = true ∧ o.done = false := by
  have hall := h.emitted w hw
  rw [hem] at hall
  obtain ⟨o, ho, hod⟩ := List.all_eq_false.1 hall.symm
  exact ⟨o, (List.mem_filter.1 ho).1, (List.mem_filter.1 ho).2, by simpa using hod⟩

def upd (r : Rec) (w : Win) : Win := { w with recs := w.recs ++ [r], emitted := false }

def newWin (r : Rec) (s e : Nat) : Win := { key := r.key, s := s, e := e, recs := [r], emitted := false }

theorem oblFor_mk_eq (r : Rec) (s e : Nat) (w : Win) :
    oblFor w.key w.s w.e (mkObl r (s, e)) = sameWin r.key s e w := by
  rw [Bool.eq_iff_iff, oblFor_mk, sameWin_iff, eq_comm]
  exact Iff.rfl

theorem pairOfObl_mk (r : Rec) (se : Nat × Nat) : pairOfObl (mkObl r se) = pairOfRec r := rfl

theorem mkObl_done (r : Rec) (se : Nat × Nat) : (mkObl r se).done = false := rfl

theorem sameWin_false (k s e : Nat) (wins : List Win) (h : (k, s, e) ∉ wins.map ident) :
    ∀ w ∈ wins, sameWin k s e w = false := fun w hw => by
  rw [Bool.eq_false_iff, Ne, sameWin_iff]
  exact fun hh => h (List.mem_map.mpr ⟨w, hw, hh⟩)

theorem addRec_miss (r : Rec) (s e : Nat) (wins : List Win) (h : ∀ w ∈ wins, sameWin r.key s e w = false) :
    addRec r s e wins = wins ++ [newWin r s e] := by
  induction wins with
  | nil => rfl
  | cons w ws ih => simp [addRec, h w List.mem_cons_self, ih fun x hx => h x (List.mem_cons_of_mem _ hx)]

theorem addRec_hit (r : Rec) (s e : Nat) (wins : List Win) (hnd : (wins.map ident).Nodup)
    (hmem : (r.key, s, e) ∈ wins.map ident) :
    addRec r s e wins = wins.map fun w => if sameWin r.key s e w then upd r w else w := by
  induction wins with
  | nil => simp at hmem
  | cons w ws ih =>
    rw [List.map_cons, List.nodup_cons] at hnd
    cases hsw : sameWin r.key s e w with
    | true =>
      -- the identities are distinct: no later window matches
      have hrest := sameWin_false r.key s e ws ((sameWin_iff _ _ _ _).mp hsw ▸ hnd.1)
      rw [List.map_cons, List.map_congr_left (g := id) fun x hx => by simp [hrest x hx], List.map_id]
      simp [addRec, hsw, upd]
    | false =>
      have hmem' := (List.mem_cons.mp hmem).resolve_left fun hh => by
        simp [(sameWin_iff _ _ _ _).mpr hh.symm] at hsw
      simp [addRec, hsw, ih hnd.2 hmem']

theorem addRec_rel (r : Rec) (s e : Nat) (wins : List Win) (obl : List Obl) (h : WinRel wins obl) :
    WinRel (addRec r s e wins) (obl ++ [mkObl r (s, e)]) := by
  by_cases hm : (r.key, s, e) ∈ wins.map ident
  · rw [addRec_hit r s e wins h.nodup hm]
    refine ⟨?_, ?_, ?_, ?_⟩
    · intro w' hw'
      obtain ⟨w, hw, rfl⟩ := List.mem_map.mp hw'
      cases hsw : sameWin r.key s e w <;>
        simp [upd, oblFor_mk_eq, hsw, h.recs w hw, pairOfObl_mk]
    · intro w' hw'
      obtain ⟨w, hw, rfl⟩ := List.mem_map.mp hw'
      cases hsw : sameWin r.key s e w <;>
        simp [upd, oblFor_mk_eq, hsw, h.emitted w hw, mkObl_done]
    · intro o ho
      rw [List.mem_append, List.mem_singleton] at ho
      cases ho with
      | inl ho =>
        obtain ⟨w, hw, hwo⟩ := h.cover o ho
        refine ⟨_, List.mem_map.mpr ⟨w, hw, rfl⟩, ?_⟩
        cases sameWin r.key s e w <;> simpa [upd] using hwo
      | inr ho =>
        obtain ⟨w, hw, hwid⟩ := List.mem_map.mp hm
        refine ⟨_, List.mem_map.mpr ⟨w, hw, rfl⟩, ?_⟩
        simp [ho, (sameWin_iff r.key s e w).mpr hwid, upd, oblFor_mk_eq]
    · rw [List.map_map]
      have : (ident ∘ fun w => if sameWin r.key s e w then upd r w else w) = ident := by
        funext w
        simp only [Function.comp_apply]
        split <;> rfl
      rw [this]; exact h.nodup
  · have hold := sameWin_false r.key s e wins hm
    rw [addRec_miss r s e wins hold]
    have hfil : obl.filter (oblFor r.key s e) = [] := List.filter_eq_nil_iff.mpr fun o ho hq => by
      obtain ⟨w, hw, hwo⟩ := h.cover o ho
      rw [oblFor_iff] at hq hwo
      exact hm (List.mem_map.mpr ⟨w, hw, by simp [ident, ← hq.1, ← hq.2.1, ← hq.2.2, hwo]⟩)
    have hnew : oblFor r.key s e (mkObl r (s, e)) = true := (oblFor_mk _ _ _ _ _).mpr rfl
    refine ⟨?_, ?_, ?_, ?_⟩
    · intro w hw
      rw [List.mem_append, List.mem_singleton] at hw
      cases hw with
      | inl hw => simp [oblFor_mk_eq, hold w hw, h.recs w hw]
      | inr hw => simp [hw, newWin, hnew, hfil, pairOfObl_mk]
    · intro w hw
      rw [List.mem_append, List.mem_singleton] at hw
      cases hw with
      | inl hw => simp [oblFor_mk_eq, hold w hw, h.emitted w hw]
      | inr hw => simp [hw, newWin, hnew, hfil, mkObl_done]
    · intro o ho
      rw [List.mem_append, List.mem_singleton] at ho
      cases ho with
      | inl ho =>
        obtain ⟨w, hw, hwo⟩ := h.cover o ho
        exact ⟨w, List.mem_append_left _ hw, hwo⟩
      | inr ho => exact ⟨newWin r s e, by simp, by simpa [ho, newWin] using hnew⟩
    · rw [List.map_append, List.nodup_append]
      refine ⟨h.nodup, by simp, ?_⟩
      intro a ha b hb hab
      simp only [List.map_cons, List.map_nil, List.mem_singleton] at hb
      exact hm (by simpa [hab, hb, newWin, ident] using ha)

theorem addAll_rel (r : Rec) : ∀ (l : List (Nat × Nat)) (wins : List Win) (obl : List Obl),
    WinRel wins obl → WinRel (addAll r l wins) (obl ++ l.map (mkObl r)) := by
  intro l
  induction l with
  | nil => intro wins obl h; simpa [addAll] using h
  | cons se rest ih =>
    intro wins obl h
    have h1 := addRec_rel r se.1 se.2 wins obl h
    have h2 := ih _ _ h1
    simpa [addAll, List.append_assoc] using h2

end HappyModel.C19.Win
