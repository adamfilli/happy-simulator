import HappyProofs.C14.TxnMach
import HappyProofs.C14.TxnTraceSide
import HappyProofs.C14.StoreLaws
/-!
# C14 — `txn_trace_satisfies_spec`: the Spec judge accepts the transcript of every run of the transaction manager

For every program of transactions (`WFProg`: distinct ids, each slot begins once and first, nothing after its
commit/abort), every initial contents, a KVStore or a B-tree of order ≥ 3 as the store, and every schedule of
generator segments in which the operations of one transaction run one after the other (`SlotSeq`: one client per
transaction; operations of DIFFERENT transactions interleave arbitrarily, in particular a read may be suspended
in the store's `get` while other transactions commit) and that runs every started operation to completion
(`Quiesced`), the judge `TxSpec.judgeTxn` accepts the model's own transcript: own writes are returned, the final
store is the serial replay of the committed write sets in commit order, the committed SERIALIZABLE transactions
read the serial state just before their commit, and every SNAPSHOT_ISOLATION transaction read one snapshot.
-/
namespace HappyModel.C14.SM
open HappyModel.C14 HappyModel.C14.BT HappyModel.C14.TxSpec

/-- generic form: any store obeying the map laws whose `get` generator acts in one segment -/
theorem txn_trace_satisfies_spec_gen (ok : Store → Prop) (L : MapLaws ok)
    (nolsm : ∀ s, ok s → ∀ op, lsmStart s op = none)
    (s00 : Store) (h0 : ok s00) (he : ∀ k, s00.getSync k = none) (initKV : List (Key × Nat)) (nkeys : Nat)
    (ops : List (Nat × TOp)) (sched : List Nat) (hwf : WFProg ops)
    (hseq : SlotSeq ops { store := initKV.foldl (fun s e => s.putSync e.1 e.2) s00 } sched)
    (hq : Quiesced (runFrames stepT TPc.isDone { store := initKV.foldl (fun s e => s.putSync e.1 e.2) s00 }
      (framesOfT ops) 0 sched).2) :
    judgeTxn (initKV.foldl (fun s e => setKey e.1 e.2 s) []) nkeys
      ((List.range nkeys).map (runFrames stepT TPc.isDone { store := initKV.foldl (fun s e => s.putSync e.1 e.2) s00 }
        (framesOfT ops) 0 sched).1.store.getSync)
      (tobsOf ops (runFrames stepT TPc.isDone { store := initKV.foldl (fun s e => s.putSync e.1 e.2) s00 }
        (framesOfT ops) 0 sched).2) = none :=
  LM.txn_trace_satisfies_spec_side ok L s00 h0 he initKV nkeys ops sched hwf hseq (waits_side hwf nolsm) (LM.reads_init _ ops) hq

/-- KVStore or B-tree of order ≥ 3 (`SOk`), initially empty -/
theorem txn_trace_satisfies_spec (s00 : Store) (h0 : SOk s00) (he : s00.contents = []) (initKV : List (Key × Nat))
    (nkeys : Nat) (ops : List (Nat × TOp)) (sched : List Nat) (hwf : WFProg ops)
    (hseq : SlotSeq ops { store := initKV.foldl (fun s e => s.putSync e.1 e.2) s00 } sched)
    (hq : Quiesced (runFrames stepT TPc.isDone { store := initKV.foldl (fun s e => s.putSync e.1 e.2) s00 }
      (framesOfT ops) 0 sched).2) :
    judgeTxn (initKV.foldl (fun s e => setKey e.1 e.2 s) []) nkeys
      ((List.range nkeys).map (runFrames stepT TPc.isDone { store := initKV.foldl (fun s e => s.putSync e.1 e.2) s00 }
        (framesOfT ops) 0 sched).1.store.getSync)
      (tobsOf ops (runFrames stepT TPc.isDone { store := initKV.foldl (fun s e => s.putSync e.1 e.2) s00 }
        (framesOfT ops) 0 sched).2) = none :=
  txn_trace_satisfies_spec_gen SOk ⟨sok_laws.1, sok_laws.2⟩ (fun s h op => sok_nolsm h op) s00 h0
    (fun k => by rw [sok_get h0, he]; rfl) initKV nkeys ops sched hwf hseq hq

theorem txn_trace_satisfies_spec_kv (initKV : List (Key × Nat)) (nkeys : Nat) (ops : List (Nat × TOp))
    (sched : List Nat) (hwf : WFProg ops)
    (hseq : SlotSeq ops { store := initKV.foldl (fun s e => s.putSync e.1 e.2) (.kv []) } sched)
    (hq : Quiesced (runFrames stepT TPc.isDone { store := initKV.foldl (fun s e => s.putSync e.1 e.2) (.kv []) }
      (framesOfT ops) 0 sched).2) :
    judgeTxn (initKV.foldl (fun s e => setKey e.1 e.2 s) []) nkeys
      ((List.range nkeys).map (runFrames stepT TPc.isDone { store := initKV.foldl (fun s e => s.putSync e.1 e.2) (.kv []) }
        (framesOfT ops) 0 sched).1.store.getSync)
      (tobsOf ops (runFrames stepT TPc.isDone { store := initKV.foldl (fun s e => s.putSync e.1 e.2) (.kv []) }
        (framesOfT ops) 0 sched).2) = none :=
  txn_trace_satisfies_spec _ sok_kv_nil rfl initKV nkeys ops sched hwf hseq hq

/-- transactions over a B-tree of order ≥ 3 (a read pays one page-read segment per level of the tree as it was
    when the read started, while other transactions commit and split nodes) -/
theorem txn_trace_satisfies_spec_btree (order : Nat) (ho : 3 ≤ order) (initKV : List (Key × Nat)) (nkeys : Nat)
    (ops : List (Nat × TOp)) (sched : List Nat) (hwf : WFProg ops)
    (hseq : SlotSeq ops { store := initKV.foldl (fun s e => s.putSync e.1 e.2) (.bt { order := order }) } sched)
    (hq : Quiesced (runFrames stepT TPc.isDone
      { store := initKV.foldl (fun s e => s.putSync e.1 e.2) (.bt { order := order }) } (framesOfT ops) 0 sched).2) :
    judgeTxn (initKV.foldl (fun s e => setKey e.1 e.2 s) []) nkeys
      ((List.range nkeys).map (runFrames stepT TPc.isDone
        { store := initKV.foldl (fun s e => s.putSync e.1 e.2) (.bt { order := order }) } (framesOfT ops) 0 sched).1.store.getSync)
      (tobsOf ops (runFrames stepT TPc.isDone
        { store := initKV.foldl (fun s e => s.putSync e.1 e.2) (.bt { order := order }) } (framesOfT ops) 0 sched).2) = none :=
  txn_trace_satisfies_spec _ (sok_bt order ho) rfl initKV nkeys ops sched hwf hseq hq

/-! An order-3 B-tree; a SNAPSHOT_ISOLATION reader whose first read is suspended in the tree's
    page reads while a SERIALIZABLE writer commits an overwrite of that key and an insert. -/

def trOps : List (Nat × TOp) :=
  [(1, .begin 0 .si), (2, .begin 1 .ser), (3, .read 0 0), (4, .write 1 0 99), (5, .write 1 3 77), (6, .commit 1),
   (7, .read 0 3), (8, .commit 0)]

def trSched : List Nat := [1, 1, 2, 2, 3, 4, 4, 5, 5, 6, 6, 3, 3, 7, 7, 7, 8, 8]

def trInit : List (Key × Nat) := [(0, 10), (1, 11), (2, 12)]

def trTm : TM := { store := trInit.foldl (fun s e => s.putSync e.1 e.2) (.bt { order := 3 }) }

example : WFProg trOps := ⟨by decide +kernel, by decide +kernel, by decide +kernel⟩

example : slotSeqB trOps trTm trSched = true := by decide +kernel

example : (runFrames stepT TPc.isDone trTm (framesOfT trOps) 0 trSched).2.all (fun f => f.pc.isDone) = true := by decide +kernel

/-- the reader's read of key 0 ran over segments 4–12, across the writer's commit at 9, and returned the snapshot
    value 10; key 3, inserted by that commit, is absent from the reader's snapshot; the commit's insert split a leaf under the suspended read -/
example :
    (tobsOf trOps (runFrames stepT TPc.isDone trTm (framesOfT trOps) 0 trSched).2).map
      (fun t => (t.slot, t.committed, t.commitPos)) = [(0, true, 16), (1, true, 9)] ∧
    (tobsOf trOps (runFrames stepT TPc.isDone trTm (framesOfT trOps) 0 trSched).2).map (·.ext) =
      [[(0, some 10, 12), (3, none, 15)], []] ∧
    (tobsOf trOps (runFrames stepT TPc.isDone trTm (framesOfT trOps) 0 trSched).2).map (·.wset) =
      [[], [(0, 99), (3, 77)]] ∧
    (List.range 4).map (runFrames stepT TPc.isDone trTm (framesOfT trOps) 0 trSched).1.store.getSync =
      [some 99, some 11, some 12, some 77] := by
  refine ⟨by decide +kernel, by decide +kernel, by decide +kernel, by decide +kernel⟩

end HappyModel.C14.SM
