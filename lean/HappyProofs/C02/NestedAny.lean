import HappyProofs.C02.Resume
/-!
# C02 — nested `any_of`: inputs may be composites that settle inside a callback cascade

The callback graph is ranked (`RankOk`: every callback points to a composite of strictly smaller
rank — true of any combinator tree, where a composite is created after its inputs), and the fuel
of the `resolve` call exceeds the rank of the resolved future, so the cascade never runs dry.
-/
namespace HappyModel.C01

def RankOk (rk : Nat → Nat) (x : Eff) : Prop :=
  ∀ g cb, cb ∈ (futGet x.ps.futs g).cbs → rk cb.tgt < rk g

/-- `x'` is `x` after some futures were resolved / had their all_of bookkeeping updated:
    callbacks are kept or cleared on resolution; resolved futures keep their value -/
structure Later (x x' : Eff) : Prop where
  cbs : ∀ g, (futGet x'.ps.futs g).cbs = (futGet x.ps.futs g).cbs ∨
      ((futGet x'.ps.futs g).cbs = [] ∧ (futGet x'.ps.futs g).resolved = true)
  res : ∀ g, (futGet x.ps.futs g).resolved = true →
      (futGet x'.ps.futs g).resolved = true ∧ (futGet x'.ps.futs g).value = (futGet x.ps.futs g).value

theorem Later_mark (x : Eff) (now h : Nat) (w : Val) (hun : (futGet x.ps.futs h).resolved = false) :
    Later x (markResolved x now h w) := by
  constructor
  · intro g
    by_cases hg : g = h
    · subst hg; right
      exact ⟨(markResolved_futGet_same x now g w).2.2.1, (markResolved_futGet_same x now g w).1⟩
    · left; rw [markResolved_futGet_ne x now h g w hg]
  · intro g hr
    have hg : g ≠ h := by intro heq; subst heq; rw [hun] at hr; simp at hr
    rw [markResolved_futGet_ne x now h g w hg]; exact ⟨hr, rfl⟩

theorem allUpd_same (x : Eff) (c : Nat) (res : List Val) (rem : Nat) (g : Nat) :
    (futGet (x.setFut c { futGet x.ps.futs c with results := res, remaining := rem }).ps.futs g).resolved
      = (futGet x.ps.futs g).resolved ∧
    (futGet (x.setFut c { futGet x.ps.futs c with results := res, remaining := rem }).ps.futs g).value
      = (futGet x.ps.futs g).value ∧
    (futGet (x.setFut c { futGet x.ps.futs c with results := res, remaining := rem }).ps.futs g).cbs
      = (futGet x.ps.futs g).cbs := by
  rw [setFut_futs, futGet_futSet]
  split
  · rename_i h; subst h; exact ⟨rfl, rfl, rfl⟩
  · exact ⟨rfl, rfl, rfl⟩

theorem Later_allUpd (x : Eff) (c : Nat) (res : List Val) (rem : Nat) :
    Later x (x.setFut c { futGet x.ps.futs c with results := res, remaining := rem }) :=
  ⟨fun g => Or.inl (allUpd_same x c res rem g).2.2,
   fun g hr => ⟨(allUpd_same x c res rem g).1.trans hr, (allUpd_same x c res rem g).2.1⟩⟩

theorem Later.mem {x x' : Eff} (hl : Later x x') {g : Nat} {cb : Cb} (hcb : cb ∈ (futGet x'.ps.futs g).cbs) :
    cb ∈ (futGet x.ps.futs g).cbs := by
  rcases hl.cbs g with h1 | ⟨h1, _⟩ <;> rw [h1] at hcb
  · exact hcb
  · cases hcb

theorem Later.unres {x x' : Eff} (hl : Later x x') {g : Nat} (hun : (futGet x'.ps.futs g).resolved = false) :
    (futGet x.ps.futs g).resolved = false ∧ (futGet x'.ps.futs g).cbs = (futGet x.ps.futs g).cbs := by
  constructor
  · cases hr : (futGet x.ps.futs g).resolved with
    | false => rfl
    | true => rw [(hl.res _ hr).1] at hun; cases hun
  · rcases hl.cbs g with h1 | ⟨_, h1⟩
    · exact h1
    · rw [hun] at h1; cases h1

theorem RankOk_later {rk : Nat → Nat} {x x' : Eff} (h : RankOk rk x) (hl : Later x x') : RankOk rk x' :=
  fun g cb hcb => h g cb (hl.mem hcb)

/-- the callbacks into the composite `f` over the inputs `gs` are wired as they were built: the graph is ranked, the
    callbacks of an unresolved input `gs[i]` are as `Q i` says, no other future reports to `f` -/
structure Wired (rk : Nat → Nat) (f : Nat) (gs : List Nat) (Q : Nat → List Cb → Prop) (x : Eff) : Prop where
  rank : RankOk rk x
  notin : f ∉ gs
  inp : ∀ i (hi : i < gs.length), (futGet x.ps.futs gs[i]).resolved = false → Q i (futGet x.ps.futs gs[i]).cbs
  oth : ∀ g, g ∉ gs → ∀ cb ∈ (futGet x.ps.futs g).cbs, cb.tgt ≠ f

theorem Wired.later {rk : Nat → Nat} {f : Nat} {gs : List Nat} {Q : Nat → List Cb → Prop} {x x' : Eff}
    (h : Wired rk f gs Q x) (hl : Later x x') : Wired rk f gs Q x' :=
  ⟨RankOk_later h.rank hl, h.notin, fun i hi hun => (hl.unres hun).2 ▸ h.inp i hi (hl.unres hun).1,
    fun g hg cb hcb => h.oth g hg cb (hl.mem hcb)⟩

/-- what the cascade argument needs of the bookkeeping `I P` a composite `f` over `gs` satisfies between complete
    `resolve` calls, whatever its kind; `P` = inputs that are resolved but whose callback into `f` has not run yet (we
    are inside their cascade) -/
structure Family (rk : Nat → Nat) (f : Nat) (gs : List Nat) (now : Nat) (Q : Nat → List Cb → Prop)
    (I : List Nat → Eff → Prop) : Prop where
  wired : ∀ {P x}, I P x → Wired rk f gs Q x
  /-- a future other than `f` resolves: if it is an input it becomes pending -/
  mark : ∀ {P x} (g : Nat) (w : Val), I P x → (futGet x.ps.futs g).resolved = false → g ≠ f →
    I (if g ∈ gs then g :: P else P) (markResolved x now g w)
  upd : ∀ {P x} (c : Nat) (res : List Val) (rem : Nat), I P x → c ≠ f →
    I P (x.setFut c { futGet x.ps.futs c with results := res, remaining := rem })

def Other (rk : Nat → Nat) (f now : Nat) (I : List Nat → Eff → Prop) (n : Nat) : Prop :=
  ∀ (x : Eff) (h : Nat) (w : Val) (P : List Nat), rk h < n → h ≠ f → I P x → I P (resolveFut n x now h w)

section
variable {rk : Nat → Nat} {f : Nat} {gs : List Nat} {now : Nat} {Q : Nat → List Cb → Prop}
  {I : List Nat → Eff → Prop} {n : Nat}

theorem Family.fold_other (fam : Family rk f gs now Q I) (ho : Other rk f now I n) (w : Val) (l : List Cb) (acc : Eff)
    (P : List Nat) (hl : ∀ cb ∈ l, rk cb.tgt < n ∧ cb.tgt ≠ f) (h : I P acc) : I P (l.foldl (cbStep n now w) acc) :=
  foldl_closed_mem _ l (fun e cb hcb => cbStep_guarded (G := fun c => rk c < n ∧ c ≠ f)
    (fun e c v hg => ho e c v P hg.1 hg.2) (fun _ c res rem hg _ he => fam.upd c res rem he hg.2) w e cb (hl cb hcb)) acc h

/-- one more unit of fuel: a call on `h ≠ f` marks `h` and runs its callbacks; those of an input are the business of
    the kind of composite (`input`), those of any other future do not report to `f` -/
theorem Family.other_succ (fam : Family rk f gs now Q I) (ho : Other rk f now I n)
    (input : ∀ (x : Eff) (i : Nat) (hi : i < gs.length) (w : Val) (P : List Nat), I P x →
      (futGet x.ps.futs gs[i]).resolved = false → ∀ (l : List Cb) (acc : Eff), Q i l → (∀ cb ∈ l, rk cb.tgt < n) →
      ResolvedIs gs[i] w acc → I (gs[i] :: P) acc → I P (l.foldl (cbStep n now w) acc)) :
    Other rk f now I (n + 1) := by
  intro x h w P hrk hne inv
  rw [resolveFut_succ]
  cases hun : (futGet x.ps.futs h).resolved with
  | true => exact inv
  | false =>
    have hrank : ∀ cb ∈ (futGet x.ps.futs h).cbs, rk cb.tgt < n := by
      intro cb hcb; have := (fam.wired inv).rank h cb hcb; omega
    have hm := fam.mark h w inv hun hne
    by_cases hg : h ∈ gs
    · rw [if_pos hg] at hm
      obtain ⟨i, hi, rfl⟩ := List.getElem_of_mem hg
      have hs := markResolved_futGet_same x now gs[i] w
      exact input x i hi w P inv hun _ _ ((fam.wired inv).inp i hi hun) hrank ⟨hs.1, hs.2.1⟩ hm
    · rw [if_neg hg] at hm
      exact fam.fold_other ho w _ _ P (fun cb hcb => ⟨hrank cb hcb, (fam.wired inv).oth h hg cb hcb⟩) hm

end

/-- once resolved, `f` carries the index and the value of a resolved input -/
def AnyWon (f : Nat) (gs : List Nat) (x : Eff) : Prop :=
  (futGet x.ps.futs f).resolved = true → ∃ i, ∃ hi : i < gs.length,
    (futGet x.ps.futs gs[i]).resolved = true ∧ (futGet x.ps.futs f).value = .pair i (futGet x.ps.futs gs[i]).value

/-- the callbacks of an unresolved input `gs[i]` of `f = any_of(gs)`: its own into `f`, and no other into `f` -/
def AnyCbs (f i : Nat) (l : List Cb) : Prop := Cb.anyCb f i ∈ l ∧ ∀ cb ∈ l, cb.tgt = f → cb = .anyCb f i

/-- the any_of bookkeeping: an input that is resolved and not pending has resolved `f` -/
structure AnyInv (rk : Nat → Nat) (f : Nat) (gs : List Nat) (P : List Nat) (x : Eff) : Prop
    extends Wired rk f gs (AnyCbs f) x where
  K : ∀ i (hi : i < gs.length), gs[i] ∉ P → (futGet x.ps.futs gs[i]).resolved = true →
    (futGet x.ps.futs f).resolved = true
  W : AnyWon f gs x

theorem AnyWon.later {f : Nat} {gs : List Nat} {x x' : Eff} (hW : AnyWon f gs x) (hl : Later x x')
    (hf : futGet x'.ps.futs f = futGet x.ps.futs f) : AnyWon f gs x' := by
  intro hr
  rw [hf] at hr ⊢
  obtain ⟨i, hi, h1, h2⟩ := hW hr
  exact ⟨i, hi, (hl.res _ h1).1, by rw [(hl.res _ h1).2]; exact h2⟩

theorem AnyInv_mark {rk : Nat → Nat} {f : Nat} {gs P : List Nat} {x : Eff} (h : AnyInv rk f gs P x)
    (now g : Nat) (w : Val) (hun : (futGet x.ps.futs g).resolved = false) (hgf : g ≠ f) :
    AnyInv rk f gs (if g ∈ gs then g :: P else P) (markResolved x now g w) := by
  have hl := Later_mark x now g w hun
  have hf := markResolved_futGet_ne x now g f w (Ne.symm hgf)
  refine ⟨h.toWired.later hl, fun j hj hP hr => ?_, h.W.later hl hf⟩
  have hne : gs[j] ≠ g := by
    intro heq
    rw [if_pos (heq ▸ List.getElem_mem hj)] at hP
    exact hP (heq ▸ List.mem_cons_self)
  rw [markResolved_futGet_ne x now g gs[j] w hne] at hr
  rw [hf]
  refine h.K j hj (fun hm => hP ?_) hr
  split
  · exact List.mem_cons_of_mem _ hm
  · exact hm

theorem AnyInv_mark_f {rk : Nat → Nat} {f : Nat} {gs P : List Nat} {x : Eff} {g0 : Nat}
    (h : AnyInv rk f gs (g0 :: P) x)
    (now : Nat) (i : Nat) (hi : i < gs.length) (v : Val) (hun : (futGet x.ps.futs f).resolved = false)
    (hri : (futGet x.ps.futs gs[i]).resolved = true) (hvi : (futGet x.ps.futs gs[i]).value = v) :
    AnyInv rk f gs P (markResolved x now f (.pair i v)) := by
  have hl := Later_mark x now f (.pair i v) hun
  have hs := markResolved_futGet_same x now f (.pair i v)
  exact ⟨h.toWired.later hl, fun _ _ _ _ => hs.1,
    fun _ => ⟨i, hi, (hl.res _ hri).1, by rw [hs.2.1, (hl.res _ hri).2, hvi]⟩⟩

theorem AnyInv_allUpd {rk : Nat → Nat} {f : Nat} {gs P : List Nat} {x : Eff} (h : AnyInv rk f gs P x)
    (c : Nat) (res : List Val) (rem : Nat) (hc : c ≠ f) :
    AnyInv rk f gs P (x.setFut c { futGet x.ps.futs c with results := res, remaining := rem }) := by
  have hl := Later_allUpd x c res rem
  have hf : futGet (x.setFut c { futGet x.ps.futs c with results := res, remaining := rem }).ps.futs f
      = futGet x.ps.futs f := futGet_futSet_ne _ _ _ _ (Ne.symm hc)
  refine ⟨h.toWired.later hl, fun i hi hP hr => ?_, h.W.later hl hf⟩
  rw [(allUpd_same x c res rem _).1] at hr
  rw [hf]; exact h.K i hi hP hr

theorem anyFamily {rk : Nat → Nat} {f : Nat} {gs : List Nat} {now : Nat} :
    Family rk f gs now (AnyCbs f) (AnyInv rk f gs) :=
  ⟨fun h => h.toWired, fun g w h hun hgf => AnyInv_mark h now g w hun hgf, fun c res rem h hc => AnyInv_allUpd h c res rem hc⟩

theorem AnyInv_weaken {rk : Nat → Nat} {f : Nat} {gs P : List Nat} {x : Eff} (h : AnyInv rk f gs P x) (g : Nat) :
    AnyInv rk f gs (g :: P) x :=
  ⟨h.toWired, fun i hi hP hr => h.K i hi (fun hm => hP (List.mem_cons_of_mem _ hm)) hr, h.W⟩

theorem AnyInv_drop {rk : Nat → Nat} {f : Nat} {gs P : List Nat} {x : Eff} {g : Nat} (h : AnyInv rk f gs (g :: P) x)
    (hr : (futGet x.ps.futs f).resolved = true) : AnyInv rk f gs P x :=
  ⟨h.toWired, fun _ _ _ _ => hr, h.W⟩

/-- what complete `resolve` calls with fuel `n` do to the bookkeeping -/
structure AnyClaim (rk : Nat → Nat) (f : Nat) (gs : List Nat) (now n : Nat) : Prop where
  other : Other rk f now (AnyInv rk f gs) n
  /-- the call on `f` made by the callback of input `i`, which is pending -/
  comp : ∀ (x : Eff) (i : Nat) (hi : i < gs.length) (v : Val) (g0 : Nat) (P : List Nat), rk f < n →
    AnyInv rk f gs (g0 :: P) x → (futGet x.ps.futs gs[i]).resolved = true → (futGet x.ps.futs gs[i]).value = v →
    AnyInv rk f gs P (resolveFut n x now f (.pair i v))

theorem any_fold_input {rk : Nat → Nat} {f : Nat} {gs : List Nat} {now n : Nat} (cl : AnyClaim rk f gs now n)
    (i : Nat) (hi : i < gs.length) (w : Val) (P : List Nat) (l : List Cb) :
    ∀ (acc : Eff), (∀ cb ∈ l, rk cb.tgt < n) → (∀ cb ∈ l, cb.tgt = f → cb = .anyCb f i) →
    ResolvedIs gs[i] w acc →
    (AnyInv rk f gs P acc → AnyInv rk f gs P (l.foldl (cbStep n now w) acc)) ∧
    (Cb.anyCb f i ∈ l → AnyInv rk f gs (gs[i] :: P) acc → AnyInv rk f gs P (l.foldl (cbStep n now w) acc)) := by
  induction l with
  | nil => intro acc _ _ _; exact ⟨fun h => h, fun hm => by simp at hm⟩
  | cons cb t ih =>
    intro acc hrk hf hres
    have ⟨ih1, ih2⟩ := ih (cbStep n now w acc cb) (fun cb' hcb' => hrk cb' (List.mem_cons_of_mem _ hcb'))
      (fun cb' hcb' => hf cb' (List.mem_cons_of_mem _ hcb'))
      (cbStep_cclosed (ResolvedIs_cclosed gs[i] w) n now w acc cb hres)
    have hrk0 := hrk cb List.mem_cons_self
    simp only [List.foldl_cons]
    by_cases ht : cb.tgt = f
    · cases hf cb List.mem_cons_self ht
      have hcomp : ∀ Q, AnyInv rk f gs (gs[i] :: Q) acc → AnyInv rk f gs Q _ :=
        fun Q h => cl.comp acc i hi w gs[i] Q (ht ▸ hrk0) h hres.1 hres.2
      exact ⟨fun h => ih1 (hcomp P (AnyInv_weaken h gs[i])), fun _ h => ih1 (hcomp P h)⟩
    · have hoth : ∀ Q, AnyInv rk f gs Q acc → AnyInv rk f gs Q _ :=
        fun Q h => anyFamily.fold_other cl.other w [cb] acc Q (by simpa using ⟨hrk0, ht⟩) h
      refine ⟨fun h => ih1 (hoth P h), fun hm h => ih2 ?_ (hoth _ h)⟩
      rcases List.mem_cons.mp hm with heq | hm'
      · exact absurd (heq ▸ rfl) ht
      · exact hm'

theorem anyClaim (rk : Nat → Nat) (f : Nat) (gs : List Nat) (now : Nat) : ∀ n, AnyClaim rk f gs now n := by
  intro n
  induction n with
  | zero => exact ⟨fun _ _ _ _ h => absurd h (Nat.not_lt_zero _), fun _ _ _ _ _ _ h => absurd h (Nat.not_lt_zero _)⟩
  | succ n ih =>
    refine ⟨anyFamily.other_succ ih.other ?_, ?_⟩
    · intro x i hi w P _ _ l acc hq hrk hres h
      exact (any_fold_input ih i hi w P l acc hrk hq.2 hres).2 hq.1 h
    · intro x i hi v g0 P hrk inv hri hvi
      rw [resolveFut_succ]
      cases hun : (futGet x.ps.futs f).resolved with
      | true => exact AnyInv_drop inv hun
      | false =>
        refine anyFamily.fold_other ih.other _ _ _ P ?_ (AnyInv_mark_f inv now i hi v hun hri hvi)
        intro cb hcb
        have := inv.rank f cb hcb
        exact ⟨by omega, by intro heq; rw [heq] at this; omega⟩

/-- **nested any_of.**  Each unresolved input `gs[i]` carries the callback `anyCb f i` and every
    callback into `f` is one of these.  Whenever one `resolve` call on `h ≠ f` takes `f = any_of(gs)`
    from "no input resolved" to "some input resolved", `f` is resolved after that call with `(i, v)` for
    an input `i` that is resolved with `v` -/
theorem anyof_first_nested (rk : Nat → Nat) (fuel : Nat) (e : Eff) (now f h : Nat) (gs : List Nat) (w : Val)
    (hrank : RankOk rk e) (hfuel : rk h < fuel) (hhf : h ≠ f) (hf : f ∉ gs)
    (hunf : (futGet e.ps.futs f).resolved = false)
    (hin : ∀ i (hi : i < gs.length), (futGet e.ps.futs gs[i]).resolved = false ∧
      Cb.anyCb f i ∈ (futGet e.ps.futs gs[i]).cbs ∧
      ∀ cb ∈ (futGet e.ps.futs gs[i]).cbs, cb.tgt = f → cb = .anyCb f i)
    (hoth : ∀ g, g ∉ gs → ∀ cb ∈ (futGet e.ps.futs g).cbs, cb.tgt ≠ f)
    (hsome : ∃ i, ∃ hi : i < gs.length, (futGet (resolveFut fuel e now h w).ps.futs gs[i]).resolved = true) :
    ∃ i, ∃ hi : i < gs.length, (futGet (resolveFut fuel e now h w).ps.futs gs[i]).resolved = true ∧
      (futGet (resolveFut fuel e now h w).ps.futs f).resolved = true ∧
      (futGet (resolveFut fuel e now h w).ps.futs f).value
        = .pair i (futGet (resolveFut fuel e now h w).ps.futs gs[i]).value := by
  have inv0 : AnyInv rk f gs [] e := by
    refine ⟨⟨hrank, hf, fun i hi _ => (hin i hi).2, hoth⟩, ?_, ?_⟩
    · intro i hi _ hr; rw [(hin i hi).1] at hr; simp at hr
    · intro hr; rw [hunf] at hr; simp at hr
  have inv := (anyClaim rk f gs now fuel).other e h w [] hfuel hhf inv0
  obtain ⟨i, hi, hr⟩ := hsome
  have hfr := inv.K i hi (by simp) hr
  obtain ⟨j, hj, h1, h2⟩ := inv.W hfr
  exact ⟨j, hj, h1, hfr, h2⟩

end HappyModel.C01
