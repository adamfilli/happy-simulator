import HappyProofs.C14.TxnObsMaps
import HappyProofs.C14.TxnUpd
/-!
# Transactions, link machine → judge: program order and the machine facts

What `WFProg` and `MachFacts` say in the vocabulary of `TxnObsMaps.lean` (`frameRes`, `stepF`, `wsetC`): completed
operations of a slot are a prefix of its program, the judge's write buffer is the machine's
(`wsetC_eq_before`), and a completed external read has its `fetched` event inside its interval
(`obs_walk`).

`EB fs` (`Frames.lean`) is the one fact about frames that `MachFacts` does not state and that is needed: a frame with a
last segment has a first segment (with `done_e` it is then completed).
-/
namespace HappyModel.C14.SM
open HappyModel.C14 HappyModel.C14.BT HappyModel.C14.TxSpec

/-- a slot has at most one `begin` (`end_unique`: at most one `commit` / `abort`) -/
theorem begin_unique {ops : List (Nat × TOp)} (hwf : WFProg ops) {a o : Nat × TOp} (ha : a ∈ ops) (ho : o ∈ ops)
    (hs : a.2.slot = o.2.slot) (hba : a.2.isBegin = true) (hbo : o.2.isBegin = true) : a = o := by
  obtain ⟨pre, post, rfl⟩ := List.append_of_mem ho
  have h := pairwise_split hwf.order
  rcases mem_split ha with h1 | h1 | h1
  · have := (h.1 a h1 hs).1; simp [hbo] at this
  · exact h1
  · have := (h.2 a h1 hs.symm).1; simp [hba] at this

theorem end_unique {ops : List (Nat × TOp)} (hwf : WFProg ops) {a o : Nat × TOp} (ha : a ∈ ops) (ho : o ∈ ops)
    (hs : a.2.slot = o.2.slot) (hba : a.2.isEnd = true) (hbo : o.2.isEnd = true) : a = o := by
  obtain ⟨pre, post, rfl⟩ := List.append_of_mem ho
  have h := pairwise_split hwf.order
  rcases mem_split ha with h1 | h1 | h1
  · have := (h.1 a h1 hs).2; simp [hba] at this
  · exact h1
  · have := (h.2 a h1 hs.symm).2; simp [hbo] at this

theorem begin_before {pre post : List (Nat × TOp)} {o : Nat × TOp} (hwf : WFProg (pre ++ o :: post))
    (hb : o.2.isBegin = false) : ∃ a ∈ pre, ∃ l, a.2 = .begin o.2.slot l := by
  obtain ⟨a, ha, hab, hs⟩ := hwf.begun o (by simp) hb
  have h := pairwise_split hwf.order
  have hl : ∃ l, a.2 = .begin o.2.slot l := hs ▸ TOp.eq_begin hab
  rcases mem_split ha with h1 | h1 | h1
  · exact ⟨a, h1, hl⟩
  · subst h1; simp [hab] at hb
  · have := (h.2 a h1 hs.symm).1; simp [hab] at this

theorem before_end {pre post : List (Nat × TOp)} {o a : Nat × TOp} (hwf : WFProg (pre ++ o :: post))
    (ha : a ∈ pre ++ o :: post) (hs : a.2.slot = o.2.slot) (he : o.2.isEnd = true) (hna : a.2.isEnd = false) :
    a ∈ pre := by
  have h := pairwise_split hwf.order
  rcases mem_split ha with h1 | h1 | h1
  · exact h1
  · subst h1; simp [he] at hna
  · have := (h.2 a h1 hs.symm).2; simp [he] at this

section
variable {ok : Store → Prop} {ops : List (Nat × TOp)} {tm0 tm : TM} {fs : List (Frame TPc)} {tlog : List (Nat × Ev)}

theorem fs_nodup (hwf : WFProg ops) (hm : MachFacts ok ops tm0 tm fs tlog) : (fs.map (·.id)).Nodup :=
  hm.ids ▸ hwf.ids

theorem res_frame (hwf : WFProg ops) (hm : MachFacts ok ops tm0 tm fs tlog) {o : Nat × TOp} (ho : o ∈ ops)
    {b e : Nat} {r : SRes} (h : frameRes fs o.1 = some (b, e, r)) :
    ∃ f ∈ fs, f.id = o.1 ∧ f.b = some b ∧ f.e = some e ∧ f.pc = .done r ∧ ops.lookup f.id = some o.2 ∧ b ≤ e := by
  obtain ⟨f, hf, hid, hb, he, hp⟩ := frameRes_some h
  obtain ⟨e', r', he', _, hle⟩ := hm.done_e f hf b hb
  rw [he] at he'
  cases he'
  exact ⟨f, hf, hid, hb, he, hp, hid ▸ mem_lookup hwf.ids ho, hle⟩

theorem started_res (hwf : WFProg ops) (hm : MachFacts ok ops tm0 tm fs tlog) {f : Frame TPc} (hf : f ∈ fs)
    {b : Nat} (hb : f.b = some b) : ∃ e r, frameRes fs f.id = some (b, e, r) ∧ f.pc = .done r ∧ b ≤ e := by
  obtain ⟨e, r, he, hp, hle⟩ := hm.done_e f hf b hb
  exact ⟨e, r, frameRes_of (fs_nodup hwf hm) hf hb he hp, hp, hle⟩

theorem before_done (hwf : WFProg ops) (hm : MachFacts ok ops tm0 tm fs tlog) (heb : EB fs)
    {pre post : List (Nat × TOp)} {o : Nat × TOp} (hops : ops = pre ++ o :: post)
    {b e : Nat} {r : SRes} (h : frameRes fs o.1 = some (b, e, r)) {a : Nat × TOp} (ha : a ∈ pre)
    (hs : a.2.slot = o.2.slot) : ∃ b' e' r', frameRes fs a.1 = some (b', e', r') ∧ b' ≤ e' ∧ e' < b := by
  obtain ⟨f, hf, hid, hb, _, _⟩ := frameRes_some h
  obtain ⟨g, hg, hgid, e', hge, hlt⟩ := hm.seq pre o post hops f hf hid b hb a ha hs
  obtain ⟨b', hgb⟩ := heb g hg e' hge
  obtain ⟨e'', r', hres, _, hle⟩ := started_res hwf hm hg hgb
  obtain ⟨g', hg', hgid', _, hge', _⟩ := frameRes_some hres
  have : g' = g := inj_of_nodup_map (·.id) (fs_nodup hwf hm) hg' hg hgid'
  subst this
  rw [hge] at hge'
  cases hge'
  exact ⟨b', e', r', hgid ▸ hres, hle, hlt⟩

/-- the judge replays the writes of the completed operations of the slot -/
theorem wstepC_eq (fs : List (Frame TPc)) (s : Nat) (w : KV) (o : Nat × TOp) :
    wstep fs s w o = if o.2.slot = s ∧ (frameRes fs o.1).isSome then opW o.2 w else w := by
  obtain ⟨i, op⟩ := o
  cases hx : frameRes fs i <;> cases op <;> simp [wstep, stepF, tstepOp, opW, TOp.slot, hx] <;> split <;> simp_all

theorem foldl_wstep_eq (fs : List (Frame TPc)) (s : Nat) (l : List (Nat × TOp)) (w : KV)
    (h : ∀ a ∈ l, a.2.slot = s → (frameRes fs a.1).isSome) : l.foldl (wstep fs s) w = l.foldl (wstepM s) w := by
  induction l generalizing w with
  | nil => rfl
  | cons a l ih =>
    have e : wstep fs s w a = wstepM s w a := by
      rw [wstepC_eq, wstep_eq]
      by_cases hs : a.2.slot = s
      · rw [if_pos ⟨hs, h a List.mem_cons_self hs⟩, if_pos hs]
      · rw [if_neg fun h' => hs h'.1, if_neg hs]
    rw [List.foldl_cons, List.foldl_cons, e]
    exact ih _ fun a' ha' => h a' (List.mem_cons_of_mem _ ha')

theorem wsetC_eq_before (hwf : WFProg ops) (hm : MachFacts ok ops tm0 tm fs tlog) (heb : EB fs)
    {pre post : List (Nat × TOp)} {o : Nat × TOp} (hops : ops = pre ++ o :: post)
    {b e : Nat} {r : SRes} (h : frameRes fs o.1 = some (b, e, r)) :
    wsetC fs o.2.slot pre = wsetBefore ops o.1 o.2.slot := by
  rw [wsetBefore_split hwf.ids hops, wsetC]
  apply foldl_wstep_eq
  intro a ha hs
  obtain ⟨b', e', r', hres, _⟩ := before_done hwf hm heb hops h ha hs
  simp [hres]

theorem wsetC_at_end (hwf : WFProg ops) {pre post : List (Nat × TOp)} {o : Nat × TOp} (hops : ops = pre ++ o :: post)
    (he : o.2.isEnd = true) : wsetC fs o.2.slot ops = wsetC fs o.2.slot pre := by
  subst hops
  have h := pairwise_split hwf.order
  simp only [wsetC, List.foldl_append, List.foldl_cons]
  have eo : ∀ w, opW o.2 w = w := fun w => by
    cases ho : o.2 <;> first | rfl | (rw [ho] at he; cases he)
  have hpost : ∀ c ∈ post, c.2.slot ≠ o.2.slot := fun c hc hs =>
    absurd ((h.2 c hc hs.symm).2.symm.trans he) Bool.false_ne_true
  rw [wstepC_eq, eo, ite_self, foldl_wstep_eq fs _ post _ fun c hc hs => absurd hs (hpost c hc),
    foldl_wstep_none _ _ _ hpost]

theorem tstepOp_read {s : Nat} {o : TOp} {x : Nat × Nat × SRes} {k : Key} {val : Option Nat} {b e : Nat} :
    tstepOp s o x = some (.read k val b e) ↔ o = .read s k ∧ val = resVal x.2.2 ∧ b = x.1 ∧ e = x.2.1 := by
  cases o <;> simp [tstepOp, eq_comm, and_assoc]

theorem stepF_read {s : Nat} {o : Nat × TOp} {k : Key} {val : Option Nat} {b e : Nat}
    (h : stepF fs s o = some (.read k val b e)) : ∃ r, o.2 = .read s k ∧ frameRes fs o.1 = some (b, e, r) ∧ val = resVal r := by
  obtain ⟨⟨b', e', r⟩, hx, h⟩ := Option.bind_eq_some_iff.1 h
  obtain ⟨h1, h2, rfl, rfl⟩ := tstepOp_read.1 h
  exact ⟨r, h1, hx, h2⟩

/-- an external read of slot `s`: a completed `read` whose `fetched` event lies in its interval -/
def ExtQ (ops : List (Nat × TOp)) (fs : List (Frame TPc)) (tlog : List (Nat × Ev)) (s : Nat)
    (r : Key × Option Nat × Nat) : Prop :=
  ∃ o ∈ ops, ∃ b n r', o.2 = .read s r.1 ∧ frameRes fs o.1 = some (b, r.2.2, r') ∧ b ≤ n ∧ n ≤ r.2.2 ∧
    (n, Ev.fetched s r.1 r.2.1) ∈ tlog

/-- the walk of the observation of a slot: own writes are returned, and every read the judge takes for external
    is a completed `read` with its `fetched` event inside its interval -/
theorem obs_walk (hwf : WFProg ops) (hm : MachFacts ok ops tm0 tm fs tlog) (heb : EB fs) (sl : Nat × ILevel) :
    (obsOf ops fs sl).ownBad = false ∧ (obsOf ops fs sl).wset = wsetC fs sl.1 ops ∧
    ∀ r ∈ (obsOf ops fs sl).ext, ExtQ ops fs tlog sl.1 r := by
  refine walk_obs fs (ExtQ ops fs tlog sl.1) ops sl fun pre o post hops k val b e h => ?_
  obtain ⟨r, ho2, hres, hval⟩ := stepF_read h
  have ho : o ∈ ops := by simp [hops]
  obtain ⟨f, hf, hid, hb, he, hp, hlk, _⟩ := res_frame hwf hm ho hres
  rw [ho2] at hlk
  obtain ⟨c, hc, hmatch⟩ := hm.read_res f hf sl.1 k b e r hlk hb he hp
  have hw := wsetC_eq_before hwf hm heb hops hres
  simp only [ho2, TOp.slot] at hw
  rw [hid, ← hw] at hmatch
  subst hc
  simp only [resVal] at hval
  subst hval
  unfold readOk
  cases hl : (wsetC fs sl.1 pre).lookup k with
  | some v => simpa [hl] using hmatch
  | none =>
    simp only [hl] at hmatch ⊢
    obtain ⟨n, h1, h2, h3⟩ := hmatch
    exact ⟨o, ho, b, n, _, ho2, hres, h1, h2, h3⟩

end

end HappyModel.C14.SM
