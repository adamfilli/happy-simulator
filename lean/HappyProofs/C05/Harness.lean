import HappyProofs.C05.Trace
import HappyProofs.C05.Exchange
import HappyModel.C05.Stateful
/-!
The stateful harness entity (`ruleStep` of the model) as an entity-local handler on events without
index, and where it commutes: two deliveries to one entity at one timestamp can be exchanged
(`ruleHandler_commAt`) unless a rule of kind `first` is present or the two are a timer and the
canceller of that very timer (`conflict`).  The state update commutes field by field (`upd_comm`),
the emissions rule by rule (`fire_comm`).
-/
namespace HappyModel.C05

def ruleHandler (prog : List (Nat × Nat × Emit)) (sprog : List SRule) : EHandler ESt :=
  fun σ d => ruleStep prog sprog σ d.time d.tgt d.kind

def SRule.notFirst : SRule → Prop
  | .first _ _ _ _ => False
  | _ => True

/-- a cancelled timer popped by the engine -/
def gh (σ : ESt) (k : Nat) : Bool := isTimer k && σ.cancelled (codeOf k)

/-- the state after a delivery that is not a ghost -/
def upd (σ : ESt) (kEnc : Nat) : ESt :=
  { cnt := σ.cnt + 1, seen := fun j => j == kindOf kEnc || σ.seen j,
    cancelled := fun c => (isCanceller kEnc && c == codeOf kEnc && !σ.fired c) || σ.cancelled c,
    fired := fun c => (isTimer kEnc && c == codeOf kEnc) || σ.fired c }

def rawEms (prog : List (Nat × Nat × Emit)) (sprog : List SRule) (σ : ESt) (t me kEnc : Nat) : List Emit :=
  ((prog.filter (fun x => x.1 == me && x.2.1 == kindOf kEnc)).map (·.2.2))
    ++ sprog.flatMap (fireRule σ me (kindOf kEnc) t kEnc)

/-- closes by `rfl` only while `gh`, `upd`, `rawEms` repeat the text of the model's `ruleStep` -/
theorem ruleStep_eq (prog : List (Nat × Nat × Emit)) (sprog : List SRule) (σ : ESt) (t me kEnc : Nat) :
    ruleStep prog sprog σ t me kEnc
      = if gh σ kEnc then (σ, [])
        else (upd σ kEnc, (rawEms prog sprog σ t me kEnc).map (fun x => ⟨x.delay, x.tgt, x.kind + 64 * (me + 1)⟩)) := rfl

/-- **ghost_is_silent** — the delivery of a cancelled timer (what the code's engine pops and skips)
    changes no state and emits nothing -/
theorem ghost_is_silent (prog : List (Nat × Nat × Emit)) (sprog : List SRule) (σ : ESt) (t me kEnc : Nat)
    (h : isTimer kEnc = true) (hc : σ.cancelled (codeOf kEnc) = true) :
    ruleStep prog sprog σ t me kEnc = (σ, []) := by
  rw [ruleStep_eq]; simp [gh, h, hc]

def conflict (ka kd : Nat) : Prop :=
  codeOf ka = codeOf kd ∧ ((isTimer ka = true ∧ isCanceller kd = true) ∨ (isCanceller ka = true ∧ isTimer kd = true))

instance (ka kd : Nat) : Decidable (conflict ka kd) := by unfold conflict; infer_instance

theorem conflict_symm {ka kd : Nat} (h : conflict ka kd) : conflict kd ka :=
  ⟨h.1.symm, h.2.symm.imp And.symm And.symm⟩

theorem gh_upd (σ : ESt) (ka kd : Nat) (hnc : ¬ conflict ka kd) : gh (upd σ ka) kd = gh σ kd := by
  unfold gh upd
  by_cases h1 : isTimer kd = true
  · by_cases h2 : isCanceller ka = true
    · by_cases h3 : codeOf kd = codeOf ka
      · exact absurd ⟨h3.symm, Or.inr ⟨h2, h1⟩⟩ hnc
      · simp [h1, h2, h3]
    · simp [h1, h2]
  · simp [h1]

/-- whether the canceller `kd` cancels the code `c` does not depend on a delivery `ka` before it:
    without conflict `ka` can only have fired another code -/
theorem cancel_guard_upd (σ : ESt) (ka kd c : Nat) (hnc : ¬ conflict ka kd) :
    (isCanceller kd && c == codeOf kd && !(upd σ ka).fired c)
      = (isCanceller kd && c == codeOf kd && !σ.fired c) := by
  by_cases h : isCanceller kd = true ∧ c = codeOf kd
  · have hf : (isTimer ka && c == codeOf ka) = false :=
      Bool.eq_false_iff.mpr fun ht => by
        simp only [Bool.and_eq_true, beq_iff_eq] at ht
        exact hnc ⟨ht.2.symm.trans h.2, Or.inl ⟨ht.1, h.1⟩⟩
    simp only [upd, hf, Bool.false_or]
  · have hg : (isCanceller kd && c == codeOf kd) = false :=
      Bool.eq_false_iff.mpr fun hg => h (by simpa using hg)
    simp only [hg, Bool.false_and]

theorem upd_comm (σ : ESt) (ka kd : Nat) (hnc : ¬ conflict ka kd) :
    upd (upd σ ka) kd = upd (upd σ kd) ka := by
  have hc (c : Nat) : (upd (upd σ ka) kd).cancelled c = (upd (upd σ kd) ka).cancelled c := by
    show (_ && _ && !(upd σ ka).fired c || (upd σ ka).cancelled c)
      = (_ && _ && !(upd σ kd).fired c || (upd σ kd).cancelled c)
    rw [cancel_guard_upd σ ka kd c hnc, cancel_guard_upd σ kd ka c (mt conflict_symm hnc)]
    exact Bool.or_left_comm _ _ _
  show ESt.mk _ _ _ _ = ESt.mk _ _ _ _
  congr 1
  · funext j; exact Bool.or_left_comm _ _ _
  · funext c; exact hc c
  · funext c; exact Bool.or_left_comm _ _ _

theorem fire_comm (σ : ESt) (me ka kd t : Nat) (r : SRule) (hr : r.notFirst) :
    (fireRule σ me (kindOf ka) t ka r ++ fireRule (upd σ ka) me (kindOf kd) t kd r).Perm
      (fireRule σ me (kindOf kd) t kd r ++ fireRule (upd σ kd) me (kindOf ka) t ka r) := by
  cases r with
  | first e kA kB em => exact absurd hr (by simp [SRule.notFirst])
  -- `nth` reads the counter only: in either order the two calls see `cnt` and `cnt + 1`
  | nth e n em => exact List.Perm.refl _
  -- `tmr` does not read the state
  | tmr e k0 dt kt dc kc => exact List.perm_append_comm
  | dedup e k0 em =>
    -- the second delivery of kind `k0` finds it seen
    have h2s : (k0 = kindOf ka) = (kindOf ka = k0) := propext eq_comm
    have h3s : (k0 = kindOf kd) = (kindOf kd = k0) := propext eq_comm
    by_cases h2 : kindOf ka = k0 <;> by_cases h3 : kindOf kd = k0 <;>
      simp [fireRule, upd, h2, h3, h2s, h3s]

/-- **ruleHandler_commAt** — a stateful harness entity without `first` rules (script lines, `nth`,
    `dedup`, `tmr`: families `stateful` and `timers` of the check) commutes on two deliveries to one
    entity at one timestamp, unless the two are a timer and the canceller of that very timer (which
    the `tmr` rule creates together, in this order, in the same partition). -/
theorem ruleHandler_commAt (prog : List (Nat × Nat × Emit)) (sprog : List SRule)
    (h : ∀ r ∈ sprog, r.notFirst) (a d : PEv) (htg : a.tgt = d.tgt) (htm : a.time = d.time)
    (hnc : ¬ conflict a.kind d.kind) : CommAt (ruleHandler prog sprog) a d := by
  have hnc' : ¬ conflict d.kind a.kind := mt conflict_symm hnc
  intro σ0
  simp only [ruleHandler, ruleStep_eq, htg, htm]
  by_cases ga : gh σ0 a.kind = true <;> by_cases gd : gh σ0 d.kind = true
  · simp [ga, gd]
  · simp [ga, gd, gh_upd σ0 d.kind a.kind hnc']
  · simp [ga, gd, gh_upd σ0 a.kind d.kind hnc]
  · simp only [ga, gd, gh_upd σ0 a.kind d.kind hnc, gh_upd σ0 d.kind a.kind hnc', Bool.false_eq_true,
      if_false]
    refine ⟨upd_comm σ0 a.kind d.kind hnc, ?_⟩
    rw [← List.map_append, ← List.map_append]
    refine List.Perm.map _ ?_
    have key := (flatMap_append_fun sprog _ _).symm.trans
      ((flatMap_perm_pointwise fun r hr => fire_comm σ0 d.tgt a.kind d.kind d.time r (h r hr)).trans
        (flatMap_append_fun sprog _ _))
    rw [List.perm_iff_count] at key ⊢
    intro x
    have := key x
    simp only [rawEms, List.count_append] at this ⊢
    omega

end HappyModel.C05
