import HappyProofs.C12.MPBasic
/-!
# C12 — Multi-Paxos / Flexible Paxos: a node becomes leader only on a phase-1 quorum

`Spec.leaderQuorum q1` along every run (`MP.leader_needs_phase1_quorum` in Props.lean).  Invariant: the per-ballot counter `len(_phase1_responses[bn])` of node `p` never exceeds the
number of observed phase-1 responses `(p, bn)`.
-/
namespace HappyModel.C12.MP
open HappyModel.C12.Spec

def InvL (s : St) (hist : List LogObs) : Prop := ∀ i k, p1Of (getNode s i) k ≤ promCnt hist i k

def notProm : LogObs → Bool
  | .prom _ _ _ _ => false
  | _ => true

theorem isProm_of_notProm {o : LogObs} (h : notProm o = true) (p k : Nat) : isProm p k o = false := by
  cases o <;> first | rfl | cases h

theorem leaderOk_of_notProm {o : LogObs} (h : notProm o = true) (q1 : Nat) (hist : List LogObs) :
    leaderOk q1 hist o = true := by
  cases o <;> first | rfl | cases h

theorem promCnt_append (l hist : List LogObs) (p k : Nat) :
    promCnt (l.reverse ++ hist) p k = l.countP (isProm p k) + promCnt hist p k := by
  unfold promCnt
  rw [List.countP_append, List.countP_reverse]

theorem countP_notProm {l : List LogObs} (hl : ∀ o ∈ l, notProm o = true) (p k : Nat) :
    l.countP (isProm p k) = 0 :=
  List.countP_eq_zero.2 fun o ho => by rw [isProm_of_notProm (hl o ho)]; decide

theorem propOf_notProm (p : Nat) (ms : List Msg) : ∀ o ∈ ms.filterMap (propOf p), notProm o = true := by
  intro o ho
  obtain ⟨_, _, _, _, _, _, rfl⟩ := propOf_mem_accept ho
  rfl

theorem obsStep_notProm (s : St) (a : Act) (ha : a.isPhase1 = false) : ∀ o ∈ obsStep s a, notProm o = true := by
  intro o ho
  cases mem_obsStep ho with
  | prom _ _ _ ha' => rw [ha] at ha'; cases ha'
  | _ => rfl

theorem init_invL (n q1 q2 : Nat) (flex : Bool) : InvL (init n q1 q2 flex) [] := by
  intro i k
  rw [init_node]
  exact Nat.zero_le _

theorem step_invL (s : St) (a : Act) (hist : List LogObs) (h : InvL s hist) :
    leaderQuorum s.q1 hist (obsStep s a) = true ∧ InvL (step s a).1 ((obsStep s a).reverse ++ hist) := by
  cases ha : a.isPhase1 with
  | false =>
    have hno := obsStep_notProm s a ha
    refine ⟨checkAll_of_forall _ _ _ fun o ho hh => leaderOk_of_notProm (hno o ho) _ hh, fun i k => ?_⟩
    rw [promCnt_append, countP_notProm hno, Nat.zero_add, p1Of, ((step_keeps s a i).p1 ha).1]
    exact h i k
  | true =>
    have hobs := phase1_obs s a ha
    have hp1 := (step_keeps s a (actor a)).cnt ha
    have hlead := (step_keeps s a (actor a)).lead ha
    generalize p1Key s a = bn at hobs hp1 hlead
    have hprops := propOf_notProm (actor a) (step s a).2
    have hcnt : ∀ i k, promCnt ((obsStep s a).reverse ++ hist) i k =
        promCnt hist i k + (if i = actor a ∧ k = bn then 1 else 0) := by
      intro i k
      rw [hobs, promCnt_append, List.countP_cons, countP_notProm hprops]
      by_cases hi : i = actor a <;> by_cases hk : k = bn <;> simp [isProm, hi, hk] <;> omega
    constructor
    · rw [hobs]
      simp only [leaderQuorum, checkAll, Bool.and_eq_true]
      refine ⟨?_, checkAll_of_forall _ _ _ fun o ho hh => leaderOk_of_notProm (hprops o ho) _ hh⟩
      simp only [leaderOk, Bool.or_eq_true, Bool.not_eq_true', decide_eq_true_eq]
      cases h0 : (getNode s (actor a)).isLeader with
      | true => exact Or.inl (Or.inl rfl)
      | false =>
        cases h1 : (getNode (step s a).1 (actor a)).isLeader with
        | false => exact Or.inl (Or.inr rfl)
        | true =>
          have := hlead h0 h1
          have := h (actor a) bn
          exact Or.inr (by omega)
    · intro i k
      rw [hcnt]
      refine forall_getNode_step (P := fun i nd => p1Of nd k ≤ promCnt hist i k + if i = actor a ∧ k = bn then 1 else 0)
        a (fun i => Nat.le_trans (h i k) (Nat.le_add_right _ _)) ?_ i
      have := hp1 k
      have := h (actor a) k
      split <;> split at * <;> omega

theorem run_leaderQuorum (as : List Act) (s : St) (hist : List LogObs) (h : InvL s hist) :
    leaderQuorum s.q1 hist (obsRun s as) = true :=
  checkAll_obsRun (ok := leaderOk) step_q1 (A := fun _ => True) (fun s' a hist _ h => step_invL s' a hist h)
    as s hist (fun _ _ => trivial) h

end HappyModel.C12.MP
