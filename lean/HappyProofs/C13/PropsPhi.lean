import HappyProofs.C13.PhiPath
import HappyProofs.C13.PropsDetect
namespace HappyModel.C13

theorem init_detOf (c : Cfg) (det : PhiDet) (orders : List (List Nat)) (offs : List Nat) (a x : Nat)
    (ha : a < c.n) (hx : x < c.n) : detOf ((Sys.init c det orders offs).node a) x = det := by
  rw [init_node_eq c det orders offs a ha]
  unfold detOf Node.member Node.init
  simp only []
  rw [lget_replicate _ _ _ _ hx]

/-- every cluster size, probe order, shuffle, delegate choice, both code
    variants (`c.fix` is not used): the run is `pre ++ crash x cx :: post`, time-monotone, timely (`δ`),
    and no probe tick of the live observer `a` is skipped (`tickDueRun`, implied by `punctualRun`).  If
    at the crash `a`'s detector for `x` has recorded a heartbeat (`last = some l0`) and every interval in
    its (non-empty) window, as well as `cx + δ - l0`, is at most `m`, then once an action later than
    `cx + δ + m + Y·max(m, min_std) + interval` has happened `a` does not report `x` ALIVE.  The
    detector is the model `QDet` with parameters `F`: no hypothesis "the detector is not available" —
    that is derived (`phi_reaches_level`) from `PhiHyp` (tail antitone, …), `MeanSdBound` (mean ≤ max,
    clamped deviation ≤ max(max, min_std)) and `threshold ≤ level at distance Y`. -/
theorem failure_detected_by_phi (c : Cfg) (δ : Nat) (F : PhiFns) (thr : PV) (q0 : QDet)
    (orders : List (List Nat)) (offs : List Nat) (pre post : List Act) (a x cx m minStd Y l0 : Nat)
    (ha : a < c.n) (hx : x < c.n) (hxa : x ≠ a)
    (hH : ∀ ivs, PhiHyp F ivs) (hMS : MeanSdBound F m minStd) (hthr : PV.le thr (levelAt F Y))
    (hq0 : 1 ≤ q0.maxN) (hoff : lget 0 offs a ≤ phiBy δ cx m minStd Y)
    (hm : monoRun c (Sys.init c (⟨q0, thr, F⟩ : PhiDet) orders offs) (pre ++ .crash x cx :: post) = true)
    (ht : timelyRun c δ (Sys.init c (⟨q0, thr, F⟩ : PhiDet) orders offs) (pre ++ .crash x cx :: post) = true)
    (hd : tickDueRun c a (Sys.init c (⟨q0, thr, F⟩ : PhiDet) orders offs) (pre ++ .crash x cx :: post) = true)
    (hlast : (detOf ((run c (Sys.init c (⟨q0, thr, F⟩ : PhiDet) orders offs)
      (pre ++ [.crash x cx])).node a) x).q.last = some l0)
    (hl0 : l0 ≤ cx)
    (hne : 1 ≤ (detOf ((run c (Sys.init c (⟨q0, thr, F⟩ : PhiDet) orders offs)
      (pre ++ [.crash x cx])).node a) x).q.ivs.length)
    (hle : ∀ v ∈ (detOf ((run c (Sys.init c (⟨q0, thr, F⟩ : PhiDet) orders offs)
      (pre ++ [.crash x cx])).node a) x).q.ivs, v ≤ m)
    (hgap : cx + δ ≤ l0 + m)
    (hlive : (run c (Sys.init c (⟨q0, thr, F⟩ : PhiDet) orders offs)
      (pre ++ .crash x cx :: post)).isCrashed a = false)
    (hlate : phiBy δ cx m minStd Y + c.interval <
      (run c (Sys.init c (⟨q0, thr, F⟩ : PhiDet) orders offs) (pre ++ .crash x cx :: post)).now) :
    (run c (Sys.init c (⟨q0, thr, F⟩ : PhiDet) orders offs) (pre ++ .crash x cx :: post)).view a x
      ≠ .alive := by
  have S2 := statInv_run c F thr a x _ (pre ++ [.crash x cx])
    (show StatInv F thr (detOf ((Sys.init c (⟨q0, thr, F⟩ : PhiDet) orders offs).node a) x) from
      init_detOf c _ orders offs a x ha hx ▸ ⟨rfl, rfl, hq0⟩)
  obtain ⟨h1, hc, h2⟩ := along_append.mp (phiSched_along hm ht hd)
  rw [run_append] at hlast hne hle S2 hlive hlate ⊢
  have G1 := linv_run (linv_init c (⟨q0, thr, F⟩ : PhiDet) orders offs a _ ha hoff) (h1.imp fun _ _ h => h.1)
  exact (phiPost_run hx hxa hH hMS hthr hgap (phiPost_crash G1 hc.1 ⟨S2.1, S2.2.1, S2.2.2,
    ⟨l0, hlast, Nat.le_refl _, Nat.le_trans hl0 (Nat.le_add_right _ _), hl0⟩, hne, hle⟩) h2).late hlive hlate

/-- a toy parameter set: the tail falls linearly to 0 at distance 2, the mean is the window maximum -/
def exPhiF : PhiFns :=
  { tail := fun y => if y ≤ 0 then 100 else 100 - 50 * y, nlog := fun p => 100 - p,
    mean := fun l => ((l.foldl max 0 : Nat) : Int), sd := fun _ => 1, scale := 1 }

theorem foldl_max_le (l : List Nat) (acc m : Nat) (ha : acc ≤ m) (h : ∀ v ∈ l, v ≤ m) :
    l.foldl max acc ≤ m := by
  induction l generalizing acc with
  | nil => exact ha
  | cons v vs ih =>
    simp only [List.foldl_cons]
    exact ih _ (Nat.max_le.mpr ⟨ha, h v (by simp)⟩) (fun w hw => h w (by simp [hw]))

example : (∀ ivs, PhiHyp exPhiF ivs) ∧ MeanSdBound exPhiF 10 1 ∧ PV.le (.fin 50) (levelAt exPhiF 2) := by
  refine ⟨fun ivs => ⟨by simp [exPhiF], ?_, ?_, ?_⟩, ⟨fun ivs _ h => ?_, fun ivs _ _ => by simp [exPhiF]⟩, by decide⟩
  · intro y1 y2 h; simp only [exPhiF]; split <;> split <;> omega
  · intro p1 p2 _ h; simp only [exPhiF]; omega
  · intro y; simp only [exPhiF]; split <;> omega
  · simp only [exPhiF]
    exact Int.ofNat_le.mpr (foldl_max_le ivs 0 10 (by omega) h)

def exCP : Cfg := ⟨2, 10, 5, 50, 0, false⟩
def exSP : Sys PhiDet := Sys.init exCP ⟨{ ivs := [10] }, .fin 50, exPhiF⟩ [[1], [0]] [0, 0]
/-- node 0 probes node 1 and records its ack as a heartbeat at 12; node 1 crashes at 13 -/
def exPreP : List Act := [.tick 0 10 [], .deliver 0 11, .deliver 1 12]
/-- the handler before /repo commit ff4df56 (`fix = false`): the un-acked probes of 20, 30, … change nothing; the probe tick at
    30 finds the detector not available -/
def exPostP : List Act :=
  [.tick 0 20 [1], .deliver 2 21, .timeout 0 1 25 [], .tick 0 30 [1], .deliver 3 31, .timeout 0 1 35 [],
   .tick 0 40 [1], .deliver 4 41, .timeout 0 1 45 [], .tick 0 50 [1], .deliver 5 51, .timeout 0 1 55 [],
   .tick 0 60 [1]]

/-- every hypothesis of `failure_detected_by_phi` about the run holds (`m = 10`, `min_std = 1`, `Y = 2`,
    `l0 = 12`, deadline `44 + 10`), the member was ALIVE up to the tick at 30 and is SUSPECT at the end -/
example :
    monoRun exCP exSP (exPreP ++ .crash 1 13 :: exPostP) = true ∧
    timelyRun exCP 1 exSP (exPreP ++ .crash 1 13 :: exPostP) = true ∧
    tickDueRun exCP 0 exSP (exPreP ++ .crash 1 13 :: exPostP) = true ∧
    (detOf ((run exCP exSP (exPreP ++ [.crash 1 13])).node 0) 1).q.last = some 12 ∧
    (detOf ((run exCP exSP (exPreP ++ [.crash 1 13])).node 0) 1).q.ivs = [10] ∧
    13 + 1 ≤ 12 + 10 ∧
    (run exCP exSP (exPreP ++ .crash 1 13 :: exPostP)).isCrashed 0 = false ∧
    phiBy 1 13 10 1 2 + exCP.interval < (run exCP exSP (exPreP ++ .crash 1 13 :: exPostP)).now ∧
    (run exCP exSP (exPreP ++ .crash 1 13 :: exPostP.take 3)).view 0 1 = .alive ∧
    (run exCP exSP (exPreP ++ .crash 1 13 :: exPostP.take 4)).view 0 1 = .suspect ∧
    (run exCP exSP (exPreP ++ .crash 1 13 :: exPostP)).view 0 1 = .suspect := by decide +kernel

end HappyModel.C13
