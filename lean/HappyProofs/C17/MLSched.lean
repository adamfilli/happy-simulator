import HappyProofs.C17.MLRun
import HappyProofs.C17.MLClock
/-!
A schedule with a non-decreasing clock in which every client write is stamped strictly after the timestamps of
all versions its leader has received in `Replicate` messages (positive network latency) writes coherent versions:
`CInv` and `Inv` are carried together along the run, the set of written versions growing with every write.
-/
namespace HappyModel.C17.ML

/-- `hb i` = a bound strictly above the timestamps of all versions delivered to leader `i` in
    `Replicate` messages so far (0 if none); this is how one action moves it -/
def hbStep (s : St) (hb : Nat → Nat) : Act → Nat → Nat
  | .dl mid =>
    (match s.msgs mid with
     | some m =>
       if m.kind = .repl ∧ m.delivered = false then upd hb m.dst (max (hb m.dst) (m.ver.ts + 1)) else hb
     | none => hb)
  | _ => hb

/-- schedule condition: clock readings never decrease, and a client write at leader `i` is stamped
    strictly after the timestamps of all versions delivered to `i` in `Replicate` messages before it
    (what positive network latency gives: the write happens no earlier than those deliveries, each of
    which happened strictly after its version was stamped) -/
def schedOK : St → (Nat → Nat) → List Act → Bool
  | _, _, [] => true
  | s, hb, a :: as =>
    (match a with
     | .tick t => decide (s.now ≤ t)
     | .cw _ node _ _ => decide (node < s.n → hb node ≤ s.now)
     | _ => true) && schedOK (step s a) (hbStep s hb a) as

theorem inv_mono {P P' : Nat → Version → Prop} {s : St} (h : Inv P s) (hPP : ∀ k v, P k v → P' k v) : Inv P' s :=
  ⟨h.freshP, h.freshM, fun pid p hp hk => ⟨hPP _ _ (h.wr pid p hp hk).1, (h.wr pid p hp hk).2⟩,
    h.versW, h.store, h.msgW, h.procW, h.cov⟩

theorem coherent_of_map (n : Nat) (C : List (Nat × Version)) (h : Coherent n (fun v => v ∈ C.map (·.2))) (k : Nat) :
    Coherent n (fun v => (k, v) ∈ C) :=
  ⟨fun a b ha hb hd => h.causal a b (List.mem_map.mpr ⟨(k, a), ha, rfl⟩) (List.mem_map.mpr ⟨(k, b), hb, rfl⟩) hd,
   fun a b ha hb e1 e2 => h.sameWriter a b (List.mem_map.mpr ⟨(k, a), ha, rfl⟩) (List.mem_map.mpr ⟨(k, b), hb, rfl⟩) e1 e2⟩

theorem step_cinv (s : St) (a : Act) (C : List (Nat × Version)) (hb : Nat → Nat)
    (hI : Inv (fun k v => (k, v) ∈ C) s)
    (hC : CInv s.n s.now s.clock hb (C.map (·.2))) (hs : schedOK s hb [a] = true) :
    CInv (step s a).n (step s a).now (step s a).clock (hbStep s hb a) ((C ++ newOf s a).map (·.2)) := by
  -- steps that are neither a clock reading, a client write nor the delivery of a `Replicate`
  have same : ∀ {s' : St}, s'.n = s.n → s'.now = s.now ∧ s'.clock = s.clock → newOf s a = [] → hbStep s hb a = hb →
      CInv s'.n s'.now s'.clock (hbStep s hb a) ((C ++ newOf s a).map (·.2)) := by
    intro s' e1 e2 hn hh
    rw [e1, e2.1, e2.2, hn, hh, List.append_nil]; exact hC
  have hbAe : ∀ mid m, s.msgs mid = some m → m.kind ≠ .repl → hbStep s hb (.dl mid) = hb :=
    fun mid m h0 hk => by simp only [hbStep, h0, hk, false_and, if_false]
  have sh := step_shape s a
  have hn := sh.n
  cases sh with
  | fail e hv he =>
    rw [he]
    refine same rfl ⟨rfl, rfl⟩ ?_ ?_
    · cases a with
      | cw op node k v => exact if_neg hv
      | _ => rfl
    · cases a with
      | dl mid =>
        cases h0 : s.msgs mid with
        | none => simp only [hbStep, h0]
        | some m =>
          have : ¬(m.kind = .repl ∧ m.delivered = false) := fun c => hv ⟨m, h0, c.2⟩
          simp only [hbStep, h0, if_neg this]
      | _ => rfl
  | tick t ha he =>
    subst ha
    simp only [schedOK, Bool.and_true, decide_eq_true_eq] at hs
    rw [he]
    simp only [newOf, List.append_nil, hbStep]
    exact cinv_tick hC t hs
  | cw op node k v ha hn' he =>
    subst ha
    simp only [schedOK, Bool.and_true, decide_eq_true_eq] at hs
    rw [he]
    simp only [newOf, hn', if_true, List.map_append, List.map_cons, List.map_nil, hbStep]
    exact cinv_cw hC node hn' (hs hn') v
  | cr op node k ha hn' he => subst ha; exact same hn (by rw [he]; exact ⟨rfl, rfl⟩) rfl rfl
  | ae node peer ha hn' hp hl he => subst ha; exact same hn (by rw [he]; exact ⟨rfl, rfl⟩) rfl rfl
  | dlRepl mid m fin ha h0 hd hk hfin he =>
    subst ha
    have hmem : m.ver ∈ C.map (·.2) :=
      List.mem_map.mpr ⟨(m.key, m.ver), hI.written_P ((hI.msgW mid m h0).1 hk), rfl⟩
    have hh : hbStep s hb (.dl mid) = upd hb m.dst (max (hb m.dst) (m.ver.ts + 1)) := by
      simp only [hbStep, h0, hk, hd, and_self, if_true]
    rw [he, hh]
    simp only [newOf, List.append_nil]
    exact cinv_recv hC m.ver hmem m.dst
  | dlAe mid m p p' ha h0 hd hk hpk hpk2 hnode hsrc hop hfin hsent hitems sh =>
    subst ha
    exact same hn sh.clocks rfl (hbAe mid m h0 (fun c => by rcases hk with e | e <;> rw [c] at e <;> cases e))
  | write1 pid p0 ha h0 hf hk hs he =>
    subst ha
    refine same hn ?_ rfl rfl
    rw [he]
    exact LN.foldl_send_ind (fun s' => s'.now = s.now ∧ s'.clock = s.clock) _ (fun _ _ e => e) _ _
      (s.res.inst_clocks s p0.node p0.key p0.ver)
  | write2 pid p0 ha h0 hf hk hs he => subst ha; exact same hn (by rw [he]; exact ⟨rfl, rfl⟩) rfl rfl
  | repl pid p0 ha h0 hf hk he =>
    subst ha; exact same hn (by rw [he]; exact s.res.inst_clocks s p0.node p0.key p0.ver) rfl rfl
  | quiet pid p0 rep ha h0 hf hk he => subst ha; exact same hn (by rw [he]; exact ⟨rfl, rfl⟩) rfl rfl
  | sent pid p0 ha h0 hf hk hs he => subst ha; exact same hn (by rw [he]; exact ⟨rfl, rfl⟩) rfl rfl
  | wait pid p0 p' k v rest ha h0 hf hk hs hit sh =>
    subst ha
    obtain ⟨c1, c2⟩ := sh.clocks
    obtain ⟨i1, i2⟩ := s.res.inst_clocks s p0.node k v
    exact same hn ⟨c1.trans i1, c2.trans i2⟩ rfl rfl

theorem schedOK_cons (s : St) (hb : Nat → Nat) (a : Act) (as : List Act) (h : schedOK s hb (a :: as) = true) :
    schedOK s hb [a] = true ∧ schedOK (step s a) (hbStep s hb a) as = true := by
  simp only [schedOK, Bool.and_eq_true, Bool.and_true] at h ⊢
  exact h

theorem run_sched : ∀ (acts : List Act) (s : St) (C : List (Nat × Version)) (hb : Nat → Nat),
    Inv (fun k v => (k, v) ∈ C) s → CInv s.n s.now s.clock hb (C.map (·.2)) → schedOK s hb acts = true →
    Inv (fun k v => (k, v) ∈ C ++ created s acts) (run s acts) ∧
    ∃ hb', CInv (run s acts).n (run s acts).now (run s acts).clock hb' ((C ++ created s acts).map (·.2))
  | [], s, C, hb, hI, hC, _ => by
    refine ⟨by simpa [created, run] using hI, hb, by simpa [created, run] using hC⟩
  | a :: as, s, C, hb, hI, hC, hs => by
    obtain ⟨hs1, hs2⟩ := schedOK_cons s hb a as hs
    have hC1 := step_cinv s a C hb hI hC hs1
    have hn := step_n s a
    have hcoh : ∀ k, Coherent s.n (fun v => (k, v) ∈ C ++ newOf s a) := by
      intro k
      have := cinv_coherent hC1
      rw [hn] at this
      exact coherent_of_map s.n _ this k
    have hI1 : Inv (fun k v => (k, v) ∈ C ++ newOf s a) (step s a) := by
      refine step_inv s a hcoh (inv_mono hI (fun k v h => List.mem_append_left _ h)) ?_
      intro op node k v ha hlt
      subst ha
      simp [newOf, hlt]
    have := run_sched as (step s a) (C ++ newOf s a) _ hI1 hC1 hs2
    rw [List.append_assoc] at this
    exact this

theorem coherent_of_sched (n nk : Nat) (acts : List Act) (hs : schedOK (init n nk) (fun _ => 0) acts = true)
    (k : Nat) : Coherent n (fun v => (k, v) ∈ created (init n nk) acts) := by
  obtain ⟨_, h⟩ := (run_sched acts (init n nk) [] _ (init_inv n nk) (cinv_init n 0) hs).2
  rw [run_n, List.nil_append] at h
  exact coherent_of_map n _ (cinv_coherent h) k

end HappyModel.C17.ML
