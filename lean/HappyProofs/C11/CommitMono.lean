import HappyProofs.C11.Ghost
/-! The commit index of a node is bounded by its log and never moves backwards — except through `Log.truncate_from` when an
    AppendEntries conflicts with an entry at or below the commit index.  Leader Completeness rules that out for an AppendEntries
    that is accepted (`loop_facts` in `Accept`, whence `commit_monotone` in `Safety`); a stale or refused one may well conflict,
    so the hypothesis `¬ conflictBelowCommit` of `commit_monotone_partial` is not an invariant: the full theorem takes from the
    partial one only its first half (`CLen` is kept, in `gstep_case`), not the monotonicity half. -/
namespace HappyModel.C11
open Spec

theorem advance_commit (x : Node) (new : Nat) (hlen : x.commit ≤ x.log.length) :
    (advanceCommit { node := x } new).node.commit ≤ (advanceCommit { node := x } new).node.log.length
    ∧ x.commit ≤ (advanceCommit { node := x } new).node.commit := by
  rw [advanceCommit_commit, (advanceCommit_kept ..).log]
  show _ ≤ x.log.length ∧ _
  split <;> omega

theorem truncate_clen (v : Variant) (x : Node) (idx : Nat) (hlen : x.commit ≤ x.log.length) :
    (truncateFrom v x idx).commit ≤ (truncateFrom v x idx).log.length := by
  rcases truncateFrom_cases v x idx with ⟨_, h⟩ | ⟨_, _, h⟩ <;> rw [h]
  · exact hlen
  · simp only [List.length_take]; split <;> omega

theorem appendLoop_clen (v : Variant) (es : List Entry) (x : Node) (idx : Nat) (h : x.commit ≤ x.log.length) :
    (appendLoop v x idx es).commit ≤ (appendLoop v x idx es).log.length :=
  appendLoop_keeps (P := fun y => y.commit ≤ y.log.length) v (truncate_clen v)
    (fun y e h => by simp only [List.length_append, List.length_singleton]; omega) es x idx h

/-- no entry of `es` (placed from index `idx` on) conflicts with an entry of `x` at or below its commit index -/
def NoConflict (x : Node) (idx : Nat) (es : List Entry) : Prop :=
  ∀ j, ∀ hj : j < es.length, idx + j ≤ x.commit → ∀ ex, getE x.log (idx + j) = some ex → ex.term = es[j].term

theorem appendLoop_commit (v : Variant) (es : List Entry) : ∀ (x : Node) (idx : Nat), 1 ≤ idx → NoConflict x idx es →
    (appendLoop v x idx es).commit = x.commit := by
  induction es with
  | nil => intro x idx _ _; rfl
  | cons e es ih =>
    intro x idx hidx hnc
    simp only [appendLoop]
    split
    · rename_i ex hex
      split
      · rename_i hne
        have hgt : x.commit < idx := by
          apply Classical.byContradiction; intro hle
          exact hne (hnc 0 (by simp) (by omega) ex (by simpa using hex))
        obtain ⟨k, hk⟩ : ∃ k, idx = k + 1 := ⟨idx - 1, by omega⟩
        have hkl : k < x.log.length := by rw [hk] at hex; exact (getE_some hex).1
        have htc : (truncateFrom v x idx).commit = x.commit := by
          rcases truncateFrom_cases v x idx with ⟨_, h⟩ | ⟨_, _, h⟩ <;> rw [h]
          exact if_neg (by omega)
        rw [ih _ (idx + 1) (by omega)]
        · exact htc
        · intro j hj hle; exfalso
          have : ({ truncateFrom v x idx with log := (truncateFrom v x idx).log ++ [e] } : Node).commit = x.commit := htc
          rw [this] at hle; omega
      · apply ih x (idx + 1) (by omega)
        intro j hj hle ex' hex'
        have := hnc (j + 1) (by simp; omega) (by omega) ex' (by rw [show idx + (j + 1) = idx + 1 + j by omega]; exact hex')
        simpa using this
    · rename_i hnone
      obtain ⟨k, hk⟩ : ∃ k, idx = k + 1 := ⟨idx - 1, by omega⟩
      have hkl : x.log.length ≤ k := by rw [hk] at hnone; exact getE_none hnone
      rw [ih _ (idx + 1) (by omega)]
      intro j hj hle ex' hex'
      exfalso
      have hl : (x.log ++ [e]).length ≤ idx + 1 + j - 1 := by simp; omega
      have : getE (x.log ++ [e]) (idx + 1 + j) = none := by
        rw [show idx + 1 + j = (idx + j) + 1 by omega, getE_succ]
        apply List.getElem?_eq_none; simp; omega
      rw [this] at hex'; cases hex'

/-- the delivered message is an AppendEntries that conflicts with a committed entry of its destination -/
def conflictBelowCommit (s : St) : Act → Prop
  | .deliver m =>
    match findMsg s m with
    | some e =>
      match e.body with
      | .ae _ _ pi _ es _ => ¬ NoConflict (s.nodes e.dst) (pi + 1) es
      | _ => False
    | none => False
  | _ => False

/-- clause `n_cl` of `HInv` and field `cl` of `Ctx` are this predicate -/
def CLen (s : St) : Prop := ∀ j, (s.nodes j).commit ≤ (s.nodes j).log.length

theorem Shape.commit {v : Variant} {n : Nat} {x : Node} {me : Nat} {inp : Inp} {r : HR} (sh : Shape v n x me inp r)
    (hlen : x.commit ≤ x.log.length) :
    r.node.commit ≤ r.node.log.length
    ∧ ((∀ t l pi pt es lc, inp = .msg (.ae t l pi pt es lc) → NoConflict x (pi + 1) es) → x.commit ≤ r.node.commit) := by
  cases sh with
  | quiet q =>
    obtain ⟨hl, hc, _, _⟩ := dv_eq q.hd
    exact ⟨by rw [hl, hc]; exact hlen, fun _ => Nat.le_of_eq hc.symm⟩
  | adv y N hy hn _ _ =>
    rw [hn]
    rcases hy with ⟨t, l, pi, pt, es, lc, hin, rfl⟩ | ⟨t, f, m, _, _, rfl⟩
    · obtain ⟨a1, a2⟩ := advance_commit _ N (appendLoop_clen v es (stepDown v x t) (pi + 1) hlen)
      refine ⟨a1, fun hnc => ?_⟩
      rw [appendLoop_commit v es (stepDown v x t) (pi + 1) (Nat.le_add_left ..) (hnc t l pi pt es lc hin)] at a2
      exact a2
    · obtain ⟨a1, a2⟩ := advance_commit (ackNode x f m) N hlen
      exact ⟨a1, fun _ => a2⟩
  | append f c _ _ hr =>
    subst hr
    exact ⟨by show x.commit ≤ (x.log ++ _).length; rw [List.length_append]; exact Nat.le_add_right_of_le hlen,
      fun _ => Nat.le_refl _⟩

/-- COMMIT MONOTONE (partial).  Every step keeps `commit ≤ len(log)` at every node, and no step
    lowers any node's commit index unless it delivers an AppendEntries whose entries conflict with an
    entry at or below the destination's commit index. -/
theorem commit_monotone_partial (v : Variant) (s : St) (a : Act) (hlen : CLen s) :
    CLen (step v s a).1 ∧ (¬ conflictBelowCommit s a → ∀ j, (s.nodes j).commit ≤ ((step v s a).1.nodes j).commit) := by
  rcases step_cases v s a with h | ⟨i, src, inp, r, h⟩
  · exact ⟨fun j => by rw [h.nodes]; exact hlen j, fun _ j => by rw [h.nodes]; exact Nat.le_refl _⟩
  · obtain ⟨h1, h2⟩ := h.does.shape.commit (hlen i)
    refine ⟨fun j => ?_, fun hc j => ?_⟩ <;> rw [h.node] <;> split
    · exact h1
    · exact hlen j
    · rename_i hj
      rw [hj]
      refine h2 fun t l pi pt es lc hb => Classical.byContradiction fun hcon => hc ?_
      cases inp with
      | msg b =>
        obtain ⟨m, e, d⟩ := h.msg b rfl
        simp only [d.act, conflictBelowCommit, d.find, d.body.trans (Inp.msg.inj hb), d.dst]
        exact hcon
      | _ => cases hb
    · exact Nat.le_refl _

/-- the hypothesis `CLen` of `commit_monotone_partial` holds in every reachable state -/
theorem clen_reachable (v : Variant) (n : Nat) (as : List Act) : CLen (run v (init n) as) :=
  run_keeps (fun s a h => (commit_monotone_partial v s a h).1) as (by intro j; simp [init, initNode])

end HappyModel.C11
