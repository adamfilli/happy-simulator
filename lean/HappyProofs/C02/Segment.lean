import HappyProofs.C02.Pending
/-!
# C02 — one generator segment (`ProcessContinuation.invoke`): pending-resumption accounting and frame

`runSegment` is `segStart` (log the resumption, consume the value sent), the actions, then `segTerm`; everything about a
segment is proved on these three pieces.  Accounting: the actions raise no count, the terminator gives the running
process, which had nothing pending, at most one pending resumption.  Frame: the actions and the hooks write no process
record except the value to be sent (`strip`).
-/
namespace HappyModel.C01

theorem Bnd_closed (B : Nat → Nat) : Closed (Bnd B) where
  resolve := fun e now f v h hr => Bnd_markResolved B e now f v h hr
  allUpd := fun e c res rem h hr => Bnd_setFut_same B e c _ h rfl rfl
  cbAdd := fun e g cb h hr => Bnd_setFut_same B e g _ h rfl rfl
  bind := by
    intro e f rs rm h
    refine ⟨WF_setFut e f _ h.1 (fun pid hx => nomatch hx), fun q => ?_⟩
    have h1 := cnt_setFut e f { results := rs, remaining := rm } q
    rw [ind_none] at h1
    have := h.2 q
    omega
  push := fun e sp hook tagged hd h => Bnd_plain h _ (push_specs ..) hd (fun _ hq => hq)
  release := fun e i sp h hm => Bnd_plain h sp rfl (h.1.held (i, sp) hm) (fun q hq => (List.mem_filter.mp hq).1)
  crashed := fun e l h => Bnd_congr h
  cancels := fun e l h => Bnd_congr h
  hookLate := fun e pid hook h => Bnd_congr h
  hookEarly := fun e id hook h => Bnd_congr h
  level := fun e l h => Bnd_congr h
  hops := fun e l h => Bnd_congr h
  obs := fun e o ho h => Bnd_congr h

theorem Bnd_addObs (B : Nat → Nat) (e : Eff) (o : Obs) (h : Bnd B e) : Bnd B (addObs e o) :=
  Bnd_congr h

theorem Bnd_setProc (B : Nat → Nat) (e : Eff) (i : Nat) (x : Proc) (h : Bnd B e) : Bnd B (e.setProc i x) :=
  Bnd_congr h rfl rfl (Nat.le_of_eq (List.length_set ..).symm)

/-- `on_complete.clear()`: the hooks added in flight to the event of `pid` are taken out of the table -/
def Eff.clearLate (e : Eff) (pid : Nat) : Eff :=
  { e with ps := { e.ps with late := e.ps.late.filter (fun q => q.1 != pid) } }

@[simp] theorem clearLate_specs (e : Eff) (i : Nat) : (e.clearLate i).specs = e.specs := rfl
@[simp] theorem clearLate_cancels (e : Eff) (i : Nat) : (e.clearLate i).cancels = e.cancels := rfl
@[simp] theorem clearLate_futs (e : Eff) (i : Nat) : (e.clearLate i).ps.futs = e.ps.futs := rfl
@[simp] theorem clearLate_procs (e : Eff) (i : Nat) : (e.clearLate i).ps.procs = e.ps.procs := rfl
@[simp] theorem clearLate_held (e : Eff) (i : Nat) : (e.clearLate i).ps.held = e.ps.held := rfl
@[simp] theorem clearLate_obs (e : Eff) (i : Nat) : (e.clearLate i).ps.obs = e.ps.obs := rfl

@[simp] theorem clearLate_nid (e : Eff) (i : Nat) : (e.clearLate i).ps.nid = e.ps.nid := rfl
@[simp] theorem clearLate_hookOf (e : Eff) (i : Nat) : (e.clearLate i).ps.hookOf = e.ps.hookOf := rfl
@[simp] theorem clearLate_lateAtt (e : Eff) (i : Nat) : (e.clearLate i).ps.lateAtt = e.ps.lateAtt := rfl
@[simp] theorem clearLate_late (e : Eff) (i : Nat) :
    (e.clearLate i).ps.late = e.ps.late.filter (fun q => q.1 != i) := rfl

/-- the handler / process that runs now reads the `hops` its event was delivered with -/
def Eff.setCur (e : Eff) (h : Nat) : Eff := { e with ps := { e.ps with cur := h } }

@[simp] theorem setCur_specs (e : Eff) (h : Nat) : (e.setCur h).specs = e.specs := rfl
@[simp] theorem setCur_cancels (e : Eff) (h : Nat) : (e.setCur h).cancels = e.cancels := rfl
@[simp] theorem setCur_futs (e : Eff) (h : Nat) : (e.setCur h).ps.futs = e.ps.futs := rfl
@[simp] theorem setCur_procs (e : Eff) (h : Nat) : (e.setCur h).ps.procs = e.ps.procs := rfl
@[simp] theorem setCur_held (e : Eff) (h : Nat) : (e.setCur h).ps.held = e.ps.held := rfl
@[simp] theorem setCur_obs (e : Eff) (h : Nat) : (e.setCur h).ps.obs = e.ps.obs := rfl
@[simp] theorem setCur_nid (e : Eff) (h : Nat) : (e.setCur h).ps.nid = e.ps.nid := rfl
@[simp] theorem setCur_hookOf (e : Eff) (h : Nat) : (e.setCur h).ps.hookOf = e.ps.hookOf := rfl
@[simp] theorem setCur_late (e : Eff) (h : Nat) : (e.setCur h).ps.late = e.ps.late := rfl
@[simp] theorem setCur_lateAtt (e : Eff) (h : Nat) : (e.setCur h).ps.lateAtt = e.ps.lateAtt := rfl

def segTerm (now : Nat) (e1 : Eff) (pid : Nat) (p1 : Proc) (rest : List Seg) : Term → Eff
  | .yieldD d => (e1.setProc pid { p1 with segs := rest }).push (contSpec p1 pid (now + d)) 0
  | .yieldF f =>
    let e2 := e1.setProc pid { p1 with segs := rest }
    let e3 := e2.setFut f { futGet e2.ps.futs f with parked := some pid }
    if (futGet e2.ps.futs f).resolved then resumeParked e3 now f else e3
  | .ret =>
    runHooks now (addObs ((e1.setProc pid { p1 with segs := [], done := true, hooks := [] }).clearLate pid) (.finish now pid))
      (p1.hooks ++ lateOf e1.ps pid)

def segStart (now : Nat) (e : Eff) (pid tag : Nat) (p : Proc) : Eff :=
  ((if p.started then addObs e (.resume now pid p.send tag) else e).setProc pid
    { p with started := true, send := .none }).setCur p.hops

def segBody (now : Nat) (e : Eff) (pid tag : Nat) (p : Proc) (seg : Seg) (rest : List Seg) : Eff :=
  segTerm now (seg.acts.foldl (runAct now) (segStart now e pid tag p)) pid { p with started := true, send := .none } rest seg.term

theorem runSegment_eq (now : Nat) (e : Eff) (pid tag : Nat) (p : Proc) (seg : Seg) (rest : List Seg)
    (hp : e.ps.procs[pid]? = some p) (hs : p.segs = seg :: rest) :
    runSegment now e pid tag = segBody now e pid tag p seg rest := by
  unfold runSegment
  rw [hp]
  -- with the constructors named both sides compute to the same term; rewriting `p.segs` inside the
  -- records instead makes `rfl` compare them field by field, which is slow
  cases p
  cases hs
  cases seg with
  | mk acts term => cases term <;> rfl

theorem runSegment_noproc (now : Nat) (e : Eff) (pid tag : Nat) (hp : e.ps.procs[pid]? = none) :
    runSegment now e pid tag = e := by
  simp [runSegment, hp]

theorem finished_never_runs (now : Nat) (e : Eff) (pid tag : Nat) (p : Proc)
    (hp : e.ps.procs[pid]? = some p) (hs : p.segs = []) : runSegment now e pid tag = e := by
  simp [runSegment, hp, hs]

theorem runSegment_cases (now : Nat) (e : Eff) (pid tag : Nat) :
    (runSegment now e pid tag = e ∧ ∀ p, e.ps.procs[pid]? = some p → p.segs = []) ∨
    ∃ p seg rest, e.ps.procs[pid]? = some p ∧ p.segs = seg :: rest ∧
      runSegment now e pid tag = segBody now e pid tag p seg rest := by
  cases hp : e.ps.procs[pid]? with
  | none => exact Or.inl ⟨runSegment_noproc now e pid tag hp, nofun⟩
  | some p =>
    cases hs : p.segs with
    | nil => exact Or.inl ⟨finished_never_runs now e pid tag p hp hs, fun p' hp' => Option.some.inj hp' ▸ hs⟩
    | cons seg rest => exact Or.inr ⟨p, seg, rest, rfl, hs, runSegment_eq now e pid tag p seg rest hp hs⟩

theorem segStart_procs_length (now : Nat) (e : Eff) (pid tag : Nat) (p : Proc) :
    (segStart now e pid tag p).ps.procs.length = e.ps.procs.length := by
  unfold segStart; split <;> exact List.length_set ..

theorem Bnd_segStart (B : Nat → Nat) (now : Nat) (e : Eff) (pid tag : Nat) (p : Proc) (h : Bnd B e) :
    Bnd B (segStart now e pid tag p) := by
  refine Bnd_congr h ?_ ?_ (Nat.le_of_eq (segStart_procs_length ..).symm) ?_ <;> unfold segStart <;> split <;> rfl

theorem segTerm_bnd (B : Nat → Nat) (now : Nat) (e1 : Eff) (pid : Nat) (p1 : Proc) (rest : List Seg)
    (t : Term) (h : Bnd B e1) (hpid : pid < e1.ps.procs.length) :
    WF (segTerm now e1 pid p1 rest t) ∧
    (∀ q, cnt (segTerm now e1 pid p1 rest t) q ≤ B q + ind (pid == q)) ∧
    (t = .ret → ∀ q, cnt (segTerm now e1 pid p1 rest t) q ≤ B q) := by
  have hset : ∀ x, Bnd B (e1.setProc pid x) ∧ pid < (e1.setProc pid x).ps.procs.length :=
    fun x => ⟨Bnd_setProc B e1 pid x h, by rw [setProc_procs, List.length_set]; exact hpid⟩
  cases t with
  | yieldD d =>
    have ⟨h2, hl⟩ := hset { p1 with segs := rest }
    refine ⟨⟨h2.1.park, ?_, h2.1.held⟩, fun q => ?_, fun hh => nomatch hh⟩
    · intro s hs
      rw [segTerm, push_specs, List.mem_append, List.mem_singleton] at hs
      rcases hs with hs | rfl
      · exact h2.1.specs s hs
      · exact hl
    · rw [segTerm, cnt_push]
      exact Nat.add_le_add (h2.2 q) (Nat.le_of_eq (ind_succ pid q))
  | yieldF f =>
    simp only [segTerm]
    have ⟨h2, hl⟩ := hset { p1 with segs := rest }
    generalize e1.setProc pid { p1 with segs := rest } = e2 at h2 hl ⊢
    generalize hfu : futGet e2.ps.futs f = fu
    have hc3 : ∀ q, cnt (e2.setFut f { fu with parked := some pid }) q + ind (fu.parked == some q)
        = cnt e2 q + ind (pid == q) := by
      intro q
      have := cnt_setFut e2 f { fu with parked := some pid } q
      rwa [hfu, ind_some] at this
    by_cases hres : fu.resolved = true
    case neg =>
      rw [if_neg hres]
      refine ⟨WF_setFut e2 f _ h2.1 ?_, fun q => ?_, fun hh => nomatch hh⟩
      · intro pid' hx
        cases hx
        exact ⟨by simpa using hres, hl⟩
      · have := hc3 q
        have := h2.2 q
        omega
    case pos =>
      rw [if_pos hres]
      -- a resolved future has nobody parked on it, so the park just written is the only one and `_resume` takes it
      have hnone : fu.parked = none := by
        cases hpk : fu.parked with
        | none => rfl
        | some x =>
          have := (h2.1.park f x (by rw [hfu]; exact hpk)).1
          rw [hfu, hres] at this; cases this
      have ⟨hw, hc⟩ := resumeParked_setFut e2 now f { fu with parked := some pid } h2.1 (fun _ hp => by cases hp; exact hl)
      refine ⟨hw, fun q => ?_, fun hh => nomatch hh⟩
      have := hc3 q
      rw [hnone, ind_none] at this
      have := h2.2 q
      rw [hc]
      omega
  | ret =>
    simp only [segTerm]
    have h3 := runHooks_closed (Bnd_closed B) now (p1.hooks ++ lateOf e1.ps pid) _
      (Bnd_congr (e' := addObs ((e1.setProc pid { p1 with segs := [], done := true, hooks := [] }).clearLate pid)
        (.finish now pid)) h rfl rfl (Nat.le_of_eq (List.length_set ..).symm))
    exact ⟨h3.1, fun q => Nat.le_trans (h3.2 q) (Nat.le_add_right _ _), fun _ => h3.2⟩

def strip (p : Proc) : Proc := { p with send := .none }

theorem resumeParked_strip (e : Eff) (now f : Nat) :
    (resumeParked e now f).ps.procs.map strip = e.ps.procs.map strip := by
  rcases resumeParked_cases e now f with h | ⟨pid, p, _, hp, h⟩
  · rw [h]
  · rw [h]; exact map_set_of_eq strip _ hp rfl

theorem resumeParked_obs (e : Eff) (now f : Nat) : (resumeParked e now f).ps.obs = e.ps.obs := by
  rcases resumeParked_cases e now f with h | ⟨pid, p, _, _, h⟩ <;> rw [h] <;> rfl

theorem resumeParked_defs (e : Eff) (now f : Nat) : (resumeParked e now f).ps.defs = e.ps.defs := by
  rcases resumeParked_cases e now f with h | ⟨pid, p, _, _, h⟩ <;> rw [h] <;> rfl

theorem closed_of_frame {P : Eff → Prop}
    (frame : ∀ e e' : Eff, e'.ps.defs = e.ps.defs → e'.ps.procs.map strip = e.ps.procs.map strip → e'.ps.obs = e.ps.obs →
      P e → P e')
    (obs : ∀ e o, (∀ t pid, o ≠ .finish t pid) → P e → P (addObs e o)) : Closed P where
  resolve := fun e now f v h _ =>
    frame e _ (resumeParked_defs _ now f) (resumeParked_strip _ now f) (resumeParked_obs _ now f) h
  allUpd := fun e _ _ _ h _ => frame e _ rfl rfl rfl h
  cbAdd := fun e _ _ h _ => frame e _ rfl rfl rfl h
  bind := fun e _ _ _ h => frame e _ rfl rfl rfl h
  push := fun e _ _ _ _ h => frame e _ rfl rfl rfl h
  release := fun e _ _ h _ => frame e _ rfl rfl rfl h
  crashed := fun e _ h => frame e _ rfl rfl rfl h
  cancels := fun e _ h => frame e _ rfl rfl rfl h
  hookLate := fun e _ _ h => frame e _ rfl rfl rfl h
  hookEarly := fun e _ _ h => frame e _ rfl rfl rfl h
  level := fun e _ h => frame e _ rfl rfl rfl h
  hops := fun e _ h => frame e _ rfl rfl rfl h
  obs := obs

def ProcsAre (L : List Proc) (e : Eff) : Prop := e.ps.procs.map strip = L

theorem ProcsAre_closed (L : List Proc) : Closed (ProcsAre L) :=
  closed_of_frame (fun _ _ _ hp _ h => hp.trans h) (fun _ _ _ h => h)

theorem ProcsAre.get {L : List Proc} {e : Eff} (h : ProcsAre L e) {i : Nat} {q : Proc} (hq : L[i]? = some q) :
    ∃ p, e.ps.procs[i]? = some p ∧ strip p = q :=
  Option.map_eq_some_iff.mp (by rw [← List.getElem?_map, h]; exact hq)

theorem ProcsAre_length {L : List Proc} {e : Eff} (h : ProcsAre L e) : e.ps.procs.length = L.length := by
  rw [← h, List.length_map]

theorem segStart_procsAre (now : Nat) (e : Eff) (pid tag : Nat) (p : Proc) :
    ProcsAre ((e.ps.procs.map strip).set pid (strip { p with started := true, send := .none }))
      (segStart now e pid tag p) := by
  unfold segStart ProcsAre
  split <;> simp [List.map_set]

/-- no action writes the process table except `_resume`, which stores the value to be sent -/
theorem acts_proc (now : Nat) (e : Eff) (pid tag : Nat) (p : Proc) (acts : List Act) (hp : e.ps.procs[pid]? = some p) :
    ∃ p', (acts.foldl (runAct now) (segStart now e pid tag p)).ps.procs[pid]? = some p' ∧
      strip p' = strip { p with started := true, send := .none } :=
  (acts_closed (ProcsAre_closed _) now acts _ (segStart_procsAre now e pid tag p)).get
    (List.getElem?_set_self (by rw [List.length_map]; exact getElem?_some_lt hp))

theorem segBody_bnd (B : Nat → Nat) (now : Nat) (e : Eff) (pid tag : Nat) (p : Proc) (seg : Seg)
    (rest : List Seg) (h : Bnd B e) (hp : e.ps.procs[pid]? = some p) :
    WF (segBody now e pid tag p seg rest) ∧
    (∀ q, cnt (segBody now e pid tag p seg rest) q ≤ B q + ind (pid == q)) ∧
    (seg.term = .ret → ∀ q, cnt (segBody now e pid tag p seg rest) q ≤ B q) := by
  have h1 := acts_closed (Bnd_closed B) now seg.acts _ (Bnd_segStart B now e pid tag p h)
  obtain ⟨p', hp', _⟩ := acts_proc now e pid tag p seg.acts hp
  exact segTerm_bnd B now _ pid _ rest seg.term h1 (getElem?_some_lt hp')

end HappyModel.C01
