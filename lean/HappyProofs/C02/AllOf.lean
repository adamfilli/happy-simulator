import HappyProofs.C02.Combinators
/-!
# C02 — `all_of` over plain futures (one level)

`AllShape e f gs` describes the future table while `f = all_of(gs)` is unresolved: `remaining` counts the unresolved
inputs, a settled input has its value in its slot.
-/
namespace HappyModel.C01

structure AllShape (e : Eff) (f : Nat) (gs : List Nat) : Prop where
  nodup : gs.Nodup
  notin : f ∉ gs
  unres : (futGet e.ps.futs f).resolved = false
  nocb : (futGet e.ps.futs f).cbs = []
  len : (futGet e.ps.futs f).results.length = gs.length
  rem : (futGet e.ps.futs f).remaining = gs.countP (fun g => !(futGet e.ps.futs g).resolved)
  /-- a settled input has delivered its value into its slot; an unsettled one holds its callback -/
  inp : ∀ i (h : i < gs.length),
    ((futGet e.ps.futs gs[i]).resolved = true →
        (futGet e.ps.futs f).results[i]? = some (futGet e.ps.futs gs[i]).value) ∧
    ((futGet e.ps.futs gs[i]).resolved = false → (futGet e.ps.futs gs[i]).cbs = [.allCb f i])

theorem countP_flip_one (l : List Nat) (a : Nat) (P Q : Nat → Bool) (hnd : l.Nodup) (ha : a ∈ l)
    (hPa : P a = true) (hQa : Q a = false) (hother : ∀ x, x ≠ a → Q x = P x) :
    l.countP Q + 1 = l.countP P := by
  rw [(List.perm_cons_erase ha).countP_eq Q, (List.perm_cons_erase ha).countP_eq P, List.countP_cons, List.countP_cons,
    hPa, hQa, List.countP_congr (fun x hx => by rw [hother x (fun h => (hnd.mem_erase_iff.mp (h ▸ hx)).1 rfl)])]
  rfl

theorem slots_eq_map {rs : List Val} {gs : List Nat} {V : Nat → Val} (hlen : rs.length = gs.length)
    (h : ∀ j (hj : j < gs.length), rs[j]? = some (V gs[j])) : rs = gs.map V := by
  apply List.ext_getElem?
  intro j
  by_cases hj : j < gs.length
  · rw [h j hj, List.getElem?_map, List.getElem?_eq_getElem hj]; rfl
  · rw [List.getElem?_eq_none (by omega), List.getElem?_eq_none (by simp; omega)]

theorem allof_construct (now : Nat) (e : Eff) (f : Nat) (gs : List Nat) (hnd : gs.Nodup) (hf : f ∉ gs)
    (hgs : ∀ g ∈ gs, (futGet e.ps.futs g).resolved = false ∧ (futGet e.ps.futs g).cbs = []) :
    AllShape (runAct now e (.allOf f gs)) f gs := by
  obtain ⟨hff, hin⟩ := composite_built (Cb.allCb f) now e f gs
    { results := List.replicate gs.length .none, remaining := gs.length } hnd hf hgs
  rw [show runAct now e (.allOf f gs) = (enum gs).foldl (fun acc p => addCb acc now p.2 (Cb.allCb f p.1))
    (e.setFut f { results := List.replicate gs.length .none, remaining := gs.length }) from rfl]
  refine ⟨hnd, hf, congrArg Fut.resolved hff, congrArg Fut.cbs hff, ?_, ?_, ?_⟩
  · exact (congrArg (·.results.length) hff).trans List.length_replicate
  · refine (congrArg Fut.remaining hff).trans (Eq.symm (List.countP_eq_length.mpr ?_))
    intro g hg
    obtain ⟨i, hi, rfl⟩ := List.getElem_of_mem hg
    rw [(hin i hi).1]; rfl
  · intro i hi
    exact ⟨fun h => Bool.noConfusion ((hin i hi).1.symm.trans h), fun _ => (hin i hi).2⟩

/-- the state after input `i` of `f = all_of(gs)` settled with `v`, before `f` itself is looked at -/
def allAcc (e : Eff) (now f g i : Nat) (v : Val) : Eff :=
  (markResolved e now g v).setFut f
    { futGet e.ps.futs f with results := (futGet e.ps.futs f).results.set i v,
                              remaining := (futGet e.ps.futs f).remaining - 1 }

theorem allof_step_eq (fuel : Nat) (e : Eff) (now f : Nat) (gs : List Nat) (i : Nat) (v : Val)
    (sh : AllShape e f gs) (hi : i < gs.length) (hun : (futGet e.ps.futs gs[i]).resolved = false) :
    resolveFut (fuel + 2) e now gs[i] v =
      if (futGet e.ps.futs f).remaining - 1 = 0
      then markResolved (allAcc e now f gs[i] i v) now f (.list ((futGet e.ps.futs f).results.set i v))
      else allAcc e now f gs[i] i v := by
  have hcb := (sh.inp i hi).2 hun
  have hne : f ≠ gs[i] := fun heq => sh.notin (heq ▸ List.getElem_mem hi)
  rw [resolveFut_succ]
  simp only [hun, Bool.false_eq_true, if_false, hcb, List.foldl_cons, List.foldl_nil, cbStep, allStep]
  rw [markResolved_futGet_ne e now gs[i] f v hne]
  simp only [sh.unres, Bool.false_eq_true, if_false]
  split
  · rw [resolveFut_succ]
    simp only [setFut_futs, futGet_futSet_same, sh.nocb, Bool.false_eq_true, if_false,
      List.foldl_nil]
    simp [allAcc, sh.unres, sh.nocb]
  · simp [allAcc, sh.unres, sh.nocb]

theorem allAcc_f (e : Eff) (now f g i : Nat) (v : Val) :
    futGet (allAcc e now f g i v).ps.futs f =
      { futGet e.ps.futs f with results := (futGet e.ps.futs f).results.set i v,
                                remaining := (futGet e.ps.futs f).remaining - 1 } := by
  simp [allAcc, futGet_futSet]

theorem allAcc_g (e : Eff) (now f g i : Nat) (v : Val) (hne : f ≠ g) :
    (futGet (allAcc e now f g i v).ps.futs g).resolved = true ∧
    (futGet (allAcc e now f g i v).ps.futs g).value = v ∧
    (futGet (allAcc e now f g i v).ps.futs g).cbs = [] := by
  have h := markResolved_futGet_same e now g v
  simp only [allAcc, setFut_futs, futGet_futSet, Ne.symm hne, if_false]
  exact ⟨h.1, h.2.1, h.2.2.1⟩

theorem allAcc_other (e : Eff) (now f g i x : Nat) (v : Val) (h1 : x ≠ f) (h2 : x ≠ g) :
    futGet (allAcc e now f g i v).ps.futs x = futGet e.ps.futs x := by
  simp only [allAcc, setFut_futs, futGet_futSet, h1, if_false]
  exact markResolved_futGet_ne e now g x v h2

theorem allAcc_resolved_other (e : Eff) (now f g i x : Nat) (v : Val) (h2 : x ≠ g) :
    (futGet (allAcc e now f g i v).ps.futs x).resolved = (futGet e.ps.futs x).resolved := by
  by_cases h1 : x = f
  · subst h1; rw [allAcc_f]
  · rw [allAcc_other e now f g i x v h1 h2]

/-- **all_of resolves exactly when its last input settles, with every value in argument order.**
    While `f = all_of(gs)` is unresolved (`AllShape`; `remaining` = number of unresolved inputs),
    resolving an unresolved input `gs[i]` with `v`:
    * if other inputs are still missing (`remaining ≠ 1`): `f` stays unresolved and the shape holds
      again with exactly one input fewer missing;
    * if it was the last one (`remaining = 1`): `f` is resolved in the same call with the list of the
      inputs' values in argument order, and every input is resolved. -/
theorem allof_all (fuel : Nat) (e : Eff) (now f : Nat) (gs : List Nat) (i : Nat) (v : Val)
    (sh : AllShape e f gs) (hi : i < gs.length) (hun : (futGet e.ps.futs gs[i]).resolved = false) :
    ((futGet e.ps.futs f).remaining ≠ 1 →
      AllShape (resolveFut (fuel + 2) e now gs[i] v) f gs ∧
      (futGet (resolveFut (fuel + 2) e now gs[i] v).ps.futs f).remaining + 1 = (futGet e.ps.futs f).remaining) ∧
    ((futGet e.ps.futs f).remaining = 1 →
      (futGet (resolveFut (fuel + 2) e now gs[i] v).ps.futs f).resolved = true ∧
      (futGet (resolveFut (fuel + 2) e now gs[i] v).ps.futs f).value
        = .list (gs.map (fun g => (futGet (resolveFut (fuel + 2) e now gs[i] v).ps.futs g).value)) ∧
      ∀ g ∈ gs, (futGet (resolveFut (fuel + 2) e now gs[i] v).ps.futs g).resolved = true) := by
  have hne : f ≠ gs[i] := fun heq => sh.notin (heq ▸ List.getElem_mem hi)
  have hnef : ∀ j (hj : j < gs.length), gs[j] ≠ f := fun j hj heq => sh.notin (heq ▸ List.getElem_mem hj)
  have hinj : ∀ j (hj : j < gs.length), j ≠ i → gs[j] ≠ gs[i] :=
    fun j hj hji heq => hji ((List.getElem_inj sh.nodup).mp heq)
  rw [allof_step_eq fuel e now f gs i v sh hi hun]
  have hF := allAcc_f e now f gs[i] i v
  have hG := allAcc_g e now f gs[i] i v hne
  have hO := fun x => allAcc_other e now f gs[i] i x v
  have hR := fun x => allAcc_resolved_other e now f gs[i] i x v
  generalize allAcc e now f gs[i] i v = acc at hF hG hO hR ⊢
  have hcount : gs.countP (fun g => !(futGet acc.ps.futs g).resolved) + 1
      = gs.countP (fun g => !(futGet e.ps.futs g).resolved) :=
    countP_flip_one gs gs[i] _ _ sh.nodup (List.getElem_mem hi) (by simp [hun]) (by simp [hG.1])
      (fun x hx => by rw [hR x hx])
  have hrem := sh.rem
  have hslot : ∀ j (hj : j < gs.length), (futGet acc.ps.futs gs[j]).resolved = true →
      ((futGet e.ps.futs f).results.set i v)[j]? = some (futGet acc.ps.futs gs[j]).value := by
    intro j hj hres
    by_cases hji : j = i
    · subst hji
      rw [hG.2.1, List.getElem?_set_self (by rw [sh.len]; exact hj)]
    · rw [hO _ (hnef j hj) (hinj j hj hji)] at hres ⊢
      rw [List.getElem?_set_ne (Ne.symm hji)]
      exact (sh.inp j hj).1 hres
  constructor
  · intro hrem1
    rw [if_neg (by omega)]
    refine ⟨⟨sh.nodup, sh.notin, ?_, ?_, ?_, ?_, ?_⟩, ?_⟩ <;> rw [hF]
    · exact sh.unres
    · exact sh.nocb
    · simp [sh.len]
    · show _ - 1 = _; omega
    · intro j hj
      refine ⟨hslot j hj, fun hunj => ?_⟩
      by_cases hji : j = i
      · subst hji; rw [hG.1] at hunj; cases hunj
      · rw [hO _ (hnef j hj) (hinj j hj hji)] at hunj ⊢
        exact (sh.inp j hj).2 hunj
    · show _ - 1 + 1 = _; omega
  · intro hrem1
    rw [if_pos (by omega)]
    have hz : gs.countP (fun g => !(futGet acc.ps.futs g).resolved) = 0 := by omega
    have hall : ∀ g ∈ gs, (futGet acc.ps.futs g).resolved = true := fun g hg => by
      simpa using List.countP_eq_zero.mp hz g hg
    have hsame := markResolved_futGet_same acc now f (.list ((futGet e.ps.futs f).results.set i v))
    have hoth : ∀ g ∈ gs, futGet (markResolved acc now f (.list ((futGet e.ps.futs f).results.set i v))).ps.futs g
        = futGet acc.ps.futs g :=
      fun g hg => markResolved_futGet_ne _ now f g _ (fun heq => sh.notin (heq ▸ hg))
    refine ⟨hsame.1, ?_, fun g hg => by rw [hoth g hg]; exact hall g hg⟩
    rw [hsame.2.1]
    congr 1
    refine slots_eq_map (by simp [sh.len]) (fun j hj => ?_)
    rw [hslot j hj (hall _ (List.getElem_mem hj)), hoth _ (List.getElem_mem hj)]

end HappyModel.C01
