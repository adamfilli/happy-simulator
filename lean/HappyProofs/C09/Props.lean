import HappyProofs.C09.ExtraProps
import HappyProofs.C09.SyncProps
import HappyProofs.C09.PreemptCbProps
import HappyProofs.C09.ThreadPoolSpec
import HappyProofs.C09.WaitSilent
import HappyProofs.C09.BulkheadSpec
import HappyProofs.C09.ConcSpec
import HappyProofs.C09.PoolDistinct
import HappyProofs.C09.PoolProps
import HappyProofs.C09.MutexEngine
import HappyProofs.C09.SemEngine
import HappyProofs.C09.ResourceEngine
/-!
"For any interleaving of acquire and release calls, a Resource, Mutex, Semaphore, RWLock, barrier,
connection pool, bulkhead or concurrency limiter never has more outstanding holders or amount than
its limit (a writer excludes everyone, readers exclude writers), held plus available always equals
capacity, and a release never pushes it above capacity. Blocked acquirers are granted in arrival
order as soon as capacity allows, each at most once, and waiting consumes no simulated activity, so
the clock advances to the release and every waiter whose predecessor releases is eventually served."

The theorems quantify over an arbitrary capacity and an arbitrary list of operations (any interleaving of calls by any
number of processes, including malformed calls); where one needs more of the list (`FixedCap`, distinct call ids,
`classic` segments) its statement and docstring say so.  `pool_overshoots_max_current` is one concrete run,
`limiter_grant_respects_limit` one step from any state.

Imports, directly or through its imports, every module of the directory: this is the module the check builds and audits
(`hv/props/c09.py`).
-/
namespace HappyModel.C09
open Res

/-- the model's observable trace satisfies the executable Spec predicate that also judges the
    implementation's transcripts — for every capacity and every operation list -/
theorem resource_trace_satisfies_spec (cap : Int) (hcap : 0 < cap) (ops : List Op) :
    judge cap false {} (obsTrace (St.init cap) ops) = none :=
  judge_model (St.init cap) {} ops (init_inv cap hcap) ⟨rfl, rfl, rfl⟩

example : judge 2 false {} (obsTrace (St.init 2)
    [.acquire 0 2, .acquire 1 1, .acquire 2 1, .tryAcquire 3 1, .release 0, .release 0, .release 1, .acquire 4 5]) = none := by
  decide +kernel

/-- a trace with capacity changes: reduced below the held amount (over-committed, `available` = −2), nothing granted
    meanwhile, the queued caller woken by the release that brings the held amount back within the capacity; the later
    increase finds nobody waiting -/
example : judge 4 false {} (obsTrace (St.init 4)
    [.acquire 0 1, .acquire 1 1, .acquire 2 1, .acquire 3 1, .setCapacity 2, .acquire 4 1, .release 0, .tryAcquire 5 1,
     .release 1, .release 2, .setCapacity 0, .setCapacity 3, .acquire 6 3, .release 3, .release 4]) = none := by
  decide +kernel

/-- the judge rejects a `set_capacity` that forgets the deficit (available clamped at 0) -/
example : judge 4 false {} [⟨0, .acq 0 3, .granted, [], 1, 0, some 4⟩, ⟨0, .setcap 2, .resized, [], 0, 0, some 2⟩]
    = some "resource/conservation/held-plus-available" := by decide +kernel

/-- … and a grant handed out while the resource is over-committed -/
example : judge 4 false {} [⟨0, .acq 0 3, .granted, [], 1, 0, some 4⟩, ⟨0, .setcap 2, .resized, [], -1, 0, some 2⟩,
      ⟨0, .acq 1 1, .granted, [], -2, 0, some 2⟩]
    = some "resource/held/exceeds-capacity" := by decide +kernel

/-- the judge is not vacuous: it rejects an over-admitting trace -/
example : judge 1 false {} [⟨0, .acq 0 1, .granted, [], 0, 0, none⟩, ⟨0, .acq 1 1, .granted, [], 0, 0, none⟩]
    = some "resource/held/exceeds-capacity" := by decide +kernel

/-- outstanding amount never exceeds the capacity, as long as nobody changes the capacity -/
theorem held_le_limit (cap : Int) (hcap : 0 < cap) (ops : List Op) (hf : FixedCap ops) :
    amtSum (run (St.init cap) ops).held ≤ cap := by
  have inv := run_inv _ ops (init_inv cap hcap)
  have fx := run_fixed _ ops (init_inv cap hcap) hf ⟨by simp [St.init]; omega, by simp [St.init]⟩
  have := inv.conserve; have := fx.within
  rw [run_cap _ _ hf] at *; simp [St.init] at *; omega

/-- with `set_capacity` in the interleaving: capacity is never *handed out* beyond the limit in
    force — after any operation that granted something (an immediate grant, or waiters woken by a
    release or by a capacity increase) the outstanding amount is within the current capacity … -/
theorem no_grant_while_overcommitted (cap : Int) (hcap : 0 < cap) (ops : List Op) (o : Op)
    (hg : (obsOf o (step (run (St.init cap) ops) o).2 (step (run (St.init cap) ops) o).1).grants = true) :
    amtSum (step (run (St.init cap) ops) o).1.held ≤ (step (run (St.init cap) ops) o).1.cap := by
  have inv := run_inv _ ops (init_inv cap hcap)
  have := (step_inv _ o inv).conserve
  have := (step_leaf _ o).grant_within inv hg
  omega

/-- … and the only way to be over-committed is a `set_capacity` below the held amount: every other
    operation keeps `held ≤ capacity` -/
theorem overcommit_only_by_set_capacity (cap : Int) (hcap : 0 < cap) (ops : List Op) (o : Op)
    (ho : ∀ c, o ≠ .setCapacity c)
    (h : amtSum (run (St.init cap) ops).held ≤ (run (St.init cap) ops).cap) :
    amtSum (step (run (St.init cap) ops) o).1.held ≤ (step (run (St.init cap) ops) o).1.cap := by
  have inv := run_inv _ ops (init_inv cap hcap)
  have h1 := inv.conserve
  have h2 := (step_inv _ o inv).conserve
  have := step_within _ o inv ho (by omega)
  omega

/-- the resource really is over-committed after a reduction below the held amount, nothing is
    granted meanwhile, and it recovers as grants return -/
example : (run (St.init 4) [.acquire 0 1, .acquire 1 1, .acquire 2 1, .setCapacity 1, .acquire 3 1, .release 0]).avail = -1
    ∧ ids (run (St.init 4) [.acquire 0 1, .acquire 1 1, .acquire 2 1, .setCapacity 1, .acquire 3 1, .release 0]).waiters = [3]
    ∧ (run (St.init 4) [.acquire 0 1, .acquire 1 1, .acquire 2 1, .setCapacity 1, .acquire 3 1,
        .release 0, .release 1, .release 2]).held = [(3, 1)] := by decide +kernel

/-- held plus available equals the capacity in force after every operation list, whatever the
    capacity has been set to in between (`available` is negative while over-committed) -/
theorem held_plus_available_eq_capacity (cap : Int) (hcap : 0 < cap) (ops : List Op) :
    (run (St.init cap) ops).avail + amtSum (run (St.init cap) ops).held = (run (St.init cap) ops).cap :=
  (run_inv _ ops (init_inv cap hcap)).conserve

example : (run (St.init 3) [.acquire 0 2, .acquire 1 2, .release 0]).held = [(1, 2)]
    ∧ (run (St.init 3) [.acquire 0 2, .acquire 1 2, .release 0]).avail = 1 := by decide +kernel

example : (run (St.init 3) [.acquire 0 2, .setCapacity 1]).avail = -1
    ∧ (run (St.init 3) [.acquire 0 2, .setCapacity 1]).cap = 1 := by decide +kernel

/-- a release never pushes `available` above capacity — the `_do_release` guard never fires,
    also not for grants handed out before a capacity reduction — and `available ≤ capacity` always -/
theorem release_never_exceeds (cap : Int) (hcap : 0 < cap) (ops : List Op) (id : Nat) :
    (step (run (St.init cap) ops) (.release id)).2.res ≠ .err
    ∧ (run (St.init cap) ops).avail ≤ (run (St.init cap) ops).cap := by
  have inv := run_inv _ ops (init_inv cap hcap)
  have hc := inv.conserve
  have hnn := amtSum_nonneg _ inv.heldPos
  refine ⟨?_, by omega⟩
  have h := step_leaf (run (St.init cap) ops) (.release id)
  generalize step (run (St.init cap) ops) (.release id) = r at h ⊢
  cases h with
  | relRaised _ hg hex => exact absurd hex (inv.no_raise hg)
  | _ => exact nofun

example : (step (run (St.init 2) [.acquire 0 2]) (.release 0)).2.res = .released := by decide +kernel
example : (step (run (St.init 4) [.acquire 0 2, .acquire 1 2, .setCapacity 2, .release 0]) (.release 1)).2.res = .released := by
  decide +kernel

/-- blocked acquirers are woken in arrival order, nobody is skipped: the ids woken so far followed by
    the ids still waiting are exactly the ids queued so far, in queueing order -/
theorem grant_fifo (cap : Int) (ops : List Op) :
    queuedIds (trace (St.init cap) ops) = wokenIds (trace (St.init cap) ops) ++ ids (run (St.init cap) ops).waiters := by
  have := fifo_ledger (St.init cap) ops
  simpa [St.init, ids] using this

example : wokenIds (trace (St.init 2) [.acquire 0 2, .acquire 1 2, .acquire 2 1, .release 0, .release 1]) = [1, 2] := by
  decide +kernel

/-- each acquire call is granted at most once (call ids distinct, as they name distinct calls):
    the sequence of all grants — immediate ones and wake-ups — has no repetition, and a call that is
    still waiting has not been granted -/
theorem grant_at_most_once (cap : Int) (ops : List Op) (hd : (callIds ops).Nodup) :
    (grantIds (trace (St.init cap) ops)).Nodup
    ∧ ∀ i ∈ ids (run (St.init cap) ops).waiters, i ∉ grantIds (trace (St.init cap) ops) := by
  have hp := settle_ledger (St.init cap) ops
  have hn : (settledIds (trace (St.init cap) ops) ++ ids (run (St.init cap) ops).waiters).Nodup := by
    rw [hp.nodup_iff]; simpa [St.init, ids] using hd
  have hsub := grantIds_sublist_settled (St.init cap) ops
  rw [List.nodup_append] at hn
  refine ⟨hn.1.sublist hsub, ?_⟩
  intro i hi hg
  exact hn.2.2 i (hsub.subset hg) i hi rfl

example : (callIds [.acquire 0 2, .acquire 1 2, .tryAcquire 2 1, .release 0]).Nodup := by decide +kernel

/-- "as soon as capacity allows": after every operation list, if someone waits, the head of the
    line does not fit into the free capacity (so no grant is being withheld) -/
theorem head_not_grantable (cap : Int) (hcap : 0 < cap) (ops : List Op) (w : Nat × Int) (ws : List (Nat × Int))
    (h : (run (St.init cap) ops).waiters = w :: ws) :
    (run (St.init cap) ops).cap - amtSum (run (St.init cap) ops).held < w.2 := by
  have inv := run_inv _ ops (init_inv cap hcap)
  have := inv.headBlocked w ws h
  have := inv.conserve
  omega

example : (run (St.init 3) [.acquire 0 2, .acquire 1 2]).waiters = [(1, 2)] := by decide +kernel

/-- "every waiter whose predecessors release is served": whenever all grants have been returned,
    whoever is still at the head of the line asks for more than the whole (reduced) capacity; with a
    fixed capacity nobody is left waiting at all.  A release — and a capacity increase — wakes, in
    that very step, queued requests from the head for as long as the head fits (`head_not_grantable` holds right
    after it). -/
theorem served_if_released (cap : Int) (hcap : 0 < cap) (ops : List Op)
    (h : (run (St.init cap) ops).held = []) :
    (∀ w ws, (run (St.init cap) ops).waiters = w :: ws → (run (St.init cap) ops).cap < w.2)
    ∧ (FixedCap ops → (run (St.init cap) ops).waiters = []) := by
  have inv := run_inv _ ops (init_inv cap hcap)
  have h2 := inv.conserve
  rw [h] at h2; simp at h2
  refine ⟨fun w ws hq => by have := inv.headBlocked w ws hq; omega, fun hf => ?_⟩
  have fx := run_fixed _ ops (init_inv cap hcap) hf ⟨by simp [St.init]; omega, by simp [St.init]⟩
  cases hq : (run (St.init cap) ops).waiters with
  | nil => rfl
  | cons w ws =>
    have h1 := inv.headBlocked w ws hq
    have h3 := fx.waitFits w (by rw [hq]; exact List.mem_cons_self)
    omega

example : (run (St.init 2) [.acquire 0 2, .acquire 1 1, .release 0, .release 1]).held = [] := by decide +kernel
example : FixedCap [.acquire 0 2, .acquire 1 1, .release 0, .release 1] := by
  intro o ho c; simp at ho; rcases ho with h | h | h | h <;> subst h <;> simp

open Sync

/-- the Mutex model's observable trace satisfies the executable Spec predicate (at most one holder,
    FIFO hand-off, nobody waits while the lock is free, flags and counters consistent) for every
    operation list -/
theorem mutex_trace_satisfies_spec (ops : List Mutex.Op) :
    judgeMutex false {} (Mutex.obsTrace {} ops) = none :=
  Mutex.judge_model {} {} ops ⟨by simp⟩ ⟨rfl, rfl, rfl⟩

example : judgeMutex false {} (Mutex.obsTrace {}
    [.acquire 0, .acquire 1, .tryAcquire 2, .release, .release, .release]) = none := by decide +kernel

/-- the judge rejects a second holder -/
example : judgeMutex false {} [⟨0, .acq 0 1 0, .granted, [], 1, 0, 0⟩, ⟨0, .acq 1 1 0, .granted, [], 1, 0, 0⟩]
    = some "mutex/acquire/granted-while-held" := by decide +kernel

/-- nobody waits on a free mutex -/
theorem mutex_waiters_imply_locked (ops : List Mutex.Op) (h : (Mutex.run {} ops).waiters ≠ []) :
    (Mutex.run {} ops).locked = true :=
  (Mutex.run_inv {} ops ⟨by simp⟩).waitLocked h

example : (Mutex.run {} [.acquire 0, .acquire 1]).waiters ≠ [] := by decide +kernel

/-- a writer excludes everyone: whenever the write lock is held there is no active reader -/
theorem writer_excludes_all (maxR : Nat) (ops : List RW.Op)
    (h : (RW.run { maxR := maxR } ops).writer = true) : (RW.run { maxR := maxR } ops).readers = 0 :=
  (RW.run_inv _ ops (RW.init_inv maxR)).excl h

example : (RW.run { maxR := 0 } [.acquireRead 0, .acquireWrite 1, .acquireRead 2, .releaseRead]).writer = true := by decide +kernel

/-- readers exclude writers: while any reader is active the write lock is not held -/
theorem readers_exclude_writers (maxR : Nat) (ops : List RW.Op)
    (h : 0 < (RW.run { maxR := maxR } ops).readers) : (RW.run { maxR := maxR } ops).writer = false := by
  have := (RW.run_inv _ ops (RW.init_inv maxR)).excl
  cases hw : (RW.run { maxR := maxR } ops).writer with
  | false => rfl
  | true => have := this hw; omega

example : 0 < (RW.run { maxR := 2 } [.acquireRead 0, .acquireRead 1, .acquireWrite 2]).readers := by decide +kernel

/-- the number of active readers never exceeds `max_readers` -/
theorem rw_readers_le_max (maxR : Nat) (hm : maxR ≠ 0) (ops : List RW.Op) :
    (RW.run { maxR := maxR } ops).readers ≤ maxR := by
  have := (RW.run_inv _ ops (RW.init_inv maxR)).maxOk
  rw [RW.run_maxR] at this
  exact this hm

example : (RW.run { maxR := 1 } [.acquireRead 0, .acquireRead 1, .tryRead 2]).readers = 1 := by decide +kernel

/-- "as soon as capacity allows": a waiting writer at the head means the lock is held by a writer or
    by readers; a waiting reader at the head means a writer holds it or `max_readers` is reached -/
theorem rw_head_not_grantable (maxR : Nat) (ops : List RW.Op) (w : Nat × Bool) (ws : List (Nat × Bool))
    (h : (RW.run { maxR := maxR } ops).waiters = w :: ws) :
    (w.2 = true → ((RW.run { maxR := maxR } ops).writer = true ∨ 0 < (RW.run { maxR := maxR } ops).readers)) ∧
    (w.2 = false → ((RW.run { maxR := maxR } ops).writer = true ∨ RW.atMax (RW.run { maxR := maxR } ops) = true)) :=
  (RW.run_inv _ ops (RW.init_inv maxR)).head w ws h

example : (RW.run { maxR := 1 } [.acquireRead 0, .acquireRead 1]).waiters = [(1, false)] := by decide +kernel

/-- permits out never exceed the capacity and never go negative: `0 ≤ available ≤ capacity` -/
theorem sem_count_bounds (cap : Int) (hcap : 0 < cap) (ops : List Sem.Op) :
    0 ≤ (Sem.run (Sem.St.init cap) ops).count ∧ (Sem.run (Sem.St.init cap) ops).count ≤ cap := by
  have inv := Sem.run_inv _ ops (Sem.init_inv cap hcap)
  have := inv.hi
  rw [Sem.run_cap] at this
  exact ⟨inv.lo, this⟩

example : (Sem.run (Sem.St.init 2) [.acquire 0 2, .acquire 1 1, .release 1]).count = 0 := by decide +kernel

/-- "as soon as capacity allows": the head of the semaphore queue never fits the free permits -/
theorem sem_head_not_grantable (cap : Int) (hcap : 0 < cap) (ops : List Sem.Op) (w : Nat × Int) (ws : List (Nat × Int))
    (h : (Sem.run (Sem.St.init cap) ops).waiters = w :: ws) : (Sem.run (Sem.St.init cap) ops).count < w.2 :=
  (Sem.run_inv _ ops (Sem.init_inv cap hcap)).headBlocked w ws h

example : (Sem.run (Sem.St.init 2) [.acquire 0 2, .acquire 1 1]).waiters = [(1, 1)] := by decide +kernel

/-! ## ConnectionPool (repaired: the slot is reserved when the set-up starts) -/

/-- never more connections (existing or being set up) than `max_connections`, for every interleaving
    of acquire segments, set-up completions, polls, timeouts, releases, abandonments and idle-timeout checks.
    The pool starts with `min_connections = 0`, so a warm-up segment in the list does nothing (`warm` answers
    `done`); with a positive minimum the statement is `pool_no_leak_all_ops`. -/
theorem pool_total_le_max (max : Nat) (ops : List Pool.Op) :
    (Pool.run { max := max } ops).total ≤ max
    ∧ (Pool.run { max := max } ops).active.length ≤ max := by
  have inv := Pool.run_inv _ ops (Pool.init_inv max)
  have h1 := inv.bound
  have h2 := inv.conserve
  rw [Pool.run_max] at h1
  have h1' : (Pool.run { max := max } ops).total ≤ max := h1
  exact ⟨h1', by omega⟩

/-- active + idle + (set-ups in flight) = total -/
theorem pool_conservation (max : Nat) (ops : List Pool.Op) :
    (Pool.run { max := max } ops).active.length + (Pool.run { max := max } ops).idle.length
      + (Pool.run { max := max } ops).creating = (Pool.run { max := max } ops).total :=
  (Pool.run_inv _ ops (Pool.init_inv max)).conserve

example : (Pool.run { max := 2 } [.acq 0, .acq 1, .acq 2, .made 0, .made 1, .rel 1, .poll 2]).total = 2
    ∧ (Pool.run { max := 2 } [.acq 0, .acq 1, .acq 2, .made 0, .made 1, .rel 1, .poll 2]).waiters = [] := by decide +kernel

/-- "as soon as capacity allows": somebody waits only while there is no idle connection and the
    pool is at its maximum — along every interleaving of the classic segments (acquire, set-up
    completion, poll, time-out, release).  Once an acquirer is abandoned or warm-up runs, capacity can come
    back while calls are queued; then the first waiter takes it at its next poll
    (`pool_head_helps_itself`), and the Spec judge allows exactly that (`pool_trace_satisfies_spec`). -/
theorem pool_head_not_grantable (max : Nat) (ops : List Pool.Op) (hc : ops.all Pool.Op.classic = true)
    (h : (Pool.run { max := max } ops).waiters ≠ []) :
    (Pool.run { max := max } ops).idle = [] ∧ (Pool.run { max := max } ops).total = max := by
  have := (Pool.run_headInv _ ops (Pool.init_inv max) (Pool.init_headInv max) hc).head h
  rw [Pool.run_max] at this
  exact this

example : [Pool.Op.acq 0, .acq 1].all Pool.Op.classic = true
    ∧ (Pool.run { max := 1 } [.acq 0, .acq 1]).waiters ≠ [] := by decide +kernel

/-- the hypothesis is needed: after an abandoned set-up call 1 is queued although the slot is free again -/
example : (Pool.run { max := 1 } [.acq 0, .acq 1, .abandon 0]).waiters ≠ []
    ∧ (Pool.run { max := 1 } [.acq 0, .acq 1, .abandon 0]).total = 0 := by decide +kernel

/-- the unrepaired counting rule (`reserve = false`: `total` counted only after the set-up latency)
    breaks the bound: three acquirers arriving during one set-up with `max_connections = 1` end up with
    three connections (DESIGN §9 item 15; corpus/C09/pool-overshoot-during-setup.json) -/
theorem pool_overshoots_max_current :
    (Pool.run { max := 1, reserve := false } [.acq 0, .acq 1, .acq 2, .made 0, .made 1, .made 2]).total = 3
    ∧ (Pool.run { max := 1, reserve := false } [.acq 0, .acq 1, .acq 2, .made 0, .made 1, .made 2]).active.length = 3 := by
  decide

/-- fixed and weighted limiters: `0 ≤ active ≤ limit` after every operation list (weights arbitrary,
    including malformed ones, releases without acquires included) -/
theorem limiter_active_le_limit (kind : Nat) (hk : kind ≠ 1) (limit : Int) (hl : 0 ≤ limit) (ops : List Conc.Op) :
    0 ≤ (Conc.run { kind := kind, limit := limit } ops).active
    ∧ (Conc.run { kind := kind, limit := limit } ops).active ≤ limit := by
  have h := Conc.run_inv { kind := kind, limit := limit } ops ⟨hk, by simp, by simpa using hl⟩
  have := h.1.hi
  rw [h.2] at this
  exact ⟨h.1.lo, this⟩

example : (Conc.run { kind := 2, limit := 3 } [.acquire 2, .acquire 2, .acquire 1, .release 5, .acquire 3]).active = 3 := by
  decide +kernel

/-- every limiter, in every state (also a dynamic one whose limit was lowered below the running
    requests): an acquire is granted only if the result stays within the current limit -/
theorem limiter_grant_respects_limit (s : Conc.St) (w : Int) (h : (Conc.step s (.acquire w)).2 = .granted) :
    (Conc.step s (.acquire w)).1.active ≤ s.limit := by
  rw [Conc.step_acquire] at h ⊢
  split
  next hb => rw [if_pos hb] at h; cases h
  next hb =>
    rw [if_neg hb] at h
    split
    next hf => rw [if_pos hf] at h; cases h
    next hf => dsimp only; omega

example : (Conc.step { kind := 1, limit := 2, active := 1 } (.acquire 1)).2 = .granted := by decide +kernel

end HappyModel.C09
