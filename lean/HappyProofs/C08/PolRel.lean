import HappyProofs.C08.KeyOrder
import HappyProofs.C08.FairStep
/-!
One relation for every policy — `PolRel`, the order-refinement relation of the policy's kind — with the
refinement theorem `run_polrel`, and what the pipeline proofs need of a queue: its contents in terms of
the specification's held list.

Pops are taken at clock 0 with no CoDel drop request — the way the pipeline model (`Pipe.stepPoll`)
calls the policy — so nothing expires and nothing is dropped behind the returned item.
-/
namespace HappyModel.C08

def PolRel (p : Cfg) (s : St) (ss : SSt) : Prop :=
  (p.kind.positional = true ∧ Rel s ss) ∨ (p.kind.keyed = true ∧ KRel s ss) ∨
  (p.kind = .fair ∧ FRel true s ss) ∨ (p.kind = .wfq ∧ FRel false s ss)

variable {p : Cfg} {s : St} {ss : SSt}

theorem polrel_init (p : Cfg) : PolRel p {} {} := by
  unfold PolRel
  cases hk : p.kind
  case prio | deadline => exact Or.inr (Or.inl ⟨rfl, krel_init⟩)
  case fair => exact Or.inr (Or.inr (Or.inl ⟨rfl, frel_init true⟩))
  case wfq => exact Or.inr (Or.inr (Or.inr ⟨rfl, frel_init false⟩))
  all_goals exact Or.inl ⟨rfl, rfl⟩

/-- in this shape (rather than `Sim p (PolRel p)`) one case split on the kind serves all five operations -/
theorem PolRel.sim (h : PolRel p s ss) :
    ∃ R : St → SSt → Prop, Sim p R ∧ R s ss ∧ ∀ {s' ss'}, R s' ss' → PolRel p s' ss' := by
  rcases h with ⟨hk, h⟩ | ⟨hk, h⟩ | ⟨hk, h⟩ | ⟨hk, h⟩
  · exact ⟨_, rel_sim hk, h, fun h' => .inl ⟨hk, h'⟩⟩
  · exact ⟨_, krel_sim hk, h, fun h' => .inr (.inl ⟨hk, h'⟩)⟩
  · exact ⟨_, frel_sim (.inl ⟨hk, rfl⟩), h, fun h' => .inr (.inr (.inl ⟨hk, h'⟩))⟩
  · exact ⟨_, frel_sim (.inr ⟨hk, rfl⟩), h, fun h' => .inr (.inr (.inr ⟨hk, h'⟩))⟩

theorem polrel_push (h : PolRel p s ss) (it : Item) (coin rd : Bool) :
    (push p s it coin rd).2 = (sPush p ss it coin rd).2 ∧
    PolRel p (push p s it coin rd).1 (sPush p ss it coin rd).1 := by
  obtain ⟨R, sim, hR, back⟩ := h.sim
  exact ⟨(sim.push hR it coin rd).1, back (sim.push hR it coin rd).2⟩

theorem polrel_pop (h : PolRel p s ss) (now k : Nat) : (pop p s now k).2 = (sPop p ss now k).2 ∧ PolRel p
    (pop p s now k).1 (sPop p ss now k).1 := by
  obtain ⟨R, sim, hR, back⟩ := h.sim
  exact ⟨(sim.pop hR now k).1, back (sim.pop hR now k).2⟩

theorem run_polrel (h : PolRel p s ss) (ops : List Op) : (run p s ops).map (·.1) = (sRun p ss ops).map (·.1) := by
  obtain ⟨R, sim, hR, -⟩ := h.sim
  exact sim_run sim ops s ss hR

theorem PolRel.contents (h : PolRel p s ss) :
    (p.kind.isFlow = false ∧ s.q.map (·.item) = ss.held) ∨ (p.kind.isFlow = true ∧ ∃ fair, FRel fair s ss) := by
  rcases h with ⟨hk, h⟩ | ⟨hk, h⟩ | ⟨hk, h⟩ | ⟨hk, h⟩
  · exact .inl ⟨positional_notFlow hk, h⟩
  · exact .inl ⟨keyed_notFlow hk, h.held⟩
  · exact .inr ⟨congrArg Kind.isFlow hk, _, h⟩
  · exact .inr ⟨congrArg Kind.isFlow hk, _, h⟩

theorem polrel_len (h : PolRel p s ss) : len p s = ss.held.length := by
  rcases h.contents with ⟨hf, h⟩ | ⟨hf, _, h⟩
  · rw [len_q hf, ← h, List.length_map]
  · rw [len_total hf, h.total]

def waitIds (p : Cfg) (s : St) : List Nat :=
  if p.kind.isFlow then s.flows.flatMap (fun fl => fl.q.map (·.id)) else s.q.map (·.item.id)

theorem held_nil_of_filters {held : List Item} (h : ∀ f, held.filter (·.flow == f) = []) : held = [] := by
  cases held with
  | nil => rfl
  | cons x xs => have := h x.flow; simp at this

/-- the per-flow deques together hold the held items: peel off the first flow — it is
    `held.filter (flow = fid)` — recurse on the items of the other flows, and put the two filters back
    together (`List.filter_append_perm`) -/
theorem flows_perm : ∀ (fs : List FlowSt) (held : List Item), (fs.map (·.fid)).Nodup →
    (∀ f, flowQ fs f = held.filter (·.flow == f)) → (fs.flatMap (·.q)).Perm held
  | [], held, _, hq => by
    have : held = [] := held_nil_of_filters fun f => by rw [← hq f]; rfl
    subst this; exact List.Perm.refl _
  | fl :: rest, held, hn, hq => by
    obtain ⟨hnot, hn'⟩ := List.nodup_cons.mp hn
    have hself : held.filter (·.flow == fl.fid) = fl.q := by rw [← hq fl.fid, flowQ_cons]; simp
    have ih := flows_perm rest (held.filter fun x => !(x.flow == fl.fid)) hn' (by
      intro f
      rw [List.filter_filter]
      by_cases hf : fl.fid = f
      · subst hf
        rw [flowQ_not_mem hnot]
        symm; apply List.filter_eq_nil_iff.mpr
        intro a _; cases (a.flow == fl.fid) <;> simp
      · have := hq f
        rw [flowQ_cons, if_neg hf] at this
        rw [this]
        apply List.filter_congr
        intro a _
        by_cases ha : a.flow = f
        · simp [ha]
          intro e; exact hf e.symm
        · simp [ha])
    simp only [List.flatMap_cons]
    rw [← hself]
    exact (List.Perm.append_left _ ih).trans (List.filter_append_perm _ held)

theorem polrel_waitIds_eq (h : PolRel p s ss) (hf : p.kind.isFlow = false) : waitIds p s = ss.held.map (·.id) := by
  rcases h.contents with ⟨_, h⟩ | ⟨hf', _⟩
  · rw [waitIds, hf, ← h]
    simp
  · rw [hf] at hf'
    cases hf'

theorem polrel_waitIds (h : PolRel p s ss) : (waitIds p s).Perm (ss.held.map (·.id)) := by
  rcases h.contents with ⟨hf, _⟩ | ⟨hf, _, hr⟩
  · exact polrel_waitIds_eq h hf ▸ .refl _
  · rw [waitIds, hf, if_pos rfl, ← List.map_flatMap]
    exact (flows_perm s.flows ss.held hr.nodup hr.qs).map (·.id)

theorem removeFirst_perm {p : Item → Bool} :
    ∀ {l : List Item} {x : Item}, l.find? p = some x → l.Perm (x :: removeFirst p l)
  | [], _, h => by simp at h
  | y :: ys, x, h => by
    simp only [List.find?_cons] at h
    simp only [removeFirst]
    cases hp : p y with
    | true => rw [hp] at h; simp at h; subst h; simp
    | false =>
      rw [hp] at h; simp only at h
      simp only [Bool.false_eq_true, if_false]
      exact ((removeFirst_perm h).cons y).trans (List.Perm.swap x y _)

theorem getLast?_perm {α} {l : List α} {x : α} (h : l.getLast? = some x) : l.Perm (x :: l.dropLast) := by
  obtain ⟨ys, rfl⟩ := List.getLast?_eq_some_iff.mp h
  simp

theorem filter_live0 (l : List Item) : (l.filter fun x => decide (0 ≤ x.key)) = l :=
  List.filter_eq_self.mpr (by simp)

theorem sPop_answer (c : Cfg) (ss : SSt) (now k : Nat) : (sPop c ss now k).2 = sChoose c ss now := by
  unfold sPop sChoose
  cases c.kind <;> dsimp only
  case fifo | red | codel => cases ss.held <;> rfl
  case lifo => cases ss.held.getLast? <;> rfl
  case adaptive => split <;> first | (cases ss.held.getLast? <;> rfl) | (cases ss.held <;> rfl)
  case prio => cases firstMin ss.held <;> rfl
  case deadline => cases firstMin (ss.held.filter fun x => decide (now ≤ x.key)) <;> rfl
  case fair | wfq =>
    cases minAct ss.act with
    | none => rfl
    | some a => dsimp only; cases ss.held.find? (·.flow == a.fid) <;> rfl

theorem sPushInner_cases (c : Cfg) (ss : SSt) (it : Item) (rd : Bool) :
    sPushInner c ss it rd = (ss, false) ∨ sPushInner c ss it rd = (ss.accept it, true) ∨
    ∃ w, sPushInner c ss it rd = ((ss.accept it).activate it.flow w, true) := by
  unfold sPushInner
  dsimp only
  (repeat' split) <;> first | exact .inl rfl | exact .inr (.inl rfl) | exact .inr (.inr ⟨_, rfl⟩)

theorem sPushInner_held (c : Cfg) (ss : SSt) (it : Item) (rd : Bool) :
    (sPushInner c ss it rd).1.held = if (sPushInner c ss it rd).2 then ss.held ++ [it] else ss.held := by
  rcases sPushInner_cases c ss it rd with h | h | ⟨w, h⟩ <;> rw [h] <;> rfl

theorem sPush_held (c : Cfg) (ss : SSt) (it : Item) (coin rd : Bool) :
    (sPush c ss it coin rd).1.held = if (sPush c ss it coin rd).2 then ss.held ++ [it] else ss.held := by
  unfold sPush
  split
  · split
    · simp
    · exact sPushInner_held c ss it rd
  · exact sPushInner_held c ss it rd

theorem sPop_held_some (c : Cfg) (ss : SSt) (x : Item) (h : (sPop c ss 0 0).2 = some x) :
    ss.held.Perm (x :: (sPop c ss 0 0).1.held) := by
  cases hk : c.kind <;> simp only [sPop, hk, filter_live0] at h ⊢
  case fifo | red | codel | lifo => (repeat' split at h) <;> simp_all [getLast?_perm]
  case adaptive =>
    split at h
    all_goals
      rename_i hc
      simp only [hc, if_true]
      split at h <;> simp_all [getLast?_perm]
  case prio | deadline =>
    cases hf : firstMin ss.held with
    | none => simp [hf] at h
    | some y => simp only [hf] at h ⊢; cases h; exact removeFirst_perm hf
  case fair | wfq =>
    cases hm : minAct ss.act with
    | none => simp [hm] at h
    | some a =>
      simp only [hm] at h ⊢
      cases hf : ss.held.find? (·.flow == a.fid) with
      | none => simp [hf] at h
      | some y =>
        simp only [hf] at h ⊢; cases h
        rw [serveAct_held]
        exact removeFirst_perm hf

theorem sPop_held_fifo (c : Cfg) (hk : c.kind = .fifo) (ss : SSt) (x : Item) (h : (sPop c ss 0 0).2 = some x) :
    ss.held = x :: (sPop c ss 0 0).1.held := by
  unfold sPop at h ⊢
  simp only [hk] at h ⊢
  cases hh : ss.held with
  | nil => simp [hh] at h
  | cons y ys => simp only [hh] at h ⊢; cases h; rfl

/-- a non-empty list has an item of minimal key, so it has a stable minimum -/
theorem firstMin_none {l : List Item} (h : firstMin l = none) : l = [] := by
  cases hk : (l.map (·.key)).min? with
  | none => simpa using List.min?_eq_none_iff.mp hk
  | some k =>
    obtain ⟨hmem, hle⟩ := List.min?_eq_some_iff.mp hk
    obtain ⟨m, hm, rfl⟩ := List.mem_map.mp hmem
    have := List.find?_eq_none.mp h m hm
    rw [(isMinIn_iff _ _).mpr fun y hy => hle _ (List.mem_map_of_mem hy)] at this
    exact absurd rfl this

/-- for the deque and heap policies a fact about the specification alone; the fair-share specification
    needs the relation (a held item belongs to a backlogged flow only because the model keeps a deque
    for it) -/
theorem sPop_none_held (h : PolRel p s ss) (hn : (sPop p ss 0 0).2 = none) : ss.held = [] := by
  rcases h with ⟨hk, -⟩ | ⟨hk, -⟩ | ⟨hk, h⟩ | ⟨hk, h⟩
  · rw [sPop_answer, sChoose] at hn
    cases hkk : p.kind <;> simp [Kind.positional, hkk] at hk <;> simp only [hkk] at hn
    all_goals (repeat' split at hn) <;> simp_all
  · rw [sPop_answer, sChoose] at hn
    cases hkk : p.kind <;> simp [Kind.keyed, hkk] at hk <;> simp only [hkk, filter_live0] at hn <;>
      exact firstMin_none hn
  all_goals
    have hkk : p.kind = .fair ∨ p.kind = .wfq := by simp [hk]
    rcases h.head_cases with ⟨hfl, -⟩ | ⟨fl, rest, it, q', a, as, -, -, hf⟩
    · exact held_nil_of_filters fun f => by rw [← h.qs f, hfl]; rfl
    · rw [sPop_fair_head hkk hf] at hn
      cases hn


namespace Pipe

theorem rel_push_held {p : Cfg} {s : St} {ss : SSt} (hr : PolRel p s ss) (it : Item) (a b : Bool) :
    (sPush p ss it a b).1.held = if (push p s it a b).2 then ss.held ++ [it] else ss.held := by
  rw [(polrel_push hr it a b).1]
  exact sPush_held p ss it a b

theorem rel_pop_some {p : Cfg} {s : St} {ss : SSt} (hr : PolRel p s ss) {x : Item} (hx : (pop p s 0 0).2 = some x) :
    ss.held.Perm (x :: (sPop p ss 0 0).1.held) :=
  sPop_held_some p ss x ((polrel_pop hr 0 0).1 ▸ hx)

theorem rel_pop_none {p : Cfg} {s : St} {ss : SSt} (hr : PolRel p s ss) (hn : (pop p s 0 0).2 = none) :
    ss.held = [] ∧ (sPop p ss 0 0).1.held = [] := by
  obtain ⟨h2, hr'⟩ := polrel_pop hr 0 0
  have hnil := sPop_none_held hr (h2 ▸ hn)
  have hle := pop_len_le p s 0 0
  rw [polrel_len hr', polrel_len hr, hnil] at hle
  exact ⟨hnil, List.eq_nil_of_length_eq_zero (Nat.le_zero.mp hle)⟩

theorem rel_push_len {p : Cfg} {s : St} {ss : SSt} (hr : PolRel p s ss) (it : Item) (a b : Bool) :
    len p (push p s it a b).1 = len p s + (if (push p s it a b).2 then 1 else 0) := by
  rw [polrel_len (polrel_push hr it a b).2, polrel_len hr, rel_push_held hr]
  split <;> simp

theorem rel_pop_len {p : Cfg} {s : St} {ss : SSt} (hr : PolRel p s ss) :
    (∀ x, (pop p s 0 0).2 = some x → len p (pop p s 0 0).1 + 1 = len p s) ∧
    ((pop p s 0 0).2 = none → len p (pop p s 0 0).1 = 0 ∧ len p s = 0) := by
  rw [polrel_len (polrel_pop hr 0 0).2, polrel_len hr]
  refine ⟨fun x hx => ?_, fun hn => ?_⟩
  · rw [(rel_pop_some hr hx).length_eq, List.length_cons]
  · rw [(rel_pop_none hr hn).1, (rel_pop_none hr hn).2]
    exact ⟨rfl, rfl⟩

end Pipe

end HappyModel.C08
