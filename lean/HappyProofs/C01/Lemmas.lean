import HappyModel.C01.Engine
import HappyProofs.Lib.Lists

namespace HappyModel.C01

theorem keyLt_iff {a b : Ev} : keyLt a b = true ↔ a.time < b.time ∨ (a.time = b.time ∧ a.id < b.id) := by
  simp [keyLt]

theorem keyLt_false_iff {a b : Ev} : keyLt a b = false ↔ b.time < a.time ∨ (b.time = a.time ∧ b.id ≤ a.id) := by
  rw [← Bool.not_eq_true, keyLt_iff]; omega

theorem keyLt_trans {a b c : Ev} (h1 : keyLt a b = true) (h2 : keyLt b c = true) : keyLt a c = true := by
  rw [keyLt_iff] at *; omega

theorem keyLt_total (a b : Ev) (h : a.id ≠ b.id) : keyLt a b = true ∨ keyLt b a = true := by
  simp only [keyLt_iff]; omega

theorem keyLt_irrefl (a : Ev) : keyLt a a = false := by rw [keyLt_false_iff]; omega

theorem keyLt_false_trans {a b c : Ev} (h1 : keyLt a b = false) (h2 : keyLt b c = false) :
    keyLt a c = false := by
  rw [keyLt_false_iff] at *; omega

theorem keyLt_of_not {a b : Ev} (hne : a.id ≠ b.id) (h : keyLt a b = false) : keyLt b a = true := by
  rw [keyLt_false_iff] at h; rw [keyLt_iff]; omega

theorem keyLt_time {a b : Ev} (h : keyLt a b = true) : a.time ≤ b.time := by
  rw [keyLt_iff] at h; omega

theorem time_ge_of_not_keyLt {a b : Ev} (h : keyLt a b = false) : b.time ≤ a.time := by
  rw [keyLt_false_iff] at h; omega

theorem minOf_mem (m : Ev) (l : List Ev) : minOf m l = m ∨ minOf m l ∈ l := by
  induction l generalizing m with
  | nil => exact Or.inl rfl
  | cons x xs ih =>
    unfold minOf
    split
    · rcases ih x with h | h
      · exact Or.inr (by rw [h]; exact List.mem_cons_self)
      · exact Or.inr (List.mem_cons_of_mem _ h)
    · exact (ih m).imp_right (List.mem_cons_of_mem _)

theorem minOf_le (m : Ev) (l : List Ev) :
    keyLt m (minOf m l) = false ∧ ∀ y ∈ l, keyLt y (minOf m l) = false := by
  induction l generalizing m with
  | nil => exact ⟨keyLt_irrefl m, fun _ h => nomatch h⟩
  | cons x xs ih =>
    unfold minOf
    split
    · next hx =>
      have ⟨h1, h2⟩ := ih x
      have hm : keyLt m x = false := by rw [keyLt_iff] at hx; rw [keyLt_false_iff]; omega
      exact ⟨keyLt_false_trans hm h1, List.forall_mem_cons.mpr ⟨h1, h2⟩⟩
    · next hx =>
      have ⟨h1, h2⟩ := ih m
      exact ⟨h1, List.forall_mem_cons.mpr ⟨keyLt_false_trans (Bool.not_eq_true _ ▸ hx) h1, h2⟩⟩

theorem pop_is_min (x : Ev) (xs : List Ev) :
    minOf x xs ∈ x :: xs ∧ ∀ y ∈ x :: xs, keyLt y (minOf x xs) = false :=
  ⟨List.mem_cons.mpr (minOf_mem x xs), List.forall_mem_cons.mpr (minOf_le x xs)⟩

def LogSorted : List Ev → Prop
  | [] => True
  | [_] => True
  | a :: b :: r => keyLt a b = true ∧ LogSorted (b :: r)

theorem logSorted_append_one (l : List Ev) (e : Ev)
    (hs : LogSorted l) (hlast : ∀ d ∈ l, keyLt d e = true) : LogSorted (l ++ [e]) := by
  induction l with
  | nil => trivial
  | cons a t ih =>
    cases t with
    | nil => exact ⟨hlast a List.mem_cons_self, trivial⟩
    | cons b r => exact ⟨hs.1, ih hs.2 fun d hd => hlast d (List.mem_cons_of_mem _ hd)⟩

theorem logSorted_pairwise (l : List Ev) (h : LogSorted l) : l.Pairwise (fun a b => keyLt a b = true) := by
  induction l with
  | nil => exact .nil
  | cons a t ih =>
    cases t with
    | nil => exact .cons (fun _ h => nomatch h) .nil
    | cons b r =>
      have iht := ih h.2
      refine .cons (List.forall_mem_cons.mpr ⟨h.1, fun c hc => ?_⟩) iht
      exact keyLt_trans h.1 (List.rel_of_pairwise_cons iht hc)

def numbered {α β} (f : α → Nat → β) (p : Nat) (l : List α) : List β := (l.zipIdx p).map fun x => f x.1 x.2

theorem mem_numbered {α β} {f : α → Nat → β} {p : Nat} {l : List α} {y : β} (h : y ∈ numbered f p l) :
    ∃ a ∈ l, ∃ q, y = f a q ∧ p ≤ q ∧ q < p + l.length := by
  obtain ⟨⟨a, q⟩, hx, rfl⟩ := List.mem_map.mp h
  exact ⟨a, List.fst_mem_of_mem_zipIdx hx, q, rfl, (List.mem_zipIdx hx).1, (List.mem_zipIdx hx).2.1⟩

theorem numbered_of_mem {α β} (f : α → Nat → β) (p : Nat) {l : List α} {a : α} (h : a ∈ l) :
    ∃ q, f a q ∈ numbered f p l := by
  rw [← List.zipIdx_map_fst p l] at h
  obtain ⟨x, hx, rfl⟩ := List.mem_map.mp h
  exact ⟨x.2, List.mem_map.mpr ⟨x, hx, rfl⟩⟩

theorem map_numbered {α β γ} {f : α → Nat → β} (g : β → γ) (k : α → γ) (hg : ∀ a q, g (f a q) = k a) (p : Nat)
    (l : List α) : (numbered f p l).map g = l.map k := by
  rw [numbered, List.map_map, ← congrArg (List.map k) (List.zipIdx_map_fst p l), List.map_map]
  exact List.map_congr_left fun x _ => hg x.1 x.2

theorem mkEvents_eq (n now : Nat) (specs : List Spec) : mkEvents n now specs =
    numbered (fun s i => ⟨i, s.time, s.target, s.kind, s.daemon, s.data, now, s.tag⟩) n specs := by
  induction specs generalizing n with
  | nil => rfl
  | cons s ss ih => rw [mkEvents, ih]; rfl

theorem mem_mkEvents {n now : Nat} {specs : List Spec} {e : Ev} (h : e ∈ mkEvents n now specs) :
    ∃ sp ∈ specs, n ≤ e.id ∧ e.id < n + specs.length ∧
      e = ⟨e.id, sp.time, sp.target, sp.kind, sp.daemon, sp.data, now, sp.tag⟩ := by
  obtain ⟨sp, hsp, q, rfl, h1, h2⟩ := mem_numbered (mkEvents_eq .. ▸ h)
  exact ⟨sp, hsp, h1, h2, rfl⟩

theorem mkEvents_of_mem (n now : Nat) {specs : List Spec} {sp : Spec} (h : sp ∈ specs) :
    ∃ i, ⟨i, sp.time, sp.target, sp.kind, sp.daemon, sp.data, now, sp.tag⟩ ∈ mkEvents n now specs :=
  mkEvents_eq n now specs ▸ numbered_of_mem _ n h

theorem mkEvents_length (n now : Nat) (specs : List Spec) : (mkEvents n now specs).length = specs.length := by
  rw [mkEvents_eq, numbered, List.length_map, List.length_zipIdx]

theorem mkEvents_id (n now : Nat) (specs : List Spec) :
    ∀ e ∈ mkEvents n now specs, n ≤ e.id ∧ e.id < n + specs.length ∧ e.born = now := by
  intro e he
  obtain ⟨sp, _, h1, h2, h3⟩ := mem_mkEvents he
  exact ⟨h1, h2, by rw [h3]⟩

theorem mkEvents_ids_nodup (n now : Nat) (specs : List Spec) :
    ((mkEvents n now specs).map (·.id)).Nodup := by
  rw [mkEvents_eq, numbered, List.map_map]
  show ((specs.zipIdx n).map Prod.snd).Nodup
  rw [List.zipIdx_map_snd]
  exact List.nodup_range'

theorem heap_nodup {l : List Ev} (h : (l.map (·.id)).Nodup) : l.Nodup :=
  (List.pairwise_map.mp h).imp fun hab heq => hab (by rw [heq])

theorem erase_ids_nodup {l : List Ev} (m : Ev) (h : (l.map (·.id)).Nodup) :
    ((l.erase m).map (·.id)).Nodup :=
  (List.erase_sublist.map _).nodup h

theorem id_inj_of_nodup {l : List Ev} (h : (l.map (·.id)).Nodup) {a b : Ev}
    (ha : a ∈ l) (hb : b ∈ l) (hid : a.id = b.id) : a = b :=
  inj_of_nodup_map _ h ha hb hid

theorem ne_id_of_mem_erase {l : List Ev} {m e : Ev} (h : (l.map (·.id)).Nodup)
    (hm : m ∈ l) (he : e ∈ l.erase m) : e.id ≠ m.id := by
  intro hid
  have := id_inj_of_nodup h (List.mem_of_mem_erase he) hm hid
  subst this
  exact (heap_nodup h).not_mem_erase he

theorem countPrimary_append (a b : List Ev) : countPrimary (a ++ b) = countPrimary a + countPrimary b := by
  simp only [countPrimary, List.filter_append, List.length_append]

theorem countPrimary_cons (x : Ev) (l : List Ev) :
    countPrimary (x :: l) = (if x.daemon then 0 else 1) + countPrimary l := by
  cases h : x.daemon <;> simp [countPrimary, h, Nat.add_comm]

theorem countPrimary_erase {l : List Ev} {m : Ev} (hm : m ∈ l) :
    countPrimary l = countPrimary (l.erase m) + (if m.daemon then 0 else 1) := by
  induction l with
  | nil => exact nomatch hm
  | cons x xs ih =>
    by_cases hx : x = m
    · rw [hx, List.erase_cons_head, countPrimary_cons, Nat.add_comm]
    · have hm' : m ∈ xs := (List.mem_cons.mp hm).resolve_left (Ne.symm hx)
      rw [List.erase_cons_tail (by simpa using hx), countPrimary_cons, countPrimary_cons, ih hm', Nat.add_assoc]

theorem countPrimary_eq_zero {l : List Ev} : countPrimary l = 0 ↔ ∀ e ∈ l, e.daemon = true := by
  simp [countPrimary, List.filter_eq_nil_iff]

variable {σ : Type}

abbrev St.skip (s : St σ) (e : Ev) (v : Verdict) (now' processed nCancelled nStale : Nat) : St σ :=
  { s with heap := s.heap.erase e, primary := if e.daemon then s.primary else s.primary - 1,
           now := now', processed := processed, nCancelled := nCancelled, nStale := nStale,
           popped := s.popped ++ [(e, v)] }

abbrev St.deliver (s : St σ) (e : Ev) (o : Out σ) : St σ :=
  { heap := s.heap.erase e ++ mkEvents s.nextId e.time o.specs, now := e.time,
    nextId := s.nextId + o.specs.length, cancelled := s.cancelled ++ o.cancels, ent := o.ent,
    log := s.log ++ [e], popped := s.popped ++ [(e, .delivered)],
    primary := (if e.daemon then s.primary else s.primary - 1) + countPrimary (mkEvents s.nextId e.time o.specs),
    processed := s.processed + 1, nCancelled := s.nCancelled, nStale := s.nStale }

section
variable {mc : Machine σ} {s : St σ} {e : Ev}

theorem stepWith_cancelled (hc : e.id ∈ s.cancelled) :
    stepWith mc s e = s.skip e .cancelled s.now s.processed (s.nCancelled + 1) s.nStale := by
  rw [stepWith, if_pos (List.contains_iff_mem.mpr hc)]

theorem stepWith_stale (hc : e.id ∉ s.cancelled) (hs : e.time < s.now) :
    stepWith mc s e = s.skip e .stale s.now s.processed s.nCancelled (s.nStale + 1) := by
  rw [stepWith, if_neg (mt List.contains_iff_mem.mp hc), if_pos hs]

theorem stepWith_gated (hc : e.id ∉ s.cancelled) (hn : s.now ≤ e.time) (hg : mc.crashed s.ent e = true) :
    stepWith mc s e = s.skip e .gated e.time (s.processed + 1) s.nCancelled s.nStale := by
  rw [stepWith, if_neg (mt List.contains_iff_mem.mp hc), if_neg (Nat.not_lt.mpr hn), if_pos hg]

theorem stepWith_delivered (hc : e.id ∉ s.cancelled) (hn : s.now ≤ e.time) (hg : mc.crashed s.ent e = false) :
    stepWith mc s e = s.deliver e (mc.handle s.ent e.time e) := by
  rw [stepWith, if_neg (mt List.contains_iff_mem.mp hc), if_neg (Nat.not_lt.mpr hn), if_neg (by simp [hg])]

end

@[elab_as_elim]
theorem stepWith_cases {motive : St σ → Prop} (mc : Machine σ) (s : St σ) (e : Ev)
    (cancelled : e.id ∈ s.cancelled →
      motive (s.skip e .cancelled s.now s.processed (s.nCancelled + 1) s.nStale))
    (stale : e.id ∉ s.cancelled → e.time < s.now →
      motive (s.skip e .stale s.now s.processed s.nCancelled (s.nStale + 1)))
    (gated : e.id ∉ s.cancelled → s.now ≤ e.time → mc.crashed s.ent e = true →
      motive (s.skip e .gated e.time (s.processed + 1) s.nCancelled s.nStale))
    (delivered : e.id ∉ s.cancelled → s.now ≤ e.time → mc.crashed s.ent e = false →
      motive (s.deliver e (mc.handle s.ent e.time e))) :
    motive (stepWith mc s e) := by
  by_cases hc : e.id ∈ s.cancelled
  · exact stepWith_cancelled hc ▸ cancelled hc
  · by_cases hs : e.time < s.now
    · exact stepWith_stale hc hs ▸ stale hc hs
    · cases hg : mc.crashed s.ent e
      · exact stepWith_delivered hc (Nat.le_of_not_lt hs) hg ▸ delivered hc (Nat.le_of_not_lt hs) hg
      · exact stepWith_gated hc (Nat.le_of_not_lt hs) hg ▸ gated hc (Nat.le_of_not_lt hs) hg

theorem stepWith_now_ge (mc : Machine σ) (s : St σ) (e : Ev) : s.now ≤ (stepWith mc s e).now :=
  stepWith_cases mc s e (fun _ => Nat.le_refl _) (fun _ _ => Nat.le_refl _) (fun _ hn _ => hn) (fun _ hn _ => hn)

theorem stepWith_nextId_ge (mc : Machine σ) (s : St σ) (e : Ev) : s.nextId ≤ (stepWith mc s e).nextId :=
  stepWith_cases mc s e (fun _ => Nat.le_refl _) (fun _ _ => Nat.le_refl _) (fun _ _ _ => Nat.le_refl _)
    (fun _ _ _ => Nat.le_add_right _ _)

theorem stepWith_processed (mc : Machine σ) (s : St σ) (e : Ev) :
    (stepWith mc s e).processed = s.processed ∨ (stepWith mc s e).processed = s.processed + 1 :=
  stepWith_cases mc s e (fun _ => .inl rfl) (fun _ _ => .inl rfl) (fun _ _ _ => .inr rfl) (fun _ _ _ => .inr rfl)

theorem step_eq_some {mc : Machine σ} {endT : Option Nat} {s s' : St σ} (h : step mc endT s = some s') :
    ∃ m ∈ s.heap, (∀ y ∈ s.heap, keyLt y m = false) ∧ continues endT s = true ∧ s' = stepWith mc s m := by
  unfold step at h
  split at h
  · exact nomatch h
  · next x xs hheap =>
    split at h
    · next hc =>
      rw [hheap]
      exact ⟨_, (pop_is_min x xs).1, (pop_is_min x xs).2, hc, (Option.some.inj h).symm⟩
    · exact nomatch h

/-- with distinct creation indices the minimal member of the heap is unique, so it is the one popped -/
theorem step_of_min {mc : Machine σ} {endT : Option Nat} {s : St σ} {m : Ev} (hn : (s.heap.map (·.id)).Nodup)
    (hm : m ∈ s.heap) (hmin : ∀ y ∈ s.heap, keyLt y m = false) (hc : continues endT s = true) :
    step mc endT s = some (stepWith mc s m) := by
  unfold step
  split
  · next h => exact absurd (h ▸ hm) List.not_mem_nil
  · next x xs h =>
    have ⟨hm', hmin'⟩ := pop_is_min x xs
    have : minOf x xs = m := by
      by_cases hid : (minOf x xs).id = m.id
      · exact id_inj_of_nodup hn (h ▸ hm') hm hid
      · have := keyLt_of_not hid (hmin _ (h ▸ hm'))
        rw [hmin' m (h ▸ hm)] at this
        cases this
    rw [if_pos hc, this]

theorem step_eq_none {mc : Machine σ} {endT : Option Nat} {s : St σ} :
    step mc endT s = none ↔ continues endT s = false := by
  unfold step
  split
  · next h => simp [continues, h]
  · split <;> simp [*]

theorem halted_of_mem {mc : Machine σ} {endT : Option Nat} {s : St σ} {e : Ev}
    (h : step mc endT s = none) (he : e ∈ s.heap) :
    match endT with
    | some t => t < s.now
    | none => s.primary = 0 := by
  have hc := step_eq_none.mp h
  cases hh : s.heap with
  | nil => exact absurd (hh ▸ he) List.not_mem_nil
  | cons x xs => cases endT <;> simpa [continues, hh] using hc

theorem halted_run (mc : Machine σ) (endT : Option Nat) (n : Nat) (s : St σ)
    (h : step mc endT s = none) : run mc endT n s = s := by
  cases n with
  | zero => rfl
  | succ n => simp only [run, h]

theorem run_succ {mc : Machine σ} {endT : Option Nat} {s s' : St σ} (h : step mc endT s = some s') (n : Nat) :
    run mc endT (n + 1) s = run mc endT n s' := by
  simp only [run, h]

theorem run_add (mc : Machine σ) (endT : Option Nat) (a b : Nat) (s : St σ) :
    run mc endT a (run mc endT b s) = run mc endT (b + a) s := by
  induction b generalizing s with
  | zero => rw [Nat.zero_add]; rfl
  | succ b ih =>
    rw [Nat.add_right_comm]
    cases hs : step mc endT s with
    | none => rw [halted_run mc endT _ s hs, halted_run mc endT _ s hs, halted_run mc endT _ s hs]
    | some s' => rw [run_succ hs, run_succ hs, ih]

/-- induction along `run` with a ghost value carried along: `G` is any function with the two equations of a ghost run
    whose step is `g` (a trace written alongside `run`) -/
theorem run_ghost_induction {γ : Type} {motive : St σ → γ → Prop} (mc : Machine σ) (endT : Option Nat)
    (g : St σ → γ → Ev → γ) (G : Nat → St σ → γ → γ) (h0 : ∀ s t, G 0 s t = t)
    (hS : ∀ n s t, G (n + 1) s t = match s.heap with
      | [] => t
      | x :: xs => if continues endT s then G n (stepWith mc s (minOf x xs)) (g s t (minOf x xs)) else t)
    (pop : ∀ s t m, motive s t → m ∈ s.heap → (∀ y ∈ s.heap, keyLt y m = false) → continues endT s = true →
      motive (stepWith mc s m) (g s t m))
    (n : Nat) (s : St σ) (t : γ) (h : motive s t) : motive (run mc endT n s) (G n s t) := by
  induction n generalizing s t with
  | zero => rw [h0]; exact h
  | succ n ih =>
    rw [hS]
    unfold run step
    cases hh : s.heap with
    | nil => exact h
    | cons x xs =>
      by_cases hc : continues endT s = true
      · simp only [hc, if_true]
        exact ih _ _ (pop s t _ h (hh ▸ (pop_is_min x xs).1) (hh ▸ (pop_is_min x xs).2) hc)
      · simp only [hc, Bool.false_eq_true, if_false]
        exact h

theorem run_induction {motive : St σ → Prop} (mc : Machine σ) (endT : Option Nat)
    (pop : ∀ s m, motive s → m ∈ s.heap → (∀ y ∈ s.heap, keyLt y m = false) → continues endT s = true →
      motive (stepWith mc s m))
    (n : Nat) (s : St σ) (h : motive s) : motive (run mc endT n s) :=
  run_ghost_induction (motive := fun s (_ : Unit) => motive s) mc endT (fun _ _ _ => ()) (fun _ _ _ => ()) (fun _ _ => rfl)
    (fun _ s _ => by cases s.heap <;> simp) (fun s _ m => pop s m) n s () h

end HappyModel.C01
