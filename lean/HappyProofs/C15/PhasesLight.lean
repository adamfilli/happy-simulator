import HappyProofs.C15.LaterPhase
/-!
Later phases in which no flush / compaction installs (`NoInstall`).  Along such a phase the SSTable levels are constant and
the log only grows by appends, so what a crash makes readable can be read off the log without the ghost log of memtable
inserts.  `PInv` is the run invariant relating the system `y0`
a phase starts from to the current system; `later_phase_facts` is what a crash at the end of the phase makes readable.
-/
namespace HappyModel.C15
open HappyModel.C14

def NoInstall (cfg : Cfg) (y : Sys) (sched : List Nat) : Prop :=
  ∀ n, ∀ f ∈ (y.run cfg (sched.take n)).frames, sched[n]? = some f.id →
    (∀ t b, f.pc ≠ .pFlush t b) ∧ (∀ j, f.pc ≠ .pCompact j)

def installFreePc : Pc → Bool
  | .pFlush _ _ => false
  | .pCompact _ => false
  | _ => true

/-- decidable form, for concrete schedules -/
def noInstallB (cfg : Cfg) (y : Sys) (sched : List Nat) : Bool :=
  (List.range sched.length).all fun n =>
    (y.run cfg (sched.take n)).frames.all fun f => !(sched[n]? == some f.id) || installFreePc f.pc

theorem noInstall_of_B {cfg : Cfg} {y : Sys} {sched : List Nat} (h : noInstallB cfg y sched = true) :
    NoInstall cfg y sched := by
  intro n f hf hs
  obtain ⟨hn, _⟩ := List.getElem?_eq_some_iff.1 hs
  have h2 := List.all_eq_true.1 (List.all_eq_true.1 h n (List.mem_range.2 hn)) f hf
  simp only [hs, beq_self_eq_true, Bool.not_true, Bool.false_or] at h2
  constructor
  · intro t b hpc; rw [hpc] at h2; cases h2
  · intro j hpc; rw [hpc] at h2; cases h2

/-- the head condition of `NoInstall` -/
def InstallFree (y : Sys) (id : Nat) : Prop :=
  ∀ f ∈ y.frames, f.id = id → (∀ t b, f.pc ≠ .pFlush t b) ∧ (∀ j, f.pc ≠ .pCompact j)

theorem noInstall_cons {cfg : Cfg} {y : Sys} {id : Nat} {ids : List Nat} (h : NoInstall cfg y (id :: ids)) :
    InstallFree y id ∧ NoInstall cfg (y.step cfg id) ids := by
  constructor
  · intro f hf hid
    exact h 0 f hf (by simp [hid])
  · intro n f hf hs
    exact h (n + 1) f hf (by simpa using hs)

theorem stepOp_light {cfg : Cfg} {p : Policy} (hw : cfg.wal = some p) (s : St) (pc : Pc)
    (hf : ∀ t b, pc ≠ .pFlush t b) (hc : ∀ j, pc ≠ .pCompact j) :
    (stepOp cfg s pc).1.levels = s.levels ∧
    ((∃ k c, pc = .pStart k c ∧ (stepOp cfg s pc).1.wal = s.wal ++ [⟨s.nextSeq, k, c⟩] ∧
        (stepOp cfg s pc).1.nextSeq = s.nextSeq + 1) ∨
     ((∀ k c, pc ≠ .pStart k c) ∧ (stepOp cfg s pc).1.wal = s.wal ∧ (stepOp cfg s pc).1.nextSeq = s.nextSeq)) := by
  by_cases hp : ∃ k c, pc = .pStart k c
  · obtain ⟨k, c, rfl⟩ := hp
    refine ⟨?_, Or.inl ⟨k, c, rfl, ?_, ?_⟩⟩ <;> simp only [stepOp, putStart, hw]
  · have key : (stepOp cfg s pc).1.levels = s.levels ∧ (stepOp cfg s pc).1.wal = s.wal ∧
        (stepOp cfg s pc).1.nextSeq = s.nextSeq := by
      cases pc with
      | pStart k c => exact absurd ⟨k, c, rfl⟩ hp
      | pFlush t b => exact absurd rfl (hf t b)
      | pCompact j => exact absurd rfl (hc j)
      | pWal k c q =>
        obtain ⟨o, ho⟩ := shouldSync_eq p s
        by_cases hb : (shouldSync p s).1 = true <;> simp [stepOp, walWritten, hw, hb, ho, memInsert, unpend]
      | pMem mid => rcases afterMem_cases cfg s mid with e | e <;> rw [stepOp, e] <;> exact ⟨rfl, rfl, rfl⟩
      | gStart _ | gAt _ _ _ _ | sStart _ _ | sAt _ _ _ _ _ _ => rw [(stepOp_read rfl).1]; exact ⟨rfl, rfl, rfl⟩
      | pSync k c q | done r => exact ⟨rfl, rfl, rfl⟩
    exact ⟨key.1, Or.inr ⟨fun k c h => hp ⟨k, c, h⟩, key.2⟩⟩

/-- `y0`: the system the phase started from; `y`: the current system -/
structure PInv (start : Nat → Pc) (y0 y : Sys) : Prop where
  levels : y.st.levels = y0.st.levels
  wal : ∃ new, y.st.wal = y0.st.wal ++ new ∧ ∀ e ∈ new, y0.st.nextSeq ≤ e.seq
  sorted : (y.st.wal.map (·.seq)).Pairwise (· < ·)
  walLt : ∀ e ∈ y.st.wal, e.seq < y.st.nextSeq
  nseq : y0.st.nextSeq ≤ y.st.nextSeq
  synced : y0.st.synced ≤ y.st.synced
  old : ∀ f ∈ y.frames, f ∈ y0.frames ∨ IsNew y0 f
  bn : ∀ f ∈ y.frames, ∀ b, f.b = some b → b < y.n
  entry : ∀ f ∈ y.frames, IsNew y0 f → ∀ k c, start f.id = .pStart k c →
    y0.st.nextSeq ≤ f.seq0 ∧ f.seq0 < y.st.nextSeq ∧ ∃ e ∈ y.st.wal, e.seq = f.seq0 ∧ e.key = k ∧ e.cell = c
  walFrame : ∀ e ∈ y.st.wal, y0.st.nextSeq ≤ e.seq →
    ∃ f ∈ y.frames, IsNew y0 f ∧ f.seq0 = e.seq ∧ start f.id = .pStart e.key e.cell
  ord : ∀ f ∈ y.frames, ∀ f' ∈ y.frames, IsNew y0 f → IsNew y0 f' → IsWrite start f → IsWrite start f' →
    ∀ b b', f.b = some b → f'.b = some b' → b < b' → f.seq0 < f'.seq0
  ended : ∀ f ∈ y.frames, ∀ b e, f.b = some b → f.e = some e → b ≤ e
  keep : ∀ f ∈ y0.frames, f.b ≠ none → f ∈ y.frames

theorem PInv.track {start : Nat → Pc} {y0 y : Sys} (h : PInv start y0 y) : Track y0 y :=
  ⟨h.old, h.keep, h.bn, h.ended, h.synced⟩

section
variable {cfg : Cfg} {p : Policy} {start : Nat → Pc} {y0 y y1 : Sys} {acc : List Nat}

theorem pinv_step (hw : cfg.wal = some p)
    (hA : AInv cfg start y acc) (h : PInv start y0 y) (id : Nat) (hs : SyncOk y id) (hni : InstallFree y id)
    (hun : ∀ f ∈ y0.frames, f.id = id → f.b = none) : PInv start y0 (y.step cfg id) := by
  have hT := h.track.step (cfg := cfg) id hs hun
  rcases gstep_cases cfg y id with ⟨h0, _⟩ | ⟨pre, f, post, h1, h2, h3, h4, h5, _, h6⟩
  · rw [h0] at hT ⊢
    exact ⟨h.levels, h.wal, h.sorted, h.walLt, h.nseq, hT.synced, hT.old, hT.bn, h.entry, h.walFrame, h.ord, hT.ended, hT.keep⟩
  · rw [h5] at hT ⊢
    clear hs h5 h6
    obtain ⟨st, frames, n⟩ := y
    simp only at h1 hT ⊢
    subst h1
    have hlight := stepOp_light hw st f.pc (hni f mem_mid_self h2).1 (hni f mem_mid_self h2).2
    have ha := adv_spec cfg st n f
    have hnew' : IsNew y0 (advFrame cfg st n f) :=
      (hT.old _ mem_mid_self).resolve_left fun h0 => ha.started (hun _ h0 (ha.id.trans h2))
    have hnid : NewId y0 f.id := ha.id ▸ hnew'.2
    generalize advFrame cfg st n f = f' at *
    generalize (stepOp cfg st f.pc).1 = st' at *
    -- the log is appended to by the first segment of a write and by no other
    have hwal : (f.b = none ∧ ∃ k c, start f.id = .pStart k c ∧ st'.wal = st.wal ++ [⟨st.nextSeq, k, c⟩] ∧
          st'.nextSeq = st.nextSeq + 1) ∨ (st'.wal = st.wal ∧ st'.nextSeq = st.nextSeq ∧ (f.b = none → ¬ IsWrite start f)) := by
      have hc := hA.cons f mem_mid_self
      rcases hlight.2 with ⟨k, c, hpc, e1, e2⟩ | ⟨hnp, e1, e2⟩
      · rw [hpc] at hc
        refine Or.inl ⟨?_, k, c, pcCons_pStart hc, e1, e2⟩
        cases hb : f.b with
        | none => rfl
        | some b => have := hA.started f mem_mid_self (hb ▸ Option.some_ne_none _); rw [hpc] at this; cases this
      · refine Or.inr ⟨e1, e2, fun hb ⟨k, c, hkc⟩ => hnp k c ?_⟩
        rw [pcCons_isStart hc (hA.unstarted f mem_mid_self hb), hkc]
    have hsplit : ∀ g, g ∈ pre ++ f' :: post → (g ∈ pre ∨ g ∈ post) ∨ g = f' := fun g hg => (mem_mid.mp hg).symm
    have hwr : IsWrite start f' ↔ IsWrite start f := by unfold IsWrite; rw [ha.id]
    have hnsle : st.nextSeq ≤ st'.nextSeq := by
      rcases hwal with ⟨_, _, _, _, _, e⟩ | ⟨_, e, _⟩ <;> rw [e]
      · exact Nat.le_succ _
      · exact Nat.le_refl _
    have hsub : ∀ e ∈ st.wal, e ∈ st'.wal := by
      intro e he
      rcases hwal with ⟨_, _, _, _, e1, _⟩ | ⟨e1, _⟩ <;> rw [e1]
      · exact List.mem_append_left _ he
      · exact he
    have hentry' : ∀ k c, start f.id = .pStart k c → y0.st.nextSeq ≤ f'.seq0 ∧ f'.seq0 < st'.nextSeq ∧
        ∃ e ∈ st'.wal, e.seq = f'.seq0 ∧ e.key = k ∧ e.cell = c := by
      intro k c hst
      obtain ⟨b, hb⟩ := Option.ne_none_iff_exists'.mp ha.started
      rcases ha.inv hb with ⟨hfb, hs⟩ | ⟨hfb, _, hs⟩ <;> rw [hs]
      · obtain ⟨a1, a2, e, he, a3⟩ := h.entry f mem_mid_self ⟨hfb ▸ Option.some_ne_none _, hnid⟩ k c hst
        exact ⟨a1, Nat.lt_of_lt_of_le a2 hnsle, e, hsub e he, a3⟩
      · rcases hwal with ⟨_, k', c', hst', e1, e2⟩ | ⟨_, _, hnw⟩
        · rw [hst] at hst'
          injection hst' with hk hc
          subst hk; subst hc
          exact ⟨h.nseq, by rw [e2]; exact Nat.lt_succ_self _, ⟨st.nextSeq, k, c⟩, by rw [e1]; simp, rfl, rfl, rfl⟩
        · exact absurd ⟨k, c, hst⟩ (hnw hfb)
    -- an untouched frame of the phase against the frame that ran
    have key : ∀ g, g ∈ pre ∨ g ∈ post → IsNew y0 g → IsWrite start g → ∀ b b', g.b = some b → f'.b = some b' →
        (b < b' → IsWrite start f' → g.seq0 < f'.seq0) ∧ (b' < b → IsWrite start f' → f'.seq0 < g.seq0) := by
      intro g o gn w1 b b' e1 e2
      have hm : g ∈ pre ++ f :: post := mem_mid_of o
      rcases ha.inv e2 with ⟨hfb, hs⟩ | ⟨_, rfl, hs⟩ <;> rw [hs, hwr]
      · have hfn : IsNew y0 f := ⟨hfb ▸ Option.some_ne_none _, hnid⟩
        exact ⟨fun hlt w2 => h.ord g hm f mem_mid_self gn hfn w1 w2 b b' e1 hfb hlt,
          fun hlt w2 => h.ord f mem_mid_self g hm hfn gn w2 w1 b' b hfb e1 hlt⟩
      · obtain ⟨k, c, hkc⟩ := w1
        exact ⟨fun _ _ => (h.entry g hm gn k c hkc).2.1, fun hlt => absurd hlt (Nat.lt_asymm (h.bn g hm b e1))⟩
    refine {
      levels := hlight.1.trans h.levels
      wal := ?wal
      sorted := ?sorted
      walLt := ?walLt
      nseq := Nat.le_trans h.nseq hnsle
      synced := hT.synced
      old := hT.old
      bn := hT.bn
      entry := forall_mid.mpr ⟨fun _ k c hst => hentry' k c (ha.id ▸ hst), ?entryOther⟩
      walFrame := ?walFrame
      ord := ?ord
      ended := hT.ended
      keep := hT.keep }
    case wal =>
      obtain ⟨new, hnew, hge⟩ := h.wal
      rcases hwal with ⟨_, k, c, _, e1, _⟩ | ⟨e1, _⟩
      · refine ⟨new ++ [⟨st.nextSeq, k, c⟩], by rw [e1, hnew, List.append_assoc], ?_⟩
        intro e he
        rcases List.mem_append.mp he with he | he
        · exact hge e he
        · rw [List.mem_singleton.mp he]; exact h.nseq
      · exact ⟨new, by rw [e1]; exact hnew, hge⟩
    case sorted =>
      rcases hwal with ⟨_, k, c, _, e1, _⟩ | ⟨e1, _⟩ <;> rw [e1]
      · exact (wal_append h.sorted h.walLt k c).1
      · exact h.sorted
    case walLt =>
      rcases hwal with ⟨_, k, c, _, e1, e2⟩ | ⟨e1, e2, _⟩ <;> rw [e1, e2]
      · exact (wal_append h.sorted h.walLt k c).2
      · exact h.walLt
    case entryOther =>
      intro g o hgn k c hst
      obtain ⟨a1, a2, e, he, a3⟩ := h.entry g (mem_mid_of o) hgn k c hst
      exact ⟨a1, Nat.lt_of_lt_of_le a2 hnsle, e, hsub e he, a3⟩
    case walFrame =>
      intro e he hge
      have hold : e ∈ st.wal → ∃ g ∈ pre ++ f' :: post, IsNew y0 g ∧ g.seq0 = e.seq ∧
          start g.id = .pStart e.key e.cell := by
        intro he
        obtain ⟨g, hg, a1, a2, a3⟩ := h.walFrame e he hge
        rcases mem_mid.mp hg with rfl | hg
        · obtain ⟨b, hb⟩ := Option.ne_none_iff_exists'.mp a1.1
          exact ⟨f', mem_mid_self, hnew', (ha.keep b hb).2.trans a2, ha.id ▸ a3⟩
        · exact ⟨g, mem_mid_of hg, a1, a2, a3⟩
      rcases hwal with ⟨hfb, k, c, hst, e1, _⟩ | ⟨e1, _⟩ <;> rw [e1] at he
      · rcases List.mem_append.mp he with he | he
        · exact hold he
        · rw [List.mem_singleton.mp he]
          exact ⟨f', mem_mid_self, hnew', (ha.fresh hfb).2, ha.id ▸ hst⟩
      · exact hold he
    case ord =>
      intro g1 hg1 g2 hg2 n1 n2 w1 w2 b b' hb hb' hlt
      rcases hsplit g1 hg1 with o1 | rfl <;> rcases hsplit g2 hg2 with o2 | rfl
      · exact h.ord g1 (mem_mid_of o1) g2 (mem_mid_of o2) n1 n2 w1 w2 b b' hb hb' hlt
      · exact (key g1 o1 n1 w1 b b' hb hb').1 hlt w2
      · exact (key g2 o2 n2 w2 b' b hb' hb).2 hlt w1
      · rw [hb] at hb'; injection hb' with hb'; exact absurd (hb' ▸ hlt) (Nat.lt_irrefl _)

theorem pinv_run (hw : cfg.wal = some p) (sched : List Nat)
    (y : Sys) (acc : List Nat) (hA : AInv cfg start y acc) (h : PInv start y0 y)
    (hs : syncsInOrderB cfg y sched = true) (hni : NoInstall cfg y sched)
    (hun : ∀ f ∈ y0.frames, f.id ∈ sched → f.b = none) :
    AInv cfg start (y.run cfg sched) (syncDoneRun cfg y acc sched).2 ∧ PInv start y0 (y.run cfg sched) := by
  induction sched generalizing y acc with
  | nil => exact ⟨hA, h⟩
  | cons id ids ih =>
    obtain ⟨h1, h2⟩ := syncsInOrderB_cons hs
    obtain ⟨n1, n2⟩ := noInstall_cons hni
    exact ih _ _ (ainv_step hA id h1)
      (pinv_step hw hA h id h1 n1 (fun f hf hid => hun f hf (by rw [hid]; exact List.mem_cons_self ..))) h2 n2
      (fun f hf hid => hun f hf (List.mem_cons_of_mem _ hid))

theorem pinv_refl (hK : KStart start y) : PInv start y y := by
  refine ⟨rfl, ⟨[], by simp, fun e he => by cases he⟩, hK.sorted, hK.walLt, Nat.le_refl _, Nat.le_refl _,
    fun f hf => Or.inl hf, hK.bn, fun f hf hn => (not_new_of_mem hK.ids hf hn).elim, ?_,
    fun f hf _ _ hn => (not_new_of_mem hK.ids hf hn).elim, hK.ended, fun f hf _ => hf⟩
  intro e he hge
  have := hK.walLt e he
  omega

theorem later_phase_facts (hK : KStart start y0) (h : PInv start y0 y1) (k : Key) :
    KeyFacts start (IsNew y0) y0.st.abs y1 k := by
  unfold KeyFacts
  obtain ⟨new, hnew, hge⟩ := h.wal
  have habs := abs_crash_recover y1.st k
  have hD : durableLog y1.st = y0.st.wal ++ new.filter (fun e => e.seq ≤ y1.st.synced) := by
    unfold durableLog
    rw [hnew, List.filter_append]
    congr 1
    apply List.filter_eq_self.mpr
    intro e he
    simpa using Nat.le_trans (hK.dur e he) h.synced
  have hDs : ((durableLog y1.st).map (·.seq)).Pairwise (· < ·) :=
    List.Pairwise.sublist (List.Sublist.map _ List.filter_sublist) h.sorted
  have hDmem : ∀ e, e ∈ y1.st.wal → e.seq ≤ y1.st.synced → e ∈ durableLog y1.st := by
    intro e he hd
    exact List.mem_filter.mpr ⟨he, by simpa using hd⟩
  by_cases hex : ∃ e ∈ new.filter (fun e => e.seq ≤ y1.st.synced), e.key = k
  · obtain ⟨e1, he1, hk1⟩ := hex
    have he1D : e1 ∈ durableLog y1.st := by rw [hD]; exact List.mem_append_right _ he1
    have hge1 := hge e1 (List.mem_filter.mp he1).1
    left
    cases hlast : lastFor k (durableLog y1.st) none with
    | none => exact absurd hk1 ((lastFor_none hlast).2 e1 he1D)
    | some c =>
      rcases lastFor_last hDs hlast with ⟨h0, _⟩ | ⟨e, he, ek, ec, emax⟩
      · cases h0
      · have hew : e ∈ y1.st.wal := (List.mem_filter.mp he).1
        have hle := emax e1 he1D hk1
        obtain ⟨w, hw, wnew, wseq, wst⟩ := h.walFrame e hew (Nat.le_trans hge1 hle)
        rw [ek, ec] at wst
        refine ⟨w, hw, wnew, wnew.1, ?_, ?_⟩
        · rw [habs, hlast]; exact wst
        · intro w' hw' n' _ b' c' hb' hs' hdur e0 he0 hlt
          obtain ⟨bw, hbw⟩ := Option.ne_none_iff_exists'.mp wnew.1
          have hbe := h.ended w hw bw e0 hbw he0
          have hord := h.ord w hw w' hw' wnew n' ⟨k, c, wst⟩ ⟨k, c', hs'⟩ bw b' hbw hb'
            (Nat.lt_of_le_of_lt hbe hlt)
          obtain ⟨_, _, e', he', a1, a2, _⟩ := h.entry w' hw' n' k c' hs'
          have := emax e' (hDmem e' he' (by rw [a1]; exact hdur)) a2
          rw [a1] at this
          rw [wseq] at hord
          exact Nat.lt_irrefl _ (Nat.lt_of_lt_of_le hord this)
  · right
    have hskip : ∀ e ∈ new.filter (fun e => e.seq ≤ y1.st.synced), e.key ≠ k := fun e he hk => hex ⟨e, he, hk⟩
    have hlastEq : lastFor k (durableLog y1.st) none = lastFor k y0.st.wal none := by
      rw [hD, lastFor_append, lastFor_skip hskip]
    refine ⟨?_, ?_⟩
    · rw [habs, hlastEq, h.levels]; exact (hK.abs k).symm
    · intro w' hw' n' _ c' hs' hdur
      obtain ⟨a0, _, e', he', a1, a2, _⟩ := h.entry w' hw' n' k c' hs'
      rw [hnew] at he'
      rcases List.mem_append.mp he' with he' | he'
      · exact Nat.lt_irrefl _ (Nat.lt_of_lt_of_le (hK.walLt e' he') (by rw [a1]; exact a0))
      · exact hskip e' (List.mem_filter.mpr ⟨he', by simpa using (by rw [a1]; exact hdur)⟩) a2

end

end HappyModel.C15
