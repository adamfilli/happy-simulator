import HappyProofs.C17.MLMRun
/-!
`SubInv` holds in every reachable state: copies are taken from the sender's version table, handlers only shrink
them to a suffix, and `_install` only moves a version up — the clock grows pointwise and, while it stays the same,
the value grows in the join order (`sub_pick`).  A run segment without client-write / `Replicate` handler steps
leaves the `Replicate` messages and the write / `Replicate` handlers as they are (`LN.SameWR`), so `replQuiescent`
is carried over it in both directions.
-/
namespace HappyModel.C17.MLM
open HappyModel.C17.ML (Version Msg Proc MKind PKind vcGet dominates vcMerge vcTick)
open HappyModel.C17.LN (Res AeShape StepShape core)

theorem sub_pick {j : Join} {n : Nat} {u inc v : Version} (h : Sub j n (some u) v) :
    Sub j n (some (pick n j (some u) inc)) v := by
  obtain ⟨u0, hu0, hle, hval⟩ := h
  cases hu0
  refine ⟨_, rfl, fun c hc => ?_, fun heq => ?_⟩
  · rw [pick_clock n j u inc c hc]
    exact Nat.le_trans (hle c hc) (Nat.le_max_left _ _)
  · -- the clock did not move: `inc` is below `u`, so `u` or the join of the two values was stored
    have hu : ∀ c, c < n → vcGet v.vc c = vcGet u.vc c ∧ vcGet inc.vc c ≤ vcGet u.vc c := by
      intro c hc
      have h1 := heq c hc
      rw [pick_clock n j u inc c hc] at h1
      have h2 := hle c hc
      omega
    have h1 : dominates n inc.vc u.vc = false := ML.dominates_eq_false_of_le fun c hc => (hu c hc).2
    have hvu := hval (fun c hc => (hu c hc).1)
    simp only [pick, h1, Bool.false_eq_true, if_false]
    split
    · exact hvu
    · exact le_trans hvu (le_join_left j _ _)

theorem sub_mergeOpt {j : Join} {n : Nat} {cur : Option Version} {inc v : Version} (h : Sub j n cur v) :
    Sub j n (mergeOpt n j cur inc) v := by
  unfold mergeOpt
  split
  · obtain ⟨u, hu, _⟩ := id h
    subst hu
    exact sub_pick h
  · exact h

theorem subInv_iff {s : St} : SubInv s ↔ LN.SubInv (Sub s.join s.n) (core s.view) :=
  ⟨fun ⟨a, b⟩ => ⟨a, b⟩, fun ⟨a, b⟩ => ⟨a, b⟩⟩

theorem step_subInv (s : St) (a : Act) (h : SubInv s) : SubInv (step s a) := by
  have h' := LN.step_sub (step_shape s a) (fun v => ⟨v, rfl, fun _ _ => Nat.le_refl _, fun _ => le_refl _ _⟩)
    (subInv_iff.1 h) (fun _ _ => True) (fun _ _ _ => ⟨fun _ => trivial, fun _ _ => trivial⟩)
    (fun i k inc _ src k' w hw => by
      rw [LN.Res.inst_vers]
      split
      · rename_i e
        rw [← e.1, ← e.2]
        exact sub_mergeOpt hw
      · exact hw)
  rw [subInv_iff, step_n, step_join]
  exact h'

theorem init_subInv (n nk : Nat) (jn : Join) : SubInv (init n nk jn) :=
  ⟨fun _ _ hm => (by cases hm), fun _ _ hp => (by cases hp)⟩

theorem run_subInv (n nk : Nat) (jn : Join) (acts : List Act) : SubInv (run (init n nk jn) acts) :=
  runEqs.run_ind SubInv step_subInv acts _ (init_subInv n nk jn)

abbrev AuxInv (s : St) : Prop := LN.AuxInv (core s.view)

theorem step_aux (s : St) (a : Act) (h : AuxInv s) (hi : Inv s) : AuxInv (step s a) :=
  LN.step_aux (step_shape s a) h (fun _ _ => hi.msgs_lt)

theorem run_aux (n nk : Nat) (jn : Join) (acts : List Act) : AuxInv (run (init n nk jn) acts) :=
  (runEqs.run_ind (fun s => AuxInv s ∧ Inv s) (fun s a h => ⟨step_aux s a h.1 h.2, step_inv s a h.2⟩) acts _
    ⟨⟨fun _ _ hm => (by cases hm), fun _ _ hp => (by cases hp), fun _ _ hv => (by cases hv),
      fun _ _ hp => (by cases hp)⟩, init_inv n nk jn⟩).1

theorem step_sameWR (s : St) (a : Act) (hw : isWR s a = false) (hi : Inv s) : LN.SameWR s.view (step s a).view :=
  LN.step_sameWR (step_shape s a) (isWR_view s a ▸ hw) (hi.freshP _ (Nat.le_refl _)) (hi.freshM _ (Nat.le_refl _))
    (fun _ _ => hi.msgs_lt)

theorem replQuiescent_of_step (s : St) (a : Act) (hw : isWR s a = false) (hi : Inv s)
    (hq : replQuiescent (step s a)) : replQuiescent s :=
  (LN.SameWR.replQuiet_iff (step_sameWR s a hw hi)).2 hq

theorem replQuiescent_step (s : St) (a : Act) (hw : isWR s a = false) (hi : Inv s)
    (hq : replQuiescent s) : replQuiescent (step s a) :=
  (LN.SameWR.replQuiet_iff (step_sameWR s a hw hi)).1 hq

theorem run_sameWR (acts : List Act) (s : St) (hn : noWR s acts = true) (hi : Inv s) :
    LN.SameWR s.view (run s acts).view := by
  induction acts generalizing s with
  | nil => exact .of_eq rfl rfl
  | cons a as ih =>
    obtain ⟨hw, hn'⟩ := runEqs.noWR_head hn
    exact (step_sameWR s a hw hi).trans (ih (step s a) hn' (step_inv s a hi))

theorem replQuiescent_of_run (acts : List Act) (s : St) (hn : noWR s acts = true) (hi : Inv s)
    (hq : replQuiescent (run s acts)) : replQuiescent s :=
  (LN.SameWR.replQuiet_iff (run_sameWR acts s hn hi)).2 hq

theorem replQuiescent_run (acts : List Act) (s : St) (hn : noWR s acts = true) (hi : Inv s)
    (hq : replQuiescent s) : replQuiescent (run s acts) :=
  (LN.SameWR.replQuiet_iff (run_sameWR acts s hn hi)).1 hq

end HappyModel.C17.MLM
