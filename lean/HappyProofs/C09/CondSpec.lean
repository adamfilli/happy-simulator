import HappyProofs.C09.MutexSpec
/-! Condition (on top of the Mutex model): the model satisfies the executable Spec predicate `judgeCond` on every
operation list; the FIFO ledger of the condition queue. -/
namespace HappyModel.C09.Sync.Cond

def b01 (b : Bool) : Nat := if b then 1 else 0

/-- `runCond` in the driver prints exactly these fields; `cwait` = `.acq id 1 2`, `reacq` = `.acq id spins 3` with
    `spins = 0`, `notify n` = `.ctl n` -/
def obsOf (o : Op) (out : Out) (s' : St) : Obs :=
  { k := match o with
      | .mutex (.tryAcquire id) => .try_ id 1 0
      | .mutex (.acquire id) => .acq id 1 0
      | .mutex .release => .rel 1 0
      | .cwait id => .acq id 1 2
      | .notify n => .ctl n
      | .reacq id => .acq id 0 3
    res := out.res, woke := out.woke, c1 := b01 s'.m.locked, c2 := s'.m.waiters.length, c3 := s'.cw.length }

def obsTrace (s : St) : List Op → List Obs
  | [] => []
  | o :: os => obsOf o (step s o).2 (step s o).1 :: obsTrace (step s o).1 os

def run (s : St) : List Op → St
  | [] => s
  | o :: os => run (step s o).1 os

def trace (s : St) : List Op → List (Op × Out)
  | [] => []
  | o :: os => (o, (step s o).2) :: trace (step s o).1 os

structure Agree (b : CBook) (s : St) : Prop where
  m : Mutex.Agree b.m s.m
  cblocked : b.cblocked = s.cw

/-- the mutex judge reads only kind, result, wake list and time of an observation -/
theorem mapply_congr (e : Bool) (b : MBook) (o o' : Obs) (hk : o.k = o'.k) (hr : o.res = o'.res)
    (hw : o.woke = o'.woke) (ht : o.t = o'.t) : b.apply e o = b.apply e o' := by
  obtain ⟨t, k, res, woke, c1, c2, c3⟩ := o
  obtain ⟨t', k', res', woke', c1', c2', c3'⟩ := o'
  simp only at hk hr hw ht
  subst hk hr hw ht
  rfl

theorem mcheck_congr (b : MBook) (o o' : Obs) (h1 : o.c1 = o'.c1) (h2 : o.c2 = o'.c2) : b.check o = b.check o' := by
  unfold MBook.check; rw [h1, h2]

theorem step_mutex (s : St) (o : Mutex.Op) :
    step s (.mutex o) = ({ s with m := (Mutex.step s.m o).1 }, (Mutex.step s.m o).2) := rfl
theorem step_cwait (s : St) (id : Nat) : step s (.cwait id) =
    if !s.m.locked then (s, ⟨.errRuntime, []⟩)
    else ({ m := (Mutex.step s.m .release).1, cw := s.cw ++ [id] }, ⟨.queued, (Mutex.step s.m .release).2.woke⟩) := rfl
theorem step_notify (s : St) (n : Nat) : step s (.notify n) = ({ s with cw := s.cw.drop n }, ⟨.ok, s.cw.take n⟩) := rfl
theorem step_reacq (s : St) (id : Nat) : step s (.reacq id) =
    ({ s with m := (Mutex.step s.m (.acquire id)).1 }, (Mutex.step s.m (.acquire id)).2) := rfl

theorem step_minv (s : St) (o : Op) (inv : Mutex.Inv s.m) : Mutex.Inv (step s o).1.m := by
  cases o with
  | mutex mo => exact Mutex.step_inv s.m mo inv
  | reacq id => exact Mutex.step_inv s.m (.acquire id) inv
  | notify n => exact inv
  | cwait id =>
    rw [step_cwait]
    cases s.m.locked
    · exact inv
    · exact Mutex.step_inv s.m .release inv

theorem run_minv (s : St) (ops : List Op) (inv : Mutex.Inv s.m) : Mutex.Inv (run s ops).m := by
  induction ops generalizing s with
  | nil => exact inv
  | cons o os ih => exact ih _ (step_minv s o inv)

/-- `cwait` is judged as the `release` it contains, `reacq` as the `acquire` it is -/
theorem apply_step (s : St) (b : CBook) (o : Op) (ag : Agree b s) :
    ∃ b', b.apply false (obsOf o (step s o).2 (step s o).1) = .ok b' ∧ Agree b' (step s o).1 := by
  have agm : Mutex.AgreeE b.m s.m [] := ⟨ag.m.holders, ag.m.blocked, ag.m.resolved⟩
  cases o with
  | mutex mo =>
    obtain ⟨m', hap, hag⟩ := (Mutex.step_leaf s.m mo).follows false 0 b.m [] agm
    refine ⟨{ b with m := m' }, ?_, ⟨hag.holders, hag.blocked, hag.resolved⟩, ag.cblocked⟩
    have hc := mapply_congr false b.m (obsOf (.mutex mo) (step s (.mutex mo)).2 (step s (.mutex mo)).1)
      (Mutex.obsE 0 mo (Mutex.step s.m mo).2 (Mutex.step s.m mo).1) (by cases mo <;> rfl) rfl rfl rfl
    cases mo <;> (simp only [CBook.apply, obsOf] at hc ⊢; rw [hc, hap])
  | cwait id =>
    simp only [obsOf]; rw [step_cwait]
    cases hl : s.m.locked with
    | false => exact ⟨b, if_neg (fun h => h (by rw [ag.m.holders, hl]; rfl)), ag⟩
    | true =>
      obtain ⟨m', hap, hag⟩ := (Mutex.step_leaf s.m .release).follows false 0 b.m [] agm
      have h10 : ¬ b.m.holders = 0 := by rw [ag.m.holders, hl]; exact Nat.one_ne_zero
      refine ⟨{ m := m', cblocked := b.cblocked ++ [id] }, ?_, ⟨hag.holders, hag.blocked, hag.resolved⟩,
        congrArg (· ++ [id]) ag.cblocked⟩
      have hres : (Mutex.step s.m .release).2.res = .released := by
        simp only [Mutex.step, hl]; cases s.m.waiters <;> rfl
      simp only [Mutex.obsE, Mutex.obsOf, MBook.apply, procObs, hres] at hap
      simp only [CBook.apply, Bool.not_true, Bool.false_eq_true, if_false]
      rw [if_neg h10] at hap ⊢
      cases hw : wokeCheck "mutex" b.m.blocked (Mutex.step s.m .release).2.woke with
      | some e => rw [hw] at hap; cases hap
      | none => rw [hw] at hap; cases hap; rfl
  | notify n =>
    simp only [obsOf]; rw [step_notify]
    exact ⟨{ m := b.m, cblocked := b.cblocked.drop n }, if_neg (fun h => h (congrArg (·.take n) ag.cblocked).symm),
      ag.m, congrArg (·.drop n) ag.cblocked⟩
  | reacq id =>
    obtain ⟨m', hap, hag⟩ := (Mutex.step_leaf s.m (.acquire id)).follows false 0 b.m [] agm
    refine ⟨{ b with m := m' }, ?_, ⟨hag.holders, hag.blocked, hag.resolved⟩, ag.cblocked⟩
    have hc := mapply_congr false b.m
      { obsOf (.reacq id) (step s (.reacq id)).2 (step s (.reacq id)).1 with k := .acq id 1 0 }
      (Mutex.obsE 0 (.acquire id) (Mutex.step s.m (.acquire id)).2 (Mutex.step s.m (.acquire id)).1) rfl rfl rfl rfl
    simp only [CBook.apply, obsOf] at hc ⊢
    simp only [Bool.not_false, if_true]
    have : ({ b.m with resolved := b.m.resolved } : MBook) = b.m := rfl
    rw [this, hc, hap]

theorem check_ok (s : St) (b : CBook) (o : Obs) (inv : Mutex.Inv s.m) (ag : Agree b s)
    (h1 : o.c1 = Mutex.b01 s.m.locked) (h2 : o.c2 = s.m.waiters.length) (h3 : o.c3 = s.cw.length) :
    b.check o = none := by
  unfold CBook.check
  rw [Mutex.check_ok s.m b.m o inv ag.m.holders ag.m.blocked h1 h2, ag.cblocked, h3]
  simp

theorem judge_model (s : St) (b : CBook) (ops : List Op) (inv : Mutex.Inv s.m) (ag : Agree b s) :
    judgeCond false b (obsTrace s ops) = none := by
  induction ops generalizing s b with
  | nil => rfl
  | cons o os ih =>
    obtain ⟨b', hap, hag⟩ := apply_step s b o ag
    have hinv := step_minv s o inv
    simp only [obsTrace, judgeCond, hap]
    rw [check_ok (step s o).1 b' _ hinv hag rfl rfl rfl]
    exact ih _ _ hinv hag

def cwaitIds : List (Op × Out) → List Nat
  | [] => []
  | (.cwait id, out) :: r => (if out.res = .queued then [id] else []) ++ cwaitIds r
  | _ :: r => cwaitIds r

def notifiedIds : List (Op × Out) → List Nat
  | [] => []
  | (.notify _, out) :: r => out.woke ++ notifiedIds r
  | _ :: r => notifiedIds r

theorem notify_ledger (s : St) (ops : List Op) :
    s.cw ++ cwaitIds (trace s ops) = notifiedIds (trace s ops) ++ (run s ops).cw := by
  induction ops generalizing s with
  | nil => simp [trace, cwaitIds, notifiedIds, run]
  | cons o os ih =>
    cases o with
    | mutex mo => simp only [trace, cwaitIds, notifiedIds, run]; rw [step_mutex]; exact ih { s with m := (Mutex.step s.m mo).1 }
    | reacq id => simp only [trace, cwaitIds, notifiedIds, run]; rw [step_reacq]; exact ih { s with m := (Mutex.step s.m (.acquire id)).1 }
    | cwait id =>
      simp only [trace, cwaitIds, notifiedIds, run]; rw [step_cwait]
      split
      · simpa using ih s
      · have ih' := ih { m := (Mutex.step s.m .release).1, cw := s.cw ++ [id] }
        simp only [List.append_assoc] at ih'
        simpa using ih'
    | notify n =>
      simp only [trace, cwaitIds, notifiedIds, run]; rw [step_notify]
      have ih' := ih { s with cw := s.cw.drop n }
      simp only [List.append_assoc]
      rw [← ih', ← List.append_assoc, List.take_append_drop]

end HappyModel.C09.Sync.Cond
