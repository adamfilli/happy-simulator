import HappyProofs.C13.Sched
import HappyProofs.C13.Partition
/-!
The invariant behind `no_false_death` and its preservation by every action of a timely schedule:
no live member is DEAD in anybody's view, no "dead" update about a live member is queued or in
flight, and every timer armed at a live node for a live member has *evidence* — a ping or an ack in
flight whose deadline lies before the suspicion timeout can fire.
-/
set_option linter.unusedSectionVars false
namespace HappyModel.C13
variable {D : Type} [Inhabited D] [Detector D]

theorem notDead_respects {now : Nat} :
    Respects (D := D) now (fun m m' => m.st ≠ .dead → m'.st ≠ .dead) (fun u => u.kind ≠ .dead) True False where
  refl _ h := h
  trans h1 h2 h := h2 (h1 h)
  gsuspect _ _ _ _ _ _ := nofun
  gdead _ _ hu hk := absurd hk hu
  galive _ _ _ _ _ _ := nofun
  heard _ m h := by
    show (if m.st = .suspect then MState.alive else m.st) ≠ .dead
    split
    · exact fun h => nomatch h
    · exact h
  suspect _ _ _ := fun h => nomatch h
  dead h := h.elim

def deadlineOf (susp : Nat) (t : Timer) : Nat :=
  match t.kind with
  | .ind => t.fire + susp
  | .susp => t.fire

/-- a ping `a → x` or an ack `x → a` is in flight and its (round-trip) deadline is before `F` -/
def Evid (δ : Nat) (soup : List Msg) (a x F : Nat) : Prop :=
  ∃ m ∈ soup, (m.kind = .ping ∧ m.src = a ∧ m.dst = x ∧ m.sent + δ + δ < F) ∨
              (m.kind = .ack ∧ m.src = x ∧ m.dst = a ∧ m.sent + δ < F)

structure Inv (c : Cfg) (δ : Nat) (s : Sys D) : Prop where
  /-- no partition is active: the network routes everything it is handed -/
  whole : s.whole = true
  pendMem : ∀ a x t, (s.node a).pendOf x = some t → isMember c.n a x = true
  view : ∀ a x, s.live x → (s.node a).view x ≠ .dead
  upds : ∀ x, s.live x → AllUpds (fun u => ¬ (u.member = x ∧ u.kind = .dead)) s
  evid : ∀ a x t, s.live a → s.live x → (s.node a).pendOf x = some t →
    Evid δ s.soup a x (deadlineOf c.susp t)

/-- evidence for `(a, x)` survives whatever fires at `b`: a ping `a → x` that is handled is answered by
    an ack in time; only an ack `x → a` handled by `a` itself uses the evidence up -/
theorem Fires.evid {c : Cfg} {δ : Nat} {s : Sys D} {act : Act} {now b : Nat} {r : Node D × List Out}
    {soup : List Msg} (hf : Fires c s act now b r soup) (ht : TimelyAt δ s now) {a x F : Nat}
    (he : Evid δ s.soup a x F) :
    Evid δ (soup ++ stamp b now s.nextId r.2) a x F ∨
    ∃ m, m.kind = .ack ∧ m.src = x ∧ b = a ∧ r = handleMsg c a now m (s.node a) := by
  obtain ⟨w, hw, hcase⟩ := he
  cases hf with
  | tick | ind | susp => exact .inl ⟨w, List.mem_append_left _ hw, hcase⟩
  | msg m hm hd =>
    by_cases hwm : w = m
    · subst hwm
      rcases hcase with ⟨hk, hs, hd', hlt⟩ | ⟨hk, hs, hd', _⟩
      · rcases (handleMsg_answered c b now w (s.node b)).outs with ⟨_, hout⟩ | ⟨hk', _⟩
        · refine .inl ⟨⟨s.nextId, .ack, b, w.src, now, none, (applyUpdates c.n b (s.node b) w.upds).upds⟩, ?_,
            .inr ⟨rfl, hd.symm.trans hd', hs, ?_⟩⟩
          · rw [hout]
            exact List.mem_append_right _ (List.mem_cons_self ..)
          · have := ht w hw
            show now + δ < _
            omega
        · exact nomatch hk.symm.trans hk'
      · exact .inr ⟨w, hk, hs, hd.symm.trans hd', hd.symm.trans hd' ▸ rfl⟩
    · exact .inl ⟨w, List.mem_append_left _ ((List.mem_erase_of_ne hwm).mpr hw), hcase⟩

theorem inv_step {c : Cfg} {δ : Nat} (hδ : 2 * δ < c.half + c.susp) {s s' : Sys D} {act : Act}
    (I : Inv c δ s) (ht : TimelyAt δ s act.time) (h : Step c s act s') (hw : s'.whole = true) :
    Inv c δ s' := by
  have live' : ∀ y, s'.live y → s.live y := fun y hy => by
    cases hc : s.isCrashed y with
    | false => exact hc
    | true => rw [Sys.live, crashed_step h y hc] at hy; cases hy
  -- the suspicion timer of a live member is never due at a live node: its evidence would be overdue
  have hdead : ∀ b y t, s.isCrashed b = false → (s.node b).pendOf y = some t → t.kind = .susp →
      t.fire = act.time → ¬ s.live y := by
    intro b y t hb hp hk hf hy
    obtain ⟨w, hw, hcase⟩ := I.evid b y t hb hy hp
    have hnow := ht w hw
    have hd : deadlineOf c.susp t = act.time := by simp only [deadlineOf, hk, hf]
    rw [hd] at hcase
    rcases hcase with ⟨_, _, _, h⟩ | ⟨_, _, _, h⟩ <;> omega
  have hview : ∀ a x, s'.live x → (s'.node a).view x ≠ .dead := by
    intro a x hx
    have hx0 := live' x hx
    rcases h.node a with e | ⟨r, soup, hf, ha, e⟩ <;> rw [e]
    · exact I.view a x hx0
    · exact hf.entry notDead_respects x
        (fun m hm _ => ⟨fun u hu hux hk => (I.upds x hx0).soup m hm u hu ⟨hux, hk⟩, fun _ => trivial⟩)
        (fun t hp hk hfi => hdead a x t ha hp hk hfi hx0) (I.view a x hx0)
  have hupds : ∀ x, s'.live x → AllUpds (fun u => ¬ (u.member = x ∧ u.kind = .dead)) s' :=
    fun x hx => allUpds_step (fun _ _ h => nomatch h.2) h (I.upds x (live' x hx))
      (fun b y t _ hb hp hk hfi hyx => hdead b y t hb hp hk hfi ((show y = x from hyx.1) ▸ live' x hx))
  -- every armed timer is for a member and, between live nodes, has evidence in the new soup
  have key : ∀ a x t, (s'.node a).pendOf x = some t → isMember c.n a x = true ∧
      (s.live a → s.live x → Evid δ s'.soup a x (deadlineOf c.susp t)) := by
    cases h with
    | skip crashed cuts soup hcr hsoup hdrop =>
      refine fun a x t hp => ⟨I.pendMem a x t hp, fun ha hx => ?_⟩
      obtain ⟨w, hw, hcase⟩ := I.evid a x t ha hx hp
      rcases hdrop w hw with hin | hcr
      · exact ⟨w, hin, hcase⟩
      · -- a message is dropped only at a crashed destination
        rcases hcase with ⟨_, _, hd, _⟩ | ⟨_, _, hd, _⟩
        · rw [hd, hx] at hcr; cases hcr
        · rw [hd, ha] at hcr; cases hcr
    | fire b r soup hb hf =>
      intro a x t hp
      rw [soup_commit _ _ _ _ _ I.whole]
      -- a timer that was armed before (for the same deadline) keeps its evidence
      have old : ∀ t0, (s.node a).pendOf x = some t0 → deadlineOf c.susp t0 = deadlineOf c.susp t →
          isMember c.n a x = true ∧ (s.live a → s.live x →
            Evid δ (soup ++ stamp b act.time s.nextId r.2) a x (deadlineOf c.susp t)) := by
        refine fun t0 hp0 hd => ⟨I.pendMem a x t0 hp0, fun ha hx => ?_⟩
        rcases hf.evid ht (I.evid a x t0 ha hx hp0) with h | ⟨m, hk, hs, hba, e⟩
        · exact hd ▸ h
        · -- an ack `x → a` cancels the timer
          subst hba
          rw [node_commit_same, e] at hp
          rcases handleMsg_ctl c b act.time m (s.node b) with ⟨_, hn⟩ | ⟨_, _, h⟩
          · exact absurd ⟨hk, hs ▸ I.pendMem b x t0 hp0⟩ hn
          · rw [h.pendOf, if_pos hs.symm] at hp
            cases hp
      by_cases hab : a = b
      · subst hab
        rw [node_commit_same] at hp
        cases hf with
        | tick shuf hact hnt =>
          rcases onTick_pend c a act.time shuf (s.node a) x with h | ⟨_, hm, h, us, hout⟩ <;> rw [h] at hp
          · exact old t hp rfl
          · -- the probe tick arms the ack timer of its target: the ping just sent is the evidence
            cases hp
            refine ⟨hm, fun _ _ => ⟨⟨s.nextId, .ping, a, x, act.time, none, us⟩, ?_, .inl ⟨rfl, rfl, rfl, ?_⟩⟩⟩
            · rw [hout]
              exact List.mem_append_right _ (List.mem_cons_self ..)
            · show act.time + δ + δ < act.time + c.half + c.susp
              omega
        | msg m hm hd =>
          rcases handleMsg_ctl c a act.time m (s.node a) with ⟨h, _⟩ | ⟨_, _, h⟩ <;> rw [h.pendOf] at hp
          · exact old t hp rfl
          · split at hp
            · cases hp
            · exact old t hp rfl
        | ind y shuf t0 hp0 hk hfi =>
          rw [(onIndTimeout_ctl c a _ y shuf _).pendOf] at hp
          split at hp
          · -- the suspicion timer inherits the deadline, hence the evidence, of the ack timer
            rename_i hxy
            cases hp
            exact old t0 (hxy ▸ hp0) (by simp only [deadlineOf, hk, hfi])
          · exact old t hp rfl
        | susp y t0 hp0 hk hfi =>
          rw [(onSuspTimeout_ctl y _).pendOf] at hp
          split at hp
          · cases hp
          · exact old t hp rfl
      · rw [node_commit_other hab] at hp
        exact old t hp rfl
  exact ⟨hw, fun a x t hp => (key a x t hp).1, hview, hupds,
    fun a x t ha hx hp => (key a x t hp).2 (live' a ha) (live' x hx)⟩

theorem allUpds_init (S : Update → Prop) (c : Cfg) (det : D) (orders : List (List Nat))
    (offs : List Nat) : AllUpds S (Sys.init c det orders offs) :=
  ⟨fun b u hu => (by rw [(init_node c det orders offs b).2.2] at hu; cases hu), fun m hm => (by cases hm)⟩

theorem inv_init (c : Cfg) (δ : Nat) (det : D) (orders : List (List Nat)) (offs : List Nat) :
    Inv c δ (Sys.init c det orders offs) := by
  refine ⟨rfl, ?_, ?_, fun x _ => allUpds_init _ c det orders offs, ?_⟩
  · intro a x t hp; rw [(init_node c det orders offs a).1 x] at hp; cases hp
  · intro a x _; rw [(init_node c det orders offs a).2.1 x]; exact fun h => nomatch h
  · intro a x t _ _ hp; rw [(init_node c det orders offs a).1 x] at hp; cases hp

theorem inv_run {c : Cfg} {δ : Nat} (hδ : 2 * δ < c.half + c.susp) {s : Sys D} {acts : List Act}
    (I : Inv c δ s)
    (ht : Along c (fun s act => TimelyAt δ s act.time ∧ (step c s act).whole = true) s acts) :
    Inv c δ (run c s acts) :=
  run_along (fun s act I h => inv_step hδ I h.1 (step_rel c s act) h.2) I ht

/-! Nothing else uses what follows. -/

def hasDead (x : Nat) (us : List Update) : Prop := ∃ u ∈ us, u.member = x ∧ u.kind = .dead

theorem hasDead_nil (x : Nat) : ¬ hasDead x [] := fun ⟨_, h, _⟩ => by cases h

theorem hasDead_cons (x : Nat) (u : Update) (us : List Update) :
    hasDead x (u :: us) ↔ (u.member = x ∧ u.kind = .dead) ∨ hasDead x us := by
  simp [hasDead]

theorem hasDead_append (x : Nat) (us vs : List Update) :
    hasDead x (us ++ vs) ↔ hasDead x us ∨ hasDead x vs := by
  simp only [hasDead, List.mem_append, or_and_right, exists_or]

def Clean (x : Nat) (nd : Node D) : Prop := nd.view x ≠ .dead ∧ ¬ hasDead x nd.upds

theorem clean_onSuspTimeout_notSuspect (x y : Nat) (nd : Node D) (h : Clean x nd)
    (hs : nd.view y ≠ .suspect) : Clean x (onSuspTimeout y nd) := by
  rcases onSuspTimeout_cases y nd with ⟨_, e⟩ | ⟨h', _⟩
  · rw [e]
    exact h
  · exact absurd h' hs

end HappyModel.C13
