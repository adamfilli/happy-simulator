import HappyModel.C05.Parallel
/-!
The barrier exchange does not depend on the order in which partitions complete a window.

`WindowedCoordinator.run` submits every partition's window to a thread pool and collects the results
with `as_completed()`: the *completion order* is wall-clock thread timing.  The model of C05
(`HappyModel/C05/Parallel.lean`) runs the windows with `execAll` (a `map`) and exchanges with
`exchange`, which walks the outboxes in partition **declaration** order (`allMsgs`).

Here the completion order is made explicit: `execInOrder order` runs the windows one after another in
the order `order` (any permutation of the partition positions), each writing its result back into its
own slot — a partition's window is a function of its own state.  `exchangeStaged` is the exchange of the seeded
change `C03-r4-m1`, which delivers the outboxes in completion order.
-/
namespace HappyModel.C03
open HappyModel.C05

variable {σ : Type}

def execSlot (h : Handler σ) (c : Cfg) (strict : Bool) (fuel we : Nat) (ps : List (Part σ)) (i : Nat) :
    List (Part σ) :=
  match ps[i]? with
  | none => ps
  | some p => ps.set i (runWin h (c.route p.pid) strict we fuel p)

/-- EXECUTE phase with an explicit completion order -/
def execInOrder (h : Handler σ) (c : Cfg) (strict : Bool) (fuel we : Nat) (order : List Nat)
    (ps : List (Part σ)) : List (Part σ) :=
  order.foldl (execSlot h c strict fuel we) ps

theorem execSlot_length (h : Handler σ) (c : Cfg) (strict : Bool) (fuel we : Nat) (ps : List (Part σ)) (i : Nat) :
    (execSlot h c strict fuel we ps i).length = ps.length := by
  unfold execSlot; split <;> simp

theorem execSlot_get (h : Handler σ) (c : Cfg) (strict : Bool) (fuel we : Nat) (ps : List (Part σ)) (i j : Nat) :
    (execSlot h c strict fuel we ps i)[j]? =
      if j = i then (ps[j]?).map (fun p => runWin h (c.route p.pid) strict we fuel p) else ps[j]? := by
  unfold execSlot
  by_cases hji : j = i
  · subst hji
    cases hp : ps[j]? with
    | none => simp [hp]
    | some p =>
      have hlt : j < ps.length := (List.getElem?_eq_some_iff.mp hp).1
      simp [hlt]
  · cases hp : ps[i]? with
    | none => simp [hji]
    | some p =>
      have : ¬ i = j := fun h => hji h.symm
      simp [hji, this]

theorem execInOrder_get (h : Handler σ) (c : Cfg) (strict : Bool) (fuel we : Nat) :
    ∀ (order : List Nat) (ps : List (Part σ)) (j : Nat), order.Nodup →
      (execInOrder h c strict fuel we order ps)[j]? =
        if j ∈ order then (ps[j]?).map (fun p => runWin h (c.route p.pid) strict we fuel p) else ps[j]? := by
  intro order
  induction order with
  | nil => intro ps j _; simp [execInOrder]
  | cons i rest ih =>
    intro ps j hnd
    have hnd' := List.nodup_cons.mp hnd
    have := ih (execSlot h c strict fuel we ps i) j hnd'.2
    unfold execInOrder at this ⊢
    rw [List.foldl_cons, this, execSlot_get]
    by_cases hji : j = i
    · subst hji
      simp [hnd'.1]
    · simp [hji]

theorem execAll_get (h : Handler σ) (c : Cfg) (strict : Bool) (fuel we : Nat) (ps : List (Part σ)) (j : Nat) :
    (execAll h c strict fuel we ps)[j]? = (ps[j]?).map (fun p => runWin h (c.route p.pid) strict we fuel p) := by
  simp [execAll]

/-- a completion order: no entry twice, every slot `< n` among them (an entry `≥ n` names no slot: `execSlot` ignores it) -/
def IsCompletionOrder (order : List Nat) (n : Nat) : Prop := order.Nodup ∧ ∀ j, j < n → j ∈ order

theorem execInOrder_eq_execAll (h : Handler σ) (c : Cfg) (strict : Bool) (fuel we : Nat) (order : List Nat)
    (ps : List (Part σ)) (ho : IsCompletionOrder order ps.length) :
    execInOrder h c strict fuel we order ps = execAll h c strict fuel we ps := by
  apply List.ext_getElem?
  intro j
  rw [execInOrder_get h c strict fuel we order ps j ho.1, execAll_get]
  have := ho.2 j
  grind

/-- **the barrier exchange is independent of the completion order**: whatever order the worker threads
    finish in, the outboxes are walked in declaration order and every destination heap receives the
    same events in the same order -/
theorem exchange_order_independent_of_completion (h : Handler σ) (c : Cfg) (strict : Bool) (fuel we : Nat)
    (order₁ order₂ : List Nat) (ps : List (Part σ))
    (h₁ : IsCompletionOrder order₁ ps.length) (h₂ : IsCompletionOrder order₂ ps.length) :
    exchange c (execInOrder h c strict fuel we order₁ ps) = exchange c (execInOrder h c strict fuel we order₂ ps) := by
  rw [execInOrder_eq_execAll h c strict fuel we order₁ ps h₁, execInOrder_eq_execAll h c strict fuel we order₂ ps h₂]

theorem oneWindow_order_independent_of_completion (h : Handler σ) (c : Cfg) (strict : Bool) (fuel we : Nat)
    (order : List Nat) (ps : List (Part σ)) (ho : IsCompletionOrder order ps.length) :
    exchange c (execInOrder h c strict fuel we order ps) = oneWindow h c strict fuel we ps := by
  rw [execInOrder_eq_execAll h c strict fuel we order ps ho]; rfl

/-- all outbox entries in the order in which the partitions *completed* -/
def allMsgsIn (order : List Nat) (ps : List (Part σ)) : List Msg :=
  order.flatMap (fun i => match ps[i]? with | some p => msgsOf p | none => [])

/-- the exchange of the seeded change: staged per partition as it completes, delivered in that order -/
def exchangeStaged (c : Cfg) (order : List Nat) (ps : List (Part σ)) : List (Part σ) :=
  ps.map (inject c (allMsgsIn order ps))

theorem exchangeStaged_declaration_order (c : Cfg) (ps : List (Part σ)) :
    exchangeStaged c (List.range ps.length) ps = exchange c ps := by
  have : allMsgsIn (List.range ps.length) ps = allMsgs ps := by
    induction ps with
    | nil => simp [allMsgsIn, allMsgs]
    | cons a l ih =>
      unfold allMsgsIn allMsgs at ih ⊢
      simp only [List.length_cons, List.range_succ_eq_map, List.flatMap_cons, List.flatMap_map]
      simp only [List.getElem?_cons_zero, List.getElem?_cons_succ]
      rw [ih]
  unfold exchangeStaged exchange
  rw [this]

/-- two senders (partitions 0 and 1) and a hub (partition 2): entity `k` lives in partition `k` -/
def demoCfg : Cfg := { partOf := #[0, 1, 2], nparts := 3, links := [⟨0, 2, 10⟩, ⟨1, 2, 10⟩] }

/-- a sender forwards every event to the hub with delay 10; the hub emits nothing -/
def demoHandler : Handler Unit := fun _ e => ((), if e.tgt = 2 then [] else [⟨10, 2, e.tgt + 7⟩])

/-- both senders hold one event for time 5 with the same creation index (each partition counts its own) -/
def demoParts : List (Part Unit) :=
  [Part.init 0 0 () [⟨5, 0, 0, 0⟩], Part.init 1 0 () [⟨5, 0, 1, 0⟩], Part.init 2 0 () []]

/-- after the window both outboxes hold an event for the hub at time 15 with the same key -/
example : (allMsgs (execAll demoHandler demoCfg true 10 10 demoParts)).map (fun m => (m.src, m.ev.time, m.ev.idx)) =
    [(0, 15, 0), (1, 15, 0)] := by decide

/-- delivering in completion order changes the layout of the hub's heap … -/
theorem staged_exchange_depends_on_completion :
    ((exchangeStaged demoCfg [0, 1, 2] (execAll demoHandler demoCfg true 10 10 demoParts)).map (·.heap)) ≠
    ((exchangeStaged demoCfg [1, 0, 2] (execAll demoHandler demoCfg true 10 10 demoParts)).map (·.heap)) := by
  decide +kernel

/-- … and the hub then delivers the two same-key events in a different order in the next window -/
theorem staged_delivery_order_depends_on_completion :
    ((execAll demoHandler demoCfg true 10 20
        (exchangeStaged demoCfg [0, 1, 2] (execAll demoHandler demoCfg true 10 10 demoParts))).map (·.log)) ≠
    ((execAll demoHandler demoCfg true 10 20
        (exchangeStaged demoCfg [1, 0, 2] (execAll demoHandler demoCfg true 10 10 demoParts))).map (·.log)) := by
  decide +kernel

/-- non-vacuity of the positive theorem on the same model: both completion orders are completion orders,
    and the real exchange gives the hub the events in declaration order -/
example : IsCompletionOrder [1, 0, 2] demoParts.length ∧ IsCompletionOrder [0, 1, 2] demoParts.length ∧
    ((exchange demoCfg (execInOrder demoHandler demoCfg true 10 10 [1, 0, 2] demoParts)).map (·.heap)) =
      [[], [], [⟨15, 0, 2, 7⟩, ⟨15, 0, 2, 8⟩]] := by
  refine ⟨⟨by decide +kernel, by decide +kernel⟩, ⟨by decide +kernel, by decide +kernel⟩, by decide +kernel⟩

end HappyModel.C03
