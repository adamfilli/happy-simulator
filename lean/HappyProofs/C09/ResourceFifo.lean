import HappyProofs.C09.ResourceInv
namespace HappyModel.C09.Res

def ids (l : List (Nat × Int)) : List Nat := l.map (·.1)

def callIds : List Op → List Nat
  | [] => []
  | .acquire id _ :: os => id :: callIds os
  | .tryAcquire id _ :: os => id :: callIds os
  | .release _ :: os => callIds os
  | .setCapacity _ :: os => callIds os

def queuedIds : List (Op × Out) → List Nat
  | [] => []
  | (.acquire id _, ⟨.queued, _⟩) :: r => id :: queuedIds r
  | _ :: r => queuedIds r

def wokenIds : List (Op × Out) → List Nat
  | [] => []
  | (_, out) :: r => out.woke ++ wokenIds r

def grantIds : List (Op × Out) → List Nat
  | [] => []
  | (.acquire id _, ⟨.granted, _⟩) :: r => id :: grantIds r
  | (.tryAcquire id _, ⟨.granted, _⟩) :: r => id :: grantIds r
  | (_, out) :: r => out.woke ++ grantIds r

/-- per operation: the call ids it disposes of (granted, refused, rejected, or woken) -/
def settled1 : Op × Out → List Nat
  | (.acquire id _, out) => if out.res = .queued then [] else [id]
  | (.tryAcquire id _, _) => [id]
  | (.release _, out) => out.woke
  | (.setCapacity _, out) => out.woke

def settledIds : List (Op × Out) → List Nat
  | [] => []
  | x :: r => settled1 x ++ settledIds r

def ids1 : Op → List Nat
  | .acquire id _ => [id]
  | .tryAcquire id _ => [id]
  | .release _ => []
  | .setCapacity _ => []

theorem callIds_cons (o : Op) (os : List Op) : callIds (o :: os) = ids1 o ++ callIds os := by
  cases o <;> rfl

theorem woken_ids (cap a : Int) (held ws : List (Nat × Int)) (r : Res) :
    (woken cap a held ws r).2.woke ++ ids (woken cap a held ws r).1.waiters = ids ws := by
  simp only [woken, ids]; rw [← List.map_append, List.take_append_drop]

section
variable {s : St} {o : Op} {r : St × Out}

theorem Leaf.fifo (h : Leaf s o r) : ids s.waiters ++ queuedIds [(o, r.2)] = r.2.woke ++ ids r.1.waiters := by
  cases h with
  | acqQueue id a => exact (List.map_append (f := (·.1)) (l₁ := s.waiters) (l₂ := [(id, a)])).symm
  | released | grown => exact (List.append_nil _).trans (woken_ids ..).symm
  | _ => exact List.append_nil _

theorem Leaf.settle (h : Leaf s o r) : (settled1 (o, r.2) ++ ids r.1.waiters).Perm (ids s.waiters ++ ids1 o) := by
  cases h with
  | acqQueue => exact .of_eq (List.map_append.trans rfl)
  | released | grown => exact .of_eq ((woken_ids ..).trans (List.append_nil _).symm)
  | relNoop | relRaised | capBad | shrunk => exact .of_eq (List.append_nil _).symm
  | _ => exact List.perm_append_comm (l₁ := [_])

theorem Leaf.grants (h : Leaf s o r) {t : List (Op × Out)} (ih : (grantIds t).Sublist (settledIds t)) :
    (grantIds ((o, r.2) :: t)).Sublist (settled1 (o, r.2) ++ settledIds t) := by
  cases h with
  | acqGrant | tryGrant => exact ih.cons_cons _
  | acqBad | tryBad | tryRefused => exact ih.cons _
  | acqQueue => exact ih
  | _ => exact (List.Sublist.refl _).append ih

end

theorem queuedIds_cons (x : Op × Out) (r : List (Op × Out)) :
    queuedIds (x :: r) = queuedIds [x] ++ queuedIds r := by
  obtain ⟨o, out⟩ := x
  cases o with
  | acquire id a =>
    obtain ⟨res, woke⟩ := out
    cases res <;> simp [queuedIds]
  | tryAcquire _ _ | release _ | setCapacity _ => simp [queuedIds]

theorem fifo_ledger (s : St) (ops : List Op) :
    ids s.waiters ++ queuedIds (trace s ops) = wokenIds (trace s ops) ++ ids (run s ops).waiters := by
  induction ops generalizing s with
  | nil => simp [trace, queuedIds, wokenIds, run]
  | cons o os ih =>
    simp only [trace, run, wokenIds]
    rw [queuedIds_cons, ← List.append_assoc, (step_leaf s o).fifo, List.append_assoc, ih, List.append_assoc]

theorem settle_ledger (s : St) (ops : List Op) :
    (settledIds (trace s ops) ++ ids (run s ops).waiters).Perm (ids s.waiters ++ callIds ops) := by
  induction ops generalizing s with
  | nil => simp [trace, settledIds, run, callIds]
  | cons o os ih =>
    simp only [trace, run, settledIds]
    rw [callIds_cons, List.append_assoc, ← List.append_assoc (ids s.waiters)]
    exact ((ih (step s o).1).append_left _).trans
      (by rw [← List.append_assoc]; exact (step_leaf s o).settle.append_right _)

theorem grantIds_sublist_settled (s : St) (ops : List Op) :
    (grantIds (trace s ops)).Sublist (settledIds (trace s ops)) := by
  induction ops generalizing s with
  | nil => exact .slnil
  | cons o os ih => exact (step_leaf s o).grants (ih _)

end HappyModel.C09.Res
