import HappyModel.C09.ThreadPool
namespace HappyModel.C09.TPool

/-- the pending internal events without the queue's notifications: the driver's round trip -/
def core : List Ev → List Ev
  | [] => []
  | .notify :: es => core es
  | e :: es => e :: core es

/-- at most one poll → deliver → work → dispatched round trip is in flight, the driver knows it (`busy`),
    and the worker slot the dispatched task will take is still free -/
def Shape (s : St) : Prop :=
  (s.busy = false ∧ core s.pend = [])
  ∨ (s.busy = true ∧ s.active < s.n ∧ core s.pend = [.poll])
  ∨ (s.busy = true ∧ core s.pend = [.deliver none])
  ∨ (s.busy = true ∧ s.active < s.n ∧ ∃ t, core s.pend = [.deliver (some t)])
  ∨ (s.busy = true ∧ s.active < s.n ∧ ∃ t, core s.pend = [.work t, .disp])
  ∨ (s.busy = true ∧ core s.pend = [.disp])

structure Inv (s : St) : Prop where
  bound : s.active ≤ s.n
  act : s.active = s.running.length
  noLoss : s.rejected = 0
  conserve : s.accepted = s.queue.length + (transit s.pend).length + s.active + s.completed
  order : s.acceptedL = s.started ++ transit s.pend ++ s.queue
  shape : Shape s

theorem init_inv (n : Nat) (qcap : Option Nat) : Inv { n := n, qcap := qcap } :=
  ⟨Nat.zero_le _, rfl, rfl, rfl, rfl, Or.inl ⟨rfl, rfl⟩⟩

theorem core_append (a b : List Ev) : core (a ++ b) = core a ++ core b := by
  induction a with
  | nil => rfl
  | cons e es ih => cases e <;> simp [core, ih]

theorem transit_core (l : List Ev) : transit (core l) = transit l := by
  induction l with
  | nil => rfl
  | cons e es ih =>
    cases e with
    | deliver x => cases x <;> simp [core, transit, ih]
    | work t => simp [core, transit, ih]
    | _ => simpa [core, transit] using ih

theorem transit_of_core_nil (l : List Ev) (h : core l = []) : transit l = [] := by
  rw [← transit_core, h]; rfl

theorem transit_append (a b : List Ev) : transit (a ++ b) = transit a ++ transit b := by
  induction a with
  | nil => rfl
  | cons e es ih =>
    cases e with
    | deliver x => cases x <;> simp [transit, ih]
    | work t => simp [transit, ih]
    | _ => simpa [transit] using ih

/-- the notification a `submit` may append is neither in transit nor part of the round trip -/
theorem notify_frame (c : Prop) [Decidable c] (p : List Ev) :
    transit (if c then p ++ [.notify] else p) = transit p ∧ core (if c then p ++ [.notify] else p) = core p := by
  split
  · rw [transit_append, core_append]; simp [transit, core]
  · exact ⟨rfl, rfl⟩

theorem Shape.congr {s s' : St} (h : Shape s) (hb : s'.busy = s.busy) (hn : s'.n = s.n) (ha : s'.active = s.active)
    (hc : core s'.pend = core s.pend) : Shape s' := by
  unfold Shape at h ⊢
  rw [hb, hn, ha, hc]
  exact h

theorem shape_not_busy (s : St) (h : Shape s) (hb : s.busy = false) : core s.pend = [] := by
  rcases h with h | h | h | h | h | h
  · exact h.2
  all_goals (have := h.1; rw [hb] at this; cases this)

theorem shape_idle (s : St) (h : Shape s) (hc : core s.pend = []) : s.busy = false := by
  unfold Shape at h
  rw [hc] at h
  rcases h with h | ⟨_, _, h⟩ | ⟨_, h⟩ | ⟨_, _, _, h⟩ | ⟨_, _, _, h⟩ | ⟨_, h⟩
  · exact h.1
  all_goals cases h

/-- what the shape says when the head `e` of `pend` is an event of the round trip: the driver is busy, the slot
    is still free unless the round trip is over, and behind `e` there is only what follows it in the round trip -/
theorem Shape.head {s : St} (h : Shape s) {e : Ev} {rest : List Ev} (hp : s.pend = e :: rest) (hn : e ≠ Ev.notify) :
    s.busy = true ∧ (e ≠ Ev.deliver none → e ≠ Ev.disp → s.active < s.n)
      ∧ core rest = (match (generalizing := false) e with | .work _ => [Ev.disp] | _ => []) := by
  have hcp : core s.pend = e :: core rest := by
    rw [hp]; cases e <;> first | rfl | exact absurd rfl hn
  unfold Shape at h
  rw [hcp] at h
  rcases h with h | ⟨hb, hl, hc⟩ | ⟨hb, hc⟩ | ⟨hb, hl, t, hc⟩ | ⟨hb, hl, t, hc⟩ | ⟨hb, hc⟩
  · cases h.2
  -- the shapes with head `poll`, `deliver (some t)`, `work t` carry `active < n` (first term); in the two without it the
  -- head is `deliver none` (second term) or `disp` (third)
  all_goals
    injection hc with h1 h2
    subst h1
    first | exact ⟨hb, fun _ _ => hl, h2⟩ | exact ⟨hb, fun h _ => absurd rfl h, h2⟩ | exact ⟨hb, fun _ h => absurd rfl h, h2⟩

theorem Inv.pend {s : St} (inv : Inv s) {b r : Bool} {p : List Ev} (ht : transit p = transit s.pend)
    (hs : Shape { s with busy := b, recheck := r, pend := p }) : Inv { s with busy := b, recheck := r, pend := p } :=
  { inv with conserve := by simpa only [ht] using inv.conserve, order := by simpa only [ht] using inv.order, shape := hs }

/-- it touches only `busy`, `recheck` and `pend`, and leaves the tasks in transit in `pend` as they are -/
theorem poll_frame (s : St) : ∃ b r p, (pollIfReady s).1 = { s with busy := b, recheck := r, pend := p }
    ∧ transit p = transit s.pend := by
  simp only [pollIfReady]
  split
  · exact ⟨_, _, _, rfl, rfl⟩
  · split
    · exact ⟨_, _, _, rfl, rfl⟩
    · exact ⟨_, _, _, rfl, by rw [transit_append]; simp [transit]⟩

theorem poll_params (s : St) : (pollIfReady s).1.n = s.n ∧ (pollIfReady s).1.qcap = s.qcap := by
  obtain ⟨_, _, _, h, -⟩ := poll_frame s
  rw [h]
  exact ⟨rfl, rfl⟩

/-! One constructor per leaf of the `if`/`match` tree of `step` that is not a refusal, with what its guards say.  `bad`
stands for all the refusals (an internal delivery that is not the head of `pend`, a `finish` of a task that is not running)
and forgets their guards: `Leaf s o s .bad` holds of every `o` but a `submit`, so there `Leaf` says less than `step`. -/

inductive Leaf (s : St) : Op → St → Res → Prop
  | full (tid) (h : full s = true) : Leaf s (.submit tid) { s with dropped := s.dropped + 1 } .dropped
  | room (tid) (h : ¬ full s = true) :
    Leaf s (.submit tid)
      { s with queue := s.queue ++ [tid], accepted := s.accepted + 1, acceptedL := s.acceptedL ++ [tid],
               pend := if s.queue.isEmpty then s.pend ++ [.notify] else s.pend } (.accepted s.queue.isEmpty)
  | notify {rest} (hp : s.pend = .notify :: rest) :
    Leaf s .notify (pollIfReady { s with pend := rest }).1 (pollIfReady { s with pend := rest }).2
  | pollNone {rest} (hp : s.pend = .poll :: rest) (hq : s.queue = []) :
    Leaf s .poll { s with pend := rest ++ [.deliver none] } (.item none)
  | pollSome {rest t q} (hp : s.pend = .poll :: rest) (hq : s.queue = t :: q) :
    Leaf s .poll { s with queue := q, pend := rest ++ [.deliver (some t)] } (.item (some t))
  | recheck {rest} (hp : s.pend = .deliver none :: rest) (hr : s.recheck = true) :
    Leaf s .deliver (pollIfReady { s with pend := rest, busy := false }).1
      (pollIfReady { s with pend := rest, busy := false }).2
  | idle {rest} (hp : s.pend = .deliver none :: rest) (hr : ¬ s.recheck = true) :
    Leaf s .deliver { s with pend := rest, busy := false } .idle
  | forward {t rest} (hp : s.pend = .deliver (some t) :: rest) :
    Leaf s .deliver { s with pend := rest ++ [.work t, .disp] } (.item (some t))
  | start (tid) {rest} (hp : s.pend = .work tid :: rest) (hlt : s.active < s.n) :
    Leaf s (.work tid)
      { s with pend := rest, active := s.active + 1, running := s.running ++ [tid], started := s.started ++ [tid] }
      .started
  | reject (tid) {rest} (hp : s.pend = .work tid :: rest) (hge : ¬ s.active < s.n) :
    Leaf s (.work tid) (pollIfReady { s with pend := rest, rejected := s.rejected + 1 }).1 .rejected
  | finish (tid) (hm : tid ∈ s.running) :
    Leaf s (.finish tid)
      (pollIfReady { s with running := s.running.erase tid, active := s.active - 1, completed := s.completed + 1 }).1
      (pollIfReady { s with running := s.running.erase tid, active := s.active - 1, completed := s.completed + 1 }).2
  | disp {rest} (hp : s.pend = .disp :: rest) :
    Leaf s .disp (pollIfReady { s with pend := rest, busy := false }).1
      (pollIfReady { s with pend := rest, busy := false }).2
  | bad (o) (ho : ∀ tid, o ≠ .submit tid) : Leaf s o s .bad

theorem step_leaf (s : St) (o : Op) : Leaf s o (step s o).1 (step s o).2 := by
  cases o with
  | submit tid =>
    simp only [step]
    split
    · exact .full tid ‹_›
    · exact .room tid ‹_›
  | notify =>
    simp only [step]
    split
    · exact .notify ‹_›
    · exact .bad _ nofun
  | poll =>
    simp only [step]
    split
    · split
      · exact .pollNone ‹_› ‹_›
      · exact .pollSome ‹_› ‹_›
    · exact .bad _ nofun
  | deliver =>
    simp only [step]
    split
    · split
      · exact .recheck ‹_› ‹_›
      · exact .idle ‹_› ‹_›
    · exact .forward ‹_›
    · exact .bad _ nofun
  | work tid =>
    simp only [step]
    split
    next t rest hp =>
      split
      · exact .bad _ nofun
      next heq =>
        obtain rfl : t = tid := by simpa using heq
        split
        · exact .start t hp ‹_›
        · exact .reject t hp ‹_›
    · exact .bad _ nofun
  | finish tid =>
    simp only [step]
    split
    · exact .bad _ nofun
    next h => exact .finish tid (by simpa using h)
  | disp =>
    simp only [step]
    split
    · exact .disp ‹_›
    · exact .bad _ nofun

/-- `step_leaf` with the equation beside it: `cases` on `Leaf s o (step s o).1 (step s o).2` loses `step s o = (s', r)`,
    which the judge step needs -/
theorem step_cases (s : St) (o : Op) : ∃ s' r, step s o = (s', r) ∧ Leaf s o s' r := ⟨_, _, rfl, step_leaf s o⟩

theorem Leaf.params {s s' : St} {o : Op} {r : Res} (h : Leaf s o s' r) : s'.n = s.n ∧ s'.qcap = s.qcap := by
  cases h <;> first | exact ⟨rfl, rfl⟩ | exact poll_params _

theorem step_params (s : St) (o : Op) : (step s o).1.n = s.n ∧ (step s o).1.qcap = s.qcap := (step_leaf s o).params

theorem poll_inv (s : St) (inv : Inv s) : Inv (pollIfReady s).1 := by
  simp only [pollIfReady]
  split
  · exact inv.pend rfl inv.shape
  · rename_i hnb
    split
    · exact inv
    · have hc := shape_not_busy s inv.shape (by simpa using hnb)
      refine inv.pend (by rw [transit_append]; simp [transit]) (.inr (.inl ⟨rfl, by show s.active < s.n; omega, ?_⟩))
      show core (s.pend ++ [Ev.poll]) = [Ev.poll]
      rw [core_append, hc]; rfl

/-- if a task is queued and a worker is free, either a notification is still to be delivered or the
    driver's round trip is in flight and will look at the queue again when it ends -/
def Live (s : St) : Prop :=
  s.queue ≠ [] → s.active < s.n →
    (Ev.notify ∈ s.pend) ∨ (s.busy = true ∧ (core s.pend ≠ [.deliver none] ∨ s.recheck = true))

theorem Live.drained {s : St} (lv : Live s) (inv : Inv s) (hp : s.pend = []) (hq : s.queue ≠ []) : s.n ≤ s.active :=
  Nat.le_of_not_lt fun hlt => by
    rcases lv hq hlt with h | h
    · rw [hp] at h; cases h
    · have := shape_idle s inv.shape (by rw [hp]; rfl)
      rw [h.1] at this; cases this

theorem poll_live (s : St) (inv : Inv s) : Live (pollIfReady s).1 := by
  simp only [pollIfReady]
  split
  · rename_i hb
    exact fun _ _ => .inr ⟨hb, .inr rfl⟩
  · rename_i hnb
    split
    · intro _ hlt
      have hlt' : s.active < s.n := hlt
      omega
    · refine fun _ _ => .inr ⟨rfl, .inl ?_⟩
      show core (s.pend ++ [Ev.poll]) ≠ [Ev.deliver none]
      rw [core_append, shape_not_busy s inv.shape (by simpa using hnb)]
      exact nofun

/-- every delivery keeps the invariant and work conservation; the deliveries that end in `_poll_if_ready` need
    the invariant of the state it is called in for both -/
theorem Leaf.both {s s' : St} {o : Op} {r : Res} (h : Leaf s o s' r) (inv : Inv s) : Inv s' ∧ (Live s → Live s') := by
  have poll : ∀ s1, Inv s1 → Inv (pollIfReady s1).1 ∧ (Live s → Live (pollIfReady s1).1) :=
    fun s1 i => ⟨poll_inv s1 i, fun _ => poll_live s1 i⟩
  cases h with
  | full => exact ⟨{ inv with }, id⟩
  | room =>
    obtain ⟨ht, hc⟩ := notify_frame (s.queue.isEmpty = true) s.pend
    refine ⟨{ inv with conserve := ?_, order := ?_, shape := inv.shape.congr rfl rfl rfl hc }, fun lv _ hlt => ?_⟩
    · have := inv.conserve
      simp only [ht, List.length_append, List.length_singleton]
      omega
    · simp only [ht, inv.order, List.append_assoc]
    · by_cases hq : s.queue = []
      · exact .inl (by simp [hq])
      · have hne : s.queue.isEmpty = false := by simpa using hq
        refine (lv hq hlt).imp (fun h => ?_) fun h => ?_
        · simp [hne, h]
        · simpa [hne] using h
  | notify hp => exact poll _ (inv.pend (by rw [hp]; rfl) (inv.shape.congr rfl rfl rfl (by rw [hp]; rfl)))
  | @pollNone rest hp hq =>
    obtain ⟨hbusy, -, hrest⟩ := inv.shape.head hp nofun
    have htrr : transit rest = [] := transit_of_core_nil rest hrest
    refine ⟨inv.pend (by rw [transit_append, htrr, hp]; exact htrr.symm) (.inr (.inr (.inl ⟨hbusy, ?_⟩))),
      fun _ hq' => absurd hq hq'⟩
    show core (rest ++ [Ev.deliver none]) = [Ev.deliver none]
    rw [core_append, hrest]; rfl
  | @pollSome rest t q hp hq =>
    obtain ⟨hbusy, hlt, hrest⟩ := inv.shape.head hp nofun
    have htrr : transit rest = [] := transit_of_core_nil rest hrest
    have hc : core (rest ++ [Ev.deliver (some t)]) = [Ev.deliver (some t)] := by rw [core_append, hrest]; rfl
    have hcons := inv.conserve
    have hord := inv.order
    rw [hp, hq] at hcons hord
    refine ⟨{ inv with conserve := ?_, order := ?_,
                       shape := .inr (.inr (.inr (.inl ⟨hbusy, hlt (by simp) (by simp), t, hc⟩))) },
      fun _ _ _ => .inr ⟨hbusy, .inl (by rw [hc]; simp)⟩⟩
    · simp only [transit_append, htrr, transit, List.nil_append, List.length_cons, List.length_nil] at hcons ⊢
      omega
    · simpa [transit_append, htrr, transit] using hord
  | @recheck rest hp =>
    exact poll _ (inv.pend (by rw [hp]; rfl) (.inl ⟨rfl, (inv.shape.head hp nofun).2.2⟩))
  | @idle rest hp hnr =>
    have hrest := (inv.shape.head hp nofun).2.2
    refine ⟨inv.pend (by rw [hp]; rfl) (.inl ⟨rfl, hrest⟩), fun lv hq hlt => .inl ?_⟩
    rcases lv hq hlt with h | h
    · rw [hp] at h
      exact (List.mem_cons.1 h).resolve_left nofun
    · rcases h.2 with h' | h'
      · rw [hp] at h'; exact absurd (congrArg (Ev.deliver none :: ·) hrest) h'
      · exact absurd h' hnr
  | @forward t rest hp =>
    obtain ⟨hbusy, hlt, hrest⟩ := inv.shape.head hp nofun
    have hc : core (rest ++ [Ev.work t, Ev.disp]) = [Ev.work t, Ev.disp] := by rw [core_append, hrest]; rfl
    refine ⟨inv.pend ?_ (.inr (.inr (.inr (.inr (.inl ⟨hbusy, hlt (by simp) (by simp), t, hc⟩))))),
      fun _ _ _ => .inr ⟨hbusy, .inl (by rw [hc]; simp)⟩⟩
    simp [hp, transit_append, transit, transit_of_core_nil rest hrest]
  | @start tid rest hp hlt =>
    obtain ⟨hbusy, -, hrest⟩ := inv.shape.head hp nofun
    have htrr : transit rest = [] := by rw [← transit_core, hrest]; rfl
    have hcons := inv.conserve
    have hord := inv.order
    rw [hp] at hcons hord
    refine ⟨{ inv with bound := hlt, act := by simp [inv.act], conserve := ?_, order := ?_,
                       shape := .inr (.inr (.inr (.inr (.inr ⟨hbusy, hrest⟩)))) },
      fun _ _ _ => .inr ⟨hbusy, .inl (by rw [hrest]; simp)⟩⟩
    · simp only [transit, htrr, List.length_cons, List.length_nil] at hcons ⊢
      omega
    · simpa [transit, htrr] using hord
  | reject tid hp hge => exact absurd ((inv.shape.head hp nofun).2.1 (by simp) (by simp)) hge
  | finish tid hmem =>
    have hlen := List.length_erase_of_mem hmem
    have hpos : 0 < s.running.length := List.length_pos_of_mem hmem
    have hact := inv.act
    have hb := inv.bound
    have hcons := inv.conserve
    refine poll _ { inv with
      bound := by show s.active - 1 ≤ s.n; omega, act := by show s.active - 1 = (s.running.erase tid).length; omega,
      conserve := ?_, shape := ?_ }
    · show s.accepted = s.queue.length + (transit s.pend).length + (s.active - 1) + (s.completed + 1)
      omega
    · -- a slot that was free stays free: the three shapes that carry `active < n` (see `Shape.head`) are mapped, the others kept
      have hl : s.active < s.n → s.active - 1 < s.n := fun h => by omega
      exact inv.shape.imp id (.imp (.imp_right (.imp_left hl)) (.imp id (.imp (.imp_right (.imp_left hl))
        (.imp (.imp_right (.imp_left hl)) id))))
  | disp hp => exact poll _ (inv.pend (by rw [hp]; rfl) (.inl ⟨rfl, (inv.shape.head hp nofun).2.2⟩))
  | bad => exact ⟨inv, id⟩

theorem step_inv (s : St) (o : Op) (inv : Inv s) : Inv (step s o).1 := ((step_leaf s o).both inv).1

theorem run_inv (s : St) (ops : List Op) (inv : Inv s) : Inv (run s ops) := by
  induction ops generalizing s with
  | nil => exact inv
  | cons o os ih => exact ih _ (step_inv s o inv)

theorem step_live (s : St) (o : Op) (inv : Inv s) (lv : Live s) : Live (step s o).1 :=
  ((step_leaf s o).both inv).2 lv

theorem run_live (s : St) (ops : List Op) (inv : Inv s) (lv : Live s) : Live (run s ops) := by
  induction ops generalizing s with
  | nil => exact lv
  | cons o os ih => exact ih _ (step_inv s o inv) (step_live s o inv lv)

/-- FIFO: started tasks are a prefix of the accepted ones, so distinct accepted ids are started at most once -/
theorem Inv.started_nodup {s : St} (inv : Inv s) (h : s.acceptedL.Nodup) : s.started.Nodup := by
  rw [inv.order, List.append_assoc] at h
  exact (List.nodup_append.mp h).1

end HappyModel.C09.TPool

namespace HappyModel.C09

def tpInit (n : Nat) (qcap : Option Nat) : TPool.St := { n := n, qcap := qcap }

theorem tp_run_n (s : TPool.St) (ops : List TPool.Op) : (TPool.run s ops).n = s.n := by
  induction ops generalizing s with
  | nil => rfl
  | cons o os ih => rw [TPool.run, ih, (TPool.step_params s o).1]

end HappyModel.C09
