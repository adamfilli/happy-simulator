import HappyProofs.C17.ChainInv
/-!
Delivery completeness for the chain: every write the head has applied is, for every downstream
node `j`, either applied/superseded at `j` or still carried towards it by an undelivered
`Propagate` message or by a Propagate handler that has not run its apply segment yet.
-/
namespace HappyModel.C17.Chain

def MsgCarries (s : St) (q j : Nat) : Prop :=
  ∃ mid m, s.msgs mid = some m ∧ m.kind = .prop ∧ m.seq = q ∧ m.dst ≤ j ∧ m.delivered = false

def ProcCarries (s : St) (q j : Nat) : Prop :=
  ∃ pid p, s.procs pid = some p ∧ p.kind = .prop ∧ p.seq = q ∧ p.node ≤ j ∧ p.seg = 1 ∧ p.fin = false

def Carried (s : St) (q j : Nat) : Prop :=
  q ≤ s.aseq j (s.wk q) ∨ MsgCarries s q j ∨ ProcCarries s q j

structure Fresh (s : St) : Prop where
  procs_none : ∀ pid, s.np ≤ pid → s.procs pid = none
  msgs_none : ∀ mid, s.nm ≤ mid → s.msgs mid = none

def Reach (s : St) : Prop :=
  ∀ q, 1 ≤ q → q ≤ s.applied → ∀ j, 1 ≤ j → j < s.n → Carried s q j

/-- `s'` keeps everything `s` carries (for writes whose key is already fixed): `reach_of` shows this for the applied
    writes and the downstream nodes; the lemmas below are stated with `Reach`, not with this relation -/
def Keeps (s s' : St) : Prop := ∀ q j, q ≤ s.seq → Carried s q j → Carried s' q j

theorem Keeps.trans {a b c : St} (h1 : Keeps a b) (h2 : Keeps b c) (hs : a.seq ≤ b.seq) : Keeps a c :=
  fun q j hq hc => h2 q j (Nat.le_trans hq hs) (h1 q j hq hc)

theorem fresh_reply (s : St) (op : Nat) (t : String) (hf : Fresh s) :
    Fresh (s.reply op t) ∧ Keeps s (s.reply op t) :=
  ⟨⟨hf.procs_none, hf.msgs_none⟩, fun _ _ _ h => h⟩

theorem Fresh.lt_np {s : St} (hf : Fresh s) {pid : Nat} {p : Proc} (hp : s.procs pid = some p) : pid < s.np :=
  lt_of_fresh hf.procs_none hp

theorem Fresh.lt_nm {s : St} (hf : Fresh s) {mid : Nat} {m : Msg} (hm : s.msgs mid = some m) : mid < s.nm :=
  lt_of_fresh hf.msgs_none hm

structure FR (s : St) : Prop where
  fresh : Fresh s
  reach : Reach s

/-- Every load carried in `s` is carried in `s'` — by the same message or handler, or in some other
    way — and so are the writes newly applied at the head. -/
theorem reach_of (s s' : St) (hr : Reach s) (hn : s'.n = s.n) (hwk : ∀ q, q ≤ s.applied → s'.wk q = s.wk q)
    (ha : ∀ i k, s.aseq i k ≤ s'.aseq i k)
    (hm : ∀ mid m, s.msgs mid = some m → m.kind = .prop → m.delivered = false →
      s'.msgs mid = some m ∨ ∀ j, m.dst ≤ j → j < s.n → Carried s' m.seq j)
    (hp : ∀ pid p, s.procs pid = some p → p.kind = .prop → p.seg = 1 → p.fin = false →
      s'.procs pid = some p ∨ ∀ j, p.node ≤ j → j < s.n → Carried s' p.seq j)
    (hnew : ∀ q, s.applied < q → q ≤ s'.applied → ∀ j, 1 ≤ j → j < s.n → Carried s' q j) : Reach s' := by
  intro q h1 h2 j h3 h4
  rw [hn] at h4
  by_cases hq : q ≤ s.applied
  · rcases hr q h1 hq j h3 h4 with c | ⟨x, m, c1, c2, c3, c4, c5⟩ | ⟨x, p, c1, c2, c3, c4, c5, c6⟩
    · exact Or.inl (by rw [hwk q hq]; exact Nat.le_trans c (ha _ _))
    · rcases hm x m c1 c2 c5 with h | h
      · exact Or.inr (Or.inl ⟨x, m, h, c2, c3, c4, c5⟩)
      · exact c3 ▸ h j c4 h4
    · rcases hp x p c1 c2 c5 c6 with h | h
      · exact Or.inr (Or.inr ⟨x, p, h, c2, c3, c4, c5, c6⟩)
      · exact c3 ▸ h j c4 h4
  · exact hnew q (Nat.lt_of_not_le hq) h2 j h3 h4

/-- process slot `x` is filled with `p'`; what its old occupant carried, if anything, is carried
    in some other way -/
theorem fr_putProc (s s' : St) (x : Nat) (p' : Proc) (h : FR s) (e : SameData s s') (hm : s'.msgs = s.msgs)
    (hnm : s'.nm = s.nm) (hp : s'.procs = upd s.procs x (some p')) (hx : x < s'.np) (hnp : s.np ≤ s'.np)
    (hload : ∀ p, s.procs x = some p → p.kind = .prop → p.seg = 1 → p.fin = false →
      ∀ j, p.node ≤ j → j < s.n → Carried s' p.seq j) : FR s' := by
  refine ⟨⟨fun pid hpid => ?_, fun mid hmid => ?_⟩, reach_of s s' h.reach e.n (fun q _ => by rw [e.wk])
    (fun i k => by rw [e.aseq]; exact Nat.le_refl _) ?_ ?_ ?_⟩
  · rw [hp, upd_other _ _ _ _ (Nat.ne_of_gt (Nat.lt_of_lt_of_le hx hpid))]
    exact h.fresh.procs_none pid (Nat.le_trans hnp hpid)
  · rw [hm]; exact h.fresh.msgs_none mid (hnm ▸ hmid)
  · intro mid m h1 _ _; exact Or.inl (by rw [hm]; exact h1)
  · intro pid p h1 h2 h3 h4
    by_cases hpx : pid = x
    · exact Or.inr (hload p (hpx ▸ h1) h2 h3 h4)
    · exact Or.inl (by rw [hp, upd_other _ _ _ _ hpx]; exact h1)
  · intro q hq hq'; rw [e.applied] at hq'; exact absurd (Nat.lt_of_lt_of_le hq hq') (Nat.lt_irrefl _)

theorem fr_putMsg (s s' : St) (x : Nat) (m' : Msg) (h : FR s) (e : SameData s s') (hp : s'.procs = s.procs)
    (hnp : s'.np = s.np) (hm : s'.msgs = upd s.msgs x (some m')) (hx : x < s'.nm) (hnm : s.nm ≤ s'.nm)
    (hload : ∀ m, s.msgs x = some m → m.kind = .prop → m.delivered = false →
      ∀ j, m.dst ≤ j → j < s.n → Carried s' m.seq j) : FR s' := by
  refine ⟨⟨fun pid hpid => ?_, fun mid hmid => ?_⟩, reach_of s s' h.reach e.n (fun q _ => by rw [e.wk])
    (fun i k => by rw [e.aseq]; exact Nat.le_refl _) ?_ ?_ ?_⟩
  · rw [hp]; exact h.fresh.procs_none pid (hnp ▸ hpid)
  · rw [hm, upd_other _ _ _ _ (Nat.ne_of_gt (Nat.lt_of_lt_of_le hx hmid))]
    exact h.fresh.msgs_none mid (Nat.le_trans hnm hmid)
  · intro mid m h1 h2 h3
    by_cases hmx : mid = x
    · exact Or.inr (hload m (hmx ▸ h1) h2 h3)
    · exact Or.inl (by rw [hm, upd_other _ _ _ _ hmx]; exact h1)
  · intro pid p h1 _ _ _; exact Or.inl (by rw [hp]; exact h1)
  · intro q hq hq'; rw [e.applied] at hq'; exact absurd (Nat.lt_of_lt_of_le hq hq') (Nat.lt_irrefl _)

theorem fr_data (s s' : St) (h : FR s) (hc : Core s) (hm : Mono s s') (e : SameTables s s') : FR s' := by
  refine ⟨⟨?_, ?_⟩, reach_of s s' h.reach hm.n (fun q hq => hm.wk q (Nat.le_trans hq hc.app_le)) hm.aseq
    (fun _ _ h1 _ _ => Or.inl (by rw [e]; exact h1)) (fun _ _ h1 _ _ _ => Or.inl (by rw [e]; exact h1))
    (fun q hq hq' => by rw [e] at hq'; exact absurd (Nat.lt_of_lt_of_le hq hq') (Nat.lt_irrefl _))⟩
  · rw [e]; exact h.fresh.procs_none
  · rw [e]; exact h.fresh.msgs_none

theorem fr_send (s : St) (m : Msg) (h : FR s) : FR (s.send m) :=
  fr_putMsg s _ s.nm m h rfl rfl rfl rfl (Nat.lt_succ_self _) (Nat.le_succ _)
    (fun q hq => by rw [h.fresh.msgs_none _ (Nat.le_refl _)] at hq; cases hq)

theorem fr_setProc (s : St) (pid : Nat) (p p' : Proc) (h : FR s) (hp : s.procs pid = some p)
    (hload : p.kind = .prop → p.seg = 1 → p.fin = false → ∀ j, p.node ≤ j → j < s.n →
      Carried (s.setProc pid p') p.seq j) : FR (s.setProc pid p') :=
  fr_putProc s _ pid p' h rfl rfl rfl rfl (h.fresh.lt_np hp) (Nat.le_refl _)
    (fun q hq => by cases hp.symm.trans hq; exact hload)

/-- the head's put of write `q = applied + 1` lands while its `Propagate` is already under way -/
theorem fr_headApply (s : St) (k v q : Nat) (h : FR s) (hq : q = s.applied + 1) (ha : s.aseq 0 k ≤ q)
    (hcar : MsgCarries s q 1) :
    FR { s with applied := s.applied + 1, store := upd2 s.store 0 k (some v), aseq := upd2 s.aseq 0 k q,
                dirty := if s.craq then upd2 s.dirty 0 k true else s.dirty } := by
  refine ⟨⟨h.fresh.procs_none, h.fresh.msgs_none⟩, reach_of s _ h.reach rfl (fun _ _ => rfl) ?_
    (fun _ _ h1 _ _ => Or.inl h1) (fun _ _ h1 _ _ _ => Or.inl h1) ?_⟩
  · intro i k'
    show s.aseq i k' ≤ upd2 s.aseq 0 k q i k'
    rw [upd2_apply]
    by_cases hik : i = 0 ∧ k' = k
    · rw [if_pos hik, hik.1, hik.2]; exact ha
    · rw [if_neg hik]; exact Nat.le_refl _
  · intro q' h1 h2 j hj _
    obtain ⟨mid, m, c1, c2, c3, c4, c5⟩ := hcar
    have : q' = q := hq ▸ Nat.le_antisymm h2 h1
    exact Or.inr (Or.inl ⟨mid, m, c1, c2, this ▸ c3, Nat.le_trans c4 hj, c5⟩)

theorem fr_init (craq : Bool) (n : Nat) : FR (init craq n) :=
  ⟨⟨fun _ _ => rfl, fun _ _ => rfl⟩, fun _ h1 h2 => absurd (Nat.lt_of_lt_of_le h1 h2) (Nat.lt_irrefl 0)⟩

end HappyModel.C17.Chain
