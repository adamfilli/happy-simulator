import HappyProofs.C09.ResourceFifo
/-! The `Resource` model satisfies the executable Spec predicate `judge` on every operation list:
the judge's own books (kept from observations only) coincide with the model state. -/
namespace HappyModel.C09.Res

structure Agree (b : Book) (s : St) : Prop where
  held : b.held = s.held
  blocked : b.blocked = s.waiters
  resolved : b.resolved = []

theorem validAmount_eq (s : St) (a : Int) : validAmount s.cap a = !badAmount s a := by
  unfold validAmount badAmount
  by_cases h1 : 0 < a <;> by_cases h2 : a ≤ s.cap <;> simp [h1, h2] <;> omega

/-- `hc`: a `got` line of an engine transcript carries no capacity -/
theorem checkCounters_okE (s : St) (b : Book) (o : Obs) (inv : Inv s) (hh : b.held = s.held)
    (hb : b.blocked = s.waiters) (ha : o.avail = s.avail) (hw : o.nwait = s.waiters.length)
    (hc : o.capv = none ∨ o.capv = some s.cap) (hg : o.grants = true → 0 ≤ s.avail) :
    checkCounters s.cap b o = none := by
  have hnn := amtSum_nonneg s.held inv.heldPos
  have hcons := inv.conserve
  unfold checkCounters
  rw [hh, hb, ha, hw]
  have h1 : ¬ ((o.grants && decide (s.cap < amtSum s.held)) = true) := by
    intro h
    simp only [Bool.and_eq_true, decide_eq_true_eq] at h
    have := hg h.1; omega
  have h5 : ¬ (o.capv.isSome ∧ o.capv ≠ some s.cap) := by
    rcases hc with h | h <;> simp [h]
  rw [if_neg h1, if_neg (by omega), if_neg (by omega), if_neg (by simp), if_neg h5]
  cases hq : s.waiters with
  | nil => rfl
  | cons w ws =>
    have := inv.headBlocked w ws hq
    simp only
    rw [if_neg (by omega)]

theorem wakeN_pos_nonneg (a : Int) (l : List (Nat × Int)) (hpos : ∀ w ∈ l, 0 < w.2) (h : 0 < wakeN a l) :
    0 ≤ a - amtSum (l.take (wakeN a l)) := by
  cases l with
  | nil => simp [wakeN] at h
  | cons w ws =>
    have hw : w.2 ≤ a := by
      unfold wakeN at h; split at h
      · assumption
      · omega
    have hwp := hpos w List.mem_cons_self
    have := wakeN_sum_le a (w :: ws) hpos (by omega)
    omega

section
variable {s : St} {o : Op} {r : St × Out}

theorem Leaf.grant_within (h : Leaf s o r) (inv : Inv s) (hg : (obsOf o r.2 r.1).grants = true) : 0 ≤ r.1.avail := by
  cases h with
  | acqGrant _ a _ hf | tryGrant _ a _ hf => show 0 ≤ s.avail - a; omega
  | released | grown =>
    exact wakeN_pos_nonneg _ _ inv.waitPos (Nat.pos_of_ne_zero fun h0 => by simp [woken, obsOf, Obs.grants, h0] at hg)
  | _ => cases hg

theorem Leaf.capAfter (h : Leaf s o r) : capAfter s.cap (obsOf o r.2 r.1) = r.1.cap := by
  cases h <;> rfl

end

theorem findHeld_isSome_of_some {id : Nat} {l : List (Nat × Int)} {g} (h : findHeld id l = some g) :
    (findHeld id l).isSome = true := by simp [h]

def obsE (t : Nat) (o : Op) (out : Out) (s' : St) : Obs := { obsOf o out s' with t := t }

/-- the ids made resumable by an operation (what `estep` appends, without times and amounts) -/
def newlyIds (o : Op) (out : Out) : List Nat :=
  match o, out.res with
  | .acquire id _, .granted => [id]
  | _, _ => out.woke

/-- One operation, for both modes of the judge: in engine mode `resolved` grows by the calls the operation made
    resumable, stamped `t`. -/
theorem Leaf.follows {s : St} {o : Op} {r : St × Out} (h : Leaf s o r) (eng : Bool) (t : Nat) (b : Book) (inv : Inv s)
    (hh : b.held = s.held) (hb : b.blocked = s.waiters) :
    ∃ b', b.apply s.cap eng (obsE t o r.2 r.1) = .ok b' ∧ b'.held = r.1.held ∧ b'.blocked = r.1.waiters
      ∧ b'.resolved = if eng then b.resolved ++ (newlyIds o r.2).map (fun i => (i, t)) else b.resolved := by
  have hcons := inv.conserve
  have hnil : b.resolved = if eng then b.resolved ++ ([] : List Nat).map (fun i => (i, t)) else b.resolved := by
    cases eng <;> simp
  cases h with
  | acqBad id a hbad | tryBad id a hbad => exact ⟨b, by simp [Book.apply, obsE, obsOf, validAmount_eq, hbad], hh, hb, hnil⟩
  | acqGrant id a hbad =>
    exact ⟨{ b with held := b.held ++ [(id, a)], resolved := if eng then b.resolved ++ [(id, t)] else b.resolved },
      by simp [Book.apply, obsE, obsOf, validAmount_eq, hbad], by simp [hh], hb, rfl⟩
  | acqQueue id a hbad =>
    exact ⟨{ b with blocked := b.blocked ++ [(id, a)] }, by simp [Book.apply, obsE, obsOf, validAmount_eq, hbad], hh,
      by simp [hb], hnil⟩
  | tryGrant id a hbad =>
    exact ⟨{ b with held := b.held ++ [(id, a)] }, by simp [Book.apply, obsE, obsOf, validAmount_eq, hbad], by simp [hh], hb, hnil⟩
  | tryRefused id a hbad hfit =>
    refine ⟨b, ?_, hh, hb, hnil⟩
    simp only [Book.apply, obsE, obsOf, validAmount_eq, hbad, hh]
    simp
    omega
  | relNoop id hg => exact ⟨b, by simp [Book.apply, obsE, obsOf, hh, hg], hh, hb, hnil⟩
  | relRaised id hg hex => exact absurd hex (inv.no_raise hg)
  | @released id g hg =>
    refine ⟨{ held := eraseHeld id b.held ++ b.blocked.take (wakeN (s.avail + g.2) s.waiters),
              blocked := b.blocked.drop (wakeN (s.avail + g.2) s.waiters),
              resolved := if eng then b.resolved ++ ((s.waiters.take (wakeN (s.avail + g.2) s.waiters)).map (·.1)).map
                (fun i => (i, t)) else b.resolved }, ?_, by simp [woken, hh, hb], by simp [woken, hb], rfl⟩
    simp only [Book.apply, obsE, obsOf, woken, hh, hb, hg, wakeN_take_length]
    simp
  | capBad c hc =>
    refine ⟨b, ?_, hh, hb, hnil⟩
    simp only [Book.apply, obsE, obsOf]
    rw [if_neg (by omega)]; simp
  | grown c hc =>
    refine ⟨{ held := b.held ++ b.blocked.take (wakeN (s.avail + (c - s.cap)) s.waiters),
              blocked := b.blocked.drop (wakeN (s.avail + (c - s.cap)) s.waiters),
              resolved := if eng then b.resolved ++ ((s.waiters.take (wakeN (s.avail + (c - s.cap)) s.waiters)).map
                (·.1)).map (fun i => (i, t)) else b.resolved }, ?_, by simp [woken, hh, hb], by simp [woken, hb], rfl⟩
    simp only [Book.apply, obsE, obsOf, woken, hb, wakeN_take_length]
    rw [if_neg (by omega)]; simp
  | shrunk c hc =>
    refine ⟨{ held := b.held ++ b.blocked.take 0, blocked := b.blocked.drop 0,
              resolved := if eng then b.resolved ++ [] else b.resolved }, ?_, by simp [hh], by simp [hb], rfl⟩
    simp only [Book.apply, obsE, obsOf]
    rw [if_neg (by omega)]; simp

theorem obsOf_capv (o : Op) (out : Out) (s' : St) : (obsOf o out s').capv = some s'.cap := rfl
theorem obsOf_avail (o : Op) (out : Out) (s' : St) : (obsOf o out s').avail = s'.avail := rfl
theorem obsOf_nwait (o : Op) (out : Out) (s' : St) : (obsOf o out s').nwait = s'.waiters.length := rfl

theorem judge_cons_ok {cap : Int} {eng : Bool} {b b' : Book} {o : Obs} (os : List Obs) (h : b.apply cap eng o = .ok b')
    (hc : checkCounters (capAfter cap o) b' o = none) : judge cap eng b (o :: os) = judge (capAfter cap o) eng b' os := by
  simp only [judge, h, hc]

theorem judge_op (eng : Bool) (t : Nat) (s : St) (b : Book) (o : Op) (rest : List Obs) (inv : Inv s) (hh : b.held = s.held)
    (hb : b.blocked = s.waiters) :
    ∃ b', judge s.cap eng b (obsE t o (step s o).2 (step s o).1 :: rest) = judge (step s o).1.cap eng b' rest
      ∧ b'.held = (step s o).1.held ∧ b'.blocked = (step s o).1.waiters
      ∧ b'.resolved = if eng then b.resolved ++ (newlyIds o (step s o).2).map (fun i => (i, t)) else b.resolved := by
  obtain ⟨b', hap, hh', hb', hr'⟩ := (step_leaf s o).follows eng t b inv hh hb
  have hcc := checkCounters_okE (step s o).1 b' (obsE t o (step s o).2 (step s o).1) (step_inv s o inv) hh' hb'
    rfl rfl (Or.inr rfl) ((step_leaf s o).grant_within inv)
  rw [← (step_leaf s o).capAfter] at hcc ⊢
  exact ⟨b', judge_cons_ok rest hap hcc, hh', hb', hr'⟩

theorem judge_model (s : St) (b : Book) (ops : List Op) (inv : Inv s) (ag : Agree b s) :
    judge s.cap false b (obsTrace s ops) = none := by
  induction ops generalizing s b with
  | nil => rfl
  | cons o os ih =>
    obtain ⟨b', hj, hh', hb', hr'⟩ := judge_op false 0 s b o (obsTrace (step s o).1 os) inv ag.held ag.blocked
    exact hj.trans (ih _ _ (step_inv s o inv) ⟨hh', hb', hr'.trans ag.resolved⟩)

end HappyModel.C09.Res
