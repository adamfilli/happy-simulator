import HappyProofs.C09.ConcInv
/-! The concurrency-limiter model (fixed / dynamic / weighted) satisfies the executable Spec predicate
`Conc.judge` on its own transcript, for every operation list.  The transcript line is the one `Driver.runConc` prints and `Driver.judgeConc`
parses: operation, result, and `act` / `av` / `lim` of the post-state. -/
namespace HappyModel.C09.Conc

/-- one transcript line: `act=` active, `av=` `available`, `lim=` limit of the post-state -/
def obsOf (o : Op) (r : Res) (s' : St) : Obs := ⟨o, r, s'.active, available s', s'.limit⟩

def obsTrace (s : St) : List Op → List Obs
  | [] => []
  | o :: os => obsOf o (step s o).2 (step s o).1 :: obsTrace (step s o).1 os

/-- what is needed of the *initial* state (the constructors of `concurrency.py` enforce more, see
    `Constructed`): nothing is running, the limit is not negative, and the bounds of a dynamic
    limiter are not negative (so that `clampLimit` cannot produce a negative limit; `maxL = 0`
    encodes `max_limit=None`). -/
structure Start (s0 : St) : Prop where
  idle : s0.active = 0
  limNonneg : 0 ≤ s0.limit
  dynBounds : s0.kind = 1 → 0 ≤ s0.minL ∧ 0 ≤ s0.maxL

instance (s0 : St) : Decidable (Start s0) :=
  if h : s0.active = 0 ∧ 0 ≤ s0.limit ∧ (s0.kind = 1 → 0 ≤ s0.minL ∧ 0 ≤ s0.maxL) then
    isTrue ⟨h.1, h.2.1, h.2.2⟩
  else isFalse (fun st => h ⟨st.idle, st.limNonneg, st.dynBounds⟩)

/-- what `FixedConcurrency(n)`, `DynamicConcurrency(initial, min_limit, max_limit)` and
    `WeightedConcurrency(n)` check before they construct (`ValueError` otherwise) -/
def Constructed (s0 : St) : Prop :=
  s0.active = 0 ∧
  (if s0.kind = 1 then
     1 ≤ s0.minL ∧ s0.minL ≤ s0.limit ∧ (s0.maxL ≠ 0 → s0.minL ≤ s0.maxL ∧ s0.limit ≤ s0.maxL)
   else 1 ≤ s0.limit)

instance (s0 : St) : Decidable (Constructed s0) := by unfold Constructed; infer_instance

theorem Constructed.start {s0 : St} (h : Constructed s0) : Start s0 := by
  obtain ⟨ha, hk⟩ := h
  by_cases k1 : s0.kind = 1
  · rw [if_pos k1] at hk
    refine ⟨ha, by omega, fun _ => ⟨by omega, ?_⟩⟩
    by_cases hm : s0.maxL = 0
    · omega
    · have := hk.2.2 hm; omega
  · rw [if_neg k1] at hk
    exact ⟨ha, by omega, fun h => absurd h k1⟩

def isSetLimit : Op → Bool
  | .setLimit _ => true
  | _ => false

/-- `set_limit` exists on `DynamicConcurrency` only (the model answers `err` elsewhere, a line the
    judge does not know: `limiter/unknown-observation`) -/
def OpsOk (s0 : St) (ops : List Op) : Prop := s0.kind ≠ 1 → ops.all (fun o => !isSetLimit o) = true

instance (s0 : St) (ops : List Op) : Decidable (OpsOk s0 ops) := by unfold OpsOk; infer_instance

structure Rel (s0 s : St) : Prop where
  kind : s.kind = s0.kind
  minL : s.minL = s0.minL
  maxL : s.maxL = s0.maxL
  actNonneg : 0 ≤ s.active
  limNonneg : 0 ≤ s.limit
  within : s.kind ≠ 1 → s.active ≤ s.limit
  dynBounds : s.kind = 1 → 0 ≤ s.minL ∧ 0 ≤ s.maxL

theorem Start.rel {s0 : St} (h : Start s0) : Rel s0 s0 :=
  ⟨rfl, rfl, rfl, by rw [h.idle]; omega, h.limNonneg, fun _ => by rw [h.idle]; exact h.limNonneg, h.dynBounds⟩

theorem clampLimit_nonneg (s : St) (n : Int) (h1 : 0 ≤ s.minL) (h2 : 0 ≤ s.maxL) : 0 ≤ clampLimit s n := by
  unfold clampLimit
  dsimp only
  split <;> omega

def bookOf (s : St) : Book := { out := s.active, limit := s.limit }

/-- `hg`: a grant must have stayed within the limit, also on a dynamic limiter -/
theorem check_ok (s0 s : St) (g : Bool) (o : Op) (res : Res) (r : Rel s0 s)
    (hg : g = true → s.active ≤ s.limit) : (bookOf s).check s0 g (obsOf o res s) = none := by
  have h0 := r.actNonneg
  have hl := r.limNonneg
  have hw := r.within
  simp only [Book.check, obsOf, bookOf, available, ← r.kind, ne_eq, not_true_eq_false, if_false]
  rw [if_neg (fun h => by have := hg h.1; omega)]
  by_cases k1 : s.kind = 1
  · simp only [k1, not_true_eq_false, false_and, true_and, if_true, if_false]
    rw [if_neg (by omega)]
  · have := hw k1
    simp only [k1, not_false_eq_true, false_and, true_and, if_false]
    rw [if_neg (by omega), if_neg (by omega), if_neg (by omega)]

theorem apply_step (s0 s : St) (o : Op) (r : Rel s0 s) (ho : s0.kind ≠ 1 → isSetLimit o = false) :
    (bookOf s).apply s0 (obsOf o (step s o).2 (step s o).1) = .ok (bookOf (step s o).1)
    ∧ Rel s0 (step s o).1
    ∧ ((step s o).2 = .granted → (step s o).1.active ≤ (step s o).1.limit) := by
  have ⟨hk, hmin, hmax, h0, hl, hw, hd⟩ := r
  -- each leaf of `step_acquire` / `step_release` is an arm of `Book.apply`
  cases o with
  | acquire w =>
    rw [step_acquire]
    split
    next hb => exact ⟨by simp [Book.apply, obsOf, bookOf, ← hk, hb], r, nofun⟩
    next hb =>
      have := weightOf_pos hb
      split
      next hf => exact ⟨by simp [Book.apply, obsOf, bookOf, ← hk, hb]; omega, r, nofun⟩
      next hf =>
        exact ⟨by simp [Book.apply, obsOf, bookOf, ← hk, hb]; omega,
          ⟨hk, hmin, hmax, by dsimp only; omega, hl, fun _ => by dsimp only; omega, hd⟩, fun _ => by dsimp only; omega⟩
  | release w =>
    rw [step_release]
    split
    next hb => exact ⟨by simp [Book.apply, obsOf, bookOf, ← hk, hb], r, nofun⟩
    next hb =>
      have := weightOf_pos hb
      exact ⟨by simp [Book.apply, obsOf, bookOf, ← hk, hb],
        ⟨hk, hmin, hmax, by dsimp only; omega, hl, fun h => by have := hw h; dsimp only; omega, hd⟩, nofun⟩
  | setLimit n =>
    simp only [step]
    split
    next k1 =>
      have hb := hd k1
      exact ⟨by simp [Book.apply, obsOf, bookOf, ← hk, k1, clampLimit, hmin, hmax],
        ⟨hk, hmin, hmax, h0, clampLimit_nonneg s n hb.1 hb.2, fun h => absurd k1 h, hd⟩, nofun⟩
    next k1 => exact absurd (ho (hk ▸ k1)) (by simp [isSetLimit])

theorem judge_model (s0 s : St) (ops : List Op) (r : Rel s0 s) (hops : OpsOk s0 ops) :
    judge s0 (bookOf s) (obsTrace s ops) = none := by
  induction ops generalizing s with
  | nil => rfl
  | cons o os ih =>
    have ho : s0.kind ≠ 1 → isSetLimit o = false := fun hk => by
      have := hops hk; simp only [List.all_cons, Bool.and_eq_true] at this; simpa using this.1
    have hos : OpsOk s0 os := fun hk => by
      have := hops hk; simp only [List.all_cons, Bool.and_eq_true] at this; exact this.2
    obtain ⟨hap, hr, hg⟩ := apply_step s0 s o r ho
    have hck := check_ok s0 (step s o).1 ((step s o).2 == .granted) o (step s o).2 hr
      (fun h => hg (by simpa using h))
    have hres : (obsOf o (step s o).2 (step s o).1).res = (step s o).2 := rfl
    simp only [obsTrace, judge, hap, hres, hck]
    exact ih _ hr hos

end HappyModel.C09.Conc

namespace HappyModel.C09

/-- **The limiter model satisfies the executable Spec predicate**: on every operation list (with
    `set_limit` only on the limiter that has it) the judge that judges implementation transcripts
    accepts the model's own transcript — for the fixed (0), dynamic (1) and weighted (2) limiter. -/
theorem limiter_trace_satisfies_spec (s0 : Conc.St) (hstart : Conc.Start s0) (ops : List Conc.Op)
    (hops : Conc.OpsOk s0 ops) :
    Conc.judge s0 { limit := s0.limit } (Conc.obsTrace s0 ops) = none := by
  have h := Conc.judge_model s0 s0 ops hstart.rel hops
  have hb : Conc.bookOf s0 = { limit := s0.limit } := by
    simp only [Conc.bookOf, hstart.idle]
  rw [hb] at h; exact h

/-- the same for every limiter the constructors of `concurrency.py` let through -/
theorem limiter_trace_satisfies_spec_constructed (s0 : Conc.St) (hc : Conc.Constructed s0)
    (ops : List Conc.Op) (hops : Conc.OpsOk s0 ops) :
    Conc.judge s0 { limit := s0.limit } (Conc.obsTrace s0 ops) = none :=
  limiter_trace_satisfies_spec s0 hc.start ops hops

/-- fixed limiter (limit 2): refusals at the limit, an unmatched release absorbed -/
example : Conc.Start { kind := 0, limit := 2 }
    ∧ Conc.OpsOk { kind := 0, limit := 2 }
        [.acquire 1, .acquire 1, .acquire 1, .release 1, .acquire 1, .acquire 1, .release 1, .release 1, .release 1]
    ∧ Conc.judge { kind := 0, limit := 2 } { limit := 2 } (Conc.obsTrace { kind := 0, limit := 2 }
        [.acquire 1, .acquire 1, .acquire 1, .release 1, .acquire 1, .acquire 1, .release 1, .release 1, .release 1])
      = none := by decide +kernel

/-- dynamic limiter (initial 3 in [1, 4]): `set_limit` below the number running (limit 1 < active 3,
    nothing granted until enough was released), clamping at both bounds -/
example : Conc.Constructed { kind := 1, limit := 3, minL := 1, maxL := 4 }
    ∧ Conc.OpsOk { kind := 1, limit := 3, minL := 1, maxL := 4 }
        [.acquire 1, .acquire 1, .acquire 1, .acquire 1, .setLimit 1, .acquire 1, .release 1, .acquire 1,
         .release 1, .release 1, .acquire 1, .setLimit (-3), .setLimit 9, .acquire 1]
    ∧ Conc.judge { kind := 1, limit := 3, minL := 1, maxL := 4 } { limit := 3 }
        (Conc.obsTrace { kind := 1, limit := 3, minL := 1, maxL := 4 }
        [.acquire 1, .acquire 1, .acquire 1, .acquire 1, .setLimit 1, .acquire 1, .release 1, .acquire 1,
         .release 1, .release 1, .acquire 1, .setLimit (-3), .setLimit 9, .acquire 1])
      = none := by decide +kernel

/-- … and the limit really was below the number running in that run -/
example : (Conc.run { kind := 1, limit := 3, minL := 1, maxL := 4 }
    [.acquire 1, .acquire 1, .acquire 1, .acquire 1, .setLimit 1]).limit = 1
    ∧ (Conc.run { kind := 1, limit := 3, minL := 1, maxL := 4 }
    [.acquire 1, .acquire 1, .acquire 1, .acquire 1, .setLimit 1]).active = 3 := by decide +kernel

/-- weighted limiter (capacity 3): weights, a refusal of a weight that does not fit, malformed
    weights (0, −1) on both calls, an over-release clamped at zero -/
example : Conc.Start { kind := 2, limit := 3 }
    ∧ Conc.OpsOk { kind := 2, limit := 3 }
        [.acquire 2, .acquire 2, .acquire 1, .acquire 0, .release (-1), .release 5, .acquire 3, .acquire 1, .release 0]
    ∧ Conc.judge { kind := 2, limit := 3 } { limit := 3 } (Conc.obsTrace { kind := 2, limit := 3 }
        [.acquire 2, .acquire 2, .acquire 1, .acquire 0, .release (-1), .release 5, .acquire 3, .acquire 1, .release 0])
      = none := by decide +kernel

/-- a grant over the limit is rejected -/
example : Conc.judge { kind := 0, limit := 1 } { limit := 1 }
    [⟨.acquire 1, .granted, 1, 0, 1⟩, ⟨.acquire 1, .granted, 2, -1, 1⟩] = some "limiter/acquire/over-limit" := by decide +kernel

/-- a weighted grant that does not fit is rejected, so is an accepted malformed weight -/
example : Conc.judge { kind := 2, limit := 3 } { limit := 3 }
    [⟨.acquire 2, .granted, 2, 1, 3⟩, ⟨.acquire 2, .granted, 4, -1, 3⟩] = some "limiter/acquire/over-limit" := by decide +kernel
example : Conc.judge { kind := 2, limit := 3 } { limit := 3 }
    [⟨.acquire 0, .granted, 0, 3, 3⟩] = some "limiter/acquire/accepted-bad-weight" := by decide +kernel

/-- a dynamic limiter that grants while its lowered limit is below the number running is rejected -/
example : Conc.judge { kind := 1, limit := 2 } { limit := 2 }
    [⟨.acquire 1, .granted, 1, 1, 2⟩, ⟨.acquire 1, .granted, 2, 0, 2⟩, ⟨.setLimit 1, .ok, 2, 0, 1⟩,
     ⟨.acquire 1, .granted, 3, 0, 1⟩] = some "limiter/acquire/over-limit" := by decide +kernel

/-- `OpsOk` is needed: `set_limit` on a fixed limiter is a line the judge does not know -/
example : Conc.judge { kind := 0, limit := 1 } { limit := 1 } (Conc.obsTrace { kind := 0, limit := 1 } [.setLimit 3])
    = some "limiter/unknown-observation" := by decide +kernel

/-- `Start.idle` is needed: the judge's books start empty -/
example : Conc.judge { kind := 0, limit := 2, active := 1 } { limit := 2 }
    (Conc.obsTrace { kind := 0, limit := 2, active := 1 } [.acquire 1]) = some "limiter/active/count-mismatch" := by decide +kernel

/-- `Start.limNonneg` is needed -/
example : Conc.judge { kind := 0, limit := -1 } { limit := -1 }
    (Conc.obsTrace { kind := 0, limit := -1 } [.release 1]) = some "limiter/active/exceeds-limit" := by decide +kernel

/-- `Start.dynBounds` is needed: a negative bound lets `set_limit` produce a negative limit -/
example : Conc.judge { kind := 1, limit := 1, minL := -2 } { limit := 1 }
    (Conc.obsTrace { kind := 1, limit := 1, minL := -2 } [.setLimit (-5)]) = some "limiter/available/out-of-range" := by decide +kernel
example : Conc.judge { kind := 1, limit := 1, minL := 0, maxL := -1 } { limit := 1 }
    (Conc.obsTrace { kind := 1, limit := 1, minL := 0, maxL := -1 } [.setLimit 5]) = some "limiter/available/out-of-range" := by decide +kernel

end HappyModel.C09
