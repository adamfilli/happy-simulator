import HappyProofs.C01.TraceGate
import HappyModel.C01.Parse
/-!
"Target not crashed" is judged when the event falls due, not when it is scheduled: the heap accepts whatever a
handler returns, and the crash flag of the target is read only when the event is popped.  The trace Spec
(`HappyModel/C01/Spec.lean`, `mayBeDown`) exempts exactly the events whose target is down in the stretch in which
they fall due.
-/
namespace HappyModel.C01

/-- **scheduling does not look at the target**: when a handler runs, every event it returns is put
    into the heap with its timestamp and target — for every machine, so whatever the crash state of
    those targets is at that moment.  (The crash predicate occurs in a loop iteration only as the gate
    on the *popped* event.) -/
theorem scheduled_whatever_the_target_state {σ : Type} (mc : Machine σ) (s : St σ) (e : Ev)
    (hc : e.id ∉ s.cancelled) (ht : s.now ≤ e.time) (hg : mc.crashed s.ent e = false) :
    (stepWith mc s e).heap = s.heap.erase e ++ mkEvents s.nextId e.time (mc.handle s.ent e.time e).specs ∧
    ∀ sp ∈ (mc.handle s.ent e.time e).specs, ∃ ev ∈ (stepWith mc s e).heap,
      ev.time = sp.time ∧ ev.target = sp.target ∧ ev.kind = sp.kind ∧ ev.daemon = sp.daemon := by
  rw [stepWith_delivered hc ht hg]
  refine ⟨rfl, fun sp hsp => ?_⟩
  obtain ⟨i, hi⟩ := mkEvents_of_mem s.nextId e.time hsp
  exact ⟨_, List.mem_append_right _ hi, rfl, rfl, rfl, rfl⟩

theorem restore_clears_flag (now : Nat) (e : Eff) (x : Nat) : x ∉ (runAct now e (.restore x)).ps.crashed := by
  simp [runAct]

theorem crash_sets_flag (now : Nat) (e : Eff) (x : Nat) : x ∈ (runAct now e (.crash x)).ps.crashed := by
  simp [runAct]

/-- **an event whose target is up when it falls due is delivered** — not cancelled, not in the past,
    target not in the crashed set at the pop: the handler runs and the clock is the event's timestamp,
    whatever the target's state was when the event was created or at any time in between -/
theorem up_target_gets_event (s : St PS) (e : Ev) (hc : e.id ∉ s.cancelled) (ht : s.now ≤ e.time)
    (hup : e.target ∉ s.ent.crashed) :
    (stepWith procMachine s e).log = s.log ++ [e] ∧ (stepWith procMachine s e).now = e.time := by
  rw [stepWith_delivered hc ht (show procCrashed s.ent e = false by simp [procCrashed, hup])]
  exact ⟨rfl, rfl⟩

/-- a plain event that falls due while its target is down is dropped: no handler runs, it counts as
    processed and the clock still advances to its timestamp -/
theorem down_target_drops_event (s : St PS) (e : Ev) (hc : e.id ∉ s.cancelled) (ht : s.now ≤ e.time)
    (hd : e.data = 0) (hdown : e.target ∈ s.ent.crashed) :
    (stepWith procMachine s e).log = s.log ∧ (stepWith procMachine s e).processed = s.processed + 1 ∧
    (stepWith procMachine s e).now = e.time ∧ (stepWith procMachine s e).heap = s.heap.erase e := by
  rw [stepWith_gated hc ht (show procCrashed s.ent e = true by simp [procCrashed, hdown, hd])]
  exact ⟨rfl, rfl, rfl, rfl⟩

/-- entity 0 is crashed at t = 5 and restored at t = 8 (by entity 1); at t = 6, inside the window, a
    handler schedules two events for it: one due at 7 (inside) and one due at 10 (after the restart) -/
def crashWindowProg : Program :=
  { defs := [⟨1, 1, false, [⟨[.crash 0], .ret⟩]⟩, ⟨1, 2, false, [⟨[.emit 0 7 1 false 0, .emit 0 8 4 false 0], .ret⟩]⟩,
             ⟨1, 3, false, [⟨[.restore 0], .ret⟩]⟩],
    pre := [(⟨5, 1, 1, false, 0, 1⟩, 0, false), (⟨6, 1, 2, false, 0, 2⟩, 0, false), (⟨8, 1, 3, false, 0, 3⟩, 0, false)] }

-- non-vacuity: the event due at 7 is dropped (processed, not delivered), the one due at 10 — scheduled
-- while its target was down — is delivered
example :
    let s := run procMachine (some 20) 10 (crashWindowProg.initState true)
    s.log.map (fun e => (e.time, e.target, e.kind)) = [(5, 1, 1), (6, 1, 2), (8, 1, 3), (10, 0, 8)] ∧
    s.processed = 5 := by decide +kernel

/-- `entity._crashed` of the scripted entities: the gate of `procMachine` consults it for the target of
    the popped event (`procCrashed`) -/
def procGate : GateModel procMachine :=
  { down := fun ps x => ps.crashed.contains x, support := fun ps => ps.crashed,
    supp := by intro ps x h; simpa using h,
    sound := by
      intro ps e h
      have h' : procCrashed ps e = true := h
      unfold procCrashed at h'
      simp only [Bool.and_eq_true] at h'
      exact h'.1 }

/-- **the trace of a program run satisfies the trace Spec** — every handler table, every schedule `pre` of events
    handed to `init` at start clock 0 (not: a program whose schedule has events cancelled before the run, which starts
    with a non-empty `cancelled`, or another start clock), every end time: on a finished run of the process machine (generator processes, futures,
    hooks, crash / restore actions; all entities up at the start) the judge accepts the trace the model
    writes, with one `C` / `U` line for each entity whose flag a delivery changed; with no end time
    clause 7 can at most report the known lazy-deletion grade. -/
theorem process_trace_satisfies_spec (ps : PS) (hup : ps.crashed = []) (pre : List Spec) (endT : Option Nat) (n : Nat)
    (hhalt : step procMachine endT (runFrom procMachine ps 0 pre endT n) = none)
    (hlen : (traceOf procGate.flags procMachine ps 0 pre endT n).len < 1000000000) :
    Spec.judge (traceOf procGate.flags procMachine ps 0 pre endT n) = none ∨
    (endT = none ∧ Spec.judge (traceOf procGate.flags procMachine ps 0 pre endT n)
        = some "engine/autoterm/ran-with-no-primary-pending") :=
  engine_trace_satisfies_spec_gate procGate ps 0 pre endT n (by intro x; simp [procGate, hup]) hhalt hlen

-- non-vacuity: the crash-window program above, as a trace: one `C` and one `U` line for entity 0, the event
-- due at 7 dropped at the gate, the one due at 10 delivered, the judge accepts
example :
    let s0 := crashWindowProg.initState true
    let pre := crashWindowProg.pre.map (·.1)
    step procMachine (some 20) (runFrom procMachine s0.ent 0 pre (some 20) 20) = none ∧
    (traceOf procGate.flags procMachine s0.ent 0 pre (some 20) 20).flags.map (fun f => (f.1, f.2.1)) = [(0, true), (0, false)] ∧
    Spec.judge (traceOf procGate.flags procMachine s0.ent 0 pre (some 20) 20) = none := by decide +kernel

-- the same program run from `start_time = 3` (`Program.start`): the clock starts at 3, nothing else changes.  `init` takes
-- the start clock as a parameter and `engine_trace_satisfies_spec_gate` has it free; `process_trace_satisfies_spec` above
-- is stated at start clock 0
example :
    let p := { crashWindowProg with start := 3 }
    (p.initState true).now = 3 ∧
    (run procMachine (some 20) 10 (p.initState true)).log.map (fun e => (e.time, e.target, e.kind))
      = [(5, 1, 1), (6, 1, 2), (8, 1, 3), (10, 0, 8)] := by decide +kernel

end HappyModel.C01
