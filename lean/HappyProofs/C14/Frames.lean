import HappyModel.C14.Store
/-! The generic segment machine `stepFrames` / `runFrames`: a schedule entry runs nothing or advances exactly the first
    frame with its id. -/
/-! Nothing in `stepFrames_cases` and `runFrames_snoc` is about store runs: they are generic in `σ π`, and `SM.SR` is only
    where their full names live (the callers in `SM` write `SR.stepFrames_cases`). -/
namespace HappyModel.C14.SM.SR
open HappyModel.C14 HappyModel.C14.SM

theorem stepFrames_cases {σ π : Type} (step : σ → π → σ × π) (isDone : π → Bool) (st : σ) (n id : Nat) :
    ∀ fs : List (Frame π),
    ((fs.find? (fun f => f.id == id) = none ∨ ∃ f, fs.find? (fun f => f.id == id) = some f ∧ isDone f.pc = true) ∧
      stepFrames step isDone st n id fs = (st, fs)) ∨
    ∃ pre f post, fs = pre ++ f :: post ∧ fs.find? (fun f => f.id == id) = some f ∧ f.id = id ∧ isDone f.pc = false ∧
      stepFrames step isDone st n id fs = ((step st f.pc).1,
        pre ++ { f with pc := (step st f.pc).2, b := f.b.orElse (fun _ => some n),
                        e := if isDone (step st f.pc).2 then some n else none } :: post) ∧
      ∀ g ∈ pre, g.id ≠ id
  | [] => Or.inl ⟨Or.inl rfl, rfl⟩
  | g :: gs => by
    by_cases hg : (g.id == id) = true
    · have hfind : (g :: gs).find? (fun f => f.id == id) = some g := by simp [List.find?, hg]
      by_cases hd : isDone g.pc = true
      · exact Or.inl ⟨Or.inr ⟨g, hfind, hd⟩, by simp only [stepFrames, hg, hd, if_true]⟩
      · refine Or.inr ⟨[], g, gs, rfl, hfind, eq_of_beq hg, Bool.eq_false_iff.mpr hd, ?_, nofun⟩
        simp only [stepFrames, hg, hd, if_true, Bool.false_eq_true, if_false, List.nil_append]
    · have hfind : (g :: gs).find? (fun f => f.id == id) = gs.find? (fun f => f.id == id) := by
        simp [List.find?, hg]
      rw [hfind]
      rcases stepFrames_cases step isDone st n id gs with ⟨h1, h2⟩ | ⟨pre, f, post, h1, h2, h3, h4, h5, h6⟩
      · exact Or.inl ⟨h1, by simp only [stepFrames, hg, Bool.false_eq_true, if_false, h2]⟩
      · refine Or.inr ⟨g :: pre, f, post, by rw [h1]; rfl, h2, h3, h4, ?_, ?_⟩
        · simp only [stepFrames, hg, Bool.false_eq_true, if_false, h5, List.cons_append]
        · exact List.forall_mem_cons.2 ⟨fun e => hg (by simp [e]), h6⟩

theorem runFrames_snoc {σ π : Type} (step : σ → π → σ × π) (isDone : π → Bool) :
    ∀ (sched : List Nat) (st : σ) (fs : List (Frame π)) (n id : Nat),
    runFrames step isDone st fs n (sched ++ [id]) =
      stepFrames step isDone (runFrames step isDone st fs n sched).1 (n + sched.length) id
        (runFrames step isDone st fs n sched).2
  | [], st, fs, n, id => by simp [runFrames]
  | x :: xs, st, fs, n, id => by
    simp only [List.cons_append, runFrames, List.length_cons]
    rw [runFrames_snoc step isDone xs, Nat.add_assoc, Nat.add_comm 1]

end HappyModel.C14.SM.SR

namespace HappyModel.C14.SM
open HappyModel.C14 HappyModel.C14.BT

def frameOf {π : Type} (fs : List (Frame π)) (id : Nat) : Option (Frame π) := fs.find? fun f => f.id == id

theorem frameOf_id {π : Type} {fs : List (Frame π)} {id : Nat} {f : Frame π} (h : frameOf fs id = some f) :
    f.id = id := by
  have := List.find?_some h
  simpa using this

theorem frameOf_mem {π : Type} {fs : List (Frame π)} {id : Nat} {f : Frame π} (h : frameOf fs id = some f) :
    f ∈ fs := List.mem_of_find?_eq_some h

theorem frameOf_cons {π : Type} (g : Frame π) (fs : List (Frame π)) (id : Nat) :
    frameOf (g :: fs) id = if g.id = id then some g else frameOf fs id := by
  simp only [frameOf, List.find?_cons]
  by_cases h : g.id = id
  · simp [h]
  · have : (g.id == id) = false := by simp [h]
    simp [h, this]

theorem frameOf_some_of_ids {π : Type} {fs : List (Frame π)} {id : Nat} (h : id ∈ fs.map (·.id)) :
    ∃ f, frameOf fs id = some f := by
  induction fs with
  | nil => simp at h
  | cons g fs ih =>
    rw [frameOf_cons]
    by_cases hg : g.id = id
    · exact ⟨g, by simp [hg]⟩
    · simp only [List.map_cons, List.mem_cons] at h
      rcases h with h | h
      · exact absurd h.symm hg
      · simpa [hg] using ih h

section generic
variable {σ π : Type} (step : σ → π → σ × π) (isDone : π → Bool)

theorem stepFrames_idle (st : σ) (n id : Nat) (fs : List (Frame π))
    (h : ∀ f, frameOf fs id = some f → isDone f.pc = true) : stepFrames step isDone st n id fs = (st, fs) := by
  rcases SR.stepFrames_cases step isDone st n id fs with ⟨_, e⟩ | ⟨_, f, _, _, hf, _, hd, _⟩
  · exact e
  · exact absurd (h f hf) (by simp [hd])

def Frame.next (f : Frame π) (n : Nat) (pc' : π) : Frame π :=
  { f with pc := pc', b := f.b.orElse (fun _ => some n), e := if isDone pc' then some n else none }

theorem frameOf_replace {pre post : List (Frame π)} {x : Frame π} (hp : ∀ g ∈ pre, g.id ≠ x.id) (y : Frame π)
    (hy : y.id = x.id) (id' : Nat) :
    frameOf (pre ++ y :: post) id' = if id' = x.id then some y else frameOf (pre ++ x :: post) id' := by
  induction pre with
  | nil =>
    rw [List.nil_append, List.nil_append, frameOf_cons, frameOf_cons, hy]
    by_cases h : id' = x.id
    · simp [h]
    · simp [h, Ne.symm h]
  | cons g pre ih =>
    obtain ⟨h1, h2⟩ := List.forall_mem_cons.1 hp
    rw [List.cons_append, List.cons_append, frameOf_cons, frameOf_cons, ih h2]
    by_cases h : g.id = id'
    · simp [h, show ¬ id' = x.id from h ▸ h1]
    · simp [h]

theorem stepFrames_step (st : σ) (n id : Nat) (fs : List (Frame π)) (f : Frame π) (h : frameOf fs id = some f)
    (hd : isDone f.pc = false) :
    (stepFrames step isDone st n id fs).1 = (step st f.pc).1 ∧
    (∀ id', frameOf (stepFrames step isDone st n id fs).2 id' =
      if id' = id then some (Frame.next isDone f n (step st f.pc).2) else frameOf fs id') ∧
    (stepFrames step isDone st n id fs).2.map (·.id) = fs.map (·.id) := by
  rcases SR.stepFrames_cases step isDone st n id fs with ⟨h0 | ⟨g, hg, hgd⟩, _⟩ | ⟨pre, g, post, rfl, hg, rfl, _, e, hp⟩
  · cases h.symm.trans h0
  · cases h.symm.trans hg
    exact absurd hgd (by simp [hd])
  · cases h.symm.trans hg
    rw [e]
    exact ⟨rfl, frameOf_replace hp (Frame.next isDone f n (step st f.pc).2) rfl, by simp⟩

def EB (fs : List (Frame π)) : Prop := ∀ f ∈ fs, ∀ e, f.e = some e → ∃ b, f.b = some b

theorem stepFrames_eb (st : σ) (n id : Nat) (fs : List (Frame π)) (h : EB fs) :
    EB (stepFrames step isDone st n id fs).2 := by
  rcases SR.stepFrames_cases step isDone st n id fs with ⟨_, e⟩ | ⟨pre, f, post, rfl, _, _, _, e, _⟩ <;> rw [e]
  · exact h
  · intro g hg e' he
    rcases List.mem_append.1 hg with hg | hg
    · exact h g (by simp [hg]) e' he
    · rcases List.mem_cons.1 hg with rfl | hg
      · cases hb : f.b <;> simp [Option.orElse]
      · exact h g (by simp [hg]) e' he

theorem runFrames_eb (sched : List Nat) :
    ∀ (st : σ) (fs : List (Frame π)) (n : Nat), EB fs → EB (runFrames step isDone st fs n sched).2 := by
  induction sched with
  | nil => intro st fs n h; exact h
  | cons id ids ih =>
    intro st fs n h
    simp only [runFrames]
    exact ih _ _ _ (stepFrames_eb step isDone st n id fs h)

end generic

end HappyModel.C14.SM
