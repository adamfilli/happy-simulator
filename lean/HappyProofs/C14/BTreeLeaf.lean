import HappyModel.C14.BTree
import HappyProofs.C14.Basic
/-!
`upsert` / `eraseKey` / `leafGet` / `leafScan` on a strictly sorted association list are the map
operations insert / erase / lookup / range filter; `upsert`, `eraseKey`, `leafGet` distribute over `l₁ ++ l₂` when
the key falls on one side of the cut, the range filter `inRange` always.
-/
namespace HappyModel.C14.BT
open HappyModel.C14

variable {k : Key} {v : Nat} {m : KV}

/-- `omega` does not look through the `Key := Nat` abbreviation -/
macro "komega" : tactic => `(tactic| ((try simp only [Key] at *); omega))

def SortedKV (m : KV) : Prop := (m.map (·.1)).Pairwise (· < ·)
def inRange (lo hi : Key) (m : KV) : KV := m.filter fun e => lo ≤ e.1 && e.1 < hi
def keysIn (lo hi : Key) (m : KV) : Prop := ∀ e ∈ m, lo ≤ e.1 ∧ e.1 < hi

theorem sorted_nil : SortedKV [] := by simp [SortedKV]

theorem sorted_cons {r : KV} :
    SortedKV ((k, v) :: r) ↔ (∀ e ∈ r, k < e.1) ∧ SortedKV r := by
  simp [SortedKV, List.pairwise_cons]

theorem sorted_append {a b : KV} :
    SortedKV (a ++ b) ↔ SortedKV a ∧ SortedKV b ∧ ∀ x ∈ a, ∀ y ∈ b, x.1 < y.1 := by
  simp only [SortedKV, List.map_append, List.pairwise_append, List.forall_mem_map]

theorem keysIn_nil {lo hi : Key} : keysIn lo hi [] := by simp [keysIn]

theorem keysIn_append {lo hi : Key} {a b : KV} :
    keysIn lo hi (a ++ b) ↔ keysIn lo hi a ∧ keysIn lo hi b := List.forall_mem_append

theorem keysIn_mono {lo hi lo' hi' : Key} (h : keysIn lo hi m) (h1 : lo' ≤ lo) (h2 : hi ≤ hi') :
    keysIn lo' hi' m :=
  fun e he => ⟨Nat.le_trans h1 (h e he).1, Nat.lt_of_lt_of_le (h e he).2 h2⟩

theorem lookup_none_of_lt (h : ∀ e ∈ m, k < e.1) : List.lookup k m = none :=
  List.lookup_eq_none_iff.mpr fun p hp => bne_iff_ne.mpr (Nat.ne_of_lt (h p hp))

theorem leafGet_eq_lookup (k : Key) : ∀ (m : KV), SortedKV m → leafGet k m = List.lookup k m
  | [], _ => rfl
  | (k', v') :: r, hs => by
    obtain ⟨h1, h2⟩ := sorted_cons.1 hs
    rw [lookup_cons_ite]
    simp only [leafGet]
    by_cases hlt : k' < k
    · have : k ≠ k' := by komega
      simp only [hlt, if_true, this, if_false]
      exact leafGet_eq_lookup k r h2
    · by_cases heq : k' = k
      · subst heq; simp
      · have : k ≠ k' := fun h => heq h.symm
        simp only [hlt, heq, this, if_false]
        exact (lookup_none_of_lt (fun e he => by have := h1 e he; komega)).symm

theorem mem_upsert {k : Key} {v : Nat} {e : Key × Nat} : ∀ {m : KV}, e ∈ upsert k v m → e = (k, v) ∨ e ∈ m
  | [], h => by simpa [upsert] using h
  | (k', v') :: r, h => by
    simp only [upsert] at h
    by_cases hlt : k' < k
    · rw [if_pos hlt] at h
      rcases List.mem_cons.mp h with rfl | h
      · exact .inr (List.mem_cons_self ..)
      · exact (mem_upsert h).imp id (List.mem_cons_of_mem _)
    · rw [if_neg hlt] at h
      by_cases heq : k' = k
      · rw [if_pos heq] at h
        exact (List.mem_cons.mp h).imp id (List.mem_cons_of_mem _)
      · rw [if_neg heq] at h
        exact List.mem_cons.mp h

theorem eraseKey_sublist (k : Key) : ∀ m : KV, (eraseKey k m).Sublist m
  | [] => .slnil
  | (k', v') :: r => by
    simp only [eraseKey]
    by_cases hlt : k' < k
    · rw [if_pos hlt]; exact (eraseKey_sublist k r).cons_cons _
    · rw [if_neg hlt]
      by_cases heq : k' = k
      · rw [if_pos heq]; exact List.sublist_cons_self ..
      · rw [if_neg heq]; exact List.Sublist.refl _

theorem keysIn_upsert {lo hi k : Key} (h : keysIn lo hi m) (h1 : lo ≤ k) (h2 : k < hi) :
    keysIn lo hi (upsert k v m) := by
  intro e he
  rcases mem_upsert he with rfl | he
  · exact ⟨h1, h2⟩
  · exact h e he

theorem keysIn_eraseKey {lo hi k : Key} (h : keysIn lo hi m) : keysIn lo hi (eraseKey k m) :=
  fun e he => h e ((eraseKey_sublist k m).subset he)

theorem map_sorted_upsert (k : Key) (v : Nat) : ∀ (m : KV), SortedKV m → SortedKV (upsert k v m)
  | [], _ => by simp [upsert, SortedKV]
  | (k', v') :: r, hs => by
    obtain ⟨h1, h2⟩ := sorted_cons.1 hs
    simp only [upsert]
    by_cases hlt : k' < k
    · simp only [hlt, if_true]
      refine sorted_cons.2 ⟨?_, map_sorted_upsert k v r h2⟩
      intro e he
      rcases mem_upsert he with rfl | he
      · exact hlt
      · exact h1 e he
    · by_cases heq : k' = k
      · subst heq
        simp only [hlt, if_false, if_true]
        exact sorted_cons.2 ⟨h1, h2⟩
      · simp only [hlt, heq, if_false]
        refine sorted_cons.2 ⟨?_, hs⟩
        intro e he
        rcases List.mem_cons.1 he with rfl | he
        · show k < k'; komega
        · have := h1 e he; komega

theorem map_sorted_erase (k : Key) (m : KV) (hs : SortedKV m) : SortedKV (eraseKey k m) :=
  List.Pairwise.sublist ((eraseKey_sublist k m).map _) hs

theorem map_lookup_upsert (m : KV) (_hs : SortedKV m) (k k' : Key) (v : Nat) :
    (upsert k v m).lookup k' = if k' = k then some v else m.lookup k' := by
  induction m with
  | nil => simp [upsert]
  | cons p r ih =>
    obtain ⟨k1, v1⟩ := p
    have ih := ih (sorted_cons.1 _hs).2
    simp only [upsert]
    by_cases hlt : k1 < k
    · simp only [hlt, if_true, lookup_cons_ite, ih]
      by_cases h1 : k' = k1
      · have : k' ≠ k := by komega
        simp [h1]
        komega
      · simp [h1]
    · by_cases heq : k1 = k
      · subst heq
        simp only [hlt, if_false, if_true, lookup_cons_ite]
        by_cases h1 : k' = k1 <;> simp [h1]
      · simp only [hlt, heq, if_false, lookup_cons_ite]

theorem map_lookup_erase (m : KV) (hs : SortedKV m) (k k' : Key) :
    (eraseKey k m).lookup k' = if k' = k then none else m.lookup k' := by
  induction m with
  | nil => simp [eraseKey]
  | cons p r ih =>
    obtain ⟨k1, v1⟩ := p
    obtain ⟨h1, h2⟩ := sorted_cons.1 hs
    have ih := ih h2
    simp only [eraseKey]
    by_cases hlt : k1 < k
    · simp only [hlt, if_true, lookup_cons_ite, ih]
      by_cases h3 : k' = k1
      · have : k' ≠ k := by komega
        simp [h3]
        komega
      · simp [h3]
    · by_cases heq : k1 = k
      · subst heq
        simp only [hlt, if_false, if_true, lookup_cons_ite]
        by_cases h3 : k' = k1
        · subst h3; simpa using lookup_none_of_lt h1
        · simp [h3]
      · simp only [hlt, heq, if_false, lookup_cons_ite]
        by_cases h3 : k' = k
        · subst h3
          have : k' ≠ k1 := fun h => heq h.symm
          simp only [this, if_false, if_true]
          exact lookup_none_of_lt (fun e he => by have := h1 e he; komega)
        · simp [h3]

/-- below every key of the list: the walk stops at its head -/
theorem walks_of_lt {k : Key} (v : Nat) : ∀ {b : KV}, (∀ e ∈ b, k < e.1) →
    upsert k v b = (k, v) :: b ∧ eraseKey k b = b ∧ leafGet k b = none
  | [], _ => ⟨rfl, rfl, rfl⟩
  | (k', v') :: r, hb => by
    have h : k < k' := hb _ (List.mem_cons_self ..)
    simp [upsert, eraseKey, leafGet, Nat.lt_asymm h, Nat.ne_of_gt h]

/-- the key falls left of the cut: the three walks stay in `a` -/
theorem walk_append_left {k : Key} (v : Nat) {b : KV} (hb : ∀ e ∈ b, k < e.1) : ∀ (a : KV),
    upsert k v (a ++ b) = upsert k v a ++ b ∧ eraseKey k (a ++ b) = eraseKey k a ++ b ∧
      leafGet k (a ++ b) = leafGet k a
  | [] => walks_of_lt v hb
  | (k', v') :: r => by
    obtain ⟨h1, h2, h3⟩ := walk_append_left v hb r
    simp only [List.cons_append, upsert, eraseKey, leafGet]
    by_cases hlt : k' < k
    · simp only [hlt, if_true, h1, h2, h3, List.cons_append, and_self]
    · by_cases heq : k' = k <;> simp [hlt, heq]

/-- the key falls right of the cut: the three walks pass `a` -/
theorem walk_append_right {k : Key} (v : Nat) {b : KV} : ∀ (a : KV), (∀ e ∈ a, e.1 < k) →
    upsert k v (a ++ b) = a ++ upsert k v b ∧ eraseKey k (a ++ b) = a ++ eraseKey k b ∧
      leafGet k (a ++ b) = leafGet k b
  | [], _ => ⟨rfl, rfl, rfl⟩
  | (k', v') :: r, h => by
    obtain ⟨hlt, h2⟩ := List.forall_mem_cons.mp h
    obtain ⟨e1, e2, e3⟩ := walk_append_right v (b := b) r h2
    simp only [List.cons_append, upsert, eraseKey, leafGet, show k' < k from hlt, if_true, e1, e2, e3, and_self]

theorem length_upsert (k : Key) (v : Nat) :
    ∀ (m : KV), (upsert k v m).length = if (leafGet k m).isNone then m.length + 1 else m.length
  | [] => rfl
  | (k', v') :: r => by
    simp only [upsert, leafGet]
    by_cases hlt : k' < k
    · simp only [hlt, if_true, List.length_cons, length_upsert k v r]
      split <;> rfl
    · by_cases heq : k' = k <;> simp [hlt, heq]

theorem length_eraseKey (k : Key) :
    ∀ (m : KV), (eraseKey k m).length = if (leafGet k m).isSome then m.length - 1 else m.length
  | [] => rfl
  | (k', v') :: r => by
    simp only [eraseKey, leafGet]
    by_cases hlt : k' < k
    · simp only [hlt, if_true, List.length_cons, length_eraseKey k r]
      cases hg : leafGet k r with
      | none => simp
      | some x =>
        have : 0 < r.length := by
          cases r with
          | nil => simp [leafGet] at hg
          | cons _ _ => simp
        simp; komega
    · by_cases heq : k' = k <;> simp [hlt, heq]

theorem eraseKey_of_get_none (k : Key) : ∀ (m : KV), leafGet k m = none → eraseKey k m = m
  | [], _ => rfl
  | (k', v') :: r, h => by
    simp only [leafGet] at h
    simp only [eraseKey]
    by_cases hlt : k' < k
    · simp only [hlt, if_true] at h
      simp only [hlt, if_true, eraseKey_of_get_none k r h]
    · by_cases heq : k' = k
      · simp [heq] at h
      · simp [hlt, heq]

theorem inRange_append (lo hi : Key) (a b : KV) : inRange lo hi (a ++ b) = inRange lo hi a ++ inRange lo hi b := by
  simp [inRange, List.filter_append]

theorem inRange_nil {lo hi a b : Key} (h : keysIn a b m) (hd : hi ≤ a ∨ b ≤ lo) : inRange lo hi m = [] := by
  simp only [inRange, List.filter_eq_nil_iff, Bool.and_eq_true, decide_eq_true_eq]
  intro e he
  have := h e he
  komega

theorem leafScan_eq_inRange (lo hi : Key) : ∀ (m : KV), SortedKV m → leafScan lo hi m = inRange lo hi m
  | [], _ => rfl
  | (k', v') :: r, hs => by
    obtain ⟨h1, h2⟩ := sorted_cons.1 hs
    have ih := leafScan_eq_inRange lo hi r h2
    simp only [leafScan, inRange] at ih ⊢
    by_cases hlt : k' < hi
    · simp only [List.takeWhile_cons, hlt, decide_true, if_true, List.filter_cons, ih, Bool.and_true]
    · have hnil : List.filter (fun e : Key × Nat => decide (lo ≤ e.1) && decide (e.1 < hi)) r = [] := by
        rw [List.filter_eq_nil_iff]
        intro e he
        have := h1 e he
        simp only [Bool.and_eq_true, decide_eq_true_eq]; komega
      simp [hlt, hnil]

end HappyModel.C14.BT
