import HappyProofs.C09.ResourceSpec
import HappyModel.C09.Driver
/-! Engine mode of the Resource judge.  The engine layer of the model is `ESt` / `estep` (HappyModel/C09/Resource.lean):
the pending list carries (call id, resolve time, amount).  `traceE` is checked against the driver's own output on the
`demo` schedules by `#guard`. -/
namespace HappyModel.C09.Res

inductive Cmd
  | op (t : Nat) (o : Op)
  | got (t : Nat) (id : Nat)
  | fin (t : Nat)
deriving Repr, DecidableEq

/-- a `got` line carries no counters and no capacity: `fillCounters` copies the previous line's -/
def gotObs (t id : Nat) (s : St) : Obs :=
  { t := t, k := .got id 0, res := .granted, woke := [], avail := s.avail, nwait := s.waiters.length, capv := none }

def finObs (t : Nat) (s : St) : Obs :=
  { t := t, k := .fin, res := .noop, woke := [], avail := s.avail, nwait := s.waiters.length, capv := some s.cap }

def isOk : Out ⊕ GotRes → Bool
  | .inr (.ok _) => true
  | _ => false

/-- mirrors `Driver.runRes.go` followed by `Driver.parseObs` / `Driver.fillCounters` -/
def traceE (e : ESt) : List Cmd → List Obs
  | [] => []
  | .op t o :: cs => obsE t o (step e.core o).2 (step e.core o).1 :: traceE (estep e (.op t o)).1 cs
  | .got t id :: cs => gotObs t id e.core :: traceE (estep e (.got t id)).1 cs
  | .fin t :: cs => finObs t e.core :: traceE e cs

def wfE (e : ESt) : List Cmd → Bool
  | [] => true
  | .op t o :: cs => wfE (estep e (.op t o)).1 cs
  | .got t id :: cs => isOk (estep e (.got t id)).2 && wfE (estep e (.got t id)).1 cs
  | .fin _ :: cs => e.pend.isEmpty && wfE e cs

/-- the judge's `resolved` list is the pending list without the amounts -/
def proj (l : List (Nat × Nat × Int)) : List (Nat × Nat) := l.map (fun q => (q.1, q.2.1))

structure AgreeE (b : Book) (e : ESt) : Prop where
  held : b.held = e.core.held
  blocked : b.blocked = e.core.waiters
  resolved : b.resolved = proj e.pend

theorem estep_core (e : ESt) (t : Nat) (o : Op) : (estep e (.op t o)).1.core = (step e.core o).1 := rfl

theorem estep_pend (e : ESt) (t : Nat) (o : Op) :
    proj (estep e (.op t o)).1.pend = proj e.pend ++ (newlyIds o (step e.core o).2).map (fun i => (i, t)) := by
  simp only [estep, newlyIds, proj, List.map_append]
  congr 1
  split <;> split <;> simp_all

theorem find_proj (id : Nat) (l : List (Nat × Nat × Int)) :
    (proj l).find? (·.1 == id) = (findPend id l).map (fun q => (q.1, q.2.1)) := by
  rw [proj, List.find?_map]
  congr 1
  induction l with
  | nil => rfl
  | cons q qs ih => by_cases h : q.1 = id <;> simp [findPend, h, ih]

theorem got_okR (e : ESt) (t id : Nat) (h : isOk (estep e (.got t id)).2 = true) :
    ∃ q, findPend id e.pend = some q ∧ q.2.1 = t
      ∧ (estep e (.got t id)).1 = ⟨e.core, e.pend.filter (fun q => q.1 != id)⟩ := by
  simp only [estep] at h ⊢
  cases hf : findPend id e.pend with
  | none => simp [hf, isOk] at h
  | some q =>
    simp only [hf] at h ⊢
    by_cases hq : q.2.1 = t
    · simp only [hq, if_true] at h ⊢
      exact ⟨q, rfl, hq, trivial⟩
    · simp [hq, isOk] at h

theorem judge_modelE (e : ESt) (b : Book) (cs : List Cmd) (inv : Inv e.core) (ag : AgreeE b e)
    (wf : wfE e cs = true) : judge e.core.cap true b (traceE e cs) = none := by
  induction cs generalizing e b with
  | nil => rfl
  | cons c cs ih =>
    cases c with
    | op t o =>
      obtain ⟨b', hj, hh', hb', hr'⟩ := judge_op true t e.core b o (traceE (estep e (.op t o)).1 cs) inv ag.held ag.blocked
      exact hj.trans (ih (estep e (.op t o)).1 b' (step_inv e.core o inv)
        ⟨hh', hb', by rw [estep_pend, ← ag.resolved]; exact hr'⟩ wf)
    | got t id =>
      simp only [wfE, Bool.and_eq_true] at wf
      obtain ⟨q, hf, hq, he⟩ := got_okR e t id wf.1
      have hap : b.apply e.core.cap true (gotObs t id e.core)
          = .ok { b with resolved := b.resolved.filter (·.1 != id) } := by
        simp [Book.apply, gotObs, show b.resolved.find? (·.1 == id) = some (q.1, q.2.1) by rw [ag.resolved, find_proj, hf]; rfl, hq]
      have hcc := checkCounters_okE e.core { b with resolved := b.resolved.filter (·.1 != id) } (gotObs t id e.core)
        inv ag.held ag.blocked rfl rfl (Or.inl rfl) (fun h => by simp [Obs.grants, gotObs] at h)
      show judge e.core.cap true b (gotObs t id e.core :: traceE (estep e (.got t id)).1 cs) = none
      rw [he] at wf ⊢
      exact (judge_cons_ok _ hap hcc).trans (ih ⟨e.core, e.pend.filter (fun q => q.1 != id)⟩ { b with resolved := b.resolved.filter (·.1 != id) } inv
        ⟨ag.held, ag.blocked, by show b.resolved.filter _ = proj _; rw [ag.resolved]; exact List.filter_map⟩ wf.2)
    | fin t =>
      simp only [wfE, Bool.and_eq_true, List.isEmpty_iff] at wf
      have hap : b.apply e.core.cap true (finObs t e.core) = .ok b := by
        simp [Book.apply, finObs, show b.resolved = [] by rw [ag.resolved, wf.1]; rfl]
      have hcc := checkCounters_okE e.core b (finObs t e.core) inv ag.held ag.blocked rfl rfl (Or.inr rfl)
        (fun h => by simp [Obs.grants, finObs] at h)
      exact (judge_cons_ok _ hap hcc).trans (ih e b inv ag wf.2)

def Cmd.line : Cmd → String
  | .op t (.acquire id a) => s!"acq {t} {id} {a}"
  | .op t (.tryAcquire id a) => s!"try {t} {id} {a}"
  | .op t (.release id) => s!"rel {t} {id}"
  | .op t (.setCapacity c) => s!"cap {t} {c}"
  | .got t id => s!"got {t} {id}"
  | .fin t => s!"fin {t}"

def viaDriver (cap : Int) (cs : List Cmd) : List Obs :=
  Driver.fillCounters cap 0 ((Driver.runRes cap (cs.map Cmd.line)).filterMap (fun l => Driver.parseObs (Proto.toks l)))

def obsEq (a b : Obs) : Bool :=
  a.t == b.t && decide (a.k = b.k) && decide (a.res = b.res) && a.woke == b.woke
    && a.avail == b.avail && a.nwait == b.nwait && a.capv == b.capv

def obsListEq : List Obs → List Obs → Bool
  | [], [] => true
  | a :: as, b :: bs => obsEq a b && obsListEq as bs
  | _, _ => false

/-- capacity 3: two callers block behind a full grant; its release wakes both at clock value 4;
    later the capacity is lowered below the amount held and raised again, waking a third -/
def demo : List Cmd :=
  [.op 0 (.acquire 0 3), .got 0 0, .op 1 (.acquire 1 1), .op 1 (.acquire 2 2), .op 2 (.tryAcquire 3 1),
   .op 4 (.release 0), .got 4 2, .got 4 1, .op 5 (.setCapacity 2), .op 5 (.acquire 4 1), .op 6 (.release 0),
   .op 7 (.setCapacity 4), .got 7 4, .op 8 (.release 1), .fin 8]

def demoLate : List Cmd :=
  [.op 0 (.acquire 0 3), .got 0 0, .op 1 (.acquire 1 1), .op 4 (.release 0), .got 5 1, .fin 6]

#guard obsListEq (viaDriver 3 demo) (traceE ⟨St.init 3, []⟩ demo)
#guard obsListEq (viaDriver 3 demoLate) (traceE ⟨St.init 3, []⟩ demoLate)
#guard Driver.handle ["judge-res", "3", "engine"] (Driver.handle ["res", "3"] (demo.map Cmd.line)) == ["ok"]
#guard Driver.handle ["judge-res", "3", "engine"] (Driver.handle ["res", "3"] (demoLate.map Cmd.line))
  == ["viol resource/wait/resumed-late"]

end HappyModel.C09.Res

namespace HappyModel.C09
open Res

/-- **C09, engine mode, Resource**: on every well-formed schedule (`Res.wfE`: a `got` line only for a call whose future
    is resolved — granted at once, or woken by a release / a capacity increase — and whose process has not resumed
    yet, at the clock value of the resolving operation; `fin` only with nobody left parked) the judge in engine mode
    accepts the model's transcript -/
theorem resource_engine_trace_satisfies_spec (cap : Int) (hcap : 0 < cap) (cs : List Res.Cmd)
    (wf : Res.wfE ⟨St.init cap, []⟩ cs = true) :
    judge cap true {} (Res.traceE ⟨St.init cap, []⟩ cs) = none :=
  Res.judge_modelE ⟨St.init cap, []⟩ {} cs (init_inv cap hcap) ⟨rfl, rfl, rfl⟩ wf

example : Res.wfE ⟨St.init 3, []⟩ Res.demo = true := by decide +kernel
example : judge 3 true {} (Res.traceE ⟨St.init 3, []⟩ Res.demo) = none := by decide +kernel
example : (Res.traceE ⟨St.init 3, []⟩ Res.demo).map (·.woke)
    = [[], [], [], [], [], [1, 2], [], [], [], [], [], [4], [], [], []] := by decide +kernel
example : Res.wfE ⟨St.init 3, []⟩ Res.demoLate = false
    ∧ judge 3 true {} (Res.traceE ⟨St.init 3, []⟩ Res.demoLate) = some "resource/wait/resumed-late" := by decide +kernel

end HappyModel.C09
