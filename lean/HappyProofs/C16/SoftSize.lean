import HappyProofs.C16.SoftTtlInv
/-!
`SoftTTLCache`: along every schedule of operation and background-refresh segments the cache holds at
most `cache_capacity` entries and its LRU bookkeeping tracks exactly the cached keys (both variants).
A refresh that completes after its key was evicted or invalidated goes through `_store`, which makes
room first.
-/
namespace HappyModel.C16

structure ZInv (s : TSt) : Prop where
  cnd : (akeys s.cache).Nodup
  ond : s.order.Nodup
  same : ∀ x, x ∈ s.order ↔ x ∈ akeys s.cache

/-- `1 ≤ c` sits inside the predicate: with capacity 0 `tEvict` empties the cache and `_store` then inserts, so the
    bound fails, while `ZInv` needs no hypothesis on `cfg` -/
def ZCap (cfg : TCfg) (s : TSt) : Prop := ∀ c, cfg.cap = some c → 1 ≤ c → s.cache.length ≤ c

theorem zinv_init : ZInv {} := ⟨List.nodup_nil, List.nodup_nil, fun x => by simp [akeys]⟩

theorem ZInv.congr {s t : TSt} (h : ZInv s) (hc : t.cache = s.cache) (ho : t.order = s.order) : ZInv t := by
  obtain ⟨a, b, c⟩ := h
  exact ⟨hc ▸ a, ho ▸ b, fun x => by rw [hc, ho]; exact c x⟩

theorem ZCap.congr {cfg : TCfg} {s t : TSt} (h : ZCap cfg s) (hc : t.cache = s.cache) : ZCap cfg t :=
  fun c e h1 => hc ▸ h c e h1

theorem ZInv.drop {s : TSt} (h : ZInv s) (k : Key) : ZInv { s with order := s.order.erase k, cache := adel s.cache k } :=
  ⟨nodup_akeys_adel _ _ h.cnd, h.ond.erase k, fun x => by
    show x ∈ s.order.erase k ↔ x ∈ akeys (adel s.cache k)
    rw [h.ond.mem_erase_iff, mem_akeys_adel, h.same x]; exact And.comm⟩

theorem tEvict_z (cap : Nat) : ∀ (fuel : Nat) (s : TSt), ZInv s →
    ZInv (tEvict fuel cap s) ∧ (tEvict fuel cap s).cache.length ≤ s.cache.length ∧
    (∀ x, x ∈ akeys (tEvict fuel cap s).cache → x ∈ akeys s.cache) ∧
    (1 ≤ cap → s.cache.length < cap + fuel → (tEvict fuel cap s).cache.length < cap) := by
  intro fuel
  induction fuel with
  | zero => intro s h; exact ⟨h, Nat.le_refl _, fun _ hx => hx, fun _ hl => by simpa [tEvict] using hl⟩
  | succ f ih =>
    intro s h
    unfold tEvict
    by_cases hlt : s.cache.length < cap
    · rw [if_pos hlt]; exact ⟨h, Nat.le_refl _, fun _ hx => hx, fun _ _ => hlt⟩
    · rw [if_neg hlt]
      cases ho : s.order with
      | nil =>
        simp only []
        refine ⟨h, Nat.le_refl _, fun _ hx => hx, fun h1 _ => ?_⟩
        -- nothing tracked, so nothing cached
        cases hc : s.cache with
        | nil => simp; omega
        | cons p t =>
          have : p.1 ∈ s.order := (h.same p.1).mpr (by rw [hc]; simp [akeys])
          rw [ho] at this; cases this
      | cons k r =>
        simp only []
        have hk : k ∈ akeys s.cache := (h.same k).mp (by rw [ho]; exact List.mem_cons_self)
        have h' : ZInv { s with order := r, cache := adel s.cache k } := by
          have := h.drop k
          rwa [ho, List.erase_cons_head] at this
        have hl := adel_length_lt s.cache k hk
        obtain ⟨a, b, c, d⟩ := ih _ h'
        refine ⟨a, Nat.le_trans b (Nat.le_of_lt hl), fun x hx => ((mem_akeys_adel _ _ _).mp (c x hx)).1, ?_⟩
        intro h1 hf
        exact d h1 (by show (adel s.cache k).length < cap + f; omega)

theorem tStore_z (cfg : TCfg) (s : TSt) (k v now : Nat) (h : ZInv s) (hc : ZCap cfg s) :
    ZInv (tStore cfg s k v now) ∧ ZCap cfg (tStore cfg s k v now) := by
  have key : ∀ s1 : TSt, ZInv s1 → (k ∉ akeys s1.cache → ∀ c, cfg.cap = some c → 1 ≤ c → s1.cache.length < c) →
      (k ∈ akeys s1.cache → ZCap cfg s1) →
      ZInv { s1 with order := (if k ∈ s1.order then s1.order.erase k else s1.order) ++ [k],
                     cache := aset s1.cache k (v, now) } ∧
      ZCap cfg { s1 with order := (if k ∈ s1.order then s1.order.erase k else s1.order) ++ [k],
                         cache := aset s1.cache k (v, now) } := by
    intro s1 h1 hroom hin
    by_cases hk : k ∈ akeys s1.cache
    · have hko : k ∈ s1.order := (h1.same k).mpr hk
      simp only [if_pos hko]
      exact ⟨⟨by rw [akeys_aset_mem _ _ _ hk]; exact h1.cnd, nodup_erase_append h1.ond,
          fun x => by rw [mem_erase_append h1.ond hko, akeys_aset_mem _ _ _ hk]; exact h1.same x⟩,
        fun c e hc1 => by rw [aset_length_mem _ _ _ hk]; exact hin hk c e hc1⟩
    · have hko : k ∉ s1.order := fun hx => hk ((h1.same k).mp hx)
      simp only [if_neg hko]
      exact ⟨⟨by rw [akeys_aset_not_mem _ _ _ hk]; exact nodup_append_singleton h1.cnd hk,
          nodup_append_singleton h1.ond hko,
          fun x => by rw [akeys_aset_not_mem _ _ _ hk, List.mem_append, List.mem_append, h1.same x]⟩,
        fun c e hc1 => by rw [aset_length_not_mem _ _ _ hk]; exact hroom hk c e hc1⟩
  unfold tStore
  cases hcap : cfg.cap with
  | none =>
    simp only []
    exact key s h (fun _ c e => by rw [hcap] at e; cases e) (fun _ => hc)
  | some c0 =>
    simp only []
    by_cases hk : k ∈ akeys s.cache
    · rw [if_pos hk]
      exact key s h (fun hn => absurd hk hn) (fun _ => hc)
    · rw [if_neg hk]
      obtain ⟨a, _, c', d⟩ := tEvict_z c0 (s.cache.length + 1) s h
      refine key _ a ?_ (fun hin => absurd (c' k hin) hk)
      intro _ c e hc1
      rw [hcap] at e; cases e
      exact d hc1 (by omega)

theorem tStart_z (cfg : TCfg) (s : TSt) (i : Nat) (op : TOp) (now : Nat) (h : ZInv s) (hc : ZCap cfg s) :
    ZInv (tStart cfg s i op now).1 ∧ ZCap cfg (tStart cfg s i op now).1 := by
  have touch : ∀ k, ZInv { s with order := lruTouch s.order k } := by
    intro k
    have hl : (lruTouch s.order k).Nodup ∧ ∀ x, x ∈ lruTouch s.order k ↔ x ∈ s.order := by
      unfold lruTouch; split
      · exact ⟨nodup_erase_append h.ond, mem_erase_append h.ond ‹_›⟩
      · exact ⟨h.ond, fun _ => Iff.rfl⟩
    exact ⟨h.cnd, hl.1, fun x => (hl.2 x).trans (h.same x)⟩
  cases op with
  | get k =>
    obtain ⟨s', p, e, hcache, _, hord, _⟩ := tStart_get cfg s i k now
    rw [e]
    exact ⟨hord.elim (fun ho => h.congr hcache ho) (fun ho => (touch k).congr hcache ho), hc.congr hcache⟩
  | put k v => exact ⟨h.congr rfl rfl, hc⟩
  | inv k =>
    unfold tStart
    simp only
    split
    · exact ⟨h.drop k, fun c e h1 => Nat.le_trans (List.length_filter_le _ _) (hc c e h1)⟩
    · exact ⟨h, hc⟩
  | invAll =>
    have e : (tStart cfg s i .invAll now).1 = { s with cache := [], order := [], refreshing := [] } := rfl
    rw [e]
    exact ⟨⟨List.nodup_nil, List.nodup_nil, fun x => by simp [akeys]⟩, fun c _ _ => Nat.zero_le _⟩
  | bput k v => exact ⟨h.congr rfl rfl, hc⟩
  | bdel k => exact ⟨h.congr rfl rfl, hc⟩
  | refresh k => exact ⟨h.congr rfl rfl, hc⟩

theorem tResume_z (cfg : TCfg) (s : TSt) (i : Nat) (p : TPend) (now : Nat) (h : ZInv s) (hc : ZCap cfg s) :
    ZInv (tResume cfg s i p now).1 ∧ ZCap cfg (tResume cfg s i p now).1 := by
  obtain ⟨_, hf, _⟩ := tResume_spec cfg s i p now
  rcases hf with ⟨h1, h2⟩ | ⟨s', k, v, h1, h2, h3, h4⟩
  · exact ⟨h.congr h1 h2, hc.congr h1⟩
  · obtain ⟨a, b⟩ := tStore_z cfg s' k v now (h.congr h1 h2) (hc.congr h1)
    exact ⟨a.congr h3 h4, b.congr h3⟩

theorem tStep_z (cfg : TCfg) (s : TSt) (a : TAct) (h : ZInv s) (hc : ZCap cfg s) :
    ZInv (tStep cfg s a).1 ∧ ZCap cfg (tStep cfg s a).1 := by
  cases a with
  | start i op now => exact tStart_z cfg s i op now h hc
  | resume i now =>
    unfold tStep
    simp only
    split
    · exact tResume_z cfg s i _ now h hc
    · exact ⟨h, hc⟩

theorem tRun_z (cfg : TCfg) (s : TSt) (as : List TAct) (h : ZInv s) (hc : ZCap cfg s) :
    ZInv (tRun cfg s as).1 ∧ ZCap cfg (tRun cfg s as).1 := by
  induction as generalizing s with
  | nil => exact ⟨h, hc⟩
  | cons a as ih =>
    obtain ⟨h1, h2⟩ := tStep_z cfg s a h hc
    exact ih _ h1 h2

end HappyModel.C16
