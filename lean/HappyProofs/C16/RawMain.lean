import HappyProofs.C16.RawStep
/-!
Read-after-write over every interleaving: the invariant along a whole schedule, from the
initial store, and the judge's verdict on the observed log (`raw_judge`).
-/
namespace HappyModel.C16

def startIds (as : List Act) : List Nat :=
  as.filterMap fun a => match a with | .start i _ _ => some i | _ => none

/-- the log of a schedule, for any way `mk` of rendering an observation that keeps the operation id
and the returned result -/
def obsRunG (mk : Nat → St → Option Res → Obs) (cfg : Cfg) (s : St) : List Act → List Obs
  | [] => []
  | a :: as => mk (actId a) (step cfg s a).1 (step cfg s a).2 :: obsRunG mk cfg (step cfg s a).1 as

structure AdmAll (g : Gh) (as : List Act) : Prop where
  nd : (startIds as).Nodup
  fresh : ∀ i ∈ startIds as, i ∉ g.started
  tab : ∀ i op now, Act.start i op now ∈ as →
    ∃ op', (i, op') ∈ g.ops ∧ ((∃ o1 o2, op' = .flush o1 ∧ op = .flush o2) ∨ op' = op)

theorem startIds_cons_start (i : Nat) (op : OpK) (now : Nat) (as : List Act) :
    startIds (.start i op now :: as) = i :: startIds as := rfl
theorem startIds_cons_resume (i : Nat) (now : Nat) (as : List Act) :
    startIds (.resume i now :: as) = startIds as := rfl

theorem AdmAll.head {g : Gh} {a : Act} {as : List Act} (h : AdmAll g (a :: as)) : Adm g a := by
  intro i op now e
  subst e
  exact ⟨h.fresh i List.mem_cons_self, h.tab i op now List.mem_cons_self⟩

theorem AdmAll.tail {g : Gh} {a : Act} {as : List Act} (h : AdmAll g (a :: as)) (o : Obs) :
    AdmAll (g.ext o (newIds a)) as := by
  cases a with
  | start i op now =>
    have hnd := h.nd
    rw [startIds_cons_start, List.nodup_cons] at hnd
    refine ⟨hnd.2, ?_, fun j op' now' hj => h.tab j op' now' (List.mem_cons_of_mem _ hj)⟩
    intro j hj
    simp only [Gh.ext, newIds, List.mem_append, List.mem_singleton, not_or]
    exact ⟨h.fresh j (List.mem_cons_of_mem _ hj), fun e => hnd.1 (e ▸ hj)⟩
  | resume i now =>
    refine ⟨h.nd, ?_, fun j op' now' hj => h.tab j op' now' (List.mem_cons_of_mem _ hj)⟩
    intro j hj
    simp only [Gh.ext, newIds, List.append_nil]
    exact h.fresh j hj

theorem raw_run (cfg : Cfg) (hrep : cfg.rep = true) (mk : Nat → St → Option Res → Obs)
    (hmi : ∀ i s r, (mk i s r).i = i) (hmr : ∀ i s r, (mk i s r).res = r) :
    ∀ (as : List Act) (g : Gh) (s : St), RInvA g s → AdmAll g as →
      ∃ g', g'.ops = g.ops ∧ g'.evs = g.evs ++ obsRunG mk cfg s as ∧ RInvA g' (run cfg s as) := by
  intro as
  induction as with
  | nil => intro g s h _; exact ⟨g, rfl, by simp [obsRunG], h⟩
  | cons a as ih =>
    intro g s h hadm
    have hstep := raw_step cfg hrep h a hadm.head (mk (actId a) (step cfg s a).1 (step cfg s a).2) (hmi _ _ _) (hmr _ _ _)
    obtain ⟨g', h1, h2, h3⟩ := ih _ _ hstep (hadm.tail _)
    refine ⟨g', h1, ?_, h3⟩
    rw [h2]
    simp [Gh.ext, obsRunG]

theorem rinvG_init (R : WOrd) (ops : List (Nat × OpK)) (hnd : (ops.map (·.1)).Nodup) (p : Pol) :
    RInvG R ⟨ops, [], []⟩ { pol := p } := by
  refine ⟨⟨hnd, ?_, ?_, ?_⟩, ⟨?_, ?_, ?_, ?_, ?_⟩, ⟨?_, ?_, ?_, ?_⟩, ?_⟩
  · intro i hi; cases hi
  · intro i _; rfl
  · intro i k rs re _ hs; simp [firstIdx] at hs
  · intro x hx; cases hx
  · exact List.nodup_nil
  · intro k; rfl
  · intro x hx; cases hx
  · intro i v hm; cases hm
  · intro k hk; cases hk
  · intro k v hv; simp [aget?] at hv
  · intro k _
    exact Or.inr ⟨rfl, fun j _ hj => by cases hj⟩
  · intro i k e hm; cases hm
  · intro i k rs re _ hs; simp [firstIdx] at hs

theorem rinvA_init (ops : List (Nat × OpK)) (hnd : (ops.map (·.1)).Nodup) (p : Pol) :
    RInvA ⟨ops, [], []⟩ { pol := p } := rinvG_init _ ops hnd p

theorem raw_judge (cfg : Cfg) (hrep : cfg.rep = true) (mk : Nat → St → Option Res → Obs)
    (hmi : ∀ i s r, (mk i s r).i = i) (hmr : ∀ i s r, (mk i s r).res = r)
    (ops : List (Nat × OpK)) (hnd : (ops.map (·.1)).Nodup) (p : Pol) (as : List Act)
    (hadm : AdmAll ⟨ops, [], []⟩ as) :
    judgeReads cfg ops (obsRunG mk cfg { pol := p } as) = none := by
  obtain ⟨g', h1, h2, h3⟩ := raw_run cfg hrep mk hmi hmr as _ _ (rinvA_init ops hnd p) hadm
  have := judgeReads_none (cfg := cfg) h3.gi.d
  rw [h1, h2] at this
  exact this

end HappyModel.C16
