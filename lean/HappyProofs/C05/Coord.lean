import HappyProofs.C05.Exchange
/-!
The executable coordinator loop (`coordLoop`, what the driver runs) keeps the `Safe` invariant:
its own exits (router raised / fuel / min-latency validation) are exactly the side conditions
`WindowOk` of `execAll_ran`, so a run that returns without error never discarded an event.
-/
namespace HappyModel.C05

variable {σ : Type}

theorem haltedB_iff {h : Handler σ} {r : Nat → Route} {strict : Bool} {we : Nat} {p : Part σ} :
    haltedB h r strict we p = true ↔ Halted h r strict we p := by
  unfold haltedB Halted
  cases stepWin h r strict we p <;> simp

/-- `windowStep` is the instance `exchange c`, `windowStepR` the instance `exchangeR c`.  The body
    repeats the model's text with `ex` for the exchange: `coordLoop_eq` / `coordLoopR_eq` close by
    `rfl` only while the three stay word for word the same. -/
def windowStepG (ex : List (Part σ) → List (Part σ)) (h : Handler σ) (c : Cfg) (strict : Bool)
    (fuel we : Nat) (s : Coord σ) : Coord σ :=
  if (execAll h c strict fuel we s.parts).any (·.bad) then
    { s with parts := execAll h c strict fuel we s.parts, err := some .runtime }
  else if !(execAll h c strict fuel we s.parts).all (fun p => haltedB h (c.route p.pid) strict we p) then
    { s with parts := execAll h c strict fuel we s.parts, err := some .fuel }
  else if !(allMsgs (execAll h c strict fuel we s.parts)).all c.latOk then
    { s with parts := execAll h c strict fuel we s.parts, err := some .runtime }
  else
    { parts := ex (execAll h c strict fuel we s.parts), cur := we, windows := s.windows,
      injected := s.injected + (allMsgs (execAll h c strict fuel we s.parts)).length,
      outboxed := s.outboxed + (allMsgs (execAll h c strict fuel we s.parts)).length, err := none }

def coordLoopG (step : Nat → Coord σ → Coord σ) (wEff endT : Nat) : Nat → Coord σ → Coord σ
  | 0, s => { s with err := some .fuel }
  | n + 1, s =>
    if s.err.isSome then s
    else if endT ≤ s.cur then step endT s
    else
      let we := if s.cur + wEff > endT then endT else s.cur + wEff
      let s1 := step we s
      if s1.err.isSome then s1
      else
        let s' : Coord σ := { s1 with windows := s.windows + 1 }
        if s'.parts.all (·.heap.isEmpty) then s' else coordLoopG step wEff endT n s'

theorem coordLoop_eq (h : Handler σ) (c : Cfg) (strict : Bool) (fuel wEff endT : Nat) :
    ∀ (n : Nat) (s : Coord σ), coordLoop h c strict fuel wEff endT n s
      = coordLoopG (windowStepG (exchange c) h c strict fuel) wEff endT n s
  | 0, _ => rfl
  | n + 1, s => by
    simp only [coordLoop, coordLoopG, coordLoop_eq h c strict fuel wEff endT n]
    rfl

theorem windowStepG_ok (ex : List (Part σ) → List (Part σ)) (h : Handler σ) (c : Cfg) (fuel we : Nat)
    (s : Coord σ) (hr : (windowStepG ex h c true fuel we s).err = none) :
    WindowOk h c fuel we s.parts ∧ (windowStepG ex h c true fuel we s).cur = we
    ∧ (windowStepG ex h c true fuel we s).parts = ex (execAll h c true fuel we s.parts) := by
  unfold windowStepG at hr ⊢
  by_cases hbad : (execAll h c true fuel we s.parts).any (·.bad) = true
  · simp [hbad] at hr
  · simp only [hbad, Bool.false_eq_true, if_false] at hr ⊢
    by_cases hh : (execAll h c true fuel we s.parts).all (fun p => haltedB h (c.route p.pid) true we p) = true
    · simp only [hh, Bool.not_true, Bool.false_eq_true, if_false] at hr ⊢
      by_cases hl : (allMsgs (execAll h c true fuel we s.parts)).all c.latOk = true
      · simp only [hl, Bool.not_true, Bool.false_eq_true, if_false] at hr ⊢
        refine ⟨⟨?_, ?_, ?_⟩, trivial, trivial⟩
        · intro p hp
          simp only [List.any_eq_true, not_exists, not_and] at hbad
          simpa using hbad p hp
        · intro p hp
          exact haltedB_iff.mp (List.all_eq_true.mp hh p hp)
        · exact fun m hm => List.all_eq_true.mp hl m hm
      · simp [hl] at hr
    · simp [hh] at hr

/-- Hoare rule for the coordinator loop.  `P` holds of every error-free state the loop iterates from,
    `R` of every state it can return: out of fuel, the final pass at the end time, an iteration that
    failed, or an iteration after which all heaps are empty. -/
theorem coordLoopG_induct {step : Nat → Coord σ → Coord σ} {wEff endT : Nat} (P R : Coord σ → Prop)
    (hfuel : ∀ s : Coord σ, R { s with err := some .fuel })
    (hlast : ∀ s, P s → endT ≤ s.cur → R (step endT s))
    (hwin : ∀ s we, P s → s.cur ≤ we → we ≤ s.cur + wEff → we ≤ endT →
      ((step we s).err.isSome = true → R (step we s)) ∧
      ((step we s).err = none → P { step we s with windows := s.windows + 1 } ∧
        ((step we s).parts.all (·.heap.isEmpty) = true → R { step we s with windows := s.windows + 1 }))) :
    ∀ (n : Nat) (s : Coord σ), s.err = none → P s → R (coordLoopG step wEff endT n s) := by
  intro n
  induction n with
  | zero => intro s _ _; exact hfuel s
  | succ n ih =>
    intro s he hP
    simp only [coordLoopG, he, Option.isSome_none, Bool.false_eq_true, if_false]
    by_cases hend : endT ≤ s.cur
    · simp only [hend, if_true]
      exact hlast s hP hend
    · simp only [hend, if_false]
      generalize hwe : (if s.cur + wEff > endT then endT else s.cur + wEff) = we
      have hb : s.cur ≤ we := by subst hwe; split <;> omega
      have hle : we ≤ s.cur + wEff := by subst hwe; split <;> omega
      have hwT : we ≤ endT := by subst hwe; split <;> omega
      obtain ⟨h1, h2⟩ := hwin s we hP hb hle hwT
      by_cases h3 : (step we s).err.isSome = true
      · simp only [h3, if_true]
        exact h1 h3
      · simp only [h3, Bool.false_eq_true, if_false]
        have h3' : (step we s).err = none := by simpa using h3
        split
        · exact (h2 h3').2 ‹_›
        · exact ih _ h3' (h2 h3').1

/-- Stated for any `L` that is the loop over `ex`, so that it applies to `coordLoop` (`coordLoop_eq`)
    and `coordLoopR` as they are written; `Q` is established at both exits (all heaps empty / final
    pass at the end time). -/
theorem coordLoop_inv (ex : List (Part σ) → List (Part σ)) (h : Handler σ) (c : Cfg)
    (fuel wEff endT : Nat) (L : Nat → Coord σ → Coord σ)
    (hL : ∀ n s, L n s = coordLoopG (windowStepG ex h c true fuel) wEff endT n s)
    (I : Nat → List (Part σ) → Prop) (Q : List (Part σ) → Prop)
    (hstep : ∀ b we ps, I b ps → b ≤ we → we ≤ b + wEff → we ≤ endT → WindowOk h c fuel we ps →
      I we (ex (execAll h c true fuel we ps)))
    (hempty : ∀ ps : List (Part σ), ps.all (·.heap.isEmpty) = true → Q ps)
    (hfinal : ∀ ps, I endT ps → WindowOk h c fuel endT ps → Q (ex (execAll h c true fuel endT ps)))
    (n : Nat) (s : Coord σ) (he : s.err = none) (hcur : s.cur ≤ endT) (inv : I s.cur s.parts)
    (hr : (L n s).err = none) : I (L n s).cur (L n s).parts ∧ Q (L n s).parts := by
  rw [hL] at hr ⊢
  refine coordLoopG_induct (fun s => s.cur ≤ endT ∧ I s.cur s.parts)
    (fun r => r.err = none → I r.cur r.parts ∧ Q r.parts) (fun s hr => nomatch hr) ?_ ?_
    n s he ⟨hcur, inv⟩ hr
  · intro s ⟨hc, hI⟩ hend hr
    obtain ⟨hok, h2, h3⟩ := windowStepG_ok ex h c fuel endT s hr
    have hce : s.cur = endT := by omega
    rw [h2, h3]
    exact ⟨hstep _ _ _ hI (by omega) (by omega) (Nat.le_refl _) hok, hfinal _ (hce ▸ hI) hok⟩
  · intro s we ⟨_, hI⟩ hb hle hwT
    refine ⟨fun h1 hr => by simp [hr] at h1, fun h1 => ?_⟩
    obtain ⟨hok, hc, hp⟩ := windowStepG_ok ex h c fuel we s h1
    have hI' : I (windowStepG ex h c true fuel we s).cur (windowStepG ex h c true fuel we s).parts := by
      rw [hc, hp]
      exact hstep _ _ _ hI hb hle hwT hok
    exact ⟨⟨by simpa [hc] using hwT, hI'⟩, fun hem _ => ⟨hI', hempty _ hem⟩⟩

theorem heap_gt_of_all_empty {T : Nat} {ps : List (Part σ)} (hem : ps.all (·.heap.isEmpty) = true) :
    ∀ p ∈ ps, ∀ e ∈ p.heap, T < e.time := by
  intro p hp e he
  have := List.all_eq_true.mp hem p hp
  simp only [List.isEmpty_iff] at this
  simp [this] at he

theorem coordLoop_safe (h : Handler σ) (c : Cfg) (fuel wEff endT : Nat) (hw : WindowLeLat c wEff)
    (n : Nat) (s : Coord σ) (he : s.err = none) (hcur : s.cur ≤ endT) (safe : Safe c s.cur s.parts)
    (hr : (coordLoop h c true fuel wEff endT n s).err = none) :
    Safe c (coordLoop h c true fuel wEff endT n s).cur (coordLoop h c true fuel wEff endT n s).parts :=
  (coordLoop_inv (exchange c) h c fuel wEff endT _ (coordLoop_eq h c true fuel wEff endT) (Safe c) (fun _ => True)
    (fun _ _ _ inv hb hle _ ok => (execAll_ran hw hb inv ok).safe hle)
    (fun _ _ => trivial) (fun _ _ _ => trivial) n s he hcur safe hr).1

theorem Safe.noTT {c : Cfg} {b : Nat} {ps : List (Part σ)} (s : Safe c b ps) : ∀ p ∈ ps, p.tt = [] :=
  fun p hp => (s.inv p hp).noTT

theorem Safe.init (c : Cfg) (start : Nat) (ps : List (Part σ))
    (hc : ∀ p ∈ ps, p.clock = start) (ht : ∀ p ∈ ps, ∀ e ∈ p.heap, start ≤ e.time)
    (ho : ∀ p ∈ ps, ∀ e ∈ p.heap, c.part e.tgt = p.pid)
    (hz : ∀ p ∈ ps, p.tt = [] ∧ p.outbox = [] ∧ p.bad = false) : Safe c start ps := by
  constructor
  · intro p hp
    exact ⟨fun e he => hc p hp ▸ ht p hp e he, ht p hp, ho p hp, (hz p hp).1,
           by simp [(hz p hp).2.1]⟩
  · intro p hp; exact Nat.le_of_eq (hc p hp)
  · intro p hp; exact (hz p hp).2.1
  · intro p hp; exact (hz p hp).2.2

end HappyModel.C05
