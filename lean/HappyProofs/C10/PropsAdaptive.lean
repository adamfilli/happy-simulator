import HappyProofs.C10.AdaptiveEpoch
/-! Adaptive bucket: what the invariant `tok ≤ cap p` gives beside the epoch clause (`adaptive_epoch_bound`,
    `AdaptiveEpoch.lean`). -/
namespace HappyModel.C10

/-- **Tokens never exceed `current_rate · window`**, after any operation list (in particular right
    after a `record_failure`), and the rate stays in `[pmin, pmax]`. -/
theorem adaptive_bucket_within_rate (c : ADCfg) (hc : ADOk c) : ∀ (ops : List Op) (s : AD),
    s.InRange c → s.tok ≤ c.cap s.p →
    (AD.run c s ops).InRange c ∧ (AD.run c s ops).tok ≤ c.cap (AD.run c s ops).p :=
  fun ops s hr hf => ⟨(AD.run_inv c hc ops s hr).1, (AD.run_inv c hc ops s hr).2.1 hf⟩

theorem mono_replicate_acq (t : Nat) : ∀ (k l : Nat), l ≤ t → MonoOps l (List.replicate k (.acq t))
  | 0, _, _ => trivial
  | k + 1, _, h => ⟨h, mono_replicate_acq t k t (Nat.le_refl _)⟩

theorem epochAdm_burst_times (c : ADCfg) (r t : Nat) : ∀ (k : Nat) (s : AD),
    ∀ x ∈ epochAdm r (AD.obs c s (List.replicate k (.acq t))), x = t := by
  intro k
  induction k with
  | zero => intro s x hx; simp [AD.obs, epochAdm] at hx
  | succ k ih =>
    intro s x hx
    simp only [List.replicate_succ, AD.obs, epochAdm] at hx
    split at hx
    · rcases List.mem_cons.mp hx with h | h
      · exact h
      · exact ih _ x h
    · exact ih _ x hx

/-- **A burst after a decrease is bounded by the decreased capacity**: whatever the bucket held, the
    requests granted by `k` `try_acquire` calls at one instant `t` following `record_failure` — later
    or at the very same instant — number at most `cap (new rate) / one`. -/
theorem adaptive_burst_after_decrease (c : ADCfg) (s : AD) (t k : Nat) (hl : ∀ l, s.last = some l → l ≤ t) :
    (epochAdm (c.dec s.p) (AD.obs c (s.failure c) (List.replicate k (.acq t)))).length * c.one
      ≤ c.cap (c.dec s.p) := by
  obtain ⟨l, hl', hmo⟩ := MonoOps.start (last := (s.failure c).last)
    (fun l h => mono_replicate_acq t k l (hl l h)) (fun _ => mono_replicate_acq t k 0 (Nat.zero_le _))
  exact (ad_epoch_pot c _ _ (Nat.le_refl _) _ (s.failure c) l rfl (Nat.min_le_right _ _) hl' hmo).burst_le
    (epochAdm_burst_times c (c.dec s.p) t k (s.failure c))

-- rates 2…8 units/ns, window 4 ns, one token = 4 units: bucket 8 tokens at rate 8, 4 at rate 4
example : ADOk ⟨2, 8, 1, 1, 2, 4, 1, 4⟩ ∧ AD.InRange ⟨2, 8, 1, 1, 2, 4, 1, 4⟩ ⟨8, 32, none⟩ ∧
    (32 : Nat) ≤ ADCfg.cap ⟨2, 8, 1, 1, 2, 4, 1, 4⟩ 8 := by
  refine ⟨⟨by decide, by decide⟩, ⟨by decide, by decide⟩, by decide⟩
/-- the repaired model: failure before the first call, burst later — 4 admitted, not 8 -/
example : AD.obs ⟨2, 8, 1, 1, 2, 4, 1, 4⟩ ⟨8, 32, none⟩
      [.fail 1, .acq 2, .acq 2, .acq 2, .acq 2, .acq 2] =
    [.fb 1 4, .acq 2 true, .acq 2 true, .acq 2 true, .acq 2 true, .acq 2 false] := by rfl
/-- what the unrepaired code answers on the same input (8 grants at rate 4) is rejected by the Spec,
    and so is a same-instant burst after the decrease -/
example : adaptiveOK (ADCfg.cap ⟨2, 8, 1, 1, 2, 4, 1, 4⟩) 4 0 8
      [.fb 1 4, .acq 2 true, .acq 2 true, .acq 2 true, .acq 2 true, .acq 2 true] = false ∧
    adaptiveOK (ADCfg.cap ⟨2, 8, 1, 1, 2, 4, 1, 4⟩) 4 0 8
      [.acq 5 true, .fb 5 4, .acq 5 true, .acq 5 true, .acq 5 true, .acq 5 true, .acq 5 true] = false ∧
    adaptiveOK (ADCfg.cap ⟨2, 8, 1, 1, 2, 4, 1, 4⟩) 4 0 8
      [.acq 5 true, .fb 5 4, .acq 5 true, .acq 5 true, .acq 5 true, .acq 5 true, .acq 5 false] = true := by
  decide +kernel

end HappyModel.C10
