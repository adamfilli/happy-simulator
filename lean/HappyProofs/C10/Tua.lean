import HappyProofs.C10.Adaptive
import HappyProofs.C10.Windows
namespace HappyModel.C10

theorem waitOf_pos (d p : Nat) : 0 < waitOf d p := by
  unfold waitOf; split
  · exact Nat.one_pos
  · exact Nat.pos_of_ne_zero ‹_›

theorem waitOf_small (d p : Nat) (h : d < p) : waitOf d p = 1 := by
  unfold waitOf; rw [if_pos (Nat.div_eq_of_lt h)]

theorem div_le_waitOf (d p : Nat) : d / p ≤ waitOf d p := by
  unfold waitOf; split
  · exact Nat.le_trans (Nat.le_of_eq ‹_›) (Nat.zero_le _)
  · exact Nat.le_refl _

theorem before_wait (d p x : Nat) (hp : 0 < p) (hd : 0 < d) (hx : x < waitOf d p) : p * x < d := by
  unfold waitOf at hx
  split at hx
  · rw [Nat.lt_one_iff.mp hx]; exact hd
  · calc p * x < p * (x + 1) := Nat.lt_add_of_pos_right hp
      _ ≤ p * (d / p) := Nat.mul_le_mul_left p hx
      _ ≤ d := Nat.mul_div_le d p

theorem short_before_wait (p one a t t' : Nat) (hp : 0 < p) (ha : a < one) (ht : t ≤ t')
    (hx : t' < t + waitOf (one - a) p) : a + p * (t' - t) < one :=
  Nat.add_lt_of_lt_sub' (before_wait (one - a) p (t' - t) hp (Nat.sub_pos_of_lt ha)
    (Nat.sub_lt_left_of_lt_add ht hx))

theorem after_wait (d p : Nat) (hp : 0 < p) : d < p * waitOf d p + p :=
  calc d < p * (d / p + 1) := Nat.lt_mul_div_succ d hp
    _ ≤ p * waitOf d p + p := Nat.add_le_add_right (Nat.mul_le_mul_left p (div_le_waitOf d p)) p

/-- Waiting twice suffices.  `D u` is what is missing at time `u`; it shrinks by `p` per ns, and `W u` is the
    wait returned at `u`.  After the first wait fewer than `p` units are missing, so the next wait is the
    1 ns guard, and 1 ns brings `p`. -/
theorem wait_twice (p : Nat) (hp : 0 < p) (D : Nat → Nat) (t : Nat)
    (hD : ∀ u x, t ≤ u → D (u + x) ≤ D u - p * x) (W : Nat → Nat)
    (hW : ∀ u, t ≤ u → W u = if D u = 0 then 0 else waitOf (D u) p) :
    W t = 0 ∨ W (t + W t) = 0 ∨ W (t + W t + W (t + W t)) = 0 := by
  by_cases h0 : D t = 0
  · exact .inl (by rw [hW t (Nat.le_refl t), if_pos h0])
  · rw [hW t (Nat.le_refl t), if_neg h0]
    have h1 := hD t (waitOf (D t) p) (Nat.le_refl _)
    have h2 := after_wait (D t) p hp
    have h3 := hD (t + waitOf (D t) p) 1 (Nat.le_add_right _ _)
    have h5 : D (t + waitOf (D t) p) < p := by omega
    have h6 : D (t + waitOf (D t) p + 1) = 0 := by omega
    by_cases h4 : D (t + waitOf (D t) p) = 0
    · exact .inr (.inl (by rw [hW _ (Nat.le_add_right _ _), if_pos h4]))
    · refine .inr (.inr ?_)
      rw [hW (t + _) (Nat.le_add_right _ _), if_neg h4, waitOf_small _ _ h5,
        hW _ (Nat.le_trans (Nat.le_add_right _ _) (Nat.le_add_right _ _)), if_pos h6]

section tb
variable (c : TBCfg) (s : TB) (t : Nat)

theorem sub_min_add_le (one cap a y : Nat) (h : one ≤ cap) : one - min cap (a + y) ≤ one - a - y := by
  rcases Nat.le_total cap (a + y) with h' | h'
  · rw [Nat.min_eq_left h', Nat.sub_eq_zero_of_le h]; exact Nat.zero_le _
  · rw [Nat.min_eq_right h', Nat.sub_add_eq]; exact Nat.le_refl _

theorem min_min_add (c a y : Nat) : min c (min c a + y) = min c (a + y) := by
  rcases Nat.le_total c a with h | h
  · rw [Nat.min_eq_left h, Nat.min_eq_left (Nat.le_add_right c y),
      Nat.min_eq_left (Nat.le_trans h (Nat.le_add_right a y))]
  · rw [Nat.min_eq_right h]

theorem TB.refill_refill (l t t' : Nat) (hl : s.last = some l) (h1 : l ≤ t)
    (h2 : t ≤ t') : (s.refill c t).refill c t' = s.refill c t' := by
  rcases Nat.eq_or_lt_of_le h1 with rfl | h1
  · rw [TB.refill_same c s l hl]
  · rcases Nat.eq_or_lt_of_le h2 with rfl | h2
    · exact TB.refill_idem c s t
    · rw [TB.refill_later c s l t hl h1, TB.refill_later c _ t t' rfl h2,
        TB.refill_later c s l t' hl (Nat.lt_trans h1 h2)]
      simp only []
      rw [min_min_add, Nat.add_assoc, mul_sub_split c.p l t t' (Nat.le_of_lt h1) (Nat.le_of_lt h2)]

theorem TB.tua_snd :
    (TB.tua c s t).2 = if c.one - (s.refill c t).tok = 0 then 0 else waitOf (c.one - (s.refill c t).tok) c.p := by
  unfold TB.tua; simp only [Nat.sub_eq_zero_iff_le]; split <;> rfl

theorem tb_stable : Stable (tbPolicy c) (fun s t => NotBefore s.last t) :=
  (tbNorm c).stable (fun _ _ _ h ht l hl => Nat.le_trans (h l hl) ht)
    (fun s t h l hl => Nat.le_of_eq (eq_of_some (TB.refill_last c s t h) l hl)) (fun _ _ h _ _ => h)

theorem tb_waitPos : (tbNorm c).WaitPos := fun _ _ _ => waitOf_pos _ _

theorem tb_timed (hp : 0 < c.p) : (tbNorm c).Timed (fun s t => NotBefore s.last t) where
  comp s t hg t' t'' h1 h2 := TB.refill_refill c _ t t' t'' (TB.refill_last c s t hg) h1 h2
  early s t t' hg hok h1 h2 :=
    Nat.not_le.mpr (Nat.lt_of_le_of_lt (TB.refill_tok_le c (s.refill c t) t' t (eq_of_some (TB.refill_last c s t hg)))
      (short_before_wait c.p c.one _ t t' hp (Nat.lt_of_not_le hok) h1 h2))

theorem tb_tua_reaches_admission (hp : 0 < c.p) (hcap : c.one ≤ c.cap)
    (hm : NotBefore s.last t) :
    (TB.tua c s t).2 = 0 ∨
    (TB.tua c (TB.tua c s t).1 (t + (TB.tua c s t).2)).2 = 0 ∨
    (TB.tua c (TB.tua c (TB.tua c s t).1 (t + (TB.tua c s t).2)).1
        (t + (TB.tua c s t).2 + (TB.tua c (TB.tua c s t).1 (t + (TB.tua c s t).2)).2)).2 = 0 := by
  have hr := TB.refill_last c s t hm
  simp only [TB.tua_fst, TB.tua_snd]
  generalize s.refill c t = r at hr ⊢
  -- what is missing at `u ≥ t` shrinks by `p` per ns, the bucket being large enough for a token
  have hD : ∀ u x, t ≤ u → c.one - (r.refill c (u + x)).tok ≤ c.one - (r.refill c u).tok - c.p * x := by
    intro u x hu
    rcases Nat.eq_zero_or_pos x with rfl | hx
    · exact Nat.le_refl _
    · rw [← TB.refill_refill c r t u (u + x) hr hu (Nat.le_add_right _ _),
        TB.refill_later c _ u (u + x) (TB.refill_last c r u (fun l h => eq_of_some hr l h ▸ hu))
          (Nat.lt_add_of_pos_right hx),
        Nat.add_sub_cancel_left]
      exact sub_min_add_le c.one c.cap _ _ hcap
  have key := wait_twice c.p hp (fun u => c.one - (r.refill c u).tok) t hD _ (fun _ _ => rfl)
  simp only [TB.refill_same c r t hr] at key
  rwa [TB.refill_refill c r t _ _ hr (Nat.le_add_right _ _) (Nat.le_add_right _ _)]

end tb

section lb
variable (c : LBCfg) (s : LB) (t : Nat)

theorem LB.wait_some (l t : Nat) (hl : s.last = some l) (h : l ≤ t) :
    s.wait c t = if c.one - c.p * (t - l) = 0 then 0 else waitOf (c.one - c.p * (t - l)) c.p := by
  unfold LB.wait; rw [hl]; simp only [h, if_true, Nat.sub_eq_zero_iff_le]

theorem lb_waitPos : (lbNorm c).WaitPos := by
  rintro ⟨_ | l⟩ t h
  · exact absurd trivial h
  · change ¬ (l ≤ t ∧ c.one ≤ c.p * (t - l)) at h
    show 0 < if l ≤ t then (if c.one ≤ c.p * (t - l) then 0 else _) else _
    split
    · rw [if_neg fun h2 => h ⟨‹_›, h2⟩]; exact waitOf_pos _ _
    · exact waitOf_pos _ _

theorem lb_timed (hp : 0 < c.p) : (lbNorm c).Timed (fun s t => NotBefore s.last t) where
  comp _ _ _ _ _ _ _ := rfl
  early := by
    rintro ⟨_ | l⟩ t t' hg hok h1 h2
    · exact absurd trivial hok
    · have hlt := hg l rfl
      have hn : ¬ c.one ≤ c.p * (t - l) := fun h => hok ⟨hlt, h⟩
      change t' < t + LB.wait c ⟨some l⟩ t at h2
      rw [LB.wait_some c _ l t rfl hlt, if_neg (Nat.sub_ne_zero_of_lt (Nat.lt_of_not_le hn))] at h2
      have := short_before_wait c.p c.one _ t t' hp (Nat.lt_of_not_le hn) h1 h2
      rw [mul_sub_split c.p l t t' hlt h1] at this
      exact fun h => Nat.not_le.mpr this h.2

theorem lb_stable : Stable (lbPolicy c) (fun s t => NotBefore s.last t) :=
  (lbNorm c).stable (fun _ _ _ h ht l hl => Nat.le_trans (h l hl) ht) (fun _ _ h => h)
    (fun _ _ _ _ _ _ hl => Nat.le_of_eq (Option.some.inj hl).symm)

theorem lb_tua_reaches_admission (hp : 0 < c.p)
    (hm : NotBefore s.last t) :
    (LB.tua c s t).2 = 0 ∨ (LB.tua c s (t + (LB.tua c s t).2)).2 = 0 ∨
    (LB.tua c s (t + (LB.tua c s t).2 + (LB.tua c s (t + (LB.tua c s t).2)).2)).2 = 0 := by
  cases hl : s.last with
  | none => left; unfold LB.tua LB.wait; rw [hl]
  | some l =>
    have hlt := hm l hl
    refine wait_twice c.p hp (fun u => c.one - c.p * (u - l)) t (fun u x hu => ?_) (s.wait c)
      (fun u hu => LB.wait_some c s l u hl (Nat.le_trans hlt hu))
    rw [Nat.sub_add_comm (Nat.le_trans hlt hu), Nat.mul_add, Nat.sub_add_eq]
    exact Nat.le_refl _

end lb

section ad
variable (c : ADCfg) (s : AD) (t : Nat)

theorem ad_tua_reaches_admission (hp : 0 < s.p)
    (hcap : c.one ≤ c.cap s.p) (hm : NotBefore s.last t) :
    (AD.tua c s t).2 = 0 ∨
    (AD.tua c (AD.tua c s t).1 (t + (AD.tua c s t).2)).2 = 0 ∨
    (AD.tua c (AD.tua c (AD.tua c s t).1 (t + (AD.tua c s t).2)).1
        (t + (AD.tua c s t).2 + (AD.tua c (AD.tua c s t).1 (t + (AD.tua c s t).2)).2)).2 = 0 := by
  simp only [AD.tua_eq]
  exact tb_tua_reaches_admission (c.tb s.p) s.toTB t hp hcap hm

theorem ad_waitPos : (adNorm c).WaitPos := fun _ _ _ => waitOf_pos _ _

theorem AD.comp_of_clock {s : AD} {l now : Nat} (hl : s.last = some l) (h : l ≤ now) : (adNorm c).Comp s now := by
  intro t' t'' h1 h2
  show (s.refill c t').refill c t'' = s.refill c t''
  simp only [AD.refill_eq, AD.ofTB, AD.toTB]
  exact congrArg (AD.ofTB s.p) (TB.refill_refill (c.tb s.p) s.toTB l t' t'' hl (Nat.le_trans h h1) h2)

theorem ad_timed : (adNorm c).Timed (fun s t => 0 < s.p ∧ NotBefore s.last t) where
  comp s t hg := AD.comp_of_clock c (AD.refill_last c s t hg.2) (Nat.le_refl t)
  early s t t' hg hok h1 h2 := by
    have := (tb_timed (c.tb s.p) hg.1).early s.toTB t t' hg.2
    simp only [adNorm, AD.refill_eq, AD.ofTB, AD.toTB] at hok h2 ⊢
    exact this hok h1 h2

end ad

end HappyModel.C10
