import HappyProofs.C10.Windows
namespace HappyModel.C10

/-- `pre` = admitted so far.  All of it lies in windows up to the current one, whose counter
    dominates the number admitted in it. -/
def FInv (c : WCfg) (s : FW) (pre : List Nat) (now : Nat) : Prop :=
  (s.cur = none → pre = []) ∧
  (∀ w, s.cur = some w → ∃ k0, w = k0 * c.W ∧ w ≤ now ∧ (∀ e ∈ pre, e / c.W ≤ k0) ∧
    cntWin c.W k0 pre ≤ s.cnt ∧ s.cnt ≤ c.N)

theorem cntWin_zero_of_lt (W k : Nat) (pre : List Nat) (k0 : Nat) (h : ∀ e ∈ pre, e / W ≤ k0)
    (hk : k0 < k) : cntWin W k pre = 0 := by
  simp only [cntWin, List.length_eq_zero_iff, List.filter_eq_nil_iff, decide_eq_true_eq]
  intro e he; have := h e he; omega

theorem cntWin_single (W k t : Nat) : cntWin W k [t] = if t / W = k then 1 else 0 := by
  simp only [cntWin, List.filter_cons]
  split <;> simp_all

theorem FW.reset_spec (c : WCfg) (hW : 0 < c.W) (s : FW) (pre : List Nat) (t : Nat) (hi : FInv c s pre t) :
    (s.reset c t).cur = some (t / c.W * c.W) ∧ (∀ e ∈ pre, e / c.W ≤ t / c.W) ∧
    cntWin c.W (t / c.W) pre ≤ (s.reset c t).cnt ∧ (s.reset c t).cnt ≤ c.N := by
  obtain ⟨h1, h2⟩ := hi
  unfold FW.reset
  cases hc : s.cur with
  | none =>
    have := h1 hc; subst this
    simp [cntWin]
  | some w =>
    obtain ⟨k0, e1, e2, e3, e4, e5⟩ := h2 w hc
    have hk0 : k0 ≤ t / c.W := by
      have : k0 * c.W / c.W ≤ t / c.W := Nat.div_le_div_right (by omega)
      rwa [Nat.mul_div_cancel _ hW] at this
    by_cases hlt : w < t / c.W * c.W
    · -- window starts are aligned, so a later start is a later window: the old admissions do not count in it
      simp only [hlt, if_true]
      have hk : k0 < t / c.W := by
        rw [e1] at hlt; exact Nat.lt_of_mul_lt_mul_right hlt
      refine ⟨trivial, fun e he => Nat.le_trans (e3 e he) hk0, ?_, Nat.zero_le _⟩
      rw [cntWin_zero_of_lt c.W _ pre k0 e3 hk]; exact Nat.le_refl _
    · simp only [hlt, if_false]
      have hge : t / c.W ≤ k0 := by
        rw [e1] at hlt
        exact Nat.le_of_mul_le_mul_right (Nat.le_of_not_lt hlt) hW
      have heq : k0 = t / c.W := by omega
      subst heq
      exact ⟨by rw [hc, e1], e3, e4, e5⟩

theorem FW.reset_advance (c : WCfg) (r : FW) (t' w : Nat) (h : r.cur = some w)
    (hlt : w < t' / c.W * c.W) : r.reset c t' = ⟨some (t' / c.W * c.W), 0⟩ := by
  unfold FW.reset; rw [h]; exact if_pos hlt

theorem FW.reset_reset (c : WCfg) (s : FW) {t' t'' : Nat} (h : t' ≤ t'') :
    (s.reset c t').reset c t'' = s.reset c t'' := by
  have hd : t' / c.W * c.W ≤ t'' / c.W * c.W := Nat.mul_le_mul_right _ (Nat.div_le_div_right h)
  have fresh : (⟨some (t' / c.W * c.W), 0⟩ : FW).reset c t'' = ⟨some (t'' / c.W * c.W), 0⟩ := by
    unfold FW.reset; simp only
    split
    · rfl
    · rw [Nat.le_antisymm hd (Nat.le_of_not_lt ‹_›)]
  cases hc : s.cur with
  | none =>
    have e : ∀ u, s.reset c u = ⟨some (u / c.W * c.W), 0⟩ := fun u => by unfold FW.reset; rw [hc]
    rw [e, e, fresh]
  | some w =>
    by_cases hlt : w < t' / c.W * c.W
    · rw [FW.reset_advance c s t' w hc hlt, FW.reset_advance c s t'' w hc (Nat.lt_of_lt_of_le hlt hd), fresh]
    · rw [show s.reset c t' = s by unfold FW.reset; rw [hc]; exact if_neg hlt]

def fwNorm (c : WCfg) : Norm (fwPolicy c) where
  adv := FW.reset c
  ok r _ := r.cnt < c.N
  take r _ := ⟨r.cur, r.cnt + 1⟩
  wait r t := r.wait c t
  acq_eq _ _ := rfl
  tua_eq s t := by
    show (s.reset c t, (s.reset c t).wait c t) = _
    unfold FW.wait; split <;> rfl
  idem s t := FW.reset_reset c s (Nat.le_refl t)

theorem FInv.reset {c : WCfg} (hW : 0 < c.W) {s : FW} {pre : List Nat} {t : Nat} (hi : FInv c s pre t) :
    FInv c (s.reset c t) pre t := by
  obtain ⟨r1, r2, r3, r4⟩ := FW.reset_spec c hW s pre t hi
  refine ⟨fun h => (by rw [r1] at h; cases h), fun w hw => ?_⟩
  rw [r1] at hw; cases hw
  exact ⟨t / c.W, rfl, Nat.div_mul_le_self _ _, r2, r3, r4⟩

theorem FInv.admitOk {c : WCfg} (hW : 0 < c.W) {r : FW} {pre : List Nat} {t : Nat} (hi : FInv c r pre t)
    (hr : r.reset c t = r) (hq : r.cnt < c.N) :
    FInv c ⟨r.cur, r.cnt + 1⟩ (pre ++ [t]) t ∧ cntWin c.W (t / c.W) pre ≤ r.cnt := by
  obtain ⟨r1, r2, r3, _⟩ := FW.reset_spec c hW r pre t hi
  rw [hr] at r1 r3
  refine ⟨⟨fun h => (by rw [r1] at h; cases h), fun w hw => ?_⟩, r3⟩
  simp only [r1] at hw; cases hw
  refine ⟨t / c.W, rfl, Nat.div_mul_le_self _ _, fun e he => ?_, ?_, hq⟩
  · rcases List.mem_append.mp he with h | h
    · exact r2 e h
    · rw [List.mem_singleton.mp h]; exact Nat.le_refl _
  · rw [cntWin_append, cntWin_single, if_pos rfl]; exact Nat.add_le_add_right r3 1

theorem cntWin_admit (W N t : Nat) (pre : List Nat) (hc : ∀ k, cntWin W k pre ≤ N)
    (ht : cntWin W (t / W) pre < N) (k : Nat) : cntWin W k (pre ++ [t]) ≤ N := by
  rw [cntWin_append, cntWin_single]
  split
  · rename_i hk; subst hk; exact ht
  · exact hc k

/-- a closed interval of one window length meets at most two aligned windows -/
theorem cnt_le_two_windows (W : Nat) (hW : 0 < W) (a : Nat) (ts : List Nat) :
    cnt a (a + W) ts ≤ cntWin W (a / W) ts + cntWin W (a / W + 1) ts := by
  unfold cnt cntWin
  apply filter_length_le_add
  intro x _ hx
  simp only [decide_eq_true_eq] at hx ⊢
  have h1 : a / W ≤ x / W := Nat.div_le_div_right hx.1
  have h2 : x / W ≤ (a + W) / W := Nat.div_le_div_right hx.2
  rw [Nat.add_div_right _ hW] at h2
  omega

end HappyModel.C10
