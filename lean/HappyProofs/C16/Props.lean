import HappyProofs.C16.PolicyRun
import HappyProofs.C16.StoreInv
import HappyProofs.C16.StoreWB
import HappyProofs.C16.SoftTtlInv
import HappyProofs.C16.SoftSize
import HappyProofs.C16.RawSeq
import HappyProofs.C16.OrderLaws
import HappyProofs.C16.OrderLawsSampled
import HappyProofs.C16.OrderLawsSlru
import HappyProofs.C16.TierProps
import HappyProofs.C16.PageProps
import HappyProofs.C16.WPolProps
import HappyProofs.C16.ORawMain
/-!
# C16 — property theorems

"For any interleaving of reads, writes, deletes and invalidations, a cache layer holds at most its
capacity, the keys tracked by its eviction policy are exactly the keys it holds, and a read issued
after a write to the same key has completed returns that write's value or a later one. Write-back
data is never discarded before it reaches the backing store, and a soft-TTL cache never serves an
entry older than its hard TTL."

`OrderLaws`, `OrderLawsSampled`, `OrderLawsSlru` (where the order-law property theorems stand), `TierProps`, `PageProps`
and `WPolProps` are imported although nothing here uses them: this module is the root through which the harness builds
and audits C16 (hv/props/c16.py, `lake_targets` and `audit_imports`).
-/
namespace HappyModel.C16

theorem nil_iff_of_mem_iff {α} {l m : List α} (h : ∀ x, x ∈ l ↔ x ∈ m) : l = [] ↔ m = [] := by
  simp only [List.eq_nil_iff_forall_not_mem, h]

/-- After every well-formed call sequence, the keys a policy tracks are exactly the keys inserted
    and not yet removed / evicted (the history `SpecSt` is computed from the calls and the returned
    keys only), without duplicates. -/
theorem policy_keys_eq_cache_keys (name : String) (arg : Nat) (p0 : Pol)
    (h0 : Pol.ofName name arg = some p0) (ops : List POp)
    (hwf : (runBoth p0 {} ops).2.wf = true) :
    (∀ x, x ∈ (runBoth p0 {} ops).1.tracked ↔ x ∈ (runBoth p0 {} ops).2.keys) ∧
      (runBoth p0 {} ops).1.tracked.Nodup := by
  have r := keysRel_run p0 {} ops (keysRel_init name arg p0 h0) hwf
  exact ⟨r.same, Pol.inv_tracked_nodup _ r.inv⟩

/-- `evict` returns `None` exactly when no key is held — whatever the clock reading and the RNG draw;
    this is what makes the `break` in `CachedStore._cache_put` dead code. -/
theorem policy_evict_none_iff_empty (name : String) (arg : Nat) (p0 : Pol)
    (h0 : Pol.ofName name arg = some p0) (ops : List POp)
    (hwf : (runBoth p0 {} ops).2.wf = true) (now : Nat) (pick : List Key) :
    ((runBoth p0 {} ops).1.evict now pick).1 = none ↔ (runBoth p0 {} ops).2.held = [] := by
  have r := keysRel_run p0 {} ops (keysRel_init name arg p0 h0) hwf
  rw [Pol.evict_none_iff _ r.inv, nil_iff_of_mem_iff r.same]
  exact List.map_eq_nil_iff

/-- a returned key was held, and afterwards exactly that key is gone -/
theorem policy_evict_returns_held_key (name : String) (arg : Nat) (p0 : Pol)
    (h0 : Pol.ofName name arg = some p0) (ops : List POp)
    (hwf : (runBoth p0 {} ops).2.wf = true) (now : Nat) (pick : List Key) (k : Key)
    (hk : ((runBoth p0 {} ops).1.evict now pick).1 = some k) :
    k ∈ (runBoth p0 {} ops).2.keys ∧
      ∀ x, x ∈ ((runBoth p0 {} ops).1.evict now pick).2.tracked ↔
        x ∈ (runBoth p0 {} ops).2.keys ∧ x ≠ k := by
  have r := keysRel_run p0 {} ops (keysRel_init name arg p0 h0) hwf
  have law := Pol.evict_some_law _ r.inv now pick k hk
  exact ⟨(r.same k).mp law.1, fun x => by rw [law.2.2 x, r.same x]⟩

/-- non-vacuity: a well-formed LRU history with an access, an eviction and an insert after it -/
example :
    let ops := [POp.insert 0 0, .insert 1 0, .access 0, .evict 0 [], .insert 2 0]
    (runBoth (.lru {}) {} ops).2.wf = true ∧ (runBoth (.lru {}) {} ops).1.tracked = [0, 2] := by decide +kernel

/-- `clear()` — what `invalidate_all()` calls — leaves any of the nine policies exactly as new:
    whatever was called before it (well formed or not, any clock readings, any draws), the calls
    after it take the policy through the same states, and hence return the same keys and track the
    same keys, as they would on a freshly constructed policy.  No reference bit, frequency, segment
    membership, ghost entry or insertion reading survives a clear. -/
theorem policy_clear_is_fresh (name : String) (arg : Nat) (p0 : Pol)
    (h0 : Pol.ofName name arg = some p0) (before after : List POp) :
    Pol.run p0 (before ++ POp.clear :: after) = Pol.run p0 after ∧
      ∀ now pick, (Pol.run p0 (before ++ POp.clear :: after)).evict now pick =
        (Pol.run p0 after).evict now pick := by
  have h : Pol.run p0 (before ++ POp.clear :: after) = Pol.run p0 after := by
    rw [Pol.run_append]
    simp only [Pol.run, Pol.step]
    rw [Pol.run_clear, Pol.ofName_clear name arg p0 h0]
  exact ⟨h, fun now pick => by rw [h]⟩

/-- non-vacuity: a Clock policy whose keys had their reference bits set, cleared, the same keys
    re-inserted and a third one on top: all three are tracked again and the hand starts over -/
example :
    let before := [POp.insert 0 0, .insert 1 0, .access 0, .evict 0 []]
    let after := [POp.insert 0 0, .insert 1 0, .insert 2 0]
    (Pol.run (.clock {}) (before ++ POp.clear :: after)).tracked = [0, 1, 2] ∧
      ((Pol.run (.clock {}) (before ++ POp.clear :: after)).evict 0 []).1 = some 0 := by decide +kernel

/-- non-vacuity of the order laws: histories in which `evict` does return a key, and the key the law
    singles out (LRU: 1 after 0 was re-accessed; LFU: 1, touched once; FIFO: 0; TTL 5: 0 expired at 7) -/
example :
    let h := [POp.insert 0 0, .insert 1 2, .access 0]
    ((runBoth (.lru {}) {} h).1.evict 7 []).1 = some 1 ∧ ((runBoth (.lfu {}) {} h).1.evict 7 []).1 = some 1 ∧
    ((runBoth (.fifo {}) {} h).1.evict 7 []).1 = some 0 ∧ ((runBoth (.ttl { ttl := 5 }) {} h).1.evict 7 []).1 = some 0 ∧
    (runBoth (.lru {}) {} h).2.wf = true := by decide +kernel

/-- non-vacuity of the segmented-LRU and sampled-LRU order laws: 0 is re-accessed (protected), so SLRU
    evicts 1, the oldest key on probation; sampled LRU with sample size 2 and a draw naming 0 and 2
    evicts 2 (0 was touched last), although 1 is the least recently used key overall -/
example :
    let h := [POp.insert 0 0, .insert 1 0, .insert 2 0, .access 0]
    ((runBoth (.slru {}) {} h).1.evict 7 []).1 = some 1 ∧
    ((runBoth (.sampled { size := 2 }) {} h).1.evict 7 [0, 2, 1]).1 = some 2 ∧
    (runBoth (.slru {}) {} h).2.wf = true ∧
    orderOk (.sampled 2) (runBoth (.sampled { size := 2 }) {} h).2 7 [0, 2, 1] ⟨2, 2, 2, 1, 0⟩ = true ∧
    orderOk (.sampled 2) (runBoth (.sampled { size := 2 }) {} h).2 7 [0, 2, 1] ⟨1, 1, 1, 1, 0⟩ = false := by
  decide +kernel

def St.init (p : Pol) : St := { pol := p }

/-- `size_le_capacity`: after every interleaving of operation segments the cache holds at most
    `capacity` entries (both write modes, both variants, every policy, every RNG draw). -/
theorem size_le_capacity (cfg : Cfg) (hcap : 1 ≤ cfg.cap) (name : String) (arg : Nat) (p : Pol)
    (hp : Pol.ofName name arg = some p) (as : List Act) :
    (run cfg (St.init p) as).cache.length ≤ cfg.cap := by
  have r : SInv cfg (run cfg (St.init p) as) := run_inv cfg hcap _ as (init_inv cfg name arg p hp)
  exact r.size

/-- `policy_keys_eq_cache_keys` at the store level: after every interleaving the policy tracks
    exactly the cached keys, each once. -/
theorem store_policy_keys_eq_cache_keys (cfg : Cfg) (hcap : 1 ≤ cfg.cap) (name : String) (arg : Nat)
    (p : Pol) (hp : Pol.ofName name arg = some p) (as : List Act) :
    (∀ x, x ∈ (run cfg (St.init p) as).pol.tracked ↔ x ∈ akeys (run cfg (St.init p) as).cache) ∧
      (akeys (run cfg (St.init p) as).cache).Nodup ∧ (run cfg (St.init p) as).pol.tracked.Nodup := by
  have r : SInv cfg (run cfg (St.init p) as) := run_inv cfg hcap _ as (init_inv cfg name arg p hp)
  exact ⟨r.same, r.nodup, Pol.inv_tracked_nodup _ r.pinv⟩

/-- the `break` of `_cache_put` is unreachable: in every reachable state with a full cache the policy
    returns a key -/
theorem evict_break_unreachable (cfg : Cfg) (hcap : 1 ≤ cfg.cap) (name : String) (arg : Nat)
    (p : Pol) (hp : Pol.ofName name arg = some p) (as : List Act) (now : Nat) (pick : List Key)
    (hfull : cfg.cap ≤ (run cfg (St.init p) as).cache.length) :
    ((run cfg (St.init p) as).pol.evict now pick).1 ≠ none := by
  have r : SInv cfg (run cfg (St.init p) as) := run_inv cfg hcap _ as (init_inv cfg name arg p hp)
  intro hn
  have hc : (run cfg (St.init p) as).cache = [] :=
    (akeys_eq_nil _).mp ((nil_iff_of_mem_iff r.same).mp ((Pol.evict_none_iff _ r.pinv now pick).mp hn))
  rw [hc] at hfull
  exact Nat.lt_irrefl 0 (Nat.lt_of_lt_of_le hcap hfull)

/-- non-vacuity: capacity 1, LRU, write-back — put a, put b (evicts a), both puts complete -/
example :
    let cfg : Cfg := ⟨1, false, true, []⟩
    let s := run cfg (St.init (.lru {})) [.start 0 (.put 0 7) 0, .start 1 (.put 1 8) 0, .resume 0 0, .resume 1 0]
    akeys s.cache = [1] ∧ s.pol.tracked = [1] ∧ s.back = [(0, 7)] ∧ s.dirty = [1] := by decide +kernel

/-- the run of the witness: write-back, capacity 2, LRU; put a, put b, put c, then flush -/
def dirtyEvictRun (rep : Bool) : St :=
  run ⟨2, false, rep, []⟩ (St.init (.lru {}))
    [.start 0 (.put 0 1) 0, .resume 0 0, .start 1 (.put 1 2) 0, .resume 1 0,
     .start 2 (.put 2 3) 0, .resume 2 0, .start 3 (.flush [1, 2]) 0, .resume 3 0, .resume 3 0]

/-- current code: the dirty entry `a = 1` evicted by `put c` never reaches the backing store -/
theorem dirty_evicted_lost_current : aget? (dirtyEvictRun false).back 0 = none ∧ (dirtyEvictRun false).dirty = [] := by
  decide +kernel

/-- repaired code: it does -/
theorem dirty_evicted_kept_repaired : aget? (dirtyEvictRun true).back 0 = some 1 := by decide +kernel

/-- the Spec predicate rejects what the current code does on that run and accepts the repaired run -/
theorem dirty_evicted_lost_judged :
    let ops := [(0, OpK.put 0 1), (1, .put 1 2), (2, .put 2 3), (3, .flush [])]
    let ev : Nat → Option Res → Obs := fun i r => ⟨i, [], [], [], r⟩
    let evs := [ev 0 none, ev 0 (some .none), ev 1 none, ev 1 (some .none), ev 2 none, ev 2 (some .none),
                ev 3 none, ev 3 none, ev 3 (some (.count 2))]
    judgeFinal ⟨2, false, false, []⟩ ops evs (dirtyEvictRun false).back = some "store/writeback/lost-write" ∧
    judgeFinal ⟨2, false, false, []⟩ ops evs (dirtyEvictRun true).back = none := by
  decide +kernel

/-- `writeback_reaches_store`: along every schedule of the repaired store, whenever a segment takes a
    key out of the dirty set, the backing store holds — right after that segment — the value the
    cache held for it right before (eviction, invalidation, invalidate_all, delete, flush alike). -/
theorem writeback_reaches_store (cfg : Cfg) (hrep : cfg.rep = true) (p : Pol) (as : List Act) (a : Act)
    (k v : Nat) (hd : k ∈ (run cfg (St.init p) as).dirty)
    (hv : aget? (run cfg (St.init p) as).cache k = some v)
    (hgone : k ∉ (step cfg (run cfg (St.init p) as) a).1.dirty) :
    aget? (step cfg (run cfg (St.init p) as) a).1.back k = some v := by
  have hn : NoCur (run cfg (St.init p) as) :=
    noCur_run cfg hrep (St.init p) as (by intro x hx; simp [St.init] at hx)
  exact writeback_step cfg hrep _ a hn k v hd hv hgone

/-- non-vacuity, and the negation for the current code: from the same state (a, b dirty, cache full)
    the segment `put c` drops dirty `a`; repaired: the backing store then holds a's value;
    current: it holds nothing for a. -/
theorem writeback_step_witness :
    let pre := [Act.start 0 (.put 0 1) 0, .resume 0 0, .start 1 (.put 1 2) 0, .resume 1 0]
    let a := Act.start 2 (.put 2 3) 0
    let cur : Cfg := ⟨2, false, false, []⟩
    let rep : Cfg := ⟨2, false, true, []⟩
    (0 ∈ (run rep (St.init (.lru {})) pre).dirty ∧ aget? (run rep (St.init (.lru {})) pre).cache 0 = some 1 ∧
      0 ∉ (step rep (run rep (St.init (.lru {})) pre) a).1.dirty ∧
      aget? (step rep (run rep (St.init (.lru {})) pre) a).1.back 0 = some 1) ∧
    (0 ∈ (run cur (St.init (.lru {})) pre).dirty ∧ aget? (run cur (St.init (.lru {})) pre).cache 0 = some 1 ∧
      0 ∉ (step cur (run cur (St.init (.lru {})) pre) a).1.dirty ∧
      aget? (step cur (run cur (St.init (.lru {})) pre) a).1.back 0 = none) := by
  decide +kernel

/-- the current code violates the step statement -/
theorem writeback_lost_current :
    ¬ (∀ (as : List Act) (a : Act), WritebackStep ⟨2, false, false, []⟩ (run ⟨2, false, false, []⟩ (St.init (.lru {})) as) a) := by
  intro h
  have := h [Act.start 0 (.put 0 1) 0, .resume 0 0, .start 1 (.put 1 2) 0, .resume 1 0]
    (Act.start 2 (.put 2 3) 0) 0 1 (by decide +kernel) (by decide +kernel) (by decide +kernel)
  revert this
  decide +kernel

/-- what the harness prints after a segment -/
def obsOf (i : Nat) (s : St) (r : Option Res) : Obs :=
  ⟨i, sortKeys (akeys s.cache), sortKeys s.dirty, sortKeys s.pol.tracked, r⟩

def Act.opId : Act → Nat
  | .start i _ _ => i
  | .resume i _ => i

def obsRun (cfg : Cfg) (s : St) : List Act → List Obs
  | [] => []
  | a :: as => obsOf a.opId (step cfg s a).1 (step cfg s a).2 :: obsRun cfg (step cfg s a).1 as

def sameOp : OpK → OpK → Bool
  | .flush _, .flush _ => true
  | a, b => a == b

/-- `as` is a schedule of the operation table `ops`: ids are unique, every started operation is its
    table entry (a flush with any iteration order of the dirty set), nothing is started twice, and
    put values are pairwise distinct (so that a returned value names its write) -/
def Schedule (ops : List (Nat × OpK)) (as : List Act) : Prop :=
  (ops.map (·.1)).Nodup ∧
  (∀ i op now, Act.start i op now ∈ as → ∃ op', (i, op') ∈ ops ∧ sameOp op' op = true) ∧
  (as.filterMap fun a => match a with | .start i _ _ => some i | _ => none).Nodup ∧
  (ops.filterMap fun x => match x.2 with | .put _ v => some v | _ => none).Nodup

/-- `read_after_write` at the property's strength: for every interleaving of operation segments the
    observed run of the repaired store passes the Spec's read clause — a `get` returns the value of a
    write that no write completed before the `get` was issued entirely follows (or nothing, if no
    write completed before it).  Proved below (`read_after_write_all_interleavings`). -/
def read_after_write_full : Prop :=
  ∀ (cfg : Cfg), cfg.rep = true → 1 ≤ cfg.cap →
  ∀ (name : String) (arg : Nat) (p : Pol), Pol.ofName name arg = some p →
  ∀ (ops : List (Nat × OpK)) (as : List Act), Schedule ops as →
    judgeReads cfg ops (obsRun cfg (St.init p) as) = none

theorem sameOp_cases {a b : OpK} (h : sameOp a b = true) :
    (∃ o1 o2, a = .flush o1 ∧ b = .flush o2) ∨ a = b := by
  unfold sameOp at h
  split at h
  · exact Or.inl ⟨_, _, rfl, rfl⟩
  · exact Or.inr (eq_of_beq h)

theorem obsRun_eq (cfg : Cfg) (s : St) (as : List Act) : obsRun cfg s as = obsRunG obsOf cfg s as := by
  induction as generalizing s with
  | nil => rfl
  | cons a as ih =>
    have : a.opId = actId a := by cases a <;> rfl
    simp only [obsRun, obsRunG, this, ih]

/-- **`read_after_write` for all interleavings** (repaired store, both write modes, every policy and
    capacity, every schedule of operation segments — overlapping puts, deletes, misses in flight,
    evictions, invalidations and flushes alike): the judge's read clause accepts the observed run.
    The invariant (`RInvA`, files `Raw*.lean`): the cache only ever holds the value of a write that no
    started write entirely follows; so does the backing store for a clean key, up to the writes whose
    backing-store write is still in flight; a pending miss with a current epoch has a clean key, so
    with nothing in flight what it fills is fresh. -/
theorem read_after_write_all_interleavings : read_after_write_full := by
  intro cfg hrep _ _ _ p _ ops as hs
  obtain ⟨hnd, htab, hstart, _⟩ := hs
  rw [obsRun_eq]
  refine raw_judge cfg hrep obsOf (fun _ _ _ => rfl) (fun _ _ _ => rfl) ops hnd p as ⟨hstart, ?_, ?_⟩
  · intro i _ hi; cases hi
  · intro i op now hm
    obtain ⟨op', hop, hso⟩ := htab i op now hm
    exact ⟨op', hop, sameOp_cases hso⟩

/-- non-vacuity: a table and a schedule in which a miss of key 0 is in flight while a put of key 0
    starts and completes around it (capacity 1, so the put of key 1 evicts key 0 first) is a `Schedule` -/
example :
    let ops := [(0, OpK.put 0 1), (1, .put 1 9), (2, .get 0), (3, .put 0 2), (4, .get 0)]
    let as := [Act.start 0 (.put 0 1) 0, .resume 0 0, .start 1 (.put 1 9) 0, .resume 1 0,
               .start 2 (.get 0) 0, .start 3 (.put 0 2) 0, .resume 2 0, .resume 3 0,
               .start 4 (.get 0) 0, .resume 4 0]
    Schedule ops as := by
  refine ⟨by decide +kernel, ?_, by decide +kernel, by decide +kernel⟩
  intro i op now h
  simp only [List.mem_cons, Act.start.injEq, List.mem_nil_iff, or_false, reduceCtorEq, false_or] at h
  refine ⟨op, ?_, ?_⟩ <;>
    rcases h with ⟨rfl, rfl, _⟩ | ⟨rfl, rfl, _⟩ | ⟨rfl, rfl, _⟩ | ⟨rfl, rfl, _⟩ | ⟨rfl, rfl, _⟩ <;> decide

/-- … on which the repaired store (capacity 1, write-through, LRU) passes the read clause: the miss
    (get 2) reads the old value 1 from the backing store while put 3 is in flight — allowed, put 3 has
    not completed — and does **not** fill the cache (older epoch, write in flight), so get 4, issued
    after put 3 completed, returns 2.  The current code fills, and get 4 returns the overwritten 1. -/
theorem read_after_write_overlap_witness :
    let cfg : Cfg := ⟨1, true, true, []⟩
    let ops := [(0, OpK.put 0 1), (1, .put 1 9), (2, .get 0), (3, .put 0 2), (4, .get 0)]
    let as := [Act.start 0 (.put 0 1) 0, .resume 0 0, .start 1 (.put 1 9) 0, .resume 1 0,
               .start 2 (.get 0) 0, .start 3 (.put 0 2) 0, .resume 2 0, .resume 3 0,
               .start 4 (.get 0) 0, .resume 4 0]
    judgeReads cfg ops (obsRun cfg (St.init (.lru {})) as) = none ∧
    (obsRun cfg (St.init (.lru {})) as).map (·.res) =
      [none, some .none, none, some .none, none, none, some (.val 1), some .none, none, some (.val 2)] ∧
    judgeReads { cfg with rep := false } ops (obsRun { cfg with rep := false } (St.init (.lru {})) as)
      = some "store/read-after-write/stale/wt/after-put" := by decide +kernel

/-- `read_after_write` with overlapping writes ordered (write-through): "that write's value or a later
    one", where a write is later than another when it was issued after it **and** completed after it.
    For every schedule in which no segment of an operation is attempted before its first one (as in
    every observed run), the observed run of the repaired write-through store passes the Spec's
    ordered read clause `judgeReadsOrd` — a get never returns the value of a write that a write
    completed before the get was issued has superseded. -/
def read_after_write_ordered_full : Prop :=
  ∀ (cfg : Cfg), cfg.rep = true → cfg.wt = true → 1 ≤ cfg.cap →
  ∀ (name : String) (arg : Nat) (p : Pol), Pol.ofName name arg = some p →
  ∀ (ops : List (Nat × OpK)) (as : List Act), Schedule ops as → lateOk [] as = true →
    judgeReadsOrd cfg ops (obsRun cfg (St.init p) as) = none

/-- **ordered `read_after_write` for all interleavings** (repaired write-through store, every policy
    and capacity).  The proof is the walk of the plain theorem (`raw_stepG`) at the finer order `OkPair`
    — a write is not later than another if it was issued no later or completed no later — which asks
    for two more facts, kept by every segment (`OSide`): an id has no observation before its first
    segment (`lateOk`), and every started write is in flight or has completed (true of write-through
    stores, where the backing-store write is a continuation of the operation).  A miss fills only when
    the per-key in-flight *count* is zero: a fill while a second overlapping write is still on its way
    would install a superseded value. -/
theorem read_after_write_ordered_all_interleavings : read_after_write_ordered_full := by
  intro cfg hrep hwt _ _ _ p _ ops as hs hlate
  obtain ⟨hnd, htab, hstart, _⟩ := hs
  rw [obsRun_eq]
  refine oraw_judge cfg hrep hwt obsOf (fun _ _ _ => rfl) (fun _ _ _ => rfl) ops hnd p as ⟨hstart, ?_, ?_⟩ hlate
  · intro i _ hi; cases hi
  · intro i op now hm
    obtain ⟨op', hop, hso⟩ := htab i op now hm
    exact ⟨op', hop, sameOp_cases hso⟩

/-- non-vacuity, and what the ordered clause adds: two overlapping puts of one key (put 1 issued and
    completed after put 0), the key invalidated, a miss that reads the backing store between the two
    applications, a get once both completed.  The repaired store does not fill (one write is still in
    flight) and returns 2; the store without the in-flight guard (`current`) fills 1 and keeps serving
    it — accepted by the regular-register clause (the puts overlap), rejected by the ordered one. -/
theorem read_after_write_ordered_witness :
    let cfg : Cfg := ⟨4, true, true, []⟩
    let ops := [(0, OpK.put 0 1), (1, .put 0 2), (2, .inv 0), (3, .get 0), (4, .get 0)]
    let as := [Act.start 0 (.put 0 1) 0, .start 1 (.put 0 2) 0, .resume 0 0, .start 2 (.inv 0) 0,
               .start 3 (.get 0) 0, .resume 3 0, .resume 1 0, .start 4 (.get 0) 0, .resume 4 0]
    lateOk [] as = true ∧
    judgeReadsOrd cfg ops (obsRun cfg (St.init (.lru {})) as) = none ∧
    (obsRun cfg (St.init (.lru {})) as).getLast?.map (·.res) = some (some (.val 2)) ∧
    judgeReads { cfg with rep := false } ops (obsRun { cfg with rep := false } (St.init (.lru {})) as) = none ∧
    judgeReadsOrd { cfg with rep := false } ops (obsRun { cfg with rep := false } (St.init (.lru {})) as)
      = some "store/read-after-write/superseded/wt/value" := by decide +kernel

/-- what the harness prints after a segment, key lists as they are (unsorted: the clauses only ask
    for membership, and `sortKeys` does not reduce under `decide`) -/
def obsRaw (i : Nat) (s : St) (r : Option Res) : Obs := ⟨i, akeys s.cache, s.dirty, s.pol.tracked, r⟩

/-- **a run of the write-back store that the ordered clause rejects** (model = code as it is; known finding
    fixes/C16-writeback-overtaken-by-delete.known.md, witness corpus/C16/writeback-overtaken-by-delete.json):
    capacity 1, `delete(0)` is issued; while its backing-store delete is in flight `put(0,1)` is issued
    (dirty in the cache) and `put(1,2)` evicts key 0, whose value is written back synchronously; then
    the delete lands on it, then the put of key 0 completes.  The put was issued after the delete and
    completed after it, yet the `get(0)` issued afterwards finds nothing — the write never reaches the
    backing store for good.  No segment of an operation comes before its first one (`lateOk`), the
    regular-register clause accepts the run (put and delete overlap), the ordered clause rejects it with
    the signature of this cause.  The last conjunct negates the clause over all tables and schedules with
    `lateOk` as the only hypothesis (`read_after_write_ordered_full` also asks for `Schedule ops as`). -/
theorem read_after_write_ordered_writeback_false :
    let cfg : Cfg := ⟨1, false, true, []⟩
    let ops := [(0, OpK.del 0), (1, .put 0 1), (2, .put 1 2), (3, .get 0)]
    let as := [Act.start 0 (.del 0) 0, .start 1 (.put 0 1) 0, .start 2 (.put 1 2) 0, .resume 0 0,
               .resume 1 0, .resume 2 0, .start 3 (.get 0) 0, .resume 3 0]
    lateOk [] as = true ∧
    (run cfg (St.init (.lru {})) as).back = [] ∧
    (obsRunG obsRaw cfg (St.init (.lru {})) as).getLast?.map (·.res) = some (some .none) ∧
    judgeReads cfg ops (obsRunG obsRaw cfg (St.init (.lru {})) as) = none ∧
    judgeReadsOrd cfg ops (obsRunG obsRaw cfg (St.init (.lru {})) as)
      = some "store/read-after-write/superseded/wb/writeback-overtaken-by-earlier-delete" ∧
    ¬ (∀ (ops : List (Nat × OpK)) (as : List Act), lateOk [] as = true →
        judgeReadsOrd cfg ops (obsRunG obsRaw cfg (St.init (.lru {})) as) = none) := by
  intro cfg ops as
  have hlate : lateOk [] as = true := by decide +kernel
  have hord : judgeReadsOrd cfg ops (obsRunG obsRaw cfg (St.init (.lru {})) as)
      = some "store/read-after-write/superseded/wb/writeback-overtaken-by-earlier-delete" := by
    decide +kernel
  refine ⟨hlate, by decide +kernel, by decide +kernel, by decide +kernel, hord, fun h => ?_⟩
  have hnone := h ops as hlate
  rw [hord] at hnone
  cases hnone

/-- `read_after_write` for scripts: when operations do not overlap (each runs all its segments
    before the next starts — `execOp`), the repaired store with any policy, capacity ≥ 1 and either
    write mode is a map: every `get` returns the value of the latest `put` of its key, nothing after
    a `delete` or before any `put` (`SeqOk`), whatever evictions, invalidations and flushes happen
    in between. -/
theorem read_after_write_sequential (cfg : Cfg) (hrep : cfg.rep = true) (hcap : 1 ≤ cfg.cap)
    (name : String) (arg : Nat) (p : Pol) (hp : Pol.ofName name arg = some p)
    (ops : List (OpK × Nat)) : SeqOk cfg (St.init p) [] 0 ops :=
  seqOk_init cfg hrep p ops

/-- non-vacuity: capacity 1, write-back, FIFO: put a, put b (evicts dirty a), get a (miss, refetched
    from the backing store: 7), delete a, get a (nothing) -/
example :
    let cfg : Cfg := ⟨1, false, true, []⟩
    let s1 := (execOp cfg (St.init (.fifo {})) 0 (.put 0 7) 0).1
    let s2 := (execOp cfg s1 1 (.put 1 8) 0).1
    let s3 := execOp cfg s2 2 (.get 0) 0
    let s4 := (execOp cfg s3.1 3 (.del 0) 0).1
    s3.2 = some (.val 7) ∧ (execOp cfg s4 4 (.get 0) 0).2 = some .none := by decide +kernel

/-- the read clause evaluated on a model run with an overlap (write-through: put a=1 completes;
    delete a and a miss of a overlap; a later get): the repaired store passes, the current code serves
    the deleted value (corpus/C16/delete-refill-race.json) -/
theorem read_after_write_refill_witness :
    let cfg : Cfg := ⟨2, true, true, []⟩
    let ops := [(0, OpK.put 0 1), (1, .del 0), (2, .get 0), (3, .get 0)]
    let as := [Act.start 0 (.put 0 1) 0, .resume 0 0, .start 1 (.del 0) 0, .start 2 (.get 0) 0,
               .resume 2 0, .resume 1 0, .start 3 (.get 0) 0, .resume 3 0]
    judgeReads cfg ops (obsRun cfg (St.init (.lru {})) as) = none ∧
    judgeReads { cfg with rep := false } ops (obsRun { cfg with rep := false } (St.init (.lru {})) as)
      = some "store/read-after-write/stale/wt/after-delete" := by decide +kernel

/-- (repaired variant) every value served from the cache comes from an entry younger than the hard TTL at the
    moment it was chosen (`hsh` is what the constructor enforces). -/
theorem soft_ttl_age_le_hard (cfg : TCfg) (hrep : cfg.rep = true) (hsh : cfg.soft ≤ cfg.hard)
    (as : List TAct) : ∀ r ∈ (tRun cfg {} as).2, r.ageOk cfg.hard = true :=
  tRun_ok cfg hrep hsh {} as (fun _ _ _ _ hm => by cases hm)

/-- the schedule of corpus/C16/softttl-coalesced-expired.json: soft 10 ms, hard 20 ms, read latency
    5 ms; fetch at 6 ms, key deleted from the backing store, stale hit at 25 ms starts a refresh,
    coalesced get at 27 ms ends its wait at 32 ms -/
def softWitness : List TAct :=
  [.start 0 (.bput 0 7) 0, .start 1 (.get 0) 1, .resume 1 6, .start 2 (.bdel 0) 7,
   .start 3 (.get 0) 25, .start 1000 (.refresh 0) 25, .resume 3 25, .start 4 (.get 0) 27,
   .resume 1000 30, .resume 4 32]

/-- the code before repair df610fd (`rep := false`): the coalesced request is served the entry cached at 6 at
    time 32 — age 26 ≥ 20 -/
theorem soft_ttl_expired_served_current :
    TRes.served 7 6 32 ∈ (tRun ⟨10, 20, none, false⟩ {} softWitness).2 ∧
      (TRes.served 7 6 32).ageOk 20 = false := by decide +kernel

/-- repaired code on the same schedule: the expired entry is not served (non-vacuity of the theorem:
    a stale hit is served, the coalesced request falls through to a fetch) -/
example :
    (tRun ⟨10, 20, none, true⟩ {} (softWitness ++ [.resume 4 37])).2 =
      [.done, .fetched 7, .done, .served 7 6 25, .done, .none] := by decide +kernel

theorem tRunT_results (cfg : TCfg) : ∀ (as : List TAct) (s : TSt) (st : List (Nat × Nat)),
    (tRunT cfg s st as).map (·.1) = (tRun cfg s as).2 := by
  intro as
  induction as with
  | nil => intro s st; rfl
  | cons a as ih =>
    intro s st
    simp only [tRunT, tRun, List.map_append, ih]
    cases (tStep cfg s a).2 <;> rfl

/-- **`soft_ttl_age_le_hard` at return time** (repaired variant, distinct operation ids): a value served from an
    entry cached at `cat`, by an operation whose first segment ran at `ts` and whose returning segment ran at `tr`,
    reaches the caller older than the hard TTL by no more than the time between the operation's first and
    returning segment. -/
theorem soft_ttl_age_at_return (cfg : TCfg) (hrep : cfg.rep = true) (hsh : cfg.soft ≤ cfg.hard)
    (as : List TAct) (hnd : (tStartIds as).Nodup) (v cat iss ts tr : Nat)
    (hm : (TRes.served v cat iss, ts, tr) ∈ tRunT cfg {} [] as) :
    tr < cat + cfg.hard + (tr - ts) := by
  have := tRunT_ok cfg hrep hsh as {} [] (by intro i v cat iss hm; cases hm) (by simpa using hnd) v cat iss ts tr hm
  omega

/-- … so with every operation returning within `d` of its first segment (the engine resumes a hit
    exactly `cache_read_latency` later), the age at return is below `hard_ttl + d` -/
theorem soft_ttl_age_at_return_within (cfg : TCfg) (hrep : cfg.rep = true) (hsh : cfg.soft ≤ cfg.hard)
    (as : List TAct) (hnd : (tStartIds as).Nodup) (d : Nat) (v cat iss ts tr : Nat)
    (hm : (TRes.served v cat iss, ts, tr) ∈ tRunT cfg {} [] as) (hd : tr ≤ ts + d) :
    tr < cat + cfg.hard + d := by
  have := soft_ttl_age_at_return cfg hrep hsh as hnd v cat iss ts tr hm
  omega

/-- non-vacuity: soft 10, hard 20; the entry is cached at 6; a stale hit issued at 25 returns at 26:
    served (7, cached 6, decided 25), first segment 25, returned 26 — age 20 at return, `< 20 + 1` -/
example :
    (tRunT ⟨10, 20, none, true⟩ {} [] [.start 0 (.bput 0 7) 0, .start 1 (.get 0) 1, .resume 1 6,
      .start 3 (.get 0) 25, .resume 3 26]) =
      [(.done, 0, 0), (.fetched 7, 1, 6), (.served 7 6 25, 25, 26)] := by decide +kernel

/-- (both variants) a `SoftTTLCache` with a finite capacity (`h1`: what the constructor enforces) holds at most
    that many entries after every segment — in particular when a background refresh completes after its key was
    evicted or invalidated. -/
theorem soft_ttl_size_le_capacity (cfg : TCfg) (c : Nat) (hc : cfg.cap = some c) (h1 : 1 ≤ c) (as : List TAct) :
    (tRun cfg {} as).1.cache.length ≤ c :=
  (tRun_z cfg {} as zinv_init (fun _ _ _ => Nat.zero_le _)).2 c hc h1

/-- the LRU bookkeeping (`_access_order`) tracks exactly the cached keys, each once — every entry can be chosen
    as a victim -/
theorem soft_ttl_lru_keys_eq_cache_keys (cfg : TCfg) (as : List TAct) :
    (∀ x, x ∈ (tRun cfg {} as).1.order ↔ x ∈ akeys (tRun cfg {} as).1.cache) ∧
      (tRun cfg {} as).1.order.Nodup ∧ (akeys (tRun cfg {} as).1.cache).Nodup :=
  have r := (tRun_z cfg {} as zinv_init (fun _ _ _ => Nat.zero_le _)).1
  ⟨r.same, r.ond, r.cnd⟩

/-- non-vacuity: capacity 2, keys 0 and 1 cached; a stale hit on 0 starts a refresh (operation 1000);
    while it reads the backing store two misses (2, 3) complete and evict 1 and then 0; the refresh
    completes and re-inserts 0 through `_store`, which evicts 2: two entries, both tracked, 0 most recent -/
example :
    let cfg : TCfg := ⟨2000, 10000, some 2, true⟩
    let s := (tRun cfg {} [.start 0 (.bput 0 7) 0, .start 1 (.bput 1 8) 0, .start 2 (.bput 2 9) 0, .start 3 (.bput 3 10) 0,
      .start 4 (.get 0) 0, .resume 4 10, .start 5 (.get 1) 100, .resume 5 110,
      .start 6 (.get 2) 2995, .start 7 (.get 3) 2996, .start 8 (.get 0) 3000, .start 1000 (.refresh 0) 3000,
      .resume 8 3000, .resume 6 3005, .resume 7 3006, .resume 1000 3010]).1
    akeys s.cache = [3, 0] ∧ s.order = [3, 0] ∧ s.refreshing = [] := by decide +kernel

end HappyModel.C16
