import HappyModel.C17.PB
import HappyProofs.C17.Upd
/-!
Primary-backup, repaired model: the invariant, and how it is re-established, as for the chain (`ChainInv`): the part
of the invariant that mentions neither table, an evolution of the state under which what it says of a message or a
handler stays true, and one assembly lemma for the change of one handler slot with messages kept, flagged or added.
`sendRepls`, `applyRepl`, `ackMsg` are given as record updates, so that every field of such a state reduces.
-/
namespace HappyModel.C17.PB

theorem lastFor_le (wk : Nat → Nat) (a k : Nat) : lastFor wk a k ≤ a := by
  induction a with
  | zero => simp [lastFor]
  | succ a ih => unfold lastFor; split <;> omega

theorem lastFor_key (wk : Nat → Nat) (a k : Nat) (h : lastFor wk a k ≠ 0) : wk (lastFor wk a k) = k := by
  induction a with
  | zero => simp [lastFor] at h
  | succ a ih =>
    unfold lastFor at h ⊢
    split
    · assumption
    · rename_i hne; simp [hne] at h; exact ih h

theorem lastFor_ge (wk : Nat → Nat) (a k q : Nat) (h1 : 1 ≤ q) (h2 : q ≤ a) (hk : wk q = k) :
    q ≤ lastFor wk a k := by
  induction a with
  | zero => omega
  | succ a ih =>
    unfold lastFor
    split
    · omega
    · rename_i hne
      have : q ≠ a + 1 := by intro h; subst h; exact hne hk
      exact ih (by omega)

theorem lastFor_congr (wk wk' : Nat → Nat) (a k : Nat) (h : ∀ q, q ≤ a → wk' q = wk q) :
    lastFor wk' a k = lastFor wk a k := by
  induction a with
  | zero => simp [lastFor]
  | succ a ih =>
    unfold lastFor
    rw [h (a + 1) (Nat.le_refl _), ih (fun q hq => h q (by omega))]

def sendN (k v q : Nat) (fut : Bool) (s : St) (n : Nat) : St :=
  (List.range n).foldl (sendRepl k v q fut) s

theorem sendN_succ (k v q : Nat) (fut : Bool) (s : St) (n : Nat) :
    sendN k v q fut s (n + 1) = sendRepl k v q fut (sendN k v q fut s n) n := by
  simp [sendN, List.range_succ, List.foldl_append]

theorem sendN_eq (k v q : Nat) (fut : Bool) (s : St) (n : Nat) : sendN k v q fut s n =
    { s with nm := s.nm + n,
             msgs := fun mid => if s.nm ≤ mid ∧ mid < s.nm + n then
               some { kind := .repl, b := mid - s.nm, key := k, val := v, seq := q, fut := fut } else s.msgs mid } := by
  induction n with
  | zero =>
    show s = _
    have : (fun mid => if s.nm ≤ mid ∧ mid < s.nm + 0 then
        some ({ kind := .repl, b := mid - s.nm, key := k, val := v, seq := q, fut := fut } : Msg) else s.msgs mid) = s.msgs :=
      funext fun mid => if_neg (fun h => Nat.lt_irrefl _ (Nat.lt_of_lt_of_le h.2 h.1))
    rw [this]; rfl
  | succ n ih =>
    rw [sendN_succ, ih]
    show ({ s with nm := s.nm + n + 1, msgs := upd _ (s.nm + n) _ } : St) = _
    congr 1
    funext mid
    show upd _ _ _ mid = _
    rw [upd_apply]
    dsimp only
    by_cases hm : mid = s.nm + n
    · subst hm
      rw [if_pos rfl, if_pos ⟨Nat.le_add_right _ _, Nat.lt_succ_self _⟩, Nat.add_sub_cancel_left]
    · rw [if_neg hm]
      by_cases hc : s.nm ≤ mid ∧ mid < s.nm + n
      · rw [if_pos hc, if_pos ⟨hc.1, Nat.lt_succ_of_lt hc.2⟩]
      · rw [if_neg hc, if_neg (fun h => hc ⟨h.1, Nat.lt_of_le_of_ne (Nat.le_of_lt_succ h.2) hm⟩)]

theorem sendRepls_eq (s : St) (k v q : Nat) : sendRepls s k v q =
    { s with nm := s.nm + s.nb,
             msgs := fun mid => if s.nm ≤ mid ∧ mid < s.nm + s.nb then
               some { kind := .repl, b := mid - s.nm, key := k, val := v, seq := q, fut := s.mode != .async }
               else s.msgs mid } :=
  sendN_eq k v q _ s s.nb

theorem applyRepl_eq (s : St) (b k v q : Nat) (hr : s.repaired = true) : applyRepl s b k v q =
    { s with kseq := if s.kseq b k < q then upd2 s.kseq b k q else s.kseq,
             store := if s.kseq b k < q then upd2 s.store (b + 1) k (some v) else s.store,
             last := upd s.last b (max (s.last b) q) } := by
  unfold applyRepl
  rw [if_pos hr]
  by_cases hq : s.kseq b k < q
  · simp only [gt_iff_lt, if_pos hq]
  · simp only [gt_iff_lt, if_neg hq]

theorem ackMsg_eq {s : St} {mid : Nat} {m : Msg} (hm : s.msgs mid = some m) :
    ackMsg s mid = { s with msgs := upd s.msgs mid (some { m with acked := true }) } := by
  unfold ackMsg; rw [hm]

def ReplMsg (s : St) (m : Msg) : Prop :=
  m.b < s.nb ∧ 1 ≤ m.seq ∧ m.seq ≤ s.applied ∧ s.wk m.seq = m.key ∧ s.wv m.seq = m.val ∧
    (m.acked = true → m.seq ≤ s.kseq m.b m.key)

def ReplProc (s : St) (p : Proc) : Prop :=
  1 ≤ p.node ∧ (p.fin = true → 2 ≤ p.seg) ∧
    ∃ m, s.msgs p.op = some m ∧ m.kind = .repl ∧ m.b = p.node - 1 ∧ m.key = p.key ∧ m.val = p.val ∧
      m.seq = p.seq ∧ (p.seg ≠ 1 → m.acked = true)

def WriteProc (s : St) (p : Proc) : Prop :=
  1 ≤ p.seq ∧ p.seq ≤ s.seq ∧ s.wk p.seq = p.key ∧ s.wv p.seq = p.val ∧
    (p.seg ≤ 1 → s.applied < p.seq) ∧
    (2 ≤ p.seg → p.seq ≤ s.applied ∧ ∀ b, b < s.nb → ∃ m, s.msgs (p.mid0 + b) = some m ∧
        m.kind = .repl ∧ m.b = b ∧ m.seq = p.seq ∧ m.key = p.key) ∧
    (p.fin = true → 2 ≤ p.seg ∧ (s.nb = 0 ∨ ackCond s p = true)) ∧ 1 ≤ p.seg

/-- past its first segment a write handler's put has landed and its `Replicate`s are out, one per backup -/
theorem WriteProc.sent {s : St} {p : Proc} (h : WriteProc s p) (h2 : 2 ≤ p.seg) :
    p.seq ≤ s.applied ∧ ∀ b, b < s.nb → ∃ m, s.msgs (p.mid0 + b) = some m ∧
      m.kind = .repl ∧ m.b = b ∧ m.seq = p.seq ∧ m.key = p.key :=
  h.2.2.2.2.2.1 h2

/-- a write handler that has replied is past its first segment and had the acknowledgements its mode asks for -/
theorem WriteProc.done {s : St} {p : Proc} (h : WriteProc s p) (hf : p.fin = true) :
    2 ≤ p.seg ∧ (s.nb = 0 ∨ ackCond s p = true) :=
  h.2.2.2.2.2.2.1 hf

structure Inv (s : St) : Prop where
  rep : s.repaired = true
  app_le : s.applied ≤ s.seq
  procs_none : ∀ pid, s.np ≤ pid → s.procs pid = none
  msgs_none : ∀ mid, s.nm ≤ mid → s.msgs mid = none
  msg_ok : ∀ mid m, s.msgs mid = some m → m.kind = .repl → ReplMsg s m
  bk_ok : ∀ b k, s.kseq b k ≤ s.applied ∧ (s.kseq b k = 0 → s.store (b + 1) k = none) ∧
      (s.kseq b k ≠ 0 → s.wk (s.kseq b k) = k ∧ s.store (b + 1) k = some (s.wv (s.kseq b k)))
  repl_ok : ∀ pid p, s.procs pid = some p → p.kind = .repl → ReplProc s p
  write_ok : ∀ pid p, s.procs pid = some p → p.kind = .write → WriteProc s p
  write_uniq : ∀ pid p pid' p', s.procs pid = some p → s.procs pid' = some p' → p.kind = .write →
      p'.kind = .write → p.seq = p'.seq → pid = pid'
  write_all : ∀ q, 1 ≤ q → q ≤ s.seq → ∃ pid p, s.procs pid = some p ∧ p.kind = .write ∧ p.seq = q
  deliv_ok : ∀ mid m, s.msgs mid = some m → m.kind = .repl → m.delivered = true →
      ∃ pid p, s.procs pid = some p ∧ p.kind = .repl ∧ p.op = mid
  prim_ok : ∀ k, s.store 0 k =
      (if lastFor s.wk s.applied k = 0 then none else some (s.wv (lastFor s.wk s.applied k)))

theorem Inv.lt_np {s : St} (h : Inv s) {pid : Nat} {p : Proc} (hp : s.procs pid = some p) : pid < s.np :=
  lt_of_fresh h.procs_none hp

theorem Inv.lt_nm {s : St} (h : Inv s) {mid : Nat} {m : Msg} (hm : s.msgs mid = some m) : mid < s.nm :=
  lt_of_fresh h.msgs_none hm

theorem init_inv (mode : Mode) (nb : Nat) : Inv (init true mode nb) := by
  refine ⟨rfl, Nat.le_refl _, fun _ _ => rfl, fun _ _ => rfl, ?_, ?_, ?_, ?_, ?_, ?_, ?_, ?_⟩
  · intro mid m h; simp [init] at h
  · intro b k; simp [init]
  · intro pid p h; simp [init] at h
  · intro pid p h; simp [init] at h
  · intro pid p pid' p' h; simp [init] at h
  · intro q h1 h2; exact absurd (Nat.le_trans h1 h2) (Nat.not_succ_le_zero 0)
  · intro mid m h; simp [init] at h
  · intro k; simp [init, lastFor]

/-- `ackCond` only looks at `acked` flags, which are never cleared -/
theorem ackCond_mono (s s' : St) (p : Proc) (hm : s'.mode = s.mode) (hn : s'.nb = s.nb)
    (h : ∀ mid, ackedAt s mid = true → ackedAt s' mid = true) (hc : ackCond s p = true) :
    ackCond s' p = true := by
  unfold ackCond at *
  rw [hm, hn]
  cases hmode : s.mode <;> simp only [hmode] at hc ⊢
  · simp only [List.any_eq_true] at hc ⊢
    obtain ⟨b, hb, hb2⟩ := hc
    exact ⟨b, hb, h _ hb2⟩
  · simp only [List.all_eq_true] at hc ⊢
    intro b hb; exact h _ (hc b hb)

theorem inv_fail (s : St) (e : String) (h : Inv s) : Inv (s.fail e) :=
  ⟨h.rep, h.app_le, h.procs_none, h.msgs_none, h.msg_ok, h.bk_ok, h.repl_ok, h.write_ok, h.write_uniq,
    h.write_all, h.deliv_ok, h.prim_ok⟩

theorem inv_reply (s : St) (op : Nat) (t : String) (h : Inv s) : Inv (s.reply op t) :=
  ⟨h.rep, h.app_le, h.procs_none, h.msgs_none, h.msg_ok, h.bk_ok, h.repl_ok, h.write_ok, h.write_uniq,
    h.write_all, h.deliv_ok, h.prim_ok⟩

def MsgsExt (s s' : St) : Prop :=
  ∀ mid m, s.msgs mid = some m → ∃ m', s'.msgs mid = some m' ∧ m'.kind = m.kind ∧ m'.b = m.b ∧
    m'.seq = m.seq ∧ m'.key = m.key ∧ m'.val = m.val ∧ (m.acked = true → m'.acked = true) ∧
    (m.delivered = true → m'.delivered = true)

theorem msgsExt_refl (s s' : St) (h : s'.msgs = s.msgs) : MsgsExt s s' := by
  intro mid m hm; exact ⟨m, by rw [h]; exact hm, rfl, rfl, rfl, rfl, rfl, id, id⟩

theorem ackedAt_ext (s s' : St) (h : MsgsExt s s') (mid : Nat) (ha : ackedAt s mid = true) :
    ackedAt s' mid = true := by
  unfold ackedAt at *
  cases hm : s.msgs mid with
  | none => rw [hm] at ha; cases ha
  | some m =>
    rw [hm] at ha
    obtain ⟨m', h1, _, _, _, _, _, h7, _⟩ := h mid m hm
    rw [h1]; exact h7 ha

/-- the part of the invariant that mentions neither table -/
structure Data (s : St) : Prop where
  rep : s.repaired = true
  app_le : s.applied ≤ s.seq
  bk_ok : ∀ b k, s.kseq b k ≤ s.applied ∧ (s.kseq b k = 0 → s.store (b + 1) k = none) ∧
      (s.kseq b k ≠ 0 → s.wk (s.kseq b k) = k ∧ s.store (b + 1) k = some (s.wv (s.kseq b k)))
  prim_ok : ∀ k, s.store 0 k =
      (if lastFor s.wk s.applied k = 0 then none else some (s.wv (lastFor s.wk s.applied k)))

theorem Inv.data {s : St} (h : Inv s) : Data s := ⟨h.rep, h.app_le, h.bk_ok, h.prim_ok⟩

/-- state evolution that keeps message and handler facts true -/
structure Mono (s s' : St) : Prop where
  nb : s'.nb = s.nb
  mode : s'.mode = s.mode
  applied : s.applied ≤ s'.applied
  seq : s.seq ≤ s'.seq
  wk : ∀ q, q ≤ s.seq → s'.wk q = s.wk q
  wv : ∀ q, q ≤ s.seq → s'.wv q = s.wv q
  kseq : ∀ b k, s.kseq b k ≤ s'.kseq b k
  msgs : MsgsExt s s'

/-- `s'` differs from `s` at most in the two tables, the replies and the error flag -/
def SameData (s s' : St) : Prop :=
  s' = { s with np := s'.np, procs := s'.procs, nm := s'.nm, msgs := s'.msgs, replies := s'.replies,
                err := s'.err }

theorem SameData.data {s s' : St} (e : SameData s s') (h : Data s) : Data s' := by
  rw [e]; exact ⟨h.rep, h.app_le, h.bk_ok, h.prim_ok⟩

theorem SameData.mono {s s' : St} (e : SameData s s') (hm : MsgsExt s s') : Mono s s' := by
  refine ⟨?_, ?_, ?_, ?_, ?_, ?_, ?_, hm⟩ <;> rw [e] <;> intros <;> first | rfl | exact Nat.le_refl _

theorem SameData.applied {s s' : St} (e : SameData s s') : s'.applied = s.applied := by rw [e]
theorem SameData.seq {s s' : St} (e : SameData s s') : s'.seq = s.seq := by rw [e]

theorem replMsg_mono {s s' : St} {m : Msg} (hd : Data s) (hm : Mono s s') (h : ReplMsg s m) : ReplMsg s' m := by
  obtain ⟨a1, a2, a3, a4, a5, a6⟩ := h
  have hle : m.seq ≤ s.seq := Nat.le_trans a3 hd.app_le
  exact ⟨hm.nb ▸ a1, a2, Nat.le_trans a3 hm.applied, (hm.wk _ hle).trans a4, (hm.wv _ hle).trans a5,
    fun ha => Nat.le_trans (a6 ha) (hm.kseq _ _)⟩

theorem replProc_mono {s s' : St} {p : Proc} (hm : Mono s s') (h : ReplProc s p) : ReplProc s' p := by
  obtain ⟨a1, a2, m, c1, c2, c3, c4, c5, c6, c7⟩ := h
  obtain ⟨m', d1, d2, d3, d4, d5, d6, d7, _⟩ := hm.msgs _ m c1
  exact ⟨a1, a2, m', d1, by rw [d2]; exact c2, by rw [d3]; exact c3, by rw [d5]; exact c4,
    by rw [d6]; exact c5, by rw [d4]; exact c6, fun h2 => d7 (c7 h2)⟩

/-- handler facts survive, except the primary's "put not landed yet" clause, which is supplied -/
theorem writeProc_mono {s s' : St} {p : Proc} (hm : Mono s s') (h : WriteProc s p)
    (hw : p.seg ≤ 1 → s'.applied < p.seq) : WriteProc s' p := by
  obtain ⟨a1, a2, a3, a4, -, a6, a7, a8⟩ := h
  refine ⟨a1, Nat.le_trans a2 hm.seq, (hm.wk _ a2).trans a3, (hm.wv _ a2).trans a4, hw, ?_, ?_, a8⟩
  · intro h2
    obtain ⟨b1, b2⟩ := a6 h2
    refine ⟨Nat.le_trans b1 hm.applied, fun b hb => ?_⟩
    obtain ⟨m, c1, c2, c3, c4, c5⟩ := b2 b (hm.nb ▸ hb)
    obtain ⟨m', d1, d2, d3, d4, d5, -, -, -⟩ := hm.msgs _ m c1
    exact ⟨m', d1, d2.trans c2, d3.trans c3, d4.trans c4, d5.trans c5⟩
  · intro hf
    obtain ⟨b1, b2⟩ := a7 hf
    exact ⟨b1, b2.imp hm.nb.trans (ackCond_mono s s' p hm.mode hm.nb (ackedAt_ext s s' hm.msgs))⟩

theorem Inv.write_pending {s : St} (h : Inv s) {pid : Nat} {p : Proc} (hp : s.procs pid = some p)
    (hk : p.kind = .write) (hs : p.seg ≤ 1) : s.applied < p.seq :=
  (h.write_ok pid p hp hk).2.2.2.2.1 hs

/-- One handler slot `x` changes: it is filled for the first time, or its occupant moves to a later
    stage.  A `Replicate` is kept, flagged delivered when its handler is there, flagged acknowledged once
    the backup has caught up with it, or new. -/
theorem inv_step (s s' : St) (x : Nat) (h : Inv s) (hd : Data s') (hm : Mono s s')
    (hnp : ∀ pid, s'.np ≤ pid → s'.procs pid = none) (hnm : ∀ mid, s'.nm ≤ mid → s'.msgs mid = none)
    (hmsgs : ∀ mid m', s'.msgs mid = some m' → m'.kind = .repl →
      s.msgs mid = some m' ∨ (ReplMsg s' m' ∧ m'.delivered = false) ∨
      ∃ m, s.msgs mid = some m ∧
        ((m' = { m with delivered := true } ∧ ∃ pid p, s'.procs pid = some p ∧ p.kind = .repl ∧ p.op = mid) ∨
         (m' = { m with acked := true } ∧ m.seq ≤ s'.kseq m.b m.key)))
    (hoth : ∀ pid, pid ≠ x → s'.procs pid = s.procs pid)
    (hold : ∀ p0, s.procs x = some p0 →
      ∃ p, s'.procs x = some p ∧ p.kind = p0.kind ∧ p.seq = p0.seq ∧ p.op = p0.op)
    (hx : ∀ p, s'.procs x = some p → s.procs x = some p ∨ ((p.kind = .repl → ReplProc s' p) ∧
      (p.kind = .write → WriteProc s' p ∧
        ((∃ p0, s.procs x = some p0 ∧ p0.kind = .write) ∨ s.seq < p.seq))))
    (hall : ∀ q, s.seq < q → q ≤ s'.seq → ∃ p, s'.procs x = some p ∧ p.kind = .write ∧ p.seq = q)
    (hw : ∀ pid p, s.procs pid = some p → s'.procs pid = some p → p.kind = .write → p.seg ≤ 1 →
      s'.applied < p.seq) : Inv s' := by
  have hds := h.data
  have keep : ∀ y r, s.procs y = some r →
      ∃ r', s'.procs y = some r' ∧ r'.kind = r.kind ∧ r'.seq = r.seq ∧ r'.op = r.op := by
    intro y r hr
    by_cases hy : y = x
    · subst hy; exact hold r hr
    · exact ⟨r, (hoth y hy).trans hr, rfl, rfl, rfl⟩
  have origin : ∀ y r, s'.procs y = some r → s.procs y = some r ∨ (y = x ∧ (r.kind = .repl → ReplProc s' r) ∧
      (r.kind = .write → WriteProc s' r ∧ ((∃ p0, s.procs x = some p0 ∧ p0.kind = .write) ∨ s.seq < r.seq))) := by
    intro y r hr
    by_cases hy : y = x
    · subst hy; exact (hx r hr).imp id (fun c => ⟨rfl, c⟩)
    · exact Or.inl ((hoth y hy).symm.trans hr)
  refine ⟨hd.rep, hd.app_le, hnp, hnm, ?_, hd.bk_ok, ?_, ?_, ?_, ?_, ?_, hd.prim_ok⟩
  · intro mid m' hm' hk
    rcases hmsgs mid m' hm' hk with c | ⟨c, -⟩ | ⟨m, c, ⟨rfl, -⟩ | ⟨rfl, c2⟩⟩
    · exact replMsg_mono hds hm (h.msg_ok mid m' c hk)
    · exact c
    · exact replMsg_mono hds hm (h.msg_ok mid m c hk)
    · have := replMsg_mono hds hm (h.msg_ok mid m c hk)
      exact ⟨this.1, this.2.1, this.2.2.1, this.2.2.2.1, this.2.2.2.2.1, fun _ => c2⟩
  · intro y r hr hk
    rcases origin y r hr with c | ⟨-, c, -⟩
    · exact replProc_mono hm (h.repl_ok y r c hk)
    · exact c hk
  · intro y r hr hk
    rcases origin y r hr with c | ⟨-, -, c⟩
    · exact writeProc_mono hm (h.write_ok y r c hk) (hw y r c hr hk)
    · exact (c hk).1
  · have worigin : ∀ y r, s'.procs y = some r → r.kind = .write →
        (∃ r0, s.procs y = some r0 ∧ r0.kind = .write ∧ r0.seq = r.seq) ∨ (y = x ∧ s.seq < r.seq) := by
      intro y r hr hk
      rcases origin y r hr with c | ⟨rfl, -, c⟩
      · exact Or.inl ⟨r, c, hk, rfl⟩
      · rcases (c hk).2 with ⟨p0, c1, c2⟩ | c
        · obtain ⟨r', d1, -, d3, -⟩ := hold p0 c1
          cases d1.symm.trans hr
          exact Or.inl ⟨p0, c1, c2, d3.symm⟩
        · exact Or.inr ⟨rfl, c⟩
    intro y r y' r' hr hr' hk hk' hseq
    rcases worigin y r hr hk with ⟨r0, a1, a2, a3⟩ | ⟨a1, a2⟩ <;>
      rcases worigin y' r' hr' hk' with ⟨r0', b1, b2, b3⟩ | ⟨b1, b2⟩
    · exact h.write_uniq y r0 y' r0' a1 b1 a2 b2 (by rw [a3, b3]; exact hseq)
    · have : r'.seq ≤ s.seq := by rw [← hseq, ← a3]; exact (h.write_ok y r0 a1 a2).2.1
      exact absurd (Nat.lt_of_lt_of_le b2 this) (Nat.lt_irrefl _)
    · have : r.seq ≤ s.seq := by rw [hseq, ← b3]; exact (h.write_ok y' r0' b1 b2).2.1
      exact absurd (Nat.lt_of_lt_of_le a2 this) (Nat.lt_irrefl _)
    · rw [a1, b1]
  · intro q hq1 hq2
    by_cases hq : q ≤ s.seq
    · obtain ⟨y, r, hr, hk, hs⟩ := h.write_all q hq1 hq
      obtain ⟨r', c1, c2, c3, -⟩ := keep y r hr
      exact ⟨y, r', c1, c2 ▸ hk, c3 ▸ hs⟩
    · obtain ⟨p, c⟩ := hall q (Nat.lt_of_not_le hq) hq2
      exact ⟨x, p, c⟩
  · intro mid m' hm' hk hdl
    have old : ∀ m, s.msgs mid = some m → m.kind = .repl → m.delivered = true →
        ∃ pid p, s'.procs pid = some p ∧ p.kind = .repl ∧ p.op = mid := by
      intro m c hk hdl
      obtain ⟨y, r, hr, hrk, hro⟩ := h.deliv_ok mid m c hk hdl
      obtain ⟨r', c1, c2, -, c4⟩ := keep y r hr
      exact ⟨y, r', c1, c2 ▸ hrk, c4 ▸ hro⟩
    rcases hmsgs mid m' hm' hk with c | ⟨-, c⟩ | ⟨m, c, ⟨-, c2⟩ | ⟨rfl, -⟩⟩
    · exact old m' c hk hdl
    · rw [c] at hdl; cases hdl
    · exact c2
    · exact old m c hk hdl

/-- handler slot `x` is filled with `p'`, which is no client write, or a later stage of the handler
    that was there -/
theorem inv_putProc (s s' : St) (x : Nat) (p' : Proc) (h : Inv s) (e : SameData s s')
    (hm : s'.msgs = s.msgs) (hnm : s'.nm = s.nm) (hp : s'.procs = upd s.procs x (some p'))
    (hnp : s.np ≤ s'.np) (hxn : x < s'.np)
    (hold : ∀ p0, s.procs x = some p0 → p'.kind = p0.kind ∧ p'.seq = p0.seq ∧ p'.op = p0.op)
    (hr : p'.kind = .repl → ReplProc s p') (hw : p'.kind = .write → WriteProc s p' ∧ ∃ p0, s.procs x = some p0) :
    Inv s' := by
  have hme : MsgsExt s s' := msgsExt_refl s s' hm
  have hmono := e.mono hme
  have hself : s'.procs x = some p' := by rw [hp, upd_same]
  apply inv_step s s' x h (e.data h.data) hmono
  · intro y hy
    rw [hp, upd_other _ _ _ _ (Nat.ne_of_gt (Nat.lt_of_lt_of_le hxn hy))]
    exact h.procs_none y (Nat.le_trans hnp hy)
  · intro mid hmid; rw [hm]; exact h.msgs_none mid (hnm ▸ hmid)
  · intro mid m' hm' _; exact Or.inl (hm ▸ hm')
  · intro pid hpid; rw [hp, upd_other _ _ _ _ hpid]
  · intro p0 hp0; exact ⟨p', hself, hold p0 hp0⟩
  · intro p hpp
    cases hself.symm.trans hpp
    refine Or.inr ⟨fun hk => replProc_mono hmono (hr hk), fun hk => ?_⟩
    obtain ⟨c1, p0, c2⟩ := hw hk
    exact ⟨writeProc_mono hmono c1 (fun hs => e.applied ▸ c1.2.2.2.2.1 hs),
      Or.inl ⟨p0, c2, (hold p0 c2).1 ▸ hk⟩⟩
  · intro q hq hq'; rw [e.seq] at hq'; exact absurd (Nat.lt_of_lt_of_le hq hq') (Nat.lt_irrefl _)
  · intro pid p h1 _ hk hs; rw [e.applied]; exact h.write_pending h1 hk hs

theorem inv_putMsg (s s' : St) (x : Nat) (m' : Msg) (h : Inv s) (e : SameData s s')
    (hp : s'.procs = s.procs) (hnp : s'.np = s.np) (hm : s'.msgs = upd s.msgs x (some m'))
    (hnm : s.nm ≤ s'.nm) (hxn : x < s'.nm)
    (hok : m'.kind = .repl →
      (ReplMsg s m' ∧ m'.delivered = false) ∨
      ∃ m, s.msgs x = some m ∧
        ((m' = { m with delivered := true } ∧ ∃ pid p, s.procs pid = some p ∧ p.kind = .repl ∧ p.op = x) ∨
         (m' = { m with acked := true } ∧ m.seq ≤ s.kseq m.b m.key)))
    (hext : ∀ m, s.msgs x = some m → m'.kind = m.kind ∧ m'.b = m.b ∧ m'.seq = m.seq ∧ m'.key = m.key ∧
      m'.val = m.val ∧ (m.acked = true → m'.acked = true) ∧ (m.delivered = true → m'.delivered = true)) :
    Inv s' := by
  have hme : MsgsExt s s' := by
    intro mid m hmid
    by_cases hx : mid = x
    · subst hx; exact ⟨m', by rw [hm, upd_same], hext m hmid⟩
    · exact ⟨m, by rw [hm, upd_other _ _ _ _ hx]; exact hmid, rfl, rfl, rfl, rfl, rfl, id, id⟩
  have hmono := e.mono hme
  -- no handler slot changes: slot 0 stands in, with its occupant unchanged
  apply inv_step s s' 0 h (e.data h.data) hmono
  · intro y hy; rw [hp]; exact h.procs_none y (hnp ▸ hy)
  · intro mid hmid
    rw [hm, upd_other _ _ _ _ (Nat.ne_of_gt (Nat.lt_of_lt_of_le hxn hmid))]
    exact h.msgs_none mid (Nat.le_trans hnm hmid)
  · intro mid m hmid hk
    rw [hm] at hmid
    by_cases hx : mid = x
    · subst hx; rw [upd_same] at hmid; cases hmid
      rw [e, hp]; exact Or.inr (hok hk)
    · rw [upd_other _ _ _ _ hx] at hmid; exact Or.inl hmid
  · intro pid _; rw [hp]
  · intro p0 hp0; exact ⟨p0, hp ▸ hp0, rfl, rfl, rfl⟩
  · intro p hpp; exact Or.inl (hp ▸ hpp)
  · intro q hq hq'; rw [e.seq] at hq'; exact absurd (Nat.lt_of_lt_of_le hq hq') (Nat.lt_irrefl _)
  · intro pid p h1 _ hk hs; rw [e.applied]; exact h.write_pending h1 hk hs

theorem inv_data (s s' : St) (h : Inv s) (hd : Data s') (hm : Mono s s')
    (e : s' = { s with kseq := s'.kseq, store := s'.store, last := s'.last }) : Inv s' := by
  apply inv_step s s' 0 h hd hm
  · rw [e]; exact h.procs_none
  · rw [e]; exact h.msgs_none
  · intro mid m' hm' _; rw [e] at hm'; exact Or.inl hm'
  · intro pid _; rw [e]
  · intro p0 hp0; exact ⟨p0, by rw [e]; exact hp0, rfl, rfl, rfl⟩
  · intro p hpp; rw [e] at hpp; exact Or.inl hpp
  · intro q hq hq'; rw [e] at hq'; exact absurd (Nat.lt_of_lt_of_le hq hq') (Nat.lt_irrefl _)
  · intro pid p h1 _ hk hs; rw [e]; exact h.write_pending h1 hk hs

end HappyModel.C17.PB
