import HappyModel.C01.Engine
/-!
The process layer: `Event.invoke`, `_start_process`, `ProcessContinuation.invoke`,
`_normalize_yield`, `_run_completion_hooks` (core/event.py) and `SimFuture._park/resolve/_resume`,
`any_of`, `all_of` (core/sim_future.py), as one particular `Machine` on top of the engine.

A model ("program") is a table of handler scripts.  A script is a list of segments; a segment is a
list of actions followed by a terminator — exactly the code between two `yield`s of a generator.
Plain (non-generator) handlers are scripts with a single `ret` segment and `gen = false`.
-/
namespace HappyModel.C01

inductive Val
  | none
  | n (x : Nat)
  | pair (i : Nat) (v : Val)          -- any_of result `(index, value)`
  | list (vs : List Val)              -- all_of result
  | atom (kind x : Nat)               -- an opaque user value: exception instance, bool, string, float, class, ()
deriving Inhabited

/-- a numeral used as a value is the integer value `n` -/
instance (k : Nat) : OfNat Val k := ⟨.n k⟩

mutual
  def Val.show : Val → String
    | .none => "none"
    | .n x => s!"n{x}"
    | .pair i v => s!"p({i},{v.show})"
    | .list vs => "l[" ++ Val.showList vs ++ "]"
    | .atom k x => s!"a{k}.{x}"
  /-- comma-separated -/
  def Val.showList : List Val → String
    | [] => ""
    | [v] => v.show
    | v :: w :: r => v.show ++ "," ++ Val.showList (w :: r)
end

inductive Act
  | emit (tgt kind delay : Nat) (daemon : Bool) (hook : Nat)   -- hook = 0: none; h>0: completion hook h attached
  | emitPast (tgt kind back : Nat) (daemon : Bool)             -- an event stamped `back` ns before now (clamped at 0)
  | emitAbs (tgt kind time : Nat) (daemon : Bool)              -- an event at an absolute timestamp
  | release (i : Nat)                       -- hand a pre-created (held) event i to the scheduler
  | cancel (kind : Nat)                     -- cancel the most recently created event of this kind
  | resolve (f : Nat) (v : Val)              -- `future.resolve(v)`: the value is opaque to the engine
  | anyOf (f : Nat) (gs : List Nat)         -- slot f := any_of(gs…)
  | allOf (f : Nat) (gs : List Nat)         -- slot f := all_of(gs…)
  | fresh (f : Nat)                         -- slot f := SimFuture()
  | crash (ent : Nat)                       -- entity._crashed = True
  | restore (ent : Nat)                     -- entity._crashed = False
  | addHook (kind hook : Nat)               -- `add_completion_hook` on the most recently created event of this kind
  | metric (ent : Nat) (abs : Bool) (v : Int) -- entity.level = v  /  entity.level = (entity.level or 0) + v
  | relay (tgt kind delay limit : Nat) (daemon : Bool)
      -- hop counter in the event's metadata: `h = event.get_context("hops") or 0; if h < limit:
      -- event.add_context("hops", h + 1)` (stamps the delivered event) and forward a fresh event carrying `hops = h + 1`


inductive Term
  | yieldD (d : Nat)        -- `yield d` / `yield d, events`
  | yieldF (f : Nat)        -- `yield future`
  | ret                     -- return (events created in the last segment are the return value)


structure Seg where
  acts : List Act
  term : Term


structure HandlerDef where
  ent : Nat
  kind : Nat
  gen : Bool
  segs : List Seg


inductive Cb
  | anyCb (comp idx : Nat)
  | allCb (comp idx : Nat)


structure Fut where
  resolved : Bool := false
  value : Val := .none
  parked : Option Nat := none            -- pid parked on it
  cbs : List Cb := []
  results : List Val := []               -- all_of: slots
  remaining : Nat := 0                   -- all_of: inputs still missing


structure Proc where
  ent : Nat
  kind : Nat
  daemon : Bool
  segs : List Seg            -- remaining segments (head = next to run)
  hooks : List Nat           -- completion hooks of the originating event (one-shot, shared)
  done : Bool := false
  send : Val := .none        -- `_send_value` of the pending continuation
  started : Bool := false
  ev : Nat := 0              -- creation index of the originating event (whose `on_complete` list the process shares)
  hops : Nat := 0            -- `hops` entry of the originating event's metadata when it was delivered

/-- observable log entries (what the harness entities write down) -/
inductive Obs
  | start (t ent kind tag : Nat)             -- handle_event entered
  | resume (t pid : Nat) (v : Val) (tag : Nat) -- generator resumed with a sent value
  | finish (t pid : Nat)                     -- generator finished (StopIteration)
  | hook (t h : Nat)                         -- completion hook ran
  | skip (t ent kind tag : Nat)              -- no handler for this (entity, kind)


structure PS where
  defs : List HandlerDef
  procs : List Proc := []
  futs : List Fut := []
  nid : Nat                                  -- mirror of the engine's next creation index
  lastKind : List (Nat × Nat) := []          -- kind ↦ id of the most recently created event of that kind
  hookOf : List (Nat × Nat) := []            -- event id ↦ hook attached at creation
  obs : List Obs := []                       -- newest first
  tagc : Nat := 0                            -- harness creation tags handed out so far
  crashed : List Nat := []                   -- entities with `_crashed = True`
  gateCont : Bool := false                   -- variant: continuations to a crashed entity are gated too
  held : List (Nat × Spec) := []             -- events created before the run and not yet scheduled
  late : List (Nat × Nat) := []              -- pid ↦ hook added to the originating event while the process is in flight
  lateAtt : List Nat := []                   -- every hook ever added in flight (never shrinks)
  level : List (Nat × Int) := []             -- entity ↦ its `level` attribute (absent = `None`)
  hopsOf : List (Nat × Nat) := []            -- creation tag ↦ `hops` metadata an event was created with (absent = none);
                                             --   a copy re-created by reset() has the tag, hence the hops, of the original
  cur : Nat := 0                             -- `hops` of the event whose handler / process is running

def futGet (fs : List Fut) (f : Nat) : Fut := fs.getD f ({} : Fut)
def futSet (fs : List Fut) (f : Nat) (x : Fut) : List Fut :=
  if f < fs.length then fs.set f x else fs ++ List.replicate (f - fs.length) ({} : Fut) ++ [x]

/-- accumulated effect of running code: specs in creation order, cancels -/
structure Eff where
  ps : PS
  specs : List Spec := []
  cancels : List Nat := []

def Eff.push (e : Eff) (s0 : Spec) (hook : Nat) (tagged : Bool := true) : Eff :=
  let id := e.ps.nid
  let tagc := if tagged then e.ps.tagc + 1 else e.ps.tagc
  let s := { s0 with tag := if tagged then tagc else 0 }
  { e with specs := e.specs ++ [s],
           ps := { e.ps with nid := id + 1, tagc := tagc,
                             lastKind := if tagged && s.data == 0 then (s.kind, id) :: e.ps.lastKind.filter (fun p => p.1 != s.kind)
                                         else e.ps.lastKind,
                             hookOf := if hook = 0 then e.ps.hookOf else (id, hook) :: e.ps.hookOf } }

/-- the continuation event of process `pid`: data = pid + 1 -/
def contSpec (p : Proc) (pid t : Nat) : Spec := ⟨t, p.ent, p.kind, p.daemon, pid + 1, 0⟩

/-- `SimFuture._resume`: schedule a continuation for the parked process at `now` -/
def resumeParked (e : Eff) (now f : Nat) : Eff :=
  let fu := futGet e.ps.futs f
  match fu.parked with
  | none => e
  | some pid =>
    match e.ps.procs[pid]? with
    | none => e
    | some p =>
      let e1 := e.push (contSpec p pid now) 0 false
      { e1 with ps := { e1.ps with futs := futSet e1.ps.futs f { fu with parked := none },
                                   procs := e1.ps.procs.set pid { p with send := fu.value } } }

/-- `SimFuture.resolve` including settle callbacks (any_of / all_of), fuel-bounded by nesting depth -/
def resolveFut : Nat → Eff → Nat → Nat → Val → Eff
  | 0, e, _, _, _ => e
  | fuel+1, e, now, f, v =>
    let fu := futGet e.ps.futs f
    if fu.resolved then e else
    let fu' := { fu with resolved := true, value := v, cbs := [] }
    let e1 := { e with ps := { e.ps with futs := futSet e.ps.futs f fu' } }
    let e2 := resumeParked e1 now f
    fu.cbs.foldl (fun acc cb =>
      match cb with
      | .anyCb comp idx => resolveFut fuel acc now comp (.pair idx v)
      | .allCb comp idx =>
        let c := futGet acc.ps.futs comp
        if c.resolved then acc else
        let res := c.results.set idx v
        let rem := c.remaining - 1
        let acc1 := { acc with ps := { acc.ps with futs := futSet acc.ps.futs comp { c with results := res, remaining := rem } } }
        if rem = 0 then resolveFut fuel acc1 now comp (.list res) else acc1) e2

def depthFuel : Nat := 64

/-- `_add_settle_callback`: fires at once if the input is already resolved -/
def addCb (e : Eff) (now g : Nat) (cb : Cb) : Eff :=
  let gu := futGet e.ps.futs g
  if gu.resolved then
    match cb with
    | .anyCb comp idx => resolveFut depthFuel e now comp (.pair idx gu.value)
    | .allCb comp idx =>
      let c := futGet e.ps.futs comp
      if c.resolved then e else
      let res := c.results.set idx gu.value
      let rem := c.remaining - 1
      let e1 := { e with ps := { e.ps with futs := futSet e.ps.futs comp { c with results := res, remaining := rem } } }
      if rem = 0 then resolveFut depthFuel e1 now comp (.list res) else e1
  else { e with ps := { e.ps with futs := futSet e.ps.futs g { gu with cbs := gu.cbs ++ [cb] } } }

/-- `event.add_completion_hook(h)` for the event with creation index `id`: the list is shared with the
    process the event started (`_start_process` passes `on_complete` on), so a hook added while that
    process is in flight runs when it finishes; before the delivery it is picked up at the delivery;
    after the finish (the list was cleared) or on a dropped event it never runs -/
def addHookTo (e : Eff) (id hook : Nat) : Eff :=
  match e.ps.procs.findIdx? (fun p => p.ev == id && !p.done) with
  | some pid => { e with ps := { e.ps with late := e.ps.late ++ [(pid, hook)], lateAtt := hook :: e.ps.lateAtt } }
  | none => { e with ps := { e.ps with hookOf := e.ps.hookOf ++ [(id, hook)] } }

def hopsAt (l : List (Nat × Nat)) (tag : Nat) : Nat := ((l.find? (fun p => p.1 == tag)).map (·.2)).getD 0

def levelOf (l : List (Nat × Int)) (x : Nat) : Option Int := (l.find? (fun p => p.1 == x)).map (·.2)

def setLevel (l : List (Nat × Int)) (x : Nat) (abs : Bool) (v : Int) : List (Nat × Int) :=
  (x, if abs then v else (levelOf l x).getD 0 + v) :: l.filter (fun p => p.1 != x)

/-- hooks added to the originating event of `pid` while it was in flight, in order -/
def lateOf (ps : PS) (pid : Nat) : List Nat := (ps.late.filter (fun q => q.1 == pid)).map (·.2)

def enum {α} (l : List α) : List (Nat × α) := (List.range l.length).zip l

def runAct (now : Nat) (e : Eff) : Act → Eff
  | .emit tgt kind delay daemon hook => e.push ⟨now + delay, tgt, kind, daemon, 0, 0⟩ hook
  | .emitAbs tgt kind time daemon => e.push ⟨time, tgt, kind, daemon, 0, 0⟩ 0
  | .release i =>
    match e.ps.held.find? (fun p => p.1 == i) with
    | none => e
    | some (_, sp) =>
      -- scheduled now, with the creation tag it got before the run
      let id := e.ps.nid
      { e with specs := e.specs ++ [sp],
               ps := { e.ps with nid := id + 1, held := e.ps.held.filter (fun p => p.1 != i) } }
  | .emitPast tgt kind back daemon => e.push ⟨now - back, tgt, kind, daemon, 0, 0⟩ 0
  | .crash x => { e with ps := { e.ps with crashed := x :: e.ps.crashed.filter (· != x) } }
  | .restore x => { e with ps := { e.ps with crashed := e.ps.crashed.filter (· != x) } }
  | .cancel kind =>
    match e.ps.lastKind.find? (fun p => p.1 == kind) with
    | some (_, id) => { e with cancels := e.cancels ++ [id] }
    | none => e
  | .resolve f v => resolveFut depthFuel e now f v
  | .addHook kind hook =>
    match e.ps.lastKind.find? (fun p => p.1 == kind) with
    | some (_, id) => addHookTo e id hook
    | none => e
  | .metric x abs v => { e with ps := { e.ps with level := setLevel e.ps.level x abs v } }
  | .relay tgt kind delay limit daemon =>
    -- (stamping the delivered event changes nothing the engine looks at again: what was scheduled is
    -- what reset() replays)
    if e.ps.cur < limit then
      let e1 := e.push ⟨now + delay, tgt, kind, daemon, 0, 0⟩ 0
      { e1 with ps := { e1.ps with hopsOf := (e1.ps.tagc, e.ps.cur + 1) :: e1.ps.hopsOf } }
    else e
  | .fresh f => { e with ps := { e.ps with futs := futSet e.ps.futs f ({} : Fut) } }
  | .anyOf f gs =>
    let e0 := { e with ps := { e.ps with futs := futSet e.ps.futs f ({} : Fut) } }
    (enum gs).foldl (fun acc p => addCb acc now p.2 (.anyCb f p.1)) e0
  | .allOf f gs =>
    let c0 : Fut := { results := List.replicate gs.length .none, remaining := gs.length }
    let e0 := { e with ps := { e.ps with futs := futSet e.ps.futs f c0 } }
    (enum gs).foldl (fun acc p => addCb acc now p.2 (.allCb f p.1)) e0

def addObs (e : Eff) (o : Obs) : Eff := { e with ps := { e.ps with obs := o :: e.ps.obs } }

/-- `_run_completion_hooks`: each hook h logs and emits an event of kind 1000+h to entity 0 at `now` -/
def runHooks (now : Nat) (e : Eff) (hooks : List Nat) : Eff :=
  hooks.foldl (fun acc h => (addObs acc (.hook now h)).push ⟨now, 0, 1000 + h, false, 0, 0⟩ 0) e

/-- run the next segment of process `pid` (`ProcessContinuation.invoke`) -/
def runSegment (now : Nat) (e : Eff) (pid : Nat) (tag : Nat := 0) : Eff :=
  match e.ps.procs[pid]? with
  | none => e
  | some p =>
    match p.segs with
    | [] => e
    | seg :: rest =>
      let e0 := if p.started then addObs e (.resume now pid p.send tag) else e
      let p := { p with started := true, send := .none }
      let e0 := { e0 with ps := { e0.ps with procs := e0.ps.procs.set pid p, cur := p.hops } }
      let e1 := seg.acts.foldl (runAct now) e0
      let setProc (x : Eff) (q : Proc) : Eff := { x with ps := { x.ps with procs := x.ps.procs.set pid q } }
      match seg.term with
      | .yieldD d =>
        let e2 := setProc e1 { p with segs := rest }
        e2.push (contSpec p pid (now + d)) 0
      | .yieldF f =>
        let e2 := setProc e1 { p with segs := rest }
        let fu := futGet e2.ps.futs f
        let e3 := { e2 with ps := { e2.ps with futs := futSet e2.ps.futs f { fu with parked := some pid } } }
        if fu.resolved then resumeParked e3 now f else e3
      | .ret =>
        -- `_run_completion_hooks`: the shared list as it is now (hooks the event had when the process
        -- started, then those added since), cleared before the hooks run
        let e2 := setProc e1 { p with segs := [], done := true, hooks := [] }
        let e2 := { e2 with ps := { e2.ps with late := e2.ps.late.filter (fun q => q.1 != pid) } }
        let e3 := addObs e2 (.finish now pid)
        runHooks now e3 (p.hooks ++ lateOf e1.ps pid)

/-- the `Machine` of a program -/
def procHandle (ps : PS) (now : Nat) (ev : Ev) : Out PS :=
  let e0 : Eff := { ps := ps }
  let hooks := (ps.hookOf.filter (fun p => p.1 == ev.id)).map (·.2)
  if ev.data = 0 then
    -- plain event: dispatch to the handler table
    match ps.defs.find? (fun d => d.ent == ev.target && d.kind == ev.kind) with
    | none =>
      let e1 := addObs e0 (.skip now ev.target ev.kind ev.tag)
      let e2 := runHooks now e1 hooks
      { ent := e2.ps, specs := e2.specs, cancels := e2.cancels }
    | some d =>
      let e1 := addObs e0 (.start now ev.target ev.kind ev.tag)
      let pid := e1.ps.procs.length
      let p : Proc :=
        { ent := ev.target, kind := ev.kind, daemon := ev.daemon, segs := d.segs, hooks := hooks, ev := ev.id,
          hops := hopsAt ps.hopsOf ev.tag }
      -- (`_start_process` also creates a first continuation that is never pushed; it consumes a
      -- creation index in the code but has no effect on relative order, so the model skips it)
      let e2 := { e1 with ps := { e1.ps with procs := e1.ps.procs ++ [p] } }
      let e3 := runSegment now e2 pid
      { ent := e3.ps, specs := e3.specs, cancels := e3.cancels }
  else
    let pid := ev.data - 1
    let e3 := runSegment now e0 pid ev.tag
    { ent := e3.ps, specs := e3.specs, cancels := e3.cancels }

/-- `Event.invoke` consults `target._crashed`; `ProcessContinuation.invoke` did not before /repo commit 335f6c8
    and has the same gate since (`gateCont = true`, variant `contgate`, is the code with that commit;
    `gateCont = false`, variant `current`, the code before it) -/
def procCrashed (ps : PS) (ev : Ev) : Bool :=
  ps.crashed.contains ev.target && (ev.data == 0 || ps.gateCont)

def procMachine : Machine PS := { handle := procHandle, crashed := procCrashed }

end HappyModel.C01
