import HappyProofs.C13.Step
import HappyModel.C13.Spec
/-! DEAD is left only with a strictly higher incarnation (every handler, every action); over whole
histories, the scan the judge runs (`Spec.reviveTrace`) is the pairwise clause, and every cell
history of the model passes it. -/
set_option linter.unusedSectionVars false
namespace HappyModel.C13
variable {D : Type} [Inhabited D] [Detector D]

def Rev (m m' : Member D) : Prop :=
  m.inc ≤ m'.inc ∧ (m.st = .dead → m'.st ≠ .dead → m.inc < m'.inc)

theorem Rev.refl (m : Member D) : Rev m m := ⟨Nat.le_refl _, fun h h' => absurd h h'⟩

theorem Rev.trans {a b c : Member D} (h1 : Rev a b) (h2 : Rev b c) : Rev a c := by
  refine ⟨Nat.le_trans h1.1 h2.1, fun ha hc => ?_⟩
  by_cases hb : b.st = .dead
  · exact Nat.lt_of_le_of_lt h1.1 (h2.2 hb hc)
  · exact Nat.lt_of_lt_of_le (h1.2 ha hb) h2.1

/-- whatever a handler does to an entry: "suspect" and "dead" gossip and the node's own verdicts keep
    a DEAD entry DEAD, and "alive" gossip is applied only with a higher incarnation -/
theorem rev_respects {now : Nat} : Respects (D := D) now Rev (fun _ => True) True True where
  refl := Rev.refl
  trans := Rev.trans
  gsuspect _ _ _ _ h := ⟨Nat.le_max_left _ _, fun hd => nomatch h.symm.trans hd⟩
  gdead _ _ _ _ _ := ⟨Nat.le_max_left _ _, fun _ hd => absurd rfl hd⟩
  galive _ _ _ _ h := ⟨Nat.le_of_lt h, fun _ _ => h⟩
  heard _ m := ⟨Nat.le_refl _, fun hd hn => by
    have : (if m.st = .suspect then MState.alive else m.st) ≠ .dead := hn
    rw [hd] at this
    exact absurd rfl this⟩
  suspect m h := ⟨Nat.le_refl _, fun hd => by rw [h] at hd; cases hd⟩
  dead _ m h := ⟨Nat.le_refl _, fun hd => by rw [h] at hd; cases hd⟩

def NRev (nd nd' : Node D) : Prop := ∀ x, Rev (nd.member x) (nd'.member x)

theorem NRev.refl (nd : Node D) : NRev nd nd := fun _ => Rev.refl _

def SRev (s s' : Sys D) : Prop := ∀ a, NRev (s.node a) (s'.node a)

theorem SRev.refl (s : Sys D) : SRev s s := fun _ => NRev.refl _
theorem SRev.trans {a b c : Sys D} (h1 : SRev a b) (h2 : SRev b c) : SRev a c :=
  fun x y => (h1 x y).trans (h2 x y)

theorem SRev.commit (s : Sys D) (a now : Nat) (r : Node D × List Out) (soup : List Msg)
    (h : NRev (s.node a) r.1) : SRev s (s.commit a now r soup) := by
  intro b
  by_cases hb : b = a
  · subst hb; rw [node_commit_same]; exact h
  · rw [node_commit_other hb]; exact NRev.refl _

theorem srev_step (c : Cfg) (s : Sys D) (act : Act) : SRev s (step c s act) := by
  intro a x
  rcases (step_rel c s act).node a with e | ⟨r, soup, hf, _, e⟩ <;> rw [e]
  · exact Rev.refl _
  · exact hf.entry rev_respects x (fun _ _ _ => ⟨fun _ _ _ => trivial, fun _ => trivial⟩)
      (fun _ _ _ _ => trivial)

theorem srev_run (c : Cfg) (s : Sys D) (acts : List Act) : SRev s (run c s acts) :=
  run_inv (I := SRev s) (fun _ act h => h.trans (srev_step c _ act)) acts (SRev.refl s)

open Spec

theorem aliveOk_noteDead (d : Option Nat) (c c' : Cell) :
    aliveOk (noteDead d c) c' = (aliveOk d c' && reviveOk c c') := by
  unfold noteDead reviveOk
  by_cases hd : c.st = .dead
  · cases d with
    | none =>
      simp only [hd, beq_self_eq_true, if_true, aliveOk, Bool.true_and]
    | some k =>
      simp only [hd, beq_self_eq_true, if_true, aliveOk, Bool.true_and]
      by_cases ha : c'.st = .alive
      · simp only [ha, beq_self_eq_true, Bool.true_and]
        -- the one fact: below the larger of two bounds = below one of them
        have hm : (c'.inc ≤ max k c.inc) ↔ (c'.inc ≤ k ∨ c'.inc ≤ c.inc) := by omega
        by_cases h1 : c'.inc ≤ k <;> by_cases h2 : c'.inc ≤ c.inc <;> simp [h1, h2, hm]
      · have : (c'.st == MState.alive) = false := by simpa using ha
        simp [this]
  · have : (c.st == MState.dead) = false := by simpa using hd
    simp [this]

theorem reviveTrace_iff (d : Option Nat) (cs : List Cell) :
    reviveTrace d cs = true ↔ (∀ c ∈ cs, aliveOk d c = true) ∧ cs.Pairwise (fun a b => reviveOk a b = true) := by
  induction cs generalizing d with
  | nil => simp [reviveTrace]
  | cons c cs ih =>
    simp only [reviveTrace, Bool.and_eq_true, ih, List.mem_cons, forall_eq_or_imp, List.pairwise_cons,
      aliveOk_noteDead]
    constructor
    · rintro ⟨h0, h1, h2⟩
      exact ⟨⟨h0, fun a ha => (h1 a ha).1⟩, fun a ha => (h1 a ha).2, h2⟩
    · rintro ⟨⟨h0, h1⟩, h2, h3⟩
      exact ⟨h0, fun a ha => ⟨h1 a ha, h2 a ha⟩, h3⟩

def obsCell (s : Sys D) (a x : Nat) : Spec.Cell := ⟨s.view a x, ((s.node a).member x).inc⟩

def cellTrace (c : Cfg) (a x : Nat) : Sys D → List Act → List Spec.Cell
  | s, [] => [obsCell s a x]
  | s, act :: rest => obsCell s a x :: cellTrace c a x (step c s act) rest

theorem reviveOk_of_srev (s0 s : Sys D) (h : SRev s0 s) (a x : Nat) :
    reviveOk (obsCell s0 a x) (obsCell s a x) = true := by
  have h := h a x
  unfold Spec.reviveOk obsCell Sys.view Node.view
  simp only [Bool.not_eq_true', Bool.and_eq_false_imp, Bool.and_eq_true, beq_iff_eq, decide_eq_false_iff_not,
    Nat.not_le, and_imp]
  intro hd ha
  exact h.2 hd (by rw [ha]; simp)

theorem cellTrace_after (c : Cfg) (a x : Nat) (s0 s : Sys D) (acts : List Act) (h : SRev s0 s) :
    ∀ cell ∈ cellTrace c a x s acts, reviveOk (obsCell s0 a x) cell = true := by
  induction acts generalizing s with
  | nil =>
    intro cell hc
    simp only [cellTrace, List.mem_singleton] at hc
    subst hc; exact reviveOk_of_srev s0 s h a x
  | cons act rest ih =>
    intro cell hc
    simp only [cellTrace, List.mem_cons] at hc
    rcases hc with rfl | hc
    · exact reviveOk_of_srev s0 s h a x
    · exact ih _ (SRev.trans h (srev_step c s act)) cell hc

theorem cellTrace_pairwise (c : Cfg) (a x : Nat) (s : Sys D) (acts : List Act) :
    (cellTrace c a x s acts).Pairwise (fun p q => reviveOk p q = true) := by
  induction acts generalizing s with
  | nil => simp [cellTrace]
  | cons act rest ih =>
    simp only [cellTrace, List.pairwise_cons]
    exact ⟨cellTrace_after c a x s _ rest (srev_step c s act), ih _⟩

end HappyModel.C13
