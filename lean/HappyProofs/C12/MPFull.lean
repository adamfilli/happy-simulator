import HappyProofs.C12.MPProgress
/-!
# C12 — end to end: commands parked on a node of a fresh cluster, its `start()`, the promises it needs
(`_become_leader` assigns slots 1..k with one acknowledgement each and leaves the node caught up), then any
stable action sequence that delivers the acknowledgements: every command is committed and its future resolved.
-/
namespace HappyModel.C12.MP

theorem becomeLeader_caught (s : St) (p : Nat) (nd : Node) (h : Caught nd) :
    Caught (becomeLeader s p nd).1 ∧ (becomeLeader s p nd).1.log.length = nd.log.length + nd.pending.length ∧
    (becomeLeader s p nd).1.commit = nd.commit := by
  obtain ⟨ha, hcl⟩ := h
  obtain ⟨fu, ak, e⟩ := becomeLeader_frame s p nd
  have hcom : (becomeLeader s p nd).1.commit = nd.commit := by rw [e]
  have happ : (becomeLeader s p nd).1.applied = nd.applied := by rw [e]
  have hlen : (becomeLeader s p nd).1.log.length = nd.log.length + nd.pending.length := by
    rw [becomeLeader_log]; simp
  exact ⟨⟨by rw [happ, hcom]; exact ha, by rw [hcom, hlen]; omega⟩, hlen, hcom⟩

/-- New leader, parked commands.  At the instant a node `p` (which has applied what it committed) becomes leader —
    `_become_leader`, reached from `start()` when `q1 ≤ 1` or from the promise that completes the phase-1 quorum —
    its i-th parked command `(c, f)` gets slot `len + i + 1` with one acknowledgement (its own).  From there, along any
    stable action sequence whose acknowledgements for that slot complete the phase-2 quorum, in any order relative
    to the other slots: the slot is committed on `p` and the `submit()` future `f` is resolved with `(slot, c)`. -/
theorem new_leader_commits_parked_commands (s : St) (p : Nat) (nd : Node) (as : List Act) (i c f : Nat)
    (hp : p < s.nodes.length) (hca : Caught nd) (hpend : nd.pending[i]? = some (c, f))
    (hall : ∀ a ∈ as, StableAct p a)
    (hin : 0 < as.countP (isAck p (nd.log.length + i + 1)))
    (hq : s.q2 ≤ 1 + as.countP (isAck p (nd.log.length + i + 1))) :
    nd.log.length + i + 1 ≤ (getNode (run (setNode s p (becomeLeader s p nd).1) as) p).commit ∧
    (f, nd.log.length + i + 1, c) ∈ (run (setNode s p (becomeLeader s p nd).1) as).futRes := by
  have hi : i < nd.pending.length := (List.getElem?_eq_some_iff.1 hpend).1
  -- the arithmetic of slot `len + i + 1`, before the context grows
  have hk : nd.log.length < nd.log.length + i + 1 ∧ nd.log.length + i + 1 ≤ nd.log.length + nd.pending.length := by
    omega
  have hk1 : nd.log.length + i + 1 - nd.log.length - 1 = i := by omega
  have hk2 : nd.log.length + i + 1 - 1 = nd.log.length + i := by omega
  have hk3 : nd.commit < nd.log.length + i + 1 := by have := hca.2; omega
  have hnode : getNode (setNode s p (becomeLeader s p nd).1) p = (becomeLeader s p nd).1 :=
    getNode_setNode_eq s p _ hp
  obtain ⟨hcaught, hlen, hcom⟩ := becomeLeader_caught s p nd hca
  have hfut : lookup (becomeLeader s p nd).1.futs (nd.log.length + i + 1) = some f := by
    rw [becomeLeader_futs, if_pos hk, hk1, hpend]
    rfl
  have hack : ackOf (becomeLeader s p nd).1 (nd.log.length + i + 1) = 1 := by
    rw [becomeLeader_ackOf, if_pos hk]
  have hent : (becomeLeader s p nd).1.log[nd.log.length + i + 1 - 1]? = some ⟨nd.ballot / s.n, c⟩ := by
    rw [becomeLeader_log, hk2, List.getElem?_append_right (Nat.le_add_right _ _)]
    simp only [Nat.add_sub_cancel_left, List.getElem?_map, hpend, Option.map_some]
  have hp' : p < (setNode s p (becomeLeader s p nd).1).nodes.length := by simp [setNode]; exact hp
  rw [← hnode] at hcaught hlen hcom hfut hack hent
  have hq' : (setNode s p (becomeLeader s p nd).1).q2 ≤ ackOf (getNode (setNode s p (becomeLeader s p nd).1) p)
      (nd.log.length + i + 1) + as.countP (isAck p (nd.log.length + i + 1)) := by rw [hack]; exact hq
  exact ⟨(stable_leader_commits_any_ack_order _ p _ as hp' hall hcaught.2 (by rw [hlen]; exact hk.2) hin hq').1,
    stable_leader_resolves_future _ p _ f ⟨nd.ballot / s.n, c⟩ as hp' hall hcaught (Nat.succ_le_succ (Nat.zero_le _)) hent hfut
      (by rw [hcom]; exact hk3) hin hq'⟩

/-- non-vacuity: node 0 of a 3-node cluster with two parked commands, after `start()`, at the promise that
    completes its quorum: caught up, second parked command = (2, future 1), slots 1 and 2 to come -/
example :
    let s := run (init 3 2 2 false) [.submit 0 1, .submit 0 2, .start 0]
    lookup (getNode s 0).p1 1 = some 1 ∧ 1 + 1 ≥ s.q1 ∧ (getNode s 0).applied = (getNode s 0).commit ∧
    (getNode s 0).commit ≤ (getNode s 0).log.length ∧ (getNode s 0).pending[1]? = some (2, 1) ∧
    (getNode s 0).log.length + 1 + 1 = 2 := by decide +kernel

/-- the fields of the future leader that the set-up phase never touches, and its parked commands -/
def Parked (nd : Node) (P : List (Nat × Nat)) : Prop :=
  nd.pending = P ∧ nd.log = [] ∧ nd.commit = 0 ∧ nd.applied = 0

theorem Parked.caught {nd : Node} {P : List (Nat × Nat)} (h : Parked nd P) : Caught nd :=
  ⟨by rw [h.2.2.2, h.2.2.1], by rw [h.2.2.1]; exact Nat.zero_le _⟩

theorem submit_node (s : St) (p c : Nat) (hp : p < s.nodes.length) (hl : (getNode s p).isLeader = false) :
    getNode (step s (.submit p c)).1 p =
      { getNode s p with pending := (getNode s p).pending ++ [(c, s.nfut)] } ∧
    (step s (.submit p c)).1.nfut = s.nfut + 1 := by
  rw [step_submit, hl]
  exact ⟨getNode_setNode_eq _ p _ hp, rfl⟩

theorem run_submits (p : Nat) : ∀ (cs : List Nat) (s : St), p < s.nodes.length →
    (getNode s p).isLeader = false →
    getNode (run s (cs.map (.submit p))) p =
      { getNode s p with pending := (getNode s p).pending ++ cs.zipIdx s.nfut } := by
  intro cs
  induction cs with
  | nil => intro s _ _; simp [run]
  | cons c cs ih =>
    intro s hp hl
    obtain ⟨h1, h2⟩ := submit_node s p c hp hl
    have hp' : p < (step s (.submit p c)).1.nodes.length := by rw [step_nodes_length]; exact hp
    have hl' : (getNode (step s (.submit p c)).1 p).isLeader = false := by rw [h1]; exact hl
    show getNode (run (step s (.submit p c)).1 (cs.map (.submit p))) p = _
    rw [ih _ hp' hl', h1, h2]
    simp [List.zipIdx_cons, List.append_assoc]

theorem start_waits (s : St) (p : Nat) (hp : p < s.nodes.length) (hq : ¬ s.q1 ≤ 1) (hpn : p < s.n)
    (hb : (getNode s p).ballot = p) (P : List (Nat × Nat)) (hP : Parked (getNode s p) P) :
    Parked (getNode (step s (.start p)).1 p) P ∧ lookup (getNode (step s (.start p)).1 p).p1 1 = some 1 := by
  rw [step_start, if_neg hq, getNode_setNode_eq s p _ hp]
  refine ⟨hP, ?_⟩
  -- the first ballot of node `p < n` has number 1
  have hnum : ((p / s.n + 1) * s.n + p) / s.n = 1 := by
    rw [Nat.div_eq_of_lt hpn]
    simp only [Nat.zero_add, Nat.one_mul]
    rw [Nat.add_div_left _ (by omega), Nat.div_eq_of_lt hpn]
  simp only [startNode, hb, hnum]
  exact (lookup_setKV _ _ _ _).trans (if_pos rfl)

theorem run_promises (p bn : Nat) (P : List (Nat × Nat)) : ∀ (j : Nat) (s : St) (k : Nat), p < s.nodes.length →
    lookup (getNode s p).p1 bn = some k → k + j < s.q1 → Parked (getNode s p) P →
    Parked (getNode (run s (List.replicate j (.promise p bn))) p) P ∧
    lookup (getNode (run s (List.replicate j (.promise p bn))) p).p1 bn = some (k + j) := by
  intro j
  induction j with
  | zero => intro s k _ hk _ hP; exact ⟨hP, hk⟩
  | succ j ih =>
    intro s k hp hk hlt hP
    -- below the quorum the promise is counted and nothing else moves
    have hst : getNode (step s (.promise p bn)).1 p = { getNode s p with p1 := setKV (getNode s p).p1 bn (k + 1) } := by
      rw [step_promise_some hk, if_neg (by omega), getNode_setNode_eq s p _ hp]
    have hp' : p < (step s (.promise p bn)).1.nodes.length := by rw [step_nodes_length]; exact hp
    have := ih (step s (.promise p bn)).1 (k + 1) hp' (by rw [hst]; exact (lookup_setKV _ _ _ _).trans (if_pos rfl))
      (by rw [step_q1]; omega) (by rw [hst]; exact hP)
    rw [List.replicate_succ]
    show Parked (getNode (run (step s (.promise p bn)).1 (List.replicate j (.promise p bn))) p) P ∧ _
    have e : k + (j + 1) = k + 1 + j := by omega
    rw [e]; exact this

theorem reach_leader (n q1 q2 : Nat) (flex : Bool) (p : Nat) (cs : List Nat) (hp : p < n) :
    ∃ (s : St) (nd : Node),
      run (init n q1 q2 flex) (cs.map (.submit p) ++ [.start p] ++ List.replicate (q1 - 1) (.promise p 1)) =
        setNode s p (becomeLeader s p nd).1 ∧
      s.nodes.length = n ∧ s.q2 = q2 ∧ Parked nd (cs.zipIdx 0) := by
  have arith : ¬ q1 ≤ 1 → q1 - 1 = (q1 - 2) + 1 ∧ 1 + (q1 - 2) < q1 ∧ 1 + (q1 - 2) + 1 ≥ q1 := by omega
  have hC : ∀ (s : St) (as : List Act), s.nodes.length = n ∧ s.n = n ∧ s.q1 = q1 ∧ s.q2 = q2 →
      (run s as).nodes.length = n ∧ (run s as).n = n ∧ (run s as).q1 = q1 ∧ (run s as).q2 = q2 := by
    intro s as h
    obtain ⟨h1, h2, h3, h4⟩ := run_cfg s as
    exact ⟨h1.trans h.1, h2.trans h.2.1, h3.trans h.2.2.1, h4.trans h.2.2.2⟩
  have cfgA := hC (init n q1 q2 flex) (cs.map (.submit p)) ⟨init_nodes_length n q1 q2 flex, rfl, rfl, rfl⟩
  have hnodeA : getNode (run (init n q1 q2 flex) (cs.map (.submit p))) p = { ballot := p, pending := cs.zipIdx 0 } := by
    rw [run_submits p cs _ (by rw [init_nodes_length]; exact hp) (by rw [init_node]), init_node]
    rfl
  rw [run_append, run_append]
  generalize run (init n q1 q2 flex) (cs.map (.submit p)) = sA at cfgA hnodeA ⊢
  obtain ⟨hlenA, hnA, hq1A, hq2A⟩ := cfgA
  have hPA : Parked (getNode sA p) (cs.zipIdx 0) := by rw [hnodeA]; exact ⟨rfl, rfl, rfl, rfl⟩
  by_cases hq : q1 ≤ 1
  · rw [Nat.sub_eq_zero_of_le hq]
    exact ⟨sA, _, start_alone_becomes_leader sA p (by rw [hq1A]; exact hq), hlenA, hq2A, hPA⟩
  · obtain ⟨hPB, hkB⟩ := start_waits sA p (by rw [hlenA]; exact hp) (by rw [hq1A]; exact hq) (by rw [hnA]; exact hp)
      (by rw [hnodeA]) (cs.zipIdx 0) hPA
    obtain ⟨hlenB, _, hq1B, _⟩ := hC sA [.start p] ⟨hlenA, hnA, hq1A, hq2A⟩
    obtain ⟨hPC, hkC⟩ := run_promises p 1 (cs.zipIdx 0) (q1 - 2) (run sA [.start p]) 1 (by rw [hlenB]; exact hp) hkB
      (by rw [hq1B]; exact (arith hq).2.1) hPB
    obtain ⟨hlenC, hnC, hq1C, hq2C⟩ := hC sA ([.start p] ++ List.replicate (q1 - 2) (.promise p 1)) ⟨hlenA, hnA, hq1A, hq2A⟩
    rw [run_append] at hlenC hnC hq1C hq2C
    rw [(arith hq).1, List.replicate_succ', run_append]
    exact ⟨_, _, promise_quorum_becomes_leader _ p 1 (1 + (q1 - 2)) hkC (by rw [hq1C]; exact (arith hq).2.2), hlenC, hq2C, hPC⟩

/-- End to end (`stable_leader_progress_full` of `MPProgress.lean`).  `cs` are submitted to node `p` of a fresh cluster,
    then its only `start()`, then the `q1 - 1` promises it needs; after any stable action sequence in which every
    slot gets its acknowledgements — in any order — all of `cs` are committed on `p` and the i-th `submit()`
    future is resolved with `(i + 1, cs[i])`. -/
theorem stable_leader_progress : stable_leader_progress_full := by
  intro n q1 q2 flex p cs as hp _ _ hall hacks
  obtain ⟨s, nd, hrun, hlen, hsq2, hP⟩ := reach_leader n q1 q2 flex p cs hp
  have hca := hP.caught
  obtain ⟨hpend, hlog, hcom, happ⟩ := hP
  have hps : p < s.nodes.length := by rw [hlen]; exact hp
  rw [run_append, hrun]
  have hlog0 : nd.log.length = 0 := by rw [hlog]; rfl
  have each : ∀ k, k < cs.length →
      k + 1 ≤ (getNode (run (setNode s p (becomeLeader s p nd).1) as) p).commit ∧
      (k, k + 1, cs.getD k 0) ∈ (run (setNode s p (becomeLeader s p nd).1) as).futRes := by
    intro k hk
    have hget : cs.getD k 0 = cs[k] := by simp [List.getD_eq_getElem?_getD, hk]
    have hp1 : nd.pending[k]? = some (cs[k], k) := by
      rw [hpend, List.getElem?_zipIdx]; simp [hk]
    obtain ⟨h0, hqq⟩ := hacks (k + 1) (by omega) (by omega)
    have := new_leader_commits_parked_commands s p nd as k cs[k] k hps hca hp1 hall
      (by rw [hlog0]; simpa using h0) (by rw [hlog0, hsq2]; simpa using hqq)
    rw [hlog0] at this
    rw [hget]
    simpa using this
  obtain ⟨hcb, hlb, _⟩ := becomeLeader_caught s p nd hca
  have hnode : getNode (setNode s p (becomeLeader s p nd).1) p = (becomeLeader s p nd).1 :=
    getNode_setNode_eq s p _ hps
  have hps' : p < (setNode s p (becomeLeader s p nd).1).nodes.length := by simp [setNode]; exact hps
  obtain ⟨hcend, hlend⟩ := stable_run_caught p as _ hps' hall (by rw [hnode]; exact hcb)
  refine ⟨?_, fun k hk => (each k hk).2⟩
  have hup : (getNode (run (setNode s p (becomeLeader s p nd).1) as) p).commit ≤ cs.length := by
    have := hcend.2
    rw [hlend, hnode, hlb, hlog0, hpend] at this
    simpa using this
  by_cases hz : cs.length = 0
  · omega
  · have := (each (cs.length - 1) (by omega)).1
    omega

end HappyModel.C12.MP
