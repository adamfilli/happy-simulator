import HappyModel.C19.StreamSpec
import HappyProofs.C19.Lists
/-!
`OkFrom`: consecutive offsets ending just below the high watermark, i.e. the run `hw - length … hw - 1`.  Retention keeps a
suffix of it; a read is the run from `max off lo` cut at the limit — hence consecutive, appended and of its partition.
-/
namespace HappyModel.C19

theorem nextOf_setNext (l : List (Nat × Nat)) (p v q : Nat) :
    nextOf (setNext l p v) q = if q = p then v else nextOf l q := by
  unfold nextOf setNext
  by_cases h : q = p
  · subst h; simp
  · have h1 : (q == p) = false := by simpa using h
    rw [List.lookup_cons, h1, lookup_filter_ne _ h, if_neg h]

/-- the record with `k` successors has offset `hw - (k + 1)` -/
def OkFrom (hw : Nat) : List SRec → Prop
  | [] => True
  | r :: rs => r.off + (rs.length + 1) = hw ∧ OkFrom hw rs

theorem OkFrom.bounds {hw : Nat} {l : List SRec} (h : OkFrom hw l) :
    ∀ r ∈ l, r.off < hw ∧ hw ≤ r.off + l.length := by
  induction l with
  | nil => intro r hr; cases hr
  | cons a rest ih =>
    intro r hr
    obtain ⟨h1, h2⟩ := h
    rcases List.mem_cons.mp hr with rfl | hm
    · simp only [List.length_cons]; omega
    · have := ih h2 r hm; simp only [List.length_cons]; omega

theorem OkFrom.drop {hw : Nat} {l : List SRec} (h : OkFrom hw l) (k : Nat) :
    OkFrom hw (l.drop k) := by
  induction l generalizing k with
  | nil => rw [List.drop_nil]; exact h
  | cons a rest ih =>
    cases k with
    | zero => exact h
    | succ k => exact ih h.2 k

theorem OkFrom.snoc {hw : Nat} {l : List SRec} (h : OkFrom hw l) (key t : Nat) :
    OkFrom (hw + 1) (l ++ [⟨hw, key, t⟩]) := by
  induction l with
  | nil => exact ⟨rfl, trivial⟩
  | cons a rest ih =>
    obtain ⟨h1, h2⟩ := h
    refine ⟨?_, ih h2⟩
    show a.off + ((rest ++ [(⟨hw, key, t⟩ : SRec)]).length + 1) = hw + 1
    rw [List.length_append]; simp only [List.length_cons, List.length_nil]; omega

theorem OkFrom.pairwise {hw : Nat} {l : List SRec} (h : OkFrom hw l) :
    l.Pairwise (fun a b => a.off < b.off) := by
  induction l with
  | nil => exact List.Pairwise.nil
  | cons a rest ih =>
    obtain ⟨h1, h2⟩ := h
    refine List.pairwise_cons.mpr ⟨?_, ih h2⟩
    intro b hb
    have := h2.bounds b hb
    omega

/-- an upward-closed filter keeps a suffix, and fails on everything it drops -/
theorem filter_eq_drop {α : Type} (P : α → Bool) (l : List α)
    (h : l.Pairwise (fun a b => P a = true → P b = true)) :
    ∃ k, k ≤ l.length ∧ l.filter P = l.drop k ∧ ∀ x ∈ l.take k, P x = false := by
  induction l with
  | nil => exact ⟨0, Nat.le_refl _, rfl, by simp⟩
  | cons a rest ih =>
    obtain ⟨h1, h2⟩ := List.pairwise_cons.mp h
    by_cases ha : P a = true
    · refine ⟨0, Nat.zero_le _, ?_, by simp⟩
      rw [List.drop_zero, List.filter_eq_self]
      intro b hb
      rcases List.mem_cons.mp hb with rfl | hm
      · exact ha
      · exact h1 b hm ha
    · obtain ⟨k, hk, e, hpre⟩ := ih h2
      refine ⟨k + 1, Nat.succ_le_succ hk, by rw [List.filter_cons_of_neg ha, List.drop_succ_cons, e], ?_⟩
      intro x hx
      rcases List.mem_cons.mp hx with rfl | hm
      · simpa using ha
      · exact hpre x hm

theorem age_suffix (t ns : Nat) (l : List SRec) (h : l.Pairwise (fun a b => a.ts ≤ b.ts)) :
    ∃ k, k ≤ l.length ∧ retainPart (.age ns) t l = l.drop k ∧ ∀ r ∈ l.take k, decide (t - r.ts < ns) = false :=
  filter_eq_drop (fun r : SRec => decide (t - r.ts < ns)) l (h.imp fun hab => by
    simp only [decide_eq_true_eq]
    exact Nat.lt_of_le_of_lt (Nat.sub_le_sub_left hab t))

theorem retainPart_eq_drop (ret : Retention) (t : Nat) (l : List SRec)
    (h : l.Pairwise (fun a b => a.ts ≤ b.ts)) : ∃ k, retainPart ret t l = l.drop k := by
  cases ret with
  | none => exact ⟨0, rfl⟩
  | size n => exact ⟨_, rfl⟩
  | age ns =>
    obtain ⟨k, _, e, _⟩ := age_suffix t ns l h
    exact ⟨k, e⟩

theorem consecutive_append (a b : List (Nat × Nat)) (ha : consecutive a = true)
    (hb : consecutive b = true) (hd : ∀ x ∈ a, ∀ y ∈ b, x.1 ≠ y.1) :
    consecutive (a ++ b) = true := by
  induction a with
  | nil => exact hb
  | cons x a' ih =>
    cases a' with
    | nil =>
      cases b with
      | nil => rfl
      | cons y b' =>
        simp only [List.cons_append, List.nil_append, consecutive, Bool.and_eq_true,
          Bool.or_eq_true, bne_iff_ne]
        exact ⟨Or.inl (hd x (List.mem_cons_self ..) y (List.mem_cons_self ..)), hb⟩
    | cons x' a'' =>
      simp only [List.cons_append, consecutive, Bool.and_eq_true] at ha ⊢
      exact ⟨ha.1, ih ha.2 (fun u hu => hd u (List.mem_cons_of_mem _ hu))⟩

theorem OkFrom.length_le {hw : Nat} {l : List SRec} (h : OkFrom hw l) : l.length ≤ hw := by
  cases l with
  | nil => exact Nat.zero_le _
  | cons a rest => have := h.1; simp only [List.length_cons]; omega

theorem OkFrom.map_off {hw : Nat} {l : List SRec} (h : OkFrom hw l) :
    l.map (·.off) = List.range' (hw - l.length) l.length := by
  induction l with
  | nil => rfl
  | cons a rest ih =>
    obtain ⟨h1, h2⟩ := h
    have hl := h2.length_le
    rw [List.map_cons, ih h2, List.length_cons, List.range'_succ]
    have e1 : a.off = hw - (rest.length + 1) := by omega
    have e2 : hw - (rest.length + 1) + 1 = hw - rest.length := by omega
    rw [e1, e2]

theorem filter_range'_ge (a k off : Nat) :
    (List.range' a k).filter (fun x => decide (off ≤ x)) = List.range' (max off a) (a + k - max off a) := by
  induction k generalizing a with
  | zero =>
    have : a + 0 - max off a = 0 := by omega
    rw [this]; rfl
  | succ k ih =>
    rw [List.range'_succ]
    by_cases h : off ≤ a
    · rw [List.filter_cons_of_pos (by simpa using h), ih]
      have e1 : max off (a + 1) = a + 1 := by omega
      have e2 : max off a = a := by omega
      rw [e1, e2]
      have e3 : a + 1 + k - (a + 1) = k := by omega
      have e4 : a + (k + 1) - a = k + 1 := by omega
      rw [e3, e4, List.range'_succ]
    · rw [List.filter_cons_of_neg (by simpa using h), ih]
      have e1 : max off (a + 1) = max off a := by omega
      rw [e1]
      have e2 : a + 1 + k = a + (k + 1) := by omega
      rw [e2]

theorem take_range' (a k m : Nat) : (List.range' a k).take m = List.range' a (min m k) := by
  induction k generalizing a m with
  | zero => rw [Nat.min_zero]; simp
  | succ k ih =>
    cases m with
    | zero => rw [Nat.zero_min]; simp
    | succ m =>
      rw [List.range'_succ, List.take_succ_cons, ih]
      have : min (m + 1) (k + 1) = min m k + 1 := by omega
      rw [this, List.range'_succ]

theorem read_offsets {hw : Nat} {l : List SRec} (h : OkFrom hw l) (off m : Nat) :
    ((l.filter (fun r => decide (off ≤ r.off))).take m).map (·.off) =
      List.range' (max off (hw - l.length)) (min m (hw - max off (hw - l.length))) := by
  have hf : l.filter (fun r => decide (off ≤ r.off)) =
      l.filter ((fun x => decide (off ≤ x)) ∘ (fun r : SRec => r.off)) := rfl
  rw [List.map_take, hf, ← List.filter_map, h.map_off, filter_range'_ge, take_range']
  have hl := h.length_le
  have : hw - l.length + l.length = hw := by omega
  rw [this]

theorem consecutive_range' (p : Nat) : ∀ k a, consecutive ((List.range' a k).map fun o => (p, o)) = true
  | 0, _ => rfl
  | 1, _ => rfl
  | k + 2, a => by
    have := consecutive_range' p (k + 1) (a + 1)
    simp only [List.range'_succ, List.map_cons] at this ⊢
    simp [consecutive, this]

/-- `m = 0` still returns one record: `_do_read` tests the bound after appending -/
theorem readPart_range (cfg : SCfg) (s : Stream) (p off m : Nat) (hp : p < cfg.n) (h : OkFrom (s.hwOf p) (s.part p)) :
    s.readPart cfg p off m = (List.range' (max off (s.hwOf p - (s.part p).length))
      (min (if m = 0 then 1 else m) (s.hwOf p - max off (s.hwOf p - (s.part p).length)))).map fun o => (p, o) := by
  unfold Stream.readPart
  rw [if_pos hp, ← read_offsets h, List.map_map]
  rfl

theorem readPart_consecutive (cfg : SCfg) (s : Stream) (p off max : Nat)
    (h : p < cfg.n → OkFrom (s.hwOf p) (s.part p)) :
    consecutive (s.readPart cfg p off max) = true := by
  by_cases hp : p < cfg.n
  · rw [readPart_range cfg s p off max hp (h hp)]; exact consecutive_range' p _ _
  · simp [Stream.readPart, hp, consecutive]

theorem readPart_mem (cfg : SCfg) (s : Stream) (p off max : Nat)
    (h : p < cfg.n → OkFrom (s.hwOf p) (s.part p)) :
    ∀ po ∈ s.readPart cfg p off max, po.1 = p ∧ p < cfg.n ∧ off ≤ po.2 ∧ po.2 < s.hwOf p := by
  by_cases hp : p < cfg.n
  · rw [readPart_range cfg s p off max hp (h hp)]
    intro po hpo
    obtain ⟨o, ho, rfl⟩ := List.mem_map.mp hpo
    obtain ⟨h1, h2⟩ := List.mem_range'_1.mp ho
    have h3 := Nat.lt_of_lt_of_le h2 (Nat.add_le_add_left (Nat.min_le_right ..) _)
    exact ⟨rfl, hp, Nat.le_trans (Nat.le_max_left ..) h1, by generalize Nat.max off _ = a at h1 h3; omega⟩
  · simp [Stream.readPart, hp]

theorem pollGo_ok (cfg : SCfg) (s : Stream) (c max : Nat)
    (hok : ∀ p, p < cfg.n → OkFrom (s.hwOf p) (s.part p)) (ps : List Nat) (acc : List (Nat × Nat))
    (hnd : ps.Nodup) (hc : consecutive acc = true) (hd : ∀ x ∈ acc, x.1 ∉ ps)
    (hq : ∀ x ∈ acc, x.1 < cfg.n ∧ x.2 < s.hwOf x.1) :
    consecutive (Stream.pollGo cfg s c max ps acc) = true ∧
      ∀ x ∈ Stream.pollGo cfg s c max ps acc, x.1 < cfg.n ∧ x.2 < s.hwOf x.1 := by
  induction ps generalizing acc with
  | nil => exact ⟨hc, hq⟩
  | cons p ps ih =>
    simp only [Stream.pollGo]
    split
    · exact ⟨hc, hq⟩
    · obtain ⟨hp, hnd'⟩ := List.nodup_cons.mp hnd
      have hm := readPart_mem cfg s p (s.committedOf c p) (max - acc.length) (hok p)
      apply ih _ hnd'
      · refine consecutive_append _ _ hc (readPart_consecutive _ _ _ _ _ (hok p)) ?_
        intro x hx y hy e
        exact hd x hx (by rw [e, (hm y hy).1]; exact List.mem_cons_self ..)
      · intro x hx
        rcases List.mem_append.mp hx with h | h
        · exact fun hmem => hd x h (List.mem_cons_of_mem _ hmem)
        · rw [(hm x h).1]; exact hp
      · intro x hx
        rcases List.mem_append.mp hx with h | h
        · exact hq x h
        · obtain ⟨h1, h2, _, h4⟩ := hm x h
          rw [h1]; exact ⟨h2, h4⟩

end HappyModel.C19
