import HappyProofs.C06.WindowInv
/-! From the invariant to the effective settings: what the system reads equals `base ⊕ active`. -/
namespace HappyModel.C06

theorem layerSum_cons (l : Layer) (ls : List Layer) (a b : Nat) :
    layerSum (l :: ls) a b = (if (l.a == a && l.b == b) = true then l.x else 0) + layerSum ls a b := by
  unfold layerSum
  by_cases h : (l.a == a && l.b == b) = true <;> simp [h]

theorem latC_of_layer (fs : List Fault) (x a b : Nat) :
    latC fs x a b = match latLayer fs x with
      | some l => if (l.a == a && l.b == b) = true then l.x else 0
      | none => 0 := by
  unfold latC latLayer
  cases hk : kindOf fs x with
  | none => rfl
  | some k => cases k <;> simp

theorem lossC_of_layer (fs : List Fault) (x a b : Nat) :
    lossC fs x a b = match lossLayer fs x with
      | some l => if (l.a == a && l.b == b) = true then l.x else 0
      | none => 0 := by
  unfold lossC lossLayer
  cases hk : kindOf fs x with
  | none => rfl
  | some k => cases k <;> simp

theorem layerSum_filterMap (L : Nat → Option Layer) (g : Nat → Nat) (a b : Nat)
    (hg : ∀ x, g x = match L x with
      | some l => if (l.a == a && l.b == b) = true then l.x else 0
      | none => 0) : ∀ act : List Nat, layerSum (act.filterMap L) a b = sumOver act g
  | [] => rfl
  | x :: xs => by
    rw [sumOver_cons, hg, List.filterMap_cons, ← layerSum_filterMap L g a b hg xs]
    cases L x with
    | none => exact (Nat.zero_add _).symm
    | some l => exact layerSum_cons ..

theorem capNum_of_layer (fs : List Fault) (x : Nat) :
    capNum fs x = match capLayer fs x with | some l => l.num | none => 1 := by
  unfold capNum capLayer
  cases hk : kindOf fs x with
  | none => rfl
  | some k => cases k <;> rfl

theorem capDen_of_layer (fs : List Fault) (x : Nat) :
    capDen fs x = match capLayer fs x with | some l => l.den | none => 1 := by
  unfold capDen capLayer
  cases hk : kindOf fs x with
  | none => rfl
  | some k => cases k <;> rfl

theorem prod_filterMap (L : Nat → Option Factor) (proj : Factor → Nat) (g : Nat → Nat)
    (hg : ∀ x, g x = match L x with | some l => proj l | none => 1) : ∀ act : List Nat,
    ((act.filterMap L).map proj).foldr (· * ·) 1 = prodOver act g
  | [] => rfl
  | x :: xs => by
    show _ = g x * prodOver xs g
    rw [hg, List.filterMap_cons, ← prod_filterMap L proj g hg xs]
    cases L x with
    | none => exact (Nat.one_mul _).symm
    | some l => rfl

structure Effects (c : Case) (w : WS) (act : List Nat) : Prop where
  down : ∀ e, w.down e = decide (0 < specDown c.faults act e)
  blocked : ∀ a b, w.blocked a b = specBlocked c.faults act a b
  lat : ∀ a b, w.latOf (c.baseLat a b) a b = specLat c act a b
  loss : ∀ a b, w.lossOf (c.baseLoss a b) a b = specLoss c act a b
  cap : w.capOf c.cap = specCap c act
  /-- `cap` for whatever capacity `base` the model has configured (`St.base`) -/
  capB : ∀ base, w.capOf base = specCapB c base act

theorem effects_of_inv (c : Case) (w : WS) (act : List Nat) (h : WInv c.faults w act) :
    Effects c w act := by
  have capB : ∀ base, w.capOf base = specCapB c base act := fun base => by
    simp [WS.capOf, specCapB, h.capf, prod_filterMap _ _ _ (capNum_of_layer c.faults),
      prod_filterMap _ _ _ (capDen_of_layer c.faults)]
  refine ⟨fun e => ?_, fun a b => ?_, fun a b => ?_, fun a b => ?_, capB c.cap, capB⟩
  · unfold WS.down specDown; rw [h.depth e]
  · simp [WS.blocked, specBlocked, h.bi a b, h.dir a b]
  · simp [WS.latOf, specLat, h.lat, layerSum_filterMap _ _ a b (latC_of_layer c.faults · a b)]
  · simp [WS.lossOf, specLoss, h.loss, layerSum_filterMap _ _ a b (lossC_of_layer c.faults · a b)]

theorem sumOver_pos_iff (g : Nat → Nat) : ∀ act : List Nat, 0 < sumOver act g ↔ ∃ f ∈ act, 0 < g f
  | [] => by simp [sumOver]
  | x :: xs => by
    simp only [sumOver_cons, List.mem_cons, exists_eq_or_imp, ← sumOver_pos_iff g xs]; omega

theorem specBlocked_iff (fs : List Fault) (act : List Nat) (a b : Nat) :
    specBlocked fs act a b = true ↔ ∃ f ∈ act, covers fs f a b := by
  simp only [specBlocked, covers, decide_eq_true_eq, Nat.add_pos_iff_pos_or_pos, sumOver_pos_iff,
    and_or_left, exists_or]

theorem specDown_pos_iff (fs : List Fault) (act : List Nat) (e : Nat) :
    0 < specDown fs act e ↔ ∃ f ∈ act, 0 < downC fs f e :=
  sumOver_pos_iff _ act

end HappyModel.C06
