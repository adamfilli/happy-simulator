import HappyModel.C14.Store
import HappyProofs.C14.BTreeMain
/-! A B-tree satisfying the search-tree invariant and a KVStore, whose dict is modelled as a strictly sorted association
    list, are one abstract store (`SOk`): every data operation of `Store` is the corresponding operation on `s.contents`. -/
namespace HappyModel.C14.SM
open HappyModel.C14 HappyModel.C14.BT

def Store.contents : Store → KV
  | .bt t => t.toList
  | .kv d => d
  | .lsm _ _ => []

def SOk (s : Store) : Prop :=
  (∃ t order, s = .bt t ∧ 3 ≤ order ∧ TreeInv order t) ∨ (∃ d, s = .kv d ∧ SortedKV d)

theorem sok_bt (order : Nat) (h : 3 ≤ order) : SOk (.bt { order := order }) :=
  Or.inl ⟨_, order, rfl, h, treeInv_empty order⟩

theorem sok_kv_nil : SOk (.kv []) := Or.inr ⟨[], rfl, sorted_nil⟩

theorem sok_sorted {s : Store} (h : SOk s) : SortedKV s.contents := by
  rcases h with ⟨t, order, rfl, _, ht⟩ | ⟨d, rfl, hd⟩
  · exact toList_sorted order t ht
  · exact hd

theorem sok_get {s : Store} (h : SOk s) (k : Key) : s.getSync k = s.contents.lookup k := by
  rcases h with ⟨t, order, rfl, _, ht⟩ | ⟨d, rfl, hd⟩
  · show t.get k = t.toList.lookup k
    rw [get_eq order t ht k, leafGet_eq_lookup k _ (toList_sorted order t ht)]
  · rfl

theorem sok_put {s : Store} (h : SOk s) (k : Key) (v : Nat) :
    SOk (s.putSync k v) ∧ (s.putSync k v).contents = upsert k v s.contents := by
  rcases h with ⟨t, order, rfl, ho, ht⟩ | ⟨d, rfl, hd⟩
  · obtain ⟨h1, h2⟩ := put_spec order ho t ht k v
    exact ⟨Or.inl ⟨_, order, rfl, ho, h1⟩, h2⟩
  · exact ⟨Or.inr ⟨_, rfl, map_sorted_upsert k v d hd⟩, rfl⟩

theorem sok_del {s : Store} (h : SOk s) (k : Key) :
    SOk (s.del k).1 ∧ (s.del k).1.contents = eraseKey k s.contents ∧ (s.del k).2 = (s.contents.lookup k).isSome := by
  rcases h with ⟨t, order, rfl, ho, ht⟩ | ⟨d, rfl, hd⟩
  · obtain ⟨h1, h2, h3⟩ := del_spec order t ht k
    refine ⟨Or.inl ⟨_, order, rfl, ho, h1⟩, h2, ?_⟩
    show (t.del k).2 = (t.toList.lookup k).isSome
    rw [h3, leafGet_eq_lookup k _ (toList_sorted order t ht)]
  · exact ⟨Or.inr ⟨_, rfl, map_sorted_erase k d hd⟩, rfl, rfl⟩

theorem sok_scan {s : Store} (h : SOk s) (lo hi : Key) : s.scan lo hi = BT.inRange lo hi s.contents := by
  rcases h with ⟨t, order, rfl, _, ht⟩ | ⟨d, rfl, _⟩
  · obtain ⟨b, hb⟩ := ht.inv
    exact scanN_spec lo hi t.depth 0 b t.root hb
  · rfl

theorem sok_size {s : Store} (h : SOk s) : s.size = s.contents.length := by
  rcases h with ⟨t, order, rfl, _, ht⟩ | ⟨d, rfl, _⟩
  · exact ht.size
  · rfl

theorem sok_nolsm {s : Store} (h : SOk s) (op : SOp) : lsmStart s op = none := by
  rcases h with ⟨t, order, rfl, _, _⟩ | ⟨d, rfl, _⟩ <;> cases op <;> rfl

/-- the map laws the transaction theorems ask of a store -/
theorem sok_laws :
    (∀ s k v, SOk s → SOk (s.putSync k v)) ∧
    (∀ s k v k', SOk s → (s.putSync k v).getSync k' = if k' = k then some v else s.getSync k') := by
  refine ⟨fun s k v h => (sok_put h k v).1, fun s k v k' h => ?_⟩
  rw [sok_get (sok_put h k v).1, (sok_put h k v).2, sok_get h, map_lookup_upsert _ (sok_sorted h)]

theorem lookup_inRange (lo hi : Key) (k : Key) (m : KV) :
    (BT.inRange lo hi m).lookup k = if lo ≤ k ∧ k < hi then m.lookup k else none := lookup_filter_range lo hi k m

theorem sorted_inRange (lo hi : Key) (m : KV) (h : SortedKV m) : SortedKV (BT.inRange lo hi m) := by
  unfold SortedKV BT.inRange at *
  exact (List.pairwise_map.mpr ((List.pairwise_map.mp h).filter _))

end HappyModel.C14.SM
