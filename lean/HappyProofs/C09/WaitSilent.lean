import HappyProofs.C09.WaitStep
import HappyProofs.C02.ProcessProps
/-! The sync primitives (`components/sync/{mutex,semaphore,rwlock,barrier,condition}.py` after
`fixes/C09-sync-spin-wait.diff`) and `Resource.acquire` block an acquirer by parking its generator on a `SimFuture`
(`wake = SimFuture(); waiters.append(wake.resolve …); while not acquired: yield wake`); `release()` pops the head waiter and
resolves its future inside the releaser's own handler invocation.  On the engine + process layer of C01/C02 (`procMachine`)
that is: the waiter is a process `pid` with `(futGet s.ent.futs f).parked = some pid`, the release is an `Act.resolve f v`
in a segment of another process.  The theorems are about that layer and hold for every handler table and every reachable
state (`ProcInv`, which holds along every run: `one_pending_continuation`).

Not proved: that each call id in `Out.woke` of the operation-level models (`HappyModel/C09/Sync.lean`, `Resource.lean`)
is a `resolve` of the future that call parked on.  That is how the primitives are written (the queued callback *is*
`wake.resolve`), and it is tied to the implementation by the differential check (`got` lines, `*/wait/not-silent`,
`*/wait/resumed-late`, `*/wait/clock-stuck`), not by a Lean refinement. -/
namespace HappyModel.C09
open HappyModel.C01 HappyModel.C09.WaitSilent

/-- **C09, waiting consumes no simulated activity, so the clock advances to the release.**  Let `s` be any reachable state of the engine + process layer (any handler
    table) in which process `pid` is parked on future `f` (a blocked acquirer).  Then

    (a) `f` is unresolved and the heap holds no event of `pid`;

    (b) for every pending event `m`, the loop iteration that pops `m`
        * delivers nothing to `pid` (`m` is not an event of `pid`; `Quiet`: deliveries, pops and
          `resume` log entries of `pid` unchanged),
        * ends with `pid` still blocked on `f`, or with `pid` woken in this iteration — `m`'s handler
          ran, `now = m.time`, exactly one event of `pid` pending, created in this iteration and stamped
          `m.time` — or with the wake-up lost because slot `f` was overwritten,
        * and if the code run by `m` leaves slot `f` alone, ends blocked or woken *by the resolution of
          `f`*: `f` resolved, nobody parked on it, its value stored as the value to send to `pid`;

    (c) for every end time and number of iterations the run from `s` is a `SilentRun`: either `pid` is
        blocked in every state so far and nothing was delivered to it, or there is a first iteration
        that ends the wait, nothing was delivered to `pid` up to and including it, and it wakes `pid` — the
        continuation stamped with its own clock value: the clock has advanced to the release — or loses the
        wake-up; lost is excluded, and the wake-up is the resolution of `f`, if the code it runs leaves slot `f` alone. -/
theorem wait_is_silent (s : St PS) (inv : ProcInv s) (f pid : Nat)
    (hpk : (futGet s.ent.futs f).parked = some pid) :
    Blocked f pid s ∧
    (∀ m ∈ s.heap,
      m.data ≠ pid + 1 ∧
      Quiet pid s (stepWith procMachine s m) ∧
      (Blocked f pid (stepWith procMachine s m) ∨ Woken pid m (stepWith procMachine s m) ∨
        Lost pid (stepWith procMachine s m)) ∧
      (stepKeeps f s.ent m = true →
        Blocked f pid (stepWith procMachine s m) ∨
        (Woken pid m (stepWith procMachine s m) ∧ WokenBy f pid (stepWith procMachine s m)))) ∧
    (∀ endT n, SilentRun endT f pid s n) :=
  ⟨blocked_of_parked s inv f pid hpk, fun m hm => wait_step s inv f pid hpk m hm,
    fun endT n => wait_run endT n s inv f pid hpk⟩

/-- at any point of any run of any program with a plain pre-run schedule: clauses (a) and (c) of `wait_is_silent` as
    they stand, of clause (b) only that no pending event is one of `pid` and that popping it delivers nothing to `pid`
    (what one iteration turns the wait into — still blocked, woken, lost — is `wait_is_silent` at that state, whose
    `ProcInv` is `one_pending_continuation_program`) -/
theorem wait_is_silent_program (p : Program) (gateCont : Bool) (hp : p.Plain) (endT0 : Option Nat) (n0 : Nat)
    (f pid : Nat)
    (hpk : (futGet (run procMachine endT0 n0 (p.initState gateCont)).ent.futs f).parked = some pid) :
    Blocked f pid (run procMachine endT0 n0 (p.initState gateCont)) ∧
    (∀ m ∈ (run procMachine endT0 n0 (p.initState gateCont)).heap,
      m.data ≠ pid + 1 ∧
      Quiet pid (run procMachine endT0 n0 (p.initState gateCont))
        (stepWith procMachine (run procMachine endT0 n0 (p.initState gateCont)) m)) ∧
    (∀ endT n, SilentRun endT f pid (run procMachine endT0 n0 (p.initState gateCont)) n) := by
  have inv := one_pending_continuation_program p gateCont hp endT0 n0
  obtain ⟨a, b, c⟩ := wait_is_silent _ inv f pid hpk
  exact ⟨a, fun m hm => ⟨(b m hm).1, (b m hm).2.1⟩, c⟩

/-- **the waiter resumes at the clock value of the release.**  If `pid` was woken by the iteration that
    delivered `m` (state `s'`), then its continuation `c` carries `m.time`; and whenever `c` is later
    delivered (from any state `s''`; C01: at exactly its time stamp), the clock is `m.time` and — the
    process having been started and having code left — the log gets `resume m.time pid v tag`, `v` the
    value stored for it -/
theorem wait_resumes_at_release_time (pid : Nat) (m : Ev) (s' : St PS) (hw : Woken pid m s')
    (c : Ev) (hc : c ∈ s'.heap) (hd : c.data = pid + 1)
    (s'' : St PS) (p : Proc) (hnc : s''.cancelled.contains c.id = false) (hns : ¬ c.time < s''.now)
    (hng : procCrashed s''.ent c = false) (hp : s''.ent.procs[pid]? = some p) (hst : p.started = true)
    (hsg : p.segs ≠ []) :
    (stepWith procMachine s'' c).now = m.time ∧
    Obs.resume m.time pid p.send c.tag ∈ (stepWith procMachine s'' c).ent.obs := by
  have ht := (hw.stamped c hc hd).1
  have := resume_at_stamp s'' c pid p hd hnc hns hng hp hst hsg
  rw [ht] at this
  exact this

/-! The Mutex scenario of DESIGN §9-7.  Two workers on one mutex plus a bystander.  Entity 0 (the holder) acquires the free mutex at `t = 0`
(no wait), holds it for `d = 1000` (`yield d`) and releases: the release hands the mutex to the head
waiter by resolving its wake-up future (`resolve 0 1`).  Entity 1 (the waiter) arrives at `t = 500`,
finds the mutex held, creates its wake-up future (`fresh 0`) and parks on it (`yield wake`); once
resumed it holds the mutex for 10 and finishes.  Entity 2 is unrelated traffic at `t = 600` and
`t = 800`.  (The unrepaired primitives spin with `yield 0.0`: the clock never leaves `t = 500`.) -/

def mutexProg : Program :=
  { defs := [⟨0, 1, true, [⟨[], .yieldD 1000⟩, ⟨[.resolve 0 1], .ret⟩]⟩,
             ⟨1, 2, true, [⟨[.fresh 0], .yieldF 0⟩, ⟨[], .yieldD 10⟩, ⟨[], .ret⟩]⟩,
             ⟨2, 3, false, [⟨[], .ret⟩]⟩],
    pre := [(⟨0, 0, 1, false, 0, 1⟩, 0, false), (⟨500, 1, 2, false, 0, 2⟩, 0, false),
            (⟨600, 2, 3, false, 0, 3⟩, 0, false), (⟨800, 2, 3, false, 0, 4⟩, 0, false)] }

def mutexAt (n : Nat) : St PS := run procMachine none n (mutexProg.initState false)

/-- clock values at which `pid` was resumed, newest first -/
def resTimes (l : List Obs) (pid : Nat) : List Nat :=
  l.filterMap (fun o => match o with
    | .resume t q _ _ => if q = pid then some t else none
    | _ => none)

theorem mutexProg_plain : mutexProg.Plain := by unfold Program.Plain; decide +kernel
example : InitOk (mutexProg.initState false) := initState_ok _ _ mutexProg_plain

-- after the waiter's first segment (iteration 2, t = 500) it is process 1, parked on the unresolved
-- future 0, and no event of it is pending (pending: the two bystander events and the holder's
-- continuation at t = 1000, `data = 0 + 1`)
example : (mutexAt 2).now = 500 ∧ (futGet (mutexAt 2).ent.futs 0).parked = some 1 ∧
    (futGet (mutexAt 2).ent.futs 0).resolved = false ∧
    (mutexAt 2).heap.map (fun e => (e.time, e.data)) = [(600, 0), (800, 0), (1000, 1)] := by decide +kernel

-- while it is blocked the run goes on — the clock advances to 600 and 800, it is not stuck at the park
-- time — and nothing is delivered to the waiter: no resumption logged, still parked, no event of it
example : (mutexAt 3).now = 600 ∧ (mutexAt 4).now = 800 ∧
    (futGet (mutexAt 3).ent.futs 0).parked = some 1 ∧ (futGet (mutexAt 4).ent.futs 0).parked = some 1 ∧
    cntHeap (mutexAt 3).heap 1 = 0 ∧ cntHeap (mutexAt 4).heap 1 = 0 ∧
    resTimes (mutexAt 4).ent.obs 1 = [] ∧ cntHeap (mutexAt 4).log 1 = 0 := by decide +kernel

-- iteration 5 is the holder's release step (t = 1000): future 0 is resolved, nobody is parked on it,
-- and exactly one event of the waiter is pending — its continuation, created at and stamped with the
-- release time 1000 (park time was 500), the resolved value 1 stored for it; still nothing delivered
example : (mutexAt 5).now = 1000 ∧ (futGet (mutexAt 5).ent.futs 0).resolved = true ∧
    (futGet (mutexAt 5).ent.futs 0).parked = none ∧
    (mutexAt 5).heap.map (fun e => (e.time, e.born, e.data)) = [(1000, 1000, 2)] ∧
    ((mutexAt 5).ent.procs[1]?).map (fun q => match q.send with | .n v => v | _ => 0) = some 1 ∧
    resTimes (mutexAt 5).ent.obs 1 = [] ∧ cntHeap (mutexAt 5).log 1 = 0 := by decide +kernel

-- iteration 6 delivers that continuation: the waiter's single resumption is logged at the release
-- time 1000, the clock is 1000; at the end of the run it has been resumed twice in all (after the
-- release at 1000 and after its own hold at 1010) and everybody has finished
example : (mutexAt 6).now = 1000 ∧ resTimes (mutexAt 6).ent.obs 1 = [1000] ∧ cntHeap (mutexAt 6).log 1 = 1 := by
  decide +kernel
example : resTimes (mutexAt 8).ent.obs 1 = [1010, 1000] ∧
    (mutexAt 8).ent.procs.map (·.done) = [true, true, true, true] ∧ (mutexAt 8).heap.length = 0 := by decide +kernel

-- the code run while the waiter is blocked (iterations 3, 4, 5) leaves its wake-up slot alone
example : (∀ m ∈ (mutexAt 2).heap, stepKeeps 0 (mutexAt 2).ent m = true) ∧
    (∀ m ∈ (mutexAt 3).heap, stepKeeps 0 (mutexAt 3).ent m = true) ∧
    (∀ m ∈ (mutexAt 4).heap, stepKeeps 0 (mutexAt 4).ent m = true) := by decide +kernel

-- the theorems apply to the blocked state, and on this run the wait is ended (the first alternative of
-- `SilentRun` fails after three more iterations: the waiter is no longer parked)
example : ProcInv (mutexAt 2) := one_pending_continuation_program mutexProg false mutexProg_plain none 2
example : SilentRun none 0 1 (mutexAt 2) 3 :=
  (wait_is_silent (mutexAt 2) (one_pending_continuation_program mutexProg false mutexProg_plain none 2) 0 1
    (by decide)).2.2 none 3
example : ¬ Blocked 0 1 (run procMachine none 3 (mutexAt 2)) := by
  intro h
  have := h.parked
  revert this
  decide +kernel

/-! The unrepaired primitives: `while self._locked: yield 0.0` — the blocked acquirer polls with zero-delay yields (four polls shown;
the loop is unbounded).  Every poll is a delivery to the waiter at the park time: the waiter is never
parked, so `wait_is_silent` has no instance, and the clock does not leave `t = 500` while it spins. -/

def spinProg : Program :=
  { mutexProg with
    defs := [⟨0, 1, true, [⟨[], .yieldD 1000⟩, ⟨[], .ret⟩]⟩,
             ⟨1, 2, true, [⟨[], .yieldD 0⟩, ⟨[], .yieldD 0⟩, ⟨[], .yieldD 0⟩, ⟨[], .yieldD 0⟩, ⟨[], .ret⟩]⟩,
             ⟨2, 3, false, [⟨[], .ret⟩]⟩] }

example :
    let s := run procMachine none 6 (spinProg.initState false)
    s.now = 500 ∧ cntHeap s.log 1 = 4 ∧ resTimes s.ent.obs 1 = [500, 500, 500, 500] ∧
    (∀ f, f < 2 → (futGet s.ent.futs f).parked = none) := by decide +kernel

end HappyModel.C09
