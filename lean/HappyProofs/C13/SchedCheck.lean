import HappyModel.C13.Driver
import HappyProofs.C13.Sched
namespace HappyModel.C13
variable {D : Type} [Inhabited D] [Detector D]

/-- `dueOk` is what the correspondence driver checks on every replayed schedule of the real engine: before each
    action it lists the probe ticks and timers of live nodes that are overdue (`Driver.overdue`; any such line is a
    model/implementation disagreement).  No `overdue` line means `dueOk` for every live node. -/
theorem overdue_nil_dueOk (c : Cfg) (s : Sys D) (t a : Nat) (ha : a < c.n)
    (hl : s.isCrashed a = false) (h : Driver.overdue c.n s t = []) : dueOk c s a t = true := by
  unfold Driver.overdue at h
  rw [List.flatMap_eq_nil_iff] at h
  have h1 := h a (by simpa using ha)
  simp only [hl, Bool.false_eq_true, if_false, List.append_eq_nil_iff] at h1
  obtain ⟨h2, h3⟩ := h1
  unfold dueOk
  simp only [Bool.and_eq_true, decide_eq_true_eq, List.all_eq_true, List.mem_range]
  refine ⟨?_, fun x hx => ?_⟩
  · by_cases hlt : (s.node a).nextTick < t
    · simp [hlt] at h2
    · omega
  · rw [List.filterMap_eq_nil_iff] at h3
    have h4 := h3 x (by simpa using hx)
    cases hp : (s.node a).pendOf x with
    | none => rfl
    | some tm =>
      rw [hp] at h4
      simp only [decide_eq_true_eq]
      by_cases hlt : tm.fire < t
      · simp [hlt] at h4
      · omega

end HappyModel.C13
