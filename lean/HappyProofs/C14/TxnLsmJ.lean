import HappyProofs.C14.TxnLMach
import HappyProofs.C14.TxnLsmGet
/-!
# The read laws of `Store.lsm`

The `get` of the LSM tree reads over several segments while other transactions commit.  A read of a
SNAPSHOT_ISOLATION / SERIALIZABLE transaction in progress at `p` satisfies `RdL`: every cell the generator may still
return (`SGetAl`) is as good as the current value for the reader's snapshot (`SV`).  `lsm_reads`: with that the store
obeys the read laws (`ReadLaws`, `TxnLMach.lean`) for every level but READ_COMMITTED.  `LJ` / `lj_step` are a
corollary: the outcome for one schedule position as one predicate.
-/
namespace HappyModel.C14.SM.LM
open HappyModel.C14 HappyModel.C14.SM HappyModel.C14.BT HappyModel.C14.TxSpec

def NoRC (ops : List (Nat × TOp)) : Prop := ∀ o ∈ ops, ∀ s, o.2 ≠ .begin s .rc

/-- what `readAdvance` makes of a fetched cell -/
def adjVal (tm : TM) (s : Nat) (k : Key) (c : Option Nat) : Option Nat :=
  match tm.tx? s with
  | some tx => tm.adjust tx k c
  | none => c

theorem adjVal_sv {tm : TM} {s : Nat} {k : Key} {tx : Tx} (hx : tm.tx? s = some tx) (hl : tx.level ≠ .rc)
    {c : Option Nat} (h : SV tm tx.snap k c) : adjVal tm s k c = fetchVal tm s k := by
  unfold adjVal fetchVal
  rw [hx]
  simp only
  rw [adjust_nonrc hl, adjust_nonrc hl]
  exact h

/-- a segment of a transactional read's `get` on an LSM store: if every cell it may return is as good as the current
    value, it completes with `fetchVal` or stays in progress -/
theorem adv_lsm {tm : TM} {cfg : Cfg} {st : St} (hst : tm.store = .lsm cfg st) {s : Nat} {k : Key}
    {Al : Cell → Prop} {p : SPc} (h : SGetAl st k Al p) (good : ∀ c, Al c → adjVal tm s k c = fetchVal tm s k) :
    (readAdvance tm s k p).2 = .done (.val (fetchVal tm s k)) ∨
    ∃ p', (readAdvance tm s k p).2 = .rd s k p' ∧ SGetAl st k Al p' := by
  have h' := (sGetAl_step (cfg := cfg) h).2
  unfold readAdvance
  rw [hst]
  generalize (stepS (.lsm cfg st) p).2 = q at h'
  cases q with
  | done r =>
    cases r with
    | val c => exact .inl (by rw [← good c h']; rfl)
    | _ => cases h'
  | start op => exact .inr ⟨_, rfl, h'⟩
  | lsmGet pc => exact .inr ⟨_, rfl, h'⟩
  | _ => cases h'

/-- a read of slot `s`, key `k`, in progress inside the LSM tree's `get` at `p` -/
def RdL (tm : TM) (s : Nat) (k : Key) (p : SPc) : Prop :=
  ∃ cfg st, tm.store = .lsm cfg st ∧ ∀ tx, tm.tx? s = some tx → SGetAl st k (SV tm tx.snap k) p

theorem lsm_reads : ReadLaws lsmOk (· ≠ .rc) RdL where
  start := fun {tm s k} hok => by
    obtain ⟨cfg, st, hst, _⟩ := hok
    have e0 : adjVal tm s k (st.abs k) = fetchVal tm s k := by unfold fetchVal adjVal; rw [hst]; rfl
    -- the first segment can only return the current value, which is as good as itself for every snapshot
    refine (adv_lsm hst (Al := (· = st.abs k)) (p := .start (.get k)) ⟨rfl, rfl⟩ fun c hc => hc ▸ e0).imp_right
      fun ⟨p', e, h⟩ => ⟨p', e, cfg, st, hst, fun tx _ => h.mono fun c hc => ?_⟩
    have := sv_refl tm tx.snap k
    rw [hst] at this
    exact hc ▸ this
  step := fun {tm s k p tx} hx hl h => by
    obtain ⟨cfg, st, hst, hr⟩ := h
    exact (adv_lsm hst (hr tx hx) fun c hc => adjVal_sv hx hl hc).imp_right fun ⟨p', e, h⟩ =>
      ⟨p', e, cfg, st, hst, fun tx' hx' => by cases hx.symm.trans hx'; exact h⟩
  keep := fun {tm tm' s k p} hok hsn h hx hch => by
    obtain ⟨cfg, st, hst, hr⟩ := h
    rcases hch with ⟨e1, e2⟩ | ⟨sc, txc, hc⟩
    · exact ⟨cfg, st, e1 ▸ hst, fun tx hx' => (hr tx (hx ▸ hx')).mono fun c hc => sv_congr e1 e2 hc⟩
    · -- a commit: the cells it wrote to `k` join the allowed ones, and they are as good as the new current value
      obtain ⟨cfg0, st0, hst0, hw0, hs0, hi0, hc0⟩ := hok
      cases hst.symm.trans hst0
      obtain ⟨st', b1, b2⟩ := applyWrites_getAl cfg hw0 txc.wset st hs0 hi0 hc0
      refine ⟨cfg, st', by rw [hc.store, hst]; exact b1, fun tx hx' => ?_⟩
      rw [hx] at hx'
      exact (b2 k _ p (hr tx hx')).mono fun c hcc =>
        sv_commit hc lsm_mapLaws ⟨cfg, st, hst, hw0, hs0, hi0, hc0⟩ (hsn tx hx') hcc

variable {init : Key → Option Nat} {ops : List (Nat × TOp)} {tm : TM} {fs : List (Frame TPc)} {n : Nat}
  {tlog : List (Nat × Ev)}

theorem NoRC.levels (hnr : NoRC ops) : ∀ o ∈ ops, ∀ s l, o.2 = .begin s l → l ≠ .rc :=
  fun o ho s _ hl e => hnr o ho s (e ▸ hl)

/-- what holds between the segments of a run over the LSM store, as one predicate: the store is quiescent, no
    transaction is READ_COMMITTED (both follow from the run invariant), and every read in progress satisfies `RdL`
    (that last clause alone is the side invariant the run-level theorem carries) -/
structure LJ (tm : TM) (fs : List (Frame TPc)) : Prop where
  st : lsmOk tm.store
  lvl : ∀ s tx, tm.tx? s = some tx → tx.level ≠ .rc
  rd : Reads (RdL tm) fs

theorem lj_of (hwf : WFProg ops) (hnr : NoRC ops) (R : RInv lsmOk init ops tm fs n tlog) (h : Reads (RdL tm) fs) :
    LJ tm fs :=
  ⟨R.inv.store_ok, fun _ _ hx => R.level_ok hwf hnr.levels hx, h⟩

theorem lj_step (hwf : WFProg ops) (hnr : NoRC ops) (id : Nat) (R : RInv lsmOk init ops tm fs n tlog) (hJ : LJ tm fs)
    (hseq : ∀ pre o post, o.1 = id → ops = pre ++ o :: post → ∀ a ∈ pre, a.2.slot = o.2.slot → doneIn fs a.1 = true) :
    LJ (stepFrames stepT TPc.isDone tm n id fs).1 (stepFrames stepT TPc.isDone tm n id fs).2 := by
  obtain ⟨_, R', h⟩ := RInv.step lsm_mapLaws hwf (side_of_reads hwf lsm_reads hnr.levels) R hJ.rd id hseq
  exact lj_of hwf hnr R' h

end HappyModel.C14.SM.LM
