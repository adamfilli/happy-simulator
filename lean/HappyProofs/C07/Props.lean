import HappyProofs.C07.TimerHandlers
import HappyProofs.C07.FloatStamp
/-!
"For every component in the library and every workload, each event a component emits carries a
timestamp no earlier than the instant at which it is emitted, so the engine never has to discard it,
and a finite workload never causes an unbounded number of deliveries at a single simulated instant:
simulated time always advances or the run ends."

What Lean carries is about the engine model of C01, for every `Machine`, i.e. every handler function, under a
hypothesis on the handler (`EmitsGeNow`, `StrictFuture`, `Ranked`), and about the timers that are modelled
(`Rearm.lean`, `Timers.lean`, `TimerHandlers.lean`).  Whether each *library component* satisfies `EmitsGeNow` and
terminates its instants is not a Lean statement here (components have no model in C07): the monitored scenario runs
decide it, judged by `Holds`.
-/
namespace HappyModel.C07
open HappyModel.C01

variable {σ : Type}

/-- every event that leaves the heap is delivered, or was cancelled, or its target is crashed —
    never discarded as "time travel" -/
theorem emitted_never_discarded (mc : Machine σ) (hE : EmitsGeNow mc) (ent : σ) (start : Nat)
    (pre : List Spec) (hP : PreGeStart start pre) (endT : Option Nat) (n : Nat) :
    ∀ p ∈ (runFrom mc ent start pre endT n).popped,
      p.2 = Verdict.delivered ∨ p.2 = Verdict.cancelled ∨ p.2 = Verdict.gated := by
  intro p hp
  have := (no_stale_pop mc hE ent start pre hP endT n).2 p hp
  cases h : p.2 <;> simp_all

/-- and every event still pending is not in the past either -/
theorem pending_not_past (mc : Machine σ) (hE : EmitsGeNow mc) (ent : σ) (start : Nat) (pre : List Spec)
    (hP : PreGeStart start pre) (endT : Option Nat) (n : Nat) :
    ∀ e ∈ (runFrom mc ent start pre endT n).heap, (runFrom mc ent start pre endT n).now ≤ e.time := by
  intro e he
  have np := engine_no_stale mc hE ent start pre hP endT n
  exact pending_never_stale mc ent start pre endT n e he (np.born_le e he)

/-- every delivered event was created strictly before its own instant, or before the run -/
theorem instant_does_not_feed_itself (mc : Machine σ) (hS : StrictFuture mc) (ent : σ) (start : Nat)
    (pre : List Spec) (endT : Option Nat) (n : Nat) :
    ∀ e ∈ (runFrom mc ent start pre endT n).log, e.born < e.time ∨ e.id < pre.length :=
  (run_fore mc hS pre.length endT n _ (init_fore ent start pre)).log

/-- The general statement: a handler may emit at `now` provided a rank decreases; then the deliveries at
    one instant are bounded by a function of the ranks pending when the clock got there.  Library
    components that forward at `now` fall under this, not under `StrictFuture`. -/
def finite_per_instant_ranked : Prop :=
  ∀ (σ : Type) (mc : Machine σ) (rank : Ev → Nat) (fan : Nat),
    (∀ ent now ev, ((mc.handle ent now ev).specs.length ≤ fan) ∧
      ∀ sp ∈ (mc.handle ent now ev).specs, now < sp.time ∨ (now = sp.time ∧ sp.data < ev.data)) →
    (∀ e : Ev, rank e = e.data) →
    ∀ (endT : Option Nat) (s : St σ) (t : Nat), t ≤ s.now →
      ∃ B, ∀ n, delivAt (run mc endT n s) t ≤ B

theorem finite_per_instant_ranked_holds : finite_per_instant_ranked := by
  intro σ mc rank fan hR _ endT s t ht
  exact ⟨delivAt s t + wsum fan s.heap t, fun n => deliveries_at_instant_ranked_bound mc fan hR endT n s t ht⟩

/-- a zero-delay relay chain: every hop forwards at the same instant with one hop less to go -/
def relayMachine : Machine Unit :=
  { handle := fun _ now e => { ent := (), specs := if e.data = 0 then [] else [⟨now, 0, 0, false, e.data - 1, 0⟩] } }

theorem relayMachine_ranked : Ranked relayMachine 1 := by
  intro ent now ev
  unfold relayMachine
  by_cases h : ev.data = 0
  · simp [h]
  · simp [h]; omega

/-- non-vacuity: the relay chain is `Ranked` but not `StrictFuture`; an event with 5 hops to go makes
    exactly `W 1 5 = 6` deliveries at its instant — the bound is attained -/
example :
    ¬ StrictFuture relayMachine ∧
    delivAt (runFrom relayMachine () 0 [⟨3, 0, 0, false, 5, 0⟩] (some 10) 20) 3 = 6 ∧
    delivAt (init () 0 [⟨3, 0, 0, false, 5, 0⟩] : St Unit) 3 + wsum 1 (init () 0 [⟨3, 0, 0, false, 5, 0⟩] : St Unit).heap 3 = 6 := by
  refine ⟨?_, by decide +kernel, by decide +kernel⟩
  intro h
  have := h () 7 ⟨0, 7, 0, 0, false, 1, 0, 0⟩ ⟨7, 0, 0, false, 0, 0⟩ (by simp [relayMachine])
  simp at this

/-- `while not flag: yield 0.0` with a flag nobody sets: each delivery re-schedules itself at `now` -/
def spinMachine : Machine Unit :=
  { handle := fun _ now _ => { ent := (), specs := [⟨now, 0, 0, false, 0, 0⟩] } }

theorem spinMachine_emitsGeNow : EmitsGeNow spinMachine := by
  intro ent now ev sp hsp
  simp [spinMachine] at hsp
  subst hsp; simp

/-- the state after `k` iterations from `init () 0 [⟨0, 0, 0, false, 0, 0⟩]` (which is `spinState 0`, by `rfl`), in
    closed form so that `spin_step` is one `simp` -/
def spinState (k : Nat) : St Unit :=
  { heap := [⟨k, 0, 0, 0, false, 0, 0, 0⟩], now := 0, nextId := k + 1, ent := (),
    log := (List.range k).map (fun i => ⟨i, 0, 0, 0, false, 0, 0, 0⟩),
    popped := (List.range k).map (fun i => (⟨i, 0, 0, 0, false, 0, 0, 0⟩, Verdict.delivered)),
    primary := 1, processed := k }

theorem spin_step (k : Nat) : step spinMachine (some 10) (spinState k) = some (spinState (k + 1)) := by
  simp [step, spinState, continues, minOf, stepWith, spinMachine, mkEvents, countPrimary,
        List.range_succ]

theorem spin_run (n k : Nat) : run spinMachine (some 10) n (spinState k) = spinState (k + n) := by
  induction n generalizing k with
  | zero => simp [run]
  | succ n ih =>
    rw [run_succ (spin_step k), ih]
    congr 1; omega

/-- a one-event workload, stamped correctly, produces `n` deliveries at clock 0 for every `n`:
    the clock never advances although the run has an end time -/
theorem spin_witness_unbounded (n : Nat) :
    delivAt (run spinMachine (some 10) n (spinState 0)) 0 = n ∧
    (run spinMachine (some 10) n (spinState 0)).now = 0 ∧
    (run spinMachine (some 10) n (spinState 0)).nStale = 0 := by
  rw [spin_run]
  have hall : ∀ l : List Nat,
      List.filter (fun e : Ev => e.time == 0) (l.map fun i => (⟨i, 0, 0, 0, false, 0, 0, 0⟩ : Ev)) =
        l.map fun i => (⟨i, 0, 0, 0, false, 0, 0, 0⟩ : Ev) := by
    intro l
    rw [List.filter_eq_self]
    intro e he
    simp only [List.mem_map] at he
    obtain ⟨i, _, rfl⟩ := he
    simp
  simp [delivAt, spinState, hall]

/-- the rank hypothesis cannot be dropped: the zero-delay poll emits at `now` with the same rank, and no
    bound on its deliveries at instant 0 holds for all run lengths -/
theorem rank_hypothesis_needed :
    (∀ fan, ¬ Ranked spinMachine fan) ∧
    ¬ ∃ B, ∀ n, delivAt (run spinMachine (some 10) n (spinState 0)) 0 ≤ B := by
  constructor
  · intro fan h
    have := (h () 0 ⟨0, 0, 0, 0, false, 0, 0, 0⟩).2 ⟨0, 0, 0, false, 0, 0⟩ (by simp [spinMachine])
    simp at this
  · rintro ⟨B, hB⟩
    have h1 := hB (B + 1)
    rw [(spin_witness_unbounded (B + 1)).1] at h1
    omega

theorem judge_none_iff_holds (family : String) (bound : Nat) (tr : List Line) :
    judge family bound tr = none ↔ Holds bound tr := by
  unfold judge Holds
  split
  · next p hf =>
    have := List.find?_some hf
    have := List.mem_of_find?_eq_some hf
    grind
  · next hf =>
    rw [List.find?_eq_none] at hf
    split
    · grind
    · split
      · next cn hs =>
        have := List.find?_some hs
        have := List.mem_of_find?_eq_some hs
        grind
      · next hs =>
        rw [List.find?_eq_none] at hs
        grind

/-- a handler that satisfies `StrictFuture` (hence `EmitsGeNow`) and a run of it that delivers ties -/
example :
    let mc : Machine Unit :=
      { handle := fun _ now e => { ent := (), specs := if e.kind = 0 then [⟨now + 5, 0, 1, false, 0, 0⟩, ⟨now + 5, 0, 1, false, 0, 0⟩] else [] } }
    StrictFuture mc ∧ PreGeStart 0 [⟨1, 0, 0, false, 0, 0⟩, ⟨6, 0, 1, false, 0, 0⟩] ∧
    delivAt (runFrom mc () 0 [⟨1, 0, 0, false, 0, 0⟩, ⟨6, 0, 1, false, 0, 0⟩] (some 10) 10) 6 = 3 := by
  refine ⟨?_, by unfold PreGeStart; decide +kernel, by decide +kernel⟩
  intro ent now ev sp hsp
  simp only at hsp
  split at hsp <;> simp at hsp
  rcases hsp with rfl | rfl <;> simp

/-- `Holds` is satisfiable by a non-trivial trace and refuted by a past push / a spin -/
example : Holds 3 [.push ⟨0, 0, "init"⟩, .deliv 0 1, .push ⟨0, 5, "Server"⟩, .deliv 5 2, .deliv 5 1, .discarded 0] := by decide
example : ¬ Holds 3 [.push ⟨7, 5, "MessageQueue"⟩, .deliv 7 1, .discarded 1] := by decide
example : ¬ Holds 3 [.push ⟨0, 0, "Mutex"⟩, .deliv 0 2, .deliv 0 2, .discarded 0] := by decide

end HappyModel.C07
