import HappyModel.C19.WinSpec
/-!
Facts about the judge's own list functions, independent of the model.
-/
namespace HappyModel.C19.Win

theorem firstFail_none : ∀ l : List (Bool × String), (∀ c ∈ l, c.1 = true) → firstFail l = none := by
  intro l
  induction l with
  | nil => intro _; rfl
  | cons c rest ih =>
    intro h
    obtain ⟨ok, sig⟩ := c
    have h1 : ok = true := h (ok, sig) (by simp)
    subst h1
    simp only [firstFail, if_true]
    exact ih fun c hc => h c (List.mem_cons_of_mem _ hc)

theorem firstFail_append_iff (a b : List (Bool × String)) :
    firstFail (a ++ b) = none ↔ firstFail a = none ∧ firstFail b = none := by
  induction a with
  | nil => simp [firstFail]
  | cons x a ih =>
    obtain ⟨ok, sig⟩ := x
    cases ok <;> simp [firstFail, ih]

theorem mem_dedupIdents (x : Nat × Nat × Nat) (l : List (Nat × Nat × Nat)) : x ∈ dedupIdents l ↔ x ∈ l := by
  induction l generalizing x with
  | nil => simp [dedupIdents]
  | cons a l ih =>
    simp only [dedupIdents]
    split
    · next hc =>
      have ha : a ∈ l := (ih a).1 (by simpa using hc)
      rw [ih, List.mem_cons]
      exact ⟨Or.inr, fun h => h.elim (· ▸ ha) id⟩
    · simp only [List.mem_cons, ih]

theorem nodup_dedupIdents : ∀ l : List (Nat × Nat × Nat), (dedupIdents l).Nodup := by
  intro l
  induction l with
  | nil => simp [dedupIdents]
  | cons a l ih =>
    simp only [dedupIdents]
    split
    · exact ih
    · next hc => exact List.nodup_cons.2 ⟨by simpa using hc, ih⟩

end HappyModel.C19.Win
