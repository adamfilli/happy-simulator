import HappyProofs.C05.CoordR
import HappyProofs.C05.Stateful
import HappyProofs.C05.Harness
/-!
The stateful-handler theorems for what the driver's `runs` mode executes: the coordinator with the
code's creation indices `coordLoopR`, runs whose creation counters start at the number of pre-run
events (`Part.initCtr`), and the stateful harness entity `ruleHandlerL` (= `liftP (ruleHandler …)`,
`Harness.lean`).

For the harness entity the theorems that apply as they stand are `par_eq_seq_no_ties_R` and
`agree_before_first_tie_R` (any handler).  `par_eq_seq_tie_commutative_R` does not: a timer and the
canceller of that timer do not commute (`conflict`), so `TieCommutative (ruleHandler prog sprog)` holds
for no program.  `ruleHandler_commAt` is commutation for every other pair; it fits the second
alternative of `stateful_core_of` (commutation asked of the ties of the partitioned run only), for runs
in which no entity receives a timer and its canceller at one timestamp — no theorem here states that.
-/
namespace HappyModel.C05

theorem ruleHandlerL_eq (prog : List (Nat × Nat × Emit)) (sprog : List SRule) :
    ruleHandlerL prog sprog = liftP (ruleHandler prog sprog) := rfl

variable {τ : Type}

/-- **par_eq_seq_tie_commutative_R** — `par_eq_seq_tie_commutative` for the coordinator with the
    code's creation indices (`coordLoopR`: events injected at a barrier are re-indexed by the
    destination) and any initial creation counters -/
theorem par_eq_seq_tie_commutative_R (hE : EHandler τ) (c : Cfg) (ids : List Nat)
    (fuel wEff endT n start n0 : Nat) (st : Nat → τ) (evs : List Ev) (ps : List (Part (Nat → τ)))
    (htc : TieCommutative hE) (hids : ids.Nodup) (hlinks : ∀ l ∈ c.links, l.dst ∈ ids)
    (hw : WindowLeLat c wEff) (hpos : 0 < wEff) (hse : start ≤ endT)
    (hstart : ∀ e ∈ evs, start ≤ e.time) (hi : ParInit c ids start evs ps) (hst : ∀ p ∈ ps, p.st = st)
    (hpar : (coordLoopR (liftP hE) c true fuel wEff endT n
        { parts := ps, cur := start, windows := 0, injected := 0, outboxed := 0, err := none }).err = none)
    (hseq : Halted (liftP hE) seqRoute false endT (runSeq (liftP hE) endT fuel (Part.initCtr 0 start st evs n0))) :
    (∀ x, TieEquiv (upTo endT ((runSeq (liftP hE) endT fuel (Part.initCtr 0 start st evs n0)).obsLog x))
      (upTo endT (parObs (coordLoopR (liftP hE) c true fuel wEff endT n
        { parts := ps, cur := start, windows := 0, injected := 0, outboxed := 0, err := none }).parts x)))
    ∧ (∀ p ∈ (coordLoopR (liftP hE) c true fuel wEff endT n
        { parts := ps, cur := start, windows := 0, injected := 0, outboxed := 0, err := none }).parts,
        ∀ x, c.part x = p.pid →
          p.st x = replay hE (st x) ((seqTrace hE endT fuel start st evs n0).filter (fun d => d.tgt == x))) :=
  stateful_core_of hE c ids fuel endT start n0 st evs _ hids hstart hseq
    (par_execR hE c ids fuel wEff endT n
      { parts := ps, cur := start, windows := 0, injected := 0, outboxed := 0, err := none }
      ⟨st, evs.map proj⟩ hids hlinks hw hpos rfl hse (TInv.init hi hstart hse hst) hpar)
    (Or.inr fun _ _ a _ d _ _ ht htm => htc a d ht htm)

/-- **par_eq_seq_no_ties_R** — `par_eq_seq_no_ties` for `coordLoopR` -/
theorem par_eq_seq_no_ties_R (hE : EHandler τ) (c : Cfg) (ids : List Nat)
    (fuel wEff endT n start n0 : Nat) (st : Nat → τ) (evs : List Ev) (ps : List (Part (Nat → τ)))
    (hids : ids.Nodup) (hlinks : ∀ l ∈ c.links, l.dst ∈ ids)
    (hw : WindowLeLat c wEff) (hpos : 0 < wEff) (hse : start ≤ endT)
    (hstart : ∀ e ∈ evs, start ≤ e.time) (hi : ParInit c ids start evs ps) (hst : ∀ p ∈ ps, p.st = st)
    (hpar : (coordLoopR (liftP hE) c true fuel wEff endT n
        { parts := ps, cur := start, windows := 0, injected := 0, outboxed := 0, err := none }).err = none)
    (hseq : Halted (liftP hE) seqRoute false endT (runSeq (liftP hE) endT fuel (Part.initCtr 0 start st evs n0)))
    (hnt : ∀ x, NoTies (upTo endT ((runSeq (liftP hE) endT fuel (Part.initCtr 0 start st evs n0)).obsLog x))) :
    (∀ x, upTo endT ((runSeq (liftP hE) endT fuel (Part.initCtr 0 start st evs n0)).obsLog x)
      = upTo endT (parObs (coordLoopR (liftP hE) c true fuel wEff endT n
        { parts := ps, cur := start, windows := 0, injected := 0, outboxed := 0, err := none }).parts x))
    ∧ (∀ p ∈ (coordLoopR (liftP hE) c true fuel wEff endT n
        { parts := ps, cur := start, windows := 0, injected := 0, outboxed := 0, err := none }).parts,
        ∀ x, c.part x = p.pid →
          p.st x = replay hE (st x) ((seqTrace hE endT fuel start st evs n0).filter (fun d => d.tgt == x))) := by
  have core := stateful_core_of hE c ids fuel endT start n0 st evs _ hids hstart hseq
    (par_execR hE c ids fuel wEff endT n
      { parts := ps, cur := start, windows := 0, injected := 0, outboxed := 0, err := none }
      ⟨st, evs.map proj⟩ hids hlinks hw hpos rfl hse (TInv.init hi hstart hse hst) hpar)
    (Or.inl (noTieL_of_inj fun x => seqTrace_entProj hE endT fuel start st evs n0 x ▸ (hnt x).inj))
  exact ⟨fun x => ((core.1 x).symm.eq_of_noTies (hnt x)).symm, core.2⟩

/-- **agree_before_first_tie_R** — what the check's stateful families can show at most: for every
    entity-local handler (the order-sensitive `first` rules included) the logs of the sequential run
    and of the index-faithful partitioned run agree up to any `T' ≤ end_time` before which the
    sequential run has no two deliveries to one entity with one timestamp; a divergence of the model
    (judge: `par/tie-order/…`) always starts at or after the first such group. -/
theorem agree_before_first_tie_R (hE : EHandler τ) (c : Cfg) (ids : List Nat)
    (fuel wEff endT n start n0 T' : Nat) (st : Nat → τ) (evs : List Ev) (ps : List (Part (Nat → τ)))
    (hids : ids.Nodup) (hlinks : ∀ l ∈ c.links, l.dst ∈ ids)
    (hw : WindowLeLat c wEff) (hpos : 0 < wEff) (hse : start ≤ endT) (hT : T' ≤ endT)
    (hstart : ∀ e ∈ evs, start ≤ e.time) (hi : ParInit c ids start evs ps) (hst : ∀ p ∈ ps, p.st = st)
    (hpar : (coordLoopR (liftP hE) c true fuel wEff endT n
        { parts := ps, cur := start, windows := 0, injected := 0, outboxed := 0, err := none }).err = none)
    (hseq : Halted (liftP hE) seqRoute false endT (runSeq (liftP hE) endT fuel (Part.initCtr 0 start st evs n0)))
    (hnt : ∀ x, NoTies (upTo T' ((runSeq (liftP hE) endT fuel (Part.initCtr 0 start st evs n0)).obsLog x))) :
    ∀ x, upTo T' ((runSeq (liftP hE) endT fuel (Part.initCtr 0 start st evs n0)).obsLog x)
      = upTo T' (parObs (coordLoopR (liftP hE) c true fuel wEff endT n
        { parts := ps, cur := start, windows := 0, injected := 0, outboxed := 0, err := none }).parts x) :=
  agree_before_first_tie_of hE c ids fuel endT start n0 T' st evs _ hids hT hstart hseq
    (par_execR hE c ids fuel wEff endT n
      { parts := ps, cur := start, windows := 0, injected := 0, outboxed := 0, err := none }
      ⟨st, evs.map proj⟩ hids hlinks hw hpos rfl hse (TInv.init hi hstart hse hst) hpar) hnt

/-! ## non-vacuity: the corpus witness `corpus/C05/tie-order-first-kind-wins.json` as the driver runs it -/

def tieProg : List (Nat × Nat × Emit) := [(0, 0, ⟨100, 1, 2⟩), (1, 0, ⟨50, 1, 1⟩)]
def tieRules : List SRule := [.first 1 2 1 ⟨10, 1, 7⟩]
def tieStR : Nat → ESt := fun _ => ESt.init
def tiePartsR : List (Part (Nat → ESt)) :=
  [Part.initCtr 0 0 tieStR [⟨0, 0, 0, 0⟩] 2, Part.initCtr 1 0 tieStR [⟨50, 1, 1, 0⟩] 2]

example : ParInit tieCfg [0, 1] 0 tieEvs tiePartsR ∧ (∀ p ∈ tiePartsR, p.st = tieStR) :=
  ⟨⟨by decide, by decide, by decide, by decide, by decide⟩, by simp [tiePartsR, Part.initCtr, Part.init]⟩

/-- kinds on the wire carry the sender: `66 = k2 from e0`, `129 = k1 from e1`, `135 = k7 from e1`.
    Up to 99 ns no ties and equal logs; the tie at 100 ns is delivered in opposite orders; `k7` exists
    only sequentially. -/
example :
    (coordLoopR (ruleHandlerL tieProg tieRules) tieCfg true 10 100 1000 20
        { parts := tiePartsR, cur := 0, windows := 0, injected := 0, outboxed := 0, err := none }).err = none
    ∧ haltedB (ruleHandlerL tieProg tieRules) seqRoute false 1000
        (runSeq (ruleHandlerL tieProg tieRules) 1000 10 (Part.initCtr 0 0 tieStR tieEvs 2)) = true
    ∧ (runSeq (ruleHandlerL tieProg tieRules) 1000 10 (Part.initCtr 0 0 tieStR tieEvs 2)).obsLog 1
        = [(50, 0), (100, 66), (100, 129), (110, 135)]
    ∧ parObs (coordLoopR (ruleHandlerL tieProg tieRules) tieCfg true 10 100 1000 20
        { parts := tiePartsR, cur := 0, windows := 0, injected := 0, outboxed := 0, err := none }).parts 1
        = [(50, 0), (100, 129), (100, 66)]
    ∧ (∀ x ∈ [0, 1], NoTies (upTo 99
        ((runSeq (ruleHandlerL tieProg tieRules) 1000 10 (Part.initCtr 0 0 tieStR tieEvs 2)).obsLog x))) := by
  decide +kernel

/-- `ruleHandler_commAt`: the hypotheses hold for a rule set with `nth`, `dedup` and `tmr`, and two plain
    (role 0) events never conflict -/
example : (∀ r ∈ [SRule.nth 1 3 ⟨10, 1, 7⟩, SRule.dedup 0 2 ⟨100, 1, 4⟩, SRule.tmr 1 0 40 4 10 5], r.notFirst)
    ∧ ¬ conflict 66 129 := by
  refine ⟨?_, by decide⟩
  intro r hr
  simp only [List.mem_cons, List.not_mem_nil, or_false] at hr
  rcases hr with rfl | rfl | rfl <;> trivial

/-- `ghost_is_silent` / cancellation as the driver runs it: entity 1 arms a timer (+40 ns) and its
    canceller (+10 ns) at 10 ns; the timer's ghost is popped at 50 ns and changes nothing; the tick
    at 250 ns comes after the cross-partition message at 140 ns (window 100 ns) -/
example :
    (parObs (coordLoopR (ruleHandlerL [(0, 0, ⟨100, 1, 2⟩), (1, 0, ⟨240, 1, 3⟩)] [.tmr 1 0 40 4 10 5]) tieCfg true 20 100 1000 20
        { parts := [Part.initCtr 0 0 tieStR [⟨40, 0, 0, 0⟩] 2, Part.initCtr 1 0 tieStR [⟨10, 1, 1, 0⟩] 2],
          cur := 0, windows := 0, injected := 0, outboxed := 0, err := none }).parts 1).map
        (fun o => (o.1, kindOf o.2)) = [(10, 0), (20, 5), (50, 4), (140, 2), (250, 3)] := by
  decide +kernel

end HappyModel.C05
