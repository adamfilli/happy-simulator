import HappyProofs.C05.Coord
import HappyModel.C05.Driver
/-!
A configuration whose handler respects the declared links (every cross-partition emission goes over
a declared link and is delayed by at least that link's minimum latency) is never rejected by the
coordinator with a `RuntimeError`: neither the partition routers nor the min-latency validation of
`_exchange_events` can raise.  The only remaining error exit of the model is its own fuel.
-/
namespace HappyModel.C05

variable {σ : Type}

def RespectsMin {σ} (h : Handler σ) (c : Cfg) : Prop :=
  ∀ (st : σ) (e : Ev) (em : Emit), em ∈ (h st e).2 →
    c.part em.tgt = c.part e.tgt ∨
    ∃ L, c.latOf (c.part e.tgt) (c.part em.tgt) = some L ∧ L ≤ em.delay

structure RejInv (c : Cfg) (p : Part σ) : Prop where
  owned : ∀ e ∈ p.heap, c.part e.tgt = p.pid
  good : p.bad = false
  outOk : ∀ x ∈ p.outbox, c.latOk ⟨p.pid, x.1, x.2⟩ = true

theorem latOf_some_linked {c : Cfg} {i j L : Nat} (hl : c.latOf i j = some L) : c.linked i j = true := by
  unfold Cfg.latOf at hl
  simp only [Option.map_eq_some_iff] at hl
  obtain ⟨l, hf, _⟩ := hl
  have hmem : l ∈ c.links := by simpa using List.mem_of_find?_eq_some hf
  have hp := List.find?_some hf
  unfold Cfg.linked
  exact List.any_eq_true.mpr ⟨l, hmem, hp⟩

theorem route_out_ne {c : Cfg} {pid t : Nat} (h : c.route pid t = .out) : c.part t ≠ pid := by
  unfold Cfg.route at h
  split at h
  · simp at h
  · rename_i h1; simpa using h1

theorem route_not_bad {c : Cfg} {pid t : Nat} (h : c.part t = pid ∨ c.linked pid (c.part t) = true) :
    c.route pid t ≠ .bad := by
  unfold Cfg.route
  rcases h with h | h
  · simp [h]
  · split <;> simp

theorem RejInv.step {h : Handler σ} {c : Cfg} {strict : Bool} {we : Nat} {p p' : Part σ}
    (hr : RespectsMin h c) (inv : RejInv c p) (hs : stepWin h (c.route p.pid) strict we p = some p') :
    p'.pid = p.pid ∧ RejInv c p' := by
  obtain ⟨m, rest, hp, _, _, _, _, hc⟩ := stepWin_cases h (c.route p.pid) strict we p p' hs
  have hrest : ∀ e ∈ rest, e ∈ p.heap := fun e he => hp.symm.subset (List.mem_cons_of_mem _ he)
  have hown : c.part m.tgt = p.pid := inv.owned _ (hp.symm.subset List.mem_cons_self)
  rcases hc with ⟨_, rfl⟩ | ⟨_, rfl⟩
  · exact ⟨rfl, ⟨fun e he => inv.owned e (hrest e he), inv.good, inv.outOk⟩⟩
  · refine ⟨rfl, ⟨?_, ?_, ?_⟩⟩
    · exact deliver_owned (route_loc_owns c p.pid) fun e he => inv.owned e (hrest e he)
    · simp only [deliver, inv.good, Bool.false_or]
      rw [Bool.eq_false_iff]
      intro hany
      obtain ⟨ev, hev, hb⟩ := List.any_eq_true.mp hany
      have hb' : c.route p.pid ev.tgt = .bad := by simpa [isBad] using hb
      obtain ⟨em, hm, _, htg, _⟩ := mem_mkEvents hev
      refine route_not_bad ?_ hb'
      rcases hr p.st m em hm with h1 | ⟨L, hL, _⟩
      · left; rw [htg, h1, hown]
      · right; rw [htg]; rw [hown] at hL; exact latOf_some_linked hL
    · intro y hy
      simp only [deliver, List.mem_append, List.mem_map, List.mem_filter] at hy
      rcases hy with hy | ⟨ev, ⟨hev, ho⟩, rfl⟩
      · exact inv.outOk y hy
      · have ho' : c.route p.pid ev.tgt = .out := by simpa [isOut] using ho
        have hne := route_out_ne ho'
        obtain ⟨em, hm, htm, htg, _⟩ := mem_mkEvents hev
        rcases hr p.st m em hm with h1 | ⟨L, hL, hle⟩
        · exact absurd (by rw [htg, h1, hown]) hne
        · rw [hown, ← htg] at hL
          simp only [deliver, Cfg.latOk, Cfg.dest, hL, decide_eq_true_eq]
          omega

theorem RejInv.run {h : Handler σ} {c : Cfg} {strict : Bool} {we : Nat} (hr : RespectsMin h c) (n : Nat)
    {p : Part σ} (inv : RejInv c p) : RejInv c (runWin h (c.route p.pid) strict we n p) := by
  have := runWin_induct h (c.route p.pid) strict we (fun q => q.pid = p.pid ∧ RejInv c q)
    (fun q q' hq hs => by
      have hs' : stepWin h (c.route q.pid) strict we q = some q' := by rw [hq.1]; exact hs
      obtain ⟨h1, h2⟩ := RejInv.step hr hq.2 hs'
      exact ⟨h1.trans hq.1, h2⟩) n p ⟨rfl, inv⟩
  exact this.2

theorem execAll_rej {h : Handler σ} {c : Cfg} (strict : Bool) (fuel we : Nat) {ps : List (Part σ)}
    (hr : RespectsMin h c) (inv : ∀ p ∈ ps, RejInv c p) :
    ∀ p ∈ execAll h c strict fuel we ps, RejInv c p :=
  List.forall_mem_map.mpr fun q hq => RejInv.run hr fuel (inv q hq)

theorem exchange_rej {c : Cfg} {ps : List (Part σ)} (inv : ∀ p ∈ ps, RejInv c p) :
    ∀ p ∈ exchange c ps, RejInv c p := by
  intro p hp
  simp only [exchange, List.mem_map] at hp
  obtain ⟨q, hq, rfl⟩ := hp
  refine ⟨?_, (inv q hq).good, ?_⟩
  · intro e he
    rcases mem_inject_heap.mp he with he | ⟨m, _, hdm, rfl⟩
    · exact (inv q hq).owned e he
    · exact hdm
  · intro x hx
    simp [inject] at hx

theorem windowStep_rej {h : Handler σ} {c : Cfg} (strict : Bool) (fuel we : Nat) (s : Coord σ)
    (hr : RespectsMin h c) (inv : ∀ p ∈ s.parts, RejInv c p) :
    (windowStep h c strict fuel we s).err ≠ some .runtime ∧
    ((windowStep h c strict fuel we s).err = none →
      ∀ p ∈ (windowStep h c strict fuel we s).parts, RejInv c p) := by
  have hex := execAll_rej strict fuel we hr inv
  have hbad : ¬ (execAll h c strict fuel we s.parts).any (·.bad) = true := by
    intro hany
    obtain ⟨p, hp, hb⟩ := List.any_eq_true.mp hany
    simp [(hex p hp).good] at hb
  have hlat : (allMsgs (execAll h c strict fuel we s.parts)).all c.latOk = true := by
    rw [List.all_eq_true]
    intro m hm
    obtain ⟨q, hq, x, hx, rfl⟩ := mem_allMsgs hm
    exact (hex q hq).outOk x hx
  unfold windowStep
  simp only [hbad, Bool.false_eq_true, if_false, hlat, Bool.not_true]
  split
  · exact ⟨by simp, by simp⟩
  · exact ⟨by simp, fun _ => exchange_rej hex⟩

theorem coordLoop_rej {h : Handler σ} {c : Cfg} (strict : Bool) (fuel wEff endT : Nat)
    (hr : RespectsMin h c) (n : Nat) (s : Coord σ) (he : s.err = none) (inv : ∀ p ∈ s.parts, RejInv c p) :
    (coordLoop h c strict fuel wEff endT n s).err ≠ some .runtime := by
  rw [coordLoop_eq]
  exact coordLoopG_induct (fun s => ∀ p ∈ s.parts, RejInv c p) (fun r => r.err ≠ some .runtime)
    (fun _ => by simp) (fun s hP _ => (windowStep_rej strict fuel endT s hr hP).1)
    (fun s we hP _ _ _ => ⟨fun _ => (windowStep_rej strict fuel we s hr hP).1,
      fun h1 => ⟨(windowStep_rej strict fuel we s hr hP).2 h1, fun _ => by simp [h1]⟩⟩) n s he inv

/-- **A valid configuration is never rejected**: if the handler only emits across partitions over
    declared links with at least their minimum latency, and the run starts from owned heaps with
    empty outboxes, `ParallelSimulation.run` never ends in a `RuntimeError` (unreachable target in
    a router, or `min_latency` violated at the barrier), for either window rule. -/
theorem valid_config_never_rejected {σ} (h : Handler σ) (c : Cfg) (strict : Bool) (fuel wEff endT n : Nat)
    (ps : List (Part σ)) (hr : RespectsMin h c)
    (h0 : ∀ p ∈ ps, (∀ e ∈ p.heap, c.part e.tgt = p.pid) ∧ p.bad = false ∧ p.outbox = []) :
    (parallelRun h c strict fuel wEff endT n ps).err ≠ some .runtime := by
  unfold parallelRun
  split
  · simp
  · refine coordLoop_rej strict fuel wEff endT hr n _ rfl ?_
    intro p hp
    obtain ⟨h1, h2, h3⟩ := h0 p hp
    exact ⟨h1, h2, by simp [h3]⟩

def rejCfg : Cfg := { partOf := #[0, 1], nparts := 2, links := [⟨0, 1, 100⟩] }
def rejParts : List (Part Unit) :=
  [Part.init 0 0 () [⟨50, 0, 0, 0⟩], Part.init 1 0 () [⟨300, 1, 1, 2⟩]]

example : RespectsMin (Driver.scriptHandler [(0, 0, ⟨100, 1, 1⟩)]) rejCfg := by
  intro st e em hm
  simp only [Driver.scriptHandler, List.filter_cons, List.filter_nil] at hm
  split at hm
  · rename_i hk
    simp only [Bool.and_eq_true, beq_iff_eq] at hk
    simp only [List.map_cons, List.map_nil, List.mem_singleton] at hm
    subst hm
    right
    refine ⟨100, ?_, Nat.le_refl _⟩
    rw [← hk.1]
    decide
  · simp at hm

example : ∀ p ∈ rejParts, (∀ e ∈ p.heap, rejCfg.part e.tgt = p.pid) ∧ p.bad = false ∧ p.outbox = [] := by
  decide

example :
    (parallelRun (Driver.scriptHandler [(0, 0, ⟨100, 1, 1⟩)]) rejCfg true 10 100 1000 10 rejParts).err = none
    ∧ (parallelRun (Driver.scriptHandler [(0, 0, ⟨100, 1, 1⟩)]) rejCfg true 10 100 1000 10 rejParts).injected = 1 := by
  decide +kernel

/-- the hypothesis is necessary: one nanosecond below the link's minimum and the run is rejected -/
example :
    (parallelRun (Driver.scriptHandler [(0, 0, ⟨99, 1, 1⟩)]) rejCfg true 10 100 1000 10 rejParts).err
      = some .runtime := by
  decide

end HappyModel.C05
