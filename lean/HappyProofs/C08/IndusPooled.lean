import HappyProofs.C08.IndusProps
/-!
# C08 part 3 — soundness of the judge, pooled component: no item lost, counters
-/
namespace HappyModel.C08.Indus

/-- the populations an accepted id of the pooled component can be in -/
def wherP (j : Book) (x : Nat) : Prop :=
  x ∈ j.waiting.map (·.id) ∨ x ∈ j.transit.map (·.id) ∨ x ∈ j.svc.ids ∨ x ∈ j.finished ∨ x ∈ j.done

/-- an accepted line moves at most the id it names from one population to the next; the branches of
`judgePooled` are opened in place, and once `simp only` has spelt the populations out each leaves a
propositional goal -/
theorem pooled_step {cfg : Cfg} {j j' : Book} {o : Obs} (hc : cfg.comp = .pooled) (hsink : cfg.sink = true)
    (x : Nat) (h : judgeObs cfg j o = .ok j') :
    (wherP j x → wherP j' x) ∧
    (∀ p, o.act = .offer x p → (o.res = .start ∨ o.res = .wait) → wherP j' x) := by
  obtain ⟨-, j1, hact, rfl, -, -⟩ := judgeObs_ok h
  clear h
  simp only [judgeAct, hc] at hact
  unfold judgePooled at hact
  split at hact
  · rename_i id p ha
    replace hact := ite_eq_cases hact
    rcases hact with ⟨-, hact⟩ | ⟨-, hact⟩
    · -- re-delivery of the dequeued item
      replace hact := (ite_error_ok.1 hact).2
      split at hact <;> cases hact
      rename_i hr
      have := @mem_filter_ne j.transit x id
      simp only [wherP, svcStep, doneStep, hc, ha, hr, List.mem_append, List.mem_singleton]
      grind
    · simp only [ite_error_ok] at hact
      replace hact := hact.2.2
      split at hact <;> simp only [ite_error_ok, Except.ok.injEq, reduceCtorEq] at hact
      · rename_i hr
        obtain ⟨-, rfl⟩ := hact
        simp only [wherP, svcStep, doneStep, hc, ha, hr, List.mem_append, List.mem_singleton]
        grind
      · rename_i hr
        obtain ⟨-, -, rfl⟩ := hact
        simp only [wherP, svcStep, doneStep, hc, ha, hr, List.map_append, List.mem_append,
          List.map_cons, List.map_nil, List.mem_singleton]
        grind
      · rename_i hr
        obtain ⟨-, rfl⟩ := hact
        simp only [wherP, svcStep, doneStep, hc, ha, hr]
        grind
  · rename_i id ha
    simp only [ite_error_ok, hsink, if_true] at hact
    replace hact := hact.2
    have := List.mem_erase_of_ne (a := x) (b := id) (l := j.svc.ids)
    split at hact <;> cases hact
    · simp only [wherP, svcStep, doneStep, hc, ha, List.mem_append, List.mem_singleton]
      grind
    · rename_i hw
      simp only [wherP, svcStep, doneStep, hc, ha, hw, List.mem_append,
        List.map_append, List.map_cons, List.map_nil, List.mem_cons, List.mem_nil_iff, or_false]
      grind
  · rename_i id ha
    rw [(judgeDone_ok hact).2]
    have := List.mem_erase_of_ne (a := x) (b := id) (l := j.finished)
    simp only [wherP, svcStep, doneStep, hc, ha, List.mem_cons]
    grind
  · cases hact

theorem judge_sound_pooled_gen (cfg : Cfg) (hc : cfg.comp = .pooled) (hsink : cfg.sink = true) (x : Nat) :
    ∀ (obs : List Obs) (j : Book) (i : Nat), judgeRun cfg j i obs = none →
      (wherP j x → x ∈ doneFold j.done obs) ∧
      (∀ o ∈ obs, (∃ p, o.act = .offer x p ∧ (o.res = .start ∨ o.res = .wait)) → x ∈ doneFold j.done obs) := by
  refine fun obs j i h => judgeRun_tracks (I := fun _ => True) (W := (wherP · x))
    (G := fun j obs => x ∈ doneFold j.done obs) ?_ ?_ obs j i h trivial
  · intro j he _ hw
    obtain ⟨h1, h2, _, h4, h5⟩ := endCheck_pr (.inl hc) he
    unfold wherP at hw
    rw [h1, h2, h4, h5] at hw
    simpa [doneFold] using hw
  · intro j j' o rest hj _
    obtain ⟨hk, hn⟩ := pooled_step hc hsink x hj
    exact ⟨trivial, hk, fun ⟨p, ha, hr⟩ => hn p ha hr, fun h => by rw [judgeObs_done hj] at h; exact h⟩

/-- **Soundness (no item lost, pooled resource with a downstream).** If the judge accepts a whole transcript of
the pooled component including its end check, then every id whose offer was answered `start` or `wait`
(given a unit or put in the overflow queue) was delivered at the sink. -/
theorem judge_sound_pooled_none_lost (cfg : Cfg) (hc : cfg.comp = .pooled) (hsink : cfg.sink = true)
    (obs : List Obs) (h : judgeRun cfg {} 0 obs = none) :
    ∀ o ∈ obs, ∀ id p, o.act = .offer id p → (o.res = .start ∨ o.res = .wait) → id ∈ doneFold [] obs := by
  intro o ho id p ha hr
  exact (judge_sound_pooled_gen cfg hc hsink id obs {} 0 h).2 o ho ⟨p, ha, hr⟩

/-- accepted: both accepted ids reach the sink -/
example :
    let obs : List Obs :=
      [⟨0, .offer 0 none, .start, [0, 1, 0, 0, 0], false⟩, ⟨0, .offer 1 none, .wait, [0, 1, 1, 0, 0], false⟩,
       ⟨5, .fin 0, .dash, [1, 0, 0, 1, 0], false⟩, ⟨5, .offer 1 none, .start, [0, 1, 0, 1, 0], false⟩,
       ⟨5, .done 0, .dash, [0, 1, 0, 1, 0], false⟩, ⟨9, .fin 1, .dash, [1, 0, 0, 2, 0], false⟩,
       ⟨9, .done 1, .dash, [1, 0, 0, 2, 0], false⟩]
    judgeRun { comp := .pooled, limit := 1 } {} 0 obs = none ∧ doneFold [] obs = [1, 0] := by decide +kernel

/-- rejected: the queued item is never re-delivered after the unit is freed … -/
example : judgeRun { comp := .pooled, limit := 1 } {} 0
    [⟨0, .offer 0 none, .start, [0, 1, 0, 0, 0], false⟩, ⟨0, .offer 1 none, .wait, [0, 1, 1, 0, 0], false⟩,
     ⟨5, .fin 0, .dash, [1, 0, 0, 1, 0], false⟩, ⟨5, .done 0, .dash, [1, 0, 0, 1, 0], false⟩]
    = some "indus/pooled/strand/dequeued-item-not-started-in-its-instant at-end" := by decide +kernel

/-- … and a completed item that never reaches the sink is rejected -/
example : judgeRun { comp := .pooled, limit := 1 } {} 0
    [⟨0, .offer 0 none, .start, [0, 1, 0, 0, 0], false⟩, ⟨5, .fin 0, .dash, [1, 0, 0, 1, 0], false⟩]
    = some "indus/pooled/item-lost at-end" := by decide +kernel


theorem pooledCounters_ok {cfg : Cfg} {j : Book} {o : Obs} (hc : cfg.comp = .pooled)
    (h : judgeCounters cfg j o = none) :
    o.ctr = [cfg.limit - j.svc.ids.length, j.svc.ids.length, j.waiting.length, j.completed, j.refused.length] := by
  unfold judgeCounters at h
  simp only [hc] at h
  exact mismatch_none h (Nat.le_refl 5)

theorem judge_sound_pooled_counters_gen (cfg : Cfg) (hc : cfg.comp = .pooled) :
    ∀ (obs : List Obs) (j : Book) (i : Nat), judgeRun cfg j i obs = none →
      ∀ (k : Nat) (o : Obs), obs[k]? = some o →
        ∃ av ac q c r, o.ctr = [av, ac, q, c, r] ∧ av + ac = cfg.limit ∧
          ac = (svcFold .pooled j.svc (obs.take (k + 1))).ids.length := by
  intro obs
  induction obs with
  | nil => intro j i _ k o hk; simp at hk
  | cons o1 rest ih =>
    intro j i h k o hk
    obtain ⟨j', hj, h⟩ := judgeRun_cons h
    obtain ⟨_, j1, _, rfl, hl, hcn⟩ := judgeObs_ok hj
    rw [hc] at hl
    cases k with
    | zero =>
      cases hk
      have hle : ¬ cfg.limit < (svcStep .pooled j.svc o1).ids.length := by simpa [overLimit, hc] using hl
      exact ⟨_, _, _, _, _, pooledCounters_ok hc hcn, by simp only [hc]; omega, by simp only [hc]; rfl⟩
    | succ k => simpa only [hc, List.take_succ_cons, svcFold] using ih _ (i + 1) h k o hk

/-- **Soundness (counters, pooled).** If the judge accepts a transcript of the pooled component, then at every
line the five reported counters `[available, active, queued, completed, rejected]` satisfy
`available + active = limit`, and `active` is the number of items in service computed from the observations
alone (offers answered `start` whose `fin` was not yet seen). -/
theorem judge_sound_pooled_counters (cfg : Cfg) (hc : cfg.comp = .pooled) (obs : List Obs)
    (h : judgeRun cfg {} 0 obs = none) :
    ∀ (k : Nat) (o : Obs), obs[k]? = some o →
      ∃ av ac q c r, o.ctr = [av, ac, q, c, r] ∧ av + ac = cfg.limit ∧
        ac = (svcFold .pooled {} (obs.take (k + 1))).ids.length :=
  judge_sound_pooled_counters_gen cfg hc obs {} 0 h

/-- rejected: a unit is reported free while an item is in service -/
example : judgeRun { comp := .pooled, limit := 1 } {} 0 [⟨0, .offer 0 none, .start, [1, 1, 0, 0, 0], false⟩]
    = some "indus/pooled/counter-mismatch available expected 0 reported 1 at-line 0" := by decide +kernel

/-- rejected: `active` does not count the item that was started -/
example : judgeRun { comp := .pooled, limit := 2 } {} 0 [⟨0, .offer 0 none, .start, [2, 0, 0, 0, 0], false⟩]
    = some "indus/pooled/counter-mismatch available expected 1 reported 2 at-line 0" := by decide +kernel

end HappyModel.C08.Indus
