import HappyModel.C09.SyncSpec
import HappyProofs.C09.ResourceInv
/-! Invariants of the RWLock, Semaphore, Mutex and Barrier models, preserved by every operation; what the judges
share (process lines: all; the prefix check on wake lists: all but Barrier). -/
namespace HappyModel.C09.Sync

theorem wokeCheck_prefix (pfx : String) (w r : List Nat) : wokeCheck pfx (w ++ r) w = none :=
  if_pos (List.take_left' rfl)

theorem wokeCheck_take {α} (pfx : String) (l : List (Nat × α)) (k : Nat) :
    wokeCheck pfx (l.map (·.1)) ((l.take k).map (·.1)) = none := by
  have := wokeCheck_prefix pfx ((l.take k).map (·.1)) ((l.drop k).map (·.1))
  rwa [← List.map_append, List.take_append_drop] at this

theorem Pend.add_nil (p : Pend) (t : Nat) : p.add t [] = p := List.append_nil p

/-- on a `got` line the judge answers what the driver's pending list answers -/
theorem procObs_got (pfx : String) (p : Pend) (o : Obs) (id : Nat) (hk : o.k = .got id 0) :
    procObs pfx p o = some (match (p.got o.t id).2 with
      | .ok => .ok (p.got o.t id).1
      | .late => .error (pfx ++ "/wait/resumed-late")
      | .unexpected => .error (pfx ++ "/grant/resumed-without-grant")) := by
  unfold procObs Pend.got
  simp only [hk]
  cases p.find? (·.1 == id) with
  | none => rfl
  | some q => by_cases hq : q.2 = o.t <;> simp [hq]

theorem procObs_fin (pfx : String) (p : Pend) (o : Obs) (hk : o.k = .fin) :
    procObs pfx p o = some (if !p.isEmpty then .error (pfx ++ "/grant/never-resumed") else .ok p) := by
  unfold procObs; rw [hk]

theorem ite_fst {α β : Type} {P : α → Prop} {c : Prop} [Decidable c] {a b : α × β} (ha : c → P a.1) (hb : ¬ c → P b.1) :
    P (if c then a else b).1 := by
  split
  · exact ha ‹_›
  · exact hb ‹_›

namespace RW

def HeadBlocked (s : St) : Prop :=
  ∀ w ws, s.waiters = w :: ws →
    (w.2 = true → (s.writer = true ∨ 0 < s.readers)) ∧
    (w.2 = false → (s.writer = true ∨ atMax s = true))

structure Inv (s : St) : Prop where
  excl : s.writer = true → s.readers = 0
  maxOk : s.maxR ≠ 0 → s.readers ≤ s.maxR
  head : HeadBlocked s

theorem init_inv (m : Nat) : Inv { maxR := m } :=
  ⟨by simp, by simp, by intro w ws h; simp at h⟩

theorem atMax_pos {s : St} (h : atMax s = true) : 0 < s.readers := by
  unfold atMax at h
  simp at h
  omega

theorem free_no_waiters {s : St} (inv : Inv s) (hw : s.writer = false) (hr : s.readers = 0) : s.waiters = [] := by
  cases hq : s.waiters with
  | nil => rfl
  | cons w ws =>
    have := inv.head w ws hq
    have := @atMax_pos s
    cases hb : w.2 <;> simp_all <;> omega

theorem canRead_iff {s : St} :
    canRead s = true ↔ s.writer = false ∧ (∀ w ∈ s.waiters, w.2 = false) ∧ atMax s = false := by
  simp only [canRead, Bool.and_eq_true, Bool.not_eq_true', List.any_eq_false, Bool.not_eq_true, and_assoc]

theorem canRead_no_waiters {s : St} (inv : Inv s) (h : canRead s = true) : s.waiters = [] := by
  obtain ⟨hw, hany, hmax⟩ := canRead_iff.mp h
  cases hq : s.waiters with
  | nil => rfl
  | cons w ws =>
    rcases (inv.head w ws hq).2 (hany w (hq ▸ List.mem_cons_self)) with h | h
    · rw [hw] at h; cases h
    · rw [hmax] at h; cases h

theorem wakeReaders_spec (maxR : Nat) (r : Nat) (ws : List (Nat × Bool)) (hmax : maxR ≠ 0 → r ≤ maxR) :
    r ≤ (wakeReaders maxR r ws).1 ∧ (maxR ≠ 0 → (wakeReaders maxR r ws).1 ≤ maxR) ∧
    (∀ w rest, (wakeReaders maxR r ws).2.2 = w :: rest →
      w.2 = true ∨ (maxR ≠ 0 ∧ (wakeReaders maxR r ws).1 ≥ maxR)) ∧
    (∀ w rest, ws = w :: rest → w.2 = false → 0 < (wakeReaders maxR r ws).1) := by
  induction ws generalizing r with
  | nil => exact ⟨Nat.le_refl _, hmax, nofun, nofun⟩
  | cons w ws ih =>
    unfold wakeReaders
    split
    · rename_i hw
      refine ⟨Nat.le_refl _, hmax, ?_, ?_⟩
      · intro w' rest h; cases h; exact Or.inl hw
      · intro w' rest h hf; cases h; rw [hw] at hf; cases hf
    · split
      · rename_i hm
        simp only [Bool.and_eq_true, bne_iff_ne, ne_eq, decide_eq_true_eq] at hm
        refine ⟨Nat.le_refl _, hmax, ?_, fun _ _ _ _ => by show 0 < r; omega⟩
        intro w' rest h; cases h; exact Or.inr hm
      · rename_i hm
        simp only [Bool.and_eq_true, bne_iff_ne, ne_eq, decide_eq_true_eq, not_and, Nat.not_le] at hm
        have := ih (r + 1) (fun h0 => by have := hm h0; omega)
        dsimp only
        exact ⟨by omega, this.2.1, this.2.2.1, fun _ _ _ _ => by omega⟩

theorem wakeR_inv (s : St) (hw : s.writer = false) (maxOk : s.maxR ≠ 0 → s.readers ≤ s.maxR)
    (w : Nat × Bool) (ws : List (Nat × Bool)) (hq : s.waiters = w :: ws) (hwr : w.2 = false) : Inv (wakeR s).1 := by
  have sp := wakeReaders_spec s.maxR s.readers s.waiters maxOk
  have hpos := sp.2.2.2 w ws hq hwr
  unfold wakeR
  refine ⟨?_, sp.2.1, ?_⟩
  · intro h; rw [hw] at h; cases h
  · intro w' ws' h
    rcases sp.2.2.1 w' ws' h with hb | ⟨h0, hge⟩
    · exact ⟨fun _ => Or.inr hpos, fun hb' => by rw [hb] at hb'; cases hb'⟩
    · refine ⟨fun _ => Or.inr hpos, fun _ => Or.inr ?_⟩
      unfold atMax
      simp only [Bool.and_eq_true, bne_iff_ne, ne_eq, decide_eq_true_eq]
      exact ⟨h0, hge⟩

/-- the three things `_wake_waiters` can do: nothing (a writer is active, nobody waits, or a writer heads the line while
    readers are active), hand the lock to the writer at the head, or admit readers from the head -/
theorem wake_cases {motive : St × List Nat → Prop} (s : St)
    (idle : (s.writer = true ∨ s.waiters = [] ∨ ∃ i ws, s.waiters = (i, true) :: ws ∧ s.readers ≠ 0) → motive (s, []))
    (writer : ∀ i ws, s.writer = false → s.waiters = (i, true) :: ws → s.readers = 0 →
      motive ({ s with writer := true, waiters := ws }, [i]))
    (readers : ∀ i ws, s.writer = false → s.waiters = (i, false) :: ws → motive (wakeR s)) : motive (wake s) := by
  unfold wake
  cases hw : s.writer with
  | true => exact idle (Or.inl hw)
  | false =>
    cases hq : s.waiters with
    | nil => exact idle (Or.inr (Or.inl hq))
    | cons w ws =>
      obtain ⟨i, wr⟩ := w
      cases wr with
      | false => exact readers i ws hw hq
      | true =>
        show motive (if s.readers == 0 then _ else _)
        by_cases hr : s.readers = 0
        · rw [if_pos (beq_iff_eq.mpr hr)]; exact writer i ws hw hq hr
        · rw [if_neg (fun h => hr (beq_iff_eq.mp h))]; exact idle (Or.inr (Or.inr ⟨i, ws, hq, hr⟩))

theorem wake_inv (s : St) (excl : s.writer = true → s.readers = 0) (maxOk : s.maxR ≠ 0 → s.readers ≤ s.maxR) :
    Inv (wake s).1 := by
  refine wake_cases (motive := fun r => Inv r.1) s (fun h => ⟨excl, maxOk, ?_⟩)
    (fun i ws hw hq hr => ⟨fun _ => hr, maxOk, fun _ _ _ => ⟨fun _ => Or.inl rfl, fun _ => Or.inl rfl⟩⟩)
    (fun i ws hw hq => wakeR_inv s hw maxOk (i, false) ws hq rfl)
  intro w ws' hq
  rcases h with h | h | ⟨i, ws, h, hr⟩
  · exact ⟨fun _ => Or.inl h, fun _ => Or.inl h⟩
  · rw [h] at hq; cases hq
  · rw [h] at hq; cases hq
    exact ⟨fun _ => Or.inr (Nat.pos_of_ne_zero hr), nofun⟩

theorem grantR_inv (s : St) (inv : Inv s) (h : canRead s = true) : Inv { s with readers := s.readers + 1 } := by
  obtain ⟨hw, _, hmax⟩ := canRead_iff.mp h
  refine ⟨?_, fun (h0 : s.maxR ≠ 0) => ?_, ?_⟩
  · intro (h' : s.writer = true)
    rw [hw] at h'; cases h'
  · simp only [atMax, Bool.and_eq_false_iff, bne_eq_false_iff_eq, decide_eq_false_iff_not, Nat.not_le] at hmax
    show s.readers + 1 ≤ s.maxR
    omega
  · intro w ws (h' : s.waiters = w :: ws)
    rw [canRead_no_waiters inv h] at h'; cases h'

theorem grantW_inv (s : St) (inv : Inv s) (h : canWrite s = true) : Inv { s with writer := true } := by
  simp only [canWrite, Bool.and_eq_true, Bool.not_eq_true', beq_iff_eq] at h
  exact ⟨fun _ => h.2, inv.maxOk, fun w ws h' => by simp [free_no_waiters inv h.1 h.2] at h'⟩

theorem queue_inv (s : St) (inv : Inv s) (id : Nat) (b : Bool)
    (hbw : b = true → canWrite s = false) (hbr : b = false → canRead s = false) :
    Inv { s with waiters := s.waiters ++ [(id, b)] } := by
  refine ⟨inv.excl, inv.maxOk, head_snoc inv.head fun hq => ⟨fun hb => ?_, fun hb => ?_⟩⟩
  · have := hbw hb
    unfold canWrite at this
    simp only [Bool.and_eq_false_iff, Bool.not_eq_false', beq_eq_false_iff_ne] at this
    rcases this with h | h
    · exact Or.inl h
    · exact Or.inr (by show 0 < s.readers; omega)
  · have := hbr hb
    unfold canRead at this
    simp only [Bool.and_eq_false_iff, Bool.not_eq_false'] at this
    rcases this with (h | h) | h
    · exact Or.inl h
    · rw [hq] at h; cases h
    · exact Or.inr h

theorem step_inv (s : St) (o : Op) (inv : Inv s) : Inv (step s o).1 := by
  cases o with
  | tryRead id => exact ite_fst (grantR_inv s inv) (fun _ => inv)
  | tryWrite id => exact ite_fst (grantW_inv s inv) (fun _ => inv)
  | acquireRead id =>
    exact ite_fst (grantR_inv s inv) (fun h => queue_inv s inv id false nofun (fun _ => by simpa using h))
  | acquireWrite id =>
    exact ite_fst (grantW_inv s inv) (fun h => queue_inv s inv id true (fun _ => by simpa using h) nofun)
  | releaseRead =>
    refine ite_fst (fun _ => inv) (fun h => wake_inv _ (fun hw => ?_) (fun h0 => ?_))
    · have := inv.excl hw
      show s.readers - 1 = 0
      omega
    · have := inv.maxOk h0
      show s.readers - 1 ≤ s.maxR
      omega
  | releaseWrite => exact ite_fst (fun _ => inv) (fun _ => wake_inv _ nofun inv.maxOk)

theorem run_inv (s : St) (ops : List Op) (inv : Inv s) : Inv (run s ops) := by
  induction ops generalizing s with
  | nil => exact inv
  | cons o os ih => exact ih _ (step_inv s o inv)

theorem wake_maxR (s : St) : (wake s).1.maxR = s.maxR :=
  wake_cases (motive := fun r => r.1.maxR = s.maxR) s (fun _ => rfl) (fun _ _ _ _ _ => rfl) (fun _ _ _ _ => rfl)

theorem step_maxR (s : St) (o : Op) : (step s o).1.maxR = s.maxR := by
  cases o <;> simp only [step, apply_ite Prod.fst, apply_ite St.maxR, wake_maxR, ite_self]

theorem run_maxR (s : St) (ops : List Op) : (run s ops).maxR = s.maxR := by
  induction ops generalizing s with
  | nil => rfl
  | cons o os ih => simp [run, ih, step_maxR]

end RW

namespace Sem

structure Inv (s : St) : Prop where
  capPos : 0 < s.cap
  lo : 0 ≤ s.count
  hi : s.count ≤ s.cap
  waitFits : ∀ w ∈ s.waiters, 0 < w.2 ∧ w.2 ≤ s.cap
  headBlocked : ∀ w ws, s.waiters = w :: ws → s.count < w.2

theorem init_inv (cap : Int) (h : 0 < cap) : Inv (St.init cap) :=
  ⟨h, by simp [St.init]; omega, by simp [St.init], by simp [St.init], by intro w ws hw; simp [St.init] at hw⟩

theorem take_inv (s : St) (inv : Inv s) (n : Int) (h1 : ¬ n < 1) (h2 : n ≤ s.count) :
    Inv { s with count := s.count - n } := by
  refine ⟨inv.capPos, ?_, ?_, inv.waitFits, ?_⟩
  · show 0 ≤ s.count - n; omega
  · show s.count - n ≤ s.cap; have := inv.hi; omega
  · intro w ws hw; have := inv.headBlocked w ws hw; show s.count - n < w.2; omega

theorem step_inv (s : St) (o : Op) (inv : Inv s) : Inv (step s o).1 := by
  cases o with
  | tryAcquire id n => exact ite_fst (fun _ => inv) (fun h1 => ite_fst (take_inv s inv n h1) (fun _ => inv))
  | acquire id n =>
    refine ite_fst (fun _ => inv) (fun h1 => ite_fst (fun _ => inv) (fun h3 => ite_fst (take_inv s inv n h1) (fun h2 => ?_)))
    exact ⟨inv.capPos, inv.lo, inv.hi, snoc_all inv.waitFits ⟨by show 0 < n; omega, by show n ≤ s.cap; omega⟩,
      head_snoc inv.headBlocked (fun _ => by show s.count < n; omega)⟩
  | release n =>
    refine ite_fst (fun _ => inv) (fun h1 => ite_fst (fun _ => inv) (fun h2 => ?_))
    have hwpos : ∀ w ∈ s.waiters, 0 < w.2 := fun w hw => (inv.waitFits w hw).1
    -- `Sem.amtSum` / `Sem.wakeN` are `abbrev`s of the Resource's (inside `namespace Sync`, `Res` is the result type, hence
    -- `_root_`); `omega` compares atoms syntactically, so both spellings are unfolded to one before it is called
    have hfits := _root_.HappyModel.C09.Res.wakeN_sum_le (s.count + n) s.waiters hwpos (by have := inv.lo; omega)
    have hnn := _root_.HappyModel.C09.Res.amtSum_nonneg (s.waiters.take (wakeN (s.count + n) s.waiters))
      (fun g hg => hwpos g (List.mem_of_mem_take hg))
    refine ⟨inv.capPos, ?_, ?_, ?_, ?_⟩
    · show 0 ≤ s.count + n - amtSum _; simp only [amtSum, wakeN] at *; omega
    · show s.count + n - amtSum _ ≤ s.cap; simp only [amtSum, wakeN] at *; omega
    · intro w hw; exact inv.waitFits w (List.mem_of_mem_drop hw)
    · intro w ws hw
      exact _root_.HappyModel.C09.Res.wakeN_head_blocked (s.count + n) s.waiters w ws hw

theorem run_inv (s : St) (ops : List Op) (inv : Inv s) : Inv (run s ops) := by
  induction ops generalizing s with
  | nil => exact inv
  | cons o os ih => exact ih _ (step_inv s o inv)

theorem step_cap (s : St) (o : Op) : (step s o).1.cap = s.cap := by
  cases o <;> simp only [step, apply_ite Prod.fst, apply_ite St.cap, ite_self]

theorem run_cap (s : St) (ops : List Op) : (run s ops).cap = s.cap := by
  induction ops generalizing s with
  | nil => rfl
  | cons o os ih => simp [run, ih, step_cap]

end Sem

namespace Mutex

structure Inv (s : St) : Prop where
  waitLocked : s.waiters ≠ [] → s.locked = true

inductive Leaf (s : St) : Op → St × Out → Prop
  | tryRefused (id) (hl : s.locked = true) : Leaf s (.tryAcquire id) (s, ⟨.refused, []⟩)
  | tryGranted (id) (hl : s.locked = false) : Leaf s (.tryAcquire id) ({ s with locked := true }, ⟨.granted, []⟩)
  | queued (id) (hl : s.locked = true) : Leaf s (.acquire id) ({ s with waiters := s.waiters ++ [id] }, ⟨.queued, []⟩)
  | granted (id) (hl : s.locked = false) : Leaf s (.acquire id) ({ s with locked := true }, ⟨.granted, []⟩)
  | relFree (hl : s.locked = false) : Leaf s .release (s, ⟨.errRuntime, []⟩)
  | relLast (hl : s.locked = true) (hq : s.waiters = []) : Leaf s .release ({ s with locked := false }, ⟨.released, []⟩)
  | relHand (hl : s.locked = true) {w ws} (hq : s.waiters = w :: ws) :
    Leaf s .release ({ s with waiters := ws }, ⟨.released, [w]⟩)

theorem step_leaf (s : St) (o : Op) : Leaf s o (step s o) := by
  have hf : ¬ s.locked = true → s.locked = false := (Bool.not_eq_true _).mp
  cases o with
  | tryAcquire id =>
    show Leaf s _ (if s.locked then _ else _)
    split
    · exact .tryRefused id ‹_›
    · exact .tryGranted id (hf ‹_›)
  | acquire id =>
    show Leaf s _ (if s.locked then _ else _)
    split
    · exact .queued id ‹_›
    · exact .granted id (hf ‹_›)
  | release =>
    show Leaf s _ (if !s.locked then _ else _)
    split <;> rename_i hl <;> simp only [Bool.not_eq_true', Bool.not_eq_false] at hl
    · exact .relFree hl
    split
    · exact .relLast hl ‹_›
    · exact .relHand hl ‹_›

theorem Inv.free {s : St} (inv : Inv s) (hl : s.locked = false) : s.waiters = [] :=
  Classical.byContradiction fun h => by have := inv.waitLocked h; rw [hl] at this; cases this

theorem Leaf.inv {s : St} {o : Op} {r : St × Out} (h : Leaf s o r) (inv : Inv s) : Inv r.1 := by
  cases h with
  | tryRefused | relFree => exact inv
  | relLast _ hq => exact ⟨fun h => absurd hq h⟩
  | relHand hl | queued _ hl => exact ⟨fun _ => hl⟩
  | _ => exact ⟨fun _ => rfl⟩

theorem step_inv (s : St) (o : Op) (inv : Inv s) : Inv (step s o).1 := (step_leaf s o).inv inv

theorem run_inv (s : St) (ops : List Op) (inv : Inv s) : Inv (run s ops) := by
  induction ops generalizing s with
  | nil => exact inv
  | cons o os ih => exact ih _ (step_inv s o inv)

end Mutex

namespace Barrier

structure Inv (s : St) : Prop where
  below : s.waiters.length < s.parties

theorem init_inv (parties : Nat) (h : 0 < parties) : Inv { parties := parties } := ⟨h⟩

inductive Leaf (s : St) : Op → St × Out × Nat → Prop
  | broken (id) (hb : s.broken = true) : Leaf s (.wait id) (s, ⟨.errRuntime, []⟩, 0)
  | trip (id) (hb : s.broken = false) (hn : s.waiters.length + 1 ≥ s.parties) :
    Leaf s (.wait id) ({ s with waiters := [], generation := s.generation + 1 }, ⟨.passed, s.waiters⟩, 0)
  | queue (id) (hb : s.broken = false) (hn : ¬ s.waiters.length + 1 ≥ s.parties) :
    Leaf s (.wait id) ({ s with waiters := s.waiters ++ [id] }, ⟨.queued, []⟩, s.parties - (s.waiters.length + 1))
  | reset : Leaf s .reset ({ s with waiters := [], broken := false, generation := s.generation + 1 }, ⟨.ok, s.waiters⟩, 0)
  | abort : Leaf s .abort ({ s with waiters := [], broken := true }, ⟨.ok, s.waiters⟩, 0)

theorem step_leaf (s : St) (o : Op) : Leaf s o (step s o) := by
  cases o with
  | wait id =>
    show Leaf s _ (if s.broken then _ else _)
    split
    · exact .broken id ‹_›
    have hb := (Bool.not_eq_true _).mp ‹_›
    split
    · exact .trip id hb ‹_›
    · exact .queue id hb ‹_›
  | reset => exact .reset
  | abort => exact .abort

section
variable {s : St} {o : Op} {r : St × Out × Nat}

theorem Leaf.parties (h : Leaf s o r) : r.1.parties = s.parties := by cases h <;> rfl

theorem Leaf.inv (h : Leaf s o r) (inv : Inv s) : Inv r.1 := by
  have := inv.below
  cases h with
  | broken => exact inv
  | queue id _ hn => exact ⟨by show (s.waiters ++ [id]).length < s.parties; simp; omega⟩
  | _ => exact ⟨by show 0 < s.parties; omega⟩

end

theorem step_parties (s : St) (o : Op) : (step s o).1.parties = s.parties := (step_leaf s o).parties

theorem run_parties (s : St) (ops : List Op) : (run s ops).parties = s.parties := by
  induction ops generalizing s with
  | nil => rfl
  | cons o os ih => simp [run, ih, step_parties]

theorem step_inv (s : St) (o : Op) (inv : Inv s) : Inv (step s o).1 := (step_leaf s o).inv inv

theorem run_inv (s : St) (ops : List Op) (inv : Inv s) : Inv (run s ops) := by
  induction ops generalizing s with
  | nil => exact inv
  | cons o os ih => exact ih _ (step_inv s o inv)

end Barrier
end HappyModel.C09.Sync
