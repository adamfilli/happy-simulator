import HappyModel.C09.Bulkhead
import HappyProofs.C09.Lists
namespace HappyModel.C09.Bulkhead

def qids (s : St) : List Nat := s.queue.map Entry.bid

def notIn (l : List Nat) (i : Nat) : Bool := !l.contains i

/-- `head`: a request waits only while every permit is taken.  `ledger` with `sorted` is the FIFO order: of the ids ever
    queued, those that did not expire are the ones admitted from the queue followed by the ones waiting, and ids grow
    along that list -/
structure Inv (s : St) : Prop where
  maxPos : 0 < s.max
  bound : s.active ≤ s.max
  act : s.active = s.inflight.length
  qbound : s.queue.length ≤ s.maxQ
  head : s.queue ≠ [] → s.active = s.max
  reqs : s.total = s.accepted + s.rejected + s.timedOut + s.queue.length
  qcount : s.queued = s.admittedQ.length + s.queue.length + s.expired.length
  tcount : s.timedOut = s.expired.length
  sorted : (s.admittedQ ++ qids s).Pairwise (· < ·)
  fresh : ∀ x ∈ s.admittedQ ++ qids s, x ≤ s.nextId
  ledger : s.everQ.filter (notIn s.expired) = s.admittedQ ++ qids s
  everFresh : ∀ x ∈ s.everQ, x ≤ s.nextId
  expFresh : ∀ x ∈ s.expired, x ≤ s.nextId

theorem init_inv (max maxQ wait : Nat) (h : 0 < max) : Inv { max := max, maxQ := maxQ, wait := wait } :=
  ⟨h, Nat.zero_le _, rfl, Nat.zero_le _, by simp, rfl, rfl, rfl, by simp [qids], by simp [qids], by simp [qids], by simp, by simp⟩

theorem skipped_append_remaining (w t : Nat) (q : List Entry) : skipped w t q ++ remaining w t q = q := by
  induction q with
  | nil => rfl
  | cons e es ih =>
    simp only [skipped, remaining]
    split
    · simp [ih]
    · rfl

theorem notIn_append (l m : List Nat) : notIn (l ++ m) = fun i => notIn l i && notIn m i := by
  funext i; simp [notIn, Bool.not_or]

theorem filter_notIn_disjoint {a b : List Nat} (h : ∀ x ∈ a, x ∉ b) : a.filter (notIn b) = a :=
  List.filter_eq_self.2 fun x hx => by simpa [notIn] using h x hx

theorem filter_notIn_middle (a b c : List Nat) (h : (a ++ (b ++ c)).Pairwise (· < ·)) :
    (a ++ (b ++ c)).filter (notIn b) = a ++ c := by
  rw [List.pairwise_append] at h
  obtain ⟨_, hbc, hab⟩ := h
  rw [List.pairwise_append] at hbc
  have h2 : b.filter (notIn b) = [] := List.filter_eq_nil_iff.2 fun x hx => by simp [notIn, hx]
  rw [List.filter_append, List.filter_append, h2,
    filter_notIn_disjoint fun x hx hxb => Nat.lt_irrefl _ (hab x hx x (List.mem_append_left _ hxb)),
    filter_notIn_disjoint fun x hx hxb => Nat.lt_irrefl _ (hbc.2.2 x hxb x hx)]
  rfl

theorem filter_notIn_one (a q : List Nat) (x : Nat) (hx : x ∈ q) (h : (a ++ q).Pairwise (· < ·)) :
    (a ++ q).filter (notIn [x]) = a ++ q.filter (· != x) := by
  rw [List.filter_append, filter_notIn_disjoint fun y hy hyx =>
    Nat.ne_of_lt ((List.pairwise_append.1 h).2.2 y hy x hx) (List.mem_singleton.1 hyx)]
  congr 1
  apply List.filter_congr
  intro y _
  by_cases hyx : y = x <;> simp [notIn, hyx]

theorem forward_fields (s : St) (rid : Nat) :
    (forward s rid).queue = s.queue ∧ (forward s rid).active = s.active + 1 ∧ (forward s rid).max = s.max
    ∧ (forward s rid).maxQ = s.maxQ ∧ (forward s rid).nextId = s.nextId + 1
    ∧ (forward s rid).inflight = s.inflight ++ [(s.nextId + 1, rid)]
    ∧ (forward s rid).accepted = s.accepted + 1 := ⟨rfl, rfl, rfl, rfl, rfl, rfl, rfl⟩

theorem step_req_adm (s : St) (rid t : Nat) (h : s.active < s.max) :
    step s (.request rid t) = (forward { s with total := s.total + 1 } rid, .admitted (s.nextId + 1)) :=
  if_pos h

theorem step_req_queued (s : St) (rid t : Nat) (h : ¬ s.active < s.max) (hq : s.queue.length < s.maxQ) :
    step s (.request rid t) = (enqueue { s with total := s.total + 1 } rid t, .queued (s.nextId + 1)) :=
  (if_neg h).trans (if_pos hq)

theorem step_req_rej (s : St) (rid t : Nat) (h : ¬ s.active < s.max) (hq : ¬ s.queue.length < s.maxQ) :
    step s (.request rid t) = ({ s with total := s.total + 1, rejected := s.rejected + 1 }, .rejected) :=
  (if_neg h).trans (if_neg hq)

theorem step_resp_unknown (s : St) (bid t : Nat) (h : s.inflight.any (·.1 == bid) = false) :
    step s (.response bid t) = (s, .unknown) :=
  if_pos (by rw [h]; rfl)

theorem step_resp_known (s : St) (bid t : Nat) (h : s.inflight.any (·.1 == bid) = true) :
    step s (.response bid t)
      = ((tryProcess { s with inflight := s.inflight.eraseP (·.1 == bid), active := s.active - 1 } t).1,
         .completed (tryProcess { s with inflight := s.inflight.eraseP (·.1 == bid), active := s.active - 1 } t).2) :=
  if_neg (by rw [h]; decide)

theorem step_tmo_hit (s : St) (bid t : Nat) (h : s.queue.any (·.bid == bid) = true) :
    step s (.timeout bid t)
      = ({ s with queue := s.queue.filter (·.bid != bid), timedOut := s.timedOut + 1, expired := s.expired ++ [bid] }, .timedOut) :=
  if_pos h

theorem step_tmo_miss (s : St) (bid t : Nat) (h : s.queue.any (·.bid == bid) = false) :
    step s (.timeout bid t) = (s, .noop) :=
  if_neg (by rw [h]; decide)

theorem tryProcess_idle (s : St) (t : Nat) (h : s.queue = [] ∨ s.max ≤ s.active) : tryProcess s t = (s, none) := by
  unfold tryProcess
  rcases h with h | h
  · rw [if_pos (by rw [h]; rfl)]
  · split <;> rfl

theorem tryProcess_free (s : St) (t : Nat) (h : s.active < s.max) :
    tryProcess s t =
      match remaining s.wait t s.queue with
      | [] => ({ s with timedOut := s.timedOut + (skipped s.wait t s.queue).length,
                        expired := s.expired ++ (skipped s.wait t s.queue).map Entry.bid, queue := [] }, none)
      | e :: es =>
        (forward { s with timedOut := s.timedOut + (skipped s.wait t s.queue).length,
                          expired := s.expired ++ (skipped s.wait t s.queue).map Entry.bid, queue := es,
                          admittedQ := s.admittedQ ++ [e.bid] } e.rid, some (e.rid, s.nextId + 1)) := by
  unfold tryProcess
  split
  next hq =>
    cases s
    simp_all [skipped, remaining]
  next => rw [if_neg (by omega)]; rfl

theorem tryProcess_params (s : St) (t : Nat) :
    (tryProcess s t).1.max = s.max ∧ (tryProcess s t).1.maxQ = s.maxQ ∧ (tryProcess s t).1.wait = s.wait := by
  by_cases h : s.active < s.max
  · rw [tryProcess_free s t h]
    split <;> exact ⟨rfl, rfl, rfl⟩
  · rw [tryProcess_idle s t (.inr (by omega))]; exact ⟨rfl, rfl, rfl⟩

theorem step_params (s : St) (o : Op) : (step s o).1.max = s.max ∧ (step s o).1.maxQ = s.maxQ ∧ (step s o).1.wait = s.wait := by
  cases o <;> simp only [step] <;> (repeat' split) <;> first | exact ⟨rfl, rfl, rfl⟩ | exact tryProcess_params _ _

theorem filter_notIn_append (l a b : List Nat) : l.filter (notIn (a ++ b)) = (l.filter (notIn a)).filter (notIn b) := by
  rw [List.filter_filter, notIn_append]
  congr 1
  funext i
  exact Bool.and_comm _ _

/-! The five clauses of `Inv` (and of `Mid`) about the ghost ledgers speak of four lists and `nextId` only:
`a` admitted from the queue, `q` waiting, `x` expired, `ev` ever queued. -/

structure Led (a q x ev : List Nat) (n : Nat) : Prop where
  sorted : (a ++ q).Pairwise (· < ·)
  fresh : ∀ i ∈ a ++ q, i ≤ n
  ledger : ev.filter (notIn x) = a ++ q
  everFresh : ∀ i ∈ ev, i ≤ n
  expFresh : ∀ i ∈ x, i ≤ n

variable {a q x ev : List Nat} {n : Nat}

theorem Led.bump (h : Led a q x ev n) : Led a q x ev (n + 1) :=
  ⟨h.sorted, fun i hi => Nat.le_succ_of_le (h.fresh i hi), h.ledger, fun i hi => Nat.le_succ_of_le (h.everFresh i hi),
   fun i hi => Nat.le_succ_of_le (h.expFresh i hi)⟩

theorem Led.enqueue (h : Led a q x ev n) : Led a (q ++ [n + 1]) x (ev ++ [n + 1]) (n + 1) := by
  have hb := h.bump
  refine ⟨?_, ?_, ?_, snoc_all hb.everFresh (Nat.le_refl _), hb.expFresh⟩
  · rw [← List.append_assoc, List.pairwise_append]
    refine ⟨h.sorted, List.pairwise_singleton _ _, fun i hi j hj => ?_⟩
    have := h.fresh i hi
    rw [List.mem_singleton.1 hj]; omega
  · rw [← List.append_assoc]
    exact snoc_all hb.fresh (Nat.le_refl _)
  · have hne : notIn x (n + 1) = true := by
      simp only [notIn, Bool.not_eq_true', ← Bool.not_eq_true, List.contains_iff_mem]
      intro hm; have := h.expFresh _ hm; omega
    rw [List.filter_append, h.ledger, ← List.append_assoc]
    simp [hne]

theorem Led.timeout {b : Nat} (h : Led a q x ev n) (hm : b ∈ q) : Led a (q.filter (· != b)) (x ++ [b]) ev n := by
  have hsub : (a ++ q.filter (· != b)).Sublist (a ++ q) := (List.Sublist.refl _).append List.filter_sublist
  refine ⟨h.sorted.sublist hsub, fun i hi => h.fresh i (hsub.subset hi), ?_, h.everFresh,
    snoc_all h.expFresh (h.fresh b (List.mem_append_right _ hm))⟩
  rw [filter_notIn_append, h.ledger, filter_notIn_one _ _ _ hm h.sorted]

theorem Led.expire {sk rem : List Nat} (h : Led a (sk ++ rem) x ev n) : Led a rem (x ++ sk) ev n := by
  have hk := filter_notIn_middle _ _ _ h.sorted
  refine ⟨hk ▸ h.sorted.filter _, fun i hi => h.fresh i ?_, ?_, h.everFresh, fun i hi => ?_⟩
  · rcases List.mem_append.1 hi with hi | hi
    · exact List.mem_append_left _ hi
    · exact List.mem_append_right _ (List.mem_append_right _ hi)
  · rw [filter_notIn_append, h.ledger, hk]
  · rcases List.mem_append.1 hi with hi | hi
    · exact h.expFresh i hi
    · exact h.fresh i (List.mem_append_right _ (List.mem_append_left _ hi))

theorem Led.admitOne {e : Nat} {es : List Nat} (h : Led a (e :: es) x ev n) : Led (a ++ [e]) es x ev n :=
  ⟨by simpa using h.sorted, by simpa using h.fresh, by simpa using h.ledger, h.everFresh, h.expFresh⟩

theorem Inv.led {s : St} (h : Inv s) : Led s.admittedQ (qids s) s.expired s.everQ s.nextId := { h with }

theorem request_inv (s : St) (rid t : Nat) (inv : Inv s) : Inv (step s (.request rid t)).1 := by
  have hb := inv.bound
  have hr := inv.reqs
  by_cases hlt : s.active < s.max
  · rw [step_req_adm s rid t hlt]
    have hq : s.queue = [] := Classical.byContradiction fun hq => by have := inv.head hq; omega
    have L := inv.led.bump
    exact { L, inv with
      bound := hlt, act := by simp [forward, inv.act], head := fun h => absurd hq h,
      reqs := by show s.total + 1 = s.accepted + 1 + s.rejected + s.timedOut + s.queue.length; omega }
  · by_cases hroom : s.queue.length < s.maxQ
    · rw [step_req_queued s rid t hlt hroom]
      have L : Led s.admittedQ (qids s ++ [s.nextId + 1]) s.expired (s.everQ ++ [s.nextId + 1]) (s.nextId + 1) :=
        inv.led.enqueue
      have hqc := inv.qcount
      have hqi : qids (enqueue { s with total := s.total + 1 } rid t) = qids s ++ [s.nextId + 1] := by
        simp [qids, enqueue]
      refine { L, inv with
        qbound := ?_, head := fun _ => ?_, reqs := ?_, qcount := ?_,
        sorted := hqi ▸ L.sorted, fresh := hqi ▸ L.fresh, ledger := hqi ▸ L.ledger }
      · simp only [enqueue, List.length_append, List.length_singleton]; omega
      · show s.active = s.max; omega
      · simp only [enqueue, List.length_append, List.length_singleton]; omega
      · simp only [enqueue, List.length_append, List.length_singleton]; omega
    · rw [step_req_rej s rid t hlt hroom]
      exact { inv with
        reqs := by show s.total + 1 = s.accepted + (s.rejected + 1) + s.timedOut + s.queue.length; omega }

theorem timeout_inv (s : St) (bid t : Nat) (inv : Inv s) : Inv (step s (.timeout bid t)).1 := by
  cases hany : s.queue.any (·.bid == bid) with
  | false => rw [step_tmo_miss s bid t hany]; exact inv
  | true =>
    rw [step_tmo_hit s bid t hany]
    have hmem : bid ∈ qids s := by
      obtain ⟨e, he, hb⟩ := List.any_eq_true.1 hany
      exact List.mem_map.2 ⟨e, he, by simpa using hb⟩
    have hlen : (s.queue.filter (·.bid != bid)).length + 1 = s.queue.length := by
      have := filter_ne_length_nodup (s.queue.map Entry.bid) bid
        ((List.pairwise_append.1 inv.sorted).2.1.imp Nat.ne_of_lt) hmem
      rwa [List.filter_map, List.length_map, List.length_map] at this
    have L : Led s.admittedQ ((s.queue.filter (·.bid != bid)).map Entry.bid) (s.expired ++ [bid]) s.everQ s.nextId := by
      have := inv.led.timeout hmem
      rwa [qids, List.filter_map] at this
    have hq := inv.qbound
    have hr := inv.reqs
    have hqc := inv.qcount
    have ht := inv.tcount
    refine { L, inv with
      qbound := ?_, head := fun hne => inv.head fun hq0 => hne ?_, reqs := ?_, qcount := ?_, tcount := ?_ }
    · show (s.queue.filter (·.bid != bid)).length ≤ s.maxQ; omega
    · show s.queue.filter (·.bid != bid) = []; rw [hq0]; rfl
    · show s.total = s.accepted + s.rejected + (s.timedOut + 1) + (s.queue.filter (·.bid != bid)).length; omega
    · show s.queued = s.admittedQ.length + (s.queue.filter (·.bid != bid)).length + (s.expired ++ [bid]).length
      simp; omega
    · show s.timedOut + 1 = (s.expired ++ [bid]).length
      simp; omega

/-- the state in the middle of `_handle_response`: a permit has been returned, the queue not yet looked at -/
structure Mid (s : St) : Prop where
  maxPos : 0 < s.max
  lt : s.active < s.max
  act : s.active = s.inflight.length
  qbound : s.queue.length ≤ s.maxQ
  head : s.queue ≠ [] → s.active + 1 = s.max
  reqs : s.total = s.accepted + s.rejected + s.timedOut + s.queue.length
  qcount : s.queued = s.admittedQ.length + s.queue.length + s.expired.length
  tcount : s.timedOut = s.expired.length
  sorted : (s.admittedQ ++ qids s).Pairwise (· < ·)
  fresh : ∀ x ∈ s.admittedQ ++ qids s, x ≤ s.nextId
  ledger : s.everQ.filter (notIn s.expired) = s.admittedQ ++ qids s
  everFresh : ∀ x ∈ s.everQ, x ≤ s.nextId
  expFresh : ∀ x ∈ s.expired, x ≤ s.nextId

theorem Mid.led {s : St} (h : Mid s) : Led s.admittedQ (qids s) s.expired s.everQ s.nextId := { h with }

theorem tryProcess_inv (s : St) (t : Nat) (m : Mid s) : Inv (tryProcess s t).1 := by
  have hlt := m.lt
  have hsplit := skipped_append_remaining s.wait t s.queue
  have hlen : (skipped s.wait t s.queue).length + (remaining s.wait t s.queue).length = s.queue.length := by
    rw [← List.length_append, hsplit]
  have L : Led s.admittedQ ((remaining s.wait t s.queue).map Entry.bid)
      (s.expired ++ (skipped s.wait t s.queue).map Entry.bid) s.everQ s.nextId :=
    Led.expire (by rw [← List.map_append, hsplit]; exact m.led)
  have hr := m.reqs
  have hqc := m.qcount
  have ht := m.tcount
  have hqb := m.qbound
  rw [tryProcess_free s t hlt]
  split
  next hrem =>
    rw [hrem] at L hlen
    refine { L, m with
      bound := Nat.le_of_lt hlt, qbound := Nat.zero_le _, head := fun h => absurd rfl h,
      reqs := ?_, qcount := ?_, tcount := ?_ } <;> simp at hlen ⊢ <;> omega
  next e es hrem =>
    rw [hrem] at L hlen
    have L := L.admitOne.bump
    have hne : s.queue ≠ [] := fun h => by rw [h] at hrem; cases hrem
    refine { L, m with
      bound := hlt, act := by simp [forward, m.act], qbound := ?_, head := fun _ => m.head hne,
      reqs := ?_, qcount := ?_, tcount := ?_ } <;> simp [forward] at hlen ⊢ <;> omega

theorem response_inv (s : St) (bid t : Nat) (inv : Inv s) : Inv (step s (.response bid t)).1 := by
  cases hany : s.inflight.any (·.1 == bid) with
  | false => rw [step_resp_unknown s bid t hany]; exact inv
  | true =>
    rw [step_resp_known s bid t hany]
    obtain ⟨e, he, hp⟩ := List.any_eq_true.1 hany
    have hlen := List.length_eraseP_of_mem (p := fun x => x.1 == bid) he hp
    have hpos : 0 < s.inflight.length := List.length_pos_of_mem he
    have hact := inv.act
    have hb := inv.bound
    apply tryProcess_inv
    refine { inv with lt := ?_, act := ?_, head := ?_ }
    · show s.active - 1 < s.max; omega
    · show s.active - 1 = (s.inflight.eraseP (·.1 == bid)).length; omega
    · intro hq; show s.active - 1 + 1 = s.max; have := inv.head hq; omega

theorem step_inv (s : St) (o : Op) (inv : Inv s) : Inv (step s o).1 := by
  cases o with
  | request rid t => exact request_inv s rid t inv
  | response bid t => exact response_inv s bid t inv
  | timeout bid t => exact timeout_inv s bid t inv

theorem run_inv (s : St) (ops : List Op) (inv : Inv s) : Inv (run s ops) := by
  induction ops generalizing s with
  | nil => exact inv
  | cons o os ih => exact ih _ (step_inv s o inv)

end HappyModel.C09.Bulkhead

namespace HappyModel.C09

def bhInit (max maxQ wait : Nat) : Bulkhead.St := { max := max, maxQ := maxQ, wait := wait }

theorem bh_run_params (s : Bulkhead.St) (ops : List Bulkhead.Op) :
    (Bulkhead.run s ops).max = s.max ∧ (Bulkhead.run s ops).maxQ = s.maxQ ∧ (Bulkhead.run s ops).wait = s.wait := by
  induction ops generalizing s with
  | nil => exact ⟨rfl, rfl, rfl⟩
  | cons o os ih =>
    have h := Bulkhead.step_params s o
    have := ih (Bulkhead.step s o).1
    exact ⟨by rw [Bulkhead.run, this.1, h.1], by rw [Bulkhead.run, this.2.1, h.2.1], by rw [Bulkhead.run, this.2.2, h.2.2]⟩

end HappyModel.C09
