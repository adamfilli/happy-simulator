import HappyProofs.C14.LsmSyncPut
import HappyProofs.C14.LsmReadStep
import HappyProofs.C14.TxnMain
/-!
# Transaction manager over the LSM tree (`Store.lsm`)

The transaction theorems of `TxnMain.lean` ask two map laws of the store.  A *quiescent* LSM tree without
a WAL (the structural invariant `SInv` holds, nothing is frozen, no compaction is suspended — the state
between two `put_sync` calls) obeys them (`lsm_laws`, from `putSync_spec`), the empty tree with at least two
levels and every tree built from it by `put_sync` is such a store (`lsmOk_init`, `lsmOk_built`), so commit-order
serializability and snapshot-read consistency hold for a `TransactionManager` over an `LSMTree` under
every compaction strategy and every bloom-filter behaviour.

The `get` *generator* of the tree (which the manager's reads go through; it pays one page read per
SSTable whose bloom filter answers "maybe") returns `get_sync` whenever the tree does not change while it
is suspended: `lsm_get_first_segment`, `lsm_get_quiescent`.
-/
namespace HappyModel.C14.SM
open HappyModel.C14

/-- an LSM tree without WAL, satisfying its structural invariant, with no flush and no compaction
    suspended -/
def lsmOk (s : Store) : Prop :=
  ∃ cfg st, s = .lsm cfg st ∧ cfg.wal = none ∧ SInv cfg st ∧ st.imms = [] ∧ st.compacting = false

theorem lsm_laws :
    (∀ s k v, lsmOk s → lsmOk (s.putSync k v)) ∧
    (∀ s k v k', lsmOk s → (s.putSync k v).getSync k' = if k' = k then some v else s.getSync k') := by
  constructor
  · rintro s k v ⟨cfg, st, rfl, hw, hs, hi, hc⟩
    obtain ⟨a, b, c, _⟩ := putSync_spec cfg st k (some v) hw hs hi hc
    exact ⟨cfg, _, rfl, hw, a, b, c⟩
  · rintro s k v k' ⟨cfg, st, rfl, hw, hs, hi, hc⟩
    exact (putSync_spec cfg st k (some v) hw hs hi hc).2.2.2 k'

theorem lsm_mapLaws : MapLaws lsmOk := ⟨lsm_laws.1, lsm_laws.2⟩

theorem abs_init (cfg : Cfg) (k : Key) : (St.init cfg).abs k = none := by
  simp [St.abs, St.read, St.init, lookTabs_nil, lookLevels_replicate_nil]

theorem lsmOk_init (cfg : Cfg) (hw : cfg.wal = none) (h2 : 2 ≤ cfg.maxLevels) : lsmOk (.lsm cfg (St.init cfg)) :=
  ⟨cfg, _, rfl, hw, sinv_init cfg [] h2, rfl, rfl⟩

/-- every tree built by `put_sync`s from the empty tree (the driver's initial contents) is such a store -/
theorem lsmOk_built (cfg : Cfg) (hw : cfg.wal = none) (h2 : 2 ≤ cfg.maxLevels) (kvs : List (Key × Nat)) :
    lsmOk (kvs.foldl (fun s e => s.putSync e.1 e.2) (.lsm cfg (St.init cfg))) :=
  (applyWrites_spec lsm_mapLaws kvs _ _ (lsmOk_init cfg hw h2) fun _ => rfl).1

theorem serializable_commit_order_lsm (s0 : Store) (h0 : lsmOk s0) (acts : List Act) :
    let r := runA { store := s0 } acts
    (∀ k, r.1.store.getSync k = replay s0.getSync r.2 k) ∧
    ∀ pre post slot wset tx, r.2 = pre ++ Ev.committed slot wset :: post →
      r.1.tx? slot = some tx → tx.level = .ser →
      ∀ k val, Ev.fetched slot k val ∈ pre → val = replay s0.getSync pre k :=
  serializable_commit_order lsmOk lsm_laws.1 lsm_laws.2 s0 h0 acts

theorem snapshot_reads_consistent_lsm (s0 : Store) (h0 : lsmOk s0) (acts : List Act) :
    let r := runA { store := s0 } acts
    ∀ pre mid post slot k val tx, r.2 = pre ++ Ev.began slot :: mid ++ Ev.fetched slot k val :: post →
      r.1.tx? slot = some tx → tx.level ≠ .rc → val = replay s0.getSync pre k :=
  snapshot_reads_consistent lsmOk lsm_laws.1 lsm_laws.2 s0 h0 acts

/-- a `get k` on an LSM store whose remaining segments can only return cells in `Al` (`GetAl` for the store machine) -/
def SGetAl (st : St) (k : Key) (Al : Cell → Prop) : SPc → Prop
  | .start (.get k') => k' = k ∧ Al (st.abs k)
  | .lsmGet pc => GetAl st k Al pc
  | .done (.val c) => Al c
  | _ => False

theorem lsmGetStep_al {cfg : Cfg} {st : St} {k : Key} {Al : Cell → Prop} {pc : Pc} (h : GetAl st k Al pc) :
    SGetAl st k Al (lsmGetStep cfg st pc) := by
  have h' := getAl_step (cfg := cfg) h
  unfold lsmGetStep
  generalize (stepOp cfg st pc).2 = pc' at h'
  -- `GetAl` of a program counter outside `get` is `False`
  cases pc' with
  | done r => cases r <;> first | exact h' | cases h'
  | gStart k' => exact h'
  | gAt k' i t r => exact h'
  | _ => cases h'

theorem sGetAl_step {cfg : Cfg} {st : St} {k : Key} {Al : Cell → Prop} {pc : SPc} (h : SGetAl st k Al pc) :
    (stepS (.lsm cfg st) pc).1 = .lsm cfg st ∧ SGetAl st k Al (stepS (.lsm cfg st) pc).2 := by
  cases pc with
  | start op =>
    cases op with
    | get k' =>
      obtain ⟨rfl, hal⟩ : k' = k ∧ _ := h
      exact ⟨rfl, lsmGetStep_al (pc := .gStart k') ⟨rfl, hal⟩⟩
    | _ => cases h
  | lsmGet pc => exact ⟨rfl, lsmGetStep_al h⟩
  | done r => exact ⟨rfl, h⟩
  | _ => cases h

/-- a change of the tree and of the allowed cells acts on a `get` in progress through the current value (before its
    first segment), the reader invariant (at a page read) or the cell in hand (at the end) -/
theorem SGetAl.lift {st st' : St} {k : Key} {Al Al' : Cell → Prop} {p : SPc} (h : SGetAl st k Al p)
    (hm : ∀ c, Al c → Al' c) (habs : Al (st.abs k) → Al' (st'.abs k))
    (hrb : ∀ i snap, RB st.mem st.imms st.levels k i snap Al → RB st'.mem st'.imms st'.levels k i snap Al') :
    SGetAl st' k Al' p := by
  cases p with
  | start op => cases op <;> first | exact ⟨h.1, habs h.2⟩ | cases h
  | lsmGet pc =>
    cases pc with
    | gStart k' => exact ⟨h.1, habs h.2⟩
    | gAt k' i t r => exact ⟨h.1, hrb i _ h.2⟩
    | done r => cases r <;> first | exact hm _ h | cases h
    | _ => cases h
  | done r => cases r <;> first | exact hm _ h | cases h
  | _ => cases h

theorem SGetAl.mono {st : St} {k : Key} {Al Al' : Cell → Prop} {p : SPc} (h : SGetAl st k Al p)
    (hm : ∀ c, Al c → Al' c) : SGetAl st k Al' p :=
  h.lift hm (hm _) fun _ _ r => r.mono hm

/-- a `get` that finishes in its first segment (memtable hit, or no SSTable's bloom filter answers
    "maybe") returns `get_sync` (the structural invariant is not needed for it) -/
theorem lsm_get_first_segment (cfg : Cfg) (st : St) (k : Key) (c : Option Nat)
    (h : lsmGetStep cfg st (.gStart k) = .done (.val c)) (hs : SInv cfg st) : c = st.abs k := by
  have := lsmGetStep_al (cfg := cfg) (k := k) (Al := (· = st.abs k)) (pc := .gStart k) ⟨rfl, rfl⟩
  rw [h] at this
  exact this

/-- `n` segments of one operation of the store machine, nothing interleaved -/
def iterS (s : Store) : Nat → SPc → Store × SPc
  | 0, pc => (s, pc)
  | n + 1, pc => iterS (stepS s pc).1 n (stepS s pc).2

/-- **`get` against an unchanging tree**: however many page reads it takes, when the generator finishes it
    returns `get_sync`, and it leaves the tree alone (the structural invariant is not needed for it) -/
theorem lsm_get_quiescent (cfg : Cfg) (st : St) (k : Key) (hs : SInv cfg st) (n : Nat) :
    (iterS (.lsm cfg st) n (.start (.get k))).1 = .lsm cfg st ∧
    ∀ c, (iterS (.lsm cfg st) n (.start (.get k))).2 = .done (.val c) → c = st.abs k := by
  have gen : ∀ (n : Nat) (pc : SPc), SGetAl st k (· = st.abs k) pc →
      (iterS (.lsm cfg st) n pc).1 = .lsm cfg st ∧ SGetAl st k (· = st.abs k) (iterS (.lsm cfg st) n pc).2 := by
    intro n
    induction n with
    | zero => exact fun pc h => ⟨rfl, h⟩
    | succ n ih =>
      intro pc h
      obtain ⟨a, b⟩ := sGetAl_step (cfg := cfg) h
      show (iterS (stepS (.lsm cfg st) pc).1 n (stepS (.lsm cfg st) pc).2).1 = _ ∧
        SGetAl st k _ (iterS (stepS (.lsm cfg st) pc).1 n (stepS (.lsm cfg st) pc).2).2
      rw [a]
      exact ih _ b
  obtain ⟨a, b⟩ := gen n (.start (.get k)) ⟨rfl, rfl⟩
  refine ⟨a, fun c hc => ?_⟩
  rw [hc] at b
  exact b


def exLsmCfg : Cfg := { memSize := 1, maxLevels := 2, strat := .sizeTiered 2 }

/-- five `put_sync`s (two overwrites): every one flushes, every second one compacts -/
def exLsm : Store :=
  [((0 : Key), 10), (1, 11), (0, 12), (2, 13), (1, 14)].foldl (fun s e => s.putSync e.1 e.2) (.lsm exLsmCfg (St.init exLsmCfg))

def Store.tabs : Store → List (List Tab)
  | .lsm _ st => st.levels
  | _ => []

example : lsmOk exLsm := lsmOk_built exLsmCfg rfl (by decide +kernel) _

/-- the tree really went through flushes and compactions (L0 holds one SSTable, L1 the merged one with
    the overwritten values), and `get_sync` returns the latest value of every key -/
example :
    exLsm.tabs = [[⟨5, [(1, some 14)]⟩], [⟨6, [(0, some 12), (1, some 11), (2, some 13)]⟩]] ∧
    (List.range 4).map exLsm.getSync = [some 12, some 14, some 13, none] := by
  decide +kernel

/-- a `get` that needs page reads: with a bloom filter answering "maybe" for key 2 on the L0 table
    (a false positive) the generator suspends twice and then returns `get_sync(2)` -/
def exLsmCfgFp : Cfg := { exLsmCfg with fp := [(mask [(1, some 14)], 2)] }

def exLsmFp : Store :=
  [((0 : Key), 10), (1, 11), (0, 12), (2, 13), (1, 14)].foldl (fun s e => s.putSync e.1 e.2) (.lsm exLsmCfgFp (St.init exLsmCfgFp))

example : lsmOk exLsmFp := lsmOk_built exLsmCfgFp rfl (by decide +kernel) _

example :
    (iterS exLsmFp 1 (.start (.get 2))).2.isDone = false ∧ (iterS exLsmFp 2 (.start (.get 2))).2.isDone = false ∧
    (match (iterS exLsmFp 3 (.start (.get 2))).2 with | .done (.val c) => c == some 13 | _ => false) = true ∧
    exLsmFp.getSync 2 = some 13 := by
  decide +kernel

end HappyModel.C14.SM
