import HappyProofs.C14.TxnJudgeOrder
/-!
# The transaction judge accepts observations that satisfy `TxnFacts`

`judgeTxn_of_facts`: if the observations `ts` of a run, a commit history `h` (position of the commit call,
slot, write set; strictly sorted by position) and the final store satisfy `TxnFacts` — own writes are
returned, the committed transactions are exactly the entries of `h`, the final store is the serial replay of
`h`, SERIALIZABLE transactions read the serial state just before their commit, SNAPSHOT_ISOLATION
transactions read the serial state at one position not after any of their reads nor their commit — then the
judge of the Spec (`TxSpec.judgeTxn`) has no finding.  The serial order the judge needs is the commit order
itself, which `TxnJudgeOrder.lean` shows to be `h`.
-/
namespace HappyModel.C14.SM
open HappyModel.C14 HappyModel.C14.BT HappyModel.C14.TxSpec

/-- the commit order is a serial order: final store, and reads of the SERIALIZABLE transactions -/
theorem serialOk_commitOrder (b : Bool) {init finalF : Key → Option Nat} {ts : List TObs} {h : Hist}
    (st0 : State) (nkeys : Nat) (hf : TxnFacts init finalF ts h) (hinit : ∀ k, st0.lookup k = init k) :
    serialOk b nkeys ((List.range nkeys).map finalF) st0 (commitOrder ts) = true := by
  apply serialOk_of
  · intro p t q hpq hl
    have ht : t ∈ commitOrder ts := by rw [hpq]; simp
    have htm := (mem_commitOrder ts t).1 ht
    have hmap := commitOrder_map hf
    rw [hpq, List.map_append, List.map_cons] at hmap
    have hfil := filter_before_entry (p.map keyOf) (keyOf t) (q.map keyOf) (by rw [hmap]; exact hf.sorted)
    rw [hmap] at hfil
    simp only [readsMatch, List.all_eq_true, beq_iff_eq]
    intro r hr
    rw [lookup_runW p st0 init hinit r.1, ← hfil]
    exact (hf.ser t htm.1 htm.2 hl r hr).symm
  · intro k hk
    rw [lookup_runW _ st0 init hinit k, commitOrder_map hf, ← hf.final k]
    simp [List.getD_eq_getElem?_getD, hk]

/-- a SNAPSHOT_ISOLATION transaction read from the state after a prefix of the commit order -/
theorem snapshotOk_of_facts {init finalF : Key → Option Nat} {ts : List TObs} {h : Hist}
    (st0 : State) (hf : TxnFacts init finalF ts h) (hinit : ∀ k, st0.lookup k = init k)
    (t : TObs) (ht : t ∈ ts) (hl : t.level = .si) : snapshotOk st0 ts t = true := by
  unfold snapshotOk
  split
  · rfl
  · rename_i hne
    obtain ⟨nb, h1, h2, h3⟩ := hf.si t ht hl
    have hnb : nb ≤ t.ext.foldl (fun m r => max m r.2.2) 0 := by
      cases hext : t.ext with
      | nil => simp [hext] at hne
      | cons r0 rest =>
        have hr0 : r0 ∈ t.ext := by simp [hext]
        have := (le_foldl_max t.ext 0).2 r0 hr0
        have := h1 r0 hr0
        rw [← hext]
        omega
    obtain ⟨s', hm, hs'⟩ := prefixStates_before
      (fun c => c.slot != t.slot && decide (c.commitPos < t.ext.foldl (fun m r => max m r.2.2) 0)) nb
      (commitOrder ts) st0 init (commitOrder_sorted ts) (by
        intro c hc hlt
        have hk : keyOf c ∈ h := commitOrder_map hf ▸ List.mem_map_of_mem hc
        have hslot : c.slot ≠ t.slot := by
          intro he
          have := h2 (keyOf c) hk he
          simp only [keyOf] at this
          omega
        simp only [Bool.and_eq_true, bne_iff_ne, ne_eq, decide_eq_true_eq]
        exact ⟨hslot, by omega⟩) hinit
    simp only [List.any_eq_true]
    refine ⟨s', hm, ?_⟩
    simp only [readsMatch, List.all_eq_true, beq_iff_eq]
    intro r hr
    rw [hs' r.1, commitOrder_map hf]
    exact (h3 r hr).symm

theorem judgeTxn_of_facts (init finalF : Key → Option Nat) (ts : List TObs) (h : Hist) (st0 : State) (nkeys : Nat)
    (hf : TxnFacts init finalF ts h) (hinit : ∀ k, st0.lookup k = init k) :
    judgeTxn st0 nkeys ((List.range nkeys).map finalF) ts = none := by
  have hown : ts.find? (·.ownBad) = none := by
    rw [List.find?_eq_none]
    intro t ht
    simp [hf.own t ht]
  have hser : ∀ b, (if (commitOrder ts).length ≤ 6 then commitOrder ts :: perms (commitOrder ts)
      else [commitOrder ts]).any (fun p => serialOk b nkeys ((List.range nkeys).map finalF) st0 p) = true := by
    intro b
    have := serialOk_commitOrder b st0 nkeys hf hinit
    split <;> simp [this]
  have hsi : (ts.find? fun t => t.level = .si && !snapshotOk st0 ts t) = none := by
    rw [List.find?_eq_none]
    intro t ht
    by_cases hl : t.level = .si
    · simp [snapshotOk_of_facts st0 hf hinit t ht hl]
    · simp [hl]
  simp only [judgeTxn, hown, hser, hsi, Bool.not_true, Bool.false_eq_true, if_false]

/-! A SNAPSHOT_ISOLATION reader (slot 1) reads key 0 (segments 0–1, old value 5) and key 1 (segments 3–4, absent) and
commits read-only at position 5; a SERIALIZABLE writer (slot 2) reads key 0 and overwrites it, committing at
position 2, in the middle of the reader.  The reader's snapshot position is 1. -/
namespace JudgeEx

def init : Key → Option Nat := fun k => if k = 0 then some 5 else none
def finalF : Key → Option Nat := fun k => if k = 0 then some 7 else none
def reader : TObs :=
  { slot := 1, level := .si, steps := [.read 0 (some 5) 0 1, .read 1 none 3 4], commit := some (5, true) }
def writer : TObs :=
  { slot := 2, level := .ser, steps := [.read 0 (some 5) 1 1, .write 0 7, .read 0 (some 7) 2 2], commit := some (2, true) }
def hist : Hist := [(2, 2, [(0, 7)]), (5, 1, [])]

theorem facts : TxnFacts init finalF [reader, writer] hist where
  slots := by decide
  sorted := by decide
  own := by decide
  comm_hist := by decide
  hist_comm := by decide
  final := by
    intro k
    simp only [finalF, init, hist, stateEnd, applyF, putF, List.foldl_cons, List.foldl_nil]
    by_cases hk : k = 0 <;> simp [hk]
  ser := by decide
  si := by
    intro t ht hl
    simp only [List.mem_cons, List.not_mem_nil, or_false] at ht
    rcases ht with rfl | rfl
    · exact ⟨1, by decide, by decide, by decide⟩
    · exact absurd hl (by decide)

example : writer.ext = [(0, some 5, 1)] ∧ reader.ext.length = 2 ∧ writer.wset = [(0, 7)] := by decide +kernel

example : judgeTxn [(0, 5)] 2 ((List.range 2).map finalF) [reader, writer] = none :=
  judgeTxn_of_facts init finalF [reader, writer] hist [(0, 5)] 2 facts (by
    intro k
    simp only [init, lookup_cons_ite, List.lookup_nil])

-- the judge evaluates to the same verdict, and rejects a reader that returns a value no prefix state holds
#guard (judgeTxn [(0, 5)] 2 [some 7, none] [reader, writer]).isNone
#guard (judgeTxn [(0, 5)] 2 [some 7, none]
  [{ reader with steps := [.read 0 (some 6) 0 1, .read 1 none 3 4] }, writer]).isSome

end JudgeEx

end HappyModel.C14.SM

#print axioms HappyModel.C14.SM.judgeTxn_of_facts
#print axioms HappyModel.C14.SM.JudgeEx.facts
