import HappyProofs.C11.ProgStep
/-! The fairness side of the bounded-progress theorem, as decidable predicates over the action list:

* `ackedRun v L t k p s as`  the run contains, in this order, the delivery to follower `p` of an
                             AppendEntries of term `t` from `L` that carries index `k`, and the
                             delivery to `L` of the reply `p` sent to exactly that message
* `noRegressRun …`           no acknowledgement of fewer than `k` entries from a follower of `Q` is
                             delivered to `L` once `match_index` for that follower has reached `k`
                             (an older reply does not overtake a newer one)

and what the delivery of an AppendEntries does at a follower. -/
namespace HappyModel.C11
open Spec

/-- an AppendEntries of term `t` whose entries cover index `k` -/
def carries (t k : Nat) : Body → Bool
  | .ae t' _ pi _ es _ => t' == t && decide (pi < k) && decide (k ≤ pi + es.length)
  | _ => false

/-- where follower `p` stands: waiting for the entry, entry accepted (reply has id `rid`), reply handled by the leader.
    `phStep` names the reply by the id it will get, `s.nextId`: the follower's handler sends exactly one message (`SentOne`). -/
inductive Ph
  | waitAE
  | waitAR (rid : Nat)
  | done
deriving DecidableEq, Repr

def phStep (s : St) (L t k p : Nat) : Ph → Act → Ph
  | .waitAE, .deliver m =>
    match findMsg s m with
    | some e => if canDeliver s e && e.src == L && e.dst == p && carries t k e.body then .waitAR s.nextId else .waitAE
    | none => .waitAE
  | .waitAR rid, .deliver m =>
    if m = rid then
      match findMsg s m with
      | some e => if canDeliver s e then .done else .waitAR rid
      | none => .waitAR rid
    else .waitAR rid
  | ph, _ => ph

def phRun (v : Variant) (L t k p : Nat) : Ph → St → List Act → Ph
  | ph, _, [] => ph
  | ph, s, a :: as => phRun v L t k p (phStep s L t k p ph a) (step v s a).1 as

/-- FAIRNESS for follower `p`: the entry at `k` reaches `p` and `p`'s reply reaches `L` -/
def ackedRun (v : Variant) (L t k p : Nat) (s : St) (as : List Act) : Bool :=
  decide (phRun v L t k p .waitAE s as = .done)

/-- the action hands `L` an acknowledgement `< k` from a follower of `Q` whose `match_index` is already `≥ k` -/
def regress (s : St) (L t k : Nat) (Q : List Nat) : Act → Bool
  | .deliver m =>
    match findMsg s m with
    | some e =>
      canDeliver s e && e.dst == L &&
        (match e.body with
         | .ar t' true f mi => t' == t && Q.contains f && decide (mi < k) && decide (k ≤ (s.nodes L).matchIndex.getD f 0)
         | _ => false)
    | none => false
  | _ => false

def noRegressRun (v : Variant) (L t k : Nat) (Q : List Nat) : St → List Act → Bool
  | _, [] => true
  | s, a :: as => !regress s L t k Q a && noRegressRun v L t k Q (step v s a).1 as

theorem phStep_done (s : St) (L t k p : Nat) (a : Act) : phStep s L t k p .done a = .done := by
  cases a <;> rfl

theorem phStep_cases (s : St) (L t k p : Nat) (ph : Ph) (a : Act) :
    phStep s L t k p ph a = ph
    ∨ (ph = .waitAE ∧ phStep s L t k p ph a = .waitAR s.nextId ∧
        ∃ m e, a = .deliver m ∧ findMsg s m = some e ∧ canDeliver s e = true ∧ e.src = L ∧ e.dst = p ∧ carries t k e.body = true)
    ∨ (∃ rid e, ph = .waitAR rid ∧ phStep s L t k p ph a = .done ∧ a = .deliver rid ∧ findMsg s rid = some e ∧ canDeliver s e = true) := by
  cases ph with
  | done => left; exact phStep_done s L t k p a
  | waitAE =>
    cases a with
    | deliver m =>
      cases hf : findMsg s m with
      | none => left; simp [phStep, hf]
      | some e =>
        by_cases hc : (canDeliver s e && e.src == L && e.dst == p && carries t k e.body) = true
        · right; left
          have hc' := hc
          simp only [Bool.and_eq_true, beq_iff_eq] at hc'
          exact ⟨rfl, by simp only [phStep, hf, hc, if_true], m, e, rfl, hf, hc'.1.1.1, hc'.1.1.2, hc'.1.2, hc'.2⟩
        · left; simp only [phStep, hf, hc]; rfl
    | _ => left; rfl
  | waitAR rid =>
    cases a with
    | deliver m =>
      by_cases hm : m = rid
      · subst hm
        cases hf : findMsg s m with
        | none => left; simp [phStep, hf]
        | some e =>
          by_cases hc : canDeliver s e = true
          · right; right
            exact ⟨m, e, rfl, by simp only [phStep, hf, hc, if_true], rfl, hf, hc⟩
          · left; simp only [phStep, hf, hc, if_true]; rfl
      · left; simp only [phStep, hm, if_false]
    | _ => left; rfl

theorem sync_not_bad {s : St} {L p : Nat} (v : Variant) (t : Nat) {pi pt : Nat}
    (h : Agree (s.nodes L).log (s.nodes p).log pi ∧ pt = (if pi > 0 then termAt (s.nodes L).log pi else 0)) :
    aeBad (stepDown v (s.nodes p) t) pi pt = false := by
  obtain ⟨hag, hpt⟩ := h
  rw [aeBad_eq_false_iff]
  by_cases hpi : pi > 0
  · obtain ⟨k, rfl⟩ : ∃ k, pi = k + 1 := ⟨pi - 1, by omega⟩
    have hlen : k < (s.nodes L).log.length := hag.1
    have hget : getE (s.nodes L).log (k + 1) = some (s.nodes L).log[k] := by rw [getE_succ, List.getElem?_eq_getElem hlen]
    exact Or.inr ⟨_, hag.entry (Nat.le_refl _) hget, by rw [hpt, if_pos hpi, termAt_of_getE hget]⟩
  · exact Or.inl (by omega)

/-- The footprint of a step in which the handler of `i` sent exactly one message, `b` to `d`: it carries the next id, and
    nothing changes but node `i`. -/
structure SentOne (s s' : St) (i d : Nat) (b : Body) : Prop where
  msgs : s'.msgs = ⟨s.nextId, i, d, b⟩ :: s.msgs
  nextId : s'.nextId = s.nextId + 1
  n : s'.n = s.n
  crashed : s'.crashed = s.crashed
  other : ∀ j, j ≠ i → s'.nodes j = s.nodes j

theorem sentOne {s : St} {i d : Nat} {r : HR} {b : Body} (h : r.sends = [(d, b)]) : SentOne s (applyHR s i r).1 i d b :=
  ⟨by simp only [applyHR, h, mkEnvs, List.reverse_cons, List.reverse_nil, List.nil_append, List.singleton_append],
    by simp only [applyHR, h, List.length_singleton], rfl, rfl, fun j hj => upd_other _ _ _ _ hj⟩

theorem SentOne.alive_eq {s s' : St} {i d : Nat} {b : Body} (o : SentOne s s' i d b) (j : Nat) : alive s' j = alive s j := by
  unfold alive; rw [o.n, o.crashed]

theorem SentOne.find {s s' : St} {i d : Nat} {b : Body} (o : SentOne s s' i d b) :
    findMsg s' s.nextId = some ⟨s.nextId, i, d, b⟩ := by
  unfold findMsg; rw [o.msgs]; simp

theorem SentOne.deliverable {s s' : St} {i d : Nat} {b : Body} (o : SentOne s s' i d b) (hd : alive s d = true) (hi : i < s.n)
    (hne : i ≠ d) : canDeliver s' ⟨s.nextId, i, d, b⟩ = true := by
  simp only [canDeliver, Bool.and_eq_true, decide_eq_true_eq]
  exact ⟨⟨by rw [o.alive_eq]; exact hd, by rw [o.n]; exact hi⟩, hne⟩

/-- Message id `id` is awaited: it has been given out, and whatever carries it in the soup satisfies `P`. -/
def Slot (s : St) (id : Nat) (P : Env → Prop) : Prop := id < s.nextId ∧ ∀ e ∈ s.msgs, e.id = id → P e

/-- ids are not reused -/
theorem Slot.step {v : Variant} {s : St} {a : Act} {id : Nat} {P P' : Env → Prop} (h : Slot s id P) (hP : ∀ e, P e → P' e) :
    Slot (step v s a).1 id P' := by
  obtain ⟨h1, h2⟩ := step_ids v s a
  refine ⟨Nat.lt_of_lt_of_le h.1 h1, fun e he hid => ?_⟩
  rcases h2 e he with h' | h'
  · exact hP e (h.2 e h' hid)
  · have := h.1; omega

theorem SentOne.slot {s s' : St} {i d : Nat} {b : Body} (o : SentOne s s' i d b) (ids : IdsOk s) {P : Env → Prop}
    (hP : P ⟨s.nextId, i, d, b⟩) : Slot s' s.nextId P := by
  refine ⟨by rw [o.nextId]; exact Nat.lt_succ_self _, fun e he hid => ?_⟩
  rw [o.msgs] at he
  rcases List.mem_cons.mp he with rfl | he
  · exact hP
  · have := ids e he; omega

theorem Slot.read {s : St} {id : Nat} {P : Env → Prop} {e : Env} (h : Slot s id P) (hf : findMsg s id = some e) : P e :=
  h.2 e (findMsg_mem hf) (findMsg_id hf)

theorem deliver_ae (v : Variant) (hr : Rep v) {s : St} {t p m0 : Nat} {e : Env} {l pi pt lc : Nat} {es : List Entry}
    (hpt : (s.nodes p).term ≤ t) (hf : findMsg s m0 = some e) (hc : canDeliver s e = true) (hdst : e.dst = p)
    (hb : e.body = .ae t l pi pt es lc) :
    ∃ r : HR, step v s (.deliver m0) = applyHR s p r ∧ r.node.term = t ∧
      ((aeBad (stepDown v (s.nodes p) t) pi pt = true ∧ r.sends = [(e.src, .ar t false p 0)])
       ∨ (aeBad (stepDown v (s.nodes p) t) pi pt = false ∧ r = aeAccept v (stepDown v (s.nodes p) t) p e.src pi es lc
          ∧ r.sends = [(e.src, .ar t true p (pi + es.length))])) := by
  obtain ⟨r, hs, hd⟩ := step_deliver (v := v) hf hc
  rw [hdst] at hs hd
  rw [hb] at hd
  refine ⟨r, hs, ?_⟩
  cases hd with
  | same _ hi => exact absurd hpt (Nat.not_le.mpr hi)
  | down _ hd => exact ⟨rfl, Or.inl ⟨hd.2, rfl⟩⟩
  | accept _ _ _ _ _ _ _ hbad =>
    exact ⟨(ev_eq (aeAccept_fr v _ p e.src pi es lc).ev).1, Or.inr ⟨hbad, rfl, aeAccept_sends hr.ms ..⟩⟩

theorem accept_agree (v : Variant) (hr : Rep v) {s : St} (inv : Inv s) {L t p : Nat} (hest : Est s L t) {e : Env}
    (he : e ∈ s.msgs) {l pi pt lc : Nat} {es : List Entry} (hb : e.body = .ae t l pi pt es lc) (hpt : (s.nodes p).term ≤ t)
    (hbad : aeBad (stepDown v (s.nodes p) t) pi pt = false) {k : Nat} (hk : k ≤ pi + es.length) (me src : Nat) :
    Agree (s.nodes L).log (aeAccept v (stepDown v (s.nodes p) t) me src pi es lc).node.log k := by
  obtain ⟨g, rfl, all, _⟩ := inv.ghost
  obtain ⟨X, a⟩ := accept_facts v hr all.li all.hi (g.s.nodes p) (all.li.b p) (all.hi.n_cl p)
    (all.hi.n_cn p) (all.hi.m_ae e he t l pi pt es lc hb) hpt hbad _ rfl
  have hXL : X <+: (g.s.nodes L).log := hest.ll_prefix all a.ll
  refine ⟨by have := hXL.length_le; have := a.len; omega, ?_⟩
  rw [take_eq_of_prefix hXL (by have := a.len; omega)]
  exact (List.take_prefix _ _).trans a.pre

/-- the follower holds the leader's first `k` entries and is in the leader's term -/
def Acc (s : St) (L t k p : Nat) : Prop := (s.nodes p).term = t ∧ Agree (s.nodes L).log (s.nodes p).log k

/-- THE FOLLOWER'S SIDE.  An AppendEntries of the leader's term `t` that reaches index `k`, delivered to a follower `p` of a
    term `≤ t`: `p` is in term `t` afterwards and answers the sender with one message.  It refuses (the consistency check
    fails), or acknowledges `m ≥ k` entries — then it holds the leader's first `k` entries, and its commit index has
    followed the leader's as far as `k`. -/
theorem follower_ae (v : Variant) (hr : Rep v) {s : St} (inv : Inv s) {L t p k m0 : Nat} {e : Env} {l pi pt lc : Nat} {es : List Entry}
    (hest : Est s L t) (hpne : p ≠ L) (hpt : (s.nodes p).term ≤ t)
    (hf : findMsg s m0 = some e) (hc : canDeliver s e = true) (hdst : e.dst = p) (hb : e.body = .ae t l pi pt es lc)
    (hk : k ≤ pi + es.length) :
    ∃ b, SentOne s (step v s (.deliver m0)).1 p e.src b ∧ ((step v s (.deliver m0)).1.nodes p).term = t ∧
      ((aeBad (stepDown v (s.nodes p) t) pi pt = true ∧ b = .ar t false p 0)
       ∨ (aeBad (stepDown v (s.nodes p) t) pi pt = false ∧ ∃ m, k ≤ m ∧ b = .ar t true p m
            ∧ Acc (step v s (.deliver m0)).1 L t k p ∧ min lc k ≤ ((step v s (.deliver m0)).1.nodes p).commit)) := by
  obtain ⟨r, hstep, hterm, hcase⟩ := deliver_ae v hr hpt hf hc hdst hb
  have hp' : (step v s (.deliver m0)).1.nodes p = r.node := step_nodeL hstep
  rcases hcase with ⟨hbad, hsnd⟩ | ⟨hbad, hr', hsnd⟩
  · exact ⟨_, hstep ▸ sentOne hsnd, hp' ▸ hterm, Or.inl ⟨hbad, rfl⟩⟩
  · have hag := accept_agree v hr inv hest (findMsg_mem hf) hb hpt hbad hk p e.src
    refine ⟨_, hstep ▸ sentOne hsnd, hp' ▸ hterm, Or.inr ⟨hbad, _, hk, rfl, ⟨hp' ▸ hterm, ?_⟩, ?_⟩⟩
    · rw [hp', hr', hstep, applyHR_node, if_neg (fun h => hpne h.symm)]; exact hag
    · rw [hp', hr']
      have hge := aeCommit_commit (appendLoop v (stepDown v (s.nodes p) t) (pi + 1) es) lc
      have hlen := hag.2.length_le
      rw [List.length_take, show (aeAccept v (stepDown v (s.nodes p) t) p e.src pi es lc).node.log
        = (appendLoop v (stepDown v (s.nodes p) t) (pi + 1) es).log from (aeCommit_kept _ lc).log] at hlen
      have := hag.1
      show _ ≤ (aeCommit (appendLoop v (stepDown v (s.nodes p) t) (pi + 1) es) lc).node.commit
      omega

theorem sync_accepts (v : Variant) (hr : Rep v) {s : St} (inv : Inv s) {L t p k m0 : Nat} {e : Env} {l pi pt lc : Nat}
    {es : List Entry} (hest : Est s L t) (hs : Sync s L t p) (hf : findMsg s m0 = some e) (hc : canDeliver s e = true)
    (hdst : e.dst = p) (hb : e.body = .ae t l pi pt es lc) (hk : k ≤ pi + es.length) :
    ∃ m, k ≤ m ∧ SentOne s (step v s (.deliver m0)).1 p e.src (.ar t true p m)
      ∧ Acc (step v s (.deliver m0)).1 L t k p ∧ min lc k ≤ ((step v s (.deliver m0)).1.nodes p).commit := by
  obtain ⟨b, ho, _, ⟨hbad, _⟩ | ⟨_, m, hkm, rfl, hacc, hcm⟩⟩ :=
    follower_ae v hr inv hest hs.pne (Nat.le_of_eq hs.pterm) hf hc hdst hb hk
  · rw [sync_not_bad v t (hs.ae e (findMsg_mem hf) hdst l pi pt es lc hb)] at hbad; cases hbad
  · exact ⟨m, hkm, ho, hacc, hcm⟩

theorem carries_ae {t k : Nat} {b : Body} (h : carries t k b = true) :
    ∃ l pi pt es lc, b = .ae t l pi pt es lc ∧ k ≤ pi + es.length := by
  cases b with
  | ae t' l pi pt es lc =>
    simp only [carries, Bool.and_eq_true, beq_iff_eq, decide_eq_true_eq] at h
    exact ⟨l, pi, pt, es, lc, by rw [h.1.1], h.2⟩
  | _ => cases h

theorem accept_step (v : Variant) (hr : Rep v) {s : St} (inv : Inv s) {L t p k m0 : Nat} {e : Env} (hest : Est s L t)
    (hs : Sync s L t p) (hf : findMsg s m0 = some e) (hc : canDeliver s e = true) (hdst : e.dst = p)
    (hcar : carries t k e.body = true) :
    ∃ m, k ≤ m ∧ SentOne s (step v s (.deliver m0)).1 p e.src (.ar t true p m) ∧ Acc (step v s (.deliver m0)).1 L t k p := by
  obtain ⟨l, pi, pt, es, lc, hb, hk⟩ := carries_ae hcar
  obtain ⟨m, hkm, ho, hacc, _⟩ := sync_accepts v hr inv (lc := lc) hest hs hf hc hdst hb hk
  exact ⟨m, hkm, ho, hacc⟩

end HappyModel.C11
