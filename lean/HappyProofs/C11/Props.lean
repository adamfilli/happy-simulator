import HappyProofs.C11.Witness
import HappyProofs.C11.Election
import HappyProofs.C11.ApplyOrder
import HappyProofs.C11.LogMatching
import HappyProofs.C11.ApplyAgree
import HappyProofs.C11.SubmitRun
import HappyProofs.C11.Completeness
import HappyProofs.C11.Safety
import HappyProofs.C11.LeaderInit
import HappyProofs.C11.ProgJudgeOk
import HappyProofs.C11.ProgConvFair
import HappyProofs.C11.ProgFifo
/-! C11 — the property theorems, instantiated for the repaired code (`Variant.repaired`) and shown non-vacuous on decided runs.
    The general theorems stand next to their invariants, each quantified over the repair flags it needs (`keepVote` alone for
    Election Safety and Log Matching, `Rep v` = D1–D3 for Leader Completeness, State-Machine Safety, Commit Monotonicity and bounded
    progress, `dropPending` for the submit futures, none for the apply-order clauses); the runs on which `Variant.current`
    (`raft.py` before the repairs) violates a clause are in `Witness`.  `Witness` and `LeaderInit` are imported for the harness,
    which builds and audits through this file alone (`hv/props/c11.py`). -/
namespace HappyModel.C11
open Spec

/-- at most one leader per term — repaired code, all cluster sizes, all action lists -/
theorem election_safety_repaired (n : Nat) (as : List Act) : electionOk (frames Variant.repaired n as) = true :=
  election_safety Variant.repaired rfl n as

/-- non-vacuity: in a 3-node run node 0 really becomes leader of term 1 -/
example : ((frames Variant.repaired 3 [.timeout 0, .deliver 0, .deliver 2]).flatMap leaderObs) = [(1, 0)] := by decide +kernel

/-- equal (index, term) ⇒ equal prefixes — repaired code -/
theorem log_matching_repaired (n : Nat) (as : List Act) : logMatchingOk (frames Variant.repaired n as) = true :=
  log_matching Variant.repaired rfl n as

/-- a run in which logs really diverge and are repaired: leader 0 (term 1) takes c1 alone, leader 2
    (term 2) takes c2 and replicates it over 0's conflicting entry; c2 commits and is applied -/
def divergeRun : List Act :=
  [ .timeout 0, .deliver 0, .deliver 2,                       -- 0 leads term 1 (vote of 1)
    .submit 0 0 ⟨1, 0, 0, 1, none⟩,                           -- c1 at index 1 of node 0
    .timeout 2, .timeout 2, .deliver 8, .deliver 9,           -- 2 leads term 2 (vote of 1)
    .submit 2 1 ⟨2, 0, 0, 7, none⟩,                           -- c2 at index 1 of node 2
    .heartbeat 2, .deliver 12, .deliver 14 ]                  -- AppendEntries(c2) reaches node 0; its ack commits c2

example : ((frames Variant.repaired 3 divergeRun).map (fun f => f.views.map (·.log))).getLast? =
    some [[(2, 2)], [], [(2, 2)]] := by decide +kernel

/-- each node applies indices 1, 2, 3, … — repaired code (holds for every variant) -/
theorem apply_in_order_no_gaps_repaired (n : Nat) (as : List Act) : applyOrderOk (frames Variant.repaired n as) = true :=
  apply_in_order_no_gaps Variant.repaired n as

theorem apply_from_log_repaired (n : Nat) (as : List Act) : applyFromLogOk (frames Variant.repaired n as) = true :=
  apply_from_log Variant.repaired n as

/-- non-vacuity: in `divergeRun` node 2 applies command 2 at index 1 and resolves future 1 with it -/
example : (allApps (frames Variant.repaired 3 divergeRun), (frames Variant.repaired 3 divergeRun).flatMap (·.ress))
    = ([(2, 1, 2)], [(2, 1, 1)]) := by decide +kernel

/-- submit futures resolve only with their own command's index — repaired code -/
theorem submit_resolves_own_command_repaired (n : Nat) (as : List Act) (hf : FreshFutures as) :
    submitOk (frames Variant.repaired n as) = true :=
  submit_resolves_own_command Variant.repaired rfl n as hf

example : FreshFutures divergeRun := by unfold FreshFutures; decide +kernel

/-- `match_index[j] = m ≠ 0` at a leader: node `j` held the leader's first `m` entries in the leader's term -/
theorem match_sound_repaired (n : Nat) (as : List Act) (i j : Nat)
    (hl : ((run Variant.repaired (init n) as).nodes i).role = .leader)
    (hm : ((run Variant.repaired (init n) as).nodes i).matchIndex.getD j 0 ≠ 0) :
    ((run Variant.repaired (init n) as).nodes i).matchIndex.getD j 0 ≤ ((run Variant.repaired (init n) as).nodes i).log.length ∧
    ∃ k, k ≤ as.length ∧ ((run Variant.repaired (init n) (as.take k)).nodes j).term = ((run Variant.repaired (init n) as).nodes i).term ∧
      ((run Variant.repaired (init n) as).nodes i).log.take (((run Variant.repaired (init n) as).nodes i).matchIndex.getD j 0)
        <+: ((run Variant.repaired (init n) (as.take k)).nodes j).log :=
  match_sound Variant.repaired rep_repaired n as i j hl hm

/-- non-vacuity: at the end of `divergeRun` leader 2 has `match_index[0] = 1` -/
example : ((run Variant.repaired (init 3) divergeRun).nodes 2).role = .leader
    ∧ ((run Variant.repaired (init 3) divergeRun).nodes 2).matchIndex.getD 0 0 = 1 := by decide +kernel

/-- committed entries are in the log of every later leader — repaired code -/
theorem leader_completeness_repaired (n : Nat) (as : List Act) : leaderCompleteOk (frames Variant.repaired n as) = true :=
  leader_completeness Variant.repaired rep_repaired n as

theorem leader_completeness_full_holds : leader_completeness_full := leader_completeness_repaired

/-- `divergeRun`, then node 0 (which holds the committed c2) wins term 3 with the vote of node 1 -/
def laterLeaderRun : List Act := divergeRun ++ [.timeout 0, .deliver 15, .deliver 17]

/-- non-vacuity: an entry committed in term 2 is seen, and a leader of term 3 exists afterwards (and holds it) -/
example : (((frames Variant.repaired 3 laterLeaderRun).flatMap committedOf).eraseDups,
    ((frames Variant.repaired 3 laterLeaderRun).getLast?.map leaderObs),
    ((frames Variant.repaired 3 laterLeaderRun).getLast?.map (fun f => f.views.map (·.log))))
    = ([(1, (2, 2), 2)], some [(3, 0), (2, 2)], some [[(2, 2)], [], [(2, 2)]]) := by decide +kernel

/-- no two committed entries at one index differ; no two nodes apply different commands at one index — repaired code -/
theorem state_machine_safety_repaired (n : Nat) (as : List Act) :
    commitAgreeOk (frames Variant.repaired n as) = true ∧ applyAgreeOk (frames Variant.repaired n as) = true :=
  state_machine_safety Variant.repaired rep_repaired n as

theorem state_machine_safety_full_holds : state_machine_safety_full := state_machine_safety_repaired

/-- no node's commit index ever decreases — repaired code -/
theorem commit_monotone_repaired (n : Nat) (as : List Act) : commitMonotoneOk (frames Variant.repaired n as) = true :=
  commit_monotone Variant.repaired rep_repaired n as

theorem commit_monotone_full_holds : commit_monotone_full := commit_monotone_repaired

/-- no action removes or replaces an entry at or below a node's commit index — repaired code -/
theorem committed_never_truncated_repaired (n : Nat) (as : List Act) (a : Act) (j : Nat) :
    ((run Variant.repaired (init n) as).nodes j).log.take ((run Variant.repaired (init n) as).nodes j).commit
      <+: ((step Variant.repaired (run Variant.repaired (init n) as) a).1.nodes j).log :=
  committed_never_truncated Variant.repaired rep_repaired n as a j

/-- non-vacuity: commit indices do move in `divergeRun` -/
example : ((frames Variant.repaired 3 divergeRun).getLast?.map commitsOf) = some [0, 0, 1] := by decide +kernel

/-- state-machine safety for the repaired code, reduced to agreement of committed entries -/
theorem state_machine_safety_partial_repaired (n : Nat) (as : List Act)
    (hc : commitAgreeOk (frames Variant.repaired n as) = true) : applyAgreeOk (frames Variant.repaired n as) = true :=
  state_machine_safety_partial Variant.repaired n as hc

example : commitAgreeOk (frames Variant.repaired 3 divergeRun) = true := by decide +kernel

/-- the hypothesis of `commit_monotone_partial` is not vacuous: the delivery of `divergeRun` that truncates
    node 0's log (message 12) does not conflict with a committed entry -/
example : ¬ conflictBelowCommit (run Variant.repaired (init 3) (divergeRun.take 10)) (.deliver 12) := by
  have hm : findMsg (run Variant.repaired (init 3) (divergeRun.take 10)) 12
      = some ⟨12, 2, 0, .ae 2 2 0 0 [⟨2, ⟨2, 0, 0, 7, none⟩⟩] 0⟩ := by decide +kernel
  have hc : ((run Variant.repaired (init 3) (divergeRun.take 10)).nodes 0).commit = 0 := by decide +kernel
  simp only [conflictBelowCommit, hm]
  intro h; apply h
  intro j _ hle
  rw [hc] at hle; omega

/-- bounded progress — repaired code -/
theorem stable_leader_commits_repaired (n : Nat) (pre : List Act) (L t f : Nat) (c : Cmd) (Q : List Nat) (as : List Act)
    (h : StableFair Variant.repaired n pre L t f c Q as) :
    getE ((run Variant.repaired (run Variant.repaired (init n) pre) (.submit L f c :: as)).nodes L).log
        (nextIdx (run Variant.repaired (init n) pre) L) = some ⟨t, c⟩
    ∧ (∀ p ∈ Q, getE ((run Variant.repaired (run Variant.repaired (init n) pre) (.submit L f c :: as)).nodes p).log
        (nextIdx (run Variant.repaired (init n) pre) L) = some ⟨t, c⟩)
    ∧ nextIdx (run Variant.repaired (init n) pre) L
        ≤ ((run Variant.repaired (run Variant.repaired (init n) pre) (.submit L f c :: as)).nodes L).commit
    ∧ nextIdx (run Variant.repaired (init n) pre) L
        ≤ ((run Variant.repaired (run Variant.repaired (init n) pre) (.submit L f c :: as)).nodes L).lastApplied
    ∧ Hit (outs Variant.repaired (run Variant.repaired (init n) pre) (.submit L f c :: as)) L
        (nextIdx (run Variant.repaired (init n) pre) L) f c :=
  stable_leader_commits Variant.repaired rep_repaired n pre L t f c Q as h.est h.qnd h.qne h.qq h.sync h.stable h.fair h.nr

/-- node 0 wins term 1 with the vote of node 1; its first (empty) AppendEntries reach both followers and their replies reach it -/
def stablePre : List Act := [.timeout 0, .deliver 0, .deliver 2, .deliver 3, .deliver 4, .deliver 5, .deliver 6]
def cmdA : Cmd := ⟨1, 0, 0, 7, none⟩
def cmdB : Cmd := ⟨2, 0, 1, 3, none⟩

/-- after `submit 0 7 cmdA`: a heartbeat, a duplicated old acknowledgement, a second command, the AppendEntries 7/8 carrying
    cmdA reach nodes 1/2 (with a dropped old message in between), their replies 9/10 reach node 0 -/
def stableTail : List Act := [.heartbeat 0, .deliver 5, .submit 0 8 cmdB, .deliver 7, .drop 3, .deliver 8, .deliver 9, .deliver 10]

/-- non-vacuity: a concrete 3-node stable run satisfies every hypothesis of `stable_leader_commits` (quorum `0 :: [1, 2]`) -/
theorem stableFair_example : StableFair Variant.repaired 3 stablePre 0 1 7 cmdA [1, 2] stableTail := by decide +kernel

/-- … and the conclusion is what the run shows: cmdA applied at index 1 with result `val 7`, future 7 resolved with it, commit index 1 -/
example : (outs Variant.repaired (run Variant.repaired (init 3) stablePre) (.submit 0 7 cmdA :: stableTail)).flatMap (·.apps)
      = [(1, cmdA, Res.val 7)]
    ∧ (outs Variant.repaired (run Variant.repaired (init 3) stablePre) (.submit 0 7 cmdA :: stableTail)).flatMap (·.ress)
      = [(7, 1, Res.val 7)]
    ∧ ((run Variant.repaired (run Variant.repaired (init 3) stablePre) (.submit 0 7 cmdA :: stableTail)).nodes 0).commit = 1 := by decide +kernel

/-- FAIRNESS IS NEEDED.  The same start, stable, in sync, without regress — the AppendEntries carrying cmdA even reach both
    followers — but their replies are never delivered: the fairness hypothesis fails and nothing is committed or applied. -/
theorem progress_needs_fairness :
    established (run Variant.repaired (init 3) stablePre) 0 1 = true
    ∧ (∀ p ∈ [1, 2], inSync (run Variant.repaired (init 3) stablePre) 0 1 p = true)
    ∧ stableRun Variant.repaired 1 [0, 1, 2] (run Variant.repaired (init 3) stablePre)
        [.submit 0 7 cmdA, .heartbeat 0, .deliver 7, .deliver 8, .heartbeat 0] = true
    ∧ noRegressRun Variant.repaired 0 1 1 [1, 2] (run Variant.repaired (init 3) stablePre)
        [.submit 0 7 cmdA, .heartbeat 0, .deliver 7, .deliver 8, .heartbeat 0] = true
    ∧ (∀ p ∈ [1, 2], ackedRun Variant.repaired 0 1 1 p (run Variant.repaired (init 3) stablePre)
        [.submit 0 7 cmdA, .heartbeat 0, .deliver 7, .deliver 8, .heartbeat 0] = false)
    ∧ ((run Variant.repaired (run Variant.repaired (init 3) stablePre)
        [.submit 0 7 cmdA, .heartbeat 0, .deliver 7, .deliver 8, .heartbeat 0]).nodes 0).commit = 0
    ∧ ((run Variant.repaired (run Variant.repaired (init 3) stablePre)
        [.submit 0 7 cmdA, .heartbeat 0, .deliver 7, .deliver 8, .heartbeat 0]).nodes 0).lastApplied = 0 := by decide +kernel

/-- STABILITY IS NEEDED.  Node 2 times out (term 2) and its RequestVote reaches the leader: the leader steps down,
    `stableRun` fails, the next heartbeat tick sends nothing, and cmdA is not committed. -/
theorem progress_needs_stability :
    stableRun Variant.repaired 1 [0, 1, 2] (run Variant.repaired (init 3) stablePre)
        [.submit 0 7 cmdA, .timeout 2, .deliver 7, .heartbeat 0] = false
    ∧ ((run Variant.repaired (run Variant.repaired (init 3) stablePre)
        [.submit 0 7 cmdA, .timeout 2, .deliver 7, .heartbeat 0]).nodes 0).commit = 0 := by decide +kernel

/-- bounded progress as observed, and for every node — repaired code -/
theorem stable_leader_commits_obs_repaired (n : Nat) (pre : List Act) (L t f : Nat) (c : Cmd) (Q : List Nat) (as : List Act)
    (h : StableFair Variant.repaired n pre L t f c Q as) :
    (appsOf (framesFrom Variant.repaired (run Variant.repaired (init n) pre) (.submit L f c :: as)) L).filter
        (fun q => q.1 == nextIdx (run Variant.repaired (init n) pre) L) = [(nextIdx (run Variant.repaired (init n) pre) L, c.id)]
    ∧ (L, f, nextIdx (run Variant.repaired (init n) pre) L)
        ∈ (framesFrom Variant.repaired (run Variant.repaired (init n) pre) (.submit L f c :: as)).flatMap (·.ress)
    ∧ ∀ x ∈ allApps (frames Variant.repaired n (pre ++ .submit L f c :: as)),
        x.2.1 = nextIdx (run Variant.repaired (init n) pre) L → x.2.2 = c.id :=
  stable_leader_commits_obs Variant.repaired rep_repaired n pre L t f c Q as h

/-- non-vacuity of `stable_all_apply`: after the commit a heartbeat tells both followers, and they apply cmdA as well -/
def stableTail2 : List Act := stableTail ++ [.heartbeat 0, .deliver 11, .deliver 12]

example : StableFair Variant.repaired 3 stablePre 0 1 7 cmdA [1, 2] stableTail2
    ∧ (∀ p ∈ [1, 2], toldRun Variant.repaired 0 1 1 p (run Variant.repaired (init 3) stablePre) (.submit 0 7 cmdA :: stableTail2) = true)
    ∧ (allApps (frames Variant.repaired 3 (stablePre ++ .submit 0 7 cmdA :: stableTail2))).filter (fun x => x.2.1 == 1)
        = [(0, 1, 1), (1, 1, 1), (2, 1, 1)] := by decide +kernel

theorem stable_leader_commits_conv_repaired (n : Nat) (pre : List Act) (L t f : Nat) (c : Cmd) (Q : List Nat) (as : List Act)
    (h : StableConv Variant.repaired n pre L t f c Q as) :
    getE ((run Variant.repaired (run Variant.repaired (init n) pre) (.submit L f c :: as)).nodes L).log
        (nextIdx (run Variant.repaired (init n) pre) L) = some ⟨t, c⟩
    ∧ (∀ p ∈ Q, getE ((run Variant.repaired (run Variant.repaired (init n) pre) (.submit L f c :: as)).nodes p).log
        (nextIdx (run Variant.repaired (init n) pre) L) = some ⟨t, c⟩)
    ∧ nextIdx (run Variant.repaired (init n) pre) L
        ≤ ((run Variant.repaired (run Variant.repaired (init n) pre) (.submit L f c :: as)).nodes L).commit
    ∧ nextIdx (run Variant.repaired (init n) pre) L
        ≤ ((run Variant.repaired (run Variant.repaired (init n) pre) (.submit L f c :: as)).nodes L).lastApplied
    ∧ Hit (outs Variant.repaired (run Variant.repaired (init n) pre) (.submit L f c :: as)) L
        (nextIdx (run Variant.repaired (init n) pre) L) f c :=
  stable_leader_commits_conv Variant.repaired rep_repaired n pre L t f c Q as h

/-- node 0 leads term 1, takes cmdA and replicates it to node 1 only (node 2 hears nothing); node 1 then wins term 2 with
    node 0's vote: its `next_index` for node 2 is 2 although node 2's log is empty -/
def backoffPre : List Act :=
  [.timeout 0, .deliver 0, .deliver 2, .submit 0 5 cmdA, .heartbeat 0, .deliver 5, .deliver 7, .timeout 1, .deliver 8, .deliver 10]

/-- the heartbeat's AppendEntries (prev = 1) is refused by node 2; the refusal reaches node 1, which retries with prev = 0; node 2
    accepts both entries; its acknowledgement reaches node 1 -/
def backoffTail : List Act := [.heartbeat 1, .deliver 14, .deliver 15, .deliver 16, .deliver 17]

/-- non-vacuity with a real back-off round: node 2 is NOT in sync with leader 1, yet the hypotheses of
    `stable_leader_commits_conv` hold (quorum `1 :: [2]`), and cmdB is committed at index 2 -/
theorem stableConv_example :
    StableConv Variant.repaired 3 backoffPre 1 2 9 cmdB [2] backoffTail
    ∧ inSync (run Variant.repaired (init 3) backoffPre) 1 2 2 = false
    ∧ ((run Variant.repaired (init 3) (backoffPre ++ .submit 1 9 cmdB :: backoffTail)).nodes 1).commit = 2
    ∧ (outs Variant.repaired (run Variant.repaired (init 3) backoffPre) (.submit 1 9 cmdB :: backoffTail)).flatMap (·.ress)
        = [(9, 2, Res.val 3)] := by decide +kernel

/-- non-vacuity of `conv_exists`: in the back-off example the conversation-only schedule is exactly the
    four deliveries (refusal, retry, acceptance, acknowledgement), well within the bound `2 · (next_index[2] + 2) = 8` -/
theorem conv_exists_example :
    convActs Variant.repaired 4 (run Variant.repaired (init 3) (backoffPre ++ [.submit 1 9 cmdB, .heartbeat 1])) 14
      = [.deliver 14, .deliver 15, .deliver 16, .deliver 17]
    ∧ convRun Variant.repaired 1 2 2 2 (run Variant.repaired (init 3) (backoffPre ++ [.submit 1 9 cmdB, .heartbeat 1]))
        [.deliver 14, .deliver 15, .deliver 16, .deliver 17] = true
    ∧ ((run Variant.repaired (init 3) (backoffPre ++ [.submit 1 9 cmdB, .heartbeat 1])).nodes 1).nextIndex.getD 2 1 = 2 := by decide +kernel

/-- non-vacuity of `stable_leader_commits_fifo`: the noisy stable run delivers in send order on every link
    (the re-delivered old acknowledgement 5 comes before the newer acknowledgement 9 on the link 1 → 0) -/
theorem fifo_example :
    fifoRun Variant.repaired [] (run Variant.repaired (init 3) stablePre) (.submit 0 7 cmdA :: stableTail) = true
    ∧ fifoRun Variant.repaired [] (run Variant.repaired (init 3) stablePre)
        [.submit 0 7 cmdA, .heartbeat 0, .deliver 7, .deliver 9, .deliver 5] = false := by decide +kernel

/-- non-vacuity of `stable_leader_commits_conv_fifo`: the back-off example is FIFO on every link and nothing in flight
    to node 2 reaches beyond the leader's log -/
theorem fifo_conv_example :
    fifoRun Variant.repaired [] (run Variant.repaired (init 3) backoffPre) (.submit 1 9 cmdB :: backoffTail) = true
    ∧ aeBounded (run Variant.repaired (init 3) backoffPre) 1 2 2 = true := by decide +kernel

theorem stableOk_settled_repaired (n : Nat) (as : List Act) (L : Nat) (hL : L < n)
    (h1 : onlyLeader L (frames Variant.repaired n as) = true) (h2 : settledAt (run Variant.repaired (init n) as) L = true) :
    stableOk (frames Variant.repaired n as) = true :=
  stableOk_settled Variant.repaired rep_repaired n as L hL h1 h2

/-- the entry reaches both followers, their replies reach the leader, the next heartbeat carries the commit notice to both -/
def settledTail : List Act :=
  [.heartbeat 0, .deliver 7, .deliver 8, .deliver 9, .deliver 10, .heartbeat 0, .deliver 11, .deliver 12]

/-- non-vacuity of `stableOk_of_progress`: its hypotheses hold of a concrete 3-node run -/
theorem stableOk_example_hyps :
    StableFair Variant.repaired 3 stablePre 0 1 7 cmdA (peers 3 0) settledTail
    ∧ (∀ p ∈ peers 3 0, toldRun Variant.repaired 0 1 (nextIdx (run Variant.repaired (init 3) stablePre) 0) p
          (run Variant.repaired (init 3) stablePre) (.submit 0 7 cmdA :: settledTail) = true)
    ∧ onlyLeader 0 (frames Variant.repaired 3 (stablePre ++ .submit 0 7 cmdA :: settledTail)) = true
    ∧ ((run Variant.repaired (init 3) (stablePre ++ .submit 0 7 cmdA :: settledTail)).nodes 0).log.length
        = nextIdx (run Variant.repaired (init 3) stablePre) 0 := by decide +kernel

/-- … and there the clause is not vacuous: one command accepted, every node applied it -/
example : acceptedCmds (frames Variant.repaired 3 (stablePre ++ .submit 0 7 cmdA :: settledTail)) = [1]
    ∧ (List.range 3).map (fun i => (appsOf (frames Variant.repaired 3 (stablePre ++ .submit 0 7 cmdA :: settledTail)) i).map (·.2))
        = [[1], [1], [1]] := by decide +kernel

/-- the judge rejects the unfair run: the accepted command is applied nowhere -/
example : stableOk (frames Variant.repaired 3 (stablePre ++ [.submit 0 7 cmdA, .heartbeat 0, .deliver 7, .deliver 8, .heartbeat 0])) = false := by
  decide +kernel

end HappyModel.C11
