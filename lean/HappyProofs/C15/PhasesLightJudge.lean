import HappyProofs.C15.PhasesLight
/-! The phase judge accepts the model's observations of later phases without installs. -/
namespace HappyModel.C15
open HappyModel.C14

section
variable {cfg : Cfg} {p : Policy} {ops : List (Nat × OKind)} {nkeys : Nat} {y0 y1 : Sys} {acc : List Nat}

theorem later_phase_judge (nkeys : Nat) (sched : List Nat) (every : Bool) (stale : List Nat)
    (hw : cfg.wal = some p) (hd : DistinctPuts ops) (hK : KStart (startFor ops) y0)
    (hA : AInv cfg (startFor ops) y0 acc) (hs : syncsInOrderB cfg y0 sched = true) (hni : NoInstall cfg y0 sched)
    (hun : ∀ f ∈ y0.frames, f.id ∈ sched → f.b = none) (he : every = true → cfg.wal = some .every) :
    judgePhase every (readsOf nkeys y0.st) stale (phaseWs ops y0 (phaseOut cfg y0 sched).y) (phaseOut cfg y0 sched).done
      (phaseOut cfg y0 sched).y.st.synced (readsOf nkeys (phaseOut cfg y0 sched).s1)
      (readsOf nkeys (phaseOut cfg y0 sched).s2) (readsOf nkeys (phaseOut cfg y0 sched).s3) = none ∧
    KStart (startFor ops) (phaseOut cfg y0 sched).next ∧
    AInv cfg (startFor ops) (phaseOut cfg y0 sched).next ((phaseOut cfg y0 sched).done ++ acc) := by
  obtain ⟨hA1, hP⟩ := pinv_run hw sched y0 acc hA (pinv_refl hK) hs hni hun
  rw [syncDoneRun_acc] at hA1
  rw [next_eq, phaseOut_s1, phaseOut_s2, phaseOut_s3, phaseOut_done, phaseOut_y]
  refine ⟨?_, kstart_next hK (later_phase_facts hK hP) hP.keep hP.sorted hP.walLt hP.bn hP.ended hA1.ids, ainv_recovered hA1⟩
  exact judgePhase_of_facts hd hK hA1.ids hP.old (later_phase_facts hK hP) every stale _
    (ack_bound_phase hA1 hK.ids hP.old (fun i hi => List.mem_append_left _ hi) he)

theorem judgePhases_later (nkeys : Nat) (every : Bool)
    (hw : cfg.wal = some p) (hd : DistinctPuts ops) (he : every = true → cfg.wal = some .every) :
    ∀ (ps : List (List Nat)) (y0 : Sys) (acc stale : List Nat) (i : Nat),
      KStart (startFor ops) y0 → AInv cfg (startFor ops) y0 acc →
      (∀ ys ∈ phaseStarts cfg y0 ps, syncsInOrderB cfg ys.1 ys.2 = true ∧
        (∀ f ∈ ys.1.frames, f.id ∈ ys.2 → f.b = none) ∧ NoInstall cfg ys.1 ys.2) →
      judgePhases every nkeys (readsOf nkeys y0.st) stale i
        (obsOfPhases ops nkeys ((wObsOf ops y0).map (·.id)) (runPhases cfg y0 ps)) = none := by
  intro ps y0 acc stale i hK hA hph
  exact judgePhases_induct (fun y acc => KStart (startFor ops) y ∧ AInv cfg (startFor ops) y acc)
    (fun ys => syncsInOrderB cfg ys.1 ys.2 = true ∧ (∀ f ∈ ys.1.frames, f.id ∈ ys.2 → f.b = none) ∧
      NoInstall cfg ys.1 ys.2)
    (fun y0 acc sched stale hI h0 => later_phase_judge nkeys sched every stale hw hd hI.1 hI.2 h0.1 h0.2.2 h0.2.1 he)
    ps y0 acc stale i ⟨hK, hA⟩ hph

end

end HappyModel.C15
