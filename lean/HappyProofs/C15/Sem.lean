import HappyModel.C15.Spec
import HappyModel.C14.Spec
/-! Semantic statement of crash durability in terms of frames; observations of a model run. -/
namespace HappyModel.C15
open HappyModel.C14

/-- no durable write to `k` began after `w` completed -/
def NotSuperseded (start : Nat → Pc) (y : Sys) (k : Key) (w : Frame) : Prop :=
  ∀ w' ∈ y.frames, w'.id ≠ w.id → ∀ b' c', w'.b = some b' → start w'.id = .pStart k c' →
    w'.seq0 ≤ y.st.synced → ∀ e, w.e = some e → ¬ e < b'

/-- what `crash(); recover_from_crash()` makes readable, in terms of the write operations of the run -/
structure CrashFacts (start : Nat → Pc) (y : Sys) : Prop where
  some : ∀ k v, y.st.crash.recover.abs k = some v →
    ∃ w ∈ y.frames, w.b ≠ none ∧ start w.id = .pStart k (some v) ∧ NotSuperseded start y k w
  none : ∀ k, y.st.crash.recover.abs k = none →
    (∀ w ∈ y.frames, ∀ c, w.b ≠ none → start w.id = .pStart k c → ¬ w.seq0 ≤ y.st.synced) ∨
    ∃ d ∈ y.frames, d.b ≠ none ∧ start d.id = .pStart k none ∧ NotSuperseded start y k d

/-- the write observations the driver prints (`wLine`) -/
def wObsOf (ops : List (Nat × OKind)) (y : Sys) : List WRec :=
  y.frames.filterMap fun f =>
    match f.b, ops.lookup f.id with
    | some b, some (.put k v) => some ⟨f.id, k, some v, f.seq0, b, f.e⟩
    | some b, some (.del k) => some ⟨f.id, k, none, f.seq0, b, f.e⟩
    | _, _ => none

def readsOf (nkeys : Nat) (s : St) : List (Option Nat) := (List.range nkeys).map s.abs

end HappyModel.C15
