import HappyProofs.C16.PolicyLaws
import HappyProofs.C16.AList
/-!
What the policies' containers do to the tracked key set: plain key lists (LRU, FIFO, random),
association lists (LFU, TTL, sampled LRU), two key lists side by side (SLRU, 2Q) and the ring of Clock,
with the choice functions of the `evict` calls that have one.
-/
namespace HappyModel.C16

theorem argminFirst_eq_none (l : List (Key × Nat)) : argminFirst l = none ↔ l = [] := by
  cases l with
  | nil => simp [argminFirst]
  | cons p t =>
    simp only [argminFirst]
    split
    · simp
    · split <;> simp

theorem argminFirst_spec (l : List (Key × Nat)) (p : Key × Nat) (h : argminFirst l = some p) :
    p ∈ l ∧ ∀ q ∈ l, p.2 ≤ q.2 := by
  induction l generalizing p with
  | nil => cases h
  | cons a t ih =>
    unfold argminFirst at h
    cases hm : argminFirst t with
    | none =>
      rw [hm] at h
      cases h
      rw [(argminFirst_eq_none t).mp hm]
      exact ⟨List.mem_cons_self, fun q hq => List.mem_singleton.mp hq ▸ Nat.le_refl _⟩
    | some m =>
      obtain ⟨hmem, hle⟩ := ih m hm
      rw [hm] at h
      simp only at h
      split at h <;> cases h
      · exact ⟨List.mem_cons_of_mem _ hmem, fun q hq =>
          (List.mem_cons.mp hq).elim (fun e => by subst e; omega) (hle q)⟩
      · exact ⟨List.mem_cons_self, fun q hq =>
          (List.mem_cons.mp hq).elim (fun e => e ▸ Nat.le_refl _) (fun hq' => by have := hle q hq'; omega)⟩

theorem list_insert_law {l : List Key} {k : Key} (h : l.Nodup) (hk : k ∉ l) :
    (l ++ [k]).Nodup ∧ ∀ x, x ∈ l ++ [k] ↔ x = k ∨ x ∈ l :=
  ⟨nodup_append_singleton h hk, fun x => by simp [Or.comm]⟩

theorem list_remove_law {l : List Key} (k : Key) (h : l.Nodup) :
    (l.erase k).Nodup ∧ ∀ x, x ∈ l.erase k ↔ x ∈ l ∧ x ≠ k :=
  ⟨h.erase k, mem_erase_iff' h⟩

theorem list_head_law {r : List Key} {k : Key} (h : (k :: r).Nodup) :
    r.Nodup ∧ ∀ x, x ∈ r ↔ x ∈ k :: r ∧ x ≠ k := by
  rw [List.nodup_cons] at h
  refine ⟨h.2, fun x => ?_⟩
  by_cases e : x = k <;> simp [e, h.1]

theorem rnd_choose_none (s : Rnd) (pick : List Key) : s.choose pick = none ↔ s.keys = [] := by
  simp only [Rnd.choose]
  split
  · rename_i c hc
    have := List.find?_some hc
    simp only [List.contains_iff_mem] at this
    constructor
    · intro e; cases e
    · intro e; rw [e] at this; cases this
  · simp [List.head?_eq_none_iff]

theorem rnd_choose_mem (s : Rnd) (pick : List Key) (c : Key) (h : s.choose pick = some c) :
    c ∈ s.keys := by
  simp only [Rnd.choose] at h
  split at h
  · rename_i c' hc
    have := List.find?_some hc
    simp only [Option.some.injEq] at h; subst h
    simpa using this
  · exact List.mem_of_mem_head? h

theorem aset_insert_law {α} (l : List (Key × α)) (k : Key) (v : α) (h : (akeys l).Nodup)
    (hk : k ∉ akeys l) :
    (akeys (aset l k v)).Nodup ∧ ∀ x, x ∈ akeys (aset l k v) ↔ x = k ∨ x ∈ akeys l := by
  rw [akeys_aset_not_mem l k v hk]; exact list_insert_law h hk

theorem adel_remove_law {α} (l : List (Key × α)) (k : Key) (h : (akeys l).Nodup) :
    (akeys (adel l k)).Nodup ∧ ∀ x, x ∈ akeys (adel l k) ↔ x ∈ akeys l ∧ x ≠ k :=
  ⟨nodup_akeys_adel l k h, mem_akeys_adel l k⟩

theorem ttl_victim_none (s : TTL) (now : Nat) : s.victim now = none ↔ s.times = [] := by
  simp only [TTL.victim]
  split
  · rename_i p hp
    have := List.mem_of_find?_eq_some hp
    constructor
    · intro e; cases e
    · intro e; rw [e] at this; cases this
  · exact argminFirst_eq_none _

theorem ttl_victim_mem (s : TTL) (now : Nat) (p : Key × Nat) (h : s.victim now = some p) :
    p ∈ s.times := by
  simp only [TTL.victim] at h
  split at h
  · rename_i q hq
    simp only [Option.some.injEq] at h; subst h
    exact List.mem_of_find?_eq_some hq
  · exact (argminFirst_spec _ _ h).1

theorem two_move {a b : List Key} {k : Key} (h : (a ++ b).Nodup) (hk : k ∈ a ++ b) :
    (a.erase k ++ (b.erase k ++ [k])).Nodup ∧
      ∀ x, x ∈ a.erase k ++ (b.erase k ++ [k]) ↔ x ∈ a ++ b := by
  obtain ⟨ha, hb, hab⟩ := List.nodup_append.mp h
  constructor
  · rw [List.nodup_append]
    refine ⟨ha.erase k, nodup_erase_append hb, ?_⟩
    intro x hx y hy
    rw [mem_erase_iff' ha] at hx
    rw [List.mem_append, mem_erase_iff' hb, List.mem_singleton] at hy
    rcases hy with ⟨hy, _⟩ | hy
    · exact hab x hx.1 y hy
    · intro e; exact hx.2 (e.trans hy)
  · intro x
    simp only [List.mem_append, mem_erase_iff' ha, mem_erase_iff' hb, List.mem_singleton] at hk ⊢
    by_cases e : x = k
    · subst e; simp [hk]
    · simp [e]

theorem two_move_right {a b : List Key} {k : Key} (h : (a ++ b).Nodup) (hk : k ∈ b) :
    (a ++ (b.erase k ++ [k])).Nodup ∧ ∀ x, x ∈ a ++ (b.erase k ++ [k]) ↔ x ∈ a ++ b := by
  have hna : k ∉ a := fun hka => (List.nodup_append.mp h).2.2 k hka k hk rfl
  have := two_move h (List.mem_append_right a hk)
  rwa [List.erase_of_not_mem hna] at this

theorem two_insert_mid {a b : List Key} {k : Key} (h : (a ++ b).Nodup) (hk : k ∉ a ++ b) :
    ((a ++ [k]) ++ b).Nodup ∧ ∀ x, x ∈ (a ++ [k]) ++ b ↔ x = k ∨ x ∈ a ++ b := by
  rw [List.append_assoc, List.singleton_append]
  exact ⟨List.perm_middle.nodup_iff.mpr (List.nodup_cons.mpr ⟨hk, h⟩),
    fun x => List.perm_middle.mem_iff.trans List.mem_cons⟩

theorem two_insert_right {a b : List Key} {k : Key} (h : (a ++ b).Nodup) (hk : k ∉ a ++ b) :
    (a ++ (b ++ [k])).Nodup ∧ ∀ x, x ∈ a ++ (b ++ [k]) ↔ x = k ∨ x ∈ a ++ b := by
  rw [← List.append_assoc]; exact list_insert_law h hk

theorem two_remove {a b : List Key} (k : Key) (h : (a ++ b).Nodup) :
    (a.erase k ++ b.erase k).Nodup ∧ ∀ x, x ∈ a.erase k ++ b.erase k ↔ x ∈ a ++ b ∧ x ≠ k := by
  obtain ⟨ha, hb, _⟩ := List.nodup_append.mp h
  refine ⟨h.sublist (List.Sublist.append List.erase_sublist List.erase_sublist), fun x => ?_⟩
  simp only [List.mem_append, mem_erase_iff' ha, mem_erase_iff' hb, or_and_right]

theorem sampled_sample_nil (s : Sampled) (pick : List Key) : s.sample pick = [] ↔ s.times = [] := by
  simp only [Sampled.sample]
  split
  · exact Iff.rfl
  · rename_i hc
    constructor
    · intro e; rw [e] at hc; simp at hc
    · intro e; rw [e]; rfl

theorem sampled_sample_mem (s : Sampled) (pick : List Key) (p : Key × Nat) (h : p ∈ s.sample pick) :
    p ∈ s.times := by
  simp only [Sampled.sample] at h
  split at h
  · exact h
  · exact (List.mem_filter.mp h).1

/-- what the key-set relation and the store's eviction loop use of one `evict` -/
def EvictOk (p : Pol) (now : Nat) (pick : List Key) : Prop :=
  ((p.evict now pick).1 = none ↔ p.tracked = []) ∧
  ((p.evict now pick).1 = none → (p.evict now pick).2 = p) ∧
  ∀ k, (p.evict now pick).1 = some k →
    k ∈ p.tracked ∧ (p.evict now pick).2.Inv ∧
      ∀ x, x ∈ (p.evict now pick).2.tracked ↔ x ∈ p.tracked ∧ x ≠ k

theorem evictOk_head {p : Pol} {now : Nat} {pick : List Key} {k : Key} {p' : Pol}
    (he : p.evict now pick = (some k, p')) (hk : k ∈ p.tracked)
    (hl : p'.Inv ∧ ∀ x, x ∈ p'.tracked ↔ x ∈ p.tracked ∧ x ≠ k) : EvictOk p now pick := by
  unfold EvictOk
  rw [he]
  refine ⟨⟨fun e => (by cases e), fun e => (by rw [e] at hk; cases hk)⟩, fun e => (by cases e), fun k' e => ?_⟩
  cases e
  exact ⟨hk, hl⟩

theorem evictOk_none {p : Pol} {now : Nat} {pick : List Key}
    (he : p.evict now pick = (none, p)) (ht : p.tracked = []) : EvictOk p now pick := by
  unfold EvictOk
  rw [he]
  exact ⟨⟨fun _ => ht, fun _ => rfl⟩, fun _ => rfl, fun _ e => (by cases e)⟩

/-- the two hand clauses of `Pol.Inv` for Clock -/
def ClockHand (ring : List (Key × Bool)) (hand : Nat) : Prop :=
  (ring = [] → hand = 0) ∧ (ring ≠ [] → hand < ring.length)

theorem fixHand_ok (r : List (Key × Bool)) (hand : Nat) (h0 : r = [] → hand = 0) :
    ClockHand r (Clock.fixHand r hand) := by
  simp only [ClockHand, Clock.fixHand]
  constructor
  · intro e; simp [e, h0 e]
  · intro hne
    have hpos : 0 < r.length := List.length_pos_iff.mpr hne
    by_cases hl : r.length ≤ hand
    · simp [hl, hne, hpos]
    · simp [hl]; omega

theorem clock_access (s : Clock) (h : (Pol.clock s).Inv) (k : Key) :
    ((Pol.clock s).access k).Inv ∧
      ∀ x, x ∈ ((Pol.clock s).access k).tracked ↔ x ∈ (Pol.clock s).tracked := by
  simp only [Pol.Inv, Pol.access, Pol.tracked, Clock.access] at *
  rw [akeys_map_upd, List.length_map]
  refine ⟨?_, fun _ => Iff.rfl⟩
  simpa only [ne_eq, List.map_eq_nil_iff] using h

theorem clock_insert (s : Clock) (h : (Pol.clock s).Inv) (k now : Nat) (hk : k ∉ (Pol.clock s).tracked) :
    ((Pol.clock s).insert k now).Inv ∧
      ∀ x, x ∈ ((Pol.clock s).insert k now).tracked ↔ x = k ∨ x ∈ (Pol.clock s).tracked := by
  simp only [Pol.Inv, Pol.insert, Pol.tracked, Clock.insert] at *
  rw [if_neg hk]
  obtain ⟨hn, h0, h1⟩ := h
  have e : akeys (s.ring ++ [(k, true)]) = akeys s.ring ++ [k] := akeys_append _ _
  simp only [e]
  obtain ⟨l1, l2⟩ := list_insert_law hn hk
  refine ⟨⟨l1, by simp, fun _ => ?_⟩, l2⟩
  by_cases hr : s.ring = []
  · simp [hr, h0 hr]
  · have := h1 hr; simp; omega

theorem clock_remove (s : Clock) (h : (Pol.clock s).Inv) (k : Key) :
    ((Pol.clock s).remove k).Inv ∧
      ∀ x, x ∈ ((Pol.clock s).remove k).tracked ↔ x ∈ (Pol.clock s).tracked ∧ x ≠ k := by
  simp only [Pol.Inv, Pol.remove, Pol.tracked, Clock.remove] at *
  obtain ⟨hn, h0, h1⟩ := h
  split
  · rename_i hk
    obtain ⟨l1, l2⟩ := adel_remove_law s.ring k hn
    have hne : s.ring ≠ [] := fun e => by rw [e] at hk; cases hk
    -- if the removal empties the ring it had one entry, so the hand was at 0 already
    have hh := fixHand_ok (adel s.ring k) s.hand fun e => by
      have hl := length_le_adel s.ring k hn
      rw [e] at hl
      exact Nat.lt_one_iff.mp (Nat.lt_of_lt_of_le (h1 hne) hl)
    exact ⟨⟨l1, hh.1, hh.2⟩, l2⟩
  · rename_i hk
    exact ⟨⟨hn, h0, h1⟩, fun x => ⟨fun hx => ⟨hx, fun e => hk (e ▸ hx)⟩, fun hx => hx.1⟩⟩

/-- what a successful scan returns, in terms of the key list before it -/
def ClockRes (ks : List Key) (res : Option Key × Clock) : Prop :=
  ∃ i k, ks[i]? = some k ∧ res.1 = some k ∧ akeys res.2.ring = ks.eraseIdx i ∧
    ClockHand res.2.ring res.2.hand

theorem clock_take_spec (ring : List (Key × Bool)) (hand : Nat) (h : hand < ring.length) :
    ClockRes (akeys ring) (Clock.take ring hand) := by
  simp only [Clock.take, List.getElem?_eq_getElem h]
  refine ⟨hand, ring[hand].1, ?_, rfl, akeys_eraseIdx _ _, fixHand_ok _ _ ?_⟩
  · simp [akeys, h]
  · intro e
    rw [List.eraseIdx_eq_nil_iff] at e
    rcases e with e | ⟨_, e⟩
    · rw [e] at h; simp at h
    · exact e

theorem clock_scan_spec (fuel : Nat) (ring : List (Key × Bool)) (hand : Nat) (h : hand < ring.length) :
    ClockRes (akeys ring) (Clock.scan fuel ring hand) := by
  induction fuel generalizing ring hand with
  | zero => exact clock_take_spec ring hand h
  | succ n ih =>
    simp only [Clock.scan, List.getElem?_eq_getElem h]
    split
    · have e := akeys_set_fst ring hand ring[hand] false (List.getElem?_eq_getElem h)
      rw [← e]
      apply ih
      rw [List.length_set]; exact Nat.mod_lt _ (by omega)
    · exact clock_take_spec ring hand h

theorem clock_evict (s : Clock) (h : (Pol.clock s).Inv) (now : Nat) (pick : List Key) :
    EvictOk (.clock s) now pick := by
  obtain ⟨ring, hand⟩ := s
  obtain ⟨hn, -, h1⟩ := h
  by_cases hre : ring = []
  · subst hre; exact evictOk_none rfl rfl
  · obtain ⟨i, k, hi, hr, hk, hh⟩ := clock_scan_spec (2 * ring.length) ring hand (h1 hre)
    refine evictOk_head (p' := .clock (Clock.scan (2 * ring.length) ring hand).2) ?_ (List.mem_of_getElem? hi) ?_
    · simp only [Pol.evict, Clock.evict, List.isEmpty_iff, hre, if_false, hr]
    · simp only [Pol.Inv, Pol.tracked, hk, eraseIdx_eq_erase hn hi]
      exact ⟨⟨hn.erase k, hh.1, hh.2⟩, mem_erase_iff' hn⟩

end HappyModel.C16
