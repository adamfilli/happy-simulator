import HappyProofs.C16.RawStart
/-!
Read-after-write over every interleaving: later segments, and so every segment, keep the
invariant (repaired store).

A later segment first takes the operation's continuation out of `pend` (`clearPend`), possibly
changes the cache (miss fill, flush), and either completes or leaves a new continuation.  All of that
happens in the old context — an operation with nothing pending that has not completed yet is harmless
there — and then the context is extended by the observation (`ext_same`).  The one exception is the
backing-store write of a `put` (write-through) or `delete`: the value it leaves in the store is justified by
the order `R` only once the completion is in the log, so it lands and is logged in one step (`land`).
-/
namespace HappyModel.C16

variable {R : WOrd}

theorem clear_nbw {g : Gh} {s : St} (h : RInvG R g s) {i : Nat} {p : Pend} (hm : (i, p) ∈ s.pend)
    (hp : bwKey p = none) : RInvG R g (s.clearPend i) := by
  have hmem : ∀ x, x ∈ (s.clearPend i).pend ↔ x ∈ s.pend ∧ x.1 ≠ i := fun _ => mem_clear
  refine ⟨h.gi, ⟨fun x hx => h.pi.pendS x ((hmem x).mp hx).1, nodup_clear h.pi.pendND i, ?_,
    fun x hx => h.pi.pOp x ((hmem x).mp hx).1, fun i v hm => h.pi.hit i v ((hmem _).mp hm).1⟩, ?_, h.d⟩
  · intro k
    show cnt s.infl k = keyCount bwKey (s.pend.filter (fun x => x.1 != i)) k
    rw [h.pi.infl k, keyCount_clear bwKey s.pend i p k h.pi.pendND hm, hp]; simp
  · refine ⟨h.vi.dsub, h.vi.c, ?_, ?_⟩
    · intro x hx
      exact (h.vi.b x hx).anti (fun j _ hn (hb : BP s x j) => hn (Holds.clear (extra := []) (List.append_nil _).symm
        (Holds.ne h.pi.pendND hm (by rw [hp]; simp) hb) hb))
    · intro j x e hj
      exact h.vi.miss j x e ((hmem _).mp hj).1

theorem set_flush {g : Gh} {s : St} (h : RInvG R g s) {i : Nat} {order : List Key} (his : i ∈ g.started)
    (hie : endIdx g.evs i = none) (hni : ∀ x ∈ s.pend, x.1 ≠ i) (hop : (i, OpK.flush order) ∈ g.ops)
    (k : Key) (rest : List Key) (n : Nat) : RInvG R g (s.setPend i (.flushRep k rest n)) := by
  have hmem : ∀ x, x ∈ (s.setPend i (.flushRep k rest n)).pend ↔ x ∈ s.pend ∨ x = (i, .flushRep k rest n) := by
    intro x; simp [St.setPend]
  have hbp : ∀ x j, BP s x j → BP (s.setPend i (.flushRep k rest n)) x j := by
    rintro x j ⟨q, hq, hk⟩
    exact ⟨q, (hmem _).mpr (Or.inl hq), hk⟩
  refine ⟨h.gi, ⟨?_, ?_, ?_, ?_, ?_⟩, ⟨h.vi.dsub, h.vi.c, ?_, ?_⟩, h.d⟩
  · intro x hx
    rcases (hmem x).mp hx with hx | hx
    · exact h.pi.pendS x hx
    · subst hx; exact ⟨his, hie⟩
  · exact nodup_fst_snoc h.pi.pendND hni _
  · intro x
    show cnt s.infl x = keyCount bwKey (s.pend ++ [(i, Pend.flushRep k rest n)]) x
    rw [keyCount_append, h.pi.infl x]; rfl
  · intro x hx
    rcases (hmem x).mp hx with hx | hx
    · exact h.pi.pOp x hx
    · subst hx; exact ⟨_, hop, trivial⟩
  · intro j v hj
    rcases (hmem _).mp hj with hj | hj
    · exact h.pi.hit j v hj
    · cases hj
  · intro x hx
    exact (h.vi.b x hx).anti (fun j _ hn hb => hn (hbp x j hb))
  · intro j x e hj
    rcases (hmem _).mp hj with hj | hj
    · exact h.vi.miss j x e hj
    · cases hj


theorem hd_nonget {C : List Obs → Key → Nat → Nat → Option Nat → Prop} {g : Gh} (gi : GI g) {i : Nat} {op : OpK} (o : Obs)
    (hoi : o.i = i) (hop : (i, op) ∈ g.ops) (hng : ∀ k, op ≠ .get k) : GetDone C g.ops g.evs o := by
  intro k rs hm
  rw [hoi] at hm
  exact absurd (ops_unique gi.nd hop hm) (hng k)

theorem hd_getR (L : OrdLaws R) {g : Gh} (gi : GI g) {i : Nat} {k0 : Key} (o : Obs) (hoi : o.i = i) (hop : (i, OpK.get k0) ∈ g.ops)
    {v : Option Nat} (hf : FreshAtR R g i k0 v) (hres : o.res = some (resOf v)) :
    GetDone (ReadGoodP R g.ops) g.ops g.evs o := by
  intro k rs hm _ _ hrs
  obtain ⟨r, hr, hf⟩ := hf
  rw [hoi] at hm hrs
  cases ops_unique gi.nd hop hm
  rw [firstIdx_snoc_some o hr] at hrs
  cases hrs
  exact ⟨v, hres, readGood_of_fresh L gi o (Nat.le_of_lt (firstIdx_lt hr)) hf⟩

/-- a continuation that writes `val` for `k` to the backing store runs and completes its operation; `hl1`, `hl2`: the
    completing write stands in `R` to the writes of `k` that are no longer in flight, and to the completed ones -/
theorem land (L : OrdLaws R) {g : Gh} {s : St} (h : RInvG R g s) {i : Nat} {p : Pend}
    {op : OpK} {k : Key} {val : Option Nat} (hm : (i, p) ∈ s.pend) (hp : bwKey p = some k)
    (hop : (i, op) ∈ g.ops) (hw : wkv op = some (k, val)) {b' : List (Key × Nat)}
    (hbk : aget? b' k = val) (hbo : ∀ x, x ≠ k → aget? b' x = aget? s.back x)
    (o : Obs) (hoi : o.i = i)
    (hl1 : ∀ j op', j ∈ g.started → (j, op') ∈ g.ops → wk op' = some k → ¬ BP (s.clearPend i) k j → R (g.evs ++ [o]) i j)
    (hl2 : ∀ j r, r ≤ g.evs.length → CompletedBefore (g.evs ++ [o]) j r → R (g.evs ++ [o]) i j) :
    RInvG R (g.ext o []) { s.clearPend i with back := b', infl := aset s.infl k (cnt s.infl k - 1) } := by
  have hmem : ∀ x, x ∈ (s.clearPend i).pend ↔ x ∈ s.pend ∧ x.1 ≠ i := fun _ => mem_clear
  obtain ⟨gi, pi, vi, d⟩ := h
  obtain ⟨his, hie⟩ := pi.pendS _ hm
  have hiS : i ∈ (g.ext o []).started := mem_ext_started.mpr (Or.inl his)
  have hold : ∀ {j}, j ∈ (g.ext o []).started → j ∈ g.started := fun hj =>
    (mem_ext_started.mp hj).elim id (fun h => nomatch h)
  have hfx : ∀ {x v} {P : Nat → Prop}, FreshR R g x v P → FreshR R (g.ext o []) x v P := FreshR.ext_nil L o gi.s1
  have hng : ∀ x, op ≠ .get x := fun x e => by rw [e] at hw; cases hw
  obtain ⟨gi', d'⟩ := log_ext L gi d o [] (fun _ hj => nomatch hj) (fun _ => List.mem_append_left _ (hoi ▸ his))
    (hd_nonget gi o hoi hop hng)
  refine ⟨gi',
    ⟨fun x hx => ?_, nodup_clear pi.pendND i, ?_, fun x hx => pi.pOp x ((hmem x).mp hx).1,
     fun j v hj x hx => (pi.hit j v ((hmem _).mp hj).1 x hx).ext L gi o []⟩,
    ⟨vi.dsub, fun x v hv => hfx (vi.c x v hv), ?_, ?_⟩, d'⟩
  · obtain ⟨h1, h2⟩ := pi.pendS x ((hmem x).mp hx).1
    exact ⟨mem_ext_started.mpr (Or.inl h1), endIdx_snoc_running o h2 (fun _ e => ((hmem x).mp hx).2 (e.symm.trans hoi))⟩
  · intro x
    show cnt (aset s.infl k (cnt s.infl k - 1)) x = keyCount bwKey (s.pend.filter (fun y => y.1 != i)) x
    have hcl := keyCount_clear bwKey s.pend i p x pi.pendND hm
    by_cases e : x = k
    · subst e
      rw [cnt_aset_self, pi.infl x, hcl, hp]; simp
    · rw [cnt_aset_other _ _ _ _ e, pi.infl x, hcl, hp]
      have : ¬ k = x := fun e' => e e'.symm
      simp [this]
  · intro x hx
    by_cases e : x = k
    · subst e
      show FreshR R (g.ext o []) x (aget? b' x) _
      rw [hbk]
      exact FreshR.self hiS hop hw (fun j op' hj hjm hk hn => hl1 j op' (hold hj) hjm hk hn)
    · show FreshR R (g.ext o []) x (aget? b' x) _
      rw [hbo x e]
      exact hfx ((vi.b x hx).anti (fun j _ hn (hb : BP s x j) => hn (Holds.clear (extra := []) (List.append_nil _).symm
        (Holds.ne pi.pendND hm (by rw [hp]; exact fun e' => e (Option.some.inj e').symm) hb) hb)))
  · intro j x e hj
    obtain ⟨⟨r, hr, hf⟩, h2, h3⟩ := vi.miss j x e ((hmem _).mp hj).1
    refine ⟨⟨r, firstIdx_snoc_some o hr, ?_⟩, h2, h3⟩
    have hrl := Nat.le_of_lt (firstIdx_lt hr)
    by_cases e' : x = k
    · subst e'
      show FreshR R (g.ext o []) x (aget? b' x) _
      rw [hbk]
      exact FreshR.self hiS hop hw (fun j' _ _ _ _ hc => hl2 j' r hrl hc)
    · show FreshR R (g.ext o []) x (aget? b' x) _
      rw [hbo x e']
      exact hf.ext_cb L gi o [] hrl

theorem raw_resume (L : OrdLaws R) (cfg : Cfg) (hrep : cfg.rep = true) {g : Gh} {s0 : St} (h : RInvG R g s0) (i : Nat) (p : Pend)
    (now : Nat) (hm : (i, p) ∈ s0.pend) (o : Obs) (hoi : o.i = i) (hor : o.res = (resume cfg s0 i p now).2)
    (hl1 : o.res.isSome → ∀ k, bwKey p = some k → ∀ j op', j ∈ g.started → (j, op') ∈ g.ops → wk op' = some k →
      ¬ BP (s0.clearPend i) k j → R (g.evs ++ [o]) i j)
    (hl2 : o.res.isSome → ∀ j r, r ≤ g.evs.length → CompletedBefore (g.evs ++ [o]) j r → R (g.evs ++ [o]) i j) :
    RInvG R (g.ext o []) (resume cfg s0 i p now).1 := by
  obtain ⟨his, hie⟩ := h.pi.pendS _ hm
  obtain ⟨op, hop, hpo⟩ := h.pi.pOp _ hm
  have hclr : ∀ x ∈ (s0.clearPend i).pend, x.1 ≠ o.i := fun x hx => by
    rw [hoi]; exact (mem_clear.mp hx).2
  have hst : o.res.isSome → o.i ∈ g.started := fun _ => hoi ▸ his
  cases p with
  | getHit v =>
    obtain ⟨k, rfl⟩ := hpo.op
    exact ext_same L (clear_nbw h hm rfl) o (fun _ => hclr) hst (hd_getR L h.gi o hoi hop (h.pi.hit i v hm k hop) hor)
  | getMiss k e =>
    obtain rfl : op = .get k := hpo.op
    obtain ⟨hf, _, hed⟩ := h.vi.miss i k e hm
    have hc := clear_nbw h hm (p := .getMiss k e) rfl
    have hdone := hd_getR L h.gi o hoi hop hf
    unfold resume at hor ⊢
    simp only at hor ⊢
    have hback : (s0.clearPend i).back = s0.back := rfl
    rw [hback] at hor ⊢
    cases hb : aget? s0.back k with
    | none =>
      exact ext_same L hc o (fun _ => hclr) hst (hdone (hb ▸ hor))
    | some x =>
      simp only [hb] at hor ⊢
      split at hor
      · rename_i hfill
        rw [if_pos hfill]
        -- the fill is allowed: same epoch, nothing in flight ⇒ the backing value is fresh against everything
        simp only [hrep, Bool.not_true, Bool.false_or, St.fillAllowed, Bool.and_eq_true, beq_iff_eq] at hfill
        have hall : FreshAll R g k (some x) :=
          hb ▸ (h.vi.b k (hed hfill.1.symm)).anti (fun j _ _ (hb : BP s0 k j) => Holds.count_pos hb (h.pi.infl k ▸ hfill.2))
        have m := mut_cachePut cfg hrep (s0.clearPend i) k x now hc.vi hall
        exact ext_same L (hc.mut m) o (fun _ => by rw [m.pend]; exact hclr) hst (hdone (hb ▸ hor))
      · rename_i hfill
        rw [if_neg hfill]
        exact ext_same L hc o (fun _ => hclr) hst (hdone (hb ▸ hor))
  | putWT k v =>
    obtain rfl : op = .put k v := hpo.op
    unfold resume
    simp only [St.inflDec, hrep, if_true]
    exact land L h hm (k := k) (val := some v) rfl hop rfl
      (aget?_aset_self _ _ _) (fun x hx => aget?_aset_other _ _ _ _ hx) o hoi (hl1 (by rw [hor]; rfl) k rfl)
      (hl2 (by rw [hor]; rfl))
  | putWB =>
    have hng : ∀ k, op ≠ .get k := fun k e => by subst e; exact hpo
    exact ext_same L (clear_nbw h hm rfl) o (fun _ => hclr) hst (hd_nonget h.gi o hoi hop hng)
  | del k inC =>
    obtain rfl : op = .del k := hpo.op
    unfold resume
    simp only [St.inflDec, hrep, if_true]
    exact land L h hm (k := k) (val := none) rfl hop rfl
      (aget?_adel_self _ _) (fun x hx => aget?_adel_other _ _ _ hx) o hoi (hl1 (by rw [hor]; rfl) k rfl)
      (hl2 (by rw [hor]; rfl))
  | flushCur k v rest n => exact (hpo.op : False).elim
  | flushRep k rest n =>
    obtain ⟨order, rfl⟩ := hpo.op
    have hc := clear_nbw h hm (p := .flushRep k rest n) rfl
    have hdone : GetDone (ReadGoodP R g.ops) g.ops g.evs o := hd_nonget h.gi o hoi hop nofun
    -- the state the loop continues from
    have key : ∀ s2 m, RInvG R g s2 → s2.pend = (s0.clearPend i).pend →
        o.res = (flushNext cfg s2 i rest m).2 → RInvG R (g.ext o []) (flushNext cfg s2 i rest m).1 := by
      intro s2 m h2 hp2 hor2
      rcases flushNext_rep cfg hrep s2 i rest m with ⟨k', rest', n', e⟩ | ⟨n', e⟩
      · rw [e] at hor2 ⊢
        exact ext_same L (set_flush h2 his hie (fun x hx => hoi ▸ hclr x (hp2 ▸ hx)) hop k' rest' n') o
          (Obs.of_res_none hor2) hst hdone
      · rw [e]
        exact ext_same L h2 o (fun _ => by rw [hp2]; exact hclr) hst hdone
    unfold resume at hor ⊢
    simp only at hor ⊢
    split at hor
    · rename_i hcond
      rw [if_pos hcond]
      exact key _ _ (hc.mut (mut_writeBack hc.vi k)) (writeBack_pend _ _) hor
    · rename_i hcond
      rw [if_neg hcond]
      exact key _ _ hc rfl hor

def actId : Act → Nat
  | .start i _ _ => i
  | .resume i _ => i

def newIds : Act → List Nat
  | .start i _ _ => [i]
  | .resume _ _ => []

/-- `a` may be executed in context `g`: a first segment is that of a table entry (a flush with any
iteration order) whose id has not started yet -/
def Adm (g : Gh) (a : Act) : Prop :=
  ∀ i op now, a = .start i op now →
    i ∉ g.started ∧ ∃ op', (i, op') ∈ g.ops ∧ ((∃ o1 o2, op' = .flush o1 ∧ op = .flush o2) ∨ op' = op)

/-- every segment keeps the invariant, for any order `R` with `OrdLaws`.  Besides the two laws the walk asks three things of
`R`, each at one place: `hissue`, where the first segment of a write puts its value into the cache (`ext_start`); `hl1`, `hl2`,
where a backing-store write lands and completes its operation (`land`).  Everything else — evictions, write-backs, fills,
the miss and the flush segments — does not look at `R`. -/
theorem raw_stepG (L : OrdLaws R) (cfg : Cfg) (hrep : cfg.rep = true) {g : Gh} {s : St} (h : RInvG R g s) (a : Act)
    (hadm : Adm g a) (o : Obs) (hoi : o.i = actId a) (hor : o.res = (step cfg s a).2)
    (hissue : o.res = none → actId a ∉ g.started → ∀ j, j ∈ (g.ext o [actId a]).started → R (g.evs ++ [o]) (actId a) j)
    (hl1 : o.res.isSome → ∀ p k, (actId a, p) ∈ s.pend → bwKey p = some k → ∀ j op', j ∈ g.started → (j, op') ∈ g.ops →
      wk op' = some k → ¬ BP (s.clearPend (actId a)) k j → R (g.evs ++ [o]) (actId a) j)
    (hl2 : o.res.isSome → endIdx g.evs (actId a) = none → ∀ j r, r ≤ g.evs.length →
      CompletedBefore (g.evs ++ [o]) j r → R (g.evs ++ [o]) (actId a) j) :
    RInvG R (g.ext o (newIds a)) (step cfg s a).1 := by
  cases a with
  | start i op now =>
    obtain ⟨hi, op', hop, hso⟩ := hadm i op now rfl
    rcases hso with ⟨o1, o2, rfl, rfl⟩ | rfl
    · exact raw_start_flush L cfg hrep h i o2 o1 now hi hop o hoi hor
    · cases op' with
      | get k => exact raw_start_get L cfg h i k now hi hop o hoi hor
      | put k v => exact raw_start_put L cfg hrep h i k v now hi hop o hoi hor (fun hr => hissue hr hi)
      | del k => exact raw_start_del L cfg hrep h i k now hi hop o hoi hor (fun hr => hissue hr hi)
      | inv k => exact raw_start_inv L cfg hrep h i k now hi hop o hoi
      | invAll => exact raw_start_invAll L cfg hrep h i now hi hop o hoi
      | flush order => exact raw_start_flush L cfg hrep h i order order now hi hop o hoi hor
  | resume i now =>
    unfold step at hor ⊢
    cases hf : s.pend.find? (fun x => x.1 == i) with
    | none =>
      simp only [hf] at hor ⊢
      exact ext_same L h o (Obs.of_res_none hor) (Obs.of_res_none hor)
        (GetDone.of_res_none hor)
    | some x =>
      obtain ⟨j, p⟩ := x
      simp only [hf] at hor ⊢
      have hmem := List.mem_of_find?_eq_some hf
      have hj : j = i := by
        have := List.find?_some hf
        simpa using this
      subst hj
      exact raw_resume L cfg hrep h j p now hmem o hoi hor (fun hr k hk => hl1 hr p k hmem hk)
        (fun hr => hl2 hr (h.pi.pendS _ hmem).2)

/-- the plain order: a write that is running, or completes with the last observation, is followed by nothing -/
theorem raw_step (cfg : Cfg) (hrep : cfg.rep = true) {g : Gh} {s : St} (h : RInvA g s) (a : Act) (hadm : Adm g a)
    (o : Obs) (hoi : o.i = actId a) (hor : o.res = (step cfg s a).2) :
    RInvA (g.ext o (newIds a)) (step cfg s a).1 :=
  raw_stepG nfLaws cfg hrep h a hadm o hoi hor
    (fun hr hi j _ => nf_of_running j (endIdx_snoc_running o (h.gi.s2 _ hi) (Obs.of_res_none hr)))
    (fun hr _ _ hm _ j _ _ _ _ _ => nf_land (h.pi.pendS _ hm).2 hoi hr j)
    (fun hr he j _ _ _ => nf_land he hoi hr j)

end HappyModel.C16
