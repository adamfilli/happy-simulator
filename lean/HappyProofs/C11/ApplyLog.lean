import HappyProofs.C11.Basic
/-! What a node hands to its state machine at index k is entry k of its own log, and k is at or
    below its commit index at that moment — for every variant. -/
namespace HappyModel.C11
open Spec

theorem applyOne_apps (r : HR) (idx : Nat) (e : Entry) :
    ∀ p ∈ (applyOne r idx e).apps, p ∈ r.apps ∨ (p.1 = idx ∧ p.2.1 = e.cmd) := by
  intro p hp
  by_cases h : idx ≤ r.node.lastApplied
  · rw [applyOne_skip h] at hp; exact Or.inl hp
  · rw [applyOne_fresh r e (Nat.lt_of_not_le h)] at hp
    rcases List.mem_append.mp hp with h | h
    · exact Or.inl h
    · cases List.mem_singleton.mp h; exact Or.inr ⟨rfl, rfl⟩

theorem applyFrom_apps (es : List Entry) : ∀ (r : HR) (idx : Nat),
    ∀ p ∈ (applyFrom r idx es).apps, p ∈ r.apps ∨ ∃ j, ∃ hj : j < es.length, p.1 = idx + j ∧ p.2.1 = es[j].cmd := by
  induction es with
  | nil => intro r idx p hp; exact Or.inl hp
  | cons e es ih =>
    intro r idx p hp
    simp only [applyFrom] at hp
    rcases ih (applyOne r idx e) (idx + 1) p hp with h | ⟨j, hj, h1, h2⟩
    · rcases applyOne_apps r idx e p h with h | ⟨h1, h2⟩
      · exact Or.inl h
      · exact Or.inr ⟨0, by simp, by simpa using h1, by simpa using h2⟩
    · exact Or.inr ⟨j + 1, by simp; omega, by omega, by simpa using h2⟩

/-- every reported application is a committed entry of the node's log -/
def AppsFromLog (r : HR) : Prop :=
  ∀ p ∈ r.apps, 1 ≤ p.1 ∧ p.1 ≤ r.node.commit ∧ ∃ e, getE r.node.log p.1 = some e ∧ e.cmd = p.2.1

theorem afl_advance (x : Node) (new : Nat) : AppsFromLog (advanceCommit { node := x } new) := by
  rcases advanceCommit_cases x new with ⟨_, h⟩ | ⟨hnew, h⟩ <;> rw [h]
  · intro p hp; cases hp
  · intro p hp
    rw [(applyFrom_kept ..).log, applyFrom_commit]
    rcases applyFrom_apps _ _ _ p hp with h | ⟨j, hj, h1, h2⟩
    · cases h
    · refine ⟨by omega, ?_, _, h1 ▸ getE_committed x.log _ x.commit j hj, h2.symm⟩
      rw [List.length_drop, List.length_take] at hj
      show p.1 ≤ min new x.log.length; omega

theorem afl_nil {r : HR} (h : r.apps = []) : AppsFromLog r := by
  intro p hp; rw [h] at hp; cases hp

theorem Shape.afl {v : Variant} {n : Nat} {x : Node} {me : Nat} {inp : Inp} {r : HR} (sh : Shape v n x me inp r) :
    AppsFromLog r := by
  cases sh with
  | quiet q => exact afl_nil q.apps
  | adv y N _ hn ha _ => unfold AppsFromLog; rw [hn, ha]; exact afl_advance y N
  | append f c _ _ hr => subst hr; exact afl_nil rfl

end HappyModel.C11
