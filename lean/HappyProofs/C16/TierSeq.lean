import HappyProofs.C16.TierInv
import HappyProofs.C16.StoreSeq
/-!
Scripts of the multi-tier cache (operations that do not overlap: `mexec`, `MSeqOk`; proved in `TRawSeq` as
`mseqOk_init`, stated in `TierProps`), the configurations the read-after-write theorems assume (`SeqCfg`), and what
`onTier` leaves unchanged.
-/
namespace HappyModel.C16.Tier
open HappyModel.C16

/-- a write-through tier at rest implements (part of) the map `M` -/
structure TR (c : Cfg) (s : St) (M : List (Key × Nat)) : Prop where
  sinv : SInv c s
  idle : s.pend = []
  noInfl : ∀ k, cnt s.infl k = 0
  clean : s.dirty = []
  cacheOk : ∀ k v, aget? s.cache k = some v → aget? M k = some v

/-- a tier the multi-tier theorems accept: a repaired write-through `CachedStore` with capacity ≥ 1 -/
def TierOk (c : Cfg) : Prop := c.rep = true ∧ c.wt = true ∧ 1 ≤ c.cap

theorem tr_plug {c : Cfg} {s : St} {M : List (Key × Nat)} (h : TR c s M) (b : List (Key × Nat)) : TR c (plug s b) M :=
  ⟨sinv_plug h.sinv b, h.idle, h.noInfl, h.clean, h.cacheOk⟩

def SeqCfg (cfg : MCfg) : Prop := ∀ c, c ∈ cfg.tiers → TierOk c

/-- resume operation `i` until it reports a result (a put needs two resumes) -/
def mresumeAll (cfg : MCfg) : Nat → MSt → Nat → Nat → MSt × Option Res
  | 0, ms, _, _ => (ms, none)
  | fuel + 1, ms, i, now =>
    match ms.pend.find? (·.1 == i) with
    | none => (ms, none)
    | some (_, p) =>
      match (mresume cfg ms i p now).2 with
      | some r => ((mresume cfg ms i p now).1, some r)
      | none => mresumeAll cfg fuel (mresume cfg ms i p now).1 i now

def mexec (cfg : MCfg) (ms : MSt) (i : Nat) (op : MOp) (now : Nat) : MSt × Option Res :=
  match (mstart cfg ms i op now).2 with
  | some r => ((mstart cfg ms i op now).1, some r)
  | none => mresumeAll cfg 3 (mstart cfg ms i op now).1 i now

/-- the map the hierarchy is supposed to implement (a direct tier read changes nothing) -/
def mabs (M : List (Key × Nat)) : MOp → List (Key × Nat)
  | .put k v => aset M k v
  | .del k => adel M k
  | _ => M

def MSeqOk (cfg : MCfg) : MSt → List (Key × Nat) → Nat → List (MOp × Nat) → Prop
  | _, _, _, [] => True
  | ms, M, i, (op, now) :: rest =>
    (match op with
     | .get k => (mexec cfg ms i op now).2 = some (expected M k)
     | _ => True) ∧
    MSeqOk cfg (mexec cfg ms i op now).1 (mabs M op) (i + 1) rest

theorem onTier_eq (cfg : MCfg) (ms : MSt) (t : Nat) (f : Cfg → St → St × Option Res) (c : Cfg) (s : St)
    (ec : cfg.tiers[t]? = some c) (es : ms.tiers[t]? = some s) :
    onTier cfg ms t f = ({ ms with tiers := ms.tiers.set t (f c (plug s ms.back)).1, back := (f c (plug s ms.back)).1.back },
      (f c (plug s ms.back)).2) := by
  simp only [onTier, ec, es]

theorem onTier_none (cfg : MCfg) (ms : MSt) (t : Nat) (f : Cfg → St → St × Option Res)
    (h : cfg.tiers[t]? = none ∨ ms.tiers[t]? = none) : onTier cfg ms t f = (ms, none) := by
  unfold onTier
  split
  · rename_i ec es
    rcases h with h | h
    · rw [h] at ec; cases ec
    · rw [h] at es; cases es
  · rfl

theorem onTier_pend (cfg : MCfg) (ms : MSt) (t : Nat) (f : Cfg → St → St × Option Res) :
    (onTier cfg ms t f).1.pend = ms.pend := by
  unfold onTier; split <;> rfl

theorem onTier_infl (cfg : MCfg) (ms : MSt) (t : Nat) (f : Cfg → St → St × Option Res) :
    (onTier cfg ms t f).1.infl = ms.infl := by
  unfold onTier; split <;> rfl

theorem firstHit_some (k : Key) (ss : List St) (n t : Nat) (h : firstHit k ss n = some t) :
    ∃ j s, t = n + j ∧ ss[j]? = some s ∧ k ∈ akeys s.cache := by
  induction ss generalizing n with
  | nil => simp [firstHit] at h
  | cons s ss ih =>
    unfold firstHit at h
    split at h
    · rename_i hk
      cases h
      exact ⟨0, s, rfl, rfl, hk⟩
    · obtain ⟨j, s', e, es, hk⟩ := ih (n + 1) h
      exact ⟨j + 1, s', by omega, by simpa using es, hk⟩

end HappyModel.C16.Tier
