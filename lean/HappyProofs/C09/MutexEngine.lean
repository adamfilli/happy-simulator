import HappyProofs.C09.MutexSpec
/-! Engine mode of the Mutex judge: besides the books of the direct mode it keeps the `resolved` list (calls that became
resumable and whose process has not been seen resuming) and consumes `got` / `fin` lines.  `traceE` is the model's
transcript as `Driver.runMutex` prints it and `Driver.judgeSync` reads it back, checked against the driver on concrete
schedules by `#guard`. -/
namespace HappyModel.C09.Sync.Mutex

inductive Cmd
  | op (t : Nat) (o : Op)       -- a call made at clock value `t`
  | got (t : Nat) (id : Nat)    -- the process of call `id` is seen resuming at clock value `t`
  | fin (t : Nat)               -- the run went quiescent
deriving Repr, DecidableEq

/-- `got` / `fin` line: carries (after `Driver.fillS`) the counters of the current state -/
def cntObs (t : Nat) (k : SKind) (s : St) : Obs :=
  { t := t, k := k, c1 := b01 s.locked, c2 := s.waiters.length }

/-- the model's engine-mode observable trace: mirrors `Driver.runMutex.go` (state, pending list)
    followed by `Driver.parseSObs` / `Driver.fillS` -/
def traceE (s : St) (p : Pend) : List Cmd → List Obs
  | [] => []
  | .op t o :: cs =>
    obsE t o (step s o).2 (step s o).1 :: traceE (step s o).1 (p.add t (newlyOf o (step s o).2)) cs
  | .got t id :: cs => cntObs t (.got id 0) s :: traceE s (p.got t id).1 cs
  | .fin t :: cs => cntObs t .fin s :: traceE s p cs

def wfE (s : St) (p : Pend) : List Cmd → Bool
  | [] => true
  | .op t o :: cs => wfE (step s o).1 (p.add t (newlyOf o (step s o).2)) cs
  | .got t id :: cs => decide ((p.got t id).2 = .ok) && wfE s (p.got t id).1 cs
  | .fin _ :: cs => p.isEmpty && wfE s p cs

theorem judge_got (s : St) (b : MBook) (p : Pend) (t id : Nat) (rest : List Obs) (inv : Inv s) (ag : AgreeE b s p) :
    judgeMutex true b (cntObs t (.got id 0) s :: rest) = match (p.got t id).2 with
      | .ok => judgeMutex true { b with resolved := (p.got t id).1 } rest
      | .late => some ("mutex" ++ "/wait/resumed-late")
      | .unexpected => some ("mutex" ++ "/grant/resumed-without-grant") := by
  have hap : procObs "mutex" p (cntObs t (.got id 0) s)
      = some (match (p.got t id).2 with | .ok => _ | .late => _ | .unexpected => _) := procObs_got "mutex" p _ id rfl
  cases hg : (p.got t id).2 <;> rw [hg] at hap
  · exact judge_cons_ok rest (by unfold MBook.apply; rw [ag.resolved, hap]; rfl)
      (check_ok s { b with resolved := (p.got t id).1 } _ inv ag.holders ag.blocked rfl rfl)
  · exact judge_cons_err rest (by unfold MBook.apply; rw [ag.resolved, hap])
  · exact judge_cons_err rest (by unfold MBook.apply; rw [ag.resolved, hap])

theorem judge_fin (s : St) (b : MBook) (p : Pend) (t : Nat) (rest : List Obs) (inv : Inv s) (ag : AgreeE b s p) :
    judgeMutex true b (cntObs t .fin s :: rest)
      = if p.isEmpty then judgeMutex true b rest else some "mutex/grant/never-resumed" := by
  obtain ⟨hh, hb, rfl⟩ := ag
  cases hp : b.resolved.isEmpty with
  | false =>
    refine judge_cons_err rest ?_
    unfold MBook.apply
    rw [procObs_fin "mutex" b.resolved _ rfl, hp]; rfl
  | true =>
    refine judge_cons_ok rest ?_ (check_ok s b _ inv hh hb rfl rfl)
    unfold MBook.apply
    rw [procObs_fin "mutex" b.resolved _ rfl, hp]; rfl

theorem judge_iff (s : St) (b : MBook) (p : Pend) (cs : List Cmd) (inv : Inv s) (ag : AgreeE b s p) :
    judgeMutex true b (traceE s p cs) = none ↔ wfE s p cs = true := by
  induction cs generalizing s b p with
  | nil => exact ⟨fun _ => rfl, fun _ => rfl⟩
  | cons c cs ih =>
    cases c with
    | op t o =>
      obtain ⟨b', hj, hag⟩ := judge_op true t s b p o (traceE (step s o).1 (p.add t (newlyOf o (step s o).2)) cs) inv ag
      exact (iff_of_eq (congrArg (· = none) hj)).trans (ih _ _ _ (step_inv s o inv) hag)
    | got t id =>
      simp only [traceE, wfE, Bool.and_eq_true, decide_eq_true_eq]
      rw [judge_got s b p t id _ inv ag]
      cases hok : (p.got t id).2 with
      | ok =>
        exact (ih s { b with resolved := (p.got t id).1 } _ inv ⟨ag.holders, ag.blocked, rfl⟩).trans (and_iff_right rfl).symm
      | _ => exact ⟨nofun, fun h => nomatch h.1⟩
    | fin t =>
      simp only [traceE, wfE, Bool.and_eq_true]
      rw [judge_fin s b p t _ inv ag]
      cases p.isEmpty with
      | false => simp
      | true => simpa using ih s b p inv ag

def immediate (s : St) : List (Nat × Op) → List Cmd
  | [] => []
  | (t, o) :: r => .op t o :: ((newlyOf o (step s o).2).map (Cmd.got t) ++ immediate (step s o).1 r)

theorem newly_le_one (s : St) (o : Op) :
    newlyOf o (step s o).2 = [] ∨ ∃ i, newlyOf o (step s o).2 = [i] := by
  have h := step_leaf s o
  generalize step s o = r at h ⊢
  cases h with
  | granted id => exact .inr ⟨id, rfl⟩
  | relHand => exact .inr ⟨_, rfl⟩
  | _ => exact .inl rfl

theorem immediate_wf (s : St) (ops : List (Nat × Op)) (tf : Nat) :
    wfE s [] (immediate s ops ++ [.fin tf]) = true := by
  induction ops generalizing s with
  | nil => simp [immediate, wfE]
  | cons c r ih =>
    obtain ⟨t, o⟩ := c
    simp only [immediate, List.cons_append, wfE]
    rcases newly_le_one s o with h | ⟨i, h⟩
    · rw [h]; simpa [Pend.add] using ih (step s o).1
    · rw [h]; simpa [Pend.add, Pend.got, wfE] using ih (step s o).1

def Cmd.line : Cmd → String
  | .op t (.acquire id) => s!"acq {t} {id}"
  | .op t (.tryAcquire id) => s!"try {t} {id}"
  | .op t .release => s!"rel {t}"
  | .got t id => s!"got {t} {id}"
  | .fin t => s!"fin {t}"

/-- `Driver.runMutex` on the rendered schedule, parsed and counter-filled as `Driver.judgeSync` does -/
def viaDriver (cs : List Cmd) : List Obs :=
  Driver.fillS 0 0 0 ((Driver.runMutex (cs.map Cmd.line)).filterMap (fun l => Driver.parseSObs false (Proto.toks l)))

def obsEq (a b : Obs) : Bool :=
  a.t == b.t && decide (a.k = b.k) && decide (a.res = b.res) && a.woke == b.woke
    && a.c1 == b.c1 && a.c2 == b.c2 && a.c3 == b.c3

def obsListEq : List Obs → List Obs → Bool
  | [], [] => true
  | a :: as, b :: bs => obsEq a b && obsListEq as bs
  | _, _ => false

/-- two workers contend, the release hands the lock to the second, which resumes at that clock value -/
def demo : List Cmd :=
  [.op 0 (.acquire 0), .got 0 0, .op 0 (.acquire 1), .op 5 (.tryAcquire 2), .op 7 .release, .got 7 1,
   .op 9 .release, .op 9 .release, .fin 9]

/-- the same, but the woken worker is seen resuming one tick late -/
def demoLate : List Cmd :=
  [.op 0 (.acquire 0), .got 0 0, .op 0 (.acquire 1), .op 7 .release, .got 8 1, .fin 9]

/-- a woken worker that never resumes, and one that resumes twice -/
def demoParked : List Cmd := [.op 0 (.acquire 0), .got 0 0, .op 0 (.acquire 1), .op 7 .release, .fin 9]
def demoTwice : List Cmd := [.op 0 (.acquire 0), .got 0 0, .got 0 0, .fin 9]

#guard obsListEq (viaDriver demo) (traceE {} [] demo)
#guard obsListEq (viaDriver demoLate) (traceE {} [] demoLate)
#guard obsListEq (viaDriver demoParked) (traceE {} [] demoParked)
#guard obsListEq (viaDriver demoTwice) (traceE {} [] demoTwice)
#guard obsListEq (viaDriver (immediate {} [(0, .acquire 0), (0, .acquire 1), (3, .release), (4, .release)] ++ [.fin 4]))
  (traceE {} [] (immediate {} [(0, .acquire 0), (0, .acquire 1), (3, .release), (4, .release)] ++ [.fin 4]))
#guard Driver.handle ["judge-mutex", "engine"] (Driver.handle ["mutex"] (demo.map Cmd.line)) == ["ok"]
#guard Driver.handle ["judge-mutex", "engine"] (Driver.handle ["mutex"] (demoLate.map Cmd.line)) == ["viol mutex/wait/resumed-late"]

end HappyModel.C09.Sync.Mutex

namespace HappyModel.C09
open Sync

/-- the judge in engine mode accepts the model's engine transcript EXACTLY on the well-formed
    schedules — `wfE` is not stronger than what the judge demands -/
theorem mutex_engine_trace_accepts_iff (cs : List Mutex.Cmd) :
    judgeMutex true {} (Mutex.traceE {} [] cs) = none ↔ Mutex.wfE {} [] cs = true :=
  Mutex.judge_iff {} {} [] cs ⟨by simp⟩ ⟨rfl, rfl, rfl⟩

/-- **C09, engine mode, Mutex**: for every well-formed schedule (`Mutex.wfE`: every `got` line names a call that became
    resumable — granted at once or woken by a release — and has not resumed yet, at the clock value
    at which it became resumable; `fin` lines only when no resumable call is left parked) the judge
    in ENGINE mode accepts the Mutex model's own engine transcript: besides the direct-mode clauses
    (one holder, FIFO hand-off, head not grantable, counters) also the Pend-layer clauses — resumed
    only after a grant, exactly once, at the wake-up clock value, silently, nobody left parked -/
theorem mutex_engine_trace_satisfies_spec (cs : List Mutex.Cmd) (wf : Mutex.wfE {} [] cs = true) :
    judgeMutex true {} (Mutex.traceE {} [] cs) = none :=
  (mutex_engine_trace_accepts_iff cs).mpr wf

/-- unconditional corollary: for EVERY timed operation list, the engine schedule in which each call
    that becomes resumable (granted at once, or woken by a release) resumes immediately after the
    line that made it resumable, closed by a `fin` line, is accepted by the engine-mode judge -/
theorem mutex_engine_immediate_resume_satisfies_spec (ops : List (Nat × Mutex.Op)) (tf : Nat) :
    judgeMutex true {} (Mutex.traceE {} [] (Mutex.immediate {} ops ++ [.fin tf])) = none :=
  mutex_engine_trace_satisfies_spec _ (Mutex.immediate_wf {} ops tf)

/-- non-vacuity: a concrete well-formed schedule with contention, a hand-off and its `got` line -/
example : Mutex.wfE {} [] Mutex.demo = true := by decide +kernel
example : judgeMutex true {} (Mutex.traceE {} [] Mutex.demo) = none := by decide +kernel
example : (Mutex.traceE {} [] Mutex.demo).map (·.woke) = [[], [], [], [], [1], [], [], [], []]
    ∧ (Mutex.traceE {} [] Mutex.demo).map (·.res)
      = [.granted, .ok, .queued, .refused, .released, .ok, .released, .errRuntime, .ok] := by decide +kernel
example : Mutex.immediate {} [(0, .acquire 0), (0, .acquire 1), (3, .release), (4, .release)]
    = [.op 0 (.acquire 0), .got 0 0, .op 0 (.acquire 1), .op 3 .release, .got 3 1, .op 4 .release] := by decide +kernel

/-- the engine-mode judge rejects: resumed late / never resumed / resumed twice -/
example : Mutex.wfE {} [] Mutex.demoLate = false
    ∧ judgeMutex true {} (Mutex.traceE {} [] Mutex.demoLate) = some "mutex/wait/resumed-late" := by decide +kernel
example : Mutex.wfE {} [] Mutex.demoParked = false
    ∧ judgeMutex true {} (Mutex.traceE {} [] Mutex.demoParked) = some "mutex/grant/never-resumed" := by decide +kernel
example : Mutex.wfE {} [] Mutex.demoTwice = false
    ∧ judgeMutex true {} (Mutex.traceE {} [] Mutex.demoTwice) = some "mutex/grant/resumed-without-grant" := by decide +kernel

end HappyModel.C09
