import HappyProofs.C17.MLShape
/-!
`ML.step`, `MLM.step` and `MLT.step` are one program text over three state types.  `Sig σ` names what the text
uses of a state type; `step g` is the text with `g.` for these operations, and each model's `step` is `step` of
its signature by unfolding (`step_prog`: `rfl`).  So the program is walked once (`step_does`), under the laws
that the elementary changes act on the view as those of `ML.St`.
-/
namespace HappyModel.C17.LN
open HappyModel.C17.ML (Version Msg Proc MKind PKind vcTick vcMerge versionsOf)

/-- The elementary changes are fields, not `put s (f (view s))` for one `put : σ → ML.St → σ`: as fields each is
the model's own record update and `step_prog` needs unfolding only; through `put` it would have to reduce nested
projections of constructor applications. -/
structure Sig (σ : Type) where
  view : σ → ML.St
  spawn : σ → Proc → σ
  setProc : σ → Nat → Proc → σ
  send : σ → Msg → σ
  reply : σ → Nat → String → σ
  fail : σ → String → σ
  setNow : σ → Nat → σ
  setClock : σ → (Nat → List Nat) → σ
  setMsgs : σ → (Nat → Option Msg) → σ
  setVer : σ → Nat → Nat → Version → σ
  res : σ → Res
  /-- the only recursive function of the text: a field, so that unfolding suffices -/
  aeLoop : σ → Nat → List (Nat × Version) → σ × List (Nat × Version)
  /-- the anti-entropy tick `ae node peer` is refused for want of a link.  A `Prop` with its `Decidable` beside it
  (as `answers` below), not a `Bool`: the models test `if p ∧ q then`, and only so is each `step_prog` a `rfl` -/
  noLink : σ → Nat → Nat → Prop
  noLinkDec : ∀ s node peer, Decidable (noLink s node peer)
  /-- handler `p`, started in `s`, whose merge loop is over in `s1`, answers with its version table -/
  answers : σ → σ → Proc → Prop
  answersDec : ∀ s s1 p, Decidable (answers s s1 p)

variable {σ : Type} (g : Sig σ)

def install (s : σ) (i k : Nat) (inc : Version) : σ × Bool :=
  if (g.res s).takes ((g.view s).vers i k) inc then
    (g.setVer s i k ((g.res s).pick ((g.view s).vers i k) inc), true)
  else (s, false)

def aeContinue (s : σ) (pid : Nat) (p : Proc) (items : List (Nat × Version)) : σ :=
  let (s1, left) := g.aeLoop s p.node items
  match left with
  | _ :: _ => g.setProc s1 pid { p with items := left, waiting := true }
  | [] =>
    have := g.answersDec s s1 p
    if g.answers s s1 p then
      g.setProc (g.send s1 { kind := .aeresp, src := p.node, dst := p.src, items := versionsOf (g.view s1) p.node }) pid
        { p with items := [], waiting := false, sent := true }
    else g.setProc s1 pid { p with items := [], waiting := false, fin := true }

def resumeAe (s : σ) (pid : Nat) (p : Proc) : σ :=
  if p.sent then g.setProc s pid { p with fin := true }
  else match p.items with
    | (k, v) :: rest =>
      if p.waiting then aeContinue g (install g s p.node k v).1 pid p rest
      else g.fail s "not-waiting"
    | [] => g.fail s "not-waiting"

def resume (s : σ) (pid : Nat) : σ :=
  match (g.view s).procs pid with
  | none => g.fail s "no-such-process"
  | some p0 =>
    if p0.fin then g.fail s "process-finished" else
    let p := { p0 with seg := p0.seg + 1 }
    match p.kind with
    | .write =>
      if p0.seg = 1 then
        let s1 := (install g s p.node p.key p.ver).1
        let s2 := ((g.res s).peers p.node).foldl
          (fun s j => g.send s { kind := .repl, src := p.node, dst := j, key := p.key, ver := p.ver }) s1
        g.setProc s2 pid p
      else g.setProc (g.reply s p.op "ok") pid { p with fin := true }
    | .repl => g.setProc (install g s p.node p.key p.ver).1 pid { p with fin := true }
    | .read =>
      g.setProc (g.reply s p.op s!"val {showOpt ((g.view s).store p.node p.key)}") pid { p with fin := true }
    | .ae => g.setProc s pid { p with fin := true }
    | .aereq | .aeresp => resumeAe g s pid p
    | .other => g.fail s "process-finished"

def startAe (s : σ) (mid : Nat) (m : Msg) (p : Proc) : σ :=
  let s1 := g.setMsgs s (upd (g.view s).msgs mid (some { m with delivered := true }))
  aeContinue g (g.spawn s1 p) (g.view s1).np p m.items

def deliver (s : σ) (mid : Nat) : σ :=
  match (g.view s).msgs mid with
  | none => g.fail s "no-such-message"
  | some m =>
    if m.delivered then g.fail s "already-delivered" else
    let s1 := g.setMsgs s (upd (g.view s).msgs mid (some { m with delivered := true }))
    let i := m.dst
    match m.kind with
    | .repl =>
      let s2 := g.setClock s1
        (upd (g.view s1).clock i (vcTick (g.view s).n (vcMerge (g.view s).n ((g.view s1).clock i) m.ver.vc) i))
      if (g.res s).takes ((g.view s2).vers i m.key) m.ver then
        g.spawn s2 { kind := .repl, node := i, key := m.key, ver := m.ver, op := mid }
      else g.spawn s2 { kind := .repl, node := i, key := m.key, ver := m.ver, op := mid, fin := true }
    | .aereq => startAe g s mid m { kind := .aereq, node := i, src := m.src, hash := m.hash, op := mid }
    | .aeresp => startAe g s mid m { kind := .aeresp, node := i, src := m.src, op := mid }

def step (s : σ) : Act → σ
  | .tick t => g.setNow s t
  | .cw op node k v =>
    if node ≥ (g.view s).n then g.fail s "no-such-node" else
    let c := vcTick (g.view s).n ((g.view s).clock node) node
    g.spawn (g.setClock s (upd (g.view s).clock node c))
      { kind := .write, node := node, key := k, ver := ⟨v, (g.view s).now, node, c⟩, op := op }
  | .cr op node k =>
    if node ≥ (g.view s).n then g.fail s "no-such-node" else
    g.spawn s { kind := .read, node := node, key := k, op := op }
  | .dl mid => deliver g s mid
  | .rs pid => resume g s pid
  | .ae node peer =>
    have := g.noLinkDec s node peer
    if node ≥ (g.view s).n ∨ peer ≥ (g.view s).n ∨ g.noLink s node peer then g.fail s "bad-anti-entropy" else
    g.spawn (g.send s { kind := .aereq, src := node, dst := peer, items := versionsOf (g.view s) node,
                        hash := (g.view s).store node })
      { kind := .ae, node := node }

structure Sig.Laws : Prop where
  spawn : ∀ s p, g.view (g.spawn s p) = (g.view s).spawn p
  setProc : ∀ s pid p, g.view (g.setProc s pid p) = (g.view s).setProc pid p
  send : ∀ s m, g.view (g.send s m) = (g.view s).send m
  reply : ∀ s op t, g.view (g.reply s op t) = (g.view s).reply op t
  fail : ∀ s e, g.view (g.fail s e) = (g.view s).fail e
  setNow : ∀ s t, g.view (g.setNow s t) = { g.view s with now := t }
  setClock : ∀ s c, g.view (g.setClock s c) = { g.view s with clock := c }
  setMsgs : ∀ s m, g.view (g.setMsgs s m) = { g.view s with msgs := m }
  setVer : ∀ s i k w, g.view (g.setVer s i k w) = (g.view s).setVer i k w
  resVer : ∀ s i k w, g.res (g.setVer s i k w) = g.res s
  resSpawn : ∀ s p, g.res (g.spawn s p) = g.res s
  resSetMsgs : ∀ s m, g.res (g.setMsgs s m) = g.res s
  loopNil : ∀ s i, g.aeLoop s i [] = (s, [])
  loopCons : ∀ s i k v rest, g.aeLoop s i ((k, v) :: rest) =
    if (g.res s).takes ((g.view s).vers i k) v then (s, (k, v) :: rest) else g.aeLoop s i rest
  link : ∀ s node peer, ¬ g.noLink s node peer ↔ (g.res s).link node peer = true
  ans : ∀ s s1 p, g.answers s s1 p → p.kind = .aereq

/-- the part of a state outside the view is such a `Q` -/
structure Sig.Keeps (Q : σ → Prop) : Prop where
  spawn : ∀ {s p}, Q s → Q (g.spawn s p)
  setProc : ∀ {s pid p}, Q s → Q (g.setProc s pid p)
  send : ∀ {s m}, Q s → Q (g.send s m)
  reply : ∀ {s op t}, Q s → Q (g.reply s op t)
  fail : ∀ {s e}, Q s → Q (g.fail s e)
  setNow : ∀ {s t}, Q s → Q (g.setNow s t)
  setClock : ∀ {s c}, Q s → Q (g.setClock s c)
  setMsgs : ∀ {s m}, Q s → Q (g.setMsgs s m)
  setVer : ∀ {s i k w}, Q s → Q (g.setVer s i k w)

theorem Sig.Laws.loop {g : Sig σ} (L : g.Laws) (s : σ) (i : Nat) : ∀ items, g.aeLoop s i items = (s, (g.res s).left (g.view s) i items)
  | [] => L.loopNil s i
  | (k, v) :: rest => by
    rw [L.loopCons, Res.left, List.dropWhile_cons]
    cases (g.res s).takes ((g.view s).vers i k) v with
    | true => rfl
    | false => exact L.loop s i rest

theorem Sig.keeps_true : g.Keeps fun _ => True :=
  ⟨fun _ => trivial, fun _ => trivial, fun _ => trivial, fun _ => trivial, fun _ => trivial, fun _ => trivial,
   fun _ => trivial, fun _ => trivial, fun _ => trivial⟩

def Sig.Does (Q : σ → Prop) (s : σ) (a : Act) (s' : σ) : Prop :=
  StepShape (g.res s) (g.view s) a (g.view s') ∧ (Q s → Q s')

section
variable {g} {Q : σ → Prop} (L : g.Laws) (K : g.Keeps Q)
include L K

theorem does_fail {s : σ} {a : Act} (e : String) (hv : ¬ Enabled (g.res s) (g.view s) a) : g.Does Q s a (g.fail s e) :=
  ⟨.fail e hv (L.fail ..), K.fail⟩

theorem install_view (s : σ) (i k : Nat) (v : Version) :
    g.view (install g s i k v).1 = (g.res s).inst (g.view s) i k v ∧ g.res (install g s i k v).1 = g.res s ∧
      (Q s → Q (install g s i k v).1) := by
  unfold install Res.inst
  split
  · exact ⟨L.setVer .., L.resVer .., K.setVer⟩
  · exact ⟨rfl, rfl, id⟩

theorem aeContinue_shape (s : σ) (pid : Nat) (p : Proc) (items : List (Nat × Version)) :
    (∃ p', AeShape (g.res s) (g.view s) pid p items p' (g.view (aeContinue g s pid p items))) ∧
      (Q s → Q (aeContinue g s pid p items)) := by
  unfold aeContinue
  rw [L.loop]
  simp only
  cases hl : (g.res s).left (g.view s) p.node items with
  | cons x xs =>
    exact ⟨⟨{ p with items := x :: xs, waiting := true },
      ⟨rfl, rfl, rfl, rfl, rfl, rfl, hl.symm, fun _ => ⟨rfl, rfl⟩, Or.inl (L.setProc ..)⟩⟩, K.setProc⟩
  | nil =>
    simp only
    split
    · rename_i hc
      exact ⟨⟨{ p with items := [], waiting := false, sent := true },
        ⟨rfl, rfl, rfl, rfl, rfl, rfl, hl.symm, fun h => absurd rfl h,
          Or.inr ⟨L.ans _ _ _ hc, rfl, by rw [L.setProc, L.send]⟩⟩⟩, fun h => K.setProc (K.send h)⟩
    · exact ⟨⟨{ p with items := [], waiting := false, fin := true },
        ⟨rfl, rfl, rfl, rfl, rfl, rfl, hl.symm, fun h => absurd rfl h, Or.inl (L.setProc ..)⟩⟩, K.setProc⟩

theorem foldl_send_view (mk : Nat → Msg) : ∀ (l : List Nat) (s : σ),
    g.view (l.foldl (fun s j => g.send s (mk j)) s) = l.foldl (fun s j => s.send (mk j)) (g.view s) ∧
      (Q s → Q (l.foldl (fun s j => g.send s (mk j)) s))
  | [], _ => ⟨rfl, id⟩
  | j :: l, s => by
    obtain ⟨e, q⟩ := foldl_send_view mk l (g.send s (mk j))
    exact ⟨by rw [List.foldl_cons, List.foldl_cons, e, L.send], fun h => q (K.send h)⟩

theorem startAe_does {s : σ} {mid : Nat} {m : Msg} (p : Proc) (h0 : (g.view s).msgs mid = some m)
    (hd : m.delivered = false) (hk : m.kind = .aereq ∨ m.kind = .aeresp) (hpk : p.kind = .aereq ↔ m.kind = .aereq)
    (hpk2 : p.kind = .aereq ∨ p.kind = .aeresp) (hnode : p.node = m.dst) (hsrc : p.src = m.src) (hop : p.op = mid)
    (hfin : p.fin = false) (hsent : p.sent = false) (hitems : p.items = []) :
    g.Does Q s (.dl mid) (startAe g s mid m p) := by
  unfold startAe
  simp only
  rw [L.setMsgs]
  obtain ⟨⟨p', sh⟩, q⟩ := aeContinue_shape L K
    (g.spawn (g.setMsgs s (upd (g.view s).msgs mid (some { m with delivered := true }))) p) (g.view s).np p m.items
  rw [L.resSpawn, L.resSetMsgs, L.spawn, L.setMsgs] at sh
  exact ⟨.dlAe mid m p p' rfl h0 hd hk hpk hpk2 hnode hsrc hop hfin hsent hitems sh, fun h => q (K.spawn (K.setMsgs h))⟩

theorem resumeAe_does {s : σ} {pid : Nat} {p0 : Proc} (h0 : (g.view s).procs pid = some p0) (hf : p0.fin = false)
    (hk : p0.kind = .aereq ∨ p0.kind = .aeresp) : g.Does Q s (.rs pid) (resumeAe g s pid { p0 with seg := p0.seg + 1 }) := by
  unfold resumeAe
  split
  · exact ⟨.sent pid p0 rfl h0 hf hk ‹_› (L.setProc ..), K.setProc⟩
  · rename_i hs
    split
    · rename_i k v rest hit
      split
      · obtain ⟨⟨p', sh⟩, q⟩ := aeContinue_shape L K (install g s p0.node k v).1 pid { p0 with seg := p0.seg + 1 } rest
        obtain ⟨e1, e2, e3⟩ := install_view L K s p0.node k v
        rw [e2, e1] at sh
        exact ⟨.wait pid p0 p' k v rest rfl h0 hf hk (Bool.eq_false_iff.mpr hs) hit sh, fun h => q (e3 h)⟩
      · exact does_fail L K _ id
    · exact does_fail L K _ id

theorem step_does (s : σ) (a : Act) : g.Does Q s a (step g s a) := by
  cases a with
  | tick t => exact ⟨.tick t rfl (L.setNow ..), K.setNow⟩
  | cw op node k v =>
    show g.Does Q s _ (if node ≥ (g.view s).n then _ else _)
    split
    · exact does_fail L K _ (Nat.not_lt.mpr ‹_›)
    · exact ⟨.cw op node k v rfl (Nat.lt_of_not_le ‹_›) (by rw [L.spawn, L.setClock]), fun h => K.spawn (K.setClock h)⟩
  | cr op node k =>
    show g.Does Q s _ (if node ≥ (g.view s).n then _ else _)
    split
    · exact does_fail L K _ id
    · exact ⟨.cr op node k rfl (Nat.lt_of_not_le ‹_›) (L.spawn ..), K.spawn⟩
  | ae node peer =>
    unfold step
    simp only
    split
    · rename_i hc
      refine does_fail L K _ fun c => ?_
      rcases hc with x | x | x
      · exact Nat.not_le_of_gt c.1 x
      · exact Nat.not_le_of_gt c.2.1 x
      · exact (L.link s node peer).mpr c.2.2 x
    · rename_i hc
      exact ⟨.ae node peer rfl (Nat.lt_of_not_le fun c => hc (.inl c)) (Nat.lt_of_not_le fun c => hc (.inr (.inl c)))
        ((L.link s node peer).mp fun c => hc (.inr (.inr c))) (by rw [L.spawn, L.send]), fun h => K.spawn (K.send h)⟩
  | dl mid =>
    show g.Does Q s _ (deliver g s mid)
    unfold deliver
    cases h0 : (g.view s).msgs mid with
    | none => exact does_fail L K _ fun ⟨_, e, _⟩ => nomatch h0.symm.trans e
    | some m =>
      simp only
      split
      · rename_i hd
        refine does_fail L K _ fun ⟨_, e, d⟩ => ?_
        cases h0.symm.trans e
        cases hd.symm.trans d
      · have hd : m.delivered = false := Bool.eq_false_iff.mpr ‹_›
        split
        · rename_i hk
          -- whether the `Replicate` would still apply decides only the handler's `fin`
          have repl : ∀ fin, fin = (!(g.res s).takes ((g.view s).vers m.dst m.key) m.ver) →
              g.Does Q s (.dl mid) (g.spawn (g.setClock (g.setMsgs s (upd (g.view s).msgs mid (some { m with delivered := true })))
                (upd (g.view (g.setMsgs s (upd (g.view s).msgs mid (some { m with delivered := true })))).clock m.dst
                  (vcTick (g.view s).n (vcMerge (g.view s).n
                    ((g.view (g.setMsgs s (upd (g.view s).msgs mid (some { m with delivered := true })))).clock m.dst)
                    m.ver.vc) m.dst)))
                { kind := .repl, node := m.dst, key := m.key, ver := m.ver, op := mid, fin := fin }) :=
            fun fin hfin => ⟨.dlRepl mid m fin rfl h0 hd hk hfin (by rw [L.spawn, L.setClock, L.setMsgs]; rfl),
              fun h => K.spawn (K.setClock (K.setMsgs h))⟩
          split
          · rename_i ht
            rw [L.setClock, L.setMsgs] at ht
            exact repl false (congrArg not ht).symm
          · rename_i ht
            rw [L.setClock, L.setMsgs] at ht
            exact repl true (congrArg not (Bool.eq_false_iff.mpr ht)).symm
        · rename_i hk
          exact startAe_does L K _ h0 hd (.inl hk) ⟨fun _ => hk, fun _ => rfl⟩ (.inl rfl) rfl rfl rfl rfl rfl rfl
        · rename_i hk
          exact startAe_does L K _ h0 hd (.inr hk) ⟨fun e => (by cases e), fun e => (by cases hk.symm.trans e)⟩
            (.inr rfl) rfl rfl rfl rfl rfl rfl
  | rs pid =>
    show g.Does Q s _ (resume g s pid)
    unfold resume
    cases h0 : (g.view s).procs pid with
    | none => exact does_fail L K _ id
    | some p0 =>
      simp only
      split
      · exact does_fail L K _ id
      · have hf : p0.fin = false := Bool.eq_false_iff.mpr ‹_›
        split
        · rename_i hk
          split
          · obtain ⟨e1, _, e3⟩ := install_view L K s p0.node p0.key p0.ver
            obtain ⟨f1, f2⟩ := foldl_send_view L K
              (fun j => ({ kind := .repl, src := p0.node, dst := j, key := p0.key, ver := p0.ver } : Msg))
              ((g.res s).peers p0.node) (install g s p0.node p0.key p0.ver).1
            exact ⟨.write1 pid p0 rfl h0 hf hk ‹_› (by rw [L.setProc, f1, e1]), fun h => K.setProc (f2 (e3 h))⟩
          · exact ⟨.write2 pid p0 rfl h0 hf hk ‹_› (by rw [L.setProc, L.reply]), fun h => K.setProc (K.reply h)⟩
        · obtain ⟨e1, _, e3⟩ := install_view L K s p0.node p0.key p0.ver
          exact ⟨.repl pid p0 rfl h0 hf ‹_› (by rw [L.setProc, e1]), fun h => K.setProc (e3 h)⟩
        · exact ⟨.quiet pid p0 _ rfl h0 hf (.inl ‹_›) (by rw [L.setProc, L.reply]; rfl), fun h => K.setProc (K.reply h)⟩
        · exact ⟨.quiet pid p0 (g.view s).replies rfl h0 hf (.inr ‹_›) (L.setProc ..), K.setProc⟩
        · exact resumeAe_does L K h0 hf (.inl ‹_›)
        · exact resumeAe_does L K h0 hf (.inr ‹_›)
        · exact does_fail L K _ id

end

end HappyModel.C17.LN
