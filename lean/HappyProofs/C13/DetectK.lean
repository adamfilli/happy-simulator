import HappyProofs.C13.Detection
import HappyProofs.C13.SafetyInv
/-!
The detection bound in terms of the number of crashes (`Spec.detectDeadline n k` with `k` = how many
nodes are down at the end of the run — what the judge uses): on a timely run with
`2·δ < half + susp` only crashed members are ever DEAD (`Inv.view`), so while `a` reports the crashed
`x` ALIVE, its alive-list holds `x` and every member that is up: at least `n - k` entries.
-/
namespace HappyModel.C13
variable {D : Type} [Inhabited D] [Detector D]

def crashedCount (c : Cfg) (s : Sys D) : Nat := (List.range c.n).countP s.isCrashed

theorem alive_floor {c : Cfg} {δ : Nat} {s : Sys D} {a x K : Nat} (I : Inv c δ s)
    (hO : OrdInv c.n a (s.node a)) (ha : a < c.n) (hx : x < c.n) (hax : x ≠ a)
    (hla : s.isCrashed a = false) (hxc : s.isCrashed x = true) (hv : s.view a x = .alive)
    (hK : crashedCount c s ≤ K) : c.n - K ≤ (aliveOrder c.n a (s.node a)).length := by
  -- the nodes that are up, with `a` replaced by `x`: duplicate-free, and all in the alive-list of `a`
  have hup : ((List.range c.n).filter (fun y => ¬ s.isCrashed y)).Nodup := List.nodup_range.filter _
  have hau : a ∈ (List.range c.n).filter (fun y => ¬ s.isCrashed y) :=
    List.mem_filter.mpr ⟨List.mem_range.mpr ha, by simp [hla]⟩
  have hnd : (x :: ((List.range c.n).filter (fun y => ¬ s.isCrashed y)).erase a).Nodup :=
    List.nodup_cons.mpr ⟨fun h => by simpa [hxc] using (List.mem_filter.mp (List.mem_of_mem_erase h)).2,
      hup.erase a⟩
  have hin : ∀ y, y < c.n → y ≠ a → (s.node a).view y ≠ .dead → y ∈ aliveOrder c.n a (s.node a) :=
    fun y hy hya hv =>
      have hm : isMember c.n a y = true := by simp [isMember, hya, hy]
      mem_aliveOrder.mpr ⟨hO.all y hm hv, hm, hv⟩
  have hlen := hnd.length_le_of_subset (l₂ := aliveOrder c.n a (s.node a)) (fun y hy => by
    rcases List.mem_cons.mp hy with rfl | hy
    · exact hin y hx hax (by rw [show (s.node a).view y = .alive from hv]; simp)
    · obtain ⟨hya, hy⟩ := hup.mem_erase_iff.mp hy
      obtain ⟨hyn, hyl⟩ := List.mem_filter.mp hy
      exact hin y (List.mem_range.mp hyn) hya (I.view a y (by simpa [Sys.live] using hyl)))
  have hcnt := List.length_eq_countP_add_countP s.isCrashed (l := List.range c.n)
  rw [List.length_cons, List.length_erase_of_mem hau, ← List.countP_eq_length_filter] at hlen
  rw [List.length_range] at hcnt
  unfold crashedCount at hK
  omega

theorem crashedCount_step {c : Cfg} {s s' : Sys D} {act : Act} (h : Step c s act s') :
    crashedCount c s ≤ crashedCount c s' :=
  List.countP_mono_left (fun y _ hy => crashed_step h y hy)

theorem crashedCount_run (c : Cfg) (s : Sys D) (acts : List Act) :
    crashedCount c s ≤ crashedCount c (run c s acts) :=
  run_inv (I := fun s' => crashedCount c s ≤ crashedCount c s')
    (fun s' act h => Nat.le_trans h (crashedCount_step (step_rel c s' act))) acts (Nat.le_refl _)

theorem lminRun_crashes {c : Cfg} {δ : Nat} (hδ : 2 * δ < c.half + c.susp) {a x T0 : Nat} (ha : a < c.n)
    (hx : x < c.n) (hax : x ≠ a) {s : Sys D} {acts : List Act} (I : Inv c δ s) (G : GInv c a T0 s)
    (hxc : s.isCrashed x = true) (hs : Along c (Sched c δ a) s acts)
    (hlive : (run c s acts).isCrashed a = false) :
    LminRun c (crashedCount c (run c s acts)) a x s acts := by
  induction acts generalizing s with
  | nil => trivial
  | cons act rest ih =>
    have hst := step_rel c s act
    have I' := inv_step hδ I hs.1.timely hst hs.1.whole
    have G' := ginv_step G hs.1.mono hs.1.shuf
    have hxc' := crashed_step hst x hxc
    exact ⟨fun hv => alive_floor I' G'.ord ha hx hax (live_of_run c _ rest a hlive) hxc' hv
      (crashedCount_run c _ rest), ih I' G' hxc' hs.2 hlive⟩

end HappyModel.C13
