import HappyProofs.C08.PipeWDefault
/-!
C08 part 2b — the admission proposal (`admission` and `wake` on; any `ConcurrencyModel`, any list
queue).  Its invariant `WInv` is `DInv0` with nothing rejected, plus: capacity stays reserved for the
item in flight, and the queue's choice is stable under arrivals (`WRes`); the no-strand clause speaks
of the item the queue would hand out next.  `WInv` is preserved by every admissible delivery.
-/
namespace HappyModel.C08.PipeW

/-- admissible delivery: a `QueueDispatchedEvent` is handled only after the payload it was created
    behind has reached the worker (engine FIFO tie order); the limit is not lowered while a dequeued
    item is on its way to the worker (the same-instant race); with a LIFO / priority queue all
    requests take the same number of units `w0` (only a FIFO head is stable under arrivals) -/
def Adm (c : WCfg) (w0 : Nat) (s : WSt) (a : Act) : Prop :=
  (a = .disp → s.works = []) ∧
  (∀ n, a = .limit n → newLimit c s n < s.limit → s.delivers = [] ∧ s.works = []) ∧
  (∀ it, a = .arr it → c.kind = .fifo ∨ wOf c it = w0)

/-- `Adm` by cases on the action (the decidable form) -/
def admC (c : WCfg) (w0 : Nat) (s : WSt) : Act → Prop
  | .disp => s.works = []
  | .limit n => newLimit c s n < s.limit → s.delivers = [] ∧ s.works = []
  | .arr it => c.kind = .fifo ∨ wOf c it = w0
  | _ => True

theorem adm_iff (c : WCfg) (w0 : Nat) (s : WSt) (a : Act) : Adm c w0 s a ↔ admC c w0 s a := by
  constructor
  · intro h
    cases a with
    | disp => exact h.1 rfl
    | limit n => exact h.2.1 n rfl
    | arr it => exact h.2.2 it rfl
    | _ => trivial
  · intro h
    refine ⟨fun e => ?_, fun n e => ?_, fun it e => ?_⟩ <;> subst e <;> exact h

instance instDecAdmC (c : WCfg) (w0 : Nat) (s : WSt) (a : Act) : Decidable (admC c w0 s a) := by
  cases a <;> dsimp only [admC] <;> infer_instance

instance instDecAdm (c : WCfg) (w0 : Nat) (s : WSt) (a : Act) : Decidable (Adm c w0 s a) :=
  decidable_of_iff _ (adm_iff c w0 s a).symm

/-- the design suggestion: the admission test travels with the poll, a raised limit wakes the driver -/
structure Setting (c : WCfg) : Prop where
  ha : c.admission = true
  hw : c.wake = true

def Sched (c : WCfg) (w0 : Nat) : WSt → List Act → Prop
  | _, [] => True
  | s, a :: as => Adm c w0 s a ∧ Sched c w0 (step c s a).1 as

instance instDecSched (c : WCfg) (w0 : Nat) : ∀ (as : List Act) (s : WSt), Decidable (Sched c w0 s as)
  | [], _ => isTrue trivial
  | a :: as, s => @instDecidableAnd _ _ _ (instDecSched c w0 as (step c s a).1)

/-- every prefix of an admissible schedule is admissible: the theorems about `final` hold after
    every event -/
theorem sched_take {c : WCfg} {w0 : Nat} : ∀ (n : Nat) (as : List Act) (s : WSt),
    Sched c w0 s as → Sched c w0 s (as.take n)
  | 0, _, _, _ => trivial
  | _ + 1, [], _, _ => trivial
  | n + 1, _ :: as, _, h => ⟨h.1, sched_take n as _ h.2⟩

structure WInv0 (c : WCfg) (w0 : Nat) (s : WSt) : Prop where
  rt : s.nPoll + s.delivers.length + s.nEmpty + s.nDisp = (if s.busy then 1 else 0)
  wf : s.works.length ≤ s.nDisp
  /-- capacity stays free for the item in flight -/
  res : ∀ it, it ∈ s.delivers ++ s.works → s.used + wOf c it ≤ s.limit
  act : s.used = sumW c s.inService
  rej : s.rejected = 0
  count : s.acc = s.q.length + s.delivers.length + s.works.length + s.inService.length + s.completed
  uni : c.kind = .fifo ∨ ∀ x, x ∈ s.q → wOf c x = w0

/-- whenever the item the queue would hand out next fits into the free capacity, some protocol
    event is still pending -/
def NoStrand (c : WCfg) (s : WSt) : Prop :=
  ∀ it, pick c.kind s.q = some it → s.used + wOf c it ≤ s.limit →
    0 < s.nNotify ∨ 0 < s.nPoll ∨ 0 < s.delivers.length ∨ 0 < s.nDisp ∨ (0 < s.nEmpty ∧ s.recheck = true)

structure WInv (c : WCfg) (w0 : Nat) (s : WSt) : Prop extends WInv0 c w0 s where
  strand : NoStrand c s

theorem inv_init (c : WCfg) (w0 lim : Nat) : WInv c w0 { limit := lim } :=
  ⟨⟨rfl, Nat.le_refl _, fun _ h => (nomatch h), rfl, rfl, rfl, Or.inr fun _ h => (nomatch h)⟩,
    fun it hit => by rw [pick_nil] at hit; cases hit⟩

/-- what `WInv0` adds to `DInv0`, as a structure of its own so that `step_dinv0` (proved once, for every
    config) serves both protocols and only these three clauses are walked again (`step_wres`) -/
structure WRes (c : WCfg) (w0 : Nat) (s : WSt) : Prop where
  res : ∀ it, it ∈ s.delivers ++ s.works → s.used + wOf c it ≤ s.limit
  rej : s.rejected = 0
  uni : c.kind = .fifo ∨ ∀ x, x ∈ s.q → wOf c x = w0

theorem WInv0.core {c : WCfg} {w0 : Nat} {s : WSt} (h : WInv0 c w0 s) : DInv0 c s :=
  ⟨h.rt, h.wf, h.act, by rw [h.rej]; exact h.count⟩

theorem WInv0.of {c : WCfg} {w0 : Nat} {s : WSt} (h : DInv0 c s) (x : WRes c w0 s) : WInv0 c w0 s :=
  ⟨h.rt, h.wf, x.res, h.act, x.rej, by have := h.count; rw [x.rej] at this; exact this, x.uni⟩

theorem pollIfReady_wres {c : WCfg} {w0 : Nat} {s : WSt} (x : WRes c w0 s) : WRes c w0 (pollIfReady s).1 := by
  obtain ⟨_, _, _, e⟩ := pollIfReady_frame s
  rw [e]
  exact ⟨x.res, x.rej, x.uni⟩

theorem step_wres {c : WCfg} {w0 : Nat} {s : WSt} (st : Setting c) (a : Act) (ha : Adm c w0 s a)
    (h : WInv0 c w0 s) : WRes c w0 (step c s a).1 := by
  refine step_ind (fun _ => pollIfReady_wres) fun b r p e => ?_
  cases e with
  | arr it =>
    refine ⟨h.res, h.rej, ?_⟩
    have := ha.2.2 it rfl
    have := h.uni
    simp only [List.mem_append, List.mem_singleton]
    grind
  | pop it _ _ had =>
    -- the admission test has just found that the head fits
    have hfit : s.used + wOf c it ≤ s.limit := by simpa [admits, st.ha, fits] using had
    refine ⟨fun y hy => ?_, h.rej, h.uni.imp_right fun hu y hy => hu y (List.mem_of_mem_erase hy)⟩
    have := h.res y
    simp only [List.mem_append, List.mem_singleton] at hy this
    grind
  | deliver i it hb =>
    -- the same items in flight, one moved from `delivers` to `works`
    refine ⟨fun y hy => h.res y ?_, h.rej, h.uni⟩
    have := byId_mem hb
    simp only [List.mem_append, List.mem_singleton] at hy ⊢
    grind [List.mem_of_mem_erase]
  | start i it hb =>
    -- one round trip, one payload, so nothing else is in flight afterwards
    refine ⟨fun y hy => ?_, h.rej, h.uni⟩
    have := length_erase_succ (byId_mem hb)
    have := h.wf
    have rt := (h.core.busy (by omega)).2
    have hd0 : s.delivers = [] := List.eq_nil_of_length_eq_zero (by omega)
    have he0 : s.works.erase it = [] := List.eq_nil_of_length_eq_zero (by omega)
    dsimp only at hy
    rw [hd0, he0] at hy
    cases hy
  | reject i it hb hf =>
    -- the reservation is what makes `acquire` succeed
    exact absurd ((fits_iff _ _).2 (h.res it (List.mem_append_right _ (byId_mem hb)))) hf
  | fin =>
    refine ⟨fun y hy => ?_, h.rej, h.uni⟩
    have := h.res y hy
    dsimp only
    omega
  | raise n | limit n =>
    refine ⟨fun y hy => ?_, h.rej, h.uni⟩
    by_cases hl : newLimit c s n < s.limit
    · obtain ⟨h1, h2⟩ := ha.2.1 n rfl hl
      rw [h1, h2] at hy
      cases hy
    · have := h.res y hy
      dsimp only
      omega
  | _ => exact ⟨h.res, h.rej, h.uni⟩

theorem step_inv {c : WCfg} {w0 : Nat} {s : WSt} (st : Setting c) (a : Act) (ha : Adm c w0 s a)
    (h : WInv c w0 s) : WInv c w0 (step c s a).1 := by
  have h0 := h.toWInv0.core
  refine ⟨.of (step_dinv0 a ha.1 h0) (step_wres st a ha h.toWInv0), fun x hx hfit =>
    step_need (need := fun q u l => ∃ it, pick c.kind q = some it ∧ u + wOf c it ≤ l) ⟨?_, ?_⟩ st.hw a ha.1 h0
      (fun ⟨y, hy, hf⟩ => h.strand y hy hf) ?_ ?_ ⟨x, hx, hfit⟩⟩
  · rintro q u l ⟨y, hy, hf⟩
    have := wOf_pos c y
    exact ⟨List.ne_nil_of_mem (pick_mem hy), by omega⟩
  · rintro q u l l' ⟨y, hy, hf⟩ hl
    exact ⟨y, hy, by omega⟩
  · -- the item the queue hands out next is the same (FIFO) or as heavy (uniform weights)
    rintro it rfl hq ⟨y, hy, hf⟩
    by_cases hk : c.kind = .fifo
    · rw [hk, pick_fifo_append it hq] at hy
      exact ⟨y, by rw [hk]; exact hy, hf⟩
    · have hu := h.uni.resolve_left hk
      have hw := (ha.2.2 it rfl).resolve_left hk
      obtain ⟨z, hz⟩ := pick_ne_none (k := c.kind) hq
      have hzw := hu z (pick_mem hz)
      have hyw : wOf c y = w0 := by
        rcases List.mem_append.1 (pick_mem hy) with hm | hm
        · exact hu y hm
        · rw [List.mem_singleton.1 hm]
          exact hw
      exact ⟨z, hz, by omega⟩
  · -- answered empty because the head does not fit: it still does not
    rintro it hit had ⟨y, hy, hf⟩
    rw [hit] at hy
    cases hy
    exact had (by simpa [admits, st.ha, fits] using hf)

end HappyModel.C08.PipeW
