import HappyProofs.C14.LsmScan
import HappyProofs.C14.LsmSem
import HappyProofs.C14.LsmBookRun
/-! The reader invariant with `Al := AlOf log b`, the value when the reader began or the cell of a later insert, carried
    along every in-order run; at the reader's last segment it is `ReadOk`. -/
namespace HappyModel.C14

variable {cfg : Cfg} {start : Nat → Pc} {st : St} {log : List Ev} {f : Frame} {k : Key} {c : Cell}

/-- cells a reader that began at segment `b` may return, given the inserts so far -/
def AlOf (log : List Ev) (b : Nat) (k : Key) (c : Cell) : Prop :=
  c = valAt log k b ∨ ∃ ev ∈ log, ev.key = k ∧ ev.cell = c ∧ b < ev.n

theorem filter_new (ev : Option Ev) (log : List Ev) (b : Nat) (h : ∀ e, ev = some e → b < e.n) :
    (ev.toList ++ log).filter (fun e => e.n < b) = log.filter (fun e => e.n < b) := by
  cases ev with
  | none => rfl
  | some e =>
    have := h e rfl
    simp only [Option.toList, List.singleton_append, List.filter_cons]
    have : decide (e.n < b) = false := by simp; omega
    rw [this]; rfl

theorem later_of {b : Nat} {P : Ev → Prop}
    (h : c = (firstOn k (log.filter fun ev => ev.n < b)).join ∨ ∃ ev ∈ log, P ev) (ev : Option Ev)
    (hn : ∀ e, ev = some e → b < e.n) :
    c = (firstOn k ((ev.toList ++ log).filter fun ev => ev.n < b)).join ∨ ∃ e ∈ ev.toList ++ log, P e := by
  rw [filter_new ev log b hn]
  exact h.imp id fun ⟨e, he, r⟩ => ⟨e, List.mem_append_right _ he, r⟩

theorem AlOf.later {b : Nat} (h : AlOf log b k c) (ev : Option Ev)
    (hn : ∀ e, ev = some e → b < e.n) : AlOf (ev.toList ++ log) b k c := later_of h ev hn

theorem ReadOk.later {b e : Nat} (h : ReadOk log k b e c) (ev : Option Ev)
    (hn : ∀ x, ev = some x → b < x.n) : ReadOk (ev.toList ++ log) k b e c := later_of h ev hn

theorem AlOf.readOk {b n : Nat} (h : AlOf log b k c) (hn : ∀ e ∈ log, e.n < n) :
    ReadOk log k b n c := by
  rcases h with h | ⟨e, he, r1, r2, r3⟩
  · exact Or.inl h
  · exact Or.inr ⟨e, he, r1, r2, r3, hn e he⟩

def RdOk (start : Nat → Pc) (st : St) (log : List Ev) (f : Frame) : Prop :=
  match f.pc with
  | .gAt k i t r => ∃ b, f.b = some b ∧ RInv st k i (t :: r) none (AlOf log b k)
  | .sAt lo hi i t r acc => ∃ b, f.b = some b ∧ SAcc lo hi acc ∧
      ∀ k, lo ≤ k → k < hi → RInv st k i (t :: r) (acc.lookup k) (AlOf log b k)
  | .done (.val c) => ∀ k, start f.id = .gStart k → ∀ b e, f.b = some b → f.e = some e → ReadOk log k b e c
  | .done (.rows d) => ∀ lo hi, start f.id = .sStart lo hi → ∀ b e, f.b = some b → f.e = some e →
      RowsOk lo hi d (fun k c => ReadOk log k b e c)
  | _ => True

def RdInv (start : Nat → Pc) (y : Sys) (log : List Ev) : Prop := ∀ f ∈ y.frames, RdOk start y.st log f

theorem rdOk_other {n : Nat} {g f : Frame}
    (hs : SInv cfg st) (hp : POk cfg st f.pc) (hg : RdOk start st log g) (hgb : ∀ b, g.b = some b → b < n) :
    RdOk start (stepOp cfg st f.pc).1 ((evOf cfg st n f).toList ++ log) g := by
  have hnew : ∀ b, g.b = some b → ∀ e, evOf cfg st n f = some e → b < e.n := by
    intro b hb e he
    unfold evOf at he
    split at he
    · cases he; exact hgb b hb
    · cases he
  have hal : ∀ b k c, g.b = some b → (AlOf log b k c ∨ ∃ q, insOf cfg st f.pc = some (k, c, q)) →
      AlOf ((evOf cfg st n f).toList ++ log) b k c := by
    intro b k c hb h
    rcases h with h | ⟨q, hq⟩
    · exact h.later _ (hnew b hb)
    · have : evOf cfg st n f = some ⟨n, f.id, k, c, q⟩ := by unfold evOf; rw [hq]
      rw [this]
      exact Or.inr ⟨_, List.mem_cons_self .., rfl, rfl, hgb b hb⟩
  obtain ⟨gid, gpc, gb, ge, gq⟩ := g
  cases gpc with
  | gAt k i t r =>
    obtain ⟨b, hb, hR⟩ := hg
    exact ⟨b, hb, (rinv_other hs hp hR).mono fun c hc => hal b k c hb hc⟩
  | sAt lo hi i t r acc =>
    obtain ⟨b, hb, hacc, hR⟩ := hg
    exact ⟨b, hb, hacc, fun k h1 h2 => (rinv_other hs hp (hR k h1 h2)).mono fun c hc => hal b k c hb hc⟩
  | done res =>
    cases res with
    | ok => trivial
    | val c => exact fun k hk b e hb he => (hg k hk b e hb he).later _ (hnew b hb)
    | rows d =>
      intro lo hi hk b e hb he
      obtain ⟨a1, a2, a3⟩ := hg lo hi hk b e hb he
      exact ⟨a1, a2, fun k h1 h2 => (a3 k h1 h2).later _ (hnew b hb)⟩
  | _ => trivial

theorem rdOk_write
    (h : PcCons (.pStart k c) f.pc) : RdOk start st log f := by
  obtain ⟨fid, pc, fb, fe, fq⟩ := f
  rcases h with rfl | ⟨q, rfl⟩ | ⟨q, rfl⟩ | h
  · trivial
  · trivial
  · trivial
  · cases pc <;> try first | trivial | cases h
    rename_i r
    cases r <;> first | trivial | cases h

theorem adv_b_of_some {n : Nat} {b : Nat} (h : f.b = some b) :
    (advFrame cfg st n f).b = some b := by rw [advFrame_b, h]; rfl

theorem rdOk_get {n b : Nat} {f' : Frame} (hso : start f'.id = .gStart k) (hevn : ∀ e ∈ log, e.n < n)
    (hb : f'.b = some b) (he : ∀ e, f'.e = some e → e = n) (h : GetAl st k (AlOf log b k) f'.pc) :
    RdOk start st log f' := by
  obtain ⟨fid, pc, fb, fe, fq⟩ := f'
  cases pc with
  | gStart k' => trivial
  | gAt k' i t r => obtain ⟨rfl, h2⟩ := h; exact ⟨b, hb, h2⟩
  | done res =>
    cases res with
    | val c =>
      intro k' hk' b0 e' hb0 he'
      cases hso.symm.trans hk'; cases hb.symm.trans hb0; cases he e' he'
      exact AlOf.readOk h hevn
    | _ => cases h
  | _ => cases h

theorem rdOk_scan {n b : Nat} {f' : Frame} {lo hi : Key} (hso : start f'.id = .sStart lo hi) (hevn : ∀ e ∈ log, e.n < n)
    (hb : f'.b = some b) (he : ∀ e, f'.e = some e → e = n) (h : ScanAl st lo hi (AlOf log b) f'.pc) :
    RdOk start st log f' := by
  obtain ⟨fid, pc, fb, fe, fq⟩ := f'
  cases pc with
  | sStart lo' hi' => trivial
  | sAt lo' hi' i t r acc => obtain ⟨rfl, rfl, h2⟩ := h; exact ⟨b, hb, h2⟩
  | done res =>
    cases res with
    | rows d =>
      intro lo' hi' hk' b0 e' hb0 he'
      cases hso.symm.trans hk'; cases hb.symm.trans hb0; cases he e' he'
      exact ⟨h.sorted, h.range, fun k' h1 h2 => (h.cells k' h1 h2).readOk hevn⟩
    | _ => cases h
  | _ => cases h

theorem rdOk_read {n : Nat} (hr : f.pc.isRead = true) (h : RdOk start st log (advFrame cfg st n f)) :
    RdOk start (stepOp cfg st f.pc).1 ((evOf cfg st n f).toList ++ log) (advFrame cfg st n f) := by
  have e : evOf cfg st n f = none := by unfold evOf; rw [insOf_read hr]
  rw [(stepOp_read hr).1, e]; exact h

theorem rdOk_self {n : Nat} {pre post : List Frame}
    (hL : LInv cfg start ⟨st, pre ++ f :: post, n⟩ log) (hf : RdOk start st log f) (h3 : f.pc.isDone = false) :
    RdOk start (stepOp cfg st f.pc).1 ((evOf cfg st n f).toList ++ log) (advFrame cfg st n f) := by
  have hfm : f ∈ pre ++ f :: post := by simp
  have hF := hL.frames f hfm
  have hst := hL.starts f hfm
  have hevn : ∀ e ∈ log, e.n < n := hL.evn
  -- a reader that begins at this segment may return the present value of every key
  have hal : ∀ k, AlOf log n k (st.abs k) := fun k => Or.inl ((hL.abs k).trans (valAt_now hevn k).symm)
  -- a frame still at its first program counter has not begun
  have hfb : f.pc.isStart = true → (advFrame cfg st n f).b = some n := by
    intro h
    cases hb : f.b with
    | none => rw [advFrame_b, hb]; rfl
    | some b => rw [(hF.started b hb).2] at h; cases h
  have he : ∀ e, (advFrame cfg st n f).e = some e → e = n := fun e he => (advFrame_e he).2
  have hm := hL.sys.sinv.memSorted
  have hcons := hF.cons
  obtain ⟨fid, pc, fb, fe, fq⟩ := f
  cases hso : start fid with
  | pStart k c => exact rdOk_write (hso ▸ (stepOp_shape cfg st (start fid) pc hcons).cons)
  | gStart k =>
    rw [hso] at hcons
    rcases hcons with rfl | ⟨i, t, r, rfl⟩ | ⟨c, rfl⟩
    · exact rdOk_read rfl (rdOk_get hso hevn (hfb rfl) he (getAl_step ⟨rfl, hal k⟩))
    · obtain ⟨b, hb, hR⟩ := hf
      exact rdOk_read rfl (rdOk_get hso hevn (adv_b_of_some hb) he (getAl_step ⟨rfl, hR⟩))
    · cases h3
  | sStart lo hi =>
    rw [hso] at hcons
    rcases hcons with rfl | ⟨i, t, r, acc, rfl⟩ | ⟨c, rfl⟩
    · exact rdOk_read rfl (rdOk_scan hso hevn (hfb rfl) he (scanAl_step hm ⟨rfl, rfl, fun k _ _ => hal k⟩))
    · obtain ⟨b, hb, hR⟩ := hf
      exact rdOk_read rfl (rdOk_scan hso hevn (adv_b_of_some hb) he (scanAl_step hm ⟨rfl, rfl, hR⟩))
    · cases h3
  | _ => rw [hso] at hst; cases hst

theorem rdinv_step {y : Sys} (hL : LInv cfg start y log)
    (hR : RdInv start y log) (id : Nat) : RdInv start (y.step cfg id) (logStep cfg y log id) := by
  rcases gstep_cases cfg y id with ⟨h0, hl, _⟩ | ⟨pre, f, post, h1, h2, h3, h4, h5, h6, _⟩
  · rw [h0, hl]; exact hR
  · rw [h5, h6]
    obtain ⟨st, frames, n⟩ := y
    simp only at h1
    subst h1
    have hfm : f ∈ pre ++ f :: post := by simp
    have other : ∀ g, g ∈ pre ∨ g ∈ post →
        RdOk start (stepOp cfg st f.pc).1 ((evOf cfg st n f).toList ++ log) g := by
      intro g hg
      have hgm : g ∈ pre ++ f :: post := by rcases hg with hg | hg <;> simp [hg]
      exact rdOk_other hL.sys.sinv (hL.sys.pcs f hfm) (hR g hgm) (fun b hb => ((hL.frames g hgm).started b hb).1)
    exact List.forall_mem_append.mpr ⟨fun g hg => other g (.inl hg),
      List.forall_mem_cons.mpr ⟨rdOk_self hL (hR f hfm) h3, fun g hg => other g (.inr hg)⟩⟩

theorem rdinv_init {y : Sys} (h : InitSys cfg y) (start : Nat → Pc) : RdInv start y [] := by
  intro ⟨_, pc, _, _, _⟩ hf
  have := (h.frames _ hf).1
  cases pc <;> first | trivial | cases this

theorem rdinv_run (sched : List Nat) (y : Sys) (log : List Ev)
    (hL : LInv cfg start y log) (hR : RdInv start y log) (ho : InOrder cfg y sched) :
    LInv cfg start (y.run cfg sched) (logRun cfg y log sched) ∧ RdInv start (y.run cfg sched) (logRun cfg y log sched) :=
  grun_induct (fun y log => LInv cfg start y log ∧ RdInv start y log)
    (fun _ _ id h hh => ⟨linv_step h.1 id hh, rdinv_step h.1 h.2 id⟩) sched y log ⟨hL, hR⟩ ho

theorem readFacts_of {y : Sys} (hR : RdInv start y log) : ReadFacts start y log := by
  constructor
  · intro ⟨_, pc, _, _, _⟩ hf k c hs hpc b e hb he
    obtain rfl : pc = _ := hpc
    exact hR _ hf k hs b e hb he
  · intro ⟨_, pc, _, _, _⟩ hf lo hi d hs hpc b e hb he
    obtain rfl : pc = _ := hpc
    obtain ⟨a1, a2, a3⟩ := hR _ hf lo hi hs b e hb he
    exact ⟨a1, a2, a3⟩

end HappyModel.C14
