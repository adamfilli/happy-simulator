import HappyProofs.C17.MLInv
namespace HappyModel.C17.ML

theorem quiescent_ge {P} (s : St) (h : Inv P s) (hq : quiescentB s = true) (k : Nat) (v : Version)
    (hw : WrittenC s.core k v) (i : Nat) (hi : i < s.n) : Ge (s.vers i k) v := by
  obtain ⟨qm, qp⟩ := quiescent_spec s hq
  exact (inv_iff.1 h).ge_of_replQuiet
    ⟨fun mid m hm _ => qm mid m (h.msgs_lt hm) hm, fun pid p hp _ => qp pid p (h.procs_lt hp) hp⟩ hw i hi

theorem quiescent_agree {P} (s : St) (hc : ∀ k, Coherent s.n (P k)) (h : Inv P s) (hq : quiescentB s = true)
    (i j k : Nat) (hi : i < s.n) (hj : j < s.n) : s.vers i k = s.vers j k ∧ s.store i k = s.store j k := by
  have hP : ∀ a u, s.vers a k = some u → P k u := fun a u hu => h.written_P (h.versW a k u hu)
  have key := agree_of_ge (hc k) (hP i) (hP j)
    (fun u hu => quiescent_ge s h hq k u (h.versW i k u hu) j hj)
    (fun u hu => quiescent_ge s h hq k u (h.versW j k u hu) i hi)
  exact ⟨key, (h.store i k).trans ((congrArg _ key).trans (h.store j k).symm)⟩

def coherentB (n : Nat) (l : List Version) : Bool :=
  l.all fun a => l.all fun b =>
    (!(dominates n b.vc a.vc) || decide (vlt a b)) &&
    (!(a.ts == b.ts && a.writer == b.writer) || decide (a = b) || dominates n a.vc b.vc || dominates n b.vc a.vc)

theorem coherentB_sound (n : Nat) (L : List (Nat × Version)) (h : coherentB n (L.map (·.2)) = true) (k : Nat) :
    Coherent n (fun v => (k, v) ∈ L) := by
  unfold coherentB at h
  simp only [List.all_eq_true, List.mem_map, Bool.and_eq_true, Bool.or_eq_true,
    decide_eq_true_eq, beq_iff_eq, forall_exists_index, and_imp, Bool.not_eq_eq_eq_not, Bool.not_true,
    Bool.and_eq_false_imp] at h
  constructor
  · intro a b ha hb hd
    rcases (h a (k, a) ha rfl b (k, b) hb rfl).1 with x | x
    · rw [hd] at x; cases x
    · exact x
  · intro a b ha hb e1 e2
    rcases (h a (k, a) ha rfl b (k, b) hb rfl).2 with ((x | x) | x) | x
    · have := x e1; simp [e2] at this
    · exact Or.inl x
    · exact Or.inr (Or.inl x)
    · exact Or.inr (Or.inr x)

end HappyModel.C17.ML
