import HappyProofs.C05.Window
/-!
The barrier: `exchange` moves every outbox entry into exactly one heap (conservation), and from a
`Safe` state one coordinator iteration under the repaired window rule injects no event behind its
destination's clock and re-establishes `Safe` at the new barrier.  `Ran` is the state between
EXECUTE and EXCHANGE, from which both are read.
-/
namespace HappyModel.C05

variable {σ : Type}

theorem sum_indicator (ids : List Nat) (hn : ids.Nodup) (k c : Nat) :
    (ids.map (fun i => if k = i then c else 0)).sum = if k ∈ ids then c else 0 := by
  induction ids with
  | nil => simp
  | cons i is ih =>
    have hn' := List.nodup_cons.mp hn
    simp only [List.map_cons, List.sum_cons, List.mem_cons, ih hn'.2]
    by_cases h1 : k = i
    · subst h1
      simp [hn'.1]
    · simp [h1]

theorem count_filter_ite {α} [DecidableEq α] (l : List α) (p : α → Bool) (x : α) :
    (l.filter p).count x = if p x then l.count x else 0 := by
  by_cases h : p x = true
  · simp [h, List.count_filter h]
  · simp only [h, Bool.false_eq_true, if_false]
    rw [List.count_eq_zero]
    intro hm
    exact h (List.mem_filter.mp hm).2

theorem partition_perm {α} [DecidableEq α] (ids : List Nat) (hn : ids.Nodup) (f : α → Nat)
    (l : List α) (hall : ∀ a ∈ l, f a ∈ ids) :
    (ids.flatMap (fun i => l.filter (fun a => f a == i))).Perm l := by
  rw [List.perm_iff_count]
  intro x
  rw [List.count_flatMap]
  have hm : List.map (List.count x ∘ fun i => l.filter (fun a => f a == i)) ids
      = ids.map (fun i => if f x = i then l.count x else 0) := by
    apply List.map_congr_left
    intro i _
    simp [Function.comp, count_filter_ite]
  rw [hm, sum_indicator ids hn]
  split
  · rfl
  · rename_i h
    symm
    rw [List.count_eq_zero]
    intro hx
    exact h (hall x hx)

theorem flatMap_append_fun {α β} [DecidableEq β] (l : List α) (f g : α → List β) :
    (l.flatMap (fun a => f a ++ g a)).Perm (l.flatMap f ++ l.flatMap g) := by
  induction l with
  | nil => simp
  | cons a l ih =>
    rw [List.perm_iff_count] at ih ⊢
    intro x
    have := ih x
    simp only [List.flatMap_cons, List.count_append] at this ⊢
    omega

theorem exchange_heaps_perm (c : Cfg) (ps : List (Part σ)) (hn : (ps.map (·.pid)).Nodup)
    (hd : ∀ m ∈ allMsgs ps, c.dest m ∈ ps.map (·.pid)) :
    ((exchange c ps).flatMap (·.heap)).Perm (ps.flatMap (·.heap) ++ (allMsgs ps).map (·.ev)) := by
  rw [show exchange c ps = ps.map (inject c (allMsgs ps)) from rfl, List.flatMap_map]
  refine (flatMap_append_fun ps (·.heap) _).trans (List.Perm.append (List.Perm.refl _) ?_)
  -- per partition the messages for it; together, the messages sorted by destination
  have := (partition_perm _ hn c.dest (allMsgs ps) hd).map (·.ev)
  rwa [List.flatMap_map, List.map_flatMap] at this

theorem mem_inject_heap {c : Cfg} {msgs : List Msg} {q : Part σ} {e : Ev} :
    e ∈ (inject c msgs q).heap ↔ e ∈ q.heap ∨ ∃ m ∈ msgs, c.part m.ev.tgt = q.pid ∧ m.ev = e := by
  simp [inject, Cfg.dest, and_assoc]

def sysPend (ps : List (Part σ)) : List Ev := ps.flatMap (fun p => p.heap ++ p.outbox.map (·.1))

theorem sysPend_eq (ps : List (Part σ)) : sysPend ps = ps.flatMap pendOf := rfl

theorem sysPend_cons (q : Part σ) (qs : List (Part σ)) : sysPend (q :: qs) = pendOf q ++ sysPend qs := by
  simp [sysPend, pendOf]

theorem sysPend_of_outEmpty {ps : List (Part σ)} (h : ∀ p ∈ ps, p.outbox = []) :
    sysPend ps = ps.flatMap (·.heap) := by
  induction ps with
  | nil => rfl
  | cons p ps ih =>
    rw [sysPend_cons, ih fun q hq => h q (List.mem_cons_of_mem _ hq), List.flatMap_cons]
    simp [pendOf, h p List.mem_cons_self]

theorem flatMap_perm_pointwise {α β} {l : List α} {f g : α → List β}
    (h : ∀ a ∈ l, (f a).Perm (g a)) : (l.flatMap f).Perm (l.flatMap g) := by
  induction l with
  | nil => simp
  | cons a l ih =>
    simp only [List.flatMap_cons]
    exact (h a (by simp)).append (ih (fun b hb => h b (by simp [hb])))

theorem outbox_flat_eq (ps : List (Part σ)) :
    ps.flatMap (fun p => p.outbox.map (·.1)) = (allMsgs ps).map (·.ev) := by
  induction ps with
  | nil => rfl
  | cons p ps ih =>
    simp only [List.flatMap_cons, allMsgs, List.map_append] at ih ⊢
    rw [ih]
    simp [msgsOf, List.map_map, Function.comp]

theorem exchange_outbox_empty (c : Cfg) (ps : List (Part σ)) : ∀ p ∈ exchange c ps, p.outbox = [] :=
  List.forall_mem_map.mpr fun _ _ => rfl

theorem sysPend_exchange (c : Cfg) (ps : List (Part σ)) (hn : (ps.map (·.pid)).Nodup)
    (hd : ∀ m ∈ allMsgs ps, c.dest m ∈ ps.map (·.pid)) :
    (sysPend (exchange c ps)).Perm (sysPend ps) := by
  rw [sysPend_of_outEmpty (exchange_outbox_empty c ps)]
  refine (exchange_heaps_perm c ps hn hd).trans ?_
  unfold sysPend
  rw [← outbox_flat_eq]
  exact (flatMap_append_fun ps _ _).symm

theorem exchange_pids (c : Cfg) (ps : List (Part σ)) : (exchange c ps).map (·.pid) = ps.map (·.pid) := by
  simp [exchange, inject]

theorem execAll_pids (h : Handler σ) (c : Cfg) (strict : Bool) (fuel we : Nat) (ps : List (Part σ)) :
    (execAll h c strict fuel we ps).map (·.pid) = ps.map (·.pid) := by
  simp [execAll, runWin_pid]

/-- The same predicate is written `c.part e.tgt = p.pid` in `ParInit.owned`, `RejInv.owned`,
    `Safe.init`, is the entity predicate `fun x => c.part x = pid` of `PSim` / `runWin_sim`, and the
    Boolean `ownB c pid` on events without index. -/
def Owns (c : Cfg) (pid : Nat) (e : Ev) : Prop := c.part e.tgt = pid

theorem route_loc_owns (c : Cfg) (pid : Nat) (ev : Ev) (h : c.route pid ev.tgt = .loc) : Owns c pid ev := by
  unfold Cfg.route at h
  unfold Owns
  split at h
  · rename_i h1; simpa using h1
  · split at h <;> simp at h

theorem route_out_dest {c : Cfg} {i t : Nat} (h : c.route i t = .out) :
    ∃ l ∈ c.links, l.dst = c.part t := by
  unfold Cfg.route at h
  split at h
  · simp at h
  · split at h
    · rename_i hl
      simp only [Cfg.linked, List.any_eq_true, Bool.and_eq_true, beq_iff_eq] at hl
      obtain ⟨l, hm, _, hd⟩ := hl
      exact ⟨l, hm, hd⟩
    · simp at h

/-- the state between two coordinator iterations, at barrier time `b` -/
structure Safe (c : Cfg) (b : Nat) (ps : List (Part σ)) : Prop where
  inv : ∀ p ∈ ps, WInv (c.route p.pid) (Owns c p.pid) b p
  clock : ∀ p ∈ ps, p.clock ≤ b
  outEmpty : ∀ p ∈ ps, p.outbox = []
  good : ∀ p ∈ ps, p.bad = false

def WindowLeLat (c : Cfg) (w : Nat) : Prop := ∀ l ∈ c.links, w ≤ l.lat

theorem latOk_arrival {c : Cfg} {w : Nat} (hw : WindowLeLat c w) {m : Msg} (hok : c.latOk m = true) :
    m.sent + w ≤ m.ev.time := by
  unfold Cfg.latOk at hok
  split at hok
  · rename_i L hL
    unfold Cfg.latOf at hL
    simp only [Option.map_eq_some_iff] at hL
    obtain ⟨l, hf, rfl⟩ := hL
    have hmem : l ∈ c.links := by
      have := List.mem_of_find?_eq_some hf
      simpa using this
    have := hw l hmem
    simp only [decide_eq_true_eq] at hok
    omega
  · simp at hok

theorem mem_allMsgs {ps : List (Part σ)} {m : Msg} (hm : m ∈ allMsgs ps) :
    ∃ q ∈ ps, ∃ x ∈ q.outbox, m = ⟨q.pid, x.1, x.2⟩ := by
  simp only [allMsgs, List.mem_flatMap, msgsOf, List.mem_map] at hm
  obtain ⟨q, hq, x, hx, rfl⟩ := hm
  exact ⟨q, hq, x, hx, rfl⟩

/-- the side conditions under which the coordinator performs a barrier at `we` -/
structure WindowOk (h : Handler σ) (c : Cfg) (fuel we : Nat) (ps : List (Part σ)) : Prop where
  good : ∀ p ∈ execAll h c true fuel we ps, p.bad = false
  halt : ∀ p ∈ execAll h c true fuel we ps, Halted h (c.route p.pid) true we p
  lat : ∀ m ∈ allMsgs (execAll h c true fuel we ps), c.latOk m = true

/-- the partitions between EXECUTE and EXCHANGE of a window `(b, we]` entered from a safe state
    (repaired window rule, `w` ≤ every link latency) -/
structure Ran (c : Cfg) (b we w : Nat) (qs : List (Part σ)) : Prop where
  inv : ∀ q ∈ qs, WInv (c.route q.pid) (Owns c q.pid) b q
  clock : ∀ q ∈ qs, q.clock ≤ we
  later : ∀ q ∈ qs, ∀ e ∈ q.heap, we < e.time
  good : ∀ q ∈ qs, q.bad = false
  arrive : ∀ m ∈ allMsgs qs, b + w ≤ m.ev.time

theorem execAll_ran {h : Handler σ} {c : Cfg} {fuel b we w : Nat} {ps : List (Part σ)}
    (hw : WindowLeLat c w) (hb : b ≤ we) (safe : Safe c b ps) (ok : WindowOk h c fuel we ps) :
    Ran c b we w (execAll h c true fuel we ps) := by
  have hran : ∀ p ∈ execAll h c true fuel we ps,
      WInv (c.route p.pid) (Owns c p.pid) b p ∧ p.clock ≤ we :=
    List.forall_mem_map.mpr fun q hq => by
      rw [runWin_pid]
      exact ⟨WInv.run (route_loc_owns c q.pid) fuel (safe.inv q hq),
             strict_clock_le fuel (Nat.le_trans (safe.clock q hq) hb)⟩
  refine ⟨fun q hq => (hran q hq).1, fun q hq => (hran q hq).2,
    fun q hq => halted_strict_heap_gt (ok.halt q hq) (ok.good q hq) (hran q hq).2, ok.good, ?_⟩
  intro m hm
  obtain ⟨q, hq, x, hx, rfl⟩ := mem_allMsgs hm
  have h1 := ((hran q hq).1.out x hx).1
  have h2 : x.2 + w ≤ x.1.time := latOk_arrival hw (ok.lat _ hm)
  show b + w ≤ x.1.time
  omega

namespace Ran
variable {c : Cfg} {b we w : Nat} {qs : List (Part σ)}

theorem heap_cases (ran : Ran c b we w qs) {q : Part σ} (hq : q ∈ qs) {e : Ev}
    (he : e ∈ (inject c (allMsgs qs) q).heap) :
    (e ∈ q.heap ∧ we < e.time) ∨ (b + w ≤ e.time ∧ c.part e.tgt = q.pid) := by
  rcases mem_inject_heap.mp he with he | ⟨m, hm, hdm, rfl⟩
  · exact Or.inl ⟨he, ran.later q hq e he⟩
  · exact Or.inr ⟨ran.arrive m hm, hdm⟩

theorem safe (ran : Ran c b we w qs) (hwe : we ≤ b + w) : Safe c we (exchange c qs) := by
  refine ⟨List.forall_mem_map.mpr fun q hq => ?_, List.forall_mem_map.mpr ran.clock,
    exchange_outbox_empty c _, List.forall_mem_map.mpr ran.good⟩
  have inv := ran.inv q hq
  have hcl := ran.clock q hq
  refine ⟨fun e he => ?_, fun e he => ?_, fun e he => ?_, inv.noTT, fun x hx => nomatch hx⟩
  · rcases ran.heap_cases hq he with ⟨h0, _⟩ | ⟨h1, _⟩
    · exact inv.geClock e h0
    · show q.clock ≤ e.time; omega
  · rcases ran.heap_cases hq he with ⟨_, h1⟩ | ⟨h1, _⟩ <;> omega
  · rcases ran.heap_cases hq he with ⟨h0, _⟩ | ⟨_, h1⟩
    · exact inv.owned e h0
    · exact h1

theorem heap_gt (ran : Ran c b we w qs) (hgt : we < b + w) :
    ∀ p ∈ exchange c qs, ∀ e ∈ p.heap, we < e.time :=
  List.forall_mem_map.mpr fun q hq e he => by
    rcases ran.heap_cases hq he with ⟨_, h1⟩ | ⟨h1, _⟩ <;> omega

theorem dest_mem (ran : Ran c b we w qs) (hlinks : ∀ l ∈ c.links, l.dst ∈ qs.map (·.pid)) :
    ∀ m ∈ allMsgs qs, c.dest m ∈ qs.map (·.pid) := by
  intro m hm
  obtain ⟨q, hq, x, hx, rfl⟩ := mem_allMsgs hm
  obtain ⟨l, hl, hd⟩ := route_out_dest ((ran.inv q hq).out x hx).2.2
  simpa [Cfg.dest, hd] using hlinks l hl

end Ran

end HappyModel.C05
