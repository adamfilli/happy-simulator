import HappyModel.C06.Windows
import HappyProofs.C06.Plan
import HappyProofs.C06.Lists
/-!
The invariant that ties the state the fault closures mutate (`WS`: counters, reference counts,
layer stacks) to the *set of active windows*: every component of `WS` is the projection of the
active list that the specification prescribes.  Deactivating an active window needs the list
duplicate-free (`winv_deactivate`); deactivating a partition that is not active changes nothing
(`winv_deactivate_stale`).
-/
namespace HappyModel.C06

def latLayer (fs : List Fault) (f : Nat) : Option Layer :=
  match kindOf fs f with
  | some (.lat a b x) => some ⟨f, a, b, x⟩
  | _ => none

def lossLayer (fs : List Fault) (f : Nat) : Option Layer :=
  match kindOf fs f with
  | some (.loss a b x) => some ⟨f, a, b, x⟩
  | _ => none

def capLayer (fs : List Fault) (f : Nat) : Option Factor :=
  match kindOf fs f with
  | some (.cap n d) => some ⟨f, n, d⟩
  | _ => none

theorem latLayer_fid (fs) (g y) (h : latLayer fs g = some y) : y.fid = g := by
  unfold latLayer at h; split at h <;> simp_all; rw [← h]
theorem lossLayer_fid (fs) (g y) (h : lossLayer fs g = some y) : y.fid = g := by
  unfold lossLayer at h; split at h <;> simp_all; rw [← h]
theorem capLayer_fid (fs) (g y) (h : capLayer fs g = some y) : y.fid = g := by
  unfold capLayer at h; split at h <;> simp_all; rw [← h]

structure WInv (fs : List Fault) (w : WS) (act : List Nat) : Prop where
  depth : ∀ e, w.depth e = sumOver act (downC fs · e)
  bi : ∀ a b, w.bi a b = sumOver act (biC fs · a b)
  dir : ∀ a b, w.dir a b = sumOver act (dirC fs · a b)
  lat : w.lat = act.filterMap (latLayer fs)
  loss : w.loss = act.filterMap (lossLayer fs)
  capf : w.capf = act.filterMap (capLayer fs)
  live : w.live = act.filter (isPartF fs)

/-- the window state the list of active windows prescribes.  The proofs work with the fields of
    `WInv`; this form is for comparing two states (`winv_unique`) or two plans (`WS.ofActive_congr`). -/
def WS.ofActive (fs : List Fault) (act : List Nat) : WS where
  depth e := sumOver act (downC fs · e)
  bi a b := sumOver act (biC fs · a b)
  dir a b := sumOver act (dirC fs · a b)
  live := act.filter (isPartF fs)
  lat := act.filterMap (latLayer fs)
  loss := act.filterMap (lossLayer fs)
  capf := act.filterMap (capLayer fs)

theorem winv_iff {fs : List Fault} {w : WS} {act : List Nat} :
    WInv fs w act ↔ w = WS.ofActive fs act := by
  constructor
  · intro h
    cases w
    simp only [WS.ofActive, WS.mk.injEq]
    exact ⟨funext h.depth, funext fun a => funext (h.bi a), funext fun a => funext (h.dir a),
      h.live, h.lat, h.loss, h.capf⟩
  · rintro rfl
    exact ⟨fun _ => rfl, fun _ _ => rfl, fun _ _ => rfl, rfl, rfl, rfl, rfl⟩

theorem winv_unique (fs : List Fault) (w w' : WS) (act : List Nat)
    (h : WInv fs w act) (h' : WInv fs w' act) : w = w' :=
  (winv_iff.mp h).trans (winv_iff.mp h').symm

theorem sumOver_cons (g : Nat → Nat) (f : Nat) (act : List Nat) :
    sumOver (f :: act) g = g f + sumOver act g := rfl

theorem sumOver_erase (g : Nat → Nat) (act : List Nat) (f : Nat) (hf : f ∈ act) :
    sumOver (act.erase f) g = sumOver act g - g f := sum_map_erase g act f hf

theorem sumOver_congr (act : List Nat) (g g' : Nat → Nat) (h : ∀ x ∈ act, g x = g' x) :
    sumOver act g = sumOver act g' := by
  unfold sumOver; rw [List.map_congr_left h]

theorem WS.ofActive_congr {fs fs' : List Fault} {act : List Nat}
    (hk : ∀ x ∈ act, kindOf fs' x = kindOf fs x) : WS.ofActive fs' act = WS.ofActive fs act := by
  simp only [WS.ofActive, WS.mk.injEq]
  refine ⟨funext fun e => sumOver_congr _ _ _ fun x hx => ?_,
    funext fun a => funext fun b => sumOver_congr _ _ _ fun x hx => ?_,
    funext fun a => funext fun b => sumOver_congr _ _ _ fun x hx => ?_,
    List.filter_congr fun x hx => ?_, filterMap_congr fun x hx => ?_,
    filterMap_congr fun x hx => ?_, filterMap_congr fun x hx => ?_⟩
  all_goals simp only [downC, biC, dirC, isPartF, latLayer, lossLayer, capLayer, hk x hx]

theorem winv_init (fs : List Fault) : WInv fs {} [] := by
  constructor <;> intros <;> rfl

/-! On every component of `WS`, the activation closure of window `f` adds what the specification calls
the contribution of `f`, and the deactivation closure takes it away. -/

section Closures
variable {fs : List Fault} {f : Nat} {k : Kind}

/-- a counter bumped at `x` by `op · 1` (`+ 1` for a crash, `- 1` for the restart) -/
theorem upd_bump {g : Nat → Nat} (op : Nat → Nat → Nat) (h0 : ∀ n, op n 0 = n) (x e : Nat) :
    upd g x (op (g x) 1) e = op (g e) (if x = e then 1 else 0) := by
  by_cases he : e = x
  · rw [he, upd_same, if_pos rfl]
  · rw [upd_other _ _ _ _ he, if_neg (Ne.symm he), h0]

theorem activate_eq (hk : kindOf fs f = some k) (w : WS) :
    w.activate f k =
      { depth := fun e => w.depth e + downC fs f e
        bi := fun a b => w.bi a b + biC fs f a b
        dir := fun a b => w.dir a b + dirC fs f a b
        live := [f].filter (isPartF fs) ++ w.live
        lat := [f].filterMap (latLayer fs) ++ w.lat
        loss := [f].filterMap (lossLayer fs) ++ w.loss
        capf := [f].filterMap (capLayer fs) ++ w.capf } := by
  unfold downC biC dirC isPartF latLayer lossLayer capLayer List.filter List.filterMap
  rw [hk]
  rcases k with x | x | ⟨_ | _, A, B⟩ | _ | _ | _
  case crash | pause =>
    show ({ w with depth := _ } : WS) = { w with depth := fun e => w.depth e + if x = e then 1 else 0 }
    exact congrArg (fun d => ({ w with depth := d } : WS)) (funext (upd_bump (· + ·) (fun _ => rfl) x))
  all_goals rfl

/-- `hl`: a partition handle that is deactivated still holds its references -/
theorem deactivate_eq (hk : kindOf fs f = some k) (w : WS) (hl : isPartF fs f = true → f ∈ w.live) :
    w.deactivate f k =
      { depth := fun e => w.depth e - downC fs f e
        bi := fun a b => w.bi a b - biC fs f a b
        dir := fun a b => w.dir a b - dirC fs f a b
        live := if isPartF fs f = true then w.live.erase f else w.live
        lat := if (latLayer fs f).isSome then w.lat.filter (·.fid != f) else w.lat
        loss := if (lossLayer fs f).isSome then w.loss.filter (·.fid != f) else w.loss
        capf := if (capLayer fs f).isSome then w.capf.filter (·.fid != f) else w.capf } := by
  unfold isPartF at hl
  unfold downC biC dirC isPartF latLayer lossLayer capLayer
  rw [hk] at hl ⊢
  rcases k with x | x | ⟨_ | _, A, B⟩ | _ | _ | _
  case crash | pause =>
    show ({ w with depth := _ } : WS) = { w with depth := fun e => w.depth e - if x = e then 1 else 0 }
    exact congrArg (fun d => ({ w with depth := d } : WS)) (funext (upd_bump (· - ·) (fun _ => rfl) x))
  case part.false | part.true =>
    simp only [WS.deactivate]; rw [if_pos (List.contains_iff_mem.mpr (hl rfl))]; rfl
  all_goals rfl

end Closures

theorem winv_activate (fs : List Fault) (w : WS) (act : List Nat) (f : Nat) (k : Kind)
    (hk : kindOf fs f = some k) (h : WInv fs w act) : WInv fs (w.activate f k) (f :: act) := by
  rw [activate_eq hk]
  exact {
    depth := fun e => by show _ + _ = _; rw [h.depth, sumOver_cons, Nat.add_comm]
    bi := fun a b => by show _ + _ = _; rw [h.bi, sumOver_cons, Nat.add_comm]
    dir := fun a b => by show _ + _ = _; rw [h.dir, sumOver_cons, Nat.add_comm]
    lat := by show _ ++ _ = _; rw [h.lat, ← List.filterMap_append]; rfl
    loss := by show _ ++ _ = _; rw [h.loss, ← List.filterMap_append]; rfl
    capf := by show _ ++ _ = _; rw [h.capf, ← List.filterMap_append]; rfl
    live := by show _ ++ _ = _; rw [h.live, ← List.filter_append]; rfl }

theorem winv_deactivate (fs : List Fault) (w : WS) (act : List Nat) (f : Nat) (k : Kind)
    (hk : kindOf fs f = some k) (h : WInv fs w act) (nd : act.Nodup) (hf : f ∈ act) :
    WInv fs (w.deactivate f k) (act.erase f) := by
  rw [deactivate_eq hk w fun hp => by rw [h.live]; exact List.mem_filter.mpr ⟨hf, hp⟩]
  constructor
  · intro e; show _ - _ = _; rw [h.depth, sumOver_erase _ _ _ hf]
  · intro a b; show _ - _ = _; rw [h.bi, sumOver_erase _ _ _ hf]
  · intro a b; show _ - _ = _; rw [h.dir, sumOver_erase _ _ _ hf]
  · show ite _ _ _ = _; rw [h.lat]; exact (filterMap_erase Layer.fid _ (latLayer_fid fs) act f nd).symm
  · show ite _ _ _ = _; rw [h.loss]; exact (filterMap_erase Layer.fid _ (lossLayer_fid fs) act f nd).symm
  · show ite _ _ _ = _; rw [h.capf]; exact (filterMap_erase Factor.fid _ (capLayer_fid fs) act f nd).symm
  · show ite _ _ _ = _
    rw [h.live, ← List.erase_filter]
    split
    · rfl
    · rename_i hp
      exact (List.erase_of_not_mem (fun hm => hp (List.mem_filter.mp hm).2)).symm

/-- `Partition.heal()` on a handle that holds nothing any more (healed before, or swept by
    `Network.heal_partition()`): it cannot release a reference of another, still active partition -/
theorem winv_deactivate_stale (fs : List Fault) (w : WS) (act : List Nat) (f : Nat) (k : Kind)
    (hp : isPartK k = true) (h : WInv fs w act) (hf : f ∉ act) :
    w.deactivate f k = w ∧ act.erase f = act := by
  have hc : f ∉ w.live := by
    rw [h.live]
    exact fun hm => hf (List.mem_filter.mp hm).1
  refine ⟨?_, List.erase_of_not_mem hf⟩
  cases k with
  | part asym A B => cases asym <;> simp [WS.deactivate, hc]
  | _ => simp [isPartK] at hp

theorem part_contributes (fs : List Fault) (x : Nat) (hx : isPartF fs x = true) :
    (∀ e, downC fs x e = 0) ∧ latLayer fs x = none ∧ lossLayer fs x = none ∧ capLayer fs x = none := by
  unfold isPartF at hx
  cases hk : kindOf fs x with
  | none => simp [hk] at hx
  | some k => cases k <;> simp_all [downC, latLayer, lossLayer, capLayer]

theorem nonpart_contributes (fs : List Fault) (x : Nat) (hx : isPartF fs x = false) (a b : Nat) :
    biC fs x a b = 0 ∧ dirC fs x a b = 0 := by
  unfold isPartF at hx
  cases hk : kindOf fs x with
  | none => simp [biC, dirC, hk]
  | some k => cases k <;> simp_all [biC, dirC]

theorem partOn_other_net (fs : List Fault) (hn : netWF fs = true) (k x a b : Nat)
    (h : partOnF fs k x = true) (ha : netOf a ≠ k) : biC fs x a b = 0 ∧ dirC fs x a b = 0 := by
  unfold partOnF at h
  cases hx : fs[x]? with
  | none => simp [hx] at h
  | some ft =>
    simp only [hx, Bool.and_eq_true, beq_iff_eq] at h
    cases hk : ft.kind with
    | part asym A B =>
      have hmem := netWF_members fs hn x ft hx asym A B hk
      have hA : a ∉ A := fun hm => ha ((hmem a (Or.inl hm)).trans h.2)
      have hB : a ∉ B := fun hm => ha ((hmem a (Or.inr hm)).trans h.2)
      cases asym <;> simp [biC, dirC, kindOf, hx, hk, hA, hB]
    | _ => simp [hk, isPartK] at h

theorem not_partOn_this_net (fs : List Fault) (hn : netWF fs = true) (k x a b : Nat)
    (h : partOnF fs k x = false) (ha : netOf a = k) : biC fs x a b = 0 ∧ dirC fs x a b = 0 := by
  unfold partOnF at h
  cases hx : fs[x]? with
  | none => simp [biC, dirC, kindOf, hx]
  | some ft =>
    simp only [hx] at h
    cases hk : ft.kind with
    | part asym A B =>
      have hne : ft.net ≠ k := by simpa [hk, isPartK] using h
      have hmem := netWF_members fs hn x ft hx asym A B hk
      have hA : a ∉ A := fun hm => hne ((hmem a (Or.inl hm)).symm.trans ha)
      have hB : a ∉ B := fun hm => hne ((hmem a (Or.inr hm)).symm.trans ha)
      cases asym <;> simp [biC, dirC, kindOf, hx, hk, hA, hB]
    | _ => simp [biC, dirC, kindOf, hx, hk]

/-- a sum of contributions that the partition windows of network `k` make only to pairs of that
    network, and nothing else makes to them, after those windows have been taken out -/
theorem sumOver_unpart {fs : List Fault} {k a : Nat} {g : Nat → Nat}
    (hoff : ∀ x, partOnF fs k x = true → netOf a ≠ k → g x = 0)
    (hon : ∀ x, partOnF fs k x = false → netOf a = k → g x = 0) (act : List Nat) :
    sumOver (act.filter fun f => !partOnF fs k f) g = if netOf a = k then 0 else sumOver act g := by
  unfold sumOver
  by_cases ha : netOf a = k
  · rw [if_pos ha]
    exact sum_map_zero _ _ fun x hx => hon x (by simpa using (List.mem_filter.mp hx).2) ha
  · rw [if_neg ha]
    exact sum_map_filter_zero _ _ (fun x hx => hoff x (by simpa using hx) ha) act

theorem winv_healall (fs : List Fault) (w : WS) (act : List Nat) (k : Nat) (hn : netWF fs = true)
    (h : WInv fs w act) :
    WInv fs (w.healAll k (partOnF fs k)) (act.filter fun f => !partOnF fs k f) := by
  have hz : ∀ x, (!partOnF fs k x) = false → isPartF fs x = true := by
    intro x hx; exact partOnF_isPartF fs k x (by simpa using hx)
  constructor
  · intro e
    show w.depth e = _
    rw [h.depth e]; unfold sumOver
    exact (sum_map_filter_zero _ _ (fun x hx => (part_contributes fs x (hz x hx)).1 e) act).symm
  · intro a b
    show (if netOf a = k then 0 else w.bi a b) = _
    rw [h.bi a b]
    exact (sumOver_unpart (fun x hx ha => (partOn_other_net fs hn k x a b hx ha).1)
      (fun x hx ha => (not_partOn_this_net fs hn k x a b hx ha).1) act).symm
  · intro a b
    show (if netOf a = k then 0 else w.dir a b) = _
    rw [h.dir a b]
    exact (sumOver_unpart (fun x hx ha => (partOn_other_net fs hn k x a b hx ha).2)
      (fun x hx ha => (not_partOn_this_net fs hn k x a b hx ha).2) act).symm
  · show w.lat = _
    rw [h.lat]
    exact (filterMap_filter_none _ _ (fun x hx => (part_contributes fs x (hz x hx)).2.1) act).symm
  · show w.loss = _
    rw [h.loss]
    exact (filterMap_filter_none _ _ (fun x hx => (part_contributes fs x (hz x hx)).2.2.1) act).symm
  · show w.capf = _
    rw [h.capf]
    exact (filterMap_filter_none _ _ (fun x hx => (part_contributes fs x (hz x hx)).2.2.2) act).symm
  · show w.live.filter (fun f => !partOnF fs k f) = _
    rw [h.live, List.filter_filter, List.filter_filter]
    apply List.filter_congr
    intro x _
    exact Bool.and_comm _ _

end HappyModel.C06
