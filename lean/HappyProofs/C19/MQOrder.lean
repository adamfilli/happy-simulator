import HappyProofs.C19.MQOrderLemmas
import HappyProofs.C19.MQAccount
/-!
C19 clause 2: first deliveries follow publish order (`jOrder`), for the repaired code (`cfg.legacy = false`) and
every schedule whose `redeliv k` actions are legitimate, i.e. happen only for messages that were dispatched before
(`message_redelivery` events are only created by `schedule_redelivery` of an in-flight message).
-/
namespace HappyModel.C19

def RedelivLegit (cfg : Cfg) : MQ → List (Nat × Act) → Prop
  | _, [] => True
  | s, (t, a) :: rest =>
    (match a with | .redeliv k => 1 ≤ s.cnt k | _ => True) ∧ RedelivLegit cfg (s.step cfg t a).1 rest

theorem jOrder_misuse : ∀ (tr : List ORec) (j : OrdSt), j.misuse = true → jOrder j tr = none
  | [], _, _ => rfl
  | r :: rs, j, hm => by
    have hb : j.bad r = false := by
      unfold OrdSt.bad; split <;> simp [hm]
    have hs : (j.step r).misuse = true := by
      unfold OrdSt.step
      split
      · exact hm
      · split
        · simp [hm]
        · exact hm
    simp only [jOrder, hb]
    exact jOrder_misuse rs _ hs

theorem ordst_quiet (j : OrdSt) (r : ORec) (ho : ∀ d k c n, r.out ≠ .disp d k c n)
    (hm : j.misuse = false) (hrej : ∀ k, r.act = .rej k true → k ∈ j.seen) :
    j.bad r = false ∧ j.step r = j := by
  constructor
  · unfold OrdSt.bad
    split
    · next d k c n h => exact absurd h (ho d k c n)
    · rfl
  · unfold OrdSt.step
    split
    · next d k c n h => exact absurd h (ho d k c n)
    · split
      · next k h =>
        have := hrej k h
        cases j
        simp_all
      · rfl

structure OInv (s : MQ) : Prop where
  inv : Inv s
  fl : ∀ x ∈ s.inflight, 1 ≤ s.cnt x
  ord : Ord s.npub s.live s.dlog s.pending

structure Rel (s : MQ) (j : OrdSt) : Prop where
  inv : OInv s
  e : j.lb = 0 ∨ ∃ i, j.lb = i + 1 ∧ 1 ≤ s.dlog.count i
  g : j.seen = s.dlog
  m : j.misuse = false

theorem rel_init : Rel {} {} := ⟨⟨Inv.init, by simp, Ord.init⟩, Or.inl rfl, rfl, rfl⟩

theorem rel_disp {s s' : MQ} {j : OrdSt} {d k c : Nat} (hr : Rel s j) (hinv' : OInv s')
    (hk : k ∈ s.live) (hdl : s'.dlog = k :: s.dlog) (r : ORec)
    (ho : r.out = .disp d k c (s.dlog.count k + 1)) :
    j.bad r = false ∧ Rel s' (j.step r) := by
  constructor
  · simp only [OrdSt.bad, ho]
    by_cases hc : s.dlog.count k = 0
    · by_cases hlt : k < j.lb
      · -- a first delivery of `k` below `lb = i + 1`: the never-delivered live `k` is older than the delivered `i`
        exfalso
        rcases hr.e with h0 | ⟨i, hi, hci⟩
        · omega
        · have hne : k ≠ i := by intro e; subst e; omega
          exact hr.inv.ord.c k i (by omega) hci hc hk
      · simp [hlt]
    · have : (s.dlog.count k + 1 == 1) = false := by simp; omega
      simp [this]
  · have hlb : (j.step r).lb = if s.dlog.count k + 1 = 1 then max j.lb (k + 1) else j.lb := by
      simp only [OrdSt.step, ho]
    have hseen : (j.step r).seen = k :: j.seen := by simp only [OrdSt.step, ho]
    have hmis : (j.step r).misuse = j.misuse := by simp only [OrdSt.step, ho]
    refine ⟨hinv', ?_, ?_, hmis.trans hr.m⟩
    · rw [hlb, hdl]
      have hmono : ∀ i, 1 ≤ s.dlog.count i → 1 ≤ (k :: s.dlog).count i := by
        intro i hi; have := List.count_le_count_cons (a := i) (b := k) (l := s.dlog); omega
      have hkk : 1 ≤ (k :: s.dlog).count k := by rw [List.count_cons]; simp
      split
      · by_cases hle : j.lb ≤ k + 1
        · exact Or.inr ⟨k, by omega, hkk⟩
        · rcases hr.e with h0 | ⟨i, hi, hci⟩
          · omega
          · exact Or.inr ⟨i, by omega, hmono i hci⟩
      · rcases hr.e with h0 | ⟨i, hi, hci⟩
        · exact Or.inl h0
        · exact Or.inr ⟨i, hi, hmono i hci⟩
    · rw [hseen, hdl, hr.g]

/-- what one step does, as far as the order clause can tell -/
def Kind (s s' : MQ) (o : Out) : Prop :=
  OInv s' ∧
  ((s'.dlog = s.dlog ∧ ∀ d k c n, o ≠ .disp d k c n) ∨
   (∃ d k c, o = .disp d k c (s.dlog.count k + 1) ∧ k ∈ s.live ∧ s'.dlog = k :: s.dlog))

theorem kind_quiet {s s' : MQ} {o : Out} (hi : OInv s') (hd : s'.dlog = s.dlog)
    (ho : ∀ d k c n, o ≠ .disp d k c n) : Kind s s' o := ⟨hi, Or.inl ⟨hd, ho⟩⟩

theorem step_kind {cfg : Cfg} (hl : cfg.legacy = false) {t : Nat} {s s' : MQ} {a : Act} {o : Out}
    (h : Step cfg t s a s' o) (hinv : OInv s) (h1 : ∀ k, a = .redeliv k → 1 ≤ s.dlog.count k)
    (h2 : ∀ k, a = .rej k true → 1 ≤ s.dlog.count k) : Kind s s' o := by
  have inv' := h.inv hl hinv.inv
  have fl' := h.cnt.2 hinv.fl
  have ord := hinv.ord
  have lB := hinv.inv.lB
  have pB : ∀ k ∈ s.pending, k < s.npub := fun k hk => lB k (hinv.inv.part.pL k hk).1
  have remove : ∀ k, Ord s.npub (s.live.erase k) s.dlog (s.dropPending cfg k) := fun k =>
    dropPending_eq cfg hl s k ▸ ord.remove k hinv.inv.part.lN
  cases h with
  | stay ho => exact kind_quiet ⟨inv', fl', ord⟩ rfl ho.ne.2.1
  | pub => exact kind_quiet ⟨inv', fl', ord.publish pB⟩ rfl (by simp)
  | poll hp hk =>
    exact ⟨⟨inv', fl', ord.dispatch (lB _ hk) (Or.inr ⟨_, hp⟩)⟩, Or.inr ⟨s.nd, _, _, rfl, hk, rfl⟩⟩
  | redeliv hk =>
    exact ⟨⟨inv', fl', ord.dispatch (lB _ hk) (Or.inl (h1 _ rfl))⟩, Or.inr ⟨s.nd, _, _, rfl, hk, rfl⟩⟩
  | ack => exact kind_quiet ⟨inv', fl', remove _⟩ rfl (by simp)
  | @requeue k rq hk hrq =>
    subst hrq
    refine kind_quiet ⟨inv', fl', ?_⟩ rfl (by simp)
    show Ord s.npub s.live s.dlog (s.dropPending cfg k ++ [k])
    rw [dropPending_eq cfg hl]
    exact ord.requeue (h2 k rfl)
  | dlq ha =>
    refine kind_quiet ⟨inv', fl', remove _⟩ rfl ?_
    rcases ha with ⟨_, _, _, rfl⟩ | ⟨_, _, _, _, rfl⟩ <;> simp
  | tmoEv hi =>
    exact kind_quiet ⟨inv', fl', ord.timeout (hinv.fl _ hi) (hinv.inv.part.not_pending hi)⟩ rfl (by simp)
  | _ => exact kind_quiet ⟨inv', fl', ord⟩ rfl (by simp)

theorem run_order {cfg : Cfg} (hl : cfg.legacy = false) :
    ∀ (sched : List (Nat × Act)) (s : MQ) (j : OrdSt), Rel s j → RedelivLegit cfg s sched →
      jOrder j (MQ.run cfg s sched) = none
  | [], _, _, _, _ => rfl
  | (t, a) :: rest, s, j, hr, hleg => by
    obtain ⟨hleg1, hrest⟩ := hleg
    simp only [MQ.run, jOrder]
    by_cases hmis : ∃ k, a = .rej k true ∧ k ∉ j.seen
    · -- the consumer requeues a message it never received: the clause stops judging
      obtain ⟨k, rfl, hk⟩ := hmis
      have hb : j.bad ⟨t, .rej k true, (s.step cfg t (.rej k true)).2,
          (s.step cfg t (.rej k true)).1.ctr⟩ = false := rfl
      rw [hb]
      exact jOrder_misuse _ _ (by simp [OrdSt.step, MQ.step, hk])
    · have hseen : ∀ k, a = .rej k true → k ∈ j.seen := by
        intro k e
        apply Classical.byContradiction
        intro hn
        exact hmis ⟨k, e, hn⟩
      have hk := step_kind hl (step_spec cfg t s a) hr.inv
        (by intro k e; subst e; exact hleg1)
        (by intro k e; have := hseen k e; rw [hr.g] at this; exact List.count_pos_iff.2 this)
      obtain ⟨hinv', ⟨hd, ho⟩ | ⟨d, k, c, ho, hkl, hd⟩⟩ := hk
      · have hq := ordst_quiet j ⟨t, a, (s.step cfg t a).2, (s.step cfg t a).1.ctr⟩ ho hr.m hseen
        rw [hq.1, hq.2]
        exact run_order hl rest _ j ⟨hinv', by rw [hd]; exact hr.e, by rw [hd]; exact hr.g, hr.m⟩
          hrest
      · have hq := rel_disp hr hinv' hkl hd ⟨t, a, (s.step cfg t a).2, (s.step cfg t a).1.ctr⟩ ho
        rw [hq.1]
        exact run_order hl rest _ _ hq.2 hrest

theorem first_deliveries_in_publish_order (cfg : Cfg) (hl : cfg.legacy = false)
    (sched : List (Nat × Act)) (h : RedelivLegit cfg {} sched) :
    jOrder {} (MQ.run cfg {} sched) = none :=
  run_order hl sched {} {} rel_init h

-- one case per constructor: the `match` inside `RedelivLegit` reduces only on a constructor, so a catch-all `| _ =>`
-- leaves it stuck and the instance for `True ∧ _` is not found
instance decRedelivLegit (cfg : Cfg) : ∀ s sched, Decidable (RedelivLegit cfg s sched)
  | _, [] => isTrue trivial
  | s, (t, a) :: rest =>
    have : Decidable (RedelivLegit cfg (s.step cfg t a).1 rest) := decRedelivLegit cfg _ rest
    match a with
    | .redeliv k => (inferInstance : Decidable (1 ≤ s.cnt k ∧ RedelivLegit cfg _ rest))
    | .pub | .poll | .fire _ | .recv _ | .ack _ | .rej _ _ | .tmo _ | .sub _ | .unsub _ =>
      (inferInstance : Decidable (True ∧ RedelivLegit cfg _ rest))

/-- two publishes, a first delivery, a timeout with its redelivery event, the next first delivery -/
def ordDemoSched : List (Nat × Act) :=
  [(0, .sub 7), (1, .pub), (2, .pub), (3, .poll), (4, .tmo 0), (5, .redeliv 0), (6, .poll)]

def ordDemoCfg : Cfg := { lat := 10, maxRe := 3 }

/-- the hypothesis is satisfiable by a schedule with a real redelivery … -/
example : RedelivLegit ordDemoCfg {} ordDemoSched := by decide +kernel

/-- … whose run contains first deliveries (n = 1) of messages 0 and 1 and a redelivery (n = 2) -/
example : (MQ.run ordDemoCfg {} ordDemoSched).map (·.out) =
    [.unit, .pubOk 0, .pubOk 1, .disp 0 0 7 1, .tmoEv, .disp 1 0 7 2, .disp 2 1 7 1] := by decide +kernel

/-- a `redeliv` of a message that was never dispatched is not a legitimate schedule -/
example : ¬ RedelivLegit ordDemoCfg {} [(0, .sub 7), (1, .pub), (2, .pub), (3, .redeliv 1)] := by
  decide +kernel

/-- first deliveries 1 then 0 are rejected -/
example : jOrder {}
    [⟨0, .poll, .disp 0 1 7 1, ⟨1, 1, 0, 0, 2, 1, 0, 0, 0⟩⟩,
     ⟨1, .poll, .disp 1 0 7 1, ⟨0, 2, 0, 0, 2, 2, 0, 0, 0⟩⟩]
    = some "mq/order/first-delivery-out-of-publish-order" := by decide +kernel

end HappyModel.C19
