import HappyProofs.C20.MerkleBase
namespace HappyModel.C20

theorem hash_eq_of_diffNodes_nil (hl hc : Nat → Nat → Nat) (a b : MTree)
    (h : diffNodes hl hc a b = []) : a.hash hl hc = b.hash hl hc := by
  fun_induction diffNodes hl hc a b with
  | case1 _ _ _ _ he => exact he
  | case2 al ar bl br _ ihl ihr =>
    rw [List.append_eq_nil_iff] at h
    simp only [MTree.hash]
    rw [ihl h.1, ihr h.2]
  | case3 _ _ _ he => exact he
  | case4 => cases h

theorem covered_append (r1 r2 : List (Nat × Nat)) (k : Nat) :
    covered (r1 ++ r2) k = (covered r1 k || covered r2 k) := by
  simp [covered, List.any_append]

theorem HashInjOn.hash_ne {hl hc : Nat → Nat → Nat} {a b : MTree} (inj : HashInjOn hl hc a b) {k : Nat}
    (hk : lookupKV a.items k ≠ lookupKV b.items k) : a.hash hl hc ≠ b.hash hl hc :=
  fun he => hk (inj a a.self_mem_subs b b.self_mem_subs he ▸ rfl)

theorem key_in_range (t : MTree) (hs : SortedKeys t.items) {k : Nat} (h : lookupKV t.items k ≠ none) :
    t.lo ≤ k ∧ k ≤ t.hi := by
  obtain ⟨p, hp, rfl⟩ := key_mem_of_lookup _ _ h
  exact range_bounds t hs p hp

/-- the "some side is a leaf" answer: one range spanning both nodes -/
theorem span_covers (a b : MTree) (sa : SortedKeys a.items) (sb : SortedKeys b.items) {k : Nat}
    (hk : lookupKV a.items k ≠ lookupKV b.items k) : covered [(min a.lo b.lo, max a.hi b.hi)] k = true := by
  simp only [covered, List.any_cons, List.any_nil, Bool.or_false, Bool.and_eq_true, decide_eq_true_eq]
  by_cases h1 : lookupKV a.items k = none
  · have := key_in_range b sb fun h2 => hk (h1.trans h2.symm)
    omega
  · have := key_in_range a sa h1
    omega

theorem diffNodes_covers (hl hc : Nat → Nat → Nat) (a b : MTree)
    (sa : SortedKeys a.items) (sb : SortedKeys b.items) (inj : HashInjOn hl hc a b) (k : Nat)
    (hk : lookupKV a.items k ≠ lookupKV b.items k) : covered (diffNodes hl hc a b) k = true := by
  fun_induction diffNodes hl hc a b with
  | case1 _ _ _ _ he => exact absurd he (inj.hash_ne hk)
  | case2 al ar bl br _ ihl ihr =>
    simp only [MTree.items, SortedKeys, List.pairwise_append] at sa sb
    simp only [MTree.items, lookupKV_append] at hk
    rw [covered_append, Bool.or_eq_true]
    by_cases hL : lookupKV al.items k = lookupKV bl.items k
    · exact Or.inr (ihr sa.2.1 sb.2.1 inj.right fun hR => hk (by rw [hL, hR]))
    · exact Or.inl (ihl sa.1 sb.1 inj.left hL)
  | case3 _ _ _ he => exact absurd he (inj.hash_ne hk)
  | case4 a b => exact span_covers a b sa sb hk

theorem diff_nil_iff (hl hc : Nat → Nat → Nat) (la lb : List (Nat × Nat))
    (inj : HashInjOnOpt hl hc (build la) (build lb)) :
    diffTrees hl hc (build la) (build lb) = [] ↔ la = lb := by
  rcases build_cases la with ⟨rfl, ha⟩ | ⟨a, ha, rfl⟩ <;> rcases build_cases lb with ⟨rfl, hb⟩ | ⟨b, hb, rfl⟩ <;>
    simp only [ha, hb] at inj ⊢
  · simp [diffTrees]
  · simp [diffTrees, b.items_ne_nil.symm]
  · simp [diffTrees, a.items_ne_nil]
  · simp only [diffTrees]
    constructor
    · intro h
      have he : a.hash hl hc = b.hash hl hc := by
        split at h
        · next he => exact he
        · exact hash_eq_of_diffNodes_nil hl hc a b h
      rw [inj a a.self_mem_subs b b.self_mem_subs he]
    · intro h
      rw [Option.some.inj (ha.symm.trans (h ▸ hb))]
      simp

theorem diff_covers (hl hc : Nat → Nat → Nat) (la lb : List (Nat × Nat))
    (sa : SortedKeys la) (sb : SortedKeys lb)
    (inj : HashInjOnOpt hl hc (build la) (build lb)) (k : Nat)
    (hk : lookupKV la k ≠ lookupKV lb k) :
    covered (diffTrees hl hc (build la) (build lb)) k = true := by
  rcases build_cases la with ⟨rfl, ha⟩ | ⟨a, ha, rfl⟩ <;> rcases build_cases lb with ⟨rfl, hb⟩ | ⟨b, hb, rfl⟩ <;>
    simp only [ha, hb] at inj ⊢
  · exact absurd rfl hk
  · have := key_in_range b sb (Ne.symm hk)
    simp [diffTrees, covered, this]
  · have := key_in_range a sa hk
    simp [diffTrees, covered, this]
  · simp only [diffTrees]
    rw [if_neg (inj.hash_ne hk)]
    exact diffNodes_covers hl hc a b sa sb inj k hk

end HappyModel.C20
