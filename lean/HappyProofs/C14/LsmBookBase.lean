import HappyProofs.C14.LsmBookRun
/-! Bookkeeping invariant for a tree that starts from a recovered state: base events (`B ≤ ev.id`) describe the
    data present at the start and have no frame. -/
namespace HappyModel.C14

/-- class of an event: 0 = insert of this phase, 1 = base event of the recovered memtable, 2 = base event of the levels -/
def Ev.cls (B : Nat) (e : Ev) : Nat := if e.id < B then 0 else if e.id = B then 1 else 2

def RBase (B : Nat) (a b : Ev) : Prop := a.cls B < b.cls B ∨ (a.cls B = b.cls B ∧ a.n > b.n)

theorem cls_zero {B : Nat} {e : Ev} : e.cls B = 0 ↔ e.id < B := by
  unfold Ev.cls; split
  · simp [*]
  · split <;> simp [*]

structure LInvB (cfg : Cfg) (B : Nat) (start : Nat → Pc) (y : Sys) (log : List Ev) : Prop where
  sys : SysInvB cfg y
  ids : (y.frames.map (·.id)).Nodup
  idLt : ∀ f ∈ y.frames, f.id < B
  frames : ∀ f ∈ y.frames, FrameOk cfg start y.n log f
  starts : ∀ f ∈ y.frames, (start f.id).isStart = true
  abs : ∀ k, y.st.abs k = (firstOn k log).join
  evn : ∀ e ∈ log, e.id < B → e.n < y.n
  evFrame : ∀ e ∈ log, e.id < B → ∃ f ∈ y.frames, f.id = e.id ∧ start f.id = .pStart e.key e.cell
  sortedN : log.Pairwise (RBase B)
  evIds : ∀ e1 ∈ log, ∀ e2 ∈ log, e1.id = e2.id → e1.id < B → e1 = e2

theorem LInvB.book {cfg : Cfg} {B : Nat} {start : Nat → Pc} {y : Sys} {log : List Ev} (h : LInvB cfg B start y log) :
    Book cfg (· < B) start y log :=
  ⟨h.ids, h.idLt, h.frames, h.starts, h.abs, h.evn, h.evFrame⟩

theorem linvB_step {cfg : Cfg} {B : Nat} {start : Nat → Pc} {y : Sys} {log : List Ev} (h : LInvB cfg B start y log) (id : Nat)
    (hh : HeadNow y id) : LInvB cfg B start (y.step cfg id) (logStep cfg y log id) := by
  obtain ⟨hb, hlog⟩ := h.book.step h.sys.sinv h.sys.pcs id hh
  refine ⟨sysInvB_step h.sys id, hb.ids, hb.own, hb.frames, hb.starts,
    hb.abs, hb.evn, hb.evFrame, ?_, ?_⟩
  · rcases hlog with hl | ⟨e, hl, en, eB, _⟩
    · rw [hl]; exact h.sortedN
    · -- the event just logged is of this phase and later than every event of this phase
      rw [hl]
      refine List.pairwise_cons.mpr ⟨fun x hx => ?_, h.sortedN⟩
      by_cases hxb : x.id < B
      · exact Or.inr ⟨by rw [cls_zero.mpr eB, cls_zero.mpr hxb], by rw [en]; exact h.evn x hx hxb⟩
      · refine Or.inl ?_
        rw [cls_zero.mpr eB]
        exact Nat.pos_of_ne_zero fun hc => hxb (cls_zero.mp hc)
  · rcases hlog with hl | ⟨e, hl, _, _, hfresh⟩
    · rw [hl]; exact h.evIds
    · rw [hl]
      intro e1 he1 e2 he2 hid hB
      rcases List.mem_cons.mp he1 with h1 | h1 <;> rcases List.mem_cons.mp he2 with h2 | h2
      · rw [h1, h2]
      · rw [h1] at hid; exact absurd hid.symm (hfresh e2 h2)
      · rw [h2] at hid; exact absurd hid (hfresh e1 h1)
      · exact h.evIds e1 h1 e2 h2 hid hB

theorem linvB_run {cfg : Cfg} {B : Nat} {start : Nat → Pc} (sched : List Nat) (y : Sys) (log : List Ev)
    (h : LInvB cfg B start y log) (ho : InOrder cfg y sched) : LInvB cfg B start (y.run cfg sched) (logRun cfg y log sched) :=
  grun_induct (LInvB cfg B start) (fun _ _ id h hh => linvB_step h id hh) sched y log h ho

theorem RBase.cls_le {B : Nat} {a b : Ev} (h : RBase B a b) : a.cls B ≤ b.cls B :=
  h.elim Nat.le_of_lt fun h => Nat.le_of_eq h.1

theorem RBase.n_lt {B : Nat} {a b : Ev} (h : RBase B a b) (hc : a.cls B = b.cls B) : b.n < a.n :=
  h.elim (fun h => absurd hc (Nat.ne_of_lt h)) fun h => h.2

theorem LInv.evLt {cfg : Cfg} {start : Nat → Pc} {y : Sys} {log : List Ev} (h : LInv cfg start y log)
    {B : Nat} (hB : ∀ f ∈ y.frames, f.id < B) : ∀ e ∈ log, e.id < B := by
  intro e he
  obtain ⟨f, hf, hid, _⟩ := h.evFrame e he
  rw [← hid]; exact hB f hf

/-- with `B` above every frame id no event of the log is a base event -/
theorem LInv.toB {cfg : Cfg} {start : Nat → Pc} {y : Sys} {log : List Ev} (h : LInv cfg start y log) {B : Nat}
    (hB : ∀ f ∈ y.frames, f.id < B) : LInvB cfg B start y log := by
  have hlt := h.evLt hB
  refine ⟨h.sys.toB, h.ids, hB, h.frames, h.starts, h.abs,
    fun e he _ => h.evn e he, fun e he _ => h.evFrame e he, ?_, fun e1 h1 e2 h2 hid _ => inj_of_nodup_map (·.id) h.evIds h1 h2 hid⟩
  refine (List.pairwise_map.mp h.sortedN).imp_of_mem fun ha hb hab => Or.inr ⟨?_, hab⟩
  rw [cls_zero.mpr (hlt _ ha), cls_zero.mpr (hlt _ hb)]

theorem cls_base {B : Nat} {e : Ev} (h : B ≤ e.id) : 1 ≤ e.cls B ∧ (e.cls B = 1 ↔ e.id = B) := by
  unfold Ev.cls
  have : ¬ e.id < B := by omega
  rw [if_neg this]
  split
  · simp [*]
  · simp [*]

theorem cls_of_eq {B : Nat} {e : Ev} (h : e.id = B) : e.cls B = 1 := by
  unfold Ev.cls; simp [h]

theorem cls_of_succ {B : Nat} {e : Ev} (h : e.id = B + 1) : e.cls B = 2 := by
  unfold Ev.cls
  have h1 : ¬ e.id < B := by omega
  have h2 : ¬ e.id = B := by omega
  simp [h1, h2]

theorem rb_asymm {B : Nat} {a b : Ev} (h1 : RBase B a b) (h2 : RBase B b a) : False :=
  have hc := Nat.le_antisymm h1.cls_le h2.cls_le
  Nat.lt_asymm (h1.n_lt hc) (h2.n_lt hc.symm)

theorem exists_id_bound (fs : List Frame) : ∃ B, ∀ f ∈ fs, f.id < B := by
  induction fs with
  | nil => exact ⟨0, fun f hf => by cases hf⟩
  | cons f r ih =>
    obtain ⟨B, hB⟩ := ih
    refine ⟨max B (f.id + 1), fun g hg => ?_⟩
    rcases List.mem_cons.mp hg with rfl | hg
    · exact Nat.lt_of_lt_of_le (Nat.lt_succ_self _) (Nat.le_max_right ..)
    · exact Nat.lt_of_lt_of_le (hB g hg) (Nat.le_max_left ..)

end HappyModel.C14
