import HappyProofs.C12.PxInv
namespace HappyModel.C12.Px

theorem pickVal_none {l : List (Nat × AccV)} {best : Option (Nat × Val)} (h : pickVal l best = none) :
    best = none ∧ ∀ f r, (f, r) ∈ l → r = none := by
  fun_induction pickVal l best <;> grind

theorem pickVal_some {l : List (Nat × AccV)} {best : Option (Nat × Val)} {bm : Nat} {vm : Val}
    (h : pickVal l best = some (bm, vm)) :
    ((∃ f, (f, some (bm, vm)) ∈ l) ∨ best = some (bm, vm)) ∧
    (∀ f b' v', (f, some (b', v')) ∈ l → b' ≤ bm) ∧ (∀ bb bv, best = some (bb, bv) → bb ≤ bm) := by
  fun_induction pickVal l best <;> grind

/-- The heart of Paxos: a value computed from a quorum of promises for `b` is safe at `b`. -/
theorem safe_from_quorum {s : St} (n1 : Net1 s) (sem : Sem s) (b : Nat)
    (hnone : s.started2 b = none) (hq : s.cfg.q1 ≤ (s.p1 b).length) :
    SafeAt s b (phase2Val s b) := by
  classical
  intro c hc
  obtain ⟨hnd, hfacts⟩ := n1.p1 b
  -- the promisers are a phase-1 quorum; what is left in each case is `DidOrWont` for one of them
  have via : ∀ {v : Val}, (∀ a r q, (a, r) ∈ s.p1 b → (s.acc a).promised = some q → b ≤ q →
      (∀ b' v', Voted s a b' v' → b' < b → ∃ bm vm, r = some (bm, vm) ∧ b' ≤ bm) → DidOrWont s a c v) →
      ∃ Q : List Nat, Q.Nodup ∧ (∀ a ∈ Q, a < s.cfg.n ∧ DidOrWont s a c v) ∧ s.cfg.q1 ≤ Q.length := by
    intro v h
    refine ⟨(s.p1 b).map (·.1), hnd, ?_, by simpa using hq⟩
    intro a ha
    obtain ⟨⟨a', r⟩, har, rfl⟩ := List.mem_map.mp ha
    obtain ⟨han, hpr⟩ := hfacts a' r har
    obtain ⟨_, ⟨q, hq1, hq2⟩, c3, _⟩ := sem.pr a' b r hpr
    exact ⟨han, h a' r q har hq1 hq2 c3⟩
  cases hpick : pickVal (s.p1 b) none with
  | none =>
    refine via fun a r q har hq1 hq2 c3 => Or.inr ⟨fun v' hv' => ?_, q, hq1, by omega⟩
    obtain ⟨bm, vm, hr, _⟩ := c3 c v' hv' hc
    rw [(pickVal_none hpick).2 a r har] at hr; cases hr
  | some bv =>
    obtain ⟨bm, vm⟩ := bv
    rw [show phase2Val s b = vm by unfold phase2Val; rw [hpick]]
    obtain ⟨hwit, hmax, _⟩ := pickVal_some hpick
    obtain ⟨f0, hf0⟩ := hwit.resolve_right nofun
    obtain ⟨hv0, hbmle⟩ := (sem.pr f0 b _ (hfacts f0 _ hf0).2).2.2.2 bm vm rfl
    have hbmlt : bm < b := by
      rcases Nat.lt_or_ge bm b with h | h
      · exact h
      · have : bm = b := by omega
        subst this; exact absurd hv0 (sem.noVote hnone f0 vm)
    have hstm : s.started2 bm = some vm := sem.one f0 bm vm hv0
    rcases Nat.lt_trichotomy c bm with hlt | heq | hgt
    · -- below the reported ballot: inherited from SafeAt bm vm
      exact sem.safe bm vm hstm c hlt
    · subst heq
      refine via fun a r q _ hq1 hq2 _ => ?_
      by_cases hex : ∃ v', Voted s a c v'
      · obtain ⟨v', hv'⟩ := hex
        have := sem.one a c v' hv'
        rw [hstm] at this; cases this
        exact Or.inl hv'
      · exact Or.inr ⟨fun v' hv' => hex ⟨v', hv'⟩, q, hq1, by omega⟩
    · refine via fun a r q har hq1 hq2 c3 => Or.inr ⟨fun v' hv' => ?_, q, hq1, by omega⟩
      obtain ⟨bm', vm', hr, hle⟩ := c3 c v' hv' hc
      subst hr
      have := hmax a bm' vm' har
      omega

end HappyModel.C12.Px
