import HappyProofs.C11.HStepHist
/-! `HInv` across a handler step: the clauses about node states (`match_sound` is `n_ms'`; the commit rule becomes
    quorum acceptance in `n_cn'`), the message clauses `m_ae'` and `m_ar'`, and all of them together (`Ctx.hinv`). -/
namespace HappyModel.C11

namespace Ctx
variable {v : Variant} {g : GSt} {i : Nat} {inp : Option Body} {r : HR} {cr : List (List Entry)}

theorem log_cases (c : Ctx v g i inp r cr) :
    r.node.log = (g.s.nodes i).log
    ∨ (∃ k, r.node.log = (g.s.nodes i).log ++ [⟨(g.s.nodes i).term, k⟩] ∧ (g.s.nodes i).role = .leader ∧ r.node.role = .leader
        ∧ r.node.term = (g.s.nodes i).term ∧ r.node.commit = (g.s.nodes i).commit ∧ r.node.matchIndex = (g.s.nodes i).matchIndex)
    ∨ (∃ X, LeaderLog g r.node.term X ∧ r.node.log = X ∧ ¬ X <+: (g.s.nodes i).log) := by
  rcases c.hk.data with ⟨hlog, _⟩ | ⟨t, l, pi, pt, es, lc, hin, hle, hbad, hnode⟩ | ⟨f, m, _, _, hnode⟩ | ⟨k, hl, hlog, hcommit, hmi, role, ht⟩
  · exact Or.inl hlog
  · obtain ⟨X, a⟩ := c.ae_accepted hin hle hbad hnode
    rcases a.log with h | ⟨h1, h2⟩
    · exact Or.inl h
    · exact Or.inr (Or.inr ⟨X, a.term ▸ a.ll, h1, h2⟩)
  · exact Or.inl (c.ack hnode).log
  · exact Or.inr (Or.inl ⟨k, hlog, hl, role, ht, hcommit, hmi⟩)

theorem oldleader (c : Ctx v g i inp r cr) (h1 : (g.s.nodes i).role = .leader) (h2 : r.node.role = .leader) :
    r.node.term = (g.s.nodes i).term ∧
    ((r.node.log = (g.s.nodes i).log ∧ r.node.commit = (g.s.nodes i).commit ∧ r.node.matchIndex = (g.s.nodes i).matchIndex)
     ∨ (∃ k, r.node.log = (g.s.nodes i).log ++ [⟨(g.s.nodes i).term, k⟩] ∧ r.node.commit = (g.s.nodes i).commit
          ∧ r.node.matchIndex = (g.s.nodes i).matchIndex)
     ∨ (∃ f m, inp = some (.ar (g.s.nodes i).term true f m) ∧ r.node = (tryAdvance g.s.n (ackNode (g.s.nodes i) f m) i).node)) := by
  have ht : r.node.term = (g.s.nodes i).term := by
    rcases c.rt with h | h | h | h
    · exact h.2.1
    · rw [h.1] at h2; cases h2
    · exact absurd h1 h.1
    · rw [h.1] at h1; cases h1
  refine ⟨ht, ?_⟩
  rcases c.hk.data with ⟨hlog, hcommit, hmi⟩ | ⟨t, l, pi, pt, es, lc, hin, hle, hbad, hnode⟩ | ⟨f, m, hin, _, hnode⟩ | ⟨k, _, hlog, hcommit, hmi, _⟩
  · exact Or.inl ⟨hlog, hcommit, hmi h1⟩
  · obtain ⟨_, a⟩ := c.ae_accepted hin hle hbad hnode
    rw [a.role] at h2; cases h2
  · exact Or.inr (Or.inr ⟨f, m, hin, hnode⟩)
  · exact Or.inr (Or.inl ⟨k, hlog, hcommit, hmi⟩)

theorem n_lt' (c : Ctx v g i inp r cr) : ∀ j, lastTerm ((gApply g i r cr).s.nodes j).log ≤ ((gApply g i r cr).s.nodes j).term := by
  intro j
  by_cases hj : j = i
  · rw [hj, c.node_self]
    rcases c.log_cases with h | ⟨k, h, _, _, ht, _⟩ | ⟨X, hX, h, _⟩
    · rw [h]; exact Nat.le_trans (c.hi.n_lt i) c.term_le
    · rw [h, lastTerm_concat, ht]; exact Nat.le_refl _
    · rw [h]; exact hX.lastTerm_le c.hi
  · rw [c.node_other hj]; exact c.hi.n_lt j

theorem n_ldr' (c : Ctx v g i inp r cr) : ∀ j, ((gApply g i r cr).s.nodes j).role = .leader →
    LeaderLog (gApply g i r cr) ((gApply g i r cr).s.nodes j).term ((gApply g i r cr).s.nodes j).log := by
  intro j hrole
  by_cases hj : j = i
  · rw [hj] at hrole ⊢
    rw [c.node_self] at hrole ⊢
    by_cases hold : (g.s.nodes i).role = .leader
    · obtain ⟨ht, hcase⟩ := c.oldleader hold hrole
      have hpre := c.hi.n_ldr i hold
      rw [ht]
      have hlogsame : r.node.log = (g.s.nodes i).log → LeaderLog (gApply g i r cr) (g.s.nodes i).term r.node.log := by
        intro h; rw [h]; exact hpre.mono c.gle
      rcases hcase with ⟨h, _⟩ | ⟨k, h, _⟩ | ⟨f, m, _, hnode⟩
      · exact hlogsame h
      · obtain ⟨k', L, e1, e2, _⟩ := hpre
        refine ⟨k', L, c.gle.llogs _ e1, by rw [h]; exact e2.trans (List.prefix_append _ _), Or.inr ⟨?_, by rw [h, lastTerm_concat]⟩⟩
        exact c.rec_post.mem_self (by rw [h]; simp)
      · exact hlogsame (c.ack hnode).log
    · refine ⟨i, r.node.log, ?_, List.prefix_rfl, Or.inl rfl⟩
      simp only [gApply_llogs]
      apply List.mem_append_left
      unfold llogDiff; rw [if_pos ⟨hrole, hold⟩]; simp
  · rw [c.node_other hj] at hrole ⊢
    exact (c.hi.n_ldr j hrole).mono c.gle

theorem n_ms' (c : Ctx v g i inp r cr) : ∀ k, ((gApply g i r cr).s.nodes k).role = .leader → ∀ j,
    ((gApply g i r cr).s.nodes k).matchIndex.getD j 0 = 0 ∨
    (((gApply g i r cr).s.nodes k).matchIndex.getD j 0 ≤ ((gApply g i r cr).s.nodes k).log.length ∧
      ∃ L, (j, ((gApply g i r cr).s.nodes k).term, L) ∈ (gApply g i r cr).seen ∧
        ((gApply g i r cr).s.nodes k).log.take (((gApply g i r cr).s.nodes k).matchIndex.getD j 0) <+: L) := by
  intro k hrole j
  have lift : ∀ (y : Node), (y.matchIndex.getD j 0 = 0 ∨ (y.matchIndex.getD j 0 ≤ y.log.length ∧
        ∃ L, (j, y.term, L) ∈ g.seen ∧ y.log.take (y.matchIndex.getD j 0) <+: L)) →
      (y.matchIndex.getD j 0 = 0 ∨ (y.matchIndex.getD j 0 ≤ y.log.length ∧
        ∃ L, (j, y.term, L) ∈ (gApply g i r cr).seen ∧ y.log.take (y.matchIndex.getD j 0) <+: L)) := by
    intro y h
    rcases h with h | ⟨h1, L, h2, h3⟩
    · exact Or.inl h
    · exact Or.inr ⟨h1, L, c.gle.seen _ h2, h3⟩
  by_cases hk : k = i
  · rw [hk] at hrole ⊢
    rw [c.node_self] at hrole ⊢
    by_cases hold : (g.s.nodes i).role = .leader
    · obtain ⟨ht, hcase⟩ := c.oldleader hold hrole
      have hpre := c.hi.n_ms i hold j
      rcases hcase with ⟨h1, _, h3⟩ | ⟨k', h1, _, h3⟩ | ⟨f, m, hin, hnode⟩
      · rw [ht, h1, h3]; exact lift _ hpre
      · rw [ht, h3]
        rcases lift _ hpre with h | ⟨e1, L, e2, e3⟩
        · exact Or.inl h
        · refine Or.inr ⟨by rw [h1]; simp only [List.length_append, List.length_singleton]; omega, L, e2, ?_⟩
          rw [h1, List.take_append_of_le_length e1]; exact e3
      · rw [(c.ack hnode).term, (c.ack hnode).log, (c.ack hnode).mi, getD_set]
        split
        · rename_i hjf
          obtain ⟨e, he, hb⟩ := c.hin _ hin
          rcases c.hi.m_ar e he _ _ _ hb with h | ⟨X, L, hX, h1, h2, h3⟩
          · exact Or.inl h
          · have hmax := leaderLog_prefix c.li c.hi hold hX
            refine Or.inr ⟨Nat.le_trans h1 hmax.length_le, L, ?_, ?_⟩
            · rw [hjf.1]; exact c.gle.seen _ h2
            · rw [take_eq_of_prefix hmax h1]; exact h3
        · exact lift _ hpre
    · rw [(c.newleader hrole hold).2.2.1]
      left
      rw [List.getD_eq_getElem?_getD, List.getElem?_replicate]
      split <;> rfl
  · rw [c.node_other hk] at hrole ⊢
    exact lift _ (c.hi.n_ms k hrole j)

theorem n_seen' (c : Ctx v g i inp r cr) : ∀ j, ((gApply g i r cr).s.nodes j).log = [] ∨
    (j, ((gApply g i r cr).s.nodes j).term, ((gApply g i r cr).s.nodes j).log) ∈ (gApply g i r cr).seen := by
  intro j
  by_cases hj : j = i
  · right; rw [hj, c.node_self]; simp
  · rw [c.node_other hj]
    rcases c.hi.n_seen j with h | h
    · exact Or.inl h
    · exact Or.inr (c.gle.seen _ h)

/-- THE COMMIT RULE MEANS QUORUM ACCEPTANCE.  When `_try_advance_commit` moves the commit index to `N`,
    the leader's first `N` entries are accepted, in its term, by itself and by every peer it counted. -/
theorem ack_qa (c : Ctx v g i inp r cr) {f m N : Nat} (hl : (g.s.nodes i).role = .leader)
    (hnode : r.node = (tryAdvance g.s.n (ackNode (g.s.nodes i) f m) i).node)
    (h1 : 1 ≤ N) (h2 : N ≤ (g.s.nodes i).log.length) (h3 : termAt (g.s.nodes i).log N = (g.s.nodes i).term)
    (h4 : quorum g.s.n ≤ countMatch g.s.n (ackNode (g.s.nodes i) f m) i N) :
    QA (gApply g i r cr) ((g.s.nodes i).log.take N) (g.s.nodes i).term := by
  have hf := c.ack hnode
  have hKne : (g.s.nodes i).log.take N ≠ [] := by
    intro h0
    have := congrArg List.length h0
    simp only [List.length_take, List.length_nil] at this; omega
  have hKt : lastTerm ((g.s.nodes i).log.take N) = (g.s.nodes i).term := by
    rw [termAt_eq_lastTerm_take h1 h2]; exact h3
  refine ⟨i :: (peers g.s.n i).filter (fun j => decide ((ackNode (g.s.nodes i) f m).matchIndex.getD j 0 ≥ N)), ?_, ?_, ?_⟩
  · apply List.nodup_cons.mpr
    refine ⟨fun h => (mem_peers.mp (List.mem_filter.mp h).1).2 rfl, (peers_nodup _ _).sublist List.filter_sublist⟩
  · intro j hj
    simp only [List.mem_cons] at hj
    rcases hj with hj | hj
    · rw [hj]
      refine ⟨c.hlt, hKne, hKt, (g.s.nodes i).log, ?_, List.take_prefix _ _⟩
      simp only [gApply_seen, hf.term, hf.log]; simp
    · obtain ⟨hj1, hj2⟩ := List.mem_filter.mp hj
      have hge : (ackNode (g.s.nodes i) f m).matchIndex.getD j 0 ≥ N := by simpa using hj2
      have hms := c.n_ms' i (by rw [c.node_self, hf.role]; exact hl) j
      rw [c.node_self, hf.mi, hf.term, hf.log] at hms
      change ((g.s.nodes i).matchIndex.set f m).getD j 0 ≥ N at hge
      refine ⟨(mem_peers.mp hj1).1, hKne, hKt, ?_⟩
      rcases hms with h | ⟨_, L, e2, e3⟩
      · omega
      · refine ⟨L, e2, List.IsPrefix.trans ?_ e3⟩
        rw [List.prefix_take_iff]
        exact ⟨List.take_prefix _ _, by rw [List.length_take]; omega⟩
  · show quorum g.s.n ≤ _
    simp only [List.length_cons]
    unfold countMatch at h4
    omega

theorem n_cn' (c : Ctx v g i inp r cr) : ∀ j, CommB (gApply g i r cr)
    (((gApply g i r cr).s.nodes j).log.take ((gApply g i r cr).s.nodes j).commit) ((gApply g i r cr).s.nodes j).term := by
  intro j
  by_cases hj : j = i
  · rw [hj, c.node_self]
    have hpre := c.hi.n_cn i
    have same : r.node.log.take r.node.commit = (g.s.nodes i).log.take (g.s.nodes i).commit →
        CommB (gApply g i r cr) (r.node.log.take r.node.commit) r.node.term := by
      intro h; rw [h]; exact hpre.mono c.gle c.term_le
    rcases c.hk.data with ⟨hlog, hcommit, _⟩ | ⟨t, l, pi, pt, es, lc, hin, hle, hbad, hnode⟩ | ⟨f, m, _, hl, hnode⟩ | ⟨k, _, hlog, hcommit, _⟩
    · exact same (by rw [hlog, hcommit])
    · obtain ⟨X, a⟩ := c.ae_accepted hin hle hbad hnode
      rcases a.comm with h | ⟨h1, h2⟩
      · exact same h
      · rw [h1, a.term]; exact h2.mono c.gle (Nat.le_refl _)
    · have hf := c.ack hnode
      rcases hf.commit with h | ⟨N, h1, h2, h3, h4, h5⟩
      · exact same (by rw [hf.log, h])
      · rw [hf.log, h5, hf.term]
        exact Or.inr ⟨_, _, Nat.le_refl _, c.ack_qa hl hnode (by omega) h2 h3 h4, List.prefix_rfl⟩
    · apply same
      rw [hlog, hcommit, List.take_append_of_le_length (c.cl i)]
  · rw [c.node_other hj]; exact (c.hi.n_cn j).mono c.gle (Nat.le_refl _)

theorem n_a1' (c : Ctx v g i inp r cr) : ∀ f T K, Accepted (gApply g i r cr) f T K → K <+: ((gApply g i r cr).s.nodes f).log ∨
    ∃ t' c' L', (t', c', L') ∈ (gApply g i r cr).llogs ∧ T < t' ∧ t' ≤ ((gApply g i r cr).s.nodes f).term ∧ ¬ K <+: L' := by
  intro f T K hacc
  rcases c.accepted_post hacc with ha | ⟨e1, _, e3⟩
  · rcases c.hi.n_a1 f T K ha with hp | ⟨t', c', L', h1, h2, h3, h4⟩
    · by_cases hf : f = i
      · rw [hf] at ha hp ⊢
        rw [c.node_self]
        rcases c.log_cases with h | ⟨k, h, _⟩ | ⟨X, hX, h, hnp⟩
        · rw [h]; exact Or.inl hp
        · rw [h]; exact Or.inl (hp.trans (List.prefix_append _ _))
        · rw [h]
          by_cases hKX : K <+: X
          · exact Or.inl hKX
          · right
            obtain ⟨L0, hs, _⟩ := ha.2.2
            have hTle := Nat.le_trans (c.hi.s_term i T L0 hs) c.term_le
            have hTne : T ≠ r.node.term := by
              intro hT
              rcases hX.comparable c.hi (ha.mem_created c.hi) (by rw [ha.2.1, hT]) with h' | h'
              · exact hKX h'
              · exact hnp (h'.trans hp)
            obtain ⟨c', L', hL, hLX, _⟩ := hX
            exact ⟨r.node.term, c', L', c.gle.llogs _ hL, by omega, Nat.le_refl _, fun h' => hKX (h'.trans hLX)⟩
      · rw [c.node_other hf]; exact Or.inl hp
    · exact Or.inr ⟨t', c', L', c.gle.llogs _ h1, h2, Nat.le_trans h3 (c.term_post f), h4⟩
  · rw [e1, c.node_self]; exact Or.inl e3

end Ctx

theorem AEM.mono {g g' : GSt} (h : GLe g g') {t pi pt : Nat} {es : List Entry} {lc : Nat} (a : AEM g t pi pt es lc) :
    AEM g' t pi pt es lc := by
  obtain ⟨X, h1, h2, h3, h4, h5⟩ := a
  exact ⟨X, h1.mono h, h2, h3, h4, h5.mono h (Nat.le_refl _)⟩

theorem ARM.mono {g g' : GSt} (h : GLe g g') {t f m : Nat} (a : ARM g t f m) : ARM g' t f m := by
  rcases a with a | ⟨X, L, h1, h2, h3, h4⟩
  · exact Or.inl a
  · exact Or.inr ⟨X, L, h1.mono h, h2, h.seen _ h3, h4⟩

namespace Ctx
variable {v : Variant} {g : GSt} {i : Nat} {inp : Option Body} {r : HR} {cr : List (List Entry)}

theorem ae_sent (c : Ctx v g i inp r cr) {d : Nat} {b : Body} (hb : ∃ t l pi pt es lc, b = .ae t l pi pt es lc) (h : (d, b) ∈ r.sends) :
    r.node.role = .leader ∧ ∃ p, b = aeFor r.node i p := by
  obtain ⟨t, l, pi, pt, es, lc, hb⟩ := hb
  rcases c.hk.sent h with ⟨_, _, _, h'⟩ | ⟨_, _, _, h'⟩ | ⟨h', _⟩ | h' | ⟨_, _, _, _, _, _, _, _, _, _, h'⟩
  · rw [hb] at h'; cases h'
  · rw [hb] at h'; cases h'
  · rw [hb] at h'; cases h'
  · exact h'
  · rw [hb] at h'; cases h'

theorem ar_sent (c : Ctx v g i inp r cr) {d t f m : Nat} (h : (d, Body.ar t true f m) ∈ r.sends) :
    f = i ∧ r.node.term = t ∧ ∃ X, LeaderLog g t X ∧ m = X.length ∧ X <+: r.node.log := by
  obtain ⟨l, pi, pt, es, lc, hin, hm, hf, hle, hbad, hnode⟩ := c.hk.ack_sent h
  obtain ⟨X, a⟩ := c.ae_accepted hin hle hbad hnode
  exact ⟨hf, a.term, X, a.ll, by rw [hm, a.len], a.pre⟩

theorem m_ae' (c : Ctx v g i inp r cr) : ∀ e ∈ (gApply g i r cr).s.msgs, ∀ t l pi pt es lc, e.body = .ae t l pi pt es lc →
    AEM (gApply g i r cr) t pi pt es lc := by
  intro e he t l pi pt es lc hb
  rcases applyHR_msgs he with h | ⟨_, hmem, _⟩
  · exact (c.hi.m_ae e h t l pi pt es lc hb).mono c.gle
  · obtain ⟨hrole, p, hp⟩ := c.ae_sent ⟨t, l, pi, pt, es, lc, hb⟩ hmem
    rw [hb, aeFor_prev] at hp
    cases hp
    have hl := c.n_ldr' i (by rw [c.node_self]; exact hrole)
    have hc := c.n_cn' i
    have hcl := c.cl' i
    rw [c.node_self] at hl hc hcl
    exact ⟨r.node.log, hl, rfl, rfl, hcl, hc⟩

theorem m_ar' (c : Ctx v g i inp r cr) : ∀ e ∈ (gApply g i r cr).s.msgs, ∀ t f m, e.body = .ar t true f m →
    ARM (gApply g i r cr) t f m := by
  intro e he t f m hb
  rcases applyHR_msgs he with h | ⟨_, hmem, _⟩
  · exact (c.hi.m_ar e h t f m hb).mono c.gle
  · rw [hb] at hmem
    obtain ⟨e1, e2, X, hX, hm, hpre⟩ := c.ar_sent hmem
    right
    refine ⟨X, r.node.log, hX.mono c.gle, by omega, ?_, ?_⟩
    · simp only [gApply_seen, e1, e2]; simp
    · rw [hm, List.take_length]; exact hpre

theorem hinv (c : Ctx v g i inp r cr) : HInv (gApply g i r cr) :=
  ⟨c.r_mono', c.r_same', c.r_ll', c.r_closed', c.ll_led', c.ll_uniq', c.ll_rec', c.ll_lt', c.ll_q', c.s_term', c.s_rec',
   c.k0', c.k1', c.k2', c.kvt', c.vm', c.n_lt', c.n_ldr', c.n_ms', c.n_seen', c.n_cn', c.cl', c.n_a1', c.m_rv', c.m_ae', c.m_ar'⟩

end Ctx

end HappyModel.C11
