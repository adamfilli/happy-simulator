import HappyModel.C17.MLMK
import HappyProofs.C17.MLProg
namespace HappyModel.C17.MLM
open HappyModel.C17.ML (Version Msg Proc MKind PKind vcGet dominates vcMerge vcTick)
open HappyModel.C17.LN (Res AeShape StepShape)

def St.view (s : St) : ML.St :=
  { n := s.n, nk := s.nk, now := s.now, store := s.store, vers := s.vers, order := s.order, clock := s.clock,
    np := s.np, procs := s.procs, nm := s.nm, msgs := s.msgs, replies := s.replies, err := s.err }

def St.res (s : St) : Res := ⟨takes s.n, pick s.n s.join, peersOf s, fun node peer => peer != node⟩

def sig : LN.Sig St where
  view := St.view
  spawn := St.spawn
  setProc := St.setProc
  send := St.send
  reply := St.reply
  fail := St.fail
  setNow s t := { s with now := t }
  setClock s c := { s with clock := c }
  setMsgs s m := { s with msgs := m }
  setVer s i k w := { s with store := upd2 s.store i k (some w.val), vers := upd2 s.vers i k (some w),
                             order := if (s.order i).contains k then s.order else upd s.order i (s.order i ++ [k]) }
  res := St.res
  aeLoop := aeLoop
  noLink _ node peer := peer = node
  noLinkDec _ _ _ := inferInstance
  answers s s1 p := p.kind = .aereq ∧ !(sameMap s.nk p.hash (s1.store p.node))
  answersDec _ _ _ := inferInstance

theorem step_prog (s : St) (a : Act) : step s a = LN.step sig s a := by cases a <;> rfl

theorem sig_laws : sig.Laws :=
  ⟨fun _ _ => rfl, fun _ _ _ => rfl, fun _ _ => rfl, fun _ _ _ => rfl, fun _ _ => rfl, fun _ _ => rfl, fun _ _ => rfl,
   fun _ _ => rfl, fun _ _ _ _ => rfl, fun _ _ _ _ => rfl, fun _ _ => rfl, fun _ _ => rfl, fun _ _ => rfl, fun _ _ _ _ _ => rfl,
   fun _ _ _ => bne_iff_ne.symm,
   fun _ _ _ h => h.1⟩

theorem step_shape' (s : St) (a : Act) : StepShape s.res s.view a (step s a).view ∧ (step s a).join = s.join := by
  obtain ⟨sh, q⟩ := LN.step_does (Q := fun s' => s'.join = s.join) sig_laws
    ⟨id, id, id, id, id, id, id, id, id⟩ s a
  rw [step_prog]
  exact ⟨sh, q rfl⟩

theorem step_shape (s : St) (a : Act) : StepShape s.res s.view a (step s a).view := (step_shape' s a).1
theorem step_join (s : St) (a : Act) : (step s a).join = s.join := (step_shape' s a).2
theorem step_n (s : St) (a : Act) : (step s a).n = s.n := (step_shape s a).n

theorem run_n (s : St) : ∀ acts, (run s acts).n = s.n
  | [] => rfl
  | a :: as => by rw [run, run_n (step s a) as, step_n]

theorem isWR_view (s : St) (a : Act) : isWR s a = LN.isWR s.view a := by
  cases a <;> rfl

end HappyModel.C17.MLM
