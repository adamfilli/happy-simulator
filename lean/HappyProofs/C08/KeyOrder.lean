import HappyProofs.C08.Order
/-!
Key-ordered policies (PriorityQueue, DeadlineQueue).  The heap of the code-mirroring model —
extract-minimum under `(key, insert_order)` on a list whose insert orders increase — returns exactly
the *stable minimum* of the list specification (`firstMin`: the first held item, in acceptance order,
whose key is ≤ every held key) and leaves the other items in acceptance order.
-/
namespace HappyModel.C08

/-- insert orders increase along the heap contents (entries are appended with a fresh counter) -/
def SeqSorted (q : List Ent) : Prop := q.Pairwise (fun a b => a.seq < b.seq)

theorem isMinIn_iff (l : List Item) (x : Item) : isMinIn l x = true ↔ ∀ y ∈ l, x.key ≤ y.key := by
  simp [isMinIn, List.all_eq_true]

theorem removeFirst_append {p : Item → Bool} {m : Item} (hm : p m = true) (post : List Item) :
    ∀ {pre : List Item}, (∀ y ∈ pre, p y = false) → removeFirst p (pre ++ m :: post) = pre ++ post
  | [], _ => by simp [removeFirst, hm]
  | y :: ys, h => by
    simp only [List.cons_append, removeFirst, h y List.mem_cons_self, Bool.false_eq_true, if_false]
    rw [removeFirst_append hm post fun z hz => h z (List.mem_cons_of_mem _ hz)]

/-- heap extract-minimum = stable minimum of the held list: among equal keys the heap order is the
    insert order, which increases along the list, so the entries before the minimum have larger keys -/
theorem extractMin_firstMin (q : List Ent) (hs : SeqSorted q) (m : Ent) (rest : List Ent)
    (h : extractMin q = some (m, rest)) :
    firstMin (q.map (·.item)) = some m.item ∧
    removeFirst (isMinIn (q.map (·.item))) (q.map (·.item)) = rest.map (·.item) := by
  obtain ⟨pre, post, rfl, rfl, h1, h2⟩ := extractMin_split q m rest h
  have hm : isMinIn ((pre ++ m :: post).map (·.item)) m.item = true := by
    rw [isMinIn_iff]
    intro y hy
    obtain ⟨x, hx, rfl⟩ := List.mem_map.mp hy
    rcases List.mem_append.mp hx with hx | hx
    · have := (entLt_iff _ _).mp (h1 x hx)
      omega
    · rcases List.mem_cons.mp hx with rfl | hx
      · exact Nat.le_refl _
      · have := h2 x hx
        rw [entLt_iff] at this
        omega
  have hpre : ∀ y ∈ pre.map (·.item), isMinIn ((pre ++ m :: post).map (·.item)) y = false := by
    intro y hy
    obtain ⟨x, hx, rfl⟩ := List.mem_map.mp hy
    have hseq : x.seq < m.seq := (List.pairwise_append.mp hs).2.2 x hx m List.mem_cons_self
    have hlt := (entLt_iff _ _).mp (h1 x hx)
    refine Bool.eq_false_iff.mpr fun hc => ?_
    have := (isMinIn_iff _ _).mp hc m.item (List.mem_map_of_mem (by simp))
    omega
  rw [List.map_append, List.map_cons] at hm hpre ⊢
  exact ⟨List.find?_eq_some_iff_append.mpr ⟨hm, _, _, rfl, fun y hy => by simp [hpre y hy]⟩,
    by rw [removeFirst_append hm _ hpre, List.map_append]⟩

theorem extractMin_sorted {q : List Ent} (hs : SeqSorted q) {m : Ent} {rest : List Ent}
    (h : extractMin q = some (m, rest)) : SeqSorted rest :=
  List.Pairwise.sublist (extractMin_sublist h) hs

def Kind.keyed : Kind → Bool
  | .prio | .deadline => true
  | _ => false

theorem keyed_notFlow {c : Cfg} (h : c.kind.keyed = true) : c.kind.isFlow = false := by
  cases hk : c.kind <;> simp_all [Kind.keyed, Kind.isFlow]

structure KRel (s : St) (ss : SSt) : Prop where
  held : s.q.map (·.item) = ss.held
  sorted : SeqSorted s.q
  fresh : ∀ e ∈ s.q, e.seq < s.ctr

variable {c : Cfg} {s : St} {ss : SSt}

theorem sorted_filter {q : List Ent} (p : Ent → Bool) (h : SeqSorted q) : SeqSorted (q.filter p) :=
  List.Pairwise.sublist List.filter_sublist h

theorem pushInner_krel (hk : c.kind.keyed = true) (h : KRel s ss) (it : Item) (rd : Bool) : (pushInner c s it rd).2
    = (sPushInner c ss it rd).2 ∧ KRel (pushInner c s it rd).1 (sPushInner c ss it rd).1 := by
  have hp : pushInner c s it rd = pushList c s it ∧
      sPushInner c ss it rd = if capFull c.cap s.q.length then (ss, false) else (ss.accept it, true) := by
    rw [← List.length_map (as := s.q) (·.item), h.held]
    cases hkk : c.kind <;> simp [Kind.keyed, hkk] at hk <;> simp [pushInner, sPushInner, hkk]
  rw [hp.1, hp.2, pushList]
  split
  · exact ⟨rfl, h.held, h.sorted, h.fresh⟩
  · refine ⟨rfl, by simp [SSt.accept, h.held], ?_, fun e he => ?_⟩
    · exact List.pairwise_append.mpr ⟨h.sorted, List.pairwise_singleton _ _,
        fun a ha b hb => by rw [List.mem_singleton.mp hb]; exact h.fresh a ha⟩
    · rcases List.mem_append.mp he with he | he
      · exact Nat.lt_succ_of_lt (h.fresh e he)
      · rw [List.mem_singleton.mp he]
        exact Nat.lt_succ_self _

theorem push_krel (hk : c.kind.keyed = true) (h : KRel s ss) (it : Item) (coin rd : Bool) : (push c s it coin rd).2
    = (sPush c ss it coin rd).2 ∧ KRel (push c s it coin rd).1 (sPush c ss it coin rd).1 :=
  push_sim (by rw [len_q (keyed_notFlow hk), ← h.held, List.length_map]) it coin rd ⟨h.held, h.sorted, h.fresh⟩
    (pushInner_krel hk h it rd)

/-- what the specification holds after a deadline pop -/
def specHeld (live : List Item) : List Item :=
  match firstMin live with
  | none => live
  | some _ => removeFirst (isMinIn live) live

/-- `DeadlineQueue.pop`: the loop drops every expired entry (they all sort before the first live
    one) and returns the stable minimum of the live ones -/
theorem popDeadline_items (now : Nat) : ∀ (fuel : Nat) (s : St), SeqSorted s.q → s.q.length < fuel →
    ((popDeadline now fuel s).1.q.map (·.item) = specHeld ((s.q.map (·.item)).filter (fun x => decide (now ≤ x.key))) ∧
     (popDeadline now fuel s).2 = firstMin ((s.q.map (·.item)).filter (fun x => decide (now ≤ x.key)))) ∧
    SeqSorted (popDeadline now fuel s).1.q ∧ (popDeadline now fuel s).1.q.Sublist s.q ∧
    (popDeadline now fuel s).1.ctr = s.ctr
  | 0, s, _, hl => by omega
  | fuel + 1, s, hs, hl => by
    unfold popDeadline
    cases hx : extractMin s.q with
    | none =>
      have hq := extractMin_none s.q hx
      simp only [hq]
      exact ⟨⟨by simp [specHeld, firstMin], by simp [firstMin]⟩, by simp [SeqSorted], by simp, trivial⟩
    | some p =>
      obtain ⟨m, rest⟩ := p
      obtain ⟨h1, h2⟩ := extractMin_firstMin s.q hs m rest hx
      have hlen := extractMin_length s.q m rest hx
      have hsub := extractMin_sublist hx
      have hs' := extractMin_sorted hs hx
      simp only
      by_cases hexp : m.item.key < now
      · simp only [hexp, if_true]
        obtain ⟨⟨i1, i2⟩, i3, i4, i5⟩ :=
          popDeadline_items now fuel { s with q := rest, drp := s.drp + 1 } hs' (by simp; omega)
        have hlive : ((rest.map (·.item)).filter (fun x => decide (now ≤ x.key))) = ((s.q.map (·.item)).filter (fun x => decide (now ≤ x.key))) := by
          rw [← h2]
          exact filter_removeFirst h1 (by simp; omega)
        simp only at i1 i2 i4 i5
        rw [hlive] at i1 i2
        exact ⟨⟨i1, i2⟩, i3, i4.trans hsub, i5⟩
      · simp only [hexp, if_false]
        have hall : ∀ y ∈ s.q.map (·.item), decide (now ≤ y.key) = true := by
          intro y hy
          have := (isMinIn_iff _ _).mp (List.find?_some h1) y hy
          simp; omega
        have hfl : (s.q.map (·.item)).filter (fun x => decide (now ≤ x.key)) = s.q.map (·.item) := List.filter_eq_self.mpr hall
        rw [hfl]
        refine ⟨⟨?_, by simp [h1]⟩, hs', hsub, trivial⟩
        simp [specHeld, h1, h2]

theorem pop_krel (hk : c.kind.keyed = true) (h : KRel s ss) (now k : Nat) :
    (pop c s now k).2 = (sPop c ss now k).2 ∧ KRel (pop c s now k).1 (sPop c ss now k).1 := by
  cases hkk : c.kind <;> simp [Kind.keyed, hkk] at hk <;> simp only [pop, sPop, hkk]
  case prio =>
    unfold popPrio
    cases hx : extractMin s.q with
    | none =>
      have hh : ss.held = [] := by rw [← h.held, extractMin_none s.q hx]; rfl
      simp only [hh, firstMin, List.find?_nil]
      exact ⟨trivial, h⟩
    | some p =>
      obtain ⟨h1, h2⟩ := extractMin_firstMin s.q h.sorted p.1 p.2 hx
      rw [h.held] at h1 h2
      simp only [h1]
      exact ⟨trivial, h2.symm, extractMin_sorted h.sorted hx, fun e he => h.fresh e ((extractMin_sublist hx).subset he)⟩
  case deadline =>
    obtain ⟨⟨i1, i2⟩, i3, i4, i5⟩ := popDeadline_items now (s.q.length + 1) s h.sorted (Nat.lt_succ_self _)
    rw [h.held] at i1 i2
    have hfresh : ∀ e ∈ (popDeadline now (s.q.length + 1) s).1.q, e.seq < (popDeadline now (s.q.length + 1) s).1.ctr :=
      fun e he => i5 ▸ h.fresh e (i4.subset he)
    refine ⟨?_, ?_, i3, hfresh⟩
    all_goals
      split <;> simp_all [specHeld]

theorem extractMin_item_firstMin (q : List Ent) (hs : SeqSorted q) :
    (extractMin q).map (·.1.item) = firstMin (q.map (·.item)) := by
  cases hx : extractMin q with
  | none => have := extractMin_none q hx; subst this; simp [firstMin]
  | some p =>
    obtain ⟨m, rest⟩ := p
    simp [(extractMin_firstMin q hs m rest hx).1]

theorem KRel.live (h : KRel s ss) (now : Nat) :
    (s.q.filter (isLive now)).map (·.item) = ss.held.filter fun x => decide (now ≤ x.key) := by
  rw [← h.held, List.filter_map]
  rfl

theorem peek_krel (hk : c.kind.keyed = true) (h : KRel s ss) (now : Nat) : peek c s now = sChoose c ss now := by
  cases hkk : c.kind <;> simp [Kind.keyed, hkk] at hk <;> simp only [peek, sChoose, hkk]
  case prio => rw [extractMin_item_firstMin s.q h.sorted, h.held]
  case deadline => exact (extractMin_item_firstMin _ (sorted_filter (isLive now) h.sorted)).trans (by rw [h.live])

theorem purge_krel (hk : c.kind.keyed = true) (h : KRel s ss) (now : Nat) :
    (purge c s now).2 = (sPurge c ss now).2 ∧ KRel (purge c s now).1 (sPurge c ss now).1 := by
  cases hkk : c.kind <;> simp [Kind.keyed, hkk] at hk <;> simp only [purge, sPurge, hkk]
  case prio => exact ⟨trivial, h⟩
  case deadline =>
    refine ⟨?_, h.live now, sorted_filter _ h.sorted, fun e he => h.fresh e (List.mem_filter.mp he).1⟩
    rw [← h.live, ← h.held, List.length_map, List.length_map]

theorem query_krel (hk : c.kind.keyed = true) (h : KRel s ss) (now f : Nat) : query c s now f = sQuery c ss now f := by
  cases hkk : c.kind <;> simp [Kind.keyed, hkk] at hk <;> simp only [query, sQuery, hkk]
  case deadline => rw [← h.live, ← h.held, List.length_map, List.length_map]

theorem krel_sim (hk : c.kind.keyed = true) : Sim c KRel :=
  ⟨push_krel hk, pop_krel hk, peek_krel hk, purge_krel hk, query_krel hk⟩

theorem krel_init : KRel {} {} := ⟨rfl, by simp [SeqSorted], by simp⟩

end HappyModel.C08
