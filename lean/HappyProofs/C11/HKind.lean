import HappyProofs.C11.Does
/-! What a handler can do to a node, as eight kinds (`Does.hk`).  `HInv` is proved kind by kind.
    The three repairs that matter here are hypotheses: `keepVote` (D1), `matchSent` (D2), `staleAck` (D3). -/
namespace HappyModel.C11

structure Rep (v : Variant) : Prop where
  kv : v.keepVote = true
  ms : v.matchSent = true
  sa : v.staleAck = true

theorem rep_repaired : Rep Variant.repaired := ⟨rfl, rfl, rfl⟩

inductive HK (v : Variant) (n : Nat) (x : Node) (me : Nat) (inp : Option Body) (r : HR) : Prop
  /-- bookkeeping only: same role and term, or stepped down -/
  | quiet (hlog : r.node.log = x.log) (hcommit : r.node.commit = x.commit) (hmi : r.node.matchIndex = x.matchIndex)
      (rt : (r.node.role = x.role ∧ r.node.term = x.term) ∨ (r.node.role = .follower ∧ x.term ≤ r.node.term))
      (vf : r.node.votedFor = none ∨ (r.node.votedFor = x.votedFor ∧ r.node.term = x.term))
      (snd : ∀ d b, (d, b) ∈ r.sends → (∃ t f, b = .vr t false f) ∨ (∃ t f m, b = .ar t false f m))
  | grant (t c li lt src : Nat) (hin : inp = some (.rv t c li lt))
      (hlog : r.node.log = x.log) (hcommit : r.node.commit = x.commit) (hmi : r.node.matchIndex = x.matchIndex)
      (rt : (r.node.role = x.role ∧ x.term = t) ∨ (r.node.role = .follower ∧ x.term < t))
      (ht : r.node.term = t) (vf : r.node.votedFor = some c)
      (old : x.term = t → x.votedFor = none ∨ x.votedFor = some c)
      (utd : upToDate x li lt = true)
      (snd : r.sends = [(src, .vr t true me)])
  /-- `_start_election` (and, in a cluster of one, `_become_leader` right away) -/
  | campaign (hlog : r.node.log = x.log) (hcommit : r.node.commit = x.commit)
      (hnl : x.role ≠ .leader) (ht : r.node.term = x.term + 1) (vf : r.node.votedFor = some me)
      (role : r.node.role = .candidate ∨ (r.node.role = .leader ∧ r.node.matchIndex = List.replicate n 0))
      (snd : ∀ d b, (d, b) ∈ r.sends → b = .rv r.node.term me r.node.log.length (lastTerm r.node.log)
              ∨ (r.node.role = .leader ∧ ∃ p, b = aeFor r.node me p))
  | elect (hlog : r.node.log = x.log) (hcommit : r.node.commit = x.commit)
      (hc : x.role = .candidate) (ht : r.node.term = x.term) (vf : r.node.votedFor = x.votedFor)
      (role : r.node.role = .leader) (hmi : r.node.matchIndex = List.replicate n 0)
      (snd : ∀ d b, (d, b) ∈ r.sends → ∃ p, b = aeFor r.node me p)
  /-- a leader sends AppendEntries built from its state (heartbeat, or retry after a refusal) -/
  | lsend (hlog : r.node.log = x.log) (hcommit : r.node.commit = x.commit) (hmi : r.node.matchIndex = x.matchIndex)
      (hl : x.role = .leader) (role : r.node.role = .leader) (ht : r.node.term = x.term) (vf : r.node.votedFor = x.votedFor)
      (snd : ∀ d b, (d, b) ∈ r.sends → ∃ p, b = aeFor r.node me p)
  | accept (t l pi pt : Nat) (es : List Entry) (lc src : Nat) (hin : inp = some (.ae t l pi pt es lc))
      (hle : x.term ≤ t) (hbad : aeBad (stepDown v x t) pi pt = false)
      (hnode : r.node = (aeCommit (appendLoop v (stepDown v x t) (pi + 1) es) lc).node)
      (snd : r.sends = [(src, .ar t true me (pi + es.length))])
  /-- a leader takes a successful acknowledgement of its own term -/
  | ack (f m : Nat) (hin : inp = some (.ar x.term true f m)) (hl : x.role = .leader)
      (hnode : r.node = (tryAdvance n (ackNode x f m) me).node) (snd : r.sends = [])
  | append (c : Cmd) (hl : x.role = .leader) (hlog : r.node.log = x.log ++ [⟨x.term, c⟩])
      (hcommit : r.node.commit = x.commit) (hmi : r.node.matchIndex = x.matchIndex)
      (role : r.node.role = .leader) (ht : r.node.term = x.term) (vf : r.node.votedFor = x.votedFor)
      (snd : r.sends = [])

theorem Does.hk {v : Variant} (hr : Rep v) {n : Nat} {x : Node} {me src : Nat} {inp : Inp} {r : HR}
    (h : Does v n x me src inp r) : HK v n x me inp.body r := by
  cases h with
  | same => exact .quiet rfl rfl rfl (Or.inl ⟨rfl, rfl⟩) (Or.inr ⟨rfl, rfl⟩) (Inp.refusals _ _ _ _)
  | down _ hd => exact .quiet rfl rfl rfl (Or.inr ⟨rfl, hd.le⟩) (stepDown_vf v hr.kv x _ hd.le) (Inp.refusals _ _ _ _)
  | grant t c li lt x1 h1 hg =>
    simp only [rvGrant, Bool.and_eq_true, decide_eq_true_eq, Bool.or_eq_true, beq_iff_eq] at hg
    rcases h1 with ⟨rfl, ht⟩ | ⟨rfl, ht⟩
    · exact .grant t c li lt src rfl rfl rfl rfl (Or.inl ⟨rfl, ht⟩) rfl rfl (fun _ => hg.1.2) hg.2 rfl
    · exact .grant t c li lt src rfl rfl rfl rfl (Or.inr ⟨rfl, ht⟩) rfl rfl (fun h => by omega) hg.2 rfl
  | campaign hnl _ => exact .campaign rfl rfl hnl rfl rfl (Or.inl rfl) fun d b h => Or.inl (mem_rvsFor h)
  | campaignWin hnl _ =>
    refine .campaign rfl rfl hnl rfl rfl (Or.inr ⟨rfl, rfl⟩) fun d b h => ?_
    rcases List.mem_append.mp h with h | h
    · exact Or.inl (mem_rvsFor h)
    · exact Or.inr ⟨rfl, _, mem_sendAEs h⟩
  | vote => exact .quiet rfl rfl rfl (Or.inl ⟨rfl, rfl⟩) (Or.inr ⟨rfl, rfl⟩) nofun
  | elect _ _ hc => exact .elect rfl rfl hc rfl rfl rfl rfl fun d b h => ⟨_, mem_sendAEs h⟩
  | hb hl => exact .lsend rfl rfl rfl hl hl rfl rfl fun d b h => ⟨_, mem_sendAEs h⟩
  | accept t l pi pt es lc hle hbad =>
    exact .accept t l pi pt es lc src rfl hle hbad rfl (aeAccept_sends hr.ms ..)
  | ack t f m _ hsa hl => rw [hsa hr.sa]; exact .ack f m rfl hl rfl (tryAdvance_kept ..).sends
  | nack _ f _ _ _ hl =>
    refine .lsend rfl rfl rfl hl hl rfl rfl fun d b h => ?_
    split at h
    · simp only [List.mem_singleton, Prod.mk.injEq] at h; exact ⟨f, h.2⟩
    · cases h
  | append _ c hl => exact .append c hl rfl rfl rfl hl rfl rfl rfl

theorem HK.data {v : Variant} {n : Nat} {x : Node} {me : Nat} {inp : Option Body} {r : HR} (hk : HK v n x me inp r) :
    (r.node.log = x.log ∧ r.node.commit = x.commit ∧ (x.role = .leader → r.node.matchIndex = x.matchIndex))
    ∨ (∃ t l pi pt es lc, inp = some (.ae t l pi pt es lc) ∧ x.term ≤ t ∧ aeBad (stepDown v x t) pi pt = false
        ∧ r.node = (aeCommit (appendLoop v (stepDown v x t) (pi + 1) es) lc).node)
    ∨ (∃ f m, inp = some (.ar x.term true f m) ∧ x.role = .leader ∧ r.node = (tryAdvance n (ackNode x f m) me).node)
    ∨ (∃ c, x.role = .leader ∧ r.node.log = x.log ++ [⟨x.term, c⟩] ∧ r.node.commit = x.commit ∧ r.node.matchIndex = x.matchIndex
        ∧ r.node.role = .leader ∧ r.node.term = x.term) := by
  cases hk with
  | quiet hlog hcommit hmi | grant _ _ _ _ _ _ hlog hcommit hmi | lsend hlog hcommit hmi => exact Or.inl ⟨hlog, hcommit, fun _ => hmi⟩
  | campaign hlog hcommit hnl => exact Or.inl ⟨hlog, hcommit, fun h => absurd h hnl⟩
  | elect hlog hcommit hc => exact Or.inl ⟨hlog, hcommit, fun h => nomatch hc.symm.trans h⟩
  | accept t l pi pt es lc _ hin hle hbad hnode => exact Or.inr (Or.inl ⟨t, l, pi, pt, es, lc, hin, hle, hbad, hnode⟩)
  | ack f m hin hl hnode => exact Or.inr (Or.inr (Or.inl ⟨f, m, hin, hl, hnode⟩))
  | append c hl hlog hcommit hmi role ht => exact Or.inr (Or.inr (Or.inr ⟨c, hl, hlog, hcommit, hmi, role, ht⟩))

theorem HK.sent {v : Variant} {n : Nat} {x : Node} {me : Nat} {inp : Option Body} {r : HR} (hk : HK v n x me inp r)
    {d : Nat} {b : Body} (h : (d, b) ∈ r.sends) :
    (∃ t g f, b = .vr t g f) ∨ (∃ t f m, b = .ar t false f m)
    ∨ (b = .rv r.node.term me r.node.log.length (lastTerm r.node.log) ∧ r.node.term = x.term + 1 ∧ r.node.log = x.log)
    ∨ (r.node.role = .leader ∧ ∃ p, b = aeFor r.node me p)
    ∨ ∃ t l pi pt es lc, inp = some (.ae t l pi pt es lc) ∧ x.term ≤ t ∧ aeBad (stepDown v x t) pi pt = false
        ∧ r.node = (aeCommit (appendLoop v (stepDown v x t) (pi + 1) es) lc).node ∧ b = .ar t true me (pi + es.length) := by
  cases hk with
  | quiet _ _ _ _ _ snd =>
    rcases snd _ _ h with ⟨t, f, h'⟩ | h'
    · exact Or.inl ⟨t, false, f, h'⟩
    · exact Or.inr (Or.inl h')
  | grant _ _ _ _ _ _ _ _ _ _ _ _ _ _ snd =>
    rw [snd] at h
    simp only [List.mem_singleton, Prod.mk.injEq] at h
    exact Or.inl ⟨_, _, _, h.2⟩
  | campaign hlog _ _ ht _ _ snd =>
    rcases snd _ _ h with h' | h'
    · exact Or.inr (Or.inr (Or.inl ⟨h', ht, hlog⟩))
    · exact Or.inr (Or.inr (Or.inr (Or.inl h')))
  | elect _ _ _ _ _ role _ snd => exact Or.inr (Or.inr (Or.inr (Or.inl ⟨role, snd _ _ h⟩)))
  | lsend _ _ _ _ role _ _ snd => exact Or.inr (Or.inr (Or.inr (Or.inl ⟨role, snd _ _ h⟩)))
  | accept t l pi pt es lc src hin hle hbad hnode snd =>
    rw [snd] at h
    simp only [List.mem_singleton, Prod.mk.injEq] at h
    exact Or.inr (Or.inr (Or.inr (Or.inr ⟨t, l, pi, pt, es, lc, hin, hle, hbad, hnode, h.2⟩)))
  | ack _ _ _ _ _ snd => rw [snd] at h; cases h
  | append _ _ _ _ _ _ _ _ snd => rw [snd] at h; cases h

theorem HK.ack_sent {v : Variant} {n : Nat} {x : Node} {me : Nat} {inp : Option Body} {r : HR} (hk : HK v n x me inp r)
    {d t f m : Nat} (h : (d, Body.ar t true f m) ∈ r.sends) :
    ∃ l pi pt es lc, inp = some (.ae t l pi pt es lc) ∧ m = pi + es.length ∧ f = me ∧ x.term ≤ t
      ∧ aeBad (stepDown v x t) pi pt = false ∧ r.node = (aeCommit (appendLoop v (stepDown v x t) (pi + 1) es) lc).node := by
  rcases hk.sent h with ⟨_, _, _, h'⟩ | ⟨_, _, _, h'⟩ | ⟨h', _⟩ | ⟨_, _, h'⟩ | ⟨t', l, pi, pt, es, lc, hin, hle, hbad, hnode, h'⟩
  · cases h'
  · cases h'
  · cases h'
  · exact Body.noConfusion h'
  · cases h'
    exact ⟨l, pi, pt, es, lc, hin, rfl, rfl, hle, hbad, hnode⟩

end HappyModel.C11
