import HappyProofs.C05.Observe
/-!
The full statement of the main clause for entity-local *stateful* handlers (`par_eq_seq_full`) and
its refutation, `par_eq_seq_full_false_for_order_sensitive_handlers`.

Two deliveries to one entity that carry the same timestamp can reach it in different orders in the two
runs (sequentially the creation index decides; in the partitioned run an event that crosses a link is
injected at the barrier *after* the destination has already executed the window up to and including
that instant).  A handler whose emissions depend on that order then emits different events, so the
logs differ by more than the order inside one timestamp.  The true envelope of the clause is proved in
`HappyProofs/C05/Stateful.lean`.
-/
namespace HappyModel.C05

/-- the main clause as the property states it, for every entity-local stateful handler; refuted below -/
def par_eq_seq_full : Prop :=
  ∀ (τ : Type) (hE : τ → Ev → τ × List Emit) (c : Cfg) (ids : List Nat)
    (fuel wEff endT n start : Nat) (st : Nat → τ) (evs : List Ev) (ps : List (Part (Nat → τ))),
    ids.Nodup → (∀ l ∈ c.links, l.dst ∈ ids) → WindowLeLat c wEff → 0 < wEff → start ≤ endT →
    (∀ e ∈ evs, start ≤ e.time) → ParInit c ids start evs ps → (∀ p ∈ ps, p.st = st) →
    (coordLoop (liftLocal hE) c true fuel wEff endT n
        { parts := ps, cur := start, windows := 0, injected := 0, outboxed := 0, err := none }).err = none →
    Halted (liftLocal hE) seqRoute false endT (runSeq (liftLocal hE) endT fuel (Part.init 0 start st evs)) →
    ∀ x, TieEquiv (upTo endT ((runSeq (liftLocal hE) endT fuel (Part.init 0 start st evs)).obsLog x))
      (upTo endT (parObs (coordLoop (liftLocal hE) c true fuel wEff endT n
        { parts := ps, cur := start, windows := 0, injected := 0, outboxed := 0, err := none }).parts x))

/-- entity 0 forwards kind 0 to entity 1 as kind 2 after 100 ns (the link minimum); entity 1 turns
    kind 0 into a kind-1 event to itself after 50 ns, remembers whether it has seen kind 1
    (state 1), and answers a kind-2 delivery that arrives *before* any kind-1 delivery with a
    kind-7 event to itself after 10 ns.  Entity-local and order-sensitive inside one timestamp. -/
def tieHandler : Nat → Ev → Nat × List Emit := fun s e =>
  if e.tgt = 0 then (s, if e.kind = 0 then [⟨100, 1, 2⟩] else [])
  else if e.kind = 0 then (s, [⟨50, 1, 1⟩])
  else if e.kind = 1 then (1, [])
  else if e.kind = 2 then (s, if s = 0 then [⟨10, 1, 7⟩] else [])
  else (s, [])

def tieCfg : Cfg := { partOf := #[0, 1], nparts := 2, links := [⟨0, 1, 100⟩] }
def tieEvs : List Ev := [⟨0, 0, 0, 0⟩, ⟨50, 1, 1, 0⟩]
def tieSt : Nat → Nat := fun _ => 0
def tieParts : List (Part (Nat → Nat)) :=
  [Part.init 0 0 tieSt [⟨0, 0, 0, 0⟩], Part.init 1 0 tieSt [⟨50, 1, 1, 0⟩]]

/-- what entity 1 observes: sequentially the cross event (created first) is delivered before the
    local one at 100 ns and triggers the kind-7 event; in the partitioned run the local event at 100 ns
    is delivered inside the first window, the cross event only after the barrier, and kind 7 never
    exists. -/
theorem tie_witness_logs :
    (runSeq (liftLocal tieHandler) 1000 10 (Part.init 0 0 tieSt tieEvs)).obsLog 1
      = [(50, 0), (100, 2), (100, 1), (110, 7)]
    ∧ parObs (coordLoop (liftLocal tieHandler) tieCfg true 10 100 1000 20
        { parts := tieParts, cur := 0, windows := 0, injected := 0, outboxed := 0, err := none }).parts 1
      = [(50, 0), (100, 1), (100, 2)] := by
  decide +kernel

/-- **par_eq_seq_full_false_for_order_sensitive_handlers** — the main clause as the property states it is
    *false* for entity-local stateful handlers: on the two-partition witness every hypothesis holds,
    the coordinated run returns without error, and entity 1 receives `(110, 7)` sequentially and
    never in the partitioned run. -/
theorem par_eq_seq_full_false_for_order_sensitive_handlers : ¬ par_eq_seq_full := by
  intro hfull
  have h := hfull Nat tieHandler tieCfg [0, 1] 10 100 1000 20 0 tieSt tieEvs tieParts
    (by decide) (by decide) (by simp [WindowLeLat, tieCfg]) (by decide) (by decide) (by decide)
    ⟨by decide, by decide, by decide, by decide, by decide⟩
    (by simp [tieParts, Part.init])
    (by decide +kernel) (by unfold Halted; decide +kernel) 1
  rw [tie_witness_logs.1, tie_witness_logs.2] at h
  exact absurd h (by decide)

end HappyModel.C05
