import HappyProofs.C14.LsmInstall
/-! The two shapes of a planned compaction; installing it keeps reads and the level invariants, and a suspended
    reader meets the old tables or the merged one. -/
namespace HappyModel.C14

section

variable {cfg : Cfg} {lv : List (List Tab)} {j : Job}

theorem split2 (lv : List (List Tab)) (i : Nat) (h : i + 1 < lv.length) :
    ∃ A C, lv = A ++ lv.getD i [] :: lv.getD (i + 1) [] :: C ∧ A.length = i ∧ C.length + (i + 2) = lv.length := by
  refine ⟨lv.take i, lv.drop (i + 2), ?_, ?_, ?_⟩
  · have h1 := decomp lv i (by omega)
    rwa [drop_eq_getD_cons lv (i + 1) h] at h1
  · rw [List.length_take]; omega
  · rw [List.length_drop]; omega

theorem split1 (lv : List (List Tab)) (i : Nat) (h : i + 1 = lv.length) :
    ∃ A, lv = A ++ [lv.getD i []] ∧ A.length = i := by
  refine ⟨lv.take i, ?_, ?_⟩
  · have h1 := decomp lv i (by omega)
    rwa [List.drop_of_length_le (by omega)] at h1
  · rw [List.length_take]; omega

theorem getD_append_lt (A B : List (List Tab)) (i : Nat) (h : i < A.length) : (A ++ B).getD i [] = A.getD i [] := by
  simp only [List.getD_eq_getElem?_getD, List.getElem?_append_left h]

theorem getD_append_ge (A B : List (List Tab)) (i : Nat) : (A ++ B).getD (A.length + i) [] = B.getD i [] := by
  simp only [List.getD_eq_getElem?_getD, List.getElem?_append_right (Nat.le_add_right ..), Nat.add_sub_cancel_left]

theorem getD_append_len (A : List (List Tab)) (x : List Tab) (r : List (List Tab)) :
    (A ++ x :: r).getD A.length [] = x :=
  getD_append_ge A (x :: r) 0

theorem getD_append_len_succ (A : List (List Tab)) (x y : List Tab) (r : List (List Tab)) :
    (A ++ x :: y :: r).getD (A.length + 1) [] = y :=
  getD_append_ge A (x :: y :: r) 1

theorem getD_two_other (A : List (List Tab)) (X Y X' Y' : List Tab) (C : List (List Tab)) {i : Nat}
    (h1 : i ≠ A.length) (h2 : i ≠ A.length + 1) : (A ++ X' :: Y' :: C).getD i [] = (A ++ X :: Y :: C).getD i [] := by
  by_cases h : i < A.length
  · rw [getD_append_lt _ _ _ h, getD_append_lt _ _ _ h]
  · obtain ⟨m, rfl⟩ := Nat.exists_eq_add_of_le (Nat.le_of_not_lt h)
    rw [getD_append_ge, getD_append_ge]
    match m with
    | 0 => exact absurd rfl h1
    | 1 => exact absurd rfl h2
    | m + 2 => rfl

theorem getD_one_other (A : List (List Tab)) (X X' : List Tab) {i : Nat} (h1 : i ≠ A.length) :
    (A ++ [X']).getD i [] = (A ++ [X]).getD i [] := by
  by_cases h : i < A.length
  · rw [getD_append_lt _ _ _ h, getD_append_lt _ _ _ h]
  · obtain ⟨m, rfl⟩ := Nat.exists_eq_add_of_le (Nat.le_of_not_lt h)
    rw [getD_append_ge, getD_append_ge]
    match m with
    | 0 => exact absurd rfl h1
    | m + 1 => rfl

theorem install_two (A : List (List Tab)) (X Lt : List Tab) (C : List (List Tab)) (rs rt : List Nat) (d : Data) (newId : Nat) :
    installCompaction (A ++ X :: Lt :: C) ⟨A.length, A.length + 1, rs, rt, d⟩ newId =
      A ++ removeIds rs X :: (removeIds rt Lt ++ [⟨newId, d⟩]) :: C := by
  unfold installCompaction
  simp only
  rw [modAt_append_len, modAt_append_len_succ, modAt_append_len_succ]

theorem install_one (A : List (List Tab)) (X : List Tab) (rs rt : List Nat) (d : Data) (newId : Nat) :
    installCompaction (A ++ [X]) ⟨A.length, A.length, rs, rt, d⟩ newId =
      A ++ [removeIds rt (removeIds rs X) ++ [⟨newId, d⟩]] := by
  unfold installCompaction
  simp only
  rw [modAt_append_len, modAt_append_len, modAt_append_len]

/-- The two shapes of a planned compaction, with what `LvInv` says of the levels it touches and with the levels after
    the install (`hin`): the source level keeps what was flushed into it since the plan, the target level its tables
    outside the selection and the merged table; the deepest level is rewritten in place. -/
inductive Shape (cfg : Cfg) (lv : List (List Tab)) (j : Job) : Prop where
  | two (A : List (List Tab)) (S extra Lt : List Tab) (C : List (List Tab)) (bottom : Bool)
      (hlv : lv = A ++ (S ++ extra) :: Lt :: C) (hsrc : j.src = A.length) (htgt : j.tgt = A.length + 1)
      (hin : ∀ newId, installCompaction lv j newId = A ++ extra :: (Lt.filter (fun t => !ovl S t) ++
        [⟨newId, if bottom then dropTombs (mergeOverlap (mergeSources S) (Lt.filter (ovl S)))
                 else mergeOverlap (mergeSources S) (Lt.filter (ovl S))⟩]) :: C)
      (hb : bottom = true → C = [])
      (okS : LevelOk (decide (1 ≤ A.length)) (S ++ extra)) (okT : LevelOk true Lt)
  | one (A : List (List Tab)) (S : List Tab)
      (hlv : lv = A ++ [S]) (hsrc : j.src = A.length) (htgt : j.tgt = A.length)
      (hin : ∀ newId, installCompaction lv j newId = A ++ [[⟨newId, dropTombs (mergeSources S)⟩]])
      (okS : LevelOk true S)

theorem planned_shape (hI : LvInv cfg lv) (hP : Planned cfg lv j) :
    Shape cfg lv j := by
  obtain ⟨lv0, extra, hplan, hlen, htgt, hsrc, hex⟩ := hP
  obtain ⟨hS, _, ht⟩ := plan_src_tgt hplan
  have hlt : j.src < lv.length := hlen ▸ getD_lt_of_ne_nil hS
  have hL := hI.len
  have h2 := hI.two
  -- is there a level below the source level?
  by_cases hc : j.src + 1 ≤ cfg.maxLevels - 1
  · have hj := plan_inner hc hplan
    obtain ⟨A, C, hdec, hA, hC⟩ := split2 lv j.src (by omega)
    rw [ht, Nat.min_eq_left hc] at htgt
    rw [hsrc, ← htgt] at hdec
    have okS := hI.level A.length
    have okT := hI.level (A.length + 1)
    rw [hdec, getD_append_len] at okS
    rw [hdec, getD_append_len_succ] at okT
    -- the planned levels become the variables `S`, `Lt` of `Shape.two` here, before `hj` is used: `rw [hj]` would also
    -- rewrite the `j.src` inside `lv0.getD j.src []`
    generalize lv0.getD j.src [] = S at hj hdec okS
    generalize lv0.getD (j.src + 1) [] = Lt at hj hdec okT
    rw [← hA] at hj
    refine Shape.two A S extra Lt C (A.length + 1 == cfg.maxLevels - 1) hdec hA.symm
      (by rw [ht, Nat.min_eq_left hc, hA]) (fun newId => ?_) ?_ okS okT
    · rw [hdec, hj, install_two, removeIds_self_append okS.ids, removeIds_filter okT.ids]
    · intro hb
      have : C.length = 0 := by have := of_decide_eq_true hb; omega
      exact List.eq_nil_of_length_eq_zero this
  · obtain ⟨e1, e2, e3⟩ : cfg.maxLevels - 1 = j.src ∧ j.src + 1 = lv.length ∧ 1 ≤ j.src := by omega
    have hj := plan_deepest e1 hplan
    obtain ⟨A, hdec, hA⟩ := split1 lv j.src e2
    rw [hsrc, hex (Nat.ne_of_gt e3), List.append_nil] at hdec
    have okS := hI.level A.length
    rw [hdec, getD_append_len, decide_eq_true (hA ▸ e3)] at okS
    generalize lv0.getD j.src [] = S at hj hdec okS
    rw [← hA] at hj
    refine Shape.one A S hdec hA.symm (by rw [ht, hA]; omega) (fun newId => ?_) okS
    rw [hdec, hj, install_one, removeIds_self _ okS.ids]; rfl

/-- compared after `.join`: at the deepest level a tombstone becomes an absence -/
theorem lookLevels_install (hI : LvInv cfg lv) (hP : Planned cfg lv j)
    (newId : Nat) (k : Key) (i : Nat) (hi : i ≤ j.src) :
    (lookLevels k ((installCompaction lv j newId).drop i)).join = (lookLevels k (lv.drop i)).join := by
  cases planned_shape hI hP with
  | two A S extra Lt C bottom hlv hsrc htgt hin hb okS okT =>
    subst hlv
    rw [hsrc] at hi
    rw [hin, List.drop_append_of_le_length hi, List.drop_append_of_le_length hi, lookLevels_append, lookLevels_append]
    exact or_join_congr _ _ _ (pair_install k C newId bottom okS okT hb)
  | one A S hlv hsrc htgt hin okS =>
    subst hlv
    rw [hsrc] at hi
    rw [hin, List.drop_append_of_le_length hi, List.drop_append_of_le_length hi, lookLevels_append, lookLevels_append]
    exact or_join_congr _ _ _ (single_install k newId okS)

theorem abs_compactInstall {s : St} (hI : LvInv cfg s.levels) (hP : Planned cfg s.levels j) (k : Key) :
    (compactInstall s j).1.abs k = s.abs k := by
  unfold St.abs
  rw [read_eq, read_eq]
  exact or_join_congr _ _ _ (or_join_congr _ _ _ (lookLevels_install hI hP s.nextId k 0 (Nat.zero_le _)))

theorem merged_value_origin (S O : List Tab) (bottom : Bool) (k : Key) (c : Cell) (hS : ∀ t ∈ S, Sorted t.data)
    (h : (if bottom then dropTombs (mergeOverlap (mergeSources S) O) else mergeOverlap (mergeSources S) O).lookup k = some c) :
    (∃ s ∈ S, s.data.lookup k = some c) ∨ (∃ o ∈ O, o.data.lookup k = some c) := by
  have h0 : (mergeOverlap (mergeSources S) O).lookup k = some c := by
    cases bottom with
    | false => exact h
    | true =>
      rw [if_pos rfl, lookup_dropTombs _ (sorted_mergeOverlap _ _ (sorted_mergeSources S)).uniq] at h
      cases hm : (mergeOverlap (mergeSources S) O).lookup k with
      | none => rw [hm] at h; cases h
      | some c' =>
        rw [hm] at h
        cases c' with
        | none => cases h
        | some v => exact h
  rw [lookup_merge S O k (fun t ht => (hS t ht).uniq)] at h0
  cases ha : lookTabs k S.reverse with
  | some c' =>
    rw [ha] at h0
    obtain ⟨s, hs, hc⟩ := lookTabs_some_mem ha
    exact Or.inl ⟨s, List.mem_reverse.mp hs, hc.trans h0⟩
  | none =>
    rw [ha, Option.none_or] at h0
    obtain ⟨o, ho1, hc⟩ := lookTabs_some_mem h0
    exact Or.inr ⟨o, ho1, hc⟩

theorem merged_key_origin (S O : List Tab) (bottom : Bool) (k : Key) (hS : ∀ t ∈ S, Sorted t.data)
    (h : (if bottom then dropTombs (mergeOverlap (mergeSources S) O) else mergeOverlap (mergeSources S) O).lookup k ≠ none) :
    (∃ s ∈ S, s.data.lookup k ≠ none) ∨ (∃ o ∈ O, o.data.lookup k ≠ none) := by
  obtain ⟨c, hc⟩ := Option.ne_none_iff_exists'.mp h
  rcases merged_value_origin S O bottom k c hS hc with ⟨s, hs, e⟩ | ⟨o, ho, e⟩
  · exact Or.inl ⟨s, hs, by rw [e]; exact Option.some_ne_none c⟩
  · exact Or.inr ⟨o, ho, by rw [e]; exact Option.some_ne_none c⟩

theorem sorted_merged (S O : List Tab) (bottom : Bool) :
    Sorted (if bottom then dropTombs (mergeOverlap (mergeSources S) O) else mergeOverlap (mergeSources S) O) := by
  cases bottom with
  | false => exact sorted_mergeOverlap _ _ (sorted_mergeSources S)
  | true => exact sorted_dropTombs _ (sorted_mergeOverlap _ _ (sorted_mergeSources S))

theorem disj_target (S Lt : List Tab) (nt : Tab) (hS : ∀ t ∈ S, Sorted t.data) (hLt : ∀ t ∈ Lt, Sorted t.data)
    (hd : LevelDisjoint Lt)
    (hnt : ∀ k, nt.data.lookup k ≠ none → (∃ s ∈ S, s.data.lookup k ≠ none) ∨ (∃ o ∈ Lt.filter (ovl S), o.data.lookup k ≠ none)) :
    LevelDisjoint (Lt.filter (fun t => !ovl S t) ++ [nt]) := by
  have key : ∀ t ∈ Lt.filter (fun t => !ovl S t), ∀ k, t.data.lookup k ≠ none → nt.data.lookup k ≠ none → False := by
    intro t ht k hk hn
    have htL := (List.mem_filter.mp ht).1
    have hp : ovl S t = false := by simpa using (List.mem_filter.mp ht).2
    rcases hnt k hn with ⟨s, hs, hsk⟩ | ⟨o, ho, hok⟩
    · have hov := overlaps_of_common_key (k := k) (hLt t htL) (hS s hs) hk hsk
      have : ovl S t = true := List.any_eq_true.mpr ⟨s, hs, hov⟩
      rw [this] at hp; cases hp
    · have := hd t htL o (List.mem_filter.mp ho).1 k hk hok
      subst this
      rw [(List.mem_filter.mp ho).2] at hp; cases hp
  intro t ht t' ht' k hk hk'
  rcases List.mem_append.mp ht with h1 | h1
  · rcases List.mem_append.mp ht' with h2 | h2
    · exact hd t (List.mem_filter.mp h1).1 t' (List.mem_filter.mp h2).1 k hk hk'
    · rw [List.mem_singleton.mp h2] at hk'
      exact (key t h1 k hk hk').elim
  · rw [List.mem_singleton.mp h1] at hk ⊢
    rcases List.mem_append.mp ht' with h2 | h2
    · exact (key t' h2 k hk' hk).elim
    · exact (List.mem_singleton.mp h2).symm

theorem levelOk_target {S Lt : List Tab} (bottom : Bool) (newId : Nat) (hS : ∀ t ∈ S, Sorted t.data) (okT : LevelOk true Lt)
    (hfresh : ∀ t ∈ Lt, t.id ≠ newId) :
    LevelOk true (Lt.filter (fun t => !ovl S t) ++
      [⟨newId, if bottom then dropTombs (mergeOverlap (mergeSources S) (Lt.filter (ovl S)))
               else mergeOverlap (mergeSources S) (Lt.filter (ovl S))⟩]) := by
  refine ⟨fun t ht => ?_, fun _ => ?_, ?_⟩
  · rcases List.mem_append.mp ht with h | h
    · exact okT.sorted t (List.mem_filter.mp h).1
    · rw [List.mem_singleton.mp h]; exact sorted_merged S _ bottom
  · exact disj_target S Lt _ hS okT.sorted (okT.disj rfl) fun k hk => merged_key_origin S _ bottom k hS hk
  · rw [List.map_append]
    refine List.nodup_append.mpr ⟨List.Nodup.sublist (List.filter_sublist.map _) okT.ids, List.pairwise_singleton _ _, ?_⟩
    intro a ha b hb
    obtain ⟨t, ht, rfl⟩ := List.mem_map.mp ha
    rw [List.mem_singleton.mp hb]
    exact hfresh t (List.mem_filter.mp ht).1

theorem LvInv.of_levels (hlen : lv.length = cfg.maxLevels) (h2 : 2 ≤ cfg.maxLevels)
    (h : ∀ i, LevelOk (decide (1 ≤ i)) (lv.getD i [])) : LvInv cfg lv :=
  ⟨hlen, h2, fun i => (h i).sorted, fun i hi => (h i).disj (decide_eq_true hi), fun i => (h i).ids⟩

theorem lvInv_install (hI : LvInv cfg lv) (hP : Planned cfg lv j)
    (newId : Nat) (hfresh : ∀ i, ∀ t ∈ lv.getD i [], t.id ≠ newId) :
    LvInv cfg (installCompaction lv j newId) := by
  cases planned_shape hI hP with
  | two A S extra Lt C bottom hlv hsrc htgt hin hb okS okT =>
    subst hlv
    have h6 : ∀ t ∈ Lt, t.id ≠ newId := by
      have := hfresh (A.length + 1); rwa [getD_append_len_succ] at this
    rw [hin]
    refine LvInv.of_levels (by rw [← hI.len]; simp) hI.two fun i => ?_
    by_cases h1 : i = A.length
    · rw [h1, getD_append_len]
      exact okS.sublist (List.sublist_append_right S extra)
    by_cases h2 : i = A.length + 1
    · rw [h2, getD_append_len_succ, decide_eq_true (Nat.le_add_left 1 _)]
      exact levelOk_target bottom newId (fun t ht => okS.sorted t (List.mem_append_left _ ht)) okT h6
    · rw [getD_two_other A (S ++ extra) Lt _ _ C h1 h2]
      exact hI.level i
  | one A S hlv hsrc htgt hin okS =>
    subst hlv
    rw [hin]
    refine LvInv.of_levels (by rw [← hI.len]; simp) hI.two fun i => ?_
    by_cases h1 : i = A.length
    · rw [h1, getD_append_len]
      exact ⟨fun t ht => by rw [List.mem_singleton.mp ht]; exact sorted_dropTombs _ (sorted_mergeSources S),
        fun _ t ht t' ht' _ _ _ => by rw [List.mem_singleton.mp ht, List.mem_singleton.mp ht'],
        List.pairwise_singleton _ _⟩
    · rw [getD_one_other A S _ h1]
      exact hI.level i

theorem install_level (hI : LvInv cfg lv) (hP : Planned cfg lv j) (newId : Nat) (x : Nat) :
    ∀ T ∈ (installCompaction lv j newId).getD x [], T ∈ lv.getD x [] ∨ (x = j.tgt ∧ T.id = newId ∧
      ∀ k c, T.data.lookup k = some c →
        ∃ T', T'.data.lookup k = some c ∧ (T' ∈ lv.getD j.src [] ∨ T' ∈ lv.getD j.tgt [])) := by
  intro T hT
  cases planned_shape hI hP with
  | two A S extra Lt C bottom hlv hsrc htgt hin hb okS okT =>
    subst hlv
    have hS' : ∀ t ∈ S, Sorted t.data := fun t ht => okS.sorted t (List.mem_append_left _ ht)
    rw [hin] at hT
    rw [hsrc, htgt, getD_append_len, getD_append_len_succ]
    by_cases h1 : x = A.length
    · rw [h1, getD_append_len] at hT ⊢
      exact Or.inl (List.mem_append_right _ hT)
    by_cases h2 : x = A.length + 1
    · rw [h2, getD_append_len_succ] at hT ⊢
      rcases List.mem_append.mp hT with h | h
      · exact Or.inl (List.mem_filter.mp h).1
      · rw [List.mem_singleton.mp h]
        refine Or.inr ⟨rfl, rfl, fun k c hc => ?_⟩
        rcases merged_value_origin S _ bottom k c hS' hc with ⟨s, hs, hsc⟩ | ⟨o, ho, hoc⟩
        · exact ⟨s, hsc, Or.inl (List.mem_append_left _ hs)⟩
        · exact ⟨o, hoc, Or.inr (List.mem_filter.mp ho).1⟩
    · rw [getD_two_other A (S ++ extra) Lt _ _ C h1 h2] at hT
      exact Or.inl hT
  | one A S hlv hsrc htgt hin okS =>
    subst hlv
    rw [hin] at hT
    rw [hsrc, htgt, getD_append_len]
    by_cases h1 : x = A.length
    · rw [h1, getD_append_len] at hT
      rw [List.mem_singleton.mp hT]
      refine Or.inr ⟨h1, rfl, fun k c hc => ?_⟩
      rcases merged_value_origin S [] true k c okS.sorted hc with ⟨s, hs, hsc⟩ | ⟨o, ho, _⟩
      · exact ⟨s, hsc, Or.inl hs⟩
      · cases ho
    · rw [getD_one_other A S _ h1] at hT
      exact Or.inl hT

theorem install_origin (hI : LvInv cfg lv) (hP : Planned cfg lv j)
    (newId : Nat) (i : Nat) : ∀ x ∈ (installCompaction lv j newId).getD i [], x.id = newId ∨ x ∈ lv.getD i [] :=
  fun x hx => (install_level hI hP newId i x hx).elim Or.inr fun h => Or.inl h.2.1

theorem drop_two (A : List (List Tab)) (X Y X' Y' : List Tab) (C : List (List Tab)) (i : Nat) (h : A.length + 1 ≤ i) :
    (A ++ X' :: Y' :: C).drop (i + 1) = (A ++ X :: Y :: C).drop (i + 1) := by
  obtain ⟨m, rfl⟩ := Nat.exists_eq_add_of_le h
  have e : ∀ X Y : List Tab, (A ++ X :: Y :: C).drop (A.length + 1 + m + 1) = C.drop m := by
    intro X Y
    rw [show A.length + 1 + m + 1 = A.length + (m + 2) by omega, ← List.drop_drop, List.drop_left]; rfl
  rw [e, e]

/-- What an install does to the levels below a reader of `k`: nothing below the target level; a reader between source
    and target finds below the source level what it would have found in the rest `S` of the source level and below. -/
theorem install_effect (hI : LvInv cfg lv) (hP : Planned cfg lv j)
    (newId : Nat) (k : Key) :
    (j.src ≤ j.tgt ∧ j.tgt ≤ j.src + 1) ∧
    (∀ i, j.tgt ≤ i → (installCompaction lv j newId).drop (i + 1) = lv.drop (i + 1)) ∧
    (j.src < j.tgt → ∃ S : List Tab, (∀ T ∈ S, T ∈ lv.getD j.src []) ∧
      (lookLevels k ((installCompaction lv j newId).drop (j.src + 1))).join =
        ((lookTabs k S.reverse).or (lookLevels k (lv.drop (j.src + 1)))).join) := by
  cases planned_shape hI hP with
  | two A S extra Lt C bottom hlv hsrc htgt hin hb okS okT =>
    subst hlv
    rw [hsrc, htgt]
    refine ⟨⟨Nat.le_succ _, Nat.le_refl _⟩, fun i hi => ?_, fun _ => ⟨S, fun T hT => ?_, ?_⟩⟩
    · rw [hin]; exact drop_two A (S ++ extra) Lt _ _ C i hi
    · rw [getD_append_len]; exact List.mem_append_left _ hT
    · have e1 : ∀ (X Y : List Tab), (A ++ X :: Y :: C).drop (A.length + 1) = Y :: C := fun X Y => by
        rw [← List.drop_drop, List.drop_left]; rfl
      rw [hin, e1, e1]
      have okS0 : LevelOk _ (S ++ []) :=
        okS.sublist (by rw [List.append_nil]; exact List.sublist_append_left S extra)
      have := pair_install k C newId bottom okS0 okT hb
      rw [lookLevels_cons, lookLevels_cons k (S ++ []), List.append_nil] at this
      simp only [List.reverse_nil, lookTabs_nil, Option.none_or] at this
      exact this
  | one A S hlv hsrc htgt hin okS =>
    subst hlv
    rw [hsrc, htgt]
    exact ⟨⟨Nat.le_refl _, Nat.le_succ _⟩, fun i hi => by
      rw [hin, List.drop_of_length_le (by simp; omega), List.drop_of_length_le (by simp; omega)],
      fun h => absurd h (Nat.lt_irrefl _)⟩

end

end HappyModel.C14
