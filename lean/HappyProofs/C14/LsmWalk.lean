import HappyProofs.C14.LsmInstall
/-! The level walks of `get` and `scan`: which tables they skip and where they stop, and every reader segment in one
    form (the state stays; a hit, or the program counter of the next stop). -/
namespace HappyModel.C14

def walkG (skip : Tab → Bool) : List Tab → Option (Tab × List Tab)
  | [] => none
  | t :: r => if skip t then walkG skip r else some (t, r)

def walkLG (skip : Tab → Bool) : List (List Tab) → Nat → Option (Nat × Tab × List Tab)
  | [], _ => none
  | l :: ls, i => match walkG skip l.reverse with
    | some (t, r) => some (i, t, r)
    | none => walkLG skip ls (i + 1)

theorem walkTabs_eq (cfg : Cfg) (k : Key) (l : List Tab) : walkTabs cfg k l = walkG (fun t => !maybe cfg t k) l := by
  induction l with
  | nil => rfl
  | cons t r ih =>
    simp only [walkTabs, walkG]
    by_cases hm : maybe cfg t k = true
    · simp [hm]
    · simp [hm, ih]

theorem walkLevels_eq (cfg : Cfg) (k : Key) (ls : List (List Tab)) (i : Nat) :
    walkLevels cfg k ls i = walkLG (fun t => !maybe cfg t k) ls i := by
  induction ls generalizing i with
  | nil => rfl
  | cons l ls ih =>
    simp only [walkLevels, walkLG, walkTabs_eq, ih]
    cases walkG (fun t => !maybe cfg t k) l.reverse <;> rfl

theorem scanTabs_eq (lo hi : Key) (l : List Tab) :
    scanTabs lo hi l = walkG (fun t => (inRange lo hi t.data).isEmpty) l := by
  induction l with
  | nil => rfl
  | cons t r ih => simp only [scanTabs, walkG, ih]

theorem scanLevelsW_eq (lo hi : Key) (ls : List (List Tab)) (i : Nat) :
    scanLevelsW lo hi ls i = walkLG (fun t => (inRange lo hi t.data).isEmpty) ls i := by
  induction ls generalizing i with
  | nil => rfl
  | cons l ls ih =>
    simp only [scanLevelsW, walkLG, scanTabs_eq, ih]
    cases walkG (fun t => (inRange lo hi t.data).isEmpty) l.reverse <;> rfl

/-- the next stop of a level walk: level, table, rest of that level's snapshot -/
def nextStop (skip : Tab → Bool) (lv : List (List Tab)) (i : Nat) (r : List Tab) : Option (Nat × Tab × List Tab) :=
  match walkG skip r with
  | some (t', r') => some (i, t', r')
  | none => walkLG skip (lv.drop (i + 1)) (i + 1)

/-- the tables `get` walks past without a page read -/
def noKey (cfg : Cfg) (k : Key) (t : Tab) : Bool := !maybe cfg t k

def gPc (k : Key) : Option (Nat × Tab × List Tab) → Pc
  | some (i, t, r) => .gAt k i t r
  | none => .done (.val none)

theorem getLevels_eq (cfg : Cfg) (s : St) (k : Key) (i0 : Nat) :
    getLevels cfg s k i0 = (s, gPc k (walkLG (noKey cfg k) (s.levels.drop i0) i0)) := by
  unfold getLevels noKey
  rw [walkLevels_eq]
  cases walkLG (fun t => !maybe cfg t k) (s.levels.drop i0) i0 <;> rfl

theorem getStart_eq (cfg : Cfg) (s : St) (k : Key) :
    getStart cfg s k = (s, match (s.mem.lookup k).or (lookTabs k s.imms.reverse) with
      | some c => .done (.val c)
      | none => gPc k (walkLG (noKey cfg k) (s.levels.drop 0) 0)) := by
  unfold getStart
  rw [getLevels_eq]
  cases s.mem.lookup k with
  | some c => rfl
  | none => rw [Option.none_or]; cases lookTabs k s.imms.reverse <;> rfl

theorem getResume_eq (cfg : Cfg) (s : St) (k : Key) (i : Nat) (t : Tab) (r : List Tab) :
    getResume cfg s k i t r = (s, match t.data.lookup k with
      | some c => .done (.val c)
      | none => gPc k (nextStop (noKey cfg k) s.levels i r)) := by
  unfold getResume nextStop noKey
  rw [walkTabs_eq, getLevels_eq]
  cases t.data.lookup k with
  | some c => rfl
  | none => unfold noKey; cases walkG (fun t => !maybe cfg t k) r <;> rfl

def noRange (lo hi : Key) (t : Tab) : Bool := (inRange lo hi t.data).isEmpty

def sPc (lo hi : Key) (acc : Data) : Option (Nat × Tab × List Tab) → Pc
  | some (i, t, r) => .sAt lo hi i t r acc
  | none => .done (scanResult acc)

theorem scanLevels_eq (s : St) (lo hi : Key) (i0 : Nat) (acc : Data) :
    scanLevels s lo hi i0 acc = (s, sPc lo hi acc (walkLG (noRange lo hi) (s.levels.drop i0) i0)) := by
  unfold scanLevels noRange
  rw [scanLevelsW_eq]
  cases walkLG (fun t => (inRange lo hi t.data).isEmpty) (s.levels.drop i0) i0 <;> rfl

theorem scanResume_eq (s : St) (lo hi : Key) (i : Nat) (t : Tab) (r : List Tab) (acc : Data) :
    scanResume s lo hi i t r acc =
      (s, sPc lo hi (mergeOlder acc (inRange lo hi t.data)) (nextStop (noRange lo hi) s.levels i r)) := by
  unfold scanResume nextStop
  simp only [scanTabs_eq, scanLevels_eq]
  unfold noRange
  cases walkG (fun t => (inRange lo hi t.data).isEmpty) r <;> rfl

theorem skip_maybe (cfg : Cfg) (k : Key) (t : Tab) (h : (!maybe cfg t k) = true) : t.data.lookup k = none := by
  unfold maybe at h
  cases hl : t.data.lookup k with
  | none => rfl
  | some c => rw [hl] at h; simp at h

theorem skip_range (lo hi k : Key) (hk : lo ≤ k ∧ k < hi) (t : Tab) (h : (inRange lo hi t.data).isEmpty = true) :
    t.data.lookup k = none := by
  cases hl : t.data.lookup k with
  | none => rfl
  | some c =>
    have hm := mem_of_lookup hl
    have : (k, c) ∈ inRange lo hi t.data := by
      unfold inRange
      exact List.mem_filter.mpr ⟨hm, by simp [hk.1, hk.2]⟩
    rw [List.isEmpty_iff] at h
    rw [h] at this; cases this

theorem walkG_some {skip : Tab → Bool} {l : List Tab} {t : Tab} {r : List Tab} (h : walkG skip l = some (t, r)) :
    ∃ sk, l = sk ++ t :: r ∧ ∀ x ∈ sk, skip x = true := by
  induction l with
  | nil => cases h
  | cons a l ih =>
    simp only [walkG] at h
    by_cases hs : skip a = true
    · simp only [hs, if_true] at h
      obtain ⟨sk, e, hsk⟩ := ih h
      exact ⟨a :: sk, by rw [e]; rfl, List.forall_mem_cons.mpr ⟨hs, hsk⟩⟩
    · simp only [hs, if_false, Bool.false_eq_true] at h
      injection h with h
      injection h with h1 h2
      subst h1; subst h2
      exact ⟨[], rfl, fun x hx => by cases hx⟩

theorem walkG_none {skip : Tab → Bool} {l : List Tab} (h : walkG skip l = none) : ∀ x ∈ l, skip x = true := by
  induction l with
  | nil => intro x hx; cases hx
  | cons a l ih =>
    simp only [walkG] at h
    by_cases hs : skip a = true
    · simp only [hs, if_true] at h
      exact List.forall_mem_cons.mpr ⟨hs, ih h⟩
    · simp [hs] at h

theorem walkLG_some {skip : Tab → Bool} {ls : List (List Tab)} {base i : Nat} {t : Tab} {r : List Tab}
    (h : walkLG skip ls base = some (i, t, r)) :
    ∃ m, i = base + m ∧ (∀ j, j < m → ∀ x ∈ ls.getD j [], skip x = true) ∧
      ∃ sk, (ls.getD m []).reverse = sk ++ t :: r ∧ ∀ x ∈ sk, skip x = true := by
  induction ls generalizing base with
  | nil => cases h
  | cons l ls ih =>
    simp only [walkLG] at h
    cases hw : walkG skip l.reverse with
    | some tr =>
      obtain ⟨t', r'⟩ := tr
      rw [hw] at h
      simp only [Option.some.injEq, Prod.mk.injEq] at h
      obtain ⟨rfl, rfl, rfl⟩ := h
      obtain ⟨sk, e, hsk⟩ := walkG_some hw
      exact ⟨0, rfl, fun j hj => by omega, sk, by simpa using e, hsk⟩
    | none =>
      rw [hw] at h
      simp only at h
      obtain ⟨m, e1, e2, sk, e3, e4⟩ := ih h
      refine ⟨m + 1, by omega, ?_, sk, by simpa using e3, e4⟩
      intro j hj x hx
      cases j with
      | zero =>
        simp only [List.getD_cons_zero] at hx
        exact walkG_none hw x (List.mem_reverse.mpr hx)
      | succ j =>
        simp only [List.getD_cons_succ] at hx
        exact e2 j (by omega) x hx

theorem walkLG_none {skip : Tab → Bool} {ls : List (List Tab)} {base : Nat} (h : walkLG skip ls base = none) :
    ∀ j, ∀ x ∈ ls.getD j [], skip x = true := by
  induction ls generalizing base with
  | nil => intro j x hx; simp at hx
  | cons l ls ih =>
    simp only [walkLG] at h
    cases hw : walkG skip l.reverse with
    | some tr => rw [hw] at h; cases h
    | none =>
      rw [hw] at h
      simp only at h
      intro j x hx
      cases j with
      | zero =>
        simp only [List.getD_cons_zero] at hx
        exact walkG_none hw x (List.mem_reverse.mpr hx)
      | succ j =>
        simp only [List.getD_cons_succ] at hx
        exact ih h j x hx

theorem lookLevels_skip (k : Key) (lv : List (List Tab)) (a m : Nat)
    (h : ∀ j, j < m → ∀ x ∈ lv.getD (a + j) [], x.data.lookup k = none) :
    lookLevels k (lv.drop a) = lookLevels k (lv.drop (a + m)) := by
  induction m with
  | zero => rfl
  | succ m ih =>
    rw [ih (fun j hj => h j (by omega))]
    by_cases hlt : a + m < lv.length
    · rw [drop_eq_getD_cons lv (a + m) hlt, lookLevels_cons]
      have : lookTabs k (lv.getD (a + m) []).reverse = none :=
        lookTabs_none_iff.mpr fun t ht => h m (by omega) t (List.mem_reverse.mp ht)
      rw [this, Option.none_or]
      rfl
    · rw [List.drop_of_length_le (by omega), List.drop_of_length_le (by omega)]

end HappyModel.C14
