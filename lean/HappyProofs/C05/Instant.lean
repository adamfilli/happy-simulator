import HappyProofs.C05.Trace
/-!
Confluence with the hypothesis on the *sequential* execution only.

`confluence_noties`: if the min-first execution delivers no two different events to one entity at one
timestamp, neither does any other complete execution in per-entity time order, and the two deliver the
same events and end in the same states, for an arbitrary (order-sensitive) handler.
`confluence_prefix`: the two deliver the same events up to any time `T'` before which the min-first
execution has no such pair.

Both rest on `prefix_exec`: the deliveries up to `T'` of a complete execution in per-entity time order
form a complete execution up to `T'` by themselves (later deliveries go to other entities and can be
dropped, `drop`).  At the earliest pending time `t` the prefixes up to `t` of the two executions are
both min-first, so `confluence` applies with the tie-free sequential one in the role of the second
execution: the two deliver the same events at `t` (`instant_perm`).
-/
namespace HappyModel.C05

variable {τ : Type}

theorem drop (hE : EHandler τ) (a : PEv) : ∀ (F : List PEv) (s : AS τ), a ∈ s.pend →
    Valid hE (astep hE s a) F → (∀ f ∈ F, f.tgt ≠ a.tgt ∧ f.time < a.time) →
    Valid hE s F ∧ AEq (arun hE (astep hE s a) F) (astep hE (arun hE s F) a) := by
  intro F
  induction F with
  | nil => intro s _ _ _; exact ⟨trivial, AEq.refl _⟩
  | cons f F ih =>
    intro s ha hv hF
    obtain ⟨htg, htm⟩ := hF f (by simp)
    have hne : a ≠ f := fun h => by rw [h] at htm; omega
    have hf : f ∈ s.pend := by
      have := hv.1
      simp only [astep, List.mem_append] at this
      rcases this with h | h
      · exact List.mem_of_mem_erase h
      · have := mem_emitAt h; omega
    have hsw := swap hE s a f hf ha hne (Or.inl (Ne.symm htg))
    have ha' : a ∈ (astep hE s f).pend := by
      simp only [astep, List.mem_append]
      exact Or.inl ((List.mem_erase_of_ne hne).mpr ha)
    obtain ⟨h1, h2⟩ := ih (astep hE s f) ha' (Valid_congr hE F hsw hv.2) (fun g hg => hF g (by simp [hg]))
    exact ⟨⟨hf, h1⟩, (arun_congr hE F hsw).trans h2⟩

def upToT (T' : Nat) (E : List PEv) : List PEv := E.filter (fun e => e.time ≤ T')

theorem mem_upToT {T' : Nat} {E : List PEv} {e : PEv} : e ∈ upToT T' E ↔ e ∈ E ∧ e.time ≤ T' := by
  simp [upToT, List.mem_filter]

/-- the second conjunct is what lets completeness pass to the prefix: what is pending up to `T'` after
    the prefix was already pending after the whole execution -/
theorem filter_upto (hE : EHandler τ) (T' : Nat) : ∀ (E : List PEv) (s : AS τ),
    Valid hE s E → TgtSorted E →
    Valid hE s (upToT T' E)
    ∧ ∀ e ∈ (arun hE s (upToT T' E)).pend, e.time ≤ T' → e ∈ (arun hE s E).pend := by
  intro E
  induction E with
  | nil => intro s _ _; exact ⟨trivial, fun e he _ => he⟩
  | cons a E ih =>
    intro s hv hs
    have hs' : TgtSorted E := (List.pairwise_cons.mp hs).2
    obtain ⟨h1, h2⟩ := ih (astep hE s a) hv.2 hs'
    by_cases hat : a.time ≤ T'
    · have : upToT T' (a :: E) = a :: upToT T' E := by simp [upToT, hat]
      rw [this]
      exact ⟨⟨hv.1, h1⟩, h2⟩
    · have : upToT T' (a :: E) = upToT T' E := by simp [upToT, hat]
      rw [this]
      have hF : ∀ f ∈ upToT T' E, f.tgt ≠ a.tgt ∧ f.time < a.time := by
        intro f hf
        obtain ⟨hfE, hft⟩ := mem_upToT.mp hf
        refine ⟨?_, by omega⟩
        intro he
        have := (List.pairwise_cons.mp hs).1 f hfE he.symm
        omega
      obtain ⟨hv', heq⟩ := drop hE a (upToT T' E) s hv.1 h1 hF
      refine ⟨hv', ?_⟩
      intro e he het
      apply h2 e ?_ het
      apply heq.pend.mem_iff.mpr
      simp only [astep, List.mem_append]
      refine Or.inl ((List.mem_erase_of_ne ?_).mpr he)
      intro h; rw [h] at het; omega

theorem prefix_exec (hE : EHandler τ) {T T' : Nat} (hT : T' ≤ T) {E : List PEv} {s : AS τ}
    (hv : Valid hE s E) (hs : TgtSorted E) (hfin : ∀ e ∈ (arun hE s E).pend, T < e.time) :
    Valid hE s (upToT T' E) ∧ ∀ e ∈ (arun hE s (upToT T' E)).pend, T' < e.time := by
  obtain ⟨h1, h2⟩ := filter_upto hE T' E s hv hs
  refine ⟨h1, fun e he => ?_⟩
  by_cases h : e.time ≤ T'
  · have := hfin e (h2 e he h)
    omega
  · omega

theorem minFirst_sorted (hE : EHandler τ) : ∀ (E : List PEv) (s : AS τ), Valid hE s E →
    MinFirst hE s E → E.Pairwise (fun a b => a.time ≤ b.time) := by
  intro E
  induction E with
  | nil => intro _ _ _; exact List.Pairwise.nil
  | cons d E ih =>
    intro s hv hm
    rw [List.pairwise_cons]
    refine ⟨?_, ih _ hv.2 hm.2⟩
    exact ge_of_valid hE d.time E (astep hE s d) (pend_ge_step hE d.time s d hm.1 hv.1) hv.2

theorem minFirst_tgtSorted (hE : EHandler τ) {E : List PEv} {s : AS τ} (hv : Valid hE s E)
    (hm : MinFirst hE s E) : TgtSorted E := by
  unfold TgtSorted
  exact (minFirst_sorted hE E s hv hm).imp fun {a b} h (_ : a.tgt = b.tgt) => h

/-- once a delivery is later than `T'`, so is everything after it -/
theorem minFirst_upToT (hE : EHandler τ) (T' : Nat) : ∀ {E : List PEv} {s : AS τ}, Valid hE s E →
    MinFirst hE s E → MinFirst hE s (upToT T' E)
  | [], _, _, _ => trivial
  | d :: E, s, hv, hm => by
    by_cases hd : d.time ≤ T'
    · rw [show upToT T' (d :: E) = d :: upToT T' E by simp [upToT, hd]]
      exact ⟨hm.1, minFirst_upToT hE T' hv.2 hm.2⟩
    · have hge := (List.pairwise_cons.mp (minFirst_sorted hE _ s hv hm)).1
      rw [show upToT T' (d :: E) = [] from List.filter_eq_nil_iff.mpr fun e he => by
        have : d.time ≤ e.time := by
          rcases List.mem_cons.mp he with rfl | he
          · exact Nat.le_refl _
          · exact hge e he
        simp only [decide_eq_true_eq]; omega]
      trivial

theorem minFirst_of_instant (hE : EHandler τ) (t : Nat) : ∀ (F : List PEv) (s : AS τ),
    (∀ e ∈ s.pend, t ≤ e.time) → (∀ e ∈ F, e.time = t) → Valid hE s F → MinFirst hE s F := by
  intro F
  induction F with
  | nil => intro _ _ _ _; trivial
  | cons f F ih =>
    intro s hp hF hv
    refine ⟨?_, ih _ (pend_ge_step hE t s f hp hv.1) (fun e he => hF e (by simp [he])) hv.2⟩
    intro e he
    rw [hF f (by simp)]
    exact hp e he

def NoTieL (E : List PEv) : Prop := ∀ a ∈ E, ∀ b ∈ E, a ≠ b → a.tgt = b.tgt → a.time ≠ b.time

theorem instant_perm (hE : EHandler τ) (T t : Nat) (E1 E2 : List PEv) (s s' : AS τ) (heq : AEq s s')
    (hv1 : Valid hE s E1) (hm1 : MinFirst hE s E1) (hfin1 : ∀ e ∈ (arun hE s E1).pend, T < e.time)
    (hnt : NoTieL E1)
    (hv2 : Valid hE s' E2) (hs2 : TgtSorted E2) (hfin2 : ∀ e ∈ (arun hE s' E2).pend, T < e.time)
    (ht : t ≤ T) (hpt : ∀ e ∈ s.pend, t ≤ e.time) : (upToT t E2).Perm (upToT t E1) := by
  have hpt' : ∀ e ∈ s'.pend, t ≤ e.time := fun e he => hpt e (heq.pend.mem_iff.mpr he)
  have hs1 := minFirst_tgtSorted hE hv1 hm1
  obtain ⟨f1v, f1c⟩ := prefix_exec hE ht hv1 hs1 hfin1
  obtain ⟨f2v, f2c⟩ := prefix_exec hE ht hv2 hs2 hfin2
  have hall2 : ∀ e ∈ upToT t E2, e.time = t := fun e he =>
    Nat.le_antisymm (mem_upToT.mp he).2 (ge_of_valid hE t _ s' hpt' f2v e he)
  exact (confluence hE t (upToT t E2) (upToT t E1) s' s heq.symm f2v
    (minFirst_of_instant hE t _ s' hpt' hall2 f2v) (fun e he => (mem_upToT.mp he).2) f2c f1v
    (List.Pairwise.sublist List.filter_sublist hs1) (fun e he => (mem_upToT.mp he).2) f1c
    (fun a ha d hd hne htg htm =>
      absurd htm (hnt a (mem_upToT.mp ha).1 d (mem_upToT.mp hd).1 hne htg))).1

theorem confluence_noties (hE : EHandler τ) (T : Nat) : ∀ (E1 E2 : List PEv) (s s' : AS τ), AEq s s' →
    Valid hE s E1 → MinFirst hE s E1 → (∀ e ∈ E1, e.time ≤ T) →
    (∀ e ∈ (arun hE s E1).pend, T < e.time) → NoTieL E1 →
    Valid hE s' E2 → TgtSorted E2 → (∀ e ∈ E2, e.time ≤ T) →
    (∀ e ∈ (arun hE s' E2).pend, T < e.time) →
    E1.Perm E2 ∧ (arun hE s E1).st = (arun hE s' E2).st := by
  intro E1
  induction E1 with
  | nil =>
    intro E2 s s' heq _ _ _ hfin _ hv2 _ hle2 _
    rw [valid_nil_of_gt hE (fun e he => hfin e (heq.pend.mem_iff.mpr he)) hv2 hle2]
    exact ⟨List.Perm.refl _, heq.st⟩
  | cons d E1 ih =>
    intro E2 s s' heq hv1 hm1 hle1 hfin1 hnt hv2 hs2 hle2 hfin2
    have hdT : d.time ≤ T := hle1 d (by simp)
    have hinst := instant_perm hE T d.time (d :: E1) E2 s s' heq hv1 hm1 hfin1 hnt hv2 hs2 hfin2 hdT hm1.1
    -- a delivery of `E2` to `d`'s entity at `d`'s time is in the tie-free `d :: E1`, so it is `d`
    obtain ⟨E2', hperm, hsub, hv2', heq2⟩ := pull_head hE T d E2 s' (heq.pend.mem_iff.mp hv1.1)
      (fun e he => hm1.1 e (heq.pend.mem_iff.mpr he)) hdT hv2 hs2 hfin2
      (fun a ha _ hne htg hte => absurd hte (hnt a
        (mem_upToT.mp (hinst.mem_iff.mp (mem_upToT.mpr ⟨ha, Nat.le_of_eq hte⟩))).1 d (by simp) hne htg))
    have key := ih E2' (astep hE s d) (astep hE s' d) (astep_congr hE heq d) hv1.2 hm1.2
      (fun e he => hle1 e (by simp [he])) hfin1
      (fun a ha b hb => hnt a (by simp [ha]) b (by simp [hb]))
      hv2' (List.Pairwise.sublist hsub hs2) (fun e he => hle2 e (hsub.subset he))
      (fun e he => hfin2 e (heq2.pend.mem_iff.mp he))
    exact ⟨(key.1.cons d).trans hperm.symm, key.2.trans heq2.st⟩

theorem confluence_prefix (hE : EHandler τ) (T T' : Nat) (hT : T' ≤ T) (E1 E2 : List PEv) (s : AS τ)
    (hv1 : Valid hE s E1) (hm1 : MinFirst hE s E1) (hfin1 : ∀ e ∈ (arun hE s E1).pend, T < e.time)
    (hnt : NoTieL (upToT T' E1))
    (hv2 : Valid hE s E2) (hs2 : TgtSorted E2) (hfin2 : ∀ e ∈ (arun hE s E2).pend, T < e.time) :
    (upToT T' E1).Perm (upToT T' E2) := by
  obtain ⟨f1v, f1c⟩ := prefix_exec hE hT hv1 (minFirst_tgtSorted hE hv1 hm1) hfin1
  obtain ⟨f2v, f2c⟩ := prefix_exec hE hT hv2 hs2 hfin2
  exact (confluence_noties hE T' _ _ s s (AEq.refl _) f1v (minFirst_upToT hE T' hv1 hm1)
    (fun e he => (mem_upToT.mp he).2) f1c hnt f2v (List.Pairwise.sublist List.filter_sublist hs2)
    (fun e he => (mem_upToT.mp he).2) f2c).1

end HappyModel.C05
