import HappyProofs.C13.Keep
import HappyProofs.Lib.Lists
/-!
Part (b) of the detection bound, node level: the round-robin probe order reaches `x`.

`pot` bounds the number of probe ticks of node `a` until `x` is the probe target, as long as `x` is
not DEAD in `a`'s view: it drops by at least one at every tick that probes somebody else (`pot_nextTarget`,
for every shuffle the oracle may return) and does not grow when other handlers run in between
(`pot_keep`: members turning DEAD shrink the alive-list to a sublist; each one may cost a pass, which
the potential has budgeted as `(n-1)·(|alive| - (n-k))`).
-/
set_option linter.unusedSectionVars false
namespace HappyModel.C13

/-- position of `x` in `l` (only used when `x ∈ l`) -/
def pos (x : Nat) : List Nat → Nat
  | [] => 0
  | y :: ys => if y = x then 0 else pos x ys + 1

theorem pos_spec {x : Nat} {l : List Nat} (h : x ∈ l) : pos x l < l.length ∧ lget 0 l (pos x l) = x := by
  induction l with
  | nil => cases h
  | cons y ys ih =>
    unfold pos
    split
    · rename_i hy
      exact ⟨Nat.zero_lt_succ _, hy⟩
    · rename_i hy
      have := ih ((List.mem_cons.mp h).resolve_left (fun e => hy e.symm))
      exact ⟨Nat.succ_lt_succ this.1, this.2⟩

/-- in a sublist `x` stands no later than in the list, and no more elements stand behind it (second conjunct):
    what the potential needs when members turn DEAD -/
theorem pos_sublist (x : Nat) {l' l : List Nat} (hs : l'.Sublist l) (hx : x ∈ l') (hn : l.Nodup) :
    pos x l' ≤ pos x l ∧ pos x l + l'.length ≤ pos x l' + l.length := by
  induction hs with
  | slnil => cases hx
  | cons a hs ih =>
    rename_i l1 l2
    have hn' := (List.nodup_cons.mp hn)
    have hxl : x ∈ l2 := hs.subset hx
    have hax : a ≠ x := fun e => hn'.1 (e ▸ hxl)
    have := ih hx hn'.2
    simp only [pos, hax, if_false, List.length_cons]
    omega
  | cons_cons a hs ih =>
    rename_i l1 l2
    have hn' := (List.nodup_cons.mp hn)
    by_cases hax : a = x
    · simp only [pos, hax, if_true, List.length_cons]
      have := hs.length_le
      omega
    · have := ih ((List.mem_cons.mp hx).resolve_left (fun e => hax e.symm)) hn'.2
      simp only [pos, hax, if_false, List.length_cons]
      omega

theorem members_length_le (n a : Nat) (ha : a < n) (l : List Nat) (hn : l.Nodup)
    (hm : ∀ y ∈ l, isMember n a y = true) : l.length ≤ n - 1 := by
  have h := hn.length_le_of_subset (l₂ := (List.range n).erase a) (fun y hy => by
    have := hm y hy
    simp only [isMember, Bool.and_eq_true, bne_iff_ne, ne_eq, decide_eq_true_eq] at this
    exact (List.mem_erase_of_ne this.1).mpr (List.mem_range.mpr this.2))
  rwa [List.length_erase_of_mem (List.mem_range.mpr ha), List.length_range] at h

/-- ticks until `x` (at position `i` of an alive-list of length `L`, next index `p`) is the target,
    if nobody turns DEAD in between: `x` still ahead in this pass, or the rest of this pass plus one
    more pass.  (`phiPot`, `psiPot`: φ and ψ as names of two potentials — nothing to do with the phi-accrual
    detector of `phiStep`, `PhiDetect`, `PhiPath`.) -/
def phiPot (L p i : Nat) : Nat := if p ≤ i then L - p else (L - p) + L

/-- every member that turns DEAD can cost one more pass of at most `N` ticks -/
def psiPot (N Lmin L p i : Nat) : Nat := phiPot L p i + N * (L - Lmin)

theorem sub_le_phiPot (L p i : Nat) : L - p ≤ phiPot L p i := by
  unfold phiPot
  split
  · exact Nat.le_refl _
  · exact Nat.le_add_right _ _

theorem phiPot_le (L p i : Nat) : phiPot L p i ≤ 2 * L := by
  unfold phiPot
  rw [Nat.two_mul]
  split
  · exact Nat.le_trans (Nat.sub_le L p) (Nat.le_add_right L L)
  · exact Nat.add_le_add_right (Nat.sub_le L p) L

/-- the alive-list shrinks to a sublist (length `L'`, position `i'`), order and index unchanged -/
theorem psiPot_shrink {N Lmin L L' p i i' : Nat} (hL : L' ≤ L) (hi : i' ≤ i) (hj : i + L' ≤ i' + L)
    (hLN : L' ≤ N) (hmin : Lmin ≤ L') : psiPot N Lmin L' p i' ≤ psiPot N Lmin L p i := by
  rcases Nat.eq_or_lt_of_le hL with rfl | hlt
  · rw [Nat.le_antisymm hi (Nat.le_of_add_le_add_right hj)]
    exact Nat.le_refl _
  · -- a member was lost: the budget holds one more pass of `N ≥ L'` ticks for it
    have hN : N * (L' - Lmin) + N ≤ N * (L - Lmin) :=
      Nat.mul_le_mul_left N (Nat.sub_lt_sub_right hmin hlt)
    have hsub : L' - p ≤ L - p := Nat.sub_le_sub_right hL p
    have hphi : phiPot L' p i' ≤ phiPot L p i + N := by
      by_cases hp : p ≤ i'
      · rw [show phiPot L' p i' = L' - p from if_pos hp,
          show phiPot L p i = L - p from if_pos (Nat.le_trans hp hi)]
        exact Nat.le_trans hsub (Nat.le_add_right _ _)
      · rw [show phiPot L' p i' = L' - p + L' from if_neg hp]
        exact Nat.add_le_add (Nat.le_trans hsub (sub_le_phiPot L p i)) hLN
    calc phiPot L' p i' + N * (L' - Lmin)
        ≤ phiPot L p i + N + N * (L' - Lmin) := Nat.add_le_add_right hphi _
      _ = phiPot L p i + (N * (L' - Lmin) + N) := by rw [Nat.add_assoc, Nat.add_comm N]
      _ ≤ phiPot L p i + N * (L - Lmin) := Nat.add_le_add_left hN _

/-- a tick inside a pass that does not hit `x` -/
theorem phiPot_advance {L p i : Nat} (hp : p < L) (hne : p ≠ i) :
    phiPot L (p + 1) i + 1 ≤ phiPot L p i := by
  have hs : L - (p + 1) + 1 = L - p := Nat.sub_add_cancel (Nat.sub_pos_of_lt hp)
  unfold phiPot
  by_cases hA : p ≤ i
  · rw [if_pos hA, if_pos (show p + 1 ≤ i from Nat.lt_of_le_of_ne hA hne), hs]
    exact Nat.le_refl _
  · rw [if_neg hA, if_neg (fun h => hA (Nat.le_of_succ_le h)), Nat.add_right_comm, hs]
    exact Nat.le_refl _

/-- the tick that starts a new pass (`p ≥ L`) and does not hit `x` (`1 ≤ i'`) -/
theorem phiPot_restart {L p i i' : Nat} (hp : L ≤ p) (hi : i < L) (hi' : 1 ≤ i') :
    phiPot L 1 i' + 1 ≤ phiPot L p i := by
  unfold phiPot
  rw [if_pos hi', if_neg (Nat.not_le_of_lt (Nat.lt_of_lt_of_le hi hp)), Nat.sub_eq_zero_of_le hp,
    Nat.zero_add, Nat.sub_add_cancel (show 1 ≤ L from Nat.lt_of_le_of_lt (Nat.zero_le i) hi)]
  exact Nat.le_refl _

variable {D : Type} [Inhabited D] [Detector D]

structure OrdInv (n a : Nat) (nd : Node D) : Prop where
  nodup : nd.order.Nodup
  all : ∀ y, isMember n a y = true → nd.view y ≠ .dead → y ∈ nd.order

theorem mem_aliveOrder {n a y : Nat} {nd : Node D} :
    y ∈ aliveOrder n a nd ↔ y ∈ nd.order ∧ isMember n a y = true ∧ nd.view y ≠ .dead := by
  unfold aliveOrder
  rw [List.mem_filter]
  simp only [Bool.and_eq_true, bne_iff_ne, ne_eq]

theorem aliveOrder_nodup (n a : Nat) (nd : Node D) (h : nd.order.Nodup) : (aliveOrder n a nd).Nodup :=
  List.Sublist.nodup List.filter_sublist h

theorem aliveOrder_length_le (n a : Nat) (ha : a < n) (nd : Node D) (h : nd.order.Nodup) :
    (aliveOrder n a nd).length ≤ n - 1 :=
  members_length_le n a ha _ (aliveOrder_nodup n a nd h)
    (fun _ hy => (mem_aliveOrder.mp hy).2.1)

theorem aliveOrder_congr (n a : Nat) {nd nd' : Node D} (hm : nd'.mem = nd.mem)
    (ho : nd'.order = nd.order) : aliveOrder n a nd' = aliveOrder n a nd := by
  unfold aliveOrder Node.view Node.member
  rw [hm, ho]

/-- ticks until `x` is probed; `k` = how many members may be lost (`n - k ≤ |alive|` throughout) -/
def pot (n k a x : Nat) (nd : Node D) : Nat :=
  psiPot (n - 1) (n - k) (aliveOrder n a nd).length nd.pidx (pos x (aliveOrder n a nd))

theorem pot_congr (n k a x : Nat) {nd nd' : Node D} (hm : nd'.mem = nd.mem)
    (ho : nd'.order = nd.order) (hp : nd'.pidx = nd.pidx) : pot n k a x nd' = pot n k a x nd := by
  unfold pot
  rw [aliveOrder_congr n a hm ho, hp]

theorem OrdInv.congr {n a : Nat} {nd nd' : Node D} (h : OrdInv n a nd) (hm : nd'.mem = nd.mem)
    (ho : nd'.order = nd.order) : OrdInv n a nd' := by
  refine ⟨by rw [ho]; exact h.nodup, fun y hy hv => ?_⟩
  rw [ho]
  apply h.all y hy
  unfold Node.view Node.member at *
  rw [← hm]; exact hv

theorem pot_le {n k a x : Nat} (ha : a < n) {nd : Node D} (h : nd.order.Nodup) :
    pot n k a x nd ≤ 2 * (n - 1) + (n - 1) * ((n - 1) - (n - k)) :=
  have hL := aliveOrder_length_le n a ha nd h
  Nat.add_le_add (Nat.le_trans (phiPot_le _ _ _) (Nat.mul_le_mul_left 2 hL))
    (Nat.mul_le_mul_left _ (Nat.sub_le_sub_right hL _))

theorem ordInv_keep {n a : Nat} {nd nd' : Node D} (hk : Keep nd nd') (hO : OrdInv n a nd) :
    OrdInv n a nd' := by
  refine ⟨by rw [hk.order]; exact hO.nodup, fun y hy hv => ?_⟩
  rw [hk.order]
  exact hO.all y hy (fun hd => hv (hk.dead y hd))

theorem pot_keep {n k a x : Nat} (ha : a < n) {nd nd' : Node D} (hk : Keep nd nd') (hO : OrdInv n a nd)
    (hx : x ∈ aliveOrder n a nd') (hmin : n - k ≤ (aliveOrder n a nd').length) :
    pot n k a x nd' ≤ pot n k a x nd := by
  have hsub : (aliveOrder n a nd').Sublist (aliveOrder n a nd) := by
    unfold aliveOrder
    rw [hk.order]
    apply filter_sublist_of_imp
    intro y hy
    simp only [Bool.and_eq_true, bne_iff_ne, ne_eq] at hy ⊢
    exact ⟨hy.1, fun hd => hy.2 (hk.dead y hd)⟩
  have hp := pos_sublist x hsub hx (aliveOrder_nodup n a nd hO.nodup)
  unfold pot
  rw [hk.pidx]
  exact psiPot_shrink hsub.length_le hp.1 hp.2
    (aliveOrder_length_le n a ha nd' (by rw [hk.order]; exact hO.nodup)) hmin

theorem ordInv_nextTarget (n a : Nat) (nd : Node D) (shuf : List Nat) (hO : OrdInv n a nd)
    (hsh : (aliveOrder n a nd).length ≤ nd.pidx → shuf.Perm (aliveOrder n a nd)) :
    OrdInv n a (nextTarget n a nd shuf).1 := by
  rcases nextTarget_cases n a nd shuf with ⟨_, e⟩ | ⟨hp, e⟩ | ⟨_, e⟩ <;> rw [e]
  · exact hO
  · -- a new pass: the oracle's permutation becomes the order
    exact ⟨(hsh hp).nodup_iff.mpr (aliveOrder_nodup n a nd hO.nodup), fun y hy hv =>
      (hsh hp).mem_iff.mpr (mem_aliveOrder.mpr ⟨hO.all y hy hv, hy, hv⟩)⟩
  · exact ⟨hO.nodup, hO.all⟩

theorem pot_nextTarget (n k a x : Nat) (nd : Node D) (shuf : List Nat) (hx : x ∈ aliveOrder n a nd)
    (hsh : (aliveOrder n a nd).length ≤ nd.pidx → shuf.Perm (aliveOrder n a nd)) :
    (aliveOrder n a (nextTarget n a nd shuf).1).length = (aliveOrder n a nd).length ∧
    ((nextTarget n a nd shuf).2 = some x ∨
      pot n k a x (nextTarget n a nd shuf).1 + 1 ≤ pot n k a x nd) := by
  have hlt := (pos_spec hx).1
  rcases nextTarget_cases n a nd shuf with ⟨h0, _⟩ | ⟨hp, e⟩ | ⟨hp, e⟩
  · rw [h0] at hx
    cases hx
  · have hperm := hsh hp
    have hal : aliveOrder n a ({ nd with order := shuf, pidx := 1 } : Node D) = shuf :=
      List.filter_eq_self.mpr fun y hy => by
        have := mem_aliveOrder.mp (hperm.mem_iff.mp hy)
        simp only [Bool.and_eq_true, bne_iff_ne, ne_eq]
        exact this.2
    rw [e]
    refine ⟨by rw [hal]; exact hperm.length_eq, ?_⟩
    have hxs := pos_spec (hperm.mem_iff.mpr hx)
    by_cases h0 : pos x shuf = 0
    · left
      rw [Nat.zero_mod]
      exact congrArg some (h0 ▸ hxs.2)
    · right
      have := phiPot_restart (i' := pos x shuf) hp hlt (Nat.pos_of_ne_zero h0)
      unfold pot psiPot
      rw [hal, hperm.length_eq]
      exact Nat.add_right_comm _ _ 1 ▸ Nat.add_le_add_right this _
  · rw [e]
    refine ⟨rfl, ?_⟩
    by_cases h0 : nd.pidx = pos x (aliveOrder n a nd)
    · left
      rw [Nat.mod_eq_of_lt hp, h0, (pos_spec hx).2]
    · right
      have := phiPot_advance hp h0
      exact Nat.add_right_comm _ _ 1 ▸ Nat.add_le_add_right this _

section tick
variable (c : Cfg) (a now : Nat) (shuf : List Nat) (nd : Node D) (hO : OrdInv c.n a nd)
  (hsh : (aliveOrder c.n a (phiCheck c.n a now nd)).length ≤ nd.pidx →
    shuf.Perm (aliveOrder c.n a (phiCheck c.n a now nd)))
include hO hsh

theorem ordInv_onTick : OrdInv c.n a (onTick c a now shuf nd).1 := by
  have hk := keep_phiCheck c.n a now nd
  have h := armProbe_fields c a now (nextTarget c.n a (phiCheck c.n a now nd) shuf)
  exact (ordInv_nextTarget c.n a _ shuf (ordInv_keep hk hO) (hk.pidx ▸ hsh)).congr h.1 h.2.1

theorem pot_onTick (k x : Nat) (ha : a < c.n) (hxm : isMember c.n a x = true)
    (hv : (onTick c a now shuf nd).1.view x ≠ .dead)
    (hmin : c.n - k ≤ (aliveOrder c.n a (onTick c a now shuf nd).1).length) :
    (onTick c a now shuf nd).1.pendOf x = some ⟨.ind, now + c.half⟩ ∨
      pot c.n k a x (onTick c a now shuf nd).1 + 1 ≤ pot c.n k a x nd := by
  have hk := keep_phiCheck c.n a now nd
  rw [onTick_eq] at hv hmin ⊢
  obtain ⟨hm, ho, hp, _⟩ := armProbe_fields c a now (nextTarget c.n a (phiCheck c.n a now nd) shuf)
  have hx1 : x ∈ aliveOrder c.n a (phiCheck c.n a now nd) := by
    unfold Node.view Node.member at hv
    rw [hm, (nextTarget_fields ..).1] at hv
    exact mem_aliveOrder.mpr ⟨(ordInv_keep hk hO).all x hxm hv, hxm, hv⟩
  obtain ⟨hlen, hcase⟩ := pot_nextTarget c.n k a x _ shuf hx1 (hk.pidx ▸ hsh)
  rw [aliveOrder_congr c.n a hm ho, hlen] at hmin
  rcases hcase with h | h
  · left
    exact (armProbe_target c a now _ h hxm).1
  · right
    rw [pot_congr c.n k a x hm ho hp]
    exact Nat.le_trans h (pot_keep ha hk hO hx1 hmin)

end tick

end HappyModel.C13
