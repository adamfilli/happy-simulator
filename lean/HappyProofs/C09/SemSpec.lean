import HappyProofs.C09.SyncInv
import HappyModel.C09.Driver
namespace HappyModel.C09.Sync.Sem

/-- `runSem` in the driver prints exactly these fields -/
def obsOf (o : Op) (out : Out) (s' : St) : Obs :=
  { k := match o with
      | .tryAcquire id n => .try_ id n 0
      | .acquire id n => .acq id n 0
      | .release n => .rel n 0
    res := out.res, woke := out.woke, c1 := s'.count, c2 := s'.waiters.length }

def obsTrace (s : St) : List Op → List Obs
  | [] => []
  | o :: os => obsOf o (step s o).2 (step s o).1 :: obsTrace (step s o).1 os

/-- `AgreeE b s []` field for field: the direct mode has no pending list -/
structure Agree (b : SBook) (s : St) : Prop where
  out : b.out = s.cap - s.count
  blocked : b.blocked = s.waiters
  resolved : b.resolved = []

theorem check_ok (s : St) (b : SBook) (o : Obs) (inv : Inv s) (hout : b.out = s.cap - s.count) (hb : b.blocked = s.waiters)
    (h1 : o.c1 = s.count) (h2 : o.c2 = s.waiters.length) : b.check s.cap o = none := by
  have := inv.lo; have := inv.hi
  unfold SBook.check
  rw [hout, hb, h1, h2]
  rw [if_neg (by omega), if_neg (by omega), if_neg (by simp)]
  cases hq : s.waiters with
  | nil => rfl
  | cons w ws =>
    have := inv.headBlocked w ws hq
    simp only
    rw [if_neg (by omega)]

/-- the calls an operation makes resumable, as `Driver.runSem` computes them -/
def newlyOf (o : Op) (out : Out) : List Nat :=
  match o with
  | .acquire id _ => Driver.newly true id out
  | _ => out.woke

def obsE (t : Nat) (o : Op) (out : Out) (s' : St) : Obs := { obsOf o out s' with t := t }

structure AgreeE (b : SBook) (s : St) (p : Pend) : Prop where
  out : b.out = s.cap - s.count
  blocked : b.blocked = s.waiters
  resolved : b.resolved = p

theorem apply_step_at (eng : Bool) (t : Nat) (s : St) (b : SBook) (p : Pend) (o : Op) (inv : Inv s) (ag : AgreeE b s p) :
    ∃ b', b.apply s.cap eng (obsE t o (step s o).2 (step s o).1) = .ok b'
      ∧ AgreeE b' (step s o).1 (if eng then p.add t (newlyOf o (step s o).2) else p) := by
  have hlo := inv.lo; have hhi := inv.hi
  have same : AgreeE b s (if eng then p.add t [] else p) := by rw [Pend.add_nil, ite_self]; exact ag
  simp only [obsE, obsOf, newlyOf]
  cases o with
  | tryAcquire id n =>
    simp only [step]
    by_cases h1 : n < 1
    · rw [if_pos h1]
      exact ⟨b, if_neg (by omega), same⟩
    rw [if_neg h1]
    by_cases h2 : n ≤ s.count
    · rw [if_pos h2]
      exact ⟨{ b with out := b.out + n }, if_neg h1,
        by show b.out + n = s.cap - (s.count - n); rw [ag.out]; omega, ag.blocked, same.resolved⟩
    · rw [if_neg h2]
      exact ⟨b, (if_neg h1).trans (if_neg (by rw [ag.out]; omega)), same⟩
  | acquire id n =>
    have hnew : ∀ r, r ≠ Res.granted → r ≠ Res.passed → Driver.newly true id ⟨r, []⟩ = [] := by
      intro r h1 h2; cases r <;> first | rfl | exact absurd rfl h1 | exact absurd rfl h2
    simp only [step]
    by_cases h1 : n < 1
    · rw [if_pos h1]
      exact ⟨b, if_neg (by omega), hnew .errValue nofun nofun ▸ same⟩
    rw [if_neg h1]
    by_cases h3 : s.cap < n
    · rw [if_pos h3]
      exact ⟨b, if_neg (by omega), hnew .errValue nofun nofun ▸ same⟩
    rw [if_neg h3]
    by_cases h2 : n ≤ s.count
    · rw [if_pos h2]
      exact ⟨{ b with out := b.out + n, resolved := if eng then b.resolved.add t [id] else b.resolved },
        if_neg (by omega), by show b.out + n = s.cap - (s.count - n); rw [ag.out]; omega, ag.blocked,
        by show (if eng then b.resolved.add t [id] else b.resolved) = _; rw [ag.resolved]; rfl⟩
    · rw [if_neg h2]
      exact ⟨{ b with blocked := b.blocked ++ [(id, n)] }, if_neg (by omega), ag.out,
        by show b.blocked ++ [(id, n)] = s.waiters ++ [(id, n)]; rw [ag.blocked],
        (hnew .queued nofun nofun ▸ same).resolved⟩
  | release n =>
    simp only [step]
    by_cases h1 : n < 1
    · rw [if_pos h1]
      exact ⟨b, if_neg (by omega), same⟩
    rw [if_neg h1]
    by_cases h2 : s.cap < s.count + n
    · rw [if_pos h2]
      exact ⟨b, if_neg (by rw [ag.out]; omega), same⟩
    rw [if_neg h2]
    refine ⟨{ out := b.out - n + amtSum (b.blocked.take (wakeN (s.count + n) s.waiters)),
              blocked := b.blocked.drop (wakeN (s.count + n) s.waiters),
              resolved := if eng then b.resolved.add t ((s.waiters.take (wakeN (s.count + n) s.waiters)).map (·.1))
                          else b.resolved }, ?_, ?_⟩
    · simp only [SBook.apply, procObs]
      rw [if_neg h1, ag.out, if_neg (by omega), ag.blocked, wokeCheck_take _ _ _]
      simp only [_root_.HappyModel.C09.Res.wakeN_take_length]
    · refine ⟨?_, by show b.blocked.drop _ = s.waiters.drop _; rw [ag.blocked], ?_⟩
      · show b.out - n + amtSum (b.blocked.take _) = s.cap - (s.count + n - amtSum (s.waiters.take _))
        rw [ag.out, ag.blocked]; omega
      · show (if eng then b.resolved.add t _ else b.resolved) = _
        rw [ag.resolved]

theorem judge_cons_ok {cap : Int} {eng : Bool} {b b' : SBook} {o : Obs} (os : List Obs) (h : b.apply cap eng o = .ok b')
    (hc : b'.check cap o = none) : judgeSem cap eng b (o :: os) = judgeSem cap eng b' os := by
  simp only [judgeSem, h, hc]

theorem judge_op (eng : Bool) (t : Nat) (s : St) (b : SBook) (p : Pend) (o : Op) (rest : List Obs) (inv : Inv s)
    (ag : AgreeE b s p) :
    ∃ b', judgeSem s.cap eng b (obsE t o (step s o).2 (step s o).1 :: rest) = judgeSem (step s o).1.cap eng b' rest
      ∧ AgreeE b' (step s o).1 (if eng then p.add t (newlyOf o (step s o).2) else p) := by
  obtain ⟨b', hap, hag⟩ := apply_step_at eng t s b p o inv ag
  have hc := check_ok (step s o).1 b' (obsE t o (step s o).2 (step s o).1) (step_inv s o inv) hag.out hag.blocked rfl rfl
  rw [step_cap] at hc ⊢
  exact ⟨b', judge_cons_ok rest hap hc, hag⟩

theorem judge_model (s : St) (b : SBook) (ops : List Op) (inv : Inv s) (ag : Agree b s) :
    judgeSem s.cap false b (obsTrace s ops) = none := by
  induction ops generalizing s b with
  | nil => rfl
  | cons o os ih =>
    obtain ⟨b', hj, hag⟩ := judge_op false 0 s b [] o (obsTrace (step s o).1 os) inv ⟨ag.out, ag.blocked, ag.resolved⟩
    exact hj.trans (ih _ _ (step_inv s o inv) ⟨hag.out, hag.blocked, hag.resolved⟩)

end HappyModel.C09.Sync.Sem
