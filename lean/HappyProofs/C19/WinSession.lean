import HappyProofs.C19.WinSessSep
/-!
Session windows: joining, sorting and merging sessions never loses or duplicates a record (`sessAdd_recs`), hence for
every additive measure of the records (count, sum of values, occurrences of one id) what the active sessions hold
plus what was emitted equals what was accepted (`session_measure`).
-/
namespace HappyModel.C19.Win

def mu (f : Rec → Nat) (w : Win) : Nat := (w.recs.map f).sum
def measure (f : Rec → Nat) (wins : List Win) : Nat := (wins.map (mu f)).sum

theorem measure_nil (f : Rec → Nat) : measure f [] = 0 := rfl
theorem measure_cons (f : Rec → Nat) (w : Win) (l : List Win) : measure f (w :: l) = mu f w + measure f l := by
  simp [measure]
theorem measure_append (f : Rec → Nat) (a b : List Win) : measure f (a ++ b) = measure f a + measure f b := by
  simp [measure, List.sum_append]

theorem measure_filter_split (f : Rec → Nat) (p : Win → Bool) : ∀ wins : List Win,
    measure f (wins.filter fun w => !p w) + measure f (wins.filter p) = measure f wins := by
  intro wins
  induction wins with
  | nil => rfl
  | cons w ws ih =>
    cases hp : p w <;> simp [hp, measure_cons] <;> omega

theorem mu_append (f : Rec → Nat) (w : Win) (l : List Rec) (s e : Nat) (em : Bool) :
    mu f { w with recs := w.recs ++ l, e := e, s := s, emitted := em } = mu f w + (l.map f).sum := by
  simp [mu, List.sum_append]

theorem measure_eq (f : Rec → Nat) (wins : List Win) : measure f wins = ((recsOf wins).map f).sum := by
  induction wins with
  | nil => rfl
  | cons w ws ih => simp [measure_cons, mu, recsOf_cons, List.sum_append, ih]

theorem sessAdd_measure (f : Rec → Nat) (gap : Nat) (r : Rec) (wins : List Win) :
    measure f (sessAdd gap r wins) = measure f wins + f r := by
  rw [measure_eq, measure_eq, List.Perm.sum_nat ((sessAdd_recs gap r wins).map f)]
  simp [List.sum_append]

def accM (f : Rec → Nat) : List (Line × Out) → Nat
  | [] => 0
  | (ln, out) :: rest =>
    (match ln.act, out with
     | .proc r, .proc st _ => if st = 0 ∨ st = 3 then f r else 0
     | _, _ => 0) + accM f rest

def emM (g : Em → Nat) : List Out → Nat
  | [] => 0
  | .emits _ ems _ :: rest => (ems.map g).sum + emM g rest
  | _ :: rest => emM g rest

theorem stepProc_measure (f : Rec → Nat) (cfg : Cfg) (hk : cfg.kind = 2) (t : Nat) (r : Rec) (s : St) :
    measure f (stepProc cfg t r s).1.wins =
      measure f s.wins + (if (stepProc cfg t r s).2 = 0 ∨ (stepProc cfg t r s).2 = 3 then f r else 0) := by
  obtain ⟨st, wq, e⟩ := stepProc_eq cfg t r s
  simp only [e, addWindows, hk, if_true]
  split
  · exact sessAdd_measure f cfg.gap r s.wins
  · rfl

theorem session_measure (f : Rec → Nat) (g : Em → Nat) (hg : ∀ w, g (toEm w) = mu f w) (cfg : Cfg)
    (hk : cfg.kind = 2) : ∀ (sched : List Line) (s : St),
    measure f (finalState cfg s sched).wins + emM g (run cfg s sched) =
      measure f s.wins + accM f (sched.zip (run cfg s sched)) := by
  intro sched
  induction sched with
  | nil => intro s; simp [finalState, run, emM, accM]
  | cons ln rest ih =>
    intro s
    obtain ⟨t, act⟩ := ln
    simp only [finalState, run, List.zip_cons_cons]
    have := ih (step cfg s ⟨t, act⟩).1
    cases act with
    | proc r =>
      have hm := stepProc_measure f cfg hk t r s
      simp only [step, emM, accM] at this ⊢
      rw [hm] at this
      omega
    | wmA ext w =>
      have hw : (stepWmA t ext w s).1.wins = s.wins := step_wins cfg s ⟨t, .wmA ext w⟩
      simp only [step, emM, accM, hw] at this ⊢
      omega
    | wmB =>
      have hsplit := measure_filter_split f (closable s.wm) s.wins
      have hem : ((stepWmB cfg t s).2.map g).sum = measure f (s.wins.filter (closable s.wm)) := by
        simp [stepWmB_ems, measure, List.map_map, Function.comp_def, hg]
      have hw : (stepWmB cfg t s).1.wins = s.wins.filter fun w => !closable s.wm w :=
        (step_wins cfg s ⟨t, .wmB⟩).trans (if_pos hk)
      simp only [step, emM, accM, hw] at this ⊢
      rw [hem]
      omega
    | lateRecv id =>
      rcases stepLate_eq id s with ⟨r, _, e⟩ | ⟨_, e⟩ <;> simp only [step, e, emM, accM] at this ⊢ <;> omega
    | fin =>
      simp only [step, emM, accM] at this ⊢
      omega

theorem cnt_toEm (w : Win) : (toEm w).cnt = mu (fun _ => 1) w := by
  simp only [toEm, mu]
  induction w.recs with
  | nil => rfl
  | cons a l ih => simp [ih]; omega

theorem sum_toEm (w : Win) : (toEm w).sum = mu (·.val) w := rfl

theorem idcount_toEm (i : Nat) (w : Win) :
    (toEm w).ids.count i = mu (fun r => if r.id = i then 1 else 0) w := by
  simp only [toEm, mu]
  induction w.recs with
  | nil => rfl
  | cons a l ih =>
    by_cases h : a.id = i
    · simp [h, ih]; omega
    · simp [h, ih]

end HappyModel.C19.Win
