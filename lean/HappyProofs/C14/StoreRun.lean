import HappyModel.C14.SpecStore
import HappyProofs.C14.StoreLaws
import HappyProofs.C14.ReadJudge
import HappyProofs.C14.Frames
/-! Every operation touches the data structure in exactly one segment (`doAct`); the ghost log records the writes (`put`,
    and `delete` as a write of `none`) with the segment in which they acted.  `RInv` ties the log to the store and to
    every frame: the result of an operation that has acted is a function of the log before its acting segment. -/
namespace HappyModel.C14.SM.SR
open HappyModel.C14 HappyModel.C14.SM HappyModel.C14.BT

/-! The observations as `DriverStore.judgeStoreMode` builds them, without the text layer. -/

def framesOfS (ops : List (Nat × SOp)) : List (Frame SPc) := ops.map fun o => { id := o.1, pc := .start o.2 }

def kindOf : SOp → Option OKind
  | .put k v => some (.put k v)
  | .del k => some (.del k)
  | .get k => some (.get k)
  | .scan lo hi => some (.scan lo hi)
  | .size => none

def recOfS (ops : List (Nat × SOp)) (f : Frame SPc) : Option ORec :=
  match f.b, (ops.lookup f.id).bind kindOf with
  | some b, some kind =>
    some { id := f.id, kind := kind, b := b, e := f.e,
           got := match f.pc with | .done (.val c) => c | _ => none,
           rows := match f.pc with | .done (.rows d) => d | _ => [] }
  | _, _ => none

def obsOfS (ops : List (Nat × SOp)) (fs : List (Frame SPc)) : List ORec := fs.filterMap (recOfS ops)

def delFlagOf (ops : List (Nat × SOp)) (f : Frame SPc) : Option (Nat × Bool) :=
  match ops.lookup f.id, f.e, f.pc with
  | some (.del _), some _, .done (.flag fl) => some (f.id, fl)
  | _, _, _ => none

def sizeObsOf (ops : List (Nat × SOp)) (f : Frame SPc) : Option (Nat × Nat × Nat × Nat) :=
  match ops.lookup f.id, f.b, f.e, f.pc with
  | some .size, some b, some e, .done (.num m) => some (f.id, b, e, m)
  | _, _, _, _ => none

def extraOfS (ops : List (Nat × SOp)) (fs : List (Frame SPc)) : Extra :=
  { delFlags := fs.filterMap (delFlagOf ops), sizes := fs.filterMap (sizeObsOf ops) }

/-- put values are pairwise distinct, so that a returned value names its write -/
def DistinctS (ops : List (Nat × SOp)) : Prop :=
  (ops.map (·.1)).Nodup ∧ (ops.filterMap fun o => match o.2 with | .put _ v => some v | _ => none).Nodup

def keyLtOp (n : Nat) : SOp → Bool
  | .put k _ => k < n
  | .del k => k < n
  | _ => true

def KeysBelow (nkeys : Nat) (ops : List (Nat × SOp)) : Prop := ∀ o ∈ ops, keyLtOp nkeys o.2 = true

instance (nkeys : Nat) (ops : List (Nat × SOp)) : Decidable (KeysBelow nkeys ops) := by
  unfold KeysBelow; infer_instance

/-- the operation (if any) that acts on the data in the next segment of a frame -/
def actsNow (s : Store) : SPc → Option SOp
  | .start op => match lsmStart s op with
    | some _ => none
    | none => if yieldsBefore s op = 0 then some op else none
  | .wait op 0 => some op
  | _ => none

def evOf (n id : Nat) : SOp → Option Ev
  | .put k v => some ⟨n, id, k, some v, 0⟩
  | .del k => some ⟨n, id, k, none, 0⟩
  | _ => none

def ghostStep (s : Store) (n id : Nat) (fs : List (Frame SPc)) (log : List Ev) : List Ev :=
  match fs.find? (fun f => f.id == id) with
  | some f => match (actsNow s f.pc).bind (evOf n id) with
    | some ev => ev :: log
    | none => log
  | none => log

def logRunS : Store → List (Frame SPc) → Nat → List Ev → List Nat → List Ev
  | _, _, _, log, [] => log
  | s, fs, n, log, id :: ids =>
    logRunS (stepFrames stepS SPc.isDone s n id fs).1 (stepFrames stepS SPc.isDone s n id fs).2 (n + 1)
      (ghostStep s n id fs log) ids

/-- the operation acted in segment `a` with result `r` -/
def Acted (log : List Ev) (id a : Nat) : SOp → SRes → Prop
  | .put k v, r => r = .ok ∧ ∃ ev ∈ log, ev.id = id ∧ ev.n = a ∧ ev.key = k ∧ ev.cell = some v
  | .del k, r => r = .flag (valAt log k a).isSome ∧ ∃ ev ∈ log, ev.id = id ∧ ev.n = a ∧ ev.key = k ∧ ev.cell = none
  | .get k, r => r = .val (valAt log k a) ∧ ∀ ev ∈ log, ev.id ≠ id
  | .scan lo hi, r =>
    (∃ d, r = .rows d ∧ sortedStrict d = true ∧ (∀ e ∈ d, lo ≤ e.1 ∧ e.1 < hi) ∧
      ∀ k, lo ≤ k → k < hi → d.lookup k = valAt log k a) ∧ ∀ ev ∈ log, ev.id ≠ id
  | .size, r =>
    (∃ m : KV, SortedKV m ∧ r = .num m.length ∧ ∀ k, m.lookup k = valAt log k a) ∧ ∀ ev ∈ log, ev.id ≠ id

/-- a frame of operation `op`: not begun, waiting (no event yet), or acted at a segment `a` inside its bracket with the
    result `Acted` describes -/
def PcOk (log : List Ev) (n : Nat) (f : Frame SPc) (op : SOp) : Prop :=
  match f.pc with
  | .start op' => op' = op ∧ f.b = none ∧ f.e = none ∧ ∀ ev ∈ log, ev.id ≠ f.id
  | .wait op' _ => op' = op ∧ (∃ b, f.b = some b ∧ b < n) ∧ f.e = none ∧ ∀ ev ∈ log, ev.id ≠ f.id
  | .fin r => ∃ b a, f.b = some b ∧ b ≤ a ∧ a < n ∧ f.e = none ∧ Acted log f.id a op r
  | .done r => ∃ b a e, f.b = some b ∧ f.e = some e ∧ b ≤ a ∧ a ≤ e ∧ e < n ∧ Acted log f.id a op r
  | .lsmGet _ => False  -- a store with `SOk` is no LSM tree (`sok_nolsm`): no frame enters `LSMTree.get`

def cellOp (k : Key) : Cell → SOp
  | some v => .put k v
  | none => .del k

structure RInv (ops : List (Nat × SOp)) (s : Store) (fs : List (Frame SPc)) (n : Nat) (log : List Ev) : Prop where
  sok : SOk s
  abs : ∀ k, s.contents.lookup k = (firstOn k log).join
  sortedN : (log.map (·.n)).Pairwise (· > ·)
  evLt : ∀ ev ∈ log, ev.n < n
  evIds : (log.map (·.id)).Nodup
  evOp : ∀ ev ∈ log, ops.lookup ev.id = some (cellOp ev.key ev.cell)
  evFrame : ∀ ev ∈ log, ev.id ∈ fs.map (·.id)
  ids : (fs.map (·.id)).Nodup
  frames : ∀ f ∈ fs, ∃ op, ops.lookup f.id = some op ∧ PcOk log n f op

variable {ops : List (Nat × SOp)} {s s' : Store} {fs pre post : List (Frame SPc)} {f f' : Frame SPc} {n id a : Nat}
  {log log' : List Ev} {ev : Ev} {op : SOp} {r : SRes}

theorem acted_mono (ha : a ≤ ev.n) (hid : ev.id ≠ id)
    (h : Acted log id a op r) : Acted (ev :: log) id a op r := by
  have hno : (∀ e ∈ log, e.id ≠ id) → ∀ e ∈ ev :: log, e.id ≠ id := fun h => List.forall_mem_cons.mpr ⟨hid, h⟩
  cases op <;> simp only [Acted, valAt_cons ha] at h ⊢
  · exact ⟨h.1, h.2.imp fun e he => ⟨List.mem_cons_of_mem _ he.1, he.2⟩⟩
  · exact ⟨h.1, h.2.imp fun e he => ⟨List.mem_cons_of_mem _ he.1, he.2⟩⟩
  · exact ⟨h.1, hno h.2⟩
  · exact ⟨h.1, hno h.2⟩
  · exact ⟨h.1, hno h.2⟩

theorem pcOk_next (hlog : log' = log ∨ ∃ ev, log' = ev :: log ∧ ev.n = n ∧ ev.id ≠ f.id)
    (h : PcOk log n f op) : PcOk log' (n + 1) f op := by
  have hno : (∀ e ∈ log, e.id ≠ f.id) → ∀ e ∈ log', e.id ≠ f.id := by
    rcases hlog with rfl | ⟨ev, rfl, -, hid⟩
    · exact id
    · exact fun h => List.forall_mem_cons.mpr ⟨hid, h⟩
  have hact : ∀ {a r}, a < n → Acted log f.id a op r → Acted log' f.id a op r := by
    rcases hlog with rfl | ⟨ev, rfl, rfl, hid⟩
    · exact fun _ h => h
    · exact fun ha h => acted_mono (Nat.le_of_lt ha) hid h
  obtain ⟨id, pc, b, e⟩ := f
  cases pc with
  | start op' => exact ⟨h.1, h.2.1, h.2.2.1, hno h.2.2.2⟩
  | wait op' j => exact ⟨h.1, h.2.1.imp fun b hb => ⟨hb.1, Nat.lt_succ_of_lt hb.2⟩, h.2.2.1, hno h.2.2.2⟩
  | fin r =>
    obtain ⟨b, a, h1, h2, h3, h4, h5⟩ := h
    exact ⟨b, a, h1, h2, Nat.lt_succ_of_lt h3, h4, hact h3 h5⟩
  | done r =>
    obtain ⟨b, a, e, h1, h2, h3, h4, h5, h6⟩ := h
    exact ⟨b, a, e, h1, h2, h3, h4, Nat.lt_succ_of_lt h5, hact (Nat.lt_of_le_of_lt h4 h5) h6⟩
  | lsmGet p => exact h

theorem firstOn_cons_join (k : Key) (ev : Ev) (log : List Ev) :
    (firstOn k (ev :: log)).join = if k = ev.key then ev.cell else (firstOn k log).join := by
  show (if ev.key = k then some ev.cell else firstOn k log).join = _
  by_cases h : k = ev.key
  · simp [h]
  · simp [h, Ne.symm h]

theorem act_spec (op : SOp) (hs : SOk s)
    (habs : ∀ k, s.contents.lookup k = (firstOn k log).join) (hlt : ∀ ev ∈ log, ev.n < n)
    (hno : ∀ ev ∈ log, ev.id ≠ id) :
    SOk (act s op).1 ∧
    (∀ k, (act s op).1.contents.lookup k =
      (firstOn k (match evOf n id op with | some ev => ev :: log | none => log)).join) ∧
    Acted (match evOf n id op with | some ev => ev :: log | none => log) id n op (act s op).2.1 := by
  have hval : ∀ k, valAt log k n = s.contents.lookup k := fun k => by rw [valAt_now hlt, habs]
  cases op with
  | put k v =>
    obtain ⟨h1, h2⟩ := sok_put hs k v
    refine ⟨h1, fun k' => ?_, rfl, _, List.mem_cons_self .., rfl, rfl, rfl, rfl⟩
    simp only [act, evOf]
    rw [h2, map_lookup_upsert _ (sok_sorted hs), firstOn_cons_join, habs]
  | del k =>
    obtain ⟨h1, h2, h3⟩ := sok_del hs k
    refine ⟨h1, fun k' => ?_, ?_, _, List.mem_cons_self .., rfl, rfl, rfl, rfl⟩
    · simp only [act, evOf]
      rw [h2, map_lookup_erase _ (sok_sorted hs), firstOn_cons_join, habs]
    · simp only [act, evOf]
      rw [valAt_cons (Nat.le_refl _), hval, h3]
  | get k =>
    refine ⟨hs, habs, ?_, hno⟩
    simp only [act, evOf]
    rw [hval, sok_get hs]
  | scan lo hi =>
    refine ⟨hs, habs, ⟨s.scan lo hi, rfl, ?_, ?_, ?_⟩, hno⟩
    · rw [sok_scan hs]
      exact sortedStrict_of_pairwise _ (sorted_inRange lo hi _ (sok_sorted hs))
    · intro e he
      rw [sok_scan hs] at he
      simpa using (List.mem_filter.mp he).2
    · intro k h1 h2
      simp only [evOf]
      rw [sok_scan hs, lookup_inRange, hval, if_pos ⟨h1, h2⟩]
  | size =>
    refine ⟨hs, habs, ⟨s.contents, sok_sorted hs, ?_, fun k => (hval k).symm⟩, hno⟩
    simp only [act]
    rw [sok_size hs]

theorem doAct_pc (s : Store) (op : SOp) :
    (doAct s op).2 = .fin (act s op).2.1 ∨ (doAct s op).2 = .done (act s op).2.1 := by
  unfold doAct
  cases (act s op).2.2
  · exact Or.inr rfl
  · exact Or.inl rfl

theorem rinv_upd
    (h : RInv ops s (pre ++ f :: post) n log) (hid : f'.id = f.id)
    (hlog : log' = log ∨ ∃ ev, log' = ev :: log ∧ ev.n = n ∧ ev.id = f.id ∧ (∀ e ∈ log, e.id ≠ f.id) ∧
      ops.lookup f.id = some (cellOp ev.key ev.cell))
    (hs : SOk s') (habs : ∀ k, s'.contents.lookup k = (firstOn k log').join)
    (hf' : ∃ op, ops.lookup f'.id = some op ∧ PcOk log' (n + 1) f' op) :
    RInv ops s' (pre ++ f' :: post) (n + 1) log' := by
  have hids : ((pre ++ f' :: post).map (·.id)) = ((pre ++ f :: post).map (·.id)) := by
    simp only [List.map_append, List.map_cons, hid]
  have hother : ∀ g, g ∈ pre ∨ g ∈ post → g.id ≠ f.id := fun g hg => ne_of_nodup_mid (·.id) h.ids hg
  -- the frames that did not move, from what their invariant becomes
  have hfr : (∀ g, g ∈ pre ∨ g ∈ post → ∀ op, PcOk log n g op → PcOk log' (n + 1) g op) →
      ∀ g ∈ pre ++ f' :: post, ∃ op, ops.lookup g.id = some op ∧ PcOk log' (n + 1) g op := by
    intro hold
    have hfs := h.frames
    simp only [List.forall_mem_append, List.forall_mem_cons] at hfs ⊢
    exact ⟨fun g hg => (hfs.1 g hg).imp fun op ho => ⟨ho.1, hold g (.inl hg) op ho.2⟩, hf',
      fun g hg => (hfs.2.2 g hg).imp fun op ho => ⟨ho.1, hold g (.inr hg) op ho.2⟩⟩
  rcases hlog with rfl | ⟨ev, rfl, rfl, hevid, hno, hop⟩
  · exact ⟨hs, habs, h.sortedN, fun ev hev => Nat.lt_succ_of_lt (h.evLt ev hev), h.evIds, h.evOp,
      hids ▸ h.evFrame, hids ▸ h.ids, hfr fun _ _ _ => pcOk_next (.inl rfl)⟩
  · refine ⟨hs, habs, List.pairwise_cons.mpr ⟨List.forall_mem_map.mpr h.evLt, h.sortedN⟩,
      List.forall_mem_cons.mpr ⟨Nat.lt_succ_self _, fun e he => Nat.lt_succ_of_lt (h.evLt e he)⟩,
      List.nodup_cons.mpr ⟨fun hm => ?_, h.evIds⟩, List.forall_mem_cons.mpr ⟨hevid ▸ hop, h.evOp⟩,
      List.forall_mem_cons.mpr ⟨?_, hids ▸ h.evFrame⟩, hids ▸ h.ids,
      hfr fun g hg _ => pcOk_next (.inr ⟨_, rfl, rfl, hevid ▸ (hother g hg).symm⟩)⟩
    · obtain ⟨e, he, hee⟩ := List.mem_map.mp hm
      exact hno e he (hee.trans hevid)
    · rw [hevid, ← hid]
      exact List.mem_map_of_mem (List.mem_append_right _ (List.mem_cons_self ..))

theorem evOf_shape (h : evOf n id op = some ev) :
    ev.n = n ∧ ev.id = id ∧ op = cellOp ev.key ev.cell := by
  cases op <;> cases h <;> exact ⟨rfl, rfl, rfl⟩

theorem rinv_act
    (h : RInv ops s (pre ++ f :: post) n log) (op : SOp) (hop : ops.lookup f.id = some op)
    (hb : f.b = none ∨ ∃ b, f.b = some b ∧ b < n) (hno : ∀ ev ∈ log, ev.id ≠ f.id) :
    RInv ops (doAct s op).1
      (pre ++ { f with pc := (doAct s op).2, b := f.b.orElse (fun _ => some n),
                       e := if SPc.isDone (doAct s op).2 then some n else none } :: post) (n + 1)
      (match evOf n f.id op with | some ev => ev :: log | none => log) := by
  obtain ⟨a1, a2, a3⟩ := act_spec (n := n) (id := f.id) op h.sok h.abs h.evLt hno
  obtain ⟨b, hb1, hb2⟩ : ∃ b, f.b.orElse (fun _ => some n) = some b ∧ b ≤ n := by
    rcases hb with hb | ⟨b, hb, hbn⟩
    · exact ⟨n, by rw [hb]; rfl, Nat.le_refl _⟩
    · exact ⟨b, by rw [hb]; rfl, Nat.le_of_lt hbn⟩
  refine rinv_upd h rfl ?_ a1 a2 ⟨op, hop, ?_⟩
  · cases hev : evOf n f.id op with
    | none => exact Or.inl rfl
    | some ev =>
      obtain ⟨e1, e2, e3⟩ := evOf_shape hev
      exact Or.inr ⟨ev, rfl, e1, e2, hno, by rw [hop, e3]⟩
  · unfold PcOk
    rcases doAct_pc s op with d2 | d2
    · simp only [d2, SPc.isDone]
      exact ⟨b, n, hb1, hb2, Nat.lt_succ_self n, rfl, a3⟩
    · simp only [d2, SPc.isDone]
      exact ⟨b, n, n, hb1, rfl, hb2, Nat.le_refl n, Nat.lt_succ_self n, a3⟩

/-- without the LSM read path, a fresh frame behaves as one that still has all its latency segments to wait -/
theorem stepS_start (hl : lsmStart s op = none) :
    stepS s (.start op) = stepS s (.wait op (yieldsBefore s op)) ∧
    actsNow s (.start op) = actsNow s (.wait op (yieldsBefore s op)) := by
  simp only [stepS, actsNow, hl]
  cases yieldsBefore s op <;> exact ⟨rfl, rfl⟩

theorem rinv_wait
    (h : RInv ops s (pre ++ f :: post) n log) (op : SOp) (j : Nat) (hop : ops.lookup f.id = some op)
    (hb : f.b = none ∨ ∃ b, f.b = some b ∧ b < n) (hno : ∀ ev ∈ log, ev.id ≠ f.id) :
    RInv ops (stepS s (.wait op j)).1
      (pre ++ { f with pc := (stepS s (.wait op j)).2, b := f.b.orElse (fun _ => some n),
                       e := if SPc.isDone (stepS s (.wait op j)).2 then some n else none } :: post) (n + 1)
      (match (actsNow s (.wait op j)).bind (evOf n f.id) with | some ev => ev :: log | none => log) := by
  cases j with
  | zero => exact rinv_act h op hop hb hno
  | succ j =>
    refine rinv_upd h rfl (Or.inl rfl) h.sok h.abs ⟨op, hop, rfl, ?_, rfl, hno⟩
    rcases hb with hb | ⟨b, hb, hbn⟩
    · exact ⟨n, by rw [hb]; rfl, Nat.lt_succ_self n⟩
    · exact ⟨b, by rw [hb]; rfl, Nat.lt_succ_of_lt hbn⟩

theorem rinv_step
    (h : RInv ops s fs n log) (id : Nat) :
    RInv ops (stepFrames stepS SPc.isDone s n id fs).1 (stepFrames stepS SPc.isDone s n id fs).2 (n + 1)
      (ghostStep s n id fs log) := by
  rcases stepFrames_cases stepS SPc.isDone s n id fs with ⟨hfind, heq⟩ | ⟨pre, f, post, hfs, hfind, hfid, hnd, heq, -⟩
  · have hlog : ghostStep s n id fs log = log := by
      unfold ghostStep
      rcases hfind with hf | ⟨⟨_, pc, _, _⟩, hf, hd⟩
      · rw [hf]
      · rw [hf]
        cases pc <;> first | rfl | cases hd
    rw [heq, hlog]
    exact ⟨h.sok, h.abs, h.sortedN, fun ev hev => Nat.lt_succ_of_lt (h.evLt ev hev), h.evIds, h.evOp, h.evFrame, h.ids,
      fun g hg => (h.frames g hg).imp fun op ho => ⟨ho.1, pcOk_next (.inl rfl) ho.2⟩⟩
  · subst hfs hfid
    obtain ⟨op, hop, hpc⟩ := h.frames f (List.mem_append_right _ (List.mem_cons_self ..))
    have hg : ghostStep s n f.id (pre ++ f :: post) log =
        match (actsNow s f.pc).bind (evOf n f.id) with | some ev => ev :: log | none => log := by
      unfold ghostStep; rw [hfind]
    rw [heq, hg]
    unfold PcOk at hpc
    cases hp : f.pc with
    | start op' =>
      rw [hp] at hpc
      obtain ⟨rfl, hb, he, hno⟩ := hpc
      obtain ⟨e1, e2⟩ := stepS_start (sok_nolsm h.sok op')
      rw [e1, e2]
      exact rinv_wait h op' _ hop (Or.inl hb) hno
    | wait op' j =>
      rw [hp] at hpc
      obtain ⟨rfl, hb, he, hno⟩ := hpc
      exact rinv_wait h op' j hop (Or.inr hb) hno
    | fin r =>
      rw [hp] at hpc
      obtain ⟨b, a, hb, hba, han, he, hact⟩ := hpc
      refine rinv_upd h rfl (Or.inl rfl) h.sok h.abs ⟨op, hop, ?_⟩
      exact ⟨b, a, n, by rw [hb]; rfl, rfl, hba, Nat.le_of_lt han, Nat.lt_succ_self n, hact⟩
    | done r => rw [hp] at hnd; cases hnd
    | lsmGet p => rw [hp] at hpc; exact hpc.elim

end HappyModel.C14.SM.SR
