/-! Lists of pairs read as maps from the first component: `List.lookup k` or `find? (·.1 == k)` reads, a `filter` on the
    keys removes. -/
namespace HappyModel
variable {κ : Type _} [BEq κ] [LawfulBEq κ] {β : Type _}

theorem mem_of_lookup {l : List (κ × β)} {k : κ} {v : β} (h : l.lookup k = some v) : (k, v) ∈ l := by
  obtain ⟨l₁, l₂, rfl, _⟩ := List.lookup_eq_some_iff.1 h
  simp

theorem lookup_filter_key (p : κ → Bool) (k : κ) :
    ∀ m : List (κ × β), (m.filter fun e => p e.1).lookup k = if p k then m.lookup k else none
  | [] => by cases p k <;> rfl
  | (k1, v1) :: r => by
    have ih := lookup_filter_key p k r
    rw [List.filter_cons]
    by_cases hk : k = k1
    · subst hk; cases hp : p k <;> simp [hp, ih]
    · have hk' : (k == k1) = false := by simpa using hk
      cases p k1 <;> simp [hk', List.lookup_cons, ih]

theorem find?_filter_ne (l : List (κ × β)) {k k' : κ} (h : k' ≠ k) :
    (l.filter (·.1 != k)).find? (·.1 == k') = l.find? (·.1 == k') := by
  rw [List.find?_filter]
  congr 1; funext x
  by_cases hx : x.1 = k'
  · simp [hx, h]
  · simp [hx]

end HappyModel
