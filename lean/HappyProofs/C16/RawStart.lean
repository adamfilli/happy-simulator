import HappyProofs.C16.RawExt
/-!
Read-after-write over every interleaving: the first segment of every operation keeps the
invariant (repaired store).
-/
namespace HappyModel.C16

variable {R : WOrd}

theorem bump_epoch_self (cfg : Cfg) (hrep : cfg.rep = true) (s : St) (k : Key) :
    cnt (s.bump cfg k).epoch k = cnt s.epoch k + 1 := by
  simp only [St.bump, hrep, if_true]; exact cnt_aset_self _ _ _

theorem bump_epoch_other (cfg : Cfg) (s : St) (k x : Key) (h : x ≠ k) :
    cnt (s.bump cfg k).epoch x = cnt s.epoch x := by
  unfold St.bump; split
  · exact cnt_aset_other _ _ _ _ h
  · rfl

theorem bump_epoch_le (cfg : Cfg) (s : St) (k x : Key) : cnt s.epoch x ≤ cnt (s.bump cfg k).epoch x := by
  unfold St.bump; split
  · by_cases e : x = k
    · subst e; rw [cnt_aset_self]; omega
    · rw [cnt_aset_other _ _ _ _ e]; exact Nat.le_refl _
  · exact Nat.le_refl _

theorem rinvG_bump (cfg : Cfg) {g : Gh} {s : St} (h : RInvG R g s) (k : Key) : RInvG R g (s.bump cfg k) := by
  refine ⟨h.gi, h.pi.mut (bump_pend cfg s k) (bump_infl cfg s k), ⟨?_, ?_, ?_, ?_⟩, h.d⟩
  · rw [bump_dirty, bump_cache]; exact h.vi.dsub
  · rw [bump_cache]; exact h.vi.c
  · intro x hx
    rw [bump_dirty] at hx
    rw [bump_back]
    exact (h.vi.b x hx).anti (fun j _ hp hb => hp ((bp_of_pend (bump_pend cfg s k) x j).mpr hb))
  · intro i x e hm
    rw [bump_pend] at hm
    obtain ⟨h1, h2, h3⟩ := h.vi.miss i x e hm
    rw [bump_back, bump_dirty]
    refine ⟨h1, Nat.le_trans h2 (bump_epoch_le cfg s k x), fun he => h3 ?_⟩
    by_cases e' : x = k
    · have := bump_epoch_le cfg s k x
      subst e'
      by_cases hrep : cfg.rep = true
      · rw [bump_epoch_self cfg hrep] at he; omega
      · simpa [St.bump, hrep] using he
    · rw [bump_epoch_other cfg s k x e'] at he; exact he

theorem miss_lt_bump (cfg : Cfg) (hrep : cfg.rep = true) {g : Gh} {s : St} (h : RInvG R g s) (k : Key) {j e : Nat}
    (hm : (j, Pend.getMiss k e) ∈ s.pend) : e < cnt (s.bump cfg k).epoch k := by
  have := (h.vi.miss j k e hm).2.1
  rw [bump_epoch_self cfg hrep]
  omega

theorem RInvG.mut {g : Gh} {s s' : St} (h : RInvG R g s) (m : Mut R g s s') : RInvG R g s' :=
  ⟨h.gi, h.pi.mut m.pend m.infl, h.vi.mut m, h.d⟩


theorem ext_start_nw (L : OrdLaws R) {g : Gh} {sm s' : St} {i : Nat} {op : OpK} {o : Obs} {extra : List (Nat × Pend)}
    (h : RInvG R g sm) (hi : i ∉ g.started) (hop : (i, op) ∈ g.ops) (hoi : o.i = i)
    (hw : wk op = none)
    (hc : s'.cache = sm.cache) (hd : s'.dirty = sm.dirty) (hb : s'.back = sm.back)
    (he : s'.epoch = sm.epoch) (hin : s'.infl = sm.infl)
    (hpend : s'.pend = sm.pend ++ extra)
    (hextra : extra = [] ∨ ∃ p, extra = [(i, p)] ∧ PendOf op p ∧ o.res = none ∧ bwKey p = none)
    (hres : o.res.isSome → ∀ k, op ≠ .get k)
    (hhit : ∀ v, (i, Pend.getHit v) ∈ extra → ∀ k, op = .get k → aget? sm.cache k = some v)
    (hmiss : ∀ k e, (i, Pend.getMiss k e) ∈ extra → k ∉ akeys sm.cache ∧ e = cnt sm.epoch k) :
    RInvG R (g.ext o [i]) s' := by
  have hwn : ∀ k, wk op ≠ some k := fun k e => by rw [hw] at e; cases e
  have hbw : ∀ k, keyCount bwKey extra k = 0 := by
    intro k
    rcases hextra with e | ⟨p, e, _, _, hp⟩
    · rw [e]; rfl
    · rw [e, keyCount_cons, hp]; rfl
  exact ext_start L h hi hop hoi hpend
    (hextra.imp id (fun ⟨p, e, h1, h2, _⟩ => ⟨p, e, h1, h2⟩)) hres
    (fun k => by rw [hin, hbw]; rfl) (fun k => by rw [he]; exact Nat.le_refl _) hb
    (fun x hx => by rw [hd]; exact hx) (fun x _ => by rw [hc]) (fun x _ hx => by rw [← hd]; exact hx)
    (fun x _ => by rw [he]) (fun k _ hk => absurd hk (hwn k)) (fun k hk => absurd hk (hwn k))
    (fun k hk => absurd hk (hwn k)) (by rw [hd, hc]; exact h.vi.dsub) hhit hmiss (fun hs => by rw [hw] at hs; cases hs)


theorem raw_start_done (L : OrdLaws R) {g : Gh} {s : St} {i : Nat} {op : OpK} {o : Obs} (h : RInvG R g s) (hi : i ∉ g.started)
    (hop : (i, op) ∈ g.ops) (hoi : o.i = i) (hw : wk op = none) (hng : ∀ k, op ≠ .get k) :
    RInvG R (g.ext o [i]) s :=
  ext_start_nw L (extra := []) h hi hop hoi hw rfl rfl rfl rfl rfl (List.append_nil _).symm (Or.inl rfl)
    (fun _ => hng) (fun _ hm => nomatch hm) (fun _ _ hm => nomatch hm)

theorem raw_start_get (L : OrdLaws R) (cfg : Cfg) {g : Gh} {s : St} (h : RInvG R g s) (i : Nat) (k : Key) (now : Nat)
    (hi : i ∉ g.started) (hop : (i, OpK.get k) ∈ g.ops) (o : Obs) (hoi : o.i = i)
    (hor : o.res = (start cfg s i (.get k) now).2) :
    RInvG R (g.ext o [i]) (start cfg s i (.get k) now).1 := by
  unfold start at hor ⊢
  cases hv : aget? s.cache k with
  | some v =>
    simp only [hv] at hor ⊢
    refine ext_start_nw L (extra := [(i, .getHit v)]) h hi hop hoi rfl rfl rfl rfl rfl rfl rfl
      (Or.inr ⟨_, rfl, trivial, hor, rfl⟩) (by rw [hor]; exact nofun) ?_ (fun _ _ hm => by simp at hm)
    intro v' hm k' hk'
    cases hk'
    cases List.mem_singleton.mp hm
    exact hv
  | none =>
    simp only [hv] at hor ⊢
    refine ext_start_nw L (extra := [(i, .getMiss k (cnt s.epoch k))]) h hi hop hoi rfl rfl rfl rfl rfl rfl rfl
      (Or.inr ⟨_, rfl, rfl, hor, rfl⟩) (by rw [hor]; exact nofun) (fun _ hm => by simp at hm) ?_
    intro k' e hm
    cases List.mem_singleton.mp hm
    exact ⟨(aget?_none_iff _ _).mp hv, rfl⟩

theorem raw_start_inv (L : OrdLaws R) (cfg : Cfg) (hrep : cfg.rep = true) {g : Gh} {s : St} (h : RInvG R g s) (i : Nat) (k : Key)
    (now : Nat) (hi : i ∉ g.started) (hop : (i, OpK.inv k) ∈ g.ops) (o : Obs) (hoi : o.i = i) :
    RInvG R (g.ext o [i]) (start cfg s i (.inv k) now).1 := by
  unfold start
  by_cases hk : k ∈ akeys s.cache
  · simp only [hk, if_true, hrep]
    exact raw_start_done L (h.mut (mut_remove h.vi k)) hi hop hoi rfl nofun
  · simp only [hk, if_false]
    exact raw_start_done L h hi hop hoi rfl nofun

theorem raw_start_invAll (L : OrdLaws R) (cfg : Cfg) (hrep : cfg.rep = true) {g : Gh} {s : St} (h : RInvG R g s) (i : Nat)
    (now : Nat) (hi : i ∉ g.started) (hop : (i, OpK.invAll) ∈ g.ops) (o : Obs) (hoi : o.i = i) :
    RInvG R (g.ext o [i]) (start cfg s i .invAll now).1 := by
  unfold start
  simp only [hrep, if_true]
  exact raw_start_done L (h.mut (mut_invAll h.vi rfl rfl rfl (writeBackAll_pend _ _)
    (writeBackAll_epoch _ _) (writeBackAll_infl _ _))) hi hop hoi rfl nofun

theorem raw_start_flush (L : OrdLaws R) (cfg : Cfg) (hrep : cfg.rep = true) {g : Gh} {s : St} (h : RInvG R g s) (i : Nat)
    (order order' : List Key) (now : Nat) (hi : i ∉ g.started) (hop : (i, OpK.flush order') ∈ g.ops)
    (o : Obs) (hoi : o.i = i) (hor : o.res = (start cfg s i (.flush order) now).2) :
    RInvG R (g.ext o [i]) (start cfg s i (.flush order) now).1 := by
  unfold start at hor ⊢
  simp only at hor ⊢
  rcases flushNext_rep cfg hrep s i order 0 with ⟨k, rest, n', e⟩ | ⟨n', e⟩
  · rw [e] at hor ⊢
    exact ext_start_nw L (extra := [(i, .flushRep k rest n')]) h hi hop hoi rfl rfl rfl rfl rfl rfl rfl
      (Or.inr ⟨_, rfl, trivial, hor, rfl⟩) (by rw [hor]; exact nofun)
      (fun v hm => by simp at hm) (fun k' e hm => by simp at hm)
  · rw [e]
    exact raw_start_done L h hi hop hoi rfl nofun

theorem wk_put (k v : Nat) (x : Key) : wk (.put k v) = some x ↔ x = k := wk_iff rfl

theorem wk_del (k : Nat) (x : Key) : wk (.del k) = some x ↔ x = k := wk_iff rfl

/-- first segment of a write of `val` to `k`; `sm` is the state after the epoch bump, the evictions and the
write-backs, which satisfies the invariant in the old context -/
theorem ext_start_w (L : OrdLaws R) {g : Gh} {sm s' : St} {i : Nat} {op : OpK} {o : Obs} {p : Pend} {k : Key} {val : Option Nat}
    (h : RInvG R g sm) (hi : i ∉ g.started) (hop : (i, op) ∈ g.ops) (hoi : o.i = i)
    (hw : wkv op = some (k, val)) (hpo : PendOf op p) (hor : o.res = none)
    (hpend : s'.pend = sm.pend ++ [(i, p)]) (hback : s'.back = sm.back) (hepoch : s'.epoch = sm.epoch)
    (hck : aget? s'.cache k = val) (hco : ∀ x, x ≠ k → aget? s'.cache x = aget? sm.cache x)
    (hmode : (bwKey p = some k ∧ s'.infl = aset sm.infl k (cnt sm.infl k + 1) ∧ s'.dirty = sm.dirty) ∨
      (bwKey p = none ∧ s'.infl = sm.infl ∧ s'.dirty = setAdd sm.dirty k))
    (hdk : k ∈ s'.dirty → val.isSome)
    (hkm : ∀ j e, (j, Pend.getMiss k e) ∈ sm.pend → e < cnt sm.epoch k)
    (hissue : (wk op).isSome → ∀ j, j ∈ (g.ext o [i]).started → R (g.evs ++ [o]) i j) :
    RInvG R (g.ext o [i]) s' := by
  have hwk : ∀ {x}, wk op = some x ↔ x = k := wk_iff hw
  have hdo : ∀ x, x ≠ k → (x ∈ s'.dirty ↔ x ∈ sm.dirty) := by
    intro x hx
    rcases hmode with ⟨_, _, e⟩ | ⟨_, _, e⟩
    · rw [e]
    · rw [e, mem_setAdd]; exact ⟨fun h => h.resolve_right hx, Or.inl⟩
  have hng : ∀ x, op ≠ .get x := fun x e => by rw [e] at hw; cases hw
  refine ext_start L (extra := [(i, p)]) h hi hop hoi hpend (Or.inr ⟨p, rfl, hpo, hor⟩)
    (Obs.of_res_none hor) ?_ (fun x => hepoch ▸ Nat.le_refl _) hback ?_
    (fun x hx => hco x (mt hwk.mpr hx)) (fun x hx => (hdo x (mt hwk.mpr hx)).mp) (fun x _ => by rw [hepoch]) ?_ ?_ ?_ ?_ ?_ ?_ hissue
  · intro x
    rw [keyCount_cons]
    rcases hmode with ⟨hb, e, _⟩ | ⟨hb, e, _⟩
    · rw [e, hb]
      by_cases hx : x = k
      · subst hx; rw [cnt_aset_self, if_pos rfl]; rfl
      · rw [cnt_aset_other _ _ _ _ hx, if_neg (fun e' => hx (Option.some.inj e').symm)]; rfl
    · rw [e, hb]; rfl
  · intro x hx
    rcases hmode with ⟨_, _, e⟩ | ⟨_, _, e⟩
    · rw [e]; exact hx
    · rw [e, mem_setAdd]; exact Or.inl hx
  · intro x v hx hv
    obtain rfl := hwk.mp hx
    rw [hw, ← hck, hv]
  · intro x hx
    obtain rfl := hwk.mp hx
    rcases hmode with ⟨hb, _, _⟩ | ⟨_, _, e⟩
    · exact Or.inr ⟨p, hpend ▸ List.mem_append_right _ (List.mem_singleton_self _), hb⟩
    · exact Or.inl (e ▸ (mem_setAdd _ _ _).mpr (Or.inr rfl))
  · intro x hx j e hm
    obtain rfl := hwk.mp hx
    rw [hepoch]; exact hkm j e hm
  · intro x hx
    by_cases e : x = k
    · subst e
      obtain ⟨v, hv⟩ := Option.isSome_iff_exists.mp (hdk hx)
      exact mem_akeys_of_some _ _ _ (hck.trans hv)
    · obtain ⟨v, hv⟩ := some_of_mem_akeys _ _ (h.vi.dsub x ((hdo x e).mp hx))
      exact mem_akeys_of_some _ _ _ ((hco x e).trans hv)
  · intro v hm x e
    exact absurd e (hng x)
  · intro x e hm
    cases List.mem_singleton.mp hm
    exact absurd hpo.op (hng x)

theorem raw_start_put (L : OrdLaws R) (cfg : Cfg) (hrep : cfg.rep = true) {g : Gh} {s : St} (h : RInvG R g s) (i : Nat)
    (k v : Nat) (now : Nat) (hi : i ∉ g.started) (hop : (i, OpK.put k v) ∈ g.ops) (o : Obs) (hoi : o.i = i)
    (hor : o.res = (start cfg s i (.put k v) now).2)
    (hissue : o.res = none → ∀ j, j ∈ (g.ext o [i]).started → R (g.evs ++ [o]) i j) :
    RInvG R (g.ext o [i]) (start cfg s i (.put k v) now).1 := by
  have h0 := rinvG_bump cfg h k
  obtain ⟨pe, pol', m, e⟩ := cachePut_split cfg hrep (s.bump cfg k) k v now h0.vi
  have hkm : ∀ j e, (j, Pend.getMiss k e) ∈ pe.pend → e < cnt pe.epoch k := fun j e hm => by
    rw [m.pend, bump_pend] at hm
    rw [m.epoch]; exact miss_lt_bump cfg hrep h k hm
  have hor : o.res = none := by rw [hor]; unfold start; dsimp only; split <;> rfl
  unfold start
  simp only [e, St.inflInc, hrep, if_true]
  by_cases hwt : cfg.wt = true
  · simp only [hwt, if_true]
    exact ext_start_w L (sm := pe) (p := .putWT k v) (h0.mut m) hi hop hoi rfl ⟨rfl, rfl⟩ hor rfl rfl rfl
      (aget?_aset_self _ _ _) (fun x hx => aget?_aset_other _ _ _ _ hx) (Or.inl ⟨rfl, rfl, rfl⟩) (fun _ => rfl) hkm (fun _ => hissue hor)
  · simp only [hwt]
    exact ext_start_w L (sm := pe) (p := .putWB) (h0.mut m) hi hop hoi rfl trivial hor rfl rfl rfl
      (aget?_aset_self _ _ _) (fun x hx => aget?_aset_other _ _ _ _ hx) (Or.inr ⟨rfl, rfl, rfl⟩) (fun _ => rfl) hkm (fun _ => hissue hor)

theorem raw_start_del (L : OrdLaws R) (cfg : Cfg) (hrep : cfg.rep = true) {g : Gh} {s : St} (h : RInvG R g s) (i : Nat)
    (k : Nat) (now : Nat) (hi : i ∉ g.started) (hop : (i, OpK.del k) ∈ g.ops) (o : Obs) (hoi : o.i = i)
    (hor : o.res = (start cfg s i (.del k) now).2)
    (hissue : o.res = none → ∀ j, j ∈ (g.ext o [i]).started → R (g.evs ++ [o]) i j) :
    RInvG R (g.ext o [i]) (start cfg s i (.del k) now).1 := by
  have h0 := rinvG_bump cfg h k
  -- from the state `s1` after the optional write-back and removal
  have key : ∀ (s1 : St) (b : Bool), Mut R g (s.bump cfg k) s1 → k ∉ akeys s1.cache →
      RInvG R (g.ext o [i]) (({ s1 with infl := aset s1.infl k (cnt s1.infl k + 1) } : St).setPend i (.del k b)) := by
    intro s1 b m hk1
    have h1 := h0.mut m
    refine ext_start_w L (sm := s1) (p := .del k b) h1 hi hop hoi rfl rfl hor rfl rfl rfl
      ((aget?_none_iff _ _).mpr hk1) (fun _ _ => rfl) (Or.inl ⟨rfl, rfl, rfl⟩)
      (fun hd => absurd (h1.vi.dsub k hd) hk1) (fun j e hm => ?_) (fun _ => hissue hor)
    rw [m.pend, bump_pend] at hm
    rw [m.epoch]; exact miss_lt_bump cfg hrep h k hm
  unfold start
  simp only [St.inflInc, hrep, if_true]
  by_cases hk : k ∈ akeys (s.bump cfg k).cache
  · simp only [hk, decide_true, if_true]
    refine key _ true (mut_remove h0.vi k) ?_
    show k ∉ akeys (adel ((s.bump cfg k).writeBack k).cache k)
    rw [mem_akeys_adel]; exact fun hh => hh.2 rfl
  · simp only [hk, decide_false]
    exact key _ false (Mut.refl h0.vi) hk

end HappyModel.C16
