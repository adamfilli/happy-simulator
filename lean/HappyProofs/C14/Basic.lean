import HappyModel.C14.Spec
import HappyProofs.Lib.Lists
import HappyProofs.Lib.Keyed
/-! Short names are reused across the namespaces of this directory: `RInv` is a suspended reader's invariant in `C14`,
    the store run's in `SM.SR`, the transaction machines' in `SM` and `SM.LM`; `Ev`, `Eff`, `evOf`, `obsOf`, `Frame`,
    `stepFrames`, `inRange`, `lookup_inRange`, `rinv_run`, `sorted_nil`, among others, exist twice.  A `#check` in the wrong
    namespace answers with the other one. -/
namespace HappyModel.C14

theorem lookup_cons_ite {β : Type} (a k : Nat) (b : β) (m : List (Nat × β)) :
    List.lookup a ((k, b) :: m) = if a = k then some b else List.lookup a m := by
  rw [List.lookup_cons]
  by_cases h : a = k
  · simp [h]
  · simp [h, beq_false_of_ne h]

theorem eq_of_nodup_filterMap {α β : Type} (g : α → Option β) : ∀ {l : List α}, (l.filterMap g).Nodup →
    ∀ a ∈ l, ∀ b ∈ l, ∀ v, g a = some v → g b = some v → a = b
  | [], _, a, ha, _, _, _, _, _ => by cases ha
  | x :: xs, h, a, ha, b, hb, v, hga, hgb => by
    rw [List.filterMap_cons] at h
    have hm : ∀ c ∈ xs, g c = some v → v ∈ xs.filterMap g := fun c hc hg => List.mem_filterMap.mpr ⟨c, hc, hg⟩
    rcases List.mem_cons.mp ha with rfl | ha' <;> rcases List.mem_cons.mp hb with rfl | hb'
    · rfl
    · rw [hga] at h
      exact absurd (hm b hb' hgb) (List.nodup_cons.mp h).1
    · rw [hgb] at h
      exact absurd (hm a ha' hga) (List.nodup_cons.mp h).1
    · have h' : (xs.filterMap g).Nodup := by
        cases hx : g x with
        | none => rw [hx] at h; exact h
        | some u => rw [hx] at h; exact (List.nodup_cons.mp h).2
      exact eq_of_nodup_filterMap g h' a ha' b hb' v hga hgb

theorem ne_of_nodup_mid {α : Type} (f : α → Nat) {pre post : List α} {x : α} (h : ((pre ++ x :: post).map f).Nodup)
    {g : α} (hg : g ∈ pre ∨ g ∈ post) : f g ≠ f x := by
  simp only [List.map_append, List.map_cons, List.nodup_append, List.nodup_cons, List.mem_map, List.mem_cons] at h
  rcases hg with hg | hg
  · exact fun e => h.2.2 (f g) ⟨g, hg, rfl⟩ (f x) (.inl rfl) e
  · exact fun e => h.2.1.1 ⟨g, hg, e⟩

theorem value_names_id {α : Type} {ops : List (Nat × α)} (val : α → Option Nat)
    (hv : (ops.filterMap fun o => val o.2).Nodup) {i j : Nat} {a b : α} {v : Nat}
    (hi : ops.lookup i = some a) (hj : ops.lookup j = some b) (ha : val a = some v) (hb : val b = some v) : i = j :=
  congrArg Prod.fst (eq_of_nodup_filterMap (fun o => val o.2) hv (i, a) (mem_of_lookup hi) (j, b) (mem_of_lookup hj) v ha hb)

theorem split_notin {α : Type} {pre post : List (Nat × α)} {o : Nat × α}
    (hnd : ((pre ++ o :: post).map (·.1)).Nodup) : (∀ a ∈ pre, a.1 ≠ o.1) ∧ (∀ a ∈ post, a.1 ≠ o.1) :=
  ⟨fun _ ha => ne_of_nodup_mid (·.1) hnd (.inl ha), fun _ ha => ne_of_nodup_mid (·.1) hnd (.inr ha)⟩

theorem lookup_of_split {α : Type} {ops pre post : List (Nat × α)} {o : Nat × α}
    (hnd : (ops.map (·.1)).Nodup) (h : ops = pre ++ o :: post) : ops.lookup o.1 = some o.2 :=
  List.lookup_eq_some_iff.2 ⟨pre, post, h, fun p hp =>
    bne_iff_ne.2 fun e => (split_notin (h ▸ hnd)).1 p hp e.symm⟩

theorem mem_lookup {α : Type} {ops : List (Nat × α)} {a : Nat × α} (hnd : (ops.map (·.1)).Nodup) (h : a ∈ ops) :
    ops.lookup a.1 = some a.2 := by
  obtain ⟨s, t, e⟩ := List.append_of_mem h
  exact lookup_of_split hnd e

theorem lookup_none_of_not_mem {β : Type} (k : Nat) (m : List (Nat × β)) (h : k ∉ m.map (·.1)) : m.lookup k = none :=
  List.lookup_eq_none_iff.mpr fun _ hp => bne_iff_ne.mpr fun e => h (e ▸ List.mem_map_of_mem hp)

theorem lookup_ne_none_iff {β : Type} {m : List (Nat × β)} {k : Nat} : m.lookup k ≠ none ↔ k ∈ m.map (·.1) :=
  ⟨fun h => Classical.byContradiction fun hk => h (lookup_none_of_not_mem k m hk), fun h hn => by
    obtain ⟨p, hp, rfl⟩ := List.mem_map.mp h
    exact bne_iff_ne.mp (List.lookup_eq_none_iff.mp hn p hp) rfl⟩

/-- `inRange` of the LSM payloads and `BT.inRange` of the B-tree leaves and the KV dict are this filter -/
theorem lookup_filter_range {β : Type} (lo hi k : Nat) (m : List (Nat × β)) :
    (m.filter fun e => lo ≤ e.1 && e.1 < hi).lookup k = if lo ≤ k ∧ k < hi then m.lookup k else none := by
  rw [lookup_filter_key fun x => decide (lo ≤ x) && decide (x < hi)]
  simp only [Bool.and_eq_true, decide_eq_true_eq]

theorem sortedStrict_of_pairwise : ∀ (d : List (Key × Nat)), (d.map (·.1)).Pairwise (· < ·) → sortedStrict d = true
  | [], _ => rfl
  | [_], _ => rfl
  | a :: b :: r, h => by
    simp only [List.map_cons, List.pairwise_cons] at h
    simp only [sortedStrict, Bool.and_eq_true, decide_eq_true_eq]
    refine ⟨h.1 b.1 (by simp), sortedStrict_of_pairwise (b :: r) ?_⟩
    simp only [List.map_cons, List.pairwise_cons]
    exact h.2

theorem lookup_ins (k k' : Key) (c : Cell) (d : Data) :
    (ins k c d).lookup k' = if k' = k then some c else d.lookup k' := by
  induction d with
  | nil => exact lookup_cons_ite ..
  | cons hd tl ih =>
    obtain ⟨k0, c0⟩ := hd
    unfold ins
    by_cases h1 : k < k0
    · rw [if_pos h1, lookup_cons_ite]
    · rw [if_neg h1]
      by_cases h2 : k = k0
      · subst h2
        rw [if_pos rfl, lookup_cons_ite, lookup_cons_ite]
        by_cases h : k' = k <;> simp [h]
      · rw [if_neg h2, lookup_cons_ite, ih, lookup_cons_ite]
        by_cases h : k' = k
        · subst h; simp [h2]
        · simp [h]

/-! Reads through table lists and level lists are first hits: `findSome?`, combined with `Option.or`. -/

theorem lookTabs_eq (k : Key) (l : List Tab) : lookTabs k l = l.findSome? (·.data.lookup k) := by
  induction l with
  | nil => rfl
  | cons t r ih => simp only [lookTabs, List.findSome?_cons, ih]; cases t.data.lookup k <;> rfl

theorem lookLevels_eq (k : Key) (ls : List (List Tab)) :
    lookLevels k ls = ls.findSome? fun l => lookTabs k l.reverse := by
  induction ls with
  | nil => rfl
  | cons l r ih => simp only [lookLevels, List.findSome?_cons, ih]; cases lookTabs k l.reverse <;> rfl

theorem lookTabs_nil (k : Key) : lookTabs k [] = none := rfl
theorem lookLevels_nil (k : Key) : lookLevels k [] = none := rfl

theorem lookTabs_cons (k : Key) (t : Tab) (r : List Tab) :
    lookTabs k (t :: r) = (t.data.lookup k).or (lookTabs k r) := by
  simp only [lookTabs]; cases t.data.lookup k <;> rfl

theorem lookTabs_or_append (k : Key) (a b : List Tab) :
    lookTabs k (a ++ b) = (lookTabs k a).or (lookTabs k b) := by
  simp only [lookTabs_eq, List.findSome?_append]

theorem lookLevels_cons (k : Key) (l : List Tab) (ls : List (List Tab)) :
    lookLevels k (l :: ls) = (lookTabs k l.reverse).or (lookLevels k ls) := by
  simp only [lookLevels]; cases lookTabs k l.reverse <;> rfl

theorem lookLevels_append (k : Key) (a b : List (List Tab)) :
    lookLevels k (a ++ b) = (lookLevels k a).or (lookLevels k b) := by
  simp only [lookLevels_eq, List.findSome?_append]

theorem read_eq (s : St) (k : Key) :
    s.read k = (s.mem.lookup k).or ((lookTabs k s.imms.reverse).or (lookLevels k s.levels)) := by
  unfold St.read
  cases s.mem.lookup k with
  | some c => rfl
  | none => cases lookTabs k s.imms.reverse <;> rfl

theorem lookLevels_replicate_nil (k : Key) (n : Nat) : lookLevels k (List.replicate n []) = none := by
  induction n with
  | zero => rfl
  | succ n ih => simp [List.replicate_succ, lookLevels_cons, ih, lookTabs_nil]

theorem filter_id_ne (id : Nat) (l : List Tab) (h : ∀ t ∈ l, t.id ≠ id) :
    l.filter (fun i => i.id != id) = l := by
  apply List.filter_eq_self.mpr
  intro t ht
  simp [h t ht]

end HappyModel.C14
