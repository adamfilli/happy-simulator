import HappyProofs.C10.Fixed
/-!
Leaky bucket, sliding window, fixed window: the admission bounds from **every reachable state**.  For each policy a
history invariant `…Hist c s hist now` relates the state to the list `hist` of everything admitted so far and contains
the bound for it; it holds of the fresh policy with the empty history and every call keeps it (`HStable`), so the bound
holds for the history followed by all future admissions.
-/
namespace HappyModel.C10

def LBHist (c : LBCfg) (s : LB) (hist : List Nat) (_now : Nat) : Prop :=
  spacingOK c.p c.one 0 hist = true ∧ s.last = hist.getLast?

theorem spacing_append (p one e : Nat) : ∀ (pre xs : List Nat), spacingOK p one e pre = true →
    (∀ l, pre.getLast? = some l → spacingOK p one e (l :: xs) = true) →
    (pre = [] → spacingOK p one e xs = true) → spacingOK p one e (pre ++ xs) = true
  | [], xs, _, _, h => by simpa using h rfl
  | [a], xs, _, h, _ => by simpa using h a rfl
  | a :: b :: rest, xs, h1, h2, _ => by
    simp only [spacingOK, Bool.and_eq_true, decide_eq_true_eq] at h1
    have ih := spacing_append p one e (b :: rest) xs h1.2
      (fun l hl => h2 l (by rw [List.getLast?_cons_cons]; exact hl)) (fun h => by cases h)
    simp only [List.cons_append, spacingOK, Bool.and_eq_true, decide_eq_true_eq]
    exact ⟨h1.1, by simpa using ih⟩

theorem lb_hist_init (c : LBCfg) : LBHist c ⟨none⟩ [] 0 := ⟨rfl, rfl⟩

theorem lb_hstable (c : LBCfg) : HStable (lbPolicy c) (LBHist c) :=
  (lbNorm c).hstable (fun _ _ _ _ h _ => h) (fun _ _ _ h => h)
    (fun r hist t ⟨h1, h2⟩ _ (hok : LB.ok c r t) => by
      refine ⟨spacing_append _ _ _ hist [t] h1 (fun l hl => ?_) (fun _ => rfl), by simp; rfl⟩
      unfold LB.ok at hok
      rw [h2, hl] at hok
      simpa [spacingOK] using hok)

/-- Leaky bucket, any reachable state: the history followed by all future admissions is correctly
    spaced (no assumption on times). -/
theorem leaky_spacing_reachable (c : LBCfg) (s : LB) (hist : List Nat) (now : Nat) (h : LBHist c s hist now)
    (ops : List Op) : spacingOK c.p c.one 0 (hist ++ (lbPolicy c).admitted s ops) = true :=
  ((lb_hstable c).run_any (fun _ _ _ _ h => h) ops s hist now h).1

/-- `hist` = entries already pruned (all expired before `now`) followed by the log; it satisfies the bound -/
def SWHist (c : WCfg) (s : SW) (hist : List Nat) (now : Nat) : Prop :=
  ∃ dropped, hist = dropped ++ s.log ∧ (∀ e ∈ dropped, e + c.W < now) ∧
    ∀ a, cnt a (a + c.W) hist ≤ c.N

theorem sw_hist_init (c : WCfg) : SWHist c ⟨[]⟩ [] 0 :=
  ⟨[], rfl, fun _ h => (nomatch h), fun _ => Nat.zero_le _⟩

theorem sw_hstable (c : WCfg) : HStable (swPolicy c) (SWHist c) :=
  (swNorm c).hstable (fun _ _ _ _ ⟨d, e, hd, hc⟩ ht => ⟨d, e, fun x hx => Nat.lt_of_lt_of_le (hd x hx) ht, hc⟩)
    (fun s hist t ⟨d, e, hd, hc⟩ => by
      obtain ⟨p1, p2⟩ := SW.prune_split c s d t hd
      exact ⟨_, e.trans p1.symm, p2, hc⟩)
    (fun r hist t ⟨d, e, hd, hc⟩ _ hok => by
      subst e
      exact ⟨d, List.append_assoc .., hd, cnt_admit c.W c.N t _ _ hd hok hc⟩)

/-- Sliding window, any reachable state: at most `N` admissions in every closed window `[a, a + W]` of
    the history followed by all future admissions. -/
theorem sliding_window_bound_reachable (c : WCfg) (s : SW) (hist : List Nat) (now : Nat)
    (h : SWHist c s hist now) (ops : List Op) (hm : MonoOps now ops) (a : Nat) :
    cnt a (a + c.W) (hist ++ (swPolicy c).admitted s ops) ≤ c.N := by
  obtain ⟨_, _, _, hc⟩ := (sw_hstable c).run ops s hist now h hm
  exact hc a

def FWHist (c : WCfg) (s : FW) (hist : List Nat) (now : Nat) : Prop :=
  FInv c s hist now ∧ ∀ k, cntWin c.W k hist ≤ c.N

theorem fw_hist_init (c : WCfg) : FWHist c ⟨none, 0⟩ [] 0 :=
  ⟨⟨fun _ => rfl, fun _ h => (nomatch h)⟩, fun _ => Nat.zero_le _⟩

theorem fw_hstable (c : WCfg) (hW : 0 < c.W) : HStable (fwPolicy c) (FWHist c) :=
  (fwNorm c).hstable
    (fun _ _ _ _ ⟨hi, hc⟩ ht =>
      ⟨⟨hi.1, fun w hw => by obtain ⟨k0, a1, a2, a3⟩ := hi.2 w hw; exact ⟨k0, a1, Nat.le_trans a2 ht, a3⟩⟩, hc⟩)
    (fun _ _ _ ⟨hi, hc⟩ => ⟨hi.reset hW, hc⟩)
    (fun r hist t ⟨hi, hc⟩ (hr : r.reset c t = r) (hok : r.cnt < c.N) =>
      have ⟨a, r3⟩ := hi.admitOk hW hr hok
      ⟨a, cntWin_admit c.W c.N t hist hc (Nat.lt_of_le_of_lt r3 hok)⟩)

/-- Fixed window, any reachable state: at most `N` per aligned window and `2N` per window-length
    interval, for the history followed by all future admissions. -/
theorem fixed_window_bounds_reachable (c : WCfg) (hW : 0 < c.W) (s : FW) (hist : List Nat) (now : Nat)
    (h : FWHist c s hist now) (ops : List Op) (hm : MonoOps now ops) :
    (∀ k, cntWin c.W k (hist ++ (fwPolicy c).admitted s ops) ≤ c.N) ∧
    (∀ a, cnt a (a + c.W) (hist ++ (fwPolicy c).admitted s ops) ≤ 2 * c.N) := by
  have h1 : ∀ k, cntWin c.W k (hist ++ (fwPolicy c).admitted s ops) ≤ c.N :=
    ((fw_hstable c hW).run ops s hist now h hm).2
  refine ⟨h1, fun a => ?_⟩
  have := cnt_le_two_windows c.W hW a (hist ++ (fwPolicy c).admitted s ops)
  have := h1 (a / c.W); have := h1 (a / c.W + 1)
  omega

end HappyModel.C10
