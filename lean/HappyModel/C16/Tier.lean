import HappyModel.C16.Store
/-!
Model of `MultiTierCache` (multi_tier_cache.py): a list of `CachedStore` tiers (the model `St` of
`Store.lean`, one per tier, each with its own `Cfg`) in front of ONE shared backing store, plus
`_access_counts`.  As in `Store.lean` the actions are generator segments (`start i op`, `resume i`);
which operation advances when is an input.

Tier-level code is not re-modelled: a tier method called by the multi-tier cache *is* the
corresponding segment of the `CachedStore` model, run on the tier with the shared backing store
plugged into its `back` field (`onTier`):
* `tier.get(key)` after `contains_cached`  = `start c s i (.get k)` / `step c s (.resume i)` (hit path),
* `tier.invalidate(key)` on every tier     = `sweep (.inv k)`,  `invalidate_all` = `sweep .invAll`,
* `tiers[0].put(key, value)`               = `start c s i (.put k v)` / `step c s (.resume i)`,
* `_maybe_promote` / `_cache_value`        = `cachePut` on tier 0.
`tget t k` is a read issued directly at tier `t` (the only way a tier below L1 gets populated).

Two variants (`MCfg.rep`):
* `current`  — the code before fixes/C16-multitier-consistency.diff (which /repo HEAD now contains);
* `repaired` — fixes/C16-multitier-consistency.diff: `put`/`delete` bump a per-key epoch when they
  start and when they return and count as in flight in between; a value read from a lower tier or
  from the backing store is promoted / filled into L1 only if no put/delete of the key started or
  returned since the read began and none is in flight; `delete` invalidates the tiers again once the
  backing delete has been applied, `put` the lower tiers once `tiers[0].put` has returned (a tier that
  is also read directly may have re-filled the key meanwhile).
-/
namespace HappyModel.C16.Tier
open HappyModel.C16

inductive Promo
  | always
  | never
  | second
deriving Repr, DecidableEq

structure MCfg where
  tiers : List Cfg
  promo : Promo
  rep : Bool
deriving Repr

inductive MOp
  | get (k : Key)
  | put (k : Key) (v : Nat)
  | del (k : Key)
  | inv (k : Key)
  | invAll
  | tget (t : Nat) (k : Key)
deriving Repr, DecidableEq

/-- what an operation will do when it is resumed -/
inductive MPend
  | tierGet (t : Nat) (k : Key) (e : Nat)   -- inside `tier.get` of tier `t`
  | backGet (k : Key) (e : Nat)             -- inside `backing_store.get`
  | putBack (k : Key) (v : Nat)             -- inside `backing_store.put`
  | putL1 (k : Key)                         -- inside `tiers[0].put`
  | delBack (k : Key)                       -- inside `backing_store.delete`
  | direct (t : Nat)                        -- a direct read at tier `t`
deriving Repr, DecidableEq

structure MSt where
  tiers : List St
  back : List (Key × Nat) := []
  acc : List (Key × Nat) := []
  epoch : List (Key × Nat) := []
  infl : List (Key × Nat) := []
  pend : List (Nat × MPend) := []
deriving Repr

/-- the tier as its own code sees it: in front of the shared backing store -/
def plug (s : St) (b : List (Key × Nat)) : St := { s with back := b }

/-- run tier-level code `f` on tier `t` -/
def onTier (cfg : MCfg) (ms : MSt) (t : Nat) (f : Cfg → St → St × Option Res) : MSt × Option Res :=
  match cfg.tiers[t]?, ms.tiers[t]? with
  | some c, some s =>
    ({ ms with tiers := ms.tiers.set t (f c (plug s ms.back)).1, back := (f c (plug s ms.back)).1.back },
     (f c (plug s ms.back)).2)
  | _, _ => (ms, none)

/-- `for tier in self._tiers: tier.invalidate(key)` (`op = .inv k`) / `tier.invalidate_all()` -/
def sweepL (op : OpK) : List Cfg → List St → List (Key × Nat) → List St × List (Key × Nat)
  | c :: cs, s :: ss, b =>
    ((start c (plug s b) 0 op 0).1 :: (sweepL op cs ss (start c (plug s b) 0 op 0).1.back).1,
     (sweepL op cs ss (start c (plug s b) 0 op 0).1.back).2)
  | _, ss, b => (ss, b)

def MSt.sweep (cfg : MCfg) (ms : MSt) (op : OpK) : MSt :=
  { ms with tiers := (sweepL op cfg.tiers ms.tiers ms.back).1, back := (sweepL op cfg.tiers ms.tiers ms.back).2 }

/-- the same over `self._tiers[1:]` -/
def MSt.sweepLow (cfg : MCfg) (ms : MSt) (op : OpK) : MSt :=
  { ms with tiers := ms.tiers.take 1 ++ (sweepL op (cfg.tiers.drop 1) (ms.tiers.drop 1) ms.back).1,
            back := (sweepL op (cfg.tiers.drop 1) (ms.tiers.drop 1) ms.back).2 }

/-- index of the first tier with `contains_cached(key)` -/
def firstHit (k : Key) : List St → Nat → Option Nat
  | [], _ => none
  | s :: ss, n => if k ∈ akeys s.cache then some n else firstHit k ss (n + 1)

def MSt.setPend (ms : MSt) (i : Nat) (p : MPend) : MSt := { ms with pend := ms.pend ++ [(i, p)] }
def MSt.clearPend (ms : MSt) (i : Nat) : MSt := { ms with pend := ms.pend.filter (·.1 != i) }

/-- repaired: a put/delete of `k` starts -/
def MSt.enter (cfg : MCfg) (ms : MSt) (k : Key) : MSt :=
  if cfg.rep then { ms with epoch := aset ms.epoch k (cnt ms.epoch k + 1), infl := aset ms.infl k (cnt ms.infl k + 1) }
  else ms
/-- repaired: it returns -/
def MSt.leave (cfg : MCfg) (ms : MSt) (k : Key) : MSt :=
  if cfg.rep then { ms with epoch := aset ms.epoch k (cnt ms.epoch k + 1), infl := aset ms.infl k (cnt ms.infl k - 1) }
  else ms

def MSt.fillAllowed (ms : MSt) (k : Key) (e : Nat) : Bool := cnt ms.epoch k == e && cnt ms.infl k == 0

def shouldPromote (cfg : MCfg) (ms : MSt) (k : Key) : Bool :=
  match cfg.promo with
  | .always => true
  | .never => false
  | .second => decide (2 ≤ cnt ms.acc k)

/-- `_maybe_promote` / `_cache_value`: `tiers[0]._cache_put(key, value)` -/
def MSt.fillL1 (cfg : MCfg) (ms : MSt) (k v now : Nat) : MSt :=
  (onTier cfg ms 0 (fun c s => (cachePut c s k v now, none))).1

/-- first segment of operation `i` -/
def mstart (cfg : MCfg) (ms : MSt) (i : Nat) (op : MOp) (now : Nat) : MSt × Option Res :=
  match op with
  | .get k =>
    match firstHit k ms.tiers 0 with
    | some t =>
      ((onTier cfg { ms with acc := aset ms.acc k (cnt ms.acc k + 1) } t
          (fun c s => start c s i (.get k) now)).1.setPend i (.tierGet t k (cnt ms.epoch k)), none)
    | none => (({ ms with acc := aset ms.acc k (cnt ms.acc k + 1) } : MSt).setPend i (.backGet k (cnt ms.epoch k)), none)
  | .put k v => ((ms.enter cfg k).setPend i (.putBack k v), none)
  | .del k => (((ms.enter cfg k).sweep cfg (.inv k)).setPend i (.delBack k), none)
  | .inv k => (ms.sweep cfg (.inv k), some .none)
  | .invAll => ({ ms.sweep cfg .invAll with acc := [] }, some .none)
  | .tget t k => ((onTier cfg ms t (fun c s => start c s i (.get k) now)).1.setPend i (.direct t), none)

/-- the tail of `get` after a tier returned `v`: promotion -/
def afterTierGet (cfg : MCfg) (ms : MSt) (t : Nat) (k : Key) (e v now : Nat) : MSt :=
  if 0 < t && shouldPromote cfg ms k && (!cfg.rep || ms.fillAllowed k e) then ms.fillL1 cfg k v now else ms

/-- a later segment of operation `i` whose continuation is `p` -/
def mresume (cfg : MCfg) (ms0 : MSt) (i : Nat) (p : MPend) (now : Nat) : MSt × Option Res :=
  match p with
  | .tierGet t k e =>
    match (onTier cfg (ms0.clearPend i) t (fun c s => step c s (.resume i now))).2 with
    | some (.val v) =>
      (afterTierGet cfg (onTier cfg (ms0.clearPend i) t (fun c s => step c s (.resume i now))).1 t k e v now,
       some (.val v))
    | other => ((onTier cfg (ms0.clearPend i) t (fun c s => step c s (.resume i now))).1, other)
  | .backGet k e =>
    match aget? ms0.back k with
    | some x =>
      if !cfg.rep || (ms0.clearPend i).fillAllowed k e then ((ms0.clearPend i).fillL1 cfg k x now, some (.val x))
      else (ms0.clearPend i, some (.val x))
    | none => (ms0.clearPend i, some .none)
  | .putBack k v =>
    ((onTier cfg (({ ms0.clearPend i with back := aset ms0.back k v } : MSt).sweep cfg (.inv k)) 0
        (fun c s => start c s i (.put k v) now)).1.setPend i (.putL1 k), none)
  | .putL1 k =>
    ((if cfg.rep then (onTier cfg (ms0.clearPend i) 0 (fun c s => step c s (.resume i now))).1.sweepLow cfg (.inv k)
      else (onTier cfg (ms0.clearPend i) 0 (fun c s => step c s (.resume i now))).1).leave cfg k, some .none)
  | .delBack k =>
    ((if cfg.rep then ({ ms0.clearPend i with back := adel ms0.back k, acc := adel ms0.acc k } : MSt).sweep cfg (.inv k)
      else ({ ms0.clearPend i with back := adel ms0.back k, acc := adel ms0.acc k } : MSt)).leave cfg k,
     some (.bool (!ms0.tiers.isEmpty || decide (k ∈ akeys ms0.back))))
  | .direct t => onTier cfg (ms0.clearPend i) t (fun c s => step c s (.resume i now))

inductive MAct
  | start (i : Nat) (op : MOp) (now : Nat)
  | resume (i : Nat) (now : Nat)
deriving Repr

def mstep (cfg : MCfg) (ms : MSt) : MAct → MSt × Option Res
  | .start i op now => mstart cfg ms i op now
  | .resume i now =>
    match ms.pend.find? (·.1 == i) with
    | some (_, p) => mresume cfg ms i p now
    | none => (ms, none)

def mrun (cfg : MCfg) (ms : MSt) : List MAct → MSt
  | [] => ms
  | a :: as => mrun cfg (mstep cfg ms a).1 as

/-- the initial state: one empty tier per policy -/
def MSt.init (pols : List Pol) : MSt := { tiers := pols.map fun p => { pol := p } }

end HappyModel.C16.Tier
