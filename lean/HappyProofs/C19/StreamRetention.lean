import HappyProofs.C19.StreamReadLemmas
/-!
What a retention sweep keeps.  The clause is a fact about one list `L` and what `retainPart` keeps of it (`keepOk_lists`);
age retention is judged with the append instants the judge saw (`PInv.ts`).
-/
namespace HappyModel.C19

structure PInv (cfg : SCfg) (s : Stream) (j : PSt) : Prop where
  ext : Ext cfg s j.lo j.next
  ts : ∀ p, p < cfg.n → ∀ r ∈ s.part p, j.tsOf p r.off = r.ts

/-- `L` is a partition before the sweep: its offsets are the run from `lo`, its time stamps are nondecreasing and are the
    instants the judge noted -/
theorem keepOk_lists (ret : Retention) (t : Nat) (j : PSt) (p lo : Nat) (L : List SRec)
    (hoff : L.map (·.off) = List.range' lo L.length) (hts : ∀ r ∈ L, j.tsOf p r.off = r.ts)
    (hsort : L.Pairwise fun a b => a.ts ≤ b.ts) (hlo : j.lo.getD p 0 = lo) (hnx : j.next.getD p 0 = lo + L.length) :
    keepOk ret t j p ((retainPart ret t L).map (·.off)) = none := by
  simp only [keepOk, hlo, hnx, List.length_map, Nat.add_sub_cancel_left]
  cases ret with
  | none => simp only [retainPart, beq_self_eq_true, if_true]
  | size m => simp only [retainPart, List.length_drop, Nat.sub_sub_eq_min, Nat.min_comm, beq_self_eq_true, if_true]
  | age ns =>
    -- the young records are a suffix `L.drop k`: offsets from `lo + k` on are young, those below are not
    obtain ⟨k, hk, e, hpre⟩ := age_suffix t ns L hsort
    have hyoung : ∀ r ∈ L.drop k, decide (t - r.ts < ns) = true := fun r hr => by
      rw [← e] at hr; exact (List.mem_filter.1 hr).2
    have e0 : lo + L.length - (L.length - k) = lo + k := by
      rw [Nat.add_sub_assoc (Nat.sub_le ..), Nat.sub_sub_self hk]
    have e1 : List.range' (lo + k) (L.length - k) = (L.drop k).map (·.off) := by
      rw [List.map_drop, hoff, List.drop_range', Nat.mul_one]
    have e2 : List.range' lo k = (L.take k).map (·.off) := by
      rw [List.map_take, hoff, take_range', Nat.min_eq_left hk]
    simp only [e, List.length_drop, e0, Nat.add_sub_add_left, Nat.add_sub_cancel_left, e1, e2, List.all_map,
      List.all_eq_true, Function.comp_def, Bool.and_eq_true, Bool.not_eq_true']
    rw [if_pos ⟨fun r hr => by rw [hts r (List.mem_of_mem_drop hr)]; exact hyoung r hr,
      fun r hr => by rw [hts r (List.mem_of_mem_take hr)]; exact hpre r hr⟩]

theorem keepOk_model (cfg : SCfg) (s : Stream) (j : PSt) (t : Nat) (hi : LInv cfg s t)
    (hr : PInv cfg s j) (p : Nat) (hp : p < cfg.n) :
    keepOk cfg.ret t j p ((s.retention cfg t).kept.getD p []) = none := by
  have hlo := hr.ext.lo p hp
  rw [kept_getD, part_retention]
  refine keepOk_lists cfg.ret t j p _ (s.part p) ?_ (hr.ts p hp) (hi.ts p hp) rfl (by rw [hr.ext.nextOf p, hlo])
  rw [(hi.ok p hp).map_off, ← hlo, Nat.add_sub_cancel]

theorem pstep_model (cfg : SCfg) (hn : 0 < cfg.n) (s : Stream) (j : PSt) (t : Nat) (a : SAct)
    (hi : LInv cfg s t) (hr : PInv cfg s j) :
    ∃ j', j.step cfg.n cfg.ret ⟨t, a, (s.step cfg t a).2⟩ = .ok j' ∧ PInv cfg (s.step cfg t a).1 j' := by
  have frame : (∀ k h, a ≠ .append k h) → a ≠ .retention → PInv cfg (s.step cfg t a).1 j := fun ha hr' =>
    have hp := log_step_parts cfg s t a ha hr'
    ⟨hr.ext.frame hp (log_step_hw cfg s t a ha), by simpa only [Stream.part, hp] using hr.ts⟩
  cases a with
  | append key h =>
    have hp : h % cfg.n < cfg.n := Nat.mod_lt _ hn
    refine ⟨PSt.mk j.lo _ (((h % cfg.n, s.hwOf (h % cfg.n)), t) :: j.ts), rfl, hr.ext.append hi hn t key h, ?_⟩
    intro q hq r hrm
    change r ∈ (s.append cfg t key h).1.part q at hrm
    show ((((h % cfg.n, s.hwOf (h % cfg.n)), t) :: j.ts).lookup (q, r.off)).getD 0 = r.ts
    rw [hi.part_append hn] at hrm
    rw [List.lookup_cons]
    split at hrm
    · next e =>
      subst e
      rcases List.mem_append.mp hrm with hm | hm
      · have hb := ((hi.ok _ hp).bounds r hm).1
        have hne : ((h % cfg.n, r.off) == (h % cfg.n, s.hwOf (h % cfg.n))) = false := by
          simp; omega
        rw [hne]
        exact hr.ts _ hp r hm
      · rw [List.mem_singleton.mp hm]
        simp
    · next e =>
      have hne : ((q, r.off) == (h % cfg.n, s.hwOf (h % cfg.n))) = false := by
        simp; intro e'; exact absurd e' e
      rw [hne]
      exact hr.ts q hq r hrm
  | retention =>
    have hnone : (List.range cfg.n).findSome?
        (fun p => keepOk cfg.ret t j p ((s.retention cfg t).kept.getD p [])) = none :=
      List.findSome?_eq_none_iff.2 fun p hp => keepOk_model cfg s j t hi hr p (List.mem_range.mp hp)
    refine ⟨PSt.mk _ j.next j.ts, by simp only [Stream.step, PSt.step, hnone], hr.ext.retention hi, ?_⟩
    intro p hp r hrm
    change r ∈ (s.retention cfg t).part p at hrm
    obtain ⟨k, hk⟩ := retainPart_eq_drop cfg.ret t (s.part p) (hi.ts p hp)
    rw [part_retention, hk] at hrm
    exact hr.ts p hp r (List.mem_of_mem_drop hrm)
  | _ => exact ⟨j, rfl, frame (by simp) (by simp)⟩

theorem retention_keeps_policy (cfg : SCfg) (hn : 0 < cfg.n) (sched : List (Nat × SAct))
    (ht : TimesMono sched) :
    jRetention cfg.n cfg.ret (PSt.init cfg.n) (Stream.run cfg (Stream.init cfg.n) sched) = none :=
  stream_run_ok cfg hn (jRetention cfg.n cfg.ret) (fun _ => rfl) (PInv cfg)
    (fun s j t a hi hr =>
      have ⟨j', h, hr'⟩ := pstep_model cfg hn s j t a hi hr
      ⟨j', fun rs => by simp only [jRetention, h], hr'⟩)
    sched _ _ ⟨Clocked.init cfg ht, Ext.init cfg, fun p _ r hr => by rw [part_init] at hr; cases hr⟩

/-- non-vacuity: an age sweep that drops two of three records, and the judge rejecting sweeps that
    keep too much / too little -/
example : (Stream.run {n := 1, ret := .age 3} (Stream.init 1)
    [(0, .append 7 0), (1, .append 7 0), (4, .append 7 0), (5, .retention)]).map (·.out) =
    [.appended 0 0, .appended 0 1, .appended 0 2, .total 1 [[2]]] := by decide +kernel
example : jRetention 1 (.age 3) (PSt.init 1)
    [⟨0, .append 7 0, .appended 0 0⟩, ⟨1, .append 7 0, .appended 0 1⟩, ⟨4, .append 7 0, .appended 0 2⟩,
     ⟨5, .retention, .total 2 [[1, 2]]⟩] = some "log/retention/age-bound" := by decide +kernel
example : jRetention 1 (.size 2) (PSt.init 1)
    [⟨0, .append 7 0, .appended 0 0⟩, ⟨1, .append 7 0, .appended 0 1⟩, ⟨4, .append 7 0, .appended 0 2⟩,
     ⟨5, .retention, .total 1 [[2]]⟩] = some "log/retention/size-bound" := by decide +kernel

end HappyModel.C19
