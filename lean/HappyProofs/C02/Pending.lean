import HappyProofs.C02.Basic
/-!
# C02 — "at most one pending resumption per process" at the level of one handler invocation

`cnt e pid` = continuation specs created so far for `pid` + futures `pid` is parked on.  Every
primitive state change of the process layer leaves it unchanged or lowers it (`Bnd_closed` in `Segment.lean`);
only the terminator of the running process's own segment raises its own count from 0 to 1.
-/
namespace HappyModel.C01

@[simp] theorem setFut_specs (e : Eff) (f : Nat) (x : Fut) : (e.setFut f x).specs = e.specs := rfl
@[simp] theorem setFut_cancels (e : Eff) (f : Nat) (x : Fut) : (e.setFut f x).cancels = e.cancels := rfl
@[simp] theorem setFut_futs (e : Eff) (f : Nat) (x : Fut) : (e.setFut f x).ps.futs = futSet e.ps.futs f x := rfl
@[simp] theorem setFut_procs (e : Eff) (f : Nat) (x : Fut) : (e.setFut f x).ps.procs = e.ps.procs := rfl
@[simp] theorem setFut_held (e : Eff) (f : Nat) (x : Fut) : (e.setFut f x).ps.held = e.ps.held := rfl
@[simp] theorem setFut_obs (e : Eff) (f : Nat) (x : Fut) : (e.setFut f x).ps.obs = e.ps.obs := rfl

@[simp] theorem push_specs (e : Eff) (sp : Spec) (hook : Nat) (tagged : Bool) :
    (e.push sp hook tagged).specs = e.specs ++ [{ sp with tag := if tagged then e.ps.tagc + 1 else 0 }] := by
  unfold Eff.push; cases tagged <;> rfl
theorem push_cont_specs (e : Eff) (p : Proc) (pid t : Nat) :
    (e.push (contSpec p pid t) 0 false).specs = e.specs ++ [contSpec p pid t] := rfl
@[simp] theorem push_cancels (e : Eff) (sp : Spec) (hook : Nat) (tagged : Bool) :
    (e.push sp hook tagged).cancels = e.cancels := rfl
@[simp] theorem push_futs (e : Eff) (sp : Spec) (hook : Nat) (tagged : Bool) :
    (e.push sp hook tagged).ps.futs = e.ps.futs := rfl
@[simp] theorem push_procs (e : Eff) (sp : Spec) (hook : Nat) (tagged : Bool) :
    (e.push sp hook tagged).ps.procs = e.ps.procs := rfl
@[simp] theorem push_held (e : Eff) (sp : Spec) (hook : Nat) (tagged : Bool) :
    (e.push sp hook tagged).ps.held = e.ps.held := rfl
@[simp] theorem push_obs (e : Eff) (sp : Spec) (hook : Nat) (tagged : Bool) :
    (e.push sp hook tagged).ps.obs = e.ps.obs := rfl

@[simp] theorem addObs_specs (e : Eff) (o : Obs) : (addObs e o).specs = e.specs := rfl
@[simp] theorem addObs_cancels (e : Eff) (o : Obs) : (addObs e o).cancels = e.cancels := rfl
@[simp] theorem addObs_futs (e : Eff) (o : Obs) : (addObs e o).ps.futs = e.ps.futs := rfl
@[simp] theorem addObs_procs (e : Eff) (o : Obs) : (addObs e o).ps.procs = e.ps.procs := rfl
@[simp] theorem addObs_held (e : Eff) (o : Obs) : (addObs e o).ps.held = e.ps.held := rfl
@[simp] theorem addObs_obs (e : Eff) (o : Obs) : (addObs e o).ps.obs = o :: e.ps.obs := rfl

def Eff.setProc (e : Eff) (pid : Nat) (q : Proc) : Eff := { e with ps := { e.ps with procs := e.ps.procs.set pid q } }
@[simp] theorem setProc_specs (e : Eff) (i : Nat) (x : Proc) : (e.setProc i x).specs = e.specs := rfl
@[simp] theorem setProc_cancels (e : Eff) (i : Nat) (x : Proc) : (e.setProc i x).cancels = e.cancels := rfl
@[simp] theorem setProc_futs (e : Eff) (i : Nat) (x : Proc) : (e.setProc i x).ps.futs = e.ps.futs := rfl
@[simp] theorem setProc_procs (e : Eff) (i : Nat) (x : Proc) : (e.setProc i x).ps.procs = e.ps.procs.set i x := rfl
@[simp] theorem setProc_held (e : Eff) (i : Nat) (x : Proc) : (e.setProc i x).ps.held = e.ps.held := rfl
@[simp] theorem setProc_obs (e : Eff) (i : Nat) (x : Proc) : (e.setProc i x).ps.obs = e.ps.obs := rfl

@[simp] theorem setFut_nid (e : Eff) (f : Nat) (x : Fut) : (e.setFut f x).ps.nid = e.ps.nid := rfl
@[simp] theorem setFut_hookOf (e : Eff) (f : Nat) (x : Fut) : (e.setFut f x).ps.hookOf = e.ps.hookOf := rfl
@[simp] theorem setProc_nid (e : Eff) (i : Nat) (x : Proc) : (e.setProc i x).ps.nid = e.ps.nid := rfl
@[simp] theorem setProc_hookOf (e : Eff) (i : Nat) (x : Proc) : (e.setProc i x).ps.hookOf = e.ps.hookOf := rfl
@[simp] theorem setFut_late (e : Eff) (f : Nat) (x : Fut) : (e.setFut f x).ps.late = e.ps.late := rfl
@[simp] theorem setFut_lateAtt (e : Eff) (f : Nat) (x : Fut) : (e.setFut f x).ps.lateAtt = e.ps.lateAtt := rfl
@[simp] theorem setProc_late (e : Eff) (i : Nat) (x : Proc) : (e.setProc i x).ps.late = e.ps.late := rfl
@[simp] theorem setProc_lateAtt (e : Eff) (i : Nat) (x : Proc) : (e.setProc i x).ps.lateAtt = e.ps.lateAtt := rfl
@[simp] theorem addObs_nid (e : Eff) (o : Obs) : (addObs e o).ps.nid = e.ps.nid := rfl
@[simp] theorem addObs_hookOf (e : Eff) (o : Obs) : (addObs e o).ps.hookOf = e.ps.hookOf := rfl
@[simp] theorem push_nid (e : Eff) (sp : Spec) (hook : Nat) (tagged : Bool) :
    (e.push sp hook tagged).ps.nid = e.ps.nid + 1 := rfl
theorem push_hookOf (e : Eff) (sp : Spec) (hook : Nat) (tagged : Bool) :
    (e.push sp hook tagged).ps.hookOf = if hook = 0 then e.ps.hookOf else (e.ps.nid, hook) :: e.ps.hookOf := rfl

theorem resumeParked_none (e : Eff) (now f : Nat) (h : (futGet e.ps.futs f).parked = none) :
    resumeParked e now f = e := by
  simp [resumeParked, h]

theorem resumeParked_noproc (e : Eff) (now f pid : Nat) (h : (futGet e.ps.futs f).parked = some pid)
    (hp : e.ps.procs[pid]? = none) : resumeParked e now f = e := by
  simp [resumeParked, h, hp]

/-- what `SimFuture._resume` does for the process parked on `f` -/
def resumed (e : Eff) (now f pid : Nat) (p : Proc) : Eff :=
  (((e.push (contSpec p pid now) 0 false).setFut f { futGet e.ps.futs f with parked := none }).setProc pid
    { p with send := (futGet e.ps.futs f).value })

theorem resumeParked_some (e : Eff) (now f pid : Nat) (p : Proc)
    (h : (futGet e.ps.futs f).parked = some pid) (hp : e.ps.procs[pid]? = some p) :
    resumeParked e now f = resumed e now f pid p := by
  simp only [resumeParked, h, hp]
  rfl

theorem resumeParked_cases (e : Eff) (now f : Nat) :
    resumeParked e now f = e ∨
    ∃ pid p, (futGet e.ps.futs f).parked = some pid ∧ e.ps.procs[pid]? = some p ∧
      resumeParked e now f = resumed e now f pid p := by
  cases hpk : (futGet e.ps.futs f).parked with
  | none => exact Or.inl (resumeParked_none e now f hpk)
  | some pid =>
    cases hp : e.ps.procs[pid]? with
    | none => exact Or.inl (resumeParked_noproc e now f pid hpk hp)
    | some p => exact Or.inr ⟨pid, p, rfl, hp, resumeParked_some e now f pid p hpk hp⟩

theorem markResolved_cases (e : Eff) (now f : Nat) (v : Val) :
    markResolved e now f v = e.setFut f { futGet e.ps.futs f with resolved := true, value := v, cbs := [] } ∨
    ∃ pid p, (futGet e.ps.futs f).parked = some pid ∧ e.ps.procs[pid]? = some p ∧
      markResolved e now f v =
        resumed (e.setFut f { futGet e.ps.futs f with resolved := true, value := v, cbs := [] }) now f pid p := by
  rcases resumeParked_cases (e.setFut f { futGet e.ps.futs f with resolved := true, value := v, cbs := [] }) now f
    with h | ⟨pid, p, hpk, hp, h⟩
  · exact Or.inl h
  · rw [setFut_futs, futGet_futSet_same] at hpk
    exact Or.inr ⟨pid, p, hpk, hp, h⟩

theorem cntSpec_append (a b : List Spec) (q : Nat) : cntSpec (a ++ b) q = cntSpec a q + cntSpec b q := by
  simp [cntSpec, List.countP_append]

theorem cntSpec_single (sp : Spec) (q : Nat) : cntSpec [sp] q = ind (sp.data == q + 1) := by
  simp [cntSpec, List.countP_cons, ind]

structure WF (e : Eff) : Prop where
  park : ∀ f pid, (futGet e.ps.futs f).parked = some pid →
      (futGet e.ps.futs f).resolved = false ∧ pid < e.ps.procs.length
  specs : ∀ sp ∈ e.specs, sp.data ≤ e.ps.procs.length
  held : ∀ q ∈ e.ps.held, q.2.data = 0

def cnt (e : Eff) (pid : Nat) : Nat := cntSpec e.specs pid + cntPark e.ps.futs pid

def Bnd (B : Nat → Nat) (e : Eff) : Prop := WF e ∧ ∀ q, cnt e q ≤ B q

theorem Bnd_congr {B : Nat → Nat} {e e' : Eff} (h : Bnd B e) (hs : e'.specs = e.specs := by rfl)
    (hf : e'.ps.futs = e.ps.futs := by rfl)
    (hl : e.ps.procs.length ≤ e'.ps.procs.length := by exact Nat.le_refl _) (hh : e'.ps.held = e.ps.held := by rfl) :
    Bnd B e' := by
  refine ⟨⟨?_, ?_, ?_⟩, ?_⟩
  · rw [hf]; exact fun f pid hp => ⟨(h.1.park f pid hp).1, Nat.lt_of_lt_of_le (h.1.park f pid hp).2 hl⟩
  · rw [hs]; exact fun sp hsp => Nat.le_trans (h.1.specs sp hsp) hl
  · rw [hh]; exact h.1.held
  · intro q; unfold cnt; rw [hs, hf]; exact h.2 q

theorem Bnd_plain {B : Nat → Nat} {e e' : Eff} (h : Bnd B e) (sp : Spec)
    (hs : e'.specs = e.specs ++ [sp]) (hd : sp.data = 0) (hh : ∀ q ∈ e'.ps.held, q ∈ e.ps.held)
    (hf : e'.ps.futs = e.ps.futs := by rfl) (hl : e'.ps.procs = e.ps.procs := by rfl) : Bnd B e' := by
  refine ⟨⟨?_, ?_, fun q hq => h.1.held q (hh q hq)⟩, ?_⟩
  · rw [hf, hl]; exact h.1.park
  · intro s hs'
    rw [hs, List.mem_append, List.mem_singleton] at hs'
    rcases hs' with hs' | rfl
    · rw [hl]; exact h.1.specs s hs'
    · rw [hd]; exact Nat.zero_le _
  · intro q
    unfold cnt
    rw [hs, hf, cntSpec_append, cntSpec_single, hd, ind_zero_succ]
    exact h.2 q

theorem WF_setFut (e : Eff) (f : Nat) (x : Fut) (hw : WF e)
    (hx : ∀ pid, x.parked = some pid → x.resolved = false ∧ pid < e.ps.procs.length) : WF (e.setFut f x) := by
  refine ⟨?_, hw.specs, hw.held⟩
  intro g pid hg
  simp only [setFut_futs, futGet_futSet, setFut_procs] at hg ⊢
  by_cases h : g = f
  · rw [if_pos h] at hg ⊢; exact hx pid hg
  · rw [if_neg h] at hg ⊢; exact hw.park g pid hg

theorem cnt_setFut (e : Eff) (f : Nat) (x : Fut) (q : Nat) :
    cnt (e.setFut f x) q + ind ((futGet e.ps.futs f).parked == some q) = cnt e q + ind (x.parked == some q) := by
  have := cntPark_futSet e.ps.futs f q x
  simp only [cnt, setFut_specs, setFut_futs]
  omega

theorem cnt_push (e : Eff) (sp : Spec) (hook : Nat) (tagged : Bool) (q : Nat) :
    cnt (e.push sp hook tagged) q = cnt e q + ind (sp.data == q + 1) := by
  simp only [cnt, push_specs, push_futs, cntSpec_append, cntSpec_single]
  omega

theorem Bnd_setFut_same (B : Nat → Nat) (e : Eff) (f : Nat) (x : Fut) (h : Bnd B e)
    (hp : x.parked = (futGet e.ps.futs f).parked) (hr : x.resolved = (futGet e.ps.futs f).resolved) :
    Bnd B (e.setFut f x) := by
  refine ⟨WF_setFut e f x h.1 ?_, ?_⟩
  · intro pid hx; rw [hp] at hx; rw [hr]; exact h.1.park f pid hx
  · intro q
    have := cnt_setFut e f x q
    rw [hp] at this
    have := h.2 q
    omega

theorem cnt_resumed (e : Eff) (now f pid : Nat) (p : Proc) (q : Nat)
    (hpk : (futGet e.ps.futs f).parked = some pid) : cnt (resumed e now f pid p) q = cnt e q := by
  have h1 := cnt_setFut (e.push (contSpec p pid now) 0 false) f { futGet e.ps.futs f with parked := none } q
  rw [cnt_push, push_futs, hpk, ind_some, ind_none] at h1
  have h2 : ind ((contSpec p pid now).data == q + 1) = ind (pid == q) := ind_succ pid q
  show cnt ((e.push (contSpec p pid now) 0 false).setFut f { futGet e.ps.futs f with parked := none }) q = cnt e q
  omega

theorem WF_resumed (e : Eff) (now f pid : Nat) (p : Proc) (hpl : pid < e.ps.procs.length)
    (hpark : ∀ g q, g ≠ f → (futGet e.ps.futs g).parked = some q →
      (futGet e.ps.futs g).resolved = false ∧ q < e.ps.procs.length)
    (hspecs : ∀ sp ∈ e.specs, sp.data ≤ e.ps.procs.length) (hheld : ∀ q ∈ e.ps.held, q.2.data = 0) :
    WF (resumed e now f pid p) := by
  refine ⟨?_, ?_, hheld⟩
  · intro g q hg
    simp only [resumed, setProc_futs, setFut_futs, push_futs, setProc_procs, setFut_procs, push_procs,
      List.length_set, futGet_futSet] at hg ⊢
    by_cases hgf : g = f
    · rw [if_pos hgf] at hg; cases hg
    · rw [if_neg hgf] at hg ⊢; exact hpark g q hgf hg
  · intro sp hsp
    simp only [resumed, setProc_specs, setFut_specs, push_cont_specs, setProc_procs, setFut_procs, push_procs,
      List.length_set, List.mem_append, List.mem_singleton] at hsp ⊢
    rcases hsp with hsp | rfl
    · exact hspecs sp hsp
    · exact hpl

theorem resumeParked_setFut (e : Eff) (now f : Nat) (x : Fut) (hw : WF e)
    (hx : ∀ pid, x.parked = some pid → pid < e.ps.procs.length) :
    WF (resumeParked (e.setFut f x) now f) ∧ ∀ q, cnt (resumeParked (e.setFut f x) now f) q = cnt (e.setFut f x) q := by
  have hget : futGet (e.setFut f x).ps.futs f = x := futGet_futSet_same _ _ _
  cases hpk : x.parked with
  | none =>
    rw [resumeParked_none _ now f (by rw [hget, hpk])]
    exact ⟨WF_setFut e f x hw (fun pid hp => by rw [hpk] at hp; cases hp), fun _ => rfl⟩
  | some pid =>
    have hpl := hx pid hpk
    rw [resumeParked_some (e.setFut f x) now f pid e.ps.procs[pid] (by rw [hget, hpk]) (List.getElem?_eq_getElem hpl)]
    refine ⟨WF_resumed _ now f pid _ hpl ?_ hw.specs hw.held, fun q => cnt_resumed _ now f pid _ q (by rw [hget, hpk])⟩
    intro g q hg hq
    rw [setFut_futs, futGet_futSet_ne _ _ _ _ hg] at hq ⊢
    exact hw.park g q hq

theorem Bnd_markResolved (B : Nat → Nat) (e : Eff) (now f : Nat) (v : Val) (h : Bnd B e)
    (_ : (futGet e.ps.futs f).resolved = false) : Bnd B (markResolved e now f v) := by
  unfold markResolved
  generalize hx : ({ futGet e.ps.futs f with resolved := true, value := v, cbs := [] } : Fut) = x
  have hxp : x.parked = (futGet e.ps.futs f).parked := by rw [← hx]
  have ⟨hw, hc⟩ := resumeParked_setFut e now f x h.1 (fun pid hp => (h.1.park f pid (hxp ▸ hp)).2)
  refine ⟨hw, fun q => ?_⟩
  have h1 := cnt_setFut e f x q
  rw [hxp] at h1
  have := h.2 q
  have := hc q
  omega

end HappyModel.C01
