import HappyProofs.C12.ElBase
/-!
# C12 — `LeaderElection`: what changes the leader a node reports for a term

`Spec.staleHbOk` and `Spec.withinTermOk` hold of every step (`El.stale_heartbeat_does_not_change_leader`,
`El.election_steps_judge_silent` in Props.lean): a heartbeat older than the receiver's term is ignored, and every
other path that sets the leader (a strategy result naming a leader, winning one's own election) increments the term
(`Keeps`).
-/
namespace HappyModel.C12.El
open HappyModel.C12.Spec

/-- the guard `term >= self._current_term` of `_handle_leader_heartbeat` -/
theorem stale_heartbeat_ignored (s : St) (draw d l t : Nat) (h : t < (getNode s d).term) :
    step s draw (.lhb d l t) = (s, []) := by
  simp only [step]
  have : ¬ (t ≥ (getNode s d).term) := by omega
  simp [this]

def Keeps (nd x : Node) : Prop := nd.term < x.term ∨ (x.term = nd.term ∧ x.leader = nd.leader)

theorem keeps_refl (nd : Node) : Keeps nd nd := Or.inr ⟨rfl, rfl⟩

theorem Keeps.trans {a b c : Node} (h1 : Keeps a b) (h2 : Keeps b c) : Keeps a c := by
  unfold Keeps at *
  rcases h1 with h1 | ⟨h1, h1'⟩ <;> rcases h2 with h2 | ⟨h2, h2'⟩
  · exact Or.inl (by omega)
  · exact Or.inl (by omega)
  · exact Or.inl (by omega)
  · exact Or.inr ⟨h2.trans h1, h2'.trans h1'⟩

theorem finish_keeps (st : Strat) (d : Nat) (nd : Node) (resp : List Msg) (leader : Option Nat)
    (startOwn suppress : Bool) (draw : Nat) : Keeps nd (finish st d nd resp leader startOwn suppress draw).1 := by
  have h1 : Keeps nd (adopt nd leader) := by
    cases leader
    · exact keeps_refl _
    · exact Or.inl (Nat.lt_succ_self _)
  have sup : ∀ x : Node, Keeps x (if suppress then { x with inProg := false } else x) := by
    intro x; split <;> exact keeps_refl _
  rw [finish_eq]
  refine (h1.trans ?_).trans (sup _)
  split
  · exact Or.inl (by rw [startElection_term]; exact Nat.lt_succ_self _)
  · exact keeps_refl _

theorem step_keeps (s : St) (draw : Nat) (a : Act) (hn : hbTerm a = none) :
    Keeps (getNode s (actor a)) (getNode (step s draw a).1 (actor a)) := by
  obtain ⟨r, e, ho⟩ := step_outcome s draw a
  rw [e, getNode_setNode]
  split
  · cases ho with
    | quiet | member | calm => exact Or.inr ⟨rfl, rfl⟩
    | elect => exact Or.inl (by rw [startElection_term]; exact Nat.lt_succ_self _)
    | challenge | victory | home | forward | ballot => exact finish_keeps ..
    | heartbeat => cases hn
  · exact keeps_refl _

theorem step_staleHbOk (s : St) (draw : Nat) (a : Act) : staleHbOk (obsStep s draw a) = true := by
  cases a with
  | lhb d l t =>
    by_cases h : t < (getNode s d).term
    · simp [staleHbOk, obsStep, actor, hbTerm, stale_heartbeat_ignored s draw d l t h]
    · simp [staleHbOk, obsStep, actor, hbTerm, h]
  | _ => simp [staleHbOk, obsStep, hbTerm]

theorem step_withinTermOk (s : St) (draw : Nat) (a : Act) : withinTermOk (obsStep s draw a) = true := by
  cases h : hbTerm a with
  | some t =>
    cases a with
    | lhb d l t' =>
      by_cases hs : t' < (getNode s d).term
      · simp [withinTermOk, leaderSwapped, obsStep, actor, stale_heartbeat_ignored s draw d l t' hs]
      · have : (getNode s d).term ≤ t' := by omega
        simp [withinTermOk, obsStep, actor, hbTerm, this]
    | _ => simp [hbTerm] at h
  | none =>
    have hk := step_keeps s draw a h
    simp only [withinTermOk, leaderSwapped, obsStep, h, Option.isSome_none, Bool.false_and, Bool.or_false,
      Bool.not_eq_true', Bool.and_eq_false_iff]
    rcases hk with hk | ⟨_, hk⟩
    · left; left
      simp only [beq_eq_false_iff_ne, ne_eq]; omega
    · right
      simp [hk]

theorem run_judgeElSteps : ∀ (as : List (Nat × Act)) (s : St), judgeElSteps (obsRun s as) = none := by
  have hall : ∀ (as : List (Nat × Act)) (s : St),
      (obsRun s as).all staleHbOk = true ∧ (obsRun s as).all withinTermOk = true := by
    intro as
    induction as with
    | nil => intro s; exact ⟨rfl, rfl⟩
    | cons x xs ih =>
      intro s
      obtain ⟨draw, a⟩ := x
      simp only [obsRun, List.all_cons, Bool.and_eq_true]
      exact ⟨⟨step_staleHbOk s draw a, (ih _).1⟩, ⟨step_withinTermOk s draw a, (ih _).2⟩⟩
  intro as s
  simp [judgeElSteps, (hall as s).1, (hall as s).2]

end HappyModel.C12.El
