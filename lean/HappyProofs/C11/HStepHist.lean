import HappyProofs.C11.HCtx
/-! `HInv` across a handler step: the clauses about the history lists alone (records, election-time logs, seen states,
    candidacies), then the clauses about votes and RequestVotes (`m_rv'`). -/
namespace HappyModel.C11
namespace Ctx
variable {v : Variant} {g : GSt} {i : Nat} {inp : Option Body} {r : HR} {cr : List (List Entry)}

theorem log_mem_created (c : Ctx v g i inp r cr) (j : Nat) (h : (g.s.nodes j).log ≠ []) : (g.s.nodes j).log ∈ g.created :=
  (c.li.b j).mem_self h

theorem r_mono' (c : Ctx v g i inp r cr) : ∀ R ∈ (gApply g i r cr).created, ∀ K, K <+: R → K ≠ [] → lastTerm K ≤ lastTerm R := by
  intro R hR K hK hne
  simp only [gApply_created] at hR
  rcases List.mem_append.mp hR with h | h
  · obtain ⟨k, hk, _, _⟩ := c.lok.new_rec R h
    rw [hk] at hK ⊢
    rw [lastTerm_concat]
    rcases List.prefix_concat_iff.mp hK with h1 | h1
    · rw [h1, lastTerm_concat]; exact Nat.le_refl _
    · have hlog : (g.s.nodes i).log ≠ [] := by
        intro h0; rw [h0] at h1; exact hne (List.prefix_nil.mp h1)
      have := c.hi.r_mono _ (c.log_mem_created i hlog) K h1 hne
      have := c.hi.n_lt i
      show lastTerm K ≤ (g.s.nodes i).term
      omega
  · exact c.hi.r_mono R h K hK hne

theorem r_same' (c : Ctx v g i inp r cr) : ∀ R ∈ (gApply g i r cr).created, ∀ R' ∈ (gApply g i r cr).created,
    lastTerm R = lastTerm R' → R.length ≤ R'.length → R <+: R' := by
  intro R hR R' hR' ht hlen
  simp only [gApply_created] at hR hR'
  rcases List.mem_append.mp hR with h | h <;> rcases List.mem_append.mp hR' with h' | h'
  · obtain ⟨_, _, _, e1, _⟩ := c.lok.new_rec R h
    obtain ⟨_, _, _, e2, _⟩ := c.lok.new_rec R' h'
    rw [← e1, ← e2]; exact List.prefix_rfl
  · exfalso
    obtain ⟨k, hk, hl, _⟩ := c.lok.new_rec R h
    have := (c.li.g2_prefix hl h' (by rw [← ht, hk, lastTerm_concat])).length_le
    rw [hk] at hlen; simp at hlen; omega
  · obtain ⟨k, hk, hl, _⟩ := c.lok.new_rec R' h'
    rw [hk]
    exact (c.li.g2_prefix hl h (by rw [ht, hk, lastTerm_concat])).trans (List.prefix_append _ _)
  · exact c.hi.r_same R h R' h' ht hlen

theorem r_ll' (c : Ctx v g i inp r cr) : ∀ R ∈ (gApply g i r cr).created, ∃ k L, (lastTerm R, k, L) ∈ (gApply g i r cr).llogs ∧ L <+: R := by
  intro R hR
  simp only [gApply_created] at hR
  rcases List.mem_append.mp hR with h | h
  · obtain ⟨k, hk, hl, _⟩ := c.lok.new_rec R h
    obtain ⟨k', L, h1, h2, _⟩ := c.hi.n_ldr i hl
    refine ⟨k', L, c.gle.llogs _ ?_, ?_⟩
    · rw [hk, lastTerm_concat]; exact h1
    · rw [hk]; exact h2.trans (List.prefix_append _ _)
  · obtain ⟨k, L, h1, h2⟩ := c.hi.r_ll R h
    exact ⟨k, L, c.gle.llogs _ h1, h2⟩

theorem r_closed' (c : Ctx v g i inp r cr) : ∀ R ∈ (gApply g i r cr).created, Rec (gApply g i r cr).created R := by
  intro R hR
  simp only [gApply_created] at hR
  rcases List.mem_append.mp hR with h | h
  · obtain ⟨_, _, _, e1, _⟩ := c.lok.new_rec R h
    exact e1 ▸ c.rec_post
  · exact (c.hi.r_closed R h).mono c.gle.created

theorem ll_led' (c : Ctx v g i inp r cr) : ∀ t k L, (t, k, L) ∈ (gApply g i r cr).llogs → (t, k) ∈ (gApply g i r cr).leaders := by
  intro t k L h
  simp only [gApply_llogs] at h
  rcases List.mem_append.mp h with h | h
  · obtain ⟨e1, e2, _, e4, _⟩ := mem_llogDiff h
    rw [e1, e2]; exact c.led_post e4
  · exact List.mem_append_right _ (c.hi.ll_led t k L h)

theorem no_old_leader (c : Ctx v g i inp r cr) (h1 : r.node.role = .leader) (h2 : (g.s.nodes i).role ≠ .leader) :
    ∀ k L, (r.node.term, k, L) ∉ g.llogs := by
  intro k L h
  have hk := c.hi.ll_led _ k L h
  have hk' : (r.node.term, k) ∈ (gApply g i r cr).leaders := List.mem_append_right _ hk
  have := leaders_unique c.ei' hk' (c.led_post h1)
  rw [this] at hk
  obtain ⟨hle, hnc⟩ := c.ei.l2 _ _ hk
  rcases (c.newleader h1 h2).2.2.2 with ⟨hc, ht⟩ | ht
  · exact hnc ht hc
  · omega

theorem ll_uniq' (c : Ctx v g i inp r cr) : ∀ t k L k' L', (t, k, L) ∈ (gApply g i r cr).llogs → (t, k', L') ∈ (gApply g i r cr).llogs → L = L' := by
  intro t k L k' L' h h'
  simp only [gApply_llogs] at h h'
  rcases List.mem_append.mp h with h | h <;> rcases List.mem_append.mp h' with h' | h'
  · rw [(mem_llogDiff h).2.2.1, (mem_llogDiff h').2.2.1]
  · obtain ⟨e1, _, _, e4, e5⟩ := mem_llogDiff h
    rw [e1] at h'; exact absurd h' (c.no_old_leader e4 e5 k' L')
  · obtain ⟨e1, _, _, e4, e5⟩ := mem_llogDiff h'
    rw [e1] at h; exact absurd h (c.no_old_leader e4 e5 k L)
  · exact c.hi.ll_uniq t k L k' L' h h'

theorem ll_rec' (c : Ctx v g i inp r cr) : ∀ t k L, (t, k, L) ∈ (gApply g i r cr).llogs → Rec (gApply g i r cr).created L := by
  intro t k L h
  simp only [gApply_llogs] at h
  rcases List.mem_append.mp h with h | h
  · rw [(mem_llogDiff h).2.2.1]; exact c.rec_post
  · exact (c.hi.ll_rec t k L h).mono c.gle.created

theorem ll_lt' (c : Ctx v g i inp r cr) : ∀ t k L, (t, k, L) ∈ (gApply g i r cr).llogs → lastTerm L < t := by
  intro t k L h
  simp only [gApply_llogs] at h
  rcases List.mem_append.mp h with h | h
  · obtain ⟨e1, _, e3, e4, e5⟩ := mem_llogDiff h
    obtain ⟨hlog, _, _, hcase⟩ := c.newleader e4 e5
    rw [e1, e3, hlog]
    rcases hcase with ⟨hc, ht⟩ | ht
    · rw [ht]; exact (c.hi.k2 _ _ _ (c.hi.k1 i hc)).1
    · have := c.hi.n_lt i; omega
  · exact c.hi.ll_lt t k L h

theorem s_term' (c : Ctx v g i inp r cr) : ∀ j T L, (j, T, L) ∈ (gApply g i r cr).seen → T ≤ ((gApply g i r cr).s.nodes j).term := by
  intro j T L h
  simp only [gApply_seen, List.mem_cons, Prod.mk.injEq] at h
  rcases h with ⟨e1, e2, _⟩ | h
  · rw [e1, c.node_self, e2]; exact Nat.le_refl _
  · exact Nat.le_trans (c.hi.s_term j T L h) (c.term_post j)

theorem s_rec' (c : Ctx v g i inp r cr) : ∀ j T L, (j, T, L) ∈ (gApply g i r cr).seen → Rec (gApply g i r cr).created L := by
  intro j T L h
  simp only [gApply_seen, List.mem_cons, Prod.mk.injEq] at h
  rcases h with ⟨_, _, e3⟩ | h
  · rw [e3]; exact c.rec_post
  · exact (c.hi.s_rec j T L h).mono c.gle.created

theorem k0' (c : Ctx v g i inp r cr) : ∀ U k Lc, (U, k, Lc) ∈ (gApply g i r cr).cands → U ≤ ((gApply g i r cr).s.nodes k).term := by
  intro U k Lc h
  simp only [gApply_cands] at h
  rcases List.mem_append.mp h with h | h
  · obtain ⟨_, e2, _, e4, _⟩ := c.mem_candDiff h
    rw [e2, c.node_self, e4]; exact Nat.le_refl _
  · exact Nat.le_trans (c.hi.k0 U k Lc h) (c.term_post k)

theorem k2' (c : Ctx v g i inp r cr) : ∀ U k Lc, (U, k, Lc) ∈ (gApply g i r cr).cands → lastTerm Lc < U ∧ Rec (gApply g i r cr).created Lc := by
  intro U k Lc h
  simp only [gApply_cands] at h
  rcases List.mem_append.mp h with h | h
  · obtain ⟨e1, _, e3, _⟩ := c.mem_candDiff h
    have := c.hi.n_lt i
    exact ⟨by rw [e1, e3]; omega, by rw [e3]; exact (c.li.b i).mono c.gle.created⟩
  · exact ⟨(c.hi.k2 U k Lc h).1, (c.hi.k2 U k Lc h).2.mono c.gle.created⟩

end Ctx

/-! A vote for a candidate comes with the promise `VmProp` (the up-to-date check is what makes it true), and a new
leader's vote quorum carries it. -/

/-- THE UP-TO-DATE CHECK.  Voter `x` holds `K` (accepted in term `T`); the candidate's log `Lc` passes
    `upToDate`.  Then `Lc` holds `K` too — or the leader of the term of `Lc`'s last entry, a term strictly
    between `T` and the election term `U`, did not. -/
theorem utd_arg {g : GSt} (hi : HInv g) {x : Node} (hrec : Rec g.created x.log) {T U : Nat} {K Lc : List Entry}
    (hK : K <+: x.log) (hne : K ≠ []) (hKt : lastTerm K = T) (hLc : lastTerm Lc < U) (hLrec : Rec g.created Lc)
    (hutd : upToDate x Lc.length (lastTerm Lc) = true) :
    K <+: Lc ∨ ∃ t' c' L', (t', c', L') ∈ g.llogs ∧ T < t' ∧ t' < U ∧ ¬ K <+: L' := by
  have hlog : x.log ≠ [] := by
    intro h0; rw [h0] at hK; exact hne (List.prefix_nil.mp hK)
  have hxm := hrec.mem_self hlog
  have hmono := hi.r_mono _ hxm K hK hne
  simp only [upToDate, Bool.or_eq_true, Bool.and_eq_true, decide_eq_true_eq, beq_iff_eq] at hutd
  rcases hutd with hgt | ⟨heq, hlen⟩
  · have hLne : Lc ≠ [] := by
      intro h0; rw [h0, lastTerm_nil] at hgt; omega
    obtain ⟨c', L', h1, h2⟩ := hi.r_ll Lc (hLrec.mem_self hLne)
    by_cases hp : K <+: L'
    · exact Or.inl (hp.trans h2)
    · exact Or.inr ⟨lastTerm Lc, c', L', h1, by omega, hLc, hp⟩
  · have hpos : 0 < x.log.length := List.length_pos_iff.mpr hlog
    have hLne : Lc ≠ [] := by
      intro h0; rw [h0] at hlen; simp only [List.length_nil] at hlen; omega
    exact Or.inl (hK.trans (hi.r_same _ hxm _ (hLrec.mem_self hLne) heq.symm hlen))

namespace Ctx
variable {v : Variant} {g : GSt} {i : Nat} {inp : Option Body} {r : HR} {cr : List (List Entry)}

theorem vote_cases (c : Ctx v g i inp r cr) {k : Nat} (h : r.node.votedFor = some k) :
    (i, r.node.term, k) ∈ g.voted
    ∨ (∃ li lt, inp = some (.rv r.node.term k li lt) ∧ r.node.log = (g.s.nodes i).log ∧ upToDate (g.s.nodes i) li lt = true
        ∧ candDiff (g.s.nodes i) r.node i = [] ∧ llogDiff (g.s.nodes i) r.node i = [])
    ∨ (k = i ∧ r.node.term = (g.s.nodes i).term + 1 ∧ r.node.log = (g.s.nodes i).log ∧ (g.s.nodes i).role ≠ .leader) := by
  have same : r.node.votedFor = (g.s.nodes i).votedFor → r.node.term = (g.s.nodes i).term → (i, r.node.term, k) ∈ g.voted := by
    intro h1 h2
    rw [h2]; exact c.ei.v0 i k (by rw [← h1]; exact h)
  cases c.hk with
  | quiet _ _ _ _ vf =>
    rcases vf with vf | vf
    · rw [vf] at h; cases h
    · exact Or.inl (same vf.1 vf.2)
  | grant t k' li lt _ hin hlog _ _ rt ht vf _ utd =>
    right; left
    rw [vf] at h; cases h
    refine ⟨li, lt, by rw [ht]; exact hin, hlog, utd, ?_, ?_⟩
    · unfold candDiff
      rcases rt with h | h
      · rw [if_neg (by omega)]
      · rw [if_neg (by intro hc; exact hc.2 h.1)]
    · unfold llogDiff
      rcases rt with h | h
      · rw [if_neg (by rw [h.1]; intro hc; exact hc.2 hc.1)]
      · rw [if_neg (by rw [h.1]; intro hc; cases hc.1)]
  | campaign hlog _ hnl ht vf =>
    right; right
    rw [vf] at h; cases h
    exact ⟨rfl, ht, hlog, hnl⟩
  | elect _ _ _ ht vf | lsend _ _ _ _ _ ht vf | append _ _ _ _ _ _ ht vf => exact Or.inl (same vf ht)
  | accept t l pi pt es lc _ hin hle hbad hnode =>
    obtain ⟨_, a⟩ := c.ae_accepted hin hle hbad hnode
    rcases a.vf with vf | vf
    · rw [vf] at h; cases h
    · exact Or.inl (same vf.1 vf.2)
  | ack f m _ _ hnode => exact Or.inl (same (c.ack hnode).vf (c.ack hnode).term)

theorem vmProp_post (c : Ctx v g i inp r cr) {f U : Nat} {L : List Entry} (hU : U ≤ (g.s.nodes f).term) (h : VmProp g f U L) :
    VmProp (gApply g i r cr) f U L := by
  intro T K hT hacc
  rcases c.accepted_post hacc with ha | ⟨e1, e2, _⟩
  · rcases h T K hT ha with h | ⟨t', c', L', h1, h2, h3, h4⟩
    · exact Or.inl h
    · exact Or.inr ⟨t', c', L', c.gle.llogs _ h1, h2, h3, h4⟩
  · exfalso
    rw [e1] at hU
    have := c.term_le
    omega

theorem vmProp_self (c : Ctx v g i inp r cr) {U : Nat} (hU : U = (g.s.nodes i).term + 1) (ht : r.node.term = U) :
    VmProp (gApply g i r cr) i U (g.s.nodes i).log := by
  intro T K hT hacc
  rcases c.accepted_post hacc with ha | ⟨_, e2, _⟩
  · rcases c.hi.n_a1 i T K ha with h | ⟨t', c', L', h1, h2, h3, h4⟩
    · exact Or.inl h
    · exact Or.inr ⟨t', c', L', c.gle.llogs _ h1, h2, by omega, h4⟩
  · omega

theorem k1' (c : Ctx v g i inp r cr) : ∀ k, ((gApply g i r cr).s.nodes k).role = .candidate →
    (((gApply g i r cr).s.nodes k).term, k, ((gApply g i r cr).s.nodes k).log) ∈ (gApply g i r cr).cands := by
  intro k hrole
  by_cases hk : k = i
  · rw [hk] at hrole ⊢
    rw [c.node_self] at hrole ⊢
    have same : r.node.role = (g.s.nodes i).role → r.node.term = (g.s.nodes i).term → r.node.log = (g.s.nodes i).log →
        (r.node.term, i, r.node.log) ∈ (gApply g i r cr).cands := by
      intro h1 h2 h3
      rw [h2, h3]; exact c.gle.cands _ (c.hi.k1 i (by rw [← h1]; exact hrole))
    rcases c.rt with ⟨h1, h2, h3⟩ | h | ⟨_, ht, _⟩ | h
    · exact same h1 h2 (h3 (by rw [← h1, hrole]; decide))
    · rw [h.1] at hrole; cases hrole
    · simp only [gApply_cands]
      apply List.mem_append_left
      unfold candDiff
      rw [if_pos ⟨by omega, by rw [hrole]; decide⟩]; simp
    · rw [h.2.1] at hrole; cases hrole
  · rw [c.node_other hk] at hrole ⊢
    exact c.gle.cands _ (c.hi.k1 k hrole)

theorem kvt' (c : Ctx v g i inp r cr) : ∀ f U k, (f, U, k) ∈ (gApply g i r cr).voted → U ≤ ((gApply g i r cr).s.nodes k).term := by
  intro f U k h
  have old : (f, U, k) ∈ g.voted → U ≤ ((gApply g i r cr).s.nodes k).term :=
    fun h => Nat.le_trans (c.hi.kvt f U k h) (c.term_post k)
  simp only [gApply_voted] at h
  rcases List.mem_append.mp h with h | h
  · obtain ⟨e1, e2, e3⟩ := mem_voteDiff h
    rcases c.vote_cases e3 with hv0 | ⟨li, lt, hin, _⟩ | ⟨hk, _⟩
    · subst e1; subst e2; exact old hv0
    · obtain ⟨e, he, hb⟩ := c.hin _ hin
      rw [e2]
      exact Nat.le_trans (c.hi.m_rv e he _ _ _ _ hb).1 (c.term_post k)
    · rw [hk, c.node_self, e2]; exact Nat.le_refl _
  · exact old h

theorem vm' (c : Ctx v g i inp r cr) : ∀ f U k, (f, U, k) ∈ (gApply g i r cr).voted → ∀ Lc, (U, k, Lc) ∈ (gApply g i r cr).cands →
    (∃ c' L', (U, c', L') ∈ (gApply g i r cr).llogs) ∨ VmProp (gApply g i r cr) f U Lc := by
  intro f U k h Lc hLc
  have old : (f, U, k) ∈ g.voted → (∃ c' L', (U, c', L') ∈ (gApply g i r cr).llogs) ∨ VmProp (gApply g i r cr) f U Lc := by
    intro h
    simp only [gApply_cands] at hLc
    rcases List.mem_append.mp hLc with hLc | hLc
    · obtain ⟨e1, e2, _⟩ := c.mem_candDiff hLc
      have := c.hi.kvt f U k h
      rw [e2] at this; omega
    · rcases c.hi.vm f U k h Lc hLc with ⟨c', L', h1⟩ | h1
      · exact Or.inl ⟨c', L', c.gle.llogs _ h1⟩
      · exact Or.inr (c.vmProp_post (c.ei.v1 f U k h) h1)
  simp only [gApply_voted] at h
  rcases List.mem_append.mp h with h | h
  · obtain ⟨e1, e2, e3⟩ := mem_voteDiff h
    rcases c.vote_cases e3 with h | ⟨li, lt, hin, hlog, hutd, hcd, hld⟩ | ⟨hk, ht, hlog, _⟩
    · rw [e1, e2]; rw [e1, e2] at old; exact old h
    · -- a vote granted now
      obtain ⟨e, he, hb⟩ := c.hin _ hin
      simp only [gApply_cands, hcd, List.nil_append] at hLc
      rw [← e2] at hb
      obtain ⟨hlen, hlt⟩ := (c.hi.m_rv e he _ _ _ _ hb).2 Lc hLc
      by_cases hex : ∃ c' L', (U, c', L') ∈ g.llogs
      · obtain ⟨c', L', h1⟩ := hex
        exact Or.inl ⟨c', L', c.gle.llogs _ h1⟩
      · right
        intro T K hT hacc
        rw [e1] at hacc
        rcases c.accepted_post hacc with ha | ⟨_, e2', _⟩
        · have widen : (∃ t' c' L', (t', c', L') ∈ g.llogs ∧ T < t' ∧ t' < U ∧ ¬ K <+: L') →
              ∃ t' c' L', (t', c', L') ∈ (gApply g i r cr).llogs ∧ T < t' ∧ t' < U ∧ ¬ K <+: L' := by
            rintro ⟨t', c', L', h1, h2⟩
            exact ⟨t', c', L', c.gle.llogs _ h1, h2⟩
          rcases c.hi.n_a1 i T K ha with hp | ⟨t', c', L', h1, h2, h3, h4⟩
          · have hk2 := c.hi.k2 U k Lc hLc
            rw [hlen, hlt] at hutd
            rcases utd_arg c.hi (c.li.b i) hp ha.1 ha.2.1 hk2.1 hk2.2 hutd with h | h
            · exact Or.inl h
            · exact Or.inr (widen h)
          · have hle := c.term_le
            -- `n_a1` gives a term `t' ≤ U`, `VmProp` wants `t' < U`: `t' = U` is the disjunct "the term has a leader already" of `vm`
            by_cases htU : t' = U
            · exact absurd ⟨c', L', by rw [← htU]; exact h1⟩ hex
            · exact Or.inr (widen ⟨t', c', L', h1, h2, by omega, h4⟩)
        · omega
    · -- the vote a node gives itself when it starts an election
      right
      rw [e1]
      simp only [gApply_cands] at hLc
      rcases List.mem_append.mp hLc with hLc | hLc
      · obtain ⟨_, _, e3', _⟩ := c.mem_candDiff hLc
        rw [e3']; exact c.vmProp_self (by omega) (by omega)
      · have := c.hi.k0 U k Lc hLc
        rw [hk] at this; omega
  · exact old h

theorem ll_q' (c : Ctx v g i inp r cr) : ∀ U k L, (U, k, L) ∈ (gApply g i r cr).llogs → ∃ S : List Nat, S.Nodup ∧
    quorum (gApply g i r cr).s.n ≤ S.length ∧
    ∀ f ∈ S, f < (gApply g i r cr).s.n ∧ U ≤ ((gApply g i r cr).s.nodes f).term ∧ VmProp (gApply g i r cr) f U L := by
  intro U k L h
  simp only [gApply_llogs] at h
  rcases List.mem_append.mp h with h | h
  · obtain ⟨e1, e2, e3, e4, e5⟩ := mem_llogDiff h
    obtain ⟨hlog, _, _, hcase⟩ := c.newleader e4 e5
    obtain ⟨S, hS1, hS2, hS3⟩ := c.ei'.l1 _ _ (c.led_post e4)
    refine ⟨S, hS1, hS3, ?_⟩
    intro f hf
    have hv := hS2 f hf
    refine ⟨c.ei'.vlt _ _ _ hv, by rw [e1]; exact c.ei'.v1 _ _ _ hv, ?_⟩
    rw [e1, e3, hlog]
    have old : (f, r.node.term, i) ∈ g.voted → VmProp (gApply g i r cr) f r.node.term (g.s.nodes i).log := by
      intro hv
      rcases hcase with ⟨hc, ht⟩ | ht
      · have hcand := c.hi.k1 i hc
        rw [← ht] at hcand
        rcases c.hi.vm f _ i hv _ hcand with ⟨c', L', h1⟩ | h1
        · exact absurd h1 (c.no_old_leader e4 e5 c' L')
        · exact c.vmProp_post (c.ei.v1 _ _ _ hv) h1
      · have := c.hi.kvt _ _ _ hv; omega
    simp only [gApply_voted] at hv
    rcases List.mem_append.mp hv with hv | hv
    · obtain ⟨e1', _, e3'⟩ := mem_voteDiff hv
      rcases c.vote_cases e3' with h | ⟨_, _, _, _, _, _, hld⟩ | ⟨_, ht, _, _⟩
      · rw [e1']; rw [e1'] at old; exact old h
      · rw [hld] at h; cases h
      · rw [e1']; exact c.vmProp_self ht rfl
    · exact old hv
  · obtain ⟨S, hS1, hS2, hS3⟩ := c.hi.ll_q U k L h
    refine ⟨S, hS1, hS2, ?_⟩
    intro f hf
    obtain ⟨h1, h2, h3⟩ := hS3 f hf
    exact ⟨h1, Nat.le_trans h2 (c.term_post f), c.vmProp_post h2 h3⟩

theorem rv_sent (c : Ctx v g i inp r cr) {d U k li lt : Nat} (h : (d, Body.rv U k li lt) ∈ r.sends) :
    U = r.node.term ∧ k = i ∧ li = r.node.log.length ∧ lt = lastTerm r.node.log
    ∧ r.node.term = (g.s.nodes i).term + 1 ∧ r.node.log = (g.s.nodes i).log := by
  rcases c.hk.sent h with ⟨_, _, _, h'⟩ | ⟨_, _, _, h'⟩ | ⟨h', ht, hlog⟩ | ⟨_, _, h'⟩ | ⟨_, _, _, _, _, _, _, _, _, _, h'⟩
  · cases h'
  · cases h'
  · simp only [Body.rv.injEq] at h'
    exact ⟨h'.1, h'.2.1, h'.2.2.1, h'.2.2.2, ht, hlog⟩
  · exact Body.noConfusion h'
  · cases h'

theorem m_rv' (c : Ctx v g i inp r cr) : ∀ e ∈ (gApply g i r cr).s.msgs, ∀ U k li lt, e.body = .rv U k li lt →
    U ≤ ((gApply g i r cr).s.nodes k).term ∧ ∀ Lc, (U, k, Lc) ∈ (gApply g i r cr).cands → li = Lc.length ∧ lt = lastTerm Lc := by
  intro e he U k li lt hb
  rcases applyHR_msgs he with h | ⟨_, hmem, _⟩
  · obtain ⟨h1, h2⟩ := c.hi.m_rv e h U k li lt hb
    refine ⟨Nat.le_trans h1 (c.term_post k), ?_⟩
    intro Lc hLc
    simp only [gApply_cands] at hLc
    rcases List.mem_append.mp hLc with hLc | hLc
    · obtain ⟨e1, e2, _⟩ := c.mem_candDiff hLc
      rw [e2] at h1; omega
    · exact h2 Lc hLc
  · rw [hb] at hmem
    obtain ⟨e1, e2, e3, e4, e5, e6⟩ := c.rv_sent hmem
    refine ⟨by rw [e2, c.node_self, e1]; exact Nat.le_refl _, ?_⟩
    intro Lc hLc
    simp only [gApply_cands] at hLc
    rcases List.mem_append.mp hLc with hLc | hLc
    · obtain ⟨_, _, e3', _⟩ := c.mem_candDiff hLc
      rw [e3, e4, e6, e3']; exact ⟨rfl, rfl⟩
    · have := c.hi.k0 U k Lc hLc
      rw [e2] at this; omega

end Ctx

end HappyModel.C11
