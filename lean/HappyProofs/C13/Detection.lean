import HappyProofs.C13.RoundRobin
import HappyProofs.C13.Quiet
import HappyModel.C13.Spec
/-!
Part (b) of the detection bound, system level, and the assembly.

`Q`: as long as `a` reports `x` ALIVE, either (phase 1) the next tick plus `pot` intervals lies
before `B`, or (phase 2) the ack timer of a probe of `x` is armed for a time `≤ B + half`, before the
next tick.  Preserved by every action once `x` has fallen silent; an action later than `B + half`
therefore finds `x` not ALIVE.  From the crash of `x` on, `PostInv` holds after every action of a
time-monotone, timely, punctual schedule along which `LminRun` holds (for `k = n` always: `lminRun_full`).
-/
set_option linter.unusedSectionVars false
namespace HappyModel.C13
variable {D : Type} [Inhabited D] [Detector D]

structure Ctx (c : Cfg) (a x : Nat) : Prop where
  fix : c.fix = true
  hiv : c.half < c.interval
  ha : a < c.n
  hx : x < c.n
  hax : x ≠ a

theorem Ctx.mem {c : Cfg} {a x : Nat} (h : Ctx c a x) : isMember c.n a x = true := by
  simp [isMember, h.hax, h.hx]

def Ph1 (c : Cfg) (k a x B : Nat) (nd : Node D) : Prop :=
  nd.nextTick + pot c.n k a x nd * c.interval ≤ B

def Ph2 (c : Cfg) (x B : Nat) (nd : Node D) : Prop :=
  ∃ f, nd.pendOf x = some ⟨.ind, f⟩ ∧ f ≤ B + c.half ∧ f < nd.nextTick

def Q (c : Cfg) (k a x B : Nat) (nd : Node D) : Prop :=
  ¬ NA x nd → Ph1 c k a x B nd ∨ Ph2 c x B nd

theorem alive_of_not_na {x : Nat} {nd : Node D} (h : ¬ NA x nd) : nd.view x = .alive :=
  Decidable.of_not_not h

section phase
variable {c : Cfg} {k a x B : Nat} (ctx : Ctx c a x)
include ctx

theorem q_keep {nd nd' : Node D} (hk : Keep nd nd') (hna : NA x nd → NA x nd')
    (hpend : ∀ f, nd.pendOf x = some ⟨.ind, f⟩ → nd'.pendOf x = some ⟨.ind, f⟩)
    (hO : OrdInv c.n a nd) (hmin : nd'.view x = .alive → c.n - k ≤ (aliveOrder c.n a nd').length)
    (hQ : Q c k a x B nd) : Q c k a x B nd' := by
  intro hna'
  have hv' := alive_of_not_na hna'
  rcases hQ fun h => hna' (hna h) with h1 | ⟨f, hp, hf1, hf2⟩
  · left
    have hx' : x ∈ aliveOrder c.n a nd' :=
      mem_aliveOrder.mpr ⟨(ordInv_keep hk hO).all x ctx.mem (hv' ▸ nofun), ctx.mem, hv' ▸ nofun⟩
    show nd'.nextTick + _ ≤ B
    rw [hk.tick]
    exact Nat.le_trans (Nat.add_le_add_left (Nat.mul_le_mul_right c.interval
      (pot_keep ctx.ha hk hO hx' (hmin hv'))) _) h1
  · exact .inr ⟨f, hpend f hp, hf1, hk.tick ▸ hf2⟩

theorem q_tick {now : Nat} {shuf : List Nat} {nd : Node D}
    (ht : nd.nextTick = now) (hdue : ∀ t, nd.pendOf x = some t → now ≤ t.fire)
    (hsh : (aliveOrder c.n a (phiCheck c.n a now nd)).length ≤ nd.pidx →
      shuf.Perm (aliveOrder c.n a (phiCheck c.n a now nd)))
    (hO : OrdInv c.n a nd)
    (hmin : (onTick c a now shuf nd).1.view x = .alive →
      c.n - k ≤ (aliveOrder c.n a (onTick c a now shuf nd).1).length)
    (hQ : Q c k a x B nd) : Q c k a x B (onTick c a now shuf nd).1 := by
  intro hna'
  have hv' := alive_of_not_na hna'
  have hnt := onTick_nextTick c a now shuf nd
  rcases hQ fun h => hna' (entry_onTick notAlive_respects x h) with h1 | ⟨f, hp, _, hf2⟩
  · have h1 : now + pot c.n k a x nd * c.interval ≤ B := ht ▸ h1
    rcases pot_onTick c a now shuf nd hO hsh k x ctx.ha ctx.mem (hv' ▸ nofun) (hmin hv') with h | h
    · exact .inr ⟨now + c.half, h, Nat.add_le_add_right (Nat.le_trans (Nat.le_add_right _ _) h1) _,
        hnt ▸ Nat.add_lt_add_left ctx.hiv _⟩
    · left
      have h2 := Nat.mul_le_mul_right c.interval h
      rw [Nat.add_mul, Nat.one_mul] at h2
      show (onTick c a now shuf nd).1.nextTick + _ ≤ B
      rw [hnt, Nat.add_assoc, Nat.add_comm c.interval]
      exact Nat.le_trans (Nat.add_le_add_left h2 _) h1
  · -- the ack timer of `x` is armed for a time before this tick: it would be overdue
    exact absurd (ht ▸ hf2) (Nat.not_lt.mpr (hdue _ hp))

theorem q_step {δ : Nat} {s s' : Sys D} {act : Act} (h : Step c s act s') (hN : SNoAlive s)
    (hq : QuietTo s a x) (hs : Sched c δ a s act) (hO : OrdInv c.n a (s.node a))
    (hmin : (s'.node a).view x = .alive → c.n - k ≤ (aliveOrder c.n a (s'.node a)).length)
    (hQ : Q c k a x B (s.node a)) : Q c k a x B (s'.node a) := by
  rcases h.node a with e | ⟨r, soup, hf, hc, e⟩
  · rw [e]
    exact hQ
  rw [e] at hmin ⊢
  have hna := na_fires hf hq
  cases hf with
  | tick shuf hact ht =>
    exact q_tick ctx ht (fun t hp => dueOk_pend (hs.due hc) ctx.hx t hp)
      (shufOk_tick (hact ▸ hs.shuf)) hO hmin hQ
  | msg m hm hd =>
    refine q_keep ctx (keep_handleMsg (hN.soup m hm)) hna (fun f hp => ?_) hO hmin hQ
    rcases handleMsg_ctl c a act.time m (s.node a) with ⟨h, _⟩ | ⟨_, _, h⟩
    · rwa [h.pendOf]
    · rwa [h.pendOf_ne (hq m hm hd).1.symm]
  | ind y shuf t hp hk hf =>
    by_cases hyx : y = x
    · subst hyx
      exact fun hna' => absurd (na_onIndTimeout_self c ctx.fix a _ y shuf (s.node a)) hna'
    · refine q_keep ctx keep_onIndTimeout hna (fun f hp' => ?_) hO hmin hQ
      rwa [(onIndTimeout_ctl c a _ y shuf _).pendOf_ne fun e => hyx e.symm]
  | susp y t hp hk hf =>
    refine q_keep ctx keep_onSuspTimeout hna (fun f hp' => ?_) hO hmin hQ
    by_cases hxy : x = y
    · -- the timer that fires is a suspicion timer, not the ack timer of `x`
      subst hxy
      cases hp.symm.trans hp'
      cases hk
    · rwa [(onSuspTimeout_ctl y _).pendOf_ne hxy]

end phase

structure LInv (c : Cfg) (a T0 : Nat) (s : Sys D) : Prop where
  noAlive : SNoAlive s
  sentLe : SentLe s
  /-- `T0` bounds the start offset: before it the first tick is within an interval of `T0`; after it every tick
      re-arms one interval from now -/
  next : (s.node a).nextTick ≤ max s.now T0 + c.interval

theorem LInv.next_early {c : Cfg} {a T0 : Nat} {s : Sys D} (I : LInv c a T0 s) (h : s.now ≤ T0) :
    (s.node a).nextTick ≤ T0 + c.interval :=
  Nat.max_eq_right h ▸ I.next

theorem linv_step {c : Cfg} {a T0 : Nat} {s : Sys D} {act : Act} (I : LInv c a T0 s)
    (hmono : s.now ≤ act.time) : LInv c a T0 (step c s act) := by
  have hst := step_rel c s act
  refine ⟨snoalive_step hst I.noAlive, sentle_step hst I.sentLe hmono, ?_⟩
  rw [step_now hst]
  -- the next tick of `a` stays, or is set to one interval from now
  rcases hst.keep_or_tick I.noAlive a with h | ⟨shuf, _, _, h⟩
  · rw [h.tick]
    exact Nat.le_trans I.next (Nat.add_le_add_right
      (Nat.max_le.mpr ⟨Nat.le_trans hmono (Nat.le_max_left _ _), Nat.le_max_right _ _⟩) _)
  · rw [h, onTick_nextTick]
    exact Nat.add_le_add_right (Nat.le_max_left _ _) _

theorem linv_run {c : Cfg} {a T0 : Nat} {s : Sys D} {acts : List Act} (I : LInv c a T0 s)
    (hm : Along c (fun s act => s.now ≤ act.time) s acts) : LInv c a T0 (run c s acts) :=
  run_along (fun _ _ I h => linv_step I h) I hm

structure GInv (c : Cfg) (a T0 : Nat) (s : Sys D) : Prop extends LInv c a T0 s where
  ord : OrdInv c.n a (s.node a)

theorem ginv_step {c : Cfg} {a T0 : Nat} {s : Sys D} {act : Act} (I : GInv c a T0 s)
    (hmono : s.now ≤ act.time) (hsh : shufOk c s a act = true) : GInv c a T0 (step c s act) := by
  refine ⟨linv_step I.toLInv hmono, ?_⟩
  rcases (step_rel c s act).keep_or_tick I.noAlive a with h | ⟨shuf, hact, _, h⟩
  · exact ordInv_keep h I.ord
  · rw [h]
    exact ordInv_onTick c a _ shuf _ I.ord (shufOk_tick (hact ▸ hsh))

theorem ginv_run {c : Cfg} {δ a T0 : Nat} {s : Sys D} {acts : List Act} (I : GInv c a T0 s)
    (hs : Along c (Sched c δ a) s acts) : GInv c a T0 (run c s acts) :=
  run_along (fun _ _ I h => ginv_step I h.mono h.shuf) I hs

/-- the time by which the ack timer of a probe of `x` has been armed: one interval until the first
    tick after `cx + δ`, then at most `pot ≤ 2(n-1) + (n-1)(k-1)` further ticks -/
def probeBy (c : Cfg) (k δ cx : Nat) : Nat :=
  cx + δ + c.interval + (2 * (c.n - 1) + (c.n - 1) * ((c.n - 1) - (c.n - k))) * c.interval

/-- after every action, while `a` reports `x` ALIVE, `n - k ≤ |alive|` in `a`'s view: at most `k - 1`
    members besides `x` are ever lost to `a` (trivial for `k = n`) -/
abbrev LminRun (c : Cfg) (k a x : Nat) : Sys D → List Act → Prop :=
  Along c fun s act => (step c s act).view a x = .alive →
    c.n - k ≤ (aliveOrder c.n a ((step c s act).node a)).length

theorem lminRun_full (c : Cfg) (a x : Nat) (s : Sys D) (acts : List Act) : LminRun c c.n a x s acts :=
  along_of_forall (fun _ _ _ => Nat.sub_self c.n ▸ Nat.zero_le _) s acts

structure PostInv (c : Cfg) (k a x δ cx : Nat) (s : Sys D) : Prop where
  g : GInv c a (cx + δ) s
  down : Down x cx s
  q : Q c k a x (probeBy c k δ cx) (s.node a)
  late : s.isCrashed a = false → probeBy c k δ cx + c.half < s.now → NA x (s.node a)

theorem le_probeBy (c : Cfg) (k δ cx : Nat) : cx + δ ≤ probeBy c k δ cx + c.half :=
  Nat.le_trans (Nat.le_add_right _ _)
    (Nat.le_trans (Nat.le_add_right (cx + δ + c.interval) _) (Nat.le_add_right _ _))

section post
variable {c : Cfg} {k a x δ cx : Nat} (ctx : Ctx c a x)
include ctx

theorem q_establish {nd : Node D} (hO : OrdInv c.n a nd) (hn : nd.nextTick ≤ cx + δ + c.interval) :
    Q c k a x (probeBy c k δ cx) nd := fun _ =>
  .inl (Nat.add_le_add hn (Nat.mul_le_mul_right c.interval (pot_le ctx.ha hO.nodup)))

theorem post_step {s : Sys D} {act : Act} (I : PostInv c k a x δ cx s) (hs : Sched c δ a s act)
    (hmin : (step c s act).view a x = .alive →
      c.n - k ≤ (aliveOrder c.n a ((step c s act).node a)).length) :
    PostInv c k a x δ cx (step c s act) := by
  have hst := step_rel c s act
  have hnow := step_now hst
  have hg := ginv_step I.g hs.mono hs.shuf
  refine ⟨hg, down_step hst I.down, ?_, fun hlive hlate => ?_⟩
  · -- up to `cx + δ` the phase invariant is not preserved but established afresh (the next tick is still within an
    -- interval of `cx + δ`); only later is `x` known to be quiet, and `q_step` applies
    by_cases hl : cx + δ < act.time
    · exact q_step ctx hst I.g.noAlive (I.down.quiet hs.timely hl a) hs I.g.ord hmin I.q
    · exact q_establish ctx hg.ord (hg.toLInv.next_early (hnow ▸ Nat.le_of_not_lt hl))
  · have hd := hs.due (live_of_run c s [act] a hlive)
    -- nothing of `a` is overdue, so with `x` ALIVE neither phase of `Q` would be over
    exact I.down.late_step hs.timely (le_probeBy c k δ cx) (fun hna => match I.q hna with
      | .inl h1 => Nat.le_trans (dueOk_tick hd)
          (Nat.le_trans (Nat.le_trans (Nat.le_add_right _ _) h1) (Nat.le_add_right _ _))
      | .inr ⟨f, hp, hf1, _⟩ => Nat.le_trans (dueOk_pend hd ctx.hx _ hp) hf1) hlate

theorem post_run {s : Sys D} {acts : List Act} (I : PostInv c k a x δ cx s)
    (hs : Along c (Sched c δ a) s acts) (hmin : LminRun c k a x s acts) :
    PostInv c k a x δ cx (run c s acts) :=
  run_along (fun _ _ I h => post_step ctx I h.1 h.2) I (hs.and hmin)

theorem post_crash {s : Sys D} (G : GInv c a (cx + δ) s) (hnow : s.now ≤ cx) :
    PostInv c k a x δ cx (step c s (.crash x cx)) :=
  have hg := ginv_step (act := .crash x cx) G hnow rfl
  ⟨hg, down_crash G.noAlive G.sentLe hnow,
    q_establish ctx hg.ord (hg.toLInv.next_early (Nat.le_add_right cx δ)),
    fun _ h => absurd (Nat.lt_of_le_of_lt (le_probeBy c k δ cx) h) (Nat.not_lt.mpr (Nat.le_add_right cx δ))⟩

end post

theorem probeBy_le_deadline (c : Cfg) (k δ cx : Nat) (hk : 1 ≤ k) :
    probeBy c k δ cx + c.half ≤ Spec.detectDeadline c.n k c.interval c.half δ cx := by
  -- `(n-1) - (n-k) ≤ k-1`, so the ticks are at most `1 + 2(n-1) + (n-1)(k-1) ≤ (k+1)(n-1) + 2`
  have h1 : 2 * (c.n - 1) + (c.n - 1) * ((c.n - 1) - (c.n - k)) ≤ (k + 1) * (c.n - 1) := by
    rw [Nat.mul_comm 2, ← Nat.mul_add, Nat.mul_comm]
    exact Nat.mul_le_mul_right _ (by omega)
  have h2 := Nat.mul_le_mul_right c.interval (Nat.add_le_add_right h1 1)
  rw [Nat.add_mul, Nat.one_mul] at h2
  unfold probeBy Spec.detectDeadline Spec.detectTicks
  rw [Nat.add_assoc (cx + δ), Nat.add_comm c.interval]
  exact Nat.add_le_add_right (Nat.add_le_add_left
    (Nat.le_trans h2 (Nat.mul_le_mul_right _ (Nat.add_le_add_left (Nat.le_succ 1) _))) _) _

theorem detect_core {c : Cfg} {k δ : Nat} {s : Sys D} {post : List Act} {a x cx : Nat}
    (ctx : Ctx c a x) (hk : 1 ≤ k) (I : PostInv c k a x δ cx s) (hs : Along c (Sched c δ a) s post)
    (hmin : LminRun c k a x s post) (hlive : (run c s post).isCrashed a = false)
    (hlate : Spec.detectDeadline c.n k c.interval c.half δ cx < (run c s post).now) :
    (run c s post).view a x ≠ .alive :=
  (post_run ctx I hs hmin).late hlive (Nat.lt_of_le_of_lt (probeBy_le_deadline c k δ cx hk) hlate)

end HappyModel.C13
