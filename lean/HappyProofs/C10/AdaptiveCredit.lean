import HappyProofs.C10.Adaptive
/-!
Adaptive bucket: the sharp admission bound.

`_refill` credits `current_rate × (now − last_refill)` at every `try_acquire` / `time_until_available`
call, with the rate in force *at that call* — a rate change between two calls is applied retroactively
to the whole time since the last call.  `AD.credit` is the sum of those products over a run (the
discrete "∫ rate" the code actually computes).  Every admission is paid for by tokens held at the start
or by this credit; between two rate changes the credit is exactly `rate × elapsed`, and it never exceeds
`pmax × elapsed`.  The naive reading "capacity + ∫ (rate in force at each instant)" is false of the code.
-/
namespace HappyModel.C10

/-- what one `_refill` at `t` offers before capping -/
def AD.credit1 (s : AD) (t : Nat) : Nat :=
  match s.last with
  | some l => s.p * (t - l)
  | none => 0

def AD.credit (c : ADCfg) : AD → List Op → Nat
  | _, [] => 0
  | s, .acq t :: os => s.credit1 t + AD.credit c (s.step c (.acq t)) os
  | s, .tua t :: os => s.credit1 t + AD.credit c (s.step c (.tua t)) os
  | s, .succ t :: os => AD.credit c (s.step c (.succ t)) os
  | s, .fail t :: os => AD.credit c (s.step c (.fail t)) os

theorem AD.refill_credit (c : ADCfg) (s : AD) (t : Nat) : (s.refill c t).tok ≤ s.tok + s.credit1 t := by
  rw [AD.refill_eq]
  unfold AD.credit1
  cases hl : s.last with
  | none =>
    have := TB.refill_tok_le (c.tb s.p) s.toTB t t (fun _ h => nomatch hl.symm.trans h)
    rwa [Nat.sub_self] at this
  | some l => exact TB.refill_tok_le (c.tb s.p) s.toTB t l (eq_of_some hl)

/-- **Adaptive, credit bound** (any state, any operation list, no side condition): admissions · one
    token + tokens left ≤ tokens at the start + Σ over the `try_acquire` / `time_until_available` calls
    of (rate in force at the call) × (time since the previous call) — the discrete "capacity + ∫ rate"
    the code implements (`AD.credit`). -/
theorem adaptive_credit_bound (c : ADCfg) (s : AD) (ops : List Op) :
    (AD.admitted c s ops).length * c.one + (AD.run c s ops).tok ≤ s.tok + AD.credit c s ops := by
  induction ops generalizing s with
  | nil => simp [AD.admitted, AD.run, AD.credit]
  | cons o os ih =>
    have ih' := ih (s.step c o)
    cases o with
    | acq t =>
      have hr := AD.refill_credit c s t
      simp only [AD.admitted, AD.run, AD.credit]
      simp only [AD.step, AD.acquire] at ih' ⊢
      by_cases hq : c.one ≤ (s.refill c t).tok
      · simp only [hq, if_true, List.length_cons] at ih' ⊢
        rw [Nat.succ_mul]
        omega
      · simp only [hq, if_false, Bool.false_eq_true] at ih' ⊢
        omega
    | tua t =>
      have hr := AD.refill_credit c s t
      simp only [AD.admitted, AD.run, AD.credit]
      have e : (s.step c (.tua t)).tok = (s.refill c t).tok := by
        simp only [AD.step]; rw [AD.tua_fst]
      omega
    | succ t =>
      simp only [AD.admitted, AD.run, AD.credit]
      have e : (s.step c (.succ t)).tok = s.tok := rfl
      omega
    | fail t =>
      simp only [AD.admitted, AD.run, AD.credit]
      have e : (s.step c (.fail t)).tok ≤ s.tok := Nat.min_le_left _ _
      omega

theorem endTime_ge : ∀ (ops : List Op) (now : Nat), MonoOps now ops → now ≤ endTime now ops
  | [], _, _ => Nat.le_refl _
  | o :: os, _, hm => Nat.le_trans hm.1 (endTime_ge os o.time hm.2)

theorem ad_credit_const (c : ADCfg) : ∀ (ops : List Op) (s : AD) (l : Nat), s.last = some l → MonoOps l ops →
    NoFeedback ops → AD.credit c s ops = s.p * (endTime l ops - l)
  | [], _, _, _, _, _ => by rw [endTime, Nat.sub_self]; rfl
  | o :: os, s, l, hl, hm, hn => by
    obtain ⟨a2, -, a1⟩ := AD.step_call c s hn.head
    have e : AD.credit c s (o :: os) = s.credit1 o.time + AD.credit c (s.step c o) os := by
      cases o with
      | acq _ | tua _ => rfl
      | succ _ | fail _ => exact hn.head.elim
    rw [e, ad_credit_const c os _ o.time (a1 fun l' h => eq_of_some hl l' h ▸ hm.1) hm.2 hn.tail, a2, endTime,
      AD.credit1, hl]
    exact mul_sub_split s.p l _ _ hm.1 (endTime_ge os _ hm.2)

/-- ∫ of the rate in force over real time: before each operation, (rate now) × (time since the
    previous operation).  Only to state what is refuted, `adaptive_naive_integral_bound_false`. -/
def AD.rateIntegral (c : ADCfg) : AD → Nat → List Op → Nat
  | _, _, [] => 0
  | s, now, o :: os => s.p * (o.time - now) + AD.rateIntegral c (s.step c o) o.time os

end HappyModel.C10
