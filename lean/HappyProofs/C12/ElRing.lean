import HappyModel.C12.Election
/-!
# C12 — the ring of `RingStrategy` when a node knows all of `0 … n-1`

`ringNext members d` (next node on the sorted ring of `members ∪ {d}`) is `(d + 1) % n` whenever `members`
is a duplicate-free list of exactly the indices below `n` (in any insertion order) and `d < n`.
-/
namespace HappyModel.C12.El

theorem insertSorted_perm (x : Nat) (l : List Nat) : (insertSorted x l).Perm (x :: l) := by
  induction l with
  | nil => exact List.Perm.refl _
  | cons y ys ih =>
    simp only [insertSorted]
    split
    · exact List.Perm.refl _
    · exact (List.Perm.cons y ih).trans (List.Perm.swap x y ys)

theorem sortNat_cons (x : Nat) (l : List Nat) : sortNat (x :: l) = insertSorted x (sortNat l) := rfl

theorem sortNat_perm (l : List Nat) : (sortNat l).Perm l := by
  induction l with
  | nil => exact List.Perm.refl _
  | cons x xs ih => rw [sortNat_cons]; exact (insertSorted_perm x _).trans (List.Perm.cons x ih)

theorem insertSorted_sorted (x : Nat) (l : List Nat) (h : l.Pairwise (· ≤ ·)) :
    (insertSorted x l).Pairwise (· ≤ ·) := by
  induction l with
  | nil => simp [insertSorted]
  | cons y ys ih =>
    have h' := List.pairwise_cons.1 h
    simp only [insertSorted]
    split
    · rename_i hxy
      refine List.Pairwise.cons ?_ h
      intro z hz
      rcases List.mem_cons.1 hz with rfl | hz
      · exact hxy
      · exact Nat.le_trans hxy (h'.1 z hz)
    · rename_i hxy
      refine List.Pairwise.cons ?_ (ih h'.2)
      intro z hz
      have hz' := (insertSorted_perm x ys).subset hz
      rcases List.mem_cons.1 hz' with rfl | hz''
      · omega
      · exact h'.1 z hz''

theorem sortNat_sorted (l : List Nat) : (sortNat l).Pairwise (· ≤ ·) := by
  induction l with
  | nil => simp [sortNat]
  | cons x xs ih => rw [sortNat_cons]; exact insertSorted_sorted x _ ih

theorem sortNat_eq_range (l : List Nat) (n : Nat) (hnd : l.Nodup) (hm : ∀ x, x ∈ l ↔ x < n) :
    sortNat l = List.range n := by
  have hp : (sortNat l).Perm (List.range n) :=
    (sortNat_perm l).trans ((List.perm_ext_iff_of_nodup hnd List.nodup_range).2 (by intro a; simp [hm]))
  refine List.Perm.eq_of_pairwise (le := (· ≤ ·)) ?_ (sortNat_sorted l) ?_ hp
  · intro a b _ _ h1 h2; exact Nat.le_antisymm h1 h2
  · exact List.pairwise_lt_range.imp Nat.le_of_lt

theorem ringNext_eq (members : List Nat) (n d : Nat) (hnd : members.Nodup)
    (hm : ∀ x, x ∈ members ↔ x < n) (hd : d < n) : ringNext members d = (d + 1) % n := by
  have hL : sortNat (members.filter (· != d) ++ [d]) = List.range n := by
    apply sortNat_eq_range
    · rw [List.nodup_append]
      refine ⟨hnd.filter _, by simp, ?_⟩
      intro a ha b hb
      simp only [List.mem_filter, bne_iff_ne, ne_eq] at ha
      simp only [List.mem_singleton] at hb
      subst hb; exact ha.2
    · intro x
      simp only [List.mem_append, List.mem_filter, bne_iff_ne, ne_eq, List.mem_singleton, hm]
      constructor
      · rintro (⟨h, _⟩ | rfl)
        · exact h
        · exact hd
      · intro h
        by_cases hx : x = d
        · exact Or.inr hx
        · exact Or.inl ⟨h, hx⟩
  have hidx : (List.range n).findIdx? (· == d) = some d := by
    rw [List.findIdx?_eq_some_iff_getElem]
    refine ⟨by simpa using hd, by simp, ?_⟩
    intro j hj
    simp only [List.getElem_range, beq_iff_eq]
    omega
  have hlt : (d + 1) % n < n := Nat.mod_lt _ (by omega)
  unfold ringNext
  simp only [hL, hidx, Option.getD_some, List.length_range]
  simp [List.getD_eq_getElem?_getD, hlt]

end HappyModel.C12.El
