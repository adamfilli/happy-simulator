/-!
Exact model of `PhiAccrualDetector.phi` for the monotonicity clause.

The code computes, with `elapsed = now − last_heartbeat`,
`y = (elapsed − mean) / max(std, min_std)`, `p = 0.5·erfc(y/√2)`, and returns `0` when there is
no heartbeat / no interval / `elapsed < 0`, `+∞` when `p < sys.float_info.min` (the tail probability is
subnormal or has underflowed; the model's `tail` is an integer parameter, for which that reads `p ≤ 0`),
`−log10 p` otherwise.

Here time is integer nanoseconds, `mean` and `sd` are arbitrary functions of the interval window
(only `0 < sd` matters — the code enforces it with `min_std`), `y` is a fixed-point number with
`scale` fractional units (floor division), and the two transcendental functions are *parameters*:
`tail : Int → Int` (the scaled normal tail, assumed antitone) and `nlog : Int → Int` (the scaled
`−log10`, assumed antitone on positive arguments and non-negative on the range of `tail`).
-/
namespace HappyModel.C13

/-- phi values: finite or `+∞` -/
inductive PV
  | fin (v : Int)
  | inf
deriving DecidableEq, Repr

def PV.le : PV → PV → Prop
  | .fin a, .fin b => a ≤ b
  | _, .inf => True
  | .inf, .fin _ => False

instance : (a b : PV) → Decidable (PV.le a b)
  | .fin a, .fin b => inferInstanceAs (Decidable (a ≤ b))
  | .fin _, .inf => isTrue trivial
  | .inf, .inf => isTrue trivial
  | .inf, .fin _ => isFalse (fun h => h)

structure PhiFns where
  tail : Int → Int
  nlog : Int → Int
  mean : List Nat → Int
  sd : List Nat → Int
  scale : Nat

/-- detector state that matters for `phi`: last heartbeat and the interval window -/
structure QDet where
  last : Option Nat := none
  ivs : List Nat := []
  maxN : Nat := 200
deriving Repr

/-- `heartbeat` -/
def QDet.hb (d : QDet) (ts : Nat) : QDet :=
  match d.last with
  | none => { d with last := some ts }
  | some l =>
    if l < ts then
      let w := d.ivs ++ [ts - l]
      { d with last := some ts, ivs := if w.length > d.maxN then w.drop 1 else w }
    else { d with last := some ts }

/-- `phi(now)` -/
def QDet.phi (F : PhiFns) (d : QDet) (now : Nat) : PV :=
  match d.last with
  | none => .fin 0
  | some l =>
    if d.ivs.length < 1 then .fin 0
    else if now < l then .fin 0
    else
      let y := (((now - l : Nat) : Int) - F.mean d.ivs) * (F.scale : Int) / F.sd d.ivs
      let p := F.tail y
      if p ≤ 0 then .inf else .fin (F.nlog p)

end HappyModel.C13
