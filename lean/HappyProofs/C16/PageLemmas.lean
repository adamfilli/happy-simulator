import HappyModel.C16.Page
/-! `PageCache`: the ordered dict, `Frame` (what none of the counted quantities sees) and `step_ind`, the one
walk through a segment of the repaired variant from which the theorems about counted quantities are read off. -/
namespace HappyModel.C16.Page

def b2n (b : Bool) : Nat := if b then 1 else 0

@[simp] theorem b2n_true : b2n true = 1 := rfl
@[simp] theorem b2n_false : b2n false = 0 := rfl
theorem b2n_le (b : Bool) : b2n b ≤ 1 := by cases b <;> simp

theorem dirtyCount_nil : dirtyCount [] = 0 := rfl

theorem dirtyCount_cons (q : Pg) (ps : List Pg) : dirtyCount (q :: ps) = dirtyCount ps + b2n q.dirty := by
  simp [dirtyCount, b2n, List.countP_cons]

theorem dirtyCount_snoc (q : Pg) (ps : List Pg) : dirtyCount (ps ++ [q]) = dirtyCount ps + b2n q.dirty := by
  simp [dirtyCount, b2n, List.countP_append, List.countP_cons]

theorem dirtyCount_le_length (ps : List Pg) : dirtyCount ps ≤ ps.length := by
  unfold dirtyCount; exact List.countP_le_length

theorem has_cons (q : Pg) (ps : List Pg) (p : Nat) : has (q :: ps) p = (q.id == p || has ps p) := by
  simp [has]

theorem has_eq_isSome (ps : List Pg) (p : Nat) : has ps p = (findPg ps p).isSome := by
  induction ps with
  | nil => rfl
  | cons a as ih =>
    rw [has_cons, findPg, ih]
    cases (a.id == p) <;> rfl

theorem find_of_has_false {ps : List Pg} {p : Nat} (h : has ps p = false) : findPg ps p = none :=
  Option.not_isSome_iff_eq_none.mp (by rw [← has_eq_isSome, h]; simp)

theorem find_of_has_true {ps : List Pg} {p : Nat} (h : has ps p = true) : ∃ q, findPg ps p = some q :=
  Option.isSome_iff_exists.mp (has_eq_isSome ps p ▸ h)

theorem isDirty_of_find {ps : List Pg} {p : Nat} {q : Pg} (h : findPg ps p = some q) : isDirty ps p = q.dirty := by
  simp [isDirty, h]

theorem isDirty_of_absent {ps : List Pg} {p : Nat} (h : has ps p = false) : isDirty ps p = false := by
  simp [isDirty, find_of_has_false h]

theorem has_of_isDirty {ps : List Pg} {p : Nat} (h : isDirty ps p = true) : has ps p = true := by
  cases hh : has ps p with
  | true => rfl
  | false => rw [isDirty_of_absent hh] at h; cases h

/-! Removing the entry of `p` and putting it (or a replacement) back permutes the dict; lengths, dirty counts
and membership are read off the two permutations. -/

theorem erase1_perm {ps : List Pg} {p : Nat} {q : Pg} (h : findPg ps p = some q) : (q :: erase1 ps p).Perm ps := by
  induction ps with
  | nil => cases h
  | cons a t ih =>
    unfold findPg at h
    unfold erase1
    split at h
    · cases h; rw [if_pos ‹_›]
    · rw [if_neg ‹_›]; exact (List.Perm.swap a q _).trans ((ih h).cons a)

theorem replace1_perm {ps : List Pg} {p : Nat} {q : Pg} (n : Pg) (h : findPg ps p = some q) :
    (replace1 ps p n).Perm (n :: erase1 ps p) := by
  induction ps with
  | nil => cases h
  | cons a t ih =>
    unfold findPg at h
    unfold replace1 erase1
    split at h
    · rw [if_pos ‹_›, if_pos ‹_›]
    · rw [if_neg ‹_›, if_neg ‹_›]; exact ((ih h).cons a).trans (List.Perm.swap n a _)

theorem length_replace1 {ps : List Pg} {p : Nat} {q : Pg} (n : Pg) (h : findPg ps p = some q) :
    (replace1 ps p n).length = ps.length :=
  (replace1_perm n h).length_eq.trans (erase1_perm h).length_eq

theorem length_erase1_le (ps : List Pg) (p : Nat) : (erase1 ps p).length ≤ ps.length := by
  induction ps with
  | nil => simp [erase1]
  | cons a as ih =>
    by_cases hc : (a.id == p) = true
    · simp [erase1, hc]
    · simp [erase1, hc]; exact ih

theorem dirty_replace1 {ps : List Pg} {p : Nat} {q : Pg} (n : Pg) (h : findPg ps p = some q) :
    dirtyCount (replace1 ps p n) + b2n q.dirty = dirtyCount ps + b2n n.dirty := by
  have h1 := (replace1_perm n h).countP_eq (·.dirty)
  have h2 := (erase1_perm h).countP_eq (·.dirty)
  simp only [List.countP_cons] at h1 h2
  unfold dirtyCount b2n
  omega

theorem mem_replace1 {ps : List Pg} {p : Nat} {n q x : Pg} (h : findPg ps p = some q) (hx : x ∈ replace1 ps p n) :
    x ∈ ps ∨ x = n := by
  rcases List.mem_cons.mp ((replace1_perm n h).mem_iff.mp hx) with e | hx
  · exact Or.inr e
  · exact Or.inl ((erase1_perm h).mem_iff.mp (List.mem_cons_of_mem _ hx))

theorem mem_of_find {ps : List Pg} {p : Nat} {q : Pg} (h : findPg ps p = some q) : q ∈ ps ∧ q.id = p := by
  refine ⟨(erase1_perm h).mem_iff.mp List.mem_cons_self, ?_⟩
  induction ps with
  | nil => cases h
  | cons a t ih =>
    unfold findPg at h
    split at h
    · cases h; exact eq_of_beq ‹_›
    · exact ih h

@[simp] theorem setPend_pages (s : St) (i : Nat) (p : Pend) : (s.setPend i p).pages = s.pages := rfl
@[simp] theorem setPend_dwb (s : St) (i : Nat) (p : Pend) : (s.setPend i p).dwb = s.dwb := rfl
@[simp] theorem setPend_made (s : St) (i : Nat) (p : Pend) : (s.setPend i p).made = s.made := rfl
@[simp] theorem setPend_pend (s : St) (i : Nat) (p : Pend) : (s.setPend i p).pend = s.pend ++ [(i, p)] := rfl

theorem assign_length (s : St) (p : Nat) (d : Bool) :
    (s.assign p d).pages.length = s.pages.length + b2n (!has s.pages p) := by
  unfold St.assign
  cases hh : has s.pages p with
  | false => simp
  | true =>
    obtain ⟨q, hq⟩ := find_of_has_true hh
    simp [length_replace1 _ hq]

theorem assign_length_bounds (s : St) (p : Nat) (d : Bool) :
    s.pages.length ≤ (s.assign p d).pages.length ∧ (s.assign p d).pages.length ≤ s.pages.length + 1 := by
  have := assign_length s p d
  have := b2n_le (!has s.pages p)
  omega

theorem assign_dirty (s : St) (p : Nat) (d : Bool) :
    dirtyCount (s.assign p d).pages + b2n (isDirty s.pages p) = dirtyCount s.pages + b2n d := by
  unfold St.assign
  by_cases hh : has s.pages p = true
  · obtain ⟨q, hq⟩ := find_of_has_true hh
    simp only [hh, if_true]
    rw [isDirty_of_find hq]
    exact dirty_replace1 _ hq
  · have hh' : has s.pages p = false := by simpa using hh
    simp only [hh', Bool.false_eq_true, if_false, dirtyCount_snoc, isDirty_of_absent hh']
    simp

theorem assign_dirty_true (s : St) (p : Nat) :
    dirtyCount (s.assign p true).pages = dirtyCount s.pages + (if !isDirty s.pages p then 1 else 0) := by
  have := assign_dirty s p true
  cases h : isDirty s.pages p <;> simp only [h, b2n_true, b2n_false] at this <;> simp <;> omega

@[simp] theorem assign_ev (s : St) (p : Nat) (d : Bool) : (s.assign p d).ev = s.ev := by
  unfold St.assign; split <;> rfl
@[simp] theorem assign_dwb (s : St) (p : Nat) (d : Bool) : (s.assign p d).dwb = s.dwb := by
  unfold St.assign; split <;> rfl
@[simp] theorem assign_made (s : St) (p : Nat) (d : Bool) : (s.assign p d).made = s.made := by
  unfold St.assign; split <;> rfl
@[simp] theorem assign_pend (s : St) (p : Nat) (d : Bool) : (s.assign p d).pend = s.pend := by
  unfold St.assign; split <;> rfl

theorem setDirty_length (s : St) (p : Nat) (d : Bool) : (s.setDirty p d).pages.length = s.pages.length := by
  unfold St.setDirty
  cases hf : findPg s.pages p with
  | none => rfl
  | some q => exact length_replace1 _ hf

theorem setDirty_dirty (s : St) (p : Nat) (d : Bool) (hh : has s.pages p = true) :
    dirtyCount (s.setDirty p d).pages + b2n (isDirty s.pages p) = dirtyCount s.pages + b2n d := by
  obtain ⟨q, hq⟩ := find_of_has_true hh
  unfold St.setDirty
  rw [isDirty_of_find hq]
  simp only [hq]
  exact dirty_replace1 _ hq

theorem setDirty_dirty_true (s : St) (p : Nat) (hh : has s.pages p = true) :
    dirtyCount (s.setDirty p true).pages = dirtyCount s.pages + (if !isDirty s.pages p then 1 else 0) := by
  have := setDirty_dirty s p true hh
  cases h : isDirty s.pages p <;> simp only [h, b2n_true, b2n_false] at this <;> simp <;> omega

theorem setDirty_with_made (s : St) (p : Nat) (d : Bool) (m : Nat) :
    ({ s with made := m }).setDirty p d = { s.setDirty p d with made := m } := by
  cases h : findPg s.pages p <;> simp [St.setDirty, h]

@[simp] theorem setDirty_ev (s : St) (p : Nat) (d : Bool) : (s.setDirty p d).ev = s.ev := by
  unfold St.setDirty; split <;> rfl
@[simp] theorem setDirty_dwb (s : St) (p : Nat) (d : Bool) : (s.setDirty p d).dwb = s.dwb := by
  unfold St.setDirty; split <;> rfl
@[simp] theorem setDirty_made (s : St) (p : Nat) (d : Bool) : (s.setDirty p d).made = s.made := by
  unfold St.setDirty; split <;> rfl
@[simp] theorem setDirty_pend (s : St) (p : Nat) (d : Bool) : (s.setDirty p d).pend = s.pend := by
  unfold St.setDirty; split <;> rfl

def isEvict : Pend → Bool
  | .evict _ _ => true
  | _ => false

/-- victims whose write-back is under way (repaired: popped from the cache, not yet counted) -/
def inflight (l : List (Nat × Pend)) : Nat := l.countP (fun e => isEvict e.2)

theorem inflight_snoc (l : List (Nat × Pend)) (i : Nat) (p : Pend) :
    inflight (l ++ [(i, p)]) = inflight l + b2n (isEvict p) := by
  simp [inflight, b2n, List.countP_append, List.countP_cons]

theorem inflight_erase {l : List (Nat × Pend)} {i : Nat} {p : Pend} (h : findPend l i = some p) :
    inflight (erasePend l i) + b2n (isEvict p) = inflight l := by
  induction l with
  | nil => cases h
  | cons a as ih =>
    obtain ⟨j, q⟩ := a
    unfold findPend at h
    unfold erasePend
    split at h
    · cases h
      rw [if_pos ‹_›]
      simp [inflight, b2n, List.countP_cons]
    · rw [if_neg ‹_›]
      have := ih h
      simp only [inflight, List.countP_cons] at this ⊢
      omega

/-! Every quantity the theorems about the repaired model speak of is read off the cached pages, `ev`, `made` and
`dwb + inflight pend`.  `Frame s t o`: `t` arises from `s` by moves that leave those alone, except that pages
may have been dropped from the cache, each counted in `ev`, none of them dirty but for the one victim `o`
(if any), whose write-back is then owed. -/

structure Frame (s t : St) (o : Option Nat) : Prop where
  le : t.pages.length ≤ s.pages.length
  ins : t.pages.length + t.ev = s.pages.length + s.ev
  made : t.made = s.made
  wb : t.dwb + inflight t.pend = s.dwb + inflight s.pend
  dirty : dirtyCount t.pages + b2n o.isSome = dirtyCount s.pages
  mem : ∀ q ∈ t.pages, q ∈ s.pages

theorem Frame.of_eq {s t : St} (h1 : t.pages = s.pages) (h2 : t.ev = s.ev) (h3 : t.made = s.made)
    (h4 : t.dwb + inflight t.pend = s.dwb + inflight s.pend) : Frame s t none :=
  ⟨h1 ▸ Nat.le_refl _, by rw [h1, h2], h3, h4, by rw [h1]; rfl, fun _ hq => h1 ▸ hq⟩

theorem Frame.trans {a b c : St} {o : Option Nat} (h1 : Frame a b none) (h2 : Frame b c o) : Frame a c o :=
  ⟨Nat.le_trans h2.le h1.le, h2.ins.trans h1.ins, h2.made.trans h1.made, h2.wb.trans h1.wb,
    h2.dirty.trans h1.dirty, fun q hq => h1.mem q (h2.mem q hq)⟩

theorem Frame.has_false {s t : St} {o : Option Nat} {p : Nat} (h : Frame s t o) (hp : has s.pages p = false) :
    has t.pages p = false :=
  List.any_eq_false.mpr fun q hq => List.any_eq_false.mp hp q (h.mem q hq)

theorem setPend_frame (s : St) (i : Nat) {p : Pend} (hp : isEvict p = false) : Frame s (s.setPend i p) none :=
  Frame.of_eq rfl rfl rfl (by rw [setPend_pend, inflight_snoc, hp]; rfl)

/-- a resumed call takes its request out of the pending table; the write-back it waited for is then counted -/
theorem take_frame {s : St} {i : Nat} {p : Pend} (h : findPend s.pend i = some p) :
    Frame s { s with pend := erasePend s.pend i, dwb := s.dwb + b2n (isEvict p) } none :=
  Frame.of_eq rfl rfl rfl (by have := inflight_erase h; simp only; omega)

theorem touch_perm (s : St) (p : Nat) : (s.touch p).pages.Perm s.pages := by
  unfold St.touch
  cases hf : findPg s.pages p with
  | none => exact .refl _
  | some q =>
    simp only
    split
    · exact .refl _
    · exact (List.perm_append_singleton q _).trans (erase1_perm hf)

theorem touch_frame (s : St) (p : Nat) : Frame s (s.touch p) none := by
  have h := touch_perm s p
  have e : (s.touch p).ev = s.ev ∧ (s.touch p).made = s.made ∧ (s.touch p).dwb = s.dwb ∧ (s.touch p).pend = s.pend := by
    unfold St.touch; split <;> (try split) <;> exact ⟨rfl, rfl, rfl, rfl⟩
  exact ⟨Nat.le_of_eq h.length_eq, by rw [h.length_eq, e.1], e.2.1, by rw [e.2.2.1, e.2.2.2], h.countP_eq _, fun _ hx => h.mem_iff.mp hx⟩

theorem raLoop_frame (cfg : Cfg) (idx p : Nat) : ∀ (n i : Nat) (s : St), Frame s (raLoop cfg idx p n i s).1 none := by
  intro n
  induction n with
  | zero => intro i s; exact Frame.of_eq rfl rfl rfl rfl
  | succ n ih =>
    intro i s
    unfold raLoop
    split
    · exact setPend_frame s idx rfl
    · exact ih (i + 1) s

theorem readAhead_frame (cfg : Cfg) (idx p i : Nat) (s : St) : Frame s (readAhead cfg idx p i s).1 none :=
  raLoop_frame cfg idx p _ _ s

theorem flushNextR_frame (idx : Nat) : ∀ (rest : List Nat) (n : Nat) (s : St),
    Frame s (flushNextR s idx rest n).1 none := by
  intro rest
  induction rest with
  | nil => intro n s; exact Frame.of_eq rfl rfl rfl rfl
  | cons p rest ih =>
    intro n s
    unfold flushNextR
    split
    · exact setPend_frame s idx rfl
    · exact ih n s

theorem ensure_room (cfg : Cfg) (hc : 0 < cfg.cap) (fuel : Nat) (s : St) (hf : s.pages.length < fuel)
    (hn : (ensure cfg fuel s).2 = none) : (ensure cfg fuel s).1.pages.length < cfg.cap := by
  fun_induction ensure cfg fuel s with
  | case1 => cases hf
  | case2 fuel s h => exact h
  | case3 fuel s _ hp => rw [hp]; exact hc
  | case4 | case6 => cases hn
  | case5 fuel s _ q qs hp _ _ _ ih => exact ih (by rw [hp] at hf; exact Nat.lt_of_succ_lt_succ hf) hn
  | case7 fuel s _ q qs hp _ _ ih => exact ih (by rw [hp] at hf; exact Nat.lt_of_succ_lt_succ hf) hn

/-- `popitem(last=False); evictions += 1` -/
theorem pop_frame {s : St} {q : Pg} {qs : List Pg} (hp : s.pages = q :: qs) {o : Option Nat} (ho : o.isSome = q.dirty) :
    Frame s { s with pages := qs, ev := s.ev + 1, ver := s.ver + 1 } o :=
  ⟨by rw [hp]; exact Nat.le_succ _, by rw [hp]; simp only [List.length_cons]; omega, rfl, rfl,
    by rw [hp, dirtyCount_cons, ho], fun _ hx => hp ▸ List.mem_cons_of_mem _ hx⟩

/-- repaired `_ensure_space`: only clean pages are dropped silently; a popped dirty page is the
returned victim -/
theorem ensure_frame (cfg : Cfg) (hr : cfg.rep = true) (fuel : Nat) (s : St) :
    Frame s (ensure cfg fuel s).1 (ensure cfg fuel s).2 := by
  fun_induction ensure cfg fuel s with
  | case1 | case2 | case3 => exact Frame.of_eq rfl rfl rfl rfl
  | case4 fuel s _ q qs hp _ _ hd => exact pop_frame hp hd.symm
  | case5 fuel s _ q qs hp _ _ hd ih => exact (pop_frame hp (o := none) (Bool.eq_false_iff.mpr hd).symm).trans ih
  | case6 _ _ _ _ _ _ h | case7 _ _ _ _ _ _ h => exact absurd hr h

theorem withRoom_ind (cfg : Cfg) (s : St) (idx : Nat) (k : Cont) (P : St × Option Res → Prop)
    (hra : ∀ p, k = .ins p → has s.pages p = true → P (readAhead cfg idx p 1 s))
    (hroom : ∀ s1, ensure cfg (s.pages.length + 1) s = (s1, none) →
      (∀ p, k = .ins p → has s.pages p = false) → P (afterRoom cfg s1 idx k))
    (hev : ∀ s1 v, ensure cfg (s.pages.length + 1) s = (s1, some v) →
      P (s1.setPend idx (.evict v k), none)) :
    P (withRoom cfg s idx k) := by
  have key : (∀ p, k = .ins p → has s.pages p = false) →
      P (match ensure cfg (s.pages.length + 1) s with
        | (s1, none) => afterRoom cfg s1 idx k
        | (s1, some v) => (s1.setPend idx (.evict v k), none)) := by
    intro hk
    cases he : ensure cfg (s.pages.length + 1) s with
    | mk s1 o =>
      cases o with
      | none => exact hroom s1 he hk
      | some v => exact hev s1 v he
  cases k with
  | ins p =>
    unfold withRoom
    simp only
    split
    · exact hra p rfl ‹_›
    · rename_i hh
      exact key (fun q hq => by cases hq; simpa using hh)
  | load p | write p => exact key (fun q hq => by cases hq)

/-! The ghost counter `made` moves only in a segment in which a `write_page` returns, so the case principle below
hands the page of that call (`writeRet`) to its motive.  The theorems speak of the same segment in three other spellings: `writeReturns` (a flag, for the sum
`dirtied`), `WriteSeg s a p` (a segment of a `write_page(p)`, returning or not) and, in
`pagecache_write_leaves_page_dirty`, the body of `WriteSeg` written out. -/

/-- the page whose `write_page` returns in this segment, if any -/
def writeRet (cfg : Cfg) (s : St) : Act → Option Nat
  | .start i (.write p) => if (step cfg s (.start i (.write p))).2 = some .ok then some p else none
  | .resume i =>
    match findPend s.pend i with
    | some (.evict _ (.write p)) => if (step cfg s (.resume i)).2 = some .ok then some p else none
    | _ => none
  | _ => none

/-- does this segment belong to a `write_page` call? (a resumed call is a write iff it is suspended
in the eviction loop of `write_page`: that is the only place where `write_page` yields) -/
def writeSeg (s : St) : Act → Bool
  | .start _ (.write _) => true
  | .start _ _ => false
  | .resume i =>
    match findPend s.pend i with
    | some (.evict _ (.write _)) => true
    | _ => false

def writeReturns (cfg : Cfg) (s : St) (a : Act) : Bool :=
  writeSeg s a && decide ((step cfg s a).2 = some .ok)

theorem writeReturns_eq (cfg : Cfg) (s : St) (a : Act) : writeReturns cfg s a = (writeRet cfg s a).isSome := by
  have key (c : Prop) [Decidable c] (p : Nat) : decide c = (if c then some p else none).isSome := by
    by_cases h : c <;> simp [h]
  cases a with
  | start i op =>
    cases op with
    | write p => exact key _ p
    | read p | flush => rfl
  | resume i =>
    simp only [writeReturns, writeSeg, writeRet]
    generalize findPend s.pend i = o
    cases o with
    | none => rfl
    | some pd =>
      cases pd with
      | evict v k =>
        cases k with
        | write p => exact key _ p
        | _ => rfl
      | _ => rfl

def WriteSeg (s : St) (a : Act) (p : Nat) : Prop :=
  (∃ i, a = .start i (.write p)) ∨ (∃ i v, a = .resume i ∧ findPend s.pend i = some (.evict v (.write p)))

theorem writeRet_of_seg {cfg : Cfg} {s : St} {a : Act} {p : Nat} (hw : WriteSeg s a p)
    (hok : (step cfg s a).2 = some .ok) : writeRet cfg s a = some p := by
  rcases hw with ⟨i, rfl⟩ | ⟨i, v, rfl, hpd⟩
  · simp only [writeRet, hok, if_true]
  · simp only [writeRet, hpd, hok, if_true]

/-- What a segment of the repaired model does, up to `Frame`: it takes its own request out of the pending
table, `_ensure_space` may drop clean pages, and then at most one thing happens that a ledger counts.  A
statement `P (state after the segment) (page whose write_page returned)` that survives `Frame` on the
right therefore only has to be checked in six states. -/
theorem step_ind (cfg : Cfg) (hr : cfg.rep = true) (s : St) (a : Act) (P : St → Option Nat → Prop)
    (mono : ∀ x t np, Frame x t none → P x np → P t np)
    (idle : P s none)
    (hit : ∀ t p, Frame s t none → has t.pages p = true →
      P { t.setDirty p true with made := t.made + (if !isDirty t.pages p then 1 else 0) } (some p))
    (insert : ∀ t q, Frame s t none → has t.pages q = false → (0 < cfg.cap → t.pages.length < cfg.cap) →
      P (t.assign q false) none)
    (write : ∀ t p, Frame s t none → (0 < cfg.cap → t.pages.length < cfg.cap) →
      P { t.assign p true with made := t.made + (if !isDirty t.pages p then 1 else 0) } (some p))
    (suspend : ∀ t v i k, Frame s t (some v) → P (t.setPend i (.evict v k)) none)
    (clean : ∀ t q, Frame s t none → isDirty t.pages q = true →
      P { t.setDirty q false with dwb := t.dwb + 1 } none) :
    P (step cfg s a).1 (writeRet cfg s a) := by
  have rest : ∀ t, Frame s t none → P t none := fun t h => mono s t none h idle
  -- the second argument is what `writeRet` reduces to at `start _ (.write p)` and at a resumed `.evict _ k`
  have room : ∀ s0 i k, Frame s s0 none → P (withRoom cfg s0 i k).1
      (match k with | .write p => if (withRoom cfg s0 i k).2 = some .ok then some p else none | _ => none) := by
    intro s0 i k h0
    have he := ensure_frame cfg hr (s0.pages.length + 1) s0
    refine withRoom_ind cfg s0 i k
      (fun r => P r.1 (match k with | .write p => if r.2 = some .ok then some p else none | _ => none)) ?_ ?_ ?_
    · rintro p rfl _
      exact rest _ (h0.trans (readAhead_frame cfg i p 1 s0))
    · intro s1 e hk
      rw [e] at he
      have hroom : 0 < cfg.cap → s1.pages.length < cfg.cap := fun hc => by
        have := ensure_room cfg hc _ s0 (Nat.lt_succ_self _)
        rw [e] at this
        exact this rfl
      cases k with
      | load p => exact rest _ ((h0.trans he).trans (setPend_frame s1 i rfl))
      | ins p =>
        exact mono _ _ _ (readAhead_frame cfg i p 1 _) (insert s1 p (h0.trans he) (he.has_false (hk p rfl)) hroom)
      | write p => exact write s1 p (h0.trans he) hroom
    · intro s1 v e
      rw [e] at he
      have := suspend s1 v i k (h0.trans he)
      cases k <;> exact this
  cases a with
  | start i op =>
    cases op with
    | read p =>
      show P (start cfg s i (.read p)).1 none
      simp only [start]
      split
      · exact mono _ _ _ (touch_frame _ p) (rest _ (Frame.of_eq rfl rfl rfl rfl))
      · exact room _ i (.load p) (Frame.of_eq rfl rfl rfl rfl)
    | write p =>
      show P (start cfg s i (.write p)).1 (if (start cfg s i (.write p)).2 = some .ok then some p else none)
      simp only [start]
      split
      · rw [setDirty_with_made { s with hits := s.hits + 1 }]
        exact mono _ _ _ (touch_frame _ p) (hit { s with hits := s.hits + 1 } p (Frame.of_eq rfl rfl rfl rfl) ‹_›)
      · exact room _ i (.write p) (Frame.of_eq rfl rfl rfl rfl)
    | flush =>
      show P (start cfg s i .flush).1 none
      simp only [start, hr, if_true]
      exact rest _ (flushNextR_frame i _ 0 s)
  | resume i =>
    cases hf : findPend s.pend i with
    | none =>
      simp only [writeRet, step, hf]
      exact idle
    | some pd =>
      have h0 := take_frame hf
      cases pd with
      | evict v k =>
        have := room _ i k h0
        cases k <;> simp only [writeRet, step, hf, resume, hr, if_true] <;> exact this
      | disk p =>
        simp only [writeRet, step, hf, resume, hr, if_true]
        exact room _ i (.ins p) h0
      | ahead p j =>
        simp only [writeRet, step, hf, resume, hr, if_true]
        split
        · rename_i hc
          simp only [Bool.and_eq_true, Bool.not_eq_true', decide_eq_true_eq] at hc
          refine mono _ _ _ (Frame.trans ?_ (readAhead_frame cfg i p (j + 1) _))
            (insert _ (p + j) h0 hc.1 (fun _ => hc.2))
          exact Frame.of_eq rfl rfl rfl rfl
        · exact rest _ (h0.trans (readAhead_frame cfg i p (j + 1) _))
      | flushC p g rs stamp n =>
        simp only [writeRet, step, hf, resume, hr, if_true]
        exact rest _ h0
      | flushR q rs n =>
        simp only [writeRet, step, hf, resume, hr, Bool.not_true, Bool.false_eq_true, if_false]
        split
        · exact mono _ _ _ (flushNextR_frame i rs (n + 1) _) (clean _ q h0 ‹_›)
        · exact rest _ (h0.trans (flushNextR_frame i rs n _))

end HappyModel.C16.Page
