import HappyProofs.C12.MPFull
/-!
# C12 — the progress clause of the Spec accepts the model's own transcript of a stable-leader run: every `prop` of the run
comes from the set-up prefix (`setup_props`), none from a stable action (`stable_run_noProp`)
-/
namespace HappyModel.C12.MP
-- `isAck` in this file is `MP.isAck` (on actions); `Spec.isAck` (on observations) is hidden by it
open HappyModel.C12.Spec

def NoProp (p : Nat) (l : List LogObs) : Prop := ∀ b sl c, LogObs.prop p b sl c ∉ l

theorem NoProp.append {p : Nat} {l1 l2 : List LogObs} (h1 : NoProp p l1) (h2 : NoProp p l2) : NoProp p (l1 ++ l2) := by
  intro b sl c h
  rcases List.mem_append.1 h with h | h
  · exact h1 b sl c h
  · exact h2 b sl c h

theorem prop_mem_obsStep {s : St} {a : Act} {q b sl c : Nat} (h : LogObs.prop q b sl c ∈ obsStep s a) :
    q = actor a ∧ a.isPhase1 = true ∧
      (q < s.nodes.length → 1 ≤ sl ∧ ∃ e, (getNode (step s a).1 q).log[sl - 1]? = some e ∧ e.cmd = c) := by
  cases mem_obsStep h with | prop hm => ?_
  obtain ⟨hp, nd, hm', hst⟩ := accept_sent hm
  exact ⟨rfl, hp, fun hq => hst hq ▸ becomeLeader_accept hm'⟩

theorem stable_obs_noProp (s : St) (p : Nat) (a : Act) (h : StableAct p a) : NoProp p (obsStep s a) := by
  intro b sl c hmem
  obtain ⟨rfl, hp, _⟩ := prop_mem_obsStep hmem
  cases a <;> first | exact h rfl | cases hp

theorem stable_run_noProp (p : Nat) : ∀ (as : List Act) (s : St), (∀ a ∈ as, StableAct p a) → NoProp p (obsRun s as) := by
  intro as
  induction as with
  | nil => intro s _ b sl c h; cases h
  | cons a rest ih =>
    intro s hall
    exact (stable_obs_noProp s p a (hall a List.mem_cons_self)).append
      (ih _ (fun a' ha' => hall a' (List.mem_cons_of_mem _ ha')))

theorem run_log_extends (p : Nat) : ∀ (as : List Act) (s : St), (∀ a ∈ as, a.isSetup = true) →
    ∃ l, (getNode (run s as) p).log = (getNode s p).log ++ l := by
  intro as
  induction as with
  | nil => intro s _; exact ⟨[], (List.append_nil _).symm⟩
  | cons a rest ih =>
    intro s hall
    obtain ⟨l1, h1⟩ := (step_keeps s a p).log (hall a List.mem_cons_self)
    obtain ⟨l2, h2⟩ := ih (step s a).1 (fun a' ha' => hall a' (List.mem_cons_of_mem _ ha'))
    exact ⟨l1 ++ l2, by rw [← List.append_assoc, ← h1]; exact h2⟩

theorem setup_props (p : Nat) : ∀ (as : List Act) (s : St), p < s.nodes.length → (∀ a ∈ as, a.isSetup = true) →
    ∀ b sl c, LogObs.prop p b sl c ∈ obsRun s as →
      1 ≤ sl ∧ ∃ e, (getNode (run s as) p).log[sl - 1]? = some e ∧ e.cmd = c := by
  intro as
  induction as with
  | nil => intro s _ _ b sl c h; cases h
  | cons a rest ih =>
    intro s hp hall b sl c h
    have hall' : ∀ a' ∈ rest, a'.isSetup = true := fun a' ha' => hall a' (List.mem_cons_of_mem _ ha')
    rcases List.mem_append.1 h with h | h
    · obtain ⟨h1, e, he, hc⟩ := (prop_mem_obsStep h).2.2 hp
      obtain ⟨l, hl⟩ := run_log_extends p rest (step s a).1 hall'
      refine ⟨h1, e, ?_, hc⟩
      show (getNode (run (step s a).1 rest) p).log[sl - 1]? = some e
      rw [hl, List.getElem?_append_left (List.getElem?_eq_some_iff.1 he).1]; exact he
    · exact ih _ (by rw [step_nodes_length]; exact hp) hall' b sl c h

theorem mem_leaderProps {obs : List LogObs} {p : Nat} {sc : Nat × Nat} (h : sc ∈ Spec.leaderProps obs p) :
    ∃ b, LogObs.prop p b sc.1 sc.2 ∈ obs := by
  simp only [Spec.leaderProps, List.mem_filterMap] at h
  obtain ⟨o, ho, hs⟩ := h
  cases o with
  | prop p' b s c =>
    simp only at hs
    split at hs
    · rename_i hp
      simp only [beq_iff_eq] at hp
      cases hs; subst hp; exact ⟨b, ho⟩
    · cases hs
  | _ => simp at hs

theorem judgeProgress_none {pfx : String} {q : Spec.Quiet} {obs : List LogObs} {com : List Nat} {subs : List (Nat × Nat)}
    {futs : List (Nat × Nat × Nat)}
    (h : ∀ sc ∈ Spec.leaderProps obs q.leader, Spec.slotCommitted com sc = true ∧ Spec.futureResolved subs futs sc = true) :
    Spec.judgeProgress pfx q obs com subs futs = none := by
  have h1 : (Spec.leaderProps obs q.leader).all (Spec.slotCommitted com) = true :=
    List.all_eq_true.2 fun sc hsc => (h sc hsc).1
  have h2 : (Spec.leaderProps obs q.leader).all (Spec.futureResolved subs futs) = true :=
    List.all_eq_true.2 fun sc hsc => (h sc hsc).2
  simp [Spec.judgeProgress, h1, h2]

/-- The judge accepts the model.  The transcript of the end-to-end stable-leader run of `stable_leader_progress`
    (distinct commands `cs`, since `Spec.futureResolved` finds a slot's futures by command value, parked on `p`, its `start()`, its promises, then any stable action sequence that
    delivers every slot's acknowledgements): the progress clause, evaluated on the run's own observations
    (`obsRun`), the leader's committed commands at the end, the submitted `(future, command)` pairs and the
    futures resolved, reports nothing — for every `Quiet` record naming `p` as the leader. -/
theorem progress_judge_silent (pfx : String) (n q1 q2 : Nat) (flex : Bool) (p : Nat) (cs : List Nat) (as : List Act)
    (q : Spec.Quiet) (hp : p < n) (hq1 : 1 ≤ q1) (hq2 : 1 ≤ q2) (hnd : cs.Nodup) (hl : q.leader = p)
    (hall : ∀ a ∈ as, StableAct p a)
    (hacks : ∀ m, 1 ≤ m → m ≤ cs.length → 0 < as.countP (isAck p m) ∧ q2 ≤ 1 + as.countP (isAck p m)) :
    Spec.judgeProgress pfx q
      (obsRun (init n q1 q2 flex) (cs.map (.submit p) ++ [.start p] ++ List.replicate (q1 - 1) (.promise p 1) ++ as))
      (((getNode (run (init n q1 q2 flex) (cs.map (.submit p) ++ [.start p] ++ List.replicate (q1 - 1) (.promise p 1) ++ as)) p).log.take
          (getNode (run (init n q1 q2 flex) (cs.map (.submit p) ++ [.start p] ++ List.replicate (q1 - 1) (.promise p 1) ++ as)) p).commit).map (·.cmd))
      ((cs.zipIdx 0).map (fun cf => (cf.2, cf.1)))
      (run (init n q1 q2 flex) (cs.map (.submit p) ++ [.start p] ++ List.replicate (q1 - 1) (.promise p 1) ++ as)).futRes
      = none := by
  obtain ⟨hcommit, hfut⟩ := stable_leader_progress n q1 q2 flex p cs as hp hq1 hq2 hall hacks
  obtain ⟨s, nd, hrun, hlen, _, hP⟩ := reach_leader n q1 q2 flex p cs hp
  have hca := hP.caught
  obtain ⟨hpend, hlog0, _, _⟩ := hP
  have hps : p < s.nodes.length := by rw [hlen]; exact hp
  have hnodeL : getNode (run (init n q1 q2 flex) (cs.map (.submit p) ++ [.start p] ++ List.replicate (q1 - 1) (.promise p 1))) p
      = (becomeLeader s p nd).1 := by rw [hrun]; exact getNode_setNode_eq s p _ hps
  have hLlog : ∀ i : Nat, (becomeLeader s p nd).1.log[i]? = (cs[i]?).map (fun c => (⟨nd.ballot / s.n, c⟩ : Entry)) := by
    intro i
    rw [becomeLeader_log, hlog0, hpend, List.nil_append, List.getElem?_map, List.getElem?_zipIdx]
    cases cs[i]? <;> rfl
  have hLlen : (becomeLeader s p nd).1.log.length = cs.length := by
    rw [becomeLeader_log, hlog0, hpend]; simp
  have hend := stable_run_caught p as (run (init n q1 q2 flex) (cs.map (.submit p) ++ [.start p] ++ List.replicate (q1 - 1) (.promise p 1)))
    (by rw [hrun]; simp [setNode]; exact hps) hall (by rw [hnodeL]; exact (becomeLeader_caught s p nd hca).1)
  rw [← run_append, hnodeL] at hend
  obtain ⟨_, hlogEnd⟩ := hend
  apply judgeProgress_none
  intro sc hsc
  -- every Accept of the leader names (k + 1, cs[k])
  have ⟨hs1, hs2⟩ : 1 ≤ sc.1 ∧ cs[sc.1 - 1]? = some sc.2 := by
    rw [hl] at hsc
    obtain ⟨b, hb⟩ := mem_leaderProps hsc
    rw [obsRun_append] at hb
    rcases List.mem_append.1 hb with hb | hb
    · obtain ⟨h1, e, he, hc⟩ := setup_props p _ (init n q1 q2 flex) (by rw [init_nodes_length]; exact hp) (by
        intro a ha
        simp only [List.mem_append, List.mem_map, List.mem_singleton, List.mem_replicate] at ha
        rcases ha with (⟨c, _, rfl⟩ | rfl) | ⟨_, rfl⟩ <;> rfl) b sc.1 sc.2 hb
      rw [hnodeL, hLlog] at he
      refine ⟨h1, ?_⟩
      cases hcs : cs[sc.1 - 1]? with
      | none => rw [hcs] at he; cases he
      | some c' => rw [hcs] at he; simp only [Option.map_some, Option.some.injEq] at he; rw [← he] at hc; rw [← hc]
    · exact absurd hb (stable_run_noProp p as _ hall b sc.1 sc.2)
  have hk : sc.1 - 1 < cs.length := (List.getElem?_eq_some_iff.1 hs2).1
  constructor
  · simp only [Spec.slotCommitted, Bool.and_eq_true, decide_eq_true_eq, beq_iff_eq]
    refine ⟨hs1, ?_⟩
    rw [hcommit, hlogEnd, List.getElem?_map, List.getElem?_take, if_pos hk, hLlog, hs2]
    rfl
  · simp only [Spec.futureResolved, List.all_eq_true, Bool.or_eq_true, bne_iff_ne, ne_eq, List.contains_iff_mem]
    intro f hf
    simp only [List.mem_map] at hf
    obtain ⟨⟨c, j⟩, hcf, rfl⟩ := hf
    have hj : cs[j]? = some c := List.mem_zipIdx_iff_getElem?.1 hcf
    by_cases hc : c = sc.2
    · right
      have hjk : j = sc.1 - 1 :=
        (List.getElem?_inj (List.getElem?_eq_some_iff.1 hj).1 hnd).1 (by rw [hj, hs2, hc])
      have := hfut (sc.1 - 1) hk
      rw [show cs.getD (sc.1 - 1) 0 = sc.2 by simp [List.getD_eq_getElem?_getD, hs2],
        show sc.1 - 1 + 1 = sc.1 by omega] at this
      simp only [hjk]
      exact this
    · left; exact hc

/-- non-vacuity of `stable_leader_progress` / `progress_judge_silent`: n = 3, majority quorums, commands 1 and 2 on
    node 0, slot 2 acknowledged before slot 1 — the hypotheses hold and the leader did send Accepts -/
example : (∀ a ∈ demoAcks, StableAct 0 a) ∧ [1, 2].Nodup ∧
    (∀ m, 1 ≤ m → m ≤ [1, 2].length → 0 < demoAcks.countP (isAck 0 m) ∧ 2 ≤ 1 + demoAcks.countP (isAck 0 m)) ∧
    Spec.leaderProps (obsRun (init 3 2 2 false)
      ([1, 2].map (.submit 0) ++ [.start 0] ++ List.replicate (2 - 1) (.promise 0 1) ++ demoAcks)) 0
      = [(1, 1), (1, 1), (2, 2), (2, 2)] := by
  refine ⟨?_, by decide, ?_, by decide⟩
  · intro a ha
    simp only [demoAcks, List.mem_cons, List.not_mem_nil, or_false] at ha
    rcases ha with rfl | rfl | rfl <;> simp [StableAct, actor]
  · intro m h1 h2
    have : m = 1 ∨ m = 2 := by simp at h2; omega
    rcases this with rfl | rfl <;> decide

end HappyModel.C12.MP
