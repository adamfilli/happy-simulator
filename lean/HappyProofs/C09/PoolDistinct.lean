import HappyProofs.C09.PoolSpec
/-! A simpler sufficient form of `SchedOk`: if the call ids of the `acq` entries of a schedule are
pairwise distinct (what the engine harness does: one id per `acquire()` call), the freshness part of
`SchedOk` follows, so only "the segment exists" and the two timers (acquire time-out, idle time-out)
remain as hypotheses. -/
namespace HappyModel.C09.Pool

def acqIds : List (Nat × Op) → List Nat
  | [] => []
  | e :: rest =>
    match e.2 with
    | .acq id => id :: acqIds rest
    | _ => acqIds rest

/-- `opOk` without the freshness test -/
def segOk (timeoutNs idleNs : Nat) (s : St) (since : List (Nat × Nat)) (t : Nat) (o : Op) : Bool :=
  (stepAt s t o).2 != .bad &&
  match o with
  | .timeout id => timerOk timeoutNs since t id && !headFree s id
  | .idleCheck _ e => decide (e + idleNs ≤ t)
  | _ => true

/-- `SchedOk` without the freshness test -/
def SegsOk (timeoutNs idleNs : Nat) : St → List (Nat × Nat) → List (Nat × Op) → Bool
  | _, _, [] => true
  | s, since, e :: rest =>
    segOk timeoutNs idleNs s since e.1 e.2
      && SegsOk timeoutNs idleNs (stepAt s e.1 e.2).1 (sinceAfter s since e.1 e.2) rest

/-- calls pending inside the pool: queued, or handed a connection not yet noticed -/
def pending (s : St) : List Nat := s.waiters ++ s.handed.map (·.1)

theorem freshId_of_not_pending {s : St} {id : Nat} (h : id ∉ pending s) : freshId s id = true := by
  simp only [pending, List.mem_append, not_or] at h
  simp only [freshId, Bool.and_eq_true, Bool.not_eq_true']
  constructor
  · cases hx : s.waiters.contains id with
    | false => rfl
    | true => exact absurd (List.contains_iff_mem.1 hx) h.1
  · cases hx : s.handed.any (·.1 == id) with
    | false => rfl
    | true =>
      obtain ⟨x, hm, he⟩ := List.any_eq_true.1 hx
      exact absurd (List.mem_map.2 ⟨x, hm, by simpa using he⟩) h.2

theorem pending_mono {w w' : List Nat} {h h' : List (Nat × Nat)} (hw : ∀ x ∈ w', x ∈ w) (hh : ∀ p ∈ h', p ∈ h)
    {x : Nat} (hx : x ∈ w' ++ h'.map (·.1)) : x ∈ w ++ h.map (·.1) := by
  rcases List.mem_append.1 hx with h1 | h1
  · exact List.mem_append_left _ (hw x h1)
  · obtain ⟨p, hp, hpe⟩ := List.mem_map.1 h1
    exact List.mem_append_right _ (List.mem_map.2 ⟨p, hh p hp, hpe⟩)

theorem pending_hand {w c x : Nat} {ws q : List Nat} {hd : List (Nat × Nat)} (hq : q = w :: ws)
    (hx : x ∈ ws ++ (hd ++ [(w, c)]).map (·.1)) : x ∈ q ++ hd.map (·.1) := by
  simp only [hq, List.mem_append, List.map_append, List.map_cons, List.map_nil, List.mem_cons, List.not_mem_nil,
    or_false] at hx ⊢
  rcases hx with h | h | h
  · exact .inl (.inr h)
  · exact .inr h
  · exact .inl (.inl h)

/-- only an `acq` adds a pending call, and only its own id -/
theorem Leaf.pending_sub {s s' : St} {o : Op} {r : Res} (h : Leaf s o s' r) (x : Nat) (hx : x ∈ pending s') :
    x ∈ pending s ∨ o = .acq x := by
  cases h with
  | acqWait =>
    simp only [pending, List.mem_append, List.mem_singleton] at hx ⊢
    rcases hx with (h | h) | h
    · exact .inl (.inl h)
    · exact .inr (by rw [h])
    · exact .inl (.inr h)
  | pollGot | abStale | abIdle =>
    exact .inl (pending_mono (fun _ h => h) (fun _ h => (List.mem_filter.1 h).1) hx)
  | pollIdle | pollCreate => exact .inl (pending_mono (fun _ h => List.mem_of_mem_tail h) (fun _ h => h) hx)
  | timeout | abWaiter => exact .inl (pending_mono (fun _ h => (List.mem_filter.1 h).1) (fun _ h => h) hx)
  | relHand _ _ hq => exact .inl (pending_hand hq hx)
  | abHand _ _ _ _ hq =>
    exact .inl (pending_mono (fun _ h => h) (fun _ h => (List.mem_filter.1 h).1) (pending_hand hq hx))
  | _ => exact .inl hx

theorem schedOk_of_distinct (timeoutNs idleNs : Nat) (s : St) (since : List (Nat × Nat))
    (sched : List (Nat × Op))
    (hpend : ∀ x ∈ pending s, x ∉ acqIds sched) (hnd : (acqIds sched).Nodup)
    (h : SegsOk timeoutNs idleNs s since sched = true) : SchedOk timeoutNs idleNs s since sched = true := by
  induction sched generalizing s since with
  | nil => rfl
  | cons e rest ih =>
    simp only [SegsOk, Bool.and_eq_true] at h
    simp only [SchedOk, Bool.and_eq_true]
    obtain ⟨t, o⟩ := e
    have hsub : (acqIds rest).Sublist (acqIds ((t, o) :: rest)) := by
      cases o <;> first | exact List.Sublist.refl _ | exact List.sublist_cons_self _ _
    refine ⟨?_, ih _ _ (fun x hx => ?_) (hnd.sublist hsub) h.2⟩
    · have h1 := h.1
      cases o with
      | acq id =>
        simp only [segOk, opOk, Bool.and_eq_true, Bool.and_true] at h1 ⊢
        exact ⟨h1, freshId_of_not_pending fun hp => hpend id hp (.head _)⟩
      | _ => exact h1
    · rcases (step_leaf { s with now := t } o).pending_sub x hx with hp | rfl
      · exact fun hm => hpend x hp (hsub.subset hm)
      · exact (List.nodup_cons.1 hnd).1

end HappyModel.C09.Pool

namespace HappyModel.C09

/-- the pool model's transcript satisfies the Spec judge on every schedule whose `acq` entries carry
    pairwise distinct call ids, whose segments exist, whose time-outs obey the timer (and are not raised
    in the first waiter while capacity is free), and whose idle-timeout events are not delivered early -/
theorem pool_trace_satisfies_spec_distinct (max timeoutNs min idleNs : Nat) (hmin : min ≤ max)
    (sched : List (Nat × Pool.Op)) (hids : (Pool.acqIds sched).Nodup)
    (hseg : Pool.SegsOk timeoutNs idleNs { max := max, min := min } [] sched = true) :
    Pool.judge { max := max, timeoutNs := timeoutNs, min := min, idleNs := idleNs } {}
      (Pool.obsTrace { max := max, min := min } sched) = none :=
  pool_trace_satisfies_spec max timeoutNs min idleNs hmin sched
    (Pool.schedOk_of_distinct timeoutNs idleNs { max := max, min := min } [] sched (by simp [Pool.pending]) hids hseg)

example : (Pool.acqIds [(0, .acq 0), (0, .acq 1), (0, .acq 2), (1, .made 0), (3, .rel 1), (4, .poll 1),
      (20, .timeout 2)]).Nodup
    ∧ Pool.SegsOk 10 0 { max := 1 } [] [(0, .acq 0), (0, .acq 1), (0, .acq 2), (1, .made 0), (3, .rel 1), (4, .poll 1),
      (20, .timeout 2)] = true := by decide +kernel

/-- all nine segments: warm-up, an abandoned set-up whose slot the first waiter takes at its next poll, an
    abandoned hand-off that goes to the idle list, idle-timeout checks (closed / kept / stale), a time-out -/
example : (Pool.acqIds [(0, .warm), (1, .wmade), (1, .warm), (2, .acq 0), (2, .acq 1), (2, .acq 2), (2, .acq 3),
      (3, .abandon 1), (4, .poll 2), (5, .made 2), (6, .poll 3), (7, .rel 1), (8, .abandon 3), (9, .rel 2),
      (13, .idleCheck 1 8), (14, .idleCheck 2 9), (15, .idleCheck 1 1), (16, .acq 4), (16, .acq 5), (16, .acq 6),
      (17, .made 5), (26, .timeout 6), (27, .abandon 9)]).Nodup
    ∧ Pool.SegsOk 10 5 { max := 2, min := 1 } [] [(0, .warm), (1, .wmade), (1, .warm), (2, .acq 0), (2, .acq 1),
      (2, .acq 2), (2, .acq 3), (3, .abandon 1), (4, .poll 2), (5, .made 2), (6, .poll 3), (7, .rel 1), (8, .abandon 3),
      (9, .rel 2), (13, .idleCheck 1 8), (14, .idleCheck 2 9), (15, .idleCheck 1 1), (16, .acq 4), (16, .acq 5),
      (16, .acq 6), (17, .made 5), (26, .timeout 6), (27, .abandon 9)] = true := by decide +kernel

end HappyModel.C09
