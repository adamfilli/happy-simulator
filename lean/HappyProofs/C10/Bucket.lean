import HappyProofs.C10.Norm
/-! Token bucket: the potential argument `k·one + tokens ≤ B + p·(now − t₀)` as a relation `Pot` on admission lists,
    which the token bucket and the adaptive bucket (at `pmax`, and per epoch at its rate) establish along their runs. -/
namespace HappyModel.C10

theorem mul_sub_split (p a b c : Nat) (h1 : a ≤ b) (h2 : b ≤ c) :
    p * (b - a) + p * (c - b) = p * (c - a) := by
  rw [← Nat.mul_add, Nat.add_comm, Nat.sub_add_sub_cancel h2 h1]

theorem MonoOps.start {last : Option Nat} {ops : List Op} (hm : ∀ l, last = some l → MonoOps l ops)
    (hm0 : last = none → MonoOps 0 ops) : ∃ l, (∀ l', last = some l' → l' = l) ∧ MonoOps l ops := by
  cases last with
  | none => exact ⟨0, fun _ h => (nomatch h), hm0 rfl⟩
  | some l => exact ⟨l, fun _ h => (Option.some.inj h).symm, hm l rfl⟩

theorem eq_of_some {o : Option Nat} {l : Nat} (h : o = some l) : ∀ l', o = some l' → l' = l :=
  fun _ h' => Option.some.inj (h.symm.trans h').symm

/-- `ts` are admissions a bucket can make that holds `tok` units at time `l`, gains at most `p` units
    per ns and holds at most `B` when it admits: an admission at `t ≥ l` costs `one` and leaves `tok'`
    with `tok' + one ≤ tok + p·(t − l)` and `tok' + one ≤ B`. -/
inductive Pot (B p one : Nat) : Nat → Nat → List Nat → Prop
  | nil (tok l : Nat) : Pot B p one tok l []
  | cons {tok l t tok' : Nat} {ts : List Nat} : l ≤ t → tok' + one ≤ tok + p * (t - l) → tok' + one ≤ B →
      Pot B p one tok' t ts → Pot B p one tok l (t :: ts)

variable {B p one : Nat}

theorem Pot.weaken {tok tok' l t : Nat} {ts : List Nat} (h : Pot B p one tok' t ts) (hl : l ≤ t)
    (ht : tok' ≤ tok + p * (t - l)) : Pot B p one tok l ts := by
  cases h with
  | nil => exact .nil _ _
  | @cons _ _ t2 _ _ h1 h2 h3 h4 =>
    have := mul_sub_split p l t t2 hl h1
    exact .cons (Nat.le_trans hl h1) (by omega) h3 h4

theorem Pot.grant {tok l : Nat} {ts : List Nat} (h : Pot B p one (tok - one) l ts) (hq : one ≤ tok) (hB : tok ≤ B) :
    Pot B p one tok l (l :: ts) :=
  .cons (Nat.le_refl l) (by omega) (by omega) h

/-- after `k` admissions since `t0` the potential `k·one + tok ≤ B + p·(l − t0)` gives the segment bound -/
theorem Pot.segOK {t0 tok l : Nat} {ts : List Nat} (h : Pot B p one tok l ts) : ∀ k, t0 ≤ l →
    k * one + tok ≤ B + p * (l - t0) → segOK B p one t0 k ts = true := by
  induction h with
  | nil => intro _ _ _; rfl
  | @cons _ l t tok' _ h1 h2 _ _ ih =>
    intro k h0 hpot
    have := mul_sub_split p t0 l t h0 h1
    have key : (k + 1) * one + tok' ≤ B + p * (t - t0) := by rw [Nat.succ_mul]; omega
    simp only [HappyModel.C10.segOK, Bool.and_eq_true, decide_eq_true_eq]
    exact ⟨Nat.le_trans (Nat.le_add_right _ _) key, ih (k + 1) (Nat.le_trans h0 h1) key⟩

theorem Pot.bucketOK {tok l : Nat} {ts : List Nat} (h : Pot B p one tok l ts) : bucketOK B p one ts = true := by
  induction h with
  | nil => rfl
  | cons _ _ h3 h4 ih =>
    simp only [HappyModel.C10.bucketOK, Bool.and_eq_true, decide_eq_true_eq]
    exact ⟨⟨by omega, h4.segOK 1 (Nat.le_refl _) (by omega)⟩, ih⟩

theorem Pot.burst {t : Nat} : ∀ {ts : List Nat} {tok : Nat}, Pot B p one tok t ts → (∀ x ∈ ts, x = t) →
    ts.length * one ≤ tok
  | [], _, _, _ => Nat.zero_mul _ ▸ Nat.zero_le _
  | x :: ts, _, .cons _ h2 _ h4, ht => by
    cases ht x List.mem_cons_self
    have := h4.burst fun y hy => ht y (List.mem_cons_of_mem _ hy)
    rw [Nat.sub_self] at h2
    rw [List.length_cons, Nat.succ_mul]
    omega

/-- a burst at one instant, whenever it comes, is paid from the tokens held, so it is within `B` -/
theorem Pot.burst_le {tok l t : Nat} {ts : List Nat} (h : Pot B p one tok l ts) (ht : ∀ x ∈ ts, x = t) :
    ts.length * one ≤ B := by
  cases h with
  | nil => exact Nat.zero_mul _ ▸ Nat.zero_le _
  | cons _ _ h3 h4 =>
    cases ht _ List.mem_cons_self
    have := h4.burst fun y hy => ht y (List.mem_cons_of_mem _ hy)
    rw [List.length_cons, Nat.succ_mul]
    omega

variable (c : TBCfg) (s : TB) (t : Nat)

theorem TB.refill_last (h : NotBefore s.last t) :
    (s.refill c t).last = some t := by
  unfold TB.refill
  split
  · rfl
  · rename_i l hl
    split
    · exact hl.trans (congrArg some (Nat.le_antisymm (h l hl) ‹t ≤ l›))
    · rfl

theorem TB.refill_tok_le (t l : Nat) (h : ∀ l', s.last = some l' → l' = l) :
    (s.refill c t).tok ≤ s.tok + c.p * (t - l) := by
  unfold TB.refill
  split
  · exact Nat.le_add_right _ _
  · rename_i l' hl
    cases h l' hl
    split
    · exact Nat.le_add_right _ _
    · exact Nat.min_le_right _ _

theorem TB.refill_tok_le_of {B : Nat} (hB : c.cap ≤ B) (hs : s.tok ≤ B) :
    (s.refill c t).tok ≤ B := by
  unfold TB.refill
  split
  · exact hs
  · split
    · exact hs
    · exact Nat.le_trans (Nat.min_le_left _ _) hB

theorem TB.acquire_last (h : NotBefore s.last t) :
    (TB.acquire c s t).1.last = some t := by
  unfold TB.acquire; split <;> exact TB.refill_last c s t h

/-- the admissions open to the refilled bucket were open to the bucket before; `R ≥ p` is the rate accounted for -/
theorem TB.refill_pot {B R l t : Nat} (hB : c.cap ≤ B) (hR : c.p ≤ R) (hs : s.tok ≤ B)
    (hl : ∀ l', s.last = some l' → l' = l) (h1 : l ≤ t) :
    (s.refill c t).last = some t ∧ (s.refill c t).tok ≤ B ∧
    ∀ {ts}, Pot B R c.one (s.refill c t).tok t ts → Pot B R c.one s.tok l ts :=
  ⟨TB.refill_last c s t (fun l' h => hl l' h ▸ h1), TB.refill_tok_le_of c s t hB hs, fun h => h.weaken h1
    (Nat.le_trans (TB.refill_tok_le c s t l hl) (Nat.add_le_add_left (Nat.mul_le_mul_right _ hR) _))⟩

theorem TB.refill_same (h : s.last = some t) : s.refill c t = s := by
  unfold TB.refill; rw [h]; exact if_pos (Nat.le_refl t)

theorem TB.refill_later (l t : Nat) (h : s.last = some l) (hlt : l < t) :
    s.refill c t = ⟨min c.cap (s.tok + c.p * (t - l)), some t⟩ := by
  unfold TB.refill; rw [h]; exact if_neg (Nat.not_le.mpr hlt)

theorem TB.refill_idem : (s.refill c t).refill c t = s.refill c t := by
  cases hl : s.last with
  | none => exact TB.refill_same c _ t (by unfold TB.refill; rw [hl])
  | some l =>
    by_cases h : t ≤ l
    · have e : s.refill c t = s := by unfold TB.refill; rw [hl]; exact if_pos h
      rw [e, e]
    · rw [TB.refill_later c s l t hl (Nat.lt_of_not_le h)]; exact TB.refill_same c _ t rfl

def tbNorm (c : TBCfg) : Norm (tbPolicy c) where
  adv := TB.refill c
  ok r _ := c.one ≤ r.tok
  take r _ := ⟨r.tok - c.one, r.last⟩
  wait r _ := waitOf (c.one - r.tok) c.p
  acq_eq _ _ := rfl
  tua_eq s t := by show TB.tua c s t = _; unfold TB.tua; split <;> rfl
  idem := TB.refill_idem c

theorem TB.tua_fst : (TB.tua c s t).1 = s.refill c t := (tbNorm c).tua_fst s t

theorem TB.call_pot {o : Op} {B R l : Nat} (hB : c.cap ≤ B) (hR : c.p ≤ R) (hs : s.tok ≤ B)
    (hl : ∀ l', s.last = some l' → l' = l) (h1 : l ≤ o.time) (ho : o.isCall := by trivial) :
    ((tbPolicy c).step s o).tok ≤ B ∧ ((tbPolicy c).step s o).last = some o.time ∧
    ∀ {ts}, Pot B R c.one ((tbPolicy c).step s o).tok o.time ts →
      Pot B R c.one s.tok l ((tbPolicy c).admitted s [o] ++ ts) := by
  obtain ⟨r1, r3, w⟩ := TB.refill_pot c s hB hR hs hl h1
  cases o with
  | acq t =>
    simp only [Policy.step, Policy.admitted, tbPolicy, TB.acquire]
    split
    · exact ⟨Nat.le_trans (Nat.sub_le _ _) r3, r1, fun h => w (h.grant ‹_› r3)⟩
    · exact ⟨r3, r1, fun h => w h⟩
  | tua t =>
    simp only [Policy.step, Policy.admitted, tbPolicy, TB.tua_fst]
    exact ⟨r3, r1, fun h => w h⟩
  | succ _ | fail _ => exact ho.elim

theorem tb_pot (c : TBCfg) (B : Nat) (hB : c.cap ≤ B) : ∀ (ops : List Op) (s : TB) (l : Nat),
    s.tok ≤ B → (∀ l', s.last = some l' → l' = l) → MonoOps l ops →
    Pot B c.p c.one s.tok l ((tbPolicy c).admitted s ops)
  | [], _, _, _, _, _ => .nil _ _
  | .acq t :: os, s, l, hs, hl, hm | .tua t :: os, s, l, hs, hl, hm => by
    obtain ⟨ht, hlast, w⟩ := TB.call_pot c s hB (Nat.le_refl _) hs hl hm.1
    rw [admitted_cons]
    exact w (tb_pot c B hB os _ _ ht (eq_of_some hlast) hm.2)
  | .succ _ :: os, s, l, hs, hl, hm | .fail _ :: os, s, l, hs, hl, hm => tb_pot c B hB os s l hs hl (hm.2.weaken hm.1)

end HappyModel.C10
