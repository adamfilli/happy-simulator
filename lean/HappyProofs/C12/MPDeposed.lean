import HappyProofs.C12.MPBasic
/-!
# C12 — Multi-Paxos / Flexible Paxos: a node that promised another node's ballot does not lead

`Spec.promiseClears` and `Spec.deposedSilent q1` along every run (`MP.promise_clears_leadership`,
`MP.deposed_leader_never_assigns` in Props.lean).  Invariant: a node that is *deposed* according to the observed history is not leader in the state.
-/
namespace HappyModel.C12.MP
open HappyModel.C12.Spec

def neutralD : LogObs → Bool
  | .pled _ _ _ => false
  | .prom _ _ _ _ => false
  | _ => true

theorem deposed_cons_neutral (q1 : Nat) (o : LogObs) (hist : List LogObs) (p : Nat) (h : neutralD o = true) :
    deposed q1 (o :: hist) p = deposed q1 hist p := by
  cases o <;> first | rfl | cases h

theorem deposed_reverse_neutral (q1 : Nat) (p : Nat) (l hist : List LogObs) (hl : ∀ o ∈ l, neutralD o = true) :
    deposed q1 (l.reverse ++ hist) p = deposed q1 hist p := by
  induction l generalizing hist with
  | nil => rfl
  | cons o os ih =>
    rw [List.reverse_cons, List.append_assoc, ih _ fun o' ho' => hl o' (List.mem_cons_of_mem _ ho')]
    exact deposed_cons_neutral q1 o hist p (hl o List.mem_cons_self)

theorem propOf_neutral (p : Nat) (ms : List Msg) : ∀ o ∈ ms.filterMap (propOf p), neutralD o = true := by
  intro o ho
  obtain ⟨_, _, _, _, _, _, rfl⟩ := propOf_mem_accept ho
  rfl

theorem obsStep_neutral (s : St) (a : Act) (ha : a.isPhase1 = false) (hq : ∀ d b, a ≠ .prepare d b) :
    ∀ o ∈ obsStep s a, neutralD o = true := by
  intro o ho
  cases mem_obsStep ho with
  | prom _ _ _ ha' => rw [ha] at ha'; cases ha'
  | pled | pcar => exact absurd rfl (hq _ _)
  | _ => rfl

theorem deposedSilent_props (q1 p : Nat) : ∀ (props hist : List LogObs),
    (∀ o ∈ props, ∃ b s c, o = .prop p b s c) → deposed q1 hist p = false →
    deposedSilent q1 hist props = true := by
  intro props
  induction props with
  | nil => intro _ _ _; rfl
  | cons o os ih =>
    intro hist hp hd
    obtain ⟨b, sl, c, rfl⟩ := hp _ List.mem_cons_self
    simp only [deposedSilent, checkAll, assignOk, hd, Bool.not_false, Bool.true_and]
    exact ih _ (fun o' ho' => hp o' (List.mem_cons_of_mem _ ho')) hd

def InvD (s : St) (hist : List LogObs) : Prop :=
  ∀ p, deposed s.q1 hist p = true → (getNode s p).isLeader = false

/-- a handler outside phase 1 makes nobody leader, so observations that depose nobody keep the invariant -/
theorem invD_of_neutral {s : St} {a : Act} {hist : List LogObs} (h : InvD s hist) (ha : a.isPhase1 = false)
    (hn : ∀ o ∈ obsStep s a, neutralD o = true) : InvD (step s a).1 ((obsStep s a).reverse ++ hist) := by
  intro q hd
  rw [step_q1, deposed_reverse_neutral s.q1 q _ _ hn] at hd
  cases hl : (getNode (step s a).1 q).isLeader with
  | false => rfl
  | true => exact ((((step_keeps s a q).p1 ha).2 hl).symm.trans (h q hd))

/-- a phase-1 response (`start` or a delivered `Promise`): observation `prom p bn l0 l1` followed by `props` -/
theorem phase1_invD (s s' : St) (p bn : Nat) (hist props : List LogObs)
    (h : InvD s hist) (hq : s'.q1 = s.q1)
    (hprops : ∀ o ∈ props, ∃ b sl c, o = .prop p b sl c)
    (hother : ∀ q, q ≠ p → getNode s' q = getNode s q)
    (hlead : props ≠ [] → (getNode s' p).isLeader = true) :
    deposedSilent s.q1 hist (.prom p bn (getNode s p).isLeader (getNode s' p).isLeader :: props) = true ∧
    InvD s' ((LogObs.prom p bn (getNode s p).isLeader (getNode s' p).isLeader :: props).reverse ++ hist) := by
  have hneutral : ∀ o ∈ props, neutralD o = true := by
    intro o ho; obtain ⟨b, sl, c, rfl⟩ := hprops o ho; rfl
  have hdep : deposed s.q1 (.prom p bn (getNode s p).isLeader (getNode s' p).isLeader :: hist) p = true →
      (getNode s' p).isLeader = false ∧ deposed s.q1 hist p = true := by
    intro hd
    simp only [deposed, beq_self_eq_true, Bool.true_and] at hd
    split at hd
    · cases hd
    · rename_i hre
      rw [h p hd] at hre
      simp only [Bool.not_false, Bool.true_or, Bool.and_true] at hre
      exact ⟨Bool.eq_false_iff.2 hre, hd⟩
  constructor
  · simp only [deposedSilent, checkAll, assignOk, Bool.true_and]
    by_cases hne : props = []
    · subst hne; rfl
    · refine deposedSilent_props s.q1 p props _ hprops (Bool.eq_false_iff.2 fun hd => ?_)
      have := (hdep hd).1
      rw [hlead hne] at this
      cases this
  · intro q hd
    rw [hq, List.reverse_cons, List.append_assoc, deposed_reverse_neutral s.q1 q props _ hneutral] at hd
    by_cases hqp : q = p
    · subst hqp
      exact (hdep hd).1
    · rw [hother q hqp]
      apply h q
      have : (p == q) = false := beq_false_of_ne (Ne.symm hqp)
      simpa [deposed, this] using hd

theorem step_q1' (s : St) (a : Act) : (step s a).1.q1 = s.q1 := step_q1 s a

theorem step_invD (s : St) (a : Act) (hist : List LogObs) (ha : actor a < s.nodes.length) (h : InvD s hist) :
    deposedSilent s.q1 hist (obsStep s a) = true ∧ InvD (step s a).1 ((obsStep s a).reverse ++ hist) := by
  cases hp : a.isPhase1 with
  | true =>
    rw [phase1_obs s a hp]
    refine phase1_invD s (step s a).1 (actor a) _ hist _ h (step_q1 s a)
      (fun o ho => by obtain ⟨_, b, sl, c, _, _, e⟩ := propOf_mem_accept ho; exact ⟨b, sl, c, e⟩)
      (fun q hq => step_other_node s a q (Ne.symm hq)) fun hne => ?_
    -- an `Accept` was sent: the handler ended in `_become_leader`; the state shows it only for a node of the cluster
    -- (`ha`): for an index outside, the handler works on the default record and `setNode` stores nothing
    obtain ⟨o, ho⟩ := List.exists_mem_of_ne_nil _ hne
    obtain ⟨_, _, _, _, _, hm, _⟩ := propOf_mem_accept ho
    obtain ⟨_, nd, _, e⟩ := accept_sent hm
    rw [e ha]
    exact becomeLeader_isLeader _ _ _
  | false =>
    cases a with
    | prepare d b =>
      simp only [obsStep]
      split
      · rename_i hgt
        refine ⟨rfl, ?_⟩
        rw [step_prepare, if_pos hgt]
        exact h
      · rename_i hgt
        refine ⟨checkAll_of_forall _ _ _ fun o ho hh => ?_, fun q hd => ?_⟩
        · rcases List.mem_cons.1 ho with rfl | ho
          · rfl
          · obtain ⟨_, _, rfl⟩ := pcarsOf_mem _ _ _ _ o ho; rfl
        · rw [step_q1, List.reverse_cons, List.append_assoc, deposed_reverse_neutral s.q1 q _ _ fun o ho => by
            obtain ⟨_, _, rfl⟩ := pcarsOf_mem _ _ _ _ o ho; rfl] at hd
          by_cases hqd : q = d
          · subst hqd
            exact prepare_isLeader s q b hgt
          · rw [step_other_node s (.prepare d b) q (Ne.symm hqd)]
            apply h q
            have : (d == q) = false := beq_false_of_ne (Ne.symm hqd)
            simpa [deposed, this] using hd
    | submit p c =>
      refine ⟨?_, invD_of_neutral h rfl (obsStep_neutral s _ rfl nofun)⟩
      simp only [obsStep]
      split
      · rename_i hl
        simp only [deposedSilent, checkAll, assignOk, Bool.and_true, Bool.not_eq_true']
        exact Bool.eq_false_iff.2 fun hd => by rw [h p hd] at hl; cases hl
      · rfl
    | start p => cases hp
    | promise p bn => cases hp
    | _ =>
      -- only `acc` / `ack` are shown: no message of these handlers is an `Accept`
      refine ⟨checkAll_of_forall _ _ _ fun o ho hh => ?_, invD_of_neutral h rfl (obsStep_neutral s _ rfl nofun)⟩
      cases mem_obsStep ho with
      | prop hm => cases (accept_sent hm).1
      | prom _ _ _ ha' => cases ha'
      | _ => rfl

theorem run_deposedSilent (as : List Act) (s : St) (hist : List LogObs) (h : InvD s hist)
    (hr : ∀ a ∈ as, actor a < s.nodes.length) : deposedSilent s.q1 hist (obsRun s as) = true :=
  checkAll_obsRun (ok := assignOk) step_q1
    (I := fun s' hist => s'.nodes.length = s.nodes.length ∧ InvD s' hist) (A := fun a => actor a < s.nodes.length)
    (fun s' a hist ha h => by
      obtain ⟨h1, h2⟩ := step_invD s' a hist (by rw [h.1]; exact ha) h.2
      exact ⟨h1, (step_nodes_length s' a).trans h.1, h2⟩)
    as s hist hr ⟨rfl, h⟩

theorem obsStep_promiseClears (s : St) (a : Act) : ∀ o ∈ obsStep s a, promiseClearsOk o = true := by
  intro o ho
  cases mem_obsStep ho with
  | pled hgt => simp only [promiseClearsOk, prepare_isLeader s _ _ hgt, Bool.not_false]
  | _ => rfl

theorem run_promiseClears : ∀ (as : List Act) (s : St) (hist : List LogObs),
    promiseClears hist (obsRun s as) = true := by
  intro as s hist
  refine checkAll_of_forall _ _ _ fun o ho _ => ?_
  induction as generalizing s with
  | nil => cases ho
  | cons a as ih =>
    rcases List.mem_append.1 ho with ho | ho
    · exact obsStep_promiseClears s a o ho
    · exact ih _ ho

end HappyModel.C12.MP
