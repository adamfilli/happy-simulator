import HappyProofs.C16.OrderLawsBase
/-!
Per-policy order laws: in every state reached by a well-formed call history, whatever `evict`
returns satisfies the policy's order clause of `PolicySpec.orderOk`, which is stated over the history
(`SpecSt`: insertion index, last-touch index, touch count, insertion clock reading of every held key)
and not over the policy's data structure.
-/
namespace HappyModel.C16

def OrderLaw (p0 : Pol) : Prop :=
  ∀ (ops : List POp) (now : Nat) (pick : List Key) (k : Key),
    (runBoth p0 {} ops).2.wf = true →
    ((runBoth p0 {} ops).1.evict now pick).1 = some k →
    ∃ v, (runBoth p0 {} ops).2.rec? k = some v ∧ orderOk p0.kind (runBoth p0 {} ops).2 now pick v = true

/-- The order law from a relation between the policy and the held records alone.  Nothing is owed for `evict`
    (`Pol.evict_choice`: it chooses, then does what `on_remove` does) nor for `clear` (it rebuilds the policy).  The
    run invariant (one `rel_run`, with `SpecInv`) carries `KeysRel` although every `R` in use implies the key-set equality: `evict_choice` needs
    `Pol.Inv` (SLRU: the head of probation is not in the protected segment), and `Pol.Inv` is kept only with it. -/
theorem orderLaw_of_held (p0 : Pol) (hf : p0.kind.fresh = p0) (hk : p0.kind.evictRemoves = true)
    (R : Pol → List HRec → Prop) (h0 : R p0 [])
    (hacc : ∀ p s k, SpecInv s → R p s.held → R (p.access k) (s.held.map (touch s.tick k)))
    (hins : ∀ p s k now, SpecInv s → k ∉ s.keys → R p s.held →
      R (p.insert k now) (s.held ++ [⟨k, s.tick, s.tick, 1, now⟩]))
    (hrem : ∀ p s k, SpecInv s → R p s.held → R (p.remove k) (s.held.filter (·.key != k)))
    (hev : ∀ p s now pick k, SpecInv s → R p s.held → (p.evict now pick).1 = some k →
      ∃ v, s.rec? k = some v ∧ orderOk p0.kind s now pick v = true) : OrderLaw p0 := by
  intro ops now pick k hwf he
  refine (fun h => hev _ _ now pick k h.1 h.2.2.2 he) (rel_run
    (fun p s => SpecInv s ∧ p.kind = p0.kind ∧ KeysRel p s ∧ R p s.held)
    (fun p s op ⟨hi, hkd, hkr, hr⟩ hwf => ?_) p0 {} ops
    ⟨specInv_init, rfl, ⟨hf ▸ p0.kind.fresh_inv.1, fun x => by rw [← hf, p0.kind.fresh_inv.2]; simp [SpecSt.keys]⟩, h0⟩ hwf)
  refine ⟨specInv_step _ _ _ hi hwf, (p.kind_step op).trans hkd, keysRel_step p s op hkr hwf, ?_⟩
  cases op with
  | access k => exact hacc p s k hi hr
  | insert k now =>
    have hh := wf_insert_not_has _ _ _ _ hwf
    rw [step_insert_wf _ _ _ _ hh]
    exact hins p s k now hi (not_mem_keys_of_not_has hh) hr
  | remove k => exact hrem p s k hi hr
  | evict now pick =>
    obtain ⟨_, e⟩ | ⟨k, _, e⟩ := p.evict_choice hkr.inv (hkd ▸ hk) now pick <;> simp only [Pol.step, e]
    · exact hr
    · exact hrem p s k hi hr
  | clear =>
    show R p.clear []
    rw [Pol.clear_eq_fresh, hkd, hf]; exact h0

def FifoRel (p : Pol) (held : List HRec) : Prop := p = .fifo ⟨held.map (·.key)⟩

theorem fifoRel_evict (p : Pol) (s : SpecSt) (now : Nat) (pick : List Key) (k : Key)
    (hi : SpecInv s) (h : FifoRel p s.held) (he : (p.evict now pick).1 = some k) :
    ∃ v, s.rec? k = some v ∧ orderOk .fifo s now pick v = true := by
  obtain ⟨held, tick, wf⟩ := s
  cases h
  cases held with
  | nil => cases he
  | cons v rest =>
    cases he
    refine ⟨v, by simp [SpecSt.rec?], ?_⟩
    simp only [orderOk, List.all_eq_true, decide_eq_true_eq]
    intro r hr
    rcases List.mem_cons.mp hr with rfl | hr'
    · exact Nat.le_refl _
    · exact Nat.le_of_lt ((List.pairwise_cons.mp hi.sorted).1 r hr')

/-- FIFO evicts the key inserted earliest -/
theorem fifo_evicts_oldest : OrderLaw (.fifo {}) := by
  refine orderLaw_of_held _ rfl rfl FifoRel rfl ?_ ?_ ?_ fifoRel_evict
  · rintro _ s k - rfl
    simp [FifoRel, Pol.access, Function.comp_def]
  · rintro _ s k now - hk rfl
    simp only [FifoRel, Pol.insert, FIFO.insert]
    rw [if_neg (show k ∉ s.held.map (·.key) from hk)]; simp
  · rintro _ s k hi rfl
    simp only [FifoRel, Pol.remove, FIFO.remove]
    rw [(show (s.held.map (·.key)).Nodup from hi.nodup).erase_eq_filter, keys_filter]

def LruRel (p : Pol) (held : List HRec) : Prop :=
  ∃ s, p = .lru s ∧ LruSeg (fun _ => true) s.order held

theorem LruSeg.mem_keys {l : List Key} {s : SpecSt} (h : LruSeg (fun _ => true) l s.held) (x : Key) :
    x ∈ l ↔ x ∈ s.keys := by
  simp [h.mem, SpecSt.keys]

theorem lruRel_evict (p : Pol) (s : SpecSt) (now : Nat) (pick : List Key) (k : Key)
    (hi : SpecInv s) (h : LruRel p s.held) (he : (p.evict now pick).1 = some k) :
    ∃ v, s.rec? k = some v ∧ orderOk .lru s now pick v = true := by
  obtain ⟨⟨l⟩, rfl, h⟩ := h
  cases l with
  | nil => cases he
  | cons a rest =>
    cases he
    obtain ⟨v, hv, rfl, _, hle⟩ := h.head hi.nodup
    refine ⟨v, rec?_of_mem hi.nodup hv, ?_⟩
    simp only [orderOk, List.all_eq_true, decide_eq_true_eq]
    exact fun r hr => hle r hr rfl

/-- LRU evicts the key whose last insert/access is oldest -/
theorem lru_evicts_least_recent : OrderLaw (.lru {}) := by
  refine orderLaw_of_held _ rfl rfl LruRel ⟨_, rfl, LruSeg.nil _⟩ ?_ ?_ ?_ lruRel_evict
  · rintro _ s k hi ⟨⟨l⟩, rfl, h⟩
    simp only [Pol.access, LRU.access]
    by_cases hk : k ∈ l
    · rw [if_pos hk]
      exact ⟨_, rfl, h.touch ((h.mem_keys k).mp hk) hi.last_lt (fun _ _ => rfl)⟩
    · rw [if_neg hk, map_touch_not_mem (mt (h.mem_keys k).mpr hk)]
      exact ⟨_, rfl, h⟩
  · rintro _ s k now hi hk ⟨⟨l⟩, rfl, h⟩
    simp only [Pol.insert, LRU.insert]
    rw [if_neg (mt (h.mem_keys k).mp hk)]
    exact ⟨_, rfl, h.snoc (r := ⟨k, s.tick, s.tick, 1, now⟩) hk hi.last_lt⟩
  · rintro _ s k - ⟨⟨l⟩, rfl, h⟩
    exact ⟨_, rfl, h.drop k⟩

def LfuRel (p : Pol) (held : List HRec) : Prop :=
  ∃ s, p = .lfu s ∧ Proj (·.cnt) s.counts held

theorem lfuRel_evict (p : Pol) (s : SpecSt) (now : Nat) (pick : List Key) (k : Key)
    (hi : SpecInv s) (h : LfuRel p s.held) (he : (p.evict now pick).1 = some k) :
    ∃ v, s.rec? k = some v ∧ orderOk .lfu s now pick v = true := by
  obtain ⟨⟨c⟩, rfl, ho⟩ := h
  simp only [Pol.evict, LFU.evict] at he
  cases hm : argminFirst c with
  | none => simp [hm] at he
  | some q =>
    simp only [hm, Option.some.injEq] at he; subst he
    obtain ⟨v, _, hrec, _, hle⟩ := ho.argmin hi.nodup hm
    refine ⟨v, hrec, ?_⟩
    simp only [orderOk, List.all_eq_true, decide_eq_true_eq]
    exact hle

/-- LFU evicts a key with the fewest touches since its insertion -/
theorem lfu_evicts_least_frequent : OrderLaw (.lfu {}) := by
  refine orderLaw_of_held _ rfl rfl LfuRel ⟨{}, rfl, rfl⟩ ?_ ?_ ?_ lfuRel_evict
  · rintro _ s k hi ⟨⟨c⟩, rfl, ho⟩
    refine ⟨_, rfl, ?_⟩
    cases ho
    simp only [LFU.access, Proj]
    rw [aget?_proj]
    cases hf : s.held.find? (fun r => r.key == k) with
    | none =>
      have hk : k ∉ s.held.map (·.key) := fun hm => by
        obtain ⟨r, hr, e⟩ := List.mem_map.mp hm
        simpa [e] using List.find?_eq_none.mp hf r hr
      rw [Option.map_none, map_touch_not_mem hk]
    | some r0 =>
      have hr0 := List.mem_of_find?_eq_some hf
      have hk0 : r0.key = k := by simpa using List.find?_some hf
      have hk : k ∈ akeys (s.held.map (fun r => (r.key, r.cnt))) := by
        rw [akeys_proj]; exact hk0 ▸ List.mem_map.mpr ⟨r0, hr0, rfl⟩
      simp only [Option.map_some, aset, hk, if_true, List.map_map]
      apply List.map_congr_left
      intro r hr
      simp only [Function.comp]
      by_cases e : r.key = k
      · cases rec_unique hi.nodup hr hr0 (e.trans hk0.symm)
        simp [e, touch_of_eq e]
      · simp [e, touch_of_ne e]
  · rintro _ s k now - hk ⟨c, rfl, ho⟩
    exact ⟨_, rfl, ho.insert (r := ⟨k, s.tick, s.tick, 1, now⟩) hk⟩
  · rintro _ s k - ⟨c, rfl, ho⟩
    exact ⟨_, rfl, ho.drop k⟩

def TtlRel (ttl : Nat) (p : Pol) (held : List HRec) : Prop :=
  ∃ s, p = .ttl s ∧ s.ttl = ttl ∧ Proj (·.insNow) s.times held

theorem ttlRel_evict (ttl : Nat) (p : Pol) (s : SpecSt) (now : Nat) (pick : List Key) (k : Key)
    (hi : SpecInv s) (h : TtlRel ttl p s.held) (he : (p.evict now pick).1 = some k) :
    ∃ v, s.rec? k = some v ∧ orderOk (.ttl ttl) s now pick v = true := by
  obtain ⟨⟨t0, c⟩, rfl, rfl, (ho : c = _)⟩ := h
  simp only [Pol.evict, TTL.evict] at he
  cases hm : TTL.victim ⟨t0, c⟩ now with
  | none => simp [hm] at he
  | some q =>
    simp only [hm, Option.some.injEq] at he; subst he
    simp only [TTL.victim] at hm
    cases hf : c.find? (TTL.expired ⟨t0, c⟩ now) with
    | some q' =>
      simp only [hf, Option.some.injEq] at hm; subst hm
      have hq := List.mem_of_find?_eq_some hf
      have hx : q'.2 + t0 ≤ now := by simpa [TTL.expired] using List.find?_some hf
      rw [ho] at hq
      obtain ⟨v, hv, rfl⟩ := List.mem_map.mp hq
      refine ⟨v, rec?_of_mem hi.nodup hv, ?_⟩
      have hany : (s.held.any fun r => decide (r.insNow + t0 ≤ now)) = true :=
        List.any_eq_true.mpr ⟨v, hv, by simpa using hx⟩
      simp only [orderOk, hany, if_true, decide_eq_true_eq]
      exact hx
    | none =>
      simp only [hf] at hm
      obtain ⟨v, _, hrec, _, hle⟩ := Proj.argmin (f := (·.insNow)) ho hi.nodup hm
      have hnone := List.find?_eq_none.mp hf
      rw [ho] at hnone
      refine ⟨v, hrec, ?_⟩
      have hany : (s.held.any fun r => decide (r.insNow + t0 ≤ now)) = false :=
        List.any_eq_false.mpr fun r hr => by
          simpa [TTL.expired] using hnone (r.key, r.insNow) (List.mem_map.mpr ⟨r, hr, rfl⟩)
      simp only [orderOk, hany, Bool.false_eq_true, if_false, List.all_eq_true, decide_eq_true_eq]
      exact hle

/-- TTL evicts an expired key if there is one, else the key with the smallest insertion reading -/
theorem ttl_evicts_expired_or_oldest (ttl : Nat) : OrderLaw (.ttl { ttl := ttl }) := by
  refine orderLaw_of_held _ rfl rfl (TtlRel ttl) ⟨_, rfl, rfl, rfl⟩ ?_ ?_ ?_ (ttlRel_evict ttl)
  · rintro _ s k - ⟨c, rfl, ht, ho⟩
    refine ⟨_, rfl, ht, ?_⟩
    simpa [Proj, Function.comp_def] using ho
  · rintro _ s k now - hk ⟨c, rfl, ht, ho⟩
    exact ⟨_, rfl, ht, ho.insert (r := ⟨k, s.tick, s.tick, 1, now⟩) hk⟩
  · rintro _ s k - ⟨c, rfl, ht, ho⟩
    exact ⟨_, rfl, ht, ho.drop k⟩

end HappyModel.C16
