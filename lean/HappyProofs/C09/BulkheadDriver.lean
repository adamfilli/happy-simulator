import HappyModel.C09.ExtraDriver
/-!
`Extra.runBulkhead` does not consume `Bulkhead.Op`s directly.  It consumes a *schedule* of engine-level
deliveries (`req t rid`, `start t rid`, `done t rid`, `resp t rid`, `tmo t rid`, `fin t`: what
`hv/props/c09_extra.py` strips out of an implementation transcript), keeps an engine layer `Extra.BPend`
next to the model state, translates `req`/`resp`/`tmo` into `Bulkhead.step` on `.request`/`.response`/`.timeout`
(looking the bulkhead's own request id up in `_in_flight` resp. in its pending-timeout list), and prints one
line per schedule entry with the public counters of the model's post-state.

`Cmd` is one schedule line, `dstep` one iteration of `runBulkhead.go` with the printed line already read back
through `Extra.parseBObs` (so a `!unexpected` line is an observation without result and with all counters 0),
`obsTrace` the whole transcript.  The `#guard`s at the end of `BulkheadSpec.lean` compare it with
`parseBObs ∘ runBulkhead` on concrete schedules.
-/
namespace HappyModel.C09.Bulkhead
open HappyModel.C09.Extra (BPend)

/-- one line of the schedule the driver is fed -/
inductive Cmd
  | req (t rid : Nat) | start (t rid : Nat) | done (t rid : Nat) | resp (t rid : Nat) | tmo (t rid : Nat) | fin (t : Nat)
deriving Repr, DecidableEq

/-- `Extra.bcnt`, read back by `parseBObs` -/
def cnt (s : St) (o : Obs) : Obs :=
  { o with a := s.active, q := s.queue.length, p := permits s, sT := s.total, sA := s.accepted, sR := s.rejected,
           sX := s.timedOut, sQ := s.queued, pc := s.peakConc, pq := s.peakQueue }

/-- a `… !unexpected` / `… !unknown` line as `parseBObs` reads it: kind and time only -/
def bang (t : Nat) (k : Kind) : Obs := { t := t, k := k }

def reqStep (wait : Nat) (s : St) (p : BPend) (t rid : Nat) : (St × BPend) × Obs :=
  let r := step s (.request rid t)
  match r.2 with
  | .admitted _ =>
    ((r.1, { p with starts := p.starts ++ [(rid, t)] }), cnt r.1 { t := t, k := .req rid, res := .admitted, fwd := [rid] })
  | .queued bid =>
    ((r.1, if wait = 0 then p else { p with tmos := p.tmos ++ [(rid, bid, t + wait)] }),
     cnt r.1 { t := t, k := .req rid, res := .queued })
  | _ => ((r.1, p), cnt r.1 { t := t, k := .req rid, res := .rejected })

def respStep (s : St) (p : BPend) (t rid : Nat) : (St × BPend) × Obs :=
  match p.dones.contains (rid, t), s.inflight.find? (·.2 == rid) with
  | true, some e =>
    let r := step s (.response e.1 t)
    let p1 := { p with dones := p.dones.filter (· != (rid, t)) }
    match r.2 with
    | .completed (some f) =>
      ((r.1, { p1 with starts := p1.starts ++ [(f.1, t)] }), cnt r.1 { t := t, k := .resp rid, fwd := [f.1] })
    | .completed none => ((r.1, p1), cnt r.1 { t := t, k := .resp rid })
    | _ => ((r.1, p1), bang t (.resp rid))
  | _, _ => ((s, p), bang t (.resp rid))

def tmoStep (s : St) (p : BPend) (t rid : Nat) : (St × BPend) × Obs :=
  match p.tmos.find? (fun e => e.1 == rid && e.2.2 == t) with
  | some e =>
    let r := step s (.timeout e.2.1 t)
    ((r.1, { p with tmos := p.tmos.filter (·.1 != rid) }),
     cnt r.1 { t := t, k := .tmo rid, res := if r.2 == .timedOut then .timedOut else .noop })
  | none => ((s, p), bang t (.tmo rid))

/-- one iteration of `Extra.runBulkhead.go`: the next model state and engine layer, and the printed line as
    `Extra.parseBObs` reads it -/
def dstep (wait : Nat) (s : St) (p : BPend) : Cmd → (St × BPend) × Obs
  | .req t rid => reqStep wait s p t rid
  | .start t rid =>
    if p.starts.contains (rid, t) then
      ((s, { p with starts := p.starts.filter (· != (rid, t)), running := p.running ++ [rid] }), cnt s { t := t, k := .start rid })
    else ((s, p), bang t (.start rid))
  | .done t rid =>
    if p.running.contains rid then
      ((s, { p with running := p.running.filter (· != rid), dones := p.dones ++ [(rid, t)] }), cnt s { t := t, k := .done rid })
    else ((s, p), bang t (.done rid))
  | .resp t rid => respStep s p t rid
  | .tmo t rid => tmoStep s p t rid
  | .fin t => ((s, p), cnt s { t := t, k := .fin, lostFwd := p.starts.map (·.1), unresp := p.dones.map (·.1) })

def obsOf (wait : Nat) (s : St) (p : BPend) (c : Cmd) : Obs := (dstep wait s p c).2

/-- the model's own transcript: what `runBulkhead` prints on the schedule, read back by `parseBObs` -/
def obsTrace (wait : Nat) (s : St) (p : BPend) : List Cmd → List Obs
  | [] => []
  | c :: cs => obsOf wait s p c :: obsTrace wait (dstep wait s p c).1.1 (dstep wait s p c).1.2 cs

/-- the driver does not answer this line with `!unexpected`, and a `fin` comes only when the run is quiescent:
    nothing forwarded is still on its way to the target, no response is still on its way back, and with a wait
    limit nobody is left waiting -/
def expected (s : St) (p : BPend) : Cmd → Bool
  | .req _ _ => true
  | .start t rid => p.starts.contains (rid, t)
  | .done _ rid => p.running.contains rid
  | .resp t rid => p.dones.contains (rid, t) && (s.inflight.find? (·.2 == rid)).isSome
  | .tmo t rid => (p.tmos.find? (fun e => e.1 == rid && e.2.2 == t)).isSome
  | .fin _ => p.starts.isEmpty && p.dones.isEmpty && (s.wait == 0 || s.queue.isEmpty)

def accepted (wait : Nat) (s : St) (p : BPend) : List Cmd → Bool
  | [] => true
  | c :: cs => expected s p c && accepted wait (dstep wait s p c).1.1 (dstep wait s p c).1.2 cs

def reqTags : List Cmd → List Nat
  | [] => []
  | .req _ rid :: cs => rid :: reqTags cs
  | _ :: cs => reqTags cs

/-- the model ops the driver performs for a schedule (the link to `Bulkhead.run`) -/
def opOf (s : St) (p : BPend) : Cmd → Option Op
  | .req t rid => some (.request rid t)
  | .resp t rid =>
    match p.dones.contains (rid, t), s.inflight.find? (·.2 == rid) with
    | true, some e => some (.response e.1 t)
    | _, _ => none
  | .tmo t rid => (p.tmos.find? (fun e => e.1 == rid && e.2.2 == t)).map (fun e => .timeout e.2.1 t)
  | _ => none

end HappyModel.C09.Bulkhead
