import HappyProofs.C17.MLMSub
import HappyProofs.C17.MLPhase
/-!
The run segment after the last client-write / `Replicate` handler step, when it starts with every `Replicate`
done, is an anti-entropy phase (`MLPhase.lean`) for the order `joinOrd`: all leaders hold one clock per key
(`replQuiescent_clocks_agree`), that clock never changes, and under it values are ordered by the join.  An item is
below the holder's clock, so `_install` keeps the clock and stores the holder's value or, when the item carries the
same clock, the join of the two; a version under the common clock is never skipped by a merge loop.
-/
namespace HappyModel.C17.MLM
open HappyModel.C17.ML (Version Msg Proc MKind PKind vcGet dominates vcMerge vcTick)
open HappyModel.C17.LN (Res AeShape StepShape core PhaseOrd PSI)

theorem krun_split (acts : List Act) (s : St) :
    ∃ acts1 acts2, acts = acts1 ++ acts2 ∧ noWR (run s acts1) acts2 = true ∧
      (krun s GK.reset acts).2 = (krun (run s acts1) GK.reset acts2).2 :=
  runEqs.krun_split acts s

theorem mergeOpt_cases (n : Nat) (jn : Join) (u v : Version)
    (hle : ∀ c, c < n → vcGet v.vc c ≤ vcGet u.vc c) :
    ∃ w, mergeOpt n jn (some u) v = some w ∧ (∀ c, c < n → vcGet w.vc c = vcGet u.vc c) ∧
      ((w.val = u.val ∧ ¬ SameClock n u v) ∨ (w.val = joinVal jn u.val v.val ∧ SameClock n u v)) := by
  by_cases hs : SameClock n u v
  · obtain ⟨h1, h2, h3⟩ := pick_same_clock n jn u v hs
    exact ⟨pick n jn (some u) v, by unfold mergeOpt; rw [if_pos h1], h3, Or.inr ⟨h2, hs⟩⟩
  · -- some component is strictly smaller: the local version dominates and the incoming one is refused
    have hex : ∃ c, c < n ∧ vcGet v.vc c < vcGet u.vc c :=
      Classical.byContradiction fun hne => hs fun c hc =>
        Nat.le_antisymm (Nat.le_of_not_lt fun h => hne ⟨c, hc, h⟩) (hle c hc)
    have hd : dominates n u.vc v.vc = true := ML.dominates_iff.mpr ⟨hle, hex⟩
    have hd2 : dominates n v.vc u.vc = false := ML.dominates_eq_false_of_le hle
    have ht : takes n (some u) v = false := by simp only [takes, hd, hd2, Bool.not_true, Bool.or_false]
    exact ⟨u, by unfold mergeOpt; rw [ht]; rfl, fun _ _ => rfl, Or.inl ⟨rfl, hs⟩⟩

theorem kstep_view (s : St) (g : GK) (a : Act) : kstep s g a = LN.kstep s.res s.view (step s a).view g a := by
  unfold kstep LN.kstep
  rw [isWR_view]
  cases a with
  | ae node peer => simp only [St.res, bne_iff_ne]; rfl
  | _ => rfl

/-- `a` carries the clock that all leaders hold for key `k` at the start of the phase -/
def Eff (sp : St) (k : Nat) (a : Option Version) : Prop :=
  ∀ i, i < sp.n → ∀ c, c < sp.n → clk a c = clk (sp.vers i k) c

theorem eff_same {sp : St} {k : Nat} {u v : Version} (hu : Eff sp k (some u)) (hv : Eff sp k (some v)) :
    SameClock sp.n u v :=
  fun c hc => (hu _ (Nat.lt_of_le_of_lt (Nat.zero_le _) hc) c hc).trans (hv _ (Nat.lt_of_le_of_lt (Nat.zero_le _) hc) c hc).symm

/-- a version under another clock than the common one is covered by everything (`Cov` asks nothing of it); the head
item of a handler is below the holder's clock -/
def joinOrd (sp : St) : PhaseOrd where
  Cov k a b := Eff sp k a → Le sp.join (valD a) (valD b)
  Held k a := Eff sp k a ∧ ∀ i, i < sp.n → a.isSome = (sp.vers i k).isSome
  Item _ cur v := ∃ u, cur = some u ∧ ∀ c, c < sp.n → vcGet v.vc c ≤ vcGet u.vc c
  refl _ _ _ := le_refl _ _
  bot h b e := by rw [le_zero_eq (h e)]; exact zero_le _ _
  trans hb _ h1 h2 e := le_trans (h1 e) (h2 hb.1)

theorem joinOrd_laws (sp : St) (r : Res) (ht : ∀ e inc, r.takes e inc = takes sp.n e inc)
    (hp : ∀ e inc, r.pick e inc = pick sp.n sp.join e inc) : (joinOrd sp).Laws r := by
  have merged : ∀ cur v, r.merged cur v = mergeOpt sp.n sp.join cur v := by
    intro cur v; unfold Res.merged mergeOpt; rw [ht, hp]
  -- what `_install` of an item below the holder's clock leaves: the holder's clock, its value or the join
  have inst : ∀ {k cur v}, (joinOrd sp).Item k cur v → ∃ u w, cur = some u ∧ r.merged cur v = some w ∧
      (∀ c, c < sp.n → vcGet w.vc c = vcGet u.vc c) ∧
      ((w.val = u.val ∧ ¬ SameClock sp.n u v) ∨ (w.val = joinVal sp.join u.val v.val ∧ SameClock sp.n u v)) := by
    rintro k cur v ⟨u, rfl, hle⟩
    obtain ⟨w, hw, hwc, hcase⟩ := mergeOpt_cases sp.n sp.join u v hle
    exact ⟨u, w, rfl, (merged _ _).trans hw, hwc, hcase⟩
  refine ⟨?_, ?_, ?_, ?_, ?_⟩
  · intro k cur v hH hI
    obtain ⟨u, w, rfl, hw, hwc, _⟩ := inst hI
    rw [hw]
    exact ⟨fun i hi c hc => (hwc c hc).trans (hH.1 i hi c hc), hH.2⟩
  · intro k cur v _ hI _
    obtain ⟨u, w, rfl, hw, _, hcase⟩ := inst hI
    rw [hw]
    show Le _ u.val w.val
    rcases hcase with ⟨e', _⟩ | ⟨e', _⟩ <;> rw [e']
    · exact le_refl _ _
    · exact le_join_left _ _ _
  · intro k cur v hH hI z _ h1 h2 _
    obtain ⟨u, w, rfl, hw, _, hcase⟩ := inst hI
    rw [hw]
    show Le _ w.val _
    rcases hcase with ⟨e', _⟩ | ⟨e', hs⟩ <;> rw [e']
    · exact h1 hH.1
    · exact join_le (h1 hH.1) (h2 fun i hi c hc => (hs c hc).symm.trans (hH.1 i hi c hc))
  · intro k cur v hH hI hW _
    obtain ⟨u, w, rfl, hw, _, hcase⟩ := inst hI
    rw [hw]
    rcases hcase with ⟨_, hns⟩ | ⟨e', _⟩
    · exact absurd (eff_same hH.1 hW.1) hns
    · show Le _ v.val w.val
      rw [e']; exact le_join_right _ _ _
  · intro k cur v hH hW htk
    -- a version under the common clock carries the holder's clock, so it is taken (whatever the join: `takes`
    -- does not read it, `.union` only instantiates `pick_same_clock`)
    rw [ht] at htk
    cases cur with
    | none => cases htk
    | some u => rw [(pick_same_clock sp.n .union u v (eff_same hH.1 hW.1)).1] at htk; cases htk

variable {sp : St}

/-- below the holder's clock because every `Replicate` is done; under the common clock, below its sender's value -/
theorem psi_item {s : St} (hI : Inv s) (hQ : replQuiescent s) (hS : SubInv s) (hA : AuxInv s) (hn : s.n = sp.n)
    (hj : s.join = sp.join) (held : ∀ b, b < sp.n → ∀ k, (joinOrd sp).Held k (s.vers b k))
    (pid : Nat) (p : Proc) (k : Nat) (v : Version)
    (rest : List (Nat × Version)) (h0 : s.procs pid = some p) (hk : p.kind = .aereq ∨ p.kind = .aeresp)
    (hit : p.items = (k, v) :: rest) :
    (joinOrd sp).Item k (s.vers p.node k) v ∧ (joinOrd sp).Cov k (some v) (s.vers p.src k) := by
  have hmem : (k, v) ∈ p.items := by rw [hit]; exact List.mem_cons_self ..
  obtain ⟨(hN1 : p.node < s.n), (hN2 : p.src < s.n)⟩ := hA.procN pid p h0 hk
  obtain ⟨u, hu, hle⟩ := replQuiescent_good_le s hI hQ k v ((hI.procG pid p h0).2 (k, v) hmem) p.node hN1
  obtain ⟨us, hus, _, heq⟩ := hS.procS pid p h0 hk (k, v) hmem
  rw [hn] at hle hN2 heq
  rw [hj] at heq
  refine ⟨⟨u, hu, hle⟩, fun e => ?_⟩
  show Le _ v.val (valD (s.vers p.src k))
  rw [hus]
  exact heq (eff_same e (hus ▸ (held p.src hN2 k).1))

structure SI (sp s : St) : Prop where
  inv : Inv s
  sub : SubInv s
  aux : AuxInv s
  rq : replQuiescent s
  join : s.join = sp.join
  psi : PSI (joinOrd sp) sp.n sp.view s.view

theorem SI_init (hInv : Inv sp) (hSub : SubInv sp) (hAux : AuxInv sp) (hRQ : replQuiescent sp) : SI sp sp := by
  have A := replQuiescent_clocks_agree sp hInv hRQ
  have held : ∀ b, b < sp.n → ∀ k, (joinOrd sp).Held k (sp.vers b k) :=
    fun b hb k => ⟨fun i hi c hc => (A b i k hb hi).1 c hc, fun i hi => (A b i k hb hi).2⟩
  exact ⟨hInv, hSub, hAux, hRQ, rfl, PSI.init hAux rfl held (psi_item hInv hRQ hSub hAux rfl rfl held)⟩

theorem SI_step {s : St} (a : Act) (h : SI sp s) (hw : isWR s a = false) :
    SI sp (step s a) ∧
      LN.Facts ((joinOrd sp).K sp.view) ((joinOrd sp).W sp.view) sp.n s.res s.view (step s a).view := by
  have hn : s.n = sp.n := h.psi.hn
  have hI' := step_inv s a h.inv
  have hS' := step_subInv s a h.sub
  have hA' := step_aux s a h.aux h.inv
  have hQ' := replQuiescent_step s a hw h.inv h.rq
  have hj' : (step s a).join = sp.join := by rw [step_join]; exact h.join
  have hn' : (step s a).n = sp.n := by rw [step_n]; exact hn
  obtain ⟨held', up', F⟩ := h.psi.step
    (joinOrd_laws sp s.res (fun _ _ => by rw [← hn]; rfl) (fun _ _ => by rw [← hn, ← h.join]; rfl))
    (step_shape s a) (isWR_view s a ▸ hw)
  exact ⟨⟨hI', hS', hA', hQ', hj', ⟨hA', hn', held', up', psi_item hI' hQ' hS' hA' hn' hj' held'⟩⟩, F⟩

theorem krun_P2 (acts : List Act) (s : St) (g : GK) (hs : SI sp s)
    (hg : LN.GI ((joinOrd sp).K sp.view) ((joinOrd sp).W sp.view) sp.n s.view g) (hno : noWR s acts = true) :
    SI sp (krun s g acts).1 ∧
      LN.GI ((joinOrd sp).K sp.view) ((joinOrd sp).W sp.view) sp.n (krun s g acts).1.view (krun s g acts).2 :=
  runEqs.krun_ind (fun s g => SI sp s ∧ LN.GI ((joinOrd sp).K sp.view) ((joinOrd sp).W sp.view) sp.n s.view g)
    (fun s g a ⟨hs, hg⟩ hw => by
      obtain ⟨hs', F⟩ := SI_step a hs hw
      refine ⟨hs', ?_⟩
      show LN.GI _ _ _ (step s a).view (kstep s g a)
      rw [kstep_view]
      exact LN.GI_step (step_shape s a) F hs.aux hs.psi.hn (hs.inv.freshP _ (Nat.le_refl _)) hg (isWR_view s a ▸ hw))
    acts s g ⟨hs, hg⟩ hno

theorem phase2_converges (sp : St) (hInv : Inv sp) (hSub : SubInv sp) (hAux : AuxInv sp)
    (hRQ : replQuiescent sp) (acts : List Act) (hno : noWR sp acts = true)
    (hk : KComplete sp.n (krun sp GK.reset acts).2) (i j k : Nat) (hi : i < sp.n) (hj : j < sp.n) :
    (run sp acts).store i k = (run sp acts).store j k := by
  obtain ⟨hs, hg⟩ := krun_P2 acts sp GK.reset (SI_init hInv hSub hAux hRQ) PhaseOrd.gi_reset hno
  rw [show (krun sp GK.reset acts).1 = run sp acts from runEqs.krun_fst acts sp GK.reset] at hs hg
  -- each covers the other: the values are equal; both carry the common clock: both or neither is there
  have hv : valD ((run sp acts).vers i k) = valD ((run sp acts).vers j k) :=
    le_antisymm (hs.psi.converge hg hk i j k hi hj (hs.psi.held i hi k).1)
      (hs.psi.converge hg hk j i k hj hi (hs.psi.held j hj k).1)
  have he : ((run sp acts).vers i k).isSome = ((run sp acts).vers j k).isSome :=
    ((hs.psi.held i hi k).2 i hi).trans ((hs.psi.held j hj k).2 i hi).symm
  rw [show (run sp acts).store i k = ((run sp acts).vers i k).map (·.val) from hs.inv.store i k,
    show (run sp acts).store j k = ((run sp acts).vers j k).map (·.val) from hs.inv.store j k]
  revert hv he
  cases (run sp acts).vers i k <;> cases (run sp acts).vers j k <;> intro hv he <;>
    first | rfl | exact congrArg some hv | cases he

theorem kcompleteB_iff (n : Nat) (g : GK) : kcompleteB n g = true ↔ KComplete n g := by
  unfold kcompleteB KComplete
  simp only [List.all_eq_true, List.mem_range, List.contains_iff_mem]

/-- The run is split at its last write/Replicate step (`krun_split`).  Before it: the run invariants
(`run_inv`, `run_aux`, `run_subInv`).  At it: final quiescence and "no write/Replicate step afterwards"
give `replQuiescent` (`replQuiescent_of_run`), hence all leaders carry one clock per key
(`replQuiescent_clocks_agree`).  After it: `phase2_converges` — every install is a pure join, a
request's items are never skipped, and complete knowledge makes any two leaders cover each other
(`PSI.converge`). -/
theorem run_gossip_complete_converges (n nk : Nat) (jn : Join) (acts : List Act)
    (hq : quiescentB (run (init n nk jn) acts) = true)
    (hk : KComplete n (krun (init n nk jn) GK.reset acts).2) (i j k : Nat) (hi : i < n) (hj : j < n) :
    (run (init n nk jn) acts).store i k = (run (init n nk jn) acts).store j k := by
  obtain ⟨a1, a2, he, hno, hke⟩ := krun_split acts (init n nk jn)
  have hI1 : Inv (run (init n nk jn) a1) := run_inv n nk jn a1
  have hrun : run (init n nk jn) acts = run (run (init n nk jn) a1) a2 := by rw [he]; exact runEqs.run_append a1 a2 _
  have hRQ1 : replQuiescent (run (init n nk jn) a1) :=
    replQuiescent_of_run a2 _ hno hI1 (hrun ▸ replQuiescent_of_quiescentB _ (run_inv n nk jn acts) hq)
  have hn1 : (run (init n nk jn) a1).n = n := run_n _ _
  rw [hrun]
  exact phase2_converges _ hI1 (run_subInv n nk jn a1) (run_aux n nk jn a1) hRQ1 a2 hno
    (by rw [hn1, ← hke]; exact hk) i j k (by rw [hn1]; exact hi) (by rw [hn1]; exact hj)

end HappyModel.C17.MLM
