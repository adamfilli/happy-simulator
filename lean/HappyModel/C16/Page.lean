/-!
Model of `PageCache` (components/infrastructure/page_cache.py) as a transition system whose
actions are the *segments* of its generator methods: `start i op` runs call `i` up to its first
`yield` (or to its `return`), `resume i` runs it from there to the next `yield` / `return`.  Which
call advances when is an input (the schedule), so theorems quantify over every interleaving; the
engine is not part of the model.  Nothing in `PageCache` depends on the clock, so segments carry no
time.

The cache is an `OrderedDict` page id ↦ page object, least recently used first.  A page object is
modelled with a *generation* number: `flush` of the `current` variant keeps a reference to the object it
is writing, and `self._pages[p] = _CachedPage(p)` for a key that is already present replaces the
object in place (no reordering, no structural mutation).

Two variants (`Cfg.rep`):
* `current`  — the code before the repair (snapshot 7d08bcf): `_load_page` / the read-ahead loop make room *before* the disk
  read is yielded and insert afterwards; `_evict_one` chooses its victim, yields the write-back
  latency, then `del`s by id (KeyError if a concurrent eviction removed it); `flush` iterates the
  live dict across yields (CPython: "OrderedDict mutated during iteration" when the dict was
  structurally changed and the iterator is not yet exhausted — `St.ver` is `od_state`).
* `repaired` — fixes/C16-pagecache-capacity.diff (in /repo since 2314498): the victim is popped before the write-back latency
  is yielded; after the disk read room is made again and re-checked after every yield, a page that
  is already cached is left alone; a read-ahead page is only inserted into room that is still
  free; `flush` walks a snapshot of the ids and re-checks "cached and dirty" after the yield.
-/
namespace HappyModel.C16.Page

structure Pg where
  id : Nat
  dirty : Bool
  gen : Nat
deriving Repr, DecidableEq

structure Cfg where
  cap : Nat
  ra : Nat        -- readahead_pages
  rep : Bool      -- repaired variant
deriving Repr

inductive Op
  | read (p : Nat)
  | write (p : Nat)
  | flush
deriving Repr, DecidableEq

inductive Err
  | key        -- KeyError (`del self._pages[oldest_id]`)
  | runtime    -- RuntimeError (dict mutated during iteration)
deriving Repr, DecidableEq

inductive Res
  | ok
  | count (n : Nat)
  | err (e : Err)
deriving Repr, DecidableEq

/-- what follows once `_ensure_space` / the insert loop has made room -/
inductive Cont
  | load (p : Nat)     -- `_load_page`: yield the disk read
  | ins (p : Nat)      -- repaired `_insert_clean` after the disk read, then the read-ahead loop
  | write (p : Nat)    -- `write_page`: insert the dirty page and return
deriving Repr, DecidableEq

/-- where a call is suspended -/
inductive Pend
  | evict (victim : Nat) (k : Cont)   -- write-back latency of a dirty victim (current: still cached; repaired: already popped)
  | disk (p : Nat)                    -- disk read of the requested page
  | ahead (p i : Nat)                 -- disk read of read-ahead page `p + i`
  | flushC (id gen : Nat) (rest : List Nat) (stamp n : Nat)
  | flushR (id : Nat) (rest : List Nat) (n : Nat)
deriving Repr, DecidableEq

structure St where
  pages : List Pg := []
  hits : Nat := 0
  misses : Nat := 0
  ev : Nat := 0
  dwb : Nat := 0
  ra : Nat := 0
  gen : Nat := 0                  -- next page-object identity
  ver : Nat := 0                  -- `od_state`: bumped by every structural change of the dict
  pend : List (Nat × Pend) := []
  /-- ghost (never printed, never read by the transitions): how often `write_page` turned an
  absent or clean page dirty -/
  made : Nat := 0
deriving Repr, DecidableEq

/-! ### the ordered dict -/

def has (ps : List Pg) (p : Nat) : Bool := ps.any (·.id == p)

def findPg : List Pg → Nat → Option Pg
  | [], _ => none
  | q :: qs, p => if q.id == p then some q else findPg qs p

/-- remove the (first) entry of `p` -/
def erase1 : List Pg → Nat → List Pg
  | [], _ => []
  | q :: qs, p => if q.id == p then qs else q :: erase1 qs p

/-- replace the (first) entry of `p` in place -/
def replace1 : List Pg → Nat → Pg → List Pg
  | [], _, _ => []
  | q :: qs, p, n => if q.id == p then n :: qs else q :: replace1 qs p n

def isLast : List Pg → Nat → Bool
  | [], _ => false
  | [q], p => q.id == p
  | _ :: q :: qs, p => isLast (q :: qs) p

def dirtyCount (ps : List Pg) : Nat := ps.countP (·.dirty)

def isDirty (ps : List Pg) (p : Nat) : Bool :=
  match findPg ps p with
  | some q => q.dirty
  | none => false

/-- `move_to_end(p)` (structural change unless `p` is already last) -/
def St.touch (s : St) (p : Nat) : St :=
  match findPg s.pages p with
  | some q => if isLast s.pages p then s else { s with pages := erase1 s.pages p ++ [q], ver := s.ver + 1 }
  | none => s

/-- `self._pages[p] = _CachedPage(p, dirty)`: in place if the key exists, appended otherwise -/
def St.assign (s : St) (p : Nat) (d : Bool) : St :=
  if has s.pages p then { s with pages := replace1 s.pages p ⟨p, d, s.gen⟩, gen := s.gen + 1 }
  else { s with pages := s.pages ++ [⟨p, d, s.gen⟩], gen := s.gen + 1, ver := s.ver + 1 }

/-- `page.dirty = d` on the cached object of `p` -/
def St.setDirty (s : St) (p : Nat) (d : Bool) : St :=
  match findPg s.pages p with
  | some q => { s with pages := replace1 s.pages p { q with dirty := d } }
  | none => s

def St.setPend (s : St) (i : Nat) (p : Pend) : St := { s with pend := s.pend ++ [(i, p)] }

def findPend : List (Nat × Pend) → Nat → Option Pend
  | [], _ => none
  | (j, p) :: r, i => if j == i then some p else findPend r i

def erasePend : List (Nat × Pend) → Nat → List (Nat × Pend)
  | [], _ => []
  | (j, p) :: r, i => if j == i then r else (j, p) :: erasePend r i

/-! ### `_ensure_space` / `_evict_one` up to the next yield -/

/-- `while len(pages) >= capacity: _evict_one()`; `some v`: suspended on the write-back of dirty
victim `v`.  A clean victim is dropped without a yield.  `fuel` ≥ number of pages + 1. -/
def ensure (cfg : Cfg) : Nat → St → St × Option Nat
  | 0, s => (s, none)
  | fuel + 1, s =>
    if s.pages.length < cfg.cap then (s, none) else
    match s.pages with
    | [] => (s, none)                 -- `if not self._pages: return` (capacity 0 is rejected by the constructor)
    | q :: qs =>
      if cfg.rep then
        -- popitem(last=False); evictions += 1; a dirty victim is then written back
        let s1 := { s with pages := qs, ev := s.ev + 1, ver := s.ver + 1 }
        if q.dirty then (s1, some q.id) else ensure cfg fuel s1
      else
        if q.dirty then (s, some q.id)
        else ensure cfg fuel { s with pages := qs, ev := s.ev + 1, ver := s.ver + 1 }

/-- the read-ahead loop of `read_page` from offset `i`, up to the next yield (`n` = iterations left) -/
def raLoop (cfg : Cfg) (idx p : Nat) : Nat → Nat → St → St × Option Res
  | 0, _, s => (s, some .ok)
  | n + 1, i, s =>
    if !has s.pages (p + i) && decide (s.pages.length < cfg.cap) then (s.setPend idx (.ahead p i), none)
    else raLoop cfg idx p n (i + 1) s

def readAhead (cfg : Cfg) (idx p i : Nat) (s : St) : St × Option Res :=
  raLoop cfg idx p (cfg.ra + 1 - i) i s

/-- room has been made and nothing was yielded since: run the continuation -/
def afterRoom (cfg : Cfg) (s : St) (idx : Nat) : Cont → St × Option Res
  | .load p => (s.setPend idx (.disk p), none)
  | .ins p => readAhead cfg idx p 1 (s.assign p false)
  | .write p =>
    let fresh := !isDirty s.pages p
    ({ s.assign p true with made := s.made + (if fresh then 1 else 0) }, some .ok)

/-- make room, then continue with `k` (repaired `ins`: only while the page is still absent) -/
def withRoom (cfg : Cfg) (s : St) (idx : Nat) (k : Cont) : St × Option Res :=
  match k with
  | .ins p =>
    if has s.pages p then readAhead cfg idx p 1 s else
    match ensure cfg (s.pages.length + 1) s with
    | (s1, none) => afterRoom cfg s1 idx k
    | (s1, some v) => (s1.setPend idx (.evict v k), none)
  | _ =>
    match ensure cfg (s.pages.length + 1) s with
    | (s1, none) => afterRoom cfg s1 idx k
    | (s1, some v) => (s1.setPend idx (.evict v k), none)

/-! ### flush -/

/-- current: `for page in self._pages.values()` resumed with the iterator at `rest`; the iterator
raises when it is asked for another element after a structural change -/
def flushNextC (s : St) (idx stamp : Nat) : List Nat → Nat → St × Option Res
  | [], n => (s, some (.count n))
  | p :: rest, n =>
    if s.ver != stamp then (s, some (.err .runtime)) else
    match findPg s.pages p with
    | some q => if q.dirty then (s.setPend idx (.flushC p q.gen rest stamp n), none) else flushNextC s idx stamp rest n
    | none => (s, some (.err .key))    -- unreachable: the key set is unchanged while `ver = stamp`

/-- repaired: `for page_id in list(self._pages)` -/
def flushNextR (s : St) (idx : Nat) : List Nat → Nat → St × Option Res
  | [], n => (s, some (.count n))
  | p :: rest, n =>
    if isDirty s.pages p then (s.setPend idx (.flushR p rest n), none) else flushNextR s idx rest n

/-! ### segments -/

def start (cfg : Cfg) (s : St) (i : Nat) : Op → St × Option Res
  | .read p =>
    if has s.pages p then ({ s with hits := s.hits + 1 }.touch p, some .ok)
    else withRoom cfg { s with misses := s.misses + 1 } i (.load p)
  | .write p =>
    if has s.pages p then
      let fresh := !isDirty s.pages p
      ((({ s with hits := s.hits + 1, made := s.made + (if fresh then 1 else 0) }).setDirty p true).touch p, some .ok)
    else withRoom cfg { s with misses := s.misses + 1 } i (.write p)
  | .flush =>
    if cfg.rep then flushNextR s i (s.pages.map (·.id)) 0
    else flushNextC s i s.ver (s.pages.map (·.id)) 0

/-- a later segment of call `i`, suspended at `p` (already removed from `pend`) -/
def resume (cfg : Cfg) (s : St) (i : Nat) : Pend → St × Option Res
  | .evict v k =>
    let s1 := { s with dwb := s.dwb + 1 }
    if cfg.rep then withRoom cfg s1 i k
    else if has s1.pages v then
      withRoom cfg { s1 with pages := erase1 s1.pages v, ev := s1.ev + 1, ver := s1.ver + 1 } i k
    else (s1, some (.err .key))
  | .disk p =>
    if cfg.rep then withRoom cfg s i (.ins p)
    else readAhead cfg i p 1 (s.assign p false)
  | .ahead p j =>
    if cfg.rep then
      if !has s.pages (p + j) && decide (s.pages.length < cfg.cap) then
        readAhead cfg i p (j + 1) { s.assign (p + j) false with ra := s.ra + 1 }
      else readAhead cfg i p (j + 1) s
    else readAhead cfg i p (j + 1) { s.assign (p + j) false with ra := s.ra + 1 }
  | .flushC p g rest stamp n =>
    if cfg.rep then (s, none) else     -- a continuation of the other variant: never created
    let s1 := match findPg s.pages p with
      | some q => if q.gen == g then s.setDirty p false else s
      | none => s
    flushNextC { s1 with dwb := s1.dwb + 1 } i stamp rest (n + 1)
  | .flushR p rest n =>
    if !cfg.rep then (s, none) else    -- a continuation of the other variant: never created
    if isDirty s.pages p then flushNextR { s.setDirty p false with dwb := s.dwb + 1 } i rest (n + 1)
    else flushNextR s i rest n

inductive Act
  | start (i : Nat) (op : Op)
  | resume (i : Nat)
deriving Repr, DecidableEq

def step (cfg : Cfg) (s : St) : Act → St × Option Res
  | .start i op => start cfg s i op
  | .resume i =>
    match findPend s.pend i with
    | some p => resume cfg { s with pend := erasePend s.pend i } i p
    | none => (s, none)

def run (cfg : Cfg) (s : St) : List Act → St
  | [] => s
  | a :: as => run cfg (step cfg s a).1 as

end HappyModel.C16.Page
