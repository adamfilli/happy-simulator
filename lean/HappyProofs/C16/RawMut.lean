import HappyProofs.C16.RawFresh
/-!
Read-after-write over every interleaving: the building blocks of the repaired store
(`writeBack`, `evictOne`, `evictLoop`, `cacheRemove`, `cachePut`, `invalidate_all`) are mutations
(`Mut`) that keep the value invariant `VI` under a fixed context — whatever key the policy evicts (`mut_evictOne`
takes any `ek`, `pol'`): read-after-write needs nothing of `SInv` or the policy laws.
-/
namespace HappyModel.C16

variable {R : WOrd}

theorem mut_same {g : Gh} {s s' : St} (h : VI R g s) (hc : s'.cache = s.cache) (hd : s'.dirty = s.dirty)
    (hb : s'.back = s.back) (hp : s'.pend = s.pend) (he : s'.epoch = s.epoch) (hi : s'.infl = s.infl) :
    Mut R g s s' where
  pend := hp
  epoch := he
  infl := hi
  dsub := by rw [hd]; exact fun _ h => h
  dcache := by rw [hd, hc]; exact h.dsub
  c := by rw [hc]; exact fun _ _ h => Or.inl h
  b := by rw [hb]; exact fun _ => Or.inl rfl
  wb := by rw [hd]; exact fun _ h1 h2 => absurd h1 h2

theorem mut_writeBack {g : Gh} {s : St} (h : VI R g s) (k : Key) : Mut R g s (s.writeBack k) := by
  have key : ∀ x, x ∈ s.dirty → x = k → FreshAll R g x (aget? (s.writeBack k).back x) := by
    intro x hx e
    subst e
    obtain ⟨v, hv⟩ := some_of_mem_akeys _ _ (h.dsub x hx)
    rw [writeBack_self s x v hx hv]
    exact h.c x v hv
  refine ⟨writeBack_pend s k, writeBack_epoch s k, writeBack_infl s k,
    fun x hx => writeBack_dirty_sub s k x hx, ?_, ?_, ?_, ?_⟩
  · intro x hx
    rw [writeBack_cache]
    exact h.dsub x (writeBack_dirty_sub s k x hx)
  · intro x v hv
    rw [writeBack_cache] at hv
    exact Or.inl hv
  · intro x
    by_cases hx : x ≠ k ∨ x ∉ s.dirty
    · exact Or.inl (writeBack_back_other s k x hx)
    · have hx' : x = k ∧ x ∈ s.dirty := by
        constructor
        · exact Classical.byContradiction fun hne => hx (Or.inl hne)
        · exact Classical.byContradiction fun hnd => hx (Or.inr hnd)
      exact Or.inr (key x hx'.2 hx'.1)
  · intro x hx hn
    have : x = k := Classical.byContradiction fun hne => hn (writeBack_dirty_keep s k x hx hne)
    exact key x hx this

theorem vi_writeBack_clean {g : Gh} {s : St} (h : VI R g s) (k : Key) : k ∉ (s.writeBack k).dirty := by
  by_cases hd : k ∈ s.dirty
  · obtain ⟨v, hv⟩ := some_of_mem_akeys _ _ (h.dsub k hd)
    exact writeBack_self_clean s k v hv
  · exact fun hx => hd (writeBack_dirty_sub s k k hx)

theorem mut_drop {g : Gh} {s s' : St} (h : VI R g s) (k : Key) (hk : k ∉ s.dirty)
    (hc : s'.cache = adel s.cache k) (hd : s'.dirty = setDel s.dirty k)
    (hb : s'.back = s.back) (hp : s'.pend = s.pend) (he : s'.epoch = s.epoch) (hi : s'.infl = s.infl) :
    Mut R g s s' where
  pend := hp
  epoch := he
  infl := hi
  dsub := by rw [hd]; exact fun x hx => ((mem_setDel _ _ _).mp hx).1
  dcache := by
    rw [hd, hc]
    intro x hx
    have := (mem_setDel _ _ _).mp hx
    exact (mem_akeys_adel _ _ _).mpr ⟨h.dsub x this.1, this.2⟩
  c := by
    rw [hc]
    intro x v hv
    by_cases e : x = k
    · subst e; rw [aget?_adel_self] at hv; cases hv
    · rw [aget?_adel_other _ _ _ e] at hv; exact Or.inl hv
  b := by rw [hb]; exact fun _ => Or.inl rfl
  wb := by
    rw [hd]
    intro x hx hn
    have : x = k := Classical.byContradiction fun hne => hn ((mem_setDel _ _ _).mpr ⟨hx, hne⟩)
    exact absurd (this ▸ hx) hk

theorem mut_evictOne (cfg : Cfg) (hrep : cfg.rep = true) {g : Gh} {s : St} (h : VI R g s) (ek : Key) (pol' : Pol) :
    Mut R g s (evictOne cfg s ek pol') := by
  rw [evictOne_rep cfg hrep]
  have m1 := mut_writeBack h ek
  refine m1.trans (mut_drop (h.mut m1) ek (vi_writeBack_clean h ek) ?_ rfl rfl rfl rfl rfl)
  rw [writeBack_cache]

/-- `_cache_remove` after `_write_back_if_dirty` -/
theorem mut_remove {g : Gh} {s : St} (h : VI R g s) (k : Key) : Mut R g s (cacheRemove (s.writeBack k) k) := by
  have m1 := mut_writeBack h k
  exact m1.trans (mut_drop (h.mut m1) k (vi_writeBack_clean h k) rfl rfl rfl rfl rfl rfl)

theorem mut_cacheSet {g : Gh} {s s' : St} (h : VI R g s) (k : Key) (v : Nat) (hf : FreshAll R g k (some v))
    (hc : s'.cache = aset s.cache k v) (hd : s'.dirty = s.dirty)
    (hb : s'.back = s.back) (hp : s'.pend = s.pend) (he : s'.epoch = s.epoch) (hi : s'.infl = s.infl) :
    Mut R g s s' where
  pend := hp
  epoch := he
  infl := hi
  dsub := by rw [hd]; exact fun _ h => h
  dcache := by
    rw [hd, hc]
    exact fun x hx => (mem_akeys_aset _ _ _ _).mpr (Or.inr (h.dsub x hx))
  c := by
    rw [hc]
    intro x w hw
    by_cases e : x = k
    · subst e
      rw [aget?_aset_self] at hw
      cases hw
      exact Or.inr hf
    · rw [aget?_aset_other _ _ _ _ e] at hw; exact Or.inl hw
  b := by rw [hb]; exact fun _ => Or.inl rfl
  wb := by rw [hd]; exact fun _ h1 h2 => absurd h1 h2

theorem cachePut_split (cfg : Cfg) (hrep : cfg.rep = true) {g : Gh} (s : St) (k v now : Nat) (h : VI R g s) :
    ∃ pe pol', Mut R g s pe ∧ cachePut cfg s k v now = { pe with cache := aset pe.cache k v, pol := pol' } := by
  obtain ⟨pe, pol', ⟨m, _⟩, e⟩ := cachePut_ind cfg now (P := fun x => Mut R g s x ∧ VI R g x)
    (fun _ _ m => ⟨m.1.trans (mut_same m.2 rfl rfl rfl rfl rfl rfl), m.2.mut (mut_same m.2 rfl rfl rfl rfl rfl rfl)⟩)
    (fun x ek pol' m => ⟨m.1.trans (mut_evictOne cfg hrep m.2 ek pol'), m.2.mut (mut_evictOne cfg hrep m.2 ek pol')⟩)
    s k v ⟨Mut.refl h, h⟩
  exact ⟨pe, pol', m, e⟩

theorem mut_cachePut (cfg : Cfg) (hrep : cfg.rep = true) {g : Gh} (s : St) (k v now : Nat) (h : VI R g s)
    (hf : FreshAll R g k (some v)) : Mut R g s (cachePut cfg s k v now) := by
  obtain ⟨pe, pol', m, e⟩ := cachePut_split cfg hrep s k v now h
  rw [e]
  exact m.trans (mut_cacheSet (h.mut m) k v hf rfl rfl rfl rfl rfl rfl)

theorem mut_invAll {g : Gh} {s s' : St} (h : VI R g s) (hc : s'.cache = []) (hd : s'.dirty = [])
    (hb : s'.back = (s.writeBackAll s.dirty).back) (hp : s'.pend = s.pend) (he : s'.epoch = s.epoch)
    (hi : s'.infl = s.infl) : Mut R g s s' := by
  have key : ∀ x, x ∈ s.dirty → FreshAll R g x (aget? s'.back x) := by
    intro x hx
    obtain ⟨v, hv⟩ := some_of_mem_akeys _ _ (h.dsub x hx)
    rw [hb, writeBackAll_hit s s.dirty x v hx hv hx]
    exact h.c x v hv
  refine ⟨hp, he, hi, ?_, ?_, ?_, ?_, ?_⟩
  · rw [hd]; intro x hx; cases hx
  · rw [hd]; intro x hx; cases hx
  · rw [hc]; intro x v hv; simp [aget?] at hv
  · intro x
    by_cases hx : x ∈ s.dirty
    · exact Or.inr (key x hx)
    · exact Or.inl (by rw [hb]; exact writeBackAll_miss s s.dirty x hx)
  · intro x hx _; exact key x hx

end HappyModel.C16
