/-!
Stamping an event through a float-seconds round trip.  Two ways of stamping "`d` after now" occur in the component
library:

* `now + Duration.from_seconds(d)` — integer nanoseconds: `stampInt now dNs = now + dNs`;
* `Instant.from_seconds(now.to_seconds() + d)` — the clock is converted to float seconds and back:
  `stampFloat conv now dNs = conv (now + dNs)`.

`conv : Nat → Nat` is the composite `ns ↦ int((ns / 1e9) * 1e9)` of the library's two conversions, taken as a
parameter: floats do not enter.  The sharp statements need only that it loses at most one nanosecond
(`LosesAtMostOne`); that truncation never gains (`NoGain`) is used for `stampFloat_le_stampInt` alone.
The decided witness is 2.05 s (`int(2050000000 / 1e9 * 1e9) = 2049999999` in IEEE doubles), the instant of the
ShiftedServer boundary and of the Client retry at a lossy timeout instant.
-/
namespace HappyModel.C07.FloatStamp

def stampInt (now dNs : Nat) : Nat := now + dNs
def stampFloat (conv : Nat → Nat) (now dNs : Nat) : Nat := conv (now + dNs)

def NoGain (conv : Nat → Nat) : Prop := ∀ n, conv n ≤ n
def LosesAtMostOne (conv : Nat → Nat) : Prop := ∀ n, n ≤ conv n + 1

/-- `conv` loses a nanosecond at `n`: the instant does not survive the ns → float seconds → ns round trip -/
def LossyAt (conv : Nat → Nat) (n : Nat) : Prop := conv n < n

theorem stampInt_never_past (now dNs : Nat) : now ≤ stampInt now dNs := by
  unfold stampInt; omega

theorem stampInt_strict (now dNs : Nat) (h : 1 ≤ dNs) : now < stampInt now dNs := by
  unfold stampInt; omega

theorem stampFloat_zero_past_iff (conv : Nat → Nat) (now : Nat) :
    stampFloat conv now 0 < now ↔ LossyAt conv now := by
  unfold stampFloat LossyAt; simp

theorem stampFloat_le_stampInt (conv : Nat → Nat) (h : NoGain conv) (now dNs : Nat) :
    stampFloat conv now dNs ≤ stampInt now dNs := h (now + dNs)

/-- the sharp statement: the float form stamps in the past iff the delay is zero and `now` is lossy -/
theorem stampFloat_past_iff (conv : Nat → Nat) (h1 : LosesAtMostOne conv) (now dNs : Nat) :
    stampFloat conv now dNs < now ↔ dNs = 0 ∧ LossyAt conv now := by
  unfold stampFloat LossyAt
  constructor
  · intro h
    have := h1 (now + dNs)
    have hd : dNs = 0 := by omega
    subst hd
    exact ⟨rfl, by simpa using h⟩
  · rintro ⟨rfl, h⟩
    simpa using h

/-- so any delay of at least one nanosecond is safe even in the float form -/
theorem stampFloat_safe_of_delay (conv : Nat → Nat) (h1 : LosesAtMostOne conv) (now dNs : Nat) (hd : 1 ≤ dNs) :
    now ≤ stampFloat conv now dNs := by
  unfold stampFloat
  have := h1 (now + dNs)
  omega

/-- re-arming through the float form at a lossy instant with zero delay: one nanosecond in the past -/
theorem stampFloat_zero_one_ns_back (conv : Nat → Nat) (h1 : LosesAtMostOne conv) (now : Nat) (hl : LossyAt conv now) :
    stampFloat conv now 0 + 1 = now := by
  unfold stampFloat LossyAt at *
  have := h1 now
  simp at *; omega

/-- the witness: the instant 2.05 s = 2 050 000 000 ns reads back as 2 049 999 999 ns
    (`int(2050000000 / 1e9 * 1e9)` in IEEE doubles); every other instant is left alone in this `conv` -/
def convWitness (n : Nat) : Nat := if n = 2050000000 then 2049999999 else n

theorem convWitness_noGain : NoGain convWitness := by
  intro n; unfold convWitness; split <;> omega

theorem convWitness_losesAtMostOne : LosesAtMostOne convWitness := by
  intro n; unfold convWitness; split <;> omega

/-- at 2.05 s: the float form with zero delay is stamped 1 ns in the past, the integer form is not; with a delay
    of 1 ns, or at the neighbouring instant, both are fine -/
example :
    LossyAt convWitness 2050000000 ∧
    stampFloat convWitness 2050000000 0 = 2049999999 ∧ stampFloat convWitness 2050000000 0 < 2050000000 ∧
    stampInt 2050000000 0 = 2050000000 ∧
    2050000000 ≤ stampFloat convWitness 2050000000 1 ∧
    ¬ LossyAt convWitness 2049999999 ∧ 2049999999 ≤ stampFloat convWitness 2049999999 0 := by
  unfold LossyAt
  decide

end HappyModel.C07.FloatStamp
