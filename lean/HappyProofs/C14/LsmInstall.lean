import HappyProofs.C14.LsmData
/-! Installing a compaction does not change what a read through the levels finds, up to the tombstones dropped at the
    deepest level. -/
namespace HappyModel.C14

section

variable {l : List Tab} {k : Key}

def LevelDisjoint (l : List Tab) : Prop :=
  ∀ t ∈ l, ∀ t' ∈ l, ∀ k, t.data.lookup k ≠ none → t'.data.lookup k ≠ none → t = t'

theorem LevelDisjoint.sub {l l' : List Tab} (h : LevelDisjoint l) (hs : ∀ t ∈ l', t ∈ l) : LevelDisjoint l' :=
  fun t ht t' ht' k a b => h t (hs t ht) t' (hs t' ht') k a b

theorem modAt_eq_modify (ls : List (List Tab)) (i : Nat) (f : List Tab → List Tab) : modAt ls i f = ls.modify i f := by
  induction ls generalizing i with
  | nil => cases i <;> rfl
  | cons l r ih => cases i with
    | zero => rfl
    | succ i => simp [modAt, ih]

theorem getD_eq_getElem (ls : List (List Tab)) (i : Nat) (h : i < ls.length) : ls.getD i [] = ls[i] := by
  simp [List.getD_eq_getElem?_getD, h]

theorem getD_of_ge (lv : List (List Tab)) (i : Nat) (h : lv.length ≤ i) : lv.getD i [] = [] := by
  simp [List.getD_eq_getElem?_getD, List.getElem?_eq_none h]

theorem getD_drop (lv : List (List Tab)) (a j : Nat) : (lv.drop a).getD j [] = lv.getD (a + j) [] := by
  simp only [List.getD_eq_getElem?_getD, List.getElem?_drop]

theorem drop_eq_getD_cons (ls : List (List Tab)) (i : Nat) (h : i < ls.length) :
    ls.drop i = ls.getD i [] :: ls.drop (i + 1) := by
  rw [getD_eq_getElem ls i h]; exact List.drop_eq_getElem_cons h

theorem or_join_congr {α} (x y y' : Option (Option α)) (h : y.join = y'.join) :
    (x.or y).join = (x.or y').join := by
  cases x with
  | none => simpa using h
  | some c => rfl

theorem lookTabs_none_iff :
    lookTabs k l = none ↔ ∀ t ∈ l, t.data.lookup k = none := by
  rw [lookTabs_eq, List.findSome?_eq_none_iff]

theorem lookTabs_some_mem {c : Cell} (h : lookTabs k l = some c) :
    ∃ t ∈ l, t.data.lookup k = some c := by
  rw [lookTabs_eq] at h; exact List.exists_of_findSome?_eq_some h

theorem lookTabs_of_mem (hd : LevelDisjoint l) {t : Tab} (ht : t ∈ l) {c : Cell}
    (hc : t.data.lookup k = some c) : lookTabs k l = some c := by
  cases h : lookTabs k l with
  | none => rw [lookTabs_none_iff.mp h t ht] at hc; cases hc
  | some c' =>
    obtain ⟨t', h1, h2⟩ := lookTabs_some_mem h
    have : t = t' := hd t ht t' h1 k (by simp [hc]) (by simp [h2])
    subst this
    rw [hc] at h2; exact h2.symm

theorem lookTabs_eq_of_same_mem {l l' : List Tab} (hd : LevelDisjoint l)
    (h1 : ∀ t ∈ l', t ∈ l) (h2 : ∀ t ∈ l, t.data.lookup k ≠ none → t ∈ l') : lookTabs k l' = lookTabs k l := by
  cases h : lookTabs k l with
  | none => exact lookTabs_none_iff.mpr fun t ht => lookTabs_none_iff.mp h t (h1 t ht)
  | some c =>
    obtain ⟨t, ht, hc⟩ := lookTabs_some_mem h
    exact lookTabs_of_mem (hd.sub h1) (h2 t ht (by simp [hc])) hc

theorem lookTabs_reverse (hd : LevelDisjoint l) :
    lookTabs k l.reverse = lookTabs k l :=
  lookTabs_eq_of_same_mem hd (fun _ ht => List.mem_reverse.mp ht) (fun _ ht _ => List.mem_reverse.mpr ht)

theorem modAt_length (ls : List (List Tab)) (i : Nat) (f : List Tab → List Tab) :
    (modAt ls i f).length = ls.length := by
  rw [modAt_eq_modify, List.length_modify]

theorem modAt_append_len (A : List (List Tab)) (x : List Tab) (r : List (List Tab)) (f : List Tab → List Tab) :
    modAt (A ++ x :: r) A.length f = A ++ f x :: r := by
  induction A with
  | nil => rfl
  | cons a A ih => simp [modAt, ih]

theorem modAt_append_len_succ (A : List (List Tab)) (x y : List Tab) (r : List (List Tab)) (f : List Tab → List Tab) :
    modAt (A ++ x :: y :: r) (A.length + 1) f = A ++ x :: f y :: r := by
  induction A with
  | nil => rfl
  | cons a A ih => simp [modAt, ih]

theorem decomp (ls : List (List Tab)) (i : Nat) (h : i < ls.length) :
    ls = ls.take i ++ ls.getD i [] :: ls.drop (i + 1) := by
  rw [← drop_eq_getD_cons ls i h, List.take_append_drop]

theorem getD_modAt (ls : List (List Tab)) (i j : Nat) (f : List Tab → List Tab) (h : i < ls.length) :
    (modAt ls i f).getD j [] = if j = i then f (ls.getD i []) else ls.getD j [] := by
  rw [modAt_eq_modify]
  simp only [List.getD_eq_getElem?_getD, List.getElem?_modify]
  by_cases hji : j = i
  · subst hji; simp [List.getElem?_eq_getElem h]
  · rw [if_neg hji]; cases ls[j]? <;> simp [Ne.symm hji]

theorem getD_mem_or_nil (ls : List (List Tab)) (i : Nat) : ls.getD i [] ∈ ls ∨ ls.getD i [] = [] := by
  rw [List.getD_eq_getElem?_getD]
  cases h : ls[i]? with
  | none => exact Or.inr rfl
  | some x => exact Or.inl (List.mem_of_getElem? h)

theorem removeIds_filter (hn : (l.map (·.id)).Nodup) (p : Tab → Bool) :
    removeIds ((l.filter p).map (·.id)) l = l.filter (fun t => !p t) := by
  unfold removeIds
  apply List.filter_congr
  intro t ht
  congr 1
  cases hp : p t with
  | true =>
    simp only [List.contains_eq_mem, List.mem_map, List.mem_filter, decide_eq_true_eq]
    exact ⟨t, ⟨ht, hp⟩, rfl⟩
  | false =>
    simp only [List.contains_eq_mem, List.mem_map, List.mem_filter, decide_eq_false_iff_not, not_exists, not_and]
    intro x hx hid
    have := inj_of_nodup_map (·.id) hn hx.1 ht hid
    subst this
    rw [hp] at hx; cases hx.2

theorem removeIds_self_append {S extra : List Tab} (hn : ((S ++ extra).map (·.id)).Nodup) :
    removeIds (S.map (·.id)) (S ++ extra) = extra := by
  unfold removeIds
  rw [List.filter_append]
  have h1 : S.filter (fun t => !(S.map (·.id)).contains t.id) = [] := by
    apply List.filter_eq_nil_iff.mpr
    intro t ht
    simp only [List.contains_eq_mem, List.mem_map, Bool.not_eq_true', decide_eq_false_iff_not, not_exists, not_and]
    intro h; exact h t ht rfl
  have h2 : extra.filter (fun t => !(S.map (·.id)).contains t.id) = extra := by
    apply List.filter_eq_self.mpr
    intro t ht
    simp only [List.contains_eq_mem, List.mem_map, Bool.not_eq_true', decide_eq_false_iff_not, not_exists, not_and]
    intro x hx hid
    have := inj_of_nodup_map (·.id) hn (List.mem_append_left _ hx) (List.mem_append_right _ ht) hid
    subst this
    rw [List.map_append] at hn
    exact (List.nodup_append.mp hn).2.2 _ (List.mem_map_of_mem hx) _ (List.mem_map_of_mem ht) rfl
  rw [h1, h2]; rfl

theorem removeIds_self (S : List Tab) (hn : (S.map (·.id)).Nodup) : removeIds (S.map (·.id)) S = [] := by
  have := removeIds_self_append (S := S) (extra := []) (by rwa [List.append_nil])
  rwa [List.append_nil] at this

end

variable {cfg : Cfg} {lv : List (List Tab)}

structure LvInv (cfg : Cfg) (lv : List (List Tab)) : Prop where
  len : lv.length = cfg.maxLevels
  two : 2 ≤ cfg.maxLevels
  sorted : ∀ i, ∀ t ∈ lv.getD i [], Sorted t.data
  disj : ∀ i, 1 ≤ i → LevelDisjoint (lv.getD i [])
  ids : ∀ i, ((lv.getD i []).map (·.id)).Nodup

theorem LvInv.pos (h : LvInv cfg lv) : 0 < lv.length :=
  h.len ▸ Nat.lt_of_lt_of_le Nat.zero_lt_two h.two

/-- the job was planned on an earlier version `lv0` of the levels, and only flush installs (they append to level 0)
    happened since -/
def Planned (cfg : Cfg) (lv : List (List Tab)) (j : Job) : Prop :=
  ∃ lv0 extra, planCompaction cfg lv0 j.src = some j ∧ lv0.length = lv.length ∧
    lv0.getD j.tgt [] = lv.getD j.tgt [] ∧ lv.getD j.src [] = lv0.getD j.src [] ++ extra ∧
    (j.src ≠ 0 → extra = [])

/-- what `LvInv` says of one level (`deep`: not level 0) -/
structure LevelOk (deep : Bool) (l : List Tab) : Prop where
  sorted : ∀ t ∈ l, Sorted t.data
  disj : deep = true → LevelDisjoint l
  ids : (l.map (·.id)).Nodup

theorem LvInv.level (h : LvInv cfg lv) (i : Nat) :
    LevelOk (decide (1 ≤ i)) (lv.getD i []) :=
  ⟨h.sorted i, fun hi => h.disj i (of_decide_eq_true hi), h.ids i⟩

theorem LevelOk.sublist {deep : Bool} {l l' : List Tab} (h : LevelOk deep l) (hs : l'.Sublist l) : LevelOk deep l' :=
  ⟨fun t ht => h.sorted t (hs.subset ht), fun hd => (h.disj hd).sub fun _ ht => hs.subset ht,
   List.Nodup.sublist (hs.map _) h.ids⟩

def ovl (S : List Tab) (t : Tab) : Bool := S.any fun s => overlaps t s

theorem plan_src_tgt {src : Nat} {j : Job} (h : planCompaction cfg lv src = some j) :
    lv.getD src [] ≠ [] ∧ j.src = src ∧ j.tgt = min (src + 1) (cfg.maxLevels - 1) := by
  unfold planCompaction at h
  simp only at h
  split at h
  · cases h
  · rename_i hS
    injection h with h
    subst h
    exact ⟨fun h0 => hS (by rw [h0]; rfl), rfl, rfl⟩

theorem plan_inner {src : Nat} {j : Job} (hc : src + 1 ≤ cfg.maxLevels - 1)
    (h : planCompaction cfg lv src = some j) :
    j = ⟨src, src + 1, (lv.getD src []).map (·.id), ((lv.getD (src + 1) []).filter (ovl (lv.getD src []))).map (·.id),
      if src + 1 == cfg.maxLevels - 1
        then dropTombs (mergeOverlap (mergeSources (lv.getD src [])) ((lv.getD (src + 1) []).filter (ovl (lv.getD src []))))
        else mergeOverlap (mergeSources (lv.getD src [])) ((lv.getD (src + 1) []).filter (ovl (lv.getD src [])))⟩ := by
  unfold planCompaction at h
  simp only [Nat.min_eq_left hc, show (src + 1 != src) = true by simp, if_true] at h
  split at h
  · cases h
  · injection h with h
    exact h.symm

theorem plan_deepest {src : Nat} {j : Job} (hc : cfg.maxLevels - 1 = src)
    (h : planCompaction cfg lv src = some j) :
    j = ⟨src, src, (lv.getD src []).map (·.id), [], dropTombs (mergeSources (lv.getD src []))⟩ := by
  unfold planCompaction at h
  rw [hc] at h
  simp only [Nat.min_eq_right (Nat.le_succ src), bne_self_eq_false, beq_self_eq_true, Bool.false_eq_true, if_false,
    if_true, List.map_nil] at h
  split at h
  · cases h
  · injection h with h
    exact h.symm

theorem getD_lt_of_ne_nil {i : Nat} (h : lv.getD i [] ≠ []) : i < lv.length :=
  Nat.lt_of_not_le fun hle => h (getD_of_ge lv i hle)

theorem dropT_join (x : Option Cell) :
    (match x with | some (some v) => some (some v) | _ => (none : Option Cell)).join = x.join := by
  cases x with
  | none => rfl
  | some c => cases c <;> rfl

/-- the two levels a compaction touches: source `S ++ extra` (`extra` flushed in since the plan) above target `Lt` -/
theorem pair_install (k : Key) {S extra Lt : List Tab} (C : List (List Tab)) (newId : Nat) (bottom : Bool) {deep : Bool}
    (okS : LevelOk deep (S ++ extra)) (okT : LevelOk true Lt) (hb : bottom = true → C = []) :
    (lookLevels k (extra :: (Lt.filter (fun t => !ovl S t) ++
        [⟨newId, if bottom then dropTombs (mergeOverlap (mergeSources S) (Lt.filter (ovl S)))
                 else mergeOverlap (mergeSources S) (Lt.filter (ovl S))⟩]) :: C)).join =
    (lookLevels k ((S ++ extra) :: Lt :: C)).join := by
  have hS : ∀ t ∈ S, Sorted t.data := fun t ht => okS.sorted t (List.mem_append_left _ ht)
  have hLt := okT.sorted
  have hd := okT.disj rfl
  simp only [lookLevels_cons, List.reverse_append, lookTabs_or_append, List.reverse_cons, List.reverse_nil,
    List.nil_append, lookTabs_cons, lookTabs_nil, Option.or_none, Option.or_assoc]
  apply or_join_congr
  have hdN : LevelDisjoint (Lt.filter fun t => !ovl S t) := hd.sub fun t ht => (List.mem_filter.mp ht).1
  have hdO : LevelDisjoint (Lt.filter (ovl S)) := hd.sub fun t ht => (List.mem_filter.mp ht).1
  rw [lookTabs_reverse hdN, lookTabs_reverse hd]
  have hm0' := lookup_merge S (Lt.filter (ovl S)) k (fun t ht => (hS t ht).uniq)
  have hFb : lookTabs k Lt = (lookTabs k (Lt.filter (ovl S))).or (lookTabs k (Lt.filter fun t => !ovl S t)) := by
    cases ho : lookTabs k (Lt.filter (ovl S)) with
    | some c =>
      obtain ⟨t, ht, hc⟩ := lookTabs_some_mem ho
      rw [lookTabs_of_mem hd (List.mem_filter.mp ht).1 hc]; rfl
    | none =>
      rw [Option.none_or]
      refine (lookTabs_eq_of_same_mem hd (fun t ht => (List.mem_filter.mp ht).1) ?_).symm
      intro t ht hk
      refine List.mem_filter.mpr ⟨ht, ?_⟩
      cases hp : ovl S t with
      | false => rfl
      | true => exact absurd (lookTabs_none_iff.mp ho t (List.mem_filter.mpr ⟨ht, hp⟩)) hk
  -- an untouched table holding a key of a source table would overlap it; holding a key of a selected table it would be
  -- that table
  have hF : (lookTabs k S.reverse).or (lookTabs k (Lt.filter (ovl S))) ≠ none →
      lookTabs k (Lt.filter fun t => !ovl S t) = none := by
    intro hx
    refine lookTabs_none_iff.mpr fun t' ht' => Decidable.by_contra fun hk' => ?_
    obtain ⟨ht'L, hno⟩ := List.mem_filter.mp ht'
    have hov : ovl S t' = true := by
      cases ha : lookTabs k S.reverse with
      | some c =>
        obtain ⟨s, hs, hc⟩ := lookTabs_some_mem ha
        exact List.any_eq_true.mpr ⟨s, List.mem_reverse.mp hs,
          overlaps_of_common_key (k := k) (hLt t' ht'L) (hS s (List.mem_reverse.mp hs)) hk' (by rw [hc]; simp)⟩
      | none =>
        rw [ha, Option.none_or] at hx
        cases ho : lookTabs k (Lt.filter (ovl S)) with
        | none => exact absurd ho hx
        | some c =>
          obtain ⟨t, ht, hc⟩ := lookTabs_some_mem ho
          obtain ⟨htL, hov⟩ := List.mem_filter.mp ht
          rwa [← hd t htL t' ht'L k (by simp [hc]) hk']
    rw [hov] at hno
    cases hno
  rw [hFb]
  cases bottom with
  | false =>
    simp only [Bool.false_eq_true, if_false, hm0', Option.or_assoc]
  | true =>
    simp only [if_true, hb rfl, lookLevels_nil, Option.or_none]
    rw [lookup_dropTombs _ (sorted_mergeOverlap _ _ (sorted_mergeSources S)).uniq, hm0', ← Option.or_assoc]
    cases hx : (lookTabs k S.reverse).or (lookTabs k (Lt.filter (ovl S))) with
    | none => simp
    | some c =>
      rw [hF (by rw [hx]; simp)]
      cases c <;> simp

theorem single_install (k : Key) {S : List Tab} (newId : Nat) {deep : Bool} (okS : LevelOk deep S) :
    (lookLevels k [[⟨newId, dropTombs (mergeSources S)⟩]]).join = (lookLevels k [S]).join := by
  simp only [lookLevels_cons, lookLevels_nil, Option.or_none, List.reverse_cons, List.reverse_nil, List.nil_append,
    lookTabs_cons, lookTabs_nil]
  rw [lookup_dropTombs _ (sorted_mergeSources S).uniq]
  have := lookup_merge S [] k (fun t ht => (okS.sorted t ht).uniq)
  simp only [mergeOverlap, List.foldl_nil, lookTabs_nil, Option.or_none] at this
  rw [this]
  cases lookTabs k S.reverse with
  | none => rfl
  | some c => cases c <;> rfl

end HappyModel.C14
