import HappyProofs.C18.SameUpdates
/-!
Convergence after an exchange of states, in any order and with any duplication.

An exchange is a list of state merges `(dst, src)` (no updates in between).  `reach ex [a]` is the
set of replicas the state replica `a` had at the start has flowed into (directly, or through other
replicas or gossip messages in flight — each hop must come later in the list than the previous one;
anything else may happen in between, any number of times).  If, within a group `R` of replicas that
merges only from its own members, every member's state reaches every member, then at the end all
members have received the same updates — hence (`same_updates_equal_values`) are equal.
-/
namespace HappyModel.C18

def merges (ex : List (Nat × Nat)) : List COp := ex.map fun e => .merge e.1 e.2

/-- the replicas that a state held by one of `S` at the start has flowed into -/
def reach : List (Nat × Nat) → List Nat → List Nat
  | [], S => S
  | (d, s) :: rest, S => reach rest (if S.contains s then d :: S else S)

theorem SpecSys.step_merge (t : SpecSys) (d s : Nat) : t.step (.merge d s) = t.mergeStep d s := rfl

theorem reach_learns (ex : List (Nat × Nat)) (t : SpecSys) (S : List Nat) (x : Nat)
    (h : ∀ r ∈ S, x ∈ t.know r) :
    ∀ d ∈ reach ex S, x ∈ (SpecSys.run t (merges ex)).know d := by
  induction ex generalizing t S with
  | nil => simpa [reach, merges, SpecSys.run] using h
  | cons e rest ih =>
    obtain ⟨d0, s0⟩ := e
    simp only [reach, merges, List.map_cons, SpecSys.run, SpecSys.step_merge]
    apply ih
    intro r hr
    rw [SpecSys.mem_know_merge]
    split at hr
    · rename_i hs
      rcases List.mem_cons.mp hr with rfl | hr
      · exact Or.inr ⟨rfl, h s0 (by simpa using hs)⟩
      · exact Or.inl (h r hr)
    · exact Or.inl (h r hr)

/-- a group that merges only from its own members learns nothing from outside -/
theorem closed_bounded (ex : List (Nat × Nat)) (t : SpecSys) (R : List Nat) (x : Nat)
    (closed : ∀ e ∈ ex, e.1 ∈ R → e.2 ∈ R) :
    ∀ r ∈ R, x ∈ (SpecSys.run t (merges ex)).know r → ∃ r0 ∈ R, x ∈ t.know r0 := by
  induction ex generalizing t with
  | nil => intro r hr hx; exact ⟨r, hr, by simpa [merges, SpecSys.run] using hx⟩
  | cons e rest ih =>
    obtain ⟨d0, s0⟩ := e
    intro r hr hx
    simp only [merges, List.map_cons, SpecSys.run, SpecSys.step_merge] at hx
    obtain ⟨r1, hr1, hx1⟩ := ih (t.mergeStep d0 s0)
      (fun e he => closed e (List.mem_cons_of_mem _ he)) r hr hx
    rw [SpecSys.mem_know_merge] at hx1
    rcases hx1 with hx1 | ⟨rfl, hx1⟩
    · exact ⟨r1, hr1, hx1⟩
    · exact ⟨s0, closed (r1, s0) List.mem_cons_self hr1, hx1⟩

theorem exchange_same_knowledge (t : SpecSys) (R : List Nat) (ex : List (Nat × Nat))
    (closed : ∀ e ∈ ex, e.1 ∈ R → e.2 ∈ R)
    (full : ∀ a ∈ R, ∀ b ∈ R, b ∈ reach ex [a]) :
    ∀ a ∈ R, ∀ b ∈ R,
      SameSet ((SpecSys.run t (merges ex)).know a) ((SpecSys.run t (merges ex)).know b) := by
  have key : ∀ a ∈ R, ∀ b ∈ R, ∀ x ∈ (SpecSys.run t (merges ex)).know a,
      x ∈ (SpecSys.run t (merges ex)).know b := by
    intro a ha b hb x hx
    obtain ⟨r0, hr0, hx0⟩ := closed_bounded ex t R x closed a ha hx
    exact reach_learns ex t [r0] x (by simpa using hx0) b (full r0 hr0 b hb)
  intro a ha b hb
  exact ⟨key a ha b hb, key b hb a ha⟩

end HappyModel.C18
