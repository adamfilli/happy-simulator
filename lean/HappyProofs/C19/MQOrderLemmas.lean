import HappyProofs.Lib.Lists
/-!
C19 clause 2 (first deliveries follow publish order) — the order invariant `Ord`.

It holds only what is about the never-delivered messages; that the lists have no duplicates, that live and pending
ids are below `npub`, that what is in flight was delivered before enter the lemmas as hypotheses (they come from the
accounting invariant and `Step.cnt`).  It is stated on the four components so that structure updates of the other
fields of `MQ` are invisible.
-/
namespace HappyModel.C19

structure Ord (npub : Nat) (live dlog pending : List Nat) : Prop where
  /-- never-delivered live messages wait in the pending deque -/
  a : ∀ k ∈ live, dlog.count k = 0 → k ∈ pending
  /-- never-delivered messages wait in publish order -/
  b : (pending.filter (fun k => dlog.count k == 0)).Pairwise (· < ·)
  /-- a never-delivered message older than a delivered one is gone -/
  c : ∀ k i, k < i → 1 ≤ dlog.count i → dlog.count k = 0 → k ∉ live
  d : ∀ k, 1 ≤ dlog.count k → k < npub

theorem Ord.init : Ord 0 [] [] [] := by
  constructor <;> simp

theorem Ord.publish {n : Nat} {l d p : List Nat} (h : Ord n l d p) (hp : ∀ k ∈ p, k < n) :
    Ord (n + 1) (l ++ [n]) d (p ++ [n]) where
  a := by
    intro k hk hc
    rcases List.mem_append.1 hk with hk | hk
    · exact List.mem_append_left _ (h.a k hk hc)
    · exact List.mem_append_right _ hk
  b := by
    rw [List.filter_append, List.pairwise_append]
    refine ⟨h.b, List.Pairwise.sublist List.filter_sublist (by simp), fun x hx y hy => ?_⟩
    have hx' := hp x (List.mem_filter.1 hx).1
    have hy' := (List.mem_filter.1 hy).1
    simp only [List.mem_singleton] at hy'
    omega
  c := by
    intro k i hki hi hk hmem
    rcases List.mem_append.1 hmem with hm | hm
    · exact h.c k i hki hi hk hm
    · simp only [List.mem_singleton] at hm
      have := h.d i hi
      omega
  d := fun k hk => Nat.lt_succ_of_lt (h.d k hk)

theorem count_cons_zero {k x : Nat} {d : List Nat} (h : (k :: d).count x = 0) :
    d.count x = 0 ∧ x ≠ k := by
  rw [List.count_cons] at h
  refine ⟨by omega, ?_⟩
  intro hx
  subst hx
  simp at h

theorem Ord.dispatch {n k : Nat} {l d p : List Nat} (h : Ord n l d p) (hk : k < n)
    (hfirst : 1 ≤ d.count k ∨ ∃ rest, p = k :: rest) : Ord n l (k :: d) (p.erase k) where
  a := by
    intro x hx hc
    have ⟨hc0, hne⟩ := count_cons_zero hc
    exact (List.mem_erase_of_ne hne).2 (h.a x hx hc0)
  b := by
    refine List.Pairwise.sublist ?_ h.b
    refine List.Sublist.trans (List.Sublist.filter _ List.erase_sublist) ?_
    apply filter_sublist_of_imp
    intro x hx
    simp only [beq_iff_eq] at hx ⊢
    exact (count_cons_zero hx).1
  c := by
    intro x i hxi hi hx hmem
    have ⟨hx0, hne⟩ := count_cons_zero hx
    by_cases hik : i = k
    · subst hik
      rcases hfirst with h1 | ⟨rest, hp⟩
      · exact h.c x i hxi h1 hx0 hmem
      · -- first delivery of the head of the deque: x waits behind it, so i < x
        have hxp : x ∈ p := h.a x hmem hx0
        have hb := h.b
        by_cases hci : d.count i = 0
        · rw [hp] at hb hxp
          have hxr : x ∈ rest := (List.mem_cons.1 hxp).resolve_left hne
          have hfi : (i :: rest).filter (fun k => d.count k == 0)
              = i :: rest.filter (fun k => d.count k == 0) := by simp [hci]
          rw [hfi, List.pairwise_cons] at hb
          have := hb.1 x (List.mem_filter.2 ⟨hxr, by simp [hx0]⟩)
          omega
        · exact h.c x i hxi (by omega) hx0 hmem
    · rw [List.count_cons_of_ne (Ne.symm hik)] at hi
      exact h.c x i hxi hi hx0 hmem
  d := by
    intro x hx
    by_cases hxk : x = k
    · exact hxk ▸ hk
    · rw [List.count_cons_of_ne (Ne.symm hxk)] at hx; exact h.d x hx

theorem Ord.remove {n : Nat} (k : Nat) {l d p : List Nat} (h : Ord n l d p) (nd : l.Nodup) :
    Ord n (l.erase k) d (p.erase k) where
  a := fun x hx hc =>
    (List.mem_erase_of_ne fun e => (nd.mem_erase_iff.1 hx).1 e).2 (h.a x (List.mem_of_mem_erase hx) hc)
  b := List.Pairwise.sublist (List.Sublist.filter _ List.erase_sublist) h.b
  c := fun x i hxi hi hx hm => h.c x i hxi hi hx (List.mem_of_mem_erase hm)
  d := h.d

/-- a delivered message changes its place in the deque: the never-delivered ones do not see it -/
theorem Ord.move {n k : Nat} {l d p p' : List Nat} (h : Ord n l d p) (hc : 1 ≤ d.count k)
    (hp : ∀ x, x ≠ k → x ∈ p → x ∈ p')
    (hf : p'.filter (fun k => d.count k == 0) = (p.erase k).filter (fun k => d.count k == 0)) : Ord n l d p' where
  a := fun x hx hx0 => hp x (fun e => by subst e; omega) (h.a x hx hx0)
  b := hf ▸ List.Pairwise.sublist (List.Sublist.filter _ List.erase_sublist) h.b
  c := h.c
  d := h.d

theorem Ord.requeue {n k : Nat} {l d p : List Nat} (h : Ord n l d p) (hc : 1 ≤ d.count k) :
    Ord n l d (p.erase k ++ [k]) :=
  h.move hc (fun x hx hm => List.mem_append_left _ ((List.mem_erase_of_ne hx).2 hm))
    (by simp [List.filter_cons]; omega)

theorem Ord.timeout {n k : Nat} {l d p : List Nat} (h : Ord n l d p) (hc : 1 ≤ d.count k) (hk : k ∉ p) :
    Ord n l d (k :: p) :=
  h.move hc (fun x _ hm => List.mem_cons_of_mem _ hm)
    (by rw [List.erase_of_not_mem hk]; simp [List.filter_cons]; omega)

end HappyModel.C19
