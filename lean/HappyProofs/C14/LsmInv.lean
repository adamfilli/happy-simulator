import HappyProofs.C14.LsmShape
import HappyProofs.C14.LsmWalk
/-! Every segment of `stepOp` has one of the effects `Eff` lists (`stepOp_eff`); that the state invariant is kept, like
    the later facts about one segment, is a case analysis of `Eff` and not of `stepOp`. -/
namespace HappyModel.C14

variable {cfg : Cfg} {s s' : St} {q : Pc} {j : Job} {lv : List (List Tab)}

structure SInv (cfg : Cfg) (s : St) : Prop where
  lv : LvInv cfg s.levels
  memSorted : Sorted s.mem
  immSorted : ∀ t ∈ s.imms, Sorted t.data
  immIds : (s.imms.map (·.id)).Nodup
  lvImm : ∀ i, ∀ t ∈ s.levels.getD i [], ∀ u ∈ s.imms, t.id ≠ u.id
  lvFresh : ∀ i, ∀ t ∈ s.levels.getD i [], t.id < s.nextId ∧ t.id ≠ s.memId
  immFresh : ∀ u ∈ s.imms, u.id < s.nextId ∧ u.id ≠ s.memId
  memFresh : s.memId < s.nextId

/-- what a suspended frame needs from the state -/
def POk (cfg : Cfg) (s : St) : Pc → Prop
  | .pFlush t _ => t ∈ s.imms
  | .pCompact j => Planned cfg s.levels j ∧ s.compacting = true
  | _ => True

def Compat : Pc → Pc → Prop
  | .pFlush t _, .pFlush t' _ => t.id ≠ t'.id
  | .pCompact _, .pCompact _ => False
  | _, _ => True

def Pc.isCompact : Pc → Bool
  | .pCompact _ => true
  | _ => false

def flushId : Pc → Option Nat
  | .pFlush t _ => some t.id
  | _ => none

def Pc.plain : Pc → Bool
  | .pFlush _ _ => false
  | .pCompact _ => false
  | _ => true

structure SameCore (s s' : St) : Prop where
  levels : s'.levels = s.levels
  imms : s'.imms = s.imms
  memId : s'.memId = s.memId
  nextId : s'.nextId = s.nextId
  compacting : s'.compacting = s.compacting

theorem SInv.of_eq (h : SInv cfg s) (e1 : s'.levels = s.levels) (e2 : s'.imms = s.imms)
    (e3 : s'.memId = s.memId) (e4 : s'.nextId = s.nextId) (hm : Sorted s'.mem) : SInv cfg s' := by
  obtain ⟨h1, h2, h3, h4, h5, h6, h7, h8⟩ := h
  refine ⟨?_, hm, ?_, ?_, ?_, ?_, ?_, ?_⟩
  · rw [e1]; exact h1
  · rw [e2]; exact h3
  · rw [e2]; exact h4
  · rw [e1, e2]; exact h5
  · rw [e1, e4, e3]; exact h6
  · rw [e2, e4, e3]; exact h7
  · rw [e4, e3]; exact h8

theorem POk.of_parts (h : POk cfg s q)
    (hf : ∀ t b, q = .pFlush t b → t ∈ s.imms → t ∈ s'.imms)
    (hc : ∀ j, q = .pCompact j → Planned cfg s.levels j ∧ s.compacting = true →
      Planned cfg s'.levels j ∧ s'.compacting = true) : POk cfg s' q := by
  cases q with
  | pFlush t b => exact hf t b rfl h
  | pCompact j => exact hc j rfl h
  | _ => trivial

theorem sameCore_refl (s : St) : SameCore s s := ⟨rfl, rfl, rfl, rfl, rfl⟩

theorem SameCore.trans {a b c : St} (h1 : SameCore a b) (h2 : SameCore b c) : SameCore a c :=
  ⟨h2.levels.trans h1.levels, h2.imms.trans h1.imms, h2.memId.trans h1.memId, h2.nextId.trans h1.nextId,
   h2.compacting.trans h1.compacting⟩

theorem core_shouldSync (p : Policy) (s : St) : SameCore s (shouldSync p s).2 := by
  cases p <;> exact ⟨rfl, rfl, rfl, rfl, rfl⟩

theorem mem_shouldSync (p : Policy) (s : St) : (shouldSync p s).2.mem = s.mem := by cases p <;> rfl

/-- the memtable insert (key, cell, WAL sequence number), if any, that the next segment of a frame performs -/
def insOf (cfg : Cfg) (s : St) : Pc → Option (Key × Cell × Nat)
  | .pStart k c => match cfg.wal with
    | none => some (k, c, 0)
    | some _ => none
  | .pWal k c q => match cfg.wal with
    | none => some (k, c, q)
    | some p => if (shouldSync p s).1 then none else some (k, c, q)
  | .pSync k c q => some (k, c, q)
  | _ => none

/-- the memtable insert of this `put` has happened -/
def Pc.applied : Pc → Bool
  | .pMem _ => true
  | .pFlush _ _ => true
  | .pCompact _ => true
  | .done .ok => true
  | _ => false

/-- WAL entry `q` of this `put` is appended and its memtable insert is still to come -/
def Pc.logging : Pc → Option Nat
  | .pWal _ _ q => some q
  | .pSync _ _ q => some q
  | _ => none

theorem sinv_freeze (h : SInv cfg s) : SInv cfg (freezeMem s) := by
  obtain ⟨h1, h2, h3, h4, h5, h6, h7, h8⟩ := h
  have up : ∀ {x : Nat}, x < s.nextId → x < s.nextId + 1 ∧ x ≠ s.nextId := fun hx =>
    ⟨Nat.lt_succ_of_lt hx, Nat.ne_of_lt hx⟩
  refine ⟨h1, sorted_nil, List.forall_mem_append.mpr ⟨h3, fun t ht => by cases List.mem_singleton.mp ht; exact h2⟩,
    ?_, fun i t ht => List.forall_mem_append.mpr ⟨h5 i t ht, fun u hu => by
      cases List.mem_singleton.mp hu; exact (h6 i t ht).2⟩,
    fun i t ht => up (h6 i t ht).1,
    List.forall_mem_append.mpr ⟨fun u hu => up (h7 u hu).1, fun u hu => by cases List.mem_singleton.mp hu; exact up h8⟩,
    Nat.lt_succ_self _⟩
  show ((s.imms ++ [(⟨s.memId, s.mem⟩ : Tab)]).map (·.id)).Nodup
  simp only [List.map_append, List.map_cons, List.map_nil]
  refine List.nodup_append.mpr ⟨h4, by simp, fun a ha b hb => ?_⟩
  cases List.mem_singleton.mp hb
  obtain ⟨u, hu, rfl⟩ := List.mem_map.mp ha
  exact (h7 u hu).2

theorem planned_fresh {src : Nat}
    (h : planCompaction cfg lv src = some j) : Planned cfg lv j := by
  refine ⟨lv, [], ?_, rfl, rfl, (List.append_nil _).symm, fun _ => rfl⟩
  rw [(plan_src_tgt h).2.1]; exact h

theorem exists_getD_of_mem {l : List Tab} (h : l ∈ lv) : ∃ i, lv.getD i [] = l := by
  obtain ⟨i, hi⟩ := List.getElem?_of_mem h
  exact ⟨i, by rw [List.getD_eq_getElem?_getD, hi]; rfl⟩

theorem sinv_flushS1 (h : SInv cfg s) {t : Tab} (b : Nat) (ht : t ∈ s.imms) :
    SInv cfg (flushS1 cfg s t b) := by
  obtain ⟨h1, h2, h3, h4, h5, h6, h7, h8⟩ := h
  have hlen := h1.pos
  have hsub : ∀ u ∈ s.imms.filter (fun i => i.id != t.id), u ∈ s.imms := fun u hu => (List.mem_filter.mp hu).1
  have hmem : ∀ i x, x ∈ (flushS1 cfg s t b).levels.getD i [] → x ∈ s.levels.getD i [] ∨ x = t := by
    intro i x hx
    simp only [flushS1] at hx
    rw [getD_modAt _ _ _ _ hlen] at hx
    split at hx
    · rename_i hi; subst hi
      exact (List.mem_append.mp hx).imp id List.mem_singleton.mp
    · exact Or.inl hx
  refine ⟨⟨?_, h1.two, fun i x hx => (hmem i x hx).elim (h1.sorted i x) fun e => e ▸ h3 t ht, ?_, ?_⟩, h2,
    fun u hu => h3 u (hsub u hu), List.Nodup.sublist (List.Sublist.map _ List.filter_sublist) h4, ?_,
    fun i x hx => (hmem i x hx).elim (h6 i x) fun e => e ▸ h7 t ht, fun u hu => h7 u (hsub u hu), h8⟩
  · show (modAt s.levels 0 _).length = _
    rw [modAt_length]; exact h1.len
  · intro i hi
    simp only [flushS1]
    rw [getD_modAt _ _ _ _ hlen, if_neg (by omega)]
    exact h1.disj i hi
  · intro i
    simp only [flushS1]
    rw [getD_modAt _ _ _ _ hlen]
    split
    · rw [List.map_append]
      apply List.nodup_append.mpr
      refine ⟨h1.ids 0, by simp, ?_⟩
      intro a ha c hc
      simp only [List.map_cons, List.map_nil, List.mem_singleton] at hc
      subst hc
      obtain ⟨x, hx, rfl⟩ := List.mem_map.mp ha
      exact h5 0 x hx t ht
    · exact h1.ids i
  · intro i x hx u hu
    rcases hmem i x hx with hx | rfl
    · exact h5 i x hx u (hsub u hu)
    · have := (List.mem_filter.mp hu).2
      intro he; rw [he] at this; simp at this

theorem planned_append0 (hP : Planned cfg lv j) (h2 : 2 ≤ cfg.maxLevels)
    (hlen : 0 < lv.length) (t : Tab) : Planned cfg (modAt lv 0 (· ++ [t])) j := by
  obtain ⟨lv0, extra, hplan, hl, htgt, hsrc, hex⟩ := hP
  have htg : 1 ≤ j.tgt := by have := (plan_src_tgt hplan).2.2; omega
  by_cases h0 : j.src = 0
  · refine ⟨lv0, extra ++ [t], hplan, by rw [modAt_length]; exact hl, ?_, ?_, fun h => absurd h0 h⟩
    · rw [getD_modAt _ _ _ _ hlen, if_neg (by omega)]; exact htgt
    · rw [getD_modAt _ _ _ _ hlen, if_pos h0, ← h0, hsrc, List.append_assoc]
  · refine ⟨lv0, extra, hplan, by rw [modAt_length]; exact hl, ?_, ?_, hex⟩
    · rw [getD_modAt _ _ _ _ hlen, if_neg (by omega)]; exact htgt
    · rw [getD_modAt _ _ _ _ hlen, if_neg h0]; exact hsrc

theorem flushS1_other (h : SInv cfg s) {t : Tab} (b : Nat) {b' : Nat} (hq : POk cfg s q)
    (hc : Compat (.pFlush t b') q) : POk cfg (flushS1 cfg s t b) q := by
  refine hq.of_parts (fun t' _ e ht' => ?_) (fun j _ hj => ?_)
  · rw [e] at hc
    exact List.mem_filter.mpr ⟨ht', bne_iff_ne.mpr fun e' => hc e'.symm⟩
  · exact ⟨planned_append0 hj.1 h.lv.two h.lv.pos t, hj.2⟩

theorem sinv_compactInstall (h : SInv cfg s) (hP : Planned cfg s.levels j) :
    SInv cfg (compactInstall s j).1 := by
  obtain ⟨h1, h2, h3, h4, h5, h6, h7, h8⟩ := h
  have old := install_origin h1 hP s.nextId
  refine ⟨lvInv_install h1 hP s.nextId (fun i t ht => Nat.ne_of_lt (h6 i t ht).1), h2, h3, h4, ?_, ?_, ?_, Nat.lt_succ_of_lt h8⟩
  · intro i x hx u hu
    rcases old i x hx with h | hx'
    · rw [h]; exact (Nat.ne_of_lt (h7 u hu).1).symm
    · exact h5 i x hx' u hu
  · intro i x hx
    rcases old i x hx with h | hx'
    · rw [h]; exact ⟨Nat.lt_succ_self _, (Nat.ne_of_lt h8).symm⟩
    · exact ⟨Nat.lt_succ_of_lt (h6 i x hx').1, (h6 i x hx').2⟩
  · intro u hu
    exact ⟨Nat.lt_succ_of_lt (h7 u hu).1, (h7 u hu).2⟩

theorem compactInstall_other (hq : POk cfg s q)
    (hc : Compat (.pCompact j) q) : POk cfg (compactInstall s j).1 q :=
  hq.of_parts (fun _ _ _ ht => ht) (fun _ e _ => by rw [e] at hc; exact hc.elim)

theorem plain_ok {pc : Pc} (h : pc.plain = true) :
    POk cfg s pc ∧ pc.isCompact = false ∧ flushId pc = none := by
  cases pc <;> simp [Pc.plain] at h <;> exact ⟨trivial, rfl, rfl⟩

def Pc.isRead : Pc → Bool
  | .gStart _ | .gAt _ _ _ _ | .sStart _ _ | .sAt _ _ _ _ _ _ => true
  | _ => false

theorem gPc_plain (k : Key) (o : Option (Nat × Tab × List Tab)) : (gPc k o).plain = true := by cases o <;> rfl
theorem sPc_plain (lo hi : Key) (acc : Data) (o : Option (Nat × Tab × List Tab)) : (sPc lo hi acc o).plain = true := by
  cases o <;> rfl

theorem stepOp_read {pc : Pc} (h : pc.isRead = true) :
    (stepOp cfg s pc).1 = s ∧ (stepOp cfg s pc).2.plain = true := by
  cases pc with
  | gStart k =>
    show (getStart cfg s k).1 = s ∧ (getStart cfg s k).2.plain = true
    rw [getStart_eq]; refine ⟨rfl, ?_⟩
    cases (s.mem.lookup k).or (lookTabs k s.imms.reverse) with
    | some c => rfl
    | none => exact gPc_plain ..
  | gAt k i t r =>
    show (getResume cfg s k i t r).1 = s ∧ (getResume cfg s k i t r).2.plain = true
    rw [getResume_eq]; refine ⟨rfl, ?_⟩
    cases t.data.lookup k with
    | some c => rfl
    | none => exact gPc_plain ..
  | sStart lo hi =>
    show (scanStart s lo hi).1 = s ∧ (scanStart s lo hi).2.plain = true
    unfold scanStart; rw [scanLevels_eq]; exact ⟨rfl, sPc_plain ..⟩
  | sAt lo hi i t r acc =>
    show (scanResume s lo hi i t r acc).1 = s ∧ (scanResume s lo hi i t r acc).2.plain = true
    rw [scanResume_eq]; exact ⟨rfl, sPc_plain ..⟩
  | _ => cases h

theorem insOf_read {pc : Pc} (h : pc.isRead = true) : insOf cfg s pc = none := by
  cases pc <;> first | rfl | cases h

/-- `compactStart_cases` as a relation between the state and program counter before and after, to index `Eff.install` -/
inductive MayCompact (cfg : Cfg) (s : St) : St → Pc → Prop
  | no : MayCompact cfg s s (.done .ok)
  | yes (j : Job) (hc : s.compacting = false)
      (hj : planCompaction cfg s.levels (selectLevel cfg.strat s.levels) = some j) :
      MayCompact cfg s { s with compacting := true } (.pCompact j)

theorem mayCompact (cfg : Cfg) (s : St) : MayCompact cfg s (compactStart cfg s).1 (compactStart cfg s).2 := by
  rcases compactStart_cases cfg s with e | ⟨hc, j, hj, e⟩ <;> rw [e]
  · exact .no
  · exact .yes j hc hj

/-- The effect of one segment.  The abstract map changes in `ins` alone — the memtable insert of a `put`, which the
    ghost log records; every other segment moves tables (`freeze`, `install`, `compact`), touches the WAL only (`wal`,
    `sync`), or leaves the state alone. -/
inductive Eff (cfg : Cfg) (s : St) : Pc → St → Pc → Prop
  /- `s1` in `ins`, `wal`, `sync`: the state after the WAL bookkeeping of the segment (`shouldSync`, `unpend`, `synced`),
     of which the structural invariant and the abstract map see nothing (`SameCore`, same memtable) -/
  | ins {pc : Pc} (k : Key) (c : Cell) (q : Nat) (s1 : St) (hi : insOf cfg s pc = some (k, c, q)) (hc : SameCore s s1)
      (hm : s1.mem = s.mem) (hpc : pc = .pStart k c ∨ pc = .pWal k c q ∨ pc = .pSync k c q)
      (hl : cfg.wal ≠ none → pc.logging = some q) : Eff cfg s pc (memInsert s1 k c).1 (.pMem s.memId)
  | wal (k : Key) (c : Cell) (s1 : St) (hi : insOf cfg s (.pStart k c) = none) (hc : SameCore s s1) (hm : s1.mem = s.mem) :
      Eff cfg s (.pStart k c) s1 (.pWal k c s.nextSeq)
  | sync (k : Key) (c : Cell) (q : Nat) (s1 : St) (hi : insOf cfg s (.pWal k c q) = none) (hc : SameCore s s1)
      (hm : s1.mem = s.mem) : Eff cfg s (.pWal k c q) s1 (.pSync k c q)
  | skip (mid : Nat) : Eff cfg s (.pMem mid) s (.done .ok)
  | freeze (mid : Nat) : Eff cfg s (.pMem mid) (freezeMem s) (.pFlush ⟨s.memId, s.mem⟩ (truncBound s))
  | install (t : Tab) (b : Nat) {s' : St} {pc' : Pc} (h : MayCompact cfg (flushS1 cfg s t b) s' pc') :
      Eff cfg s (.pFlush t b) s' pc'
  | compact (j : Job) : Eff cfg s (.pCompact j) (compactInstall s j).1 (.done .ok)
  | read {pc : Pc} (h : pc.isRead = true) : Eff cfg s pc s (stepOp cfg s pc).2
  | done (r : Res) : Eff cfg s (.done r) s (.done r)

theorem stepOp_eff (cfg : Cfg) (s : St) (pc : Pc) : Eff cfg s pc (stepOp cfg s pc).1 (stepOp cfg s pc).2 := by
  have rd : ∀ {pc : Pc}, pc.isRead = true → Eff cfg s pc (stepOp cfg s pc).1 (stepOp cfg s pc).2 := fun h => by
    rw [(stepOp_read h).1]; exact .read h
  cases pc with
  | pStart k c =>
    cases hw : cfg.wal with
    | none =>
      have e : stepOp cfg s (.pStart k c) = ((memInsert s k c).1, .pMem s.memId) := by simp [stepOp, putStart, hw, memInsert]
      rw [e]
      exact .ins k c 0 s (by simp [insOf, hw]) (sameCore_refl s) rfl (.inl rfl) fun h => absurd hw h
    | some p =>
      have e : stepOp cfg s (.pStart k c) = ((putStart cfg s k c).1, .pWal k c s.nextSeq) := by simp [stepOp, putStart, hw]
      rw [e]
      refine .wal k c _ (by simp [insOf, hw]) ?_ ?_ <;> simp only [putStart, hw]
      exact ⟨rfl, rfl, rfl, rfl, rfl⟩
  | pWal k c q =>
    cases hw : cfg.wal with
    | none =>
      have e : stepOp cfg s (.pWal k c q) = ((memInsert s k c).1, .pMem s.memId) := by simp [stepOp, walWritten, hw, memInsert]
      rw [e]
      exact .ins k c q s (by simp [insOf, hw]) (sameCore_refl s) rfl (.inr (.inl rfl)) fun h => absurd hw h
    | some p =>
      by_cases hb : (shouldSync p s).1 = true
      · have e : stepOp cfg s (.pWal k c q) = ((shouldSync p s).2, .pSync k c q) := by simp [stepOp, walWritten, hw, hb]
        rw [e]
        exact .sync k c q _ (by simp [insOf, hw, hb]) (core_shouldSync p s) (mem_shouldSync p s)
      · have e : stepOp cfg s (.pWal k c q) = ((memInsert (unpend (shouldSync p s).2 q) k c).1, .pMem s.memId) := by
          simp [stepOp, walWritten, hw, hb, memInsert, unpend, (core_shouldSync p s).memId]
        rw [e]
        exact .ins k c q _ (by simp [insOf, hw, hb]) ((core_shouldSync p s).trans ⟨rfl, rfl, rfl, rfl, rfl⟩) (mem_shouldSync p s)
          (.inr (.inl rfl)) fun _ => rfl
  | pSync k c q =>
    exact .ins k c q (unpend { s with synced := q, wss := 0 } q) rfl ⟨rfl, rfl, rfl, rfl, rfl⟩ rfl (.inr (.inr rfl)) fun _ => rfl
  | pMem mid =>
    show Eff cfg s _ (afterMem cfg s mid).1 (afterMem cfg s mid).2
    unfold afterMem
    split
    · rcases flushStart_cases cfg s with e | ⟨-, e⟩ <;> rw [e]
      · exact .skip mid
      · exact .freeze mid
    · exact .skip mid
  | pFlush t b =>
    show Eff cfg s _ (flushInstall cfg s t b).1 (flushInstall cfg s t b).2
    rw [flushInstall_eq]
    split
    · exact .install t b (mayCompact cfg _)
    · exact .install t b .no
  | pCompact j => exact .compact j
  | gStart _ | gAt _ _ _ _ | sStart _ _ | sAt _ _ _ _ _ _ => exact rd rfl
  | done r => exact .done r

def b2n (b : Bool) : Nat := if b then 1 else 0

structure StepOk (cfg : Cfg) (s : St) (pc : Pc) (s' : St) (pc' : Pc) : Prop where
  sinv : SInv cfg s'
  pok : POk cfg s' pc'
  other : ∀ q, POk cfg s q → Compat pc q → POk cfg s' q
  /-- conservation: the flag and the suspended compaction frames change together -/
  cnt : b2n s'.compacting + b2n pc.isCompact = b2n s.compacting + b2n pc'.isCompact
  fid : ∀ x, flushId pc' = some x → x = s.memId ∧ flushId pc = none

theorem stepOk_core {pc pc' : Pc} (hs : SInv cfg s) (c : SameCore s s')
    (hm : Sorted s.mem → Sorted s'.mem) (h1 : pc.isCompact = false) (h2 : pc'.plain = true) :
    StepOk cfg s pc s' pc' := by
  obtain ⟨a, b, d⟩ := plain_ok (cfg := cfg) (s := s') h2
  refine ⟨hs.of_eq c.levels c.imms c.memId c.nextId (hm hs.memSorted), a, fun q hq _ =>
    hq.of_parts (fun _ _ _ ht => c.imms ▸ ht) (fun _ _ hj => by rw [c.levels, c.compacting]; exact hj), ?_, fun x hx => ?_⟩
  · rw [c.compacting, h1, b]
  · rw [d] at hx; cases hx

theorem Eff.ok {pc pc' : Pc} (h : Eff cfg s pc s' pc') (hs : SInv cfg s) (hp : POk cfg s pc) : StepOk cfg s pc s' pc' := by
  cases h with
  | ins k c q s1 hi hc hm hpc hl =>
    exact stepOk_core hs (hc.trans ⟨rfl, rfl, rfl, rfl, rfl⟩) (fun h => sorted_ins _ _ _ (hm ▸ h))
      (by rcases hpc with rfl | rfl | rfl <;> rfl) rfl
  | wal k c s1 hi hc hm => exact stepOk_core hs hc (fun h => hm ▸ h) rfl rfl
  | sync k c q s1 hi hc hm => exact stepOk_core hs hc (fun h => hm ▸ h) rfl rfl
  | skip mid => exact stepOk_core hs (sameCore_refl s) id rfl rfl
  | freeze mid =>
    exact ⟨sinv_freeze hs, List.mem_append_right _ (List.mem_singleton.mpr rfl),
      fun q hq _ => hq.of_parts (fun _ _ _ ht => List.mem_append_left _ ht) (fun _ _ hj => hj), rfl,
      fun x hx => ⟨(Option.some.inj hx).symm, rfl⟩⟩
  | install t b h =>
    have h1 := sinv_flushS1 hs b hp
    have other : ∀ q, POk cfg s q → Compat (.pFlush t b) q → POk cfg (flushS1 cfg s t b) q :=
      fun q hq hc => flushS1_other hs b hq hc
    cases h with
    | no => exact ⟨h1, trivial, other, rfl, fun x hx => by cases hx⟩
    | yes j hc hj =>
      -- another frame that is compacting would contradict the flag
      refine ⟨h1.of_eq rfl rfl rfl rfl h1.memSorted, ⟨planned_fresh hj, rfl⟩, fun q hq hcq =>
        (other q hq hcq).of_parts (fun _ _ _ ht => ht) fun j' _ hj' => absurd (hj'.2.symm.trans hc) (by decide), ?_,
        fun x hx => by cases hx⟩
      show b2n true + b2n false = b2n s.compacting + b2n true
      rw [show s.compacting = false from hc]; rfl
  | compact j =>
    refine ⟨sinv_compactInstall hs hp.1, trivial, fun q hq hc => compactInstall_other hq hc, ?_, fun x hx => by cases hx⟩
    show b2n false + b2n true = b2n s.compacting + b2n false
    rw [hp.2]; rfl
  | read h => exact stepOk_core hs (sameCore_refl s) id (by cases pc <;> first | rfl | cases h) (stepOp_read h).2
  | done r => exact stepOk_core hs (sameCore_refl s) id rfl rfl

theorem stepOp_ok {pc : Pc} (hs : SInv cfg s) (hp : POk cfg s pc) :
    StepOk cfg s pc (stepOp cfg s pc).1 (stepOp cfg s pc).2 := (stepOp_eff cfg s pc).ok hs hp

end HappyModel.C14
