import HappyProofs.C09.SyncInv
/-! Barrier: the model satisfies the executable Spec predicate `judgeBarrier` on every operation list; the ledger of
arrivals and released groups behind `barrier_cohorts`. -/
namespace HappyModel.C09.Sync.Barrier

def b01 (b : Bool) : Nat := if b then 1 else 0

/-- `runBarrier` in the driver prints exactly these fields -/
def obsOf (o : Op) (out : Out) (s' : St) : Obs :=
  { k := match o with
      | .wait id => .acq id 1 0
      | .reset => .ctl 0
      | .abort => .ctl 1
    res := out.res, woke := out.woke, c1 := s'.waiters.length, c2 := s'.generation, c3 := b01 s'.broken }

def obsTrace (s : St) : List Op → List Obs
  | [] => []
  | o :: os => obsOf o (step s o).2.1 (step s o).1 :: obsTrace (step s o).1 os

structure Agree (b : BBook) (s : St) : Prop where
  blocked : b.blocked = s.waiters
  broken : b.broken = s.broken
  resolved : b.resolved = []

theorem check_ok (s : St) (b : BBook) (o : Obs) (inv : Inv s) (ag : Agree b s)
    (h1 : o.c1 = s.waiters.length) : b.check s.parties o = none := by
  have := inv.below
  unfold BBook.check
  rw [ag.blocked, h1, if_neg (by simp), if_neg (by omega)]

theorem Leaf.follows {s : St} {o : Op} {r : St × Out × Nat} (h : Leaf s o r) (b : BBook) (ag : Agree b s) :
    ∃ b', b.apply s.parties false (obsOf o r.2.1 r.1) = .ok b' ∧ Agree b' r.1 := by
  cases h with
  | broken id hb => exact ⟨b, by simp [obsOf, BBook.apply, procObs, ag.broken, hb], ag⟩
  | trip id hb hn =>
    refine ⟨{ b with blocked := [] }, ?_, ⟨rfl, ag.broken, ag.resolved⟩⟩
    simp only [obsOf, BBook.apply, procObs, ag.blocked]
    rw [if_neg (by omega)]
    simp
  | queue id hb hn =>
    refine ⟨{ b with blocked := b.blocked ++ [id] }, ?_,
      ⟨by show b.blocked ++ [id] = s.waiters ++ [id]; rw [ag.blocked], ag.broken, ag.resolved⟩⟩
    simp only [obsOf, BBook.apply, procObs, ag.blocked]
    rw [if_neg hn]
  | reset => exact ⟨{ b with blocked := [], broken := false }, by simp [obsOf, BBook.apply, procObs, ag.blocked], ⟨rfl, rfl, ag.resolved⟩⟩
  | abort => exact ⟨{ b with blocked := [], broken := true }, by simp [obsOf, BBook.apply, procObs, ag.blocked], ⟨rfl, rfl, ag.resolved⟩⟩

theorem judge_model (s : St) (b : BBook) (ops : List Op) (inv : Inv s) (ag : Agree b s) :
    judgeBarrier s.parties false b (obsTrace s ops) = none := by
  induction ops generalizing s b with
  | nil => rfl
  | cons o os ih =>
    obtain ⟨b', hap, hag⟩ := (step_leaf s o).follows b ag
    have hc := check_ok (step s o).1 b' (obsOf o (step s o).2.1 (step s o).1) (step_inv s o inv) hag rfl
    have := ih (step s o).1 b' (step_inv s o inv) hag
    rw [step_parties] at hc this
    simp only [obsTrace, judgeBarrier, hap, hc, this]

def trace (s : St) : List Op → List (Op × Out)
  | [] => []
  | o :: os => (o, (step s o).2.1) :: trace (step s o).1 os

def arrivals : List (Op × Out) → List Nat
  | [] => []
  | (.wait id, out) :: r => (if out.res = .queued ∨ out.res = .passed then [id] else []) ++ arrivals r
  | _ :: r => arrivals r

/-- the groups released together, in order: by a trip (the waiting parties and the last arrival),
    or flushed by `reset` / `abort` -/
def groups : List (Op × Out) → List (List Nat)
  | [] => []
  | (.wait id, out) :: r => (if out.res = .passed then [out.woke ++ [id]] else []) ++ groups r
  | (_, out) :: r => out.woke :: groups r

def trips : List (Op × Out) → List (List Nat)
  | [] => []
  | (.wait id, out) :: r => (if out.res = .passed then [out.woke ++ [id]] else []) ++ trips r
  | _ :: r => trips r

def genSteps : List (Op × Out) → Nat
  | [] => 0
  | (.wait _, out) :: r => (if out.res = .passed then 1 else 0) + genSteps r
  | (.reset, _) :: r => 1 + genSteps r
  | (.abort, _) :: r => genSteps r

section
variable {s : St} {o : Op} {r : St × Out × Nat} {t : List (Op × Out)}

theorem Leaf.cohort (h : Leaf s o r) {w : List Nat} (ih : r.1.waiters ++ arrivals t = (groups t).flatten ++ w) :
    s.waiters ++ arrivals ((o, r.2.1) :: t) = (groups ((o, r.2.1) :: t)).flatten ++ w := by
  cases h <;> simpa [arrivals, groups] using ih

theorem Leaf.trips_full (h : Leaf s o r) (inv : Inv s) (ih : ∀ g ∈ trips t, g.length = s.parties) :
    ∀ g ∈ trips ((o, r.2.1) :: t), g.length = s.parties := by
  have := inv.below
  cases h with
  | trip id hb hn => simp only [trips, if_true, List.singleton_append, List.mem_cons, forall_eq_or_imp]; exact ⟨by simp; omega, ih⟩
  | _ => exact ih

theorem Leaf.generation (h : Leaf s o r) {g : Nat} (ih : g = r.1.generation + genSteps t) :
    g = s.generation + genSteps ((o, r.2.1) :: t) := by
  cases h <;> simp [genSteps] at ih ⊢ <;> omega

end

theorem cohort_ledger (s : St) (ops : List Op) :
    s.waiters ++ arrivals (trace s ops) = (groups (trace s ops)).flatten ++ (run s ops).waiters := by
  induction ops generalizing s with
  | nil => simp [trace, arrivals, groups, run]
  | cons o os ih => exact (step_leaf s o).cohort (ih _)

theorem trips_full (s : St) (ops : List Op) (inv : Inv s) :
    ∀ g ∈ trips (trace s ops), g.length = s.parties := by
  induction ops generalizing s with
  | nil => exact fun g hg => nomatch hg
  | cons o os ih => exact (step_leaf s o).trips_full inv (step_parties s o ▸ ih _ (step_inv s o inv))

theorem generation_ledger (s : St) (ops : List Op) :
    (run s ops).generation = s.generation + genSteps (trace s ops) := by
  induction ops generalizing s with
  | nil => rfl
  | cons o os ih => exact (step_leaf s o).generation (ih _)

end HappyModel.C09.Sync.Barrier
