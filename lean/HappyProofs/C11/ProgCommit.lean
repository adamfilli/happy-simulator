import HappyProofs.C11.ApplyOrder
/-! The commit step: when the acknowledgements of a quorum for index `k` (an entry of the leader's
    own term) are in, `_try_advance_commit` commits at least up to `k`, `_apply_committed` hands the
    entry at `k` to the state machine and resolves the future registered for `k` — in that same step. -/
namespace HappyModel.C11
open Spec

theorem applyOne_pending_ne (r : HR) {idx k : Nat} (e : Entry) (hk : idx ≠ k) :
    getPending (applyOne r idx e).node.pending k = getPending r.node.pending k := by
  by_cases h : idx ≤ r.node.lastApplied
  · rw [applyOne_skip h]
  · rw [applyOne_fresh r e (Nat.lt_of_not_le h)]; exact getPending_pop hk

theorem applyOne_mono (r : HR) (idx : Nat) (e : Entry) :
    (∀ a ∈ r.apps, a ∈ (applyOne r idx e).apps) ∧ (∀ a ∈ r.ress, a ∈ (applyOne r idx e).ress)
    ∧ r.node.lastApplied ≤ (applyOne r idx e).node.lastApplied := by
  by_cases h : idx ≤ r.node.lastApplied
  · rw [applyOne_skip h]; exact ⟨fun a h => h, fun a h => h, Nat.le_refl _⟩
  · rw [applyOne_fresh r e (Nat.lt_of_not_le h)]
    exact ⟨fun a h => List.mem_append_left _ h, fun a h => List.mem_append_left _ h, Nat.le_of_lt (Nat.lt_of_not_le h)⟩

theorem applyFrom_mono (es : List Entry) : ∀ (r : HR) (idx : Nat),
    (∀ a ∈ r.apps, a ∈ (applyFrom r idx es).apps) ∧ (∀ a ∈ r.ress, a ∈ (applyFrom r idx es).ress)
    ∧ r.node.lastApplied ≤ (applyFrom r idx es).node.lastApplied := by
  induction es with
  | nil => intro r idx; exact ⟨fun a h => h, fun a h => h, Nat.le_refl _⟩
  | cons e es ih =>
    intro r idx
    obtain ⟨a1, a2, a3⟩ := applyOne_mono r idx e
    obtain ⟨b1, b2, b3⟩ := ih (applyOne r idx e) (idx + 1)
    simp only [applyFrom]
    exact ⟨fun a h => b1 a (a1 a h), fun a h => b2 a (a2 a h), Nat.le_trans a3 b3⟩

theorem applyFrom_hits {k f : Nat} {e : Entry} (es : List Entry) : ∀ (r : HR) (idx : Nat),
    idx ≤ r.node.lastApplied + 1 → r.node.lastApplied < k → idx ≤ k → es[k - idx]? = some e →
    getPending r.node.pending k = some f →
    ∃ res, (k, e.cmd, res) ∈ (applyFrom r idx es).apps ∧ (f, k, res) ∈ (applyFrom r idx es).ress
      ∧ k ≤ (applyFrom r idx es).node.lastApplied := by
  induction es with
  | nil => intro r idx _ _ _ h; simp at h
  | cons e0 es ih =>
    intro r idx h1 h2 h3 h4 h5
    simp only [applyFrom]
    by_cases hk : idx = k
    · subst hk
      simp only [Nat.sub_self, List.getElem?_cons_zero, Option.some.injEq] at h4
      subst h4
      obtain ⟨b1, b2, b3⟩ := applyFrom_mono es (applyOne r idx e0) (idx + 1)
      have hone : (idx, e0.cmd, (kvApply r.node.kv e0.cmd).2) ∈ (applyOne r idx e0).apps
          ∧ (f, idx, (kvApply r.node.kv e0.cmd).2) ∈ (applyOne r idx e0).ress ∧ idx ≤ (applyOne r idx e0).node.lastApplied := by
        rw [applyOne_fresh r e0 h2, h5]
        simp
      exact ⟨_, b1 _ hone.1, b2 _ hone.2.1, Nat.le_trans hone.2.2 b3⟩
    · have a1 := applyOne_la r idx e0
      have hp : getPending (applyOne r idx e0).node.pending k = some f := (applyOne_pending_ne r e0 hk).trans h5
      have h4' : es[k - (idx + 1)]? = some e := by
        have : k - idx = (k - (idx + 1)) + 1 := by omega
        rw [this, List.getElem?_cons_succ] at h4; exact h4
      exact ih (applyOne r idx e0) (idx + 1) (by rw [a1]; omega) (by rw [a1]; omega) (by omega) h4' hp

theorem advance_hits (x : Node) (N k f : Nat) (e : Entry) (hcl : x.commit ≤ x.lastApplied) (hla : x.lastApplied < k)
    (hkN : k ≤ N) (hN : N ≤ x.log.length) (he : getE x.log k = some e) (hp : getPending x.pending k = some f) :
    ∃ res, (k, e.cmd, res) ∈ (advanceCommit { node := x } N).apps ∧ (f, k, res) ∈ (advanceCommit { node := x } N).ress
      ∧ k ≤ (advanceCommit { node := x } N).node.lastApplied ∧ k ≤ (advanceCommit { node := x } N).node.commit := by
  have hk1 : 1 ≤ k := (getE_le he).1
  rcases advanceCommit_cases x N with ⟨h, _⟩ | ⟨_, h⟩
  · omega
  rw [h]
  have hmin : min N x.log.length = N := by omega
  rw [hmin]
  have hget : ((x.log.take N).drop x.commit)[k - (x.commit + 1)]? = some e := by
    rw [List.getElem?_drop, List.getElem?_take_of_lt (by omega)]
    obtain ⟨j, rfl, hj⟩ := getE_pos he
    rw [show x.commit + (j + 1 - (x.commit + 1)) = j by omega]; exact hj
  obtain ⟨res, r1, r2, r3⟩ := applyFrom_hits ((x.log.take N).drop x.commit) { node := { x with commit := N } } (x.commit + 1)
    (by show x.commit + 1 ≤ x.lastApplied + 1; omega) hla (by omega) hget hp
  refine ⟨res, r1, r2, r3, ?_⟩
  rw [applyFrom_commit]; exact hkN

/-- `+ 1`: the leader itself -/
theorem countMatch_ge (n : Nat) (x : Node) (me k : Nat) (Q : List Nat) (hnd : Q.Nodup)
    (hQ : ∀ p ∈ Q, p < n ∧ p ≠ me ∧ k ≤ x.matchIndex.getD p 0) : Q.length + 1 ≤ countMatch n x me k := by
  unfold countMatch
  have := hnd.length_le_of_subset (l₂ := (peers n me).filter (fun j => decide (x.matchIndex.getD j 0 ≥ k))) (by
    intro p hp
    obtain ⟨h1, h2, h3⟩ := hQ p hp
    exact List.mem_filter.mpr ⟨mem_peers.mpr ⟨h1, h2⟩, by simpa using h3⟩)
  omega

/-- THE COMMIT STEP.  A leader whose entry at `k` is of its own term and not yet applied takes an
    acknowledgement that completes a quorum for `k`: the step applies the entry and resolves its future. -/
theorem ack_commits (n : Nat) (x : Node) (me f' m k f : Nat) (e : Entry)
    (hcl : x.commit ≤ x.lastApplied) (hla : x.lastApplied < k)
    (he : getE x.log k = some e) (het : e.term = x.term) (hp : getPending x.pending k = some f)
    (hq : quorum n ≤ countMatch n (ackNode x f' m) me k) :
    ∃ res, (k, e.cmd, res) ∈ (tryAdvance n (ackNode x f' m) me).apps ∧ (f, k, res) ∈ (tryAdvance n (ackNode x f' m) me).ress
      ∧ k ≤ (tryAdvance n (ackNode x f' m) me).node.lastApplied ∧ k ≤ (tryAdvance n (ackNode x f' m) me).node.commit := by
  have hklen : k ≤ x.log.length := (getE_le he).2
  obtain ⟨N, hN, hkN⟩ := findCommit_ge n (ackNode x f' m) me k (by show x.commit < k; omega)
    ((termAt_of_getE he).trans het) (by show (getE x.log k).isSome = true; rw [he]; rfl) hq
    (ackNode x f' m).log.length hklen
  have hNle := (findCommit_spec n (ackNode x f' m) me _ N hN).1
  rcases tryAdvance_cases n (ackNode x f' m) me with ⟨h, _⟩ | ⟨N', h, ht⟩ <;> rw [hN] at h <;> cases h
  rw [ht]
  exact advance_hits (ackNode x f' m) N k f e hcl hla hkN hNle he hp

end HappyModel.C11
