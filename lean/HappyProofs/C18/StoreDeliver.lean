import HappyProofs.C18.StoreRefine
namespace HappyModel.C18

/-- building a message changes no store's CRDT: its merges go into the new message entity -/
theorem keyOps_emit_rep (p : PSt) (s d : Nat) (push : Bool) (k : Nat) (y : Sys) (r : Nat)
    (hr : r < p.n) : (Sys.run y (keyOps k (p.emit .repaired s d push).2)).rep r = y.rep r := by
  rw [emit_ops]
  generalize p.keysOf s = keys
  induction keys generalizing y with
  | nil => rfl
  | cons kn rest ih =>
    by_cases hk : kn.1 = k
    · simp only [keyOps, List.map_cons, List.filterMap_cons, hk, if_true, XOp.toCOp?, Sys.run] at ih ⊢
      rw [ih]
      exact (Sys.set_rep ..).trans (if_neg (by omega))
    · simp only [keyOps, List.map_cons, List.filterMap_cons, hk, if_false] at ih ⊢
      exact ih y

/-- store merge = per-key CRDT merge with adoption: delivering message `m` (a push or a response,
    for the first time or again) changes the receiving store's CRDT of every key in the message to
    `Rep.merge local (copy in the message)` — the local value of a key the store does not hold yet
    is the empty CRDT — and leaves its other keys alone. (The message lists each key once and is
    addressed to a store: true of every message built in a well-formed script.) -/
theorem store_deliver_is_keywise_merge (kind : Kind) (st : SSt) (m : Nat) (msg : Msg)
    (hm : st.p.msgs[m]? = some msg) (k : Nat)
    (hnd : (msg.keys.map (·.1)).Nodup) (hd : msg.dst < st.p.n) :
    (sysAt (st.step .repaired kind (.dl m)).sys k).rep msg.dst =
      if k ∈ msg.keys.map (·.1) then
        Rep.merge ((sysAt st.sys k).rep msg.dst) ((sysAt st.sys k).rep (st.p.n + m))
      else (sysAt st.sys k).rep msg.dst := by
  have hstep : sysAt (st.step .repaired kind (.dl m)).sys k =
      Sys.run (sysAt st.sys k) (keyOps k (st.p.dlStep .repaired m).2) := by
    show sysAt (applyOps st.sys _) k = _
    rw [sysAt_applyOps, runX_base _ _ _ (step_base kind st.p (.dl m))]
    rfl
  have core : (Sys.run (sysAt st.sys k) (keyOps k (st.p.mergeKeys .repaired msg.dst m msg.keys).2)).rep msg.dst =
      if k ∈ msg.keys.map (·.1) then
        Rep.merge ((sysAt st.sys k).rep msg.dst) ((sysAt st.sys k).rep (st.p.n + m))
      else (sysAt st.sys k).rep msg.dst := by
    rw [keyOps_mergeKeys st.p msg.dst m msg.keys k hnd]
    split
    · exact (Sys.set_rep ..).trans (if_pos rfl)
    · rfl
  rw [hstep]
  rcases dlStep_cases st.p m msg hm with he | ⟨_, he⟩ <;> rw [he]
  · exact core
  · rw [keyOps_append, Sys.run_append, keyOps_emit_rep _ _ _ _ _ _ _ (by rw [mergeKeys_n]; exact hd)]
    exact core

end HappyModel.C18
