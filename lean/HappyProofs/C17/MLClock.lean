import HappyProofs.C17.MLMerge
/-!
`CInv n now clock hb L` relates the simulated clock `now`, every leader's vector clock, the list `L` of
versions written so far and, per leader `i`, a bound `hb i` strictly above the timestamps of all
versions delivered to `i` in `Replicate` messages (0 if none).  It is preserved by clock readings that
do not go backwards, by the delivery of any `Replicate`, and by a client write at leader `i` stamped
`now ≥ hb i` (every version `i` has heard of was stamped strictly earlier: positive message latency);
it implies `Coherent n (· ∈ L)`.
-/
namespace HappyModel.C17.ML

theorem vcGet_tick (n : Nat) (a : List Nat) (i j : Nat) (hj : j < n) :
    vcGet (vcTick n a i) j = if j = i then vcGet a j + 1 else vcGet a j := by
  unfold vcTick; exact vcGet_map_range n _ j hj

structure CInv (n now : Nat) (clock : Nat → List Nat) (hb : Nat → Nat) (L : List Version) : Prop where
  /-- written by an existing leader, not in the future -/
  stamped : ∀ v, v ∈ L → v.writer < n ∧ v.ts ≤ now
  /-- a leader that has heard of another leader's version: its timestamp is below the leader's bound -/
  heard : ∀ i, i < n → ∀ v, v ∈ L → v.writer ≠ i → own v ≤ vcGet (clock i) v.writer → v.ts < hb i
  /-- a version that knows of another one was stamped later (strictly, across leaders) -/
  later : ∀ u, u ∈ L → ∀ v, v ∈ L →
    (v.writer ≠ u.writer → own v ≤ vcGet u.vc v.writer → v.ts < u.ts) ∧
    (v.writer = u.writer → own v ≤ own u → v.ts ≤ u.ts)
  /-- nobody knows more about leader `i` than `i` itself -/
  ownMax : ∀ i j, i < n → vcGet (clock j) i ≤ vcGet (clock i) i
  knownLe : ∀ u, u ∈ L → ∀ i, i < n → vcGet u.vc i ≤ vcGet (clock i) i
  /-- a leader's own counter identifies its versions -/
  ownInj : ∀ u, u ∈ L → ∀ v, v ∈ L → u.writer = v.writer → own u = own v → u = v
  /-- a leader's later versions dominate its earlier ones -/
  ownMono : ∀ u, u ∈ L → ∀ v, v ∈ L → u.writer = v.writer → own v < own u →
    ∀ j, j < n → vcGet v.vc j ≤ vcGet u.vc j
  /-- a leader's clock is above all its versions -/
  clockGe : ∀ v, v ∈ L → ∀ j, j < n → vcGet v.vc j ≤ vcGet (clock v.writer) j

theorem cinv_init (n now : Nat) : CInv n now (fun _ => []) (fun _ => 0) [] := by
  refine ⟨?_, ?_, ?_, ?_, ?_, ?_, ?_, ?_⟩
  · intro v hv; cases hv
  · intro i _ v hv; cases hv
  · intro u hu; cases hu
  · intro i j _; simp [vcGet]
  · intro u hu; cases hu
  · intro u hu; cases hu
  · intro u hu; cases hu
  · intro v hv; cases hv

theorem cinv_tick {n now : Nat} {clock : Nat → List Nat} {hb : Nat → Nat} {L : List Version}
    (h : CInv n now clock hb L) (t : Nat) (ht : now ≤ t) : CInv n t clock hb L :=
  ⟨fun v hv => ⟨(h.stamped v hv).1, Nat.le_trans (h.stamped v hv).2 ht⟩, h.heard, h.later, h.ownMax, h.knownLe, h.ownInj, h.ownMono, h.clockGe⟩

theorem cinv_coherent {n now : Nat} {clock : Nat → List Nat} {hb : Nat → Nat} {L : List Version}
    (h : CInv n now clock hb L) :
    Coherent n (fun v => v ∈ L) := by
  constructor
  · intro a b ha hb hd
    rw [dominates_iff] at hd
    obtain ⟨hall, j, hj, hlt⟩ := hd
    have hwa := (h.stamped a ha).1
    have hown : own a ≤ vcGet b.vc a.writer := hall a.writer hwa
    by_cases hw : a.writer = b.writer
    · have hle : own a ≤ own b := by unfold own at hown ⊢; rw [← hw]; exact hown
      have hts := (h.later b hb a ha).2 hw hle
      have hne : own a ≠ own b := by
        intro e
        have := h.ownInj a ha b hb hw e
        subst this
        omega
      unfold vlt; omega
    · have hts := (h.later b hb a ha).1 hw hown
      unfold vlt; omega
  · intro a b ha hb _ hw
    have hwa := (h.stamped a ha).1
    have hwb := (h.stamped b hb).1
    rcases Nat.lt_trichotomy (own a) (own b) with x | x | x
    · right; right
      rw [dominates_iff]
      exact ⟨h.ownMono b hb a ha hw.symm x, a.writer, hwa, by unfold own at x; rw [← hw] at x; exact x⟩
    · left; exact h.ownInj a ha b hb hw x
    · right; left
      rw [dominates_iff]
      exact ⟨h.ownMono a ha b hb hw x, b.writer, hwb, by unfold own at x; rw [hw] at x; exact x⟩

/-- the clock clauses survive replacing leader `i`'s clock by a `c'` above it that, off `i`, knows no more of a
leader than that leader itself -/
theorem CInv.clock_upd {n now : Nat} {clock : Nat → List Nat} {hb : Nat → Nat} {L : List Version}
    (h : CInv n now clock hb L) (i : Nat) (c' : List Nat)
    (hge : ∀ j, j < n → vcGet (clock i) j ≤ vcGet c' j)
    (hle : ∀ j, j < n → j ≠ i → vcGet c' j ≤ vcGet (clock j) j) :
    (∀ i' j, i' < n → vcGet (upd clock i c' j) i' ≤ vcGet (upd clock i c' i') i') ∧
    (∀ u, u ∈ L → ∀ i', i' < n → vcGet u.vc i' ≤ vcGet (upd clock i c' i') i') ∧
    (∀ v, v ∈ L → ∀ j, j < n → vcGet v.vc j ≤ vcGet (upd clock i c' v.writer) j) := by
  simp only [upd_apply]
  refine ⟨fun i' j hi' => ?_, fun u hu i' hi' => ?_, fun v hv j hj => ?_⟩
  · by_cases e1 : i' = i
    · subst e1
      rw [if_pos rfl]
      have := hge i' hi'
      have := h.ownMax i' j hi'
      split
      · exact Nat.le_refl _
      · omega
    · rw [if_neg e1]
      split
      · exact hle i' hi' e1
      · exact h.ownMax i' j hi'
  · have := h.knownLe u hu i' hi'
    by_cases e : i' = i
    · subst e; rw [if_pos rfl]; exact Nat.le_trans this (hge i' hi')
    · rw [if_neg e]; exact this
  · have := h.clockGe v hv j hj
    by_cases e : v.writer = i
    · rw [if_pos e]; rw [e] at this; exact Nat.le_trans this (hge j hj)
    · rw [if_neg e]; exact this

theorem cinv_cw {n now : Nat} {clock : Nat → List Nat} {hb : Nat → Nat} {L : List Version}
    (h : CInv n now clock hb L) (i : Nat) (hi : i < n) (hhb : hb i ≤ now) (val : Nat) :
    CInv n now (upd clock i (vcTick n (clock i) i)) hb (L ++ [⟨val, now, i, vcTick n (clock i) i⟩]) := by
  generalize hc' : vcTick n (clock i) i = c'
  have hcj : ∀ j, j < n → vcGet c' j = if j = i then vcGet (clock i) j + 1 else vcGet (clock i) j := by
    intro j hj; rw [← hc']; exact vcGet_tick n _ i j hj
  have hclk : ∀ j, upd clock i c' j = if j = i then c' else clock j := fun j => upd_apply _ _ _ _
  generalize hu : (⟨val, now, i, c'⟩ : Version) = u
  have huw : u.writer = i := by rw [← hu]
  have huts : u.ts = now := by rw [← hu]
  have huvc : u.vc = c' := by rw [← hu]
  have hownu : own u = vcGet (clock i) i + 1 := by
    unfold own; rw [huw, huvc, hcj i hi, if_pos rfl]
  have hmem : ∀ v, v ∈ L ++ [u] → v ∈ L ∨ v = u := by
    intro v hv; simpa using hv
  -- the new version's own counter is above that of every earlier version of leader `i`: it identifies it
  have hold : ∀ v, v ∈ L → v.writer = i → own v ≤ vcGet (clock i) i := by
    intro v hvo hw
    have := h.clockGe v hvo i hi
    unfold own; rw [hw] at this ⊢; exact this
  obtain ⟨kOwnMax, kKnownLe, kClockGe⟩ := h.clock_upd i c' (fun j hj => by rw [hcj j hj]; split <;> omega)
    (fun j hj e => by rw [hcj j hj, if_neg e]; exact h.ownMax j i hj)
  refine ⟨?_, ?_, ?_, ?_, ?_, ?_, ?_, ?_⟩
  · intro v hv
    rcases hmem v hv with hvo | rfl
    · exact h.stamped v hvo
    · exact ⟨by rw [huw]; exact hi, by rw [huts]; exact Nat.le_refl _⟩
  · intro i0 hi0 v hv hne hle
    rw [hclk] at hle
    rcases hmem v hv with hvo | rfl
    · by_cases e : i0 = i
      · subst e
        rw [if_pos rfl, hcj _ (h.stamped v hvo).1, if_neg hne] at hle
        exact h.heard i0 hi0 v hvo hne hle
      · rw [if_neg e] at hle
        exact h.heard i0 hi0 v hvo hne hle
    · have e : ¬ i0 = i := by rw [huw] at hne; exact fun x => hne x.symm
      rw [if_neg e, huw] at hle
      have := h.ownMax i i0 hi
      omega
  · intro u1 hu1 v1 hv1
    rcases hmem u1 hu1 with hu1o | rfl
    · rcases hmem v1 hv1 with hv1o | rfl
      · exact h.later u1 hu1o v1 hv1o
      · constructor
        · intro hne hle
          rw [huw] at hne hle
          have := h.knownLe u1 hu1o i hi
          omega
        · intro hw hle
          rw [huw] at hw
          have := hold u1 hu1o hw.symm
          omega
    · rcases hmem v1 hv1 with hv1o | rfl
      · constructor
        · intro hne hle
          rw [huw] at hne
          -- the one place where positive latency enters: the new version knows `v1` of another leader, so
          -- `i` has heard of it, `v1.ts < hb i` (`heard`), and the write is stamped `now ≥ hb i` (`hhb`)
          rw [huvc, hcj _ (h.stamped v1 hv1o).1, if_neg hne] at hle
          have := h.heard i hi v1 hv1o hne hle
          rw [huts]; omega
        · intro _ _; rw [huts]; exact (h.stamped v1 hv1o).2
      · exact ⟨fun hne => absurd rfl hne, fun _ _ => Nat.le_refl _⟩
  · exact kOwnMax
  · intro u1 hu1 i' hi'
    rcases hmem u1 hu1 with hu1o | rfl
    · exact kKnownLe u1 hu1o i' hi'
    · rw [hclk, huvc]
      by_cases e1 : i' = i
      · subst e1; rw [if_pos rfl]; exact Nat.le_refl _
      · rw [if_neg e1, hcj i' hi', if_neg e1]; exact h.ownMax i' i hi'
  · intro u1 hu1 v1 hv1 hw ho
    rcases hmem u1 hu1 with hu1o | rfl
    · rcases hmem v1 hv1 with hv1o | rfl
      · exact h.ownInj u1 hu1o v1 hv1o hw ho
      · rw [huw] at hw
        have := hold u1 hu1o hw
        omega
    · rcases hmem v1 hv1 with hv1o | rfl
      · rw [huw] at hw
        have := hold v1 hv1o hw.symm
        omega
      · rfl
  · intro u1 hu1 v1 hv1 hw hlt j hj
    rcases hmem u1 hu1 with hu1o | rfl
    · rcases hmem v1 hv1 with hv1o | rfl
      · exact h.ownMono u1 hu1o v1 hv1o hw hlt j hj
      · rw [huw] at hw
        have := hold u1 hu1o hw
        omega
    · rcases hmem v1 hv1 with hv1o | rfl
      · rw [huw] at hw
        have := h.clockGe v1 hv1o j hj
        rw [← hw] at this
        rw [huvc, hcj j hj]
        split <;> omega
      · omega
  · intro v hv j hj
    rcases hmem v hv with hvo | rfl
    · exact kClockGe v hvo j hj
    · rw [hclk, huw, if_pos rfl, huvc]; exact Nat.le_refl _

theorem cinv_recv {n now : Nat} {clock : Nat → List Nat} {hb : Nat → Nat} {L : List Version}
    (h : CInv n now clock hb L) (u : Version) (hu : u ∈ L) (i : Nat) :
    CInv n now (upd clock i (vcTick n (vcMerge n (clock i) u.vc) i)) (upd hb i (max (hb i) (u.ts + 1))) L := by
  generalize hc' : vcTick n (vcMerge n (clock i) u.vc) i = c'
  have hcj : ∀ j, j < n → vcGet c' j =
      if j = i then max (vcGet (clock i) j) (vcGet u.vc j) + 1 else max (vcGet (clock i) j) (vcGet u.vc j) := by
    intro j hj; rw [← hc', vcGet_tick n _ i j hj, vcGet_merge n _ _ j hj]
  have hclk : ∀ j, upd clock i c' j = if j = i then c' else clock j := fun j => upd_apply _ _ _ _
  have hhb : ∀ j, upd hb i (max (hb i) (u.ts + 1)) j = if j = i then max (hb i) (u.ts + 1) else hb j :=
    fun j => upd_apply _ _ _ _
  obtain ⟨kOwnMax, kKnownLe, kClockGe⟩ := h.clock_upd i c' (fun j hj => by rw [hcj j hj]; split <;> omega)
    (fun j hj e => by
      rw [hcj j hj, if_neg e]
      have := h.ownMax j i hj
      have := h.knownLe u hu j hj
      omega)
  refine ⟨h.stamped, ?_, h.later, kOwnMax, kKnownLe, h.ownInj, h.ownMono, kClockGe⟩
  · intro i0 hi0 v hv hne hle
    rw [hclk] at hle
    rw [hhb]
    by_cases e : i0 = i
    · subst e
      rw [if_pos rfl, hcj _ (h.stamped v hv).1, if_neg hne] at hle
      rw [if_pos rfl]
      by_cases h1 : own v ≤ vcGet (clock i0) v.writer
      · have := h.heard i0 hi0 v hv hne h1
        omega
      · have h2 : own v ≤ vcGet u.vc v.writer := by omega
        by_cases hw : v.writer = u.writer
        · have : own v ≤ own u := by unfold own at h2 ⊢; rw [← hw]; exact h2
          have := (h.later u hu v hv).2 hw this
          omega
        · have := (h.later u hu v hv).1 hw h2
          omega
    · rw [if_neg e] at hle
      rw [if_neg e]
      exact h.heard i0 hi0 v hv hne hle

end HappyModel.C17.ML
