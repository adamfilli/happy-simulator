import HappyProofs.C11.ProgObs
/-! "… and applied by every node": a follower in sync with the stable leader that is handed an
    AppendEntries of the leader's term reaching index `k` with a leader commit `≥ k` (`toldRun`)
    applies index `k`; by State-Machine Safety what it applies there is the submitted command. -/
namespace HappyModel.C11
open Spec

/-- an AppendEntries of term `t` that reaches index `k` and announces a commit index `≥ k` -/
def commits (t k : Nat) : Body → Bool
  | .ae t' _ pi _ es lc => t' == t && decide (k ≤ pi + es.length) && decide (k ≤ lc)
  | _ => false

def toldNow (s : St) (L t k p : Nat) : Act → Bool
  | .deliver m =>
    match findMsg s m with
    | some e => canDeliver s e && e.src == L && e.dst == p && commits t k e.body
    | none => false
  | _ => false

/-- FAIRNESS for the commit notice: some step of the run hands `p` such a message from `L` -/
def toldRun (v : Variant) (L t k p : Nat) : St → List Act → Bool
  | _, [] => false
  | s, a :: as => toldNow s L t k p a || toldRun v L t k p (step v s a).1 as

theorem commits_ae {t k : Nat} {b : Body} (h : commits t k b = true) :
    ∃ l pi pt es lc, b = .ae t l pi pt es lc ∧ k ≤ pi + es.length ∧ k ≤ lc := by
  cases b with
  | ae t' l pi pt es lc =>
    simp only [commits, Bool.and_eq_true, beq_iff_eq, decide_eq_true_eq] at h
    exact ⟨l, pi, pt, es, lc, by rw [h.1.1], h.1.2, h.2⟩
  | _ => cases h

theorem told_step (v : Variant) (hr : Rep v) {s : St} (inv : Inv s) {L t p k m0 : Nat} {e : Env} (hest : Est s L t)
    (hs : Sync s L t p) (hf : findMsg s m0 = some e) (hc : canDeliver s e = true) (hdst : e.dst = p)
    (hcom : commits t k e.body = true) : k ≤ ((step v s (.deliver m0)).1.nodes p).lastApplied := by
  obtain ⟨l, pi, pt, es, lc, hb, hk, hlc⟩ := commits_ae hcom
  obtain ⟨_, _, _, _, hcm⟩ := sync_accepts v hr inv hest hs hf hc hdst hb hk
  have := (step_apps v s (.deliver m0) inv.caught).1 p
  omega

theorem told_applies (v : Variant) (hr : Rep v) {L t k p : Nat} : ∀ (as : List Act) (s : St), Inv s → Est s L t →
    Sync s L t p → stableRun v t [L, p] s as = true → toldRun v L t k p s as = true →
    k ≤ ((run v s as).nodes p).lastApplied := by
  intro as
  induction as with
  | nil => intro s _ _ _ _ h; cases h
  | cons a as ih =>
    intro s inv hest hs hst htold
    simp only [toldRun, Bool.or_eq_true] at htold
    have hst' := stableRun_cons hst
    rcases htold with h | h
    · cases a with
      | deliver m0 =>
        simp only [toldNow] at h
        cases hf : findMsg s m0 with
        | none => rw [hf] at h; cases h
        | some e =>
          rw [hf] at h
          simp only [Bool.and_eq_true, beq_iff_eq] at h
          exact Nat.le_trans (told_step v hr inv hest hs hf h.1.1.1 h.1.2 h.2) (la_mono_run v as _ (step_apps v s _ inv.caught).1 p)
      | _ => cases h
    · have hleL := termsLe_mem (stableRun_here hst') (i := L) (by simp)
      have hleP := termsLe_mem (stableRun_here hst') (i := p) (by simp)
      have S : Stable v s a L t := ⟨hr, inv, hest, hleL⟩
      exact ih _ (inv.step hr a) (est_step S) (sync_step S hs hleP) hst' h

theorem applied_reported (v : Variant) (n : Nat) (as : List Act) (j k : Nat) (hk1 : 1 ≤ k)
    (hk : k ≤ ((run v (init n) as).nodes j).lastApplied) : ∃ x, (j, k, x) ∈ allApps (frames v n as) := by
  have h := run_apps_idx v as (init n) (caughtUp_init n) j
  have h0 : ((init n).nodes j).lastApplied = 0 := by simp [init, initNode]
  rw [h0] at h
  have hmem : k ∈ (appsOf (framesFrom v (init n) as) j).map (·.1) := by
    rw [h, List.mem_range'_1]; omega
  obtain ⟨q, hq, hqk⟩ := List.mem_map.mp hmem
  obtain ⟨fr, hfr, hin⟩ := appsOf_mem hq
  refine ⟨q.2, ?_⟩
  unfold allApps frames
  rw [List.mem_flatMap]
  exact ⟨fr, List.mem_cons_of_mem _ hfr, by rw [← hqk]; exact hin⟩

/-- BOUNDED PROGRESS, EVERY NODE.  Under the hypotheses of `stable_leader_commits`, every follower `p` of a set `F`
    that is in sync, sees no term above `t`, and is handed the commit notice (`toldRun`) applies index `k`; and every
    node whose `_last_applied` is `≥ k` at the end has reported exactly the submitted command at `k`. -/
theorem stable_all_apply (v : Variant) (hr : Rep v) (n : Nat) (pre : List Act) (L t f : Nat) (c : Cmd) (Q F : List Nat)
    (as : List Act) (h : StableFair v n pre L t f c Q as)
    (hFsync : ∀ p ∈ F, inSync (run v (init n) pre) L t p = true)
    (hFstable : ∀ p ∈ F, stableRun v t [L, p] (run v (init n) pre) (.submit L f c :: as) = true)
    (hFtold : ∀ p ∈ F, toldRun v L t (nextIdx (run v (init n) pre) L) p (run v (init n) pre) (.submit L f c :: as) = true) :
    (∀ p ∈ L :: F, nextIdx (run v (init n) pre) L ≤ ((run v (init n) (pre ++ .submit L f c :: as)).nodes p).lastApplied)
    ∧ ∀ j, nextIdx (run v (init n) pre) L ≤ ((run v (init n) (pre ++ .submit L f c :: as)).nodes j).lastApplied →
        (j, nextIdx (run v (init n) pre) L, c.id) ∈ allApps (frames v n (pre ++ .submit L f c :: as)) := by
  obtain ⟨_, _, _, hlaL, _⟩ := stable_leader_commits v hr n pre L t f c Q as h.est h.qnd h.qne h.qq h.sync h.stable h.fair h.nr
  obtain ⟨_, _, hagree⟩ := stable_leader_commits_obs v hr n pre L t f c Q as h
  refine ⟨?_, ?_⟩
  · intro p hp
    rw [run_append]
    simp only [List.mem_cons] at hp
    rcases hp with hp | hp
    · rw [hp]; exact hlaL
    · exact told_applies v hr (.submit L f c :: as) _ (reachable v hr n pre) (established_iff.mp h.est)
        (sync_of_inSync (hFsync p hp)) (hFstable p hp) (hFtold p hp)
  · intro j hj
    obtain ⟨x, hx⟩ := applied_reported v n _ j _ (by unfold nextIdx; omega) hj
    have := hagree _ hx rfl
    simp only at this
    rw [← this]; exact hx

end HappyModel.C11
