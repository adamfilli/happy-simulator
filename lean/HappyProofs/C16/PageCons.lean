import HappyProofs.C16.PageLemmas
/-!
`PageCache`, the counters of the repaired model over one segment, each an instance of `step_ind`: the size bound (a
page is only inserted right after `_ensure_space` / the insert loop found room, with no yield in between), the
evictions account, and conservation of dirty pages: every step moves the ghost counter `made` (pages turned dirty by
`write_page`) and the potential `dirty_writebacks + dirty pages in the cache + victims whose write-back is under way`
by the same amount.  All hold from *any* state, so the run-level theorems are plain inductions.
-/
namespace HappyModel.C16.Page

theorem step_size (cfg : Cfg) (hr : cfg.rep = true) (hc : 0 < cfg.cap) (s : St) (a : Act)
    (hs : s.pages.length ≤ cfg.cap) : (step cfg s a).1.pages.length ≤ cfg.cap := by
  refine step_ind cfg hr s a (fun t _ => t.pages.length ≤ cfg.cap) (fun _ _ _ h hx => Nat.le_trans h.le hx) hs
    (fun t p h _ => ?_) (fun t q _ _ hroom => ?_) (fun t p _ hroom => ?_) (fun t v i k h => Nat.le_trans h.le hs)
    (fun t q h _ => ?_)
  · exact Nat.le_trans (Nat.le_of_eq (setDirty_length t p true)) (Nat.le_trans h.le hs)
  · exact Nat.le_trans (assign_length_bounds t q false).2 (hroom hc)
  · exact Nat.le_trans (assign_length_bounds t p true).2 (hroom hc)
  · exact Nat.le_trans (Nat.le_of_eq (setDirty_length t q false)) (Nat.le_trans h.le hs)

theorem step_grow (cfg : Cfg) (hr : cfg.rep = true) (s : St) (a : Act) :
    s.pages.length + s.ev ≤ (step cfg s a).1.pages.length + (step cfg s a).1.ev ∧
      (step cfg s a).1.pages.length + (step cfg s a).1.ev ≤ s.pages.length + s.ev + 1 := by
  refine step_ind cfg hr s a
    (fun t _ => s.pages.length + s.ev ≤ t.pages.length + t.ev ∧ t.pages.length + t.ev ≤ s.pages.length + s.ev + 1)
    (fun _ _ _ h hx => by rw [h.ins]; exact hx) ⟨Nat.le_refl _, Nat.le_succ _⟩
    (fun t p h _ => ?_) (fun t q h _ _ => ?_) (fun t p h _ => ?_) (fun t v i k h => ?_) (fun t q h _ => ?_)
  · have := h.ins
    have := setDirty_length t p true
    have := setDirty_ev t p true
    simp only
    omega
  · have := assign_length_bounds t q false
    have := h.ins
    simp only [assign_ev]
    omega
  · have := assign_length_bounds t p true
    have := h.ins
    simp only [assign_ev]
    omega
  · have := h.ins
    simp only [St.setPend]
    omega
  · have := h.ins
    simp only [setDirty_length, setDirty_ev]
    omega

def pot (s : St) : Nat := s.dwb + dirtyCount s.pages + inflight s.pend

def Bal (s s' : St) : Prop := s'.made + pot s = s.made + pot s'

theorem Bal.trans {a b c : St} (h1 : Bal a b) (h2 : Bal b c) : Bal a c := by
  unfold Bal at *; omega

theorem Frame.bal {s t : St} (h : Frame s t none) : Bal s t := by
  have := h.made
  have := h.wb
  have := h.dirty
  unfold Bal pot
  simp only [Option.isSome_none, b2n_false] at *
  omega

theorem step_bal (cfg : Cfg) (hr : cfg.rep = true) (s : St) (a : Act) : Bal s (step cfg s a).1 := by
  refine step_ind cfg hr s a (fun t _ => Bal s t) (fun _ _ _ h hx => hx.trans h.bal) rfl
    (fun t p h hh => h.bal.trans ?_) (fun t q h hq _ => h.bal.trans ?_) (fun t p h _ => h.bal.trans ?_) (fun t v i k h => ?_)
    (fun t q h hd => h.bal.trans ?_)
  · have := setDirty_dirty_true t p hh
    unfold Bal pot
    simp only [setDirty_dwb, setDirty_pend] at *
    omega
  · have := assign_dirty t q false
    unfold Bal pot
    simp only [assign_dwb, assign_made, assign_pend, isDirty_of_absent hq, b2n_false] at *
    omega
  · have := assign_dirty_true t p
    unfold Bal pot
    simp only [assign_dwb, assign_pend] at *
    omega
  · have := h.made
    have := h.wb
    have := h.dirty
    unfold Bal pot
    simp only [setPend_dwb, setPend_made, setPend_pages, setPend_pend, inflight_snoc, isEvict, Option.isSome_some,
      b2n_true] at *
    omega
  · have := setDirty_dirty t q false (has_of_isDirty hd)
    unfold Bal pot
    simp only [setDirty_made, setDirty_pend, hd, b2n_true, b2n_false] at *
    omega

/-- The ghost counter `made` is observable: it moves only in a segment in which a `write_page` call returns, by
the rise of `dirty_pages` over that segment — the one kind of segment in which the Spec judge
(`PageSpec.jstep`) lets `Φ = dirty_writebacks + dirty_pages` grow. -/
theorem step_made (cfg : Cfg) (hr : cfg.rep = true) (s : St) (a : Act) :
    (step cfg s a).1.made = s.made +
      (if writeReturns cfg s a then dirtyCount (step cfg s a).1.pages - dirtyCount s.pages else 0) := by
  rw [writeReturns_eq]
  refine step_ind cfg hr s a
    (fun t np => t.made = s.made + (if np.isSome then dirtyCount t.pages - dirtyCount s.pages else 0))
    (fun x t np h hx => ?_) rfl (fun t p h hh => ?_) (fun t q h _ _ => ?_) (fun t p h _ => ?_) (fun t v i k h => h.made)
    (fun t q h _ => ?_)
  · have := h.dirty
    simp only [Option.isSome_none, b2n_false, Nat.add_zero] at this
    rw [h.made, this]; exact hx
  · have := setDirty_dirty_true t p hh
    have := h.made
    have := h.dirty
    simp only [Option.isSome_some, Option.isSome_none, if_true, b2n_false] at *
    omega
  · exact (assign_made t q false).trans h.made
  · have := assign_dirty_true t p
    have := h.made
    have := h.dirty
    simp only [Option.isSome_some, Option.isSome_none, if_true, b2n_false] at *
    omega
  · exact (setDirty_made t q false).trans h.made

/-- the summed rise of `dirty_pages` over the returning segments of `write_page` calls -/
def dirtied (cfg : Cfg) (s : St) : List Act → Nat
  | [] => 0
  | a :: as =>
    (if writeReturns cfg s a then dirtyCount (step cfg s a).1.pages - dirtyCount s.pages else 0)
      + dirtied cfg (step cfg s a).1 as

theorem made_eq_dirtied (cfg : Cfg) (hr : cfg.rep = true) : ∀ (acts : List Act) (s : St),
    (run cfg s acts).made = s.made + dirtied cfg s acts := by
  intro acts
  induction acts with
  | nil => intro s; rfl
  | cons a as ih =>
    intro s
    simp only [run, dirtied]
    rw [ih, step_made cfg hr, Nat.add_assoc]

end HappyModel.C16.Page
