import HappyProofs.C19.MQLedger
/-!
# C19 — acknowledgements (`jAck`, `jAckFinal`, `jAckTakes`)

Ids are never re-used (`publish` only adds `s.npub`), a delivery only starts for a live id, and by the ledger an id
that was acknowledged or dead-lettered is not live: that is all the judges' objections to a delivery ask; their
objections to a counter are answered by the counter fields of `Eff`.
-/
namespace HappyModel.C19

/-! `jAck` remembers the acknowledged ids and the counter -/

def ackOf (s : MQ) (A : List Nat) : AckSt := ⟨A, s.nAck⟩

theorem AckSt.check_ok_of_same (j : AckSt) (r : ORec) (hA : r.ctr.A = j.A)
    (hd : ∀ d k c n, r.out = .disp d k c n → k ∉ j.acked) : j.check r = .ok j := by
  unfold AckSt.check
  split
  · next d k c n ho => simp [hd d k c n ho, hA]
  · split <;> simp [hA]

theorem ack_check {cfg : Cfg} {t : Nat} {s s' : MQ} {a : Act} {o : Out} {A : List Nat} (L : Ledger s A)
    (h : Step cfg t s a s' o) : (ackOf s A).check ⟨t, a, o, s'.ctr⟩ = .ok (ackOf s' (ackedAfter s A a)) := by
  have same : s'.nAck = s.nAck → ackedAfter s A a = A →
      (ackOf s A).check ⟨t, a, o, s'.ctr⟩ = .ok (ackOf s' (ackedAfter s A a)) := fun hA hE => by
    rw [hE, AckSt.check_ok_of_same _ _ hA fun d k c n ho hm => (L.gone k hm).1 (h.disp_live ho), ackOf, ackOf, hA]
  cases h.eff with
  | same _ hA _ _ _ hk => exact same hA (ackedAfter_eq hk)
  | pub ha _ _ hA => exact same hA (ha ▸ rfl)
  | dl _ ha _ _ _ hA => exact same hA (by rcases ha with ⟨_, rfl⟩ | rfl <;> rfl)
  | ack k ha ho hk _ hA =>
    -- the counter moved by one on an `ack`: the judge wants `k` not acknowledged before (it was live), and records it
    subst ha ho
    have : k ∉ A := fun hm => (L.gone k hm).1 hk
    simp [AckSt.check, ackOf, ackedAfter, MQ.ctr, hA, hk, this]

/-! `jAckFinal` knows less than the queue: the ids on which `acknowledge` was called are gone, for whatever reason -/

structure FinRel (s : MQ) (j : FinSt) : Prop where
  pubB : ∀ k ∈ j.pubd, k < s.npub
  gone : ∀ k ∈ j.acked, k ∉ s.live ∧ k < s.npub

theorem FinRel.keep {s s' : MQ} {j : FinSt} {a : Act} {o : Out} (rel : FinRel s j) (e : Eff s s' a o) : FinRel s' j :=
  ⟨fun k h => Nat.lt_of_lt_of_le (rel.pubB k h) e.npub_le, e.gone rel.gone⟩

theorem fin_step {cfg : Cfg} {t : Nat} {s s' : MQ} {a : Act} {o : Out} {j : FinSt} (inv : Inv s) (rel : FinRel s j)
    (h : Step cfg t s a s' o) : ∃ j', j.check ⟨t, a, o, s'.ctr⟩ = .ok j' ∧ FinRel s' j' := by
  have e := h.eff
  have keep := rel.keep e
  unfold FinSt.check
  split
  · next k ho =>
    subst ho
    refine ⟨_, rfl, List.forall_mem_cons.2 ⟨?_, keep.pubB⟩, keep.gone⟩
    have := e.pubOk
    omega
  · next d k c n ho =>
    have hna : k ∉ j.acked := fun hm => (rel.gone k hm).1 (h.disp_live ho)
    exact ⟨j, by simp [hna], keep⟩
  · split
    · next k hak =>
      have hak : a = .ack k := hak
      subst hak
      split
      · next hc =>
        exact ⟨_, rfl, keep.pubB, List.forall_mem_cons.2 ⟨⟨e.ack_gone inv, keep.pubB k (by simpa using hc)⟩, keep.gone⟩⟩
      · exact ⟨j, rfl, keep⟩
    · exact ⟨j, rfl, keep⟩

/-! `jAckTakes` keeps the whole ledger: published, acknowledged and dead-lettered ids and the three counters -/

def takeOf (s : MQ) (A : List Nat) : TakeSt := ⟨idsBelow s.npub, A, s.dlq.reverse, s.nAck, s.dlq.length, s.nRej⟩

theorem Ledger.owes {s : MQ} {A : List Nat} (L : Ledger s A) (k : Nat) : (takeOf s A).owes k = decide (k ∈ s.live) := by
  rw [Bool.eq_iff_iff, decide_eq_true_iff, L.live_iff]
  simp [TakeSt.owes, takeOf, and_assoc]

/- Where the judge consults `owes` (an `ack` or a `rej`), `L.owes` has to turn `owes k` into `k ∈ s.live` before `takeOf` is unfolded (afterwards
the term no longer mentions the view), hence a first `simp` with `L.owes` and a second one that computes the record. -/
theorem take_check {s s' : MQ} {a : Act} {o : Out} {A : List Nat} (L : Ledger s A) (e : Eff s s' a o) (t : Nat) :
    (takeOf s A).check ⟨t, a, o, s'.ctr⟩ = .ok (takeOf s' (ackedAfter s A a)) := by
  cases e with
  | same hl hA hD hN hp hk hR =>
    -- no compartment changed, so no counter but the rejected one may move
    unfold TakeSt.check
    split
    · next k ho => exact absurd ho (hp k)
    · split
      · next k hak =>
        -- an `ack` that found nothing: the id is not owed, the judge wants the acknowledged counter unchanged
        obtain rfl : a = .ack k := hak
        simp [L.owes, hk k rfl, ackedAfter]
        simp [takeOf, MQ.ctr, hA, hD, hN]
      · next k rq hak =>
        -- a `rej` that requeued or found nothing: counted exactly when the id is owed (`hR`)
        obtain rfl : a = .rej k rq := hak
        simp only [L.owes, ackedAfter]
        by_cases hx : k ∈ s.live <;> simp [takeOf, MQ.ctr, hR k rq rfl, hx, hA, hD, hN]
      · next k hak =>
        obtain rfl : a = .tmo k := hak
        simp [ackedAfter, takeOf, MQ.ctr, hA, hD, hN]
      · next h1 _ _ =>
        simp [ackedAfter_eq (s := s) (A := A) fun k e => absurd e (h1 k), takeOf, MQ.ctr, hA, hD, hN]
  | pub ha ho hl hA hD hN =>
    -- the fresh id joins `pubd`: `idsBelow (n + 1) = n :: idsBelow n`
    subst ha ho
    simp [TakeSt.check, takeOf, ackedAfter, MQ.ctr, hA, hD, hN, idsBelow]
  | ack k ha ho hk hl hA hD hN =>
    -- the id was live, hence owed: the judge wants the counter up by one and remembers `k` as acknowledged
    subst ha ho
    simp [TakeSt.check, L.owes, hk, ackedAfter]
    simp [takeOf, MQ.ctr, hA, hD, hN]
  | dl k ha ho hk hl hA hD hN hR =>
    -- the id was live, hence owed: a `rej` of it is counted; the dead-letter queue grew by one, so `k` joins `dead`
    have hy := L.owes k
    rw [decide_eq_true hk] at hy
    rcases ha with ⟨rq, rfl⟩ | rfl <;> rcases ho with rfl | rfl <;> simp only [TakeSt.check, hy, ackedAfter] <;>
      simp [takeOf, MQ.ctr, hA, hD, hN, hR]

theorem no_delivery_after_ack (cfg : Cfg) (hl : cfg.legacy = false) (sched : List (Nat × Act)) :
    jAck {} (MQ.run cfg {} sched) = none :=
  run_view cfg hl AckSt.check jAck (fun _ => rfl) (fun _ _ _ _ h => by simp only [jAck, h]) ackOf ack_check sched

theorem ack_is_final (cfg : Cfg) (hl : cfg.legacy = false) (sched : List (Nat × Act)) :
    jAckFinal {} (MQ.run cfg {} sched) = none :=
  run_ledger cfg hl FinSt.check jAckFinal (fun _ => rfl) (fun _ _ _ _ h => by simp only [jAckFinal, h])
    (fun s _ j => FinRel s j) ⟨by simp, by simp⟩ (fun L rel h => fin_step L.inv rel h) sched

theorem ack_of_owed_message_takes_effect (cfg : Cfg) (hl : cfg.legacy = false) (sched : List (Nat × Act)) :
    jAckTakes {} (MQ.run cfg {} sched) = none :=
  run_view cfg hl TakeSt.check jAckTakes (fun _ => rfl) (fun _ _ _ _ h => by simp only [jAckTakes, h]) takeOf
    (fun L h => take_check L h.eff _) sched

/-- on `demoSched` the judge runs over two dispatches and an effective acknowledgement; and it rejects a trace in
    which an acknowledged message is dispatched again -/
example :
    ((MQ.run { lat := 5, maxRe := 1 } {} demoSched).filter
        (fun r => match r.out with | .disp .. => true | _ => false)).length = 2 ∧
    (MQ.exec { lat := 5, maxRe := 1 } {} demoSched).nAck = 1 ∧
    jAck {} (MQ.run { lat := 5, maxRe := 1 } {} demoSched) = none ∧
    jAck {} [⟨0, .ack 0, .unit, ⟨0, 0, 1, 0, 1, 1, 0, 0, 0⟩⟩,
             ⟨1, .poll, .disp 1 0 0 2, ⟨0, 1, 1, 0, 1, 1, 1, 0, 0⟩⟩] =
      some "mq/ack/delivered-after-ack" := by
  decide +kernel

/-- a late acknowledgement: message 0 is delivered, its visibility timeout moves it back to pending
    (redelivery event due later), the consumer acknowledges, then the redelivery event and a poll arrive -/
def lateAckSched : List (Nat × Act) :=
  [(0, .sub 0), (1, .pub), (2, .poll), (7, .fire 0), (7, .recv 0), (10, .tmo 0), (12, .ack 0),
   (15, .redeliv 0), (16, .poll)]

/-- on `lateAckSched` the timeout hands back a redelivery event, the late ack is counted and nothing is dispatched
    afterwards; both judges reject the trace of a queue that ignores the late acknowledgement and redelivers -/
example :
    (MQ.run { lat := 5, maxRe := 2 } {} lateAckSched).map (·.out) =
      [.unit, .pubOk 0, .disp 0 0 0 1, .emit 0 0 1 7, .recv 0 0 1, .tmoEv, .unit, .none, .idle] ∧
    (MQ.exec { lat := 5, maxRe := 2 } {} lateAckSched).nAck = 1 ∧
    jAckFinal {} (MQ.run { lat := 5, maxRe := 2 } {} lateAckSched) = none ∧
    jAckTakes {} (MQ.run { lat := 5, maxRe := 2 } {} lateAckSched) = none ∧
    jAckFinal {} [⟨1, .pub, .pubOk 0, ⟨1, 0, 0, 0, 1, 0, 0, 0, 0⟩⟩,
                  ⟨2, .poll, .disp 0 0 0 1, ⟨0, 1, 0, 0, 1, 1, 0, 0, 0⟩⟩,
                  ⟨10, .tmo 0, .tmoEv, ⟨1, 0, 0, 0, 1, 1, 0, 0, 0⟩⟩,
                  ⟨12, .ack 0, .unit, ⟨1, 0, 0, 0, 1, 1, 0, 0, 0⟩⟩,
                  ⟨15, .redeliv 0, .disp 1 0 0 2, ⟨0, 1, 0, 0, 1, 1, 1, 0, 0⟩⟩] =
      some "mq/ack/delivered-after-ack" ∧
    jAckTakes {} [⟨1, .pub, .pubOk 0, ⟨1, 0, 0, 0, 1, 0, 0, 0, 0⟩⟩,
                  ⟨2, .poll, .disp 0 0 0 1, ⟨0, 1, 0, 0, 1, 1, 0, 0, 0⟩⟩,
                  ⟨10, .tmo 0, .tmoEv, ⟨1, 0, 0, 0, 1, 1, 0, 0, 0⟩⟩,
                  ⟨12, .ack 0, .unit, ⟨1, 0, 0, 0, 1, 1, 0, 0, 0⟩⟩] =
      some "mq/ack/ack-of-accounted-message-ignored" ∧
    jAckTakes {} [⟨1, .pub, .pubOk 0, ⟨1, 0, 0, 0, 1, 0, 0, 0, 0⟩⟩,
                  ⟨2, .poll, .disp 0 0 0 1, ⟨0, 1, 0, 0, 1, 1, 0, 0, 0⟩⟩,
                  ⟨10, .tmo 0, .tmoEv, ⟨1, 0, 0, 0, 1, 1, 0, 0, 0⟩⟩,
                  ⟨12, .rej 0 false, .unit, ⟨1, 0, 0, 0, 1, 1, 0, 0, 0⟩⟩] =
      some "mq/reject/reject-of-accounted-message-ignored" := by
  decide +kernel

end HappyModel.C19
