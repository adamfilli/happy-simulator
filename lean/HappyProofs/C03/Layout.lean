import HappyProofs.C01.Inv
/-!
The engine model keeps the pending events in a list and pops the `(time, id)`-minimum.  The order in which events
sit in that list (insertion order, `heapq`'s internal layout, the order in which a coordinator injected them) is
process history that must not be observable: with distinct creation indices the minimum is unique, so two states
that differ only by a permutation of the heap make the same pops.
-/
namespace HappyModel.C03
open HappyModel.C01

variable {σ : Type}

def withHeap (s : St σ) (h : List Ev) : St σ := { s with heap := h }

theorem continues_withHeap (endT : Option Nat) (s : St σ) (h' : List Ev) (hp : s.heap.Perm h') :
    continues endT (withHeap s h') = continues endT s := by
  have : h'.isEmpty = s.heap.isEmpty := by
    have hl := hp.length_eq
    cases hs : s.heap <;> cases hh : h' <;> simp [hs, hh] at hl ⊢
  unfold continues withHeap
  simp [this]

theorem stepWith_withHeap (mc : Machine σ) (s : St σ) (h' : List Ev) (hp : s.heap.Perm h') (e : Ev) :
    ∃ h1, stepWith mc (withHeap s h') e = withHeap (stepWith mc s e) h1 ∧ (stepWith mc s e).heap.Perm h1 := by
  have hpe : (s.heap.erase e).Perm (h'.erase e) := hp.erase e
  refine stepWith_cases mc s e (fun hc => ?_) (fun hc hs => ?_) (fun hc hn hg => ?_) (fun hc hn hg => ?_)
  · exact ⟨_, stepWith_cancelled (s := withHeap s h') hc, hpe⟩
  · exact ⟨_, stepWith_stale (s := withHeap s h') hc hs, hpe⟩
  · exact ⟨_, stepWith_gated (s := withHeap s h') hc hn hg, hpe⟩
  · exact ⟨_, stepWith_delivered (s := withHeap s h') hc hn hg, hpe.append_right _⟩

theorem step_withHeap (mc : Machine σ) (endT : Option Nat) (s : St σ) (h' : List Ev)
    (hn : (s.heap.map (·.id)).Nodup) (hp : s.heap.Perm h') :
    (step mc endT s = none ∧ step mc endT (withHeap s h') = none) ∨
    ∃ s1 h1, step mc endT s = some s1 ∧ step mc endT (withHeap s h') = some (withHeap s1 h1) ∧ s1.heap.Perm h1 := by
  have hcont := continues_withHeap endT s h' hp
  cases hs : step mc endT s with
  | none => exact .inl ⟨rfl, step_eq_none.mpr (hcont.trans (step_eq_none.mp hs))⟩
  | some s1 =>
    obtain ⟨m, hm, hmin, hc, rfl⟩ := step_eq_some hs
    obtain ⟨h1, e1, p1⟩ := stepWith_withHeap mc s h' hp m
    refine .inr ⟨_, h1, rfl, e1 ▸ step_of_min ?_ (hp.subset hm) (fun y hy => hmin y (hp.symm.subset hy))
      (hcont.trans hc), p1⟩
    exact ((hp.map _).nodup_iff).mp hn

/-- **the layout theorem**: permute the pending events of a well-formed state in any way — the run makes
    the same pops: same deliveries in the same order, same clock, same counters; only the layout of the
    remaining heap may differ (and is again a permutation) -/
theorem run_independent_of_heap_layout (mc : Machine σ) (endT : Option Nat) (n : Nat) (s : St σ) (inv : Inv s)
    (h' : List Ev) (hp : s.heap.Perm h') :
    ∃ h1, run mc endT n (withHeap s h') = withHeap (run mc endT n s) h1 ∧ (run mc endT n s).heap.Perm h1 := by
  induction n generalizing s h' with
  | zero => exact ⟨h', rfl, hp⟩
  | succ n ih =>
    rcases step_withHeap mc endT s h' inv.nodup hp with ⟨e1, e2⟩ | ⟨s1, h1, e1, e2, p1⟩
    · rw [halted_run mc endT _ s e1, halted_run mc endT _ _ e2]; exact ⟨h', rfl, hp⟩
    · rw [run_succ e1, run_succ e2]; exact ih s1 (inv.step e1) h1 p1

theorem log_independent_of_heap_layout (mc : Machine σ) (endT : Option Nat) (n : Nat) (s : St σ) (inv : Inv s)
    (h' : List Ev) (hp : s.heap.Perm h') :
    (run mc endT n (withHeap s h')).log = (run mc endT n s).log ∧
    (run mc endT n (withHeap s h')).popped = (run mc endT n s).popped ∧
    (run mc endT n (withHeap s h')).now = (run mc endT n s).now ∧
    (run mc endT n (withHeap s h')).processed = (run mc endT n s).processed := by
  obtain ⟨h1, r, _⟩ := run_independent_of_heap_layout mc endT n s inv h' hp
  rw [r]; simp [withHeap]

/-- non-vacuity: three pending events with a tie at time 5, laid out in two different orders -/
example :
    let mc : Machine Unit := { handle := fun _ now e => { ent := (), specs := if e.kind = 0 then [⟨now + 2, 0, 1, false, 0, 0⟩] else [] } }
    let s : St Unit := init () 0 [⟨5, 0, 0, false, 0, 0⟩, ⟨5, 1, 0, false, 0, 0⟩, ⟨3, 2, 1, false, 0, 0⟩]
    s.heap.Perm s.heap.reverse ∧ s.heap ≠ s.heap.reverse ∧
    (run mc (some 10) 10 (withHeap s s.heap.reverse)).log = (run mc (some 10) 10 s).log ∧
    (run mc (some 10) 10 s).log.length = 5 := by
  refine ⟨(List.reverse_perm _).symm, by decide +kernel, by decide +kernel, by decide +kernel⟩

end HappyModel.C03
