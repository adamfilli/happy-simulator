import HappyProofs.C15.Sem
import HappyProofs.C14.LsmBookBase
/-! WAL / flush invariant: which memtable inserts are in the levels, which log entries may be truncated. -/
namespace HappyModel.C15
open HappyModel.C14

/-- ghost partition of the insert log: active memtable, frozen memtables (oldest first, tagged with the
    memtable id), installed SSTables; `T` = largest truncation bound applied so far -/
structure Ghost where
  gmem : List Ev := []
  gimms : List (Nat × List Ev) := []
  glv : List Ev := []
  T : Nat := 0

def Ghost.all (g : Ghost) : List Ev := g.gmem ++ (g.gimms.reverse.flatMap (·.2)) ++ g.glv

/-- per-frame part.  `logging`: a write between its append and its memtable insert holds a pending sequence number whose
    entry is in the log.  `flush`: the bound `b` a suspended flush of table `t` will truncate at (`truncBound`, captured when
    the memtable was frozen, `seg_freeze`) is below every number still pending or not yet handed out, and below every
    insert that went to the active memtable or to a memtable frozen after `t`: what it truncates is in `t` or older. -/
structure FW (start : Nat → Pc) (st : St) (g : Ghost) (f : Frame) : Prop where
  seq : f.b ≠ none → 1 ≤ f.seq0 ∧ ((∃ k c, start f.id = .pStart k c) → f.seq0 < st.nextSeq)
  logging : ∀ q, f.pc.logging = some q → q ∈ st.pending ∧ ∃ e ∈ st.wal, e.seq = q ∧ start f.id = .pStart e.key e.cell
  flush : ∀ t b, f.pc = .pFlush t b → (∀ q ∈ st.pending, b < q) ∧ b < st.nextSeq ∧ (∀ e ∈ g.gmem, b < e.seq) ∧
    (∀ gi ∈ g.gimms, t.id < gi.1 → ∀ e ∈ gi.2, b < e.seq)

/-- frozen memtables and their ghost event lists, in step -/
def ImmG : List Tab → List (Nat × List Ev) → Prop
  | [], [] => True
  | t :: r, gi :: gr => (gi.1 = t.id ∧ ∀ k, t.data.lookup k = firstOn k gi.2) ∧ ImmG r gr
  | _, _ => False

def IsWrite (start : Nat → Pc) (f : Frame) : Prop := ∃ k c, start f.id = .pStart k c

/-- state-level part.  The ghost partition mirrors the tables (`memG`, `immG`, `lvG`).  `evDur` is what durability rests on:
    every memtable insert of the run still has its log entry, or is already in an installed SSTable with a sequence
    number at most `T`, the largest truncation bound applied; `truncT` says the log holds nothing up to `T`. -/
structure WCore (st : St) (log : List Ev) (g : Ghost) : Prop where
  logEq : log = g.all
  memG : ∀ k, st.mem.lookup k = firstOn k g.gmem
  immG : ImmG st.imms g.gimms
  lvG : ∀ k, (lookLevels k st.levels).join = (firstOn k g.glv).join
  immOrd : (st.imms.map (·.id)).Pairwise (· < ·)
  immLt : ∀ u ∈ st.imms, u.id < st.memId
  walSorted : (st.wal.map (·.seq)).Pairwise (· < ·)
  walLt : ∀ e ∈ st.wal, e.seq < st.nextSeq
  pendLt : ∀ q ∈ st.pending, 1 ≤ q ∧ q < st.nextSeq
  truncT : ∀ e ∈ st.wal, g.T < e.seq
  Tlt : g.T < st.nextSeq
  evDur : ∀ ev ∈ log, (∃ e ∈ st.wal, e.seq = ev.seq ∧ e.key = ev.key ∧ e.cell = ev.cell) ∨ (ev ∈ g.glv ∧ ev.seq ≤ g.T)

/-- `bDistinct`, `seqOrd`: writes receive their sequence numbers in the order of their first segments — the bridge from the
    judge's real-time order ("began after it completed") to the order of the log -/
structure WInv (start : Nat → Pc) (y : Sys) (log : List Ev) (g : Ghost) : Prop where
  core : WCore y.st log g
  walFrame : ∀ e ∈ y.st.wal, ∃ f ∈ y.frames, f.b ≠ none ∧ f.seq0 = e.seq ∧ start f.id = .pStart e.key e.cell
  bDistinct : ∀ f ∈ y.frames, ∀ f' ∈ y.frames, ∀ b, f.b = some b → f'.b = some b → f.id = f'.id
  seqOrd : ∀ f ∈ y.frames, ∀ f' ∈ y.frames, ∀ b b', f.b = some b → f'.b = some b' → b < b' →
    IsWrite start f → IsWrite start f' → f.seq0 < f'.seq0
  fw : ∀ f ∈ y.frames, FW start y.st g f

/-- the invariant for a tree that starts from a recovered state: log entries below `N0` (the value of
    `next_sequence` at the start) have no frame and were in the log `W0` the tree started with -/
structure WInvB (start : Nat → Pc) (N0 : Nat) (W0 : List WalE) (y : Sys) (log : List Ev) (g : Ghost) : Prop where
  core : WCore y.st log g
  walFrame : ∀ e ∈ y.st.wal, N0 ≤ e.seq → ∃ f ∈ y.frames, f.b ≠ none ∧ f.seq0 = e.seq ∧ start f.id = .pStart e.key e.cell
  bDistinct : ∀ f ∈ y.frames, ∀ f' ∈ y.frames, ∀ b, f.b = some b → f'.b = some b → f.id = f'.id
  seqOrd : ∀ f ∈ y.frames, ∀ f' ∈ y.frames, ∀ b b', f.b = some b → f'.b = some b' → b < b' →
    IsWrite start f → IsWrite start f' → f.seq0 < f'.seq0
  fw : ∀ f ∈ y.frames, FW start y.st g f
  nseq : N0 ≤ y.st.nextSeq
  seqGe : ∀ f ∈ y.frames, f.b ≠ none → N0 ≤ f.seq0
  walOld : ∀ e ∈ y.st.wal, e.seq < N0 → e ∈ W0

theorem lookLevels_modAt0 (k : Key) (lv : List (List Tab)) (t : Tab) (h : lv ≠ []) :
    lookLevels k (modAt lv 0 (· ++ [t])) = (t.data.lookup k).or (lookLevels k lv) := by
  cases lv with
  | nil => exact absurd rfl h
  | cons l r =>
    simp only [modAt, lookLevels_cons, List.reverse_append, List.reverse_cons, List.reverse_nil, List.nil_append,
      List.singleton_append, lookTabs_cons, Option.or_assoc]

theorem minList_le (q : Nat) (l : List Nat) (d : Nat) (h : q ∈ l ∨ d ≤ q) : minList l d ≤ q := by
  induction l generalizing d with
  | nil =>
    rcases h with h | h
    · cases h
    · exact h
  | cons x xs ih =>
    simp only [minList]
    apply ih
    rcases h with h | h
    · rcases List.mem_cons.mp h with rfl | h'
      · exact Or.inr (Nat.min_le_left ..)
      · exact Or.inl h'
    · exact Or.inr (Nat.le_trans (Nat.min_le_right ..) h)

theorem truncBound_lt (s : St) (q : Nat) (h : q ∈ s.pending ∨ s.nextSeq ≤ q) (hq : 1 ≤ q) : truncBound s < q := by
  have := minList_le q s.pending s.nextSeq h
  unfold truncBound
  omega

theorem shouldSync_same (p : Policy) (s : St) :
    (shouldSync p s).2 = { s with oracle := (shouldSync p s).2.oracle } := by
  cases p <;> rfl

theorem wal_append {w : List WalE} {N : Nat} (hs : (w.map (·.seq)).Pairwise (· < ·)) (hlt : ∀ e ∈ w, e.seq < N)
    (k : Key) (c : Cell) :
    ((w ++ [(⟨N, k, c⟩ : WalE)]).map (·.seq)).Pairwise (· < ·) ∧ ∀ e ∈ w ++ [⟨N, k, c⟩], e.seq < N + 1 := by
  constructor
  · rw [List.map_append]
    refine List.pairwise_append.mpr ⟨hs, by simp, fun x hx y hy => ?_⟩
    simp only [List.map_cons, List.map_nil, List.mem_singleton] at hy
    obtain ⟨e, he, rfl⟩ := List.mem_map.mp hx
    rw [hy]; exact hlt e he
  · intro e he
    rcases List.mem_append.mp he with he | he
    · exact Nat.lt_succ_of_lt (hlt e he)
    · rw [List.mem_singleton.mp he]; exact Nat.lt_succ_self _

theorem mem_mid {α : Type} {pre post : List α} {a g : α} : g ∈ pre ++ a :: post ↔ g = a ∨ g ∈ pre ∨ g ∈ post := by
  rw [List.mem_append, List.mem_cons]
  exact or_left_comm

theorem mem_mid_self {α : Type} {pre post : List α} {a : α} : a ∈ pre ++ a :: post := mem_mid.mpr (Or.inl rfl)

theorem mem_mid_of {α : Type} {pre post : List α} {a g : α} (h : g ∈ pre ∨ g ∈ post) : g ∈ pre ++ a :: post :=
  mem_mid.mpr (Or.inr h)

theorem forall_mid {α : Type} {P : α → Prop} {pre post : List α} {a : α} :
    (∀ g ∈ pre ++ a :: post, P g) ↔ P a ∧ ∀ g, g ∈ pre ∨ g ∈ post → P g := by
  simp only [mem_mid, forall_eq_or_imp]

/-- how the segment executed as number `n`, from a state whose `next_sequence` is `N`, continues its frame: an
    unstarted frame begins at `n` with sequence number `N`, a started one keeps both -/
structure Adv (n N : Nat) (f f' : Frame) : Prop where
  id : f'.id = f.id
  fresh : f.b = none → f'.b = some n ∧ f'.seq0 = N
  keep : ∀ b, f.b = some b → f'.b = some b ∧ f'.seq0 = f.seq0
  e : ∀ e, f'.e = some e → e = n

theorem advFrame_id (cfg : Cfg) (st : St) (n : Nat) (f : Frame) : (advFrame cfg st n f).id = f.id := rfl

theorem adv_spec (cfg : Cfg) (st : St) (n : Nat) (f : Frame) : Adv n st.nextSeq f (advFrame cfg st n f) :=
  ⟨rfl, fun h => by simp [advFrame, h], fun b h => by simp [advFrame, h], fun _ he => (advFrame_e he).2⟩

theorem Adv.started {n N : Nat} {f f' : Frame} (h : Adv n N f f') : f'.b ≠ none := by
  cases hb : f.b with
  | none => rw [(h.fresh hb).1]; exact Option.some_ne_none _
  | some b => rw [(h.keep b hb).1]; exact Option.some_ne_none _

theorem Adv.inv {n N : Nat} {f f' : Frame} (h : Adv n N f f') {b : Nat} (hb' : f'.b = some b) :
    (f.b = some b ∧ f'.seq0 = f.seq0) ∨ (f.b = none ∧ b = n ∧ f'.seq0 = N) := by
  cases hb : f.b with
  | none => rw [(h.fresh hb).1] at hb'; exact Or.inr ⟨rfl, (Option.some.inj hb').symm, (h.fresh hb).2⟩
  | some b0 => rw [(h.keep b0 hb).1] at hb'; exact Or.inl ⟨hb', (h.keep b0 hb).2⟩

theorem flushInstall_shape (cfg : Cfg) (s : St) (t : Tab) (b : Nat) :
    (∃ c, (flushInstall cfg s t b).1 = { flushS1 cfg s t b with compacting := c }) ∧
      flushId (flushInstall cfg s t b).2 = none := by
  rw [flushInstall_eq]
  split
  · rcases compactStart_cases cfg (flushS1 cfg s t b) with e | ⟨_, j, _, e⟩ <;> rw [e] <;> exact ⟨⟨_, rfl⟩, rfl⟩
  · exact ⟨⟨_, rfl⟩, rfl⟩

theorem shouldSync_eq (p : Policy) (s : St) : ∃ o, (shouldSync p s).2 = { s with oracle := o } :=
  ⟨_, shouldSync_same p s⟩

/-- relation between two (state, ghost) pairs under which the per-frame facts of a frame that did not
    run are preserved; `qx` is the sequence number that stopped being pending.  The second alternative of `gimmsNew` is a
    freeze: the active memtable's inserts become those of the frozen table `st.memId`. -/
structure Rel (st : St) (g : Ghost) (st' : St) (g' : Ghost) (qx : Option Nat) : Prop where
  nextSeq : st.nextSeq ≤ st'.nextSeq
  pendKeep : ∀ q ∈ st.pending, q ∈ st'.pending ∨ some q = qx
  pendNew : ∀ q ∈ st'.pending, q ∈ st.pending ∨ st.nextSeq ≤ q
  walKeep : ∀ e ∈ st.wal, e.seq ∈ st.pending → e ∈ st'.wal
  gmemNew : ∀ e ∈ g'.gmem, e ∈ g.gmem ∨ e.seq ∈ st.pending
  gimmsNew : ∀ gi ∈ g'.gimms, ∀ e ∈ gi.2, (∃ gi0 ∈ g.gimms, gi0.1 = gi.1 ∧ e ∈ gi0.2) ∨ (e ∈ g.gmem ∧ gi.1 = st.memId)

theorem FW.mono {start : Nat → Pc} {st st' : St} {g g' : Ghost} {qx : Option Nat} {f : Frame}
    (h : FW start st g f) (r : Rel st g st' g' qx) (hq : ∀ q, f.pc.logging = some q → some q ≠ qx) :
    FW start st' g' f := by
  refine ⟨?_, ?_, ?_⟩
  · intro hb
    obtain ⟨h1, h2⟩ := h.seq hb
    exact ⟨h1, fun hw => Nat.lt_of_lt_of_le (h2 hw) r.nextSeq⟩
  · intro q hl
    obtain ⟨h1, e, he, h2, h3⟩ := h.logging q hl
    refine ⟨?_, e, r.walKeep e he (by rw [h2]; exact h1), h2, h3⟩
    rcases r.pendKeep q h1 with h | h
    · exact h
    · exact absurd h (hq q hl)
  · intro t b hp
    obtain ⟨h1, h2, h3, h4⟩ := h.flush t b hp
    refine ⟨?_, Nat.lt_of_lt_of_le h2 r.nextSeq, ?_, ?_⟩
    · intro q hq'
      rcases r.pendNew q hq' with h | h
      · exact h1 q h
      · exact Nat.lt_of_lt_of_le h2 h
    · intro e he
      rcases r.gmemNew e he with h | h
      · exact h3 e h
      · exact h1 _ h
    · intro gi hgi hlt e he
      rcases r.gimmsNew gi hgi e he with ⟨gi0, h0, h0', h0''⟩ | ⟨h0, h0'⟩
      · exact h4 gi0 h0 (by rw [h0']; exact hlt) e h0''
      · exact h3 e h0

theorem immG_append {imms : List Tab} {gimms : List (Nat × List Ev)} (h : ImmG imms gimms) (t : Tab) (gi : Nat × List Ev)
    (h1 : gi.1 = t.id) (h2 : ∀ k, t.data.lookup k = firstOn k gi.2) : ImmG (imms ++ [t]) (gimms ++ [gi]) := by
  induction imms generalizing gimms with
  | nil =>
    cases gimms with
    | nil => exact ⟨⟨h1, h2⟩, trivial⟩
    | cons a b => exact h.elim
  | cons u r ih =>
    cases gimms with
    | nil => exact h.elim
    | cons a b => exact ⟨h.1, ih h.2⟩

theorem immG_cons_inv {t : Tab} {r : List Tab} {gimms : List (Nat × List Ev)} (h : ImmG (t :: r) gimms) :
    ∃ gi gr, gimms = gi :: gr ∧ gi.1 = t.id ∧ (∀ k, t.data.lookup k = firstOn k gi.2) ∧ ImmG r gr := by
  cases gimms with
  | nil => exact h.elim
  | cons gi gr => exact ⟨gi, gr, rfl, h.1.1, h.1.2, h.2⟩

theorem immG_mem {imms : List Tab} {gimms : List (Nat × List Ev)} (h : ImmG imms gimms) {gi : Nat × List Ev}
    (hg : gi ∈ gimms) : ∃ t ∈ imms, t.id = gi.1 := by
  induction imms generalizing gimms with
  | nil =>
    cases gimms with
    | nil => cases hg
    | cons a b => exact h.elim
  | cons u r ih =>
    cases gimms with
    | nil => exact h.elim
    | cons a b =>
      rcases List.mem_cons.mp hg with rfl | hg
      · exact ⟨u, List.mem_cons_self .., h.1.1.symm⟩
      · obtain ⟨t, ht, e⟩ := ih h.2 hg
        exact ⟨t, List.mem_cons_of_mem _ ht, e⟩

end HappyModel.C15
