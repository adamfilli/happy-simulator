import HappyProofs.C14.TxnLsm
import HappyProofs.C14.LsmReadStep
/-!
# A suspended `LSMTree.get` across `put_sync`s and commits

The reader invariant `RB` of a `get` suspended at a page read survives a `put_sync` (memtable insert, flush,
compaction back to back) and a whole commit application; the set of cells it may still return grows by the cells
written to its key (`putSync_rb`, `applyWrites_rb`, from `rinv_other` segment by segment).  For a SNAPSHOT_ISOLATION /
SERIALIZABLE reader every such cell is as good as the current value: undoing the commit log down to the snapshot
gives the same result (`SV`, `sv_commit`).
-/
namespace HappyModel.C14.SM.LM
open HappyModel.C14 HappyModel.C14.SM HappyModel.C14.BT

theorem runPc_rb (cfg : Cfg) {k : Key} {i : Nat} {snap : List Tab} {Al : Cell → Prop} (n : Nat) (s : St) (pc : Pc)
    (hr : putSyncRank pc ≤ n) (hs : SInv cfg s) (hp : POk cfg s pc) (hy : PutSyncOk s pc)
    (h : RB s.mem s.imms s.levels k i snap Al) :
    RB (runPc cfg n s pc).mem (runPc cfg n s pc).imms (runPc cfg n s pc).levels k i snap Al :=
  -- a segment after the memtable insert writes no cell (`sync_insOf`), so the allowed cells stay what they are
  (runPc_ind cfg (fun s => RB s.mem s.imms s.levels k i snap Al) (fun s pc hs hp hy _ h =>
    RB.mono (rinv_other hs hp (found := none) h) (by
      rintro c (hc | ⟨q, hq⟩)
      · exact hc
      · rw [sync_insOf cfg hy] at hq; cases hq)) n s pc hr hs hp hy h).1

theorem putSync_rb (cfg : Cfg) (s : St) (k' : Key) (c' : Cell) (hw : cfg.wal = none) (hs : SInv cfg s)
    (hi : s.imms = []) (hc : s.compacting = false) {k : Key} {i : Nat} {snap : List Tab} {Al : Cell → Prop}
    (h : RB s.mem s.imms s.levels k i snap Al) :
    RB (s.putSync cfg k' c').mem (s.putSync cfg k' c').imms (s.putSync cfg k' c').levels k i snap
      (fun c => Al c ∨ (k' = k ∧ c = c')) := by
  obtain ⟨hrun, hsi, hpo⟩ := putSync_run cfg s k' c' hw hs
  rw [hrun]
  exact runPc_rb cfg 4 _ _ (by show 3 ≤ 4; decide) hsi hpo ⟨hi, hc⟩ (rinv_memInsert (found := none) h k' c')

theorem applyWrites_rb (cfg : Cfg) (hw : cfg.wal = none) :
    ∀ (w : KV) (st : St), SInv cfg st → st.imms = [] → st.compacting = false →
    ∃ st', applyWrites (.lsm cfg st) w = .lsm cfg st' ∧
      ∀ (k : Key) (i : Nat) (snap : List Tab) (Al : Cell → Prop), RB st.mem st.imms st.levels k i snap Al →
        RB st'.mem st'.imms st'.levels k i snap (fun c => Al c ∨ ∃ e ∈ w, e.1 = k ∧ c = some e.2)
  | [], st, _, _, _ => ⟨st, rfl, fun _ _ _ _ h => RB.mono h fun c hc => Or.inl hc⟩
  | e :: r, st, hs, hi, hc => by
    obtain ⟨a, b, d, _⟩ := putSync_spec cfg st e.1 (some e.2) hw hs hi hc
    obtain ⟨st', h1, h2⟩ := applyWrites_rb cfg hw r (st.putSync cfg e.1 (some e.2)) a b d
    refine ⟨st', h1, fun k i snap Al h => RB.mono (h2 k i snap _ (putSync_rb cfg st e.1 (some e.2) hw hs hi hc h)) ?_⟩
    rintro c ((hc | ⟨hk, hc⟩) | ⟨x, hx, hk, hc⟩)
    · exact Or.inl hc
    · exact Or.inr ⟨e, List.mem_cons_self .., hk, hc⟩
    · exact Or.inr ⟨x, List.mem_cons_of_mem _ hx, hk, hc⟩

/-- the same for a `get` wherever it stands: suspended at a page read it is `applyWrites_rb`; before its first
    segment, or with its answer in hand, only the current value matters, and that is the old one or a written one -/
theorem applyWrites_getAl (cfg : Cfg) (hw : cfg.wal = none) (w : KV) (st : St) (hs : SInv cfg st) (hi : st.imms = [])
    (hc : st.compacting = false) :
    ∃ st', applyWrites (.lsm cfg st) w = .lsm cfg st' ∧ ∀ (k : Key) (Al : Cell → Prop) (p : SPc), SGetAl st k Al p →
      SGetAl st' k (fun c => Al c ∨ ∃ e ∈ w, e.1 = k ∧ c = some e.2) p := by
  obtain ⟨st', b1, b2⟩ := applyWrites_rb cfg hw w st hs hi hc
  refine ⟨st', b1, fun k Al p h => ?_⟩
  have habs : Al (st.abs k) → Al (st'.abs k) ∨ ∃ e ∈ w, e.1 = k ∧ st'.abs k = some e.2 := fun hal => by
    have e := (applyWrites_spec lsm_mapLaws w (.lsm cfg st) (Store.lsm cfg st).getSync ⟨cfg, st, rfl, hw, hs, hi, hc⟩
      fun _ => rfl).2 k
    rw [b1] at e
    rw [show st'.abs k = _ from e]
    exact (applyF_cases _ w k).imp_left fun e' => by rw [e']; exact hal
  exact h.lift (fun _ => .inl) habs fun i snap => b2 k i snap Al

/-- fetching `c` now is as good as fetching the current value, for a snapshot at version `n` -/
def SV (tm : TM) (n : Nat) (k : Key) (c : Option Nat) : Prop :=
  snapshotValue n k c tm.log = snapshotValue n k (tm.store.getSync k) tm.log

theorem sv_refl (tm : TM) (n : Nat) (k : Key) : SV tm n k (tm.store.getSync k) := rfl

theorem sv_congr {tm tm' : TM} (h1 : tm'.store = tm.store) (h2 : tm'.log = tm.log) {n : Nat} {k : Key} {c : Option Nat}
    (h : SV tm n k c) : SV tm' n k c := by
  unfold SV at *; rw [h1, h2]; exact h

/-- after a commit (one more log entry, `n` not above the old version): every cell that was good, and every
    cell the commit wrote to `k`, is good -/
theorem sv_commit {tm tm' : TM} {slot : Nat} {tx : Tx} (hc : CommitOk tm slot tx tm') {ok : Store → Prop}
    (L : MapLaws ok) (hok : ok tm.store) {n : Nat} (hn : n ≤ tm.version) {k : Key} {c : Option Nat}
    (h : SV tm n k c ∨ ∃ e ∈ tx.wset, e.1 = k ∧ c = some e.2) : SV tm' n k c := by
  unfold SV
  rw [hc.log, snapshotValue_append, snapshotValue_append, snapshotValue_commitEntry tx hn,
    snapshotValue_commitEntry tx hn]
  split
  · -- the new entry answers for `k`, whatever was fetched
    rfl
  · next hk =>
    rw [hc.store, applyWrites_notin L hok hk]
    rcases h with h | ⟨e, he, hek, _⟩
    · exact h
    · exact absurd (hek ▸ List.mem_map_of_mem he) hk

end HappyModel.C14.SM.LM
