import HappyProofs.C17.MLInv
import HappyProofs.C17.MLProg
/-!
Last-writer-wins on a mesh as an instance of `LN`: the view of a state is the state itself.
-/
namespace HappyModel.C17.ML
open HappyModel.C17.LN (Res AeShape StepShape)

def St.res (s : St) : Res := ⟨takes s.n, fun _ inc => inc, peersOf s, fun node peer => peer != node⟩

def sig : LN.Sig St where
  view s := s
  spawn := St.spawn
  setProc := St.setProc
  send := St.send
  reply := St.reply
  fail := St.fail
  setNow s t := { s with now := t }
  setClock s c := { s with clock := c }
  setMsgs s m := { s with msgs := m }
  setVer := St.setVer
  res := St.res
  aeLoop := aeLoop
  noLink _ node peer := peer = node
  noLinkDec _ _ _ := inferInstance
  answers s s1 p := p.kind = .aereq ∧ !(sameMap s.nk p.hash (s1.store p.node))
  answersDec _ _ _ := inferInstance

theorem step_prog (s : St) (a : Act) : step s a = LN.step sig s a := by cases a <;> rfl

theorem sig_laws : sig.Laws :=
  ⟨fun _ _ => rfl, fun _ _ _ => rfl, fun _ _ => rfl, fun _ _ _ => rfl, fun _ _ => rfl, fun _ _ => rfl, fun _ _ => rfl,
   fun _ _ => rfl, fun _ _ _ _ => rfl, fun _ _ _ _ => rfl, fun _ _ => rfl, fun _ _ => rfl, fun _ _ => rfl, fun _ _ _ _ _ => rfl,
   fun _ _ _ => bne_iff_ne.symm,
   fun _ _ _ h => h.1⟩

theorem step_shape (s : St) (a : Act) : StepShape s.res s a (step s a) :=
  step_prog s a ▸ (LN.step_does sig_laws sig.keeps_true s a).1

theorem step_n (s : St) (a : Act) : (step s a).n = s.n := (step_shape s a).n

theorem run_n (s : St) : ∀ acts, (run s acts).n = s.n
  | [] => rfl
  | a :: as => by rw [run, run_n (step s a) as, step_n]

theorem core_spawn (s : St) (p : Proc) : (s.spawn p).core = s.core.spawn p := rfl
theorem core_send (s : St) (m : Msg) : (s.send m).core = s.core.send m := rfl
theorem core_fail (s : St) (e : String) : (s.fail e).core = s.core := rfl

/-- the version a client write delivered now to `node` would be stamped with -/
def stamp (s : St) (node v : Nat) : Version := ⟨v, s.now, node, vcTick s.n (s.clock node) node⟩

theorem step_inv {P} (s : St) (a : Act) (hc : ∀ k, Coherent s.n (P k)) (h : Inv P s)
    (hP : ∀ op node k v, a = .cw op node k v → node < s.n → P k (stamp s node v)) : Inv P (step s a) := by
  have hcur : ∀ i k u, s.vers i k = some u → P k u := fun i k u hu => h.written_P (h.versW i k u hu)
  refine inv_iff.2 (LN.step_cov (fun _ _ _ hW => hW) (step_shape s a) (inv_iff.1 h) id hP (fun i k inc hw w e => ?_)
    (fun i k inc hw => ⟨ge_merge_self (hc k) (hcur i k) (h.written_P hw), fun _ => ge_merge (hc k) (hcur i k) (h.written_P hw)⟩)
    (fun i k _ hw ht => ge_of_not_takes (hc k) (hcur i k) (h.written_P hw) ht)
    (fun _ _ hi e => List.mem_filter.mpr ⟨List.mem_range.mpr hi, bne_iff_ne.mpr e⟩))
  -- what `_install` leaves is the incoming version or the one held
  have e : mergeOpt s.n (s.vers i k) inc = some w := e
  unfold mergeOpt at e
  split at e
  · cases e; exact hw
  · exact h.versW i k w e

/-- the (key, version) pair stamped by one action (a client write at an existing leader), if any -/
def newOf (s : St) : Act → List (Nat × Version)
  | .cw _ node k v => if node < s.n then [(k, stamp s node v)] else []
  | _ => []

/-- the (key, version) pairs stamped by the client writes of a run, in order -/
def created (s : St) : List Act → List (Nat × Version)
  | [] => []
  | a :: as => newOf s a ++ created (step s a) as

theorem run_inv {P} : ∀ (acts : List Act) (s : St), (∀ k, Coherent s.n (P k)) → Inv P s →
    (∀ kv, kv ∈ created s acts → P kv.1 kv.2) → Inv P (run s acts)
  | [], _, _, h, _ => h
  | a :: as, s, hc, h, hP => by
    rw [run]
    refine run_inv as (step s a) (by rw [step_n]; exact hc) (step_inv s a hc h ?_) ?_
    · intro op node k v ha hn
      subst ha
      apply hP (k, stamp s node v)
      simp [created, newOf, hn]
    · intro kv hkv
      apply hP kv
      simp only [created, List.mem_append]
      exact Or.inr hkv

theorem init_inv {P} (n nk : Nat) : Inv P (init n nk) := by
  refine ⟨fun _ _ => rfl, fun _ _ => rfl, ?_, ?_, fun _ _ => rfl, ?_, ?_, ?_⟩
  · intro pid p hp; cases hp
  · intro i k v hv; cases hv
  · intro mid m hm; cases hm
  · intro pid p hp; cases hp
  · intro pid p hp; cases hp

end HappyModel.C17.ML
