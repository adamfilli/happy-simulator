import HappyProofs.C08.IndusProps
/-!
# C08 part 3 — soundness of the judge, reneging component: no item lost, FIFO

Every theorem quantifies over all transcripts; the right-hand sides are folds over the observations.
-/
namespace HappyModel.C08.Indus


/-- ids that left through the reneged side, latest first (function of the observations only): delivered to
the reneged sink, or — no reneged target configured — reported as reneged by the worker (counted, discarded) -/
def renStep (rt : Bool) (r : List Nat) (o : Obs) : List Nat :=
  match o.act, o.res with
  | .rdone id, _ => id :: r
  | .work id, .renege => if rt then r else id :: r
  | _, _ => r

def renFold (rt : Bool) : List Nat → List Obs → List Nat
  | r, [] => r
  | r, o :: rest => renFold rt (renStep rt r o) rest

/-- the populations an accepted id of the reneging component can be in -/
def wher (j : Book) (x : Nat) : Prop :=
  x ∈ j.waiting.map (·.id) ∨ x ∈ j.transit.map (·.id) ∨ x ∈ j.svc.ids ∨ x ∈ j.finished ∨ x ∈ j.done ∨
    x ∈ j.rpending ∨ x ∈ j.rdone

/-- every transition moves at most the id the observation names from one population to the next; once
`simp only` has spelt the populations out, what is left is propositional -/
theorem reneging_step {cfg : Cfg} {j j' : Book} {o : Obs} (hc : cfg.comp = .reneging) (x : Nat)
    (h : judgeObs cfg j o = .ok j') :
    (wher j x → wher j' x) ∧ (∀ p, o.act = .offer x p → o.res = .acc → wher j' x) ∧
    j'.rdone = renStep cfg.rtarget j.rdone o := by
  obtain ⟨-, j1, hact, rfl, -, -⟩ := judgeObs_ok h
  clear h
  simp only [judgeAct, hc] at hact
  replace hact := judgeReneging_ok hact
  cases hact
  all_goals simp only [wher, svcStep, doneStep, renStep, *, if_true, Bool.false_eq_true, if_false, List.map_append,
    List.mem_append, List.map_cons, List.mem_cons, List.map_nil, List.mem_nil_iff, or_false]
  all_goals
    have := @mem_filter_ne j.transit x
    grind

theorem judge_sound_reneging_gen (cfg : Cfg) (hc : cfg.comp = .reneging) (x : Nat) :
    ∀ (obs : List Obs) (j : Book) (i : Nat), judgeRun cfg j i obs = none →
      (wher j x → x ∈ doneFold j.done obs ∨ x ∈ renFold cfg.rtarget j.rdone obs) ∧
      (∀ o ∈ obs, (∃ p, o.act = .offer x p ∧ o.res = .acc) →
        x ∈ doneFold j.done obs ∨ x ∈ renFold cfg.rtarget j.rdone obs) := by
  refine fun obs j i h => judgeRun_tracks (I := fun _ => True) (W := (wher · x))
    (G := fun j obs => x ∈ doneFold j.done obs ∨ x ∈ renFold cfg.rtarget j.rdone obs) ?_ ?_ obs j i h trivial
  · intro j he _ hw
    obtain ⟨h1, h2, h3, h4, h5⟩ := endCheck_pr (.inr hc) he
    unfold wher at hw
    rw [h1, h2, h3, h4, h5] at hw
    simpa [doneFold, renFold] using hw
  · intro j j' o rest hj _
    obtain ⟨hk, hn, hr⟩ := reneging_step hc x hj
    exact ⟨trivial, hk, fun ⟨p, ha, hres⟩ => hn p ha hres, fun h => by rw [judgeObs_done hj, hr] at h; exact h⟩

theorem renFold_mem {rt : Bool} {x : Nat} : ∀ (obs : List Obs) (r : List Nat), x ∈ renFold rt r obs →
    x ∈ r ∨ (∃ o ∈ obs, o.act = .rdone x) ∨ (rt = false ∧ ∃ o ∈ obs, o.act = .work x ∧ o.res = .renege) := by
  intro obs
  induction obs with
  | nil => intro r h; exact .inl h
  | cons o rest ih =>
    intro r h
    rcases ih _ h with h | ⟨o', ho', h⟩ | ⟨hrt, o', ho', h⟩
    · unfold renStep at h
      split at h
      · rcases List.mem_cons.1 h with rfl | h
        · exact .inr (.inl ⟨o, List.mem_cons_self, ‹_›⟩)
        · exact .inl h
      · split at h
        · exact .inl h
        · rcases List.mem_cons.1 h with rfl | h
          · exact .inr (.inr ⟨by simpa using ‹¬rt = true›, o, List.mem_cons_self, ‹_›, ‹_›⟩)
          · exact .inl h
      · exact .inl h
    · exact .inr (.inl ⟨o', List.mem_cons_of_mem _ ho', h⟩)
    · exact .inr (.inr ⟨hrt, o', List.mem_cons_of_mem _ ho', h⟩)

/-- **Soundness (no item lost, reneging).** If the judge accepts a whole transcript of the reneging component
including its end check, then every id whose offer was answered `acc` reached the sink, or was delivered to
the reneged sink, or — no reneged target configured — was reported as reneged by the worker. -/
theorem judge_sound_reneging_none_lost (cfg : Cfg) (hc : cfg.comp = .reneging) (obs : List Obs)
    (h : judgeRun cfg {} 0 obs = none) :
    ∀ o ∈ obs, ∀ id p, o.act = .offer id p → o.res = .acc →
      id ∈ doneFold [] obs ∨ (∃ o' ∈ obs, o'.act = .rdone id) ∨
      (cfg.rtarget = false ∧ ∃ o' ∈ obs, o'.act = .work id ∧ o'.res = .renege) := by
  intro o ho id p ha hr
  rcases (judge_sound_reneging_gen cfg hc id obs {} 0 h).2 o ho ⟨p, ha, hr⟩ with h1 | h1
  · exact .inl h1
  · rcases renFold_mem obs [] h1 with h2 | h2 | h2
    · cases h2
    · exact .inr (.inl h2)
    · exact .inr (.inr h2)

/-- accepted: item 0 is served, item 1 reneges and is delivered to the reneged sink -/
example : judgeRun { comp := .reneging, limit := 1 } {} 0
    [⟨0, .offer 0 (some 1000), .acc, [1, 1, 0, 0, 0, 0], false⟩, ⟨0, .offer 1 (some 1000), .acc, [2, 2, 0, 0, 0, 0], false⟩,
     ⟨0, .deq, .got 0, [1, 2, 0, 0, 0, 0], false⟩, ⟨0, .work 0, .start, [1, 2, 0, 1, 0, 1], false⟩,
     ⟨4000, .fin 0, .dash, [1, 2, 0, 1, 0, 0], false⟩, ⟨4000, .deq, .got 1, [0, 2, 0, 1, 0, 0], false⟩,
     ⟨4000, .work 1, .renege, [0, 2, 0, 1, 1, 0], false⟩, ⟨4000, .done 0, .dash, [0, 2, 0, 1, 1, 0], false⟩,
     ⟨4000, .rdone 1, .dash, [0, 2, 0, 1, 1, 0], false⟩] = none := by decide +kernel

/-- rejected: the reneged item never reaches the reneged sink … -/
example : judgeRun { comp := .reneging, limit := 1 } {} 0
    [⟨0, .offer 0 (some 1000), .acc, [1, 1, 0, 0, 0, 0], false⟩, ⟨0, .offer 1 (some 1000), .acc, [2, 2, 0, 0, 0, 0], false⟩,
     ⟨0, .deq, .got 0, [1, 2, 0, 0, 0, 0], false⟩, ⟨0, .work 0, .start, [1, 2, 0, 1, 0, 1], false⟩,
     ⟨4000, .fin 0, .dash, [1, 2, 0, 1, 0, 0], false⟩, ⟨4000, .deq, .got 1, [0, 2, 0, 1, 0, 0], false⟩,
     ⟨4000, .work 1, .renege, [0, 2, 0, 1, 1, 0], false⟩, ⟨4000, .done 0, .dash, [0, 2, 0, 1, 1, 0], false⟩]
    = some "indus/reneging/item-lost at-end" := by decide +kernel

/-- … and a run that ends with an accepted item still in the queue (worker busy) is rejected as well -/
example : judgeRun { comp := .reneging, limit := 1 } {} 0
    [⟨0, .offer 0 none, .acc, [1, 1, 0, 0, 0, 0], false⟩, ⟨0, .offer 1 none, .acc, [2, 2, 0, 0, 0, 0], false⟩,
     ⟨0, .deq, .got 0, [1, 2, 0, 0, 0, 0], false⟩, ⟨0, .work 0, .start, [1, 2, 0, 1, 0, 1], false⟩]
    = some "indus/reneging/item-lost at-end" := by decide +kernel


/-- ids accepted into the queue, in offer order (function of the observations only) -/
def accStep (a : List Nat) (o : Obs) : List Nat :=
  match o.act, o.res with
  | .offer id _, .acc => a ++ [id]
  | _, _ => a

/-- ids handed out by the queue, in dequeue order (function of the observations only) -/
def deqStep (d : List Nat) (o : Obs) : List Nat :=
  match o.act, o.res with
  | .deq, .got id => d ++ [id]
  | _, _ => d

def accFold : List Nat → List Obs → List Nat
  | a, [] => a
  | a, o :: r => accFold (accStep a o) r

def deqFold : List Nat → List Obs → List Nat
  | d, [] => d
  | d, o :: r => deqFold (deqStep d o) r

theorem reneging_fifo_step {cfg : Cfg} {j j' : Book} {o : Obs} (hc : cfg.comp = .reneging)
    (h : judgeObs cfg j o = .ok j') (d : List Nat) :
    accStep (d ++ j.waiting.map (·.id)) o = deqStep d o ++ j'.waiting.map (·.id) := by
  obtain ⟨-, j1, hact, rfl, -, -⟩ := judgeObs_ok h
  simp only [judgeAct, hc] at hact
  cases judgeReneging_ok hact
  all_goals simp only [*, accStep, deqStep, List.map_append, List.map_cons, List.map_nil, List.append_assoc,
    List.cons_append, List.nil_append]

theorem judge_sound_reneging_fifo_gen (cfg : Cfg) (hc : cfg.comp = .reneging) :
    ∀ (obs : List Obs) (j : Book) (i : Nat) (d : List Nat), judgeRun cfg j i obs = none →
      deqFold d obs = accFold (d ++ j.waiting.map (·.id)) obs ∧
      ∀ k, deqFold d (obs.take k) <+: accFold (d ++ j.waiting.map (·.id)) (obs.take k) := by
  intro obs
  induction obs with
  | nil =>
    intro j i d h
    simp [accFold, deqFold, (endCheck_pr (.inr hc) (judgeRun_nil h)).2.2.2.2]
  | cons o rest ih =>
    intro j i d h
    obtain ⟨j', hj, h⟩ := judgeRun_cons h
    have := ih j' (i + 1) (deqStep d o) h
    rw [← reneging_fifo_step hc hj d] at this
    refine ⟨this.1, fun k => ?_⟩
    cases k with
    | zero => exact List.prefix_append _ _
    | succ k => exact this.2 k

/-- **Soundness (FIFO, reneging).** If the judge accepts a whole transcript of the reneging component, then
after every prefix the ids the queue handed out (`deq → got id`) are, in this order, an initial segment of the
ids it accepted (`offer id → acc`); at the end the two sequences are equal (every accepted id was dequeued). -/
theorem judge_sound_reneging_fifo (cfg : Cfg) (hc : cfg.comp = .reneging) (obs : List Obs)
    (h : judgeRun cfg {} 0 obs = none) :
    deqFold [] obs = accFold [] obs ∧ ∀ k, deqFold [] (obs.take k) <+: accFold [] (obs.take k) :=
  judge_sound_reneging_fifo_gen cfg hc obs {} 0 [] h

/-- accepted: two items dequeued in offer order (both workers free) -/
example : judgeRun { comp := .reneging, limit := 2 } {} 0
    [⟨0, .offer 0 none, .acc, [1, 1, 0, 0, 0, 0], false⟩, ⟨0, .offer 1 none, .acc, [2, 2, 0, 0, 0, 0], false⟩,
     ⟨0, .deq, .got 0, [1, 2, 0, 0, 0, 0], false⟩, ⟨0, .work 0, .start, [1, 2, 0, 1, 0, 1], false⟩,
     ⟨0, .deq, .got 1, [0, 2, 0, 1, 0, 1], false⟩, ⟨0, .work 1, .start, [0, 2, 0, 2, 0, 2], false⟩,
     ⟨5, .fin 0, .dash, [0, 2, 0, 2, 0, 1], false⟩, ⟨5, .done 0, .dash, [0, 2, 0, 2, 0, 1], false⟩,
     ⟨6, .fin 1, .dash, [0, 2, 0, 2, 0, 0], false⟩, ⟨6, .done 1, .dash, [0, 2, 0, 2, 0, 0], false⟩] = none := by decide +kernel

/-- rejected: the queue hands out the younger item first -/
example : judgeRun { comp := .reneging, limit := 2 } {} 0
    [⟨0, .offer 0 none, .acc, [1, 1, 0, 0, 0, 0], false⟩, ⟨0, .offer 1 none, .acc, [2, 2, 0, 0, 0, 0], false⟩,
     ⟨0, .deq, .got 1, [1, 2, 0, 0, 0, 0], false⟩]
    = some "indus/reneging/order at-line 2" := by decide +kernel

end HappyModel.C08.Indus
