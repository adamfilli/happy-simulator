import HappyModel.C19.Outbox
/-!
Flow of relay events through the engine's heap, for both variants of the OutboxRelay model: what the
downstream has received, followed by what is still in the heap, is what was sent (`run_flow`).
-/
namespace HappyModel.C19.Outbox
open List

def ids (l : List (Nat × Nat)) : List Nat := l.map Prod.fst

theorem ids_append (a b : List (Nat × Nat)) : ids (a ++ b) = ids a ++ ids b := by simp [ids]

/-- a piece of a segment that only sends: nothing received, the heap grows by what was sent -/
def Sends (s : St) (r : St × List Ev) : Prop :=
  evGots r.2 = [] ∧ ids r.1.flight = ids s.flight ++ evEmits r.2

theorem evEmits_append (a b : List Ev) : evEmits (a ++ b) = evEmits a ++ evEmits b := by
  induction a with
  | nil => rfl
  | cons e es ih => cases e <;> simp [evEmits, ih]

theorem evGots_append (a b : List Ev) : evGots (a ++ b) = evGots a ++ evGots b := by
  induction a with
  | nil => rfl
  | cons e es ih => cases e <;> simp [evGots, ih]

theorem relayAll_sends (t : Nat) (l : List Nat) (s : St) : Sends s (relayAll t s l) := by
  induction l generalizing s with
  | nil => simp [Sends, relayAll, evGots, evEmits]
  | cons k ks ih =>
    have h := ih (relayOne t s k)
    simp only [Sends, relayAll, evGots, evEmits] at h ⊢
    refine ⟨h.1, ?_⟩
    rw [h.2]; simp [relayOne, ids]

theorem finish_sends (cfg : Cfg) (t : Nat) (s : St) : Sends s (finish cfg t s) := by
  unfold finish resched endCycle
  split <;> split <;> simp [Sends, evGots, evEmits, schedPoll]

theorem advance_sends (cfg : Cfg) (t p : Nat) (rest : List Nat) (s : St) :
    Sends s (advance cfg t s p rest) := by
  unfold advance
  split
  · have h1 := relayAll_sends t rest s
    have h2 := finish_sends cfg t (relayAll t s rest).1
    simp only [Sends] at h1 h2 ⊢
    refine ⟨by rw [evGots_append, h1.1, h2.1]; rfl, ?_⟩
    rw [h2.2, h1.2, evEmits_append, append_assoc]
  · cases rest with
    | nil => exact finish_sends cfg t s
    | cons k ks => simp [Sends, evGots, evEmits, relayOne, ids]

theorem pollStart_sends (cfg : Cfg) (t p : Nat) (s : St) : Sends s (pollStart cfg t s p) := by
  unfold pollStart
  split
  · have h := advance_sends cfg t p ((pendingFrom 1 s.flags).take cfg.batch)
      { s with scheduled := false, cycles := s.cycles + 1 }
    simp only [Sends, evGots, evEmits] at h ⊢
    exact h
  · split
    · simp [Sends, evGots, evEmits]
    · have h := advance_sends cfg t p ((pendingFrom 1 s.flags).take cfg.batch)
        { s with running := true, cycles := s.cycles + 1 }
      simp only [Sends, evGots, evEmits] at h ⊢
      exact h

theorem step_flow (cfg : Cfg) (s : St) (g : Seg) :
    evGots (step cfg s g).2 ++ ids (step cfg s g).1.flight = ids s.flight ++ evEmits (step cfg s g).2 := by
  obtain ⟨t, a⟩ := g
  have sends : ∀ r : St × List Ev, Sends s r → evGots r.2 ++ ids r.1.flight = ids s.flight ++ evEmits r.2 := by
    intro r h; rw [h.1, h.2]; rfl
  cases a with
  | write => simp [step, evGots, evEmits, ids]
  | prime => simp [step, evGots, evEmits, ids, schedPoll]
  | nudge => simp only [step]; split <;> simp [evGots, evEmits, ids, schedPoll]
  | poll p => exact sends _ (pollStart_sends cfg t p s)
  | resume p =>
    simp only [step]
    split
    · simp [evGots, evEmits]
    · rename_i r _
      exact sends _ (advance_sends cfg t p r.1 { s with polls := r.2 })
  | recv =>
    simp only [step]
    split
    · split <;> simp_all [evGots, evEmits, ids]
    · simp_all [evGots, evEmits, ids]
  | fin => simp [step, evGots, evEmits]

theorem run_flow (cfg : Cfg) (segs : List Seg) (s : St) :
    gotIds (run cfg s segs) ++ ids (runSt cfg s segs).flight = ids s.flight ++ emitIds (run cfg s segs) := by
  induction segs generalizing s with
  | nil => simp [run, runSt, gotIds, emitIds]
  | cons g gs ih =>
    simp only [run, runSt, gotIds, emitIds]
    rw [append_assoc, ih, ← append_assoc, step_flow, append_assoc]

end HappyModel.C19.Outbox
