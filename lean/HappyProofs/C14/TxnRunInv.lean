import HappyProofs.C14.TxnUpd
/-!
# Transactions at run level: the run invariant

`RInv ok init ops tm fs n tlog`: after `n` schedule positions the manager is `tm`, the frames are `fs` and the
timed ghost log is `tlog`.  A read suspended inside the store's `get` may sit at any `SPc`; what the store's
generator does there is the business of a side invariant (`Side`, `TxnLMach.lean`).

Namespace `LM` (this file, `TxnSegEff.lean`, `TxnLMach.lean`) holds the machine for ANY store: the name is that of
the LSM store, the kind that needs a suspended read at any `SPc`.  `SM.PcOK`, `SM.RInv` in `TxnMach.lean` are its
restriction to stores whose `get` only waits.
-/
namespace HappyModel.C14.SM.LM
open HappyModel.C14 HappyModel.C14.BT

def startedIn (fs : List (Frame TPc)) (id : Nat) : Bool :=
  match frameOf fs id with
  | some f => f.b.isSome
  | none => false

theorem startedIn_frame {fs : List (Frame TPc)} {id : Nat} (h : startedIn fs id = true) :
    ∃ g b, frameOf fs id = some g ∧ g.b = some b := by
  unfold startedIn at h
  split at h
  · next g hg =>
    obtain ⟨b, hb⟩ := Option.isSome_iff_exists.1 h
    exact ⟨g, b, hg, hb⟩
  · cases h

theorem startedIn_of {fs : List (Frame TPc)} {id : Nat} {g : Frame TPc} {b : Nat} (h : frameOf fs id = some g)
    (hb : g.b = some b) : startedIn fs id = true := by
  simp [startedIn, h, hb]

theorem not_startedIn_of {fs : List (Frame TPc)} {id : Nat} {g : Frame TPc} (h : frameOf fs id = some g)
    (hb : g.b = none) : startedIn fs id = false := by
  simp [startedIn, h, hb]

/-- the state of a started frame, by kind of operation (`b`: its first segment) -/
def PcOK (ops : List (Nat × TOp)) (tm : TM) (tlog : List (Nat × Ev)) (id b : Nat) (f : Frame TPc) : TOp → Prop
  | .begin s l => (∃ r, f.pc = .fin r ∨ f.pc = .done r) ∧ (b, Ev.began s) ∈ tlog ∧
      ∃ tx, tm.tx? s = some tx ∧ tx.level = l
  | .write _ _ _ => ∃ r, f.pc = .fin r ∨ f.pc = .done r
  | .abort _ => ∃ r, f.pc = .done r
  | .read s k =>
    (∃ j : SPc, f.pc = .rd s k j ∧ (wsetBefore ops id s).lookup k = none ∧
      ∃ tx, tm.tx? s = some tx ∧ k ∈ tx.rset) ∨
    (∃ c, f.pc = .done (.val c) ∧ (∀ v, (wsetBefore ops id s).lookup k = some v → c = some v) ∧
      ((wsetBefore ops id s).lookup k = none →
        ∃ m e, f.e = some e ∧ b ≤ m ∧ m ≤ e ∧ (m, Ev.fetched s k c) ∈ tlog))
  | .commit s => (f.pc = .fin (.flag true) ∨ ∃ fl, f.pc = .done (.flag fl)) ∧
      (f.pc = .fin (.flag true) ∨ f.pc = .done (.flag true) →
        (b, Ev.committed s (wsetBefore ops id s)) ∈ tlog)

theorem PcOK.mono {ops : List (Nat × TOp)} {tm tm' : TM} {tlog tlog' : List (Nat × Ev)} {id b : Nat}
    {f : Frame TPc} {op : TOp} (h : PcOK ops tm tlog id b f op) (le : TMle tm tm')
    (sub : ∀ x ∈ tlog, x ∈ tlog') : PcOK ops tm' tlog' id b f op := by
  cases op with
  | begin s l =>
    obtain ⟨h1, h2, tx, h3, h4⟩ := h
    obtain ⟨tx', g1, g2, _⟩ := le s tx h3
    exact ⟨h1, sub _ h2, tx', g1, by rw [g2, h4]⟩
  | write s k v => exact h
  | abort s => exact h
  | read s k =>
    rcases h with ⟨j, h1, h2, tx, h3, h4⟩ | ⟨c, h1, h2, h3⟩
    · obtain ⟨tx', g1, _, g3⟩ := le s tx h3
      exact .inl ⟨j, h1, h2, tx', g1, g3 k h4⟩
    · refine .inr ⟨c, h1, h2, fun hn => ?_⟩
      obtain ⟨m, e, g1, g2, g3, g4⟩ := h3 hn
      exact ⟨m, e, g1, g2, g3, sub _ g4⟩
  | commit s => exact ⟨h.1, fun hp => sub _ (h.2 hp)⟩

theorem pcOK_rd {ops : List (Nat × TOp)} {tm : TM} {tlog : List (Nat × Ev)} {id b : Nat} {f : Frame TPc} {op : TOp}
    (h : PcOK ops tm tlog id b f op) {s : Nat} {k : Key} {p : SPc} (hp : f.pc = .rd s k p) : op = .read s k := by
  -- every other clause of `PcOK` puts the frame at `.fin` or `.done`
  cases op <;> simp [PcOK, hp] at h
  obtain ⟨⟨rfl, rfl⟩, _⟩ := h
  rfl

structure FInv (ops : List (Nat × TOp)) (tm : TM) (tlog : List (Nat × Ev)) (n id : Nat) (op : TOp)
    (f : Frame TPc) : Prop where
  fresh : f.b = none → f.pc = .start op
  blt : ∀ b, f.b = some b → b < n
  fin : ∀ b, f.b = some b → f.pc.isDone = true → ∃ e, f.e = some e ∧ b ≤ e ∧ e < n
  kind : ∀ b, f.b = some b → PcOK ops tm tlog id b f op

theorem FInv.mono {ops : List (Nat × TOp)} {tm tm' : TM} {tlog tlog' : List (Nat × Ev)} {n n' id : Nat}
    {f : Frame TPc} {op : TOp} (h : FInv ops tm tlog n id op f) (le : TMle tm tm')
    (sub : ∀ x ∈ tlog, x ∈ tlog') (hn : n ≤ n') : FInv ops tm' tlog' n' id op f where
  fresh := h.fresh
  blt b hb := Nat.lt_of_lt_of_le (h.blt b hb) hn
  fin b hb hd := by
    obtain ⟨e, h1, h2, h3⟩ := h.fin b hb hd
    exact ⟨e, h1, h2, Nat.lt_of_lt_of_le h3 hn⟩
  kind b hb := (h.kind b hb).mono le sub

structure RInv (ok : Store → Prop) (init : Key → Option Nat) (ops : List (Nat × TOp)) (tm : TM)
    (fs : List (Frame TPc)) (n : Nat) (tlog : List (Nat × Ev)) : Prop where
  inv : Inv ok init tm (tlog.map (·.2))
  inv2 : Inv2 init tm (tlog.map (·.2))
  times : (tlog.map (·.1)).Pairwise (· < ·)
  tlt : ∀ x ∈ tlog, x.1 < n
  ids : fs.map (·.id) = ops.map (·.1)
  frames : ∀ id f op, frameOf fs id = some f → ops.lookup id = some op → FInv ops tm tlog n id op f
  seq : ∀ pre o post f b, ops = pre ++ o :: post → frameOf fs o.1 = some f → f.b = some b →
    ∀ a ∈ pre, a.2.slot = o.2.slot →
      ∃ g e, frameOf fs a.1 = some g ∧ g.pc.isDone = true ∧ g.e = some e ∧ e < b
  /-- for the first unstarted operation of a slot the manager's write set is the program's (`startedIn`, not `doneIn`:
      a `write` moves `curW` in its first segment, `Upd.w`) -/
  front : ∀ pre o post, ops = pre ++ o :: post → startedIn fs o.1 = false →
    (∀ a ∈ pre, a.2.slot = o.2.slot → startedIn fs a.1 = true) →
    curW tm o.2.slot = wsetBefore ops o.1 o.2.slot
  /-- a finished transaction has its `commit` / `abort` started, a record its `begin` -/
  stat : ∀ s tx, tm.tx? s = some tx → tx.stat ≠ .active →
    ∃ o ∈ ops, o.2.slot = s ∧ o.2.isEnd = true ∧ startedIn fs o.1 = true
  hasB : ∀ s tx, tm.tx? s = some tx → ∃ o ∈ ops, o.2.slot = s ∧ o.2.isBegin = true ∧ startedIn fs o.1 = true
  /-- every `committed` event is that of a `commit` frame that started at its time and answered `true` -/
  cev : ∀ m s w, (m, Ev.committed s w) ∈ tlog → ∃ id f, frameOf fs id = some f ∧
    ops.lookup id = some (.commit s) ∧ f.b = some m ∧ (f.pc = .fin (.flag true) ∨ f.pc = .done (.flag true)) ∧
    w = wsetBefore ops id s

/-- effect of a segment (position `n`) of operation `id` whose first segment is `b` (`n` itself, if this is the
    first): manager, program counter and ghost events after it -/
structure Eff (ok : Store → Prop) (init : Key → Option Nat) (ops : List (Nat × TOp)) (tlog : List (Nat × Ev))
    (n id b : Nat) (op : TOp) (tm' : TM) (pc' : TPc) (evs : List Ev) : Prop where
  inv : Inv ok init tm' (tlog.map (·.2) ++ evs)
  inv2 : Inv2 init tm' (tlog.map (·.2) ++ evs)
  one : evs.length ≤ 1
  pc : ∀ f' : Frame TPc, f'.pc = pc' → f'.e = (if pc'.isDone then some n else none) →
    PcOK ops tm' (tlog ++ evs.map fun e => (n, e)) id b f' op
  /-- only the first segment of a `commit` emits a `committed` event -/
  cev : ∀ s w, Ev.committed s w ∈ evs → b = n ∧ op = .commit s ∧ pc' = .fin (.flag true) ∧ w = wsetBefore ops id s

theorem Eff.silent {ok : Store → Prop} {init : Key → Option Nat} {ops : List (Nat × TOp)} {tlog : List (Nat × Ev)}
    {n id b : Nat} {op : TOp} {tm' : TM} {pc' : TPc} (hI : Inv ok init tm' (tlog.map (·.2) ++ []))
    (hI2 : Inv2 init tm' (tlog.map (·.2) ++ [])) (pc : ∀ f' : Frame TPc, f'.pc = pc' → PcOK ops tm' tlog id b f' op) :
    Eff ok init ops tlog n id b op tm' pc' [] :=
  ⟨hI, hI2, Nat.zero_le _, fun f' h _ => by rw [List.map_nil, List.append_nil]; exact pc f' h,
    fun _ _ h => absurd h List.not_mem_nil⟩

variable {ok : Store → Prop} {init : Key → Option Nat} {ops : List (Nat × TOp)} {tm tm' : TM}
  {fs : List (Frame TPc)} {n : Nat} {tlog : List (Nat × Ev)}

theorem RInv.done_info (R : RInv ok init ops tm fs n tlog) {i : Nat} {g : Frame TPc} {x : TOp}
    (hg : frameOf fs i = some g) (hl : ops.lookup i = some x) (hd : g.pc.isDone = true) :
    ∃ b e, g.b = some b ∧ g.e = some e ∧ b ≤ e ∧ e < n := by
  have F := R.frames i g x hg hl
  cases hb : g.b with
  | none =>
    rw [F.fresh hb] at hd
    cases hd
  | some b =>
    obtain ⟨e, h1, h2, h3⟩ := F.fin b hb hd
    exact ⟨b, e, rfl, h1, h2, h3⟩

/-- what holds when operation `(id, op)` is about to run its first segment -/
structure FirstFacts (ops : List (Nat × TOp)) (tm : TM) (fs : List (Frame TPc)) (n : Nat)
    (pre post : List (Nat × TOp)) (id : Nat) (op : TOp) : Prop where
  before : ∀ a ∈ pre, a.2.slot = op.slot →
    ∃ g b e, frameOf fs a.1 = some g ∧ g.b = some b ∧ g.pc.isDone = true ∧ g.e = some e ∧ e < n
  after : ∀ a ∈ post, a.2.slot = op.slot → startedIn fs a.1 = false
  wset : curW tm op.slot = wsetBefore ops id op.slot
  active : op.isBegin = false → ∃ tx, tm.tx? op.slot = some tx ∧ tx.stat = .active
  fresh : op.isBegin = true → tm.tx? op.slot = none

section unfinished
variable {pre post : List (Nat × TOp)} {id : Nat} {op : TOp} {f : Frame TPc}

theorem RInv.after (R : RInv ok init ops tm fs n tlog) (hsp : ops = pre ++ (id, op) :: post)
    (hf : frameOf fs id = some f) (hnd : f.pc.isDone = false) :
    ∀ a ∈ post, a.2.slot = op.slot → startedIn fs a.1 = false := by
  intro a ha hs
  cases hst : startedIn fs a.1 with
  | false => rfl
  | true =>
    obtain ⟨g, b, hg, hgb⟩ := startedIn_frame hst
    obtain ⟨q1, q2, hq⟩ := List.append_of_mem ha
    have hsp2 : ops = (pre ++ (id, op) :: q1) ++ a :: q2 := by rw [hsp, hq, List.append_assoc, List.cons_append]
    obtain ⟨g0, e, h1, h2, _⟩ :=
      R.seq _ a _ g b hsp2 hg hgb (id, op) (List.mem_append_right _ List.mem_cons_self) hs.symm
    rw [hf] at h1
    cases h1
    rw [hnd] at h2
    cases h2

/-- the end of a transaction is the last operation of its slot: while an operation is not done (and, if it is a
    `commit` or `abort`, not started), its transaction is active -/
theorem RInv.active (R : RInv ok init ops tm fs n tlog) (hwf : WFProg ops) (hsp : ops = pre ++ (id, op) :: post)
    (hf : frameOf fs id = some f) (hnd : f.pc.isDone = false) (hself : op.isEnd = true → startedIn fs id = false)
    {tx : Tx} (htx : tm.tx? op.slot = some tx) : tx.stat = .active := by
  cases hst : tx.stat with
  | active => rfl
  | _ =>
    all_goals
      exfalso
      obtain ⟨eo, heo, he1, he2, he3⟩ := R.stat op.slot tx htx (by rw [hst]; intro h; cases h)
      have hord := hwf.order
      rw [hsp] at hord heo
      rcases List.mem_append.1 heo with h | h
      · have := ((pairwise_split hord).1 eo h he1).2
        rw [this] at he2
        cases he2
      · rcases List.mem_cons.1 h with h | h
        · subst h
          rw [hself he2] at he3
          cases he3
        · rw [R.after hsp hf hnd eo h he1] at he3
          cases he3

end unfinished

theorem RInv.first_facts (R : RInv ok init ops tm fs n tlog) (hwf : WFProg ops)
    {pre post : List (Nat × TOp)} {id : Nat} {op : TOp} {f : Frame TPc}
    (hsp : ops = pre ++ (id, op) :: post) (hf : frameOf fs id = some f) (hb : f.b = none)
    (hdone : ∀ a ∈ pre, a.2.slot = op.slot → doneIn fs a.1 = true) :
    FirstFacts ops tm fs n pre post id op := by
  have hlk : ops.lookup id = some op := lookup_of_split hwf.ids hsp
  have hns : startedIn fs id = false := not_startedIn_of hf hb
  have hnd : f.pc.isDone = false := by rw [(R.frames id f op hf hlk).fresh hb]; rfl
  obtain ⟨ord1, ord2⟩ := pairwise_split (hsp ▸ hwf.order)
  have before : ∀ a ∈ pre, a.2.slot = op.slot →
      ∃ g b e, frameOf fs a.1 = some g ∧ g.b = some b ∧ g.pc.isDone = true ∧ g.e = some e ∧ e < n := by
    intro a ha hs
    obtain ⟨g, hg, hd⟩ := doneIn_frame (hdone a ha hs)
    obtain ⟨b, e, h1, h2, _, h4⟩ :=
      R.done_info hg (mem_lookup hwf.ids (hsp ▸ List.mem_append_left _ ha)) hd
    exact ⟨g, b, e, hg, h1, hd, h2, h4⟩
  have after := R.after hsp hf hnd
  have hmem : ∀ x ∈ ops, x ∈ pre ∨ x = (id, op) ∨ x ∈ post := fun x hx => mem_split (hsp ▸ hx)
  refine ⟨before, after, R.front pre (id, op) post hsp hns fun a ha hs => ?_, fun hbg => ?_, fun hbg => ?_⟩
  · obtain ⟨g, b, _, hg, hgb, _⟩ := before a ha hs
    exact startedIn_of hg hgb
  · -- the `begin` of the slot is declared before `op`, hence done: the record exists
    obtain ⟨bo, hbo, hb1, hb2⟩ := hwf.begun (id, op) (hsp ▸ List.mem_append_right _ List.mem_cons_self) hbg
    have hbpre : bo ∈ pre := by
      rcases hmem bo hbo with h | h | h
      · exact h
      · rw [h] at hb1; exact absurd (hbg.symm.trans hb1) Bool.false_ne_true
      · exact absurd ((ord2 bo h hb2.symm).1.symm.trans hb1) Bool.false_ne_true
    obtain ⟨g, b, _, hg, hgb, _⟩ := before bo hbpre hb2
    have K := (R.frames bo.1 g bo.2 hg (mem_lookup hwf.ids hbo)).kind b hgb
    obtain ⟨l, hl⟩ := TOp.eq_begin hb1
    rw [hl] at K
    obtain ⟨_, _, tx, htx, _⟩ := K
    rw [hb2] at htx
    exact ⟨tx, htx, R.active hwf hsp hf hnd (fun _ => hns) htx⟩
  · -- a record would have been created by a started `begin` of the slot: there is none
    cases htx : tm.tx? op.slot with
    | none => rfl
    | some tx =>
      obtain ⟨bo, hbo, hb1, hb2, hb3⟩ := R.hasB op.slot tx htx
      rcases hmem bo hbo with h | h | h
      · exact absurd ((ord1 bo h hb1).1.symm.trans hbg) Bool.false_ne_true
      · rw [h, hns] at hb3; cases hb3
      · rw [after bo h hb1] at hb3; cases hb3

section next
variable {fs' : List (Frame TPc)} {id b : Nat} {op : TOp} {f : Frame TPc} {pc' : TPc} {evs : List Ev}

/-- The frame `f` of an unfinished operation is replaced by its successor.  Times, ids, the other frames, the
    other operations' part of `seq` and the old `committed` events are looked after here; what depends on whether
    the segment is the first (`b = n`) or a later one of the operation is asked of the caller. -/
theorem RInv.next (R : RInv ok init ops tm fs n tlog) (hwf : WFProg ops) (hlk : ops.lookup id = some op)
    (hf : frameOf fs id = some f) (hnd : f.pc.isDone = false)
    (hb : (Frame.next TPc.isDone f n pc').b = some b) (hbn : b ≤ n) (le : TMle tm tm')
    (E : Eff ok init ops tlog n id b op tm' pc' evs) (keep : f.pc = .fin (.flag true) → pc' = .done (.flag true))
    (hfs : ∀ id', frameOf fs' id' = if id' = id then some (Frame.next TPc.isDone f n pc') else frameOf fs id')
    (hids : fs'.map (·.id) = fs.map (·.id))
    (seq : ∀ pre post, ops = pre ++ (id, op) :: post → ∀ a ∈ pre, a.2.slot = op.slot →
      ∃ g e, frameOf fs a.1 = some g ∧ g.pc.isDone = true ∧ g.e = some e ∧ e < b)
    (front : ∀ pre o post, ops = pre ++ o :: post → startedIn fs' o.1 = false →
      (∀ a ∈ pre, a.2.slot = o.2.slot → startedIn fs' a.1 = true) → curW tm' o.2.slot = wsetBefore ops o.1 o.2.slot)
    (stat : ∀ s tx, tm'.tx? s = some tx → tx.stat ≠ .active →
      ∃ o ∈ ops, o.2.slot = s ∧ o.2.isEnd = true ∧ startedIn fs' o.1 = true)
    (hasB : ∀ s tx, tm'.tx? s = some tx → ∃ o ∈ ops, o.2.slot = s ∧ o.2.isBegin = true ∧ startedIn fs' o.1 = true) :
    RInv ok init ops tm' fs' (n + 1) (tlog ++ evs.map fun e => (n, e)) := by
  have hself : frameOf fs' id = some (Frame.next TPc.isDone f n pc') := by rw [hfs, if_pos rfl]
  have hoth : ∀ i, i ≠ id → frameOf fs' i = frameOf fs i := fun i hi => by rw [hfs, if_neg hi]
  have hne : ∀ {i g}, frameOf fs i = some g → g.pc.isDone = true → i ≠ id := fun hg hd h => by
    cases hf.symm.trans (h ▸ hg)
    exact absurd (hnd.symm.trans hd) Bool.false_ne_true
  obtain ⟨T1, T2⟩ := times_snoc R.times R.tlt E.one
  refine
    { inv := by rw [log_map_snd]; exact E.inv
      inv2 := by rw [log_map_snd]; exact E.inv2
      times := T1
      tlt := T2
      ids := by rw [hids]; exact R.ids
      frames := fun i g x hg hx => ?_
      seq := fun pre1 o1 post1 f1 b1 hsp1 hf1 hb1 a ha hs => ?_
      front := front
      stat := stat
      hasB := hasB
      cev := fun m s w hm => ?_ }
  · by_cases hi : i = id
    · subst hi
      cases hself.symm.trans hg
      cases hlk.symm.trans hx
      refine ⟨fun h => ?_, fun b' h => ?_, fun b' h hd => ?_, fun b' h => ?_⟩
      · cases hb.symm.trans h
      · cases hb.symm.trans h
        exact Nat.lt_succ_of_le hbn
      · cases hb.symm.trans h
        exact ⟨n, if_pos hd, hbn, Nat.lt_succ_self _⟩
      · cases hb.symm.trans h
        exact E.pc _ rfl rfl
    · rw [hoth i hi] at hg
      exact (R.frames i g x hg hx).mono le (fun x hx => List.mem_append_left _ hx) (Nat.le_succ n)
  · have keepg : ∀ {g e}, frameOf fs a.1 = some g → g.pc.isDone = true → g.e = some e → e < b1 →
        ∃ g e, frameOf fs' a.1 = some g ∧ g.pc.isDone = true ∧ g.e = some e ∧ e < b1 :=
      fun hg hd he hlt => ⟨_, _, by rw [hoth _ (hne hg hd)]; exact hg, hd, he, hlt⟩
    by_cases hi : o1.1 = id
    · obtain ⟨j, x⟩ := o1
      cases hi
      cases (lookup_of_split hwf.ids hsp1).symm.trans hlk
      cases hself.symm.trans hf1
      cases hb.symm.trans hb1
      obtain ⟨g, e, hg, hd, he, hlt⟩ := seq pre1 post1 hsp1 a ha hs
      exact keepg hg hd he hlt
    · rw [hoth _ hi] at hf1
      obtain ⟨g, e, hg, hd, he, hlt⟩ := R.seq pre1 o1 post1 f1 b1 hsp1 hf1 hb1 a ha hs
      exact keepg hg hd he hlt
  · rcases List.mem_append.1 hm with hm | hm
    · obtain ⟨i, g, h1, h2, h3, h4, h5⟩ := R.cev m s w hm
      by_cases hi : i = id
      · subst hi
        cases hf.symm.trans h1
        rcases h4 with h4 | h4
        · exact ⟨i, _, hself, h2, by simp [Frame.next, h3], .inr (by simp [Frame.next, keep h4]), h5⟩
        · rw [h4] at hnd; cases hnd
      · exact ⟨i, g, by rw [hoth _ hi]; exact h1, h2, h3, h4, h5⟩
    · obtain ⟨rfl, hev⟩ := mem_tag hm
      obtain ⟨rfl, h1, h2, h3⟩ := E.cev s w hev
      exact ⟨id, _, hself, by rw [hlk, h1], hb, .inl (by simp [Frame.next, h2]), h3⟩

theorem RInv.idle (R : RInv ok init ops tm fs n tlog) : RInv ok init ops tm fs (n + 1) tlog :=
  { R with
    tlt := fun x hx => Nat.lt_succ_of_lt (R.tlt x hx)
    frames := fun i g x hg hx => (R.frames i g x hg hx).mono (TMle.refl tm) (fun _ h => h) (Nat.le_succ n) }

theorem RInv.later (R : RInv ok init ops tm fs n tlog) (hwf : WFProg ops)
    (hlk : ops.lookup id = some op) (hf : frameOf fs id = some f) (hb : f.b = some b)
    (hnd : f.pc.isDone = false) (E : Eff ok init ops tlog n id b op tm pc' evs)
    (keep : f.pc = .fin (.flag true) → pc' = .done (.flag true))
    (hfs : ∀ id', frameOf fs' id' = if id' = id then some (Frame.next TPc.isDone f n pc') else frameOf fs id')
    (hids : fs'.map (·.id) = fs.map (·.id)) :
    RInv ok init ops tm fs' (n + 1) (tlog ++ evs.map fun e => (n, e)) := by
  have hf'b : (Frame.next TPc.isDone f n pc').b = some b := by simp [Frame.next, hb]
  have hst : ∀ i, startedIn fs' i = startedIn fs i := fun i => by
    by_cases h : i = id
    · rw [h, startedIn_of (by rw [hfs, if_pos rfl]) hf'b, startedIn_of hf hb]
    · simp only [startedIn, hfs, if_neg h]
  refine R.next hwf hlk hf hnd hf'b (Nat.le_of_lt ((R.frames id f op hf hlk).blt b hb)) (TMle.refl tm) E keep hfs hids
    (fun pre post hsp => R.seq pre (id, op) post f b hsp hf hb) (fun pre o post hsp hns hpre => ?_)
    (fun s tx htx hna => ?_) (fun s tx htx => ?_)
  · rw [hst] at hns
    exact R.front pre o post hsp hns fun a ha hsa => by rw [← hst]; exact hpre a ha hsa
  · obtain ⟨o, h1, h2, h3, h4⟩ := R.stat s tx htx hna
    exact ⟨o, h1, h2, h3, by rw [hst]; exact h4⟩
  · obtain ⟨o, h1, h2, h3, h4⟩ := R.hasB s tx htx
    exact ⟨o, h1, h2, h3, by rw [hst]; exact h4⟩

theorem RInv.first (R : RInv ok init ops tm fs n tlog) (hwf : WFProg ops) {pre post : List (Nat × TOp)}
    (hsp : ops = pre ++ (id, op) :: post) (hf : frameOf fs id = some f) (hb : f.b = none)
    (FF : FirstFacts ops tm fs n pre post id op) (U : Upd tm tm' op)
    (E : Eff ok init ops tlog n id n op tm' pc' evs)
    (hfs : ∀ id', frameOf fs' id' = if id' = id then some (Frame.next TPc.isDone f n pc') else frameOf fs id')
    (hids : fs'.map (·.id) = fs.map (·.id)) :
    RInv ok init ops tm' fs' (n + 1) (tlog ++ evs.map fun e => (n, e)) := by
  have hlk : ops.lookup id = some op := lookup_of_split hwf.ids hsp
  have hfp : f.pc = .start op := (R.frames id f op hf hlk).fresh hb
  have hnd : ((pre ++ (id, op) :: post).map (·.1)).Nodup := hsp ▸ hwf.ids
  have hf'b : (Frame.next TPc.isDone f n pc').b = some n := by simp [Frame.next, hb]
  have hst' : startedIn fs' id = true := startedIn_of (by rw [hfs, if_pos rfl]) hf'b
  have hsto : ∀ i, i ≠ id → startedIn fs' i = startedIn fs i := fun i hi => by
    simp only [startedIn, hfs, if_neg hi]
  have hmono : ∀ i, startedIn fs i = true → startedIn fs' i = true := fun i hi => by
    by_cases h : i = id
    · rw [h]; exact hst'
    · rw [hsto i h]; exact hi
  have hself : (id, op) ∈ ops := hsp ▸ List.mem_append_right _ List.mem_cons_self
  refine R.next hwf hlk hf (by rw [hfp]; rfl) hf'b (Nat.le_refl n) U.le E (fun h => by rw [hfp] at h; cases h) hfs hids
    (fun pre1 post1 hsp1 a ha hs => ?_) (fun pre1 o1 post1 hsp1 hns1 hpre1 => ?_)
    (fun s tx htx hna => ?_) (fun s tx htx => ?_)
  · obtain ⟨r1, _, _⟩ := split_unique hnd (hsp ▸ hsp1) rfl
    obtain ⟨g, b, e, hg, _, hd, he, hlt⟩ := FF.before a (r1 ▸ ha) hs
    exact ⟨g, e, hg, hd, he, hlt⟩
  · have hne : o1.1 ≠ id := fun h => by rw [h, hst'] at hns1; cases hns1
    rw [hsto _ hne] at hns1
    by_cases hs : o1.2.slot = op.slot
    · -- `o1` comes after `op` in the program and everything of the slot in between is unstarted: its write
      -- set is that before `op`, extended by `op`
      rcases mem_split (hsp1 ▸ hself) with h | h | h
      · obtain ⟨p1, mid, hp⟩ := List.append_of_mem h
        have hsp2 : pre ++ (id, op) :: post = p1 ++ (id, op) :: (mid ++ o1 :: post1) := by
          rw [← hsp, hsp1, hp]; simp
        obtain ⟨r1, _, r3⟩ := split_unique hnd hsp2 rfl
        subst r1
        have hmid : ∀ a ∈ mid, a.2.slot ≠ op.slot := by
          intro a ha hsa
          have hapost : a ∈ post := by rw [r3]; simp [ha]
          have h1 := hpre1 a (by rw [hp]; simp [ha]) (by rw [hsa, hs])
          rw [hsto _ ((split_notin hnd).2 a hapost), FF.after a hapost hsa] at h1
          cases h1
        rw [hs, wsetBefore_split hwf.ids hsp1, hp, List.foldl_append, List.foldl_cons,
          foldl_wstep_none _ _ _ hmid, wstep_eq, if_pos rfl, ← wsetBefore_split hwf.ids hsp, ← FF.wset]
        exact U.w
      · exact absurd (by rw [← h]) hne
      · obtain ⟨q1, q2, hq⟩ := List.append_of_mem h
        have hsp2 : pre ++ (id, op) :: post = (pre1 ++ o1 :: q1) ++ (id, op) :: q2 := by
          rw [← hsp, hsp1, hq]; simp
        obtain ⟨r1, _, _⟩ := split_unique hnd hsp2 rfl
        obtain ⟨g, b, _, hg, hgb, _⟩ := FF.before o1 (by rw [r1]; simp) hs
        rw [startedIn_of hg hgb] at hns1
        cases hns1
    · rw [U.w_other hs]
      refine R.front pre1 o1 post1 hsp1 hns1 fun a ha hsa => ?_
      have hane : a.1 ≠ id := fun h => by
        have := mem_lookup hwf.ids (hsp1 ▸ List.mem_append_left _ ha)
        rw [h, hlk] at this
        cases this
        exact hs hsa.symm
      rw [← hsto _ hane]
      exact hpre1 a ha hsa
  · by_cases hs : s = op.slot
    · subst hs
      cases he : op.isEnd with
      | true => exact ⟨(id, op), hself, rfl, he, hst'⟩
      | false => exact absurd (U.act tx htx he) hna
    · rw [U.other hs] at htx
      obtain ⟨o, h1, h2, h3, h4⟩ := R.stat s tx htx hna
      exact ⟨o, h1, h2, h3, hmono _ h4⟩
  · have old : ∀ s tx, tm.tx? s = some tx → ∃ o ∈ ops, o.2.slot = s ∧ o.2.isBegin = true ∧ startedIn fs' o.1 = true :=
      fun s tx htx => by
        obtain ⟨o, h1, h2, h3, h4⟩ := R.hasB s tx htx
        exact ⟨o, h1, h2, h3, hmono _ h4⟩
    by_cases hs : s = op.slot
    · subst hs
      cases hbg : op.isBegin with
      | true => exact ⟨(id, op), hself, rfl, hbg, hst'⟩
      | false =>
        obtain ⟨tx0, h0, _⟩ := FF.active hbg
        exact old _ tx0 h0
    · exact old s tx (U.other hs ▸ htx)

end next

end HappyModel.C14.SM.LM
