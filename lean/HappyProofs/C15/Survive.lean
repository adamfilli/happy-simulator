import HappyProofs.C15.MultiDefs
import HappyProofs.C15.WalRun
import HappyProofs.C15.Judge
/-! From the WAL invariant to the crash facts: what recovery reads, in terms of the write operations of the phase and
    of the base events of the state the phase started from (none for a fresh tree). -/
namespace HappyModel.C15
open HappyModel.C14

theorem base_val {B S0 : Nat} {W0 : List WalE} {abs0 : Key → Option Nat} {log0 : List Ev} (hB : Base0 B S0 W0 abs0 log0)
    {ev : Ev} (hev : ev ∈ log0) (hmax : ∀ ev' ∈ log0, ev'.key = ev.key → ev' = ev ∨ RBase B ev ev') :
    ev.cell = abs0 ev.key := by
  rw [hB.abs]
  cases hf : firstOn ev.key log0 with
  | none => exact absurd rfl (firstOn_none hf ev hev)
  | some c =>
    obtain ⟨ev1, h1, k1, c1, m1⟩ := firstOn_someR hB.sorted hf
    show ev.cell = c
    rcases m1 ev hev rfl with h | h
    · rw [← c1, h]
    · rcases hmax ev1 h1 k1 with h' | h'
      · rw [← c1, h']
      · exact (rb_asymm h h').elim

theorem wal_eq_of_seq {w : List WalE} (hs : (w.map (·.seq)).Pairwise (· < ·)) {a b : WalE} (ha : a ∈ w) (hb : b ∈ w)
    (h : a.seq = b.seq) : a = b :=
  inj_of_nodup_map (·.seq) (List.Pairwise.imp (fun h => Nat.ne_of_lt h) hs) ha hb h

section
variable {cfg : Cfg} {p : Policy} {B N0 : Nat} {W0 : List WalE} {start : Nat → Pc} {y : Sys} {log : List Ev} {g : Ghost}

theorem durable_casesB (hw : cfg.wal = some p) (hL : LInvB cfg B start y log) (hW : WInvB start N0 W0 y log g)
    {w' : Frame} (hw' : w' ∈ y.frames) {b' : Nat} (hb' : w'.b = some b') {k : Key} {c' : Cell}
    (hs' : start w'.id = .pStart k c') (hdur : w'.seq0 ≤ y.st.synced) :
    (∃ e' ∈ durableLog y.st, e'.key = k ∧ e'.seq = w'.seq0) ∨
    (∃ ev' ∈ g.glv, ev'.key = k ∧ b' ≤ ev'.n ∧ ev'.seq ≤ g.T ∧ ev'.seq = w'.seq0 ∧ ev'.id = w'.id) := by
  have hwn : cfg.wal ≠ none := by rw [hw]; simp
  have hF := hL.frames w' hw'
  have hcons := hF.cons
  rw [hs'] at hcons
  simp only [PcCons] at hcons
  have hlog : ∀ q, w'.pc.logging = some q → ∃ e' ∈ durableLog y.st, e'.key = k ∧ e'.seq = w'.seq0 := by
    intro q hq
    have hq0 := hF.logSeq q hq hwn
    obtain ⟨_, e, he, he1, he2⟩ := (hW.fw w' hw').logging q hq
    rw [hs'] at he2
    injection he2 with hk _
    refine ⟨e, List.mem_filter.mpr ⟨he, ?_⟩, hk.symm, by rw [he1, hq0]⟩
    simp only [decide_eq_true_eq]
    rw [he1, ← hq0]; exact hdur
  rcases hcons with hpc | ⟨q, hpc⟩ | ⟨q, hpc⟩ | happ
  · have := (hF.started b' hb').2
    rw [hpc] at this; cases this
  · exact Or.inl (hlog q (by rw [hpc]; rfl))
  · exact Or.inl (hlog q (by rw [hpc]; rfl))
  · obtain ⟨ev, hev, e1, e2, e3, ⟨b, hb, hbe⟩, _, e6⟩ := hF.hasEv happ k c' hs'
    rw [hb'] at hb
    injection hb with hb
    subst hb
    rcases hW.core.evDur ev hev with ⟨e, he, a1, a2, a3⟩ | ⟨a1, a2⟩
    · left
      refine ⟨e, List.mem_filter.mpr ⟨he, ?_⟩, by rw [a2, e2], by rw [a1, e6 hwn]⟩
      simp only [decide_eq_true_eq]
      rw [a1, e6 hwn]; exact hdur
    · exact Or.inr ⟨ev, a1, e2, hbe, a2, e6 hwn, e1⟩

theorem frame_of_eventB (hL : LInvB cfg B start y log) {ev : Ev} (hev : ev ∈ log) (hb : ev.id < B) :
    ∃ w ∈ y.frames, w.id = ev.id ∧ start w.id = .pStart ev.key ev.cell ∧ (∃ b, w.b = some b ∧ b ≤ ev.n) ∧
      ∀ e, w.e = some e → ev.n ≤ e := by
  obtain ⟨w, hw, e1, e2⟩ := hL.evFrame ev hev hb
  have hF := hL.frames w hw
  have happ : w.pc.applied = true := by
    cases h : w.pc.applied with
    | true => rfl
    | false => exact absurd e1.symm (hF.noEv h ev hev)
  obtain ⟨ev2, hev2, a1, _, _, a4, a5, _⟩ := hF.hasEv happ _ _ e2
  have : ev2 = ev := hL.evIds ev2 hev2 ev hev (by rw [a1, e1]) (by rw [a1, e1]; exact hb)
  subst this
  exact ⟨w, hw, e1, e2, a4, a5⟩

theorem recovered_casesB {S0 : Nat} {abs0 : Key → Option Nat} {log0 : List Ev}
    (hw : cfg.wal = some p) (hL : LInvB cfg B start y log) (hW : WInvB start N0 W0 y log g)
    (hB : Base0 B S0 W0 abs0 log0) (hsplit : ∃ new, log = new ++ log0 ∧ ∀ e ∈ new, e.id < B)
    (hS : S0 ≤ y.st.synced) (k : Key) :
    KeyFacts start (fun _ => True) abs0 y k := by
  /- By what recovery reads.  The durable log has an entry for `k`; the newest is `e`: if `N0 ≤ e.seq` its frame is the
     witness, else `e` is the newest of the log the tree started with and carries the baseline value (`hS`).  Or it has
     none, and the value is that of the first event on `k` in the levels part `g.glv`: an event of this run (its frame is
     the witness), a base event (baseline value, by `hsplit`), or none (absent in the baseline too). -/
  unfold KeyFacts
  obtain ⟨new, hnew, hnewB⟩ := hsplit
  have hDs : ((durableLog y.st).map (·.seq)).Pairwise (· < ·) := hW.core.walSorted.sublist (List.filter_sublist.map _)
  have hglv : g.glv.Pairwise (RBase B) := by
    have h1 := hL.sortedN
    rw [hW.core.logEq] at h1
    exact h1.sublist (List.sublist_append_right _ _)
  have hglvlog : ∀ ev ∈ g.glv, ev ∈ log := fun ev hev => hW.core.logEq ▸ List.mem_append_right _ hev
  have hlog0 : ∀ ev ∈ log0, ev ∈ log := fun ev hev => hnew ▸ List.mem_append_right _ hev
  have hdurable : ∀ e ∈ y.st.wal, e.seq ≤ y.st.synced → e ∈ durableLog y.st :=
    fun e he hd => List.mem_filter.mpr ⟨he, decide_eq_true hd⟩
  have hnewId : ∀ w' ∈ y.frames, ∀ ev' : Ev, ev'.id = w'.id → ev'.cls B = 0 :=
    fun w' hw' ev' hid => cls_zero.mpr (hid ▸ hL.idLt w' hw')
  have habs := abs_crash_recover y.st k
  cases hlast : lastFor k (durableLog y.st) none with
  | some c =>
    rw [hlast] at habs
    rcases lastFor_last hDs hlast with ⟨h0, _⟩ | ⟨e, he, ek, ec, emax⟩
    · cases h0
    have hew : e ∈ y.st.wal := (List.mem_filter.mp he).1
    -- `e` is the newest durable entry of `k`: no durable write to `k` has a larger sequence number
    have hle : ∀ w' ∈ y.frames, ∀ b' c', w'.b = some b' → start w'.id = .pStart k c' → w'.seq0 ≤ y.st.synced →
        w'.seq0 ≤ e.seq := by
      intro w' hw' b' c' hb' hs' hdur
      rcases durable_casesB hw hL hW hw' hb' hs' hdur with ⟨e', he', a1, a2⟩ | ⟨ev', _, _, _, a3, a4, _⟩
      · exact a2 ▸ emax e' he' a1
      · exact a4 ▸ Nat.le_trans a3 (Nat.le_of_lt (hW.core.truncT e hew))
    by_cases hge : N0 ≤ e.seq
    · left
      obtain ⟨w, hwf, wb, wseq, wst⟩ := hW.walFrame e hew hge
      rw [ek, ec] at wst
      refine ⟨w, hwf, trivial, wb, by rw [habs]; exact wst, ?_⟩
      intro w' hw' _ _ b' c' hb' hs' hdur e0 he0 hlt
      obtain ⟨bw, hbw, hle0⟩ := ((hL.frames w hwf).ended e0 he0).2.2
      have hord := hW.seqOrd w hwf w' hw' bw b' hbw hb' (Nat.lt_of_le_of_lt hle0 hlt) ⟨k, c, wst⟩ ⟨k, c', hs'⟩
      exact Nat.lt_irrefl _ (Nat.lt_of_lt_of_le (wseq ▸ hord) (hle w' hw' b' c' hb' hs' hdur))
    · right
      have hlt : e.seq < N0 := Nat.lt_of_not_le hge
      refine ⟨?_, fun w' hw' _ hb' c' hs' hdur => ?_⟩
      · -- `e` was in the log at the start and is its newest entry of `k`: the value is the baseline value
        obtain ⟨eve, heve, eid, ekey, eseq⟩ := hB.memAll e (hW.walOld e hew hlt)
        cases hf : firstOn k log0 with
        | none => exact absurd (ekey.trans ek) (firstOn_none hf eve heve)
        | some c1 =>
          obtain ⟨ev1, h1, k1, c1e, m1⟩ := firstOn_someR hB.sorted hf
          -- among base events of the memtable `n = seq` (`Base0.memN`), so the `RBase` order is the sequence order
          have hcls1 : e.seq ≤ ev1.seq := by
            rcases m1 eve heve (ekey.trans ek) with h | h
            · rw [← h, eseq]; exact Nat.le_refl _
            · have c1' := cls_base (hB.base ev1 h1)
              have hcl : ev1.cls B = eve.cls B := Nat.le_antisymm h.cls_le (cls_of_eq eid ▸ c1'.1)
              have hid : ev1.id = B := c1'.2.mp (hcl.trans (cls_of_eq eid))
              rw [← eseq, ← hB.memN ev1 h1 hid, ← hB.memN eve heve eid]
              exact Nat.le_of_lt (h.n_lt hcl)
          rw [habs, hB.abs, hf, ← c1e]
          rcases hW.core.evDur ev1 (hlog0 ev1 h1) with ⟨e1, he1, a1, a2, a3⟩ | ⟨_, a2⟩
          · have hd1 := hdurable e1 he1 (a1 ▸ Nat.le_trans (hB.seqLe ev1 h1) hS)
            have heq : e1 = e := wal_eq_of_seq hW.core.walSorted he1 hew
              (Nat.le_antisymm (emax e1 hd1 (a2.trans k1)) (a1 ▸ hcls1))
            rw [← a3, heq, ec]
          · exact absurd (Nat.lt_of_lt_of_le (hW.core.truncT e hew) hcls1) (Nat.not_lt.mpr a2)
      · obtain ⟨b', hb''⟩ := Option.ne_none_iff_exists'.mp hb'
        exact Nat.lt_irrefl _ (Nat.lt_of_lt_of_le (Nat.lt_of_lt_of_le hlt (hW.seqGe w' hw' hb'))
          (hle w' hw' b' c' hb'' hs' hdur))
  | none =>
    rw [hlast] at habs
    simp only at habs
    rw [hW.core.lvG k] at habs
    have hnoD := (lastFor_none hlast).2
    -- no durable entry of `k` is left in the log: a durable write to `k` has been flushed
    have hfl : ∀ w' ∈ y.frames, ∀ b' c', w'.b = some b' → start w'.id = .pStart k c' → w'.seq0 ≤ y.st.synced →
        ∃ ev' ∈ g.glv, ev'.key = k ∧ b' ≤ ev'.n ∧ ev'.cls B = 0 := by
      intro w' hw' b' c' hb' hs' hdur
      rcases durable_casesB hw hL hW hw' hb' hs' hdur with ⟨e', he', a1, _⟩ | ⟨ev', hev', a1, a2, _, _, a5⟩
      · exact absurd a1 (hnoD e' he')
      · exact ⟨ev', hev', a1, a2, hnewId w' hw' ev' a5⟩
    have hbaseglv : ∀ ev' ∈ log0, ev'.key = k → ev' ∈ g.glv := by
      intro ev' hev' hk'
      rcases hW.core.evDur ev' (hlog0 ev' hev') with ⟨e1, he1, a1, a2, _⟩ | ⟨a1, _⟩
      · exact absurd (a2.trans hk') (hnoD e1 (hdurable e1 he1 (a1 ▸ Nat.le_trans (hB.seqLe ev' hev') hS)))
      · exact a1
    cases hfirst : firstOn k g.glv with
    | some c =>
      rw [hfirst] at habs
      obtain ⟨ev, hev, ek, ec, emax⟩ := firstOn_someR hglv hfirst
      by_cases hevb : ev.id < B
      · left
        obtain ⟨w, hwf, wid, wst, ⟨bw, hbw, hbe⟩, wend⟩ := frame_of_eventB hL (hglvlog ev hev) hevb
        rw [ek, ec] at wst
        refine ⟨w, hwf, trivial, by rw [hbw]; exact Option.some_ne_none _, by rw [habs]; exact wst, ?_⟩
        intro w' hw' _ _ b' c' hb' hs' hdur e0 he0 hlt
        obtain ⟨ev', hev', a1, a2, c0'⟩ := hfl w' hw' b' c' hb' hs' hdur
        have hn : ev'.n ≤ ev.n := by
          rcases emax ev' hev' a1 with h | h
          · rw [h]; exact Nat.le_refl _
          · exact Nat.le_of_lt (h.n_lt ((cls_zero.mpr hevb).trans c0'.symm))
        exact Nat.lt_irrefl _ (Nat.lt_of_lt_of_le hlt (Nat.le_trans a2 (Nat.le_trans hn (wend e0 he0))))
      · right
        have hevB : B ≤ ev.id := Nat.le_of_not_lt hevb
        refine ⟨?_, fun w' hw' _ hb' c' hs' hdur => ?_⟩
        · rw [habs, ← ec, ← ek]
          have hev0 : ev ∈ log0 := (List.mem_append.mp (hnew ▸ hglvlog ev hev)).resolve_left fun hn => hevb (hnewB ev hn)
          exact base_val hB hev0 fun ev' hev' hk' => emax ev' (hbaseglv ev' hev' (hk'.trans ek)) (hk'.trans ek)
        · obtain ⟨b', hb''⟩ := Option.ne_none_iff_exists'.mp hb'
          obtain ⟨ev', hev', a1, _, c0'⟩ := hfl w' hw' b' c' hb'' hs' hdur
          rcases emax ev' hev' a1 with h | h
          · exact absurd (h ▸ c0') (Nat.ne_of_gt (cls_base hevB).1)
          · exact absurd (c0' ▸ h.cls_le) (Nat.not_le.mpr (cls_base hevB).1)
    | none =>
      right
      rw [hfirst] at habs
      refine ⟨?_, fun w hwf _ hb c hs hdur => ?_⟩
      · rw [habs, hB.abs, firstOn_eq_none]
        exact fun ev' hev' hk' => firstOn_none hfirst ev' (hbaseglv ev' hev' hk') hk'
      · obtain ⟨b', hb'⟩ := Option.ne_none_iff_exists'.mp hb
        obtain ⟨ev', hev', a1, _, _⟩ := hfl w hwf b' c hb' hs hdur
        exact firstOn_none hfirst ev' hev' a1

end

/-- `durable_survive` and `no_resurrection`, semantic form -/
theorem crash_facts {cfg : Cfg} {p : Policy} {start : Nat → Pc} {y : Sys} {log : List Ev} {g : Ghost}
    (hw : cfg.wal = some p) (hL : LInv cfg start y log) (hW : WInv start y log g) : CrashFacts start y := by
  obtain ⟨B, hB⟩ := exists_id_bound y.frames
  have hB0 : Base0 B 0 [] (fun _ => none) [] :=
    ⟨fun _ h => (nomatch h), fun _ h => (nomatch h), fun _ h => (nomatch h), fun _ h => (nomatch h), List.Pairwise.nil, fun _ => rfl⟩
  exact crashFacts_iff.mpr
    (recovered_casesB hw (hL.toB hB) hW.toB hB0 ⟨log, (List.append_nil _).symm, hL.evLt hB⟩ (Nat.zero_le _))

end HappyModel.C15
