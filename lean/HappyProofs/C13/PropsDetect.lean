import HappyProofs.C13.DetectK
/-!
C13 clause 2, full form: "if a member stops responding for good, every other live member stops
reporting it ALIVE within a bounded number of probe rounds".  Besides the configuration (`c.fix = true`,
`c.half < c.interval`) and a start offset of the observer not later than `cx + δ`, the hypotheses are on the action
list and the initial probe order (`monoRun`, `timelyRun δ`, `punctualRun a`, `orderOk`): all decidable, none about
what the protocol does.
-/
namespace HappyModel.C13
variable {D : Type} [Inhabited D] [Detector D]

theorem linv_init (c : Cfg) (det : D) (orders : List (List Nat)) (offs : List Nat) (a T0 : Nat)
    (ha : a < c.n) (hoff : lget 0 offs a ≤ T0) : LInv c a T0 (Sys.init c det orders offs) := by
  refine ⟨allUpds_init _ c det orders offs, fun m hm => (by cases hm), ?_⟩
  rw [init_node_eq c det orders offs a ha]
  show lget 0 offs a + c.interval ≤ _
  omega

theorem ginv_init (c : Cfg) (det : D) (orders : List (List Nat)) (offs : List Nat) (a T0 : Nat)
    (ha : a < c.n) (ho : orderOk c.n a (lget [] orders a) = true) (hoff : lget 0 offs a ≤ T0) :
    GInv c a T0 (Sys.init c det orders offs) := by
  have hperm : (lget [] orders a).Perm ((List.range c.n).filter (isMember c.n a)) :=
    of_decide_eq_true ho
  refine ⟨linv_init c det orders offs a T0 ha hoff, ?_⟩
  rw [init_node_eq c det orders offs a ha]
  refine ⟨hperm.nodup_iff.mpr (List.nodup_range.filter _), fun y hy _ => ?_⟩
  refine hperm.mem_iff.mpr (List.mem_filter.mpr ⟨?_, hy⟩)
  simp only [isMember, Bool.and_eq_true, decide_eq_true_eq] at hy
  exact List.mem_range.mpr hy.2

/-- Part (a).  For every cluster, initial probe orders and offsets, every
    action list `pre ++ crash x cx :: post` that is time-monotone up to the crash and timely: before
    every action of `post` later than `cx + δ`, no message from `x` and no "alive" update about `x`
    is in flight towards `a` (`QuietTo`) — whatever `a`; so the part of `post` later than `cx + δ` is a
    `QuietRun`, the hypothesis of `failure_detected_partial`. -/
theorem crash_yields_quiet_run (c : Cfg) (δ : Nat) (det : D) (orders : List (List Nat))
    (offs : List Nat) (pre post : List Act) (a x cx : Nat)
    (hm : monoRun c (Sys.init c det orders offs) (pre ++ [.crash x cx]) = true)
    (ht : timelyRun c δ (Sys.init c det orders offs) (pre ++ .crash x cx :: post) = true) :
    QuietAfter c a x (cx + δ) (run c (Sys.init c det orders offs) (pre ++ [.crash x cx])) post := by
  obtain ⟨hm1, hmc, _⟩ := along_append.mp (monoRun_iff.mp hm)
  obtain ⟨_, _, ht2⟩ := along_append.mp (timelyRun_iff.mp ht)
  have hN := snoalive_run c _ pre (allUpds_init _ c det orders offs)
  have hS : SentLe (run c (Sys.init c det orders offs) pre) :=
    run_along (fun s act I h => sentle_step (step_rel c s act) I h) (fun _ hm => nomatch hm) hm1
  rw [run_append]
  exact quietAfter_run a (down_crash (c := c) hN hS hmc) ht2

/-- from `crash_yields_quiet_run` to the hypothesis `QuietRun` of `failure_detected_partial` -/
theorem quiet_run_after_crash (c : Cfg) (a x T : Nat) (s : Sys D) (acts : List Act)
    (hq : QuietAfter c a x T s acts) (hl : ∀ act ∈ acts, T < act.time) : QuietRun c a x s acts :=
  quietRun_iff.mpr ((quietAfter_iff.mp hq).imp_mem fun _ act hact h => h (hl act hact))

/-- Part (b), the probe tick.  Node `a` of an `n`-cluster with a duplicate-free
    probe order containing every non-DEAD member; `x` a member.  For every permutation the oracle
    may return when a new pass starts: after the tick the order is again such, the next tick is one
    interval later, and if `x` is still not DEAD (and at least `n - k` members are not), either the
    ack timer of a probe of `x` is armed for `now + half`, or the budget `pot` is smaller by at least one.  The
    budget never exceeds `2(n-1) + (n-1)((n-1) - (n-k))`. -/
theorem round_robin_reaches (c : Cfg) (k a now x : Nat) (shuf : List Nat) (nd : Node D) (ha : a < c.n)
    (hxm : isMember c.n a x = true) (hO : OrdInv c.n a nd)
    (hsh : (aliveOrder c.n a (phiCheck c.n a now nd)).length ≤ nd.pidx →
      shuf.Perm (aliveOrder c.n a (phiCheck c.n a now nd))) :
    pot c.n k a x nd ≤ 2 * (c.n - 1) + (c.n - 1) * ((c.n - 1) - (c.n - k)) ∧
    OrdInv c.n a (onTick c a now shuf nd).1 ∧
    (onTick c a now shuf nd).1.nextTick = now + c.interval ∧
    ((onTick c a now shuf nd).1.view x ≠ .dead →
      c.n - k ≤ (aliveOrder c.n a (onTick c a now shuf nd).1).length →
      ((onTick c a now shuf nd).1.pendOf x = some ⟨.ind, now + c.half⟩ ∨
        pot c.n k a x (onTick c a now shuf nd).1 + 1 ≤ pot c.n k a x nd)) :=
  ⟨pot_le ha hO.nodup, ordInv_onTick c a now shuf nd hO hsh, onTick_nextTick c a now shuf nd,
   pot_onTick c a now shuf nd hO hsh k x ha hxm⟩

/-- Part (b), between ticks.  A handler that keeps order, index and next tick
    and never revives a DEAD member (`Keep`: ping, ack, both timeouts, with no "alive" update in the
    message) does not increase the budget, as long as `x` and at least `n - k` members are still not
    DEAD afterwards. -/
theorem round_robin_between (c : Cfg) (k a x : Nat) (ha : a < c.n) {nd nd' : Node D} (hk : Keep nd nd')
    (hO : OrdInv c.n a nd) (hx : x ∈ aliveOrder c.n a nd')
    (hmin : c.n - k ≤ (aliveOrder c.n a nd').length) :
    pot c.n k a x nd' ≤ pot c.n k a x nd ∧ OrdInv c.n a nd' :=
  ⟨pot_keep ha hk hO hx hmin, ordInv_keep hk hO⟩

/-- Repaired handler, ack timeout shorter than the probe interval.  For
    every cluster size, every initial probe order (a permutation of the other members), every start
    offset of the observer not later than `cx + δ`, every shuffle, every time-monotone, timely
    (`δ`), punctual action list in which `x` crashes at `cx`: once an action later than
    `cx + δ + ((n+1)(n-1)+2)·interval + half` has happened, a node `a` that is still up does not
    report `x` ALIVE. -/
theorem failure_detected_full (c : Cfg) (δ : Nat) (det : D) (orders : List (List Nat)) (offs : List Nat)
    (pre post : List Act) (a x cx : Nat)
    (hfix : c.fix = true) (hiv : c.half < c.interval) (ha : a < c.n) (hx : x < c.n) (hax : x ≠ a)
    (ho : orderOk c.n a (lget [] orders a) = true) (hoff : lget 0 offs a ≤ cx + δ)
    (hm : monoRun c (Sys.init c det orders offs) (pre ++ .crash x cx :: post) = true)
    (ht : timelyRun c δ (Sys.init c det orders offs) (pre ++ .crash x cx :: post) = true)
    (hp : punctualRun c a (Sys.init c det orders offs) (pre ++ .crash x cx :: post) = true)
    (hlive : (run c (Sys.init c det orders offs) (pre ++ .crash x cx :: post)).isCrashed a = false)
    (hlate : Spec.detectDeadline c.n c.n c.interval c.half δ cx <
      (run c (Sys.init c det orders offs) (pre ++ .crash x cx :: post)).now) :
    (run c (Sys.init c det orders offs) (pre ++ .crash x cx :: post)).view a x ≠ .alive := by
  have ctx : Ctx c a x := ⟨hfix, hiv, ha, hx, hax⟩
  obtain ⟨h1, hc, h2⟩ := along_append.mp (sched_along hm ht hp)
  rw [run_append] at hlive hlate ⊢
  exact detect_core (post := post) ctx (Nat.zero_lt_of_lt ha)
    (post_crash ctx (ginv_run (ginv_init c det orders offs a (cx + δ) ha ho hoff) h1) hc.mono) h2
    (lminRun_full c a x _ post) hlive hlate

/-- `failure_detected_full` with the bound the judge applies.  If moreover
    `2·δ < half + susp` (so that only crashed members are ever DEAD — `no_false_death`), the deadline
    is `cx + δ + ((k+1)(n-1)+2)·interval + half` with `k` the number of nodes that are down at the end
    of the run. -/
theorem failure_detected_within_crashes (c : Cfg) (δ : Nat) (det : D) (orders : List (List Nat))
    (offs : List Nat) (pre post : List Act) (a x cx : Nat)
    (hfix : c.fix = true) (hiv : c.half < c.interval) (ha : a < c.n) (hx : x < c.n) (hax : x ≠ a)
    (hδ : Spec.boundOk δ c.half c.susp = true)
    (ho : orderOk c.n a (lget [] orders a) = true) (hoff : lget 0 offs a ≤ cx + δ)
    (hm : monoRun c (Sys.init c det orders offs) (pre ++ .crash x cx :: post) = true)
    (ht : timelyRun c δ (Sys.init c det orders offs) (pre ++ .crash x cx :: post) = true)
    (hp : punctualRun c a (Sys.init c det orders offs) (pre ++ .crash x cx :: post) = true)
    (hlive : (run c (Sys.init c det orders offs) (pre ++ .crash x cx :: post)).isCrashed a = false)
    (hlate : Spec.detectDeadline c.n
        (crashedCount c (run c (Sys.init c det orders offs) (pre ++ .crash x cx :: post)))
        c.interval c.half δ cx <
      (run c (Sys.init c det orders offs) (pre ++ .crash x cx :: post)).now) :
    (run c (Sys.init c det orders offs) (pre ++ .crash x cx :: post)).view a x ≠ .alive := by
  have hδ' : 2 * δ < c.half + c.susp := of_decide_eq_true hδ
  have ctx : Ctx c a x := ⟨hfix, hiv, ha, hx, hax⟩
  obtain ⟨h1, hc, h2⟩ := along_append.mp (sched_along hm ht hp)
  -- the invariants just after the crash, where the floor on the alive-list starts
  have I1 := inv_step hδ'
    (inv_run hδ' (inv_init c δ det orders offs) (h1.imp fun _ _ h => ⟨h.timely, h.whole⟩))
    hc.timely (step_rel ..) hc.whole
  have hxc := crash_crashes c (run c (Sys.init c det orders offs) pre) x cx
  rw [run_append] at hlive hlate ⊢
  have P1 := post_crash (k := crashedCount c (run c (run c (Sys.init c det orders offs) pre) (.crash x cx :: post)))
    ctx (ginv_run (ginv_init c det orders offs a (cx + δ) ha ho hoff) h1) hc.mono
  exact detect_core (post := post) ctx
    (List.countP_pos_iff.mpr ⟨x, List.mem_range.mpr hx, crashed_run c _ post x hxc⟩) P1 h2
    (lminRun_crashes hδ' ha hx hax I1 P1.g hxc h2 hlive) hlive hlate

/-- clause 2 as the judge evaluates it (`Spec.detectedRow` with `k` = number
    of nodes down) on the row a live node `a` reports in the reached state: every member whose crash
    (`crashAt x = some cx`, an action `crash x cx` of the list) is older than the deadline is not
    reported ALIVE. -/
theorem failure_detected_row (c : Cfg) (δ : Nat) (det : D) (orders : List (List Nat)) (offs : List Nat)
    (acts : List Act) (a : Nat) (crashAt : List (Option Nat))
    (hfix : c.fix = true) (hiv : c.half < c.interval) (ha : a < c.n)
    (hδ : Spec.boundOk δ c.half c.susp = true)
    (ho : orderOk c.n a (lget [] orders a) = true)
    (hcr : ∀ x cx, x < c.n → lget none crashAt x = some cx →
      lget 0 offs a ≤ cx + δ ∧ ∃ pre post, acts = pre ++ .crash x cx :: post)
    (hm : monoRun c (Sys.init c det orders offs) acts = true)
    (ht : timelyRun c δ (Sys.init c det orders offs) acts = true)
    (hp : punctualRun c a (Sys.init c det orders offs) acts = true)
    (hlive : (run c (Sys.init c det orders offs) acts).isCrashed a = false) :
    Spec.detectedRow c.n (crashedCount c (run c (Sys.init c det orders offs) acts)) c.interval c.half δ
      crashAt a (run c (Sys.init c det orders offs) acts).now
      (obsRow c.n (run c (Sys.init c det orders offs) acts) a) = true := by
  unfold Spec.detectedRow
  rw [List.all_eq_true, length_obsRow]
  intro x hx
  have hxn := List.mem_range.mp hx
  by_cases hxa : x = a
  · simp [hxa]
  · cases hc : lget none crashAt x with
    | none => simp
    | some cx =>
      simp only [Bool.or_eq_true, beq_iff_eq, hxa, false_or, decide_eq_true_eq, bne_iff_ne, ne_eq]
      by_cases hl : (run c (Sys.init c det orders offs) acts).now ≤
          Spec.detectDeadline c.n (crashedCount c (run c (Sys.init c det orders offs) acts))
            c.interval c.half δ cx
      · exact Or.inl hl
      · right
        obtain ⟨hoff, pre, post, hacts⟩ := hcr x cx hxn hc
        subst hacts
        rw [lget_obsRow _ _ hxn]
        exact failure_detected_within_crashes c δ det orders offs pre post a x cx hfix hiv ha hxn hxa
          hδ ho hoff hm ht hp hlive (by omega)

/-- for the examples; a global instance: whoever imports this module has it -/
instance : Detector Unit := ⟨fun _ _ => (), fun _ _ => true⟩

def exC2 : Cfg := ⟨2, 10, 5, 5, 3, true⟩
/-- a pair; node 1 crashes at 0; node 0 probes it at 10, the ping is dropped at the crashed node, the
    ack timeout fires at 15, the suspicion timeout at 20; ticks up to 60 (deadline 56 for `δ = 1`) -/
def exActs2 : List Act :=
  [.tick 0 10 [1], .deliver 0 11, .timeout 0 1 15 [], .timeout 0 1 20 [], .tick 0 20 [],
   .tick 0 30 [], .tick 0 40 [], .tick 0 50 [], .tick 0 60 []]

/-- every hypothesis of `failure_detected_full` / `failure_detected_within_crashes` holds of this run
    (one node down: `k = 1`, deadline 46; `k = n = 2`: 56), and the member is indeed DEAD -/
example :
    orderOk exC2.n 0 (lget [] [[1], [0]] 0) = true ∧ Spec.boundOk 1 exC2.half exC2.susp = true ∧
    monoRun exC2 (Sys.init exC2 () [[1], [0]] [0, 0]) ([] ++ .crash 1 0 :: exActs2) = true ∧
    timelyRun exC2 1 (Sys.init exC2 () [[1], [0]] [0, 0]) ([] ++ .crash 1 0 :: exActs2) = true ∧
    punctualRun exC2 0 (Sys.init exC2 () [[1], [0]] [0, 0]) ([] ++ .crash 1 0 :: exActs2) = true ∧
    (run exC2 (Sys.init exC2 () [[1], [0]] [0, 0]) ([] ++ .crash 1 0 :: exActs2)).isCrashed 0 = false ∧
    crashedCount exC2 (run exC2 (Sys.init exC2 () [[1], [0]] [0, 0]) ([] ++ .crash 1 0 :: exActs2)) = 1 ∧
    Spec.detectDeadline exC2.n exC2.n exC2.interval exC2.half 1 0 <
      (run exC2 (Sys.init exC2 () [[1], [0]] [0, 0]) ([] ++ .crash 1 0 :: exActs2)).now ∧
    (run exC2 (Sys.init exC2 () [[1], [0]] [0, 0]) ([] ++ .crash 1 0 :: exActs2)).view 0 1 = .dead := by
  decide +kernel

def exC3 : Cfg := ⟨3, 10, 5, 5, 3, true⟩
def exS3 : Sys Unit := Sys.init exC3 () [[1, 2], [0, 2], [0, 1]] [0, 0, 0]
/-- three nodes: node 0 probes node 1 (ping, ack), then node 2 crashes at 13 -/
def exPre3 : List Act := [.tick 0 10 [], .deliver 0 11, .deliver 1 12]
/-- node 0's next tick reaches node 2 in the round-robin order: ping dropped, ack timeout with
    delegate 1 (indirect ping, ack of the delegate), suspicion timeout; the next pass is a shuffle of
    the one member left -/
def exPost3 : List Act :=
  [.tick 0 20 [], .deliver 2 21, .timeout 0 2 25 [1], .deliver 3 26, .deliver 4 27,
   .timeout 0 2 30 [], .tick 0 30 [1], .deliver 5 31, .deliver 6 32]

/-- the schedule hypotheses hold of a run with real traffic; after the crash node 0 still reports
    node 2 ALIVE until its ack timeout, then SUSPECT, then DEAD; the new probe order is `[1]` -/
example :
    orderOk exC3.n 0 (lget [] [[1, 2], [0, 2], [0, 1]] 0) = true ∧
    monoRun exC3 exS3 (exPre3 ++ .crash 2 13 :: exPost3) = true ∧
    timelyRun exC3 1 exS3 (exPre3 ++ .crash 2 13 :: exPost3) = true ∧
    punctualRun exC3 0 exS3 (exPre3 ++ .crash 2 13 :: exPost3) = true ∧
    (run exC3 exS3 (exPre3 ++ .crash 2 13 :: exPost3)).isCrashed 0 = false ∧
    (run exC3 exS3 (exPre3 ++ .crash 2 13 :: exPost3.take 2)).view 0 2 = .alive ∧
    (run exC3 exS3 (exPre3 ++ .crash 2 13 :: exPost3.take 3)).view 0 2 = .suspect ∧
    (run exC3 exS3 (exPre3 ++ .crash 2 13 :: exPost3)).view 0 2 = .dead ∧
    (run exC3 exS3 (exPre3 ++ .crash 2 13 :: exPost3)).soup = [] ∧
    ((run exC3 exS3 (exPre3 ++ .crash 2 13 :: exPost3)).node 0).order = [1] := by decide +kernel

/-- `punctualRun` is not vacuous: skipping the ack timeout (the action at 30 finds the timer of 25
    overdue), or handing the new pass something that is not a permutation, is rejected -/
example :
    punctualRun exC3 0 exS3 (exPre3 ++ [.crash 2 13, .tick 0 20 [], .deliver 2 21, .tick 0 30 []]) = false ∧
    punctualRun exC3 0 exS3 (exPre3 ++ .crash 2 13 :: (exPost3.take 6 ++ [.tick 0 30 [2]])) = false := by
  decide +kernel

/-- `round_robin_reaches` on a concrete node: order `[1, 2]`, index 1 — the budget for member 2 is 1
    tick (plus one pass per member that may still be lost), for member 1 it is a whole pass more -/
example :
    let nd : Node Unit := { Node.init exC3 () [1, 2] 0 with pidx := 1 }
    aliveOrder 3 0 nd = [1, 2] ∧ pot 3 1 0 2 nd = 1 ∧ pot 3 1 0 1 nd = 3 ∧ pot 3 3 0 2 nd = 5 ∧
    (onTick exC3 0 10 [] nd).1.pendOf 2 = some ⟨.ind, 15⟩ ∧
    pot 3 1 0 1 (onTick exC3 0 10 [] nd).1 = 2 := by decide +kernel

example : OrdInv 3 0 ({ Node.init exC3 () [1, 2] 0 with pidx := 1 } : Node Unit) := by
  refine ⟨by decide, fun y hy _ => ?_⟩
  simp only [isMember, Bool.and_eq_true, bne_iff_ne, ne_eq, decide_eq_true_eq] at hy
  have : y = 1 ∨ y = 2 := by omega
  rcases this with rfl | rfl <;> decide

end HappyModel.C13
