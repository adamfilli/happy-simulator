import HappyProofs.C01.TraceSpec
/-!
Clauses 6 and 7 of the trace Spec, and the whole judge, over any engine state and trace that are linked; the
`engine_trace_*` theorems are these at `traceOf_linked`.

Clause 6 is proved once, for any `C` / `U` lines that keep up with a flag for which the crash gate is sound (`Flags`):
an event dropped at the gate is exempt (`Link.exempt`).  The machine without crash gate is the instance "no entity is
ever down" (`Flags.never`, whatever lines it writes); a `GateModel` (`TraceGate.lean`) is the other.  Of clause 7 only
the second grade can fire (the non-daemon event that keeps the loop alive is a cancelled one awaiting its lazy
deletion): the known finding `autoterm_cancelled_primary_keeps_alive`.
-/
namespace HappyModel.C01
open HappyModel.C01.Spec (Trace Created Deliv)

variable {σ : Type}

/-- clause 7 on any state and trace that are linked with no end time: the first grade never fires, because every delivery
    line has its non-daemon creation line (`Link.h7`) -/
theorem autoterm_grade_of_link {fl : σ → σ → List (Nat × Bool)} {F : Flags fl} {mc : Machine σ} {s : St σ} {t : Trace}
    (lk : Link F mc none s t) :
    Spec.judgeAutoterm t = none ∨ Spec.judgeAutoterm t = some "engine/autoterm/ran-with-no-primary-pending" := by
  have hfirst : t.delivs.find? (fun d => !Spec.primaryInHeap t d && !Spec.laterFutureResume t d) = none := by
    rw [List.find?_eq_none]
    intro d hd
    obtain ⟨c, hc, h1, h2, h3, h4, h5⟩ := lk.h7 rfl d hd
    have hin : Spec.primaryInHeap t d = true := by
      unfold Spec.primaryInHeap
      rw [List.any_eq_true]
      refine ⟨c, hc, ?_⟩
      have hund : Spec.undelivered t c d = true := by
        unfold Spec.undelivered Spec.tagged
        simp only [Bool.and_eq_true, decide_eq_true_eq, Bool.not_eq_true', List.any_eq_false, List.mem_filter]
        refine ⟨h2, ?_⟩
        intro d' hd'
        simp only [beq_iff_eq, not_and]
        intro htag
        have := h3 d' hd'.1 htag
        omega
      simp [h1, hund, h4, h5]
    simp [hin]
  unfold Spec.judgeAutoterm
  rw [hfirst]
  simp only []
  cases t.delivs.find? (fun d => !Spec.primaryPending t d && !Spec.laterFutureResume t d) with
  | none => left; rfl
  | some _ => right; rfl

/-- **clause 7, first grade, never fires on the model**: in an auto-terminating run every delivery
    happens while a non-daemon event created earlier and not yet delivered sits in the heap, due no
    earlier than the delivery's clock (possibly a cancelled event awaiting its lazy deletion).  The
    judge can therefore only report the second grade, `…/ran-with-no-primary-pending` — the known
    finding of the code's lazy deletion — never `…/ran-with-no-primary-in-heap`. -/
theorem engine_trace_autoterm_grade (fl : σ → σ → List (Nat × Bool)) (mc : Machine σ) (ent : σ) (start : Nat) (pre : List Spec) (n : Nat) :
    Spec.judgeAutoterm (traceOf fl mc ent start pre none n) = none ∨
    Spec.judgeAutoterm (traceOf fl mc ent start pre none n) = some "engine/autoterm/ran-with-no-primary-pending" :=
  autoterm_grade_of_link (traceOf_linked (Flags.never fl) mc ent start pre none n fun _ => rfl).2

theorem downDuring_of_downAt {flags : List (Nat × Bool × Nat)} {x lo hi L : Nat} (h : DownAt flags x L)
    (hlo : lo ≤ L) (hhi : L ≤ hi) : Spec.downDuring flags x lo hi = true := by
  obtain ⟨g, hg, hgd⟩ := h
  obtain ⟨hgL, hgx⟩ := List.mem_filter.mp (List.mem_of_getLast? hg)
  obtain ⟨hgm, hgL⟩ := List.mem_filter.mp hgL
  unfold Spec.downDuring
  simp only [Bool.or_eq_true]
  by_cases hpos : lo ≤ g.2.2
  · exact .inr (List.any_eq_true.mpr ⟨g, List.mem_filter.mpr ⟨hgm, hgx⟩, by simp [hgd] at hgL ⊢; omega⟩)
  · -- `g` is also the last line of `x` before `lo`
    left
    obtain ⟨M, hM⟩ := List.getLast?_eq_some_iff.mp hg
    have : (flags.filter (·.1 == x)).filter (·.2.2 < lo) = (M ++ [g]).filter (·.2.2 < lo) := by
      rw [← hM, List.filter_filter, List.filter_filter, List.filter_filter]
      refine List.filter_congr fun f _ => ?_
      by_cases h1 : f.2.2 < lo
      · have : f.2.2 < L := by omega
        simp [h1, this]
      · simp [h1]
    have hglo : g.2.2 < lo := by omega
    simp [this, List.filter_append, hglo, hgd]

/-- the target of an event dropped at the gate is down at some moment of the stretch of the trace in which the event
    falls due: the judge's `mayBeDown` holds for its creation line -/
theorem Link.exempt {fl : σ → σ → List (Nat × Bool)} {F : Flags fl} {mc : Machine σ} {endT : Option Nat} {s : St σ} {t : Trace}
    (h : Link F mc endT s t) (hF : F.Sound mc) (e : Ev) (he : (e, Verdict.gated) ∈ s.popped)
    (c : Created) (hc : c ∈ t.created) (hce : c = cOf e c.pos) : Spec.mayBeDown t c = true := by
  obtain ⟨ent, L, hcr, hL, hdown, ⟨p, hp, hpL⟩, hd1, hd2⟩ := h.gate_rec e he
  replace hdown := hdown e.target (hF ent e hcr)
  have hcp : c.pos < L := by
    have htag : (cOf e p).tag = c.tag := by rw [hce]; rfl
    have := inj_of_nodup_map (fun x : Created => x.tag) h.cre_nodup hp hc htag
    rw [← this]; exact hpL
  have f1 : c.tag = e.id + 1 := by rw [hce]; rfl
  have f2 : c.time = e.time := by rw [hce]; rfl
  have f3 : c.target = e.target := by rw [hce]; rfl
  have htg : ∀ d ∈ Spec.tagged t, d ∈ t.delivs := fun d hd => (List.mem_filter.mp hd).1
  unfold Spec.mayBeDown
  simp only []
  refine downDuring_of_downAt (f3 ▸ hdown) ?_ ?_
  · apply Nat.max_le.mpr
    refine ⟨?_, Nat.le_of_lt hcp⟩
    cases hlast : ((Spec.tagged t).filter fun d => decide (d.clock < c.time) || (d.clock == c.time && decide (d.tag < c.tag))).getLast? with
    | none => simp
    | some d =>
      simp only [Option.map_some, Option.getD_some]
      have hm := List.mem_filter.mp (List.mem_of_getLast? hlast)
      have hk := hm.2
      simp only [Bool.or_eq_true, decide_eq_true_eq, Bool.and_eq_true, beq_iff_eq] at hk
      rcases Nat.lt_or_ge d.pos L with hlt | hge
      · exact Nat.le_of_lt hlt
      · have := hd2 d (htg d hm.1) hge
        omega
  · cases hfind : (Spec.tagged t).find? (fun d => decide (c.time < d.clock) || (d.clock == c.time && decide (c.tag < d.tag))) with
    | none => simpa using hL
    | some d =>
      simp only [Option.map_some, Option.getD_some]
      have hk := List.find?_some hfind
      simp only [Bool.or_eq_true, decide_eq_true_eq, Bool.and_eq_true, beq_iff_eq] at hk
      rcases Nat.lt_or_ge d.pos L with hlt | hge
      · have := hd1 d (htg d (List.mem_of_find?_eq_some hfind)) hlt
        omega
      · exact hge

theorem no_lost_event_core {fl : σ → σ → List (Nat × Bool)} {F : Flags fl} {mc : Machine σ} {endT : Option Nat} {s : St σ}
    {t : Trace} (inv : Inv s) (lk : Link F mc endT s t) (hend : t.endT = endT) (hclk : t.endClock = s.now)
    (hF : F.Sound mc) (hhalt : step mc endT s = none) (hlen : t.len < 1000000000) : Spec.lostEvent t = none := by
  refine List.find?_eq_none.mpr fun c hc => ?_
  obtain ⟨e, hce, hwhere⟩ := lk.cre_exact c hc
  obtain ⟨f1, f2, f3, f4⟩ : c.tag = e.id + 1 ∧ c.time = e.time ∧ c.clock = e.born ∧ c.daemon = e.daemon := by
    rw [hce]; exact ⟨rfl, rfl, rfl, rfl⟩
  have notLive : ∀ {pos}, ¬ e.born ≤ e.time → Spec.live t c pos = false := fun hn => by
    simp [Spec.live, f2, f3, hn]
  rcases hwhere with hheap | ⟨v, hv⟩
  · -- still pending when the run stopped: beyond the horizon, or not live
    by_cases hlive : e.born ≤ e.time
    · have hnow := inv.notStale e hheap hlive
      have hstop := halted_of_mem hhalt hheap
      cases endT with
      | some te =>
        have : ¬ e.time ≤ te := by have : te < s.now := hstop; omega
        simp [hend, f2, this]
      | none =>
        have hd := countPrimary_eq_zero.mp (inv.prim ▸ hstop) e hheap
        have : ¬ e.time < s.now := by omega
        simp [hend, hclk, f2, f4, hd, this]
    · simp [notLive hlive]
  · cases v with
    | delivered =>
      obtain ⟨d, hd, htag, _⟩ := lk.log_deliv ((inv.log_popped e).mpr hv)
      have : Spec.delivered t c.tag = true :=
        List.any_eq_true.mpr ⟨d, List.mem_filter.mpr ⟨hd, by simp [htag]⟩, by simp [htag, f1]⟩
      simp [this]
    | cancelled =>
      obtain ⟨x, hx, hxi⟩ := lk.mem_cancels.mpr (lk.pop_canc e hv)
      have hpx := lk.pos_x x hx
      have : Spec.cancelledBefore t c.tag 1000000000 = true :=
        List.any_eq_true.mpr ⟨x, hx, by simp [hxi, f1]; omega⟩
      simp [Spec.live, this]
    | stale => simp [notLive (Nat.not_le.mpr (lk.pop_stale e hv))]
    | gated => simp [lk.exempt hF e hv c hc hce]

theorem engine_trace_no_lost_event_flags {fl : σ → σ → List (Nat × Bool)} (F : Flags fl) {mc : Machine σ} (hF : F.Sound mc)
    (ent : σ) (start : Nat) (pre : List Spec) (endT : Option Nat) (n : Nat) (hup : ∀ x, F.down ent x = false)
    (hhalt : step mc endT (runFrom mc ent start pre endT n) = none)
    (hlen : (traceOf fl mc ent start pre endT n).len < 1000000000) :
    Spec.lostEvent (traceOf fl mc ent start pre endT n) = none :=
  have ⟨inv, lk⟩ := traceOf_linked F mc ent start pre endT n hup
  no_lost_event_core inv lk rfl rfl hF hhalt hlen

theorem judge_of_link {fl : σ → σ → List (Nat × Bool)} {F : Flags fl} {mc : Machine σ} {endT : Option Nat} {s : St σ}
    {t : Trace} (inv : Inv s) (lk : Link F mc endT s t) (hend : t.endT = endT) (h6 : Spec.lostEvent t = none) :
    Spec.judge t = none ∨ (endT = none ∧ Spec.judge t = some "engine/autoterm/ran-with-no-primary-pending") := by
  rw [Spec.judge, order_clauses_of_link s t inv lk, Spec.judgeLive, h6, hend]
  cases endT with
  | some te => exact .inl rfl
  | none => exact (autoterm_grade_of_link lk).imp_right fun h => ⟨rfl, h⟩

theorem engine_trace_satisfies_spec_flags {fl : σ → σ → List (Nat × Bool)} (F : Flags fl) {mc : Machine σ} (hF : F.Sound mc)
    (ent : σ) (start : Nat) (pre : List Spec) (endT : Option Nat) (n : Nat) (hup : ∀ x, F.down ent x = false)
    (hhalt : step mc endT (runFrom mc ent start pre endT n) = none)
    (hlen : (traceOf fl mc ent start pre endT n).len < 1000000000) :
    Spec.judge (traceOf fl mc ent start pre endT n) = none ∨
    (endT = none ∧
      Spec.judge (traceOf fl mc ent start pre endT n) = some "engine/autoterm/ran-with-no-primary-pending") :=
  have ⟨inv, lk⟩ := traceOf_linked F mc ent start pre endT n hup
  judge_of_link inv lk rfl (no_lost_event_core inv lk rfl rfl hF hhalt hlen)

/-- **clause 6 finds no lost event on a finished run of the model** (machines without crash gate; for
    machines with one see `engine_trace_no_lost_event_gate`): every created event that is live — not
    cancelled by the end of the run, not stamped before the clock at which it was created — and due within
    the horizon (`≤ end_time`; with no end time: every non-daemon event, and every daemon event due before
    the final clock) has a delivery line, unless `fl` writes a `C` line for its target in the stretch in which it
    falls due (the judge's `mayBeDown` reads the lines, whatever the gate).  `hlen` is the judge's own horizon for "cancelled by the end of
    the run". -/
theorem engine_trace_no_lost_event (fl : σ → σ → List (Nat × Bool)) (mc : Machine σ) (ent : σ) (start : Nat)
    (pre : List Spec) (endT : Option Nat) (n : Nat) (hcr : ∀ x e, mc.crashed x e = false)
    (hhalt : step mc endT (runFrom mc ent start pre endT n) = none)
    (hlen : (traceOf fl mc ent start pre endT n).len < 1000000000) :
    Spec.lostEvent (traceOf fl mc ent start pre endT n) = none :=
  engine_trace_no_lost_event_flags (Flags.never fl) (fun x e h => nomatch (hcr x e).symm.trans h) ent start pre endT n
    (fun _ => rfl) hhalt hlen

/-- **the trace of the model satisfies the trace Spec**: for every machine without crash gate, pre-run
    schedule, start clock and end time, on a finished run the judge `Spec.judge` accepts the trace the
    model writes — clauses 1–6 raise nothing; with no end time clause 7 can only report its second
    grade, the known finding `…/ran-with-no-primary-pending` (lazy deletion of cancelled events), never
    `…/ran-with-no-primary-in-heap`. -/
theorem engine_trace_satisfies_spec (fl : σ → σ → List (Nat × Bool)) (mc : Machine σ) (ent : σ) (start : Nat) (pre : List Spec)
    (endT : Option Nat) (n : Nat) (hcr : ∀ x e, mc.crashed x e = false)
    (hhalt : step mc endT (runFrom mc ent start pre endT n) = none)
    (hlen : (traceOf fl mc ent start pre endT n).len < 1000000000) :
    Spec.judge (traceOf fl mc ent start pre endT n) = none ∨
    (endT = none ∧
      Spec.judge (traceOf fl mc ent start pre endT n) = some "engine/autoterm/ran-with-no-primary-pending") :=
  engine_trace_satisfies_spec_flags (Flags.never fl) (fun x e h => nomatch (hcr x e).symm.trans h) ent start pre endT n
    (fun _ => rfl) hhalt hlen

/-- a model with ties between pre-run and in-run events, a cancel and an event stamped in the past -/
def demoTraceMachine : Machine Unit :=
  { handle := fun _ now e =>
      { ent := (),
        specs := if e.kind = 0 then [⟨now + 1, 0, 9, false, 0, 0⟩, ⟨now - 1, 0, 8, false, 0, 0⟩] else [],
        cancels := if e.kind = 1 then [2] else [] } }

-- non-vacuity: the hypotheses of `engine_trace_satisfies_spec` hold on a finished bounded run with ties,
-- a cancelled and a stale event, and the judge accepts its trace (4 deliveries, 6 created events)
example :
    let pre : List Spec := [⟨1, 0, 0, false, 0, 0⟩, ⟨2, 0, 1, false, 0, 0⟩, ⟨2, 0, 2, false, 0, 0⟩, ⟨30, 0, 3, false, 0, 0⟩]
    step demoTraceMachine (some 10) (runFrom demoTraceMachine () 0 pre (some 10) 20) = none ∧
    (traceOf (fun _ _ => []) demoTraceMachine () 0 pre (some 10) 20).len < 1000000000 ∧
    (traceOf (fun _ _ => []) demoTraceMachine () 0 pre (some 10) 20).delivs.length = 4 ∧
    (traceOf (fun _ _ => []) demoTraceMachine () 0 pre (some 10) 20).created.length = 6 ∧
    Spec.judge (traceOf (fun _ _ => []) demoTraceMachine () 0 pre (some 10) 20) = none := by decide +kernel

-- the second grade of clause 7 does occur on the model (the known finding): the handler of the first event
-- cancels the only other non-daemon event; the daemon tick at t = 10 is still delivered
example :
    let mc : Machine Unit := { handle := fun _ _ e => { ent := (), cancels := if e.kind = 0 then [2] else [] } }
    let pre : List Spec := [⟨5, 0, 0, false, 0, 0⟩, ⟨10, 0, 1, true, 0, 0⟩, ⟨50, 0, 2, false, 0, 0⟩]
    step mc none (runFrom mc () 0 pre none 20) = none ∧
    Spec.judge (traceOf (fun _ _ => []) mc () 0 pre none 20) = some "engine/autoterm/ran-with-no-primary-pending" := by decide +kernel

end HappyModel.C01
