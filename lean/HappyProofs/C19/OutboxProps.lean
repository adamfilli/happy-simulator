import HappyProofs.C19.OutboxStep
import HappyProofs.C19.OutboxFlow
/-!
"Every written entry is relayed to the downstream entity exactly once, in entry-id (write) order, by a
relay event stamped not in the past, and the counters add up."

`judge` (HappyModel/C19/Outbox.lean) is the function the driver uses to judge transcripts of the
real OutboxRelay.  The schedule — which generator segment ran when, any number of poll events,
non-poll events, `prime_poll()` calls and resumptions in any order — is universally quantified.
`cfg.legacy = false` is the tree after `fixes/C19-outbox-double-relay.diff`; for the tree before it
the negation is proved on a concrete schedule (`legacy_outbox_double_relay_witness`).
-/
namespace HappyModel.C19.Outbox
open List

/-- an accepted event appends its relay id, if it is one, to `sent` -/
theorem jev_sent {batch t : Nat} {j j' : JSt} {e : Ev} (h : jev batch t j e = .ok j') :
    j'.sent = j.sent ++ evEmits [e] := by
  unfold jev at h
  split at h
  case h_2 k stamp =>
    -- the accepting branch of a relay event is the only place where `sent` changes: it appends `k`
    repeat' split at h
    all_goals cases h
    rfl
  all_goals
    -- every other branch refuses, or answers `j` with other fields changed
    repeat' split at h
    all_goals cases h
    all_goals simp [evEmits]

theorem jevs_sent {batch t : Nat} {evs : List Ev} {j j' : JSt} (h : jevs batch t j evs = .ok j') :
    j'.sent = j.sent ++ evEmits evs := by
  induction evs generalizing j with
  | nil => cases h; simp [evEmits]
  | cons e es ih =>
    simp only [jevs] at h
    cases he : jev batch t j e with
    | error x => rw [he] at h; cases h
    | ok j1 =>
      rw [he] at h
      rw [ih h, jev_sent he, append_assoc]
      exact congrArg (j.sent ++ ·) (evEmits_append [e] es).symm

theorem judgeFrom_sent {batch : Nat} {ls : List Line} {j jf : JSt}
    (h : judgeFrom batch j ls = .ok jf) : jf.sent = j.sent ++ emitIds ls := by
  induction ls generalizing j with
  | nil => cases h; simp [emitIds]
  | cons l ls ih =>
    simp only [judgeFrom] at h
    cases he : jevs batch l.t j l.evs with
    | error x => rw [he] at h; cases h
    | ok j1 =>
      rw [he] at h
      simp only at h
      by_cases hc : checkCtr j1 l.ctr = true
      · rw [if_pos hc] at h
        rw [ih h, jevs_sent he, emitIds, append_assoc]
      · rw [if_neg hc] at h; cases h

/-- **Exactly once, in order** (repaired tree).  For every schedule the Spec judge accepts the model's
transcript — no entry relayed twice, none out of order, none unwritten, no relay event stamped in
the past or received off its stamp, counters add up after every segment, nothing missing at a
quiescent end — and the relay events of the run are exactly the entries `1, 2, …, n` in this order
(`n` = entries_relayed): each written entry has at most one relay event and they follow write order. -/
theorem outbox_relays_each_entry_once_in_order (cfg : Cfg) (hl : cfg.legacy = false) (segs : List Seg) :
    judge cfg.batch (run cfg {} segs) = none ∧
    emitIds (run cfg {} segs) = range' 1 (runSt cfg {} segs).relayedCnt ∧
    (runSt cfg {} segs).relayedCnt ≤ (runSt cfg {} segs).written := by
  obtain ⟨jf, hj, hinv⟩ := judgeFrom_run hl segs {} {} (init_inv cfg.batch)
  have hs := judgeFrom_sent hj
  refine ⟨by simp only [judge, hj], ?_, hinv.core.le⟩
  rw [← hinv.core.sent, hs]; rfl

/-- the relayed entries are always a prefix of the written ones, and the public counters add up:
entries_written = total_entries = entries_relayed + pending_count -/
theorem outbox_relayed_prefix (cfg : Cfg) (hl : cfg.legacy = false) (segs : List Seg) :
    let s := runSt cfg {} segs
    s.flags = replicate s.relayedCnt true ++ replicate (s.written - s.relayedCnt) false ∧
    s.flags.length = s.written ∧ s.written = s.relayedCnt + (pendingFrom 1 s.flags).length := by
  obtain ⟨jf, _, hinv⟩ := judgeFrom_run hl segs {} {} (init_inv cfg.batch)
  have c := hinv.core
  have hle := c.le
  refine ⟨c.flags, ?_, ?_⟩
  · rw [c.flags, length_append, length_replicate, length_replicate]; omega
  · rw [pending_of_core c, length_range']; omega

/-- **Exactly once at a quiescent end** (repaired tree).  If the judge has seen a draining poll cycle
after the last write (`clean`: it started with no other cycle in flight, fewer than `batch_size`
relay events were sent until no cycle was in flight any more, no write since), every written entry
has exactly one relay event, in write order; and once the engine has delivered everything
(`flight = []`) the downstream has received exactly the entries `1 … entries_written`, in order. -/
theorem outbox_quiescent_all_relayed (cfg : Cfg) (hl : cfg.legacy = false) (segs : List Seg) (jf : JSt)
    (hj : judgeFrom cfg.batch {} (run cfg {} segs) = .ok jf) (hq : jf.clean = true) :
    emitIds (run cfg {} segs) = range' 1 (runSt cfg {} segs).written ∧
    (runSt cfg {} segs).flags = replicate (runSt cfg {} segs).written true ∧
    ((runSt cfg {} segs).flight = [] → gotIds (run cfg {} segs) = range' 1 (runSt cfg {} segs).written) := by
  obtain ⟨jf', hj', hinv⟩ := judgeFrom_run hl segs {} {} (init_inv cfg.batch)
  rw [hj] at hj'; cases hj'
  have c := hinv.core
  have hn := c.clean hq
  have he : emitIds (run cfg {} segs) = range' 1 (runSt cfg {} segs).written := by
    have hs := judgeFrom_sent hj
    rw [← hn, ← c.sent, hs]; rfl
  refine ⟨he, ?_, ?_⟩
  · have := c.flags
    rw [hn, Nat.sub_self] at this
    simpa using this
  · intro hf
    have := run_flow cfg segs {}
    rw [hf] at this
    simpa [he, ids] using this

/-- the tree before `fixes/C19-outbox-double-relay.diff`: three entries, batch 3, relay latency
2; a non-poll event at t = 3, while the first cycle is in its yields, starts a second poll chain
whose cycle (t = 5) relays entry 3, which the first cycle relays again at t = 6 -/
theorem legacy_outbox_double_relay_witness :
    judge 3 (run ⟨3, 2, 2, true⟩ {}
      [⟨0, .write⟩, ⟨0, .write⟩, ⟨0, .write⟩, ⟨0, .prime⟩, ⟨2, .poll 0⟩, ⟨2, .recv⟩, ⟨3, .nudge⟩,
       ⟨4, .resume 0⟩, ⟨4, .recv⟩, ⟨5, .poll 1⟩, ⟨5, .recv⟩, ⟨6, .resume 0⟩])
      = some "outbox/relay/entry-relayed-twice" := by decide +kernel

/-- … and the same segments on the repaired model: the poll at t = 5 is skipped -/
example :
    judge 3 (run ⟨3, 2, 2, false⟩ {}
      [⟨0, .write⟩, ⟨0, .write⟩, ⟨0, .write⟩, ⟨0, .prime⟩, ⟨2, .poll 0⟩, ⟨2, .recv⟩, ⟨3, .nudge⟩,
       ⟨4, .resume 0⟩, ⟨4, .recv⟩, ⟨5, .poll 1⟩, ⟨5, .recv⟩, ⟨6, .resume 0⟩, ⟨6, .recv⟩, ⟨8, .resume 0⟩,
       ⟨10, .poll 1⟩, ⟨11, .fin⟩]) = none := by decide +kernel

/-- the hypothesis of `outbox_quiescent_all_relayed`: a run of three entries with batch 2, whose second
cycle drains (quiescent end), and the same run cut before that cycle -/
example :
    (match judgeFrom 2 {} (run ⟨2, 2, 1, false⟩ {}
      [⟨0, .write⟩, ⟨0, .write⟩, ⟨0, .write⟩, ⟨0, .nudge⟩, ⟨2, .poll 0⟩, ⟨2, .recv⟩, ⟨3, .resume 0⟩,
       ⟨3, .recv⟩, ⟨4, .resume 0⟩, ⟨6, .poll 1⟩, ⟨6, .recv⟩, ⟨7, .resume 1⟩, ⟨8, .fin⟩]) with
      | .ok jf => jf.clean && jf.flight.isEmpty && jf.sent == [1, 2, 3]
      | .error _ => false) = true := by decide +kernel

example :
    (match judgeFrom 2 {} (run ⟨2, 2, 1, false⟩ {}
      [⟨0, .write⟩, ⟨0, .write⟩, ⟨0, .write⟩, ⟨0, .nudge⟩, ⟨2, .poll 0⟩, ⟨2, .recv⟩, ⟨3, .resume 0⟩,
       ⟨3, .recv⟩, ⟨4, .resume 0⟩, ⟨8, .fin⟩]) with
      | .ok jf => !jf.clean && jf.sent == [1, 2]
      | .error _ => false) = true := by decide +kernel

/-- the judge rejects bad transcripts: an entry relayed before an older one, a relay event stamped in
the past, an entry missing at a quiescent end, counters that do not add up, an entry relayed twice -/
theorem judge_rejects_bad_traces :
    judge 3 [⟨0, [.wrote 1], ⟨1, 0, 1, 1, 0⟩⟩, ⟨0, [.wrote 2], ⟨2, 0, 2, 2, 0⟩⟩,
             ⟨1, [.start, .emit 2 1, .emit 1 1, .done, .nosched], ⟨2, 2, 0, 2, 1⟩⟩]
      = some "outbox/relay/out-of-order" ∧
    judge 3 [⟨0, [.wrote 1], ⟨1, 0, 1, 1, 0⟩⟩, ⟨5, [.start, .emit 1 4], ⟨1, 1, 0, 1, 1⟩⟩]
      = some "outbox/relay/stamped-in-the-past" ∧
    judge 3 [⟨0, [.wrote 1], ⟨1, 0, 1, 1, 0⟩⟩, ⟨0, [.wrote 2], ⟨2, 0, 2, 2, 0⟩⟩,
             ⟨1, [.start, .emit 1 1, .done, .sched 0 2], ⟨2, 1, 1, 2, 1⟩⟩, ⟨1, [.got 1 1], ⟨2, 1, 1, 2, 1⟩⟩,
             ⟨9, [.fin], ⟨2, 1, 1, 2, 1⟩⟩]
      = some "outbox/relay/entry-never-relayed" ∧
    judge 3 [⟨0, [.wrote 1], ⟨1, 0, 1, 1, 0⟩⟩, ⟨1, [.start, .emit 1 1, .done, .nosched], ⟨1, 1, 1, 1, 1⟩⟩]
      = some "outbox/counters/do-not-add-up" ∧
    judge 3 [⟨0, [.wrote 1], ⟨1, 0, 1, 1, 0⟩⟩, ⟨1, [.start, .emit 1 1], ⟨1, 1, 0, 1, 1⟩⟩,
             ⟨2, [.start, .emit 1 2], ⟨1, 2, 0, 1, 2⟩⟩]
      = some "outbox/relay/entry-relayed-twice" := by decide +kernel

end HappyModel.C19.Outbox
