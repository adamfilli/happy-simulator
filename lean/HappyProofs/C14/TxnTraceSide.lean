import HappyProofs.C14.TxnLMach
import HappyProofs.C14.TxnLink
import HappyProofs.C14.TxnJudge
/-!
# From the machine facts to the judge; `txn_trace_satisfies_spec` under a side invariant

`txn_trace_satisfies_spec_side`: the run-level transaction theorem for any store obeying the map laws and any
side invariant `J` of the manager and the frames (`Side`, `TxnLMach.lean`) that holds initially: (1) a read that
completes in its first segment, (2) a suspended read that completes, returns `fetchVal` of the state at that
segment, (3) `J` is preserved by the segments of a run satisfying the run invariant.  A store kind obtains `J` from
its read laws (`side_of_reads`).
-/
namespace HappyModel.C14.SM
open HappyModel.C14 HappyModel.C14.BT HappyModel.C14.TxSpec

theorem txn_trace_of_mach (ok : Store → Prop) (ops : List (Nat × TOp)) (s0 : Store) (sched : List Nat) (nkeys : Nat)
    (st0 : State) (hwf : WFProg ops) (hinit : ∀ k, st0.lookup k = s0.getSync k)
    (hm : ∃ tlog, MachFacts ok ops { store := s0 }
      (runFrames stepT TPc.isDone { store := s0 } (framesOfT ops) 0 sched).1
      (runFrames stepT TPc.isDone { store := s0 } (framesOfT ops) 0 sched).2 tlog) :
    judgeTxn st0 nkeys
      ((List.range nkeys).map (runFrames stepT TPc.isDone { store := s0 } (framesOfT ops) 0 sched).1.store.getSync)
      (tobsOf ops (runFrames stepT TPc.isDone { store := s0 } (framesOfT ops) 0 sched).2) = none := by
  obtain ⟨tlog, hm⟩ := hm
  have hf := txnFacts_of_run ok ops { store := s0 } _ sched tlog hwf hm
  exact judgeTxn_of_facts _ _ _ _ st0 nkeys hf hinit

/-- the initial contents the driver installs with `put_sync`, as the judge sees them -/
theorem init_lookup {ok : Store → Prop} (L : MapLaws ok) (kvs : List (Key × Nat)) (s : Store) (st : State) (h : ok s)
    (hl : ∀ k, st.lookup k = s.getSync k) :
    ok (kvs.foldl (fun s e => s.putSync e.1 e.2) s) ∧
    ∀ k, (kvs.foldl (fun s e => setKey e.1 e.2 s) st).lookup k = (kvs.foldl (fun s e => s.putSync e.1 e.2) s).getSync k := by
  -- both folds are a write set applied: `applyWrites` to the store, the judge's `applyW` to its state
  obtain ⟨a, b⟩ := applyWrites_spec L kvs s s.getSync h fun _ => rfl
  exact ⟨a, fun k => (lookup_applyW kvs st _ hl k).trans (b k).symm⟩

end HappyModel.C14.SM

namespace HappyModel.C14.SM.LM
open HappyModel.C14 HappyModel.C14.BT HappyModel.C14.TxSpec

theorem txn_trace_satisfies_spec_side (ok : Store → Prop) (L : MapLaws ok)
    (s00 : Store) (h0 : ok s00) (he : ∀ k, s00.getSync k = none) (initKV : List (Key × Nat)) (nkeys : Nat)
    (ops : List (Nat × TOp)) (sched : List Nat) (hwf : WFProg ops)
    (hseq : SlotSeq ops { store := initKV.foldl (fun s e => s.putSync e.1 e.2) s00 } sched)
    {J : TM → List (Frame TPc) → Prop}
    (S : Side ok (initKV.foldl (fun s e => s.putSync e.1 e.2) s00).getSync ops J)
    (hJ0 : J { store := initKV.foldl (fun s e => s.putSync e.1 e.2) s00 } (framesOfT ops))
    (hq : Quiesced (runFrames stepT TPc.isDone { store := initKV.foldl (fun s e => s.putSync e.1 e.2) s00 }
      (framesOfT ops) 0 sched).2) :
    judgeTxn (initKV.foldl (fun s e => setKey e.1 e.2 s) []) nkeys
      ((List.range nkeys).map (runFrames stepT TPc.isDone { store := initKV.foldl (fun s e => s.putSync e.1 e.2) s00 }
        (framesOfT ops) 0 sched).1.store.getSync)
      (tobsOf ops (runFrames stepT TPc.isDone { store := initKV.foldl (fun s e => s.putSync e.1 e.2) s00 }
        (framesOfT ops) 0 sched).2) = none := by
  obtain ⟨hok, hl⟩ := init_lookup L initKV s00 [] h0 (fun k => by rw [he]; rfl)
  exact txn_trace_of_mach ok ops _ sched nkeys _ hwf hl
    (machFacts_run ok L _ hok ops sched hwf hseq S hJ0 hq)

end HappyModel.C14.SM.LM
