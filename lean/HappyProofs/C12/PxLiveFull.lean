import HappyProofs.C12.PxLive
import HappyProofs.C12.PxFinal
/-!
# C12 — single proposer decides: assembly of the per-delivery steps along the schedule
-/
namespace HappyModel.C12.Px

theorem runActs_append (s : St) (l1 l2 : List Act) : runActs s (l1 ++ l2) = runActs (runActs s l1) l2 := by
  induction l1 generalizing s with
  | nil => rfl
  | cons a as ih => exact ih (step s a)

section
variable {n q1 q2 p b : Nat} {v : Val}

theorem step_all (s : St) (a : Act) (hb : b % n = p) (g : G n q1 q2 p b v s) (hd : DelivB b a) (hn : NotTo p a) :
    G n q1 q2 p b v (step s a) ∧ Mono b s (step s a) := by
  cases a with
  | recvPrepare b' d => cases hd; exact ⟨(prepare_step s d g).1, (prepare_step s d g).2.1⟩
  | recvPromise b' f => cases hd; exact ⟨(promise_step s f hb g).1, (promise_step s f hb g).2.1⟩
  | recvAccept b' d => cases hd; exact ⟨(accept_step s d g).1, (accept_step s d g).2.1⟩
  | recvAccepted b' f => cases hd; exact ⟨(accepted_step s f hb g).1, (accepted_step s f hb g).2.1⟩
  | recvDecided f d => exact decided_step s f d hn g
  | _ => exact hd.elim

theorem run_all (hb : b % n = p) : ∀ (as : List Act) (s : St), G n q1 q2 p b v s →
    (∀ a ∈ as, DelivB b a ∧ NotTo p a) → G n q1 q2 p b v (runActs s as) ∧ Mono b s (runActs s as) := by
  intro as
  induction as with
  | nil => intro s g _; exact ⟨g, Mono.refl b s⟩
  | cons a rest ih =>
    intro s g hall
    obtain ⟨g1, m1⟩ := step_all s a hb g (hall a List.mem_cons_self).1 (hall a List.mem_cons_self).2
    obtain ⟨g2, m2⟩ := ih (step s a) g1 (fun a' ha' => hall a' (List.mem_cons_of_mem _ ha'))
    exact ⟨g2, Mono.trans b m1 m2⟩

/-- if `x` occurs in the schedule and delivering `x` turns `P` into `Q` (both never lost), `Q` holds at the end -/
theorem delivered (hb : b % n = p) (x : Act) (P Q : St → Prop)
    (hP : ∀ s s', Mono b s s' → P s → P s') (hQ : ∀ s s', Mono b s s' → Q s → Q s')
    (hx : ∀ s, G n q1 q2 p b v s → P s → Q (step s x)) :
    ∀ (as : List Act) (s : St), G n q1 q2 p b v s → (∀ a ∈ as, DelivB b a ∧ NotTo p a) → x ∈ as → P s →
      Q (runActs s as) := by
  intro as
  induction as with
  | nil => intro s _ _ h; cases h
  | cons a rest ih =>
    intro s g hall hmem hp
    have hall' : ∀ a' ∈ rest, DelivB b a' ∧ NotTo p a' := fun a' ha' => hall a' (List.mem_cons_of_mem _ ha')
    obtain ⟨g1, m1⟩ := step_all s a hb g (hall a List.mem_cons_self).1 (hall a List.mem_cons_self).2
    rcases List.mem_cons.1 hmem with h | h
    · subst h
      exact hQ _ _ (run_all hb rest _ g1 hall').2 (hx s g hp)
    · exact ih (step s a) g1 hall' h (hP _ _ m1 hp)

theorem delivered2 (hb : b % n = p) (x y : Act) (P Q R : St → Prop)
    (hP : ∀ s s', Mono b s s' → P s → P s') (hQ : ∀ s s', Mono b s s' → Q s → Q s')
    (hR : ∀ s s', Mono b s s' → R s → R s')
    (hx : ∀ s, G n q1 q2 p b v s → P s → Q (step s x)) (hy : ∀ s, G n q1 q2 p b v s → Q s → R (step s y))
    (as : List Act) (s : St) (g : G n q1 q2 p b v s) (hall : ∀ a ∈ as, DelivB b a ∧ NotTo p a)
    (hbf : Before x y as) (hp : P s) : R (runActs s as) := by
  obtain ⟨l1, l2, rfl, h1, h2⟩ := hbf
  rw [runActs_append]
  have hall1 : ∀ a ∈ l1, DelivB b a ∧ NotTo p a := fun a ha => hall a (List.mem_append_left _ ha)
  exact delivered hb y Q R hQ hR hy l2 _ (run_all hb l1 s g hall1).1 (fun a ha => hall a (List.mem_append_right _ ha)) h2
    (delivered hb x P Q hP hQ hx l1 s g hall1 h1 hp)

/-- liveness: with ballot `b` registered and its `Prepare`s out, the two delivery phases make `p` decide -/
theorem run_decides (hb : b % n = p) {s : St} (g : G n q1 q2 p b v s) (as1 as2 : List Act) (Q1 Q2 : List Nat)
    (hnd1 : Q1.Nodup) (hp1 : p ∉ Q1) (hlt1 : ∀ d ∈ Q1, d < n) (hc1 : q1 ≤ Q1.length + 1)
    (hnd2 : Q2.Nodup) (hp2 : p ∉ Q2) (hlt2 : ∀ d ∈ Q2, d < n) (hc2 : q2 ≤ Q2.length + 1)
    (hall1 : ∀ a ∈ as1, DelivB b a ∧ NotTo p a) (hall2 : ∀ a ∈ as2, DelivB b a ∧ NotTo p a)
    (hbf1 : ∀ d ∈ Q1, Before (.recvPrepare b d) (.recvPromise b d) as1)
    (hbf2 : ∀ d ∈ Q2, Before (.recvAccept b d) (.recvAccepted b d) as2)
    (hS0 : ∀ d, d ≠ p → d < n → S0 b s d) (hS2p : S2 b s p) :
    G n q1 q2 p b v (runActs (runActs s as1) as2) ∧ ((runActs (runActs s as1) as2).decided p).isSome := by
  obtain ⟨gM, mM⟩ := run_all hb as1 s g hall1
  have hQ1 : ∀ d ∈ p :: Q1, S2 b (runActs s as1) d := by
    intro d hd
    rcases List.mem_cons.1 hd with rfl | hd
    · exact mM.s2 _ hS2p
    · exact delivered2 hb (.recvPrepare b d) (.recvPromise b d) (S0 b · d) (S1 b · d) (S2 b · d)
        (fun _ _ m => m.s0 d) (fun _ _ m => m.s1 d) (fun _ _ m => m.s2 d)
        (fun s g => (prepare_step s d g).2.2 (hlt1 d hd)) (fun s g => (promise_step s d hb g).2.2)
        as1 s g hall1 (hbf1 d hd) (hS0 d (fun e => hp1 (e ▸ hd)) (hlt1 d hd))
  have hstM := gM.i1 (by
    have := (List.nodup_cons.2 ⟨hp1, hnd1⟩).length_le_of_subset fun d => hQ1 d
    simp only [List.length_cons, List.length_map] at this
    omega)
  obtain ⟨hT2p, hT0, _⟩ := gM.i2 hstM
  obtain ⟨gE, mE⟩ := run_all hb as2 _ gM hall2
  have hQ2 : ∀ d ∈ p :: Q2, T2 b (runActs (runActs s as1) as2) d := by
    intro d hd
    rcases List.mem_cons.1 hd with rfl | hd
    · exact mE.t2 _ hT2p
    · exact delivered2 hb (.recvAccept b d) (.recvAccepted b d) (T0 b · d) (T1 b · d) (T2 b · d)
        (fun _ _ m => m.t0 d) (fun _ _ m => m.t1 d) (fun _ _ m => m.t2 d)
        (fun s g => (accept_step s d g).2.2 (hlt2 d hd)) (fun s g => (accepted_step s d hb g).2.2)
        as2 _ gM hall2 (hbf2 d hd) (hT0 d (fun e => hp2 (e ▸ hd)) (hlt2 d hd))
  refine ⟨gE, (gE.i2 (mE.st hstM)).2.2 ?_⟩
  have := (List.nodup_cons.2 ⟨hp2, hnd2⟩).length_le_of_subset fun d => hQ2 d
  simp only [List.length_cons] at this
  omega

/-- the state right after `propose(v)` + `start_phase1()` on a fresh cluster -/
theorem init_G (hp : p < n) (hb : b % n = p) (hq1 : 2 ≤ q1) :
    G n q1 q2 p b v (step (init n q1 q2) (.propose p b v)) ∧
    (∀ d, d ≠ p → d < n → S0 b (step (init n q1 q2) (.propose p b v)) d) ∧
    S2 b (step (init n q1 q2) (.propose p b v)) p := by
  have e : step (init n q1 q2) (.propose p b v) = beginBallot (attachFut (regFut (init n q1 q2) p v) b 0) p b v := by
    rw [step_propose_undecided b v hp rfl]; exact if_pos ⟨hb, rfl⟩
  rw [e, beginBallot_self v (by exact True.intro) rfl rfl]
  simp only [countSt, promiseSt, openSt1, attachFut, regFut, init]
  refine ⟨{ cfg := rfl, own := by simp, live := by simp, fut := by simp, pl := ?_, selfp := by simp,
            pdec := by intro h; simp at h, pre := by intro _; simp, dec := by intro h; simp at h, pv := rfl,
            -- the proposer's own promise alone is not a phase-1 quorum: this is where `2 ≤ q1` is used
            i1 := by intro h; simp at h; omega,
            i2 := by intro h; simp at h }, ?_, ?_⟩
  · intro d
    by_cases hd : d = p
    · subst hd; simp [upd, leOpt]
    · simp [upd, hd, leOpt]
  · intro d h1 h2; left; simp [upd2_apply, h1, h2]
  · simp [S2]

theorem single_proposer_decides : single_proposer_decides_full := by
  intro n q1 q2 p b v as1 as2 Q1 Q2 hp hb hqq hq1 hq2 hnd1 hp1 hlt1 hc1 hnd2 hp2 hlt2 hc2 hall hbf1 hbf2
  obtain ⟨g0, hS0, hS2p⟩ := init_G (q2 := q2) (v := v) hp hb hq1
  obtain ⟨gE, hdecp⟩ := run_decides hb g0 as1 as2 Q1 Q2 hnd1 hp1 hlt1 hc1 hnd2 hp2 hlt2 hc2
    (fun a ha => hall a (List.mem_append_left _ ha)) (fun a ha => hall a (List.mem_append_right _ ha)) hbf1 hbf2 hS0 hS2p
  -- whatever a node decides was proposed (validity), and `v` is the only value ever proposed
  have r := reach_run n q1 q2 (.propose p b v :: (as1 ++ as2))
  rw [show runActs (init n q1 q2) (.propose p b v :: (as1 ++ as2)) =
    runActs (runActs (step (init n q1 q2) (.propose p b v)) as1) as2 from runActs_append _ _ _] at r ⊢
  generalize runActs (runActs (step (init n q1 q2) (.propose p b v)) as1) as2 = sE at *
  have hval : ∀ d w, sE.decided d = some w → w = v := by
    intro d w hd
    have := r.valid hq2 hd
    rw [gE.pv] at this
    simpa using this
  obtain ⟨w, hdp⟩ := Option.isSome_iff_exists.mp hdecp
  have hw : w = v := hval p w hdp
  rw [hw] at hdp
  refine ⟨hdp, by rw [gE.pdec hdecp, hdp], hval, fun d h1 h2 => ?_⟩
  rcases gE.dec hdecp d h1 h2 with h | h
  · obtain ⟨w', hd⟩ := Option.isSome_iff_exists.mp h
    exact Or.inl (by rw [hd, hval d w' hd])
  · exact Or.inr (by rw [h, hdp])

end

/-- non-vacuity: the theorem applied to the concrete run of `PxLiveEx.lean` (n = 3, p = 0, b = 3, Q1 = Q2 = [1]) -/
example : (runActs (init 3 2 2) (.propose 0 3 7 :: ([.recvPrepare 3 1, .recvPromise 3 1] ++
    [.recvAccept 3 1, .recvAccepted 3 1, .recvDecided 0 1, .recvDecided 0 2]))).decided 0 = some 7 :=
  (single_proposer_decides 3 2 2 0 3 7 [.recvPrepare 3 1, .recvPromise 3 1]
    [.recvAccept 3 1, .recvAccepted 3 1, .recvDecided 0 1, .recvDecided 0 2] [1] [1]
    (by decide) (by decide) (by decide) (by decide) (by decide)
    (by decide) (by decide) (by simp) (by decide) (by decide) (by decide) (by simp) (by decide)
    (by
      intro a ha
      simp only [List.cons_append, List.nil_append, List.mem_cons, List.not_mem_nil, or_false] at ha
      rcases ha with rfl | rfl | rfl | rfl | rfl | rfl <;> simp [DelivB, NotTo])
    (by
      intro d hd; simp only [List.mem_singleton] at hd; subst hd
      exact ⟨[.recvPrepare 3 1], [.recvPromise 3 1], rfl, by simp, by simp⟩)
    (by
      intro d hd; simp only [List.mem_singleton] at hd; subst hd
      exact ⟨[.recvAccept 3 1], [.recvAccepted 3 1, .recvDecided 0 1, .recvDecided 0 2], rfl, by simp, by simp⟩)).1

end HappyModel.C12.Px
