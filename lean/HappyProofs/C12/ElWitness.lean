import HappyModel.C12.Election
import HappyModel.C12.Spec
/-! `LeaderElection`: "never two different leaders for the same term" is false of the pinned tree
    once member views differ (a node that joins counts its own terms from 0).  Schedule of
    `corpus/C12/election-joiner-reuses-term.json`. -/
namespace HappyModel.C12.El

/-- the clause, for the reports of all nodes of a state -/
def one_leader_per_term (s : St) : Prop :=
  ∀ i j t l m, report s i = some (t, l) → report s j = some (t, m) → l = m

def witnessInit : St := { strat := .bully, nodes := [{ members := [0, 1] }, { members := [0, 1] }, { members := [2] }] }

def witness : List Act :=
  [ .timeout 1 false, .timeout 1 true,     -- n1 (highest id it knows) wins its term 1
    .victory 0 1,
    .addMember 2 0, .addMember 2 1,        -- n2 joins and learns the others; they have not added n2 yet
    .timeout 2 true ]                      -- n2 starts its own term 1, sees no higher id, declares victory

/-- n1 reports (term 1, leader n1) while n2 reports (term 1, leader n2) -/
theorem election_two_leaders_one_term :
    report (run witnessInit witness) 1 = some (1, 1) ∧ report (run witnessInit witness) 2 = some (1, 2) := by
  decide +kernel

theorem election_one_leader_per_term_current_false : ¬ one_leader_per_term (run witnessInit witness) := by
  intro h
  have := h 1 2 1 1 2 election_two_leaders_one_term.1 election_two_leaders_one_term.2
  exact absurd this (by decide)

/-- the Spec predicate the judge uses rejects exactly this pair of reports -/
example : Spec.oneLeaderPerTerm [(1, 1, 1), (2, 1, 2)] = false ∧ Spec.oneLeaderPerTerm [(1, 1, 1), (0, 1, 1), (2, 2, 2)] = true := by
  decide +kernel

end HappyModel.C12.El
