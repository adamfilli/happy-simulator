import HappyProofs.C15.MultiDefs
import HappyProofs.C15.Crash
namespace HappyModel.C15
open HappyModel.C14

/-! The base events of a recovered tree: what they read (`firstOn_lvEvs`, `lookup_replayB_nil`) and that they satisfy `Base0` and
    `WCore` for the state they are made from. -/

theorem memEvs_cons (B : Nat) (e : WalE) (r : List WalE) :
    memEvs B (e :: r) = memEvs B r ++ [⟨e.seq, B, e.key, e.cell, e.seq⟩] := by
  simp [memEvs, List.reverse_cons, List.map_append]

/-- the two readings of a replayed log agree: the last entry of a key in log order is the first base event on it -/
theorem lastFor_eq_firstOn (B : Nat) (k : Key) (w : List WalE) (acc : Option Cell) :
    lastFor k w acc = (firstOn k (memEvs B w)).or acc := by
  induction w generalizing acc with
  | nil => simp [memEvs, firstOn, lastFor]
  | cons e r ih =>
    rw [lastFor, ih, memEvs_cons, firstOn_append, Option.or_assoc]
    congr 1
    simp only [firstOn]
    by_cases h : k = e.key
    · subst h; simp
    · have h' : ¬ e.key = k := fun h' => h h'.symm
      simp [h, h']

theorem lookup_replayB_nil (B : Nat) (k : Key) (w : List WalE) :
    (w.foldl (fun m e => ins e.key e.cell m) []).lookup k = firstOn k (memEvs B w) := by
  rw [lookup_replay, lastFor_eq_firstOn B]; simp

theorem firstOn_numEv (id : Nat) (k : Key) (d : List (Key × Cell)) : firstOn k (numEv id d) = d.lookup k := by
  induction d with
  | nil => simp [numEv, firstOn]
  | cons x r ih =>
    simp only [numEv, firstOn, List.lookup]
    by_cases h : x.1 = k
    · have : (k == x.1) = true := by simp [h]
      simp [h]
    · have h' : ¬ k = x.1 := fun h' => h h'.symm
      have : (k == x.1) = false := by simp [h']
      simp [h, this, ih]

theorem lookup_flatTabs (k : Key) (l : List Tab) : (l.flatMap (·.data)).lookup k = lookTabs k l := by
  induction l with
  | nil => simp [lookTabs]
  | cons t r ih => rw [List.flatMap_cons, List.lookup_append, ih, lookTabs_cons]

theorem lookup_flatLv (k : Key) (lv : List (List Tab)) : (flatLv lv).lookup k = lookLevels k lv := by
  induction lv with
  | nil => simp [flatLv, lookLevels]
  | cons l ls ih =>
    unfold flatLv at ih ⊢
    rw [List.flatMap_cons, List.lookup_append, ih, lookup_flatTabs, lookLevels_cons]

theorem firstOn_lvEvs (B : Nat) (k : Key) (lv : List (List Tab)) : firstOn k (lvEvs B lv) = lookLevels k lv := by
  unfold lvEvs; rw [firstOn_numEv, lookup_flatLv]

theorem numEv_facts (id : Nat) (d : List (Key × Cell)) :
    (∀ ev ∈ numEv id d, ev.id = id ∧ ev.seq = 0 ∧ ev.n < d.length) ∧
      (numEv id d).Pairwise (fun a b => a.n > b.n) := by
  induction d with
  | nil => simp [numEv]
  | cons x r ih =>
    obtain ⟨ih1, ih2⟩ := ih
    constructor
    · intro ev hev
      simp only [numEv, List.mem_cons] at hev
      rcases hev with rfl | hev
      · simp
      · obtain ⟨a, b, c⟩ := ih1 ev hev
        exact ⟨a, b, by simp only [List.length_cons]; omega⟩
    · simp only [numEv]
      refine List.pairwise_cons.mpr ⟨?_, ih2⟩
      intro ev hev
      exact (ih1 ev hev).2.2

theorem memEvs_facts (B : Nat) (w : List WalE) :
    ∀ ev ∈ memEvs B w, ev.id = B ∧ ev.n = ev.seq ∧ ∃ e ∈ w, e.seq = ev.seq ∧ e.key = ev.key ∧ e.cell = ev.cell := by
  intro ev hev
  simp only [memEvs, List.mem_map, List.mem_reverse] at hev
  obtain ⟨e, he, rfl⟩ := hev
  exact ⟨rfl, rfl, e, he, rfl, rfl, rfl⟩

theorem memEvs_all (B : Nat) (w : List WalE) :
    ∀ e ∈ w, ∃ ev ∈ memEvs B w, ev.id = B ∧ ev.key = e.key ∧ ev.seq = e.seq := by
  intro e he
  refine ⟨⟨e.seq, B, e.key, e.cell, e.seq⟩, ?_, rfl, rfl, rfl⟩
  simp only [memEvs, List.mem_map, List.mem_reverse]
  exact ⟨e, he, rfl⟩

theorem memEvs_sorted (B : Nat) (w : List WalE) (hs : (w.map (·.seq)).Pairwise (· < ·)) :
    (memEvs B w).Pairwise (fun a b => a.n > b.n) := by
  unfold memEvs
  rw [List.pairwise_map, List.pairwise_reverse]
  rw [List.pairwise_map] at hs
  exact hs

theorem lvEvs_facts (B : Nat) (lv : List (List Tab)) :
    (∀ ev ∈ lvEvs B lv, ev.id = B + 1 ∧ ev.seq = 0) ∧ (lvEvs B lv).Pairwise (fun a b => a.n > b.n) := by
  obtain ⟨h1, h2⟩ := numEv_facts (B + 1) (flatLv lv)
  exact ⟨fun ev hev => ⟨(h1 ev hev).1, (h1 ev hev).2.1⟩, h2⟩

theorem log0_sorted (B : Nat) (s : St) (hs : (s.wal.map (·.seq)).Pairwise (· < ·)) :
    (log0Of B s).Pairwise (RBase B) := by
  unfold log0Of
  obtain ⟨hl1, hl2⟩ := lvEvs_facts B s.levels
  refine List.pairwise_append.mpr ⟨?_, ?_, ?_⟩
  · refine (memEvs_sorted B s.wal hs).imp_of_mem ?_
    intro a b ha hb hab
    right
    rw [cls_of_eq (memEvs_facts B s.wal a ha).1, cls_of_eq (memEvs_facts B s.wal b hb).1]
    exact ⟨rfl, hab⟩
  · refine hl2.imp_of_mem ?_
    intro a b ha hb hab
    right
    rw [cls_of_succ (hl1 a ha).1, cls_of_succ (hl1 b hb).1]
    exact ⟨rfl, hab⟩
  · intro a ha b hb
    left
    rw [cls_of_eq (memEvs_facts B s.wal a ha).1, cls_of_succ (hl1 b hb).1]
    exact Nat.lt_succ_self 1

theorem abs_log0 (B : Nat) (s : St) (hmem : s.mem = s.wal.foldl (fun m e => ins e.key e.cell m) [])
    (himm : s.imms = []) : ∀ k, s.abs k = (firstOn k (log0Of B s)).join := by
  intro k
  unfold St.abs St.read log0Of
  rw [firstOn_append, firstOn_lvEvs, himm, hmem, lookup_replayB_nil B]
  simp only [List.reverse_nil, lookTabs]
  cases firstOn k (memEvs B s.wal) <;> cases lookLevels k s.levels <;> rfl

theorem base0_of (B : Nat) (s : St) (hs : (s.wal.map (·.seq)).Pairwise (· < ·))
    (hdur : ∀ e ∈ s.wal, e.seq ≤ s.synced) (hmem : s.mem = s.wal.foldl (fun m e => ins e.key e.cell m) [])
    (himm : s.imms = []) : Base0 B s.synced s.wal s.abs (log0Of B s) := by
  obtain ⟨hl1, _⟩ := lvEvs_facts B s.levels
  have hmemEv := memEvs_facts B s.wal
  refine ⟨?_, ?_, ?_, ?_, log0_sorted B s hs, abs_log0 B s hmem himm⟩
  · intro ev hev
    rcases List.mem_append.mp hev with h | h
    · exact Nat.le_of_eq (hmemEv ev h).1.symm
    · rw [(hl1 ev h).1]; exact Nat.le_succ B
  · intro ev hev
    rcases List.mem_append.mp hev with h | h
    · obtain ⟨_, _, e, he, h1, _⟩ := hmemEv ev h
      rw [← h1]; exact hdur e he
    · rw [(hl1 ev h).2]; exact Nat.zero_le _
  · intro ev hev hid
    rcases List.mem_append.mp hev with h | h
    · exact (hmemEv ev h).2.1
    · have := (hl1 ev h).1; omega
  · intro e he
    obtain ⟨ev, hev, h⟩ := memEvs_all B s.wal e he
    exact ⟨ev, List.mem_append_left _ hev, h⟩

theorem wcore0 (B : Nat) (s : St) (hs : (s.wal.map (·.seq)).Pairwise (· < ·))
    (hmem : s.mem = s.wal.foldl (fun m e => ins e.key e.cell m) []) (himm : s.imms = [])
    (hlt : ∀ e ∈ s.wal, e.seq < s.nextSeq) (hpend : ∀ q ∈ s.pending, 1 ≤ q ∧ q < s.nextSeq)
    (hpos : ∀ e ∈ s.wal, 1 ≤ e.seq) (hn : 1 ≤ s.nextSeq) : WCore s (log0Of B s) (ghost0Of B s) := by
  obtain ⟨hl1, _⟩ := lvEvs_facts B s.levels
  refine ⟨?_, ?_, ?_, ?_, ?_, ?_, hs, hlt, hpend, ?_, ?_, ?_⟩
  · simp [Ghost.all, ghost0Of, log0Of]
  · intro k
    simp only [ghost0Of]
    rw [hmem, lookup_replayB_nil B]
  · rw [himm]; exact True.intro
  · intro k
    simp only [ghost0Of]
    rw [firstOn_lvEvs]
  · rw [himm]; exact List.Pairwise.nil
  · rw [himm]; intro u hu; cases hu
  · exact hpos
  · exact hn
  · intro ev hev
    rcases List.mem_append.mp hev with h | h
    · exact Or.inl (memEvs_facts B s.wal ev h).2.2
    · exact Or.inr ⟨h, Nat.le_of_eq (hl1 ev h).2⟩

end HappyModel.C15
