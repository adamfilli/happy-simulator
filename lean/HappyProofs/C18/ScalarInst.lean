import HappyProofs.C18.VClockBump
import HappyProofs.C18.Scalar
namespace HappyModel.C18

def HTs.le (a b : HTs) : Prop := a.p < b.p ∨ (a.p = b.p ∧ a.l ≤ b.l)

theorem HTs.le_lt {a b c : HTs} (h1 : HTs.le a b) (h2 : HTs.lt b c) : HTs.lt a c := by
  rcases h1 with h1 | ⟨e1, h1⟩ <;> rcases h2 with h2 | ⟨e2, h2⟩
  · exact Or.inl (Nat.lt_trans h1 h2)
  · exact Or.inl (e2 ▸ h1)
  · exact Or.inl (e1 ▸ h2)
  · exact Or.inr ⟨e1.trans e2, Nat.lt_of_le_of_lt h1 h2⟩

def lhOrd : TOrd (Nat × HTs) where
  lt a b := a.1 < b.1 ∧ HTs.lt a.2 b.2
  le a b := a.1 ≤ b.1 ∧ HTs.le a.2 b.2
  le_refl _ := ⟨Nat.le_refl _, Or.inr ⟨rfl, Nat.le_refl _⟩⟩
  lt_le h := ⟨Nat.le_of_lt h.1, h.2.imp id fun h => ⟨h.1, Nat.le_of_lt h.2⟩⟩
  le_lt h1 h2 := ⟨Nat.lt_of_le_of_lt h1.1 h2.1, HTs.le_lt h1.2 h2.2⟩

theorem hlcNow_gt (last : HTs) (pt : Nat) : HTs.lt last (hlcNow last pt) := by
  unfold hlcNow HTs.lt
  by_cases h : pt > last.p
  · rw [if_pos h]; exact Or.inl h
  · rw [if_neg h]; exact Or.inr ⟨rfl, Nat.lt_succ_self _⟩

theorem hlcRecv_gt (last r : HTs) (pt : Nat) :
    HTs.lt last (hlcRecv last pt r) ∧ HTs.lt r (hlcRecv last pt r) := by
  have hl : last.p ≤ max pt (max last.p r.p) := Nat.le_trans (Nat.le_max_left _ _) (Nat.le_max_right _ _)
  have hr : r.p ≤ max pt (max last.p r.p) := Nat.le_trans (Nat.le_max_right _ _) (Nat.le_max_right _ _)
  unfold hlcRecv HTs.lt
  generalize max pt (max last.p r.p) = mx at hl hr
  dsimp only
  by_cases h1 : mx = last.p ∧ last.p = r.p
  · rw [if_pos h1]
    exact ⟨Or.inr ⟨h1.1.symm, Nat.lt_succ_of_le (Nat.le_max_left _ _)⟩,
      Or.inr ⟨h1.2.symm.trans h1.1.symm, Nat.lt_succ_of_le (Nat.le_max_right _ _)⟩⟩
  · rw [if_neg h1]
    by_cases h2 : mx = last.p
    · rw [if_pos h2]
      exact ⟨Or.inr ⟨h2.symm, Nat.lt_succ_self _⟩,
        Or.inl (Nat.lt_of_le_of_ne hr fun e => h1 ⟨h2, h2.symm.trans e.symm⟩)⟩
    · rw [if_neg h2]
      by_cases h3 : mx = r.p
      · rw [if_pos h3]
        exact ⟨Or.inl (Nat.lt_of_le_of_ne hl (Ne.symm h2)), Or.inr ⟨h3.symm, Nat.lt_succ_self _⟩⟩
      · rw [if_neg h3]
        exact ⟨Or.inl (Nat.lt_of_le_of_ne hl (Ne.symm h2)), Or.inl (Nat.lt_of_le_of_ne hr (Ne.symm h3))⟩

abbrev LHInv (s : St) : Prop :=
  SInv lhOrd (fun r => (r.L, r.H)) s (fun n => (s.lam n, s.hlc n)) (fun m => (s.mlam m, s.mhlc m))

theorem lhinv_bump {s : St} (inv : Inv s) (si : LHInv s) (n l : Nat) (v : Vec) (h : HTs)
    (K : List Nat)
    (hK : ∀ r ∈ s.log, r.id ∈ K → lhOrd.lt (r.L, r.H) (l, h)) : LHInv (bump s n l v h K) := by
  refine sinv_bump lhOrd _ inv si n l v h K ?_ (fun n' hn' => ?_) ?_ <;> dsimp only [bump]
  · rw [upd_same, upd_same]
  · rw [upd_other _ _ _ _ hn', upd_other _ _ _ _ hn']
  · rw [upd_same, upd_same]; exact hK

theorem lhinv_step (s : St) (e : Ev) (inv : Inv s) (si : LHInv s) : LHInv (step s e) := by
  -- a local event or a send: the new timestamps exceed the node's current ones
  have loc : ∀ n pt, LHInv (bump s n (s.lam n + 1) (s.vc n) (hlcNow (s.hlc n) pt) (s.know n)) :=
    fun n pt => lhinv_bump inv si n _ _ _ _ fun r hr hm =>
      lhOrd.le_lt (si.sNode n r hr hm) ⟨Nat.lt_succ_self _, hlcNow_gt _ _⟩
  cases e with
  | loc n pt => exact loc n pt
  | send n m pt =>
    cases hs : s.msent m with
    | true => rw [step_send_sent hs]; exact si
    | false =>
      rw [step_send_fresh hs]
      refine sinv_send lhOrd _ (loc n pt) n m _ _ _ ?_ (fun m' hm' => ?_) <;> dsimp only
      · rw [upd_same, upd_same]
      · rw [upd_other _ _ _ _ hm', upd_other _ _ _ _ hm']
  | recv n m pt =>
    cases hs : s.msent m with
    | false => rw [step_recv_unsent hs]; exact si
    | true =>
      rw [step_recv_sent hs]
      refine lhinv_bump inv si n _ _ _ _ fun r hr hm => ?_
      rcases (mem_kunion _ _ _).mp hm with h | h
      · exact lhOrd.le_lt (si.sNode n r hr h)
          ⟨Nat.lt_succ_of_le (Nat.le_max_left _ _), (hlcRecv_gt _ _ _).1⟩
      · exact lhOrd.le_lt (si.sMsg m hs r hr h)
          ⟨Nat.lt_succ_of_le (Nat.le_max_right _ _), (hlcRecv_gt _ _ _).2⟩

theorem all_inv (es : List Ev) (s : St) (inv : Inv s) (si : LHInv s) :
    Inv (run s es) ∧ LHInv (run s es) := by
  induction es generalizing s with
  | nil => exact ⟨inv, si⟩
  | cons e es ih => exact ih _ (step_inv s e inv) (lhinv_step s e inv si)

end HappyModel.C18
