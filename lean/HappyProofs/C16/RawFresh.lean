import HappyProofs.C16.RawObs
import HappyProofs.C16.StoreBase
import HappyProofs.Lib.Lists
/-!
Read-after-write over every interleaving: the ghost context and the invariant.

`Gh` is what the proof remembers besides the store's state: the operation table, the observed log so
far and the ids whose first segment has run.  `Fresh g k v P`: `v` is the value of a started write
to `k` that no started write in the set `P` entirely follows (or `v` is absent and no started write to
`k` lies in `P`).  The invariant says that every place a `get` can take its answer from holds a fresh value:

* the cache, against *all* started writes (`VI.c`);
* the backing store, for a key that is not dirty, against all started writes whose backing-store
  write is not in flight (`VI.b`) — so with no write in flight, against all of them;
* the backing store as a pending miss will see it, against the writes completed before the miss was
  issued, and a pending miss whose epoch is still current has a clean key (`VI.miss`);
* the value a pending hit carries, against the writes completed before it was issued (`PI.hit`).

"Follows" is a parameter: `FreshR R`, `PI R`, `VI R`, `RInvG R` for an order `R : WOrd` between the returned write and
another one (`OrdLaws`); `Fresh`, `RInvA` are the instance `NotFollowed` of the plain read clause, `OkPair` (`ORaw*`)
is the finer one of the ordered clause.
-/
namespace HappyModel.C16

structure Gh where
  ops : List (Nat × OpK)
  evs : List Obs
  started : List Nat

/-- the context after one more segment (of operation `o.i`), `new` = ids started by it -/
def Gh.ext (g : Gh) (o : Obs) (new : List Nat) : Gh := ⟨g.ops, g.evs ++ [o], g.started ++ new⟩

theorem mem_ext_started {g : Gh} {o : Obs} {new : List Nat} {j : Nat} :
    j ∈ (g.ext o new).started ↔ j ∈ g.started ∨ j ∈ new := List.mem_append

def Fresh (g : Gh) (k : Key) (v : Option Nat) (P : Nat → Prop) : Prop :=
  (∃ i op, i ∈ g.started ∧ (i, op) ∈ g.ops ∧ wkv op = some (k, v) ∧
      ∀ j op', j ∈ g.started → (j, op') ∈ g.ops → wk op' = some k → P j → NotFollowed g.evs i j) ∨
  (v = none ∧ ∀ j op', j ∈ g.started → (j, op') ∈ g.ops → wk op' = some k → ¬ P j)

variable {R : WOrd}

/-- `Fresh` over any order `R` between the returned write and the others; `Fresh` is the instance `NotFollowed` -/
def FreshR (R : WOrd) (g : Gh) (k : Key) (v : Option Nat) (P : Nat → Prop) : Prop :=
  (∃ i op, i ∈ g.started ∧ (i, op) ∈ g.ops ∧ wkv op = some (k, v) ∧
      ∀ j op', j ∈ g.started → (j, op') ∈ g.ops → wk op' = some k → P j → R g.evs i j) ∨
  (v = none ∧ ∀ j op', j ∈ g.started → (j, op') ∈ g.ops → wk op' = some k → ¬ P j)

/-- the parts of the multi-tier invariant (`MVI`, `MPI`) are stated with `Fresh`, the store walk with `FreshR R` -/
theorem fresh_eq : Fresh = FreshR NotFollowed := rfl

abbrev FreshAll (R : WOrd) (g : Gh) (k : Key) (v : Option Nat) : Prop := FreshR R g k v (fun _ => True)

/-- fresh against fewer writes; only the started writes of the key matter -/
theorem FreshR.anti' {g : Gh} {k : Key} {v : Option Nat} {P P' : Nat → Prop}
    (hP : ∀ j op, j ∈ g.started → (j, op) ∈ g.ops → wk op = some k → P' j → P j) (h : FreshR R g k v P) :
    FreshR R g k v P' := by
  rcases h with ⟨i, op, hi, hm, hw, hall⟩ | ⟨hv, hall⟩
  · exact Or.inl ⟨i, op, hi, hm, hw, fun j op' hj hjm hk hp => hall j op' hj hjm hk (hP j op' hj hjm hk hp)⟩
  · exact Or.inr ⟨hv, fun j op' hj hjm hk hp => hall j op' hj hjm hk (hP j op' hj hjm hk hp)⟩

theorem FreshR.anti {g : Gh} {k : Key} {v : Option Nat} {P P' : Nat → Prop}
    (hP : ∀ j, j ∈ g.started → P' j → P j) (h : FreshR R g k v P) : FreshR R g k v P' :=
  h.anti' fun j _ hj _ _ => hP j hj

theorem FreshAll.to {g : Gh} {k : Key} {v : Option Nat} (P : Nat → Prop) (h : FreshAll R g k v) : FreshR R g k v P :=
  FreshR.anti (fun _ _ _ => trivial) h

theorem FreshR.self {g : Gh} {k : Key} {v : Option Nat} {P : Nat → Prop} {i : Nat} {op : OpK}
    (hi : i ∈ g.started) (hm : (i, op) ∈ g.ops) (hw : wkv op = some (k, v))
    (hR : ∀ j op', j ∈ g.started → (j, op') ∈ g.ops → wk op' = some k → P j → R g.evs i j) : FreshR R g k v P :=
  Or.inl ⟨i, op, hi, hm, hw, hR⟩

theorem FreshR.ext (L : OrdLaws R) {g : Gh} {k : Key} {v : Option Nat} {P P' : Nat → Prop} (o : Obs) (new : List Nat)
    (hs1 : ∀ j ∈ g.started, (firstIdx g.evs j).isSome)
    (hP : ∀ j, j ∈ g.started → P' j → P j)
    (hnew : ∀ j op', j ∈ new → j ∉ g.started → (j, op') ∈ g.ops → wk op' = some k → ¬ P' j)
    (h : FreshR R g k v P) : FreshR R (g.ext o new) k v P' := by
  have hcase : ∀ j op', j ∈ (g.ext o new).started → (j, op') ∈ g.ops → wk op' = some k → P' j →
      j ∈ g.started ∧ P j := by
    intro j op' hj hjm hk hp
    by_cases hjs : j ∈ g.started
    · exact ⟨hjs, hP j hjs hp⟩
    · exact absurd hp (hnew j op' ((mem_ext_started.mp hj).resolve_left hjs) hjs hjm hk)
  rcases h with ⟨i, op, hi, hm, hw, hall⟩ | ⟨hv, hall⟩
  · refine Or.inl ⟨i, op, mem_ext_started.mpr (Or.inl hi), hm, hw, ?_⟩
    intro j op' hj hjm hk hp
    obtain ⟨hjs, hpj⟩ := hcase j op' hj hjm hk hp
    exact L.snoc o (hs1 j hjs) (hall j op' hjs hjm hk hpj)
  · refine Or.inr ⟨hv, ?_⟩
    intro j op' hj hjm hk hp
    obtain ⟨hjs, hpj⟩ := hcase j op' hj hjm hk hp
    exact hall j op' hjs hjm hk hpj

theorem FreshR.ext_nil (L : OrdLaws R) {g : Gh} {k : Key} {v : Option Nat} {P : Nat → Prop} (o : Obs)
    (hs1 : ∀ j ∈ g.started, (firstIdx g.evs j).isSome) (h : FreshR R g k v P) : FreshR R (g.ext o []) k v P :=
  FreshR.ext L o [] hs1 (fun _ _ h => h) (fun _ _ hj => nomatch hj) h
/-! `Fresh` is `FreshR NotFollowed`; the lemmas under its own name are for the multi-tier walk, whose invariant mentions it. -/

theorem Fresh.anti {g : Gh} {k : Key} {v : Option Nat} {P P' : Nat → Prop}
    (hP : ∀ j, j ∈ g.started → P' j → P j) (h : Fresh g k v P) : Fresh g k v P' := FreshR.anti (R := NotFollowed) hP h

theorem Fresh.self {g : Gh} {k : Key} {v : Option Nat} (P : Nat → Prop) {i : Nat} {op : OpK}
    (hi : i ∈ g.started) (hm : (i, op) ∈ g.ops) (hw : wkv op = some (k, v)) (he : endIdx g.evs i = none) :
    Fresh g k v P :=
  FreshR.self (R := NotFollowed) hi hm hw fun j _ _ _ _ _ => nf_of_running j he

def bwKey : Pend → Option Key
  | .putWT k _ => some k
  | .del k _ => some k
  | _ => none

/-- pending continuation `p` belongs to an operation `op` of the table -/
def PendOf : OpK → Pend → Prop
  | .get _, .getHit _ => True
  | .get k, .getMiss k' _ => k' = k
  | .put k v, .putWT k' v' => k' = k ∧ v' = v
  | .put _ _, .putWB => True
  | .del k, .del k' _ => k' = k
  | .flush _, .flushRep _ _ _ => True
  | _, _ => False

/-- continuations that hold on to key `k` (`f := bwKey`: a backing-store write in flight; `Tier.inflCount` is the same
count at `inflKey`, written out) -/
def keyCount {β} (f : β → Option Key) (pend : List (Nat × β)) (k : Key) : Nat :=
  (pend.filter fun x => f x.2 == some k).length

theorem keyCount_cons {β} (f : β → Option Key) (x : Nat × β) (t : List (Nat × β)) (k : Key) :
    keyCount f (x :: t) k = (if f x.2 = some k then 1 else 0) + keyCount f t k := by
  unfold keyCount
  by_cases h : f x.2 = some k
  · simp [h]; omega
  · simp [h]

theorem keyCount_append {β} (f : β → Option Key) (a b : List (Nat × β)) (k : Key) :
    keyCount f (a ++ b) k = keyCount f a k + keyCount f b k := by
  simp [keyCount, List.filter_append]

theorem keyCount_clear {β} (f : β → Option Key) (pend : List (Nat × β)) (i : Nat) (p : β) (k : Key)
    (nd : (pend.map (·.1)).Nodup) (hm : (i, p) ∈ pend) :
    keyCount f pend k = keyCount f (pend.filter (fun x => x.1 != i)) k + (if f p = some k then 1 else 0) := by
  induction pend with
  | nil => cases hm
  | cons x t ih =>
    simp only [List.map_cons, List.nodup_cons] at nd
    rcases List.mem_cons.mp hm with hx | hx
    · subst hx
      have hall : t.filter (fun y => y.1 != i) = t := by
        rw [List.filter_eq_self]
        intro y hy
        simp only [bne_iff_ne, ne_eq]
        intro e
        exact nd.1 (List.mem_map.mpr ⟨y, hy, e⟩)
      rw [List.filter_cons]
      simp only [bne_self_eq_false, Bool.false_eq_true, if_false, hall]
      rw [keyCount_cons]; dsimp only; omega
    · have hne : x.1 ≠ i := fun e => nd.1 (List.mem_map.mpr ⟨(i, p), hx, e.symm⟩)
      rw [List.filter_cons]
      have : (x.1 != i) = true := by simp [hne]
      simp only [this, if_true]
      rw [keyCount_cons, keyCount_cons, ih nd.2 hx]; omega

theorem ops_unique {β} {ops : List (Nat × β)} (nd : (ops.map (·.1)).Nodup) {i : Nat} {a b : β}
    (ha : (i, a) ∈ ops) (hb : (i, b) ∈ ops) : a = b :=
  (Prod.mk.inj (inj_of_nodup_map (·.1) nd ha hb rfl)).2

theorem mem_clear {β} {pend : List (Nat × β)} {i : Nat} {x : Nat × β} :
    x ∈ pend.filter (fun y => y.1 != i) ↔ x ∈ pend ∧ x.1 ≠ i := by simp

theorem nodup_clear {β} {pend : List (Nat × β)} (nd : (pend.map (·.1)).Nodup) (i : Nat) :
    ((pend.filter (fun y => y.1 != i)).map (·.1)).Nodup := (List.filter_sublist.map _).nodup nd

/-- operation `j` holds key `k`: one of its continuations in `pend` is about `k` (`f` says which key a continuation
is about).  `BP` is this at `bwKey`, `Tier.BPm` at `mbwKey`, `Tier.InFl` at `inflKey`. -/
abbrev Holds {β} (f : β → Option Key) (pend : List (Nat × β)) (k : Key) (j : Nat) : Prop :=
  ∃ p, (j, p) ∈ pend ∧ f p = some k

theorem Holds.clear {β} {f : β → Option Key} {pend pend' extra : List (Nat × β)} {i j : Nat} {k : Key}
    (hp : pend' = pend.filter (fun y => y.1 != i) ++ extra) (hji : j ≠ i) (h : Holds f pend k j) : Holds f pend' k j :=
  have ⟨q, hq, hk⟩ := h
  ⟨q, hp ▸ List.mem_append_left _ (mem_clear.mpr ⟨hq, hji⟩), hk⟩

theorem Holds.ne {β} {f : β → Option Key} {pend : List (Nat × β)} {i j : Nat} {p : β} {k : Key}
    (nd : (pend.map (·.1)).Nodup) (hm : (i, p) ∈ pend) (hx : f p ≠ some k) (h : Holds f pend k j) : j ≠ i := by
  obtain ⟨q, hq, hk⟩ := h
  rintro rfl
  exact hx (ops_unique nd hq hm ▸ hk)

theorem Holds.count_pos {β} {f : β → Option Key} {pend : List (Nat × β)} {j : Nat} {k : Key} (h : Holds f pend k j) :
    keyCount f pend k ≠ 0 := by
  obtain ⟨p, hp, hk⟩ := h
  intro h0
  have : (j, p) ∈ pend.filter (fun x => f x.2 == some k) := List.mem_filter.mpr ⟨hp, by simp [hk]⟩
  rw [List.length_eq_zero_iff.mp h0] at this
  cases this

theorem Holds.running {β} {f : β → Option Key} {pend : List (Nat × β)} {j r : Nat} {k : Key} {evs : List Obs}
    (hS : ∀ x ∈ pend, endIdx evs x.1 = none) (h : Holds f pend k j) : ¬ CompletedBefore evs j r := by
  obtain ⟨p, hp, _⟩ := h
  rintro ⟨e, he, _⟩
  rw [hS _ hp] at he; cases he

/-- operation `j` has a backing-store write of `k` in flight -/
def BP (s : St) (k : Key) (j : Nat) : Prop := Holds bwKey s.pend k j

theorem PendOf.op {op : OpK} {p : Pend} (h : PendOf op p) :
    match p with
    | .getHit _ => ∃ k, op = .get k
    | .getMiss k _ => op = .get k
    | .putWT k v => op = .put k v
    | .putWB => ∃ k v, op = .put k v
    | .del k _ => op = .del k
    | .flushRep .. => ∃ order, op = .flush order
    | .flushCur .. => False := by
  cases p <;> cases op <;> simp [PendOf] at h <;> simp [h]

theorem pendOf_get_iff {k : Key} {p : Pend} (h : PendOf (.get k) p) :
    (∃ v, p = .getHit v) ∨ (∃ e, p = .getMiss k e) := by
  cases p <;> simp [PendOf] at h
  · exact Or.inl ⟨_, rfl⟩
  · subst h; exact Or.inr ⟨_, rfl⟩

/-- the log part of the invariant.  Trap: an id may have observations before its first segment (a `resume` of an id
that has nothing pending is logged too), so there is no clause "`i ∉ started → firstIdx = none`": the judge's issue
index of a read can lie before its real start.  That is why `Tier.MPI.tg` keeps two indices `rs ≤ rh`, and why the
ordered theorem needs `lateOk`. -/
structure GI (g : Gh) : Prop where
  nd : (g.ops.map (·.1)).Nodup
  s1 : ∀ i ∈ g.started, (firstIdx g.evs i).isSome
  s2 : ∀ i, i ∉ g.started → endIdx g.evs i = none
  d : ∀ i k rs re, (i, OpK.get k) ∈ g.ops → firstIdx g.evs i = some rs → endIdx g.evs i = some re →
        ∃ v, (g.evs.getD re dObs).res = some (resOf v) ∧ ReadGood g.ops g.evs k rs re v



def FreshAtR (R : WOrd) (g : Gh) (i : Nat) (k : Key) (v : Option Nat) : Prop :=
  ∃ r, firstIdx g.evs i = some r ∧ FreshR R g k v (fun j => CompletedBefore g.evs j r)

theorem FreshR.ext_cb (L : OrdLaws R) {g : Gh} (gi : GI g) (o : Obs) (new : List Nat) {k : Key} {v : Option Nat} {r : Nat}
    (hr : r ≤ g.evs.length) (h : FreshR R g k v (fun j => CompletedBefore g.evs j r)) :
    FreshR R (g.ext o new) k v (fun j => CompletedBefore (g.evs ++ [o]) j r) :=
  FreshR.ext L o new gi.s1 (fun _ _ hc => (cb_snoc o hr).mp hc) (fun j _ _ hn _ _ => not_cb_snoc o hr (gi.s2 j hn)) h

theorem FreshR.start_cb (L : OrdLaws R) {g : Gh} (gi : GI g) (o : Obs) {k : Key} {v : Option Nat} {P : Nat → Prop} {r : Nat}
    (hr : r ≤ g.evs.length) (hP : ∀ j, j ∈ g.started → CompletedBefore g.evs j r → P j)
    (hnw : ∀ op', (o.i, op') ∈ g.ops → wk op' ≠ some k) (h : FreshR R g k v P) :
    FreshR R (g.ext o [o.i]) k v (fun j => CompletedBefore (g.evs ++ [o]) j r) := by
  refine FreshR.ext L o [o.i] gi.s1 (fun j hj hc => hP j hj ((cb_snoc o hr).mp hc)) ?_ h
  intro j op' hj _ hjm hk
  rw [List.mem_singleton.mp hj] at hjm
  exact absurd hk (hnw op' hjm)

theorem FreshAtR.ext (L : OrdLaws R) {g : Gh} (gi : GI g) (o : Obs) (new : List Nat) {i : Nat} {k : Key} {v : Option Nat}
    (h : FreshAtR R g i k v) : FreshAtR R (g.ext o new) i k v := by
  obtain ⟨r, hr, hf⟩ := h
  exact ⟨r, firstIdx_snoc_some o hr, hf.ext_cb L gi o new (Nat.le_of_lt (firstIdx_lt hr))⟩

theorem FreshAtR.start (L : OrdLaws R) {g : Gh} (gi : GI g) (o : Obs) {k : Key} {v : Option Nat} {P : Nat → Prop}
    (hP : ∀ j r, j ∈ g.started → CompletedBefore g.evs j r → P j)
    (hnw : ∀ op', (o.i, op') ∈ g.ops → wk op' ≠ some k) (h : FreshR R g k v P) :
    FreshAtR R (g.ext o [o.i]) o.i k v := by
  obtain ⟨r, hr, hle⟩ := firstIdx_snoc_self g.evs o
  exact ⟨r, hr, h.start_cb L gi o hle (fun j => hP j r) hnw⟩

theorem Fresh.ext_cb {g : Gh} (gi : GI g) (o : Obs) (new : List Nat) {k : Key} {v : Option Nat} {r : Nat}
    (hr : r ≤ g.evs.length) (h : Fresh g k v (fun j => CompletedBefore g.evs j r)) :
    Fresh (g.ext o new) k v (fun j => CompletedBefore (g.evs ++ [o]) j r) := FreshR.ext_cb nfLaws gi o new hr h

structure PI (R : WOrd) (g : Gh) (s : St) : Prop where
  pendS : ∀ x ∈ s.pend, x.1 ∈ g.started ∧ endIdx g.evs x.1 = none
  pendND : (s.pend.map (·.1)).Nodup
  infl : ∀ k, cnt s.infl k = keyCount bwKey s.pend k
  pOp : ∀ x ∈ s.pend, ∃ op, (x.1, op) ∈ g.ops ∧ PendOf op x.2
  hit : ∀ i v, (i, Pend.getHit v) ∈ s.pend → ∀ k, (i, OpK.get k) ∈ g.ops → FreshAtR R g i k (some v)

structure VI (R : WOrd) (g : Gh) (s : St) : Prop where
  dsub : ∀ k ∈ s.dirty, k ∈ akeys s.cache
  c : ∀ k v, aget? s.cache k = some v → FreshAll R g k (some v)
  b : ∀ k, k ∉ s.dirty → FreshR R g k (aget? s.back k) (fun j => ¬ BP s k j)
  miss : ∀ i k e, (i, Pend.getMiss k e) ∈ s.pend →
        FreshAtR R g i k (aget? s.back k) ∧ e ≤ cnt s.epoch k ∧ (e = cnt s.epoch k → k ∉ s.dirty)

/-- the invariant of the walk over the segments, for any order `R` with `OrdLaws`; `d`: every completed `get` is accepted by
the read clause of `R` (for `NotFollowed` that is `gi.d` again) -/
structure RInvG (R : WOrd) (g : Gh) (s : St) : Prop where
  gi : GI g
  pi : PI R g s
  vi : VI R g s
  d : ReadsOk (ReadGoodP R g.ops) g.ops g.evs

abbrev RInvA (g : Gh) (s : St) : Prop := RInvG NotFollowed g s

/-- `s'` comes from `s` by evictions, invalidations, write-backs and fills of fresh values -/
structure Mut (R : WOrd) (g : Gh) (s s' : St) : Prop where
  pend : s'.pend = s.pend
  epoch : s'.epoch = s.epoch
  infl : s'.infl = s.infl
  dsub : ∀ k ∈ s'.dirty, k ∈ s.dirty
  dcache : ∀ k ∈ s'.dirty, k ∈ akeys s'.cache
  c : ∀ k v, aget? s'.cache k = some v → aget? s.cache k = some v ∨ FreshAll R g k (some v)
  b : ∀ k, aget? s'.back k = aget? s.back k ∨ FreshAll R g k (aget? s'.back k)
  wb : ∀ k, k ∈ s.dirty → k ∉ s'.dirty → FreshAll R g k (aget? s'.back k)

theorem Mut.refl {g : Gh} {s : St} (h : VI R g s) : Mut R g s s :=
  ⟨rfl, rfl, rfl, fun _ h => h, h.dsub, fun _ _ h => Or.inl h, fun _ => Or.inl rfl, fun _ h1 h2 => absurd h1 h2⟩

theorem Mut.trans {g : Gh} {a b c : St} (h1 : Mut R g a b) (h2 : Mut R g b c) : Mut R g a c where
  pend := h2.pend.trans h1.pend
  epoch := h2.epoch.trans h1.epoch
  infl := h2.infl.trans h1.infl
  dsub := fun k hk => h1.dsub k (h2.dsub k hk)
  dcache := h2.dcache
  c := fun k v hv => by
    rcases h2.c k v hv with h | h
    · exact h1.c k v h
    · exact Or.inr h
  b := fun k => by
    rcases h2.b k with h | h
    · rcases h1.b k with h' | h'
      · exact Or.inl (h.trans h')
      · exact Or.inr (h ▸ h')
    · exact Or.inr h
  wb := fun k hk hn => by
    by_cases hb : k ∈ b.dirty
    · exact h2.wb k hb hn
    · rcases h2.b k with h | h
      · exact h ▸ h1.wb k hk hb
      · exact h

theorem bp_of_pend {s s' : St} (h : s'.pend = s.pend) (k : Key) (j : Nat) : BP s' k j ↔ BP s k j := by
  unfold BP; rw [h]

theorem VI.mut {g : Gh} {s s' : St} (h : VI R g s) (m : Mut R g s s') : VI R g s' where
  dsub := m.dcache
  c := fun k v hv => by
    rcases m.c k v hv with h' | h'
    · exact h.c k v h'
    · exact h'
  b := fun k hk => by
    by_cases hd : k ∈ s.dirty
    · exact (m.wb k hd hk).to _
    · rcases m.b k with h' | h'
      · rw [h']
        exact (h.b k hd).anti (fun j _ hp => fun hb => hp ((bp_of_pend m.pend k j).mpr hb))
      · exact h'.to _
  miss := fun i k e hm => by
    rw [m.pend] at hm
    obtain ⟨⟨r, hr, hf⟩, hle, hd⟩ := h.miss i k e hm
    refine ⟨⟨r, hr, ?_⟩, by rw [m.epoch]; exact hle, fun he hk => hd (by rw [← m.epoch]; exact he) (m.dsub k hk)⟩
    rcases m.b k with h' | h'
    · rw [h']; exact hf
    · exact h'.to _

theorem PI.mut {g : Gh} {s s' : St} (h : PI R g s) (hp : s'.pend = s.pend) (hi : s'.infl = s.infl) : PI R g s' where
  pendS := by rw [hp]; exact h.pendS
  pendND := by rw [hp]; exact h.pendND
  infl := by rw [hp, hi]; exact h.infl
  pOp := by rw [hp]; exact h.pOp
  hit := by rw [hp]; exact h.hit

end HappyModel.C16
