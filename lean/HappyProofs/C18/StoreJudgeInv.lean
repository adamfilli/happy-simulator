import HappyModel.C18.StoreTrace
import HappyProofs.C18.StoreRefine
/-!
`JInv`: the judge's bookkeeping, fed with the model's own observations, knows exactly what the model's
replicas have received.  `PInv` (no store holds a key twice, no message lists a key twice) is what makes
the operations a phase emits for one key a single merge or nothing.
-/
namespace HappyModel.C18

theorem specAt_cons_succ (y : SpecSys) (ys : List SpecSys) (j : Nat) :
    specAt (y :: ys) (j + 1) = specAt ys j := rfl

theorem specAt_smod (l : List SpecSys) (k : Nat) (f : SpecSys → SpecSys) (j : Nat) :
    specAt (smod l k f) j = if j = k then f (specAt l k) else specAt l j := by
  induction l, k, f using smod.induct generalizing j with
  | case1 f => cases j <;> rfl
  | case2 k f ih => cases j <;> simp [smod, specAt_cons_succ, ih] <;> rfl
  | case3 y ys f => cases j <;> rfl
  | case4 y ys k f ih => cases j <;> simp [smod, specAt_cons_succ, ih] <;> rfl

theorem specAt_mergeAll (j : JSt) (d sr : Nat) (keys : List Nat) (hnd : keys.Nodup) (k : Nat) :
    specAt (j.mergeAll d sr keys).spec k =
      if k ∈ keys then (specAt j.spec k).step (.merge d sr) else specAt j.spec k := by
  unfold JSt.mergeAll
  simp only
  generalize j.spec = sp
  induction keys generalizing sp with
  | nil => simp
  | cons key rest ih =>
    simp only [List.nodup_cons] at hnd
    simp only [List.foldl_cons]
    rw [ih hnd.2, specAt_smod]
    by_cases hk : k = key
    · subst hk
      simp [hnd.1]
    · have : k ∈ key :: rest ↔ k ∈ rest := by simp [hk]
      simp only [this, if_neg hk]

/-- `createdObs`, a `zipIdx`, in recursive form (`createdObs_of_append`) -/
def obsFrom : Nat → List Msg → List MsgObs
  | _, [] => []
  | i, m :: ms => msgObsOf i m :: obsFrom (i + 1) ms

theorem obsFrom_append (i : Nat) (a b : List Msg) :
    obsFrom i (a ++ b) = obsFrom i a ++ obsFrom (i + a.length) b := by
  induction a generalizing i with
  | nil => simp [obsFrom]
  | cons m ms ih => simp [obsFrom, ih, Nat.add_assoc, Nat.add_comm 1]

theorem obsFrom_find (i : Nat) (l : List Msg) (m : Nat) :
    (obsFrom i l).find? (·.id == i + m) = (l[m]?).map (msgObsOf (i + m)) := by
  induction l generalizing i m with
  | nil => rfl
  | cons x xs ih =>
    cases m with
    | zero => rw [obsFrom, List.find?_cons_of_pos (by simp [msgObsOf])]; rfl
    | succ m =>
      rw [obsFrom, List.find?_cons_of_neg (by simp [msgObsOf]), List.getElem?_cons_succ,
        Nat.add_comm m, ← Nat.add_assoc]
      exact ih (i + 1) m

theorem createdObs_of_append (p p' : PSt) (new : List Msg) (h : p'.msgs = p.msgs ++ new) :
    createdObs p p' = obsFrom p.msgs.length new := by
  unfold createdObs
  rw [h, List.drop_left]
  generalize p.msgs.length = off
  have : ∀ (l : List Msg) (s : Nat),
      (l.zipIdx s).map (fun mi => msgObsOf (off + mi.2) mi.1) = obsFrom (off + s) l := by
    intro l
    induction l with
    | nil => intro s; simp [obsFrom]
    | cons x xs ih => intro s; simp [List.zipIdx_cons, obsFrom, ih, Nat.add_assoc]
  simpa using this new 0

structure PInv (p : PSt) : Prop where
  held : (p.held.map (·.1)).Nodup
  msgs : ∀ m ∈ p.msgs, (m.keys.map (·.1)).Nodup

theorem pinv_init (n : Nat) (peers : List (List Nat)) : PInv { n := n, peers := peers } :=
  ⟨by simp, by simp⟩

theorem keysOf_nodup (p : PSt) (h : PInv p) (s : Nat) : ((p.keysOf s).map (·.1)).Nodup := by
  have h := h.held
  unfold PSt.keysOf
  generalize p.held = l at h
  induction l with
  | nil => simp
  | cons e rest ih =>
    simp only [List.map_cons, List.nodup_cons] at h
    by_cases hs : e.1.1 = s
    · simp only [List.filter_cons, hs, beq_self_eq_true, if_true, List.map_cons, List.nodup_cons]
      refine ⟨?_, ih h.2⟩
      intro hm
      simp only [List.map_map, List.mem_map, List.mem_filter, beq_iff_eq, Function.comp] at hm
      obtain ⟨e', ⟨he', hs'⟩, hk⟩ := hm
      apply h.1
      refine List.mem_map.mpr ⟨e', he', ?_⟩
      exact Prod.ext (by rw [hs', hs]) hk
    · have : (e.1.1 == s) = false := by simp [hs]
      simp only [List.filter_cons, this]
      exact ih h.2

theorem holds_iff (p : PSt) (s key : Nat) : p.holds s key = true ↔ (s, key) ∈ p.held.map (·.1) := by
  simp only [PSt.holds, PSt.nidOf, Option.isSome_map, List.find?_isSome, List.mem_map, beq_iff_eq]

theorem pinv_hold (p : PSt) (h : PInv p) (s key nid : Nat) (hn : p.holds s key = false) :
    PInv { p with held := p.held ++ [((s, key), nid)] } := by
  refine ⟨?_, h.msgs⟩
  simp only [List.map_append, List.map_cons, List.map_nil]
  rw [List.nodup_append]
  refine ⟨h.held, by simp, ?_⟩
  intro a ha b hb
  simp only [List.mem_singleton] at hb
  subst hb
  intro e; subst e
  exact Bool.eq_false_iff.mp hn ((holds_iff p s key).mpr ha)

theorem pinv_emit (p : PSt) (h : PInv p) (s d : Nat) (push : Bool) :
    PInv (p.emit .repaired s d push).1 := by
  refine ⟨h.held, ?_⟩
  intro m hm
  simp only [PSt.emit, List.mem_append, List.mem_singleton] at hm
  rcases hm with hm | rfl
  · exact h.msgs m hm
  · exact keysOf_nodup p h s

theorem pinv_mergeKeys (p : PSt) (h : PInv p) (d m : Nat) (keys : List (Nat × Nat)) :
    PInv (p.mergeKeys .repaired d m keys).1 := by
  induction keys generalizing p with
  | nil => exact h
  | cons kn rest ih =>
    obtain ⟨key, rn⟩ := kn
    simp only [PSt.mergeKeys]
    split
    · exact ih p h
    · rename_i hh
      exact ih _ (pinv_hold p h d key _ (by simpa using hh))

theorem keyOps_emit (p : PSt) (h : PInv p) (s d : Nat) (push : Bool) (k : Nat) :
    keyOps k (p.emit .repaired s d push).2 =
      if k ∈ (p.keysOf s).map (·.1) then [.merge (p.n + p.msgs.length) s] else [] :=
  keyOps_map_const k _ _ (keysOf_nodup p h s)

theorem mem_sortNat (l : List Nat) (x : Nat) : x ∈ sortNat l ↔ x ∈ l := List.mem_mergeSort

theorem nodup_sortNat (l : List Nat) (h : l.Nodup) : (sortNat l).Nodup :=
  (List.mergeSort_perm l _).nodup_iff.mpr h

structure JInv (n : Nat) (j : JSt) (p : PSt) (ops : List (Nat × XOp)) : Prop where
  n_eq : p.n = n
  pinv : PInv p
  spec : ∀ k, specAt j.spec k = SpecSys.run {} (keyOps k ops)
  msgs : j.msgs = obsFrom 0 p.msgs

theorem run_single (t : SpecSys) (o : COp) : SpecSys.run t [o] = t.step o := rfl

theorem jinv_emit {n : Nat} {j : JSt} {p : PSt} {ops : List (Nat × XOp)} (h : JInv n j p ops)
    (s d : Nat) (push : Bool) :
    JInv n (j.register n (msgObsOf p.msgs.length ⟨s, d, push, p.keysOf s⟩))
      (p.emit .repaired s d push).1 (ops ++ (p.emit .repaired s d push).2) := by
  refine ⟨h.n_eq, pinv_emit p h.pinv s d push, ?_, ?_⟩
  · intro k
    have hnd := nodup_sortNat _ (keysOf_nodup p h.pinv s)
    show specAt (j.mergeAll _ _ _).spec k = _
    simp only [msgObsOf]
    rw [specAt_mergeAll _ _ _ _ hnd, keyOps_append, SpecSys.run_append, keyOps_emit p h.pinv,
      ← h.spec k]
    simp only [mem_sortNat, h.n_eq]
    split <;> simp [SpecSys.run]
  · show j.msgs ++ [_] = obsFrom 0 (p.msgs ++ [_])
    rw [obsFrom_append, h.msgs]
    simp [obsFrom]

theorem jinv_deliver {n : Nat} {j : JSt} {p : PSt} {ops : List (Nat × XOp)} (h : JInv n j p ops)
    (m : Nat) (msg : Msg) (hm : p.msgs[m]? = some msg) :
    JInv n (j.mergeAll msg.dst (n + m) (sortNat (msg.keys.map (·.1))))
      (p.mergeKeys .repaired msg.dst m msg.keys).1
      (ops ++ (p.mergeKeys .repaired msg.dst m msg.keys).2) := by
  have hnd0 := h.pinv.msgs msg (List.mem_of_getElem? hm)
  refine ⟨by rw [mergeKeys_n]; exact h.n_eq, pinv_mergeKeys p h.pinv _ _ _, ?_, ?_⟩
  · intro k
    rw [specAt_mergeAll _ _ _ _ (nodup_sortNat _ hnd0), keyOps_append, SpecSys.run_append,
      keyOps_mergeKeys p _ _ _ k hnd0, ← h.spec k]
    simp only [mem_sortNat, h.n_eq]
    split <;> simp [SpecSys.run]
  · show j.msgs = _
    rw [(mergeKeys_msgs p _ _ _).1]; exact h.msgs

theorem createdObs_same (p p' : PSt) (h : p'.msgs = p.msgs) : createdObs p p' = [] := by
  rw [createdObs_of_append p p' [] (by simp [h])]; rfl

theorem keyOps_single (k key : Nat) (o : COp) :
    keyOps k [(key, XOp.base o)] = if key = k then [o] else [] := by
  by_cases h : key = k <;> simp [keyOps, h, XOp.toCOp?]

theorem jinv_find {n : Nat} {j : JSt} {p : PSt} {ops : List (Nat × XOp)} (h : JInv n j p ops)
    (m : Nat) : j.msgs.find? (·.id == m) = (p.msgs[m]?).map (msgObsOf m) := by
  rw [h.msgs, ← Nat.zero_add m, obsFrom_find, Nat.zero_add]

theorem createdObs_emit (p p0 : PSt) (h : p0.msgs = p.msgs) (s d : Nat) (push : Bool) :
    createdObs p (p0.emit .repaired s d push).1 = [msgObsOf p.msgs.length ⟨s, d, push, p0.keysOf s⟩] :=
  createdObs_of_append p _ [_] (by simp [PSt.emit, h])

theorem pinv_adopt (p : PSt) (h : PInv p) (s key : Nat) : PInv (p.adopt s key) := by
  unfold PSt.adopt
  split
  · exact h
  · rename_i hh; exact pinv_hold p h s key s (by simpa using hh)

/-- the judge's bookkeeping follows the model through every step: in each leaf the judge registers exactly
    the messages the step appended (`createdObs`), in order, after its own effect of the step (a write, a
    delivery); in a round it also delivers each of them at once — which is `jinv_emit` / `jinv_deliver` in
    the order the model ran them -/
theorem jinv_step (kind : Kind) {n : Nat} {j : JSt} {p : PSt} {ops : List (Nat × XOp)}
    (h : JInv n j p ops) (x : SStep) (obs : List (Nat × Nat × KObs)) :
    JInv n (j.advance kind n ⟨x, createdObs p (p.step .repaired kind x).1, obs⟩)
      (p.step .repaired kind x).1 (ops ++ (p.step .repaired kind x).2) := by
  cases x with
  | w s key op =>
    rw [step_w]
    obtain ⟨hn, hm, _⟩ := adopt_rest p s key
    simp only [JSt.advance, isRound, createdObs_same _ _ hm, List.foldl_nil, Bool.false_eq_true,
      if_false, JSt.apply]
    cases specOp kind s op with
    | none => exact ⟨hn.trans h.n_eq, pinv_adopt p h.pinv s key, by simpa using h.spec, hm ▸ h.msgs⟩
    | some o =>
      refine ⟨hn.trans h.n_eq, pinv_adopt p h.pinv s key, fun k => ?_, hm ▸ h.msgs⟩
      simp only [Option.toList_some, List.map_cons, List.map_nil, keyOps_append, SpecSys.run_append,
        ← h.spec k, keyOps_single, specAt_smod]
      by_cases hk : key = k
      · subst hk; simp [run_single]
      · simp [hk, Ne.symm hk, SpecSys.run]
  | tick s jx =>
    simp only [PSt.step]
    cases hps : p.peersOf s with
    | nil =>
      rw [tickStep_nil p s jx hps]
      simp only [JSt.advance, isRound, createdObs_same p p rfl, List.foldl_nil, JSt.apply,
        Bool.false_eq_true, if_false, List.append_nil]
      exact h
    | cons q qs =>
      rw [tickStep_cons p s jx q qs hps]
      simp only [JSt.advance, isRound, createdObs_emit p p rfl, List.foldl_cons,
        List.foldl_nil, JSt.apply, Bool.false_eq_true, if_false]
      exact jinv_emit h s _ true
  | dl m =>
    simp only [PSt.step]
    cases hm : p.msgs[m]? with
    | none =>
      rw [dlStep_none p m hm]
      simp only [JSt.advance, isRound, createdObs_same p p rfl, List.foldl_nil, JSt.apply,
        Bool.false_eq_true, if_false, List.append_nil, jinv_find h m, hm, Option.map_none]
      exact h
    | some msg =>
      have hj : j.apply kind n (.dl m) =
          j.mergeAll msg.dst (n + m) (sortNat (msg.keys.map (·.1))) := by
        simp [JSt.apply, jinv_find h m, hm, msgObsOf]
      have h1 := jinv_deliver h m msg hm
      have hmk := (mergeKeys_msgs p msg.dst m msg.keys).1
      rcases dlStep_cases p m msg hm with he | ⟨_, he⟩
      · rw [he]
        simp only [JSt.advance, isRound, createdObs_same _ _ hmk, List.foldl_nil,
          Bool.false_eq_true, if_false, hj]
        exact h1
      · rw [he]
        have h2 := jinv_emit h1 msg.dst msg.src false
        rw [hmk] at h2
        simp only [JSt.advance, isRound, createdObs_emit p _ hmk,
          List.foldl_cons, List.foldl_nil, Bool.false_eq_true, if_false, hj, ← List.append_assoc]
        exact h2
  | round s jx =>
    rcases round_cases kind p s jx with ⟨_, _, he⟩ | ⟨q, qs, d, _, _, hc⟩
    · rw [he]
      simp only [JSt.advance, isRound, createdObs_same p p rfl, List.foldl_nil, JSt.apply, if_true,
        List.append_nil]
      exact h
    · -- the push is built, then delivered
      have h2 : JInv n _ (rMk p s d).1 (ops ++ (rE1 p s d).2 ++ (rMk p s d).2) :=
        jinv_deliver (jinv_emit h s d true) p.msgs.length ⟨s, d, true, p.keysOf s⟩ (by simp [PSt.emit])
      have hm2 := (rMk_facts p s d).2.1
      rcases hc with ⟨_, he⟩ | ⟨_, he⟩ <;> rw [he]
      · simp only [JSt.advance, isRound, createdObs_of_append p _ [_] hm2, obsFrom,
          List.foldl_cons, List.foldl_nil, JSt.apply, if_true, JSt.registerDeliver,
          ← List.append_assoc]
        exact h2
      · -- and the answer is built and delivered; it is not a push, so nothing further is built
        have h3 : JInv n _ (rE2 p s d).1 _ := jinv_emit h2 d s false
        rw [hm2, List.length_append, List.length_singleton] at h3
        have h4 : JInv n _ (rMk2 p s d).1 _ :=
          jinv_deliver h3 (p.msgs.length + 1) ⟨d, s, false, (rMk p s d).1.keysOf d⟩
            (by simp [(rE2_facts p s d).2.1])
        simp only [JSt.advance, isRound, createdObs_of_append p _ _ (rMk2_facts p s d).2.1, obsFrom, List.foldl_cons,
          List.foldl_nil, JSt.apply, if_true, JSt.registerDeliver, ← List.append_assoc]
        exact h4

theorem sys_step (kind : Kind) {st : SSt} {ops : List (Nat × XOp)}
    (h : ∀ k, sysAt st.sys k = Sys.run Sys.init (keyOps k ops)) (x : SStep) (k : Nat) :
    sysAt (st.step .repaired kind x).sys k =
      Sys.run Sys.init (keyOps k (ops ++ (st.p.step .repaired kind x).2)) := by
  show sysAt (applyOps st.sys (st.p.step .repaired kind x).2) k = _
  rw [sysAt_applyOps, runX_base _ _ _ (step_base kind st.p x), h k, keyOps_append, Sys.run_append]

/-- the half of the script induction that needs no well-formed script: the judge's bookkeeping and the
    replica systems are the specification / replica runs of the operations emitted -/
theorem jinv_run (kind : Kind) {n : Nat} (steps : List SStep) :
    ∀ {j : JSt} {st : SSt} {ops : List (Nat × XOp)}, JInv n j st.p ops →
    (∀ k, sysAt st.sys k = Sys.run Sys.init (keyOps k ops)) →
    JInv n (advanceAll kind n j (traceObs kind st steps)) (SSt.run .repaired kind st steps).p
      (ops ++ PSt.ops .repaired kind st.p steps) ∧
    ∀ k, sysAt (SSt.run .repaired kind st steps).sys k =
      Sys.run Sys.init (keyOps k (ops ++ PSt.ops .repaired kind st.p steps)) := by
  induction steps with
  | nil => intro j st ops h hs; simpa [advanceAll, traceObs, SSt.run, PSt.ops] using ⟨h, hs⟩
  | cons x xs ih =>
    intro j st ops h hs
    have h1 := jinv_step kind h x ((st.p.actors x).flatMap (storeObs (st.step .repaired kind x)))
    have := ih (j := j.advance kind n (stepObs kind st x)) (st := st.step .repaired kind x) h1 (sys_step kind hs x)
    have hp : (st.step .repaired kind x).p = (st.p.step .repaired kind x).1 := rfl
    rw [hp] at this
    simpa [advanceAll, traceObs, SSt.run, PSt.ops, List.append_assoc, hp] using this

theorem jinv_init (n : Nat) (peers : List (List Nat)) : JInv n {} (SSt.init n peers).p [] :=
  ⟨rfl, pinv_init n peers, fun k => by simp [specAt, SpecSys.run, keyOps], rfl⟩

theorem sys_init (n : Nat) (peers : List (List Nat)) (k : Nat) :
    sysAt (SSt.init n peers).sys k = Sys.run Sys.init (keyOps k []) := by
  simp [SSt.init, sysAt, keyOps, Sys.run]

end HappyModel.C18
