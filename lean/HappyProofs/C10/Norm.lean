import HappyModel.C10.Spec
/-! Policies in normal form.  Every policy's `try_acquire` and `time_until_available` begin by bringing
    the state up to date (`_refill`, `_prune`, `_maybe_reset`); `try_acquire` then takes capacity if there
    is some, and a refused `try_acquire` leaves exactly the state `time_until_available` leaves.  What
    follows from that shape alone is proved here once; a policy supplies the shape and its arithmetic. -/
namespace HappyModel.C10

variable {σ : Type}

def Op.isCall : Op → Prop
  | .acq _ | .tua _ => True
  | _ => False

def NotBefore (last : Option Nat) (t : Nat) : Prop := ∀ l, last = some l → l ≤ t

def Policy.run (P : Policy σ) : σ → List Op → σ
  | s, [] => s
  | s, o :: os => Policy.run P (P.step s o) os

def endTime (now : Nat) : List Op → Nat
  | [] => now
  | o :: os => endTime o.time os

theorem MonoOps.weaken {a b : Nat} (h : a ≤ b) : ∀ {os : List Op}, MonoOps b os → MonoOps a os
  | [], _ => trivial
  | _ :: _, hm => ⟨Nat.le_trans h hm.1, hm.2⟩

theorem admitted_cons (P : Policy σ) (s : σ) (o : Op) (os : List Op) :
    P.admitted s (o :: os) = P.admitted s [o] ++ P.admitted (P.step s o) os := by
  cases o with
  | acq t => simp only [Policy.admitted, Policy.step]; split <;> simp
  | tua t => simp [Policy.admitted, Policy.step]
  | succ t | fail t => simp [Policy.admitted, Policy.step]

theorem admitted_append (P : Policy σ) : ∀ (a : List Op) (s : σ) (b : List Op),
    P.admitted s (a ++ b) = P.admitted s a ++ P.admitted (P.run s a) b
  | [], s, b => by simp [Policy.admitted, Policy.run]
  | o :: os, s, b => by
    rw [List.cons_append, admitted_cons, admitted_append P os, admitted_cons P s o os, Policy.run,
      List.append_assoc]

/-- `H s hist now`: the state, the admissions so far, the current time -/
structure HStable (P : Policy σ) (H : σ → List Nat → Nat → Prop) : Prop where
  mono : ∀ s hist now t, H s hist now → now ≤ t → H s hist t
  acq : ∀ s hist t, H s hist t → H (P.acq s t).1 (hist ++ if (P.acq s t).2 then [t] else []) t
  tua : ∀ s hist t, H s hist t → H (P.tua s t).1 hist t

variable {P : Policy σ} {H : σ → List Nat → Nat → Prop}

theorem HStable.step (h : HStable P H) : ∀ s hist now o, H s hist now → now ≤ o.time →
    H (P.step s o) (hist ++ P.admitted s [o]) o.time
  | s, hist, now, .acq t, hh, ht => h.acq s hist t (h.mono s hist now t hh ht)
  | s, hist, now, .tua t, hh, ht => (List.append_nil hist).symm ▸ h.tua s hist t (h.mono s hist now t hh ht)
  | s, hist, now, .succ t, hh, ht | s, hist, now, .fail t, hh, ht => (List.append_nil hist).symm ▸ h.mono s hist now t hh ht

theorem HStable.run (h : HStable P H) : ∀ (ops : List Op) (s : σ) (hist : List Nat) (now : Nat),
    H s hist now → MonoOps now ops →
    H (P.run s ops) (hist ++ P.admitted s ops) (endTime now ops)
  | [], _, hist, _, hh, _ => (List.append_nil hist).symm ▸ hh
  | o :: os, s, hist, now, hh, hm => by
    have := h.run os _ _ _ (h.step s hist now o hh hm.1) hm.2
    rw [admitted_cons, ← List.append_assoc]
    exact this

/-- for an `H` that does not look at the time, times need not be ordered -/
theorem HStable.run_any (h : HStable P H) (hi : ∀ s hist a b, H s hist a → H s hist b) :
    ∀ (ops : List Op) (s : σ) (hist : List Nat) (now : Nat), H s hist now →
    H (P.run s ops) (hist ++ P.admitted s ops) now
  | [], _, hist, _, hh => (List.append_nil hist).symm ▸ hh
  | o :: os, s, hist, now, hh => by
    have := h.run_any hi os _ _ now (hi _ _ _ _ (h.step s hist o.time o (hi _ _ _ _ hh) (Nat.le_refl _)))
    rw [admitted_cons, ← List.append_assoc]
    exact this

/-- the state hypotheses of the `time_until_available` clauses are of this kind, so they hold in every state a run
    reaches -/
abbrev Stable (P : Policy σ) (G : σ → Nat → Prop) : Prop := HStable P fun s _ t => G s t

theorem Stable.trivial (P : Policy σ) : Stable P (fun _ _ => True) :=
  ⟨fun _ _ _ _ _ _ => True.intro, fun _ _ _ _ => True.intro, fun _ _ _ _ => True.intro⟩

structure Norm (P : Policy σ) where
  adv : σ → Nat → σ
  /-- an up-to-date state has capacity (only the leaky bucket, which keeps no up-to-date state, looks at the time) -/
  ok : σ → Nat → Prop
  [dec : ∀ r t, Decidable (ok r t)]
  take : σ → Nat → σ
  /-- what an up-to-date state without capacity answers -/
  wait : σ → Nat → Nat
  acq_eq : ∀ s t, P.acq s t = if ok (adv s t) t then (take (adv s t) t, true) else (adv s t, false)
  tua_eq : ∀ s t, P.tua s t = (adv s t, if ok (adv s t) t then 0 else wait (adv s t) t)
  idem : ∀ s t, adv (adv s t) t = adv s t

namespace Norm
attribute [instance] Norm.dec

variable (N : Norm P)

theorem tua_fst (s : σ) (t : Nat) : (P.tua s t).1 = N.adv s t := by rw [N.tua_eq]

theorem acq_refused {s : σ} {t : Nat} (h : ¬ N.ok (N.adv s t) t) : P.acq s t = (N.adv s t, false) := by
  rw [N.acq_eq, if_neg h]

theorem tua_refused {s : σ} {t : Nat} (h : ¬ N.ok (N.adv s t) t) :
    P.tua s t = (N.adv s t, N.wait (N.adv s t) t) := by
  rw [N.tua_eq, if_neg h]

theorem acq_snd (s : σ) (t : Nat) : (P.acq s t).2 = true ↔ N.ok (N.adv s t) t := by
  rw [N.acq_eq]; split <;> simp [*]

/-- a state without capacity answers with a positive wait (the 1 ns guard; for the windows `N ≥ 1`, `W > 0`) -/
def WaitPos : Prop := ∀ s t, ¬ N.ok (N.adv s t) t → 0 < N.wait (N.adv s t) t

theorem zero_admits (hw : N.WaitPos) (s : σ) (t : Nat) (h0 : (P.tua s t).2 = 0) :
    (P.acq (P.tua s t).1 t).2 = true := by
  rw [N.acq_snd, N.tua_fst, N.idem]
  refine Decidable.byContradiction fun h => ?_
  rw [N.tua_refused h] at h0
  exact absurd h0 (Nat.ne_of_gt (hw s t h))

theorem refusal_waits (hw : N.WaitPos) (s : σ) (t : Nat) (h : (P.acq s t).2 = false) :
    0 < (P.tua (P.acq s t).1 t).2 := by
  have hn : ¬ N.ok (N.adv s t) t := fun hk => Bool.false_ne_true (h.symm.trans ((N.acq_snd s t).mpr hk))
  rw [N.acq_refused hn, N.tua_eq, N.idem, if_neg hn]
  exact hw s t hn

/-- a property of a state, not a law of `adv`: a bucket whose clock is unset does not compose (its first refill sets
    the clock and credits nothing) -/
def Comp (r : σ) (now : Nat) : Prop :=
  ∀ t' t'', now ≤ t' → t' ≤ t'' → N.adv (N.adv r t') t'' = N.adv r t''

theorem Comp.adv {N : Norm P} {r : σ} {now t : Nat} (h : N.Comp r now) (ht : now ≤ t) : N.Comp (N.adv r t) t :=
  fun t' t'' h1 h2 => by rw [h t t' ht h1, h t' t'' (Nat.le_trans ht h1) h2, h t t'' ht (Nat.le_trans h1 h2)]

def Blocked (L : Nat) (r : σ) (now : Nat) : Prop :=
  N.Comp r now ∧ ∀ t', now ≤ t' → t' < L → ¬ N.ok (N.adv r t') t'

theorem Blocked.adv {N : Norm P} {L : Nat} {r : σ} {now t : Nat} (h : N.Blocked L r now) (ht : now ≤ t) :
    N.Blocked L (N.adv r t) t :=
  ⟨h.1.adv ht, fun t' h1 h2 => by rw [h.1 t t' ht h1]; exact h.2 t' (Nat.le_trans ht h1) h2⟩

theorem Blocked.mono {N : Norm P} {L : Nat} {r : σ} {now t : Nat} (h : N.Blocked L r now) (ht : now ≤ t) :
    N.Blocked L r t :=
  ⟨fun t' t'' h1 => h.1 t' t'' (Nat.le_trans ht h1), fun t' h1 => h.2 t' (Nat.le_trans ht h1)⟩

/-- what is left to a policy for the `time_until_available` clauses, under its state condition `G`: the state
    a call leaves composes, and before a positive wait has elapsed there is still no capacity -/
structure Timed (G : σ → Nat → Prop) : Prop where
  comp : ∀ s t, G s t → N.Comp (N.adv s t) t
  early : ∀ s t t', G s t → ¬ N.ok (N.adv s t) t → t ≤ t' → t' < t + N.wait (N.adv s t) t →
    ¬ N.ok (N.adv (N.adv s t) t') t'

theorem hstable {H : σ → List Nat → Nat → Prop} (mono : ∀ s hist now t, H s hist now → now ≤ t → H s hist t)
    (adv : ∀ s hist t, H s hist t → H (N.adv s t) hist t)
    (take : ∀ r hist t, H r hist t → N.adv r t = r → N.ok r t → H (N.take r t) (hist ++ [t]) t) :
    HStable P H where
  mono := mono
  tua := fun s hist t h => by rw [N.tua_fst]; exact adv s hist t h
  acq := fun s hist t h => by
    rw [N.acq_eq]; split
    · exact take _ hist t (adv s hist t h) (N.idem s t) ‹_›
    · exact (List.append_nil hist).symm ▸ adv s hist t h

theorem stable {G : σ → Nat → Prop} (mono : ∀ s now t, G s now → now ≤ t → G s t)
    (adv : ∀ s t, G s t → G (N.adv s t) t) (take : ∀ r t, G r t → N.adv r t = r → N.ok r t → G (N.take r t) t) :
    Stable P G :=
  N.hstable (fun s _ => mono s) (fun s _ => adv s) (fun r _ => take r)

theorem blocked_hist (L : Nat) :
    HStable P fun s hist now => (∀ x ∈ hist, L ≤ x) ∧ (now < L → N.Blocked L s now) :=
  N.hstable (fun _ _ _ _ h ht => ⟨h.1, fun hL => (h.2 (Nat.lt_of_le_of_lt ht hL)).mono ht⟩)
    (fun _ _ t h => ⟨h.1, fun hL => (h.2 hL).adv (Nat.le_refl t)⟩)
    (fun r _ t h hr hok => by
      have hL : L ≤ t := Nat.le_of_not_lt fun hL => (h.2 hL).2 t (Nat.le_refl t) hL (hr.symm ▸ hok)
      exact ⟨fun x hx => (List.mem_append.mp hx).elim (h.1 x) fun e => List.mem_singleton.mp e ▸ hL,
        fun h' => absurd hL (Nat.not_le.mpr h')⟩)

theorem Blocked.run {N : Norm P} {L : Nat} {s : σ} {now : Nat} (hb : N.Blocked L s now) {ops : List Op}
    (hm : MonoOps now ops) : ∀ x ∈ P.admitted s ops, L ≤ x :=
  ((N.blocked_hist L).run ops s [] now ⟨nofun, fun _ => hb⟩ hm).1

variable {N} {G : σ → Nat → Prop}

theorem Timed.blocked_of_tua (T : N.Timed G) {s : σ} {t : Nat} (hg : G s t) :
    N.Blocked (t + (P.tua s t).2) (P.tua s t).1 t := by
  rw [N.tua_eq]; split
  · exact ⟨T.comp s t hg, fun t' h1 h2 => absurd h1 (Nat.not_le.mpr h2)⟩
  · exact ⟨T.comp s t hg, fun t' h1 h2 => T.early s t t' hg ‹_› h1 h2⟩

theorem Timed.positive (T : N.Timed G) (s : σ) (t t' : Nat) (hg : G s t) (h1 : t ≤ t')
    (h2 : t' < t + (P.tua s t).2) : (P.acq (P.tua s t).1 t').2 = false :=
  congrArg Prod.snd (N.acq_refused ((T.blocked_of_tua hg).2 t' h1 h2))

theorem Timed.after_tua (T : N.Timed G) (s : σ) (t : Nat) (ops : List Op) (hg : G s t) (hm : MonoOps t ops) :
    ∀ x ∈ P.admitted (P.tua s t).1 ops, t + (P.tua s t).2 ≤ x :=
  (T.blocked_of_tua hg).run hm

end Norm

/-- what a caller of a directly driven policy observes: the records the driver prints (`stepLine`,
    `HappyModel/C10/Driver.lean`) -/
def Policy.obs {σ : Type} (P : Policy σ) : σ → List Op → List Obs
  | _, [] => []
  | s, .acq t :: os => .acq t (P.acq s t).2 :: Policy.obs P (P.acq s t).1 os
  | s, .tua t :: os => .tua t (P.tua s t).2 :: Policy.obs P (P.tua s t).1 os
  | s, .succ _ :: os => Policy.obs P s os
  | s, .fail _ :: os => Policy.obs P s os

variable {N : Norm P} {G : σ → Nat → Prop}

theorem noEarly_obs (P : Policy σ) (lim : Nat) : ∀ (ops : List Op) (s : σ),
    (∀ x ∈ P.admitted s ops, lim ≤ x) → noEarly lim (P.obs s ops) = true
  | [], _, _ => rfl
  | .acq t :: os, s, h => by
    simp only [Policy.obs, noEarly, Bool.and_eq_true, Bool.or_eq_true, decide_eq_true_eq,
      Bool.not_eq_true']
    simp only [Policy.admitted] at h
    cases hok : (P.acq s t).2 with
    | true =>
      rw [hok, if_pos rfl] at h
      exact ⟨Or.inl (h t List.mem_cons_self),
        noEarly_obs P lim os _ (fun x hx => h x (List.mem_cons_of_mem _ hx))⟩
    | false =>
      rw [hok, if_neg Bool.false_ne_true] at h
      exact ⟨Or.inr rfl, noEarly_obs P lim os _ h⟩
  | .tua _ :: os, _, h => noEarly_obs P lim os _ h
  | .succ _ :: os, _, h | .fail _ :: os, _, h => noEarly_obs P lim os _ h

theorem blocks_obs (hs : Stable P G) (T : N.Timed G) : ∀ (ops : List Op) (s : σ) (now : Nat),
    G s now → MonoOps now ops → blocksOK (P.obs s ops) = true
  | [], _, _, _, _ => rfl
  | .acq t :: os, s, now, hg, hm => blocks_obs hs T os _ t (hs.step s [] now (.acq t) hg hm.1) hm.2
  | .tua t :: os, s, now, hg, hm => by
    simp only [Policy.obs, blocksOK, Bool.and_eq_true]
    exact ⟨noEarly_obs _ _ os _ (T.after_tua s t os (hs.mono s [] now t hg hm.1) hm.2),
      blocks_obs hs T os _ t (hs.step s [] now (.tua t) hg hm.1) hm.2⟩
  | .succ _ :: os, s, now, hg, hm | .fail _ :: os, s, now, hg, hm => blocks_obs hs T os s now hg (hm.2.weaken hm.1)

/-!
"Repeatedly waiting the returned duration reaches an admitting instant within a few steps, so a drain
never stalls" — as a statement about the *procedure* (`Policy.drain`: ask, wait what was returned, ask
again, …, acquire when zero is returned), with an explicit step bound, from every state a run can reach.
The grant needs no state condition (a zero wait admits in any state); only reaching zero does, and that is the
policy's `*_tua_reaches_admission` at the state and instant the drain starts from.
-/

/-- the drain procedure, as the driver runs it (`drainF` without hints, `HappyModel/C10/Driver.lean`; that the two
    agree is read off, not proved): at most `fuel` `time_until_available` calls; returns the state, the instant
    reached and the waits returned (the last one is the first zero, if any) -/
def Policy.drain (P : Policy σ) : Nat → σ → Nat → List Nat → σ × Nat × List Nat
  | 0, s, cur, acc => (s, cur, acc.reverse)
  | fuel + 1, s, cur, acc =>
    if (P.tua s cur).2 = 0 then ((P.tua s cur).1, cur, (0 :: acc).reverse)
    else P.drain fuel (P.tua s cur).1 (cur + (P.tua s cur).2) ((P.tua s cur).2 :: acc)

theorem drain_ok1 (N : Norm P) (hw : N.WaitPos) (s : σ) (t fuel : Nat)
    (hr : (P.tua s t).2 = 0 ∨ (P.tua (P.tua s t).1 (t + (P.tua s t).2)).2 = 0) :
    drainOK 1 (P.drain (fuel + 2) s t []).2.2
      (P.acq (P.drain (fuel + 2) s t []).1 (P.drain (fuel + 2) s t []).2.1).2 = true := by
  by_cases h0 : (P.tua s t).2 = 0
  · have := N.zero_admits hw s t h0
    simp [Policy.drain, h0, drainOK, this]
  · have h1 := hr.resolve_left h0
    have := N.zero_admits hw _ _ h1
    simp [Policy.drain, h0, h1, drainOK, this]

theorem drain_ok (N : Norm P) (hw : N.WaitPos) (s : σ) (t fuel : Nat)
    (hr : (P.tua s t).2 = 0 ∨ (P.tua (P.tua s t).1 (t + (P.tua s t).2)).2 = 0 ∨
      (P.tua (P.tua (P.tua s t).1 (t + (P.tua s t).2)).1
        (t + (P.tua s t).2 + (P.tua (P.tua s t).1 (t + (P.tua s t).2)).2)).2 = 0) :
    drainOK 2 (P.drain (fuel + 3) s t []).2.2
      (P.acq (P.drain (fuel + 3) s t []).1 (P.drain (fuel + 3) s t []).2.1).2 = true := by
  by_cases h0 : (P.tua s t).2 = 0
  · have := N.zero_admits hw s t h0
    simp [Policy.drain, h0, drainOK, this]
  · by_cases h1 : (P.tua (P.tua s t).1 (t + (P.tua s t).2)).2 = 0
    · have := N.zero_admits hw _ _ h1
      simp [Policy.drain, h0, h1, drainOK, this]
    · have h2 := (hr.resolve_left h0).resolve_left h1
      have := N.zero_admits hw _ _ h2
      simp [Policy.drain, h0, h1, h2, drainOK, this]

end HappyModel.C10
