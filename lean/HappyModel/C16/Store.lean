import HappyModel.C16.Policies
/-!
Model of `CachedStore` (cached_store.py) in front of a `KVStore` with latency, as a transition
system whose actions are the *segments* of the generator methods: `start i op` runs operation `i`
up to its first `yield`, `resume i` runs it from there to the next `yield` or to its `return`.
Which operation advances when is an input (the schedule), so theorems quantify over every
interleaving of segments; the engine is not part of the model.

`KVStore.get/put/delete` read or change the backing dict at the *end* of their latency
(`yield latency` is their first statement), so `start` of a miss / write-through put / delete only
records the pending continuation and `resume` touches the backing store.

Two variants (`Cfg.rep`):
* `current`  — the code before fixes/C16-cachedstore-consistency.diff (which /repo HEAD now contains);
* `repaired` — fixes/C16-cachedstore-consistency.diff: a dirty entry is written back
  (`put_sync`) before an eviction, invalidation or delete drops it; `flush` writes the value the cache holds
  when the write latency has elapsed; a miss installs what it read only if no put/delete of the key
  started meanwhile and no backing write of the key is in flight.
-/
namespace HappyModel.C16

structure Cfg where
  cap : Nat
  wt : Bool                 -- write_through
  rep : Bool                -- repaired variant
  picks : List (List Key)   -- RNG draws of the policy, used round-robin
deriving Repr

inductive OpK
  | get (k : Key)
  | put (k : Key) (v : Nat)
  | del (k : Key)
  | inv (k : Key)
  | invAll
  | flush (order : List Key)   -- `list(self._dirty_keys)`: the iteration order is an input (any order; the dict iterates in insertion order)
deriving Repr, DecidableEq

inductive Res
  | none
  | val (v : Nat)
  | bool (b : Bool)
  | count (n : Nat)
deriving Repr, DecidableEq

/-- what an operation will do when it is resumed -/
inductive Pend
  | getHit (v : Nat)
  | getMiss (k : Key) (epoch : Nat)
  | putWT (k : Key) (v : Nat)
  | putWB
  | del (k : Key) (inCache : Bool)
  | flushCur (k : Key) (v : Nat) (rest : List Key) (n : Nat)
  | flushRep (k : Key) (rest : List Key) (n : Nat)
deriving Repr, DecidableEq

structure St where
  cache : List (Key × Nat) := []
  dirty : List Key := []
  pol : Pol
  back : List (Key × Nat) := []
  nEv : Nat := 0
  pend : List (Nat × Pend) := []
  epoch : List (Key × Nat) := []
  infl : List (Key × Nat) := []
deriving Repr

def setAdd (l : List Key) (k : Key) : List Key := if k ∈ l then l else l ++ [k]
def setDel (l : List Key) (k : Key) : List Key := l.filter (· != k)

def cnt (l : List (Key × Nat)) (k : Key) : Nat := (aget? l k).getD 0

def St.pick (cfg : Cfg) (s : St) : List Key :=
  if cfg.picks.isEmpty then [] else cfg.picks.getD (s.nEv % cfg.picks.length) []

/-- repaired: `_write_back_if_dirty` -/
def St.writeBack (s : St) (k : Key) : St :=
  match aget? s.cache k with
  | some v => if k ∈ s.dirty then { s with back := aset s.back k v, dirty := setDel s.dirty k } else s
  | none => s

def St.writeBackAll (s : St) : List Key → St
  | [] => s
  | k :: ks => St.writeBackAll (s.writeBack k) ks

/-- one iteration of the eviction loop: drop `ek` (repaired: write it back first if dirty) -/
def evictOne (cfg : Cfg) (s : St) (ek : Key) (pol' : Pol) : St :=
  { (if cfg.rep then s.writeBack ek else s) with
    cache := adel s.cache ek, dirty := setDel (if cfg.rep then s.writeBack ek else s).dirty ek,
    pol := pol', nEv := s.nEv + 1 }

/-- the `while len(cache) >= capacity` loop of `_cache_put` -/
def evictLoop (cfg : Cfg) : Nat → St → Nat → St
  | 0, s, _ => s
  | fuel + 1, s, now =>
    if s.cache.length < cfg.cap then s else
    match (s.pol.evict now (s.pick cfg)).1 with
    | none => { s with pol := (s.pol.evict now (s.pick cfg)).2 }
    | some ek => evictLoop cfg fuel (evictOne cfg s ek (s.pol.evict now (s.pick cfg)).2) now

def cachePut (cfg : Cfg) (s : St) (k v now : Nat) : St :=
  if k ∈ akeys s.cache then { s with pol := s.pol.access k, cache := aset s.cache k v }
  else
    let s1 := evictLoop cfg (s.cache.length + s.pol.tracked.length + 1) s now
    { s1 with pol := s1.pol.insert k now, cache := aset s1.cache k v }

def cacheRemove (s : St) (k : Key) : St :=
  { s with cache := adel s.cache k, dirty := setDel s.dirty k, pol := s.pol.remove k }

def St.bump (cfg : Cfg) (s : St) (k : Key) : St :=
  if cfg.rep then { s with epoch := aset s.epoch k (cnt s.epoch k + 1) } else s
def St.inflInc (cfg : Cfg) (s : St) (k : Key) : St :=
  if cfg.rep then { s with infl := aset s.infl k (cnt s.infl k + 1) } else s
def St.inflDec (cfg : Cfg) (s : St) (k : Key) : St :=
  if cfg.rep then { s with infl := aset s.infl k (cnt s.infl k - 1) } else s

def St.setPend (s : St) (i : Nat) (p : Pend) : St := { s with pend := s.pend ++ [(i, p)] }
def St.clearPend (s : St) (i : Nat) : St := { s with pend := s.pend.filter (·.1 != i) }

/-- the `for key in snapshot` loop of `flush`, up to the next `yield` -/
def flushNext (cfg : Cfg) (s : St) (i : Nat) : List Key → Nat → St × Option Res
  | [], n => (s, some (.count n))
  | k :: rest, n =>
    if cfg.rep then
      if k ∈ s.dirty ∧ k ∈ akeys s.cache then (s.setPend i (.flushRep k rest n), none)
      else flushNext cfg s i rest n
    else
      match aget? s.cache k with
      | some v => (s.setPend i (.flushCur k v rest n), none)
      | none => flushNext cfg s i rest n

/-- first segment of operation `i` -/
def start (cfg : Cfg) (s : St) (i : Nat) (op : OpK) (now : Nat) : St × Option Res :=
  match op with
  | .get k =>
    match aget? s.cache k with
    | some v => ({ s with pol := s.pol.access k }.setPend i (.getHit v), none)
    | none => (s.setPend i (.getMiss k (cnt s.epoch k)), none)
  | .put k v =>
    let s1 := cachePut cfg (s.bump cfg k) k v now
    if cfg.wt then ((s1.inflInc cfg k).setPend i (.putWT k v), none)
    else ({ s1 with dirty := setAdd s1.dirty k }.setPend i .putWB, none)
  | .del k =>
    let s0 := s.bump cfg k
    let inC := decide (k ∈ akeys s0.cache)
    let s1 := if inC then cacheRemove (if cfg.rep then s0.writeBack k else s0) k else s0
    ((s1.inflInc cfg k).setPend i (.del k inC), none)
  | .inv k =>
    if k ∈ akeys s.cache then
      (cacheRemove (if cfg.rep then s.writeBack k else s) k, some .none)
    else (s, some .none)
  | .invAll =>
    let s1 := if cfg.rep then s.writeBackAll s.dirty else s
    ({ s1 with cache := [], dirty := [], pol := s1.pol.clear }, some .none)
  | .flush order => flushNext cfg s i order 0

def St.fillAllowed (s : St) (k : Key) (epoch : Nat) : Bool :=
  cnt s.epoch k == epoch && cnt s.infl k == 0

/-- a later segment of operation `i` whose continuation is `p` -/
def resume (cfg : Cfg) (s0 : St) (i : Nat) (p : Pend) (now : Nat) : St × Option Res :=
  let s := s0.clearPend i
  match p with
  | .getHit v => (s, some (.val v))
  | .getMiss k e =>
    match aget? s.back k with
    | some x =>
      if !cfg.rep || s.fillAllowed k e then (cachePut cfg s k x now, some (.val x)) else (s, some (.val x))
    | none => (s, some .none)
  | .putWT k v => ({ s with back := aset s.back k v }.inflDec cfg k, some .none)
  | .putWB => (s, some .none)
  | .del k inC =>
    let ex := decide (k ∈ akeys s.back)
    ({ s with back := adel s.back k }.inflDec cfg k, some (.bool (inC || ex)))
  | .flushCur k v rest n =>
    flushNext cfg { s with back := aset s.back k v, dirty := setDel s.dirty k } i rest (n + 1)
  | .flushRep k rest n =>
    if k ∈ s.dirty ∧ k ∈ akeys s.cache then flushNext cfg (s.writeBack k) i rest (n + 1)
    else flushNext cfg s i rest n

inductive Act
  | start (i : Nat) (op : OpK) (now : Nat)
  | resume (i : Nat) (now : Nat)
deriving Repr

def step (cfg : Cfg) (s : St) : Act → St × Option Res
  | .start i op now => start cfg s i op now
  | .resume i now =>
    match s.pend.find? (·.1 == i) with
    | some (_, p) => resume cfg s i p now
    | none => (s, none)

def run (cfg : Cfg) (s : St) : List Act → St
  | [] => s
  | a :: as => run cfg (step cfg s a).1 as

end HappyModel.C16
