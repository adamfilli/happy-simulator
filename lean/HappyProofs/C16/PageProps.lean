import HappyProofs.C16.PageCons
import HappyProofs.C16.PageTrace
import HappyProofs.C16.PageWrite
/-!
C16 — property theorems for `PageCache` (infrastructure/page_cache.py).

A schedule is an arbitrary list of `start i op` / `resume i` actions, so every theorem below covers every
interleaving of overlapping `read_page` / `write_page` / `flush` calls and every read-ahead width.
`trace` lists the state after every segment — exactly the points at which the
harness observes the implementation (`pages_cached = pages.length`, `dirty_pages = dirtyCount pages`,
`dirty_writebacks = dwb`).  Theorems are about the `repaired` variant
(fixes/C16-pagecache-capacity.diff, in /repo since 2314498); the `current` variant, the code before that
repair, has decided counterexamples.
-/
namespace HappyModel.C16.Page

def trace (cfg : Cfg) (s : St) : List Act → List St
  | [] => []
  | a :: as => (step cfg s a).1 :: trace cfg (step cfg s a).1 as

def repaired (cap ra : Nat) : Cfg := ⟨cap, ra, true⟩
def current (cap ra : Nat) : Cfg := ⟨cap, ra, false⟩

theorem trace_inv (cfg : Cfg) (P : St → Prop) (hstep : ∀ s a, P s → P (step cfg s a).1) :
    ∀ (acts : List Act) (s : St), P s → ∀ t ∈ trace cfg s acts, P t := by
  intro acts
  induction acts with
  | nil => intro s _ t ht; simp [trace] at ht
  | cons a as ih =>
    intro s hs t ht
    simp only [trace, List.mem_cons] at ht
    rcases ht with rfl | ht
    · exact hstep s a hs
    · exact ih _ (hstep s a hs) t ht

/-- **A cache layer holds at most its capacity.**  After every segment of every schedule the repaired PageCache
holds at most `capacity_pages` pages (`hc`: the constructor rejects a capacity below 1). -/
theorem pagecache_size_le_capacity (cap ra : Nat) (hc : 1 ≤ cap) (acts : List Act) :
    ∀ s ∈ trace (repaired cap ra) {} acts, s.pages.length ≤ cap :=
  trace_inv (repaired cap ra) (fun s => s.pages.length ≤ cap)
    (fun s a hs => step_size (repaired cap ra) rfl hc s a hs) acts {} (Nat.zero_le _)

/-- non-vacuity: three overlapping loads into a one-page cache — two evictions happen, one page stays -/
example :
    let s := run (repaired 1 0) {} [.start 0 (.read 1), .start 1 (.read 2), .start 2 (.read 3), .resume 0, .resume 1, .resume 2]
    s.pages.length = 1 ∧ s.ev = 2 ∧ s.misses = 3 := by decide +kernel

/-- The same schedule on the code before the repair: three pages in a cache of capacity one
(corpus/C16/pagecache-overlapping-loads.json). -/
theorem pagecache_capacity_exceeded_current :
    (run (current 1 0) {} [.start 0 (.read 1), .start 1 (.read 2), .start 2 (.read 3),
      .resume 0, .resume 1, .resume 2]).pages.length = 3 := by decide +kernel

/-- … so the capacity theorem is false of the current variant. -/
theorem pagecache_size_le_capacity_fails_current :
    ¬ ∀ (acts : List Act), ∀ s ∈ trace (current 1 0) {} acts, s.pages.length ≤ 1 := by
  intro h
  have := h [.start 0 (.read 1), .start 1 (.read 2), .start 2 (.read 3), .resume 0, .resume 1, .resume 2]
    (run (current 1 0) {} [.start 0 (.read 1), .start 1 (.read 2), .start 2 (.read 3), .resume 0, .resume 1, .resume 2])
    (by decide)
  revert this
  decide +kernel

/-- **Pages leave the cache only through counted evictions.**  Over every segment of every
schedule `pages_cached + evictions` never falls and rises by at most one (a segment inserts at most
one page) — the `evictions` clause of the Spec for `read_page` / `write_page` segments; for a `flush` segment
the Spec asks that the sum stay equal, which is not stated here. -/
theorem pagecache_evictions_account (cap ra : Nat) (s : St) (a : Act) :
    s.pages.length + s.ev ≤ (step (repaired cap ra) s a).1.pages.length + (step (repaired cap ra) s a).1.ev ∧
    (step (repaired cap ra) s a).1.pages.length + (step (repaired cap ra) s a).1.ev ≤ s.pages.length + s.ev + 1 :=
  step_grow (repaired cap ra) rfl s a

/-- non-vacuity: one segment evicts a (dirty) page, the call's next segment inserts another -/
example :
    let s := run (repaired 1 0) {} [.start 0 (.write 1), .start 1 (.write 2), .resume 1]
    s.pages.length = 1 ∧ s.ev = 1 := by decide +kernel

/-- Dirty pages are cached pages: `dirty_pages ≤ pages_cached` after every segment (either variant). -/
theorem pagecache_dirty_subset_cached (cfg : Cfg) (acts : List Act) :
    ∀ s ∈ trace cfg {} acts, dirtyCount s.pages ≤ s.pages.length :=
  fun s _ => dirtyCount_le_length s.pages

example :
    let s := run (repaired 2 0) {} [.start 0 (.write 1), .start 1 (.read 2), .resume 1]
    dirtyCount s.pages = 1 ∧ s.pages.length = 2 := by decide +kernel

theorem conserved_step (cap ra : Nat) (s : St) (a : Act) (hs : s.made = s.dwb + dirtyCount s.pages + inflight s.pend) :
    (step (repaired cap ra) s a).1.made = (step (repaired cap ra) s a).1.dwb +
      dirtyCount (step (repaired cap ra) s a).1.pages + inflight (step (repaired cap ra) s a).1.pend := by
  have := step_bal (repaired cap ra) rfl s a
  unfold Bal pot at this
  omega

/-- **Write-back data is never discarded before it reaches the backing store.**  After every
segment of every schedule, the number of times `write_page` turned an absent or clean page dirty
equals `dirty_writebacks` + the dirty pages still cached + the evicted dirty victims whose
write-back latency is being served (each is counted in `dirty_writebacks` when its call resumes):
no dirty page ever leaves the repaired cache without a write-back. -/
theorem pagecache_dirty_never_dropped (cap ra : Nat) (acts : List Act) :
    ∀ s ∈ trace (repaired cap ra) {} acts, s.made = s.dwb + dirtyCount s.pages + inflight s.pend :=
  trace_inv (repaired cap ra) (fun s => s.made = s.dwb + dirtyCount s.pages + inflight s.pend)
    (conserved_step cap ra) acts {} rfl

/-- at quiescence (no call suspended) every dirtied page is still dirty in the cache or was written back -/
theorem pagecache_dirty_never_dropped_quiescent (cap ra : Nat) (acts : List Act) :
    ∀ s ∈ trace (repaired cap ra) {} acts, s.pend = [] → s.made = s.dwb + dirtyCount s.pages := by
  intro s hs hq
  have := pagecache_dirty_never_dropped cap ra acts s hs
  rw [hq] at this
  simpa [inflight] using this

/-- non-vacuity: two dirty pages through a one-page cache: the first written back, the second popped as the victim
of a third write that waits for its write-back — one write-back done, one victim in flight, no page dirty -/
example :
    let s := run (repaired 1 0) {} [.start 0 (.write 1), .start 1 (.write 2), .resume 1, .start 2 (.write 3)]
    s.made = 2 ∧ s.dwb = 1 ∧ dirtyCount s.pages = 0 ∧ inflight s.pend = 1 := by decide +kernel

theorem run_inv (cfg : Cfg) (P : St → Prop) (hstep : ∀ s a, P s → P (step cfg s a).1) :
    ∀ (acts : List Act) (s : St), P s → P (run cfg s acts) := by
  intro acts
  induction acts with
  | nil => intro s hs; exact hs
  | cons a as ih => intro s hs; exact ih _ (hstep s a hs)

/-- The same conservation law in observable terms (`dirtied`: the summed rise of `dirty_pages` over the
segments in which a `write_page` call returns): after any schedule,
`dirtied = dirty_writebacks + dirty_pages + victims in write-back`; the victims in write-back are requests of
the pending table (the second conjunct says no more than that). -/
theorem pagecache_dirtied_eq_writtenback_plus_dirty (cap ra : Nat) (acts : List Act) :
    dirtied (repaired cap ra) {} acts
      = (run (repaired cap ra) {} acts).dwb + dirtyCount (run (repaired cap ra) {} acts).pages
        + inflight (run (repaired cap ra) {} acts).pend ∧
    inflight (run (repaired cap ra) {} acts).pend ≤ (run (repaired cap ra) {} acts).pend.length := by
  refine ⟨?_, List.countP_le_length⟩
  have h1 := made_eq_dirtied (repaired cap ra) rfl acts {}
  have h2 := run_inv (repaired cap ra) (fun s => s.made = s.dwb + dirtyCount s.pages + inflight s.pend)
    (conserved_step cap ra) acts {} rfl
  have h0 : ({} : St).made = 0 := rfl
  omega

example :
    dirtied (repaired 1 0) {} [.start 0 (.write 1), .start 1 (.write 2), .resume 1, .start 2 (.write 3)] = 2 := by decide +kernel

/-- The code before the repair drops a dirty page: `read_page(1)` waits for the disk, `write_page(1)`
inserts the page dirty, the read then replaces it by a clean page — one page was dirtied, none is
dirty, none was written back, nothing is in flight (corpus/C16/pagecache-load-overwrites-dirty.json). -/
theorem pagecache_dirty_dropped_current :
    let s := run (current 1 0) {} [.start 0 (.read 1), .start 1 (.write 1), .resume 0]
    s.made = 1 ∧ s.dwb = 0 ∧ dirtyCount s.pages = 0 ∧ s.pend = [] := by decide +kernel

/-- The code before the repair fails with KeyError when two evictions wait on the same dirty victim. -/
theorem pagecache_evict_keyerror_current :
    (step (current 1 0) (run (current 1 0) {} [.start 0 (.write 1), .start 1 (.write 2), .start 2 (.write 3), .resume 1])
      (.resume 2)).2 = some (.err .key) := by decide +kernel

/-- **the list `mdRun`, kept by the rule `PageSpec.jstep` keeps its `mayDirty` list by, over-approximates the
    dirty pages** along every schedule of the repaired model: a page is dirty only if a `write_page` of it has
    returned since the cache last held no dirty page -/
theorem pagecache_dirty_subset_mayDirty (cap ra : Nat) (acts : List Act) :
    ∀ q ∈ (run ⟨cap, ra, true⟩ {} acts).pages, q.dirty = true → q.id ∈ mdRun ⟨cap, ra, true⟩ {} [] acts :=
  md_run ⟨cap, ra, true⟩ rfl acts {} [] (by intro q hq; cases hq)

/-- **per-page write-back clause, run level**: after any schedule `pre`, a segment in which a
    `write_page(p)` returns with `p` outside the `mayDirty` list dirties a page (the ghost count of
    dirtied pages, which `pagecache_dirtied_eq_writtenback_plus_dirty` equates with
    `dirty_writebacks + dirty_pages + victims in write-back`, grows by one) and leaves `p` dirty -/
theorem pagecache_write_not_mayDirty_dirties (cap ra : Nat) (pre : List Act) (a : Act) (p : Nat)
    (hw : WriteSeg (run ⟨cap, ra, true⟩ {} pre) a p)
    (hok : (step ⟨cap, ra, true⟩ (run ⟨cap, ra, true⟩ {} pre) a).2 = some .ok)
    (hp : p ∉ mdRun ⟨cap, ra, true⟩ {} [] pre) :
    (run ⟨cap, ra, true⟩ {} (pre ++ [a])).made = (run ⟨cap, ra, true⟩ {} pre).made + 1 ∧
      DirtyIn (run ⟨cap, ra, true⟩ {} (pre ++ [a])).pages p := by
  refine ⟨?_, pagecache_trace_write_leaves_page_dirty _ pre a p hw hok⟩
  rw [run_snoc]
  exact step_write_made _ rfl _ a p _ hw hok (md_run _ rfl pre {} [] (by intro q hq; cases hq)) hp

/-- non-vacuity (the schedule of seeded/C16-r4-m3): `write_page(7)` stalls on a dirty victim,
    `read_page(7)` loads 7 clean meanwhile; `mdRun` is empty there (`dirty_pages` fell to 0 when victim 1 was popped), the
    write's returning segment is a `WriteSeg`, returns, and `made` goes from 1 to 2 -/
example :
    let cfg : Cfg := ⟨2, 0, true⟩
    let pre := [Act.start 0 (.write 1), .start 1 (.read 2), .resume 1, .start 2 (.write 7), .start 3 (.read 7), .resume 3]
    mdRun cfg {} [] pre = [] ∧ findPend (run cfg {} pre).pend 2 = some (.evict 1 (.write 7)) ∧
    (step cfg (run cfg {} pre) (.resume 2)).2 = some .ok ∧
    (run cfg {} pre).made = 1 ∧ (run cfg {} (pre ++ [.resume 2])).made = 2 := by decide +kernel

end HappyModel.C16.Page
