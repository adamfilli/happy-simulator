import HappyProofs.C01.Props
import HappyProofs.C02.ProcessProps
import HappyProofs.C02.JudgeFull
/-!
# C02 — test vectors of the trace judge on the demo programs of `ProcessProps.lean`

(C01's property theorems are imported as well: the process layer is one machine of that engine, so they apply to
continuation events as they stand.)
-/
namespace HappyModel.C01

open HappyModel.C02.Spec (Line delayMonitor waitMonitor) in
-- non-vacuity of `delay_clauses_silent_on_model` / `wait_clause_silent_on_model`: the `R` / `y` / `w` lines of the
-- demo run — process 0 yields 10 ns at t = 1 (tag 4) and is resumed at t = 11 with that tag and `None`;
-- process 1 yields future 0 at t = 2 and is resumed by it at t = 5 — and both monitors accept them
example :
    (delayView none 6 (demoLate.initState false)).map
        (fun l => match l with
          | .ydelay tag pid t => ("y", tag, pid, t, "")
          | .wait pid f _ => ("w", pid, f, 0, "")
          | .resume clk pid val tag => ("R", clk, pid, tag, val)
          | _ => ("?", 0, 0, 0, ""))
      = [("y", 4, 0, 11, ""), ("w", 1, 0, 0, ""), ("R", 5, 1, 0, "a0.3"), ("R", 11, 0, 4, "none")] ∧
    delayMonitor (delayView none 6 (demoLate.initState false)) = none ∧
    waitMonitor (delayView none 6 (demoLate.initState false)) = none ∧
    demoLate.Plain := by
  refine ⟨by decide +kernel, by decide +kernel, by decide +kernel, ?_⟩
  unfold Program.Plain; decide

open HappyModel.C02.Spec (Line hookMonitor) in
-- non-vacuity of `hook_clauses_silent_on_model`: the hook lines of the demo run — process 0 (event 0, tag 1) adds
-- hook 5 to its own event while in flight (t = 1), another handler adds hook 6 at t = 5, the process finishes at
-- t = 11 and both hooks run then, in that order — and the monitor accepts them; it rejects a trace in which the
-- second hook is missing, and one in which a hook runs that was never attached
example :
    (hookView none 6 (demoLate.initState false)).filterMap
        (fun l => match l with
          | .hookAdd t k => some ("h", t, k)
          | .hookRun c k => some ("H", c, k)
          | .finish c pid => some ("F", c, pid)
          | .start c t => some ("S", c, t)
          | _ => none)
      = [("S", 1, 1), ("h", 1, 5), ("S", 2, 2), ("S", 5, 3), ("h", 1, 6), ("F", 5, 2), ("F", 5, 1), ("F", 11, 0),
         ("H", 11, 5), ("H", 11, 6)] ∧
    hookMonitor (hookView none 6 (demoLate.initState false)) = none ∧
    hookMonitor [Line.start 1 1, Line.hookAdd 1 5, Line.hookAdd 1 6, Line.finish 11 0, Line.hookRun 11 5, Line.created,
                 Line.other] = some "process/hook/not-run-at-finish" ∧
    hookMonitor [Line.start 1 1, Line.finish 11 0, Line.hookRun 11 5] = some "process/hook/ran-without-being-due" := by
  decide +kernel

open HappyModel.C02.Spec (Line hookMonitor delayMonitor waitMonitor) in
-- non-vacuity of `process_trace_satisfies_c02_spec`: the one trace of the demo run (23 lines: the
-- R / S / K / h / F / H / c / y / w lines as written and the closing neutral line of each delivery) is accepted by the three monitors
example :
    (c02TraceOf none 6 (demoLate.initState false)).length = 23 ∧
    hookMonitor (c02TraceOf none 6 (demoLate.initState false)) = none ∧
    delayMonitor (c02TraceOf none 6 (demoLate.initState false)) = none ∧
    waitMonitor (c02TraceOf none 6 (demoLate.initState false)) = none := by decide +kernel

open HappyModel.C02.Spec (Line delayMonitor waitMonitor) in
-- the monitors are not vacuous: a resumption at the wrong instant, with a value, or without a wait is reported
example :
    delayMonitor [Line.ydelay 4 0 11, Line.resume 12 0 "none" 4] = some "process/delay-resume-at-wrong-time" ∧
    delayMonitor [Line.ydelay 4 0 11, Line.resume 11 0 "n5" 4] = some "process/delay-resume-with-value" ∧
    delayMonitor [Line.resume 11 0 "none" 4] = some "process/resumed-without-pending-delay" ∧
    waitMonitor [Line.wait 1 0 false, Line.resume 5 1 "n1" 0, Line.resume 6 1 "n1" 0] = some "future/resumed-without-wait" := by
  decide +kernel

-- non-vacuity of `future_before_resolved_silent_on_program_plain`: `demoProg` is plain, its view has the `w` line
-- of the generator (t = 1), the `r` line of the handler that resolves the future (t = 2) and the untagged `R`
-- line of the resumption (t = 2)
example : demoProg.PlainFutures := by decide +kernel
example : (futView none 10 (demoProg.initState false)).map futKey = [(2, 0, 0), (1, 0, 0), (3, 2, 0)] := by decide +kernel
-- the clause is not vacuous: without the `r` line the same fold raises it
example :
    ((enum [HappyModel.C02.Spec.Line.wait 0 0 false, HappyModel.C02.Spec.Line.resume 2 0 "n7" 0]).foldl
      (fun st p => HappyModel.C02.Spec.stepLine st p.1 p.2) {}).err = some "future/resumed-before-resolved" := by
  decide +kernel

-- non-vacuity of `future_clauses_silent_on_program_plain`: `demoProg` qualifies; its future-layer trace is
-- S(1) w(0 on 0) S(2) r(0) R(2, process 0) K(2: the completion hook's event)
example : demoProg.PlainFuturesV := by decide +kernel
example : (FV.futTrace none 10 (demoProg.initState false)).map ftKey =
    [(4, 1, 0), (2, 0, 0), (4, 2, 0), (1, 0, 0), (3, 2, 0), (5, 2, 0)] := by decide +kernel
-- the clauses are not vacuous: a wrong value, a wrong instant on the same lines make the fold raise them
example :
    ((enum [HappyModel.C02.Spec.Line.start 1 1, .wait 0 0 false, .start 2 2, .resolve 0 (.n 7), .resume 2 0 "n8" 0]).foldl
      (fun st p => HappyModel.C02.Spec.stepLine st p.1 p.2) {}).err = some "future/resumed-with-wrong-value" := by
  decide +kernel
example :
    ((enum [HappyModel.C02.Spec.Line.start 1 1, .wait 0 0 false, .start 2 2, .resolve 0 (.n 7), .resume 3 0 "n7" 0]).foldl
      (fun st p => HappyModel.C02.Spec.stepLine st p.1 p.2) {}).err = some "future/resumed-at-wrong-instant" := by
  decide +kernel
example :
    ((enum [HappyModel.C02.Spec.Line.start 1 1, .wait 0 0 false, .start 2 2, .resolve 0 (.n 7), .resume 2 0 "n7" 0]).foldl
      (fun st p => HappyModel.C02.Spec.stepLine st p.1 p.2) {}).err = none := by
  decide +kernel

-- non-vacuity of `plain_program_full_trace_satisfies_c02_spec`: the full trace of `demoProg` (15 lines: the pre-run
-- `h` line, S w | S r F | R F H c | K and the closing neutral lines) carries the `w`, `r` and untagged `R` lines
-- of the future layer in the order they are written
example : (c02FullTraceOf none 10 (demoProg.initState false)).length = 15 ∧
    ((c02FullTraceOf none 10 (demoProg.initState false)).map ftKey).filter (fun x => x.1 != 0) =
      [(4, 1, 0), (2, 0, 0), (4, 2, 0), (1, 0, 0), (3, 2, 0), (5, 2, 0)] := by decide +kernel

end HappyModel.C01
