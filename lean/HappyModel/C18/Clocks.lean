import HappyModel.C18.Vec
/-!
Model of `happysimulator/core/logical_clocks.py`: `LamportClock`, `VectorClock`,
`HybridLogicalClock`, driven by one history of events

    loc n pt    node n has a local event         (tick / tick / now)
    send n m pt node n sends message m           (send / send / send)
    recv n m pt node n receives message m        (receive ×3)

`pt` is the physical-clock reading the HLC sees at that event: an arbitrary
input (skew, drift, jumps backwards are all just "some natural number").
Every event is logged with the three timestamps taken right after it and with
its causal past `K` (ids of all events that happened before it, and itself) —
`K` is the *specification* side: Lamport's happened-before relation, computed
independently of any clock value.
-/
namespace HappyModel.C18

inductive Ev
  | loc (n pt : Nat)
  | send (n m pt : Nat)
  | recv (n m pt : Nat)
deriving Repr, DecidableEq

/-- HLC timestamp without the node id (ties between nodes are not causally related) -/
structure HTs where
  p : Nat
  l : Nat
deriving Repr, DecidableEq

def HTs.lt (a b : HTs) : Prop := a.p < b.p ∨ (a.p = b.p ∧ a.l < b.l)
instance (a b : HTs) : Decidable (HTs.lt a b) := by unfold HTs.lt; exact inferInstance

structure Rec where
  id : Nat
  node : Nat
  L : Nat
  V : Vec
  H : HTs
  K : List Nat
deriving Repr

@[noinline] def upd {β} (f : Nat → β) (i : Nat) (x : β) : Nat → β := fun j => if j = i then x else f j
@[simp] theorem upd_same {β} (f : Nat → β) (i : Nat) (x : β) : upd f i x i = x := by simp [upd]
theorem upd_other {β} (f : Nat → β) (i j : Nat) (x : β) (h : j ≠ i) : upd f i x j = f j := by
  simp [upd, h]

/-- set union on id lists without duplicates growth -/
def kunion (a b : List Nat) : List Nat := a ++ b.filter (fun x => !a.contains x)

/-- `a ++ (b without what `a` has)` has the members of both -/
theorem mem_append_filter_not_contains {α} [DecidableEq α] (a b : List α) (x : α) :
    x ∈ a ++ b.filter (fun x => !a.contains x) ↔ x ∈ a ∨ x ∈ b := by
  simp only [List.mem_append, List.mem_filter, List.contains_eq_mem, Bool.not_eq_true',
    decide_eq_false_iff_not]
  exact ⟨fun h => h.imp_right And.left, fun h => h.elim Or.inl fun hb => (Classical.em (x ∈ a)).imp_right (⟨hb, ·⟩)⟩

theorem mem_kunion (a b : List Nat) (x : Nat) : x ∈ kunion a b ↔ x ∈ a ∨ x ∈ b :=
  mem_append_filter_not_contains a b x

structure St where
  lam : Nat → Nat := fun _ => 0
  vc : Nat → Vec := fun _ => []
  hlc : Nat → HTs := fun _ => ⟨0, 0⟩
  know : Nat → List Nat := fun _ => []
  cnt : Nat := 0
  nev : Nat → Nat := fun _ => 0            -- events so far per node
  own : Nat → Nat → Nat := fun _ _ => 0    -- (node, k) ↦ id of the k-th event of that node
  mlam : Nat → Nat := fun _ => 0           -- message ↦ Lamport timestamp carried
  mvc : Nat → Vec := fun _ => []           -- message ↦ vector carried
  mhlc : Nat → HTs := fun _ => ⟨0, 0⟩
  mknow : Nat → List Nat := fun _ => []
  msent : Nat → Bool := fun _ => false
  log : List Rec := []                     -- newest first

/-- `HybridLogicalClock.now` -/
def hlcNow (last : HTs) (pt : Nat) : HTs :=
  if pt > last.p then ⟨pt, 0⟩ else ⟨last.p, last.l + 1⟩

/-- `HybridLogicalClock.receive` -/
def hlcRecv (last : HTs) (pt : Nat) (r : HTs) : HTs :=
  let mx := max pt (max last.p r.p)
  if mx = last.p ∧ last.p = r.p then ⟨mx, max last.l r.l + 1⟩
  else if mx = last.p then ⟨mx, last.l + 1⟩
  else if mx = r.p then ⟨mx, r.l + 1⟩
  else ⟨mx, 0⟩

/-- bookkeeping common to all three event kinds: node `n` records a new event whose
    pre-increment vector is `v`, whose past (without itself) is `k`, and whose new Lamport
    and HLC values are `l`, `h` -/
def bump (s : St) (n : Nat) (l : Nat) (v : Vec) (h : HTs) (k : List Nat) : St :=
  let id := s.cnt
  let v' := Vec.addAt v n 1
  let k' := id :: k
  { s with lam := upd s.lam n l, vc := upd s.vc n v', hlc := upd s.hlc n h,
           know := upd s.know n k', cnt := s.cnt + 1,
           nev := upd s.nev n (s.nev n + 1), own := upd s.own n (upd (s.own n) (s.nev n + 1) id),
           log := ⟨id, n, l, v', h, k'⟩ :: s.log }

def step (s : St) : Ev → St
  | .loc n pt => bump s n (s.lam n + 1) (s.vc n) (hlcNow (s.hlc n) pt) (s.know n)
  | .send n m pt =>
    if s.msent m then s else
    let s1 := bump s n (s.lam n + 1) (s.vc n) (hlcNow (s.hlc n) pt) (s.know n)
    { s1 with mlam := upd s1.mlam m (s1.lam n), mvc := upd s1.mvc m (s1.vc n),
              mhlc := upd s1.mhlc m (s1.hlc n), mknow := upd s1.mknow m (s1.know n),
              msent := upd s1.msent m true }
  | .recv n m pt =>
    if s.msent m then
      bump s n (max (s.lam n) (s.mlam m) + 1) (Vec.vmax (s.vc n) (s.mvc m))
        (hlcRecv (s.hlc n) pt (s.mhlc m)) (kunion (s.know n) (s.mknow m))
    else s

def run (s : St) : List Ev → St
  | [] => s
  | e :: es => run (step s e) es

/-- `VectorClock.happened_before` on two snapshots: all ≤ and some < -/
def vcHappenedBefore (a b : Vec) : Bool := Vec.le a b && !Vec.le b a

theorem vcHappenedBefore_iff (a b : Vec) :
    vcHappenedBefore a b = true ↔ (∀ i, Vec.get a i ≤ Vec.get b i) ∧ ∃ i, Vec.get a i < Vec.get b i := by
  simp only [vcHappenedBefore, Bool.and_eq_true, Bool.not_eq_true', ← Bool.not_eq_true, Vec.le_iff]
  refine and_congr_right fun _ => ⟨fun h => ?_, fun ⟨i, hi⟩ h => Nat.lt_irrefl _ (Nat.lt_of_lt_of_le hi (h i))⟩
  exact Classical.byContradiction fun hne => h fun i =>
    Nat.le_of_not_lt fun hi => hne ⟨i, hi⟩

end HappyModel.C18
