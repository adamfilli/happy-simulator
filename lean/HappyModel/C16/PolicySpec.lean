import HappyModel.C16.Policies
/-!
C16, part 1 — what an eviction policy owes its cache, stated over *histories*.

`SpecSt` is computed from the operation list and from the keys that `evict` *returned* only (no
policy internals): for every key that was inserted and not yet removed / evicted it records when it
was inserted, when it was last touched (insert or access) and how often.  The clauses:

* keys      the set of keys the policy tracks is exactly the set of held keys
            (hence `evict` returns a key iff some key is held, and only held keys);
* lru       the evicted key has the smallest last-touch index among held keys;
* fifo      … the smallest insertion index;
* lfu       … the smallest touch count;
* ttl       an expired key if one exists (clock reading ≥ insertion reading + ttl), else the
            smallest insertion reading;
* slru      a never-re-accessed key (oldest first) if one exists, else the least recently touched;
* sampled   the least recently touched key of the drawn sample.

A history is *well formed* when `on_insert k` is only called for a key that is not held — the
protocol `CachedStore._cache_put` follows (`StoreInv.lean` shows the key untracked at every `on_insert` of a
store run; no theorem builds the history of a store run).  Histories that are not
well formed are not judged (the model still mirrors what the code does with them).
-/
namespace HappyModel.C16

structure HRec where
  key : Key
  ins : Nat      -- index of the inserting operation
  last : Nat     -- index of the last insert/access
  cnt : Nat      -- 1 + accesses since insertion
  insNow : Nat   -- clock reading at insertion
deriving Repr, DecidableEq

structure SpecSt where
  held : List HRec := []
  tick : Nat := 0
  wf : Bool := true
deriving Repr

def SpecSt.keys (s : SpecSt) : List Key := s.held.map (·.key)
def SpecSt.has (s : SpecSt) (k : Key) : Bool := s.held.any (·.key == k)
def SpecSt.rec? (s : SpecSt) (k : Key) : Option HRec := s.held.find? (·.key == k)

/-- advance the history by one call; `res` is what `evict` returned -/
def SpecSt.step (s : SpecSt) (op : POp) (res : Option Key) : SpecSt :=
  let t := s.tick + 1
  match op with
  | .access k =>
    { s with tick := t,
             held := s.held.map fun r => if r.key == k then { r with last := s.tick, cnt := r.cnt + 1 } else r }
  | .insert k now =>
    if s.has k then { s with tick := t, wf := false }
    else { s with tick := t, held := s.held ++ [⟨k, s.tick, s.tick, 1, now⟩] }
  | .remove k => { s with tick := t, held := s.held.filter (·.key != k) }
  | .evict _ _ =>
    match res with
    | some k => { s with tick := t, held := s.held.filter (·.key != k) }
    | none => { s with tick := t }
  | .clear => { s with tick := t, held := [] }

inductive Kind | lru | lfu | ttl (ttl : Nat) | fifo | rnd | slru | sampled (size : Nat) | clock | twoq
deriving Repr, DecidableEq

def Pol.kind : Pol → Kind
  | .lru _ => .lru | .lfu _ => .lfu | .ttl s => .ttl s.ttl | .fifo _ => .fifo | .rnd _ => .rnd
  | .slru _ => .slru | .sampled s => .sampled s.size | .clock _ => .clock | .twoq _ => .twoq

/-- the order law of each kind for evicting `v` from the held set (before the eviction) -/
def orderOk (kind : Kind) (s : SpecSt) (now : Nat) (pick : List Key) (v : HRec) : Bool :=
  match kind with
  | .lru => s.held.all fun r => v.last ≤ r.last
  | .fifo => s.held.all fun r => v.ins ≤ r.ins
  | .lfu => s.held.all fun r => v.cnt ≤ r.cnt
  | .ttl ttl =>
    if s.held.any (fun r => r.insNow + ttl ≤ now) then decide (v.insNow + ttl ≤ now)
    else s.held.all fun r => v.insNow ≤ r.insNow
  | .slru =>
    if s.held.any (fun r => r.cnt == 1) then
      v.cnt == 1 && s.held.all fun r => r.cnt != 1 || v.ins ≤ r.ins
    else s.held.all fun r => v.last ≤ r.last
  | .sampled size =>
    let drawn := (pick.filter fun c => s.held.any (·.key == c)).take size
    if drawn.isEmpty then true
    else drawn.contains v.key && s.held.all fun r => !drawn.contains r.key || v.last ≤ r.last
  | .rnd | .clock | .twoq => true

def orderSig : Kind → String
  | .lru => "policy/lru/not-least-recent"
  | .fifo => "policy/fifo/not-oldest"
  | .lfu => "policy/lfu/not-least-frequent"
  | .ttl _ => "policy/ttl/not-expired-or-oldest"
  | .slru => "policy/slru/segment-order"
  | .sampled _ => "policy/sampled/not-lru-of-sample"
  | _ => "policy/order"

/-- judge what `evict` returned against the history so far -/
def judgeEvict (kind : Kind) (s : SpecSt) (now : Nat) (pick : List Key) (res : Option Key) : Option String :=
  match res with
  | none => if s.held.isEmpty then none else some "policy/evict/none-when-nonempty"
  | some k =>
    match s.rec? k with
    | none => some "policy/evict/untracked-key"
    | some v => if orderOk kind s now pick v then none else some (orderSig kind)

def sortKeys (l : List Key) : List Key := l.mergeSort (· ≤ ·)

/-- judge one call: `res` = returned key, `obs` = the policy's tracked keys after the call (sorted) -/
def judgeStep (kind : Kind) (s : SpecSt) (op : POp) (res : Option Key) (obs : List Key) : Option String :=
  let s' := s.step op res
  if !s'.wf then none else
  let e := match op with
    | .evict now pick => judgeEvict kind s now pick res
    | _ => none
  match e with
  | some sig => some sig
  | none => if sortKeys s'.keys == obs then none else some "policy/keys/tracked-ne-held"

/-- whole history: list of (call, returned key, tracked keys after) -/
def judgePolicy (kind : Kind) : SpecSt → Nat → List (POp × Option Key × List Key) → Option (String × Nat)
  | _, _, [] => none
  | s, i, (op, res, obs) :: rest =>
    let s' := s.step op res
    if !s'.wf then none else
    match judgeStep kind s op res obs with
    | some sig => some (sig, i)
    | none => judgePolicy kind s' (i + 1) rest

/-- the history after a judged prefix (what was called and what `evict` returned) -/
def SpecSt.after (s : SpecSt) : List (POp × Option Key × List Key) → SpecSt
  | [] => s
  | (op, res, _) :: rest => (s.step op res).after rest

/-- A call that *raised*.  The five methods of the protocol are total: on a well-formed history none
    of them has a reason to fail (the model `Pol.step` is a total function and the unmodified code
    never raises; `policy_keys_eq_cache_keys` is what makes e.g. `list.remove` inside `on_remove`
    safe).  An exception is what stale bookkeeping typically turns into one call later, so it is
    judged — after the clauses above have been applied to the calls that did return. -/
def judgeRaised (s : SpecSt) (op : POp) : Option String :=
  if (s.step op none).wf then some "policy/call/raised" else none

/-- whole history, possibly ending in a call that raised -/
def judgePolicyExc (kind : Kind) (hist : List (POp × Option Key × List Key)) (raised : Option POp) :
    Option (String × Nat) :=
  match judgePolicy kind {} 0 hist with
  | some r => some r
  | none =>
    match raised with
    | none => none
    | some op =>
      if !(SpecSt.after {} hist).wf then none
      else (judgeRaised (SpecSt.after {} hist) op).map fun sig => (sig, hist.length)

/-- The `clear` law (`policy_clear_is_fresh`), judged on the implementation's own answers: the calls
    after the last `clear()` were replayed on a freshly constructed policy of the same kind; every
    call must have been answered the same way (returned key, tracked keys, eviction order from
    there).  `main`/`fresh` are the two answer lines of each such call, with its index. -/
def judgeFresh (pairs : List (Nat × List String × List String)) : Option (String × Nat) :=
  (pairs.find? fun p => p.2.1 != p.2.2).map fun p => ("policy/clear/not-fresh", p.1)

end HappyModel.C16
