import HappyProofs.C13.Basic
/-!
What every handler does to a node, said once for all properties, in three aspects: to one entry of the
member table (a relation between the old and the new entry that is closed under the elementary changes holds
across every handler: `Respects`); to the queue of pending updates and to what is sent (handlers only ever add
"suspect" updates, the suspicion timeout its one "dead" update: `Sends`); to the timers, the probe order, the
probe index and the next tick (`SameCtl`, `CtlBut`).  Each handler is first brought into a form that names
its outcomes; the three aspects are read off that.
-/
set_option linter.unusedSectionVars false
namespace HappyModel.C13
variable {D : Type} [Inhabited D] [Detector D]

theorem applyToMember_cases (m : Member D) (u : Update) :
    applyToMember m u = m ∨
    (u.kind = .suspect ∧ m.st = .alive ∧
      applyToMember m u = { m with st := .suspect, inc := max m.inc u.inc }) ∨
    (u.kind = .dead ∧ m.st ≠ .dead ∧
      applyToMember m u = { m with st := .dead, inc := max m.inc u.inc }) ∨
    (u.kind = .alive ∧ m.inc < u.inc ∧ applyToMember m u = { m with st := .alive, inc := u.inc }) := by
  unfold applyToMember
  split
  · exact Or.inl rfl
  · cases hk : u.kind <;> dsimp only <;> split
    · exact Or.inr (Or.inl ⟨rfl, ‹_›, rfl⟩)
    · exact Or.inl rfl
    · exact Or.inr (Or.inr (Or.inl ⟨rfl, ‹_›, rfl⟩))
    · exact Or.inl rfl
    · exact Or.inr (Or.inr (Or.inr ⟨rfl, ‹_›, rfl⟩))
    · exact Or.inl rfl

theorem suspect_cases (nd : Node D) (x : Nat) :
    ((nd.member x).st ≠ .alive ∧ suspect nd x = nd) ∨ ((nd.member x).st = .alive ∧ suspect nd x =
      { nd.setMember x { nd.member x with st := .suspect } with
        upds := nd.upds ++ [⟨x, .suspect, (nd.member x).inc⟩] }) := by
  unfold suspect
  dsimp only
  split
  · exact .inr ⟨‹_›, rfl⟩
  · exact .inl ⟨‹_›, rfl⟩

theorem phiStep_cases (a now : Nat) (nd : Node D) (x : Nat) :
    ((x ≠ a → (nd.member x).st = .alive → Detector.avail (nd.member x).det now = true) ∧
      phiStep a now nd x = nd) ∨
    (x ≠ a ∧ (nd.member x).st = .alive ∧ Detector.avail (nd.member x).det now = false ∧
      phiStep a now nd x = suspect nd x) := by
  unfold phiStep
  dsimp only
  split
  · exact .inl ⟨fun h => absurd ‹_› h, rfl⟩
  · split
    · rename_i h
      have h : (nd.member x).st = .alive ∧ Detector.avail (nd.member x).det now = false := by simpa using h
      exact .inr ⟨‹_›, h.1, h.2, rfl⟩
    · rename_i h
      exact .inl ⟨fun _ hst => by simpa [hst] using h, rfl⟩

/-- A relation between the old and the new value of an entry of the member table that is closed
    under the changes a handler running at time `now` can make to it: the three effects of gossip,
    a heartbeat, the node's own suspicion, its suspicion timeout.  `G u`: the gossip `u` may be
    applied to the entry; `H`: a heartbeat of the member may be recorded; `T`: its suspicion timeout
    may fire. -/
structure Respects (now : Nat) (R : Member D → Member D → Prop) (G : Update → Prop) (H T : Prop) :
    Prop where
  refl : ∀ m, R m m
  trans : ∀ {m₁ m₂ m₃}, R m₁ m₂ → R m₂ m₃ → R m₁ m₃
  gsuspect : ∀ (m : Member D) u, G u → u.kind = .suspect → m.st = .alive →
    R m { m with st := .suspect, inc := max m.inc u.inc }
  gdead : ∀ (m : Member D) u, G u → u.kind = .dead → m.st ≠ .dead →
    R m { m with st := .dead, inc := max m.inc u.inc }
  galive : ∀ (m : Member D) u, G u → u.kind = .alive → m.inc < u.inc →
    R m { m with st := .alive, inc := u.inc }
  heard : H → ∀ m : Member D,
    R m { m with det := Detector.hb m.det now, st := if m.st = .suspect then .alive else m.st }
  suspect : ∀ m : Member D, m.st = .alive → R m { m with st := .suspect }
  dead : T → ∀ m : Member D, m.st = .suspect → R m { m with st := .dead }

section entry
variable {now : Nat} {R : Member D → Member D → Prop} {G : Update → Prop} {H T : Prop}
  (hR : Respects now R G H T) (x : Nat)
include hR

theorem Respects.gossip (m : Member D) (u : Update) (hu : G u) : R m (applyToMember m u) := by
  rcases applyToMember_cases m u with e | ⟨hk, h, e⟩ | ⟨hk, h, e⟩ | ⟨hk, h, e⟩ <;> rw [e]
  · exact hR.refl _
  · exact hR.gsuspect m u hu hk h
  · exact hR.gdead m u hu hk h
  · exact hR.galive m u hu hk h

theorem entry_of_mem_eq {nd nd' : Node D} (h : nd'.mem = nd.mem) :
    R (nd.member x) (nd'.member x) := by
  unfold Node.member
  rw [h]
  exact hR.refl _

theorem entry_setMember {nd : Node D} {y : Nat} {m : Member D} (h : y = x → R (nd.member x) m) :
    R (nd.member x) ((nd.setMember y m).member x) := by
  by_cases hy : x = y
  · subst hy
    rw [member_setMember_same]
    exact h rfl
  · rw [member_setMember_other hy]
    exact hR.refl _

theorem entry_applyUpdates {n a : Nat} {nd : Node D} {us : List Update}
    (hu : ∀ u ∈ us, u.member = x → G u) : R (nd.member x) ((applyUpdates n a nd us).member x) := by
  unfold applyUpdates
  induction us generalizing nd with
  | nil => exact hR.refl _
  | cons u us ih =>
    refine hR.trans ?_ (ih fun v hv => hu v (List.mem_cons_of_mem _ hv))
    unfold applyOne
    split
    · exact entry_setMember hR x fun e => by
        subst e
        exact hR.gossip _ _ (hu u (List.mem_cons_self ..) rfl)
    · exact hR.refl _

theorem entry_heard {nd : Node D} {y : Nat} (h : y = x → H) :
    R (nd.member x) ((heard nd y now).member x) :=
  entry_setMember hR x fun e => by
    subst e
    exact hR.heard (h rfl) _

theorem entry_suspect (nd : Node D) (y : Nat) : R (nd.member x) ((suspect nd y).member x) := by
  rcases suspect_cases nd y with ⟨_, e⟩ | ⟨h, e⟩ <;> rw [e]
  · exact hR.refl _
  · exact entry_setMember hR x fun e => by
      subst e
      exact hR.suspect _ h

theorem entry_phiStep (a t : Nat) (nd : Node D) (y : Nat) :
    R (nd.member x) ((phiStep a t nd y).member x) := by
  rcases phiStep_cases a t nd y with ⟨_, e⟩ | ⟨_, _, _, e⟩ <;> rw [e]
  · exact hR.refl _
  · exact entry_suspect hR x nd y

theorem entry_phiCheck (n a t : Nat) (nd : Node D) :
    R (nd.member x) ((phiCheck n a t nd).member x) :=
  foldl_rel (fun nd nd' : Node D => R (nd.member x) (nd'.member x)) (fun _ => hR.refl _)
    (fun _ _ _ => hR.trans) _ (entry_phiStep hR x a t) _ nd

end entry

def Sends (S : Update → Prop) (r : Node D × List Out) : Prop :=
  (∀ u ∈ r.1.upds, S u) ∧ ∀ o ∈ r.2, ∀ u ∈ o.upds, S u

theorem Sends.nothing {S : Update → Prop} {nd : Node D} (h : ∀ u ∈ nd.upds, S u) : Sends S (nd, []) :=
  ⟨h, fun _ ho => nomatch ho⟩

theorem upds_applyUpdates (n a : Nat) (nd : Node D) (us : List Update) :
    (applyUpdates n a nd us).upds = nd.upds := by
  unfold applyUpdates
  induction us generalizing nd with
  | nil => rfl
  | cons u us ih => exact (ih _).trans (by unfold applyOne; split <;> rfl)

theorem queued_suspect {S : Update → Prop} (hS : ∀ y inc, S ⟨y, .suspect, inc⟩) (nd : Node D) (y : Nat)
    (h : ∀ u ∈ nd.upds, S u) : ∀ u ∈ (suspect nd y).upds, S u := by
  rcases suspect_cases nd y with ⟨_, e⟩ | ⟨_, e⟩ <;> rw [e]
  · exact h
  · intro u hu
    rcases List.mem_append.mp hu with hu | hu
    · exact h u hu
    · rw [List.mem_singleton.mp hu]
      exact hS _ _

theorem queued_phiCheck {S : Update → Prop} (hS : ∀ y inc, S ⟨y, .suspect, inc⟩) (n a now : Nat)
    (nd : Node D) (h : ∀ u ∈ nd.upds, S u) : ∀ u ∈ (phiCheck n a now nd).upds, S u :=
  foldl_pred (fun nd : Node D => ∀ u ∈ nd.upds, S u) _ (fun nd y h => by
    rcases phiStep_cases a now nd y with ⟨_, e⟩ | ⟨_, _, _, e⟩ <;> rw [e]
    · exact h
    · exact queued_suspect hS nd y h) _ nd h

structure SameCtl (nd nd' : Node D) : Prop where
  pend : nd'.pend = nd.pend
  order : nd'.order = nd.order
  pidx : nd'.pidx = nd.pidx
  tick : nd'.nextTick = nd.nextTick

structure CtlBut (nd nd' : Node D) (y : Nat) (t : Option Timer) : Prop where
  order : nd'.order = nd.order
  pidx : nd'.pidx = nd.pidx
  tick : nd'.nextTick = nd.nextTick
  pendOf : ∀ z, nd'.pendOf z = if z = y then t else nd.pendOf z

theorem CtlBut.pendOf_ne {nd nd' : Node D} {y z : Nat} {t : Option Timer} (h : CtlBut nd nd' y t)
    (hz : z ≠ y) : nd'.pendOf z = nd.pendOf z :=
  (h.pendOf z).trans (if_neg hz)

theorem SameCtl.refl (nd : Node D) : SameCtl nd nd := ⟨rfl, rfl, rfl, rfl⟩

theorem SameCtl.trans {a b c : Node D} (h1 : SameCtl a b) (h2 : SameCtl b c) : SameCtl a c :=
  ⟨h2.pend.trans h1.pend, h2.order.trans h1.order, h2.pidx.trans h1.pidx, h2.tick.trans h1.tick⟩

theorem SameCtl.pendOf {nd nd' : Node D} (h : SameCtl nd nd') (y : Nat) : nd'.pendOf y = nd.pendOf y := by
  unfold Node.pendOf
  rw [h.pend]

theorem SameCtl.setPend {nd nd' : Node D} (h : SameCtl nd nd') (y : Nat) (t : Option Timer) :
    CtlBut nd (nd'.setPend y t) y t :=
  ⟨h.order, h.pidx, h.tick, fun z => by
    by_cases hz : z = y
    · rw [if_pos hz, hz]
      exact pendOf_setPend_same ..
    · rw [if_neg hz, pendOf_setPend_other hz]
      exact h.pendOf z⟩

theorem sameCtl_heard (nd : Node D) (y now : Nat) : SameCtl nd (heard nd y now) := ⟨rfl, rfl, rfl, rfl⟩

theorem sameCtl_applyUpdates (n a : Nat) (nd : Node D) (us : List Update) :
    SameCtl nd (applyUpdates n a nd us) :=
  foldl_rel SameCtl SameCtl.refl (fun _ _ _ => SameCtl.trans) _
    (fun nd u => by unfold applyOne; split <;> exact ⟨rfl, rfl, rfl, rfl⟩) us nd

theorem sameCtl_suspect (nd : Node D) (y : Nat) : SameCtl nd (suspect nd y) := by
  rcases suspect_cases nd y with ⟨_, e⟩ | ⟨_, e⟩ <;> rw [e] <;> exact ⟨rfl, rfl, rfl, rfl⟩

theorem sameCtl_phiCheck (n a now : Nat) (nd : Node D) : SameCtl nd (phiCheck n a now nd) :=
  foldl_rel SameCtl SameCtl.refl (fun _ _ _ => SameCtl.trans) _ (fun nd y => by
    rcases phiStep_cases a now nd y with ⟨_, e⟩ | ⟨_, _, _, e⟩ <;> rw [e]
    · exact .refl _
    · exact sameCtl_suspect nd y) _ nd

theorem nextTarget_cases (n a : Nat) (nd : Node D) (shuf : List Nat) :
    (aliveOrder n a nd = [] ∧ nextTarget n a nd shuf = (nd, none)) ∨
    ((aliveOrder n a nd).length ≤ nd.pidx ∧
      nextTarget n a nd shuf =
        ({ nd with order := shuf, pidx := 1 }, some (lget 0 shuf (0 % shuf.length)))) ∨
    (nd.pidx < (aliveOrder n a nd).length ∧
      nextTarget n a nd shuf = ({ nd with pidx := nd.pidx + 1 },
        some (lget 0 (aliveOrder n a nd) (nd.pidx % (aliveOrder n a nd).length)))) := by
  unfold nextTarget
  dsimp only
  split
  · exact Or.inl ⟨List.isEmpty_iff.mp ‹_›, rfl⟩
  · split
    · exact Or.inr (Or.inl ⟨‹_›, rfl⟩)
    · exact Or.inr (Or.inr ⟨Nat.lt_of_not_le ‹_›, rfl⟩)

theorem nextTarget_fields (n a : Nat) (nd : Node D) (shuf : List Nat) :
    (nextTarget n a nd shuf).1.mem = nd.mem ∧ (nextTarget n a nd shuf).1.upds = nd.upds ∧
    (nextTarget n a nd shuf).1.pend = nd.pend ∧ (nextTarget n a nd shuf).1.nextTick = nd.nextTick := by
  rcases nextTarget_cases n a nd shuf with ⟨_, e⟩ | ⟨_, e⟩ | ⟨_, e⟩ <;> rw [e] <;> exact ⟨rfl, rfl, rfl, rfl⟩

/-- The tail of the model's `onTick` (what `_handle_probe_tick` does with the outcome `r` of `_next_probe_target`)
    written out again, so that the lemmas below are about a variable `r`; `onTick_eq` holds by `rfl` only while the
    two stay word for word the same.  (In the code the target comes from a permutation of the non-DEAD members.) -/
def armProbe (c : Cfg) (a now : Nat) (r : Node D × Option Nat) : Node D × List Out :=
  match r.2 with
  | none => ({ r.1 with nextTick := now + c.interval }, [])
  | some t =>
    if isMember c.n a t then
      ({ (r.1.setPend t (some ⟨.ind, now + c.half⟩)) with upds := [], nextTick := now + c.interval },
       [⟨.ping, t, none, r.1.upds⟩])
    else ({ r.1 with nextTick := now + c.interval }, [])

section tick
variable (c : Cfg) (a now : Nat) (shuf : List Nat) (nd : Node D) (r : Node D × Option Nat)

theorem onTick_eq :
    onTick c a now shuf nd = armProbe c a now (nextTarget c.n a (phiCheck c.n a now nd) shuf) := rfl

theorem armProbe_cases :
    (∃ t, r.2 = some t ∧ isMember c.n a t = true ∧ armProbe c a now r =
      ({ (r.1.setPend t (some ⟨.ind, now + c.half⟩)) with upds := [], nextTick := now + c.interval },
       [⟨.ping, t, none, r.1.upds⟩])) ∨
    ((∀ t, r.2 = some t → isMember c.n a t = false) ∧
      armProbe c a now r = ({ r.1 with nextTick := now + c.interval }, [])) := by
  unfold armProbe
  split
  · exact Or.inr ⟨fun t ht => (nomatch ‹r.2 = none›.symm.trans ht), rfl⟩
  · rename_i t h
    split
    · exact Or.inl ⟨t, h, ‹_›, rfl⟩
    · refine Or.inr ⟨fun t' ht => ?_, rfl⟩
      cases h.symm.trans ht
      exact Bool.eq_false_iff.mpr ‹_›

theorem armProbe_fields :
    (armProbe c a now r).1.mem = r.1.mem ∧ (armProbe c a now r).1.order = r.1.order ∧
    (armProbe c a now r).1.pidx = r.1.pidx ∧ (armProbe c a now r).1.nextTick = now + c.interval := by
  rcases armProbe_cases c a now r with ⟨t, _, _, e⟩ | ⟨_, e⟩ <;> rw [e] <;> exact ⟨rfl, rfl, rfl, rfl⟩

theorem armProbe_pend (y : Nat) :
    (armProbe c a now r).1.pendOf y = r.1.pendOf y ∨
    (r.2 = some y ∧ isMember c.n a y = true ∧
      (armProbe c a now r).1.pendOf y = some ⟨.ind, now + c.half⟩ ∧
      ∃ us, (armProbe c a now r).2 = [⟨.ping, y, none, us⟩]) := by
  rcases armProbe_cases c a now r with ⟨t, ht, hm, e⟩ | ⟨_, e⟩ <;> rw [e]
  · by_cases hy : y = t
    · subst hy
      exact Or.inr ⟨ht, hm, pendOf_setPend_same _ _ _, _, rfl⟩
    · exact Or.inl (pendOf_setPend_other hy)
  · exact Or.inl rfl

theorem armProbe_target {x : Nat} (h : r.2 = some x) (hm : isMember c.n a x = true) :
    (armProbe c a now r).1.pendOf x = some ⟨.ind, now + c.half⟩ ∧
    ∃ us, (armProbe c a now r).2 = [⟨.ping, x, none, us⟩] := by
  rcases armProbe_cases c a now r with ⟨t, ht, _, e⟩ | ⟨hno, _⟩
  · cases h.symm.trans ht
    rw [e]
    exact ⟨pendOf_setPend_same .., _, rfl⟩
  · exact nomatch (hno x h).symm.trans hm

theorem onTick_mem :
    (onTick c a now shuf nd).1.mem = (phiCheck c.n a now nd).mem :=
  (armProbe_fields ..).1.trans (nextTarget_fields ..).1

theorem onTick_nextTick :
    (onTick c a now shuf nd).1.nextTick = now + c.interval :=
  (armProbe_fields ..).2.2.2

theorem sends_onTick {S : Update → Prop} (hS : ∀ y inc, S ⟨y, .suspect, inc⟩)
    (h : ∀ u ∈ nd.upds, S u) : Sends S (onTick c a now shuf nd) := by
  have h2 : ∀ u ∈ (nextTarget c.n a (phiCheck c.n a now nd) shuf).1.upds, S u := by
    rw [(nextTarget_fields ..).2.1]
    exact queued_phiCheck hS c.n a now nd h
  rw [onTick_eq]
  rcases armProbe_cases c a now (nextTarget c.n a (phiCheck c.n a now nd) shuf) with
    ⟨t, _, _, e⟩ | ⟨_, e⟩ <;> rw [e]
  · refine ⟨fun _ hu => (nomatch hu), fun o ho => ?_⟩
    rw [List.mem_singleton.mp ho]
    exact h2
  · exact Sends.nothing h2

theorem onTick_pend (y : Nat) :
    (onTick c a now shuf nd).1.pendOf y = nd.pendOf y ∨
    ((nextTarget c.n a (phiCheck c.n a now nd) shuf).2 = some y ∧ isMember c.n a y = true ∧
      (onTick c a now shuf nd).1.pendOf y = some ⟨.ind, now + c.half⟩ ∧
      ∃ us, (onTick c a now shuf nd).2 = [⟨.ping, y, none, us⟩]) := by
  have hbase : (nextTarget c.n a (phiCheck c.n a now nd) shuf).1.pendOf y = nd.pendOf y := by
    unfold Node.pendOf
    rw [(nextTarget_fields ..).2.2.1, (sameCtl_phiCheck c.n a now nd).pend]
  exact hbase ▸ armProbe_pend c a now _ y

end tick

/-- what `_handle_ping` / `_handle_ack` make of the node `nd1` that `_apply_updates` leaves: the
    heartbeat of the sender may be recorded; a ping is answered by one ack, which drains the queue;
    the ack of a member cancels the timer armed for it -/
structure Answered (c : Cfg) (a now : Nat) (m : Msg) (nd1 : Node D) (r : Node D × List Out) :
    Prop where
  mem : r.1.mem = nd1.mem ∨ r.1.mem = (heard nd1 m.src now).mem
  upds : r.1.upds = nd1.upds ∨ r.1.upds = []
  ctl : (SameCtl nd1 r.1 ∧ ¬ (m.kind = .ack ∧ isMember c.n a m.src = true)) ∨
    (m.kind = .ack ∧ isMember c.n a m.src = true ∧ CtlBut nd1 r.1 m.src none)
  outs : (m.kind = .ping ∧ r.2 = [⟨.ack, m.src, none, nd1.upds⟩]) ∨ (m.kind = .ack ∧ r.2 = [])

section handlers
variable (c : Cfg) (a now x : Nat) (m : Msg) (shuf : List Nat) (nd : Node D)

theorem handleMsg_answered :
    Answered c a now m (applyUpdates c.n a nd m.upds) (handleMsg c a now m nd) := by
  unfold handleMsg onPing onAck
  cases hk : m.kind <;> dsimp only <;> split
  · exact { mem := .inr rfl, upds := .inr rfl, outs := .inl ⟨hk, rfl⟩,
            ctl := .inl ⟨⟨rfl, rfl, rfl, rfl⟩, fun h => nomatch hk.symm.trans h.1⟩ }
  · exact { mem := .inl rfl, upds := .inr rfl, outs := .inl ⟨hk, rfl⟩,
            ctl := .inl ⟨⟨rfl, rfl, rfl, rfl⟩, fun h => nomatch hk.symm.trans h.1⟩ }
  · exact { mem := .inr rfl, upds := .inl rfl, outs := .inr ⟨hk, rfl⟩,
            ctl := .inr ⟨hk, ‹_›, (sameCtl_heard ..).setPend _ _⟩ }
  · exact { mem := .inl rfl, upds := .inl rfl, outs := .inr ⟨hk, rfl⟩,
            ctl := .inl ⟨.refl _, fun h => ‹¬ _› h.2⟩ }

theorem handleMsg_ctl :
    (SameCtl nd (handleMsg c a now m nd).1 ∧ ¬ (m.kind = .ack ∧ isMember c.n a m.src = true)) ∨
    (m.kind = .ack ∧ isMember c.n a m.src = true ∧ CtlBut nd (handleMsg c a now m nd).1 m.src none) := by
  have h1 := sameCtl_applyUpdates c.n a nd m.upds
  rcases (handleMsg_answered c a now m nd).ctl with ⟨h, hn⟩ | ⟨hk, hm, h⟩
  · exact .inl ⟨h1.trans h, hn⟩
  · exact .inr ⟨hk, hm, h.order.trans h1.order, h.pidx.trans h1.pidx, h.tick.trans h1.tick,
      fun z => (h.pendOf z).trans (by rw [h1.pendOf])⟩

theorem sends_handleMsg (S : Update → Prop) (h : ∀ u ∈ nd.upds, S u) : Sends S (handleMsg c a now m nd) := by
  have A := handleMsg_answered c a now m nd
  have h1 : ∀ u ∈ (applyUpdates c.n a nd m.upds).upds, S u := by
    rw [upds_applyUpdates]
    exact h
  constructor
  · rcases A.upds with e | e <;> rw [e]
    · exact h1
    · exact fun _ hu => nomatch hu
  · rcases A.outs with ⟨_, e⟩ | ⟨_, e⟩ <;> rw [e]
    · intro o ho
      rw [List.mem_singleton.mp ho]
      exact h1
    · exact fun _ ho => nomatch ho

/-- `nd0`: the probed member suspected first (always, in the repaired code); the queue goes out with the first
    indirect ping, if there is a delegate -/
theorem onIndTimeout_eq :
    ∃ nd0 nd1, (nd0 = suspect nd x ∨ c.fix = false ∧ nd0 = nd) ∧
      (nd1 = nd0 ∨ shuf.take c.indirect ≠ [] ∧ nd1 = { nd0 with upds := [] }) ∧
      onIndTimeout c a now x shuf nd =
        (nd1.setPend x (some ⟨.susp, now + c.susp⟩), indirectOuts x nd0.upds (shuf.take c.indirect)) := by
  refine ⟨if c.fix then suspect nd x else nd, if (shuf.take c.indirect).isEmpty then _ else _, ?_, ?_, rfl⟩
  · split
    · exact .inl rfl
    · exact .inr ⟨Bool.eq_false_iff.mpr ‹_›, rfl⟩
  · split
    · exact .inl rfl
    · exact .inr ⟨fun h => ‹¬ _› (List.isEmpty_iff.mpr h), rfl⟩

theorem onSuspTimeout_cases :
    ((nd.member x).st ≠ .suspect ∧ onSuspTimeout x nd = nd.setPend x none) ∨
    ((nd.member x).st = .suspect ∧ onSuspTimeout x nd =
      ({ nd.setMember x { nd.member x with st := .dead } with
          upds := nd.upds ++ [⟨x, .dead, (nd.member x).inc⟩] } : Node D).setPend x none) := by
  unfold onSuspTimeout
  dsimp only
  split
  · exact .inr ⟨‹_›, rfl⟩
  · exact .inl ⟨‹_›, rfl⟩

theorem onIndTimeout_ctl :
    CtlBut nd (onIndTimeout c a now x shuf nd).1 x (some ⟨.susp, now + c.susp⟩) := by
  obtain ⟨nd0, nd1, h0, h1, e⟩ := onIndTimeout_eq c a now x shuf nd
  rw [e]
  have s0 : SameCtl nd nd0 := by
    rcases h0 with rfl | ⟨_, rfl⟩
    · exact sameCtl_suspect nd x
    · exact .refl _
  refine SameCtl.setPend (s0.trans ?_) _ _
  rcases h1 with rfl | ⟨_, rfl⟩
  · exact .refl _
  · exact ⟨rfl, rfl, rfl, rfl⟩

theorem onSuspTimeout_ctl : CtlBut nd (onSuspTimeout x nd) x none := by
  rcases onSuspTimeout_cases x nd with ⟨_, e⟩ | ⟨_, e⟩ <;> rw [e]
  · exact (SameCtl.refl nd).setPend x none
  · refine SameCtl.setPend ?_ x none
    exact ⟨rfl, rfl, rfl, rfl⟩

theorem sends_onIndTimeout {S : Update → Prop} (hS : ∀ y inc, S ⟨y, .suspect, inc⟩)
    (h : ∀ u ∈ nd.upds, S u) :
    Sends S (onIndTimeout c a now x shuf nd) := by
  obtain ⟨nd0, nd1, h0, h1, e⟩ := onIndTimeout_eq c a now x shuf nd
  rw [e]
  have q0 : ∀ u ∈ nd0.upds, S u := by
    rcases h0 with rfl | ⟨_, rfl⟩
    · exact queued_suspect hS nd x h
    · exact h
  constructor
  · rcases h1 with rfl | ⟨_, rfl⟩
    · exact q0
    · exact fun _ hu => nomatch hu
  · cases shuf.take c.indirect with
    | nil => exact fun _ ho => nomatch ho
    | cons d ds =>
      intro o ho
      rcases List.mem_cons.mp ho with rfl | ho
      · exact q0
      · obtain ⟨_, _, rfl⟩ := List.mem_map.mp ho
        exact fun _ hu => nomatch hu

theorem queued_onSuspTimeout (S : Update → Prop)
    (hd : S ⟨x, .dead, (nd.member x).inc⟩) (h : ∀ u ∈ nd.upds, S u) :
    ∀ u ∈ (onSuspTimeout x nd).upds, S u := by
  rcases onSuspTimeout_cases x nd with ⟨_, e⟩ | ⟨_, e⟩ <;> rw [e]
  · exact h
  · intro u hu
    rcases List.mem_append.mp hu with hu | hu
    · exact h u hu
    · rw [List.mem_singleton.mp hu]
      exact hd

end handlers

section entry
variable {now : Nat} {R : Member D → Member D → Prop} {G : Update → Prop} {H T : Prop}
  (hR : Respects now R G H T) (x : Nat)
include hR

theorem entry_onTick {c : Cfg} {a : Nat} {shuf : List Nat} {nd : Node D} :
    R (nd.member x) ((onTick c a now shuf nd).1.member x) :=
  hR.trans (entry_phiCheck hR x c.n a now nd) (entry_of_mem_eq hR x (onTick_mem c a now shuf nd))

theorem entry_handleMsg {c : Cfg} {a : Nat} {m : Msg} {nd : Node D}
    (hu : ∀ u ∈ m.upds, u.member = x → G u) (hh : m.src = x → H) :
    R (nd.member x) ((handleMsg c a now m nd).1.member x) := by
  refine hR.trans (entry_applyUpdates hR x (n := c.n) (a := a) hu) ?_
  rcases (handleMsg_answered c a now m nd).mem with e | e
  · exact entry_of_mem_eq hR x e
  · exact hR.trans (entry_heard hR x hh) (entry_of_mem_eq hR x e)

theorem entry_onIndTimeout {c : Cfg} {a y : Nat} {shuf : List Nat} {nd : Node D} :
    R (nd.member x) ((onIndTimeout c a now y shuf nd).1.member x) := by
  obtain ⟨nd0, nd1, h0, h1, e⟩ := onIndTimeout_eq c a now y shuf nd
  have e1 : (onIndTimeout c a now y shuf nd).1.mem = nd0.mem := by
    rw [e]
    rcases h1 with rfl | ⟨_, rfl⟩ <;> rfl
  refine hR.trans ?_ (entry_of_mem_eq hR x e1)
  rcases h0 with rfl | ⟨_, rfl⟩
  · exact entry_suspect hR x nd y
  · exact hR.refl _

theorem entry_onSuspTimeout {y : Nat} {nd : Node D} (ht : y = x → T) :
    R (nd.member x) ((onSuspTimeout y nd).member x) := by
  rcases onSuspTimeout_cases y nd with ⟨_, e⟩ | ⟨h, e⟩ <;> rw [e]
  · exact hR.refl _
  · exact entry_setMember hR x fun e => by
      subst e
      exact hR.dead (ht rfl) _ h

end entry

end HappyModel.C13
