import HappyProofs.C09.PoolWf
/-! The repaired connection-pool model (`reserve = true`) satisfies the executable Spec predicate
`Pool.judge` on its own transcript, for every
schedule of generator segments the engine can produce (`SchedOk`), with all nine segments:
abandonment, idle-timeout checks and warm-up included.  The books the judge keeps are a function of the
model state, the queueing times and the judge's own flag `slack` (`bookOf`); the step lemma (`Leaf.follows`) goes leaf
by leaf through `step`. -/
namespace HappyModel.C09.Pool

def bookOf (s : St) (since : List (Nat × Nat)) (slack : Bool) : Book :=
  { active := s.active, idle := s.idle, made := s.active.length + s.idle.length, inflight := s.creating,
    blocked := s.waiters, handed := s.handed, since := since, creators := s.creators, wflight := s.wflight,
    stamp := s.stamp, closed := s.closed, slack := slack }

/-- what the judge's `slack` flag means on the model: while it is down, a queued call waits only when
    nothing is free -/
def SlackOk (s : St) (slack : Bool) : Prop :=
  slack = false → s.waiters ≠ [] → s.idle = [] ∧ ¬ s.total < s.max

theorem slack_true (s : St) : SlackOk s true := fun h => by cases h

theorem slack_full {s : St} (slack : Bool) (h : s.idle = [] ∧ ¬ s.total < s.max) : SlackOk s slack :=
  fun _ _ => h

theorem slack_nowait {s : St} (slack : Bool) (h : s.waiters = []) : SlackOk s slack :=
  fun _ hw => absurd h hw

theorem slack_mono {s s' : St} {slack : Bool} (hs : SlackOk s slack) (hw : s'.waiters ≠ [] → s.waiters ≠ [])
    (hi : s.idle = [] → s'.idle = []) (ht : s.total ≤ s'.total) (hm : s'.max = s.max) : SlackOk s' slack := by
  intro h1 h2
  obtain ⟨a, b⟩ := hs h1 (hw h2)
  exact ⟨hi a, by omega⟩

/-- the counters of a state satisfying the invariant pass the judge's check: with the books written as functions of
    the state each comparison is `x ≠ x`, a consequence of `Inv`, or (the last one) what `SlackOk` says -/
theorem check_ok (s : St) (since : List (Nat × Nat)) (slack : Bool) (t : Nat) (o : Op) (r : Res) (inv : Inv s)
    (hs : SlackOk s slack) : (bookOf s since slack).check s.max (obsOf t o r s) = none := by
  have hb := inv.bound
  have hc := inv.conserve
  simp only [Book.check, bookOf, obsOf, ne_eq, not_true_eq_false, if_false]
  rw [if_neg (by omega), if_neg (by omega), if_neg (fun h => h.1 (by omega))]
  refine if_neg fun ⟨hb1, hf, hsl⟩ => ?_
  obtain ⟨hi, ht⟩ := hs (by simpa using hsl) (by intro e; rw [e] at hb1; simp at hb1)
  rw [hi] at hc
  simp only [Book.free, hi, List.isEmpty_nil, Bool.not_true, Bool.false_or, decide_eq_true_eq] at hf
  omega

/-- the judge accepts the transcript line of a segment `o` that takes `s` (at clock `s.now`) to `s'` with
    answer `r`, and its books follow the model -/
def Follows (tn idn : Nat) (s : St) (since : List (Nat × Nat)) (slack : Bool) (o : Op) (s' : St) (r : Res) : Prop :=
  ∃ slack', (bookOf s since slack).apply ⟨s.max, tn, s.min, idn⟩ (obsOf s.now o r s')
      = .ok (bookOf s' (sinceStep since s.now o r) slack')
    ∧ SlackOk s' slack'

variable {tn idn : Nat} {s s' : St} {since : List (Nat × Nat)} {slack : Bool} {o : Op} {r : Res}

theorem Leaf.follows (h : Leaf s o s' r) (wf : Wf s) (hs : SlackOk s slack) (hnb : r ≠ .bad)
    (htm : ∀ id, o = .timeout id → timerOk tn since s.now id = true ∧ headFree s id = false)
    (hdl : ∀ c e, o = .idleCheck c e → e + idn ≤ s.now) : Follows tn idn s since slack o s' r := by
  have hco : ConnOk s.idle s.active s.closed s.nextConn := wf.conn
  -- Each leaf evaluates its arm of `Book.apply` and names the flag `slack'` the judge holds afterwards: `true` after a step
  -- that may leave capacity beside a queue (`pollIdle`, `pollCreate`, `abCreator`, `closed`, `wmade`), `false` after a head
  -- that found the pool full (`pollFull`), `slack` elsewhere (`acqWait` keeps it only if somebody was queued already).
  -- What the evaluation needs beyond the guards of the leaf: the judge's `filter` is the model's `rest` or `erase`, because
  -- connection ids are distinct (`acqIdle`, `pollIdle`, `relIdle`, `abIdle`, `closed`); a new connection id occurs nowhere
  -- (`made`, `wmade`); call ids in `handed` are distinct (`pollGot`); the model's `headFree` is the judge's `free`, by
  -- `conserve` (`timeout`, and `pollFull` for the `slack` clause).
  cases h with
  | acqIdle id hi =>
    rw [hi] at hco
    refine ⟨slack, ?_, slack_mono hs (fun h => h) (fun h => by rw [hi] at h; cases h) (Nat.le_refl _) rfl⟩
    simp [sinceStep, Book.apply, obsOf, bookOf, hi, hco.disj _ (.head _), filter_ne_cons hco.idleNodup]
    omega
  | acqCreate id hi hlt =>
    refine ⟨slack, ?_, fun h1 h2 => absurd hlt (hs h1 h2).2⟩
    simp [sinceStep, Book.apply, obsOf, bookOf, hi, startCreate]
  | acqWait id hi hge => exact ⟨slack && !s.waiters.isEmpty, by simp [sinceStep, Book.apply, obsOf, bookOf], slack_full _ ⟨hi, hge⟩⟩
  | madeBad | timeoutBad | wmadeBad => exact absurd rfl hnb
  | made id hm =>
    have := List.length_pos_of_mem hm
    have h0 : s.creating ≠ 0 := by have := wf.inv.split; omega
    obtain ⟨h2, h1, h3⟩ := hco.fresh
    refine ⟨slack, ?_, slack_mono hs (fun h => h) (fun h => h) ?_ rfl⟩
    · simp [sinceStep, Book.apply, obsOf, bookOf, h0, h1, h2, h3, hm]
      omega
    · simp [wf.inv.res]
  | @pollGot id h hf =>
    have hid : h.1 = id := by simpa using List.find?_some hf
    have hm : (id, h.2) ∈ s.handed := hid ▸ List.mem_of_find?_eq_some hf
    exact ⟨slack, by simp [sinceStep, Book.apply, obsOf, bookOf, ← (keyed_entry wf.queue.handNodup hm).2, hm],
      slack_mono hs (fun h => h) (fun h => h) (Nat.le_refl _) rfl⟩
  | pollBehind id hf hh => exact ⟨slack, by simp [sinceStep, Book.apply, obsOf, bookOf, hf, hh], hs⟩
  | pollIdle id hf hh hi =>
    rw [hi] at hco
    refine ⟨true, ?_, slack_true _⟩
    simp [sinceStep, Book.apply, obsOf, bookOf, hi, hh, hco.disj _ (.head _), filter_ne_cons hco.idleNodup]
    omega
  | pollCreate id hf hh hi hlt =>
    exact ⟨true, by simp [sinceStep, Book.apply, obsOf, bookOf, hi, hh, startCreate], slack_true _⟩
  | pollFull id hf hh hi hge =>
    have hcons := wf.inv.conserve
    refine ⟨false, ?_, slack_full _ ⟨hi, hge⟩⟩
    simp [sinceStep, Book.apply, obsOf, bookOf, hf, hh, hi, Book.free]
    rw [hi] at hcons; simp at hcons; omega
  | timeout id hf =>
    obtain ⟨htm, hhf⟩ := htm id rfl
    have hcons := wf.inv.conserve
    simp only [timerOk] at htm
    split at htm
    next st hsf =>
      have hfree : (s.waiters.head? == some id && (bookOf s since slack).free s.max) = false := by
        rw [← hhf]
        simp only [headFree, Book.free, bookOf]
        congr 2
        exact decide_eq_decide.2 ⟨fun h => by omega, fun h => by omega⟩
      refine ⟨slack, ?_, slack_mono hs (fun h hq => h ?_) (fun h => h) (Nat.le_refl _) rfl⟩
      · simp only [bookOf] at hfree
        have hle : ¬ s.now < st.2 + tn := by simpa using htm
        simp [sinceStep, Book.apply, obsOf, bookOf, hf, hsf, hfree, hle]
      · show s.waiters.filter (· != id) = []
        rw [hq]; rfl
    next => cases htm
  | relUnknown c hm => exact ⟨slack, by simp [sinceStep, Book.apply, obsOf, bookOf, hm], hs⟩
  | relHand c hm hq =>
    exact ⟨slack, by simp [sinceStep, Book.apply, Book.giveBack, obsOf, bookOf, hm, hq],
      slack_mono hs (fun _ => by rw [hq]; simp) (fun h => h) (Nat.le_refl _) rfl⟩
  | relIdle c hm hq =>
    have := List.length_pos_of_mem hm
    refine ⟨slack, ?_, slack_nowait _ hq⟩
    simp [sinceStep, Book.apply, Book.giveBack, obsOf, bookOf, hm, hq, ← hco.activeNodup.erase_eq_filter c,
      List.length_erase_of_mem hm]
    omega
  | abCreator id hm => exact ⟨true, by simp [sinceStep, Book.apply, obsOf, bookOf, hm], slack_true _⟩
  | abStale id hc hf hm =>
    exact ⟨slack, by simp [sinceStep, Book.apply, obsOf, bookOf, hc, hf, hm],
      slack_mono hs (fun h => h) (fun h => h) (Nat.le_refl _) rfl⟩
  | abHand id hc hf hm hq =>
    exact ⟨slack, by simp [sinceStep, Book.apply, Book.giveBack, obsOf, bookOf, hc, hf, hm, hq],
      slack_mono hs (fun _ => by rw [hq]; simp) (fun h => h) (Nat.le_refl _) rfl⟩
  | abIdle id hc hf hm hq =>
    have := List.length_pos_of_mem hm
    refine ⟨slack, ?_, slack_nowait _ hq⟩
    simp [sinceStep, Book.apply, Book.giveBack, obsOf, bookOf, hc, hf, hm, hq, ← hco.activeNodup.erase_eq_filter,
      List.length_erase_of_mem hm]
    omega
  | abWaiter id hc hf hw =>
    refine ⟨slack, by simp [sinceStep, Book.apply, obsOf, bookOf, hc, hf, hw],
      slack_mono hs (fun h hq => h ?_) (fun h => h) (Nat.le_refl _) rfl⟩
    show s.waiters.filter (· != id) = []
    rw [hq]; rfl
  | abNothing id hc hf hw => exact ⟨slack, by simp [sinceStep, Book.apply, obsOf, bookOf, hc, hf, hw], hs⟩
  | closed c e hm hst hlt =>
    have hdl := hdl c e rfl
    have hcons := wf.inv.conserve
    have := List.length_pos_of_mem hm
    refine ⟨true, ?_, slack_true _⟩
    have h5 : ¬ s.now < e + idn := by omega
    have h6 : ¬ s.active.length + s.idle.length + s.creating ≤ s.min := by omega
    simp [sinceStep, Book.apply, obsOf, bookOf, hco.disj c hm, hm, hst, ← hco.idleNodup.erase_eq_filter,
      List.length_erase_of_mem hm, h5, h6]
    omega
  | kept | stale | warmDone => exact ⟨slack, by simp [sinceStep, Book.apply, obsOf, bookOf], hs⟩
  | warm hlt =>
    refine ⟨slack, by simp [sinceStep, Book.apply, obsOf, bookOf], slack_mono hs (fun h => h) (fun h => h) ?_ rfl⟩
    simp [wf.inv.res]
  | wmade hw =>
    have h0 : s.creating ≠ 0 := by have := wf.inv.split; omega
    obtain ⟨h2, h1, h3⟩ := hco.fresh
    refine ⟨true, ?_, slack_true _⟩
    simp [sinceStep, Book.apply, obsOf, bookOf, h0, h1, h2, h3, hw]
    omega

theorem judge_model (s : St) (since : List (Nat × Nat)) (slack : Bool) (sched : List (Nat × Op))
    (wf : Wf s) (hs : SlackOk s slack) (hok : SchedOk tn idn s since sched = true) :
    judge ⟨s.max, tn, s.min, idn⟩ (bookOf s since slack) (obsTrace s sched) = none := by
  induction sched generalizing s since slack with
  | nil => rfl
  | cons e rest ih =>
    obtain ⟨t, o⟩ := e
    simp only [SchedOk, opOk, Bool.and_eq_true, bne_iff_ne, ne_eq] at hok
    obtain ⟨⟨hnb, hop⟩, hrest⟩ := hok
    have hl : Leaf { s with now := t } o (stepAt s t o).1 (stepAt s t o).2 := step_leaf _ o
    have wf' : Wf (stepAt s t o).1 :=
      stepAt_wf s t o wf (by rintro id rfl; exact hop)
    obtain ⟨slack', hap, hs'⟩ : Follows tn idn { s with now := t } since slack o (stepAt s t o).1 (stepAt s t o).2 :=
      hl.follows (wf_now t wf) hs hnb
        (by rintro id rfl; exact (by simpa using hop : timerOk tn since t id = true ∧ headFree s id = false))
        (by rintro c e rfl; simpa using hop)
    have hck := check_ok (stepAt s t o).1 (sinceAfter s since t o) slack' t o (stepAt s t o).2 wf'.inv hs'
    have hmax : (stepAt s t o).1.max = s.max := hl.params.1
    have hmin : (stepAt s t o).1.min = s.min := hl.params.2
    rw [hmax] at hck
    have h := ih (stepAt s t o).1 _ slack' wf' hs' hrest
    rw [hmax, hmin] at h
    simp only [obsTrace, judge]
    rw [show (bookOf s since slack).apply ⟨s.max, tn, s.min, idn⟩ _ = _ from hap]
    simp only [sinceAfter] at hck h
    simp only [hck]
    exact h

end HappyModel.C09.Pool

namespace HappyModel.C09

/-- **The repaired pool model satisfies the executable Spec predicate**: on every schedule of
    generator segments the engine can produce (`Pool.SchedOk`, see `Pool.opOk` for its four clauses),
    the judge that judges implementation transcripts accepts the model's own transcript — no
    over-admission, conservation, FIFO hand-off, nobody blocked while a connection could be had (the
    first waiter helps itself at its next poll), time-outs only after the time-out, an abandoned
    acquirer leaks neither slot nor connection, idle closes only of a connection idle long enough and
    above `min_connections`, warm-up within the bound. -/
theorem pool_trace_satisfies_spec (max timeoutNs min idleNs : Nat) (hmin : min ≤ max)
    (sched : List (Nat × Pool.Op))
    (hok : Pool.SchedOk timeoutNs idleNs { max := max, min := min } [] sched = true) :
    Pool.judge { max := max, timeoutNs := timeoutNs, min := min, idleNs := idleNs } {}
      (Pool.obsTrace { max := max, min := min } sched) = none :=
  Pool.judge_model { max := max, min := min } [] false sched (Pool.init_wf max min hmin)
    (Pool.slack_nowait _ rfl) hok

/-! The statement on concrete schedules, hypothesis included.

max 2, min 1, time-out 10, idle time-out 5.  Warm-up opens connection 1 and stops; call 0 takes it, call 1
starts a set-up, calls 2 and 3 queue; call 1 is abandoned (its slot comes back), call 2 — the first
waiter — helps itself at its next poll and opens connection 2; call 3 polls in vain, is handed
connection 1 at its release and is abandoned before it notices: the connection goes to the idle list.
The idle timer of connection 1 closes it (above `min`), the one of connection 2 keeps it (at `min`), a
timer of an earlier idle session is stale.  Call 6 queues at the maximum and times out. -/
example : Pool.SchedOk 10 5 { max := 2, min := 1 } []
      [(0, .warm), (1, .wmade), (1, .warm), (2, .acq 0), (2, .acq 1), (2, .acq 2), (2, .acq 3), (3, .abandon 1),
       (4, .poll 2), (5, .made 2), (6, .poll 3), (7, .rel 1), (8, .abandon 3), (9, .rel 2), (13, .idleCheck 1 8),
       (14, .idleCheck 2 9), (15, .idleCheck 1 1), (16, .acq 4), (16, .acq 5), (16, .acq 6), (17, .made 5),
       (26, .timeout 6), (27, .abandon 9)] = true
    ∧ Pool.judge { max := 2, timeoutNs := 10, min := 1, idleNs := 5 } {} (Pool.obsTrace { max := 2, min := 1 }
      [(0, .warm), (1, .wmade), (1, .warm), (2, .acq 0), (2, .acq 1), (2, .acq 2), (2, .acq 3), (3, .abandon 1),
       (4, .poll 2), (5, .made 2), (6, .poll 3), (7, .rel 1), (8, .abandon 3), (9, .rel 2), (13, .idleCheck 1 8),
       (14, .idleCheck 2 9), (15, .idleCheck 1 1), (16, .acq 4), (16, .acq 5), (16, .acq 6), (17, .made 5),
       (26, .timeout 6), (27, .abandon 9)]) = none := by
  decide +kernel

example : (Pool.obsTrace { max := 2, min := 1 }
      [(0, .warm), (1, .wmade), (1, .warm), (2, .acq 0), (2, .acq 1), (2, .acq 2), (2, .acq 3), (3, .abandon 1),
       (4, .poll 2), (5, .made 2), (6, .poll 3), (7, .rel 1), (8, .abandon 3), (9, .rel 2), (13, .idleCheck 1 8),
       (14, .idleCheck 2 9), (15, .idleCheck 1 1), (16, .acq 4), (16, .acq 5), (16, .acq 6), (17, .made 5),
       (26, .timeout 6), (27, .abandon 9)]).map (·.res)
    = [.creating, .conn 1, .done, .idle 1, .creating, .waiting, .waiting, .rolledBack, .creating, .conn 2, .wait,
       .handoff 3, .toIdle, .toIdle, .closed, .kept, .stale, .idle 2, .creating, .waiting, .conn 3, .timedOut,
       .nothing] := by decide +kernel

/-- max 2, min 2: warm-up parks its connection behind the queue; call 2 (second in line) polls in vain,
    call 1 (first in line) takes the parked connection at its next poll; call 2 is abandoned in the queue -/
example : Pool.SchedOk 10 5 { max := 2, min := 2 } []
      [(0, .warm), (0, .acq 0), (0, .acq 1), (0, .acq 2), (1, .wmade), (2, .poll 2), (2, .poll 1), (3, .made 0),
       (4, .abandon 2), (5, .warm)] = true
    ∧ Pool.judge { max := 2, timeoutNs := 10, min := 2, idleNs := 5 } {} (Pool.obsTrace { max := 2, min := 2 }
      [(0, .warm), (0, .acq 0), (0, .acq 1), (0, .acq 2), (1, .wmade), (2, .poll 2), (2, .poll 1), (3, .made 0),
       (4, .abandon 2), (5, .warm)]) = none
    ∧ (Pool.obsTrace { max := 2, min := 2 }
      [(0, .warm), (0, .acq 0), (0, .acq 1), (0, .acq 2), (1, .wmade), (2, .poll 2), (2, .poll 1), (3, .made 0),
       (4, .abandon 2), (5, .warm)]).map (·.res)
      = [.creating, .creating, .waiting, .waiting, .conn 1, .wait, .idle 1, .conn 2, .dequeued, .done] := by
  decide +kernel

/-- the classic schedule (max 2, time-out 10, no warm-up, no idle timer): calls 0 and 1 start set-ups,
    calls 2 and 3 queue; call 2 polls in vain, is handed connection 1 at its release and notices at its next
    poll; call 3 times out; a connection goes back to idle and is taken again; a double release is answered
    `unknown` -/
example : Pool.SchedOk 10 0 { max := 2 } []
      [(0, .acq 0), (0, .acq 1), (0, .acq 2), (0, .acq 3), (1, .made 0), (1, .made 1), (2, .poll 2), (3, .rel 1),
       (4, .poll 2), (10, .timeout 3), (11, .rel 2), (12, .acq 4), (13, .rel 1), (13, .rel 1), (14, .poll 3)] = true
    ∧ Pool.judge { max := 2, timeoutNs := 10 } {} (Pool.obsTrace { max := 2 }
      [(0, .acq 0), (0, .acq 1), (0, .acq 2), (0, .acq 3), (1, .made 0), (1, .made 1), (2, .poll 2), (3, .rel 1),
       (4, .poll 2), (10, .timeout 3), (11, .rel 2), (12, .acq 4), (13, .rel 1), (13, .rel 1), (14, .poll 3)]) = none := by
  decide +kernel

/-- the transcript of the unrepaired pool (two set-ups started with `max = 1`) is rejected -/
example : Pool.judge { max := 1, timeoutNs := 10 } {}
      [⟨0, .acq 0, .creating, 0, 0, 0, 0⟩, ⟨0, .acq 1, .creating, 0, 0, 0, 0⟩]
    = some "pool/total/exceeds-max" := by decide +kernel

/-- a release that hands the connection to the second waiter is rejected -/
example : Pool.judge { max := 1, timeoutNs := 10 } {}
      [⟨0, .acq 0, .creating, 0, 0, 1, 0⟩, ⟨1, .made 0, .conn 1, 1, 0, 1, 0⟩,
       ⟨2, .acq 1, .waiting, 1, 0, 1, 1⟩, ⟨2, .acq 2, .waiting, 1, 0, 1, 2⟩, ⟨3, .rel 1, .handoff 2, 1, 0, 1, 1⟩]
    = some "pool/fifo/out-of-order" := by decide +kernel

/-- an abandoned set-up whose slot does not come back is rejected -/
example : Pool.judge { max := 1, timeoutNs := 10 } {}
      [⟨0, .acq 0, .creating, 0, 0, 1, 0⟩, ⟨1, .abandon 0, .nothing, 0, 0, 1, 0⟩]
    = some "pool/abandon/slot-leaked" := by decide +kernel

/-- a first waiter that keeps waiting at its poll although a slot came back is rejected -/
example : Pool.judge { max := 1, timeoutNs := 10 } {}
      [⟨0, .acq 0, .creating, 0, 0, 1, 0⟩, ⟨0, .acq 1, .waiting, 0, 0, 1, 1⟩, ⟨1, .abandon 0, .rolledBack, 0, 0, 0, 1⟩,
       ⟨2, .poll 1, .wait, 0, 0, 0, 1⟩]
    = some "pool/head/grantable-but-blocked" := by decide +kernel

/-! ### each part of `SchedOk` is needed: schedules outside it on which the judge rejects the model -/

/-- (i) a call id re-used while the first call is still pending: both queue as `5`, both are handed a
    connection; the model's poll drops both hand-offs, the judge's only the reported pair -/
example : Pool.judge { max := 2, timeoutNs := 10 } {} (Pool.obsTrace { max := 2 }
      [(0, .acq 0), (0, .acq 1), (1, .made 0), (1, .made 1), (2, .acq 5), (2, .acq 5), (3, .rel 1), (3, .rel 2),
       (4, .poll 5), (5, .poll 5)]) = some "pool/grant/handoff-ignored" := by decide +kernel

/-- (ii) segments that do not exist: a set-up finishing that never started (for an acquirer, for warm-up);
    a time-out in a call that was already handed a connection -/
example : Pool.judge { max := 1, timeoutNs := 10 } {} (Pool.obsTrace { max := 1 } [(0, .made 0)])
    = some "pool/unknown-observation" := by decide +kernel
example : Pool.judge { max := 1, timeoutNs := 10 } {} (Pool.obsTrace { max := 1 } [(0, .wmade)])
    = some "pool/unknown-observation" := by decide +kernel
example : Pool.judge { max := 1, timeoutNs := 10 } {} (Pool.obsTrace { max := 1 }
      [(0, .acq 0), (1, .made 0), (2, .acq 1), (3, .rel 1), (20, .timeout 1)]) = some "pool/unknown-observation" := by
  decide +kernel

/-- (iii) the timer: a time-out in a call that never queued, one before the time-out elapsed, and one in
    the first waiter although a slot came back (the real acquirer polls before it looks at its deadline) -/
example : Pool.judge { max := 1, timeoutNs := 10 } {} (Pool.obsTrace { max := 1 } [(0, .timeout 7)])
    = some "pool/timeout/not-waiting" := by decide +kernel
example : Pool.judge { max := 1, timeoutNs := 10 } {} (Pool.obsTrace { max := 1 }
      [(0, .acq 0), (1, .made 0), (2, .acq 1), (5, .timeout 1)]) = some "pool/timeout/early" := by decide +kernel
example : Pool.judge { max := 1, timeoutNs := 10 } {} (Pool.obsTrace { max := 1 }
      [(0, .acq 0), (0, .acq 1), (1, .abandon 0), (20, .timeout 1)]) = some "pool/timeout/although-grantable" := by
  decide +kernel

/-- (iv) the idle timer: an idle-timeout event delivered before the idle time-out elapsed -/
example : Pool.judge { max := 1, timeoutNs := 10, idleNs := 5 } {} (Pool.obsTrace { max := 1 }
      [(0, .acq 0), (1, .made 0), (2, .rel 1), (3, .idleCheck 1 2)]) = some "pool/close/early" := by decide +kernel

/-- … while a second time-out line of the same call, a poll of a call that never queued, and a call id
    re-used after its first call is over are all fine -/
example : Pool.SchedOk 10 0 { max := 1 } []
      [(0, .acq 0), (1, .made 0), (2, .acq 1), (3, .poll 9), (12, .timeout 1), (13, .timeout 1), (14, .acq 1),
       (15, .rel 1), (16, .poll 1)] = true := by decide +kernel

end HappyModel.C09
