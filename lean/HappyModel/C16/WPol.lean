import HappyModel.Proto
/-!
Model of `write_policies.py`: the three write-policy objects (`WriteThrough`, `WriteBack`,
`WriteAround`).  They are bookkeeping objects a cache consults: which written keys still have to
reach the backing store (write-back), which have to be dropped from the cache (write-around).

Spec (`judgeWPol`), over the calls made and the answers observed only:
* write-back — a key is *owed* to the backing store from `on_write(key)` until an `on_flush` that
  names it; `get_keys_to_flush()` must return exactly the owed keys (a forgotten key is write-back
  data discarded before it reached the store), `dirty_count` their number, `should_flush()` must be
  true exactly when that number has reached `max_dirty`, `should_write_through()` is false;
* write-around — `get_keys_to_invalidate()` returns exactly the keys written since the previous
  call (each at least once); writes go through;
* write-through — writes go through, nothing is ever owed.
-/
namespace HappyModel.C16.WPol
open HappyModel.Proto

abbrev Key := Nat

inductive Kind
  | through
  | back (maxDirty : Nat)
  | around
deriving Repr, DecidableEq

inductive Op
  | write (k : Key)                 -- on_write(key, value)
  | shouldWT                        -- should_write_through()
  | shouldFlush                     -- should_flush()
  | keysToFlush                     -- get_keys_to_flush()   (a set: compared sorted)
  | onFlush (ks : List Key)         -- on_flush(keys)
  | dirtyCount                      -- WriteBack.dirty_count
  | keysToInvalidate                -- WriteAround.get_keys_to_invalidate()
deriving Repr, DecidableEq

inductive Out
  | unit
  | bool (b : Bool)
  | keys (ks : List Key)
  | num (n : Nat)
  | noAttr                          -- the policy object has no such method / property
deriving Repr, DecidableEq

structure St where
  dirty : List Key := []            -- WriteBack._dirty_keys (a dict used as a set: no duplicates)
  inval : List Key := []            -- WriteAround._invalidated_keys (a list: duplicates kept)
deriving Repr

def insertSet (l : List Key) (k : Key) : List Key := if l.contains k then l else l ++ [k]

def insertSorted (k : Key) : List Key → List Key
  | [] => [k]
  | a :: l => if k ≤ a then k :: a :: l else a :: insertSorted k l

/-- insertion sort (structural, so that `decide` can run the model) -/
def sortKeys : List Key → List Key
  | [] => []
  | a :: l => insertSorted a (sortKeys l)

def step (kind : Kind) (s : St) : Op → St × Out
  | .write k =>
    match kind with
    | .through => (s, .unit)
    | .back _ => ({ s with dirty := insertSet s.dirty k }, .unit)
    | .around => ({ s with inval := s.inval ++ [k] }, .unit)
  | .shouldWT =>
    match kind with
    | .back _ => (s, .bool false)
    | _ => (s, .bool true)
  | .shouldFlush =>
    match kind with
    | .back m => (s, .bool (decide (m ≤ s.dirty.length)))
    | _ => (s, .bool false)
  | .keysToFlush =>
    match kind with
    | .back _ => (s, .keys (sortKeys s.dirty))
    | _ => (s, .keys [])
  | .onFlush ks =>
    match kind with
    | .back _ => ({ s with dirty := s.dirty.filter fun k => !ks.contains k }, .unit)
    | _ => (s, .unit)
  | .dirtyCount =>
    match kind with
    | .back _ => (s, .num s.dirty.length)
    | _ => (s, .noAttr)
  | .keysToInvalidate =>
    match kind with
    | .around => ({ s with inval := [] }, .keys s.inval)
    | _ => (s, .noAttr)

/-- run from state `s`, collecting the answers -/
def run (kind : Kind) (s : St) : List Op → List Out
  | [] => []
  | op :: ops => (step kind s op).2 :: run kind (step kind s op).1 ops

/-! ### Spec: what the call history alone says -/

/-- is `k` owed to the backing store after the calls `hist` (latest call first)? -/
def owed : List Op → Key → Bool
  | [], _ => false
  | .write k' :: rest, k => k' == k || owed rest k
  | .onFlush ks :: rest, k => !ks.contains k && owed rest k
  | _ :: rest, k => owed rest k

/-- keys written since the previous `get_keys_to_invalidate()` (latest call first), in call order -/
def pendingInval : List Op → List Key
  | [] => []
  | .write k :: rest => pendingInval rest ++ [k]
  | .keysToInvalidate :: _ => []
  | _ :: rest => pendingInval rest

def dedupKeys : List Key → List Key
  | [] => []
  | k :: ks => if (dedupKeys ks).contains k then dedupKeys ks else k :: dedupKeys ks

def opKeys : Op → List Key
  | .write k => [k]
  | .onFlush ks => ks
  | _ => []

def mentioned (hist : List Op) : List Key := dedupKeys (hist.flatMap opKeys)

def owedKeys (hist : List Op) : List Key := (mentioned hist).filter (owed hist)

def sameSet (a b : List Key) : Bool := a.all b.contains && b.all a.contains

/-- one observed answer against the history before the call (latest first) -/
def judgeOne (kind : Kind) (hist : List Op) (op : Op) (out : Out) : Option String :=
  match kind, op, out with
  | .back _, .keysToFlush, .keys ks =>
    if !(owedKeys hist).all ks.contains then some "wpol/writeback/dirty-key-forgotten"
    else if !ks.all (owed hist) then some "wpol/writeback/flushed-key-still-listed"
    else none
  | .back _, .dirtyCount, .num n =>
    if n == (owedKeys hist).length then none else some "wpol/writeback/dirty-count-wrong"
  | .back m, .shouldFlush, .bool b =>
    if b == decide (m ≤ (owedKeys hist).length) then none else some "wpol/writeback/should-flush-wrong"
  | .back _, .shouldWT, .bool b => if b then some "wpol/writeback/claims-write-through" else none
  | .around, .keysToInvalidate, .keys ks =>
    if sameSet ks (pendingInval hist) then none
    else if !(pendingInval hist).all ks.contains then some "wpol/writearound/written-key-not-invalidated"
    else some "wpol/writearound/unwritten-key-invalidated"
  | .around, .shouldWT, .bool b => if b then none else some "wpol/writearound/write-not-passed-on"
  | .around, .shouldFlush, .bool b => if b then some "wpol/writearound/asks-for-flush" else none
  | .around, .keysToFlush, .keys ks => if ks.isEmpty then none else some "wpol/writearound/asks-for-flush"
  | .through, .shouldWT, .bool b => if b then none else some "wpol/writethrough/write-not-passed-on"
  | .through, .shouldFlush, .bool b => if b then some "wpol/writethrough/asks-for-flush" else none
  | .through, .keysToFlush, .keys ks => if ks.isEmpty then none else some "wpol/writethrough/asks-for-flush"
  | _, .write _, .unit => none
  | _, .onFlush _, .unit => none
  | .through, .dirtyCount, .noAttr => none
  | .around, .dirtyCount, .noAttr => none
  | .through, .keysToInvalidate, .noAttr => none
  | .back _, .keysToInvalidate, .noAttr => none
  | _, _, _ => some "wpol/malformed-observation"

/-- judge a whole observed run; `hist` = calls made so far, latest first -/
def judgeWPol (kind : Kind) (hist : List Op) : List (Op × Out) → Option String
  | [] => none
  | (op, out) :: rest =>
    match judgeOne kind hist op out with
    | some sig => some sig
    | none => judgeWPol kind (op :: hist) rest

/-! ### line protocol: `wpol <kind> <max_dirty>` / `judge-wpol <kind> <max_dirty>` -/

def parseKind (name : String) (m : Nat) : Option Kind :=
  if name == "through" then some .through
  else if name == "back" then some (.back m)
  else if name == "around" then some .around
  else none

def parseOp (ts : List String) : Option Op :=
  match ts with
  | ["w", k] => some (.write (natD k))
  | ["wt"] => some .shouldWT
  | ["sf"] => some .shouldFlush
  | ["gk"] => some .keysToFlush
  | "of" :: ks => some (.onFlush (nats ks))
  | ["dc"] => some .dirtyCount
  | ["gi"] => some .keysToInvalidate
  | _ => none

def showOut : Out → String
  | .unit => "-"
  | .bool b => if b then "True" else "False"
  | .keys ks => "keys " ++ showNats ks
  | .num n => s!"n {n}"
  | .noAttr => "noattr"

def parseOut (ts : List String) : Option Out :=
  match ts with
  | ["-"] => some .unit
  | ["True"] => some (.bool true)
  | ["False"] => some (.bool false)
  | "keys" :: ks => some (.keys (nats ks))
  | ["n", n] => some (.num (natD n))
  | ["noattr"] => some .noAttr
  | _ => none

def handle? (hdr : List String) (body : List String) : Option (List String) :=
  match hdr with
  | ["wpol", name, m] =>
    match parseKind name (natD m) with
    | none => some ["bad-kind"]
    | some kind =>
      let ops := body.filterMap fun l => parseOp (toks l)
      if ops.length != body.length then some ["bad-op"]
      else some ((run kind {} ops).map showOut)
  | ["judge-wpol", name, m] =>
    match parseKind name (natD m) with
    | none => some ["viol wpol/malformed-judge-input"]
    | some kind =>
      -- body: alternating call line / `obs <answer>` line
      let rec pairs : List String → Option (List (Op × Out))
        | a :: b :: rest =>
          match parseOp (toks a), (match toks b with | "obs" :: ts => parseOut ts | _ => none), pairs rest with
          | some op, some out, some ps => some ((op, out) :: ps)
          | _, _, _ => none
        | [] => some []
        | _ => none
      match pairs body with
      | none => some ["viol wpol/malformed-judge-input"]
      | some ps =>
        match judgeWPol kind [] ps with
        | none => some ["ok"]
        | some sig => some [s!"viol {sig}"]
  | _ => none

end HappyModel.C16.WPol
