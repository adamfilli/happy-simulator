import HappyProofs.C14.Basic
/-! WAL replay: the recovered memtable reads `lastFor k w`, the cell of the last log entry of the key (`lastFor_eq`);
    what `crash(); recover_from_crash()` reads, for every state. -/
namespace HappyModel.C15
open HappyModel.C14

def lastFor (k : Key) : List WalE → Option Cell → Option Cell
  | [], acc => acc
  | e :: r, acc => lastFor k r (if k = e.key then some e.cell else acc)

theorem lookup_replay (k : Key) (w : List WalE) (m : Data) :
    (w.foldl (fun m e => ins e.key e.cell m) m).lookup k = lastFor k w (m.lookup k) := by
  induction w generalizing m with
  | nil => rfl
  | cons e r ih =>
    simp only [List.foldl_cons, lastFor]
    rw [ih, lookup_ins]

def lastE (k : Key) (w : List WalE) : Option WalE := (w.filter (·.key == k)).getLast?

theorem lastFor_eq (k : Key) (w : List WalE) (acc : Option Cell) :
    lastFor k w acc = ((lastE k w).map (·.cell)).or acc := by
  induction w generalizing acc with
  | nil => rfl
  | cons e r ih =>
    rw [lastFor, ih]
    unfold lastE
    by_cases h : k = e.key
    · subst h
      simp only [if_true, List.filter_cons, beq_self_eq_true, List.getLast?_cons]
      cases (r.filter (·.key == e.key)).getLast? <;> rfl
    · have h' : (e.key == k) = false := by simpa using fun e' => h e'.symm
      simp only [if_neg h, List.filter_cons, h', Bool.false_eq_true, if_false]

theorem lastE_mem {k : Key} {w : List WalE} {e : WalE} (h : lastE k w = some e) : e ∈ w ∧ e.key = k := by
  have := List.mem_filter.mp (List.mem_of_getLast? h)
  exact ⟨this.1, by simpa using this.2⟩

theorem lastE_none {k : Key} {w : List WalE} : lastE k w = none ↔ ∀ e ∈ w, e.key ≠ k := by
  unfold lastE
  rw [List.getLast?_eq_none_iff, List.filter_eq_nil_iff]
  simp

theorem lastFor_idem (k : Key) (w : List WalE) (acc : Option Cell) :
    lastFor k w (lastFor k w acc) = lastFor k w acc := by
  rw [lastFor_eq k w acc, lastFor_eq]
  cases (lastE k w).map (·.cell) <;> rfl

theorem lastFor_mem (k : Key) (w : List WalE) (acc : Option Cell) (c : Cell)
    (h : lastFor k w acc = some c) : acc = some c ∨ ∃ e ∈ w, e.key = k ∧ e.cell = c := by
  rw [lastFor_eq] at h
  cases he : lastE k w with
  | none => rw [he] at h; exact Or.inl h
  | some e =>
    rw [he] at h
    exact Or.inr ⟨e, (lastE_mem he).1, (lastE_mem he).2, Option.some.inj h⟩

theorem lastFor_none {k : Key} {w : List WalE} {acc : Option Cell} (h : lastFor k w acc = none) :
    acc = none ∧ ∀ e ∈ w, e.key ≠ k := by
  rw [lastFor_eq] at h
  cases he : lastE k w with
  | none => rw [he] at h; exact ⟨h, lastE_none.mp he⟩
  | some e => rw [he] at h; cases h

theorem lastFor_last {k : Key} {w : List WalE} {acc : Option Cell} {c : Cell}
    (hs : (w.map (·.seq)).Pairwise (· < ·)) (h : lastFor k w acc = some c) :
    (acc = some c ∧ ∀ e ∈ w, e.key ≠ k) ∨
    ∃ e ∈ w, e.key = k ∧ e.cell = c ∧ ∀ e' ∈ w, e'.key = k → e'.seq ≤ e.seq := by
  rw [lastFor_eq] at h
  cases he : lastE k w with
  | none => rw [he] at h; exact Or.inl ⟨h, lastE_none.mp he⟩
  | some e =>
    rw [he] at h
    refine Or.inr ⟨e, (lastE_mem he).1, (lastE_mem he).2, Option.some.inj h, fun e' he' hk' => ?_⟩
    -- `e` closes the entries of `k`, which are sorted by sequence number like the whole log
    obtain ⟨ys, hys⟩ := List.getLast?_eq_some_iff.mp he
    have hp := (List.pairwise_map.mp hs).filter (·.key == k)
    rw [hys, List.pairwise_append] at hp
    have hm : e' ∈ ys ++ [e] := hys ▸ List.mem_filter.mpr ⟨he', by simpa using hk'⟩
    rcases List.mem_append.mp hm with hm | hm
    · exact Nat.le_of_lt (hp.2.2 e' hm e (List.mem_singleton.mpr rfl))
    · rw [List.mem_singleton.mp hm]; exact Nat.le_refl _

theorem lastFor_append (k : Key) (a b : List WalE) (acc : Option Cell) :
    lastFor k (a ++ b) acc = lastFor k b (lastFor k a acc) := by
  simp only [lastFor_eq, lastE, List.filter_append, List.getLast?_append]
  cases (b.filter (·.key == k)).getLast? <;> rfl

theorem lastFor_skip {k : Key} {b : List WalE} (h : ∀ e ∈ b, e.key ≠ k) (acc : Option Cell) : lastFor k b acc = acc := by
  rw [lastFor_eq, lastE_none.mpr h]; rfl

def durableLog (s : St) : List WalE := s.wal.filter fun e => e.seq ≤ s.synced

/-- what `crash(); recover_from_crash()` makes readable, for every state and every key: the last
    surviving (synced, not truncated) log entry of the key, else what the SSTable levels hold -/
theorem crash_recover_read (s : St) (k : Key) :
    s.crash.recover.read k = match lastFor k (durableLog s) none with
      | some c => some c
      | none => lookLevels k s.levels := by
  simp only [St.read, St.recover, St.crash, lookup_replay, durableLog, List.reverse_nil, lookTabs, List.lookup]
  cases lastFor k (List.filter (fun e => decide (e.seq ≤ s.synced)) s.wal) none <;> rfl

theorem abs_crash_recover (s : St) (k : Key) :
    s.crash.recover.abs k = (match lastFor k (durableLog s) none with
      | some c => some c
      | none => lookLevels k s.levels).join := by
  unfold St.abs; rw [crash_recover_read]

/-- recovering twice reads the same as recovering once (every key, every state) -/
theorem recover_idempotent (s : St) (k : Key) : s.recover.recover.read k = s.recover.read k := by
  simp only [St.read, St.recover, lookup_replay, lastFor_idem]

theorem durableLog_crash_recover (s : St) : durableLog s.crash.recover = durableLog s := by
  simp only [durableLog, St.crash, St.recover, List.filter_filter]
  congr 1
  funext a
  exact Bool.and_self _

/-- a second crash + recovery reads the same as the first (every key, every state) -/
theorem recover_crash_idempotent (s : St) (k : Key) :
    s.crash.recover.crash.recover.read k = s.crash.recover.read k := by
  rw [crash_recover_read, crash_recover_read, durableLog_crash_recover]
  rfl

end HappyModel.C15
