import HappyProofs.C02.NestedAll
import HappyProofs.C02.Late
import HappyProofs.C02.HooksRun
/-!
# C02 — property theorems (process layer)

"A handler that returns a generator is advanced step by step: after yielding a delay d it resumes
exactly d seconds of simulated time later, events yielded alongside a delay are scheduled at the
moment of the yield, and the events it returns and its completion hooks take effect exactly once,
at the instant it finishes. A process that yields a future is resumed exactly once, at the instant
the future is resolved (at once if it already was), receiving the resolved value, and resolving
twice has no further effect. any_of resumes with the (index, value) of the first input to resolve and
all_of with every value in argument order once the last input resolves."

The process layer is one `Machine` (`procMachine`) of the engine of C01, so every C01 theorem
(delivery at exactly the event's timestamp, once, in order) applies to continuation events; the
statements say which continuation events the process layer creates.
-/
namespace HappyModel.C01

/-- resolving an already-resolved future has no effect at all -/
theorem resolve_idempotent (fuel : Nat) (e : Eff) (now f : Nat) (v : Val)
    (h : (futGet e.ps.futs f).resolved = true) : resolveFut fuel e now f v = e := by
  cases fuel with
  | zero => rfl
  | succ n => simp [resolveFut, h]

/-- `yield d`: the step that executes the yield schedules the continuation of this very process at
    exactly `now + d`, after the side-effect events created in the segment (it is the last spec) -/
theorem yield_delay_schedules (now : Nat) (e : Eff) (pid tag : Nat) (p : Proc) (acts : List Act) (d : Nat)
    (rest : List Seg) (hp : e.ps.procs[pid]? = some p) (hs : p.segs = ⟨acts, .yieldD d⟩ :: rest) :
    ∃ sp, (runSegment now e pid tag).specs.getLast? = some sp ∧
      sp.time = now + d ∧ sp.data = pid + 1 ∧ sp.target = p.ent ∧ sp.kind = p.kind ∧ sp.daemon = p.daemon := by
  rw [runSegment_eq now e pid tag p _ rest hp hs]
  exact ⟨_, by rw [segBody, segTerm, push_specs, List.getLast?_append]; rfl, rfl, rfl, rfl, rfl, rfl⟩

/-- return: in the step in which the generator finishes, the process is marked done, its (shared,
    one-shot) hook list is emptied and it has no remaining segment, so no later step can run its
    hooks or its return again (`finished_never_runs`) -/
theorem ret_finishes (now : Nat) (e : Eff) (pid tag : Nat) (p : Proc) (rest : List Seg)
    (hp : e.ps.procs[pid]? = some p) (hs : p.segs = ⟨[], .ret⟩ :: rest) :
    ∃ q, (runSegment now e pid tag).ps.procs[pid]? = some q ∧ q.done = true ∧ q.hooks = [] ∧ q.segs = [] := by
  rw [runSegment_eq now e pid tag p _ rest hp hs]
  obtain ⟨q, hq, h⟩ := segBody_proc_pid now e pid tag p ⟨[], .ret⟩ rest hp
  exact ⟨q, hq, congrArg (·.done) h, congrArg (·.hooks) h, congrArg (·.segs) h⟩

/-! The model does not reject a second process parking on a future that already has one (the code
raises `RuntimeError`), nor rebinding a slot; in those cases the displaced process has *no* pending
resumption.  The invariant therefore says "at most one", which is the part of "resumed exactly once"
that can fail silently; "at least one at the resolve instant" is `future_resume_once`. -/

/-- a small program that parks a process on future 0 (t = 1), resolves it with 7 from another
    handler (t = 2), and lets the process finish with completion hook 4 -/
def demoProg : Program :=
  { defs := [⟨0, 1, true, [⟨[], .yieldF 0⟩, ⟨[], .ret⟩]⟩, ⟨0, 2, false, [⟨[.resolve 0 7], .ret⟩]⟩],
    pre := [(⟨1, 0, 1, false, 0, 1⟩, 4, false), (⟨2, 0, 2, false, 0, 2⟩, 0, false)] }

/-- **at most one pending resumption per process, along every run**: for every handler table, every
    initial state satisfying `InitOk`, every end time and every number of loop iterations, `ProcInv`
    holds: each process has at most one pending resumption (continuation event or park), parks are on
    unresolved futures only, continuation events and parks refer to existing processes, and a
    finished process has neither a continuation nor a park nor code left -/
theorem one_pending_continuation (endT : Option Nat) (n : Nat) (s0 : St PS) (h0 : InitOk s0) :
    ProcInv (run procMachine endT n s0) :=
  run_induction procMachine endT (fun s m inv hm _ _ => step_procInv s m inv hm) n s0 h0.procInv

theorem one_pending_continuation_program (p : Program) (gateCont : Bool) (hp : p.Plain) (endT : Option Nat)
    (n : Nat) : ProcInv (run procMachine endT n (p.initState gateCont)) :=
  one_pending_continuation endT n _ (initState_ok p gateCont hp)

/-- the invariant is inductive from any state, whichever pending event the loop pops -/
theorem pending_invariant_step (s : St PS) (m : Ev) (inv : ProcInv s) (hm : m ∈ s.heap) :
    ProcInv (stepWith procMachine s m) := step_procInv s m inv hm

-- non-vacuity: the demo program is plain; after one iteration process 0 is parked on future 0,
-- after two its continuation (and nothing else of it) is pending at the resolve instant t = 2,
-- after three both processes are finished
example : demoProg.Plain := by unfold Program.Plain; decide
example : (futGet (run procMachine none 1 (demoProg.initState false)).ent.futs 0).parked = some 0 := by decide +kernel
example : (run procMachine none 2 (demoProg.initState false)).heap.map (fun e => (e.time, e.data)) = [(2, 1)] := by
  decide +kernel
example : (run procMachine none 3 (demoProg.initState false)).ent.procs.map (·.done) = [true, true] := by decide +kernel

/-- inside any handler invocation started in a reachable state — after the segment prologue and any
    prefix of its actions — the effect is well formed and every process has at most one pending
    resumption (continuation specs created so far + parks) -/
theorem handler_effect_ok (s : St PS) (inv : ProcInv s) (now pid tag : Nat) (p : Proc) (acts : List Act) :
    WF (acts.foldl (runAct now) (segStart now { ps := s.ent } pid tag p)) ∧
    ∀ q, cnt (acts.foldl (runAct now) (segStart now { ps := s.ent } pid tag p)) q ≤ 1 := by
  have h1 := acts_closed (Bnd_closed _) now acts _ (Bnd_segStart _ now _ pid tag p (Bnd_init s inv))
  refine ⟨h1.1, fun q => Nat.le_trans (h1.2 q) ?_⟩
  have := inv.atMostOne q
  omega

-- non-vacuity of `future_resume_once`: in the reachable state after one iteration of the demo program (process 0 parked on
-- the unresolved future 0) all hypotheses hold for the effect a handler starts with
example :
    let s := run procMachine none 1 (demoProg.initState false)
    (WF ({ ps := s.ent } : Eff) ∧ cnt ({ ps := s.ent } : Eff) 0 ≤ 1) ∧
    (futGet s.ent.futs 0).resolved = false ∧ (futGet s.ent.futs 0).parked = some 0 ∧
    (s.ent.procs[0]?).isSome = true := by
  refine ⟨?_, by decide +kernel, by decide +kernel, by decide +kernel⟩
  have inv := one_pending_continuation_program demoProg false (by unfold Program.Plain; decide) none 1
  have h := Bnd_init _ inv
  refine ⟨h.1, Nat.le_trans (h.2 0) ?_⟩
  have := inv.atMostOne 0
  omega

-- non-vacuity of `park_on_resolved_resumes_at_once`: a process whose next segment resolves future 0 itself and then yields it
example :
    let p : Proc := { ent := 0, kind := 1, daemon := false, segs := [⟨[.resolve 0 7], .yieldF 0⟩, ⟨[], .ret⟩], hooks := [] }
    let e : Eff := { ps := { defs := [], nid := 0, procs := [p] } }
    (futGet (([Act.resolve 0 7]).foldl (runAct 5) (segStart 5 e 0 0 p)).ps.futs 0).resolved = true ∧
    (runSegment 5 e 0 0).specs.map (fun s => (s.time, s.data)) = [(5, 1)] := by decide +kernel

/-- three plain futures, then `2 := any_of(0, 1)` / `2 := all_of(0, 1)`, process 0 parked on future 2 -/
def demoEff (a : Act) : Eff :=
  let p : Proc := { ent := 0, kind := 1, daemon := false, segs := [⟨[], .ret⟩], hooks := [] }
  let e : Eff := { ps := { defs := [], nid := 0, procs := [p], futs := [{}, {}, {}] } }
  let e1 := runAct 0 e a
  e1.setFut 2 { futGet e1.ps.futs 2 with parked := some 0 }

-- non-vacuity of `anyof_construct` / `anyof_first`: the construction hypotheses hold, and resolving input 1 first with 9 at t = 5 resolves
-- the composite with (1, 9), resumes the waiter at t = 5, and a later resolve of input 0 changes nothing
example : [0, 1].Nodup ∧ 2 ∉ [0, 1] := by decide +kernel
example : ∀ g ∈ [0, 1], (futGet (demoEff (.fresh 3)).ps.futs g).resolved = false ∧
    (futGet (demoEff (.fresh 3)).ps.futs g).cbs.length = 0 := by decide +kernel
example :
    let r := resolveFut depthFuel (demoEff (.anyOf 2 [0, 1])) 5 1 (.n 9)
    (futGet r.ps.futs 2).resolved = true ∧ r.specs.map (fun c => (c.time, c.data)) = [(5, 1)] ∧
    (resolveFut depthFuel r 6 0 (.n 4)).specs.length = 1 := by decide +kernel
example : (futGet (resolveFut depthFuel (demoEff (.anyOf 2 [0, 1])) 5 1 (.n 9)).ps.futs 2).value
    = .pair 1 (.n 9) := rfl

-- non-vacuity of `allof_all`: input 1 settles first (composite still unresolved, one missing), then input 0: the
-- composite resolves with [4, 9] — argument order, not resolution order — and the waiter resumes
example :
    let r1 := resolveFut depthFuel (demoEff (.allOf 2 [0, 1])) 5 1 (.n 9)
    let r2 := resolveFut depthFuel r1 6 0 (.n 4)
    (futGet (demoEff (.allOf 2 [0, 1])).ps.futs 2).remaining = 2 ∧
    (futGet r1.ps.futs 2).resolved = false ∧ (futGet r1.ps.futs 2).remaining = 1 ∧ r1.specs.length = 0 ∧
    (futGet r2.ps.futs 2).resolved = true ∧ r2.specs.map (fun c => (c.time, c.data)) = [(6, 1)] := by decide +kernel
example :
    (futGet (resolveFut depthFuel (resolveFut depthFuel (demoEff (.allOf 2 [0, 1])) 5 1 (.n 9)) 6 0 (.n 4)).ps.futs 2).value
    = .list [.n 4, .n 9] := rfl

/-! Nested combinators: the fuel of the call exceeds the rank of the resolved future (`depthFuel = 64`, a constant of the model), so
the cascade is never cut short.  Futures may be shared: an input may carry callbacks into other composites too. -/

/-- plain futures 0 1 2; `3 := any_of(0, 1)`; `4 := all_of(3, 2)`; `5 := any_of(4, 0)` (future 0 is
    shared); ranks: leaves 3, future 3 ↦ 2, future 4 ↦ 1, future 5 ↦ 0 -/
def nestedEff : Eff :=
  [Act.anyOf 3 [0, 1], Act.allOf 4 [3, 2], Act.anyOf 5 [4, 0]].foldl (runAct 0)
    { ps := { defs := [], nid := 0, futs := [{}, {}, {}] } }
def nestedRk (g : Nat) : Nat := if g = 3 then 2 else if g = 4 then 1 else if g = 5 then 0 else 3

theorem forall_fut_of_bounded (e : Eff) (Q : Nat → List Cb → Prop) (hnil : ∀ g, Q g [])
    (h : ∀ g, g < e.ps.futs.length → Q g (futGet e.ps.futs g).cbs) : ∀ g, Q g (futGet e.ps.futs g).cbs := by
  intro g
  by_cases hg : g < e.ps.futs.length
  · exact h g hg
  · rw [futGet_default _ _ (by omega)]; exact hnil g

-- non-vacuity of the hypotheses of `anyof_first_nested` / `allof_all_nested` (all_of 4 over the composite 3 and the leaf 2; any_of 5 over the
-- composite 4 and the shared leaf 0), and the conclusions on this instance: resolving leaf 1 settles 3
-- but not 4; resolving leaf 2 afterwards settles 4 with [(1, 9), 7] and thereby 5 with (0, [(1, 9), 7])
example : RankOk nestedRk nestedEff :=
  fun g cb => forall_fut_of_bounded nestedEff (fun g cbs => ∀ cb ∈ cbs, nestedRk cb.tgt < nestedRk g)
    (by simp) (by decide) g cb
example : (∀ g, g ∉ [3, 2] → ∀ cb ∈ (futGet nestedEff.ps.futs g).cbs, cb.tgt ≠ 4) :=
  fun g hg => forall_fut_of_bounded nestedEff (fun g cbs => g ∉ [3, 2] → ∀ cb ∈ cbs, cb.tgt ≠ 4)
    (by simp) (by decide) g hg
example : [3, 2].Nodup ∧ 4 ∉ [3, 2] ∧ (futGet nestedEff.ps.futs 4).resolved = false ∧
    (futGet nestedEff.ps.futs 4).results.length = 2 ∧ (futGet nestedEff.ps.futs 4).remaining = 2 ∧
    [3, 2].countP (fun g => !(futGet nestedEff.ps.futs g).resolved) = 2 ∧
    (∀ i (hi : i < [3, 2].length), (futGet nestedEff.ps.futs [3, 2][i]).resolved = false ∧
      (futGet nestedEff.ps.futs [3, 2][i]).cbs.countP (fun cb => cb.tgt == 4) = 1) := by decide +kernel
example :
    let r1 := resolveFut depthFuel nestedEff 5 1 (.n 9)
    let r2 := resolveFut depthFuel r1 6 2 (.n 7)
    (futGet r1.ps.futs 3).resolved = true ∧ (futGet r1.ps.futs 4).resolved = false ∧
    (futGet r1.ps.futs 5).resolved = false ∧
    (futGet r2.ps.futs 4).resolved = true ∧ (futGet r2.ps.futs 5).resolved = true := by decide +kernel
example :
    (futGet (resolveFut depthFuel (resolveFut depthFuel nestedEff 5 1 (.n 9)) 6 2 (.n 7)).ps.futs 5).value
      = .pair 0 (.list [.pair 1 (.n 9), .n 7]) := rfl

/-- **a process finishes at most once**: along every run, the log holds at most one `finish` entry per
    process id — exactly one iff the process is marked done — and a finished process has no
    completion hooks and no code left, so neither its hooks nor its return can take effect again -/
theorem finish_once (endT : Option Nat) (n : Nat) (s0 : St PS) (h0 : InitOk s0)
    (hobs : ∀ q, finCount s0.ent.obs q = 0) (pid : Nat) :
    finCount (run procMachine endT n s0).ent.obs pid ≤ 1 ∧
    (finCount (run procMachine endT n s0).ent.obs pid = 1 ↔
      ∃ p, (run procMachine endT n s0).ent.procs[pid]? = some p ∧ p.done = true) ∧
    (∀ p, (run procMachine endT n s0).ent.procs[pid]? = some p → p.done = true → p.hooks = [] ∧ p.segs = []) := by
  have h := run_finInv endT n s0 (finInv_of_no_process s0 h0.noProcs hobs)
  generalize run procMachine endT n s0 = s at h
  have h1 : finCount s.ent.obs pid = doneInd (s.ent.procs.map strip) pid := h.1 pid
  exact ⟨h1 ▸ ind_le_one _, h1 ▸ doneInd_strip_one _ _,
    fun p hp hd => h.2 (strip p) (List.mem_map_of_mem (List.mem_of_getElem? hp)) hd⟩

-- non-vacuity of `finish_once` / `finishing_step_runs_hooks_once`: in the demo run, process 0 (completion hook 4) has finished once and its hook ran once
example :
    let s := run procMachine none 4 (demoProg.initState false)
    finCount s.ent.obs 0 = 1 ∧
    s.ent.obs.countP (fun o => match o with | .hook _ 4 => true | _ => false) = 1 := by decide +kernel
example : ∀ q, finCount (demoProg.initState false).ent.obs q = 0 := fun _ => rfl

-- non-vacuity of `hooks_at_most_once`: in the demo run hook 4 is attached once and has run once
example :
    let s := run procMachine none 4 (demoProg.initState false)
    hookRuns s.ent.obs 4 = 1 ∧ att s.ent.hookOf 4 = 1 := by decide +kernel

/-- a process (event kind 1, delivered at t = 1) that registers completion hook 5 on its own
    triggering event while it is in flight, sleeps 10 ns and finishes; at t = 5 another handler
    (kind 2) adds hook 6 to the same event and resolves future 0 with an exception instance, on which a
    second process (kind 3, started at t = 2) is parked -/
def demoLate : Program :=
  { defs := [⟨0, 1, true, [⟨[.addHook 1 5], .yieldD 10⟩, ⟨[], .ret⟩]⟩,
             ⟨0, 2, false, [⟨[.addHook 1 6, .resolve 0 (.atom 0 3)], .ret⟩]⟩,
             ⟨0, 3, true, [⟨[], .yieldF 0⟩, ⟨[], .ret⟩]⟩],
    pre := [(⟨1, 0, 1, false, 0, 1⟩, 0, false), (⟨2, 0, 3, false, 0, 2⟩, 0, false),
            (⟨5, 0, 2, false, 0, 3⟩, 0, false)] }

-- non-vacuity of `addHook_in_flight`: after the first delivery process 0 (event 0) is in flight
example :
    (run procMachine none 1 (demoLate.initState false)).ent.procs.findIdx? (fun p => p.ev == 0 && !p.done) = some 0 ∧
    lateOf (run procMachine none 1 (demoLate.initState false)).ent 0 = [5] := by decide +kernel
-- non-vacuity of `addHook_before_delivery`: before the run nothing is in flight
example : (demoLate.initState false).ent.procs.findIdx? (fun p => p.ev == 0 && !p.done) = none := by decide +kernel
-- `inflight_hook_runs_at_finish` / `inflight_hooks_cleared` / `hooks_at_most_once`: both hooks were
-- added in flight, each ran exactly once at the finish (t = 11), and the late list is empty
example :
    let s := run procMachine none 6 (demoLate.initState false)
    hookRuns s.ent.obs 5 = 1 ∧ hookRuns s.ent.obs 6 = 1 ∧ s.ent.lateAtt.count 5 = 1 ∧ s.ent.lateAtt.count 6 = 1 ∧
    att s.ent.hookOf 5 = 0 ∧ lateOf s.ent 0 = [] ∧
    s.ent.obs.any (fun o => match o with | .hook 11 6 => true | _ => false) = true := by decide +kernel
-- `resumed_value_logged`: the process parked on future 0 is resumed at t = 5 with the exception
-- instance as a plain value
example :
    (run procMachine none 6 (demoLate.initState false)).ent.obs.any
      (fun o => match o with | .resume 5 1 (.atom 0 3) _ => true | _ => false) = true := by decide +kernel

/-- future 0 is yielded directly by process 0 (kind 1) and is at the same time an input of the any_of
    (slot 2) process 1 (kind 2) waits on; kind 3 resolves it at t = 5.  A relay (kind 4, limit 2)
    forwards a packet whose hop count lives in the event metadata. -/
def demoShared : Program :=
  { defs := [⟨0, 1, true, [⟨[], .yieldF 0⟩, ⟨[], .ret⟩]⟩,
             ⟨0, 2, true, [⟨[.anyOf 2 [1, 0]], .yieldF 2⟩, ⟨[], .ret⟩]⟩,
             ⟨0, 3, false, [⟨[.resolve 0 9], .ret⟩]⟩,
             ⟨0, 4, false, [⟨[.relay 0 4 10 2 false], .ret⟩]⟩],
    pre := [(⟨1, 0, 1, false, 0, 1⟩, 0, false), (⟨2, 0, 2, false, 0, 2⟩, 0, false),
            (⟨5, 0, 3, false, 0, 3⟩, 0, false), (⟨6, 0, 4, false, 0, 4⟩, 0, false)] }

-- `resolve_wakes_then_notifies`: both the process parked on future 0 and the one waiting on the any_of are
-- resumed at t = 5, with `9` and `(1, 9)`
example :
    let s := run procMachine none 12 (demoShared.initState false)
    s.ent.obs.any (fun o => match o with | .resume 5 0 (.n 9) _ => true | _ => false) = true ∧
    s.ent.obs.any (fun o => match o with | .resume 5 1 (.pair 1 (.n 9)) _ => true | _ => false) = true := by decide +kernel
-- `relay_forwards` / `relay_stops`: the packet scheduled at t = 6 is delivered three times (hops 0, 1, 2)
example :
    ((run procMachine none 12 (demoShared.initState false)).log.filter (fun e => e.kind == 4)).map (·.time)
      = [6, 16, 26] := by decide +kernel

end HappyModel.C01
