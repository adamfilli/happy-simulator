import HappyModel.C13.Spec
/-!
The phi-accrual detector, exact model (`tail` and `nlog` as parameters).  While no heartbeat arrives
`phi(now)` is the level of the standardised distance of `now` from the last heartbeat, which grows with
`now` (clause 4); a recorded heartbeat — at whatever time, the epoch `0` included — followed by a long
silence drives `phi` up to the level of the distance `Y` (clause 5): `phi` is not stuck at its "no data"
value.
-/
namespace HappyModel.C13

structure PhiHyp (F : PhiFns) (ivs : List Nat) : Prop where
  sd_pos : 0 < F.sd ivs
  tail_antitone : ∀ y1 y2, y1 ≤ y2 → F.tail y2 ≤ F.tail y1
  nlog_antitone : ∀ p1 p2, 0 < p1 → p1 ≤ p2 → F.nlog p2 ≤ F.nlog p1
  nlog_nonneg : ∀ y, 0 < F.tail y → 0 ≤ F.nlog (F.tail y)

theorem PV.le_refl (a : PV) : PV.le a a := by
  cases a <;> simp [PV.le]

theorem PV.le_trans {a b c : PV} (h1 : PV.le a b) (h2 : PV.le b c) : PV.le a c := by
  cases a <;> cases b <;> cases c <;> simp_all [PV.le]
  omega

/-- the suspicion level at the scaled standardised distance `y` -/
def levelOf (F : PhiFns) (y : Int) : PV := if F.tail y ≤ 0 then .inf else .fin (F.nlog (F.tail y))

/-- the scaled standardised distance of `now` from the last heartbeat `l` -/
def distOf (F : PhiFns) (d : QDet) (l now : Nat) : Int :=
  (((now - l : Nat) : Int) - F.mean d.ivs) * (F.scale : Int) / F.sd d.ivs

theorem phi_eq (F : PhiFns) (d : QDet) (l now : Nat) (hl : d.last = some l) (hiv : 1 ≤ d.ivs.length)
    (hnow : l ≤ now) : d.phi F now = levelOf F (distOf F d l now) := by
  unfold QDet.phi
  rw [hl]
  simp only []
  rw [if_neg (Nat.not_lt.mpr hiv), if_neg (Nat.not_lt.mpr hnow)]
  rfl

theorem phi_eq_zero (F : PhiFns) (d : QDet) (now : Nat)
    (h : ∀ l, d.last = some l → 1 ≤ d.ivs.length → now < l) : d.phi F now = .fin 0 := by
  unfold QDet.phi
  split
  · rfl
  · split
    · rfl
    · rw [if_pos (h _ ‹_› (Nat.le_of_not_lt ‹_›))]

variable {F : PhiFns} {ivs : List Nat} (H : PhiHyp F ivs)
include H

theorem levelOf_mono {y1 y2 : Int} (h : y1 ≤ y2) : PV.le (levelOf F y1) (levelOf F y2) := by
  have hp := H.tail_antitone _ _ h
  unfold levelOf
  by_cases h2 : F.tail y2 ≤ 0
  · rw [if_pos h2]
    split <;> trivial
  · rw [if_neg h2, if_neg (fun h1 => h2 (Int.le_trans hp h1))]
    exact H.nlog_antitone _ _ (Int.lt_of_not_ge h2) hp

theorem levelOf_nonneg (y : Int) : PV.le (.fin 0) (levelOf F y) := by
  unfold levelOf
  split
  · trivial
  · rename_i h
    exact H.nlog_nonneg _ (Int.lt_of_not_ge h)

theorem dist_mono (d : QDet) (hd : ivs = d.ivs) (l : Nat) {t1 t2 : Nat} (h : t1 ≤ t2) :
    distOf F d l t1 ≤ distOf F d l t2 :=
  Int.ediv_le_ediv (hd ▸ H.sd_pos) (Int.mul_le_mul_of_nonneg_right
    (Int.sub_le_sub_right (Int.ofNat_le.mpr (Nat.sub_le_sub_right h l)) _) (Int.natCast_nonneg _))

omit H in
theorem phi_mono_core (F : PhiFns) (d : QDet) (H : PhiHyp F d.ivs) (t1 t2 : Nat) (h : t1 ≤ t2) :
    PV.le (d.phi F t1) (d.phi F t2) := by
  by_cases h2 : ∀ l, d.last = some l → 1 ≤ d.ivs.length → t2 < l
  · rw [phi_eq_zero F d t1 fun l hl hiv => Nat.lt_of_le_of_lt h (h2 l hl hiv), phi_eq_zero F d t2 h2]
    exact PV.le_refl _
  · obtain ⟨l, hl, hiv, h2⟩ : ∃ l, d.last = some l ∧ 1 ≤ d.ivs.length ∧ l ≤ t2 := by
      simpa only [Classical.not_forall, Nat.not_lt, exists_prop] using h2
    rw [phi_eq F d l t2 hl hiv h2]
    by_cases h1 : l ≤ t1
    · rw [phi_eq F d l t1 hl hiv h1]
      exact levelOf_mono H (dist_mono H d rfl l h)
    · rw [phi_eq_zero F d t1 fun l' hl' _ => Option.some.inj (hl.symm.trans hl') ▸ Nat.lt_of_not_le h1]
      exact levelOf_nonneg H _

omit H

/-- the suspicion level at standardised distance `Y`: `levelOf` at `Y · scale` (`levelAt_eq`) -/
def levelAt (F : PhiFns) (Y : Nat) : PV :=
  if F.tail ((Y : Int) * (F.scale : Int)) ≤ 0 then .inf
  else .fin (F.nlog (F.tail ((Y : Int) * (F.scale : Int))))

theorem levelAt_eq (F : PhiFns) (Y : Nat) : levelAt F Y = levelOf F ((Y : Int) * (F.scale : Int)) := rfl

/-- with a recorded heartbeat at `l` and a non-empty window whose mean is at most `M` and whose
    (positive) deviation is at most `S`: after a silence of `M + Y·S` phi is at least the level of
    distance `Y` -/
theorem phi_reaches_level (F : PhiFns) (d : QDet) (H : PhiHyp F d.ivs) (l M S Y now : Nat)
    (hl : d.last = some l) (hiv : 1 ≤ d.ivs.length)
    (hmean : F.mean d.ivs ≤ (M : Int)) (hsd : F.sd d.ivs ≤ (S : Int))
    (hnow : l + M + Y * S ≤ now) : PV.le (levelAt F Y) (d.phi F now) := by
  have hy : (Y : Int) * (F.scale : Int) ≤ distOf F d l now := by
    apply Int.le_ediv_of_mul_le H.sd_pos
    have h1 : (Y : Int) * (S : Int) ≤ ((now - l : Nat) : Int) - F.mean d.ivs := by
      have : ((Y * S : Nat) : Int) = (Y : Int) * (S : Int) := Int.natCast_mul Y S
      omega
    have h2 : (Y : Int) * (F.scale : Int) * F.sd d.ivs ≤ (Y : Int) * (F.scale : Int) * (S : Int) :=
      Int.mul_le_mul_of_nonneg_left hsd (Int.mul_nonneg (Int.natCast_nonneg _) (Int.natCast_nonneg _))
    have h4 : (Y : Int) * (S : Int) * (F.scale : Int) ≤
        (((now - l : Nat) : Int) - F.mean d.ivs) * (F.scale : Int) :=
      Int.mul_le_mul_of_nonneg_right h1 (Int.natCast_nonneg _)
    exact Int.le_trans h2 (by rw [Int.mul_right_comm]; exact h4)
  rw [phi_eq F d l now hl hiv (Nat.le_trans (Nat.le_add_right _ _) (Nat.le_trans (Nat.le_add_right _ _) hnow)),
    levelAt_eq]
  exact levelOf_mono H hy

/-- the Spec clause holds of the model: with every recorded interval bounded by `m` (so mean ≤ m and
    0 < sd ≤ max(m, min_std)) and a threshold not above the level at distance 39, every sample taken
    `silenceBound` after the last heartbeat has reached the threshold -/
theorem phi_silence_detected (F : PhiFns) (d : QDet) (H : PhiHyp F d.ivs) (l m minStd now : Nat)
    (thr : PV) (hl : d.last = some l) (hmean : F.mean d.ivs ≤ (m : Int))
    (hsd : F.sd d.ivs ≤ ((max m minStd : Nat) : Int)) (hthr : PV.le thr (levelAt F 39)) :
    Spec.detectedSample (decide (1 ≤ d.ivs.length)) m minStd l now thr (d.phi F now) = true := by
  unfold Spec.detectedSample
  by_cases hc : (decide (1 ≤ d.ivs.length) && Spec.pvLe thr Spec.phiCeil &&
      decide (l + Spec.silenceBound m minStd ≤ now)) = true
  · simp only [Bool.and_eq_true, decide_eq_true_eq] at hc
    have hnow : l + m + 39 * max m minStd ≤ now := by
      have := hc.2; unfold Spec.silenceBound at this; omega
    have := PV.le_trans hthr (phi_reaches_level F d H l m (max m minStd) 39 now hl hc.1.1 hmean hsd hnow)
    simp [Spec.pvLe, this]
  · simp only [Bool.not_eq_true] at hc
    simp [hc]

end HappyModel.C13
