import HappyModel.C17.ML
import HappyProofs.C17.Upd
/-!
`ML`, `MLM` and `MLT` are one `LeaderNode` code with three resolvers / peer topologies (`LN`): the thirteen
fields of `ML.St` occur in all three states, the elementary changes are the same, and the handlers differ only
in `Res`.  A step of any of them is a `StepShape` of its view in `ML.St`: the new view as a composition of
elementary changes with the facts known in that branch; everything proved about a step is a case analysis on
it, no step theorem unfolds the handlers.

Where a notion exists both here and in a model (`Core`; `Written` / `WrittenC`, `MLM.Written`; `InvG` / `InvC`;
`AuxInv`; `SubInv`; `ReplQuiet` / `replQuiescent`; `kstep`), the proofs work with the one of this layer; the
model's own is what the property theorems are stated with, tied to it by `rfl` or an `_iff` that repacks the
fields (the two are field by field the same).
-/
namespace HappyModel.C17

theorem mem_dropWhile {α} (p : α → Bool) {a : α} : ∀ {l : List α}, a ∈ l.dropWhile p → a ∈ l
  | _ :: _, h => by
    rw [List.dropWhile_cons] at h
    split at h
    · exact List.mem_cons_of_mem _ (mem_dropWhile p h)
    · exact h

theorem mem_dropWhile_or {α} (p : α → Bool) {a : α} : ∀ {l : List α}, a ∈ l → a ∈ l.dropWhile p ∨ p a = true
  | b :: l, h => by
    rw [List.dropWhile_cons]
    split
    · rcases List.mem_cons.mp h with e | e
      · exact Or.inr (e ▸ ‹_›)
      · exact mem_dropWhile_or p e
    · exact Or.inl h

namespace ML

theorem PKind.not_ae {k : PKind} (hk : k = .write ∨ k = .repl ∨ k = .read ∨ k = .ae) :
    ¬(k = .aereq ∨ k = .aeresp) := by
  intro e
  rcases e with e | e <;> subst e <;> rcases hk with c | c | c | c <;> cases c

theorem PKind.not_wr {k : PKind} (hk : k = .read ∨ k = .ae ∨ k = .aereq ∨ k = .aeresp) :
    ¬(k = .write ∨ k = .repl) := by
  intro e
  rcases e with e | e <;> subst e <;> rcases hk with c | c | c | c <;> cases c

def St.setMsg (s : St) (mid : Nat) (m : Msg) : St := { s with msgs := upd s.msgs mid (some m) }

/-- what `_install` writes: value, version table, dict order of the keys -/
def St.setVer (s : St) (i k : Nat) (w : Version) : St :=
  { s with store := upd2 s.store i k (some w.val), vers := upd2 s.vers i k (some w),
           order := if (s.order i).contains k then s.order else upd s.order i (s.order i ++ [k]) }

theorem quiescent_spec (s : St) (hq : quiescentB s = true) :
    (∀ mid m, mid < s.nm → s.msgs mid = some m → m.delivered = true) ∧
    (∀ pid p, pid < s.np → s.procs pid = some p → p.fin = true) := by
  unfold quiescentB at hq
  simp only [Bool.and_eq_true, List.all_eq_true, List.mem_range] at hq
  constructor
  · intro mid m hlt hm
    have := hq.1 mid hlt
    rw [hm] at this; exact this
  · intro pid p hlt hp
    have := hq.2 pid hlt
    rw [hp] at this; exact this

end ML

namespace LN
open HappyModel.C17.ML (St Version Msg Proc MKind PKind vcTick vcMerge versionsOf)

/-- `_pick … is not existing`, `_pick`, every leader's peers, and whether an anti-entropy tick at a leader may
choose a given peer -/
structure Res where
  takes : Option Version → Version → Bool
  pick : Option Version → Version → Version
  peers : Nat → List Nat
  link : Nat → Nat → Bool

/-- the fields the run invariants read: an invariant stated of `core s` is untouched by what a step does to the
clock reading, the leaders' clocks, the replies and the error flag -/
structure Core where
  n : Nat
  np : Nat
  procs : Nat → Option Proc
  nm : Nat
  msgs : Nat → Option Msg
  vers : Nat → Nat → Option Version
  store : Nat → Nat → Option Val
  order : Nat → List Nat

def core (s : St) : Core := ⟨s.n, s.np, s.procs, s.nm, s.msgs, s.vers, s.store, s.order⟩

def ReplQuiet (c : Core) : Prop :=
  (∀ mid m, c.msgs mid = some m → m.kind = .repl → m.delivered = true) ∧
  (∀ pid p, c.procs pid = some p → (p.kind = .write ∨ p.kind = .repl) → p.fin = true)

/-- `_install` -/
def Res.inst (r : Res) (s : St) (i k : Nat) (inc : Version) : St :=
  if r.takes (s.vers i k) inc then s.setVer i k (r.pick (s.vers i k) inc) else s

theorem Res.inst_frame (r : Res) (s : St) (i k : Nat) (v : Version) :
    (r.inst s i k v).n = s.n ∧ (r.inst s i k v).np = s.np ∧ (r.inst s i k v).procs = s.procs ∧
    (r.inst s i k v).nm = s.nm ∧ (r.inst s i k v).msgs = s.msgs := by
  unfold Res.inst; split <;> exact ⟨rfl, rfl, rfl, rfl, rfl⟩

theorem Res.inst_clocks (r : Res) (s : St) (i k : Nat) (v : Version) :
    (r.inst s i k v).now = s.now ∧ (r.inst s i k v).clock = s.clock := by
  unfold Res.inst; split <;> exact ⟨rfl, rfl⟩

/-- the version `_install` leaves at the place it decides about (`ML.mergeOpt n` and `MLM.mergeOpt n j` are
`(St.res s).merged` of their models, by unfolding) -/
def Res.merged (r : Res) (cur : Option Version) (inc : Version) : Option Version :=
  if r.takes cur inc then some (r.pick cur inc) else cur

theorem Res.inst_vers (r : Res) (s : St) (i k : Nat) (v : Version) (i' k' : Nat) :
    (r.inst s i k v).vers i' k' = if i' = i ∧ k' = k then r.merged (s.vers i k) v else s.vers i' k' := by
  unfold Res.inst Res.merged
  by_cases ht : r.takes (s.vers i k) v = true
  · rw [if_pos ht, if_pos ht]
    exact upd2_apply ..
  · rw [if_neg ht, if_neg ht]
    split
    · rename_i e; rw [e.1, e.2]
    · rfl

theorem Res.inst_store (r : Res) (s : St) (i k : Nat) (v : Version)
    (h : ∀ i k, s.store i k = (s.vers i k).map (·.val)) (i' k' : Nat) :
    (r.inst s i k v).store i' k' = ((r.inst s i k v).vers i' k').map (·.val) := by
  unfold Res.inst
  split
  · show upd2 s.store i k _ i' k' = (upd2 s.vers i k _ i' k').map (·.val)
    rw [upd2_apply, upd2_apply]
    split
    · rfl
    · exact h i' k'
  · exact h i' k'

/-- what a merge loop leaves of its list -/
def Res.left (r : Res) (s : St) (i : Nat) (items : List (Nat × Version)) : List (Nat × Version) :=
  items.dropWhile fun kv => !r.takes (s.vers i kv.1) kv.2

/-- what `aeContinue s pid p items` does: handler `pid` becomes `p'` — the same handler, holding the
items still to merge; nothing is installed; a request handler whose loop is over may answer with its
version table -/
structure AeShape (r : Res) (s : St) (pid : Nat) (p : Proc) (items : List (Nat × Version)) (p' : Proc)
    (s' : St) : Prop where
  kind : p'.kind = p.kind
  node : p'.node = p.node
  src : p'.src = p.src
  op : p'.op = p.op
  key : p'.key = p.key
  ver : p'.ver = p.ver
  items : p'.items = r.left s p.node items
  keep : p'.items ≠ [] → p'.fin = p.fin ∧ p'.sent = p.sent
  eq : s' = s.setProc pid p' ∨ (p.kind = .aereq ∧ p'.fin = p.fin ∧
    s' = (s.send { kind := .aeresp, src := p.node, dst := p.src, items := versionsOf s p.node }).setProc pid p')

section
variable {r : Res} {s : St} {pid : Nat} {p : Proc} {items : List (Nat × Version)} {p' : Proc} {s' : St}

theorem AeShape.sub (sh : AeShape r s pid p items p' s') (kv) (h : kv ∈ p'.items) : kv ∈ items :=
  mem_dropWhile _ (sh.items ▸ h)

theorem AeShape.skip (sh : AeShape r s pid p items p' s') (kv) (h : kv ∈ items) :
    kv ∈ p'.items ∨ r.takes (s.vers p.node kv.1) kv.2 = false := by
  rw [sh.items]
  rcases mem_dropWhile_or (fun kv => !r.takes (s.vers p.node kv.1) kv.2) h with m | m
  · exact Or.inl m
  · exact Or.inr (Bool.not_eq_true' _ ▸ m)

theorem AeShape.procs (sh : AeShape r s pid p items p' s') : s'.procs = upd s.procs pid (some p') := by
  rcases sh.eq with e | ⟨_, _, e⟩ <;> rw [e] <;> rfl

theorem AeShape.vers (sh : AeShape r s pid p items p' s') : s'.vers = s.vers := by
  rcases sh.eq with e | ⟨_, _, e⟩ <;> rw [e] <;> rfl

theorem AeShape.n (sh : AeShape r s pid p items p' s') : s'.n = s.n := by
  rcases sh.eq with e | ⟨_, _, e⟩ <;> rw [e] <;> rfl

theorem AeShape.clocks (sh : AeShape r s pid p items p' s') : s'.now = s.now ∧ s'.clock = s.clock := by
  rcases sh.eq with e | ⟨_, _, e⟩ <;> rw [e] <;> exact ⟨rfl, rfl⟩

theorem AeShape.msgs_aereq (sh : AeShape r s pid p items p' s') (mid : Nat) (q : Msg) (hq : s'.msgs mid = some q)
    (hk : q.kind = .aereq) : s.msgs mid = some q := by
  rcases sh.eq with e | ⟨_, _, e⟩
  · rw [e] at hq; exact hq
  · rw [e] at hq
    rcases upd_some hq with ⟨_, e'⟩ | ⟨_, h⟩
    · rw [e'] at hk; cases hk
    · exact h

end

/-- what `StepShape.fail` denies, so that a walk can exclude a failed client write, delivery or tick.  Read
negatively only: it is `False` at `cr`, `rs` (which fail for other reasons) and `tick` (which never fails). -/
def Enabled (r : Res) (s : St) : Act → Prop
  | .cw _ node _ _ => node < s.n
  | .dl mid => ∃ m, s.msgs mid = some m ∧ m.delivered = false
  | .ae node peer => node < s.n ∧ peer < s.n ∧ r.link node peer = true
  | _ => False

/-- what one action does.  Every branch that reports a model error is `fail`, the only constructor that does
not say which action it was; the request and response handlers share their branches (`dlAe`, `sent`,
`wait`); `dlRepl.fin` says whether the `Replicate` would not apply any more. -/
inductive StepShape (r : Res) (s : St) (a : Act) (s' : St) : Prop
  | fail (e : String) (hv : ¬ Enabled r s a) (h : s' = s.fail e)
  | tick (t : Nat) (ha : a = .tick t) (h : s' = { s with now := t })
  | cw (op node k v : Nat) (ha : a = .cw op node k v) (hn : node < s.n)
      (h : s' = ({ s with clock := upd s.clock node (vcTick s.n (s.clock node) node) } : St).spawn
        { kind := .write, node := node, key := k, ver := ⟨v, s.now, node, vcTick s.n (s.clock node) node⟩, op := op })
  | cr (op node k : Nat) (ha : a = .cr op node k) (hn : node < s.n)
      (h : s' = s.spawn { kind := .read, node := node, key := k, op := op })
  | ae (node peer : Nat) (ha : a = .ae node peer) (hn : node < s.n) (hp : peer < s.n)
      (hl : r.link node peer = true)
      (h : s' = (s.send { kind := .aereq, src := node, dst := peer, items := versionsOf s node,
                          hash := s.store node }).spawn { kind := .ae, node := node })
  | dlRepl (mid : Nat) (m : Msg) (fin : Bool) (ha : a = .dl mid) (h0 : s.msgs mid = some m)
      (hd : m.delivered = false) (hk : m.kind = .repl)
      (hfin : fin = !r.takes (s.vers m.dst m.key) m.ver)
      (h : s' = ({ s.setMsg mid { m with delivered := true } with
            clock := upd s.clock m.dst (vcTick s.n (vcMerge s.n (s.clock m.dst) m.ver.vc) m.dst) } : St).spawn
        { kind := .repl, node := m.dst, key := m.key, ver := m.ver, op := mid, fin := fin })
  | dlAe (mid : Nat) (m : Msg) (p p' : Proc) (ha : a = .dl mid) (h0 : s.msgs mid = some m)
      (hd : m.delivered = false) (hk : m.kind = .aereq ∨ m.kind = .aeresp)
      (hpk : p.kind = .aereq ↔ m.kind = .aereq) (hpk2 : p.kind = .aereq ∨ p.kind = .aeresp)
      (hnode : p.node = m.dst) (hsrc : p.src = m.src) (hop : p.op = mid) (hfin : p.fin = false)
      (hsent : p.sent = false) (hitems : p.items = [])
      (sh : AeShape r ((s.setMsg mid { m with delivered := true }).spawn p) s.np p m.items p' s')
  | write1 (pid : Nat) (p0 : Proc) (ha : a = .rs pid) (h0 : s.procs pid = some p0) (hf : p0.fin = false)
      (hk : p0.kind = .write) (hs : p0.seg = 1)
      (h : s' = ((r.peers p0.node).foldl
          (fun s j => s.send { kind := .repl, src := p0.node, dst := j, key := p0.key, ver := p0.ver })
          (r.inst s p0.node p0.key p0.ver)).setProc pid { p0 with seg := p0.seg + 1 })
  | write2 (pid : Nat) (p0 : Proc) (ha : a = .rs pid) (h0 : s.procs pid = some p0) (hf : p0.fin = false)
      (hk : p0.kind = .write) (hs : p0.seg ≠ 1)
      (h : s' = (s.reply p0.op "ok").setProc pid { p0 with seg := p0.seg + 1, fin := true })
  | repl (pid : Nat) (p0 : Proc) (ha : a = .rs pid) (h0 : s.procs pid = some p0) (hf : p0.fin = false)
      (hk : p0.kind = .repl)
      (h : s' = (r.inst s p0.node p0.key p0.ver).setProc pid { p0 with seg := p0.seg + 1, fin := true })
  -- `rep`: the reply text of a read is forgotten, so that `.read` and `.ae` share a constructor
  | quiet (pid : Nat) (p0 : Proc) (rep : List Reply) (ha : a = .rs pid) (h0 : s.procs pid = some p0)
      (hf : p0.fin = false) (hk : p0.kind = .read ∨ p0.kind = .ae)
      (h : s' = ({ s with replies := rep } : St).setProc pid { p0 with seg := p0.seg + 1, fin := true })
  | sent (pid : Nat) (p0 : Proc) (ha : a = .rs pid) (h0 : s.procs pid = some p0) (hf : p0.fin = false)
      (hk : p0.kind = .aereq ∨ p0.kind = .aeresp) (hs : p0.sent = true)
      (h : s' = s.setProc pid { p0 with seg := p0.seg + 1, fin := true })
  | wait (pid : Nat) (p0 p' : Proc) (k : Nat) (v : Version) (rest : List (Nat × Version)) (ha : a = .rs pid)
      (h0 : s.procs pid = some p0) (hf : p0.fin = false) (hk : p0.kind = .aereq ∨ p0.kind = .aeresp)
      (hs : p0.sent = false) (hit : p0.items = (k, v) :: rest)
      (sh : AeShape r (r.inst s p0.node k v) pid { p0 with seg := p0.seg + 1 } rest p' s')

theorem foldl_send_ind (I : St → Prop) (mk : Nat → Msg) (hI : ∀ s j, I s → I (s.send (mk j))) :
    ∀ (l : List Nat) (s : St), I s → I (l.foldl (fun s j => s.send (mk j)) s)
  | [], _, h => h
  | j :: l, s, h => foldl_send_ind I mk hI l _ (hI s j h)

theorem StepShape.n {r : Res} {s s' : St} {a : Act} (sh : StepShape r s a s') : s'.n = s.n := by
  cases sh with
  | dlAe mid m p p' ha h0 hd hk hpk hpk2 hnode hsrc hop hfin hsent hitems sh => exact sh.n
  | write1 pid p0 ha h0 hf hk hs h =>
    rw [h]
    exact foldl_send_ind (fun s' => s'.n = s.n) _ (fun _ _ e => e) _ _ (r.inst_frame s p0.node p0.key p0.ver).1
  | repl pid p0 ha h0 hf hk h => rw [h]; exact (r.inst_frame s p0.node p0.key p0.ver).1
  | wait pid p0 p' k v rest ha h0 hf hk hs hit sh => exact sh.n.trans (r.inst_frame s p0.node k v).1
  | _ => rename_i h; subst h; rfl

/-- `MLM.isWR`, `MLT.isWR` on the view -/
def isWR (s : St) : Act → Bool
  | .cw _ _ _ _ => true
  | .dl mid =>
    (match s.msgs mid with
     | some m => decide (m.kind = .repl)
     | none => false)
  | .rs pid =>
    (match s.procs pid with
     | some p => decide (p.kind = .write ∨ p.kind = .repl)
     | none => false)
  | _ => false

theorem not_repl_of_not_isWR {s : St} {mid : Nat} {m : Msg} (hw : isWR s (.dl mid) = false)
    (h0 : s.msgs mid = some m) : m.kind ≠ .repl := by
  simp only [isWR, h0] at hw
  exact of_decide_eq_false hw

theorem not_wr_of_not_isWR {s : St} {pid : Nat} {p : Proc} (hw : isWR s (.rs pid) = false)
    (h0 : s.procs pid = some p) : ¬(p.kind = .write ∨ p.kind = .repl) := by
  simp only [isWR, h0] at hw
  exact of_decide_eq_false hw

end LN
end HappyModel.C17
