import HappyModel.C05.Parallel
/-!
Per-partition facts about the window loop (`stepWin` / `runWin`), for an arbitrary handler.  An
iteration is given as `p.heap.Perm (m :: rest)` with `m` time-minimal: the heap minimum `minOf` and
`erase` do not show outside this file.  `LogInv` (the log is sorted and never ahead of the clock)
holds under either window rule; `WInv` (nothing in the heap behind the clock, everything at or after
the last barrier `b`, outbox entries sent at or after `b`) is why nothing is ever discarded as
"time travel".
-/
namespace HappyModel.C05

theorem minOf_mem (m : Ev) (l : List Ev) : minOf m l ∈ m :: l := by
  induction l generalizing m with
  | nil => simp [minOf]
  | cons x xs ih =>
    simp only [minOf]
    split
    · have := ih x
      simp only [List.mem_cons] at this ⊢
      rcases this with h | h
      · exact Or.inr (Or.inl h)
      · exact Or.inr (Or.inr h)
    · have := ih m
      simp only [List.mem_cons] at this ⊢
      rcases this with h | h
      · exact Or.inl h
      · exact Or.inr (Or.inr h)

theorem minOf_time_le (m : Ev) (l : List Ev) : ∀ y ∈ m :: l, (minOf m l).time ≤ y.time := by
  induction l generalizing m with
  | nil => intro y hy; simp at hy; subst hy; simp [minOf]
  | cons x xs ih =>
    intro y hy
    simp only [minOf]
    simp only [List.mem_cons] at hy
    split
    · rename_i h
      simp only [keyLt, Bool.or_eq_true, Bool.and_eq_true, decide_eq_true_eq, beq_iff_eq] at h
      rcases hy with rfl | rfl | hy
      · have := ih x x (by simp); omega
      · exact ih y y (by simp)
      · exact ih x y (by simp [hy])
    · rename_i h
      simp only [keyLt, Bool.or_eq_true, Bool.and_eq_true, decide_eq_true_eq, beq_iff_eq] at h
      rcases hy with rfl | rfl | hy
      · exact ih y y (by simp)
      · have := ih m m (by simp); omega
      · exact ih m y (by simp [hy])

variable {σ : Type}

theorem mem_mkEvents {now ctr : Nat} {ems : List Emit} {ev : Ev} (h : ev ∈ mkEvents now ctr ems) :
    ∃ em ∈ ems, ev.time = now + em.delay ∧ ev.tgt = em.tgt ∧ ev.kind = em.kind := by
  induction ems generalizing ctr with
  | nil => simp [mkEvents] at h
  | cons s ss ih =>
    simp only [mkEvents, List.mem_cons] at h
    rcases h with rfl | h
    · exact ⟨s, by simp, rfl, rfl, rfl⟩
    · obtain ⟨em, hm, h1⟩ := ih h
      exact ⟨em, by simp [hm], h1⟩

theorem mkEvents_time_ge {now ctr : Nat} {ems : List Emit} {ev : Ev} (h : ev ∈ mkEvents now ctr ems) :
    now ≤ ev.time := by
  obtain ⟨em, _, ht, _⟩ := mem_mkEvents h
  omega

theorem stepWin_cases (h : Handler σ) (r : Nat → Route) (strict : Bool) (we : Nat) (p p' : Part σ)
    (hs : stepWin h r strict we p = some p') :
    ∃ m rest, p.heap.Perm (m :: rest) ∧ (∀ e ∈ p.heap, m.time ≤ e.time) ∧ p.bad = false ∧ p.clock ≤ we ∧
      (strict = true → m.time ≤ we) ∧
      ((m.time < p.clock ∧ p' = discard p m rest) ∨ (p.clock ≤ m.time ∧ p' = deliver h r p m rest)) := by
  unfold stepWin at hs
  split at hs
  · simp at hs
  · rename_i x xs hx
    by_cases hb : p.bad = true
    · simp [hb] at hs
    · simp only [hb] at hs
      by_cases hc : we < p.clock
      · simp [hc] at hs
      · simp only [hc] at hs
        by_cases hst : (strict && decide (we < (minOf x xs).time)) = true
        · simp [hst] at hs
        · simp only [hst] at hs
          refine ⟨minOf x xs, (x :: xs).erase (minOf x xs), by rw [hx]; exact List.perm_cons_erase (minOf_mem x xs),
            by rw [hx]; exact minOf_time_le x xs, by simpa using hb, by omega, ?_, ?_⟩
          · intro hstr
            simp only [hstr, Bool.true_and, decide_eq_true_eq] at hst
            omega
          · by_cases ht : (minOf x xs).time < p.clock
            · simp only [ht, if_true, Bool.false_eq_true, if_false] at hs
              left; exact ⟨ht, by simpa using hs.symm⟩
            · simp only [ht, if_false, Bool.false_eq_true] at hs
              right; exact ⟨by omega, by simpa using hs.symm⟩

theorem stepWin_eq_none_iff {h : Handler σ} {r : Nat → Route} {strict : Bool} {we : Nat} {p : Part σ} :
    stepWin h r strict we p = none ↔
      p.heap = [] ∨ p.bad = true ∨ we < p.clock ∨ (strict = true ∧ ∀ e ∈ p.heap, we < e.time) := by
  unfold stepWin
  cases hx : p.heap with
  | nil => simp
  | cons x xs =>
    have hmin : (∀ e ∈ x :: xs, we < e.time) ↔ we < (minOf x xs).time :=
      ⟨fun h => h _ (minOf_mem x xs), fun h e he => Nat.lt_of_lt_of_le h (minOf_time_le x xs e he)⟩
    rw [hmin]
    by_cases hb : p.bad = true
    · simp [hb]
    · by_cases hc : we < p.clock
      · simp [hb, hc]
      · cases strict <;> by_cases hm : we < (minOf x xs).time <;> simp [hb, hc, hm] <;> split <;> simp

theorem runWin_of_none {h : Handler σ} {r : Nat → Route} {strict : Bool} {we : Nat} {p : Part σ}
    (hs : stepWin h r strict we p = none) : ∀ n, runWin h r strict we n p = p
  | 0 => rfl
  | n + 1 => by simp only [runWin, hs]

theorem runWin_induct (h : Handler σ) (r : Nat → Route) (strict : Bool) (we : Nat)
    (P : Part σ → Prop)
    (hstep : ∀ p p', P p → stepWin h r strict we p = some p' → P p')
    (n : Nat) (p : Part σ) (hp : P p) : P (runWin h r strict we n p) := by
  induction n generalizing p with
  | zero => simpa [runWin] using hp
  | succ n ih =>
    simp only [runWin]
    split
    · exact hp
    · rename_i p' hs
      exact ih p' (hstep p p' hp hs)

structure LogInv (p : Part σ) : Prop where
  sorted : p.log.Pairwise (fun a b => b.time ≤ a.time)
  leClock : ∀ d ∈ p.log, d.time ≤ p.clock

theorem LogInv.step {h : Handler σ} {r : Nat → Route} {strict : Bool} {we : Nat} {p p' : Part σ}
    (inv : LogInv p) (hs : stepWin h r strict we p = some p') : LogInv p' := by
  obtain ⟨m, rest, _, _, _, _, _, hc⟩ := stepWin_cases h r strict we p p' hs
  rcases hc with ⟨_, rfl⟩ | ⟨hge, rfl⟩
  · exact ⟨inv.sorted, inv.leClock⟩
  · constructor
    · simp only [deliver, List.pairwise_cons]
      exact ⟨fun d hd => Nat.le_trans (inv.leClock d hd) hge, inv.sorted⟩
    · intro d hd
      simp only [deliver, List.mem_cons] at hd ⊢
      rcases hd with rfl | hd
      · exact Nat.le_refl _
      · exact Nat.le_trans (inv.leClock d hd) hge

theorem LogInv.run {h : Handler σ} {r : Nat → Route} {strict : Bool} {we : Nat} (n : Nat) {p : Part σ}
    (inv : LogInv p) : LogInv (runWin h r strict we n p) :=
  runWin_induct h r strict we LogInv (fun _ _ i hs => i.step hs) n p inv

theorem LogInv.of_log_nil {p : Part σ} (h : p.log = []) : LogInv p := by
  constructor <;> simp [h]

theorem LogInv.init (pid start : Nat) (st : σ) (evs : List Ev) : LogInv (Part.init pid start st evs) :=
  .of_log_nil rfl

structure WInv (r : Nat → Route) (own : Ev → Prop) (b : Nat) (p : Part σ) : Prop where
  geClock : ∀ e ∈ p.heap, p.clock ≤ e.time
  geB : ∀ e ∈ p.heap, b ≤ e.time
  owned : ∀ e ∈ p.heap, own e
  noTT : p.tt = []
  out : ∀ x ∈ p.outbox, b ≤ x.2 ∧ x.2 ≤ x.1.time ∧ r x.1.tgt = .out

theorem deliver_owned {h : Handler σ} {r : Nat → Route} {own : Ev → Prop} {p : Part σ} {m : Ev}
    {rest : List Ev} (hown : ∀ ev : Ev, r ev.tgt = .loc → own ev) (hrest : ∀ e ∈ rest, own e) :
    ∀ e ∈ (deliver h r p m rest).heap, own e := by
  intro e he
  simp only [deliver, List.mem_append, List.mem_filter] at he
  rcases he with he | ⟨_, hl⟩
  · exact hrest e he
  · exact hown e (by simpa [isLoc] using hl)

theorem WInv.delivers {h : Handler σ} {r : Nat → Route} {own : Ev → Prop} {b : Nat} {strict : Bool}
    {we : Nat} {p p' : Part σ} (inv : WInv r own b p) (hs : stepWin h r strict we p = some p') :
    ∃ m rest, p.heap.Perm (m :: rest) ∧ (∀ e ∈ p.heap, m.time ≤ e.time) ∧ p.bad = false ∧
      (strict = true → m.time ≤ we) ∧ p' = deliver h r p m rest := by
  obtain ⟨m, rest, hp, hmin, hb, _, hst, hc⟩ := stepWin_cases h r strict we p p' hs
  rcases hc with ⟨hlt, _⟩ | ⟨_, rfl⟩
  · have := inv.geClock m (hp.symm.subset List.mem_cons_self)
    omega
  · exact ⟨m, rest, hp, hmin, hb, hst, rfl⟩

theorem WInv.step {h : Handler σ} {r : Nat → Route} {own : Ev → Prop} {b : Nat} {strict : Bool}
    {we : Nat} {p p' : Part σ}
    (hown : ∀ ev : Ev, r ev.tgt = .loc → own ev)
    (inv : WInv r own b p) (hs : stepWin h r strict we p = some p') : WInv r own b p' := by
  obtain ⟨m, rest, hp, hmin, _, _, rfl⟩ := inv.delivers hs
  have hmem : m ∈ p.heap := hp.symm.subset List.mem_cons_self
  have hrest : ∀ e ∈ rest, e ∈ p.heap := fun e he => hp.symm.subset (List.mem_cons_of_mem _ he)
  constructor
  · intro e he
    simp only [deliver, List.mem_append, List.mem_filter] at he ⊢
    rcases he with he | ⟨he, _⟩
    · exact hmin e (hrest e he)
    · exact mkEvents_time_ge he
  · intro e he
    simp only [deliver, List.mem_append, List.mem_filter] at he
    rcases he with he | ⟨he, _⟩
    · exact inv.geB e (hrest e he)
    · exact Nat.le_trans (inv.geB _ hmem) (mkEvents_time_ge he)
  · exact deliver_owned hown fun e he => inv.owned e (hrest e he)
  · simpa [deliver] using inv.noTT
  · intro y hy
    simp only [deliver, List.mem_append, List.mem_map, List.mem_filter] at hy
    rcases hy with hy | ⟨ev, ⟨hev, ho⟩, rfl⟩
    · exact inv.out y hy
    · have ho' : r ev.tgt = .out := by simpa [isOut] using ho
      exact ⟨inv.geB _ hmem, mkEvents_time_ge hev, ho'⟩

theorem WInv.run {h : Handler σ} {r : Nat → Route} {own : Ev → Prop} {b : Nat} {strict : Bool}
    {we : Nat} (hown : ∀ ev : Ev, r ev.tgt = .loc → own ev)
    (n : Nat) {p : Part σ} (inv : WInv r own b p) : WInv r own b (runWin h r strict we n p) :=
  runWin_induct h r strict we (WInv r own b) (fun _ _ i hs => i.step hown hs) n p inv

theorem strict_clock_le {h : Handler σ} {r : Nat → Route} {we : Nat} (n : Nat) {p : Part σ}
    (hc : p.clock ≤ we) : (runWin h r true we n p).clock ≤ we := by
  refine runWin_induct h r true we (fun q => q.clock ≤ we) ?_ n p hc
  intro q q' hq hs
  obtain ⟨m, rest, _, _, _, _, hst, hcs⟩ := stepWin_cases h r true we q q' hs
  rcases hcs with ⟨_, rfl⟩ | ⟨_, rfl⟩
  · simpa [discard] using hq
  · simpa [deliver] using hst rfl

theorem halted_strict_heap_gt {h : Handler σ} {r : Nat → Route} {we : Nat} {p : Part σ}
    (hh : Halted h r true we p) (hb : p.bad = false) (hc : p.clock ≤ we) :
    ∀ e ∈ p.heap, we < e.time := by
  rcases stepWin_eq_none_iff.mp hh with h0 | h1 | h2 | ⟨_, h3⟩
  · simp [h0]
  · simp [hb] at h1
  · omega
  · exact h3

theorem halted_loose_heap_gt {h : Handler σ} {r : Nat → Route} {we : Nat} {p : Part σ}
    (hh : Halted h r false we p) (hb : p.bad = false) (hge : ∀ e ∈ p.heap, p.clock ≤ e.time) :
    ∀ e ∈ p.heap, we < e.time := by
  rcases stepWin_eq_none_iff.mp hh with h0 | h1 | h2 | ⟨h3, _⟩
  · simp [h0]
  · simp [hb] at h1
  · exact fun e he => Nat.lt_of_lt_of_le h2 (hge e he)
  · cases h3

theorem runWin_bad_stuck {h : Handler σ} {r : Nat → Route} {strict : Bool} {we : Nat} (n : Nat)
    {p : Part σ} (hb : p.bad = true) : runWin h r strict we n p = p :=
  runWin_of_none (stepWin_eq_none_iff.mpr (.inr (.inl hb))) n

theorem runWin_pid {h : Handler σ} {r : Nat → Route} {strict : Bool} {we : Nat} (n : Nat) (p : Part σ) :
    (runWin h r strict we n p).pid = p.pid := by
  refine runWin_induct h r strict we (fun q => q.pid = p.pid) ?_ n p rfl
  intro q q' hq hs
  obtain ⟨m, rest, _, _, _, _, _, hcs⟩ := stepWin_cases h r strict we q q' hs
  rcases hcs with ⟨_, rfl⟩ | ⟨_, rfl⟩ <;> simpa [discard, deliver] using hq


theorem seq_bad_false {h : Handler σ} {strict : Bool} {we : Nat} (n : Nat) {p : Part σ}
    (hb : p.bad = false) : (runWin h seqRoute strict we n p).bad = false := by
  refine runWin_induct h seqRoute strict we (fun q => q.bad = false) ?_ n p hb
  intro q q' hq hs
  obtain ⟨m, rest, _, _, _, _, _, hcs⟩ := stepWin_cases h seqRoute strict we q q' hs
  rcases hcs with ⟨_, rfl⟩ | ⟨_, rfl⟩
  · simpa [discard] using hq
  · simp [deliver, hq, isBad, seqRoute]

theorem seq_outbox_nil {own : Ev → Prop} {b : Nat} {p : Part σ} (w : WInv seqRoute own b p) :
    p.outbox = [] := by
  rw [List.eq_nil_iff_forall_not_mem]
  intro x hx
  have := (w.out x hx).2.2
  simp [seqRoute] at this


def pendOf (p : Part σ) : List Ev := p.heap ++ p.outbox.map (·.1)

theorem split_loc_out (r : Nat → Route) (evs : List Ev) (hnb : evs.any (isBad r) = false) :
    evs.Perm (evs.filter (isLoc r) ++ evs.filter (isOut r)) := by
  have : evs.filter (isOut r) = evs.filter (fun e => !isLoc r e) := List.filter_congr fun e he => by
    have hb := List.any_eq_false.mp hnb e he
    simp only [isLoc, isOut, isBad] at hb ⊢
    cases h3 : r e.tgt <;> simp_all
  rw [this]
  exact (List.filter_append_perm _ _).symm

theorem deliver_pend {h : Handler σ} {r : Nat → Route} (p : Part σ) (m : Ev) (rest : List Ev)
    (hp : p.heap.Perm (m :: rest)) (hnb : (deliver h r p m rest).bad = false) :
    (m :: pendOf (deliver h r p m rest)).Perm (pendOf p ++ mkEvents m.time p.ctr (h p.st m).2) := by
  have hnb' : (mkEvents m.time p.ctr (h p.st m).2).any (isBad r) = false := by
    simp only [deliver, Bool.or_eq_false_iff] at hnb
    exact hnb.2
  rw [List.perm_iff_count]
  intro a
  have c1 := hp.count_eq a
  have c2 := (split_loc_out r _ hnb').count_eq a
  simp only [pendOf, deliver, List.count_cons, List.count_append, List.map_append, List.map_map,
    Function.comp_def, List.map_id'] at c1 c2 ⊢
  omega

end HappyModel.C05
