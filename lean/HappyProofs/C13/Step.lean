import HappyProofs.C13.Handlers
/-!
What one action does to the cluster.  An action either leaves every node alone (`Step.skip`: only the
clock moves, a node crashes, a partition is cut or healed, a message to a crashed node is dropped) or
lets one live node run one handler and commits its result (`Step.fire`, with `Fires` saying which
handler and why it was enabled).
-/
set_option linter.unusedSectionVars false
namespace HappyModel.C13
variable {D : Type} [Inhabited D] [Detector D]

def Sys.live (s : Sys D) (x : Nat) : Prop := s.isCrashed x = false

/-- node `b` may run a handler at time `now`: `r` is the handler's result, `soup` what stays in flight.
    `tick` keeps the action itself (`hact`): `Step.keep_or_tick` hands the shuffle back, so that what the schedule
    says of this action (`shufOk`) applies to the handler that runs. -/
inductive Fires (c : Cfg) (s : Sys D) (act : Act) (now b : Nat) : Node D × List Out → List Msg → Prop
  | tick (shuf : List Nat) (hact : act = .tick b now shuf) (ht : (s.node b).nextTick = now) :
      Fires c s act now b (onTick c b now shuf (s.node b)) s.soup
  | msg (m : Msg) (hm : m ∈ s.soup) (hd : m.dst = b) :
      Fires c s act now b (handleMsg c b now m (s.node b)) (s.soup.erase m)
  | ind (y : Nat) (shuf : List Nat) (t : Timer) (hp : (s.node b).pendOf y = some t)
      (hk : t.kind = .ind) (hf : t.fire = now) :
      Fires c s act now b (onIndTimeout c b now y shuf (s.node b)) s.soup
  | susp (y : Nat) (t : Timer) (hp : (s.node b).pendOf y = some t) (hk : t.kind = .susp)
      (hf : t.fire = now) : Fires c s act now b (onSuspTimeout y (s.node b), []) s.soup

inductive Step (c : Cfg) (s : Sys D) (act : Act) : Sys D → Prop
  | skip (crashed : List Bool) (cuts : List (List (Nat × Nat))) (soup : List Msg)
      (hcr : ∀ y, s.isCrashed y = true → lget false crashed y = true)
      (hsoup : ∀ m ∈ soup, m ∈ s.soup)
      (hdrop : ∀ m ∈ s.soup, m ∈ soup ∨ s.isCrashed m.dst = true) :
      Step c s act { s with now := act.time, crashed := crashed, cuts := cuts, soup := soup }
  | fire (b : Nat) (r : Node D × List Out) (soup : List Msg) (hb : s.isCrashed b = false)
      (hf : Fires c s act act.time b r soup) : Step c s act (s.commit b act.time r soup)

section
variable {c : Cfg} {s s' : Sys D} {act : Act} {now b : Nat} {r : Node D × List Out} {soup : List Msg}

theorem Fires.soup_sub (h : Fires c s act now b r soup) : ∀ m ∈ soup, m ∈ s.soup := by
  cases h with
  | msg m hm hd => exact fun _ h => List.mem_of_mem_erase h
  | tick | ind | susp => exact fun _ h => h

theorem step_rel (c : Cfg) (s : Sys D) (act : Act) : Step c s act (step c s act) := by
  have skip : ∀ crashed cuts, (∀ y, s.isCrashed y = true → lget false crashed y = true) →
      Step c s act { s with now := act.time, crashed := crashed, cuts := cuts } :=
    fun crashed cuts h => .skip crashed cuts s.soup h (fun _ h => h) (fun _ h => .inl h)
  have idle := skip s.crashed s.cuts fun _ h => h
  cases act with
  | tick a now shuf =>
    simp only [step]
    split
    · exact idle
    · rename_i h
      have h' : s.isCrashed a = false ∧ (s.node a).nextTick = now := by simpa using h
      exact Step.fire a _ _ h'.1 (Fires.tick shuf rfl h'.2)
  | deliver id now =>
    simp only [step]
    split
    · exact idle
    · rename_i m hfind
      have hm : m ∈ s.soup := List.mem_of_find?_eq_some hfind
      split
      · rename_i hc
        refine Step.skip s.crashed s.cuts (s.soup.erase m) (fun _ h => h)
          (fun _ h => List.mem_of_mem_erase h) (fun w hw => ?_)
        by_cases hwm : w = m
        · exact Or.inr (hwm ▸ hc)
        · exact Or.inl ((List.mem_erase_of_ne hwm).mpr hw)
      · rename_i hc
        exact Step.fire m.dst _ _ (by simpa using hc) (Fires.msg m hm rfl)
  | timeout a x now shuf =>
    simp only [step]
    split
    · exact idle
    · rename_i ha
      split
      · exact idle
      · rename_i t hp
        split
        · exact idle
        · rename_i hf
          have hf' : t.fire = now := by simpa using hf
          split
          · rename_i hk
            exact Step.fire a _ _ (by simpa using ha) (Fires.ind x shuf t hp hk hf')
          · rename_i hk
            exact Step.fire a _ _ (by simpa using ha) (Fires.susp x t hp hk hf')
  | crash x now =>
    refine skip _ s.cuts fun y hy => ?_
    by_cases hyx : y = x
    · rw [hyx]; exact lget_lset_same _ _ _ _
    · rw [lget_lset_other hyx]; exact hy
  | cut h ga gb now => exact skip s.crashed _ fun _ h => h
  | heal h now => exact skip s.crashed _ fun _ h => h

theorem step_now (h : Step c s act s') : s'.now = act.time := by
  cases h <;> rfl

theorem crashed_step (h : Step c s act s') (y : Nat)
    (hy : s.isCrashed y = true) : s'.isCrashed y = true := by
  cases h with
  | skip crashed cuts soup hcr _ _ => exact hcr y hy
  | fire => exact hy

theorem Step.node (h : Step c s act s') (a : Nat) :
    s'.node a = s.node a ∨
    ∃ r soup, Fires c s act act.time a r soup ∧ s.isCrashed a = false ∧ s'.node a = r.1 := by
  cases h with
  | skip => exact Or.inl rfl
  | fire b r soup hb hf =>
    by_cases hab : a = b
    · subst hab
      exact Or.inr ⟨r, soup, hf, hb, node_commit_same _ _ _ _ _⟩
    · exact Or.inl (node_commit_other hab)


theorem Fires.entry {R : Member D → Member D → Prop} {G : Update → Prop} {H T : Prop}
    (hR : Respects now R G H T) (x : Nat) (h : Fires c s act now b r soup)
    (hmsg : ∀ m ∈ s.soup, m.dst = b → (∀ u ∈ m.upds, u.member = x → G u) ∧ (m.src = x → H))
    (htm : ∀ t, (s.node b).pendOf x = some t → t.kind = .susp → t.fire = now → T) :
    R ((s.node b).member x) (r.1.member x) := by
  cases h with
  | tick shuf hact ht => exact entry_onTick hR x
  | msg m hm hd => exact entry_handleMsg hR x (hmsg m hm hd).1 (hmsg m hm hd).2
  | ind y shuf t hp hk hf => exact entry_onIndTimeout hR x
  | susp y t hp hk hf => exact entry_onSuspTimeout hR x fun e => htm t (e ▸ hp) hk hf

theorem Fires.sends {S : Update → Prop} (hS : ∀ y inc, S ⟨y, .suspect, inc⟩)
    (h : Fires c s act now b r soup) (hq : ∀ u ∈ (s.node b).upds, S u)
    (htm : ∀ y t inc, (s.node b).pendOf y = some t → t.kind = .susp → t.fire = now → S ⟨y, .dead, inc⟩) :
    Sends S r := by
  cases h with
  | tick shuf hact ht => exact sends_onTick c b now shuf _ hS hq
  | msg m hm hd => exact sends_handleMsg c b now m _ S hq
  | ind y shuf t hp hk hf => exact sends_onIndTimeout c b now y shuf _ hS hq
  | susp y t hp hk hf =>
    exact .nothing (queued_onSuspTimeout y _ S (htm y t _ hp hk hf) hq)

end

theorem step_indTimeout (c : Cfg) {s : Sys D} {a x now : Nat} (shuf : List Nat)
    (ha : s.isCrashed a = false) (hp : (s.node a).pendOf x = some ⟨.ind, now⟩) :
    step c s (.timeout a x now shuf) = s.commit a now (onIndTimeout c a now x shuf (s.node a)) s.soup := by
  simp only [step, ha, hp, Bool.false_eq_true, if_false, bne_self_eq_false]

theorem step_suspTimeout (c : Cfg) {s : Sys D} {a x now : Nat} (shuf : List Nat)
    (ha : s.isCrashed a = false) (hp : (s.node a).pendOf x = some ⟨.susp, now⟩) :
    step c s (.timeout a x now shuf) = s.commit a now (onSuspTimeout x (s.node a), []) s.soup := by
  simp only [step, ha, hp, Bool.false_eq_true, if_false, bne_self_eq_false]

theorem step_tick (c : Cfg) {s : Sys D} {a now : Nat} (shuf : List Nat)
    (ha : s.isCrashed a = false) (ht : (s.node a).nextTick = now) :
    step c s (.tick a now shuf) = s.commit a now (onTick c a now shuf (s.node a)) s.soup := by
  simp only [step, ha, ht, Bool.false_or, bne_self_eq_false, Bool.false_eq_true, if_false]

theorem mem_stamp {a now k : Nat} {os : List Out} {m : Msg} (h : m ∈ stamp a now k os) :
    m.src = a ∧ m.sent = now ∧ ∃ o ∈ os, m.kind = o.kind ∧ m.dst = o.dst ∧ m.upds = o.upds := by
  induction os generalizing k with
  | nil => cases h
  | cons o os ih =>
    rcases List.mem_cons.mp h with rfl | h
    · exact ⟨rfl, rfl, o, List.mem_cons_self .., rfl, rfl, rfl⟩
    · obtain ⟨h1, h2, o', ho', h3⟩ := ih h
      exact ⟨h1, h2, o', List.mem_cons_of_mem _ ho', h3⟩

theorem mem_routed {s : Sys D} {ms : List Msg} {m : Msg} (h : m ∈ s.routed ms) :
    m ∈ ms ∧ s.blocked m.src m.dst = false := by
  unfold Sys.routed at h
  rw [List.mem_filter] at h
  exact ⟨h.1, by simpa using h.2⟩

theorem mem_commit_soup {s : Sys D} {b now : Nat} {r : Node D × List Out} {soup : List Msg} {m : Msg}
    (h : m ∈ (s.commit b now r soup).soup) :
    m ∈ soup ∨ (m.src = b ∧ m.sent = now ∧ s.blocked m.src m.dst = false ∧
      ∃ o ∈ r.2, m.kind = o.kind ∧ m.dst = o.dst ∧ m.upds = o.upds) := by
  rcases List.mem_append.mp (show m ∈ soup ++ s.routed (stamp b now s.nextId r.2) from h) with h | h
  · exact Or.inl h
  · obtain ⟨h1, h2, h3⟩ := mem_stamp (mem_routed h).1
    exact Or.inr ⟨h1, h2, (mem_routed h).2, h3⟩

theorem commit_nothing_sent (s : Sys D) (a now : Nat) (r : Node D × List Out) (soup : List Msg)
    (h : r.2 = []) : (s.commit a now r soup).soup = soup ∧ (s.commit a now r soup).nextId = s.nextId := by
  unfold Sys.commit
  simp [h, stamp, Sys.routed]

theorem whole_commit (s : Sys D) (a now : Nat) (r : Node D × List Out) (soup : List Msg) :
    (s.commit a now r soup).whole = s.whole := rfl

theorem crashed_commit (s : Sys D) (a now : Nat) (r : Node D × List Out) (soup : List Msg) :
    (s.commit a now r soup).isCrashed = s.isCrashed := rfl

structure AllUpds (S : Update → Prop) (s : Sys D) : Prop where
  nodes : ∀ a, ∀ u ∈ (s.node a).upds, S u
  soup : ∀ m ∈ s.soup, ∀ u ∈ m.upds, S u

theorem allUpds_step {S : Update → Prop} (hS : ∀ y inc, S ⟨y, .suspect, inc⟩) {c : Cfg} {s s' : Sys D}
    {act : Act} (h : Step c s act s') (I : AllUpds S s)
    (htm : ∀ b y t inc, s.isCrashed b = false → (s.node b).pendOf y = some t → t.kind = .susp →
      t.fire = act.time → S ⟨y, .dead, inc⟩) : AllUpds S s' := by
  cases h with
  | skip crashed cuts soup _ hsoup _ => exact ⟨I.nodes, fun m hm => I.soup m (hsoup m hm)⟩
  | fire b r soup hb hf =>
    have hr := hf.sends hS (I.nodes b) (htm b · · · hb)
    refine ⟨fun a => ?_, fun m hm => ?_⟩
    · by_cases hab : a = b
      · rw [hab, node_commit_same]
        exact hr.1
      · rw [node_commit_other hab]
        exact I.nodes a
    · rcases mem_commit_soup hm with h | ⟨_, _, _, o, ho, _, _, hu⟩
      · exact I.soup m (hf.soup_sub m h)
      · rw [hu]
        exact hr.2 o ho

theorem run_append (c : Cfg) (s : Sys D) (l1 l2 : List Act) :
    run c s (l1 ++ l2) = run c (run c s l1) l2 := by
  induction l1 generalizing s with
  | nil => rfl
  | cons act rest ih => exact ih _

def Along (c : Cfg) (P : Sys D → Act → Prop) : Sys D → List Act → Prop
  | _, [] => True
  | s, act :: rest => P s act ∧ Along c P (step c s act) rest

section along
variable {c : Cfg} {P Q : Sys D → Act → Prop} {s : Sys D} {acts : List Act}

theorem along_append {l1 l2 : List Act} :
    Along c P s (l1 ++ l2) ↔ Along c P s l1 ∧ Along c P (run c s l1) l2 := by
  induction l1 generalizing s with
  | nil => exact ⟨fun h => ⟨trivial, h⟩, fun h => h.2⟩
  | cons act rest ih => exact (and_congr_right fun _ => ih).trans and_assoc.symm

theorem along_of_forall (h : ∀ s act, P s act) (s : Sys D) (acts : List Act) : Along c P s acts := by
  induction acts generalizing s with
  | nil => trivial
  | cons act rest ih => exact ⟨h s act, ih _⟩

theorem Along.and (h1 : Along c P s acts) (h2 : Along c Q s acts) :
    Along c (fun s act => P s act ∧ Q s act) s acts := by
  induction acts generalizing s with
  | nil => trivial
  | cons act rest ih => exact ⟨⟨h1.1, h2.1⟩, ih h1.2 h2.2⟩

theorem Along.imp_mem (h : ∀ s, ∀ act ∈ acts, P s act → Q s act) (h1 : Along c P s acts) :
    Along c Q s acts := by
  induction acts generalizing s with
  | nil => trivial
  | cons act rest ih =>
    exact ⟨h _ _ (List.mem_cons_self ..) h1.1, ih (fun s b hb => h s b (List.mem_cons_of_mem _ hb)) h1.2⟩

theorem Along.imp (h : ∀ s act, P s act → Q s act) (h1 : Along c P s acts) : Along c Q s acts :=
  h1.imp_mem fun s act _ => h s act

theorem Along.inv {I : Sys D → Prop} (hstep : ∀ s act, I s → P s act → I (step c s act)) (h0 : I s)
    (h : Along c P s acts) : Along c (fun s act => I s ∧ P s act) s acts := by
  induction acts generalizing s with
  | nil => trivial
  | cons act rest ih => exact ⟨⟨h0, h.1⟩, ih (hstep s act h0 h.1) h.2⟩

theorem run_along {I : Sys D → Prop} (hstep : ∀ s act, I s → P s act → I (step c s act))
    (h0 : I s) (h : Along c P s acts) : I (run c s acts) := by
  induction acts generalizing s with
  | nil => exact h0
  | cons act rest ih => exact ih (hstep s act h0 h.1) h.2

theorem run_inv {I : Sys D → Prop} (hstep : ∀ s act, I s → I (step c s act)) (acts : List Act)
    (h0 : I s) : I (run c s acts) :=
  run_along (fun s act h (_ : True) => hstep s act h) h0 (along_of_forall (fun _ _ => trivial) s acts)

end along

end HappyModel.C13
