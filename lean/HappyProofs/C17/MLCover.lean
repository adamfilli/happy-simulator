import HappyProofs.C17.MLShape
/-!
The invariant behind quiescent convergence of the mesh models (`ML.InvC`, `MLM.InvC`), once.

A version is *written* when a write handler carries it (handlers are never removed).  For a write
handler that has passed its first segment (installed locally, `Replicate` sent to every peer) every
replica `i` is `Covered`: its version of the key is already at or above the written one (`Ge`), or the
`Replicate` is still in flight to `i`, or the `_handle_replicate` process for it at `i` has not finished.
Every version held, or copied into an anti-entropy message / handler, is bounded by the written ones (`B`).
What differs between the models — `Pw` (what holds of written versions), the bound `B`, the order `Ge` and
what `_install` does to them — is a parameter.  The mesh enters in one place (`hpeers` of `step_cov`): when a write
handler has sent its `Replicate`s, every other leader must have got one.
-/
namespace HappyModel.C17.LN
open HappyModel.C17.ML (St Version Msg Proc MKind PKind versionsOf vcTick)

/-- some write handler carries `(k, v)` -/
def Written (c : Core) (k : Nat) (v : Version) : Prop :=
  ∃ pid p, c.procs pid = some p ∧ p.kind = .write ∧ p.key = k ∧ p.ver = v

def MsgCarrier (c : Core) (i k : Nat) (v : Version) : Prop :=
  ∃ mid m, c.msgs mid = some m ∧ m.kind = .repl ∧ m.dst = i ∧ m.key = k ∧ m.ver = v ∧ m.delivered = false

def ProcCarrier (c : Core) (i k : Nat) (v : Version) : Prop :=
  ∃ pid p, c.procs pid = some p ∧ p.kind = .repl ∧ p.node = i ∧ p.key = k ∧ p.ver = v ∧ p.fin = false

def Bound (B : Nat → (Nat → Version → Prop) → Nat → Version → Prop) : Prop :=
  ∀ n W W', (∀ k v, W k v → W' k v) → ∀ k u, B n W k u → B n W' k u

section
variable (Pw : Nat → Version → Prop) (B : Nat → (Nat → Version → Prop) → Nat → Version → Prop)
  (Ge : Nat → Option Version → Version → Prop)

def Covered (c : Core) (i k : Nat) (v : Version) : Prop :=
  Ge c.n (c.vers i k) v ∨ MsgCarrier c i k v ∨ ProcCarrier c i k v

def ItemsB (c : Core) (items : List (Nat × Version)) : Prop := ∀ kv, kv ∈ items → B c.n (Written c) kv.1 kv.2

structure InvG (c : Core) : Prop where
  freshP : ∀ pid, c.np ≤ pid → c.procs pid = none
  freshM : ∀ mid, c.nm ≤ mid → c.msgs mid = none
  wr : ∀ pid p, c.procs pid = some p → p.kind = .write → Pw p.key p.ver ∧ 1 ≤ p.seg ∧ (p.fin = true → 2 ≤ p.seg)
  versB : ∀ i k v, c.vers i k = some v → B c.n (Written c) k v
  store : ∀ i k, c.store i k = (c.vers i k).map (·.val)
  msgB : ∀ mid m, c.msgs mid = some m → (m.kind = .repl → Written c m.key m.ver) ∧ ItemsB B c m.items
  procB : ∀ pid p, c.procs pid = some p → (p.kind = .repl → Written c p.key p.ver) ∧ ItemsB B c p.items
  cov : ∀ pid p, c.procs pid = some p → p.kind = .write → 2 ≤ p.seg → ∀ i, i < c.n → Covered Ge c i p.key p.ver

variable {Pw B Ge} {s : St}

theorem spawn_keeps (hf : ∀ pid, s.np ≤ pid → s.procs pid = none) (p : Proc) {pid q}
    (h : s.procs pid = some q) : (s.spawn p).procs pid = some q := by
  have : pid ≠ s.np := fun e => by rw [e, hf _ (Nat.le_refl _)] at h; cases h
  exact (upd_other _ _ _ _ this).trans h

theorem send_keeps (hf : ∀ mid, s.nm ≤ mid → s.msgs mid = none) (m : Msg) {mid q}
    (h : s.msgs mid = some q) : (s.send m).msgs mid = some q := by
  have : mid ≠ s.nm := fun e => by rw [e, hf _ (Nat.le_refl _)] at h; cases h
  exact (upd_other _ _ _ _ this).trans h

theorem msgCarrier_send (hf : ∀ mid, s.nm ≤ mid → s.msgs mid = none) (m : Msg) {i k v} :
    MsgCarrier (core s) i k v → MsgCarrier (core (s.send m)) i k v :=
  fun ⟨mid, q, h1, h2⟩ => ⟨mid, q, send_keeps hf m h1, h2⟩

theorem inv_spawn (hB : Bound B) (h : InvG Pw B Ge (core s)) (p : Proc)
    (hw : p.kind = .write → Pw p.key p.ver ∧ p.seg = 1 ∧ p.fin = false)
    (hr : p.kind = .repl → Written (core s) p.key p.ver) (hi : ItemsB B (core s) p.items) :
    InvG Pw B Ge (core (s.spawn p)) := by
  have W : ∀ {k v}, Written (core s) k v → Written (core (s.spawn p)) k v :=
    fun ⟨pid, q, h1, h2⟩ => ⟨pid, q, spawn_keeps h.freshP p h1, h2⟩
  have G : ∀ {k v}, B s.n (Written (core s)) k v → B s.n (Written (core (s.spawn p))) k v :=
    hB _ _ _ (fun _ _ => W) _ _
  refine ⟨?_, h.freshM, ?_, ?_, h.store, ?_, ?_, ?_⟩
  · intro pid hp
    have hp' : s.np + 1 ≤ pid := hp
    exact (upd_other _ _ _ _ (Nat.ne_of_gt hp')).trans (h.freshP pid (Nat.le_of_succ_le hp'))
  · intro pid q hq hk
    rcases upd_some hq with ⟨_, rfl⟩ | ⟨_, hq⟩
    · obtain ⟨a, b, d⟩ := hw hk
      exact ⟨a, Nat.le_of_eq b.symm, fun hf => by rw [d] at hf; cases hf⟩
    · exact h.wr pid q hq hk
  · intro i k v hv; exact G (h.versB i k v hv)
  · intro mid m hm
    obtain ⟨a, b⟩ := h.msgB mid m hm
    exact ⟨fun hk => W (a hk), fun kv hkv => G (b kv hkv)⟩
  · intro pid q hq
    rcases upd_some hq with ⟨_, rfl⟩ | ⟨_, hq⟩
    · exact ⟨fun hk => W (hr hk), fun kv hkv => G (hi kv hkv)⟩
    · obtain ⟨a, b⟩ := h.procB pid q hq
      exact ⟨fun hk => W (a hk), fun kv hkv => G (b kv hkv)⟩
  · intro pid q hq hk hseg i hi'
    rcases upd_some hq with ⟨_, rfl⟩ | ⟨_, hq⟩
    · rw [(hw hk).2.1] at hseg; cases hseg with | step h => cases h
    · rcases h.cov pid q hq hk hseg i hi' with g | g | g
      · exact Or.inl g
      · exact Or.inr (Or.inl g)
      · obtain ⟨pid', q', g1, g2⟩ := g
        exact Or.inr (Or.inr ⟨pid', q', spawn_keeps h.freshP p g1, g2⟩)

theorem inv_send (h : InvG Pw B Ge (core s)) (m : Msg)
    (hr : m.kind = .repl → Written (core s) m.key m.ver) (hi : ItemsB B (core s) m.items) :
    InvG Pw B Ge (core (s.send m)) := by
  refine ⟨h.freshP, ?_, h.wr, h.versB, h.store, ?_, h.procB, ?_⟩
  · intro mid hp
    have hp' : s.nm + 1 ≤ mid := hp
    exact (upd_other _ _ _ _ (Nat.ne_of_gt hp')).trans (h.freshM mid (Nat.le_of_succ_le hp'))
  · intro mid q hq
    rcases upd_some hq with ⟨_, rfl⟩ | ⟨_, hq⟩
    · exact ⟨hr, hi⟩
    · exact h.msgB mid q hq
  · intro pid q hq hk hseg i hi'
    rcases h.cov pid q hq hk hseg i hi' with g | g | g
    · exact Or.inl g
    · exact Or.inr (Or.inl (msgCarrier_send h.freshM m g))
    · exact Or.inr (Or.inr g)

theorem written_setProc {pid : Nat} {p0 p' : Proc} (h0 : s.procs pid = some p0)
    (hk : p'.kind = p0.kind) (hkey : p'.key = p0.key) (hv : p'.ver = p0.ver) {k v} :
    Written (core s) k v → Written (core (s.setProc pid p')) k v := by
  rintro ⟨pid1, q, h1, h2, h3, h4⟩
  by_cases e : pid1 = pid
  · subst e
    cases h0.symm.trans h1
    exact ⟨pid1, p', upd_same .., hk.trans h2, hkey.trans h3, hv.trans h4⟩
  · exact ⟨pid1, q, (upd_other _ _ _ _ e).trans h1, h2, h3, h4⟩

/-- `hcov`: a write handler in its second segment must have every replica covered; `hcar`: a `Replicate`
handler that finishes must have left its replica covered -/
theorem inv_setProc (hB : Bound B) (h : InvG Pw B Ge (core s)) {pid : Nat} {p0 p' : Proc}
    (h0 : s.procs pid = some p0) (hk : p'.kind = p0.kind) (hkey : p'.key = p0.key) (hv : p'.ver = p0.ver)
    (hnode : p'.node = p0.node)
    (hseg : p'.kind = .write → 1 ≤ p'.seg ∧ (p'.fin = true → 2 ≤ p'.seg))
    (hi : ItemsB B (core s) p'.items)
    (hcov : p'.kind = .write → 2 ≤ p'.seg → ∀ i, i < s.n → Covered Ge (core s) i p'.key p'.ver)
    (hcar : p0.kind = .repl → p'.fin = false ∨ Ge s.n (s.vers p0.node p0.key) p0.ver) :
    InvG Pw B Ge (core (s.setProc pid p')) := by
  have W : ∀ {k v}, Written (core s) k v → Written (core (s.setProc pid p')) k v := written_setProc h0 hk hkey hv
  have G : ∀ {k v}, B s.n (Written (core s)) k v → B s.n (Written (core (s.setProc pid p'))) k v :=
    hB _ _ _ (fun _ _ => W) _ _
  have C : ∀ {i k v}, Covered Ge (core s) i k v → Covered Ge (core (s.setProc pid p')) i k v := by
    intro i k v hc
    rcases hc with g | g | ⟨pid1, q, g1, g2, g3, g4, g5, g6⟩
    · exact Or.inl g
    · exact Or.inr (Or.inl g)
    · by_cases e : pid1 = pid
      · subst e
        cases h0.symm.trans g1
        rcases hcar g2 with hf | hg
        · exact Or.inr (Or.inr ⟨pid1, p', upd_same .., hk.trans g2, hnode.trans g3, hkey.trans g4, hv.trans g5, hf⟩)
        · rw [g3, g4, g5] at hg; exact Or.inl hg
      · exact Or.inr (Or.inr ⟨pid1, q, (upd_other _ _ _ _ e).trans g1, g2, g3, g4, g5, g6⟩)
  refine ⟨?_, h.freshM, ?_, ?_, h.store, ?_, ?_, ?_⟩
  · intro pid1 hp
    have : pid1 ≠ pid := fun e => by subst e; exact nomatch h0.symm.trans (h.freshP _ hp)
    exact (upd_other _ _ _ _ this).trans (h.freshP pid1 hp)
  · intro pid1 q hq hkq
    rcases upd_some hq with ⟨rfl, rfl⟩ | ⟨_, hq⟩
    · have := (h.wr pid1 p0 h0 (hk.symm.trans hkq)).1
      rw [← hkey, ← hv] at this
      exact ⟨this, hseg hkq⟩
    · exact h.wr pid1 q hq hkq
  · intro i k v hv'; exact G (h.versB i k v hv')
  · intro mid m hm
    obtain ⟨a, b⟩ := h.msgB mid m hm
    exact ⟨fun hk' => W (a hk'), fun kv hkv => G (b kv hkv)⟩
  · intro pid1 q hq
    rcases upd_some hq with ⟨rfl, rfl⟩ | ⟨_, hq⟩
    · refine ⟨fun hk' => ?_, fun kv hkv => G (hi kv hkv)⟩
      have := W ((h.procB pid1 p0 h0).1 (hk.symm.trans hk'))
      rw [← hkey, ← hv] at this; exact this
    · obtain ⟨a, b⟩ := h.procB pid1 q hq
      exact ⟨fun hk' => W (a hk'), fun kv hkv => G (b kv hkv)⟩
  · intro pid1 q hq hkq hs i hi'
    rcases upd_some hq with ⟨_, rfl⟩ | ⟨_, hq⟩
    · exact C (hcov hkq hs i hi')
    · exact C (h.cov pid1 q hq hkq hs i hi')

theorem inv_setProc_other (hB : Bound B) (h : InvG Pw B Ge (core s)) {pid : Nat} {p0 p' : Proc}
    (h0 : s.procs pid = some p0) (hk : p'.kind = p0.kind) (hkey : p'.key = p0.key) (hv : p'.ver = p0.ver)
    (hnode : p'.node = p0.node) (hnw : p'.kind ≠ .write) (hnr : p'.kind ≠ .repl)
    (hi : ItemsB B (core s) p'.items) : InvG Pw B Ge (core (s.setProc pid p')) :=
  inv_setProc hB h h0 hk hkey hv hnode (fun e => absurd e hnw) hi (fun e => absurd e hnw)
    (fun e => absurd (hk ▸ e) hnr)

/-- `hcar`: the replica a `Replicate` was in flight to is covered some other way -/
theorem inv_setMsg (h : InvG Pw B Ge (core s)) {mid : Nat} {m0 m' : Msg} (h0 : s.msgs mid = some m0)
    (hk : m'.kind = m0.kind) (hkey : m'.key = m0.key) (hv : m'.ver = m0.ver) (hitems : m'.items = m0.items)
    (hcar : m0.kind = .repl → m0.delivered = false →
      Ge s.n (s.vers m0.dst m0.key) m0.ver ∨ ProcCarrier (core s) m0.dst m0.key m0.ver) :
    InvG Pw B Ge (core (s.setMsg mid m')) := by
  refine ⟨h.freshP, ?_, h.wr, h.versB, h.store, ?_, h.procB, ?_⟩
  · intro mid1 hp
    have : mid1 ≠ mid := fun e => by subst e; exact nomatch h0.symm.trans (h.freshM _ hp)
    exact (upd_other _ _ _ _ this).trans (h.freshM mid1 hp)
  · intro mid1 q hq
    rcases upd_some hq with ⟨_, rfl⟩ | ⟨_, hq⟩
    · rw [hk, hkey, hv, hitems]; exact h.msgB mid m0 h0
    · exact h.msgB mid1 q hq
  · intro pid q hq hkq hs i hi'
    rcases h.cov pid q hq hkq hs i hi' with g | ⟨mid1, m, g1, g2, g3, g4, g5, g6⟩ | g
    · exact Or.inl g
    · by_cases e : mid1 = mid
      · subst e
        cases h0.symm.trans g1
        rcases hcar g2 g6 with hg | hg
        · rw [g3, g4, g5] at hg; exact Or.inl hg
        · rw [g3, g4, g5] at hg; exact Or.inr (Or.inr hg)
      · exact Or.inr (Or.inl ⟨mid1, m, (upd_other _ _ _ _ e).trans g1, g2, g3, g4, g5, g6⟩)
    · exact Or.inr (Or.inr g)

theorem versionsOf_bound (h : InvG Pw B Ge (core s)) (i : Nat) : ItemsB B (core s) (versionsOf s i) := by
  intro kv hkv
  obtain ⟨k, _, hk⟩ := List.mem_filterMap.mp hkv
  cases hv : s.vers i k with
  | none => rw [hv] at hk; cases hk
  | some v =>
    rw [hv] at hk; cases hk
    exact h.versB i k v hv

/-- handler `pid` is `q` in `s`; `p` is what the merge loop was started with -/
theorem inv_aeContinue (hB : Bound B) {r : Res} {s' : St} {pid : Nat} {p p' q : Proc}
    {items : List (Nat × Version)} (sh : AeShape r s pid p items p' s') (h : InvG Pw B Ge (core s))
    (hq : s.procs pid = some q) (hk : p.kind = q.kind) (hkey : p.key = q.key) (hv : p.ver = q.ver)
    (hnode : p.node = q.node) (hae : p.kind = .aereq ∨ p.kind = .aeresp) (hi : ItemsB B (core s) items) :
    InvG Pw B Ge (core s') := by
  have hnw : p'.kind ≠ .write := by rw [sh.kind]; rcases hae with e | e <;> rw [e] <;> exact fun c => nomatch c
  have hnr : p'.kind ≠ .repl := by rw [sh.kind]; rcases hae with e | e <;> rw [e] <;> exact fun c => nomatch c
  rcases sh.eq with e | ⟨_, _, e⟩
  · rw [e]
    exact inv_setProc_other hB h hq (sh.kind.trans hk) (sh.key.trans hkey) (sh.ver.trans hv) (sh.node.trans hnode)
      hnw hnr (fun kv hkv => hi kv (sh.sub kv hkv))
  · rw [e]
    exact inv_setProc_other hB (inv_send h _ (fun c => by cases c) (versionsOf_bound h p.node)) hq
      (sh.kind.trans hk) (sh.key.trans hkey) (sh.ver.trans hv) (sh.node.trans hnode) hnw hnr
      (fun kv hkv => hi kv (sh.sub kv hkv))

theorem inv_foldl_send (mk : Nat → Msg) (k : Nat) (v : Version)
    (hmk : ∀ j, (mk j).kind = .repl ∧ (mk j).dst = j ∧ (mk j).key = k ∧ (mk j).ver = v ∧
      (mk j).delivered = false ∧ (mk j).items = []) :
    ∀ (l : List Nat) (s : St), InvG Pw B Ge (core s) → Written (core s) k v →
      InvG Pw B Ge (core (l.foldl (fun s j => s.send (mk j)) s)) ∧
      (l.foldl (fun s j => s.send (mk j)) s).vers = s.vers ∧
      (l.foldl (fun s j => s.send (mk j)) s).procs = s.procs ∧
      (l.foldl (fun s j => s.send (mk j)) s).n = s.n ∧
      (∀ j, j ∈ l → MsgCarrier (core (l.foldl (fun s j => s.send (mk j)) s)) j k v) ∧
      (∀ i k' v', MsgCarrier (core s) i k' v' → MsgCarrier (core (l.foldl (fun s j => s.send (mk j)) s)) i k' v')
  | [], _, h, _ => ⟨h, rfl, rfl, rfl, fun _ hj => (by cases hj), fun _ _ _ g => g⟩
  | j :: l, s, h, hw => by
    obtain ⟨m1, m2, m3, m4, m5, m6⟩ := hmk j
    have h1 : InvG Pw B Ge (core (s.send (mk j))) :=
      inv_send h (mk j) (fun _ => by rw [m3, m4]; exact hw) (by rw [m6]; exact fun _ hkv => (by cases hkv))
    obtain ⟨hinv, evers, eprocs, en, carried, kept⟩ := inv_foldl_send mk k v hmk l (s.send (mk j)) h1 hw
    refine ⟨hinv, evers, eprocs, en, fun j' hj' => ?_, fun i k' v' g => kept i k' v' (msgCarrier_send h.freshM (mk j) g)⟩
    rcases List.mem_cons.mp hj' with e | e
    · subst e
      exact kept _ _ _ ⟨s.nm, mk j', upd_same .., m1, m2, m3, m4, m5⟩
    · exact carried j' e

/-- `hb`: what `_install` leaves is bounded; `hge`: it is at or above whatever the replica was at or above -/
theorem inv_inst (h : InvG Pw B Ge (core s)) (r : Res) (i k : Nat) (inc : Version)
    (hb : ∀ w, r.merged (s.vers i k) inc = some w → B s.n (Written (core s)) k w)
    (hge : ∀ v, Ge s.n (s.vers i k) v → Ge s.n (r.merged (s.vers i k) inc) v) :
    InvG Pw B Ge (core (r.inst s i k inc)) := by
  have hst := r.inst_store s i k inc h.store
  have hvs := r.inst_vers s i k inc
  unfold Res.inst at hst hvs ⊢
  split
  · rename_i ht
    rw [if_pos ht] at hst hvs
    refine ⟨h.freshP, h.freshM, h.wr, fun i' k' w hw => ?_, hst, h.msgB, h.procB, fun pid q hq hkq hs i' hi' => ?_⟩
    · have hw' := (hvs i' k').symm.trans hw
      split at hw'
      · rename_i e; rw [e.2]; exact hb w hw'
      · exact h.versB i' k' w hw'
    · rcases h.cov pid q hq hkq hs i' hi' with g | g | g
      · left
        show Ge s.n ((s.setVer i k _).vers i' q.key) q.ver
        rw [hvs]
        split
        · rename_i e; rw [e.1, e.2] at g; exact hge _ g
        · exact g
      · exact Or.inr (Or.inl g)
      · exact Or.inr (Or.inr g)
  · exact h

/-- `BW`: a written version is bounded; `hcw`: what the model knows of a freshly stamped version; `hb`, `hge`: as in
`inv_inst`, and what `_install` leaves is at or above the incoming version; `hrefuse`: a written version that would
not be taken is already covered; `hpeers`: full mesh -/
theorem step_cov (hB : Bound B) {r : Res} {s' : St} {a : Act} (sh : StepShape r s a s') (h : InvG Pw B Ge (core s))
    (BW : ∀ {k v}, Written (core s) k v → B s.n (Written (core s)) k v)
    (hcw : ∀ op node k v, a = .cw op node k v → node < s.n → Pw k ⟨v, s.now, node, vcTick s.n (s.clock node) node⟩)
    (hb : ∀ i k inc, B s.n (Written (core s)) k inc → ∀ w, r.merged (s.vers i k) inc = some w →
      B s.n (Written (core s)) k w)
    (hge : ∀ i k inc, B s.n (Written (core s)) k inc → Ge s.n (r.merged (s.vers i k) inc) inc ∧
      ∀ v, Ge s.n (s.vers i k) v → Ge s.n (r.merged (s.vers i k) inc) v)
    (hrefuse : ∀ i k v, Written (core s) k v → r.takes (s.vers i k) v = false → Ge s.n (s.vers i k) v)
    (hpeers : ∀ i j, i < s.n → i ≠ j → i ∈ r.peers j) : InvG Pw B Ge (core s') := by
  have hinst : ∀ i k inc, B s.n (Written (core s)) k inc →
      InvG Pw B Ge (core (r.inst s i k inc)) ∧ Ge s.n ((r.inst s i k inc).vers i k) inc :=
    fun i k inc hi => ⟨inv_inst h r i k inc (hb i k inc hi) (hge i k inc hi).2,
      (r.inst_vers s i k inc i k).trans (if_pos ⟨rfl, rfl⟩) ▸ (hge i k inc hi).1⟩
  -- `_install` changes no handler, so nothing written is lost and every bound stays
  have instW : ∀ i k inc {k' v}, Written (core s) k' v → Written (core (r.inst s i k inc)) k' v :=
    fun i k inc _ _ ⟨pid, q, h1, h2⟩ => ⟨pid, q, (congrFun (r.inst_frame s i k inc).2.2.1 pid).trans h1, h2⟩
  have instB : ∀ i k inc {k' v}, B s.n (Written (core s)) k' v →
      B (r.inst s i k inc).n (Written (core (r.inst s i k inc))) k' v :=
    fun i k inc => (r.inst_frame s i k inc).1 ▸ hB _ _ _ (fun _ _ => instW i k inc) _ _
  cases sh with
  | fail e hv he => rw [he]; exact h
  | tick t ha he => rw [he]; exact h
  | cw op node k v ha hn he =>
    rw [he]
    exact inv_spawn hB h _ (fun _ => ⟨hcw op node k v ha hn, rfl, rfl⟩) (fun e => nomatch e) (fun _ hkv => nomatch hkv)
  | cr op node k ha hn he =>
    rw [he]
    exact inv_spawn hB h _ (fun e => nomatch e) (fun e => nomatch e) (fun _ hkv => nomatch hkv)
  | ae node peer ha hn hp hl he =>
    rw [he]
    exact inv_spawn hB (inv_send h _ (fun e => by cases e) (versionsOf_bound h node)) _
      (fun e => nomatch e) (fun e => nomatch e) (fun _ hkv => nomatch hkv)
  | dlRepl mid m fin ha h0 hd hk hfin he =>
    rw [he]
    have hw : Written (core s) m.key m.ver := (h.msgB mid m h0).1 hk
    have hs := inv_spawn hB h ({ kind := .repl, node := m.dst, key := m.key, ver := m.ver, op := mid, fin := fin } : Proc)
      (fun e => nomatch e) (fun _ => hw) (fun _ hkv => nomatch hkv)
    refine inv_setMsg hs (m0 := m) (m' := { m with delivered := true }) h0 rfl rfl rfl rfl (fun _ _ => ?_)
    cases ht : r.takes (s.vers m.dst m.key) m.ver with
    | true =>
      rw [ht] at hfin
      exact Or.inr ⟨s.np, _, upd_same .., rfl, rfl, rfl, rfl, hfin⟩
    | false => exact Or.inl (hrefuse m.dst m.key m.ver hw ht)
  | dlAe mid m p p' ha h0 hd hk hpk hpk2 hnode hsrc hop hfin hsent hitems sh =>
    have h1 : InvG Pw B Ge (core (s.setMsg mid { m with delivered := true })) :=
      inv_setMsg h h0 rfl rfl rfl rfl (fun e => by rcases hk with c | c <;> rw [c] at e <;> cases e)
    have h2 := inv_spawn hB h1 p (fun e => by rcases hpk2 with c | c <;> rw [c] at e <;> cases e)
      (fun e => by rcases hpk2 with c | c <;> rw [c] at e <;> cases e) (by rw [hitems]; exact fun _ hkv => nomatch hkv)
    exact inv_aeContinue hB sh h2 (upd_same ..) rfl rfl rfl rfl hpk2
      (h2.msgB mid { m with delivered := true } (upd_same ..)).2
  | write1 pid p0 ha h0 hf hk hs he =>
    rw [he]
    have hw : Written (core s) p0.key p0.ver := ⟨pid, p0, h0, hk, rfl, rfl⟩
    obtain ⟨i1, i2⟩ := hinst p0.node p0.key p0.ver (BW hw)
    obtain ⟨f1, _, f3, _⟩ := r.inst_frame s p0.node p0.key p0.ver
    obtain ⟨hsent, evers, eprocs, en, carried, _⟩ := inv_foldl_send
      (fun j => ({ kind := .repl, src := p0.node, dst := j, key := p0.key, ver := p0.ver } : Msg))
      p0.key p0.ver (fun j => ⟨rfl, rfl, rfl, rfl, rfl, rfl⟩) (r.peers p0.node) _ i1 (instW _ _ _ hw)
    refine inv_setProc hB hsent (p0 := p0) (by rw [eprocs, f3]; exact h0) rfl rfl rfl rfl
      (fun _ => ⟨Nat.le_add_left 1 _, fun e => nomatch hf.symm.trans e⟩) ?_ ?_ (fun e => nomatch hk.symm.trans e)
    · intro kv hkv
      show B (St.n (List.foldl _ _ _)) _ _ _
      rw [en]
      exact hB _ _ _ (fun k v ⟨pid', q, g1, g2⟩ => ⟨pid', q, (congrFun eprocs pid').trans g1, g2⟩) _ _
        (instB _ _ _ ((h.procB pid p0 h0).2 kv hkv))
    · intro _ _ i hi
      have hi : i < s.n := f1 ▸ en ▸ hi
      by_cases e : i = p0.node
      · left
        show Ge (St.n (List.foldl _ _ _)) (St.vers (List.foldl _ _ _) i p0.key) p0.ver
        rw [evers, en, f1, e]; exact i2
      · -- every other leader is a peer and its `Replicate` is in flight
        exact Or.inr (Or.inl (carried i (hpeers i p0.node hi e)))
  | write2 pid p0 ha h0 hf hk hs he =>
    rw [he]
    have hwr := (h.wr pid p0 h0 hk).2
    have h2 : 2 ≤ p0.seg := Nat.lt_of_le_of_ne hwr.1 (Ne.symm hs)
    exact inv_setProc hB h h0 rfl rfl rfl rfl (fun _ => ⟨Nat.le_add_left 1 _, fun _ => Nat.le_succ_of_le h2⟩)
      (h.procB pid p0 h0).2 (fun _ _ i hi => h.cov pid p0 h0 hk h2 i hi) (fun e => nomatch hk.symm.trans e)
  | repl pid p0 ha h0 hf hk he =>
    rw [he]
    obtain ⟨i1, i2⟩ := hinst p0.node p0.key p0.ver (BW ((h.procB pid p0 h0).1 hk))
    obtain ⟨f1, _, f3, _⟩ := r.inst_frame s p0.node p0.key p0.ver
    exact inv_setProc hB i1 (p0 := p0) ((congrFun f3 pid).trans h0) rfl rfl rfl rfl (fun e => nomatch hk.symm.trans e)
      (fun kv hkv => instB _ _ _ ((h.procB pid p0 h0).2 kv hkv)) (fun e => nomatch hk.symm.trans e)
      (fun _ => Or.inr (f1 ▸ i2))
  | quiet pid p0 rep ha h0 hf hk he =>
    rw [he]
    exact inv_setProc_other hB h h0 rfl rfl rfl rfl (fun e => by rcases hk with c | c <;> rw [c] at e <;> cases e)
      (fun e => by rcases hk with c | c <;> rw [c] at e <;> cases e) (h.procB pid p0 h0).2
  | sent pid p0 ha h0 hf hk hs he =>
    rw [he]
    exact inv_setProc_other hB h h0 rfl rfl rfl rfl (fun e => by rcases hk with c | c <;> rw [c] at e <;> cases e)
      (fun e => by rcases hk with c | c <;> rw [c] at e <;> cases e) (h.procB pid p0 h0).2
  | wait pid p0 p' k v rest ha h0 hf hk hs hit sh =>
    have hiw : ItemsB B (core s) ((k, v) :: rest) := hit ▸ (h.procB pid p0 h0).2
    exact inv_aeContinue hB sh (hinst p0.node k v (hiw (k, v) (List.mem_cons_self ..))).1 (q := p0)
      ((congrFun (r.inst_frame s p0.node k v).2.2.1 pid).trans h0) rfl rfl rfl rfl hk
      (fun kv hkv => instB _ _ _ (hiw kv (List.mem_cons_of_mem _ hkv)))

/-- of the three ways a replica can be `Covered`, the message and the handler are gone -/
theorem InvG.ge_of_replQuiet {c : Core} (h : InvG Pw B Ge c) (hq : ReplQuiet c) {k : Nat} {v : Version}
    (hw : Written c k v) (i : Nat) (hi : i < c.n) : Ge c.n (c.vers i k) v := by
  obtain ⟨pid, p, hp, hk, rfl, rfl⟩ := hw
  have hseg := (h.wr pid p hp hk).2.2 (hq.2 pid p hp (.inl hk))
  rcases h.cov pid p hp hk hseg i hi with g | ⟨mid, m, g1, g2, _, _, _, g6⟩ | ⟨pid', p', g1, g2, _, _, _, g6⟩
  · exact g
  · exact absurd (hq.1 mid m g1 g2) (by rw [g6]; exact Bool.false_ne_true)
  · exact absurd (hq.2 pid' p' g1 (.inr g2)) (by rw [g6]; exact Bool.false_ne_true)

end

end HappyModel.C17.LN
