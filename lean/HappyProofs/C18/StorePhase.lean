import HappyProofs.C18.StoreJudgeInv
/-!
`Phase` is what every piece of a protocol step (a message built, a message merged, their compositions)
guarantees; the invariants `TInv` carry over a step because every step has a `Phase`: a write directly, the
gossip steps as such compositions.
Message `m` is the entity `n + m` of the replica systems, after the `n` stores.
-/
namespace HappyModel.C18

theorem mem_keyOps (k : Nat) (ops : List (Nat × XOp)) (o : COp) :
    o ∈ keyOps k ops ↔ (k, XOp.base o) ∈ ops := by
  simp only [keyOps, List.mem_filterMap]
  constructor
  · rintro ⟨⟨j, x⟩, he, hx⟩
    by_cases hj : j = k
    · subst hj
      simp only [if_true] at hx
      cases x <;> simp [XOp.toCOp?] at hx
      subst hx; exact he
    · simp [hj] at hx
  · intro h
    exact ⟨(k, XOp.base o), h, by simp [XOp.toCOp?]⟩

theorem holds_keysOf (p : PSt) (s key : Nat) :
    p.holds s key = true ↔ key ∈ (p.keysOf s).map (·.1) := by
  rw [holds_iff]
  simp only [PSt.keysOf, List.map_map, List.mem_map, List.mem_filter, beq_iff_eq, Function.comp]
  constructor
  · rintro ⟨e, he, h⟩
    exact ⟨e, ⟨he, by rw [h]⟩, by rw [h]⟩
  · rintro ⟨e, ⟨he, h1⟩, h2⟩
    exact ⟨e, he, Prod.ext h1 h2⟩

def Grows (p p' : PSt) : Prop := p'.n = p.n ∧ ∀ s key, p.holds s key = true → p'.holds s key = true

theorem Grows.refl (p : PSt) : Grows p p := ⟨rfl, fun _ _ h => h⟩
theorem Grows.trans {a b c : PSt} (h1 : Grows a b) (h2 : Grows b c) : Grows a c :=
  ⟨h2.1.trans h1.1, fun s k h => h2.2 s k (h1.2 s k h)⟩

theorem grows_hold (p : PSt) (s key nid : Nat) :
    Grows p { p with held := p.held ++ [((s, key), nid)] } := by
  refine ⟨rfl, fun s' k' h => ?_⟩
  rw [holds_iff] at h ⊢
  simp only [List.map_append, List.mem_append]
  exact Or.inl h

theorem holds_new (p : PSt) (s key nid : Nat) :
    ({ p with held := p.held ++ [((s, key), nid)] } : PSt).holds s key = true := by
  rw [holds_iff]; simp

theorem grows_adopt (p : PSt) (s key : Nat) :
    Grows p (p.adopt s key) ∧ (p.adopt s key).holds s key = true := by
  unfold PSt.adopt
  split
  · exact ⟨Grows.refl p, by assumption⟩
  · exact ⟨grows_hold p s key s, holds_new p s key s⟩

theorem grows_emit (p : PSt) (s d : Nat) (push : Bool) : Grows p (p.emit .repaired s d push).1 :=
  ⟨rfl, fun _ _ h => h⟩

theorem grows_mergeKeys (p : PSt) (d m : Nat) (keys : List (Nat × Nat)) :
    Grows p (p.mergeKeys .repaired d m keys).1 ∧
    ∀ key ∈ keys.map (·.1), (p.mergeKeys .repaired d m keys).1.holds d key = true := by
  induction keys generalizing p with
  | nil => exact ⟨Grows.refl p, by simp⟩
  | cons kn rest ih =>
    obtain ⟨key, rn⟩ := kn
    simp only [PSt.mergeKeys]
    split
    · rename_i hh
      refine ⟨(ih p).1, ?_⟩
      intro key' hk'
      simp only [List.map_cons, List.mem_cons] at hk'
      rcases hk' with rfl | hk'
      · exact (ih p).1.2 _ _ hh
      · exact (ih p).2 key' hk'
    · have g := grows_hold p d key (if Variant.repaired = Variant.repaired then d else rn)
      refine ⟨g.trans (ih _).1, ?_⟩
      intro key' hk'
      simp only [List.map_cons, List.mem_cons] at hk'
      rcases hk' with rfl | hk'
      · exact (ih _).1.2 _ _ (holds_new p d _ _)
      · exact (ih _).2 key' hk'

/-- an emitted operation whose origin is a store is on a key that store holds: with `JInv`, a store has
    received an update of a key only if it holds the key (`known_held`) -/
def Good (p : PSt) (ops : List (Nat × XOp)) : Prop :=
  ∀ e ∈ ops, ∀ o, e.2 = XOp.base o → o.origin < p.n → p.holds o.origin e.1 = true

theorem Good.mono {p p' : PSt} {ops : List (Nat × XOp)} (h : Good p ops) (g : Grows p p') :
    Good p' ops := fun e he o ho hn => g.2 _ _ (h e he o ho (by rw [← g.1]; exact hn))

theorem Good.append {p : PSt} {a b : List (Nat × XOp)} (ha : Good p a) (hb : Good p b) :
    Good p (a ++ b) := by
  intro e he
  rcases List.mem_append.mp he with h | h
  · exact ha e h
  · exact hb e h

theorem good_mergeKeys (p : PSt) (d m : Nat) (keys : List (Nat × Nat)) :
    Good (p.mergeKeys .repaired d m keys).1 (p.mergeKeys .repaired d m keys).2 := by
  intro e he o ho _
  obtain ⟨kn, hkn, rfl⟩ := List.mem_map.mp (mergeKeys_ops p d m keys ▸ he)
  cases ho
  exact (grows_mergeKeys p d m keys).2 kn.1 (List.mem_map_of_mem hkn)

def OBnd (b : Nat) (ops : List (Nat × XOp)) : Prop :=
  ∀ e ∈ ops, ∀ o, e.2 = XOp.base o → o.origin < b

theorem OBnd.mono {b b' : Nat} {ops : List (Nat × XOp)} (h : OBnd b ops) (hb : b ≤ b') : OBnd b' ops :=
  fun e he o ho => Nat.lt_of_lt_of_le (h e he o ho) hb

theorem OBnd.append {b : Nat} {x y : List (Nat × XOp)} (hx : OBnd b x) (hy : OBnd b y) : OBnd b (x ++ y) := by
  intro e he
  rcases List.mem_append.mp he with h | h
  · exact hx e h
  · exact hy e h

theorem obnd_nil (b : Nat) : OBnd b [] := by intro e he; simp at he

def Fresh (p : PSt) (ops : List (Nat × XOp)) : Prop := OBnd (p.n + p.msgs.length) ops

def WFPeers (n : Nat) (peers : List (List Nat)) : Prop := ∀ ps ∈ peers, ∀ q ∈ ps, q < n

def WFStep (n : Nat) : SStep → Prop
  | .w s _ _ => s < n
  | .tick s _ => s < n
  | .round s _ => s < n
  | .dl _ => True

instance (n : Nat) (peers : List (List Nat)) : Decidable (WFPeers n peers) := by
  unfold WFPeers; exact inferInstance
instance (n : Nat) (x : SStep) : Decidable (WFStep n x) := by
  cases x <;> simp only [WFStep] <;> exact inferInstance

def MsgsLt (n : Nat) (p : PSt) : Prop := ∀ m ∈ p.msgs, m.src < n ∧ m.dst < n

theorem peer_lt {n : Nat} {p : PSt} (hw : WFPeers n p.peers) (s j q : Nat) (qs : List Nat)
    (hp : p.peersOf s = q :: qs) : (q :: qs).getD (j % (q :: qs).length) q < n := by
  have hmem : ∀ x ∈ q :: qs, x < n := by
    intro x hx
    have hps : p.peersOf s ∈ p.peers := by
      unfold PSt.peersOf at hp ⊢
      by_cases hlt : s < p.peers.length
      · simp only [List.getD_eq_getElem?_getD, List.getElem?_eq_getElem hlt, Option.getD_some]
        exact List.getElem_mem hlt
      · simp [List.getD_eq_getElem?_getD, List.getElem?_eq_none (Nat.le_of_not_lt hlt)] at hp
    rw [hp] at hps
    exact hw _ hps x hx
  have hlt : j % (q :: qs).length < (q :: qs).length := Nat.mod_lt _ (by simp)
  rw [List.getD_eq_getElem?_getD, List.getElem?_eq_getElem hlt, Option.getD_some]
  exact hmem _ (List.getElem_mem hlt)

theorem emit_peers (p : PSt) (s d : Nat) (push : Bool) : (p.emit .repaired s d push).1.peers = p.peers := rfl

structure Phase (n : Nat) (p : PSt) (r : PSt × List (Nat × XOp)) (new : List Msg) : Prop where
  grows : Grows p r.1
  good : Good r.1 r.2
  peers : r.1.peers = p.peers
  msgs : r.1.msgs = p.msgs ++ new
  lt : MsgsLt n p → MsgsLt n r.1
  bnd : p.n = n → OBnd (n + r.1.msgs.length) r.2

theorem phase_id (n : Nat) (p : PSt) : Phase n p (p, []) [] :=
  ⟨Grows.refl p, (fun _ he => nomatch he), rfl, by simp, id, fun _ => obnd_nil _⟩

theorem Phase.comp {n : Nat} {p : PSt} {r1 r2 : PSt × List (Nat × XOp)} {n1 n2 : List Msg}
    (h1 : Phase n p r1 n1) (h2 : Phase n r1.1 r2 n2) : Phase n p (r2.1, r1.2 ++ r2.2) (n1 ++ n2) :=
  ⟨h1.grows.trans h2.grows, (h1.good.mono h2.grows).append h2.good, h2.peers.trans h1.peers,
   by rw [h2.msgs, h1.msgs, List.append_assoc], fun h => h2.lt (h1.lt h),
   fun hn => ((h1.bnd hn).mono (by simp [h2.msgs])).append (h2.bnd (h1.grows.1.trans hn))⟩

/-- a message built: its merges go into the new message entity, so nothing is asked of `Good`, and they
    are below the new message count -/
theorem phase_emit {n : Nat} (p : PSt) (s d : Nat) (push : Bool) (hs : s < n) (hd : d < n) :
    Phase n p (p.emit .repaired s d push) [⟨s, d, push, p.keysOf s⟩] where
  grows := grows_emit p s d push
  good := by
    intro e he o ho hn
    obtain ⟨kn, _, rfl⟩ := List.mem_map.mp (emit_ops p s d push ▸ he)
    cases ho
    exact absurd hn (Nat.not_lt.mpr (Nat.le_add_right _ _))
  peers := rfl
  msgs := rfl
  lt := by
    intro h m hm
    simp only [PSt.emit, List.mem_append, List.mem_singleton] at hm
    rcases hm with hm | rfl
    · exact h m hm
    · exact ⟨hs, hd⟩
  bnd := by
    rintro rfl e he o ho
    obtain ⟨kn, _, rfl⟩ := List.mem_map.mp (emit_ops p s d push ▸ he)
    cases ho
    simp [PSt.emit, COp.origin]

/-- a message merged: every merge is at the receiving store -/
theorem phase_mergeKeys {n : Nat} (p : PSt) (d m : Nat) (keys : List (Nat × Nat)) (hd : d < n) :
    Phase n p (p.mergeKeys .repaired d m keys) [] where
  grows := (grows_mergeKeys p d m keys).1
  good := good_mergeKeys p d m keys
  peers := (mergeKeys_msgs p d m keys).2
  msgs := by simp [(mergeKeys_msgs p d m keys).1]
  lt := fun h x hx => h x ((mergeKeys_msgs p d m keys).1 ▸ hx)
  bnd := by
    intro _ e he o ho
    obtain ⟨kn, _, rfl⟩ := List.mem_map.mp (mergeKeys_ops p d m keys ▸ he)
    cases ho
    exact Nat.lt_of_lt_of_le hd (Nat.le_add_right _ _)

/-- what the script induction carries.  `Fresh` is not a field: it travels beside `TInv` (`tinv_next`,
    `step_ok`), so `TInv` of an arbitrary state does not give it. -/
structure TInv (n : Nat) (j : JSt) (st : SSt) (ops : List (Nat × XOp)) : Prop where
  j : JInv n j st.p ops
  good : Good st.p ops
  lt : MsgsLt n st.p
  wfp : WFPeers n st.p.peers
  sys : ∀ k, sysAt st.sys k = Sys.run Sys.init (keyOps k ops)

theorem tinv_init (n : Nat) (peers : List (List Nat)) (hw : WFPeers n peers) :
    TInv n {} (SSt.init n peers) [] :=
  ⟨jinv_init n peers, by intro e he; simp at he, by intro m hm; simp [SSt.init] at hm, hw, sys_init n peers⟩

theorem tinv_next (kind : Kind) {n : Nat} {j : JSt} {st : SSt} {ops : List (Nat × XOp)}
    (h : TInv n j st ops) (x : SStep) (new : List Msg)
    (ph : Phase n st.p (st.p.step .repaired kind x) new) :
    TInv n (j.advance kind n (stepObs kind st x)) (st.step .repaired kind x)
      (ops ++ (st.p.step .repaired kind x).2) ∧
    (Fresh st.p ops → Fresh (st.p.step .repaired kind x).1 (ops ++ (st.p.step .repaired kind x).2)) := by
  refine ⟨⟨jinv_step kind h.j x _, (h.good.mono ph.grows).append ph.good, ph.lt h.lt, ?_, ?_⟩, ?_⟩
  · show WFPeers n (st.p.step .repaired kind x).1.peers
    rw [ph.peers]; exact h.wfp
  · exact sys_step kind h.sys x
  · intro hF
    unfold Fresh at hF ⊢
    rw [ph.grows.1, h.j.n_eq] at *
    exact (hF.mono (by simp [ph.msgs])).append (ph.bnd h.j.n_eq)

def BuiltAfter (n : Nat) (pa : PSt) (m : Msg) : Prop :=
  m.src < n ∧ ∃ q, Grows pa q ∧ m.keys = q.keysOf m.src

theorem step_w_phase {n : Nat} (kind : Kind) (p : PSt) (s key : Nat) (op : WOp) (hs : s < n) :
    Phase n p (p.step .repaired kind (.w s key op)) [] := by
  obtain ⟨_, hm, hp⟩ := adopt_rest p s key
  obtain ⟨hg, hh⟩ := grows_adopt p s key
  have ho : ∀ e ∈ (specOp kind s op).toList.map fun o => (key, XOp.base o), ∀ o, e.2 = XOp.base o →
      e.1 = key ∧ o.origin = s := by
    intro e he o ho
    obtain ⟨o', ho', rfl⟩ := List.mem_map.mp he
    cases ho
    exact ⟨rfl, specOp_origin (Option.mem_toList.mp ho')⟩
  rw [step_w]
  exact ⟨hg, fun e he o ho' _ => by rw [(ho e he o ho').1, (ho e he o ho').2]; exact hh, hp,
    by simp [hm], fun h m hmm => h m (by rw [← hm]; exact hmm),
    fun _ e he o ho' => by rw [(ho e he o ho').2]; exact Nat.lt_of_lt_of_le hs (Nat.le_add_right _ _)⟩

theorem step_tick_phase {n : Nat} (kind : Kind) (p : PSt) (s j : Nat) (hs : s < n)
    (hw : WFPeers n p.peers) :
    (Phase n p (p.step .repaired kind (.tick s j)) []) ∨
    (∃ d, d < n ∧ Phase n p (p.step .repaired kind (.tick s j)) [⟨s, d, true, p.keysOf s⟩]) := by
  simp only [PSt.step]
  cases hps : p.peersOf s with
  | nil => left; rw [tickStep_nil p s j hps]; exact phase_id n p
  | cons q qs =>
    right
    rw [tickStep_cons p s j q qs hps]
    exact ⟨_, peer_lt hw s j q qs hps, phase_emit p s _ true hs (peer_lt hw s j q qs hps)⟩

theorem step_dl_phase {n : Nat} (kind : Kind) (p : PSt) (m : Nat) (hlt : MsgsLt n p) :
    (p.msgs[m]? = none ∧ Phase n p (p.step .repaired kind (.dl m)) []) ∨
    (∃ msg, p.msgs[m]? = some msg ∧
      (Phase n p (p.step .repaired kind (.dl m)) [] ∨
       Phase n p (p.step .repaired kind (.dl m)) [respOf p m msg])) := by
  simp only [PSt.step]
  cases hm : p.msgs[m]? with
  | none => left; rw [dlStep_none p m hm]; exact ⟨rfl, phase_id n p⟩
  | some msg =>
    right
    refine ⟨msg, rfl, ?_⟩
    obtain ⟨hsrc, hdst⟩ := hlt msg (List.mem_of_getElem? hm)
    rcases dlStep_cases p m msg hm with h | ⟨_, h⟩ <;> rw [h]
    · exact Or.inl (phase_mergeKeys p _ _ _ hdst)
    · have := (phase_mergeKeys (n := n) p msg.dst m msg.keys hdst).comp (phase_emit _ msg.dst msg.src false hdst hsrc)
      exact Or.inr (by simpa [respOf] using this)

theorem step_round_phase {n : Nat} (kind : Kind) (p : PSt) (s j : Nat) (hs : s < n)
    (hw : WFPeers n p.peers) :
    (p.peersOf s = [] ∧ Phase n p (p.step .repaired kind (.round s j)) []) ∨
    (∃ q qs d, p.peersOf s = q :: qs ∧ d = (q :: qs).getD (j % (q :: qs).length) q ∧ d < n ∧
      (Phase n p (p.step .repaired kind (.round s j)) [⟨s, d, true, p.keysOf s⟩] ∨
       Phase n p (p.step .repaired kind (.round s j))
         [⟨s, d, true, p.keysOf s⟩,
          respOf (p.emit .repaired s d true).1 p.msgs.length ⟨s, d, true, p.keysOf s⟩])) := by
  rcases round_cases kind p s j with ⟨hps, _, he⟩ | ⟨q, qs, d, hps, hd, hc⟩
  · exact Or.inl ⟨hps, he ▸ phase_id n p⟩
  · have hdn : d < n := hd ▸ peer_lt hw s j q qs hps
    refine Or.inr ⟨q, qs, d, hps, hd.symm, hdn, ?_⟩
    have ph2 : Phase n p ((rMk p s d).1, (rE1 p s d).2 ++ (rMk p s d).2) [⟨s, d, true, p.keysOf s⟩] :=
      (phase_emit p s d true hs hdn).comp (phase_mergeKeys _ d _ _ hdn)
    rcases hc with ⟨_, he⟩ | ⟨_, he⟩
    · exact Or.inl (he ▸ ph2)
    · rw [he]
      exact Or.inr ((ph2.comp (phase_emit _ d s false hdn hs)).comp (phase_mergeKeys _ s _ _ hs))

end HappyModel.C18
