import HappyProofs.C15.MultiBase
import HappyProofs.C15.MultiSim
import HappyProofs.C15.LaterPhase
/-! The invariants `LInvB` / `WInvB` hold for the system a later phase starts from, once the abandoned frames
    are dropped. -/
namespace HappyModel.C15
open HappyModel.C14

theorem sinv_crash {cfg : Cfg} {s : St} (h : SInv cfg s) : SInv cfg s.crash := by
  obtain ⟨h1, h2, h3, h4, h5, h6, h7, h8⟩ := h
  refine ⟨h1, sorted_nil, ?_, ?_, ?_, ?_, ?_, ?_⟩
  · intro t ht; cases ht
  · exact List.Pairwise.nil
  · intro i t _ u hu; cases hu
  · intro i t ht
    have := (h6 i t ht).1
    exact ⟨Nat.lt_succ_of_lt this, Nat.ne_of_lt this⟩
  · intro u hu; cases hu
  · exact Nat.lt_succ_self _

theorem sorted_foldl_ins (l : List WalE) (m : Data) (h : Sorted m) :
    Sorted (l.foldl (fun m e => ins e.key e.cell m) m) := by
  induction l generalizing m with
  | nil => exact h
  | cons e r ih => exact ih _ (sorted_ins _ _ _ h)

theorem sinv_recover {cfg : Cfg} {s : St} (h : SInv cfg s) : SInv cfg s.recover :=
  h.of_eq rfl rfl rfl rfl (sorted_foldl_ins _ _ h.memSorted)

/-- what the recovered system a later phase starts from satisfies, beyond `KStart` -/
structure KX (cfg : Cfg) (B : Nat) (start : Nat → Pc) (y : Sys) : Prop where
  sinv : SInv cfg y.st
  mem : y.st.mem = y.st.wal.foldl (fun m e => ins e.key e.cell m) []
  imms : y.st.imms = []
  pend : ∀ q ∈ y.st.pending, 1 ≤ q ∧ q < y.st.nextSeq
  walPos : ∀ e ∈ y.st.wal, 1 ≤ e.seq
  nseq : 1 ≤ y.st.nextSeq
  idLt : ∀ f ∈ y.frames, f.id < B
  starts : ∀ f ∈ y.frames, (start f.id).isStart = true

theorem kx_recovered {cfg : Cfg} {B : Nat} {start : Nat → Pc} {y : Sys} {log : List Ev} {g : Ghost}
    (hsinv : SInv cfg y.st) (hcore : WCore y.st log g) (hid : ∀ f ∈ y.frames, f.id < B)
    (hstarts : ∀ f ∈ y.frames, (start f.id).isStart = true) : KX cfg B start { y with st := y.st.recovered } :=
  { sinv := sinv_recover (sinv_crash (sinv_recover (sinv_recover (sinv_crash hsinv))))
    mem := rfl
    imms := rfl
    pend := hcore.pendLt
    walPos := fun e he => Nat.succ_le_of_lt (Nat.lt_of_le_of_lt (Nat.zero_le _) (hcore.truncT e (mem_recovered_wal he).1))
    nseq := Nat.succ_le_of_lt (Nat.lt_of_le_of_lt (Nat.zero_le _) hcore.Tlt)
    idLt := hid
    starts := hstarts }

/-- ids that do not belong to a frame that has started -/
def liveOf (y0 : Sys) (id : Nat) : Bool := !(y0.frames.any fun f => f.id == id && f.b.isSome)

theorem liveOf_iff {y0 : Sys} {id : Nat} : liveOf y0 id = true ↔ ∀ g ∈ y0.frames, g.id = id → g.b = none := by
  simp [liveOf]

theorem live_iff {y0 : Sys} (hids : (y0.frames.map (·.id)).Nodup) {f : Frame} (hf : f ∈ y0.frames) :
    liveOf y0 f.id = true ↔ f.b = none :=
  liveOf_iff.trans ⟨fun h => h f hf rfl, fun hb g hg hid => inj_of_nodup_map (·.id) hids hg hf hid ▸ hb⟩

theorem live_sched {y0 : Sys} {sched : List Nat} (hun : ∀ f ∈ y0.frames, f.id ∈ sched → f.b = none) :
    ∀ id ∈ sched, liveOf y0 id = true :=
  fun _ hid => liveOf_iff.mpr fun g hg e => hun g hg (e ▸ hid)

section
variable {cfg : Cfg} {B : Nat} {start : Nat → Pc} {y0 : Sys} {acc : List Nat}

theorem live_frame (hA : AInv cfg start y0 acc) {f : Frame} (hf : f ∈ (y0.live (liveOf y0)).frames) :
    f ∈ y0.frames ∧ f.b = none ∧ f.pc.isStart = true ∧ f.pc = start f.id ∧ f.e = none := by
  have hf' := List.mem_filter.mp hf
  have hb := (live_iff hA.ids hf'.1).mp hf'.2
  have hs := hA.unstarted f hf'.1 hb
  refine ⟨hf'.1, hb, hs, pcCons_isStart (hA.cons f hf'.1) hs, ?_⟩
  cases he : f.e with
  | none => rfl
  | some e =>
    have := hA.ended f hf'.1 (by rw [he]; simp)
    rw [(isStart_not_done hs).1] at this; cases this

theorem linvB_start (hK : KStart start y0) (hA : AInv cfg start y0 acc) (hX : KX cfg B start y0) :
    LInvB cfg B start (y0.live (liveOf y0)) (log0Of B y0.st) := by
  have hB := base0_of B y0.st hK.sorted hK.dur hX.mem hX.imms
  have hbase : ∀ ev ∈ log0Of B y0.st, ev.id < B → False := fun ev hev h => by have := hB.base ev hev; omega
  -- the frames that are left have not begun: each is at its first program counter, which needs nothing of the state
  have hplain : ∀ f ∈ (y0.live (liveOf y0)).frames, POk cfg y0.st f.pc ∧ f.pc.isCompact = false ∧ flushId f.pc = none :=
    fun f hf => plain_ok (start_plain (live_frame hA hf).2.2.1)
  exact {
    sys := {
      sinv := hX.sinv
      pcs := fun f hf => (hplain f hf).1
      excl := by
        rw [List.countP_eq_zero.mpr fun f hf => by rw [(hplain f hf).2.1]; simp]
        exact Nat.zero_le _
      flushIds := by
        rw [List.filterMap_eq_nil_iff.mpr fun f hf => (hplain f hf).2.2]
        exact List.nodup_nil }
    ids := List.Nodup.sublist (List.Sublist.map _ List.filter_sublist) hA.ids
    idLt := fun f hf => hX.idLt f (live_frame hA hf).1
    frames := fun f hf => by
      obtain ⟨hf0, hb, hs, hst, he⟩ := live_frame hA hf
      obtain ⟨d1, d2, d3⟩ := isStart_not_done hs
      exact {
        cons := by rw [← hst]; exact pcCons_self hs
        unstarted := fun _ => ⟨hst, he⟩
        started := fun b hb' => by rw [hb] at hb'; cases hb'
        ended := fun e he' => by rw [he] at he'; cases he'
        doneEnded := fun hd => by rw [d1] at hd; cases hd
        noEv := fun _ ev hev hid => hbase ev hev (by rw [hid]; exact hX.idLt f hf0)
        hasEv := fun ha => by rw [d2] at ha; cases ha
        logSeq := fun q hq => by rw [d3] at hq; cases hq }
    starts := fun f hf => hX.starts f (live_frame hA hf).1
    abs := abs_log0 B y0.st hX.mem hX.imms
    evn := fun e he hb => (hbase e he hb).elim
    evFrame := fun e he hb => (hbase e he hb).elim
    sortedN := log0_sorted B y0.st hK.sorted
    evIds := fun e1 he1 e2 _ _ hb => (hbase e1 he1 hb).elim }

theorem winvB_start (hK : KStart start y0) (hA : AInv cfg start y0 acc) (hX : KX cfg B start y0) :
    WInvB start y0.st.nextSeq y0.st.wal (y0.live (liveOf y0)) (log0Of B y0.st) (ghost0Of B y0.st) :=
  winvB_unstarted (wcore0 B y0.st hK.sorted hX.mem hX.imms hK.walLt hX.pend hX.walPos hX.nseq)
    (fun _ hf => ⟨(live_frame hA hf).2.1, (live_frame hA hf).2.2.1⟩) (Nat.le_refl _) fun e he => ⟨hK.walLt e he, he⟩

end

end HappyModel.C15
