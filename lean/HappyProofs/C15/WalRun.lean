import HappyProofs.C15.WalCore
import HappyProofs.C14.LsmObs
/-! The WAL invariant is preserved by every segment of every frame, from a fresh tree (`WInv`, `LInv`) and from a
    recovered one (`WInvB`, `LInvB`); the fresh tree is the case `N0 = 0`, `W0 = []` with every frame id below `B`. -/
namespace HappyModel.C15
open HappyModel.C14

theorem pcCons_pStart {o : Pc} {k : Key} {c : Cell} (h : PcCons o (.pStart k c)) : o = .pStart k c :=
  pcCons_write h (Or.inl rfl)

theorem pcCons_read {o pc : Pc} (h : PcCons o pc) (hr : (∃ k, pc = .gStart k) ∨ (∃ k i t r, pc = .gAt k i t r) ∨
    (∃ lo hi, pc = .sStart lo hi) ∨ (∃ lo hi i t r a, pc = .sAt lo hi i t r a)) : ¬ ∃ k c, o = .pStart k c := by
  rintro ⟨k, c, rfl⟩
  simp only [PcCons] at h
  rcases hr with ⟨_, rfl⟩ | ⟨_, _, _, _, rfl⟩ | ⟨_, _, rfl⟩ | ⟨_, _, _, _, _, _, rfl⟩ <;> simp [Pc.applied] at h

section
variable {cfg : Cfg} {p : Policy} {B N0 : Nat} {W0 : List WalE} {start : Nat → Pc} {st st' : St} {n : Nat}
  {log log' : List Ev} {g : Ghost} {pre post : List Frame} {f f' : Frame}

theorem other_logging_neB (hw : cfg.wal = some p)
    (hL : LInvB cfg B start ⟨st, pre ++ f :: post, n⟩ log) (hW : WInvB start N0 W0 ⟨st, pre ++ f :: post, n⟩ log g)
    {q : Nat} (hfq : f.pc.logging = some q) : ∀ h, h ∈ pre ∨ h ∈ post → h.pc.logging ≠ some q := by
  intro h hh hq
  have hwn : cfg.wal ≠ none := by rw [hw]; simp
  have hF := hL.frames f mem_mid_self
  have hH := hL.frames h (mem_mid_of hh)
  have s1 : f.seq0 = q := hF.logSeq q hfq hwn
  have s2 : h.seq0 = q := hH.logSeq q hq hwn
  have w1 : IsWrite start f := pcCons_logging hF.cons hfq
  have w2 : IsWrite start h := pcCons_logging hH.cons hq
  have started : ∀ x ∈ pre ++ f :: post, x.pc.logging = some q → ∃ b, x.b = some b := by
    intro x hx hxq
    cases hb : x.b with
    | none =>
      have hs := hL.starts x hx
      rw [← ((hL.frames x hx).unstarted hb).1] at hs
      rw [(isStart_not_done hs).2.2] at hxq; cases hxq
    | some b => exact ⟨b, rfl⟩
  obtain ⟨b1, hb1⟩ := started f mem_mid_self hfq
  obtain ⟨b2, hb2⟩ := started h (mem_mid_of hh) hq
  rcases Nat.lt_trichotomy b1 b2 with hlt | heq | hgt
  · have := hW.seqOrd f mem_mid_self h (mem_mid_of hh) b1 b2 hb1 hb2 hlt w1 w2
    rw [s1, s2] at this
    exact Nat.lt_irrefl _ this
  · subst heq; exact ne_of_nodup_mid (·.id) hL.ids hh (hW.bDistinct h (mem_mid_of hh) f mem_mid_self b1 hb2 hb1)
  · have := hW.seqOrd h (mem_mid_of hh) f mem_mid_self b2 b1 hb2 hb1 hgt w2 w1
    rw [s1, s2] at this
    exact Nat.lt_irrefl _ this

/-- what the segment that turns `f` into `f'` (new state `st'`, new log `log'`) has to establish: the state-level
    invariant for some ghost, the relation under which the other frames keep their facts (`qx`: the sequence number
    of `f` that stopped being pending), where new log entries come from, and the per-frame facts of `f'` -/
def SegOk (start : Nat → Pc) (st : St) (g : Ghost) (f f' : Frame) (st' : St) (log' : List Ev) : Prop :=
  ∃ g' qx, WCore st' log' g' ∧ Rel st g st' g' qx ∧ (∀ q, qx = some q → f.pc.logging = some q) ∧
    (∀ e ∈ st'.wal, e ∈ st.wal ∨ (f'.seq0 = e.seq ∧ start f.id = .pStart e.key e.cell)) ∧ FW start st' g' f'

theorem winvB_finish (hw : cfg.wal = some p)
    (hL : LInvB cfg B start ⟨st, pre ++ f :: post, n⟩ log) (hW : WInvB start N0 W0 ⟨st, pre ++ f :: post, n⟩ log g)
    (ha : Adv n st.nextSeq f f') (hs : SegOk start st g f f' st' log') :
    ∃ g', WInvB start N0 W0 ⟨st', pre ++ f' :: post, n + 1⟩ log' g' := by
  obtain ⟨g', qx, hcore, hrel, hqx, hwalF, hfw⟩ := hs
  have hsplit : ∀ h, h ∈ pre ++ f' :: post → (h ∈ pre ∨ h ∈ post) ∨ h = f' := fun h hh => (mem_mid.mp hh).symm
  have hwrite' : IsWrite start f' ↔ IsWrite start f := by unfold IsWrite; rw [ha.id]
  have hge' : N0 ≤ f'.seq0 := by
    obtain ⟨b, hb⟩ := Option.ne_none_iff_exists'.mp ha.started
    rcases ha.inv hb with ⟨hfb, hs⟩ | ⟨_, _, hs⟩ <;> rw [hs]
    · exact hW.seqGe f mem_mid_self (hfb ▸ Option.some_ne_none _)
    · exact hW.nseq
  -- an untouched started frame against the frame that ran: `f'` stands where `f` stood, or is newer than all
  have key : ∀ h, h ∈ pre ∨ h ∈ post → ∀ b b', h.b = some b → f'.b = some b' → (b = b' → h.id = f'.id) ∧
      (b < b' → IsWrite start h → IsWrite start f' → h.seq0 < f'.seq0) ∧
      (b' < b → IsWrite start f' → IsWrite start h → f'.seq0 < h.seq0) := by
    intro h o b b' e1 e2
    have hm : h ∈ pre ++ f :: post := mem_mid_of o
    rcases ha.inv e2 with ⟨hfb, hs⟩ | ⟨_, rfl, hs⟩ <;> rw [hs, hwrite']
    · exact ⟨fun e => ha.id ▸ hW.bDistinct h hm f mem_mid_self b e1 (e ▸ hfb), fun hlt => hW.seqOrd h hm f mem_mid_self b b' e1 hfb hlt,
        fun hlt => hW.seqOrd f mem_mid_self h hm b' b hfb e1 hlt⟩
    · have hbn := ((hL.frames h hm).started b e1).1
      exact ⟨fun e => absurd (e ▸ hbn) (Nat.lt_irrefl _),
        fun _ w _ => ((hW.fw h hm).seq (e1 ▸ Option.some_ne_none _)).2 w, fun hlt => absurd hlt (Nat.lt_asymm hbn)⟩
  refine ⟨g', {
    core := hcore
    walFrame := ?walFrame
    bDistinct := ?bDistinct
    seqOrd := ?seqOrd
    fw := forall_mid.mpr ⟨hfw, fun h o => (hW.fw h (mem_mid_of o)).mono hrel fun q hq e =>
      other_logging_neB hw hL hW (hqx q e.symm) h o hq⟩
    nseq := Nat.le_trans hW.nseq hrel.nextSeq
    seqGe := forall_mid.mpr ⟨fun _ => hge', fun h o => hW.seqGe h (mem_mid_of o)⟩
    walOld := ?walOld }⟩
  case walFrame =>
    intro e he hge
    rcases hwalF e he with he | ⟨h1, h2⟩
    · obtain ⟨h, hh, e1, e2, e3⟩ := hW.walFrame e he hge
      rcases mem_mid.mp hh with rfl | hh
      · obtain ⟨b, hb⟩ := Option.ne_none_iff_exists'.mp e1
        exact ⟨f', mem_mid_self, ha.started, (ha.keep b hb).2.trans e2, ha.id ▸ e3⟩
      · exact ⟨h, mem_mid_of hh, e1, e2, e3⟩
    · exact ⟨f', mem_mid_self, ha.started, h1, ha.id ▸ h2⟩
  case bDistinct =>
    intro h1 hh1 h2 hh2 b e1 e2
    rcases hsplit h1 hh1 with o1 | rfl <;> rcases hsplit h2 hh2 with o2 | rfl
    · exact hW.bDistinct h1 (mem_mid_of o1) h2 (mem_mid_of o2) b e1 e2
    · exact (key h1 o1 b b e1 e2).1 rfl
    · exact ((key h2 o2 b b e2 e1).1 rfl).symm
    · rfl
  case seqOrd =>
    intro h1 hh1 h2 hh2 b b' e1 e2 hlt w1 w2
    rcases hsplit h1 hh1 with o1 | rfl <;> rcases hsplit h2 hh2 with o2 | rfl
    · exact hW.seqOrd h1 (mem_mid_of o1) h2 (mem_mid_of o2) b b' e1 e2 hlt w1 w2
    · exact (key h1 o1 b b' e1 e2).2.1 hlt w1 w2
    · exact (key h2 o2 b' b e2 e1).2.2 hlt w1 w2
    · rw [e1] at e2; injection e2 with e2; exact absurd (e2 ▸ hlt) (Nat.lt_irrefl _)
  case walOld =>
    intro e he hlt
    rcases hwalF e he with he | ⟨h1, _⟩
    · exact hW.walOld e he hlt
    · exact absurd (h1 ▸ hge') (Nat.not_le.mpr hlt)

variable (hc : WCore st log g) (hFW : FW start st g f) (ha : Adv n st.nextSeq f f')
include hc hFW ha

theorem seq_adv (hle : st.nextSeq ≤ st'.nextSeq) (hlt : f.b = none → IsWrite start f → st.nextSeq < st'.nextSeq) :
    f'.b ≠ none → 1 ≤ f'.seq0 ∧ (IsWrite start f' → f'.seq0 < st'.nextSeq) := by
  intro _
  obtain ⟨b, hb⟩ := Option.ne_none_iff_exists'.mp ha.started
  have hwr : IsWrite start f' ↔ IsWrite start f := by unfold IsWrite; rw [ha.id]
  rcases ha.inv hb with ⟨hfb, hs⟩ | ⟨hfb, _, hs⟩ <;> rw [hs, hwr]
  · obtain ⟨h1, h2⟩ := hFW.seq (hfb ▸ Option.some_ne_none _)
    exact ⟨h1, fun w => Nat.lt_of_lt_of_le (h2 w) hle⟩
  · exact ⟨Nat.succ_le_of_lt (Nat.lt_of_le_of_lt (Nat.zero_le _) hc.Tlt), hlt hfb⟩

theorem seg_same (e : Same st' st) (hlog : f'.pc.logging = f.pc.logging) (hnf : ∀ t b, f'.pc ≠ .pFlush t b)
    (hnw : f.b = none → ¬ IsWrite start f) : SegOk start st g f f' st' log := by
  obtain ⟨hc', hr⟩ := core_same hc e
  refine ⟨g, none, hc', hr, nofun, fun e' he' => Or.inl (e.wal ▸ he'),
    seq_adv hc hFW ha (Nat.le_of_eq e.nextSeq.symm) fun hb w => absurd w (hnw hb), fun q hq => ?_,
    fun t b hp => absurd hp (hnf t b)⟩
  obtain ⟨a1, e', a2, a3⟩ := hFW.logging q (hlog ▸ hq)
  exact ⟨e.pending ▸ a1, e', e.wal ▸ a2, ha.id ▸ a3⟩

theorem fw_plain {g' : Ghost} (hle : st.nextSeq ≤ st'.nextSeq) (hfb : f.b ≠ none) (hl : f'.pc.logging = none)
    (hf : ∀ t b, f'.pc ≠ .pFlush t b) : FW start st' g' f' :=
  ⟨seq_adv hc hFW ha hle fun hb => absurd hb hfb, fun q h => (by rw [hl] at h; cases h), fun t b h => absurd h (hf t b)⟩

theorem seg_insert {st1 : St} {q : Nat} {k : Key} {c : Cell} (e : Same st1 st) (hlq : f.pc.logging = some q)
    (hs : start f.id = .pStart k c) (hfb : f.b ≠ none) (hpc' : f'.pc = .pMem st1.memId) :
    SegOk start st g f f' (memInsert (unpend st1 q) k c).1 (⟨n, f.id, k, c, q⟩ :: log) := by
  obtain ⟨hq, e0, he, he1, he2⟩ := hFW.logging q hlq
  rw [hs] at he2
  injection he2 with hk hc0
  obtain ⟨hc', hr⟩ := core_insert hc e k c q n f.id hq ⟨e0, he, he1, hk.symm, hc0.symm⟩
  exact ⟨_, some q, hc', hr, fun _ h => Option.some.inj h ▸ hlq, fun e' he' => Or.inl (e.wal ▸ he'),
    fw_plain hc hFW ha (Nat.le_of_eq e.nextSeq.symm) hfb (by rw [hpc']; rfl) (by rw [hpc']; nofun)⟩

theorem seg_append {k : Key} {c : Cell} (hfb : f.b = none) (hs : start f.id = .pStart k c)
    (hpc' : f'.pc = .pWal k c st.nextSeq) : SegOk start st g f f' (appendSt st k c) log := by
  obtain ⟨hc', hr⟩ := core_append hc k c
  refine ⟨g, none, hc', hr, nofun, fun e he => ?_, seq_adv hc hFW ha (Nat.le_succ _) fun _ _ => Nat.lt_succ_self _,
    fun q hq => ?_, fun t b hp => by rw [hpc'] at hp; cases hp⟩
  · rcases List.mem_append.mp he with he | he
    · exact Or.inl he
    · rw [List.mem_singleton.mp he]
      exact Or.inr ⟨(ha.fresh hfb).2, hs⟩
  · rw [hpc'] at hq
    injection hq with hq
    subst hq
    exact ⟨List.mem_cons_self .., ⟨st.nextSeq, k, c⟩, by simp [appendSt], rfl, ha.id ▸ hs⟩

/-- the flush that starts is bounded below every pending and every later number -/
theorem seg_freeze (hfb : f.b ≠ none) (hid : st.memId < st.nextId)
    (hpc' : f'.pc = .pFlush ⟨st.memId, st.mem⟩ (truncBound st)) : SegOk start st g f f' (freezeMem st) log := by
  obtain ⟨hc', hr⟩ := core_freeze hc hid
  refine ⟨_, none, hc', hr, nofun, fun e he => Or.inl he, seq_adv hc hFW ha (Nat.le_refl _) fun hb => absurd hb hfb,
    fun q hq => (by rw [hpc'] at hq; cases hq), fun t b hp => ?_⟩
  rw [hpc'] at hp
  injection hp with ht hb
  subst ht; subst hb
  refine ⟨fun q hq => truncBound_lt st q (Or.inl hq) (hc.pendLt q hq).1,
    truncBound_lt st st.nextSeq (Or.inr (Nat.le_refl _)) (Nat.succ_le_of_lt (Nat.lt_of_le_of_lt (Nat.zero_le _) hc.Tlt)),
    fun e he => (by cases he), fun gi hgi hlt e he => ?_⟩
  exfalso
  rcases List.mem_append.mp hgi with hgi | hgi
  · obtain ⟨u, hu, hue⟩ := immG_mem hc.immG hgi
    exact Nat.lt_asymm hlt (hue ▸ hc.immLt u hu)
  · rw [List.mem_singleton.mp hgi] at hlt
    exact Nat.lt_irrefl _ hlt

theorem seg_install {t : Tab} {r : List Tab} {b : Nat} {c' : Bool} (hw : cfg.wal = some p) (hfb : f.b ≠ none)
    (hpc : f.pc = .pFlush t b) (himm : st.imms = t :: r) (hid : ∀ i ∈ r, i.id ≠ t.id) (hlv : st.levels ≠ [])
    (happ : f'.pc.applied = true) (hfl : flushId f'.pc = none) :
    SegOk start st g f f' { flushS1 cfg st t b with compacting := c' } log := by
  obtain ⟨f1, f2, f3, f4⟩ := hFW.flush t b hpc
  obtain ⟨g', hc1, hrel⟩ := core_install (cfg := cfg) hc t r b (by rw [hw]; rfl) himm hid hlv f1 f2 f3 f4
  obtain ⟨hc2, _⟩ := core_same (st' := { flushS1 cfg st t b with compacting := c' }) hc1
    ⟨rfl, rfl, fun _ => rfl, rfl, rfl, rfl, rfl⟩
  refine ⟨g', none, hc2, ⟨hrel.1, hrel.2, hrel.3, hrel.4, hrel.5, hrel.6⟩, nofun, fun e he => Or.inl ?_,
    fw_plain hc hFW ha (Nat.le_refl _) hfb (applied_facts happ).2 fun t b e => by rw [e] at hfl; cases hfl⟩
  have : e ∈ (flushS1 cfg st t b).wal := he
  simp only [flushS1] at this
  split at this
  · exact (List.mem_filter.mp this).1
  · exact this

end

theorem segOk {cfg : Cfg} {p : Policy} {start : Nat → Pc} {st : St} {n : Nat} {log : List Ev} {g : Ghost} {f f' : Frame}
    (hw : cfg.wal = some p) (hc : WCore st log g) (hFW : FW start st g f) (ha : Adv n st.nextSeq f f')
    (hF : FrameOk cfg start n log f) (hst : (start f.id).isStart = true) (hsinv : SInv cfg st) (hpok : POk cfg st f.pc)
    (hhead : ∀ t b, f.pc = .pFlush t b → st.imms.head? = some t) (hnd : f.pc.isDone = false)
    (hpc' : f'.pc = (stepOp cfg st f.pc).2) :
    SegOk start st g f f' (stepOp cfg st f.pc).1 ((evOf cfg st n f).toList ++ log) := by
  have hfbn : f.pc.isStart = false → f.b ≠ none := fun h hb => by
    rw [(hF.unstarted hb).1, hst] at h
    cases h
  have hcons := hF.cons
  have hsh := stepOp_shape cfg st (start f.id) f.pc hcons
  rw [← hpc'] at hsh
  have same := Same.mk (st' := st) (st := st) rfl rfl (fun _ => rfl) rfl rfl rfl rfl
  unfold evOf
  generalize hpc : f.pc = pc at *
  cases pc with
  | pStart k c =>
    have hfb : f.b = none := by
      cases hb : f.b with
      | none => rfl
      | some b => have := (hF.started b hb).2; rw [hpc] at this; cases this
    have e1 : stepOp cfg st (.pStart k c) = (appendSt st k c, .pWal k c st.nextSeq) := by
      simp [stepOp, putStart, hw, appendSt]
    rw [e1] at hpc' ⊢
    simp only [insOf, hw]
    exact seg_append hc hFW ha hfb (pcCons_pStart hcons) hpc'
  | pWal k c q =>
    obtain ⟨o, ho⟩ := shouldSync_eq p st
    by_cases hb : (shouldSync p st).1 = true
    · have e1 : stepOp cfg st (.pWal k c q) = ({ st with oracle := o }, .pSync k c q) := by
        rw [← ho]; simp [stepOp, walWritten, hw, hb]
      rw [e1] at hpc' ⊢
      simp only [insOf, hw, hb, if_true]
      exact seg_same hc hFW ha ⟨rfl, rfl, fun _ => rfl, rfl, rfl, rfl, rfl⟩ (by rw [hpc', hpc]; rfl)
        (by rw [hpc']; nofun) fun hb0 => absurd hb0 (hfbn rfl)
    · have e1 : stepOp cfg st (.pWal k c q) = memInsert (unpend { st with oracle := o } q) k c := by
        rw [← ho]; simp [stepOp, walWritten, hw, hb]
      rw [e1] at hpc' ⊢
      simp only [insOf, hw, hb]
      exact seg_insert hc hFW ha (st1 := { st with oracle := o }) ⟨rfl, rfl, fun _ => rfl, rfl, rfl, rfl, rfl⟩
        (by rw [hpc]; rfl) (pcCons_write hcons (Or.inr (Or.inl ⟨q, rfl⟩))) (hfbn rfl) hpc'
  | pSync k c q =>
    exact seg_insert hc hFW ha (st1 := { st with synced := q, wss := 0 }) ⟨rfl, rfl, fun _ => rfl, rfl, rfl, rfl, rfl⟩
      (by rw [hpc]; rfl) (pcCons_write hcons (Or.inr (Or.inr ⟨q, rfl⟩))) (hfbn rfl) hpc'
  | pMem mid =>
    rcases afterMem_cases cfg st mid with e1 | e1 <;> rw [show stepOp cfg st (.pMem mid) = _ from e1] at hpc' ⊢
    · exact seg_same hc hFW ha same (by rw [hpc', hpc]; rfl) (by rw [hpc']; nofun) fun hb => absurd hb (hfbn rfl)
    · exact seg_freeze hc hFW ha (hfbn rfl) hsinv.memFresh hpc'
  | pFlush t b =>
    obtain ⟨r, hr, hid, hlv⟩ := hsinv.flush_head (hhead t b rfl)
    obtain ⟨⟨c', hst'⟩, hfl⟩ := flushInstall_shape cfg st t b
    show SegOk start st g f f' (flushInstall cfg st t b).1 log
    rw [hst']
    exact seg_install hc hFW ha hw (hfbn rfl) hpc hr hid hlv ((hsh.noIns rfl).trans rfl) (hpc' ▸ hfl)
  | pCompact j =>
    simp only [POk] at hpok
    refine seg_same hc hFW ha ⟨rfl, rfl, fun k' => ?_, rfl, rfl, rfl, rfl⟩ (by rw [hpc', hpc]; rfl) (by rw [hpc']; nofun)
      fun hb => absurd hb (hfbn rfl)
    have := lookLevels_install hsinv.lv hpok.1 st.nextId k' 0 (Nat.zero_le _)
    simp only [List.drop_zero] at this
    exact this
  | done r => cases hnd
  | gStart _ | gAt _ _ _ _ | sStart _ _ | sAt _ _ _ _ _ _ =>
    have hwr : ¬ IsWrite start f := fun ⟨k, c, hs⟩ => by
      rw [hs] at hcons
      simp [PcCons, Pc.applied] at hcons
    obtain ⟨n4, n5⟩ := nonwrite_pc hsh.cons hwr
    rw [(stepOp_read rfl).1, insOf_read rfl]
    exact seg_same hc hFW ha same (by rw [n4, hpc]; rfl) n5 fun _ => hwr

theorem winvB_step {cfg : Cfg} {p : Policy} {B N0 : Nat} {W0 : List WalE} {start : Nat → Pc} {y : Sys} {log : List Ev} {g : Ghost} (hw : cfg.wal = some p)
    (hL : LInvB cfg B start y log) (id : Nat) (hh : HeadNow y id) (hW : WInvB start N0 W0 y log g) :
    ∃ g', WInvB start N0 W0 (y.step cfg id) (logStep cfg y log id) g' := by
  rcases gstep_cases cfg y id with ⟨h0, hl, _⟩ | ⟨pre, f, post, h1, h2, h3, h4, h5, h6, _⟩
  · rw [h0, hl]; exact ⟨g, ⟨hW.core, hW.walFrame, hW.bDistinct, hW.seqOrd, hW.fw, hW.nseq, hW.seqGe, hW.walOld⟩⟩
  · rw [h5, h6]
    obtain ⟨st, frames, n⟩ := y
    simp only at h1
    subst h1
    exact winvB_finish hw hL hW (adv_spec cfg st n f) (segOk hw hW.core (hW.fw f mem_mid_self) (adv_spec cfg st n f)
      (hL.frames f mem_mid_self) (hL.starts f mem_mid_self) hL.sys.sinv (hL.sys.pcs f mem_mid_self) (fun t b hpc => hh f mem_mid_self t b hpc h2) h3 rfl)

theorem winvB_run {cfg : Cfg} {p : Policy} {B N0 : Nat} {W0 : List WalE} {start : Nat → Pc} (hw : cfg.wal = some p) (sched : List Nat) (y : Sys)
    (log : List Ev) (hL : LInvB cfg B start y log) (hW : ∃ g, WInvB start N0 W0 y log g) (ho : InOrder cfg y sched) :
    LInvB cfg B start (y.run cfg sched) (logRun cfg y log sched) ∧
      ∃ g, WInvB start N0 W0 (y.run cfg sched) (logRun cfg y log sched) g :=
  grun_induct (fun y log => LInvB cfg B start y log ∧ ∃ g, WInvB start N0 W0 y log g)
    (fun _ _ id h hh => ⟨linvB_step h.1 id hh, by obtain ⟨g, hg⟩ := h.2; exact winvB_step hw h.1 id hh hg⟩)
    sched y log ⟨hL, hW⟩ ho

theorem WInv.toB {start : Nat → Pc} {y : Sys} {log : List Ev} {g : Ghost} (h : WInv start y log g) :
    WInvB start 0 [] y log g :=
  ⟨h.core, fun e he _ => h.walFrame e he, h.bDistinct, h.seqOrd, h.fw, Nat.zero_le _, fun _ _ _ => Nat.zero_le _,
    fun _ _ hlt => absurd hlt (Nat.not_lt_zero _)⟩

theorem WInvB.toPlain {start : Nat → Pc} {W0 : List WalE} {y : Sys} {log : List Ev} {g : Ghost}
    (h : WInvB start 0 W0 y log g) : WInv start y log g :=
  ⟨h.core, fun e he => h.walFrame e he (Nat.zero_le _), h.bDistinct, h.seqOrd, h.fw⟩

theorem winvB_unstarted {start : Nat → Pc} {N0 : Nat} {W0 : List WalE} {y : Sys} {log : List Ev} {g : Ghost}
    (hc : WCore y.st log g) (hfr : ∀ f ∈ y.frames, f.b = none ∧ f.pc.isStart = true) (hn : N0 ≤ y.st.nextSeq)
    (hold : ∀ e ∈ y.st.wal, e.seq < N0 ∧ e ∈ W0) : WInvB start N0 W0 y log g := by
  refine ⟨hc, fun e he hge => absurd hge (Nat.not_le.mpr (hold e he).1), ?_, ?_, fun f hf => ?_, hn,
    fun f hf h => absurd (hfr f hf).1 h, fun e he _ => (hold e he).2⟩
  · intro f hf f' _ b hb; rw [(hfr f hf).1] at hb; cases hb
  · intro f hf f' _ b b' hb; rw [(hfr f hf).1] at hb; cases hb
  · obtain ⟨hb, hs⟩ := hfr f hf
    exact ⟨fun h => absurd hb h, fun q hq => (by rw [(isStart_not_done hs).2.2] at hq; cases hq),
      fun t b' hp => by rw [hp] at hs; cases hs⟩

theorem winv_step {cfg : Cfg} {p : Policy} {start : Nat → Pc} {y : Sys} {log : List Ev} {g : Ghost} (hw : cfg.wal = some p)
    (hL : LInv cfg start y log) (id : Nat) (hh : HeadNow y id) (hW : WInv start y log g) :
    ∃ g', WInv start (y.step cfg id) (logStep cfg y log id) g' := by
  obtain ⟨B, hB⟩ := exists_id_bound y.frames
  obtain ⟨g', hg'⟩ := winvB_step hw (hL.toB hB) id hh hW.toB
  exact ⟨g', hg'.toPlain⟩

theorem winv_init {cfg : Cfg} {y : Sys} (h : InitSys cfg y) (start : Nat → Pc) : WInv start y [] {} := by
  obtain ⟨oracle, hst⟩ := h.st
  refine (winvB_unstarted (W0 := []) ?_ (fun f hf => ⟨(h.frames f hf).2.1, (h.frames f hf).1⟩) (Nat.zero_le _)
    fun e he => by rw [hst] at he; cases he).toPlain
  rw [hst]
  exact {
    logEq := rfl
    memG := fun _ => rfl
    immG := trivial
    lvG := fun k => by simp [St.init, lookLevels_replicate_nil, firstOn]
    immOrd := List.Pairwise.nil
    immLt := fun u hu => by cases hu
    walSorted := List.Pairwise.nil
    walLt := fun e he => by cases he
    pendLt := fun q hq => by cases hq
    truncT := fun e he => by cases he
    Tlt := by simp [St.init]
    evDur := fun e he => by cases he }

theorem winv_run {cfg : Cfg} {p : Policy} {start : Nat → Pc} (hw : cfg.wal = some p) (sched : List Nat) (y : Sys) (log : List Ev)
    (hL : LInv cfg start y log) (hW : ∃ g, WInv start y log g) (ho : InOrder cfg y sched) :
    LInv cfg start (y.run cfg sched) (logRun cfg y log sched) ∧ ∃ g, WInv start (y.run cfg sched) (logRun cfg y log sched) g := by
  obtain ⟨B, hB⟩ := exists_id_bound y.frames
  obtain ⟨g, hg⟩ := hW
  obtain ⟨_, g', hg'⟩ := winvB_run hw sched y log (hL.toB hB) ⟨g, hg.toB⟩ ho
  exact ⟨linv_run sched y log hL ho, g', hg'.toPlain⟩

theorem crash_invariants (cfg : Cfg) (p : Policy) (ops : List (Nat × OKind)) (oracle : List Bool) (sched : List Nat)
    (hw : cfg.wal = some p) (h2 : 2 ≤ cfg.maxLevels) (hd : DistinctPuts ops)
    (ho : InOrder cfg (sysOf cfg oracle ops) sched) :
    LInv cfg (startFor ops) ((sysOf cfg oracle ops).run cfg sched) (logRun cfg (sysOf cfg oracle ops) [] sched) ∧
    ∃ g, WInv (startFor ops) ((sysOf cfg oracle ops).run cfg sched) (logRun cfg (sysOf cfg oracle ops) [] sched) g :=
  winv_run hw sched _ [] (linv_sysOf cfg oracle hd h2) ⟨{}, winv_init (sysOf_init cfg oracle ops) _⟩ ho

end HappyModel.C15
