import HappyProofs.C03.Exchange
/-!
`Exchange.lean` shows that ONE barrier iteration does not depend on the order in which the worker threads
complete their windows.  Here this is composed over the whole run: `coordRunIn` is the coordinator loop of the
C05 model (`coordRun`) in which every window is executed with its own, arbitrary completion order — which is all
that the thread-pool size (`max_workers`) and host timing can influence in `WindowedCoordinator.run`.
-/
namespace HappyModel.C03
open HappyModel.C05

variable {σ : Type}

/-- the coordinator loop with an explicit completion order for every window: `(window end, order)` -/
def coordRunIn (h : Handler σ) (c : Cfg) (strict : Bool) (fuel : Nat) :
    List (Nat × List Nat) → List (Part σ) → List (Part σ)
  | [], ps => ps
  | (we, order) :: ws, ps => coordRunIn h c strict fuel ws (exchange c (execInOrder h c strict fuel we order ps))

theorem oneWindow_length (h : Handler σ) (c : Cfg) (strict : Bool) (fuel we : Nat) (ps : List (Part σ)) :
    (oneWindow h c strict fuel we ps).length = ps.length := by
  simp [oneWindow, exchange, execAll]

def ValidSchedule (sched : List (Nat × List Nat)) (n : Nat) : Prop := ∀ w ∈ sched, IsCompletionOrder w.2 n

theorem coordRunIn_eq_coordRun (h : Handler σ) (c : Cfg) (strict : Bool) (fuel : Nat) :
    ∀ (sched : List (Nat × List Nat)) (ps : List (Part σ)), ValidSchedule sched ps.length →
      coordRunIn h c strict fuel sched ps = coordRun h c strict fuel (sched.map (·.1)) ps := by
  intro sched
  induction sched with
  | nil => intro ps _; rfl
  | cons w ws ih =>
    intro ps hv
    obtain ⟨we, order⟩ := w
    have ho : IsCompletionOrder order ps.length := hv (we, order) (by simp)
    have h1 := oneWindow_order_independent_of_completion h c strict fuel we order ps ho
    simp only [coordRunIn, List.map_cons, coordRun]
    rw [h1]
    apply ih
    intro w' hw'
    rw [oneWindow_length]
    exact hv w' (by simp [hw'])

/-- two runs over the same window ends give the same final partitions (heaps, clocks,
    delivery logs, outboxes, discards), whatever the two thread schedules were -/
theorem coordinator_deterministic (h : Handler σ) (c : Cfg) (strict : Bool) (fuel : Nat)
    (sched₁ sched₂ : List (Nat × List Nat)) (ps : List (Part σ))
    (hw : sched₁.map (·.1) = sched₂.map (·.1))
    (h₁ : ValidSchedule sched₁ ps.length) (h₂ : ValidSchedule sched₂ ps.length) :
    coordRunIn h c strict fuel sched₁ ps = coordRunIn h c strict fuel sched₂ ps := by
  rw [coordRunIn_eq_coordRun h c strict fuel sched₁ ps h₁, coordRunIn_eq_coordRun h c strict fuel sched₂ ps h₂, hw]

theorem range_isCompletionOrder (n : Nat) : IsCompletionOrder (List.range n) n :=
  ⟨List.nodup_range, fun _ => List.mem_range.mpr⟩

/-- one worker thread (every window runs the partitions one after another in declaration order) and any other
    schedule of any number of workers agree -/
theorem coordinator_worker_count_irrelevant (h : Handler σ) (c : Cfg) (strict : Bool) (fuel : Nat)
    (sched : List (Nat × List Nat)) (ps : List (Part σ)) (hv : ValidSchedule sched ps.length) :
    coordRunIn h c strict fuel sched ps =
      coordRunIn h c strict fuel (sched.map (fun w => (w.1, List.range ps.length))) ps := by
  apply coordinator_deterministic
  · simp [List.map_map, Function.comp_def]
  · exact hv
  · intro w hw
    simp only [List.mem_map] at hw
    obtain ⟨w0, _, rfl⟩ := hw
    exact range_isCompletionOrder ps.length

/-- non-vacuity on the demo model of `Exchange.lean`: two windows, the senders finishing in opposite orders in the
    two schedules — same hub log; and the schedules are valid and different -/
example :
    ValidSchedule [(10, [1, 0, 2]), (20, [2, 1, 0])] demoParts.length ∧
    ValidSchedule [(10, [0, 1, 2]), (20, [0, 1, 2])] demoParts.length ∧
    ((coordRunIn demoHandler demoCfg true 10 [(10, [1, 0, 2]), (20, [2, 1, 0])] demoParts).map (·.log)) =
      ((coordRunIn demoHandler demoCfg true 10 [(10, [0, 1, 2]), (20, [0, 1, 2])] demoParts).map (·.log)) ∧
    ((coordRunIn demoHandler demoCfg true 10 [(10, [1, 0, 2]), (20, [2, 1, 0])] demoParts).map (fun p => p.log.length)) = [1, 1, 2] := by
  refine ⟨?_, ?_, by decide +kernel, by decide +kernel⟩
  · intro w hw
    simp at hw
    rcases hw with rfl | rfl <;> exact ⟨by decide +kernel, by decide +kernel⟩
  · intro w hw
    simp at hw
    rcases hw with rfl | rfl <;> exact ⟨by decide +kernel, by decide +kernel⟩

end HappyModel.C03
