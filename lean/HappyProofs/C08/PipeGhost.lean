import HappyProofs.C08.PipeStep
/-!
The ghost record `Gh` is computed from what a run *shows* — the delivered actions and their visible
results (`Pipe.run`): which ids were offered, which the queue refused, which it accepted, which the
worker started, which it discarded after dequeue, which finished, each in the order it happened.
`GInv` says where every offered id is: the seven populations

  refused ++ waiting ++ delivers ++ works ++ inService ++ done ++ discarded

hold exactly the offered ids, with multiplicity, and the public counters are the lengths of the
ghost lists.  It is preserved by **every** action of **every** variant and worker (no schedule
hypothesis): only the queue policy's refinement relation is used.
-/
namespace HappyModel.C08.Pipe

structure Gh where
  offered : List Nat := []      -- ids of the `arr` actions, in order
  refused : List Nat := []      -- `arr` answered `accepted false`
  accepted : List Nat := []     -- `arr` answered `accepted true` (acceptance order)
  started : List Nat := []      -- `work` answered `started true` (service-start order)
  discarded : List Nat := []    -- `work` answered `started false` (rejected after dequeue)
  done : List Nat := []         -- `fin` answered `done` (completion order)
deriving Repr, DecidableEq

def gstep (g : Gh) : Act → Res → Gh
  | .arr it, .accepted true => { g with offered := g.offered ++ [it.id], accepted := g.accepted ++ [it.id] }
  | .arr it, .accepted false => { g with offered := g.offered ++ [it.id], refused := g.refused ++ [it.id] }
  | .work i, .started true => { g with started := g.started ++ [i] }
  | .work i, .started false => { g with discarded := g.discarded ++ [i] }
  | .fin i, .done => { g with done := g.done ++ [i] }
  | _, _ => g

def ghost (c : PCfg) : PSt → Gh → List Act → Gh
  | _, g, [] => g
  | s, g, a :: as => ghost c (step c s a).1 (gstep g a (step c s a).2) as

theorem ghost_eq_fold (c : PCfg) : ∀ (as : List Act) (s : PSt) (g : Gh),
    ghost c s g as = (as.zip ((run c s as).map (·.1))).foldl (fun g p => gstep g p.1 p.2) g
  | [], _, _ => rfl
  | a :: as, s, g => by simp only [ghost, run, List.map_cons, List.zip_cons_cons, List.foldl_cons]
                        exact ghost_eq_fold c as _ _

def offeredIds (as : List Act) : List Nat :=
  as.filterMap fun a => match a with
    | .arr it => some it.id
    | _ => none

/-- the seven populations, `held` being the ids waiting in the queue -/
def pops (held : List Nat) (s : PSt) (g : Gh) : List Nat :=
  g.refused ++ (held ++ (s.delivers ++ (s.works ++ (s.inService ++ (g.done ++ g.discarded)))))

structure GInv (s : PSt) (g : Gh) (ss : SSt) : Prop where
  perm : (pops (ss.held.map (·.id)) s g).Perm g.offered
  ra : (g.refused ++ g.accepted).Perm g.offered
  drop : s.dropped = g.refused.length
  acc : s.acc = g.accepted.length
  comp : s.completed = g.done.length
  rej : s.rejected = g.discarded.length

theorem ginv_init (lim : Nat) : GInv { limit := lim } {} {} :=
  ⟨.refl _, .refl _, rfl, rfl, rfl, rfl⟩

/-! Ids only ever move from one population to the end of a later one — the populations are listed in
    the order an item passes through them, so mostly to the next one. -/

/-- an id leaves `X` (leaving `X'`) and joins the end of `Y`, a later stretch of the populations -/
theorem perm_move {i : Nat} {X X' : List Nat} (hX : X.Perm (i :: X')) (Y Z : List Nat) :
    (X' ++ ((Y ++ [i]) ++ Z)).Perm (X ++ (Y ++ Z)) := by
  refine List.perm_iff_count.mpr fun a => ?_
  have := hX.count_eq a
  simp only [List.count_append, List.count_cons, List.count_nil] at this ⊢
  omega

/-- an id is offered and joins the end of `Y` -/
theorem perm_join {O : List Nat} (i : Nat) (A Y Z : List Nat) (h : (A ++ (Y ++ Z)).Perm O) :
    (A ++ ((Y ++ [i]) ++ Z)).Perm (O ++ [i]) := by
  refine List.perm_iff_count.mpr fun a => ?_
  have := h.count_eq a
  simp only [List.count_append, List.count_cons, List.count_nil] at this ⊢
  omega

section
variable {c : PCfg} {s b : PSt} {g : Gh} {ss : SSt} {a : Act} {r : Res} {p : Bool}

theorem Eff.ginv (hr : PolRel c.pol s.q ss) (d : Eff c s a b r p) (h : GInv s g ss) :
    GInv b (gstep g a r) (sstep c s ss a) := by
  cases d with
  | err a h1 h2 =>
    rw [sstep_err h1 h2]
    cases a <;> first | exact h | exact absurd rfl (h1 _)
  | accept it hok =>
    have hh := rel_push_held hr it false false
    rw [hok, if_pos rfl] at hh
    refine ⟨?_, List.append_assoc .. ▸ h.ra.append_right [it.id], h.drop,
      by dsimp only [gstep]; rw [List.length_append, ← h.acc]; rfl, h.comp, h.rej⟩
    dsimp only [gstep, sstep, pops]
    rw [hh, List.map_append]
    exact perm_join it.id _ _ _ h.perm
  | refuse it hok =>
    have hh := rel_push_held hr it false false
    rw [hok, if_neg (by decide)] at hh
    refine ⟨?_, perm_join it.id [] _ _ h.ra, by dsimp only [gstep]; rw [List.length_append, ← h.drop]; rfl,
      h.acc, h.comp, h.rej⟩
    dsimp only [gstep, sstep, pops]
    rw [hh]
    exact perm_join it.id [] _ _ h.perm
  | hand i hm =>
    exact ⟨((perm_move (List.perm_cons_erase hm) _ _).append_left _ |>.append_left _).trans h.perm,
      h.ra, h.drop, h.acc, h.comp, h.rej⟩
  | start i hm hc =>
    exact ⟨((perm_move (List.perm_cons_erase hm) _ _).append_left _ |>.append_left _ |>.append_left _).trans h.perm,
      h.ra, h.drop, h.acc, h.comp, h.rej⟩
  | fin i hm =>
    exact ⟨((perm_move (List.perm_cons_erase hm) _ _).append_left _ |>.append_left _ |>.append_left _ |>.append_left _).trans
      h.perm, h.ra, h.drop, h.acc, by dsimp only [gstep]; rw [List.length_append, ← h.comp]; rfl, h.rej⟩
  | dequeue it hp hit =>
    rw [sstep, if_neg hp]
    exact ⟨((perm_move ((rel_pop_some hr hit).map (·.id)) _ _).append_left _).trans h.perm,
      h.ra, h.drop, h.acc, h.comp, h.rej⟩
  | reject i hm hc =>
    refine ⟨?_, h.ra, h.drop, h.acc, h.comp, by dsimp only [gstep]; rw [List.length_append, ← h.rej]; rfl⟩
    -- the discarded are the last population: regroup the ones in between
    have := perm_move (List.perm_cons_erase hm) (s.inService ++ (g.done ++ g.discarded)) []
    rw [List.append_nil, List.append_nil] at this
    dsimp only [gstep, sstep, pops]
    rw [← List.append_assoc g.done, ← List.append_assoc s.inService]
    exact (this.append_left _ |>.append_left _ |>.append_left _).trans h.perm
  | empty hp hit =>
    obtain ⟨h1, h2⟩ := rel_pop_none hr hit
    rw [sstep, if_neg hp]
    refine ⟨?_, h.ra, h.drop, h.acc, h.comp, h.rej⟩
    rw [h2]
    exact h1 ▸ h.perm
  -- the driver's own events and a shift change move no item
  | notify | answer | disp | shift => exact ⟨h.perm, h.ra, h.drop, h.acc, h.comp, h.rej⟩

theorem step_ginv (hr : PolRel c.pol s.q ss) (h : GInv s g ss) (a : Act) :
    GInv (step c s a).1 (gstep g a (step c s a).2) (sstep c s ss a) :=
  step_ind (I := fun b => GInv b (gstep g a (step c s a).2) (sstep c s ss a))
    (fun _ _ _ _ h => ⟨h.perm, h.ra, h.drop, h.acc, h.comp, h.rej⟩) fun _ _ d => d.ginv hr h

theorem Eff.offered (d : Eff c s a b r p) : (gstep g a r).offered = g.offered ++ offeredIds [a] := by
  cases d with
  | err a h1 _ => cases a <;> first | exact (List.append_nil _).symm | exact absurd rfl (h1 _)
  | accept it | refuse it => rfl
  | _ => exact (List.append_nil _).symm

end

theorem final_ind {c : PCfg} {S : PSt → List Act → Prop} {I : PSt → Gh → SSt → Prop}
    (hS : ∀ {s a as}, S s (a :: as) → S (step c s a).1 as)
    (hI : ∀ {s a as g ss}, S s (a :: as) → I s g ss → I (step c s a).1 (gstep g a (step c s a).2) (sstep c s ss a)) :
    ∀ (as : List Act) {s : PSt} {g : Gh} {ss : SSt}, S s as → I s g ss →
      I (final c s as) (ghost c s g as) (sfinal c s ss as)
  | [], _, _, _, _, h => h
  | _ :: as, _, _, _, hs, h => final_ind hS hI as (hS hs) (hI hs h)

theorem final_ginv (c : PCfg) (as : List Act) (s : PSt) (g : Gh) (ss : SSt) (hr : PolRel c.pol s.q ss) (h : GInv s g ss) :
    PolRel c.pol (final c s as).q (sfinal c s ss as) ∧ GInv (final c s as) (ghost c s g as) (sfinal c s ss as) :=
  final_ind (S := fun _ _ => True) (I := fun s g ss => PolRel c.pol s.q ss ∧ GInv s g ss) id
    (fun _ h => ⟨step_rel h.1 _, step_ginv h.1 h.2 _⟩) as trivial ⟨hr, h⟩

theorem final_limit {c : PCfg} (as : List Act) (s : PSt) (hs : Sched c s as) : (final c s as).limit = s.limit :=
  final_ind (I := fun s' _ _ => s'.limit = s.limit) (g := {}) (ss := {}) (fun h => h.2)
    (fun ha h => (step_limit _ ha.1.2).trans h) as hs rfl

theorem ghost_offered (c : PCfg) : ∀ (as : List Act) (s : PSt) (g : Gh),
    (ghost c s g as).offered = g.offered ++ offeredIds as
  | [], _, g => (List.append_nil _).symm
  | a :: as, s, g => by
    obtain ⟨b, p, d, -⟩ := step_eff c s a
    rw [ghost, ghost_offered c as, d.offered, List.append_assoc]
    exact congrArg _ (List.filterMap_append (l := [a])).symm

end HappyModel.C08.Pipe
