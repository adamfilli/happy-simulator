import HappyProofs.C13.Step
/-! Lemmas about the network-partition component of the model (`Network.partition` / `Partition.heal` /
`is_partitioned`): what a commit does with messages sent across an active partition, and that a whole network
routes everything. -/
set_option linter.unusedSectionVars false
namespace HappyModel.C13
variable {D : Type} [Inhabited D] [Detector D]

theorem pairIn_symm (ps : List (Nat × Nat)) (a b : Nat) : pairIn ps a b = pairIn ps b a := by
  unfold pairIn
  induction ps with
  | nil => rfl
  | cons p ps ih => simp only [List.any_cons, ih, Bool.or_comm]

theorem blocked_symm (s : Sys D) (a b : Nat) : s.blocked a b = s.blocked b a := by
  unfold Sys.blocked
  congr 1
  funext ps
  exact pairIn_symm ps a b

theorem pairIn_cutPairs (ga gb : List Nat) (a b : Nat) (ha : a ∈ ga) (hb : b ∈ gb) :
    pairIn (cutPairs ga gb) a b = true := by
  unfold pairIn cutPairs
  rw [List.any_eq_true]
  refine ⟨(a, b), ?_, by simp⟩
  rw [List.mem_flatMap]
  exact ⟨a, ha, List.mem_map.mpr ⟨b, hb, rfl⟩⟩

theorem step_soup_unblocked (c : Cfg) (s : Sys D) (act : Act) :
    ∀ m ∈ (step c s act).soup, m ∈ s.soup ∨ (m.sent = act.time ∧ s.blocked m.src m.dst = false) := by
  have h := step_rel c s act
  generalize step c s act = s' at h
  cases h with
  | skip crashed cuts soup _ hsoup _ => exact fun m hm => Or.inl (hsoup m hm)
  | fire b r soup hb hf =>
    intro m hm
    rcases mem_commit_soup hm with h | ⟨_, h1, h2, _⟩
    · exact Or.inl (hf.soup_sub m h)
    · exact Or.inr ⟨h1, h2⟩

theorem pairIn_nil (a b : Nat) : pairIn [] a b = false := rfl

theorem blocked_of_whole (s : Sys D) (h : s.whole = true) (a b : Nat) : s.blocked a b = false := by
  unfold Sys.blocked
  unfold Sys.whole at h
  rw [List.all_eq_true] at h
  rw [List.any_eq_false]
  intro ps hps
  rw [List.isEmpty_iff.mp (h ps hps), pairIn_nil]
  exact Bool.false_ne_true

theorem soup_commit (s : Sys D) (a now : Nat) (r : Node D × List Out) (soup : List Msg)
    (h : s.whole = true) : (s.commit a now r soup).soup = soup ++ stamp a now s.nextId r.2 := by
  show soup ++ s.routed (stamp a now s.nextId r.2) = _
  unfold Sys.routed
  rw [List.filter_eq_self.mpr]
  intro m _
  rw [blocked_of_whole s h]
  rfl

end HappyModel.C13
