import HappyModel.C04.Control
import HappyProofs.C01.Inv
import HappyProofs.C03.Rename
/-!
`reset()` and `schedule()` from outside the loop: what they do to the engine state.

* an injected event is the youngest event of the model (next creation index), so the engine
  invariant of C01 — and with it time order with FIFO ties — survives any injection;
* the state after `reset()` *is* the initial state of the same pre-run schedule with all creation
  indices shifted by a constant, so (C03, index shift) a run from it repeats the original run.
-/
namespace HappyModel.C04
open HappyModel.C01 HappyModel.C03

variable {σ : Type}

theorem reset_is_init (base start : Nat) (ent : σ) (pre : List Spec) :
    resetSt base start ent pre = renSt (· + base) id (base + pre.length) (init ent start pre) := by
  have h := mkEvents_ren (· + base) 0 base start pre (by intro j; simp; omega)
  unfold resetSt renSt init
  simp only [h, countPrimary_ren, List.map_nil, id]

theorem reset_inv (base start : Nat) (ent : σ) (pre : List Spec) : Inv (resetSt base start ent pre) :=
  fresh_inv base start ent pre

variable [Probe σ]

theorem inject_inv (s : St σ) (ent' : σ) (sp : Spec) (inv : Inv s) : Inv (injectSt s ent' sp) :=
  inv_emit s [sp] s.cancelled ent' inv

/-- the injected event is younger than everything pending or delivered: among equal timestamps it
    is delivered last (its key is above every older key with a timestamp not after its own) -/
theorem injected_is_youngest (s : St σ) (ent' : σ) (sp : Spec) (inv : Inv s) :
    ∀ e ∈ (injectSt s ent' sp).heap, e ∉ s.heap →
      e.id = s.nextId ∧ e.time = sp.time ∧
      (∀ o ∈ s.heap, o.time ≤ e.time → keyLt o e = true) ∧
      (∀ o ∈ s.log, o.id < e.id) := by
  intro e he hne
  unfold injectSt at he
  simp only [mkEvents, List.mem_append, List.mem_singleton] at he
  rcases he with he | he
  · exact absurd he hne
  · subst he
    refine ⟨rfl, rfl, ?_, ?_⟩
    · intro o ho hle
      have := inv.fresh_heap o ho
      rw [keyLt_iff]; simp only [] at hle ⊢; omega
    · intro o ho
      exact inv.fresh_log o ho

end HappyModel.C04
