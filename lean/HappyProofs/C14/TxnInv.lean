import HappyProofs.C14.TxnBase
/-!
# Transaction manager: the invariant behind commit-order serializability

`Inv ok init tm evs`: `tm` is a manager state reached with ghost events `evs` from a store whose
abstract map was `init`.
-/
namespace HappyModel.C14.SM
open HappyModel.C14 HappyModel.C14.BT

structure Inv (ok : Store → Prop) (init : Key → Option Nat) (tm : TM) (evs : List Ev) : Prop where
  store_eq : ∀ k, tm.store.getSync k = replay init evs k
  store_ok : ok tm.store
  snap_le : ∀ s tx, tm.tx? s = some tx → tx.snap ≤ tm.version
  id_lt : ∀ s tx, tm.tx? s = some tx → tx.id < tm.nextId
  id_inj : ∀ s1 s2 t1 t2, tm.tx? s1 = some t1 → tm.tx? s2 = some t2 → t1.id = t2.id → s1 = s2
  log_id_lt : ∀ e ∈ tm.log, e.txid < tm.nextId
  /-- commit-log entries belong to finished transactions -/
  log_txid : ∀ e ∈ tm.log, ∀ s tx, tm.tx? s = some tx → tx.stat = .active → e.txid ≠ tx.id
  ev_slot : ∀ e ∈ evs, (tm.tx? e.slot).isSome
  /-- a value fetched by a still active transaction is current, or a later commit wrote the key -/
  fetched : ∀ s k val, Ev.fetched s k val ∈ evs → ∀ tx, tm.tx? s = some tx → tx.stat = .active →
    k ∈ tx.rset ∧ (val = tm.store.getSync k ∨ ∃ e ∈ tm.log, tx.snap < e.version ∧ k ∈ e.wkeys)
  /-- the claim: reads of a committed SERIALIZABLE transaction see the serial state at its commit -/
  comm : ∀ pre post s w, evs = pre ++ Ev.committed s w :: post → ∀ tx, tm.tx? s = some tx →
    tx.level = .ser → ∀ k val, Ev.fetched s k val ∈ pre → val = replay init pre k

/-- every transaction of `tm'` continues one of `tm`: same identity, at least its reads, not revived -/
structure Sim (tm tm' : TM) : Prop where
  back : ∀ s t, tm'.tx? s = some t → ∃ t0, tm.tx? s = some t0 ∧ t.id = t0.id ∧ t.level = t0.level ∧
    t.snap = t0.snap ∧ (t.stat = .active → t0.stat = .active) ∧ ∀ k ∈ t0.rset, k ∈ t.rset
  fwd : ∀ s, (tm.tx? s).isSome → (tm'.tx? s).isSome

theorem sim_of_upd {tm tm' : TM} {slot : Nat} {tx tx' : Tx} (hx : tm.tx? slot = some tx)
    (htx : ∀ s, tm'.tx? s = if s = slot then some tx' else tm.tx? s)
    (hid : tx'.id = tx.id) (hl : tx'.level = tx.level) (hs : tx'.snap = tx.snap)
    (hst : tx'.stat = .active → tx.stat = .active) (hr : ∀ k ∈ tx.rset, k ∈ tx'.rset) : Sim tm tm' := by
  constructor
  · intro s t h
    rw [htx] at h
    by_cases hs' : s = slot
    · obtain rfl : tx' = t := by simpa [hs'] using h
      exact ⟨tx, hs' ▸ hx, hid, hl, hs, hst, hr⟩
    · exact ⟨t, by simpa [hs'] using h, rfl, rfl, rfl, id, fun _ h => h⟩
  · intro s h
    rw [htx]
    split
    · rfl
    · exact h

theorem split_snoc {α : Type} {evs pre post : List α} {x y : α} (h : evs ++ [y] = pre ++ x :: post) :
    (evs = pre ∧ y = x) ∨ ∃ post', evs = pre ++ x :: post' := by
  rcases List.eq_nil_or_concat post with rfl | ⟨L, b, rfl⟩
  · exact .inl (by simpa using List.append_inj' h rfl)
  · rw [List.concat_eq_append, ← List.cons_append, ← List.append_assoc] at h
    exact .inr ⟨L, (List.append_inj' h rfl).1⟩

variable {ok : Store → Prop} {init : Key → Option Nat} {tm tm' : TM} {evs : List Ev}

/-- only transaction records change -/
theorem Inv.frame (h : Inv ok init tm evs) (sim : Sim tm tm') (hst : tm'.store = tm.store)
    (hv : tm'.version = tm.version) (hlog : tm'.log = tm.log) (hn : tm'.nextId = tm.nextId) :
    Inv ok init tm' evs where
  store_eq := by rw [hst]; exact h.store_eq
  store_ok := by rw [hst]; exact h.store_ok
  snap_le s t ht := by
    obtain ⟨t0, h0, _, _, h3, _⟩ := sim.back s t ht
    rw [hv, h3]; exact h.snap_le s t0 h0
  id_lt s t ht := by
    obtain ⟨t0, h0, h1, _⟩ := sim.back s t ht
    rw [hn, h1]; exact h.id_lt s t0 h0
  id_inj s1 s2 t1 t2 h1 h2 he := by
    obtain ⟨a, ha, ha1, _⟩ := sim.back s1 t1 h1
    obtain ⟨b, hb, hb1, _⟩ := sim.back s2 t2 h2
    exact h.id_inj s1 s2 a b ha hb (by omega)
  log_id_lt := by rw [hlog, hn]; exact h.log_id_lt
  log_txid e he s t ht hact := by
    obtain ⟨t0, h0, h1, _, _, h4, _⟩ := sim.back s t ht
    rw [h1]; exact h.log_txid e (hlog ▸ he) s t0 h0 (h4 hact)
  ev_slot e he := sim.fwd _ (h.ev_slot e he)
  fetched s k val hf t ht hact := by
    obtain ⟨t0, h0, _, _, h3, h4, h5⟩ := sim.back s t ht
    obtain ⟨g1, g2⟩ := h.fetched s k val hf t0 h0 (h4 hact)
    rw [hst, hlog, h3]
    exact ⟨h5 k g1, g2⟩
  comm pre post s w hd t ht hl := by
    obtain ⟨t0, h0, _, h2, _⟩ := sim.back s t ht
    exact h.comm pre post s w hd t0 h0 (h2 ▸ hl)

theorem fetchVal_cases {tm : TM} {s : Nat} {tx : Tx} (hx : tm.tx? s = some tx) (k : Key) :
    fetchVal tm s k = tm.store.getSync k ∨ ∃ e ∈ tm.log, tx.snap < e.version ∧ k ∈ e.wkeys := by
  simp only [fetchVal, hx, TM.adjust]
  cases tx.level
  · exact .inl rfl
  · exact snapshotValue_cases _ _ _ _
  · exact snapshotValue_cases _ _ _ _

theorem Inv.fetch (h : Inv ok init tm evs) {slot : Nat} {tx : Tx} {k : Key} (hx : tm.tx? slot = some tx)
    (hk : k ∈ tx.rset) : Inv ok init tm (evs ++ [.fetched slot k (fetchVal tm slot k)]) :=
  { h with
    store_eq := fun k => by rw [replay_append]; exact h.store_eq k
    ev_slot := fun e he => by
      rcases List.mem_append.1 he with he | he
      · exact h.ev_slot e he
      · obtain rfl := List.mem_singleton.1 he
        simp [Ev.slot, hx]
    fetched := fun s k' val hf t ht hact => by
      rcases List.mem_append.1 hf with hf | hf
      · exact h.fetched s k' val hf t ht hact
      · cases List.mem_singleton.1 hf
        cases hx.symm.trans ht
        exact ⟨hk, fetchVal_cases hx _⟩
    comm := fun pre post s w hd t ht hl => by
      rcases split_snoc hd with ⟨_, h3⟩ | ⟨post', h2⟩
      · cases h3
      · exact h.comm pre post' s w h2 t ht hl }

theorem Inv.fresh_ne (h : Inv ok init tm evs) {slot : Nat} (hx : tm.tx? slot = none) : ∀ e ∈ evs, e.slot ≠ slot :=
  fun e he hs => by
    have := h.ev_slot e he
    rw [hs, hx] at this
    cases this

theorem Inv.begin (h : Inv ok init tm evs) {slot : Nat} (lvl : Level) (hx : tm.tx? slot = none) :
    Inv ok init (tm.begin slot lvl) (evs ++ [.began slot]) := by
  obtain ⟨hst, hv, hlog, hn⟩ := begin_fields lvl hx
  have old := h.fresh_ne hx
  have back := @begin_back tm slot lvl hx
  refine
    { store_eq := fun k => by rw [hst, replay_append]; exact h.store_eq k
      store_ok := by rw [hst]; exact h.store_ok
      snap_le := fun s t ht => ?_
      id_lt := fun s t ht => ?_
      id_inj := fun s1 s2 t1 t2 h1 h2 he => ?_
      log_id_lt := fun e he => by rw [hn]; exact Nat.lt_succ_of_lt (h.log_id_lt e (hlog ▸ he))
      log_txid := fun e he s t ht hact => ?_
      ev_slot := fun e he => ?_
      fetched := fun s k val hf t ht hact => ?_
      comm := fun pre post s w hd t ht hl => ?_ }
  · rw [hv]
    rcases back s t ht with ⟨_, rfl⟩ | ⟨_, h0⟩
    · exact Nat.le_refl _
    · exact h.snap_le s t h0
  · rw [hn]
    rcases back s t ht with ⟨_, rfl⟩ | ⟨_, h0⟩
    · exact Nat.lt_succ_self _
    · exact Nat.lt_succ_of_lt (h.id_lt s t h0)
  · rcases back s1 t1 h1 with ⟨e1, rfl⟩ | ⟨_, g1⟩ <;> rcases back s2 t2 h2 with ⟨e2, rfl⟩ | ⟨_, g2⟩
    · rw [e1, e2]
    · exact absurd he (Nat.ne_of_gt (h.id_lt s2 t2 g2))
    · exact absurd he (Nat.ne_of_lt (h.id_lt s1 t1 g1))
    · exact h.id_inj s1 s2 t1 t2 g1 g2 he
  · rw [hlog] at he
    rcases back s t ht with ⟨_, rfl⟩ | ⟨_, h0⟩
    · exact Nat.ne_of_lt (h.log_id_lt e he)
    · exact h.log_txid e he s t h0 hact
  · rw [tx?_begin tm slot lvl hx]
    rcases List.mem_append.1 he with he | he
    · rw [if_neg (old e he)]; exact h.ev_slot e he
    · obtain rfl := List.mem_singleton.1 he
      simp [Ev.slot]
  · have hf : Ev.fetched s k val ∈ evs := by simpa using hf
    rcases back s t ht with ⟨hs, _⟩ | ⟨_, h0⟩
    · exact absurd hs (old _ hf)
    · rw [hst, hlog]; exact h.fetched s k val hf t h0 hact
  · rcases split_snoc hd with ⟨_, h3⟩ | ⟨post', h2⟩
    · cases h3
    · rcases back s t ht with ⟨hs, _⟩ | ⟨_, h0⟩
      · exact absurd hs (old (.committed s w) (by simp [h2]))
      · exact h.comm pre post' s w h2 t h0 hl

end HappyModel.C14.SM
