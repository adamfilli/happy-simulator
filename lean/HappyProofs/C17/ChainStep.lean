import HappyProofs.C17.ChainReach
/-!
`Good s0 s` (invariant, configuration of `s0`, complete if `s0` was) is what is carried through a handler segment.
Each elementary change of the state keeps it; where the invariant is broken in between, the changes are taken
together (`good_cw`, `good_headPut`).  A load changes its carrier at three places: a delivered `Propagate` hands it
to the new handler (`step_dl`), the head's put to the `Propagate` for node 1 (`good_headPut`), a handler's apply
segment to the node and the next `Propagate` (`step_rs_prop`).
-/
namespace HappyModel.C17.Chain

structure Good (s0 s : St) : Prop where
  inv : Inv s
  fr : FR s0 → FR s
  n : s.n = s0.n
  craq : s.craq = s0.craq

theorem Good.refl {s : St} (h : Inv s) : Good s s := ⟨h, id, rfl, rfl⟩

theorem Good.trans {s0 s1 s2 : St} (h : Good s0 s1) (h' : Good s1 s2) : Good s0 s2 :=
  ⟨h'.inv, fun h0 => h'.fr (h.fr h0), h'.n.trans h.n, h'.craq.trans h.craq⟩

variable {s0 s : St}

theorem good_fail (e : String) (h : Good s0 s) : Good s0 (s.fail e) :=
  ⟨inv_tables s _ 0 h.inv rfl (fun _ _ hm => Or.inl hm) (fun _ _ => rfl) (fun _ hp => Or.inl hp),
    fun h0 => ⟨⟨(h.fr h0).fresh.procs_none, (h.fr h0).fresh.msgs_none⟩, (h.fr h0).reach⟩, h.n, h.craq⟩

theorem good_reply (op : Nat) (t : String) (h : Good s0 s) : Good s0 (s.reply op t) :=
  ⟨inv_tables s _ 0 h.inv rfl (fun _ _ hm => Or.inl hm) (fun _ _ => rfl) (fun _ hp => Or.inl hp),
    fun h0 => ⟨⟨(h.fr h0).fresh.procs_none, (h.fr h0).fresh.msgs_none⟩, (h.fr h0).reach⟩, h.n, h.craq⟩

theorem good_spawn (p : Proc) (h : Good s0 s) (hp : ProcOK s p) (hk : p.kind ≠ .write) : Good s0 (s.spawn p) :=
  ⟨inv_putProc s _ s.np p h.inv rfl rfl rfl hp (fun hw => absurd hw hk),
    fun h0 => fr_putProc s _ s.np p (h.fr h0) rfl rfl rfl rfl (Nat.lt_succ_self _) (Nat.le_succ _)
      (fun q hq => by rw [(h.fr h0).fresh.procs_none _ (Nat.le_refl _)] at hq; cases hq), h.n, h.craq⟩

theorem good_setProc (pid : Nat) (p p' : Proc) (h : Good s0 s) (hp : s.procs pid = some p) (hok : ProcOK s p')
    (hw : p'.kind = .write → p.kind = .write ∧ p.seq = p'.seq)
    (hload : p.kind = .prop → p.seg = 1 → p.fin = false → ∀ j, p.node ≤ j → j < s.n →
      Carried (s.setProc pid p') p.seq j) : Good s0 (s.setProc pid p') :=
  ⟨inv_putProc s _ pid p' h.inv rfl rfl rfl hok (fun hkw => ⟨p, hp, hw hkw⟩),
    fun h0 => fr_setProc s pid p p' (h.fr h0) hp hload, h.n, h.craq⟩

theorem good_send (m : Msg) (h : Good s0 s) (hm : MsgOK s m) : Good s0 (s.send m) :=
  ⟨inv_putMsg s _ s.nm m h.inv rfl rfl rfl (Or.inl hm), fun h0 => fr_send s m (h.fr h0), h.n, h.craq⟩

theorem good_flag (mid : Nat) (m : Msg) (h : Good s0 s) (hm : s.msgs mid = some m)
    (hload : m.kind = .prop → m.delivered = false → ∀ j, m.dst ≤ j → j < s.n →
      Carried { s with msgs := upd s.msgs mid (some { m with delivered := true }) } m.seq j) :
    Good s0 { s with msgs := upd s.msgs mid (some { m with delivered := true }) } :=
  ⟨inv_putMsg s _ mid _ h.inv rfl rfl rfl (Or.inr ⟨m, hm, rfl⟩),
    fun h0 => fr_putMsg s _ mid _ (h.fr h0) rfl rfl rfl rfl ((h.fr h0).fresh.lt_nm hm) (Nat.le_refl _)
      (fun q hq => by cases hm.symm.trans hq; exact hload), h.n, h.craq⟩

theorem good_data {s' : St} (h : Good s0 s) (hc : Core s') (hm : Mono s s') (e : SameTables s s') : Good s0 s' :=
  ⟨inv_data s s' h.inv hc hm e, fun h0 => fr_data s s' (h.fr h0) h.inv.core hm e, hm.n.trans h.n,
    (by rw [e]; exact h.craq)⟩

theorem good_markCommitted (i k q : Nat) (h : Good s0 s) (hq : q ≤ s.aseq (s.n - 1) k) :
    Good s0 (markCommitted s i k q) := by
  obtain ⟨hc, hm⟩ := core_markCommitted s i k q h.inv.core hq
  exact good_data h hc hm (by rw [markCommitted_eq]; rfl)

theorem good_applyAt (i k v q : Nat) (h : Good s0 s) (hq : q ≤ s.applied) (hk : s.wk q = k)
    (hv : s.wv q = v) (hup : ∀ i', i' < i → q ≤ s.aseq i' k) :
    Good s0 (applyAt s i k v q) ∧ Mono s (applyAt s i k v q) ∧ q ≤ (applyAt s i k v q).aseq i k := by
  obtain ⟨hc, hm, hge⟩ := core_applyAt s i k v q h.inv.core hq hk hv hup
  exact ⟨good_data h hc hm (by rw [applyAt_frame]; rfl), hm, hge⟩

/-- a resolved `WriteAck` future: the tail has processed the write -/
theorem good_ack (k q : Nat) (h : Good s0 s) (hk : s.wk q = k) (hq : q ≤ s.aseq (s.n - 1) k) :
    Good s0 { s with ackd := upd s.ackd q true } := by
  have hc := h.inv.core
  refine good_data h ⟨hc.n2, hc.app_le, hc.order, hc.store, hc.commit, hc.clean, ?_⟩
    ⟨rfl, Nat.le_refl _, Nat.le_refl _, fun _ _ => rfl, fun _ _ => rfl, fun _ _ => Nat.le_refl _, ?_⟩ rfl
  · intro x hx
    have hx : upd s.ackd q true x = true := hx
    by_cases hxq : x = q
    · rw [hxq, hk]; exact hq
    · rw [upd_other _ _ _ _ hxq] at hx; exact hc.ackd x hx
  · intro x hx
    show upd s.ackd q true x = true
    by_cases hxq : x = q
    · rw [hxq, upd_same]
    · rw [upd_other _ _ _ _ hxq]; exact hx

theorem good_sendNotes (k q i : Nat) (h : Good s0 s) (hq : q ≤ s.aseq (s.n - 1) k) :
    Good s0 (sendNotes s k q i) := by
  induction i generalizing s with
  | zero => exact h
  | succ i ih =>
    unfold sendNotes
    exact ih (good_send _ h (by unfold MsgOK; exact hq)) hq

theorem good_advance_prop (pid : Nat) (p : Proc) (g : Nat) (f : Bool) (h : Good s0 s)
    (hp : s.procs pid = some p) (hk : p.kind = .prop) (hge : p.seq ≤ s.aseq p.node p.key)
    (hload : p.seg = 1 → ∀ j, p.node ≤ j → j < s.n → Carried (s.setProc pid { p with seg := g, fin := f }) p.seq j) :
    Good s0 (s.setProc pid { p with seg := g, fin := f }) := by
  have hpo := h.inv.procs pid p hp
  refine good_setProc pid p _ h hp ?_ (fun hw => by cases hk.symm.trans hw) (fun _ h1 _ => hload h1)
  obtain ⟨a1, a2, a3, a4, a5, a6, a7, -⟩ := (procOK_prop hk).1 hpo
  exact (procOK_prop (p := { p with seg := g, fin := f }) hk).2 ⟨a1, a2, a3, a4, a5, a6, a7, fun _ => hge⟩

theorem good_advance_write (pid : Nat) (p : Proc) (g : Nat) (f : Bool) (h : Good s0 s)
    (hp : s.procs pid = some p) (hk : p.kind = .write) (hg : g ≠ 1) (happ : p.seq ≤ s.applied)
    (hack : f = true → s.ackd p.seq = true) : Good s0 (s.setProc pid { p with seg := g, fin := f }) := by
  have hpo := h.inv.procs pid p hp
  refine good_setProc pid p _ h hp ?_ (fun _ => ⟨hk, rfl⟩) (fun hpr => by cases hk.symm.trans hpr)
  obtain ⟨w1, w2, w3, w4, -, -, -⟩ := (procOK_write hk).1 hpo
  exact (procOK_write (p := { p with seg := g, fin := f }) hk).2 ⟨w1, w2, w3, w4, fun h1 => absurd h1 hg, fun _ => happ, hack⟩

theorem good_advance_read (pid : Nat) (p p' : Proc) (h : Good s0 s) (hp : s.procs pid = some p)
    (hk : p.kind = .read) (hk' : p'.kind = .read) : Good s0 (s.setProc pid p') :=
  good_setProc pid p p' h hp (by unfold ProcOK; rw [hk']; trivial) (fun hw => by cases hk'.symm.trans hw)
    (fun hpr => by cases hk.symm.trans hpr)

/-- A client write is accepted at the head: the new sequence number `s.seq + 1` is above everything
    the invariant of `s` speaks of. -/
theorem good_cw (op k v : Nat) (h : Good s0 s) :
    Good s0 (({ s with seq := s.seq + 1, wk := upd s.wk (s.seq + 1) k, wv := upd s.wv (s.seq + 1) v }).spawn
      { kind := .write, node := 0, key := k, val := v, seq := s.seq + 1, op := op }) := by
  have hi := h.inv
  have hc := hi.core
  let pw : Proc := { kind := .write, node := 0, key := k, val := v, seq := s.seq + 1, op := op }
  let s1 : St := { s with seq := s.seq + 1, wk := upd s.wk (s.seq + 1) k, wv := upd s.wv (s.seq + 1) v }
  have hwk : ∀ q, q ≤ s.seq → s1.wk q = s.wk q :=
    fun q hq => upd_other _ _ _ _ (Nat.ne_of_lt (Nat.lt_succ_of_le hq))
  have hwv : ∀ q, q ≤ s.seq → s1.wv q = s.wv q :=
    fun q hq => upd_other _ _ _ _ (Nat.ne_of_lt (Nat.lt_succ_of_le hq))
  have hle : ∀ i k', s.aseq i k' ≤ s.seq := fun i k' => Nat.le_trans (hc.store i k').1 hc.app_le
  refine ⟨?_, fun h0 => ?_, h.n, h.craq⟩
  · apply inv_step s (s1.spawn pw) s.np hi
    · refine ⟨hc.n2, Nat.le_succ_of_le hc.app_le, hc.order, ?_, hc.commit, hc.clean, ?_⟩
      · intro i k'
        refine ⟨(hc.store i k').1, (hc.store i k').2.1, fun hne => ?_⟩
        show s1.wk (s.aseq i k') = k' ∧ s.store i k' = some (s1.wv (s.aseq i k'))
        rw [hwk _ (hle i k'), hwv _ (hle i k')]; exact (hc.store i k').2.2 hne
      · intro q hq
        show q ≤ s.aseq (s.n - 1) (s1.wk q)
        rw [hwk q (Nat.le_trans (hc.ackd q hq) (hle _ _))]; exact hc.ackd q hq
    · exact ⟨rfl, Nat.le_refl _, Nat.le_succ _, hwk, hwv, fun _ _ => Nat.le_refl _, fun _ h => h⟩
    · intro mid m hm; exact Or.inl hm
    · intro pid hpid; exact upd_other _ _ _ _ hpid
    · intro q hq
      have hq : some pw = some q := (upd_same _ _ _).symm.trans hq
      cases hq
      refine Or.inr ⟨?_, fun _ => Or.inr (Nat.lt_succ_self _)⟩
      unfold ProcOK
      exact ⟨Nat.succ_le_succ (Nat.zero_le _), Nat.le_refl _, upd_same _ _ _, upd_same _ _ _,
        fun _ => Nat.lt_succ_of_le hc.app_le, fun h1 => absurd rfl h1, fun h1 => by cases h1⟩
    · intro pid q h1 _ hqk hs; exact hi.write_pending h1 hqk hs
  · have h1 := h.fr h0
    exact fr_putProc s1 _ s.np pw ⟨⟨h1.fresh.procs_none, h1.fresh.msgs_none⟩, reach_of s s1 h1.reach rfl
        (fun q hq => hwk q (Nat.le_trans hq hc.app_le)) (fun _ _ => Nat.le_refl _) (fun _ _ c _ _ => Or.inl c)
        (fun _ _ c _ _ _ => Or.inl c) (fun q hq hq' => absurd (Nat.lt_of_lt_of_le hq hq') (Nat.lt_irrefl _))⟩
      rfl rfl rfl rfl (Nat.lt_succ_self _) (Nat.le_succ _)
      (fun q hq => by rw [show s1.procs s.np = none from h1.fresh.procs_none _ (Nat.le_refl _)] at hq; cases hq)

/-- The head's put lands: `_applied_seq[key] = seq`, the key is dirty under CRAQ, `Propagate` goes to
    node 1.  Between the put and the handler's move to segment 2 the invariant does not hold (the
    handler still claims that its put is pending), so the three updates are taken together.  For
    completeness the put and the `Propagate` touch different fields: the message is sent first, so that
    the new write is carried by it at the instant it counts as applied. -/
theorem good_headPut (pid : Nat) (p : Proc) (h : Good s0 s) (hp : s.procs pid = some p)
    (hk : p.kind = .write) (hq : p.seq = s.applied + 1) :
    let s1 : St := { s with applied := s.applied + 1, store := upd2 s.store 0 p.key (some p.val),
                            aseq := upd2 s.aseq 0 p.key p.seq,
                            dirty := if s.craq then upd2 s.dirty 0 p.key true else s.dirty }
    Good s0 ((s1.send { kind := .prop, dst := 1, key := p.key, val := p.val, seq := p.seq }).setProc pid
      { p with seg := 2 }) := by
  intro s1
  have hi := h.inv
  obtain ⟨w1, w2, w3, w4, -, -, w7⟩ := (procOK_write hk).1 (hi.procs pid p hp)
  have hc := hi.core
  refine ⟨?_, fun h0 => ?_, h.n, h.craq⟩
  · obtain ⟨hc1, hm1⟩ := core_raise s 0 p.key p.val p.seq (s.applied + 1) hc
      (hq ▸ Nat.lt_succ_of_le (hc.store 0 p.key).1) (Nat.le_of_eq hq) (Nat.le_succ _) (hq ▸ w2) w3 w4
      (fun _ hi => absurd hi (Nat.not_lt_zero _))
    refine inv_step s _ pid hi (SameData.core (s := s1) rfl hc1)
      ⟨hm1.n, hm1.applied, hm1.seq, hm1.wk, hm1.wv, hm1.aseq, hm1.ackd⟩ ?_ ?_ ?_ ?_
    · intro x mx hx
      have hx : upd s.msgs s.nm (some _) x = some mx := hx
      by_cases hxm : x = s.nm
      · rw [hxm, upd_same] at hx; cases hx
        refine Or.inr (Or.inl ?_)
        unfold MsgOK
        refine ⟨Nat.le_refl _, hc.n2, w1, Nat.le_of_eq hq, w3, w4, fun i hi => ?_⟩
        obtain rfl : i = 0 := Nat.lt_one_iff.mp hi
        show p.seq ≤ upd2 s.aseq 0 p.key p.seq 0 p.key
        rw [upd2_apply, if_pos ⟨rfl, rfl⟩]; exact Nat.le_refl _
      · rw [upd_other _ _ _ _ hxm] at hx; exact Or.inl hx
    · intro x hx; exact upd_other _ _ _ _ hx
    · intro r hr
      have hr : some { p with seg := 2 } = some r := (upd_same _ _ _).symm.trans hr
      cases hr
      refine Or.inr ⟨?_, fun _ => Or.inl ⟨p, hp, hk, rfl⟩⟩
      unfold ProcOK
      rw [hk]
      exact ⟨w1, w2, w3, w4, fun h1 => absurd h1 (Nat.succ_ne_self 1), fun _ => Nat.le_of_eq hq, w7⟩
    · -- the other pending puts have later sequence numbers
      intro x r h1 h2 hrk hs
      have hne : r.seq ≠ p.seq := by
        intro e
        have hxp := hi.uniq x r pid p h1 hp hrk hk e
        rw [hxp] at h2
        have h2 : some { p with seg := 2 } = some r := (upd_same _ _ _).symm.trans h2
        cases h2; cases hs
      exact Nat.lt_of_le_of_ne (hi.write_pending h1 hrk hs) (fun e => hne (e.symm.trans hq.symm))
  · have h2 := fr_headApply _ p.key p.val p.seq
      (fr_send s { kind := .prop, dst := 1, key := p.key, val := p.val, seq := p.seq } (h.fr h0)) hq
      (hq ▸ Nat.le_succ_of_le (hc.store 0 p.key).1) ⟨s.nm, _, upd_same _ _ _, rfl, rfl, Nat.le_refl _, rfl⟩
    exact fr_setProc _ pid p _ h2 hp (fun hpr => by cases hk.symm.trans hpr)

theorem step_cw (s : St) (op node k v : Nat) (h : Inv s) : Good s (step s (.cw op node k v)) := by
  have hg := Good.refl h
  simp only [step]
  by_cases hn : node ≥ s.n
  · rw [if_pos hn]; exact good_fail _ hg
  · rw [if_neg hn]
    by_cases h0 : node ≠ 0
    · rw [if_pos h0]
      exact good_spawn _ (good_reply _ _ hg) (by unfold ProcOK; trivial) (fun e => by cases e)
    · rw [if_neg h0]; exact good_cw op k v hg

theorem step_cr (s : St) (op node k : Nat) (h : Inv s) : Good s (step s (.cr op node k)) := by
  simp only [step]
  by_cases hn : node ≥ s.n
  · rw [if_pos hn]; exact good_fail _ (Good.refl h)
  · rw [if_neg hn]; exact good_spawn _ (Good.refl h) (by unfold ProcOK; trivial) (fun e => by cases e)

theorem step_dl (s : St) (mid : Nat) (h : Inv s) : Good s (step s (.dl mid)) := by
  have hg := Good.refl h
  simp only [step, deliver]
  cases hm : s.msgs mid with
  | none => exact good_fail _ hg
  | some m =>
    by_cases hd : m.delivered = true
    · simp only [if_pos hd]; exact good_fail _ hg
    · have hmok := h.msgs mid m hm
      unfold MsgOK at hmok
      simp only [if_neg hd]
      cases hk : m.kind <;> rw [hk] at hmok
      · -- the new handler takes over the message's load: spawning and flagging touch different tables,
        -- so the handler may be added first
        have h1 := good_flag mid m (good_spawn { kind := .prop, node := m.dst, key := m.key, val := m.val, seq := m.seq, op := mid }
          hg (by unfold ProcOK; exact ⟨hmok.1, hmok.2.1, hmok.2.2.1, hmok.2.2.2.1, hmok.2.2.2.2.1, hmok.2.2.2.2.2.1,
            hmok.2.2.2.2.2.2, fun hne => absurd rfl hne⟩) (fun e => by cases e)) hm
          (fun _ _ j hj _ => Or.inr (Or.inr ⟨s.np, _, upd_same _ _ _, rfl, rfl, hj, rfl, rfl⟩))
        rw [hk] at h1; exact h1
      all_goals have h1 := good_flag mid m hg hm (fun hp => by rw [hk] at hp; cases hp)
      all_goals rw [hk] at h1
      · exact good_spawn _ (good_ack m.key m.seq h1 hmok.2.1 hmok.2.2) (by unfold ProcOK; trivial) (fun e => by cases e)
      · refine good_spawn _ ?_ (by unfold ProcOK; trivial) (fun e => by cases e)
        by_cases hcr : s.craq = true
        · rw [if_pos hcr]; exact good_markCommitted _ _ _ h1 hmok
        · rw [if_neg hcr]; exact h1
      · exact good_spawn _ h1 (by unfold ProcOK; trivial) (fun e => by cases e)

theorem step_rs_write (s : St) (pid : Nat) (p : Proc) (h : Inv s) (hp : s.procs pid = some p)
    (hk : p.kind = .write) : Good s (resumeWrite s pid p) := by
  have hg := Good.refl h
  obtain ⟨-, -, w3, -, -, w6, w7⟩ := (procOK_write hk).1 (h.procs pid p hp)
  unfold resumeWrite
  by_cases hseg : p.seg = 1
  · rw [if_pos hseg]
    by_cases hfifo : p.seq = s.applied + 1
    · rw [if_neg (not_not_intro hfifo)]; exact good_headPut pid p hg hp hk hfifo
    · rw [if_pos hfifo]; exact good_fail _ hg
  · rw [if_neg hseg]
    by_cases hseg2 : p.seg = 2
    · rw [if_pos hseg2]; exact good_advance_write pid p 3 p.fin hg hp hk (by decide) (w6 hseg) w7
    · rw [if_neg hseg2]
      by_cases hack : s.ackd p.seq = true
      · rw [if_pos hack]
        have hq : p.seq ≤ s.aseq (s.n - 1) p.key := w3 ▸ h.core.ackd p.seq hack
        have h1 := good_reply p.op (okTxt p.seq) (good_markCommitted 0 p.key p.seq hg hq)
        exact good_advance_write pid p 4 true h1 (by rw [markCommitted_eq]; exact hp) hk (by decide)
          (by rw [markCommitted_eq]; exact w6 hseg) (fun _ => by rw [markCommitted_eq]; exact hack)
      · rw [if_neg hack]; exact good_fail _ hg

theorem step_rs_prop (s : St) (pid : Nat) (p : Proc) (h : Inv s) (hp : s.procs pid = some p)
    (hk : p.kind = .prop) : Good s (resumeProp s pid p) := by
  have hg := Good.refl h
  obtain ⟨-, -, a3, a4, a5, a6, a7, a8⟩ := (procOK_prop hk).1 (h.procs pid p hp)
  unfold resumeProp
  dsimp only
  by_cases hseg : p.seg = 1
  · -- the apply segment: the handler's load is applied here and handed to the next message; what the
    -- message needs is read off the handler's facts afterwards
    rw [if_pos hseg]
    obtain ⟨hg1, hm1, hge⟩ := good_applyAt p.node p.key p.val p.seq hg a4 a5 a6 a7
    have hp1 : (applyAt s p.node p.key p.val p.seq).procs pid = some p := by rw [applyAt_frame]; exact hp
    obtain ⟨-, b2, -, b4, b5, b6, b7, -⟩ := (procOK_prop hk).1 (hg1.inv.procs pid p hp1)
    have hn : (applyAt s p.node p.key p.val p.seq).n = s.n := hm1.n
    generalize applyAt s p.node p.key p.val p.seq = s1 at *
    -- the handler leaves its apply segment: its load is at its node, and beyond it in the message
    have leave : ∀ (m : Msg), MsgOK s1 m →
        (∀ j, p.node < j → j < s1.n → Carried ((s1.send m).setProc pid { p with seg := 2 }) p.seq j) →
        Good s ((s1.send m).setProc pid { p with seg := 2 }) := fun m hm hc =>
      good_advance_prop pid p 2 p.fin (good_send m hg1 hm) hp1 hk hge (fun _ j hj hjn => by
        rcases Nat.eq_or_lt_of_le hj with hj | hj
        · exact Or.inl (by rw [← hj]; show p.seq ≤ s1.aseq p.node (s1.wk p.seq); rw [b5]; exact hge)
        · exact hc j hj hjn)
    by_cases htail : p.node = s.tail
    · rw [if_pos htail]
      have htail : p.node = s.n - 1 := htail
      refine leave _ ?_ (fun j hj hjn => ?_)
      · unfold MsgOK; exact ⟨b4, b5, by rw [hn, ← htail]; exact hge⟩
      · exact absurd (Nat.lt_of_lt_of_le hj (htail ▸ Nat.le_sub_one_of_lt (hn ▸ hjn))) (Nat.lt_irrefl _)
    · rw [if_neg htail]
      refine leave _ ?_ (fun j hj _ => Or.inr (Or.inl ⟨_, _, upd_same _ _ _, rfl, rfl, hj, rfl⟩))
      unfold MsgOK
      refine ⟨Nat.succ_le_succ (Nat.zero_le _), ?_, a3, b4, b5, b6, fun i hi => ?_⟩
      · rw [hn] at b2 ⊢
        exact Nat.lt_of_le_of_ne b2 (fun e => htail (Nat.sub_eq_of_eq_add e.symm).symm)
      · rcases Nat.lt_succ_iff_lt_or_eq.mp hi with hi | hi
        · exact b7 i hi
        · exact hi ▸ hge
  · rw [if_neg hseg]
    have hge := a8 hseg
    have hnl : ∀ {s' : St} {q : Proc}, p.seg = 1 → ∀ j, p.node ≤ j → j < s'.n → Carried (s'.setProc pid q) p.seq j :=
      fun h1 => absurd h1 hseg
    by_cases hseg2 : p.seg = 2
    · rw [if_pos hseg2]
      by_cases htail : p.node = s.tail
      · rw [if_pos htail]
        have htail : p.node = s.n - 1 := htail
        have hq : p.seq ≤ s.aseq (s.n - 1) p.key := htail ▸ hge
        have h1 := good_markCommitted p.node p.key p.seq hg hq
        by_cases hcr : s.craq = true
        · rw [if_pos hcr]
          refine good_advance_prop pid p 3 p.fin (good_sendNotes p.key p.seq p.node h1 ?_) ?_ hk ?_ hnl
          · rw [markCommitted_eq]; exact hq
          · rw [sendNotes_frame, markCommitted_eq]; exact hp
          · rw [sendNotes_frame, markCommitted_eq]; exact hge
        · rw [if_neg hcr]
          exact good_advance_prop pid p 3 true h1 (by rw [markCommitted_eq]; exact hp) hk
            (by rw [markCommitted_eq]; exact hge) hnl
      · rw [if_neg htail]; exact good_advance_prop pid p 3 true hg hp hk hge hnl
    · rw [if_neg hseg2]; exact good_advance_prop pid p 4 true hg hp hk hge hnl

theorem step_rs_read (s : St) (pid : Nat) (p : Proc) (h : Inv s) (hp : s.procs pid = some p)
    (hk : p.kind = .read) : Good s (resumeRead s pid p) := by
  have hg := Good.refl h
  unfold resumeRead
  by_cases hseg : p.seg = 1
  · rw [if_pos hseg]
    by_cases hfw : (s.craq && p.node != s.tail && s.dirty p.node p.key) = true
    · rw [if_pos hfw]; exact good_advance_read pid p _ (good_send _ hg (by unfold MsgOK; trivial)) hp hk hk
    · rw [if_neg hfw]; exact good_advance_read pid p _ (good_reply _ _ hg) hp hk hk
  · rw [if_neg hseg]; exact good_advance_read pid p _ hg hp hk hk

theorem step_good (s : St) (a : Act) (h : Inv s) : Good s (step s a) := by
  cases a with
  | cw op node k v => exact step_cw s op node k v h
  | cr op node k => exact step_cr s op node k h
  | dl mid => exact step_dl s mid h
  | ae n p => exact good_fail _ (Good.refl h)
  | tick t => exact good_fail _ (Good.refl h)
  | rs pid =>
    have hg := Good.refl h
    simp only [step, resume]
    cases hp : s.procs pid with
    | none => exact good_fail _ hg
    | some p =>
      by_cases hf : p.fin = true
      · simp only [if_pos hf]; exact good_fail _ hg
      · simp only [if_neg hf]
        cases hk : p.kind
        · exact step_rs_write s pid p h hp hk
        · exact step_rs_prop s pid p h hp hk
        · exact step_rs_read s pid p h hp hk
        · exact good_fail _ hg

theorem step_inv (s : St) (a : Act) (h : Inv s) : Inv (step s a) := (step_good s a h).inv

theorem run_good (s : St) (acts : List Act) (h : Inv s) : Good s (run s acts) := by
  induction acts generalizing s with
  | nil => exact Good.refl h
  | cons a as ih => exact (step_good s a h).trans (ih _ (step_good s a h).inv)

theorem run_inv (s : St) (acts : List Act) (h : Inv s) : Inv (run s acts) := (run_good s acts h).inv

theorem init_inv (craq : Bool) (n : Nat) (hn : 2 ≤ n) : Inv (init craq n) := by
  refine ⟨⟨hn, Nat.le_refl _, fun _ _ _ _ _ => Nat.le_refl _, fun _ _ => ⟨Nat.le_refl _, fun _ => rfl, fun h => absurd rfl h⟩,
    fun _ _ => Nat.le_refl _, fun _ _ _ _ => Nat.le_refl _, fun q hq => by cases hq⟩, ?_, ?_, ?_⟩
  · intro mid m hm; cases hm
  · intro pid p hp; cases hp
  · intro pid p pid' p' hp; cases hp

end HappyModel.C17.Chain
