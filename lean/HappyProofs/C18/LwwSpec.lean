import HappyProofs.C18.SpecInv
import HappyProofs.C18.CrdtLaws
/-!
LWW register: the register of a replica holds a seen write that no seen write beats.
-/
namespace HappyModel.C18

def Best (W : Ts × Nat → Prop) : Option (Ts × Nat) → Prop
  | none => ∀ w, ¬ W w
  | some (t, v) => W (t, v) ∧ ∀ w, W w → Ts.lt t w.1 = false

theorem Best.congr {W W' : Ts × Nat → Prop} {c : Option (Ts × Nat)} (h : Best W c)
    (hw : ∀ w, W' w ↔ W w) : Best W' c := by
  have : W' = W := funext fun w => propext (hw w)
  rw [this]; exact h

theorem Best.set {W W' : Ts × Nat → Prop} {c : Option (Ts × Nat)} (h : Best W c) (t : Ts) (v : Nat)
    (hin : W' (t, v)) (hsub : ∀ w, W w → W' w) (hnew : ∀ w, W' w → W w ∨ Ts.lt t w.1 = false) :
    Best W' (LWW.set ⟨c⟩ v t).cur := by
  cases c with
  | none =>
    refine ⟨hin, fun w hw => ?_⟩
    rcases hnew w hw with h1 | h1
    · exact absurd h1 (h w)
    · exact h1
  | some tv =>
    obtain ⟨t0, v0⟩ := tv
    obtain ⟨h0, hmax⟩ := h
    simp only [LWW.set]
    cases hlt : Ts.lt t0 t with
    | true =>
      simp only [if_true]
      refine ⟨hin, fun w hw => ?_⟩
      rcases hnew w hw with h1 | h1
      · cases h2 : Ts.lt t w.1 with
        | false => rfl
        | true => have := Ts.lt_trans hlt h2; rw [hmax w h1] at this; exact absurd this (by simp)
      · exact h1
    | false =>
      simp only [Bool.false_eq_true, if_false]
      refine ⟨hsub _ h0, fun w hw => ?_⟩
      rcases hnew w hw with h1 | h1
      · exact hmax w h1
      · exact Ts.not_lt_trans hlt h1

theorem Best.merge {Wa Wb W' : Ts × Nat → Prop} {a b : LWW} (ha : Best Wa a.cur) (hb : Best Wb b.cur)
    (hw : ∀ w, W' w ↔ Wa w ∨ Wb w) : Best W' (a.merge b).cur := by
  cases b with
  | mk cb =>
    cases cb with
    | none =>
      simp only [LWW.merge]
      exact ha.congr fun w => by rw [hw]; exact ⟨fun h => h.elim id (fun h' => absurd h' (hb w)), Or.inl⟩
    | some tv =>
      obtain ⟨t, v⟩ := tv
      simp only [LWW.merge]
      cases a with
      | mk ca =>
        exact Best.set ha t v ((hw _).mpr (Or.inr hb.1)) (fun w h => (hw w).mpr (Or.inl h))
          (fun w h => ((hw w).mp h).elim Or.inl (fun h' => Or.inr (hb.2 w h')))

theorem Best.ts_eq {W : Ts × Nat → Prop} {t1 t2 : Ts} {v1 v2 : Nat}
    (h1 : Best W (some (t1, v1))) (h2 : Best W (some (t2, v2))) : t1 = t2 :=
  Ts.eq_of_not_lt (h1.2 _ h2.1) (h2.2 _ h1.1)

def IsWrite (op : COp) (w : Ts × Nat) : Prop := ∃ r0, op = .lset r0 w.2 w.1.p w.1.l w.1.node

theorem SpecSys.mem_writes (t : SpecSys) (r : Nat) (w : Ts × Nat) :
    w ∈ t.writes r ↔ ∃ a, Seen t r a ∧ IsWrite a.op w := by
  unfold SpecSys.writes IsWrite Seen
  simp only [List.mem_filterMap]
  constructor
  · rintro ⟨rc, hrc, h⟩
    by_cases hk : (t.know r).contains rc.id = true
    · simp only [hk, if_true] at h
      refine ⟨rc, ⟨hrc, by simpa using hk⟩, ?_⟩
      split at h
      · rename_i r0 v p l nd heq
        simp only [Option.some.injEq] at h
        subst h
        exact ⟨r0, heq⟩
      · simp at h
    · rw [if_neg hk] at h; cases h
  · rintro ⟨rc, ⟨hrc, hk⟩, r0, hop⟩
    refine ⟨rc, hrc, ?_⟩
    have hk' : (t.know r).contains rc.id = true := by simpa using hk
    simp only [hk', if_true, hop]

theorem SpecSys.lwwOk_iff (t : SpecSys) (r : Nat) (c : Option (Ts × Nat)) :
    t.lwwOk r c = true ↔ Best (fun w => w ∈ t.writes r) c := by
  cases c with
  | none =>
    simp only [SpecSys.lwwOk, Best, List.isEmpty_iff]
    constructor
    · intro h w; rw [h]; simp
    · intro h; exact List.eq_nil_iff_forall_not_mem.mpr h
  | some tv =>
    obtain ⟨tt, v⟩ := tv
    simp only [SpecSys.lwwOk, Best, Bool.and_eq_true, List.contains_eq_mem, decide_eq_true_eq,
      List.all_eq_true, Bool.not_eq_true']

theorem mem_writes_local (t : SpecSys) (h : SpecInv t) (r : Nat) (op : COp) (r' : Nat) (w : Ts × Nat) :
    w ∈ (t.local r op).writes r' ↔ w ∈ t.writes r' ∨ (r' = r ∧ IsWrite op w) := by
  simp only [SpecSys.mem_writes]
  exact exists_seen_local t h r op r' _

theorem mem_writes_merge (t : SpecSys) (d s r' : Nat) (w : Ts × Nat) :
    w ∈ (t.mergeStep d s).writes r' ↔ w ∈ t.writes r' ∨ (r' = d ∧ w ∈ t.writes s) := by
  simp only [SpecSys.mem_writes]
  exact exists_seen_merge t d s r' _

def LwwDen (_ : Unit) (r : Nat) (t : SpecSys) (x : Rep) : Prop :=
  Best (fun w => w ∈ t.writes r) x.lww.cur

/-- `LwwDen` of every replica (`fun r => …` of it, by `rfl`) -/
def WInv (s : Sys) (t : SpecSys) : Prop :=
  ∀ r, Best (fun w => w ∈ t.writes r) (s.rep r).lww.cur

theorem winv_init : WInv Sys.init {} := by
  intro r w
  simp [SpecSys.writes]

theorem lwwDen : Den LwwDen where
  loc := by
    intro t hi _ r op x _ h
    refine ⟨(), ?_, fun r' hr' y hy => hy.congr fun w => by rw [mem_writes_local t hi]; simp [hr']⟩
    cases op with
    | lset r0 v p l nd =>
      refine Best.set h ⟨p, l, nd⟩ v ?_ ?_ ?_
      · exact (mem_writes_local t hi _ _ _ _).mpr (Or.inr ⟨rfl, r0, rfl⟩)
      · intro w hw; exact (mem_writes_local t hi _ _ _ _).mpr (Or.inl hw)
      · intro w hw
        rcases (mem_writes_local t hi _ _ _ _).mp hw with h1 | ⟨_, r1, h1⟩
        · exact Or.inl h1
        · right
          obtain ⟨⟨wp, wl, wn⟩, wv⟩ := w
          simp only [COp.lset.injEq] at h1
          obtain ⟨_, _, rfl, rfl, rfl⟩ := h1
          exact Ts.lt_irrefl _
    | _ =>
      -- not a write: the register and the set of seen writes stay
      exact h.congr fun w => by
        rw [mem_writes_local t hi]
        exact ⟨fun hh => hh.elim id (fun ⟨_, _, e⟩ => nomatch e), Or.inl⟩
  mrg := fun _ _ _ _ _ _ hx hy => Best.merge hx hy fun w => by rw [mem_writes_merge]; simp
  keep := fun _ _ _ _ _ hr h => h.congr fun w => by rw [mem_writes_merge]; simp [hr]

theorem winv_step (s : Sys) (t : SpecSys) (o : COp) (hi : SpecInv t) (h : WInv s t) :
    WInv (s.step o) (t.step o) :=
  (lwwDen.step s t o hi ⟨(), h⟩).elim fun _ h' => h'

end HappyModel.C18
