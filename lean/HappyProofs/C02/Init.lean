import HappyModel.C01.Parse
import HappyProofs.C01.Inv
import HappyProofs.C02.Run
/-!
# C02 — the initial state satisfies the invariants; readable consequences of `ProcInv`

`InitOk` is what the run-level theorems ask of a start state (only plain events pending, no process, nobody parked);
the initial state of a program with a plain pre-run schedule satisfies it and the engine invariant of C01.
-/
namespace HappyModel.C01

/-- a pre-run schedule of plain events (no continuation payloads) — what `parseProgram` produces (by inspection of
    `HappyModel/C01/Parse.lean`, where `data` is the literal 0; no theorem says it) -/
def Program.Plain (p : Program) : Prop :=
  (∀ x ∈ p.pre, x.1.data = 0) ∧ (∀ x ∈ p.held, x.data = 0)

theorem cntSpec_zero_of_plain (l : List Spec) (h : ∀ sp ∈ l, sp.data = 0) (q : Nat) : cntSpec l q = 0 := by
  unfold cntSpec
  rw [List.countP_eq_zero]
  intro sp hsp
  simp [h sp hsp]

structure InitOk (s : St PS) : Prop where
  heapPlain : ∀ e ∈ s.heap, e.data = 0
  noPark : ∀ f, (futGet s.ent.futs f).parked = none
  noProcs : s.ent.procs = []
  heldPlain : ∀ q ∈ s.ent.held, q.2.data = 0

theorem InitOk.procInv {s : St PS} (h : InitOk s) : ProcInv s := by
  have hheap : ∀ q, cntHeap s.heap q = 0 := by
    intro q
    unfold cntHeap
    rw [List.countP_eq_zero]
    intro e he
    simp [h.heapPlain e he]
  have hpark : ∀ q, cntPark s.ent.futs q = 0 := by
    intro q
    rw [cntPark_zero]
    intro f; rw [h.noPark f]; simp
  refine ⟨?_, ?_, ?_, ?_, h.heldPlain⟩
  · intro q; rw [hheap, hpark]; omega
  · intro e he; rw [h.heapPlain e he]; omega
  · intro f pid hf; rw [h.noPark f] at hf; simp at hf
  · intro pid p hp; rw [h.noProcs] at hp; simp at hp

theorem initState_ok (p : Program) (gateCont : Bool) (hp : p.Plain) : InitOk (p.initState gateCont) := by
  refine ⟨?_, ?_, rfl, ?_⟩
  · intro e he
    have he' : e ∈ mkEvents 0 p.start (p.pre.map (·.1)) := he
    obtain ⟨sp, hsp, hd, _, _⟩ := mkEvents_mem 0 p.start _ e he'
    rw [hd]
    obtain ⟨x, hx, rfl⟩ := List.mem_map.mp hsp
    exact hp.1 x hx
  · intro f
    show (futGet [] f).parked = none
    rw [futGet_default [] f (by simp)]
  · intro q hq
    have hq' : q ∈ ((List.range p.held.length).zip p.held).map
        (fun q => (q.1, { q.2 with tag := (p.pre.map (·.1)).length + q.1 + 1 })) := hq
    obtain ⟨x, hx, rfl⟩ := List.mem_map.mp hq'
    exact hp.2 x.2 (List.of_mem_zip hx).2

theorem initState_inv (p : Program) (gateCont : Bool) : Inv (p.initState gateCont) :=
  { init_inv (p.initState gateCont).ent p.start (p.pre.map Prod.fst) with }

theorem ProcInv.park_excludes_continuation {s : St PS} (inv : ProcInv s) (f pid : Nat)
    (h : (futGet s.ent.futs f).parked = some pid) : ∀ e ∈ s.heap, e.data ≠ pid + 1 :=
  fun e he hd => cont_not_parked s e inv he (by omega) f (by rw [hd]; exact h)

theorem ProcInv.park_unique {s : St PS} (inv : ProcInv s) (f g pid : Nat)
    (hf : (futGet s.ent.futs f).parked = some pid) (hg : (futGet s.ent.futs g).parked = some pid) : f = g := by
  apply Classical.byContradiction
  intro hne
  have h1 := cntPark_futSet s.ent.futs f pid {}
  have h2 : cntPark (futSet s.ent.futs f {}) pid ≠ 0 := by
    rw [Ne, cntPark_zero]; intro hall
    have := hall g
    rw [futGet_futSet_ne _ _ _ _ (Ne.symm hne)] at this
    exact this hg
  have h3 := inv.atMostOne pid
  rw [hf] at h1
  simp [ind] at h1
  omega

theorem ProcInv.continuation_unique {s : St PS} (inv : ProcInv s) (pid : Nat) :
    (s.heap.filter (fun e => e.data == pid + 1)).length ≤ 1 := by
  have := inv.atMostOne pid
  unfold cntHeap at this
  rw [List.countP_eq_length_filter] at this
  omega

theorem ProcInv.done_nothing {s : St PS} (inv : ProcInv s) (pid : Nat) (p : Proc)
    (hp : s.ent.procs[pid]? = some p) (hd : p.done = true) :
    p.segs = [] ∧ (∀ e ∈ s.heap, e.data ≠ pid + 1) ∧ ∀ f, (futGet s.ent.futs f).parked ≠ some pid := by
  have ⟨a, b, c⟩ := inv.doneNone pid p hp hd
  refine ⟨a, ?_, (cntPark_zero _ _).mp c⟩
  unfold cntHeap at b
  rw [List.countP_eq_zero] at b
  intro e he
  simpa using b e he

end HappyModel.C01
