import HappyProofs.C18.SpecInv
import HappyProofs.C18.CrdtLaws
/-!
OR-set: with `tg` the (ghost) map from the id of an add operation to the unique tag it created,

* `(x, u)` is a live entry of replica `r` iff some seen add of `x` has tag `u` (`AddTag`) and `u` is
  not tombstoned at `r`;
* `u` is tombstoned at `r` iff `u` is the tag of an add of some `x` that was observed by a seen
  remove of `x` (`Tombed`).

A step changes `AddTag` and `Tombed` the way it changes `Seen`: by one disjunct. `OrDen` says the
two clauses of one replica, with what makes a fresh tag fresh: tags carry their replica's id, a
replica's own tags are below its counter, and no tag names two adds. It gives `has x = orHas r x`.
-/
namespace HappyModel.C18

def IsAdd (rc : OpRec) (x : Nat) : Prop := ∃ r0, rc.op = .oadd r0 x
def IsRem (rc : OpRec) (x : Nat) : Prop := ∃ r0, rc.op = .orem r0 x

def AddTag (t : SpecSys) (tg : Nat → Tag) (r x : Nat) (u : Tag) : Prop :=
  ∃ a, Seen t r a ∧ IsAdd a x ∧ tg a.id = u

def Tombed (t : SpecSys) (tg : Nat → Tag) (r : Nat) (u : Tag) : Prop :=
  ∃ a ∈ t.recs, ∃ x, IsAdd a x ∧ tg a.id = u ∧ ∃ d, Seen t r d ∧ IsRem d x ∧ a.id ∈ d.K

theorem addTag_merge (t : SpecSys) (tg : Nat → Tag) (d s r' x : Nat) (u : Tag) :
    AddTag (t.mergeStep d s) tg r' x u ↔ AddTag t tg r' x u ∨ (r' = d ∧ AddTag t tg s x u) :=
  exists_seen_merge t d s r' _

theorem tombed_merge (t : SpecSys) (tg : Nat → Tag) (d s r' : Nat) (u : Tag) :
    Tombed (t.mergeStep d s) tg r' u ↔ Tombed t tg r' u ∨ (r' = d ∧ Tombed t tg s u) := by
  simp only [Tombed, seen_merge]
  show (∃ a ∈ t.recs, _) ↔ _
  constructor
  · rintro ⟨a, ha, x, h1, h2, d', h3 | ⟨hr, h3⟩, h4⟩
    · exact Or.inl ⟨a, ha, x, h1, h2, d', h3, h4⟩
    · exact Or.inr ⟨hr, a, ha, x, h1, h2, d', h3, h4⟩
  · rintro (⟨a, ha, x, h1, h2, d', h3, h4⟩ | ⟨hr, a, ha, x, h1, h2, d', h3, h4⟩)
    · exact ⟨a, ha, x, h1, h2, d', Or.inl h3, h4⟩
    · exact ⟨a, ha, x, h1, h2, d', Or.inr ⟨hr, h3⟩, h4⟩

/-- `tg'` may name the new record's tag -/
theorem addTag_local (t : SpecSys) (hi : SpecInv t) (tg tg' : Nat → Tag)
    (htg : ∀ a ∈ t.recs, tg' a.id = tg a.id) (r : Nat) (op : COp) (r' x : Nat) (u : Tag) :
    AddTag (t.local r op) tg' r' x u ↔
      AddTag t tg r' x u ∨ (r' = r ∧ (∃ r0, op = .oadd r0 x) ∧ tg' t.cnt = u) := by
  refine (exists_seen_local t hi r op r' fun a => IsAdd a x ∧ tg' a.id = u).trans (or_congr ?_ Iff.rfl)
  exact ⟨fun ⟨a, h, h2, h3⟩ => ⟨a, h, h2, (htg a h.1).symm.trans h3⟩,
    fun ⟨a, h, h2, h3⟩ => ⟨a, h, h2, (htg a h.1).trans h3⟩⟩

theorem tombed_local (t : SpecSys) (hi : SpecInv t) (tg tg' : Nat → Tag)
    (htg : ∀ a ∈ t.recs, tg' a.id = tg a.id) (r : Nat) (op : COp) (r' : Nat) (u : Tag) :
    Tombed (t.local r op) tg' r' u ↔
      Tombed t tg r' u ∨ (r' = r ∧ ∃ x, (∃ r0, op = .orem r0 x) ∧ AddTag t tg r x u) := by
  constructor
  · rintro ⟨a, ha, x, h1, h2, d, h3, h4, h5⟩
    have hlt := local_K_lt t hi r op d h3.1 a.id h5
    rcases List.mem_cons.mp ha with rfl | ha
    · exact absurd hlt (Nat.lt_irrefl _)
    · rw [htg a ha] at h2
      rcases (seen_local t hi _ _ _ _).mp h3 with h3 | ⟨hr, rfl⟩
      · exact Or.inl ⟨a, ha, x, h1, h2, d, h3, h4, h5⟩
      · exact Or.inr ⟨hr, x, h4, a, ⟨ha, h5⟩, h1, h2⟩
  · rintro (⟨a, ha, x, h1, h2, d, h3, h4, h5⟩ | ⟨hr, x, h4, a, ⟨ha, h5⟩, h1, h2⟩)
    · exact ⟨a, List.mem_cons_of_mem _ ha, x, h1, (htg a ha).trans h2, d,
        (seen_local t hi _ _ _ _).mpr (Or.inl h3), h4, h5⟩
    · exact ⟨a, List.mem_cons_of_mem _ ha, x, h1, (htg a ha).trans h2, _,
        (seen_local t hi _ _ _ _).mpr (Or.inr ⟨hr, rfl⟩), h4, h5⟩

theorem isAdd_inj {a : OpRec} {x y : Nat} (h1 : IsAdd a x) (h2 : IsAdd a y) : x = y := by
  obtain ⟨r1, e1⟩ := h1
  obtain ⟨r2, e2⟩ := h2
  rw [e1] at e2
  cases e2; rfl

structure TagsOK (t : SpecSys) (tg : Nat → Tag) : Prop where
  node : ∀ a ∈ t.recs, ∀ r0 x, a.op = .oadd r0 x → (tg a.id).node = r0
  inj : ∀ a ∈ t.recs, ∀ b ∈ t.recs, ∀ x y, IsAdd a x → IsAdd b y → tg a.id = tg b.id → a = b

structure OrDen (tg : Nat → Tag) (r : Nat) (t : SpecSys) (x : Rep) : Prop where
  tags : TagsOK t tg
  own : ∀ a ∈ t.recs, ∀ y, a.op = .oadd r y → (tg a.id).seq < x.os.seq
  ents : ∀ y u, (y, u) ∈ x.os.ents ↔ AddTag t tg r y u ∧ u ∉ x.os.tomb
  tomb : ∀ u, u ∈ x.os.tomb ↔ Tombed t tg r u

theorem TagsOK.addTag_inj {tg : Nat → Tag} {t : SpecSys} (h : TagsOK t tg) {r r' x y : Nat} {u : Tag}
    (h1 : AddTag t tg r x u) (h2 : AddTag t tg r' y u) : x = y := by
  obtain ⟨a, ha, hx, rfl⟩ := h1
  obtain ⟨b, hb, hy, e⟩ := h2
  obtain rfl := h.inj a ha.1 b hb.1 x y hx hy e.symm
  exact isAdd_inj hx hy

theorem OrDen.next_fresh {tg : Nat → Tag} {r : Nat} {t : SpecSys} {x : Rep} (h : OrDen tg r t x)
    {a : OpRec} (ha : a ∈ t.recs) {y : Nat} (hy : IsAdd a y) : tg a.id ≠ ⟨r, x.os.seq⟩ := by
  obtain ⟨r0, hop⟩ := hy
  intro e
  have h1 := h.tags.node a ha r0 y hop
  rw [e] at h1
  simp only at h1; subst h1
  have := h.own a ha y hop
  rw [e] at this
  exact Nat.lt_irrefl _ this

theorem tagsOK_local {t : SpecSys} (hi : SpecInv t) {tg : Nat → Tag} {r : Nat} {x : Rep} (h : OrDen tg r t x)
    (op : COp) (hr : op.origin = r) :
    ∃ tg', (∀ a ∈ t.recs, tg' a.id = tg a.id) ∧ TagsOK (t.local r op) tg' ∧
      (∀ y, op = .oadd r y → tg' t.cnt = ⟨r, x.os.seq⟩) := by
  let tg' := upd tg t.cnt ⟨r, x.os.seq⟩
  have htg : ∀ a ∈ t.recs, tg' a.id = tg a.id :=
    fun a ha => upd_other _ _ _ _ (Nat.ne_of_lt (hi.idLt a ha))
  have htgn : tg' t.cnt = ⟨r, x.os.seq⟩ := upd_same _ _ _
  refine ⟨tg', htg, ⟨fun a ha r0 y hop => ?_, fun a ha b hb y z hy hz e => ?_⟩, fun _ _ => htgn⟩
  · rcases List.mem_cons.mp ha with rfl | ha
    · rw [htgn]; simp only at hop; subst hop; exact hr.symm
    · rw [htg a ha]; exact h.tags.node a ha r0 y hop
  · rcases List.mem_cons.mp ha with rfl | ha <;> rcases List.mem_cons.mp hb with rfl | hb
    · rfl
    · rw [htgn, htg b hb] at e
      exact absurd e.symm (h.next_fresh hb hz)
    · rw [htgn, htg a ha] at e
      exact absurd e (h.next_fresh ha hy)
    · rw [htg a ha, htg b hb] at e
      exact h.tags.inj a ha b hb y z hy hz e

theorem orDen : Den OrDen where
  loc := by
    intro t hi tg r op x hr h
    obtain ⟨tg', htg, hT, hnew⟩ := tagsOK_local hi h op hr
    refine ⟨tg', ⟨hT, fun a ha y hop => ?own, fun y u => ?ents, fun u => ?tomb⟩, fun r' hr' z hz =>
      ⟨hT, fun a ha y hop => ?own', fun y u => ?ents', fun u => ?tomb'⟩⟩
    case own =>
      have hle : x.os.seq ≤ (x.apply r op).os.seq := by
        cases op <;> first | exact Nat.le_refl _ | exact Nat.le_succ _
      rcases List.mem_cons.mp ha with rfl | ha
      · simp only at hop; subst hop; rw [hnew y rfl]; exact Nat.lt_succ_self _
      · rw [htg a ha]; exact Nat.lt_of_lt_of_le (h.own a ha y hop) hle
    case ents =>
      rw [addTag_local t hi tg tg' htg]
      cases op with
      | oadd r0 z =>
        obtain rfl : r0 = r := hr
        have hnt : (⟨r0, x.os.seq⟩ : Tag) ∉ x.os.tomb := fun hin => by
          obtain ⟨a, ha, z', h1, h2, _⟩ := (h.tomb _).mp hin
          exact h.next_fresh ha h1 h2
        rw [hnew z rfl]
        simp only [Rep.apply, ORSet.mem_add_ents, Prod.mk.injEq, h.ents, true_and, COp.oadd.injEq,
          exists_eq_left']
        constructor
        · rintro (⟨h1, h2⟩ | ⟨rfl, rfl⟩)
          · exact ⟨Or.inl h1, h2⟩
          · exact ⟨Or.inr ⟨rfl, rfl⟩, hnt⟩
        · rintro ⟨h1 | ⟨rfl, rfl⟩, h2⟩
          · exact Or.inl ⟨h1, h2⟩
          · exact Or.inr ⟨rfl, rfl⟩
      | orem r0 z =>
        simp only [Rep.apply, ORSet.mem_remove_ents, ORSet.mem_remove_tomb, h.ents, not_or, reduceCtorEq,
          exists_false, false_and, and_false, or_false]
        constructor
        · rintro ⟨⟨h1, h2⟩, hne⟩
          exact ⟨h1, h2, fun h3 => hne (h.tags.addTag_inj h1 h3.1)⟩
        · rintro ⟨h1, h2, h3⟩
          exact ⟨⟨h1, h2⟩, fun e => h3 ⟨e ▸ h1, h2⟩⟩
      | _ => simp [Rep.apply, h.ents]
    case tomb =>
      rw [tombed_local t hi tg tg' htg]
      cases op with
      | orem r0 z =>
        simp only [Rep.apply, ORSet.mem_remove_tomb, h.tomb, h.ents, true_and, COp.orem.injEq,
          exists_and_right, exists_eq_left', exists_eq']
        -- tombstoned before, or a seen add of the element: such a tag was live unless it was tombstoned already
        exact ⟨Or.imp_right And.left, fun h1 => h1.elim Or.inl fun h1 => (Classical.em _).imp id fun hn => ⟨h1, hn⟩⟩
      | _ => simp [Rep.apply, ORSet.add, h.tomb]
    case own' =>
      rcases List.mem_cons.mp ha with rfl | ha
      · simp only at hop; subst hop; exact absurd hr hr'
      · rw [htg a ha]; exact hz.own a ha y hop
    case ents' =>
      rw [addTag_local t hi tg tg' htg, hz.ents]; simp [hr']
    case tomb' =>
      rw [tombed_local t hi tg tg' htg, hz.tomb]; simp [hr']
  mrg := by
    intro t hi tg d sr x y hx hy
    refine ⟨⟨hx.tags.node, hx.tags.inj⟩, hx.own, fun z u => ?_, fun u => ?_⟩
    · rw [addTag_merge]
      simp only [Rep.merge, ORSet.mem_merge_ents, ORSet.mem_merge_tomb, hx.ents, hy.ents, true_and, not_or]
      constructor
      · rintro ⟨h1, h2, h3⟩
        exact ⟨h1.imp And.left And.left, h2, h3⟩
      · rintro ⟨h1, h2, h3⟩
        exact ⟨h1.imp (⟨·, h2⟩) (⟨·, h3⟩), h2, h3⟩
    · rw [tombed_merge]; simp [Rep.merge, ORSet.mem_merge_tomb, hx.tomb, hy.tomb]
  keep := by
    intro t tg d sr r' x hr h
    exact ⟨⟨h.tags.node, h.tags.inj⟩, h.own, fun y u => by rw [addTag_merge, h.ents]; simp [hr],
      fun u => by rw [tombed_merge, h.tomb]; simp [hr]⟩

theorem orDen_init (r : Nat) : OrDen (fun _ => ⟨0, 0⟩) r {} {} :=
  ⟨⟨(fun _ h => nomatch h), (fun _ h => nomatch h)⟩, (fun _ h => nomatch h), by simp [AddTag, Seen],
   by simp [Tombed]⟩

theorem SpecSys.orHas_iff (t : SpecSys) (r x : Nat) :
    t.orHas r x = true ↔
      ∃ a, Seen t r a ∧ IsAdd a x ∧ ∀ d, Seen t r d → IsRem d x → a.id ∉ d.K := by
  unfold SpecSys.orHas
  simp only [List.any_eq_true]
  constructor
  · rintro ⟨a, ha, h⟩
    split at h
    · rename_i r0 y hop
      simp only [Bool.and_eq_true, beq_iff_eq, List.contains_eq_mem, decide_eq_true_eq,
        List.all_eq_true] at h
      obtain ⟨⟨rfl, hk⟩, hall⟩ := h
      refine ⟨a, ⟨ha, hk⟩, ⟨r0, hop⟩, ?_⟩
      intro d ⟨hd, hdk⟩ ⟨r1, hdop⟩ hin
      have := hall d hd
      rw [hdop] at this
      simp [hdk, hin] at this
    · cases h
  · rintro ⟨a, ⟨ha, hk⟩, ⟨r0, hop⟩, hall⟩
    refine ⟨a, ha, ?_⟩
    rw [hop]
    simp only [Bool.and_eq_true, beq_iff_eq, List.contains_eq_mem, decide_eq_true_eq,
      List.all_eq_true, true_and]
    refine ⟨hk, fun d hd => ?_⟩
    split
    · rename_i r1 z hdop
      cases hz : (z == x && decide (d.id ∈ t.know r) && decide (a.id ∈ d.K)) with
      | false => rfl
      | true =>
        simp only [Bool.and_eq_true, beq_iff_eq, decide_eq_true_eq] at hz
        obtain ⟨⟨rfl, h1⟩, h2⟩ := hz
        exact absurd h2 (hall d ⟨hd, h1⟩ ⟨r1, hdop⟩)
    · rfl

theorem OrDen.has {tg : Nat → Tag} {r : Nat} {t : SpecSys} {c : Rep} (h : OrDen tg r t c) (x : Nat) :
    c.os.has x = t.orHas r x := by
  rw [Bool.eq_iff_iff, ORSet.has_iff, SpecSys.orHas_iff]
  constructor
  · rintro ⟨u, hu⟩
    obtain ⟨⟨a, h1, h2, h3⟩, h4⟩ := (h.ents x u).mp hu
    refine ⟨a, h1, h2, fun d hd hr hin => h4 ?_⟩
    exact (h.tomb u).mpr ⟨a, h1.1, x, h2, h3, d, hd, hr, hin⟩
  · rintro ⟨a, h1, h2, h3⟩
    refine ⟨tg a.id, (h.ents x _).mpr ⟨⟨a, h1, h2, rfl⟩, fun hin => ?_⟩⟩
    obtain ⟨a', ha', y, h4, h5, d, h6, h7, h8⟩ := (h.tomb _).mp hin
    obtain rfl := h.tags.inj a' ha' a h1.1 y x h4 h2 h5
    obtain rfl := isAdd_inj h4 h2
    exact h3 d h6 h7 h8

theorem OrDen.wf {tg : Nat → Tag} {r : Nat} {t : SpecSys} {c : Rep} (h : OrDen tg r t c) : c.os.WF :=
  fun e he => ((h.ents e.1 e.2).mp he).2

end HappyModel.C18
