import HappyModel.C20.Reservoir
namespace HappyModel.C20

structure ResInv (s : Res) (seen : List Nat) : Prop where
  n_eq : s.n = seen.length
  size : s.items.length = min s.k s.n
  sub : ∀ x ∈ s.items, x ∈ seen

theorem ResInv.empty (k : Nat) : ResInv (Res.empty k) [] :=
  ⟨rfl, by simp [Res.empty], by simp [Res.empty]⟩

@[simp] theorem Res.addOne_k (s : Res) (x : Nat) (sc : List Nat) : (s.addOne x sc).1.k = s.k := by
  unfold Res.addOne; split
  · rfl
  · simp only; split <;> rfl

theorem ResInv.addOne (s : Res) (seen : List Nat) (x : Nat) (sc : List Nat) (inv : ResInv s seen) :
    ResInv (s.addOne x sc).1 (seen ++ [x]) := by
  obtain ⟨h1, h2, h3⟩ := inv
  have hsub : ∀ l : List Nat, (∀ y ∈ l, y ∈ s.items ∨ y = x) → ∀ y ∈ l, y ∈ seen ++ [x] := by
    intro l hl y hy
    rw [List.mem_append, List.mem_singleton]
    exact (hl y hy).imp_left (h3 y)
  unfold Res.addOne
  split
  · exact ⟨by simp [h1], by simp only [List.length_append, List.length_singleton]; omega,
      hsub _ fun y hy => by simpa using hy⟩
  · dsimp only
    split
    · exact ⟨by simp [h1], by simp only [List.length_set]; omega,
        hsub _ fun y hy => List.mem_or_eq_of_mem_set hy⟩
    · exact ⟨by simp [h1], by simp only; omega, hsub _ fun y hy => Or.inl hy⟩

theorem ResInv.run (s : Res) (seen xs sc : List Nat) (inv : ResInv s seen) :
    ResInv (s.run xs sc).1 (seen ++ xs) := by
  induction xs generalizing s seen sc with
  | nil => simpa [Res.run] using inv
  | cons x xs ih =>
    simp only [Res.run]
    have := ih _ (seen ++ [x]) (s.addOne x sc).2 (inv.addOne s seen x sc)
    simpa using this

theorem Res.run_k (s : Res) (xs sc : List Nat) : (s.run xs sc).1.k = s.k := by
  induction xs generalizing s sc with
  | nil => rfl
  | cons x xs ih => simp only [Res.run]; rw [ih]; simp

theorem mergePick_mem (a b : Res) (sc : List Nat) (x : Nat) (h : (mergePick a b sc).1 = some x) :
    x ∈ a.items ∨ x ∈ b.items := by
  unfold mergePick at h
  simp only at h
  split at h
  · split at h
    · simp at h
    · exact Or.inl (List.mem_of_getElem? h)
  · split at h
    · simp at h
    · exact Or.inr (List.mem_of_getElem? h)

/-- a pick yields an element unless the chosen side is empty; with `random() ∈ [0,1)` an empty
    side (which has seen nothing) is never chosen -/
theorem mergePick_some (a b : Res) (sc : List Nat)
    (ha : a.items = [] → a.n = 0) (hb : b.items = [] → b.n = 0) (hn : 0 < a.n + b.n) :
    ((mergePick a b sc).1).isSome = true := by
  have pick : ∀ (l : List Nat) (v : Nat), ¬ l.isEmpty = true → (l[v % l.length]?).isSome = true := by
    intro l v h
    rw [List.getElem?_eq_getElem (Nat.mod_lt _ (List.length_pos_iff.mpr (by simpa using h)))]
    rfl
  unfold mergePick
  dsimp only
  split
  · next hlt =>
    split
    · next he =>
      rw [ha (by simpa using he)] at hlt
      omega
    · next he => exact pick _ _ he
  · next hge =>
    split
    · next he =>
      rw [hb (by simpa using he), Nat.add_zero] at hge hn
      exact absurd (Nat.mul_lt_mul_of_pos_right (Nat.mod_lt _ (by omega)) hn) hge
    · next he => exact pick _ _ he

theorem mergeLoop_mem (a b : Res) (i : Nat) (sc : List Nat) (x : Nat)
    (h : x ∈ (mergeLoop a b i sc).1) : x ∈ a.items ∨ x ∈ b.items := by
  induction i generalizing sc with
  | zero => simp [mergeLoop] at h
  | succ i ih =>
    simp only [mergeLoop] at h
    split at h
    · next y hy =>
      rcases List.mem_cons.mp h with rfl | h
      · exact mergePick_mem a b sc _ hy
      · exact ih _ h
    · exact ih _ h

theorem mergeLoop_length (a b : Res) (i : Nat) (sc : List Nat)
    (ha : a.items = [] → a.n = 0) (hb : b.items = [] → b.n = 0) (hn : 0 < a.n + b.n) :
    (mergeLoop a b i sc).1.length = i := by
  induction i generalizing sc with
  | zero => simp [mergeLoop]
  | succ i ih =>
    simp only [mergeLoop]
    have hs := mergePick_some a b sc ha hb hn
    split
    · simp [ih]
    · next hnone => simp [hnone] at hs

theorem Res.merge_k (a b : Res) (sm : List Nat) : (a.merge b sm).1.k = a.k := by
  unfold Res.merge; split <;> rfl

theorem ResInv.n_zero_of_empty {s : Res} {seen : List Nat} (inv : ResInv s seen) (hk : 0 < s.k)
    (he : s.items = []) : s.n = 0 := by
  have := inv.size
  rw [he, List.length_nil] at this
  omega

/-- `0 < k`: with `k = 0` an empty reservoir may have seen items, and `mergePick` could choose the empty side -/
theorem ResInv.merge {a b : Res} {xa xb : List Nat} (ia : ResInv a xa) (ib : ResInv b xb)
    (ha : 0 < a.k) (hb : 0 < b.k) (sm : List Nat) : ResInv (a.merge b sm).1 (xa ++ xb) := by
  have na := ia.n_eq
  have nb := ib.n_eq
  unfold Res.merge
  split
  · refine ⟨?_, ia.size, fun x hx => List.mem_append_left _ (ia.sub x hx)⟩
    show a.n = _
    rw [List.length_append]; omega
  · have hpos : 0 < a.n + b.n := by omega
    refine ⟨?_, ?_, fun x hx => ?_⟩
    · show a.n + b.n = _
      rw [List.length_append, na, nb]
    · show (List.take a.k _).length = min a.k (a.n + b.n)
      rw [List.length_take,
        mergeLoop_length a b _ sm (ia.n_zero_of_empty ha) (ib.n_zero_of_empty hb) hpos]
      omega
    · rcases mergeLoop_mem a b _ sm x (List.mem_of_mem_take hx) with h | h
      · exact List.mem_append_left _ (ia.sub x h)
      · exact List.mem_append_right _ (ib.sub x h)

end HappyModel.C20
