import HappyModel.C19.StreamSpec
import HappyProofs.C19.Lists
/-!
# C19 — Topic: every published message reaches every subscriber active at publish time exactly once

The judge's bookkeeping (`TopSt`) is related to the model state: the active sets agree, what the
judge still expects to be received (`owed`) is — up to order — what the suspended publishes will
still emit plus what sits in the engine's heap, and publish ids are fresh.  When no publish is suspended
and the heap is drained, nothing is owed.
-/
namespace HappyModel.C19

theorem dupFree_iff (l : List Nat) : dupFree l = true ↔ l.Nodup := by
  induction l with
  | nil => simp [dupFree]
  | cons x xs ih => simp [dupFree, ih, List.nodup_cons]

theorem sameSet_of_mem {a b : List Nat} (h : ∀ c, c ∈ b ↔ c ∈ a) : sameSet a b = true := by
  simp only [sameSet, Bool.and_eq_true, List.all_eq_true, List.contains_iff_mem]
  exact ⟨fun x hx => (h x).mpr hx, fun x hx => (h x).mp hx⟩

theorem setActive_keys (c : Nat) (b : Bool) (l : List (Nat × Bool)) :
    (setActive c b l).map (·.1) = l.map (·.1) := by
  induction l with
  | nil => rfl
  | cons e rest ih =>
    simp only [setActive, List.map_cons] at ih ⊢
    rw [ih]
    by_cases h : e.1 = c <;> simp [h]

theorem mem_setActive (c : Nat) (b : Bool) (l : List (Nat × Bool)) (x : Nat) (v : Bool) :
    (x, v) ∈ setActive c b l ↔
      (x ≠ c ∧ (x, v) ∈ l) ∨ (x = c ∧ v = b ∧ c ∈ l.map (·.1)) := by
  induction l with
  | nil => simp [setActive]
  | cons e rest ih =>
    obtain ⟨k, w⟩ := e
    simp only [setActive, List.map_cons, List.mem_cons] at ih ⊢
    rw [ih]
    by_cases h : k = c
    · subst h; simp only [if_true, Prod.mk.injEq]; grind
    · simp only [h, if_false, Prod.mk.injEq]; grind

/-- the deliveries still to come: one per subscriber addressed by a suspended publish, one per
    event in the heap -/
def owedOf (inprog : List (Nat × Nat × List Nat)) (heap : List (Nat × Nat × Nat)) :
    List (Nat × Nat) :=
  inprog.flatMap (fun e => e.2.2.map (fun c => (e.1, c))) ++ heap.map (fun e => (e.1, e.2.1))

structure TRel (s : Topic) (j : TopSt) : Prop where
  keys : (s.subs.map (·.1)).Nodup
  act : ∀ c, c ∈ j.active ↔ (c, true) ∈ s.subs
  actnd : j.active.Nodup
  owed : j.owed.Perm (owedOf s.inprog s.heap)
  look : ∀ e ∈ s.inprog, j.begun.lookup e.1 = some e.2.2
  fresh : ∀ e ∈ s.inprog, e.1 < s.npub
  ids : (s.inprog.map (·.1)).Nodup

theorem TRel.init : TRel {} {} :=
  { keys := List.nodup_nil, act := by intro c; simp, actnd := List.nodup_nil,
    owed := List.Perm.refl _, look := by intro e he; simp at he,
    fresh := by intro e he; simp at he, ids := List.nodup_nil }

def TopicStepOk (s : Topic) (j : TopSt) (t : Nat) (a : TAct) : Prop :=
  ∃ j', j.check ⟨t, a, (s.step false t a).2⟩ = .ok j' ∧ TRel (s.step false t a).1 j'

theorem topic_step_sub {s : Topic} {j : TopSt} (h : TRel s j) (t c : Nat) : TopicStepOk s j t (.sub c) := by
  refine ⟨{ j with active := insertNew j.active c }, ?_, ?_⟩
  · simp only [Topic.step]; split <;> rfl
  · simp only [Topic.step]
    split
    · rename_i hc
      have hc' : c ∈ s.subs.map (·.1) := List.contains_iff_mem.mp hc
      refine { h with keys := ?_, act := ?_, actnd := insertNew_nodup h.actnd c }
      · show ((setActive c true s.subs).map (·.1)).Nodup
        rw [setActive_keys]; exact h.keys
      · intro x
        show x ∈ insertNew j.active c ↔ (x, true) ∈ setActive c true s.subs
        rw [mem_insertNew, mem_setActive, h.act x]
        by_cases hx : x = c
        · subst hx; simp [hc']
        · simp [hx]
    · rename_i hc
      have hc' : c ∉ s.subs.map (·.1) := fun hm => hc (List.contains_iff_mem.mpr hm)
      refine { h with keys := ?_, act := ?_, actnd := insertNew_nodup h.actnd c }
      · show ((s.subs ++ [(c, true)]).map (·.1)).Nodup
        rw [List.map_append]
        exact nodup_snoc h.keys hc'
      · intro x
        show x ∈ insertNew j.active c ↔ (x, true) ∈ s.subs ++ [(c, true)]
        rw [mem_insertNew, h.act x]
        simp

theorem topic_step_unsub {s : Topic} {j : TopSt} (h : TRel s j) (t c : Nat) :
    TopicStepOk s j t (.unsub c) := by
  refine ⟨{ j with active := j.active.erase c }, rfl, ?_⟩
  simp only [Topic.step]
  refine { h with keys := ?_, act := ?_, actnd := h.actnd.erase c }
  · show ((setActive c false s.subs).map (·.1)).Nodup
    rw [setActive_keys]; exact h.keys
  · intro x
    show x ∈ j.active.erase c ↔ (x, true) ∈ setActive c false s.subs
    rw [h.actnd.mem_erase_iff, mem_setActive, h.act x]
    simp

theorem topic_step_pubA {s : Topic} {j : TopSt} (h : TRel s j) (t : Nat) : TopicStepOk s j t .pubA := by
  have hss : sameSet s.active j.active = true :=
    sameSet_of_mem (fun c => (h.act c).trans (by simp [Topic.active]))
  have hdf : dupFree s.active = true := (dupFree_iff _).mpr ((List.filter_sublist.map _).nodup h.keys)
  have hlook : ∀ tg, ∀ e ∈ s.inprog, ((s.npub, tg) :: j.begun).lookup e.1 = some e.2.2 := by
    intro tg e he
    have hlt := h.fresh e he
    have : (e.1 == s.npub) = false := by simp; omega
    rw [List.lookup_cons, this]
    exact h.look e he
  have hfresh : ∀ e ∈ s.inprog, e.1 < s.npub + 1 := fun e he => Nat.lt_succ_of_lt (h.fresh e he)
  by_cases he : s.active = []
  · refine ⟨{ j with owed := j.owed ++ ([] : List Nat).map (fun c => (s.npub, c)),
                     begun := (s.npub, []) :: j.begun }, ?_, ?_⟩
    · rw [he] at hss hdf
      simp only [Topic.step, if_pos he, TopSt.check, hss, hdf, Bool.and_self, if_true]
    · simp only [Topic.step, if_pos he]
      exact { h with owed := by simpa using h.owed, look := hlook [], fresh := hfresh }
  · refine ⟨{ j with owed := j.owed ++ s.active.map (fun c => (s.npub, c)),
                     begun := (s.npub, s.active) :: j.begun }, ?_, ?_⟩
    · simp only [Topic.step, if_neg he, TopSt.check, hss, hdf, Bool.and_self, if_true]
    · simp only [Topic.step, if_neg he]
      refine { h with owed := ?_, look := ?_, fresh := ?_, ids := ?_ }
      · show (j.owed ++ s.active.map (fun c => (s.npub, c))).Perm
          (owedOf (s.inprog ++ [(s.npub, t, s.active)]) s.heap)
        simp only [owedOf, List.flatMap_append, List.flatMap_cons, List.flatMap_nil,
          List.append_nil, List.append_assoc]
        refine (List.Perm.append_right _ h.owed).trans ?_
        simp only [owedOf, List.append_assoc]
        exact List.Perm.append_left _ List.perm_append_comm
      · intro e hm
        rcases List.mem_append.mp hm with hm | hm
        · exact hlook _ e hm
        · simp only [List.mem_singleton] at hm
          subst hm
          simp
      · intro e hm
        rcases List.mem_append.mp hm with hm | hm
        · exact hfresh e hm
        · simp only [List.mem_singleton] at hm
          subst hm
          exact Nat.lt_succ_self _
      · show ((s.inprog ++ [(s.npub, t, s.active)]).map (·.1)).Nodup
        rw [List.map_append]
        refine nodup_snoc h.ids fun ha => ?_
        obtain ⟨e, he1, he2⟩ := List.mem_map.mp ha
        exact Nat.ne_of_lt (h.fresh e he1) he2

theorem topic_step_pubEnd {s : Topic} {j : TopSt} (h : TRel s j) (t m : Nat) :
    TopicStepOk s j t (.pubEnd m) := by
  cases hl : s.inprog.lookup m with
  | none =>
    refine ⟨j, ?_, ?_⟩
    · simp only [Topic.step, hl]; rfl
    · simp only [Topic.step, hl]; exact h
  | some v =>
    obtain ⟨t0, tg⟩ := v
    have hmem : (m, t0, tg) ∈ s.inprog := mem_of_lookup hl
    have hbl : j.begun.lookup m = some tg := h.look _ hmem
    refine ⟨j, ?_, ?_⟩
    · simp only [Topic.step, hl, Bool.false_eq_true, false_and, if_false, TopSt.check,
        Nat.lt_irrefl, decide_false, hbl, BEq.rfl, if_true]
    · simp only [Topic.step, hl, Bool.false_eq_true, false_and, if_false]
      have hsub : ∀ e ∈ s.inprog.filter (fun e => e.1 != m), e ∈ s.inprog :=
        fun e he => (List.mem_filter.mp he).1
      refine { h with
        owed := ?_
        look := fun e he => h.look e (hsub e he)
        fresh := fun e he => h.fresh e (hsub e he)
        ids := ?_ }
      · show j.owed.Perm (owedOf (s.inprog.filter (fun e => e.1 != m))
          (s.heap ++ tg.map (fun c => (m, c, t))))
        refine h.owed.trans ?_
        have hp := flatMap_lookup_perm s.inprog (fun e => e.2.2.map (fun c => (e.1, c))) m
          (t0, tg) h.ids hl
        simp only [owedOf, List.map_append, List.map_map]
        refine (List.Perm.append_right _ hp).trans ?_
        simp only [List.append_assoc]
        refine List.perm_append_comm.trans ?_
        simp only [List.append_assoc]
        refine List.Perm.append_left _ ?_
        exact List.Perm.refl _
      · exact List.Nodup.sublist ((List.filter_sublist (l := s.inprog)).map _) h.ids

theorem topic_step_recv {s : Topic} {j : TopSt} (h : TRel s j) (t m c : Nat) :
    TopicStepOk s j t (.recv m c) := by
  by_cases hc : s.heap.contains (m, c, t) = true
  · have hm : (m, c, t) ∈ s.heap := List.contains_iff_mem.mp hc
    have hg : (m, c) ∈ s.heap.map (fun e => (e.1, e.2.1)) :=
      List.mem_map.mpr ⟨(m, c, t), hm, rfl⟩
    have ho : (m, c) ∈ j.owed :=
      h.owed.mem_iff.mpr (List.mem_append_right _ hg)
    have hoc : j.owed.contains (m, c) = true := List.contains_iff_mem.mpr ho
    refine ⟨{ j with owed := j.owed.erase (m, c) }, ?_, ?_⟩
    · simp only [Topic.step, if_pos hc, TopSt.check, hoc, if_true]
    · simp only [Topic.step, if_pos hc]
      refine { h with owed := ?_ }
      show (j.owed.erase (m, c)).Perm (owedOf s.inprog (s.heap.erase (m, c, t)))
      have h1 : (j.owed.erase (m, c)).Perm
          ((s.heap.map (fun e => (e.1, e.2.1)) ++
            s.inprog.flatMap (fun e => e.2.2.map (fun c => (e.1, c)))).erase (m, c)) :=
        (h.owed.trans List.perm_append_comm).erase _
      rw [List.erase_append_left _ hg] at h1
      refine h1.trans (List.perm_append_comm.trans ?_)
      exact List.Perm.append_left _
        (map_erase_perm (fun e : Nat × Nat × Nat => (e.1, e.2.1)) s.heap (m, c, t) hm).symm
  · refine ⟨j, ?_, ?_⟩
    · simp only [Topic.step, if_neg hc]; rfl
    · simp only [Topic.step, if_neg hc]; exact h

theorem topic_step_ok {s : Topic} {j : TopSt} (h : TRel s j) (t : Nat) (a : TAct) : TopicStepOk s j t a := by
  cases a with
  | sub c => exact topic_step_sub h t c
  | unsub c => exact topic_step_unsub h t c
  | pubA => exact topic_step_pubA h t
  | pubEnd m => exact topic_step_pubEnd h t m
  | recv m c => exact topic_step_recv h t m c

theorem topic_run {s : Topic} {j : TopSt} (h : TRel s j) (sched : List (Nat × TAct))
    (hq1 : (Topic.exec false s sched).inprog = []) (hq2 : (Topic.exec false s sched).heap = []) :
    jTopic j (Topic.run false s sched) = none := by
  induction sched generalizing s j with
  | nil =>
    simp only [Topic.exec] at hq1 hq2
    have := h.owed
    rw [hq1, hq2] at this
    have : j.owed = [] := this.eq_nil
    simp [Topic.run, jTopic, this]
  | cons ta rest ih =>
    obtain ⟨t, a⟩ := ta
    obtain ⟨j', hc, hr⟩ := topic_step_ok h t a
    simp only [Topic.run, jTopic, hc]
    exact ih hr hq1 hq2

theorem topic_exactly_once_per_active_subscriber (sched : List (Nat × TAct))
    (hq1 : (Topic.exec false {} sched).inprog = []) (hq2 : (Topic.exec false {} sched).heap = []) :
    jTopic {} (Topic.run false {} sched) = none :=
  topic_run TRel.init sched hq1 hq2

theorem legacy_topic_witness :
    jTopic {} (Topic.run true {} [(0, .sub 0), (1, .pubA), (6, .pubEnd 0)])
      = some "topic/delivery/stamped-in-the-past" := by decide +kernel

/-! two subscribers, an unsubscribe, two publishes (the second started while the first is still suspended),
everything received -/

def demoTopic : List (Nat × TAct) :=
  [(0, .sub 0), (1, .sub 1), (2, .pubA), (3, .unsub 1), (4, .pubA), (5, .pubEnd 1),
   (5, .recv 1 0), (6, .pubEnd 0), (6, .recv 0 1), (6, .recv 0 0)]

example : (Topic.exec false {} demoTopic).inprog = [] ∧ (Topic.exec false {} demoTopic).heap = [] ∧
    jTopic {} (Topic.run false {} demoTopic) = none := by decide +kernel
example : jTopic {} (Topic.run false {} demoTopic.dropLast)
    = some "topic/delivery/never-reached-subscriber" := by decide +kernel
example : (Topic.exec false {} demoTopic.dropLast).heap = [(0, 0, 6)] := by decide +kernel
/-- a delivery nobody is owed (received twice) is rejected -/
example : jTopic {} [⟨0, .sub 0, .unit⟩, ⟨1, .pubA, .started 0 [0]⟩, ⟨2, .pubEnd 0, .events [0] 2⟩,
    ⟨2, .recv 0 0, .got⟩, ⟨2, .recv 0 0, .got⟩] = some "topic/delivery/duplicate-or-not-subscribed" := by
  decide +kernel

end HappyModel.C19
