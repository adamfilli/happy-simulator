import HappyProofs.C17.MLMerge
import HappyProofs.C17.MLCover
/-!
`InvC P` is the cover invariant `LN.InvG` of `MLCover.lean` (explained there) read on seven fields of the
state (`Core`), with the written versions themselves as the bound and `Ge` = "not below, in the total order
`vlt`" (`inv_iff`).  Installing any other (written, coherent) version only moves a replica's version up
(`ge_merge`), so `Ge` is stable.
-/
namespace HappyModel.C17.ML

structure Core where
  n : Nat
  np : Nat
  procs : Nat → Option Proc
  nm : Nat
  msgs : Nat → Option Msg
  vers : Nat → Nat → Option Version
  store : Nat → Nat → Option Val

def St.core (s : St) : Core := ⟨s.n, s.np, s.procs, s.nm, s.msgs, s.vers, s.store⟩

def Core.spawn (c : Core) (p : Proc) : Core := { c with np := c.np + 1, procs := upd c.procs c.np (some p) }
def Core.send (c : Core) (m : Msg) : Core := { c with nm := c.nm + 1, msgs := upd c.msgs c.nm (some m) }
def WrittenC (c : Core) (k : Nat) (v : Version) : Prop :=
  ∃ pid p, c.procs pid = some p ∧ p.kind = .write ∧ p.key = k ∧ p.ver = v

def ItemsW (c : Core) (items : List (Nat × Version)) : Prop := ∀ kv, kv ∈ items → WrittenC c kv.1 kv.2

def Ge (cur : Option Version) (v : Version) : Prop := ∃ u, cur = some u ∧ ¬ vlt u v

def MsgCarrier (c : Core) (i k : Nat) (v : Version) : Prop :=
  ∃ mid m, c.msgs mid = some m ∧ m.kind = .repl ∧ m.dst = i ∧ m.key = k ∧ m.ver = v ∧ m.delivered = false

def ProcCarrier (c : Core) (i k : Nat) (v : Version) : Prop :=
  ∃ pid p, c.procs pid = some p ∧ p.kind = .repl ∧ p.node = i ∧ p.key = k ∧ p.ver = v ∧ p.fin = false

def Covered (c : Core) (i k : Nat) (v : Version) : Prop :=
  Ge (c.vers i k) v ∨ MsgCarrier c i k v ∨ ProcCarrier c i k v

structure InvC (P : Nat → Version → Prop) (c : Core) : Prop where
  freshP : ∀ pid, c.np ≤ pid → c.procs pid = none
  freshM : ∀ mid, c.nm ≤ mid → c.msgs mid = none
  wr : ∀ pid p, c.procs pid = some p → p.kind = .write →
    P p.key p.ver ∧ 1 ≤ p.seg ∧ (p.fin = true → 2 ≤ p.seg)
  versW : ∀ i k v, c.vers i k = some v → WrittenC c k v
  store : ∀ i k, c.store i k = (c.vers i k).map (·.val)
  msgW : ∀ mid m, c.msgs mid = some m → (m.kind = .repl → WrittenC c m.key m.ver) ∧ ItemsW c m.items
  procW : ∀ pid p, c.procs pid = some p → (p.kind = .repl → WrittenC c p.key p.ver) ∧ ItemsW c p.items
  cov : ∀ pid p, c.procs pid = some p → p.kind = .write → 2 ≤ p.seg →
    ∀ i, i < c.n → Covered c i p.key p.ver

def Inv (P : Nat → Version → Prop) (s : St) : Prop := InvC P s.core

theorem InvC.written_P {P} {c : Core} (h : InvC P c) {k v} (hw : WrittenC c k v) : P k v := by
  obtain ⟨pid, p, h1, h2, h3, h4⟩ := hw
  have := (h.wr pid p h1 h2).1
  rw [h3, h4] at this; exact this

theorem InvC.procs_lt {P} {c : Core} (h : InvC P c) {pid p} (hp : c.procs pid = some p) : pid < c.np :=
  lt_of_fresh h.freshP hp

theorem InvC.msgs_lt {P} {c : Core} (h : InvC P c) {mid m} (hm : c.msgs mid = some m) : mid < c.nm :=
  lt_of_fresh h.freshM hm

theorem ge_merge {n : Nat} {Pk : Version → Prop} (hc : Coherent n Pk) {cur : Option Version} {inc v : Version}
    (hcur : ∀ u, cur = some u → Pk u) (hinc : Pk inc) (hg : Ge cur v) : Ge (mergeOpt n cur inc) v := by
  obtain ⟨u, hu, hnv⟩ := hg
  subst hu
  unfold mergeOpt
  by_cases ht : takes n (some u) inc = true
  · rw [if_pos ht]
    have hlt := (takes_iff_lt n Pk hc u inc (hcur u rfl) hinc).mp ht
    exact ⟨inc, rfl, fun h => hnv (vlt_trans u inc v hlt h)⟩
  · rw [if_neg ht]; exact ⟨u, rfl, hnv⟩

theorem ge_merge_self {n : Nat} {Pk : Version → Prop} (hc : Coherent n Pk) {cur : Option Version} {inc : Version}
    (hcur : ∀ u, cur = some u → Pk u) (hinc : Pk inc) : Ge (mergeOpt n cur inc) inc := by
  unfold mergeOpt
  cases cur with
  | none => simp only [takes, if_true]; exact ⟨inc, rfl, vlt_irrefl _⟩
  | some u =>
    by_cases ht : takes n (some u) inc = true
    · rw [if_pos ht]; exact ⟨inc, rfl, vlt_irrefl _⟩
    · rw [if_neg ht]
      exact ⟨u, rfl, fun h => ht ((takes_iff_lt n Pk hc u inc (hcur u rfl) hinc).mpr h)⟩

theorem ge_of_not_takes {n : Nat} {Pk : Version → Prop} (hc : Coherent n Pk) {cur : Option Version} {inc : Version}
    (hcur : ∀ u, cur = some u → Pk u) (hinc : Pk inc) (ht : takes n cur inc = false) : Ge cur inc := by
  have := ge_merge_self hc hcur hinc
  unfold mergeOpt at this
  rw [ht] at this
  simpa using this

theorem inv_iff {P} {s : St} : Inv P s ↔ LN.InvG P (fun _ W => W) (fun _ => Ge) (LN.core s) :=
  ⟨fun ⟨a, b, c, d, e, f, g, h⟩ => ⟨a, b, c, d, e, f, g, h⟩, fun ⟨a, b, c, d, e, f, g, h⟩ => ⟨a, b, c, d, e, f, g, h⟩⟩

end HappyModel.C17.ML
