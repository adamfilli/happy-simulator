import HappyProofs.C14.StoreRun
/-! The Spec clauses for single observations (reads, delete flags, sizes) come from the ghost-log facts of the run
    invariant `RInv`. -/
namespace HappyModel.C14.SM.SR
open HappyModel.C14 HappyModel.C14.SM HappyModel.C14.BT

section

variable {ops : List (Nat × SOp)} {s : Store} {fs : List (Frame SPc)} {n : Nat} {log : List Ev} {ws os : List ORec}

theorem rinv_run : ∀ (sched : List Nat) (s : Store) (fs : List (Frame SPc)) (n : Nat)
    (log : List Ev), RInv ops s fs n log →
    RInv ops (runFrames stepS SPc.isDone s fs n sched).1 (runFrames stepS SPc.isDone s fs n sched).2
      (n + sched.length) (logRunS s fs n log sched)
  | [], s, fs, n, log, h => h
  | id :: ids, s, fs, n, log, h => by
    have := rinv_run ids _ _ _ _ (rinv_step h id)
    rwa [Nat.add_assoc, Nat.add_comm 1] at this

theorem rinv_init {s0 : Store} (h0 : SOk s0) (he : s0.contents = [])
    (hn : (ops.map (·.1)).Nodup) : RInv ops s0 (framesOfS ops) 0 [] := by
  have hids : (framesOfS ops).map (·.id) = ops.map (·.1) := by simp [framesOfS, List.map_map, Function.comp_def]
  refine ⟨h0, fun k => (by rw [he]; rfl), List.Pairwise.nil, fun _ h => (by cases h), List.Pairwise.nil,
    fun _ h => (by cases h), fun _ h => (by cases h), hids ▸ hn, ?_⟩
  intro f hf
  obtain ⟨o, ho, rfl⟩ := List.mem_map.mp hf
  exact ⟨o.2, mem_lookup hn ho, rfl, rfl, rfl, fun _ h => by cases h⟩

theorem acted_write_ev {id a : Nat} {k : Key} {c : Cell} {r : SRes} (h : Acted log id a (cellOp k c) r) :
    ∃ ev ∈ log, ev.id = id ∧ ev.n = a ∧ ev.key = k ∧ ev.cell = c := by
  cases c <;> exact h.2

theorem ended_acted
    (h : RInv ops s fs n log) {f : Frame SPc} (hf : f ∈ fs) {e : Nat} (he : f.e = some e) :
    ∃ op r b a, ops.lookup f.id = some op ∧ f.pc = .done r ∧ f.b = some b ∧ b ≤ a ∧ a ≤ e ∧ Acted log f.id a op r := by
  obtain ⟨op, hop, hpc⟩ := h.frames f hf
  obtain ⟨id, pc, b, e'⟩ := f
  cases pc with
  | start op' => cases hpc.2.2.1.symm.trans he
  | wait op' j => cases hpc.2.2.1.symm.trans he
  | fin r =>
    obtain ⟨b, a, _, _, _, h4, _⟩ := hpc
    cases h4.symm.trans he
  | done r =>
    obtain ⟨b, a, e', h1, h2, h3, h4, _, h6⟩ := hpc
    cases h2.symm.trans he
    exact ⟨op, r, b, a, hop, rfl, h1, h3, h4, h6⟩
  | lsmGet p => exact hpc.elim

theorem frame_of_ev
    (h : RInv ops s fs n log) {ev : Ev} (hev : ev ∈ log) :
    ∃ f ∈ fs, f.id = ev.id ∧ ops.lookup f.id = some (cellOp ev.key ev.cell) ∧
      ∃ b, f.b = some b ∧ b ≤ ev.n ∧ ∀ e, f.e = some e → ev.n ≤ e := by
  obtain ⟨f, hf, hid⟩ := List.mem_map.mp (h.evFrame ev hev)
  obtain ⟨op, hop, hpc⟩ := h.frames f hf
  have hop' := h.evOp ev hev
  rw [← hid, hop] at hop'
  cases hop'
  have hact : ∀ {a r}, Acted log f.id a (cellOp ev.key ev.cell) r → a = ev.n := by
    intro a r ha
    obtain ⟨ev', hev', e1, e2, _, _⟩ := acted_write_ev ha
    cases inj_of_nodup_map (·.id) h.evIds hev' hev (e1.trans hid)
    exact e2.symm
  refine ⟨f, hf, hid, hop, ?_⟩
  obtain ⟨id, pc, b, e'⟩ := f
  cases pc with
  | start op' => exact absurd hid.symm (hpc.2.2.2 ev hev)
  | wait op' j => exact absurd hid.symm (hpc.2.2.2 ev hev)
  | fin r =>
    obtain ⟨b, a, h1, h2, _, h4, h5⟩ := hpc
    cases hact h5
    exact ⟨b, h1, h2, fun e he => by cases h4.symm.trans he⟩
  | done r =>
    obtain ⟨b, a, e', h1, h2, h3, h4, _, h6⟩ := hpc
    cases hact h6
    exact ⟨b, h1, h3, fun e he => by cases h2.symm.trans he; exact h4⟩
  | lsmGet p => exact hpc.elim

theorem kindOf_inv {op : SOp} {kind : OKind} (h : kindOf op = some kind) :
    op = match kind with
      | .put k v => .put k v
      | .del k => .del k
      | .get k => .get k
      | .scan lo hi => .scan lo hi := by
  cases op <;> cases h <;> rfl

theorem recOfS_some {f : Frame SPc} {w : ORec} (h : recOfS ops f = some w) :
    ∃ op, f.b = some w.b ∧ ops.lookup f.id = some op ∧ kindOf op = some w.kind ∧ w.id = f.id ∧ w.e = f.e ∧
    w.got = (match f.pc with | .done (.val c) => c | _ => none) ∧
    w.rows = (match f.pc with | .done (.rows d) => d | _ => []) := by
  unfold recOfS at h
  split at h
  · rename_i b kind hb hk
    injection h with h; subst h
    cases hl : ops.lookup f.id with
    | none => rw [hl] at hk; cases hk
    | some op => rw [hl] at hk; exact ⟨op, hb, rfl, hk, rfl, rfl, rfl, rfl⟩
  · cases h

theorem recOfS_of {f : Frame SPc} {b : Nat} {op : SOp} {kind : OKind} (hb : f.b = some b)
    (hl : ops.lookup f.id = some op) (hk : kindOf op = some kind) :
    ∃ w, recOfS ops f = some w ∧ w.id = f.id ∧ w.kind = kind ∧ w.b = b ∧ w.e = f.e := by
  unfold recOfS
  rw [hb, hl]
  simp only [Option.bind_some, hk]
  exact ⟨_, rfl, rfl, rfl, rfl, rfl⟩

theorem kindOf_cellOp (k : Key) (c : Cell) : kindOf (cellOp k c) = some (cellKind k c) := by cases c <;> rfl

theorem writesKey_op {op : SOp} {w : ORec} {k : Key} (hk : kindOf op = some w.kind) (h : w.writesKey k = true) :
    ∃ c, op = cellOp k c := by
  obtain ⟨_, kind, _, _, _, _⟩ := w
  cases op <;> cases hk
  · exact ⟨some _, by rw [eq_of_beq h]; rfl⟩
  · exact ⟨none, by rw [eq_of_beq h]; rfl⟩
  · cases h
  · cases h

theorem wsOk_of_rinv
    (hd : DistinctS ops) (h : RInv ops s fs n log) : WsOk log (writesOf (obsOfS ops fs)) := by
  have hmem : ∀ w, w ∈ writesOf (obsOfS ops fs) → ∃ f ∈ fs, recOfS ops f = some w := fun w hw =>
    List.mem_filterMap.mp (mem_writesOf.mp hw).1
  refine ⟨?_, ?_, ?_⟩
  · intro ev hev
    obtain ⟨f, hf, hid, hop, b, hb, hbe, hfe⟩ := frame_of_ev h hev
    obtain ⟨w, hw, hwid, hwk, hwb, hwe⟩ := recOfS_of hb hop (kindOf_cellOp _ _)
    refine ⟨w, mem_writesOf.mpr ⟨List.mem_filterMap.mpr ⟨f, hf, hw⟩, ?_⟩, hwid.trans hid, hwk, hwb ▸ hbe, hwe ▸ hfe⟩
    rw [hwk]; cases ev.cell <;> rfl
  · intro w1 hw1 w2 hw2 k k' v hk1 hk2
    obtain ⟨f1, hf1, hr1⟩ := hmem w1 hw1
    obtain ⟨f2, hf2, hr2⟩ := hmem w2 hw2
    obtain ⟨op1, _, hl1, hko1, _⟩ := recOfS_some hr1
    obtain ⟨op2, _, hl2, hko2, _⟩ := recOfS_some hr2
    rw [hk1] at hko1
    rw [hk2] at hko2
    obtain rfl : op1 = .put k v := kindOf_inv hko1
    obtain rfl : op2 = .put k' v := kindOf_inv hko2
    obtain rfl : f1 = f2 := inj_of_nodup_map (·.id) h.ids hf1 hf2
      (value_names_id (fun o => match o with | .put _ v => some v | _ => none) hd.2 hl1 hl2 rfl rfl)
    exact Option.some.inj (hr1.symm.trans hr2)
  · intro w hw k hwk e hwe
    obtain ⟨f, hf, hr⟩ := hmem w hw
    obtain ⟨op, hb, hl, hko, hwid, he, _, _⟩ := recOfS_some hr
    obtain ⟨c, rfl⟩ := writesKey_op hko hwk
    rw [he] at hwe
    obtain ⟨op', r, b, a, hop', _, hb', hba, hae, hact⟩ := ended_acted h hf hwe
    cases hl.symm.trans hop'
    cases hb.symm.trans hb'
    obtain ⟨ev, hev, e1, e2, e3, _⟩ := acted_write_ev hact
    exact ⟨ev, hev, e1.trans hwid.symm, e3, e2 ▸ hba, e2 ▸ hae⟩

theorem not_flipped (h : WsOk log ws) (hsub : ∀ w ∈ os, w ∈ ws) {k : Key} {rb : Nat}
    {ev : Ev} {w : ORec} (hwe : ∀ e, w.e = some e → ev.n ≤ e)
    (hfresh : ∀ ev' ∈ log, ev'.key = k → ev'.n < rb → ev'.n ≤ ev.n) : flippedBefore os k w rb = false :=
  List.any_eq_false.mpr fun w' hw' hp => by
    simp only [Bool.and_eq_true] at hp
    exact h.no_later hwe hfresh (hsub w' hw') hp.1.1.1.1 hp.1.2 hp.2

/-- `os`: the write records the observer is judged against (all of them for `size`, all but its own for a `delete`); it
    must contain every write that acted before the observation point `a` (`hin`), later ones do not matter -/
theorem live_dead_of (h : WsOk log ws) (hs : (log.map (·.n)).Pairwise (· > ·))
    (hsub : ∀ w ∈ os, w ∈ ws) {k : Key} {rb re a : Nat}
    (hin : ∀ w ∈ ws, ∀ ev ∈ log, w.id = ev.id → ev.n < a → w ∈ os) (hra : rb ≤ a) (hae : a ≤ re) :
    ((valAt log k a).isSome = true → canBeLive os k rb re = true) ∧
    ((valAt log k a).isSome = false → canBeDead os k rb re = true) := by
  rcases valAt_cases hs k a with ⟨h1, h2⟩ | ⟨ev, hev, h1, h2, h3, h4⟩
  · refine ⟨fun hv => (by rw [h1] at hv; cases hv), fun _ => ?_⟩
    have : (os.any fun w => w.isPut && w.writesKey k && endedBefore w rb) = false :=
      List.any_eq_false.mpr fun w hw hp => by
        simp only [Bool.and_eq_true] at hp
        obtain ⟨ev, hev, _, hk, _, hlt⟩ := h.before (hsub w hw) hp.1.2 hp.2
        exact h2 ev hev hk (Nat.lt_of_lt_of_le hlt hra)
    unfold canBeDead
    rw [this]; rfl
  · obtain ⟨w, hw, hwid, hwk, hwb, hwe⟩ := h.evRec ev hev
    have hwo : w ∈ os := hin w hw ev hev hwid h3
    have hnf : flippedBefore os k w rb = false :=
      not_flipped h hsub hwe fun ev' hev' hk' hlt' => h4 ev' hev' hk' (Nat.lt_of_lt_of_le hlt' hra)
    have hwlt : w.b < re := Nat.lt_of_le_of_lt hwb (Nat.lt_of_lt_of_le h3 hae)
    rw [h1, h2] at hwk
    cases hc : valAt log k a with
    | none =>
      rw [hc] at hwk
      refine ⟨fun hv => (nomatch hv), fun _ => ?_⟩
      have : (os.any fun d => d.isDel && d.writesKey k && decide (d.b < re) && !flippedBefore os k d rb) = true :=
        List.any_eq_true.mpr ⟨w, hwo, by simp [hnf, ORec.isDel, ORec.writesKey, hwk, cellKind, hwlt]⟩
      unfold canBeDead
      rw [this]; simp
    | some v =>
      rw [hc] at hwk
      refine ⟨fun _ => ?_, fun hv => nomatch hv⟩
      exact List.any_eq_true.mpr ⟨w, hwo, by simp [hnf, ORec.isPut, ORec.writesKey, hwk, cellKind, hwlt]⟩

theorem length_eq_live (m : KV) (nkeys : Nat) (hs : SortedKV m) (hlt : ∀ e ∈ m, e.1 < nkeys) :
    m.length = ((List.range nkeys).filter fun k => (m.lookup k).isSome).length := by
  have hn1 : (m.map (·.1)).Nodup := hs.imp Nat.ne_of_lt
  have hn2 : ((List.range nkeys).filter fun k => (m.lookup k).isSome).Nodup :=
    List.Nodup.sublist List.filter_sublist List.nodup_range
  have hp : (m.map (·.1)).Perm ((List.range nkeys).filter fun k => (m.lookup k).isSome) := by
    rw [List.perm_ext_iff_of_nodup hn1 hn2]
    intro k
    rw [List.mem_filter, List.mem_range, Option.isSome_iff_ne_none, lookup_ne_none_iff]
    refine ⟨fun hk => ?_, fun h => h.2⟩
    obtain ⟨e, he, rfl⟩ := List.mem_map.mp hk
    exact ⟨hlt e he, hk⟩
  rw [← hp.length_eq, List.length_map]


theorem rec_acted (h : RInv ops s fs n log) {f : Frame SPc} (hf : f ∈ fs) {w : ORec} (hr : recOfS ops f = some w)
    {e : Nat} (hwe : w.e = some e) :
    ∃ op r a, ops.lookup f.id = some op ∧ kindOf op = some w.kind ∧ f.pc = .done r ∧ w.b ≤ a ∧ a ≤ e ∧
      Acted log f.id a op r := by
  obtain ⟨op, hb, hl, hko, _, he, _, _⟩ := recOfS_some hr
  obtain ⟨op', r, b, a, hop', hpc, hb', hba, hae, hact⟩ := ended_acted h hf (he ▸ hwe)
  cases hl.symm.trans hop'
  cases hb.symm.trans hb'
  exact ⟨op, r, a, hl, hko, hpc, hba, hae, hact⟩

theorem judgeOpP_okS (pfx : String) (nkeys : Nat) (hd : DistinctS ops) (h : RInv ops s fs n log) {o : ORec}
    (ho : o ∈ obsOfS ops fs) : judgeOpP pfx (writesOf (obsOfS ops fs)) nkeys o = none := by
  have hws := wsOk_of_rinv hd h
  obtain ⟨f, hf, hr⟩ := List.mem_filterMap.mp ho
  obtain ⟨_, _, _, _, _, _, hgot, hrows⟩ := recOfS_some hr
  apply judgeOpP_none
  · intro k e hk hoe
    obtain ⟨op, r, a, _, hko, hpc, hba, hae, hact⟩ := rec_acted h hf hr hoe
    rw [hk] at hko
    obtain rfl : op = .get k := kindOf_inv hko
    rw [hgot, hpc, hact.1]
    exact judgeRead_valAt hws h.sortedN hba hae
  · intro lo hi e hk hoe
    obtain ⟨op, r, a, _, hko, hpc, hba, hae, hact⟩ := rec_acted h hf hr hoe
    rw [hk] at hko
    obtain rfl : op = .scan lo hi := kindOf_inv hko
    obtain ⟨⟨d, rfl, h1, h2, h3⟩, _⟩ := hact
    rw [hrows, hpc]
    exact ⟨h1, h2, fun k hk1 hk2 => h3 k hk1 hk2 ▸ judgeRead_valAt hws h.sortedN hba hae⟩

theorem delFlagOf_some {f : Frame SPc} {x : Nat × Bool} (h : delFlagOf ops f = some x) :
    x.1 = f.id ∧ f.pc = .done (.flag x.2) := by
  unfold delFlagOf at h
  split at h
  · rename_i k e fl _ _ hpc
    injection h with h; subst h
    exact ⟨rfl, hpc⟩
  · cases h

theorem judgeDel_okS (pfx : String) (hd : DistinctS ops) (h : RInv ops s fs n log) {o : ORec}
    (ho : o ∈ obsOfS ops fs) {fl : Bool} (hfl : (extraOfS ops fs).delFlags.lookup o.id = some fl) :
    judgeDel pfx (writesOf (obsOfS ops fs)) o fl = none := by
  have hws := wsOk_of_rinv hd h
  obtain ⟨f, hf, hr⟩ := List.mem_filterMap.mp ho
  obtain ⟨_, _, _, _, hid, _⟩ := recOfS_some hr
  unfold judgeDel
  split
  · rename_i k e hk hoe
    obtain ⟨op, r, a, _, hko, hpc, hba, hae, hact⟩ := rec_acted h hf hr hoe
    rw [hk] at hko
    obtain rfl : op = .del k := kindOf_inv hko
    obtain ⟨rfl, evd, hevd, hd1, hd2, _, _⟩ := hact
    -- the flag in the table is the one of this frame
    obtain ⟨f', hf', hdf⟩ := List.mem_filterMap.mp (mem_of_lookup hfl)
    obtain ⟨e1, e2⟩ := delFlagOf_some hdf
    obtain rfl : f' = f := inj_of_nodup_map (·.id) h.ids hf' hf (e1.symm.trans hid)
    obtain rfl : fl = (valAt log k a).isSome := by cases hpc.symm.trans e2; rfl
    have hLD := live_dead_of (os := (writesOf (obsOfS ops fs)).filter fun w => w.id != o.id) (k := k) (rb := o.b) (re := e)
      (a := a) hws h.sortedN (fun w hw => (List.mem_filter.mp hw).1) (by
        intro w hw ev hev hwid hlt
        refine List.mem_filter.mpr ⟨hw, bne_iff_ne.mpr fun hwo => ?_⟩
        cases inj_of_nodup_map (·.id) h.evIds hev hevd (by rw [← hwid, hwo, hid, hd1])
        exact Nat.lt_irrefl _ (hd2 ▸ hlt)) hba hae
    simp only []
    cases hv : (valAt log k a).isSome with
    | true => simp [hLD.1 hv]
    | false => simp [hLD.2 hv]
  · rfl

theorem sizeObsOf_some {f : Frame SPc} {x : Nat × Nat × Nat × Nat} (h : sizeObsOf ops f = some x) :
    ops.lookup f.id = some .size ∧ f.b = some x.2.1 ∧ f.e = some x.2.2.1 ∧ f.pc = .done (.num x.2.2.2) := by
  unfold sizeObsOf at h
  split at h
  · rename_i b e m hl hb he hpc
    injection h with h; subst h
    exact ⟨hl, hb, he, hpc⟩
  · cases h

/-- a size taken at a segment `a ∈ [b, e]` lies between the keys that cannot be absent and those that can be
    present -/
theorem size_bounds (pfx : String) (nkeys : Nat) (hd : DistinctS ops) (hk : KeysBelow nkeys ops)
    (h : RInv ops s fs n log) {m : KV} (hm : SortedKV m) {a b e id : Nat} (hma : ∀ k, m.lookup k = valAt log k a)
    (hba : b ≤ a) (hae : a ≤ e) :
    judgeSize pfx (writesOf (obsOfS ops fs)) nkeys (id, b, e, m.length) = none := by
  have hws := wsOk_of_rinv hd h
  have hLD : ∀ k, _ := fun k => live_dead_of (os := writesOf (obsOfS ops fs)) (k := k) (rb := b) (re := e) (a := a)
    hws h.sortedN (fun w hw => hw) (fun w hw _ _ _ _ => hw) hba hae
  have hlt : ∀ x ∈ m, x.1 < nkeys := by
    intro x hx
    have hs : (m.lookup x.1).isSome = true :=
      Option.isSome_iff_ne_none.mpr (lookup_ne_none_iff.mpr (List.mem_map_of_mem hx))
    rw [hma] at hs
    rcases valAt_cases h.sortedN x.1 a with ⟨h1, _⟩ | ⟨ev, hev, h1, _, _, _⟩
    · rw [h1] at hs; cases hs
    · have := hk _ (mem_of_lookup (h.evOp ev hev))
      rw [h1] at this
      cases hc : ev.cell <;> rw [hc] at this <;> simpa [cellOp, keyLtOp] using this
  have hlen := length_eq_live m nkeys hm hlt
  have hlo : ((List.range nkeys).filter fun k => !canBeDead (writesOf (obsOfS ops fs)) k b e).length ≤ m.length := by
    rw [hlen, ← List.countP_eq_length_filter, ← List.countP_eq_length_filter]
    apply List.countP_mono_left
    intro k _ hp
    cases hv : (m.lookup k).isSome with
    | true => rfl
    | false =>
      rw [hma] at hv
      rw [(hLD k).2 hv] at hp
      cases hp
  have hhi : m.length ≤ ((List.range nkeys).filter fun k => canBeLive (writesOf (obsOfS ops fs)) k b e).length := by
    rw [hlen, ← List.countP_eq_length_filter, ← List.countP_eq_length_filter]
    apply List.countP_mono_left
    intro k _ hp
    rw [hma] at hp
    exact (hLD k).1 hp
  unfold judgeSize
  simp only []
  rw [if_neg (by omega), if_neg (by omega)]

theorem judgeSize_okS (pfx : String) (nkeys : Nat) (hd : DistinctS ops) (hk : KeysBelow nkeys ops)
    (h : RInv ops s fs n log) {x : Nat × Nat × Nat × Nat} (hx : x ∈ (extraOfS ops fs).sizes) :
    judgeSize pfx (writesOf (obsOfS ops fs)) nkeys x = none := by
  obtain ⟨x1, x2, x3, x4⟩ := x
  obtain ⟨f, hf, hsz⟩ := List.mem_filterMap.mp hx
  obtain ⟨hl, hb, he, hpc⟩ := sizeObsOf_some hsz
  obtain ⟨op', r, b, a, hop', hpc', hb', hba, hae, hact⟩ := ended_acted h hf he
  cases hl.symm.trans hop'
  cases hb.symm.trans hb'
  obtain ⟨⟨m, hm, rfl, hma⟩, _⟩ := hact
  cases hpc.symm.trans hpc'
  exact size_bounds pfx nkeys hd hk h hm hma hba hae

theorem store_judge_of_rinv (pfx : String) (nkeys : Nat) (hd : DistinctS ops) (hk : KeysBelow nkeys ops)
    (h : RInv ops s fs n log) : judgeStore pfx (obsOfS ops fs) nkeys (extraOfS ops fs) = none := by
  have h1 : judgeOpsP pfx (obsOfS ops fs) nkeys = none := by
    unfold judgeOpsP
    apply List.findSome?_eq_none_iff.mpr
    intro o ho
    rw [judgeOpP_okS pfx nkeys hd h ho]
    rfl
  have h2 : ((obsOfS ops fs).findSome? fun o => ((extraOfS ops fs).delFlags.lookup o.id).bind fun f =>
      judgeDel pfx (writesOf (obsOfS ops fs)) o f) = none := by
    apply List.findSome?_eq_none_iff.mpr
    intro o ho
    cases hfl : (extraOfS ops fs).delFlags.lookup o.id with
    | none => rfl
    | some fl => exact judgeDel_okS pfx hd h ho hfl
  unfold judgeStore
  rw [h1]
  simp only []
  rw [h2]
  simp only []
  apply List.findSome?_eq_none_iff.mpr
  intro x hx
  exact judgeSize_okS pfx nkeys hd hk h hx

end

theorem store_invariants (s0 : Store) (h0 : SOk s0) (he : s0.contents = []) (ops : List (Nat × SOp)) (sched : List Nat)
    (hn : (ops.map (·.1)).Nodup) :
    RInv ops (runFrames stepS SPc.isDone s0 (framesOfS ops) 0 sched).1
      (runFrames stepS SPc.isDone s0 (framesOfS ops) 0 sched).2 sched.length
      (logRunS s0 (framesOfS ops) 0 [] sched) := by
  simpa using rinv_run sched s0 (framesOfS ops) 0 [] (rinv_init h0 he hn)

/-- C14, refinement to a map along runs: after any run from an empty store (distinct ids) `get_sync` of a key is the
    newest write on it, and the store keeps its representation invariant (search tree / sorted dict) -/
theorem store_refines_log (s0 : Store) (h0 : SOk s0) (he : s0.contents = []) (ops : List (Nat × SOp)) (sched : List Nat)
    (hn : (ops.map (·.1)).Nodup) (k : Key) :
    SOk (runFrames stepS SPc.isDone s0 (framesOfS ops) 0 sched).1 ∧
    (runFrames stepS SPc.isDone s0 (framesOfS ops) 0 sched).1.getSync k =
      (firstOn k (logRunS s0 (framesOfS ops) 0 [] sched)).join := by
  have h := store_invariants s0 h0 he ops sched hn
  exact ⟨h.sok, by rw [sok_get h.sok, h.abs]⟩

theorem store_read_regular (pfx : String) (nkeys : Nat) (s0 : Store) (h0 : SOk s0) (he : s0.contents = [])
    (ops : List (Nat × SOp)) (sched : List Nat) (hd : DistinctS ops) (hk : KeysBelow nkeys ops) :
    judgeStore pfx (obsOfS ops (runFrames stepS SPc.isDone s0 (framesOfS ops) 0 sched).2) nkeys
      (extraOfS ops (runFrames stepS SPc.isDone s0 (framesOfS ops) 0 sched).2) = none :=
  store_judge_of_rinv pfx nkeys hd hk (store_invariants s0 h0 he ops sched hd.1)

/-- C14, read regularity of the B-tree (the analogue of `read_regular`): for every workload with distinct operation ids
    and distinct put values over keys `< nkeys`, every order ≥ 3 and every schedule of generator segments (no hypothesis
    on the schedule: operations may be advanced in any order, unknown ids are ignored), the observations of `get`, `put`,
    `delete`, `scan` and `size` generators interleaved at their page-latency yields pass `judgeStore`: every get and every
    key of every scan returns the latest write completed before it began or a concurrent one, scans are sorted,
    duplicate-free and in range, `delete` flags and `size` are consistent with the writes. -/
theorem btree_read_regular (order : Nat) (ho : 3 ≤ order) (nkeys : Nat) (ops : List (Nat × SOp)) (sched : List Nat)
    (hd : DistinctS ops) (hk : KeysBelow nkeys ops) :
    judgeStore "btree" (obsOfS ops (runFrames stepS SPc.isDone (.bt { order := order }) (framesOfS ops) 0 sched).2) nkeys
      (extraOfS ops (runFrames stepS SPc.isDone (.bt { order := order }) (framesOfS ops) 0 sched).2) = none :=
  store_read_regular "btree" nkeys _ (sok_bt order ho) rfl ops sched hd hk

/-- C14, the same for the KVStore -/
theorem kv_read_regular (nkeys : Nat) (ops : List (Nat × SOp)) (sched : List Nat)
    (hd : DistinctS ops) (hk : KeysBelow nkeys ops) :
    judgeStore "kv" (obsOfS ops (runFrames stepS SPc.isDone (.kv []) (framesOfS ops) 0 sched).2) nkeys
      (extraOfS ops (runFrames stepS SPc.isDone (.kv []) (framesOfS ops) 0 sched).2) = none :=
  store_read_regular "kv" nkeys _ sok_kv_nil rfl ops sched hd hk

/-- C14: the observations the harness appends after the run (`get_sync` of every key and `size`, as operations that
    begin and end at a position `N` after every executed segment) pass the same clauses -/
theorem final_reads_regular (pfx : String) (nkeys : Nat) (s0 : Store) (h0 : SOk s0) (he : s0.contents = [])
    (ops : List (Nat × SOp)) (sched : List Nat) (hd : DistinctS ops) (hk : KeysBelow nkeys ops) (N : Nat)
    (hN : sched.length ≤ N) (id : Nat) :
    let r := runFrames stepS SPc.isDone s0 (framesOfS ops) 0 sched
    (∀ k, judgeRead (writesOf (obsOfS ops r.2)) k N N (r.1.getSync k) = none) ∧
    judgeSize pfx (writesOf (obsOfS ops r.2)) nkeys (id, N, N, r.1.size) = none := by
  intro r
  have h := store_invariants s0 h0 he ops sched hd.1
  have hlt : ∀ ev ∈ logRunS s0 (framesOfS ops) 0 [] sched, ev.n < N := fun ev hev => Nat.lt_of_lt_of_le (h.evLt ev hev) hN
  have hval : ∀ k, r.1.contents.lookup k = valAt (logRunS s0 (framesOfS ops) 0 [] sched) k N := fun k => by
    rw [valAt_now hlt, h.abs]
  constructor
  · intro k
    have := judgeRead_valAt (wsOk_of_rinv hd h) h.sortedN (k := k) (Nat.le_refl N) (Nat.le_refl N)
    rw [← hval, ← sok_get h.sok] at this
    exact this
  · rw [sok_size h.sok]
    exact size_bounds pfx nkeys hd hk h (sok_sorted h.sok) hval (Nat.le_refl N) (Nat.le_refl N)

/-! Non-vacuity: an order-3 tree grows to depth 3 under writers while a reader, a scanner and a deleter are suspended
    at their yields, and a size call (it has no yield) is taken in between. -/

def exOpsS : List (Nat × SOp) :=
  [(1, .put 5 50), (2, .put 2 20), (3, .get 5), (4, .put 8 80), (5, .put 1 10), (6, .scan 1 8), (7, .del 2),
   (8, .put 6 60), (9, .size), (10, .put 5 51), (11, .get 2)]

def exSchedS : List Nat :=
  [1, 3, 1, 1, 2, 6, 2, 2, 4, 4, 4, 5, 7, 5, 5, 8, 8, 8, 3, 10, 6, 10, 10, 7, 7, 9, 11, 11, 6, 11, 11, 3, 3, 12, 9, 6, 3]

example : DistinctS exOpsS ∧ KeysBelow 9 exOpsS := ⟨⟨by decide +kernel, by decide +kernel⟩, by decide +kernel⟩

example :
    (runFrames stepS SPc.isDone (.bt { order := 3 }) (framesOfS exOpsS) 0 exSchedS).2.all (fun f => f.pc.isDone) = true ∧
    (match (runFrames stepS SPc.isDone (.bt { order := 3 }) (framesOfS exOpsS) 0 exSchedS).1 with
      | .bt t => (t.depth, t.toList) | _ => (0, [])) = (3, [(1, 10), (5, 51), (6, 60), (8, 80)]) ∧
    (obsOfS exOpsS (runFrames stepS SPc.isDone (.bt { order := 3 }) (framesOfS exOpsS) 0 exSchedS).2).map (fun o => (o.id, o.b, o.e)) =
      [(1, 0, some 3), (2, 4, some 7), (3, 1, some 18), (4, 8, some 10), (5, 11, some 14), (6, 5, some 28),
       (7, 12, some 24), (8, 15, some 17), (10, 19, some 22), (11, 26, some 30)] ∧
    (obsOfS exOpsS (runFrames stepS SPc.isDone (.bt { order := 3 }) (framesOfS exOpsS) 0 exSchedS).2).map (·.got) = [none, none, some 50, none, none, none, none, none, none, none] ∧
    (obsOfS exOpsS (runFrames stepS SPc.isDone (.bt { order := 3 }) (framesOfS exOpsS) 0 exSchedS).2).map (·.rows) = [[], [], [], [], [], [(1, 10), (2, 20), (5, 50), (6, 60)], [], [], [], []] ∧
    (extraOfS exOpsS (runFrames stepS SPc.isDone (.bt { order := 3 }) (framesOfS exOpsS) 0 exSchedS).2).delFlags = [(7, true)] ∧
    (extraOfS exOpsS (runFrames stepS SPc.isDone (.bt { order := 3 }) (framesOfS exOpsS) 0 exSchedS).2).sizes = [(9, 25, 25, 4)] := by
  decide +kernel

end HappyModel.C14.SM.SR
