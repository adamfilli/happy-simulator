import HappyProofs.C17.MLMAlg
/-!
Shared definitions for the run-level composition `run_gossip_complete_converges`:

* `isWR s a` — action `a` runs a client-write or `Replicate` handler in state `s`;
* `GK`, `kstep`, `krun` — the knowledge computation of `Spec.gossipComplete`, forward along a run:
  a client-write / `Replicate` handler step resets it (so what is left at the end is what happened
  after the *last* such step), a valid anti-entropy tick snapshots the sender's knowledge into the
  request it sends (message id `s.nm`), and the step that finishes an `AntiEntropyRequest` handler
  adds the request's snapshot to the receiver's knowledge;
* `replQuiescent` — every `Replicate` is delivered and every write / `Replicate` handler has finished;
* `SubInv` — every anti-entropy copy `(k, v)` in a message or handler is *subsumed* by the current
  version of its sender: pointwise smaller clock, and a smaller value if the clocks are equal.
-/
namespace HappyModel.C17.MLM
open HappyModel.C17.ML (Version Msg Proc MKind PKind vcGet dominates vcMerge vcTick)

/-- every `Replicate` message is delivered, every write / `Replicate` handler has finished -/
def replQuiescent (s : St) : Prop :=
  (∀ mid m, s.msgs mid = some m → m.kind = .repl → m.delivered = true) ∧
  (∀ pid p, s.procs pid = some p → (p.kind = .write ∨ p.kind = .repl) → p.fin = true)

/-- `v` is subsumed by the sender's current version `cur` -/
def Sub (j : Join) (n : Nat) (cur : Option Version) (v : Version) : Prop :=
  ∃ u, cur = some u ∧ (∀ c, c < n → vcGet v.vc c ≤ vcGet u.vc c) ∧
    ((∀ c, c < n → vcGet v.vc c = vcGet u.vc c) → Le j v.val u.val)

/-- every anti-entropy copy is subsumed by its sender's current version of that key -/
structure SubInv (s : St) : Prop where
  msgS : ∀ mid m, s.msgs mid = some m → (m.kind = .aereq ∨ m.kind = .aeresp) →
    ∀ kv, kv ∈ m.items → Sub s.join s.n (s.vers m.src kv.1) kv.2
  procS : ∀ pid p, s.procs pid = some p → (p.kind = .aereq ∨ p.kind = .aeresp) →
    ∀ kv, kv ∈ p.items → Sub s.join s.n (s.vers p.src kv.1) kv.2

end HappyModel.C17.MLM
