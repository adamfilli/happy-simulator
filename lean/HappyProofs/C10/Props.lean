import HappyProofs.C10.Reach
import HappyProofs.C10.AdaptiveCredit
import HappyProofs.C10.PropsAdaptive
import HappyProofs.C10.PropsRun
import HappyProofs.C10.EntityInv
import HappyProofs.C10.EntityPoll
import HappyProofs.C10.EntityCap
import HappyProofs.C10.Distributed
/-!
"For any sequence of arrival times, the admitted requests satisfy the policy's bound over every time
interval (token bucket: capacity + rate × length; leaky bucket: spacing of at least 1/rate; sliding
window: at most N in any window; fixed window: at most N per aligned window and 2N in any
window-length interval; adaptive: the bucket bound of its current rate, which stays within
[min, max]).  If time_until_available returns zero an immediate acquire succeeds; otherwise no acquire
can succeed before the returned wait has elapsed, and repeatedly waiting the returned duration reaches
an admitting instant within a few steps.  A rate-limited entity forwards, queues or drops every
request exactly once, and forwards requests in arrival order."

All statements are about the exact-integer model of `HappyModel/C10` (times in ns; `one` units = one
token; rate `p` units per ns) and quantify over every operation list whose times never decrease
(`MonoOps`, what the engine guarantees) — and, for the entity, over every policy and every schedule.
The Spec predicates are the ones the driver evaluates on transcripts of the real implementation.
-/
namespace HappyModel.C10

/-- Token bucket: every run of `n` consecutive admissions `t₀ … t` satisfies
    `n · one ≤ max(cap, initial tokens) + p · (t − t₀)` — i.e. in any interval of length ℓ at most
    capacity + rate·ℓ requests are admitted.  Any starting state, any operation list whose times do not decrease
    from the state's clock. -/
theorem token_bucket_bound (c : TBCfg) (s : TB) (ops : List Op)
    (hm : ∀ l, s.last = some l → MonoOps l ops) (hm0 : s.last = none → MonoOps 0 ops) :
    bucketOK (max c.cap s.tok) c.p c.one ((tbPolicy c).admitted s ops) = true := by
  obtain ⟨l, hl, hmo⟩ := MonoOps.start hm hm0
  exact (tb_pot c _ (Nat.le_max_left _ _) ops s l (Nat.le_max_right _ _) hl hmo).bucketOK

example : (tbPolicy ⟨2, 1, 1⟩).admitted ⟨2, none⟩ [.acq 0, .acq 0, .acq 0, .tua 0, .acq 1, .acq 1] = [0, 0, 1] := by decide +kernel
example : MonoOps 0 [.acq 0, .acq 0, .acq 0, .tua 0, .acq 1, .acq 1] := by simp [MonoOps, Op.time]
example : bucketOK 2 1 1 [0, 0, 1] = true ∧ bucketOK 2 1 1 [0, 0, 0] = false := by decide +kernel

/-- Leaky bucket: consecutive admissions are at least `1/rate` apart (`one ≤ p · Δ`), from a fresh
    policy and for any operation list (no assumption on times). -/
theorem leaky_spacing (c : LBCfg) (ops : List Op) :
    spacingOK c.p c.one 0 ((lbPolicy c).admitted ⟨none⟩ ops) = true :=
  leaky_spacing_reachable c ⟨none⟩ [] 0 (lb_hist_init c) ops

example : (lbPolicy ⟨1, 4⟩).admitted ⟨none⟩ [.acq 0, .acq 3, .acq 4, .acq 7, .acq 9] = [0, 4, 9] := by decide +kernel
example : spacingOK 1 4 0 [0, 4, 9] = true ∧ spacingOK 1 4 0 [0, 3] = false := by decide +kernel

/-- Sliding window: at most `N` admissions in *every* closed window `[a, a + W]`. -/
theorem sliding_window_bound (c : WCfg) (ops : List Op) (hm : MonoOps 0 ops) (a : Nat) :
    cnt a (a + c.W) ((swPolicy c).admitted ⟨[]⟩ ops) ≤ c.N := by
  have := sliding_window_bound_reachable c ⟨[]⟩ [] 0 (sw_hist_init c) ops hm a
  rwa [List.nil_append] at this

/-- … in particular the executable Spec predicate holds of the model's admitted list -/
theorem sliding_window_spec (c : WCfg) (ops : List Op) (hm : MonoOps 0 ops) :
    slidingOK c.W c.N ((swPolicy c).admitted ⟨[]⟩ ops) = true := by
  simp only [slidingOK, List.all_eq_true, decide_eq_true_eq]
  intro a _; exact sliding_window_bound c ops hm a

example : (swPolicy ⟨10, 2⟩).admitted ⟨[]⟩ [.acq 0, .acq 5, .acq 10, .acq 11, .acq 15, .acq 16] = [0, 5, 11, 16] := by decide +kernel
example : slidingOK 10 2 [0, 5, 11, 16] = true ∧ slidingOK 10 2 [0, 5, 10] = false := by decide +kernel

/-- Fixed window: at most `N` admissions in every aligned window `[k·W, (k+1)·W)` and at most `2N` in
    every closed interval of one window length. -/
theorem fixed_window_bounds (c : WCfg) (hW : 0 < c.W) (ops : List Op) (hm : MonoOps 0 ops) :
    (∀ k, cntWin c.W k ((fwPolicy c).admitted ⟨none, 0⟩ ops) ≤ c.N) ∧
    (∀ a, cnt a (a + c.W) ((fwPolicy c).admitted ⟨none, 0⟩ ops) ≤ 2 * c.N) := by
  have := fixed_window_bounds_reachable c hW ⟨none, 0⟩ [] 0 (fw_hist_init c) ops hm
  rwa [List.nil_append] at this

theorem fixed_window_spec (c : WCfg) (hW : 0 < c.W) (ops : List Op) (hm : MonoOps 0 ops) :
    fixedAlignedOK c.W c.N ((fwPolicy c).admitted ⟨none, 0⟩ ops) = true ∧
    fixedAnyOK c.W c.N ((fwPolicy c).admitted ⟨none, 0⟩ ops) = true := by
  obtain ⟨h1, h2⟩ := fixed_window_bounds c hW ops hm
  simp only [fixedAlignedOK, fixedAnyOK, List.all_eq_true, decide_eq_true_eq]
  exact ⟨fun t _ => h1 _, fun a _ => h2 a⟩

example : (fwPolicy ⟨10, 1⟩).admitted ⟨none, 0⟩ [.acq 9, .acq 9, .acq 10, .acq 19, .acq 20] = [9, 10, 20] := by decide +kernel
example : fixedAnyOK 10 1 [9, 10, 20] = true ∧ fixedAlignedOK 10 1 [9, 10, 20] = true ∧
    fixedAlignedOK 10 1 [10, 19] = false := by decide +kernel

/-- Adaptive: after every operation (acquire, time_until_available, success or failure feedback) the
    rate is within `[pmin, pmax]`. -/
theorem adaptive_rate_in_range (c : ADCfg) (hc : ADOk c) (s : AD) (hs : s.InRange c) (ops : List Op) :
    ratesOK c.pmin c.pmax (AD.rates c s ops) = true := by
  induction ops generalizing s with
  | nil => rfl
  | cons o os ih =>
    have h' := AD.step_range c hc s o hs
    simp only [AD.rates, ratesOK, List.all_cons, Bool.and_eq_true, decide_eq_true_eq]
    exact ⟨h', ih _ h'⟩

/-- … and, whatever the feedback, the admissions satisfy the bucket bound of the largest rate. -/
theorem adaptive_bucket_bound (c : ADCfg) (hc : ADOk c) (s : AD) (hs : s.InRange c) (ops : List Op)
    (hm : ∀ l, s.last = some l → MonoOps l ops) (hm0 : s.last = none → MonoOps 0 ops) :
    bucketOK (max (c.cap c.pmax) s.tok) c.pmax c.one (AD.admitted c s ops) = true := by
  obtain ⟨l, hl, hmo⟩ := MonoOps.start hm hm0
  exact (ad_pot c hc _ (Nat.le_max_left _ _) ops s l hs (Nat.le_max_right _ _) hl hmo).bucketOK

example : ADOk ⟨2, 8, 1, 1, 2, 4, 1, 4⟩ ∧ AD.InRange ⟨2, 8, 1, 1, 2, 4, 1, 4⟩ ⟨4, 16, none⟩ := by
  refine ⟨⟨by decide, by decide⟩, by decide, by decide⟩
example : AD.rates ⟨2, 8, 1, 1, 2, 4, 1, 4⟩ ⟨4, 16, none⟩ [.fail 0, .fail 0, .fail 1, .succ 1, .acq 2] = [2, 2, 2, 3, 3] := by decide +kernel

/-!
State hypotheses (each holds in every reachable state): `NotBefore s.last t` — the clock has not gone backwards
(`tb_stable`, `lb_stable`, `AD.run_inv`); `FW.Ok` — the current fixed window is aligned and not in the future,
counter ≤ N (`fw_stable`); sliding log of length ≤ `N` (`sw_stable`).  Configuration hypotheses:
rate `0 < p`, capacity of at least one token, `1 ≤ N`, `0 < W` — without them an emptied policy never has
capacity again.
-/

/-- `time_until_available(t) = 0` ⇒ `try_acquire(t)` right afterwards is granted — all five policies -/
theorem tua_zero_admits :
    (∀ (c : TBCfg) (s : TB) (t : Nat), NotBefore s.last t →
      (TB.tua c s t).2 = 0 → (TB.acquire c (TB.tua c s t).1 t).2 = true) ∧
    (∀ (c : LBCfg) (s : LB) (t : Nat),
      (LB.tua c s t).2 = 0 → (LB.acquire c (LB.tua c s t).1 t).2 = true) ∧
    (∀ (c : WCfg) (s : SW) (t : Nat), 1 ≤ c.N →
      (SW.tua c s t).2 = 0 → (SW.acquire c (SW.tua c s t).1 t).2 = true) ∧
    (∀ (c : WCfg) (s : FW) (t : Nat), 0 < c.W → FW.Ok c s t →
      (FW.tua c s t).2 = 0 → (FW.acquire c (FW.tua c s t).1 t).2 = true) ∧
    (∀ (c : ADCfg) (s : AD) (t : Nat), NotBefore s.last t →
      (AD.tua c s t).2 = 0 → (AD.acquire c (AD.tua c s t).1 t).2 = true) :=
  ⟨fun c s t _ => (tbNorm c).zero_admits (tb_waitPos c) s t, fun c s t => (lbNorm c).zero_admits (lb_waitPos c) s t, fun c s t hN => (swNorm c).zero_admits (sw_waitPos c hN) s t,
   fun c s t hW _ => (fwNorm c).zero_admits (fw_waitPos c hW) s t, fun c s t _ => (adNorm c).zero_admits (ad_waitPos c) s t⟩

/-- `time_until_available(t) = w > 0` ⇒ no `try_acquire(t')` with `t ≤ t' < t + w` is granted -/
theorem tua_positive_blocks :
    (∀ (c : TBCfg) (s : TB) (t t' : Nat), 0 < c.p → NotBefore s.last t → t ≤ t' →
      t' < t + (TB.tua c s t).2 → (TB.acquire c (TB.tua c s t).1 t').2 = false) ∧
    (∀ (c : LBCfg) (s : LB) (t t' : Nat), 0 < c.p → NotBefore s.last t → t ≤ t' →
      t' < t + (LB.tua c s t).2 → (LB.acquire c (LB.tua c s t).1 t').2 = false) ∧
    (∀ (c : WCfg) (s : SW) (t t' : Nat), t ≤ t' →
      t' < t + (SW.tua c s t).2 → (SW.acquire c (SW.tua c s t).1 t').2 = false) ∧
    (∀ (c : WCfg) (s : FW) (t t' : Nat), 0 < c.W → FW.Ok c s t → t ≤ t' →
      t' < t + (FW.tua c s t).2 → (FW.acquire c (FW.tua c s t).1 t').2 = false) ∧
    (∀ (c : ADCfg) (s : AD) (t t' : Nat), 0 < s.p → NotBefore s.last t → t ≤ t' →
      t' < t + (AD.tua c s t).2 → (AD.acquire c (AD.tua c s t).1 t').2 = false) :=
  ⟨fun c s t t' hp h => (tb_timed c hp).positive s t t' h,
   fun c s t t' hp h => (lb_timed c hp).positive s t t' h,
   fun c s t t' => (sw_timed c).positive s t t' trivial,
   fun c s t t' hW h => (fw_timed c hW).positive s t t' h,
   fun c s t t' hp h => (ad_timed c).positive s t t' ⟨hp, h⟩⟩

/-- Waiting the returned duration reaches `time_until_available = 0` after at most two positive waits
    (one for the fixed window); the second one is the 1 ns guard.  With `tua_zero_admits` the acquire
    made at that instant is granted — a drain never stalls. -/
theorem tua_reaches_admission :
    (∀ (c : TBCfg) (s : TB) (t : Nat), 0 < c.p → c.one ≤ c.cap → NotBefore s.last t →
      (TB.tua c s t).2 = 0 ∨
      (TB.tua c (TB.tua c s t).1 (t + (TB.tua c s t).2)).2 = 0 ∨
      (TB.tua c (TB.tua c (TB.tua c s t).1 (t + (TB.tua c s t).2)).1
        (t + (TB.tua c s t).2 + (TB.tua c (TB.tua c s t).1 (t + (TB.tua c s t).2)).2)).2 = 0) ∧
    (∀ (c : LBCfg) (s : LB) (t : Nat), 0 < c.p → NotBefore s.last t →
      (LB.tua c s t).2 = 0 ∨ (LB.tua c s (t + (LB.tua c s t).2)).2 = 0 ∨
      (LB.tua c s (t + (LB.tua c s t).2 + (LB.tua c s (t + (LB.tua c s t).2)).2)).2 = 0) ∧
    (∀ (c : WCfg) (s : SW) (t : Nat), 1 ≤ c.N → s.log.length ≤ c.N →
      (SW.tua c s t).2 = 0 ∨
      (SW.tua c (SW.tua c s t).1 (t + (SW.tua c s t).2)).2 = 0 ∨
      (SW.tua c (SW.tua c (SW.tua c s t).1 (t + (SW.tua c s t).2)).1
        (t + (SW.tua c s t).2 + (SW.tua c (SW.tua c s t).1 (t + (SW.tua c s t).2)).2)).2 = 0) ∧
    (∀ (c : WCfg) (s : FW) (t : Nat), 0 < c.W → 1 ≤ c.N → FW.Ok c s t →
      (FW.tua c s t).2 = 0 ∨ (FW.tua c (FW.tua c s t).1 (t + (FW.tua c s t).2)).2 = 0) ∧
    (∀ (c : ADCfg) (s : AD) (t : Nat), 0 < s.p → c.one ≤ c.cap s.p → NotBefore s.last t →
      (AD.tua c s t).2 = 0 ∨
      (AD.tua c (AD.tua c s t).1 (t + (AD.tua c s t).2)).2 = 0 ∨
      (AD.tua c (AD.tua c (AD.tua c s t).1 (t + (AD.tua c s t).2)).1
        (t + (AD.tua c s t).2 + (AD.tua c (AD.tua c s t).1 (t + (AD.tua c s t).2)).2)).2 = 0) :=
  ⟨tb_tua_reaches_admission, lb_tua_reaches_admission,
   fun c s t hN hl => sw_tua_reaches_admission c hN s t hl,
   fun c s t hW hN h => fw_tua_reaches_admission c hW hN s t h, ad_tua_reaches_admission⟩

example : (TB.tua ⟨3, 2, 3⟩ ⟨0, some 0⟩ 0).2 = 1 ∧
    (TB.tua ⟨3, 2, 3⟩ (TB.tua ⟨3, 2, 3⟩ ⟨0, some 0⟩ 0).1 1).2 = 1 ∧
    (TB.tua ⟨3, 2, 3⟩ (TB.tua ⟨3, 2, 3⟩ (TB.tua ⟨3, 2, 3⟩ ⟨0, some 0⟩ 0).1 1).1 2).2 = 0 := by decide +kernel
example : (LB.tua ⟨2, 7⟩ ⟨some 0⟩ 0).2 = 3 ∧ (LB.tua ⟨2, 7⟩ ⟨some 0⟩ 3).2 = 1 ∧ (LB.tua ⟨2, 7⟩ ⟨some 0⟩ 4).2 = 0 := by decide +kernel
-- sliding window (W = 10, N = 1) holding an admission at 5: waits 10, then the 1 ns guard, then zero
example : (SW.tua ⟨10, 1⟩ ⟨[5]⟩ 5).2 = 10 ∧ (SW.tua ⟨10, 1⟩ ⟨[5]⟩ 15).2 = 1 ∧ (SW.tua ⟨10, 1⟩ ⟨[5]⟩ 16).2 = 0 := by decide +kernel
-- fixed window (W = 10, N = 1), full at 13: wait 7 to the boundary, then zero; the state is `FW.Ok`
example : (FW.tua ⟨10, 1⟩ ⟨some 10, 1⟩ 13).2 = 7 ∧ (FW.tua ⟨10, 1⟩ ⟨some 10, 1⟩ 20).2 = 0 ∧
    FW.Ok ⟨10, 1⟩ ⟨some 10, 1⟩ 13 :=
  ⟨by decide, by decide, by decide, fun w h => by cases h; exact ⟨1, by decide, by decide⟩⟩
example : NotBefore (some 3) 5 := fun l h => by cases h; decide

/-- After `time_until_available(t) = w`, **no** `try_acquire` at any time in `[t, t + w)` is granted,
    whatever refused acquires and further `time_until_available` calls are made in between: every
    timestamp admitted by *any* continuation `ops` (times not decreasing) is `≥ t + w`.  All five
    policies; for the adaptive one up to the next feedback call (`NoFeedback`). -/
theorem tua_positive_blocks_run :
    (∀ (c : TBCfg) (s : TB) (t : Nat) (ops : List Op), 0 < c.p → NotBefore s.last t → MonoOps t ops →
      ∀ x ∈ (tbPolicy c).admitted (TB.tua c s t).1 ops, t + (TB.tua c s t).2 ≤ x) ∧
    (∀ (c : LBCfg) (s : LB) (t : Nat) (ops : List Op), 0 < c.p → NotBefore s.last t → MonoOps t ops →
      ∀ x ∈ (lbPolicy c).admitted (LB.tua c s t).1 ops, t + (LB.tua c s t).2 ≤ x) ∧
    (∀ (c : WCfg) (s : SW) (t : Nat) (ops : List Op), MonoOps t ops →
      ∀ x ∈ (swPolicy c).admitted (SW.tua c s t).1 ops, t + (SW.tua c s t).2 ≤ x) ∧
    (∀ (c : WCfg) (s : FW) (t : Nat) (ops : List Op), 0 < c.W → FW.Ok c s t → MonoOps t ops →
      ∀ x ∈ (fwPolicy c).admitted (FW.tua c s t).1 ops, t + (FW.tua c s t).2 ≤ x) ∧
    (∀ (c : ADCfg) (s : AD) (t : Nat) (ops : List Op), 0 < s.p → NotBefore s.last t → MonoOps t ops →
      NoFeedback ops → ∀ x ∈ AD.admitted c (AD.tua c s t).1 ops, t + (AD.tua c s t).2 ≤ x) :=
  ⟨fun c s t ops hp h hm => (tb_timed c hp).after_tua s t ops h hm,
   fun c s t ops hp h hm => (lb_timed c hp).after_tua s t ops h hm,
   fun c s t ops hm => (sw_timed c).after_tua s t ops trivial hm,
   fun c s t ops hW h hm => (fw_timed c hW).after_tua s t ops h hm,
   fun c s t ops hp h hm hn => ad_admitted_eq c ops _ hn ▸ (ad_timed c).after_tua s t ops ⟨hp, h⟩ hm⟩

-- token bucket (cap 3, 1 unit/ns, one token = 3 units), empty at 0: wait 3; the acquires at 1 and 2 and
-- the second time_until_available in between change nothing; the acquire at 3 is granted
example : (TB.tua ⟨3, 1, 3⟩ ⟨0, some 0⟩ 0).2 = 3 ∧
    (tbPolicy ⟨3, 1, 3⟩).admitted (TB.tua ⟨3, 1, 3⟩ ⟨0, some 0⟩ 0).1 [.acq 1, .tua 1, .acq 2, .acq 3, .acq 3] = [3] := by
  decide +kernel
example : MonoOps 0 [.acq 1, .tua 1, .acq 2, .acq 3, .acq 3] ∧ NoFeedback [.acq 1, .tua 1, .acq 2, .acq 3, .acq 3] :=
  ⟨by simp [MonoOps, Op.time], .acq (.tua (.acq (.acq (.acq .nil))))⟩
-- sliding window (W = 10, N = 1) holding 5: wait 10 at 5; refused at 9 and at 15 (closed window), granted at 16
example : (SW.tua ⟨10, 1⟩ ⟨[5]⟩ 5).2 = 10 ∧
    (swPolicy ⟨10, 1⟩).admitted (SW.tua ⟨10, 1⟩ ⟨[5]⟩ 5).1 [.acq 9, .tua 9, .acq 14, .acq 15, .acq 16] = [16] := by decide +kernel

/-- The executable Spec predicate `blocksOK` — "after `time_until_available(t) = w` no acquire before
    `t + w` succeeds (up to the next feedback record)" over a whole transcript — holds of the model's
    transcript of **every** run from every good state: each of the run's `time_until_available` calls is
    honoured by all later calls. -/
theorem tua_blocks_spec :
    (∀ (c : TBCfg) (s : TB) (now : Nat) (ops : List Op), 0 < c.p → NotBefore s.last now → MonoOps now ops →
      blocksOK ((tbPolicy c).obs s ops) = true) ∧
    (∀ (c : LBCfg) (s : LB) (now : Nat) (ops : List Op), 0 < c.p → NotBefore s.last now → MonoOps now ops →
      blocksOK ((lbPolicy c).obs s ops) = true) ∧
    (∀ (c : WCfg) (s : SW) (now : Nat) (ops : List Op), MonoOps now ops →
      blocksOK ((swPolicy c).obs s ops) = true) ∧
    (∀ (c : WCfg) (s : FW) (now : Nat) (ops : List Op), 0 < c.W → FW.Ok c s now → MonoOps now ops →
      blocksOK ((fwPolicy c).obs s ops) = true) ∧
    (∀ (c : ADCfg) (s : AD) (now : Nat) (ops : List Op), ADOk c → 0 < c.pmin → s.InRange c →
      NotBefore s.last now → MonoOps now ops → blocksOK (AD.obs c s ops) = true) :=
  ⟨fun c s now ops hp h hm => blocks_obs (tb_stable c) (tb_timed c hp) ops s now h hm,
   fun c s now ops hp h hm => blocks_obs (lb_stable c) (lb_timed c hp) ops s now h hm,
   fun c s now ops hm => blocks_obs (Stable.trivial _) (sw_timed c) ops s now trivial hm,
   fun c s now ops hW h hm => blocks_obs (fw_stable c hW) (fw_timed c hW) ops s now h hm,
   fun c s now ops hc hmin hr h hm => blocksOK_of_blocksOKR _ _ (adaptive_blocks_spec_through_feedback c hc hmin s now ops hr h hm)⟩

example : (tbPolicy ⟨3, 1, 3⟩).obs ⟨0, some 0⟩ [.tua 0, .acq 1, .tua 1, .acq 2, .acq 3] =
    [.tua 0 3, .acq 1 false, .tua 1 2, .acq 2 false, .acq 3 true] := by rfl
example : blocksOK [.tua 0 3, .acq 1 false, .tua 1 2, .acq 2 false, .acq 3 true] = true ∧
    blocksOK [.tua 0 3, .acq 1 false, .acq 2 true] = false := by decide +kernel
-- adaptive: the promise ends at a feedback record (`fb`), as in the Spec
example : AD.obs ⟨2, 8, 6, 1, 2, 4, 1, 8⟩ ⟨2, 0, some 0⟩ [.tua 0, .acq 1, .succ 1, .acq 2] =
    [.tua 0 4, .acq 1 false, .fb 1 8, .acq 2 true] := by rfl
example : blocksOK [.tua 0 4, .acq 1 false, .fb 1 8, .acq 2 true] = true ∧
    blocksOK [.tua 0 4, .acq 1 false, .acq 2 true] = false := by decide +kernel

/-- Leaky bucket, from *any* state whatsoever (`leaky_spacing_reachable` asks for a state that fits a history): the
    future admissions are correctly spaced among themselves and from the state's last leak time. -/
theorem leaky_spacing_any_state (c : LBCfg) (s : LB) (ops : List Op) :
    spacingOK c.p c.one 0 ((lbPolicy c).admitted s ops) = true ∧
    (∀ l, s.last = some l → spacingOK c.p c.one 0 (l :: (lbPolicy c).admitted s ops) = true) := by
  have a : ∀ l, s.last = some l → spacingOK c.p c.one 0 (l :: (lbPolicy c).admitted s ops) = true :=
    fun l hl => leaky_spacing_reachable c s [l] 0 ⟨rfl, hl⟩ ops
  refine ⟨?_, a⟩
  cases hl : s.last with
  | none => exact leaky_spacing_reachable c s [] 0 ⟨rfl, hl⟩ ops
  | some l =>
    have := a l hl
    cases hx : (lbPolicy c).admitted s ops with
    | nil => rfl
    | cons x xs =>
      rw [hx] at this
      simp only [spacingOK, Bool.and_eq_true] at this
      exact this.2

/-- reachability closure: the three history invariants hold of the fresh policy with the empty
    history, are preserved by every single operation whose time does not decrease, and therefore hold
    of the state reached by any run, with exactly the run's admitted list as history. -/
theorem policy_hist_reachable :
    (∀ (c : LBCfg), LBHist c ⟨none⟩ [] 0 ∧
      (∀ s hist now o, LBHist c s hist now → now ≤ o.time →
        LBHist c ((lbPolicy c).step s o) (hist ++ (lbPolicy c).admitted s [o]) o.time) ∧
      (∀ ops, MonoOps 0 ops →
        LBHist c ((lbPolicy c).run ⟨none⟩ ops) ((lbPolicy c).admitted ⟨none⟩ ops) (endTime 0 ops))) ∧
    (∀ (c : WCfg), SWHist c ⟨[]⟩ [] 0 ∧
      (∀ s hist now o, SWHist c s hist now → now ≤ o.time →
        SWHist c ((swPolicy c).step s o) (hist ++ (swPolicy c).admitted s [o]) o.time) ∧
      (∀ ops, MonoOps 0 ops →
        SWHist c ((swPolicy c).run ⟨[]⟩ ops) ((swPolicy c).admitted ⟨[]⟩ ops) (endTime 0 ops))) ∧
    (∀ (c : WCfg), 0 < c.W → FWHist c ⟨none, 0⟩ [] 0 ∧
      (∀ s hist now o, FWHist c s hist now → now ≤ o.time →
        FWHist c ((fwPolicy c).step s o) (hist ++ (fwPolicy c).admitted s [o]) o.time) ∧
      (∀ ops, MonoOps 0 ops →
        FWHist c ((fwPolicy c).run ⟨none, 0⟩ ops) ((fwPolicy c).admitted ⟨none, 0⟩ ops) (endTime 0 ops))) := by
  refine ⟨fun c => ⟨lb_hist_init c, (lb_hstable c).step, fun ops hm => ?_⟩,
    fun c => ⟨sw_hist_init c, (sw_hstable c).step, fun ops hm => ?_⟩,
    fun c hW => ⟨fw_hist_init c, (fw_hstable c hW).step, fun ops hm => ?_⟩⟩
  · exact (lb_hstable c).run ops _ [] 0 (lb_hist_init c) hm
  · exact (sw_hstable c).run ops _ [] 0 (sw_hist_init c) hm
  · exact (fw_hstable c hW).run ops _ [] 0 (fw_hist_init c) hm

-- non-vacuity: a sliding-window state in mid-run (the entry 0 already pruned), its history, and the
-- invariant obtained from the closure theorem
example : ((swPolicy ⟨10, 2⟩).run ⟨[]⟩ [.acq 0, .acq 5, .acq 10, .acq 11]).log = [5, 11] ∧
    (swPolicy ⟨10, 2⟩).admitted ⟨[]⟩ [.acq 0, .acq 5, .acq 10, .acq 11] = [0, 5, 11] := by decide +kernel
example : SWHist ⟨10, 2⟩ ⟨[5, 11]⟩ [0, 5, 11] 11 :=
  (policy_hist_reachable.2.1 ⟨10, 2⟩).2.2 [.acq 0, .acq 5, .acq 10, .acq 11] (by simp [MonoOps, Op.time])
example : (swPolicy ⟨10, 2⟩).admitted ⟨[5, 11]⟩ [.acq 12, .acq 15, .acq 16, .acq 21, .acq 22] = [16, 22] := by decide +kernel
-- fixed window in mid-run: window [10, 20) holds one admission
example : FWHist ⟨10, 1⟩ ⟨some 10, 1⟩ [9, 10] 19 :=
  (policy_hist_reachable.2.2 ⟨10, 1⟩ (by decide)).2.2 [.acq 9, .acq 9, .acq 10, .acq 19] (by simp [MonoOps, Op.time])
example : LBHist ⟨1, 4⟩ ⟨some 4⟩ [0, 4] 7 :=
  (policy_hist_reachable.1 ⟨1, 4⟩).2.2 [.acq 0, .acq 3, .acq 4, .acq 7] (by simp [MonoOps, Op.time])

/-- between two rate changes `adaptive_credit_bound` is the bucket bound of the **current** rate:
    admissions · one + tokens left ≤ tokens at the start + `current_rate` × elapsed -/
theorem adaptive_current_rate_bound (c : ADCfg) (s : AD) (l : Nat) (ops : List Op) (hl : s.last = some l)
    (hm : MonoOps l ops) (hn : NoFeedback ops) :
    (AD.admitted c s ops).length * c.one + (AD.run c s ops).tok ≤ s.tok + s.p * (endTime l ops - l) := by
  have := adaptive_credit_bound c s ops
  rw [ad_credit_const c ops s l hl hm hn] at this
  exact this

/-- the credit never exceeds `pmax × elapsed`: the credit bound implies the `pmax` bound -/
theorem adaptive_credit_le_pmax (c : ADCfg) (hc : ADOk c) (s : AD) (hs : s.InRange c) (l : Nat) (ops : List Op)
    (hl : s.last = some l) (hm : MonoOps l ops) :
    AD.credit c s ops ≤ c.pmax * (endTime l ops - l) := by
  -- the credit is the epoch sum, every epoch's rate is at most `pmax`, and the epochs partition the time up
  -- to the last call
  obtain ⟨e1, e2, e3⟩ := epochs_spec c hc ops s [] l hs hl hm (.nil c)
  have h := spanSum_le c.pmax _ fun e he => (e1.range e he).2
  rw [e2, e3, spanSum, spanLen, Nat.zero_add, Nat.zero_add] at h
  exact Nat.le_trans h (Nat.mul_le_mul_left _ (Nat.sub_le_sub_right (callEnd_le_endTime ops l l (Nat.le_refl l) hm) l))

/-- rates 1…8 units/ns, one failure drops 8 → 1, one success raises 1 → 8, window 10 ns, one token = 40
    units; the bucket starts full at rate 8.  Twice: drain, `record_failure`, wait 10 ns at rate 1,
    `record_success` just before the next acquire — which is then credited 8 × 10 units. -/
def adNaiveWitness : List Op :=
  [.acq 0, .acq 0, .fail 0, .succ 10, .acq 10, .acq 10, .fail 10, .succ 20, .acq 20, .acq 20]

/-- the naive reading "admissions ≤ capacity + ∫ (rate in force at each instant) dt" is **false** of
    the code, even with the capacity of the largest rate: `_refill` applies the rate in force at the
    call to the whole time since the previous call.  Here 6 admissions (240 units) against
    capacity 80 + ∫ = 20. -/
theorem adaptive_naive_integral_bound_false :
    ¬ (∀ (c : ADCfg) (s : AD) (l : Nat) (ops : List Op), ADOk c → s.InRange c → s.last = some l → MonoOps l ops →
        (AD.admitted c s ops).length * c.one ≤ max (c.cap c.pmax) s.tok + AD.rateIntegral c s l ops) := by
  intro h
  have := h ⟨1, 8, 7, 1, 8, 10, 1, 40⟩ ⟨8, 80, some 0⟩ 0 adNaiveWitness ⟨by decide, by decide⟩
    ⟨by decide, by decide⟩ rfl (by simp [adNaiveWitness, MonoOps, Op.time])
  revert this
  decide

example : AD.admitted ⟨1, 8, 7, 1, 8, 10, 1, 40⟩ ⟨8, 80, some 0⟩ adNaiveWitness = [0, 0, 10, 10, 20, 20] ∧
    AD.credit ⟨1, 8, 7, 1, 8, 10, 1, 40⟩ ⟨8, 80, some 0⟩ adNaiveWitness = 160 ∧
    AD.rateIntegral ⟨1, 8, 7, 1, 8, 10, 1, 40⟩ ⟨8, 80, some 0⟩ 0 adNaiveWitness = 20 ∧
    (AD.run ⟨1, 8, 7, 1, 8, 10, 1, 40⟩ ⟨8, 80, some 0⟩ adNaiveWitness).tok = 0 := by decide +kernel
-- between rate changes: rate 2, tokens 0 at 0, one token = 8: admissions at 4 and 8, none in between
example : AD.admitted ⟨2, 8, 6, 1, 2, 4, 1, 8⟩ ⟨2, 0, some 0⟩ [.acq 3, .acq 4, .tua 5, .acq 7, .acq 8] = [4, 8] ∧
    endTime 0 [.acq 3, .acq 4, .tua 5, .acq 7, .acq 8] = 8 ∧
    NoFeedback [.acq 3, .acq 4, .tua 5, .acq 7, .acq 8] := ⟨by decide +kernel, by decide +kernel, .acq (.acq (.tua (.acq (.acq .nil))))⟩

def Ent.final {σ : Type} (P : Policy σ) (qcap : Nat) (s0 : σ) (acts : List Act) : Ent σ :=
  Ent.run P qcap (Ent.init s0) acts

theorem final_inv {σ : Type} (P : Policy σ) (qcap : Nat) (s0 : σ) (acts : List Act) :
    EInv (Ent.final P qcap s0 acts) ∧ (Ent.final P qcap s0 acts).R = reqIds acts := by
  refine ⟨run_inv P qcap acts _ (init_inv s0), ?_⟩
  have := run_R P qcap acts (Ent.init s0)
  simpa [Ent.init, Ent.R, Ent.final] using this

/-- forwarded ⊎ queued ⊎ dropped = received, as multisets: every id occurs among the forwarded, the
    still queued and the dropped requests exactly as often as it was received -/
theorem entity_exactly_once {σ : Type} (P : Policy σ) (qcap : Nat) (s0 : σ) (acts : List Act) :
    ((Ent.final P qcap s0 acts).F ++ (Ent.final P qcap s0 acts).queue ++ (Ent.final P qcap s0 acts).D).Perm
      (reqIds acts) := by
  obtain ⟨hi, hr⟩ := final_inv P qcap s0 acts
  rw [List.perm_iff_count]
  intro x; rw [← hr]; exact hi.count x

/-- with distinct request ids the executable Spec predicate holds of the model's logs -/
theorem entity_exactly_once_spec {σ : Type} (P : Policy σ) (qcap : Nat) (s0 : σ) (acts : List Act)
    (hd : (reqIds acts).Nodup) :
    exactlyOnceOK (reqIds acts) (Ent.final P qcap s0 acts).F (Ent.final P qcap s0 acts).D
      (Ent.final P qcap s0 acts).queue.length = true := by
  have hp := entity_exactly_once P qcap s0 acts
  generalize Ent.final P qcap s0 acts = e at *
  have hnd : (e.F ++ e.queue ++ e.D).Nodup := hp.nodup_iff.mpr hd
  have hsub : (e.F ++ e.D).Sublist (e.F ++ e.queue ++ e.D) := by
    rw [List.append_assoc]
    exact List.Sublist.append (List.Sublist.refl _) (List.sublist_append_right _ _)
  have hlen := hp.length_eq
  simp only [exactlyOnceOK, Bool.and_eq_true, nodupB_iff, List.all_eq_true, List.contains_iff_mem,
    decide_eq_true_eq]
  refine ⟨⟨hsub.nodup hnd, fun x hx => hp.mem_iff.mp (hsub.subset hx)⟩, ?_⟩
  simp only [List.length_append] at hlen; omega

/-- requests are forwarded in arrival order: the forwarded ids followed by the queued ids form a
    subsequence of the arrival sequence -/
theorem entity_fifo {σ : Type} (P : Policy σ) (qcap : Nat) (s0 : σ) (acts : List Act) :
    ((Ent.final P qcap s0 acts).F ++ (Ent.final P qcap s0 acts).queue).Sublist (reqIds acts) ∧
    fifoOK (reqIds acts) (Ent.final P qcap s0 acts).F = true := by
  obtain ⟨hi, hr⟩ := final_inv P qcap s0 acts
  have h1 := hi.order
  rw [hr] at h1
  refine ⟨h1, ?_⟩
  simp only [fifoOK, List.isSublist_iff_sublist]
  exact List.Sublist.trans (List.sublist_append_left _ _) h1

/-- the token bucket (1 token, refill p = 1 unit/ns, one = 4) as the entity's policy: requests 0, 1, 2
    arrive at 0, 1, 4; request 2 arrives while 1 is queued and a token is available: 1 goes first -/
example :
    (Ent.final (tbPolicy ⟨4, 1, 4⟩) 10 ⟨4, none⟩ [.req 0 0, .req 1 1, .req 2 4, .poll 4, .poll 8]).fwd.reverse
      = [(0, 0), (1, 4), (2, 8)] ∧
    (Ent.final (tbPolicy ⟨4, 1, 4⟩) 10 ⟨4, none⟩ [.req 0 0, .req 1 1, .req 2 4, .poll 4, .poll 8]).queue = [] ∧
    (reqIds [.req 0 0, .req 1 1, .req 2 4, .poll 4, .poll 8]).Nodup := by decide +kernel

/-- **The drain never stalls**, for any policy that answers a refusal with a positive wait, any queue
    capacity and any schedule of deliveries: no poll event is scheduled in the past, a poll that forwards
    nothing is re-armed strictly later, at most one poll event is outstanding, and whatever is still
    queued at the end has a poll event coming for it. -/
theorem entity_drain_never_stalls {σ : Type} (P : Policy σ) (hP : RefusalWaits P) (qcap : Nat) (s0 : σ)
    (acts : List Act) :
    noStallOK (Ent.trace P qcap (Ent.init s0) acts) = true ∧
    singlePollOK none (Ent.trace P qcap (Ent.init s0) acts) = true ∧
    pollCoverOK (Ent.trace P qcap (Ent.init s0) acts) (Ent.final P qcap s0 acts).queue.length = true := by
  refine ⟨noStall_trace P hP qcap acts _, singlePoll_trace P qcap acts (Ent.init s0), ?_⟩
  have hc := run_covered P qcap acts (Ent.init s0) (by intro h; exact absurd rfl h)
  have ho := outstanding_trace P qcap acts (Ent.init s0)
  simp only [pollCoverOK, Bool.or_eq_true, beq_iff_eq]
  by_cases hq : (Ent.final P qcap s0 acts).queue = []
  · left; simp [hq]
  · right
    have : (Ent.init s0).poll = none := rfl
    rw [this] at ho
    rw [ho]; exact hc hq

/-- the token, leaky and adaptive buckets and the Inductor's gate all answer a refusal with a positive
    wait (the 1 ns progress guard) -/
theorem refusal_waits_policies :
    (∀ c, RefusalWaits (tbPolicy c)) ∧ (∀ c, RefusalWaits (lbPolicy c)) ∧ (∀ c, RefusalWaits (adPolicy c)) ∧
    RefusalWaits orcPolicy :=
  ⟨fun c => (tbNorm c).refusal_waits (tb_waitPos c), fun c => (lbNorm c).refusal_waits (lb_waitPos c),
   fun c => (adNorm c).refusal_waits (ad_waitPos c), orc_refusalWaits⟩

/-- **Inductor** (`Ent` over the oracle gate, any decisions `ds`, any truncated intervals `ws`): every
    event is forwarded, queued or dropped exactly once, forwarding follows arrival order, and its drain
    never stalls. -/
theorem inductor_exactly_once_fifo_drains (qcap : Nat) (o : Orc) (acts : List Act) :
    ((Ent.final orcPolicy qcap o acts).F ++ (Ent.final orcPolicy qcap o acts).queue ++
        (Ent.final orcPolicy qcap o acts).D).Perm (reqIds acts) ∧
    fifoOK (reqIds acts) (Ent.final orcPolicy qcap o acts).F = true ∧
    noStallOK (Ent.trace orcPolicy qcap (Ent.init o) acts) = true ∧
    pollCoverOK (Ent.trace orcPolicy qcap (Ent.init o) acts) (Ent.final orcPolicy qcap o acts).queue.length = true :=
  ⟨entity_exactly_once orcPolicy qcap o acts, (entity_fifo orcPolicy qcap o acts).2,
   (entity_drain_never_stalls orcPolicy orc_refusalWaits qcap o acts).1,
   (entity_drain_never_stalls orcPolicy orc_refusalWaits qcap o acts).2.2⟩

/-- the gate refuses three times (the third time at the poll at 1) and the smoothed interval has truncated to
    0 ns: the poll is re-armed 1 ns later, not at the same instant; event 1 leaves before event 2 -/
example :
    Ent.trace orcPolicy 10 (Ent.init ⟨[true, false, false, false, true, true], [0, 0, 5]⟩)
      [.req 0 0, .req 1 0, .req 2 0, .poll 1, .poll 2, .poll 7] =
    [⟨false, 0, true, none⟩, ⟨false, 0, false, some 1⟩, ⟨false, 0, false, none⟩,
     ⟨true, 1, false, some 2⟩, ⟨true, 2, true, some 7⟩, ⟨true, 7, true, none⟩] ∧
    (Ent.final orcPolicy 10 ⟨[true, false, false, false, true, true], [0, 0, 5]⟩
      [.req 0 0, .req 1 0, .req 2 0, .poll 1, .poll 2, .poll 7]).F = [0, 1, 2] := by decide +kernel
example : noStallOK [⟨true, 1, false, some 1⟩] = false ∧ noStallOK [⟨true, 1, true, some 1⟩] = true ∧
    pollCoverOK [⟨false, 0, false, some 1⟩, ⟨true, 1, false, none⟩] 1 = false := by decide +kernel

/-- **Capacity** (any policy — the five policies and the Inductor's gate —, any capacity incl. 0, any
    schedule): the queue depth never exceeds the configured capacity; a request is dropped exactly when
    it is refused while the queue is full (capacity 0: whenever it is refused), a refused request that
    finds room is queued, a poll drops nothing; and `dropped` counts exactly the drops. -/
theorem entity_capacity_respected {σ : Type} (P : Policy σ) (qcap : Nat) (s0 : σ) (acts : List Act) :
    capacityOK (some qcap) 0 (Ent.ctrace P qcap (Ent.init s0) acts) = true ∧
    (Ent.final P qcap s0 acts).queue.length ≤ qcap ∧
    (Ent.final P qcap s0 acts).dropped.length =
      ((Ent.ctrace P qcap (Ent.init s0) acts).filter (·.drop)).length := by
  obtain ⟨h1, h2⟩ := cap_trace P qcap acts (Ent.init s0) (Nat.zero_le _)
  refine ⟨h1, h2, ?_⟩
  have := dropped_trace P qcap acts (Ent.init s0)
  simpa [Ent.init, Ent.final] using this

/-- **Unbounded queue** (`capacity = inf`, i.e. any capacity the run cannot reach): nothing is ever
    dropped — the clause with no capacity (`none`) holds. -/
theorem entity_unbounded_never_drops {σ : Type} (P : Policy σ) (qcap : Nat) (s0 : σ) (acts : List Act)
    (h : acts.length ≤ qcap) :
    capacityOK none 0 (Ent.ctrace P qcap (Ent.init s0) acts) = true :=
  cap_trace_unbounded P qcap acts (Ent.init s0) (by simpa [Ent.init] using h)

/-- capacity 0, token bucket with one token: the second and third request are refused and dropped;
    what a limiter that buffers them anyway reports is rejected by the Spec -/
example : Ent.ctrace (tbPolicy ⟨4, 1, 4⟩) 0 (Ent.init ⟨4, none⟩) [.req 0 0, .req 1 0, .req 2 1] =
    [⟨true, true, false, 0⟩, ⟨true, false, true, 0⟩, ⟨true, false, true, 0⟩] := by decide +kernel
example : capacityOK (some 0) 0 [⟨true, true, false, 0⟩, ⟨true, false, false, 1⟩] = false ∧
    capacityOK (some 1) 0 [⟨true, true, false, 0⟩, ⟨true, false, false, 1⟩, ⟨true, false, true, 1⟩] = true ∧
    capacityOK (some 2) 0 [⟨true, true, false, 0⟩, ⟨true, false, false, 1⟩, ⟨true, false, true, 1⟩] = false ∧
    capacityOK none 0 [⟨true, true, false, 0⟩, ⟨true, false, false, 1⟩, ⟨true, false, true, 1⟩] = false := by decide +kernel

/-- **DistributedRateLimiter, exactly once**: any number of instances, any limit, any window-id
    function, **any interleaving** of the generators' segments: forwarded ⊎ in flight ⊎ dropped = received. -/
theorem drl_exactly_once (wid : Nat → Nat) (N n : Nat) (acts : List DAct) :
    ((DRL.run wid N (DRL.init n) acts).F ++ (DRL.run wid N (DRL.init n) acts).I ++
      (DRL.run wid N (DRL.init n) acts).dropped).Perm (dReqIds acts) := by
  have hi := DRL.run_inv wid N acts (DRL.init n) (by intro x; simp [DRL.init, DRL.F, DRL.I])
  have hr := DRL.run_recv wid N acts (DRL.init n)
  rw [List.perm_iff_count]
  intro x
  have := hi x
  rw [hr] at this
  simpa [DRL.init] using this

/-- with distinct request ids the executable Spec predicate holds of the model's logs -/
theorem drl_exactly_once_spec (wid : Nat → Nat) (N n : Nat) (acts : List DAct) (hd : (dReqIds acts).Nodup) :
    drlExactlyOnceOK (dReqIds acts) (DRL.run wid N (DRL.init n) acts).F (DRL.run wid N (DRL.init n) acts).dropped
      (DRL.run wid N (DRL.init n) acts).I = true := by
  have hp := drl_exactly_once wid N n acts
  generalize DRL.run wid N (DRL.init n) acts = s at *
  have hp2 : (s.F ++ s.dropped ++ s.I).Perm (dReqIds acts) := by
    refine List.Perm.trans ?_ hp
    rw [List.append_assoc, List.append_assoc]
    exact List.Perm.append_left _ List.perm_append_comm
  have hlen := hp2.length_eq
  simp only [drlExactlyOnceOK, Bool.and_eq_true, nodupB_iff, List.all_eq_true, List.contains_iff_mem,
    decide_eq_true_eq]
  refine ⟨⟨hp2.nodup_iff.mpr hd, fun x hx => hp2.mem_iff.mp hx⟩, ?_⟩
  simp only [List.length_append] at hlen; omega

/-- **Per-window limit without overlap** (any window-id function): when every request's
    read-modify-write cycle completes before the next request arrives, the shared counter of every window
    id equals the number of requests forwarded under it and never exceeds the global limit.  (With
    overlapping cycles the counter loses updates by design and the limit is not claimed.) -/
theorem drl_sequential_window_bound (wid : Nat → Nat) (N n : Nat) (rs : List (Nat × Nat × Nat × Nat × Nat))
    (w : Nat) :
    (DRL.serveAll wid N (DRL.init n) rs).fwdWin.count w = (DRL.serveAll wid N (DRL.init n) rs).count w ∧
    (DRL.serveAll wid N (DRL.init n) rs).fwdWin.count w ≤ N := by
  have h := DRL.serveAll_seq wid N rs (DRL.init n)
    ⟨rfl, fun w => by simp [DRL.init, DRL.count]⟩
  have := h.2 w
  omega

/-- **Repaired (`wid = t / W`, integer nanoseconds): at most `N` forwards per aligned window**
    `[k·W, (k+1)·W)` of arrival time, for every non-overlapping run — the fixed-window clause for the
    distributed limiter, as the executable Spec predicate `drlWindowOK`. -/
theorem drl_aligned_window_repaired (W N n : Nat) (rs : List (Nat × Nat × Nat × Nat × Nat)) :
    (∀ k, cntWin W k (DRL.serveAll (aligned W) N (DRL.init n) rs).fwdArr ≤ N) ∧
    drlWindowOK W N (DRL.serveAll (aligned W) N (DRL.init n) rs).fwdArr = true := by
  have hg := DRL.serveAll_ghost (aligned W) N rs (DRL.init n) ⟨rfl, by intro f hf; simp [DRL.init] at hf⟩
  have hb : ∀ k, cntWin W k (DRL.serveAll (aligned W) N (DRL.init n) rs).fwdArr ≤ N := by
    intro k
    rw [cntWin_eq_count, ← hg.1]
    exact (drl_sequential_window_bound (aligned W) N n rs k).2
  refine ⟨hb, ?_⟩
  simp only [drlWindowOK, List.all_eq_true, decide_eq_true_eq]
  exact fun t _ => hb _

/-- what `int(now.to_seconds() // 0.1)` answers at 0.3 s (IEEE doubles: `0.3 // 0.1 = 2.0`) -/
def drlFloatWitnessWid : Nat → Nat := widTable 100000000 [(300000000, 2)]

/-- **Current (float floor division): the aligned-window limit is false.**  Window 0.1 s, limit 1, one
    instance, store latencies 1 ms: the requests at 0.30 s and 0.35 s — both inside `[0.3 s, 0.4 s)`, not
    overlapping — are both forwarded, because 0.30 s is counted under window id 2. -/
theorem drl_aligned_window_current_false :
    drlWindowOK 100000000 1
      (DRL.serveAll drlFloatWitnessWid 1 (DRL.init 1)
        [(0, 0, 300000000, 301000000, 302000000), (0, 1, 350000000, 351000000, 352000000)]).fwdArr = false := by
  decide

/-- two instances, limit 1, window 10 ns: served one after the other the second request of window 0 is
    rejected (globally, by the other instance's counter) and the one in window 1 forwarded; interleaved
    (both read 0 before either writes) both are forwarded — the lost update -/
example :
    (DRL.serveAll (aligned 10) 1 (DRL.init 2) [(0, 0, 0, 1, 2), (1, 1, 3, 4, 5), (1, 2, 10, 11, 12)]).fwd.reverse =
      [(0, 0, 2), (1, 2, 12)] ∧
    (DRL.serveAll (aligned 10) 1 (DRL.init 2) [(0, 0, 0, 1, 2), (1, 1, 3, 4, 5), (1, 2, 10, 11, 12)]).dropped = [1] ∧
    (DRL.run (aligned 10) 1 (DRL.init 2)
      [.arr 0 0 0, .arr 1 1 0, .res 0 0 1, .res 1 1 1, .res 0 0 2, .res 1 1 2]).fwd.reverse =
      [(0, 0, 2), (1, 1, 2)] ∧
    (dReqIds [.arr 0 0 0, .arr 1 1 0, .res 0 0 1, .res 1 1 1, .res 0 0 2, .res 1 1 2]).Nodup := by decide +kernel
-- a burst sharing ONE timestamp, alternating between two instances, zero store latency, each request served
-- to completion before the next (`drl_sequential_window_bound` covers it: the times are arbitrary): limit 2,
-- the first two are forwarded, the others rejected — globally first, then locally once the instance knows
example :
    (DRL.serveAll (aligned 10) 2 (DRL.init 2)
      [(0, 0, 5, 5, 5), (1, 1, 5, 5, 5), (0, 2, 5, 5, 5), (1, 3, 5, 5, 5), (0, 4, 5, 5, 5)]).fwd.reverse =
      [(0, 0, 5), (1, 1, 5)] ∧
    (DRL.serveAll (aligned 10) 2 (DRL.init 2)
      [(0, 0, 5, 5, 5), (1, 1, 5, 5, 5), (0, 2, 5, 5, 5), (1, 3, 5, 5, 5), (0, 4, 5, 5, 5)]).dropped = [4, 3, 2] ∧
    (DRL.serveAll (aligned 10) 2 (DRL.init 2)
      [(0, 0, 5, 5, 5), (1, 1, 5, 5, 5), (0, 2, 5, 5, 5), (1, 3, 5, 5, 5), (0, 4, 5, 5, 5)]).count 0 = 2 := by decide +kernel
-- the same two requests under the repaired window id: the second one is rejected
example :
    (DRL.serveAll (aligned 100000000) 1 (DRL.init 1)
      [(0, 0, 300000000, 301000000, 302000000), (0, 1, 350000000, 351000000, 352000000)]).fwdArr = [300000000] := by
  decide +kernel

end HappyModel.C10
