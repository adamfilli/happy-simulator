import HappyProofs.C16.TRawSeq
/-!
C16 for `MultiTierCache`.  The theorems quantify over any number of tiers, any capacities ≥ 1, any policies
made by `Pol.ofName`, either write mode per tier, all three promotion policies, both variants where not stated
otherwise (the read-after-write theorems: the repaired variant over repaired write-through tiers), and every
interleaving of operation segments (`as : List MAct` is arbitrary, so every prefix — "after every step" — is
covered).
-/
namespace HappyModel.C16.Tier
open HappyModel.C16

/-- `multitier_size_le_capacity`: after every interleaving of multi-tier operation segments every
    tier holds at most its own capacity. -/
theorem multitier_size_le_capacity (cfg : MCfg) (hcap : ∀ c, c ∈ cfg.tiers → 1 ≤ c.cap) (pols : List Pol)
    (hp : ∀ p, p ∈ pols → ∃ name arg, Pol.ofName name arg = some p) (as : List MAct)
    (t : Nat) (c : Cfg) (s : St) (hc : cfg.tiers[t]? = some c)
    (hs : (mrun cfg (MSt.init pols) as).tiers[t]? = some s) : s.cache.length ≤ c.cap :=
  (mrun_inv cfg hcap _ as (minit_inv cfg.tiers pols hp) t c s hc hs).size

/-- `multitier_policy_keys_eq_cache_keys`: after every interleaving, in every tier the eviction policy
    tracks exactly the keys the tier holds, each once. -/
theorem multitier_policy_keys_eq_cache_keys (cfg : MCfg) (hcap : ∀ c, c ∈ cfg.tiers → 1 ≤ c.cap) (pols : List Pol)
    (hp : ∀ p, p ∈ pols → ∃ name arg, Pol.ofName name arg = some p) (as : List MAct)
    (t : Nat) (c : Cfg) (s : St) (hc : cfg.tiers[t]? = some c)
    (hs : (mrun cfg (MSt.init pols) as).tiers[t]? = some s) :
    (∀ x, x ∈ s.pol.tracked ↔ x ∈ akeys s.cache) ∧ (akeys s.cache).Nodup ∧ s.pol.tracked.Nodup :=
  have r := mrun_inv cfg hcap _ as (minit_inv cfg.tiers pols hp) t c s hc hs
  ⟨r.same, r.nodup, Pol.inv_tracked_nodup _ r.pinv⟩

/-- the two-tier set-up of the witnesses: L1 capacity 1 (LRU), L2 capacity 2 (LFU), write-through,
    the tiers are the repaired `CachedStore` -/
def wCfg (rep : Bool) : MCfg := ⟨[⟨1, true, true, []⟩, ⟨2, true, true, []⟩], .always, rep⟩
def wInit : MSt := MSt.init [.lru {}, .lfu {}]

/-- non-vacuity of the two theorems above: put a, put b (L1 evicts a), a direct read of a at L2, a get
    of a (L2 hit, promoted into L1 which evicts b): both tiers are in use, L1 is full -/
example :
    let ms := mrun (wCfg true) wInit [.start 0 (.put 0 7) 0, .resume 0 0, .resume 0 0, .start 1 (.put 1 8) 0,
      .resume 1 0, .resume 1 0, .start 2 (.tget 1 0) 0, .resume 2 0, .start 3 (.get 0) 0, .resume 3 0]
    ms.tiers.map (fun s => (akeys s.cache, s.pol.tracked)) = [([0], [0]), ([0], [0])] ∧
      ms.back = [(0, 7), (1, 8)] := by decide +kernel

def viewOf (s : St) : TView := ⟨sortKeys (akeys s.cache), sortKeys s.dirty, sortKeys s.pol.tracked⟩

/-- what the harness prints along a schedule -/
def mobsRun (cfg : MCfg) (ms : MSt) : List MAct → List MObs
  | [] => []
  | a :: as => ⟨a.opId, (mstep cfg ms a).1.tiers.map viewOf, (mstep cfg ms a).2⟩ :: mobsRun cfg (mstep cfg ms a).1 as

/-- `multitier_read_after_write` at the property's strength: for every interleaving the observed run
    of the repaired multi-tier cache passes the Spec's read clause.  Proved below
    (`multitier_read_after_write_all_interleavings`). -/
def multitier_read_after_write_full : Prop :=
  ∀ (cfg : MCfg), cfg.rep = true → SeqCfg cfg →
  ∀ (pols : List Pol), Named pols → pols.length = cfg.tiers.length →
  ∀ (ops : List (Nat × MOp)) (as : List MAct),
    (ops.map (·.1)).Nodup →
    (∀ i op now, MAct.start i op now ∈ as → (i, op) ∈ ops) →
    (as.filterMap fun a => match a with | .start i _ _ => some i | _ => none).Nodup →
    (ops.filterMap fun x => match x.2 with | .put _ v => some v | _ => none).Nodup →
    Tier.judgeReads ops (mobsRun cfg (MSt.init pols) as) = none

theorem mobsRun_toObs (cfg : MCfg) (ms : MSt) (as : List MAct) :
    (mobsRun cfg ms as).map MObs.toObs = mobsRunG cfg ms as := by
  induction as generalizing ms with
  | nil => rfl
  | cons a as ih =>
    simp only [mobsRun, mobsRunG, List.map_cons, MObs.toObs, ih]

/-- **`multitier_read_after_write` for all interleavings** (repaired `MultiTierCache` over repaired
    write-through tiers, any number of tiers, capacities ≥ 1, policies and promotion policy, every schedule
    of segments of get / put / delete / invalidate / invalidate_all and direct tier reads): the judge's
    read clause accepts the observed run.  Invariant (`MInv`, files `TRaw*.lean`): a `put` / `delete`
    reaches the backing store in its second segment and invalidates every tier right there, so every
    tier cache entry and the backing store hold the value of a write that no write *which has reached
    the backing store* entirely follows — in particular none that completed; a value read from a lower
    tier is promoted into L1 only if the key's epoch is unchanged and nothing is in flight, and then
    every started write had completed before the read was issued. -/
theorem multitier_read_after_write_all_interleavings : multitier_read_after_write_full := by
  intro cfg hrep hc pols _ hlen ops as hnd htab hst _
  exact mraw_judge cfg hrep hc pols hlen ops hnd as htab hst _ (mobsRun_toObs cfg _ as)

/-- non-vacuity: two tiers, a `get` that hits L2 and is in flight while a `put` of the same key runs
    all three of its segments, then a later `get`: the repaired hierarchy does not promote the old value
    (epoch changed) and the later `get` returns the new one; the `Nodup` hypotheses of the theorem
    hold of the table and schedule -/
example :
    let ops : List (Nat × MOp) := [(0, .put 0 1), (1, .inv 0), (2, .tget 1 0), (3, .get 0), (4, .put 0 2), (5, .get 0)]
    let as : List MAct := [.start 0 (.put 0 1) 0, .resume 0 0, .resume 0 0, .start 1 (.inv 0) 0,
      .start 2 (.tget 1 0) 0, .resume 2 0, .start 3 (.get 0) 0, .start 4 (.put 0 2) 0, .resume 4 0, .resume 4 0,
      .resume 3 0, .start 5 (.get 0) 0, .resume 5 0]
    (ops.map (·.1)).Nodup ∧
    (as.filterMap fun a => match a with | .start i _ _ => some i | _ => none).Nodup ∧
    (ops.filterMap fun x => match x.2 with | .put _ v => some v | _ => none).Nodup ∧
    Tier.judgeReads ops (mobsRun (wCfg true) wInit as) = none ∧
    (mobsRun (wCfg true) wInit as).map (·.res) =
      [none, none, some .none, some .none, none, some (.val 1), none, none, none, some .none,
       some (.val 1), none, some (.val 2)] ∧
    Tier.judgeReads ops (mobsRun (wCfg false) wInit as) = some "multitier/read-after-write/stale/after-put" := by
  decide +kernel

/-- `multitier_read_after_write_sequential` (repaired variant, write-through tiers): when operations
    do not overlap (each runs all its segments before the next starts — `mexec`), the hierarchy is a
    map: every `get` through the multi-tier cache returns the value of the latest `put` of its key,
    nothing after a `delete` or before any `put` (`MSeqOk`), for any number of tiers, capacities ≥ 1,
    policies, promotion policy, and whatever direct tier reads, evictions, promotions and
    invalidations happen in between. -/
theorem multitier_read_after_write_sequential (cfg : MCfg) (hrep : cfg.rep = true) (hc : SeqCfg cfg)
    (pols : List Pol) (hp : ∀ p, p ∈ pols → ∃ name arg, Pol.ofName name arg = some p)
    (hlen : pols.length = cfg.tiers.length) (ops : List (MOp × Nat)) :
    MSeqOk cfg (MSt.init pols) [] 0 ops :=
  mseqOk_init cfg hrep hc pols hlen ops

/-- non-vacuity: put a=7, put b=8 (L1 evicts a), direct read of a at L2, get a (L2 hit, 7, promoted),
    delete a, get a (nothing), get b (refetched from the backing store: 8) -/
example :
    let cfg := wCfg true
    let s1 := (mexec cfg wInit 0 (.put 0 7) 0).1
    let s2 := (mexec cfg s1 1 (.put 1 8) 0).1
    let s3 := (mexec cfg s2 2 (.tget 1 0) 0).1
    let s4 := mexec cfg s3 3 (.get 0) 0
    let s5 := (mexec cfg s4.1 4 (.del 0) 0).1
    let s6 := mexec cfg s5 5 (.get 0) 0
    s4.2 = some (.val 7) ∧ s6.2 = some .none ∧ (mexec cfg s6.1 6 (.get 1) 0).2 = some (.val 8) := by
  decide +kernel

/-- … on a configuration that satisfies the theorem's hypotheses -/
example : SeqCfg (wCfg true) ∧ (wCfg true).rep = true := by
  refine ⟨?_, rfl⟩
  intro c hc
  simp only [wCfg, List.mem_cons, List.not_mem_nil, or_false] at hc
  rcases hc with rfl | rfl <;> exact ⟨rfl, rfl, by decide⟩

/-- the schedule of corpus/C16/multitier-stale-promotion.json: put(a,1) completes; invalidate(a); a
    direct read re-fills L2 with 1; put(a,2) starts; get(a) hits L2 and waits for the tier's read
    latency; the put's backing write lands, the tiers are invalidated, `L1.put(a,2)` starts; the get
    resumes (and promotes); the put completes; a later get(a). -/
def staleOps : List (Nat × MOp) :=
  [(0, .put 0 1), (1, .inv 0), (2, .tget 1 0), (3, .put 0 2), (4, .get 0), (5, .get 0)]
def staleSched : List MAct :=
  [.start 0 (.put 0 1) 0, .resume 0 0, .resume 0 0, .start 1 (.inv 0) 0, .start 2 (.tget 1 0) 0, .resume 2 0,
   .start 3 (.put 0 2) 0, .start 4 (.get 0) 0, .resume 3 0, .resume 4 0, .resume 3 0, .start 5 (.get 0) 0, .resume 5 0]

/-- `multitier_stale_promotion_current`: on the current code the promotion of the value read from L2
    overwrites the newer value in L1 — the get issued after put(a,2) completed returns 1, and the Spec's
    read clause judges the observed run stale; the repaired code returns 2 and passes. -/
theorem multitier_stale_promotion_current :
    ((mobsRun (wCfg false) wInit staleSched).getLast?.map (·.res)) = some (some (.val 1)) ∧
    Tier.judgeReads staleOps (mobsRun (wCfg false) wInit staleSched)
      = some "multitier/read-after-write/stale/after-put" ∧
    ((mobsRun (wCfg true) wInit staleSched).getLast?.map (·.res)) = some (some (.val 2)) ∧
    Tier.judgeReads staleOps (mobsRun (wCfg true) wInit staleSched) = none := by decide +kernel

end HappyModel.C16.Tier
