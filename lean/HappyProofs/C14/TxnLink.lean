import HappyProofs.C14.TxnLinkOrder
/-!
# Transactions, link machine → judge: `MachFacts` gives `TxnFacts`

`txnFacts_of_mach`: what the machine guarantees about the final frames and the timed ghost log of a run
(`MachFacts`, `TxnObs.lean`) implies what the judge needs about the observation `tobsOf ops fs` and the
commit history `histOf tlog` (`TxnFacts`).  Besides `MachFacts` the theorem uses `EB fs` (`Frames.lean`):
a frame with a last segment has a first segment.
-/
namespace HappyModel.C14.SM
open HappyModel.C14 HappyModel.C14.BT HappyModel.C14.TxSpec

section
variable {ok : Store → Prop} {ops : List (Nat × TOp)} {tm0 tm : TM} {fs : List (Frame TPc)} {tlog : List (Nat × Ev)}

theorem beginOp_some {o : TOp} {sl : Nat × ILevel} :
    beginOp o = some sl ↔ ∃ l, o = .begin sl.1 l ∧ sl.2 = lvlOf l := by
  obtain ⟨s, l⟩ := sl
  cases o <;> simp [beginOp, eq_comm, and_assoc]

theorem beginF_some {o : Nat × TOp} {sl : Nat × ILevel} (h : beginF fs o = some sl) :
    ∃ l b e r, o.2 = .begin sl.1 l ∧ sl.2 = lvlOf l ∧ frameRes fs o.1 = some (b, e, r) := by
  obtain ⟨⟨b, e, r⟩, hx, h⟩ := Option.bind_eq_some_iff.1 h
  obtain ⟨l, h1, h2⟩ := beginOp_some.1 h
  exact ⟨l, b, e, r, h1, h2, hx⟩

theorem commitOp_some {s : Nat} {o : TOp} {x : Nat × Nat × SRes} {v : Nat × Bool} :
    commitOp s o x = some v ↔ o = .commit s ∧ v = (x.1, resFlag x.2.2) := by
  cases o <;> simp [commitOp, eq_comm]

theorem commitF_some {s : Nat} {o : Nat × TOp} {v : Nat × Bool} (h : commitF fs s o = some v) :
    ∃ e r, o.2 = .commit s ∧ frameRes fs o.1 = some (v.1, e, r) ∧ v.2 = resFlag r := by
  obtain ⟨⟨b, e, r⟩, hx, h⟩ := Option.bind_eq_some_iff.1 h
  obtain ⟨h1, rfl⟩ := commitOp_some.1 h
  exact ⟨e, r, h1, hx, rfl⟩

theorem committed_commit {t : TObs} (h : t.committed = true) : t.commit = some (t.commitPos, true) := by
  unfold TObs.committed at h
  unfold TObs.commitPos
  split at h
  · next b hb => simp [hb]
  · cases h

theorem commit_found (hwf : WFProg ops) {s : Nat} {o : Nat × TOp} (ho : o ∈ ops) (ho2 : o.2 = .commit s)
    {n e : Nat} {r : SRes} (hres : frameRes fs o.1 = some (n, e, r)) :
    ops.findSome? (commitF fs s) = some (n, resFlag r) := by
  have hc : commitF fs s o = some (n, resFlag r) := by simp [commitF, hres, ho2, commitOp]
  cases hfs : ops.findSome? (commitF fs s) with
  | none =>
    rw [List.findSome?_eq_none_iff] at hfs
    rw [hfs o ho] at hc
    cases hc
  | some v =>
    obtain ⟨o', ho', hv⟩ := List.exists_of_findSome?_eq_some hfs
    obtain ⟨e', r', ho2', _, _⟩ := commitF_some hv
    have : o' = o := end_unique hwf ho' ho (by rw [ho2, ho2']) (by rw [ho2']; rfl) (by rw [ho2]; rfl)
    subst this
    rw [hc] at hv
    exact hv.symm ▸ rfl

theorem obs_wset (hwf : WFProg ops) (hm : MachFacts ok ops tm0 tm fs tlog) (heb : EB fs) (sl : Nat × ILevel)
    {pre post : List (Nat × TOp)} {o : Nat × TOp} (hops : ops = pre ++ o :: post) (ho2 : o.2 = .commit sl.1)
    {n e : Nat} {r : SRes} (hres : frameRes fs o.1 = some (n, e, r)) :
    (obsOf ops fs sl).wset = wsetBefore ops o.1 sl.1 := by
  have hs : o.2.slot = sl.1 := by rw [ho2]; rfl
  have h1 := wsetC_at_end (fs := fs) hwf hops (by rw [ho2]; rfl)
  have h2 := wsetC_eq_before hwf hm heb hops hres
  rw [hs] at h1 h2
  rw [(obs_walk hwf hm heb sl).2.1, h1, h2]

theorem obs_commit (hwf : WFProg ops) (hm : MachFacts ok ops tm0 tm fs tlog) (heb : EB fs) (sl : Nat × ILevel)
    (hc : (obsOf ops fs sl).committed = true) :
    ∃ pre o post e r, ops = pre ++ o :: post ∧ o.2 = .commit sl.1 ∧
      frameRes fs o.1 = some ((obsOf ops fs sl).commitPos, e, r) ∧
      ((obsOf ops fs sl).commitPos, Ev.committed sl.1 ((obsOf ops fs sl).wset)) ∈ tlog := by
  have h := committed_commit hc
  have h' : ops.findSome? (commitF fs sl.1) = some ((obsOf ops fs sl).commitPos, true) := h
  obtain ⟨o, ho, hv⟩ := List.exists_of_findSome?_eq_some h'
  obtain ⟨e, r, ho2, hres, hfl⟩ := commitF_some hv
  simp only at hres hfl
  obtain ⟨pre, post, hops⟩ := List.append_of_mem ho
  obtain ⟨f, hf, hid, hb, _, hp, hlk, _⟩ := res_frame hwf hm ho hres
  rw [ho2] at hlk
  obtain ⟨fl, hr, hev⟩ := hm.commit_res f hf sl.1 _ r hlk hb hp
  subst hr
  simp only [resFlag] at hfl
  have := hev hfl.symm
  rw [hid, ← obs_wset hwf hm heb sl hops ho2 hres] at this
  exact ⟨pre, o, post, e, _, hops, ho2, hres, this⟩

theorem slot_begin (hwf : WFProg ops) (hm : MachFacts ok ops tm0 tm fs tlog) {sl : Nat × ILevel}
    (hsl : sl ∈ ops.filterMap (beginF fs)) :
    ∃ ob ∈ ops, ∃ l nb eb rb tx, ob.2 = .begin sl.1 l ∧ sl.2 = lvlOf l ∧ frameRes fs ob.1 = some (nb, eb, rb) ∧
      nb ≤ eb ∧ (nb, Ev.began sl.1) ∈ tlog ∧ tm.tx? sl.1 = some tx ∧ tx.level = l := by
  obtain ⟨ob, hob, hbf⟩ := List.mem_filterMap.mp hsl
  obtain ⟨l, nb, eb, rb, h2, hl, hres⟩ := beginF_some hbf
  obtain ⟨f, hf, _, hb, _, _, hlk, hle⟩ := res_frame hwf hm hob hres
  rw [h2] at hlk
  obtain ⟨hev, tx, htx, hlv⟩ := hm.begin_ev f hf sl.1 l nb hlk hb
  exact ⟨ob, hob, l, nb, eb, rb, tx, h2, hl, hres, hle, hev, htx, hlv⟩

theorem after_begin (hwf : WFProg ops) (hm : MachFacts ok ops tm0 tm fs tlog) (heb : EB fs) {s : Nat}
    {ob : Nat × TOp} (hob : ob ∈ ops) {l : Level} (hob2 : ob.2 = .begin s l) {nb eb : Nat} {rb : SRes}
    (hbres : frameRes fs ob.1 = some (nb, eb, rb)) {o : Nat × TOp} (ho : o ∈ ops) (hs : o.2.slot = s)
    (hnb : o.2.isBegin = false) {b e : Nat} {r : SRes} (hres : frameRes fs o.1 = some (b, e, r)) : eb < b := by
  obtain ⟨pre, post, hops⟩ := List.append_of_mem ho
  obtain ⟨a, ha, l', ha2⟩ := begin_before (hops ▸ hwf) hnb
  have haops : a ∈ ops := by rw [hops]; simp [ha]
  have hsa : a.2.slot = o.2.slot := by rw [ha2]; rfl
  have : a = ob := begin_unique hwf haops hob (by rw [hsa, hs, hob2]; rfl) (by rw [ha2]; rfl) (by rw [hob2]; rfl)
  subst this
  obtain ⟨b', e', r', hres', _, hlt⟩ := before_done hwf hm heb hops hres ha hsa
  rw [hbres] at hres'
  simp only [Option.some.injEq, Prod.mk.injEq] at hres'
  omega

end

theorem txnFacts_of_mach (ok : Store → Prop) (ops : List (Nat × TOp)) (tm0 tm : TM) (fs : List (Frame TPc))
    (tlog : List (Nat × Ev)) (hwf : WFProg ops) (hm : MachFacts ok ops tm0 tm fs tlog) (heb : EB fs) :
    TxnFacts tm0.store.getSync tm.store.getSync (tobsOf ops fs) (histOf tlog) := by
  rw [tobsOf_eq]
  refine
    { slots := ?_, sorted := histOf_sorted hm.times, own := ?_, comm_hist := ?_, hist_comm := ?_, final := ?_, ser := ?_,
      si := ?_ }
  · rw [List.map_map, List.Nodup, List.pairwise_map]
    refine List.Pairwise.filterMap _ ?_ hwf.order
    intro a a' hord sl hsl sl' hsl' e
    obtain ⟨l, _, _, _, h2, _⟩ := beginF_some hsl
    obtain ⟨l', _, _, _, h2', _⟩ := beginF_some hsl'
    have e' : sl.1 = sl'.1 := e
    have := (hord (by rw [h2, h2', e']; rfl)).1
    rw [h2'] at this
    cases this
  · intro t ht
    obtain ⟨sl, _, rfl⟩ := List.mem_map.1 ht
    exact (obs_walk hwf hm heb sl).1
  · intro t ht hc
    obtain ⟨sl, _, rfl⟩ := List.mem_map.1 ht
    obtain ⟨_, _, _, _, _, _, _, _, hev⟩ := obs_commit hwf hm heb sl hc
    exact mem_histOf.mpr hev
  · -- the `begin` of the slot stands before the `commit` in the program, so it completed before the commit started:
    -- the slot is among the observed ones, and its observation has this commit
    intro c hc
    obtain ⟨f, hf, hlk, hb, hp, hw⟩ := hm.commit_ev c.1 c.2.1 c.2.2 (mem_histOf.mp hc)
    have ho : (f.id, TOp.commit c.2.1) ∈ ops := mem_of_lookup hlk
    obtain ⟨e, r, hres, hp', _⟩ := started_res hwf hm hf hb
    rw [hp] at hp'
    cases hp'
    obtain ⟨pre, post, hops⟩ := List.append_of_mem ho
    obtain ⟨a, ha, l, ha2⟩ := begin_before (o := (f.id, TOp.commit c.2.1)) (hops ▸ hwf) rfl
    simp only [TOp.slot] at ha2
    obtain ⟨b', e', r', hres', _⟩ := before_done (o := (f.id, TOp.commit c.2.1)) hwf hm heb hops hres ha
      (by rw [ha2]; rfl)
    have hbf : beginF fs a = some (c.2.1, lvlOf l) := by simp [beginF, hres', ha2, beginOp]
    have hsl : (c.2.1, lvlOf l) ∈ ops.filterMap (beginF fs) :=
      List.mem_filterMap.mpr ⟨a, by rw [hops]; simp [ha], hbf⟩
    have hcm : (obsOf ops fs (c.2.1, lvlOf l)).commit = some (c.1, true) :=
      commit_found (o := (f.id, TOp.commit c.2.1)) hwf ho rfl hres
    refine ⟨_, List.mem_map_of_mem hsl, ?_, ?_, rfl, ?_⟩
    · simp [TObs.committed, hcm]
    · simp [TObs.commitPos, hcm]
    · rw [hw]
      exact obs_wset (o := (f.id, TOp.commit c.2.1)) hwf hm heb (c.2.1, lvlOf l) hops rfl hres
  · intro k
    rw [hm.inv.store_eq k, replay_eq_stateEnd]
  · intro t ht hc hlv r hr
    obtain ⟨sl, hsl, rfl⟩ := List.mem_map.1 ht
    obtain ⟨ob, hob, l, nb, eb, rb, tx, hob2, hl, hbres, _, _, htx, htl⟩ := slot_begin hwf hm hsl
    have hser : tx.level = .ser := by
      rw [htl]
      exact lvlOf_inj (l' := .ser) (hl ▸ hlv)
    obtain ⟨pre, o, post, e, rc, hops, ho2, hres, hev⟩ := obs_commit hwf hm heb sl hc
    obtain ⟨ro, hro, b, n, r', hro2, hrres, hbn, hne, hfev⟩ := (obs_walk hwf hm heb sl).2.2 r hr
    have hrpre : ro ∈ pre := before_end (hops ▸ hwf) (hops ▸ hro) (by rw [hro2, ho2]; rfl) (by rw [ho2]; rfl)
      (by rw [hro2]; rfl)
    obtain ⟨b', e', r'', hres', _, hlt⟩ := before_done hwf hm heb hops hres hrpre (by rw [hro2, ho2]; rfl)
    rw [hrres] at hres'
    simp only [Option.some.injEq, Prod.mk.injEq] at hres'
    obtain ⟨tpre, tpost, htlog, hpre, hpost⟩ := split_time hm.times hev
    -- the read ended before the commit call began, so its `fetched` event lies before the `committed` event, where
    -- `Inv.comm` speaks
    have hfpre : (n, Ev.fetched sl.1 r.1 r.2.1) ∈ tpre :=
      (mem_side (c := (_, _)) hpre hpost (htlog ▸ hfev)).1 (by show n < (obsOf ops fs sl).commitPos; omega)
    have hval := hm.inv.comm (tpre.map (·.2)) (tpost.map (·.2)) sl.1 (obsOf ops fs sl).wset (by rw [htlog]; simp)
      tx htx hser r.1 r.2.1
      (List.mem_map.mpr ⟨_, hfpre, rfl⟩)
    rw [hval, htlog]
    exact congrFun (stateAt_entry _ hpre hpost).symm r.1
  · intro t ht hlv
    obtain ⟨sl, hsl, rfl⟩ := List.mem_map.1 ht
    obtain ⟨ob, hob, l, nb, eb, rb, tx, hob2, hl, hbres, hnbe, hbev, htx, htl⟩ := slot_begin hwf hm hsl
    have hl' : lvlOf l = .si := by rw [← hl]; exact hlv
    have hsi : tx.level ≠ .rc := by
      rw [htl, lvlOf_inj (l' := .si) hl']
      simp
    -- every external read started after the `begin` ended, so its `fetched` event lies after the `began` event, where
    -- `Inv2.began` and `Inv2.reads` speak
    have hext : ∀ r ∈ (obsOf ops fs sl).ext, ∃ n, nb < n ∧ n ≤ r.2.2 ∧ (n, Ev.fetched sl.1 r.1 r.2.1) ∈ tlog := by
      intro r hr
      obtain ⟨ro, hro, b, n, r', hro2, hrres, hbn, hne, hfev⟩ := (obs_walk hwf hm heb sl).2.2 r hr
      have := after_begin hwf hm heb hob hob2 hbres hro (by rw [hro2]; rfl) (by rw [hro2]; rfl) hrres
      exact ⟨n, by omega, hne, hfev⟩
    refine ⟨nb, ?_, ?_, ?_⟩
    · intro r hr
      obtain ⟨n, h1, h2, _⟩ := hext r hr
      omega
    · intro c hc hcs
      obtain ⟨f, hf, hlk, hb, hp, hw⟩ := hm.commit_ev c.1 c.2.1 c.2.2 (mem_histOf.mp hc)
      have ho : (f.id, TOp.commit c.2.1) ∈ ops := mem_of_lookup hlk
      obtain ⟨e, r, hres, _, _⟩ := started_res hwf hm hf hb
      have := after_begin (o := (f.id, TOp.commit c.2.1)) hwf hm heb hob hob2 hbres ho hcs rfl hres
      omega
    · intro r hr
      obtain ⟨n, h1, _, hfev⟩ := hext r hr
      obtain ⟨tpre, tpost, htlog, hpre, hpost⟩ := split_time hm.times hbev
      have hfpost : (n, Ev.fetched sl.1 r.1 r.2.1) ∈ tpost :=
        (mem_side (c := (_, _)) hpre hpost (htlog ▸ hfev)).2 h1
      obtain ⟨mid, post', hmid⟩ := List.append_of_mem hfpost
      have hevs : tlog.map (·.2) = tpre.map (·.2) ++ Ev.began sl.1 :: mid.map (·.2) ++
          Ev.fetched sl.1 r.1 r.2.1 :: post'.map (·.2) := by
        rw [htlog, hmid]; simp
      have hb := hm.inv2.began (tpre.map (·.2)) (mid.map (·.2) ++ Ev.fetched sl.1 r.1 r.2.1 :: post'.map (·.2)) sl.1
        (by rw [hevs]; simp) tx htx
      have hrd := hm.inv2.reads (tpre.map (·.2) ++ Ev.began sl.1 :: mid.map (·.2)) (post'.map (·.2)) sl.1 r.1 r.2.1
        hevs tx htx hsi
      rw [hrd, hb, replayN_prefix, htlog]
      exact congrFun (stateAt_entry _ hpre hpost).symm r.1

theorem eb_of_run (ops : List (Nat × TOp)) (tm0 : TM) (n : Nat) (sched : List Nat) :
    EB (runFrames stepT TPc.isDone tm0 (framesOfT ops) n sched).2 := by
  apply runFrames_eb stepT TPc.isDone sched tm0 (framesOfT ops) n
  intro f hf e he
  obtain ⟨o, _, rfl⟩ := List.mem_map.mp hf
  cases he

theorem txnFacts_of_run (ok : Store → Prop) (ops : List (Nat × TOp)) (tm0 tm : TM) (sched : List Nat)
    (tlog : List (Nat × Ev)) (hwf : WFProg ops)
    (hm : MachFacts ok ops tm0 tm (runFrames stepT TPc.isDone tm0 (framesOfT ops) 0 sched).2 tlog) :
    TxnFacts tm0.store.getSync tm.store.getSync
      (tobsOf ops (runFrames stepT TPc.isDone tm0 (framesOfT ops) 0 sched).2) (histOf tlog) :=
  txnFacts_of_mach ok ops tm0 tm _ tlog hwf hm (eb_of_run ops tm0 0 sched)

/-! A concrete run-shaped instance.
Slot 0 (SERIALIZABLE) reads key 5 from the store, writes it, reads its own write and commits; slot 1
(SNAPSHOT_ISOLATION) reads key 5 in between; the last operation never started.  The observation has both
transactions, the committed one with an external read, an own read and the write set of the commit
event; program and frames satisfy the decidable hypotheses.  (`Inv`/`Inv2` are not decidable: the instance of
`MachFacts` as a whole is the example at the end of `TxnMach.lean`, from `machFacts_run`.) -/

def lkOps : List (Nat × TOp) :=
  [(0, .begin 0 .ser), (1, .begin 1 .si), (2, .read 0 5), (3, .write 0 5 7), (4, .read 0 5), (5, .read 1 5),
   (6, .commit 0), (7, .read 1 6)]

def lkFs : List (Frame TPc) :=
  [{ id := 0, pc := .done (.num 1), b := some 0, e := some 1 },
   { id := 1, pc := .done (.num 2), b := some 2, e := some 3 },
   { id := 2, pc := .done (.val (some 50)), b := some 4, e := some 6 },
   { id := 3, pc := .done .ok, b := some 7, e := some 8 },
   { id := 4, pc := .done (.val (some 7)), b := some 9, e := some 9 },
   { id := 5, pc := .done (.val (some 50)), b := some 10, e := some 12 },
   { id := 6, pc := .done (.flag true), b := some 13, e := some 14 },
   { id := 7, pc := .start (.read 1 6) }]

def lkTlog : List (Nat × Ev) :=
  [(0, .began 0), (2, .began 1), (5, .fetched 0 5 (some 50)), (11, .fetched 1 5 (some 50)), (13, .committed 0 [(5, 7)])]

example : WFProg lkOps := by decide +kernel

example : EB lkFs := by
  intro f hf e he
  simp only [lkFs, List.mem_cons, List.not_mem_nil, or_false] at hf
  rcases hf with rfl | rfl | rfl | rfl | rfl | rfl | rfl | rfl <;> simp_all

example : lkFs.map (·.id) = lkOps.map (·.1) ∧ (lkTlog.map (·.1)).Pairwise (· < ·) := by decide +kernel

example : (tobsOf lkOps lkFs).map (fun t => (t.slot, t.level, t.committed, t.commitPos)) =
    [(0, .ser, true, 13), (1, .si, false, 0)] := by decide +kernel

example : (tobsOf lkOps lkFs).map (fun t => (t.ext, t.ownBad, t.wset)) =
    [([(5, some 50, 6)], false, [(5, 7)]), ([(5, some 50, 12)], false, [])] := by decide +kernel

example : histOf lkTlog = [(13, 0, [(5, 7)])] ∧ wsetBefore lkOps 6 0 = [(5, 7)] ∧ wsetBefore lkOps 2 0 = [] := by decide +kernel

end HappyModel.C14.SM
