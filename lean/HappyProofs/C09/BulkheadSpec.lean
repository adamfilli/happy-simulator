import HappyProofs.C09.BulkheadStep
/-!
`Bulkhead.judge` (`HappyModel/C09/Bulkhead.lean`) is the predicate that judges implementation transcripts.
Here: it returns `none` on the model's own transcript (`Bulkhead.obsTrace`, `BulkheadDriver.lean`), for all
parameters and every schedule the driver accepts whose request tags are pairwise distinct.
-/
namespace HappyModel.C09.Bulkhead
open HappyModel.C09.Extra (BPend)

theorem dstep_op (wait : Nat) (s : St) (p : BPend) (c : Cmd) :
    (dstep wait s p c).1.1 = match opOf s p c with | some op => (step s op).1 | none => s := by
  cases c with
  | req t rid => simp only [dstep, reqStep, opOf]; split <;> rfl
  | start t rid => simp only [dstep, opOf]; split <;> rfl
  | done t rid => simp only [dstep, opOf]; split <;> rfl
  | resp t rid =>
    simp only [dstep, respStep, opOf]
    split
    · split <;> rfl
    · rfl
  | tmo t rid =>
    simp only [dstep, tmoStep, opOf]
    split
    · rename_i e he; rw [he]; rfl
    · rename_i he; rw [he]; rfl
  | fin t => rfl

theorem dstep_inv (wait : Nat) (s : St) (p : BPend) (c : Cmd) (inv : Inv s) : Inv (dstep wait s p c).1.1 := by
  rw [dstep_op]
  cases opOf s p c with
  | none => exact inv
  | some op => exact step_inv s op inv

theorem dstep_params (wait : Nat) (s : St) (p : BPend) (c : Cmd) :
    (dstep wait s p c).1.1.max = s.max ∧ (dstep wait s p c).1.1.maxQ = s.maxQ ∧ (dstep wait s p c).1.1.wait = s.wait := by
  rw [dstep_op]
  cases opOf s p c with
  | none => exact ⟨rfl, rfl, rfl⟩
  | some op => exact step_params s op

theorem step_ok (max maxQ wait : Nat) (b : Book) (s : St) (p : BPend) (seen : List Nat) (c : Cmd)
    (hm : s.max = max) (hq : s.maxQ = maxQ) (hw : s.wait = wait) (inv : Inv s)
    (ag : Agree b s p) (tg : Tags b s p seen) (pk : Peaks b s) (hexp : expected s p c = true)
    (hfresh : ∀ x ∈ reqTags [c], x ∉ seen) : StepOK max maxQ wait b s p seen c := by
  cases c with
  | req t rid => exact req_ok max maxQ wait b s p seen t rid hm hq hw inv ag tg pk (hfresh rid (by simp [reqTags]))
  | start t rid => exact start_ok max maxQ wait b s p seen t rid ag tg pk hexp
  | done t rid => exact done_ok max maxQ wait b s p seen t rid ag tg pk hexp
  | resp t rid => exact resp_ok max maxQ wait b s p seen t rid hw inv ag tg pk hexp
  | tmo t rid => exact tmo_ok max maxQ wait b s p seen t rid hw ag tg pk hexp
  | fin t => exact fin_ok max maxQ wait b s p seen t hw ag tg pk hexp

theorem Agree.peaks {b : Book} {s : St} {p : BPend} (ag : Agree b s p) : Agree b.peaks s p :=
  { ag with }

theorem Tags.peaks {b : Book} {s : St} {p : BPend} {seen : List Nat} (tg : Tags b s p seen) : Tags b.peaks s p seen :=
  { tg with }

/-- the judge's running maxima are the model's `peak_concurrent` / `peak_queue_depth` -/
theorem peaks_ok {b b' : Book} {s s' : St} {p' : BPend} (pk : Peaks b s) (ag : Agree b' s' p')
    (hA : b'.peakA = b.peakA) (hQ : b'.peakQ = b.peakQ) (ev : PeakEv s s') : Peaks b'.peaks s' := by
  have h1 : b'.peaks.peakA = s'.peakConc := by
    show (if b'.peakA < b'.active then b'.active else b'.peakA) = s'.peakConc
    rw [hA, pk.peakA, ag.bactive, ev.evA]
  have h2 : b'.peaks.peakQ = s'.peakQueue := by
    show (if b'.peakQ < b'.waiting.length then b'.waiting.length else b'.peakQ) = s'.peakQueue
    rw [hQ, pk.peakQ, ag.waiting, List.length_map, ev.evQ]
  refine ⟨h1, h2, ?_, ?_⟩
  · rw [ev.evA]; split <;> omega
  · rw [ev.evQ]; split <;> omega

/-- the counters printed from the model state pass every comparison with the books: once the books are rewritten
    into the model's counters, each comparison is `x ≠ x` or one field of `Inv` -/
theorem check_ok (max maxQ : Nat) (b : Book) (s : St) (p : BPend) (o : Obs) (hm : s.max = max) (hq : s.maxQ = maxQ)
    (inv : Inv s) (ag : Agree b s p) (pk : Peaks b s) : b.check max maxQ (cnt s o) = none := by
  have hb := inv.bound
  have hreqs := inv.reqs
  have hwl : b.waiting.length = s.queue.length := by rw [ag.waiting, List.length_map]
  have hhead : ¬ (b.waiting ≠ [] ∧ s.active < s.max) := fun h => by
    have := inv.head (fun h0 => h.1 (by rw [ag.waiting, h0]; rfl))
    omega
  have c3 : ¬ s.max < s.max - s.active := by omega
  have c4 : s.active + (s.max - s.active) = s.max := by omega
  subst hm hq
  simp only [Book.check, cnt, permits, ag.bactive, hwl, ag.nReq, ag.nAdm, ag.nRej, ag.nTimed, ag.nQueued, pk.peakA,
    pk.peakQ, ne_eq, not_true_eq_false, if_false, or_self, Nat.not_lt.mpr hb, Nat.not_lt.mpr inv.qbound, c3, c4, hhead,
    ← hreqs]

theorem reqTags_cons (c : Cmd) (cs : List Cmd) : reqTags (c :: cs) = reqTags [c] ++ reqTags cs := by
  cases c <;> rfl

theorem judge_model (max maxQ wait : Nat) (cs : List Cmd) :
    ∀ (s : St) (p : BPend) (b : Book) (seen : List Nat), s.max = max → s.maxQ = maxQ → s.wait = wait → Inv s →
      Agree b s p → Tags b s p seen → Peaks b s → accepted wait s p cs = true → (reqTags cs).Nodup →
      (∀ x ∈ reqTags cs, x ∉ seen) → judge max maxQ wait b (obsTrace wait s p cs) = none := by
  induction cs with
  | nil => intros; rfl
  | cons c cs ih =>
    intro s p b seen hm hq hw inv ag tg pk hacc hnd hfresh
    simp only [accepted, Bool.and_eq_true] at hacc
    rw [reqTags_cons, List.nodup_append] at hnd
    rw [reqTags_cons] at hfresh
    obtain ⟨b', hap, ⟨o0, ho⟩, ag', tg', hA, hQ, ev⟩ :=
      step_ok max maxQ wait b s p seen c hm hq hw inv ag tg pk hacc.1 (fun x hx => hfresh x (List.mem_append_left _ hx))
    have inv' := dstep_inv wait s p c inv
    have hpar := dstep_params wait s p c
    have pk' := peaks_ok pk ag' hA hQ ev
    have hchk : b'.peaks.check max maxQ (obsOf wait s p c) = none := by
      rw [ho]
      exact check_ok max maxQ _ _ _ o0 (by rw [hpar.1, hm]) (by rw [hpar.2.1, hq]) inv' ag'.peaks pk'
    simp only [obsTrace, judge, hap, hchk]
    refine ih _ _ _ (reqTags [c] ++ seen) (by rw [hpar.1, hm]) (by rw [hpar.2.1, hq]) (by rw [hpar.2.2, hw]) inv' ag'.peaks
      tg'.peaks pk' hacc.2 hnd.2.1 ?_
    intro x hx hmem
    rcases List.mem_append.mp hmem with h | h
    · exact hnd.2.2 x h x hx rfl
    · exact hfresh x (List.mem_append_right _ hx) h

def opsOf (wait : Nat) (s : St) (p : BPend) : List Cmd → List Op
  | [] => []
  | c :: cs => (opOf s p c).toList ++ opsOf wait (dstep wait s p c).1.1 (dstep wait s p c).1.2 cs

def finalSt (wait : Nat) (s : St) (p : BPend) : List Cmd → St
  | [] => s
  | c :: cs => finalSt wait (dstep wait s p c).1.1 (dstep wait s p c).1.2 cs

/-- the driver's model state is `Bulkhead.run` over the ops it performed: all theorems about `run` apply to it -/
theorem finalSt_eq_run (wait : Nat) (cs : List Cmd) : ∀ (s : St) (p : BPend),
    finalSt wait s p cs = run s (opsOf wait s p cs) := by
  induction cs with
  | nil => intros; rfl
  | cons c cs ih =>
    intro s p
    simp only [finalSt, opsOf]
    rw [ih, dstep_op]
    cases opOf s p c <;> rfl

end HappyModel.C09.Bulkhead

namespace HappyModel.C09
open Bulkhead

/-- **Trace-level Spec theorem for Bulkhead.**  For every `max_concurrent > 0`, `max_wait_queue`, `max_wait_time`
    (`wait = 0` = none) and every schedule `cs` of engine-level deliveries that the driver accepts (no line is
    answered `!unexpected`, `fin` only when quiescent) and whose request tags are pairwise distinct, the executable
    Spec judge accepts the model's own transcript. -/
theorem bulkhead_trace_satisfies_spec (max maxQ wait : Nat) (h : 0 < max) (cs : List Bulkhead.Cmd)
    (hacc : Bulkhead.accepted wait (bhInit max maxQ wait) {} cs = true) (hnd : (Bulkhead.reqTags cs).Nodup) :
    Bulkhead.judge max maxQ wait {} (Bulkhead.obsTrace wait (bhInit max maxQ wait) {} cs) = none :=
  Bulkhead.judge_model max maxQ wait cs (bhInit max maxQ wait) {} {} [] rfl rfl rfl (Bulkhead.init_inv max maxQ wait h)
    ⟨rfl, rfl, rfl, rfl, rfl, rfl, rfl, rfl, rfl, rfl⟩
    ⟨by constructor <;> simp, by constructor <;> simp [bhInit, Bulkhead.qtags],
     by constructor <;> simp [bhInit, Bulkhead.qtags], by constructor <;> simp [bhInit]⟩
    ⟨rfl, rfl, Nat.le_refl _, Nat.le_refl _⟩ hacc hnd (fun _ _ h => by cases h)

open Bulkhead

/-! ### the statement on a concrete schedule, and the judge is not vacuous

`max_concurrent = 1`, `max_wait_queue = 2`, `max_wait_time = 10`: request 0 is admitted, 1 and 2 are queued,
3 is rejected; the response for 0 admits 1 from the queue; 2 times out at its due time 1 + 10; 1 completes. -/

def demoSchedule : List Bulkhead.Cmd :=
  [.req 0 0, .start 0 0, .req 0 1, .req 1 2, .req 1 3, .done 5 0, .resp 5 0, .start 5 1, .tmo 11 2, .done 12 1, .resp 12 1,
   .fin 12]

example : Bulkhead.accepted 10 (bhInit 1 2 10) {} demoSchedule = true ∧ (Bulkhead.reqTags demoSchedule).Nodup
    ∧ Bulkhead.judge 1 2 10 {} (Bulkhead.obsTrace 10 (bhInit 1 2 10) {} demoSchedule) = none := by decide +kernel

/-- the same schedule with a later response: the waiting request 1 has expired by then (0 + 10 < 11) and the
    response skips it and admits 2; the timeout of 1 then finds nothing (`noop`) -/
def demoSchedule2 : List Bulkhead.Cmd :=
  [.req 0 0, .start 0 0, .req 0 1, .req 1 2, .done 11 0, .resp 11 0, .start 11 2, .tmo 10 1, .done 12 2, .resp 12 2, .fin 12]

example : Bulkhead.accepted 10 (bhInit 1 2 10) {} demoSchedule2 = true ∧ (Bulkhead.reqTags demoSchedule2).Nodup
    ∧ Bulkhead.judge 1 2 10 {} (Bulkhead.obsTrace 10 (bhInit 1 2 10) {} demoSchedule2) = none
    ∧ (Bulkhead.finalSt 10 (bhInit 1 2 10) {} demoSchedule2).timedOut = 1
    ∧ Bulkhead.opsOf 10 (bhInit 1 2 10) {} demoSchedule2
        = [.request 0 0, .request 1 0, .request 2 1, .response 1 11, .timeout 2 10, .response 4 12] := by decide +kernel

/-- the judge rejects over-admission: a second request admitted while the only permit is out -/
example : Bulkhead.judge 1 1 0 {}
    [{ t := 0, k := .req 0, res := .admitted, fwd := [0], a := 1, p := 0, sT := 1, sA := 1, pc := 1 },
     { t := 0, k := .req 1, res := .admitted, fwd := [1], a := 2, p := 0, sT := 2, sA := 2, pc := 2 }]
    = some "bulkhead/active/exceeds-limit" := by decide +kernel

/-- … a leaked permit: the response arrives and the active count does not go down -/
example : Bulkhead.judge 1 1 0 {}
    [{ t := 0, k := .req 0, res := .admitted, fwd := [0], a := 1, p := 0, sT := 1, sA := 1, pc := 1 },
     { t := 0, k := .start 0, a := 1, p := 0, sT := 1, sA := 1, pc := 1 },
     { t := 3, k := .done 0, a := 1, p := 0, sT := 1, sA := 1, pc := 1 },
     { t := 3, k := .resp 0, a := 1, p := 0, sT := 1, sA := 1, pc := 1 }]
    = some "bulkhead/active/count-mismatch" := by decide +kernel

/-- … and a wake-up out of order: the response admits the younger of two waiting requests -/
example : Bulkhead.judge 1 2 0 {}
    [{ t := 0, k := .req 0, res := .admitted, fwd := [0], a := 1, p := 0, sT := 1, sA := 1, pc := 1 },
     { t := 0, k := .start 0, a := 1, p := 0, sT := 1, sA := 1, pc := 1 },
     { t := 0, k := .req 1, res := .queued, a := 1, q := 1, p := 0, sT := 2, sA := 1, sQ := 1, pc := 1, pq := 1 },
     { t := 0, k := .req 2, res := .queued, a := 1, q := 2, p := 0, sT := 3, sA := 1, sQ := 2, pc := 1, pq := 2 },
     { t := 3, k := .done 0, a := 1, q := 2, p := 0, sT := 3, sA := 1, sQ := 2, pc := 1, pq := 2 },
     { t := 3, k := .resp 0, fwd := [2], a := 1, q := 1, p := 0, sT := 3, sA := 2, sQ := 2, pc := 1, pq := 2 }]
    = some "bulkhead/fifo/out-of-order" := by decide +kernel

/-! Why the hypotheses: without them the judge rejects the model's own transcript. -/

/-- a `start` the engine layer does not expect is printed `!unexpected` (no counters) -/
example : Bulkhead.judge 1 1 0 {} (Bulkhead.obsTrace 0 (bhInit 1 1 0) {} [.req 0 0, .start 1 0])
    = some "bulkhead/admission/late-start" := by decide +kernel

/-- `fin` while a forwarded request has not reached the target: to the judge it is lost -/
example : Bulkhead.judge 1 1 0 {} (Bulkhead.obsTrace 0 (bhInit 1 1 0) {} [.req 0 0, .fin 0])
    = some "bulkhead/request/lost" := by decide +kernel

/-- `fin` while somebody is still waiting although there is a wait limit -/
example : Bulkhead.judge 1 1 5 {} (Bulkhead.obsTrace 5 (bhInit 1 1 5) {} [.req 0 0, .start 0 0, .req 0 1, .fin 0])
    = some "bulkhead/timeout/waited-past-limit" := by decide +kernel

/-- a caller tag used twice (the driver accepts the schedule): the judge sees request 0 admitted twice -/
example : Bulkhead.accepted 0 (bhInit 1 1 0) {} [.req 0 0, .start 0 0, .req 0 0, .done 1 0, .resp 1 0] = true
    ∧ Bulkhead.judge 1 1 0 {} (Bulkhead.obsTrace 0 (bhInit 1 1 0) {} [.req 0 0, .start 0 0, .req 0 0, .done 1 0, .resp 1 0])
      = some "bulkhead/admission/twice" := by decide +kernel

/-! `obsTrace` is what `Extra.runBulkhead` prints and `Extra.parseBObs` reads back (checked by evaluation). -/

private def showCmd : Bulkhead.Cmd → String
  | .req t r => s!"req {t} {r}" | .start t r => s!"start {t} {r}" | .done t r => s!"done {t} {r}"
  | .resp t r => s!"resp {t} {r}" | .tmo t r => s!"tmo {t} {r}" | .fin t => s!"fin {t}"

private def viaDriver (mx mq w : Nat) (cs : List Bulkhead.Cmd) : List String :=
  (Extra.runBulkhead mx mq w (cs.map showCmd)).map (fun l => toString (repr (Extra.parseBObs (HappyModel.Proto.toks l))))

private def viaObsTrace (mx mq w : Nat) (cs : List Bulkhead.Cmd) : List String :=
  (Bulkhead.obsTrace w (bhInit mx mq w) {} cs).map (fun o => toString (repr (some o)))

#guard viaDriver 1 2 10 demoSchedule == viaObsTrace 1 2 10 demoSchedule
#guard viaDriver 1 2 10 demoSchedule2 == viaObsTrace 1 2 10 demoSchedule2
#guard viaDriver 2 1 0 demoSchedule == viaObsTrace 2 1 0 demoSchedule
#guard viaDriver 1 2 10 [.req 0 0, .start 1 0, .done 0 0, .resp 0 0, .tmo 3 0, .fin 0]
        == viaObsTrace 1 2 10 [.req 0 0, .start 1 0, .done 0 0, .resp 0 0, .tmo 3 0, .fin 0]

end HappyModel.C09
