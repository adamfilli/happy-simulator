import HappyProofs.C20.Bloom
import HappyProofs.C20.Cms
import HappyProofs.C20.Hll
import HappyProofs.C20.Reservoir
import HappyProofs.C20.TopKMain
import HappyProofs.C20.MerkleDiff
import HappyProofs.C20.MerkleExt
import HappyProofs.C20.MerkleState
import HappyProofs.C20.TDigest
/-!
"For any input stream, a Bloom filter reports every inserted item as present, a Count-Min sketch
never underestimates a count, and space-saving TopK estimates exceed true counts by at most the
reported error while tracking every item more frequent than N/k. Merging two Bloom, Count-Min or
HyperLogLog sketches gives exactly the sketch of the concatenated streams; t-digest quantiles are
non-decreasing in q and lie within the observed minimum and maximum; a reservoir holds min(k, n)
items of the stream; a Merkle-tree diff is empty exactly when the two maps are equal and otherwise
its ranges cover every key whose value differs."

The Bloom, Count-Min, TopK, reservoir and Merkle-diff theorems say: the Spec predicate of
`HappyModel/C20/Spec.lean` (the one the driver evaluates on the implementation's transcripts) is true of
what the *model* answers — for every hash function `h`, every stream, every split, every random script.
The HyperLogLog theorems are equalities of registers and item counts, `merkle_root_tracks_data` is about the
stored tree, and the t-digest theorems are stated with `Frac.le` / `Frac.within` on the model's exact answers.
t-digest: the float centroid arithmetic of
`add` / `_compress` has no model; the *quantile function* has (`HappyModel/C20/TDigest.lean`: the walk of
`TDigest.quantile` over an arbitrary sorted centroid list, exact arithmetic) and the two clauses are proved
for it; the driver ties the real object to it on the centroid lists the real object holds.
-/
namespace HappyModel.C20

/-! observable states, exactly as `Run.lean` prints them -/

def bloomObs (h : Nat → Nat → Nat) (b : Bloom) (probes : List Nat) : SObs :=
  ⟨(List.range b.m).filter b.bit, b.n, probes.map fun x => if b.contains h x then 1 else 0⟩

def cmsObs (h : Nat → Nat → Nat) (s : CMS) (probes : List Nat) : SObs :=
  ⟨(List.range s.d).flatMap fun r => (List.range s.w).map fun c => s.cell r c, s.n,
   probes.map (s.estimate h)⟩

theorem mergeIsConcat_self (o : SObs) : mergeIsConcat o o = true := by simp [mergeIsConcat]

theorem cmsObs_congr (h : Nat → Nat → Nat) (a b : CMS) (probes : List Nat) (e : CMS.Eqv a b) :
    cmsObs h a probes = cmsObs h b probes := by
  obtain ⟨hc, hn, hw, hd, -⟩ := CMS.eqv_iff.mp e
  unfold cmsObs CMS.estimate
  simp only [hc, hn, hw, hd]

theorem bloomObs_congr (h : Nat → Nat → Nat) (a b : Bloom) (probes : List Nat) (e : Bloom.Eqv a b) :
    bloomObs h a probes = bloomObs h b probes := by
  obtain ⟨hb, hn, hm, hk⟩ := Bloom.eqv_iff.mp e
  have hf : a.bit = b.bit := funext hb
  unfold bloomObs Bloom.contains
  simp only [hf, hn, hm, hk]

/-- every inserted item is reported present — for every hash family, size, stream -/
theorem bloom_no_false_negative (h : Nat → Nat → Nat) (m k : Nat) (xs : Stream) (probes : List Nat) :
    lowerOk (bloomLower xs) probes (bloomObs h (Bloom.ofStream h m k xs) probes).q = true := by
  apply lowerOk_map
  intro x
  unfold bloomLower
  by_cases hx : 0 < trueCount xs x
  · rw [Bloom.contains_ofStream h m k xs x hx]; simp; omega
  · have : trueCount xs x = 0 := by omega
    simp [this]

example : (Bloom.ofStream (fun x i => (x + 3 * i) % 8) 8 2 [(3, 1), (5, 2), (4, 0)]).contains
    (fun x i => (x + 3 * i) % 8) 5 = true := by decide +kernel
example : (Bloom.ofStream (fun x i => (x + 3 * i) % 8) 8 2 [(3, 1), (5, 2), (4, 0)]).contains
    (fun x i => (x + 3 * i) % 8) 4 = false := by decide +kernel

/-- merging the filters of two streams gives exactly the filter of the concatenated stream:
    same bits, same item count, same answers -/
theorem bloom_merge_is_union (h : Nat → Nat → Nat) (m k : Nat) (xs ys : Stream) (probes : List Nat) :
    mergeIsConcat
      (bloomObs h ((Bloom.ofStream h m k xs).merge (Bloom.ofStream h m k ys)) probes)
      (bloomObs h (Bloom.ofStream h m k (xs ++ ys)) probes) = true := by
  rw [bloomObs_congr h _ _ probes (Bloom.merge_ofStream_eqv h m k xs ys)]
  exact mergeIsConcat_self _

example : (bloomObs (fun x i => (x + 3 * i) % 8)
    ((Bloom.ofStream (fun x i => (x + 3 * i) % 8) 8 2 [(3, 1)]).merge
      (Bloom.ofStream (fun x i => (x + 3 * i) % 8) 8 2 [(5, 2)])) [3, 4, 5]).st = [0, 3, 5, 6] := by decide +kernel

/-- never underestimates — for every hash family, width, depth > 0 (constructor guard), stream -/
theorem cms_never_under (h : Nat → Nat → Nat) (w d : Nat) (hd : 0 < d) (xs : Stream)
    (probes : List Nat) :
    lowerOk (cmsLower xs) probes (cmsObs h (CMS.ofStream h w d xs) probes).q = true :=
  lowerOk_map _ _ _ (fun x => CMS.estimate_ge h w d hd xs x)

example : (CMS.ofStream (fun x r => (x * (r + 1)) % 3) 3 2 [(1, 2), (4, 5), (2, 1)]).estimate
    (fun x r => (x * (r + 1)) % 3) 1 = 7 := by decide +kernel   -- true count 2, collides with item 4

/-- merging two sketches gives exactly the sketch of the concatenated stream -/
theorem cms_merge_is_concat (h : Nat → Nat → Nat) (w d : Nat) (xs ys : Stream) (probes : List Nat) :
    mergeIsConcat
      (cmsObs h ((CMS.ofStream h w d xs).merge (CMS.ofStream h w d ys)) probes)
      (cmsObs h (CMS.ofStream h w d (xs ++ ys)) probes) = true := by
  rw [cmsObs_congr h _ _ probes (CMS.merge_ofStream_eqv h w d xs ys)]
  exact mergeIsConcat_self _

/-- registers after a merge = registers of the sketch of the concatenated stream (and the item
    counts add up) — for every hash function and precision -/
theorem hll_merge_is_concat (h : Nat → Nat) (p : Nat) (xs ys : Stream) :
    (∀ i, ((HLL.ofStream h p xs).merge (HLL.ofStream h p ys)).reg i = (HLL.ofStream h p (xs ++ ys)).reg i)
    ∧ ((HLL.ofStream h p xs).merge (HLL.ofStream h p ys)).n = (HLL.ofStream h p (xs ++ ys)).n := by
  obtain ⟨hr, hn, -⟩ := HLL.eqv_iff.mp (HLL.merge_ofStream_eqv h p xs ys)
  exact ⟨hr, hn⟩

example : (HLL.ofStream (fun x => x * 2 ^ 58) 4 [(5, 1), (37, 3), (1, 0)]).regs = [0, 2, 0, 0, 0, 0, 0, 0, 0, 2] := by
  decide +kernel

/-- for every stream and every `k > 0` (constructor guard), for every probed item:
    true ≤ estimate ≤ true + error (an untracked item reports 0 ± the sketch-wide bound, which
    covers its true count); every item with true count > N / k is tracked; the counters sum to N -/
theorem topk_bounds (k : Nat) (hk : 0 < k) (xs : Stream) (x : Nat) :
    topkBoundOk xs ((TopK.ofStream k xs).obs x) = true
    ∧ topkHeavyOk xs k ((TopK.ofStream k xs).obs x) = true
    ∧ topkSumOk xs ((TopK.ofStream k xs).top.map (·.count)) (TopK.ofStream k xs).n = true := by
  have inv := TKInv.ofStream k hk xs
  have hkk := TopK.ofStream_k k xs
  refine ⟨inv.boundOk x, ?_, inv.sumOk⟩
  have := inv.heavyOk (by rw [hkk]; exact hk) x
  rwa [hkk] at this

-- eviction happens and the inherited error is reported: k = 2, stream a a b c
example : (TopK.ofStream 2 [(0, 1), (0, 1), (1, 1), (2, 1)]).cs = [⟨0, 2, 0⟩, ⟨2, 2, 1⟩] := by decide +kernel

theorem ResInv.ok {s : Res} {seen : List Nat} (inv : ResInv s seen) :
    reservoirSizeOk s.k seen.length s.items = true ∧ reservoirSubsetOk seen s.items = true := by
  refine ⟨beq_iff_eq.mpr (inv.n_eq ▸ inv.size), List.all_eq_true.mpr fun x hx => ?_⟩
  exact List.contains_iff_mem.mpr (inv.sub x hx)

/-- a reservoir holds min(k, n) items — for every script of random draws -/
theorem reservoir_size (k : Nat) (arrivals script : List Nat) :
    reservoirSizeOk k arrivals.length ((Res.empty k).run arrivals script).1.items = true := by
  have := (ResInv.run (Res.empty k) [] arrivals script (ResInv.empty k)).ok.1
  rwa [Res.run_k] at this

/-- every sampled element occurs in the stream -/
theorem reservoir_subset_of_stream (k : Nat) (arrivals script : List Nat) :
    reservoirSubsetOk arrivals ((Res.empty k).run arrivals script).1.items = true :=
  (ResInv.run (Res.empty k) [] arrivals script (ResInv.empty k)).ok.2

example : ((Res.empty 2).run [7, 8, 9, 10] [1, 5]).1.items = [7, 10] := by decide +kernel

/-- the same two clauses for a merged reservoir (set reading: `merge` samples with replacement) -/
theorem reservoir_merge (k : Nat) (hk : 0 < k) (xa xb sa sb sm : List Nat) :
    let a := ((Res.empty k).run xa sa).1
    let b := ((Res.empty k).run xb sb).1
    reservoirSizeOk k (xa ++ xb).length (a.merge b sm).1.items = true
    ∧ reservoirSubsetOk (xa ++ xb) (a.merge b sm).1.items = true := by
  intro a b
  have ka : a.k = k := Res.run_k _ _ _
  have kb : b.k = k := Res.run_k _ _ _
  have := (ResInv.merge (ResInv.run (Res.empty k) [] xa sa (ResInv.empty k))
    (ResInv.run (Res.empty k) [] xb sb (ResInv.empty k)) (Nat.lt_of_lt_of_eq hk ka.symm) (Nat.lt_of_lt_of_eq hk kb.symm) sm).ok
  rwa [Res.merge_k, ka] at this

/-! ## sketch programs: the merge law and the one-sided bounds hold *later* too

Several sketches of one kind; any interleaving of `add`, `merge` (of compatibly configured
sketches), `clear`.  At every moment every sketch is observably the sketch of its *logical stream* —
the adds it received, with the source's logical stream appended at each merge *as it was then*.
What happens to a merge's inputs afterwards (more adds, `clear()`, further merges) cannot change
the merge result.  (`logical` is the same program run on plain lists, `HappyModel/C20/Seq.lean`.) -/

/-- Count-Min, any program: every register reports exactly what the sketch of its logical stream
    reports (cells, item count, estimates), hence never underestimates the logical stream -/
theorem cms_program_registers_are_sketches (h : Nat → Nat → Nat → Nat) (w d : Nat → Nat) (n : Nat)
    (ops : List (SeqOp Nat)) (hops : ∀ op ∈ ops, op.okFor (cmsSame h w d)) (probes : List Nat)
    (r : Nat) (s : CMS) (xs : Stream)
    (hs : (seqRun (cmsAlg h w d) (seqInit (cmsAlg h w d) n) ops)[r]? = some s)
    (hxs : (logical n ops)[r]? = some xs) :
    mergeIsConcat (cmsObs (h r) s probes) (cmsObs (h r) (CMS.ofStream (h r) (w r) (d r) xs) probes) = true
    ∧ (0 < d r → lowerOk (cmsLower xs) probes (cmsObs (h r) s probes).q = true) := by
  have e := seqRun_refines _ _ _ (cms_lawful h w d) n ops hops r s xs hs hxs
  rw [cmsAlg_ofStream] at e
  rw [cmsObs_congr (h r) s _ probes e]
  exact ⟨mergeIsConcat_self _, fun hd => cms_never_under (h r) (w r) (d r) hd xs probes⟩

/-- Bloom, any program: same bits / count / answers as the filter of the logical stream; every item
    of the logical stream is reported present -/
theorem bloom_program_registers_are_sketches (h : Nat → Nat → Nat → Nat) (m k : Nat → Nat) (n : Nat)
    (ops : List (SeqOp Nat)) (hops : ∀ op ∈ ops, op.okFor (bloomSame h m k)) (probes : List Nat)
    (r : Nat) (s : Bloom) (xs : Stream)
    (hs : (seqRun (bloomAlg h m k) (seqInit (bloomAlg h m k) n) ops)[r]? = some s)
    (hxs : (logical n ops)[r]? = some xs) :
    mergeIsConcat (bloomObs (h r) s probes) (bloomObs (h r) (Bloom.ofStream (h r) (m r) (k r) xs) probes) = true
    ∧ lowerOk (bloomLower xs) probes (bloomObs (h r) s probes).q = true := by
  have e := seqRun_refines _ _ _ (bloom_lawful h m k) n ops hops r s xs hs hxs
  rw [bloomAlg_ofStream] at e
  rw [bloomObs_congr (h r) s _ probes e]
  exact ⟨mergeIsConcat_self _, bloom_no_false_negative (h r) (m r) (k r) xs probes⟩

/-- HyperLogLog, any program: registers and item count of the sketch of the logical stream -/
theorem hll_program_registers_are_sketches (h : Nat → Nat → Nat) (p : Nat → Nat) (n : Nat)
    (ops : List (SeqOp Nat)) (hops : ∀ op ∈ ops, op.okFor (hllSame h p))
    (r : Nat) (s : HLL) (xs : Stream)
    (hs : (seqRun (hllAlg h p) (seqInit (hllAlg h p) n) ops)[r]? = some s)
    (hxs : (logical n ops)[r]? = some xs) :
    (∀ i, s.reg i = (HLL.ofStream (h r) (p r) xs).reg i) ∧ s.n = (HLL.ofStream (h r) (p r) xs).n := by
  have e := seqRun_refines _ _ _ (hll_lawful h p) n ops hops r s xs hs hxs
  rw [hllAlg_ofStream] at e
  obtain ⟨hr, hn, -⟩ := HLL.eqv_iff.mp e
  exact ⟨hr, hn⟩

/-- the frame clause the judge evaluates on snapshots (`frameOk`) is true of the model, for every
    sketch algebra and every way `f` of printing a register: an operation changes its target only -/
theorem sketch_program_frame {σ α : Type} (A : SeqAlg σ α) (f : σ → List String) (regs : List σ)
    (op : SeqOp α) :
    frameOk op.target (regs.map f) ((seqStep A regs op).map f) = true := by
  unfold frameOk
  simp only [List.length_map, seqStep_length, beq_self_eq_true, Bool.true_and, List.all_eq_true,
    List.mem_range, Bool.or_eq_true, beq_iff_eq]
  intro r _
  by_cases ht : op.target = some r
  · exact Or.inl ht
  · right
    rw [List.getElem?_map, List.getElem?_map, seqStep_frame A regs op r ht]

-- merge into an empty aggregate, then clear and refill the source: the aggregate keeps the
-- stream it was given at merge time
example :
    let h : Nat → Nat → Nat → Nat := fun _ x r => (x * (r + 1)) % 3
    let ops : List (SeqOp Nat) := [.add 1 4 2, .merge 0 1, .clear 1, .add 1 2 1, .add 0 5 1]
    (logical 2 ops = [[(4, 2), (5, 1)], [(2, 1)]])
    ∧ ((seqRun (cmsAlg h (fun _ => 3) (fun _ => 2)) (seqInit (cmsAlg h (fun _ => 3) (fun _ => 2)) 2) ops).map
        (fun s => (s.n, s.estimate (h 0) 4)) = [(3, 2), (1, 0)]) := by decide +kernel
example : ∀ op ∈ ([.add 1 4 2, .merge 0 1, .clear 1] : List (SeqOp Nat)),
    op.okFor (cmsSame (fun _ x r => (x * (r + 1)) % 3) (fun _ => 3) (fun _ => 2)) := by
  intro op hop
  simp only [List.mem_cons, List.not_mem_nil, or_false] at hop
  rcases hop with rfl | rfl | rfl <;> simp [SeqOp.okFor, cmsSame]

instance (hl hc : Nat → Nat → Nat) (a b : MTree) : Decidable (HashInjOn hl hc a b) := by
  unfold HashInjOn; exact inferInstance

instance (hl hc : Nat → Nat → Nat) (a b : Option MTree) : Decidable (HashInjOnOpt hl hc a b) := by
  cases a <;> cases b <;> unfold HashInjOnOpt <;> exact inferInstance

/-- diff is empty exactly when the two maps are equal — for every pair of leaf/inner hash functions
    that is injective on the subtrees of the two trees compared -/
theorem merkle_diff_empty_iff_equal (hl hc : Nat → Nat → Nat) (la lb : List (Nat × Nat))
    (sa : SortedKeys la) (sb : SortedKeys lb) (inj : HashInjOnOpt hl hc (build la) (build lb)) :
    merkleEmptyIffEqual la lb (diffTrees hl hc (build la) (build lb)) = true := by
  unfold merkleEmptyIffEqual
  have h1 := diff_nil_iff hl hc la lb inj
  have h2 := keys_all_iff la lb sa sb
  simp only [beq_iff_eq]
  rw [Bool.eq_iff_iff, List.isEmpty_iff, h1, h2]

/-- the diff ranges cover every key whose value differs or that exists on one side only -/
theorem merkle_diff_covers (hl hc : Nat → Nat → Nat) (la lb : List (Nat × Nat))
    (sa : SortedKeys la) (sb : SortedKeys lb) (inj : HashInjOnOpt hl hc (build la) (build lb)) :
    merkleCovers la lb (diffTrees hl hc (build la) (build lb)) = true := by
  unfold merkleCovers
  simp only [List.all_eq_true, Bool.or_eq_true, beq_iff_eq]
  intro k _
  by_cases hk : lookupKV la k = lookupKV lb k
  · exact Or.inl hk
  · exact Or.inr (diff_covers hl hc la lb sa sb inj k hk)

-- the hypotheses are satisfiable on maps that really differ (key 2 changed, key 4 only on one side)
example : HashInjOnOpt (fun k v => 2 * (100 * k + v)) (fun a b => 2 * (1000000 * a + b) + 1)
    (build [(1, 0), (2, 0), (3, 0)]) (build [(1, 0), (2, 5), (3, 0), (4, 1)]) := by decide +kernel
example : diffTrees (fun k v => 2 * (100 * k + v)) (fun a b => 2 * (1000000 * a + b) + 1)
    (build [(1, 0), (2, 0), (3, 0)]) (build [(1, 0), (2, 5), (3, 0), (4, 1)]) = [(1, 2), (2, 3), (3, 4)] := by
  decide +kernel
example : SortedKeys [(1, 0), (2, 5), (3, 0), (4, 1)] := by unfold SortedKeys; decide

/-! ### the stateful tree: the laws hold after every operation sequence

`MerkleTree` stores its tree; `update` / `remove` must rebuild it, whatever the new value is (an object
equal to the old one, the same object changed in place, a value equal under `==` but serialised
differently).  In the model they do, so after any two call sequences on any two initial maps the diff
of the *stored* trees is judged correctly against the *logical* maps (what the calls stored). -/

/-- after any sequence of `update` / `remove` calls the stored tree is the tree of the present
    contents, the contents are sorted with distinct keys, and they are the logical map (`mlogical`) -/
theorem merkle_root_tracks_data (m : List (Nat × Nat)) (ops : List MOp) :
    ((MT.ofList m).run ops).root = build ((MT.ofList m).run ops).data ∧
      SortedKeys ((MT.ofList m).run ops).data ∧
      ((MT.ofList m).run ops).data = mlogical (MT.ofList m).data ops :=
  ⟨(MT.run_inv _ ops (MT.ofList_inv m)).fresh, (MT.run_inv _ ops (MT.ofList_inv m)).sorted, MT.run_data _ ops⟩

/-- both diff clauses, for the stored trees of two replicas after arbitrary call sequences, against
    the logical maps -/
theorem merkle_ops_diff_laws (hl hc : Nat → Nat → Nat) (ma mb : List (Nat × Nat)) (opsA opsB : List MOp)
    (inj : HashInjOnOpt hl hc ((MT.ofList ma).run opsA).root ((MT.ofList mb).run opsB).root) :
    merkleEmptyIffEqual (mlogical (MT.ofList ma).data opsA) (mlogical (MT.ofList mb).data opsB)
        (MT.diff hl hc ((MT.ofList ma).run opsA) ((MT.ofList mb).run opsB)) = true ∧
      merkleCovers (mlogical (MT.ofList ma).data opsA) (mlogical (MT.ofList mb).data opsB)
        (MT.diff hl hc ((MT.ofList ma).run opsA) ((MT.ofList mb).run opsB)) = true := by
  have ia := MT.run_inv _ opsA (MT.ofList_inv ma)
  have ib := MT.run_inv _ opsB (MT.ofList_inv mb)
  rw [← MT.run_data, ← MT.run_data]
  unfold MT.diff
  rw [ia.fresh, ib.fresh] at inj ⊢
  exact ⟨merkle_diff_empty_iff_equal hl hc _ _ ia.sorted ib.sorted inj,
    merkle_diff_covers hl hc _ _ ia.sorted ib.sorted inj⟩

/-- non-vacuity: a record replaced (`upd 2 7`), the other replica following, a key dropped on one side -/
example :
    let A := (MT.ofList [(1, 0), (2, 0), (3, 0)]).run [.upd 2 7, .del 3]
    let B := (MT.ofList [(1, 0), (2, 0), (3, 0)]).run [.upd 2 7]
    A.data = [(1, 0), (2, 7)] ∧ B.data = [(1, 0), (2, 7), (3, 0)] ∧
      MT.diff (fun k v => 2 * (100 * k + v)) (fun a b => 2 * (1000000 * a + b) + 1) A B ≠ [] := by decide +kernel

/-! ### "equal" read as Python's `==` on dicts

`{k: 1} == {k: 1.0}` in Python, but the tree hashes `repr(value)`: the code that exists reports a
difference between two maps that are equal as dicts (variant `current`, finding
`merkle/diff/nonempty-but-python-equal`).  A tree that hashed a canonical form of each value
(`canon`: serialisation id ↦ equality class) meets both clauses under that reading (variant
`repaired`). -/

theorem merkle_diff_python_equal_repaired (canon : Nat → Nat) (hl hc : Nat → Nat → Nat)
    (la lb : List (Nat × Nat)) (sa : SortedKeys la) (sb : SortedKeys lb)
    (inj : HashInjOnOpt hl hc (build (mapVals canon la)) (build (mapVals canon lb))) :
    merkleEmptyIffEqualC canon la lb (diffTrees hl hc (build (mapVals canon la)) (build (mapVals canon lb))) = true ∧
      merkleCoversC canon la lb (diffTrees hl hc (build (mapVals canon la)) (build (mapVals canon lb))) = true := by
  have h1 := merkle_diff_empty_iff_equal hl hc _ _ (mapVals_sorted canon la sa) (mapVals_sorted canon lb sb) inj
  have h2 := merkle_diff_covers hl hc _ _ (mapVals_sorted canon la sa) (mapVals_sorted canon lb sb) inj
  unfold merkleEmptyIffEqual at h1
  unfold merkleCovers at h2
  unfold merkleEmptyIffEqualC merkleCoversC pyEqualMaps
  simp only [mapVals_keys, lookupKV_mapVals] at h1 h2
  exact ⟨h1, h2⟩

/-- the code that exists: `1` (id 1) and `1.0` (id 16) are one equality class, two serialisations —
    the maps are equal as dicts and the diff is not empty -/
theorem merkle_python_equal_nonempty_current :
    pyEqualMaps (fun v => if v = 16 then 1 else v) [(0, 1)] [(0, 16)] = true ∧
      merkleEmptyIffEqualC (fun v => if v = 16 then 1 else v) [(0, 1)] [(0, 16)]
        (diffTrees (fun k v => 2 * (100 * k + v)) (fun a b => 2 * (1000000 * a + b) + 1)
          (build [(0, 1)]) (build [(0, 16)])) = false := by decide +kernel

/-- … and the same two maps through the canonical form: empty diff (non-vacuity of the repaired theorem) -/
example :
    diffTrees (fun k v => 2 * (100 * k + v)) (fun a b => 2 * (1000000 * a + b) + 1)
      (build (mapVals (fun v => if v = 16 then 1 else v) [(0, 1)]))
      (build (mapVals (fun v => if v = 16 then 1 else v) [(0, 16)])) = [] := by decide +kernel

/-- **t-digest quantiles are non-decreasing in q**: for every digest with centroids sorted by mean,
    positive weights and means within `[lo, hi]`, and all `a₁ ≤ a₂ ≤ b`:
    `quantile(a₁/b) ≤ quantile(a₂/b)` (exact fractions) -/
theorem tdigest_quantile_monotone (d : TD) (wf : d.WF) (a1 a2 b : Nat) (hb : 0 < b) (h12 : a1 ≤ a2)
    (h2b : a2 ≤ b) : (d.quantile a1 b).v.le (d.quantile a2 b).v := by
  have G1 := quantile_in_bracket d wf a1 b
  have G2 := quantile_in_bracket d wf a2 b
  by_cases z1 : a1 = 0
  · -- the smaller quantile answers `min`
    rw [show d.quantile a1 b = .flat d.lo from if_pos z1] at G1 ⊢
    exact G1.le_of_sep G2 G2.1
  · have n2 : a2 ≠ 0 := by omega
    by_cases z2 : a2 = b
    · rw [show d.quantile a2 b = .flat d.hi by rw [TD.quantile, if_neg n2, if_pos z2]] at G2 ⊢
      exact G1.le_of_sep G2 G1.2.2.1
    · rw [TD.quantile, if_neg z1, if_neg (by omega), TD.quantile, if_neg n2, if_neg z2]
      apply tdWalk_mono b d.lo d.hi d.cs true d.lo 0 _ _ wf.sorted wf.top (fun _ => rfl)
      · exact Nat.mul_le_mul_right _ (Nat.mul_le_mul_left _ h12)
      · exact Nat.zero_le _
      · rw [Nat.zero_add]
        exact Nat.mul_le_mul_right _ (Nat.mul_le_mul_left _ h2b)

/-- **… and lie within the observed minimum and maximum** -/
theorem tdigest_quantile_within_min_max (d : TD) (wf : d.WF) (a b : Nat) (hb : 0 < b) :
    (d.quantile a b).v.within d.lo d.hi := by
  have h := quantile_in_bracket d wf a b
  exact Frac.within_widen _ _ _ _ _ h.2.2.2 h.1 h.2.2.1

/-- the tie the judge evaluates (`Judge.tdTieCheck`): on a digest that passes the executable
    well-formedness test, every observed value the model answer *admits* (it lies in the bracket of the
    rule the walk applies; for `return centroid.mean` it is that mean) lies within `[lo, hi]`, and the
    exact answer lies in the same bracket -/
theorem tdigest_tie_sound (d : TD) (h : d.wfB = true) (a b : Nat) (hb : 0 < b) (r : Int)
    (hr : (d.quantile a b).admits r = true) :
    (d.lo ≤ r ∧ r ≤ d.hi) ∧ (d.quantile a b).v.within (d.quantile a b).lo (d.quantile a b).hi := by
  obtain ⟨q1, q2, q3, q5⟩ := quantile_in_bracket d (TD.wf_of_wfB d h) a b
  simp only [QAns.admits, Bool.and_eq_true, decide_eq_true_eq] at hr
  exact ⟨by omega, q5⟩

def demoTD : TD := ⟨[(10, 2), (20, 3), (40, 3)], 5, 50⟩

example : demoTD.wfB = true ∧ demoTD.N = 8 := by decide +kernel

-- not vacuous: on the grid i/16 the quantiles of `demoTD` use every rule: min, interpolation from min (7.5), first
-- mean, interpolation between centroids (16⅔, 18⅓), a middle mean, the last mean, interpolation to max (43⅓, 46⅔),
-- max; the bracket of 1/16 is [5, 10]
example :
    (List.range 17).map (fun i => (demoTD.quantile i 16).v) =
      [⟨5, 1⟩, ⟨240, 32⟩, ⟨10, 1⟩, ⟨10, 1⟩, ⟨10, 1⟩, ⟨1600, 96⟩, ⟨1760, 96⟩, ⟨20, 1⟩, ⟨20, 1⟩, ⟨20, 1⟩, ⟨20, 1⟩,
       ⟨40, 1⟩, ⟨40, 1⟩, ⟨40, 1⟩, ⟨2080, 48⟩, ⟨2240, 48⟩, ⟨50, 1⟩] ∧
    (demoTD.quantile 1 16).admits 7 = true ∧ (demoTD.quantile 1 16).admits 11 = false ∧
    (demoTD.quantile 2 16).admits 11 = false ∧ (demoTD.quantile 2 16).admits 10 = true := by decide +kernel

end HappyModel.C20
