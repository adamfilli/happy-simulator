import HappyProofs.C18.RoundsFull
/-!
`judgeStore` on the model's own transcript. The judge splits a transcript into a prefix and the
trailing lossless rounds; on both parts its loop accepts every step (`store_trace_steps_accepted`).
The final clause reduces to one statement about knowledge (`UnionAfter`), because the value clause
sees a specification system only through its records and the *set* of updates the judged entity has
received (`judgeValue_congr`), and merges do not change the records.
-/
namespace HappyModel.C18

theorem store_trace_steps_accepted (kind : Kind) (n nkeys : Nat) (mentioned : List Nat)
    (steps : List SStep) :
    ∀ {j : JSt} {st : SSt} {ops : List (Nat × XOp)} (i : Nat), TInv n j st ops → Fresh st.p ops →
    (∀ x ∈ steps, WFStep n x) →
    judgeStore.go kind n nkeys mentioned j i (traceObs kind st steps) =
      (advanceAll kind n j (traceObs kind st steps), none) ∧
    TInv n (advanceAll kind n j (traceObs kind st steps)) (SSt.run .repaired kind st steps)
      (ops ++ PSt.ops .repaired kind st.p steps) ∧
    Fresh (SSt.run .repaired kind st steps).p (ops ++ PSt.ops .repaired kind st.p steps) := by
  induction steps with
  | nil =>
    intro j st ops i h hF _
    simpa [judgeStore.go, traceObs, advanceAll, SSt.run, PSt.ops] using ⟨h, hF⟩
  | cons x xs ih =>
    intro j st ops i h hF hw
    obtain ⟨T, F, hstep⟩ := step_ok kind nkeys mentioned h x (hw x List.mem_cons_self)
    have := ih (i + 1) T (F hF)
      (fun y hy => hw y (List.mem_cons_of_mem _ hy))
    have hp' : (st.step .repaired kind x).p = (st.p.step .repaired kind x).1 := rfl
    rw [hp'] at this
    simpa [traceObs, judgeStore.go, hstep, advanceAll, SSt.run, PSt.ops, List.append_assoc, hp']
      using this

/-- freshness invariant: after any well-formed script, a message entity that has not been created
    yet (`n + m` with `m ≥` the number of messages built so far) has received nothing, for any key -/
theorem store_fresh_entities (kind : Kind) (n : Nat) (peers : List (List Nat)) (steps : List SStep)
    (hp : WFPeers n peers) (hs : ∀ x ∈ steps, WFStep n x) (k m : Nat)
    (hm : (SSt.run .repaired kind (SSt.init n peers) steps).p.msgs.length ≤ m) :
    (SpecSys.run {} (keyOps k (PSt.ops .repaired kind (SSt.init n peers).p steps))).know (n + m) = [] := by
  obtain ⟨_, T, hF⟩ := store_trace_steps_accepted kind n 0 [] steps 0 (tinv_init n peers hp)
    (obnd_nil _) hs
  have hn := T.j.n_eq
  apply Classical.byContradiction
  intro hne
  rcases know_origin _ _ (n + m) hne with h | ⟨o, ho, hr⟩
  · exact h rfl
  · rw [mem_keyOps] at ho
    have := hF _ (by simpa using ho) o rfl
    rw [hr, hn] at this
    omega

theorem splitRounds_append (steps : List StepObs) :
    (splitRounds steps).1 ++ (splitRounds steps).2 = steps := by
  unfold splitRounds
  simp only
  generalize hs : (steps.reverse.takeWhile fun so => isRound so.step) = tw
  have h1 : steps.reverse = tw ++ steps.reverse.dropWhile (fun so => isRound so.step) := by
    rw [← hs]; exact (List.takeWhile_append_dropWhile).symm
  have h2 : steps = (steps.reverse.dropWhile fun so => isRound so.step).reverse ++ tw.reverse := by
    have := congrArg List.reverse h1
    simpa using this
  obtain ⟨D, hD⟩ : ∃ D, steps = D ++ tw.reverse := ⟨_, h2⟩
  clear h1 h2 hs
  subst hD
  simp

theorem mem_takeWhile_true {α} (p : α → Bool) (l : List α) (x : α) (h : x ∈ l.takeWhile p) : p x = true := by
  induction l with
  | nil => simp at h
  | cons y ys ih =>
    simp only [List.takeWhile_cons] at h
    split at h
    · rcases List.mem_cons.mp h with rfl | h
      · assumption
      · exact ih h
    · simp at h

theorem splitRounds_suffix_rounds (steps : List StepObs) :
    ∀ so ∈ (splitRounds steps).2, isRound so.step = true := by
  intro so hso
  simp only [splitRounds, List.mem_reverse] at hso
  exact mem_takeWhile_true (fun so : StepObs => isRound so.step) _ so hso

theorem traceObs_append (kind : Kind) (a b : List SStep) :
    ∀ st : SSt, traceObs kind st (a ++ b) =
      traceObs kind st a ++ traceObs kind (SSt.run .repaired kind st a) b := by
  induction a with
  | nil => intro st; rfl
  | cons x xs ih => intro st; simp [traceObs, SSt.run, ih]

theorem traceObs_length (kind : Kind) (l : List SStep) : ∀ st : SSt, (traceObs kind st l).length = l.length := by
  induction l with
  | nil => intro st; rfl
  | cons x xs ih => intro st; simp [traceObs, ih]

theorem traceObs_steps (kind : Kind) (l : List SStep) : ∀ st : SSt, (traceObs kind st l).map (·.step) = l := by
  induction l with
  | nil => intro st; rfl
  | cons x xs ih => intro st; simp [traceObs, stepObs, ih]

theorem traceObs_split (kind : Kind) (st : SSt) (script : List SStep) (A B : List StepObs)
    (h : traceObs kind st script = A ++ B) :
    A = traceObs kind st (script.take A.length) ∧
    B = traceObs kind (SSt.run .repaired kind st (script.take A.length)) (script.drop A.length) := by
  have hsplit := traceObs_append kind (script.take A.length) (script.drop A.length) st
  rw [List.take_append_drop] at hsplit
  rw [h] at hsplit
  have hlen : A.length = (traceObs kind st (script.take A.length)).length := by
    rw [traceObs_length, List.length_take]
    have := congrArg List.length h
    rw [traceObs_length, List.length_append] at this
    omega
  exact List.append_inj hsplit hlen

theorem judgeValue_congr (kind : Kind) (t1 t2 : SpecSys) (a : Nat) (o : KObs) (m : List Nat)
    (hr : t1.recs = t2.recs) (h : SameSet (t1.know a) (t2.know a)) :
    judgeValue kind t1 a o m = judgeValue kind t2 a o m := by
  have hc := counter_congr t1 t2 a a hr h
  have ho : ∀ x, t1.orHas a x = t2.orHas a x := orHas_congr t1 t2 a a hr h
  have hl : ∀ c, t1.lwwOk a c = t2.lwwOk a c := by
    intro c
    rw [Bool.eq_iff_iff, SpecSys.lwwOk_iff, SpecSys.lwwOk_iff]
    exact ⟨fun b => b.congr fun w => (writes_congr t1 t2 a a hr h w).symm,
           fun b => b.congr fun w => writes_congr t1 t2 a a hr h w⟩
  cases kind <;> simp [judgeValue, hc, ho, hl]

theorem foldl_recs {α} (f : SpecSys → α → SpecSys) (hf : ∀ t a, (f t a).recs = t.recs) (l : List α) :
    ∀ t, (l.foldl f t).recs = t.recs := by
  induction l with
  | nil => intro t; rfl
  | cons a l ih => intro t; rw [List.foldl_cons, ih, hf]

theorem unionAll_recs (n : Nat) (sp : SpecSys) : (unionAll n sp).recs = sp.recs := by
  unfold unionAll
  exact foldl_recs _ (fun t a => foldl_recs (fun t b => t.step (.merge a b)) (fun _ _ => rfl) _ t) _ sp

theorem sameset_nonempty {A B : List Nat} (h : SameSet A B) (hA : A ≠ []) : B ≠ [] := by
  obtain ⟨x, hx⟩ := List.exists_mem_of_ne_nil _ hA
  exact List.ne_nil_of_mem (h.1 x hx)

theorem isGossip_of_isRound {x : SStep} (h : isRound x = true) : x.isGossip = true := by
  cases x <;> first | rfl | exact h

theorem judgeFinal_model (kind : Kind) (n nkeys : Nat) (peers : List (List Nat)) (mentioned : List Nat)
    {jA jE : JSt} {stA : SSt} {opsA : List (Nat × XOp)} (TA : TInv n jA stA opsA)
    (scriptB : List SStep) (hr : ∀ x ∈ scriptB, isRound x = true)
    (TE : TInv n jE (SSt.run .repaired kind stA scriptB) (opsA ++ PSt.ops .repaired kind stA.p scriptB))
    (hK : fullRounds n peers scriptB = true → UnionAfter n opsA (PSt.ops .repaired kind stA.p scriptB)) :
    judgeFinal kind n nkeys peers mentioned jA (traceObs kind stA scriptB)
      ((List.range n).flatMap (storeObs (SSt.run .repaired kind stA scriptB))) = none := by
  have hflat : (traceObs kind stA scriptB).flatMap (fun so => owedFlows peers so.step) =
      scriptB.flatMap (owedFlows peers) :=
    (List.flatMap_map StepObs.step (owedFlows peers) _).symm.trans
      (congrArg (·.flatMap (owedFlows peers)) (traceObs_steps kind scriptB stA))
  rw [judgeFinal, hflat]
  by_cases hfull : fullRounds n peers scriptB = true
  case neg =>
    rw [fullRounds] at hfull
    rw [Bool.eq_false_iff.mpr hfull, Bool.not_false, Bool.or_true, if_pos rfl]
  split
  · rfl
  rw [List.findSome?_eq_none_iff]
  intro k _
  rw [List.findSome?_eq_none_iff]
  intro a ha
  have halt : a < n := List.mem_range.mp ha
  have hs := hK hfull k a halt
  rw [TA.j.spec k]
  -- the records of both systems are those at the beginning of the phase
  have hmerge : ∀ o ∈ keyOps k (PSt.ops .repaired kind stA.p scriptB), ∃ d s, o = COp.merge d s := by
    intro o ho
    have := gossip_ops_merge kind stA.p scriptB
      (fun x hx => isGossip_of_isRound (hr x hx)) _
      ((mem_keyOps _ _ _).mp ho)
    cases o <;> simp [XOp.isMerge] at this
    exact ⟨_, _, rfl⟩
  have hrecs : (unionAll n (SpecSys.run {} (keyOps k opsA))).recs =
      (SpecSys.run {} (keyOps k (opsA ++ PSt.ops .repaired kind stA.p scriptB))).recs := by
    rw [unionAll_recs, keyOps_append, SpecSys.run_append, run_merges_recs _ hmerge]
  cases hfind : ((List.range n).flatMap (storeObs (SSt.run .repaired kind stA scriptB))).find?
      (fun o => o.1 == a && o.2.1 == k) with
  | none =>
    dsimp only
    split
    · rfl
    · rename_i hne
      -- a store that has received something holds the key, so it reports it
      have hend := sameset_nonempty hs (by simpa [List.isEmpty_iff] using hne)
      rw [← TE.j.spec k] at hend
      obtain ⟨kn, hkn, rfl⟩ := List.mem_map.mp
        ((holds_keysOf _ a k).mp (known_held TE.j TE.good a k halt hend))
      have := List.find?_eq_none.mp hfind
        (a, kn.1, kobsOf ((sysAt (SSt.run .repaired kind stA scriptB).sys kn.1).rep a))
        (by simp only [List.mem_flatMap, storeObs, List.mem_map]; exact ⟨a, ha, kn, hkn, rfl⟩)
      simp at this
  | some o =>
    have hmem := List.mem_of_find?_eq_some hfind
    have hp := List.find?_some hfind
    simp only [Bool.and_eq_true, beq_iff_eq] at hp
    simp only [List.mem_flatMap, storeObs, List.mem_map] at hmem
    obtain ⟨a', _, kn, _, rfl⟩ := hmem
    obtain ⟨rfl, rfl⟩ := hp
    dsimp only
    rw [judgeValue_congr kind _ _ a' _ mentioned hrecs hs, TE.sys kn.1, judgeValue_replica]
    rfl

theorem sst_run_append (kind : Kind) (a b : List SStep) :
    ∀ st : SSt, SSt.run .repaired kind st (a ++ b) =
      SSt.run .repaired kind (SSt.run .repaired kind st a) b := by
  induction a with
  | nil => intro st; rfl
  | cons x xs ih => intro st; simp [SSt.run, ih]

/-- `store_trace_satisfies_spec` given `UnionAfter` for the trailing rounds; the hypothesis may use the
    invariants of the state the rounds start in -/
theorem store_trace_satisfies_spec_given_union (kind : Kind) (n nkeys : Nat) (peers : List (List Nat))
    (script : List SStep) (hp : WFPeers n peers) (hs : ∀ x ∈ script, WFStep n x)
    (hK : ∀ scriptA scriptB, script = scriptA ++ scriptB → (∀ x ∈ scriptB, isRound x = true) →
      ∀ jA, TInv n jA (SSt.run .repaired kind (SSt.init n peers) scriptA)
          (PSt.ops .repaired kind (SSt.init n peers).p scriptA) →
        Fresh (SSt.run .repaired kind (SSt.init n peers) scriptA).p
          (PSt.ops .repaired kind (SSt.init n peers).p scriptA) →
      fullRounds n peers scriptB = true →
      UnionAfter n (PSt.ops .repaired kind (SSt.init n peers).p scriptA)
        (PSt.ops .repaired kind (SSt.run .repaired kind (SSt.init n peers) scriptA).p scriptB)) :
    judgeStore kind n nkeys peers (traceObs kind (SSt.init n peers) script)
      ((List.range n).flatMap (storeObs (SSt.run .repaired kind (SSt.init n peers) script))) = none := by
  -- the transcript, the two halves the judge splits it into and the mentioned elements are made variables
  -- before `judgeStore` is unfolded: its `match`es on `go` can then be rewritten with the two acceptance
  -- equations, which speak of transcripts of the two halves of the SCRIPT (`traceObs_split`)
  generalize hT : traceObs kind (SSt.init n peers) script = T
  have hsplitT := splitRounds_append T
  have hsuf := splitRounds_suffix_rounds T
  unfold judgeStore
  dsimp only
  generalize (splitRounds T).1 = A at hsplitT
  generalize (splitRounds T).2 = B at hsplitT hsuf
  generalize elemsOfSteps T = mentioned
  obtain ⟨hA, hB⟩ := traceObs_split kind (SSt.init n peers) script A B (by rw [hT, hsplitT])
  have hscript : script = script.take A.length ++ script.drop A.length := (List.take_append_drop _ _).symm
  have hwA : ∀ x ∈ script.take A.length, WFStep n x := fun x hx => hs x (List.mem_of_mem_take hx)
  have hwB : ∀ x ∈ script.drop A.length, WFStep n x := fun x hx => hs x (List.mem_of_mem_drop hx)
  have hrB : ∀ x ∈ script.drop A.length, isRound x = true := by
    intro x hx
    have hx' : x ∈ B.map (·.step) := by rw [hB, traceObs_steps]; exact hx
    obtain ⟨so, hso, rfl⟩ := List.mem_map.mp hx'
    exact hsuf so hso
  obtain ⟨gA, TA, FA⟩ := store_trace_steps_accepted kind n nkeys mentioned (script.take A.length) 0
    (tinv_init n peers hp) (obnd_nil _) hwA
  obtain ⟨gB, TE, _⟩ := store_trace_steps_accepted kind n nkeys mentioned (script.drop A.length)
    A.length TA FA hwB
  rw [← hA] at gA gB
  rw [← hB] at gB
  rw [gA]
  dsimp only
  rw [gB]
  dsimp only
  have hfin : SSt.run .repaired kind (SSt.init n peers) script =
      SSt.run .repaired kind (SSt.run .repaired kind (SSt.init n peers) (script.take A.length))
        (script.drop A.length) := by
    rw [← sst_run_append, List.take_append_drop]
  rw [List.nil_append] at TA TE
  have := judgeFinal_model kind n nkeys peers mentioned TA (script.drop A.length) hrB TE
    (hK _ _ hscript hrB _ TA FA)
  rw [← hA, ← hB, ← hfin] at this
  exact this

/-- **the store judge accepts the model's own transcript**: for every CRDT kind, every number of
    stores, every well-formed peer list and script (client writes, gossip ticks, deliveries in any
    order / repeated / never, lossless rounds), `judgeStore` — all per-step clauses and the final
    liveness clause — returns no violation on what the model reports -/
theorem store_trace_satisfies_spec (kind : Kind) (n nkeys : Nat) (peers : List (List Nat))
    (script : List SStep) (hp : WFPeers n peers) (hs : ∀ x ∈ script, WFStep n x) :
    judgeStore kind n nkeys peers (traceObs kind (SSt.init n peers) script)
      ((List.range n).flatMap (storeObs (SSt.run .repaired kind (SSt.init n peers) script))) = none := by
  apply store_trace_satisfies_spec_given_union kind n nkeys peers script hp hs
  intro scriptA scriptB hsplit hr jA TA FA hfull
  exact union_after_rounds kind n peers TA FA ((run_peers kind scriptA _).trans rfl) scriptB
    (fun x hx => hs x (by rw [hsplit]; exact List.mem_append_right _ hx)) hr hfull

/-- non-vacuity: a well-formed script with a lost push, a duplicate delivery and healing rounds -/
example : WFPeers 2 [[1], [0]] ∧
    (∀ x ∈ [SStep.w 0 0 (.inc 5), .w 1 0 (.inc 2), .tick 0 0, .tick 1 0, .dl 1, .dl 1, .round 0 0, .round 1 0],
      WFStep 2 x) := by decide

/-- `store_trace_satisfies_spec` under the additional hypothesis `RoundFacts kind n`, which is not needed
    (and is false for every `n ≥ 1`: `not_roundFacts`) -/
theorem store_trace_satisfies_spec_given_round_facts (kind : Kind) (n nkeys : Nat)
    (peers : List (List Nat)) (script : List SStep) (hp : WFPeers n peers)
    (hs : ∀ x ∈ script, WFStep n x) (hf : RoundFacts kind n) :
    judgeStore kind n nkeys peers (traceObs kind (SSt.init n peers) script)
      ((List.range n).flatMap (storeObs (SSt.run .repaired kind (SSt.init n peers) script))) = none :=
  (fun _ => store_trace_satisfies_spec kind n nkeys peers script hp hs) hf

end HappyModel.C18
