import HappyModel.C19.Assign
/-!
`flat a` (all members' lists concatenated) being a permutation of `parts` is, with the key list, the Bool spec
(`isPartition_of_perm`).  Range has it here (`flat_rangeAssign`); round robin and sticky deal the partitions out one at a
time and get theirs in `Assign` from `Deals`.
-/
namespace HappyModel.C19

abbrev flat (a : Assignment) : List Nat := a.flatMap (·.2)
abbrev keys (a : Assignment) : List Nat := a.map (·.1)

theorem insertNat_perm (x : Nat) (l : List Nat) : (insertNat x l).Perm (x :: l) := by
  induction l with
  | nil => exact List.Perm.refl _
  | cons y ys ih =>
    simp only [insertNat]
    split
    · exact List.Perm.refl _
    · exact ((List.Perm.cons y ih).trans (List.Perm.swap x y ys))

theorem sortNat_perm (l : List Nat) : (sortNat l).Perm l := by
  induction l with
  | nil => exact List.Perm.refl _
  | cons x xs ih =>
    simp only [sortNat]
    exact (insertNat_perm x _).trans (List.Perm.cons x ih)

theorem sortNat_ne_nil {l : List Nat} (h : l ≠ []) : sortNat l ≠ [] := by
  intro h'
  have := (sortNat_perm l).length_eq
  rw [h'] at this
  cases l with
  | nil => exact h rfl
  | cons x xs => simp at this

theorem isPartition_of_perm {parts cons : List Nat} {a : Assignment}
    (hk : keys a = sortNat cons) (hperm : (flat a).Perm parts) (hp : parts.Nodup) :
    isPartition parts cons a = true := by
  have hnd : (flat a).Nodup := hperm.nodup_iff.mpr hp
  simp only [isPartition, Bool.and_eq_true, beq_iff_eq, List.all_eq_true, List.contains_iff_mem]
  refine ⟨⟨hk, ?_⟩, ?_⟩
  · intro p hpm
    rw [hnd.count, if_pos (hperm.mem_iff.mpr hpm)]
  · intro p hpm
    exact hperm.mem_iff.mp hpm

/-- the converse: the spec is not weaker than intended; the consumer group's invariant reads a strategy's result through
    it (`flat_assignWith_nodup`) -/
theorem perm_of_isPartition {parts cons : List Nat} {a : Assignment} (hp : parts.Nodup)
    (h : isPartition parts cons a = true) : keys a = sortNat cons ∧ (flat a).Perm parts := by
  simp only [isPartition, Bool.and_eq_true, beq_iff_eq, List.all_eq_true,
    List.contains_iff_mem] at h
  refine ⟨h.1.1, ?_⟩
  rw [List.perm_iff_count]
  intro p
  by_cases hm : p ∈ parts
  · rw [h.1.2 p hm, hp.count, if_pos hm]
  · have : p ∉ flat a := fun hx => hm (h.2 p hx)
    rw [List.count_eq_zero_of_not_mem this, List.count_eq_zero_of_not_mem hm]

theorem keys_rangeGo (b r i : Nat) (cs ps : List Nat) : keys (rangeGo b r i cs ps) = cs := by
  induction cs generalizing i ps with
  | nil => rfl
  | cons c cs ih =>
    show c :: keys (rangeGo b r (i + 1) cs _) = c :: cs
    rw [ih]

/-- the slices concatenate to a prefix whose length is the sum of the counts -/
theorem flat_rangeGo (b r i : Nat) (cs ps : List Nat) :
    flat (rangeGo b r i cs ps) = ps.take (cs.length * b + (min (i + cs.length) r - min i r)) := by
  induction cs generalizing i ps with
  | nil => simp [rangeGo, flat]
  | cons c cs ih =>
    simp only [rangeGo, flat, List.flatMap_cons]
    have := ih (i + 1) (ps.drop (b + if i < r then 1 else 0))
    simp only [flat] at this
    rw [this, ← List.take_add]
    congr 1
    simp only [List.length_cons, Nat.succ_mul]
    -- told which side each `min` takes, `omega` has no cases left to try
    by_cases hi : i < r
    · rw [if_pos hi, Nat.min_eq_left (Nat.le_of_lt hi), Nat.min_eq_left hi, show i + 1 + cs.length = i + (cs.length + 1) by omega]
      have := Nat.le_min.2 ⟨Nat.le_add_right (i + 1) cs.length, hi⟩
      omega
    · have hr : r ≤ i := Nat.le_of_not_lt hi
      rw [if_neg hi, Nat.min_eq_right hr, Nat.min_eq_right (by omega), Nat.min_eq_right (by omega),
        Nat.min_eq_right (by omega)]
      omega

theorem flat_rangeAssign (parts cons : List Nat) (hne : cons ≠ []) :
    flat (rangeAssign parts cons) = sortNat parts := by
  have hc : 0 < (sortNat cons).length := List.length_pos_iff.mpr (sortNat_ne_nil hne)
  simp only [rangeAssign, if_neg hne]
  rw [flat_rangeGo]
  apply List.take_of_length_le
  have h1 := Nat.div_add_mod (sortNat parts).length (sortNat cons).length
  have h2 := Nat.mod_lt (sortNat parts).length hc
  omega

/-- `a'` has the members of `a`, and its lists together hold, up to order, `ps` and what the lists of `a` held -/
def Deals (ps : List Nat) (a a' : Assignment) : Prop := keys a' = keys a ∧ (flat a').Perm (ps ++ flat a)

theorem Deals.refl (a : Assignment) : Deals [] a a := ⟨rfl, List.Perm.refl _⟩

theorem Deals.cons {p : Nat} {ps : List Nat} {a a₁ a' : Assignment} (h₁ : Deals [p] a a₁) (h₂ : Deals ps a₁ a') :
    Deals (p :: ps) a a' :=
  ⟨h₂.1.trans h₁.1, h₂.2.trans ((List.Perm.append_left ps h₁.2).trans List.perm_middle)⟩

theorem Deals.length {ps : List Nat} {a a' : Assignment} (h : Deals ps a a') : a'.length = a.length := by
  simpa [keys] using congrArg List.length h.1

theorem Deals.here (e : Nat × List Nat) (rest : Assignment) (p : Nat) :
    Deals [p] (e :: rest) ((e.1, e.2 ++ [p]) :: rest) := by
  refine ⟨rfl, ?_⟩
  simp only [flat, List.flatMap_cons, List.append_assoc]
  exact List.perm_middle

theorem Deals.below {p : Nat} {rest rest' : Assignment} (e : Nat × List Nat) (h : Deals [p] rest rest') :
    Deals [p] (e :: rest) (e :: rest') :=
  ⟨congrArg (e.1 :: ·) h.1, (List.Perm.append_left e.2 h.2).trans List.perm_middle⟩

theorem addAt_deals (j p : Nat) (a : Assignment) (h : j < a.length) : Deals [p] a (addAt j p a) := by
  induction a generalizing j with
  | nil => simp at h
  | cons e rest ih =>
    cases j with
    | zero => exact Deals.here e rest p
    | succ j => exact (ih j (by simpa using h)).below e

theorem rrGo_deals (c i : Nat) (ps : List Nat) (a : Assignment) (hc : 0 < c) (hl : a.length = c) :
    Deals ps a (rrGo c i ps a) := by
  induction ps generalizing i a with
  | nil => exact Deals.refl a
  | cons p ps ih =>
    have h₁ := addAt_deals (i % c) p a (by rw [hl]; exact Nat.mod_lt i hc)
    exact h₁.cons (ih (i + 1) _ (h₁.length.trans hl))

theorem keys_emptyAssign (l : List Nat) : keys (emptyAssign l) = l := by
  simp [keys, emptyAssign, Function.comp_def]

theorem flat_emptyAssign (l : List Nat) : flat (emptyAssign l) = [] := by
  induction l with
  | nil => rfl
  | cons x xs ih => simp [flat, emptyAssign]

theorem addMin_deals (p : Nat) (a : Assignment) (h : a ≠ []) : Deals [p] a (addMin p a) := by
  induction a with
  | nil => exact absurd rfl h
  | cons e rest ih =>
    simp only [addMin]
    split
    · exact Deals.here e rest p
    · next hn => exact (ih (by intro hr; subst hr; simp at hn)).below e

theorem distribute_deals (ps : List Nat) (a : Assignment) (h : a ≠ []) : Deals ps a (distribute ps a) := by
  induction ps generalizing a with
  | nil => exact Deals.refl a
  | cons p ps ih =>
    have h₁ := addMin_deals p a h
    exact h₁.cons (ih _ fun e => h (List.length_eq_zero_iff.1 (by rw [← h₁.length, e]; rfl)))

end HappyModel.C19
