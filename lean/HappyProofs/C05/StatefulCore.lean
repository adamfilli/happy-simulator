import HappyProofs.C05.ParExec
import HappyProofs.Lib.Lists
/-!
Generic form of the main clause for entity-local *stateful* handlers: for any outcome `parts` of a
partitioned run that is an execution of the abstract system (`ParExecOf`) and the sequential run
started with any creation counter `n0`.
-/
namespace HappyModel.C05

variable {τ : Type}

def replay (hE : EHandler τ) (σ0 : τ) (ds : List PEv) : τ := ds.foldl (fun σ d => (hE σ d).1) σ0

theorem arun_st_replay (hE : EHandler τ) (x : Nat) (E : List PEv) : ∀ s : AS τ,
    (arun hE s E).st x = replay hE (s.st x) (E.filter (fun d => d.tgt == x)) := by
  induction E with
  | nil => intro s; rfl
  | cons d ds ih =>
    intro s
    simp only [arun]
    rw [ih]
    by_cases h : d.tgt = x
    · subst h
      simp [astep, replay]
    · have h' : ¬ x = d.tgt := fun e => h e.symm
      simp [astep, h, h']

theorem TInv.init {hE : EHandler τ} {c : Cfg} {ids : List Nat} {start T : Nat} {evs : List Ev}
    {ps : List (Part (Nat → τ))} {st : Nat → τ} (hi : ParInit c ids start evs ps)
    (hstart : ∀ e ∈ evs, start ≤ e.time) (hT : start ≤ T) (hst : ∀ p ∈ ps, p.st = st) :
    TInv hE c ids ⟨st, evs.map proj⟩ T start ps := by
  refine ⟨hi.safe hstart, hT, hi.pids, hi.logInv, [], trivial, ⟨?_, ?_⟩, ?_, by simp⟩
  · intro p hp x _
    rw [hst p hp]; rfl
  · simp only [arun, List.append_nil, sysPend_of_outEmpty hi.outEmpty]
    exact (hi.split.map proj).symm
  · intro p hp
    simp [(hi.fresh p hp).1]


theorem TieEquiv.symm {a b : List Obs} (h : TieEquiv a b) : TieEquiv b a := ⟨h.2.1, h.1, h.2.2.symm⟩

theorem seqTrace_entProj (hE : EHandler τ) (T fuel start : Nat) (st : Nat → τ) (evs : List Ev) (n0 x : Nat) :
    upTo T ((runSeq (liftP hE) T fuel (Part.initCtr 0 start st evs n0)).obsLog x)
      = entProj x (seqTrace hE T fuel start st evs n0) := by
  unfold Part.obsLog seqTrace
  rw [upTo_obs]

theorem upTo_le (T T' : Nat) (hT : T' ≤ T) (l : List PEv) :
    (l.filter (fun e => e.time ≤ T)).filter (fun e => e.time ≤ T') = l.filter (fun e => e.time ≤ T') := by
  rw [List.filter_filter]
  apply List.filter_congr
  intro e _
  by_cases h : e.time ≤ T'
  · have : e.time ≤ T := by omega
    simp [h, this]
  · simp [h]

theorem upTo_obsLog (hE : EHandler τ) {T T' : Nat} (hT : T' ≤ T) (fuel start : Nat) (st : Nat → τ)
    (evs : List Ev) (n0 x : Nat) :
    upTo T' ((runSeq (liftP hE) T fuel (Part.initCtr 0 start st evs n0)).obsLog x)
      = entProj x (upToT T' (seqTrace hE T fuel start st evs n0)) := by
  unfold Part.obsLog seqTrace upToT
  rw [upTo_obs, upTo_le T T' hT]

theorem owned_of_filters {c : Cfg} {parts : List (Part (Nat → τ))} {E : List PEv}
    (hlogs : ∀ p ∈ parts, E.filter (ownB c p.pid) = p.log.reverse.map proj) :
    ∀ p ∈ parts, ∀ d ∈ p.log, Owns c p.pid d := by
  intro p hp d hd
  have h1 : proj d ∈ p.log.reverse.map proj := List.mem_map.mpr ⟨d, by simpa using hd, rfl⟩
  rw [← hlogs p hp] at h1
  have := (List.mem_filter.mp h1).2
  simpa [ownB, Owns, proj] using this

theorem parObs_entProj {c : Cfg} {ids : List Nat} {parts : List (Part (Nat → τ))} {E : List PEv}
    (hids : ids.Nodup) (hpids : parts.map (·.pid) = ids)
    (hlogs : ∀ p ∈ parts, E.filter (ownB c p.pid) = p.log.reverse.map proj)
    (htg : ∀ d ∈ E, c.part d.tgt ∈ ids) (T x : Nat) :
    (upTo T (parObs parts x)).Perm (entProj x (E.filter (fun e => e.time ≤ T))) := by
  unfold parObs
  rw [upTo_obs]
  have h1 : (parts.flatMap (fun p => p.log.reverse)).map proj
      = (parts.map (·.pid)).flatMap (fun i => E.filter (fun a => c.part a.tgt == i)) := by
    rw [List.map_flatMap, List.flatMap_map]
    apply flatMap_congr_mem
    intro p hp
    exact (hlogs p hp).symm
  rw [h1, hpids]
  exact entProj_perm ((partition_perm ids hids (fun d : PEv => c.part d.tgt) E htg).filter _)

def TieCommutative (hE : EHandler τ) : Prop :=
  ∀ a d : PEv, a.tgt = d.tgt → a.time = d.time → CommAt hE a d

def NoTies (l : List Obs) : Prop := l.Pairwise (fun a b => a.1 < b.1)

instance (l : List Obs) : Decidable (NoTies l) := by unfold NoTies; infer_instance

theorem NoTies.inj {l : List Obs} (h : NoTies l) : ∀ u ∈ l, ∀ v ∈ l, u.1 = v.1 → u = v := by
  have h' : l.Pairwise (fun u v => u.1 = v.1 → u = v) := h.imp (fun hlt he => by omega)
  exact fun u hu v hv e => Classical.byContradiction fun ne =>
    ne (pairwise_mem_ne (fun hab he => (hab he.symm).symm) h' u hu v hv ne e)

theorem TieEquiv.eq_of_noTies {a b : List Obs} (h : TieEquiv a b) (hn : NoTies b) : a = b := by
  obtain ⟨ha, hb, hp⟩ := h
  unfold TimeSorted at ha hb
  refine List.Perm.eq_of_pairwise (le := fun (u v : Obs) => u.1 ≤ v.1) ?_ ha hb hp
  intro u v hu hv h1 h2
  exact hn.inj u (hp.mem_iff.mp hu) v hv (by omega)

theorem noTieL_of_inj {E : List PEv}
    (h : ∀ x, ∀ u ∈ entProj x E, ∀ v ∈ entProj x E, u.1 = v.1 → u = v) : NoTieL E := by
  intro a ha b hb hne htg htm
  have mk : ∀ e ∈ E, e.tgt = a.tgt → (e.time, e.kind) ∈ entProj a.tgt E := fun e he hte =>
    List.mem_map.mpr ⟨e, List.mem_filter.mpr ⟨he, by simpa using hte⟩, rfl⟩
  have hk := (Prod.mk.inj (h a.tgt _ (mk a ha rfl) _ (mk b hb htg.symm) htm)).2
  apply hne
  cases a; cases b
  simp only [PEv.mk.injEq]
  exact ⟨htm, htg, hk⟩

theorem tieEquiv_of_perm (hE : EHandler τ) {c : Cfg} {ids : List Nat} {fuel T T' start n0 : Nat}
    {st : Nat → τ} {evs : List Ev} {parts : List (Part (Nat → τ))} {E2 : List PEv} (hT : T' ≤ T)
    (hids : ids.Nodup) (hpids : parts.map (·.pid) = ids)
    (hlogs : ∀ p ∈ parts, E2.filter (ownB c p.pid) = p.log.reverse.map proj)
    (htg : ∀ d ∈ E2, c.part d.tgt ∈ ids) (hlinv : ∀ p ∈ parts, LogInv p)
    (hperm : (upToT T' (seqTrace hE T fuel start st evs n0)).Perm (upToT T' E2)) (x : Nat) :
    TieEquiv (upTo T' ((runSeq (liftP hE) T fuel (Part.initCtr 0 start st evs n0)).obsLog x))
      (upTo T' (parObs parts x)) := by
  refine ⟨?_, ?_, ?_⟩
  · exact List.Pairwise.filter _ (obsLog_sorted ((LogInv.initCtr 0 start st evs n0).run fuel) x)
  · exact List.Pairwise.filter _ (parObs_sorted c _ x (hpids ▸ hids) (owned_of_filters hlogs) hlinv)
  · rw [upTo_obsLog hE hT]
    exact (entProj_perm hperm).trans (parObs_entProj hids hpids hlogs htg T' x).symm

/-- both runs as executions of the abstract system, `confluence` / `confluence_noties` applied.  The
    second alternative of `hcomm` speaks of every `E2` whose projections are the observed logs, so that
    a caller discharges it from `parObs` alone, without the execution hidden in `ParExecOf`
    (`par_eq_seq_no_ties_observed` does). -/
theorem stateful_core_of (hE : EHandler τ) (c : Cfg) (ids : List Nat) (fuel endT start n0 : Nat)
    (st : Nat → τ) (evs : List Ev) (parts : List (Part (Nat → τ)))
    (hids : ids.Nodup) (hstart : ∀ e ∈ evs, start ≤ e.time)
    (hseq : Halted (liftP hE) seqRoute false endT (runSeq (liftP hE) endT fuel (Part.initCtr 0 start st evs n0)))
    (hex : ParExecOf hE c ids ⟨st, evs.map proj⟩ endT parts)
    (hcomm : NoTieL (seqTrace hE endT fuel start st evs n0) ∨ ∀ E2 : List PEv,
      (∀ x, (upTo endT (parObs parts x)).Perm (entProj x E2)) → TieComm hE E2) :
    (∀ x, TieEquiv (upTo endT ((runSeq (liftP hE) endT fuel (Part.initCtr 0 start st evs n0)).obsLog x))
      (upTo endT (parObs parts x)))
    ∧ (∀ p ∈ parts, ∀ x, c.part x = p.pid →
          p.st x = replay hE (st x) ((seqTrace hE endT fuel start st evs n0).filter (fun d => d.tgt == x))) := by
  obtain ⟨hv1, hm1, hle1, hfin1⟩ := seq_exec hE endT fuel start st evs n0 hstart hseq
  obtain ⟨E2, hv2, hs2, hle2, hfin2, hst2, hlogs, htg, hpids, hlinv⟩ := hex
  have hall : upToT endT E2 = E2 := List.filter_eq_self.mpr fun e he => by simpa using hle2 e he
  obtain ⟨hperm, hsteq⟩ : (seqTrace hE endT fuel start st evs n0).Perm E2
      ∧ (arun hE ⟨st, evs.map proj⟩ (seqTrace hE endT fuel start st evs n0)).st
        = (arun hE ⟨st, evs.map proj⟩ E2).st := by
    rcases hcomm with hnt | hcomm
    · exact confluence_noties hE endT _ E2 _ _ (AEq.refl _) hv1 hm1 hle1 hfin1 hnt hv2 hs2 hle2 hfin2
    · exact confluence hE endT _ E2 _ _ (AEq.refl _) hv1 hm1 hle1 hfin1 hv2 hs2 hle2 hfin2
        (hcomm E2 fun x => hall ▸ parObs_entProj hids hpids hlogs htg endT x)
  refine ⟨tieEquiv_of_perm hE (Nat.le_refl _) hids hpids hlogs htg hlinv (hperm.filter _), ?_⟩
  intro p hp x hx
  rw [← hst2 p hp x hx, ← hsteq, arun_st_replay]

theorem agree_before_first_tie_of (hE : EHandler τ) (c : Cfg) (ids : List Nat) (fuel endT start n0 T' : Nat)
    (st : Nat → τ) (evs : List Ev) (parts : List (Part (Nat → τ)))
    (hids : ids.Nodup) (hT : T' ≤ endT) (hstart : ∀ e ∈ evs, start ≤ e.time)
    (hseq : Halted (liftP hE) seqRoute false endT (runSeq (liftP hE) endT fuel (Part.initCtr 0 start st evs n0)))
    (hex : ParExecOf hE c ids ⟨st, evs.map proj⟩ endT parts)
    (hnt : ∀ x, NoTies (upTo T' ((runSeq (liftP hE) endT fuel (Part.initCtr 0 start st evs n0)).obsLog x))) :
    ∀ x, upTo T' ((runSeq (liftP hE) endT fuel (Part.initCtr 0 start st evs n0)).obsLog x)
      = upTo T' (parObs parts x) := by
  obtain ⟨hv1, hm1, _, hfin1⟩ := seq_exec hE endT fuel start st evs n0 hstart hseq
  obtain ⟨E2, hv2, hs2, _, hfin2, _, hlogs, htg, hpids, hlinv⟩ := hex
  have hperm := confluence_prefix hE endT T' hT _ E2 _ hv1 hm1 hfin1
    (noTieL_of_inj fun x => upTo_obsLog hE hT fuel start st evs n0 x ▸ (hnt x).inj) hv2 hs2 hfin2
  exact fun x =>
    ((tieEquiv_of_perm hE hT hids hpids hlogs htg hlinv hperm x).symm.eq_of_noTies (hnt x)).symm

end HappyModel.C05
