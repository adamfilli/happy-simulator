import HappyProofs.C19.Assign
import HappyProofs.C19.Lists
import HappyProofs.C19.StreamStep
/-!
The group's member list has no duplicates (a join only adds an absent name, a leave erases one),
the lists remembered by the sticky strategy are disjoint (`GInv`), and every rebalance calls the strategy
on `0 … n-1` and the current members — so by `HappyProofs.C19.Assign` every rebalance result is a
partition (or `{}` for an empty group), whatever the order of the join / leave segments.
-/
namespace HappyModel.C19

theorem assignWith_callOk (st : Strategy) (prev : Assignment) (hprev : (flat prev).Nodup)
    (n : Nat) (members : List Nat) (hm : members.Nodup) :
    callOk (List.range n, members) (assignWith st prev (List.range n) members) = true := by
  unfold callOk
  by_cases hne : members = []
  · subst hne
    cases st <;> simp [assignWith, rangeAssign, rrAssign, stickyAssign]
  · have he : members.isEmpty = false := by simpa using hne
    simp only [he]
    cases st with
    | range => exact range_is_partition _ _ hm List.nodup_range hne
    | rr => exact rr_is_partition _ _ hm List.nodup_range hne
    | sticky => exact sticky_step_is_partition prev hprev _ _ hm List.nodup_range hne

theorem flat_filter_sublist (a : Assignment) (f : Nat × List Nat → Bool) :
    (flat (a.filter f)).Sublist (flat a) := by
  induction a with
  | nil => exact List.Sublist.refl _
  | cons e rest ih =>
    show (flat (List.filter f (e :: rest))).Sublist (e.2 ++ flat rest)
    by_cases he : f e = true
    · rw [List.filter_cons_of_pos he]
      exact List.Sublist.append (List.Sublist.refl _) ih
    · rw [List.filter_cons_of_neg he]
      exact List.sublist_append_of_sublist_right ih

theorem flat_assignWith_nodup (st : Strategy) (prev : Assignment) (n : Nat) (members : List Nat)
    (hprev : (flat prev).Nodup) (hm : members.Nodup) :
    (flat (assignWith st prev (List.range n) members)).Nodup := by
  have h := assignWith_callOk st prev hprev n members hm
  unfold callOk at h
  split at h
  · rw [List.isEmpty_iff.1 h]; exact List.nodup_nil
  · exact (perm_of_isPartition List.nodup_range h).2.nodup_iff.mpr List.nodup_range

theorem mine_nodup (s : Stream) (c : Nat) (h : (flat s.asg).Nodup) : (s.mine c).Nodup := by
  unfold Stream.mine
  cases hl : s.asg.lookup c with
  | none => exact List.nodup_nil
  | some l =>
    have hm : l ∈ s.asg.map (·.2) := List.mem_map.mpr ⟨_, mem_of_lookup hl, rfl⟩
    have hs := List.sublist_flatten_of_mem hm
    rw [← List.flatMap_def] at hs
    exact List.Nodup.sublist hs h

/-- the group: no member twice, and both the current assignment and the sticky strategy's memory give every
    partition to at most one member -/
structure GInv (s : Stream) : Prop where
  asg : (flat s.asg).Nodup
  prev : (flat s.prev).Nodup
  mem : s.members.Nodup

theorem GInv.rebalance {s : Stream} (h : GInv s) (cfg : SCfg) : GInv (s.rebalance cfg) := by
  have ha := flat_assignWith_nodup cfg.strat s.prev cfg.n s.members h.prev h.mem
  refine ⟨ha, ?_, h.mem⟩
  show (flat (if cfg.strat = .sticky then _ else s.prev)).Nodup
  split
  · exact ha
  · exact h.prev

theorem GInv.step {s : Stream} (h : GInv s) (cfg : SCfg) (t : Nat) (a : SAct) : GInv (s.step cfg t a).1 := by
  cases a with
  | joinA c => exact { h with mem := insertNew_nodup h.mem c }
  | joinB c | leaveB c => exact h.rebalance cfg
  | leaveA c => exact { h with asg := List.Nodup.sublist (flat_filter_sublist _ _) h.asg, mem := h.mem.erase c }
  | commit c offs =>
    exact ⟨(commit_asg cfg s c offs).symm ▸ h.asg, (commit_prev cfg s c offs).symm ▸ h.prev,
      (commit_members cfg s c offs).symm ▸ h.mem⟩
  | _ => exact ⟨h.asg, h.prev, h.mem⟩

theorem rebalance_run (cfg : SCfg) : ∀ (sched : List (Nat × SAct)) (s : Stream) (members : List Nat),
    members = s.members ∧ GInv s → jRebalance cfg.n members (Stream.run cfg s sched) = none := by
  refine run_accepts cfg (jRebalance cfg.n) (fun _ => rfl) (fun s m _ => m = s.members ∧ GInv s) ?_
  rintro s _ t a rest ⟨rfl, h⟩
  refine ⟨(s.step cfg t a).1.members, fun rs => ?_, rfl, h.step cfg t a⟩
  cases a with
  | joinB c | leaveB c =>
    have hok := assignWith_callOk cfg.strat s.prev h.prev cfg.n s.members h.mem
    simp only [Stream.step, jRebalance]
    rw [show (s.rebalance cfg).asg = assignWith cfg.strat s.prev (List.range cfg.n) s.members from rfl, if_pos hok]
    rfl
  | commit c offs => simp only [Stream.step, jRebalance, commit_members]
  | _ => rfl

theorem rebalance_is_partition (cfg : SCfg) (sched : List (Nat × SAct)) :
    jRebalance cfg.n [] (Stream.run cfg (Stream.init cfg.n) sched) = none :=
  rebalance_run cfg sched (Stream.init cfg.n) [] ⟨rfl, List.nodup_nil, List.nodup_nil, List.nodup_nil⟩

/-! the statement is not vacuous: 5 partitions, three joins whose segments overlap, a leave
overlapping a join, every strategy; and the judge does reject a wrong assignment -/

def groupDemoSched : List (Nat × SAct) :=
  [(0, .joinA 2), (1, .joinA 0), (2, .joinB 2), (3, .joinA 1), (4, .joinB 0), (5, .leaveA 2),
   (6, .joinB 1), (7, .leaveB 2), (8, .leaveA 0), (9, .leaveA 1), (10, .leaveB 0), (11, .leaveB 1)]

example : jRebalance 5 [] (Stream.run { n := 5, strat := .range } (Stream.init 5) groupDemoSched) = none := by
  decide +kernel
example : jRebalance 5 [] (Stream.run { n := 5, strat := .rr } (Stream.init 5) groupDemoSched) = none := by
  decide +kernel
example : jRebalance 5 [] (Stream.run { n := 5, strat := .sticky } (Stream.init 5) groupDemoSched) = none := by
  decide +kernel
example : ((Stream.run { n := 5, strat := .sticky } (Stream.init 5) groupDemoSched).map (·.out)).getD 6 .unit
    = .rebalanced 3 [(0, [0, 2, 4]), (1, [1, 3])] [1, 3] := by decide +kernel
example : ((Stream.run { n := 5, strat := .range } (Stream.init 5) groupDemoSched).map (·.out)).getD 4 .unit
    = .rebalanced 2 [(0, [0, 1]), (1, [2, 3]), (2, [4])] [0, 1] := by decide +kernel
example : jRebalance 2 [] [⟨0, .joinA 0, .unit⟩, ⟨1, .joinA 1, .unit⟩,
    ⟨2, .joinB 0, .rebalanced 1 [(0, [0, 1]), (1, [1])] [0, 1]⟩] = some "group/assignment/not-a-partition" := by
  decide +kernel

end HappyModel.C19
