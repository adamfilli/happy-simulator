import HappyProofs.C03.Rename
import HappyProofs.C03.Layout
import HappyProofs.C03.Coordinator
import HappyModel.C03.Spec
/-!
"Building the same model with the same seeds and running it yields the identical sequence of
(time, event type, target) deliveries and identical component statistics, regardless of which other
simulations were built or run earlier in the process, of the interpreter's hash randomisation, and of
wall-clock time."

What Lean carries: every model in this project is a *function* of its explicit inputs, so "same
inputs ⇒ same run" is reflexivity (`run_ignores_foreign_state`).  The non-trivial part is that the one
piece of process history that does reach the engine — how far the global creation counter had
advanced when the model's events were created — is not observable (`Rename.lean`), nor is the layout of the heap
(`Layout.lean`) or the order in which worker threads complete a window (`Exchange.lean`, `Coordinator.lean`).

Hash randomisation, uuid4, wall clock and `id()` are not in any model: the cross-environment digests
(`hv/props/c03.py`) decide them, judged by `Holds` (`judge_none_iff_holds`).
-/
namespace HappyModel.C03
open HappyModel.C01

variable {σ : Type}

/-- **by construction**: the model's run is a function of the engine state alone — whatever else
    exists in the interpreter (`w`, `w'`: other simulations, counters, wall clock, hash seed) cannot
    influence it.  This is reflexivity; it is recorded because it is exactly the part of C03 that the
    *implementation* has to earn, and that the cross-environment digests check. -/
theorem run_ignores_foreign_state {W : Type} (proj : W → St σ) (mc : Machine σ) (endT : Option Nat)
    (n : Nat) (w w' : W) (h : proj w = proj w') : run mc endT n (proj w) = run mc endT n (proj w') := by
  rw [h]

theorem differs_false_iff (a b : Obs) : differs a b = false ↔ (a.sha = b.sha ∧ a.len = b.len) := by
  unfold differs; simp

theorem judge_none_iff_holds (obs : List Obs) : judge obs = none ↔ Holds obs := by
  have hfirst : ∀ o ∈ obs, ∃ f ∈ obs, firstOf obs o.scen = some f ∧ f.scen = o.scen := fun o ho => by
    cases hf : firstOf obs o.scen with
    | none => exact absurd (List.find?_eq_none.mp hf o ho) (by simp)
    | some f => exact ⟨f, List.mem_of_find?_eq_some hf, rfl, by simpa using List.find?_some hf⟩
  unfold judge Holds
  split
  · next h =>
    rw [List.find?_eq_none] at h
    simp only [true_iff]
    intro a ha b hb hab
    obtain ⟨f, _, hfa, _⟩ := hfirst a ha
    have h1 := h a ha
    have h2 := h b hb
    simp [bad, hfa, ← hab, differs] at h1 h2
    grind
  · next o h =>
    have hb := List.find?_some h
    obtain ⟨f, hf, hfo, hfs⟩ := hfirst o (List.mem_of_find?_eq_some h)
    simp only [hfo, reduceCtorEq, false_iff]
    intro hh
    have := hh f hf o (List.mem_of_find?_eq_some h) hfs
    simp [bad, hfo, differs, this] at hb

/-- an id-oblivious handler with ties between pre-run and in-run events: the renumbered state
    (indices 0,1,2 ↦ 10,20,30, counter at 100) delivers the same observable sequence -/
example :
    let mc : Machine Unit :=
      { handle := fun _ now e => { ent := (), specs := if e.kind = 0 then [⟨now + 1, 0, 9, false, 0, 0⟩] else [] } }
    let s := init () 0 [⟨1, 0, 0, false, 0, 0⟩, ⟨2, 0, 1, false, 0, 0⟩, ⟨2, 0, 2, false, 0, 0⟩]
    let f : Nat → Nat := fun i => 10 * (i + 1)
    (run mc (some 10) 10 (renSt (extend f s.nextId 100) id 100 s)).log.map (·.id) = [10, 20, 30, 100] ∧
    (run mc (some 10) 10 s).log.map (·.id) = [0, 1, 2, 3] ∧
    (run mc (some 10) 10 (renSt (extend f s.nextId 100) id 100 s)).log.map obs = (run mc (some 10) 10 s).log.map obs := by
  decide +kernel

example : Holds [⟨0, "queues", "inproc", "ab", 7⟩, ⟨0, "queues", "sub-h1", "ab", 7⟩, ⟨1, "sync", "inproc", "cd", 9⟩] := by decide
example : ¬ Holds [⟨0, "sketching", "inproc", "ab", 7⟩, ⟨0, "sketching", "sub-h1", "ff", 7⟩] := by decide

end HappyModel.C03
