import HappyProofs.C01.Props
import HappyModel.C01.Spec
/-!
The trace the model itself writes, and its link with the engine state.

`traceOf` is built along the run as the harness records it — a delivery line when a handler is entered, then the
creations and the cancels of that handler — in the judge's parsed form `Spec.Trace`; the tag of an event is its
creation index + 1, so that no model event is "untagged".  `Link` relates an engine state to the trace written so far
and is kept by every pop; clauses 1–5 of `Spec.judge` are read off it.  The same walk keeps what clauses 6 and 7
(`TraceLive.lean`) need: `Link.h7`, and the record `GateLink` of the crash gate over a flag `Flags` that the `C` / `U`
lines keep up with.
-/
namespace HappyModel.C01
open HappyModel.C01.Spec (Trace Created Deliv)

variable {σ : Type}

/-- the `c` line of an event created at trace position `p` -/
def cOf (e : Ev) (p : Nat) : Created := ⟨e.id + 1, e.time, e.target, e.daemon, e.born, p⟩

def mkCreated : Nat → List Ev → List Created
  | _, [] => []
  | p, e :: r => cOf e p :: mkCreated (p + 1) r

/-- `x` lines: `cancel()` called on the events with these creation indices -/
def mkCancels : Nat → List Nat → List (Nat × Nat)
  | _, [] => []
  | p, i :: r => (i + 1, p) :: mkCancels (p + 1) r

def mkFlags : Nat → List (Nat × Bool) → List (Nat × Bool × Nat)
  | _, [] => []
  | p, f :: r => (f.1, f.2, p) :: mkFlags (p + 1) r

/-- what one loop iteration adds to the trace: nothing for a pop that runs no handler; otherwise the
    delivery line, then the creations and the cancels of the handler, then the `C` / `U` lines of the
    entities it crashed / restored (`fl before after`: which ones, as the model at hand defines it;
    `fun _ _ => []` for a machine without crash gate) -/
def traceStep (fl : σ → σ → List (Nat × Bool)) (mc : Machine σ) (s : St σ) (t : Trace) (e : Ev) : Trace :=
  if s.cancelled.contains e.id then t
  else if e.time < s.now then t
  else if mc.crashed s.ent e then t
  else
    let o := mc.handle s.ent e.time e
    let evs := mkEvents s.nextId e.time o.specs
    { t with delivs := t.delivs ++ [⟨e.id + 1, e.time, some e.time, t.len⟩],
             created := t.created ++ mkCreated (t.len + 1) evs,
             cancels := t.cancels ++ mkCancels (t.len + 1 + evs.length) o.cancels,
             flags := t.flags ++ mkFlags (t.len + 1 + evs.length + o.cancels.length) (fl s.ent o.ent),
             len := t.len + 1 + evs.length + o.cancels.length + (fl s.ent o.ent).length }

def initTrace (start : Nat) (pre : List Spec) : Trace :=
  { created := mkCreated 0 (mkEvents 0 start pre), len := pre.length }

def traceRun (fl : σ → σ → List (Nat × Bool)) (mc : Machine σ) (endT : Option Nat) : Nat → St σ → Trace → Trace
  | 0, _, t => t
  | n+1, s, t =>
    match s.heap with
    | [] => t
    | x :: xs =>
      if continues endT s then
        traceRun fl mc endT n (stepWith mc s (minOf x xs)) (traceStep fl mc s t (minOf x xs))
      else t

def traceOf (fl : σ → σ → List (Nat × Bool)) (mc : Machine σ) (ent : σ) (start : Nat) (pre : List Spec)
    (endT : Option Nat) (n : Nat) : Trace :=
  { traceRun fl mc endT n (init ent start pre) (initTrace start pre) with
    endClock := (runFrom mc ent start pre endT n).now, endT := endT }

/-- the record in the last branch of `traceStep`: `step_trace_cases` states its case `delivered` with it, by `rfl` -/
abbrev traceDeliver (t : Trace) (e : Ev) (evs : List Ev) (cancels : List Nat) (fls : List (Nat × Bool)) : Trace :=
  { t with delivs := t.delivs ++ [⟨e.id + 1, e.time, some e.time, t.len⟩],
           created := t.created ++ mkCreated (t.len + 1) evs,
           cancels := t.cancels ++ mkCancels (t.len + 1 + evs.length) cancels,
           flags := t.flags ++ mkFlags (t.len + 1 + evs.length + cancels.length) fls,
           len := t.len + 1 + evs.length + cancels.length + fls.length }

/-- `stepWith_cases` with the trace: only a delivery writes lines -/
@[elab_as_elim]
theorem step_trace_cases {motive : St σ → Trace → Prop} (fl : σ → σ → List (Nat × Bool)) (mc : Machine σ)
    (s : St σ) (t : Trace) (e : Ev)
    (cancelled : e.id ∈ s.cancelled →
      motive (s.skip e .cancelled s.now s.processed (s.nCancelled + 1) s.nStale) t)
    (stale : e.id ∉ s.cancelled → e.time < s.now →
      motive (s.skip e .stale s.now s.processed s.nCancelled (s.nStale + 1)) t)
    (gated : e.id ∉ s.cancelled → s.now ≤ e.time → mc.crashed s.ent e = true →
      motive (s.skip e .gated e.time (s.processed + 1) s.nCancelled s.nStale) t)
    (delivered : e.id ∉ s.cancelled → s.now ≤ e.time → mc.crashed s.ent e = false →
      motive (s.deliver e (mc.handle s.ent e.time e))
        (traceDeliver t e (mkEvents s.nextId e.time (mc.handle s.ent e.time e).specs)
          (mc.handle s.ent e.time e).cancels (fl s.ent (mc.handle s.ent e.time e).ent))) :
    motive (stepWith mc s e) (traceStep fl mc s t e) := by
  unfold traceStep
  refine stepWith_cases mc s e (fun hc => ?_) (fun hc hs => ?_) (fun hc hn hg => ?_) (fun hc hn hg => ?_)
  · rw [if_pos (List.contains_iff_mem.mpr hc)]; exact cancelled hc
  · rw [if_neg (mt List.contains_iff_mem.mp hc), if_pos hs]; exact stale hc hs
  · rw [if_neg (mt List.contains_iff_mem.mp hc), if_neg (Nat.not_lt.mpr hn), if_pos hg]; exact gated hc hn hg
  · rw [if_neg (mt List.contains_iff_mem.mp hc), if_neg (Nat.not_lt.mpr hn), if_neg (by simp [hg])]
    exact delivered hc hn hg

theorem traceRun_induction {motive : St σ → Trace → Prop} (fl : σ → σ → List (Nat × Bool)) (mc : Machine σ)
    (endT : Option Nat)
    (pop : ∀ s t m, motive s t → m ∈ s.heap → (∀ y ∈ s.heap, keyLt y m = false) → continues endT s = true →
      motive (stepWith mc s m) (traceStep fl mc s t m))
    (n : Nat) (s : St σ) (t : Trace) (h : motive s t) :
    motive (run mc endT n s) (traceRun fl mc endT n s t) :=
  run_ghost_induction mc endT (traceStep fl mc) (traceRun fl mc endT) (fun _ _ => rfl) (fun _ _ _ => rfl) pop n s t h

theorem mkCreated_eq (p : Nat) (evs : List Ev) : mkCreated p evs = numbered cOf p evs := by
  induction evs generalizing p with
  | nil => rfl
  | cons e r ih => rw [mkCreated, ih]; rfl

theorem mkCancels_eq (p : Nat) (l : List Nat) : mkCancels p l = numbered (fun i q => (i + 1, q)) p l := by
  induction l generalizing p with
  | nil => rfl
  | cons i r ih => rw [mkCancels, ih]; rfl

theorem mkFlags_eq (p : Nat) (l : List (Nat × Bool)) : mkFlags p l = numbered (fun f q => (f.1, f.2, q)) p l := by
  induction l generalizing p with
  | nil => rfl
  | cons f r ih => rw [mkFlags, ih]; rfl

theorem traceDeliver_lines (t : Trace) (m : Ev) (evs : List Ev) (cancels : List Nat) (fls : List (Nat × Bool)) :
    t.len < (traceDeliver t m evs cancels fls).len ∧
    (∀ c ∈ mkCreated (t.len + 1) evs, (∃ e ∈ evs, c = cOf e c.pos) ∧ t.len < c.pos ∧
      c.pos < (traceDeliver t m evs cancels fls).len) ∧
    (∀ x ∈ mkCancels (t.len + 1 + evs.length) cancels, t.len < x.2 ∧
      x.2 < (traceDeliver t m evs cancels fls).len) ∧
    (∀ f ∈ mkFlags (t.len + 1 + evs.length + cancels.length) fls, (f.1, f.2.1) ∈ fls ∧ t.len < f.2.2 ∧
      f.2.2 < (traceDeliver t m evs cancels fls).len) := by
  refine ⟨by show t.len < t.len + 1 + _ + _ + _; omega, fun c hc => ?_, fun x hx => ?_, fun f hf => ?_⟩
  · obtain ⟨e, he, q, rfl, h1, h2⟩ := mem_numbered (mkCreated_eq _ _ ▸ hc)
    exact ⟨⟨e, he, rfl⟩, by show t.len < q; omega, by show q < t.len + 1 + _ + _ + _; omega⟩
  · obtain ⟨i, _, q, rfl, h1, h2⟩ := mem_numbered (mkCancels_eq _ _ ▸ hx)
    exact ⟨by show t.len < q; omega, by show q < t.len + 1 + _ + _ + _; omega⟩
  · obtain ⟨a, ha, q, rfl, h1, h2⟩ := mem_numbered (mkFlags_eq _ _ ▸ hf)
    exact ⟨ha, by show t.len < q; omega, h2⟩

theorem adjOk_of_pairwise {α} (ok : α → α → Bool) (l : List α) (h : l.Pairwise (fun a b => ok a b = true)) :
    Spec.adjOk ok l = true := by
  induction l with
  | nil => rfl
  | cons a r ih =>
    cases r with
    | nil => rfl
    | cons b r' =>
      rw [List.pairwise_cons] at h
      simp only [Spec.adjOk, Bool.and_eq_true]
      exact ⟨h.1 b List.mem_cons_self, ih h.2⟩

theorem pairwiseOk_of_pairwise {α} (ok : α → α → Bool) (l : List α) (h : l.Pairwise (fun a b => ok a b = true)) :
    Spec.pairwiseOk ok l = true := by
  induction l with
  | nil => rfl
  | cons a r ih =>
    rw [List.pairwise_cons] at h
    simp only [Spec.pairwiseOk, Bool.and_eq_true, List.all_eq_true]
    exact ⟨h.1, ih h.2⟩

theorem nodup_succ_ids (l : List Ev) (h : (l.map (·.id)).Nodup) : (l.map (fun e => e.id + 1)).Nodup :=
  List.pairwise_map.mpr ((List.pairwise_map.mp h).imp fun hab h => hab (Nat.succ.inj h))

theorem exists_primary_of_count (l : List Ev) (h : 0 < countPrimary l) : ∃ e ∈ l, e.daemon = false := by
  obtain ⟨e, he⟩ := List.exists_mem_of_length_pos h
  exact ⟨e, (List.mem_filter.mp he).1, by simpa using (List.mem_filter.mp he).2⟩

def dkey (d : Deliv) : Nat × Nat × Option Nat := (d.tag, d.clock, d.evtime)
def ekey (e : Ev) : Nat × Nat × Option Nat := (e.id + 1, e.time, some e.time)

/-- the last `C` / `U` line of entity `x` is a `C` line -/
def LastDown (flags : List (Nat × Bool × Nat)) (x : Nat) : Prop :=
  ∃ g, (flags.filter (·.1 == x)).getLast? = some g ∧ g.2.1 = true

def DownAt (flags : List (Nat × Bool × Nat)) (x L : Nat) : Prop := LastDown (flags.filter (·.2.2 < L)) x

theorem LastDown.downAt {flags : List (Nat × Bool × Nat)} {x L : Nat} (h : LastDown flags x)
    (hpos : ∀ f ∈ flags, f.2.2 < L) : DownAt flags x L := by
  rwa [DownAt, List.filter_eq_self.mpr fun f hf => by simpa using hpos f hf]

theorem DownAt.append {flags new : List (Nat × Bool × Nat)} {x L : Nat} (h : DownAt flags x L)
    (hnew : ∀ f ∈ new, L ≤ f.2.2) : DownAt (flags ++ new) x L := by
  have : new.filter (·.2.2 < L) = [] := List.filter_eq_nil_iff.mpr fun f hf => by
    have := hnew f hf
    simp; omega
  rwa [DownAt, List.filter_append, this, List.append_nil]

/-- what the trace needs of a crash gate: a flag per entity that the `C` / `U` lines written by `fl` keep up with
    (lines that agree with the state before a handler, followed by its lines, agree with the state after it) -/
structure Flags (fl : σ → σ → List (Nat × Bool)) where
  down : σ → Nat → Bool
  follow : ∀ (a b : σ) (old : List (Nat × Bool × Nat)) (p : Nat), (∀ x, down a x = true → LastDown old x) →
    ∀ x, down b x = true → LastDown (old ++ mkFlags p (fl a b)) x

/-- no entity is ever down: any lines will do -/
def Flags.never (fl : σ → σ → List (Nat × Bool)) : Flags fl := ⟨fun _ _ => false, fun _ _ _ _ _ _ h => nomatch h⟩

def Flags.Sound {fl : σ → σ → List (Nat × Bool)} (F : Flags fl) (mc : Machine σ) : Prop :=
  ∀ ent e, mc.crashed ent e = true → F.down ent e.target = true

/-- what is recorded about the crash gate (read by clause 6 only, `Link.exempt`): the last `C` / `U` line of an entity
    that is down is a `C` line; an event dropped at the gate was due, precedes what is still pending, and has a position
    `L` in the trace, after its creation line, at which whatever was down then has a `C` line as its last line, with the
    deliveries before `L` preceding it and those after following it in (time, creation) order -/
structure GateLink {fl : σ → σ → List (Nat × Bool)} (F : Flags fl) (mc : Machine σ) (s : St σ) (t : Trace) : Prop where
  pos_f : ∀ f ∈ t.flags, f.2.2 < t.len
  fd : ∀ x, F.down s.ent x = true → LastDown t.flags x
  gate_now : ∀ e, (e, Verdict.gated) ∈ s.popped → e.time ≤ s.now
  gate_heap : ∀ e, (e, Verdict.gated) ∈ s.popped → ∀ h ∈ s.heap, s.now ≤ h.time → keyLt e h = true
  gate_rec : ∀ e, (e, Verdict.gated) ∈ s.popped → ∃ ent L, mc.crashed ent e = true ∧ L ≤ t.len ∧
      (∀ x, F.down ent x = true → DownAt t.flags x L) ∧ (∃ p, cOf e p ∈ t.created ∧ p < L) ∧
      (∀ d ∈ t.delivs, d.pos < L → (d.clock < e.time ∨ (d.clock = e.time ∧ d.tag < e.id + 1))) ∧
      (∀ d ∈ t.delivs, L ≤ d.pos → (e.time < d.clock ∨ (d.clock = e.time ∧ e.id + 1 < d.tag)))

/-- the link between an engine state and the trace written so far.  The delivery lines are the log, the cancel lines
    the cancellations, the creation lines the events in the heap or popped, each at a position inside the trace; what
    became of every popped event; `h7` (auto-termination): the non-daemon event that sat in the heap at each delivery;
    and the record of the crash gate (`GateLink`), kept by the same walk -/
structure Link {fl : σ → σ → List (Nat × Bool)} (F : Flags fl) (mc : Machine σ) (endT : Option Nat) (s : St σ) (t : Trace) :
    Prop extends GateLink F mc s t where
  delivs_eq : t.delivs.map dkey = s.log.map ekey
  cancels_eq : t.cancels.map (·.1) = s.cancelled.map (· + 1)
  pos_d : ∀ d ∈ t.delivs, d.pos < t.len
  pos_c : ∀ c ∈ t.created, c.pos < t.len
  pos_x : ∀ x ∈ t.cancels, x.2 < t.len
  canc_after : ∀ d ∈ t.delivs, ∀ x ∈ t.cancels, x.1 = d.tag → d.pos < x.2
  cre_nodup : (t.created.map (·.tag)).Nodup
  cre_heap : ∀ e ∈ s.heap, ∃ p, cOf e p ∈ t.created
  cre_log : ∀ e ∈ s.log, ∃ p, cOf e p ∈ t.created
  cre_exact : ∀ c ∈ t.created, ∃ e, c = cOf e c.pos ∧ (e ∈ s.heap ∨ ∃ v, (e, v) ∈ s.popped)
  born_heap : ∀ e ∈ s.heap, e.born ≤ s.now
  born_log : ∀ e ∈ s.log, e.born ≤ e.time
  pop_stale : ∀ e, (e, Verdict.stale) ∈ s.popped → e.time < e.born
  pop_canc : ∀ e, (e, Verdict.cancelled) ∈ s.popped → e.id ∈ s.cancelled
  /-- the conjuncts are those of `Spec.primaryInHeap`: non-daemon, `undelivered` at `d` (the second and third), not
      born stale, and due no earlier than the clock of `d` -/
  h7 : endT = none → ∀ d ∈ t.delivs, ∃ c ∈ t.created, c.daemon = false ∧ c.pos < d.pos ∧
      (∀ d' ∈ t.delivs, d'.tag = c.tag → d.pos ≤ d'.pos) ∧ c.clock ≤ c.time ∧ d.clock ≤ c.time

section
variable {fl : σ → σ → List (Nat × Bool)} {F : Flags fl} {mc : Machine σ} {endT : Option Nat}

theorem Link.deliv_log {s : St σ} {t : Trace} (h : Link F mc endT s t) {d : Deliv} (hd : d ∈ t.delivs) :
    ∃ e ∈ s.log, d.tag = e.id + 1 ∧ d.clock = e.time ∧ d.evtime = some e.time := by
  have : dkey d ∈ s.log.map ekey := h.delivs_eq ▸ List.mem_map.mpr ⟨d, hd, rfl⟩
  obtain ⟨e, he, hk⟩ := List.mem_map.mp this
  exact ⟨e, he, congrArg (·.1) hk.symm, congrArg (·.2.1) hk.symm, congrArg (·.2.2) hk.symm⟩

theorem Link.log_deliv {s : St σ} {t : Trace} (h : Link F mc endT s t) {e : Ev} (he : e ∈ s.log) :
    ∃ d ∈ t.delivs, d.tag = e.id + 1 ∧ d.clock = e.time := by
  have : ekey e ∈ t.delivs.map dkey := h.delivs_eq ▸ List.mem_map.mpr ⟨e, he, rfl⟩
  obtain ⟨d, hd, hk⟩ := List.mem_map.mp this
  exact ⟨d, hd, congrArg (·.1) hk, congrArg (·.2.1) hk⟩

theorem Link.mem_cancels {s : St σ} {t : Trace} (h : Link F mc endT s t) {k : Nat} :
    (∃ x ∈ t.cancels, x.1 = k + 1) ↔ k ∈ s.cancelled := by
  have := congrArg (k + 1 ∈ ·) h.cancels_eq
  simpa [List.mem_map] using this

theorem Link.withEnd {s : St σ} {t : Trace} (h : Link F mc endT s t) (c : Nat) (e : Option Nat) :
    Link F mc endT s { t with endClock := c, endT := e } := { h with }

theorem where_after_pop {s : St σ} {m e : Ev} (v : Verdict)
    (h : e ∈ s.heap ∨ ∃ w, (e, w) ∈ s.popped) :
    e ∈ s.heap.erase m ∨ ∃ w, (e, w) ∈ s.popped ++ [(m, v)] := by
  rcases h with hh | ⟨w, hw⟩
  · by_cases hem : e = m
    · exact .inr ⟨v, List.mem_append_right _ (hem ▸ List.mem_singleton_self _)⟩
    · exact .inl ((List.mem_erase_of_ne hem).mpr hh)
  · exact .inr ⟨w, List.mem_append_left _ hw⟩

theorem popped_concat {s : St σ} {m : Ev} {v w : Verdict} {P : Ev → Prop}
    (old : ∀ e, (e, w) ∈ s.popped → P e) (new : w = v → P m) : ∀ e, (e, w) ∈ s.popped ++ [(m, v)] → P e := by
  intro e he
  rcases List.mem_append.mp he with he | he
  · exact old e he
  · obtain ⟨rfl, hv⟩ := Prod.mk.inj (List.mem_singleton.mp he)
    exact new hv

/-- the case dropped at the gate (`v = .gated`): the stretch boundary `L` is the end of the trace, every delivery so far
    precedes `m` -/
theorem Link_skip (s : St σ) (t : Trace) (m : Ev) (v : Verdict) (now' a b c : Nat) (hm : m ∈ s.heap) (hnow : s.now ≤ now')
    (hs : v = .stale → m.time < m.born) (hc : v = .cancelled → m.id ∈ s.cancelled)
    (hg : v = .gated → mc.crashed s.ent m = true ∧ now' = m.time ∧ ∀ y ∈ s.heap, keyLt y m = false)
    (inv : Inv s) (h : Link F mc endT s t) : Link F mc endT (s.skip m v now' a b c) t :=
  { h with
    cre_heap := fun e he => h.cre_heap e (List.mem_of_mem_erase he)
    cre_exact := fun c hc' => (h.cre_exact c hc').imp fun _ he => ⟨he.1, where_after_pop v he.2⟩
    born_heap := fun e he => Nat.le_trans (h.born_heap e (List.mem_of_mem_erase he)) hnow
    pop_stale := popped_concat h.pop_stale fun hv => hs hv.symm
    pop_canc := popped_concat h.pop_canc fun hv => hc hv.symm
    gate_now := popped_concat (fun e he => Nat.le_trans (h.gate_now e he) hnow) fun hv => Nat.le_of_eq (hg hv.symm).2.1.symm
    gate_heap := popped_concat
      (fun e he x hx hn => h.gate_heap e he x (List.mem_of_mem_erase hx) (Nat.le_trans hnow hn))
      fun hv x hx _ => keyLt_of_not (ne_id_of_mem_erase inv.nodup hm hx) ((hg hv.symm).2.2 x (List.mem_of_mem_erase hx))
    gate_rec := popped_concat h.gate_rec fun hv => by
      obtain ⟨hcr, rfl, hmin⟩ := hg hv.symm
      obtain ⟨p, hp⟩ := h.cre_heap m hm
      refine ⟨s.ent, t.len, hcr, Nat.le_refl _, fun x hx => (h.fd x hx).downAt h.pos_f, ⟨p, hp, h.pos_c _ hp⟩,
        fun d hd _ => ?_, fun d hd hL => absurd (h.pos_d d hd) (Nat.not_lt.mpr hL)⟩
      obtain ⟨e', he', h1, h2, _⟩ := h.deliv_log hd
      have := inv.log_lt_heap e' he' m hm hnow
      rw [keyLt_iff] at this
      omega }

/-- a delivery: the lines written are the delivery of `m`, then the creations and cancels of its handler, then the
    `C` / `U` lines of the entities whose flag it changed, at positions from `t.len` on; for auto-termination, the loop
    went on, so a non-daemon event sits in the heap (possibly the popped one), due no earlier than the minimal `m`;
    the delivered event comes after every event dropped at the gate before -/
theorem Link_deliver (s : St σ) (t : Trace) (m : Ev) (o : Out σ) (hm : m ∈ s.heap)
    (hmin : ∀ y ∈ s.heap, keyLt y m = false) (hmc : m.id ∉ s.cancelled) (hnow : s.now ≤ m.time)
    (hcont : continues endT s = true) (inv : Inv s) (h : Link F mc endT s t) :
    Link F mc endT (s.deliver m o) (traceDeliver t m (mkEvents s.nextId m.time o.specs) o.cancels (fl s.ent o.ent)) := by
  have hnew := mkEvents_id s.nextId m.time o.specs
  obtain ⟨hlen, hcre, hcanc, hnewf⟩ := traceDeliver_lines t m (mkEvents s.nextId m.time o.specs) o.cancels (fl s.ent o.ent)
  have hdelivered : ∀ {w : Verdict} {P : Ev → Prop}, w ≠ .delivered → (∀ e, (e, w) ∈ s.popped → P e) →
      ∀ e, (e, w) ∈ s.popped ++ [(m, .delivered)] → P e := fun hw old => popped_concat old fun hv => absurd hv hw
  exact
    { delivs_eq := by rw [List.map_append, List.map_append, h.delivs_eq]; rfl
      cancels_eq := by
        rw [List.map_append, List.map_append, h.cancels_eq, mkCancels_eq]
        exact congrArg _ (map_numbered Prod.fst (· + 1) (fun _ _ => rfl) _ _)
      pos_d := List.forall_mem_append.mpr
        ⟨fun d hd => Nat.lt_trans (h.pos_d d hd) hlen, List.forall_mem_singleton.mpr hlen⟩
      pos_c := List.forall_mem_append.mpr
        ⟨fun c hc => Nat.lt_trans (h.pos_c c hc) hlen, fun c hc => (hcre c hc).2.2⟩
      pos_x := List.forall_mem_append.mpr
        ⟨fun x hx => Nat.lt_trans (h.pos_x x hx) hlen, fun x hx => (hcanc x hx).2⟩
      canc_after := List.forall_mem_append.mpr
        ⟨fun d hd => List.forall_mem_append.mpr
          ⟨h.canc_after d hd, fun x hx _ => Nat.lt_trans (h.pos_d d hd) (hcanc x hx).1⟩,
         List.forall_mem_singleton.mpr (List.forall_mem_append.mpr
          ⟨fun x hx hxd => absurd (h.mem_cancels.mp ⟨x, hx, hxd⟩) hmc, fun x hx _ => (hcanc x hx).1⟩)⟩
      cre_nodup := by
        rw [List.map_append, List.nodup_append, mkCreated_eq, map_numbered _ (fun e => e.id + 1) fun _ _ => rfl]
        refine ⟨h.cre_nodup, nodup_succ_ids _ (mkEvents_ids_nodup s.nextId m.time o.specs), fun a ha b hb => ?_⟩
        obtain ⟨c, hc, rfl⟩ := List.mem_map.mp ha
        obtain ⟨e, he, rfl⟩ := List.mem_map.mp hb
        obtain ⟨e', hce, hw⟩ := h.cre_exact c hc
        have : e'.id < s.nextId := hw.elim (inv.fresh_heap e') fun ⟨v, hv⟩ => inv.fresh_popped _ hv
        have := (hnew e he).1
        rw [hce]
        show e'.id + 1 ≠ e.id + 1
        omega
      cre_heap := List.forall_mem_append.mpr
        ⟨fun e he => (h.cre_heap e (List.mem_of_mem_erase he)).imp fun p hp => List.mem_append_left _ hp,
         fun e he => (numbered_of_mem cOf _ he).imp fun p hp => List.mem_append_right _ (mkCreated_eq _ _ ▸ hp)⟩
      cre_log := List.forall_mem_append.mpr
        ⟨fun e he => (h.cre_log e he).imp fun p hp => List.mem_append_left _ hp,
         List.forall_mem_singleton.mpr ((h.cre_heap m hm).imp fun p hp => List.mem_append_left _ hp)⟩
      cre_exact := List.forall_mem_append.mpr
        ⟨fun c hc => (h.cre_exact c hc).imp fun e he =>
          ⟨he.1, (where_after_pop .delivered he.2).imp_left (List.mem_append_left _)⟩,
         fun c hc => (hcre c hc).1.imp fun e he => ⟨he.2, .inl (List.mem_append_right _ he.1)⟩⟩
      born_heap := List.forall_mem_append.mpr
        ⟨fun e he => Nat.le_trans (h.born_heap e (List.mem_of_mem_erase he)) hnow,
         fun e he => Nat.le_of_eq (hnew e he).2.2⟩
      born_log := List.forall_mem_append.mpr
        ⟨h.born_log, List.forall_mem_singleton.mpr (Nat.le_trans (h.born_heap m hm) hnow)⟩
      pop_stale := hdelivered Verdict.noConfusion h.pop_stale
      pop_canc := hdelivered Verdict.noConfusion fun e he => List.mem_append_left _ (h.pop_canc e he)
      h7 := fun hnone => List.forall_mem_append.mpr
        ⟨fun d hd => by
          obtain ⟨c, hc, h1, h2, h3, h4, h5⟩ := h.h7 hnone d hd
          refine ⟨c, List.mem_append_left _ hc, h1, h2, List.forall_mem_append.mpr ⟨h3, ?_⟩, h4, h5⟩
          exact List.forall_mem_singleton.mpr fun _ => Nat.le_of_lt (h.pos_d d hd),
         List.forall_mem_singleton.mpr (by
          have hprim : 0 < countPrimary s.heap := by
            have hc := hcont
            simp only [continues, hnone, Bool.and_eq_true, decide_eq_true_eq] at hc
            exact inv.prim ▸ hc.2
          obtain ⟨e, he, hed⟩ := exists_primary_of_count s.heap hprim
          obtain ⟨p, hp⟩ := h.cre_heap e he
          have hle := time_ge_of_not_keyLt (hmin e he)
          refine ⟨cOf e p, List.mem_append_left _ hp, hed, h.pos_c _ hp,
            List.forall_mem_append.mpr ⟨fun d' hd' htag => ?_, List.forall_mem_singleton.mpr fun _ => Nat.le_refl _⟩,
            Nat.le_trans (h.born_heap e he) (Nat.le_trans hnow hle), hle⟩
          -- an earlier delivery line of `e`: impossible, `e` is still in the heap
          obtain ⟨e', he', htag', _⟩ := h.deliv_log hd'
          exact absurd (Nat.succ.inj (htag'.symm.trans htag)) (inv.log_ne_heap e' he' e he))⟩
      pos_f := List.forall_mem_append.mpr
        ⟨fun f hf => Nat.lt_trans (h.pos_f f hf) hlen, fun f hf => (hnewf f hf).2.2⟩
      fd := F.follow s.ent o.ent t.flags _ h.fd
      gate_now := hdelivered Verdict.noConfusion fun e he => Nat.le_trans (h.gate_now e he) hnow
      gate_heap := hdelivered Verdict.noConfusion fun e he => List.forall_mem_append.mpr
        ⟨fun x hx hn => h.gate_heap e he x (List.mem_of_mem_erase hx) (Nat.le_trans hnow hn),
         fun x hx (hn : m.time ≤ x.time) => by
          have h1 := h.gate_now e he
          have h2 : e.id < s.nextId := inv.fresh_popped _ he
          have h3 := (hnew x hx).1
          rw [keyLt_iff]
          omega⟩
      gate_rec := hdelivered Verdict.noConfusion fun e he => by
        obtain ⟨ent, L, hcr, hL, hdown, ⟨p, hp, hpL⟩, hd1, hd2⟩ := h.gate_rec e he
        refine ⟨ent, L, hcr, Nat.le_trans hL (Nat.le_of_lt hlen),
          fun x hx => (hdown x hx).append fun f hf => Nat.le_trans hL (Nat.le_of_lt (hnewf f hf).2.1),
          ⟨p, List.mem_append_left _ hp, hpL⟩,
          List.forall_mem_append.mpr ⟨hd1, List.forall_mem_singleton.mpr fun hdL => absurd hL (Nat.not_le.mpr hdL)⟩,
          List.forall_mem_append.mpr ⟨hd2, List.forall_mem_singleton.mpr fun _ => ?_⟩⟩
        -- `m` was in the heap when `e` was dropped: it comes after `e`
        have := h.gate_heap e he m hm hnow
        rw [keyLt_iff] at this
        show e.time < m.time ∨ (m.time = e.time ∧ e.id + 1 < m.id + 1)
        omega }

theorem Link_step (s : St σ) (t : Trace) (m : Ev) (hm : m ∈ s.heap)
    (hmin : ∀ y ∈ s.heap, keyLt y m = false) (hcont : continues endT s = true) (inv : Inv s)
    (h : Link F mc endT s t) : Link F mc endT (stepWith mc s m) (traceStep fl mc s t m) :=
  step_trace_cases fl mc s t m
    (fun hc => Link_skip s t m _ _ _ _ _ hm (Nat.le_refl _) Verdict.noConfusion (fun _ => hc) Verdict.noConfusion inv h)
    (fun _ hst => Link_skip s t m _ _ _ _ _ hm (Nat.le_refl _)
      -- stale now, so born stale (`Inv.notStale`)
      (fun _ => Nat.lt_of_not_le fun hge => Nat.not_le.mpr hst (inv.notStale m hm hge))
      Verdict.noConfusion Verdict.noConfusion inv h)
    (fun _ hnow hg => Link_skip s t m _ _ _ _ _ hm hnow Verdict.noConfusion Verdict.noConfusion (fun _ => ⟨hg, rfl, hmin⟩) inv h)
    (fun hc hnow _ => Link_deliver s t m _ hm hmin hc hnow hcont inv h)

theorem Link_init (F : Flags fl) (mc : Machine σ) (endT : Option Nat) (ent : σ) (start : Nat) (pre : List Spec)
    (hup : ∀ x, F.down ent x = false) : Link F mc endT (init ent start pre) (initTrace start pre) := by
  have hnew := mkEvents_id 0 start pre
  have hcre : ∀ c ∈ mkCreated 0 (mkEvents 0 start pre), ∃ e ∈ mkEvents 0 start pre, c = cOf e c.pos ∧
      c.pos < pre.length := fun c hc => by
    obtain ⟨e, he, q, rfl, _, hq⟩ := mem_numbered (mkCreated_eq _ _ ▸ hc)
    exact ⟨e, he, rfl, by rw [mkEvents_length] at hq; show q < pre.length; omega⟩
  exact
    { delivs_eq := rfl, cancels_eq := rfl, pos_d := List.forall_mem_nil _, pos_x := List.forall_mem_nil _
      canc_after := List.forall_mem_nil _, cre_log := List.forall_mem_nil _, born_log := List.forall_mem_nil _
      pos_c := fun c hc => let ⟨_, _, _, h⟩ := hcre c hc; h
      cre_nodup := by
        show ((mkCreated 0 (mkEvents 0 start pre)).map (·.tag)).Nodup
        rw [mkCreated_eq, map_numbered _ (fun e => e.id + 1) fun _ _ => rfl]
        exact nodup_succ_ids _ (mkEvents_ids_nodup 0 start pre)
      cre_heap := fun e he => (numbered_of_mem cOf 0 he).imp fun p hp =>
        show cOf e p ∈ mkCreated 0 (mkEvents 0 start pre) from mkCreated_eq _ _ ▸ hp
      cre_exact := fun c hc => by
        obtain ⟨e, he, hce, _⟩ := hcre c hc
        exact ⟨e, hce, .inl he⟩
      born_heap := fun e he => Nat.le_of_eq (hnew e he).2.2
      pop_stale := fun _ h => absurd h List.not_mem_nil
      pop_canc := fun _ h => absurd h List.not_mem_nil
      pos_f := List.forall_mem_nil _
      fd := fun x hx => absurd ((hup x).symm.trans hx) Bool.noConfusion
      gate_now := fun _ h => absurd h List.not_mem_nil
      gate_heap := fun _ h => absurd h List.not_mem_nil
      gate_rec := fun _ h => absurd h List.not_mem_nil
      h7 := fun _ => List.forall_mem_nil _ }


theorem traceOf_linked (F : Flags fl) (mc : Machine σ) (ent : σ) (start : Nat) (pre : List Spec)
    (endT : Option Nat) (n : Nat) (hup : ∀ x, F.down ent x = false) :
    Inv (runFrom mc ent start pre endT n) ∧
    Link F mc endT (runFrom mc ent start pre endT n) (traceOf fl mc ent start pre endT n) := by
  have := traceRun_induction (motive := fun s t => Inv s ∧ Link F mc endT s t) fl mc endT
    (fun s t m h hm hmin hc => ⟨stepWith_inv mc s m hm hmin h.1, Link_step s t m hm hmin hc h.1 h.2⟩)
    n _ _ ⟨init_inv ent start pre, Link_init F mc endT ent start pre hup⟩
  exact ⟨this.1, this.2.withEnd _ _⟩


theorem Link.pairwise_delivs {s : St σ} {t : Trace} (h : Link F mc endT s t) {R : Nat × Nat × Option Nat → Nat × Nat × Option Nat → Prop}
    (hR : s.log.Pairwise (fun a b => R (ekey a) (ekey b))) : t.delivs.Pairwise (fun a b => R (dkey a) (dkey b)) := by
  have := List.pairwise_map.mpr hR
  rw [← h.delivs_eq] at this
  exact List.pairwise_map.mp this

theorem order_clauses_of_link (s : St σ) (t : Trace) (inv : Inv s) (h : Link F mc endT s t) : Spec.judgeOrder t = none := by
  have htagged : Spec.tagged t = t.delivs := by
    refine List.filter_eq_self.mpr fun d hd => ?_
    obtain ⟨e, _, htag, _⟩ := h.deliv_log hd
    simp [htag]
  have hpw : t.delivs.Pairwise (fun a b => a.clock < b.clock ∨ (a.clock = b.clock ∧ a.tag < b.tag)) :=
    h.pairwise_delivs (R := fun a b => a.2.1 < b.2.1 ∨ (a.2.1 = b.2.1 ∧ a.1 < b.1))
      ((logSorted_pairwise _ inv.sorted).imp fun hab => by rw [keyLt_iff] at hab; simp only [ekey]; omega)
  have htags : t.delivs.Pairwise (fun a b => a.tag ≠ b.tag) :=
    h.pairwise_delivs (R := fun a b => a.1 ≠ b.1)
      ((List.pairwise_map.mp inv.log_ids_nodup).imp fun hab h => hab (Nat.succ.inj h))
  have hcre : ∀ d ∈ Spec.tagged t, ∃ c, Spec.createdOf t d.tag = some c ∧ c.time = d.clock ∧ c.clock ≤ c.time := by
    intro d hd
    obtain ⟨e, he, htag, hclk, _⟩ := h.deliv_log (htagged ▸ hd)
    obtain ⟨p, hp⟩ := h.cre_log e he
    exact ⟨cOf e p, htag ▸ find_key Created.tag h.cre_nodup hp, hclk.symm, h.born_log e he⟩
  have c1 : Spec.clockMonotone t = true :=
    adjOk_of_pairwise _ _ (hpw.imp fun hab => by simp only [decide_eq_true_eq]; omega)
  have c2 : Spec.clockNotEventTime t = false := List.any_eq_false.mpr fun d hd => by
    obtain ⟨e, _, _, h2, h1⟩ := h.deliv_log hd
    simp [h1, h2]
  have c3 : Spec.deliveredAtWrongTime t = false := List.any_eq_false.mpr fun d hd => by
    obtain ⟨c, hc, hct, _⟩ := hcre d hd
    simp [hc, hct]
  have c4 : Spec.atMostOnce t = true := by
    unfold Spec.atMostOnce
    rw [htagged]
    exact pairwiseOk_of_pairwise _ _ (htags.imp fun hab => by simpa using hab)
  have c5 : Spec.deliveredUnknown t = false := List.any_eq_false.mpr fun d hd => by
    obtain ⟨c, hc, _⟩ := hcre d hd
    simp [hc]
  have c6 : Spec.cancelledDelivered t = false := List.any_eq_false.mpr fun d hd => by
    simp only [Spec.cancelledBefore, List.any_eq_true, not_exists, not_and, Bool.and_eq_true, beq_iff_eq,
      decide_eq_true_eq]
    exact fun x hx hxd => Nat.not_lt.mpr (Nat.le_of_lt (h.canc_after d (htagged ▸ hd) x hx hxd))
  have c7 : Spec.staleDelivered t = false := List.any_eq_false.mpr fun d hd => by
    obtain ⟨c, hc, _, hcc⟩ := hcre d hd
    simp [hc]; omega
  have c8 : Spec.tieOrder t = true := by
    unfold Spec.tieOrder
    rw [htagged]
    exact adjOk_of_pairwise _ _ (hpw.imp fun hab => by simp; omega)
  simp [Spec.judgeOrder, c1, c2, c3, c4, c5, c6, c7, c8]

end

/-- **clauses 1–5 of the trace Spec never fire on a trace of the model**: for every machine (handler
    function and crash predicate), pre-run schedule, start clock, end time and number of loop
    iterations, the trace the model writes has a clock that never moves backwards, equal to the event's
    timestamp at every delivery; every delivered event was created, is delivered at most once, was not
    cancelled before its delivery and was not stale when created; deliveries are in time order with
    ties in creation order — `Spec.judgeOrder` returns no signature. -/
theorem engine_trace_order_clauses (fl : σ → σ → List (Nat × Bool)) (mc : Machine σ) (ent : σ) (start : Nat)
    (pre : List Spec) (endT : Option Nat) (n : Nat) : Spec.judgeOrder (traceOf fl mc ent start pre endT n) = none :=
  have h := traceOf_linked (Flags.never fl) mc ent start pre endT n fun _ => rfl
  order_clauses_of_link _ _ h.1 h.2

end HappyModel.C01
