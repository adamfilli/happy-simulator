import HappyModel.C16.Store
import HappyProofs.C16.AList
namespace HappyModel.C16

theorem sq_cnt_nil (k : Key) : cnt [] k = 0 := rfl

theorem cnt_aset_self (l : List (Key × Nat)) (k v : Nat) : cnt (aset l k v) k = v := by
  simp [cnt, aget?_aset_self]

theorem cnt_aset_other (l : List (Key × Nat)) (k x v : Nat) (h : x ≠ k) : cnt (aset l k v) x = cnt l x := by
  simp [cnt, aget?_aset_other _ _ _ _ h]

theorem mem_setDel (l : List Key) (k x : Key) : x ∈ setDel l k ↔ x ∈ l ∧ x ≠ k := by
  simp [setDel]

theorem mem_setAdd (l : List Key) (k x : Key) : x ∈ setAdd l k ↔ x ∈ l ∨ x = k := by
  unfold setAdd
  split
  · exact ⟨Or.inl, fun h => h.elim id (fun e => e ▸ ‹k ∈ l›)⟩
  · simp

theorem writeBack_eq (s : St) (k : Key) :
    s.writeBack k = { s with back := (s.writeBack k).back, dirty := (s.writeBack k).dirty } := by
  unfold St.writeBack
  split
  · split <;> rfl
  · rfl

@[simp] theorem writeBack_cache (s : St) (k : Key) : (s.writeBack k).cache = s.cache := by rw [writeBack_eq]
@[simp] theorem writeBack_pend (s : St) (k : Key) : (s.writeBack k).pend = s.pend := by rw [writeBack_eq]
@[simp] theorem writeBack_pol (s : St) (k : Key) : (s.writeBack k).pol = s.pol := by rw [writeBack_eq]
@[simp] theorem writeBack_infl (s : St) (k : Key) : (s.writeBack k).infl = s.infl := by rw [writeBack_eq]
@[simp] theorem writeBack_epoch (s : St) (k : Key) : (s.writeBack k).epoch = s.epoch := by rw [writeBack_eq]
theorem writeBackAll_eq (s : St) (l : List Key) :
    s.writeBackAll l = { s with back := (s.writeBackAll l).back, dirty := (s.writeBackAll l).dirty } := by
  induction l generalizing s with
  | nil => rfl
  | cons k ks ih =>
    show (s.writeBack k).writeBackAll ks =
      { s with back := ((s.writeBack k).writeBackAll ks).back, dirty := ((s.writeBack k).writeBackAll ks).dirty }
    rw [ih, writeBack_eq s k]

theorem writeBackAll_cache (s : St) (l : List Key) : (s.writeBackAll l).cache = s.cache := by rw [writeBackAll_eq]
theorem writeBackAll_pol (s : St) (l : List Key) : (s.writeBackAll l).pol = s.pol := by rw [writeBackAll_eq]
theorem writeBackAll_pend (s : St) (l : List Key) : (s.writeBackAll l).pend = s.pend := by rw [writeBackAll_eq]
theorem writeBackAll_infl (s : St) (l : List Key) : (s.writeBackAll l).infl = s.infl := by rw [writeBackAll_eq]
theorem writeBackAll_epoch (s : St) (l : List Key) : (s.writeBackAll l).epoch = s.epoch := by rw [writeBackAll_eq]
@[simp] theorem bump_dirty (cfg : Cfg) (s : St) (k : Key) : (s.bump cfg k).dirty = s.dirty := by
  unfold St.bump; split <;> rfl
@[simp] theorem bump_cache (cfg : Cfg) (s : St) (k : Key) : (s.bump cfg k).cache = s.cache := by
  unfold St.bump; split <;> rfl
@[simp] theorem bump_pend (cfg : Cfg) (s : St) (k : Key) : (s.bump cfg k).pend = s.pend := by
  unfold St.bump; split <;> rfl
@[simp] theorem inflInc_dirty (cfg : Cfg) (s : St) (k : Key) : (s.inflInc cfg k).dirty = s.dirty := by
  unfold St.inflInc; split <;> rfl
@[simp] theorem inflInc_back (cfg : Cfg) (s : St) (k : Key) : (s.inflInc cfg k).back = s.back := by
  unfold St.inflInc; split <;> rfl
@[simp] theorem inflInc_pend (cfg : Cfg) (s : St) (k : Key) : (s.inflInc cfg k).pend = s.pend := by
  unfold St.inflInc; split <;> rfl
@[simp] theorem inflDec_dirty (cfg : Cfg) (s : St) (k : Key) : (s.inflDec cfg k).dirty = s.dirty := by
  unfold St.inflDec; split <;> rfl
@[simp] theorem inflDec_pend (cfg : Cfg) (s : St) (k : Key) : (s.inflDec cfg k).pend = s.pend := by
  unfold St.inflDec; split <;> rfl
@[simp] theorem wb_setPend_dirty (s : St) (i : Nat) (p : Pend) : (s.setPend i p).dirty = s.dirty := rfl
@[simp] theorem wb_setPend_back (s : St) (i : Nat) (p : Pend) : (s.setPend i p).back = s.back := rfl
@[simp] theorem cacheRemove_dirty (s : St) (k : Key) : (cacheRemove s k).dirty = setDel s.dirty k := rfl
@[simp] theorem wb_cacheRemove_back (s : St) (k : Key) : (cacheRemove s k).back = s.back := rfl
@[simp] theorem cacheRemove_pend (s : St) (k : Key) : (cacheRemove s k).pend = s.pend := rfl
@[simp] theorem bump_back (cfg : Cfg) (s : St) (k : Key) : (s.bump cfg k).back = s.back := by
  unfold St.bump; split <;> rfl
@[simp] theorem bump_infl (cfg : Cfg) (s : St) (k : Key) : (s.bump cfg k).infl = s.infl := by
  unfold St.bump; split <;> rfl
@[simp] theorem inflInc_cache (cfg : Cfg) (s : St) (k : Key) : (s.inflInc cfg k).cache = s.cache := by
  unfold St.inflInc; split <;> rfl
@[simp] theorem inflDec_cache (cfg : Cfg) (s : St) (k : Key) : (s.inflDec cfg k).cache = s.cache := by
  unfold St.inflDec; split <;> rfl
@[simp] theorem inflDec_back (cfg : Cfg) (s : St) (k : Key) : (s.inflDec cfg k).back = s.back := by
  unfold St.inflDec; split <;> rfl
@[simp] theorem cacheRemove_infl (s : St) (k : Key) : (cacheRemove s k).infl = s.infl := rfl
@[simp] theorem sq_cacheRemove_cache (s : St) (k : Key) : (cacheRemove s k).cache = adel s.cache k := rfl

theorem writeBack_dirty_sub (s : St) (k x : Key) (h : x ∈ (s.writeBack k).dirty) : x ∈ s.dirty := by
  unfold St.writeBack at h; split at h
  · split at h
    · exact ((mem_setDel _ _ _).mp h).1
    · exact h
  · exact h

theorem writeBack_dirty_keep (s : St) (k x : Key) (h : x ∈ s.dirty) (hx : x ≠ k) :
    x ∈ (s.writeBack k).dirty := by
  unfold St.writeBack; split
  · split
    · exact (mem_setDel _ _ _).mpr ⟨h, hx⟩
    · exact h
  · exact h

theorem writeBack_self (s : St) (k : Key) (v : Nat) (hd : k ∈ s.dirty) (hc : aget? s.cache k = some v) :
    aget? (s.writeBack k).back k = some v := by
  unfold St.writeBack; rw [hc]; simp only [if_pos hd]
  exact aget?_aset_self _ _ _

theorem writeBack_self_clean (s : St) (k : Key) (v : Nat) (hc : aget? s.cache k = some v) :
    k ∉ (s.writeBack k).dirty := by
  unfold St.writeBack; rw [hc]; simp only []
  split
  · intro h; exact ((mem_setDel _ _ _).mp h).2 rfl
  · assumption

theorem writeBack_back_other (s : St) (k x : Key) (h : x ≠ k ∨ x ∉ s.dirty) :
    aget? (s.writeBack k).back x = aget? s.back x := by
  unfold St.writeBack; split
  · split
    · rename_i hd
      have hx : x ≠ k := by
        rcases h with h | h
        · exact h
        · intro e; exact h (e ▸ hd)
      exact aget?_aset_other _ _ _ _ hx
    · rfl
  · rfl

theorem writeBackAll_miss (s : St) (l : List Key) (x : Key) (h : x ∉ s.dirty) :
    aget? (s.writeBackAll l).back x = aget? s.back x := by
  induction l generalizing s with
  | nil => rfl
  | cons d ds ih =>
    show aget? ((s.writeBack d).writeBackAll ds).back x = _
    rw [ih (s.writeBack d) (fun hx => h (writeBack_dirty_sub s d x hx))]
    exact writeBack_back_other s d x (Or.inr h)

theorem writeBackAll_hit (s : St) (l : List Key) (x : Key) (v : Nat) (hd : x ∈ s.dirty)
    (hc : aget? s.cache x = some v) (hl : x ∈ l) : aget? (s.writeBackAll l).back x = some v := by
  induction l generalizing s with
  | nil => simp at hl
  | cons d ds ih =>
    show aget? ((s.writeBack d).writeBackAll ds).back x = _
    by_cases e : x = d
    · subst e
      rw [writeBackAll_miss _ _ _ (writeBack_self_clean s x v hc)]
      exact writeBack_self s x v hd hc
    · have hl' : x ∈ ds := by
        rcases List.mem_cons.mp hl with h | h
        · exact absurd h e
        · exact h
      exact ih (s.writeBack d) (writeBack_dirty_keep s d x hd e) (by rw [writeBack_cache]; exact hc) hl'

theorem flushNext_shape (cfg : Cfg) (s : St) (i : Nat) (l : List Key) (n : Nat) :
    (∃ p, flushNext cfg s i l n = (s.setPend i p, none) ∧
      (cfg.rep = true → ∃ k rest n', p = .flushRep k rest n')) ∨
    (∃ n', flushNext cfg s i l n = (s, some (.count n'))) := by
  induction l generalizing n with
  | nil => exact Or.inr ⟨n, rfl⟩
  | cons k rest ih =>
    unfold flushNext
    split
    · split
      · exact Or.inl ⟨_, rfl, fun _ => ⟨k, rest, n, rfl⟩⟩
      · exact ih n
    · rename_i hrep
      split
      · exact Or.inl ⟨_, rfl, fun h => absurd h hrep⟩
      · exact ih n

theorem flushNext_rep (cfg : Cfg) (hrep : cfg.rep = true) (s : St) (i : Nat) (l : List Key) (n : Nat) :
    (∃ k rest n', flushNext cfg s i l n = (s.setPend i (.flushRep k rest n'), none)) ∨
    (∃ n', flushNext cfg s i l n = (s, some (.count n'))) :=
  (flushNext_shape cfg s i l n).imp (fun ⟨_, e, hp⟩ => have ⟨k, rest, n', ep⟩ := hp hrep; ⟨k, rest, n', ep ▸ e⟩) id

theorem flushNext_dirty_back (cfg : Cfg) (s : St) (i : Nat) (l : List Key) (n : Nat) :
    (flushNext cfg s i l n).1.dirty = s.dirty ∧ (flushNext cfg s i l n).1.back = s.back := by
  rcases flushNext_shape cfg s i l n with ⟨p, e, _⟩ | ⟨n', e⟩ <;> rw [e] <;> exact ⟨rfl, rfl⟩

theorem evictOne_rep (cfg : Cfg) (hrep : cfg.rep = true) (t : St) (ek : Key) (pol' : Pol) :
    evictOne cfg t ek pol' = { t.writeBack ek with
      cache := adel t.cache ek, dirty := setDel (t.writeBack ek).dirty ek, pol := pol', nEv := t.nEv + 1 } := by
  simp only [evictOne, hrep, ↓reduceIte]

theorem evictLoop_ind (cfg : Cfg) (now : Nat) {P : St → Prop} (hpol : ∀ t pol', P t → P { t with pol := pol' })
    (hone : ∀ t ek pol', P t → P (evictOne cfg t ek pol')) (fuel : Nat) (t : St) (h : P t) :
    P (evictLoop cfg fuel t now) := by
  induction fuel generalizing t with
  | zero => exact h
  | succ f ih =>
    unfold evictLoop
    split
    · exact h
    · split
      · exact hpol _ _ h
      · exact ih _ (hone _ _ _ h)

theorem cachePut_ind (cfg : Cfg) (now : Nat) {P : St → Prop} (hpol : ∀ t pol', P t → P { t with pol := pol' })
    (hone : ∀ t ek pol', P t → P (evictOne cfg t ek pol')) (s : St) (k v : Nat) (h : P s) :
    ∃ pe pol', P pe ∧ cachePut cfg s k v now = { pe with pol := pol', cache := aset pe.cache k v } := by
  unfold cachePut
  split
  · exact ⟨s, _, h, rfl⟩
  · exact ⟨_, _, evictLoop_ind cfg now hpol hone _ s h, rfl⟩

theorem evictOne_pend (cfg : Cfg) (t : St) (ek : Key) (pol' : Pol) : (evictOne cfg t ek pol').pend = t.pend := by
  unfold evictOne; split <;> simp

theorem cachePut_pend (cfg : Cfg) (s : St) (k v now : Nat) : (cachePut cfg s k v now).pend = s.pend := by
  obtain ⟨pe, pol', hp, e⟩ := cachePut_ind cfg now (P := fun t => t.pend = s.pend) (fun _ _ h => h)
    (fun t ek pol' h => (evictOne_pend cfg t ek pol').trans h) s k v rfl
  rw [e]; exact hp

/-- the continuation the first segment of `op` leaves -/
def Leaves (cfg : Cfg) : OpK → Pend → Prop
  | .get k, p => (∃ v, p = .getHit v) ∨ ∃ e, p = .getMiss k e
  | .put k v, p => p = if cfg.wt then .putWT k v else .putWB
  | .del k, p => ∃ b, p = .del k b
  | .flush _, p => cfg.rep = true → ∃ k r n, p = .flushRep k r n
  | _, _ => False

theorem Leaves.notCur {cfg : Cfg} {op : OpK} {p : Pend} (h : Leaves cfg op p) (hrep : cfg.rep = true) :
    ∀ k v r n, p ≠ .flushCur k v r n := by
  cases op <;> simp only [Leaves] at h
  · rcases h with ⟨_, rfl⟩ | ⟨_, rfl⟩ <;> nofun
  · rw [h]; split <;> nofun
  · obtain ⟨_, rfl⟩ := h; nofun
  · obtain ⟨_, _, _, rfl⟩ := h hrep; nofun

theorem start_pend (cfg : Cfg) (s : St) (i : Nat) (op : OpK) (now : Nat) :
    (∃ p, (start cfg s i op now).1.pend = s.pend ++ [(i, p)] ∧ (start cfg s i op now).2 = none ∧ Leaves cfg op p) ∨
    ((start cfg s i op now).1.pend = s.pend ∧ (start cfg s i op now).2.isSome ∧
      ((∃ k, op = .inv k) ∨ op = .invAll ∨ ∃ l, op = .flush l)) := by
  cases op with
  | get k => simp only [start]; split <;> exact Or.inl ⟨_, rfl, rfl, by simp [Leaves]⟩
  | put k v =>
    simp only [start]
    split <;> rename_i hwt
    · exact Or.inl ⟨.putWT k v, by simp [St.setPend, cachePut_pend], rfl, by simp [Leaves, hwt]⟩
    · exact Or.inl ⟨.putWB, by simp [St.setPend, cachePut_pend], rfl, by simp [Leaves, hwt]⟩
  | del k =>
    refine Or.inl ⟨.del k (decide (k ∈ akeys (s.bump cfg k).cache)), ?_, rfl, _, rfl⟩
    simp only [start, St.setPend, inflInc_pend]
    split
    · rw [cacheRemove_pend]; split <;> simp
    · simp
  | inv k =>
    refine Or.inr ⟨?_, ?_, Or.inl ⟨k, rfl⟩⟩ <;> simp only [start] <;> split <;> try rfl
    rw [cacheRemove_pend]; split <;> simp
  | invAll => exact Or.inr ⟨by simp only [start]; split <;> simp [writeBackAll_pend], rfl, Or.inr (Or.inl rfl)⟩
  | flush l =>
    rcases flushNext_shape cfg s i l 0 with ⟨p, e, hp⟩ | ⟨n', e⟩
    · exact Or.inl ⟨p, by simp only [start, e]; rfl, by simp only [start, e], hp⟩
    · exact Or.inr ⟨by simp only [start, e], by simp only [start, e]; rfl, Or.inr (Or.inr ⟨l, rfl⟩)⟩

def Pend.isFlush : Pend → Prop
  | .flushCur .. => True
  | .flushRep .. => True
  | _ => False

theorem resume_pend (cfg : Cfg) (s : St) (i : Nat) (p : Pend) (now : Nat) :
    ((resume cfg s i p now).1.pend = (s.clearPend i).pend ∧ (resume cfg s i p now).2.isSome) ∨
    (∃ q, (resume cfg s i p now).1.pend = (s.clearPend i).pend ++ [(i, q)] ∧ (resume cfg s i p now).2 = none ∧
      p.isFlush ∧ (cfg.rep = true → ∃ k r n, q = .flushRep k r n)) := by
  have hfl : ∀ (t : St) l n, t.pend = (s.clearPend i).pend →
      ((flushNext cfg t i l n).1.pend = (s.clearPend i).pend ∧ (flushNext cfg t i l n).2.isSome) ∨
      (∃ q, (flushNext cfg t i l n).1.pend = (s.clearPend i).pend ++ [(i, q)] ∧ (flushNext cfg t i l n).2 = none ∧
        (cfg.rep = true → ∃ k r n, q = .flushRep k r n)) := by
    intro t l n ht
    rcases flushNext_shape cfg t i l n with ⟨q, e, hq⟩ | ⟨n', e⟩ <;> rw [e]
    · exact Or.inr ⟨q, by rw [← ht]; rfl, rfl, hq⟩
    · exact Or.inl ⟨ht, rfl⟩
  cases p with
  | getMiss k e =>
    simp only [resume]
    split
    · split
      · exact Or.inl ⟨cachePut_pend _ _ _ _ _, rfl⟩
      · exact Or.inl ⟨rfl, rfl⟩
    · exact Or.inl ⟨rfl, rfl⟩
  | putWT k v => exact Or.inl ⟨by simp [resume], rfl⟩
  | del k b => exact Or.inl ⟨by simp [resume], rfl⟩
  | flushCur k v rest n =>
    exact (hfl { s.clearPend i with back := aset s.back k v, dirty := setDel s.dirty k } rest (n + 1) rfl).imp id
      fun ⟨q, a, b, c⟩ => ⟨q, a, b, trivial, c⟩
  | flushRep k rest n =>
    simp only [resume]
    split
    · exact (hfl _ rest (n + 1) (by simp)).imp id fun ⟨q, a, b, c⟩ => ⟨q, a, b, trivial, c⟩
    · exact (hfl _ rest n rfl).imp id fun ⟨q, a, b, c⟩ => ⟨q, a, b, trivial, c⟩
  | _ => exact Or.inl ⟨rfl, rfl⟩

end HappyModel.C16
