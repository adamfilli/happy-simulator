import HappyModel.C07.Timers
/-! The timer idioms of `HappyModel/C07/Timers.lean`, for every interval, clock value and fuel. -/
namespace HappyModel.C07.Timers

/-- a re-arm is strictly later than `now` iff the interval converts to ≥ 1 ns -/
theorem tick_progress (ivNs now : Nat) : now < now + ivNs ↔ 1 ≤ ivNs := by omega

theorem tickChain_eq (ivNs : Nat) : ∀ (f now : Nat), tickChain ivNs f now = (List.range f).map (now + · * ivNs)
  | 0, _ => rfl
  | f + 1, now => by
    rw [tickChain, tickChain_eq ivNs f, List.range_succ_eq_map, List.map_cons, List.map_map, Nat.zero_mul]
    refine congrArg _ (List.map_congr_left fun k _ => ?_)
    show now + ivNs + k * ivNs = now + (k + 1) * ivNs
    rw [Nat.succ_mul]; omega

theorem tickChain_get (ivNs : Nat) : ∀ (f now k : Nat), k < f → (tickChain ivNs f now)[k]? = some (now + k * ivNs) := by
  intro f now k h
  simp [tickChain_eq, h]

theorem tickChain_length (ivNs : Nat) : ∀ (f now : Nat), (tickChain ivNs f now).length = f := by
  intro f now
  simp [tickChain_eq]

theorem tickChain_ge (ivNs : Nat) (f now : Nat) : ∀ t ∈ tickChain ivNs f now, now ≤ t := by
  rw [tickChain_eq]
  intro t ht
  obtain ⟨k, _, rfl⟩ := List.mem_map.mp ht
  exact Nat.le_add_right _ _

theorem tickChain_strict (ivNs : Nat) (h : 1 ≤ ivNs) (f now : Nat) : (tickChain ivNs f now).Pairwise (· < ·) := by
  rw [tickChain_eq]
  exact List.pairwise_map.mpr (List.pairwise_lt_range.imp fun hab =>
    Nat.add_lt_add_left (Nat.mul_lt_mul_of_pos_right hab h) _)

/-- a guarded periodic daemon is delivered at most once per instant, however long it runs -/
theorem guarded_tick_at_most_once_per_instant (ivNs iv : Nat) (hg : mkPeriodic ivNs = some iv)
    (f now t : Nat) : (tickChain iv f now).count t ≤ 1 := by
  have h1 : 1 ≤ iv := by
    unfold mkPeriodic at hg
    split at hg <;> simp at hg
    omega
  exact List.nodup_iff_count.mp ((tickChain_strict iv h1 f now).imp Nat.ne_of_lt) t

/-- the unguarded sub-nanosecond interval: every delivery re-arms at the same instant, forever -/
theorem tick_zero_spins (f now : Nat) : tickChain 0 f now = List.replicate f now := by
  simp [tickChain_eq, List.map_const']

theorem tick_zero_unbounded (now bound : Nat) : ∃ f, bound < (tickChain 0 f now).count now := by
  refine ⟨bound + 1, ?_⟩
  rw [tick_zero_spins]; simp

/-- the guard rejects exactly the intervals that would spin -/
theorem mkPeriodic_none_iff (ivNs : Nat) : mkPeriodic ivNs = none ↔ ivNs = 0 := by
  unfold mkPeriodic; split <;> simp_all

example : tickChain 250 4 1000 = [1000, 1250, 1500, 1750] := by decide
example : ticksUntil 250 1000 1600 = [1000, 1250, 1500] ∧ ticksUntil 0 1000 1600 = [] := by decide
example : tickChain 0 4 1000 = [1000, 1000, 1000, 1000] := by decide

/-- **a manual tick with interval 0 schedules nothing**: exactly one delivery -/
theorem disabled_manual_tick_schedules_nothing (f now : Nat) :
    rearmNew 0 now = [] ∧ roundChain rearmNew 0 (f + 1) now = [now] := by
  simp [rearmNew, roundChain]

/-- with a positive interval the manual tick starts the periodic chain (strictly later re-arms) -/
theorem enabled_tick_rearms_later (ivNs now : Nat) (h : 1 ≤ ivNs) :
    ∃ t, rearmNew ivNs now = [t] ∧ now < t := by
  refine ⟨now + ivNs, ?_, by omega⟩
  unfold rearmNew
  have : ivNs ≠ 0 := by omega
  simp [this]

/-- the pre-fix handlers: the manual tick re-arms at `now + 0` forever -/
theorem old_disabled_tick_spins : ∀ (f now : Nat), roundChain rearmOld 0 f now = List.replicate f now
  | 0, _ => rfl
  | f + 1, now => by
    have := old_disabled_tick_spins f now
    simp [roundChain, rearmOld, this, List.replicate_succ]

theorem old_disabled_tick_unbounded (now bound : Nat) : ∃ f, bound < (roundChain rearmOld 0 f now).count now := by
  refine ⟨bound + 1, ?_⟩
  rw [old_disabled_tick_spins]; simp

example : manualTicks [500, 500, 1200] 2000 = [500, 500, 1200] := by decide
example : roundChain rearmOld 0 3 500 = [500, 500, 500] := by decide

/-- handing each event over when it is built never emits into the past -/
theorem warmupNew_never_past (c idle n : Nat) : ∀ p ∈ warmupNew c idle n, p.1 ≤ p.2 := by
  intro p hp
  simp [warmupNew] at hp
  obtain ⟨k, _, rfl⟩ := hp
  simp

/-- collecting them until the end of the warm-up emits into the past exactly when the idle timeout is
    shorter than the rest of the warm-up (connection latency × remaining connections) -/
theorem warmupOld_past_iff (c idle n : Nat) :
    (∃ p ∈ warmupOld c idle n, p.2 < p.1) ↔ 2 ≤ n ∧ idle < c * (n - 1) := by
  have h3 : 1 ≤ n → c * (n - 1) + c * 1 = c * n := fun _ => by rw [← Nat.mul_add]; congr 1; omega
  simp only [warmupOld, List.mem_map, List.mem_range]
  constructor
  · rintro ⟨_, ⟨k, hk, rfl⟩, hlt⟩
    have h2 : c * 1 ≤ c * (k + 1) := Nat.mul_le_mul_left c (by omega)
    have : k + 1 < n := Nat.lt_of_mul_lt_mul_left (a := c) (by show c * (k + 1) < c * n; omega)
    have := h3 (by omega)
    omega
  · rintro ⟨hn, hlt⟩
    have := h3 (by omega)
    exact ⟨_, ⟨0, by omega, rfl⟩, by show c * (0 + 1) + idle < c * n; omega⟩

/-- the ConnectionPool witness: 3 connections, 15 ms each, idle timeout 1 ms -/
example : warmupOld 15 1 3 = [(45, 16), (45, 31), (45, 46)] ∧ warmupNew 15 1 3 = [(15, 16), (30, 31), (45, 46)] := by decide

end HappyModel.C07.Timers
