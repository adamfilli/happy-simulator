import HappyModel.C16.StoreSpec
/-!
Read-after-write over every interleaving: the observed log as the Spec's judge reads it (`firstIdx` / `endIdx` are
the issue and the completion of an operation), the read clause as a proposition over an order between writes, and
that it implies the judge's executable test.
-/
namespace HappyModel.C16

/-- the default observation used by the judge's `getD` -/
def dObs : Obs := ⟨0, [], [], [], none⟩

/-- key and value written by an operation (`none` value = delete) -/
def wkv : OpK → Option (Key × Option Nat)
  | .put k v => some (k, some v)
  | .del k => some (k, none)
  | _ => none

def wk (op : OpK) : Option Key := (wkv op).map (·.1)

theorem wk_of_wkv {op : OpK} {k : Key} {v : Option Nat} (h : wkv op = some (k, v)) : wk op = some k := by
  simp [wk, h]

theorem wk_iff {op : OpK} {k : Key} {v : Option Nat} (h : wkv op = some (k, v)) {x : Key} : wk op = some x ↔ x = k := by
  rw [wk, h]; exact ⟨fun e => (Option.some.inj e).symm, fun e => e ▸ rfl⟩

theorem findIdx?_snoc {α} (p : α → Bool) (l : List α) (x : α) :
    List.findIdx? p (l ++ [x]) =
      match List.findIdx? p l with
      | some s => some s
      | none => if p x then some l.length else none := by
  rw [List.findIdx?_append]
  cases h : List.findIdx? p l with
  | some s => rfl
  | none =>
    by_cases hp : p x = true
    · simp [List.findIdx?_cons, hp]
    · simp [List.findIdx?_cons, hp]

theorem findIdx?_lt {α} (p : α → Bool) (l : List α) (s : Nat) (h : List.findIdx? p l = some s) :
    s < l.length := by
  rw [List.findIdx?_eq_some_iff_getElem] at h
  exact h.1

theorem firstIdx_lt {evs : List Obs} {i s : Nat} (h : firstIdx evs i = some s) : s < evs.length :=
  findIdx?_lt _ _ _ h

theorem endIdx_lt {evs : List Obs} {i s : Nat} (h : endIdx evs i = some s) : s < evs.length :=
  findIdx?_lt _ _ _ h

theorem firstIdx_append_some {evs : List Obs} {i s : Nat} (obs : List Obs) (h : firstIdx evs i = some s) :
    firstIdx (evs ++ obs) i = some s := by
  unfold firstIdx at h ⊢; rw [List.findIdx?_append, h]; rfl

theorem endIdx_append_some {evs : List Obs} {i s : Nat} (obs : List Obs) (h : endIdx evs i = some s) :
    endIdx (evs ++ obs) i = some s := by
  unfold endIdx at h ⊢; rw [List.findIdx?_append, h]; rfl

theorem firstIdx_append_other {evs : List Obs} {i : Nat} {obs : List Obs} (h : ∀ o ∈ obs, o.i ≠ i) :
    firstIdx (evs ++ obs) i = firstIdx evs i := by
  have : List.findIdx? (fun o => o.i == i) obs = none := by
    rw [List.findIdx?_eq_none_iff]; intro o ho; simpa using h o ho
  unfold firstIdx; rw [List.findIdx?_append, this]
  cases List.findIdx? (fun o => o.i == i) evs <;> rfl

theorem firstIdx_append_new {evs obs : List Obs} {n : Nat} (hn : ¬ (firstIdx evs n).isSome) (hne : obs ≠ [])
    (hobs : ∀ o ∈ obs, o.i = n) : firstIdx (evs ++ obs) n = some evs.length := by
  have hfn : firstIdx evs n = none := Option.not_isSome_iff_eq_none.mp hn
  unfold firstIdx at hfn ⊢
  rw [List.findIdx?_append, hfn]
  cases obs with
  | nil => exact absurd rfl hne
  | cons o t => simp [List.findIdx?_cons, hobs o List.mem_cons_self]

theorem firstIdx_snoc_some {evs : List Obs} {i s : Nat} (o : Obs) (h : firstIdx evs i = some s) :
    firstIdx (evs ++ [o]) i = some s := firstIdx_append_some [o] h

theorem firstIdx_snoc_none {evs : List Obs} {i : Nat} (o : Obs) (h : firstIdx evs i = none) :
    firstIdx (evs ++ [o]) i = if o.i == i then some evs.length else none := by
  unfold firstIdx at h ⊢; rw [findIdx?_snoc, h]

theorem endIdx_snoc_some {evs : List Obs} {i s : Nat} (o : Obs) (h : endIdx evs i = some s) :
    endIdx (evs ++ [o]) i = some s := endIdx_append_some [o] h

theorem endIdx_snoc_none {evs : List Obs} {i : Nat} (o : Obs) (h : endIdx evs i = none) :
    endIdx (evs ++ [o]) i = if (o.i == i && o.res.isSome) then some evs.length else none := by
  unfold endIdx at h ⊢; rw [findIdx?_snoc, h]

theorem firstIdx_of_endIdx {evs : List Obs} {i e : Nat} (h : endIdx evs i = some e) :
    ∃ s, firstIdx evs i = some s ∧ s ≤ e := by
  have := List.findIdx?_eq_some_le_of_findIdx?_eq_some (xs := evs)
    (p := fun o => o.i == i && o.res.isSome) (q := fun o => o.i == i)
    (by intro x _ hx; simp only [Bool.and_eq_true] at hx; exact hx.1) h
  obtain ⟨j, hj, hf⟩ := this
  exact ⟨j, hf, hj⟩

theorem firstIdx_snoc_isSome {evs : List Obs} {i : Nat} (o : Obs) (h : (firstIdx evs i).isSome) :
    firstIdx (evs ++ [o]) i = firstIdx evs i := by
  cases hs : firstIdx evs i with
  | none => rw [hs] at h; cases h
  | some s => exact firstIdx_snoc_some o hs

theorem firstIdx_snoc_self (evs : List Obs) (o : Obs) : ∃ r, firstIdx (evs ++ [o]) o.i = some r ∧ r ≤ evs.length := by
  cases hs : firstIdx evs o.i with
  | some s => exact ⟨s, firstIdx_snoc_some o hs, Nat.le_of_lt (firstIdx_lt hs)⟩
  | none => exact ⟨evs.length, by rw [firstIdx_snoc_none o hs, beq_self_eq_true, if_pos rfl], Nat.le_refl _⟩

theorem endIdx_snoc_running {evs : List Obs} {j : Nat} (o : Obs) (h : endIdx evs j = none)
    (hne : o.res.isSome → o.i ≠ j) : endIdx (evs ++ [o]) j = none := by
  rw [endIdx_snoc_none o h, if_neg]
  rw [Bool.and_eq_true, beq_iff_eq]
  exact fun hc => hne hc.2 hc.1

theorem endIdx_snoc_done (evs : List Obs) {o : Obs} (h : o.res.isSome) : (endIdx (evs ++ [o]) o.i).isSome := by
  cases he : endIdx evs o.i with
  | some e => rw [endIdx_snoc_some o he]; rfl
  | none => rw [endIdx_snoc_none o he, beq_self_eq_true, h]; rfl

theorem endIdx_snoc_isSome {evs : List Obs} {j : Nat} (o : Obs) (h : (endIdx evs j).isSome) :
    (endIdx (evs ++ [o]) j).isSome := by
  cases he : endIdx evs j with
  | none => rw [he] at h; cases h
  | some e => rw [endIdx_snoc_some o he]; rfl

def CompletedBefore (evs : List Obs) (j r : Nat) : Prop := ∃ e, endIdx evs j = some e ∧ e < r

/-- `j` does not entirely follow `i`: it was issued no later than `i` completed (if `i` has) -/
def NotFollowed (evs : List Obs) (i j : Nat) : Prop :=
  ∀ e' sj, endIdx evs i = some e' → firstIdx evs j = some sj → sj ≤ e'

theorem cb_snoc {evs : List Obs} (o : Obs) {j r : Nat} (hr : r ≤ evs.length) :
    CompletedBefore (evs ++ [o]) j r ↔ CompletedBefore evs j r := by
  constructor
  · rintro ⟨e, he, hlt⟩
    cases h : endIdx evs j with
    | some e0 =>
      rw [endIdx_snoc_some o h] at he
      have hee : e0 = e := Option.some.inj he
      exact ⟨e0, h, hee ▸ hlt⟩
    | none =>
      rw [endIdx_snoc_none o h] at he
      split at he
      · cases he; omega
      · cases he
  · rintro ⟨e, he, hlt⟩
    exact ⟨e, endIdx_snoc_some o he, hlt⟩

/-- completion is final -/
theorem not_cb_snoc {evs : List Obs} (o : Obs) {j r : Nat} (hr : r ≤ evs.length) (h : endIdx evs j = none) :
    ¬ CompletedBefore (evs ++ [o]) j r := by
  intro hc
  obtain ⟨e, he, _⟩ := (cb_snoc o hr).mp hc
  rw [h] at he; cases he

theorem nf_snoc {evs : List Obs} (o : Obs) {i j : Nat} (hj : (firstIdx evs j).isSome)
    (h : NotFollowed evs i j) : NotFollowed (evs ++ [o]) i j := by
  intro e' sj he hs
  rw [firstIdx_snoc_isSome o hj] at hs
  cases hi : endIdx evs i with
  | some e0 =>
    rw [endIdx_snoc_some o hi] at he
    have hee : e0 = e' := Option.some.inj he
    exact hee ▸ h e0 sj hi hs
  | none =>
    rw [endIdx_snoc_none o hi] at he
    split at he
    · cases he; exact Nat.le_of_lt (firstIdx_lt hs)
    · cases he

theorem nf_of_running {evs : List Obs} {i : Nat} (j : Nat) (h : endIdx evs i = none) :
    NotFollowed evs i j := by
  intro e' sj he; rw [h] at he; cases he

theorem nf_land {evs : List Obs} {o : Obs} {i : Nat} (he : endIdx evs i = none) (hoi : o.i = i) (hr : o.res.isSome)
    (j : Nat) : NotFollowed (evs ++ [o]) i j := by
  intro e' sj hi hj
  rw [endIdx_snoc_none o he, hoi] at hi
  simp [hr] at hi
  have := firstIdx_lt hj
  simp at this
  omega

/-- a `get` of `k` issued at `rs` and completed at `re` may return `v` (`none` = nothing) -/
def ReadGood (ops : List (Nat × OpK)) (evs : List Obs) (k : Key) (rs re : Nat) (v : Option Nat) : Prop :=
  (∃ i op, (i, op) ∈ ops ∧ wkv op = some (k, v) ∧ (∃ s, firstIdx evs i = some s ∧ s < re) ∧
      ∀ j op', (j, op') ∈ ops → wk op' = some k → CompletedBefore evs j rs → NotFollowed evs i j) ∨
  (v = none ∧ ∀ j op', (j, op') ∈ ops → wk op' = some k → ¬ CompletedBefore evs j rs)

/-- the read clause over any relation `P evs i j` between the returned write `i` and a write `j` completed
before the read was issued; `ReadGood` is the instance `NotFollowed` -/
def ReadGoodP (P : List Obs → Nat → Nat → Prop) (ops : List (Nat × OpK)) (evs : List Obs) (k : Key) (rs re : Nat)
    (v : Option Nat) : Prop :=
  (∃ i op, (i, op) ∈ ops ∧ wkv op = some (k, v) ∧ (∃ s, firstIdx evs i = some s ∧ s < re) ∧
      ∀ j op', (j, op') ∈ ops → wk op' = some k → CompletedBefore evs j rs → P evs i j) ∨
  (v = none ∧ ∀ j op', (j, op') ∈ ops → wk op' = some k → ¬ CompletedBefore evs j rs)

/-- `GI.d` and the multi-tier walk are stated with `ReadGood`, the store walk with `ReadGoodP R` -/
theorem readGood_eq : ReadGood = ReadGoodP NotFollowed := rfl

/-- how the write `i` whose value is returned stands to another write `j`, read off the log -/
abbrev WOrd := List Obs → Nat → Nat → Prop

/-- what the walk over the segments needs of such an order, whatever the log: it survives one more observation once `j`
has been issued, and it refines `NotFollowed` (so an answer it accepts is one the plain read clause accepts) -/
structure OrdLaws (R : WOrd) : Prop where
  snoc : ∀ {evs : List Obs} (o : Obs) {i j : Nat}, (firstIdx evs j).isSome → R evs i j → R (evs ++ [o]) i j
  nf : ∀ {evs : List Obs} {i j : Nat}, R evs i j → NotFollowed evs i j

theorem nfLaws : OrdLaws NotFollowed := ⟨nf_snoc, id⟩

theorem ReadGoodP.mono {P Q : WOrd} (hPQ : ∀ {evs i j}, P evs i j → Q evs i j) {ops : List (Nat × OpK)} {evs : List Obs}
    {k : Key} {rs re : Nat} {v : Option Nat} (h : ReadGoodP P ops evs k rs re v) : ReadGoodP Q ops evs k rs re v :=
  h.imp (fun ⟨i, op, hm, hw, hs, hall⟩ => ⟨i, op, hm, hw, hs, fun j op' hj hk hc => hPQ (hall j op' hj hk hc)⟩) id

theorem readGoodP_snoc {R : WOrd} (L : OrdLaws R) {ops : List (Nat × OpK)} {evs : List Obs} (o : Obs) {k : Key} {rs re : Nat}
    {v : Option Nat} (hr : rs ≤ evs.length) (h : ReadGoodP R ops evs k rs re v) :
    ReadGoodP R ops (evs ++ [o]) k rs re v := by
  rcases h with ⟨i, op, hm, hw, ⟨s, hs, hlt⟩, hall⟩ | ⟨hv, hall⟩
  · refine Or.inl ⟨i, op, hm, hw, ⟨s, firstIdx_snoc_some o hs, hlt⟩, fun j op' hj hk hcb => ?_⟩
    have hcb' := (cb_snoc o hr).mp hcb
    have ⟨_, he, _⟩ := hcb'
    obtain ⟨_, hsj, _⟩ := firstIdx_of_endIdx he
    exact L.snoc o (by rw [hsj]; rfl) (hall j op' hj hk hcb')
  · exact Or.inr ⟨hv, fun j op' hj hk hcb => hall j op' hj hk ((cb_snoc o hr).mp hcb)⟩

theorem mem_writesOf {ops : List (Nat × OpK)} {evs : List Obs} {w : WRec} :
    w ∈ writesOf ops evs ↔
      ∃ i op s k v, (i, op) ∈ ops ∧ firstIdx evs i = some s ∧ wkv op = some (k, v) ∧
        w = ⟨k, v, s, endIdx evs i⟩ := by
  unfold writesOf
  rw [List.mem_filterMap]
  constructor
  · rintro ⟨⟨i, op⟩, hm, hf⟩
    cases hs : firstIdx evs i with
    | none => simp [hs] at hf
    | some s =>
      cases op <;> simp [hs] at hf
      case put k v => exact ⟨i, _, s, k, some v, hm, hs, rfl, hf.symm⟩
      case del k => exact ⟨i, _, s, k, none, hm, hs, rfl, hf.symm⟩
  · rintro ⟨i, op, s, k, v, hm, hs, hw, rfl⟩
    refine ⟨(i, op), hm, ?_⟩
    cases op <;> simp [wkv] at hw
    case put k' v' => obtain ⟨rfl, rfl⟩ := hw; simp [hs]
    case del k' => obtain ⟨rfl, rfl⟩ := hw; simp [hs]

theorem mem_before {ops : List (Nat × OpK)} {evs : List Obs} {k : Key} {rs : Nat} {w : WRec}
    (hw : w ∈ ((writesOf ops evs).filter (·.key == k)).filter
      (fun w => match w.e with | some e => decide (e < rs) | none => false)) :
    ∃ j op' sj kj vj, (j, op') ∈ ops ∧ wk op' = some k ∧ CompletedBefore evs j rs ∧
      firstIdx evs j = some sj ∧ w = ⟨kj, vj, sj, endIdx evs j⟩ := by
  rw [List.mem_filter, List.mem_filter] at hw
  obtain ⟨⟨hw, hk⟩, he⟩ := hw
  obtain ⟨j, op', sj, k', v', hm, hs, hwk, rfl⟩ := mem_writesOf.mp hw
  simp only [beq_iff_eq] at hk
  subst hk
  refine ⟨j, op', sj, k', v', hm, wk_of_wkv hwk, ?_, hs, rfl⟩
  cases hej : endIdx evs j with
  | none => simp [hej] at he
  | some e => simp [hej] at he; exact ⟨e, hej, he⟩

/-- the judge's read test over any "is hidden by" test `rel` on write records whose truth refutes `P` -/
theorem readOkP {P : List Obs → Nat → Nat → Prop} {rel : WRec → WRec → Bool} {ops : List (Nat × OpK)}
    {evs : List Obs} {k : Key} {rs re : Nat} {v : Option Nat}
    (hrel : ∀ {i j s sj ki kj vi vj}, firstIdx evs i = some s → firstIdx evs j = some sj → P evs i j →
      rel ⟨kj, vj, sj, endIdx evs j⟩ ⟨ki, vi, s, endIdx evs i⟩ = false)
    (h : ReadGoodP P ops evs k rs re v) :
    (let mine := (writesOf ops evs).filter (·.key == k)
     let before := mine.filter fun w => match w.e with | some e => e < rs | none => false
     (v.isNone && before.isEmpty) ||
       mine.any fun w' => w'.val == v && w'.s < re && !(before.any fun w => rel w w')) = true := by
  simp only [Bool.or_eq_true, Bool.and_eq_true]
  rcases h with ⟨i, op, hm, hw, ⟨s, hs, hlt⟩, hall⟩ | ⟨hv, hall⟩
  · right
    rw [List.any_eq_true]
    refine ⟨⟨k, v, s, endIdx evs i⟩, ?_, ?_⟩
    · rw [List.mem_filter]
      exact ⟨mem_writesOf.mpr ⟨i, op, s, k, v, hm, hs, hw, rfl⟩, by simp⟩
    · simp only [Bool.and_eq_true, beq_self_eq_true, decide_eq_true_eq, true_and, Bool.not_eq_true']
      refine ⟨hlt, ?_⟩
      rw [Bool.eq_false_iff]
      intro hany
      rw [List.any_eq_true] at hany
      obtain ⟨w, hwb, hf⟩ := hany
      obtain ⟨j, op', sj, _, _, hj, hk, hcb, hsj, rfl⟩ := mem_before hwb
      rw [hrel hs hsj (hall j op' hj hk hcb)] at hf
      cases hf
  · left
    subst hv
    refine ⟨rfl, ?_⟩
    rw [List.isEmpty_iff]
    apply List.eq_nil_iff_forall_not_mem.mpr
    intro w hwb
    obtain ⟨j, op', sj, _, _, hj, hk, hcb, _, _⟩ := mem_before hwb
    exact hall j op' hj hk hcb

theorem readOk_of_readGood {ops : List (Nat × OpK)} {evs : List Obs} {k : Key} {rs re : Nat}
    {v : Option Nat} (h : ReadGood ops evs k rs re v) : readOk (writesOf ops evs) k rs re v = true :=
  readOkP (P := NotFollowed) (rel := follows) (fun {i j s sj _ _ _ _} _ hsj hnf => by
    cases hei : endIdx evs i with
    | none => rfl
    | some e' => exact decide_eq_false (Nat.not_lt.mpr (hnf e' sj hei hsj))) h

def resOf : Option Nat → Res
  | none => .none
  | some v => .val v

def ReadsOk (R : List Obs → Key → Nat → Nat → Option Nat → Prop) (ops : List (Nat × OpK)) (evs : List Obs) : Prop :=
  ∀ i k rs re, (i, OpK.get k) ∈ ops → firstIdx evs i = some rs → endIdx evs i = some re →
    ∃ v, (evs.getD re dObs).res = some (resOf v) ∧ R evs k rs re v

def GetDone (R : List Obs → Key → Nat → Nat → Option Nat → Prop) (ops : List (Nat × OpK)) (evs : List Obs)
    (o : Obs) : Prop :=
  ∀ k rs, (o.i, OpK.get k) ∈ ops → o.res.isSome → endIdx evs o.i = none →
    firstIdx (evs ++ [o]) o.i = some rs → ∃ v, o.res = some (resOf v) ∧ R (evs ++ [o]) k rs evs.length v

theorem GetDone.mono {R R' : List Obs → Key → Nat → Nat → Option Nat → Prop} {ops : List (Nat × OpK)} {evs : List Obs}
    {o : Obs} (hR : ∀ {evs k rs re v}, R evs k rs re v → R' evs k rs re v) (h : GetDone R ops evs o) : GetDone R' ops evs o :=
  fun k rs hm hr he hs => have ⟨v, hv, hg⟩ := h k rs hm hr he hs; ⟨v, hv, hR hg⟩

theorem Obs.of_res_none {o : Obs} {p : Prop} (h : o.res = none) (hs : o.res.isSome) : p := by
  rw [h] at hs; cases hs

theorem GetDone.of_res_none {R : List Obs → Key → Nat → Nat → Option Nat → Prop} {ops : List (Nat × OpK)}
    {evs : List Obs} {o : Obs} (h : o.res = none) : GetDone R ops evs o :=
  fun _ _ _ => Obs.of_res_none h

theorem getD_snoc_lt {α} (l : List α) (x d : α) (n : Nat) (h : n < l.length) :
    (l ++ [x]).getD n d = l.getD n d := by
  simp [List.getD_eq_getElem?_getD, List.getElem?_append_left h]

theorem getD_snoc_eq {α} (l : List α) (x d : α) : (l ++ [x]).getD l.length d = x := by
  simp [List.getD_eq_getElem?_getD]

theorem ReadsOk.snoc {R : List Obs → Key → Nat → Nat → Option Nat → Prop} {ops : List (Nat × OpK)} {evs : List Obs}
    (hR : ∀ {k rs re v} (o : Obs), rs ≤ evs.length → R evs k rs re v → R (evs ++ [o]) k rs re v)
    (h : ReadsOk R ops evs) (o : Obs) (hd : GetDone R ops evs o) :
    ReadsOk R ops (evs ++ [o]) := by
  intro i k rs re hm hs he
  cases he0 : endIdx evs i with
  | some re0 =>
    rw [endIdx_snoc_some o he0] at he
    cases he
    obtain ⟨rs0, hrs0, _⟩ := firstIdx_of_endIdx he0
    rw [firstIdx_snoc_some o hrs0] at hs
    cases hs
    obtain ⟨v, hv, hg⟩ := h i k _ _ hm hrs0 he0
    exact ⟨v, by rw [getD_snoc_lt _ _ _ _ (endIdx_lt he0)]; exact hv, hR o (Nat.le_of_lt (firstIdx_lt hrs0)) hg⟩
  | none =>
    rw [endIdx_snoc_none o he0] at he
    split at he
    · rename_i hc
      rw [Bool.and_eq_true, beq_iff_eq] at hc
      cases he
      obtain ⟨rfl, hres⟩ := hc
      obtain ⟨v, hv, hg⟩ := hd k rs hm hres he0 hs
      exact ⟨v, by rw [getD_snoc_eq]; exact hv, hg⟩
    · cases he

theorem judgeReads_none {cfg : Cfg} {ops : List (Nat × OpK)} {evs : List Obs}
    (h : ReadsOk (ReadGood ops) ops evs) : judgeReads cfg ops evs = none := by
  unfold judgeReads
  rw [List.findSome?_eq_none_iff]
  rintro ⟨i, op⟩ hm
  cases op with
  | get k =>
    cases hs : firstIdx evs i with
    | none => simp only [hs]
    | some rs =>
      cases he : endIdx evs i with
      | none => simp only [hs, he]
      | some re =>
        simp only [hs, he]
        obtain ⟨v, hres, hg⟩ := h i k rs re hm hs he
        have hok := readOk_of_readGood hg
        have hres' : (evs.getD re ⟨0, [], [], [], none⟩).res = some (resOf v) := hres
        cases v with
        | none => simp only [hres', resOf, hok, if_true]
        | some x => simp only [hres', resOf, hok, if_true]
  | _ => simp
