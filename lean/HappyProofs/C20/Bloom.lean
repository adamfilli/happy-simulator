import HappyProofs.C20.Stream
import HappyProofs.C20.Seq
namespace HappyModel.C20

@[simp] theorem Bloom.add_k (h : Nat → Nat → Nat) (b : Bloom) (x c : Nat) : (b.add h x c).k = b.k := by
  unfold Bloom.add; split <;> rfl
@[simp] theorem Bloom.add_m (h : Nat → Nat → Nat) (b : Bloom) (x c : Nat) : (b.add h x c).m = b.m := by
  unfold Bloom.add; split <;> rfl
theorem Bloom.add_n (h : Nat → Nat → Nat) (b : Bloom) (x c : Nat) : (b.add h x c).n = b.n + c := by
  unfold Bloom.add; split
  · next hc => rw [hc]; rfl
  · rfl

theorem Bloom.bit_add (h : Nat → Nat → Nat) (b : Bloom) (x c p : Nat) :
    (b.add h x c).bit p = (b.bit p || (c != 0 && (positions h b.k x).contains p)) := by
  unfold Bloom.add Bloom.bit
  split
  · next hc => simp [hc]
  · next hc => simp [bne_iff_ne.mpr hc, List.contains_eq_mem, List.mem_append, Bool.or_comm]

theorem Bloom.bit_merge (a b : Bloom) (p : Nat) : (a.merge b).bit p = (a.bit p || b.bit p) := by
  simp [Bloom.merge, Bloom.bit, List.contains_eq_mem, List.mem_append]

@[simp] theorem Bloom.ofStream_k (h : Nat → Nat → Nat) (m k : Nat) (xs : Stream) :
    (Bloom.ofStream h m k xs).k = k := foldl_keeps Bloom.k (fun _ _ => Bloom.add_k ..) xs _
@[simp] theorem Bloom.ofStream_m (h : Nat → Nat → Nat) (m k : Nat) (xs : Stream) :
    (Bloom.ofStream h m k xs).m = m := foldl_keeps Bloom.m (fun _ _ => Bloom.add_m ..) xs _
@[simp] theorem Bloom.ofStream_n (h : Nat → Nat → Nat) (m k : Nat) (xs : Stream) :
    (Bloom.ofStream h m k xs).n = total xs :=
  (foldl_total Bloom.n (fun _ _ => Bloom.add_n ..) xs _).trans (Nat.zero_add _)

theorem Bloom.bit_fold (h : Nat → Nat → Nat) (xs : Stream) (s : Bloom) (p : Nat) :
    (xs.foldl (fun s q => s.add h q.1 q.2) s).bit p =
      (s.bit p || xs.any fun q => q.2 != 0 && (positions h s.k q.1).contains p) := by
  induction xs generalizing s with
  | nil => simp
  | cons q qs ih => rw [List.foldl_cons, ih, Bloom.add_k, Bloom.bit_add, List.any_cons, Bool.or_assoc]

theorem Bloom.bit_ofStream (h : Nat → Nat → Nat) (m k : Nat) (xs : Stream) (p : Nat) :
    (Bloom.ofStream h m k xs).bit p = xs.any fun q => q.2 != 0 && (positions h k q.1).contains p :=
  (Bloom.bit_fold h xs _ p).trans (Bool.false_or _)

theorem Bloom.contains_ofStream (h : Nat → Nat → Nat) (m k : Nat) (xs : Stream) (x : Nat)
    (hx : 0 < trueCount xs x) : (Bloom.ofStream h m k xs).contains h x = true := by
  obtain ⟨c, hmem, hc⟩ := exists_of_trueCount_pos xs x hx
  rw [Bloom.contains, Bloom.ofStream_k, List.all_eq_true]
  intro p hp
  rw [Bloom.bit_ofStream, List.any_eq_true]
  exact ⟨(x, c), hmem, by simp [hc, hp]⟩

/-- the list `bits` may differ in order and repetitions between filters an observer cannot tell apart; what the
    driver prints of a filter is `bloomObs` in `Props` -/
def Bloom.view (b : Bloom) : (Nat → Bool) × Nat × Nat × Nat := (b.bit, b.n, b.m, b.k)

def Bloom.Eqv (a b : Bloom) : Prop := a.view = b.view

theorem Bloom.eqv_iff {a b : Bloom} : Bloom.Eqv a b ↔ (∀ p, a.bit p = b.bit p) ∧ a.n = b.n ∧ a.m = b.m ∧ a.k = b.k := by
  simp only [Bloom.Eqv, Bloom.view, Prod.mk.injEq, funext_iff]

theorem Bloom.Eqv.add (h : Nat → Nat → Nat) (x c : Nat) {s s' : Bloom} (e : Bloom.Eqv s s') :
    Bloom.Eqv (s.add h x c) (s'.add h x c) := by
  obtain ⟨hb, hn, hm, hk⟩ := Bloom.eqv_iff.mp e
  simp only [Bloom.eqv_iff, Bloom.bit_add, Bloom.add_n, Bloom.add_m, Bloom.add_k, hb, hn, hm, hk, implies_true,
    and_self]

theorem Bloom.Eqv.merge {a a' b b' : Bloom} (ea : Bloom.Eqv a a') (eb : Bloom.Eqv b b') :
    Bloom.Eqv (a.merge b) (a'.merge b') := by
  obtain ⟨a1, a2, a3⟩ := Bloom.eqv_iff.mp ea
  obtain ⟨b1, b2, -⟩ := Bloom.eqv_iff.mp eb
  exact Bloom.eqv_iff.mpr ⟨fun p => by rw [Bloom.bit_merge, Bloom.bit_merge, a1, b1], by simp only [Bloom.merge, a2, b2], a3⟩

theorem Bloom.merge_ofStream_eqv (h : Nat → Nat → Nat) (m k : Nat) (xs ys : Stream) :
    Bloom.Eqv ((Bloom.ofStream h m k xs).merge (Bloom.ofStream h m k ys)) (Bloom.ofStream h m k (xs ++ ys)) :=
  Bloom.eqv_iff.mpr ⟨fun p => by rw [Bloom.bit_merge, Bloom.bit_ofStream, Bloom.bit_ofStream, Bloom.bit_ofStream,
    List.any_append], by simp [Bloom.merge, total_append]⟩

def bloomSame (h : Nat → Nat → Nat → Nat) (m k : Nat → Nat) (t s : Nat) : Prop :=
  h t = h s ∧ m t = m s ∧ k t = k s

theorem bloomAlg_ofStream (h : Nat → Nat → Nat → Nat) (m k : Nat → Nat) (r : Nat) (xs : Stream) :
    (bloomAlg h m k).ofStream r xs = Bloom.ofStream (h r) (m r) (k r) xs := rfl

theorem bloom_lawful (h : Nat → Nat → Nat → Nat) (m k : Nat → Nat) :
    Lawful (bloomAlg h m k) Bloom.Eqv (bloomSame h m k) :=
  .of_view Bloom.view (fun r => Bloom.Eqv.add (h r)) Bloom.Eqv.merge (fun t => Bloom.merge_ofStream_eqv (h t) (m t) (k t))
    (fun t s ys ⟨hh, hm, hk⟩ => by rw [bloomAlg_ofStream, bloomAlg_ofStream, hh, hm, hk]) (fun _ _ => rfl)

end HappyModel.C20
