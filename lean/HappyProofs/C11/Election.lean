import HappyProofs.C11.ElectInv
/-! Every handler call respects the vote ledger (`Does.voteOk`), provided `_step_down` keeps the vote
    within a term (`v.keepVote`, repair D1); then `EInv` along every run, and election safety in
    the form the Spec judges. -/
namespace HappyModel.C11

/-- `snd` holds neither a RequestVote nor a granted vote -/
def NoVotes (snd : List (Nat × Body)) : Prop :=
  ∀ d b, (d, b) ∈ snd → (∀ t f, b ≠ .vr t true f) ∧ ∀ t c li lt, b ≠ .rv t c li lt

theorem NoVotes.nil : NoVotes [] := fun _ _ h => nomatch h

theorem Refusals.noVotes {snd : List (Nat × Body)} (h : Refusals snd) : NoVotes snd := fun d b hm => by
  rcases h d b hm with ⟨_, _, rfl⟩ | ⟨_, _, _, rfl⟩ <;> exact ⟨nofun, nofun⟩

theorem noVotes_ae {d : Nat} {x : Node} {me p : Nat} : NoVotes [(d, aeFor x me p)] := fun _ _ hm => by
  simp only [List.mem_singleton, Prod.mk.injEq] at hm
  rw [hm.2]; exact ⟨nofun, nofun⟩

theorem noVotes_sendAEs (n : Nat) (x : Node) (me : Nat) : NoVotes (sendAEs n x me) := fun d b hm => by
  rw [mem_sendAEs hm]; exact ⟨nofun, nofun⟩

theorem voteOk_ev {v : Variant} {g : GSt} (inv : EInv g) {i : Nat} {r : HR} (hk : v.keepVote = true) {y : Node}
    (hy : y = g.s.nodes i ∨ ∃ t, (g.s.nodes i).term ≤ t ∧ y = stepDown v (g.s.nodes i) t)
    (hev : r.node.ev = y.ev) (hs : NoVotes r.sends) : VoteOk g i r := by
  obtain ⟨e1, e2, e3, e4⟩ := ev_eq hev
  have h34 : (∀ d t f, (d, Body.vr t true f) ∈ r.sends → f = i ∧ t = r.node.term ∧ r.node.votedFor = some d)
      ∧ ∀ d t c a b, (d, Body.rv t c a b) ∈ r.sends → c = i :=
    ⟨fun d t f hm => absurd rfl ((hs _ _ hm).1 t f), fun d t c a b hm => absurd rfl ((hs _ _ hm).2 t c a b)⟩
  rcases hy with rfl | ⟨t, ht, rfl⟩
  · exact ⟨by omega, fun _ c hc => e2 ▸ hc, h34.1, h34.2, Or.inr (Or.inl ⟨e3, e4, e1⟩), e4 ▸ inv.c2 i⟩
  · obtain ⟨s1, s2, s3, s4⟩ := stepDown_ev v hk (g.s.nodes i) t
    exact ⟨by omega, fun heq c hc => by rw [e2, s4 (by omega)]; exact hc, h34.1, h34.2, Or.inl (e3.trans s2),
      by rw [e4, s3]; exact inv.c2 i⟩

theorem insertVote_nodup {l : List Nat} (f : Nat) (h : l.Nodup) : (insertVote l f).Nodup := by
  unfold insertVote; split
  · exact h
  · exact List.nodup_cons.mpr ⟨by assumption, h⟩

theorem mem_insertVote {l : List Nat} {f x : Nat} (h : x ∈ insertVote l f) : x = f ∨ x ∈ l := by
  unfold insertVote at h; split at h
  · exact Or.inr h
  · simpa using h

/-- `hrv`, `hvr`: clauses `m0`, `m1` of `EInv` for the message the handler is called with -/
theorem Does.voteOk {v : Variant} {g : GSt} (inv : EInv g) (hk : v.keepVote = true) {i src : Nat} {inp : Inp} {r : HR}
    (h : Does v g.s.n (g.s.nodes i) i src inp r) (hrv : ∀ t c li lt, inp = .msg (.rv t c li lt) → c = src)
    (hvr : ∀ t f, inp = .msg (.vr t true f) → (f, t, i) ∈ g.voted) : VoteOk g i r := by
  -- the votes a candidate holds after one more reply
  have votes : ∀ gr f, inp = .msg (.vr (g.s.nodes i).term gr f) → (g.s.nodes i).role = .candidate →
      (∀ y ∈ (addVote (g.s.nodes i) gr f).votes, (y, (g.s.nodes i).term, i) ∈ g.voted) ∧ (addVote (g.s.nodes i) gr f).votes.Nodup := by
    intro gr f hin hc
    have hold := inv.c1 i (by rw [hc]; decide)
    cases gr with
    | false => exact ⟨hold, inv.c2 i⟩
    | true =>
      refine ⟨fun y hy => ?_, insertVote_nodup f (inv.c2 i)⟩
      rcases mem_insertVote hy with rfl | h
      · exact hvr _ _ hin
      · exact hold y h
  cases h with
  | same => exact voteOk_ev inv hk (Or.inl rfl) rfl (Inp.refusals _ _ _ _).noVotes
  | down _ hd => exact voteOk_ev inv hk (Or.inr ⟨_, hd.le, rfl⟩) rfl (Inp.refusals _ _ _ _).noVotes
  | hb => exact voteOk_ev inv hk (Or.inl rfl) rfl (noVotes_sendAEs _ _ _)
  | accept t l pi pt es lc hle =>
    refine voteOk_ev inv hk (Or.inr ⟨t, hle, rfl⟩) (aeAccept_fr ..).ev fun d b hm => ?_
    obtain ⟨_, _, rfl⟩ := mem_aeAccept_sends hm
    exact ⟨nofun, nofun⟩
  | ack => exact voteOk_ev inv hk (Or.inl rfl) (tryAdvance_kept ..).fr.ev ((tryAdvance_kept ..).sends ▸ .nil)
  | nack _ f =>
    refine voteOk_ev inv hk (Or.inl rfl) (y := g.s.nodes i) rfl ?_
    show NoVotes (if _ then _ else _)
    split
    · exact noVotes_ae
    · exact .nil
  | append => exact voteOk_ev inv hk (Or.inl rfl) rfl .nil
  | grant t c li lt x1 h1 hg =>
    have hcs := hrv t c li lt rfl; subst hcs
    simp only [rvGrant, Bool.and_eq_true, decide_eq_true_eq, Bool.or_eq_true, beq_iff_eq] at hg
    have h3 : ∀ d t' f, (d, Body.vr t' true f) ∈ [(c, Body.vr t true i)] → f = i ∧ t' = t ∧ some c = some d := by
      intro d t' f hm
      simp only [List.mem_singleton, Prod.mk.injEq, Body.vr.injEq] at hm
      exact ⟨hm.2.2.2, hm.2.1, by rw [hm.1]⟩
    have h4 : ∀ d t' c' a b, (d, Body.rv t' c' a b) ∈ [(c, Body.vr t true i)] → c' = i := by
      intro d t' c' a b hm; simp at hm
    rcases h1 with ⟨rfl, ht⟩ | ⟨rfl, ht⟩
    · refine { h1 := Nat.le_of_eq ht, h2 := fun _ c' hc => ?_, h3 := h3, h4 := h4, h5 := Or.inr (Or.inl ⟨rfl, rfl, ht.symm⟩),
               h6 := inv.c2 i }
      rcases hg.1.2 with h | h
      · rw [h] at hc; cases hc
      · exact h.symm.trans hc ▸ rfl
    · exact { h1 := Nat.le_of_lt ht, h2 := fun heq => absurd heq (Nat.ne_of_gt ht), h3 := h3, h4 := h4, h5 := Or.inl rfl,
              h6 := inv.c2 i }
  | campaign hnl _ =>
    refine { h1 := Nat.le_succ _, h2 := fun heq => absurd heq (Nat.succ_ne_self _), h3 := fun d t f hm => (nomatch mem_rvsFor hm),
             h4 := fun d t c a b hm => ?_, h6 := by simp [startElection]
             h5 := Or.inr (Or.inr ⟨fun y hy => ?_, hnl, fun _ => Or.inl (Nat.lt_succ_self _), fun h => by cases h⟩) }
    · cases mem_rvsFor hm; rfl
    · cases List.mem_singleton.mp hy; exact List.mem_append_left _ (voteDiff_mem rfl)
  | campaignWin hnl hq =>
    refine { h1 := Nat.le_succ _, h2 := fun heq => absurd heq (Nat.succ_ne_self _), h3 := fun d t f hm => ?_,
             h4 := fun d t c a b hm => ?_, h6 := by show (startElection (g.s.nodes i) i).votes.Nodup; simp [startElection]
             h5 := Or.inr (Or.inr ⟨fun y hy => ?_, hnl, (fun h => by cases h), fun _ => hq⟩) }
    · rcases mem_becomeLeader_sends hm with h | h
      · cases mem_rvsFor h
      · cases mem_sendAEs h
    · rcases mem_becomeLeader_sends hm with h | h
      · cases mem_rvsFor h; rfl
      · cases mem_sendAEs h
    · cases List.mem_singleton.mp hy; exact List.mem_append_left _ (voteDiff_mem rfl)
  | vote gr f hc _ =>
    obtain ⟨hv, hnd⟩ := votes gr f rfl hc
    exact { h1 := Nat.le_refl _, h2 := fun _ c hcv => hcv, h3 := fun d t f' hm => (by cases hm), h4 := fun d t c a b hm => (by cases hm),
            h6 := hnd
            h5 := Or.inr (Or.inr ⟨fun y hy => List.mem_append_right _ (hv y hy), by rw [hc]; decide, fun _ => Or.inr ⟨rfl, hc⟩,
              fun h => by cases hc.symm.trans h⟩) }
  | elect gr f hc hq =>
    obtain ⟨hv, hnd⟩ := votes gr f rfl hc
    refine { h1 := Nat.le_refl _, h2 := fun _ c hcv => hcv, h3 := fun d t f' hm => ?_, h4 := fun d t c a b hm => ?_, h6 := hnd
             h5 := Or.inr (Or.inr ⟨fun y hy => List.mem_append_right _ (hv y hy), by rw [hc]; decide, (fun h => by cases h), fun _ => hq⟩) }
    · rcases mem_becomeLeader_sends hm with h | h
      · cases h
      · cases mem_sendAEs h
    · rcases mem_becomeLeader_sends hm with h | h
      · cases h
      · cases mem_sendAEs h

open Spec

theorem einv_idle {g : GSt} (inv : EInv g) (s' : St) (hn : s'.nodes = g.s.nodes) (hm : ∀ e ∈ s'.msgs, e ∈ g.s.msgs)
    (hsz : s'.n = g.s.n) : EInv { g with s := s' } := by
  obtain ⟨n', nodes', cr', msgs', nid'⟩ := s'
  simp only at hn hm hsz
  subst hn hsz
  exact ⟨inv.v0, inv.v1, inv.v2, inv.v3, inv.vlt, fun e he => inv.m0 e (hm e he), fun e he => inv.m1 e (hm e he),
    inv.c1, inv.c2, inv.l0, inv.l1, inv.l2⟩

theorem einv_step (v : Variant) (hk : v.keepVote = true) (g : GSt) (inv : EInv g) (a : Act) : EInv (gstep v g a) := by
  rcases step_cases v g.s a with h | ⟨i, src, inp, r, h⟩
  · rw [gstep_idle h.tgt]; exact einv_idle inv _ h.nodes h.msgs h.n
  · rw [gstep_handler h.tgt h.eq]
    refine einv_handler inv h.hi (h.does.voteOk inv hk (fun t c li lt hb => ?_) fun t f hb => ?_) _
    · obtain ⟨_, e, d⟩ := h.msg _ hb
      exact d.sender ▸ inv.m0 e d.mem t c li lt d.body
    · obtain ⟨_, e, d⟩ := h.msg _ hb
      exact d.dst ▸ inv.m1 e d.mem t f d.body

theorem einv_run (v : Variant) (hk : v.keepVote = true) (as : List Act) (g : GSt) : EInv g → EInv (grun v g as) :=
  grun_keeps (fun g a h => einv_step v hk g h a) as

theorem leaders_mono_step (v : Variant) (g : GSt) (a : Act) : ∀ x ∈ g.leaders, x ∈ (gstep v g a).leaders := by
  intro x hx
  rcases gstep_cases v g a with h | ⟨i, r, _, h⟩ <;> rw [h]
  · exact hx
  · exact List.mem_append_right _ hx

theorem leaderObs_viewsOf {s : St} {f : Frame} (hf : f.views = viewsOf s) {t i : Nat} (h : (t, i) ∈ leaderObs f) :
    (s.nodes i).role = .leader ∧ (s.nodes i).term = t := by
  unfold leaderObs at h
  obtain ⟨⟨w, k⟩, hmem, hsome⟩ := List.mem_filterMap.mp h
  have hget := List.mem_zipIdx_iff_getElem?.mp hmem
  simp only at hget hsome
  rw [hf] at hget
  obtain ⟨_, hw⟩ := getElem?_viewsOf hget
  split at hsome
  · rename_i hl
    simp only [Option.some.injEq, Prod.mk.injEq] at hsome
    obtain ⟨h1, h2⟩ := hsome
    subst h2
    rw [hw] at hl h1
    exact ⟨hl, h1⟩
  · cases hsome

theorem frameOf_views (s' : St) (o : StepOut) (a : Act) : (frameOf s' o a).views = viewsOf s' := rfl

theorem obs_in_ledger (v : Variant) (hk : v.keepVote = true) (as : List Act) (g : GSt) (inv : EInv g) :
    ∀ f ∈ framesFrom v g.s as, ∀ p ∈ leaderObs f, p ∈ (grun v g as).leaders := by
  intro f hf ⟨t, i⟩ hp
  obtain ⟨pre, a, post, rfl, rfl⟩ := mem_framesFrom hf
  have inv' := einv_step v hk _ (einv_run v hk pre g inv) a
  obtain ⟨hr, ht⟩ := leaderObs_viewsOf (s := (gstep v (grun v g pre) a).s) (by rw [gstep_s]; rfl) hp
  rw [grun_append]
  exact grun_keeps (P := fun g => (t, i) ∈ g.leaders) (fun g a => leaders_mono_step v g a _) post (ht ▸ inv'.l0 i hr)

theorem initObs (n : Nat) : leaderObs { views := viewsOf (init n) } = [] := by
  apply List.eq_nil_iff_forall_not_mem.mpr
  intro p hp
  obtain ⟨t, i⟩ := p
  have := (leaderObs_viewsOf (s := init n) rfl hp).1
  simp [init, initNode] at this

/-- ELECTION SAFETY.  For every cluster size, every action list (deliveries in any order, with
    duplication and loss, timeouts and heartbeats at any moment, client commands, crashes and
    restarts) and every repair variant that keeps a vote within its term: all leader observations of
    the run that carry the same term name the same node. -/
theorem election_safety (v : Variant) (hk : v.keepVote = true) (n : Nat) (as : List Act) :
    electionOk (frames v n as) = true := by
  have inv := einv_run v hk as (ginit n) (einv_init n)
  unfold electionOk
  simp only [List.all_eq_true]
  intro a ha b hb
  have key : ∀ p ∈ (frames v n as).flatMap leaderObs, p ∈ (grun v (ginit n) as).leaders := by
    intro p hp
    obtain ⟨f, hf, hpf⟩ := List.mem_flatMap.mp hp
    simp only [frames, List.mem_cons] at hf
    rcases hf with hf | hf
    · rw [hf, initObs] at hpf; cases hpf
    · exact obs_in_ledger v hk as (ginit n) (einv_init n) f hf p hpf
  obtain ⟨t1, c1⟩ := a
  obtain ⟨t2, c2⟩ := b
  by_cases ht : t1 = t2
  · subst ht
    have := leaders_unique inv (key _ ha) (key _ hb)
    simp [this]
  · simp [ht]

end HappyModel.C11
