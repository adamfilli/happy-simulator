import HappyModel.C19.StreamSpec
/-!
The one induction over a schedule behind every stream judge, and what a `Commit` leaves alone.
-/
namespace HappyModel.C19

/-- a judge `J` accepts every run of the log from a state related to its own by `P` (which may speak of the rest of the
    schedule) once one action is shown to make `J` move on to a state related to the next one -/
theorem run_accepts {σ : Type} (cfg : SCfg) (J : σ → List SRecd → Option String) (hnil : ∀ j, J j [] = none)
    (P : Stream → σ → List (Nat × SAct) → Prop)
    (hstep : ∀ s j t a rest, P s j ((t, a) :: rest) →
      ∃ j', (∀ rs, J j (⟨t, a, (s.step cfg t a).2⟩ :: rs) = J j' rs) ∧ P (s.step cfg t a).1 j' rest) :
    ∀ (sched : List (Nat × SAct)) (s : Stream) (j : σ), P s j sched → J j (Stream.run cfg s sched) = none := by
  intro sched
  induction sched with
  | nil => intro s j _; exact hnil j
  | cons x rest ih =>
    obtain ⟨t, a⟩ := x
    intro s j h
    obtain ⟨j', hj, h'⟩ := hstep s j t a rest h
    rw [Stream.run, hj]
    exact ih _ j' h'

theorem log_commit_eq (cfg : SCfg) (s : Stream) (c : Nat) (offs : List (Nat × Nat)) :
    ∃ cm, s.commit cfg c offs = { s with committed := cm } := by
  induction offs generalizing s with
  | nil => exact ⟨s.committed, rfl⟩
  | cons po rest ih =>
    obtain ⟨cm, h⟩ := ih (s.commitOne cfg c po)
    exact ⟨cm, by rw [Stream.commit, h]; rfl⟩

section
variable (cfg : SCfg) (s : Stream) (c : Nat) (offs : List (Nat × Nat))

theorem commit_parts : (s.commit cfg c offs).parts = s.parts := by
  obtain ⟨cm, e⟩ := log_commit_eq cfg s c offs; rw [e]

theorem commit_hw : (s.commit cfg c offs).hw = s.hw := by
  obtain ⟨cm, e⟩ := log_commit_eq cfg s c offs; rw [e]

theorem commit_members : (s.commit cfg c offs).members = s.members := by
  obtain ⟨cm, e⟩ := log_commit_eq cfg s c offs; rw [e]

theorem commit_asg : (s.commit cfg c offs).asg = s.asg := by
  obtain ⟨cm, e⟩ := log_commit_eq cfg s c offs; rw [e]

theorem commit_prev : (s.commit cfg c offs).prev = s.prev := by
  obtain ⟨cm, e⟩ := log_commit_eq cfg s c offs; rw [e]

end

end HappyModel.C19
