import HappyProofs.C14.EvLog
/-! The read clause of the Spec judge over an abstract log: any result that is a `ReadCase` of the log passes `judgeRead`, for
    any correspondence `WsOk` between the log and the write records of the observation.  Serves the LSM tree and both stores. -/
namespace HappyModel.C14

variable {log : List Ev} {ws : List ORec} {k : Key} {c : Cell} {w : ORec} {x : Cell} {ev : Ev}

/-- `x` is an admissible result of a read of `k` over segments `[rb, re]`, in terms of single events.  The second clause
    covers both the newest event before `rb` and any event in `[rb, re)`: an event at or after `rb` is no earlier than any
    event before `rb`.  The log need not be sorted. -/
def ReadCase (log : List Ev) (k : Key) (rb re : Nat) (x : Cell) : Prop :=
  (x = none ∧ ∀ ev ∈ log, ev.key = k → ¬ ev.n < rb) ∨
  ∃ ev ∈ log, ev.key = k ∧ ev.cell = x ∧ ev.n < re ∧ ∀ ev' ∈ log, ev'.key = k → ev'.n < rb → ev'.n ≤ ev.n

theorem ReadCase.mono {rb re rb' re' : Nat} (h : ReadCase log k rb re x)
    (hb : rb' ≤ rb) (he : re ≤ re') : ReadCase log k rb' re' x :=
  h.imp (fun h => ⟨h.1, fun ev hev hk hlt => h.2 ev hev hk (Nat.lt_of_lt_of_le hlt hb)⟩)
    fun ⟨ev, hev, h1, h2, h3, h4⟩ =>
      ⟨ev, hev, h1, h2, Nat.lt_of_lt_of_le h3 he, fun ev' hev' hk' hlt' => h4 ev' hev' hk' (Nat.lt_of_lt_of_le hlt' hb)⟩

theorem valAt_cases (hs : (log.map (·.n)).Pairwise (· > ·)) (k : Key) (a : Nat) :
    ReadCase log k a a (valAt log k a) := by
  have hs2 := (List.pairwise_map.mp hs).filter fun ev => decide (ev.n < a)
  have hm : ∀ ev ∈ log, ev.n < a → ev ∈ log.filter fun ev => decide (ev.n < a) := fun ev hev hlt =>
    List.mem_filter.mpr ⟨hev, decide_eq_true hlt⟩
  unfold valAt
  cases hf : firstOn k (log.filter fun ev => decide (ev.n < a)) with
  | none => exact Or.inl ⟨rfl, fun ev hev hk hlt => firstOn_none hf ev (hm ev hev hlt) hk⟩
  | some c =>
    obtain ⟨ev, hev, h1, h2, h3⟩ := firstOn_some hs2 hf
    obtain ⟨hev1, hev2⟩ := List.mem_filter.mp hev
    exact Or.inr ⟨ev, hev1, h1, h2, of_decide_eq_true hev2, fun ev' hev' hk' hlt' => h3 ev' (hm ev' hev' hlt') hk'⟩

/-- write records and events correspond, with identities -/
structure WsOk (log : List Ev) (ws : List ORec) : Prop where
  evRec : ∀ ev ∈ log, ∃ w ∈ ws, w.id = ev.id ∧ w.kind = cellKind ev.key ev.cell ∧ w.b ≤ ev.n ∧ ∀ e, w.e = some e → ev.n ≤ e
  putUniq : ∀ w1 ∈ ws, ∀ w2 ∈ ws, ∀ k k' v, w1.kind = .put k v → w2.kind = .put k' v → w1 = w2
  recEv : ∀ w ∈ ws, ∀ k, w.writesKey k = true → ∀ e, w.e = some e →
    ∃ ev ∈ log, ev.id = w.id ∧ ev.key = k ∧ w.b ≤ ev.n ∧ ev.n ≤ e

theorem WsOk.before (h : WsOk log ws) (hw : w ∈ ws)
    (hk : w.writesKey k = true) {t : Nat} (he : endedBefore w t = true) :
    ∃ ev ∈ log, ev.id = w.id ∧ ev.key = k ∧ w.b ≤ ev.n ∧ ev.n < t := by
  unfold endedBefore at he
  cases hwe : w.e with
  | none => rw [hwe] at he; cases he
  | some e =>
    rw [hwe] at he
    obtain ⟨ev, hev, h1, h2, h3, h4⟩ := h.recEv w hw k hk e hwe
    exact ⟨ev, hev, h1, h2, h3, Nat.lt_of_le_of_lt h4 (of_decide_eq_true he)⟩

/-- no write to `k` began after `w` completed and completed before `rb`, when the event of `w` is the newest on
    `k` before `rb` -/
theorem WsOk.no_later (h : WsOk log ws) {rb : Nat} {w w' : ORec}
    (hwe : ∀ e, w.e = some e → ev.n ≤ e) (hfresh : ∀ ev' ∈ log, ev'.key = k → ev'.n < rb → ev'.n ≤ ev.n)
    (hw' : w' ∈ ws) (hk : w'.writesKey k = true)
    (h3 : (match w.e with | some e => decide (e < w'.b) | none => false) = true) (h4 : endedBefore w' rb = true) : False := by
  obtain ⟨ev', hev', _, hk', hb', hlt'⟩ := h.before hw' hk h4
  cases hwe' : w.e with
  | none => rw [hwe'] at h3; cases h3
  | some e =>
    rw [hwe'] at h3
    exact Nat.lt_irrefl e (Nat.lt_of_lt_of_le (Nat.lt_of_lt_of_le (of_decide_eq_true h3) hb')
      (Nat.le_trans (hfresh ev' hev' hk' hlt') (hwe e hwe')))

theorem not_overwritten (h : WsOk log ws) {rb : Nat}
    (hwe : ∀ e, w.e = some e → ev.n ≤ e)
    (hfresh : ∀ ev' ∈ log, ev'.key = k → ev'.n < rb → ev'.n ≤ ev.n) : overwrittenBy ws k w rb = none :=
  List.find?_eq_none.mpr fun w' hw' hp => by
    simp only [Bool.and_eq_true] at hp
    exact h.no_later hwe hfresh hw' hp.1.1.1 hp.1.2 hp.2

theorem judgeRead_of_case (h : WsOk log ws) {rb re : Nat}
    (hr : ReadCase log k rb re x) : judgeRead ws k rb re x = none := by
  rcases hr with ⟨rfl, hno⟩ | ⟨ev, hev, hk, hc, hlt, hfresh⟩
  · have hi : (ws.any fun w' => w'.writesKey k && endedBefore w' rb) = false :=
      List.any_eq_false.mpr fun w' hw' hp => by
        simp only [Bool.and_eq_true] at hp
        obtain ⟨ev', hev', _, hk', _, hlt'⟩ := h.before hw' hp.1 hp.2
        exact hno ev' hev' hk' hlt'
    simp [judgeRead, hi]
  · obtain ⟨w, hw, _, hwk, hwb, hwe⟩ := h.evRec ev hev
    rw [hk, hc] at hwk
    have hov : overwrittenBy ws k w rb = none := not_overwritten h hwe hfresh
    have hwlt : w.b < re := Nat.lt_of_le_of_lt hwb hlt
    cases x with
    | none =>
      have hd : (ws.any fun d => d.isDel && d.writesKey k && decide (d.b < re) && (overwrittenBy ws k d rb).isNone) = true :=
        List.any_eq_true.mpr ⟨w, hw, by simp [hov, ORec.isDel, ORec.writesKey, hwk, cellKind, hwlt]⟩
      simp [judgeRead, hd]
    | some v =>
      simp only [cellKind] at hwk
      unfold judgeRead
      simp only []
      split
      · rename_i hf
        have := List.find?_eq_none.mp hf w hw
        rw [hwk] at this
        simp at this
      · rename_i w0 hf
        have hp := List.find?_some hf
        obtain ⟨k', hk0⟩ : ∃ k', w0.kind = .put k' v := by
          cases hk0 : w0.kind with
          | put k' v' =>
            rw [hk0] at hp
            simp only [Bool.and_eq_true, beq_iff_eq] at hp
            exact ⟨k', by rw [hp.2]⟩
          | _ => rw [hk0] at hp; cases hp
        obtain rfl : w = w0 := h.putUniq w hw w0 (List.mem_of_find?_eq_some hf) k k' v hwk hk0
        simp [hov, hwlt]

theorem judgeRead_valAt (h : WsOk log ws) (hs : (log.map (·.n)).Pairwise (· > ·))
    {rb re a : Nat} (hra : rb ≤ a) (hae : a ≤ re) : judgeRead ws k rb re (valAt log k a) = none :=
  judgeRead_of_case h ((valAt_cases hs k a).mono hra hae)

theorem judgeOpP_none {pfx : String} {nkeys : Nat} {o : ORec}
    (hget : ∀ k e, o.kind = .get k → o.e = some e → judgeRead ws k o.b e o.got = none)
    (hscan : ∀ lo hi e, o.kind = .scan lo hi → o.e = some e → sortedStrict o.rows = true ∧
      (∀ r ∈ o.rows, lo ≤ r.1 ∧ r.1 < hi) ∧ ∀ k, lo ≤ k → k < hi → judgeRead ws k o.b e (o.rows.lookup k) = none) :
    judgeOpP pfx ws nkeys o = none := by
  unfold judgeOpP
  split
  · rename_i k e hk hoe
    rw [hget k e hk hoe]
    rfl
  · rename_i lo hi e hk hoe
    obtain ⟨h1, h2, h3⟩ := hscan lo hi e hk hoe
    have hany : (o.rows.any fun r => !(decide (lo ≤ r.1) && decide (r.1 < hi))) = false :=
      List.any_eq_false.mpr fun r hr => by simp [(h2 r hr).1, (h2 r hr).2]
    rw [h1, hany]
    simp only [Bool.not_true, Bool.false_eq_true, if_false]
    apply List.findSome?_eq_none_iff.mpr
    intro k _
    split
    · rename_i hc
      simp only [Bool.and_eq_true, decide_eq_true_eq] at hc
      rw [h3 k hc.1 hc.2]
      rfl
    · rfl
  · rfl

theorem mem_writesOf {obs : List ORec} :
    w ∈ writesOf obs ↔ w ∈ obs ∧ (match w.kind with | .put _ _ => true | .del _ => true | _ => false) = true :=
  List.mem_filter

end HappyModel.C14
