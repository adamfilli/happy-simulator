import HappyProofs.C14.Basic
/-! Lists of operations with distinct ids, split at one of them (`ops = pre ++ o :: post`); and `filter_lt_append`, the
    one list fact the link and the judge side share. -/
namespace HappyModel.C14.SM
open HappyModel.C14

theorem lookup_split {α : Type} {ops : List (Nat × α)} {id : Nat} {op : α} (h : ops.lookup id = some op) :
    ∃ pre post, ops = pre ++ (id, op) :: post := by
  obtain ⟨pre, post, e, _⟩ := List.lookup_eq_some_iff.1 h
  exact ⟨pre, post, e⟩

theorem split_unique {α : Type} {pre pre' post post' : List (Nat × α)} {o o' : Nat × α}
    (hnd : ((pre ++ o :: post).map (·.1)).Nodup) (h : pre ++ o :: post = pre' ++ o' :: post') (hid : o.1 = o'.1) :
    pre = pre' ∧ o = o' ∧ post = post' := by
  induction pre generalizing pre' with
  | nil =>
    cases pre' with
    | nil => simpa using h
    | cons a p =>
      obtain ⟨rfl, rfl⟩ := List.cons.inj h
      exact absurd hid.symm ((split_notin hnd).2 o' (List.mem_append_right _ (List.mem_cons_self ..)))
  | cons a p ih =>
    cases pre' with
    | nil =>
      obtain ⟨rfl, rfl⟩ := List.cons.inj h
      exact absurd hid.symm ((split_notin hnd).1 _ (List.mem_cons_self ..))
    | cons a' p' =>
      obtain ⟨rfl, h2⟩ := List.cons.inj h
      obtain ⟨rfl, r⟩ := ih (List.nodup_cons.1 hnd).2 h2
      exact ⟨rfl, r⟩

theorem mem_split {α : Type} {pre post : List α} {o a : α} (h : a ∈ pre ++ o :: post) : a ∈ pre ∨ a = o ∨ a ∈ post :=
  (List.mem_append.1 h).imp_right List.mem_cons.1

theorem pairwise_split {α : Type} {R : α → α → Prop} {pre post : List α} {o : α}
    (h : (pre ++ o :: post).Pairwise R) : (∀ a ∈ pre, R a o) ∧ (∀ a ∈ post, R o a) := by
  rw [List.pairwise_append, List.pairwise_cons] at h
  exact ⟨fun a ha => h.2.2 a ha o (by simp), fun a ha => h.2.1.1 a ha⟩

theorem filter_lt_append {β : Type} (a b : List (Nat × β)) (n : Nat) (ha : ∀ y ∈ a, y.1 < n)
    (hb : ∀ y ∈ b, n ≤ y.1) : (a ++ b).filter (fun c => c.1 < n) = a := by
  rw [List.filter_append, List.filter_eq_self.2 fun c hc => by simpa using ha c hc,
    List.filter_eq_nil_iff.2 fun c hc => by simpa using hb c hc, List.append_nil]

end HappyModel.C14.SM
