import HappyProofs.C14.LsmReadRun
import HappyProofs.C14.LsmJudge
namespace HappyModel.C14

/-- `InOrder` in decidable form, for a concrete schedule -/
def inOrderB (cfg : Cfg) (y : Sys) (sched : List Nat) : Bool :=
  (List.range sched.length).all fun n =>
    (y.run cfg (sched.take n)).frames.all fun f =>
      match f.pc with
      | .pFlush t _ => !(sched[n]? == some f.id) || ((y.run cfg (sched.take n)).st.imms.head? == some t)
      | _ => true

theorem inOrder_of_B {cfg : Cfg} {y : Sys} {sched : List Nat} (h : inOrderB cfg y sched = true) : InOrder cfg y sched := by
  intro n f hf t b hpc hs
  have hn : n < sched.length := by
    cases Nat.lt_or_ge n sched.length with
    | inl h => exact h
    | inr h => rw [List.getElem?_eq_none h] at hs; cases hs
  unfold inOrderB at h
  rw [List.all_eq_true] at h
  have h1 := h n (List.mem_range.mpr hn)
  rw [List.all_eq_true] at h1
  have h2 := h1 f hf
  rw [hpc] at h2
  simp only [Bool.or_eq_true, Bool.not_eq_true', beq_eq_false_iff_ne, ne_eq, beq_iff_eq] at h2
  rcases h2 with h2 | h2
  · exact absurd hs h2
  · exact h2

theorem read_invariants (cfg : Cfg) (ops : List (Nat × OKind)) (oracle : List Bool) (sched : List Nat)
    (hd : DistinctPuts ops) (h2 : 2 ≤ cfg.maxLevels) (ho : InOrder cfg (sysOf cfg oracle ops) sched) :
    LInv cfg (startFor ops) ((sysOf cfg oracle ops).run cfg sched) (logRun cfg (sysOf cfg oracle ops) [] sched) ∧
    RdInv (startFor ops) ((sysOf cfg oracle ops).run cfg sched) (logRun cfg (sysOf cfg oracle ops) [] sched) :=
  rdinv_run sched _ [] (linv_sysOf cfg oracle hd h2) (rdinv_init (sysOf_init cfg oracle ops) _) ho

/-- C14, refinement to a map along runs: after any in-order run from the empty tree (distinct ids and put values, at least
    two levels), `get_sync` of a key is the newest memtable insert on it -/
theorem abs_refines_log (cfg : Cfg) (ops : List (Nat × OKind)) (oracle : List Bool) (sched : List Nat)
    (hd : DistinctPuts ops) (h2 : 2 ≤ cfg.maxLevels) (ho : InOrder cfg (sysOf cfg oracle ops) sched) (k : Key) :
    ((sysOf cfg oracle ops).run cfg sched).st.abs k = (firstOn k (logRun cfg (sysOf cfg oracle ops) [] sched)).join :=
  (read_invariants cfg ops oracle sched hd h2 ho).1.abs k

/-- C14, read regularity in terms of the ghost log: every completed get (and every key of every completed scan) returned
    the cell of the newest memtable insert before its first segment or of an insert between its first and last segment -/
theorem read_regular_sem (cfg : Cfg) (ops : List (Nat × OKind)) (oracle : List Bool) (sched : List Nat)
    (hd : DistinctPuts ops) (h2 : 2 ≤ cfg.maxLevels) (ho : InOrder cfg (sysOf cfg oracle ops) sched) :
    ReadFacts (startFor ops) ((sysOf cfg oracle ops).run cfg sched) (logRun cfg (sysOf cfg oracle ops) [] sched) :=
  readFacts_of (read_invariants cfg ops oracle sched hd h2 ho).2

/-- C14, read regularity: for every workload (distinct ids, distinct put values), every compaction strategy and
    configuration with at least two levels, and every schedule of generator segments in which flushes install in start
    order (`InOrder`), the model's own observations pass `judgeOps`: every get returns the latest write completed before
    it began or a concurrent one, deleted keys stay deleted, scans return exactly the live keys of the range, sorted. -/
theorem read_regular (cfg : Cfg) (nkeys : Nat) (ops : List (Nat × OKind)) (oracle : List Bool) (sched : List Nat)
    (hd : DistinctPuts ops) (h2 : 2 ≤ cfg.maxLevels) (ho : InOrder cfg (sysOf cfg oracle ops) sched) :
    judgeOps (obsOf ops ((sysOf cfg oracle ops).run cfg sched)) nkeys = none := by
  obtain ⟨hL, hR⟩ := read_invariants cfg ops oracle sched hd h2 ho
  exact judge_of_facts cfg nkeys ops _ _ hd hL (readFacts_of hR)

/-! Non-vacuity: three writes, a reader and a scanner interleaved with flushes and a compaction. -/

def exOps : List (Nat × OKind) := [(1, .put 0 7), (2, .del 0), (3, .get 0), (4, .put 1 9), (5, .scan 0 2)]
def exSched : List Nat := [1, 3, 1, 1, 2, 2, 3, 5, 2, 4, 4, 3, 4, 4, 5, 5, 3, 5]
def exCfg2 : Cfg := { memSize := 1, maxLevels := 2, strat := .sizeTiered 2 }

example : DistinctPuts exOps ∧ 2 ≤ exCfg2.maxLevels ∧ inOrderB exCfg2 (sysOf exCfg2 [] exOps) exSched = true ∧
    ((sysOf exCfg2 [] exOps).run exCfg2 exSched).frames.all (fun f => f.pc.isDone) = true ∧
    ((sysOf exCfg2 [] exOps).run exCfg2 exSched).st.levels.map List.length = [0, 1] :=
  ⟨⟨by decide +kernel, by decide +kernel⟩, by decide +kernel⟩

end HappyModel.C14
