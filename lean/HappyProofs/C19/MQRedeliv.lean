import HappyProofs.C19.MQAck
/-!
# C19 — a requested redelivery is never lost (`jRedeliv`)

`RedRel` relates the judge's bookkeeping to the model state: its clause-4b state is the ledger's (`takeOf`), its
consumer list *is* `s.cons`, every id it believes in flight is in `s.inflight`, every id in `s.sched` (the ids with a
redelivery timer) is one it believes armed, `s.sched` has no duplicates.  Then a timeout of an in-flight, un-armed
message finds `k ∈ inflight`, `k ∉ sched` in the model — which hands out a redelivery event or dead-letters — and a
timer that fires for a live message with a consumer subscribed starts a delivery.
-/
namespace HappyModel.C19

/-- the judge may believe less to be in flight (`infl ⊆`) and more to be armed (`armed ⊇`) than the queue has: its
two objections only get harder to raise; `nodup` is there so that `erase` removes a timer entirely (`armedErase`) -/
structure RedRel (s : MQ) (A : List Nat) (j : RedSt) : Prop where
  tk : j.tk = takeOf s A
  subs : j.subs = s.cons
  infl : ∀ x ∈ j.infl, x ∈ s.inflight
  armed : ∀ x ∈ s.sched, x ∈ j.armed
  nodup : s.sched.Nodup

theorem RedRel.init : RedRel {} [] {} := ⟨rfl, rfl, by simp, by simp, List.nodup_nil⟩

theorem RedSt.check_of_not_disp (j : RedSt) (r : ORec) (h : ∀ d k c n, r.out ≠ .disp d k c n) :
    j.check r = j.onOther r := by
  unfold RedSt.check
  split
  · next d k c n ho => exact absurd ho (h d k c n)
  · rfl

theorem mem_filter_ne (l : List Nat) (k x : Nat) : x ∈ l.filter (· != k) ↔ x ∈ l ∧ x ≠ k := by
  simp [List.mem_filter]

theorem red_step {cfg : Cfg} {t : Nat} {s s' : MQ} {a : Act} {o : Out} {A : List Nat} {j : RedSt} (L : Ledger s A)
    (rel : RedRel s A j) (hs : Step cfg t s a s' o) :
    ∃ j', j.check ⟨t, a, o, s'.ctr⟩ = .ok j' ∧ RedRel s' (ackedAfter s A a) j' := by
  have inv := L.inv
  have hnext : j.tkNext ⟨t, a, o, s'.ctr⟩ = takeOf s' (ackedAfter s A a) := by
    simp [RedSt.tkNext, rel.tk, take_check L hs.eff t]
  have hD : j.tk.D = s.dlq.length := rel.tk ▸ rfl
  -- the embedded clause-4b state and the consumer list follow the model whatever the action
  have base : ∀ infl armed, s'.cons = subsAfter s.cons a → (∀ x ∈ infl, x ∈ s'.inflight) →
      (∀ x ∈ s'.sched, x ∈ armed) → s'.sched.Nodup →
      RedRel s' (ackedAfter s A a) ⟨j.tkNext ⟨t, a, o, s'.ctr⟩, subsAfter j.subs a, infl, armed⟩ :=
    fun _ _ hc h1 h2 h3 => ⟨hnext, by rw [rel.subs, hc], h1, h2, h3⟩
  have inflErase : ∀ k, ∀ x ∈ j.infl.filter (· != k), x ∈ s.inflight.erase k := fun k x hx =>
    have ⟨h1, h2⟩ := (mem_filter_ne _ _ _).1 hx
    (List.mem_erase_of_ne h2).2 (rel.infl x h1)
  have inflNew : ∀ k, ∀ x ∈ k :: j.infl, x ∈ insertNew s.inflight k := fun k x hx =>
    (mem_insertNew _ _ _).2 ((List.mem_cons.1 hx).symm.imp (rel.infl x) id)
  have armedErase : ∀ k, ∀ x ∈ s.sched.erase k, x ∈ j.armed.filter (· != k) := fun k x hx =>
    have ⟨h2, h1⟩ := rel.nodup.mem_erase_iff.1 hx
    (mem_filter_ne _ _ _).2 ⟨rel.armed x h1, h2⟩
  have armedSub : ∀ k, ∀ x ∈ s.sched.erase k, x ∈ j.armed := fun k x hx => rel.armed x (List.mem_of_mem_erase hx)
  cases hs with
  | stay ho hack hrej htmo hred hsub =>
    rw [RedSt.check_of_not_disp _ _ ho.ne.2.1]
    have inflSub : ∀ k, ∀ x ∈ j.infl.filter (· != k), x ∈ s.inflight := fun k x hx =>
      rel.infl x (List.mem_filter.1 hx).1
    cases a with
    | redeliv k => exact absurd rfl (hred k)
    | tmo k =>
      have heff : j.tmoEff ⟨t, .tmo k, o, s.ctr⟩ = false := by
        simp [RedSt.tmoEff, MQ.ctr, hD, ho.ne.2.2]
      -- a message in flight is live, so the queue refuses only if it is not in flight or a timer is pending
      have hno : ¬ (k ∈ j.infl ∧ k ∉ j.armed) := fun ⟨h1, h2⟩ =>
        htmo k rfl (rel.infl k h1) (fun h => h2 (rel.armed k h)) (inv.part.fL k (rel.infl k h1))
      simp only [RedSt.onOther, heff]
      rw [if_neg (by simpa using hno)]
      refine ⟨_, rfl, ?_⟩
      simpa [ho.ne.2.2] using base _ _ hsub.symm rel.infl rel.armed rel.nodup
    | ack k => exact ⟨_, rfl, base _ _ hsub.symm (inflSub k) rel.armed rel.nodup⟩
    | rej k rq => exact ⟨_, rfl, base _ _ hsub.symm (inflSub k) rel.armed rel.nodup⟩
    | _ => exact ⟨_, rfl, base _ _ hsub.symm rel.infl rel.armed rel.nodup⟩
  | poll hp hk hc => exact ⟨_, rfl, base _ _ rfl (inflNew _) rel.armed rel.nodup⟩
  | redeliv hk hc => exact ⟨_, rfl, base _ _ rfl (inflNew _) (armedErase _) (rel.nodup.erase _)⟩
  | @redelivNone k hn =>
    have hno : (j.tk.owes k && !j.subs.isEmpty) = false := by
      rw [Bool.and_eq_false_iff, Bool.not_eq_false', List.isEmpty_iff, rel.subs, rel.tk, L.owes, decide_eq_false_iff_not]
      exact Classical.or_iff_not_imp_left.2 fun h => hn (Classical.not_not.1 h)
    refine ⟨_, by simp only [RedSt.check, RedSt.onOther, hno]; rfl, base _ _ rfl rel.infl (armedErase _) (rel.nodup.erase _)⟩
  | ack hk => exact ⟨_, rfl, base _ _ rfl (inflErase _) (armedSub _) (rel.nodup.erase _)⟩
  | requeue hk => exact ⟨_, rfl, base _ _ rfl (inflErase _) rel.armed rel.nodup⟩
  | @dlq _ _ k ha hk =>
    rcases ha with ⟨rq, rfl, _, rfl⟩ | ⟨rfl, _, _, _, rfl⟩
    · exact ⟨_, rfl, base _ _ rfl (inflErase _) (armedSub _) (rel.nodup.erase _)⟩
    · have heff : j.tmoEff ⟨t, .tmo k, .tmoNone, (s.toDlq cfg k).ctr⟩ = true := by
        simp [RedSt.tmoEff, MQ.ctr, MQ.toDlq, hD]
      refine ⟨_, ?_, base _ _ rfl (inflErase k) (armedSub k) (rel.nodup.erase k)⟩
      simp [RedSt.check, RedSt.onOther, heff]
  | @tmoEv k hi hs hc =>
    refine ⟨_, ?_, base _ _ rfl (inflErase k)
      (fun x hx => List.mem_cons.2 ((List.mem_cons.1 hx).imp id (rel.armed x))) (List.nodup_cons.2 ⟨hs, rel.nodup⟩)⟩
    simp [RedSt.check, RedSt.onOther, RedSt.tmoEff]
  | subs ha =>
    rcases ha with ⟨c, rfl⟩ | ⟨c, rfl⟩ <;> exact ⟨_, rfl, base _ _ rfl rel.infl rel.armed rel.nodup⟩
  | _ => exact ⟨_, rfl, base _ _ rfl rel.infl rel.armed rel.nodup⟩

theorem redelivery_never_stuck (cfg : Cfg) (hl : cfg.legacy = false) (sched : List (Nat × Act)) :
    jRedeliv {} (MQ.run cfg {} sched) = none :=
  run_ledger cfg hl RedSt.check jRedeliv (fun _ => rfl) (fun _ _ _ _ h => by simp only [jRedeliv, h]) RedRel
    RedRel.init red_step sched

/-- an orphaned redelivery: message 0 is delivered, times out (timer due at 20), the only consumer leaves, the timer
    fires with nobody subscribed, a consumer returns, a poll hands the message out, it times out again (a new timer),
    that timer redelivers, and the third timeout — at the limit 3 — dead-letters -/
def orphanSched : List (Nat × Act) :=
  [(0, .sub 0), (1, .pub), (2, .poll), (7, .fire 0), (7, .recv 0), (10, .tmo 0), (12, .unsub 0), (20, .redeliv 0),
   (21, .sub 1), (22, .poll), (27, .fire 1), (27, .recv 1), (30, .tmo 0), (40, .redeliv 0), (45, .fire 2), (45, .recv 2),
   (50, .tmo 0)]

/-- on `orphanSched` the fired timer finds nobody (`.none`), the second timeout is honoured (`.tmoEv`), the
    third dead-letters; and the judge rejects the trace of a queue that refuses the second timeout, and one whose
    timer fires with a consumer subscribed and delivers nothing -/
example :
    (MQ.run { lat := 5, maxRe := 3 } {} orphanSched).map (·.out) =
      [.unit, .pubOk 0, .disp 0 0 0 1, .emit 0 0 1 7, .recv 0 0 1, .tmoEv, .unit, .none, .unit, .disp 1 0 1 2,
       .emit 0 1 2 27, .recv 0 1 2, .tmoEv, .disp 2 0 1 3, .emit 0 1 3 45, .recv 0 1 3, .tmoNone] ∧
    (MQ.exec { lat := 5, maxRe := 3 } {} orphanSched).dlq = [0] ∧
    jRedeliv {} (MQ.run { lat := 5, maxRe := 3 } {} orphanSched) = none ∧
    jRedeliv {} [⟨1, .pub, .pubOk 0, ⟨1, 0, 0, 0, 1, 0, 0, 0, 0⟩⟩,
                 ⟨2, .poll, .disp 0 0 0 1, ⟨0, 1, 0, 0, 1, 1, 0, 0, 0⟩⟩,
                 ⟨10, .tmo 0, .tmoEv, ⟨1, 0, 0, 0, 1, 1, 0, 0, 0⟩⟩,
                 ⟨20, .redeliv 0, .none, ⟨1, 0, 0, 0, 1, 1, 0, 0, 0⟩⟩,
                 ⟨22, .poll, .disp 1 0 1 2, ⟨0, 1, 0, 0, 1, 1, 1, 0, 0⟩⟩,
                 ⟨30, .tmo 0, .tmoNone, ⟨0, 1, 0, 0, 1, 1, 1, 0, 0⟩⟩] =
      some "mq/redelivery/timeout-of-in-flight-message-refused" ∧
    jRedeliv {} [⟨0, .sub 0, .unit, ⟨0, 0, 0, 0, 0, 0, 0, 0, 0⟩⟩,
                 ⟨1, .pub, .pubOk 0, ⟨1, 0, 0, 0, 1, 0, 0, 0, 0⟩⟩,
                 ⟨2, .poll, .disp 0 0 0 1, ⟨0, 1, 0, 0, 1, 1, 0, 0, 0⟩⟩,
                 ⟨10, .tmo 0, .tmoEv, ⟨1, 0, 0, 0, 1, 1, 0, 0, 0⟩⟩,
                 ⟨20, .redeliv 0, .none, ⟨1, 0, 0, 0, 1, 1, 0, 0, 0⟩⟩] =
      some "mq/redelivery/timer-fired-consumer-subscribed-not-delivered" := by
  decide +kernel

end HappyModel.C19
