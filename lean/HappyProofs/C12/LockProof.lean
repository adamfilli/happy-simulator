import HappyModel.C12.Lock
/-! Fencing tokens strictly increase across grants: every `_grant_lock` draws from one counter. -/
namespace HappyModel.C12.Lock
open Spec

@[simp] theorem updL_same (f : Nat → LockSt) (i : Nat) (x : LockSt) : updL f i x i = x := by simp [updL]
theorem updL_other (f : Nat → LockSt) (i j : Nat) (x : LockSt) (h : j ≠ i) : updL f i x j = f j := by
  simp [updL, h]

/-- every token seen is below `_next_token`, and the newest grant seen for a held lock is its holder's -/
structure LInv (s : St) (seen : List Grant) : Prop where
  below : ∀ g ∈ seen, g.2.2 < s.next
  cur : ∀ l r, (s.locks l).holder = some r →
          seen.find? (fun h => h.1 == l) = some (l, r, (s.locks l).token)

theorem fencing_append (seen a b : List Grant) :
    fencing seen (a ++ b) = (fencing seen a && fencing (a.reverse ++ seen) b) := by
  induction a generalizing seen with
  | nil => simp [fencing]
  | cons g gs ih =>
    simp [fencing, ih, Bool.and_assoc]

theorem fresh_ok {s : St} {seen : List Grant} (inv : LInv s seen) (l r : Nat) (ws : List Nat) :
    grantOk seen (l, r, s.next) = true ∧ LInv (grant s l r ws) ((l, r, s.next) :: seen) := by
  refine ⟨?_, ?_, ?_⟩
  · unfold grantOk
    apply Bool.or_eq_true_iff.mpr; left
    rw [List.all_eq_true]
    intro h hh
    have := inv.below h hh
    simpa using this
  · intro g hg
    show g.2.2 < s.next + 1
    rcases List.mem_cons.mp hg with rfl | hg
    · exact Nat.lt_succ_self _
    · exact Nat.lt_succ_of_lt (inv.below g hg)
  · intro l' r' hh
    by_cases hl : l' = l
    · subst hl
      simp [grant] at hh ⊢
      exact hh
    · simp only [grant, updL_other _ _ _ _ hl] at hh ⊢
      have : ((l, r, s.next).1 == l') = false := by simp; exact fun e => hl e.symm
      rw [List.find?_cons, this]
      exact inv.cur l' r' hh

theorem reentrant_ok {s : St} {seen : List Grant} (inv : LInv s seen) (l r : Nat)
    (hh : (s.locks l).holder = some r) :
    grantOk seen (l, r, (s.locks l).token) = true ∧ LInv s ((l, r, (s.locks l).token) :: seen) := by
  have hf := inv.cur l r hh
  have hmem : (l, r, (s.locks l).token) ∈ seen := List.mem_of_find?_eq_some hf
  refine ⟨?_, ?_, ?_⟩
  · unfold grantOk
    apply Bool.or_eq_true_iff.mpr; right
    rw [hf]; simp
  · intro g hg
    rcases List.mem_cons.mp hg with rfl | hg
    · exact inv.below _ hmem
    · exact inv.below g hg
  · intro l' r' hh'
    by_cases hl : l' = l
    · subst hl
      rw [hh] at hh'; cases hh'
      simp
    · have : ((l, r, (s.locks l).token).1 == l') = false := by simp; exact fun e => hl e.symm
      rw [List.find?_cons, this]
      exact inv.cur l' r' hh'

theorem free_ok {s : St} {seen : List Grant} (inv : LInv s seen) (l : Nat) :
    (match (freeAndWake s l).2 with
     | some (w, t) => grantOk seen (l, w, t) = true ∧ LInv (freeAndWake s l).1 ((l, w, t) :: seen)
     | none => LInv (freeAndWake s l).1 seen) := by
  unfold freeAndWake
  cases hw : (s.locks l).waiters with
  | nil =>
    simp only []
    refine ⟨inv.below, ?_⟩
    intro l' r' hh
    by_cases hl : l' = l
    · subst hl; simp at hh
    · simp only [updL_other _ _ _ _ hl] at hh ⊢
      exact inv.cur l' r' hh
  | cons w ws =>
    simp only []
    exact fresh_ok inv l w ws

theorem LInv.queue {s : St} {seen : List Grant} (inv : LInv s seen) (l : Nat) (x : LockSt)
    (h1 : x.holder = (s.locks l).holder) (h2 : x.token = (s.locks l).token) :
    LInv { s with locks := updL s.locks l x } seen := by
  refine ⟨inv.below, fun l' r' hh' => ?_⟩
  by_cases hl : l' = l
  · subst hl
    simp only [updL_same, h1, h2] at hh' ⊢
    exact inv.cur l' r' hh'
  · simp only [updL_other _ _ _ _ hl] at hh' ⊢
    exact inv.cur l' r' hh'

theorem step_ok {s : St} {seen : List Grant} (inv : LInv s seen) (o : Op) :
    fencing seen (grantsOf o (step s o).2) = true ∧
    LInv (step s o).1 ((grantsOf o (step s o).2).reverse ++ seen) := by
  have one : ∀ (g : Grant) (t : St), grantOk seen g = true ∧ LInv t (g :: seen) →
      fencing seen [g] = true ∧ LInv t ([g].reverse ++ seen) := by
    intro g t h
    simp only [fencing, Bool.and_true, List.reverse_cons, List.reverse_nil, List.nil_append, List.singleton_append]
    exact h
  have zero : ∀ (t : St), LInv t seen → fencing seen [] = true ∧ LInv t ([].reverse ++ seen) :=
    fun t h => ⟨rfl, h⟩
  cases o with
  | acquire l r | tryAcquire l r =>
    cases hh : (s.locks l).holder with
    | none =>
      simp only [step, hh]
      exact one _ _ (fresh_ok inv l r _)
    | some h =>
      by_cases hr : h = r
      · subst hr
        simp only [step, hh, if_true]
        exact one _ _ (reentrant_ok inv l h hh)
      · simp only [step, hh, if_neg hr]
        -- `acquire` still has to choose between rejecting and queueing
        try split
        all_goals first | exact zero _ inv | exact zero _ (inv.queue l _ hh.symm rfl)
  | release l tok | expire l tok =>
    cases hh : (s.locks l).holder with
    | none =>
      simp only [step, hh]
      exact zero _ inv
    | some h =>
      simp only [step, hh]
      split
      · exact zero _ inv
      · have hf := free_ok inv l
        cases hw : (freeAndWake s l).2 with
        | none => rw [hw] at hf; exact zero _ hf
        | some wt => obtain ⟨w, t⟩ := wt; rw [hw] at hf; exact one _ _ hf

theorem run_ok (s : St) (seen : List Grant) (inv : LInv s seen) (ops : List Op) :
    fencing seen (runGrants s ops) = true := by
  induction ops generalizing s seen with
  | nil => simp [runGrants, fencing]
  | cons o os ih =>
    obtain ⟨h1, h2⟩ := step_ok inv o
    simp only [runGrants, fencing_append, h1, Bool.true_and]
    exact ih _ _ h2

theorem init_linv (maxW : Nat) : LInv (init maxW) [] := by
  refine ⟨nofun, ?_⟩
  intro l r hh
  simp [init] at hh

end HappyModel.C12.Lock
