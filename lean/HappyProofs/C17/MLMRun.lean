import HappyProofs.C17.MLMInv
import HappyProofs.C17.MLMGhost
import HappyProofs.C17.MLKnow
/-!
Once every `Replicate` is done (`replQuiescent`, in particular at quiescence) all leaders hold, for every key,
versions whose vector clocks agree on every leader component — with no hypothesis on the run.  The *values* need
not agree (the example at the end: union of bit masks, 12 | 12 | 14 under one clock).
-/
namespace HappyModel.C17.MLM
open HappyModel.C17.ML (Version Msg Proc MKind PKind vcGet dominates vcMerge vcTick)

theorem Inv.procs_lt {s : St} (h : Inv s) {pid : Nat} {p : Proc} (hp : s.procs pid = some p) : pid < s.np :=
  lt_of_fresh h.freshP hp

theorem Inv.msgs_lt {s : St} (h : Inv s) {mid : Nat} {m : Msg} (hm : s.msgs mid = some m) : mid < s.nm :=
  lt_of_fresh h.freshM hm

theorem step_inv (s : St) (a : Act) (h : Inv s) : Inv (step s a) := by
  have h' := inv_iff.1 h
  refine inv_iff.2 (LN.step_cov goodB_bound (step_shape s a) h' good_of_written (fun _ _ _ _ _ _ => trivial)
    (fun i k inc hg w e => ?_) (fun _ _ _ _ => ⟨ge_merge_self, fun _ => ge_merge⟩) (fun _ _ _ _ ht => ge_of_not_takes ht)
    (fun _ _ hi e => List.mem_filter.mpr ⟨List.mem_range.mpr hi, bne_iff_ne.mpr e⟩))
  -- what `_install` leaves is the winner of `_pick` or the version held
  have e : mergeOpt s.n s.join (s.vers i k) inc = some w := e
  unfold mergeOpt at e
  split at e
  · cases e; exact good_pick (fun u hu => h'.versB i k u hu) hg
  · exact h'.versB i k w e

def runEqs : LN.RunEqs St :=
  ⟨step, isWR, kstep, run, krun, noWR, fun _ => rfl, fun _ _ _ => rfl, fun _ _ => rfl, fun _ _ _ _ => rfl, fun _ => rfl,
   fun _ _ _ => rfl, fun s g a h => by unfold kstep; rw [if_pos h]⟩

theorem init_inv (n nk : Nat) (jn : Join) : Inv (init n nk jn) := by
  refine ⟨fun _ _ => rfl, fun _ _ => rfl, ?_, ?_, fun _ _ => rfl, ?_, ?_, ?_⟩
  · intro pid p hp; cases hp
  · intro i k v hv; cases hv
  · intro mid m hm; cases hm
  · intro pid p hp; cases hp
  · intro pid p hp; cases hp

theorem run_inv (n nk : Nat) (jn : Join) (acts : List Act) : Inv (run (init n nk jn) acts) :=
  runEqs.run_ind Inv step_inv acts _ (init_inv n nk jn)

theorem replQuiescent_of_quiescentB (s : St) (hi : Inv s) (hq : quiescentB s = true) : replQuiescent s := by
  obtain ⟨qm, qp⟩ := ML.quiescent_spec s.view hq
  exact ⟨fun mid m hm _ => qm mid m (hi.msgs_lt hm) hm, fun pid p hp _ => qp pid p (hi.procs_lt hp) hp⟩

def Written (s : St) (k : Nat) (w : Version) : Prop :=
  ∃ pid p, s.procs pid = some p ∧ p.kind = .write ∧ p.key = k ∧ p.ver = w

theorem replQuiescent_ge (s : St) (h : Inv s) (hq : replQuiescent s) (k : Nat) (w : Version)
    (hw : Written s k w) (i : Nat) (hi : i < s.n) : Ge s.n (s.vers i k) w :=
  (inv_iff.1 h).ge_of_replQuiet hq hw i hi

/-- anything `Good`, i.e. every held or copied version -/
theorem replQuiescent_good_le (s : St) (h : Inv s) (hq : replQuiescent s) (k : Nat) (v : Version)
    (hg : Good s.core k v) (i : Nat) (hi : i < s.n) :
    ∃ u, s.vers i k = some u ∧ ∀ c, c < s.n → vcGet v.vc c ≤ vcGet u.vc c := by
  obtain ⟨⟨w, hw⟩, hb⟩ := hg
  obtain ⟨u', hu', _⟩ := replQuiescent_ge s h hq k w hw i hi
  refine ⟨u', hu', fun c hc => ?_⟩
  rcases hb c hc with h0 | ⟨w', hw', hle⟩
  · rw [h0]; exact Nat.zero_le _
  · obtain ⟨u'', hu'', hge⟩ := replQuiescent_ge s h hq k w' hw' i hi
    rw [hu'] at hu''; cases hu''
    exact Nat.le_trans hle (hge c hc)

/-- the same function as `clkOf` (`MLMAlg.lean`), which the merge laws are stated with -/
def clk (o : Option Version) (c : Nat) : Nat := match o with | none => 0 | some u => vcGet u.vc c

theorem replQuiescent_clocks_agree (s : St) (h : Inv s) (hq : replQuiescent s) (i j k : Nat)
    (hi : i < s.n) (hj : j < s.n) :
    (∀ c, c < s.n → clk (s.vers i k) c = clk (s.vers j k) c) ∧
      ((s.vers i k).isSome = (s.vers j k).isSome) := by
  have le : ∀ a b, b < s.n → ∀ u, s.vers a k = some u →
      ∃ u', s.vers b k = some u' ∧ ∀ c, c < s.n → vcGet u.vc c ≤ vcGet u'.vc c :=
    fun a b hb u hu => replQuiescent_good_le s h hq k u (h.versG a k u hu) b hb
  cases hvi : s.vers i k with
  | none =>
    cases hvj : s.vers j k with
    | none => exact ⟨fun _ _ => rfl, rfl⟩
    | some u' =>
      obtain ⟨u, hu, _⟩ := le j i hi u' hvj
      rw [hvi] at hu; cases hu
  | some u =>
    obtain ⟨u', hu', hle⟩ := le i j hj u hvi
    obtain ⟨u2, hu2, hle'⟩ := le j i hi u' hu'
    rw [hvi] at hu2; cases hu2
    rw [hu']
    exact ⟨fun c hc => Nat.le_antisymm (hle c hc) (hle' c hc), rfl⟩

theorem quiescent_covers (n nk : Nat) (jn : Join) (acts : List Act)
    (hq : quiescentB (run (init n nk jn) acts) = true) (k : Nat) (w : Version)
    (hw : Written (run (init n nk jn) acts) k w) (i : Nat) (hi : i < n) :
    ∃ u, (run (init n nk jn) acts).vers i k = some u ∧ ∀ c, c < n → vcGet w.vc c ≤ vcGet u.vc c := by
  have hn : (run (init n nk jn) acts).n = n := run_n _ _
  have hI := run_inv n nk jn acts
  have := replQuiescent_ge _ hI (replQuiescent_of_quiescentB _ hI hq) k w hw i (by rw [hn]; exact hi)
  rw [hn] at this
  exact this

/-- non-vacuity, and why only the clocks are claimed: a recorded run of three leaders on one key
(union of bit masks) that is quiescent, has no model error, ends with one clock everywhere and
with different values -/
example :
    let s := run (init 3 1 .union)
      [.tick 1, .cw 0 0 0 2, .rs 0, .rs 0, .tick 2, .cw 1 1 0 4, .rs 1, .rs 1, .tick 3, .cw 2 0 0 8,
       .rs 2, .dl 1, .rs 2, .rs 3, .dl 3, .rs 4, .dl 4, .rs 5, .dl 5, .rs 6, .dl 2, .rs 7, .dl 0]
    quiescentB s = true ∧ s.err = none ∧
    (s.vers 0 0).map (·.vc) = some [2, 1, 0] ∧ (s.vers 1 0).map (·.vc) = some [2, 1, 0] ∧
    (s.vers 2 0).map (·.vc) = some [2, 1, 0] ∧
    s.store 0 0 = some 12 ∧ s.store 1 0 = some 12 ∧ s.store 2 0 = some 14 := by
  decide +kernel

end HappyModel.C17.MLM
