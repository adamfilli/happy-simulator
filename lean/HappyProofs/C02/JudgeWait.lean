import HappyProofs.C02.JudgeDelay
/-!
# C02 — "resumed by a future only after waiting on one" is silent on the trace of the model

`Spec.waitMonitor` (the part of the C02 judge that raises `future/resumed-without-wait`) reads the `w`
lines (a process yielded a future) and the untagged `R` lines (a process was resumed by a future).
On the view of the model's own trace (`delayView`: `R`, `y`, `w` lines) it never fires: an untagged
continuation exists only for a process that was parked (`SimFuture._resume`), a process is parked only
by its own `yield future`, and a process has at most one pending resumption (`ProcInv.atMostOne`), so
every future-resumption is preceded by a `w` line of that process that no earlier resumption used up.
-/
namespace HappyModel.C01
open HappyModel.C02.Spec (Line WSt waitStep waitMonitor)

def pendH (heap : List Ev) (ps : PS) (q : Nat) : Prop :=
  (∃ ev ∈ heap, ev.data = q + 1 ∧ ev.tag = 0) ∨ (∃ f, (futGet ps.futs f).parked = some q)

structure WI (heap : List Ev) (ps : PS) (w : WSt) : Prop where
  err : w.err = none
  pend : ∀ q, pendH heap ps q → q ∈ w.waits

theorem WI_erase {heap : List Ev} {ps : PS} {w : WSt} (m : Ev) (h : WI heap ps w) : WI (heap.erase m) ps w :=
  ⟨h.err, fun q hq => h.pend q (hq.imp (fun ⟨ev, he, hd⟩ => ⟨ev, List.mem_of_mem_erase he, hd⟩) id)⟩

theorem waitPids_fold (ls : List Line) (w : WSt) (hl : ∀ l ∈ ls, ∃ pid f dm, l = Line.wait pid f dm) :
    (ls.foldl waitStep w).err = w.err ∧ ∀ q, q ∈ waitPids ls ++ w.waits → q ∈ (ls.foldl waitStep w).waits := by
  induction ls generalizing w with
  | nil => exact ⟨rfl, fun q hq => hq⟩
  | cons l r ih =>
    obtain ⟨pid, f, dm, rfl⟩ := hl l (List.mem_cons_self ..)
    have ih' := ih { w with waits := pid :: w.waits } (fun l hl' => hl l (List.mem_cons_of_mem _ hl'))
    refine ⟨ih'.1, fun q hq => ih'.2 q ?_⟩
    simp only [waitPids, List.filterMap_cons, List.cons_append, List.mem_cons, List.mem_append] at hq ⊢
    exact or_left_comm.mp hq

theorem yLines_wait (specs : List Spec) (w : WSt) : (yLines specs).foldl waitStep w = w :=
  foldl_fixed _ _ _ (fun l hl => by obtain ⟨sp, _, rfl⟩ := List.mem_map.mp hl; rfl)

/-- the monitor after the `R` line of a delivered event: a future-resumption uses up a wait of that process, which
    has nothing else pending -/
theorem WI_rLine (s : St PS) (w : WSt) (m : Ev) (hm : m ∈ s.heap) (pinv : ProcInv s) (h : WI s.heap s.ent w) :
    WI (s.heap.erase m) s.ent ((rLine s.ent m).foldl waitStep w) := by
  rcases rLine_cases s.ent m with hr | ⟨p, hd, _, _, hr⟩
  · rw [hr]; exact WI_erase m h
  · rw [hr, List.foldl_cons, List.foldl_nil]
    by_cases htag : m.tag = 0
    · have hdat : m.data = (m.data - 1) + 1 := (Nat.succ_pred_eq_of_ne_zero hd).symm
      have hin : w.waits.contains (m.data - 1) = true :=
        List.contains_iff_mem.mpr (h.pend _ (Or.inl ⟨m, hm, hdat, htag⟩))
      have hstep : waitStep w (.resume m.time (m.data - 1) p.send.show m.tag)
          = { w with waits := w.waits.filter (· != m.data - 1) } := by
        simp only [waitStep, htag, bne_self_eq_false, Bool.false_eq_true, if_false, hin, if_true]
      rw [hstep]
      obtain ⟨hsole, hnp⟩ := cont_sole s m pinv hm hd
      refine ⟨h.err, fun q hq => List.mem_filter.mpr ⟨(WI_erase m h).pend q hq, ?_⟩⟩
      have hne : q ≠ m.data - 1 := by
        rintro rfl
        rcases hq with ⟨ev, he, hdq, _⟩ | ⟨f, hf⟩
        · exact hsole ev he (by omega)
        · exact hnp f hf
      simpa using hne
    · have hstep : waitStep w (.resume m.time (m.data - 1) p.send.show m.tag) = w := by
        simp only [waitStep, bne_iff_ne, ne_eq, htag, not_false_eq_true, if_true]
      rw [hstep]; exact WI_erase m h

theorem WI_deliver (s : St PS) (w : WSt) (m : Ev) (hm : m ∈ s.heap) (pinv : ProcInv s) (h : WI s.heap s.ent w) :
    WI (s.heap.erase m ++ mkEvents s.nextId m.time (procEff s.ent m.time m).specs) (procEff s.ent m.time m).ps
      ((delayLines s m).foldl waitStep w) := by
  have h1 := WI_rLine s w m hm pinv h
  unfold delayLines
  rw [List.foldl_append, List.foldl_append, yLines_wait]
  generalize (rLine s.ent m).foldl waitStep w = w1 at h1
  -- untagged or parked after the invocation: it yields a future now, or was parked before
  have hpw : ∀ q, pendingU (procEff s.ent m.time m) q → q ∈ waitPids (wLine s.ent m.time m) ++ w1.waits := fun q hq =>
    List.mem_append.mpr (((procEff_post s.ent m.time m (Qual_init s.ent pinv.heldPlain)).pend q hq).imp_right
      (fun hf => h1.pend q (Or.inr hf)))
  have hfold := waitPids_fold (wLine s.ent m.time m) w1 (wLine_waits s.ent m.time m)
  refine ⟨by rw [hfold.1]; exact h1.err, fun q hq => hfold.2 q ?_⟩
  rcases hq with ⟨ev, he, hd, ht⟩ | hf
  · rcases List.mem_append.mp he with he | he
    · exact List.mem_append_right _ (h1.pend q (Or.inl ⟨ev, he, hd, ht⟩))
    · obtain ⟨sp, hsp, h2, h3, _⟩ := mkEvents_mem _ _ _ ev he
      exact hpw q (Or.inl ⟨sp, hsp, by omega, by omega⟩)
  · exact hpw q (Or.inr hf)

theorem WI_run (endT : Option Nat) (n : Nat) (s : St PS) (ls : List Line) (pinv : ProcInv s)
    (h : WI s.heap s.ent (ls.foldl waitStep {})) :
    WI (run procMachine endT n s).heap (run procMachine endT n s).ent ((viewRun endT n s ls).foldl waitStep {}) :=
  run_view (viewRun_isView endT) (P := fun s ls => WI s.heap s.ent (ls.foldl waitStep {}))
    (fun s m hm _ pinv => step_procInv s m pinv hm)
    (fun s ls m s' i h k => by rw [k.heap, k.ent]; exact WI_erase m h)
    (fun s ls m s' hm i h k => by rw [k.heap, k.ent, List.foldl_append]; exact WI_deliver s _ m hm i h)
    n s ls pinv h

/-- **`future/resumed-without-wait` is silent on the trace of the model**: for every handler table and
    every initial state with plain pending events, every end time and number of iterations, whenever a
    process is resumed by a future it had yielded a future since its previous resumption -/
theorem wait_clause_silent_on_model (endT : Option Nat) (n : Nat) (s0 : St PS) (h0 : InitOk s0) :
    waitMonitor (delayView endT n s0) = none := by
  refine (WI_run endT n s0 [] h0.procInv ⟨rfl, ?_⟩).err
  intro q hq
  rcases hq with ⟨ev, he, hd, _⟩ | ⟨f, hf⟩
  · have := h0.heapPlain ev he; omega
  · rw [h0.noPark f] at hf; simp at hf

theorem wait_clause_silent_on_program (p : Program) (gateCont : Bool) (hp : p.Plain) (endT : Option Nat) (n : Nat) :
    waitMonitor (delayView endT n (p.initState gateCont)) = none :=
  wait_clause_silent_on_model endT n _ (initState_ok p gateCont hp)

def isWaitLine : Line → Bool
  | .wait _ _ _ => true
  | .resume _ _ _ _ => true
  | _ => false

theorem waitStep_skip (w : WSt) (l : Line) (h : isWaitLine l = false) : waitStep w l = w := by
  cases l <;> first | rfl | cases h

theorem waitMonitor_filter (ls : List Line) : waitMonitor ls = waitMonitor (ls.filter isWaitLine) :=
  congrArg WSt.err (foldl_filter_of_skip waitStep isWaitLine waitStep_skip ls {})

/-- **the delay and wait clauses on any trace with the model's `R` / `y` / `w` content**: whatever other
    lines (creations, resolves, combinators, hooks, deliveries, …) a full trace interleaves with them, if
    its `R`, `y` and `w` lines are the ones the model writes, the five clauses
    `process/resumed-without-pending-delay`, `process/delay-resume-at-wrong-time`,
    `process/delay-resume-raised`, `process/delay-resume-with-value` and `future/resumed-without-wait` of
    the C02 judge stay silent -/
theorem process_trace_satisfies_c02_spec_delay_wait (endT : Option Nat) (n : Nat) (s0 : St PS) (inv : Inv s0)
    (h0 : InitOk s0) (L : List Line)
    (hL : L.filter (fun l => isDelayLine l || isWaitLine l) = delayView endT n s0) :
    HappyModel.C02.Spec.delayMonitor L = none ∧ waitMonitor L = none := by
  have hD : L.filter isDelayLine = (delayView endT n s0).filter isDelayLine := by
    rw [← hL, List.filter_filter]
    congr 1; funext l; cases isDelayLine l <;> simp
  have hW : L.filter isWaitLine = (delayView endT n s0).filter isWaitLine := by
    rw [← hL, List.filter_filter]
    congr 1; funext l; cases isWaitLine l <;> simp
  constructor
  · rw [delayMonitor_filter, hD, ← delayMonitor_filter]
    exact delay_clauses_silent_on_model endT n s0 inv h0
  · rw [waitMonitor_filter, hW, ← waitMonitor_filter]
    exact wait_clause_silent_on_model endT n s0 h0

end HappyModel.C01
