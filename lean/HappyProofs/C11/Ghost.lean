import HappyProofs.C11.Does
/-! Proof state: the executable state plus history the code does not keep.

`voted`   every (voter, term, candidate) for which a node's `_voted_for` was ever seen set
`leaders` every (term, node) at the moment a node became leader
`created` every log a leader had right after it appended a client command
`seen`    every (node, term, log) a node was left in by a handler
`llogs`   every (term, node, log) at the moment a node became leader
`cands`   every (term, node, log) at the moment a node started an election

`(gstep v g a).s = (step v g.s a).1` in both branches of `gstep` (`gstep_s`), so statements about `GSt` runs are
statements about what the driver executes. -/
namespace HappyModel.C11

structure GSt where
  s : St
  voted : List (Nat × Nat × Nat) := []
  leaders : List (Nat × Nat) := []
  created : List (List Entry) := []
  seen : List (Nat × Nat × List Entry) := []
  llogs : List (Nat × Nat × List Entry) := []
  cands : List (Nat × Nat × List Entry) := []

def voteDiff (x' : Node) (i : Nat) : List (Nat × Nat × Nat) :=
  match x'.votedFor with
  | some c => [(i, x'.term, c)]
  | none => []

def leadDiff (x x' : Node) (i : Nat) : List (Nat × Nat) :=
  if x'.role = .leader ∧ x.role ≠ .leader then [(x'.term, i)] else []

def llogDiff (x x' : Node) (i : Nat) : List (Nat × Nat × List Entry) :=
  if x'.role = .leader ∧ x.role ≠ .leader then [(x'.term, i, x'.log)] else []

/-- only `_start_election` raises the term without stepping down -/
def candDiff (x x' : Node) (i : Nat) : List (Nat × Nat × List Entry) :=
  if x.term < x'.term ∧ x'.role ≠ .follower then [(x'.term, i, x'.log)] else []

def createdDiff (s : St) : Act → List (List Entry)
  | .submit i _ c => if i < s.n ∧ (s.nodes i).role = .leader then [(s.nodes i).log ++ [⟨(s.nodes i).term, c⟩]] else []
  | _ => []

/-- the node an action is aimed at, when it reaches a handler -/
def actTarget (s : St) : Act → Option Nat
  | .deliver m =>
    match findMsg s m with
    | some e => if canDeliver s e then some e.dst else none
    | none => none
  | .timeout i => if alive s i then some i else none
  | .heartbeat i => if alive s i then some i else none
  | .submit i _ _ => if decide (i < s.n) then some i else none
  | _ => none

def gstep (v : Variant) (g : GSt) (a : Act) : GSt :=
  let s' := (step v g.s a).1
  match actTarget g.s a with
  | some i =>
    { s := s',
      voted := voteDiff (s'.nodes i) i ++ g.voted,
      leaders := leadDiff (g.s.nodes i) (s'.nodes i) i ++ g.leaders,
      created := createdDiff g.s a ++ g.created,
      seen := (i, (s'.nodes i).term, (s'.nodes i).log) :: g.seen,
      llogs := llogDiff (g.s.nodes i) (s'.nodes i) i ++ g.llogs,
      cands := candDiff (g.s.nodes i) (s'.nodes i) i ++ g.cands }
  | none => { g with s := s' }

def grun (v : Variant) (g : GSt) : List Act → GSt
  | [] => g
  | a :: as => grun v (gstep v g a) as

def ginit (n : Nat) : GSt := { s := init n }

@[simp] theorem gstep_s (v : Variant) (g : GSt) (a : Act) : (gstep v g a).s = (step v g.s a).1 := by
  unfold gstep; split <;> rfl

theorem grun_s (v : Variant) (as : List Act) : ∀ g : GSt, (grun v g as).s = run v g.s as := by
  induction as with
  | nil => intro g; rfl
  | cons a as ih => intro g; simp only [grun, run, ih, gstep_s]

theorem mem_mkEnvs {i : Nat} {l : List (Nat × Body)} : ∀ {k : Nat} {e : Env}, e ∈ mkEnvs i k l →
    e.src = i ∧ (e.dst, e.body) ∈ l ∧ k ≤ e.id ∧ e.id < k + l.length := by
  induction l with
  | nil => intro k e h; simp [mkEnvs] at h
  | cons p r ih =>
    intro k e h
    obtain ⟨d, b⟩ := p
    simp only [mkEnvs, List.mem_cons] at h
    rcases h with h | h
    · subst h; simp
    · obtain ⟨h1, h2, h3, h4⟩ := ih h
      exact ⟨h1, List.mem_cons_of_mem _ h2, by omega, by simp only [List.length_cons]; omega⟩

theorem applyHR_msgs {s : St} {i : Nat} {r : HR} {e : Env} (he : e ∈ (applyHR s i r).1.msgs) :
    e ∈ s.msgs ∨ (e.src = i ∧ (e.dst, e.body) ∈ r.sends ∧ s.nextId ≤ e.id ∧ e.id < s.nextId + r.sends.length) := by
  simp only [applyHR, List.mem_append, List.mem_reverse] at he
  exact he.symm.imp_right mem_mkEnvs

theorem alive_lt {s : St} {i : Nat} (h : alive s i = true) : i < s.n := by
  simp only [alive, Bool.and_eq_true, decide_eq_true_eq] at h; exact h.1

theorem findMsg_mem {s : St} {m : Nat} {e : Env} (h : findMsg s m = some e) : e ∈ s.msgs :=
  List.mem_of_find?_eq_some h

/-- no handler runs -/
structure Idle (v : Variant) (s : St) (a : Act) : Prop where
  nodes : (step v s a).1.nodes = s.nodes
  msgs : ∀ e ∈ (step v s a).1.msgs, e ∈ s.msgs
  n : (step v s a).1.n = s.n
  nextId : (step v s a).1.nextId = s.nextId
  tgt : actTarget s a = none
  apps : (step v s a).2.apps = []
  ress : (step v s a).2.ress = []
  sub : ∀ i f c, a = .submit i f c → ¬ i < s.n

/-- action `a` hands node `i` the message `e` with id `m` and body `b`, sent by `src` -/
structure Delivered (s : St) (a : Act) (i src : Nat) (b : Body) (m : Nat) (e : Env) : Prop where
  act : a = .deliver m
  find : findMsg s m = some e
  can : canDeliver s e = true
  mem : e ∈ s.msgs
  dst : e.dst = i
  sender : e.src = src
  body : e.body = b
  ne : src ≠ i

/-- action `a` reaches the handler of node `i`, which is called with `inp` (sent by `src`) and returns `r` -/
structure Fires (v : Variant) (s : St) (a : Act) (i src : Nat) (inp : Inp) (r : HR) : Prop where
  hi : i < s.n
  tgt : actTarget s a = some i
  eq : step v s a = applyHR s i r
  does : Does v s.n (s.nodes i) i src inp r
  created : createdDiff s a = inp.created (s.nodes i)
  msg : ∀ b, inp = .msg b → ∃ m e, Delivered s a i src b m e
  sub : (∃ f c, inp = .submit f c ∧ a = .submit i f c) ∨ ((∀ f c, inp ≠ .submit f c) ∧ submitOf a = none)

theorem step_cases (v : Variant) (s : St) (a : Act) : Idle v s a ∨ ∃ i src inp r, Fires v s a i src inp r := by
  have skip : ∀ {c : List Nat} {m : List Env} {t : Option Nat}, step v s a = ({ s with crashed := c, msgs := m }, { target := t }) →
      (∀ e ∈ m, e ∈ s.msgs) → actTarget s a = none → (∀ i f c, a = .submit i f c → ¬ i < s.n) → Idle v s a :=
    fun hs hm ht hsub => ⟨by rw [hs], by rw [hs]; exact hm, by rw [hs], by rw [hs], ht, by rw [hs], by rw [hs], hsub⟩
  have same : ∀ {t}, step v s a = (s, { target := t }) → actTarget s a = none → (∀ i f c, a = .submit i f c → ¬ i < s.n) → Idle v s a :=
    fun hs ht hsub => skip (c := s.crashed) (m := s.msgs) hs (fun _ h => h) ht hsub
  cases a with
  | deliver m =>
    cases hf : findMsg s m with
    | none => exact Or.inl (same (t := none) (by simp only [step, hf]) (by simp only [actTarget, hf]) nofun)
    | some e =>
      cases hg : canDeliver s e with
      | true =>
        have hg' := hg
        simp only [canDeliver, Bool.and_eq_true, decide_eq_true_eq] at hg'
        exact Or.inr ⟨_, _, _, _, alive_lt hg'.1.1, by simp [actTarget, hf, hg], by simp only [step, hf, hg, if_true],
          handleMsg_does v s.n _ e, rfl,
          fun b hb => ⟨m, e, rfl, hf, hg, findMsg_mem hf, rfl, rfl, Inp.msg.inj hb, hg'.2⟩, Or.inr ⟨nofun, rfl⟩⟩
      | false => exact Or.inl (same (t := some e.dst) (by simp [step, hf, hg]) (by simp [actTarget, hf, hg]) nofun)
  | timeout i =>
    by_cases hg : alive s i = true
    · exact Or.inr ⟨_, i, _, _, alive_lt hg, by simp [actTarget, hg], by simp [step, hg], handleTimeout_does, rfl, nofun,
        Or.inr ⟨nofun, rfl⟩⟩
    · exact Or.inl (same (t := some i) (by simp [step, hg]) (by simp [actTarget, hg]) nofun)
  | heartbeat i =>
    by_cases hg : alive s i = true
    · exact Or.inr ⟨_, i, _, _, alive_lt hg, by simp [actTarget, hg], by simp [step, hg], handleHB_does, rfl, nofun,
        Or.inr ⟨nofun, rfl⟩⟩
    · exact Or.inl (same (t := some i) (by simp [step, hg]) (by simp [actTarget, hg]) nofun)
  | submit i f c =>
    by_cases hg : i < s.n
    · exact Or.inr ⟨_, i, _, _, hg, by simp [actTarget, hg], by simp [step, hg], handleSubmit_does f c,
        by simp only [createdDiff, Inp.created, hg, true_and], nofun, Or.inl ⟨f, c, rfl, rfl⟩⟩
    · exact Or.inl (same (t := some i) (by simp [step, hg]) (by simp [actTarget, hg]) fun _ _ _ h => by cases h; exact hg)
  | drop m => exact Or.inl (skip (c := s.crashed) rfl (fun _ h => (List.mem_filter.mp h).1) rfl nofun)
  | crash i => exact Or.inl (skip (m := s.msgs) rfl (fun _ h => h) rfl nofun)
  | restart i => exact Or.inl (skip (m := s.msgs) rfl (fun _ h => h) rfl nofun)

theorem step_deliver {v : Variant} {s : St} {m : Nat} {e : Env} (hf : findMsg s m = some e) (hc : canDeliver s e = true) :
    ∃ r, step v s (.deliver m) = applyHR s e.dst r ∧ Does v s.n (s.nodes e.dst) e.dst e.src (.msg e.body) r :=
  ⟨_, by simp only [step, hf, hc, if_true], handleMsg_does ..⟩

theorem step_submit_leader {v : Variant} {s : St} {i : Nat} (f : Nat) (c : Cmd) (hi : i < s.n) (hl : (s.nodes i).role = .leader) :
    step v s (.submit i f c) = applyHR s i { node := submitNode (s.nodes i) f c } := by
  simp only [step, hi, decide_true, if_true, handleSubmit_leader hl]

theorem applyHR_node (s : St) (i : Nat) (r : HR) (j : Nat) :
    (applyHR s i r).1.nodes j = if j = i then r.node else s.nodes j := rfl

theorem Fires.node {v : Variant} {s : St} {a : Act} {i src : Nat} {inp : Inp} {r : HR} (h : Fires v s a i src inp r) (j : Nat) :
    (step v s a).1.nodes j = if j = i then r.node else s.nodes j := by rw [h.eq]; rfl

theorem step_new_msg (v : Variant) (s : St) (a : Act) {e : Env} (he : e ∈ (step v s a).1.msgs) (hnew : e ∉ s.msgs) :
    ∃ src inp r, Fires v s a e.src src inp r ∧ (e.dst, e.body) ∈ r.sends ∧ s.nextId ≤ e.id ∧ e.id < s.nextId + r.sends.length := by
  rcases step_cases v s a with h | ⟨i, src, inp, r, h⟩
  · exact absurd (h.msgs e he) hnew
  · obtain ⟨rfl, hs⟩ := (applyHR_msgs (h.eq ▸ he)).resolve_left hnew
    exact ⟨src, inp, r, h, hs⟩

theorem step_nodes {v : Variant} {s : St} {a : Act} {R : Node → Node → Prop} (hrefl : ∀ x, R x x)
    (h : ∀ {i inp r}, Shape v s.n (s.nodes i) i inp r → R (s.nodes i) r.node) (j : Nat) :
    R (s.nodes j) ((step v s a).1.nodes j) := by
  rcases step_cases v s a with hI | ⟨i, _, inp, r, hF⟩
  · rw [hI.nodes]; exact hrefl _
  · rw [hF.node]
    split
    · rename_i hj; rw [hj]; exact h hF.does.shape
    · exact hrefl _

theorem step_n (v : Variant) (s : St) (a : Act) : (step v s a).1.n = s.n := by
  rcases step_cases v s a with h | ⟨_, _, _, _, h⟩
  · exact h.n
  · rw [h.eq]; rfl

theorem run_keeps {v : Variant} {P : St → Prop} (h : ∀ s a, P s → P (step v s a).1) (as : List Act) : ∀ {s : St}, P s → P (run v s as) := by
  induction as with
  | nil => exact id
  | cons a as ih => exact fun hs => ih (h _ a hs)

theorem grun_keeps {v : Variant} {P : GSt → Prop} (h : ∀ g a, P g → P (gstep v g a)) (as : List Act) : ∀ {g : GSt}, P g → P (grun v g as) := by
  induction as with
  | nil => exact id
  | cons a as ih => exact fun hg => ih (h _ a hg)

theorem run_n (v : Variant) (as : List Act) (s : St) : (run v s as).n = s.n :=
  run_keeps (P := fun s' => s'.n = s.n) (fun s' a h => (step_n v s' a).trans h) as rfl

theorem run_append (v : Variant) (as bs : List Act) : ∀ s, run v s (as ++ bs) = run v (run v s as) bs := by
  induction as with
  | nil => intro s; rfl
  | cons a as ih => intro s; simp only [List.cons_append, run, ih]

theorem grun_append (v : Variant) (as bs : List Act) : ∀ g, grun v g (as ++ bs) = grun v (grun v g as) bs := by
  induction as with
  | nil => intro g; rfl
  | cons a as ih => intro g; simp only [List.cons_append, grun, ih]

open Spec in
theorem mem_framesFrom {v : Variant} {f : Frame} : ∀ {as : List Act} {g : GSt}, f ∈ framesFrom v g.s as →
    ∃ pre a post, as = pre ++ a :: post ∧ f = frameOf (step v (grun v g pre).s a).1 (step v (grun v g pre).s a).2 a := by
  intro as
  induction as with
  | nil => intro g h; cases h
  | cons a as ih =>
    intro g h
    rcases List.mem_cons.mp h with rfl | h
    · exact ⟨[], a, as, rfl, rfl⟩
    · rw [← gstep_s] at h
      obtain ⟨pre, b, post, rfl, hf⟩ := ih h
      exact ⟨a :: pre, b, post, rfl, hf⟩

theorem frameOf_applyHR (s : St) (i : Nat) (r : HR) (a : Act) :
    frameOf (applyHR s i r).1 (applyHR s i r).2 a =
      { views := viewsOf (applyHR s i r).1, apps := r.apps.map (fun p => (i, p.1, p.2.1.id)),
        ress := r.ress.map (fun p => (i, p.1, p.2.1)), submit := submitOf a } := rfl

/-- an entry as a frame shows it -/
def oe (e : Entry) : Spec.OEntry := (e.term, e.cmd.id)

theorem viewOf_log (x : Node) : (viewOf x).log = x.log.map oe := rfl

open Spec in
theorem getElem?_viewsOf_lt {s : St} {i : Nat} (h : i < s.n) : (viewsOf s)[i]? = some (viewOf (s.nodes i)) := by
  unfold viewsOf
  rw [List.getElem?_map, List.getElem?_range h]; rfl

open Spec in
theorem getElem?_viewsOf {s : St} {i : Nat} {w : NodeView} (h : (viewsOf s)[i]? = some w) :
    i < s.n ∧ w = viewOf (s.nodes i) := by
  have hi : i < s.n := by
    have := (List.getElem?_eq_some_iff.mp h).1
    simpa [viewsOf] using this
  exact ⟨hi, Option.some.inj ((getElem?_viewsOf_lt hi).symm.trans h) |>.symm⟩

open Spec in
theorem mem_viewsOf {s : St} {w : NodeView} (h : w ∈ viewsOf s) : ∃ j, j < s.n ∧ w = viewOf (s.nodes j) := by
  obtain ⟨j, hj⟩ := List.mem_iff_getElem?.mp h
  exact ⟨j, getElem?_viewsOf hj⟩

end HappyModel.C11
