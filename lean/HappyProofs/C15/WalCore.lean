import HappyProofs.C15.WalInv
/-! The state-level WAL invariant under each kind of segment. -/
namespace HappyModel.C15
open HappyModel.C14

/-- `st'` agrees with `st` on everything the invariant reads -/
structure Same (st' st : St) : Prop where
  mem : st'.mem = st.mem
  imms : st'.imms = st.imms
  levels : ∀ k, (lookLevels k st'.levels).join = (lookLevels k st.levels).join
  memId : st'.memId = st.memId
  wal : st'.wal = st.wal
  nextSeq : st'.nextSeq = st.nextSeq
  pending : st'.pending = st.pending

section
variable {st st' : St} {log : List Ev} {g : Ghost} (h : WCore st log g)
include h

theorem core_same (e : Same st' st) :
    WCore st' log g ∧ Rel st g st' g none := by
  obtain ⟨e1, e2, e3, e4, e5, e6, e7⟩ := e
  exact ⟨{ logEq := h.logEq
           memG := by rw [e1]; exact h.memG
           immG := by rw [e2]; exact h.immG
           lvG := fun k => by rw [e3]; exact h.lvG k
           immOrd := by rw [e2]; exact h.immOrd
           immLt := by rw [e2, e4]; exact h.immLt
           walSorted := by rw [e5]; exact h.walSorted
           walLt := by rw [e5, e6]; exact h.walLt
           pendLt := by rw [e7, e6]; exact h.pendLt
           truncT := by rw [e5]; exact h.truncT
           Tlt := by rw [e6]; exact h.Tlt
           evDur := by rw [e5]; exact h.evDur },
         { nextSeq := by rw [e6]; exact Nat.le_refl _
           pendKeep := fun q hq => Or.inl (by rw [e7]; exact hq)
           pendNew := fun q hq => Or.inl (by rw [e7] at hq; exact hq)
           walKeep := fun e he _ => by rw [e5]; exact he
           gmemNew := fun e he => Or.inl he
           gimmsNew := fun gi hgi e he => Or.inl ⟨gi, hgi, rfl, he⟩ }⟩

def appendSt (st : St) (k : Key) (c : Cell) : St :=
  { st with wal := st.wal ++ [⟨st.nextSeq, k, c⟩], nextSeq := st.nextSeq + 1, wss := st.wss + 1,
            pending := st.nextSeq :: st.pending }

/-- WAL append (`putStart` with a WAL) -/
theorem core_append (k : Key) (c : Cell) :
    WCore (appendSt st k c) log g ∧ Rel st g (appendSt st k c) g none := by
  refine ⟨{ h with
      walSorted := (wal_append h.walSorted h.walLt k c).1
      walLt := (wal_append h.walSorted h.walLt k c).2
      pendLt := ?pendLt
      truncT := ?truncT
      Tlt := Nat.lt_succ_of_lt h.Tlt
      evDur := fun ev hev => (h.evDur ev hev).imp (fun ⟨e, he, r⟩ => ⟨e, List.mem_append_left _ he, r⟩) id },
    { nextSeq := Nat.le_succ _
      pendKeep := fun q hq => Or.inl (List.mem_cons_of_mem _ hq)
      pendNew := fun q hq => (List.mem_cons.mp hq).elim (fun e => Or.inr (Nat.le_of_eq e.symm)) Or.inl
      walKeep := fun e he _ => List.mem_append_left _ he
      gmemNew := fun e he => Or.inl he
      gimmsNew := fun gi hgi e he => Or.inl ⟨gi, hgi, rfl, he⟩ }⟩
  case pendLt =>
    intro q hq
    rcases List.mem_cons.mp hq with rfl | hq
    · exact ⟨Nat.succ_le_of_lt (Nat.lt_of_le_of_lt (Nat.zero_le _) h.Tlt), Nat.lt_succ_self _⟩
    · exact ⟨(h.pendLt q hq).1, Nat.lt_succ_of_lt (h.pendLt q hq).2⟩
  case truncT =>
    intro e he
    rcases List.mem_append.mp he with he | he
    · exact h.truncT e he
    · rw [List.mem_singleton] at he; subst he; exact h.Tlt

theorem core_insert {st1 : St} (e : Same st1 st) (k : Key) (c : Cell)
    (q n id : Nat) (hq : q ∈ st.pending) (hent : ∃ e ∈ st.wal, e.seq = q ∧ e.key = k ∧ e.cell = c) :
    let st' := (memInsert (unpend st1 q) k c).1
    let ev : Ev := ⟨n, id, k, c, q⟩
    WCore st' (ev :: log) { g with gmem := ev :: g.gmem } ∧ Rel st g st' { g with gmem := ev :: g.gmem } (some q) := by
  intro st' ev
  obtain ⟨h1, _⟩ := core_same h e
  have hpend : ∀ x ∈ st'.pending, x ∈ st.pending := fun x hx =>
    e.pending ▸ (List.mem_filter.mp (show x ∈ st1.pending.filter (· != q) from hx)).1
  refine ⟨{ h1 with logEq := ?logEq, memG := ?memG, pendLt := ?pendLt, evDur := ?evDur },
    { nextSeq := Nat.le_of_eq e.nextSeq.symm
      pendKeep := ?pendKeep
      pendNew := fun x hx => Or.inl (hpend x hx)
      walKeep := fun e' he' _ => e.wal ▸ he'
      gmemNew := ?gmemNew
      gimmsNew := fun gi hgi e he => Or.inl ⟨gi, hgi, rfl, he⟩ }⟩
  case logEq => rw [h.logEq]; simp [Ghost.all]
  case memG =>
    intro k'
    show (ins k c st1.mem).lookup k' = firstOn k' (ev :: g.gmem)
    rw [lookup_ins, h1.memG k']
    simp only [firstOn]
    by_cases hk : k' = k
    · subst hk; simp [ev]
    · have : ¬ k = k' := fun e => hk e.symm
      simp [hk, ev, this]
  case pendLt =>
    intro x hx
    show 1 ≤ x ∧ x < st1.nextSeq
    rw [e.nextSeq]; exact h.pendLt x (hpend x hx)
  case evDur =>
    intro ev' hev'
    show _ ∨ _
    rw [show st'.wal = st.wal from e.wal]
    rcases List.mem_cons.mp hev' with rfl | hev'
    · exact Or.inl hent
    · exact h.evDur ev' hev'
  case pendKeep =>
    intro x hx
    by_cases hxq : x = q
    · right; rw [hxq]
    · left
      show x ∈ st1.pending.filter (· != q)
      rw [e.pending]
      exact List.mem_filter.mpr ⟨hx, by simpa using hxq⟩
  case gmemNew =>
    intro e he
    rcases List.mem_cons.mp he with rfl | he
    · exact Or.inr hq
    · exact Or.inl he

def freezeG (st : St) (g : Ghost) : Ghost := { g with gmem := [], gimms := g.gimms ++ [(st.memId, g.gmem)] }

/-- freezing the active memtable (`flushStart` with a non-empty memtable) -/
theorem core_freeze (hid : st.memId < st.nextId) :
    WCore (freezeMem st) log (freezeG st g) ∧ Rel st g (freezeMem st) (freezeG st g) none := by
  refine ⟨{ logEq := ?logEq
            memG := fun _ => rfl
            immG := immG_append h.immG ⟨st.memId, st.mem⟩ (st.memId, g.gmem) rfl h.memG
            lvG := h.lvG
            immOrd := ?immOrd
            immLt := ?immLt
            walSorted := h.walSorted
            walLt := h.walLt
            pendLt := h.pendLt
            truncT := h.truncT
            Tlt := h.Tlt
            evDur := h.evDur },
    { nextSeq := Nat.le_refl _
      pendKeep := fun q hq => Or.inl hq
      pendNew := fun q hq => Or.inl hq
      walKeep := fun e he _ => he
      gmemNew := nofun
      gimmsNew := ?gimmsNew }⟩
  case logEq =>
    rw [h.logEq]
    simp [Ghost.all, freezeG, List.reverse_append, List.flatMap_cons]
  case immOrd =>
    show ((st.imms ++ [(⟨st.memId, st.mem⟩ : Tab)]).map (·.id)).Pairwise (· < ·)
    rw [List.map_append]
    apply List.pairwise_append.mpr
    refine ⟨h.immOrd, by simp, ?_⟩
    intro x hx y hy
    simp only [List.map_cons, List.map_nil, List.mem_singleton] at hy
    obtain ⟨u, hu, rfl⟩ := List.mem_map.mp hx
    rw [hy]; exact h.immLt u hu
  case immLt =>
    intro u hu
    rcases List.mem_append.mp hu with hu | hu
    · exact Nat.lt_trans (h.immLt u hu) hid
    · rw [List.mem_singleton] at hu; subst hu; exact hid
  case gimmsNew =>
    intro gi hgi e he
    rcases List.mem_append.mp hgi with hgi | hgi
    · exact Or.inl ⟨gi, hgi, rfl, he⟩
    · rw [List.mem_singleton] at hgi; subst hgi
      exact Or.inr ⟨he, rfl⟩

theorem core_install {cfg : Cfg} (t : Tab) (r : List Tab) (b : Nat)
    (hw : cfg.wal.isSome = true) (himm : st.imms = t :: r) (hid : ∀ i ∈ r, i.id ≠ t.id) (hlv : st.levels ≠ [])
    (hb1 : ∀ q ∈ st.pending, b < q) (hb2 : b < st.nextSeq) (hb3 : ∀ e ∈ g.gmem, b < e.seq)
    (hb4 : ∀ gi ∈ g.gimms, t.id < gi.1 → ∀ e ∈ gi.2, b < e.seq) :
    ∃ g', WCore (flushS1 cfg st t b) log g' ∧ Rel st g (flushS1 cfg st t b) g' none := by
  have a3 := h.immG
  have a5 := h.immOrd
  have a6 := h.immLt
  rw [himm] at a3 a5 a6
  obtain ⟨gi, gr, hg, hgi1, hgi2, hgr⟩ := immG_cons_inv a3
  have himms' : (flushS1 cfg st t b).imms = r := by
    show st.imms.filter (fun i => i.id != t.id) = r
    rw [himm]
    simp [filter_id_ne t.id r hid]
  have hwal' : (flushS1 cfg st t b).wal = st.wal.filter (fun e => e.seq > b) := by
    show (if cfg.wal.isSome then st.wal.filter (fun e => e.seq > b) else st.wal) = _
    rw [hw]; rfl
  have hlater : ∀ gi' ∈ gr, t.id < gi'.1 := by
    intro gi' hgi'
    obtain ⟨t', ht', e⟩ := immG_mem hgr hgi'
    rw [← e]
    simp only [List.map_cons, List.pairwise_cons] at a5
    exact a5.1 _ (List.mem_map_of_mem ht')
  refine ⟨{ g with gimms := gr, glv := gi.2 ++ g.glv, T := max g.T b },
    { logEq := ?logEq
      memG := h.memG
      immG := by rw [himms']; exact hgr
      lvG := ?lvG
      immOrd := ?immOrd
      immLt := ?immLt
      walSorted := by rw [hwal']; exact List.Pairwise.sublist (List.Sublist.map _ List.filter_sublist) h.walSorted
      walLt := ?walLt
      pendLt := h.pendLt
      truncT := ?truncT
      Tlt := Nat.max_lt.mpr ⟨h.Tlt, hb2⟩
      evDur := ?evDur },
    { nextSeq := Nat.le_refl _
      pendKeep := fun q hq => Or.inl hq
      pendNew := fun q hq => Or.inl hq
      walKeep := ?walKeep
      gmemNew := fun e he => Or.inl he
      gimmsNew := fun gi' hgi' e he => Or.inl ⟨gi', by rw [hg]; exact List.mem_cons_of_mem _ hgi', rfl, he⟩ }⟩
  case logEq =>
    rw [h.logEq]
    simp [Ghost.all, hg, List.flatMap_append, List.flatMap_cons]
  case lvG =>
    intro k
    show (lookLevels k (modAt st.levels 0 (· ++ [t]))).join = (firstOn k (gi.2 ++ g.glv)).join
    rw [lookLevels_modAt0 k st.levels t hlv, firstOn_append, hgi2 k]
    exact or_join_congr _ _ _ (h.lvG k)
  case immOrd =>
    rw [himms']
    simp only [List.map_cons, List.pairwise_cons] at a5
    exact a5.2
  case immLt =>
    intro u hu
    rw [himms'] at hu
    exact a6 u (List.mem_cons_of_mem _ hu)
  case walLt =>
    intro e he
    rw [hwal'] at he
    exact h.walLt e (List.mem_filter.mp he).1
  case truncT =>
    intro e he
    rw [hwal'] at he
    have h1 := h.truncT e (List.mem_filter.mp he).1
    have h2 : b < e.seq := by simpa using (List.mem_filter.mp he).2
    exact Nat.max_lt.mpr ⟨h1, h2⟩
  case evDur =>
    -- an insert whose log entry is truncated (`seq ≤ b`) is in the memtable being installed or already in the levels
    intro ev hev
    rw [hwal']
    show _ ∨ (ev ∈ gi.2 ++ g.glv ∧ ev.seq ≤ max g.T b)
    rcases h.evDur ev hev with ⟨e, he, e1, e2, e3⟩ | ⟨h1, h2⟩
    · by_cases hbe : b < e.seq
      · exact Or.inl ⟨e, List.mem_filter.mpr ⟨he, by simpa using hbe⟩, e1, e2, e3⟩
      · right
        have hle : ev.seq ≤ b := e1 ▸ Nat.le_of_not_lt hbe
        rw [h.logEq] at hev
        simp only [Ghost.all, hg, List.reverse_cons, List.flatMap_append, List.flatMap_cons, List.flatMap_nil,
          List.append_nil, List.mem_append, List.mem_flatMap, List.mem_reverse] at hev
        refine ⟨?_, Nat.le_trans hle (Nat.le_max_right ..)⟩
        rcases hev with (hev | ⟨gi', hgi', hev⟩ | hev) | hev
        · exact absurd (hb3 ev hev) (Nat.not_lt.mpr hle)
        · exact absurd (hb4 gi' (by rw [hg]; exact List.mem_cons_of_mem _ hgi') (hlater gi' hgi') ev hev) (Nat.not_lt.mpr hle)
        · exact List.mem_append_left _ hev
        · exact List.mem_append_right _ hev
    · exact Or.inr ⟨List.mem_append_right _ h1, Nat.le_trans h2 (Nat.le_max_left ..)⟩
  case walKeep =>
    intro e he hp
    rw [hwal']
    exact List.mem_filter.mpr ⟨he, by simpa using hb1 _ hp⟩

end

theorem afterMem_cases (cfg : Cfg) (st : St) (mid : Nat) : afterMem cfg st mid = (st, .done .ok) ∨
    afterMem cfg st mid = (freezeMem st, .pFlush ⟨st.memId, st.mem⟩ (truncBound st)) := by
  unfold afterMem
  split
  · exact (flushStart_cases cfg st).imp id (·.2)
  · exact Or.inl rfl

end HappyModel.C15
