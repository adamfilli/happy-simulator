import HappyProofs.C16.PageLemmas
/-!
`PageCache`, run level: the per-page write-back clause of the Spec judge (`PageSpec.jstep`, `mayDirty`), stated
over model runs.  `mdStep`/`mdRun` restate the judge's update of `mayDirty` on model states; no theorem runs
`jstep` itself.
-/
namespace HappyModel.C16.Page

def DSub (ps' ps : List Pg) (np : Option Nat) : Prop :=
  ∀ q ∈ ps', q.dirty = true → (∃ q0 ∈ ps, q0.id = q.id ∧ q0.dirty = true) ∨ np = some q.id

theorem DSub.refl (ps : List Pg) (np : Option Nat) : DSub ps ps np := fun q hq hd => Or.inl ⟨q, hq, rfl, hd⟩

theorem DSub.of_mem {ps' ps : List Pg} (np : Option Nat) (h : ∀ q ∈ ps', q ∈ ps) : DSub ps' ps np :=
  fun q hq hd => Or.inl ⟨q, h q hq, rfl, hd⟩

theorem DSub.trans {a b c : List Pg} {np : Option Nat} (h1 : DSub a b np) (h2 : DSub b c np) : DSub a c np := by
  intro q hq hd
  rcases h1 q hq hd with ⟨q0, hq0, e, hd0⟩ | h'
  · rcases h2 q0 hq0 hd0 with ⟨q1, hq1, e1, hd1⟩ | h''
    · exact Or.inl ⟨q1, hq1, e1.trans e, hd1⟩
    · exact Or.inr (e ▸ h'')
  · exact Or.inr h'

theorem DSub.of_mem_or {ps' ps : List Pg} {n : Pg} (h : ∀ q ∈ ps', q ∈ ps ∨ q = n) :
    DSub ps' ps (if n.dirty then some n.id else none) := by
  intro q hq hd
  rcases h q hq with h' | rfl
  · exact Or.inl ⟨q, h', rfl, hd⟩
  · exact Or.inr (by rw [hd]; rfl)

theorem assign_dsub (s : St) (p : Nat) (d : Bool) : DSub (s.assign p d).pages s.pages (if d then some p else none) := by
  unfold St.assign
  split
  · obtain ⟨q0, hq0⟩ := find_of_has_true ‹_›
    exact DSub.of_mem_or (n := ⟨p, d, s.gen⟩) fun q hq => mem_replace1 hq0 hq
  · exact DSub.of_mem_or (n := ⟨p, d, s.gen⟩) fun q hq => by simpa using hq

theorem setDirty_dsub (s : St) (p : Nat) (d : Bool) :
    DSub (s.setDirty p d).pages s.pages (if d then some p else none) := by
  unfold St.setDirty
  cases hf : findPg s.pages p with
  | none => exact DSub.refl _ _
  | some q0 =>
    obtain ⟨_, rfl⟩ := mem_of_find hf
    exact DSub.of_mem_or (n := { q0 with dirty := d }) fun q hq => mem_replace1 hf hq

theorem step_dsub (cfg : Cfg) (hr : cfg.rep = true) (s : St) (a : Act) :
    DSub (step cfg s a).1.pages s.pages (writeRet cfg s a) :=
  step_ind cfg hr s a (fun t np => DSub t.pages s.pages np) (fun _ _ np h hx => (DSub.of_mem np h.mem).trans hx)
    (DSub.refl _ _) (fun t p h _ => (setDirty_dsub t p true).trans (DSub.of_mem _ h.mem))
    (fun t q h _ _ => (assign_dsub t q false).trans (DSub.of_mem _ h.mem))
    (fun t p h _ => (assign_dsub t p true).trans (DSub.of_mem _ h.mem)) (fun _ _ _ _ h => DSub.of_mem _ h.mem)
    (fun t q h _ => (setDirty_dsub t q false).trans (DSub.of_mem _ h.mem))

/-- the rule by which `PageSpec.jstep` updates `mayDirty`, over one segment of the model -/
def mdStep (cfg : Cfg) (s : St) (a : Act) (md : List Nat) : List Nat :=
  if dirtyCount (step cfg s a).1.pages = 0 then []
  else match writeRet cfg s a with
    | some p => p :: md
    | none => md

def mdRun (cfg : Cfg) : St → List Nat → List Act → List Nat
  | _, md, [] => md
  | s, md, a :: as => mdRun cfg (step cfg s a).1 (mdStep cfg s a md) as

def MD (md : List Nat) (s : St) : Prop := ∀ q ∈ s.pages, q.dirty = true → q.id ∈ md

theorem md_step (cfg : Cfg) (hr : cfg.rep = true) (s : St) (a : Act) (md : List Nat) (h : MD md s) :
    MD (mdStep cfg s a md) (step cfg s a).1 := by
  intro q hq hd
  unfold mdStep
  split
  · rename_i h0
    have : 0 < dirtyCount (step cfg s a).1.pages := by
      unfold dirtyCount
      exact List.countP_pos_iff.mpr ⟨q, hq, hd⟩
    omega
  · rcases step_dsub cfg hr s a q hq hd with ⟨q0, hq0, e, hd0⟩ | h'
    · have := h q0 hq0 hd0
      rw [e] at this
      cases writeRet cfg s a <;> simp [this]
    · rw [h']; simp

theorem md_run (cfg : Cfg) (hr : cfg.rep = true) : ∀ (as : List Act) (s : St) (md : List Nat), MD md s →
    MD (mdRun cfg s md as) (run cfg s as) := by
  intro as
  induction as with
  | nil => intro s md h; exact h
  | cons a as ih => intro s md h; exact ih _ _ (md_step cfg hr s a md h)

theorem not_dirty_of_md {md : List Nat} {ps : List Pg} {p : Nat} (hmd : ∀ q ∈ ps, q.dirty = true → q.id ∈ md)
    (hp : p ∉ md) : isDirty ps p = false := by
  cases hd : isDirty ps p with
  | false => rfl
  | true =>
    obtain ⟨q, hq⟩ := find_of_has_true (has_of_isDirty hd)
    rw [isDirty_of_find hq] at hd
    exact absurd ((mem_of_find hq).2 ▸ hmd q (mem_of_find hq).1 hd) hp

theorem step_write_made (cfg : Cfg) (hr : cfg.rep = true) (s : St) (a : Act) (p : Nat) (md : List Nat)
    (hw : WriteSeg s a p) (hok : (step cfg s a).2 = some .ok) (hmd : MD md s) (hp : p ∉ md) :
    (step cfg s a).1.made = s.made + 1 := by
  -- both ways a `write_page` returns count the page unless it was dirty already, and `p` was not
  have fresh : ∀ t, Frame s t none → t.made + (if (!isDirty t.pages p) = true then 1 else 0) = s.made + 1 := fun t h => by
    rw [not_dirty_of_md (fun q hq hd => hmd q (h.mem q hq) hd) hp, h.made]; rfl
  exact step_ind cfg hr s a (fun t np => np = some p → t.made = s.made + 1) (fun _ _ _ h hx e => h.made.trans (hx e))
    nofun (fun t p' h _ e => by cases e; exact fresh t h) nofun (fun t p' h _ e => by cases e; exact fresh t h)
    nofun nofun (writeRet_of_seg hw hok)

end HappyModel.C16.Page
