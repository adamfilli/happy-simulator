import HappyProofs.C14.TxnSegEff
/-!
# Transactions at run level: every quiesced run of the segment machine has `MachFacts`

`machFacts_run`: for a store obeying the map laws, a side invariant `J` looking after the store's suspended
`get`s (`Side`), every well-formed program, every schedule that runs the operations of a slot one after the
other and every run in which all started operations have completed, there is a timed ghost log with `MachFacts`
(`TxnObs.lean`).  A store kind supplies `J` through `ReadLaws`.
-/
namespace HappyModel.C14.SM.LM
open HappyModel.C14 HappyModel.C14.BT

variable {ok : Store → Prop} {init : Key → Option Nat} {ops : List (Nat × TOp)} {tm : TM}
  {fs : List (Frame TPc)} {n : Nat} {tlog : List (Nat × Ev)}

theorem RInv.lookup_frame (R : RInv ok init ops tm fs n tlog) {id : Nat} {f : Frame TPc}
    (hf : frameOf fs id = some f) : ∃ op, ops.lookup id = some op := by
  refine Option.ne_none_iff_exists'.mp (lookup_ne_none_iff.mpr ?_)
  rw [← R.ids]
  exact List.mem_map.2 ⟨f, frameOf_mem hf, frameOf_id hf⟩

/-- A side invariant `J` of manager and frames that looks after the store's suspended `get`s: a read that
    completes, in its first segment or in a later one, returns `fetchVal` of the state at that segment, and the
    first and the later segments of every operation preserve `J`.  (A new store kind proves `ReadLaws` below, not
    this: `side_of_reads` does the frame bookkeeping.) -/
structure Side (ok : Store → Prop) (init : Key → Option Nat) (ops : List (Nat × TOp))
    (J : TM → List (Frame TPc) → Prop) : Prop where
  fetch1 : ∀ {tm fs n tlog}, RInv ok init ops tm fs n tlog → J tm fs → ∀ s k r,
    (readAdvance (tm.readStart s k) s k (.start (.get k))).2 = .done r → r = .val (fetchVal (tm.readStart s k) s k)
  fetch2 : ∀ {tm fs n tlog}, RInv ok init ops tm fs n tlog → J tm fs → ∀ {id f}, frameOf fs id = some f →
    ∀ s k p, f.pc = .rd s k p → ∀ r, (readAdvance tm s k p).2 = .done r → r = .val (fetchVal tm s k)
  first : ∀ {tm fs n tlog id f op pre post evs fs'}, RInv ok init ops tm fs n tlog → J tm fs →
    ops = pre ++ (id, op) :: post → FirstFacts ops tm fs n pre post id op →
    Upd tm (stepT tm (.start op)).1 op →
    Eff ok init ops tlog n id n op (stepT tm (.start op)).1 (stepT tm (.start op)).2 evs →
    (∀ id', frameOf fs' id' =
      if id' = id then some (Frame.next TPc.isDone f n (stepT tm (.start op)).2) else frameOf fs id') →
    J (stepT tm (.start op)).1 fs'
  later : ∀ {tm fs n tlog id b f op evs fs'}, RInv ok init ops tm fs n tlog → J tm fs →
    ops.lookup id = some op → frameOf fs id = some f → f.b = some b → f.pc.isDone = false →
    Eff ok init ops tlog n id b op tm (stepT tm f.pc).2 evs →
    (∀ id', frameOf fs' id' = if id' = id then some (Frame.next TPc.isDone f n (stepT tm f.pc).2) else frameOf fs id') →
    J tm fs'

theorem RInv.step (L : MapLaws ok) (hwf : WFProg ops) {J : TM → List (Frame TPc) → Prop} (S : Side ok init ops J)
    (R : RInv ok init ops tm fs n tlog) (hJ : J tm fs) (id : Nat)
    (hseq : ∀ pre o post, o.1 = id → ops = pre ++ o :: post → ∀ a ∈ pre, a.2.slot = o.2.slot →
      doneIn fs a.1 = true) :
    ∃ tlog', RInv ok init ops (stepFrames stepT TPc.isDone tm n id fs).1
        (stepFrames stepT TPc.isDone tm n id fs).2 (n + 1) tlog' ∧
      J (stepFrames stepT TPc.isDone tm n id fs).1 (stepFrames stepT TPc.isDone tm n id fs).2 := by
  cases hf : frameOf fs id with
  | none =>
    rw [stepFrames_idle stepT TPc.isDone tm n id fs fun f h => by rw [hf] at h; cases h]
    exact ⟨tlog, R.idle, hJ⟩
  | some f =>
    cases hd : f.pc.isDone with
    | true =>
      rw [stepFrames_idle stepT TPc.isDone tm n id fs fun g h => by rw [hf] at h; cases h; exact hd]
      exact ⟨tlog, R.idle, hJ⟩
    | false =>
      obtain ⟨s1, s2, s3⟩ := stepFrames_step stepT TPc.isDone tm n id fs f hf hd
      obtain ⟨op, hlk⟩ := R.lookup_frame hf
      cases hb : f.b with
      | none =>
        obtain ⟨pre, post, hsp⟩ := lookup_split hlk
        have FF := R.first_facts hwf hsp hf hb (hseq pre (id, op) post rfl hsp)
        obtain ⟨U, evs, E⟩ := eff1_stepT L (S.fetch1 R hJ) R FF
        rw [(R.frames id f op hf hlk).fresh hb] at s1 s2
        rw [s1]
        exact ⟨_, R.first hwf hsp hf hb FF U E s2 s3, S.first R hJ hsp FF U E s2⟩
      | some b =>
        obtain ⟨e1, evs, E⟩ := eff2_stepT L R hwf hlk hf hb hd (S.fetch2 R hJ hf)
        rw [s1, e1]
        exact ⟨_, R.later hwf hlk hf hb hd E (fun h => by rw [h]; rfl) s2 s3, S.later R hJ hlk hf hb hd E s2⟩

/-- how a segment of a read's `get` from `p` ends: the read completes with `fetchVal` of the current state, or it
    stays suspended at a place where `Rd` holds again -/
def Adv (Rd : TM → Nat → Key → SPc → Prop) (tm : TM) (s : Nat) (k : Key) (p : SPc) : Prop :=
  (readAdvance tm s k p).2 = .done (.val (fetchVal tm s k)) ∨
  ∃ p', (readAdvance tm s k p).2 = .rd s k p' ∧ Rd tm s k p'

/-- What the transaction layer asks of the store's `get` generator.  `Rd tm s k p`: a read of slot `s` is suspended
    at `p`; `lv`: the isolation levels the generator is good for (a `get` that acts in one segment serves all of
    them, one that reads over several segments returns stale cells to a READ_COMMITTED reader).  The first segment
    and every later one complete with `fetchVal` or leave the read suspended under `Rd` again (`start`, `step`);
    `Rd` survives what other transactions do meanwhile (`keep`; it may use that the reader's snapshot is not above the
    current version, so that a commit only adds log entries above the snapshot). -/
structure ReadLaws (ok : Store → Prop) (lv : Level → Prop) (Rd : TM → Nat → Key → SPc → Prop) : Prop where
  start : ∀ {tm s k}, ok tm.store → Adv Rd tm s k (.start (.get k))
  step : ∀ {tm s k p tx}, tm.tx? s = some tx → lv tx.level → Rd tm s k p → Adv Rd tm s k p
  keep : ∀ {tm tm' s k p}, ok tm.store → (∀ tx, tm.tx? s = some tx → tx.snap ≤ tm.version) → Rd tm s k p →
    tm'.tx? s = tm.tx? s → ((tm'.store = tm.store ∧ tm'.log = tm.log) ∨ ∃ s' tx', CommitOk tm s' tx' tm') →
    Rd tm' s k p

def Reads (Q : Nat → Key → SPc → Prop) (fs : List (Frame TPc)) : Prop :=
  ∀ id f, frameOf fs id = some f → ∀ s k p, f.pc = .rd s k p → Q s k p

theorem Adv.done {Rd : TM → Nat → Key → SPc → Prop} {tm : TM} {s : Nat} {k : Key} {p : SPc} (a : Adv Rd tm s k p)
    {r : SRes} (h : (readAdvance tm s k p).2 = .done r) : r = .val (fetchVal tm s k) := by
  rcases a with e | ⟨p', e, _⟩ <;> rw [e] at h <;> cases h
  rfl

theorem Adv.rd {Rd : TM → Nat → Key → SPc → Prop} {tm : TM} {s : Nat} {k : Key} {p : SPc} (a : Adv Rd tm s k p)
    {s' : Nat} {k' : Key} {p' : SPc} (h : (readAdvance tm s k p).2 = .rd s' k' p') : Rd tm s k p' := by
  rcases a with e | ⟨q, e, hq⟩ <;> rw [e] at h <;> cases h
  exact hq

/-- only the first segment of a `read` that goes to the store leaves a frame suspended -/
theorem stepT_start_rd {tm : TM} {op : TOp} {s : Nat} {k : Key} {p : SPc} (h : (stepT tm (.start op)).2 = .rd s k p) :
    op = .read s k ∧ (stepT tm (.start op)).1 = tm.readStart s k ∧
      (readAdvance (tm.readStart s k) s k (.start (.get k))).2 = .rd s k p := by
  cases op with
  | read s' k' =>
    have e1 := (stepT_state tm).2.1 s' k'
    simp only [stepT] at h
    split at h
    · cases h
    · rcases readAdvance_cases (tm.readStart s' k') s' k' (.start (.get k')) with ⟨r, e⟩ | ⟨q, e⟩ <;> rw [e] at h <;>
        cases h
      exact ⟨rfl, e1, e⟩
  | commit s' =>
    simp only [stepT] at h
    split at h <;> cases h
  | _ => cases h

theorem RInv.level_ok (R : RInv ok init ops tm fs n tlog) (hwf : WFProg ops) {lv : Level → Prop}
    (hlv : ∀ o ∈ ops, ∀ s l, o.2 = .begin s l → lv l) {s : Nat} {tx : Tx} (hx : tm.tx? s = some tx) : lv tx.level := by
  obtain ⟨o, ho, hs, hb, hst⟩ := R.hasB s tx hx
  obtain ⟨g, b, hg, hgb⟩ := startedIn_frame hst
  have K := (R.frames o.1 g o.2 hg (mem_lookup hwf.ids ho)).kind b hgb
  obtain ⟨l, hl⟩ := TOp.eq_begin hb
  rw [hl] at K
  obtain ⟨_, _, tx', h1, h2⟩ := K
  rw [hs] at h1
  cases hx.symm.trans h1
  exact h2 ▸ hlv o ho _ l hl

theorem RInv.suspended (R : RInv ok init ops tm fs n tlog) (hwf : WFProg ops) {id : Nat} {f : Frame TPc}
    (hf : frameOf fs id = some f) {s : Nat} {k : Key} {p : SPc} (hp : f.pc = .rd s k p) :
    ∃ b tx, f.b = some b ∧ ops.lookup id = some (.read s k) ∧ tm.tx? s = some tx ∧ tx.stat = .active := by
  obtain ⟨op, hlk⟩ := R.lookup_frame hf
  have F := R.frames id f op hf hlk
  cases hb : f.b with
  | none => have := F.fresh hb; rw [hp] at this; cases this
  | some b =>
    have := pcOK_rd (F.kind b hb) hp
    subst this
    obtain ⟨_, tx, _, _, h3, h4, _⟩ := R.inflight hwf hlk hf hb (by rw [hp]; rfl)
    exact ⟨b, tx, rfl, hlk, h3, h4⟩

theorem other_slot (R : RInv ok init ops tm fs n tlog) (hwf : WFProg ops) {pre post : List (Nat × TOp)}
    {id : Nat} {op : TOp} (hsp : ops = pre ++ (id, op) :: post) (FF : FirstFacts ops tm fs n pre post id op)
    {id' : Nat} (hid : id' ≠ id) {f' : Frame TPc} (hf' : frameOf fs id' = some f') {s' : Nat} {k' : Key} {p : SPc}
    (hp : f'.pc = .rd s' k' p) : s' ≠ op.slot := by
  obtain ⟨b', _, hb', hlk', _⟩ := R.suspended hwf hf' hp
  intro hs
  rcases mem_split (hsp ▸ mem_of_lookup hlk') with h | h | h
  · obtain ⟨g, b, e, hg, _, hd, _⟩ := FF.before _ h hs
    cases hf'.symm.trans hg
    rw [hp] at hd; cases hd
  · injection h with h1 _
    exact hid h1
  · have := FF.after _ h hs
    rw [startedIn_of hf' hb'] at this
    cases this

theorem side_of_reads (hwf : WFProg ops) {lv : Level → Prop} {Rd : TM → Nat → Key → SPc → Prop}
    (RL : ReadLaws ok lv Rd) (hlv : ∀ o ∈ ops, ∀ s l, o.2 = .begin s l → lv l) :
    Side ok init ops fun tm fs => Reads (Rd tm) fs where
  fetch1 := fun {tm _ _ _} R _ s k r h =>
    (RL.start (tm := tm.readStart s k) ((readStart_store tm s k).1 ▸ R.inv.store_ok)).done h
  fetch2 := fun R hJ id f hf s k p hp r h => by
    obtain ⟨_, tx, _, _, hx, _⟩ := R.suspended hwf hf hp
    exact (RL.step hx (R.level_ok hwf hlv hx) (hJ id f hf s k p hp)).done h
  first := fun {tm fs n tlog id f op pre post evs fs'} R hJ hsp FF U E hfs id' f' hf' s' k' p hp => by
    rw [hfs] at hf'
    -- the frame that ran is suspended only if it is a `read` that went to the store (`start`); a read suspended
    -- before belongs to another slot, whose record the segment has left alone (`keep`)
    by_cases hid : id' = id
    · rw [if_pos hid] at hf'
      cases hf'
      obtain ⟨rfl, e1, e2⟩ := stepT_start_rd (show (stepT tm (.start op)).2 = .rd s' k' p from hp)
      rw [e1]
      exact (RL.start ((readStart_store tm s' k').1 ▸ R.inv.store_ok)).rd e2
    · rw [if_neg hid] at hf'
      have hs' : s' ≠ op.slot := other_slot R hwf hsp FF hid hf' hp
      exact RL.keep R.inv.store_ok (R.inv.snap_le s') (hJ id' f' hf' s' k' p hp) (U.other hs')
        (stepT_start_store tm op)
  later := fun {tm fs n tlog id b f op evs fs'} R hJ hlk hf hb hd E hfs id' f' hf' s' k' p hp => by
    rw [hfs] at hf'
    by_cases hid : id' = id
    · rw [if_pos hid] at hf'
      cases hf'
      obtain rfl := pcOK_rd (E.pc (Frame.next TPc.isDone f n (stepT tm f.pc).2) rfl rfl) hp
      obtain ⟨j, tx, hpc0, _, hx, _⟩ := R.inflight hwf hlk hf hb hd
      have hp' : (stepT tm f.pc).2 = .rd s' k' p := hp
      rw [hpc0] at hp'
      exact (RL.step hx (R.level_ok hwf hlv hx) (hJ id f hf s' k' j hpc0)).rd hp'
    · rw [if_neg hid] at hf'
      exact hJ id' f' hf' s' k' p hp

theorem reads_init (Q : Nat → Key → SPc → Prop) (ops : List (Nat × TOp)) : Reads Q (framesOfT ops) := by
  intro id f hf s k p hp
  obtain ⟨_, o, _, _, h⟩ := framesOfT_mem (frameOf_mem hf)
  rw [h] at hp
  cases hp

theorem framesOfT_started (ops : List (Nat × TOp)) (i : Nat) : startedIn (framesOfT ops) i = false := by
  unfold startedIn
  cases h : frameOf (framesOfT ops) i with
  | none => rfl
  | some f => simp [(framesOfT_mem (frameOf_mem h)).1]

theorem RInv.start (s0 : Store) (h0 : ok s0) (hwf : WFProg ops) :
    RInv ok s0.getSync ops { store := s0 } (framesOfT ops) 0 [] where
  inv := Inv.start s0 h0
  inv2 := Inv2.start s0
  times := List.Pairwise.nil
  tlt x hx := by simp at hx
  ids := framesOfT_ids ops
  frames id f op hf hl := by
    obtain ⟨hb, o, ho, h1, h2⟩ := framesOfT_mem (frameOf_mem hf)
    have : ops.lookup o.1 = some o.2 := mem_lookup hwf.ids ho
    rw [← h1, frameOf_id hf, hl] at this
    cases this
    exact ⟨fun _ => h2, fun b h => (by rw [hb] at h; cases h), fun b h => (by rw [hb] at h; cases h),
      fun b h => (by rw [hb] at h; cases h)⟩
  seq pre o post f b _ hf hb := by
    rw [(framesOfT_mem (frameOf_mem hf)).1] at hb
    cases hb
  front pre o post hsp _ hpre := by
    have hno : ∀ a ∈ pre, a.2.slot ≠ o.2.slot := fun a ha hs => by
      have := hpre a ha hs
      rw [framesOfT_started] at this
      cases this
    rw [wsetBefore_split hwf.ids hsp, foldl_wstep_none _ _ _ hno]
    rfl
  stat s tx h := by simp [TM.tx?] at h
  hasB s tx h := by simp [TM.tx?] at h
  cev m s w h := by simp at h

theorem rinv_run (L : MapLaws ok) (s0 : Store) (h0 : ok s0) (ops : List (Nat × TOp)) (sched : List Nat)
    (hwf : WFProg ops) (hseq : SlotSeq ops { store := s0 } sched)
    {J : TM → List (Frame TPc) → Prop} (S : Side ok s0.getSync ops J) (hJ0 : J { store := s0 } (framesOfT ops))
    (m : Nat) (hm : m ≤ sched.length) :
    ∃ tlog, RInv ok s0.getSync ops
      (runFrames stepT TPc.isDone { store := s0 } (framesOfT ops) 0 (sched.take m)).1
      (runFrames stepT TPc.isDone { store := s0 } (framesOfT ops) 0 (sched.take m)).2 m tlog ∧
      J (runFrames stepT TPc.isDone { store := s0 } (framesOfT ops) 0 (sched.take m)).1
        (runFrames stepT TPc.isDone { store := s0 } (framesOfT ops) 0 (sched.take m)).2 := by
  induction m with
  | zero => exact ⟨[], by simpa [runFrames] using RInv.start (ok := ok) s0 h0 hwf, by simpa [runFrames] using hJ0⟩
  | succ m ih =>
    have hlt : m < sched.length := hm
    obtain ⟨tlog, R, hJ⟩ := ih (Nat.le_of_lt hlt)
    have hlen : (sched.take m).length = m := by rw [List.length_take]; omega
    rw [List.take_succ_eq_append_getElem hlt, SR.runFrames_snoc, hlen, Nat.zero_add]
    exact RInv.step L hwf S R hJ sched[m] fun pre o post ho hsp a ha hs =>
      hseq m pre o post (by rw [ho]; exact List.getElem?_eq_getElem hlt) hsp a ha hs

theorem machFacts_of_rinv {ok : Store → Prop} {ops : List (Nat × TOp)} {s0 : Store} {tm : TM}
    {fs : List (Frame TPc)} {n : Nat} {tlog : List (Nat × Ev)} (hwf : WFProg ops)
    (R : RInv ok s0.getSync ops tm fs n tlog) (hq : Quiesced fs) :
    MachFacts ok ops { store := s0 } tm fs tlog := by
  have hndf : (fs.map (·.id)).Nodup := by rw [R.ids]; exact hwf.ids
  have hfo : ∀ f ∈ fs, frameOf fs f.id = some f := fun f hf => find_key (fun g : Frame TPc => g.id) hndf hf
  have hdone : ∀ f ∈ fs, ∀ b, f.b = some b → f.pc.isDone = true := fun f hf b hb =>
    hq f hf (by rw [hb]; intro h; cases h)
  refine
    { inv := R.inv
      inv2 := R.inv2
      times := R.times
      ids := R.ids
      done_e := fun f hf b hb => ?_
      seq := fun pre o post hsp f hf hid b hb a ha hs => ?_
      begin_ev := fun f hf s l b hl hb => ?_
      read_res := fun f hf s k b e r hl hb he hpc => ?_
      commit_res := fun f hf s b r hl hb hpc => ?_
      commit_ev := fun m s w hm => ?_ }
  · obtain ⟨op, hl⟩ := R.lookup_frame (hfo f hf)
    have hd := hdone f hf b hb
    obtain ⟨b', e, h1, h2, h3, _⟩ := R.done_info (hfo f hf) hl hd
    rw [hb] at h1
    cases h1
    obtain ⟨r, hr⟩ := isDone_done hd
    exact ⟨e, r, h2, hr, h3⟩
  · have hfo' : frameOf fs o.1 = some f := by rw [← hid]; exact hfo f hf
    obtain ⟨g, e, h1, _, h3, h4⟩ := R.seq pre o post f b hsp hfo' hb a ha hs
    exact ⟨g, frameOf_mem h1, frameOf_id h1, e, h3, h4⟩
  · obtain ⟨_, h2, h3⟩ := (R.frames f.id f _ (hfo f hf) hl).kind b hb
    exact ⟨h2, h3⟩
  · rcases (R.frames f.id f _ (hfo f hf) hl).kind b hb with ⟨j, h1, _⟩ | ⟨c, h1, h2, h3⟩
    · rw [h1] at hpc
      cases hpc
    · rw [h1] at hpc
      cases hpc
      refine ⟨c, rfl, ?_⟩
      split
      · next v hv => exact h2 v hv
      · next hv =>
        obtain ⟨m, e', g1, g2, g3, g4⟩ := h3 hv
        rw [he] at g1
        cases g1
        exact ⟨m, g2, g3, g4⟩
  · obtain ⟨h1, h2⟩ := (R.frames f.id f _ (hfo f hf) hl).kind b hb
    rcases h1 with h1 | ⟨fl, h1⟩
    · rw [h1] at hpc
      cases hpc
    · rw [h1] at hpc
      cases hpc
      refine ⟨fl, rfl, fun hfl => h2 (.inr ?_)⟩
      rw [h1, hfl]
  · obtain ⟨i, f, h1, h2, h3, h4, h5⟩ := R.cev m s w hm
    have hfm := frameOf_mem h1
    have hid := frameOf_id h1
    refine ⟨f, hfm, by rw [hid]; exact h2, h3, ?_, by rw [hid]; exact h5⟩
    rcases h4 with h4 | h4
    · have := hdone f hfm m h3
      rw [h4] at this
      cases this
    · exact h4

theorem machFacts_run (ok : Store → Prop) (L : MapLaws ok) (s0 : Store) (h0 : ok s0) (ops : List (Nat × TOp)) (sched : List Nat)
    (hwf : WFProg ops) (hseq : SlotSeq ops { store := s0 } sched)
    {J : TM → List (Frame TPc) → Prop} (S : Side ok s0.getSync ops J) (hJ0 : J { store := s0 } (framesOfT ops))
    (hq : Quiesced (runFrames stepT TPc.isDone { store := s0 } (framesOfT ops) 0 sched).2) :
    ∃ tlog, MachFacts ok ops { store := s0 }
      (runFrames stepT TPc.isDone { store := s0 } (framesOfT ops) 0 sched).1
      (runFrames stepT TPc.isDone { store := s0 } (framesOfT ops) 0 sched).2 tlog := by
  obtain ⟨tlog, R, _⟩ := rinv_run L s0 h0 ops sched hwf hseq S hJ0 sched.length (Nat.le_refl _)
  rw [List.take_length] at R
  exact ⟨tlog, machFacts_of_rinv hwf R hq⟩

end HappyModel.C14.SM.LM
