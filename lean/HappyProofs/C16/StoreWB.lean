import HappyProofs.C16.StoreBase
/-!
`writeback_reaches_store`, step form: in the repaired variant no segment takes a key out of the dirty set
without the backing store holding, right after it, the value the cache held right before it.  It needs that
no current-variant flush continuation is pending (`NoCur`, an invariant of repaired runs).  For the current
code the statement is false; `Props.lean` has the witness.
-/
namespace HappyModel.C16

def NoCur (s : St) : Prop := ∀ x ∈ s.pend, ∀ k v r n, x.2 ≠ Pend.flushCur k v r n

def WritebackStep (cfg : Cfg) (s : St) (a : Act) : Prop :=
  ∀ k v, k ∈ s.dirty → aget? s.cache k = some v → k ∉ (step cfg s a).1.dirty →
    aget? (step cfg s a).1.back k = some v

def WB (s t : St) : Prop :=
  ∀ k v, k ∈ s.dirty → aget? s.cache k = some v → k ∉ t.dirty → aget? t.back k = some v

theorem WB.refl (s : St) : WB s s := fun _ _ h1 _ h3 => absurd h1 h3

theorem WB.mono {s t t' : St} (h : WB s t) (hd : ∀ x ∈ t.dirty, x ∈ t'.dirty) (hb : t'.back = t.back) :
    WB s t' := fun k v h1 h2 h3 => by rw [hb]; exact h k v h1 h2 (fun hx => h3 (hd k hx))

theorem WB.src {s0 s t : St} (h : WB s0 t) (hd : s0.dirty = s.dirty) (hc : s0.cache = s.cache) : WB s t :=
  fun k v h1 h2 h3 => h k v (by rw [hd]; exact h1) (by rw [hc]; exact h2) h3

/-- the step `evictOne`, `delete` and `invalidate` share: write `ek` back, then drop it from the dirty set -/
theorem wb_drop (t : St) (ek k : Key) (v : Nat) (hd : k ∈ t.dirty) (hc : aget? t.cache k = some v)
    (hn : k ∉ setDel (t.writeBack ek).dirty ek) : aget? (t.writeBack ek).back k = some v := by
  by_cases e : k = ek
  · subst e; exact writeBack_self t k v hd hc
  · exact absurd ((mem_setDel _ _ _).mpr ⟨writeBack_dirty_keep t ek k hd e, e⟩) hn

/-- loop invariant of `evictLoop` relating the state `s` before the loop and an intermediate `t` -/
structure EvP (s t : St) : Prop where
  sub : ∀ k ∈ t.dirty, k ∈ s.dirty
  val : ∀ k, k ∈ t.dirty → aget? t.cache k = aget? s.cache k
  wb : WB s t

theorem EvP.refl (s : St) : EvP s s := ⟨fun _ h => h, fun _ _ => rfl, WB.refl s⟩

theorem evP_evictOne (cfg : Cfg) (hrep : cfg.rep = true) (s t : St) (ek : Key) (pol' : Pol)
    (h : EvP s t) : EvP s (evictOne cfg t ek pol') := by
  rw [evictOne_rep cfg hrep]
  refine ⟨?_, ?_, ?_⟩
  · intro k hk
    exact h.sub k (writeBack_dirty_sub t ek k ((mem_setDel _ _ _).mp hk).1)
  · intro k hk
    have ⟨h1, h2⟩ := (mem_setDel _ _ _).mp hk
    rw [aget?_adel_other _ _ _ h2]
    exact h.val k (writeBack_dirty_sub t ek k h1)
  · intro k v h1 h2 h3
    by_cases hk : k ∈ t.dirty
    · exact wb_drop t ek k v hk (by rw [h.val k hk]; exact h2) h3
    · rw [writeBack_back_other t ek k (Or.inr hk)]; exact h.wb k v h1 h2 hk

theorem wb_cachePut (cfg : Cfg) (hrep : cfg.rep = true) (s : St) (k v now : Nat) :
    WB s (cachePut cfg s k v now) := by
  obtain ⟨pe, pol', h, e⟩ := cachePut_ind cfg now (P := EvP s) (fun _ _ h => ⟨h.sub, h.val, h.wb⟩)
    (fun t ek pol' => evP_evictOne cfg hrep s t ek pol') s k v (EvP.refl s)
  rw [e]
  exact h.wb

theorem noCur_step (cfg : Cfg) (hrep : cfg.rep = true) (s : St) (a : Act) (h : NoCur s) :
    NoCur (step cfg s a).1 := by
  cases a with
  | start i op now =>
    rcases start_pend cfg s i op now with ⟨p, e, _, hp⟩ | ⟨e, _⟩ <;> intro x hx <;>
      rw [show (step cfg s (.start i op now)).1.pend = _ from e] at hx
    · rcases List.mem_append.mp hx with hx | hx
      · exact h x hx
      · cases List.mem_singleton.mp hx; exact hp.notCur hrep
    · exact h x hx
  | resume i now =>
    simp only [step]
    split
    · rename_i p _
      rcases resume_pend cfg s i p now with ⟨e, _⟩ | ⟨q, e, _, _, hq⟩ <;> intro x hx <;> rw [e] at hx
      · exact h x (List.mem_filter.mp hx).1
      · rcases List.mem_append.mp hx with hx | hx
        · exact h x (List.mem_filter.mp hx).1
        · cases List.mem_singleton.mp hx
          obtain ⟨k, r, n, rfl⟩ := hq hrep
          nofun
    · exact h

theorem noCur_run (cfg : Cfg) (hrep : cfg.rep = true) (s : St) (as : List Act) (h : NoCur s) :
    NoCur (run cfg s as) := by
  induction as generalizing s with
  | nil => exact h
  | cons a as ih => exact ih _ (noCur_step cfg hrep s a h)

theorem WB.of_dirty {s t : St} (hd : ∀ x ∈ s.dirty, x ∈ t.dirty) : WB s t :=
  fun k _ h1 _ h3 => absurd (hd k h1) h3

theorem wb_start (cfg : Cfg) (hrep : cfg.rep = true) (s : St) (i : Nat) (op : OpK) (now : Nat) :
    WB s (start cfg s i op now).1 := by
  cases op with
  | get k =>
    simp only [start]
    split <;> exact WB.refl s
  | put k v =>
    simp only [start]
    have h1 : WB s (cachePut cfg (s.bump cfg k) k v now) :=
      (wb_cachePut cfg hrep (s.bump cfg k) k v now).src (by simp) (by simp)
    split
    · exact h1.mono (fun x hx => by simpa using hx) (by simp)
    · exact h1.mono (fun x hx => (mem_setAdd _ _ _).mpr (Or.inl hx)) rfl
  | del k =>
    simp only [start, hrep, ↓reduceIte]
    split
    · intro x v h1 h2 h3
      simp only [wb_setPend_dirty, wb_setPend_back, inflInc_dirty, inflInc_back,
        cacheRemove_dirty, wb_cacheRemove_back] at h3 ⊢
      exact wb_drop (s.bump cfg k) k x v (by simpa using h1) (by simpa using h2) h3
    · exact WB.of_dirty fun x hx => by simpa using hx
  | inv k =>
    simp only [start, hrep, ↓reduceIte]
    split
    · exact fun x v h1 h2 h3 => wb_drop s k x v h1 h2 h3
    · exact WB.refl s
  | invAll =>
    simp only [start, hrep, ↓reduceIte]
    exact fun x v h1 h2 _ => writeBackAll_hit s s.dirty x v h1 h2 h1
  | flush order => exact WB.of_dirty fun x hx => by rw [start, (flushNext_dirty_back cfg s i order 0).1]; exact hx

theorem wb_resume (cfg : Cfg) (hrep : cfg.rep = true) (s : St) (i : Nat) (p : Pend) (now : Nat)
    (hp : ∀ k v r n, p ≠ Pend.flushCur k v r n) : WB s (resume cfg s i p now).1 := by
  cases p with
  | getHit v => exact WB.refl s
  | getMiss k e =>
    simp only [resume]
    split
    · split
      · exact wb_cachePut cfg hrep (s.clearPend i) k _ now
      · exact WB.refl s
    · exact WB.refl s
  | putWT k v => exact WB.of_dirty fun x hx => by simpa [resume, St.clearPend] using hx
  | putWB => exact WB.refl s
  | del k inC => exact WB.of_dirty fun x hx => by simpa [resume, St.clearPend] using hx
  | flushCur k v rest n => exact absurd rfl (hp k v rest n)
  | flushRep k rest n =>
    simp only [resume]
    split
    · intro x v h1 h2 h3
      rw [(flushNext_dirty_back cfg _ i rest (n + 1)).1] at h3
      rw [(flushNext_dirty_back cfg _ i rest (n + 1)).2]
      by_cases e : x = k
      · subst e; exact writeBack_self (s.clearPend i) x v h1 h2
      · exact absurd (writeBack_dirty_keep (s.clearPend i) k x h1 e) h3
    · exact WB.of_dirty fun x hx => by rw [(flushNext_dirty_back cfg _ i rest n).1]; exact hx

theorem writeback_step (cfg : Cfg) (hrep : cfg.rep = true) (s : St) (a : Act) (h : NoCur s) :
    WritebackStep cfg s a := by
  show WB s (step cfg s a).1
  cases a with
  | start i op now => exact wb_start cfg hrep s i op now
  | resume i now =>
    simp only [step]
    split
    · exact wb_resume cfg hrep s i _ now (h _ (List.mem_of_find?_eq_some ‹_›))
    · exact WB.refl s

end HappyModel.C16
