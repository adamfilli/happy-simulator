import HappyProofs.C02.Basic
/-! The closure structures of `HappyProofs/C02/Basic.lean` (`Closed`) quantify over the clock value of each call.
Following the time stamp of a continuation needs the clock held still, and following one future slot needs to know which
slots the code may rebind: `SClosed now ok P` is the principle at one clock value `now`, with the set `ok` of slots that
`fresh` / `any_of` / `all_of` may (re)bind, and with the only log entries the code of a segment writes itself (`hook now h`). -/

namespace HappyModel.C09.WaitSilent
open HappyModel.C01

structure SClosed (now : Nat) (ok : Nat → Prop) (P : Eff → Prop) : Prop where
  resolve : ∀ e f v, P e → (futGet e.ps.futs f).resolved = false → P (markResolved e now f v)
  allUpd : ∀ e c res rem, P e → (futGet e.ps.futs c).resolved = false →
      P (e.setFut c { futGet e.ps.futs c with results := res, remaining := rem })
  cbAdd : ∀ e g cb, P e → (futGet e.ps.futs g).resolved = false →
      P (e.setFut g { futGet e.ps.futs g with cbs := (futGet e.ps.futs g).cbs ++ [cb] })
  bind : ∀ e g rs rm, ok g → P e → P (e.setFut g { results := rs, remaining := rm })
  push : ∀ e sp hook tagged, sp.data = 0 → P e → P (e.push sp hook tagged)
  release : ∀ e i sp, P e → (i, sp) ∈ e.ps.held →
      P { e with specs := e.specs ++ [sp],
                 ps := { e.ps with nid := e.ps.nid + 1, held := e.ps.held.filter (fun p => p.1 != i) } }
  crashed : ∀ e l, P e → P { e with ps := { e.ps with crashed := l } }
  cancels : ∀ e l, P e → P { e with cancels := l }
  hookObs : ∀ e h, P e → P (addObs e (.hook now h))
  /-- the hook tables, the `level` attributes of entities and the hop metadata of events (written by
      `Act.addHook` / `Act.metric` / `Act.relay` and by the start of a segment) -/
  aux : ∀ e hookOf late lateAtt level hopsOf cur, P e →
      P { e with ps := { e.ps with hookOf := hookOf, late := late, lateAtt := lateAtt, level := level,
                                   hopsOf := hopsOf, cur := cur } }

section generic
variable {now : Nat} {ok : Nat → Prop} {P : Eff → Prop}

/-- `SClosed` is the guarded principle of `HappyProofs/C02/Basic.lean` with every hook and every `resolve` cascade permitted; `aux` serves the four
    fields that rewrite the hook tables, the levels and the hop metadata -/
theorem SClosed.guarded (hc : SClosed now ok P) : GClosed now ok True True P where
  resolve := fun _ => hc.resolve
  allUpd := fun _ => hc.allUpd
  cbAdd := fun _ => hc.cbAdd
  bind := hc.bind
  push := fun e sp hook tagged hd _ => hc.push e sp hook tagged hd
  release := hc.release
  crashed := hc.crashed
  cancels := hc.cancels
  hookLate := fun e _ _ _ h => hc.aux e _ _ _ _ _ _ h
  hookEarly := fun e _ _ _ h => hc.aux e _ _ _ _ _ _ h
  level := fun e _ h => hc.aux e _ _ _ _ _ _ h
  hops := fun e _ h => hc.aux e _ _ _ _ _ _ h

theorem acts_s (hc : SClosed now ok P) (acts : List Act) (e : Eff) (ha : ∀ a ∈ acts, ∀ f, a.binds = some f → ok f)
    (h : P e) : P (acts.foldl (runAct now) e) :=
  acts_guarded hc.guarded acts e ha (fun _ _ _ => trivial) (fun _ _ _ => trivial) h

theorem runHooks_s (hc : SClosed now ok P) (hooks : List Nat) (e : Eff) (h : P e) :
    P (runHooks now e hooks) := runHooks_guarded hc.guarded hc.hookObs hooks e h

end generic

end HappyModel.C09.WaitSilent
