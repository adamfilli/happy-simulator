import HappyProofs.C19.MQAccount
/-!
Every id `publish` has handed out is in a compartment: live (pending or in flight, `Part`), acknowledged, or
dead-lettered, and a live one is in neither of the other two.  The model keeps the first and the last; the acknowledged ids are carried beside it as a ghost list
`A` (`Ledger s A`).  `Eff` classifies what one action does to the compartments — nothing / publish a fresh id /
acknowledge a live id / dead-letter a live id — and `Ledger.step` follows it.

What the judges of the limit, ack and owed-message clauses (`jLimit`, `jAck`, `jAckTakes`) remember is then a *view*
of the model state and `A`: a judge lemma is an equation `check (view s A) record = .ok (view s' A')`, and `run_view`
turns it into acceptance of every run.  `jAckFinal` and `jRedeliv` know less than the queue and keep a relation beside
the ledger (`run_ledger`).
-/
namespace HappyModel.C19

inductive Eff (s s' : MQ) (a : Act) (o : Out) : Prop
  | same (hl : s'.live = s.live) (hA : s'.nAck = s.nAck) (hD : s'.dlq = s.dlq)
      (hN : s'.npub = s.npub) (hp : ∀ k, o ≠ .pubOk k) (hk : ∀ k, a = .ack k → k ∉ s.live)
      (hR : ∀ k rq, a = .rej k rq → s'.nRej = if k ∈ s.live then s.nRej + 1 else s.nRej)
  | pub (ha : a = .pub) (ho : o = .pubOk s.npub) (hl : s'.live = s.live ++ [s.npub])
      (hA : s'.nAck = s.nAck) (hD : s'.dlq = s.dlq) (hN : s'.npub = s.npub + 1)
  | ack (k : Nat) (ha : a = .ack k) (ho : o = .unit) (hk : k ∈ s.live) (hl : s'.live = s.live.erase k)
      (hA : s'.nAck = s.nAck + 1) (hD : s'.dlq = s.dlq) (hN : s'.npub = s.npub)
  | dl (k : Nat) (ha : (∃ rq, a = .rej k rq) ∨ a = .tmo k) (ho : o = .unit ∨ o = .tmoNone)
      (hk : k ∈ s.live) (hl : s'.live = s.live.erase k)
      (hA : s'.nAck = s.nAck) (hD : s'.dlq = s.dlq ++ [k]) (hN : s'.npub = s.npub)
      (hR : ∀ rq, a = .rej k rq → s'.nRej = s.nRej + 1)

theorem Eff.idle {s s' : MQ} {a : Act} {o : Out} (hl : s'.live = s.live) (hA : s'.nAck = s.nAck)
    (hD : s'.dlq = s.dlq) (hN : s'.npub = s.npub) (hp : ∀ k, o ≠ .pubOk k)
    (ha : ∀ k, a ≠ .ack k) (hr : ∀ k rq, a ≠ .rej k rq) : Eff s s' a o :=
  .same hl hA hD hN hp (fun k h => absurd h (ha k)) (fun k rq h => absurd h (hr k rq))

theorem Step.eff {cfg : Cfg} {t : Nat} {s s' : MQ} {a : Act} {o : Out} (h : Step cfg t s a s' o) :
    Eff s s' a o := by
  cases h with
  | stay ho hack hrej => exact .same rfl rfl rfl rfl ho.ne.1 hack (fun k rq h => by simp [hrej k rq h])
  | pub => exact .pub rfl rfl rfl rfl rfl rfl
  | ack hk => exact .ack _ rfl rfl hk rfl rfl rfl rfl
  | requeue hk =>
    exact .same rfl rfl rfl rfl (by simp) (by simp) (fun _ _ h => by cases h; simp [hk, MQ.requeue])
  | dlq ha hk =>
    refine .dl _ ?_ ?_ hk rfl rfl rfl rfl (fun _ _ => by simp [MQ.toDlq])
    · exact ha.imp (fun ⟨rq, h, _⟩ => ⟨rq, h⟩) (·.1)
    · exact ha.imp (·.choose_spec.2.2) (·.2.2.2.2)
  | subs ha =>
    rcases ha with ⟨c, rfl⟩ | ⟨c, rfl⟩ <;> exact Eff.idle rfl rfl rfl rfl (by simp) (by simp) (by simp)
  | _ => exact Eff.idle rfl rfl rfl rfl (by simp) (by simp) (by simp)

/-- ids that left the queue stay away: `live` only loses ids or gains the fresh one -/
theorem Eff.gone {s s' : MQ} {a : Act} {o : Out} (e : Eff s s' a o) {l : List Nat}
    (h : ∀ k ∈ l, k ∉ s.live ∧ k < s.npub) : ∀ k ∈ l, k ∉ s'.live ∧ k < s'.npub := by
  have erase : ∀ x, s'.live = s.live.erase x → s'.npub = s.npub → ∀ k ∈ l, k ∉ s'.live ∧ k < s'.npub :=
    fun x hl hN k hk => ⟨fun hm => (h k hk).1 (List.mem_of_mem_erase (hl ▸ hm)), hN ▸ (h k hk).2⟩
  cases e with
  | same hl _ _ hN => rw [hl, hN]; exact h
  | pub _ _ hl _ _ hN =>
    intro k hk
    have := h k hk
    rw [hl, hN, List.mem_append, List.mem_singleton]
    exact ⟨fun hm => hm.elim this.1 (by omega), by omega⟩
  | ack x _ _ _ hl _ _ hN => exact erase x hl hN
  | dl x _ _ _ hl _ _ hN => exact erase x hl hN

theorem Eff.npub_le {s s' : MQ} {a : Act} {o : Out} (e : Eff s s' a o) : s.npub ≤ s'.npub := by
  cases e <;> omega

theorem Eff.pubOk {s s' : MQ} {a : Act} {k : Nat} (e : Eff s s' a (.pubOk k)) : k = s.npub ∧ s'.npub = s.npub + 1 := by
  cases e with
  | same _ _ _ _ hp => exact absurd rfl (hp k)
  | pub _ ho _ _ _ hN => cases ho; exact ⟨rfl, hN⟩
  | ack _ _ ho => cases ho
  | dl _ _ ho => rcases ho with ho | ho <;> cases ho

theorem Eff.ack_gone {s s' : MQ} {k : Nat} {o : Out} (e : Eff s s' (.ack k) o) (inv : Inv s) : k ∉ s'.live := by
  cases e with
  | same hl _ _ _ _ hk => exact hl ▸ hk k rfl
  | pub ha => cases ha
  | ack _ ha _ _ hl => cases ha; exact hl ▸ inv.part.lN.not_mem_erase
  | dl _ ha => rcases ha with ⟨_, ha⟩ | ha <;> cases ha

/-- the ids `n - 1, …, 0`: what `publish` has handed out, latest first -/
def idsBelow : Nat → List Nat
  | 0 => []
  | n + 1 => n :: idsBelow n

@[simp] theorem mem_idsBelow {n k : Nat} : k ∈ idsBelow n ↔ k < n := by
  induction n with
  | zero => simp [idsBelow]
  | succ n ih => simp only [idsBelow, List.mem_cons, ih]; omega

def ackedAfter (s : MQ) (A : List Nat) : Act → List Nat
  | .ack k => if k ∈ s.live then k :: A else A
  | _ => A

theorem ackedAfter_eq {s : MQ} {A : List Nat} {a : Act} (h : ∀ k, a = .ack k → k ∉ s.live) :
    ackedAfter s A a = A := by
  cases a <;> first | rfl | exact if_neg (h _ rfl)

structure Ledger (s : MQ) (A : List Nat) : Prop where
  inv : Inv s
  gone : ∀ k ∈ A, k ∉ s.live ∧ k < s.npub
  all : ∀ k, k < s.npub → k ∈ s.live ∨ k ∈ A ∨ k ∈ s.dlq

theorem Ledger.init : Ledger {} [] := ⟨Inv.init, by simp, by simp⟩

theorem Ledger.live_iff {s : MQ} {A : List Nat} (L : Ledger s A) (k : Nat) :
    k ∈ s.live ↔ k < s.npub ∧ k ∉ A ∧ k ∉ s.dlq :=
  ⟨fun h => ⟨L.inv.lB k h, fun hA => (L.gone k hA).1 h, fun hd => (L.inv.dB k hd).2 h⟩,
   fun ⟨h1, h2, h3⟩ => (L.all k h1).elim id fun h => h.elim (absurd · h2) (absurd · h3)⟩

/-- each effect but `same` moves one id between two compartments -/
theorem Ledger.step {cfg : Cfg} (hl : cfg.legacy = false) {t : Nat} {s s' : MQ} {a : Act} {o : Out} {A : List Nat}
    (L : Ledger s A) (h : Step cfg t s a s' o) : Ledger s' (ackedAfter s A a) := by
  have inv' := h.inv hl L.inv
  have e := h.eff
  have g := e.gone L.gone
  have nd := L.inv.part.lN
  cases e with
  | same hl _ hD hN _ hk =>
    rw [ackedAfter_eq hk]
    exact ⟨inv', g, hl ▸ hN ▸ hD ▸ L.all⟩
  | pub ha _ hl _ hD hN =>
    subst ha
    refine ⟨inv', g, fun k hk => ?_⟩
    rw [hl, hD, List.mem_append, List.mem_singleton]
    by_cases h : k = s.npub
    · exact .inl (.inr h)
    · exact (L.all k (by omega)).imp .inl id
  | ack x ha _ hx hl _ hD hN =>
    subst ha
    rw [ackedAfter, if_pos hx]
    refine ⟨inv', List.forall_mem_cons.2 ⟨⟨hl ▸ nd.not_mem_erase, hN ▸ L.inv.lB _ hx⟩, g⟩, fun k hk => ?_⟩
    rw [hl, hD, nd.mem_erase_iff, List.mem_cons]
    have := L.all k (hN ▸ hk)
    grind
  | dl x ha _ hx hl _ hD hN =>
    rw [ackedAfter_eq (by rcases ha with ⟨_, rfl⟩ | rfl <;> simp)]
    refine ⟨inv', g, fun k hk => ?_⟩
    rw [hl, hD, nd.mem_erase_iff, List.mem_append, List.mem_singleton]
    have := L.all k (hN ▸ hk)
    grind

/-- a judge that folds `check` over the records accepts every run of the repaired queue from `{}` once every way through
`MQ.step` (any `Step`) is shown to pass `check` and to re-establish `Rel` between model state, acknowledged ids and judge state -/
theorem run_ledger {σ : Type} (cfg : Cfg) (hl : cfg.legacy = false) (check : σ → ORec → Except String σ)
    (J : σ → List ORec → Option String) (hnil : ∀ j, J j [] = none)
    (hok : ∀ j r rs j', check j r = .ok j' → J j (r :: rs) = J j' rs) (Rel : MQ → List Nat → σ → Prop) {j₀ : σ}
    (h₀ : Rel {} [] j₀)
    (hstep : ∀ {s A j t a s' o}, Ledger s A → Rel s A j → Step cfg t s a s' o →
      ∃ j', check j ⟨t, a, o, s'.ctr⟩ = .ok j' ∧ Rel s' (ackedAfter s A a) j')
    (sched : List (Nat × Act)) : J j₀ (MQ.run cfg {} sched) = none := by
  suffices ∀ (s : MQ) (A : List Nat) (j : σ), Ledger s A → Rel s A j → J j (MQ.run cfg s sched) = none from
    this {} [] j₀ Ledger.init h₀
  induction sched with
  | nil => intro _ _ j _ _; exact hnil j
  | cons ta rest ih =>
    intro s A j L rel
    have h := step_spec cfg ta.1 s ta.2
    obtain ⟨j', hc, rel'⟩ := hstep L rel h
    rw [MQ.run, hok _ _ _ _ hc]
    exact ih _ _ _ (L.step hl h) rel'

theorem run_view {σ : Type} (cfg : Cfg) (hl : cfg.legacy = false) (check : σ → ORec → Except String σ)
    (J : σ → List ORec → Option String) (hnil : ∀ j, J j [] = none)
    (hok : ∀ j r rs j', check j r = .ok j' → J j (r :: rs) = J j' rs) (view : MQ → List Nat → σ)
    (hstep : ∀ {s A t a s' o}, Ledger s A → Step cfg t s a s' o →
      check (view s A) ⟨t, a, o, s'.ctr⟩ = .ok (view s' (ackedAfter s A a)))
    (sched : List (Nat × Act)) : J (view {} []) (MQ.run cfg {} sched) = none :=
  run_ledger cfg hl check J hnil hok (fun s A j => j = view s A) rfl
    (fun L e h => ⟨_, e ▸ hstep L h, rfl⟩) sched

end HappyModel.C19
