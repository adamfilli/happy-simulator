import HappyProofs.C14.BTreeLeaf
/-!
`InvF f lo hi n`: with fuel `f` the node `n` is completely traversed, every leaf is strictly sorted,
and all keys below `n` lie in `[lo, hi)`; the separators of an inner node are non-decreasing and cut
`[lo, hi)` into the key ranges of the children.  Nodes may be empty (deletes never merge) and
separators need not occur as keys.

Each operation on a node satisfying `InvF` is the corresponding sorted-list operation on the
flattened contents `toListN`.  Each proof is an induction on the fuel, with the walk over the children
of one inner node factored out as a lemma that is generic in the per-child invariant `P`.
-/
namespace HappyModel.C14.BT
open HappyModel.C14

variable {P : Key → Key → Node → Prop} {g : Node → KV}

/-- children `c, rest` partition `[lo, hi)` along the separators -/
def KidsInv (P : Key → Key → Node → Prop) : Key → Key → Node → List (Key × Node) → Prop
  | lo, hi, c, [] => P lo hi c ∧ lo ≤ hi
  | lo, hi, c, (s, c') :: tl => P lo s c ∧ lo ≤ s ∧ KidsInv P s hi c' tl

def InvF : Nat → Key → Key → Node → Prop
  | _, lo, hi, .leaf kvs => SortedKV kvs ∧ keysIn lo hi kvs
  | 0, _, _, .inner _ _ => False
  | f + 1, lo, hi, .inner c0 rest => KidsInv (InvF f) lo hi c0 rest

theorem invF_leaf (f : Nat) (lo hi : Key) (kvs : KV) :
    InvF f lo hi (.leaf kvs) = (SortedKV kvs ∧ keysIn lo hi kvs) := by cases f <;> rfl

theorem toListN_leaf (f : Nat) (kvs : KV) : toListN f (.leaf kvs) = kvs := by cases f <;> rfl

theorem kids_le :
    ∀ (rest : List (Key × Node)) (lo hi : Key) (c : Node), KidsInv P lo hi c rest → lo ≤ hi
  | [], _, _, _, h => h.2
  | (s, c') :: tl, lo, hi, _, h => by
    have := kids_le tl s hi c' h.2.2
    have := h.2.1
    komega

theorem kids_append (s : Key) (c' : Node) (l2 : List (Key × Node)) (hi : Key) :
    ∀ (l1 : List (Key × Node)) (lo : Key) (c : Node),
      KidsInv P lo hi c (l1 ++ (s, c') :: l2) ↔ KidsInv P lo s c l1 ∧ KidsInv P s hi c' l2
  | [], lo, c => by simp only [List.nil_append, KidsInv, and_assoc]
  | (s1, c1) :: l1, lo, c => by
    simp only [List.cons_append, KidsInv, kids_append s c' l2 hi l1 s1 c1, and_assoc]

theorem flatKids_append (g : Node → KV) (s : Key) (c' : Node) (l2 : List (Key × Node)) :
    ∀ (l1 : List (Key × Node)) (c : Node),
      flatKids g c (l1 ++ (s, c') :: l2) = flatKids g c l1 ++ flatKids g c' l2
  | [], c => by simp only [List.nil_append, flatKids]
  | (s1, c1) :: l1, c => by
    simp only [List.cons_append, flatKids, flatKids_append g s c' l2 l1 c1, List.append_assoc]

theorem kids_keysIn (hP : ∀ lo hi n, P lo hi n → keysIn lo hi (g n)) :
    ∀ (rest : List (Key × Node)) (lo hi : Key) (c : Node),
      KidsInv P lo hi c rest → keysIn lo hi (flatKids g c rest)
  | [], lo, hi, c, h => hP lo hi c h.1
  | (s, c') :: tl, lo, hi, c, h => by
    simp only [flatKids]
    have h1 := hP lo s c h.1
    have h2 := kids_keysIn hP tl s hi c' h.2.2
    have h3 := kids_le tl s hi c' h.2.2
    exact keysIn_append.2 ⟨keysIn_mono h1 (Nat.le_refl _) h3, keysIn_mono h2 h.2.1 (Nat.le_refl _)⟩

theorem kids_sorted (hP : ∀ lo hi n, P lo hi n → keysIn lo hi (g n)) (hS : ∀ lo hi n, P lo hi n → SortedKV (g n)) :
    ∀ (rest : List (Key × Node)) (lo hi : Key) (c : Node),
      KidsInv P lo hi c rest → SortedKV (flatKids g c rest)
  | [], lo, hi, c, h => hS lo hi c h.1
  | (s, c') :: tl, lo, hi, c, h => by
    simp only [flatKids]
    refine sorted_append.2 ⟨hS lo s c h.1, kids_sorted hP hS tl s hi c' h.2.2, ?_⟩
    intro x hx y hy
    have h1 := hP lo s c h.1 x hx
    have h2 := kids_keysIn hP tl s hi c' h.2.2 y hy
    komega

theorem kids_mono_hi (hP : ∀ lo hi hi' n, P lo hi n → hi ≤ hi' → P lo hi' n) (hi hi' : Key) (hle : hi ≤ hi') :
    ∀ (rest : List (Key × Node)) (lo : Key) (c : Node), KidsInv P lo hi c rest → KidsInv P lo hi' c rest
  | [], lo, c, h => ⟨hP lo hi hi' c h.1 hle, by have := h.2; komega⟩
  | (s, c') :: tl, lo, c, h => ⟨h.1, h.2.1, kids_mono_hi hP hi hi' hle tl s c' h.2.2⟩

theorem invF_keysIn : ∀ (f : Nat) (lo hi : Key) (n : Node), InvF f lo hi n → keysIn lo hi (toListN f n)
  | f, lo, hi, .leaf kvs, h => by
    rw [invF_leaf] at h; rw [toListN_leaf]; exact h.2
  | 0, _, _, .inner _ _, h => h.elim
  | f + 1, lo, hi, .inner c0 rest, h => kids_keysIn (invF_keysIn f) rest lo hi c0 h

theorem invF_sorted : ∀ (f : Nat) (lo hi : Key) (n : Node), InvF f lo hi n → SortedKV (toListN f n)
  | f, lo, hi, .leaf kvs, h => by
    rw [invF_leaf] at h; rw [toListN_leaf]; exact h.1
  | 0, _, _, .inner _ _, h => h.elim
  | f + 1, lo, hi, .inner c0 rest, h => kids_sorted (invF_keysIn f) (invF_sorted f) rest lo hi c0 h

theorem invF_mono_hi : ∀ (f : Nat) (lo hi hi' : Key) (n : Node), InvF f lo hi n → hi ≤ hi' → InvF f lo hi' n
  | f, lo, hi, hi', .leaf kvs, h, hle => by
    rw [invF_leaf] at h ⊢; exact ⟨h.1, keysIn_mono h.2 (Nat.le_refl _) hle⟩
  | 0, _, _, _, .inner _ _, h, _ => h.elim
  | f + 1, lo, hi, hi', .inner c0 rest, h, hle => kids_mono_hi (invF_mono_hi f) hi hi' hle rest lo c0 h

/-- what the insert path needs from a split of `n` with bounds `[lo, hi)` -/
def SplitOK (P : Key → Key → Node → Prop) (g : Node → KV) (lo hi : Key) (n : Node) : Prop :=
  P lo (split n).2.1 (split n).1 ∧ P (split n).2.1 hi (split n).2.2 ∧ lo ≤ (split n).2.1 ∧ (split n).2.1 ≤ hi ∧
    g (split n).1 ++ g (split n).2.2 = g n

theorem split_leaf_ok (f : Nat) (lo hi : Key) (kvs : KV) (h : InvF f lo hi (.leaf kvs)) (hn : 1 ≤ kvs.length) :
    SplitOK (InvF f) (toListN f) lo hi (.leaf kvs) := by
  rw [invF_leaf] at h
  obtain ⟨hs, hk⟩ := h
  have hmid : kvs.length / 2 < kvs.length := by omega
  have hsplit : kvs.take (kvs.length / 2) ++ kvs.drop (kvs.length / 2) = kvs := List.take_append_drop _ _
  cases hd : kvs.drop (kvs.length / 2) with
  | nil =>
    have := congrArg List.length hd
    simp only [List.length_drop, List.length_nil] at this
    omega
  | cons e tl =>
    obtain ⟨ke, ve⟩ := e
    rw [hd] at hsplit
    have hs' := hs
    rw [← hsplit] at hs'
    obtain ⟨hs1, hs2, hs3⟩ := sorted_append.1 hs'
    have hk' := hk
    rw [← hsplit] at hk'
    obtain ⟨hk1, hk2⟩ := keysIn_append.1 hk'
    have hke := hk2 (ke, ve) (by simp)
    have hlt : ∀ x ∈ kvs.take (kvs.length / 2), x.1 < ke := fun x hx => hs3 x hx (ke, ve) (by simp)
    have hge : ∀ y ∈ (ke, ve) :: tl, ke ≤ y.1 := by
      intro y hy
      rcases List.mem_cons.1 hy with rfl | hy
      · exact Nat.le_refl _
      · exact Nat.le_of_lt ((sorted_cons.1 hs2).1 y hy)
    simp only [SplitOK, split, hd, List.head?_cons, Option.map_some, Option.getD_some, invF_leaf, toListN_leaf]
    refine ⟨⟨hs1, ?_⟩, ⟨hs2, ?_⟩, hke.1, Nat.le_of_lt hke.2, hsplit⟩
    · intro x hx
      exact ⟨(hk1 x hx).1, hlt x hx⟩
    · intro y hy
      exact ⟨hge y hy, (hk2 y hy).2⟩

theorem split_inner_ok (f : Nat) (lo hi : Key) (c0 : Node) (rest : List (Key × Node))
    (h : InvF (f + 1) lo hi (.inner c0 rest)) (hn : 1 ≤ rest.length) :
    SplitOK (InvF (f + 1)) (toListN (f + 1)) lo hi (.inner c0 rest) := by
  have hmid : rest.length / 2 < rest.length := by omega
  have hsplit : rest.take (rest.length / 2) ++ rest.drop (rest.length / 2) = rest := List.take_append_drop _ _
  cases hd : rest.drop (rest.length / 2) with
  | nil =>
    have := congrArg List.length hd
    simp only [List.length_drop, List.length_nil] at this
    omega
  | cons e tl =>
    obtain ⟨s, c⟩ := e
    rw [hd] at hsplit
    have h' : KidsInv (InvF f) lo hi c0 (rest.take (rest.length / 2) ++ (s, c) :: tl) := by
      rw [hsplit]; exact h
    obtain ⟨h1, h2⟩ := (kids_append s c tl hi _ lo c0).1 h'
    have hfl := flatKids_append (toListN f) s c tl (rest.take (rest.length / 2)) c0
    rw [hsplit] at hfl
    simp only [SplitOK, split, hd]
    exact ⟨h1, h2, kids_le _ _ _ _ h1, kids_le _ _ _ _ h2, hfl.symm⟩

/-- `3 ≤ order` is the constructor's bound (`btree.py`: `ValueError` below 3); this is its one use, and all it takes from
    it is that a full node holds a key. -/
theorem split_ok (order : Nat) (ho : 3 ≤ order) :
    ∀ (f : Nat) (lo hi : Key) (n : Node), InvF f lo hi n → full order n = true →
      SplitOK (InvF f) (toListN f) lo hi n
  | f, lo, hi, .leaf kvs, h, hf => by
    apply split_leaf_ok f lo hi kvs h
    simp only [full, Node.nkeys, ge_iff_le, decide_eq_true_eq] at hf
    omega
  | 0, _, _, .inner _ _, h, _ => h.elim
  | f + 1, lo, hi, .inner c0 rest, h, hf => by
    apply split_inner_ok f lo hi c0 rest h
    simp only [full, Node.nkeys, ge_iff_le, decide_eq_true_eq] at hf
    omega

theorem getN_leaf (f : Nat) (kvs : KV) (k : Key) : getN f (.leaf kvs) k = leafGet k kvs := by cases f <;> rfl
theorem delN_leaf (f : Nat) (kvs : KV) (k : Key) : delN f (.leaf kvs) k = .leaf (eraseKey k kvs) := by
  cases f <;> rfl
theorem insNF_leaf (order f : Nat) (kvs : KV) (k : Key) (v : Nat) :
    insNF order f (.leaf kvs) k v = .leaf (upsert k v kvs) := by cases f <;> rfl
theorem scanN_leaf (f : Nat) (kvs : KV) (lo hi : Key) : scanN f (.leaf kvs) lo hi = leafScan lo hi kvs := by
  cases f <;> rfl

theorem get_kids (hP : ∀ lo hi n, P lo hi n → keysIn lo hi (g n)) (k : Key) :
    ∀ (rest : List (Key × Node)) (lo hi : Key) (c : Node), KidsInv P lo hi c rest →
      (∃ lo' hi', P lo' hi' (findKid k c rest)) ∧
        leafGet k (flatKids g c rest) = leafGet k (g (findKid k c rest))
  | [], lo, hi, c, h => ⟨⟨lo, hi, h.1⟩, rfl⟩
  | (s, c') :: tl, lo, hi, c, h => by
    simp only [findKid, flatKids]
    by_cases hks : k < s
    · simp only [hks, if_true]
      refine ⟨⟨lo, s, h.1⟩, (walk_append_left 0 ?_ _).2.2⟩
      intro e he
      have := kids_keysIn hP tl s hi c' h.2.2 e he
      komega
    · simp only [hks, if_false]
      have ih := get_kids hP k tl s hi c' h.2.2
      refine ⟨ih.1, ?_⟩
      refine ((walk_append_right 0 _ ?_).2.2).trans ih.2
      intro e he
      have := hP lo s c h.1 e he
      komega

theorem getN_spec (k : Key) : ∀ (f : Nat) (lo hi : Key) (n : Node), InvF f lo hi n →
    getN f n k = leafGet k (toListN f n)
  | f, lo, hi, .leaf kvs, _ => by rw [getN_leaf, toListN_leaf]
  | 0, _, _, .inner _ _, h => h.elim
  | f + 1, lo, hi, .inner c0 rest, h => by
    obtain ⟨⟨lo', hi', hp⟩, hg⟩ := get_kids (invF_keysIn f) k rest lo hi c0 h
    show getN f (findKid k c0 rest) k = leafGet k (flatKids (toListN f) c0 rest)
    rw [hg]
    exact getN_spec k f lo' hi' _ hp

theorem del_kids (hP : ∀ lo hi n, P lo hi n → keysIn lo hi (g n)) (k : Key) (d : Node → Node)
    (hd : ∀ lo hi n, P lo hi n → P lo hi (d n) ∧ g (d n) = eraseKey k (g n)) :
    ∀ (rest : List (Key × Node)) (lo hi : Key) (c : Node), KidsInv P lo hi c rest →
      KidsInv P lo hi (mapKid d k c rest).1 (mapKid d k c rest).2 ∧
        flatKids g (mapKid d k c rest).1 (mapKid d k c rest).2 = eraseKey k (flatKids g c rest)
  | [], lo, hi, c, h => by
    simp only [mapKid, KidsInv, flatKids]
    exact ⟨⟨(hd lo hi c h.1).1, h.2⟩, (hd lo hi c h.1).2⟩
  | (s, c') :: tl, lo, hi, c, h => by
    simp only [mapKid]
    by_cases hks : k < s
    · simp only [hks, if_true, KidsInv, flatKids]
      refine ⟨⟨(hd lo s c h.1).1, h.2.1, h.2.2⟩, ?_⟩
      rw [(hd lo s c h.1).2]
      refine ((walk_append_left 0 ?_ _).2.1).symm
      intro e he
      have := kids_keysIn hP tl s hi c' h.2.2 e he
      komega
    · simp only [hks, if_false, KidsInv, flatKids]
      have ih := del_kids hP k d hd tl s hi c' h.2.2
      refine ⟨⟨h.1, h.2.1, ih.1⟩, ?_⟩
      rw [ih.2]
      refine ((walk_append_right 0 _ ?_).2.1).symm
      intro e he
      have := hP lo s c h.1 e he
      komega

theorem delN_spec (k : Key) : ∀ (f : Nat) (lo hi : Key) (n : Node), InvF f lo hi n →
    InvF f lo hi (delN f n k) ∧ toListN f (delN f n k) = eraseKey k (toListN f n)
  | f, lo, hi, .leaf kvs, h => by
    rw [delN_leaf, toListN_leaf, toListN_leaf]
    rw [invF_leaf] at h ⊢
    exact ⟨⟨map_sorted_erase k kvs h.1, keysIn_eraseKey h.2⟩, rfl⟩
  | 0, _, _, .inner _ _, h => h.elim
  | f + 1, lo, hi, .inner c0 rest, h =>
    del_kids (invF_keysIn f) k (fun c => delN f c k) (delN_spec k f) rest lo hi c0 h

/-- the chosen child alone: split when full, insert into the half selected by `k ≥ separator` -/
theorem target_nil (order : Nat) (k : Key) (v : Nat)
    (ins : Node → Node)
    (hP : ∀ lo hi n, P lo hi n → keysIn lo hi (g n))
    (hins : ∀ lo hi n, P lo hi n → lo ≤ k → k < hi → P lo hi (ins n) ∧ g (ins n) = upsert k v (g n))
    (hsp : ∀ lo hi n, P lo hi n → full order n = true → SplitOK P g lo hi n)
    (lo hi : Key) (c : Node) (hc : P lo hi c) (hle : lo ≤ hi) (h1 : lo ≤ k) (h2 : k < hi) :
    KidsInv P lo hi (target order ins k c []).1 (target order ins k c []).2 ∧
      flatKids g (target order ins k c []).1 (target order ins k c []).2 = upsert k v (g c) := by
  simp only [target]
  by_cases hf : full order c = true
  · obtain ⟨s1, s2, s3, s4, s5⟩ := hsp lo hi c hc hf
    simp only [hf, if_true]
    by_cases hk : k ≥ (split c).2.1
    · simp only [hk, if_true, KidsInv, flatKids]
      have hi2 := hins _ _ _ s2 hk h2
      refine ⟨⟨s1, s3, hi2.1, s4⟩, ?_⟩
      rw [hi2.2, ← s5]
      refine ((walk_append_right v _ ?_).1).symm
      intro e he
      have := hP _ _ _ s1 e he
      komega
    · simp only [hk, if_false, KidsInv, flatKids]
      have hi1 := hins _ _ _ s1 h1 (by komega)
      refine ⟨⟨hi1.1, s3, s2, s4⟩, ?_⟩
      rw [hi1.2, ← s5]
      refine ((walk_append_left v ?_ _).1).symm
      intro e he
      have := hP _ _ _ s2 e he
      komega
  · simp only [hf]
    exact ⟨⟨(hins lo hi c hc h1 h2).1, hle⟩, (hins lo hi c hc h1 h2).2⟩

theorem target_tl (order : Nat) (ins : Node → Node) (k : Key) (c : Node) (tl : List (Key × Node)) :
    target order ins k c tl = ((target order ins k c []).1, (target order ins k c []).2 ++ tl) := by
  simp only [target]
  by_cases hf : full order c = true
  · by_cases hk : k ≥ (split c).2.1 <;> simp [hf, hk]
  · simp [hf]

theorem ins_kids (order : Nat) (k : Key) (v : Nat)
    (ins : Node → Node)
    (hP : ∀ lo hi n, P lo hi n → keysIn lo hi (g n))
    (hins : ∀ lo hi n, P lo hi n → lo ≤ k → k < hi → P lo hi (ins n) ∧ g (ins n) = upsert k v (g n))
    (hsp : ∀ lo hi n, P lo hi n → full order n = true → SplitOK P g lo hi n) :
    ∀ (rest : List (Key × Node)) (lo hi : Key) (c : Node), KidsInv P lo hi c rest → lo ≤ k → k < hi →
      KidsInv P lo hi (insKids order ins k c rest).1 (insKids order ins k c rest).2 ∧
        flatKids g (insKids order ins k c rest).1 (insKids order ins k c rest).2 =
          upsert k v (flatKids g c rest)
  | [], lo, hi, c, h, h1, h2 => by
    simp only [insKids, flatKids]
    exact target_nil order k v ins hP hins hsp lo hi c h.1 h.2 h1 h2
  | (s, c') :: tl, lo, hi, c, h, h1, h2 => by
    simp only [insKids]
    by_cases hks : k < s
    · simp only [hks, if_true]
      rw [target_tl]
      obtain ⟨t1, t2⟩ := target_nil order k v ins hP hins hsp lo s c h.1 h.2.1 h1 hks
      refine ⟨(kids_append s c' tl hi _ lo _).2 ⟨t1, h.2.2⟩, ?_⟩
      simp only [flatKids]
      rw [flatKids_append, t2]
      refine ((walk_append_left v ?_ _).1).symm
      intro e he
      have := kids_keysIn hP tl s hi c' h.2.2 e he
      komega
    · simp only [hks, if_false, KidsInv, flatKids]
      have ih := ins_kids order k v ins hP hins hsp tl s hi c' h.2.2 (by komega) h2
      refine ⟨⟨h.1, h.2.1, ih.1⟩, ?_⟩
      rw [ih.2]
      refine ((walk_append_right v _ ?_).1).symm
      intro e he
      have := hP lo s c h.1 e he
      komega

theorem insNF_spec (order : Nat) (ho : 3 ≤ order) (k : Key) (v : Nat) :
    ∀ (f : Nat) (lo hi : Key) (n : Node), InvF f lo hi n → lo ≤ k → k < hi →
      InvF f lo hi (insNF order f n k v) ∧ toListN f (insNF order f n k v) = upsert k v (toListN f n)
  | f, lo, hi, .leaf kvs, h, h1, h2 => by
    rw [insNF_leaf, toListN_leaf, toListN_leaf]
    rw [invF_leaf] at h ⊢
    exact ⟨⟨map_sorted_upsert k v kvs h.1, keysIn_upsert h.2 h1 h2⟩, rfl⟩
  | 0, _, _, .inner _ _, h, _, _ => h.elim
  | f + 1, lo, hi, .inner c0 rest, h, h1, h2 =>
    ins_kids order k v (fun c => insNF order f c k v) (invF_keysIn f) (insNF_spec order ho k v f)
      (split_ok order ho f) rest lo hi c0 h h1 h2

theorem scan_kids (hP : ∀ lo hi n, P lo hi n → keysIn lo hi (g n)) (lo hi : Key) (sc : Node → KV)
    (hsc : ∀ a b n, P a b n → sc n = inRange lo hi (g n)) :
    ∀ (rest : List (Key × Node)) (a b : Key) (c : Node) (low : Option Key), KidsInv P a b c rest →
      (low = none ∨ low = some a) →
      scanKids sc lo hi low c rest = inRange lo hi (flatKids g c rest)
  | [], a, b, c, low, h, hl => by
    simp only [scanKids, flatKids]
    by_cases hb : brk low hi = true
    · simp only [hb, if_true]
      rcases hl with rfl | rfl
      · simp [brk] at hb
      · simp only [brk, ge_iff_le, decide_eq_true_eq] at hb
        exact (inRange_nil (hP a b c h.1) (.inl hb)).symm
    · simp only [hb]
      exact hsc a b c h.1
  | (s, c') :: tl, a, b, c, low, h, hl => by
    simp only [scanKids, flatKids]
    by_cases hb : brk low hi = true
    · simp only [hb, if_true]
      rcases hl with rfl | rfl
      · simp [brk] at hb
      · simp only [brk, ge_iff_le, decide_eq_true_eq] at hb
        have := kids_keysIn hP ((s, c') :: tl) a b c h
        simp only [flatKids] at this
        exact (inRange_nil this (.inl hb)).symm
    · simp only [hb, Bool.false_eq_true, if_false]
      rw [inRange_append, scan_kids hP lo hi sc hsc tl s b c' (some s) h.2.2 (Or.inr rfl)]
      by_cases hs : s ≤ lo
      · simp only [hs, if_true]
        rw [inRange_nil (hP a s c h.1) (.inr hs)]
      · simp only [hs, if_false]
        rw [hsc a s c h.1]

theorem scanN_spec (lo hi : Key) : ∀ (f : Nat) (a b : Key) (n : Node), InvF f a b n →
    scanN f n lo hi = inRange lo hi (toListN f n)
  | f, a, b, .leaf kvs, h => by
    rw [scanN_leaf, toListN_leaf]
    rw [invF_leaf] at h
    exact leafScan_eq_inRange lo hi kvs h.1
  | 0, _, _, .inner _ _, h => h.elim
  | f + 1, a, b, .inner c0 rest, h =>
    scan_kids (invF_keysIn f) lo hi (fun c => scanN f c lo hi) (scanN_spec lo hi f) rest a b c0 none h
      (Or.inl rfl)

end HappyModel.C14.BT
