import HappyProofs.C02.Segment
/-!
# C02 — the resuming step: `resolve` on a future with a parked process, and parking on a resolved future
-/
namespace HappyModel.C01

theorem markResolved_futGet_ne (e : Eff) (now f g : Nat) (v : Val) (h : g ≠ f) :
    futGet (markResolved e now f v).ps.futs g = futGet e.ps.futs g := by
  rcases markResolved_cases e now f v with h1 | ⟨pid, p, hpk, hp, h1⟩
  · rw [h1]; simp [futGet_futSet, h]
  · rw [h1]; unfold resumed; simp [futGet_futSet, h]

theorem markResolved_futGet_same (e : Eff) (now f : Nat) (v : Val) :
    (futGet (markResolved e now f v).ps.futs f).resolved = true ∧
    (futGet (markResolved e now f v).ps.futs f).value = v ∧
    (futGet (markResolved e now f v).ps.futs f).cbs = [] ∧
    (futGet (markResolved e now f v).ps.futs f).results = (futGet e.ps.futs f).results ∧
    (futGet (markResolved e now f v).ps.futs f).remaining = (futGet e.ps.futs f).remaining := by
  rcases markResolved_cases e now f v with h1 | ⟨pid, p, hpk, hp, h1⟩
  · rw [h1]; simp [futGet_futSet]
  · rw [h1]; unfold resumed; simp [futGet_futSet]

def Extends (S : List Spec) (x : Eff) : Prop := ∃ more, x.specs = S ++ more

theorem Extends_cclosed (S : List Spec) : CClosed (Extends S) where
  resolve := by
    intro e now f v ⟨more, h⟩ hr
    rcases markResolved_cases e now f v with h1 | ⟨pid, p, hpk, hp, h1⟩
    · rw [h1]; exact ⟨more, h⟩
    · rw [h1]; unfold resumed
      exact ⟨more ++ [contSpec p pid now], by
        simp only [setProc_specs, setFut_specs, push_cont_specs, h, List.append_assoc]⟩
  allUpd := fun e c res rem h hr => h

def ResolvedIs (f : Nat) (w : Val) (x : Eff) : Prop :=
  (futGet x.ps.futs f).resolved = true ∧ (futGet x.ps.futs f).value = w

theorem ResolvedIs_cclosed (f : Nat) (w : Val) : CClosed (ResolvedIs f w) where
  resolve := by
    intro e now g v h hr
    have hne : f ≠ g := by intro heq; subst heq; rw [h.1] at hr; simp at hr
    unfold ResolvedIs
    rw [markResolved_futGet_ne e now g f v hne]; exact h
  allUpd := by
    intro e c res rem h hr
    have hne : f ≠ c := by intro heq; subst heq; rw [h.1] at hr; simp at hr
    unfold ResolvedIs
    simp only [setFut_futs, futGet_futSet, hne, if_false]; exact h

/-- state of affairs once `resolve(f, v)` has resumed the process `pid` that was parked on `f`:
    the continuation is among the specs (`S` ends with it), `f` is resolved with `v` and nobody is
    parked on it, the process record carries `v` as the value to send -/
def ResumedInv (B : Nat → Nat) (S : List Spec) (f pid : Nat) (v : Val) (x : Eff) : Prop :=
  Bnd B x ∧ Extends S x ∧
  ((futGet x.ps.futs f).resolved = true ∧ (futGet x.ps.futs f).value = v ∧ (futGet x.ps.futs f).parked = none) ∧
  ∃ q, x.ps.procs[pid]? = some q ∧ q.send = v

theorem cntSpec_extends {S : List Spec} {x : Eff} (h : Extends S x) (pid : Nat) :
    cntSpec S pid ≤ cntSpec x.specs pid := by
  obtain ⟨more, hm⟩ := h
  rw [hm, cntSpec_append]; omega

theorem ResumedInv_cclosed (B : Nat → Nat) (S : List Spec) (f pid : Nat) (v : Val) (hB : B pid ≤ 1)
    (hS : 1 ≤ cntSpec S pid) : CClosed (ResumedInv B S f pid v) where
  resolve := by
    intro e now g w ⟨hb, hext, hfut, q, hq, hsend⟩ hr
    have hne : f ≠ g := by intro heq; subst heq; rw [hfut.1] at hr; simp at hr
    refine ⟨Bnd_markResolved B e now g w hb hr, (Extends_cclosed S).resolve e now g w hext hr, ?_, ?_⟩
    · rw [markResolved_futGet_ne e now g f w hne]; exact hfut
    · rcases markResolved_cases e now g w with h1 | ⟨pid', p, hpk, hp, h1⟩
      · rw [h1]; exact ⟨q, hq, hsend⟩
      · rw [h1]; unfold resumed
        have hpne : pid' ≠ pid := by
          intro heq; subst heq
          have h1 := cntSpec_extends hext pid'
          have h2 := hb.2 pid'
          have h3 : cntPark e.ps.futs pid' ≠ 0 := by
            rw [Ne, cntPark_zero]; intro hall; exact hall g hpk
          simp only [cnt] at h2
          omega
        refine ⟨q, ?_, hsend⟩
        simp only [setProc_procs, setFut_procs, push_procs]
        rw [List.getElem?_set_ne hpne]; exact hq
  allUpd := by
    intro e c res rem ⟨hb, hext, hfut, hsend⟩ hr
    have hne : f ≠ c := by intro heq; subst heq; rw [hfut.1] at hr; simp at hr
    refine ⟨(Bnd_closed B).allUpd e c res rem hb hr, hext, ?_, hsend⟩
    simp only [setFut_futs, futGet_futSet, hne, if_false]; exact hfut

/-- **`resolve` wakes the parked process and then notifies every watcher**: on an unresolved future the
    call marks it resolved, resumes the process parked on it (if any) and then runs *all* settle
    callbacks registered on it (the `any_of` / `all_of` composites it is an input of), in registration
    order — having a parked process does not exempt the watchers -/
theorem resolve_wakes_then_notifies (fuel : Nat) (e : Eff) (now f : Nat) (v : Val)
    (hr : (futGet e.ps.futs f).resolved = false) :
    resolveFut (fuel + 1) e now f v
      = (futGet e.ps.futs f).cbs.foldl (cbStep fuel now v) (markResolved e now f v) := by
  rw [resolveFut_succ]
  simp [hr]

theorem resolve_twice_noop (fuel fuel' : Nat) (e : Eff) (now now' f : Nat) (v v' : Val)
    (hr : (futGet e.ps.futs f).resolved = false) :
    resolveFut fuel' (resolveFut (fuel + 1) e now f v) now' f v' = resolveFut (fuel + 1) e now f v := by
  cases fuel' with
  | zero => rfl
  | succ n =>
    rw [resolveFut_succ n]
    have : (futGet (resolveFut (fuel + 1) e now f v).ps.futs f).resolved = true := by
      rw [resolve_wakes_then_notifies fuel e now f v hr]
      have h0 : ResolvedIs f v (markResolved e now f v) :=
        ⟨(markResolved_futGet_same e now f v).1, (markResolved_futGet_same e now f v).2.1⟩
      exact (foldl_closed (cbStep fuel now v)
        (fun x cb hx => cbStep_cclosed (ResolvedIs_cclosed f v) fuel now v x cb hx) _ _ h0).1
    simp [this]

theorem markResolved_resumes (e : Eff) (now f pid : Nat) (v : Val) (p : Proc)
    (hpk : (futGet e.ps.futs f).parked = some pid) (hp : e.ps.procs[pid]? = some p) :
    (markResolved e now f v).specs = e.specs ++ [contSpec p pid now] ∧
    (futGet (markResolved e now f v).ps.futs f).parked = none ∧
    ∃ q, (markResolved e now f v).ps.procs[pid]? = some q ∧ q.send = v := by
  unfold markResolved
  rw [resumeParked_some (e.setFut f { futGet e.ps.futs f with resolved := true, value := v, cbs := [] }) now f pid p
    (by rw [setFut_futs, futGet_futSet_same]; exact hpk) hp]
  refine ⟨rfl, by simp [resumed, futGet_futSet], _,
    by rw [resumed, setProc_procs]; exact List.getElem?_set_self (getElem?_some_lt hp), ?_⟩
  simp [futGet_futSet]

/-- **a parked process is resumed exactly once, at the instant of the resolve, with the value.**
    In a well-formed effect in which `pid` has at most one pending resumption (`handler_effect_ok` in
    `ProcessProps.lean`: at every action boundary of an invocation started in a reachable state), `resolve(f, v)` on an unresolved future on which `pid` is
    parked creates exactly one continuation of `pid` in that call — `contSpec p pid now`, i.e. at the
    current clock with the process's own target/kind/daemon — and none before or after it in the
    cascade (`cntSpec … = 0`); `f` ends up resolved with `v` and un-parked, the process record holds
    `v` as the value to send; `pid` still has at most one pending resumption; and a later `resolve`
    of `f` (any value, any time) changes nothing (no second continuation). -/
theorem future_resume_once (fuel : Nat) (e : Eff) (now f pid : Nat) (v : Val) (p : Proc)
    (hw : WF e) (hone : cnt e pid ≤ 1)
    (hr : (futGet e.ps.futs f).resolved = false) (hpk : (futGet e.ps.futs f).parked = some pid)
    (hp : e.ps.procs[pid]? = some p) :
    (∃ more, (resolveFut (fuel + 1) e now f v).specs = e.specs ++ contSpec p pid now :: more ∧
      cntSpec e.specs pid = 0 ∧ cntSpec more pid = 0) ∧
    (contSpec p pid now).time = now ∧ (contSpec p pid now).data = pid + 1 ∧
    (futGet (resolveFut (fuel + 1) e now f v).ps.futs f).resolved = true ∧
    (futGet (resolveFut (fuel + 1) e now f v).ps.futs f).value = v ∧
    (futGet (resolveFut (fuel + 1) e now f v).ps.futs f).parked = none ∧
    (∃ q, (resolveFut (fuel + 1) e now f v).ps.procs[pid]? = some q ∧ q.send = v) ∧
    cnt (resolveFut (fuel + 1) e now f v) pid ≤ 1 ∧
    (∀ fuel' now' v', resolveFut fuel' (resolveFut (fuel + 1) e now f v) now' f v'
        = resolveFut (fuel + 1) e now f v) := by
  have hnoop := fun fuel' now' v' => resolve_twice_noop fuel fuel' e now now' f v v' hr
  rw [resolve_wakes_then_notifies fuel e now f v hr] at hnoop ⊢
  have hpark : cntPark e.ps.futs pid ≠ 0 := by
    rw [Ne, cntPark_zero]; intro hall; exact hall f hpk
  have hs0 : cntSpec e.specs pid = 0 := by simp only [cnt] at hone; omega
  have ⟨hmspecs, hmpark, hmsend⟩ := markResolved_resumes e now f pid v p hpk hp
  have hsame := markResolved_futGet_same e now f v
  have hinv0 : ResumedInv (cnt e) (e.specs ++ [contSpec p pid now]) f pid v (markResolved e now f v) :=
    ⟨Bnd_markResolved (cnt e) e now f v ⟨hw, fun q => Nat.le_refl _⟩ hr, ⟨[], by rw [hmspecs, List.append_nil]⟩,
      ⟨hsame.1, hsame.2.1, hmpark⟩, hmsend⟩
  have hS : 1 ≤ cntSpec (e.specs ++ [contSpec p pid now]) pid := by
    rw [cntSpec_append, cntSpec_single]; simp [contSpec, ind]
  have hfin := foldl_closed (cbStep fuel now v)
    (fun x cb hx => cbStep_cclosed (ResumedInv_cclosed (cnt e) _ f pid v hone hS) fuel now v x cb hx)
    (futGet e.ps.futs f).cbs _ hinv0
  generalize List.foldl (cbStep fuel now v) (markResolved e now f v) (futGet e.ps.futs f).cbs = r at hfin hnoop ⊢
  obtain ⟨hb, ⟨more, hext⟩, hfut, hsend⟩ := hfin
  refine ⟨⟨more, by rw [hext]; simp, hs0, ?_⟩, rfl, rfl, hfut.1, hfut.2.1, hfut.2.2, hsend,
    Nat.le_trans (hb.2 pid) hone, hnoop⟩
  have h1 := hb.2 pid
  simp only [cnt] at h1 hone
  rw [hext, cntSpec_append, cntSpec_append, cntSpec_single] at h1
  have : ind ((contSpec p pid now).data == pid + 1) = 1 := by simp [contSpec, ind]
  omega

/-- **parking on an already-resolved future resumes at once**: a segment ending in `yield f`, where
    `f` is resolved when the yield is reached, creates as its last spec exactly one continuation of
    the process at the current clock, leaves nobody parked on `f`, and stores `f`'s value as the value
    to send (the remaining segments are the rest of the script) -/
theorem park_on_resolved_resumes_at_once (now : Nat) (e : Eff) (pid tag : Nat) (p : Proc) (acts : List Act)
    (f : Nat) (rest : List Seg) (hp : e.ps.procs[pid]? = some p) (hs : p.segs = ⟨acts, .yieldF f⟩ :: rest)
    (hres : (futGet (acts.foldl (runAct now) (segStart now e pid tag p)).ps.futs f).resolved = true) :
    (runSegment now e pid tag).specs
        = (acts.foldl (runAct now) (segStart now e pid tag p)).specs ++ [contSpec p pid now] ∧
    (contSpec p pid now).time = now ∧ (contSpec p pid now).data = pid + 1 ∧
    (futGet (runSegment now e pid tag).ps.futs f).parked = none ∧
    ∃ q, (runSegment now e pid tag).ps.procs[pid]? = some q ∧
      q.send = (futGet (acts.foldl (runAct now) (segStart now e pid tag p)).ps.futs f).value ∧ q.segs = rest := by
  rw [runSegment_eq now e pid tag p _ rest hp hs]
  obtain ⟨p', hp', _⟩ := acts_proc now e pid tag p acts hp
  unfold segBody
  generalize acts.foldl (runAct now) (segStart now e pid tag p) = e1 at hres hp' ⊢
  have hpid : pid < (e1.ps.procs.set pid { ({ p with started := true, send := .none } : Proc) with segs := rest }).length := by
    rw [List.length_set]; exact getElem?_some_lt hp'
  simp only [segTerm]
  rw [if_pos (show (futGet (e1.setProc pid _).ps.futs f).resolved = true from hres),
    resumeParked_some _ now f pid { ({ p with started := true, send := .none } : Proc) with segs := rest }
      (by rw [setFut_futs, futGet_futSet_same]) (List.getElem?_eq_getElem hpid ▸ by simp)]
  refine ⟨rfl, rfl, rfl, by simp [resumed, futGet_futSet], _,
    by rw [resumed, setProc_procs]; exact List.getElem?_set_self hpid, ?_, rfl⟩
  simp [futGet_futSet]

/-- **parking on an unresolved future waits**: the segment creates no continuation for the process; it is
    recorded as parked on `f` (and is resumed by the `resolve` of `f`: `future_resume_once`) -/
theorem park_on_unresolved_waits (now : Nat) (e : Eff) (pid tag : Nat) (p : Proc) (acts : List Act)
    (f : Nat) (rest : List Seg) (hp : e.ps.procs[pid]? = some p) (hs : p.segs = ⟨acts, .yieldF f⟩ :: rest)
    (hres : (futGet (acts.foldl (runAct now) (segStart now e pid tag p)).ps.futs f).resolved = false) :
    (runSegment now e pid tag).specs = (acts.foldl (runAct now) (segStart now e pid tag p)).specs ∧
    (futGet (runSegment now e pid tag).ps.futs f).parked = some pid ∧
    (futGet (runSegment now e pid tag).ps.futs f).resolved = false := by
  rw [runSegment_eq now e pid tag p _ rest hp hs]
  unfold segBody
  simp only [segTerm]
  have hres' : ¬ ((futGet ((acts.foldl (runAct now) (segStart now e pid tag p)).setProc pid
      { ({ p with started := true, send := .none } : Proc) with segs := rest }).ps.futs f).resolved = true) := by
    simp only [setProc_futs]; rw [hres]; simp
  rw [if_neg hres']
  refine ⟨rfl, ?_, ?_⟩
  · simp [futGet_futSet]
  · simp only [setFut_futs, futGet_futSet_same, setProc_futs]; exact hres

end HappyModel.C01
