import HappyProofs.C13.Sched
/-!
Once a node stops reporting a member ALIVE, only a message from that member or an "alive" update
about it can bring ALIVE back; the repaired ack-timeout handler, and a probe tick that finds the
member's detector unavailable, make the member not-ALIVE.  The detector a node keeps for a member
changes only by heartbeats.
-/
set_option linter.unusedSectionVars false
namespace HappyModel.C13
variable {D : Type} [Inhabited D] [Detector D]

def NA (x : Nat) (nd : Node D) : Prop := nd.view x ≠ .alive

theorem notAlive_respects {now : Nat} :
    Respects (D := D) now (fun m m' => m.st ≠ .alive → m'.st ≠ .alive) (fun u => u.kind ≠ .alive)
      False True where
  refl _ h := h
  trans h1 h2 h := h2 (h1 h)
  gsuspect _ _ _ _ _ _ := nofun
  gdead _ _ _ _ _ _ := nofun
  galive _ _ hu hk := absurd hk hu
  heard h := h.elim
  suspect _ _ _ := fun h => nomatch h
  dead _ _ _ _ := fun h => nomatch h

theorem na_suspect_self (x : Nat) (nd : Node D) : NA x (suspect nd x) := by
  rcases suspect_cases nd x with ⟨h, e⟩ | ⟨_, e⟩ <;> rw [e]
  · exact h
  · show ((nd.setMember x _).member x).st ≠ .alive
    rw [member_setMember_same]
    exact fun h => nomatch h

theorem na_onIndTimeout_self (c : Cfg) (hfix : c.fix = true) (a now x : Nat) (shuf : List Nat)
    (nd : Node D) : NA x (onIndTimeout c a now x shuf nd).1 := by
  obtain ⟨nd0, nd1, h0, h1, e⟩ := onIndTimeout_eq c a now x shuf nd
  have hm : (onIndTimeout c a now x shuf nd).1.mem = (suspect nd x).mem := by
    rw [e]
    rcases h0 with rfl | ⟨hf, -⟩
    · rcases h1 with rfl | ⟨_, rfl⟩ <;> rfl
    · exact nomatch hfix.symm.trans hf
  unfold NA Node.view Node.member
  rw [hm]
  exact na_suspect_self x nd

theorem na_phiStep_self (a now x : Nat) (nd : Node D) (hxa : x ≠ a)
    (hav : Detector.avail (nd.member x).det now = false) : NA x (phiStep a now nd x) := by
  rcases phiStep_cases a now nd x with ⟨h, e⟩ | ⟨_, _, _, e⟩ <;> rw [e]
  · exact fun hst => nomatch hav.symm.trans (h hxa hst)
  · exact na_suspect_self x nd

def detOf (nd : Node D) (x : Nat) : D := (nd.member x).det

/-- the detector kept for a member is touched by heartbeats only -/
theorem det_respects (now : Nat) (P : D → Prop) (H : Prop) (hhb : H → ∀ d, P d → P (Detector.hb d now)) :
    Respects (D := D) now (fun m m' => P m.det → P m'.det) (fun _ => True) H True where
  refl _ h := h
  trans h1 h2 h := h2 (h1 h)
  gsuspect _ _ _ _ _ h := h
  gdead _ _ _ _ _ h := h
  galive _ _ _ _ _ h := h
  heard hH _ h := hhb hH _ h
  suspect _ _ h := h
  dead _ _ _ h := h

theorem na_phiFold (a now x : Nat) (hxa : x ≠ a) (l : List Nat) (nd : Node D) (hx : x ∈ l)
    (hav : Detector.avail (nd.member x).det now = false) : NA x (l.foldl (phiStep a now) nd) := by
  induction l generalizing nd with
  | nil => cases hx
  | cons y ys ih =>
    rw [List.foldl_cons]
    by_cases hy : x = y
    · subst hy
      exact foldl_pred (NA x) _ (fun nd z h => entry_phiStep (notAlive_respects (now := now)) x a now nd z h) _ _
        (na_phiStep_self a now x nd hxa hav)
    · exact ih _ ((List.mem_cons.mp hx).resolve_left hy)
        (entry_phiStep (det_respects now (Detector.avail · now = false) False (fun h => h.elim)) x a now nd y hav)

theorem na_onTick_unavailable (c : Cfg) (a now x : Nat) (shuf : List Nat) (nd : Node D)
    (hx : x < c.n) (hxa : x ≠ a) (hav : Detector.avail (nd.member x).det now = false) :
    NA x (onTick c a now shuf nd).1 := by
  unfold NA Node.view Node.member
  rw [onTick_mem]
  exact na_phiFold a now x hxa _ nd (List.mem_range.mpr hx) hav

theorem na_fires {c : Cfg} {s : Sys D} {act : Act} {now a x : Nat} {r : Node D × List Out}
    {soup : List Msg} (hf : Fires c s act now a r soup) (hq : QuietTo s a x) (hna : NA x (s.node a)) :
    NA x r.1 :=
  hf.entry notAlive_respects x
    (fun m hm hd => ⟨fun u hu hux hk => (hq m hm hd).2 ⟨u, hu, hux, hk⟩, (hq m hm hd).1⟩)
    (fun _ _ _ _ => trivial) hna

theorem na_step {c : Cfg} {s s' : Sys D} {act : Act} {a x : Nat} (h : Step c s act s')
    (hna : NA x (s.node a)) (hq : QuietTo s a x) : NA x (s'.node a) := by
  rcases h.node a with e | ⟨r, soup, hf, _, e⟩ <;> rw [e]
  · exact hna
  · exact na_fires hf hq hna

theorem na_run {c : Cfg} {a x : Nat} {s : Sys D} {acts : List Act} (hna : NA x (s.node a))
    (hq : QuietRun c a x s acts) : NA x ((run c s acts).node a) :=
  run_along (I := fun s => NA x (s.node a)) (fun s act h hq => na_step (step_rel c s act) h hq) hna
    (quietRun_iff.mp hq)

end HappyModel.C13
