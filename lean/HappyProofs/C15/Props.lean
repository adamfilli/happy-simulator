import HappyProofs.C15.PhasesLightJudge
import HappyProofs.C14.LsmFinal
/-!
"after crash and recovery every write whose write-ahead-log sync had completed before the crash is
readable with its latest durable value, no overwritten or deleted value is resurrected, no value that
was never written appears, and recovering twice gives the same state as recovering once."

A crash is `St.crash` applied to *any* state (so: between any two segments of any interleaving),
recovery is `St.recover`.
-/
namespace HappyModel.C15
open HappyModel.C14

/-- `durable_survive` at state level: a synced log entry that has not been truncated decides the
    recovered value of its key (the latest such entry wins), for every state.  That truncation only
    removes entries already in an installed SSTable is the run invariant `WInv` behind `durable_survive`. -/
theorem durable_survive_partial (s : St) (k : Key) (c : Cell)
    (h : lastFor k (durableLog s) none = some c) : s.crash.recover.abs k = c := by
  unfold St.abs
  rw [crash_recover_read, h]
  rfl

/-- `no_invention`, state level: a recovered value is the cell of a surviving log entry for that key
    or is held by an SSTable level -/
theorem no_invention (s : St) (k : Key) (c : Cell) (h : s.crash.recover.read k = some c) :
    (∃ e ∈ s.wal, e.seq ≤ s.synced ∧ e.key = k ∧ e.cell = c) ∨ lookLevels k s.levels = some c := by
  rw [crash_recover_read] at h
  cases hl : lastFor k (durableLog s) none with
  | none => rw [hl] at h; exact Or.inr h
  | some c' =>
    rw [hl] at h
    have hc : c' = c := by simpa using h
    subst hc
    rcases lastFor_mem k _ none c' hl with h0 | ⟨e, he, hk, hc⟩
    · cases h0
    · have := List.mem_filter.mp he
      exact Or.inl ⟨e, this.1, by simpa using this.2, hk, hc⟩

/-- the flush's truncation bound is below every pending sequence number and below every sequence
    number handed out later: entries not yet applied to a memtable are never truncated -/
theorem trunc_bound_lt_pending (s : St) (q : Nat) (h : q ∈ s.pending ∨ s.nextSeq ≤ q) (hq : 1 ≤ q) :
    truncBound s < q :=
  truncBound_lt s q h hq

/-! ### every workload, sync policy, schedule and crash index

`sysOf cfg oracle ops` is a fresh tree with the operations `ops` not yet started; `sched` is any schedule of
generator segments; the crash happens after `sched` (so: at any index of any longer schedule,
`crash_spec_at_every_index`).  Hypotheses: a WAL is configured (any sync policy `p`), at least two levels,
operation ids and put values pairwise distinct (the judge identifies a write by its value), and flushes
install in start order (`InOrder`: a hypothesis on the schedule, which the simulator does not guarantee, see its docstring
in C14's `LsmGhost`). -/

/-- `durable_survive` + `no_resurrection` + `no_invention`, in terms of the operations of the run: after
    `crash(); recover_from_crash()` a key reads `some v` only if `v` was written by a started `put k v` that no
    durable write to `k` (WAL sequence number ≤ `synced_up_to`) began after; it reads `None` only if no started
    write to `k` is durable, or some started `delete k` is superseded by no durable write -/
theorem crash_facts_run (cfg : Cfg) (p : Policy) (ops : List (Nat × OKind)) (oracle : List Bool) (sched : List Nat)
    (hw : cfg.wal = some p) (h2 : 2 ≤ cfg.maxLevels) (hd : DistinctPuts ops)
    (ho : InOrder cfg (sysOf cfg oracle ops) sched) :
    CrashFacts (startFor ops) ((sysOf cfg oracle ops).run cfg sched) := by
  obtain ⟨hL, g, hW⟩ := crash_invariants cfg p ops oracle sched hw h2 hd ho
  exact crash_facts hw hL hW

/-- `durable_survive`: if some started write to `k` is durable at the crash, the recovered value of `k` is the
    value of a put (or the absence left by a delete) that no durable write to `k` began after — the key is not
    lost and not rolled back behind a durable write -/
theorem durable_survive (cfg : Cfg) (p : Policy) (ops : List (Nat × OKind)) (oracle : List Bool) (sched : List Nat)
    (hw : cfg.wal = some p) (h2 : 2 ≤ cfg.maxLevels) (hd : DistinctPuts ops)
    (ho : InOrder cfg (sysOf cfg oracle ops) sched) (k : Key)
    (w0 : Frame) (hw0 : w0 ∈ ((sysOf cfg oracle ops).run cfg sched).frames) (c0 : Cell) (hb0 : w0.b ≠ none)
    (hs0 : startFor ops w0.id = .pStart k c0) (hdur : w0.seq0 ≤ ((sysOf cfg oracle ops).run cfg sched).st.synced) :
    ∃ w ∈ ((sysOf cfg oracle ops).run cfg sched).frames, w.b ≠ none ∧
      startFor ops w.id = .pStart k (((sysOf cfg oracle ops).run cfg sched).st.crash.recover.abs k) ∧
      NotSuperseded (startFor ops) ((sysOf cfg oracle ops).run cfg sched) k w := by
  have hC := crash_facts_run cfg p ops oracle sched hw h2 hd ho
  cases hx : ((sysOf cfg oracle ops).run cfg sched).st.crash.recover.abs k with
  | some v => exact hC.some k v hx
  | none =>
    rcases hC.none k hx with h | h
    · exact absurd hdur (h w0 hw0 c0 hb0 hs0)
    · exact h

/-- `no_resurrection`: a value that comes back after crash + recovery was not overwritten or deleted by a
    durable write that began after its own write had completed -/
theorem no_resurrection (cfg : Cfg) (p : Policy) (ops : List (Nat × OKind)) (oracle : List Bool) (sched : List Nat)
    (hw : cfg.wal = some p) (h2 : 2 ≤ cfg.maxLevels) (hd : DistinctPuts ops)
    (ho : InOrder cfg (sysOf cfg oracle ops) sched) (k : Key) (v : Nat)
    (hx : ((sysOf cfg oracle ops).run cfg sched).st.crash.recover.abs k = some v) :
    ∃ w ∈ ((sysOf cfg oracle ops).run cfg sched).frames, w.b ≠ none ∧ startFor ops w.id = .pStart k (some v) ∧
      ∀ w' ∈ ((sysOf cfg oracle ops).run cfg sched).frames, w'.id ≠ w.id → ∀ b' c', w'.b = some b' →
        startFor ops w'.id = .pStart k c' → w'.seq0 ≤ ((sysOf cfg oracle ops).run cfg sched).st.synced →
        ∀ e, w.e = some e → ¬ e < b' :=
  (crash_facts_run cfg p ops oracle sched hw h2 hd ho).some k v hx

/-- the model's own crash observations satisfy the whole Spec predicate (`durable_survive`,
    `no_resurrection`, `no_invention`, `recover_idempotent`), for every workload, sync policy and schedule -/
theorem crash_spec (cfg : Cfg) (p : Policy) (nkeys : Nat) (ops : List (Nat × OKind)) (oracle : List Bool) (sched : List Nat)
    (hw : cfg.wal = some p) (h2 : 2 ≤ cfg.maxLevels) (hd : DistinctPuts ops)
    (ho : InOrder cfg (sysOf cfg oracle ops) sched) :
    judgeCrash (wObsOf ops ((sysOf cfg oracle ops).run cfg sched)) ((sysOf cfg oracle ops).run cfg sched).st.synced
      (readsOf nkeys ((sysOf cfg oracle ops).run cfg sched).st.crash.recover)
      (readsOf nkeys ((sysOf cfg oracle ops).run cfg sched).st.crash.recover.recover)
      (readsOf nkeys ((sysOf cfg oracle ops).run cfg sched).st.crash.recover.recover.crash.recover) = none := by
  obtain ⟨hL, g, hW⟩ := crash_invariants cfg p ops oracle sched hw h2 hd ho
  exact judgeCrash_of_facts cfg nkeys ops _ _ hd hL (crash_facts hw hL hW)

/-- … and so for a crash at every index `i` of the schedule -/
theorem crash_spec_at_every_index (cfg : Cfg) (p : Policy) (nkeys : Nat) (ops : List (Nat × OKind)) (oracle : List Bool)
    (sched : List Nat) (hw : cfg.wal = some p) (h2 : 2 ≤ cfg.maxLevels) (hd : DistinctPuts ops)
    (ho : InOrder cfg (sysOf cfg oracle ops) sched) (i : Nat) :
    judgeCrash (wObsOf ops ((sysOf cfg oracle ops).run cfg (sched.take i)))
      ((sysOf cfg oracle ops).run cfg (sched.take i)).st.synced
      (readsOf nkeys ((sysOf cfg oracle ops).run cfg (sched.take i)).st.crash.recover)
      (readsOf nkeys ((sysOf cfg oracle ops).run cfg (sched.take i)).st.crash.recover.recover)
      (readsOf nkeys ((sysOf cfg oracle ops).run cfg (sched.take i)).st.crash.recover.recover.crash.recover) = none :=
  crash_spec cfg p nkeys ops oracle (sched.take i) hw h2 hd (inOrder_take ho i)

/-! ### durability judged from acknowledgements (`judgeCrashAck`)

`syncDoneRun` collects the operations that went on after a sync-latency yield; `syncsInOrderB` is the schedule
hypothesis that syncs complete in sequence order (every sync costs the same latency; the engine serves equal
times first-in first-out).  Under it nothing the clients were told exceeds `synced_up_to`. -/

/-- the model's own crash observations satisfy the acknowledgement-based Spec predicate as well: every write
    whose sync was seen to complete — and under `SyncEveryWrite` (`every = true`) every write that returned —
    counts as durable, for every workload, sync policy and schedule whose syncs complete in sequence order -/
theorem crash_spec_ack (cfg : Cfg) (p : Policy) (nkeys : Nat) (ops : List (Nat × OKind)) (oracle : List Bool)
    (sched : List Nat) (every : Bool) (hw : cfg.wal = some p) (h2 : 2 ≤ cfg.maxLevels) (hd : DistinctPuts ops)
    (ho : InOrder cfg (sysOf cfg oracle ops) sched) (hs : syncsInOrderB cfg (sysOf cfg oracle ops) sched = true)
    (he : every = true → cfg.wal = some .every) :
    judgeCrashAck every (wObsOf ops ((sysOf cfg oracle ops).run cfg sched))
      (syncDoneRun cfg (sysOf cfg oracle ops) [] sched).2 ((sysOf cfg oracle ops).run cfg sched).st.synced
      (readsOf nkeys ((sysOf cfg oracle ops).run cfg sched).st.crash.recover)
      (readsOf nkeys ((sysOf cfg oracle ops).run cfg sched).st.crash.recover.recover)
      (readsOf nkeys ((sysOf cfg oracle ops).run cfg sched).st.crash.recover.recover.crash.recover) = none := by
  unfold judgeCrashAck
  rw [Nat.max_eq_left (ack_bound_le_synced cfg ops oracle sched every hd hs he)]
  exact crash_spec cfg p nkeys ops oracle sched hw h2 hd ho

/-- … and so for a crash at every index `i` of the schedule -/
theorem crash_spec_ack_at_every_index (cfg : Cfg) (p : Policy) (nkeys : Nat) (ops : List (Nat × OKind))
    (oracle : List Bool) (sched : List Nat) (every : Bool) (hw : cfg.wal = some p) (h2 : 2 ≤ cfg.maxLevels)
    (hd : DistinctPuts ops) (ho : InOrder cfg (sysOf cfg oracle ops) sched)
    (hs : syncsInOrderB cfg (sysOf cfg oracle ops) sched = true) (he : every = true → cfg.wal = some .every) (i : Nat) :
    judgeCrashAck every (wObsOf ops ((sysOf cfg oracle ops).run cfg (sched.take i)))
      (syncDoneRun cfg (sysOf cfg oracle ops) [] (sched.take i)).2
      ((sysOf cfg oracle ops).run cfg (sched.take i)).st.synced
      (readsOf nkeys ((sysOf cfg oracle ops).run cfg (sched.take i)).st.crash.recover)
      (readsOf nkeys ((sysOf cfg oracle ops).run cfg (sched.take i)).st.crash.recover.recover)
      (readsOf nkeys ((sysOf cfg oracle ops).run cfg (sched.take i)).st.crash.recover.recover.crash.recover) = none :=
  crash_spec_ack cfg p nkeys ops oracle (sched.take i) every hw h2 hd (inOrder_take ho i)
    (syncsInOrderB_take sched _ hs i) he

/-- `no_invention` at every crash of every sequence of crashes, from any start system: a value read after
    `crash(); recover_from_crash()` is the cell of a synced entry of the log at that crash or is held by an
    SSTable level at that crash -/
theorem phase_no_invention (cfg : Cfg) (y0 : Sys) (ps : List (List Nat)) :
    ∀ o ∈ runPhases cfg y0 ps, ∀ k c, o.s1.read k = some c →
      (∃ e ∈ o.y.st.wal, e.seq ≤ o.y.st.synced ∧ e.key = k ∧ e.cell = c) ∨ lookLevels k o.y.st.levels = some c := by
  intro o ho k c h
  obtain ⟨y, sched, rfl⟩ := mem_runPhases ho
  exact no_invention _ k c h

theorem baselineRecs_replicate_none (n : Nat) : baselineRecs (List.replicate n none) = [] := by
  refine List.eq_nil_iff_forall_not_mem.mpr fun r hr => ?_
  obtain ⟨k, v, hg, _⟩ := mem_baselineRecs.mp hr
  rw [List.getElem?_replicate] at hg
  split at hg <;> cases hg

/-- with no earlier phase (`stale = []`, baseline all `none`) the phase judge is the single-crash judge -/
theorem judgePhase_first (every : Bool) (n : Nat) (ws : List WRec) (syncDone : List Nat) (synced : Nat)
    (r1 r2 r3 : List (Option Nat)) :
    judgePhase every (List.replicate n none) [] ws syncDone synced r1 r2 r3 =
      judgeCrashAck every ws syncDone synced r1 r2 r3 := by
  unfold judgePhase
  split
  · rename_i x k heq
    have hp := List.find?_some heq
    cases x <;> simp at hp
  · rw [baselineRecs_replicate_none, List.nil_append]

/-- the first phase of a multi-crash run satisfies the whole phase judge (`durable_survive`, `no_resurrection`,
    `no_invention`, `recover_idempotent`, acknowledgement-based durability): every workload, sync policy, schedule -/
theorem multi_crash_first_phase (cfg : Cfg) (p : Policy) (nkeys : Nat) (ops : List (Nat × OKind)) (oracle : List Bool)
    (sched : List Nat) (every : Bool) (hw : cfg.wal = some p) (h2 : 2 ≤ cfg.maxLevels) (hd : DistinctPuts ops)
    (ho : InOrder cfg (sysOf cfg oracle ops) sched) (hs : syncsInOrderB cfg (sysOf cfg oracle ops) sched = true)
    (he : every = true → cfg.wal = some .every) :
    judgePhase every (List.replicate nkeys none) [] (wObsOf ops (phaseOut cfg (sysOf cfg oracle ops) sched).y)
      (phaseOut cfg (sysOf cfg oracle ops) sched).done (phaseOut cfg (sysOf cfg oracle ops) sched).y.st.synced
      (readsOf nkeys (phaseOut cfg (sysOf cfg oracle ops) sched).s1)
      (readsOf nkeys (phaseOut cfg (sysOf cfg oracle ops) sched).s2)
      (readsOf nkeys (phaseOut cfg (sysOf cfg oracle ops) sched).s3) = none := by
  rw [judgePhase_first, phaseOut_s1, phaseOut_s2, phaseOut_s3, phaseOut_done, phaseOut_y]
  exact crash_spec_ack cfg p nkeys ops oracle sched every hw h2 hd ho hs he

theorem obsOf_nil_prev (ops : List (Nat × OKind)) (nkeys : Nat) (o : PhaseOut) :
    (obsOf ops nkeys [] o).ws = wObsOf ops o.y := by
  simp [obsOf]

theorem judgePhases_first {cfg : Cfg} (p : Policy) {nkeys : Nat} {ops : List (Nat × OKind)} {oracle : List Bool}
    {sched : List Nat} (rest : List (List Nat)) {every : Bool} (hw : cfg.wal = some p) (h2 : 2 ≤ cfg.maxLevels)
    (hd : DistinctPuts ops) (ho : InOrder cfg (sysOf cfg oracle ops) sched)
    (hs : syncsInOrderB cfg (sysOf cfg oracle ops) sched = true) (he : every = true → cfg.wal = some .every)
    (hlater : ∀ stale, judgePhases every nkeys (readsOf nkeys (phaseOut cfg (sysOf cfg oracle ops) sched).next.st) stale 1
      (obsOfPhases ops nkeys ((wObsOf ops (phaseOut cfg (sysOf cfg oracle ops) sched).next).map (·.id))
        (runPhases cfg (phaseOut cfg (sysOf cfg oracle ops) sched).next rest)) = none) :
    judgePhases every nkeys (List.replicate nkeys none) [] 0
      (obsOfPhases ops nkeys [] (runPhases cfg (sysOf cfg oracle ops) (sched :: rest))) = none := by
  have hj := multi_crash_first_phase cfg p nkeys ops oracle sched every hw h2 hd ho hs he
  rw [← obsOf_nil_prev ops nkeys] at hj
  rw [runPhases, obsOfPhases, judgePhases_cons _ (obsOf_r1_length ..) hj]
  exact hlater _

theorem ainv_first {cfg : Cfg} {ops : List (Nat × OKind)} {oracle : List Bool} {sched : List Nat}
    (hd : DistinctPuts ops) (hs : syncsInOrderB cfg (sysOf cfg oracle ops) sched = true) :
    AInv cfg (startFor ops) (phaseOut cfg (sysOf cfg oracle ops) sched).next
      (syncDoneRun cfg (sysOf cfg oracle ops) [] sched).2 := by
  rw [next_eq]
  exact ainv_recovered (ainv_sysOf_run cfg ops oracle sched hd.1 hs)

/-- the first element of `runPhases` is that phase, so the first step of `judgePhases` on the model's own
    observations of any multi-crash run passes -/
theorem multi_crash_first_of_runPhases (cfg : Cfg) (p : Policy) (nkeys : Nat) (ops : List (Nat × OKind))
    (oracle : List Bool) (sched : List Nat) (rest : List (List Nat)) (every : Bool) (hw : cfg.wal = some p)
    (h2 : 2 ≤ cfg.maxLevels) (hd : DistinctPuts ops) (ho : InOrder cfg (sysOf cfg oracle ops) sched)
    (hs : syncsInOrderB cfg (sysOf cfg oracle ops) sched = true) (he : every = true → cfg.wal = some .every) :
    (runPhases cfg (sysOf cfg oracle ops) (sched :: rest)).head? = some (phaseOut cfg (sysOf cfg oracle ops) sched) ∧
    judgePhases every nkeys (List.replicate nkeys none) [] 0
      ((obsOfPhases ops nkeys [] (runPhases cfg (sysOf cfg oracle ops) (sched :: rest))).take 1) = none :=
  ⟨rfl, judgePhases_first p [] hw h2 hd ho hs he fun _ => rfl⟩

def exSt : St :=
  { mem := [(0, some 5)], imms := [⟨2, [(1, some 6)]⟩], levels := [[⟨1, [(2, some 3), (1, some 4)]⟩], []],
    wal := [⟨3, 1, some 6⟩, ⟨4, 0, some 5⟩, ⟨5, 1, none⟩], nextSeq := 6, synced := 4, pending := [5] }

example : lastFor 1 (durableLog exSt) none = some (some 6) ∧ exSt.crash.recover.abs 1 = some 6 ∧
    exSt.crash.recover.abs 0 = some 5 ∧ exSt.crash.recover.abs 2 = some 3 ∧
    truncBound exSt = 4 ∧ (5 ∈ exSt.pending ∨ exSt.nextSeq ≤ 5) := by decide +kernel

example : (List.range 3).map exSt.crash.recover.recover.abs = (List.range 3).map exSt.crash.recover.abs := by decide +kernel

/-- non-vacuity of `crash_spec`: WAL with sync on every write, three puts and a delete, a flush that truncates
    the log, a compaction; all hypotheses hold, a sync has completed, the log has been truncated -/
def exOps : List (Nat × OKind) := [(1, .put 0 7), (2, .del 0), (3, .put 1 9), (4, .put 0 5)]
def exSched : List Nat := [1, 2, 1, 1, 1, 1, 2, 2, 2, 2, 3, 3, 3, 3, 3, 3, 4, 4]
def exCfg : Cfg := { memSize := 1, maxLevels := 2, strat := .sizeTiered 2, wal := some .every }

example : exCfg.wal = some .every ∧ 2 ≤ exCfg.maxLevels ∧ DistinctPuts exOps ∧
    inOrderB exCfg (sysOf exCfg [] exOps) exSched = true ∧
    1 ≤ ((sysOf exCfg [] exOps).run exCfg exSched).st.synced ∧
    ((sysOf exCfg [] exOps).run exCfg exSched).st.wal.length < ((sysOf exCfg [] exOps).run exCfg exSched).st.nextSeq - 1 := by
  refine ⟨rfl, by decide +kernel, ⟨by decide +kernel, by decide +kernel⟩, by decide +kernel⟩

/-- non-vacuity of `crash_spec_ack` on the same run: syncs complete in sequence order; the syncs of operations 1, 2, 3
    were seen to complete and these three writes returned; operation 4 is still at its sync-latency yield at the
    crash; the acknowledgement bound is positive and equals `synced_up_to` -/
example : syncsInOrderB exCfg (sysOf exCfg [] exOps) exSched = true ∧
    (syncDoneRun exCfg (sysOf exCfg [] exOps) [] exSched).2 = [3, 2, 1] ∧
    (wObsOf exOps ((sysOf exCfg [] exOps).run exCfg exSched)).map (fun w => (w.id, w.seq, w.e.isSome)) =
      [(1, 1, true), (2, 2, true), (3, 3, true), (4, 4, false)] ∧
    atSync ((sysOf exCfg [] exOps).run exCfg exSched) 4 = true ∧
    ackBound true (wObsOf exOps ((sysOf exCfg [] exOps).run exCfg exSched))
      (syncDoneRun exCfg (sysOf exCfg [] exOps) [] exSched).2 = 3 ∧
    ((sysOf exCfg [] exOps).run exCfg exSched).st.synced = 3 := by
  decide +kernel

/-- two writers whose syncs overlap: operation 2 waits at its sync-latency yield while operation 1's sync completes;
    the syncs complete in sequence order, both are in the done list, and a crash before operation 2's sync
    completes (index 5) has only operation 1 acknowledged -/
def exOps2 : List (Nat × OKind) := [(1, .put 0 7), (2, .put 1 9)]
def exSched2 : List Nat := [1, 2, 1, 2, 1, 2, 1, 2, 1, 2]

example : DistinctPuts exOps2 ∧ inOrderB exCfg (sysOf exCfg [] exOps2) exSched2 = true ∧
    syncsInOrderB exCfg (sysOf exCfg [] exOps2) exSched2 = true ∧
    atSync ((sysOf exCfg [] exOps2).run exCfg (exSched2.take 4)) 1 = true ∧
    atSync ((sysOf exCfg [] exOps2).run exCfg (exSched2.take 4)) 2 = true ∧
    (syncDoneRun exCfg (sysOf exCfg [] exOps2) [] (exSched2.take 5)).2 = [1] ∧
    ((sysOf exCfg [] exOps2).run exCfg (exSched2.take 5)).st.synced = 1 ∧
    (syncDoneRun exCfg (sysOf exCfg [] exOps2) [] exSched2).2 = [2, 1] ∧
    ((sysOf exCfg [] exOps2).run exCfg exSched2).st.synced = 2 := by
  refine ⟨⟨by decide +kernel, by decide +kernel⟩, by decide +kernel⟩

/-- the schedule hypothesis is not idle: when operation 2's sync completes before operation 1's, `synced_up_to` goes
    back to 1 although operation 2 (sequence number 2) was told its sync had completed — `syncsInOrderB` is false
    and the acknowledgement bound exceeds `synced_up_to` -/
example : syncsInOrderB exCfg (sysOf exCfg [] exOps2) [1, 2, 1, 2, 2, 1] = false ∧
    ((sysOf exCfg [] exOps2).run exCfg [1, 2, 1, 2, 2, 1]).st.synced = 1 ∧
    ackBound true (wObsOf exOps2 ((sysOf exCfg [] exOps2).run exCfg [1, 2, 1, 2, 2, 1]))
      (syncDoneRun exCfg (sysOf exCfg [] exOps2) [] [1, 2, 1, 2, 2, 1]).2 = 2 := by
  decide +kernel

/-- non-vacuity for sequences of crashes: batch sync policy, two phases.  Phase 1 completes operations 1 and 2
    (synced, flushed, log truncated) and runs operation 3 for two segments: its entry (sequence number 3) is
    appended but never synced, the crash drops it and `next_sequence` stays 4 — the log has a gap, and a crash
    in phase 2 leaves entries 4, 5.  Phase 2 runs operations 1001–1003 (a second flush and a compaction). -/
def mcCfg : Cfg := { memSize := 2, maxLevels := 2, strat := .sizeTiered 2, wal := some (.batch 2) }
def mcOps : List (Nat × OKind) :=
  [(1, .put 0 7), (2, .put 1 8), (3, .put 0 9), (1001, .put 1 11), (1002, .put 2 12), (1003, .put 0 13)]
def mcSched1 : List Nat := [1, 1, 1, 2, 2, 2, 2, 2, 3, 3]
def mcSched2 : List Nat := [1001, 1001, 1001, 1002, 1002, 1002, 1002, 1002, 1002, 1003, 1003, 1003]
def mcO1 : PhaseOut := phaseOut mcCfg (sysOf mcCfg [] mcOps) mcSched1
def mcObs : List PhaseObs := obsOfPhases mcOps 3 [] (runPhases mcCfg (sysOf mcCfg [] mcOps) [mcSched1, mcSched2])

example : mcO1.y.st.wal.map (·.seq) = [3] ∧ mcO1.y.st.synced = 2 ∧ mcO1.y.st.nextSeq = 4 ∧
    mcO1.s3.wal.map (·.seq) = [] ∧ mcO1.s3.nextSeq = 4 ∧ readsOf 3 mcO1.s3 = [some 7, some 8, none] ∧
    (phaseOut mcCfg mcO1.next (mcSched2.take 6)).s3.wal.map (·.seq) = [4, 5] ∧
    (phaseOut mcCfg mcO1.next (mcSched2.take 6)).s3.nextSeq = 6 := by
  decide +kernel

/-- the hypotheses of `multi_crash_spec_full` hold on this run (in their Boolean forms) -/
example : DistinctPuts mcOps ∧
    (phaseStarts mcCfg (sysOf mcCfg [] mcOps) [mcSched1, mcSched2]).all (fun ys =>
      inOrderB mcCfg ys.1 ys.2 && syncsInOrderB mcCfg ys.1 ys.2 &&
      ys.1.frames.all fun f => !ys.2.contains f.id || f.b.isNone) = true := by
  refine ⟨⟨by decide +kernel, by decide +kernel⟩, by decide +kernel⟩

example : mcObs.map (fun p => (p.ws.map fun w => (w.id, w.seq, w.e.isSome), p.syncDone, p.synced, p.r1)) =
    [([(1, 1, true), (2, 2, true), (3, 3, false)], [2], 2, [some 7, some 8, none]),
     ([(1001, 4, true), (1002, 5, true), (1003, 6, true)], [1002], 5, [some 7, some 11, some 12])] := by decide +kernel

/-- the Spec accepts the model on this lossy-first-crash run -/
example : judgePhases false 3 (List.replicate 3 none) [] 0 mcObs = none := by decide +kernel

/-- … and is not idle on it: the value lost at the first crash coming back after the second (9), the baseline
    value of key 0 lost, or the baseline value of key 1 back although a durable write replaced it, are rejected;
    the unsynced last write (13) may or may not survive -/
def mcTamper (r : List (Option Nat)) : List PhaseObs :=
  mcObs.take 1 ++ (mcObs.drop 1).map fun p => { p with r1 := r, r2 := r, r3 := r }

example : judgePhases false 3 (List.replicate 3 none) [] 0 (mcTamper [some 7, some 11, some 12]) = none ∧
    (judgePhases false 3 (List.replicate 3 none) [] 0 (mcTamper [some 9, some 11, some 12])).isSome = true ∧
    (judgePhases false 3 (List.replicate 3 none) [] 0 (mcTamper [none, some 11, some 12])).isSome = true ∧
    judgePhases false 3 (List.replicate 3 none) [] 0 (mcTamper [some 13, some 11, some 12]) = none ∧
    (judgePhases false 3 (List.replicate 3 none) [] 0 (mcTamper [some 7, some 8, some 12])).isSome = true := by
  decide +kernel

/-- `multi_crash_spec_full` under the extra hypothesis `NoInstall` for the phases after the first crash: the Spec
    predicate for sequences of crashes accepts the model's own observations of EVERY phase.  The first phase is
    arbitrary (flushes, truncation, compactions: `multi_crash_first_phase`); in the later phases memtables may be
    frozen (`flushStart`) but no flush install / compaction install segment executes, so the SSTable levels are
    constant and the log only grows (`PInv`, `later_phase_facts`, `later_phase_judge` in `PhasesLight*.lean`). -/
theorem multi_crash_spec_partial (cfg : Cfg) (p : Policy) (nkeys : Nat) (ops : List (Nat × OKind)) (oracle : List Bool)
    (ps : List (List Nat)) (every : Bool)
    (hw : cfg.wal = some p) (h2 : 2 ≤ cfg.maxLevels) (hd : DistinctPuts ops) (_hid : ∀ o ∈ ops, o.1 < baselineId 0)
    (hph : ∀ ys ∈ phaseStarts cfg (sysOf cfg oracle ops) ps,
      InOrder cfg ys.1 ys.2 ∧ syncsInOrderB cfg ys.1 ys.2 = true ∧ ∀ f ∈ ys.1.frames, f.id ∈ ys.2 → f.b = none)
    (hni : ∀ ys ∈ (phaseStarts cfg (sysOf cfg oracle ops) ps).tail, NoInstall cfg ys.1 ys.2)
    (he : every = true → cfg.wal = some .every) :
    judgePhases every nkeys (List.replicate nkeys none) [] 0
      (obsOfPhases ops nkeys [] (runPhases cfg (sysOf cfg oracle ops) ps)) = none := by
  cases ps with
  | nil => rfl
  | cons sched rest =>
    have h0 := hph _ (List.mem_cons_self ..)
    refine judgePhases_first p rest hw h2 hd h0.1 h0.2.1 he fun stale => ?_
    exact judgePhases_later nkeys every hw hd he rest _ _ stale 1 (kstart_first oracle sched hw h2 hd h0.1)
      (ainv_first hd h0.2.1) fun ys hys =>
        ⟨(hph ys (List.mem_cons_of_mem _ hys)).2.1, (hph ys (List.mem_cons_of_mem _ hys)).2.2, hni ys hys⟩

theorem phase_hyps_of_B {cfg : Cfg} {y : Sys} {ps : List (List Nat)}
    (h : (phaseStarts cfg y ps).all (fun ys =>
      inOrderB cfg ys.1 ys.2 && syncsInOrderB cfg ys.1 ys.2 &&
      ys.1.frames.all fun f => !ys.2.contains f.id || f.b.isNone) = true) :
    ∀ ys ∈ phaseStarts cfg y ps,
      InOrder cfg ys.1 ys.2 ∧ syncsInOrderB cfg ys.1 ys.2 = true ∧ ∀ f ∈ ys.1.frames, f.id ∈ ys.2 → f.b = none := by
  intro ys hys
  have h1 := List.all_eq_true.mp h ys hys
  simp only [Bool.and_eq_true] at h1
  obtain ⟨⟨a, b⟩, c⟩ := h1
  refine ⟨inOrder_of_B a, b, ?_⟩
  intro f hf hin
  have := List.all_eq_true.mp c f hf
  simp only [Bool.or_eq_true, Bool.not_eq_true', Option.isNone_iff_eq_none] at this
  rcases this with h | h
  · rw [← List.contains_iff_mem] at hin
    rw [hin] at h
    cases h
  · exact h

/-- non-vacuity of `multi_crash_spec_partial`: the lossy first crash of `mcSched1` (the entry of operation 3 is
    dropped, `next_sequence` stays 4), then a second phase in which operation 1002 freezes the full memtable
    (`flushStart`) but its install never runs before the second crash; operation 1003 writes into the new memtable
    without a sync.  All hypotheses hold; the theorem applies. -/
def mcSched2n : List Nat := [1001, 1001, 1001, 1002, 1002, 1002, 1002, 1003, 1003, 1003]

example : (phaseStarts mcCfg (sysOf mcCfg [] mcOps) [mcSched1, mcSched2n]).tail.all
      (fun ys => noInstallB mcCfg ys.1 ys.2) = true ∧
    (mcO1.next.run mcCfg mcSched2n).st.imms.length = 1 ∧
    (mcO1.next.run mcCfg mcSched2n).st.wal.map (·.seq) = [4, 5, 6] ∧
    (mcO1.next.run mcCfg mcSched2n).st.synced = 5 ∧
    readsOf 3 mcO1.s3 = [some 7, some 8, none] ∧
    readsOf 3 (phaseOut mcCfg mcO1.next mcSched2n).s3 = [some 7, some 11, some 12] := by
  decide +kernel

example : judgePhases false 3 (List.replicate 3 none) [] 0
    (obsOfPhases mcOps 3 [] (runPhases mcCfg (sysOf mcCfg [] mcOps) [mcSched1, mcSched2n])) = none := by
  refine multi_crash_spec_partial mcCfg (.batch 2) 3 mcOps [] [mcSched1, mcSched2n] false rfl (by decide +kernel)
    ⟨by decide +kernel, by decide +kernel⟩ (by decide +kernel) (phase_hyps_of_B (by decide +kernel)) ?_ (fun h => by cases h)
  intro ys hys
  have h : (phaseStarts mcCfg (sysOf mcCfg [] mcOps) [mcSched1, mcSched2n]).tail.all
      (fun ys => noInstallB mcCfg ys.1 ys.2) = true := by decide +kernel
  exact noInstall_of_B (List.all_eq_true.mp h ys hys)

end HappyModel.C15
