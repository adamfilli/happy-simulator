import HappyModel.C12.MPObs
import HappyProofs.Lib.Keyed
/-!
# C12 — Multi-Paxos / Flexible Paxos model, the base: `MP.step` is unfolded here only (the handler equations `step_start` …
and `step_touches`: what a handler can touch and send); `mem_obsStep`: what it shows to the judges
-/
namespace HappyModel.C12.MP
open HappyModel.C12.Spec

theorem lookup_filter_ne (l : List (Nat × Nat)) (k k' : Nat) (h : k' ≠ k) :
    lookup (l.filter (·.1 != k)) k' = lookup l k' := by
  unfold lookup
  rw [find?_filter_ne l h]

theorem lookup_setKV (l : List (Nat × Nat)) (k v k' : Nat) :
    lookup (setKV l k v) k' = if k' = k then some v else lookup l k' := by
  by_cases h : k' = k
  · subst h
    simp [lookup, setKV]
  · have hb : (k == k') = false := beq_false_of_ne (Ne.symm h)
    rw [if_neg h, ← lookup_filter_ne l k k' h]
    simp only [lookup, setKV, List.find?_cons, hb]

theorem getD_lookup_setKV (l : List (Nat × Nat)) (k v k' : Nat) :
    (lookup (setKV l k v) k').getD 0 = if k' = k then v else (lookup l k').getD 0 := by
  rw [lookup_setKV]
  split <;> rfl

theorem getNode_nodes {s s' : St} (e : s'.nodes = s.nodes) (i : Nat) : getNode s' i = getNode s i := by
  simp [getNode, e]

theorem getNode_setNode_ne (s : St) (p i : Nat) (x : Node) (h : i ≠ p) :
    getNode (setNode s p x) i = getNode s i := by
  simp only [getNode, setNode, List.getD_eq_getElem?_getD]
  rw [List.getElem?_set_ne (by omega)]

theorem getNode_setNode_eq (s : St) (p : Nat) (x : Node) (h : p < s.nodes.length) :
    getNode (setNode s p x) p = x := by
  simp [getNode, setNode, List.getD_eq_getElem?_getD, h]

theorem setNode_oob (s : St) (p : Nat) (x : Node) (h : ¬ p < s.nodes.length) : setNode s p x = s := by
  simp only [setNode, List.set_eq_of_length_le (Nat.le_of_not_lt h)]

theorem getNode_oob (s : St) (p : Nat) (h : ¬ p < s.nodes.length) : getNode s p = { ballot := p } := by
  simp [getNode, List.getD_eq_getElem?_getD, List.getElem?_eq_none (Nat.le_of_not_lt h)]

theorem getNode_setNode_self (s : St) (p : Nat) (x : Node) :
    getNode (setNode s p x) p = x ∨ getNode (setNode s p x) p = getNode s p := by
  by_cases h : p < s.nodes.length
  · exact Or.inl (getNode_setNode_eq s p x h)
  · exact Or.inr (by rw [setNode_oob s p x h])

theorem setNode_getNode (s : St) (p : Nat) : setNode s p (getNode s p) = s := by
  by_cases h : p < s.nodes.length
  · simp [setNode, getNode, List.getD_eq_getElem?_getD, h]
  · exact setNode_oob s p _ h

theorem init_nodes_length (n q1 q2 : Nat) (flex : Bool) : (init n q1 q2 flex).nodes.length = n := by
  simp [init]

theorem init_node (n q1 q2 : Nat) (flex : Bool) (p : Nat) : getNode (init n q1 q2 flex) p = { ballot := p } := by
  by_cases hp : p < n
  · simp [getNode, init, List.getD_eq_getElem?_getD, hp]
  · exact getNode_oob _ p (by rw [init_nodes_length]; exact hp)

theorem forall_getNode_setNode {P : Nat → Node → Prop} {s : St} (p : Nat) (x : Node)
    (h : ∀ i, P i (getNode s i)) (hx : P p x) (i : Nat) : P i (getNode (setNode s p x) i) := by
  by_cases hi : i = p
  · subst hi
    rcases getNode_setNode_self s i x with e | e <;> rw [e]
    · exact hx
    · exact h i
  · rw [getNode_setNode_ne s p i x hi]; exact h i

theorem applyFrom_frame : ∀ (es : List Entry) (nd : Node) (idx : Nat),
    ∃ ap fu, (applyFrom nd idx es).1 = { nd with applied := ap, futs := fu } := by
  intro es
  induction es with
  | nil => intro nd idx; exact ⟨nd.applied, nd.futs, rfl⟩
  | cons e es ih =>
    intro nd idx
    simp only [applyFrom]
    split
    · obtain ⟨ap, fu, h⟩ := ih { nd with applied := idx, futs := nd.futs.filter (·.1 != idx) } (idx + 1)
      exact ⟨ap, fu, h⟩
    · exact ih nd (idx + 1)

theorem advanceCommit_frame (nd : Node) (c : Nat) : ∃ ap fu, (advanceCommit nd c).1 =
    { nd with commit := if c ≤ nd.commit then nd.commit else min c nd.log.length, applied := ap, futs := fu } := by
  unfold advanceCommit
  split
  · exact ⟨nd.applied, nd.futs, rfl⟩
  · exact applyFrom_frame _ _ _

theorem advanceCommit_acks (nd : Node) (c : Nat) : (advanceCommit nd c).1.acks = nd.acks := by
  obtain ⟨ap, fu, e⟩ := advanceCommit_frame nd c
  rw [e]

theorem advanceCommit_p1 (nd : Node) (c : Nat) : (advanceCommit nd c).1.p1 = nd.p1 := by
  obtain ⟨ap, fu, e⟩ := advanceCommit_frame nd c
  rw [e]

theorem advanceCommit_isLeader (nd : Node) (c : Nat) : (advanceCommit nd c).1.isLeader = nd.isLeader := by
  obtain ⟨ap, fu, e⟩ := advanceCommit_frame nd c
  rw [e]

theorem advanceCommit_log (nd : Node) (c : Nat) : (advanceCommit nd c).1.log = nd.log := by
  obtain ⟨ap, fu, e⟩ := advanceCommit_frame nd c
  rw [e]

theorem advanceCommit_commit (nd : Node) (c : Nat) (h : nd.commit < c) :
    (advanceCommit nd c).1.commit = min c nd.log.length := by
  obtain ⟨ap, fu, e⟩ := advanceCommit_frame nd c
  rw [e]
  exact if_neg (by omega)

def ackOf (nd : Node) (k : Nat) : Nat := (lookup nd.acks k).getD 0

theorem assignSlots_frame (n : Nat) : ∀ (l : List (Nat × Nat)) (nd : Node), ∃ fu ak,
    assignSlots n nd l = { nd with log := nd.log ++ l.map (fun cf => (⟨nd.ballot / n, cf.1⟩ : Entry)),
                                   futs := fu, acks := ak } := by
  intro l
  induction l with
  | nil => intro nd; exact ⟨nd.futs, nd.acks, by simp [assignSlots]⟩
  | cons cf rest ih =>
    intro nd
    obtain ⟨fu, ak, h⟩ := ih (assignSlots n nd [cf])
    refine ⟨fu, ak, ?_⟩
    show assignSlots n (assignSlots n nd [cf]) rest = _
    rw [h]
    simp [assignSlots]

theorem assignSlots_ackOf (n : Nat) : ∀ (l : List (Nat × Nat)) (nd : Node) (k : Nat),
    ackOf (assignSlots n nd l) k =
      if nd.log.length < k ∧ k ≤ nd.log.length + l.length then 1 else ackOf nd k := by
  intro l
  induction l with
  | nil => intro nd k; rw [if_neg (by simp only [List.length_nil]; omega)]; rfl
  | cons cf rest ih =>
    intro nd k
    rw [assignSlots, ih]
    simp only [ackOf, getD_lookup_setKV, List.length_append, List.length_cons, List.length_nil]
    split <;> split <;> (try split) <;> first | rfl | omega

theorem assignSlots_futs (n : Nat) : ∀ (l : List (Nat × Nat)) (nd : Node) (k : Nat),
    lookup (assignSlots n nd l).futs k =
      if nd.log.length < k ∧ k ≤ nd.log.length + l.length then (l[k - nd.log.length - 1]?).map (·.2)
      else lookup nd.futs k := by
  intro l
  induction l with
  | nil => intro nd k; rw [if_neg (by simp only [List.length_nil]; omega)]; rfl
  | cons cf rest ih =>
    intro nd k
    rw [assignSlots, ih]
    simp only [lookup_setKV, List.length_append, List.length_cons, List.length_nil]
    by_cases h1 : k = nd.log.length + 1
    · subst h1
      rw [if_neg (by omega), if_pos rfl, if_pos (by omega)]
      simp
    · rw [if_neg h1]
      by_cases h2 : nd.log.length + 1 < k ∧ k ≤ nd.log.length + 1 + rest.length
      · rw [if_pos h2, if_pos (by omega)]
        have : k - nd.log.length - 1 = (k - (nd.log.length + 1) - 1) + 1 := by omega
        rw [this, List.getElem?_cons_succ]
      · rw [if_neg h2, if_neg (by omega)]

theorem becomeLeader_frame (s : St) (p : Nat) (nd : Node) : ∃ fu ak, (becomeLeader s p nd).1 =
    { nd with isLeader := true, leader := some p, pending := [], futs := fu, acks := ak,
              log := nd.log ++ nd.pending.map (fun cf => (⟨nd.ballot / s.n, cf.1⟩ : Entry)) } := by
  obtain ⟨fu, ak, e⟩ := assignSlots_frame s.n nd.pending { nd with isLeader := true, leader := some p }
  exact ⟨fu, ak, by simp only [becomeLeader, e]⟩

theorem becomeLeader_isLeader (s : St) (p : Nat) (nd : Node) : (becomeLeader s p nd).1.isLeader = true := by
  obtain ⟨fu, ak, e⟩ := becomeLeader_frame s p nd
  rw [e]

theorem becomeLeader_p1 (s : St) (p : Nat) (nd : Node) : (becomeLeader s p nd).1.p1 = nd.p1 := by
  obtain ⟨fu, ak, e⟩ := becomeLeader_frame s p nd
  rw [e]

theorem becomeLeader_log (s : St) (p : Nat) (nd : Node) :
    (becomeLeader s p nd).1.log = nd.log ++ nd.pending.map (fun cf => (⟨nd.ballot / s.n, cf.1⟩ : Entry)) := by
  obtain ⟨fu, ak, e⟩ := becomeLeader_frame s p nd
  rw [e]

theorem becomeLeader_ackOf (s : St) (p : Nat) (nd : Node) (k : Nat) : ackOf (becomeLeader s p nd).1 k =
    if nd.log.length < k ∧ k ≤ nd.log.length + nd.pending.length then 1 else ackOf nd k :=
  assignSlots_ackOf s.n nd.pending { nd with isLeader := true, leader := some p } k

theorem becomeLeader_futs (s : St) (p : Nat) (nd : Node) (k : Nat) : lookup (becomeLeader s p nd).1.futs k =
    if nd.log.length < k ∧ k ≤ nd.log.length + nd.pending.length then (nd.pending[k - nd.log.length - 1]?).map (·.2)
    else lookup nd.futs k :=
  assignSlots_futs s.n nd.pending { nd with isLeader := true, leader := some p } k

theorem becomeLeader_accept {s : St} {p : Nat} {nd : Node} {d b sl c ci : Nat}
    (h : Msg.accept d b sl c ci ∈ (becomeLeader s p nd).2) :
    1 ≤ sl ∧ ∃ e, (becomeLeader s p nd).1.log[sl - 1]? = some e ∧ e.cmd = c := by
  have e : (becomeLeader s p nd).2 = sendHeartbeat s p (becomeLeader s p nd).1 ++
      ((List.range ((becomeLeader s p nd).1.log.length - (becomeLeader s p nd).1.commit)).map
          (· + (becomeLeader s p nd).1.commit + 1)).flatMap (fun k =>
        match (becomeLeader s p nd).1.log[k - 1]? with
        | some e => (peers s.n p).map fun d =>
            Msg.accept d (becomeLeader s p nd).1.ballot k e.cmd (becomeLeader s p nd).1.commit
        | none => []) := rfl
  rw [e] at h
  rcases List.mem_append.1 h with h | h
  · simp [sendHeartbeat] at h
  · simp only [List.mem_flatMap, List.mem_map, List.mem_range] at h
    obtain ⟨k, ⟨i, _, rfl⟩, hk⟩ := h
    cases hl : (becomeLeader s p nd).1.log[i + (becomeLeader s p nd).1.commit + 1 - 1]? with
    | none => rw [hl] at hk; cases hk
    | some e' =>
      rw [hl] at hk
      simp only [List.mem_map] at hk
      obtain ⟨d', _, hd⟩ := hk
      cases hd
      exact ⟨by omega, e', hl, rfl⟩

/-- the record `start()` writes before it looks at the quorum: next ballot number, one phase-1 response (its own) -/
def startNode (s : St) (p : Nat) : Node :=
  { getNode s p with ballot := ((getNode s p).ballot / s.n + 1) * s.n + p,
                     p1 := setKV (getNode s p).p1 ((((getNode s p).ballot / s.n + 1) * s.n + p) / s.n) 1 }

theorem step_start (s : St) (p : Nat) : step s (.start p) =
    if s.q1 ≤ 1 then
      (setNode s p (becomeLeader s p (startNode s p)).1,
        (peers s.n p).map (fun d => Msg.prepare d (startNode s p).ballot) ++ (becomeLeader s p (startNode s p)).2)
    else (setNode s p (startNode s p), (peers s.n p).map fun d => Msg.prepare d (startNode s p).ballot) := rfl

theorem step_submit (s : St) (p c : Nat) : step s (.submit p c) =
    if (getNode s p).isLeader then
      (setNode { s with nfut := s.nfut + 1 } p (assignSlots s.n (getNode s p) [(c, s.nfut)]), [])
    else (setNode { s with nfut := s.nfut + 1 } p { getNode s p with pending := (getNode s p).pending ++ [(c, s.nfut)] }, []) := rfl

theorem step_prepare (s : St) (d b : Nat) : step s (.prepare d b) =
    if (getNode s d).ballot > b then (s, [Msg.nack (b % s.n) (getNode s d).ballot])
    else (setNode s d { getNode s d with ballot := b, isLeader := false },
          [Msg.promise (b % s.n) b (getNode s d).log (getNode s d).commit]) := rfl

theorem step_promise_none {s : St} {p bn : Nat} (h : lookup (getNode s p).p1 bn = none) :
    step s (.promise p bn) = (s, []) := by
  rw [step]; dsimp only; rw [h]

theorem step_promise_some {s : St} {p bn k : Nat} (h : lookup (getNode s p).p1 bn = some k) : step s (.promise p bn) =
    if k + 1 ≥ s.q1 then
      (setNode s p (becomeLeader s p { getNode s p with p1 := setKV (getNode s p).p1 bn (k + 1) }).1,
        (becomeLeader s p { getNode s p with p1 := setKV (getNode s p).p1 bn (k + 1) }).2)
    else (setNode s p { getNode s p with p1 := setKV (getNode s p).p1 bn (k + 1) }, []) := by
  rw [step]; dsimp only; rw [h]

/-- `_handle_accept` on the log of an acceptor that does not refuse: append, overwrite from a term mismatch on, or keep -/
def acceptLog (nd : Node) (slot t cmd : Nat) : Node :=
  if slot > nd.log.length then { nd with log := nd.log ++ [⟨t, cmd⟩] }
  else
    match nd.log[slot - 1]? with
    | some e =>
      if slot ≥ 1 ∧ e.term ≠ t then
        { nd with log := nd.log.take (slot - 1) ++ [⟨t, cmd⟩],
                  commit := if nd.commit ≥ slot then slot - 1 else nd.commit }
      else nd
    | none => nd

theorem acceptLog_frame (nd : Node) (slot t cmd : Nat) :
    ∃ lg c, acceptLog nd slot t cmd = { nd with log := lg, commit := c } := by
  unfold acceptLog
  split
  · exact ⟨_, nd.commit, rfl⟩
  · split
    · split
      · exact ⟨_, _, rfl⟩
      · exact ⟨nd.log, nd.commit, rfl⟩
    · exact ⟨nd.log, nd.commit, rfl⟩

theorem step_accept (s : St) (d src b slot cmd ci : Nat) : step s (.accept d src b slot cmd ci) =
    if b < (getNode s d).ballot then (s, [Msg.nack src (getNode s d).ballot])
    else
      ({ setNode s d (advanceCommit (acceptLog { getNode s d with ballot := b, leader := some (b % s.n) }
            slot (b / s.n) cmd) ci).1 with
          futRes := s.futRes ++ (advanceCommit (acceptLog { getNode s d with ballot := b, leader := some (b % s.n) }
            slot (b / s.n) cmd) ci).2 },
        [Msg.accepted src (b / s.n) slot]) := rfl

def ackNode (q2 : Nat) (nd : Node) (slot : Nat) : Node :=
  if (lookup nd.acks slot).getD 0 + 1 ≥ q2 ∧ slot > nd.commit then
    (advanceCommit { nd with acks := setKV nd.acks slot ((lookup nd.acks slot).getD 0 + 1) } slot).1
  else { nd with acks := setKV nd.acks slot ((lookup nd.acks slot).getD 0 + 1) }

theorem step_accepted_nodes (s : St) (p slot : Nat) :
    (step s (.accepted p slot)).1.nodes = (setNode s p (ackNode s.q2 (getNode s p) slot)).nodes := by
  rw [step]
  unfold ackNode
  split <;> rfl

theorem step_accepted_node (s : St) (p slot : Nat) (hp : p < s.nodes.length) :
    getNode (step s (.accepted p slot)).1 p = ackNode s.q2 (getNode s p) slot := by
  rw [getNode_nodes (step_accepted_nodes s p slot), getNode_setNode_eq s p _ hp]

theorem ackNode_log (q2 : Nat) (nd : Node) (slot : Nat) : (ackNode q2 nd slot).log = nd.log := by
  unfold ackNode
  split
  · rw [advanceCommit_log]
  · rfl

theorem ackNode_ackOf (q2 : Nat) (nd : Node) (slot j : Nat) :
    ackOf (ackNode q2 nd slot) j = if j = slot then ackOf nd slot + 1 else ackOf nd j := by
  unfold ackNode ackOf
  split
  · rw [advanceCommit_acks]; exact getD_lookup_setKV _ _ _ _
  · exact getD_lookup_setKV _ _ _ _

theorem ackNode_commit (q2 : Nat) (nd : Node) (slot : Nat) : (ackNode q2 nd slot).commit =
    if ackOf nd slot + 1 ≥ q2 ∧ slot > nd.commit then min slot nd.log.length else nd.commit := by
  unfold ackNode ackOf
  split
  · rename_i hc; exact advanceCommit_commit _ _ hc.2
  · rfl

theorem step_accepted_futRes (s : St) (p slot : Nat) :
    (step s (.accepted p slot)).1.futRes =
      if (lookup (getNode s p).acks slot).getD 0 + 1 ≥ s.q2 ∧ slot > (getNode s p).commit then
        s.futRes ++ (advanceCommit { getNode s p with acks := setKV (getNode s p).acks slot ((lookup (getNode s p).acks slot).getD 0 + 1) } slot).2
      else s.futRes := by
  by_cases hc : (lookup (getNode s p).acks slot).getD 0 + 1 ≥ s.q2 ∧ slot > (getNode s p).commit
  · simp only [step, if_pos hc]
  · simp only [step, if_neg hc, setNode]

theorem promise_quorum_becomes_leader (s : St) (p bn k : Nat) (hk : lookup (getNode s p).p1 bn = some k)
    (hq : k + 1 ≥ s.q1) :
    (step s (.promise p bn)).1 =
      setNode s p (becomeLeader s p { getNode s p with p1 := setKV (getNode s p).p1 bn (k + 1) }).1 := by
  rw [step_promise_some hk, if_pos hq]

theorem start_alone_becomes_leader (s : St) (p : Nat) (hq : s.q1 ≤ 1) :
    (step s (.start p)).1 = setNode s p (becomeLeader s p (startNode s p)).1 := by
  rw [step_start, if_pos hq]

theorem prepare_isLeader (s : St) (d b : Nat) (h : ¬ (getNode s d).ballot > b) :
    (getNode (step s (.prepare d b)).1 d).isLeader = false := by
  rw [step_prepare, if_neg h]
  -- an index outside the cluster reads the default record, which does not lead either
  by_cases hd : d < s.nodes.length
  · rw [getNode_setNode_eq s d _ hd]
  · rw [setNode_oob s d _ hd, getNode_oob s d hd]

def Act.isAccepted : Act → Bool
  | .accepted _ _ => true
  | _ => false

def Act.isPhase1 : Act → Bool
  | .start _ => true
  | .promise _ _ => true
  | _ => false

def Act.isSetup : Act → Bool
  | .submit _ _ => true
  | a => a.isPhase1

def p1Of (nd : Node) (k : Nat) : Nat := (lookup nd.p1 k).getD 0

theorem p1Of_setKV_le (nd : Node) (bn c k : Nat) (hc : c ≤ p1Of nd bn + 1) :
    (lookup (setKV nd.p1 bn c) k).getD 0 ≤ p1Of nd k + if k = bn then 1 else 0 := by
  rw [getD_lookup_setKV]
  split
  · rename_i h; subst h; exact hc
  · exact Nat.le_add_right _ _

/-- the ballot number whose phase-1 responses handler `a` counts -/
def p1Key (s : St) : Act → Nat
  | .start p => startNum s p
  | .promise _ bn => bn
  | _ => 0

/-- what handler `a`, run in state `s`, respects on the record it rewrites: outside phase 1 the phase-1 counters stay and
    leadership is not gained; a phase-1 response raises the counter of one ballot number (`p1Key`) by at most one and makes
    the node leader only if that counter reaches `q1`; outside `_handle_accepted` an acknowledgement counter stays or
    restarts at 1; the set-up handlers only append to the log -/
structure Keeps (s : St) (a : Act) (nd nd' : Node) : Prop where
  p1 : a.isPhase1 = false → nd'.p1 = nd.p1 ∧ (nd'.isLeader = true → nd.isLeader = true)
  cnt : a.isPhase1 = true → ∀ k, p1Of nd' k ≤ p1Of nd k + if k = p1Key s a then 1 else 0
  lead : a.isPhase1 = true → nd.isLeader = false → nd'.isLeader = true → s.q1 ≤ p1Of nd (p1Key s a) + 1
  acks : a.isAccepted = false → ∀ k, ackOf nd' k = ackOf nd k ∨ ackOf nd' k = 1
  log : a.isSetup = true → ∃ l, nd'.log = nd.log ++ l

theorem Keeps.refl (s : St) (a : Act) (nd : Node) : Keeps s a nd nd :=
  ⟨fun _ => ⟨rfl, id⟩, fun _ _ => Nat.le_add_right _ _, fun _ h h' => (by cases h.symm.trans h'), fun _ _ => Or.inl rfl,
   fun _ => ⟨[], (List.append_nil _).symm⟩⟩

/-- a phase-1 handler that ends in `_become_leader`, having set the counter of its ballot number to `c` -/
theorem Keeps.becomeLeader {s : St} {a : Act} (ha : a.isPhase1 = true) (p : Nat) {nd nd1 : Node} {c : Nat}
    (h : nd1.acks = nd.acks) (hl : nd1.log = nd.log) (h1 : nd1.p1 = setKV nd.p1 (p1Key s a) c)
    (hc : c ≤ p1Of nd (p1Key s a) + 1) (hq : s.q1 ≤ c) : Keeps s a nd (becomeLeader s p nd1).1 := by
  refine ⟨fun h' => (by rw [ha] at h'; cases h'), fun _ k => ?_, fun _ _ _ => Nat.le_trans hq hc, fun _ k => ?_,
    fun _ => ⟨_, hl ▸ becomeLeader_log s p nd1⟩⟩
  · unfold p1Of; rw [becomeLeader_p1, h1]; exact p1Of_setKV_le nd _ c k hc
  · rw [becomeLeader_ackOf]
    split
    · exact Or.inr rfl
    · exact Or.inl (by unfold ackOf; rw [h])

/-- a phase-1 handler that counts the response (counter now `c`) and waits for more -/
theorem Keeps.wait {s : St} {a : Act} (ha : a.isPhase1 = true) {nd : Node} {b c : Nat} (hc : c ≤ p1Of nd (p1Key s a) + 1) :
    Keeps s a nd { nd with ballot := b, p1 := setKV nd.p1 (p1Key s a) c } :=
  ⟨fun h' => (by rw [ha] at h'; cases h'), fun _ k => p1Of_setKV_le nd _ c k hc, fun _ h h' => (by cases h.symm.trans h'),
   fun _ _ => Or.inl rfl, fun _ => ⟨[], (List.append_nil _).symm⟩⟩

/-- a handler outside phase 1 and the set-up that leaves both kinds of counters alone; `hl`: it keeps `isLeader` (`id`) or
    clears it (`nofun`) -/
theorem Keeps.plain {s : St} {a : Act} {nd x : Node} (h1 : a.isPhase1 = false) (h2 : a.isSetup = false)
    (hp : x.p1 = nd.p1) (ha : x.acks = nd.acks) (hl : x.isLeader = true → nd.isLeader = true) : Keeps s a nd x :=
  { p1 := fun _ => ⟨hp, hl⟩, cnt := fun h => (by rw [h1] at h; cases h), lead := fun h => (by rw [h1] at h; cases h),
    acks := fun _ k => Or.inl (by unfold ackOf; rw [ha]), log := fun h => (by rw [h2] at h; cases h) }

theorem Keeps.advanceCommit {s : St} {a : Act} {nd nd1 : Node} (c : Nat) (h : Keeps s a nd nd1) :
    Keeps s a nd (advanceCommit nd1 c).1 := by
  obtain ⟨ap, fu, e⟩ := advanceCommit_frame nd1 c
  rw [e]
  exact ⟨h.p1, h.cnt, h.lead, h.acks, h.log⟩

/-- an `Accept` leaves a node only from `_become_leader` -/
def Sends (s : St) (a : Act) (x : Node) (ms : List Msg) : Prop :=
  ∀ d b sl c ci, Msg.accept d b sl c ci ∈ ms → a.isPhase1 = true ∧
    ∃ nd, x = (becomeLeader s (actor a) nd).1 ∧ Msg.accept d b sl c ci ∈ (becomeLeader s (actor a) nd).2

/-- handler `a` rewrites the record of its node to one that `Keeps` allows, draws future ids, resolves futures and sends
    what `Sends` allows; nothing else moves -/
def Touches (a : Act) (s : St) (r : St × List Msg) : Prop :=
  ∃ x nf fr, r.1 = { setNode s (actor a) x with nfut := nf, futRes := s.futRes ++ fr } ∧
    Keeps s a (getNode s (actor a)) x ∧ Sends s a x r.2

theorem Touches.refl {a : Act} (s : St) {ms : List Msg} (hm : Sends s a (getNode s (actor a)) ms) : Touches a s (s, ms) :=
  ⟨getNode s (actor a), s.nfut, [], by rw [setNode_getNode, List.append_nil], Keeps.refl s a _, hm⟩

theorem Touches.write {a : Act} (s : St) {x : Node} (nf : Nat) {ms : List Msg}
    (h : Keeps s a (getNode s (actor a)) x) (hm : Sends s a x ms) :
    Touches a s (setNode { s with nfut := nf } (actor a) x, ms) :=
  ⟨x, nf, [], by rw [List.append_nil]; rfl, h, hm⟩

theorem Touches.resolve {a : Act} (s : St) {x : Node} (fr : List (Nat × Nat × Nat)) {ms : List Msg}
    (h : Keeps s a (getNode s (actor a)) x) (hm : Sends s a x ms) :
    Touches a s ({ setNode s (actor a) x with futRes := s.futRes ++ fr }, ms) :=
  ⟨x, s.nfut, fr, rfl, h, hm⟩

theorem step_touches (s : St) (a : Act) : Touches a s (step s a) := by
  cases a with
  | start p =>
    rw [step_start]
    split
    · rename_i hq
      refine Touches.write s s.nfut (Keeps.becomeLeader rfl p rfl rfl rfl (Nat.le_add_left _ _) hq) fun d b sl c ci h => ?_
      rcases List.mem_append.1 h with h | h
      · simp at h
      · exact ⟨rfl, _, rfl, h⟩
    · exact Touches.write s s.nfut (Keeps.wait rfl (Nat.le_add_left _ _)) (by simp [Sends])
  | promise p bn =>
    cases hl : lookup (getNode s p).p1 bn with
    | none => rw [step_promise_none hl]; exact Touches.refl s nofun
    | some k =>
      have hc : k + 1 ≤ p1Of (getNode s p) bn + 1 := by rw [p1Of, hl]; exact Nat.le_refl _
      rw [step_promise_some hl]
      split
      · rename_i hq
        exact Touches.write s s.nfut (Keeps.becomeLeader rfl p rfl rfl rfl hc hq) fun d b sl c ci h => ⟨rfl, _, rfl, h⟩
      · exact Touches.write s s.nfut (Keeps.wait (b := (getNode s p).ballot) rfl hc) nofun
  | submit p c =>
    rw [step_submit]
    split
    · obtain ⟨fu, ak, e⟩ := assignSlots_frame s.n [(c, s.nfut)] (getNode s p)
      refine Touches.write s (s.nfut + 1) (.mk (p1 := fun _ => by rw [e]; exact ⟨rfl, id⟩) (cnt := nofun) (lead := nofun)
        (acks := fun _ k => ?_) (log := fun _ => ⟨_, congrArg Node.log e⟩)) nofun
      rw [assignSlots_ackOf]
      split
      · exact Or.inr rfl
      · exact Or.inl rfl
    · exact Touches.write s (s.nfut + 1) (.mk (p1 := fun _ => ⟨rfl, id⟩) (cnt := nofun) (lead := nofun)
        (acks := fun _ _ => Or.inl rfl) (log := fun _ => ⟨[], (List.append_nil _).symm⟩)) nofun
  | prepare d b =>
    rw [step_prepare]
    split
    · exact Touches.refl s (by simp [Sends])
    · exact Touches.write s s.nfut (Keeps.plain rfl rfl rfl rfl nofun) (by simp [Sends])
  | accept d src b slot cmd ci =>
    rw [step_accept]
    split
    · exact Touches.refl s (by simp [Sends])
    · refine Touches.resolve s _ (Keeps.advanceCommit ci ?_) (by simp [Sends])
      obtain ⟨lg, c, e⟩ := acceptLog_frame { getNode s d with ballot := b, leader := some (b % s.n) } slot (b / s.n) cmd
      rw [e]
      exact Keeps.plain rfl rfl rfl rfl id
  | accepted p slot =>
    -- the one handler that increments an acknowledgement counter (`acks` asks nothing of it)
    rw [step]
    split
    · exact Touches.resolve s _
        (Keeps.advanceCommit slot (.mk (p1 := fun _ => ⟨rfl, id⟩) (cnt := nofun) (lead := nofun) (acks := nofun) (log := nofun))) nofun
    · exact Touches.write s s.nfut (.mk (p1 := fun _ => ⟨rfl, id⟩) (cnt := nofun) (lead := nofun) (acks := nofun) (log := nofun)) nofun
  | hb d b ci =>
    rw [step]
    split
    · exact Touches.resolve s _ (Keeps.advanceCommit ci (Keeps.plain rfl rfl rfl rfl nofun)) nofun
    · exact Touches.refl s nofun
  | selfhb p b ci =>
    rw [step]
    split
    · split
      · exact Touches.refl s (by simp [Sends, sendHeartbeat])
      · exact Touches.refl s nofun
    · split
      · exact Touches.resolve s _ (Keeps.advanceCommit ci (Keeps.plain rfl rfl rfl rfl nofun)) nofun
      · exact Touches.refl s nofun
  | nack p b =>
    rw [step]
    split
    · exact Touches.write s s.nfut (Keeps.plain rfl rfl rfl rfl nofun) nofun
    · exact Touches.refl s nofun

theorem step_n (s : St) (a : Act) : (step s a).1.n = s.n := by
  obtain ⟨x, nf, fr, e, _⟩ := step_touches s a
  rw [e]; rfl

theorem step_q1 (s : St) (a : Act) : (step s a).1.q1 = s.q1 := by
  obtain ⟨x, nf, fr, e, _⟩ := step_touches s a
  rw [e]; rfl

theorem step_q2 (s : St) (a : Act) : (step s a).1.q2 = s.q2 := by
  obtain ⟨x, nf, fr, e, _⟩ := step_touches s a
  rw [e]; rfl

theorem step_nodes_length (s : St) (a : Act) : (step s a).1.nodes.length = s.nodes.length := by
  obtain ⟨x, nf, fr, e, _⟩ := step_touches s a
  rw [e]; exact List.length_set

theorem step_other_node (s : St) (a : Act) (p : Nat) (h : actor a ≠ p) : getNode (step s a).1 p = getNode s p := by
  obtain ⟨x, nf, fr, e, _⟩ := step_touches s a
  rw [e]; exact getNode_setNode_ne s (actor a) p x (Ne.symm h)

theorem step_futRes_mono (s : St) (a : Act) (x : Nat × Nat × Nat) (h : x ∈ s.futRes) : x ∈ (step s a).1.futRes := by
  obtain ⟨_, nf, fr, e, _⟩ := step_touches s a
  rw [e]; exact List.mem_append_left _ h

theorem step_keeps (s : St) (a : Act) (i : Nat) : Keeps s a (getNode s i) (getNode (step s a).1 i) := by
  obtain ⟨x, nf, fr, e, hk, _⟩ := step_touches s a
  rw [e]
  exact forall_getNode_setNode (P := fun i nd' => Keeps s a (getNode s i) nd') (actor a) x (fun i => Keeps.refl s a _) hk i

theorem accept_sent {s : St} {a : Act} {d b sl c ci : Nat} (h : Msg.accept d b sl c ci ∈ (step s a).2) :
    a.isPhase1 = true ∧ ∃ nd, Msg.accept d b sl c ci ∈ (becomeLeader s (actor a) nd).2 ∧
      (actor a < s.nodes.length → getNode (step s a).1 (actor a) = (becomeLeader s (actor a) nd).1) := by
  obtain ⟨x, nf, fr, e, _, hs⟩ := step_touches s a
  obtain ⟨hp, nd, hx, hm⟩ := hs d b sl c ci h
  exact ⟨hp, nd, hm, fun hlt => by rw [e, ← hx]; exact getNode_setNode_eq s _ x hlt⟩

theorem forall_getNode_step {P : Nat → Node → Prop} {s : St} (a : Act) (h : ∀ i, P i (getNode s i))
    (ha : P (actor a) (getNode (step s a).1 (actor a))) (i : Nat) : P i (getNode (step s a).1 i) := by
  by_cases hi : actor a = i
  · subst hi; exact ha
  · rw [step_other_node s a i hi]; exact h i

theorem run_append (s : St) (l1 l2 : List Act) : run s (l1 ++ l2) = run (run s l1) l2 := by
  induction l1 generalizing s with
  | nil => rfl
  | cons a as ih => exact ih (step s a).1

theorem run_cfg (s : St) (as : List Act) : (run s as).nodes.length = s.nodes.length ∧ (run s as).n = s.n ∧
    (run s as).q1 = s.q1 ∧ (run s as).q2 = s.q2 := by
  induction as generalizing s with
  | nil => exact ⟨rfl, rfl, rfl, rfl⟩
  | cons a as ih =>
    obtain ⟨h1, h2, h3, h4⟩ := ih (step s a).1
    exact ⟨h1.trans (step_nodes_length s a), h2.trans (step_n s a), h3.trans (step_q1 s a), h4.trans (step_q2 s a)⟩

theorem obsRun_append (s : St) (l1 l2 : List Act) : obsRun s (l1 ++ l2) = obsRun s l1 ++ obsRun (run s l1) l2 := by
  induction l1 generalizing s with
  | nil => rfl
  | cons a as ih =>
    show obsStep s a ++ obsRun (step s a).1 (as ++ l2) = (obsStep s a ++ obsRun (step s a).1 as) ++ _
    rw [ih, List.append_assoc]; rfl

theorem propOf_mem_accept {q : Nat} {ms : List Msg} {o : LogObs} (h : o ∈ ms.filterMap (propOf q)) :
    ∃ d b sl c ci, Msg.accept d b sl c ci ∈ ms ∧ o = .prop q b sl c := by
  simp only [List.mem_filterMap] at h
  obtain ⟨m, hm, hp⟩ := h
  cases m with
  | accept d b slot cmd ci =>
    simp only [propOf, Option.some.injEq] at hp
    exact ⟨d, b, slot, cmd, ci, hm, hp.symm⟩
  | _ => simp [propOf] at hp

theorem pcarsOf_mem (dst b : Nat) : ∀ (es : List Entry) (k : Nat) (o : LogObs),
    o ∈ pcarsOf dst b k es → ∃ k' c, o = .pcar dst b k' c := by
  intro es
  induction es with
  | nil => intro k o ho; cases ho
  | cons e es ih =>
    intro k o ho
    simp only [pcarsOf, List.mem_cons] at ho
    rcases ho with rfl | ho
    · exact ⟨k, e.cmd, rfl⟩
    · exact ih _ o ho

inductive Shown (s : St) : Act → LogObs → Prop
  | prop {a : Act} {d b sl c ci : Nat} : Msg.accept d b sl c ci ∈ (step s a).2 → Shown s a (.prop (actor a) b sl c)
  | prom {a : Act} (bn : Nat) (l0 l1 : Bool) : a.isPhase1 = true → Shown s a (.prom (actor a) bn l0 l1)
  | pled {d b : Nat} : ¬ (getNode s d).ballot > b →
      Shown s (.prepare d b) (.pled d b (getNode (step s (.prepare d b)).1 d).isLeader)
  | pcar {d b : Nat} (k c : Nat) : ¬ (getNode s d).ballot > b → Shown s (.prepare d b) (.pcar (b % s.n) b k c)
  | asg {p c : Nat} : (getNode s p).isLeader = true → Shown s (.submit p c) (.asg p ((getNode s p).log.length + 1))
  | ack {p sl : Nat} (c0 c1 b c : Nat) : Shown s (.accepted p sl) (.ack p sl c0 c1 b c)
  | acc {d src b sl c ci : Nat} : Shown s (.accept d src b sl c ci) (.acc d b sl c)

theorem mem_obsStep {s : St} {a : Act} {o : LogObs} (h : o ∈ obsStep s a) : Shown s a o := by
  have props : ∀ {o}, o ∈ (step s a).2.filterMap (propOf (actor a)) → Shown s a o := by
    intro o h
    obtain ⟨_, _, _, _, _, hm, rfl⟩ := propOf_mem_accept h
    exact .prop hm
  cases a with
  | start p =>
    rcases List.mem_cons.1 h with rfl | h
    · exact .prom _ _ _ rfl
    · exact props h
  | promise p bn =>
    rcases List.mem_cons.1 h with rfl | h
    · exact .prom _ _ _ rfl
    · exact props h
  | prepare d b =>
    simp only [obsStep] at h
    split at h
    · cases h
    · rename_i hgt
      rcases List.mem_cons.1 h with rfl | h
      · exact .pled hgt
      · obtain ⟨k, c, rfl⟩ := pcarsOf_mem _ _ _ _ o h
        exact .pcar k c hgt
  | submit p c =>
    simp only [obsStep] at h
    split at h
    · rename_i hl; cases List.mem_singleton.1 h; exact .asg hl
    · cases h
  | accepted p slot => cases List.mem_singleton.1 h; exact .ack _ _ _ _
  | accept d src b slot cmd ci =>
    simp only [obsStep] at h
    split at h
    · cases h
    · cases List.mem_singleton.1 h; exact .acc
  | hb d b ci => exact props h
  | selfhb p b ci => exact props h
  | nack p b => exact props h

theorem phase1_obs (s : St) (a : Act) (ha : a.isPhase1 = true) :
    obsStep s a = .prom (actor a) (p1Key s a) (getNode s (actor a)).isLeader (getNode (step s a).1 (actor a)).isLeader ::
      (step s a).2.filterMap (propOf (actor a)) := by
  cases a <;> first | rfl | cases ha

theorem checkAll_of_forall (ok : List LogObs → LogObs → Bool) : ∀ (l hist : List LogObs),
    (∀ o ∈ l, ∀ h, ok h o = true) → checkAll ok hist l = true := by
  intro l
  induction l with
  | nil => intro _ _; rfl
  | cons o os ih =>
    intro hist hl
    simp only [checkAll, Bool.and_eq_true]
    exact ⟨hl o List.mem_cons_self hist, ih _ (fun o' ho' => hl o' (List.mem_cons_of_mem _ ho'))⟩

theorem checkAll_append (ok : List LogObs → LogObs → Bool) : ∀ (l1 l2 hist : List LogObs),
    checkAll ok hist (l1 ++ l2) = (checkAll ok hist l1 && checkAll ok (l1.reverse ++ hist) l2) := by
  intro l1
  induction l1 with
  | nil => intro l2 hist; simp [checkAll]
  | cons o os ih =>
    intro l2 hist
    simp only [List.cons_append, checkAll, ih, List.reverse_cons, List.append_assoc, List.nil_append,
      Bool.and_assoc]

/-- a clause `ok (q s)`, `q` a constant of the configuration, holds along a whole run if an invariant tying the state to the
    observed history carries it through every handler -/
theorem checkAll_obsRun {ok : Nat → List LogObs → LogObs → Bool} {q : St → Nat} (hq : ∀ s a, q (step s a).1 = q s)
    {I : St → List LogObs → Prop} {A : Act → Prop}
    (hstep : ∀ s a hist, A a → I s hist →
      checkAll (ok (q s)) hist (obsStep s a) = true ∧ I (step s a).1 ((obsStep s a).reverse ++ hist)) :
    ∀ (as : List Act) (s : St) (hist : List LogObs), (∀ a ∈ as, A a) → I s hist →
      checkAll (ok (q s)) hist (obsRun s as) = true := by
  intro as
  induction as with
  | nil => intro s hist _ _; rfl
  | cons a as ih =>
    intro s hist hA h
    obtain ⟨h1, h2⟩ := hstep s a hist (hA a List.mem_cons_self) h
    simp only [obsRun, checkAll_append, Bool.and_eq_true]
    exact ⟨h1, hq s a ▸ ih _ _ (fun a' ha' => hA a' (List.mem_cons_of_mem _ ha')) h2⟩

end HappyModel.C12.MP
