import HappyProofs.C05.Observe
import HappyProofs.C05.Instant
import HappyModel.C05.Stateful
/-!
One window of one partition (and the whole sequential run) is an execution of the abstract system of
`Trace.lean`: the deliveries the engine appends to its log are a valid abstract execution from any
abstract state that agrees with the partition on the entities it owns and whose pending multiset is
the partition's heap and outbox plus a remainder `R` (what the other partitions hold).
-/
namespace HappyModel.C05

variable {τ : Type}

/-- the engine handler of an entity-local handler that does not look at creation indices -/
def liftP (hE : EHandler τ) : Handler (Nat → τ) := liftLocal (fun s e => hE s (proj e))

theorem liftP_fst (hE : EHandler τ) (st : Nat → τ) (e : Ev) (x : Nat) :
    (liftP hE st e).1 x = if x = e.tgt then (hE (st e.tgt) (proj e)).1 else st x := rfl

theorem liftP_snd (hE : EHandler τ) (st : Nat → τ) (e : Ev) :
    (liftP hE st e).2 = (hE (st e.tgt) (proj e)).2 := rfl

structure PSim (own : Nat → Prop) (s : AS τ) (p : Part (Nat → τ)) (R : List PEv) : Prop where
  st : ∀ x, own x → s.st x = p.st x
  pend : s.pend.Perm ((pendOf p).map proj ++ R)

theorem deliver_sim (hE : EHandler τ) (r : Nat → Route) (own : Nat → Prop) (s : AS τ)
    (p : Part (Nat → τ)) (R : List PEv) (m : Ev) (rest : List Ev)
    (hp : p.heap.Perm (m :: rest)) (hown : own m.tgt) (sim : PSim own s p R)
    (hnb : (deliver (liftP hE) r p m rest).bad = false) :
    proj m ∈ s.pend ∧ PSim own (astep hE s (proj m)) (deliver (liftP hE) r p m rest) R := by
  have hmem : proj m ∈ s.pend := by
    apply sim.pend.mem_iff.mpr
    simp only [pendOf, List.map_append, List.mem_append, List.mem_map]
    exact Or.inl (Or.inl ⟨m, hp.mem_iff.mpr (by simp), rfl⟩)
  have hst : s.st m.tgt = p.st m.tgt := sim.st _ hown
  refine ⟨hmem, ?_, ?_⟩
  · intro x hx
    simp only [astep, deliver, liftP_fst]
    show (if x = m.tgt then _ else _) = _
    by_cases h1 : x = m.tgt
    · simp only [h1, if_true]; show (hE (s.st m.tgt) (proj m)).1 = _; rw [hst]
    · simp only [h1, if_false]; exact sim.st x hx
  · -- `deliver_pend` without indices, and `proj m` taken off both sides
    have hems : emitAt (proj m).time (hE (s.st (proj m).tgt) (proj m)).2
        = (mkEvents m.time p.ctr (liftP hE p.st m).2).map proj := by
      rw [liftP_snd, ← hst, proj_mkEvents]; rfl
    have P : (s.pend ++ (mkEvents m.time p.ctr (liftP hE p.st m).2).map proj).Perm
        (proj m :: ((pendOf (deliver (liftP hE) r p m rest)).map proj ++ R)) := by
      rw [List.perm_iff_count]
      intro a
      have c1 := sim.pend.count_eq a
      have c2 := ((deliver_pend p m rest hp hnb).map proj).count_eq a
      simp only [List.map_append, List.map_cons, List.count_cons, List.count_append] at c1 c2 ⊢
      omega
    have := P.erase (proj m)
    rw [List.erase_append_left _ hmem, List.erase_cons_head] at this
    simpa only [astep, hems] using this

theorem runWin_sim (hE : EHandler τ) (r : Nat → Route) (own : Nat → Prop)
    (hown : ∀ ev : Ev, r ev.tgt = .loc → own ev.tgt) (b : Nat) (strict : Bool) (we : Nat) :
    ∀ (n : Nat) (p : Part (Nat → τ)) (s : AS τ) (R : List PEv),
      WInv r (fun e => own e.tgt) b p → PSim own s p R →
      (runWin (liftP hE) r strict we n p).bad = false →
      ∃ seg, Valid hE s seg
        ∧ PSim own (arun hE s seg) (runWin (liftP hE) r strict we n p) R
        ∧ (runWin (liftP hE) r strict we n p).log.reverse.map proj = p.log.reverse.map proj ++ seg
        ∧ (∀ d ∈ seg, own d.tgt)
        -- only the sequential run (no other partition's remainder `R`, no outbox) is min-first
        ∧ (R = [] → (∀ t, r t ≠ .out) → MinFirst hE s seg) := by
  intro n
  induction n with
  | zero =>
    intro p s R _ sim _
    exact ⟨[], trivial, sim, by simp [runWin], by simp, fun _ _ => trivial⟩
  | succ n ih =>
    intro p s R winv sim hnb
    simp only [runWin] at hnb ⊢
    cases hs : stepWin (liftP hE) r strict we p with
    | none => exact ⟨[], trivial, sim, by simp, by simp, fun _ _ => trivial⟩
    | some p1 =>
      simp only [hs] at hnb ⊢
      have winv1 := winv.step (h := liftP hE) hown hs
      obtain ⟨m, rest, hp, hmmin, _, _, rfl⟩ := winv.delivers hs
      have hmem : m ∈ p.heap := hp.symm.subset List.mem_cons_self
      -- a raised router stops the loop, so the final state would be this one
      have hb1 : (deliver (liftP hE) r p m rest).bad = false := by
        cases hbb : (deliver (liftP hE) r p m rest).bad with
        | false => rfl
        | true => rw [runWin_bad_stuck n hbb] at hnb; rw [hbb] at hnb; exact hnb
      obtain ⟨hd, sim1⟩ := deliver_sim hE r own s p R _ _ hp (winv.owned _ hmem) sim hb1
      obtain ⟨seg, hv, sim2, hlog, hsegown, hmin⟩ := ih _ _ R winv1 sim1 hnb
      refine ⟨proj m :: seg, ⟨hd, hv⟩, sim2, ?_, ?_, ?_⟩
      · rw [hlog]; simp [deliver]
      · intro d hd'
        simp only [List.mem_cons] at hd'
        rcases hd' with rfl | hd'
        · exact winv.owned _ hmem
        · exact hsegown d hd'
      · intro hR hno
        refine ⟨?_, hmin hR hno⟩
        intro e he
        have he' := sim.pend.mem_iff.mp he
        have hob : p.outbox = [] := by
          rw [List.eq_nil_iff_forall_not_mem]
          intro y hy
          exact hno _ (winv.out y hy).2.2
        simp only [pendOf, hR, hob, List.map_nil, List.append_nil, List.mem_map] at he'
        obtain ⟨e0, he0, rfl⟩ := he'
        exact hmmin e0 he0

theorem arun_st_other (hE : EHandler τ) (x : Nat) (ds : List PEv) : ∀ s : AS τ,
    (∀ d ∈ ds, d.tgt ≠ x) → (arun hE s ds).st x = s.st x := by
  induction ds with
  | nil => intro s _; rfl
  | cons d ds ih =>
    intro s h
    simp only [arun]
    rw [ih _ (fun e he => h e (by simp [he]))]
    have := h d (by simp)
    simp only [astep]
    rw [if_neg (Ne.symm this)]

theorem LogInv.initCtr (pid start : Nat) (st : Nat → τ) (evs : List Ev) (n0 : Nat) :
    LogInv (Part.initCtr pid start st evs n0) :=
  .of_log_nil rfl

/-- `n0` = the creation counter the run starts with (`0`: `Part.init`; the code: the number of pre-run
    events) -/
def seqTrace (hE : EHandler τ) (T fuel start : Nat) (st : Nat → τ) (evs : List Ev) (n0 : Nat) : List PEv :=
  ((runSeq (liftP hE) T fuel (Part.initCtr 0 start st evs n0)).log.reverse.map proj).filter (fun e => e.time ≤ T)

/-- `p` only names the sequential run, which the statement mentions six times -/
theorem seq_sim (hE : EHandler τ) (T fuel start : Nat) (st : Nat → τ) (evs : List Ev) (n0 : Nat)
    (hstart : ∀ e ∈ evs, start ≤ e.time) (p : Part (Nat → τ))
    (hp : p = runSeq (liftP hE) T fuel (Part.initCtr 0 start st evs n0)) :
    Valid hE ⟨st, evs.map proj⟩ (p.log.reverse.map proj)
    ∧ MinFirst hE ⟨st, evs.map proj⟩ (p.log.reverse.map proj)
    ∧ PSim (fun _ => True) (arun hE ⟨st, evs.map proj⟩ (p.log.reverse.map proj)) p []
    ∧ WInv seqRoute (fun _ => True) start p ∧ p.bad = false := by
  subst hp
  have w0 : WInv seqRoute (fun _ => True) start (Part.initCtr 0 start st evs n0) :=
    ⟨by simpa [Part.initCtr, Part.init] using hstart, by simpa [Part.initCtr, Part.init] using hstart,
     fun _ _ => trivial, rfl, by simp [Part.initCtr, Part.init]⟩
  have sim0 : PSim (fun _ => True) (⟨st, evs.map proj⟩ : AS τ) (Part.initCtr 0 start st evs n0) [] :=
    ⟨fun _ _ => rfl, by simp [pendOf, Part.initCtr, Part.init]⟩
  have hb : (runSeq (liftP hE) T fuel (Part.initCtr 0 start st evs n0)).bad = false := seq_bad_false fuel rfl
  obtain ⟨seg, hv, sim, hlog, _, hmin⟩ := runWin_sim hE seqRoute (fun _ => True) (fun _ _ => trivial)
    start false T fuel (Part.initCtr 0 start st evs n0) ⟨st, evs.map proj⟩ [] w0 sim0 hb
  have hseg : (runSeq (liftP hE) T fuel (Part.initCtr 0 start st evs n0)).log.reverse.map proj = seg := by
    have : (runSeq (liftP hE) T fuel (Part.initCtr 0 start st evs n0)).log.reverse.map proj
        = (Part.initCtr 0 start st evs n0).log.reverse.map proj ++ seg := hlog
    simpa [Part.initCtr, Part.init] using this
  rw [hseg]
  exact ⟨hv, hmin rfl (fun t => by simp [seqRoute]), sim, WInv.run (fun _ _ => trivial) fuel w0, hb⟩

theorem seq_exec (hE : EHandler τ) (T fuel start : Nat) (st : Nat → τ) (evs : List Ev) (n0 : Nat)
    (hstart : ∀ e ∈ evs, start ≤ e.time)
    (hhalt : Halted (liftP hE) seqRoute false T (runSeq (liftP hE) T fuel (Part.initCtr 0 start st evs n0))) :
    Valid hE ⟨st, evs.map proj⟩ (seqTrace hE T fuel start st evs n0)
    ∧ MinFirst hE ⟨st, evs.map proj⟩ (seqTrace hE T fuel start st evs n0)
    ∧ (∀ e ∈ seqTrace hE T fuel start st evs n0, e.time ≤ T)
    ∧ (∀ e ∈ (arun hE ⟨st, evs.map proj⟩ (seqTrace hE T fuel start st evs n0)).pend, T < e.time) := by
  obtain ⟨hv, hmin, sim, wfin, hb⟩ := seq_sim hE T fuel start st evs n0 hstart _ rfl
  have hfin : ∀ e ∈ (arun hE ⟨st, evs.map proj⟩
      ((runSeq (liftP hE) T fuel (Part.initCtr 0 start st evs n0)).log.reverse.map proj)).pend, T < e.time := by
    intro e he
    have h1 := sim.pend.mem_iff.mp he
    simp only [pendOf, seq_outbox_nil wfin, List.map_nil, List.append_nil, List.mem_map] at h1
    obtain ⟨e0, he0, rfl⟩ := h1
    exact halted_loose_heap_gt hhalt hb wfin.geClock e0 he0
  obtain ⟨h1, h2⟩ := prefix_exec hE (Nat.le_refl T) hv (minFirst_tgtSorted hE hv hmin) hfin
  exact ⟨h1, minFirst_upToT hE T hv hmin, fun e he => (mem_upToT.mp he).2, h2⟩

end HappyModel.C05
