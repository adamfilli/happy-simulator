import HappyProofs.C05.Potential
import HappyProofs.C05.Observe
/-!
`par_eq_seq_partial`, system level: the sum of the partitions' potentials (`sysPot`) is invariant under
EXECUTE (each window, `PInv`) and EXCHANGE (conservation), hence under the whole coordinator loop
(`SInv`); at the end nothing with `time ≤ T` is pending, so what was delivered up to `T` is the
delivery trees `F` of the initial events — the same multiset the sequential engine delivers.
Per-entity logs are sorted by time; hence they are equal up to the order inside one timestamp.
-/
namespace HappyModel.C05

variable {σ : Type} {em : PEv → List Emit} {rank : PEv → Nat} {T : Nat}

def sysPot (em : PEv → List Emit) (rank : PEv → Nat) (T : Nat) (ps : List (Part σ)) : List PEv :=
  ps.flatMap (pot em rank T)

def sysLog (T : Nat) (ps : List (Part σ)) : List PEv := ps.flatMap (logPart T)

theorem F_flatMap (g : Part σ → List Ev) (ps : List (Part σ)) :
    ps.flatMap (fun p => F em rank T (g p)) = F em rank T (ps.flatMap g) := by
  induction ps with
  | nil => simp [F]
  | cons p ps ih => simp [List.flatMap_cons, F_append, ih]

theorem sysPot_split (ps : List (Part σ)) :
    (sysPot em rank T ps).Perm (sysLog T ps ++ F em rank T (sysPend ps)) := by
  unfold sysPot sysLog
  rw [sysPend_eq, ← F_flatMap, show pot em rank T = fun p => logPart T p ++ F em rank T (pendOf p) from
    funext pot_eq]
  exact flatMap_append_fun ps _ _

theorem sysLog_exchange (c : Cfg) (ps : List (Part σ)) : sysLog T (exchange c ps) = sysLog T ps := by
  unfold sysLog exchange
  generalize allMsgs ps = msgs
  induction ps with
  | nil => rfl
  | cons p ps ih => simp [List.flatMap_cons, inject, logPart, ih]

theorem sysPot_exchange (c : Cfg) (ps : List (Part σ)) (hn : (ps.map (·.pid)).Nodup)
    (hd : ∀ m ∈ allMsgs ps, c.dest m ∈ ps.map (·.pid)) :
    (sysPot em rank T (exchange c ps)).Perm (sysPot em rank T ps) := by
  refine (sysPot_split _).trans (List.Perm.trans ?_ (sysPot_split ps).symm)
  rw [sysLog_exchange]
  exact List.Perm.append (List.Perm.refl _) (F_perm em rank T (sysPend_exchange c ps hn hd))

structure SInv (em : PEv → List Emit) (rank : PEv → Nat) (T : Nat) (c : Cfg) (ids : List Nat)
    (P0 : List PEv) (b : Nat) (ps : List (Part σ)) : Prop where
  safe : Safe c b ps
  logOwned : ∀ p ∈ ps, ∀ d ∈ p.log, Owns c p.pid d
  pot : (sysPot em rank T ps).Perm P0
  pids : ps.map (·.pid) = ids

theorem SInv.window {h : Handler σ} {c : Cfg} {ids : List Nat} {P0 : List PEv} {fuel b we w : Nat}
    {ps : List (Part σ)} (hr : Ranked em rank) (hed : EventDetermined h em)
    (hids : ids.Nodup) (hlinks : ∀ l ∈ c.links, l.dst ∈ ids)
    (hw : WindowLeLat c w) (hb : b ≤ we) (hwe : we ≤ b + w)
    (inv : SInv em rank T c ids P0 b ps) (ok : WindowOk h c fuel we ps) :
    SInv em rank T c ids P0 we (oneWindow h c true fuel we ps) := by
  have ran := execAll_ran hw hb inv.safe ok
  have hpin : ∀ q ∈ ps, PInv em rank T (c.route q.pid) (Owns c q.pid) b q
      (runWin h (c.route q.pid) true we fuel q) := fun q hq =>
    PInv.run hr hed (route_loc_owns c q.pid) fuel (PInv.refl (inv.safe.inv q hq) (inv.logOwned q hq))
  have hranpids : (execAll h c true fuel we ps).map (·.pid) = ids := by
    rw [execAll_pids]; exact inv.pids
  refine ⟨ran.safe hwe, ?_, ?_, ?_⟩
  · refine List.forall_mem_map.mpr (List.forall_mem_map.mpr fun q hq d hd => ?_)
    have := (hpin q hq).logOwned d (by simpa [inject] using hd)
    simpa [inject, runWin_pid] using this
  · refine (sysPot_exchange c _ (hranpids ▸ hids) (ran.dest_mem (hranpids ▸ hlinks))).trans
      (List.Perm.trans ?_ inv.pot)
    unfold sysPot execAll
    rw [List.flatMap_map]
    apply flatMap_perm_pointwise
    intro q hq
    exact (hpin q hq).pot (ok.good _ (by simp only [execAll, List.mem_map]; exact ⟨q, hq, rfl⟩))
  · simp only [oneWindow]
    rw [exchange_pids]; exact hranpids

theorem ParInit.sinv {c : Cfg} {ids : List Nat} {start : Nat} {evs : List Ev} {ps : List (Part σ)}
    (hi : ParInit c ids start evs ps)
    (hstart : ∀ e ∈ evs, start ≤ e.time) :
    SInv em rank T c ids (F em rank T evs) start ps ∧ ∀ p ∈ ps, LogInv p := by
  refine ⟨⟨hi.safe hstart, ?_, ?_, hi.pids⟩, hi.logInv⟩
  · intro p hp d hd
    rw [(hi.fresh p hp).1] at hd
    simp at hd
  · refine (sysPot_split ps).trans ?_
    have h1 : sysLog T ps = [] := by
      unfold sysLog
      rw [List.flatMap_eq_nil_iff]
      intro p hp
      simp [logPart, (hi.fresh p hp).1]
    rw [h1, sysPend_of_outEmpty hi.outEmpty, List.nil_append]
    exact F_perm em rank T hi.split

theorem par_delivers_tree (h : Handler σ) (c : Cfg) (ids : List Nat) (fuel wEff endT n : Nat)
    (s : Coord σ) (hr : Ranked em rank) (hed : EventDetermined h em)
    (hids : ids.Nodup) (hlinks : ∀ l ∈ c.links, l.dst ∈ ids)
    (hw : WindowLeLat c wEff) (hpos : 0 < wEff) (he : s.err = none) (hcur : s.cur ≤ endT)
    (P0 : List PEv) (inv : SInv em rank endT c ids P0 s.cur s.parts) (hl : ∀ p ∈ s.parts, LogInv p)
    (hres : (coordLoop h c true fuel wEff endT n s).err = none) :
    (sysLog endT (coordLoop h c true fuel wEff endT n s).parts).Perm P0
    ∧ (∀ p ∈ (coordLoop h c true fuel wEff endT n s).parts, ∀ d ∈ p.log, Owns c p.pid d)
    ∧ (∀ p ∈ (coordLoop h c true fuel wEff endT n s).parts, LogInv p)
    ∧ (coordLoop h c true fuel wEff endT n s).parts.map (·.pid) = ids := by
  have key := coordLoop_inv (exchange c) h c fuel wEff endT _ (coordLoop_eq h c true fuel wEff endT)
    (fun b ps => SInv em rank endT c ids P0 b ps ∧ ∀ p ∈ ps, LogInv p)
    (fun ps => ∀ p ∈ ps, ∀ e ∈ p.heap, endT < e.time)
    (fun b we ps i hb hle _ ok =>
      ⟨i.1.window hr hed hids hlinks hw hb hle ok, oneWindow_logInv h c true fuel we ps i.2⟩)
    (fun _ => heap_gt_of_all_empty)
    -- the final pass at `endT`, the one use of `hpos`: `endT < endT + wEff`
    (fun _ i ok => (execAll_ran hw (Nat.le_refl _) i.1.safe ok).heap_gt (by omega))
    n s he hcur ⟨inv, hl⟩ hres
  obtain ⟨⟨sinv, hlog⟩, hQ⟩ := key
  refine ⟨?_, sinv.logOwned, hlog, sinv.pids⟩
  have hpend : F em rank endT (sysPend (coordLoop h c true fuel wEff endT n s).parts) = [] := by
    apply F_nil_of_gt
    rw [sysPend_of_outEmpty sinv.safe.outEmpty]
    intro e he'
    obtain ⟨p, hp, he'⟩ := List.mem_flatMap.mp he'
    exact hQ p hp e he'
  have := (sysPot_split (em := em) (rank := rank) (T := endT)
    (coordLoop h c true fuel wEff endT n s).parts).symm.trans sinv.pot
  rw [hpend, List.append_nil] at this
  exact this

theorem seq_delivers_tree (h : Handler σ) (T fuel start : Nat) (st : σ) (evs : List Ev)
    (hr : Ranked em rank) (hed : EventDetermined h em) (hstart : ∀ e ∈ evs, start ≤ e.time)
    (hhalt : Halted h seqRoute false T (runSeq h T fuel (Part.init 0 start st evs))) :
    (logPart T (runSeq h T fuel (Part.init 0 start st evs))).Perm (F em rank T evs) := by
  have w0 : WInv seqRoute (fun _ => True) start (Part.init 0 start st evs) :=
    ⟨by simpa [Part.init] using hstart, by simpa [Part.init] using hstart, fun _ _ => trivial,
     rfl, by simp [Part.init]⟩
  have pin : PInv em rank T seqRoute (fun _ => True) start (Part.init 0 start st evs)
      (runSeq h T fuel (Part.init 0 start st evs)) :=
    PInv.run hr hed (fun _ _ => trivial) fuel (PInv.refl w0 (fun _ _ => trivial))
  have hb : (runSeq h T fuel (Part.init 0 start st evs)).bad = false := seq_bad_false fuel rfl
  have hp := pin.pot hb
  have hheap := F_nil_of_gt em rank T _ (halted_loose_heap_gt hhalt hb pin.w.geClock)
  have hout : (runSeq h T fuel (Part.init 0 start st evs)).outbox = [] := seq_outbox_nil pin.w
  have h0 : pot em rank T (Part.init 0 start st evs) = F em rank T evs := by
    simp [pot, logPart, Part.init, F]
  rw [h0] at hp
  have h1 : pot em rank T (runSeq h T fuel (Part.init 0 start st evs))
      = logPart T (runSeq h T fuel (Part.init 0 start st evs)) := by
    unfold pot
    rw [hheap, hout]
    simp [F]
  rw [h1] at hp
  exact hp

theorem sysLog_eq (T : Nat) (ps : List (Part σ)) :
    (((ps.flatMap (fun p => p.log.reverse)).map proj).filter (fun e => e.time ≤ T)).Perm (sysLog T ps) := by
  unfold sysLog
  rw [List.map_flatMap, List.filter_flatMap]
  apply flatMap_perm_pointwise
  intro p _
  exact ((List.reverse_perm p.log).map proj).filter _

end HappyModel.C05
