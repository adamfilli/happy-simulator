import HappyProofs.C16.RawMain
import HappyProofs.C16.StoreSeq
/-!
Read-after-write for scripts whose operations do not overlap, as a special case of read-after-write on every
schedule.  A script is a schedule in which every operation runs all its segments before the next one starts.  In
the log of such a schedule every started write has completed and the writes of a key are totally ordered, so the
write that no completed write entirely follows is the last one (`LastWrite`), and the judge's register clause says
that a `get` returns what a map would hold (`readGood_seq`).  `SeqG` and `SeqG.step` speak of contexts and logs only
and serve the store (below) and the multi-tier cache alike.
-/
namespace HappyModel.C16

/-- `v` is what the write of `k` that ran last wrote: every other started write of `k` had completed
before it was issued -/
def LastWrite (g : Gh) (k : Key) (v : Option Nat) : Prop :=
  (∃ i op si, i ∈ g.started ∧ (i, op) ∈ g.ops ∧ wkv op = some (k, v) ∧ firstIdx g.evs i = some si ∧
      ∀ j op', j ∈ g.started → (j, op') ∈ g.ops → wk op' = some k → j ≠ i →
        ∃ ej, endIdx g.evs j = some ej ∧ ej < si) ∨
  (v = none ∧ ∀ j op', j ∈ g.started → (j, op') ∈ g.ops → wk op' ≠ some k)

/-- the context between two operations of a script: every id in the log has started, every started
write has completed, and `M` maps every key to what its last write wrote -/
structure SeqG (g : Gh) (M : List (Key × Nat)) : Prop where
  ids : ∀ j, (firstIdx g.evs j).isSome → j ∈ g.started
  done : ∀ j op k, j ∈ g.started → (j, op) ∈ g.ops → wk op = some k → (endIdx g.evs j).isSome
  last : ∀ k, LastWrite g k (aget? M k)

theorem readGood_seq {g : Gh} (nd : (g.ops.map (·.1)).Nodup) {k : Key} {m v : Option Nat} {rs re : Nat}
    (hids : ∀ j, (firstIdx g.evs j).isSome → j ∈ g.started)
    (hdone : ∀ j op, j ∈ g.started → (j, op) ∈ g.ops → wk op = some k → CompletedBefore g.evs j rs)
    (hl : LastWrite g k m) (h : ReadGood g.ops g.evs k rs re v) : v = m := by
  rcases h with ⟨i0, op0, hm0, hw0, ⟨s0, hs0, _⟩, hall⟩ | ⟨rfl, hall⟩
  · have hi0 : i0 ∈ g.started := hids i0 (by rw [hs0]; rfl)
    rcases hl with ⟨L, opL, sL, hL, hmL, hwL, hsL, hoth⟩ | ⟨_, hno⟩
    · by_cases e : i0 = L
      · subst e
        have := ops_unique nd hm0 hmL
        subst this
        rw [hw0] at hwL
        exact (Prod.mk.inj (Option.some.inj hwL)).2
      · obtain ⟨e0, he0, hlt⟩ := hoth i0 op0 hi0 hm0 (wk_of_wkv hw0) e
        have := hall L opL hmL (wk_of_wkv hwL) (hdone L opL hL hmL (wk_of_wkv hwL)) e0 sL he0 hsL
        omega
    · exact absurd (wk_of_wkv hw0) (hno i0 op0 hi0 hm0)
  · rcases hl with ⟨L, opL, sL, hL, hmL, hwL, _, _⟩ | ⟨e, _⟩
    · exact absurd (hdone L opL hL hmL (wk_of_wkv hwL)) (hall L opL hmL (wk_of_wkv hwL))
    · exact e.symm

theorem SeqG.exec {g g' : Gh} {M : List (Key × Nat)} {n : Nat} {op : OpK} {obs : List Obs}
    (nd : (g.ops.map (·.1)).Nodup) (h : SeqG g M) (hops : g'.ops = g.ops) (hevs : g'.evs = g.evs ++ obs)
    (hst : g'.started = g.started ++ [n]) (hn : n ∉ g.started) (hop : (n, op) ∈ g.ops)
    (hobs : ∀ o ∈ obs, o.i = n) (hne : obs ≠ [])
    (hfin : ∀ k, wk op = some k → (endIdx (g.evs ++ obs) n).isSome) :
    SeqG g' (absStep M op) := by
  have hmem : ∀ j, j ∈ g'.started ↔ j ∈ g.started ∨ j = n := by
    intro j; rw [hst, List.mem_append, List.mem_singleton]
  have hfn' : firstIdx (g.evs ++ obs) n = some g.evs.length :=
    firstIdx_append_new (fun hs => hn (h.ids n hs)) hne hobs
  refine ⟨?_, ?_, ?_⟩
  · intro j hj
    rw [hevs] at hj
    by_cases e : j = n
    · exact (hmem j).mpr (Or.inr e)
    · rw [firstIdx_append_other (fun o ho e' => e (by rw [← e', hobs o ho]))] at hj
      exact (hmem j).mpr (Or.inl (h.ids j hj))
  · intro j op' k hj hjm hk
    rw [hops] at hjm
    rw [hevs]
    rcases (hmem j).mp hj with hj | rfl
    · obtain ⟨e, he⟩ := Option.isSome_iff_exists.mp (h.done j op' k hj hjm hk)
      rw [endIdx_append_some obs he]; rfl
    · exact hfin k (ops_unique nd hjm hop ▸ hk)
  · intro k
    have keep : wk op ≠ some k → LastWrite g k (aget? M k) → LastWrite g' k (aget? M k) := by
      intro hnk hl
      rcases hl with ⟨L, opL, sL, hL, hmL, hwL, hsL, hoth⟩ | ⟨e, hno⟩
      · refine Or.inl ⟨L, opL, sL, (hmem L).mpr (Or.inl hL), hops ▸ hmL, hwL, by rw [hevs]; exact firstIdx_append_some obs hsL, ?_⟩
        intro j op' hj hjm hk hjL
        rw [hops] at hjm
        rcases (hmem j).mp hj with hj | rfl
        · obtain ⟨ej, hej, hlt⟩ := hoth j op' hj hjm hk hjL
          exact ⟨ej, by rw [hevs]; exact endIdx_append_some obs hej, hlt⟩
        · exact absurd (ops_unique nd hjm hop ▸ hk) hnk
      · refine Or.inr ⟨e, fun j op' hj hjm => ?_⟩
        rw [hops] at hjm
        rcases (hmem j).mp hj with hj | rfl
        · exact hno j op' hj hjm
        · exact ops_unique nd hjm hop ▸ hnk
    have own : ∀ v, wkv op = some (k, v) → LastWrite g' k v := by
      intro v hw
      refine Or.inl ⟨n, op, g.evs.length, (hmem n).mpr (Or.inr rfl), hops ▸ hop, hw, by rw [hevs]; exact hfn', ?_⟩
      intro j op' hj hjm hk hjn
      rw [hops] at hjm
      have hj := ((hmem j).mp hj).resolve_right hjn
      obtain ⟨e, he⟩ := Option.isSome_iff_exists.mp (h.done j op' k hj hjm hk)
      exact ⟨e, by rw [hevs]; exact endIdx_append_some obs he, endIdx_lt he⟩
    cases op with
    | put k' v =>
      by_cases e : k = k'
      · subst e; show LastWrite g' k (aget? (aset M k v) k); rw [aget?_aset_self]; exact own _ rfl
      · show LastWrite g' k (aget? (aset M k' v) k); rw [aget?_aset_other _ _ _ _ e]
        exact keep (fun e' => e ((wk_put k' v k).mp e')) (h.last k)
    | del k' =>
      by_cases e : k = k'
      · subst e; show LastWrite g' k (aget? (adel M k) k); rw [aget?_adel_self]; exact own _ rfl
      · show LastWrite g' k (aget? (adel M k') k); rw [aget?_adel_other _ _ _ e]
        exact keep (fun e' => e ((wk_del k' k).mp e')) (h.last k)
    | _ => exact keep nofun (h.last k)

/-- what the log of a script's operation shows: its id, and no result but the operation's -/
structure OpLog (i : Nat) (r : Option Res) (obs : List Obs) : Prop where
  id : ∀ o ∈ obs, o.i = i
  res : ∀ o ∈ obs, o.res.isSome → o.res = r
  fin : r.isSome → ∃ o ∈ obs, o.res.isSome

theorem OpLog.cons {i : Nat} {r : Option Res} {obs : List Obs} (h : OpLog i r obs) (o : Obs) (hi : o.i = i) (hr : o.res = none) :
    OpLog i r (o :: obs) :=
  ⟨fun o' ho => (List.mem_cons.mp ho).elim (fun e => e ▸ hi) (h.id o'),
   fun o' ho hs => (List.mem_cons.mp ho).elim (fun e => by rw [e, hr] at hs; cases hs) (fun ho => h.res o' ho hs),
   fun hr => have ⟨o, ho, hs⟩ := h.fin hr; ⟨o, List.mem_cons_of_mem _ ho, hs⟩⟩

theorem OpLog.one (i : Nat) (r : Option Res) : OpLog i r [⟨i, [], [], [], r⟩] :=
  ⟨fun _ ho => List.mem_singleton.mp ho ▸ rfl, fun _ ho _ => List.mem_singleton.mp ho ▸ rfl,
   fun hr => ⟨_, List.mem_singleton_self _, hr⟩⟩

theorem expected_eq (M : List (Key × Nat)) (k : Key) : expected M k = resOf (aget? M k) := by
  unfold expected; cases aget? M k <;> rfl

theorem SeqG.step {g g' : Gh} {M : List (Key × Nat)} {n : Nat} {op : OpK} {obs : List Obs} {r : Option Res}
    (gi : GI g) (gi' : GI g') (hq : SeqG g M) (h1 : g'.ops = g.ops) (h2 : g'.evs = g.evs ++ obs)
    (h3 : g'.started = g.started ++ [n]) (hi : n ∉ g.started) (hop : (n, op) ∈ g.ops)
    (hlog : OpLog n r obs) (hne : obs ≠ [])
    (hret : (∃ k, op = .get k) ∨ (wk op).isSome → r.isSome) :
    SeqG g' (absStep M op) ∧ ∀ k, op = .get k → r = some (expected M k) := by
  have hend : (∃ k, op = .get k) ∨ (wk op).isSome → (endIdx (g.evs ++ obs) n).isSome := by
    intro hk
    obtain ⟨o, ho, hs⟩ := hlog.fin (hret hk)
    unfold endIdx
    rw [List.findIdx?_isSome, List.any_eq_true]
    exact ⟨o, List.mem_append_right _ ho, by simp [hlog.id o ho, hs]⟩
  have hq' : SeqG g' (absStep M op) :=
    hq.exec gi.nd h1 h2 h3 hi hop hlog.id hne (fun k hk => hend (Or.inr (by rw [hk]; rfl)))
  refine ⟨hq', ?_⟩
  rintro k rfl
  obtain ⟨re, hre⟩ := Option.isSome_iff_exists.mp (hend (Or.inl ⟨k, rfl⟩))
  have hfn : firstIdx g.evs n = none := Option.not_isSome_iff_eq_none.mp fun hs => hi (hq.ids n hs)
  have hrs : firstIdx g'.evs n = some g.evs.length := h2 ▸ firstIdx_append_new (fun hs => hi (hq.ids n hs)) hne hlog.id
  rw [← h2] at hre
  obtain ⟨v, hv, hg⟩ := gi'.d n k _ re (h1 ▸ hop) hrs hre
  -- the observation at `re` is one of the operation's own
  have hat := hre
  unfold endIdx at hat
  rw [List.findIdx?_eq_some_iff_getElem] at hat
  obtain ⟨hlen, hp, _⟩ := hat
  have hmem : g'.evs[re] ∈ g.evs ++ obs := h2 ▸ List.getElem_mem hlen
  simp only [Bool.and_eq_true, beq_iff_eq] at hp
  have hin : g'.evs[re] ∈ obs := by
    rcases List.mem_append.mp hmem with hm | hm
    · exfalso
      unfold firstIdx at hfn
      have := List.findIdx?_eq_none_iff.mp hfn _ hm
      simp [hp.1] at this
    · exact hm
  have hres := hlog.res _ hin hp.2
  rw [List.getD_eq_getElem?_getD, List.getElem?_eq_getElem hlen] at hv
  simp only [Option.getD_some] at hv
  rw [← hres, hv, expected_eq]
  congr 2
  refine readGood_seq (h1 ▸ gi.nd) hq'.ids ?_ (hq'.last k) hg
  intro j op' hj hjm hk
  rw [h3, List.mem_append, List.mem_singleton] at hj
  rw [h1] at hjm
  rcases hj with hj | rfl
  · obtain ⟨e, he⟩ := Option.isSome_iff_exists.mp (hq.done j op' k hj hjm hk)
    exact ⟨e, by rw [h2]; exact endIdx_append_some _ he, endIdx_lt he⟩
  · cases ops_unique gi.nd hjm hop; cases hk

theorem resumeAll_log (cfg : Cfg) (hrep : cfg.rep = true) (i now : Nat) : ∀ (fuel : Nat) (g : Gh) (s : St), RInvA g s →
    ∃ g' obs, g'.ops = g.ops ∧ g'.evs = g.evs ++ obs ∧ g'.started = g.started ∧
      OpLog i (resumeAll cfg fuel s i now).2 obs ∧ RInvA g' (resumeAll cfg fuel s i now).1 := by
  intro fuel
  induction fuel with
  | zero => intro g s h; exact ⟨g, [], rfl, (List.append_nil _).symm, rfl, ⟨nofun, nofun, nofun⟩, h⟩
  | succ f ih =>
    intro g s h
    unfold resumeAll
    cases hf : s.pend.find? (·.1 == i) with
    | none => exact ⟨g, [], rfl, (List.append_nil _).symm, rfl, ⟨nofun, nofun, nofun⟩, h⟩
    | some x =>
      have est : step cfg s (.resume i now) = resume cfg s i x.2 now := by simp only [step, hf]
      have h1 := raw_step cfg hrep h (.resume i now) nofun ⟨i, [], [], [], (step cfg s (.resume i now)).2⟩ rfl rfl
      rw [est] at h1
      simp only []
      cases hr : (resume cfg s i x.2 now).2 with
      | some r =>
        rw [hr] at h1
        exact ⟨g.ext ⟨i, [], [], [], some r⟩ [], [⟨i, [], [], [], some r⟩], rfl, rfl, List.append_nil _, OpLog.one i _, h1⟩
      | none =>
        rw [hr] at h1
        obtain ⟨g', obs, e1, e2, e3, hl, h2⟩ := ih _ _ h1
        exact ⟨g', ⟨i, [], [], [], none⟩ :: obs, e1, by rw [e2]; simp [Gh.ext], by rw [e3]; simp [Gh.ext, newIds],
          hl.cons _ rfl rfl, h2⟩

theorem PendOf.not_flush {op : OpK} {p : Pend} (h : PendOf op p) (hop : (∃ k, op = .get k) ∨ (wk op).isSome) :
    ¬ p.isFlush := by
  cases p with
  | flushRep k r n => obtain ⟨o, rfl⟩ := h.op; simp [wk, wkv] at hop
  | flushCur k v r n => exact (h.op : False).elim
  | _ => exact id

/-- a `get`, `put` or `delete` returns with its second segment: the continuation its first segment left is the only
one under its id, and it is not a flush's -/
theorem execOp_log (cfg : Cfg) (hrep : cfg.rep = true) {g : Gh} {s : St} (h : RInvA g s) (i : Nat) (op : OpK)
    (now : Nat) (hi : i ∉ g.started) (hop : (i, op) ∈ g.ops) :
    ∃ g' obs, g'.ops = g.ops ∧ g'.evs = g.evs ++ obs ∧ g'.started = g.started ++ [i] ∧ obs ≠ [] ∧
      OpLog i (execOp cfg s i op now).2 obs ∧ RInvA g' (execOp cfg s i op now).1 ∧
      ((∃ k, op = .get k) ∨ (wk op).isSome → (execOp cfg s i op now).2.isSome) := by
  have h1 := raw_step cfg hrep h (.start i op now) (fun _ _ _ e => by cases e; exact ⟨hi, op, hop, Or.inr rfl⟩) ⟨i, [], [], [], (start cfg s i op now).2⟩ rfl rfl
  unfold execOp
  generalize hfu : (match op with | .flush order => order.length | _ => 0) + 2 = fuel
  obtain ⟨fuel, rfl⟩ : ∃ f, fuel = f + 1 := ⟨_, hfu.symm⟩
  cases hs : (start cfg s i op now).2 with
  | some r =>
    have h1 : RInvA (g.ext ⟨i, [], [], [], (start cfg s i op now).2⟩ [i]) (start cfg s i op now).1 := h1
    rw [hs] at h1
    exact ⟨g.ext ⟨i, [], [], [], some r⟩ [i], [⟨i, [], [], [], some r⟩], rfl, rfl, rfl, nofun, OpLog.one i _, h1, fun _ => rfl⟩
  | none =>
    have h1 : RInvA (g.ext ⟨i, [], [], [], (start cfg s i op now).2⟩ [i]) (start cfg s i op now).1 := h1
    rw [hs] at h1
    obtain ⟨g', obs, e1, e2, e3, hl, h2⟩ := resumeAll_log cfg hrep i now (fuel + 1) _ _ h1
    refine ⟨g', ⟨i, [], [], [], none⟩ :: obs, e1, by rw [e2]; simp [Gh.ext], e3, nofun, hl.cons _ rfl rfl, h2, fun hk => ?_⟩
    obtain ⟨p0, hp0⟩ : ∃ p, (i, p) ∈ (start cfg s i op now).1.pend := by
      rcases start_pend cfg s i op now with ⟨p, e, _⟩ | ⟨_, _, ⟨_, rfl⟩ | rfl | ⟨_, rfl⟩⟩
      · exact ⟨p, by rw [e]; simp⟩
      all_goals simp [wk, wkv] at hk
    rw [resumeAll]
    cases hf : (start cfg s i op now).1.pend.find? (·.1 == i) with
    | none => exact absurd hp0 (by have := List.find?_eq_none.mp hf _ hp0; simp at this)
    | some x =>
      have hx : x.1 = i := by simpa using List.find?_some hf
      obtain ⟨op', hop', hpo⟩ := h1.pi.pOp x (List.mem_of_find?_eq_some hf)
      cases ops_unique h.gi.nd hop' (hx ▸ hop)
      obtain ⟨r, hr⟩ := Option.isSome_iff_exists.mp ((resume_pend cfg (start cfg s i op now).1 i x.2 now).elim (·.2)
        fun ⟨_, _, _, hfl, _⟩ => absurd hfl (hpo.not_flush hk))
      simp only [hr]; rfl

/-- the operation table of a script: its operations numbered from `i` -/
def scriptTab (i : Nat) : List (OpK × Nat) → List (Nat × OpK)
  | [] => []
  | (op, _) :: r => (i, op) :: scriptTab (i + 1) r

theorem scriptTab_get : ∀ (rest : List (OpK × Nat)) (i j : Nat) (op : OpK) (now : Nat),
    rest[j]? = some (op, now) → (i + j, op) ∈ scriptTab i rest
  | [], _, _, _, _, h => by cases h
  | (op', now') :: r, i, 0, op, now, h => by cases h; exact List.mem_cons_self
  | (op', now') :: r, i, j + 1, op, now, h => by
    have := scriptTab_get r (i + 1) j op now (by simpa using h)
    rw [show i + (j + 1) = i + 1 + j by omega]
    exact List.mem_cons_of_mem _ this

theorem scriptTab_ids : ∀ (rest : List (OpK × Nat)) (i : Nat), (scriptTab i rest).map (·.1) = List.range' i rest.length
  | [], _ => rfl
  | (op, now) :: r, i => by simp [scriptTab, List.range'_succ, scriptTab_ids r (i + 1)]

theorem seqOk_of_raw (cfg : Cfg) (hrep : cfg.rep = true) : ∀ (rest : List (OpK × Nat)) (i : Nat) (s : St)
    (M : List (Key × Nat)) (g : Gh), RInvA g s → SeqG g M → (∀ j ∈ g.started, j < i) →
    (∀ j op now, rest[j]? = some (op, now) → (i + j, op) ∈ g.ops) → SeqOk cfg s M i rest := by
  intro rest
  induction rest with
  | nil => intros; exact True.intro
  | cons a rest ih =>
    intro i s M g h hq hlt htab
    obtain ⟨op, now⟩ := a
    have hop : (i, op) ∈ g.ops := htab 0 op now rfl
    have hi : i ∉ g.started := fun hh => Nat.lt_irrefl _ (hlt i hh)
    obtain ⟨g', obs, h1, h2, h3, hne, hlog, h4, hret⟩ := execOp_log cfg hrep h i op now hi hop
    obtain ⟨hq', hget⟩ := hq.step h.gi h4.gi h1 h2 h3 hi hop hlog hne hret
    refine ⟨?_, ih (i + 1) _ _ g' h4 hq' ?_ ?_⟩
    · split
      · exact hget _ rfl
      · exact True.intro
    · intro j hj
      rw [h3, List.mem_append, List.mem_singleton] at hj
      rcases hj with hj | rfl
      · exact Nat.lt_succ_of_lt (hlt j hj)
      · exact Nat.lt_succ_self _
    · intro j op' now' hj
      rw [h1]
      have := htab (j + 1) op' now' (by simpa using hj)
      rwa [show i + (j + 1) = i + 1 + j by omega] at this

theorem seqOk_init (cfg : Cfg) (hrep : cfg.rep = true) (p : Pol) (ops : List (OpK × Nat)) :
    SeqOk cfg { pol := p } [] 0 ops := by
  have nd : ((scriptTab 0 ops).map (·.1)).Nodup := by rw [scriptTab_ids]; exact List.nodup_range'
  exact seqOk_of_raw cfg hrep ops 0 _ [] ⟨scriptTab 0 ops, [], []⟩ (rinvA_init _ nd p)
    ⟨fun j hj => (by simp [firstIdx] at hj), fun j _ _ hj => (nomatch hj), fun k => Or.inr ⟨rfl, fun j _ hj => nomatch hj⟩⟩
    (fun j hj => nomatch hj) (fun j op now h => scriptTab_get ops 0 j op now h)

end HappyModel.C16
