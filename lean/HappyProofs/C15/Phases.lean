import HappyModel.C15.Phases
import HappyProofs.C15.Ack
/-!
What a crash and a flush install leave behind is said per state, so it holds at every point of every multi-crash run;
every element of `runPhases` is a `phaseOut` (`mem_runPhases`), which lifts such facts to every phase from any start system.
-/
namespace HappyModel.C15
open HappyModel.C14

/-- a crash (and the recovery after it) does not rewind `next_sequence`: the surviving log has a gap where the
    unsynced tail was -/
theorem crash_keeps_nextSeq (s : St) : s.crash.nextSeq = s.nextSeq ∧ s.crash.recover.nextSeq = s.nextSeq :=
  ⟨rfl, rfl⟩

theorem crash_wal (s : St) : s.crash.wal = s.wal.filter (fun e => e.seq ≤ s.synced) := rfl

/-- a crash keeps the numbers of abandoned appends, the suspended-compaction flag and the SSTable levels -/
theorem crash_keeps_pending (s : St) :
    s.crash.recover.pending = s.pending ∧ s.crash.recover.compacting = s.compacting ∧
    s.crash.recover.levels = s.levels ∧ s.crash.recover.synced = s.synced := ⟨rfl, rfl, rfl, rfl⟩

theorem flushInstall_wal (cfg : Cfg) (s : St) (t : Tab) (b : Nat) :
    (flushInstall cfg s t b).1.wal = if cfg.wal.isSome then s.wal.filter (fun e => e.seq > b) else s.wal := by
  obtain ⟨c, hc⟩ := (flushInstall_shape cfg s t b).1
  rw [hc]; rfl

/-- the truncation contract, whatever gaps the log has: a flush install drops only entries with a sequence
    number ≤ its bound … -/
theorem flushInstall_keeps_newer (cfg : Cfg) (s : St) (t : Tab) (b : Nat) :
    ∀ e ∈ s.wal, b < e.seq → e ∈ (flushInstall cfg s t b).1.wal := by
  intro e he hb
  rw [flushInstall_wal]
  split
  · exact List.mem_filter.mpr ⟨he, by simpa using hb⟩
  · exact he

/-- … and adds none -/
theorem flushInstall_wal_sub (cfg : Cfg) (s : St) (t : Tab) (b : Nat) :
    ∀ e ∈ (flushInstall cfg s t b).1.wal, e ∈ s.wal := by
  intro e he
  rw [flushInstall_wal] at he
  split at he
  · exact (List.mem_filter.mp he).1
  · exact he

/-- what has been recovered once is durable: a second crash + recovery reads the same, every state, every key -/
theorem recovered_is_durable (s : St) (k : Key) :
    s.crash.recover.crash.recover.abs k = s.crash.recover.abs k :=
  abs_second_crash s k

theorem mem_runPhases {cfg : Cfg} {y0 : Sys} {ps : List (List Nat)} {o : PhaseOut}
    (h : o ∈ runPhases cfg y0 ps) : ∃ y sched, o = phaseOut cfg y sched := by
  induction ps generalizing y0 with
  | nil => cases h
  | cons sched rest ih =>
    simp only [runPhases, List.mem_cons] at h
    rcases h with h | h
    · exact ⟨y0, sched, h⟩
    · exact ih h

theorem phaseOut_s1 (cfg : Cfg) (y : Sys) (sched : List Nat) :
    (phaseOut cfg y sched).s1 = (phaseOut cfg y sched).y.st.crash.recover := rfl

theorem phaseOut_s2 (cfg : Cfg) (y : Sys) (sched : List Nat) :
    (phaseOut cfg y sched).s2 = (phaseOut cfg y sched).y.st.crash.recover.recover := rfl

theorem phaseOut_s3 (cfg : Cfg) (y : Sys) (sched : List Nat) :
    (phaseOut cfg y sched).s3 = (phaseOut cfg y sched).y.st.crash.recover.recover.crash.recover := rfl

theorem phaseOut_y (cfg : Cfg) (y : Sys) (sched : List Nat) : (phaseOut cfg y sched).y = y.run cfg sched :=
  syncDoneRun_fst cfg y [] sched

theorem phaseOut_done (cfg : Cfg) (y : Sys) (sched : List Nat) :
    (phaseOut cfg y sched).done = (syncDoneRun cfg y [] sched).2 := rfl

/-- "recovering twice gives the same state as recovering once", at every crash of every sequence of crashes,
    from any start system -/
theorem phase_recover_idempotent (cfg : Cfg) (y0 : Sys) (ps : List (List Nat)) (nkeys : Nat) :
    ∀ o ∈ runPhases cfg y0 ps,
      readsOf nkeys o.s2 = readsOf nkeys o.s1 ∧ readsOf nkeys o.s3 = readsOf nkeys o.s1 := by
  intro o ho
  obtain ⟨y, sched, rfl⟩ := mem_runPhases ho
  rw [phaseOut_s1, phaseOut_s2, phaseOut_s3]
  exact ⟨readsOf_congr nkeys _ _ (abs_recover_recover _), readsOf_congr nkeys _ _ (abs_second_crash _)⟩

/-- a crash cycle with nothing executed in between returns the baseline: from any system whose state came out
    of a crash + recovery -/
theorem idle_phase_keeps_baseline (cfg : Cfg) (y : Sys) (s : St) (hy : y.st = s.crash.recover) (nkeys : Nat) :
    readsOf nkeys (phaseOut cfg y []).s1 = readsOf nkeys y.st := by
  show readsOf nkeys y.st.crash.recover = readsOf nkeys y.st
  rw [hy]
  exact readsOf_congr nkeys _ _ (recovered_is_durable s)

/-- … in particular after every phase of every sequence of crashes -/
theorem idle_phase_after (cfg : Cfg) (y0 : Sys) (ps : List (List Nat)) (nkeys : Nat) :
    ∀ o ∈ runPhases cfg y0 ps, readsOf nkeys (phaseOut cfg o.next []).s1 = readsOf nkeys o.s3 := by
  intro o ho
  obtain ⟨y, sched, rfl⟩ := mem_runPhases ho
  exact idle_phase_keeps_baseline cfg (phaseOut cfg y sched).next
    (phaseOut cfg y sched).y.st.crash.recover.recover rfl nkeys

/-- the observations of one phase: records of the writes that started during this phase (`prev` = ids of the
    operations that had started before it), the sync completions seen in it, `synced_up_to` at its crash and
    the three rounds of reads -/
def obsOf (ops : List (Nat × OKind)) (nkeys : Nat) (prev : List Nat) (o : PhaseOut) : PhaseObs :=
  { ws := (wObsOf ops o.y).filter fun w => !prev.contains w.id
    syncDone := o.done
    synced := o.y.st.synced
    r1 := readsOf nkeys o.s1
    r2 := readsOf nkeys o.s2
    r3 := readsOf nkeys o.s3 }

def obsOfPhases (ops : List (Nat × OKind)) (nkeys : Nat) : List Nat → List PhaseOut → List PhaseObs
  | _, [] => []
  | prev, o :: rest => obsOf ops nkeys prev o :: obsOfPhases ops nkeys ((wObsOf ops o.y).map (·.id)) rest

def phaseStarts (cfg : Cfg) : Sys → List (List Nat) → List (Sys × List Nat)
  | _, [] => []
  | y, sched :: rest => (y, sched) :: phaseStarts cfg (phaseOut cfg y sched).next rest

/-- The Spec predicate for sequences of crashes accepts the model's own observations of every multi-crash run:
    every workload, sync policy, list of phase schedules.  Hypotheses as for `crash_spec_ack`, per phase:
    flushes install in start order and syncs complete in sequence order along the phase's schedule from the
    system the phase starts from; a phase schedules only operations that had not started before it (operations
    in flight at a crash are abandoned); operation ids stay below the identifier space of the baseline records (the
    convention of the Spec; the proof uses only that the ids are bounded).
    The theorem is `multi_crash_spec_full_proved` (`MultiFull`). -/
def multi_crash_spec_full : Prop :=
  ∀ (cfg : Cfg) (p : Policy) (nkeys : Nat) (ops : List (Nat × OKind)) (oracle : List Bool)
    (ps : List (List Nat)) (every : Bool),
    cfg.wal = some p → 2 ≤ cfg.maxLevels → DistinctPuts ops → (∀ o ∈ ops, o.1 < baselineId 0) →
    (∀ ys ∈ phaseStarts cfg (sysOf cfg oracle ops) ps,
      InOrder cfg ys.1 ys.2 ∧ syncsInOrderB cfg ys.1 ys.2 = true ∧
      ∀ f ∈ ys.1.frames, f.id ∈ ys.2 → f.b = none) →
    (every = true → cfg.wal = some .every) →
    judgePhases every nkeys (List.replicate nkeys none) [] 0
      (obsOfPhases ops nkeys [] (runPhases cfg (sysOf cfg oracle ops) ps)) = none

theorem judgePhases_cons {every : Bool} {nkeys : Nat} {base : List (Option Nat)} {stale : List Nat} {i : Nat}
    {p : PhaseObs} (rest : List PhaseObs) (hlen : p.r1.length = nkeys)
    (hj : judgePhase every base stale p.ws p.syncDone p.synced p.r1 p.r2 p.r3 = none) :
    judgePhases every nkeys base stale i (p :: rest) =
      judgePhases every nkeys p.r3 (stale ++ p.ws.filterMap (·.cell)) (i + 1) rest := by
  rw [judgePhases, if_neg (by rw [hlen, bne_self_eq_false]; exact Bool.false_ne_true), hj]

theorem obsOf_r1_length (ops : List (Nat × OKind)) (nkeys : Nat) (prev : List Nat) (o : PhaseOut) :
    (obsOf ops nkeys prev o).r1.length = nkeys := by
  simp only [obsOf, readsOf, List.length_map, List.length_range]

/-- induction over the phases: `I` is what every phase hands over to the next (`acc`: the sync completions seen so
    far), `H` the hypothesis on a phase's start system and schedule -/
theorem judgePhases_induct {cfg : Cfg} {ops : List (Nat × OKind)} {nkeys : Nat} {every : Bool}
    (I : Sys → List Nat → Prop) (H : Sys × List Nat → Prop)
    (hstep : ∀ y0 acc sched stale, I y0 acc → H (y0, sched) →
      judgePhase every (readsOf nkeys y0.st) stale
        (obsOf ops nkeys ((wObsOf ops y0).map (·.id)) (phaseOut cfg y0 sched)).ws (phaseOut cfg y0 sched).done
        (phaseOut cfg y0 sched).y.st.synced (readsOf nkeys (phaseOut cfg y0 sched).s1)
        (readsOf nkeys (phaseOut cfg y0 sched).s2) (readsOf nkeys (phaseOut cfg y0 sched).s3) = none ∧
      I (phaseOut cfg y0 sched).next ((phaseOut cfg y0 sched).done ++ acc)) :
    ∀ (ps : List (List Nat)) (y0 : Sys) (acc stale : List Nat) (i : Nat), I y0 acc →
      (∀ ys ∈ phaseStarts cfg y0 ps, H ys) →
      judgePhases every nkeys (readsOf nkeys y0.st) stale i
        (obsOfPhases ops nkeys ((wObsOf ops y0).map (·.id)) (runPhases cfg y0 ps)) = none := by
  intro ps
  induction ps with
  | nil => intro _ _ _ _ _ _; rfl
  | cons sched rest ih =>
    intro y0 acc stale i hI hph
    obtain ⟨hj, hI'⟩ := hstep y0 acc sched stale hI (hph _ (List.mem_cons_self ..))
    -- `next.st` is `s3` and `next.frames` are the frames at the crash by definition, so the baseline and `prev` of the rest agree
    exact (judgePhases_cons _ (obsOf_r1_length ..) hj).trans
      (ih (phaseOut cfg y0 sched).next _ _ _ hI' fun ys hys => hph ys (List.mem_cons_of_mem _ hys))

end HappyModel.C15
