import HappyProofs.C15.WalInv
/-! Base events of a recovered tree: one per surviving log entry (class 1, newest first) and one per SSTable
    entry (class 2, in lookup order). -/
namespace HappyModel.C15
open HappyModel.C14

/-- base events of the recovered memtable: the surviving log, newest entry first; `n := seq` -/
def memEvs (B : Nat) (w : List WalE) : List Ev := w.reverse.map fun e => ⟨e.seq, B, e.key, e.cell, e.seq⟩

/-- events with strictly decreasing `n` -/
def numEv (id : Nat) : List (Key × Cell) → List Ev
  | [] => []
  | x :: r => ⟨r.length, id, x.1, x.2, 0⟩ :: numEv id r

/-- the SSTable entries in lookup order -/
def flatLv (lv : List (List Tab)) : List (Key × Cell) := lv.flatMap fun l => l.reverse.flatMap (·.data)

def lvEvs (B : Nat) (lv : List (List Tab)) : List Ev := numEv (B + 1) (flatLv lv)

def log0Of (B : Nat) (s : St) : List Ev := memEvs B s.wal ++ lvEvs B s.levels

def ghost0Of (B : Nat) (s : St) : Ghost := { gmem := memEvs B s.wal, gimms := [], glv := lvEvs B s.levels, T := 0 }

/-- static facts about the base events -/
structure Base0 (B S0 : Nat) (W0 : List WalE) (abs0 : Key → Option Nat) (log0 : List Ev) : Prop where
  base : ∀ ev ∈ log0, B ≤ ev.id
  seqLe : ∀ ev ∈ log0, ev.seq ≤ S0
  memN : ∀ ev ∈ log0, ev.id = B → ev.n = ev.seq
  memAll : ∀ e ∈ W0, ∃ ev ∈ log0, ev.id = B ∧ ev.key = e.key ∧ ev.seq = e.seq
  sorted : log0.Pairwise (RBase B)
  abs : ∀ k, abs0 k = (firstOn k log0).join

end HappyModel.C15
