import HappyProofs.C10.Norm
namespace HappyModel.C10

def LB.ok (c : LBCfg) (s : LB) (t : Nat) : Prop :=
  match s.last with
  | none => True
  | some l => l ≤ t ∧ c.one ≤ c.p * (t - l)

instance (c : LBCfg) (s : LB) (t : Nat) : Decidable (LB.ok c s t) := by
  unfold LB.ok; split <;> exact inferInstance

/-- there is nothing to bring up to date -/
def lbNorm (c : LBCfg) : Norm (lbPolicy c) where
  adv s _ := s
  ok := LB.ok c
  take _ t := ⟨some t⟩
  wait := LB.wait c
  acq_eq s t := by
    obtain ⟨_ | l⟩ := s
    · rfl
    · show (if _ then _ else _) = if l ≤ t ∧ c.one ≤ c.p * (t - l) then _ else _
      rfl
  tua_eq s t := by
    obtain ⟨_ | l⟩ := s
    · rfl
    · show (_, LB.wait c ⟨some l⟩ t) = (_, if l ≤ t ∧ c.one ≤ c.p * (t - l) then 0 else LB.wait c ⟨some l⟩ t)
      congr 1
      unfold LB.wait
      by_cases h1 : l ≤ t
      · by_cases h2 : c.one ≤ c.p * (t - l)
        · simp only [if_pos h1, if_pos h2, if_pos (And.intro h1 h2)]
        · simp only [if_pos h1, if_neg h2, if_neg fun h : _ ∧ _ => h2 h.2]
      · simp only [if_neg h1, if_neg fun h : _ ∧ _ => h1 h.1]
  idem _ _ := rfl

theorem cnt_append (a b : Nat) (x y : List Nat) : cnt a b (x ++ y) = cnt a b x + cnt a b y := by
  simp [cnt, List.filter_append]

theorem cntWin_append (W k : Nat) (x y : List Nat) :
    cntWin W k (x ++ y) = cntWin W k x + cntWin W k y := by
  simp [cntWin, List.filter_append]

theorem filter_length_le_of_imp (p q : Nat → Bool) (l : List Nat)
    (h : ∀ x ∈ l, p x = true → q x = true) : (l.filter p).length ≤ (l.filter q).length := by
  rw [← List.countP_eq_length_filter, ← List.countP_eq_length_filter]
  exact List.countP_mono_left h

theorem length_filter_cons (p : Nat → Bool) (x : Nat) (xs : List Nat) :
    ((x :: xs).filter p).length = (xs.filter p).length + (p x).toNat := by
  rw [List.filter_cons]; cases p x <;> rfl

theorem filter_length_le_add (p q r : Nat → Bool) (l : List Nat)
    (h : ∀ x ∈ l, p x = true → q x = true ∨ r x = true) :
    (l.filter p).length ≤ (l.filter q).length + (l.filter r).length := by
  induction l with
  | nil => exact Nat.le_refl _
  | cons x xs ih =>
    have ih' := ih (fun y hy => h y (List.mem_cons_of_mem _ hy))
    have hx : (p x).toNat ≤ (q x).toNat + (r x).toNat :=
      (by decide : ∀ a b c : Bool, (a = true → b = true ∨ c = true) → a.toNat ≤ b.toNat + c.toNat)
        _ _ _ (h x List.mem_cons_self)
    rw [length_filter_cons, length_filter_cons, length_filter_cons]
    omega

theorem dropWhile_dropWhile_of_imp {α : Type} (p q : α → Bool) (h : ∀ a, p a = true → q a = true) :
    ∀ l : List α, (l.dropWhile p).dropWhile q = l.dropWhile q
  | [] => rfl
  | a :: l => by
    cases hp : p a
    · rw [List.dropWhile_cons_of_neg (Bool.not_eq_true _ ▸ hp)]
    · rw [List.dropWhile_cons_of_pos hp, List.dropWhile_cons_of_pos (h a hp)]
      exact dropWhile_dropWhile_of_imp p q h l

theorem SW.prune_prune (c : WCfg) (s : SW) {t' t'' : Nat} (h : t' ≤ t'') : (s.prune c t').prune c t'' = s.prune c t'' :=
  congrArg SW.mk (dropWhile_dropWhile_of_imp _ _
    (fun _ he => decide_eq_true (Nat.lt_of_lt_of_le (of_decide_eq_true he) h)) s.log)

/-- a full log answers with the time until `o + W`, the last instant at which its oldest entry `o` is inside the
    closed window (at least 1 ns); the entry is pruned after it -/
def SW.wait (c : WCfg) (r : SW) (t : Nat) : Nat :=
  match r.log with
  | [] => 0
  | o :: _ => if o + c.W - t = 0 then 1 else o + c.W - t

def swNorm (c : WCfg) : Norm (swPolicy c) where
  adv := SW.prune c
  ok r _ := r.log.length < c.N
  take r t := ⟨r.log ++ [t]⟩
  wait := SW.wait c
  acq_eq _ _ := rfl
  tua_eq s t := by
    show SW.tua c s t = _
    unfold SW.tua SW.wait
    split
    · rfl
    · split <;> simp only [*]
  idem s t := SW.prune_prune c s (Nat.le_refl t)

theorem SW.tua_fst (c : WCfg) (s : SW) (t : Nat) : (SW.tua c s t).1 = s.prune c t := (swNorm c).tua_fst s t

theorem SW.prune_split (c : WCfg) (s : SW) (d : List Nat) (t : Nat) (hd : ∀ e ∈ d, e + c.W < t) :
    (d ++ s.log.takeWhile (fun e => decide (e + c.W < t))) ++ (s.prune c t).log = d ++ s.log ∧
    ∀ e ∈ d ++ s.log.takeWhile (fun e => decide (e + c.W < t)), e + c.W < t := by
  constructor
  · simp only [SW.prune, List.append_assoc, List.takeWhile_append_dropWhile]
  · intro e he
    rcases List.mem_append.mp he with h | h
    · exact hd e h
    · exact of_decide_eq_true (List.all_eq_true.mp List.all_takeWhile e h)

/-- one more admission at `t`, the log holding fewer than `N` entries and everything before it having
    expired: a window that contains `t` contains nothing expired, so it counts at most the log and `t` -/
theorem cnt_admit (W N t : Nat) (d log : List Nat) (hd : ∀ e ∈ d, e + W < t) (hlen : log.length < N)
    (hc : ∀ a, cnt a (a + W) (d ++ log) ≤ N) (a : Nat) : cnt a (a + W) (d ++ log ++ [t]) ≤ N := by
  rw [cnt_append]
  by_cases hin : a ≤ t ∧ t ≤ a + W
  · have z : cnt a (a + W) d = 0 := by
      simp only [cnt, List.length_eq_zero_iff, List.filter_eq_nil_iff, decide_eq_true_eq]
      intro e he; have := hd e he; omega
    have h1 : cnt a (a + W) log ≤ log.length := List.length_filter_le _ _
    have h2 : cnt a (a + W) [t] ≤ 1 := List.length_filter_le _ _
    rw [cnt_append, z]; omega
  · have : cnt a (a + W) [t] = 0 := by simp [cnt, hin]
    have := hc a
    omega

end HappyModel.C10
