import HappyModel.C08.Pipe
/-!
What one delivery of the pipeline model does, as a relation (`Eff`; `step_eff` is the one place the
handlers are opened), and the invariant of the repaired Queue + QueueDriver + Server protocol (any
schedule in which a `QueueDispatchedEvent` is handled after the payload it follows).
-/
namespace HappyModel.C08.Pipe

section handlers
variable {c : PCfg} {s : PSt}

theorem pollIfReady_frame (c : PCfg) (s : PSt) :
    ∃ b r n, (pollIfReady c s).1 = { s with busy := b, recheck := r, nPoll := n } := by
  unfold pollIfReady
  cases c.variant <;> simp only <;> (repeat' split) <;> exact ⟨_, _, _, rfl⟩

theorem pollIfReady_busy (hv : c.variant = .repaired) (hb : s.busy = true) :
    pollIfReady c s = ({ s with recheck := true }, false) := by
  simp only [pollIfReady, hv, hb, if_true]

theorem pollIfReady_fire (hv : c.variant = .repaired) (hb : s.busy = false) (hc : s.active < s.limit) :
    pollIfReady c s = ({ s with busy := true, recheck := false, nPoll := s.nPoll + 1 }, true) := by
  simp only [pollIfReady, hv, hb, hasCap, hc, decide_true, Bool.false_eq_true, if_false, if_true]

theorem pollIfReady_idle (hv : c.variant = .repaired) (hb : s.busy = false) (hc : ¬ s.active < s.limit) :
    pollIfReady c s = (s, false) := by
  simp only [pollIfReady, hv, hb, hasCap, hc, decide_false, Bool.false_eq_true, if_false]

end handlers

/-- What one delivery does: handling `a` in `s` answers `r` and builds `b`, after which
    `_poll_if_ready` runs iff `p`.  A delivery that is not due (no such event pending, unknown id)
    changes nothing.  Only the repaired driver is told of an empty poll (`empty`) and sends itself a
    `QueueDispatchedEvent` behind the payload (`hand`); a `ShiftedServer` starts whatever reaches it,
    a `Server` without a free slot discards the item and its completion hook runs at once (`reject`).
    The answers of `notify`, `answer`, `disp` (what that `_poll_if_ready` did) and of `shift` (with the
    notify it may raise) are left open: no invariant reads them. -/
inductive Eff (c : PCfg) (s : PSt) : Act → PSt → Res → Bool → Prop
  | err (a : Act) : (∀ it, a ≠ .arr it) → (a = .poll → s.nPoll = 0) → Eff c s a s .err false
  | accept (it : Item) : (push c.pol s.q it false false).2 = true →
      Eff c s (.arr it) { s with
        q := (push c.pol s.q it false false).1, acc := s.acc + 1,
        nNotify := if s.depth c = 0 then s.nNotify + 1 else s.nNotify } (.accepted true) false
  | refuse (it : Item) : (push c.pol s.q it false false).2 = false →
      Eff c s (.arr it) { s with q := (push c.pol s.q it false false).1, dropped := s.dropped + 1 } (.accepted false) false
  | notify (r : Res) : s.nNotify ≠ 0 → Eff c s .notify { s with nNotify := s.nNotify - 1 } r true
  | dequeue (it : Item) : s.nPoll ≠ 0 → (pop c.pol s.q 0 0).2 = some it →
      Eff c s .poll { s with nPoll := s.nPoll - 1, q := (pop c.pol s.q 0 0).1, delivers := s.delivers ++ [it.id] }
        (.popped (some it.id)) false
  | empty : s.nPoll ≠ 0 → (pop c.pol s.q 0 0).2 = none →
      Eff c s .poll { s with
        nPoll := s.nPoll - 1, q := (pop c.pol s.q 0 0).1,
        nEmpty := if c.variant = .repaired then s.nEmpty + 1 else s.nEmpty } (.popped none) false
  | hand (i : Nat) : i ∈ s.delivers →
      Eff c s (.deliver (some i)) { s with
        delivers := s.delivers.erase i, works := s.works ++ [i],
        nDisp := if c.variant = .repaired then s.nDisp + 1 else s.nDisp } .done false
  | answer (r : Res) : s.nEmpty ≠ 0 → Eff c s (.deliver none) { s with nEmpty := s.nEmpty - 1, busy := false } r s.recheck
  | disp (r : Res) : s.nDisp ≠ 0 → Eff c s .disp { s with nDisp := s.nDisp - 1, busy := false } r true
  | start (i : Nat) : i ∈ s.works → (c.worker = .shifted ∨ s.active < s.limit) →
      Eff c s (.work i) { s with works := s.works.erase i, active := s.active + 1, inService := s.inService ++ [i] }
        (.started true) false
  | reject (i : Nat) : i ∈ s.works → ¬ (c.worker = .shifted ∨ s.active < s.limit) →
      Eff c s (.work i) { s with works := s.works.erase i, rejected := s.rejected + 1 } (.started false) true
  | fin (i : Nat) : i ∈ s.inService →
      Eff c s (.fin i) { s with inService := s.inService.erase i, active := s.active - 1, completed := s.completed + 1 }
        .done true
  | shift (cap n : Nat) (r : Res) : Eff c s (.shift cap) { s with limit := cap, nNotify := n } r false

def after (c : PCfg) (b : PSt) (p : Bool) : PSt := if p then (pollIfReady c b).1 else b

theorem step_eff (c : PCfg) (s : PSt) (a : Act) :
    ∃ b p, Eff c s a b (step c s a).2 p ∧ (step c s a).1 = after c b p := by
  have no : ∀ {a : Act}, (∀ it, a ≠ .arr it) → (a = .poll → s.nPoll = 0) →
      ∃ b p, Eff c s a b Res.err p ∧ s = after c b p := fun h1 h2 => ⟨_, _, .err _ h1 h2, rfl⟩
  cases a with
  | arr it =>
    simp only [step, stepArr]
    split
    next h => exact ⟨_, _, .accept it h, by simp only [after, decide_eq_true_eq]; rfl⟩
    next h => exact ⟨_, _, .refuse it (by simpa using h), rfl⟩
  | notify =>
    simp only [step, stepNotify]
    split
    · exact no (fun _ e => nomatch e) (fun e => nomatch e)
    next h => exact ⟨_, _, .notify _ h, rfl⟩
  | poll =>
    simp only [step, stepPoll]
    split
    next h => exact no (fun _ e => nomatch e) (fun _ => h)
    next h =>
      split
      next it hit => exact ⟨_, _, .dequeue it h hit, rfl⟩
      next hit => cases hv : c.variant <;> exact ⟨_, false, .empty h hit, by rw [hv]; rfl⟩
  | deliver x =>
    cases x with
    | some i =>
      simp only [step, stepDeliver]
      split
      · exact no (fun _ e => nomatch e) (fun e => nomatch e)
      next h => cases hv : c.variant <;> exact ⟨_, false, .hand i (by simpa using h), by rw [hv]; rfl⟩
    | none =>
      simp only [step, stepDeliver]
      split
      · exact no (fun _ e => nomatch e) (fun e => nomatch e)
      next h =>
        split
        next hr => exact ⟨_, _, .answer _ h, by rw [after, if_pos hr]⟩
        next hr => exact ⟨_, _, .answer _ h, by rw [after, if_neg hr]⟩
  | work i =>
    simp only [step, stepWork]
    split
    · exact no (fun _ e => nomatch e) (fun e => nomatch e)
    next h =>
      have hm : i ∈ s.works := by simpa using h
      cases hw : c.worker with
      | shifted => exact ⟨_, _, .start i hm (.inl hw), rfl⟩
      | server =>
        simp only [hasCap, decide_eq_true_eq]
        split
        next hc => exact ⟨_, _, .start i hm (.inr hc), rfl⟩
        next hc => exact ⟨_, _, .reject i hm (fun h => h.elim (by simp [hw]) hc), rfl⟩
  | disp =>
    simp only [step, stepDisp]
    split
    · exact no (fun _ e => nomatch e) (fun e => nomatch e)
    next h => exact ⟨_, _, .disp _ h, rfl⟩
  | fin i =>
    simp only [step, stepFin]
    split
    · exact no (fun _ e => nomatch e) (fun e => nomatch e)
    next h => exact ⟨_, _, .fin i (by simpa using h), rfl⟩
  | shift cap =>
    simp only [step, stepShift]
    cases c.variant <;> simp only <;> (repeat' split) <;> exact ⟨_, false, .shift cap _ _, rfl⟩

/-- `_poll_if_ready` touches only the driver's `busy`, `recheck` and pending polls: what does not read
    them holds after a delivery if it holds of the state every rule builds -/
theorem step_ind {c : PCfg} {s : PSt} {a : Act} {I : PSt → Prop}
    (hp : ∀ b x r n, I b → I { b with busy := x, recheck := r, nPoll := n })
    (hb : ∀ b p, Eff c s a b (step c s a).2 p → I b) : I (step c s a).1 := by
  obtain ⟨b, p, d, e⟩ := step_eff c s a
  rw [e]
  cases p
  · exact hb b _ d
  · obtain ⟨x, r, n, f⟩ := pollIfReady_frame c b
    rw [after, if_pos rfl, f]
    exact hp b x r n (hb b _ d)

/-- everything except the no-strand clause.  `res`: a slot is spoken for from the moment the poll goes
    out until the payload starts, so the premise counts the poll, the delivery and the payload, not the
    dispatched note or the empty answer, behind which nothing is on its way any more. -/
structure PInv0 (c : PCfg) (s : PSt) : Prop where
  rt : s.nPoll + s.delivers.length + s.nEmpty + s.nDisp = (if s.busy then 1 else 0)
  wf : s.works.length ≤ s.nDisp
  res : 1 ≤ s.nPoll + s.delivers.length + s.works.length → s.active < s.limit
  act : s.active = s.inService.length
  le : s.active ≤ s.limit
  rej : s.rejected = 0
  count : s.acc = s.depth c + s.delivers.length + s.works.length + s.inService.length + s.completed

/-- some event of the driver's protocol is still to be delivered in this instant (an empty delivery
    counts only if it will make the driver ask again).  `NoStrand` below promises exactly this, written
    out: its conclusion and `Pending s` are the same disjunction, which is why `Eff.pinv` builds its
    members by position and `no_strand` can feed one to `quiescent_no_pending`. -/
def Pending (s : PSt) : Prop :=
  0 < s.nNotify ∨ 0 < s.nPoll ∨ 0 < s.delivers.length ∨ 0 < s.nDisp ∨ (0 < s.nEmpty ∧ s.recheck = true)

theorem quiescent_no_pending {s : PSt} (hq : quiescent s = true) : ¬ Pending s := by
  simp only [quiescent, Bool.and_eq_true, beq_iff_eq, List.isEmpty_iff] at hq
  obtain ⟨⟨⟨⟨⟨h1, h2⟩, h3⟩, h4⟩, h5⟩, h6⟩ := hq
  rw [Pending, h5]
  simp only [List.length_nil]
  omega

/-- whenever an item waits beside a free slot, some protocol event is still pending -/
def NoStrand (c : PCfg) (s : PSt) : Prop :=
  0 < s.depth c → s.active < s.limit →
    0 < s.nNotify ∨ 0 < s.nPoll ∨ 0 < s.delivers.length ∨ 0 < s.nDisp ∨ (0 < s.nEmpty ∧ s.recheck = true)

structure PInv (c : PCfg) (s : PSt) : Prop extends PInv0 c s where
  strand : NoStrand c s

theorem depth_init (c : PCfg) (lim : Nat) : PSt.depth c { limit := lim } = 0 := by
  unfold PSt.depth len
  cases c.pol.kind <;> rfl

theorem inv_init (c : PCfg) (lim : Nat) : PInv c { limit := lim } :=
  ⟨⟨rfl, Nat.le_refl _, fun h => absurd h (Nat.not_succ_le_zero 0), rfl, Nat.zero_le _, rfl, by rw [depth_init]; rfl⟩,
    fun h => absurd h (by rw [depth_init]; exact Nat.lt_irrefl 0)⟩

/-- one round trip (poll, delivery, its answer) is on its way exactly while the driver is busy -/
theorem PInv0.busy_iff {c : PCfg} {s : PSt} (h : PInv0 c s) :
    (s.busy = true ∧ s.nPoll + s.delivers.length + s.nEmpty + s.nDisp = 1) ∨
    (s.busy = false ∧ s.nPoll + s.delivers.length + s.nEmpty + s.nDisp = 0) := by
  have rt := h.rt
  cases hb : s.busy
  · exact .inr ⟨rfl, by simpa [hb] using rt⟩
  · exact .inl ⟨rfl, by simpa [hb] using rt⟩

theorem PInv0.transit_le_one {c : PCfg} {s : PSt} (h : PInv0 c s) : s.delivers.length + s.works.length ≤ 1 := by
  have := h.busy_iff
  have := h.wf
  omega

/-- the slot of a payload on its way to the worker was reserved when the poll went out: a `Server`
    never finds itself full when the payload arrives -/
theorem PInv0.reserved {c : PCfg} {s : PSt} (h : PInv0 c s) {i : Nat} (hm : i ∈ s.works) : s.active < s.limit :=
  h.res (by have := List.length_pos_of_mem hm; omega)

/-- after `_poll_if_ready` the no-strand clause holds whatever it was before -/
theorem pollIfReady_inv {c : PCfg} {s : PSt} (hv : c.variant = .repaired) (h : PInv0 c s) :
    PInv c (pollIfReady c s).1 := by
  obtain ⟨rt, wf, res, act, le, rej, count⟩ := h
  cases hb : s.busy with
  | true =>
    -- busy: the answer that will reset `busy` is pending, and `recheck` now makes it poll again
    rw [pollIfReady_busy hv hb]
    refine ⟨⟨rt, wf, res, act, le, rej, count⟩, fun _ _ => ?_⟩
    rw [hb, if_pos rfl] at rt
    dsimp only
    simp only [and_true]
    omega
  | false =>
    rw [hb, if_neg (by decide)] at rt
    by_cases hc : s.active < s.limit
    · rw [pollIfReady_fire hv hb hc]
      exact ⟨⟨by dsimp only; rw [if_pos rfl]; omega, wf, fun _ => hc, act, le, rej, count⟩,
        fun _ _ => .inr (.inl (Nat.succ_pos _))⟩
    · rw [pollIfReady_idle hv hb hc]
      exact ⟨⟨by rw [hb, if_neg (by decide)]; exact rt, wf, res, act, le, rej, count⟩, fun _ hlt => absurd hlt hc⟩

end HappyModel.C08.Pipe
