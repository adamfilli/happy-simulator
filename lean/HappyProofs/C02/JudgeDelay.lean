import HappyProofs.C02.Qual
import HappyProofs.C02.Init
import HappyModel.C02.Spec
/-!
# C02 — the delay clauses of the trace Spec are silent on the trace of the process model

`Spec.delayMonitor` reads the `y` lines (a process yielded a delay: tag, pid, due time) and the tagged `R` lines (a
process was resumed by a delay continuation) of a trace.  `delayView` is the `R` / `y` / `w` part of the trace of the
model itself, written along `run`: when a continuation event of process `pid` is delivered and the process takes a step,
the line `R now pid value tag` (what `segStart` logs as `Obs.resume`, see `rLine`); then one line `y tag pid time` for every
tagged continuation the handler invocation created (the `yield delay` terminators; continuations created by
`SimFuture._resume` carry no tag); then the `w` line of a segment that ends by yielding a future (the wait clause of
`JudgeWait.lean` reads it, the delay clauses skip it).
-/
namespace HappyModel.C01
open HappyModel.C02.Spec (Line DSt delayStep delayMonitor)

/-- a continuation created by a `yield delay` (it carries a harness tag) -/
def tcSpec (sp : Spec) : Bool := sp.data != 0 && sp.tag != 0
def tcEv (e : Ev) : Bool := e.data != 0 && e.tag != 0

def yLines (specs : List Spec) : List Line :=
  (specs.filter tcSpec).map (fun sp => Line.ydelay sp.tag (sp.data - 1) sp.time)

/-- the guard mirrors the model: `runSegment` does nothing for a process without code left, and `segStart` logs
    `Obs.resume` (with `p.send`) only for a started one — by inspection, no lemma relates the line to the log -/
def rLine (ps : PS) (m : Ev) : List Line :=
  if m.data = 0 then []
  else match ps.procs[m.data - 1]? with
    | some p => if p.started && !p.segs.isEmpty then [Line.resume m.time (m.data - 1) p.send.show m.tag] else []
    | none => []

def termLines (e : Eff) (pid : Nat) : List Line :=
  match e.ps.procs[pid]? with
  | some p =>
    match p.segs with
    | seg :: _ =>
      match seg.term with
      | .yieldF f => [Line.wait pid f p.daemon]
      | _ => []
    | [] => []
  | none => []

/-- (same case split as `procEff`) -/
def wLine (ps : PS) (now : Nat) (ev : Ev) : List Line :=
  if ev.data = 0 then
    match ps.defs.find? (fun d => d.ent == ev.target && d.kind == ev.kind) with
    | none => []
    | some d =>
      termLines (spawn (addObs { ps := ps } (.start now ev.target ev.kind ev.tag)) (newProc ps ev d)) ps.procs.length
  else termLines { ps := ps } (ev.data - 1)

/-- the lines of one delivery (a segment ends in at most one of `yield delay` / `yield future`) -/
def delayLines (s : St PS) (m : Ev) : List Line :=
  rLine s.ent m ++ yLines (procEff s.ent m.time m).specs ++ wLine s.ent m.time m

theorem termLines_waits (e : Eff) (pid : Nat) : ∀ l ∈ termLines e pid, ∃ p f dm, l = Line.wait p f dm := by
  intro l hl
  unfold termLines at hl
  split at hl
  · split at hl
    · split at hl
      · exact ⟨_, _, _, List.mem_singleton.mp hl⟩
      · cases hl
    · cases hl
  · cases hl

theorem wLine_waits (ps : PS) (now : Nat) (ev : Ev) : ∀ l ∈ wLine ps now ev, ∃ p f dm, l = Line.wait p f dm := by
  unfold wLine
  split
  · split
    · intro l hl; cases hl
    · exact termLines_waits _ _
  · exact termLines_waits _ _

theorem wLine_delay (ps : PS) (now : Nat) (ev : Ev) (d : DSt) : (wLine ps now ev).foldl delayStep d = d :=
  foldl_fixed _ _ _ (fun l hl => by obtain ⟨p, f, dm, rfl⟩ := wLine_waits ps now ev l hl; rfl)

def viewStep (s : St PS) (ls : List Line) (m : Ev) : List Line :=
  if s.cancelled.contains m.id then ls
  else if m.time < s.now then ls
  else if procMachine.crashed s.ent m then ls
  else ls ++ delayLines s m

def viewRun (endT : Option Nat) : Nat → St PS → List Line → List Line
  | 0, _, ls => ls
  | n+1, s, ls =>
    match s.heap with
    | [] => ls
    | x :: xs =>
      if continues endT s then viewRun endT n (stepWith procMachine s (minOf x xs)) (viewStep s ls (minOf x xs))
      else ls

def delayView (endT : Option Nat) (n : Nat) (s0 : St PS) : List Line := viewRun endT n s0 []

theorem rLine_cases (ps : PS) (m : Ev) :
    rLine ps m = [] ∨ ∃ p, m.data ≠ 0 ∧ ps.procs[m.data - 1]? = some p ∧ (p.started && !p.segs.isEmpty) = true ∧
      rLine ps m = [Line.resume m.time (m.data - 1) p.send.show m.tag] := by
  unfold rLine
  by_cases hd : m.data = 0
  · exact Or.inl (if_pos hd)
  · rw [if_neg hd]
    cases hp : ps.procs[m.data - 1]? with
    | none => exact Or.inl rfl
    | some p =>
      by_cases hs : (p.started && !p.segs.isEmpty) = true
      · exact Or.inr ⟨p, hd, rfl, hs, if_pos hs⟩
      · exact Or.inl (if_neg hs)

/-- at most one tagged continuation, with a tag handed out during this invocation, for a process with nothing to
    be sent -/
def HC (base : Nat) (r : Eff) : Prop :=
  base ≤ r.ps.tagc ∧
  (r.specs.filter tcSpec = [] ∨ ∃ sp, r.specs.filter tcSpec = [sp] ∧ base < sp.tag ∧ sp.tag ≤ r.ps.tagc ∧
    ∀ p, r.ps.procs[sp.data - 1]? = some p → p.send = .none)

theorem HC.tags {base : Nat} {r : Eff} (h : HC base r) :
    ((r.specs.filter tcSpec).map (·.tag)).Nodup ∧ ∀ sp ∈ r.specs.filter tcSpec, base < sp.tag ∧ sp.tag ≤ r.ps.tagc ∧
      ∀ p, r.ps.procs[sp.data - 1]? = some p → p.send = .none := by
  rcases h.2 with hnil | ⟨sp, hone, hsp⟩
  · rw [hnil]; exact ⟨List.nodup_nil, fun sp hsp => nomatch hsp⟩
  · rw [hone]
    exact ⟨List.pairwise_singleton _ _, fun x hx => by rw [List.mem_singleton.mp hx]; exact hsp⟩

theorem termLines_idle {e : Eff} {pid : Nat} (h : ∀ p, e.ps.procs[pid]? = some p → p.segs = []) : termLines e pid = [] := by
  unfold termLines
  cases hp : e.ps.procs[pid]? with
  | none => rfl
  | some p => simp only [h p hp]

def termLine (pid : Nat) (dm : Bool) : Term → List Line
  | .yieldF f => [Line.wait pid f dm]
  | _ => []

theorem termLines_cons {e : Eff} {pid : Nat} {p : Proc} {seg : Seg} {rest : List Seg} (hp : e.ps.procs[pid]? = some p)
    (hs : p.segs = seg :: rest) : termLines e pid = termLine pid p.daemon seg.term := by
  simp only [termLines, hp, hs]
  cases seg.term <;> rfl

def waitPids (ls : List Line) : List Nat :=
  ls.filterMap (fun l => match l with | .wait pid _ _ => some pid | _ => none)

section post
variable {Pk : Nat → Prop} {S : Nat → Val} {base : Nat}

theorem Qual.untagged {e : Eff} (h : Qual Pk S base e) : e.specs.filter tcSpec = [] :=
  List.filter_eq_nil_iff.mpr (fun sp hsp => Bool.not_eq_true _ ▸
    (h.conts sp hsp).elim (fun h1 => by simp [tcSpec, h1]) (fun h2 => by simp [tcSpec, h2.1]))

/-- what the delay and the wait clauses need of the effect of an invocation that ran process `me` and wrote the `w` lines
    `wl`: at most one tagged continuation; a process other than `me` that was not entitled to a resumption by a future is
    parked nowhere and is sent what it was to be sent; a process with an untagged continuation, or parked, was entitled
    or has a `w` line -/
structure Post (Pk : Nat → Prop) (S : Nat → Val) (base me : Nat) (wl : List Line) (r : Eff) : Prop where
  hc : HC base r
  quiet : ∀ q, q ≠ me → ¬ Pk q →
    (∀ f, (futGet r.ps.futs f).parked ≠ some q) ∧ ∀ p, r.ps.procs[q]? = some p → p.send = S q
  pend : ∀ q, pendingU r q → q ∈ waitPids wl ∨ Pk q

theorem Qual.post {e : Eff} (h : Qual Pk S base e) (me : Nat) (wl : List Line) : Post Pk S base me wl e :=
  ⟨⟨h.tagc, Or.inl h.untagged⟩, fun _ _ hk => h.quiet hk, fun _ hq => Or.inr (h.pend hq)⟩

theorem Post.congrS {S' : Nat → Val} {me : Nat} {wl : List Line} {r : Eff} (h : Post Pk S' base me wl r)
    (hS : ∀ q, q ≠ me → S' q = S q) : Post Pk S base me wl r :=
  ⟨h.hc, fun q hne hk => (h.quiet q hne hk).imp_right (fun hs p hp => (hs p hp).trans (hS q hne)), h.pend⟩

/-- the terminator: `yield delay` creates the one tagged continuation, `yield future` entitles the process itself -/
theorem segTerm_post (now : Nat) (e1 : Eff) (me : Nat) (p1 : Proc) (rest : List Seg) (t : Term) (h : Qual Pk S base e1)
    (hS : S me = .none) (hp1 : p1.send = .none) :
    Post Pk S base me (termLine me p1.daemon t) (segTerm now e1 me p1 rest t) := by
  have h2 : ∀ x : Proc, x.send = .none → Qual Pk S base (e1.setProc me x) :=
    fun x hx => h.setProc me x (hS.trans hx.symm) (fun _ _ => rfl)
  cases t with
  | yieldD d =>
    have h3 := h2 { p1 with segs := rest } hp1
    refine ⟨⟨Nat.le_succ_of_le h3.tagc, Or.inr ⟨{ contSpec p1 me (now + d) with tag := e1.ps.tagc + 1 }, ?_,
      Nat.lt_succ_of_le h3.tagc, Nat.le_refl _, ?_⟩⟩, fun _ _ hk => h3.quiet hk, ?_⟩
    · show (_ ++ [_]).filter tcSpec = _
      rw [List.filter_append, h3.untagged]
      rfl
    · intro p hp
      rw [((getElem?_set_cases (show (e1.ps.procs.set me { p1 with segs := rest })[me]? = some p from hp)).resolve_right
        (fun h => h.1 rfl)).2]
      exact hp1
    · rintro q (⟨sp, hsp, hd, ht⟩ | hpk)
      · rcases List.mem_append.mp (show sp ∈ e1.specs ++ [_] from hsp) with hsp | hsp
        · exact Or.inr (h3.pend (Or.inl ⟨sp, hsp, hd, ht⟩))
        · rw [List.mem_singleton.mp hsp] at ht; cases ht
      · exact Or.inr (h3.pend (Or.inr hpk))
  | yieldF f =>
    have h3 : Qual (fun q => Pk q ∨ q = me) S base ((e1.setProc me { p1 with segs := rest }).setFut f
        { futGet (e1.setProc me { p1 with segs := rest }).ps.futs f with parked := some me }) :=
      ((h2 { p1 with segs := rest } hp1).mono (fun _ => Or.inl)).setFut f _ (fun q hq => Or.inr (Option.some.inj hq).symm)
    have conv : ∀ r, Qual (fun q => Pk q ∨ q = me) S base r → Post Pk S base me [Line.wait me f p1.daemon] r := fun r hr =>
      ⟨⟨hr.tagc, Or.inl hr.untagged⟩, fun q hne hk => hr.quiet (fun hq => hq.elim hk hne),
        fun q hq => (hr.pend hq).symm.imp_left (fun (heq : q = me) => heq ▸ List.mem_cons_self ..)⟩
    simp only [segTerm]
    split
    · exact conv _ (h3.resumeParked now f)
    · exact conv _ h3
  | ret =>
    exact (runHooks_closed (Qual_closed Pk S base) now _ _
      ((h2 { p1 with segs := [], done := true, hooks := [] } hp1).frame)).post me []

theorem runSegment_post (now : Nat) (e : Eff) (me tag : Nat) (h : Qual Pk S base e) :
    Post Pk S base me (termLines e me) (runSegment now e me tag) := by
  rcases runSegment_cases now e me tag with ⟨he, hidle⟩ | ⟨p, seg, rest, hp, hs, he⟩
  · rw [he, termLines_idle hidle]; exact h.post me []
  · rw [he, termLines_cons hp hs]
    -- the running process consumes the value it was sent
    have h0 : Qual Pk (fun q => if q = me then .none else S q) base (segStart now e me tag p) := by
      unfold segStart
      refine Qual.frame (e := (if p.started then addObs e (.resume now me p.send tag) else e).setProc me
        { p with started := true, send := .none }) ?_
      split <;> exact Qual.setProc (by first | exact h.frame | exact h) me _ (if_pos rfl) (fun q hq => if_neg hq)
    exact (segTerm_post now _ me { p with started := true, send := .none } rest seg.term
      (acts_closed (Qual_closed _ _ _) now seg.acts _ h0) (if_pos rfl) rfl).congrS (fun q hq => if_neg hq)

/-- `me`: the process the invocation runs (a fresh id if it runs none) -/
theorem procEff_post (ps : PS) (now : Nat) (ev : Ev) (h : Qual Pk S ps.tagc ({ ps := ps } : Eff)) :
    Post Pk S ps.tagc (if ev.data = 0 then ps.procs.length else ev.data - 1) (wLine ps now ev) (procEff ps now ev) := by
  rcases procEff_cases ps now ev with ⟨hd, hf, he⟩ | ⟨d, hd, hf, he⟩ | ⟨hd, he⟩
  · simp only [he, wLine, hd, hf, if_true]
    exact (runHooks_closed (Qual_closed _ _ _) now _ _ h.frame).post _ []
  · simp only [he, wLine, hd, hf, if_true]
    refine (runSegment_post now _ _ 0 (S := fun q => if q = ps.procs.length then .none else S q) ?_).congrS
      (fun q hq => if_neg hq)
    refine ⟨h.conts, h.parks, ?_, h.tagc, h.held⟩
    intro q p hq hc
    rcases getElem?_concat_cases (show (ps.procs ++ [newProc ps ev d])[q]? = some p from hq) with ⟨hlt, hq'⟩ | ⟨rfl, rfl⟩
    · exact (h.sends q p hq' hc).trans (if_neg (Nat.ne_of_lt hlt)).symm
    · exact (if_pos rfl).symm
  · simp only [he, wLine, hd, if_false]
    exact runSegment_post now _ _ _ h

end post

theorem resume_ok (d : DSt) (pid tag clk : Nat) (htag : tag ≠ 0)
    (hmem : (pid, tag, clk) ∈ d.delays) (hnd : (d.delays.map (·.2.1)).Nodup) :
    delayStep d (.resume clk pid "none" tag)
      = { d with delays := d.delays.filter (fun x => !(x.1 == pid && x.2.1 == tag)) } := by
  have ht : (tag != 0) = true := by simp [htag]
  simp only [delayStep, ht, if_true]
  cases hf : d.delays.find? (fun x => x.1 == pid && x.2.1 == tag) with
  | none =>
    exfalso
    have := (List.find?_eq_none.mp hf) (pid, tag, clk) hmem
    simp at this
  | some d0 =>
    have hd0 := List.mem_of_find?_eq_some hf
    have hp0 := List.find?_some hf
    simp only [Bool.and_eq_true, beq_iff_eq] at hp0
    have heq : d0 = (pid, tag, clk) :=
      inj_of_nodup_map (fun x : Nat × Nat × Nat => x.2.1) hnd hd0 hmem (by simp [hp0.2])
    have hnr : ("none" : String).startsWith "raised:" = false := by decide
    simp [heq, hnr]

theorem resume_untagged (d : DSt) (pid clk : Nat) (val : String) :
    delayStep d (.resume clk pid val 0) = d := by
  simp [delayStep]

theorem mkEvents_tc_tags (n t : Nat) (specs : List Spec) :
    ((mkEvents n t specs).filter tcEv).map (·.tag) = (specs.filter tcSpec).map (·.tag) := by
  induction specs generalizing n with
  | nil => rfl
  | cons a r ih =>
    simp only [mkEvents, List.filter_cons]
    have : tcEv ⟨n, a.time, a.target, a.kind, a.daemon, a.data, t, a.tag⟩ = tcSpec a := rfl
    rw [this]
    cases tcSpec a <;> simp [ih]

theorem mkEvents_tc_mem (n t : Nat) (specs : List Spec) :
    ∀ e ∈ mkEvents n t specs, tcEv e = true →
      ∃ sp ∈ specs.filter tcSpec, e.data = sp.data ∧ e.tag = sp.tag ∧ e.time = sp.time := by
  intro e he htc
  obtain ⟨sp, hsp, h1, h2, h3⟩ := mkEvents_mem n t specs e he
  exact ⟨sp, List.mem_filter.mpr ⟨hsp, by unfold tcSpec; rw [← h1, ← h2]; exact htc⟩, h1, h2, h3⟩

/-- the pending tagged continuations are in the monitor's table of delays.  Tags stay distinct because an invocation hands
    out its tags above the counter it began with (`HC`: `base < sp.tag ≤ tagc`), which bounds every tag of the table and of
    the heap (`tagsLe`, `heapLe`) -/
structure DI (heap : List Ev) (ps : PS) (d : DSt) : Prop where
  err : d.err = none
  pend : ∀ ev ∈ heap, tcEv ev = true → (ev.data - 1, ev.tag, ev.time) ∈ d.delays
  tagsLe : ∀ x ∈ d.delays, x.2.1 ≤ ps.tagc
  nodup : (d.delays.map (·.2.1)).Nodup
  heapLe : ∀ ev ∈ heap, tcEv ev = true → ev.tag ≤ ps.tagc
  heapNd : ((heap.filter tcEv).map (·.tag)).Nodup
  sendNone : ∀ ev ∈ heap, tcEv ev = true → ∀ p, ps.procs[ev.data - 1]? = some p → p.send = .none

theorem DI_erase {heap : List Ev} {ps : PS} {d : DSt} (m : Ev) (h : DI heap ps d) : DI (heap.erase m) ps d :=
  { err := h.err, pend := fun ev he => h.pend ev (List.mem_of_mem_erase he), tagsLe := h.tagsLe, nodup := h.nodup,
    heapLe := fun ev he => h.heapLe ev (List.mem_of_mem_erase he),
    heapNd := ((List.erase_sublist).filter _ |>.map _).nodup h.heapNd,
    sendNone := fun ev he => h.sendNone ev (List.mem_of_mem_erase he) }

theorem DI_rLine (s : St PS) (d : DSt) (m : Ev) (hm : m ∈ s.heap) (inv : Inv s) (h : DI s.heap s.ent d) :
    ((rLine s.ent m).foldl delayStep d).err = none ∧
    (∀ x ∈ ((rLine s.ent m).foldl delayStep d).delays, x ∈ d.delays) ∧
    (((rLine s.ent m).foldl delayStep d).delays.map (·.2.1)).Nodup ∧
    (∀ ev ∈ s.heap.erase m, tcEv ev = true →
      (ev.data - 1, ev.tag, ev.time) ∈ ((rLine s.ent m).foldl delayStep d).delays) := by
  have keep : d.err = none ∧ (∀ x ∈ d.delays, x ∈ d.delays) ∧ (d.delays.map (·.2.1)).Nodup ∧
      (∀ ev ∈ s.heap.erase m, tcEv ev = true → (ev.data - 1, ev.tag, ev.time) ∈ d.delays) :=
    ⟨h.err, fun x hx => hx, h.nodup, fun ev he htc => h.pend ev (List.mem_of_mem_erase he) htc⟩
  rcases rLine_cases s.ent m with hr | ⟨p, hd, hp, _, hr⟩
  · rw [hr]; exact keep
  · rw [hr, List.foldl_cons, List.foldl_nil]
    by_cases htag : m.tag = 0
    · rw [htag, resume_untagged]; exact keep
    · have htc : tcEv m = true := by simp [tcEv, hd, htag]
      have hsend : p.send.show = "none" := by rw [h.sendNone m hm htc p hp]; rfl
      rw [hsend, resume_ok d (m.data - 1) m.tag m.time htag (h.pend m hm htc) h.nodup]
      refine ⟨h.err, fun x hx => (List.mem_filter.mp hx).1, ((List.filter_sublist).map _).nodup h.nodup, ?_⟩
      intro ev he hev
      refine List.mem_filter.mpr ⟨h.pend ev (List.mem_of_mem_erase he) hev, ?_⟩
      -- another pending tagged continuation carries another tag
      have hne : ev.tag ≠ m.tag := by
        intro heq
        have := inj_of_nodup_map (fun e : Ev => e.tag) h.heapNd
          (List.mem_filter.mpr ⟨List.mem_of_mem_erase he, hev⟩) (List.mem_filter.mpr ⟨hm, htc⟩) heq
        exact ne_id_of_mem_erase inv.nodup hm he (by rw [this])
      simp [hne]

theorem yLines_fold (specs : List Spec) (d : DSt) :
    (yLines specs).foldl delayStep d =
      { d with delays := ((specs.filter tcSpec).map (fun sp => (sp.data - 1, sp.tag, sp.time))).reverse ++ d.delays } := by
  unfold yLines
  induction specs.filter tcSpec generalizing d with
  | nil => rfl
  | cons sp r ih =>
    rw [List.map_cons, List.foldl_cons, ih, List.map_cons, List.reverse_cons, List.append_assoc]
    rfl

/-- (the processes with a pending delay continuation are not parked, and another process runs: they keep having nothing
    to be sent) -/
theorem deliver_HC (s : St PS) (m : Ev) (hm : m ∈ s.heap) (pinv : ProcInv s)
    (h : ∀ ev ∈ s.heap, tcEv ev = true → ∀ p, s.ent.procs[ev.data - 1]? = some p → p.send = .none) :
    HC s.ent.tagc (procEff s.ent m.time m) ∧
    ∀ ev ∈ s.heap.erase m ++ mkEvents s.nextId m.time (procEff s.ent m.time m).specs, tcEv ev = true →
      ∀ p, (procEff s.ent m.time m).ps.procs[ev.data - 1]? = some p → p.send = .none := by
  have post := procEff_post s.ent m.time m (Qual_init s.ent pinv.heldPlain)
  refine ⟨post.hc, fun ev he htc p hp => ?_⟩
  rcases List.mem_append.mp he with he | he
  · have hev := List.mem_of_mem_erase he
    have hd : ev.data ≠ 0 := by
      intro h0; rw [tcEv, h0] at htc; cases htc
    have hne : ev.data - 1 ≠ (if m.data = 0 then s.ent.procs.length else m.data - 1) := by
      split
      · have := pinv.heapProc ev hev; omega
      · rename_i hmd
        have := (cont_sole s m pinv hm hmd).1 ev he
        omega
    rw [(post.quiet _ hne (fun ⟨f, hf⟩ => cont_not_parked s ev pinv hev hd f hf)).2 p hp]
    cases hq : s.ent.procs[ev.data - 1]? with
    | none => rfl
    | some p0 => exact h ev hev htc p0 hq
  · obtain ⟨sp, hsp, h1, _, _⟩ := mkEvents_tc_mem _ _ _ ev he htc
    exact (post.hc.tags.2 sp hsp).2.2 p (by rw [← h1]; exact hp)

theorem DI_deliver (s : St PS) (d : DSt) (m : Ev) (hm : m ∈ s.heap) (inv : Inv s) (pinv : ProcInv s)
    (h : DI s.heap s.ent d) :
    DI (s.heap.erase m ++ mkEvents s.nextId m.time (procEff s.ent m.time m).specs) (procEff s.ent m.time m).ps
      ((delayLines s m).foldl delayStep d) := by
  obtain ⟨hc, hsend⟩ := deliver_HC s m hm pinv h.sendNone
  have hbase := hc.1
  obtain ⟨hN, hT⟩ := hc.tags
  obtain ⟨hr1, hr2, hr3, hr4⟩ := DI_rLine s d m hm inv h
  unfold delayLines
  rw [List.foldl_append, List.foldl_append, wLine_delay, yLines_fold]
  generalize (rLine s.ent m).foldl delayStep d = d1 at hr1 hr2 hr3 hr4
  generalize procEff s.ent m.time m = r at hsend hbase hN hT
  have hnew : ∀ ev ∈ mkEvents s.nextId m.time r.specs, tcEv ev = true →
      ∃ sp ∈ r.specs.filter tcSpec, (ev.data - 1, ev.tag, ev.time) = (sp.data - 1, sp.tag, sp.time) := by
    intro ev he htc
    obtain ⟨sp, hsp, h1, h2, h3⟩ := mkEvents_tc_mem _ _ _ ev he htc
    exact ⟨sp, hsp, by rw [h1, h2, h3]⟩
  have hold : ∀ x ∈ d1.delays, x.2.1 ≤ s.ent.tagc := fun x hx => h.tagsLe x (hr2 x hx)
  refine { err := hr1, pend := ?_, tagsLe := ?_, nodup := ?_, heapLe := ?_, heapNd := ?_, sendNone := hsend }
  · intro ev he htc
    rcases List.mem_append.mp he with he | he
    · exact List.mem_append_right _ (hr4 ev he htc)
    · obtain ⟨sp, hsp, heq⟩ := hnew ev he htc
      exact List.mem_append_left _ (List.mem_reverse.mpr (List.mem_map.mpr ⟨sp, hsp, heq.symm⟩))
  · intro x hx
    rcases List.mem_append.mp hx with hx | hx
    · obtain ⟨sp, hsp, rfl⟩ := List.mem_map.mp (List.mem_reverse.mp hx)
      exact (hT sp hsp).2.1
    · exact Nat.le_trans (hold x hx) hbase
  · rw [List.map_append, List.map_reverse, List.map_map]
    refine List.nodup_append.mpr ⟨(List.reverse_perm _).nodup_iff.mpr hN, hr3, ?_⟩
    intro a ha b hb heq
    obtain ⟨sp, hsp, rfl⟩ := List.mem_map.mp (List.mem_reverse.mp ha)
    obtain ⟨x, hx, rfl⟩ := List.mem_map.mp hb
    have := (hT sp hsp).1
    have := hold x hx
    simp only [Function.comp] at heq
    omega
  · intro ev he htc
    rcases List.mem_append.mp he with he | he
    · exact Nat.le_trans (h.heapLe ev (List.mem_of_mem_erase he) htc) hbase
    · obtain ⟨sp, hsp, heq⟩ := hnew ev he htc
      rw [(Prod.mk.inj (Prod.mk.inj heq).2).1]; exact (hT sp hsp).2.1
  · rw [List.filter_append, List.map_append, mkEvents_tc_tags]
    refine List.nodup_append.mpr ⟨((List.erase_sublist).filter _ |>.map _).nodup h.heapNd, hN, ?_⟩
    intro a ha b hb heq
    obtain ⟨ev, hev, rfl⟩ := List.mem_map.mp ha
    obtain ⟨sp, hsp, rfl⟩ := List.mem_map.mp hb
    have hm' := List.mem_filter.mp hev
    have := h.heapLe ev (List.mem_of_mem_erase hm'.1) hm'.2
    have := (hT sp hsp).1
    omega

theorem viewRun_isView (endT : Option Nat) : IsView endT delayLines (viewRun endT) := ⟨fun _ _ => rfl, fun _ _ _ => rfl⟩

theorem DI_run (endT : Option Nat) (n : Nat) (s : St PS) (ls : List Line) (inv : Inv s) (pinv : ProcInv s)
    (h : DI s.heap s.ent (ls.foldl delayStep {})) :
    DI (run procMachine endT n s).heap (run procMachine endT n s).ent ((viewRun endT n s ls).foldl delayStep {}) :=
  run_view (viewRun_isView endT) (I := fun s => Inv s ∧ ProcInv s)
    (P := fun s ls => DI s.heap s.ent (ls.foldl delayStep {}))
    (fun s m hm hmin i => ⟨stepWith_inv procMachine s m hm hmin i.1, step_procInv s m i.2 hm⟩)
    (fun s ls m s' i h k => by rw [k.heap, k.ent]; exact DI_erase m h)
    (fun s ls m s' hm i h k => by rw [k.heap, k.ent, List.foldl_append]; exact DI_deliver s _ m hm i.1 i.2 h)
    n s ls ⟨inv, pinv⟩ h

theorem DI_init (s : St PS) (h0 : InitOk s) : DI s.heap s.ent ({} : DSt) := by
  have hno : ∀ ev ∈ s.heap, tcEv ev = false := fun ev he => by simp [tcEv, h0.heapPlain ev he]
  have hcon : ∀ {P : Prop} (ev : Ev), ev ∈ s.heap → tcEv ev = true → P := fun ev he htc => by
    rw [hno ev he] at htc; cases htc
  exact { err := rfl, pend := fun ev he htc => hcon ev he htc, tagsLe := by simp, nodup := by simp,
          heapLe := fun ev he htc => hcon ev he htc,
          heapNd := by rw [List.filter_eq_nil_iff.mpr (fun e he => by simp [hno e he])]; simp,
          sendNone := fun ev he htc => hcon ev he htc }

/-- **the delay clauses of the C02 judge are silent on the trace of the model**: for every handler
    table and every initial state with plain pending events (`InitOk`, e.g. the initial state of any
    parsed program) satisfying the engine invariant, every end time and number of iterations, a
    process resumed by a delay continuation had yielded exactly that delay (same process, same tag) and
    is resumed at exactly the due time written down at the yield, and receives `None` (nothing is raised
    into it) — `delayMonitor` raises none of `process/resumed-without-pending-delay`,
    `process/delay-resume-at-wrong-time`, `process/delay-resume-raised`, `process/delay-resume-with-value` -/
theorem delay_clauses_silent_on_model (endT : Option Nat) (n : Nat) (s0 : St PS) (inv : Inv s0) (h0 : InitOk s0) :
    delayMonitor (delayView endT n s0) = none :=
  (DI_run endT n s0 [] inv h0.procInv (DI_init s0 h0)).err

theorem delay_clauses_silent_on_program (p : Program) (gateCont : Bool) (hp : p.Plain) (endT : Option Nat) (n : Nat) :
    delayMonitor (delayView endT n (p.initState gateCont)) = none :=
  delay_clauses_silent_on_model endT n _ (initState_inv p gateCont) (initState_ok p gateCont hp)

/-- the lines the delay monitor reads (`delayStep_skip`) -/
def isDelayLine : Line → Bool
  | .ydelay _ _ _ => true
  | .resume _ _ _ _ => true
  | _ => false

theorem delayStep_skip (d : DSt) (l : Line) (h : isDelayLine l = false) : delayStep d l = d := by
  cases l <;> first | rfl | cases h

theorem delayMonitor_filter (ls : List Line) : delayMonitor ls = delayMonitor (ls.filter isDelayLine) :=
  congrArg DSt.err (foldl_filter_of_skip delayStep isDelayLine delayStep_skip ls {})

end HappyModel.C01
