import HappyProofs.C16.TRawStart
/-!
Multi-tier read-after-write over every interleaving: the later segments that complete a read — the tier get of a
`get`, the backing-store read of a miss, a direct tier read.
-/
namespace HappyModel.C16.Tier
open HappyModel.C16

/-- tier-level code ran on the clean tier `s`: the tier is clean, its continuations are old ones, its entries are
old ones or satisfy `nv` -/
structure TKept (nv : Key → Nat → Prop) (s s' : St) : Prop where
  dirty : s'.dirty = []
  pendSub : ∀ x ∈ s'.pend, x ∈ s.pend
  cache : ∀ x w, aget? s'.cache x = some w → aget? s.cache x = some w ∨ nv x w

theorem TKept.refl {nv : Key → Nat → Prop} {s : St} (h : s.dirty = []) : TKept nv s s :=
  ⟨h, fun _ hx => hx, fun _ _ hw => Or.inl hw⟩

structure TierRes (s : St) (b : List (Key × Nat)) (i : Nat) (X : St × Option Res) : Prop
    extends TKept (fun x w => aget? b x = some w) s X.1 where
  pendNo : ∀ x ∈ X.1.pend, x.1 ≠ i
  out : (X.1.back = b ∧ (X.2 = none ∨ (∃ v, (i, Pend.getHit v) ∈ s.pend ∧ X.2 = some (.val v)) ∨
          ∃ k e, (i, Pend.getMiss k e) ∈ s.pend ∧ X.2 = some (resOf (aget? b k)))) ∨
        ∃ k v, (i, Pend.putWT k v) ∈ s.pend ∧ X.1.back = aset b k v

theorem tier_resume {g : Gh} {t : Nat} (c : Cfg) (s : St) (b : List (Key × Nat)) (i now : Nat)
    (hd : s.dirty = []) (htp : TP g t s) : TierRes s b i (step c (plug s b) (.resume i now)) := by
  have hpl : (plug s b).dirty = [] := hd
  unfold step
  cases hf : (plug s b).pend.find? (fun x => x.1 == i) with
  | none =>
    simp only [hf]
    have hno : ∀ x ∈ s.pend, x.1 ≠ i := by
      intro x hx e
      have := List.find?_eq_none.mp hf x hx
      simp [e] at this
    exact ⟨⟨hd, fun x hx => hx, fun x w hw => Or.inl hw⟩, hno, Or.inl ⟨rfl, Or.inl rfl⟩⟩
  | some y =>
    obtain ⟨j, q⟩ := y
    simp only [hf]
    have hmem : (j, q) ∈ s.pend := List.mem_of_find?_eq_some hf
    have hj : j = i := by simpa using List.find?_some hf
    subst hj
    have hclr : ∀ x ∈ ((plug s b).clearPend j).pend, x ∈ s.pend ∧ x.1 ≠ j := by
      intro x hx
      exact mem_clear.mp hx
    rcases (htp _ hmem).2 with ⟨v, e⟩ | ⟨k, e', e⟩ | ⟨k, v, e, _⟩
    · simp only at e; subst e
      exact ⟨⟨hd, fun x hx => (hclr x hx).1, fun x w hw => Or.inl hw⟩, fun x hx => (hclr x hx).2,
        Or.inl ⟨rfl, Or.inr (Or.inl ⟨v, hmem, rfl⟩)⟩⟩
    · simp only at e; subst e
      obtain ⟨⟨nw, ts, hnw⟩, hp, hr⟩ := resume_getMiss_clean c (plug s b) j k e' now hpl
      refine ⟨⟨ts.dirty, ?_, ?_⟩, ?_, Or.inl ⟨ts.back, Or.inr (Or.inr ⟨k, e', hmem, hr⟩)⟩⟩
      · intro x hx; rw [hp] at hx; exact (hclr x hx).1
      · intro x w hw
        rcases ts.cache x w hw with h' | h'
        · exact Or.inl h'
        · obtain ⟨rfl, hb, _⟩ := hnw x w h'
          exact Or.inr hb
      · intro x hx; rw [hp] at hx; exact (hclr x hx).2
    · simp only at e; subst e
      obtain ⟨h1, h2, h3, h4, h5⟩ := resume_putWT_clean c (plug s b) j k v now
      refine ⟨⟨h2.trans hd, ?_, ?_⟩, ?_, Or.inr ⟨k, v, hmem, h3⟩⟩
      · intro x hx; rw [h4] at hx; exact (hclr x hx).1
      · intro x w hw; rw [h1] at hw; exact Or.inl hw
      · intro x hx; rw [h4] at hx; exact (hclr x hx).2

/-- the continuation part of the invariant after the continuation of `i` ran: `extra` is what it
    left (`putL1` after `putBack`), epochs only grow, writes in flight of a key whose epoch is
    unchanged stay in flight, the backing store changed only to values of writes in flight, the
    continuations on the tiers are old ones or `i`'s -/
theorem mpi_clear {g : Gh} {ms0 ms' : MSt} {i : Nat} {p : MPend} {extra : List (Nat × MPend)}
    (pi : MPI g ms0) (hm : (i, p) ∈ ms0.pend)
    (hp : ms'.pend = (ms0.clearPend i).pend ++ extra)
    (hextra : extra = [] ∨ ∃ k v, extra = [(i, .putL1 k)] ∧ (i, OpK.put k v) ∈ g.ops)
    (hinfl : ∀ x, cnt ms'.infl x = inflCount ms'.pend x)
    (hepoch : ∀ x, cnt ms0.epoch x ≤ cnt ms'.epoch x)
    (hInFl : ∀ x j, cnt ms'.epoch x = cnt ms0.epoch x → InFl ms0 x j → InFl ms' x j)
    (hback : ∀ x, aget? ms'.back x = aget? ms0.back x ∨ ∀ P, Fresh g x (aget? ms'.back x) P)
    (htiers : Tiers (fun _ s s' => ∀ x ∈ s'.pend, x ∈ s.pend ∨ x.1 = i) ms0.tiers ms'.tiers) : MPI g ms' := by
  obtain ⟨his, hie⟩ := pi.pendS _ hm
  have hold : ∀ x, x ∈ ms'.pend → (x ∈ ms0.pend ∧ x.1 ≠ i) ∨ x ∈ extra := by
    intro x hx
    rw [hp, List.mem_append] at hx
    exact hx.imp mem_clear.mp id
  have hextraMem : ∀ x ∈ extra, ∃ k v, x = (i, .putL1 k) ∧ (i, OpK.put k v) ∈ g.ops := by
    intro x hx
    rcases hextra with e | ⟨k, v, e, ho⟩
    · rw [e] at hx; cases hx
    · rw [e, List.mem_singleton] at hx; exact ⟨k, v, hx, ho⟩
  refine ⟨?_, ?_, hinfl, ?_, ?_, ?_, ?_, ?_, ?_⟩
  · intro x hx
    rcases hold x hx with ⟨h1, _⟩ | h1
    · exact pi.pendS x h1
    · obtain ⟨k, v, rfl, _⟩ := hextraMem x h1
      exact ⟨his, hie⟩
  · rw [hp, List.map_append]
    rcases hextra with e | ⟨k, v, e, _⟩
    · rw [e, List.map_nil, List.append_nil]; exact nodup_clear pi.pendND i
    · rw [e]
      simp only [List.map_cons, List.map_nil]
      rw [List.nodup_append]
      refine ⟨nodup_clear pi.pendND i, by simp, ?_⟩
      intro a ha b hb
      simp only [List.mem_singleton] at hb
      rw [hb]
      obtain ⟨x, hx, rfl⟩ := List.mem_map.mp ha
      exact (mem_clear.mp hx).2
  · intro j k v hj
    rcases hold _ hj with ⟨h1, _⟩ | h1
    · exact pi.pb j k v h1
    · obtain ⟨k', v', e, _⟩ := hextraMem _ h1; cases e
  · intro j k hj
    rcases hold _ hj with ⟨h1, _⟩ | h1
    · exact pi.pl j k h1
    · obtain ⟨k', v', e, ho⟩ := hextraMem _ h1
      cases e; exact ⟨v', ho⟩
  · intro j k hj
    rcases hold _ hj with ⟨h1, _⟩ | h1
    · exact pi.db j k h1
    · obtain ⟨k', v', e, _⟩ := hextraMem _ h1; cases e
  · intro j t hj
    rcases hold _ hj with ⟨h1, _⟩ | h1
    · exact pi.dr j t h1
    · obtain ⟨k', v', e, _⟩ := hextraMem _ h1; cases e
  · intro j t k e hj
    rcases hold _ hj with ⟨h1, hji⟩ | h1
    · obtain ⟨hop, rs, rh, a1, a2, a3, a4, a5, a6⟩ := pi.tg j t k e h1
      refine ⟨hop, rs, rh, a1, a2, a3, Nat.le_trans a4 (hepoch k), ?_, ?_⟩
      · intro he j' op hj' hjm hk
        have heq : cnt ms'.epoch k = cnt ms0.epoch k := by have := hepoch k; omega
        rcases a5 (by omega) j' op hj' hjm hk with h' | h'
        · exact Or.inl h'
        · exact Or.inr (hInFl k j' heq h')
      · intro s' q hs' hq
        obtain ⟨s, hs, hsub⟩ := htiers t s' hs'
        rcases hsub _ hq with h' | h'
        · exact a6 s q hs h'
        · exact absurd h' hji
    · obtain ⟨k', v', e', _⟩ := hextraMem _ h1; cases e'
  · intro j k e hj
    rcases hold _ hj with ⟨h1, _⟩ | h1
    · obtain ⟨hop, rs, a1, hf⟩ := pi.bg j k e h1
      refine ⟨hop, rs, a1, ?_⟩
      rcases hback k with h' | h'
      · rw [h']; exact hf
      · exact h' _
    · obtain ⟨k', v', e', _⟩ := hextraMem _ h1; cases e'

theorem onTier_epoch (cfg : MCfg) (ms : MSt) (t : Nat) (f : Cfg → St → St × Option Res) :
    (onTier cfg ms t f).1.epoch = ms.epoch := by
  unfold onTier; split <;> rfl

theorem TKept.trans {nv nv' : Key → Nat → Prop} {a b c : St} (h1 : TKept nv a b) (h2 : TKept nv' b c) :
    TKept (fun x w => nv x w ∨ nv' x w) a c :=
  ⟨h2.dirty, fun x hx => h1.pendSub x (h2.pendSub x hx), fun x w hw =>
    (h2.cache x w hw).elim (fun h => (h1.cache x w h).imp id Or.inl) (fun h => Or.inr (Or.inr h))⟩

theorem Tiers.trans {R R' R'' : Nat → St → St → Prop} {a b c : List St} (h1 : Tiers R a b) (h2 : Tiers R' b c)
    (h : ∀ t x y z, R t x y → R' t y z → R'' t x z) : Tiers R'' a c := fun t s'' hs => by
  obtain ⟨s', hs', r'⟩ := h2 t s'' hs
  obtain ⟨s, hs0, r⟩ := h1 t s' hs'
  exact ⟨s, hs0, h t s s' s'' r r'⟩

/-- a read continuation of `i` (it keeps nothing in flight) is taken out after tier-level code that left the tiers
    clean, with old continuations and entries that are old ones, backing-store values or fresh against the writes
    that reached the store -/
theorem read_done {g : Gh} {ms0 ms' : MSt} {i : Nat} {p : MPend} {nv : Key → Nat → Prop} (h : MInv g ms0)
    (hm : (i, p) ∈ ms0.pend) (hpk : inflKey p = none) (hnp : ∀ k v, (i, OpK.put k v) ∉ g.ops)
    (hp : ms'.pend = (ms0.clearPend i).pend) (he : ms'.epoch = ms0.epoch) (hi : ms'.infl = ms0.infl)
    (hb : ms'.back = ms0.back) (ht : Tiers (fun _ => TKept nv) ms0.tiers ms'.tiers)
    (hnv : ∀ x w, nv x w → aget? ms0.back x = some w ∨ Fresh g x (some w) (fun j => ¬ BPm ms' x j))
    (o : Obs) (hoi : o.i = i) (hd : GetDone (ReadGood g.ops) g.ops g.evs o) : MInv (g.ext o []) ms' := by
  obtain ⟨his, _⟩ := h.pi.pendS _ hm
  have hp' : ms'.pend = (ms0.clearPend i).pend ++ [] := by rw [hp]; simp
  have hnotI : ∀ x j, InFl ms0 x j → j ≠ i := fun x j hj => Holds.ne h.pi.pendND hm (by rw [hpk]; nofun) hj
  have hnotB : ∀ x j, BPm ms0 x j → j ≠ i := fun x j ⟨q, hq, hk⟩ => hnotI x j ⟨q, hq, inflKey_of_mbwKey hk⟩
  have pi' : MPI g ms' := by
    refine mpi_clear h.pi hm hp' (Or.inl rfl) ?_ (fun x => by rw [he]; exact Nat.le_refl _)
      (fun x j _ hj => Holds.clear hp' (hnotI x j hj) hj) (fun x => Or.inl (by rw [hb])) ?_
    · intro x
      rw [hi, hp, h.pi.infl x]
      show _ = inflCount (ms0.pend.filter (fun y => y.1 != i)) x
      rw [inflCount_clear ms0.pend i p x h.pi.pendND hm, hpk]; simp
    · intro t s' hs'
      obtain ⟨s, hs, e⟩ := ht t s' hs'
      exact ⟨s, hs, fun x hx => Or.inl (e.pendSub x hx)⟩
  have vi' : MVI g ms' := by
    refine mvi_update h.vi none (fun k j _ hbj => Holds.clear hp' (hnotB k j hbj) hbj) ?_
      (fun x => Or.inl ⟨by simp, by rw [hb]⟩) (fun t s' hs' => (ht t s' hs').choose_spec.2.dirty) ?_
    · intro t s' x w hs' hw
      obtain ⟨s, hs, e⟩ := ht t s' hs'
      rcases e.cache x w hw with h' | h'
      · exact Or.inl ⟨by simp, t, s, hs, h'⟩
      · exact (hnv x w h').elim (fun h' => Or.inr (Or.inl ⟨by simp, h'⟩)) (fun h' => Or.inr (Or.inr h'))
    · intro t s' hs'
      obtain ⟨s, hs, e⟩ := ht t s' hs'
      exact tp_of_pend (h.vi.tp t s hs) e.pendSub
  refine mext_same h.gi pi' vi' o ?_ ?_ ?_ (fun _ => hoi ▸ his) hd
  · intro j op k hj hjm hk
    rcases h.lim.elim hj hjm hk with h' | h'
    · exact Or.inl (Holds.clear hp' (hnotI k j h') h')
    · exact Or.inr (Or.inl h')
  · intro _ x hx
    rw [hp] at hx
    rw [hoi]; exact (mem_clear.mp hx).2
  · intro _ t s' hs' x hx ⟨k, v, e⟩
    obtain ⟨s, hs, ek⟩ := ht t s' hs'
    rw [hoi]
    exact fun exi => hnp k v (exi ▸ ((h.vi.tp t s hs).putWT (ek.pendSub x hx) e).2)

/-- running the tier-level later segment of `i` on tier `t`: a read, or (for a `put` of the table) the backing-store
write of its write-through `put` on L1; tier `t` keeps no continuation of `i` -/
theorem onTier_resume_shape (cfg : MCfg) {g : Gh} {ms0 : MSt} (h : MInv g ms0) (i t now : Nat) :
    let R := onTier cfg (ms0.clearPend i) t (fun c s => step c s (.resume i now))
    R.1.pend = (ms0.clearPend i).pend ∧ R.1.epoch = ms0.epoch ∧ R.1.infl = ms0.infl ∧
    Tiers (fun t' s s' => TKept (fun x w => aget? ms0.back x = some w) s s' ∧
      (t' = t → (∃ c, cfg.tiers[t]? = some c) → ∀ x ∈ s'.pend, x.1 ≠ i)) ms0.tiers R.1.tiers ∧
    ((R.1.back = ms0.back ∧ (R.2 = none ∨ ∃ s : St, ms0.tiers[t]? = some s ∧
        ((∃ v, (i, Pend.getHit v) ∈ s.pend ∧ R.2 = some (.val v)) ∨
         (∃ k e, (i, Pend.getMiss k e) ∈ s.pend ∧ R.2 = some (resOf (aget? ms0.back k)))))) ∨
     ∃ k v, (i, OpK.put k v) ∈ g.ops ∧ R.1.back = aset ms0.back k v) := by
  intro R
  rcases onTier_cases cfg (ms0.clearPend i) t (fun c s => step c s (.resume i now)) with ⟨c, s, hc, hs, e⟩ | ⟨why, e⟩
  · have hs0 : ms0.tiers[t]? = some s := hs
    have tr := tier_resume (g := g) (t := t) c s (ms0.clearPend i).back i now (h.vi.d t s hs0) (h.vi.tp t s hs0)
    have eR : R = _ := e
    rw [eR]
    refine ⟨rfl, rfl, rfl, fun t' s' hs' => ?_, ?_⟩
    · rcases getElem?_set_cases hs' with ⟨rfl, rfl⟩ | ⟨hne, hold⟩
      · exact ⟨s, hs0, tr.toTKept, fun _ _ => tr.pendNo⟩
      · exact ⟨s', hold, TKept.refl (h.vi.d t' s' hold), fun et => absurd et hne⟩
    · rcases tr.out with ⟨hb, hr | ⟨v, hmem, hr⟩ | ⟨k, e', hmem, hr⟩⟩ | ⟨k, v, hmem, hb⟩
      · exact Or.inl ⟨hb, Or.inl hr⟩
      · exact Or.inl ⟨hb, Or.inr ⟨s, hs0, Or.inl ⟨v, hmem, hr⟩⟩⟩
      · exact Or.inl ⟨hb, Or.inr ⟨s, hs0, Or.inr ⟨k, e', hmem, hr⟩⟩⟩
      · exact Or.inr ⟨k, v, ((h.vi.tp t s hs0).putWT hmem rfl).2, hb⟩
  · have eR : R = _ := e
    rw [eR]
    refine ⟨rfl, rfl, rfl, fun t' s' hs' => ⟨s', hs', TKept.refl (h.vi.d t' s' hs'), ?_⟩, Or.inl ⟨rfl, Or.inl rfl⟩⟩
    rintro rfl ⟨c, hc⟩
    rcases why with hw | hw
    · rw [hc] at hw; cases hw
    · exact absurd (show ms0.tiers[t']? = some s' from hs') (by rw [show ms0.tiers[t']? = none from hw]; nofun)

theorem onTier_resume_read (cfg : MCfg) {g : Gh} {ms0 : MSt} (h : MInv g ms0) (i t now : Nat)
    (hnp : ∀ k v, (i, OpK.put k v) ∉ g.ops) :
    let R := onTier cfg (ms0.clearPend i) t (fun c s => step c s (.resume i now))
    R.1.pend = (ms0.clearPend i).pend ∧ R.1.epoch = ms0.epoch ∧ R.1.infl = ms0.infl ∧ R.1.back = ms0.back ∧
    Tiers (fun _ => TKept fun x w => aget? ms0.back x = some w) ms0.tiers R.1.tiers ∧
    (R.2 = none ∨ ∃ s : St, ms0.tiers[t]? = some s ∧
      ((∃ v, (i, Pend.getHit v) ∈ s.pend ∧ R.2 = some (.val v)) ∨
       (∃ k e, (i, Pend.getMiss k e) ∈ s.pend ∧ R.2 = some (resOf (aget? ms0.back k))))) := by
  obtain ⟨r1, r2, r3, r5, ⟨r4, r6⟩ | ⟨k, v, ho, _⟩⟩ := onTier_resume_shape cfg h i t now
  · exact ⟨r1, r2, r3, r4, fun t' s' hs' => have ⟨s, hs, e, _⟩ := r5 t' s' hs'; ⟨s, hs, e⟩, r6⟩
  · exact absurd ho (hnp k v)

/-- `_maybe_promote` / `_cache_value` on clean tiers -/
theorem fillL1_kept (cfg : MCfg) (ms : MSt) (k v now : Nat) (hd : ∀ (t : Nat) (s : St), ms.tiers[t]? = some s → s.dirty = []) :
    (ms.fillL1 cfg k v now).pend = ms.pend ∧ (ms.fillL1 cfg k v now).epoch = ms.epoch ∧
    (ms.fillL1 cfg k v now).infl = ms.infl ∧ (ms.fillL1 cfg k v now).back = ms.back ∧
    Tiers (fun _ => TKept fun x w => x = k ∧ w = v) ms.tiers (ms.fillL1 cfg k v now).tiers := by
  unfold MSt.fillL1
  rcases onTier_cases cfg ms 0 (fun c s => (cachePut c s k v now, none)) with ⟨c, s, hc, hs, e⟩ | ⟨_, e⟩ <;> rw [e]
  · obtain ⟨ts, tp, _⟩ := cachePut_clean c (plug s ms.back) k v now (hd 0 s hs)
    refine ⟨rfl, rfl, rfl, ts.back, fun t' s' hs' => ?_⟩
    rcases getElem?_set_cases hs' with ⟨rfl, rfl⟩ | ⟨_, hold⟩
    · exact ⟨s, hs, ts.dirty, fun x hx => tp ▸ hx, fun x w hw => (ts.cache x w hw).imp id (fun e => by cases e; exact ⟨rfl, rfl⟩)⟩
    · exact ⟨s', hold, TKept.refl (hd t' s' hold)⟩
  · exact ⟨rfl, rfl, rfl, rfl, fun t s hs => ⟨s, hs, TKept.refl (hd t s hs)⟩⟩

theorem mraw_resume_read (cfg : MCfg) (hrep : cfg.rep = true) {g : Gh} {ms0 : MSt} (h : MInv g ms0) (i : Nat)
    (p : MPend) (now : Nat) (hm : (i, p) ∈ ms0.pend)
    (hp : (∃ t k e, p = .tierGet t k e) ∨ (∃ k e, p = .backGet k e) ∨ (∃ t, p = .direct t))
    (o : Obs) (hoi : o.i = i) (hor : o.res = (mresume cfg ms0 i p now).2) :
    MInv (g.ext o []) (mresume cfg ms0 i p now).1 := by
  obtain ⟨his, hie⟩ := h.pi.pendS _ hm
  rcases hp with ⟨t, k, e, rfl⟩ | ⟨k, e, rfl⟩ | ⟨t, rfl⟩
  · -- a `get` that was served by tier `t`
    obtain ⟨hopk, rs, rh, hrs, hle, hrh, hee, hE, hT⟩ := h.pi.tg i t k e hm
    have hnp : ∀ k' v', (i, OpK.put k' v') ∉ g.ops := fun k' v' ho => by
      have := ops_unique h.gi.nd hopk ho; cases this
    obtain ⟨r1, r2, r3, r4, r5, r6⟩ := onTier_resume_read cfg h i t now hnp
    have hget : ∀ v, Fresh g k (some v) (fun j => CompletedBefore g.evs j rh) → o.res = some (.val v) →
        GetDone (ReadGood g.ops) g.ops g.evs o := by
      intro v hf hres
      exact hd_getR nfLaws h.gi o hoi hopk (v := some v)
        ⟨rs, hrs, hf.anti (fun j _ ⟨e', he', hlt⟩ => ⟨e', he', Nat.lt_of_lt_of_le hlt hle⟩)⟩ hres
    unfold mresume at hor ⊢
    simp only at hor ⊢
    generalize onTier cfg (ms0.clearPend i) t (fun c s => step c s (.resume i now)) = R at r1 r2 r3 r4 r5 r6 hor ⊢
    rcases r6 with hr | ⟨s, hs, ⟨v, hmem, hr⟩ | ⟨k', e', hmem, _⟩⟩
    · rw [hr] at hor ⊢
      exact read_done h hm rfl hnp r1 r2 r3 r4 r5 (fun _ _ => Or.inl) o hoi (GetDone.of_res_none hor)
    · rw [hr] at hor ⊢
      simp only at hor ⊢
      obtain ⟨v', ev, hf⟩ := hT s _ hs hmem
      cases ev
      unfold afterTierGet
      split
      · rename_i hcond
        simp only [hrep, Bool.not_true, Bool.false_or, Bool.and_eq_true] at hcond
        have hfa := hcond.2
        unfold MSt.fillAllowed at hfa
        simp only [Bool.and_eq_true, beq_iff_eq] at hfa
        rw [r2, r3] at hfa
        have hall := hE hfa.1.symm
        obtain ⟨f1, f2, f3, f4, f5⟩ := fillL1_kept cfg R.1 k v now (fun t s hs => (r5 t s hs).choose_spec.2.dirty)
        refine read_done h hm rfl hnp (f1.trans r1) (f2.trans r2) (f3.trans r3) (f4.trans r4)
          (r5.trans f5 fun _ _ _ _ => TKept.trans) ?_ o hoi (hget v hf hor)
        rintro x w (hw | ⟨rfl, rfl⟩)
        · exact Or.inl hw
        · exact Or.inr (FreshR.anti' (R := NotFollowed) (fun j op hj hjm hk _ =>
            (hall j op hj hjm hk).resolve_right (fun hj : InFl ms0 x j => Holds.count_pos hj ((h.pi.infl x).symm.trans hfa.2))) hf)
      · exact read_done h hm rfl hnp r1 r2 r3 r4 r5 (fun _ _ => Or.inl) o hoi (hget v hf hor)
    · obtain ⟨v', ev, _⟩ := hT s _ hs hmem
      cases ev
  · -- a `get` that was served by the backing store
    obtain ⟨hopk, hf⟩ := h.pi.bg i k e hm
    have hnp : ∀ k' v', (i, OpK.put k' v') ∉ g.ops := fun k' v' ho => by
      have := ops_unique h.gi.nd hopk ho; cases this
    have same : Tiers (fun _ => TKept fun x w => aget? ms0.back x = some w) ms0.tiers (ms0.clearPend i).tiers :=
      fun t s hs => ⟨s, hs, TKept.refl (h.vi.d t s hs)⟩
    unfold mresume at hor ⊢
    cases hb : aget? ms0.back k with
    | none =>
      simp only [hb] at hor ⊢
      rw [hb] at hf
      exact read_done h hm rfl hnp rfl rfl rfl rfl same (fun _ _ => Or.inl) o hoi (hd_getR nfLaws h.gi o hoi hopk (v := none) hf hor)
    | some x =>
      simp only [hb] at hor ⊢
      rw [hb] at hf
      have hfin := hd_getR nfLaws h.gi o hoi hopk (v := some x) hf
      split
      · rename_i hcond
        rw [if_pos hcond] at hor
        obtain ⟨f1, f2, f3, f4, f5⟩ := fillL1_kept cfg (ms0.clearPend i) k x now h.vi.d
        refine read_done h hm rfl hnp f1 f2 f3 f4 (same.trans f5 fun _ _ _ _ => TKept.trans) ?_ o hoi (hfin hor)
        rintro y w (hw | ⟨rfl, rfl⟩)
        · exact Or.inl hw
        · exact Or.inl hb
      · rename_i hcond
        rw [if_neg hcond] at hor
        exact read_done h hm rfl hnp rfl rfl rfl rfl same (fun _ _ => Or.inl) o hoi (hfin hor)
  · -- a direct tier read
    have hng : ∀ k, (i, OpK.get k) ∉ g.ops := h.pi.dr i t hm
    -- its table entry is not a `put` either: the tier continuations of `i` are reads
    by_cases hput : ∃ k v, (i, OpK.put k v) ∈ g.ops
    · -- impossible: `direct` continuations belong to `tget` entries; we do not track that, but a
      -- `put` entry would have left a `putBack`/`putL1` continuation, not `direct`
      obtain ⟨k, v, ho⟩ := hput
      rcases h.lim.elim his ho (wk_of_wkv rfl) with ⟨q, hq, hk⟩ | hc
      · rw [ops_unique h.pi.pendND hq hm] at hk; cases hk
      · rw [hie] at hc; cases hc
    · have hnp : ∀ k v, (i, OpK.put k v) ∉ g.ops := fun k v ho => hput ⟨k, v, ho⟩
      obtain ⟨r1, r2, r3, r4, r5, _⟩ := onTier_resume_read cfg h i t now hnp
      refine read_done h hm rfl hnp r1 r2 r3 r4 r5 (fun _ _ => Or.inl) o hoi ?_
      intro k rs hk
      rw [hoi] at hk
      exact absurd hk (hng k)

end HappyModel.C16.Tier
