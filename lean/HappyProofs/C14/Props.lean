import HappyProofs.C14.LsmProps
import HappyProofs.C14.LsmObs
import HappyProofs.C14.LsmFinal
import HappyProofs.C14.BTreeMain
import HappyProofs.C14.TxnMain
import HappyProofs.C14.TxnLsm
import HappyProofs.C14.StoreTrace
import HappyProofs.C14.TxnTrace
import HappyProofs.C14.TxnTraceSide
import HappyProofs.C14.TxnLsmTrace
/-! C14, refinement of the LSM tree to the abstract map `St.abs` (this is `get_sync`): each segment of the write path
    performs exactly one abstract update (the memtable insert) or leaves the map unchanged.  The statements are about one
    segment from any state (`abs_flush_install`: from any state whose oldest frozen memtable is the one being installed),
    so they hold in every interleaving.  The second half of the file (`namespace SM`) is the B-tree instance of the
    transaction theorems.

    The import list is long on purpose: the check's audit imports this module alone and it is the one proof module among
    the check's `lake` targets (`hv/props/c14.py`, `audit_imports` / `lake_targets`), so it has to reach every module
    that holds an audited theorem. -/
namespace HappyModel.C14

/-- the memtable-insert segment of `put k v` is the abstract update `m[k] := v` -/
theorem abs_put (s : St) (k k' : Key) (v : Nat) :
    (memInsert s k (some v)).1.abs k' = if k' = k then some v else s.abs k' :=
  abs_memInsert s k k' (some v)

/-- the memtable-insert segment of `delete k` (a tombstone) is the abstract update `m.erase k` -/
theorem abs_delete (s : St) (k k' : Key) :
    (memInsert s k none).1.abs k' = if k' = k then none else s.abs k' :=
  abs_memInsert s k k' none

/-- starting a flush (freeze the memtable, keep it readable) does not change the abstract map -/
theorem abs_flush_start (cfg : Cfg) (s : St) (k : Key) : (flushStart cfg s).1.abs k = s.abs k := by
  unfold St.abs; rw [read_flushStart]

/-- installing the SSTable of the *oldest* frozen memtable (hypothesis `flushes_install_in_start_order`:
    `s.imms = t :: r`), truncating the WAL and possibly starting a compaction does not change the
    abstract map -/
theorem abs_flush_install (cfg : Cfg) (s : St) (t : Tab) (b : Nat) (r : List Tab) (k : Key)
    (flushes_install_in_start_order : s.imms = t :: r) (hid : ∀ i ∈ r, i.id ≠ t.id)
    (hlv : s.levels ≠ []) :
    (flushInstall cfg s t b).1.abs k = s.abs k := by
  unfold St.abs; rw [read_flushInstall cfg s t b r k flushes_install_in_start_order hid hlv]

/-- compaction merge contract: the merged payload answers every key exactly like a newest-first read
    through the source SSTables `S` followed by the selected target-level SSTables `O` -/
theorem abs_compact_partial (S O : List Tab) (k : Key) (hu : ∀ t ∈ S, Uniq t.data) :
    (mergeOverlap (mergeSources S) O).lookup k = match lookTabs k S.reverse with
      | some c => some c
      | none => lookTabs k O := by
  rw [lookup_merge S O k hu]; cases lookTabs k S.reverse <;> rfl

/-- a state with two frozen memtables in flight (so that `r ≠ []`), an L0 table and an L1 table -/
def exSt : St :=
  { mem := [(1, some 7)], memId := 5, imms := [⟨3, [(0, none)]⟩, ⟨4, [(2, some 9)]⟩],
    levels := [[⟨1, [(0, some 1), (1, some 2)]⟩], [⟨0, [(2, some 3)]⟩]], nextId := 6 }

example : exSt.imms = ⟨3, [(0, none)]⟩ :: [⟨4, [(2, some 9)]⟩] ∧ (∀ i ∈ [(⟨4, [(2, some 9)]⟩ : Tab)], i.id ≠ 3) ∧
    exSt.levels ≠ [] ∧ (List.range 3).map exSt.abs = [none, some 7, some 9] ∧
    (List.range 3).map (flushInstall {} exSt ⟨3, [(0, none)]⟩ 0).1.abs = [none, some 7, some 9] := by
  decide +kernel

example : (∀ t ∈ [(⟨1, [(0, some 1), (1, none)]⟩ : Tab), ⟨2, [(1, some 5)]⟩], Uniq t.data) ∧
    (mergeOverlap (mergeSources [⟨1, [(0, some 1), (1, none)]⟩, ⟨2, [(1, some 5)]⟩]) [⟨0, [(2, some 3)]⟩]) =
      [(0, some 1), (1, some 5), (2, some 3)] := by
  decide +kernel

example : (memInsert exSt 0 (some 4)).1.abs 0 = some 4 ∧ (memInsert exSt 1 none).1.abs 1 = none := by decide +kernel

/-! A B-tree satisfying its invariant obeys the map laws the transaction theorems ask of a store, so commit-order
    serializability and consistent snapshot reads hold for a `TransactionManager` over a `BTree` of any order ≥ 3 and
    any initial contents. -/

namespace SM
open HappyModel.C14.BT

def btOk (s : Store) : Prop := ∃ t order, s = .bt t ∧ 3 ≤ order ∧ TreeInv order t

theorem bt_laws :
    (∀ s k v, btOk s → btOk (s.putSync k v)) ∧
    (∀ s k v k', btOk s → (s.putSync k v).getSync k' = if k' = k then some v else s.getSync k') := by
  constructor
  · rintro s k v ⟨t, order, rfl, ho, ht⟩
    exact ⟨t.put k v, order, rfl, ho, (put_spec order ho t ht k v).1⟩
  · exact fun s k v k' h => sok_laws.2 s k v k' (.inl h)

theorem btOk_built (order : Nat) (h : 3 ≤ order) (ops : List BOp) :
    btOk (.bt (ops.foldl BTree.apply { order := order })) :=
  ⟨_, order, rfl, h, (fold_spec order h ops { order := order } [] (treeInv_empty order) rfl).1⟩

theorem serializable_commit_order_btree (s0 : Store) (h0 : btOk s0) (acts : List Act) :
    let r := runA { store := s0 } acts
    (∀ k, r.1.store.getSync k = replay s0.getSync r.2 k) ∧
    ∀ pre post slot wset tx, r.2 = pre ++ Ev.committed slot wset :: post →
      r.1.tx? slot = some tx → tx.level = .ser →
      ∀ k val, Ev.fetched slot k val ∈ pre → val = replay s0.getSync pre k :=
  serializable_commit_order btOk bt_laws.1 bt_laws.2 s0 h0 acts

theorem snapshot_reads_consistent_btree (s0 : Store) (h0 : btOk s0) (acts : List Act) :
    let r := runA { store := s0 } acts
    ∀ pre mid post slot k val tx, r.2 = pre ++ Ev.began slot :: mid ++ Ev.fetched slot k val :: post →
      r.1.tx? slot = some tx → tx.level ≠ .rc → val = replay s0.getSync pre k :=
  snapshot_reads_consistent btOk bt_laws.1 bt_laws.2 s0 h0 acts

/-- non-vacuity: an order-3 tree of depth 3 built from scrambled puts with an overwrite is `btOk` -/
example : btOk (.bt ([BOp.put 5 1, .put 2 2, .put 8 3, .put 1 4, .put 6 5, .put 5 6, .del 2].foldl BTree.apply { order := 3 })) :=
  btOk_built 3 (by decide) _

end SM

end HappyModel.C14
