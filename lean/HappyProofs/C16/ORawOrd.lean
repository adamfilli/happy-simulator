import HappyProofs.C16.RawMain
/-!
Read-after-write with overlapping writes ordered (write-through stores): the finer order.

A write `j` supersedes a write `i` when it was issued after `i` **and** completed after `i`; the ordered read
clause forbids the value of a write that a write completed before the read was issued supersedes.  `OkPair`
is "`j` does not and will not supersede `i`".
-/
namespace HappyModel.C16

/-- `j` is not later than `i`: issued no later, or completed no later -/
def OkPair (evs : List Obs) (i j : Nat) : Prop :=
  (∃ si sj, firstIdx evs i = some si ∧ firstIdx evs j = some sj ∧ sj ≤ si) ∨
  (∃ ei ej, endIdx evs i = some ei ∧ endIdx evs j = some ej ∧ ej ≤ ei)

theorem OkPair.snoc {evs : List Obs} (o : Obs) {i j : Nat} (h : OkPair evs i j) : OkPair (evs ++ [o]) i j := by
  rcases h with ⟨si, sj, h1, h2, h3⟩ | ⟨ei, ej, h1, h2, h3⟩
  · exact Or.inl ⟨si, sj, firstIdx_snoc_some o h1, firstIdx_snoc_some o h2, h3⟩
  · exact Or.inr ⟨ei, ej, endIdx_snoc_some o h1, endIdx_snoc_some o h2, h3⟩

theorem OkPair.nf {evs : List Obs} {i j : Nat} (h : OkPair evs i j) : NotFollowed evs i j := by
  intro e' sj' he hs
  obtain ⟨si, hsi, hle⟩ := firstIdx_of_endIdx he
  rcases h with ⟨si', sj, h1, h2, h3⟩ | ⟨ei, ej, h1, h2, h3⟩
  · rw [hsi] at h1; rw [hs] at h2; cases h1; cases h2; omega
  · obtain ⟨sj, hsj, hle'⟩ := firstIdx_of_endIdx h2
    rw [he] at h1; rw [hs] at hsj; cases h1; cases hsj; omega

theorem okLaws : OrdLaws OkPair := ⟨fun o => fun _ h => h.snoc o, OkPair.nf⟩

theorem ok_issue {evs : List Obs} {o : Obs} {i j : Nat} (hn : firstIdx evs i = none) (hoi : o.i = i)
    (hj : (firstIdx evs j).isSome ∨ j = i) : OkPair (evs ++ [o]) i j := by
  have hfirst : firstIdx (evs ++ [o]) i = some evs.length := by rw [firstIdx_snoc_none o hn, hoi]; simp
  rcases hj with hj | rfl
  · obtain ⟨sj, hsj⟩ := Option.isSome_iff_exists.mp hj
    exact Or.inl ⟨_, sj, hfirst, firstIdx_snoc_some o hsj, Nat.le_of_lt (firstIdx_lt hsj)⟩
  · exact Or.inl ⟨_, _, hfirst, hfirst, Nat.le_refl _⟩

theorem ok_land {evs : List Obs} {o : Obs} {i j : Nat} (he : endIdx evs i = none) (hoi : o.i = i) (hr : o.res.isSome)
    (hj : (endIdx (evs ++ [o]) j).isSome) : OkPair (evs ++ [o]) i j := by
  have hend : endIdx (evs ++ [o]) i = some evs.length := by rw [endIdx_snoc_none o he, hoi]; simp [hr]
  obtain ⟨ej, hej⟩ := Option.isSome_iff_exists.mp hj
  have := endIdx_lt hej
  simp at this
  exact Or.inr ⟨_, ej, hend, hej, by omega⟩

theorem readOkOrd_of_readGood {ops : List (Nat × OpK)} {evs : List Obs} {k : Key} {rs re : Nat}
    {v : Option Nat} (h : ReadGoodP OkPair ops evs k rs re v) : readOkOrd (writesOf ops evs) k rs re v = true :=
  readOkP (rel := supersedes) (fun {i j s sj _ _ _ _} hs hsj hok => by
    unfold supersedes
    rcases hok with ⟨si', sj', h1, h2, h3⟩ | ⟨ei, ej, h1, h2, h3⟩
    · rw [hs] at h1; rw [hsj] at h2; cases h1; cases h2
      simp only [Bool.and_eq_false_imp, decide_eq_true_eq]
      intro hlt; omega
    · simp only [h1, h2, Bool.and_eq_false_imp, decide_eq_true_eq, decide_eq_false_iff_not]
      intro _; omega) h

theorem judgeReadsOrd_none {cfg : Cfg} {ops : List (Nat × OpK)} {evs : List Obs}
    (h : ReadsOk (ReadGoodP OkPair ops) ops evs) : judgeReadsOrd cfg ops evs = none := by
  unfold judgeReadsOrd
  simp only
  rw [List.findSome?_eq_none_iff]
  rintro ⟨i, op⟩ hm
  cases op with
  | get k =>
    cases hs : firstIdx evs i with
    | none => simp only
    | some rs =>
      cases he : endIdx evs i with
      | none => simp only
      | some re =>
        obtain ⟨v, hres, hg⟩ := h i k rs re hm hs he
        have hok := readOkOrd_of_readGood hg
        have hres' : (evs.getD re ⟨0, [], [], [], none⟩).res = some (resOf v) := hres
        cases v with
        | none => simp only [hres', resOf, hok, if_true]
        | some x => simp only [hres', resOf, hok, if_true]
  | _ => simp

end HappyModel.C16
