import HappyProofs.C19.StreamReadLemmas
/-!
The read judge's bookkeeping agrees with the model state (`RInv`: `Ext`, the committed offsets, the assignment); every
action is accepted and keeps it (`rstep_model`).
-/
namespace HappyModel.C19

structure RInv (cfg : SCfg) (s : Stream) (j : RSt) : Prop where
  ext : Ext cfg s j.lo j.next
  com : j.com = s.committed
  asg : j.asg = s.asg

theorem readVerdict_model (cfg : SCfg) (s : Stream) (j : RSt) (T : Nat) (p off m : Nat)
    (hi : LInv cfg s T) (hr : RInv cfg s j) :
    readVerdict cfg.n j p off m (s.readPart cfg p off m) = none := by
  have h := readPart_eq cfg s j p off m (hi.ok p) (hr.ext.nextOf p) (hr.ext.lo p)
  unfold readVerdict
  by_cases hm : m = 0
  · subst hm
    rw [if_pos rfl] at h
    simp [h]
  · rw [if_neg hm] at h
    simp [h]

theorem pollVerdict_model (cfg : SCfg) (s : Stream) (j : RSt) (T : Nat) (c m : Nat)
    (hi : LInv cfg s T) (hr : RInv cfg s j) :
    pollVerdict cfg.n j c m (Stream.pollGo cfg s c m (s.mine c) []) = none := by
  have h := pollGo_eq cfg s j c m hi.ok hr.ext.nextOf hr.ext.lo hr.com (s.mine c) []
  have hm : j.mine c = s.mine c := by unfold RSt.mine Stream.mine; rw [hr.asg]
  unfold pollVerdict
  simp [h, hm]

theorem suffix_model (cfg : SCfg) (s : Stream) (j : RSt) (t : Nat) (hi : LInv cfg s t)
    (hr : RInv cfg s j) (p : Nat) (hp : p < cfg.n) :
    suffixOk (j.loOf p) (j.nextOf p) ((s.retention cfg t).kept.getD p []) = true := by
  have hok := (log_retention_inv cfg s t hi).ok p hp
  have hhw : (s.retention cfg t).hwOf p = s.hwOf p := rfl
  obtain ⟨k, hk⟩ := retainPart_eq_drop cfg.ret t (s.part p) (hi.ts p hp)
  have hlen : ((s.retention cfg t).part p).length ≤ (s.part p).length := by
    rw [part_retention, hk, List.length_drop]; omega
  have hlo := hr.ext.lo p hp
  rw [kept_getD, hok.map_off, RSt.nextOf, hr.ext.nextOf, hhw]
  unfold suffixOk
  rw [List.length_range']
  simp only [Bool.and_eq_true, decide_eq_true_eq, beq_iff_eq]
  exact ⟨by show _ ≤ _ - j.lo.getD p 0; omega, trivial⟩

theorem rstep_model (cfg : SCfg) (hn : 0 < cfg.n) (hc : cfg.legacyCommit = false) (s : Stream)
    (j : RSt) (t : Nat) (a : SAct) (hi : LInv cfg s t) (hr : RInv cfg s j) :
    ∃ j', j.step cfg.n ⟨t, a, (s.step cfg t a).2⟩ = .ok j' ∧ RInv cfg (s.step cfg t a).1 j' := by
  cases a with
  | append key h => exact ⟨_, rfl, hr.ext.append hi hn t key h, hr.com, hr.asg⟩
  | retention =>
    have hlen : (s.retention cfg t).kept.length = cfg.n := by
      simp [Stream.kept, Stream.retention, hi.pl]
    have hall : ((List.range cfg.n).all fun p =>
        suffixOk (j.loOf p) (j.nextOf p) ((s.retention cfg t).kept.getD p [])) = true :=
      List.all_eq_true.2 fun p hp => suffix_model cfg s j t hi hr p (List.mem_range.mp hp)
    refine ⟨RSt.mk _ j.next j.com j.asg, ?_, hr.ext.retention hi, hr.com, hr.asg⟩
    simp only [Stream.step, RSt.step, hlen, kept_total, bne_self_eq_false, Bool.false_eq_true,
      if_false, hall, if_true]
    rfl
  | commit c offs =>
    have hcom : (s.commit cfg c offs).committed = noteMax j.com c offs := by
      rw [hr.com]; exact commit_noteMax cfg hc s c offs
    have hall : ((s.commit cfg c offs).observeCommitted c).all
        (fun pv => pv.2 == lastOf (noteMax j.com c offs) c pv.1) = true := by
      rw [List.all_eq_true]
      intro pv hpv
      obtain ⟨p, _, rfl⟩ := List.mem_map.mp hpv
      rw [← hcom]
      simp [Stream.committedOf, lastOf]
    exact ⟨{ j with com := noteMax j.com c offs }, by simp only [Stream.step, RSt.step, hall, if_true],
      hr.ext.frame (commit_parts cfg s c offs) (commit_hw cfg s c offs), hcom.symm,
      hr.asg.trans (commit_asg cfg s c offs).symm⟩
  | read p off max =>
    exact ⟨j, by simp only [Stream.step, RSt.step, readVerdict_model cfg s j t p off max hi hr], hr⟩
  | poll c max =>
    exact ⟨j, by simp only [Stream.step, RSt.step, pollVerdict_model cfg s j t c max hi hr], hr⟩
  | joinA c => exact ⟨j, rfl, hr.ext.frame rfl rfl, hr.com, hr.asg⟩
  | joinB c => exact ⟨{ j with asg := (s.rebalance cfg).asg }, rfl, hr.ext.frame rfl rfl, hr.com, rfl⟩
  | leaveA c =>
    exact ⟨{ j with asg := j.asg.filter (fun e => e.1 != c) }, rfl, hr.ext.frame rfl rfl, hr.com,
      congrArg (List.filter _) hr.asg⟩
  | leaveB c => exact ⟨{ j with asg := (s.rebalance cfg).asg }, rfl, hr.ext.frame rfl rfl, hr.com, rfl⟩

theorem read_returns_retained_suffix (cfg : SCfg) (hn : 0 < cfg.n) (hc : cfg.legacyCommit = false)
    (sched : List (Nat × SAct)) (ht : TimesMono sched) :
    jReads cfg.n (RSt.init cfg.n) (Stream.run cfg (Stream.init cfg.n) sched) = none :=
  stream_run_ok cfg hn (jReads cfg.n) (fun _ => rfl) (RInv cfg)
    (fun s j t a hi hr =>
      have ⟨j', h, hr'⟩ := rstep_model cfg hn hc s j t a hi hr
      ⟨j', fun rs => by simp only [jReads, h], hr'⟩)
    sched _ _ ⟨Clocked.init cfg ht, Ext.init cfg, rfl, rfl⟩

/-- non-vacuity: size retention trims the head of partition 1 (offsets 0, 1 go), a read from offset 1
    starts at the first retained record, a member polls, commits what it read and polls again -/
example :
    let sched : List (Nat × SAct) :=
      [(0, .joinA 0), (0, .joinB 0), (1, .append 7 1), (1, .append 7 1), (2, .append 7 1), (2, .append 7 1),
       (3, .retention), (4, .read 1 1 2), (5, .poll 0 1), (5, .commit 0 [(1, 3)]), (6, .append 7 1),
       (7, .poll 0 100), (8, .read 1 3 0)]
    TimesMono sched ∧
    (Stream.run {n := 2, ret := .size 2} (Stream.init 2) sched).map (·.out) =
      [.unit, .rebalanced 1 [(0, [0, 1])] [0, 1], .appended 1 0, .appended 1 1, .appended 1 2, .appended 1 3,
       .total 2 [[], [2, 3]], .records [(1, 2), (1, 3)], .records [(1, 2)], .committed [(0, 0), (1, 3)],
       .appended 1 4, .records [(1, 3), (1, 4)], .records [(1, 3)]] := by
  refine ⟨by unfold TimesMono; decide, by decide⟩

/-- the judge rejects the run of a log that finds records by list index instead of by offset
    (after the sweep the record with offset 2 sits at index 0) -/
example : jReads 1 (RSt.init 1)
    [⟨1, .append 7 0, .appended 0 0⟩, ⟨1, .append 7 0, .appended 0 1⟩, ⟨2, .append 7 0, .appended 0 2⟩,
     ⟨2, .append 7 0, .appended 0 3⟩, ⟨3, .retention, .total 2 [[2, 3]]⟩, ⟨4, .read 0 1 5, .records [(0, 3)]⟩]
    = some "log/read/skipped-retained-record" := by decide +kernel

/-- … and a poll that hands out a committed record again, or misses a retained one; and a sweep that leaves a run with a hole -/
example : jReads 1 { RSt.init 1 with asg := [(0, [0])], next := [4], com := [((0, 0), 2)] }
    [⟨5, .poll 0 10, .records [(0, 1), (0, 2), (0, 3)]⟩] = some "group/poll/returned-below-committed" := by
  decide +kernel
example : jReads 1 { RSt.init 1 with asg := [(0, [0])], next := [4], com := [((0, 0), 2)] }
    [⟨5, .poll 0 10, .records [(0, 3)]⟩] = some "group/poll/skipped-record" := by decide +kernel
example : jReads 1 (RSt.init 1)
    [⟨1, .append 7 0, .appended 0 0⟩, ⟨1, .append 7 0, .appended 0 1⟩, ⟨2, .append 7 0, .appended 0 2⟩,
     ⟨3, .retention, .total 2 [[0, 2]]⟩] = some "log/retention/not-a-suffix" := by decide +kernel

end HappyModel.C19
