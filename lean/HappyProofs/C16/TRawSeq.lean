import HappyProofs.C16.RawSeq
import HappyProofs.C16.TRawMain
/-!
Multi-tier read-after-write for scripts whose operations do not overlap, as a special case of the theorem for
every schedule (`RawSeq` has the part about logs).
-/
namespace HappyModel.C16.Tier
open HappyModel.C16

theorem mresumeAll_log (cfg : MCfg) (hrep : cfg.rep = true) (hc : SeqCfg cfg) (i now : Nat) :
    ∀ (fuel : Nat) (g : Gh) (ms : MSt), MInv g ms → MLen cfg ms →
    ∃ g' obs, g'.ops = g.ops ∧ g'.evs = g.evs ++ obs ∧ g'.started = g.started ∧
      OpLog i (mresumeAll cfg fuel ms i now).2 obs ∧ MInv g' (mresumeAll cfg fuel ms i now).1 ∧
      MLen cfg (mresumeAll cfg fuel ms i now).1 := by
  intro fuel
  induction fuel with
  | zero => intro g ms h hl; exact ⟨g, [], rfl, (List.append_nil _).symm, rfl, ⟨nofun, nofun, nofun⟩, h, hl⟩
  | succ f ih =>
    intro g ms h hl
    unfold mresumeAll
    cases hf : ms.pend.find? (·.1 == i) with
    | none => exact ⟨g, [], rfl, (List.append_nil _).symm, rfl, ⟨nofun, nofun, nofun⟩, h, hl⟩
    | some x =>
      have est : mstep cfg ms (.resume i now) = mresume cfg ms i x.2 now := by simp only [mstep, hf]
      have h1 := mraw_step cfg hrep hc h hl (.resume i now) nofun ⟨i, [], [], [], (mstep cfg ms (.resume i now)).2⟩ rfl rfl
      have hl1 : MLen cfg (mstep cfg ms (.resume i now)).1 := by unfold MLen; rw [mstep_len]; exact hl
      rw [est] at h1 hl1
      simp only []
      cases hr : (mresume cfg ms i x.2 now).2 with
      | some r =>
        rw [hr] at h1
        exact ⟨g.ext ⟨i, [], [], [], some r⟩ [], [⟨i, [], [], [], some r⟩], rfl, rfl, List.append_nil _, OpLog.one i _, h1, hl1⟩
      | none =>
        rw [hr] at h1
        obtain ⟨g', obs, e1, e2, e3, hlg, h2⟩ := ih _ _ h1 hl1
        exact ⟨g', ⟨i, [], [], [], none⟩ :: obs, e1, by rw [e2]; simp [Gh.ext], by rw [e3]; simp [Gh.ext, mnewIds],
          hlg.cons _ rfl rfl, h2⟩

theorem mexec_log (cfg : MCfg) (hrep : cfg.rep = true) (hc : SeqCfg cfg) {g : Gh} {ms : MSt} (h : MInv g ms)
    (hl : MLen cfg ms) (i : Nat) (op : MOp) (now : Nat) (hi : i ∉ g.started) (hop : (i, op.toOpK) ∈ g.ops) :
    ∃ g' obs, g'.ops = g.ops ∧ g'.evs = g.evs ++ obs ∧ g'.started = g.started ++ [i] ∧ obs ≠ [] ∧
      OpLog i (mexec cfg ms i op now).2 obs ∧ MInv g' (mexec cfg ms i op now).1 ∧ MLen cfg (mexec cfg ms i op now).1 := by
  have h1 : MInv (g.ext ⟨i, [], [], [], (mstart cfg ms i op now).2⟩ [i]) (mstart cfg ms i op now).1 :=
    mraw_step cfg hrep hc h hl (.start i op now) (fun _ _ _ e => by cases e; exact ⟨hi, hop⟩) _ rfl rfl
  have hl1 : MLen cfg (mstart cfg ms i op now).1 := by unfold MLen; rw [mstart_len]; exact hl
  unfold mexec
  cases hs : (mstart cfg ms i op now).2 with
  | some r =>
    rw [hs] at h1
    exact ⟨g.ext ⟨i, [], [], [], some r⟩ [i], [⟨i, [], [], [], some r⟩], rfl, rfl, rfl, nofun, OpLog.one i _, h1, hl1⟩
  | none =>
    rw [hs] at h1
    obtain ⟨g', obs, e1, e2, e3, hlg, h2⟩ := mresumeAll_log cfg hrep hc i now 3 _ _ h1 hl1
    exact ⟨g', ⟨i, [], [], [], none⟩ :: obs, e1, by rw [e2]; simp [Gh.ext], e3, nofun, hlg.cons _ rfl rfl, h2⟩

theorem find_new {β} {l : List (Nat × β)} {i : Nat} (p : β) (h : ∀ x ∈ l, x.1 ≠ i) :
    (l ++ [(i, p)]).find? (·.1 == i) = some (i, p) := by
  rw [List.find?_append, List.find?_eq_none.mpr (fun x hx => by simpa using h x hx)]; simp

theorem mresumeAll_returns {cfg : MCfg} {ms : MSt} {i now : Nat} {p : MPend} (f : Nat)
    (hf : ms.pend.find? (·.1 == i) = some (i, p)) (hr : (mresume cfg ms i p now).2.isSome) :
    (mresumeAll cfg (f + 1) ms i now).2.isSome := by
  obtain ⟨r, hr⟩ := Option.isSome_iff_exists.mp hr
  rw [mresumeAll]; simp only [hf, hr]; rfl

theorem mresumeAll_next {cfg : MCfg} {ms : MSt} {i now : Nat} {p : MPend} (f : Nat)
    (hf : ms.pend.find? (·.1 == i) = some (i, p)) (hr : (mresume cfg ms i p now).2 = none) :
    mresumeAll cfg (f + 1) ms i now = mresumeAll cfg f (mresume cfg ms i p now).1 i now := by
  rw [mresumeAll]; simp only [hf, hr]

/-- a `get` served by tier `t` returns with its second segment: the tier holds the key, so its tier-level `get` left
a hit, the only continuation of `i` there -/
theorem mexec_hit_returns (cfg : MCfg) {g : Gh} {ms : MSt} (h : MInv g ms) (hlen : MLen cfg ms) (i k now t : Nat)
    (hi : i ∉ g.started) (hf : firstHit k ms.tiers 0 = some t) : (mexec cfg ms i (.get k) now).2.isSome := by
  have hno : ∀ x ∈ ms.pend, x.1 ≠ i := fun x hx e => hi (e ▸ (h.pi.pendS x hx).1)
  obtain ⟨j, s, ej, hs, hk⟩ := firstHit_some k ms.tiers 0 t hf
  have ej : t = j := by omega
  subst ej
  have hnoT : ∀ x ∈ s.pend, x.1 ≠ i := fun x hx e => hi (e ▸ (h.vi.tp t s hs x hx).1)
  obtain ⟨v, hv⟩ := some_of_mem_akeys _ _ hk
  generalize hA : ({ ms with acc := aset ms.acc k (cnt ms.acc k + 1) } : MSt) = A
  have hAt : A.tiers[t]? = some s := by rw [← hA]; exact hs
  have e1 : mstart cfg ms i (.get k) now =
      ((onTier cfg A t (fun c s => start c s i (.get k) now)).1.setPend i (.tierGet t k (cnt ms.epoch k)), none) := by
    simp only [mstart, hf, hA]
  obtain ⟨r1, _, _, _, r5⟩ := onTier_startGet cfg A t i k now
  generalize hX : (onTier cfg A t (fun c s => start c s i (.get k) now)).1 = X at r1 r5
  have hXp : X.pend = ms.pend := by rw [r1, ← hA]
  obtain ⟨s1, c, hc, hXt, hp⟩ : ∃ s1 c, cfg.tiers[t]? = some c ∧ X.tiers[t]? = some s1 ∧
      s1.pend = s.pend ++ [(i, .getHit v)] := by
    rcases r5 with ⟨_, hn | hn⟩ | ⟨s', s1, p, hs', ⟨c, hc⟩, et, _, _, hp, hpc⟩
    · rw [List.getElem?_eq_none_iff] at hn; have := hlen.lt hs; omega
    · rw [hAt] at hn; cases hn
    · cases hAt.symm.trans hs'
      refine ⟨s1, c, hc, by rw [et]; exact List.getElem?_set_self (getElem?_some_lt hAt), ?_⟩
      rcases hpc with ⟨v', rfl, hv'⟩ | ⟨_, _, hn⟩
      · rw [hv] at hv'; cases hv'; exact hp
      · rw [hv] at hn; cases hn
  unfold mexec
  rw [e1, hX]
  refine mresumeAll_returns 2 (p := .tierGet t k (cnt ms.epoch k)) (find_new _ (by rw [hXp]; exact hno)) ?_
  simp only [mresume]
  rw [onTier_eq cfg _ t (fun c s => step c s (.resume i now)) c s1 hc (show ((X.setPend i (.tierGet t k (cnt ms.epoch k))).clearPend i).tiers[t]? = some s1 from hXt)]
  have f2 : (plug s1 ((X.setPend i (.tierGet t k (cnt ms.epoch k))).clearPend i).back).pend.find? (·.1 == i)
      = some (i, .getHit v) := by
    show s1.pend.find? _ = _
    rw [hp]; exact find_new _ hnoT
  simp only [step, f2, resume]
  rfl

theorem mexec_returns (cfg : MCfg) {g : Gh} {ms : MSt} (h : MInv g ms) (hlen : MLen cfg ms) (i : Nat) (op : MOp)
    (now : Nat) (hi : i ∉ g.started) (hk : (∃ k, op.toOpK = .get k) ∨ (wk op.toOpK).isSome) :
    (mexec cfg ms i op now).2.isSome := by
  have hno : ∀ x ∈ ms.pend, x.1 ≠ i := fun x hx e => hi (e ▸ (h.pi.pendS x hx).1)
  cases op with
  | get k =>
    cases hf : firstHit k ms.tiers 0 with
    | some t => exact mexec_hit_returns cfg h hlen i k now t hi hf
    | none =>
      unfold mexec
      simp only [mstart, hf]
      refine mresumeAll_returns 2 (p := .backGet k (cnt ms.epoch k)) (find_new _ hno) ?_
      simp only [mresume]
      split
      · split <;> rfl
      · rfl
  | put k v =>
    unfold mexec
    simp only [mstart]
    rw [mresumeAll_next 2 (p := .putBack k v) (find_new _ (by rw [enter_pend]; exact hno)) rfl]
    refine mresumeAll_returns 1 (p := .putL1 k) ?_ rfl
    show (_ ++ [(i, MPend.putL1 k)]).find? _ = _
    refine find_new _ ?_
    rw [onTier_pend]
    exact fun x hx => (mem_clear.mp hx).2
  | del k =>
    unfold mexec
    simp only [mstart]
    exact mresumeAll_returns 2 (p := .delBack k) (find_new _ (by rw [sweep_pend, enter_pend]; exact hno)) rfl
  | inv k => simp [MOp.toOpK, wk, wkv] at hk
  | invAll => simp [MOp.toOpK, wk, wkv] at hk
  | tget t k => simp [MOp.toOpK, wk, wkv] at hk

theorem mabs_eq (M : List (Key × Nat)) (op : MOp) : mabs M op = absStep M op.toOpK := by cases op <;> rfl

theorem mseqOk_of_raw (cfg : MCfg) (hrep : cfg.rep = true) (hc : SeqCfg cfg) : ∀ (rest : List (MOp × Nat)) (i : Nat)
    (ms : MSt) (M : List (Key × Nat)) (g : Gh), MInv g ms → MLen cfg ms → SeqG g M → (∀ j ∈ g.started, j < i) →
    (∀ j op now, rest[j]? = some (op, now) → (i + j, op.toOpK) ∈ g.ops) → MSeqOk cfg ms M i rest := by
  intro rest
  induction rest with
  | nil => intros; exact True.intro
  | cons a rest ih =>
    intro i ms M g h hl hq hlt htab
    obtain ⟨op, now⟩ := a
    have hop : (i, op.toOpK) ∈ g.ops := htab 0 op now rfl
    have hi : i ∉ g.started := fun hh => Nat.lt_irrefl _ (hlt i hh)
    obtain ⟨g', obs, h1, h2, h3, hne, hlog, h4, hl4⟩ := mexec_log cfg hrep hc h hl i op now hi hop
    obtain ⟨hq', hget⟩ := hq.step h.gi h4.gi h1 h2 h3 hi hop hlog hne (mexec_returns cfg h hl i op now hi)
    refine ⟨?_, ih (i + 1) _ _ g' h4 hl4 (mabs_eq M op ▸ hq') ?_ ?_⟩
    · split
      · exact hget _ rfl
      · exact True.intro
    · intro j hj
      rw [h3, List.mem_append, List.mem_singleton] at hj
      rcases hj with hj | rfl
      · exact Nat.lt_succ_of_lt (hlt j hj)
      · exact Nat.lt_succ_self _
    · intro j op' now' hj
      rw [h1]
      have := htab (j + 1) op' now' (by simpa using hj)
      rwa [show i + (j + 1) = i + 1 + j by omega] at this

theorem mseqOk_init (cfg : MCfg) (hrep : cfg.rep = true) (hc : SeqCfg cfg) (pols : List Pol)
    (hlen : pols.length = cfg.tiers.length) (ops : List (MOp × Nat)) : MSeqOk cfg (MSt.init pols) [] 0 ops := by
  have nd : ((scriptTab 0 (ops.map fun x => (x.1.toOpK, x.2))).map (·.1)).Nodup := by
    rw [scriptTab_ids]; exact List.nodup_range'
  refine mseqOk_of_raw cfg hrep hc ops 0 _ [] ⟨scriptTab 0 (ops.map fun x => (x.1.toOpK, x.2)), [], []⟩
    (minv_init _ nd pols) (by show (pols.map fun p => ({ pol := p } : St)).length = _; rw [List.length_map]; exact hlen)
    ⟨fun j hj => (by simp [firstIdx] at hj), fun j _ _ hj => (nomatch hj), fun k => Or.inr ⟨rfl, fun j _ hj => nomatch hj⟩⟩
    (fun j hj => nomatch hj) (fun j op now hj => ?_)
  have := scriptTab_get (ops.map fun x => (x.1.toOpK, x.2)) 0 j op.toOpK now (by rw [List.getElem?_map, hj]; rfl)
  exact this

end HappyModel.C16.Tier
