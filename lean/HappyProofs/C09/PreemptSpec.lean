import HappyProofs.C09.PreemptSpecCore
import HappyModel.C09.ExtraDriver
/-! The PreemptibleResource model (with `_wake_waiters` after a preemption) satisfies the executable Spec
predicate `Preempt.judge` — the judge that is run on implementation transcripts — on its own transcript, for
every capacity and every operation list. -/
namespace HappyModel.C09.Preempt

/-! `Extra.runPreempt` prints one line per call: the call (`acq <id> <amt> <prio> <pre>` with `<id>` = the
model's `nextId`, or `rel <id>`), the result, `pre=` the evicted ids in eviction order, `woke=` the woken ids
sorted, `pset=` the ids evicted so far (the driver's `gone` list, after this call) sorted, and `av=`/`s=` from the
model's post-state.  `Extra.parsePObs` reads exactly these fields back into an `Obs`; `Extra.judgePreempt` hands
the list to `judge cap {}`. -/

/-- the driver's `gone'`: the ids whose `preempted` flag is set after the call -/
def goneAfter (gone : List Nat) : Op → Out → List Nat
  | .acquire _ _ _, out => gone ++ out.evicted
  | .release _, _ => gone

def kindOf (s : St) : Op → Kind
  | .acquire amt prio pre => .acq s.nextId amt prio pre
  | .release id => .rel id

def obsOf (s : St) (gone' : List Nat) (o : Op) (out : Out) (s' : St) : Obs :=
  { k := kindOf s o, res := out.res, evicted := out.evicted, woke := Extra.sortIds out.woke,
    pset := Extra.sortIds gone', avail := s'.avail, sAcq := s'.acquisitions, sRel := s'.releases,
    sPre := s'.preemptions, sCon := s'.contentions }

def obsTrace (s : St) (gone : List Nat) : List Op → List Obs
  | [] => []
  | o :: os =>
    obsOf s (goneAfter gone o (step s o).2) o (step s o).2 (step s o).1
      :: obsTrace (step s o).1 (goneAfter gone o (step s o).2) os

theorem sortIds_eq (l : List Nat) : Extra.sortIds l = sortedIds l := rfl

theorem sortIds_nil : Extra.sortIds [] = [] := sortedIds_nil

theorem mem_sortIds (i : Nat) (l : List Nat) : i ∈ Extra.sortIds l ↔ i ∈ l := List.mem_mergeSort

theorem apply_err (cap : Int) (b : Book) (s : St) (gone' : List Nat) (amt prio : Int) (pre : Bool) (s' : St)
    (hbad : amt ≤ 0 ∨ cap < amt) :
    b.apply cap (obsOf s gone' (.acquire amt prio pre) { res := .err } s') = .ok b := by
  simp only [Book.apply, obsOf, kindOf]
  rw [if_neg (by omega)]
  simp [sortIds_nil]

theorem apply_released (cap : Int) (b : Book) (s : St) (gone' : List Nat) (id : Nat) (g : G) (wk : List Nat)
    (s' : St) (hf : b.held.find? (·.id == id) = some g) :
    b.apply cap (obsOf s gone' (.release id) { res := .released, woke := wk } s') =
      Book.wakeSet cap b.waiting.length { b with held := b.held.erase g, nRel := b.nRel + 1 }
        (Extra.sortIds wk) := by
  simp only [Book.apply, obsOf, kindOf, hf]
  simp

theorem apply_noop (cap : Int) (b : Book) (s : St) (gone' : List Nat) (id : Nat)
    (s' : St) (hf : b.held.find? (·.id == id) = none) :
    b.apply cap (obsOf s gone' (.release id) { res := .noop } s') = .ok b := by
  simp only [Book.apply, obsOf, kindOf, hf]
  simp [sortIds_nil]

structure Agree (cap : Int) (b : Book) (s : St) (gone : List Nat) : Prop where
  core : Core cap b s gone
  head : ∀ w ws, s.waiters = w :: ws → s.avail < w.amt

theorem init_agree (cap : Int) (h : 0 < cap) : Agree cap {} (St.init cap) [] :=
  ⟨init_core cap h, (init_inv cap h).head⟩

/-- The judge's side of `place`: once it has accepted the evictions `evs` of the call (books `b` before them, `b1`
    after), its verdict on the call's line is its verdict on the woken set from the books with the caller entered. -/
theorem core_place {cap : Int} {b b1 : Book} {s1 : St} {gone : List Nat} (id : Nat) (amt prio : Int) (evs : List Nat)
    (c : Core cap b1 s1 gone) (hev : b.evict cap amt prio evs = .ok b1) (hng : b.granted.contains id = false)
    (hok : ¬ (amt ≤ 0 ∨ cap < amt)) (hfr : Fresh s1 ⟨id, amt, prio⟩) :
    ∃ b2, Core cap b2 (place s1 ⟨id, amt, prio⟩).1 gone ∧ ∀ (o : Obs) (pre : Bool), o.k = .acq id amt prio pre →
      o.res = (place s1 ⟨id, amt, prio⟩).2 → o.evicted = evs → (evs ≠ [] → pre = true) →
      b.apply cap o = Book.wakeSet cap b2.waiting.length b2 o.woke := by
  have hpos : 0 < amt := by omega
  have hp : ∀ pre : Bool, (evs ≠ [] → pre = true) → ¬ (evs ≠ [] ∧ (!pre) = true) :=
    fun pre h h' => by rw [h h'.1] at h'; exact nomatch h'.2
  unfold place
  split
  · rename_i hfit
    refine ⟨_, core_grant ⟨id, amt, prio⟩ c hpos hfit hfr, fun o pre hk hr he hperm => ?_⟩
    simp only [Book.apply, hk, hr, he]
    rw [if_neg hok, hng]
    simp only [Bool.false_eq_true, if_false]
    rw [if_neg (hp pre hperm), hev]
  · refine ⟨_, core_enqueue ⟨id, amt, prio⟩ c hpos hfr, fun o pre hk hr he hperm => ?_⟩
    simp only [Book.apply, hk, hr, he]
    rw [if_neg hok, if_neg (hp pre hperm), hev]

theorem apply_step (cap : Int) (s : St) (b : Book) (gone : List Nat) (o : Op) (ag : Agree cap b s gone) :
    ∃ b', b.apply cap (obsOf s (goneAfter gone o (step s o).2) o (step s o).2 (step s o).1) = .ok b'
      ∧ Agree cap b' (step s o).1 (goneAfter gone o (step s o).2) := by
  have c := ag.core
  have hinv := step_inv s o ⟨c.num, ag.head⟩
  cases o with
  | release id =>
    cases hf : s.active.find? (·.id == id) with
    | none =>
      rw [step_release_none s id hf]
      exact ⟨b, apply_noop _ _ _ _ _ _ (by rw [c.held]; exact hf), ag⟩
    | some g =>
      rw [step_release_some s id g hf] at hinv ⊢
      obtain ⟨b', hw, c'⟩ := core_wake (Extra.sortIds (wake (freed s g)).2) (core_free g c (List.mem_of_find?_eq_some hf))
        (fun i => mem_sortIds i _)
      exact ⟨b', (apply_released _ _ _ _ _ g _ _ (by rw [c.held]; exact hf)).trans hw, c', hinv.head⟩
  | acquire amt prio pre =>
    rw [step_acquire_seq] at hinv ⊢
    by_cases hbad : amt ≤ 0 ∨ s.cap < amt
    · rw [if_pos hbad]
      dsimp only [goneAfter]
      rw [List.append_nil]
      exact ⟨b, apply_err _ _ _ _ _ _ _ _ (c.cap ▸ hbad), ⟨core_bump c, ag.head⟩⟩
    rw [if_neg hbad] at hinv ⊢
    have hng : b.granted.contains s.nextId = false := by
      have : s.nextId ∉ s.grantLog := (c.ord.fresh 0 0).log
      rw [c.granted]; simpa using this
    obtain ⟨b1, hev, c1, hperm⟩ := core_evict pre amt prio (core_bump c)
    have hfr := tryPreempt_fresh pre amt prio (c.ord.fresh amt prio)
    generalize tryPreempt pre amt prio (bump s) = r at hinv hev c1 hperm hfr ⊢
    obtain ⟨b2, c2, happ⟩ := core_place s.nextId amt prio r.2 c1 hev hng (c.cap ▸ hbad) hfr
    show ∃ b', b.apply cap (obsOf s (gone ++ r.2) _ ⟨(place r.1 ⟨s.nextId, amt, prio⟩).2, r.2,
        (wakeIf (!r.2.isEmpty && s.wakeAfterPreempt) (place r.1 ⟨s.nextId, amt, prio⟩).1).2⟩ _) = .ok b' ∧
      Agree cap b' (wakeIf (!r.2.isEmpty && s.wakeAfterPreempt) (place r.1 ⟨s.nextId, amt, prio⟩).1).1 (gone ++ r.2)
    replace hinv : Inv (wakeIf (!r.2.isEmpty && s.wakeAfterPreempt) (place r.1 ⟨s.nextId, amt, prio⟩).1).1 := hinv
    rw [happ _ pre rfl rfl rfl hperm]
    revert hinv
    cases r.2.isEmpty with
    | true =>
      intro hinv
      exact ⟨b2, by show Book.wakeSet cap _ b2 (Extra.sortIds []) = _; rw [sortIds_nil, wakeSet_nil], c2, hinv.head⟩
    | false =>
      rw [c.num.fix]
      intro hinv
      obtain ⟨b', hw, c'⟩ := core_wake (Extra.sortIds (wake (place r.1 ⟨s.nextId, amt, prio⟩).1).2) c2 (fun i => mem_sortIds i _)
      exact ⟨b', hw, c', hinv.head⟩

/-- what the clauses of `Book.check` other than the head-of-line clause need: the held amounts against the model's
    `available`, and the flag and statistics clauses on the model's counters -/
theorem check_counters {cap : Int} {b : Book} {s : St} {gone : List Nat} (c : Core cap b s gone) (o : Obs)
    (hp : o.pset = Extra.sortIds gone) (h1 : o.sAcq = s.acquisitions)
    (h2 : o.sRel = s.releases) (h3 : o.sPre = s.preemptions) (h4 : o.sCon = s.contentions) :
    heldSum b = cap - s.avail ∧ 0 ≤ s.avail ∧ 0 ≤ heldSum b ∧
    (if sortedIds o.pset ≠ sortedIds b.gone then some "preempt/preempt/flag-mismatch"
      else if o.sAcq ≠ b.granted.length then some "preempt/stats/acquisitions-mismatch"
      else if o.sRel ≠ b.nRel then some "preempt/stats/releases-mismatch"
      else if o.sPre ≠ b.gone.length then some "preempt/stats/preemptions-mismatch"
      else if o.sCon ≠ b.nCon then some "preempt/stats/contentions-mismatch"
      else none) = none := by
  refine ⟨?_, c.num.availNonneg, ?_, ?_⟩
  · exact c.heldSum
  · unfold heldSum; rw [c.held]; exact amtSum_nonneg s.active c.num.actPos
  · rw [hp, h1, h2, h3, h4, sortIds_eq, sortedIds_idem, c.bgone, c.granted, c.nRel, c.nCon]
    simp [c.nAcq, c.nPre]

theorem check_ok (cap : Int) (b : Book) (s : St) (gone : List Nat) (o : Obs) (ag : Agree cap b s gone)
    (hp : o.pset = Extra.sortIds gone) (ha : o.avail = s.avail) (h1 : o.sAcq = s.acquisitions)
    (h2 : o.sRel = s.releases) (h3 : o.sPre = s.preemptions) (h4 : o.sCon = s.contentions) :
    b.check cap o = none := by
  have c := ag.core
  obtain ⟨hsum, hnn, hheld, hrest⟩ := check_counters c o hp h1 h2 h3 h4
  unfold Book.check
  rw [hrest, ha, hsum]
  rw [if_neg (by omega), if_neg (by omega), if_neg (by omega), if_neg (by simp; omega)]
  cases hw : s.waiters with
  | nil =>
    have hp := c.waitPerm; rw [hw] at hp
    rw [List.perm_nil.mp hp]
    simp [headOf]
  | cons w ws =>
    have hp := c.waitPerm; rw [hw] at hp
    have hs := c.ord.sorted; rw [hw] at hs
    rw [headOf_perm_cons _ _ _ c.waitArr hp hs]
    have := ag.head w ws hw
    simp only [decide_eq_true_eq]
    rw [if_neg (by omega)]

theorem judge_model (cap : Int) (s : St) (b : Book) (gone : List Nat) (ops : List Op) (ag : Agree cap b s gone) :
    judge cap b (obsTrace s gone ops) = none := by
  induction ops generalizing s b gone with
  | nil => rfl
  | cons o os ih =>
    obtain ⟨b', hap, hag⟩ := apply_step cap s b gone o ag
    simp only [obsTrace, judge, hap]
    rw [check_ok cap b' (step s o).1 _ _ hag rfl rfl rfl rfl rfl rfl]
    exact ih _ _ _ hag

end HappyModel.C09.Preempt

namespace HappyModel.C09
open Preempt

/-- **The model's transcript satisfies the Spec judge.**  For every capacity and EVERY call list, the executable
    judge that is run on implementation transcripts (`Preempt.judge`, called by `Extra.judgePreempt`) accepts the
    transcript of the repaired PreemptibleResource model (`wakeAfterPreempt = true`).  No hypothesis on the call list
    is needed: the acquire ids of a transcript are the model's own `nextId` (the driver numbers the calls), release
    ids are arbitrary (unknown, released, preempted, still waiting — all judged). -/
theorem preempt_trace_satisfies_spec (cap : Int) (hcap : 0 < cap) (ops : List Preempt.Op) :
    Preempt.judge cap {} (Preempt.obsTrace (Preempt.St.init cap) [] ops) = none :=
  Preempt.judge_model cap (Preempt.St.init cap) {} [] ops (Preempt.init_agree cap hcap)

/-! `Book.check` and the transcript sort id lists with `List.mergeSort` (well-founded recursion). Kernel evaluation gets
through it as long as every sorted list has fewer than two elements; where a real merge happens it is stuck, and the
example first unfolds the judge over the concrete list and replaces the sort by the insertion sort that returns the
same list (`sortedIds_eq_isort`). -/

/-- capacity 3: a holder, a queued waiter (call 1) woken by `release 0`, a double release (no-op), a preempting
    request of priority 0 that evicts the woken holder (priority 5), a release of the preempted grant (no-op), a
    malformed amount — the hypothesis `0 < cap` holds and the judge accepts the model's transcript -/
example : (0 : Int) < 3 ∧ Preempt.judge 3 {} (Preempt.obsTrace (Preempt.St.init 3) []
    [.acquire 2 5 false, .acquire 2 5 false, .release 0, .release 0, .acquire 3 0 true, .release 1, .acquire 4 1 true])
    = none := by
  decide +kernel

/-- … and what that transcript is: call 1 is queued, woken by the release, then evicted by call 2 -/
example : ((Preempt.obsTrace (Preempt.St.init 3) []
    [.acquire 2 5 false, .acquire 2 5 false, .release 0, .release 0, .acquire 3 0 true, .release 1]).map
      (fun o => (o.res, o.evicted, o.woke, o.pset, o.avail)))
    = [(.granted, [], [], [], 1), (.queued, [], [], [], 1), (.released, [], [1], [], 1), (.noop, [], [], [], 1),
       (.granted, [1], [], [1], 0), (.noop, [], [], [1], 0)] := by
  decide +kernel

/-- the woken set is reported sorted by id although the wake order is by priority (call 2 before call 1), the
    evicted list in eviction order (lowest priority first: call 1, then call 2) -/
example : Preempt.judge 2 {} (Preempt.obsTrace (Preempt.St.init 2) []
      [.acquire 2 0 false, .acquire 1 2 false, .acquire 1 1 false, .release 0, .acquire 2 0 true]) = none
    ∧ ((Preempt.obsTrace (Preempt.St.init 2) []
      [.acquire 2 0 false, .acquire 1 2 false, .acquire 1 1 false, .release 0, .acquire 2 0 true]).map
        (fun o => (o.res, o.evicted, o.woke, o.pset)))
      = [(.granted, [], [], []), (.queued, [], [], []), (.queued, [], [], []), (.released, [], [1, 2], []),
         (.granted, [1, 2], [], [1, 2])]
    ∧ (Preempt.step (Preempt.run (Preempt.St.init 2) [.acquire 2 0 false, .acquire 1 2 false, .acquire 1 1 false])
        (.release 0)).2.woke = [2, 1] := by
  simp only [judge, obsTrace, obsOf, Book.check, sortedIds_eq_isort, sortIds_eq]
  decide +kernel

/-- the repaired `acquire` wakes the waiter that fits into what a preemption freed beyond the requester's need
    (holder of 3 at priority 5, a waiter for 2 at priority 7, a preempting request for 1 at priority 0) -/
example : Preempt.judge 3 {} (Preempt.obsTrace (Preempt.St.init 3) []
    [.acquire 3 5 false, .acquire 2 7 false, .acquire 1 0 true]) = none := by
  decide +kernel

/-- contrast: the code as it is (`wakeAfterPreempt = false`) leaves that waiter blocked, and the same judge rejects
    the transcript of the unrepaired model (cf. `preempt_current_leaves_head_grantable`) -/
example : Preempt.judge 3 {} (Preempt.obsTrace (Preempt.St.init 3 false) []
    [.acquire 3 5 false, .acquire 2 7 false, .acquire 1 0 true]) = some "preempt/head/grantable-but-blocked" := by
  decide +kernel

/-- over-admission: two grants of 1 on capacity 1 -/
example : Preempt.judge 1 {}
    [{ k := .acq 0 1 0 false, res := .granted, avail := 0, sAcq := 1 },
     { k := .acq 1 1 0 false, res := .granted, avail := 0, sAcq := 2 }]
    = some "preempt/held/exceeds-capacity" := by
  decide +kernel

/-- wrong victim: with holders of priority 5 (call 0) and 7 (call 1), a preempting request of priority 0 has to
    evict call 1 (the lowest priority) first, not call 0 -/
example : Preempt.judge 2 {}
    [{ k := .acq 0 1 5 false, res := .granted, avail := 1, sAcq := 1 },
     { k := .acq 1 1 7 false, res := .granted, avail := 0, sAcq := 2 },
     { k := .acq 2 1 0 true, res := .granted, evicted := [0], pset := [0], avail := 0, sAcq := 3, sPre := 1 }]
    = some "preempt/order/wrong-victim" := by
  decide +kernel

/-- a waiter granted out of (priority, arrival) order -/
example : Preempt.judge 1 {}
    [{ k := .acq 0 1 0 false, res := .granted, avail := 0, sAcq := 1 },
     { k := .acq 1 1 2 false, res := .queued, avail := 0, sAcq := 1, sCon := 1 },
     { k := .acq 2 1 1 false, res := .queued, avail := 0, sAcq := 1, sCon := 2 },
     { k := .rel 0, res := .released, woke := [1], avail := 0, sAcq := 2, sRel := 1, sCon := 2 }]
    = some "preempt/order/out-of-order" := by
  decide +kernel

/-- a double release that returns the amount twice -/
example : Preempt.judge 2 {}
    [{ k := .acq 0 1 0 false, res := .granted, avail := 1, sAcq := 1 },
     { k := .rel 0, res := .released, avail := 2, sAcq := 1, sRel := 1 },
     { k := .rel 0, res := .released, avail := 3, sAcq := 1, sRel := 2 }]
    = some "preempt/release/returned-twice" := by
  decide +kernel

end HappyModel.C09
