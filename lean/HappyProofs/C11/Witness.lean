import HappyModel.C11.Observe
/-! Concrete runs of the model on which the rules of `Variant.current` falsify the property.  `current` is `raft.py` as the
    snapshot had it; /repo has since taken the four repairs (`fixes/C11-*.diff`), so what `raft.py` does now is
    `Variant.repaired`, and these runs do not reproduce there. -/
namespace HappyModel.C11
open Spec

/-- corpus/C11/d1-vote-twice.json as recorded on the real nodes (message ids = send order) -/
def witnessD1 : List Act :=
  [ .timeout 0, .timeout 3,
    .deliver 0, .deliver 1, .deliver 8, .deliver 9,     -- 1 and 2 grant, 0 leads term 1
    .deliver 7,                                          -- 4 grants to 3
    .deliver 10, .deliver 11,                            -- 0's AppendEntries(term 1) at 1 and 2: votes forgotten
    .deliver 5, .deliver 6,                              -- 3's RequestVote(term 1) granted again by 1 and 2
    .deliver 14, .deliver 17 ]                           -- 3 leads term 1 as well

/-- election safety is false of `current`: nodes 0 and 3 are both leader in term 1 -/
theorem election_safety_current_false :
    electionOk (frames Variant.current 5 witnessD1) = false := by decide +kernel

/-- the same schedule is harmless under the repaired `_step_down` -/
example : electionOk (frames Variant.repaired 5 witnessD1) = true := by decide +kernel

/-- corpus/C11/d2-match-inflation.json as recorded on the real nodes -/
def witnessD2 : List Act :=
  [ .timeout 0, .deliver 0, .deliver 1, .deliver 4, .deliver 5, .submit 0 0 ⟨1, 0, 0, 1, none⟩,
    .submit 0 1 ⟨2, 0, 1, 2, none⟩, .heartbeat 0, .deliver 10, .timeout 4, .timeout 4, .deliver 21,
    .deliver 22, .deliver 23, .deliver 24, .deliver 26, .deliver 29, .submit 4 2 ⟨3, 0, 0, 7, none⟩,
    .submit 4 3 ⟨4, 0, 1, 7, none⟩, .heartbeat 4, .deliver 32, .deliver 34, .timeout 1, .deliver 35,
    .deliver 37, .deliver 39, .deliver 40 ]

/-- the acknowledgement rule of `current` (`match_index = last_index`): entries committed by node 4 in term 2
    are missing from the log of node 1, leader of term 3 -/
theorem leader_completeness_current_false :
    leaderCompleteOk (frames Variant.current 5 witnessD2) = false := by decide +kernel

example : leaderCompleteOk (frames Variant.repaired 5 witnessD2) = true := by decide +kernel

/-- corpus/C11/d4-stale-future.json as recorded on the real nodes -/
def witnessD4 : List Act :=
  [ .timeout 0, .deliver 0, .deliver 2, .submit 0 0 ⟨1, 0, 0, 1, none⟩, .timeout 2, .timeout 2,
    .deliver 8, .deliver 9, .submit 2 1 ⟨2, 0, 0, 7, none⟩, .heartbeat 2, .deliver 13, .deliver 12,
    .deliver 14, .heartbeat 2, .deliver 16 ]

/-- the truncation rule of `current`: the future of command 1 resolves with index 1, where command 2 was applied -/
theorem submit_resolves_own_command_current_false :
    submitOk (frames Variant.current 3 witnessD4) = false := by decide +kernel

example : submitOk (frames Variant.repaired 3 witnessD4) = true := by decide +kernel

end HappyModel.C11
