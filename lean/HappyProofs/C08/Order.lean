import HappyProofs.C08.PolicyInv
/-!
The code-mirroring policy model refines the list specification (`PolicySpec.lean`): `Sim`, a relation
under which both sides answer every operation alike, gives equal answer lists; here it is established
for the policies whose order is positional (FIFO, LIFO, RED, CoDel, AdaptiveLIFO).
-/
namespace HappyModel.C08

def Kind.positional : Kind → Bool
  | .fifo | .lifo | .red | .codel | .adaptive => true
  | _ => false

def Rel (s : St) (ss : SSt) : Prop := s.q.map (·.item) = ss.held

variable {c : Cfg} {R : St → SSt → Prop} {s : St} {ss : SSt}

theorem sPurge_other (hk : c.kind ≠ .deadline) (ss : SSt) (now : Nat) : sPurge c ss now = (ss, 0) := by
  cases h : c.kind <;> simp only [sPurge, h]
  exact absurd h hk

theorem filter_removeFirst {p q : Item → Bool} {l : List Item} {m : Item}
    (h : l.find? p = some m) (hq : q m = false) : (removeFirst p l).filter q = l.filter q := by
  induction l with
  | nil => simp at h
  | cons x xs ih => grind [removeFirst]

structure Sim (c : Cfg) (R : St → SSt → Prop) : Prop where
  push : ∀ {s ss}, R s ss → ∀ it coin rd,
    (push c s it coin rd).2 = (sPush c ss it coin rd).2 ∧ R (push c s it coin rd).1 (sPush c ss it coin rd).1
  pop : ∀ {s ss}, R s ss → ∀ now k, (pop c s now k).2 = (sPop c ss now k).2 ∧ R (pop c s now k).1 (sPop c ss now k).1
  peek : ∀ {s ss}, R s ss → ∀ now, peek c s now = sChoose c ss now
  purge : ∀ {s ss}, R s ss → ∀ now, (purge c s now).2 = (sPurge c ss now).2 ∧ R (purge c s now).1 (sPurge c ss now).1
  query : ∀ {s ss}, R s ss → ∀ now f, query c s now f = sQuery c ss now f

theorem sim_step (sim : Sim c R) (h : R s ss) (o : Op) : (step c s o).2 = (sStep c ss o).2 ∧ R (step c s o).1
    (sStep c ss o).1 := by
  cases o with
  | push it now coin rd => exact ⟨congrArg Out.pushed (sim.push h it coin rd).1, (sim.push h it coin rd).2⟩
  | pop now k => exact ⟨congrArg Out.popped (sim.pop h now k).1, (sim.pop h now k).2⟩
  | peek now => exact ⟨congrArg Out.peeked (sim.peek h now), h⟩
  | purge now => exact ⟨congrArg Out.purged (sim.purge h now).1, (sim.purge h now).2⟩
  | query now f => exact ⟨congrArg Out.info (sim.query h now f), h⟩

theorem sim_run (sim : Sim c R) :
    ∀ (ops : List Op) (s : St) (ss : SSt), R s ss → (run c s ops).map (·.1) = (sRun c ss ops).map (·.1)
  | [], _, _, _ => rfl
  | o :: os, s, ss, h => by
    have := sim_step sim h o
    simp only [run, sRun, List.map_cons, this.1]
    rw [sim_run sim os _ _ this.2]

/-- only the deadline queue has a `purge_expired` -/
theorem purge_sim_other (hd : c.kind ≠ .deadline) (h : R s ss) (now : Nat) :
    (purge c s now).2 = (sPurge c ss now).2 ∧ R (purge c s now).1 (sPurge c ss now).1 := by
  rw [purge_other hd, sPurge_other hd]
  exact ⟨rfl, h⟩

/-- the balking wrapper is the same test on both sides: a balk changes nothing that `R` reads,
    otherwise the inner policy decides -/
theorem push_sim (hl : len c s = ss.held.length) (it : Item) (coin rd : Bool) (hb : R { s with balked := s.balked + 1 } ss)
    (hi : (pushInner c s it rd).2 = (sPushInner c ss it rd).2 ∧ R (pushInner c s it rd).1 (sPushInner c ss it rd).1) :
    (push c s it coin rd).2 = (sPush c ss it coin rd).2 ∧ R (push c s it coin rd).1 (sPush c ss it coin rd).1 := by
  unfold push sPush
  cases c.balk with
  | none => exact hi
  | some t =>
    dsimp only
    rw [hl]
    split
    · exact ⟨rfl, hb⟩
    · exact hi

theorem positional_notFlow (h : c.kind.positional = true) : c.kind.isFlow = false := by
  cases hk : c.kind <;> simp_all [Kind.positional, Kind.isFlow]

theorem push_refines (hk : c.kind.positional = true) (h : Rel s ss) (it : Item) (coin rd : Bool) :
    (push c s it coin rd).2 = (sPush c ss it coin rd).2 ∧ Rel (push c s it coin rd).1 (sPush c ss it coin rd).1 := by
  have h : s.q.map (·.item) = ss.held := h
  refine push_sim (by rw [len_q (positional_notFlow hk), ← h, List.length_map]) it coin rd h ?_
  cases hkk : c.kind
  case prio | deadline | fair | wfq => rw [hkk] at hk; cases hk
  all_goals simp only [pushInner, sPushInner, hkk, pushRed, pushList, ← h, List.length_map]
  all_goals (repeat' split) <;> simp_all [Rel, SSt.accept]

theorem pop_refines (hk : c.kind.positional = true) (h : Rel s ss) (now k : Nat) :
    (pop c s now k).2 = (sPop c ss now k).2 ∧ Rel (pop c s now k).1 (sPop c ss now k).1 := by
  have h : s.q.map (·.item) = ss.held := h
  cases hkk : c.kind
  case prio | deadline | fair | wfq => rw [hkk] at hk; cases hk
  all_goals simp only [pop, sPop, hkk, popHead, popLast, popCodel, popAdaptive, ← h, List.length_map, List.getLast?_map]
  case fifo | red | codel => cases s.q <;> simp [Rel, ← h, List.map_drop]
  case lifo => cases s.q.getLast? <;> simp [Rel, ← h, List.map_dropLast]
  case adaptive =>
    cases hq : s.q with
    | nil => simp [Rel, ← h, hq]
    | cons e es =>
      by_cases hc : c.thr ≤ es.length + 1
      · cases hg : (e :: es).getLast? with
        | none => simp at hg
        | some l => simp [hc, hg, Rel, List.map_dropLast]
      · simp [hc, Rel]

theorem peek_refines (hk : c.kind.positional = true) (h : Rel s ss) (now : Nat) : peek c s now = sChoose c ss now := by
  have h : s.q.map (·.item) = ss.held := h
  cases hkk : c.kind
  case prio | deadline | fair | wfq => rw [hkk] at hk; cases hk
  all_goals simp only [peek, sChoose, hkk, ← h, List.length_map, List.head?_map, List.getLast?_map]

theorem query_refines (hk : c.kind.positional = true) (h : Rel s ss) (now f : Nat) : query c s now f = sQuery c ss
    now f := by
  have h : s.q.map (·.item) = ss.held := h
  cases hkk : c.kind
  case prio | deadline | fair | wfq => rw [hkk] at hk; cases hk
  all_goals simp only [query, sQuery, hkk, ← h, List.length_map]

theorem rel_sim (hk : c.kind.positional = true) : Sim c Rel :=
  ⟨push_refines hk, pop_refines hk, peek_refines hk,
    purge_sim_other (fun e => by rw [e] at hk; cases hk), query_refines hk⟩

end HappyModel.C08
