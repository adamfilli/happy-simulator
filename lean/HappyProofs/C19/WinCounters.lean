import HappyProofs.C19.WinModelLemmas
/-!
The six public counters of the stream processor over a run, for every window kind and with no hypothesis on the schedule.
-/
namespace HappyModel.C19.Win

def countProc : List Line → Nat
  | [] => 0
  | ⟨_, .proc _⟩ :: rest => countProc rest + 1
  | _ :: rest => countProc rest

def emLen : List Out → Nat
  | [] => 0
  | .emits _ ems _ :: rest => ems.length + emLen rest
  | _ :: rest => emLen rest

/-- `rest`, `outs`: the rest of the schedule and of the outputs, so that the equations add up along a run -/
theorem step_counts (cfg : Cfg) (s : St) (ln : Line) (rest : List Line) (outs : List Out) :
    (step cfg s ln).1.ep + countProc rest = s.ep + countProc (ln :: rest) ∧
    (step cfg s ln).1.we + emLen outs = s.we + emLen ((step cfg s ln).2 :: outs) ∧
    (step cfg s ln).1.le + s.ld + s.lu + s.ls =
      s.le + (step cfg s ln).1.ld + (step cfg s ln).1.lu + (step cfg s ln).1.ls ∧
    (step cfg s ln).1.le + countProc rest ≤ s.le + countProc (ln :: rest) := by
  obtain ⟨t, act⟩ := ln
  cases act with
  | proc r =>
    obtain ⟨st, wq, e⟩ := stepProc_eq cfg t r s
    simp only [step, e, countProc, emLen, procStatus]
    by_cases hl : isLate cfg s.wm r.et = true
    · have : min cfg.policy 2 = 0 ∨ min cfg.policy 2 = 1 ∨ min cfg.policy 2 = 2 := by omega
      rcases this with hm | hm | hm <;> simp [hl, hm] <;> omega
    · simp [hl]; omega
  | wmA ext w =>
    obtain ⟨wq, e⟩ := stepWmA_eq t ext w s
    simp [step, e, countProc, emLen]
  | wmB => simp [step, stepWmB, countProc, emLen]; omega
  | lateRecv id =>
    rcases stepLate_eq id s with ⟨r, _, e⟩ | ⟨_, e⟩ <;> simp [step, e, countProc, emLen]
  | fin => simp [step, countProc, emLen]

theorem counters_run (cfg : Cfg) : ∀ (sched : List Line) (s : St), s.le = s.ld + s.lu + s.ls → s.le ≤ s.ep →
    let s' := finalState cfg s sched
    s'.ep = s.ep + countProc sched ∧ s'.we = s.we + emLen (run cfg s sched) ∧
    s'.le = s'.ld + s'.lu + s'.ls ∧ s'.le ≤ s'.ep := by
  intro sched
  induction sched with
  | nil => intro s h1 h2; simp only [finalState, countProc, run, emLen]; omega
  | cons ln rest ih =>
    intro s h1 h2
    obtain ⟨c1, c2, c3, c4⟩ := step_counts cfg s ln rest (run cfg (step cfg s ln).1 rest)
    obtain ⟨i1, i2, i3, i4⟩ := ih (step cfg s ln).1 (by omega) (by omega)
    refine ⟨?_, ?_, i3, i4⟩
    · show (finalState cfg (step cfg s ln).1 rest).ep = _
      omega
    · show (finalState cfg (step cfg s ln).1 rest).we = s.we + emLen ((step cfg s ln).2 :: run cfg (step cfg s ln).1 rest)
      omega

end HappyModel.C19.Win
