import HappyProofs.C09.PreemptCbStep
/-! PreemptibleResource with re-entrant `on_preempt` callbacks: the property theorems, for every capacity, every
operation list, **every table of callback programs** (releases of any grant, nested acquires with or without
preemption, queries — nested to any depth, even cyclically) and every amount of fuel, i.e. at every tick boundary of
every run. -/
namespace HappyModel.C09.PreemptCb
open HappyModel.C09.Preempt

theorem init_agree (cap : Int) (h : 0 < cap) (ops : List Act) : Agree cap {} (M.init cap ops) :=
  { core := init_core cap h
    calls := rfl
    head := fun _ => (init_inv cap h).head
    ret := ⟨List.nodup_nil, (fun _ h => by cases h), (fun _ h => by cases h)⟩
    valid := by
      intro f hf
      simp [M.init] at hf
      rw [hf]; trivial }

theorem drain_agree (cap : Int) (cnt : Bool) (P : Progs) : ∀ (n : Nat) (j : JB) (m : M), Agree cap j m →
    judge cap j ((drain P n m).2.map (cobs cnt)) = none ∧ ∃ j', Agree cap j' (drain P n m).1 := by
  intro n
  induction n with
  | zero => intro j m ag; exact ⟨rfl, j, ag⟩
  | succ n ih =>
    intro j m ag
    by_cases hs : m.stack = []
    · simp only [drain, hs, if_true]
      exact ⟨rfl, j, ag⟩
    · have st := tick_step cap cnt P j m ag
      unfold Step at st
      simp only [drain, hs, if_false]
      cases h2 : (tick P m).2 with
      | none =>
        rw [h2] at st
        exact ih j _ st
      | some e =>
        rw [h2] at st
        obtain ⟨j', ha, hc, ag'⟩ := st
        obtain ⟨h1, hj⟩ := ih j' _ ag'
        refine ⟨?_, hj⟩
        simp only [List.map_cons, judge, ha, hc]
        exact h1

end HappyModel.C09.PreemptCb

namespace HappyModel.C09
open Preempt PreemptCb

/-- **Conservation with re-entrant callbacks.**  Whatever the victims' `on_preempt` callbacks do to the resource
    (release themselves, each other, the preemptor's peers; acquire what was just freed; preempt again), after every
    tick — in particular at every observation made inside a callback and right after the preempting acquire returns —
    `available + Σ held amounts = capacity`. -/
theorem preempt_cb_conservation (cap : Int) (hcap : 0 < cap) (P : Progs) (ops : List Act) (n : Nat) :
    (drain P n (M.init cap ops)).1.s.avail + amtSum (drain P n (M.init cap ops)).1.s.active = cap := by
  obtain ⟨_, j, ag⟩ := drain_agree cap true P n {} _ (PreemptCb.init_agree cap hcap ops)
  have := ag.core.num.conserve
  rw [ag.core.cap] at this
  exact this

/-- **Never more held than the capacity, never more available than the capacity** — with re-entrant callbacks. -/
theorem preempt_cb_held_le_capacity (cap : Int) (hcap : 0 < cap) (P : Progs) (ops : List Act) (n : Nat) :
    amtSum (drain P n (M.init cap ops)).1.s.active ≤ cap ∧
    0 ≤ (drain P n (M.init cap ops)).1.s.avail ∧ (drain P n (M.init cap ops)).1.s.avail ≤ cap := by
  obtain ⟨_, j, ag⟩ := drain_agree cap true P n {} _ (PreemptCb.init_agree cap hcap ops)
  have h1 := ag.core.num.conserve
  rw [ag.core.cap] at h1
  have h2 := ag.core.num.availNonneg
  have h3 := amtSum_nonneg _ ag.core.num.actPos
  omega

/-- **A grant's amount is returned at most once** (`release()` is idempotent, also from inside a callback; a release
    of a preempted grant and a preemption of a released grant are no-ops): the log of returned amounts never holds an
    id twice, and a further `release` of any id in it changes nothing. -/
theorem preempt_release_idempotent (cap : Int) (hcap : 0 < cap) (P : Progs) (ops : List Act) (n : Nat) :
    (drain P n (M.init cap ops)).1.retLog.Nodup ∧
    ∀ id ∈ (drain P n (M.init cap ops)).1.retLog, ∀ ctx,
      (doAct (drain P n (M.init cap ops)).1 ctx (.rel id)).1 = (drain P n (M.init cap ops)).1 := by
  obtain ⟨_, j, ag⟩ := drain_agree cap true P n {} _ (PreemptCb.init_agree cap hcap ops)
  refine ⟨ag.ret.nodup, ?_⟩
  intro id hid ctx
  have hnone : (drain P n (M.init cap ops)).1.s.active.find? (·.id == id) = none := by
    rw [List.find?_eq_none]
    intro g hg hgi
    have : g.id = id := by simpa using hgi
    exact ag.ret.dead g hg (this ▸ hid)
  simp only [doAct, hnone]

/-- **The model's transcript satisfies the Spec judge — with callbacks.**  For every capacity, EVERY operation list
    and EVERY table of callback programs, the executable judge that is run on implementation transcripts
    (`PreemptCb.judge`, called by `Extra.judgePreemptCb`: conservation and `available ≤ capacity` after every
    observation including those made inside callbacks, every amount returned once, victims of strictly lower priority
    and no more than needed, lowest priority first among the snapshot's live members, waiters woken strictly from the
    head, flags and statistics) accepts the transcript of the re-entrant machine; `cnt` = nested lines carry counters. -/
theorem preempt_cb_trace_satisfies_spec (cap : Int) (hcap : 0 < cap) (P : Progs) (ops : List Act) (n : Nat) (cnt : Bool) :
    PreemptCb.judge cap {} ((drain P n (M.init cap ops)).2.map (cobs cnt)) = none :=
  (drain_agree cap cnt P n {} _ (PreemptCb.init_agree cap hcap ops)).1

/-- capacity 2: grants 0 and 1 (priority 5; 0's callback = release own grant, release grant 1, acquire 1 unit at
    priority 9, query), then `acquire(2, priority=1)` -/
def demoP : Progs := [[.rel 0, .rel 1, .acq 1 9 false 7, .query]]
def demoOps : List Act := [.acq 1 5 false 0, .acq 1 5 false 7, .acq 2 1 true 7, .rel 2]

-- both amounts came back exactly once (0 by eviction, 1 by the callback's release), the nested acquire (call id 2)
-- took one of the freed units, so the preemptor (call id 3) is queued
example : (drain demoP 40 (M.init 2 demoOps)).1.retLog = [0, 1, 2] := by decide +kernel
example : (drain demoP 40 (M.init 2 demoOps)).1.s.active.map G.id = [3] := by decide +kernel
example : (drain demoP 40 (M.init 2 demoOps)).1.gone = [0] := by decide +kernel
example : (drain demoP 40 (M.init 2 demoOps)).1.stack = [] := by decide +kernel
-- the observations: two grants, then inside the callback of 0: fired, three calls, a query; the preemptor; the release
example : (drain demoP 40 (M.init 2 demoOps)).2.map (·.ctx) =
    [none, none, some 0, some 0, some 0, some 0, some 0, none, none] := by decide +kernel
example : (drain demoP 40 (M.init 2 demoOps)).2.map (·.o.res) =
    [.granted, .granted, .noop, .noop, .released, .granted, .noop, .queued, .released] := by decide +kernel

end HappyModel.C09
