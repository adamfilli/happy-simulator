import HappyProofs.C14.LsmSys
namespace HappyModel.C14

/-- What the `_compacting` flag of the repaired tree (`fixes/C14-compaction-overlap`) guarantees between plan and
    install: the job was planned on an earlier version `lv0` of the levels, and only flush installs happened since
    (`extra`, appended to level 0). -/
structure CompactPre (cfg : Cfg) (s : St) (j : Job) : Prop where
  planned : ∃ lv0 extra, planCompaction cfg lv0 j.src = some j ∧ lv0.length = s.levels.length ∧
    lv0.getD j.tgt [] = s.levels.getD j.tgt [] ∧ s.levels.getD j.src [] = lv0.getD j.src [] ++ extra ∧
    (j.src ≠ 0 → extra = [])
  sorted : ∀ l ∈ s.levels, ∀ t ∈ l, Sorted t.data
  disjoint : ∀ i, 1 ≤ i → LevelDisjoint (s.levels.getD i [])
  ids : ∀ l ∈ s.levels, (l.map (·.id)).Nodup
  levels : s.levels.length = cfg.maxLevels ∧ 2 ≤ cfg.maxLevels

theorem CompactPre.lvInv {cfg : Cfg} {s : St} {j : Job} (h : CompactPre cfg s j) : LvInv cfg s.levels where
  len := h.levels.1
  two := h.levels.2
  sorted := fun i t ht => by
    rcases getD_mem_or_nil s.levels i with hm | hn
    · exact h.sorted _ hm t ht
    · rw [hn] at ht; cases ht
  disj := h.disjoint
  ids := fun i => by
    rcases getD_mem_or_nil s.levels i with hm | hn
    · exact h.ids _ hm
    · rw [hn]; exact List.nodup_nil

theorem abs_compact (cfg : Cfg) (s : St) (j : Job) (k : Key) (h : CompactPre cfg s j) :
    (compactInstall s j).1.abs k = s.abs k :=
  abs_compactInstall h.lvInv h.planned k

theorem compactPre_run (cfg : Cfg) (y0 : Sys) (hinit : InitSys cfg y0) (h2 : 2 ≤ cfg.maxLevels) (sched : List Nat) :
    ∀ f ∈ (y0.run cfg sched).frames, ∀ j, f.pc = .pCompact j → CompactPre cfg (y0.run cfg sched).st j := by
  intro f hf j hj
  have hI := lsm_inv_run hinit h2 sched
  have hp := hI.pcs f hf
  rw [hj] at hp
  refine ⟨hp.1, ?_, hI.sinv.lv.disj, ?_, hI.sinv.lv.len, h2⟩
  · intro l hl t ht
    obtain ⟨i, hi⟩ := exists_getD_of_mem hl
    exact hI.sinv.lv.sorted i t (by rw [hi]; exact ht)
  · intro l hl
    obtain ⟨i, hi⟩ := exists_getD_of_mem hl
    rw [← hi]; exact hI.sinv.lv.ids i

/-- C14, refinement to a map: whenever a compaction installs, in any interleaving, the abstract map of the whole tree
    is unchanged -/
theorem abs_compact_run (cfg : Cfg) (y0 : Sys) (hinit : InitSys cfg y0) (h2 : 2 ≤ cfg.maxLevels) (sched : List Nat)
    (f : Frame) (hf : f ∈ (y0.run cfg sched).frames) (j : Job) (hj : f.pc = .pCompact j) (k : Key) :
    (compactInstall (y0.run cfg sched).st j).1.abs k = (y0.run cfg sched).st.abs k :=
  abs_compact cfg _ j k (compactPre_run cfg y0 hinit h2 sched f hf j hj)

/-- at most one compaction is in flight, and the `_compacting` flag says so -/
theorem compactions_exclusive (cfg : Cfg) (y0 : Sys) (hinit : InitSys cfg y0) (h2 : 2 ≤ cfg.maxLevels) (sched : List Nat) :
    ((y0.run cfg sched).frames.countP fun f => f.pc.isCompact) = if (y0.run cfg sched).st.compacting then 1 else 0 :=
  (lsm_inv_run hinit h2 sched).excl

/-! Non-vacuity: a run that reaches a suspended compaction (two flushed memtables in level 0). -/

def exCfg : Cfg := { memSize := 1, maxLevels := 2, strat := .sizeTiered 2 }
def exSys : Sys :=
  { st := St.init exCfg,
    frames := [⟨1, .pStart 0 (some 1), none, none, 0⟩, ⟨2, .pStart 1 none, none, none, 0⟩, ⟨3, .gStart 0, none, none, 0⟩] }

theorem exSys_init : InitSys exCfg exSys :=
  ⟨⟨[], rfl⟩, by decide, rfl⟩

example : ((exSys.run exCfg [1, 1, 1, 2, 2, 2]).frames.any fun f => f.pc.isCompact) = true ∧
    (exSys.run exCfg [1, 1, 1, 2, 2, 2]).st.compacting = true ∧ 2 ≤ exCfg.maxLevels := by decide +kernel

end HappyModel.C14
