import HappyModel.C09.ThreadPool
/-!
`HappyModel.C09.Extra.runTPool` walks a list of schedule lines (`submit t tid`, `notify t`, `poll t`,
`deliver t`, `work t tid pt`, `finish t tid`, `disp t`, `fin t`), keeps the model state and the list `due`
of `(task, clock value at which its service ends)` and prints one transcript line per schedule line;
`parseTObs` reads such a line back into a `TPool.Obs` and `judgeTPool` hands the list to `TPool.judge`.

`Line` is one schedule line, `next` the state transformer of `runTPool.go`, `obsOf` the observation
`parseTObs` reads from the line `runTPool.go` prints, `obsTrace` the whole transcript.  Counters are those of
the model's state *after* the delivery (`tcnt r.1`), exactly as printed.

Lines printed with a `!unexpected…` marker (a delivery the model answers with `.bad`, a `finish` that is not
due) carry no `res=` and no counters: `parseTObs` reads them as the bare observation `{ t, k }` (all
counters 0); that is what `obsOf` returns for them.  (`notify`/`disp` with a `.bad` answer are printed as
`res=!bad`, which `parseTObs` refuses altogether: `judgeTPool` answers `tpool/malformed-judge-input`.  The
well-formedness predicate `wf` below excludes all of these.)
-/
namespace HappyModel.C09.TPool

/-- one schedule line of the `tpool` driver mode -/
inductive Line
  | submit (t tid : Nat) | notify (t : Nat) | poll (t : Nat) | deliver (t : Nat)
  | work (t tid pt : Nat) | finish (t tid : Nat) | disp (t : Nat) | fin (t : Nat)
deriving Repr, DecidableEq

abbrev Due := List (Nat × Nat)

def Line.time : Line → Nat
  | .submit t _ | .notify t | .poll t | .deliver t | .work t _ _ | .finish t _ | .disp t | .fin t => t

def Line.isFin : Line → Bool
  | .fin _ => true
  | _ => false

/-- a transcript line with `res=`/`item=` and the counters `tcnt s` -/
def mkObs (s : St) (t : Nat) (k : Kind) (res : ORes) (item : Option Nat) (pt : Nat) : Obs :=
  { t := t, k := k, res := res, item := item, pt := pt, aw := s.active, iw := s.n - s.active, q := s.queue.length,
    acc := s.accepted, drop := s.dropped, done := s.completed, rej := s.rejected, cap := decide (s.active < s.n) }

/-- a `!unexpected` line: no `res=`, no counters -/
def bareObs (t : Nat) (k : Kind) (pt : Nat) : Obs := { t := t, k := k, pt := pt }

/-- the state transformer of `runTPool.go` -/
def next (s : St) (due : Due) : Line → St × Due
  | .submit _ tid => ((step s (.submit tid)).1, due)
  | .notify _ => ((step s .notify).1, due)
  | .poll _ => ((step s .poll).1, due)
  | .deliver _ => ((step s .deliver).1, due)
  | .work t tid pt => ((step s (.work tid)).1, (tid, t + pt) :: due)
  | .finish t tid => if due.contains (tid, t) then ((step s (.finish tid)).1, due) else (s, due)
  | .disp _ => ((step s .disp).1, due)
  | .fin _ => (s, due)

/-- what `parseTObs` reads from the line `runTPool.go` prints -/
def obsOf (s : St) (due : Due) : Line → Obs
  | .submit t tid =>
    match (step s (.submit tid)).2 with
    | .accepted _ => mkObs (step s (.submit tid)).1 t (.submit tid) .accepted none 0
    | _ => mkObs (step s (.submit tid)).1 t (.submit tid) .dropped none 0
  | .notify t =>
    match (step s .notify).2 with
    | .polled => mkObs (step s .notify).1 t .notify .polled none 0
    | .idle => mkObs (step s .notify).1 t .notify .idle none 0
    | _ => bareObs t .notify 0
  | .poll t =>
    match (step s .poll).2 with
    | .item i => mkObs (step s .poll).1 t .poll .item i 0
    | _ => bareObs t .poll 0
  | .deliver t =>
    match (step s .deliver).2 with
    | .item i => mkObs (step s .deliver).1 t .deliver .item i 0
    | .polled => mkObs (step s .deliver).1 t .deliver .polled none 0
    | .idle => mkObs (step s .deliver).1 t .deliver .idle none 0
    | _ => bareObs t .deliver 0
  | .work t tid pt =>
    match (step s (.work tid)).2 with
    | .started => mkObs (step s (.work tid)).1 t (.work tid) .started none pt
    | .rejected => mkObs (step s (.work tid)).1 t (.work tid) .rejected none pt
    | _ => bareObs t (.work tid) pt
  | .finish t tid =>
    if !due.contains (tid, t) then bareObs t (.finish tid) 0
    else if (step s (.finish tid)).2 == .bad then bareObs t (.finish tid) 0
    else mkObs (step s (.finish tid)).1 t (.finish tid) .none none 0
  | .disp t =>
    match (step s .disp).2 with
    | .polled => mkObs (step s .disp).1 t .disp .polled none 0
    | .idle => mkObs (step s .disp).1 t .disp .idle none 0
    | _ => bareObs t .disp 0
  | .fin t => mkObs s t .fin .none none 0

def obsTrace (s : St) (due : Due) : List Line → List Obs
  | [] => []
  | l :: ls => obsOf s due l :: obsTrace (next s due l).1 (next s due l).2 ls

/-- the line is a behaviour of the engine: an internal delivery is the head of `pend` and a `finish` is due
    and of a running task (no `!unexpected` line); a task id is accepted once; `fin` only when no task is in
    service -/
def lineOk (s : St) (due : Due) : Line → Bool
  | .submit _ tid => (step s (.submit tid)).2 == .dropped || !s.acceptedL.contains tid
  | .notify _ => (step s .notify).2 != .bad
  | .poll _ => (step s .poll).2 != .bad
  | .deliver _ => (step s .deliver).2 != .bad
  | .work _ tid _ => (step s (.work tid)).2 != .bad
  | .finish t tid => due.contains (tid, t) && (step s (.finish tid)).2 != .bad
  | .disp _ => (step s .disp).2 != .bad
  | .fin _ => s.running.isEmpty

/-- is `l` the last line of its instant (`isSettled`)? -/
def lastOfInstant (l : Line) : List Line → Bool
  | [] => true
  | l' :: _ => l'.isFin || l'.time != l.time

/-- what an instant must leave behind: no task between the queue and a worker, and no queued task next to a
    free worker -/
def quiet (s : St) : Bool :=
  (transit s.pend).isEmpty && (s.queue.isEmpty || decide (s.n ≤ s.active))

/-- well-formed schedule: every line is a behaviour of the engine and the clock only advances (and the run
    only ends) when the instant's internal deliveries have been made -/
def wf (s : St) (due : Due) : List Line → Bool
  | [] => true
  | l :: ls =>
    lineOk s due l
    && (!(l.isFin || lastOfInstant l ls) || quiet (next s due l).1)
    && wf (next s due l).1 (next s due l).2 ls

/-- the natural sufficient condition for `quiet`: nothing is pending inside the pool -/
def drained (s : St) : Bool := s.pend.isEmpty

end HappyModel.C09.TPool
