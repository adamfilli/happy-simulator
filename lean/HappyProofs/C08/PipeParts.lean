import HappyProofs.C08.PipeGhost
/-!
From the inductive invariants (`GInv`, `PInv`) to the statements of the property text.
-/
namespace HappyModel.C08.Pipe

/-- the populations of the property text, as lists of item ids:
    rejected-and-counted / waiting in the queue / in transit (`delivers`, `works`) / in service /
    completed -/
def populations (c : PCfg) (s : PSt) (g : Gh) : List Nat :=
  g.refused ++ (waitIds c.pol s.q ++ (s.delivers ++ (s.works ++ (s.inService ++ g.done))))

/-- `item_state_partition` for a state `s`, the ghost record `g` of the run that led to it and the
    list `off` of offered ids -/
structure Partition (c : PCfg) (s : PSt) (g : Gh) (off : List Nat) : Prop where
  /-- the populations together are exactly the offered ids -/
  perm : (populations c s g).Perm off
  /-- every offered id occurs exactly once in the concatenation: in one population, once -/
  one : ∀ i ∈ off, (populations c s g).count i = 1
  /-- nothing that was not offered is anywhere -/
  only : ∀ i, i ∉ off → (populations c s g).count i = 0
  /-- completed at most once -/
  once : g.done.Nodup
  /-- accepted and refused split the offered ids -/
  split : (g.refused ++ g.accepted).Perm off
  /-- rejected-**and-counted**: the public counters are the sizes of the populations -/
  dropped : s.dropped = g.refused.length
  accepted : s.acc = g.accepted.length
  completed : s.completed = g.done.length
  /-- the worker discarded nothing after dequeue -/
  discarded : g.discarded = [] ∧ s.rejected = 0

/-- the same with the seventh population of the unrepaired driver: items the `Server` discarded
    after dequeue (counted in `requests_rejected`) -/
structure Partition7 (c : PCfg) (s : PSt) (g : Gh) (off : List Nat) : Prop where
  perm : (populations c s g ++ g.discarded).Perm off
  one : ∀ i ∈ off, (populations c s g ++ g.discarded).count i = 1
  once : g.done.Nodup
  split : (g.refused ++ g.accepted).Perm off
  dropped : s.dropped = g.refused.length
  accepted : s.acc = g.accepted.length
  completed : s.completed = g.done.length
  rejected : s.rejected = g.discarded.length

theorem partition7_of_inv {c : PCfg} {s : PSt} {g : Gh} {ss : SSt} {off : List Nat} (hr : PolRel c.pol s.q ss)
    (hg : GInv s g ss) (ho : g.offered = off) (hd : off.Nodup) : Partition7 c s g off := by
  subst ho
  have hperm : (populations c s g ++ g.discarded).Perm g.offered := by
    refine .trans ?_ hg.perm
    simp only [populations, pops, List.append_assoc]
    exact ((polrel_waitIds hr).append_right _).append_left _
  have hdone : g.done.Nodup := (hperm.nodup_iff.mpr hd).sublist
    ((List.sublist_append_right _ g.done).trans <| (List.sublist_append_right _ _).trans <|
      (List.sublist_append_right _ _).trans <| (List.sublist_append_right _ _).trans <|
      (List.sublist_append_right _ _).trans (List.sublist_append_left _ _))
  refine ⟨hperm, fun i hi => ?_, hdone, hg.ra, hg.drop, hg.acc, hg.comp, hg.rej⟩
  rw [hperm.count_eq, hd.count, if_pos hi]

theorem partition_of_inv {c : PCfg} {s : PSt} {g : Gh} {ss : SSt} {off : List Nat} (hr : PolRel c.pol s.q ss)
    (hg : GInv s g ss) (h0 : s.rejected = 0) (ho : g.offered = off) (hd : off.Nodup) : Partition c s g off := by
  have h7 := partition7_of_inv hr hg ho hd
  have hdis : g.discarded = [] := List.eq_nil_of_length_eq_zero (by rw [← hg.rej]; exact h0)
  have hp : (populations c s g).Perm off := by
    rw [← List.append_nil (populations c s g), ← hdis]
    exact h7.perm
  refine ⟨hp, fun i hi => ?_, fun i hi => ?_, h7.once, h7.split, h7.dropped, h7.accepted, h7.completed, hdis, h0⟩
  · rw [hp.count_eq, hd.count, if_pos hi]
  · rw [hp.count_eq]
    exact List.count_eq_zero.mpr hi

theorem sched_take {c : PCfg} : ∀ (n : Nat) (as : List Act) (s : PSt), Sched c s as → Sched c s (as.take n)
  | 0, _, _, _ => trivial
  | _ + 1, [], _, _ => trivial
  | n + 1, _ :: as, _, hs => ⟨hs.1, sched_take n as _ hs.2⟩

theorem offeredIds_take_nodup {as : List Act} (hd : (offeredIds as).Nodup) (n : Nat) :
    (offeredIds (as.take n)).Nodup :=
  hd.sublist ((List.take_sublist n as).filterMap _)

/-- with one slot, at most one item is in service or on its way there: an item in transit holds
    the slot it will take -/
theorem busy_le_one {c : PCfg} {s : PSt} (h : PInv c s) (hl : s.limit = 1) :
    (s.inService ++ (s.delivers ++ s.works)).length ≤ 1 := by
  have ht := h.toPInv0.transit_le_one
  have hact := h.act
  have hle := h.le
  rw [List.length_append, List.length_append]
  by_cases hp : 1 ≤ s.nPoll + s.delivers.length + s.works.length
  · have := h.res hp
    omega
  · omega

end HappyModel.C08.Pipe
