import HappyProofs.C02.Resume
/-!
# C02 — building a composite over plain futures, and `any_of` (one level)

`composite_built`: what `f := any_of(gs…)` / `f := all_of(gs…)` leaves in the future table when built over pairwise
distinct, unresolved, callback-free futures.  `AnyShape e f gs` describes that table while `f = any_of(gs)` is
unresolved.
-/
namespace HappyModel.C01

theorem addCb_unresolved (e : Eff) (now g : Nat) (cb : Cb) (h : (futGet e.ps.futs g).resolved = false) :
    addCb e now g cb = e.setFut g { futGet e.ps.futs g with cbs := (futGet e.ps.futs g).cbs ++ [cb] } := by
  rw [addCb_eq]; simp [h]

theorem addCb_fold (mk : Nat → Cb) (now : Nat) (ps : List (Nat × Nat)) :
    ∀ (e : Eff), (ps.map (·.2)).Nodup → (∀ p ∈ ps, (futGet e.ps.futs p.2).resolved = false) →
    (∀ g, g ∉ ps.map (·.2) →
      futGet (ps.foldl (fun acc p => addCb acc now p.2 (mk p.1)) e).ps.futs g = futGet e.ps.futs g) ∧
    (∀ p ∈ ps, futGet (ps.foldl (fun acc p => addCb acc now p.2 (mk p.1)) e).ps.futs p.2
      = { futGet e.ps.futs p.2 with cbs := (futGet e.ps.futs p.2).cbs ++ [mk p.1] }) := by
  induction ps with
  | nil => intro e _ _; simp
  | cons a t ih =>
    intro e hnd hun
    simp only [List.map_cons, List.nodup_cons] at hnd
    have ha := hun a (by simp)
    simp only [List.foldl_cons]
    rw [addCb_unresolved e now a.2 (mk a.1) ha]
    generalize he' : e.setFut a.2 { futGet e.ps.futs a.2 with cbs := (futGet e.ps.futs a.2).cbs ++ [mk a.1] } = e'
    have hsame : ∀ g, g ≠ a.2 → futGet e'.ps.futs g = futGet e.ps.futs g := by
      intro g hg; subst he'; simp [futGet_futSet, hg]
    have hat : futGet e'.ps.futs a.2
        = { futGet e.ps.futs a.2 with cbs := (futGet e.ps.futs a.2).cbs ++ [mk a.1] } := by
      subst he'; simp [futGet_futSet]
    have hne : ∀ p ∈ t, p.2 ≠ a.2 := by
      intro p hp heq
      exact hnd.1 (List.mem_map.mpr ⟨p, hp, heq⟩)
    have ⟨ih1, ih2⟩ := ih e' hnd.2 (by
      intro p hp; rw [hsame p.2 (hne p hp)]; exact hun p (by simp [hp]))
    constructor
    · intro g hg
      simp only [List.map_cons, List.mem_cons, not_or] at hg
      rw [ih1 g hg.2, hsame g hg.1]
    · intro p hp
      rcases List.mem_cons.mp hp with rfl | hp
      · rw [ih1 _ hnd.1, hat]
      · rw [ih2 p hp, hsame p.2 (hne p hp)]

theorem enum_snd (gs : List Nat) : (enum gs).map (·.2) = gs := by
  unfold enum
  rw [List.map_snd_zip]
  simp

theorem enum_mem (gs : List Nat) (i : Nat) (hi : i < gs.length) : (i, gs[i]) ∈ enum gs := by
  unfold enum
  rw [List.mem_iff_getElem]
  refine ⟨i, by simp [hi], ?_⟩
  simp

theorem composite_built (mk : Nat → Cb) (now : Nat) (e : Eff) (f : Nat) (gs : List Nat) (c0 : Fut)
    (hnd : gs.Nodup) (hf : f ∉ gs)
    (hgs : ∀ g ∈ gs, (futGet e.ps.futs g).resolved = false ∧ (futGet e.ps.futs g).cbs = []) :
    futGet ((enum gs).foldl (fun acc p => addCb acc now p.2 (mk p.1)) (e.setFut f c0)).ps.futs f = c0 ∧
    ∀ i (hi : i < gs.length),
      (futGet ((enum gs).foldl (fun acc p => addCb acc now p.2 (mk p.1)) (e.setFut f c0)).ps.futs gs[i]).resolved
        = false ∧
      (futGet ((enum gs).foldl (fun acc p => addCb acc now p.2 (mk p.1)) (e.setFut f c0)).ps.futs gs[i]).cbs
        = [mk i] := by
  have hsame : ∀ g ∈ gs, futGet (e.setFut f c0).ps.futs g = futGet e.ps.futs g :=
    fun g hg => futGet_futSet_ne _ _ _ _ (fun heq => hf (heq ▸ hg))
  have ⟨h1, h2⟩ := addCb_fold mk now (enum gs) (e.setFut f c0) (by rw [enum_snd]; exact hnd) (by
    intro p hp
    have hp2 : p.2 ∈ gs := by rw [← enum_snd gs]; exact List.mem_map.mpr ⟨p, hp, rfl⟩
    rw [hsame p.2 hp2]; exact (hgs p.2 hp2).1)
  refine ⟨by rw [h1 f (by rw [enum_snd]; exact hf)]; exact futGet_futSet_same _ _ _, fun i hi => ?_⟩
  have hgi := hgs gs[i] (List.getElem_mem hi)
  rw [h2 (i, gs[i]) (enum_mem gs i hi), hsame _ (List.getElem_mem hi)]
  exact ⟨hgi.1, by rw [hgi.2]; rfl⟩

structure AnyShape (e : Eff) (f : Nat) (gs : List Nat) : Prop where
  notin : f ∉ gs
  unres : (futGet e.ps.futs f).resolved = false
  nocb : (futGet e.ps.futs f).cbs = []
  inp : ∀ i (h : i < gs.length),
    (futGet e.ps.futs gs[i]).resolved = false ∧ (futGet e.ps.futs gs[i]).cbs = [.anyCb f i]

theorem anyof_construct (now : Nat) (e : Eff) (f : Nat) (gs : List Nat) (hnd : gs.Nodup) (hf : f ∉ gs)
    (hgs : ∀ g ∈ gs, (futGet e.ps.futs g).resolved = false ∧ (futGet e.ps.futs g).cbs = []) :
    AnyShape (runAct now e (.anyOf f gs)) f gs := by
  obtain ⟨hff, hin⟩ := composite_built (Cb.anyCb f) now e f gs {} hnd hf hgs
  rw [show runAct now e (.anyOf f gs)
    = (enum gs).foldl (fun acc p => addCb acc now p.2 (Cb.anyCb f p.1)) (e.setFut f {}) from rfl]
  exact ⟨hf, congrArg Fut.resolved hff, congrArg Fut.cbs hff, hin⟩

theorem anyof_first_eq (fuel : Nat) (e : Eff) (now f : Nat) (gs : List Nat) (i : Nat) (v : Val)
    (sh : AnyShape e f gs) (hi : i < gs.length) :
    resolveFut (fuel + 2) e now gs[i] v
      = markResolved (markResolved e now gs[i] v) now f (.pair i v) := by
  have ⟨hun, hcb⟩ := sh.inp i hi
  have hne : f ≠ gs[i] := fun heq => sh.notin (heq ▸ List.getElem_mem hi)
  rw [resolveFut_succ]
  simp only [hun, Bool.false_eq_true, if_false, hcb, List.foldl_cons, List.foldl_nil, cbStep]
  rw [resolveFut_succ]
  rw [markResolved_futGet_ne e now gs[i] f v hne]
  simp [sh.unres, sh.nocb]

theorem markResolved_procs_some (e : Eff) (now f pid : Nat) (v : Val) (p : Proc) (hp : e.ps.procs[pid]? = some p) :
    ∃ p', (markResolved e now f v).ps.procs[pid]? = some p' ∧ strip p' = strip p :=
  ProcsAre.get (e := markResolved e now f v) (L := e.ps.procs.map strip) (resumeParked_strip _ now f)
    (by rw [List.getElem?_map, hp]; rfl)

/-- **any_of resumes with the (index, value) of the first input to resolve.**  While `f = any_of(gs)` is
    unresolved, resolving input `gs[i]` with `v` resolves `f` with `(i, v)` in the same call; no later
    resolution (of another input or of anything else, at any time, with any value) changes `f`; and a
    process parked on `f` gets its continuation in that call, at the current clock, with `(i, v)` as
    the value to send -/
theorem anyof_first (fuel : Nat) (e : Eff) (now f : Nat) (gs : List Nat) (i : Nat) (v : Val)
    (sh : AnyShape e f gs) (hi : i < gs.length) :
    (futGet (resolveFut (fuel + 2) e now gs[i] v).ps.futs f).resolved = true ∧
    (futGet (resolveFut (fuel + 2) e now gs[i] v).ps.futs f).value = .pair i v ∧
    (∀ fuel' now' g w,
      (futGet (resolveFut fuel' (resolveFut (fuel + 2) e now gs[i] v) now' g w).ps.futs f).resolved = true ∧
      (futGet (resolveFut fuel' (resolveFut (fuel + 2) e now gs[i] v) now' g w).ps.futs f).value = .pair i v) ∧
    (∀ pid p, (futGet e.ps.futs f).parked = some pid → e.ps.procs[pid]? = some p →
      ∃ c, (resolveFut (fuel + 2) e now gs[i] v).specs.getLast? = some c ∧ c.time = now ∧ c.data = pid + 1 ∧
        ∃ q, (resolveFut (fuel + 2) e now gs[i] v).ps.procs[pid]? = some q ∧ q.send = .pair i v) := by
  rw [anyof_first_eq fuel e now f gs i v sh hi]
  have hsame := markResolved_futGet_same (markResolved e now gs[i] v) now f (.pair i v)
  have hne : f ≠ gs[i] := fun heq => sh.notin (heq ▸ List.getElem_mem hi)
  refine ⟨hsame.1, hsame.2.1, ?_, ?_⟩
  · intro fuel' now' g w
    exact resolveFut_cclosed (ResolvedIs_cclosed f (.pair i v)) fuel' _ now' g w ⟨hsame.1, hsame.2.1⟩
  · intro pid p hpk hp
    obtain ⟨p', hp', _⟩ := markResolved_procs_some e now gs[i] pid v p hp
    have hpk' : (futGet (markResolved e now gs[i] v).ps.futs f).parked = some pid := by
      rw [markResolved_futGet_ne e now gs[i] f v hne]; exact hpk
    have ⟨h1, _, h2⟩ := markResolved_resumes (markResolved e now gs[i] v) now f pid (.pair i v) p' hpk' hp'
    refine ⟨contSpec p' pid now, by rw [h1]; simp, rfl, rfl, h2⟩

end HappyModel.C01
