import HappyProofs.C12.PxInv
import HappyProofs.Lib.Lists
namespace HappyModel.C12.Px

/-- quorum intersection (Flexible Paxos): a phase-1 quorum and a phase-2 quorum of sizes with
    q1 + q2 > n share a member -/
theorem quorum_lists_meet (n k1 k2 : Nat) (S1 S2 : List Nat) (h1 : S1.Nodup) (h2 : S2.Nodup)
    (b1 : ∀ f ∈ S1, f < n) (b2 : ∀ f ∈ S2, f < n)
    (q1 : k1 ≤ S1.length) (q2 : k2 ≤ S2.length) (hk : n < k1 + k2) : ∃ f, f ∈ S1 ∧ f ∈ S2 :=
  nodup_lists_meet n h1 h2 b1 b2 (by omega)

theorem quorum_nonempty {k : Nat} {Q : List Nat} (hk : 0 < k) (h : k ≤ Q.length) : ∃ a, a ∈ Q := by
  cases Q with
  | nil => simp at h; omega
  | cons a _ => exact ⟨a, by simp⟩

theorem chosen_le {s : St} (inv : Inv s) (hqq : s.cfg.n < s.cfg.q1 + s.cfg.q2) (hq2 : 0 < s.cfg.q2)
    {b1 b2 : Nat} {v1 v2 : Val} (hle : b1 ≤ b2)
    (h1 : Chosen s b1 v1) (h2 : Chosen s b2 v2) : v1 = v2 := by
  obtain ⟨Q1, n1, m1, q1⟩ := h1
  obtain ⟨Q2, n2, m2, q2⟩ := h2
  obtain ⟨a2, ha2⟩ := quorum_nonempty hq2 q2
  have hs2 := inv.sem.one a2 b2 v2 (m2 a2 ha2).2
  rcases Nat.lt_or_ge b1 b2 with hlt | hge
  · obtain ⟨Q, nq, mq, qq⟩ := inv.sem.safe b2 v2 hs2 b1 hlt
    obtain ⟨a, haQ, haQ1⟩ := quorum_lists_meet s.cfg.n s.cfg.q1 s.cfg.q2 Q Q1 nq n1 (fun f hf => (mq f hf).1) (fun f hf => (m1 f hf).1) qq q1 hqq
    have hv1 : Voted s a b1 v1 := (m1 a haQ1).2
    rcases (mq a haQ).2 with hd | ⟨hn, _⟩
    · have e1 := inv.sem.one a b1 v1 hv1
      have e2 := inv.sem.one a b1 v2 hd
      rw [e1] at e2; exact Option.some.inj e2
    · exact absurd hv1 (hn v1)
  · have : b1 = b2 := by omega
    subst this
    obtain ⟨a1, ha1⟩ := quorum_nonempty hq2 q1
    have e1 := inv.sem.one a1 b1 v1 (m1 a1 ha1).2
    rw [e1] at hs2; exact Option.some.inj hs2

theorem chosen_unique {s : St} (inv : Inv s) (hqq : s.cfg.n < s.cfg.q1 + s.cfg.q2) (hq2 : 0 < s.cfg.q2)
    {b1 b2 : Nat} {v1 v2 : Val}
    (h1 : Chosen s b1 v1) (h2 : Chosen s b2 v2) : v1 = v2 := by
  rcases Nat.le_total b1 b2 with h | h
  · exact chosen_le inv hqq hq2 h h1 h2
  · exact (chosen_le inv hqq hq2 h h2 h1).symm

theorem agreement_of_inv {s : St} (inv : Inv s) (hqq : s.cfg.n < s.cfg.q1 + s.cfg.q2) (hq2 : 0 < s.cfg.q2)
    {d1 d2 : Nat} {v1 v2 : Val}
    (h1 : s.decided d1 = some v1) (h2 : s.decided d2 = some v2) : v1 = v2 := by
  obtain ⟨b1, c1⟩ := inv.learn.node d1 v1 h1
  obtain ⟨b2, c2⟩ := inv.learn.node d2 v2 h2
  exact chosen_unique inv hqq hq2 c1 c2

end HappyModel.C12.Px
