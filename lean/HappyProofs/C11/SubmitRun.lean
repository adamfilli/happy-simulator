import HappyProofs.C11.Ghost
/-! A pending client future always points at the entry its own `submit` created (repair D4:
    truncation discards the futures it invalidates), so it can only resolve with that entry:
    `submitOk` on every run of the repaired model whose submits carry pairwise distinct future ids. -/
namespace HappyModel.C11
open Spec

/-- submits so far: (node, future, command id) -/
abbrev Subs := List (Nat × Nat × Nat)

/-- every pending future of node `i` is registered for an index that holds the command its own `submit` carried -/
def PendOk (S : Subs) (i : Nat) (x : Node) : Prop :=
  ∀ p ∈ x.pending, ∃ e, getE x.log p.1 = some e ∧ (i, p.2, e.cmd.id) ∈ S

/-- every resolution a handler reports names a future whose own command sits at that index and is
    reported as applied there in the same step -/
def ResOk (S : Subs) (i : Nat) (r : HR) : Prop :=
  ∀ q ∈ r.ress, ∃ e : Entry, (i, q.1, e.cmd.id) ∈ S ∧ (q.2.1, e.cmd, q.2.2) ∈ r.apps

theorem applyOne_sub (S : Subs) (i : Nat) (r : HR) (idx : Nat) (e : Entry)
    (hp : PendOk S i r.node) (hr : ResOk S i r) (he : getE r.node.log idx = some e) :
    PendOk S i (applyOne r idx e).node ∧ ResOk S i (applyOne r idx e) := by
  by_cases h : idx ≤ r.node.lastApplied
  · rw [applyOne_skip h]; exact ⟨hp, hr⟩
  rw [applyOne_fresh r e (Nat.lt_of_not_le h)]
  refine ⟨fun p hp' => hp p (mem_popPending hp'), fun q hq => ?_⟩
  rcases List.mem_append.mp hq with hq | hq
  · obtain ⟨e', h1, h2⟩ := hr q hq
    exact ⟨e', h1, List.mem_append_left _ h2⟩
  · -- the future popped for `idx` was registered for the entry now applied
    cases hf : getPending r.node.pending idx with
    | none => rw [hf] at hq; cases hq
    | some f =>
      rw [hf] at hq
      cases List.mem_singleton.mp hq
      obtain ⟨e0, h0, hs⟩ := hp _ (getPending_mem hf)
      cases he.symm.trans h0
      exact ⟨e, hs, List.mem_append_right _ (by simp)⟩

theorem applyFrom_sub (S : Subs) (i : Nat) (es : List Entry) : ∀ (r : HR) (idx : Nat),
    PendOk S i r.node → ResOk S i r → (∀ j, ∀ hj : j < es.length, getE r.node.log (idx + j) = some es[j]) →
    PendOk S i (applyFrom r idx es).node ∧ ResOk S i (applyFrom r idx es) := by
  induction es with
  | nil => intro r idx hp hr _; exact ⟨hp, hr⟩
  | cons e es ih =>
    intro r idx hp hr hes
    obtain ⟨hp', hr'⟩ := applyOne_sub S i r idx e hp hr (hes 0 (by simp))
    simp only [applyFrom]
    apply ih _ _ hp' hr'
    intro j hj
    rw [(applyOne_kept r idx e).log]
    have := hes (j + 1) (by simp; omega)
    rw [show idx + 1 + j = idx + (j + 1) by omega]
    exact this

theorem advance_sub (S : Subs) (i : Nat) (x : Node) (new : Nat) (hp : PendOk S i x) :
    PendOk S i (advanceCommit { node := x } new).node ∧ ResOk S i (advanceCommit { node := x } new) := by
  rcases advanceCommit_cases x new with ⟨_, h⟩ | ⟨_, h⟩ <;> rw [h]
  · exact ⟨hp, by intro q hq; cases hq⟩
  · apply applyFrom_sub S i _ _ _ hp (by intro q hq; cases hq)
    exact fun j hj => getE_committed x.log _ x.commit j hj

theorem truncate_sub (v : Variant) (hd : v.dropPending = true) (S : Subs) (i : Nat) (x : Node) (idx : Nat)
    (hp : PendOk S i x) : PendOk S i (truncateFrom v x idx) := by
  rcases truncateFrom_cases v x idx with ⟨_, h⟩ | ⟨_, _, h⟩ <;> rw [h]
  · exact hp
  · intro p hp'
    rw [hd] at hp'
    obtain ⟨hmem, hlt⟩ := List.mem_filter.mp hp'
    simp only [decide_eq_true_eq] at hlt
    obtain ⟨e, he, hs⟩ := hp p hmem
    exact ⟨e, getE_take (by omega) he, hs⟩

theorem appendLoop_sub (v : Variant) (hd : v.dropPending = true) (S : Subs) (i : Nat) (es : List Entry)
    (x : Node) (idx : Nat) (hp : PendOk S i x) : PendOk S i (appendLoop v x idx es) :=
  appendLoop_keeps v (truncate_sub v hd S i) (fun _ _ h p hp' =>
    let ⟨e0, he0, hs⟩ := h p hp'
    ⟨e0, getE_prefix he0 (List.prefix_append _ _), hs⟩) es x idx hp

theorem Quiet.sub {S : Subs} {i n : Nat} {x : Node} {r : HR} (q : Quiet n x r) (hp : PendOk S i x) :
    PendOk S i r.node ∧ ResOk S i r := by
  obtain ⟨hl, _, _, hpn⟩ := dv_eq q.hd
  constructor
  · intro p hp'; rw [hpn] at hp'; rw [hl]; exact hp p hp'
  · intro p hp'; rw [q.ress] at hp'; cases hp'

theorem PendOk.mono {S S' : Subs} {i : Nat} {x : Node} (h : PendOk S i x) (hs : ∀ z ∈ S, z ∈ S') : PendOk S' i x := by
  intro p hp
  obtain ⟨e, he, hm⟩ := h p hp
  exact ⟨e, he, hs _ hm⟩

theorem Shape.sub {v : Variant} (hd : v.dropPending = true) {S : Subs} {n i : Nat} {x : Node} {inp : Inp} {r : HR}
    (sh : Shape v n x i inp r) (hp : PendOk S i x) (hs : ∀ f c, inp = .submit f c → (i, f, c.id) ∈ S) :
    PendOk S i r.node ∧ ResOk S i r := by
  cases sh with
  | quiet q => exact q.sub hp
  | adv y N hy hn ha hr =>
    show PendOk S i r.node ∧ ∀ q ∈ r.ress, ∃ e : Entry, (i, q.1, e.cmd.id) ∈ S ∧ (q.2.1, e.cmd, q.2.2) ∈ r.apps
    rw [hn, ha, hr]
    refine advance_sub S i y N ?_
    rcases hy with ⟨t, l, pi, pt, es, lc, _, rfl⟩ | ⟨t, f, m, _, _, rfl⟩
    · exact appendLoop_sub v hd S i es (stepDown v x t) (pi + 1) hp
    · exact hp
  | append f c hin _ hr =>
    subst hr
    refine ⟨fun p hpm => ?_, fun q hq => by cases hq⟩
    simp only [submitNode, setPending, List.mem_append, List.mem_singleton] at hpm
    rcases hpm with h | h
    · obtain ⟨e, he, hm⟩ := hp p (mem_popPending h)
      exact ⟨e, getE_prefix he (List.prefix_append _ _), hm⟩
    · rw [h]
      refine ⟨⟨x.term, c⟩, ?_, hs f c hin⟩
      show getE (x.log ++ [⟨x.term, c⟩]) (x.log.length + 1) = _
      rw [getE_succ]; simp

def fidOf (z : Nat × Nat × Nat) : Nat := z.2.1

def nextSubs (S : Subs) (a : Act) : Subs :=
  match submitOf a with
  | some z => z :: S
  | none => S

theorem nextSubs_mono (S : Subs) (a : Act) : ∀ z ∈ S, z ∈ nextSubs S a := by
  intro z hz; unfold nextSubs; split
  · exact List.mem_cons_of_mem _ hz
  · exact hz

theorem step_sub (v : Variant) (hd : v.dropPending = true) (s : St) (a : Act) (S : Subs)
    (hp : ∀ j, PendOk S j (s.nodes j)) :
    (∀ j, PendOk (nextSubs S a) j ((step v s a).1.nodes j)) ∧
    ∀ q ∈ (frameOf (step v s a).1 (step v s a).2 a).ress,
      ∃ cid, (q.1, q.2.1, cid) ∈ nextSubs S a ∧ (q.1, q.2.2, cid) ∈ (frameOf (step v s a).1 (step v s a).2 a).apps := by
  have hp' : ∀ j, PendOk (nextSubs S a) j (s.nodes j) := fun j => (hp j).mono (nextSubs_mono S a)
  rcases step_cases v s a with h | ⟨i, src, inp, r, h⟩
  · exact ⟨fun j => by rw [h.nodes]; exact hp' j, fun q hq => by simp [frameOf, h.ress] at hq⟩
  · obtain ⟨h1, h2⟩ := h.does.shape.sub hd (hp' i) fun f c hin => by
      obtain ⟨f', c', hin', ha⟩ | ⟨hn, _⟩ := h.sub
      · cases hin.symm.trans hin'; rw [ha]; exact List.mem_cons_self
      · exact absurd hin (hn f c)
    refine ⟨fun j => ?_, fun q hq => ?_⟩
    · rw [h.node]; split
      · rename_i hj; exact hj ▸ h1
      · exact hp' j
    · rw [h.eq] at hq ⊢
      simp only [frameOf_applyHR, List.mem_map] at hq ⊢
      obtain ⟨p, hpm, hpq⟩ := hq
      obtain ⟨e, he1, he2⟩ := h2 p hpm
      exact ⟨e.cmd.id, hpq ▸ he1, hpq ▸ ⟨_, he2, rfl⟩⟩

/-- the future ids of the submits of an action list are pairwise distinct (a fresh `SimFuture` per call) -/
def FreshFutures (as : List Act) : Prop := ((as.filterMap submitOf).map fidOf).Nodup

theorem run_sub (v : Variant) (hd : v.dropPending = true) (as : List Act) :
    ∀ (s : St) (S : Subs) (A : List (Nat × Nat × Nat)), (∀ j, PendOk S j (s.nodes j)) →
      ((S.reverse ++ as.filterMap submitOf).map fidOf).Nodup →
      submitGo S A (framesFrom v s as) = true := by
  induction as with
  | nil => intro s S A _ _; simp [framesFrom, submitGo]
  | cons a as ih =>
    intro s S A hp hnd
    obtain ⟨hp', hres⟩ := step_sub v hd s a S hp
    have hsub : (frameOf (step v s a).1 (step v s a).2 a).submit = submitOf a := rfl
    have hnd' : (((nextSubs S a).reverse ++ as.filterMap submitOf).map fidOf).Nodup := by
      unfold nextSubs
      cases hso : submitOf a with
      | none => simpa [List.filterMap_cons, hso] using hnd
      | some z => simpa [List.filterMap_cons, hso, List.append_assoc] using hnd
    have huniq : ((nextSubs S a).map fidOf).Nodup := by
      have h1 : (((nextSubs S a).reverse).map fidOf).Nodup := by
        rw [List.map_append] at hnd'
        exact (List.nodup_append.mp hnd').1
      exact (((List.reverse_perm (nextSubs S a)).map fidOf).nodup_iff).mp h1
    simp only [framesFrom, submitGo, Bool.and_eq_true, List.all_eq_true]
    -- `submitGo` extends the submits by a `match` on the frame's `submit` field, which does not rewrite to `nextSubs S a` in place:
    -- the goal is proved for any list equal to it, and the two are identified at the end
    have hgoal : ∀ S', S' = nextSubs S a →
        (∀ q ∈ (frameOf (step v s a).1 (step v s a).2 a).ress,
          (match S'.find? (fun z => z.1 == q.1 && z.2.1 == q.2.1) with
            | some z => ((frameOf (step v s a).1 (step v s a).2 a).apps ++ A).contains (q.1, q.2.2, z.2.2)
            | none => false) = true) ∧
        submitGo S' ((frameOf (step v s a).1 (step v s a).2 a).apps ++ A) (framesFrom v (step v s a).1 as) = true := by
      intro S' hSe
      rw [hSe]
      constructor
      · intro q hq
        obtain ⟨cid, hc1, hc2⟩ := hres q hq
        cases hfind : (nextSubs S a).find? (fun z => z.1 == q.1 && z.2.1 == q.2.1) with
        | none =>
          exfalso
          have := List.find?_eq_none.mp hfind _ hc1
          simp at this
        | some z =>
          have hzm := List.mem_of_find?_eq_some hfind
          have hzp := List.find?_some hfind
          simp only [Bool.and_eq_true, beq_iff_eq] at hzp
          have : z = (q.1, q.2.1, cid) := inj_of_nodup_map fidOf huniq hzm hc1 (by simp [fidOf, hzp.2])
          simp only [this]
          apply List.contains_iff_mem.mpr
          exact List.mem_append_left _ hc2
      · exact ih _ _ _ hp' hnd'
    apply hgoal
    rw [hsub]
    unfold nextSubs
    cases submitOf a <;> rfl

/-- SUBMIT RESOLVES OWN COMMAND.  Repaired truncation rule (D4), every cluster size, every action
    list whose submits carry pairwise distinct futures: whenever a future resolves with index `k`, the
    node it was submitted to has applied exactly that submit's command at index `k`. -/
theorem submit_resolves_own_command (v : Variant) (hd : v.dropPending = true) (n : Nat) (as : List Act)
    (hf : FreshFutures as) : submitOk (frames v n as) = true := by
  unfold submitOk frames
  simp only [submitGo, List.all_nil, Bool.true_and, List.nil_append]
  apply run_sub v hd as (init n) [] []
  · intro j p hp; simp [init, initNode] at hp
  · simpa [FreshFutures] using hf

end HappyModel.C11
