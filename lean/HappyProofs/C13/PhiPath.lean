import HappyProofs.C13.Detection
import HappyProofs.C13.PhiDetect
/-!
Clause 2 through the phi path alone, for the concrete phi-accrual model (`QDet`, with `tail`, `nlog`,
`mean`, `sd` as parameters) in place of the abstract `Detector`: a live observer that has recorded a
heartbeat from `x` stops reporting `x` ALIVE one probe interval after `cx + δ + m + Y·max(m, min_std)`,
whatever the probe order does — the first probe tick after the silence finds the detector not
available and suspects `x`, and nothing brings ALIVE back.
-/
namespace HappyModel.C13

/-- the phi-accrual detector of the exact model as a `Detector`: state `q`, threshold, and the
    function parameters -/
structure PhiDet where
  q : QDet := {}
  thr : PV := .fin 0
  F : PhiFns := ⟨fun _ => 0, fun _ => 0, fun _ => 0, fun _ => 1, 1⟩

instance : Inhabited PhiDet := ⟨{}⟩

/-- `heartbeat`; `is_available(now)` = `phi(now) < threshold` -/
instance : Detector PhiDet where
  hb d ts := { d with q := d.q.hb ts }
  avail d now := !decide (PV.le d.thr (d.q.phi d.F now))

/-- what is assumed of the parameters `mean`, `sd`: on a non-empty window whose entries are at most
    `m`, the mean is at most `m` and the deviation (after the `min_std` clamp) at most `max m minStd` -/
structure MeanSdBound (F : PhiFns) (m minStd : Nat) : Prop where
  mean_le : ∀ ivs : List Nat, ivs ≠ [] → (∀ v ∈ ivs, v ≤ m) → F.mean ivs ≤ (m : Int)
  sd_le : ∀ ivs : List Nat, ivs ≠ [] → (∀ v ∈ ivs, v ≤ m) → F.sd ivs ≤ ((max m minStd : Nat) : Int)

/-- the detector has a heartbeat between `l0` and `T` (and not in the future), a non-empty window
    with entries at most `m`, room for at least one entry, and the given parameters -/
structure DetInv (F : PhiFns) (thr : PV) (m l0 T now : Nat) (d : PhiDet) : Prop where
  hF : d.F = F
  hthr : d.thr = thr
  maxN : 1 ≤ d.q.maxN
  last : ∃ l, d.q.last = some l ∧ l0 ≤ l ∧ l ≤ T ∧ l ≤ now
  ne : 1 ≤ d.q.ivs.length
  le : ∀ v ∈ d.q.ivs, v ≤ m

theorem DetInv.mono {F : PhiFns} {thr : PV} {m l0 T now now' : Nat} {d : PhiDet}
    (h : DetInv F thr m l0 T now d) (hn : now ≤ now') : DetInv F thr m l0 T now' d := by
  obtain ⟨l, h1, h2, h3, h4⟩ := h.last
  exact ⟨h.hF, h.hthr, h.maxN, ⟨l, h1, h2, h3, Nat.le_trans h4 hn⟩, h.ne, h.le⟩

theorem DetInv.hb {F : PhiFns} {thr : PV} {m l0 T now ts : Nat} {d : PhiDet}
    (h : DetInv F thr m l0 T now d) (hn : now ≤ ts) (hT : ts ≤ T) (hgap : T ≤ l0 + m) :
    DetInv F thr m l0 T ts (Detector.hb d ts) := by
  obtain ⟨l, h1, h2, h3, h4⟩ := h.last
  show DetInv F thr m l0 T ts { d with q := d.q.hb ts }
  unfold QDet.hb
  rw [h1]
  simp only []
  by_cases hlt : l < ts
  · simp only [hlt, if_true]
    refine ⟨h.hF, h.hthr, h.maxN,
      ⟨ts, rfl, Nat.le_trans h2 (Nat.le_trans h4 hn), hT, Nat.le_refl _⟩, ?_, ?_⟩
    · show 1 ≤ (if (d.q.ivs ++ [ts - l]).length > d.q.maxN then (d.q.ivs ++ [ts - l]).drop 1
        else d.q.ivs ++ [ts - l]).length
      split
      · rename_i hgt
        rw [List.length_drop]
        exact Nat.le_sub_of_add_le (Nat.lt_of_le_of_lt h.maxN hgt)
      · rw [List.length_append]
        exact Nat.le_add_left _ _
    · intro v hv
      have hv' : v ∈ d.q.ivs ++ [ts - l] := by
        have hv2 : v ∈ (if (d.q.ivs ++ [ts - l]).length > d.q.maxN then (d.q.ivs ++ [ts - l]).drop 1
            else d.q.ivs ++ [ts - l]) := hv
        split at hv2
        · exact List.mem_of_mem_drop hv2
        · exact hv2
      rcases List.mem_append.mp hv' with h5 | h5
      · exact h.le v h5
      · -- the new interval `ts - l ≤ T - l0 ≤ m`
        rw [List.mem_singleton.mp h5]
        exact Nat.sub_le_of_le_add (Nat.le_trans hT (Nat.le_trans hgap (Nat.add_comm l0 m ▸ Nat.add_le_add_left h2 m)))
  · simp only [hlt, if_false]
    exact ⟨h.hF, h.hthr, h.maxN,
      ⟨ts, rfl, Nat.le_trans h2 (Nat.le_trans h4 hn), hT, Nat.le_refl _⟩, h.ne, h.le⟩

/-- after a silence of `m + Y·max(m, min_std)` past `T` the detector is not available -/
theorem DetInv.unavailable {F : PhiFns} {thr : PV} {m minStd Y l0 T now t : Nat} {d : PhiDet}
    (h : DetInv F thr m l0 T now d) (hH : ∀ ivs, PhiHyp F ivs) (hMS : MeanSdBound F m minStd)
    (hthr : PV.le thr (levelAt F Y)) (ht : T + (m + Y * max m minStd) ≤ t) :
    Detector.avail d t = false := by
  obtain ⟨l, h1, _, h3, _⟩ := h.last
  have hne : d.q.ivs ≠ [] := by
    intro e; have := h.ne; rw [e] at this; simp at this
  have hlev := phi_reaches_level F d.q (hH _) l m (max m minStd) Y t h1 h.ne
    (hMS.mean_le _ hne h.le) (hMS.sd_le _ hne h.le) (by omega)
  have := PV.le_trans hthr hlev
  show (!decide (PV.le d.thr (d.q.phi d.F t))) = false
  rw [h.hF, h.hthr]
  simp [this]

/-- the parameters are the given ones and the window has room for at least one entry (kept by every action) -/
def StatInv (F : PhiFns) (thr : PV) (d : PhiDet) : Prop := d.F = F ∧ d.thr = thr ∧ 1 ≤ d.q.maxN

theorem statInv_hb {F : PhiFns} {thr : PV} {d : PhiDet} (h : StatInv F thr d) (ts : Nat) :
    StatInv F thr (Detector.hb d ts) := by
  refine ⟨h.1, h.2.1, ?_⟩
  show 1 ≤ (d.q.hb ts).maxN
  unfold QDet.hb
  cases d.q.last with
  | none => exact h.2.2
  | some l => dsimp only; split <;> exact h.2.2

theorem statInv_run (c : Cfg) (F : PhiFns) (thr : PV) (a x : Nat) (s : Sys PhiDet) (acts : List Act)
    (h : StatInv F thr (detOf (s.node a) x)) : StatInv F thr (detOf ((run c s acts).node a) x) :=
  run_inv (I := fun s => StatInv F thr (detOf (s.node a) x)) (fun s act h => by
    rcases (step_rel c s act).node a with e | ⟨r, soup, hf, _, e⟩ <;> rw [e]
    · exact h
    · exact hf.entry (det_respects _ (StatInv F thr) True (fun _ _ h => statInv_hb h _)) x
        (fun _ _ _ => ⟨fun _ _ _ => trivial, fun _ => trivial⟩) (fun _ _ _ _ => trivial) h) acts h

/-- the deadline of the phi path, before the last probe interval -/
def phiBy (δ cx m minStd Y : Nat) : Nat := cx + δ + (m + Y * max m minStd)

structure PhiPost (c : Cfg) (F : PhiFns) (thr : PV) (m minStd Y l0 a x δ cx : Nat) (s : Sys PhiDet) :
    Prop where
  g : LInv c a (phiBy δ cx m minStd Y) s
  down : Down x cx s
  det : DetInv F thr m l0 (cx + δ) s.now (detOf (s.node a) x)
  tick : ¬ NA x (s.node a) → (s.node a).nextTick ≤ phiBy δ cx m minStd Y + c.interval
  late : s.isCrashed a = false → phiBy δ cx m minStd Y + c.interval < s.now → NA x (s.node a)

theorem phiPost_crash {c : Cfg} {F : PhiFns} {thr : PV} {m minStd Y l0 a x δ cx : Nat} {s : Sys PhiDet}
    (G : LInv c a (phiBy δ cx m minStd Y) s) (hnow : s.now ≤ cx)
    (hdet : DetInv F thr m l0 (cx + δ) cx (detOf ((step c s (.crash x cx)).node a) x)) :
    PhiPost c F thr m minStd Y l0 a x δ cx (step c s (.crash x cx)) :=
  have hcx : cx ≤ phiBy δ cx m minStd Y := Nat.le_trans (Nat.le_add_right cx δ) (Nat.le_add_right _ _)
  have G2 := linv_step (act := .crash x cx) G hnow
  ⟨G2, down_crash G.noAlive G.sentLe hnow, hdet, fun _ => G2.next_early hcx,
    fun _ h => absurd h (Nat.not_lt.mpr (Nat.le_trans hcx (Nat.le_add_right _ _)))⟩

section phi
variable {c : Cfg} {F : PhiFns} {thr : PV} {m minStd Y l0 a x δ cx : Nat}
  (hx : x < c.n) (hxa : x ≠ a) (hH : ∀ ivs, PhiHyp F ivs) (hMS : MeanSdBound F m minStd)
  (hthr : PV.le thr (levelAt F Y)) (hgap : cx + δ ≤ l0 + m)
include hx hxa hH hMS hthr hgap

theorem phiPost_step {s : Sys PhiDet} {act : Act} (I : PhiPost c F thr m minStd Y l0 a x δ cx s)
    (hs : PhiSched δ a s act) : PhiPost c F thr m minStd Y l0 a x δ cx (step c s act) := by
  obtain ⟨hmono, htimely, hdue⟩ := hs
  have hst := step_rel c s act
  have hnow := step_now hst
  have hg := linv_step I.g hmono
  have hBy : cx + δ ≤ phiBy δ cx m minStd Y := Nat.le_add_right _ _
  refine ⟨hg, down_step hst I.down, ?_, fun hna' => ?_, fun hlive hlate => ?_⟩
  · -- the detector takes a heartbeat only from a message of `x`, all of which are older than `cx`
    rw [hnow]
    rcases hst.node a with e | ⟨r, soup, hf, _, e⟩ <;> rw [e]
    · exact I.det.mono hmono
    · exact hf.entry (det_respects _ (DetInv F thr m l0 (cx + δ) act.time) (act.time ≤ cx + δ)
          (fun hT _ h => h.hb (Nat.le_refl _) hT hgap)) x
        (fun w hw _ => ⟨fun _ _ _ => trivial, fun hsrc =>
          Nat.le_trans (htimely w hw) (Nat.add_le_add_right (I.down.sentBy w hw hsrc) δ)⟩)
        (fun _ _ _ _ => trivial) (I.det.mono hmono)
  · by_cases hl : act.time ≤ phiBy δ cx m minStd Y
    · exact hg.next_early (hnow ▸ hl)
    · have hl := Nat.lt_of_not_le hl
      have hna0 : ¬ NA x (s.node a) := fun h =>
        hna' (na_step hst h (I.down.quiet htimely (Nat.lt_of_le_of_lt hBy hl) a))
      -- the detector is unavailable: a probe tick of `a` would have suspected `x`, so the next tick stays
      rcases hst.keep_or_tick I.g.noAlive a with h | ⟨shuf, _, _, h⟩
      · rw [h.tick]
        exact I.tick hna0
      · rw [h] at hna'
        exact absurd (na_onTick_unavailable c a _ x shuf _ hx hxa
          (I.det.unavailable hH hMS hthr (Nat.le_of_lt hl))) hna'
  · -- the probe tick of `a` is not overdue
    exact I.down.late_step htimely (Nat.le_trans hBy (Nat.le_add_right _ _))
      (fun hna => Nat.le_trans (hdue (live_of_run c s [act] a hlive)) (I.tick hna)) hlate

theorem phiPost_run {s : Sys PhiDet} {acts : List Act} (I : PhiPost c F thr m minStd Y l0 a x δ cx s)
    (hs : Along c (PhiSched δ a) s acts) : PhiPost c F thr m minStd Y l0 a x δ cx (run c s acts) :=
  run_along (fun _ _ I h => phiPost_step hx hxa hH hMS hthr hgap I h) I hs

end phi

end HappyModel.C13
