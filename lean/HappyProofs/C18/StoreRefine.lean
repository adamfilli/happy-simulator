import HappyModel.C18.StoreSpec
import HappyProofs.C18.SpecInv
/-!
The (repaired) store model is a family of replica systems: for every key, the per-key system the
store run maintains is `Sys.run Sys.init` of the replica operations the protocol layer emits for
that key.  All replica-level theorems therefore hold for stores, gossip messages included.
-/
namespace HappyModel.C18

def runX (s : Sys) : List XOp → Sys
  | [] => s
  | x :: xs => runX (s.stepX x) xs

theorem runX_append (s : Sys) (a b : List XOp) : runX s (a ++ b) = runX (runX s a) b := by
  induction a generalizing s with
  | nil => rfl
  | cons x xs ih => simp [runX, ih]

def keyX (k : Nat) (ops : List (Nat × XOp)) : List XOp :=
  ops.filterMap fun e => if e.1 = k then some e.2 else none

theorem keyX_append (k : Nat) (a b : List (Nat × XOp)) : keyX k (a ++ b) = keyX k a ++ keyX k b := by
  simp [keyX, List.filterMap_append]

theorem sysAt_nil (k : Nat) : sysAt [] k = Sys.init := rfl

theorem sysAt_cons_succ (y : Sys) (ys : List Sys) (j : Nat) : sysAt (y :: ys) (j + 1) = sysAt ys j := rfl

theorem sysAt_lmod (l : List Sys) (k : Nat) (x : XOp) (j : Nat) :
    sysAt (lmod l k x) j = if j = k then (sysAt l k).stepX x else sysAt l j := by
  induction l, k, x using lmod.induct generalizing j with
  | case1 x => cases j <;> rfl
  | case2 k x ih => cases j <;> simp [lmod, sysAt_cons_succ, ih] <;> rfl
  | case3 y ys x => cases j <;> rfl
  | case4 y ys k x ih => cases j <;> simp [lmod, sysAt_cons_succ, ih] <;> rfl

theorem sysAt_applyOps (l : List Sys) (ops : List (Nat × XOp)) (k : Nat) :
    sysAt (applyOps l ops) k = runX (sysAt l k) (keyX k ops) := by
  induction ops generalizing l with
  | nil => simp [applyOps, keyX, runX]
  | cons e rest ih =>
    obtain ⟨j, x⟩ := e
    simp only [applyOps]
    rw [ih]
    rw [sysAt_lmod]
    by_cases h : k = j
    · subst h
      simp [keyX, runX]
    · have : keyX k ((j, x) :: rest) = keyX k rest := by simp [keyX, Ne.symm h]
      rw [this, if_neg h]

theorem sysAt_run (v : Variant) (kind : Kind) (st : SSt) (steps : List SStep) (k : Nat) :
    sysAt (SSt.run v kind st steps).sys k = runX (sysAt st.sys k) (keyX k (PSt.ops v kind st.p steps)) := by
  induction steps generalizing st with
  | nil => simp [SSt.run, PSt.ops, keyX, runX]
  | cons x xs ih =>
    simp only [SSt.run, PSt.ops]
    rw [ih, keyX_append, runX_append]
    simp [SSt.step, sysAt_applyOps]

theorem mergeKeys_n (p : PSt) (d m : Nat) (keys : List (Nat × Nat)) :
    (p.mergeKeys .repaired d m keys).1.n = p.n := by
  induction keys generalizing p with
  | nil => rfl
  | cons kn rest ih => rw [PSt.mergeKeys]; split <;> exact ih _

theorem emit_ops (p : PSt) (s d : Nat) (push : Bool) :
    (p.emit .repaired s d push).2 =
      (p.keysOf s).map fun kn => (kn.1, XOp.base (.merge (p.n + p.msgs.length) s)) := rfl

/-- adopting or not, every key of the message is merged from the message's entity -/
theorem mergeKeys_ops (p : PSt) (d m : Nat) (keys : List (Nat × Nat)) :
    (p.mergeKeys .repaired d m keys).2 = keys.map fun kn => (kn.1, XOp.base (.merge d (p.n + m))) := by
  induction keys generalizing p with
  | nil => rfl
  | cons kn rest ih => rw [PSt.mergeKeys]; split <;> exact congrArg _ (ih _)

theorem wop_repaired (kind : Kind) (s nid : Nat) (op : WOp) :
    wop .repaired kind s nid op = (specOp kind s op).map XOp.base := by
  cases op <;> simp only [wop, specOp] <;> split <;> rfl

theorem specOp_origin {kind : Kind} {s : Nat} {op : WOp} {o : COp} (h : specOp kind s op = some o) :
    o.origin = s := by
  cases op <;> simp only [specOp] at h <;> split at h <;> simp at h <;> subst h <;> rfl

theorem mergeKeys_msgs (p : PSt) (d m : Nat) (keys : List (Nat × Nat)) :
    (p.mergeKeys .repaired d m keys).1.msgs = p.msgs ∧
    (p.mergeKeys .repaired d m keys).1.peers = p.peers := by
  induction keys generalizing p with
  | nil => exact ⟨rfl, rfl⟩
  | cons kn rest ih => rw [PSt.mergeKeys]; split <;> exact ih _

/-- `get_or_create` of a client write: the store holds the key afterwards -/
def PSt.adopt (p : PSt) (s key : Nat) : PSt :=
  if p.holds s key then p else { p with held := p.held ++ [((s, key), s)] }

theorem adopt_rest (p : PSt) (s key : Nat) :
    (p.adopt s key).n = p.n ∧ (p.adopt s key).msgs = p.msgs ∧ (p.adopt s key).peers = p.peers := by
  unfold PSt.adopt; split <;> exact ⟨rfl, rfl, rfl⟩

theorem step_w (kind : Kind) (p : PSt) (s key : Nat) (op : WOp) :
    p.step .repaired kind (.w s key op) =
      (p.adopt s key, (specOp kind s op).toList.map fun o => (key, XOp.base o)) := by
  simp only [PSt.step, wop_repaired]
  cases specOp kind s op <;> rfl

theorem dlStep_none (p : PSt) (m : Nat) (hm : p.msgs[m]? = none) : p.dlStep .repaired m = (p, []) := by
  simp [PSt.dlStep, hm]

theorem tickStep_nil (p : PSt) (s j : Nat) (hp : p.peersOf s = []) :
    p.tickStep .repaired s j = (p, []) := by simp [PSt.tickStep, hp]

theorem tickStep_cons (p : PSt) (s j q : Nat) (qs : List Nat) (hp : p.peersOf s = q :: qs) :
    p.tickStep .repaired s j = p.emit .repaired s ((q :: qs).getD (j % (q :: qs).length) q) true := by
  simp [PSt.tickStep, hp]

/-- the answer a delivered push triggers -/
def respOf (p : PSt) (m : Nat) (msg : Msg) : Msg :=
  ⟨msg.dst, msg.src, false, (p.mergeKeys .repaired msg.dst m msg.keys).1.keysOf msg.dst⟩

theorem dlStep_cases (p : PSt) (m : Nat) (msg : Msg) (hm : p.msgs[m]? = some msg) :
    let mk := p.mergeKeys .repaired msg.dst m msg.keys
    (p.dlStep .repaired m = mk) ∨
    (msg.push = true ∧
      p.dlStep .repaired m = ((mk.1.emit .repaired msg.dst msg.src false).1,
        mk.2 ++ (mk.1.emit .repaired msg.dst msg.src false).2)) := by
  intro mk
  simp only [PSt.dlStep, hm]
  split
  · rename_i hc
    exact Or.inr ⟨(Bool.and_eq_true _ _ ▸ hc).1, rfl⟩
  · exact Or.inl rfl

/-! A lossless round with an answer is four phases: push built `rE1`, push merged `rMk`, answer built
`rE2`, answer merged `rMk2`. -/

def rE1 (p : PSt) (s d : Nat) := p.emit .repaired s d true
def rMk (p : PSt) (s d : Nat) := (rE1 p s d).1.mergeKeys .repaired d p.msgs.length (p.keysOf s)
def rE2 (p : PSt) (s d : Nat) := (rMk p s d).1.emit .repaired d s false
def rMk2 (p : PSt) (s d : Nat) :=
  (rE2 p s d).1.mergeKeys .repaired s (p.msgs.length + 1) ((rMk p s d).1.keysOf d)

theorem rMk_facts (p : PSt) (s d : Nat) :
    (rMk p s d).1.n = p.n ∧ (rMk p s d).1.msgs = p.msgs ++ [⟨s, d, true, p.keysOf s⟩] ∧
    (rMk p s d).1.peers = p.peers :=
  ⟨mergeKeys_n _ _ _ _, (mergeKeys_msgs _ _ _ _).1, (mergeKeys_msgs _ _ _ _).2⟩

theorem rE2_facts (p : PSt) (s d : Nat) :
    (rE2 p s d).1.n = p.n ∧
    (rE2 p s d).1.msgs = p.msgs ++ [⟨s, d, true, p.keysOf s⟩, ⟨d, s, false, (rMk p s d).1.keysOf d⟩] ∧
    (rE2 p s d).1.peers = p.peers := by
  obtain ⟨h1, h2, h3⟩ := rMk_facts p s d
  exact ⟨h1, by simp [rE2, PSt.emit, h2], h3⟩

theorem rMk2_facts (p : PSt) (s d : Nat) :
    (rMk2 p s d).1.n = p.n ∧
    (rMk2 p s d).1.msgs = p.msgs ++ [⟨s, d, true, p.keysOf s⟩, ⟨d, s, false, (rMk p s d).1.keysOf d⟩] ∧
    (rMk2 p s d).1.peers = p.peers := by
  obtain ⟨h1, h2, h3⟩ := rE2_facts p s d
  exact ⟨(mergeKeys_n _ _ _ _).trans h1, (mergeKeys_msgs _ _ _ _).1.trans h2, (mergeKeys_msgs _ _ _ _).2.trans h3⟩

theorem round_cases (kind : Kind) (p : PSt) (s jx : Nat) :
    (p.peersOf s = [] ∧ owedFlows p.peers (.round s jx) = [] ∧
      p.step .repaired kind (.round s jx) = (p, [])) ∨
    ∃ q qs d, p.peersOf s = q :: qs ∧ (q :: qs).getD (jx % (q :: qs).length) q = d ∧
      ((owedFlows p.peers (.round s jx) = [(d, s)] ∧
        p.step .repaired kind (.round s jx) = ((rMk p s d).1, (rE1 p s d).2 ++ (rMk p s d).2)) ∨
       (owedFlows p.peers (.round s jx) = [(d, s), (s, d)] ∧
        p.step .repaired kind (.round s jx) =
          ((rMk2 p s d).1, (rE1 p s d).2 ++ (rMk p s d).2 ++ (rE2 p s d).2 ++ (rMk2 p s d).2))) := by
  cases hps : p.peersOf s with
  | nil =>
    refine Or.inl ⟨rfl, ?_, ?_⟩
    · simp only [owedFlows, show p.peers.getD s [] = [] from hps]
    · simp [PSt.step, tickStep_nil p s jx hps, dlStep_none]
  | cons q qs =>
    refine Or.inr ⟨q, qs, _, rfl, rfl, ?_⟩
    have hps' : p.peers.getD s [] = q :: qs := hps
    generalize hd : (q :: qs).getD (jx % (q :: qs).length) q = d
    have htick : p.tickStep .repaired s jx = rE1 p s d := by rw [tickStep_cons p s jx q qs hps, hd]; rfl
    have hget : (rE1 p s d).1.msgs[p.msgs.length]? = some ⟨s, d, true, p.keysOf s⟩ := by
      simp [rE1, PSt.emit]
    have hpe : ((rE1 p s d).1.mergeKeys .repaired d p.msgs.length (p.keysOf s)).1.peersOf d =
        p.peers.getD d [] := congrArg (·.getD d []) (rMk_facts p s d).2.2
    cases hc : (p.peers.getD d []).contains s with
    | false =>
      refine Or.inl ⟨by simp only [owedFlows, hps', hd, hc]; rfl, ?_⟩
      have hdl : (rE1 p s d).1.dlStep .repaired p.msgs.length = rMk p s d := by
        simp only [PSt.dlStep, hget, hpe, hc, Bool.and_false, Bool.false_eq_true, if_false]
        rfl
      simp [PSt.step, htick, hdl, (rMk_facts p s d).2.1]
    | true =>
      refine Or.inr ⟨by simp only [owedFlows, hps', hd, hc]; rfl, ?_⟩
      have hdl : (rE1 p s d).1.dlStep .repaired p.msgs.length =
          ((rE2 p s d).1, (rMk p s d).2 ++ (rE2 p s d).2) := by
        simp only [PSt.dlStep, hget, hpe, hc, Bool.and_true, if_true]
        rfl
      have hm2 := (rE2_facts p s d).2.1
      have hdl2 : (rE2 p s d).1.dlStep .repaired (p.msgs.length + 1) = rMk2 p s d := by
        simp only [PSt.dlStep, hm2, List.getElem?_append_right (Nat.le_add_right _ _),
          Nat.add_sub_cancel_left, List.getElem?_cons_succ, List.getElem?_cons_zero, Bool.false_and,
          Bool.false_eq_true, if_false]
        rfl
      simp [PSt.step, htick, hdl, hm2, hdl2, List.append_assoc]

def SStep.isGossip : SStep → Bool
  | .w _ _ _ => false
  | _ => true

def XOp.isMerge : XOp → Prop
  | .base (.merge _ _) => True
  | _ => False

def AllMerge (ops : List (Nat × XOp)) : Prop := ∀ e ∈ ops, e.2.isMerge

theorem AllMerge.append {a b : List (Nat × XOp)} (ha : AllMerge a) (hb : AllMerge b) :
    AllMerge (a ++ b) := by
  intro e he
  rcases List.mem_append.mp he with h | h
  · exact ha e h
  · exact hb e h

theorem allMerge_nil : AllMerge [] := fun _ h => nomatch h

theorem allMerge_map {α} (l : List α) (f : α → Nat) (d s : Nat) :
    AllMerge (l.map fun a => (f a, XOp.base (.merge d s))) := by
  intro e he
  obtain ⟨_, _, rfl⟩ := List.mem_map.mp he
  trivial

theorem tickStep_merge (p : PSt) (s j : Nat) : AllMerge (p.tickStep .repaired s j).2 := by
  rw [PSt.tickStep]
  split
  · exact allMerge_nil
  · exact allMerge_map _ _ _ _

theorem dlStep_merge (p : PSt) (m : Nat) : AllMerge (p.dlStep .repaired m).2 := by
  simp only [PSt.dlStep]
  split
  · exact allMerge_nil
  · split
    · exact (mergeKeys_ops .. ▸ allMerge_map _ _ _ _).append (allMerge_map _ _ _ _)
    · exact mergeKeys_ops .. ▸ allMerge_map _ _ _ _

theorem gossip_step_merge (kind : Kind) (p : PSt) (x : SStep) (hx : x.isGossip = true) :
    AllMerge (p.step .repaired kind x).2 := by
  cases x with
  | w s key op => exact nomatch hx
  | tick s j => exact tickStep_merge p s j
  | dl m => exact dlStep_merge p m
  | round s j =>
    simp only [PSt.step]
    refine ((tickStep_merge _ _ _).append (dlStep_merge _ _)).append ?_
    split
    · exact dlStep_merge _ _
    · exact allMerge_nil

def XOp.isBase : XOp → Prop
  | .base _ => True
  | _ => False

def AllBase (ops : List (Nat × XOp)) : Prop := ∀ e ∈ ops, e.2.isBase

theorem step_base (kind : Kind) (p : PSt) (x : SStep) : AllBase (p.step .repaired kind x).2 := by
  cases hx : x.isGossip with
  | true =>
    intro e he
    have := gossip_step_merge kind p x hx e he
    revert this
    cases e.2 <;> first | exact fun _ => trivial | exact False.elim
  | false =>
    obtain ⟨s, key, op, rfl⟩ : ∃ s key op, x = .w s key op := by
      cases x <;> first | exact ⟨_, _, _, rfl⟩ | exact nomatch hx
    intro e he
    rw [step_w] at he
    obtain ⟨o, _, rfl⟩ := List.mem_map.mp he
    trivial

theorem ops_base (kind : Kind) (p : PSt) (steps : List SStep) :
    AllBase (PSt.ops .repaired kind p steps) := by
  induction steps generalizing p with
  | nil => exact fun _ h => nomatch h
  | cons x xs ih =>
    intro e he
    rcases List.mem_append.mp he with he | he
    · exact step_base kind p x e he
    · exact ih _ e he

theorem runX_base (s : Sys) (ops : List (Nat × XOp)) (k : Nat) (h : AllBase ops) :
    runX s (keyX k ops) = Sys.run s (keyOps k ops) := by
  induction ops generalizing s with
  | nil => simp [keyX, keyOps, runX, Sys.run]
  | cons e rest ih =>
    have hr : AllBase rest := fun e' he' => h e' (List.mem_cons_of_mem _ he')
    have he := h e List.mem_cons_self
    obtain ⟨j, x⟩ := e
    obtain ⟨o, rfl⟩ : ∃ o, x = .base o := by
      cases x <;> first | exact ⟨_, rfl⟩ | exact he.elim
    by_cases hj : j = k
    · subst hj
      simp only [keyX, keyOps, List.filterMap_cons, if_true, XOp.toCOp?, runX, Sys.run, Sys.stepX]
      exact ih _ hr
    · simp only [keyX, keyOps, List.filterMap_cons, hj, if_false]
      exact ih _ hr

theorem keyOps_append (k : Nat) (a b : List (Nat × XOp)) :
    keyOps k (a ++ b) = keyOps k a ++ keyOps k b := by
  simp [keyOps, List.filterMap_append]

/-- a list that sends the same operation to each of its keys, seen from key `k` -/
theorem keyOps_map_const (k : Nat) (o : COp) (keys : List (Nat × Nat)) (hnd : (keys.map (·.1)).Nodup) :
    keyOps k (keys.map fun kn => (kn.1, XOp.base o)) = if k ∈ keys.map (·.1) then [o] else [] := by
  induction keys with
  | nil => rfl
  | cons kn rest ih =>
    rw [List.map_cons, List.nodup_cons] at hnd
    have ih := ih hnd.2
    by_cases hk : kn.1 = k
    · subst hk
      rw [if_neg hnd.1] at ih
      simp only [keyOps, List.map_cons, List.filterMap_cons, if_true, XOp.toCOp?, List.mem_cons, true_or] at ih ⊢
      rw [ih]
    · simp only [keyOps, List.map_cons, List.filterMap_cons, hk, if_false, List.mem_cons,
        Ne.symm hk, false_or] at ih ⊢
      exact ih

theorem keyOps_mergeKeys (p : PSt) (d m : Nat) (keys : List (Nat × Nat)) (k : Nat)
    (hnd : (keys.map (·.1)).Nodup) :
    keyOps k (p.mergeKeys .repaired d m keys).2 =
      if k ∈ keys.map (·.1) then [.merge d (p.n + m)] else [] := by
  rw [mergeKeys_ops, keyOps_map_const k _ keys hnd]

theorem step_peers (kind : Kind) (p : PSt) (x : SStep) : (p.step .repaired kind x).1.peers = p.peers := by
  cases x with
  | w s key op => rw [step_w]; exact (adopt_rest p s key).2.2
  | tick s j =>
    simp only [PSt.step]
    cases hps : p.peersOf s with
    | nil => rw [tickStep_nil p s j hps]
    | cons q qs => rw [tickStep_cons p s j q qs hps]; rfl
  | dl m =>
    simp only [PSt.step]
    cases hm : p.msgs[m]? with
    | none => rw [dlStep_none p m hm]
    | some msg =>
      rcases dlStep_cases p m msg hm with he | ⟨_, he⟩ <;> rw [he] <;> exact (mergeKeys_msgs p _ _ _).2
  | round s j =>
    rcases round_cases kind p s j with ⟨_, _, he⟩ | ⟨q, qs, d, _, _, ⟨_, he⟩ | ⟨_, he⟩⟩ <;> rw [he]
    · exact (rMk_facts p s d).2.2
    · exact (rMk2_facts p s d).2.2

end HappyModel.C18
