import HappyProofs.C14.TxnObs
import HappyProofs.C14.Frames
import HappyProofs.C14.TxnLists
/-!
# Transactions, link machine → judge: the observation as maps over the program

`tobsOf` is rewritten as `filterMap`s over the program itself (`tobsOf_eq`): one observation per
operation `begin` whose frame completed (`beginF`), its steps are the completed reads and writes of
the slot (`stepF`), its commit the first completed `commit` (`commitF`).  `walk_ops` then runs the
judge's `walk` along the program, for an abstract property `Q` of external reads.
-/
namespace HappyModel.C14.SM
open HappyModel.C14 HappyModel.C14.BT HappyModel.C14.TxSpec

theorem frame_of_op {π : Type} {α : Type} {fs : List (Frame π)} {ops : List (Nat × α)}
    (hids : fs.map (·.id) = ops.map (·.1)) {o : Nat × α} (ho : o ∈ ops) : ∃ f ∈ fs, f.id = o.1 := by
  have : o.1 ∈ fs.map (·.id) := hids ▸ List.mem_map_of_mem ho
  obtain ⟨f, hf, e⟩ := List.mem_map.mp this
  exact ⟨f, hf, e⟩

theorem split_time {α : Type} {l : List (Nat × α)} (ht : (l.map (·.1)).Pairwise (· < ·)) {n : Nat} {x : α}
    (hx : (n, x) ∈ l) :
    ∃ pre post, l = pre ++ (n, x) :: post ∧ (∀ y ∈ pre, y.1 < n) ∧ ∀ y ∈ post, n < y.1 := by
  obtain ⟨pre, post, rfl⟩ := List.append_of_mem hx
  refine ⟨pre, post, rfl, ?_, ?_⟩
  · rw [List.pairwise_map, List.pairwise_append] at ht
    intro y hy
    exact ht.2.2 y hy (n, x) (by simp)
  · rw [List.pairwise_map, List.pairwise_append] at ht
    intro y hy
    exact (List.pairwise_cons.mp ht.2.1).1 y hy

theorem mem_side {α : Type} {pre post : List (Nat × α)} {c : Nat × α} {n : Nat} {x : α}
    (hpre : ∀ y ∈ pre, y.1 < c.1) (hpost : ∀ y ∈ post, c.1 < y.1) (hx : (n, x) ∈ pre ++ c :: post) :
    (n < c.1 → (n, x) ∈ pre) ∧ (c.1 < n → (n, x) ∈ post) := by
  rcases mem_split hx with h | rfl | h
  · exact ⟨fun _ => h, fun hl => absurd (hpre _ h) (Nat.lt_asymm hl)⟩
  · exact ⟨fun hl => absurd hl (Nat.lt_irrefl _), fun hl => absurd hl (Nat.lt_irrefl _)⟩
  · exact ⟨fun hl => absurd (hpost _ h) (Nat.lt_asymm hl), fun _ => h⟩

theorem histOf_append (a b : List (Nat × Ev)) : histOf (a ++ b) = histOf a ++ histOf b := by
  simp [histOf, List.filterMap_append]

theorem mem_histOf {tlog : List (Nat × Ev)} {c : Nat × Nat × KV} :
    c ∈ histOf tlog ↔ (c.1, Ev.committed c.2.1 c.2.2) ∈ tlog := by
  simp only [histOf, List.mem_filterMap]
  constructor
  · rintro ⟨⟨n, e⟩, hx, h⟩
    cases e <;> simp only [Option.some.injEq, reduceCtorEq] at h
    subst h
    exact hx
  · intro h
    exact ⟨_, h, rfl⟩

theorem histOf_time {tlog : List (Nat × Ev)} {c : Nat × Nat × KV} (h : c ∈ histOf tlog) : ∃ x ∈ tlog, x.1 = c.1 :=
  ⟨_, mem_histOf.mp h, rfl⟩

theorem histOf_sorted {tlog : List (Nat × Ev)} (ht : (tlog.map (·.1)).Pairwise (· < ·)) :
    ((histOf tlog).map (·.1)).Pairwise (· < ·) := by
  rw [List.pairwise_map] at ht ⊢
  refine List.Pairwise.filterMap _ ?_ ht
  intro a a' hlt b hb b' hb'
  obtain ⟨n, e⟩ := a
  obtain ⟨n', e'⟩ := a'
  cases e <;> cases e' <;> simp only [Option.some.injEq, reduceCtorEq] at hb hb'
  subst hb hb'
  exact hlt

theorem replay_eq_stateEnd (init : Key → Option Nat) (tlog : List (Nat × Ev)) :
    replay init (tlog.map (·.2)) = stateEnd init (histOf tlog) := by
  induction tlog generalizing init with
  | nil => rfl
  | cons x r ih =>
    obtain ⟨n, e⟩ := x
    cases e with
    | began s => simpa [replay, histOf, stateEnd] using ih init
    | fetched s k v => simpa [replay, histOf, stateEnd] using ih init
    | committed s w => simpa [replay, histOf, stateEnd] using ih (applyF init w)

theorem stateAt_split (init : Key → Option Nat) (pre rest : List (Nat × Ev)) (n : Nat)
    (hpre : ∀ y ∈ pre, y.1 < n) (hrest : ∀ y ∈ rest, n ≤ y.1) :
    stateAt init (histOf (pre ++ rest)) n = replay init (pre.map (·.2)) := by
  rw [stateAt, histOf_append, filter_lt_append _ _ n, replay_eq_stateEnd]
  · intro c hc
    obtain ⟨x, hx, e⟩ := histOf_time hc
    exact e ▸ hpre x hx
  · intro c hc
    obtain ⟨x, hx, e⟩ := histOf_time hc
    exact e ▸ hrest x hx

theorem stateAt_entry (init : Key → Option Nat) {tpre tpost : List (Nat × Ev)} {c : Nat × Ev}
    (hpre : ∀ y ∈ tpre, y.1 < c.1) (hpost : ∀ y ∈ tpost, c.1 < y.1) :
    stateAt init (histOf (tpre ++ c :: tpost)) c.1 = replay init (tpre.map (·.2)) :=
  stateAt_split init tpre _ _ hpre fun y hy => by
    rcases List.mem_cons.mp hy with rfl | hy
    · exact Nat.le_refl _
    · exact Nat.le_of_lt (hpost y hy)

theorem setKey_eq_dictSet (k : Key) (v : Nat) (w : KV) : setKey k v w = dictSet k v w := by
  induction w with
  | nil => rfl
  | cons x r ih =>
    obtain ⟨k', v'⟩ := x
    simp only [setKey, dictSet, ih]

theorem lvlOf_inj {l l' : Level} (h : lvlOf l = lvlOf l') : l = l' := by cases l <;> cases l' <;> simp_all [lvlOf]

/-- first segment, last segment and result of the completed frame of operation `id` -/
def frameRes (fs : List (Frame TPc)) (id : Nat) : Option (Nat × Nat × SRes) :=
  match fs.find? (fun f => f.id == id) with
  | some f =>
    match f.b, f.e, f.pc with
    | some b, some e, .done r => some (b, e, r)
    | _, _, _ => none
  | none => none

def compOf (fs : List (Frame TPc)) (o : Nat × TOp) : Option (Nat × TOp × Nat × Nat × SRes) :=
  (frameRes fs o.1).map fun x => (o.1, o.2, x.1, x.2.1, x.2.2)

theorem completedT_eq (ops : List (Nat × TOp)) (fs : List (Frame TPc)) :
    completedT ops fs = ops.filterMap (compOf fs) := by
  unfold completedT compOf frameRes
  congr 1
  funext o
  cases fs.find? (fun f => f.id == o.1) with
  | none => rfl
  | some f =>
    obtain ⟨_, pc, b, e⟩ := f
    cases b <;> cases e <;> cases pc <;> rfl

theorem frameRes_some {fs : List (Frame TPc)} {id b e : Nat} {r : SRes} (h : frameRes fs id = some (b, e, r)) :
    ∃ f ∈ fs, f.id = id ∧ f.b = some b ∧ f.e = some e ∧ f.pc = .done r := by
  unfold frameRes at h
  split at h
  · next f hf =>
    have hm := And.intro (frameOf_mem hf) (frameOf_id hf)
    split at h
    · next b' e' r' hb he hp =>
      simp only [Option.some.injEq, Prod.mk.injEq] at h
      obtain ⟨rfl, rfl, rfl⟩ := h
      exact ⟨f, hm.1, hm.2, hb, he, hp⟩
    · cases h
  · cases h

theorem frameRes_of {fs : List (Frame TPc)} (hn : (fs.map (·.id)).Nodup) {f : Frame TPc} (hf : f ∈ fs)
    {b e : Nat} {r : SRes} (hb : f.b = some b) (he : f.e = some e) (hp : f.pc = .done r) :
    frameRes fs f.id = some (b, e, r) := by
  simp only [frameRes, show fs.find? (fun g => g.id == f.id) = some f from find_key (fun g : Frame TPc => g.id) hn hf, hb, he, hp]

def tstepOp (s : Nat) (o : TOp) (x : Nat × Nat × SRes) : Option TStep :=
  match o with
  | .read s' k => if s' = s then some (.read k (resVal x.2.2) x.1 x.2.1) else none
  | .write s' k v => if s' = s then some (.write k v) else none
  | _ => none

def stepF (fs : List (Frame TPc)) (s : Nat) (o : Nat × TOp) : Option TStep := (frameRes fs o.1).bind (tstepOp s o.2)

def commitOp (s : Nat) (o : TOp) (x : Nat × Nat × SRes) : Option (Nat × Bool) :=
  match o with
  | .commit s' => if s' = s then some (x.1, resFlag x.2.2) else none
  | _ => none

def commitF (fs : List (Frame TPc)) (s : Nat) (o : Nat × TOp) : Option (Nat × Bool) :=
  (frameRes fs o.1).bind (commitOp s o.2)

def beginOp (o : TOp) : Option (Nat × ILevel) :=
  match o with
  | .begin s l => some (s, lvlOf l)
  | _ => none

def beginF (fs : List (Frame TPc)) (o : Nat × TOp) : Option (Nat × ILevel) := (frameRes fs o.1).bind fun _ => beginOp o.2

theorem findSome?_filter {α β : Type} (p : α → Bool) (f : α → Option β) (l : List α) :
    (l.filter p).findSome? f = l.findSome? fun x => if p x then f x else none := by
  induction l with
  | nil => rfl
  | cons a l ih => cases h : p a <;> simp [List.findSome?_cons, h, ih]

theorem findSome?_filterMap {α β γ : Type} (g : α → Option β) (f : β → Option γ) (l : List α) :
    (l.filterMap g).findSome? f = l.findSome? fun x => (g x).bind f := by
  induction l with
  | nil => rfl
  | cons a l ih => cases h : g a <;> simp [List.findSome?_cons, h, ih]

/- `stepsOf`, `commitOf` and the list of begun slots filter and map the completed operations, which are themselves
   a `filterMap` of the program: the compositions are `filterMap`s of the program whose functions agree with
   `stepF`, `commitF`, `beginF` operation by operation. -/

theorem steps_eq (fs : List (Frame TPc)) (s : Nat) (l : List (Nat × TOp)) :
    stepsOf (mineOf (l.filterMap (compOf fs)) s) = l.filterMap (stepF fs s) := by
  unfold stepsOf mineOf
  rw [List.filterMap_filter, List.filterMap_filterMap]
  congr 1
  funext o
  obtain ⟨i, op⟩ := o
  unfold compOf stepF
  cases frameRes fs i with
  | none => rfl
  | some x => cases op <;> simp only [Option.map_some, Option.bind_some, tstepOp, beq_iff_eq, Bool.false_eq_true, ite_self]

theorem commit_eq (fs : List (Frame TPc)) (s : Nat) (l : List (Nat × TOp)) :
    commitOf (mineOf (l.filterMap (compOf fs)) s) = l.findSome? (commitF fs s) := by
  unfold commitOf mineOf
  rw [findSome?_filter, findSome?_filterMap]
  congr 1
  funext o
  obtain ⟨i, op⟩ := o
  unfold compOf commitF
  cases frameRes fs i with
  | none => rfl
  | some x => cases op <;> simp only [Option.map_some, Option.bind_some, commitOp, beq_iff_eq, Bool.false_eq_true, ite_self]

theorem begin_eq (fs : List (Frame TPc)) (l : List (Nat × TOp)) :
    ((l.filterMap (compOf fs)).filterMap fun c => match c.2.1 with
      | .begin s l => some (s, lvlOf l)
      | _ => none) = l.filterMap (beginF fs) := by
  rw [List.filterMap_filterMap]
  congr 1
  funext o
  obtain ⟨i, op⟩ := o
  unfold compOf beginF
  cases frameRes fs i with
  | none => rfl
  | some x => cases op <;> rfl

/-- the observation of slot `s` at level `l` -/
def obsOf (ops : List (Nat × TOp)) (fs : List (Frame TPc)) (sl : Nat × ILevel) : TObs :=
  { slot := sl.1, level := sl.2, steps := ops.filterMap (stepF fs sl.1), commit := ops.findSome? (commitF fs sl.1) }

theorem tobsOf_eq (ops : List (Nat × TOp)) (fs : List (Frame TPc)) :
    tobsOf ops fs = (ops.filterMap (beginF fs)).map (obsOf ops fs) := by
  unfold tobsOf
  rw [completedT_eq]
  refine Eq.trans (congrArg (List.map _) (begin_eq fs ops)) ?_
  apply List.map_congr_left
  intro sl _
  simp only [obsOf, steps_eq, commit_eq]

/-- effect of one operation on the write buffer of slot `s` as the judge reconstructs it -/
def wstep (fs : List (Frame TPc)) (s : Nat) (w : KV) (o : Nat × TOp) : KV :=
  match stepF fs s o with
  | some (.write k v) => dictSet k v w
  | _ => w

def wsetC (fs : List (Frame TPc)) (s : Nat) (l : List (Nat × TOp)) : KV := l.foldl (wstep fs s) []

theorem wsetC_snoc (fs : List (Frame TPc)) (s : Nat) (l : List (Nat × TOp)) (o : Nat × TOp) :
    wsetC fs s (l ++ [o]) = wstep fs s (wsetC fs s l) o := by
  simp [wsetC, List.foldl_append]

/-- what the judge requires of a read that returned `val` and ended at `e`, with buffer `w` -/
def readOk (Q : Key × Option Nat × Nat → Prop) (w : KV) (k : Key) (val : Option Nat) (e : Nat) : Prop :=
  match w.lookup k with
  | some v => val = some v
  | none => Q (k, val, e)

theorem walk_ops (fs : List (Frame TPc)) (s : Nat) (Q : Key × Option Nat × Nat → Prop) (ops : List (Nat × TOp))
    (hread : ∀ pre o post, ops = pre ++ o :: post → ∀ k val b e, stepF fs s o = some (.read k val b e) →
      readOk Q (wsetC fs s pre) k val e) :
    ∀ rest pre, ops = pre ++ rest → ∀ ext bad,
      (walk (rest.filterMap (stepF fs s)) (wsetC fs s pre) ext bad).2.1 = bad ∧
      (walk (rest.filterMap (stepF fs s)) (wsetC fs s pre) ext bad).2.2 = wsetC fs s ops ∧
      ∀ r ∈ (walk (rest.filterMap (stepF fs s)) (wsetC fs s pre) ext bad).1, r ∈ ext ∨ Q r := by
  intro rest
  induction rest with
  | nil =>
    intro pre hops ext bad
    simp only [List.append_nil] at hops
    subst hops
    simp only [List.filterMap_nil, walk, List.mem_reverse, true_and]
    exact fun r hr => .inl hr
  | cons o rest ih =>
    intro pre hops ext bad
    have hops' : ops = (pre ++ [o]) ++ rest := by simp [hops]
    have hsn := wsetC_snoc fs s pre o
    cases h : stepF fs s o with
    | none =>
      simp only [List.filterMap_cons, h]
      simp only [wstep, h] at hsn
      rw [← hsn]
      exact ih _ hops' ext bad
    | some st =>
      cases st with
      | write k v =>
        simp only [List.filterMap_cons, h, walk, setKey_eq_dictSet]
        simp only [wstep, h] at hsn
        rw [← hsn]
        exact ih _ hops' ext bad
      | read k val b e =>
        have hr := hread pre o rest hops k val b e h
        simp only [wstep, h] at hsn
        simp only [List.filterMap_cons, h, walk]
        unfold readOk at hr
        cases hl : (wsetC fs s pre).lookup k with
        | some v =>
          simp only [hl] at hr
          have hb : (bad || val != some v) = bad := by simp [hr]
          simp only [hb]
          rw [← hsn]
          exact ih _ hops' ext bad
        | none =>
          simp only [hl] at hr
          simp only []
          rw [← hsn]
          obtain ⟨h1, h2, h3⟩ := ih _ hops' ((k, val, e) :: ext) bad
          refine ⟨h1, h2, fun r hr' => ?_⟩
          rcases h3 r hr' with h4 | h4
          · rcases List.mem_cons.mp h4 with rfl | h5
            · exact .inr hr
            · exact .inl h5
          · exact .inr h4

theorem walk_obs (fs : List (Frame TPc)) (Q : Key × Option Nat × Nat → Prop) (ops : List (Nat × TOp))
    (sl : Nat × ILevel)
    (hread : ∀ pre o post, ops = pre ++ o :: post → ∀ k val b e, stepF fs sl.1 o = some (.read k val b e) →
      readOk Q (wsetC fs sl.1 pre) k val e) :
    (obsOf ops fs sl).ownBad = false ∧ (obsOf ops fs sl).wset = wsetC fs sl.1 ops ∧ ∀ r ∈ (obsOf ops fs sl).ext, Q r := by
  obtain ⟨h1, h2, h3⟩ := walk_ops fs sl.1 Q ops hread ops [] rfl [] false
  refine ⟨h1, h2, fun r hr => ?_⟩
  rcases h3 r hr with h | h
  · cases h
  · exact h

end HappyModel.C14.SM
