import HappyModel.C16.Tier
import HappyProofs.C16.StoreInv
import HappyProofs.Lib.Lists
/-!
Every tier of `MultiTierCache` keeps `SInv` along every interleaving, both variants, any number of tiers:
everything the multi-tier code does to a tier is a `CachedStore` segment (`start`/`step`) or `_cache_put`,
so the lemmas of `StoreInv` carry over through `onTier` and `sweepL`.
-/
namespace HappyModel.C16.Tier
open HappyModel.C16

def PW (P : Cfg → St → Prop) (cs : List Cfg) (ss : List St) : Prop :=
  ∀ (t : Nat) (c : Cfg) (s : St), cs[t]? = some c → ss[t]? = some s → P c s

abbrev TInv : List Cfg → List St → Prop := PW SInv

def Caps (cfgs : List Cfg) : Prop := ∀ c, c ∈ cfgs → 1 ≤ c.cap

theorem sinv_plug {c : Cfg} {s : St} (h : SInv c s) (b : List (Key × Nat)) : SInv c (plug s b) :=
  h.same' ⟨rfl, rfl⟩

theorem caps_get {cfgs : List Cfg} (h : Caps cfgs) {t : Nat} {c : Cfg} (e : cfgs[t]? = some c) : 1 ≤ c.cap :=
  h c (List.mem_of_getElem? e)

theorem pw_set {P : Cfg → St → Prop} {cs : List Cfg} {ss : List St} (h : PW P cs ss) (t : Nat) (c : Cfg) (x : St)
    (ec : cs[t]? = some c) (hx : P c x) : PW P cs (ss.set t x) := by
  intro t' c' s' ec' es'
  rcases getElem?_set_cases es' with ⟨rfl, rfl⟩ | ⟨_, es⟩
  · rw [ec] at ec'; cases ec'
    exact hx
  · exact h t' c' s' ec' es

theorem onTier_inv (cfg : MCfg) (hcap : Caps cfg.tiers) (ms : MSt) (t : Nat) (f : Cfg → St → St × Option Res)
    (hf : ∀ c s, 1 ≤ c.cap → SInv c s → SInv c (f c s).1) (h : TInv cfg.tiers ms.tiers) :
    TInv cfg.tiers (onTier cfg ms t f).1.tiers := by
  unfold onTier
  split
  · rename_i c s ec es
    exact pw_set h t c _ ec (hf c _ (caps_get hcap ec) (sinv_plug (h t c s ec es) _))
  · exact h

/-- a sweep is the first segment of `op` on each configured tier, the backing store threaded through them; `B` is
    any property of the backing store that these segments keep -/
theorem sweepL_at (op : OpK) (B : List (Key × Nat) → Prop) :
    ∀ (cs : List Cfg) (ss : List St) (b : List (Key × Nat)),
      (∀ (t : Nat) c s b, cs[t]? = some c → ss[t]? = some s → B b → B (start c (plug s b) 0 op 0).1.back) → B b →
      B (sweepL op cs ss b).2 ∧ (sweepL op cs ss b).1.length = ss.length ∧
      ∀ (t : Nat) s', (sweepL op cs ss b).1[t]? = some s' → ∃ s, ss[t]? = some s ∧
        ((cs[t]? = none ∧ s' = s) ∨
         ∃ c b', cs[t]? = some c ∧ B b' ∧ s' = (start c (plug s b') 0 op 0).1) := by
  intro cs
  induction cs with
  | nil =>
    intro ss b _ hb
    rw [show sweepL op [] ss b = (ss, b) by unfold sweepL; rfl]
    exact ⟨hb, rfl, fun t s' h => ⟨s', h, Or.inl ⟨rfl, rfl⟩⟩⟩
  | cons c cs ih =>
    intro ss b hB hb
    cases ss with
    | nil =>
      rw [show sweepL op (c :: cs) [] b = ([], b) by unfold sweepL; rfl]
      exact ⟨hb, rfl, fun t s' h => by simp at h⟩
    | cons s ss =>
      obtain ⟨h1, h2, h3⟩ := ih ss (start c (plug s b) 0 op 0).1.back
        (fun t c' s' b' ec es => hB (t + 1) c' s' b' ec es) (hB 0 c s b rfl rfl hb)
      rw [show sweepL op (c :: cs) (s :: ss) b =
        ((start c (plug s b) 0 op 0).1 :: (sweepL op cs ss (start c (plug s b) 0 op 0).1.back).1,
          (sweepL op cs ss (start c (plug s b) 0 op 0).1.back).2) by conv => lhs; unfold sweepL]
      refine ⟨h1, by simp [h2], fun t s' h => ?_⟩
      cases t with
      | zero =>
        cases Option.some.inj h
        exact ⟨s, rfl, Or.inr ⟨c, b, rfl, hb, rfl⟩⟩
      | succ t => exact h3 t s' h

theorem sweepFrom_at (lo : Nat) (op : OpK) (B : List (Key × Nat) → Prop) (cs : List Cfg) (ss : List St)
    (b : List (Key × Nat))
    (hB : ∀ (t : Nat) c s b, lo ≤ t → cs[t]? = some c → ss[t]? = some s → B b → B (start c (plug s b) 0 op 0).1.back)
    (hb : B b) :
    B (sweepL op (cs.drop lo) (ss.drop lo) b).2 ∧
    (ss.take lo ++ (sweepL op (cs.drop lo) (ss.drop lo) b).1).length = ss.length ∧
    ∀ (t : Nat) s', (ss.take lo ++ (sweepL op (cs.drop lo) (ss.drop lo) b).1)[t]? = some s' → ∃ s, ss[t]? = some s ∧
      (((t < lo ∨ cs[t]? = none) ∧ s' = s) ∨
       ∃ c b', lo ≤ t ∧ cs[t]? = some c ∧ B b' ∧ s' = (start c (plug s b') 0 op 0).1) := by
  obtain ⟨h1, h2, h3⟩ := sweepL_at op B (cs.drop lo) (ss.drop lo) b
    (fun t c s b' ec es => hB (lo + t) c s b' (Nat.le_add_right _ _) (List.getElem?_drop ▸ ec) (List.getElem?_drop ▸ es)) hb
  refine ⟨h1, by rw [List.length_append, h2, ← List.length_append, List.take_append_drop], fun t s' h => ?_⟩
  rw [List.getElem?_append] at h
  split at h
  · have hlt : t < lo := Nat.lt_of_lt_of_le ‹_› (List.length_take_le _ _)
    rw [List.getElem?_take_of_lt hlt] at h
    exact ⟨s', h, Or.inl ⟨Or.inl hlt, rfl⟩⟩
  · obtain ⟨s, hs, hc⟩ := h3 _ s' h
    rw [List.getElem?_drop] at hs
    have et : lo + (t - (ss.take lo).length) = t := by
      have := getElem?_some_lt hs
      rw [List.length_take] at *
      omega
    rw [List.getElem?_drop, et] at hc
    refine ⟨s, et ▸ hs, hc.imp (fun h => ⟨Or.inr h.1, h.2⟩) ?_⟩
    rintro ⟨c, b', ec, hb', e⟩
    exact ⟨c, b', et ▸ Nat.le_add_right _ _, ec, hb', e⟩

theorem sweepFrom_inv (lo : Nat) (op : OpK) {cs : List Cfg} {ss : List St} (b : List (Key × Nat)) (hcap : Caps cs)
    (h : TInv cs ss) : TInv cs (ss.take lo ++ (sweepL op (cs.drop lo) (ss.drop lo) b).1) := by
  intro t c s' ec es
  obtain ⟨s, hs, ⟨_, rfl⟩ | ⟨c', b', _, ec', _, rfl⟩⟩ :=
    (sweepFrom_at lo op (fun _ => True) cs ss b (fun _ _ _ _ _ _ _ _ => trivial) trivial).2.2 t s' es
  · exact h t c s' ec hs
  · cases ec.symm.trans ec'
    exact start_inv c (caps_get hcap ec) _ 0 op 0 (sinv_plug (h t c s ec hs) b')

theorem sweep_inv (cfg : MCfg) (hcap : Caps cfg.tiers) (ms : MSt) (op : OpK) (h : TInv cfg.tiers ms.tiers) :
    TInv cfg.tiers (ms.sweep cfg op).tiers :=
  sweepFrom_inv 0 op ms.back hcap h

theorem sweepLow_inv (cfg : MCfg) (hcap : Caps cfg.tiers) (ms : MSt) (op : OpK) (h : TInv cfg.tiers ms.tiers) :
    TInv cfg.tiers (ms.sweepLow cfg op).tiers :=
  sweepFrom_inv 1 op ms.back hcap h

theorem fillL1_inv (cfg : MCfg) (hcap : Caps cfg.tiers) (ms : MSt) (k v now : Nat) (h : TInv cfg.tiers ms.tiers) :
    TInv cfg.tiers (ms.fillL1 cfg k v now).tiers :=
  onTier_inv cfg hcap ms 0 _ (fun c s hc hs => cachePut_inv c hc s k v now hs) h

theorem onStart_inv (cfg : MCfg) (hcap : Caps cfg.tiers) (ms : MSt) (t i : Nat) (op : OpK) (now : Nat)
    (h : TInv cfg.tiers ms.tiers) : TInv cfg.tiers (onTier cfg ms t (fun c s => start c s i op now)).1.tiers :=
  onTier_inv cfg hcap ms t _ (fun c s hc hs => start_inv c hc s i op now hs) h

theorem onStep_inv (cfg : MCfg) (hcap : Caps cfg.tiers) (ms : MSt) (t : Nat) (a : Act)
    (h : TInv cfg.tiers ms.tiers) : TInv cfg.tiers (onTier cfg ms t (fun c s => step c s a)).1.tiers :=
  onTier_inv cfg hcap ms t _ (fun c s hc hs => step_inv c hc s a hs) h

theorem enter_tiers (cfg : MCfg) (ms : MSt) (k : Key) : (ms.enter cfg k).tiers = ms.tiers := by
  unfold MSt.enter; split <;> rfl
theorem leave_tiers (cfg : MCfg) (ms : MSt) (k : Key) : (ms.leave cfg k).tiers = ms.tiers := by
  unfold MSt.leave; split <;> rfl

theorem enter_back (cfg : MCfg) (ms : MSt) (k : Key) : (ms.enter cfg k).back = ms.back := by
  unfold MSt.enter; split <;> rfl
theorem enter_pend (cfg : MCfg) (ms : MSt) (k : Key) : (ms.enter cfg k).pend = ms.pend := by
  unfold MSt.enter; split <;> rfl
theorem leave_back (cfg : MCfg) (ms : MSt) (k : Key) : (ms.leave cfg k).back = ms.back := by
  unfold MSt.leave; split <;> rfl
theorem leave_pend (cfg : MCfg) (ms : MSt) (k : Key) : (ms.leave cfg k).pend = ms.pend := by
  unfold MSt.leave; split <;> rfl
theorem enter_epoch_self (cfg : MCfg) (hrep : cfg.rep = true) (ms : MSt) (k : Key) :
    cnt (ms.enter cfg k).epoch k = cnt ms.epoch k + 1 := by
  simp only [MSt.enter, hrep, if_true]; exact cnt_aset_self _ _ _
theorem enter_epoch_other (cfg : MCfg) (ms : MSt) (k x : Key) (h : x ≠ k) :
    cnt (ms.enter cfg k).epoch x = cnt ms.epoch x := by
  unfold MSt.enter; split
  · exact cnt_aset_other _ _ _ _ h
  · rfl
theorem enter_infl_self (cfg : MCfg) (hrep : cfg.rep = true) (ms : MSt) (k : Key) :
    cnt (ms.enter cfg k).infl k = cnt ms.infl k + 1 := by
  simp only [MSt.enter, hrep, if_true]; exact cnt_aset_self _ _ _
theorem enter_infl_other (cfg : MCfg) (ms : MSt) (k x : Key) (h : x ≠ k) :
    cnt (ms.enter cfg k).infl x = cnt ms.infl x := by
  unfold MSt.enter; split
  · exact cnt_aset_other _ _ _ _ h
  · rfl
theorem leave_epoch_self (cfg : MCfg) (hrep : cfg.rep = true) (ms : MSt) (k : Key) :
    cnt (ms.leave cfg k).epoch k = cnt ms.epoch k + 1 := by
  simp only [MSt.leave, hrep, if_true]; exact cnt_aset_self _ _ _
theorem leave_epoch_other (cfg : MCfg) (ms : MSt) (k x : Key) (h : x ≠ k) :
    cnt (ms.leave cfg k).epoch x = cnt ms.epoch x := by
  unfold MSt.leave; split
  · exact cnt_aset_other _ _ _ _ h
  · rfl
theorem leave_infl_self (cfg : MCfg) (hrep : cfg.rep = true) (ms : MSt) (k : Key) :
    cnt (ms.leave cfg k).infl k = cnt ms.infl k - 1 := by
  simp only [MSt.leave, hrep, if_true]; exact cnt_aset_self _ _ _
theorem leave_infl_other (cfg : MCfg) (ms : MSt) (k x : Key) (h : x ≠ k) :
    cnt (ms.leave cfg k).infl x = cnt ms.infl x := by
  unfold MSt.leave; split
  · exact cnt_aset_other _ _ _ _ h
  · rfl

theorem mstart_inv (cfg : MCfg) (hcap : Caps cfg.tiers) (ms : MSt) (i : Nat) (op : MOp) (now : Nat)
    (h : TInv cfg.tiers ms.tiers) : TInv cfg.tiers (mstart cfg ms i op now).1.tiers := by
  cases op with
  | get k =>
    simp only [mstart]
    split
    · exact onStart_inv cfg hcap _ _ i (.get k) now h
    · exact h
  | put k v => simp only [mstart]; show TInv cfg.tiers (ms.enter cfg k).tiers; rw [enter_tiers]; exact h
  | del k =>
    exact sweep_inv cfg hcap _ (.inv k) (by rw [enter_tiers]; exact h)
  | inv k => exact sweep_inv cfg hcap _ (.inv k) h
  | invAll => exact sweep_inv cfg hcap _ .invAll h
  | tget t k => exact onStart_inv cfg hcap _ t i (.get k) now h

theorem mresume_inv (cfg : MCfg) (hcap : Caps cfg.tiers) (ms : MSt) (i : Nat) (p : MPend) (now : Nat)
    (h : TInv cfg.tiers ms.tiers) : TInv cfg.tiers (mresume cfg ms i p now).1.tiers := by
  have hc : TInv cfg.tiers (ms.clearPend i).tiers := h
  cases p with
  | tierGet t k e =>
    simp only [mresume]
    have h1 := onStep_inv cfg hcap (ms.clearPend i) t (.resume i now) hc
    split
    · simp only [afterTierGet]
      split
      · exact fillL1_inv cfg hcap _ k _ now h1
      · exact h1
    · exact h1
  | backGet k e =>
    simp only [mresume]
    split
    · split
      · exact fillL1_inv cfg hcap _ k _ now hc
      · exact hc
    · exact hc
  | putBack k v =>
    exact onStart_inv cfg hcap _ 0 i (.put k v) now (sweep_inv cfg hcap _ (.inv k) hc)
  | putL1 k =>
    simp only [mresume]
    rw [leave_tiers]
    have h1 := onStep_inv cfg hcap (ms.clearPend i) 0 (.resume i now) hc
    split
    · exact sweepLow_inv cfg hcap _ (.inv k) h1
    · exact h1
  | delBack k =>
    simp only [mresume]
    rw [leave_tiers]
    split
    · exact sweep_inv cfg hcap _ (.inv k) hc
    · exact hc
  | direct t => exact onStep_inv cfg hcap (ms.clearPend i) t (.resume i now) hc

theorem mstep_inv (cfg : MCfg) (hcap : Caps cfg.tiers) (ms : MSt) (a : MAct) (h : TInv cfg.tiers ms.tiers) :
    TInv cfg.tiers (mstep cfg ms a).1.tiers := by
  cases a with
  | start i op now => exact mstart_inv cfg hcap ms i op now h
  | resume i now =>
    simp only [mstep]
    split
    · exact mresume_inv cfg hcap ms i _ now h
    · exact h

theorem mrun_inv (cfg : MCfg) (hcap : Caps cfg.tiers) (ms : MSt) (as : List MAct) (h : TInv cfg.tiers ms.tiers) :
    TInv cfg.tiers (mrun cfg ms as).tiers := by
  induction as generalizing ms with
  | nil => exact h
  | cons a as ih => exact ih _ (mstep_inv cfg hcap ms a h)

def Named (pols : List Pol) : Prop := ∀ p, p ∈ pols → ∃ name arg, Pol.ofName name arg = some p

theorem init_tier {pols : List Pol} {t : Nat} {s : St} (h : (MSt.init pols).tiers[t]? = some s) :
    ∃ p ∈ pols, s = { pol := p } := by
  simp only [MSt.init, List.getElem?_map, Option.map_eq_some_iff] at h
  obtain ⟨p, hp, rfl⟩ := h
  exact ⟨p, List.mem_of_getElem? hp, rfl⟩

theorem minit_inv (cfgs : List Cfg) (pols : List Pol) (hp : Named pols) : TInv cfgs (MSt.init pols).tiers := by
  intro t c s _ es
  obtain ⟨p, hm, rfl⟩ := init_tier es
  obtain ⟨name, arg, hn⟩ := hp p hm
  exact init_inv c name arg p hn

end HappyModel.C16.Tier
