import HappyProofs.C17.MLMAlg
import HappyProofs.C17.MLMShape
import HappyProofs.C17.MLCover
/-!
`InvC` is the cover invariant `LN.InvG` of `MLCover.lean` (explained there) with `Ge` = "clock pointwise at or
above" (`inv_iff`).  Installing anything only moves clocks up, so `Ge` is stable.  Upper bound (`Good`): every
version held, or copied into an anti-entropy message / handler, has on each component either 0 or at most that
component of some written version of the same key, and some version of that key has been written.
-/
namespace HappyModel.C17.MLM
open HappyModel.C17.ML (Version Msg Proc MKind PKind vcGet dominates vcMerge vcTick)
open HappyModel.C17.LN (Res AeShape StepShape core InvG Written)

structure Core where
  n : Nat
  join : Join
  np : Nat
  procs : Nat → Option Proc
  nm : Nat
  msgs : Nat → Option Msg
  vers : Nat → Nat → Option Version
  store : Nat → Nat → Option Val

def St.core (s : St) : Core := ⟨s.n, s.join, s.np, s.procs, s.nm, s.msgs, s.vers, s.store⟩

def WrittenC (c : Core) (k : Nat) (v : Version) : Prop :=
  ∃ pid p, c.procs pid = some p ∧ p.kind = .write ∧ p.key = k ∧ p.ver = v

def Good (c : Core) (k : Nat) (u : Version) : Prop :=
  (∃ w, WrittenC c k w) ∧
  ∀ x, x < c.n → vcGet u.vc x = 0 ∨ ∃ w, WrittenC c k w ∧ vcGet u.vc x ≤ vcGet w.vc x

def ItemsG (c : Core) (items : List (Nat × Version)) : Prop := ∀ kv, kv ∈ items → Good c kv.1 kv.2

def MsgCarrier (c : Core) (i k : Nat) (v : Version) : Prop :=
  ∃ mid m, c.msgs mid = some m ∧ m.kind = .repl ∧ m.dst = i ∧ m.key = k ∧ m.ver = v ∧ m.delivered = false

def ProcCarrier (c : Core) (i k : Nat) (v : Version) : Prop :=
  ∃ pid p, c.procs pid = some p ∧ p.kind = .repl ∧ p.node = i ∧ p.key = k ∧ p.ver = v ∧ p.fin = false

def Covered (c : Core) (i k : Nat) (v : Version) : Prop :=
  Ge c.n (c.vers i k) v ∨ MsgCarrier c i k v ∨ ProcCarrier c i k v

structure InvC (c : Core) : Prop where
  freshP : ∀ pid, c.np ≤ pid → c.procs pid = none
  freshM : ∀ mid, c.nm ≤ mid → c.msgs mid = none
  wr : ∀ pid p, c.procs pid = some p → p.kind = .write → 1 ≤ p.seg ∧ (p.fin = true → 2 ≤ p.seg)
  versG : ∀ i k v, c.vers i k = some v → Good c k v
  store : ∀ i k, c.store i k = (c.vers i k).map (·.val)
  msgG : ∀ mid m, c.msgs mid = some m → (m.kind = .repl → WrittenC c m.key m.ver) ∧ ItemsG c m.items
  procG : ∀ pid p, c.procs pid = some p → (p.kind = .repl → WrittenC c p.key p.ver) ∧ ItemsG c p.items
  cov : ∀ pid p, c.procs pid = some p → p.kind = .write → 2 ≤ p.seg →
    ∀ i, i < c.n → Covered c i p.key p.ver

def Inv (s : St) : Prop := InvC s.core

/-- `Good` as a function of `n` and the written versions, for `LN.InvG` -/
def GoodB (n : Nat) (W : Nat → Version → Prop) (k : Nat) (u : Version) : Prop :=
  (∃ w, W k w) ∧ ∀ x, x < n → vcGet u.vc x = 0 ∨ ∃ w, W k w ∧ vcGet u.vc x ≤ vcGet w.vc x

theorem inv_iff {s : St} : Inv s ↔ InvG (fun _ _ => True) GoodB Ge (core s.view) :=
  ⟨fun ⟨a, b, c, d, e, f, g, h⟩ => ⟨a, b, fun pid p x y => ⟨trivial, c pid p x y⟩, d, e, f, g, h⟩,
   fun ⟨a, b, c, d, e, f, g, h⟩ => ⟨a, b, fun pid p x y => (c pid p x y).2, d, e, f, g, h⟩⟩

theorem core_fail (s : St) (e : String) : (s.fail e).core = s.core := rfl

theorem goodB_bound : LN.Bound GoodB := by
  rintro n W W' hW k u ⟨⟨w, hw⟩, hb⟩
  refine ⟨⟨w, hW k w hw⟩, fun x hx => ?_⟩
  rcases hb x hx with h0 | ⟨w', hw', hle⟩
  · exact Or.inl h0
  · exact Or.inr ⟨w', hW k w' hw', hle⟩

theorem good_of_written {n : Nat} {W : Nat → Version → Prop} {k : Nat} {w : Version} (hw : W k w) :
    GoodB n W k w :=
  ⟨⟨w, hw⟩, fun _ _ => Or.inr ⟨w, hw, Nat.le_refl _⟩⟩

theorem good_pick {n : Nat} {jn : Join} {W : Nat → Version → Prop} {k : Nat} {cur : Option Version} {inc : Version}
    (hcur : ∀ u, cur = some u → GoodB n W k u) (hinc : GoodB n W k inc) : GoodB n W k (pick n jn cur inc) := by
  cases cur with
  | none => exact hinc
  | some e =>
    have he := hcur e rfl
    refine ⟨he.1, fun x hx => ?_⟩
    rw [pick_clock n jn e inc x hx]
    by_cases hle : vcGet inc.vc x ≤ vcGet e.vc x
    · rw [Nat.max_eq_left hle]; exact he.2 x hx
    · rw [Nat.max_eq_right (Nat.le_of_not_le hle)]; exact hinc.2 x hx

end HappyModel.C17.MLM
