import HappyProofs.C10.CrossEpoch
import HappyProofs.C10.AdaptiveEpoch
import HappyProofs.C10.AdaptiveBlocks
import HappyProofs.C10.TuaWin
import HappyProofs.C10.EntityPoll
namespace HappyModel.C10

/-- **Adaptive, across rate changes** (all feedback sequences, from any state in range whose bucket is
    within its rate — both hold initially and are preserved, `adaptive_bucket_within_rate` — and, since the
    start state is arbitrary, over any interval of a run): with `E = AD.epochs c s [] ops` the run's epochs
    `(rateₑ, lengthₑ)`,

    * admissions · one + tokens left ≤ tokens at the start + Σₑ rateₑ · lengthₑ, and tokens at the start
      ≤ `cap (rate at the start)`;
    * Σₑ lengthₑ = (time of the last call) − (refill clock at the start): the epochs partition the elapsed
      time;
    * every `rateₑ ∈ [pmin, pmax]`, consecutive epochs have different rates;
    * inside each epoch the bucket of its own rate caps the burst (`adaptive_epoch_bound`).

    The epoch that owns a stretch of time is the one in which the `try_acquire` /
    `time_until_available` call that *closes* it is made (lazy refill). -/
theorem adaptive_cross_epoch_bound (c : ADCfg) (hc : ADOk c) (s : AD) (l : Nat) (ops : List Op)
    (hr : s.InRange c) (hf : s.tok ≤ c.cap s.p) (hl : s.last = some l) (hm : MonoOps l ops) :
    (AD.admitted c s ops).length * c.one + (AD.run c s ops).tok
        ≤ s.tok + spanSum (AD.epochs c s [] ops) ∧
    s.tok ≤ c.cap s.p ∧
    spanLen (AD.epochs c s [] ops) = callEnd l ops - l ∧
    (∀ e ∈ AD.epochs c s [] ops, c.pmin ≤ e.1 ∧ e.1 ≤ c.pmax) ∧
    AdjDistinct (AD.epochs c s [] ops) ∧
    adaptiveOK c.cap c.one 0 s.p (AD.obs c s ops) = true := by
  obtain ⟨e1, e2, e3⟩ := epochs_spec c hc ops s [] l hr hl hm (.nil c)
  rw [spanSum, Nat.zero_add] at e2
  rw [spanLen, Nat.zero_add] at e3
  refine ⟨e2 ▸ adaptive_credit_bound c s ops, hf, e3, e1.range, e1.adj, ?_⟩
  · exact adaptive_epoch_bound c hc s l ops hr hf (fun l' h => Nat.le_of_eq (eq_of_some hl l' h)) hm

/-- rates 1…8, failure 8 → 1, success 1 → 8, window 10 ns, one token = 40 units; the run of
    `adaptive_naive_integral_bound_false`: one epoch `(8, 20)` as the *calls* see it, the spans 0, 10, 10 ns all
    credited at rate 8 (the stretches spent at rate 1 are credited at 8 by the call that closes them); and a run
    whose calls see the rates 8, 1, 8 -/
example : AD.epochs ⟨1, 8, 7, 1, 8, 10, 1, 40⟩ ⟨8, 80, some 0⟩ []
      [.acq 0, .acq 0, .fail 0, .succ 10, .acq 10, .acq 10, .fail 10, .succ 20, .acq 20, .acq 20] = [(8, 20)] ∧
    AD.epochs ⟨1, 8, 7, 1, 8, 10, 1, 40⟩ ⟨8, 80, some 0⟩ []
      [.acq 0, .fail 0, .acq 10, .succ 10, .acq 20, .acq 25] = [(8, 15), (1, 10), (8, 0)] ∧
    callEnd 0 [.acq 0, .fail 0, .acq 10, .succ 10, .acq 20, .acq 25] = 25 := by decide +kernel

/-- **A rate increase does end the promise**: rate 2, empty bucket at 0, one token = 8 units:
    `time_until_available(0) = 4`; `record_success(1)` raises the rate to 8 and `try_acquire(2)` is granted. -/
theorem adaptive_wait_not_binding_after_raise :
    ¬ (∀ (c : ADCfg) (s : AD) (t : Nat) (ops : List Op), 0 < s.p → (∀ l, s.last = some l → l ≤ t) → MonoOps t ops →
        ∀ x ∈ AD.admitted c (AD.tua c s t).1 ops, t + (AD.tua c s t).2 ≤ x) := by
  intro h
  have := h ⟨2, 8, 6, 1, 2, 4, 1, 8⟩ ⟨2, 0, some 0⟩ 0 [.acq 1, .succ 1, .acq 2] (by decide)
    (by intro l hl; cases hl; exact Nat.le_refl _) (by simp [MonoOps, Op.time]) 2 (by decide)
  revert this
  decide

example : AD.NoRaiseBefore ⟨2, 8, 6, 1, 2, 4, 1, 8⟩ 4 ⟨2, 0, some 0⟩ [.acq 1, .fail 1, .acq 3, .succ 4, .acq 4] ∧
    ¬ AD.NoRaiseBefore ⟨2, 8, 6, 1, 2, 4, 1, 8⟩ 4 ⟨2, 0, some 0⟩ [.acq 1, .succ 1, .acq 2] := by
  simp [AD.NoRaiseBefore, AD.step, AD.acquire, AD.refill, AD.success, AD.failure, ADCfg.dec, ADCfg.cap, Op.time]
example : blocksOKR 2 [.tua 0 4, .fb 1 2, .acq 2 true] = false ∧ blocksOKR 2 [.tua 0 4, .fb 1 8, .acq 2 true] = true ∧
    blocksOK [.tua 0 4, .fb 1 2, .acq 2 true] = true := by decide +kernel

/-- **A drain never stalls — run level, explicit bound, all five policies.**  From the state reached by
    *any* operation list with non-decreasing times (adaptive: feedback included), at any instant `t` not
    before the last operation, the drain procedure — ask `time_until_available`, wait exactly what it
    returned, ask again — gets zero after at most **two** positive waits (the second one is the 1 ns
    guard; the fixed window needs one) and the `try_acquire` made at that instant is granted:
    `drainOK 2` holds (fuel 6 is what the driver gives `drainF`).  Hypotheses: rate > 0, a capacity of at least one token, `N ≥ 1`, `W > 0` — with
    any of them violated an emptied policy never has capacity again and the drain waits for ever. -/
theorem drain_never_stalls_run :
    (∀ (c : TBCfg) (tok0 : Nat) (ops : List Op) (t : Nat), 0 < c.p → c.one ≤ c.cap → MonoOps 0 ops →
      endTime 0 ops ≤ t →
      drainOK 2 ((tbPolicy c).drain 6 ((tbPolicy c).run ⟨tok0, none⟩ ops) t []).2.2
        ((tbPolicy c).acq ((tbPolicy c).drain 6 ((tbPolicy c).run ⟨tok0, none⟩ ops) t []).1
          ((tbPolicy c).drain 6 ((tbPolicy c).run ⟨tok0, none⟩ ops) t []).2.1).2 = true) ∧
    (∀ (c : LBCfg) (ops : List Op) (t : Nat), 0 < c.p → MonoOps 0 ops → endTime 0 ops ≤ t →
      drainOK 2 ((lbPolicy c).drain 6 ((lbPolicy c).run ⟨none⟩ ops) t []).2.2
        ((lbPolicy c).acq ((lbPolicy c).drain 6 ((lbPolicy c).run ⟨none⟩ ops) t []).1
          ((lbPolicy c).drain 6 ((lbPolicy c).run ⟨none⟩ ops) t []).2.1).2 = true) ∧
    (∀ (c : WCfg) (ops : List Op) (t : Nat), 1 ≤ c.N → MonoOps 0 ops → endTime 0 ops ≤ t →
      drainOK 2 ((swPolicy c).drain 6 ((swPolicy c).run ⟨[]⟩ ops) t []).2.2
        ((swPolicy c).acq ((swPolicy c).drain 6 ((swPolicy c).run ⟨[]⟩ ops) t []).1
          ((swPolicy c).drain 6 ((swPolicy c).run ⟨[]⟩ ops) t []).2.1).2 = true) ∧
    (∀ (c : WCfg) (ops : List Op) (t : Nat), 0 < c.W → 1 ≤ c.N → MonoOps 0 ops → endTime 0 ops ≤ t →
      drainOK 1 ((fwPolicy c).drain 6 ((fwPolicy c).run ⟨none, 0⟩ ops) t []).2.2
        ((fwPolicy c).acq ((fwPolicy c).drain 6 ((fwPolicy c).run ⟨none, 0⟩ ops) t []).1
          ((fwPolicy c).drain 6 ((fwPolicy c).run ⟨none, 0⟩ ops) t []).2.1).2 = true) ∧
    (∀ (c : ADCfg) (s : AD) (ops : List Op) (t : Nat), ADOk c → 0 < c.pmin → c.one ≤ c.cap c.pmin →
      s.InRange c → s.last = none → MonoOps 0 ops → endTime 0 ops ≤ t →
      drainOK 2 ((adPolicy c).drain 6 (AD.run c s ops) t []).2.2
        ((adPolicy c).acq ((adPolicy c).drain 6 (AD.run c s ops) t []).1
          ((adPolicy c).drain 6 (AD.run c s ops) t []).2.1).2 = true) := by
  refine ⟨?_, ?_, ?_, ?_, ?_⟩
  · intro c tok0 ops t hp hcap hm ht
    have hI := (tb_stable c).run ops ⟨tok0, none⟩ [] 0 (by intro l h; cases h) hm
    exact drain_ok (tbNorm c) (tb_waitPos c) _ t 3
      (tb_tua_reaches_admission c _ t hp hcap fun l h => Nat.le_trans (hI l h) ht)
  · intro c ops t hp hm ht
    have hI := (lb_stable c).run ops ⟨none⟩ [] 0 (by intro l h; cases h) hm
    exact drain_ok (lbNorm c) (lb_waitPos c) _ t 3
      (lb_tua_reaches_admission c _ t hp fun l h => Nat.le_trans (hI l h) ht)
  · intro c ops t hN hm _
    exact drain_ok (swNorm c) (sw_waitPos c hN) _ t 3
      (sw_tua_reaches_admission c hN _ t ((sw_stable c).run ops ⟨[]⟩ [] 0 (Nat.zero_le _) hm))
  · intro c ops t hW hN hm ht
    have hI := (fw_stable c hW).run ops ⟨none, 0⟩ [] 0 ⟨Nat.zero_le _, by intro w h; cases h⟩ hm
    -- one positive wait suffices for the fixed window
    exact drain_ok1 (fwNorm c) (fw_waitPos c hW) _ t 4 (fw_tua_reaches_admission c hW hN _ t (hI.later ht))
  · intro c s ops t hc hmin hcap hr hl hm ht
    obtain ⟨a, -, d⟩ := AD.run_inv c hc ops s hr
    have d := d 0 (by intro l h; rw [hl] at h; cases h) hm
    exact drain_ok (adNorm c) (ad_waitPos c) _ t 3
      (ad_tua_reaches_admission c _ t (Nat.lt_of_lt_of_le hmin a.1) (Nat.le_trans hcap (c.cap_mono a.1))
        fun l h => Nat.le_trans (d l h) ht)

/-- the two window policies also answer a refusal with a positive wait (sliding: `N ≥ 1`; fixed:
    `W > 0`), so `entity_drain_never_stalls` applies to the rate-limited entity over **every** policy -/
theorem refusal_waits_window_policies :
    (∀ c : WCfg, 1 ≤ c.N → RefusalWaits (swPolicy c)) ∧ (∀ c : WCfg, 0 < c.W → RefusalWaits (fwPolicy c)) :=
  ⟨fun c hN => (swNorm c).refusal_waits (sw_waitPos c hN), fun c hW => (fwNorm c).refusal_waits (fw_waitPos c hW)⟩

-- token bucket (cap 3, 2 units/ns, one token = 3 units) emptied at 0: waits 1, then the 1 ns guard, then 0
example : ((tbPolicy ⟨3, 2, 3⟩).drain 6 ((tbPolicy ⟨3, 2, 3⟩).run ⟨3, none⟩ [.acq 0]) 0 []).2.2 = [1, 1, 0] := by decide +kernel

end HappyModel.C10
