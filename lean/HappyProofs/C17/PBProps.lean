import HappyProofs.C17.PBStep
namespace HappyModel.C17.PB

/-- the store of backup `b` reflects write `q` of key `k`: it holds the value of `q` or of a later
    write to the same key -/
def Reflects (s : St) (b k q : Nat) : Prop :=
  ∃ q', q ≤ q' ∧ s.wk q' = k ∧ s.store (b + 1) k = some (s.wv q')

theorem acked_reflects (s : St) (h : Inv s) (p : Proc) (b : Nat) (hb : b < s.nb)
    (hw : WriteProc s p) (h2 : 2 ≤ p.seg) (ha : ackedAt s (p.mid0 + b) = true) :
    Reflects s b p.key p.seq := by
  obtain ⟨m, c1, c2, c3, c4, c5⟩ := (hw.sent h2).2 b hb
  unfold ackedAt at ha
  rw [c1] at ha
  obtain ⟨g1, g2, g3, g4, g5, g6⟩ := h.msg_ok _ m c1 c2
  have hle := g6 ha
  rw [c3, c4, c5] at hle
  obtain ⟨a1, a2, a3⟩ := h.bk_ok b p.key
  have hne : s.kseq b p.key ≠ 0 := Nat.ne_of_gt (Nat.lt_of_lt_of_le hw.1 hle)
  exact ⟨s.kseq b p.key, hle, a3 hne⟩

theorem sync_reflects (s : St) (h : Inv s) (hm : s.mode = .sync) (pid : Nat) (p : Proc)
    (hp : s.procs pid = some p) (hk : p.kind = .write) (hf : p.fin = true) :
    ∀ b, b < s.nb → Reflects s b p.key p.seq := by
  intro b hb
  have hw := h.write_ok pid p hp hk
  obtain ⟨h2, hc⟩ := hw.done hf
  rcases hc with hc | hc
  · exact absurd (hc ▸ hb) (Nat.not_lt_zero _)
  · unfold ackCond at hc
    rw [hm] at hc
    simp only [List.all_eq_true, List.mem_range] at hc
    exact acked_reflects s h p b hb hw h2 (hc b hb)

theorem semi_reflects (s : St) (h : Inv s) (hm : s.mode = .semi) (hnb : 0 < s.nb) (pid : Nat) (p : Proc)
    (hp : s.procs pid = some p) (hk : p.kind = .write) (hf : p.fin = true) :
    ∃ b, b < s.nb ∧ Reflects s b p.key p.seq := by
  have hw := h.write_ok pid p hp hk
  obtain ⟨h2, hc⟩ := hw.done hf
  rcases hc with hc | hc
  · exact absurd (hc ▸ hnb) (Nat.lt_irrefl _)
  · unfold ackCond at hc
    rw [hm] at hc
    simp only [List.any_eq_true, List.mem_range] at hc
    obtain ⟨b, hb, ha⟩ := hc
    exact ⟨b, hb, acked_reflects s h p b hb hw h2 ha⟩

theorem converge (s : St) (h : Inv s) (hq : quiescent s) (b : Nat) (hb : b < s.nb) (k : Nat) :
    s.store (b + 1) k = s.store 0 k := by
  obtain ⟨-, q2, q3⟩ := hq
  obtain ⟨a1, a2, a3⟩ := h.bk_ok b k
  rw [h.prim_ok k]
  -- the sequence the backup applied for `k` is the last write to `k`
  suffices heq : s.kseq b k = lastFor s.wk s.applied k by
    by_cases hz : s.kseq b k = 0
    · rw [if_pos (heq ▸ hz)]; exact a2 hz
    · rw [if_neg (heq ▸ hz), (a3 hz).2, heq]
  have hup : s.kseq b k ≤ lastFor s.wk s.applied k := by
    by_cases hz : s.kseq b k = 0
    · rw [hz]; exact Nat.zero_le _
    · exact lastFor_ge s.wk s.applied k _ (Nat.pos_of_ne_zero hz) a1 (a3 hz).1
  refine Nat.le_antisymm hup ?_
  by_cases hL : lastFor s.wk s.applied k = 0
  · rw [hL]; exact Nat.zero_le _
  · -- its write handler has finished, so its `Replicate` to `b` was sent, delivered, and the
    -- `_handle_replicate` it started has finished, i.e. has acknowledged
    have hkey := lastFor_key s.wk s.applied k hL
    obtain ⟨x, p, hx, hpk, hps⟩ :=
      h.write_all _ (Nat.pos_of_ne_zero hL) (Nat.le_trans (lastFor_le _ _ _) h.app_le)
    have hw := h.write_ok x p hx hpk
    have h2 := (hw.done (q3 x (h.lt_np hx) p hx)).1
    obtain ⟨m, c1, c2, c3, c4, c5⟩ := (hw.sent h2).2 b hb
    obtain ⟨y, r, hy, hrk, hro⟩ := h.deliv_ok _ m c1 c2 (q2 _ (h.lt_nm c1) m c1)
    obtain ⟨-, r2, m', d1, -, -, -, -, -, d7⟩ := h.repl_ok y r hy hrk
    rw [hro, c1] at d1; cases d1
    have hack := d7 (fun h1 => by
      have := r2 (q3 y (h.lt_np hy) r hy); rw [h1] at this; exact absurd this (by decide))
    have hge := (h.msg_ok _ m c1 c2).2.2.2.2.2 hack
    rw [c3, c4, hps, c5, ← hw.2.2.1, hps, hkey] at hge
    exact hge

end HappyModel.C17.PB
