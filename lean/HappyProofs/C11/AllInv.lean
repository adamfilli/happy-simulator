import HappyProofs.C11.HStepNodes
/-! The three invariants along every run (`AllInv`).  For what follows, a step of the proof state is taken apart once: no handler
    ran, or one did, in the setting `Ctx` (`gstep_case`, under `Rep v` and `AllInv g`; `gstep_cases` in `ElectInv` is the split
    without hypotheses, which gives `gApply` only). -/
namespace HappyModel.C11

theorem hinv_idle {g : GSt} (hi : HInv g) (s' : St) (hn : s'.nodes = g.s.nodes) (hm : ∀ e ∈ s'.msgs, e ∈ g.s.msgs)
    (hsz : s'.n = g.s.n) : HInv { g with s := s' } := by
  obtain ⟨n', nodes', cr', msgs', nid'⟩ := s'
  simp only at hn hm hsz
  subst hn hsz
  exact ⟨hi.r_mono, hi.r_same, hi.r_ll, hi.r_closed, hi.ll_led, hi.ll_uniq, hi.ll_rec, hi.ll_lt, hi.ll_q, hi.s_term, hi.s_rec,
    hi.k0, hi.k1, hi.k2, hi.kvt, hi.vm, hi.n_lt, hi.n_ldr, hi.n_ms, hi.n_seen, hi.n_cn, hi.n_cl, hi.n_a1,
    fun e he => hi.m_rv e (hm e he), fun e he => hi.m_ae e (hm e he), fun e he => hi.m_ar e (hm e he)⟩

structure AllInv (g : GSt) : Prop where
  ei : EInv g
  li : LInv g
  hi : HInv g

theorem allInv_init (n : Nat) : AllInv (ginit n) := ⟨einv_init n, linv_init n, hinv_init n⟩

inductive GStepCase (v : Variant) (g : GSt) (a : Act) : Prop
  | idle (hn : (step v g.s a).1.nodes = g.s.nodes) (hm : ∀ e ∈ (step v g.s a).1.msgs, e ∈ g.s.msgs)
      (hsz : (step v g.s a).1.n = g.s.n) (hg : gstep v g a = { g with s := (step v g.s a).1 })
  | handler (i : Nat) (inp : Option Body) (r : HR) (cr : List (List Entry)) (hg : gstep v g a = gApply g i r cr)
      (hs : step v g.s a = applyHR g.s i r) (c : Ctx v g i inp r cr)

theorem gstep_case (v : Variant) (hr : Rep v) (g : GSt) (inv : AllInv g) (a : Act) : GStepCase v g a := by
  have ei' := einv_step v hr.kv g inv.ei a
  have li' := linv_step v hr.kv g inv.ei inv.li a
  have cl : CLen g.s := inv.hi.n_cl
  have cl' : CLen (gstep v g a).s := by rw [gstep_s]; exact (commit_monotone_partial v g.s a cl).1
  rcases step_cases v g.s a with h | ⟨i, src, inp, r, h⟩
  · exact .idle h.nodes h.msgs h.n (gstep_idle h.tgt)
  · have hg := gstep_handler h.tgt h.eq
    rw [hg] at ei' li' cl'
    have hin : ∀ b, inp.body = some b → ∃ e ∈ g.s.msgs, e.body = b := fun b hb => by
      cases inp with
      | msg b' => obtain ⟨_, e, d⟩ := h.msg b' rfl; exact ⟨e, d.mem, d.body.trans (Option.some.inj hb)⟩
      | _ => cases hb
    exact .handler i inp.body r _ hg h.eq ⟨hr, inv.ei, inv.li, inv.hi, cl, ei', li', cl', h.hi, h.logOk inv.li, h.does.hk hr, hin⟩

theorem gstep_nodes (v : Variant) (hr : Rep v) (g : GSt) (inv : AllInv g) (a : Act) {R : Nat → Node → Node → Prop}
    (hrefl : ∀ j x, R j x x) (h : ∀ {i inp r cr}, Ctx v g i inp r cr → R i (g.s.nodes i) r.node) (j : Nat) :
    R j (g.s.nodes j) ((step v g.s a).1.nodes j) := by
  rcases gstep_case v hr g inv a with ⟨hn, _, _, _⟩ | ⟨i, inp, r, cr, _, hs, c⟩
  · rw [hn]; exact hrefl _ _
  · rw [hs, applyHR_node]
    split
    · rename_i hj; rw [hj]; exact h c
    · exact hrefl _ _

theorem allInv_step (v : Variant) (hr : Rep v) (g : GSt) (inv : AllInv g) (a : Act) : AllInv (gstep v g a) := by
  refine ⟨einv_step v hr.kv g inv.ei a, linv_step v hr.kv g inv.ei inv.li a, ?_⟩
  rcases gstep_case v hr g inv a with ⟨hn, hm, hsz, hg⟩ | ⟨i, inp, r, cr, hg, _, c⟩
  · rw [hg]; exact hinv_idle inv.hi _ hn hm hsz
  · rw [hg]; exact c.hinv

theorem allInv_run (v : Variant) (hr : Rep v) (as : List Act) (g : GSt) : AllInv g → AllInv (grun v g as) :=
  grun_keeps (fun g a h => allInv_step v hr g h a) as

theorem allInv_reach (v : Variant) (hr : Rep v) (n : Nat) (as : List Act) : AllInv (grun v (ginit n) as) :=
  allInv_run v hr as (ginit n) (allInv_init n)

theorem Ctx.commit_le {v : Variant} {g : GSt} {i : Nat} {inp : Option Body} {r : HR} {cr : List (List Entry)}
    (c : Ctx v g i inp r cr) : (g.s.nodes i).commit ≤ r.node.commit := by
  rcases c.hk.data with ⟨_, hc, _⟩ | ⟨t, l, pi, pt, es, lc, hin, hle, hbad, hnode⟩ | ⟨f, m, _, _, hnode⟩ | ⟨_, _, _, hc, _⟩
  · exact Nat.le_of_eq hc.symm
  · obtain ⟨_, a⟩ := c.ae_accepted hin hle hbad hnode
    exact a.commit_le
  · rcases (c.ack hnode).commit with h | ⟨N, h1, _, _, _, h5⟩ <;> omega
  · exact Nat.le_of_eq hc.symm

theorem commit_step (v : Variant) (hr : Rep v) (g : GSt) (inv : AllInv g) (a : Act) :
    (step v g.s a).1.n = g.s.n ∧ ∀ j, (g.s.nodes j).commit ≤ ((step v g.s a).1.nodes j).commit :=
  ⟨step_n v g.s a, gstep_nodes v hr g inv a (R := fun _ x y => x.commit ≤ y.commit) (fun _ _ => Nat.le_refl _) fun c => c.commit_le⟩

theorem committed_kept_step (v : Variant) (hr : Rep v) (g : GSt) (inv : AllInv g) (a : Act) (j : Nat) :
    (g.s.nodes j).log.take (g.s.nodes j).commit <+: ((step v g.s a).1.nodes j).log := by
  refine gstep_nodes v hr g inv a (R := fun _ x y => x.log.take x.commit <+: y.log) (fun _ _ => List.take_prefix _ _) (fun {i} _ _ _ c => ?_) j
  rcases c.log_cases with h | ⟨k, h, _⟩ | ⟨X, hX, h, hnp⟩
  · rw [h]; exact List.take_prefix _ _
  · rw [h]; exact (List.take_prefix _ _).trans (List.prefix_append _ _)
  · rw [h]
    rcases (c.hi.n_cn i).vs_leaderLog c.hi hX c.term_le with h' | h'
    · exact h'
    · exact absurd (h'.trans (List.take_prefix _ _)) hnp

end HappyModel.C11
