import HappyModel.C19.ReadSpec
import HappyProofs.C19.StreamLog
/-!
What `readPart` / `pollGo` return, in the words of the Spec (`RSt.expRead`, `RSt.expPoll`: "the retained records with
offset ≥ o, the first min(m, count)"), and what the read judge and the retention judge both keep (`Ext`).
-/
namespace HappyModel.C19

theorem readPart_eq (cfg : SCfg) (s : Stream) (j : RSt) (p off m : Nat)
    (hok : p < cfg.n → OkFrom (s.hwOf p) (s.part p))
    (hnx : j.nextOf p = s.hwOf p) (hlo : p < cfg.n → j.loOf p + (s.part p).length = s.hwOf p) :
    s.readPart cfg p off m = j.expRead cfg.n p off (if m = 0 then 1 else m) := by
  unfold RSt.expRead
  by_cases hp : p < cfg.n
  · rw [if_pos hp, readPart_range cfg s p off m hp (hok hp), hnx]
    have : s.hwOf p - (s.part p).length = j.loOf p := by have := hlo hp; omega
    rw [this]
  · rw [if_neg hp, Stream.readPart, if_neg hp]

theorem lookup_getD_eq (l : List ((Nat × Nat) × Nat)) (c p : Nat) :
    lastOf l c p = (l.lookup (c, p)).getD 0 := rfl

theorem pollGo_eq (cfg : SCfg) (s : Stream) (j : RSt) (c max : Nat)
    (hok : ∀ p, p < cfg.n → OkFrom (s.hwOf p) (s.part p))
    (hnx : ∀ p, j.nextOf p = s.hwOf p)
    (hlo : ∀ p, p < cfg.n → j.loOf p + (s.part p).length = s.hwOf p)
    (hcom : j.com = s.committed) (ps : List Nat) (acc : List (Nat × Nat)) :
    Stream.pollGo cfg s c max ps acc = RSt.expPoll cfg.n j c max ps acc := by
  induction ps generalizing acc with
  | nil => rfl
  | cons p ps ih =>
    simp only [Stream.pollGo, RSt.expPoll]
    split
    · rfl
    · next hlt =>
      have hm : (if max - acc.length = 0 then 1 else max - acc.length) = max - acc.length := by
        rw [if_neg (by omega)]
      rw [readPart_eq cfg s j p _ _ (hok p) (hnx p) (hlo p), hm, ih]
      have : s.committedOf c p = lastOf j.com c p := by rw [hcom]; rfl
      rw [this]

theorem kept_getD (s : Stream) (p : Nat) : s.kept.getD p [] = (s.part p).map (·.off) := by
  simp only [Stream.kept, Stream.part, List.getD_eq_getElem?_getD, List.getElem?_map]
  cases s.parts[p]? <;> rfl

theorem kept_total (s : Stream) : (s.kept.map List.length).sum = s.total := by
  simp only [Stream.kept, Stream.total, List.map_map]
  congr 1
  apply List.map_congr_left
  intro l _
  simp

theorem commit_noteMax (cfg : SCfg) (hc : cfg.legacyCommit = false) (s : Stream) (c : Nat)
    (offs : List (Nat × Nat)) : (s.commit cfg c offs).committed = noteMax s.committed c offs := by
  induction offs generalizing s with
  | nil => rfl
  | cons po rest ih =>
    rw [Stream.commit, ih, noteMax]
    simp only [Stream.commitOne, hc, Bool.false_eq_true, if_false]
    rfl

/-- `next` is the list of high watermarks, `lo` the first retained offset of every partition -/
structure Ext (cfg : SCfg) (s : Stream) (lo next : List Nat) : Prop where
  next : next = s.hw
  lo : ∀ p, p < cfg.n → lo.getD p 0 + (s.part p).length = s.hwOf p

theorem Ext.nextOf {cfg : SCfg} {s : Stream} {lo next : List Nat} (e : Ext cfg s lo next) (p : Nat) :
    next.getD p 0 = s.hwOf p := by
  rw [e.next]; rfl

theorem Ext.init (cfg : SCfg) : Ext cfg (Stream.init cfg.n) (List.replicate cfg.n 0) (List.replicate cfg.n 0) := by
  refine ⟨rfl, fun p _ => ?_⟩
  rw [part_init, hwOf_init, List.getD_eq_getElem?_getD, List.getElem?_replicate]
  split <;> rfl

theorem Ext.frame {cfg : SCfg} {s s' : Stream} {lo next : List Nat} (e : Ext cfg s lo next)
    (hp : s'.parts = s.parts) (hh : s'.hw = s.hw) : Ext cfg s' lo next :=
  ⟨e.next.trans hh.symm, by simpa only [Stream.part, Stream.hwOf, hp, hh] using e.lo⟩

theorem Ext.append {cfg : SCfg} {s : Stream} {lo next : List Nat} {T : Nat} (e : Ext cfg s lo next)
    (hi : LInv cfg s T) (hn : 0 < cfg.n) (t key h : Nat) :
    Ext cfg (s.append cfg t key h).1 lo (next.set (h % cfg.n) (s.hwOf (h % cfg.n) + 1)) := by
  refine ⟨by rw [e.next]; rfl, fun q hq => ?_⟩
  rw [hi.part_append hn, hi.hwOf_append hn]
  have := e.lo q hq
  split
  · next eq => subst eq; rw [List.length_append]; simp only [List.length_cons, List.length_nil]; omega
  · exact this

/-- after a sweep the first retained offset is `next` minus what an observer finds in the partition -/
theorem Ext.retention {cfg : SCfg} {s : Stream} {lo next : List Nat} {t : Nat} (e : Ext cfg s lo next)
    (hi : LInv cfg s t) :
    Ext cfg (s.retention cfg t)
      ((List.range cfg.n).map fun p => next.getD p 0 - ((s.retention cfg t).kept.getD p []).length) next := by
  refine ⟨e.next, fun p hp => ?_⟩
  have := ((log_retention_inv cfg s t hi).ok p hp).length_le
  rw [getD_map_range _ _ _ hp, kept_getD, List.length_map, e.nextOf]
  show s.hwOf p - _ + _ = s.hwOf p
  have hhw : (s.retention cfg t).hwOf p = s.hwOf p := rfl
  omega

end HappyModel.C19
