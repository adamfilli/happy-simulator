import HappyProofs.C07.NoPast
/-!
`StrictFuture` (every emitted event is strictly later than `now`) is too strong for library components
that forward at the current instant (routers, taggers, zero-latency hops, `yield 0.0` continuations).
What they satisfy is: every event emitted **at** `now` carries a strictly smaller rank than the event
being handled (`Ranked`; the rank is the event's `data` field: remaining hops / remaining budget), and a
handler emits at most `fan` events.

Then an event of rank `r` pending at instant `t` can cause at most `W fan r` deliveries at `t`
(`W fan 0 = 1`, `W fan (r+1) = 1 + fan * W fan r`: the nodes of the complete `fan`-ary tree of depth `r`),
and `delivAt s t + Σ_{e pending at t} W fan (rank e)` never grows once the clock has reached `t`.  Hence the number of
deliveries at one instant is bounded by a function of the ranks present when the instant starts.
-/
namespace HappyModel.C07
open HappyModel.C01

variable {σ : Type}

def Ranked (mc : Machine σ) (fan : Nat) : Prop :=
  ∀ ent now ev, (mc.handle ent now ev).specs.length ≤ fan ∧
    ∀ sp ∈ (mc.handle ent now ev).specs, now < sp.time ∨ (now = sp.time ∧ sp.data < ev.data)

/-- deliveries at one instant an event of rank `r` can cause (itself included) -/
def W (fan : Nat) : Nat → Nat
  | 0 => 1
  | r + 1 => 1 + fan * W fan r

theorem W_succ_ge (fan : Nat) : ∀ b, W fan b ≤ W fan (b + 1)
  | 0 => by simp [W]
  | c + 1 => by
    have ih := W_succ_ge fan c
    show 1 + fan * W fan c ≤ 1 + fan * W fan (c + 1)
    have := Nat.mul_le_mul_left fan ih
    omega

theorem W_mono (fan : Nat) {a b : Nat} (h : a ≤ b) : W fan a ≤ W fan b := by
  induction h with
  | refl => exact Nat.le_refl _
  | step _ ih => exact Nat.le_trans ih (W_succ_ge fan _)

def wsum (fan : Nat) (l : List Ev) (t : Nat) : Nat :=
  ((l.filter (fun e => e.time == t)).map (fun e => W fan e.data)).sum

theorem wsum_eq_weightAt (fan : Nat) (l : List Ev) (t : Nat) : wsum fan l t = weightAt (fun e => W fan e.data) l t := rfl

theorem sum_map_le_length_mul {α} (l : List α) (f : α → Nat) (K : Nat) (h : ∀ x ∈ l, f x ≤ K) :
    (l.map f).sum ≤ l.length * K := by
  induction l with
  | nil => exact Nat.zero_le _
  | cons x xs ih =>
    have h1 := h x List.mem_cons_self
    have h2 := ih (fun y hy => h y (List.mem_cons_of_mem _ hy))
    rw [List.map_cons, List.sum_cons, List.length_cons, Nat.succ_mul]; omega

/-- what the handling of `m` adds for its own instant weighs less than `m` itself (at most `fan` events of
    smaller rank: `W fan (r+1) = 1 + fan * W fan r`), and it adds nothing for earlier instants -/
theorem Ranked.lighter {mc : Machine σ} {fan : Nat} (hR : Ranked mc fan) :
    Lighter (fun e => W fan e.data) mc := by
  refine ⟨fun ent nextId m t ht => ?_, fun ent nextId m => ?_⟩
  · refine weightAt_mkEvents_zero _ _ _ _ _ fun sp hsp => ?_
    have := (hR ent m.time m).2 sp hsp
    omega
  · obtain ⟨hlen, hsp⟩ := hR ent m.time m
    unfold weightAt
    generalize hl : (mkEvents nextId m.time (mc.handle ent m.time m).specs).filter (fun e => e.time == m.time) = l
    have hdata : ∀ e ∈ l, e.data < m.data := by
      intro e he
      obtain ⟨hmem, htime⟩ := List.mem_filter.mp (hl ▸ he)
      obtain ⟨sp, hspm, _, _, hsp'⟩ := mem_mkEvents hmem
      have := hsp sp hspm
      rw [hsp'] at htime ⊢
      have htime : sp.time = m.time := by simpa using htime
      show sp.data < m.data
      omega
    have hcount : l.length ≤ fan := by
      have := List.length_filter_le (fun e : Ev => e.time == m.time)
        (mkEvents nextId m.time (mc.handle ent m.time m).specs)
      rw [hl, mkEvents_length] at this; omega
    cases hd : m.data with
    | zero =>
      cases l with
      | nil => exact Nat.le_refl _
      | cons e _ => exact absurd (hdata e List.mem_cons_self) (by omega)
    | succ d =>
      have hb := sum_map_le_length_mul l (fun e => W fan e.data) (W fan d)
        (fun e he => W_mono fan (by have := hdata e he; omega))
      have := Nat.mul_le_mul_right (W fan d) hcount
      show _ + 1 ≤ 1 + fan * W fan d
      omega

/-- the explicit bound: deliveries at `t` never exceed those already made plus, for every event
    pending for `t` when the clock reached `t`, the size `W fan rank` of the complete `fan`-ary tree of
    depth `rank` — for every handler that emits at `now` only with a strictly smaller rank, every
    run length, every end time -/
theorem deliveries_at_instant_ranked_bound (mc : Machine σ) (fan : Nat) (hR : Ranked mc fan)
    (endT : Option Nat) (n : Nat) (s : St σ) (t : Nat) (ht : t ≤ s.now) :
    delivAt (run mc endT n s) t ≤ delivAt s t + wsum fan s.heap t := by
  rw [wsum_eq_weightAt]
  exact Nat.le_trans (Nat.le_add_right _ _) (run_weight _ mc hR.lighter endT n s t ht)

end HappyModel.C07
