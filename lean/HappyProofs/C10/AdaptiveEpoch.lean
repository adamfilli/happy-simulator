import HappyProofs.C10.Adaptive
/-!
Adaptive bucket, the clause at full strength: for **every** feedback sequence, while `current_rate`
is `r` the admissions satisfy the bucket bound of `r` (`adaptiveOK`, `Spec.lean`).  The invariant that
carries it is `tok ≤ cap p` — the bucket never holds more than the current rate allows — which
`record_failure` re-establishes by discarding the excess (`AD.failure`) and `record_success`
preserves because the bucket only grows.
-/
namespace HappyModel.C10

theorem epochAdm_call (c : ADCfg) (s : AD) (r : Nat) {o : Op} (os : List Op) (ho : o.isCall := by trivial) :
    epochAdm r (AD.obs c s (o :: os)) = AD.admitted c s [o] ++ epochAdm r (AD.obs c (s.step c o) os) := by
  cases o with
  | acq t => simp only [AD.obs, epochAdm, AD.admitted, AD.step]; split <;> rfl
  | tua t => rfl
  | succ _ | fail _ => exact ho.elim

theorem ad_epoch_pot (c : ADCfg) (B r : Nat) (hB : c.cap r ≤ B) : ∀ (ops : List Op) (s : AD) (l : Nat),
    s.p = r → s.tok ≤ B → (∀ l', s.last = some l' → l' = l) → MonoOps l ops →
    Pot B r c.one s.tok l (epochAdm r (AD.obs c s ops))
  | [], _, _, _, _, _, _ => .nil _ _
  | .acq t :: os, s, l, hp, hs, hl, hm | .tua t :: os, s, l, hp, hs, hl, hm => by
    obtain ⟨hp', ht, hlast, w⟩ := AD.call_pot c s (hp ▸ hB) (Nat.le_of_eq hp) hs hl hm.1
    rw [epochAdm_call]
    exact w (ad_epoch_pot c B r hB os _ _ (hp'.trans hp) ht (eq_of_some hlast) hm.2)
  | .succ t :: os, s, l, hp, hs, hl, hm => by
    simp only [AD.obs, epochAdm]
    split
    · exact ad_epoch_pot c B r hB os (s.success c) l ‹_› hs hl (hm.2.weaken hm.1)
    · exact .nil _ _
  | .fail t :: os, s, l, hp, hs, hl, hm => by
    simp only [AD.obs, epochAdm]
    split
    · exact (ad_epoch_pot c B r hB os (s.failure c) l ‹_› (Nat.le_trans (Nat.min_le_left _ _) hs) hl
        (hm.2.weaken hm.1)).weaken (Nat.le_refl l) (Nat.le_trans (Nat.min_le_left _ _) (Nat.le_add_right _ _))
    · exact .nil _ _

theorem ad_epoch_bucketOK (c : ADCfg) (B r : Nat) (hB : c.cap r ≤ B) (ops : List Op) (s : AD)
    (hp : s.p = r) (hs : s.tok ≤ B) (hm : ∀ l, s.last = some l → MonoOps l ops)
    (hm0 : s.last = none → MonoOps 0 ops) :
    bucketOK B r c.one (epochAdm r (AD.obs c s ops)) = true := by
  obtain ⟨l, hl, hmo⟩ := MonoOps.start hm hm0
  exact (ad_epoch_pot c B r hB ops s l hp hs hl hmo).bucketOK

theorem ad_epochsOK (c : ADCfg) (hc : ADOk c) : ∀ (ops : List Op) (s : AD) (now : Nat),
    s.InRange c → s.Full c → NotBefore s.last now → MonoOps now ops →
    epochsOK c.cap c.one 0 s.p (AD.obs c s ops) = true
  | [], _, _, _, _, _, _ => rfl
  | o :: os, s, now, hr, hf, hs, hm => by
    have hf' := AD.step_full c s o hr hf
    have hs' := AD.step_notBefore c s now o hs hm.1
    have ih := ad_epochsOK c hc os _ o.time (AD.step_range c hc s o hr) hf' hs' hm.2
    -- the epoch a feedback call opens starts from a bucket within the new rate
    have hb := ad_epoch_bucketOK c _ _ (Nat.le_refl _) os _ rfl hf'
      (fun l hl => hm.2.weaken (hs' l hl)) (fun _ => hm.2.weaken (Nat.zero_le _))
    cases o with
    | acq t | tua t => simp only [AD.step, AD.acquire_p, AD.tua_p] at ih; exact ih
    | succ t | fail t =>
      simp only [AD.obs, epochsOK, Bool.and_eq_true, Bool.or_eq_true, Nat.add_zero]
      exact ⟨Or.inr hb, ih⟩

/-- **Adaptive, current-rate bound, all feedback sequences.**  From any state whose rate is in range
    and whose bucket holds no more than its rate allows (both hold initially and are preserved,
    `adaptive_bucket_within_rate`), for every operation list with non-decreasing times, the observed
    transcript satisfies the bucket bound of the rate in force in every epoch. -/
theorem adaptive_epoch_bound (c : ADCfg) (hc : ADOk c) (s : AD) (now : Nat) (ops : List Op)
    (hr : s.InRange c) (hf : s.tok ≤ c.cap s.p) (hs : ∀ l, s.last = some l → l ≤ now)
    (hm : MonoOps now ops) :
    adaptiveOK c.cap c.one 0 s.p (AD.obs c s ops) = true := by
  simp only [adaptiveOK, Bool.and_eq_true, Nat.add_zero]
  exact ⟨ad_epoch_bucketOK c _ _ (Nat.le_refl _) ops s rfl hf
    (fun l hl => MonoOps.weaken (hs l hl) hm) (fun _ => MonoOps.weaken (Nat.zero_le _) hm),
    ad_epochsOK c hc ops s now hr hf hs hm⟩

end HappyModel.C10
