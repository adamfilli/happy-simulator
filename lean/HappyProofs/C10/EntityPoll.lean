import HappyProofs.C10.EntityInv
namespace HappyModel.C10

variable {σ : Type}

/-- what an observer sees of one delivery (the driver builds the same record from the real run's log; that the two
    agree is read off the driver, not proved) -/
def Ent.eobs1 (e e' : Ent σ) : Act → EObs
  | .req _ t => ⟨false, t, decide (e.fwd.length < e'.fwd.length), if e.poll.isNone then e'.poll else none⟩
  | .poll t => ⟨true, t, decide (e.fwd.length < e'.fwd.length), e'.poll⟩

def Ent.trace (P : Policy σ) (qcap : Nat) : Ent σ → List Act → List EObs
  | _, [] => []
  | e, a :: as => e.eobs1 (e.step P qcap a) a :: Ent.trace P qcap (e.step P qcap a) as

variable (P : Policy σ) (qcap : Nat) (e : Ent σ)

theorem ensurePoll_poll (t : Nat) :
    (e.ensurePoll P t).poll = match e.poll with
      | some q => some q
      | none => some (t + (P.tua e.pol t).2) := by
  unfold Ent.ensurePoll; split <;> simp_all

@[simp] theorem ensurePoll_isSome (t : Nat) : (e.ensurePoll P t).poll.isSome = true := by
  rw [ensurePoll_poll]; split <;> rfl

theorem ensurePoll_poll_cases (e e0 : Ent σ) (t : Nat) (h : e.poll = e0.poll) :
    (e.ensurePoll P t).poll = e0.poll ∨ (e0.poll = none ∧ ∃ w, (e.ensurePoll P t).poll = some (t + w)) := by
  rw [ensurePoll_poll]
  cases hp : e.poll with
  | some q => left; rw [← h, hp]
  | none => right; exact ⟨by rw [← h, hp], _, rfl⟩

theorem onReq_poll (id t : Nat) :
    (e.onReq P qcap id t).poll = e.poll ∨
      (e.poll = none ∧ ∃ w, (e.onReq P qcap id t).poll = some (t + w)) := by
  unfold Ent.onReq
  split
  · split
    · left; rfl
    · exact ensurePoll_poll_cases P _ e t rfl
  · split
    · exact ensurePoll_poll_cases P _ e t rfl
    · left; rfl

theorem onPoll_fwd_le (t : Nat) : e.fwd.length ≤ (e.onPoll P t).fwd.length :=
  (onPoll_obs P e t).elim (fun h => Nat.le_of_eq h.1.symm) (fun h => h.1 ▸ Nat.le_succ _)

theorem onPoll_poll (t : Nat) :
    (e.onPoll P t).poll = none ∨
    (∃ w, (e.onPoll P t).poll = some (t + w) ∧
      ((e.onPoll P t).fwd.length = e.fwd.length →
        (P.acq e.pol t).2 = false ∧ w = (P.tua (P.acq e.pol t).1 t).2)) := by
  unfold Ent.onPoll
  cases e.queue with
  | nil => left; rfl
  | cons h rest =>
    by_cases ha : (P.acq e.pol t).2 = true
    · simp only [ha, if_true]
      cases rest with
      | nil => left; rfl
      | cons h2 r2 =>
        right
        refine ⟨_, by rw [ensurePoll_poll], ?_⟩
        intro hlen
        rw [ensurePoll_fwd] at hlen
        simp only [List.length_cons] at hlen
        omega
    · have ha' : (P.acq e.pol t).2 = false := by simpa using ha
      simp only [ha', Bool.false_eq_true, if_false]
      right
      exact ⟨_, by rw [ensurePoll_poll], fun _ => ⟨trivial, rfl⟩⟩

def Ent.Covered (e : Ent σ) : Prop := e.queue ≠ [] → e.poll.isSome = true

theorem step_covered (a : Act) (h : e.Covered) :
    (e.step P qcap a).Covered := by
  -- every branch that changes the queue and leaves it non-empty ends in `ensurePoll`, after which a poll is set
  -- (`ensurePoll_isSome`); the drop branch changes neither queue nor poll
  unfold Ent.Covered at *
  cases a with
  | req id t =>
    simp only [Ent.step, Ent.onReq]
    split <;> split <;> simp_all
  | poll t =>
    simp only [Ent.step, Ent.onPoll]
    split
    · simp_all
    · split
      · split <;> simp
      · simp

theorem run_covered (P : Policy σ) (qcap : Nat) : ∀ (acts : List Act) (e : Ent σ), e.Covered →
    (Ent.run P qcap e acts).Covered
  | [], _, h => h
  | a :: as, e, h => run_covered P qcap as _ (step_covered P qcap e a h)

/-- the Spec's bookkeeping of the outstanding poll event, applied to what the model shows of one
    delivery, is the model's poll flag afterwards -/
theorem eobs1_outstanding (a : Act) :
    (match (e.eobs1 (e.step P qcap a) a).next with
      | some p => some p
      | none => if (e.eobs1 (e.step P qcap a) a).poll then none else e.poll) = (e.step P qcap a).poll := by
  cases a with
  | req id t =>
    simp only [Ent.eobs1, Ent.step]
    rcases onReq_poll P qcap e id t with h | ⟨h0, w, h⟩
    · rw [h]; cases hp : e.poll <;> simp
    · rw [h, h0]; simp
  | poll t =>
    simp only [Ent.eobs1, Ent.step]
    cases (e.onPoll P t).poll <;> simp

theorem outstanding_trace (P : Policy σ) (qcap : Nat) : ∀ (acts : List Act) (e : Ent σ),
    outstanding e.poll (Ent.trace P qcap e acts) = (Ent.run P qcap e acts).poll
  | [], _ => rfl
  | a :: as, e => by
    simp only [Ent.trace, outstanding, Ent.run]
    rw [← outstanding_trace P qcap as (e.step P qcap a)]
    exact congrArg (outstanding · _) (eobs1_outstanding P qcap e a)

theorem singlePoll_trace (P : Policy σ) (qcap : Nat) : ∀ (acts : List Act) (e : Ent σ),
    singlePollOK e.poll (Ent.trace P qcap e acts) = true
  | [], _ => rfl
  | a :: as, e => by
    simp only [Ent.trace, singlePollOK, Bool.and_eq_true]
    constructor
    · cases a with
      | req id t => simp only [Ent.eobs1]; cases hp : e.poll <;> simp
      | poll t => simp [Ent.eobs1]
    · exact (congrArg (singlePollOK · _) (eobs1_outstanding P qcap e a)).trans
        (singlePoll_trace P qcap as (e.step P qcap a))

/-- the policy answers a refusal with a positive wait (asked at the same instant, in the state the
    refusal left) -/
def RefusalWaits (P : Policy σ) : Prop :=
  ∀ s t, (P.acq s t).2 = false → 0 < (P.tua (P.acq s t).1 t).2

/-- the Inductor's gate: whatever the smoothed interval truncates to, the 1 ns guard of
    `_ensure_poll_scheduled` makes the wait positive -/
theorem orc_refusalWaits : RefusalWaits orcPolicy := by
  intro s t _
  simp only [orcPolicy]
  split <;> omega

theorem noStall_trace (hP : RefusalWaits P) (qcap : Nat) : ∀ (acts : List Act) (e : Ent σ),
    noStallOK (Ent.trace P qcap e acts) = true := by
  intro acts
  induction acts with
  | nil => intro e; rfl
  | cons a as ih =>
    intro e
    have := ih (e.step P qcap a)
    simp only [noStallOK, Ent.trace, List.all_cons, Bool.and_eq_true] at this ⊢
    refine ⟨?_, this⟩
    cases a with
    | req id t =>
      simp only [Ent.eobs1, Ent.step]
      rcases onReq_poll P qcap e id t with h | ⟨h0, w, h⟩
      · rw [h]; cases hp : e.poll <;> simp
      · rw [h, h0]; simp
    | poll t =>
      simp only [Ent.eobs1, Ent.step]
      rcases onPoll_poll P e t with h | ⟨w, h, hw⟩
      · rw [h]
      · rw [h]
        by_cases hl : e.fwd.length < (e.onPoll P t).fwd.length
        · simp [hl]
        · obtain ⟨hr, rfl⟩ := hw (by have := onPoll_fwd_le P e t; omega)
          have := hP e.pol t hr
          simp [hl]
          omega

end HappyModel.C10
