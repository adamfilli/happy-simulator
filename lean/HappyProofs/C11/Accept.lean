import HappyProofs.C11.CommitMono
import HappyProofs.C11.HInv
import HappyProofs.C11.HKind
/-! What accepting an AppendEntries does to a follower, given the invariant: the log becomes (or
    already contains) the leader's log `X` the message was cut from, nothing committed is touched,
    and the new commit index is again a committed prefix. -/
namespace HappyModel.C11

/-- the consistency check passed: the follower's first `pi` entries are the leader's -/
theorem prev_agree {g : GSt} (li : LInv g) (hi : HInv g) {l X : List Entry} (hl : Rec g.created l) (hX : Rec g.created X)
    {x : Node} (hxl : x.log = l) {pi pt : Nat} (hpt : pt = (if pi > 0 then termAt X pi else 0))
    (hbad : aeBad x pi pt = false) : pi ≤ X.length ∧ pi ≤ l.length ∧ l.take pi = X.take pi := by
  rcases aeBad_eq_false_iff.mp hbad with rfl | ⟨ex, hex, hterm⟩
  · exact ⟨Nat.zero_le _, Nat.zero_le _, by simp⟩
  obtain ⟨k, rfl⟩ := (getE_pos hex).imp fun _ h => h.1
  rw [hxl] at hex
  obtain ⟨hkl, hexk⟩ := getE_some hex
  rw [if_pos (Nat.succ_pos k)] at hpt
  by_cases hkX : k < X.length
  · refine ⟨hkX, hkl, rec_det li.g1 hl hX hkl hkX ?_⟩
    rw [hexk, hterm, hpt, termAt_succ hkX]
  · -- `prev_log_term = 0` (the leader has no entry there), but a recorded entry has a term above 0
    exfalso
    have hta : termAt X (k + 1) = 0 := by
      have : X[k]? = none := List.getElem?_eq_none (by omega)
      simp [termAt, getE_succ, this]
    obtain ⟨c, L, hL, _⟩ := hi.r_ll _ (hl k hkl)
    have := hi.ll_lt _ c L hL
    rw [lastTerm_take hkl, hexk, hterm, hpt, hta] at this
    omega

/-- `b` is the bound of the node's committed prefix; `hbt : b ≤ t` is what lets `CommB.vs_leaderLog` compare it with `X` -/
theorem loop_facts {g : GSt} (v : Variant) (li : LInv g) (hi : HInv g) {x : Node} (hrec : Rec g.created x.log)
    (hcl : x.commit ≤ x.log.length) {b : Nat} (hcn : CommB g (x.log.take x.commit) b) {t : Nat} (hbt : b ≤ t)
    {X : List Entry} (hX : LeaderLog g t X) {pi : Nat} (hpi : pi ≤ X.length) (hpl : pi ≤ x.log.length)
    (hpre : x.log.take pi = X.take pi) :
    X <+: (appendLoop v x (pi + 1) (X.drop pi)).log
    ∧ ((appendLoop v x (pi + 1) (X.drop pi)).log = x.log ∨ ((appendLoop v x (pi + 1) (X.drop pi)).log = X ∧ ¬ X <+: x.log))
    ∧ (appendLoop v x (pi + 1) (X.drop pi)).commit = x.commit
    ∧ (appendLoop v x (pi + 1) (X.drop pi)).log.take x.commit = x.log.take x.commit := by
  have hXrec := hX.rec hi
  have hQlen : (X.take pi).length = pi := by rw [List.length_take]; omega
  have hQes : X.take pi ++ X.drop pi = X := List.take_append_drop pi X
  have hchar := appendLoop_char v (X.drop pi) x (X.take pi) (by rw [hQlen]; exact hpre) (by rw [hQlen]; exact hpl)
    (by intro j k ex hk hj hget hterm
        rw [hQlen] at hk
        rw [List.length_drop] at hj
        obtain ⟨hkl, hexk⟩ := List.getElem?_eq_some_iff.mp hget
        have hkX : k < X.length := by omega
        have he : (X.drop pi)[j] = X[k] := by rw [List.getElem_drop]; congr 1; omega
        rw [he] at hterm ⊢
        rw [← hexk] at hterm ⊢
        exact rec_det_elem li.g1 hrec hXrec hkl hkX hterm)
  rw [hQlen, hQes] at hchar
  by_cases hp : X <+: x.log
  · rw [hchar.1 hp]
    exact ⟨hp, Or.inl rfl, rfl, rfl⟩
  · have hlog := hchar.2 hp
    -- the committed prefix is inside `X`
    have hKX : x.log.take x.commit <+: X := by
      rcases hcn.vs_leaderLog hi hX hbt with h | h
      · exact h
      · exact absurd (h.trans (List.take_prefix _ _)) hp
    have hKlen : (x.log.take x.commit).length = x.commit := by rw [List.length_take]; omega
    have hnc : NoConflict x (pi + 1) (X.drop pi) := by
      intro j hj hle ex hex
      rw [List.length_drop] at hj
      rw [show pi + 1 + j = (pi + j) + 1 by omega] at hex
      obtain ⟨hkl, hexk⟩ := getE_some hex
      have hkK : pi + j < (x.log.take x.commit).length := by rw [hKlen]; omega
      have h1 : (x.log.take x.commit)[pi + j] = x.log[pi + j] := by rw [List.getElem_take]
      have h2 := hKX.getElem hkK
      have h3 : (X.drop pi)[j] = X[pi + j] := by rw [List.getElem_drop]
      rw [h3, ← h2, h1, hexk]
    have hcom := appendLoop_commit v (X.drop pi) x (pi + 1) (by omega) hnc
    refine ⟨by rw [hlog]; exact List.prefix_rfl, Or.inr ⟨hlog, hp⟩, hcom, ?_⟩
    rw [hlog]
    have := (List.prefix_iff_eq_take.mp hKX).symm
    rw [hKlen] at this; exact this

/-- the node `y` that an accepted AppendEntries `(t, pi, es, lc)` leaves of `x`; `X` is the ledger log of term `t` the message
    was cut from -/
structure AeAccepted (g : GSt) (x : Node) (t pi : Nat) (es : List Entry) (lc : Nat) (y : Node) (X : List Entry) : Prop where
  term : y.term = t
  role : y.role = .follower
  vf : y.votedFor = none ∨ (y.votedFor = x.votedFor ∧ y.term = x.term)
  ll : LeaderLog g t X
  len : pi + es.length = X.length
  pre : X <+: y.log
  log : y.log = x.log ∨ (y.log = X ∧ ¬ X <+: x.log)
  commit_le : x.commit ≤ y.commit
  clen : y.commit ≤ y.log.length
  comm : y.log.take y.commit = x.log.take x.commit ∨ (y.log.take y.commit = X.take lc ∧ CommB g (X.take lc) t)

theorem accept_facts {g : GSt} (v : Variant) (hr : Rep v) (li : LInv g) (hi : HInv g) (x : Node)
    (hrec : Rec g.created x.log) (hcl : x.commit ≤ x.log.length) (hcn : CommB g (x.log.take x.commit) x.term)
    {t pi pt : Nat} {es : List Entry} {lc : Nat} (haem : AEM g t pi pt es lc) (hle : x.term ≤ t)
    (hbad : aeBad (stepDown v x t) pi pt = false) (y : Node)
    (hy : y = (aeCommit (appendLoop v (stepDown v x t) (pi + 1) es) lc).node) : ∃ X, AeAccepted g x t pi es lc y X := by
  obtain ⟨X, hX, hes, hpt, hlc, hcomm⟩ := haem
  subst hes
  have hev : y.ev = (stepDown v x t).ev := by
    rw [hy]; exact (aeAccept_fr v _ 0 0 pi _ lc).ev
  obtain ⟨e1, e2, e3, _⟩ := ev_eq hev
  obtain ⟨hpiX, hpil, hpre⟩ := prev_agree li hi hrec (hX.rec hi) (stepDown_log v x t) hpt hbad
  obtain ⟨f1, f2, f3, f4⟩ := loop_facts v li hi (x := stepDown v x t) hrec hcl hcn hle hX hpiX hpil hpre
  rw [stepDown_log] at f2 f4
  rw [stepDown_commit] at f3 f4
  suffices h : X <+: y.log ∧ (y.log = x.log ∨ (y.log = X ∧ ¬ X <+: x.log)) ∧ x.commit ≤ y.commit ∧ y.commit ≤ y.log.length ∧
      (y.log.take y.commit = x.log.take x.commit ∨ (y.log.take y.commit = X.take lc ∧ CommB g (X.take lc) t)) from
    ⟨X, e1, e3, by rw [e1, e2]; exact stepDown_vf v hr.kv x t hle, hX, by rw [List.length_drop]; omega, h.1, h.2.1, h.2.2.1,
      h.2.2.2.1, h.2.2.2.2⟩
  · generalize hz : appendLoop v (stepDown v x t) (pi + 1) (X.drop pi) = z at *
    have hylog : y.log = z.log := by rw [hy, (aeCommit_kept _ lc).log]
    have hzlen : x.commit ≤ z.log.length := by
      rcases f2 with h | ⟨h, _⟩
      · rw [h]; exact hcl
      · have := f1.length_le
        have h2 : (z.log.take x.commit).length = (x.log.take x.commit).length := by rw [f4]
        simp only [List.length_take] at h2; omega
    refine ⟨by rw [hylog]; exact f1, by rw [hylog]; exact f2, ?_⟩
    -- `advance_commit` leaves the commit index, or moves it to `lc` (then `lc` is inside `X`, and `X.take lc` is committed in term `t`)
    have hc : (aeCommit z lc).node.commit = z.commit
        ∨ (z.commit < min lc z.log.length ∧ (aeCommit z lc).node.commit = min lc z.log.length) := by
      rw [aeCommit_commit]; omega
    rcases hc with h | ⟨h1, h2⟩
    · refine ⟨by rw [hy, h, f3]; exact Nat.le_refl _, by rw [hylog, hy, h, f3]; exact hzlen, Or.inl ?_⟩
      rw [hylog, hy, h, f3]; exact f4
    · have hXz := f1.length_le
      have hmin : min lc z.log.length = lc := by omega
      rw [hmin] at h1 h2
      refine ⟨by rw [hy, h2]; omega, by rw [hylog, hy, h2]; omega, Or.inr ⟨?_, hcomm⟩⟩
      rw [hylog, hy, h2]
      exact take_eq_of_prefix f1 hlc

end HappyModel.C11
