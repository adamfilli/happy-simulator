import HappyModel.C17.Chain
import HappyProofs.C17.Upd
namespace HappyModel.C17.Chain

/-- the part of the invariant that mentions neither table -/
structure Core (s : St) : Prop where
  n2 : 2 ≤ s.n
  app_le : s.applied ≤ s.seq
  /-- downstream nodes never run ahead of upstream nodes -/
  order : ∀ i j k, i ≤ j → j < s.n → s.aseq j k ≤ s.aseq i k
  /-- a node's store holds the value of the newest sequence it applied for the key -/
  store : ∀ i k, s.aseq i k ≤ s.applied ∧ (s.aseq i k = 0 → s.store i k = none) ∧
      (s.aseq i k ≠ 0 → s.wk (s.aseq i k) = k ∧ s.store i k = some (s.wv (s.aseq i k)))
  /-- what a node believes committed has been applied at the tail -/
  commit : ∀ i k, s.cseq i k ≤ s.aseq (s.n - 1) k
  /-- CRAQ: a clean key's newest local version is committed -/
  clean : ∀ i k, s.craq = true → s.dirty i k = false → s.aseq i k ≤ s.cseq i k
  /-- a resolved ack future: the tail has processed that write -/
  ackd : ∀ q, s.ackd q = true → q ≤ s.aseq (s.n - 1) (s.wk q)

/-- state evolution that keeps message / process facts true -/
structure Mono (s s' : St) : Prop where
  n : s'.n = s.n
  applied : s.applied ≤ s'.applied
  seq : s.seq ≤ s'.seq
  wk : ∀ q, q ≤ s.seq → s'.wk q = s.wk q
  wv : ∀ q, q ≤ s.seq → s'.wv q = s.wv q
  aseq : ∀ i k, s.aseq i k ≤ s'.aseq i k
  ackd : ∀ q, s.ackd q = true → s'.ackd q = true

theorem Mono.of_eq {s s' : St} (h1 : s'.n = s.n) (h2 : s'.applied = s.applied) (h3 : s'.seq = s.seq)
    (h4 : s'.aseq = s.aseq) (h5 : s'.ackd = s.ackd) (h6 : s'.wk = s.wk) (h7 : s'.wv = s.wv) : Mono s s' :=
  ⟨h1, Nat.le_of_eq h2.symm, Nat.le_of_eq h3.symm, fun _ _ => by rw [h6], fun _ _ => by rw [h7],
    fun _ _ => by rw [h4]; exact Nat.le_refl _, fun _ h => by rw [h5]; exact h⟩

theorem Mono.refl (s : St) : Mono s s := Mono.of_eq rfl rfl rfl rfl rfl rfl rfl

def MsgOK (s : St) (m : Msg) : Prop :=
  match m.kind with
  | .prop => 1 ≤ m.dst ∧ m.dst < s.n ∧ 1 ≤ m.seq ∧ m.seq ≤ s.applied ∧ s.wk m.seq = m.key ∧
      s.wv m.seq = m.val ∧ ∀ i, i < m.dst → m.seq ≤ s.aseq i m.key
  | .wack => m.seq ≤ s.applied ∧ s.wk m.seq = m.key ∧ m.seq ≤ s.aseq (s.n - 1) m.key
  | .cnote => m.seq ≤ s.aseq (s.n - 1) m.key
  | .rfwd => True

def ProcOK (s : St) (p : Proc) : Prop :=
  match p.kind with
  | .prop => 1 ≤ p.node ∧ p.node < s.n ∧ 1 ≤ p.seq ∧ p.seq ≤ s.applied ∧ s.wk p.seq = p.key ∧
      s.wv p.seq = p.val ∧ (∀ i, i < p.node → p.seq ≤ s.aseq i p.key) ∧
      (p.seg ≠ 1 → p.seq ≤ s.aseq p.node p.key)
  | .write => 1 ≤ p.seq ∧ p.seq ≤ s.seq ∧ s.wk p.seq = p.key ∧ s.wv p.seq = p.val ∧
      (p.seg = 1 → s.applied < p.seq) ∧ (p.seg ≠ 1 → p.seq ≤ s.applied) ∧
      (p.fin = true → s.ackd p.seq = true)
  | .read => True
  | .other => True

structure Inv (s : St) : Prop where
  core : Core s
  msgs : ∀ mid m, s.msgs mid = some m → MsgOK s m
  procs : ∀ pid p, s.procs pid = some p → ProcOK s p
  uniq : ∀ pid p pid' p', s.procs pid = some p → s.procs pid' = some p' → p.kind = .write →
      p'.kind = .write → p.seq = p'.seq → pid = pid'

theorem procOK_write {s : St} {p : Proc} (hk : p.kind = .write) : ProcOK s p ↔
    1 ≤ p.seq ∧ p.seq ≤ s.seq ∧ s.wk p.seq = p.key ∧ s.wv p.seq = p.val ∧
      (p.seg = 1 → s.applied < p.seq) ∧ (p.seg ≠ 1 → p.seq ≤ s.applied) ∧ (p.fin = true → s.ackd p.seq = true) := by
  unfold ProcOK; rw [hk]

theorem procOK_prop {s : St} {p : Proc} (hk : p.kind = .prop) : ProcOK s p ↔
    1 ≤ p.node ∧ p.node < s.n ∧ 1 ≤ p.seq ∧ p.seq ≤ s.applied ∧ s.wk p.seq = p.key ∧ s.wv p.seq = p.val ∧
      (∀ i, i < p.node → p.seq ≤ s.aseq i p.key) ∧ (p.seg ≠ 1 → p.seq ≤ s.aseq p.node p.key) := by
  unfold ProcOK; rw [hk]

theorem msgOK_mono (s s' : St) (m : Msg) (hc : Core s) (hm : Mono s s') (h : MsgOK s m) : MsgOK s' m := by
  unfold MsgOK at *
  cases hk : m.kind <;> simp only [hk] at h ⊢
  · obtain ⟨a1, a2, a3, a4, a5, a6, a7⟩ := h
    have : m.seq ≤ s.seq := Nat.le_trans a4 hc.app_le
    exact ⟨a1, by rw [hm.n]; exact a2, a3, Nat.le_trans a4 hm.applied, by rw [hm.wk _ this]; exact a5,
      by rw [hm.wv _ this]; exact a6, fun i hi => Nat.le_trans (a7 i hi) (hm.aseq _ _)⟩
  · obtain ⟨a1, a2, a3⟩ := h
    have : m.seq ≤ s.seq := Nat.le_trans a1 hc.app_le
    exact ⟨Nat.le_trans a1 hm.applied, by rw [hm.wk _ this]; exact a2,
      by rw [hm.n]; exact Nat.le_trans a3 (hm.aseq _ _)⟩
  · rw [hm.n]; exact Nat.le_trans h (hm.aseq _ _)

/-- process facts survive, except the head's "put not landed yet" clause which is supplied -/
theorem procOK_mono (s s' : St) (p : Proc) (hc : Core s) (hm : Mono s s') (h : ProcOK s p)
    (hw : p.kind = .write → p.seg = 1 → s'.applied < p.seq) : ProcOK s' p := by
  unfold ProcOK at *
  cases hk : p.kind <;> simp only [hk] at h ⊢
  · obtain ⟨a1, a2, a3, a4, a5, a6, a7⟩ := h
    exact ⟨a1, Nat.le_trans a2 hm.seq, by rw [hm.wk _ a2]; exact a3, by rw [hm.wv _ a2]; exact a4,
      hw hk, fun h1 => Nat.le_trans (a6 h1) hm.applied, fun hf => hm.ackd _ (a7 hf)⟩
  · obtain ⟨a1, a2, a3, a4, a5, a6, a7, a8⟩ := h
    have : p.seq ≤ s.seq := Nat.le_trans a4 hc.app_le
    exact ⟨a1, by rw [hm.n]; exact a2, a3, Nat.le_trans a4 hm.applied, by rw [hm.wk _ this]; exact a5,
      by rw [hm.wv _ this]; exact a6, fun i hi => Nat.le_trans (a7 i hi) (hm.aseq _ _),
      fun h1 => Nat.le_trans (a8 h1) (hm.aseq _ _)⟩

/-! The primitives as record updates: every projection of `markCommitted`, `applyAt`, `sendNotes` then reduces; `rw`
with one of these equations is how the proofs read a field of such a state. -/

theorem markCommitted_eq (s : St) (i k q : Nat) : markCommitted s i k q =
    { s with cseq := upd2 s.cseq i k (max (s.cseq i k) q),
             dirty := if s.aseq i k ≤ max (s.cseq i k) q then upd2 s.dirty i k false else s.dirty } := by
  unfold markCommitted
  by_cases h : s.aseq i k ≤ max (s.cseq i k) q
  · simp only [if_pos h]
  · simp only [if_neg h]

theorem applyAt_frame (s : St) (i k v q : Nat) : applyAt s i k v q =
    { s with aseq := (applyAt s i k v q).aseq, store := (applyAt s i k v q).store,
             dirty := (applyAt s i k v q).dirty } := by
  unfold applyAt
  split <;> rfl

theorem sendNotes_frame (s : St) (k q i : Nat) : sendNotes s k q i =
    { s with nm := (sendNotes s k q i).nm, msgs := (sendNotes s k q i).msgs } := by
  induction i generalizing s with
  | zero => rfl
  | succ i ih => unfold sendNotes; rw [ih]; rfl

/-- `s'` differs from `s` at most in the message and process tables, the replies and the error flag -/
def SameData (s s' : St) : Prop :=
  s' = { s with np := s'.np, procs := s'.procs, nm := s'.nm, msgs := s'.msgs, replies := s'.replies,
                err := s'.err }

theorem SameData.core {s s' : St} (e : SameData s s') (hc : Core s) : Core s' := by
  rw [e]; exact ⟨hc.n2, hc.app_le, hc.order, hc.store, hc.commit, hc.clean, hc.ackd⟩

theorem SameData.mono {s s' : St} (e : SameData s s') : Mono s s' := by
  rw [e]; exact Mono.of_eq rfl rfl rfl rfl rfl rfl rfl

theorem SameData.applied {s s' : St} (e : SameData s s') : s'.applied = s.applied := by rw [e]
theorem SameData.n {s s' : St} (e : SameData s s') : s'.n = s.n := by rw [e]
theorem SameData.wk {s s' : St} (e : SameData s s') : s'.wk = s.wk := by rw [e]
theorem SameData.aseq {s s' : St} (e : SameData s s') : s'.aseq = s.aseq := by rw [e]

/-- Node `i` takes write `q` of key `k`, newer than what it holds and already taken by every node
    upstream; `a` is the number of puts landed at the head afterwards. -/
theorem core_raise (s : St) (i k v q a : Nat) (hc : Core s) (hlt : s.aseq i k < q) (hqa : q ≤ a)
    (ha : s.applied ≤ a) (has : a ≤ s.seq) (hk : s.wk q = k) (hv : s.wv q = v)
    (hup : ∀ i', i' < i → q ≤ s.aseq i' k) :
    let s' : St := { s with applied := a, aseq := upd2 s.aseq i k q, store := upd2 s.store i k (some v),
                            dirty := if s.craq then upd2 s.dirty i k true else s.dirty }
    Core s' ∧ Mono s s' := by
  intro s'
  have hs : ∀ x k', s'.aseq x k' = if x = i ∧ k' = k then q else s.aseq x k' :=
    fun x k' => upd2_apply _ _ _ _ _ _
  have hmono : ∀ x k', s.aseq x k' ≤ s'.aseq x k' := by
    intro x k'; rw [hs]; split
    · next h => rw [h.1, h.2]; exact Nat.le_of_lt hlt
    · exact Nat.le_refl _
  refine ⟨⟨hc.n2, has, ?_, ?_, fun x k' => Nat.le_trans (hc.commit x k') (hmono _ _), ?_,
    fun x hx => Nat.le_trans (hc.ackd x hx) (hmono _ _)⟩,
    ⟨rfl, ha, Nat.le_refl _, fun _ _ => rfl, fun _ _ => rfl, hmono, fun _ h => h⟩⟩
  · intro x y k' hxy hy
    rw [hs, hs]
    have ho := hc.order x y k' hxy hy
    by_cases hyi : y = i ∧ k' = k
    · rw [if_pos hyi]; split
      · exact Nat.le_refl _
      · next hxi => exact hyi.2 ▸ hup x (Nat.lt_of_le_of_ne (hyi.1 ▸ hxy) (fun e => hxi ⟨e, hyi.2⟩))
    · rw [if_neg hyi]; split
      · next hxi => rw [hxi.1] at ho; rw [hxi.2] at ho ⊢; exact Nat.le_of_lt (Nat.lt_of_le_of_lt ho hlt)
      · exact ho
  · intro x k'
    show s'.aseq x k' ≤ a ∧ (s'.aseq x k' = 0 → upd2 s.store i k (some v) x k' = none) ∧
      (s'.aseq x k' ≠ 0 → s.wk (s'.aseq x k') = k' ∧ upd2 s.store i k (some v) x k' = some (s.wv (s'.aseq x k')))
    rw [hs, upd2_apply]
    by_cases hx : x = i ∧ k' = k
    · simp only [if_pos hx]
      exact ⟨hqa, fun h0 => absurd (h0 ▸ hlt) (Nat.not_lt_zero _), fun _ => ⟨hx.2 ▸ hk, by rw [hv]⟩⟩
    · simp only [if_neg hx]
      exact ⟨Nat.le_trans (hc.store x k').1 ha, (hc.store x k').2⟩
  · intro x k' hcr hd
    have hd : (if s.craq = true then upd2 s.dirty i k true else s.dirty) x k' = false := hd
    rw [if_pos hcr, upd2_apply] at hd
    rw [hs]
    by_cases hx : x = i ∧ k' = k
    · rw [if_pos hx] at hd; cases hd
    · rw [if_neg hx] at hd ⊢; exact hc.clean x k' hcr hd

theorem core_applyAt (s : St) (i k v q : Nat) (hc : Core s) (hq : q ≤ s.applied) (hk : s.wk q = k)
    (hv : s.wv q = v) (hup : ∀ i', i' < i → q ≤ s.aseq i' k) :
    Core (applyAt s i k v q) ∧ Mono s (applyAt s i k v q) ∧ q ≤ (applyAt s i k v q).aseq i k := by
  unfold applyAt
  split
  · next hlt =>
    obtain ⟨h1, h2⟩ := core_raise s i k v q s.applied hc hlt hq (Nat.le_refl _) hc.app_le hk hv hup
    refine ⟨h1, h2, ?_⟩
    show q ≤ upd2 s.aseq i k q i k
    rw [upd2_apply, if_pos ⟨rfl, rfl⟩]; exact Nat.le_refl _
  · next hlt => exact ⟨hc, Mono.refl s, Nat.le_of_not_lt hlt⟩

theorem core_markCommitted (s : St) (i k q : Nat) (hc : Core s) (hq : q ≤ s.aseq (s.n - 1) k) :
    Core (markCommitted s i k q) ∧ Mono s (markCommitted s i k q) := by
  rw [markCommitted_eq]
  have hcs : ∀ x k', upd2 s.cseq i k (max (s.cseq i k) q) x k' =
      if x = i ∧ k' = k then max (s.cseq i k) q else s.cseq x k' := fun x k' => upd2_apply _ _ _ _ _ _
  refine ⟨⟨hc.n2, hc.app_le, hc.order, hc.store, ?_, ?_, hc.ackd⟩, Mono.of_eq rfl rfl rfl rfl rfl rfl rfl⟩
  · intro x k'
    show upd2 s.cseq i k (max (s.cseq i k) q) x k' ≤ s.aseq (s.n - 1) k'
    rw [hcs]; split
    · next hx => rw [hx.2]; exact Nat.max_le.mpr ⟨hc.commit i k, hq⟩
    · exact hc.commit x k'
  · intro x k' hcr hd
    have hd : (if s.aseq i k ≤ max (s.cseq i k) q then upd2 s.dirty i k false else s.dirty) x k' = false := hd
    show s.aseq x k' ≤ upd2 s.cseq i k (max (s.cseq i k) q) x k'
    rw [hcs]
    by_cases hx : x = i ∧ k' = k
    · rw [if_pos hx, hx.1, hx.2]
      by_cases hle : s.aseq i k ≤ max (s.cseq i k) q
      · exact hle
      · rw [if_neg hle, hx.1, hx.2] at hd
        exact Nat.le_trans (hc.clean i k hcr hd) (Nat.le_max_left _ _)
    · rw [if_neg hx]
      refine hc.clean x k' hcr ?_
      split at hd
      · rw [upd2_apply, if_neg hx] at hd; exact hd
      · exact hd

theorem Inv.write_pending {s : St} (h : Inv s) {pid : Nat} {p : Proc} (hp : s.procs pid = some p)
    (hk : p.kind = .write) (hs : p.seg = 1) : s.applied < p.seq := by
  exact ((procOK_write hk).1 (h.procs pid p hp)).2.2.2.2.1 hs

/-- one process slot `x` changes; messages are kept, flagged delivered, or new and well-formed -/
theorem inv_step (s s' : St) (x : Nat) (hI : Inv s) (hc : Core s') (hm : Mono s s')
    (hmsgs : ∀ mid m, s'.msgs mid = some m →
      s.msgs mid = some m ∨ MsgOK s' m ∨ ∃ m0, s.msgs mid = some m0 ∧ m = { m0 with delivered := true })
    (hoth : ∀ pid, pid ≠ x → s'.procs pid = s.procs pid)
    (hx : ∀ p, s'.procs x = some p → s.procs x = some p ∨ (ProcOK s' p ∧ (p.kind = .write →
      (∃ p0, s.procs x = some p0 ∧ p0.kind = .write ∧ p0.seq = p.seq) ∨ s.seq < p.seq)))
    (hw : ∀ pid p, s.procs pid = some p → s'.procs pid = some p → p.kind = .write → p.seg = 1 →
      s'.applied < p.seq) : Inv s' := by
  have hold : ∀ pid p, s.procs pid = some p → s'.procs pid = some p → ProcOK s' p :=
    fun pid p h1 h2 => procOK_mono s s' p hI.core hm (hI.procs pid p h1) (hw pid p h1 h2)
  have origin : ∀ y r, s'.procs y = some r → s.procs y = some r ∨ (y = x ∧ ProcOK s' r ∧ (r.kind = .write →
      (∃ r0, s.procs x = some r0 ∧ r0.kind = .write ∧ r0.seq = r.seq) ∨ s.seq < r.seq)) := by
    intro y r hr
    by_cases hyx : y = x
    · subst hyx
      exact (hx r hr).imp id (fun h => ⟨rfl, h⟩)
    · rw [hoth y hyx] at hr; exact Or.inl hr
  refine ⟨hc, ?_, ?_, ?_⟩
  · intro mid m hmid
    rcases hmsgs mid m hmid with h1 | h1 | ⟨m0, h1, h2⟩
    · exact msgOK_mono s s' m hI.core hm (hI.msgs mid m h1)
    · exact h1
    · rw [h2]; exact msgOK_mono s s' m0 hI.core hm (hI.msgs mid m0 h1)
  · intro pid p hp
    rcases origin pid p hp with h1 | h1
    · exact hold pid p h1 hp
    · exact h1.2.1
  · intro pid p pid' p' hp hp' hk hk' hseq
    have worigin : ∀ y r, s'.procs y = some r → r.kind = .write →
        (∃ r0, s.procs y = some r0 ∧ r0.kind = .write ∧ r0.seq = r.seq) ∨ (y = x ∧ s.seq < r.seq) := by
      intro y r hr hrk
      rcases origin y r hr with h1 | ⟨h1, _, h2⟩
      · exact Or.inl ⟨r, h1, hrk, rfl⟩
      · exact (h2 hrk).imp (fun h => h1 ▸ h) (fun h => ⟨h1, h⟩)
    have old_le : ∀ y r, s.procs y = some r → r.kind = .write → r.seq ≤ s.seq := by
      intro y r hr hrk
      exact ((procOK_write hrk).1 (hI.procs y r hr)).2.1
    rcases worigin pid p hp hk with ⟨r0, a1, a2, a3⟩ | ⟨a1, a2⟩ <;>
      rcases worigin pid' p' hp' hk' with ⟨r0', b1, b2, b3⟩ | ⟨b1, b2⟩
    · exact hI.uniq pid r0 pid' r0' a1 b1 a2 b2 (by rw [a3, b3]; exact hseq)
    · have : p'.seq ≤ s.seq := by rw [← hseq, ← a3]; exact old_le pid r0 a1 a2
      exact absurd (Nat.lt_of_lt_of_le b2 this) (Nat.lt_irrefl _)
    · have : p.seq ≤ s.seq := by rw [hseq, ← b3]; exact old_le pid' r0' b1 b2
      exact absurd (Nat.lt_of_lt_of_le a2 this) (Nat.lt_irrefl _)
    · rw [a1, b1]

theorem inv_tables (s s' : St) (x : Nat) (hI : Inv s) (e : SameData s s')
    (hmsgs : ∀ mid m, s'.msgs mid = some m →
      s.msgs mid = some m ∨ MsgOK s' m ∨ ∃ m0, s.msgs mid = some m0 ∧ m = { m0 with delivered := true })
    (hoth : ∀ pid, pid ≠ x → s'.procs pid = s.procs pid)
    (hx : ∀ p, s'.procs x = some p → s.procs x = some p ∨ (ProcOK s' p ∧ (p.kind = .write →
      (∃ p0, s.procs x = some p0 ∧ p0.kind = .write ∧ p0.seq = p.seq) ∨ s.seq < p.seq))) : Inv s' :=
  inv_step s s' x hI (e.core hI.core) e.mono hmsgs hoth hx
    (fun _ _ h1 _ hk hs => by rw [e.applied]; exact hI.write_pending h1 hk hs)

/-- `s'` differs from `s` at most in the replicas' data and the resolved futures -/
def SameTables (s s' : St) : Prop :=
  s' = { s with store := s'.store, aseq := s'.aseq, cseq := s'.cseq, dirty := s'.dirty, ackd := s'.ackd }

theorem inv_data (s s' : St) (h : Inv s) (hc : Core s') (hm : Mono s s') (e : SameTables s s') : Inv s' := by
  -- no handler slot changes: slot 0 stands in, with its occupant unchanged
  apply inv_step s s' 0 h hc hm
  · intro mid m hmid; rw [e] at hmid; exact Or.inl hmid
  · intro pid _; rw [e]
  · intro p hp; rw [e] at hp; exact Or.inl hp
  · intro pid q hq _ hqk hs
    rw [e]; exact h.write_pending hq hqk hs

/-- process slot `x` is filled with `p'`: a handler that is not a client write, or a later stage of
    the write handler that was there -/
theorem inv_putProc (s s' : St) (x : Nat) (p' : Proc) (h : Inv s) (e : SameData s s')
    (hm : s'.msgs = s.msgs) (hp : s'.procs = upd s.procs x (some p')) (hok : ProcOK s' p')
    (hw : p'.kind = .write → ∃ p0, s.procs x = some p0 ∧ p0.kind = .write ∧ p0.seq = p'.seq) : Inv s' := by
  apply inv_tables s s' x h e
  · intro mid m hmid; rw [hm] at hmid; exact Or.inl hmid
  · intro pid hpid; rw [hp, upd_other _ _ _ _ hpid]
  · intro q hq
    rw [hp, upd_same] at hq; cases hq
    exact Or.inr ⟨hok, fun hk => Or.inl (hw hk)⟩

theorem inv_putMsg (s s' : St) (x : Nat) (m' : Msg) (h : Inv s) (e : SameData s s')
    (hp : s'.procs = s.procs) (hm : s'.msgs = upd s.msgs x (some m'))
    (hok : MsgOK s' m' ∨ ∃ m0, s.msgs x = some m0 ∧ m' = { m0 with delivered := true }) : Inv s' := by
  apply inv_tables s s' 0 h e
  · intro mid m hmid
    rw [hm] at hmid
    by_cases hx : mid = x
    · subst hx; rw [upd_same] at hmid; cases hmid
      exact Or.inr hok
    · rw [upd_other _ _ _ _ hx] at hmid; exact Or.inl hmid
  · intro pid _; rw [hp]
  · intro q hq; rw [hp] at hq; exact Or.inl hq

end HappyModel.C17.Chain
