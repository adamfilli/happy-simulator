import HappyProofs.C17.MLTInv
import HappyProofs.C17.MLPhase
/-!
Last-writer-wins on any topology: the run segment after the last client-write / `Replicate` handler step is an
anti-entropy phase (`MLPhase.lean`) for the order `lwwOrd`, the total order of the coherent versions `P`, in which
every version of the phase lies (`TInv`).  `_install` stores the greater of two versions, and a version that is not
taken is not above the holder's; two leaders that cover each other in a total order hold the same version.
-/
namespace HappyModel.C17.MLT
open HappyModel.C17.ML (Version Msg Proc MKind PKind vcGet dominates vcMerge vcTick Coherent vlt takes_iff_lt
  vlt_trans vlt_total)
open HappyModel.C17.MLM (GK KComplete)
open HappyModel.C17.LN (Res AeShape StepShape core PhaseOrd PSI)

def runEqs : LN.RunEqs St :=
  ⟨step, isWR, kstep, run, krun, noWR, fun _ => rfl, fun _ _ _ => rfl, fun _ _ => rfl, fun _ _ _ _ => rfl, fun _ => rfl,
   fun _ _ _ => rfl, fun s g a h => by unfold kstep; rw [if_pos h]⟩

theorem krun_split (acts : List Act) (s : St) :
    ∃ acts1 acts2, acts = acts1 ++ acts2 ∧ noWR (run s acts1) acts2 = true ∧
      (krun s GK.reset acts).2 = (krun (run s acts1) GK.reset acts2).2 :=
  runEqs.krun_split acts s

def lwwOrd (n : Nat) (P : Nat → Version → Prop) (hc : ∀ k, Coherent n (P k)) : PhaseOrd where
  Cov _ a b := ∀ v, a = some v → OGe b v
  Held k a := ∀ u, a = some u → P k u
  Item k _ v := P k v
  refl _ _ v hv := ⟨v, hv, ML.vlt_irrefl v⟩
  bot h b v hv := by obtain ⟨_, e, _⟩ := h v hv; cases e
  trans := by
    intro k a b c hb hc' h1 h2 x hx
    obtain ⟨u, rfl, hu⟩ := h1 x hx
    obtain ⟨w, rfl, hw⟩ := h2 u rfl
    exact ⟨w, rfl, ML.nlt_trans n (P k) (hc k) w u x (hc' w rfl) (hb u rfl) hw hu⟩

theorem lwwOrd_laws (n : Nat) (P : Nat → Version → Prop) (hc : ∀ k, Coherent n (P k)) (r : Res)
    (ht : ∀ e inc, r.takes e inc = ML.takes n e inc) (hp : ∀ e inc, r.pick e inc = inc) :
    (lwwOrd n P hc).Laws r := by
  have merged : ∀ cur v, r.merged cur v = if ML.takes n cur v = true then some v else cur := by
    intro cur v; unfold Res.merged; rw [ht, hp]
  -- a version that is not taken is not above the holder's
  have refused : ∀ {k cur v}, (∀ u, cur = some u → P k u) → P k v → ML.takes n cur v = false →
      ∀ x, some v = some x → OGe cur x := by
    intro k cur v hH hv hf x hx
    cases hx
    cases cur with
    | none => cases hf
    | some c =>
      exact ⟨c, rfl, fun hlt => by rw [(takes_iff_lt n (P k) (hc k) c v (hH c rfl) hv).mpr hlt] at hf; cases hf⟩
  refine ⟨?_, ?_, ?_, ?_, ?_⟩
  · intro k cur v hH hI
    rw [merged]; split
    · intro u hu; cases hu; exact hI
    · exact hH
  · intro k cur v hH hI
    rw [merged]; split
    · next htk =>
      intro c hcur
      subst hcur
      exact ⟨v, rfl, ML.vlt_asymm c v ((takes_iff_lt n (P k) (hc k) c v (hH c rfl) hI).mp htk)⟩
    · exact (lwwOrd n P hc).refl k cur
  · intro k cur v _ _ z _ h1 h2
    rw [merged]; split
    · exact h2
    · exact h1
  · intro k cur v hH _ hW
    rw [merged]; split
    · exact (lwwOrd n P hc).refl k _
    · next htk => exact refused hH (hW v rfl) (Bool.eq_false_iff.mpr htk)
  · intro k cur v hH hW htk
    exact refused hH (hW v rfl) (ht _ _ ▸ htk)

theorem kstep_view (s : St) (g : GK) (a : Act) : kstep s g a = LN.kstep s.res s.view (step s a).view g a := by
  unfold kstep LN.kstep
  rw [isWR_view]
  cases a <;> rfl

variable {P : Nat → Version → Prop} {sp : St} {hc : ∀ k, Coherent sp.n (P k)}

theorem psi_item {s : St} (hT : TInv P s) (hS : SubInv s) (pid : Nat) (p : Proc) (k : Nat) (v : Version)
    (rest : List (Nat × Version)) (h0 : s.procs pid = some p) (hk : p.kind = .aereq ∨ p.kind = .aeresp)
    (hit : p.items = (k, v) :: rest) :
    (lwwOrd sp.n P hc).Item k (s.vers p.node k) v ∧ (lwwOrd sp.n P hc).Cov k (some v) (s.vers p.src k) := by
  have hmem : (k, v) ∈ p.items := by rw [hit]; exact List.mem_cons_self ..
  exact ⟨(hT.procP pid p h0).2 (k, v) hmem, fun x hx => Option.some.inj hx ▸ hS.procS pid p h0 hk (k, v) hmem⟩

structure SI (P : Nat → Version → Prop) (sp : St) (hc : ∀ k, Coherent sp.n (P k)) (s : St) : Prop where
  tinv : TInv P s
  aux : AuxInv s
  sub : SubInv s
  lww : s.lww = true
  psi : PSI (lwwOrd sp.n P hc) sp.n sp.view s.view

theorem SI_init (hl : sp.lww = true) (hT : TInv P sp) (hA : AuxInv sp) (hS : SubInv sp) : SI P sp hc sp :=
  ⟨hT, hA, hS, hl, PSI.init (auxInv_iff.1 hA) rfl (fun b _ k => hT.versP b k) (psi_item hT hS)⟩

theorem SI_step {s : St} (a : Act) (h : SI P sp hc s) (hw : isWR s a = false) :
    SI P sp hc (step s a) ∧
      LN.Facts ((lwwOrd sp.n P hc).K sp.view) ((lwwOrd sp.n P hc).W sp.view) sp.n s.res s.view (step s a).view := by
  have hn : s.n = sp.n := h.psi.hn
  have hT' : TInv P (step s a) := step_tinv s a h.lww h.tinv (fun op node k v e _ => by subst e; cases hw)
  have hA' := step_aux s a h.aux h.tinv
  have hS' := step_sub s a h.lww (by rw [hn]; exact hc) h.tinv h.sub
  obtain ⟨held', up', F⟩ := h.psi.step
    (lwwOrd_laws sp.n P hc s.res (fun e inc => hn ▸ takesR_lww h.lww e inc) (pickR_lww h.lww))
    (step_shape s a) (isWR_view s a ▸ hw)
  exact ⟨⟨hT', hA', hS', by rw [step_lww]; exact h.lww,
    ⟨auxInv_iff.1 hA', by rw [← hn]; exact step_n s a, held', up', psi_item hT' hS'⟩⟩, F⟩

theorem krun_P2 (acts : List Act) (s : St) (g : GK) (hs : SI P sp hc s)
    (hg : LN.GI ((lwwOrd sp.n P hc).K sp.view) ((lwwOrd sp.n P hc).W sp.view) sp.n s.view g) (hno : noWR s acts = true) :
    SI P sp hc (krun s g acts).1 ∧
      LN.GI ((lwwOrd sp.n P hc).K sp.view) ((lwwOrd sp.n P hc).W sp.view) sp.n (krun s g acts).1.view (krun s g acts).2 :=
  runEqs.krun_ind
    (fun s g => SI P sp hc s ∧ LN.GI ((lwwOrd sp.n P hc).K sp.view) ((lwwOrd sp.n P hc).W sp.view) sp.n s.view g)
    (fun s g a ⟨hs, hg⟩ hw => by
      obtain ⟨hs', F⟩ := SI_step a hs hw
      refine ⟨hs', ?_⟩
      show LN.GI _ _ _ (step s a).view (kstep s g a)
      rw [kstep_view]
      exact LN.GI_step (step_shape s a) F (auxInv_iff.1 hs.aux) hs.psi.hn (hs.tinv.freshP _ (Nat.le_refl _)) hg
        (isWR_view s a ▸ hw))
    acts s g ⟨hs, hg⟩ hno

theorem phase2_converges {P : Nat → Version → Prop} (sp : St) (hl : sp.lww = true)
    (hc : ∀ k, Coherent sp.n (P k)) (hT : TInv P sp) (hA : AuxInv sp) (hS : SubInv sp)
    (acts : List Act) (hno : noWR sp acts = true)
    (hk : KComplete sp.n (krun sp GK.reset acts).2) (i j k : Nat) (hi : i < sp.n) (hj : j < sp.n) :
    (run sp acts).vers i k = (run sp acts).vers j k ∧ (run sp acts).store i k = (run sp acts).store j k := by
  obtain ⟨hs, hg⟩ := krun_P2 (hc := hc) acts sp GK.reset (SI_init hl hT hA hS) PhaseOrd.gi_reset hno
  rw [show (krun sp GK.reset acts).1 = run sp acts from runEqs.krun_fst acts sp GK.reset] at hs hg
  have hv : (run sp acts).vers i k = (run sp acts).vers j k :=
    ML.agree_of_ge (hc k) (hs.tinv.versP i k) (hs.tinv.versP j k) (hs.psi.converge hg hk i j k hi hj)
      (hs.psi.converge hg hk j i k hj hi)
  exact ⟨hv, by rw [hs.tinv.store i k, hs.tinv.store j k, hv]⟩

theorem created_append : ∀ (a b : List Act) (s : St), created s (a ++ b) = created s a ++ created (run s a) b
  | [], _, _ => rfl
  | x :: xs, b, s => by
    show newOf s x ++ created (step s x) (xs ++ b) = (newOf s x ++ created (step s x) xs) ++ created (run (step s x) xs) b
    rw [created_append xs b (step s x), List.append_assoc]

/-- The run is split at its last client-write / `Replicate` handler step as in `MLMPhase.lean`; here quiescence is
not needed: `Replicate`s still in flight at the end are not part of the state the leaders agree on. -/
theorem gossip_complete_converges {P : Nat → Version → Prop} (n nk : Nat) (jn : MLM.Join) (adj : List (List Nat))
    (acts : List Act) (hc : ∀ k, Coherent n (P k))
    (hP : ∀ kv, kv ∈ created (init n nk jn true adj) acts → P kv.1 kv.2)
    (hk : KComplete n (krun (init n nk jn true adj) GK.reset acts).2) (i j k : Nat) (hi : i < n) (hj : j < n) :
    (run (init n nk jn true adj) acts).vers i k = (run (init n nk jn true adj) acts).vers j k ∧
    (run (init n nk jn true adj) acts).store i k = (run (init n nk jn true adj) acts).store j k := by
  obtain ⟨a1, a2, he, hno, hke⟩ := krun_split acts (init n nk jn true adj)
  have hP1 : ∀ kv, kv ∈ created (init n nk jn true adj) a1 → P kv.1 kv.2 := fun kv hkv =>
    hP kv (by rw [he, created_append]; exact List.mem_append_left _ hkv)
  obtain ⟨hT, hA, hS⟩ := run_all (P := P) n nk jn adj a1 hc hP1
  have hn1 : (run (init n nk jn true adj) a1).n = n := run_n _ _
  have hl1 : (run (init n nk jn true adj) a1).lww = true := by rw [run_lww]; rfl
  have hrun : run (init n nk jn true adj) acts = run (run (init n nk jn true adj) a1) a2 := by rw [he]; exact runEqs.run_append a1 a2 _
  rw [hrun]
  exact phase2_converges (P := P) _ hl1 (by rw [hn1]; exact hc) hT hA hS a2 hno (by rw [hn1, ← hke]; exact hk)
    i j k (by rw [hn1]; exact hi) (by rw [hn1]; exact hj)

end HappyModel.C17.MLT
