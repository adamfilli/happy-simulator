import HappyProofs.C14.TxnStep
/-!
# Transaction manager: the invariant behind consistent snapshot reads

`snapshotValue n k (store.get k) log` is the serial-replay state after the first `n` commits, for every
`n ≤ version`; a transaction's snapshot version is the number of commits before its `began` event;
hence every value fetched at SNAPSHOT_ISOLATION / SERIALIZABLE is the replay state at `begin`.
-/
namespace HappyModel.C14.SM
open HappyModel.C14 HappyModel.C14.BT

structure Inv2 (init : Key → Option Nat) (tm : TM) (evs : List Ev) : Prop where
  ncom : ncommits evs = tm.version
  log_le : ∀ e ∈ tm.log, e.version ≤ tm.version
  /-- undoing the commit log down to version `n` gives the state after the first `n` commits -/
  snapv : ∀ n, n ≤ tm.version → ∀ k,
    snapshotValue n k (tm.store.getSync k) tm.log = replayN init n evs k
  began : ∀ pre post s, evs = pre ++ Ev.began s :: post → ∀ tx, tm.tx? s = some tx → tx.snap = ncommits pre
  reads : ∀ pre post s k val, evs = pre ++ Ev.fetched s k val :: post → ∀ tx, tm.tx? s = some tx →
    tx.level ≠ .rc → val = replayN init tx.snap pre k

variable {ok : Store → Prop} {init : Key → Option Nat} {tm tm' : TM} {evs : List Ev}

theorem Inv2.frame (h : Inv2 init tm evs) (sim : Sim tm tm') (hst : tm'.store = tm.store)
    (hv : tm'.version = tm.version) (hlog : tm'.log = tm.log) : Inv2 init tm' evs where
  ncom := by rw [hv]; exact h.ncom
  log_le := by rw [hv, hlog]; exact h.log_le
  snapv := by rw [hv, hst, hlog]; exact h.snapv
  began pre post s hd t ht := by
    obtain ⟨t0, h0, _, _, h3, _⟩ := sim.back s t ht
    rw [h3]; exact h.began pre post s hd t0 h0
  reads pre post s k val hd t ht hl := by
    obtain ⟨t0, h0, _, h2, h3, _⟩ := sim.back s t ht
    rw [h3]; exact h.reads pre post s k val hd t0 h0 (h2 ▸ hl)

theorem adjust_nonrc {tm : TM} {tx : Tx} (hl : tx.level ≠ .rc) (k : Key) (c : Option Nat) :
    tm.adjust tx k c = snapshotValue tx.snap k c tm.log := by
  unfold TM.adjust
  split
  · next h => exact absurd h hl
  · rfl

theorem fetchVal_snap {tm : TM} {s : Nat} {tx : Tx} (hx : tm.tx? s = some tx) (hl : tx.level ≠ .rc) (k : Key) :
    fetchVal tm s k = snapshotValue tx.snap k (tm.store.getSync k) tm.log := by
  simp only [fetchVal, hx, adjust_nonrc hl]

theorem Inv2.fetch (h1 : Inv ok init tm evs) (h : Inv2 init tm evs) {slot : Nat} {tx : Tx} (k : Key)
    (hx : tm.tx? slot = some tx) : Inv2 init tm (evs ++ [.fetched slot k (fetchVal tm slot k)]) where
  ncom := by rw [ncommits_append]; exact h.ncom
  log_le := h.log_le
  snapv n hn k' := by
    rw [replayN_append_le _ _ _ _ (h.ncom ▸ hn)]
    exact h.snapv n hn k'
  began pre post s hd t ht := by
    rcases split_snoc hd with ⟨_, h3⟩ | ⟨post', h2⟩
    · cases h3
    · exact h.began pre post' s h2 t ht
  reads pre post s k' val hd t ht hl := by
    rcases split_snoc hd with ⟨h2, h3⟩ | ⟨post', h2⟩
    · cases h3
      subst h2
      cases hx.symm.trans ht
      rw [fetchVal_snap hx hl]
      exact h.snapv _ (h1.snap_le _ _ hx) _
    · exact h.reads pre post' s k' val h2 t ht hl

theorem Inv2.begin (h1 : Inv ok init tm evs) (h : Inv2 init tm evs) {slot : Nat} (lvl : Level)
    (hx : tm.tx? slot = none) : Inv2 init (tm.begin slot lvl) (evs ++ [.began slot]) := by
  obtain ⟨hst, hv, hlog, _⟩ := begin_fields lvl hx
  have old := h1.fresh_ne hx
  refine
    { ncom := by rw [ncommits_append, hv]; exact h.ncom
      log_le := by rw [hv, hlog]; exact h.log_le
      snapv := fun n hn k => ?_
      began := fun pre post s hd t ht => ?_
      reads := fun pre post s k val hd t ht hl => ?_ }
  · rw [hv] at hn
    rw [hst, hlog, replayN_append_le _ _ _ _ (h.ncom ▸ hn)]
    exact h.snapv n hn k
  · rcases split_snoc hd with ⟨h2, h3⟩ | ⟨post', h2⟩
    · cases h3
      subst h2
      rcases begin_back hx _ t ht with ⟨_, rfl⟩ | ⟨hs, _⟩
      · exact h.ncom.symm
      · exact absurd rfl hs
    · rcases begin_back hx s t ht with ⟨hs, _⟩ | ⟨_, h0⟩
      · exact absurd hs (old (.began s) (by simp [h2]))
      · exact h.began pre post' s h2 t h0
  · rcases split_snoc hd with ⟨_, h3⟩ | ⟨post', h2⟩
    · cases h3
    · rcases begin_back hx s t ht with ⟨hs, _⟩ | ⟨_, h0⟩
      · exact absurd hs (old (.fetched s k val) (by simp [h2]))
      · exact h.reads pre post' s k val h2 t h0 hl

theorem snapshotValue_commitEntry {tm : TM} (tx : Tx) {n : Nat} (hn : n ≤ tm.version) (k : Key) (cur : Option Nat) :
    snapshotValue n k cur [commitEntry tm tx] = if k ∈ tx.wset.map (·.1) then tm.store.getSync k else cur := by
  have h1 : ¬ (tm.version + 1 ≤ n) := by omega
  by_cases hk : k ∈ tx.wset.map (·.1)
  · have h2 : (List.map (fun x => x.fst) tx.wset).contains k = true := by simpa using hk
    simp only [snapshotValue, commitEntry, h1, decide_false, h2, Bool.not_true, Bool.or_self,
      Bool.false_eq_true, if_false, lookup_prior tx.wset tm.store.getSync k hk, if_pos hk]
  · have h2 : (List.map (fun x => x.fst) tx.wset).contains k = false := by simpa using hk
    simp only [snapshotValue, commitEntry, h2, Bool.not_false, Bool.or_true, if_true, if_neg hk]

theorem snapshotValue_entry (L : MapLaws ok) (hok : ok tm.store) (tx : Tx) (n : Nat) (hn : n ≤ tm.version) (k : Key) :
    snapshotValue n k ((applyWrites tm.store tx.wset).getSync k) [commitEntry tm tx] = tm.store.getSync k := by
  rw [snapshotValue_commitEntry tx hn]
  split
  · rfl
  · next hk => exact applyWrites_notin L hok hk

/-- As for `Inv.commit`: first the transaction table (a frame step), then store, version and log. -/
theorem Inv2.commit (ok_put : ∀ s k v, ok s → ok (s.putSync k v))
    (get_put : ∀ s k v k', ok s → (s.putSync k v).getSync k' = if k' = k then some v else s.getSync k')
    (h1 : Inv ok init tm evs) (h : Inv2 init tm evs) {slot : Nat} {tx : Tx} {tm' : TM}
    (hx : tm.tx? slot = some tx) (c : CommitOk tm slot tx tm')
    (h1' : Inv ok init tm' (evs ++ [.committed slot tx.wset])) :
    Inv2 init tm' (evs ++ [.committed slot tx.wset]) := by
  have h2 : Inv2 init { tm' with store := tm.store, version := tm.version, log := tm.log } evs :=
    h.frame (sim_of_upd hx c.txs rfl rfl rfl (fun h => by cases h) (fun _ h => h)) rfl rfl rfl
  have hnc : ncommits (evs ++ [Ev.committed slot tx.wset]) = tm.version + 1 := by
    rw [ncommits_append, h.ncom]; rfl
  have hle : ∀ e ∈ tm'.log, e.version ≤ tm.version + 1 := fun e he => by
    rw [c.log] at he
    rcases List.mem_append.1 he with he | he
    · exact Nat.le_succ_of_le (h.log_le e he)
    · cases List.mem_singleton.1 he
      exact Nat.le_refl _
  refine
    { ncom := by rw [hnc, c.version]
      log_le := by rw [c.version]; exact hle
      snapv := fun n hn k => ?_
      began := fun pre post s hd t ht => ?_
      reads := fun pre post s k val hd t ht hl => ?_ }
  · rw [c.version] at hn
    by_cases hn' : n ≤ tm.version
    · rw [c.log, c.store, snapshotValue_append, snapshotValue_entry ⟨ok_put, get_put⟩ h1.store_ok tx n hn' k,
        replayN_append_le _ _ _ _ (h.ncom ▸ hn')]
      exact h.snapv n hn' k
    · obtain rfl : n = tm.version + 1 := by omega
      rw [snapshotValue_all_le _ _ _ _ hle, replayN_ge _ _ _ (Nat.le_of_eq hnc)]
      exact h1'.store_eq k
  · rcases split_snoc hd with ⟨_, h3⟩ | ⟨post', h3⟩
    · cases h3
    · exact h2.began pre post' s h3 t ht
  · rcases split_snoc hd with ⟨_, h3⟩ | ⟨post', h3⟩
    · cases h3
    · exact h2.reads pre post' s k val h3 t ht hl

theorem inv_step (L : MapLaws ok) (h1 : Inv ok init tm evs) (h2 : Inv2 init tm evs) (a : Act) :
    Inv ok init (stepA tm a).1 (evs ++ (stepA tm a).2) ∧ Inv2 init (stepA tm a).1 (evs ++ (stepA tm a).2) := by
  rcases stepA_cases tm a with e | ⟨s, l, hx, e⟩ | ⟨tm', e, sim, g1, g2, g3, g4⟩ | ⟨s, k, tx, hx, hk, e⟩ |
    ⟨s, tx, hx, ha, hc, c, e⟩ <;> rw [e]
  · rw [List.append_nil]; exact ⟨h1, h2⟩
  · exact ⟨h1.begin l hx, h2.begin h1 l hx⟩
  · rw [List.append_nil]; exact ⟨h1.frame sim g1 g2 g3 g4, h2.frame sim g1 g2 g3⟩
  · exact ⟨h1.fetch hx hk, h2.fetch h1 k hx⟩
  · have i1 := h1.commit L.ok_put L.get_put hx ha hc c
    exact ⟨i1, h2.commit L.ok_put L.get_put h1 hx c i1⟩

theorem inv_act (L : MapLaws ok) {es : List Ev} (h1 : Inv ok init tm evs) (h2 : Inv2 init tm evs) {a : Act}
    (e : stepA tm a = (tm', es)) : Inv ok init tm' (evs ++ es) ∧ Inv2 init tm' (evs ++ es) := by
  have := inv_step L h1 h2 a
  rwa [e] at this

theorem inv_run (L : MapLaws ok) (acts : List Act) : ∀ {tm : TM} {evs : List Ev}, Inv ok init tm evs →
    Inv2 init tm evs → Inv ok init (runA tm acts).1 (evs ++ (runA tm acts).2) ∧
      Inv2 init (runA tm acts).1 (evs ++ (runA tm acts).2) := by
  induction acts with
  | nil => intro tm evs h1 h2; simpa [runA] using And.intro h1 h2
  | cons a as ih =>
    intro tm evs h1 h2
    obtain ⟨i1, i2⟩ := inv_step L h1 h2 a
    simpa [runA, List.append_assoc] using ih i1 i2

theorem Inv2.start (s0 : Store) : Inv2 s0.getSync { store := s0 } [] where
  ncom := rfl
  log_le e he := by simp at he
  snapv n hn k := by
    have : n = 0 := by simpa using hn
    subst this; rfl
  began pre post s hd := by simp at hd
  reads pre post s k val hd := by simp at hd

theorem inv_runA (L : MapLaws ok) (s0 : Store) (h0 : ok s0) (acts : List Act) :
    Inv ok s0.getSync (runA { store := s0 } acts).1 (runA { store := s0 } acts).2 ∧
    Inv2 s0.getSync (runA { store := s0 } acts).1 (runA { store := s0 } acts).2 := by
  simpa using inv_run L acts (Inv.start s0 h0) (Inv2.start s0)

end HappyModel.C14.SM
