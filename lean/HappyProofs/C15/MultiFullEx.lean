import HappyProofs.C15.MultiFull
/-! Non-vacuity of `multi_crash_spec_full_proved`: a second phase in which a flush installs (and truncates the
    log) and a compaction runs, after a lossy first crash. -/
namespace HappyModel.C15
open HappyModel.C14

example : (phaseStarts mcCfg (sysOf mcCfg [] mcOps) [mcSched1, mcSched2]).tail.all
      (fun ys => noInstallB mcCfg ys.1 ys.2) = false ∧
    (mcO1.next.run mcCfg mcSched2).st.levels ≠ mcO1.next.st.levels := by
  decide +kernel

example : judgePhases false 3 (List.replicate 3 none) [] 0
    (obsOfPhases mcOps 3 [] (runPhases mcCfg (sysOf mcCfg [] mcOps) [mcSched1, mcSched2])) = none :=
  multi_crash_spec_full_proved mcCfg (.batch 2) 3 mcOps [] [mcSched1, mcSched2] false rfl (by decide +kernel)
    ⟨by decide +kernel, by decide +kernel⟩ (by decide +kernel) (phase_hyps_of_B (by decide +kernel)) (fun h => by cases h)

end HappyModel.C15
