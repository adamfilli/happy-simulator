import HappyProofs.C06.Frame
import HappyProofs.C06.Effects
/-! The invariant along a whole run: for every well-formed schedule of a legitimate fault plan, at
every point of the run (`stateAt`, with `stateAt_succ`: one more processed event is one `step`), the
window state is the projection of the set of active windows (`inv_at`).  Last: once a handle is
cancelled a legitimate schedule contains no further event of its fault (`legit_after_cancel`). -/
namespace HappyModel.C06

def cancStep (canc : List Nat) : Pop → List Nat
  | .cancel _ f => f :: canc
  | _ => canc

/-- every fault event in the schedule belongs to a fault of the plan, and none is processed once the
    handle of its fault is cancelled (`FaultHandle.cancel` marks the pending events cancelled and the
    engine hands a popped event to its handler only if its id is not cancelled: C01 `pop_verdict`) -/
def legitFrom (c : Case) (canc : List Nat) : List Pop → Bool
  | [] => true
  | .fault _ f _ :: rest => (c.faults[f]?).isSome && !canc.contains f && legitFrom c canc rest
  | .cancel _ f :: rest => legitFrom c (f :: canc) rest
  | _ :: rest => legitFrom c canc rest

/-- … starting from the handles cancelled before the run (`Case.initCanc`); and the plan is well
    formed: a partition names nodes of the one network it resolves to (`netWF`) -/
def Legit (c : Case) (tr : List Pop) : Prop :=
  netWF c.faults = true ∧ legitFrom c c.initCanc tr = true

/-- `firedA`, `firedD` and `canc` are there to discharge the guard `faultBad = false` of `step_fault`. -/
structure GInv (c : Case) (s : St) (ever act canc : List Nat) : Prop where
  w : WInv c.faults s.ws act
  nd : act.Nodup
  sub : ∀ f, f ∈ act → f ∈ ever
  firedA : ∀ f, (f, true) ∈ s.fired ↔ f ∈ ever
  firedD : ∀ f, (f, false) ∈ s.fired → f ∉ act ∧ f ∈ ever
  canc : s.cancelled = canc

theorem ginv_init (c : Case) : GInv c (St.init c) [] [] c.initCanc := by
  constructor
  · exact winv_init _
  · exact List.nodup_nil
  · intro f h; exact h
  · intro f; simp [St.init]
  · intro f h; simp [St.init] at h
  · rfl

theorem legitFrom_tail (c : Case) (canc : List Nat) (p : Pop) (rest : List Pop)
    (h : legitFrom c canc (p :: rest) = true) : legitFrom c (cancStep canc p) rest = true := by
  cases p with
  | fault t f a => exact (Bool.and_eq_true _ _ ▸ h).2
  | _ => exact h

theorem steps_of_not_isFault (fs : List Fault) (ever act canc : List Nat) {p : Pop}
    (h : p.isFault = false) :
    everStep ever p = ever ∧ actStep fs act p = act ∧ cancStep canc p = canc := by
  cases p <;> first | exact ⟨rfl, rfl, rfl⟩ | cases h

theorem ginv_step (c : Case) (s : St) (ever act canc : List Nat) (p : Pop) (rest : List Pop)
    (hn : netWF c.faults = true)
    (h : GInv c s ever act canc) (hwf : wfFrom c.faults ever act (p :: rest) = true)
    (hl : legitFrom c canc (p :: rest) = true) :
    GInv c (step c s p).1 (everStep ever p) (actStep c.faults act p) (cancStep canc p) ∧
    wfFrom c.faults (everStep ever p) (actStep c.faults act p) rest = true ∧
    legitFrom c (cancStep canc p) rest = true := by
  refine ⟨?_, wfFrom_tail _ _ _ _ _ hwf, legitFrom_tail _ _ _ _ hl⟩
  have keep := wfFrom_keeps hwf h.nd h.sub
  by_cases hf : p.isFault = false
  · have fr := frame_step c s p hf
    obtain ⟨e1, e2, e4⟩ := steps_of_not_isFault c.faults ever act canc hf
    rw [e1, e2, e4]
    refine ⟨?_, h.nd, h.sub, ?_, ?_, ?_⟩
    · rw [fr.ws]; exact h.w
    · intro f; rw [fr.fired]; exact h.firedA f
    · intro f; rw [fr.fired]; exact h.firedD f
    · rw [fr.cancelled]; exact h.canc
  · cases p with
    | fault t f a =>
      simp only [legitFrom, Bool.and_eq_true, Bool.not_eq_true', List.contains_eq_mem,
        decide_eq_false_iff_not] at hl
      obtain ⟨⟨hsome, hnc⟩, -⟩ := hl
      obtain ⟨ft, hft⟩ := Option.isSome_iff_exists.mp hsome
      have hk : kindOf c.faults f = some ft.kind := by simp [kindOf, hft]
      have hcan : f ∉ s.cancelled := by
        rw [h.canc]; exact hnc
      cases a with
      | true =>
        simp only [wfFrom, Bool.and_eq_true, Bool.not_eq_true', List.contains_eq_mem,
          decide_eq_false_iff_not] at hwf
        obtain ⟨hne, -⟩ := hwf
        have h1 : (f, true) ∉ s.fired := fun hm => hne ((h.firedA f).mp hm)
        have hg : faultBad s f true ft.kind = false := by simp [faultBad, hcan, h1]
        obtain ⟨hws, hfired, hcc⟩ := step_fault c s t f true ft hft hg
        simp only [everStep, actStep, cancStep]
        refine ⟨?_, keep.1, keep.2, ?_, ?_, ?_⟩
        · rw [hws]; exact winv_activate _ _ _ _ _ hk h.w
        · intro g; rw [hfired]
          simp only [List.mem_cons, Prod.mk.injEq, and_true]
          rw [h.firedA g]
        · intro g hg; rw [hfired] at hg
          simp only [List.mem_cons, Prod.mk.injEq, Bool.false_eq_true, and_false, false_or] at hg
          obtain ⟨hna, hev⟩ := h.firedD g hg
          refine ⟨fun hm => ?_, List.mem_cons_of_mem _ hev⟩
          rcases List.mem_cons.mp hm with rfl | hm
          · exact hne hev
          · exact hna hm
        · rw [hcc]; exact h.canc
      | false =>
        simp only [wfFrom, Bool.and_eq_true, Bool.or_eq_true, List.contains_eq_mem,
          decide_eq_true_eq] at hwf
        have hev : f ∈ ever := hwf.1.elim (h.sub f) (·.2)
        have h2 : (f, true) ∈ s.fired := (h.firedA f).mpr hev
        -- the contribution of an active window goes; a stale `Partition.heal()` (the handle holds
        -- nothing any more) leaves everything as it is
        have hws : faultBad s f false ft.kind = false ∧
            WInv c.faults (s.ws.deactivate f ft.kind) (act.erase f) := by
          by_cases hin : f ∈ act
          · have h1 : (f, false) ∉ s.fired := fun hm => (h.firedD f hm).1 hin
            exact ⟨by simp [faultBad, hcan, h1, h2], winv_deactivate _ _ _ _ _ hk h.w h.nd hin⟩
          · have hpk := isPartK_of_isPartF hk (hwf.1.resolve_left hin).1
            obtain ⟨hsame, herase⟩ := winv_deactivate_stale c.faults s.ws act f ft.kind hpk h.w hin
            exact ⟨by simp [faultBad, hcan, h2, hpk], by rw [hsame, herase]; exact h.w⟩
        obtain ⟨e1, hfired, hcc⟩ := step_fault c s t f false ft hft hws.1
        simp only [everStep, actStep, cancStep]
        refine ⟨by rw [e1]; exact hws.2, keep.1, keep.2, ?_, ?_, hcc ▸ h.canc⟩
        · intro g; rw [hfired]
          simp only [List.mem_cons, Prod.mk.injEq, Bool.true_eq_false, and_false, false_or]
          exact h.firedA g
        · intro g hg; rw [hfired] at hg
          rcases List.mem_cons.mp hg with heq | hg
          · cases heq
            exact ⟨List.Nodup.not_mem_erase h.nd, hev⟩
          · exact ⟨fun hm => (h.firedD g hg).1 (List.mem_of_mem_erase hm), (h.firedD g hg).2⟩
    | cancel t f =>
      rw [step_cancel]
      simp only [everStep, actStep, cancStep]
      exact ⟨h.w, h.nd, h.sub, h.firedA, h.firedD, congrArg (f :: ·) h.canc⟩
    | healall t k =>
      rw [step_healall]
      simp only [everStep, actStep, cancStep]
      refine ⟨winv_healall _ _ _ k hn h.w, keep.1, keep.2, h.firedA, ?_, h.canc⟩
      · intro g hg
        exact ⟨fun hm => (h.firedD g hg).1 (List.mem_filter.mp hm).1, (h.firedD g hg).2⟩
    | _ => simp [Pop.isFault] at hf

/-- the state before the `k`-th processed event -/
def stateAt (c : Case) (tr : List Pop) (k : Nat) : St := final c (St.init c) (tr.take k)

theorem final_append (c : Case) : ∀ (l l' : List Pop) (s : St),
    final c s (l ++ l') = final c (final c s l) l'
  | [], _, _ => rfl
  | _ :: l, l', _ => final_append c l l' _

theorem stateAt_succ (c : Case) (tr : List Pop) (k : Nat) (p : Pop) (hp : tr[k]? = some p) :
    stateAt c tr (k + 1) = (step c (stateAt c tr k) p).1 := by
  unfold stateAt
  rw [List.take_add_one, hp, final_append]
  rfl

theorem ginv_run (c : Case) : ∀ (tr : List Pop) (s : St) (ever act canc : List Nat) (k : Nat),
    netWF c.faults = true →
    GInv c s ever act canc → wfFrom c.faults ever act tr = true → legitFrom c canc tr = true →
    GInv c (final c s (tr.take k)) ((tr.take k).foldl everStep ever)
      ((tr.take k).foldl (actStep c.faults) act) ((tr.take k).foldl cancStep canc)
  | _, s, ever, act, canc, 0, _, h, _, _ => by simpa [final] using h
  | [], s, ever, act, canc, k + 1, _, h, _, _ => by simpa [final] using h
  | p :: rest, s, ever, act, canc, k + 1, hn, h, hwf, hl => by
    obtain ⟨h', hwf', hl'⟩ := ginv_step c s ever act canc p rest hn h hwf hl
    simpa [final] using ginv_run c rest _ _ _ _ k hn h' hwf' hl'

theorem inv_at (c : Case) (tr : List Pop) (k : Nat) (hwf : WF c.faults tr) (hl : Legit c tr) :
    WInv c.faults (stateAt c tr k).ws (activeAfter c.faults (tr.take k)) :=
  (ginv_run c tr (St.init c) [] [] c.initCanc k hl.1 (ginv_init c) hwf hl.2).w

theorem mem_cancStep {f : Nat} {canc : List Nat} (hf : f ∈ canc) (p : Pop) : f ∈ cancStep canc p := by
  cases p <;> first | exact hf | exact List.mem_cons_of_mem _ hf

theorem legit_no_fault_of_canc (c : Case) (f : Nat) : ∀ (l : List Pop) (canc : List Nat),
    legitFrom c canc l = true → f ∈ canc → ∀ t a, Pop.fault t f a ∉ l
  | [], _, _, _ => by simp
  | p :: rest, canc, hl, hf => by
    intro t a hm
    rcases List.mem_cons.mp hm with rfl | hm
    · -- the head is an event of `f` itself: `legitFrom` has checked that `f` is not cancelled
      simp [legitFrom, hf] at hl
    · exact legit_no_fault_of_canc c f rest _ (legitFrom_tail c canc p rest hl) (mem_cancStep hf p) t a hm

theorem legit_after_cancel (c : Case) (t f : Nat) : ∀ (l : List Pop) (canc : List Nat) (i : Nat),
    legitFrom c canc l = true → l[i]? = some (.cancel t f) →
    ∀ t' a, Pop.fault t' f a ∉ l.drop (i + 1)
  | [], _, _, _, h => nomatch h
  | p :: rest, canc, 0, hl, h => by
    cases Option.some.inj h
    exact legit_no_fault_of_canc c f rest (f :: canc) hl (List.mem_cons_self ..)
  | p :: rest, canc, i + 1, hl, h =>
    legit_after_cancel c t f rest _ i (legitFrom_tail c canc p rest hl) h

end HappyModel.C06
