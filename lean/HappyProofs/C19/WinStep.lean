import HappyProofs.C19.WinModelLemmas
import HappyProofs.C19.WinSpecLemmas
/-!
One action of the model against the judge, for every window kind.  `R0` relates what every kind shares (watermark, side
output, the six counters) and gives every core clause that does not look at windows.  What is left is the kind's own: a
relation `W` between the window list and the judge's bookkeeping of records, with the four laws of `KindLaws`.
-/
namespace HappyModel.C19.Win

structure R0 (s : St) (j : JSt) : Prop where
  wm : s.wm = j.wm
  fly : s.fly = j.fly
  ep : s.ep = j.ep
  we : s.we = j.we
  le : s.le = j.le
  ld : s.ld = j.ld
  lu : s.lu = j.lu
  ls : s.ls = j.ls
  sum : j.le = j.ld + j.lu + j.ls

theorem R0_init : R0 {} {} := ⟨rfl, rfl, rfl, rfl, rfl, rfl, rfl, rfl, rfl⟩

/-- schedule well-formedness (engine facts): a `LateEvent` is delivered only if one with that record
is in flight, and none is in flight when the run ends -/
def legitLine (s : St) (ln : Line) : Bool :=
  match ln.act with
  | .lateRecv id => (s.fly.find? fun r => r.id == id).isSome
  | .fin => s.fly.isEmpty
  | _ => true

def legit (cfg : Cfg) : St → List Line → Bool
  | _, [] => true
  | s, ln :: rest => legitLine s ln && legit cfg (step cfg s ln).1 rest

theorem statChecks_ok (s : St) (j : JSt) (h : R0 s j) : ∀ c ∈ statChecks j s.stats, c.1 = true := by
  intro c hc
  simp only [statChecks, List.mem_cons, List.not_mem_nil, or_false] at hc
  rcases hc with hc | hc | hc
  · subst hc; simp [countersOk, St.stats, h.ep, h.we, h.le, h.ld, h.lu, h.ls]
  · subst hc; simp [St.stats, h.le, h.ld, h.lu, h.ls]; exact h.sum
  · subst hc; simp [St.stats, h.wm]

theorem procStatus_eq {s : St} {j : JSt} (h : R0 s j) (cfg : Cfg) (r : Rec) :
    procStatus cfg s.wm r = expStatus cfg j r := by
  rw [h.wm]; rfl

/-- a record is accepted when it is on time (status 0) or late under UPDATE (status 3) -/
theorem accepted_iff (cfg : Cfg) (j : JSt) (r : Rec) :
    accepted cfg j r = true ↔ (expStatus cfg j r = 0 ∨ expStatus cfg j r = 3) := by
  unfold accepted expStatus
  cases lateExp cfg j r <;> simp <;> omega

theorem stepProc_ok0 (cfg : Cfg) (t : Nat) (r : Rec) (s : St) (j : JSt) (h : R0 s j) :
    (stepProc cfg t r s).2 = expStatus cfg j r ∧ R0 (stepProc cfg t r s).1 (afterProc cfg t j r) := by
  obtain ⟨st, wq, e⟩ := stepProc_eq cfg t r s
  rw [e, procStatus_eq h]
  refine ⟨rfl, h.wm, ?_, congrArg (· + 1) h.ep, h.we, ?_, ?_, ?_, ?_, ?_⟩
  · show (if _ then s.fly ++ [r] else s.fly) = _
    rw [h.fly]; rfl
  · show (if isLate cfg s.wm r.et = true then s.le + 1 else s.le) = _
    rw [h.le, h.wm]; rfl
  · show (if _ then s.ld + 1 else s.ld) = _
    rw [h.ld]; rfl
  · show (if _ then s.lu + 1 else s.lu) = _
    rw [h.lu]; rfl
  · show (if _ then s.ls + 1 else s.ls) = _
    rw [h.ls]; rfl
  · -- the four outcomes: on time, dropped, side output, update
    have hcases : (lateExp cfg j r = false ∧ expStatus cfg j r = 0) ∨
        (lateExp cfg j r = true ∧ (expStatus cfg j r = 1 ∨ expStatus cfg j r = 2 ∨ expStatus cfg j r = 3)) := by
      unfold expStatus
      cases lateExp cfg j r <;> simp <;> omega
    have hsum := h.sum
    show (if lateExp cfg j r = true then j.le + 1 else j.le) =
      (if expStatus cfg j r = 1 then j.ld + 1 else j.ld) + (if expStatus cfg j r = 3 then j.lu + 1 else j.lu) +
        (if expStatus cfg j r = 2 then j.ls + 1 else j.ls)
    generalize expStatus cfg j r = σ at hcases ⊢
    generalize lateExp cfg j r = l at hcases ⊢
    rcases hcases with ⟨rfl, rfl⟩ | ⟨rfl, rfl | rfl | rfl⟩ <;> simp <;> omega

/-- every action keeps `R0`, and every core clause holds except possibly those about the results of a
firing of tumbling / sliding windows (`fixedChecks`, which need the window relation) -/
theorem step_ok0 (cfg : Cfg) (s : St) (j : JSt) (ln : Line) (h : R0 s j) (hl : legitLine s ln = true) :
    R0 (step cfg s ln).1 (after cfg j ln (step cfg s ln).2) ∧
    ∀ c ∈ coreChecks cfg j ln (step cfg s ln).2, c.1 = true ∨
      (cfg.kind ≠ 2 ∧ c ∈ fixedChecks j (stepWmB cfg ln.t s).2.length (stepWmB cfg ln.t s).2) := by
  obtain ⟨t, act⟩ := ln
  cases act with
  | proc r =>
    obtain ⟨hst, hR⟩ := stepProc_ok0 cfg t r s j h
    refine ⟨hR, fun c hc => Or.inl ?_⟩
    simp only [step, coreChecks, after, List.mem_cons] at hc
    rcases hc with hc | hc
    · subst hc; simp [hst]
    · exact statChecks_ok _ _ hR c hc
  | wmA ext w =>
    obtain ⟨wq, e⟩ := stepWmA_eq t ext w s
    have hR : R0 (stepWmA t ext w s).1 { j with wm := max j.wm w } := by
      rw [e]; exact ⟨by simp [h.wm], h.fly, h.ep, h.we, h.le, h.ld, h.lu, h.ls, h.sum⟩
    refine ⟨hR, fun c hc => Or.inl ?_⟩
    simp only [step, coreChecks, after] at hc
    exact statChecks_ok _ _ hR c hc
  | wmB =>
    have hR : R0 (stepWmB cfg t s).1 (afterFire cfg t j (stepWmB cfg t s).2) :=
      ⟨h.wm, h.fly, h.ep, by simp [stepWmB, afterFire, h.we], h.le, h.ld, h.lu, h.ls, h.sum⟩
    refine ⟨hR, fun c hc => ?_⟩
    simp only [step, coreChecks, after, List.mem_append] at hc
    rcases hc with hc | hc
    · by_cases hk : cfg.kind = 2
      · have hk2 : (cfg.kind == 2) = true := by simp [hk]
        simp only [hk2, if_true, List.mem_cons, List.not_mem_nil, or_false] at hc
        subst hc
        exact Or.inl (by simp)
      · have hk2 : (cfg.kind == 2) = false := by simp [hk]
        simp only [hk2, Bool.false_eq_true, if_false] at hc
        exact Or.inr ⟨hk, hc⟩
    · exact Or.inl (statChecks_ok _ _ hR c hc)
  | lateRecv id =>
    simp only [legitLine] at hl
    rcases stepLate_eq id s with ⟨r, hf, e⟩ | ⟨hf, _⟩
    · have hmem := List.mem_of_find?_eq_some hf
      have hid : (r.id == id) = true := by simpa using List.find?_some hf
      simp only [step, e, after, coreChecks]
      refine ⟨⟨h.wm, by simp [h.fly], h.ep, h.we, h.le, h.ld, h.lu, h.ls, h.sum⟩, fun c hc => Or.inl ?_⟩
      simp only [List.mem_cons, List.not_mem_nil, or_false] at hc
      subst hc
      simp only [Bool.true_and, List.any_eq_true]
      exact ⟨r, h.fly ▸ hmem, by simp [hid]⟩
    · rw [hf] at hl; exact absurd hl (by decide)
  | fin =>
    simp only [legitLine] at hl
    refine ⟨h, fun c hc => Or.inl ?_⟩
    simp only [step, coreChecks, List.mem_cons] at hc
    rcases hc with hc | hc
    · subst hc
      have : s.fly = [] := by simpa using hl
      simp [← h.fly, this]
    · exact statChecks_ok _ _ h c hc

/-- `P` is whatever relation between model state, judge state and remaining schedule one legitimate action re-establishes
while passing the checks -/
theorem judgeWith_run (checks : Cfg → JSt → Line → Out → List (Bool × String)) (cfg : Cfg)
    (P : St → JSt → List Line → Prop)
    (hstep : ∀ s j ln rest, P s j (ln :: rest) → legitLine s ln = true →
      firstFail (checks cfg j ln (step cfg s ln).2) = none ∧
      P (step cfg s ln).1 (after cfg j ln (step cfg s ln).2) rest) :
    ∀ (sched : List Line) (s : St) (j : JSt), P s j sched → legit cfg s sched = true →
      judgeWith checks cfg j (sched.zip (run cfg s sched)) = none := by
  intro sched
  induction sched with
  | nil => intro s j _ _; rfl
  | cons ln rest ih =>
    intro s j h hl
    simp only [legit, Bool.and_eq_true] at hl
    obtain ⟨hok, h'⟩ := hstep s j ln rest h hl.1
    simp only [run, List.zip_cons_cons, judgeWith, hok]
    exact ih _ _ h' hl.2

/-- `W` relates the window list to the judge's bookkeeping of records (`obl` for tumbling / sliding windows, `pend` for
sessions).  The Spec words every clause about results once per kind, hence the guards in `fire`; a session record must
come with an id no pending record has (the judge recognises the members of a session by id). -/
structure KindLaws (cfg : Cfg) (W : List Win → JSt → Prop) : Prop where
  keep : ∀ {wins j j'}, W wins j → j'.obl = j.obl → j'.pend = j.pend → W wins j'
  add : ∀ {wins j} (t : Nat) (r : Rec), W wins j → accepted cfg j r = true →
    (cfg.kind = 2 → r.id ∉ j.pend.map (·.id)) → W (addWindows cfg r wins) (afterProc cfg t j r)
  fire : ∀ {wins j} (t : Nat), W wins j →
    (cfg.kind ≠ 2 → ∀ c ∈ fixedChecks j (fired j.wm wins).length (fired j.wm wins), c.1 = true) ∧
    (cfg.kind = 2 → (∀ c ∈ (sessEms cfg j j.pend (fired j.wm wins)).1, c.1 = true) ∧
      sessClosure cfg j (sessEms cfg j j.pend (fired j.wm wins)).2 = true) ∧
    W (if cfg.kind = 2 then wins.filter (fun w => !closable j.wm w) else wins.map (markEmitted j.wm))
      (afterFire cfg t j (fired j.wm wins))
  active : ∀ {wins j}, W wins j → (wins.filter fun w => !w.emitted).length = activeExp cfg j

theorem awCheck_of (cfg : Cfg) (s : St) (j : JSt)
    (h : (s.wins.filter fun w => !w.emitted).length = activeExp cfg j) : ∀ c ∈ awCheck cfg j s.stats, c.1 = true := by
  intro c hc
  simp only [awCheck, List.mem_cons, List.not_mem_nil, or_false] at hc
  subst hc
  simpa [St.stats] using h

theorem step_safety {cfg : Cfg} {W : List Win → JSt → Prop} (L : KindLaws cfg W) (s : St) (j : JSt) (ln : Line)
    (h0 : R0 s j) (hw : W s.wins j) (hl : legitLine s ln = true)
    (hfresh : ∀ r, ln.act = .proc r → cfg.kind = 2 → r.id ∉ j.pend.map (·.id)) :
    firstFail (coreChecks cfg j ln (step cfg s ln).2 ++ extraChecks cfg j ln (step cfg s ln).2) = none ∧
    R0 (step cfg s ln).1 (after cfg j ln (step cfg s ln).2) ∧
    W (step cfg s ln).1.wins (after cfg j ln (step cfg s ln).2) := by
  obtain ⟨h0', hc0⟩ := step_ok0 cfg s j ln h0 hl
  have hfire := L.fire ln.t hw
  rw [← h0.wm] at hfire
  have hW : W (step cfg s ln).1.wins (after cfg j ln (step cfg s ln).2) := by
    rw [step_wins]
    obtain ⟨t, act⟩ := ln
    cases act with
    | proc r =>
      simp only [after, procStatus_eq h0]
      by_cases ha : accepted cfg j r = true
      · rw [if_pos ((accepted_iff cfg j r).1 ha)]
        exact L.add t r hw ha (hfresh r rfl)
      · rw [if_neg (fun hh => ha ((accepted_iff cfg j r).2 hh))]
        exact L.keep hw (by simp [afterProc, ha]) (by simp [afterProc, ha])
    | wmB => simpa only [step, after, stepWmB_ems] using hfire.2.2
    | _ => exact L.keep hw rfl rfl
  refine ⟨(firstFail_append_iff _ _).2 ⟨firstFail_none _ fun c hc => ?_, firstFail_none _ fun c hc => ?_⟩, h0', hW⟩
  · rcases hc0 c hc with hc | ⟨hk, hc⟩
    · exact hc
    · exact hfire.1 hk c hc
  · have haw := awCheck_of cfg _ _ (L.active hW)
    obtain ⟨t, act⟩ := ln
    cases act with
    | wmB =>
      simp only [step, extraChecks, List.mem_append] at hc
      rcases hc with hc | hc
      · by_cases hk : cfg.kind = 2
        · have hk2 : (cfg.kind == 2) = true := by simp [hk]
          simp only [hk2, if_true, List.mem_append, List.mem_cons, List.not_mem_nil, or_false] at hc
          rcases hc with hc | rfl
          · exact (hfire.2.1 hk).1 c hc
          · exact (hfire.2.1 hk).2
        · have hk2 : (cfg.kind == 2) = false := by simp [hk]
          simp [hk2] at hc
      · exact haw c hc
    | lateRecv id => simp [extraChecks] at hc
    | fin => exact awCheck_of cfg _ _ (L.active hw) c hc
    | _ => exact haw c hc

end HappyModel.C19.Win
