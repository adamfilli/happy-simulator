import HappyProofs.C02.Finish
/-!
# C02 — completion hooks run at most once per attachment

Accounting, per hook value `h`: (hook entries of the log) + (hooks held by processes) ≤ (attachments
whose event has been popped) ≤ (attachments).  An attachment `(id, h) ∈ hookOf` is *dead* once event
`id` is no longer pending; by the engine invariant of C01 an id is popped at most once.
-/
namespace HappyModel.C01

def hookIs (h : Nat) : Obs → Bool
  | .hook _ h' => h' == h
  | _ => false

def hookRuns (obs : List Obs) (h : Nat) : Nat := obs.countP (hookIs h)

def hld : List Proc → Nat → Nat
  | [], _ => 0
  | p :: t, h => p.hooks.count h + hld t h

/-- attachments of `h` whose event is not pending (ids in `H` are pending, ids `≥ n0` are being created) -/
def dead (H : List Nat) (n0 : Nat) (hookOf : List (Nat × Nat)) (h : Nat) : Nat :=
  hookOf.countP (fun q => q.2 == h && !(H.contains q.1) && decide (q.1 < n0))

def att (hookOf : List (Nat × Nat)) (h : Nat) : Nat := hookOf.countP (fun q => q.2 == h)

def lateHeld (late : List (Nat × Nat)) (h : Nat) : Nat := late.countP (fun q => q.2 == h)

theorem lateHeld_split (late : List (Nat × Nat)) (pid h : Nat) :
    lateHeld (late.filter (fun q => q.1 != pid)) h + ((late.filter (fun q => q.1 == pid)).map (·.2)).count h
      = lateHeld late h := by
  unfold lateHeld
  rw [List.count_eq_countP, List.countP_map, List.countP_eq_countP_filter_add late _ (fun q => q.1 != pid)]
  congr 3
  funext q
  simp [bne]

theorem dead_le_att (H : List Nat) (n0 : Nat) (hookOf : List (Nat × Nat)) (h : Nat) :
    dead H n0 hookOf h ≤ att hookOf h := by
  apply List.countP_mono_left
  intro q _ hq
  simp only [Bool.and_eq_true] at hq
  exact hq.1.1

theorem hld_append (a b : List Proc) (h : Nat) : hld (a ++ b) h = hld a h + hld b h := by
  induction a with
  | nil => simp [hld]
  | cons p t ih => simp only [List.cons_append, hld, ih]; omega

theorem hld_set (L : List Proc) (i : Nat) (x p : Proc) (h : Nat) (hp : L[i]? = some p) :
    hld (L.set i x) h + p.hooks.count h = hld L h + x.hooks.count h := by
  induction L generalizing i with
  | nil => simp at hp
  | cons a t ih =>
    cases i with
    | zero =>
      simp only [List.getElem?_cons_zero, Option.some.injEq] at hp
      subst hp
      simp only [List.set_cons_zero, hld]; omega
    | succ j =>
      simp only [List.getElem?_cons_succ] at hp
      have := ih j hp
      simp only [List.set_cons_succ, hld]; omega

/-- hook accounting inside one handler invocation; `σ h` = hooks `h` taken from the popped event's
    attachments (or from a finishing process) and not yet handed to a process or run.  Hooks added to an
    event whose process is in flight (`late`) are attachments of their own (`lateAtt`). -/
structure HK (H : List Nat) (n0 : Nat) (σ : Nat → Nat) (e : Eff) : Prop where
  nid : e.ps.nid = n0 + e.specs.length
  bal : ∀ h, hookRuns e.ps.obs h + hld e.ps.procs h + lateHeld e.ps.late h + σ h
      ≤ dead H n0 e.ps.hookOf h + e.ps.lateAtt.count h

theorem HK_gen {H : List Nat} {n0 : Nat} {σ σ' : Nat → Nat} {e e' : Eff} (k : Nat) (hk : HK H n0 σ e)
    (hn : e'.ps.nid = e.ps.nid + k) (hs : e'.specs.length = e.specs.length + k)
    (hb : ∀ h, hookRuns e'.ps.obs h + hld e'.ps.procs h + lateHeld e'.ps.late h + σ' h
          + (dead H n0 e.ps.hookOf h + e.ps.lateAtt.count h)
        ≤ hookRuns e.ps.obs h + hld e.ps.procs h + lateHeld e.ps.late h + σ h
          + (dead H n0 e'.ps.hookOf h + e'.ps.lateAtt.count h)) :
    HK H n0 σ' e' := by
  refine ⟨by rw [hn, hs, hk.nid]; omega, fun h => ?_⟩
  exact Nat.le_of_add_le_add_right
    (Nat.le_trans (hb h) (Nat.le_trans (Nat.add_le_add_right (hk.bal h) _) (Nat.le_of_eq (Nat.add_comm _ _))))

theorem HK_of {H : List Nat} {n0 : Nat} {σ σ' : Nat → Nat} {e e' : Eff} (k : Nat) (hk : HK H n0 σ e)
    (hn : e'.ps.nid = e.ps.nid + k) (hs : e'.specs.length = e.specs.length + k)
    (hh : e'.ps.hookOf = e.ps.hookOf ∨ ∃ hook, e'.ps.hookOf = (e.ps.nid, hook) :: e.ps.hookOf)
    (hb : ∀ h, hookRuns e'.ps.obs h + hld e'.ps.procs h + σ' h ≤ hookRuns e.ps.obs h + hld e.ps.procs h + σ h)
    (hl : e'.ps.late = e.ps.late := by rfl) (ha : e'.ps.lateAtt = e.ps.lateAtt := by rfl) :
    HK H n0 σ' e' := by
  refine HK_gen k hk hn hs ?_
  intro h
  have h1 := hb h
  have h3 : dead H n0 e.ps.hookOf h ≤ dead H n0 e'.ps.hookOf h := by
    rcases hh with hh | ⟨hook, hh⟩
    · rw [hh]; exact Nat.le_refl _
    · rw [hh]; unfold dead; rw [List.countP_cons]; omega
  rw [hl, ha]
  omega

theorem HK_same {H : List Nat} {n0 : Nat} {σ : Nat → Nat} {e e' : Eff} (hk : HK H n0 σ e)
    (hp : ∀ h, hld e'.ps.procs h = hld e.ps.procs h := by exact fun _ => rfl)
    (hn : e'.ps.nid = e.ps.nid := by rfl) (hs : e'.specs = e.specs := by rfl)
    (hh : e'.ps.hookOf = e.ps.hookOf := by rfl) (ho : e'.ps.obs = e.ps.obs := by rfl)
    (hl : e'.ps.late = e.ps.late := by rfl) (ha : e'.ps.lateAtt = e.ps.lateAtt := by rfl) : HK H n0 σ e' :=
  HK_of 0 hk (by omega) (by rw [hs]; rfl) (Or.inl hh) (fun h => by rw [ho, hp h]; exact Nat.le_refl _) hl ha

theorem HK_push {H : List Nat} {n0 : Nat} {σ : Nat → Nat} {e : Eff} (hk : HK H n0 σ e) (sp : Spec)
    (hook : Nat) (tagged : Bool) : HK H n0 σ (e.push sp hook tagged) := by
  refine HK_of 1 hk rfl (by simp) ?_ (fun h => Nat.le_refl _)
  rw [push_hookOf]
  by_cases h0 : hook = 0
  · left; simp [h0]
  · right; exact ⟨hook, by simp [h0]⟩

theorem HK_setProc {H : List Nat} {n0 : Nat} {σ : Nat → Nat} {e : Eff} (hk : HK H n0 σ e) (i : Nat) (x p : Proc)
    (hp : e.ps.procs[i]? = some p) (hx : x.hooks = p.hooks) : HK H n0 σ (e.setProc i x) := by
  refine HK_same hk (fun h => ?_)
  have := hld_set e.ps.procs i x p h hp
  rw [hx] at this
  simp only [setProc_procs]; omega

theorem HK_resumeParked {H : List Nat} {n0 : Nat} {σ : Nat → Nat} {e : Eff} (hk : HK H n0 σ e) (now f : Nat) :
    HK H n0 σ (resumeParked e now f) := by
  rcases resumeParked_cases e now f with h | ⟨pid, p, _, hp, h⟩ <;> rw [h]
  · exact hk
  · exact HK_setProc (HK_same (HK_push hk (contSpec p pid now) 0 false)) pid _ p hp rfl

theorem HK_aclosed (H : List Nat) (n0 : Nat) (σ : Nat → Nat) : AClosed (HK H n0 σ) where
  resolve := fun e now f v hk hr => HK_resumeParked (HK_same hk) now f
  allUpd := fun e c res rem hk hr => HK_same hk
  cbAdd := fun e g cb hk hr => HK_same hk
  bind := fun e f rs rm hk => HK_same hk
  push := fun e sp hook tagged hd hk => HK_push hk sp hook tagged
  release := fun e i sp hk hm => HK_of 1 hk rfl (by simp) (Or.inl rfl) (fun h => Nat.le_refl _)
  crashed := fun e l hk => HK_same hk
  cancels := fun e l hk => HK_same hk
  hookLate := by
    intro e pid hook hk
    refine HK_gen 0 hk rfl rfl (fun h => ?_)
    simp only [lateHeld, List.countP_append, List.countP_cons, List.countP_nil, List.count_cons]
    omega
  hookEarly := by
    intro e id hook hk
    refine HK_gen 0 hk rfl rfl (fun h => ?_)
    simp only [dead, List.countP_append]
    omega
  level := fun e l hk => HK_same hk
  hops := fun e l hk => HK_same hk

theorem hookRuns_cons (o : Obs) (obs : List Obs) (h : Nat) :
    hookRuns (o :: obs) h = hookRuns obs h + if hookIs h o then 1 else 0 := by
  unfold hookRuns; rw [List.countP_cons]

theorem HK_addObs {H : List Nat} {n0 : Nat} {σ : Nat → Nat} {e : Eff} (hk : HK H n0 σ e) (o : Obs)
    (ho : ∀ t h, o ≠ .hook t h) : HK H n0 σ (addObs e o) := by
  refine HK_of 0 hk rfl rfl (Or.inl rfl) ?_
  intro h
  simp only [addObs_obs, addObs_procs, hookRuns_cons]
  have : hookIs h o = false := by
    cases o with
    | hook t h' => exact absurd rfl (ho t h')
    | _ => rfl
  simp [this]

theorem HK_weaken {H : List Nat} {n0 : Nat} {σ σ' : Nat → Nat} {e : Eff} (hk : HK H n0 σ e)
    (hle : ∀ h, σ' h ≤ σ h) : HK H n0 σ' e :=
  HK_of 0 hk rfl rfl (Or.inl rfl) (fun h => by have := hle h; omega)

theorem HK_runHooks {H : List Nat} {n0 : Nat} {σ : Nat → Nat} (now : Nat) (hooks : List Nat) :
    ∀ (e : Eff), HK H n0 (fun h => σ h + hooks.count h) e → HK H n0 σ (runHooks now e hooks) := by
  unfold runHooks
  induction hooks with
  | nil => intro e hk; exact HK_weaken hk (fun h => by simp)
  | cons a t ih =>
    intro e hk
    simp only [List.foldl_cons]
    apply ih
    apply HK_push
    refine HK_of 0 hk rfl rfl (Or.inl rfl) ?_
    intro h
    simp only [addObs_obs, addObs_procs, hookRuns_cons, hookIs, List.count_cons]
    by_cases hah : a = h
    · subst hah; simp; omega
    · have : (a == h) = false := by simp [hah]
      simp [this]

theorem HK_spawn {H : List Nat} {n0 : Nat} {σ : Nat → Nat} {e : Eff} (pn : Proc)
    (hk : HK H n0 (fun h => σ h + pn.hooks.count h) e) : HK H n0 σ (spawn e pn) := by
  refine HK_of 0 hk rfl rfl (Or.inl rfl) ?_
  intro h
  simp only [spawn_obs, spawn_procs, hld_append, hld]
  omega

theorem HK_clear {H : List Nat} {n0 : Nat} {σ : Nat → Nat} {e : Eff} (hk : HK H n0 σ e) (i : Nat) (x p : Proc)
    (hp : e.ps.procs[i]? = some p) (hx : x.hooks = []) :
    HK H n0 (fun h => σ h + (p.hooks ++ lateOf e.ps i).count h) ((e.setProc i x).clearLate i) := by
  refine HK_gen 0 hk rfl rfl ?_
  intro h
  have := hld_set e.ps.procs i x p h hp
  rw [hx] at this
  have hl := lateHeld_split e.ps.late i h
  simp only [clearLate_procs, clearLate_obs, clearLate_late, clearLate_hookOf, clearLate_lateAtt, setProc_procs,
    setProc_obs, setProc_late, setProc_hookOf, setProc_lateAtt, List.count_nil, List.count_append, lateOf] at this ⊢
  omega

theorem segBody_HK {H : List Nat} {n0 : Nat} (now : Nat) (e : Eff) (pid tag : Nat) (p : Proc) (seg : Seg)
    (rest : List Seg) (hk : HK H n0 (fun _ => 0) e) (hp : e.ps.procs[pid]? = some p) :
    HK H n0 (fun _ => 0) (segBody now e pid tag p seg rest) := by
  have h0 : HK H n0 (fun _ => 0) (segStart now e pid tag p) := by
    unfold segStart
    refine HK_same (e := (if p.started then addObs e (.resume now pid p.send tag) else e).setProc pid
      { p with started := true, send := .none }) ?_
    split
    · exact HK_setProc (HK_addObs hk _ (by intro t h; simp)) pid _ p hp rfl
    · exact HK_setProc hk pid _ p hp rfl
  have h1 := acts_aclosed (HK_aclosed H n0 _) now seg.acts _ h0
  obtain ⟨p', hp', hst⟩ := acts_proc now e pid tag p seg.acts hp
  have hhk : p'.hooks = p.hooks := congrArg (·.hooks) hst
  unfold segBody
  generalize seg.acts.foldl (runAct now) (segStart now e pid tag p) = e1 at h1 hp'
  cases seg.term with
  | yieldD d =>
    simp only [segTerm]
    exact HK_push (HK_setProc h1 pid _ p' hp' (by rw [hhk])) _ _ _
  | yieldF f =>
    simp only [segTerm]
    have h2 := HK_setProc h1 pid { ({ p with started := true, send := .none } : Proc) with segs := rest } p' hp'
      hhk.symm
    split
    · exact HK_resumeParked (HK_same h2) now f
    · exact HK_same h2
  | ret =>
    simp only [segTerm]
    refine HK_runHooks now _ _ (HK_weaken (HK_addObs (HK_clear h1 pid
      { ({ p with started := true, send := .none } : Proc) with segs := [], done := true, hooks := [] } p' hp' rfl)
      (.finish now pid) (fun _ _ h => nomatch h)) (fun h => ?_))
    rw [hhk]; simp

theorem runSegment_HK {H : List Nat} {n0 : Nat} (now : Nat) (e : Eff) (pid tag : Nat)
    (hk : HK H n0 (fun _ => 0) e) : HK H n0 (fun _ => 0) (runSegment now e pid tag) := by
  rcases runSegment_cases now e pid tag with ⟨h, _⟩ | ⟨p, seg, rest, hp, hs, h⟩ <;> rw [h]
  · exact hk
  · exact segBody_HK now e pid tag p seg rest hk hp

/-- the whole handler invocation: the popped event's hooks (`σ`) are run at once (no handler) or
    given to the new process; a continuation has none to hand over -/
theorem procEff_HK {H : List Nat} {n0 : Nat} (ps : PS) (now : Nat) (ev : Ev)
    (hk : HK H n0 (fun h => (hookOfFor ps ev.id).count h) { ps := ps }) :
    HK H n0 (fun _ => 0) (procEff ps now ev) := by
  rcases procEff_cases ps now ev with ⟨_, _, h⟩ | ⟨d, _, _, h⟩ | ⟨_, h⟩ <;> rw [h]
  · exact HK_runHooks now _ _ (HK_addObs (HK_weaken hk (fun h => by simp)) _ (fun _ _ h => nomatch h))
  · exact runSegment_HK _ _ _ _
      (HK_spawn _ (HK_addObs (HK_weaken hk (fun h => by simp [newProc, hookOfFor])) _ (fun _ _ h => nomatch h)))
  · exact runSegment_HK _ _ _ _ (HK_weaken hk (fun h => Nat.zero_le _))

end HappyModel.C01
