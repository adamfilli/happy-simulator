import HappyProofs.C14.LsmReadStep
/-! A scan is a reader of every key of its range at once: `RInv` with what the accumulator holds for the key as `found`. -/
namespace HappyModel.C14

variable {lo hi : Key} {acc : Data} {Al : Key → Cell → Prop} {cfg : Cfg} {s : St}

theorem lookup_inRange (lo hi : Key) (d : Data) (k : Key) :
    (inRange lo hi d).lookup k = if lo ≤ k ∧ k < hi then d.lookup k else none := lookup_filter_range lo hi k d

theorem keys_inRange {d : Data} {x : Key} (h : x ∈ (inRange lo hi d).map (·.1)) : lo ≤ x ∧ x < hi := by
  obtain ⟨e, he, rfl⟩ := List.mem_map.mp h
  have := (List.mem_filter.mp he).2
  simpa using this

theorem keys_mergeOlder {base older : Data} {x : Key} (h : x ∈ (mergeOlder base older).map (·.1)) :
    x ∈ base.map (·.1) ∨ x ∈ older.map (·.1) := by
  rw [← lookup_ne_none_iff] at h
  rw [lookup_mergeOlder] at h
  cases hb : base.lookup x with
  | some c => exact Or.inl (lookup_ne_none_iff.mp (by rw [hb]; simp))
  | none =>
    rw [hb, Option.none_or] at h
    exact Or.inr (lookup_ne_none_iff.mp h)

structure SAcc (lo hi : Key) (acc : Data) : Prop where
  sorted : Sorted acc
  range : ∀ x ∈ acc.map (·.1), lo ≤ x ∧ x < hi

theorem sacc_inRange {d : Data} (h : Sorted d) : SAcc lo hi (inRange lo hi d) :=
  ⟨sorted_filter _ d h, fun _ hx => keys_inRange hx⟩

theorem sacc_merge (h : SAcc lo hi acc) (d : Data) : SAcc lo hi (mergeOlder acc (inRange lo hi d)) :=
  ⟨sorted_mergeOlder _ _ h.sorted, fun x hx => by
    rcases keys_mergeOlder hx with h1 | h1
    · exact h.range x h1
    · exact keys_inRange h1⟩

theorem sacc_fold (lo hi : Key) (L : List Tab) (acc : Data) (h : SAcc lo hi acc) :
    SAcc lo hi (L.foldl (fun a i => mergeOlder a (inRange lo hi i.data)) acc) := by
  induction L generalizing acc with
  | nil => exact h
  | cons t r ih => exact ih _ (sacc_merge h t.data)

theorem lookup_fold (lo hi : Key) (L : List Tab) (acc : Data) (k : Key) (hk : lo ≤ k ∧ k < hi) :
    (L.foldl (fun a i => mergeOlder a (inRange lo hi i.data)) acc).lookup k = (acc.lookup k).or (lookTabs k L) := by
  induction L generalizing acc with
  | nil => simp [lookTabs_nil]
  | cons t r ih =>
    simp only [List.foldl_cons]
    rw [ih, lookup_mergeOlder, lookup_inRange, if_pos hk, lookTabs_cons, Option.or_assoc]

def rowsOf (acc : Data) : List (Key × Nat) := acc.filterMap fun e => e.2.map fun v => (e.1, v)

theorem rowsOf_keys {r : Key × Nat} (h : r ∈ rowsOf acc) : r.1 ∈ acc.map (·.1) := by
  obtain ⟨e, he, hr⟩ := List.mem_filterMap.mp h
  cases hc : e.2 with
  | none => rw [hc] at hr; cases hr
  | some v =>
    rw [hc] at hr
    simp only [Option.map_some, Option.some.injEq] at hr
    rw [← hr]
    exact List.mem_map_of_mem he

theorem rowsOf_lookup (h : Uniq acc) (k : Key) : (rowsOf acc).lookup k = (acc.lookup k).join := by
  induction acc with
  | nil => rfl
  | cons e r ih =>
    obtain ⟨k0, c0⟩ := e
    have ih := ih (List.nodup_cons.mp h).2
    cases hb : k == k0 with
    | false =>
      cases c0 with
      | none => show (rowsOf r).lookup k = _; simp only [List.lookup, hb]; exact ih
      | some v => show List.lookup k ((k0, v) :: rowsOf r) = _; simp only [List.lookup, hb]; exact ih
    | true =>
      cases c0 with
      | none =>
        -- a tombstone gives no row, and (keys are distinct) there is no later row for `k`
        show (rowsOf r).lookup k = _
        simp only [List.lookup, hb]
        cases hl : (rowsOf r).lookup k with
        | none => rfl
        | some v => exact absurd (rowsOf_keys (mem_of_lookup hl)) (eq_of_beq hb ▸ (List.nodup_cons.mp h).1)
      | some v => show List.lookup k ((k0, v) :: rowsOf r) = _; simp only [List.lookup, hb]; rfl

theorem rowsOf_sorted (h : Sorted acc) : sortedStrict (rowsOf acc) = true := by
  apply sortedStrict_of_pairwise
  have : List.Sublist ((rowsOf acc).map (·.1)) (acc.map (·.1)) := by
    unfold rowsOf
    induction acc with
    | nil => exact List.Sublist.refl _
    | cons e r ih =>
      have hr : Sorted r := (List.pairwise_cons.mp h).2
      cases hc : e.2 with
      | none =>
        simp only [List.filterMap_cons, hc, Option.map_none, List.map_cons]
        exact List.Sublist.cons _ (ih hr)
      | some v =>
        simp only [List.filterMap_cons, hc, Option.map_some, List.map_cons]
        exact List.Sublist.cons_cons _ (ih hr)
  exact List.Pairwise.sublist this h

structure RowsOk (lo hi : Key) (d : List (Key × Nat)) (Al : Key → Cell → Prop) : Prop where
  sorted : sortedStrict d = true
  range : ∀ r ∈ d, lo ≤ r.1 ∧ r.1 < hi
  cells : ∀ k, lo ≤ k → k < hi → Al k (d.lookup k)

theorem rowsOk_of (hacc : SAcc lo hi acc)
    (h : ∀ k, lo ≤ k → k < hi → Al k (acc.lookup k).join) : RowsOk lo hi (rowsOf acc) Al :=
  ⟨rowsOf_sorted hacc.sorted, fun r hr => hacc.range _ (rowsOf_keys hr),
   fun k h1 h2 => by rw [rowsOf_lookup hacc.sorted.uniq]; exact h k h1 h2⟩

/-- a `scan` of `[lo, hi)` in progress that can only return, for each key `k` of the range, cells in `Al k` -/
def ScanAl (s : St) (lo hi : Key) (Al : Key → Cell → Prop) : Pc → Prop
  | .sStart lo' hi' => lo' = lo ∧ hi' = hi ∧ ∀ k, lo ≤ k → k < hi → Al k (s.abs k)
  | .sAt lo' hi' i t r acc => lo' = lo ∧ hi' = hi ∧ SAcc lo hi acc ∧
      ∀ k, lo ≤ k → k < hi → RInv s k i (t :: r) (acc.lookup k) (Al k)
  | .done (.rows d) => RowsOk lo hi d Al
  | _ => False

theorem scanAl_sPc {o : Option (Nat × Tab × List Tab)} (hacc : SAcc lo hi acc)
    (h : ∀ k, lo ≤ k → k < hi → match o with
      | some (i, t, r) => RInv s k i (t :: r) (acc.lookup k) (Al k)
      | none => Al k (acc.lookup k).join) : ScanAl s lo hi Al (sPc lo hi acc o) := by
  cases o with
  | some itr => exact ⟨rfl, rfl, hacc, h⟩
  | none => exact rowsOk_of hacc h

theorem scanAl_step {cfg : Cfg} {pc : Pc} (hm : Sorted s.mem) (h : ScanAl s lo hi Al pc) :
    ScanAl s lo hi Al (stepOp cfg s pc).2 := by
  cases pc with
  | sStart lo' hi' =>
    obtain ⟨rfl, rfl, hal⟩ : lo' = lo ∧ hi' = hi ∧ _ := h
    show ScanAl s lo' hi' Al (scanStart s lo' hi').2
    unfold scanStart
    rw [scanLevels_eq]
    refine scanAl_sPc (sacc_fold lo' hi' s.imms.reverse _ (sacc_inRange hm)) fun k h1 h2 => ?_
    refine KeyPre.enter ?_ _ (skip_range lo' hi' k ⟨h1, h2⟩)
    have ha := hal k h1 h2
    rw [lookup_fold lo' hi' _ _ k ⟨h1, h2⟩, lookup_inRange, if_pos ⟨h1, h2⟩]
    cases hx : (s.mem.lookup k).or (lookTabs k s.imms.reverse) with
    | some c => rw [abs_of_read, ← Option.or_assoc, hx] at ha; exact ha
    | none =>
      obtain ⟨e1, e2⟩ := Option.or_eq_none_iff.mp hx
      exact pre_zero e1 e2 ha
  | sAt lo' hi' i t r acc =>
    obtain ⟨rfl, rfl, hacc, hk⟩ : lo' = lo ∧ hi' = hi ∧ _ := h
    show ScanAl s lo' hi' Al (scanResume s lo' hi' i t r acc).2
    rw [scanResume_eq]
    refine scanAl_sPc (sacc_merge hacc t.data) fun k h1 h2 => ?_
    rw [lookup_mergeOlder, lookup_inRange, if_pos ⟨h1, h2⟩]
    exact (hk k h1 h2).next _ (skip_range lo' hi' k ⟨h1, h2⟩)
  | done r => exact h
  | _ => cases h

end HappyModel.C14
