/-!
Counter / register vectors as plain lists (an absent index reads as 0).  They stand for the Python
lists `CountMinSketch._counters[row]` and `HyperLogLog._registers`, which are created with a fixed
length full of zeros; reading an index the list has not grown to yet gives the same 0.
-/
namespace HappyModel.C20

abbrev Vec := List Nat

namespace Vec

def get (v : Vec) (i : Nat) : Nat := v.getD i 0

/-- `v[i] += d`, padding with zeros -/
def addAt : Vec → Nat → Nat → Vec
  | [], 0, d => [d]
  | [], i+1, d => 0 :: addAt [] i d
  | x :: xs, 0, d => (x + d) :: xs
  | x :: xs, i+1, d => x :: addAt xs i d

/-- `v[i] = max(v[i], d)`, padding with zeros -/
def maxAt : Vec → Nat → Nat → Vec
  | [], 0, d => [d]
  | [], i+1, d => 0 :: maxAt [] i d
  | x :: xs, 0, d => (max x d) :: xs
  | x :: xs, i+1, d => x :: maxAt xs i d

/-- pointwise sum, padding the shorter list -/
def vadd : Vec → Vec → Vec
  | [], ys => ys
  | xs, [] => xs
  | x :: xs, y :: ys => (x + y) :: vadd xs ys

/-- pointwise maximum, padding the shorter list -/
def vmax : Vec → Vec → Vec
  | [], ys => ys
  | xs, [] => xs
  | x :: xs, y :: ys => max x y :: vmax xs ys

@[simp] theorem get_nil (i : Nat) : get [] i = 0 := by simp [get]
@[simp] theorem get_cons_zero (x : Nat) (xs : Vec) : get (x :: xs) 0 = x := by simp [get]
@[simp] theorem get_cons_succ (x : Nat) (xs : Vec) (i : Nat) : get (x :: xs) (i+1) = get xs i := by
  simp [get]

theorem get_addAt (v : Vec) (i d j : Nat) :
    get (addAt v i d) j = if j = i then get v j + d else get v j := by
  induction v, i, d using addAt.induct generalizing j <;> cases j <;> simp [addAt, *]

theorem get_maxAt (v : Vec) (i d j : Nat) :
    get (maxAt v i d) j = if j = i then max (get v j) d else get v j := by
  induction v, i, d using maxAt.induct generalizing j <;> cases j <;> simp [maxAt, *]

theorem get_vadd (a b : Vec) (i : Nat) : get (vadd a b) i = get a i + get b i := by
  induction a, b using vadd.induct generalizing i <;> cases i <;> simp [vadd, *]

theorem get_vmax (a b : Vec) (i : Nat) : get (vmax a b) i = max (get a i) (get b i) := by
  induction a, b using vmax.induct generalizing i <;> cases i <;> simp [vmax, *]

end Vec
end HappyModel.C20
