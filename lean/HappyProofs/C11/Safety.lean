import HappyProofs.C11.AllInv
import HappyProofs.C11.ApplyAgree
/-! From the invariant (`AllInv`) to what an observer sees: committed entries shown by frames are entries of committed prefixes
    (`CommObs`); these agree with each other and with every later leader's log.  Then the safety theorems of Raft, for every
    variant with repairs D1–D3, every cluster size and every action list. -/
namespace HappyModel.C11
open Spec

/-- the observed committed entry `x = (index, entry, term of the node showing it)` is entry `index`
    of a prefix committed in a term `≤` that term -/
def CommObs (g : GSt) (x : Nat × OEntry × Nat) : Prop :=
  ∃ K e, CommB g K x.2.2 ∧ 1 ≤ x.1 ∧ K[x.1 - 1]? = some e ∧ oe e = x.2.1

theorem CommObs.mono {g g' : GSt} (h : GLe g g') {x : Nat × OEntry × Nat} (c : CommObs g x) : CommObs g' x := by
  obtain ⟨K, e, h1, h2, h3, h4⟩ := c
  exact ⟨K, e, h1.mono h (Nat.le_refl _), h2, h3, h4⟩

theorem mem_committedOf_views {s : St} {f : Frame} (hf : f.views = viewsOf s) {x : Nat × OEntry × Nat} (hx : x ∈ committedOf f) :
    ∃ j e, j < s.n ∧ 1 ≤ x.1 ∧ ((s.nodes j).log.take (s.nodes j).commit)[x.1 - 1]? = some e ∧ oe e = x.2.1
      ∧ x.2.2 = (s.nodes j).term := by
  unfold committedOf at hx
  obtain ⟨w, hw, hxw⟩ := List.mem_flatMap.mp hx
  rw [hf] at hw
  obtain ⟨j, hj, rfl⟩ := mem_viewsOf hw
  obtain ⟨⟨e', p⟩, hmem, hxe⟩ := List.mem_map.mp hxw
  have hget := List.mem_zipIdx_iff_getElem?.mp hmem
  simp only at hget hxe
  rw [viewOf_log, ← List.map_take, List.getElem?_map] at hget
  obtain ⟨e, he1, he2⟩ := Option.map_eq_some_iff.mp hget
  refine ⟨j, e, hj, ?_, ?_, ?_, ?_⟩
  · rw [← hxe]; simp
  · rw [← hxe]
    have : (viewOf (s.nodes j)).commit = (s.nodes j).commit := rfl
    rw [this] at he1
    simpa using he1
  · rw [← hxe]; exact he2
  · rw [← hxe]; rfl

theorem commObs_of_frame {g : GSt} (inv : AllInv g) {f : Frame} (hf : f.views = viewsOf g.s) {x : Nat × OEntry × Nat}
    (hx : x ∈ committedOf f) : CommObs g x := by
  obtain ⟨j, e, _, h1, h2, h3, h4⟩ := mem_committedOf_views hf hx
  exact ⟨_, e, by rw [h4]; exact inv.hi.n_cn j, h1, h2, h3⟩

theorem commObs_agree {g : GSt} (inv : AllInv g) {x y : Nat × OEntry × Nat} (hx : CommObs g x) (hy : CommObs g y)
    (h : x.1 = y.1) : x.2.1 = y.2.1 := by
  obtain ⟨K1, e1, c1, _, g1, o1⟩ := hx
  obtain ⟨K2, e2, c2, _, g2, o2⟩ := hy
  rw [← h] at g2
  have key : ∀ {Ka Kb : List Entry} {ea eb : Entry}, Ka <+: Kb → Ka[x.1 - 1]? = some ea → Kb[x.1 - 1]? = some eb → ea = eb := by
    intro Ka Kb ea eb hp ha hb
    obtain ⟨t, rfl⟩ := hp
    have hlt : x.1 - 1 < Ka.length := (List.getElem?_eq_some_iff.mp ha).1
    rw [List.getElem?_append_left hlt, ha] at hb
    exact Option.some.inj hb
  rcases c1.comparable inv.hi c2 with hp | hp
  · rw [← o1, ← o2, key hp g1 g2]
  · rw [← o1, ← o2, key hp g2 g1]

theorem commObs_leader {g : GSt} (inv : AllInv g) {x : Nat × OEntry × Nat} (hx : CommObs g x) {i : Nat}
    (hl : (g.s.nodes i).role = .leader) (hlt : x.2.2 < (g.s.nodes i).term) :
    ((g.s.nodes i).log.map oe)[x.1 - 1]? = some x.2.1 := by
  obtain ⟨K, e, c, _, hg, ho⟩ := hx
  obtain ⟨t, ht⟩ := c.in_leader_node inv.li inv.hi hl (Nat.le_of_lt hlt)
  have hlen : x.1 - 1 < K.length := (List.getElem?_eq_some_iff.mp hg).1
  rw [List.getElem?_map, ← ht, List.getElem?_append_left hlen, hg, ← ho]; rfl

theorem seen_run (v : Variant) (as : List Act) : ∀ (g : GSt), ∀ x ∈ (grun v g as).seen,
    x ∈ g.seen ∨ ∃ k, k ≤ as.length ∧ ((run v g.s (as.take k)).nodes x.1).term = x.2.1
      ∧ ((run v g.s (as.take k)).nodes x.1).log = x.2.2 := by
  induction as with
  | nil => intro g x hx; exact Or.inl hx
  | cons a as ih =>
    intro g x hx
    rcases ih (gstep v g a) x hx with h | ⟨k, hk, h1, h2⟩
    · rcases gstep_cases v g a with hg | ⟨i, r, hs, hg⟩ <;> rw [hg] at h
      · exact Or.inl h
      · rcases List.mem_cons.mp h with h | h
        · right
          refine ⟨1, by simp, ?_, ?_⟩ <;> rw [h] <;> simp [run, hs, applyHR_node]
        · exact Or.inl h
    · right
      refine ⟨k + 1, by simp; omega, ?_, ?_⟩
      · rw [List.take_succ_cons]; simp only [run]; rw [← gstep_s]; exact h1
      · rw [List.take_succ_cons]; simp only [run]; rw [← gstep_s]; exact h2

/-- MATCH SOUND.  In every reachable state, if node `i` is leader and `match_index[j] = m ≠ 0`, then
    `m ≤ len(log_i)` and at some earlier moment of the run (after `k` actions) node `j` was in the
    leader's current term with a log that starts with the leader's first `m` entries. -/
theorem match_sound (v : Variant) (hr : Rep v) (n : Nat) (as : List Act) (i j : Nat)
    (hl : ((run v (init n) as).nodes i).role = .leader)
    (hm : ((run v (init n) as).nodes i).matchIndex.getD j 0 ≠ 0) :
    ((run v (init n) as).nodes i).matchIndex.getD j 0 ≤ ((run v (init n) as).nodes i).log.length ∧
    ∃ k, k ≤ as.length ∧ ((run v (init n) (as.take k)).nodes j).term = ((run v (init n) as).nodes i).term ∧
      ((run v (init n) as).nodes i).log.take (((run v (init n) as).nodes i).matchIndex.getD j 0)
        <+: ((run v (init n) (as.take k)).nodes j).log := by
  have inv := allInv_reach v hr n as
  have hs : (grun v (ginit n) as).s = run v (init n) as := grun_s v as (ginit n)
  have := inv.hi.n_ms i (by rw [hs]; exact hl) j
  rw [hs] at this
  rcases this with h | ⟨h1, L, h2, h3⟩
  · exact absurd h hm
  · refine ⟨h1, ?_⟩
    rcases seen_run v as (ginit n) _ h2 with h | ⟨k, hk, e1, e2⟩
    · simp [ginit] at h
    · exact ⟨k, hk, e1, by rw [show (ginit n).s = init n from rfl] at e2; rw [e2]; exact h3⟩

theorem frame_lc {g : GSt} (inv : AllInv g) {f : Frame} (hf : f.views = viewsOf g.s) {seen : List (Nat × OEntry × Nat)}
    (hseen : ∀ c ∈ seen, CommObs g c) : frameLeaderComplete seen f = true := by
  unfold frameLeaderComplete
  simp only [List.all_eq_true]
  intro w hw
  rw [hf] at hw
  obtain ⟨j, _, rfl⟩ := mem_viewsOf hw
  by_cases hl : (g.s.nodes j).role = .leader
  · have hrole : (viewOf (g.s.nodes j)).role = .leader := hl
    simp only [hrole, bne_self_eq_false, Bool.false_or, List.all_eq_true]
    intro c hc
    by_cases hle : (viewOf (g.s.nodes j)).term ≤ c.2.2
    · simp [hle]
    · have := commObs_leader inv (hseen c hc) hl (by have : (viewOf (g.s.nodes j)).term = (g.s.nodes j).term := rfl; omega)
      rw [viewOf_log, this]; simp
  · have hrole : (viewOf (g.s.nodes j)).role ≠ .leader := hl
    simp [hrole]

theorem lc_go (v : Variant) (hr : Rep v) (as : List Act) : ∀ (g : GSt) (seen : List (Nat × OEntry × Nat)), AllInv g →
    (∀ c ∈ seen, CommObs g c) → leaderCompleteGo seen (framesFrom v g.s as) = true := by
  induction as with
  | nil => intro g seen _ _; rfl
  | cons a as ih =>
    intro g seen inv hseen
    have inv' := allInv_step v hr g inv a
    have hf : (frameOf (step v g.s a).1 (step v g.s a).2 a).views = viewsOf (gstep v g a).s := by rw [gstep_s]; rfl
    have hseen' : ∀ c ∈ (committedOf (frameOf (step v g.s a).1 (step v g.s a).2 a) ++ seen).eraseDups, CommObs (gstep v g a) c := by
      intro c hc
      rcases List.mem_append.mp (List.mem_eraseDups.mp hc) with h | h
      · exact commObs_of_frame inv' hf h
      · exact (hseen c h).mono (gle_step v g a)
    simp only [framesFrom, leaderCompleteGo, Bool.and_eq_true]
    refine ⟨frame_lc inv' hf hseen', ?_⟩
    have := ih (gstep v g a) _ inv' hseen'
    rw [gstep_s] at this; exact this

/-- LEADER COMPLETENESS.  Every entry that any node has shown as committed while in term `T` is, at the
    same index, in the log of every node that is leader of a term `> T` then or later. -/
theorem leader_completeness (v : Variant) (hr : Rep v) (n : Nat) (as : List Act) : leaderCompleteOk (frames v n as) = true := by
  have inv := allInv_init n
  have hf : ({ views := viewsOf (init n) } : Frame).views = viewsOf (ginit n).s := rfl
  have hseen' : ∀ c ∈ (committedOf ({ views := viewsOf (init n) } : Frame) ++ []).eraseDups, CommObs (ginit n) c := by
    intro c hc
    rcases List.mem_append.mp (List.mem_eraseDups.mp hc) with h | h
    · exact commObs_of_frame inv hf h
    · cases h
  unfold leaderCompleteOk frames
  simp only [leaderCompleteGo, Bool.and_eq_true]
  exact ⟨frame_lc inv hf hseen', lc_go v hr as (ginit n) _ inv hseen'⟩

theorem obs_final (v : Variant) (hr : Rep v) (as : List Act) (g : GSt) (inv : AllInv g) :
    ∀ f ∈ framesFrom v g.s as, ∀ x ∈ committedOf f, CommObs (grun v g as) x := by
  intro f hf x hx
  obtain ⟨pre, a, post, rfl, rfl⟩ := mem_framesFrom hf
  have inv' := allInv_step v hr _ (allInv_run v hr pre g inv) a
  rw [grun_append]
  exact (commObs_of_frame inv' (by rw [gstep_s]; rfl) hx).mono (gle_run v post _)

theorem commit_agree (v : Variant) (hr : Rep v) (n : Nat) (as : List Act) : commitAgreeOk (frames v n as) = true := by
  have inv := allInv_reach v hr n as
  have key : ∀ x ∈ ((frames v n as).flatMap committedOf).eraseDups, CommObs (grun v (ginit n) as) x := by
    intro x hx
    obtain ⟨f, hf, hxf⟩ := List.mem_flatMap.mp (List.mem_eraseDups.mp hx)
    simp only [frames, List.mem_cons] at hf
    rcases hf with hf | hf
    · have hv : f.views = viewsOf (ginit n).s := by rw [hf]; rfl
      exact (commObs_of_frame (allInv_init n) hv hxf).mono (gle_run v as _)
    · exact obs_final v hr as (ginit n) (allInv_init n) f hf x hxf
  unfold commitAgreeOk
  simp only [List.all_eq_true]
  intro x hx y hy
  by_cases h : x.1 = y.1
  · have := commObs_agree inv (key x hx) (key y hy) h
    simp [this]
  · simp [h]

/-- STATE-MACHINE SAFETY.  No two entries ever shown committed at one index differ, and no two nodes
    ever apply different commands at one index. -/
theorem state_machine_safety (v : Variant) (hr : Rep v) (n : Nat) (as : List Act) :
    commitAgreeOk (frames v n as) = true ∧ applyAgreeOk (frames v n as) = true :=
  ⟨commit_agree v hr n as, state_machine_safety_partial v n as (commit_agree v hr n as)⟩

theorem commits_le {s s' : St} (hn : s'.n = s.n) (h : ∀ j, (s.nodes j).commit ≤ (s'.nodes j).commit) :
    ((commitsOf { views := viewsOf s }).zip (commitsOf { views := viewsOf s' })).all (fun p => decide (p.1 ≤ p.2)) = true := by
  simp only [viewsOf, hn, commitsOf, List.map_map, List.zip_map', List.all_eq_true, List.mem_map]
  rintro p ⟨j, _, rfl⟩
  exact decide_eq_true (h j)

theorem cm_go (v : Variant) (hr : Rep v) (as : List Act) : ∀ (g : GSt) (f0 : Frame), AllInv g → commitsOf f0 = commitsOf { views := viewsOf g.s } →
    commitMonotoneOk (f0 :: framesFrom v g.s as) = true := by
  induction as with
  | nil => intro g f0 _ _; rfl
  | cons a as ih =>
    intro g f0 inv hf0
    have inv' := allInv_step v hr g inv a
    obtain ⟨hsz, hle⟩ := commit_step v hr g inv a
    simp only [framesFrom, commitMonotoneOk, Bool.and_eq_true]
    constructor
    · rw [hf0]; exact commits_le hsz hle
    · have := ih (gstep v g a) (frameOf (step v g.s a).1 (step v g.s a).2 a) inv' (by rw [gstep_s]; rfl)
      rw [gstep_s] at this; exact this

/-- COMMIT MONOTONE.  From one frame to the next no node's commit index decreases: the entry loop of an accepted AppendEntries
    does not truncate at or below it (`loop_facts`), and nothing else can lower it.  That no committed entry is replaced is
    `committed_never_truncated`. -/
theorem commit_monotone (v : Variant) (hr : Rep v) (n : Nat) (as : List Act) : commitMonotoneOk (frames v n as) = true :=
  cm_go v hr as (ginit n) _ (allInv_init n) rfl

/-- A COMMITTED ENTRY IS NEVER TRUNCATED.  In every reachable state and for every next action, the
    committed prefix of each node's log is still a prefix of its log after the action. -/
theorem committed_never_truncated (v : Variant) (hr : Rep v) (n : Nat) (as : List Act) (a : Act) (j : Nat) :
    ((run v (init n) as).nodes j).log.take ((run v (init n) as).nodes j).commit
      <+: ((step v (run v (init n) as) a).1.nodes j).log := by
  have := committed_kept_step v hr (grun v (ginit n) as) (allInv_reach v hr n as) a j
  rw [grun_s] at this; exact this

end HappyModel.C11
