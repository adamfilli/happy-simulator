import HappyModel.C20.MerkleState
import HappyProofs.C20.MerkleBase
namespace HappyModel.C20

theorem mapPut_keys (m : List (Nat × Nat)) (k v : Nat) (p : Nat × Nat) (hp : p ∈ mapPut m k v) :
    p.1 = k ∨ p ∈ m := by
  fun_induction mapPut m k v <;> grind

theorem mapPut_sorted (m : List (Nat × Nat)) (k v : Nat) (hs : SortedKeys m) : SortedKeys (mapPut m k v) := by
  unfold SortedKeys at *
  fun_induction mapPut m k v with
  | case1 => simp
  | case2 k' v' rest k v h1 =>
    refine List.pairwise_cons.mpr ⟨fun p hp => ?_, hs⟩
    rcases List.mem_cons.mp hp with rfl | hp
    · exact h1
    · exact Nat.lt_trans h1 (List.rel_of_pairwise_cons hs hp)
  | case3 => exact List.pairwise_cons.mpr (List.pairwise_cons.mp hs)
  | case4 k' v' rest k v h1 h2 ih =>
    have hh := List.pairwise_cons.mp hs
    refine List.pairwise_cons.mpr ⟨fun p hp => ?_, ih hh.2⟩
    rcases mapPut_keys rest _ _ p hp with h | h
    · show k' < p.1
      omega
    · exact hh.1 p h

theorem mapDel_sorted (m : List (Nat × Nat)) (k : Nat) (hs : SortedKeys m) : SortedKeys (mapDel m k) := by
  unfold SortedKeys mapDel at *
  exact hs.sublist List.filter_sublist

theorem mapDel_absent (m : List (Nat × Nat)) (k : Nat) (h : m.any (fun p => p.1 == k) = false) :
    mapDel m k = m := by
  unfold mapDel
  rw [List.filter_eq_self]
  intro p hp
  have := List.any_eq_false.mp h p hp
  simp only [bne_iff_ne, ne_eq]
  intro e; apply this; simp [e]

structure MT.Inv (t : MT) : Prop where
  sorted : SortedKeys t.data
  fresh : t.root = build t.data

theorem foldPut_sorted (m acc : List (Nat × Nat)) (h : SortedKeys acc) :
    SortedKeys (m.foldl (fun acc p => mapPut acc p.1 p.2) acc) := by
  induction m generalizing acc with
  | nil => exact h
  | cons p rest ih => exact ih _ (mapPut_sorted acc p.1 p.2 h)

theorem MT.ofList_inv (m : List (Nat × Nat)) : (MT.ofList m).Inv :=
  ⟨foldPut_sorted m [] (by simp [SortedKeys]), rfl⟩

theorem MT.step_inv (t : MT) (o : MOp) (h : t.Inv) : (t.step o).Inv := by
  cases o with
  | upd k v => exact ⟨mapPut_sorted _ _ _ h.sorted, rfl⟩
  | del k =>
    simp only [MT.step, MT.remove]
    split
    · exact ⟨mapDel_sorted _ _ h.sorted, rfl⟩
    · exact h

theorem MT.run_inv (t : MT) (ops : List MOp) (h : t.Inv) : (t.run ops).Inv := by
  induction ops generalizing t with
  | nil => exact h
  | cons o os ih => exact ih _ (MT.step_inv t o h)

/-- the dict the calls leave, computed without the stored tree and without the presence test of `remove`
    (`mapDel_absent`: dropping the test changes nothing) -/
def mlogical (d : List (Nat × Nat)) : List MOp → List (Nat × Nat)
  | [] => d
  | .upd k v :: os => mlogical (mapPut d k v) os
  | .del k :: os => mlogical (mapDel d k) os

theorem MT.step_data (t : MT) (o : MOp) : (t.step o).data = mlogical t.data [o] := by
  cases o with
  | upd k v => rfl
  | del k =>
    simp only [MT.step, MT.remove, mlogical]
    split
    · rfl
    · next h => exact (mapDel_absent _ _ (Bool.eq_false_iff.mpr h)).symm

theorem MT.run_data (t : MT) (ops : List MOp) : (t.run ops).data = mlogical t.data ops := by
  induction ops generalizing t with
  | nil => rfl
  | cons o os ih =>
    simp only [MT.run]
    rw [ih, MT.step_data]
    cases o <;> rfl

end HappyModel.C20
