/-!
Model of `happysimulator/components/datastore/eviction_policies.py`: the nine eviction policies as
pure state machines over `on_access / on_insert / on_remove / evict / clear`.

Python containers are mirrored literally:
* `OrderedDict[str, None]` / `list[str]`  ↦ `List Key` (front = oldest / least recent);
  `d[k] = None` on a present key keeps its position, `move_to_end` = erase + append,
  `list.remove(x)` = `List.erase` (first occurrence), `pop(0)` = tail;
* `dict[str, int]` ↦ insertion-ordered association list (`aset` keeps the position of a present key);
* `dict[str, None]` used as a set (RandomEviction; a `set[str]` before a701514) ↦ `List Key` without
  duplicates; its order is never used because the random draw is an input.

Inputs that the code takes from outside are inputs of the model:
* `now` — the reading of `clock_func()` (TTL policy), an arbitrary natural number;
* `pick` — the draw of the policy's RNG, as a priority list over keys: `RandomEviction` takes the
  first tracked key of the list, `SampledLRUEviction` the first `sample_size` tracked keys.  Every
  possible draw is some list; theorems quantify over every list.
-/
namespace HappyModel.C16

abbrev Key := Nat

/-! ### insertion-ordered association lists (Python `dict`) -/

def akeys {α} (l : List (Key × α)) : List Key := l.map (·.1)

/-- `d[k] = v` -/
def aset {α} (l : List (Key × α)) (k : Key) (v : α) : List (Key × α) :=
  if k ∈ akeys l then l.map (fun p => if p.1 = k then (k, v) else p) else l ++ [(k, v)]

/-- `d.pop(k, None)` -/
def adel {α} (l : List (Key × α)) (k : Key) : List (Key × α) := l.filter (fun p => p.1 != k)

def aget? {α} (l : List (Key × α)) (k : Key) : Option α := (l.find? (fun p => p.1 == k)).map (·.2)

/-- first entry with the smallest value (`min(d, key=…)`, and LFU's "first key with min count") -/
def argminFirst : List (Key × Nat) → Option (Key × Nat)
  | [] => none
  | p :: rest =>
    match argminFirst rest with
    | none => some p
    | some q => if q.2 < p.2 then some q else some p

/-- operations on a policy; `now`/`pick` are the external inputs described above -/
inductive POp
  | access (k : Key)
  | insert (k : Key) (now : Nat)
  | remove (k : Key)
  | evict (now : Nat) (pick : List Key)
  | clear
deriving Repr, DecidableEq

/-! ### LRU -/
structure LRU where
  order : List Key := []
deriving Repr, DecidableEq

def LRU.access (s : LRU) (k : Key) : LRU := if k ∈ s.order then ⟨s.order.erase k ++ [k]⟩ else s
def LRU.insert (s : LRU) (k : Key) : LRU := if k ∈ s.order then s else ⟨s.order ++ [k]⟩
def LRU.remove (s : LRU) (k : Key) : LRU := ⟨s.order.erase k⟩
def LRU.evict (s : LRU) : Option Key × LRU :=
  match s.order with
  | [] => (none, s)
  | k :: r => (some k, ⟨r⟩)

/-! ### LFU -/
structure LFU where
  counts : List (Key × Nat) := []
deriving Repr, DecidableEq

def LFU.access (s : LFU) (k : Key) : LFU :=
  match aget? s.counts k with
  | some c => ⟨aset s.counts k (c + 1)⟩
  | none => s
def LFU.insert (s : LFU) (k : Key) : LFU := ⟨aset s.counts k 1⟩
def LFU.remove (s : LFU) (k : Key) : LFU := ⟨adel s.counts k⟩
def LFU.evict (s : LFU) : Option Key × LFU :=
  match argminFirst s.counts with
  | none => (none, s)
  | some p => (some p.1, ⟨adel s.counts p.1⟩)

/-! ### TTL (`now - insert_time >= ttl` over integers is `now ≥ insert_time + ttl`) -/
structure TTL where
  ttl : Nat
  times : List (Key × Nat) := []
deriving Repr, DecidableEq

def TTL.insert (s : TTL) (k : Key) (now : Nat) : TTL := { s with times := aset s.times k now }
def TTL.remove (s : TTL) (k : Key) : TTL := { s with times := adel s.times k }
def TTL.expired (s : TTL) (now : Nat) (p : Key × Nat) : Bool := decide (p.2 + s.ttl ≤ now)
def TTL.victim (s : TTL) (now : Nat) : Option (Key × Nat) :=
  match s.times.find? (s.expired now) with
  | some p => some p
  | none => argminFirst s.times
def TTL.evict (s : TTL) (now : Nat) : Option Key × TTL :=
  match s.victim now with
  | none => (none, s)
  | some p => (some p.1, { s with times := adel s.times p.1 })

/-! ### FIFO -/
structure FIFO where
  order : List Key := []
deriving Repr, DecidableEq

def FIFO.insert (s : FIFO) (k : Key) : FIFO := if k ∈ s.order then s else ⟨s.order ++ [k]⟩
def FIFO.remove (s : FIFO) (k : Key) : FIFO := ⟨s.order.erase k⟩
def FIFO.evict (s : FIFO) : Option Key × FIFO :=
  match s.order with
  | [] => (none, s)
  | k :: r => (some k, ⟨r⟩)

/-! ### Random (the draw is the first tracked key of the priority list `pick`; a list naming no tracked
key falls back to the head) -/
structure Rnd where
  keys : List Key := []
deriving Repr, DecidableEq

def Rnd.insert (s : Rnd) (k : Key) : Rnd := if k ∈ s.keys then s else ⟨s.keys ++ [k]⟩
def Rnd.remove (s : Rnd) (k : Key) : Rnd := ⟨s.keys.erase k⟩
def Rnd.choose (s : Rnd) (pick : List Key) : Option Key :=
  match pick.find? (fun c => s.keys.contains c) with
  | some c => some c
  | none => s.keys.head?
def Rnd.evict (s : Rnd) (pick : List Key) : Option Key × Rnd :=
  match s.choose pick with
  | none => (none, s)
  | some c => (some c, ⟨s.keys.erase c⟩)

/-! ### Segmented LRU -/
structure SLRU where
  prob : List Key := []
  prot : List Key := []
deriving Repr, DecidableEq

def SLRU.access (s : SLRU) (k : Key) : SLRU :=
  if k ∈ s.prob then ⟨s.prob.erase k, s.prot.erase k ++ [k]⟩
  else if k ∈ s.prot then ⟨s.prob, s.prot.erase k ++ [k]⟩
  else s
def SLRU.insert (s : SLRU) (k : Key) : SLRU := if k ∈ s.prob then s else ⟨s.prob ++ [k], s.prot⟩
def SLRU.remove (s : SLRU) (k : Key) : SLRU := ⟨s.prob.erase k, s.prot.erase k⟩
def SLRU.evict (s : SLRU) : Option Key × SLRU :=
  match s.prob with
  | k :: r => (some k, ⟨r, s.prot⟩)
  | [] =>
    match s.prot with
    | k :: r => (some k, ⟨[], r⟩)
    | [] => (none, s)

/-! ### Sampled LRU (logical clock, sample is an input) -/
structure Sampled where
  size : Nat := 5
  times : List (Key × Nat) := []
  clock : Nat := 0
deriving Repr, DecidableEq

def Sampled.access (s : Sampled) (k : Key) : Sampled :=
  if k ∈ akeys s.times then { s with times := aset s.times k (s.clock + 1), clock := s.clock + 1 } else s
def Sampled.insert (s : Sampled) (k : Key) : Sampled :=
  { s with times := aset s.times k (s.clock + 1), clock := s.clock + 1 }
def Sampled.remove (s : Sampled) (k : Key) : Sampled := { s with times := adel s.times k }
/-- the drawn sample: the first `size` tracked keys of the priority list `pick`
    (a list naming no tracked key falls back to all entries) -/
def Sampled.drawn (s : Sampled) (pick : List Key) : List Key :=
  (pick.filter (fun c => (akeys s.times).contains c)).take s.size
def Sampled.sample (s : Sampled) (pick : List Key) : List (Key × Nat) :=
  let c := s.times.filter (fun p => (s.drawn pick).contains p.1)
  if c.isEmpty then s.times else c
def Sampled.evict (s : Sampled) (pick : List Key) : Option Key × Sampled :=
  match argminFirst (s.sample pick) with
  | none => (none, s)
  | some p => (some p.1, { s with times := adel s.times p.1 })

/-! ### Clock (second chance): `_keys` and `_ref_bits` kept together as one ring -/
structure Clock where
  ring : List (Key × Bool) := []
  hand : Nat := 0
deriving Repr, DecidableEq

def Clock.fixHand (ring : List (Key × Bool)) (hand : Nat) : Nat :=
  if ring.length ≤ hand ∧ ring ≠ [] then 0 else hand

def Clock.access (s : Clock) (k : Key) : Clock :=
  { s with ring := s.ring.map (fun p => if p.1 = k then (k, true) else p) }
def Clock.insert (s : Clock) (k : Key) : Clock :=
  if k ∈ akeys s.ring then s else { s with ring := s.ring ++ [(k, true)] }
def Clock.remove (s : Clock) (k : Key) : Clock :=
  if k ∈ akeys s.ring then
    let r := adel s.ring k
    ⟨r, Clock.fixHand r s.hand⟩
  else s

/-- evict the entry under the hand -/
def Clock.take (ring : List (Key × Bool)) (hand : Nat) : Option Key × Clock :=
  match ring[hand]? with
  | none => (none, ⟨ring, hand⟩)
  | some p =>
    let r := ring.eraseIdx hand
    (some p.1, ⟨r, Clock.fixHand r hand⟩)

/-- the `while scanned < 2·len` loop, `fuel` = iterations left -/
def Clock.scan : Nat → List (Key × Bool) → Nat → Option Key × Clock
  | 0, ring, hand => Clock.take ring hand
  | fuel + 1, ring, hand =>
    match ring[hand]? with
    | none => (none, ⟨ring, hand⟩)
    | some p =>
      if p.2 then Clock.scan fuel (ring.set hand (p.1, false)) ((hand + 1) % ring.length)
      else Clock.take ring hand

def Clock.evict (s : Clock) : Option Key × Clock :=
  if s.ring.isEmpty then (none, s) else Clock.scan (2 * s.ring.length) s.ring s.hand

/-! ### 2Q -/
structure TwoQ where
  a1in : List Key := []
  a1out : List Key := []
  am : List Key := []
deriving Repr, DecidableEq

def TwoQ.a1outMax : Nat := 50

def TwoQ.access (s : TwoQ) (k : Key) : TwoQ :=
  if k ∈ s.am then { s with am := s.am.erase k ++ [k] } else s
def TwoQ.insert (s : TwoQ) (k : Key) : TwoQ :=
  if k ∈ s.a1out then
    { s with a1out := s.a1out.erase k, am := if k ∈ s.am then s.am else s.am ++ [k] }
  else { s with a1in := s.a1in ++ [k] }
def TwoQ.remove (s : TwoQ) (k : Key) : TwoQ := ⟨s.a1in.erase k, s.a1out.erase k, s.am.erase k⟩
def TwoQ.trim (l : List Key) : List Key := l.drop (l.length - TwoQ.a1outMax)
def TwoQ.evict (s : TwoQ) : Option Key × TwoQ :=
  match s.a1in with
  | k :: r => (some k, { s with a1in := r, a1out := TwoQ.trim (s.a1out ++ [k]) })
  | [] =>
    match s.am with
    | k :: r => (some k, { s with am := r })
    | [] => (none, s)

/-! ### all nine behind one type -/
inductive Pol
  | lru (s : LRU) | lfu (s : LFU) | ttl (s : TTL) | fifo (s : FIFO) | rnd (s : Rnd)
  | slru (s : SLRU) | sampled (s : Sampled) | clock (s : Clock) | twoq (s : TwoQ)
deriving Repr, DecidableEq

def Pol.access : Pol → Key → Pol
  | .lru s, k => .lru (s.access k)
  | .lfu s, k => .lfu (s.access k)
  | .ttl s, _ => .ttl s
  | .fifo s, _ => .fifo s
  | .rnd s, _ => .rnd s
  | .slru s, k => .slru (s.access k)
  | .sampled s, k => .sampled (s.access k)
  | .clock s, k => .clock (s.access k)
  | .twoq s, k => .twoq (s.access k)

def Pol.insert : Pol → Key → Nat → Pol
  | .lru s, k, _ => .lru (s.insert k)
  | .lfu s, k, _ => .lfu (s.insert k)
  | .ttl s, k, now => .ttl (s.insert k now)
  | .fifo s, k, _ => .fifo (s.insert k)
  | .rnd s, k, _ => .rnd (s.insert k)
  | .slru s, k, _ => .slru (s.insert k)
  | .sampled s, k, _ => .sampled (s.insert k)
  | .clock s, k, _ => .clock (s.insert k)
  | .twoq s, k, _ => .twoq (s.insert k)

def Pol.remove : Pol → Key → Pol
  | .lru s, k => .lru (s.remove k)
  | .lfu s, k => .lfu (s.remove k)
  | .ttl s, k => .ttl (s.remove k)
  | .fifo s, k => .fifo (s.remove k)
  | .rnd s, k => .rnd (s.remove k)
  | .slru s, k => .slru (s.remove k)
  | .sampled s, k => .sampled (s.remove k)
  | .clock s, k => .clock (s.remove k)
  | .twoq s, k => .twoq (s.remove k)

def Pol.evict : Pol → Nat → List Key → Option Key × Pol
  | .lru s, _, _ => (s.evict.1, .lru s.evict.2)
  | .lfu s, _, _ => (s.evict.1, .lfu s.evict.2)
  | .ttl s, now, _ => ((s.evict now).1, .ttl (s.evict now).2)
  | .fifo s, _, _ => (s.evict.1, .fifo s.evict.2)
  | .rnd s, _, pick => ((s.evict pick).1, .rnd (s.evict pick).2)
  | .slru s, _, _ => (s.evict.1, .slru s.evict.2)
  | .sampled s, _, pick => ((s.evict pick).1, .sampled (s.evict pick).2)
  | .clock s, _, _ => (s.evict.1, .clock s.evict.2)
  | .twoq s, _, _ => (s.evict.1, .twoq s.evict.2)

def Pol.clear : Pol → Pol
  | .lru _ => .lru {}
  | .lfu _ => .lfu {}
  | .ttl s => .ttl { ttl := s.ttl }
  | .fifo _ => .fifo {}
  | .rnd _ => .rnd {}
  | .slru _ => .slru {}
  | .sampled s => .sampled { size := s.size }
  | .clock _ => .clock {}
  | .twoq _ => .twoq {}

/-- the keys the policy could still hand out through `evict` -/
def Pol.tracked : Pol → List Key
  | .lru s => s.order
  | .lfu s => akeys s.counts
  | .ttl s => akeys s.times
  | .fifo s => s.order
  | .rnd s => s.keys
  | .slru s => s.prob ++ s.prot
  | .sampled s => akeys s.times
  | .clock s => akeys s.ring
  | .twoq s => s.a1in ++ s.am

/-- one operation; the second component is what `evict` returned (none for the other calls) -/
def Pol.step (p : Pol) : POp → Option Key × Pol
  | .access k => (none, p.access k)
  | .insert k now => (none, p.insert k now)
  | .remove k => (none, p.remove k)
  | .evict now pick => p.evict now pick
  | .clear => (none, p.clear)

def Pol.run (p : Pol) : List POp → Pol
  | [] => p
  | o :: os => Pol.run (p.step o).2 os

/-- by name, as the harness spells them; `arg` = ttl (TTL) / sample size (sampled LRU) -/
def Pol.ofName (name : String) (arg : Nat) : Option Pol :=
  match name with
  | "lru" => some (.lru {})
  | "lfu" => some (.lfu {})
  | "ttl" => some (.ttl { ttl := arg })
  | "fifo" => some (.fifo {})
  | "random" => some (.rnd {})
  | "slru" => some (.slru {})
  | "sampled" => some (.sampled { size := arg })
  | "clock" => some (.clock {})
  | "twoq" => some (.twoq {})
  | _ => none

end HappyModel.C16
