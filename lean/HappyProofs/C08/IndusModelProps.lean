import HappyModel.C08.IndusModel
import HappyProofs.Lib.Lists
/-!
# C08 part 3 — theorems about the executable models of the industrial components
(all schedules; `run cfg (init cfg) acts` is the state after an arbitrary list of deliveries)

`repaired := true` is /repo as it is (pooled hand-over b51522c, batch of size one 10bca68, gate close inside a
window 3c61ec2); `repaired := false` — "current" in theorem names and docstrings — is the tree at 7d08bcf,
before those commits.  In the examples `init` is given `{}` or another configuration than `run`: it reads
only `initOpen`.
-/
namespace HappyModel.C08.Indus

theorem run_inv {cfg : Cfg} (P : MSt → Prop) (hstep : ∀ s t a, P s → P (step cfg s t a).1) :
    ∀ (acts : List (Nat × Act)) (s : MSt), P s → P (run cfg s acts) := by
  intro acts
  induction acts with
  | nil => intro s h; simpa [run] using h
  | cons x rest ih =>
    intro s h
    obtain ⟨t, a⟩ := x
    simp only [run]
    exact ih _ (hstep s t a h)

-- a frame lemma shaped for `rw`: afterwards `exact h` closes every invariant that does not read `out`
theorem sinkStep_fst (s : MSt) (id : Nat) : (sinkStep s id).1 = { s with out := (sinkStep s id).1.out } := by
  unfold sinkStep
  split <;> rfl

theorem eraseP_len {l : List WItem} {id : Nat} (h : l.any (·.id == id) = true) :
    (l.eraseP (·.id == id)).length + 1 = l.length := by
  obtain ⟨a, ha, hp⟩ := List.any_eq_true.mp h
  have := List.length_eraseP_of_mem (p := fun x : WItem => x.id == id) ha hp
  have hpos : 0 < l.length := List.length_pos_of_mem ha
  omega

theorem erase_len {l : List Nat} {id : Nat} (h : l.contains id = true) :
    (l.erase id).length + 1 = l.length :=
  length_erase_succ (by simpa using h)

/- The step lemmas below name the tests a delivery makes, decide each of them, and let `simp only` pick the
branch of the step function; what is left is arithmetic on lengths (rather than `split` on the
unfolded step function, every branch of which carries a whole `MSt` record). -/

/-- units in use plus (repaired) units kept for handed-over items never exceed the pool -/
def PInv (cfg : Cfg) (s : MSt) : Prop :=
  s.active.length + (if cfg.repaired then s.transit.length else 0) ≤ cfg.limit

def PCons (s : MSt) : Prop :=
  s.accepted = s.queue.length + s.transit.length + s.active.length + s.completed

theorem stepPooled_inv (cfg : Cfg) (s : MSt) (t : Nat) (a : Act) (h : PInv cfg s) :
    PInv cfg (stepPooled cfg s t a).1 ∧ (cfg.repaired = true → PCons s → PCons (stepPooled cfg s t a).1) := by
  unfold PInv PCons at *
  cases a with
  | offer id p =>
    by_cases hany : s.transit.any (·.id == id) = true
    · have hl := eraseP_len hany
      cases hr : cfg.repaired
      · by_cases hlt : s.active.length < cfg.limit <;> cases hf : full cfg.qcap s.queue.length <;>
          simp only [stepPooled, hany, hr, hlt, hf, if_true, if_false, Bool.false_eq_true, List.length_append,
            List.length_singleton, false_imp_iff, and_true] at h ⊢ <;> omega
      · simp only [stepPooled, hany, hr, if_true, List.length_append, List.length_singleton, true_imp_iff] at h ⊢
        omega
    · by_cases hlt : s.active.length + (if cfg.repaired = true then s.transit.length else 0) < cfg.limit <;>
        cases hf : full cfg.qcap s.queue.length <;>
        simp only [stepPooled, hany, hlt, hf, if_true, if_false, Bool.false_eq_true, List.length_append,
          List.length_singleton] <;> omega
  | fin id =>
    cases hc : s.active.contains id
    · simpa only [stepPooled, hc, Bool.not_false, if_true, imp_self, implies_true, and_true] using h
    · have hl := erase_len hc
      cases hr : cfg.repaired <;> cases hq : s.queue <;>
        simp only [stepPooled, hc, hq, hr, Bool.not_true, Bool.false_eq_true, if_false, if_true, Bool.false_and,
          Bool.true_and, decide_eq_true_eq, false_imp_iff, true_imp_iff, and_true] at h ⊢
      · omega
      · omega
      · omega
      · split <;> simp only [List.length_append, List.length_cons, List.length_nil] <;> omega
  | done id =>
    rw [stepPooled, sinkStep_fst]
    exact ⟨h, fun _ h => h⟩
  | _ => exact ⟨h, fun _ h => h⟩

/-- **Concurrency limit, PooledCycleResource model (both variants).** Along every schedule the number of
units in a cycle never exceeds `pool_size`. -/
theorem pooled_in_service_le_pool (cfg : Cfg) (hc : cfg.comp = .pooled) (acts : List (Nat × Act)) :
    (run cfg (init cfg) acts).active.length ≤ cfg.limit := by
  have : PInv cfg (run cfg (init cfg) acts) := by
    apply run_inv (PInv cfg)
    · intro s t a h; simp only [step, hc]; exact (stepPooled_inv cfg s t a h).1
    · simp [PInv, init]
  unfold PInv at this; omega

example : (run { comp := .pooled, limit := 1 } (init {}) [(0, .offer 0 none), (0, .offer 1 none), (4, .fin 0)]).active.length = 0 ∧
    (run { comp := .pooled, limit := 1 } (init {}) [(0, .offer 0 none), (0, .offer 1 none), (4, .fin 0)]).transit.length = 1 := by decide

/-- **No accepted item is lost, PooledCycleResource model, repaired variant.** Along every schedule
every accepted item is queued, handed over, in a cycle or completed. -/
theorem pooled_repaired_conservation (cfg : Cfg) (hc : cfg.comp = .pooled) (hr : cfg.repaired = true)
    (acts : List (Nat × Act)) : PCons (run cfg (init cfg) acts) := by
  refine (run_inv (fun s => PInv cfg s ∧ PCons s) (fun s t a h => ?_) acts _ (by simp [PInv, PCons, init])).2
  simp only [step, hc]
  exact ⟨(stepPooled_inv cfg s t a h.1).1, (stepPooled_inv cfg s t a h.1).2 hr h.2⟩

/-- **Repaired: a handed-over item always starts** (whatever was delivered in between). -/
theorem pooled_repaired_handover_starts (cfg : Cfg) (hr : cfg.repaired = true) (s : MSt) (t id : Nat)
    (p : Option Nat) (h : s.transit.any (·.id == id) = true) :
    (stepPooled cfg s t (.offer id p)).2 = .start := by
  simp [stepPooled, hr, h]

def witnessOvertake : List (Nat × Act) :=
  [(0, .offer 0 none), (1, .offer 1 none), (4, .fin 0), (4, .offer 2 none), (4, .offer 3 none), (4, .offer 1 none)]

/-- **Before the repair: the dequeued item is overtaken and rejected after acceptance** (pool 1, queue
capacity 1; the schedule of `fixes/C08-indus-pooled-dequeued-item-overtaken.md`). -/
theorem pooled_current_overtakes :
    let cfg : Cfg := { comp := .pooled, limit := 1, qcap := some 1, repaired := false }
    (run cfg (init cfg) witnessOvertake).lost = 1 ∧
    (run cfg (init cfg) witnessOvertake).accepted = 4 ∧ (run cfg (init cfg) witnessOvertake).completed = 1 ∧
    (run cfg (init cfg) witnessOvertake).active = [2] ∧ (run cfg (init cfg) witnessOvertake).queue.map (·.id) = [3] := by
  decide

/-- the repaired model serves the dequeued item on the same schedule -/
example :
    let cfg : Cfg := { comp := .pooled, limit := 1, qcap := some 1, repaired := true }
    (run cfg (init cfg) witnessOvertake).lost = 0 ∧ (run cfg (init cfg) witnessOvertake).active = [1] := by
  decide

-- `out` is the same in every branch of a delivery: push the projection through the tests and let them collapse
theorem stepPooled_out (cfg : Cfg) (hs : cfg.sink = false) (s : MSt) (t : Nat) (a : Act) (h : s.out = []) :
    (stepPooled cfg s t a).1.out = [] := by
  cases a with
  | offer id p => simp only [stepPooled, apply_ite Prod.fst, apply_ite MSt.out, h, ite_self]
  | fin id =>
    cases hq : s.queue <;>
      simp only [stepPooled, hs, hq, apply_ite Prod.fst, apply_ite MSt.out, h, ite_self, Bool.false_eq_true, if_false]
  | done id =>
    simp only [stepPooled, sinkStep, apply_ite Prod.fst, apply_ite MSt.out, h, List.erase_nil, ite_self]
  | _ => exact h

/-- **`downstream = None` (PooledCycleResource): a completed item is counted and leaves.** -/
theorem pooled_no_downstream_forwards_nothing (cfg : Cfg) (hc : cfg.comp = .pooled) (hs : cfg.sink = false)
    (acts : List (Nat × Act)) : (run cfg (init cfg) acts).out = [] := by
  apply run_inv (fun s => s.out = [])
  · intro s t a h; simp only [step, hc]; exact stepPooled_out cfg hs s t a h
  · simp [init]

example : (run { comp := .pooled, limit := 1, sink := false } (init {}) [(0, .offer 0 none), (4, .fin 0)]).completed = 1 := by decide


theorem stepConveyor_inv (cfg : Cfg) (hu : cfg.unlimited = false) (s : MSt) (a : Act)
    (h : s.active.length ≤ cfg.limit) : (stepConveyor cfg s a).1.active.length ≤ cfg.limit := by
  cases a with
  | offer id p =>
    by_cases hge : cfg.limit ≤ s.active.length <;>
      simp only [stepConveyor, hu, hge, Bool.not_false, Bool.true_and, decide_true, decide_false, if_true, if_false,
        Bool.false_eq_true, List.length_append, List.length_singleton] <;> omega
  | fin id =>
    cases hc : s.active.contains id
    · simpa only [stepConveyor, hc, Bool.not_false, if_true] using h
    · have hl := erase_len hc
      simp only [stepConveyor, hc, Bool.not_true, Bool.false_eq_true, if_false]
      omega
  | done id =>
    rw [stepConveyor, sinkStep_fst]
    exact h
  | _ => exact h

/-- **Concurrency limit, ConveyorBelt model.** With a capacity, the items in transit never exceed it. -/
theorem conveyor_in_transit_le_capacity (cfg : Cfg) (hc : cfg.comp = .conveyor) (hu : cfg.unlimited = false)
    (acts : List (Nat × Act)) : (run cfg (init cfg) acts).active.length ≤ cfg.limit := by
  apply run_inv (fun s => s.active.length ≤ cfg.limit)
  · intro s t a h; simp only [step, hc]; exact stepConveyor_inv cfg hu s a h
  · simp [init]

example : (run { comp := .conveyor, limit := 1 } (init {}) [(0, .offer 0 none), (0, .offer 1 none)]).active = [0] ∧
    (run { comp := .conveyor, limit := 1 } (init {}) [(0, .offer 0 none), (0, .offer 1 none)]).rejected = 1 := by decide


def GInv (s : MSt) : Prop :=
  (s.isOpen = true → s.queue = []) ∧ s.accepted = s.passed + s.queue.length

-- the invariant reads four fields: their projections are pushed through the handler's tests, what is left is
-- propositional with a little arithmetic
theorem stepGate_inv (cfg : Cfg) (s : MSt) (t : Nat) (a : Act) (h : GInv s) : GInv (stepGate cfg s t a).1 := by
  unfold GInv at *
  cases a with
  | done id =>
    rw [stepGate, sinkStep_fst]
    exact h
  | offer id p | openG | copen | closeG | cclose =>
    simp only [stepGate, apply_ite Prod.fst, apply_ite MSt.isOpen, apply_ite MSt.queue, apply_ite MSt.accepted,
      apply_ite MSt.passed]
    grind
  | _ => exact h

/-- **No strand / conservation, GateController model.** Along every schedule an open gate has an empty
queue, and every accepted item has passed or is waiting behind the closed gate. -/
theorem gate_open_holds_nothing (cfg : Cfg) (hc : cfg.comp = .gate) (acts : List (Nat × Act)) :
    GInv (run cfg (init cfg) acts) := by
  apply run_inv GInv
  · intro s t a h; simp only [step, hc]; exact stepGate_inv cfg s t a h
  · simp [GInv, init]

example : (run { comp := .gate, initOpen := false } (init { initOpen := false })
    [(0, .offer 0 none), (0, .offer 1 none), (4, .openG)]).out = [0, 1] := by decide

/-! The gate against its schedule: a list of `(open_at, close_at)` windows; the gate must be open at every
instant that lies in some window (their union), whatever the order in which the windows are listed and however
they overlap.  Repaired, a schedule close that falls inside another window is ignored; before the repair it
closes unconditionally, so the creation order of the schedule events decides (witness below). -/

/-- the gate events of one instant, handled in the given order -/
def gateRun (cfg : Cfg) (t : Nat) : MSt → List Act → MSt
  | s, [] => s
  | s, a :: rest => gateRun cfg t (stepGate cfg s t a).1 rest

/-- **Repaired: a schedule close inside another window is ignored.** -/
theorem gate_repaired_close_inside_window_ignored (cfg : Cfg) (hr : cfg.repaired = true) (s : MSt) (t : Nat)
    (hc : covered cfg.windows t = true) : (stepGate cfg s t .closeG).1 = s := by
  simp [stepGate, hr, hc]

theorem stepGate_open_stays (cfg : Cfg) (hr : cfg.repaired = true) (t : Nat) (hc : covered cfg.windows t = true)
    (s : MSt) (a : Act) (ha : a = .openG ∨ a = .closeG) (ho : s.isOpen = true) :
    (stepGate cfg s t a).1.isOpen = true := by
  rcases ha with rfl | rfl
  · simp [stepGate, ho]
  · simp [stepGate, hr, hc, ho]

theorem stepGate_open_opens (cfg : Cfg) (s : MSt) (t : Nat) : (stepGate cfg s t .openG).1.isOpen = true := by
  simp only [stepGate]
  split <;> simp_all

/-- **Repaired: open at every covered instant, whatever the order of the schedule events.**  At an instant that
lies in some window of the schedule, after the open / close events of that instant have been handled *in any
order*, the gate is open provided it was open before or one of the events is an open (the window covering
the instant either started earlier or starts now). -/
theorem gate_repaired_open_at_covered_instant (cfg : Cfg) (hr : cfg.repaired = true) (t : Nat)
    (hc : covered cfg.windows t = true) :
    ∀ (evs : List Act) (s : MSt), (∀ a ∈ evs, a = .openG ∨ a = .closeG) →
      (s.isOpen = true ∨ Act.openG ∈ evs) → (gateRun cfg t s evs).isOpen = true := by
  intro evs
  induction evs with
  | nil =>
    intro s _ h
    rcases h with h | h
    · simpa [gateRun] using h
    · cases h
  | cons a rest ih =>
    intro s hall h
    have ha := hall a (by simp)
    have hrest : ∀ b ∈ rest, b = .openG ∨ b = .closeG := fun b hb => hall b (by simp [hb])
    simp only [gateRun]
    apply ih _ hrest
    rcases h with ho | hm
    · exact Or.inl (stepGate_open_stays cfg hr t hc s a ha ho)
    · rcases List.mem_cons.mp hm with rfl | hm'
      · exact Or.inl (stepGate_open_opens cfg s t)
      · exact Or.inr hm'

/-- windows `[(1 s, 1.5 s), (0.5 s, 1 s)]` listed out of order: at 1 s the creation order of `start_events` is
open(1 s) before close(1 s) -/
def touchingUnsorted : List (Nat × Nat) := [(4, 6), (2, 4)]

example : covered touchingUnsorted 4 = true ∧ covered touchingUnsorted 5 = true ∧ covered touchingUnsorted 6 = false := by decide

/-- **Before the repair: touching windows listed out of order leave the gate shut for the whole second window**
(`corpus/C08/gate-touching-windows-out-of-order.json`); the repaired model stays open. -/
theorem gate_current_touching_unsorted_closes :
    (gateRun { comp := .gate, repaired := false, windows := touchingUnsorted } 4
      (gateRun { comp := .gate, repaired := false, windows := touchingUnsorted } 2 (init { initOpen := false }) [.openG])
      [.openG, .closeG]).isOpen = false ∧
    (gateRun { comp := .gate, repaired := true, windows := touchingUnsorted } 4
      (gateRun { comp := .gate, repaired := true, windows := touchingUnsorted } 2 (init { initOpen := false }) [.openG])
      [.openG, .closeG]).isOpen = true := by decide


def inProc (bs : List (Nat × List Nat)) : Nat := (bs.map (·.2.length)).sum

theorem inProc_append (bs : List (Nat × List Nat)) (b : Nat × List Nat) :
    inProc (bs ++ [b]) = inProc bs + b.2.length := by
  simp [inProc]

theorem inProc_erase (bs : List (Nat × List Nat)) (b : Nat × List Nat) (h : b ∈ bs) :
    inProc (bs.erase b) + b.2.length = inProc bs := by
  induction bs with
  | nil => cases h
  | cons x rest ih =>
    by_cases hx : x = b
    · subst hx; simp [inProc]; omega
    · have := ih ((List.mem_cons.1 h).resolve_left (Ne.symm hx))
      simp [inProc, hx] at this ⊢
      omega

def BInv (s : MSt) : Prop := s.accepted = s.queue.length + inProc s.batches + s.completed

theorem stepBatch_inv (cfg : Cfg) (s : MSt) (t : Nat) (a : Act) (h : BInv s) : BInv (stepBatch cfg s t a).1 := by
  unfold BInv at *
  cases a with
  | offer id p | timeout =>
    simp only [stepBatch, processBatch, apply_ite Prod.fst, apply_ite MSt.queue, apply_ite MSt.accepted,
      apply_ite MSt.batches, apply_ite MSt.completed, apply_ite inProc, apply_ite List.length, inProc_append,
      List.length_append, List.length_map, List.length_nil, ite_self]
    grind
  | bfin k =>
    simp only [stepBatch]
    split
    · exact h
    · have := inProc_erase s.batches _ (List.mem_of_find?_eq_some ‹_›)
      simp only at this ⊢
      omega
  | done id =>
    rw [stepBatch, sinkStep_fst]
    exact h
  | _ => exact h

/-- **Conservation, BatchProcessor model (both variants).** Along every schedule every accepted item is in
the buffer, in a batch in process, or counted in `items_processed`. -/
theorem batch_conservation (cfg : Cfg) (hc : cfg.comp = .batch) (acts : List (Nat × Act)) :
    BInv (run cfg (init cfg) acts) := by
  apply run_inv BInv
  · intro s t a h; simp only [step, hc]; exact stepBatch_inv cfg s t a h
  · simp [BInv, init, inProc]

def witnessConcurrent : List (Nat × Act) :=
  [(0, .offer 0 none), (0, .offer 1 none), (1, .offer 2 none), (1, .offer 3 none)]

/-- **Known finding: two batches in process at once** (batch size 2; the second batch fills while the
first is in process; `fixes/C08-indus-batch-concurrent-batches.known.md`).  Holds for both variants. -/
theorem batch_concurrent_batches_current :
    (run { comp := .batch, limit := 2, repaired := false } (init {}) witnessConcurrent).active = [0, 1] ∧
    (run { comp := .batch, limit := 2, repaired := true } (init {}) witnessConcurrent).active = [0, 1] := by
  decide

/-- **Repaired: a full batch starts at once** -/
theorem batch_repaired_full_batch_starts (cfg : Cfg) (hr : cfg.repaired = true) (s : MSt) (t id : Nat)
    (p : Option Nat) (h : cfg.limit ≤ s.queue.length + 1) :
    (stepBatch cfg s t (.offer id p)).2 = .start := by
  simp [stepBatch, hr, h]

/-- **Before the repair: a batch of size one with a timeout waits for the timeout** -/
theorem batch_current_size_one_waits :
    (stepBatch { comp := .batch, limit := 1, timeout := 4, repaired := false } (init {}) 0 (.offer 0 none)).2 = .wait ∧
    (stepBatch { comp := .batch, limit := 1, timeout := 4, repaired := true } (init {}) 0 (.offer 0 none)).2 = .start := by
  decide


def TInv (cfg : Cfg) (s : MSt) : Prop :=
  (s.queue = [] → s.timer = none) ∧
  (∀ w rest, s.queue = w :: rest → cfg.timeout ≠ 0 → s.timer = some (w.t + cfg.timeout))

-- the timer is written only when the buffer goes from empty to one item and cleared only together with the
-- buffer; only `queue` and `timer` matter: push the two projections through the tests of the handler
theorem stepBatch_tinv (cfg : Cfg) (s : MSt) (t : Nat) (a : Act) (h : TInv cfg s) :
    TInv cfg (stepBatch cfg s t a).1 := by
  unfold TInv at *
  cases a with
  | offer id p =>
    simp only [stepBatch, processBatch, apply_ite Prod.fst, apply_ite MSt.queue, apply_ite MSt.timer]
    cases hq : s.queue <;> grind
  | timeout =>
    simp only [stepBatch, processBatch, apply_ite Prod.fst, apply_ite MSt.queue, apply_ite MSt.timer]
    grind
  | bfin k =>
    simp only [stepBatch]
    split <;> exact h
  | done id =>
    rw [stepBatch, sinkStep_fst]
    exact h
  | _ => exact h

/-- **A partial batch always has its flush timer armed (BatchProcessor model, both variants).** Along every
schedule: an empty buffer has no timer, and a non-empty buffer (timeout configured) has the timer set to the
offer instant of its oldest item plus the timeout — late arrivals never move it, a stale timeout never
clears it. -/
theorem batch_partial_has_timer (cfg : Cfg) (hc : cfg.comp = .batch) (acts : List (Nat × Act)) :
    ((run cfg (init cfg) acts).queue = [] → (run cfg (init cfg) acts).timer = none) ∧
    (∀ w rest, (run cfg (init cfg) acts).queue = w :: rest → cfg.timeout ≠ 0 →
      (run cfg (init cfg) acts).timer = some (w.t + cfg.timeout)) := by
  apply run_inv (TInv cfg)
  · intro s t a h; simp only [step, hc]; exact stepBatch_tinv cfg s t a h
  · simp [TInv, init]

/-- non-vacuity: a second arrival leaves the timer at the first item's deadline; a stale timeout is refused;
the code before the repair with batch size one arms the timer as well -/
example :
    let acts : List (Nat × Act) := [(0, .offer 0 none), (3, .offer 1 none), (3, .timeout)]
    let s := run { comp := .batch, limit := 3, timeout := 4 } (init {}) acts
    let s' := run { comp := .batch, limit := 3, timeout := 4, repaired := false } (init {}) acts
    let s1 := run { comp := .batch, limit := 1, timeout := 4, repaired := false } (init {}) [(2, .offer 0 none)]
    (s.queue.map (·.id), s.timer) = ([0, 1], some 4) ∧ (s'.queue.map (·.id), s'.timer) = ([0, 1], some 4) ∧
    (s1.queue.map (·.id), s1.timer) = ([0], some 6) := by decide


/-- **A due flush timeout starts the batch (BatchProcessor model), whatever is in process.** -/
theorem batch_due_timeout_flushes (cfg : Cfg) (hc : cfg.comp = .batch) (s : MSt) (t : Nat)
    (ht : s.timer = some t) (hq : s.queue ≠ []) :
    (step cfg s t .timeout).2 = .start ∧ (step cfg s t .timeout).1.queue = [] ∧
    (s.nextBatch, s.queue.map (·.id)) ∈ (step cfg s t .timeout).1.batches ∧
    (step cfg s t .timeout).1.timeouts = s.timeouts + 1 ∧
    (step cfg s t .timeout).1.active = s.active ++ [s.nextBatch] ∧
    (step cfg s t .timeout).1.timer = none := by
  have he : s.queue.isEmpty = false := by
    cases hs : s.queue with
    | nil => exact absurd hs hq
    | cons w r => rfl
  simp [step, hc, stepBatch, ht, he, processBatch]

example :
    let s : MSt := { queue := [⟨5, 0, none⟩, ⟨6, 1, none⟩], timer := some 4, active := [0], nextBatch := 1,
                     batches := [(0, [1, 2])] }
    (step { comp := .batch, limit := 3, timeout := 4 } s 4 .timeout).2 = .start ∧
    (step { comp := .batch, limit := 3, timeout := 4 } s 4 .timeout).1.batches = [(0, [1, 2]), (1, [5, 6])] ∧
    (step { comp := .batch, limit := 3, timeout := 4 } s 3 .timeout).2 = .err := by decide


/-- **Patience, reneging model.** A dequeued item starts service exactly when it has not waited longer
than its patience, and reneges otherwise. -/
theorem reneging_start_iff_within_patience (cfg : Cfg) (s : MSt) (t id : Nat) (w : WItem)
    (hf : s.transit.find? (·.id == id) = some w) :
    ((stepReneging cfg s t (.work id)).2 = .start ↔ expired w t = false) ∧
    ((stepReneging cfg s t (.work id)).2 = .renege ↔ expired w t = true) := by
  simp only [stepReneging, hf]
  cases expired w t <;> simp

example : expired ⟨1, 0, some 500⟩ 1000 = true ∧ expired ⟨1, 0, some 1000⟩ 1000 = false ∧ expired ⟨1, 0, none⟩ 1000 = false := by
  decide


theorem any_of_find {l : List WItem} {id : Nat} {w : WItem} (h : l.find? (·.id == id) = some w) :
    l.any (·.id == id) = true :=
  List.any_eq_true.mpr ⟨w, List.mem_of_find?_eq_some h, List.find?_some (p := fun x : WItem => x.id == id) h⟩

def RInv (s : MSt) : Prop :=
  s.accepted = s.queue.length + s.transit.length + s.served + s.reneged ∧
  s.served = s.active.length + s.completed

theorem stepReneging_inv (cfg : Cfg) (s : MSt) (t : Nat) (a : Act) (h : RInv s) :
    RInv (stepReneging cfg s t a).1 := by
  unfold RInv at *
  cases a with
  | offer id p =>
    cases hf : full cfg.qcap s.queue.length <;>
      simp only [stepReneging, hf, if_true, if_false, Bool.false_eq_true, List.length_append,
        List.length_singleton] <;> omega
  | deq =>
    cases hq : s.queue <;>
      simp only [stepReneging, hq, List.length_cons, List.length_append, List.length_nil] at h ⊢ <;> omega
  | work id =>
    cases hfd : s.transit.find? (·.id == id) with
    | none => simpa only [stepReneging, hfd] using h
    | some w =>
      have hl := eraseP_len (any_of_find hfd)
      cases he : expired w t <;>
        simp only [stepReneging, hfd, he, if_true, if_false, Bool.false_eq_true, List.length_append,
          List.length_singleton] <;> omega
  | fin id =>
    cases hc : s.active.contains id
    · simpa only [stepReneging, hc, Bool.not_false, if_true] using h
    · have hl := erase_len hc
      simp only [stepReneging, hc, Bool.not_true, Bool.false_eq_true, if_false]
      omega
  | done id =>
    rw [stepReneging, sinkStep_fst]
    exact h
  | rdone id =>
    cases hc : s.rout.contains id <;>
      simp only [stepReneging, hc, if_true, if_false, Bool.false_eq_true] <;> exact h
  | _ => exact h

/-- **Item-state partition, RenegingQueuedResource model (reneged_target set or None).** Along every
schedule `accepted = waiting + dequeued + served + reneged` and `served = in service + completed`: the two
counters split the dequeued items between them.  (Counting form; per id the statement is on the judge side,
`judge_sound_reneging_none_lost`.) -/
theorem reneging_exactly_one_state (cfg : Cfg) (hc : cfg.comp = .reneging) (acts : List (Nat × Act)) :
    RInv (run cfg (init cfg) acts) := by
  apply run_inv RInv
  · intro s t a h; simp only [step, hc]; exact stepReneging_inv cfg s t a h
  · simp [RInv, init]

/-- patience 1 s, single slot: item 1 has waited 4 s when it is dequeued; it is counted as reneged, not served,
with and without a reneged target -/
example :
    let acts : List (Nat × Act) := [(0, .offer 0 (some 1000)), (0, .offer 1 (some 1000)), (0, .deq), (0, .work 0),
      (4000, .fin 0), (4000, .deq), (4000, .work 1)]
    let s := run { comp := .reneging, rtarget := false } (init {}) acts
    let s' := run { comp := .reneging, rtarget := true } (init {}) acts
    (s.served, s.reneged, s.active, s.rout) = (1, 1, [], []) ∧ (s'.served, s'.reneged, s'.active, s'.rout) = (1, 1, [], [1]) := by
  decide

theorem stepReneging_rout (cfg : Cfg) (hr : cfg.rtarget = false) (s : MSt) (t : Nat) (a : Act) (h : s.rout = []) :
    (stepReneging cfg s t a).1.rout = [] := by
  cases a with
  | deq => cases hq : s.queue <;> simpa only [stepReneging, hq] using h
  | work id =>
    cases hfd : s.transit.find? (·.id == id) <;>
      simp only [stepReneging, hfd, hr, apply_ite Prod.fst, apply_ite MSt.rout, h, ite_self, Bool.false_eq_true,
        if_false]
  | offer id p | fin id | done id | rdone id =>
    simp only [stepReneging, sinkStep, apply_ite Prod.fst, apply_ite MSt.rout, h, List.erase_nil, ite_self]
  | _ => exact h

/-- **`reneged_target = None`: a reneged item is discarded.** Along every schedule nothing is ever on its way
to a reneged-target sink (together with `reneging_exactly_one_state`: it is counted in `reneged` and gone). -/
theorem reneging_no_target_discards (cfg : Cfg) (hc : cfg.comp = .reneging) (hr : cfg.rtarget = false)
    (acts : List (Nat × Act)) : (run cfg (init cfg) acts).rout = [] := by
  apply run_inv (fun s => s.rout = [])
  · intro s t a h; simp only [step, hc]; exact stepReneging_rout cfg hr s t a h
  · simp [init]

end HappyModel.C08.Indus
