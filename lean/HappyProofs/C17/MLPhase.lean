import HappyProofs.C17.MLKnow
/-!
The anti-entropy phase of a run, over the order its resolver induces.

After the last client-write / `Replicate` handler step only the `_install` of the head item of an anti-entropy
handler changes a version (`step_versChange`).  A model supplies the order (`PhaseOrd`) and what its resolver
does in it (`PhaseOrd.Laws`).  Every version held stays below every bound of the versions of the phase start
(`PSI.up`), so with complete knowledge any two leaders cover each other (`PSI.converge`): they hold the join of
what the leaders held when the phase began.
-/
namespace HappyModel.C17.LN
open HappyModel.C17.ML (St Version Msg Proc MKind PKind versionsOf)
open HappyModel.C17.MLM (GK KComplete)

/-- `Cov k a b` — for key `k`, `b` covers `a`; `Held` — what every version a leader holds in the phase satisfies;
`Item k cur v` — what the head item `v` of an anti-entropy handler satisfies at a leader that holds `cur` -/
structure PhaseOrd where
  Cov : Nat → Option Version → Option Version → Prop
  Held : Nat → Option Version → Prop
  Item : Nat → Option Version → Version → Prop
  refl : ∀ k a, Cov k a a
  bot : ∀ {k a}, Cov k a none → ∀ b, Cov k a b
  trans : ∀ {k a b c}, Held k b → Held k c → Cov k a b → Cov k b c → Cov k a c

/-- `_install` keeps `Held` and moves the holder up, to the least bound of holder and item, above the item if the
item is itself a version leaders hold -/
structure PhaseOrd.Laws (O : PhaseOrd) (r : Res) : Prop where
  held : ∀ {k cur v}, O.Held k cur → O.Item k cur v → O.Held k (r.merged cur v)
  ext : ∀ {k cur v}, O.Held k cur → O.Item k cur v → O.Cov k cur (r.merged cur v)
  lub : ∀ {k cur v}, O.Held k cur → O.Item k cur v → ∀ z, O.Held k z → O.Cov k cur z → O.Cov k (some v) z →
    O.Cov k (r.merged cur v) z
  head : ∀ {k cur v}, O.Held k cur → O.Item k cur v → O.Held k (some v) → O.Cov k (some v) (r.merged cur v)
  /-- a merge loop passes over a held version only if the holder covers it.  For last-writer-wins: not taken
  means not above the holder's.  For a merging resolver the clause is empty: such a version carries the
  holder's clock, so it is taken. -/
  skip : ∀ {k cur v}, O.Held k cur → O.Held k (some v) → r.takes cur v = false → O.Cov k (some v) cur

variable {r : Res} (O : PhaseOrd) (n : Nat) (sp : St)

def PhaseOrd.K (h k : Nat) (cur : Option Version) : Prop := O.Cov k (sp.vers h k) cur

/-- leader `h` held nothing to cover, or `items` carries a version leaders hold that covers it -/
def PhaseOrd.W (h k : Nat) (items : List (Nat × Version)) : Prop :=
  O.Cov k (sp.vers h k) none ∨ ∃ w, (k, w) ∈ items ∧ O.Held k (some w) ∧ O.Cov k (sp.vers h k) (some w)

/-- every version a leader holds is `Held` and below every bound of the versions of the phase start; the head
item of an anti-entropy handler is an `Item` that its sender covers -/
structure PSI (s : St) : Prop where
  aux : AuxInv (core s)
  hn : s.n = n
  held : ∀ b, b < n → ∀ k, O.Held k (s.vers b k)
  up : ∀ b, b < n → ∀ k z, O.Held k z → (∀ h, h < n → O.Cov k (sp.vers h k) z) → O.Cov k (s.vers b k) z
  item : ∀ pid p k v rest, s.procs pid = some p → (p.kind = .aereq ∨ p.kind = .aeresp) → p.items = (k, v) :: rest →
    O.Item k (s.vers p.node k) v ∧ O.Cov k (some v) (s.vers p.src k)

variable {O n sp} {s s' : St} {a : Act}

theorem PSI.init (haux : AuxInv (core sp)) (hn : sp.n = n) (hheld : ∀ b, b < n → ∀ k, O.Held k (sp.vers b k))
    (hitem : ∀ pid p k v rest, sp.procs pid = some p → (p.kind = .aereq ∨ p.kind = .aeresp) →
      p.items = (k, v) :: rest → O.Item k (sp.vers p.node k) v ∧ O.Cov k (some v) (sp.vers p.src k)) :
    PSI O n sp sp :=
  ⟨haux, hn, hheld, fun b hb _ _ _ hz => hz b hb, hitem⟩

theorem PSI.step (L : O.Laws r) (sh : StepShape r s a s') (hw : isWR s a = false) (h : PSI O n sp s) :
    (∀ b, b < n → ∀ k, O.Held k (s'.vers b k)) ∧
    (∀ b, b < n → ∀ k z, O.Held k z → (∀ h, h < n → O.Cov k (sp.vers h k) z) → O.Cov k (s'.vers b k) z) ∧
    Facts (O.K sp) (O.W sp) n r s s' := by
  have base : (∀ b, b < n → ∀ k, O.Held k (s'.vers b k)) ∧
      (∀ b, b < n → ∀ k z, O.Held k z → (∀ h, h < n → O.Cov k (sp.vers h k) z) → O.Cov k (s'.vers b k) z) ∧
      Mono (O.K sp) n s s' := by
    rcases step_versChange sh hw with hv | ⟨pid, p0, k, v, rest, h0, hk, hit, hv⟩
    · rw [hv]; exact ⟨h.held, h.up, fun _ _ _ _ c => by rw [hv]; exact c⟩
    · obtain ⟨hN1, hN2⟩ := h.aux.procN pid p0 h0 hk
      have hN1 : p0.node < n := h.hn ▸ hN1
      have hN2 : p0.src < n := h.hn ▸ hN2
      obtain ⟨hI, hC⟩ := h.item pid p0 k v rest h0 hk hit
      have hH := h.held p0.node hN1 k
      refine ⟨fun b hb k' => ?_, fun b hb k' z hz hall => ?_, fun b hb x k' c => ?_⟩
      · rw [hv, r.inst_vers]; split
        · next e => rw [e.2]; exact L.held hH hI
        · exact h.held b hb k'
      · rw [hv, r.inst_vers]; split
        · next e =>
          obtain ⟨e1, e2⟩ := e
          subst e1 e2
          -- the item is covered by its sender, which is below the bound
          exact L.lub hH hI z hz (h.up _ hb _ z hz hall)
            (O.trans (h.held p0.src hN2 _) hz hC (h.up p0.src hN2 _ z hz hall))
        · exact h.up b hb k' z hz hall
      · show O.Cov k' _ (s'.vers b k')
        rw [hv, r.inst_vers]; split
        · next e =>
          obtain ⟨e1, e2⟩ := e
          subst e1 e2
          exact O.trans hH (L.held hH hI) c (L.ext hH hI)
        · exact c
  obtain ⟨held', up', mono⟩ := base
  refine ⟨held', up', mono, fun x k _ c => ?_, fun node hnode x k c => ?_, fun node hN items left skip x k pre => ?_,
    fun pid p0 k v rest h0 hkq hit x k' c => ?_⟩
  · rcases c with c | ⟨_, hv, _⟩
    · exact O.bot c _
    · cases hv
  · -- the request carries the sender's own version
    have c : O.Cov k (sp.vers x k) (s.vers node k) := c
    cases hvk : s.vers node k with
    | none => exact Or.inl (hvk ▸ c)
    | some u =>
      refine Or.inr ⟨u, ?_, hvk ▸ h.held node hnode k, hvk ▸ c⟩
      exact List.mem_filterMap.mpr ⟨k, h.aux.ord node k (congrArg Option.isSome hvk), congrArg (Option.map _) hvk⟩
  · rcases pre with p | p | ⟨w, hw', hH, hc⟩
    · exact Or.inl p
    · exact Or.inl (O.bot p _)
    · rcases skip (k, w) hw' with m | m
      · exact Or.inr (Or.inr ⟨w, m, hH, hc⟩)
      · exact Or.inl (O.trans hH (held' node hN k) hc (L.skip (held' node hN k) hH m))
  · rcases c with c | ⟨w, hw', hH, hc⟩
    · exact Or.inr (Or.inl c)
    · rcases List.mem_cons.mp hw' with e | e
      · left
        have e1 : k' = k := congrArg Prod.fst e
        have e2 : w = v := congrArg Prod.snd e
        subst e1 e2
        have hN1 : p0.node < n := h.hn ▸ (h.aux.procN pid p0 h0 (.inl hkq)).1
        have hcur := h.held p0.node hN1 k'
        have hI := (h.item pid p0 k' w rest h0 (.inl hkq) hit).1
        show O.Cov k' _ _
        rw [r.inst_vers, if_pos ⟨rfl, rfl⟩]
        exact O.trans hH (L.held hcur hI) hc (L.head hcur hI hH)
      · exact Or.inr (Or.inr ⟨w, e, hH, hc⟩)

theorem PhaseOrd.gi_reset : GI (O.K sp) (O.W sp) n sp GK.reset := by
  refine ⟨?_, fun mid m _ _ _ x hx => (by cases hx), fun pid p _ _ _ x hx => (by cases hx)⟩
  intro b _ x hx k
  cases List.mem_singleton.mp hx
  exact O.refl k _

/-- each of two leaders covers every version of the phase start, hence the other -/
theorem PSI.converge {g : GK} (h : PSI O n sp s) (hg : GI (O.K sp) (O.W sp) n s g) (hk : KComplete n g)
    (i j k : Nat) (hi : i < n) (hj : j < n) : O.Cov k (s.vers i k) (s.vers j k) :=
  h.up i hi k _ (h.held j hj k) fun x hx => hg.l j hj x (hk j hj x hx) k

end HappyModel.C17.LN
