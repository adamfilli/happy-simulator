import HappyProofs.C02.JudgeFutureLines
/-!
# C02 — the per-resumption clauses of the settle fold on the model's trace, plain futures

`future/resumed-before-resolved`, `future/value-raised-instead-of-sent`, `future/resumed-with-wrong-value`
and `future/resumed-at-wrong-instant` are the only errors the fold of `Spec.stepLine` raises.  On the
numbered `S` / `K` / `R` / `r` / `w` lines the model writes (`futTrace`, ghosted alongside `run`: the line that opens a
delivery sets the judge's clock), for programs with plain futures (no combinator, no rebinding), the fold ends with
`err = none`: the process that is resumed by a future waits (first outstanding `w` line) on an object with an `r` line,
it is sent the value of that line, and the clock of the later of the two lines is the instant of the resumption.  (The
second clause cannot fire on the model at all: no value prints as `raised:…`, `okv_all`.)

The link `FB` (future table ↔ judge's table, `FT`; pending continuations ↔ the judge's waits, `FP`) has a mode
`chk`.  With `chk = true` it tracks instants as well, which needs the opening `S` / `K` lines and gives all four
clauses on `futTrace`; with `chk = false` it tracks only which objects are resolved, which gives the first clause on
the `R` / `r` / `w` lines alone (`futView`), where nothing sets the judge's clock at a plain delivery.
-/
namespace HappyModel.C01.FV
open HappyModel.C01
open HappyModel.C02.Spec (Line SSt FObj FExpr stepLine settle)

/-- claims about instants are made in mode `chk = true` only -/
def ClockAt (chk : Bool) (j : SSt) (i t : Nat) : Prop := chk = true → cAt j i = some t

/-- `F`uture `T`able: the model's future table against the judge's table after `k` lines -/
structure FT (chk : Bool) (futs : List Fut) (j : SSt) (k : Nat) : Prop where
  js : JS j
  len : j.clockAt.length = k
  wpos : ∀ w ∈ j.waits, w.2.2 < k
  rpos : ∀ o r, resOf j o = some r → r.1 < k
  res : ∀ f, (futGet futs f).resolved = true → ∃ o rp, j.obj f = some o ∧ resOf j o = some (rp, (futGet futs f).value)
  unres : ∀ f o, (futGet futs f).resolved = false → j.obj f = some o → resOf j o = none
  nocb : ∀ f, (futGet futs f).cbs = []
  /-- the first outstanding wait of a parked process names the object of the future it is parked on -/
  park : ∀ f pid, (futGet futs f).parked = some pid →
    ∀ w, j.waits.find? (fun w => w.1 == pid) = some w → j.obj f = some w.2.1
  park1 : ∀ f g pid, (futGet futs f).parked = some pid → (futGet futs g).parked = some pid → f = g
  err : j.err ≠ some BR
  errN : chk = true → j.err = none

/-- `F`uture `P`ending: the untagged continuations — `X pid time`, pending elsewhere (in the heap; abstract, so that the
    specs of an invocation can be moved into it when the invocation ends, `FB_close`), or among the specs of the
    effect — against the judge's waits -/
structure FP (chk : Bool) (e : Eff) (j : SSt) (X : Nat → Nat → Prop) : Prop where
  /-- a parked process has no untagged continuation -/
  excl : ∀ f pid, (futGet e.ps.futs f).parked = some pid →
    (∀ t, ¬ X pid t) ∧ ∀ sp ∈ e.specs, sp.data = pid + 1 → sp.tag ≠ 0
  /-- an untagged continuation at `t`: the object the process's wait names is resolved with the value the process is
      sent, and the later of the two lines was read at `t` -/
  pend : ∀ pid t, (X pid t ∨ ∃ sp ∈ e.specs, sp.data = pid + 1 ∧ sp.tag = 0 ∧ sp.time = t) →
    ∀ w, j.waits.find? (fun w => w.1 == pid) = some w →
      ∃ rp v p, resOf j w.2.1 = some (rp, v) ∧ ClockAt chk j (max rp w.2.2) t ∧
        e.ps.procs[pid]? = some p ∧ p.send = v
  held : ∀ x ∈ e.ps.held, x.2.data = 0

/-- `FT` and `FP`, `B`oth: the link between the effect of the code run so far, the judge's state after the `k` lines written
    so far and the untagged continuations pending elsewhere -/
structure FB (chk : Bool) (e : Eff) (j : SSt) (k : Nat) (X : Nat → Nat → Prop) : Prop
    extends FT chk e.ps.futs j k, FP chk e j X

/-- nothing is pending for process `q`: parked nowhere, no untagged continuation -/
structure Idle (X : Nat → Nat → Prop) (e : Eff) (q : Nat) : Prop where
  np : ∀ g, (futGet e.ps.futs g).parked ≠ some q
  nx : ∀ t, ¬ X q t
  ns : ∀ sp ∈ e.specs, sp.data = q + 1 → sp.tag ≠ 0

/-- the link while process `me` ru`N`s: it has nothing pending, and the judge's clock is the instant of the delivery -/
structure FN (chk : Bool) (j : SSt) (k : Nat) (X : Nat → Nat → Prop) (me now : Nat) (e : Eff) : Prop where
  fb : FB chk e j k X
  idle : Idle X e me
  clock : chk = true → j.clock = now

variable {chk : Bool}

theorem FN_frame {j : SSt} {k : Nat} {X : Nat → Nat → Prop} {me now : Nat} {e e' : Eff} (h : FN chk j k X me now e)
    (hf : e'.ps.futs = e.ps.futs)
    (hs : ∀ sp ∈ e'.specs, sp ∈ e.specs ∨ sp.data = 0 ∨ sp.tag ≠ 0)
    (hh : ∀ x ∈ e'.ps.held, x ∈ e.ps.held)
    (hp : ∀ q, q ≠ me → e'.ps.procs[q]? = e.ps.procs[q]?) : FN chk j k X me now e' := by
  have hns : ∀ sp ∈ e'.specs, ∀ q, sp.data = q + 1 → sp.tag = 0 → sp ∈ e.specs := fun sp hsp q hd ht =>
    (hs sp hsp).elim id (fun h1 => h1.elim (fun h0 => by omega) (fun h0 => absurd ht h0))
  refine ⟨{ toFT := hf ▸ h.fb.toFT, excl := ?_, pend := ?_, held := fun x hx => h.fb.held x (hh x hx) },
    ⟨hf ▸ h.idle.np, h.idle.nx, fun sp hsp hd ht => h.idle.ns sp (hns sp hsp me hd ht) hd ht⟩, h.clock⟩
  · intro f pid hpk
    rw [hf] at hpk
    exact ⟨(h.fb.excl f pid hpk).1, fun sp hsp hd ht => (h.fb.excl f pid hpk).2 sp (hns sp hsp pid hd ht) hd ht⟩
  · intro pid t hpt w hw
    have hold : X pid t ∨ ∃ sp ∈ e.specs, sp.data = pid + 1 ∧ sp.tag = 0 ∧ sp.time = t :=
      hpt.imp_right (fun ⟨sp, hsp, hd, ht, htt⟩ => ⟨sp, hns sp hsp pid hd ht, hd, ht, htt⟩)
    have hne : pid ≠ me := by
      rintro rfl
      rcases hold with h1 | ⟨sp, hsp, hd, ht, _⟩
      · exact h.idle.nx t h1
      · exact h.idle.ns sp hsp hd ht
    obtain ⟨rp, v, p, h1, h2, h3, h4⟩ := h.fb.pend pid t hold w hw
    exact ⟨rp, v, p, h1, h2, by rw [hp pid hne]; exact h3, h4⟩

theorem FN_push {j : SSt} {k : Nat} {X : Nat → Nat → Prop} {me now : Nat} {e : Eff} (h : FN chk j k X me now e)
    (sp : Spec) (hook : Nat) (tagged : Bool) (hd : sp.data = 0 ∨ tagged = true) :
    FN chk j k X me now (e.push sp hook tagged) := by
  refine FN_frame h rfl ?_ (fun x hx => hx) (fun q _ => rfl)
  intro s hs
  rw [push_specs] at hs
  rcases List.mem_append.mp hs with hs | hs
  · exact Or.inl hs
  · simp only [List.mem_singleton] at hs
    subst hs
    rcases hd with hd | hd
    · exact Or.inr (Or.inl hd)
    · subst hd; exact Or.inr (Or.inr (by simp))

theorem FN_same {j : SSt} {k : Nat} {X : Nat → Nat → Prop} {me now : Nat} {e e' : Eff} (h : FN chk j k X me now e)
    (hf : e'.ps.futs = e.ps.futs) (hs : e'.specs = e.specs) (hh : e'.ps.held = e.ps.held)
    (hp : e'.ps.procs = e.ps.procs) : FN chk j k X me now e' :=
  FN_frame h hf (fun sp hsp => Or.inl (hs ▸ hsp)) (fun x hx => hh ▸ hx) (fun q _ => by rw [hp])

theorem cat_tick {j j' : SSt} (hc : j'.clockAt = j.clock :: j.clockAt) (i c : Nat) (h : ClockAt chk j i c) :
    ClockAt chk j' i c := by
  intro hchk
  have : cAt j' i = cAt (tick j) i := by unfold cAt tick; rw [hc]
  rw [this]; exact cAt_tick_old j i c (h hchk)

theorem cat_keep_new {j j' : SSt} {f : Nat} (hkp : Keep j j' f) : cAt j' j.clockAt.length = some j.clock := by
  have : cAt j' j.clockAt.length = cAt (tick j) j.clockAt.length := by unfold cAt tick; rw [hkp.clockAt]
  rw [this]; exact cAt_tick_new j

/-- the judge has read on from `k` to `k'` lines: only the binding of slot `f` may be new, no error is added, the
    clocks recorded stay -/
structure Adv (chk : Bool) (j j' : SSt) (k k' f : Nat) : Prop where
  js : JS j'
  len : j'.clockAt.length = k'
  le : k ≤ k'
  err : j'.err = j.err
  obj : ∀ g o, j.obj g = some o → j'.obj g = some o
  objr : ∀ g o, g ≠ f → j'.obj g = some o → j.obj g = some o
  cat : ∀ i c, ClockAt chk j i c → ClockAt chk j' i c

theorem Keep.adv {j j' : SSt} {f k : Nat} (hkp : Keep j j' f) (hlen : j.clockAt.length = k) : Adv chk j j' k (k + 1) f :=
  ⟨hkp.js, by rw [hkp.clockAt, List.length_cons, hlen], Nat.le_succ k, hkp.err, hkp.obj, hkp.objr, cat_tick hkp.clockAt⟩

theorem Adv.refl {j : SSt} {k f : Nat} (hjs : JS j) (hlen : j.clockAt.length = k) : Adv chk j j k k f :=
  ⟨hjs, hlen, Nat.le_refl k, rfl, fun _ _ h1 => h1, fun _ _ _ h1 => h1, fun _ _ h1 => h1⟩

/-- the judge reads on (`Adv`) while the model rewrites the record of future `f` only.  Resolutions recorded stay and a
    new one is of the object of `f`; a wait found for a process was found before, or names the object of `f` for a
    process with nothing pending; the new record of `f` agrees with the table, and parks a process that was parked
    there before or (`Idle`) had nothing pending and whose wait names the object of `f` -/
theorem FB_upd {e e' : Eff} {j j' : SSt} {k k' f : Nat} {X : Nat → Nat → Prop} (h : FB chk e j k X)
    (ha : Adv chk j j' k k' f) (hres : ∀ o r, resOf j o = some r → resOf j' o = some r)
    (hnew : ∀ o r, resOf j' o = some r → resOf j o = some r ∨ (j'.obj f = some o ∧ r.1 < k'))
    (hwpos : ∀ w ∈ j'.waits, w ∈ j.waits ∨ w.2.2 < k')
    (hwf : ∀ q w, j'.waits.find? (fun w => w.1 == q) = some w →
      j.waits.find? (fun w => w.1 == q) = some w ∨ (j'.obj f = some w.2.1 ∧ Idle X e q))
    (hg : ∀ g, g ≠ f → futGet e'.ps.futs g = futGet e.ps.futs g)
    (hs : e'.specs = e.specs) (hh : e'.ps.held = e.ps.held) (hp : e'.ps.procs = e.ps.procs)
    (hxres : (futGet e'.ps.futs f).resolved = true →
      ∃ o rp, j'.obj f = some o ∧ resOf j' o = some (rp, (futGet e'.ps.futs f).value))
    (hxun : (futGet e'.ps.futs f).resolved = false → ∀ o, j'.obj f = some o → resOf j' o = none)
    (hxcb : (futGet e'.ps.futs f).cbs = [])
    (hxpk : ∀ q, (futGet e'.ps.futs f).parked = some q → (futGet e.ps.futs f).parked = some q ∨
      (Idle X e q ∧ ∀ w, j'.waits.find? (fun w => w.1 == q) = some w → j'.obj f = some w.2.1)) :
    FB chk e' j' k' X := by
  have hcase : ∀ g, g = f ∨ (g ≠ f ∧ futGet e'.ps.futs g = futGet e.ps.futs g) := fun g =>
    (Classical.em (g = f)).imp_right (fun hgf => ⟨hgf, hg g hgf⟩)
  have hpk : ∀ g q, (futGet e'.ps.futs g).parked = some q → (futGet e.ps.futs g).parked = some q ∨
      (g = f ∧ Idle X e q ∧ ∀ w, j'.waits.find? (fun w => w.1 == q) = some w → j'.obj f = some w.2.1) := by
    intro g q hq
    rcases hcase g with rfl | ⟨_, hge⟩
    · exact (hxpk q hq).imp_right (fun hi => ⟨rfl, hi⟩)
    · exact Or.inl (hge ▸ hq)
  have hle := ha.le
  exact
    { js := ha.js, len := ha.len, err := by rw [ha.err]; exact h.err, errN := by rw [ha.err]; exact h.errN
      held := by rw [hh]; exact h.held
      wpos := fun w hw => (hwpos w hw).elim (fun h1 => Nat.lt_of_lt_of_le (h.wpos w h1) hle) id
      rpos := fun o r hr => (hnew o r hr).elim (fun h1 => Nat.lt_of_lt_of_le (h.rpos o r h1) hle) (·.2)
      res := fun g hr => by
        rcases hcase g with rfl | ⟨_, hge⟩
        · exact hxres hr
        · rw [hge] at hr ⊢
          obtain ⟨o, rp, h1, h2⟩ := h.res g hr
          exact ⟨o, rp, ha.obj g o h1, hres o _ h2⟩
      unres := fun g o hr ho => by
        rcases hcase g with rfl | ⟨hgf, hge⟩
        · exact hxun hr o ho
        · rw [hge] at hr
          have h0 := h.unres g o hr (ha.objr g o hgf ho)
          cases hn : resOf j' o with
          | none => rfl
          | some r =>
            -- a new resolution is of the object of `f`, which is not the object of `g`
            rcases hnew o r hn with h1 | h1
            · rw [h0] at h1; cases h1
            · exact absurd (ha.js.inj g f o ho h1.1) hgf
      nocb := fun g => by
        rcases hcase g with rfl | ⟨_, hge⟩
        · exact hxcb
        · rw [hge]; exact h.nocb g
      park := fun g q hq w hw => by
        rcases hpk g q hq with h1 | ⟨rfl, _, h2⟩
        · rcases hwf q w hw with h3 | h3
          · exact ha.obj g _ (h.park g q h1 w h3)
          · exact absurd h1 (h3.2.np g)
        · exact h2 w hw
      park1 := fun g g' q hq hq' => by
        rcases hpk g q hq with h1 | ⟨rfl, hi, _⟩ <;> rcases hpk g' q hq' with h2 | ⟨rfl, hi', _⟩
        · exact h.park1 g g' q h1 h2
        · exact absurd h1 (hi'.np g)
        · exact absurd h2 (hi.np g')
        · rfl
      excl := fun g q hq => by
        rw [hs]
        rcases hpk g q hq with h1 | ⟨_, hi, _⟩
        · exact h.excl g q h1
        · exact ⟨hi.nx, hi.ns⟩
      pend := fun q t hqt w hw => by
        rw [hs] at hqt
        rw [hp]
        rcases hwf q w hw with h3 | ⟨_, hi⟩
        · obtain ⟨rp, v, p, h1, h2, h3'⟩ := h.pend q t hqt w h3
          exact ⟨rp, v, p, hres _ _ h1, ha.cat _ _ h2, h3'⟩
        · exfalso
          rcases hqt with h1 | ⟨sp, hsp, hd, ht, _⟩
          · exact hi.nx t h1
          · exact hi.ns sp hsp hd ht }

theorem FB_wake {e e' : Eff} {j : SSt} {k : Nat} {X : Nat → Nat → Prop} {pid now : Nat} {p : Proc} {v : Val}
    (h : FB chk e j k X) (hi : Idle X e pid) (hp : e.ps.procs[pid]? = some p) (hf : e'.ps.futs = e.ps.futs)
    (hs : e'.specs = e.specs ++ [contSpec p pid now]) (hh : e'.ps.held = e.ps.held)
    (hpr : e'.ps.procs = e.ps.procs.set pid { p with send := v })
    (hdue : ∀ w, j.waits.find? (fun w => w.1 == pid) = some w →
      ∃ rp, resOf j w.2.1 = some (rp, v) ∧ ClockAt chk j (max rp w.2.2) now) : FB chk e' j k X := by
  refine { toFT := hf ▸ h.toFT, excl := ?_, pend := ?_, held := hh ▸ h.held }
  · intro g q hg
    rw [hf] at hg
    refine ⟨(h.excl g q hg).1, fun sp hsp hd => ?_⟩
    rw [hs] at hsp
    rcases List.mem_append.mp hsp with hsp | hsp
    · exact (h.excl g q hg).2 sp hsp hd
    · rw [List.mem_singleton.mp hsp] at hd
      exact absurd (Nat.succ.inj hd ▸ hg) (hi.np g)
  · intro q t hqt w hw
    rw [hs] at hqt
    rw [hpr]
    have hold : (X q t ∨ ∃ sp ∈ e.specs, sp.data = q + 1 ∧ sp.tag = 0 ∧ sp.time = t) ∨ (q = pid ∧ t = now) := by
      rcases hqt with h1 | ⟨sp, hsp, hd, ht, htt⟩
      · exact Or.inl (Or.inl h1)
      · rcases List.mem_append.mp hsp with hsp | hsp
        · exact Or.inl (Or.inr ⟨sp, hsp, hd, ht, htt⟩)
        · rw [List.mem_singleton.mp hsp] at hd htt
          exact Or.inr ⟨(Nat.succ.inj hd).symm, htt.symm⟩
    rcases hold with hold | ⟨rfl, rfl⟩
    · have hne : q ≠ pid := by
        rintro rfl
        rcases hold with h1 | ⟨sp, hsp, hd, ht, _⟩
        · exact hi.nx t h1
        · exact hi.ns sp hsp hd ht
      obtain ⟨rp, v0, p0, h1, h2, h3, h4⟩ := h.pend q t hold w hw
      exact ⟨rp, v0, p0, h1, h2, by rw [List.getElem?_set_ne (Ne.symm hne)]; exact h3, h4⟩
    · obtain ⟨rp, h1, h2⟩ := hdue w hw
      exact ⟨rp, v, _, h1, h2, List.getElem?_set_self (getElem?_some_lt hp), rfl⟩

theorem FB_resumed {e1 : Eff} {j : SSt} {k : Nat} {X : Nat → Nat → Prop} {now f pid : Nat} {p : Proc}
    (h : FB chk e1 j k X) (hpk : (futGet e1.ps.futs f).parked = some pid) (hp : e1.ps.procs[pid]? = some p)
    (hr : (futGet e1.ps.futs f).resolved = true)
    (hdue : ∀ w, j.waits.find? (fun w => w.1 == pid) = some w → ∀ rp val, resOf j w.2.1 = some (rp, val) →
      ClockAt chk j (max rp w.2.2) now) :
    FB chk (resumed e1 now f pid p) j k X := by
  have hx : futGet (e1.setFut f { futGet e1.ps.futs f with parked := none }).ps.futs f =
      { futGet e1.ps.futs f with parked := none } := futGet_futSet_same ..
  -- the process is taken off the future, then woken
  have h2 : FB chk (e1.setFut f { futGet e1.ps.futs f with parked := none }) j k X :=
    FB_upd h (Adv.refl h.js h.len) (fun _ _ h1 => h1) (fun _ _ h1 => Or.inl h1) (fun _ h1 => Or.inl h1)
      (fun _ _ h1 => Or.inl h1) (fun g hgf => futGet_futSet_ne _ _ _ _ hgf) rfl rfl rfl
      (by rw [hx]; exact h.res f) (by rw [hx]; exact fun hr' o => h.unres f o hr') (by rw [hx]; exact h.nocb f)
      (fun q hq => by rw [hx] at hq; cases hq)
  refine FB_wake h2 ⟨?_, (h.excl f pid hpk).1, (h.excl f pid hpk).2⟩ hp rfl rfl rfl rfl ?_
  · intro g hg
    by_cases hgf : g = f
    · rw [hgf, hx] at hg; cases hg
    · rw [setFut_futs, futGet_futSet_ne _ _ _ _ hgf] at hg
      exact hgf (h.park1 g f pid hg hpk)
  · intro w hw
    obtain ⟨o, rp, ho, hres⟩ := h.res f hr
    cases Option.some.inj (ho.symm.trans (h.park f pid hpk w hw))
    exact ⟨rp, hres, hdue w hw rp _ hres⟩

theorem resolve_FN (now : Nat) (e : Eff) (f : Nat) (v : Val) {k : Nat} {j : SSt} {X : Nat → Nat → Prop} {me : Nat}
    (h : FN chk j k X me now e) :
    FN chk (stepLine j k (.resolve f v)) (k + 1) X me now (resolveFut depthFuel e now f v) := by
  obtain ⟨hb, hn, hclock⟩ := h
  obtain ⟨hkp, hw, o, hobj, hnone, hA, hB⟩ := step_resolve j k f v hb.js
  generalize stepLine j k (.resolve f v) = j' at hkp hw hobj hA hB
  have hwf : ∀ q w, j'.waits.find? (fun w => w.1 == q) = some w →
      j.waits.find? (fun w => w.1 == q) = some w ∨ (j'.obj f = some w.2.1 ∧ Idle X e q) := fun q w hf => Or.inl (hw ▸ hf)
  have hclk : chk = true → j'.clock = now := by rw [hkp.clock]; exact hclock
  have hold : ∀ o0, j.obj f = some o0 → o0 = o := fun o0 ho0 => Option.some.inj ((hkp.obj f o0 ho0).symm.trans hobj)
  rw [show depthFuel = 63 + 1 from rfl, resolveFut_succ]
  by_cases hr : (futGet e.ps.futs f).resolved = true
  · rw [if_pos hr]
    obtain ⟨o0, rp0, ho0, hr0⟩ := hb.res f hr
    cases hold o0 ho0
    have hsame := hA (by rw [hr0]; rfl)
    refine ⟨FB_upd hb (hkp.adv hb.len) (fun o' r h1 => by rw [hsame]; exact h1)
      (fun o' r h1 => Or.inl (by rw [hsame] at h1; exact h1)) (fun w h1 => Or.inl (hw ▸ h1)) hwf (fun _ _ => rfl) rfl rfl rfl
      (fun _ => ⟨o, rp0, hobj, by rw [hsame]; exact hr0⟩) (fun h1 => by rw [hr] at h1; cases h1)
      (hb.nocb f) (fun q h1 => Or.inl h1), hn, hclk⟩
  · have hr' : (futGet e.ps.futs f).resolved = false := by simpa using hr
    rw [if_neg hr, hb.nocb f, List.foldl_nil]
    have hno : resOf j o = none := by
      cases hjo : j.obj f with
      | none => exact hnone hjo
      | some o0 => cases hold o0 hjo; exact hb.unres f o hr' hjo
    obtain ⟨hset, hoth⟩ := hB hno
    have hx : futGet (e.setFut f { futGet e.ps.futs f with resolved := true, value := v, cbs := [] }).ps.futs f =
        { futGet e.ps.futs f with resolved := true, value := v, cbs := [] } := futGet_futSet_same ..
    have hgp : ∀ g, (futGet (e.setFut f { futGet e.ps.futs f with resolved := true, value := v, cbs := [] }).ps.futs g).parked =
        (futGet e.ps.futs g).parked := by
      intro g
      by_cases hgf : g = f
      · rw [hgf, hx]
      · rw [setFut_futs, futGet_futSet_ne _ _ _ _ hgf]
    have hb1 : FB chk (e.setFut f { futGet e.ps.futs f with resolved := true, value := v, cbs := [] }) j' (k + 1) X := by
      refine FB_upd hb (hkp.adv hb.len) ?_ ?_ (fun w h1 => Or.inl (hw ▸ h1)) hwf
        (fun g hgf => futGet_futSet_ne _ _ _ _ hgf) rfl rfl rfl (fun _ => by rw [hx]; exact ⟨o, k, hobj, hset⟩)
        (fun h1 => by rw [hx] at h1; cases h1) (by rw [hx]) (fun q h1 => Or.inl (hgp f ▸ h1))
      · intro o' r h1
        rwa [hoth o' (fun heq => by rw [heq, hno] at h1; cases h1)]
      · intro o' r h1
        by_cases hoo : o' = o
        · rw [hoo, hset] at h1
          cases h1
          exact Or.inr ⟨hoo ▸ hobj, Nat.lt_succ_self k⟩
        · exact Or.inl (hoth o' hoo ▸ h1)
    have hnp1 : ∀ g, (futGet (e.setFut f { futGet e.ps.futs f with resolved := true, value := v, cbs := [] }).ps.futs g).parked ≠ some me :=
      fun g => hgp g ▸ hn.np g
    rcases markResolved_cases e now f v with heq | ⟨pid, p, hpk, hp, heq⟩
    · rw [heq]
      exact ⟨hb1, ⟨hnp1, hn.nx, hn.ns⟩, hclk⟩
    · rw [heq]
      have hpk1 := (hgp f).trans hpk
      refine ⟨FB_resumed hb1 hpk1 hp (by rw [hx]) ?_, ⟨?_, hn.nx, ?_⟩, hclk⟩
      · -- the `r` line just read is the later of the two lines
        intro w hw' rp val hres
        have h1 := hb1.park f pid hpk1 w hw'
        rw [hobj] at h1
        rw [← Option.some.inj h1, hset] at hres
        cases hres
        have := hb1.wpos w (List.mem_of_find?_eq_some hw')
        rw [show max k w.2.2 = k by omega]
        intro c
        have := cat_keep_new hkp
        rwa [hb.len, hclock c] at this
      · intro g
        show (futGet (futSet _ f _) g).parked ≠ _
        rw [futGet_futSet]
        split
        · nofun
        · exact hnp1 g
      · intro sp hsp hd
        rcases List.mem_append.mp (show sp ∈ e.specs ++ [contSpec p pid now] from hsp) with hsp' | hsp'
        · exact hn.ns sp hsp' hd
        · rw [List.mem_singleton.mp hsp'] at hd
          have hpm : pid ≠ me := fun hpm => hn.np f (hpm ▸ hpk)
          exact absurd (Nat.succ.inj hd) hpm

/-- the judge reads no line: the link survives every state change except a `resolve` cascade and the binding of a slot -/
theorem FN_guarded {j : SSt} {k : Nat} {X : Nat → Nat → Prop} {me now now' : Nat} :
    GClosed now' (fun _ => False) True False (FN chk j k X me now) where
  resolve := fun hcs => hcs.elim
  allUpd := fun hcs => hcs.elim
  cbAdd := fun hcs => hcs.elim
  bind := fun _ _ _ _ hf => hf.elim
  push := fun _ sp hook tagged hd _ h => FN_push h sp hook tagged (Or.inl hd)
  release := fun e i sp h hm => FN_frame h rfl
    (fun s hs => (List.mem_append.mp hs).imp_right (fun hs => Or.inl (by rw [List.mem_singleton.mp hs]; exact h.fb.held _ hm)))
    (fun x hx => (List.mem_filter.mp hx).1) (fun q _ => rfl)
  crashed := fun _ _ h => FN_same h rfl rfl rfl rfl
  cancels := fun _ _ h => FN_same h rfl rfl rfl rfl
  hookLate := fun _ _ _ _ h => FN_same h rfl rfl rfl rfl
  hookEarly := fun _ _ _ _ h => FN_same h rfl rfl rfl rfl
  level := fun _ _ h => FN_same h rfl rfl rfl rfl
  hops := fun _ _ h => FN_same h rfl rfl rfl rfl

theorem runAct_FN (now : Nat) (e : Eff) (a : Act) {k : Nat} {j : SSt} {X : Nat → Nat → Prop} {me : Nat}
    (hp : PlainAct a) (h : FN chk j k X me now e) :
    FN chk (foldFrom k (fActLines a) j) (k + (fActLines a).length) X me now (runAct now e a) := by
  cases a with
  | resolve f v => exact resolve_FN now e f v h
  | anyOf f gs | allOf f gs | fresh f => exact False.elim hp
  | emit _ _ _ _ _ | emitPast _ _ _ _ | emitAbs _ _ _ _ | release _ | cancel _ | crash _ | restore _ | addHook _ _
  | metric _ _ _ | relay _ _ _ _ _ =>
    exact runAct_guarded FN_guarded e _ (fun _ hf => nomatch hf) (fun _ => trivial) (fun hc => nomatch hc) h

theorem acts_FN (now : Nat) (acts : List Act) {X : Nat → Nat → Prop} {me : Nat} :
    ∀ (e : Eff) (j : SSt) (k : Nat), (∀ a ∈ acts, PlainAct a) → FN chk j k X me now e →
      FN chk (foldFrom k (acts.flatMap fActLines) j) (k + (acts.flatMap fActLines).length) X me now
        (acts.foldl (runAct now) e) := by
  induction acts with
  | nil => intro e j k _ h; exact h
  | cons a r ih =>
    intro e j k hp h
    rw [List.flatMap_cons, foldFrom_append, List.foldl_cons, List.length_append, ← Nat.add_assoc]
    exact ih _ _ _ (fun b hb => hp b (List.mem_cons_of_mem _ hb)) (runAct_FN now e a (hp a (by simp)) h)

theorem FB_judge {e : Eff} {j j' : SSt} {k : Nat} {X : Nat → Nat → Prop} (h : FB chk e j k X)
    (hobjs : j'.objs = j.objs) (hslot : j'.slot = j.slot)
    (hw : ∀ q w, j'.waits.find? (fun w => w.1 == q) = some w → j.waits.find? (fun w => w.1 == q) = some w)
    (hwm : ∀ w ∈ j'.waits, w ∈ j.waits) (hcat : j'.clockAt = j.clock :: j.clockAt)
    (herr : j'.err ≠ some BR) (herrN : chk = true → j'.err = none) : FB chk e j' (k + 1) X := by
  have hobjeq : ∀ g, j'.obj g = j.obj g := by intro g; unfold SSt.obj; rw [hslot]
  have hreseq : ∀ o, resOf j' o = resOf j o := by intro o; unfold resOf; rw [hobjs]
  exact
    { js := ⟨by rw [hobjs]; exact h.js.plain, fun g o hg => by rw [hobjs]; rw [hobjeq] at hg; exact h.js.rng g o hg,
        fun a b o ha hb => by rw [hobjeq] at ha hb; exact h.js.inj a b o ha hb⟩
      len := by rw [hcat, List.length_cons, h.len]
      wpos := fun w hw' => Nat.lt_succ_of_lt (h.wpos w (hwm w hw'))
      rpos := fun o r hr' => by rw [hreseq] at hr'; exact Nat.lt_succ_of_lt (h.rpos o r hr')
      res := fun f hf => by
        obtain ⟨o, rp, ho, hr'⟩ := h.res f hf
        exact ⟨o, rp, by rw [hobjeq]; exact ho, by rw [hreseq]; exact hr'⟩
      unres := fun f o hf ho => by rw [hobjeq] at ho; rw [hreseq]; exact h.unres f o hf ho
      nocb := h.nocb, park1 := h.park1, err := herr, errN := herrN, excl := h.excl, held := h.held
      park := fun f q hf w hw' => by rw [hobjeq]; exact h.park f q hf w (hw q w hw')
      pend := fun q t hqx w hw' => by
        obtain ⟨rp, v, p0, e1, e2, e3⟩ := h.pend q t hqx w (hw q w hw')
        exact ⟨rp, v, p0, by rw [hreseq]; exact e1, cat_tick hcat _ _ e2, e3⟩ }

theorem FB_clock {e : Eff} {j : SSt} {k : Nat} {X : Nat → Nat → Prop} (h : FB chk e j k X) (c : Nat) :
    FB chk e { tick j with clock := c } (k + 1) X :=
  FB_judge h rfl rfl (fun _ _ hf => hf) (fun _ hw => hw) rfl h.err h.errN

/-- lines that leave the future layer of the fold alone and keep its clock -/
def neutK : Line → Bool
  | .hookAdd _ _ => true
  | .hookRun _ _ => true
  | .created => true
  | .other => true
  | .ydelay _ _ _ => true
  | _ => false

/-- … or set the clock (`F`) -/
def neut : Line → Bool
  | .finish _ _ => true
  | l => neutK l

theorem neut_of_neutK (l : Line) (h : neutK l = true) : neut l = true := by
  cases l <;> first | rfl | cases h

theorem FB_neut {e : Eff} {j : SSt} {k : Nat} {X : Nat → Nat → Prop} (l : Line) (hn : neut l = true)
    (h : FB chk e j k X) : FB chk e (stepLine j k l) (k + 1) X := by
  cases l <;> first | (cases hn; done) | exact FB_judge h rfl rfl (fun _ _ hf => hf) (fun _ hw => hw) rfl h.err h.errN

theorem FB_neutrals {e : Eff} {X : Nat → Nat → Prop} (ls : List Line) :
    ∀ (j : SSt) (k : Nat), (∀ l ∈ ls, neut l = true) → FB chk e j k X → FB chk e (foldFrom k ls j) (k + ls.length) X := by
  induction ls with
  | nil => intro j k _ h; exact h
  | cons l r ih =>
    intro j k hn h
    rw [List.length_cons, Nat.add_comm r.length, ← Nat.add_assoc]
    exact ih _ _ (fun x hx => hn x (List.mem_cons_of_mem _ hx)) (FB_neut l (hn l (List.mem_cons_self ..)) h)

theorem FN_neutrals {e : Eff} {X : Nat → Nat → Prop} {me now : Nat} (ls : List Line) :
    ∀ (j : SSt) (k : Nat), (∀ l ∈ ls, neutK l = true) → FN chk j k X me now e →
      FN chk (foldFrom k ls j) (k + ls.length) X me now e := by
  induction ls with
  | nil => intro j k _ h; exact h
  | cons l r ih =>
    intro j k hn h
    have hl := hn l (List.mem_cons_self ..)
    have hck : (stepLine j k l).clock = j.clock := by cases l <;> first | rfl | cases hl
    rw [List.length_cons, Nat.add_comm r.length, ← Nat.add_assoc]
    exact ih _ _ (fun x hx => hn x (List.mem_cons_of_mem _ hx))
      ⟨FB_neut l (neut_of_neutK l hl) h.fb, h.idle, by rw [hck]; exact h.clock⟩

theorem FN_setProcMe {j : SSt} {k : Nat} {X : Nat → Nat → Prop} {me now : Nat} {e : Eff} (h : FN chk j k X me now e)
    (q : Proc) : FN chk j k X me now (e.setProc me q) :=
  FN_frame h rfl (fun sp hsp => Or.inl hsp) (fun x hx => hx)
    (fun i hi => by rw [setProc_procs, List.getElem?_set_ne (Ne.symm hi)])

theorem runHooks_FN (now' : Nat) (hooks : List Nat) (e : Eff) {j : SSt} {k : Nat} {X : Nat → Nat → Prop} {me now : Nat}
    (h : FN chk j k X me now e) : FN chk j k X me now (runHooks now' e hooks) :=
  runHooks_guarded FN_guarded (fun _ _ h => FN_same h rfl rfl rfl rfl) hooks e h

theorem yieldF_FB (now : Nat) (e1 : Eff) (pid : Nat) (p1 : Proc) (rest : List Seg) (f k : Nat) (dm : Bool)
    {j : SSt} {X : Nat → Nat → Prop} (h : FN chk j k X pid now e1) :
    FB chk (segTerm now e1 pid p1 rest (.yieldF f)) (stepLine j k (.wait pid f dm)) (k + 1) X := by
  obtain ⟨hb, hn, hclock⟩ := FN_setProcMe h { p1 with segs := rest }
  obtain ⟨hkp, o, hw, hobj, hnone, hsame⟩ := step_wait j k pid f dm hb.js
  simp only [segTerm]
  generalize stepLine j k (.wait pid f dm) = j' at hkp hw hobj hsame
  generalize e1.setProc pid { p1 with segs := rest } = e2 at hb hn
  have hfp : j'.waits.find? (fun w => w.1 == pid) = some (pid, o, k) := by
    rw [hw, List.find?_cons]; simp
  have hx : futGet (e2.setFut f { futGet e2.ps.futs f with parked := some pid }).ps.futs f =
      { futGet e2.ps.futs f with parked := some pid } := futGet_futSet_same ..
  -- the `w` line shadows the earlier waits of `pid`, which has nothing pending
  have hB : FB chk (e2.setFut f { futGet e2.ps.futs f with parked := some pid }) j' (k + 1) X := by
    refine FB_upd hb (hkp.adv hb.len) (fun o' r h1 => by rw [hsame]; exact h1)
      (fun o' r h1 => Or.inl (by rw [hsame] at h1; exact h1)) ?_ ?_ (fun g hgf => futGet_futSet_ne _ _ _ _ hgf) rfl rfl rfl
      ?_ ?_ (by rw [hx]; exact hb.nocb f) ?_
    · intro w hw'
      rw [hw] at hw'
      rcases List.mem_cons.mp hw' with rfl | h1
      · exact Or.inr (Nat.lt_succ_self k)
      · exact Or.inl h1
    · intro q w hf
      by_cases hq : q = pid
      · rw [hq, hfp] at hf
        cases hf
        exact Or.inr ⟨hobj, hq ▸ hn⟩
      · have : (pid == q) = false := by simp; omega
        rw [hw, List.find?_cons, this] at hf
        exact Or.inl hf
    · intro hr
      rw [hx] at hr ⊢
      obtain ⟨og, rp, h1, h2⟩ := hb.res f hr
      exact ⟨og, rp, hkp.obj f og h1, by rw [hsame]; exact h2⟩
    · intro hr o' ho'
      rw [hx] at hr
      cases Option.some.inj (hobj.symm.trans ho')
      rw [hsame]
      cases hjo : j.obj f with
      | none => exact hnone hjo
      | some o0 =>
        cases Option.some.inj ((hkp.obj f o0 hjo).symm.trans hobj)
        exact hb.unres f _ hr hjo
    · intro q hq
      rw [hx] at hq
      cases hq
      exact Or.inr ⟨hn, fun w hw' => by rw [hfp] at hw'; cases hw'; exact hobj⟩
  split
  · rename_i hr
    cases hq : (e2.setFut f { futGet e2.ps.futs f with parked := some pid }).ps.procs[pid]? with
    | none =>
      rw [resumeParked_noproc _ now f pid (by rw [hx]) hq]
      exact hB
    | some p' =>
      rw [resumeParked_some _ now f pid p' (by rw [hx]) hq]
      refine FB_resumed hB (by rw [hx]) hq (by rw [hx]; exact hr) ?_
      -- the `w` line just read is the later of the two lines
      intro w hw' rp val hres
      rw [hfp] at hw'
      cases hw'
      rw [hsame] at hres
      have := hb.rpos _ _ hres
      show ClockAt chk j' (max rp k) now
      rw [show max rp k = k by omega]
      intro c
      have := cat_keep_new hkp
      rwa [hb.len, hclock c] at this
  · exact hB

theorem FN_segStart {j : SSt} {k : Nat} {X : Nat → Nat → Prop} {pid now : Nat} {e : Eff} (h : FN chk j k X pid now e)
    (tag : Nat) (p : Proc) : FN chk j k X pid now (segStart now e pid tag p) := by
  unfold segStart
  split
  · exact FN_same (FN_setProcMe (FN_same (e' := addObs e (.resume now pid p.send tag)) h rfl rfl rfl rfl) _) rfl rfl rfl rfl
  · exact FN_same (FN_setProcMe h _) rfl rfl rfl rfl

/-- `N`: lines of the other layers before the `w` line (they keep the clock if a `w` line follows) -/
theorem segTerm_FB (now : Nat) (e1 : Eff) (pid : Nat) (p1 : Proc) (rest : List Seg) (t : Term) (k : Nat) (N : List Line)
    {j : SSt} {X : Nat → Nat → Prop} (hN : ∀ l ∈ N, neut l = true) (hNK : ∀ f, t = .yieldF f → ∀ l ∈ N, neutK l = true)
    (h : FN chk j k X pid now e1) :
    FB chk (segTerm now e1 pid p1 rest t) (foldFrom k (N ++ termLine pid p1.daemon t) j)
      (k + (N ++ termLine pid p1.daemon t).length) X := by
  cases t with
  | yieldD d =>
    simp only [termLine, List.append_nil]
    exact FB_neutrals N j k hN (FN_push (FN_setProcMe h _) _ _ _ (Or.inr rfl)).fb
  | yieldF f =>
    rw [foldFrom_append, List.length_append, ← Nat.add_assoc]
    exact yieldF_FB now _ pid _ rest f _ p1.daemon (FN_neutrals N j k (hNK f rfl) h)
  | ret =>
    simp only [termLine, List.append_nil]
    refine FB_neutrals N j k hN (runHooks_FN (me := pid) (now := now) now _ _ ?_).fb
    exact FN_same (FN_setProcMe h _) rfl rfl rfl rfl

theorem runSegment_FB (now : Nat) (e : Eff) (pid tag k : Nat) {j : SSt} {X : Nat → Nat → Prop}
    (hpl : ∀ p, e.ps.procs[pid]? = some p → ∀ seg ∈ p.segs, PlainSeg seg)
    (h : FN chk j k X pid now e) :
    FB chk (runSegment now e pid tag) (foldFrom k (resLines e pid ++ termLines e pid) j)
      (k + (resLines e pid ++ termLines e pid).length) X := by
  rcases runSegment_cases now e pid tag with ⟨he, hidle⟩ | ⟨p, seg, rest, hp, hs, he⟩
  · rw [he, resLines_idle hidle, termLines_idle hidle]; exact h.fb
  · rw [he, resLines_cons hp hs, termLines_cons hp hs, foldFrom_append, List.length_append, ← Nat.add_assoc]
    exact segTerm_FB now _ pid _ rest seg.term _ [] nofun (fun _ _ => nofun)
      (acts_FN now seg.acts _ j k (hpl p hp seg (hs ▸ List.mem_cons_self ..)) (FN_segStart h tag p))

/-- plain segments everywhere; a live process with code left has started (so that a continuation that writes no `R`
    line goes to a process with nothing left to run, `noline` of `JudgeFutureRun.lean`) -/
def OkProc (p : Proc) : Prop := (∀ seg ∈ p.segs, PlainSeg seg) ∧ (p.started = true ∨ p.segs = [])

/-- `P`lain `P`rogram, as it is `V`isible in the state: handler table and live processes -/
structure PPV (ps : PS) : Prop where
  defs : ∀ d ∈ ps.defs, ∀ seg ∈ d.segs, PlainSeg seg
  procs : ∀ (q : Nat) (p : Proc), ps.procs[q]? = some p → OkProc p

theorem FN_spawn {ps : PS} {now k : Nat} {j : SSt} {X : Nat → Nat → Prop}
    (h : FN chk j k X ps.procs.length now ({ ps := ps } : Eff)) (o : Obs) (p : Proc) :
    FN chk j k X ps.procs.length now (spawn (addObs { ps := ps } o) p) := by
  refine FN_frame h rfl (fun sp hsp => Or.inl hsp) (fun x hx => hx) ?_
  intro q hq
  show (ps.procs ++ [p])[q]? = ps.procs[q]?
  by_cases hlt : q < ps.procs.length
  · rw [List.getElem?_append_left hlt]
  · have h1 : ps.procs.length ≤ q := by omega
    rw [List.getElem?_eq_none_iff.mpr h1, List.getElem?_eq_none_iff.mpr (by simp; omega)]

theorem procEff_FB (ps : PS) (now : Nat) (ev : Ev) (k : Nat) {j : SSt} {X : Nat → Nat → Prop} (hpp : PPV ps)
    (h : FN chk j k X (if ev.data = 0 then ps.procs.length else ev.data - 1) now { ps := ps }) :
    FB chk (procEff ps now ev) (foldFrom k (rsLine ps now ev ++ wLine ps now ev) j)
      (k + (rsLine ps now ev ++ wLine ps now ev).length) X := by
  rcases procEff_cases ps now ev with ⟨hd, hf, he⟩ | ⟨d, hd, hf, he⟩ | ⟨hd, he⟩
  · simp only [he, rsLine, wLine, hd, hf, if_true] at h ⊢
    refine (runHooks_FN (me := ps.procs.length) (now := now) now _ _ ?_).fb
    exact FN_same h rfl rfl rfl rfl
  · simp only [he, rsLine, wLine, hd, hf, if_true] at h ⊢
    exact runSegment_FB now _ _ _ _ (fun p hp => spawn_last hp ▸ hpp.defs d (List.mem_of_find?_eq_some hf)) (FN_spawn h _ _)
  · simp only [he, rsLine, wLine, hd, if_false] at h ⊢
    exact runSegment_FB _ _ _ _ _ (fun p hp => (hpp.procs _ p hp).1) h

end HappyModel.C01.FV
