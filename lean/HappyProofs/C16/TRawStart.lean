import HappyProofs.C16.TRawExt
import HappyModel.C16.TierSpec
/-!
Multi-tier read-after-write over every interleaving: sweeps keep the invariant; the first
segment of every multi-tier operation keeps it (`mraw_start`).
-/
namespace HappyModel.C16.Tier
open HappyModel.C16

/-- the continuation part of the invariant only looks at `pend`, `infl`, `epoch`, `back` and the
    tiers' continuations -/
theorem mpi_same {g : Gh} {ms ms' : MSt} (pi : MPI g ms) (hp : ms'.pend = ms.pend) (hi : ms'.infl = ms.infl)
    (he : ms'.epoch = ms.epoch) (hb : ∀ k, aget? ms'.back k = aget? ms.back k)
    (ht : Tiers (fun _ s s' => ∀ x ∈ s'.pend, x ∈ s.pend) ms.tiers ms'.tiers) : MPI g ms' where
  pendS := by rw [hp]; exact pi.pendS
  pendND := by rw [hp]; exact pi.pendND
  infl := by rw [hp, hi]; exact pi.infl
  pb := by rw [hp]; exact pi.pb
  pl := by rw [hp]; exact pi.pl
  db := by rw [hp]; exact pi.db
  dr := by rw [hp]; exact pi.dr
  tg := by
    intro i t k e hm
    rw [hp] at hm
    obtain ⟨hop, rs, rh, h1, h2, h3, h4, h5, h6⟩ := pi.tg i t k e hm
    refine ⟨hop, rs, rh, h1, h2, h3, by rw [he]; exact h4, ?_, ?_⟩
    · intro hee j op hj hjm hk
      rw [he] at hee
      exact (h5 hee j op hj hjm hk).imp id (fun ⟨p, a, b⟩ => ⟨p, hp ▸ a, b⟩)
    · intro s' q hs' hq
      obtain ⟨s, hs, hsub⟩ := ht t s' hs'
      exact h6 s q hs (hsub _ hq)
  bg := by
    intro i k e hm
    rw [hp] at hm
    obtain ⟨hop, rs, h1, hf⟩ := pi.bg i k e hm
    exact ⟨hop, rs, h1, by rw [hb]; exact hf⟩

theorem tp_of_pend {g : Gh} {t : Nat} {s s' : St} (h : TP g t s) (hp : ∀ x ∈ s'.pend, x ∈ s.pend) : TP g t s' :=
  fun x hx => h x (hp x hx)

theorem minv_swept {g : Gh} {ms ms' : MSt} {op : OpK} {lo n : Nat} (h : MInv g ms)
    (hs : Swept op lo n ms.tiers ms'.tiers) (hb : ms'.back = ms.back) (hp : ms'.pend = ms.pend)
    (he : ms'.epoch = ms.epoch) (hi : ms'.infl = ms.infl) : MInv g ms' := by
  refine ⟨h.gi, mpi_same h.pi hp hi he (fun k => by rw [hb]) ?_, ?_, ?_⟩
  rotate_left 2
  · intro j op k hj hm hk
    exact (h.lim j op k hj hm hk).imp (fun ⟨p, a, b⟩ => ⟨p, hp ▸ a, b⟩) id
  · intro t s' hs'
    obtain ⟨s, h1, _, h3, _⟩ := hs t s' hs'
    exact ⟨s, h1, fun x hx => h3 ▸ hx⟩
  · refine mvi_update h.vi none (fun k j _ ⟨p, a, b⟩ => ⟨p, hp ▸ a, b⟩) ?_ ?_ ?_ ?_
    · intro t s' x w hs' hw
      obtain ⟨s, h1, _, _, h4, _⟩ := hs t s' hs'
      exact Or.inl ⟨by simp, t, s, h1, h4 x w hw⟩
    · intro x; exact Or.inl ⟨by simp, by rw [hb]⟩
    · intro t s' hs'
      obtain ⟨s, _, h2, _⟩ := hs t s' hs'
      exact h2
    · intro t s' hs'
      obtain ⟨s, h1, _, h3, _⟩ := hs t s' hs'
      exact tp_of_pend (h.vi.tp t s h1) (fun x hx => h3 ▸ hx)

theorem minv_sweep (cfg : MCfg) {g : Gh} {ms : MSt} (h : MInv g ms) (op : OpK)
    (hop : (∃ k, op = .inv k) ∨ op = .invAll) : MInv g (ms.sweep cfg op) := by
  obtain ⟨hb, hs⟩ := sweep_clean cfg ms op hop h.vi.d
  exact minv_swept h hs hb rfl rfl rfl

theorem minv_sweepLow (cfg : MCfg) {g : Gh} {ms : MSt} (h : MInv g ms) (op : OpK)
    (hop : (∃ k, op = .inv k) ∨ op = .invAll) : MInv g (ms.sweepLow cfg op) := by
  obtain ⟨hb, hs⟩ := sweepLow_clean cfg ms op hop h.vi.d
  exact minv_swept h hs hb rfl rfl rfl


theorem sweep_pend (cfg : MCfg) (ms : MSt) (op : OpK) : (ms.sweep cfg op).pend = ms.pend := rfl
theorem sweep_epoch (cfg : MCfg) (ms : MSt) (op : OpK) : (ms.sweep cfg op).epoch = ms.epoch := rfl
theorem sweep_infl (cfg : MCfg) (ms : MSt) (op : OpK) : (ms.sweep cfg op).infl = ms.infl := rfl

theorem msetPend_infl (ms : MSt) (i : Nat) (p : MPend) : (ms.setPend i p).infl = ms.infl := rfl
theorem msetPend_epoch (ms : MSt) (i : Nat) (p : MPend) : (ms.setPend i p).epoch = ms.epoch := rfl
theorem msetPend_back (ms : MSt) (i : Nat) (p : MPend) : (ms.setPend i p).back = ms.back := rfl
theorem msetPend_tiers (ms : MSt) (i : Nat) (p : MPend) : (ms.setPend i p).tiers = ms.tiers := rfl
theorem msetPend_pend (ms : MSt) (i : Nat) (p : MPend) : (ms.setPend i p).pend = ms.pend ++ [(i, p)] := rfl

structure MAdm (g : Gh) (i : Nat) (op : MOp) : Prop where
  fresh : i ∉ g.started
  tab : (i, op.toOpK) ∈ g.ops

theorem mext_start_nw {g : Gh} {msm ms' : MSt} {i : Nat} {op : OpK} {o : Obs} {extra : List (Nat × MPend)}
    (h : MInv g msm) (hi : i ∉ g.started) (hop : (i, op) ∈ g.ops) (hoi : o.i = i) (hw : wk op = none)
    (hpend : ms'.pend = msm.pend ++ extra)
    (hextra : extra = [] ∨ ∃ p, extra = [(i, p)] ∧ o.res = none ∧ MPendOf op p ∧ inflKey p = none)
    (hres : o.res.isSome → ∀ k, op ≠ .get k)
    (hinfl : ms'.infl = msm.infl) (hepoch : ms'.epoch = msm.epoch) (hback : ms'.back = msm.back)
    (htiers : Tiers (fun _ s s' => s'.cache = s.cache ∧ s'.dirty = s.dirty ∧
      ∀ x ∈ s'.pend, x ∈ s.pend ∨ (x.1 = i ∧ ((∃ v, x.2 = Pend.getHit v) ∨ ∃ k e, x.2 = Pend.getMiss k e))) msm.tiers ms'.tiers)
    (htg : ∀ t k e, (i, MPend.tierGet t k e) ∈ extra → e = cnt msm.epoch k ∧
      ∀ (s' : St) (q : Pend), ms'.tiers[t]? = some s' → (i, q) ∈ s'.pend →
        ∃ v, ∃ s : St, q = Pend.getHit v ∧ msm.tiers[t]? = some s ∧ aget? s.cache k = some v) :
    MInv (g.ext o [i]) ms' := by
  have hwn : ∀ k, wk op ≠ some k := fun k e => by rw [hw] at e; cases e
  have hic : ∀ k, inflCount extra k = 0 := by
    intro k
    rcases hextra with e | ⟨p, e, _, _, hp⟩
    · rw [e]; rfl
    · rw [e, inflCount_cons, hp]; rfl
  exact mext_start h hi hop hoi hpend (hextra.imp id (fun ⟨p, e, h1, h2, _⟩ => ⟨p, e, h1, h2⟩)) hres
    (fun k hk => absurd hk (hwn k)) (fun k => by rw [hinfl, hic]; rfl) (fun k => hepoch ▸ Nat.le_refl _)
    (fun k hk => absurd hk (hwn k)) (fun k _ => by rw [hepoch]) hback htiers htg

theorem mext_start_w (cfg : MCfg) (hrep : cfg.rep = true) {g : Gh} {msm : MSt} {i : Nat} {op : OpK} {o : Obs}
    {p : MPend} {k : Key} {val : Option Nat} (h : MInv g msm) (hi : i ∉ g.started) (hop : (i, op) ∈ g.ops)
    (hoi : o.i = i) (hw : wkv op = some (k, val)) (hor : o.res = none) (hpo : MPendOf op p)
    (hbw : mbwKey p = some k) : MInv (g.ext o [i]) ((msm.enter cfg k).setPend i p) := by
  have hwk : ∀ {x}, wk op = some x ↔ x = k := wk_iff hw
  refine mext_start (extra := [(i, p)]) h hi hop hoi (by rw [msetPend_pend, enter_pend])
    (Or.inr ⟨p, rfl, hor, hpo⟩) (Obs.of_res_none hor) ?_ ?_ ?_ ?_ ?_ (enter_back cfg msm k)
    (fun t s' hs' => ⟨s', (enter_tiers cfg msm k) ▸ hs', rfl, rfl, fun x hx => Or.inl hx⟩) ?_
  · intro x hx
    obtain rfl := hwk.mp hx
    exact ⟨p, List.mem_append_right _ (List.mem_singleton_self _), hbw⟩
  · intro x
    show cnt (msm.enter cfg k).infl x = _
    rw [inflCount_cons, inflKey_of_mbwKey hbw]
    by_cases e : x = k
    · subst e; rw [enter_infl_self cfg hrep, if_pos rfl]; rfl
    · rw [enter_infl_other cfg _ _ _ e, if_neg (fun e' => e (Option.some.inj e').symm)]; rfl
  · intro x
    show _ ≤ cnt (msm.enter cfg k).epoch x
    by_cases e : x = k
    · subst e; rw [enter_epoch_self cfg hrep]; omega
    · rw [enter_epoch_other cfg _ _ _ e]; exact Nat.le_refl _
  · intro x hx
    obtain rfl := hwk.mp hx
    show _ < cnt (msm.enter cfg x).epoch x
    rw [enter_epoch_self cfg hrep]; omega
  · intro x hx
    exact enter_epoch_other cfg _ _ _ (mt hwk.mpr hx)
  · intro t0 k0 e0 hm
    cases List.mem_singleton.mp hm
    cases hbw

theorem onTier_startGet (cfg : MCfg) (ms : MSt) (t i k now : Nat) :
    let r := (onTier cfg ms t (fun c s => start c s i (.get k) now)).1
    r.pend = ms.pend ∧ r.infl = ms.infl ∧ r.epoch = ms.epoch ∧ r.back = ms.back ∧
    (r.tiers = ms.tiers ∧ (cfg.tiers[t]? = none ∨ ms.tiers[t]? = none) ∨
     ∃ s s1 p, ms.tiers[t]? = some s ∧ (∃ c, cfg.tiers[t]? = some c) ∧ r.tiers = ms.tiers.set t s1 ∧
       s1.cache = s.cache ∧ s1.dirty = s.dirty ∧ s1.pend = s.pend ++ [(i, p)] ∧
       ((∃ v, p = .getHit v ∧ aget? s.cache k = some v) ∨ (∃ e, p = .getMiss k e ∧ aget? s.cache k = none))) := by
  rcases onTier_cases cfg ms t (fun c s => start c s i (.get k) now) with ⟨c, s, hc, hs, e⟩ | ⟨why, e⟩ <;> rw [e]
  · obtain ⟨g1, g2, g3, ⟨p, hp, hpc⟩, _⟩ := startGet_clean c (plug s ms.back) i k now
    exact ⟨rfl, rfl, rfl, g3, Or.inr ⟨s, _, p, hs, ⟨c, hc⟩, rfl, g1, g2, hp, hpc⟩⟩
  · exact ⟨rfl, rfl, rfl, rfl, Or.inl ⟨rfl, why⟩⟩

theorem mraw_start (cfg : MCfg) (hrep : cfg.rep = true) {g : Gh} {ms : MSt} (h : MInv g ms) (i : Nat) (op : MOp)
    (now : Nat) (ha : MAdm g i op) (o : Obs) (hoi : o.i = i) (hor : o.res = (mstart cfg ms i op now).2) :
    MInv (g.ext o [i]) (mstart cfg ms i op now).1 := by
  obtain ⟨hi, hop⟩ := ha
  have hnoI : ∀ (t : Nat) (s : St), ms.tiers[t]? = some s → ∀ q, (i, q) ∉ s.pend := by
    intro t s hs q hq
    exact hi (h.vi.tp t s hs _ hq).1
  have sameTiers : ∀ {ms1 : MSt}, Tiers (fun _ s s' => s'.cache = s.cache ∧ s'.dirty = s.dirty ∧
      ∀ x ∈ s'.pend, x ∈ s.pend ∨ (x.1 = i ∧ ((∃ v, x.2 = Pend.getHit v) ∨ ∃ k e, x.2 = Pend.getMiss k e))) ms1.tiers ms1.tiers :=
    fun t s' hs' => ⟨s', hs', rfl, rfl, fun x hx => Or.inl hx⟩
  -- an operation that completes in its first segment, having swept the tiers
  have done : ∀ {ms1 : MSt} {op' : OpK}, MInv g ms1 → (i, op') ∈ g.ops → wk op' = none → (∀ k, op' ≠ .get k) →
      MInv (g.ext o [i]) ms1 := fun h1 hop' hw hng =>
    mext_start_nw (extra := []) h1 hi hop' hoi hw (List.append_nil _).symm (Or.inl rfl) (fun _ => hng) rfl rfl rfl
      sameTiers (fun _ _ _ hm => nomatch hm)
  -- a tier-level `get` started on tier `t`, tier by tier
  have tierStart : ∀ (ms1 : MSt) (t k : Nat), ms1.tiers = ms.tiers → ms1.back = ms.back →
      ms1.pend = ms.pend → ms1.infl = ms.infl → ms1.epoch = ms.epoch →
      let r := (onTier cfg ms1 t (fun c s => start c s i (.get k) now)).1
      r.pend = ms.pend ∧ r.infl = ms.infl ∧ r.epoch = ms.epoch ∧ r.back = ms.back ∧
      Tiers (fun t' s s' => s'.cache = s.cache ∧ s'.dirty = s.dirty ∧
        (∀ x ∈ s'.pend, x ∈ s.pend ∨ (x.1 = i ∧ ((∃ v, x.2 = Pend.getHit v) ∨ ∃ k e, x.2 = Pend.getMiss k e))) ∧
        (t' = t → ∀ q, (i, q) ∈ s'.pend →
          (∃ v, q = Pend.getHit v ∧ aget? s.cache k = some v) ∨ (∃ e, q = Pend.getMiss k e ∧ aget? s.cache k = none)))
        ms.tiers r.tiers := by
    intro ms1 t k e1 e2 e3 e4 e5
    obtain ⟨r1, r2, r3, r4, r5⟩ := onTier_startGet cfg ms1 t i k now
    refine ⟨r1.trans e3, r2.trans e4, r3.trans e5, r4.trans e2, fun t' s' hs' => ?_⟩
    rcases r5 with ⟨et, _⟩ | ⟨s, s1, p, hs, _, et, g1, g2, hp, hpc⟩ <;> rw [et, e1] at hs'
    · exact ⟨s', hs', rfl, rfl, fun x hx => Or.inl hx, fun _ q hq => absurd hq (hnoI t' s' hs' q)⟩
    · rcases getElem?_set_cases hs' with ⟨rfl, rfl⟩ | ⟨_, hold⟩
      · rw [e1] at hs
        have hnew : ∀ x ∈ s'.pend, x ∈ s.pend ∨ x = (i, p) := fun x hx =>
          (List.mem_append.mp (hp ▸ hx)).imp id List.mem_singleton.mp
        refine ⟨s, hs, g1, g2, fun x hx => ?_, fun _ q hq => ?_⟩
        · rcases hnew x hx with hx | rfl
          · exact Or.inl hx
          · exact Or.inr ⟨rfl, hpc.imp (fun ⟨v, e, _⟩ => ⟨v, e⟩) (fun ⟨e', e, _⟩ => ⟨k, e', e⟩)⟩
        · rcases hnew _ hq with hq | e
          · exact absurd hq (hnoI t' s hs q)
          · cases e; exact hpc
      · exact ⟨s', hold, rfl, rfl, fun x hx => Or.inl hx, fun et => absurd et ‹t' ≠ t›⟩
  cases op with
  | get k =>
    unfold mstart at hor ⊢
    cases hf : firstHit k ms.tiers 0 with
    | some t =>
      simp only [hf] at hor ⊢
      obtain ⟨j, sh, ej, hsh, hkh⟩ := firstHit_some k ms.tiers 0 t hf
      have ej : t = j := by omega
      subst ej
      obtain ⟨r1, r2, r3, r4, r5⟩ := tierStart { ms with acc := aset ms.acc k (cnt ms.acc k + 1) } t k rfl rfl rfl rfl rfl
      refine mext_start_nw (extra := [(i, .tierGet t k (cnt ms.epoch k))]) h hi hop hoi rfl
        (by rw [msetPend_pend, r1]) (Or.inr ⟨_, rfl, hor, rfl, rfl⟩) (by rw [hor]; exact nofun)
        r2 r3 r4 (fun t' s' hs' => by
          obtain ⟨s, a1, a2, a3, a4, _⟩ := r5 t' s' hs'
          exact ⟨s, a1, a2, a3, a4⟩) ?_
      intro t0 k0 e0 hm
      cases List.mem_singleton.mp hm
      refine ⟨rfl, fun s' q hs' hq => ?_⟩
      obtain ⟨s, a1, _, _, _, a5⟩ := r5 t s' hs'
      rcases a5 rfl q hq with ⟨v, hq', hv⟩ | ⟨e', _, hv⟩
      · exact ⟨v, s, hq', a1, hv⟩
      · -- the tier holds the key, so the tier-level `get` is a hit
        rw [a1] at hsh; cases hsh
        exact absurd hkh ((aget?_none_iff _ _).mp hv)
    | none =>
      simp only [hf] at hor ⊢
      exact mext_start_nw (extra := [(i, .backGet k (cnt ms.epoch k))]) h hi hop hoi rfl rfl
        (Or.inr ⟨_, rfl, hor, rfl, rfl⟩) (by rw [hor]; exact nofun) rfl rfl rfl
        sameTiers (fun t0 k0 e0 hm => by simp at hm)
  | put k v =>
    exact mext_start_w cfg hrep (p := .putBack k v) h hi hop hoi rfl hor ⟨rfl, rfl⟩ rfl
  | del k =>
    have e : (ms.enter cfg k).sweep cfg (.inv k) = (ms.sweep cfg (.inv k)).enter cfg k := by
      simp only [MSt.enter, hrep, if_true]; rfl
    unfold mstart
    simp only [e]
    exact mext_start_w cfg hrep (p := .delBack k) (minv_sweep cfg h (.inv k) (Or.inl ⟨k, rfl⟩)) hi hop hoi rfl hor rfl rfl
  | inv k => exact done (minv_sweep cfg h (.inv k) (Or.inl ⟨k, rfl⟩)) hop rfl nofun
  | invAll =>
    have h1 : MInv g { ms.sweep cfg .invAll with acc := [] } := by
      obtain ⟨a, b, c, d⟩ := minv_sweep cfg h .invAll (Or.inr rfl)
      exact ⟨a, mpi_same b rfl rfl rfl (fun _ => rfl) (fun t s' hs' => ⟨s', hs', fun _ hx => hx⟩), ⟨c.c, c.b, c.d, c.tp⟩, d⟩
    exact done h1 hop rfl nofun
  | tget t k =>
    unfold mstart at hor ⊢
    obtain ⟨r1, r2, r3, r4, r5⟩ := tierStart ms t k rfl rfl rfl rfl rfl
    exact mext_start_nw (extra := [(i, .direct t)]) h hi hop hoi rfl
      (by rw [msetPend_pend, r1]) (Or.inr ⟨_, rfl, hor, trivial, rfl⟩) (by rw [hor]; exact nofun)
      r2 r3 r4 (fun t' s' hs' => by
        obtain ⟨s, a1, a2, a3, a4, _⟩ := r5 t' s' hs'
        exact ⟨s, a1, a2, a3, a4⟩)
      (fun t0 k0 e0 hm => by simp at hm)

end HappyModel.C16.Tier
