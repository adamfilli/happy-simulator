import HappyProofs.C14.EvLog
namespace HappyModel.C14

/-- a read of `k` that ran over segments `[b, e]` returned the cell of the newest insert before it began,
    or the cell of an insert that happened while it ran -/
def ReadOk (log : List Ev) (k : Key) (b e : Nat) (c : Cell) : Prop :=
  c = (firstOn k (log.filter fun ev => ev.n < b)).join ∨
  ∃ ev ∈ log, ev.key = k ∧ ev.cell = c ∧ b < ev.n ∧ ev.n < e

structure ReadFacts (start : Nat → Pc) (y : Sys) (log : List Ev) : Prop where
  getRes : ∀ f ∈ y.frames, ∀ k c, start f.id = .gStart k → f.pc = .done (.val c) →
    ∀ b e, f.b = some b → f.e = some e → ReadOk log k b e c
  scanRes : ∀ f ∈ y.frames, ∀ lo hi d, start f.id = .sStart lo hi → f.pc = .done (.rows d) →
    ∀ b e, f.b = some b → f.e = some e →
      sortedStrict d = true ∧ (∀ r ∈ d, lo ≤ r.1 ∧ r.1 < hi) ∧ ∀ k, lo ≤ k → k < hi → ReadOk log k b e (d.lookup k)

end HappyModel.C14
