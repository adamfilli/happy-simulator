import HappyProofs.C06.Run
import HappyProofs.C06.TimeWindow
/-!
# C06 — property theorems

"While an entity is crashed or paused by a fault it executes nothing: no handler runs, no in-flight
process advances, and it emits no events; processing resumes from the restart time and other
entities are unaffected. A partition, added latency, packet loss or reduced capacity is in effect for
its target exactly while at least one fault window covering that target is active, whatever other
faults overlap it, and once every window has ended the system is back to its configured state.
Cancelling a fault handle before activation prevents the fault entirely."

All statements are about the model of the *repaired* code (`fixes/C06-*.diff`), for **every** case
(fault plan of any length with arbitrary, overlapping, nested, identical windows on the same or
different targets; any jobs; any probes) and **every** schedule `tr` of processed events that is
well-formed (`WF`: each activation at most once and before the end of its window; an end of a window
that is not active only for a partition opened before — what the engine's exactly-once, ordered
delivery gives) and legitimate (`Legit`: only events of scheduled,
not-cancelled faults — cancelled events are never delivered).  "Active at step k" is
`activeAfter c.faults (tr.take k)`: activated and not yet deactivated among the first `k` processed events.
-/
namespace HappyModel.C06

/-- **effect_iff_active** — at every point of every run, every effective setting equals the
    configured value combined with the contributions of exactly the windows active at that point:
    down ⇔ (number of active crash/pause windows on the entity) > 0; blocked ⇔ active partitions
    covering the direction; latency = base + Σ active extras; loss = min(1, base + Σ active extras);
    capacity = base × Π active factors. -/
theorem effect_iff_active (c : Case) (tr : List Pop) (k : Nat) (hwf : WF c.faults tr) (hl : Legit c tr) :
    Effects c (stateAt c tr k).ws (activeAfter c.faults (tr.take k)) :=
  effects_of_inv c _ _ (inv_at c tr k hwf hl)

/-- in particular: a direction is blocked ⇔ some partition window covering it is active -/
theorem blocked_iff_covering_window_active (c : Case) (tr : List Pop) (k : Nat) (hwf : WF c.faults tr)
    (hl : Legit c tr) (a b : Nat) :
    (stateAt c tr k).ws.blocked a b = true ↔
      ∃ f ∈ activeAfter c.faults (tr.take k), covers c.faults f a b := by
  rw [(effect_iff_active c tr k hwf hl).blocked a b]; exact specBlocked_iff _ _ _ _

/-- … and an entity is down ⇔ some crash/pause window on it is active -/
theorem down_iff_window_active (c : Case) (tr : List Pop) (k : Nat) (hwf : WF c.faults tr)
    (hl : Legit c tr) (e : Nat) :
    (stateAt c tr k).ws.down e = true ↔
      ∃ f ∈ activeAfter c.faults (tr.take k), 0 < downC c.faults f e := by
  rw [(effect_iff_active c tr k hwf hl).down e, decide_eq_true_eq]; exact specDown_pos_iff _ _ _

/-- **all_ended_restores_base** — once every window has ended the configured state is back -/
theorem all_ended_restores_base (c : Case) (tr : List Pop) (k : Nat) (hwf : WF c.faults tr) (hl : Legit c tr)
    (hend : activeAfter c.faults (tr.take k) = []) :
    (∀ e, (stateAt c tr k).ws.down e = false) ∧
    (∀ a b, (stateAt c tr k).ws.blocked a b = false) ∧
    (∀ a b, (stateAt c tr k).ws.latOf (c.baseLat a b) a b = c.baseLat a b) ∧
    (∀ a b, (stateAt c tr k).ws.lossOf (c.baseLoss a b) a b = min SC (c.baseLoss a b)) ∧
    (stateAt c tr k).ws.capOf c.cap = c.cap * SC := by
  have h := effect_iff_active c tr k hwf hl
  rw [hend] at h
  refine ⟨fun e => ?_, fun a b => ?_, fun a b => ?_, fun a b => ?_, ?_⟩
  · rw [h.down e]; simp [specDown, sumOver]
  · rw [h.blocked a b]; simp [specBlocked, sumOver]
  · rw [h.lat a b]; simp [specLat, sumOver]
  · rw [h.loss a b]; simp [specLoss, sumOver]
  · rw [h.cap]; simp [specCap, specCapB, prodOver]

/-- **capacity_tracks_live_configuration** — the effective capacity is the capacity the model has
    *currently* configured (`St.base`: as built, or what it last passed to `Resource.set_capacity` —
    before, inside or between windows) times the factors of exactly the `ReduceCapacity` windows
    active at that point -/
theorem capacity_tracks_live_configuration (c : Case) (tr : List Pop) (k : Nat) (hwf : WF c.faults tr)
    (hl : Legit c tr) :
    (stateAt c tr k).ws.capOf (stateAt c tr k).base =
      specCapB c (stateAt c tr k).base (activeAfter c.faults (tr.take k)) ∧
    (activeAfter c.faults (tr.take k) = [] →
      (stateAt c tr k).ws.capOf (stateAt c tr k).base = (stateAt c tr k).base * SC) := by
  have h := (effect_iff_active c tr k hwf hl).capB (stateAt c tr k).base
  refine ⟨h, fun hend => ?_⟩
  rw [h, hend]; simp [specCapB, prodOver]

/-- the configured capacity is what the model last set -/
theorem setcap_sets_base (c : Case) (tr : List Pop) (k t v : Nat) (hp : tr[k]? = some (.setcap t v)) :
    (stateAt c tr (k + 1)).base = v ∧ (stateAt c tr (k + 1)).ws = (stateAt c tr k).ws := by
  rw [stateAt_succ c tr k _ hp]
  exact ⟨by rw [step_setcap, setCap_base], (frame_step c _ (.setcap t v) rfl).ws⟩

/-- what "nothing happened to the workload" means for one step -/
structure Untouched (s s' : St) : Prop where
  pc : ∀ j, (s'.procs j).pc = (s.procs j).pc
  grants : ∀ j, (s'.procs j).grants = (s.procs j).grants
  emis : s'.emis = s.emis
  futs : s'.futs = s.futs
  avail : s'.avail = s.avail
  waiters : s'.waiters = s.waiters
  ws : s'.ws = s.ws

theorem untouched_dropPop (s : St) (p : Pop) : Untouched s (dropPop s p) := by
  cases p with
  | job t j cont =>
    -- the dropped job is marked dead: its record keeps `pc` and `grants`
    refine ⟨fun i => (frame_setSt s j .dead).pc i (by simp), fun i => ?_, rfl, rfl, rfl, rfl, rfl⟩
    show (upd s.procs j _ i).grants = _
    by_cases h : i = j
    · rw [h, upd_same]
    · rw [upd_other _ _ _ _ h]
  | _ => exact ⟨fun _ => rfl, fun _ => rfl, rfl, rfl, rfl, rfl, rfl⟩

/-- **crashed_executes_nothing** — an event (delivery of a job, continuation of an in-flight generator
    process, probe hop or probe delivery) whose target has an active crash or pause window runs
    nothing: no activity token, no process of any entity advances, nothing is emitted, no future,
    grant or resource waiter changes; the dropped process never resumes (`dropPop`). -/
theorem crashed_executes_nothing (c : Case) (tr : List Pop) (k : Nat) (p : Pop) (e : Nat)
    (hwf : WF c.faults tr) (hl : Legit c tr) (hp : tr[k]? = some p) (he : popEntity c p = some e)
    (hdown : ∃ f ∈ activeAfter c.faults (tr.take k), 0 < downC c.faults f e) :
    (step c (stateAt c tr k) p).2 = [] ∧
    stateAt c tr (k + 1) = dropPop (stateAt c tr k) p ∧
    Untouched (stateAt c tr k) (stateAt c tr (k + 1)) := by
  rw [stateAt_succ c tr k p hp, step_down he ((down_iff_window_active c tr k hwf hl e).mpr hdown)]
  exact ⟨rfl, rfl, untouched_dropPop _ _⟩

/-- **no process of a down entity advances** — whatever event is processed while an entity has an active
    crash or pause window (its own delivery or continuation, another entity resolving a future it is
    parked on, a grant released to it, a fault event), the program counter of its jobs stays -/
theorem no_process_of_down_entity_advances (c : Case) (tr : List Pop) (k i : Nat) (p : Pop)
    (hwf : WF c.faults tr) (hl : Legit c tr) (hp : tr[k]? = some p)
    (hdown : ∃ f ∈ activeAfter c.faults (tr.take k), 0 < downC c.faults f (c.job i).ent) :
    ((stateAt c tr (k + 1)).procs i).pc = ((stateAt c tr k).procs i).pc := by
  by_cases hj : popJob p = some i
  · cases p with
    | job t j cont =>
      have : j = i := by simpa [popJob] using hj
      subst this
      exact (crashed_executes_nothing c tr k _ _ hwf hl hp rfl hdown).2.2.pc j
    | _ => simp [popJob] at hj
  · rw [stateAt_succ c tr k p hp]
    exact process_advances_only_at_own_events c _ p i hj

/-- **others_ungated** — an event whose target has no active crash/pause window is handled by the ungated
    engine `stepOpen` (which reads the partition, latency, loss and capacity windows and never the
    crash state), whatever windows are active on other entities -/
theorem others_ungated (c : Case) (tr : List Pop) (k : Nat) (p : Pop) (e : Nat)
    (hwf : WF c.faults tr) (hl : Legit c tr) (he : popEntity c p = some e)
    (hup : ∀ f ∈ activeAfter c.faults (tr.take k), downC c.faults f e = 0) :
    step c (stateAt c tr k) p = stepOpen c (stateAt c tr k) p := by
  refine step_up he ?_
  cases h : (stateAt c tr k).ws.down e with
  | false => rfl
  | true =>
    obtain ⟨f, hf, hpos⟩ := (down_iff_window_active c tr k hwf hl e).mp h
    have := hup f hf; omega

/-- **restart_resumes** — once every crash/pause window on an entity has ended, a job delivered to
    it is entered and an in-flight process of it whose wake-up is due resumes -/
theorem restart_resumes (c : Case) (tr : List Pop) (k t j : Nat) (cont : Bool)
    (hwf : WF c.faults tr) (hl : Legit c tr)
    (hup : ∀ f ∈ activeAfter c.faults (tr.take k), downC c.faults f (c.job j).ent = 0) :
    (cont = false → ((stateAt c tr k).procs j).st = .idle →
      ∃ rest, (step c (stateAt c tr k) (.job t j false)).2 = .enter :: rest) ∧
    (cont = true → (((stateAt c tr k).procs j).st = .sleeping t ∨ ((stateAt c tr k).procs j).st = .ready) →
      ∃ rest, (step c (stateAt c tr k) (.job t j true)).2 = .w ((stateAt c tr k).procs j).pc :: rest) := by
  constructor
  · intro _ hidle
    rw [others_ungated c tr k (.job t j false) _ hwf hl rfl hup]
    simp [stepOpen, hidle]
  · intro _ hst
    rw [others_ungated c tr k (.job t j true) _ hwf hl rfl hup]
    rcases hst with h | h <;> simp [stepOpen, h, resumeJob]

/-- **cancelled_fault_is_noop** — a fault whose events are never delivered (its handle was cancelled
    before activation) is never active, and every effective setting at every point of the run is
    what it would be if *any other fault* `g` stood in its place in the plan: the cancelled fault's
    kind, target, parameters and window have no effect at all. -/
theorem cancelled_fault_is_noop (c : Case) (tr : List Pop) (k f : Nat) (g : Fault)
    (hwf : WF c.faults tr) (hl : Legit c tr) (hno : ∀ t a, Pop.fault t f a ∉ tr) :
    f ∉ activeAfter c.faults (tr.take k) ∧
    (let c' := { c with faults := c.faults.set f g }
     ∀ e a b,
      (stateAt c tr k).ws.down e = decide (0 < specDown c'.faults (activeAfter c.faults (tr.take k)) e) ∧
      (stateAt c tr k).ws.blocked a b = specBlocked c'.faults (activeAfter c.faults (tr.take k)) a b ∧
      (stateAt c tr k).ws.latOf (c.baseLat a b) a b = specLat c' (activeAfter c.faults (tr.take k)) a b ∧
      (stateAt c tr k).ws.lossOf (c.baseLoss a b) a b = specLoss c' (activeAfter c.faults (tr.take k)) a b ∧
      (stateAt c tr k).ws.capOf c.cap = specCap c' (activeAfter c.faults (tr.take k))) := by
  have hna : f ∉ activeAfter c.faults (tr.take k) :=
    not_mem_foldl_actStep c.faults f _ [] (take_subset_no_fault k hno) (by simp)
  refine ⟨hna, ?_⟩
  intro c' e a b
  -- the window state is the one the active list prescribes under the other plan as well
  have h : Effects c' (stateAt c tr k).ws (activeAfter c.faults (tr.take k)) :=
    effects_of_inv c' _ _ (winv_iff.mpr ((winv_iff.mp (inv_at c tr k hwf hl)).trans
      (WS.ofActive_congr fun x hx => kindOf_set_ne c.faults f x g fun hxf => hna (hxf ▸ hx)).symm))
  exact ⟨h.down e, h.blocked a b, h.lat a b, h.loss a b, h.cap⟩

theorem clear_of_down (fs : List Fault) (f e : Nat) (h : 0 < downC fs f e) (tr : List Pop) :
    Clear fs f tr := by
  intro hp
  exfalso
  unfold downC at h
  unfold isPartF at hp
  cases hk : kindOf fs f with
  | none => simp [hk] at h
  | some kd => cases kd <;> simp_all

/-- **up_from_restart_time** — "processing resumes from the restart time": an entity is up when an event
    is processed at a time `t` in none of its crash / pause windows `[s, r)` (in particular at
    `t = r`), provided the ends of its windows due by `t` come before this event in the schedule
    (fault boundaries first at their instant: `FaultSchedule.start` + C01) -/
theorem up_from_restart_time (c : Case) (tr : List Pop) (k : Nat) (p : Pop) (e : Nat)
    (hwf : WF c.faults tr) (hl : Legit c tr) (hs : Sorted tr) (hp : tr[k]? = some p)
    (hend : ∀ f ft, c.faults[f]? = some ft → 0 < downC c.faults f e →
      (∀ t, Pop.fault t f true ∈ tr → t = ft.s) ∧
      (∀ r', ft.r = some r' → r' ≤ p.time → Pop.fault r' f false ∈ tr.take k) ∧
      (p.time < ft.s ∨ ∃ r', ft.r = some r' ∧ r' ≤ p.time)) :
    (stateAt c tr k).ws.down e = false := by
  cases h : (stateAt c tr k).ws.down e with
  | false => rfl
  | true =>
    exfalso
    obtain ⟨f, hf, hpos⟩ := (down_iff_window_active c tr k hwf hl e).mp h
    have hex : ∃ ft, c.faults[f]? = some ft := by
      cases hx : c.faults[f]? with
      | none => simp [downC, kindOf, hx] at hpos
      | some ft => exact ⟨ft, rfl⟩
    obtain ⟨ft, hx⟩ := hex
    obtain ⟨h1, h2, h3⟩ := hend f ft hx hpos
    have hin := in_window_of_active c.faults tr k p f ft.s ft.r hwf hs
      (clear_of_down c.faults f e hpos tr) hp h1 h2 hf
    rcases h3 with h3 | ⟨r', hr', hle⟩
    · omega
    · have := hin.2 r' hr'; omega

/-- … so a job delivered at the restart instant (or any later time outside the windows) is entered -/
theorem delivery_at_restart_time_runs (c : Case) (tr : List Pop) (k t j : Nat)
    (hwf : WF c.faults tr) (hl : Legit c tr) (hs : Sorted tr) (hp : tr[k]? = some (.job t j false))
    (hidle : ((stateAt c tr k).procs j).st = .idle)
    (hend : ∀ f ft, c.faults[f]? = some ft → 0 < downC c.faults f (c.job j).ent →
      (∀ t', Pop.fault t' f true ∈ tr → t' = ft.s) ∧
      (∀ r', ft.r = some r' → r' ≤ t → Pop.fault r' f false ∈ tr.take k) ∧
      (t < ft.s ∨ ∃ r', ft.r = some r' ∧ r' ≤ t)) :
    ∃ rest, (step c (stateAt c tr k) (.job t j false)).2 = .enter :: rest := by
  rw [step_up rfl (up_from_restart_time c tr k (.job t j false) (c.job j).ent hwf hl hs hp hend)]
  exact ⟨_, by rw [stepOpen, if_pos hidle]⟩

/-- **cancel_before_activation_prevents** — if the handle of fault `f` is cancelled by the `i`-th processed
    event and no event of `f` was processed before, no event of `f` is ever processed and `f` is never
    active (then `cancelled_fault_is_noop` applies).  Likewise for a handle cancelled before the run
    starts — before or after the `Simulation` was built (`Case.initCanc`). -/
theorem cancel_before_activation_prevents (c : Case) (tr : List Pop) (i t f : Nat) (hl : Legit c tr)
    (hc : tr[i]? = some (.cancel t f) ∨ f ∈ c.initCanc)
    (hbefore : ∀ t' a, Pop.fault t' f a ∉ tr.take i) :
    (∀ t' a, Pop.fault t' f a ∉ tr) ∧ ∀ k, f ∉ activeAfter c.faults (tr.take k) := by
  have hno : ∀ t' a, Pop.fault t' f a ∉ tr := by
    rcases hc with hc | hc
    · intro t' a hm
      have hafter := legit_after_cancel c t f tr c.initCanc i hl.2 hc t' a
      rw [← List.take_append_drop (i + 1) tr] at hm
      rcases List.mem_append.mp hm with h | h
      · rw [List.take_add_one, hc] at h
        rcases List.mem_append.mp h with h | h
        · exact hbefore t' a h
        · simp at h
      · exact hafter h
    · exact legit_no_fault_of_canc c f tr _ hl.2 hc
  exact ⟨hno, fun k => not_mem_foldl_actStep c.faults f _ [] (take_subset_no_fault k hno) (by simp)⟩

/-- **cancel_is_silent** — the call of `FaultHandle.cancel()` itself changes no setting and no
    window: a handle cancelled while its window is active leaves the window as it is (its end never
    comes: `Legit`), a handle cancelled after the window ended changes nothing at all -/
theorem cancel_is_silent (c : Case) (tr : List Pop) (k t f : Nat) (hp : tr[k]? = some (.cancel t f)) :
    (stateAt c tr (k + 1)).ws = (stateAt c tr k).ws ∧
    activeAfter c.faults (tr.take (k + 1)) = activeAfter c.faults (tr.take k) := by
  refine ⟨?_, ?_⟩
  · rw [stateAt_succ c tr k _ hp, step_cancel]
  · rw [activeAfter_succ c.faults tr k _ hp]; rfl

/-- **heal_all_ends_every_partition** — `heal_partition()` on network `k` unblocks every direction
    of that network, ends exactly the partition windows of that network that are open (scheduled and
    manual), and leaves the other networks' partitions, crash state, latency, loss and capacity as
    they are -/
theorem heal_all_ends_every_partition (c : Case) (tr : List Pop) (k t net : Nat)
    (hp : tr[k]? = some (.healall t net)) :
    (∀ a b, netOf a = net → (stateAt c tr (k + 1)).ws.blocked a b = false) ∧
    (∀ a b, netOf a ≠ net →
      (stateAt c tr (k + 1)).ws.blocked a b = (stateAt c tr k).ws.blocked a b) ∧
    (∀ e, (stateAt c tr (k + 1)).ws.down e = (stateAt c tr k).ws.down e) ∧
    (∀ base a b, (stateAt c tr (k + 1)).ws.latOf base a b = (stateAt c tr k).ws.latOf base a b) ∧
    (∀ base a b, (stateAt c tr (k + 1)).ws.lossOf base a b = (stateAt c tr k).ws.lossOf base a b) ∧
    (∀ cap, (stateAt c tr (k + 1)).ws.capOf cap = (stateAt c tr k).ws.capOf cap) ∧
    activeAfter c.faults (tr.take (k + 1)) =
      (activeAfter c.faults (tr.take k)).filter (fun f => !partOnF c.faults net f) := by
  rw [stateAt_succ c tr k _ hp, step_healall, activeAfter_succ c.faults tr k _ hp]
  refine ⟨fun a b ha => ?_, fun a b ha => ?_, fun e => rfl, fun _ a b => rfl, fun _ a b => rfl,
    fun _ => rfl, rfl⟩
  · simp [WS.healAll, WS.blocked, ha]
  · simp [WS.healAll, WS.blocked, ha]

/-- **stale_heal_is_noop** — the end of a window that is not active any more (a second
    `Partition.heal()` on the same handle, a `heal()` or the scheduled end of a `NetworkPartition`
    after `Network.heal_partition()` swept it) leaves the whole window state as it is: it cannot
    take away the reference another, still active partition holds on the same pair -/
theorem stale_heal_is_noop (c : Case) (tr : List Pop) (k t f : Nat) (hwf : WF c.faults tr)
    (hl : Legit c tr) (hp : tr[k]? = some (.fault t f false))
    (hna : f ∉ activeAfter c.faults (tr.take k)) :
    (stateAt c tr (k + 1)).ws = (stateAt c tr k).ws ∧
    activeAfter c.faults (tr.take (k + 1)) = activeAfter c.faults (tr.take k) := by
  have hact : activeAfter c.faults (tr.take (k + 1)) = activeAfter c.faults (tr.take k) := by
    rw [activeAfter_succ c.faults tr k _ hp]; exact List.erase_of_not_mem hna
  refine ⟨?_, hact⟩
  -- both states are the one the same active list prescribes; citing `winv_deactivate_stale` instead
  -- would mean discharging `faultBad = false` for this step a second time (`ginv_step` does it)
  have h1 := inv_at c tr (k + 1) hwf hl
  rw [hact] at h1
  exact winv_unique c.faults _ _ _ h1 (inv_at c tr k hwf hl)

/-! ### non-vacuity: a concrete plan with overlapping windows of every kind satisfies the hypotheses,
and the conclusions say something about it (for the restart instant, `exTr3`: in part, see there) -/

instance (fs : List Fault) (tr : List Pop) : Decidable (WF fs tr) := by unfold WF; exact inferInstance
instance (c : Case) (tr : List Pop) : Decidable (Legit c tr) := by unfold Legit; exact inferInstance

/-- crash [100, 800) ⊃ pause [200, 300) on worker 0; two partitions {0}|{1} [100,500) ⊃ [200,300);
    two latency windows on 0→1; one capacity window; one cancelled loss fault (index 7) -/
def exCase : Case :=
  { n := 2, cap := 8, links := [⟨0, 1, 10, 0⟩, ⟨1, 0, 10, 0⟩],
    faults := [⟨.crash 0, 100, some 800, false, false, 0⟩, ⟨.pause 0, 200, some 300, false, false, 0⟩,
               ⟨.part false [0] [1], 100, some 500, false, false, 0⟩, ⟨.part false [0] [1], 200, some 300, false, false, 0⟩,
               ⟨.lat 0 1 5, 100, some 500, false, false, 0⟩, ⟨.lat 0 1 7, 200, some 300, false, false, 0⟩,
               ⟨.cap 1 2, 100, some 500, false, false, 0⟩, ⟨.loss 0 1 1024, 50, some 60, true, false, 0⟩],
    jobs := [⟨0, [.sleep 150, .emit 10]⟩, ⟨1, [.sleep 5]⟩, ⟨0, [.sleep 1]⟩],
    probes := [⟨0, 1, 0⟩, ⟨1, 0, 0⟩] }

def exTr : List Pop :=
  [.job 0 0 false, .fault 100 0 true, .fault 100 2 true, .fault 100 4 true, .fault 100 6 true,
   .job 150 0 true,                                   -- 5: in-flight process of the crashed worker
   .job 160 1 false,                                  -- 6: bystander
   .fault 200 1 true, .fault 200 3 true, .fault 200 5 true,
   .fault 300 1 false, .fault 300 3 false, .fault 300 5 false,
   .nsend 350 0,                                      -- 13: probe while one partition is still active
   .fault 500 2 false, .fault 500 4 false, .fault 500 6 false,
   .nsend 600 1, .nhop 610 1, .recv 610 1,            -- 19: delivery to the still crashed worker
   .fault 800 0 false,
   .job 900 2 false]                                  -- 21: after the restart

example : WF exCase.faults exTr ∧ Legit exCase exTr := by decide +kernel

/-- hypotheses of `crashed_executes_nothing` hold at step 5 (process in flight) and step 19
    (delivery), and at step 13 the pause has ended but the crash has not -/
example :
    (∃ f ∈ activeAfter exCase.faults (exTr.take 5), 0 < downC exCase.faults f 0) ∧
    (∃ f ∈ activeAfter exCase.faults (exTr.take 19), 0 < downC exCase.faults f 0) ∧
    activeAfter exCase.faults (exTr.take 13) = [6, 4, 2, 0] ∧
    activeAfter exCase.faults (exTr.take 10) = [5, 3, 1, 6, 4, 2, 0] := by decide +kernel

/-- the conclusions are not trivial: the run reaches states with stacked settings, and the process
    in flight (job 0, suspended in op 0) is not resumed at step 5 while the bystander runs -/
example :
    specLat exCase (activeAfter exCase.faults (exTr.take 10)) 0 1 = 22 ∧
    specLat exCase (activeAfter exCase.faults (exTr.take 13)) 0 1 = 15 ∧
    specBlocked exCase.faults (activeAfter exCase.faults (exTr.take 13)) 0 1 = true ∧
    specCap exCase (activeAfter exCase.faults (exTr.take 13)) = 4 * SC ∧
    specDown exCase.faults (activeAfter exCase.faults (exTr.take 13)) 0 = 1 ∧
    (step exCase (stateAt exCase exTr 5) (.job 150 0 true)).2 = [] ∧
    (step exCase (stateAt exCase exTr 6) (.job 160 1 false)).2 = [.enter] ∧
    (step exCase (stateAt exCase exTr 13) (.nsend 350 0)).2 = [.part] ∧
    (step exCase (stateAt exCase exTr 19) (.recv 610 1)).2 = [] := by decide +kernel

set_option maxRecDepth 8192 in
/-- hypotheses of `all_ended_restores_base`, `restart_resumes`, `others_ungated` (step 6: worker 1
    has no window while worker 0 is crashed) and `cancelled_fault_is_noop` (fault 7) hold -/
example :
    activeAfter exCase.faults (exTr.take 21) = [] ∧
    ((stateAt exCase exTr 21).procs 2).st = .idle ∧
    (∀ f ∈ activeAfter exCase.faults (exTr.take 6), downC exCase.faults f 1 = 0) ∧
    (step exCase (stateAt exCase exTr 21) (.job 900 2 false)).2 = [.enter] ∧
    (∀ p ∈ exTr, ∀ t a, p ≠ Pop.fault t 7 a) := by
  refine ⟨by decide +kernel, by decide +kernel, by decide +kernel, by decide +kernel, ?_⟩
  -- the fault ids that occur in the schedule are read off by evaluation
  have h : (exTr.all fun p => match p with | .fault _ f _ => f != 7 | _ => true) = true := by
    decide +kernel
  intro p hp t a he
  have := List.all_eq_true.mp h p hp
  rw [he] at this
  exact Bool.false_ne_true this

instance (tr : List Pop) : Decidable (Sorted tr) := by unfold Sorted; exact inferInstance

/-- hypotheses of `active_of_inside` / `inside_of_active` hold for the example schedule: it is
    time-ordered, and at step 13 (time 350) the crash window (100, 800) is strictly around it -/
example :
    Sorted exTr ∧ exTr[13]? = some (.nsend 350 0) ∧ Pop.fault 100 0 true ∈ exTr ∧
    Pop.fault 800 0 false ∈ exTr ∧ 0 ∈ activeAfter exCase.faults (exTr.take 13) := by decide +kernel

/-- scheduled partition {0}|{1} [100, 400) (fault 0); a manual `Network.partition([0],[1])` at 300
    (window 1), healed at 460 and again at 470; latency fault 2 whose handle is cancelled at 50, before
    its start at 100; crash fault 3 whose handle is cancelled before the run; latency fault 4
    [100, 500) whose handle is cancelled at 250, inside its window -/
def exCase2 : Case :=
  { n := 2, cap := 8, links := [⟨0, 1, 10, 0⟩, ⟨1, 0, 10, 0⟩],
    faults := [⟨.part false [0] [1], 100, some 400, false, false, 0⟩,
               ⟨.part false [0] [1], 300, none, false, true, 0⟩,
               ⟨.lat 0 1 5, 100, some 500, false, false, 0⟩,
               ⟨.crash 0, 100, some 800, true, false, 0⟩,
               ⟨.lat 0 1 7, 100, some 500, false, false, 0⟩],
    probes := [⟨0, 1, 0⟩] }

def exTr2 : List Pop :=
  [.cancel 50 2,                -- 0: before activation
   .fault 100 0 true, .fault 100 4 true,
     .healall 200 0,                -- 3: sweeps window 0, leaves the latency window
   .cancel 250 4,               -- 4: inside the window: it never ends
   .fault 300 1 true,           -- 5: manual partition on the same pair
   .fault 400 0 false,          -- 6: scheduled end of the swept window: stale
   .nsend 450 0,                -- 7: still blocked by window 1
   .fault 460 1 false,          -- 8
   .fault 470 1 false]          -- 9: repeated heal: stale

example : WF exCase2.faults exTr2 ∧ Legit exCase2 exTr2 ∧ exCase2.initCanc = [3] := by decide +kernel

/-- hypotheses of `cancel_before_activation_prevents` (fault 2 at event 0, fault 3 before the run),
    `cancel_is_silent` (events 0 and 4), `heal_all_ends_every_partition` (event 3) and
    `stale_heal_is_noop` (events 6 and 9) hold, and the conclusions are not trivial: the heal-all ends
    window 0 but not the latency window 4, the stale end at event 6 leaves the pair blocked by the
    manual window 1, and the window cancelled inside stays -/
example :
    exTr2[0]? = some (.cancel 50 2) ∧ (∀ t' a, Pop.fault t' 2 a ∉ exTr2.take 0) ∧
    exTr2[3]? = some (.healall 200 0) ∧
    activeAfter exCase2.faults (exTr2.take 3) = [4, 0] ∧
    activeAfter exCase2.faults (exTr2.take 4) = [4] ∧
    exTr2[6]? = some (.fault 400 0 false) ∧ 0 ∉ activeAfter exCase2.faults (exTr2.take 6) ∧
    activeAfter exCase2.faults (exTr2.take 7) = [1, 4] ∧
    specBlocked exCase2.faults (activeAfter exCase2.faults (exTr2.take 7)) 0 1 = true ∧
    (step exCase2 (stateAt exCase2 exTr2 7) (.nsend 450 0)).2 = [.part] ∧
    exTr2[9]? = some (.fault 470 1 false) ∧ 1 ∉ activeAfter exCase2.faults (exTr2.take 9) ∧
    activeAfter exCase2.faults (exTr2.take 10) = [4] ∧
    specLat exCase2 (activeAfter exCase2.faults (exTr2.take 10)) 0 1 = 17 := by
  refine ⟨rfl, fun _ _ => List.not_mem_nil, ?_⟩
  decide +kernel

/-- `exCase` with only its crash [100, 800) on worker 0 scheduled: a job is delivered to worker 0 exactly
    at the restart instant 800, after the restart event of that instant, and is entered.  The example
    below states the crash's instance (`f = 0`) of `hend` only.  The whole `hend` of
    `up_from_restart_time` does not hold of `exTr3`: the pause [200, 300) of `exCase` (`f = 1`) is on
    worker 0 too and its end is not in the schedule.  It holds of `exTr` at step 21 (time 900, after
    both ends). -/
def exTr3 : List Pop := [.fault 100 0 true, .job 150 0 false, .fault 800 0 false, .job 800 2 false]

example : WF exCase.faults exTr3 ∧ Legit exCase exTr3 ∧ Sorted exTr3 ∧
    exTr3[3]? = some (.job 800 2 false) ∧ ((stateAt exCase exTr3 3).procs 2).st = .idle ∧
    Pop.fault 800 0 false ∈ exTr3.take 3 ∧ 0 < downC exCase.faults 0 (exCase.job 2).ent ∧
    (step exCase (stateAt exCase exTr3 1) (.job 150 0 false)).2 = [] ∧
    (step exCase (stateAt exCase exTr3 3) (.job 800 2 false)).2 = [.enter] := by decide +kernel

end HappyModel.C06
