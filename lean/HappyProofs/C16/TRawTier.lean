import HappyProofs.C16.RawMain
/-!
Multi-tier read-after-write over every interleaving: what the segments of a *clean
write-through* `CachedStore` tier (nothing dirty — `MultiTierCache` only ever calls `put` on L1 and
that is write-through) do to its cache, its pending continuations and the backing store it is
plugged into (the lemmas named `…_clean`).
-/
namespace HappyModel.C16

/-- what evictions, invalidations and fills leave of a clean tier (not the later segment of a write-through `put`: it
    changes the backing store); `new` is the one entry a fill may add -/
structure TStep (s s' : St) (new : Option (Key × Nat)) : Prop where
  dirty : s'.dirty = []
  back : s'.back = s.back
  cache : ∀ x w, aget? s'.cache x = some w → aget? s.cache x = some w ∨ new = some (x, w)

theorem TStep.refl {s : St} (h : s.dirty = []) : TStep s s none := ⟨h, rfl, fun _ _ h => Or.inl h⟩

theorem TStep.trans {a b c : St} {n : Option (Key × Nat)} (h1 : TStep a b none) (h2 : TStep b c n) : TStep a c n :=
  ⟨h2.dirty, h2.back.trans h1.back, fun x w hw => by
    rcases h2.cache x w hw with h | h
    · rcases h1.cache x w h with h' | h'
      · exact Or.inl h'
      · cases h'
    · exact Or.inr h⟩

theorem TStep.weaken {a b : St} {n : Option (Key × Nat)} (h : TStep a b none) : TStep a b n :=
  ⟨h.dirty, h.back, fun x w hw => (h.cache x w hw).elim Or.inl nofun⟩

theorem writeBack_clean (s : St) (k : Key) (h : s.dirty = []) : s.writeBack k = s := by
  unfold St.writeBack
  split
  · rw [h]; simp
  · rfl

theorem setDel_nil (k : Key) : setDel [] k = [] := rfl

theorem evictOne_clean (c : Cfg) (s : St) (ek : Key) (pol' : Pol) (h : s.dirty = []) :
    TStep s (evictOne c s ek pol') none := by
  have e : evictOne c s ek pol' = { s with cache := adel s.cache ek, dirty := [], pol := pol', nEv := s.nEv + 1 } := by
    unfold evictOne
    rw [writeBack_clean s ek h]
    simp [h, setDel_nil]
  rw [e]
  refine ⟨rfl, rfl, ?_⟩
  intro x w hw
  by_cases ex : x = ek
  · subst ex; rw [aget?_adel_self] at hw; cases hw
  · rw [aget?_adel_other _ _ _ ex] at hw; exact Or.inl hw

theorem cachePut_clean (c : Cfg) (s : St) (k v now : Nat) (h : s.dirty = []) :
    TStep s (cachePut c s k v now) (some (k, v)) ∧ (cachePut c s k v now).pend = s.pend ∧
      aget? (cachePut c s k v now).cache k = some v := by
  have hp := cachePut_pend c s k v now
  obtain ⟨pe, pol', t, e⟩ := cachePut_ind c now (P := fun x => TStep s x none)
    (fun _ _ h => ⟨h.dirty, h.back, h.cache⟩) (fun x ek pol' h => h.trans (evictOne_clean c x ek pol' h.dirty)) s k v
    (TStep.refl h)
  rw [e] at hp ⊢
  refine ⟨⟨t.dirty, t.back, fun x w hw => ?_⟩, hp, aget?_aset_self _ _ _⟩
  by_cases ex : x = k
  · subst ex
    rw [aget?_aset_self] at hw; cases hw
    exact Or.inr rfl
  · rw [aget?_aset_other _ _ _ _ ex] at hw
    exact (t.cache x w hw).elim Or.inl nofun

/-- `tier.invalidate(k)` -/
theorem startInv_clean (c : Cfg) (s : St) (i k now : Nat) (h : s.dirty = []) :
    TStep s (start c s i (.inv k) now).1 none ∧ (start c s i (.inv k) now).1.pend = s.pend ∧
      k ∉ akeys (start c s i (.inv k) now).1.cache := by
  have e0 : start c s i (.inv k) now = if k ∈ akeys s.cache then
      (cacheRemove (if c.rep then s.writeBack k else s) k, some .none) else (s, some .none) := rfl
  rw [e0]
  by_cases hk : k ∈ akeys s.cache
  · rw [if_pos hk]
    have e : (if c.rep = true then s.writeBack k else s) = s := by
      split
      · exact writeBack_clean s k h
      · rfl
    rw [e]
    refine ⟨⟨by show setDel s.dirty k = []; rw [h]; rfl, rfl, ?_⟩, rfl, ?_⟩
    · intro x w hw
      have hw : aget? (adel s.cache k) x = some w := hw
      by_cases ex : x = k
      · subst ex; rw [aget?_adel_self] at hw; cases hw
      · rw [aget?_adel_other _ _ _ ex] at hw; exact Or.inl hw
    · show k ∉ akeys (adel s.cache k)
      rw [mem_akeys_adel]; exact fun hh => hh.2 rfl
  · rw [if_neg hk]
    exact ⟨TStep.refl h, rfl, hk⟩

theorem writeBackAll_nil (s : St) : s.writeBackAll [] = s := rfl

/-- `tier.invalidate_all()` -/
theorem startInvAll_clean (c : Cfg) (s : St) (i now : Nat) (h : s.dirty = []) :
    TStep s (start c s i .invAll now).1 none ∧ (start c s i .invAll now).1.pend = s.pend ∧
      (start c s i .invAll now).1.cache = [] := by
  have e : (if c.rep = true then s.writeBackAll s.dirty else s) = s := by
    split
    · rw [h]; rfl
    · rfl
  have e0 : (start c s i .invAll now).1 =
      (fun s1 : St => ({ s1 with cache := [], dirty := [], pol := s1.pol.clear } : St))
        (if c.rep = true then s.writeBackAll s.dirty else s) := rfl
  rw [e0, e]
  exact ⟨⟨rfl, rfl, fun x w hw => by simp [aget?] at hw⟩, rfl, rfl⟩

/-- first segment of `tier.get(k)` -/
theorem startGet_clean (c : Cfg) (s : St) (i k now : Nat) :
    (start c s i (.get k) now).1.cache = s.cache ∧ (start c s i (.get k) now).1.dirty = s.dirty ∧
    (start c s i (.get k) now).1.back = s.back ∧
    (∃ p, (start c s i (.get k) now).1.pend = s.pend ++ [(i, p)] ∧
      ((∃ v, p = .getHit v ∧ aget? s.cache k = some v) ∨ (∃ e, p = .getMiss k e ∧ aget? s.cache k = none))) ∧
    (start c s i (.get k) now).2 = none := by
  have e0 : start c s i (.get k) now = match aget? s.cache k with
      | some v => ({ s with pol := s.pol.access k }.setPend i (.getHit v), none)
      | none => (s.setPend i (.getMiss k (cnt s.epoch k)), none) := rfl
  rw [e0]
  cases hv : aget? s.cache k with
  | some v => exact ⟨rfl, rfl, rfl, ⟨_, rfl, Or.inl ⟨v, rfl, rfl⟩⟩, rfl⟩
  | none => exact ⟨rfl, rfl, rfl, ⟨_, rfl, Or.inr ⟨_, rfl, rfl⟩⟩, rfl⟩

/-- first segment of `tier.put(k, v)` on a write-through tier -/
theorem startPut_clean (c : Cfg) (hwt : c.wt = true) (s : St) (i k v now : Nat) (h : s.dirty = []) :
    TStep s (start c s i (.put k v) now).1 (some (k, v)) ∧
    (start c s i (.put k v) now).1.pend = s.pend ++ [(i, .putWT k v)] ∧
    aget? (start c s i (.put k v) now).1.cache k = some v := by
  have hb : (s.bump c k).dirty = [] := by rw [bump_dirty]; exact h
  obtain ⟨t, p, g⟩ := cachePut_clean c (s.bump c k) k v now hb
  simp only [start, hwt, if_true]
  refine ⟨⟨by simpa using t.dirty, by simpa using t.back, fun x w hw => ?_⟩, by simp [St.setPend, p],
    by simpa [St.setPend] using g⟩
  simpa using t.cache x w (by simpa [St.setPend] using hw)

theorem resume_getHit (c : Cfg) (s : St) (i v now : Nat) :
    resume c s i (.getHit v) now = (s.clearPend i, some (.val v)) := rfl

theorem resume_putWT_clean (c : Cfg) (s : St) (i k v now : Nat) :
    (resume c s i (.putWT k v) now).1.cache = s.cache ∧ (resume c s i (.putWT k v) now).1.dirty = s.dirty ∧
    (resume c s i (.putWT k v) now).1.back = aset s.back k v ∧
    (resume c s i (.putWT k v) now).1.pend = (s.clearPend i).pend ∧
    (resume c s i (.putWT k v) now).2 = some .none := by
  simp only [resume]
  exact ⟨by simp [St.clearPend], by simp [St.clearPend], by simp [St.clearPend], by simp, trivial⟩

theorem resume_getMiss_clean (c : Cfg) (s : St) (i k e now : Nat) (h : s.dirty = []) :
    (∃ nw, TStep s (resume c s i (.getMiss k e) now).1 nw ∧
      (∀ x w, nw = some (x, w) → x = k ∧ aget? s.back k = some w ∧ (c.rep = true → cnt s.infl k = 0))) ∧
    (resume c s i (.getMiss k e) now).1.pend = (s.clearPend i).pend ∧
    (resume c s i (.getMiss k e) now).2 = some (resOf (aget? s.back k)) := by
  have e0 : resume c s i (.getMiss k e) now = match aget? (s.clearPend i).back k with
      | some x =>
        if !c.rep || (s.clearPend i).fillAllowed k e then (cachePut c (s.clearPend i) k x now, some (.val x))
        else (s.clearPend i, some (.val x))
      | none => (s.clearPend i, some .none) := rfl
  rw [e0]
  have hback : (s.clearPend i).back = s.back := rfl
  have hclr : TStep s (s.clearPend i) none := ⟨h, rfl, fun _ _ hw => Or.inl hw⟩
  rw [hback]
  cases hb : aget? s.back k with
  | none => exact ⟨⟨none, hclr, fun _ _ e => by cases e⟩, rfl, rfl⟩
  | some x =>
    simp only []
    split
    · rename_i hcond
      obtain ⟨t, p, _⟩ := cachePut_clean c (s.clearPend i) k x now h
      refine ⟨⟨some (k, x), hclr.trans t, ?_⟩, p, rfl⟩
      intro a w e'
      cases e'
      refine ⟨rfl, rfl, fun hrep => ?_⟩
      simp only [hrep, Bool.not_true, Bool.false_or, St.fillAllowed, Bool.and_eq_true, beq_iff_eq] at hcond
      exact hcond.2
    · exact ⟨⟨none, hclr, fun _ _ e => by cases e⟩, rfl, rfl⟩

end HappyModel.C16
