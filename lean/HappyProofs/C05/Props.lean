import HappyProofs.C05.Equiv
import HappyProofs.C05.Idle
import HappyProofs.C05.Reject
import HappyProofs.C05.Full
import HappyProofs.C05.Stateful
import HappyProofs.C05.StatefulR
import HappyModel.C05.Driver
import HappyModel.C05.SpecS
/-!
# C05 — property theorems

"Running a model split into partitions connected by links with a positive minimum latency delivers
to every entity the same deliveries (time, event type) in the same time order as running the same
model in a single sequential simulation (only the relative order of deliveries carrying the same
timestamp may differ), for any window size up to the minimum link latency, whenever cross-partition
delays respect the declared minimum. No cross-partition event is lost, duplicated or discarded as
being in the past, and independent partitions (no links) behave exactly like separate simulations."

Handlers are universally quantified functions `σ → Ev → σ × List Emit` of the partition's whole
entity state; window ends, fuel, configurations and initial heaps are universally quantified.
The window rule is the repaired one (`strict = true`); `no_time_travel_current_false` refutes the
clause for the rule of the unpatched code.

The main clause as stated (`par_eq_seq_full`) is refuted (`Full.lean`); what is true is
`par_eq_seq_partial` (below) and the stateful theorems of `Stateful.lean` / `StatefulR.lean`.
-/
namespace HappyModel.C05

variable {σ : Type}

/-- **no_time_travel** — one window `b ≤ we ≤ b + w` (`w` ≤ every link latency) from a safe state: if no
    router raised, the windows ran to completion and the coordinator's min-latency validation passes,
    every event injected at the barrier has time ≥ its destination's clock — the engine's "time
    travel" branch cannot fire on it — and the state is safe again at `we`. -/
theorem no_time_travel (h : Handler σ) (c : Cfg) (fuel b we w : Nat) (ps : List (Part σ))
    (hw : WindowLeLat c w) (hb : b ≤ we) (hwe : we ≤ b + w) (safe : Safe c b ps)
    (hgood : ∀ p ∈ execAll h c true fuel we ps, p.bad = false)
    (hhalt : ∀ p ∈ execAll h c true fuel we ps, Halted h (c.route p.pid) true we p)
    (hlat : ∀ m ∈ allMsgs (execAll h c true fuel we ps), c.latOk m = true) :
    (∀ p ∈ execAll h c true fuel we ps, ∀ m ∈ allMsgs (execAll h c true fuel we ps),
        c.dest m = p.pid → p.clock ≤ m.ev.time)
    ∧ Safe c we (oneWindow h c true fuel we ps) :=
  have ran := execAll_ran hw hb safe ⟨hgood, hhalt, hlat⟩
  ⟨fun p hp m hm _ => Nat.le_trans (ran.clock p hp) (Nat.le_trans hwe (ran.arrive m hm)), ran.safe hwe⟩

/-- **no_time_travel_run** — the executable coordinator loop: a run from a safe state that returns
    without error has discarded nothing in any partition. -/
theorem no_time_travel_run (h : Handler σ) (c : Cfg) (fuel wEff endT n : Nat) (s : Coord σ)
    (hw : WindowLeLat c wEff) (he : s.err = none) (hcur : s.cur ≤ endT) (safe : Safe c s.cur s.parts)
    (hr : (coordLoop h c true fuel wEff endT n s).err = none) :
    ∀ p ∈ (coordLoop h c true fuel wEff endT n s).parts, p.tt = [] :=
  (coordLoop_safe h c fuel wEff endT hw n s he hcur safe hr).noTT

/-- **exchange_conserves** — none lost, none duplicated: after the barrier the heaps hold, as a
    multiset, exactly what they held before plus every outboxed event, and all outboxes are empty. -/
theorem exchange_conserves (c : Cfg) (ps : List (Part σ)) (hn : (ps.map (·.pid)).Nodup)
    (hd : ∀ m ∈ allMsgs ps, c.dest m ∈ ps.map (·.pid)) :
    ((exchange c ps).flatMap (·.heap)).Perm (ps.flatMap (·.heap) ++ (allMsgs ps).map (·.ev))
    ∧ ∀ p ∈ exchange c ps, p.outbox = [] :=
  ⟨exchange_heaps_perm c ps hn hd, exchange_outbox_empty c ps⟩

/-- **partition_order** — under either window rule, in every partition the log any entity observes is
    sorted by time, and the partition log is sorted (newest first) and never ahead of the clock. -/
theorem partition_order (h : Handler σ) (c : Cfg) (strict : Bool) (fuel : Nat) (ws : List Nat)
    (ps : List (Part σ)) (hl : ∀ p ∈ ps, LogInv p) :
    ∀ p ∈ coordRun h c strict fuel ws ps, LogInv p ∧ ∀ x, TimeSorted (p.obsLog x) :=
  fun p hp =>
    have inv := coordRun_logInv h c strict fuel ws ps hl p hp
    ⟨inv, obsLog_sorted inv⟩

/-- the same for the plain sequential engine -/
theorem seq_order (h : Handler σ) (endT fuel : Nat) (p : Part σ) (hl : LogInv p) :
    ∀ x, TimeSorted ((runSeq h endT fuel p).obsLog x) :=
  obsLog_sorted (hl.run fuel)

/-- **independent_eq_separate** — with no links the parallel run is, partition by partition,
    literally the sequential engine on that partition's own state (no router, no windows). -/
theorem independent_eq_separate (h : Handler σ) (c : Cfg) (strict : Bool) (fuel wEff endT n : Nat)
    (ps : List (Part σ)) (hno : c.links = []) :
    (parallelRun h c strict fuel wEff endT n ps).parts = ps.map (runSeq h endT fuel)
    ∧ (parallelRun h c strict fuel wEff endT n ps).err = none
    ∧ ∀ i : Nat, (parallelRun h c strict fuel wEff endT n ps).parts[i]? = ps[i]?.map (runSeq h endT fuel) := by
  simp [parallelRun, hno, runIndependent]

/-- **par_eq_seq_partial** — C05 main clause for every handler whose emissions are a function of the
    delivered event (time, target, kind) only, *including every tie* (arbitrary state updates, finite
    program `Ranked`): if the coordinated run (executable `coordLoop`, repaired window rule,
    `0 < wEff ≤` every link latency) returns without error and the sequential run halts, every entity's
    deliveries up to the end time in the two runs are sorted by time and permutations of each other. -/
theorem par_eq_seq_partial (h : Handler σ) (em : PEv → List Emit) (rank : PEv → Nat)
    (c : Cfg) (ids : List Nat) (fuel wEff endT n start : Nat) (st : σ) (evs : List Ev)
    (ps : List (Part σ))
    (hr : Ranked em rank) (hed : EventDetermined h em)
    (hids : ids.Nodup) (hlinks : ∀ l ∈ c.links, l.dst ∈ ids)
    (hw : WindowLeLat c wEff) (hpos : 0 < wEff) (hse : start ≤ endT)
    (hstart : ∀ e ∈ evs, start ≤ e.time) (hi : ParInit c ids start evs ps)
    (hpar : (coordLoop h c true fuel wEff endT n
        { parts := ps, cur := start, windows := 0, injected := 0, outboxed := 0, err := none }).err = none)
    (hseq : Halted h seqRoute false endT (runSeq h endT fuel (Part.init 0 start st evs))) :
    ∀ x, TieEquiv (upTo endT ((runSeq h endT fuel (Part.init 0 start st evs)).obsLog x))
      (upTo endT (parObs (coordLoop h c true fuel wEff endT n
        { parts := ps, cur := start, windows := 0, injected := 0, outboxed := 0, err := none }).parts x)) := by
  intro x
  obtain ⟨sinv, hlog⟩ := hi.sinv (em := em) (rank := rank) (T := endT) hstart
  obtain ⟨hperm, hown, hlog', hpids⟩ := par_delivers_tree h c ids fuel wEff endT n
    { parts := ps, cur := start, windows := 0, injected := 0, outboxed := 0, err := none }
    hr hed hids hlinks hw hpos rfl hse _ sinv hlog hpar
  have hsq := seq_delivers_tree h endT fuel start st evs hr hed hstart hseq
  refine ⟨?_, ?_, ?_⟩
  · exact List.Pairwise.filter _ (obsLog_sorted ((LogInv.init 0 start st evs).run fuel) x)
  · exact List.Pairwise.filter _ (parObs_sorted c _ x (hpids ▸ hids) hown hlog')
  · unfold Part.obsLog parObs
    rw [upTo_obs, upTo_obs]
    apply entProj_perm
    refine List.Perm.trans ?_ ((sysLog_eq endT _).trans hperm).symm
    exact (((List.reverse_perm _).map proj).filter _).trans hsq

/-! ## the unpatched window rule falsifies the clause -/

open Driver in
/-- DESIGN §9 item 3 as a model run: `pb` (partition 1) has a local event at 0.3 s, `pa` sends to
    `pb` at 0.05 s with delay 0.1 s = link latency = window.  Under the unpatched rule
    (`strict = false`) `pb` overshoots the first window and the arrival is discarded. -/
def witnessCfg : Cfg := { partOf := #[0, 1], nparts := 2, links := [⟨0, 1, 100⟩] }
def witnessProg : List (Nat × Nat × Emit) := [(0, 0, ⟨100, 1, 1⟩)]
def witnessParts : List (Part Unit) :=
  [Part.init 0 0 () [⟨50, 0, 0, 0⟩], Part.init 1 0 () [⟨300, 1, 1, 2⟩]]

theorem no_time_travel_current_false :
    ((coordRun (Driver.scriptHandler witnessProg) witnessCfg false 10 [100, 200, 300] witnessParts).map
        (·.tt.length)) = [0, 1]
    ∧ ((coordRun (Driver.scriptHandler witnessProg) witnessCfg true 10 [100, 200, 300] witnessParts).map
        (·.tt.length)) = [0, 0] := by
  decide +kernel

/-- one repaired window on the witness satisfies every hypothesis of `no_time_travel` with a real
    cross-partition message -/
example : Safe witnessCfg 0 witnessParts ∧ WindowLeLat witnessCfg 100 :=
  ⟨Safe.init _ 0 _ (by decide) (by decide) (by decide) (by decide), by simp [WindowLeLat, witnessCfg]⟩

example :
    (allMsgs (execAll (Driver.scriptHandler witnessProg) witnessCfg true 10 100 witnessParts)).length = 1
    ∧ (execAll (Driver.scriptHandler witnessProg) witnessCfg true 10 100 witnessParts).all
        (fun p => !p.bad && haltedB (Driver.scriptHandler witnessProg) (witnessCfg.route p.pid) true 100 p) = true
    ∧ (allMsgs (execAll (Driver.scriptHandler witnessProg) witnessCfg true 10 100 witnessParts)).all
        witnessCfg.latOk = true := by
  decide

/-- `exchange_conserves`: hypotheses hold on the witness after the first window -/
example :
    ((execAll (Driver.scriptHandler witnessProg) witnessCfg true 10 100 witnessParts).map (·.pid)).Nodup
    ∧ ∀ m ∈ allMsgs (execAll (Driver.scriptHandler witnessProg) witnessCfg true 10 100 witnessParts),
        witnessCfg.dest m ∈ (execAll (Driver.scriptHandler witnessProg) witnessCfg true 10 100 witnessParts).map (·.pid) := by
  decide

example : ∀ p ∈ witnessParts, LogInv p := by
  intro p hp
  simp only [witnessParts, List.mem_cons, List.not_mem_nil, or_false] at hp
  rcases hp with rfl | rfl <;> exact LogInv.init _ _ _ _


/-- what the decidable `validConf` of the Spec says, clause by clause: every observed cross-partition
    emission went over a declared link, with a delay of at least the (effective) minimum of every declaration
    of that link, and a requested window is at most every declared minimum. -/
theorem valid_conf_respects_minimum (c : ConfObs) (hv : validConf c = true) :
    (∀ s ∈ c.sends, c.linked s.1 s.2.1 = true ∧
        ∀ l ∈ c.links, l.src = s.1 → l.dst = s.2.1 → l.eff ≤ s.2.2) ∧
    (∀ w, c.window = some w → ∀ l ∈ c.links, w ≤ l.decl) ∧
    (∀ l ∈ c.links, 0 < l.decl ∧ 0 < l.eff ∧ l.src ≠ l.dst) := by
  unfold validConf at hv
  simp only [Bool.and_eq_true, List.all_eq_true] at hv
  obtain ⟨⟨⟨hl, _⟩, hw⟩, hs⟩ := hv
  refine ⟨?_, ?_, ?_⟩
  · intro s hs'
    have h1 := hs s hs'
    refine ⟨h1.1, ?_⟩
    intro l hl' e1 e2
    have h2 := h1.2 l hl'
    simpa [e1, e2] using h2
  · intro w hw'
    rw [hw'] at hw
    simp only [Bool.and_eq_true, List.all_eq_true, decide_eq_true_eq] at hw
    exact hw.2
  · intro l hl'
    have h1 := hl l hl'
    simp only [decide_eq_true_eq, bne_iff_ne, ne_eq] at h1
    exact ⟨h1.1.1.1.1, h1.1.1.1.2, h1.1.1.2⟩

/-- 0.067 s declared on both directions, every hop takes exactly the minimum: valid, so an aborted run is a
    violation; one nanosecond less: outside the hypothesis, the rejection is correct -/
example :
    judgeRejected { nparts := 2, links := [⟨0, 1, 67000000, 67000000⟩, ⟨1, 0, 67000000, 67000000⟩], window := none,
                    refs := [(0, 1), (1, 0)], sends := [(0, 1, 67000000), (1, 0, 67000000)] }
      = some "par/valid-configuration-rejected" ∧
    judgeRejected { nparts := 2, links := [⟨0, 1, 67000000, 67000000⟩, ⟨1, 0, 67000000, 67000000⟩], window := none,
                    refs := [(0, 1), (1, 0)], sends := [(0, 1, 67000000), (1, 0, 66999999)] } = none := by
  decide +kernel

/-! ## non-vacuity of `par_eq_seq_partial`: every hypothesis holds on the witness program -/

def witnessEm : PEv → List Emit := fun e =>
  (witnessProg.filter (fun x => x.1 == e.tgt && x.2.1 == e.kind)).map (·.2.2)

def witnessEvs : List Ev := [⟨50, 0, 0, 0⟩, ⟨300, 1, 1, 2⟩]

example : EventDetermined (Driver.scriptHandler witnessProg) witnessEm := fun _ _ => rfl

example : Ranked witnessEm (fun e => 2 - e.kind) := by
  intro e c hc
  simp only [childrenOf, witnessEm, witnessProg, List.filter_cons, List.filter_nil] at hc
  split at hc
  · rename_i hk
    simp only [Bool.and_eq_true, beq_iff_eq] at hk
    simp only [List.map_cons, List.map_nil, List.mem_singleton] at hc
    subst hc
    simp only
    omega
  · simp at hc

example : ParInit witnessCfg [0, 1] 0 witnessEvs witnessParts :=
  ⟨by decide, by decide, by decide, by decide, by decide⟩

example : [0, 1].Nodup ∧ (∀ l ∈ witnessCfg.links, l.dst ∈ [0, 1]) ∧ WindowLeLat witnessCfg 100 := by
  simp [witnessCfg, WindowLeLat]

example :
    (coordLoop (Driver.scriptHandler witnessProg) witnessCfg true 10 100 1000 10
        { parts := witnessParts, cur := 0, windows := 0, injected := 0, outboxed := 0, err := none }).err = none
    ∧ haltedB (Driver.scriptHandler witnessProg) seqRoute false 1000
        (runSeq (Driver.scriptHandler witnessProg) 1000 10 (Part.init 0 0 () witnessEvs)) = true
    ∧ parObs (coordLoop (Driver.scriptHandler witnessProg) witnessCfg true 10 100 1000 10
        { parts := witnessParts, cur := 0, windows := 0, injected := 0, outboxed := 0, err := none }).parts 1
      = [(150, 1), (300, 2)] := by
  decide +kernel


/-- **parallelRunFrom_spec** — runs with `start_time ≠ epoch` (what the drivers execute): at the epoch they
    are `parallelRun` / `parallelRunR`; without links every partition is the sequential engine on its
    own state; with links they are the coordinator loops from barrier `start`, the form every
    coordinator theorem is stated for. -/
theorem parallelRunFrom_spec {σ : Type} (h : Handler σ) (c : Cfg) (strict : Bool) (fuel wEff endT n start : Nat)
    (ps : List (Part σ)) :
    parallelRunFrom h c strict fuel wEff endT n 0 ps = parallelRun h c strict fuel wEff endT n ps
    ∧ parallelRunRFrom h c strict fuel wEff endT n 0 ps = parallelRunR h c strict fuel wEff endT n ps
    ∧ (c.links = [] → (parallelRunFrom h c strict fuel wEff endT n start ps).parts = ps.map (runSeq h endT fuel)
        ∧ (parallelRunRFrom h c strict fuel wEff endT n start ps).parts = ps.map (runSeq h endT fuel))
    ∧ (c.links ≠ [] →
        parallelRunFrom h c strict fuel wEff endT n start ps = coordLoop h c strict fuel wEff endT n
          { parts := ps, cur := start, windows := 0, injected := 0, outboxed := 0, err := none }
        ∧ parallelRunRFrom h c strict fuel wEff endT n start ps = coordLoopR h c strict fuel wEff endT n
          { parts := ps, cur := start, windows := 0, injected := 0, outboxed := 0, err := none }) := by
  refine ⟨rfl, rfl, ?_, ?_⟩
  · intro hno
    simp [parallelRunFrom, parallelRunRFrom, hno, runIndependent]
  · intro hl
    have : c.links.isEmpty = false := by
      cases hc : c.links with
      | nil => exact absurd hc hl
      | cons _ _ => rfl
    simp [parallelRunFrom, parallelRunRFrom, this]

/-- **judgeAccepted_none_iff** — the accepted-configuration clause passes exactly when the effective window
    is at most every effective link minimum (`WindowLeLat`, the hypothesis of every coordinator theorem
    under the repaired rule) -/
theorem judgeAccepted_none_iff (wEff : Nat) (effLats : List Nat) :
    judgeAccepted wEff effLats = none ↔ ∀ l ∈ effLats, wEff ≤ l := by
  unfold judgeAccepted
  constructor
  · intro h l hl
    by_cases hlt : l < wEff
    · have : effLats.any (fun l => decide (l < wEff)) = true :=
        List.any_eq_true.mpr ⟨l, hl, by simpa using hlt⟩
      simp [this] at h
    · omega
  · intro h
    have : effLats.any (fun l => decide (l < wEff)) = false := by
      rw [List.any_eq_false]
      intro l hl
      have := h l hl
      simp; omega
    simp [this]

example : judgeAccepted 50000000 [49999999, 100000000] = some "par/invalid-configuration-accepted"
    ∧ judgeAccepted 49999999 [49999999, 100000000] = none := by decide +kernel

end HappyModel.C05
