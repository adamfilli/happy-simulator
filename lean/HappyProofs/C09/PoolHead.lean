import HappyProofs.C09.PoolInv
/-! Two further invariants of the connection-pool model.

* `HeadInv` ("a queued call is never grantable") holds along *classic* op lists only
  (`acq/made/poll/timeout/rel`): an abandoned set-up gives its slot back while calls are queued, and
  warm-up parks an idle connection behind the queue.
* `HandInv` (a connection handed to a queued call is active, and handed to one call only) holds along
  every op list in which nobody releases a connection that is handed over and not yet noticed
  (`relOk`).  Under it the "connection no longer active" corner of `abandon` never fires. -/
namespace HappyModel.C09.Pool

def Op.classic : Op → Bool
  | .acq _ | .made _ | .poll _ | .timeout _ | .rel _ => true
  | _ => false

structure HeadInv (s : St) : Prop where
  head : s.waiters ≠ [] → s.idle = [] ∧ s.total = s.max

theorem init_headInv (max : Nat) : HeadInv { max := max } := ⟨by simp⟩

variable {s s' : St} {o : Op} {r : Res}

theorem Leaf.headInv (hl : Leaf s o s' r) (inv : Inv s) (h : HeadInv s) (hc : o.classic = true) : HeadInv s' := by
  have hb := inv.bound
  have hw0 : s.idle ≠ [] ∨ s.total < s.max → s.waiters = [] := fun hf =>
    Classical.byContradiction fun hne => by
      have := h.head hne
      rcases hf with hf | hf
      · exact hf this.1
      · omega
  cases hl with
  | acqIdle _ hi => exact ⟨fun hne => absurd (hw0 (.inl (by rw [hi]; simp))) hne⟩
  | acqCreate _ _ hlt => exact ⟨fun hne => absurd (hw0 (.inr hlt)) hne⟩
  | acqWait _ hi hge => exact ⟨fun _ => ⟨hi, by show s.total = s.max; omega⟩⟩
  | made => exact ⟨fun hne => by simpa [inv.res] using h.head hne⟩
  | pollGot => exact ⟨h.head⟩
  | pollIdle _ _ hh hi => rw [hw0 (.inl (by rw [hi]; simp))] at hh; cases hh
  | pollCreate _ _ hh _ hlt => rw [hw0 (.inr hlt)] at hh; cases hh
  | timeout => exact ⟨fun hne => h.head fun hq => hne (by show s.waiters.filter _ = []; rw [hq]; rfl)⟩
  | relHand _ _ hq => exact ⟨fun _ => h.head (by rw [hq]; simp)⟩
  | relIdle _ _ hq => exact ⟨fun hne => absurd hq hne⟩
  | abCreator | abStale | abHand | abIdle | abWaiter | abNothing | closed | kept | stale | warm | warmDone
  | wmadeBad | wmade => cases hc
  | _ => exact h

theorem run_headInv (s : St) (ops : List Op) (inv : Inv s) (h : HeadInv s)
    (hc : ops.all Op.classic = true) : HeadInv (run s ops) := by
  induction ops generalizing s with
  | nil => exact h
  | cons o os ih =>
    simp only [List.all_cons, Bool.and_eq_true] at hc
    exact ih _ (step_inv s o inv) ((step_leaf s o).headInv inv h hc.1) hc.2

structure HandInv (s : St) : Prop where
  act : ∀ p ∈ s.handed, p.2 ∈ s.active
  nodup : (s.handed.map (·.2)).Nodup

theorem init_handInv (max min : Nat) : HandInv { max := max, min := min } := ⟨by simp, List.nodup_nil⟩

/-- nobody releases a connection that is handed to a queued call which has not noticed it yet
    (its previous holder released it already, its next holder is still suspended) -/
def relOk (s : St) : Op → Bool
  | .rel c => !s.handed.any (·.2 == c)
  | _ => true

def Sched (ok : St → Op → Bool) : St → List Op → Bool
  | _, [] => true
  | s, o :: os => ok s o && Sched ok (step s o).1 os

def SchedAt (ok : St → Op → Bool) : St → List (Nat × Op) → Bool
  | _, [] => true
  | s, e :: os => ok s e.2 && SchedAt ok (stepAt s e.1 e.2).1 os

theorem relOk_now (s : St) (t : Nat) (o : Op) : relOk { s with now := t } o = relOk s o := by
  cases o <;> rfl

theorem handInv_filter (s : St) (f : Nat × Nat → Bool) (h : HandInv s) :
    HandInv { s with handed := s.handed.filter f } :=
  ⟨fun p hp => h.act p (List.mem_filter.1 hp).1,
   List.Nodup.sublist (List.Sublist.map _ List.filter_sublist) h.nodup⟩

theorem handInv_hand {c : Nat} (h : HandInv s) (hm : c ∈ s.active) (hn : ∀ p ∈ s.handed, p.2 ≠ c) (w : Nat)
    (ws : List Nat) : HandInv { s with waiters := ws, handed := s.handed ++ [(w, c)] } := by
  refine ⟨snoc_all h.act hm, ?_⟩
  show ((s.handed ++ [(w, c)]).map (·.2)).Nodup
  rw [List.map_append]
  refine nodup_snoc h.nodup fun hmem => ?_
  obtain ⟨p, hp, hpe⟩ := List.mem_map.1 hmem
  exact hn p hp hpe

theorem handInv_idle {c : Nat} (h : HandInv s) (hn : ∀ p ∈ s.handed, p.2 ≠ c) (i : List Nat)
    (st : List (Nat × Nat)) : HandInv { s with active := s.active.erase c, idle := i, stamp := st } :=
  ⟨fun p hp => (List.mem_erase_of_ne (hn p hp)).2 (h.act p hp), h.nodup⟩

theorem relOk_ne {c : Nat} (hr : relOk s (.rel c) = true) : ∀ p ∈ s.handed, p.2 ≠ c := fun p hp he => by
  have : s.handed.any (·.2 == c) = true := List.any_eq_true.2 ⟨p, hp, by simp [he]⟩
  simp only [relOk, this] at hr
  cases hr

/-- the entry of call `id` is the only one that holds its connection, and the filter removes it -/
theorem HandInv.filter_ne {id : Nat} {x : Nat × Nat} (h : HandInv s) (hf : s.handed.find? (·.1 == id) = some x) :
    ∀ p ∈ s.handed.filter (·.1 != id), p.2 ≠ x.2 := fun p hp he => by
  have hp' := List.mem_filter.1 hp
  have hpx : p = x := inj_of_nodup_map (·.2) h.nodup hp'.1 (List.mem_of_find?_eq_some hf) he
  have hne : p.1 ≠ id := by simpa using hp'.2
  exact hne (hpx ▸ by simpa using List.find?_some hf)

theorem Leaf.handInv (hl : Leaf s o s' r) (h : HandInv s) (hr : relOk s o = true) : HandInv s' := by
  cases hl with
  | acqIdle | made | pollIdle => exact ⟨fun p hp => List.mem_append_left _ (h.act p hp), h.nodup⟩
  | pollGot | abStale => exact handInv_filter s _ h
  | relHand _ hm => exact handInv_hand h hm (relOk_ne hr) _ _
  | relIdle => exact handInv_idle h (relOk_ne hr) _ _
  | abHand _ _ hf hm => exact handInv_hand (handInv_filter s _ h) hm (h.filter_ne hf) _ _
  | abIdle _ _ hf => exact handInv_idle (handInv_filter s _ h) (h.filter_ne hf) _ _
  | _ => exact ⟨h.act, h.nodup⟩

theorem handInv_now {s : St} (t : Nat) (h : HandInv s) : HandInv { s with now := t } := ⟨h.act, h.nodup⟩

theorem run_handInv (s : St) (ops : List Op) (h : HandInv s) (hr : Sched relOk s ops = true) :
    HandInv (run s ops) := by
  induction ops generalizing s with
  | nil => exact h
  | cons o os ih =>
    simp only [Sched, Bool.and_eq_true] at hr
    exact ih _ ((step_leaf s o).handInv h hr.1) hr.2

theorem runAt_handInv (s : St) (ops : List (Nat × Op)) (h : HandInv s) (hr : SchedAt relOk s ops = true) :
    HandInv (runAt s ops) := by
  induction ops generalizing s with
  | nil => exact h
  | cons e os ih =>
    simp only [SchedAt, Bool.and_eq_true] at hr
    exact ih _ ((step_leaf _ e.2).handInv (handInv_now e.1 h) (by rw [relOk_now]; exact hr.1)) hr.2

end HappyModel.C09.Pool
