import HappyModel.C19.MQ
import HappyProofs.Lib.Lists
import HappyProofs.Lib.Keyed
/-!
The `insertNew` facts the queue, the topic and the consumer group share, and list facts of the topic
(`flatMap_lookup_perm`, `map_erase_perm`) and of the stream files (`lookup_filter_ne`, `getD_map_range`); about core
lists and `insertNew` only.  `Lib.Lists` / `Lib.Keyed` reach the queue, topic and stream files through this file.
-/
namespace HappyModel.C19

theorem mem_insertNew (l : List Nat) (k x : Nat) : x ∈ insertNew l k ↔ x ∈ l ∨ x = k := by
  unfold insertNew
  split
  · next h => exact ⟨Or.inl, fun h' => h'.elim id (· ▸ h)⟩
  · simp

theorem insertNew_nodup {l : List Nat} (h : l.Nodup) (k : Nat) : (insertNew l k).Nodup := by
  unfold insertNew
  split
  · exact h
  · next hk => exact nodup_snoc h hk

theorem flatMap_lookup_perm {β γ : Type} (l : List (Nat × β)) (f : Nat × β → List γ) (m : Nat)
    (v : β) (hnd : (l.map (·.1)).Nodup) (h : l.lookup m = some v) :
    (l.flatMap f).Perm (f (m, v) ++ (l.filter (fun e => e.1 != m)).flatMap f) := by
  obtain ⟨l₁, l₂, rfl, _⟩ := List.lookup_eq_some_iff.1 h
  rw [List.map_append, List.map_cons, List.nodup_append, List.nodup_cons] at hnd
  have f1 : l₁.filter (fun e => e.1 != m) = l₁ := List.filter_eq_self.2 fun e he => by
    simpa using fun hc : e.1 = m => hnd.2.2 _ (List.mem_map.2 ⟨e, he, rfl⟩) _ List.mem_cons_self hc
  have f2 : l₂.filter (fun e => e.1 != m) = l₂ := List.filter_eq_self.2 fun e he => by
    simpa using fun hc : e.1 = m => hnd.2.1.1 (List.mem_map.2 ⟨e, he, hc⟩)
  simp only [List.filter_append, List.filter_cons, f1, f2, bne_self_eq_false, Bool.false_eq_true, if_false,
    List.flatMap_append, List.flatMap_cons]
  exact List.perm_append_comm_assoc _ _ _

theorem map_erase_perm {α β : Type} [BEq α] [LawfulBEq α] [BEq β] [LawfulBEq β] (f : α → β)
    (l : List α) (a : α) (h : a ∈ l) : ((l.erase a).map f).Perm ((l.map f).erase (f a)) := by
  induction l with
  | nil => simp at h
  | cons b rest ih =>
    by_cases hba : b = a
    · subst hba; simp
    · have hne : (b == a) = false := by simpa using hba
      have hr : a ∈ rest := by
        rcases List.mem_cons.mp h with h | h
        · exact absurd h.symm hba
        · exact h
      rw [List.erase_cons, hne, List.map_cons, List.erase_cons]
      simp only [Bool.false_eq_true, if_false, List.map_cons]
      by_cases hf : f b = f a
      · simp only [hf, BEq.rfl, if_true]
        have h1 : (rest.map f).Perm (f a :: (rest.map f).erase (f a)) :=
          List.perm_cons_erase (List.mem_map_of_mem hr)
        exact ((ih hr).cons (f a)).trans h1.symm
      · have : (f b == f a) = false := by simpa using hf
        simp only [this]
        exact (ih hr).cons _

theorem lookup_filter_ne {α β : Type} [BEq α] [LawfulBEq α] (l : List (α × β)) {k k' : α}
    (h : k' ≠ k) : (l.filter (fun e => e.1 != k)).lookup k' = l.lookup k' := by
  simp [lookup_filter_key (· != k) k' l, h]

theorem getD_map_range (n p : Nat) (f : Nat → Nat) (h : p < n) :
    ((List.range n).map f).getD p 0 = f p := by
  simp [List.getD_eq_getElem?_getD, h]

end HappyModel.C19
