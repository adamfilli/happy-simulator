import HappyProofs.C11.Ghost
/-! The Log Matching invariant `LInv`: every prefix of every log (and of every AppendEntries in flight) is a *recorded* log, and
    records are unique per (length, last term).  Before it, what the append loop of `_handle_append_entries` does to such a log. -/
namespace HappyModel.C11

theorem lastTerm_concat (l : List Entry) (e : Entry) : lastTerm (l ++ [e]) = e.term := by
  simp [lastTerm]

theorem lastTerm_take {l : List Entry} {k : Nat} (h : k < l.length) : lastTerm (l.take (k + 1)) = l[k].term := by
  rw [List.take_succ_eq_append_getElem h, lastTerm_concat]

/-- every non-empty prefix of `l` is recorded in `C` -/
def Rec (C : List (List Entry)) (l : List Entry) : Prop := ∀ k, k < l.length → l.take (k + 1) ∈ C

theorem Rec.concat {C : List (List Entry)} {l : List Entry} {e : Entry} (h : Rec C l) (he : l ++ [e] ∈ C) : Rec C (l ++ [e]) := by
  intro k hk
  simp only [List.length_append, List.length_singleton] at hk
  by_cases hk' : k < l.length
  · rw [List.take_append_of_le_length (by omega)]; exact h k hk'
  · have : k + 1 = (l ++ [e]).length := by simp; omega
    rw [this, List.take_length]; exact he

theorem Rec.take {C : List (List Entry)} {l : List Entry} (h : Rec C l) (m : Nat) : Rec C (l.take m) := by
  intro k hk
  rw [List.length_take] at hk
  rw [List.take_take]
  have : min (k + 1) m = k + 1 := by omega
  rw [this]; exact h k (by omega)

theorem Rec.mono {C C' : List (List Entry)} {l : List Entry} (h : Rec C l) (hs : ∀ L ∈ C, L ∈ C') : Rec C' l :=
  fun k hk => hs _ (h k hk)

/-- records are determined by their length and the term of their last entry -/
def Uniq (C : List (List Entry)) : Prop :=
  ∀ L ∈ C, ∀ L' ∈ C, L.length = L'.length → lastTerm L = lastTerm L' → L = L'

theorem take_eq_of_prefix {α} {X L : List α} (h : X <+: L) {m : Nat} (hm : m ≤ X.length) : L.take m = X.take m := by
  obtain ⟨t, rfl⟩ := h
  exact List.take_append_of_le_length hm

/-- in recorded logs an (index, term) pair determines the prefix -/
theorem rec_det {C : List (List Entry)} (hu : Uniq C) {l1 l2 : List Entry} (h1 : Rec C l1) (h2 : Rec C l2) {k : Nat}
    (hk1 : k < l1.length) (hk2 : k < l2.length) (ht : l1[k].term = l2[k].term) : l1.take (k + 1) = l2.take (k + 1) := by
  apply hu _ (h1 k hk1) _ (h2 k hk2)
  · simp [List.length_take]; omega
  · rw [lastTerm_take hk1, lastTerm_take hk2]; exact ht

theorem rec_det_elem {C : List (List Entry)} (hu : Uniq C) {l1 l2 : List Entry} (h1 : Rec C l1) (h2 : Rec C l2) {k : Nat}
    (hk1 : k < l1.length) (hk2 : k < l2.length) (ht : l1[k].term = l2[k].term) : l1[k] = l2[k] := by
  have h := rec_det hu h1 h2 hk1 hk2 ht
  have e1 : (l1.take (k + 1))[k]? = some l1[k] := by
    rw [List.getElem?_take_of_lt (by omega), List.getElem?_eq_getElem hk1]
  have e2 : (l2.take (k + 1))[k]? = some l2[k] := by
    rw [List.getElem?_take_of_lt (by omega), List.getElem?_eq_getElem hk2]
  rw [h, e2] at e1
  exact (Option.some.inj e1).symm

/-- `x`'s log starts with `Q`; wherever it continues with an entry of the same term as the payload it
    continues with the same entry.  Then the loop leaves `x` alone if `Q ++ es` is already there, and
    otherwise leaves exactly `Q ++ es`. -/
theorem appendLoop_char (v : Variant) (es : List Entry) : ∀ (x : Node) (Q : List Entry),
    x.log.take Q.length = Q → Q.length ≤ x.log.length →
    (∀ j k ex, k = Q.length + j → ∀ hj : j < es.length, x.log[k]? = some ex → ex.term = es[j].term → ex = es[j]) →
    (Q ++ es <+: x.log → appendLoop v x (Q.length + 1) es = x)
    ∧ (¬ Q ++ es <+: x.log → (appendLoop v x (Q.length + 1) es).log = Q ++ es) := by
  induction es with
  | nil =>
    intro x Q hQ _ _
    refine ⟨fun _ => rfl, fun h => ?_⟩
    exfalso; apply h; rw [List.append_nil, ← hQ]; exact List.take_prefix _ _
  | cons e es ih =>
    intro x Q hQ hlen hdet
    have hlenQ : (Q ++ [e]).length = Q.length + 1 := by simp
    have happ : Q ++ e :: es = (Q ++ [e]) ++ es := by simp
    -- after a truncation or an append the log is exactly `Q ++ [e]`, and the rest is appended
    have fresh : ∀ y : Node, y.log = Q ++ [e] → (appendLoop v y (Q.length + 1 + 1) es).log = Q ++ e :: es := by
      intro y hy
      have h := ih y (Q ++ [e]) (by rw [hy, List.take_length]) (by rw [hy]; exact Nat.le_refl _)
        (by intro j k ex hk hj hget _
            exfalso
            rw [hy] at hget
            have : (Q ++ [e])[k]? = none := by apply List.getElem?_eq_none; rw [hk]; omega
            rw [this] at hget; cases hget)
      rw [hlenQ] at h
      rw [happ]
      by_cases hp : (Q ++ [e]) ++ es <+: y.log
      · have hes : es = [] := by
          have := hp.length_le
          rw [hy] at this; simp at this
          exact this
        rw [h.1 hp, hy, hes, List.append_nil]
      · exact h.2 hp
    simp only [appendLoop]
    split
    · rename_i ex hex
      obtain ⟨hk, hexk⟩ := getE_some hex
      split
      · rename_i hne
        have htr : (truncateFrom v x (Q.length + 1)).log = x.log.take Q.length := by
          rcases truncateFrom_cases v x (Q.length + 1) with ⟨h, _⟩ | ⟨_, _, h⟩
          · omega
          · rw [h]; rfl
        constructor
        · intro hp; exfalso
          have := hp.getElem (i := Q.length) (by simp)
          simp at this
          rw [this, hexk] at hne; exact hne rfl
        · intro _
          apply fresh
          show (truncateFrom v x (Q.length + 1)).log ++ [e] = Q ++ [e]
          rw [htr, hQ]
      · rename_i heq
        have heq' : ex.term = e.term := by
          apply Classical.byContradiction; intro h; exact heq h
        have hexe : ex = e := hdet 0 Q.length ex rfl (by simp) (by rw [List.getElem?_eq_getElem hk, hexk]) heq'
        have hpre : x.log.take (Q.length + 1) = Q ++ [e] := by
          rw [List.take_succ_eq_append_getElem hk, hQ, hexk, hexe]
        have h := ih x (Q ++ [e]) (by rw [hlenQ]; exact hpre) (by rw [hlenQ]; omega)
          (by intro j k ex' hk' hj hget ht
              rw [hlenQ] at hk'
              have := hdet (j + 1) k ex' (by omega) (by simp; omega) hget (by simpa using ht)
              simpa using this)
        rw [hlenQ] at h; rw [happ]; exact h
    · rename_i hnone
      have hle := getE_none hnone
      have hxl : x.log = Q := by
        have : x.log.length = Q.length := by omega
        rw [← hQ, ← this, List.take_length]
      constructor
      · intro hp; exfalso
        have := hp.length_le
        rw [hxl] at this; simp at this; omega
      · intro _
        apply fresh
        show x.log ++ [e] = Q ++ [e]
        rw [hxl]

theorem appendLoop_rec (v : Variant) (C : List (List Entry)) (hu : Uniq C) (es : List Entry) (x : Node) (Q : List Entry)
    (hr : Rec C x.log) (hlen : Q.length ≤ x.log.length) (hQ : x.log.take Q.length = Q)
    (hes : ∀ j, j < es.length → Q ++ es.take (j + 1) ∈ C) : Rec C (appendLoop v x (Q.length + 1) es).log := by
  obtain ⟨h1, h2⟩ := appendLoop_char v es x Q hQ hlen (by
    -- the recorded prefix of `x`'s log up to `k` and the recorded `Q ++ es[..j]` have one length and one last term
    intro j k ex hk hj hget hterm
    obtain ⟨hkl, hexk⟩ := List.getElem?_eq_some_iff.mp hget
    have hlast : lastTerm (Q ++ es.take (j + 1)) = es[j].term := by
      rw [List.take_succ_eq_append_getElem hj, ← List.append_assoc, lastTerm_concat]
    have := hu _ (hr k hkl) _ (hes j hj) (by simp [List.length_take]; omega) (by rw [lastTerm_take hkl, hlast, hexk]; exact hterm)
    have hk' := congrArg (·[k]?) this
    simp only [List.getElem?_take_of_lt (Nat.lt_succ_self k), hget] at hk'
    rw [List.getElem?_append_right (by omega), List.getElem?_take_of_lt (by omega), show k - Q.length = j by omega,
      List.getElem?_eq_getElem hj] at hk'
    exact Option.some.inj hk')
  by_cases hp : Q ++ es <+: x.log
  · rw [h1 hp]; exact hr
  · rw [h2 hp]
    intro k hk
    by_cases hkq : k < Q.length
    · rw [List.take_append_of_le_length (by omega), ← hQ, List.take_take, Nat.min_eq_left (by omega)]
      exact hr k (by omega)
    · rw [List.length_append] at hk
      rw [List.take_append, List.take_of_length_le (by omega), show k + 1 - Q.length = (k - Q.length) + 1 by omega]
      exact hes _ (by omega)

/-- an AppendEntries payload continues a recorded prefix in a recorded way -/
def AEok (C : List (List Entry)) (pi pt : Nat) (es : List Entry) : Prop :=
  es = [] ∨ ∃ P : List Entry, P.length = pi ∧ (pi > 0 → lastTerm P = pt ∧ P ∈ C) ∧
    ∀ j, j < es.length → P ++ es.take (j + 1) ∈ C

theorem AEok.mono {C C' : List (List Entry)} {pi pt : Nat} {es : List Entry} (h : AEok C pi pt es)
    (hs : ∀ L ∈ C, L ∈ C') : AEok C' pi pt es := by
  rcases h with h | ⟨P, h1, h2, h3⟩
  · exact Or.inl h
  · exact Or.inr ⟨P, h1, fun hp => ⟨(h2 hp).1, hs _ (h2 hp).2⟩, fun j hj => hs _ (h3 j hj)⟩

theorem aeFor_ok {C : List (List Entry)} {x : Node} (hr : Rec C x.log) (me p : Nat) {t l pi pt lc : Nat} {es : List Entry}
    (h : aeFor x me p = .ae t l pi pt es lc) : AEok C pi pt es := by
  rw [aeFor_prev] at h
  cases h
  unfold aePt
  generalize aePrev x p = pi
  by_cases hlt : pi < x.log.length
  · refine Or.inr ⟨x.log.take pi, by rw [List.length_take]; omega, fun hpos => ?_, fun j hj => ?_⟩
    · obtain ⟨k, rfl⟩ : ∃ k, pi = k + 1 := ⟨pi - 1, by omega⟩
      have hk : k < x.log.length := Nat.lt_of_succ_lt hlt
      exact ⟨by rw [if_pos hpos, lastTerm_take hk, termAt_succ hk], hr k hk⟩
    · rw [← List.take_add]
      rw [List.length_drop] at hj
      exact hr (pi + j) (by omega)
  · exact Or.inl (List.drop_eq_nil_of_le (by omega))

theorem aeAccept_rec (v : Variant) {C : List (List Entry)} (hu : Uniq C) {x : Node} (hr : Rec C x.log)
    {pi pt : Nat} {es : List Entry} (hok : AEok C pi pt es) (hbad : aeBad x pi pt = false) (me src lc : Nat) :
    Rec C (aeAccept v x me src pi es lc).node.log := by
  show Rec C (aeCommit (appendLoop v x (pi + 1) es) lc).node.log
  rw [(aeCommit_kept _ lc).log]
  rcases hok with hnil | ⟨P, hP, hprev, hes⟩
  · rw [hnil]; exact hr
  · -- the follower's prefix of length `pi` is the recorded `P`
    have hpre : pi ≤ x.log.length ∧ x.log.take pi = P := by
      rcases aeBad_eq_false_iff.mp hbad with rfl | ⟨ex, hex, hterm⟩
      · exact ⟨Nat.zero_le _, (List.eq_nil_of_length_eq_zero hP).symm ▸ List.take_zero⟩
      · obtain ⟨k, rfl⟩ := (getE_pos hex).imp fun _ h => h.1
        obtain ⟨hkl, hexk⟩ := getE_some hex
        have hpos : k + 1 > 0 := Nat.succ_pos k
        refine ⟨hkl, hu _ (hr k hkl) _ (hprev hpos).2 (by rw [List.length_take, hP]; omega) ?_⟩
        rw [lastTerm_take hkl, (hprev hpos).1, hexk]; exact hterm
    have := appendLoop_rec v C hu es x P hr (by rw [hP]; exact hpre.1) (by rw [hP]; exact hpre.2) hes
    rw [hP] at this; exact this

/-- The Log Matching invariant, over the ledger `created` of the logs leaders had right after an append.
    `g0`–`g3` about the ledger: records are non-empty; a record is determined by its length and last term (`g1`, which is Log
    Matching among records); a leader's log starts with every record of its term (`g2`); each record's last term had a leader
    (`g3`).  `b`: every non-empty prefix of every node's log is a record, so `g1` gives Log Matching among nodes.  `m`: the
    entries of an AppendEntries in flight continue a record by records. -/
structure LInv (g : GSt) : Prop where
  g0 : ∀ L ∈ g.created, L ≠ []
  g1 : Uniq g.created
  g2 : ∀ i, (g.s.nodes i).role = .leader → ∀ L ∈ g.created, lastTerm L = (g.s.nodes i).term →
        L.length ≤ (g.s.nodes i).log.length ∧ (g.s.nodes i).log.take L.length = L
  g3 : ∀ L ∈ g.created, ∃ c, (lastTerm L, c) ∈ g.leaders
  b : ∀ i, Rec g.created (g.s.nodes i).log
  m : ∀ e ∈ g.s.msgs, ∀ t l pi pt es lc, e.body = .ae t l pi pt es lc → AEok g.created pi pt es

theorem LInv.g2_prefix {g : GSt} (li : LInv g) {i : Nat} (hl : (g.s.nodes i).role = .leader) {R : List Entry} (hR : R ∈ g.created)
    (ht : lastTerm R = (g.s.nodes i).term) : R <+: (g.s.nodes i).log :=
  List.prefix_iff_eq_take.mpr (li.g2 i hl R hR ht).2.symm

theorem linv_init (n : Nat) : LInv (ginit n) := by
  refine ⟨?_, ?_, ?_, ?_, ?_, ?_⟩ <;> simp [ginit, init, initNode, Uniq, Rec]

end HappyModel.C11
