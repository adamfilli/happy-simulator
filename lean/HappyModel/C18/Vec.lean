/-!
Integer vectors indexed by node number, as plain lists (missing index = 0).
Used for vector clocks (`VectorClock._vector`) and G-counters (`GCounter._counts`):
Python dictionaries keyed by node id whose absent keys read as 0.
-/
namespace HappyModel.C18

abbrev Vec := List Nat

namespace Vec

def get (v : Vec) (i : Nat) : Nat := v.getD i 0

/-- pointwise maximum, padding the shorter list (dict merge with `max(get(k,0), …)`) -/
def vmax : Vec → Vec → Vec
  | [], ys => ys
  | xs, [] => xs
  | x :: xs, y :: ys => max x y :: vmax xs ys

/-- add `d` at index `i`, padding with zeros -/
def addAt : Vec → Nat → Nat → Vec
  | [], 0, d => [d]
  | [], i+1, d => 0 :: addAt [] i d
  | x :: xs, 0, d => (x + d) :: xs
  | x :: xs, i+1, d => x :: addAt xs i d

def sum (v : Vec) : Nat := v.foldl (· + ·) 0

/-- pointwise ≤ (absent = 0) -/
def le : Vec → Vec → Bool
  | [], _ => true
  | x :: xs, [] => x == 0 && le xs []
  | x :: xs, y :: ys => decide (x ≤ y) && le xs ys

@[simp] theorem get_nil (i : Nat) : get [] i = 0 := by simp [get]
@[simp] theorem get_cons_zero (x : Nat) (xs : Vec) : get (x :: xs) 0 = x := by simp [get]
@[simp] theorem get_cons_succ (x : Nat) (xs : Vec) (i : Nat) : get (x :: xs) (i+1) = get xs i := by
  simp [get]

theorem get_vmax (a b : Vec) (i : Nat) : get (vmax a b) i = max (get a i) (get b i) := by
  induction a generalizing b i with
  | nil => simp [vmax]
  | cons x xs ih =>
    cases b with
    | nil => simp [vmax]
    | cons y ys =>
      cases i with
      | zero => simp [vmax]
      | succ i => simp [vmax, ih]

theorem get_addAt_self (v : Vec) (i d : Nat) : get (addAt v i d) i = get v i + d := by
  induction v generalizing i with
  | nil =>
    induction i with
    | zero => simp [addAt]
    | succ i ih => simp [addAt, ih]
  | cons x xs ih =>
    cases i with
    | zero => simp [addAt]
    | succ i => simp [addAt, ih]

theorem get_addAt_other (v : Vec) (i j d : Nat) (h : j ≠ i) : get (addAt v i d) j = get v j := by
  induction v generalizing i j with
  | nil =>
    induction i generalizing j with
    | zero => cases j with
      | zero => exact absurd rfl h
      | succ j => simp [addAt]
    | succ i ih =>
      cases j with
      | zero => simp [addAt]
      | succ j => simp [addAt]; exact ih j (by omega)
  | cons x xs ih =>
    cases i with
    | zero => cases j with
      | zero => exact absurd rfl h
      | succ j => simp [addAt]
    | succ i =>
      cases j with
      | zero => simp [addAt]
      | succ j => simp [addAt]; exact ih i j (by omega)

theorem get_addAt (v : Vec) (i j d : Nat) :
    get (addAt v i d) j = get v j + (if j = i then d else 0) := by
  by_cases h : j = i
  · subst h; simp [get_addAt_self]
  · simp [get_addAt_other v i j d h, h]

theorem le_iff (a b : Vec) : le a b = true ↔ ∀ i, get a i ≤ get b i := by
  induction a generalizing b with
  | nil => simp [le]
  | cons x xs ih =>
    cases b with
    | nil =>
      simp only [le, Bool.and_eq_true, beq_iff_eq, ih, get_nil, Nat.le_zero_eq]
      constructor
      · rintro ⟨h0, h⟩ i
        cases i with
        | zero => simpa using h0
        | succ i => simpa using h i
      · intro h
        exact ⟨by simpa using h 0, fun i => by simpa using h (i+1)⟩
    | cons y ys =>
      simp only [le, Bool.and_eq_true, decide_eq_true_eq, ih]
      constructor
      · rintro ⟨h0, h⟩ i
        cases i with
        | zero => simpa using h0
        | succ i => simpa using h i
      · intro h
        exact ⟨by simpa using h 0, fun i => by simpa using h (i+1)⟩

theorem vmax_comm (a b : Vec) : vmax a b = vmax b a := by
  induction a generalizing b with
  | nil => cases b <;> simp [vmax]
  | cons x xs ih =>
    cases b with
    | nil => simp [vmax]
    | cons y ys => simp [vmax, ih ys, Nat.max_comm]

theorem vmax_assoc (a b c : Vec) : vmax (vmax a b) c = vmax a (vmax b c) := by
  induction a generalizing b c with
  | nil => simp [vmax]
  | cons x xs ih =>
    cases b with
    | nil => simp [vmax]
    | cons y ys =>
      cases c with
      | nil => simp [vmax]
      | cons z zs => simp [vmax, ih, Nat.max_assoc]

theorem vmax_idem (a : Vec) : vmax a a = a := by
  induction a with
  | nil => simp [vmax]
  | cons x xs ih => simp [vmax, ih]

@[simp] theorem vmax_nil_right (a : Vec) : vmax a [] = a := by cases a <;> simp [vmax]
@[simp] theorem vmax_nil_left (a : Vec) : vmax [] a = a := by simp [vmax]

end Vec
end HappyModel.C18
