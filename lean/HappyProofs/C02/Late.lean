import HappyProofs.C02.Finish
/-!
# C02 — completion hooks added to an event after it was created, and opaque resume values

`event.add_completion_hook(h)` (`Act.addHook`, `addHookTo`) appends to the event's `on_complete` list.
`_start_process` hands that very list to the continuation chain, so what happens to the hook depends
on where the event is in its life: not delivered yet — it is among the hooks the process starts with; its process is
in flight — it runs when the process finishes, after the hooks the process started with, in the order of addition, and
the list is empty afterwards; finished or dropped — never.
-/
namespace HappyModel.C01

/-- **a hook added while the process is in flight** goes to that process's late list, after the ones
    added before; no event is created, and no process record, attachment of an undelivered event or log entry
    changes -/
theorem addHook_in_flight (e : Eff) (id hook pid : Nat)
    (hf : e.ps.procs.findIdx? (fun p => p.ev == id && !p.done) = some pid) :
    lateOf (addHookTo e id hook).ps pid = lateOf e.ps pid ++ [hook] ∧
    (∀ q, q ≠ pid → lateOf (addHookTo e id hook).ps q = lateOf e.ps q) ∧
    (addHookTo e id hook).ps.procs = e.ps.procs ∧ (addHookTo e id hook).specs = e.specs ∧
    (addHookTo e id hook).ps.hookOf = e.ps.hookOf ∧ (addHookTo e id hook).ps.obs = e.ps.obs := by
  unfold addHookTo
  rw [hf]
  refine ⟨?_, ?_, rfl, rfl, rfl, rfl⟩
  · simp [lateOf, List.filter_append]
  · intro q hq
    have : (pid == q) = false := by simp [Ne.symm hq]
    simp [lateOf, List.filter_append, this]

/-- **a hook added before the event is delivered** joins the event's attachments: a process started
    by that event later starts with it, after the hooks attached earlier -/
theorem addHook_before_delivery (e : Eff) (id hook : Nat)
    (hf : e.ps.procs.findIdx? (fun p => p.ev == id && !p.done) = none) :
    (addHookTo e id hook).ps.hookOf = e.ps.hookOf ++ [(id, hook)] ∧
    (∀ ev d, ev.id = id → (newProc (addHookTo e id hook).ps ev d).hooks = (newProc e.ps ev d).hooks ++ [hook]) ∧
    (∀ ev d, ev.id ≠ id → (newProc (addHookTo e id hook).ps ev d).hooks = (newProc e.ps ev d).hooks) ∧
    (addHookTo e id hook).ps.late = e.ps.late ∧ (addHookTo e id hook).ps.procs = e.ps.procs ∧
    (addHookTo e id hook).specs = e.specs := by
  unfold addHookTo
  rw [hf]
  refine ⟨rfl, ?_, ?_, rfl, rfl, rfl⟩
  · intro ev d hid
    simp [newProc, List.filter_append, hid]
  · intro ev d hid
    have : (id == ev.id) = false := by simp [Ne.symm hid]
    simp [newProc, List.filter_append, this]

theorem runHooks_late (now : Nat) (hooks : List Nat) (e : Eff) : (runHooks now e hooks).ps.late = e.ps.late := by
  unfold runHooks
  induction hooks generalizing e with
  | nil => rfl
  | cons h t ih => simp only [List.foldl_cons]; rw [ih]; rfl

/-- **the list is cleared when the hooks run**: after the finishing segment no late hook of the
    process is left, so none of them can run a second time -/
theorem inflight_hooks_cleared (now : Nat) (e : Eff) (pid tag : Nat) (p : Proc) (acts : List Act)
    (rest : List Seg) (hp : e.ps.procs[pid]? = some p) (hs : p.segs = ⟨acts, .ret⟩ :: rest) :
    lateOf (runSegment now e pid tag).ps pid = [] := by
  rw [runSegment_eq now e pid tag p _ rest hp hs]
  unfold segBody
  simp only [segTerm]
  unfold lateOf
  rw [runHooks_late]
  simp only [addObs, Eff.clearLate, List.filter_filter]
  have : ∀ q : Nat × Nat, (q.1 == pid && q.1 != pid) = false := by
    intro q; by_cases h : q.1 = pid <;> simp [h]
  simp [this]

/-- **a hook added in flight runs when the process finishes**: every hook on the process's late list
    when its last segment has run its actions is logged as run at the finishing instant -/
theorem inflight_hook_runs_at_finish (now : Nat) (e : Eff) (pid tag : Nat) (p : Proc) (acts : List Act)
    (rest : List Seg) (hp : e.ps.procs[pid]? = some p) (hs : p.segs = ⟨acts, .ret⟩ :: rest) (h : Nat)
    (hin : h ∈ lateOf (acts.foldl (runAct now) (segStart now e pid tag p)).ps pid) :
    Obs.hook now h ∈ (runSegment now e pid tag).ps.obs := by
  rw [(finishing_step_runs_hooks_once now e pid tag p acts rest hp hs).1]
  apply List.mem_append_left
  rw [List.mem_reverse, List.mem_map]
  exact ⟨h, List.mem_append_right _ hin, rfl⟩

theorem obsMem_closed (o : Obs) : Closed (fun e : Eff => o ∈ e.ps.obs) :=
  closed_of_frame (fun _ _ _ _ ho h => ho ▸ h) (fun _ _ _ h => List.mem_cons_of_mem _ h)

/-- **the value is sent as it is**: when a started process is resumed, its log records the resumption
    with exactly the value stored for it (`Proc.send`) — for every kind of value, an exception
    instance (`Val.atom 0 _`) like any other: nothing in the resumption looks inside the value -/
theorem resumed_value_logged (now : Nat) (e : Eff) (pid tag : Nat) (p : Proc) (seg : Seg) (rest : List Seg)
    (hp : e.ps.procs[pid]? = some p) (hst : p.started = true) (hs : p.segs = seg :: rest) :
    Obs.resume now pid p.send tag ∈ (runSegment now e pid tag).ps.obs := by
  rw [runSegment_eq now e pid tag p seg rest hp hs]
  unfold segBody
  have h1 := acts_closed (obsMem_closed _) now seg.acts (segStart now e pid tag p)
    (show Obs.resume now pid p.send tag ∈ _ by simp [segStart, hst, addObs])
  generalize seg.acts.foldl (runAct now) (segStart now e pid tag p) = e1 at h1
  cases seg.term with
  | yieldD d => exact h1
  | yieldF f =>
    simp only [segTerm]
    split
    · rw [resumeParked_obs]; exact h1
    · exact h1
  | ret => exact runHooks_closed (obsMem_closed _) now _ _ (List.mem_cons_of_mem _ h1)

/-- **below the limit the packet is forwarded with the next hop count**: one fresh event, whose
    metadata (looked up by its creation tag) carries `hops = h + 1` where `h` is what the running
    handler's own event was delivered with -/
theorem relay_forwards (now : Nat) (e : Eff) (tgt kind delay limit : Nat) (dm : Bool) (h : e.ps.cur < limit) :
    (runAct now e (.relay tgt kind delay limit dm)).specs
        = e.specs ++ [⟨now + delay, tgt, kind, dm, 0, e.ps.tagc + 1⟩] ∧
    hopsAt (runAct now e (.relay tgt kind delay limit dm)).ps.hopsOf (e.ps.tagc + 1) = e.ps.cur + 1 ∧
    (runAct now e (.relay tgt kind delay limit dm)).ps.procs = e.ps.procs := by
  simp [runAct, h, Eff.push, hopsAt]

theorem relay_stops (now : Nat) (e : Eff) (tgt kind delay limit : Nat) (dm : Bool) (h : ¬ e.ps.cur < limit) :
    runAct now e (.relay tgt kind delay limit dm) = e := by
  simp [runAct, h]

/-- **what a handler reads is what the event was scheduled with**: the hop count a process starts with
    depends on the event's creation tag only — a copy re-created by `reset()` (same tag, new creation
    index, new delivery) starts a process with the same hop count as the original did, whatever handlers
    stamped on the delivered original in between -/
theorem hops_by_tag (ps : PS) (ev ev' : Ev) (d : HandlerDef) (h : ev.tag = ev'.tag) :
    (newProc ps ev d).hops = (newProc ps ev' d).hops := by
  simp [newProc, h]

end HappyModel.C01
