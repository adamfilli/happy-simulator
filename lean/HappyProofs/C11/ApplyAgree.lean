import HappyProofs.C11.ApplyLog
import HappyProofs.C11.Ghost
/-! Trace level: applied = committed log content; state-machine safety reduced to agreement of
    committed entries. -/
namespace HappyModel.C11
open Spec

def AppCommitted (f : Frame) : Prop :=
  ∀ a ∈ f.apps, ∃ v, f.views[a.1]? = some v ∧ 1 ≤ a.2.1 ∧ a.2.1 ≤ v.commit ∧ ∃ t, v.log[a.2.1 - 1]? = some (t, a.2.2)

theorem step_appCommitted (v : Variant) (s : St) (a : Act) : AppCommitted (frameOf (step v s a).1 (step v s a).2 a) := by
  rcases step_cases v s a with h | ⟨i, _, _, r, ⟨hi, _, hs, hd, _⟩⟩
  · intro x hx; simp [frameOf, h.apps] at hx
  · have hafl := hd.shape.afl
    rw [hs]
    intro x hx
    simp only [frameOf_applyHR, List.mem_map] at hx
    obtain ⟨p, hp, hpx⟩ := hx
    obtain ⟨h1, h2, e, he, hcmd⟩ := hafl p hp
    refine ⟨viewOf r.node, ?_, ?_, ?_, ?_⟩
    · rw [← hpx]
      rw [frameOf_applyHR, getElem?_viewsOf_lt (by exact hi), applyHR_node, if_pos rfl]
    · rw [← hpx]; exact h1
    · rw [← hpx]; exact h2
    · refine ⟨e.term, ?_⟩
      rw [← hpx]
      obtain ⟨k, hk⟩ : ∃ k, p.1 = k + 1 := ⟨p.1 - 1, by omega⟩
      simp only [hk, Nat.add_sub_cancel] at he ⊢
      rw [getE_succ] at he
      simp only [viewOf, List.getElem?_map, he, Option.map_some, hcmd]

theorem frames_appCommitted (v : Variant) (n : Nat) (as : List Act) : ∀ f ∈ frames v n as, AppCommitted f := by
  intro f hf
  simp only [frames, List.mem_cons] at hf
  rcases hf with hf | hf
  · rw [hf]; intro a ha; cases ha
  · obtain ⟨pre, a, post, _, rfl⟩ := mem_framesFrom (g := ginit n) hf
    exact step_appCommitted v _ a

/-- APPLIED = LOG ENTRY.  What a node hands to its state machine as command `k` is entry `k` of its
    own log at that moment (every variant). -/
theorem apply_from_log (v : Variant) (n : Nat) (as : List Act) : applyFromLogOk (frames v n as) = true := by
  unfold applyFromLogOk
  simp only [List.all_eq_true]
  intro f hf
  unfold frameAppliesLog
  simp only [List.all_eq_true]
  intro a ha
  obtain ⟨w, hw, h1, _, t, ht⟩ := frames_appCommitted v n as f hf a ha
  simp [hw, ht, h1]

theorem mem_committedOf {f : Frame} {i : Nat} {w : NodeView} (hw : f.views[i]? = some w) {k : Nat} {e : OEntry}
    (hk : k + 1 ≤ w.commit) (he : w.log[k]? = some e) : (k + 1, e, w.term) ∈ committedOf f := by
  unfold committedOf
  apply List.mem_flatMap.mpr
  refine ⟨w, List.mem_of_getElem? hw, ?_⟩
  apply List.mem_map.mpr
  refine ⟨(e, k), ?_, rfl⟩
  apply List.mem_zipIdx_iff_getElem?.mpr
  simp only
  rw [List.getElem?_take_of_lt (by omega)]
  exact he

/-- STATE-MACHINE SAFETY, reduced: on a run of the model, if no two entries ever shown as committed
    at one index differ (`commitAgreeOk` — the part that needs Leader Completeness), then no two nodes
    ever apply different commands at one index. -/
theorem state_machine_safety_partial (v : Variant) (n : Nat) (as : List Act)
    (hc : commitAgreeOk (frames v n as) = true) : applyAgreeOk (frames v n as) = true := by
  unfold applyAgreeOk
  simp only [List.all_eq_true]
  intro x hx y hy
  unfold commitAgreeOk at hc
  simp only [List.all_eq_true] at hc
  have key : ∀ z ∈ allApps (frames v n as), ∃ t T, (z.2.1, (t, z.2.2), T) ∈ ((frames v n as).flatMap committedOf).eraseDups := by
    intro z hz
    obtain ⟨f, hf, hzf⟩ := List.mem_flatMap.mp hz
    obtain ⟨w, hw, h1, h2, t, ht⟩ := frames_appCommitted v n as f hf z hzf
    obtain ⟨k, hk⟩ : ∃ k, z.2.1 = k + 1 := ⟨z.2.1 - 1, by omega⟩
    refine ⟨t, w.term, ?_⟩
    apply List.mem_eraseDups.mpr
    apply List.mem_flatMap.mpr
    refine ⟨f, hf, ?_⟩
    rw [hk]
    apply mem_committedOf hw (by omega)
    rw [hk] at ht; simpa using ht
  obtain ⟨t1, T1, m1⟩ := key x hx
  obtain ⟨t2, T2, m2⟩ := key y hy
  have := hc _ m1 _ m2
  by_cases hidx : x.2.1 = y.2.1
  · simp only [hidx, bne_self_eq_false, Bool.false_or, beq_iff_eq, Prod.mk.injEq] at this
    simp [this.2]
  · simp [hidx]

theorem applyAgree_of {tr : List Frame} (h : applyAgreeOk tr = true) {x y : Nat × Nat × Nat} (hx : x ∈ allApps tr)
    (hy : y ∈ allApps tr) (hk : x.2.1 = y.2.1) : x.2.2 = y.2.2 := by
  unfold applyAgreeOk at h
  simp only [List.all_eq_true] at h
  have := h x hx y hy
  simp only [Bool.or_eq_true, bne_iff_ne, ne_eq, beq_iff_eq] at this
  exact this.resolve_left fun h => h hk

theorem appliesLog_of {tr : List Frame} (h : applyFromLogOk tr = true) {fr : Frame} (hfr : fr ∈ tr) {a : Nat × Nat × Nat}
    (ha : a ∈ fr.apps) : ∃ w, fr.views[a.1]? = some w ∧ (w.log[a.2.1 - 1]?).map (·.2) = some a.2.2 := by
  unfold applyFromLogOk at h
  simp only [List.all_eq_true] at h
  have := h fr hfr
  unfold frameAppliesLog at this
  simp only [List.all_eq_true] at this
  have := this a ha
  split at this
  · rename_i w hw
    simp only [Bool.and_eq_true, beq_iff_eq] at this
    exact ⟨w, hw, this.1⟩
  · cases this

end HappyModel.C11
