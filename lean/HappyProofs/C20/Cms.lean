import HappyProofs.C20.Stream
import HappyProofs.C20.Seq
namespace HappyModel.C20

/-- total weight the stream adds to cell (r, col) -/
def hits (h : Nat → Nat → Nat) : Stream → Nat → Nat → Nat
  | [], _, _ => 0
  | (x, c) :: rest, r, col => (if col = h x r then c else 0) + hits h rest r col

theorem hits_append (h : Nat → Nat → Nat) (xs ys : Stream) (r col : Nat) :
    hits h (xs ++ ys) r col = hits h xs r col + hits h ys r col := by
  induction xs with
  | nil => simp [hits]
  | cons p ps ih => obtain ⟨y, c⟩ := p; simp [hits, ih]; omega

theorem trueCount_le_hits (h : Nat → Nat → Nat) (xs : Stream) (x r : Nat) :
    trueCount xs x ≤ hits h xs r (h x r) := by
  induction xs with
  | nil => simp [trueCount]
  | cons p ps ih =>
    obtain ⟨y, c⟩ := p
    simp only [trueCount, hits]
    by_cases hy : y = x
    · subst hy; simp; omega
    · simp [hy]; omega

theorem length_addRows (h : Nat → Nat → Nat) (x c r0 : Nat) (rows : List Vec) :
    (addRows h x c r0 rows).length = rows.length := by
  induction rows generalizing r0 <;> simp [addRows, *]

theorem get_addRows (h : Nat → Nat → Nat) (x c r0 : Nat) (rows : List Vec) (i col : Nat) :
    Vec.get ((addRows h x c r0 rows).getD i []) col
      = Vec.get (rows.getD i []) col + (if i < rows.length ∧ col = h x (r0 + i) then c else 0) := by
  induction rows generalizing r0 i with
  | nil => simp [addRows]
  | cons v vs ih =>
    cases i with
    | zero =>
      simp only [addRows, List.getD_cons_zero, Vec.get_addAt, List.length_cons, Nat.add_zero]
      by_cases hc : col = h x r0 <;> simp [hc]
    | succ i =>
      simp only [addRows, List.getD_cons_succ, List.length_cons]
      rw [ih (r0 + 1) i]
      have : r0 + 1 + i = r0 + (i + 1) := by omega
      rw [this]
      by_cases hi : i < vs.length <;> simp [hi]

theorem get_mergeRows (a b : List Vec) (i col : Nat) :
    Vec.get ((mergeRows a b).getD i []) col = Vec.get (a.getD i []) col + Vec.get (b.getD i []) col := by
  induction a generalizing b i with
  | nil => simp [mergeRows]
  | cons x xs ih =>
    cases b with
    | nil => simp [mergeRows]
    | cons y ys =>
      cases i with
      | zero => simp [mergeRows, Vec.get_vadd]
      | succ i => simp only [mergeRows, List.getD_cons_succ]; exact ih ys i

theorem length_mergeRows (a b : List Vec) : (mergeRows a b).length = max a.length b.length := by
  induction a, b using mergeRows.induct <;> simp [mergeRows, *]

@[simp] theorem CMS.add_d (h : Nat → Nat → Nat) (s : CMS) (x c : Nat) : (s.add h x c).d = s.d := by
  unfold CMS.add; split <;> rfl
@[simp] theorem CMS.add_w (h : Nat → Nat → Nat) (s : CMS) (x c : Nat) : (s.add h x c).w = s.w := by
  unfold CMS.add; split <;> rfl
theorem CMS.add_len (h : Nat → Nat → Nat) (s : CMS) (x c : Nat) :
    (s.add h x c).rows.length = s.rows.length := by
  unfold CMS.add; split
  · rfl
  · exact length_addRows ..
theorem CMS.add_n (h : Nat → Nat → Nat) (s : CMS) (x c : Nat) : (s.add h x c).n = s.n + c := by
  unfold CMS.add; split
  · next hc => rw [hc]; rfl
  · rfl

@[simp] theorem CMS.ofStream_d (h : Nat → Nat → Nat) (w d : Nat) (xs : Stream) :
    (CMS.ofStream h w d xs).d = d := foldl_keeps CMS.d (fun _ _ => CMS.add_d ..) xs _
@[simp] theorem CMS.ofStream_w (h : Nat → Nat → Nat) (w d : Nat) (xs : Stream) :
    (CMS.ofStream h w d xs).w = w := foldl_keeps CMS.w (fun _ _ => CMS.add_w ..) xs _
@[simp] theorem CMS.ofStream_len (h : Nat → Nat → Nat) (w d : Nat) (xs : Stream) :
    (CMS.ofStream h w d xs).rows.length = d :=
  (foldl_keeps (fun s : CMS => s.rows.length) (fun _ _ => CMS.add_len ..) xs _).trans List.length_replicate
@[simp] theorem CMS.ofStream_n (h : Nat → Nat → Nat) (w d : Nat) (xs : Stream) :
    (CMS.ofStream h w d xs).n = total xs :=
  (foldl_total CMS.n (fun _ _ => CMS.add_n ..) xs _).trans (Nat.zero_add _)

theorem CMS.cell_add (h : Nat → Nat → Nat) (s : CMS) (x c r col : Nat) :
    (s.add h x c).cell r col
      = s.cell r col + (if r < s.rows.length ∧ col = h x r then c else 0) := by
  unfold CMS.add CMS.cell
  split
  · next hc => simp [hc]
  · simp only [get_addRows, Nat.zero_add]

theorem CMS.cell_fold (h : Nat → Nat → Nat) (xs : Stream) (s : CMS) (r col : Nat) :
    (xs.foldl (fun s p => s.add h p.1 p.2) s).cell r col
      = s.cell r col + (if r < s.rows.length then hits h xs r col else 0) := by
  induction xs generalizing s with
  | nil => simp [hits]
  | cons p ps ih =>
    obtain ⟨y, c⟩ := p
    simp only [List.foldl_cons, hits]
    rw [ih, CMS.cell_add, CMS.add_len]
    by_cases hr : r < s.rows.length <;> by_cases hc : col = h y r <;> simp [hr, hc] <;> omega

theorem CMS.cell_ofStream (h : Nat → Nat → Nat) (w d : Nat) (xs : Stream) (r col : Nat) :
    (CMS.ofStream h w d xs).cell r col = if r < d then hits h xs r col else 0 := by
  unfold CMS.ofStream
  rw [CMS.cell_fold]
  have h0 : (CMS.empty w d).cell r col = 0 := by
    simp only [CMS.empty, CMS.cell, List.getD_eq_getElem?_getD, List.getElem?_replicate]
    split <;> simp
  rw [h0]
  simp [CMS.empty]

theorem le_minList (l : List Nat) (k : Nat) (hne : l ≠ []) (h : ∀ a ∈ l, k ≤ a) : k ≤ minList l := by
  induction l with
  | nil => exact absurd rfl hne
  | cons a l ih =>
    cases l with
    | nil => simpa [minList] using h a (by simp)
    | cons b l =>
      simp only [minList]
      exact Nat.le_min.mpr ⟨h a (by simp), ih (by simp) (fun x hx => h x (List.mem_cons_of_mem _ hx))⟩

theorem CMS.estimate_ge (h : Nat → Nat → Nat) (w d : Nat) (hd : 0 < d) (xs : Stream) (x : Nat) :
    trueCount xs x ≤ (CMS.ofStream h w d xs).estimate h x := by
  rw [CMS.estimate, CMS.ofStream_d]
  apply le_minList
  · cases d with
    | zero => omega
    | succ d => simp [List.range_succ]
  · intro a ha
    simp only [List.mem_map, List.mem_range] at ha
    obtain ⟨r, hr, rfl⟩ := ha
    rw [CMS.cell_ofStream, if_pos hr]
    exact trueCount_le_hits h xs x r

/-- with the number of rows the list really has: `add` touches row `r` only if `r < rows.length` (`cell_add`), so
    equal cells alone would not be respected by `add` -/
def CMS.view (s : CMS) : (Nat → Nat → Nat) × Nat × Nat × Nat × Nat := (s.cell, s.n, s.w, s.d, s.rows.length)

def CMS.Eqv (a b : CMS) : Prop := a.view = b.view

theorem CMS.eqv_iff {a b : CMS} : CMS.Eqv a b ↔
    (∀ r c, a.cell r c = b.cell r c) ∧ a.n = b.n ∧ a.w = b.w ∧ a.d = b.d ∧ a.rows.length = b.rows.length := by
  simp only [CMS.Eqv, CMS.view, Prod.mk.injEq, funext_iff]

theorem CMS.cell_merge (a b : CMS) (r col : Nat) :
    (a.merge b).cell r col = a.cell r col + b.cell r col :=
  get_mergeRows ..

theorem CMS.Eqv.add (h : Nat → Nat → Nat) (x c : Nat) {s s' : CMS} (e : CMS.Eqv s s') :
    CMS.Eqv (s.add h x c) (s'.add h x c) := by
  obtain ⟨hc, hn, hw, hd, hl⟩ := CMS.eqv_iff.mp e
  simp only [CMS.eqv_iff, CMS.cell_add, CMS.add_n, CMS.add_w, CMS.add_d, CMS.add_len, hc, hn, hw, hd, hl,
    implies_true, and_self]

theorem CMS.Eqv.merge {a a' b b' : CMS} (ea : CMS.Eqv a a') (eb : CMS.Eqv b b') :
    CMS.Eqv (a.merge b) (a'.merge b') := by
  obtain ⟨a1, a2, a3, a4, a5⟩ := CMS.eqv_iff.mp ea
  obtain ⟨b1, b2, -, -, b5⟩ := CMS.eqv_iff.mp eb
  exact CMS.eqv_iff.mpr ⟨fun r col => by rw [CMS.cell_merge, CMS.cell_merge, a1, b1],
    by simp only [CMS.merge, a2, b2], a3, a4, by simp only [CMS.merge, length_mergeRows, a5, b5]⟩

theorem CMS.merge_ofStream_eqv (h : Nat → Nat → Nat) (w d : Nat) (xs ys : Stream) :
    CMS.Eqv ((CMS.ofStream h w d xs).merge (CMS.ofStream h w d ys)) (CMS.ofStream h w d (xs ++ ys)) := by
  refine CMS.eqv_iff.mpr ⟨fun r col => ?_, by simp [CMS.merge, total_append, length_mergeRows]⟩
  simp only [CMS.cell_merge, CMS.cell_ofStream, hits_append]
  split <;> rfl

/-- registers that may be merged: same hash family and dimensions (`merge` checks width, depth, seed) -/
def cmsSame (h : Nat → Nat → Nat → Nat) (w d : Nat → Nat) (t s : Nat) : Prop :=
  h t = h s ∧ w t = w s ∧ d t = d s

theorem cmsAlg_ofStream (h : Nat → Nat → Nat → Nat) (w d : Nat → Nat) (r : Nat) (xs : Stream) :
    (cmsAlg h w d).ofStream r xs = CMS.ofStream (h r) (w r) (d r) xs := rfl

theorem cms_lawful (h : Nat → Nat → Nat → Nat) (w d : Nat → Nat) :
    Lawful (cmsAlg h w d) CMS.Eqv (cmsSame h w d) :=
  .of_view CMS.view (fun r => CMS.Eqv.add (h r)) CMS.Eqv.merge (fun t => CMS.merge_ofStream_eqv (h t) (w t) (d t))
    (fun t s ys ⟨hh, hw, hd⟩ => by rw [cmsAlg_ofStream, cmsAlg_ofStream, hh, hw, hd]) (fun _ _ => rfl)

end HappyModel.C20
