import HappyProofs.C10.Tua
/-!
Adaptive bucket: the wait returned by `time_until_available` is honoured **through feedback**, as long as
the rate is not raised before the wait has elapsed.  A `record_failure` (rate down, bucket clamped) or a
`record_success` that leaves the rate where it is only makes the bucket poorer; only a rate *increase*
before `t + w` can admit earlier (decided counter-example in `PropsRun.lean`).  The statements that stop
at the next feedback call are special cases.
-/
namespace HappyModel.C10

def AD.NoRaiseBefore (c : ADCfg) (L : Nat) : AD → List Op → Prop
  | _, [] => True
  | s, o :: os => (o.time < L → (s.step c o).p ≤ s.p) ∧ AD.NoRaiseBefore c L (s.step c o) os

theorem ad_admitted_ge (c : ADCfg) : ∀ (ops : List Op) (s : AD) (now : Nat), MonoOps now ops →
    ∀ x ∈ AD.admitted c s ops, now ≤ x
  | [], _, _, _, _, hx => nomatch hx
  | .acq t :: os, s, now, hm, x, hx => by
    have ih := ad_admitted_ge c os (s.acquire c t).1 t hm.2 x
    simp only [AD.admitted] at hx
    split at hx
    · exact (List.mem_cons.mp hx).elim (· ▸ hm.1) (Nat.le_trans hm.1 ∘ ih)
    · exact Nat.le_trans hm.1 (ih hx)
  | .tua t :: os, _, _, hm, x, hx | .succ t :: os, _, _, hm, x, hx | .fail t :: os, _, _, hm, x, hx =>
    Nat.le_trans hm.1 (ad_admitted_ge c os _ t hm.2 x hx)

/-- until `L` the bucket has no token, and its refill clock is set (so that refills compose whatever the rate) -/
def AD.Blocked (c : ADCfg) (L : Nat) (s : AD) (now : Nat) : Prop :=
  (adNorm c).Blocked L s now ∧ ∃ l, s.last = some l ∧ l ≤ now

theorem AD.Blocked.refused {c : ADCfg} {L : Nat} {s : AD} {now t : Nat} (hb : AD.Blocked c L s now) (h1 : now ≤ t)
    (h2 : t < L) : (s.refill c t).tok < c.one :=
  Nat.lt_of_not_le (hb.1.2 t h1 h2)

theorem AD.Blocked.refill {c : ADCfg} {L : Nat} {s : AD} {now t : Nat} (hb : AD.Blocked c L s now) (h1 : now ≤ t) :
    AD.Blocked c L (s.refill c t) t := by
  obtain ⟨l, hl, hln⟩ := hb.2
  exact ⟨hb.1.adv h1, t, AD.refill_last c s t fun l' h => eq_of_some hl l' h ▸ Nat.le_trans hln h1, Nat.le_refl t⟩

theorem AD.blocked_of_tua (c : ADCfg) (s : AD) (t : Nat) (hp : 0 < s.p) (hm : NotBefore s.last t) :
    AD.Blocked c (t + (AD.tua c s t).2) (AD.tua c s t).1 t :=
  ⟨(ad_timed c).blocked_of_tua ⟨hp, hm⟩, t, by rw [AD.tua_fst]; exact AD.refill_last c s t hm, Nat.le_refl t⟩

theorem AD.refill_tok_mono (c : ADCfg) {s s' : AD} (hp : s'.p ≤ s.p) (ht : s'.tok ≤ s.tok) (hl : s'.last = s.last)
    (t : Nat) : (s'.refill c t).tok ≤ (s.refill c t).tok := by
  unfold AD.refill
  rw [hl]
  cases s.last with
  | none => exact ht
  | some l =>
    simp only
    split
    · exact ht
    · exact Nat.le_min.mpr ⟨Nat.le_trans (Nat.min_le_left _ _) (c.cap_mono hp),
        Nat.le_trans (Nat.min_le_right _ _) (Nat.add_le_add ht (Nat.mul_le_mul_right _ hp))⟩

theorem AD.blocked_feedback (c : ADCfg) (L : Nat) (s s' : AD) (now now' : Nat) (hb : AD.Blocked c L s now)
    (hn : now ≤ now') (hp : s'.p ≤ s.p) (ht : s'.tok ≤ s.tok) (hl : s'.last = s.last) :
    AD.Blocked c L s' now' := by
  obtain ⟨l, h1, h2⟩ := hb.2
  exact ⟨⟨AD.comp_of_clock c (hl.trans h1) (Nat.le_trans h2 hn), fun t' a b h =>
    hb.1.2 t' (Nat.le_trans hn a) b (Nat.le_trans h (AD.refill_tok_mono c hp ht hl t'))⟩, l, hl.trans h1, Nat.le_trans h2 hn⟩

theorem AD.blocked_step (c : ADCfg) (L : Nat) (s : AD) (now : Nat) (o : Op) (hb : AD.Blocked c L s now)
    (h1 : now ≤ o.time) (h2 : o.time < L) (hp : (s.step c o).p ≤ s.p) :
    AD.Blocked c L (s.step c o) o.time := by
  cases o with
  | acq t =>
    show AD.Blocked c L (s.acquire c t).1 t
    rw [AD.acquire_refused c s t (hb.refused h1 h2)]; exact hb.refill h1
  | tua t =>
    show AD.Blocked c L (s.tua c t).1 t
    rw [AD.tua_fst]; exact hb.refill h1
  | succ t => exact AD.blocked_feedback c L s _ now t hb h1 hp (Nat.le_refl _) rfl
  | fail t => exact AD.blocked_feedback c L s _ now t hb h1 hp (Nat.min_le_left _ _) rfl

theorem ad_blocked_run_mono (c : ADCfg) (L : Nat) : ∀ (ops : List Op) (s : AD) (now : Nat),
    AD.Blocked c L s now → MonoOps now ops → AD.NoRaiseBefore c L s ops →
    ∀ x ∈ AD.admitted c s ops, L ≤ x
  | [], _, _, _, _, _, _, hx => nomatch hx
  | o :: os, s, now, hb, hm, hn, x, hx => by
    by_cases hL : o.time < L
    · have ih := ad_blocked_run_mono c L os _ o.time (AD.blocked_step c L s now o hb hm.1 hL (hn.1 hL))
        hm.2 hn.2 x
      cases o with
      | acq t =>
        have a := hb.refused hm.1 hL
        simp only [AD.admitted, AD.acquire_refused c s t a, Bool.false_eq_true, if_false] at hx
        exact ih (by simpa only [AD.step, AD.acquire_refused c s t a] using hx)
      | tua t => exact ih hx
      | succ t | fail t => exact ih hx
    · exact Nat.le_trans (Nat.le_of_not_lt hL)
        (ad_admitted_ge c (o :: os) s o.time ⟨Nat.le_refl _, hm.2⟩ x hx)

/-- **Adaptive: the returned wait is honoured through feedback** — after
    `time_until_available(t) = w`, for every continuation (acquires, further queries, `record_failure`,
    `record_success`) in which no operation before `t + w` raises the rate, nothing is admitted before
    `t + w`. -/
theorem adaptive_wait_honoured_until_raise (c : ADCfg) (s : AD) (t : Nat) (ops : List Op) (hp : 0 < s.p)
    (hm : ∀ l, s.last = some l → l ≤ t) (hmo : MonoOps t ops)
    (hn : AD.NoRaiseBefore c (t + (AD.tua c s t).2) (AD.tua c s t).1 ops) :
    ∀ x ∈ AD.admitted c (AD.tua c s t).1 ops, t + (AD.tua c s t).2 ≤ x :=
  ad_blocked_run_mono c _ ops _ t (AD.blocked_of_tua c s t hp hm) hmo hn

theorem noEarly_of_noEarlyR (lim : Nat) : ∀ (obs : List Obs) (r : Nat), noEarlyR lim r obs = true →
    noEarly lim obs = true
  | [], _, _ => rfl
  | .acq _ _ :: rest, r, h => by
    simp only [noEarlyR, noEarly, Bool.and_eq_true] at h ⊢
    exact ⟨h.1, noEarly_of_noEarlyR lim rest r h.2⟩
  | .tua _ _ :: rest, r, h => noEarly_of_noEarlyR lim rest r h
  | .fb _ _ :: _, _, _ => rfl

theorem blocksOK_of_blocksOKR : ∀ (obs : List Obs) (r : Nat), blocksOKR r obs = true → blocksOK obs = true
  | [], _, _ => rfl
  | .tua _ _ :: rest, r, h => by
    simp only [blocksOKR, blocksOK, Bool.and_eq_true] at h ⊢
    exact ⟨noEarly_of_noEarlyR _ rest r h.1, blocksOK_of_blocksOKR rest r h.2⟩
  | .fb _ r' :: rest, _, h => blocksOK_of_blocksOKR rest r' h
  | .acq _ _ :: rest, r, h => blocksOK_of_blocksOKR rest r h

theorem ad_noEarlyR (c : ADCfg) (L : Nat) : ∀ (os : List Op) (s : AD) (now : Nat),
    L ≤ now ∨ AD.Blocked c L s now → MonoOps now os → noEarlyR L s.p (AD.obs c s os) = true
  | [], _, _, _, _ => rfl
  | o :: os, s, now, hb, hm => by
    -- either `L` has passed, or the bucket is still blocked and a step that does not raise the rate keeps it so
    have hb' : o.time < L → AD.Blocked c L s now := fun hL =>
      hb.resolve_left (Nat.not_le.mpr (Nat.lt_of_le_of_lt hm.1 hL))
    have ih : (s.step c o).p ≤ s.p → noEarlyR L (s.step c o).p (AD.obs c (s.step c o) os) = true := fun hp =>
      ad_noEarlyR c L os _ o.time ((Nat.lt_or_ge o.time L).imp_left
        (fun hL => AD.blocked_step c L s now o (hb' hL) hm.1 hL hp)).symm hm.2
    cases o with
    | acq t =>
      have := ih (Nat.le_of_eq (AD.acquire_p c s t))
      simp only [AD.step, AD.acquire_p] at this
      simp only [AD.obs, noEarlyR, Bool.and_eq_true, Bool.or_eq_true, decide_eq_true_eq, Bool.not_eq_true']
      refine ⟨(Nat.lt_or_ge t L).symm.imp_right fun hL => ?_, this⟩
      rw [AD.acquire_refused c s t ((hb' hL).refused hm.1 hL)]
    | tua t =>
      have := ih (Nat.le_of_eq (AD.tua_p c s t))
      simp only [AD.step, AD.tua_p] at this
      exact this
    | succ t | fail t =>
      simp only [AD.obs, noEarlyR]
      split
      · exact ih ‹_›
      · rfl

/-- `adaptive_wait_honoured_until_raise` over whole transcripts, as the executable Spec predicate `blocksOKR`: the
    promise of every `time_until_available` call of the run survives the feedback records that do not report a
    higher rate -/
theorem adaptive_blocks_spec_through_feedback (c : ADCfg) (hc : ADOk c) (hmin : 0 < c.pmin) (s : AD) (now : Nat)
    (ops : List Op) (hr : s.InRange c) (hs : ∀ l, s.last = some l → l ≤ now) (hm : MonoOps now ops) :
    blocksOKR s.p (AD.obs c s ops) = true := by
  induction ops generalizing s now with
  | nil => rfl
  | cons o os ih =>
    have ih := ih _ o.time (AD.step_range c hc s o hr) (AD.step_notBefore c s now o hs hm.1) hm.2
    cases o with
    | acq t =>
      simp only [AD.step, AD.acquire_p] at ih
      exact ih
    | tua t =>
      simp only [AD.step, AD.tua_p] at ih
      have := ad_noEarlyR c _ os _ t (.inr (AD.blocked_of_tua c s t (Nat.lt_of_lt_of_le hmin hr.1)
        fun l hl => Nat.le_trans (hs l hl) hm.1)) hm.2
      rw [AD.tua_p] at this
      simp only [AD.obs, blocksOKR, Bool.and_eq_true]
      exact ⟨this, ih⟩
    | succ t | fail t => exact ih

end HappyModel.C10
