import HappyProofs.C19.WinInv
import HappyProofs.C19.WinModelLemmas
/-!
A firing (second segment of a Watermark event) of the tumbling / sliding model against the judge:
every clause of `fixedChecks` holds and the window ↔ obligation relation is preserved.
-/
namespace HappyModel.C19.Win

theorem distinctIdents_of_nodup : ∀ ems : List Em, (ems.map emIdent).Nodup → distinctIdents ems = true := by
  intro ems
  induction ems with
  | nil => intro _; rfl
  | cons em rest ih =>
    intro h
    rw [List.map_cons, List.nodup_cons] at h
    have hno : (rest.any fun x => emIdent x == emIdent em) = false := by
      cases hq : rest.any fun x => emIdent x == emIdent em with
      | false => rfl
      | true =>
        obtain ⟨x, hx, hxe⟩ := List.any_eq_true.mp hq
        have : emIdent x = emIdent em := by simpa using hxe
        exact absurd (List.mem_map.mpr ⟨x, hx, this⟩) h.1
    simp [distinctIdents, hno, ih h.2]

theorem markDone_eq (wm : Nat) (o : Obl) : markDone wm o = { o with done := o.done || decide (o.e ≤ wm) } := by
  obtain ⟨id, k, v, s, e, d⟩ := o
  unfold markDone
  by_cases h : e ≤ wm <;> simp [h]

theorem markEmitted_eq (wm : Nat) (w : Win) :
    markEmitted wm w = { w with emitted := decide (w.e ≤ wm) || w.emitted } := by
  obtain ⟨k, s, e, recs, em⟩ := w
  unfold markEmitted closable
  cases em <;> by_cases h : e ≤ wm <;> simp [h]

theorem oblFor_markDone (k s e wm : Nat) (o : Obl) : oblFor k s e (markDone wm o) = oblFor k s e o := by
  rw [markDone_eq]; rfl

theorem filter_markDone (wm k s e : Nat) (obl : List Obl) :
    (obl.map (markDone wm)).filter (oblFor k s e) = (obl.filter (oblFor k s e)).map (markDone wm) := by
  rw [List.filter_map]
  have : (oblFor k s e ∘ markDone wm) = oblFor k s e := by
    funext o; exact oblFor_markDone k s e wm o
  rw [this]

theorem all_markDone (e wm : Nat) : ∀ l : List Obl, (∀ o ∈ l, o.e = e) →
    l.all (fun o => (markDone wm o).done) = (decide (e ≤ wm) || l.all (·.done)) := by
  intro l
  induction l with
  | nil => intro _; simp
  | cons a rest ih =>
    intro h
    have ha : a.e = e := h a (by simp)
    have ih' := ih fun o ho => h o (List.mem_cons_of_mem _ ho)
    rw [List.all_cons, List.all_cons, ih', markDone_eq, ha]
    show ((a.done || decide (e ≤ wm)) && _) = _
    generalize decide (e ≤ wm) = d
    generalize a.done = ad
    generalize (rest.all fun x => x.done) = ra
    cases d <;> cases ad <;> cases ra <;> rfl

theorem fire_rel (wm : Nat) (wins : List Win) (obl : List Obl) (h : WinRel wins obl) :
    WinRel (wins.map (markEmitted wm)) (obl.map (markDone wm)) := by
  have hpair : (pairOfObl ∘ markDone wm) = pairOfObl := by funext o; rw [Function.comp_apply, markDone_eq]; rfl
  have hid : (ident ∘ markEmitted wm) = ident := by funext w; rw [Function.comp_apply, markEmitted_eq]; rfl
  refine ⟨?_, ?_, ?_, by rw [List.map_map, hid]; exact h.nodup⟩
  · intro w' hw'
    obtain ⟨w, hw, rfl⟩ := List.mem_map.mp hw'
    rw [markEmitted_eq]
    show w.recs.map pairOfRec = _
    rw [filter_markDone, List.map_map, hpair]
    exact h.recs w hw
  · intro w' hw'
    obtain ⟨w, hw, rfl⟩ := List.mem_map.mp hw'
    rw [markEmitted_eq]
    show (decide (w.e ≤ wm) || w.emitted) = _
    rw [filter_markDone, List.all_map, h.emitted w hw]
    exact (all_markDone w.e wm (obl.filter (oblFor w.key w.s w.e)) fun o ho =>
      ((oblFor_iff _ _ _ _).mp (List.mem_filter.mp ho).2).2.2).symm
  · intro o' ho'
    obtain ⟨o, ho, rfl⟩ := List.mem_map.mp ho'
    obtain ⟨w, hw, hwo⟩ := h.cover o ho
    refine ⟨markEmitted wm w, List.mem_map.mpr ⟨w, hw, rfl⟩, ?_⟩
    rw [markEmitted_eq, oblFor_markDone]
    exact hwo

theorem fire_checks (j : JSt) (wins : List Win) (h : WinRel wins j.obl) :
    ∀ c ∈ fixedChecks j (fired j.wm wins).length (fired j.wm wins), c.1 = true := by
  intro c hc
  simp only [fixedChecks, List.mem_append, List.mem_cons, List.mem_flatMap, List.not_mem_nil, or_false] at hc
  rcases hc with ((hc | hc) | ⟨em, hem, hc⟩) | hc
  · subst hc; simp
  · subst hc
    apply distinctIdents_of_nodup
    rw [List.map_map]
    have : (emIdent ∘ toEm) = ident := by funext w; rfl
    rw [this]
    exact List.Nodup.sublist (List.Sublist.map _ List.filter_sublist) h.nodup
  · obtain ⟨w, hwf, rfl⟩ := List.mem_map.mp hem
    obtain ⟨hw, hcl⟩ := List.mem_filter.mp hwf
    have hcl' : w.emitted = false ∧ w.e ≤ j.wm := by
      simpa [closable] using hcl
    have hrec := h.recs w hw
    have hids : w.recs.map (·.id) = (j.obl.filter (oblFor w.key w.s w.e)).map (·.id) := by
      simpa [Function.comp_def, pairOfRec, pairOfObl] using congrArg (List.map Prod.fst) hrec
    have hvals : w.recs.map (·.val) = (j.obl.filter (oblFor w.key w.s w.e)).map (·.val) := by
      simpa [Function.comp_def, pairOfRec, pairOfObl] using congrArg (List.map Prod.snd) hrec
    have hlen : w.recs.length = (j.obl.filter (oblFor w.key w.s w.e)).length := by
      have := congrArg List.length hrec
      simpa using this
    have hany : (j.obl.filter (oblFor w.key w.s w.e)).any (fun o => !o.done) = true := by
      obtain ⟨o, ho, hwo, hd⟩ := h.undone_of_open hw hcl'.1
      exact List.any_eq_true.2 ⟨o, List.mem_filter.2 ⟨ho, hwo⟩, by simp [hd]⟩
    simp only [emOk, toEm, List.mem_cons, List.not_mem_nil, or_false] at hc
    rcases hc with hc | hc | hc | hc
    · subst hc; simp [hcl'.2]
    · subst hc; simp [hids]
    · subst hc; exact hany
    · subst hc; simp [hlen, sumVals, hvals]
  · subst hc
    simp only [closureOk, List.all_eq_true, Bool.or_eq_true, decide_eq_true_eq, List.any_eq_true]
    intro o ho
    by_cases hd : o.done = true
    · exact Or.inl (Or.inl hd)
    · by_cases hlt : j.wm < o.e
      · exact Or.inl (Or.inr hlt)
      · right
        obtain ⟨w, hw, hwo⟩ := h.cover o ho
        have hoe : o.e = w.e := ((oblFor_iff _ _ _ _).mp hwo).2.2
        have hem : w.emitted = false := h.open_of_undone hw ho hwo (by simpa using hd)
        refine ⟨toEm w, List.mem_map.mpr ⟨w, List.mem_filter.mpr ⟨hw, ?_⟩, rfl⟩, hwo⟩
        simp [closable, hem]; omega

end HappyModel.C19.Win
