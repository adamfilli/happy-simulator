import HappyProofs.C02.JudgeFutureV
/-!
# C02 — the per-resumption clauses of the settle fold along a run of the model, plain futures

The link `FV.FB` carried along `run`: the line that opens a delivery (`S` / `K` for a plain event, `R` for a
continuation) puts the process that runs in the position `FV.FN` asks for, the segment keeps the link and the plainness
of the code left, and what the invocation created joins the pending continuations.  `FV.FI_run` does this for any view
given the link after the lines of one delivery.
-/
namespace HappyModel.C01.FV
open HappyModel.C01
open HappyModel.C02.Spec (Line SSt FObj FExpr stepLine settle)
variable {chk : Bool}

theorem OkProc.of_strip {p p' : Proc} (h : OkProc p) (hs : strip p' = strip p) : OkProc p' := by
  have h1 : p'.segs = p.segs := (congrArg Proc.segs hs :)
  have h2 : p'.started = p.started := (congrArg Proc.started hs :)
  unfold OkProc
  rw [h1, h2]
  exact h

theorem PPV_of_procsAre {L : List Proc} {r : Eff} (hd : ∀ d ∈ r.ps.defs, ∀ seg ∈ d.segs, PlainSeg seg)
    (hL : ∀ (q : Nat) (p : Proc), L[q]? = some p → OkProc p) (hp : ProcsAre L r) : PPV r.ps :=
  ⟨hd, fun q p' hq => (hL q (strip p') (by rw [← hp, List.getElem?_map, hq]; rfl)).of_strip rfl⟩

theorem runSegment_PPV (now : Nat) (e : Eff) (pid tag : Nat)
    (hd : ∀ d ∈ e.ps.defs, ∀ seg ∈ d.segs, PlainSeg seg)
    (hprocs : ∀ (q : Nat) (p : Proc), e.ps.procs[q]? = some p → q ≠ pid → OkProc p)
    (hme : ∀ p, e.ps.procs[pid]? = some p → ∀ seg ∈ p.segs, PlainSeg seg) :
    PPV (runSegment now e pid tag).ps := by
  have hdefs := runSegment_defs now e pid tag
  rcases runSegment_cases now e pid tag with ⟨he, hidle⟩ | ⟨p, seg, rest, hp, hs, he⟩ <;> rw [he] at hdefs ⊢
  · refine ⟨hd, fun q p' hq => ?_⟩
    by_cases hqp : q = pid
    · subst hqp
      exact ⟨by rw [hidle p' hq]; exact nofun, Or.inr (hidle p' hq)⟩
    · exact hprocs q p' hq hqp
  · refine PPV_of_procsAre (hdefs ▸ hd) ?_ (segBody_procs now e pid tag p seg rest)
    intro q x hq
    rcases getElem?_set_cases hq with ⟨_, rfl⟩ | ⟨hne, hq'⟩
    · have hrest : ∀ x ∈ rest, PlainSeg x := fun x hx => hme p hp x (by rw [hs]; exact List.mem_cons_of_mem _ hx)
      cases seg.term with
      | ret => exact ⟨nofun, Or.inr rfl⟩
      | yieldD d | yieldF f => exact ⟨hrest, Or.inl rfl⟩
    · obtain ⟨p0, hp0, rfl⟩ := Option.map_eq_some_iff.mp (List.getElem?_map .. ▸ hq')
      exact (hprocs q p0 hp0 hne).of_strip rfl

theorem procEff_PPV (ps : PS) (now : Nat) (ev : Ev) (h : PPV ps) : PPV (procEff ps now ev).ps := by
  rcases procEff_cases ps now ev with ⟨_, _, h'⟩ | ⟨d, _, hf, h'⟩ | ⟨_, h'⟩ <;> rw [h']
  · refine PPV_of_procsAre (L := ps.procs.map strip) ?_ ?_ (runHooks_closed (ProcsAre_closed _) now _ _ rfl)
    · rw [show _ = ps.defs from runHooks_closed (DefsAre_closed ps.defs) now _ (addObs { ps := ps } _) rfl]; exact h.defs
    · intro q x hq
      obtain ⟨p0, hp0, rfl⟩ := Option.map_eq_some_iff.mp (List.getElem?_map .. ▸ hq)
      exact (h.procs q p0 hp0).of_strip rfl
  · refine runSegment_PPV now _ _ _ h.defs ?_ (fun p hp => spawn_last hp ▸ h.defs d (List.mem_of_find?_eq_some hf))
    intro q p hq hne
    rcases getElem?_concat_cases (show (ps.procs ++ [newProc ps ev d])[q]? = some p from hq) with ⟨_, hq'⟩ | ⟨hq', _⟩
    · exact h.procs q p hq'
    · exact absurd hq' hne
  · exact runSegment_PPV now _ _ _ h.defs (fun q p hq _ => h.procs q p hq) (fun p hp => (h.procs _ p hp).1)

/-- the `X` of the link at run level: `q` has an untagged continuation at `T`ime `t` in the heap -/
def XT (heap : List Ev) (q t : Nat) : Prop := ∃ ev ∈ heap, ev.data = q + 1 ∧ ev.tag = 0 ∧ ev.time = t

/-- (`X'` may also be smaller than `X`: the delivered event has left the heap) -/
theorem FB_close {r : Eff} {j : SSt} {k : Nat} {X X' : Nat → Nat → Prop} (h : FB chk r j k X)
    (hX' : ∀ q t, X' q t → X q t ∨ ∃ sp ∈ r.specs, sp.data = q + 1 ∧ sp.tag = 0 ∧ sp.time = t) :
    FB chk ({ ps := r.ps } : Eff) j k X' :=
  { toFT := h.toFT, held := h.held
    excl := fun f pid hpk => ⟨fun t ht => (hX' pid t ht).elim ((h.excl f pid hpk).1 t)
      (fun ⟨sp, hsp, hd, htag, _⟩ => (h.excl f pid hpk).2 sp hsp hd htag), nofun⟩
    pend := fun pid t hp w hw => hp.elim (fun hp => h.pend pid t (hX' pid t hp) w hw) (fun ⟨_, hsp, _⟩ => nomatch hsp) }

/-- `F`uture `I`nvariant of a run: the link between the lines written so far and the state, and the plainness of the
    code left -/
structure FI (chk : Bool) (heap : List Ev) (ps : PS) (ls : List Line) : Prop where
  fb : FB chk ({ ps := ps } : Eff) (foldFrom 0 ls {}) ls.length (XT heap)
  pp : PPV ps

theorem XT_erase {heap : List Ev} {m : Ev} (q t : Nat) : XT (heap.erase m) q t → XT heap q t :=
  fun ⟨ev, he, hd⟩ => ⟨ev, List.mem_of_mem_erase he, hd⟩

theorem FN_of_plain (s : St PS) (m : Ev) (pinv : ProcInv s) {j : SSt} {k : Nat}
    (h : FB chk ({ ps := s.ent } : Eff) j k (XT s.heap)) (hclk : chk = true → j.clock = m.time) :
    FN chk j k (XT (s.heap.erase m)) s.ent.procs.length m.time ({ ps := s.ent } : Eff) := by
  refine ⟨FB_close h (fun q t a => Or.inl (XT_erase q t a)), ⟨(cntPark_zero _ _).mp (fresh_pid_nothing s pinv).2, ?_, nofun⟩, hclk⟩
  intro t ⟨ev, he, hdq, _⟩
  have := pinv.heapProc ev (List.mem_of_mem_erase he)
  omega

theorem FN_of_cont (s : St PS) (m : Ev) (hm : m ∈ s.heap) (pinv : ProcInv s) (j : SSt) (k : Nat)
    (h : FB chk ({ ps := s.ent } : Eff) j k (XT s.heap)) (hd : m.data ≠ 0) (hr : rLine s.ent m ≠ []) :
    FN chk (foldFrom k (rLine s.ent m) j) (k + (rLine s.ent m).length) (XT (s.heap.erase m)) (m.data - 1) m.time
      ({ ps := s.ent } : Eff) := by
  obtain ⟨hsole, hnp⟩ := cont_sole s m pinv hm hd
  have hnx : ∀ t, ¬ XT (s.heap.erase m) (m.data - 1) t := fun t ⟨ev, he, hdq, _⟩ => hsole ev he (by omega)
  rcases rLine_cases s.ent m with hnil | ⟨p, _, hp, _, hline⟩
  · exact absurd hnil hr
  · rw [hline]
    show FN chk (stepLine j k (Line.resume m.time (m.data - 1) p.send.show m.tag)) (k + 1) _ _ _ _
    obtain ⟨hobjs, hslot, herrB, herrN, hclock, hcat, hwsub, hq, hself⟩ :=
      step_resume chk j k m.time (m.data - 1) m.tag p.send.show h.err h.errN (by
        intro htag w hw
        obtain ⟨rp, v, p0, e1, e2, e3, e4⟩ :=
          h.pend (m.data - 1) m.time (Or.inl ⟨m, hm, (Nat.succ_pred_eq_of_ne_zero hd).symm, htag, rfl⟩) w hw
        cases Option.some.inj (hp.symm.trans e3)
        exact ⟨rp, v, e1, fun c => ⟨e2 c, by rw [e4]⟩⟩)
    refine ⟨FB_judge (FB_close h (fun q t a => Or.inl (XT_erase q t a))) hobjs hslot ?_ hwsub hcat herrB herrN,
      ⟨hnp, hnx, nofun⟩, fun _ => hclock⟩
    -- the wait this resumption used up is gone, the others are found as before
    intro q w hf
    by_cases hqp : m.tag = 0 ∧ q = m.data - 1
    · rw [hqp.2, hself hqp.1] at hf; cases hf
    · rwa [hq q (fun ht hq' => hqp ⟨ht, hq'⟩)] at hf

theorem FB_open (s : St PS) (m : Ev) (hm : m ∈ s.heap) (pinv : ProcInv s) (j : SSt) (k : Nat)
    (h : FB true ({ ps := s.ent } : Eff) j k (XT s.heap)) (hline : m.data = 0 ∨ rLine s.ent m ≠ []) :
    FN true (foldFrom k (openLine s.ent m) j) (k + (openLine s.ent m).length) (XT (s.heap.erase m))
      (if m.data = 0 then s.ent.procs.length else m.data - 1) m.time ({ ps := s.ent } : Eff) := by
  unfold openLine
  by_cases hd : m.data = 0
  · simp only [hd, if_true]
    have hfn := FN_of_plain s m pinv (FB_clock h m.time) (fun _ => rfl)
    cases s.ent.defs.find? (fun d => d.ent == m.target && d.kind == m.kind) <;> exact hfn
  · simp only [hd, if_false]
    exact FN_of_cont s m hm pinv j k h hd (hline.resolve_left hd)

theorem FB_open_view (s : St PS) (m : Ev) (hm : m ∈ s.heap) (pinv : ProcInv s) (j : SSt) (k : Nat)
    (h : FB false ({ ps := s.ent } : Eff) j k (XT s.heap)) (hline : m.data = 0 ∨ rLine s.ent m ≠ []) :
    FN false (foldFrom k (rLine s.ent m) j) (k + (rLine s.ent m).length) (XT (s.heap.erase m))
      (if m.data = 0 then s.ent.procs.length else m.data - 1) m.time ({ ps := s.ent } : Eff) := by
  by_cases hd : m.data = 0
  · have hr : rLine s.ent m = [] := by simp [rLine, hd]
    simp only [hd, if_true, hr, foldFrom, List.length_nil, Nat.add_zero]
    exact FN_of_plain s m pinv h (fun c => by cases c)
  · simp only [hd, if_false]
    exact FN_of_cont s m hm pinv j k h hd (hline.resolve_left hd)

/-- a continuation that writes no `R` line goes to a process with nothing left to run: no effect, no line -/
theorem noline (ps : PS) (now : Nat) (m : Ev) (hd : m.data ≠ 0) (hr : rLine ps m = []) (hpp : PPV ps) :
    (∀ p, ps.procs[m.data - 1]? = some p → p.segs = []) ∧
    procEff ps now m = ({ ps := ps } : Eff) ∧ rsLine ps now m = [] ∧ wLine ps now m = [] := by
  have hidle : ∀ p, ps.procs[m.data - 1]? = some p → p.segs = [] := by
    intro p hp
    unfold rLine at hr
    rw [if_neg hd, hp] at hr
    rcases (hpp.procs _ p hp).2 with h1 | h1
    · by_cases hst : (p.started && !p.segs.isEmpty) = true
      · simp only [hst, if_true] at hr; cases hr
      · simpa [h1] using hst
    · exact h1
  unfold procEff rsLine wLine
  simp only [hd, if_false]
  rcases runSegment_cases now ({ ps := ps } : Eff) (m.data - 1) m.tag with ⟨he, _⟩ | ⟨p, seg, rest, hp, hs, _⟩
  · exact ⟨hidle, he, resLines_idle hidle, termLines_idle hidle⟩
  · rw [hidle p hp] at hs; cases hs

/-- `op`: the opening lines of the delivery, after which the link holds for the process that runs -/
theorem deliver_FB (s : St PS) (ls op : List Line) (m : Ev) (h : FI chk s.heap s.ent ls)
    (hop : m.data = 0 ∨ rLine s.ent m ≠ [] →
      FN chk (foldFrom ls.length op (foldFrom 0 ls {})) (ls.length + op.length) (XT (s.heap.erase m))
        (if m.data = 0 then s.ent.procs.length else m.data - 1) m.time ({ ps := s.ent } : Eff))
    (hnil : m.data ≠ 0 → rLine s.ent m = [] → op = []) :
    FB chk (procEff s.ent m.time m) (foldFrom 0 (ls ++ (op ++ (rsLine s.ent m.time m ++ wLine s.ent m.time m))) {})
      (ls ++ (op ++ (rsLine s.ent m.time m ++ wLine s.ent m.time m))).length (XT (s.heap.erase m)) := by
  by_cases hline : m.data = 0 ∨ rLine s.ent m ≠ []
  · have hpe := procEff_FB s.ent m.time m (ls.length + op.length) h.pp (hop hline)
    have hlen : (ls ++ (op ++ (rsLine s.ent m.time m ++ wLine s.ent m.time m))).length =
        ls.length + op.length + (rsLine s.ent m.time m ++ wLine s.ent m.time m).length := by
      simp only [List.length_append]; omega
    rw [foldFrom_append, foldFrom_append, Nat.zero_add, hlen]
    exact hpe
  · have hd : m.data ≠ 0 := fun h0 => hline (Or.inl h0)
    have hr : rLine s.ent m = [] := Classical.not_not.mp (fun hne => hline (Or.inr hne))
    obtain ⟨_, e1, e2, e3⟩ := noline s.ent m.time m hd hr h.pp
    rw [e1, hnil hd hr, e2, e3, List.append_nil, List.append_nil, List.append_nil]
    exact FB_close h.fb (fun q t a => Or.inl (XT_erase q t a))

theorem FI_run {endT : Option Nat} {L : St PS → Ev → List Line} {gr : Nat → St PS → List Line → List Line}
    (hv : IsView endT L gr)
    (hL : ∀ (s : St PS) (ls : List Line) (m : Ev), m ∈ s.heap → ProcInv s → FI chk s.heap s.ent ls →
      FB chk (procEff s.ent m.time m) (foldFrom 0 (ls ++ L s m) {}) (ls ++ L s m).length (XT (s.heap.erase m)))
    (n : Nat) (s : St PS) (ls : List Line) (pinv : ProcInv s) (h : FI chk s.heap s.ent ls) :
    FI chk (run procMachine endT n s).heap (run procMachine endT n s).ent (gr n s ls) :=
  run_view hv (P := fun s ls => FI chk s.heap s.ent ls) (fun s m hm _ pinv => step_procInv s m pinv hm)
    (fun s ls m s' i h k => by rw [k.heap, k.ent]; exact ⟨FB_close h.fb (fun q t a => Or.inl (XT_erase q t a)), h.pp⟩)
    (fun s ls m s' hm i h k => by
      rw [k.heap, k.ent]
      refine ⟨FB_close (hL s ls m hm i h) ?_, procEff_PPV s.ent m.time m h.pp⟩
      intro q t ⟨ev, he, hd, ht, htt⟩
      rcases List.mem_append.mp he with he | he
      · exact Or.inl ⟨ev, he, hd, ht, htt⟩
      · obtain ⟨sp, hsp, h1, h2, h3⟩ := mkEvents_mem _ _ _ ev he
        exact Or.inr ⟨sp, hsp, by omega, by omega, by omega⟩)
    n s ls pinv h

theorem FB_init (s0 : St PS) (h0 : InitOk s0) (hfut : s0.ent.futs = []) :
    FB chk ({ ps := s0.ent } : Eff) {} 0 (XT s0.heap) := by
  have hget : ∀ f, futGet s0.ent.futs f = ({} : Fut) := by intro f; rw [hfut]; rfl
  have hpk : ∀ {P : Prop} (f pid : Nat), (futGet s0.ent.futs f).parked = some pid → P := fun f pid hf => by
    rw [hget] at hf; cases hf
  exact
    { js := ⟨fun o ho => by simp at ho, fun g o hg => by simp [SSt.obj] at hg, fun a b o ha => by simp [SSt.obj] at ha⟩
      len := rfl
      wpos := fun w hw => by simp at hw
      rpos := fun o r hr => by simp [resOf] at hr
      res := fun f hf => by rw [hget] at hf; cases hf
      unres := fun f o _ ho => by simp [SSt.obj] at ho
      nocb := fun f => by rw [hget]
      park := fun f pid hf => hpk f pid hf
      park1 := fun f g pid hf => hpk f pid hf
      err := by simp [BR]
      errN := fun _ => rfl
      excl := fun f pid hf => hpk f pid hf
      pend := fun pid t hp w hw => by simp at hw
      held := h0.heldPlain }

end HappyModel.C01.FV

namespace HappyModel.C01
open HappyModel.C02.Spec (Line SSt FObj FExpr stepLine settle)

/-- **`future/resumed-before-resolved` is silent on the trace of the model, plain futures**: for every
    handler table whose segments use no combinator and never rebind a slot (`PlainSeg`), every initial state with
    plain pending events and no future created yet, every end time and number of iterations, the settle fold
    of the C02 judge over the numbered `R` / `r` / `w` lines of the model's run never raises the clause —
    whenever a process is resumed by a future, the future it waits on (the first outstanding `w` line of
    that process) has an `r` line before the resumption -/
theorem future_before_resolved_silent_on_model_plain (endT : Option Nat) (n : Nat) (s0 : St PS) (h0 : InitOk s0)
    (hpl : ∀ d ∈ s0.ent.defs, ∀ seg ∈ d.segs, PlainSeg seg) (hfut : s0.ent.futs = []) :
    ((enum (futView endT n s0)).foldl (fun st p => stepLine st p.1 p.2) {}).err ≠
      some "future/resumed-before-resolved" := by
  rw [fold_enum_eq]
  have hpp : FV.PPV s0.ent := ⟨hpl, by intro q p hq; rw [h0.noProcs] at hq; simp at hq⟩
  exact (FV.FI_run (FV.fviewRun_isView endT) (fun s ls m hm pinv h => FV.deliver_FB s ls (rLine s.ent m) m h
    (fun hl => FV.FB_open_view s m hm pinv _ _ h.fb hl) (fun _ hr => hr)) n s0 [] h0.procInv
    ⟨FV.FB_init s0 h0 hfut, hpp⟩).fb.err

theorem future_before_resolved_silent_on_program_plain (p : Program) (gateCont : Bool) (hp : p.Plain)
    (hf : p.PlainFutures) (endT : Option Nat) (n : Nat) :
    ((enum (futView endT n (p.initState gateCont))).foldl (fun st q => stepLine st q.1 q.2) {}).err ≠
      some "future/resumed-before-resolved" :=
  future_before_resolved_silent_on_model_plain endT n _ (initState_ok p gateCont hp) hf rfl

/-- **the per-resumption future clauses are silent on the trace of the model, plain futures**: for every
    handler table whose segments use no combinator and never rebind a slot (`FV.PlainSegV`; its clause that resolved
    values do not print as `raised:…` excludes nothing, `FV.okv_all`), every initial state with plain pending events
    and no future created yet, every end time and number of iterations, the settle fold of the C02 judge over the numbered
    `S` / `K` / `R` / `r` / `w` lines of the model's run (`FV.futTrace`) ends without an error: none of
    `future/resumed-before-resolved`, `future/value-raised-instead-of-sent`, `future/resumed-with-wrong-value`,
    `future/resumed-at-wrong-instant` (the only errors this fold raises) fires — the process resumed by a
    future waits on an object with an `r` line, it is sent the value of that line, at the clock of the later
    of its `w` line and that `r` line -/
theorem future_clauses_silent_on_model_plain (endT : Option Nat) (n : Nat) (s0 : St PS) (h0 : InitOk s0)
    (hpl : ∀ d ∈ s0.ent.defs, ∀ seg ∈ d.segs, FV.PlainSegV seg) (hfut : s0.ent.futs = []) :
    ((enum (FV.futTrace endT n s0)).foldl (fun st p => stepLine st p.1 p.2) {}).err = none := by
  rw [fold_enum_eq]
  have hpp : FV.PPV s0.ent := ⟨fun d hd seg hs => (hpl d hd seg hs).plain, by intro q p hq; rw [h0.noProcs] at hq; simp at hq⟩
  exact (FV.FI_run (FV.ftRun_isView endT) (fun s ls m hm pinv h => FV.deliver_FB s ls (FV.openLine s.ent m) m h
    (fun hl => FV.FB_open s m hm pinv _ _ h.fb hl) (fun hd hr => by unfold FV.openLine; simp only [hd, if_false, hr]))
    n s0 [] h0.procInv ⟨FV.FB_init s0 h0 hfut, hpp⟩).fb.errN rfl

theorem future_clauses_silent_on_program_plain (p : Program) (gateCont : Bool) (hp : p.Plain)
    (hf : p.PlainFuturesV) (endT : Option Nat) (n : Nat) :
    ((enum (FV.futTrace endT n (p.initState gateCont))).foldl (fun st q => stepLine st q.1 q.2) {}).err = none :=
  future_clauses_silent_on_model_plain endT n _ (initState_ok p gateCont hp) hf rfl

end HappyModel.C01

