import HappyProofs.C08.PipeWInv
/-!
C08 part 2b — the protocol of /repo HEAD (`admission` off, `wake` on): a granted poll dequeues
whatever the policy hands out; the worker rejects and counts what does not fit.  `DInv` is preserved
by every delivery of every schedule that handles a `QueueDispatchedEvent` after its payload — no
hypothesis on weights, queue kind or limit changes.  Its first part `DInv0` (round trip, item count,
units in use) does not depend on the two switches and is preserved under every config.
-/
namespace HappyModel.C08.PipeW

/-- /repo HEAD -/
structure SettingD (c : WCfg) : Prop where
  ha : c.admission = false
  hw : c.wake = true

/-- admissible delivery: a `QueueDispatchedEvent` is handled only after the payload it was created
    behind has reached the worker (engine FIFO tie order); nothing else is asked -/
def AdmD (s : WSt) (a : Act) : Prop := a = .disp → s.works = []

instance instDecAdmD (s : WSt) (a : Act) : Decidable (AdmD s a) :=
  inferInstanceAs (Decidable (a = .disp → s.works = []))

/-- every prefix of the schedule is admissible (`c` only drives the run) -/
def SchedD (c : WCfg) : WSt → List Act → Prop
  | _, [] => True
  | s, a :: as => AdmD s a ∧ SchedD c (step c s a).1 as

instance instDecSchedD (c : WCfg) : ∀ (as : List Act) (s : WSt), Decidable (SchedD c s as)
  | [], _ => isTrue trivial
  | a :: as, s =>
    match (inferInstance : Decidable (AdmD s a)), instDecSchedD c as (step c s a).1 with
    | isTrue h1, isTrue h2 => isTrue ⟨h1, h2⟩
    | isFalse h1, _ => isFalse fun h => h1 h.1
    | _, isFalse h2 => isFalse fun h => h2 h.2

theorem schedD_take {c : WCfg} : ∀ (n : Nat) (as : List Act) (s : WSt),
    SchedD c s as → SchedD c s (as.take n)
  | 0, _, _, _ => trivial
  | _ + 1, [], _, _ => trivial
  | n + 1, _ :: as, _, h => ⟨h.1, schedD_take n as _ h.2⟩

structure DInv0 (c : WCfg) (s : WSt) : Prop where
  rt : s.nPoll + s.delivers.length + s.nEmpty + s.nDisp = (if s.busy then 1 else 0)
  wf : s.works.length ≤ s.nDisp
  act : s.used = sumW c s.inService
  /-- waiting, in transit, in service, completed, rejected by the worker and counted -/
  count : s.acc = s.q.length + s.delivers.length + s.works.length + s.inService.length + s.completed + s.rejected

/-- some event of the driver's protocol is still to be delivered in this instant (an empty delivery
    counts only if it will make the driver ask again); `NoStrandD` below and `NoStrand` (`PipeWStep`)
    promise exactly this, written out -/
def Pending (s : WSt) : Prop :=
  0 < s.nNotify ∨ 0 < s.nPoll ∨ 0 < s.delivers.length ∨ 0 < s.nDisp ∨ (0 < s.nEmpty ∧ s.recheck = true)

theorem quiescent_no_pending {s : WSt} (hq : quiescent s = true) : ¬ Pending s := by
  simp only [quiescent, Bool.and_eq_true, beq_iff_eq, List.isEmpty_iff] at hq
  obtain ⟨⟨⟨⟨⟨h1, h2⟩, h3⟩, h4⟩, h5⟩, h6⟩ := hq
  rw [Pending, h5]
  simp only [List.length_nil]
  omega

/-- whenever something waits and at least one unit is free, some protocol event is still pending
    (the code dequeues on one free unit and rejects a head that does not fit rather than letting it
    block the queue) -/
def NoStrandD (s : WSt) : Prop := s.q ≠ [] → s.used + 1 ≤ s.limit →
    0 < s.nNotify ∨ 0 < s.nPoll ∨ 0 < s.delivers.length ∨ 0 < s.nDisp ∨ (0 < s.nEmpty ∧ s.recheck = true)

structure DInv (c : WCfg) (s : WSt) : Prop extends DInv0 c s where
  strand : NoStrandD s

theorem dinv_init (c : WCfg) (lim : Nat) : DInv c { limit := lim } :=
  ⟨⟨rfl, Nat.le_refl _, rfl, rfl⟩, fun hq => absurd rfl hq⟩

/-- a round trip is under way exactly while the driver is busy, and there is only one -/
theorem DInv0.busy {c : WCfg} {s : WSt} (h : DInv0 c s)
    (hp : 0 < s.nPoll + s.delivers.length + s.nEmpty + s.nDisp) :
    s.busy = true ∧ s.nPoll + s.delivers.length + s.nEmpty + s.nDisp = 1 := by
  have rt := h.rt
  by_cases hb : s.busy = true
  · rw [if_pos hb] at rt
    exact ⟨hb, rt⟩
  · rw [if_neg hb] at rt
    omega

theorem pollIfReady_dinv0 {c : WCfg} {s : WSt} (h : DInv0 c s) : DInv0 c (pollIfReady s).1 := by
  unfold pollIfReady
  split
  · exact ⟨h.rt, h.wf, h.act, h.count⟩
  next hb =>
    split
    · refine ⟨?_, h.wf, h.act, h.count⟩
      have rt := h.rt
      rw [if_neg hb] at rt
      dsimp only
      rw [if_pos rfl]
      omega
    · exact h

/-- what `_poll_if_ready` leaves behind, whatever the state: a re-check noted for the round trip under
    way, a poll, or no free unit -/
def Asked (s : WSt) : Prop := (s.busy = true ∧ s.recheck = true) ∨ 0 < s.nPoll ∨ s.limit < s.used + 1

theorem pollIfReady_asked (s : WSt) : Asked (pollIfReady s).1 := by
  unfold pollIfReady
  split
  next hb => exact .inl ⟨hb, rfl⟩
  · split
    · exact .inr (.inl (Nat.succ_pos _))
    next hf =>
      have := mt (fits_iff s 1).2 hf
      exact .inr (.inr (by dsimp only; omega))

/-- after `_poll_if_ready` a protocol event is pending unless no unit is free (while busy,
    the round trip under way will end in a re-check) -/
theorem Asked.pending {c : WCfg} {s : WSt} (h : DInv0 c s) (k : Asked s) :
    Pending s ∨ s.limit < s.used + 1 := by
  rcases k with ⟨hb, hr⟩ | k | k
  · have rt := h.rt
    rw [if_pos hb] at rt
    refine .inl ?_
    unfold Pending
    simp only [hr, and_true]
    omega
  · exact .inl (.inr (.inl k))
  · exact .inr k

theorem step_dinv0 {c : WCfg} {s : WSt} (a : Act) (ha : AdmD s a) (h : DInv0 c s) :
    DInv0 c (step c s a).1 := by
  refine step_ind (fun _ => pollIfReady_dinv0) fun b r p e => ?_
  cases e with
  | arr it =>
    refine ⟨h.rt, h.wf, h.act, ?_⟩
    dsimp only
    rw [List.length_append, List.length_singleton, h.count]
    omega
  | empty hn =>
    -- the poll turns into a delivery, full or empty: the round trip keeps its one token
    refine ⟨?_, h.wf, h.act, h.count⟩
    dsimp only
    rw [← h.rt]
    omega
  | pop it hn hit =>
    have hlen := length_erase_succ (pick_mem hit)
    refine ⟨?_, h.wf, h.act, ?_⟩
    · dsimp only
      rw [List.length_append, List.length_singleton, ← h.rt]
      omega
    · dsimp only
      rw [List.length_append, List.length_singleton, h.count]
      omega
  | deliver i it hb =>
    -- the payload goes on to the worker, the dispatched event behind it
    have hlen := length_erase_succ (byId_mem hb)
    refine ⟨?_, ?_, h.act, ?_⟩
    · dsimp only
      rw [← h.rt]
      omega
    · have := h.wf
      dsimp only
      rw [List.length_append, List.length_singleton]
      omega
    · dsimp only
      rw [List.length_append, List.length_singleton, h.count]
      omega
  | again _ hn | settle hn =>
    -- an empty delivery ends the round trip
    have rt := (h.busy (by omega)).2
    refine ⟨?_, h.wf, h.act, h.count⟩
    dsimp only
    rw [if_neg (by decide)]
    omega
  | start i it hb =>
    -- the dispatched event behind the payload is still pending
    have hlen := length_erase_succ (byId_mem hb)
    refine ⟨h.rt, ?_, ?_, ?_⟩
    · have := h.wf
      dsimp only
      omega
    · dsimp only
      rw [sumW_append, sumW_singleton, h.act]
    · dsimp only
      rw [List.length_append, List.length_singleton, h.count]
      omega
  | reject i it hb =>
    -- counted, nothing taken
    have hlen := length_erase_succ (byId_mem hb)
    refine ⟨h.rt, ?_, h.act, ?_⟩
    · have := h.wf
      dsimp only
      omega
    · dsimp only
      rw [h.count]
      omega
  | disp _ hn =>
    -- the dispatched event ends the round trip; its payload has reached the worker
    have rt := (h.busy (by omega)).2
    refine ⟨?_, ?_, h.act, h.count⟩
    · dsimp only
      rw [if_neg (by decide)]
      omega
    · dsimp only
      rw [ha rfl]
      exact Nat.zero_le _
  | fin i it hb =>
    have hlen := length_erase_succ (byId_mem hb)
    have hsum := sumW_erase c (byId_mem hb)
    refine ⟨h.rt, h.wf, ?_, ?_⟩
    · dsimp only
      rw [h.act]
      omega
    · dsimp only
      rw [h.count]
      omega
  | _ => exact ⟨h.rt, h.wf, h.act, h.count⟩

theorem Pending.of_notify {s : WSt} (h : 0 < s.nNotify) : Pending s := Or.inl h
theorem Pending.of_deliver {s : WSt} (h : 0 < s.delivers.length) : Pending s := Or.inr (Or.inr (Or.inl h))
theorem Pending.of_disp {s : WSt} (h : 0 < s.nDisp) : Pending s := Or.inr (Or.inr (Or.inr (Or.inl h)))

/-- when waiting work must not be left alone, as a property of the queue, the units in use and the
    limit: it asks for waiting work and a free unit, and survives a raised limit -/
structure Need (need : List WItem → Nat → Nat → Prop) : Prop where
  unit : ∀ {q u l}, need q u l → q ≠ [] ∧ u + 1 ≤ l
  mono : ∀ {q u l l'}, need q u l → l ≤ l' → need q u l'

/-- the no-strand clause of both protocols: if need leaves an event pending before a delivery, it does
    so after it.  The protocols differ in two facts only: an arrival behind waiting work creates no
    need, and a poll is answered empty only when there is none. -/
theorem step_need {c : WCfg} {s : WSt} {need : List WItem → Nat → Nat → Prop} (hn : Need need)
    (hw : c.wake = true) (a : Act) (ha : AdmD s a) (h : DInv0 c s)
    (hs : need s.q s.used s.limit → Pending s)
    (harr : ∀ it, a = .arr it → s.q ≠ [] → need (s.q ++ [it]) s.used s.limit → need s.q s.used s.limit)
    (hemp : ∀ it, pick c.kind s.q = some it → ¬ admits c s it = true → ¬ need s.q s.used s.limit)
    (k : need (step c s a).1.q (step c s a).1.used (step c s a).1.limit) : Pending (step c s a).1 := by
  have h' := step_dinv0 a ha h
  obtain ⟨b, p, e, hs'⟩ := step_eff c s a
  generalize (step c s a).2 = r at e
  cases p
  · rw [hs', show after b false = b from rfl] at k ⊢
    cases e with
    | idle | drop => exact hs k
    | arr it =>
      by_cases hq : s.q = []
      · -- the first item to wait: the queue notifies the driver
        exact .of_notify (by simp [hq])
      · have hne : s.q.isEmpty = false := by simpa using hq
        simp only [hne, Bool.false_eq_true, if_false]
        exact hs (harr it rfl hq k)
    | empty _ hp =>
      obtain ⟨it, hit⟩ := pick_ne_none (k := c.kind) (hn.unit k).1
      exact absurd k (hemp it hit (hp it hit))
    | pop => exact .of_deliver (by simp)
    | deliver => exact .of_disp (Nat.succ_pos _)
    | settle hne hr =>
      -- no poll, delivery or dispatch can be under way beside the empty delivery, so what was
      -- pending is a notify, and it still is
      have rt := (h.busy (by omega)).2
      rcases hs k with g | g | g | g | ⟨_, g⟩
      · exact .of_notify g
      · omega
      · omega
      · omega
      · exact absurd g hr
    | start i it hb =>
      have := h.wf
      have := List.length_pos_of_mem (byId_mem hb)
      exact .of_disp (by dsimp only; omega)
    | raise => exact .of_notify (Nat.succ_pos _)
    | limit n hc =>
      have hl : ¬ s.limit < newLimit c s n := fun hl => hc ⟨hw, hl, (hn.unit k).1⟩
      exact hs (hn.mono k (by dsimp only; omega))
  · rw [hs', show after b true = (pollIfReady b).1 from rfl] at k h' ⊢
    refine (Asked.pending h' (pollIfReady_asked b)).resolve_right ?_
    have := (hn.unit k).2
    omega

theorem stepD_inv {c : WCfg} {s : WSt} (st : SettingD c) (a : Act) (ha : AdmD s a) (h : DInv c s) :
    DInv c (step c s a).1 :=
  ⟨step_dinv0 a ha h.toDInv0, fun hq hfit =>
    step_need (need := fun q u l => q ≠ [] ∧ u + 1 ≤ l) ⟨id, fun k hl => ⟨k.1, by omega⟩⟩ st.hw a ha h.toDInv0
      (fun k => h.strand k.1 k.2) (fun _ _ hq k => ⟨hq, k.2⟩)
      -- without the admission test the queue hands out whatever the policy picks
      (fun it _ had => absurd (by simp [admits, st.ha]) had) ⟨hq, hfit⟩⟩

end HappyModel.C08.PipeW
