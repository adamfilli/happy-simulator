import HappyProofs.C19.MQStep
/-!
# C19 — every delivery reaches a subscribed consumer at the delivery instant

On every schedule the judge `jReach` finds nothing wrong with the trace of the repaired (`legacy = false`) queue until
the end of the run, and objects there exactly when a delivery is still suspended or in the engine's heap; so it
accepts every run that ends quiescent.  What it remembers is read off the model state (`reachOf`: the consumers and
the tickets); `TixInv` is what the queue keeps true of its tickets.
-/
namespace HappyModel.C19

/-- what the judge remembers of a started delivery -/
def tkOf (x : Ticket) : Tk := ⟨x.d, x.k, x.c, x.t0⟩

def reachOf (s : MQ) : ReachSt := ⟨s.cons, s.tix.map tkOf⟩

structure TixInv (lat : Nat) (s : MQ) : Prop where
  stamp : ∀ x ∈ s.tix, ∀ n st, x.fired = some (n, st) → st = x.t0 + lat
  dlt : ∀ x ∈ s.tix, x.d < s.nd
  nodup : (s.tix.map (·.d)).Nodup

theorem reach_quiet (lat : Nat) (j : ReachSt) (t : Nat) (a : Act) (o : Out) (cr : Ctr)
    (h1 : ∀ d k c n, o ≠ .disp d k c n) (h2 : ∀ k c n st, o ≠ .emit k c n st) (h3 : ∀ k c n, o ≠ .recv k c n) :
    j.check lat ⟨t, a, o, cr⟩ = .ok { j with subs := subsAfter j.subs a } := by
  unfold ReachSt.check
  split
  · next ho => exact absurd ho (h1 _ _ _ _)
  · next ho => exact absurd ho (h2 _ _ _ _)
  · next ho => exact absurd ho (h3 _ _ _)
  · cases a <;> rfl

theorem reach_eq_of_nodup_d : ∀ {l : List Ticket}, (l.map (·.d)).Nodup →
    ∀ {x y : Ticket}, x ∈ l → y ∈ l → x.d = y.d → x = y
  | [], _, _, _, hx, _, _ => by simp at hx
  | a :: l, h, x, y, hx, hy, hd => by
    simp only [List.map_cons, List.nodup_cons, List.mem_map, not_exists, not_and] at h
    rcases List.mem_cons.mp hx with ex | mx <;> rcases List.mem_cons.mp hy with ey | my
    · rw [ex, ey]
    · exact absurd (ex ▸ hd.symm) (h.1 y my)
    · exact absurd (ey ▸ hd) (h.1 x mx)
    · exact reach_eq_of_nodup_d h.2 mx my hd

theorem reach_tkOf_fire (d n st : Nat) (x : Ticket) : tkOf (Ticket.fire d n st x) = tkOf x := by
  unfold Ticket.fire; split <;> rfl

theorem reach_d_fire (d n st : Nat) (x : Ticket) : (Ticket.fire d n st x).d = x.d := by
  unfold Ticket.fire; split <;> rfl

theorem reach_check {cfg : Cfg} (hl : cfg.legacy = false) {t : Nat} {s s' : MQ} {a : Act} {o : Out}
    (h : TixInv cfg.lat s) (hs : Step cfg t s a s' o) :
    (reachOf s).check cfg.lat ⟨t, a, o, s'.ctr⟩ = .ok (reachOf s') ∧ TixInv cfg.lat s' := by
  have quiet : ∀ (s' : MQ) (o : Out), (∀ d k c n, o ≠ .disp d k c n) → (∀ k c n st, o ≠ .emit k c n st) →
      (∀ k c n, o ≠ .recv k c n) → s'.cons = subsAfter s.cons a → s'.tix = s.tix → s'.nd = s.nd →
      (reachOf s).check cfg.lat ⟨t, a, o, s'.ctr⟩ = .ok (reachOf s') ∧ TixInv cfg.lat s' :=
    fun s' o h1 h2 h3 h4 h5 h6 => ⟨by rw [reach_quiet _ _ t a o _ h1 h2 h3, reachOf, reachOf, h4, h5],
      h5 ▸ h.stamp, h5 ▸ h6 ▸ h.dlt, h5 ▸ h.nodup⟩
  have disp : ∀ (s0 : MQ) (k c : Nat), s0.nextConsumer = some c → s0.cons = s.cons → s0.tix = s.tix → s0.nd = s.nd →
      (reachOf s).check cfg.lat ⟨t, a, .disp s.nd k c (s.cnt k + 1), (s0.dispatch t k c).ctr⟩ =
        .ok (reachOf (s0.dispatch t k c)) ∧ TixInv cfg.lat (s0.dispatch t k c) := by
    intro s0 k c hc h1 h2 h3
    have hcm : c ∈ s.cons := h1 ▸ List.mem_of_getElem? hc
    refine ⟨by simp [ReachSt.check, reachOf, MQ.dispatch, tkOf, hcm, h1, h2, h3], ?_, ?_, ?_⟩
    · intro y hy n st hf
      rcases List.mem_append.mp hy with hy | hy
      · exact h.stamp y (h2 ▸ hy) n st hf
      · simp at hy; subst hy; simp at hf
    · intro y hy
      rcases List.mem_append.mp hy with hy | hy
      · show y.d < s0.nd + 1
        rw [h3]
        exact Nat.lt_succ_of_lt (h.dlt y (h2 ▸ hy))
      · simp at hy; subst hy; exact Nat.lt_succ_self _
    · show ((s0.tix ++ [(⟨s0.nd, k, c, t, none⟩ : Ticket)]).map (fun x : Ticket => x.d)).Nodup
      rw [List.map_append, h2, h3]
      refine nodup_snoc h.nodup fun hx => ?_
      obtain ⟨x0, hx0, e⟩ := List.mem_map.mp hx
      exact Nat.ne_of_lt (h.dlt x0 hx0) e
  cases hs with
  | stay ho _ _ _ _ hsub =>
    refine quiet s o ho.ne.2.1 ?_ ?_ hsub.symm rfl rfl <;>
      rcases ho with rfl | rfl | rfl | rfl | rfl | rfl <;> simp
  | poll _ _ hc => exact disp s _ _ hc rfl rfl rfl
  | redeliv _ hc => exact disp { s with sched := s.sched.erase _ } _ _ hc rfl rfl rfl
  | @fire d x tix' stamp hx hf ht hh =>
    -- the repaired code stamps with the clock after the yield; ticket numbers are distinct, so the one ticket
    -- `Ticket.fire d` changes is `x`, and it gets the stamp `t = x.t0 + lat`; what the judge remembers is untouched
    obtain ⟨hleg, rfl, hst⟩ : ¬ (cfg.legacy = true ∧ x.t0 < t) ∧ tix' = _ ∧ stamp = t :=
      hh.resolve_left (by simp [hl])
    rw [hst]
    have hxm : x ∈ s.tix := List.mem_of_find?_eq_some hx
    have hxd : x.d = d := by simpa using List.find?_some hx
    refine ⟨?_, ?_, ?_, ?_⟩
    · simp only [ReachSt.check, Nat.lt_irrefl, decide_false, Bool.false_eq_true, if_false, reachOf, List.map_map]
      exact congrArg _ (congrArg _ (List.map_congr_left fun y _ => (reach_tkOf_fire _ _ _ y).symm))
    · intro y hy n st hf'
      obtain ⟨y0, hy0, rfl⟩ := List.mem_map.mp hy
      by_cases hyd : y0.d = d
      · have hy0x : y0 = x := reach_eq_of_nodup_d h.nodup hy0 hxm (hyd.trans hxd.symm)
        subst hy0x
        simp [Ticket.fire, hyd] at hf' ⊢
        rw [← hf'.2]; exact ht
      · have e : Ticket.fire d (s.cnt x.k) t y0 = y0 := by simp [Ticket.fire, hyd]
        rw [e] at hf' ⊢
        exact h.stamp y0 hy0 n st hf'
    · intro y hy
      obtain ⟨y0, hy0, rfl⟩ := List.mem_map.mp hy
      rw [reach_d_fire]; exact h.dlt y0 hy0
    · show ((s.tix.map (Ticket.fire d (s.cnt x.k) t)).map (fun x : Ticket => x.d)).Nodup
      have e : s.tix.map ((fun x : Ticket => x.d) ∘ Ticket.fire d (s.cnt x.k) t) =
          s.tix.map (fun x => x.d) := List.map_congr_left (fun y _ => reach_d_fire _ _ _ y)
      rw [List.map_map, e]
      exact h.nodup
  | @recv d x n hx hf =>
    have hxm : x ∈ s.tix := List.mem_of_find?_eq_some hx
    have hfind : (s.tix.map tkOf).find? (fun y => y.d == d) = some (tkOf x) := by
      rw [List.find?_map]
      have e : ((fun y : Tk => y.d == d) ∘ tkOf) = fun y : Ticket => y.d == d := rfl
      rw [e, hx]; rfl
    have ht : t = x.t0 + cfg.lat := h.stamp x hxm n t hf
    refine ⟨?_, fun y hy => h.stamp y (List.mem_filter.mp hy).1, fun y hy => h.dlt y (List.mem_filter.mp hy).1,
      (List.filter_sublist.map _).nodup h.nodup⟩
    simp [ReachSt.check, reachOf, hfind, tkOf, ht, List.filter_map]; rfl
  | dlq ha =>
    refine quiet _ _ ?_ ?_ ?_ ?_ rfl rfl <;> rcases ha with ⟨_, rfl, _, rfl⟩ | ⟨rfl, _, _, _, rfl⟩ <;> simp [subsAfter, MQ.toDlq]
  | _ => refine quiet _ _ ?_ ?_ ?_ rfl rfl rfl <;> simp

theorem reach_run_any (cfg : Cfg) (hl : cfg.legacy = false) (sched : List (Nat × Act)) :
    ∀ s : MQ, TixInv cfg.lat s →
      jReach cfg.lat (reachOf s) (MQ.run cfg s sched) =
        if (MQ.exec cfg s sched).tix = [] then none else some "mq/delivery/never-reached-consumer" := by
  induction sched with
  | nil =>
    intro s _
    cases hs : s.tix <;> simp [MQ.run, jReach, MQ.exec, reachOf, hs]
  | cons x rest ih =>
    intro s h
    obtain ⟨t, a⟩ := x
    obtain ⟨hj, h'⟩ := reach_check hl h (step_spec cfg t s a)
    simp only [MQ.run, jReach, hj, MQ.exec]
    exact ih _ h'

theorem delivery_safe_on_every_schedule (cfg : Cfg) (hl : cfg.legacy = false) (sched : List (Nat × Act)) :
    jReach cfg.lat {} (MQ.run cfg {} sched) =
      if (MQ.exec cfg {} sched).tix = [] then none else some "mq/delivery/never-reached-consumer" :=
  reach_run_any cfg hl sched {} ⟨by simp, by simp, by simp⟩

theorem delivery_reaches_consumer (cfg : Cfg) (hl : cfg.legacy = false) (sched : List (Nat × Act))
    (hq : (MQ.exec cfg {} sched).tix = []) :
    jReach cfg.lat {} (MQ.run cfg {} sched) = none := by
  exact (delivery_safe_on_every_schedule cfg hl sched).trans (if_pos hq)

/-! one message goes all the way to consumer 0; drop the final `recv` and the judge objects (and the hypothesis
`tix = []` fails) -/

def reachDemo : List (Nat × Act) := [(0, .sub 0), (1, .pub), (2, .poll), (7, .fire 0), (7, .recv 0)]

example : (MQ.exec {lat := 5, maxRe := 2} {} reachDemo).tix = [] := by decide +kernel
example : (MQ.run {lat := 5, maxRe := 2} {} reachDemo).map (·.out) =
    [.unit, .pubOk 0, .disp 0 0 0 1, .emit 0 0 1 7, .recv 0 0 1] := by decide +kernel
example : jReach 5 {} (MQ.run {lat := 5, maxRe := 2} {} reachDemo) = none := by decide +kernel
example : (MQ.exec {lat := 5, maxRe := 2} {} reachDemo.dropLast).tix ≠ [] := by decide +kernel
example : jReach 5 {} (MQ.run {lat := 5, maxRe := 2} {} reachDemo.dropLast) =
    some "mq/delivery/never-reached-consumer" := by decide +kernel

/-- a run cut off while a delivery is still suspended: the only objection is the end-of-run one -/
example : jReach 5 {} (MQ.run { lat := 5, maxRe := 2 } {} [(0, .sub 0), (1, .pub), (2, .poll)]) =
    some "mq/delivery/never-reached-consumer" := by decide +kernel

theorem legacy_stale_stamp_witness :
    jReach 5 {} (MQ.run {lat := 5, maxRe := 2, legacy := true} {}
      [(0, .sub 0), (1, .pub), (2, .poll), (7, .fire 0)])
      = some "mq/delivery/stamped-in-the-past" := by decide +kernel

end HappyModel.C19
