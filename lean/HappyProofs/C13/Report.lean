import HappyProofs.C13.PropsDetect
/-!
Clause 2 for the public summary reports of a node (`stats` counters, the member lists, the counts of `repr`).
The model derives no report of its own: the report that goes with a row is `Spec.reportOf` of it (the driver prints
that), and the judge's clause `Spec.reportOk` asks equality with it.  A report that passes lists and counts exactly
what the row says, so the detection bound holds of `alive_members` as well.
-/
namespace HappyModel.C13
variable {D : Type} [Inhabited D] [Detector D]

theorem mem_membersIn (a : Nat) (row : List MState) (st : MState) (x : Nat) :
    x ∈ Spec.membersIn a row st ↔ x < row.length ∧ x ≠ a ∧ lget MState.alive row x = st := by
  unfold Spec.membersIn
  rw [List.mem_filter]
  simp only [List.mem_range, Bool.and_eq_true, bne_iff_ne, ne_eq, beq_iff_eq]

/-- `Spec.reportOf` of the row `a` reports passes the judge's clause against that row (by reflexivity of `==`:
    the run plays no part) -/
theorem report_agrees_with_states (c : Cfg) (s : Sys D) (acts : List Act) (a : Nat) :
    Spec.reportOk a (obsRow c.n (run c s acts) a) (Spec.reportOf a (obsRow c.n (run c s acts) a)) = true := by
  unfold Spec.reportOk
  exact beq_self_eq_true _

/-- a report that passes the clause lists every member in exactly the list of
    its state, and the counters (of `stats` and of `repr`) are the lengths of the lists -/
theorem report_lists_exact (a : Nat) (row : List MState) (r : Spec.Report)
    (h : Spec.reportOk a row r = true) (x : Nat) (hx : x < row.length) (hxa : x ≠ a) :
    (x ∈ r.al ↔ lget MState.alive row x = .alive) ∧ (x ∈ r.sl ↔ lget MState.alive row x = .suspect) ∧
    (x ∈ r.dl ↔ lget MState.alive row x = .dead) ∧
    r.ac = r.al.length ∧ r.sc = r.sl.length ∧ r.dc = r.dl.length ∧
    r.ra = r.ac ∧ r.rs = r.sc ∧ r.rd = r.dc := by
  have hr : r = Spec.reportOf a row := by simpa [Spec.reportOk] using h
  subst hr
  simp only [Spec.reportOf, mem_membersIn, hx, hxa, ne_eq, not_false_eq_true, true_and, and_self]

/-- under the hypotheses of `failure_detected_full`, after the deadline the
    crashed member is not in `alive_members` of the report of the live observer that passes the clause — there
    is exactly one, `Spec.reportOf` of its row (by `report_lists_exact` its `stats` / `repr` counters are the
    lengths of its lists) -/
theorem failure_detected_report (c : Cfg) (δ : Nat) (det : D) (orders : List (List Nat)) (offs : List Nat)
    (pre post : List Act) (a x cx : Nat) (r : Spec.Report)
    (hfix : c.fix = true) (hiv : c.half < c.interval) (ha : a < c.n) (hx : x < c.n) (hax : x ≠ a)
    (ho : orderOk c.n a (lget [] orders a) = true) (hoff : lget 0 offs a ≤ cx + δ)
    (hm : monoRun c (Sys.init c det orders offs) (pre ++ .crash x cx :: post) = true)
    (ht : timelyRun c δ (Sys.init c det orders offs) (pre ++ .crash x cx :: post) = true)
    (hp : punctualRun c a (Sys.init c det orders offs) (pre ++ .crash x cx :: post) = true)
    (hlive : (run c (Sys.init c det orders offs) (pre ++ .crash x cx :: post)).isCrashed a = false)
    (hlate : Spec.detectDeadline c.n c.n c.interval c.half δ cx <
      (run c (Sys.init c det orders offs) (pre ++ .crash x cx :: post)).now)
    (hr : Spec.reportOk a (obsRow c.n (run c (Sys.init c det orders offs) (pre ++ .crash x cx :: post)) a) r
      = true) : x ∉ r.al := by
  rw [(report_lists_exact a _ r hr x (by rw [length_obsRow]; exact hx) hax).1, lget_obsRow _ _ hx]
  exact failure_detected_full c δ det orders offs pre post a x cx hfix hiv ha hx hax ho hoff hm ht hp hlive hlate

/-- non-vacuity: a row with one member in each state; the agreeing report; a report whose counter is
    stale (the DEAD member still counted SUSPECT) is rejected, and so is a stale list -/
example :
    Spec.reportOf 0 [.alive, .alive, .suspect, .dead] = ⟨1, 1, 1, [1], [2], [3], 1, 1, 1⟩ ∧
    Spec.reportOk 0 [.alive, .alive, .suspect, .dead] ⟨1, 1, 1, [1], [2], [3], 1, 1, 1⟩ = true ∧
    Spec.reportOk 0 [.alive, .alive, .dead, .dead] ⟨1, 1, 1, [1], [], [2, 3], 1, 1, 1⟩ = false ∧
    Spec.reportOk 0 [.alive, .alive, .dead, .dead] ⟨1, 0, 2, [1], [2], [3], 1, 0, 2⟩ = false ∧
    Spec.reportOk 0 [.alive, .alive, .dead, .dead] ⟨1, 0, 2, [1], [], [2, 3], 1, 0, 2⟩ = true := by decide +kernel

end HappyModel.C13
