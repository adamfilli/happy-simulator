import HappyModel.C15.Sync
import HappyProofs.C15.Judge
import HappyProofs.C15.WalInv
/-!
`judgeCrashAck` judges durability from what the clients were told as well: a write whose `append` went on after the
sync latency (`syncDoneRun`), or — under `SyncEveryWrite` — a write that returned.  Here: along every run whose
sync completions happen in sequence order (`syncsInOrderB`), every such write has a sequence number
`≤ synced_up_to`, so `ackBound … ≤ synced` and the acknowledgement-based judge coincides with `judgeCrash`.
-/
namespace HappyModel.C15
open HappyModel.C14

theorem synced_stepOp (cfg : Cfg) (s : St) (pc : Pc) :
    (stepOp cfg s pc).1.synced = match pc with | .pSync _ _ q => q | _ => s.synced := by
  cases pc with
  | pStart k c => simp only [stepOp, putStart]; split <;> rfl
  | pWal k c q =>
    simp only [stepOp, walWritten]
    split
    · rfl
    · rename_i p _
      obtain ⟨o, ho⟩ := shouldSync_eq p s
      by_cases hb : (shouldSync p s).1 = true <;> simp [hb, ho, memInsert, unpend]
  | pMem mid =>
    simp only [stepOp, afterMem, flushStart]
    split
    · split <;> rfl
    · rfl
  | pFlush t b =>
    obtain ⟨c, hc⟩ := (flushInstall_shape cfg s t b).1
    simp only [stepOp]
    rw [hc]
    rfl
  | gStart _ | gAt _ _ _ _ | sStart _ _ | sAt _ _ _ _ _ _ => exact congrArg St.synced (stepOp_read rfl).1
  | pSync k c q | pCompact j | done r => rfl

theorem synced_le_stepOp (cfg : Cfg) (s : St) {pc : Pc} (h : ∀ k c q, pc = .pSync k c q → s.synced ≤ q) :
    s.synced ≤ (stepOp cfg s pc).1.synced := by
  rw [synced_stepOp]
  cases hpc : pc <;> first | exact Nat.le_refl _ | exact h _ _ _ hpc

def isSyncPc : Pc → Bool
  | .pSync _ _ _ => true
  | _ => false

theorem atSync_of_find {y : Sys} {id : Nat} {f : Frame} (h : y.frames.find? (fun f => f.id == id) = some f) :
    atSync y id = isSyncPc f.pc := by
  unfold atSync; rw [h]; simp only; cases f.pc <;> rfl

theorem atSync_idle {y : Sys} {id : Nat}
    (h : ∀ f, y.frames.find? (fun f => f.id == id) = some f → f.pc.isDone = true) : atSync y id = false := by
  cases hf : y.frames.find? (fun f => f.id == id) with
  | none => unfold atSync; rw [hf]
  | some f =>
    rw [atSync_of_find hf]
    have := h f hf
    cases hpc : f.pc <;> rw [hpc] at this <;> first | rfl | cases this

/-- frames, their WAL sequence numbers, and the operations whose sync completed (`acc`).  `ids` is `LInv.ids`; `cons`,
    `started`, `ended` repeat part of C14's `FrameOk`, `unstarted` is `FrameOk.unstarted` with `LInv.starts`, `logq` is
    `FrameOk.logSeq` without its premise `cfg.wal ≠ none`: kept here so that the invariant holds along every schedule, without `InOrder`
    (`sync_done_durable` assumes none). -/
structure AInv (cfg : Cfg) (start : Nat → Pc) (y : Sys) (acc : List Nat) : Prop where
  ids : (y.frames.map (·.id)).Nodup
  cons : ∀ f ∈ y.frames, PcCons (start f.id) f.pc
  unstarted : ∀ f ∈ y.frames, f.b = none → f.pc.isStart = true
  started : ∀ f ∈ y.frames, f.b ≠ none → f.pc.isStart = false
  logq : ∀ f ∈ y.frames, ∀ q, f.pc.logging = some q → f.seq0 = q
  done : ∀ f ∈ y.frames, f.id ∈ acc → f.b ≠ none ∧ f.seq0 ≤ y.st.synced
  ended : ∀ f ∈ y.frames, f.e ≠ none → f.pc.isDone = true
  every : cfg.wal = some .every → ∀ f ∈ y.frames, f.pc.applied = true → (∃ k c, start f.id = .pStart k c) → f.id ∈ acc

/-- the head condition of `syncsInOrderB` -/
def SyncOk (y : Sys) (id : Nat) : Prop :=
  ∀ f, y.frames.find? (fun f => f.id == id) = some f → ∀ k c q, f.pc = .pSync k c q → y.st.synced ≤ q

/-- under `SyncEveryWrite` a write becomes applied only by the segment after the sync-latency yield -/
theorem applied_every {cfg : Cfg} (hw : cfg.wal = some .every) (s : St) {k : Key} {c : Cell} {pc : Pc}
    (hc : PcCons (.pStart k c) pc) (ha : (stepOp cfg s pc).2.applied = true) :
    isSyncPc pc = true ∨ pc.applied = true := by
  simp only [PcCons] at hc
  rcases hc with rfl | ⟨q, rfl⟩ | ⟨q, rfl⟩ | h
  · simp [stepOp, putStart, hw, Pc.applied] at ha
  · simp [stepOp, walWritten, hw, shouldSync, Pc.applied] at ha
  · exact Or.inl rfl
  · exact Or.inr h

theorem mem_ite_cons {b : Bool} {x id : Nat} {acc : List Nat} :
    x ∈ (if b = true then id :: acc else acc) ↔ x ∈ acc ∨ (x = id ∧ b = true) := by
  cases b <;> simp [or_comm]

section
variable {cfg : Cfg} {start : Nat → Pc} {y : Sys} {acc : List Nat}

theorem ainv_step (h : AInv cfg start y acc) (id : Nat)
    (hs : SyncOk y id) : AInv cfg start (y.step cfg id) (if atSync y id then id :: acc else acc) := by
  rcases gstep_cases cfg y id with ⟨h0, _, hl⟩ | ⟨pre, f, post, h1, h2, h3, h4, h5, _, h6⟩
  · rw [h0, atSync_idle hl]
    exact ⟨h.ids, h.cons, h.unstarted, h.started, h.logq, h.done, h.ended, h.every⟩
  · rw [h5, atSync_of_find h6]
    have hs' := hs f h6
    clear hs h5 h6
    obtain ⟨st, frames, n⟩ := y
    simp only at h1 hs' ⊢
    subst h1
    have hsh := stepOp_shape cfg st (start f.id) f.pc (h.cons f mem_mid_self)
    have ha := adv_spec cfg st n f
    have hne : ∀ g, g ∈ pre ∨ g ∈ post → g.id ≠ id := fun g hg => h2 ▸ ne_of_nodup_mid (·.id) h.ids hg
    have hmono := synced_le_stepOp cfg st hs'
    have hfb : f.pc.isStart = false → ∃ b, f.b = some b := fun hns =>
      Option.ne_none_iff_exists'.mp fun hb => by rw [h.unstarted f mem_mid_self hb] at hns; cases hns
    refine {
      ids := by simp only [adv_ids]; exact h.ids
      cons := forall_mid.mpr ⟨hsh.cons, fun g o => h.cons g (mem_mid_of o)⟩
      unstarted := forall_mid.mpr ⟨fun hb => absurd hb ha.started, fun g o => h.unstarted g (mem_mid_of o)⟩
      started := forall_mid.mpr ⟨fun _ => hsh.notStart, fun g o => h.started g (mem_mid_of o)⟩
      logq := forall_mid.mpr ⟨?logq, fun g o => h.logq g (mem_mid_of o)⟩
      done := forall_mid.mpr ⟨fun hin => ⟨ha.started, ?doneRan⟩, ?doneOther⟩
      ended := forall_mid.mpr ⟨?ended, fun g o => h.ended g (mem_mid_of o)⟩
      every := fun hw => forall_mid.mpr
        ⟨?every, fun g o ha' hst => mem_ite_cons.mpr (Or.inl (h.every hw g (mem_mid_of o) ha' hst))⟩ }
    case logq =>
      intro q hq
      rcases hsh.logging q hq with ⟨hst, rfl⟩ | hlg
      · cases hfb : f.b with
        | none => exact (ha.fresh hfb).2
        | some b => have := h.started f mem_mid_self (by rw [hfb]; simp); rw [hst] at this; cases this
      · obtain ⟨b, hb⟩ := hfb (by cases hp : f.pc <;> rw [hp] at hlg <;> first | rfl | cases hlg)
        rw [(ha.keep b hb).2]; exact h.logq f mem_mid_self q hlg
    case doneRan =>
      show (advFrame cfg st n f).seq0 ≤ (stepOp cfg st f.pc).1.synced
      rcases mem_ite_cons.mp hin with hin | ⟨_, hy⟩
      · obtain ⟨d1, d2⟩ := h.done f mem_mid_self hin
        obtain ⟨b, hb⟩ := Option.ne_none_iff_exists'.mp d1
        rw [(ha.keep b hb).2]
        exact Nat.le_trans d2 hmono
      · -- the segment after the sync-latency yield: it sets `synced_up_to` to this frame's own sequence number
        cases hpc : f.pc <;> rw [hpc] at hy <;> first | cases hy | skip
        rename_i k c q
        obtain ⟨b, hb⟩ := hfb (by rw [hpc]; rfl)
        rw [(ha.keep b hb).2, h.logq f mem_mid_self q (by rw [hpc]; rfl), synced_stepOp]
        exact Nat.le_refl _
    case doneOther =>
      intro g o hin
      rcases mem_ite_cons.mp hin with hin | ⟨e, _⟩
      · exact ⟨(h.done g (mem_mid_of o) hin).1, Nat.le_trans (h.done g (mem_mid_of o) hin).2 hmono⟩
      · exact absurd e (hne g o)
    case ended =>
      intro he
      obtain ⟨e, he'⟩ := Option.ne_none_iff_exists'.mp he
      exact (advFrame_e he').1
    case every =>
      intro ha' hst
      obtain ⟨k, c, hkc⟩ := hst
      have hkc' : start f.id = .pStart k c := hkc
      rcases applied_every hw st (hkc' ▸ h.cons f mem_mid_self) ha' with hy | hap
      · exact mem_ite_cons.mpr (Or.inr ⟨h2, hy⟩)
      · exact mem_ite_cons.mpr (Or.inl (h.every hw f mem_mid_self hap ⟨k, c, hkc'⟩))

theorem AInv.returned_acked (hA : AInv cfg start y acc)
    (hw : cfg.wal = some .every) {f : Frame} (hf : f ∈ y.frames) {k : Key} {c : Cell}
    (hst : start f.id = .pStart k c) (he : f.e ≠ none) : f.id ∈ acc := by
  have hdone := hA.ended f hf he
  have hc := hA.cons f hf
  rw [hst] at hc
  simp only [PcCons] at hc
  refine hA.every hw f hf ?_ ⟨k, c, hst⟩
  rcases hc with h | ⟨q, h⟩ | ⟨q, h⟩ | h
  · rw [h] at hdone; cases hdone
  · rw [h] at hdone; cases hdone
  · rw [h] at hdone; cases hdone
  · exact h

end

theorem syncsInOrderB_cons {cfg : Cfg} {y : Sys} {id : Nat} {ids : List Nat}
    (h : syncsInOrderB cfg y (id :: ids) = true) : SyncOk y id ∧ syncsInOrderB cfg (y.step cfg id) ids = true := by
  simp only [syncsInOrderB, Bool.and_eq_true] at h
  refine ⟨?_, h.2⟩
  intro f hf k c q hpc
  have h1 := h.1
  rw [hf] at h1
  simp only [hpc, decide_eq_true_eq] at h1
  exact h1

theorem syncsInOrderB_take {cfg : Cfg} (sched : List Nat) (y : Sys) (h : syncsInOrderB cfg y sched = true) (i : Nat) :
    syncsInOrderB cfg y (sched.take i) = true := by
  induction sched generalizing y i with
  | nil => rw [List.take_nil]; exact h
  | cons id ids ih =>
    cases i with
    | zero => rfl
    | succ i =>
      simp only [List.take_succ_cons, syncsInOrderB, Bool.and_eq_true] at h ⊢
      exact ⟨h.1, ih _ h.2 i⟩

theorem syncDoneRun_fst (cfg : Cfg) (y : Sys) (acc : List Nat) (sched : List Nat) :
    (syncDoneRun cfg y acc sched).1 = y.run cfg sched := by
  induction sched generalizing y acc with
  | nil => rfl
  | cons id ids ih => exact ih _ _

theorem ainv_run {cfg : Cfg} {start : Nat → Pc} (sched : List Nat) (y : Sys) (acc : List Nat)
    (h : AInv cfg start y acc) (hs : syncsInOrderB cfg y sched = true) :
    AInv cfg start (y.run cfg sched) (syncDoneRun cfg y acc sched).2 := by
  induction sched generalizing y acc with
  | nil => exact h
  | cons id ids ih =>
    obtain ⟨h1, h2⟩ := syncsInOrderB_cons hs
    exact ih _ _ (ainv_step h id h1) h2

theorem ainv_sysOf (cfg : Cfg) (oracle : List Bool) {ops : List (Nat × OKind)} (hn : (ops.map (·.1)).Nodup) :
    AInv cfg (startFor ops) (sysOf cfg oracle ops) [] := by
  have hi := sysOf_init cfg oracle ops
  have hst := sysOf_start cfg oracle hn
  exact {
    ids := by rw [sysOf_ids]; exact hn
    cons := fun f hf => by rw [hst f hf]; exact pcCons_self (hi.frames f hf).1
    unstarted := fun f hf _ => (hi.frames f hf).1
    started := fun f hf hb => absurd (hi.frames f hf).2.1 hb
    logq := fun f hf q hq => by rw [(isStart_not_done (hi.frames f hf).1).2.2] at hq; cases hq
    done := fun f _ hin => nomatch hin
    ended := fun f hf he => absurd (hi.frames f hf).2.2 he
    every := fun _ f hf ha => by rw [(isStart_not_done (hi.frames f hf).1).2.1] at ha; cases ha }

theorem ainv_sysOf_run (cfg : Cfg) (ops : List (Nat × OKind)) (oracle : List Bool) (sched : List Nat)
    (hn : (ops.map (·.1)).Nodup) (hs : syncsInOrderB cfg (sysOf cfg oracle ops) sched = true) :
    AInv cfg (startFor ops) ((sysOf cfg oracle ops).run cfg sched) (syncDoneRun cfg (sysOf cfg oracle ops) [] sched).2 :=
  ainv_run sched _ [] (ainv_sysOf cfg oracle hn) hs

/-- a write whose `append` went on after the sync latency is durable: its WAL sequence number is `≤ synced_up_to`,
    for every workload with distinct operation ids and put values, every sync policy and every schedule in which syncs
    complete in sequence order.  (No hypothesis on
    `cfg.wal`: without a WAL no operation ever yields a sync latency.) -/
theorem sync_done_durable (cfg : Cfg) (ops : List (Nat × OKind)) (oracle : List Bool) (sched : List Nat)
    (hd : DistinctPuts ops) (hs : syncsInOrderB cfg (sysOf cfg oracle ops) sched = true) :
    ∀ f ∈ ((sysOf cfg oracle ops).run cfg sched).frames,
      f.id ∈ (syncDoneRun cfg (sysOf cfg oracle ops) [] sched).2 →
      f.seq0 ≤ ((sysOf cfg oracle ops).run cfg sched).st.synced :=
  fun f hf hin => ((ainv_sysOf_run cfg ops oracle sched hd.1 hs).done f hf hin).2

/-- under `SyncEveryWrite` every write that returned had its sync completed -/
theorem acked_every_sync_done (cfg : Cfg) (ops : List (Nat × OKind)) (oracle : List Bool) (sched : List Nat)
    (hw : cfg.wal = some .every) (hd : DistinctPuts ops) (hs : syncsInOrderB cfg (sysOf cfg oracle ops) sched = true) :
    ∀ f ∈ ((sysOf cfg oracle ops).run cfg sched).frames, ∀ k c, startFor ops f.id = .pStart k c → f.e ≠ none →
      f.id ∈ (syncDoneRun cfg (sysOf cfg oracle ops) [] sched).2 :=
  fun _ hf _ _ hst he => (ainv_sysOf_run cfg ops oracle sched hd.1 hs).returned_acked hw hf hst he

theorem foldl_max_le (l : List WRec) (m B : Nat) (hm : m ≤ B) (h : ∀ w ∈ l, w.seq ≤ B) :
    l.foldl (fun m w => max m w.seq) m ≤ B := by
  induction l generalizing m with
  | nil => exact hm
  | cons w r ih =>
    simp only [List.foldl_cons]
    exact ih _ (Nat.max_le.mpr ⟨hm, h w (List.mem_cons_self ..)⟩) (fun x hx => h x (List.mem_cons_of_mem _ hx))

theorem AInv.ackBound_le {cfg : Cfg} {ops : List (Nat × OKind)} {y : Sys} {acc done : List Nat} {ws : List WRec}
    {every : Bool} (hA : AInv cfg (startFor ops) y acc)
    (hws : ∀ w ∈ ws, w.seq = 0 ∨ ∃ f ∈ y.frames, wrecOf ops f = some w) (hsub : ∀ i ∈ done, i ∈ acc)
    (he : every = true → cfg.wal = some .every) : ackBound every ws done ≤ y.st.synced := by
  unfold ackBound
  apply foldl_max_le _ 0 _ (Nat.zero_le _)
  intro w hw
  obtain ⟨hwm, hp⟩ := List.mem_filter.mp hw
  rcases hws w hwm with h0 | ⟨f, hf, hrec⟩
  · rw [h0]; exact Nat.zero_le _
  · obtain ⟨_, hid, hseq, hwe, hst⟩ := wrecOf_some hrec
    rw [hseq]
    refine (hA.done f hf ?_).2
    simp only [Bool.or_eq_true, Bool.and_eq_true, List.contains_iff_mem] at hp
    rcases hp with hp | ⟨hev, hes⟩
    · rw [← hid]; exact hsub _ hp
    · refine hA.returned_acked (he hev) hf hst ?_
      rw [← hwe]; intro hn; rw [hn] at hes; cases hes

/-- the acknowledgement bound of the Spec never exceeds `synced_up_to` along schedules whose syncs complete in sequence order -/
theorem ack_bound_le_synced (cfg : Cfg) (ops : List (Nat × OKind)) (oracle : List Bool) (sched : List Nat) (every : Bool)
    (hd : DistinctPuts ops) (hs : syncsInOrderB cfg (sysOf cfg oracle ops) sched = true)
    (he : every = true → cfg.wal = some .every) :
    ackBound every (wObsOf ops ((sysOf cfg oracle ops).run cfg sched)) (syncDoneRun cfg (sysOf cfg oracle ops) [] sched).2
      ≤ ((sysOf cfg oracle ops).run cfg sched).st.synced :=
  (ainv_sysOf_run cfg ops oracle sched hd.1 hs).ackBound_le (fun _ hw => Or.inr (mem_wObsOf.mp hw)) (fun _ h => h) he

end HappyModel.C15
