import HappyProofs.C14.Compact
namespace HappyModel.C14

variable {d : Data} {k : Key}

def Sorted (d : Data) : Prop := (d.map (·.1)).Pairwise (· < ·)

instance (d : Data) : Decidable (Sorted d) := by unfold Sorted; infer_instance

theorem Sorted.uniq (h : Sorted d) : Uniq d :=
  List.Pairwise.imp (fun hab => Nat.ne_of_lt hab) h

theorem sorted_nil : Sorted [] := List.Pairwise.nil

theorem mem_keys_ins {k x : Key} {c : Cell} :
    x ∈ (ins k c d).map (·.1) ↔ x = k ∨ x ∈ d.map (·.1) := by
  rw [← lookup_ne_none_iff (m := ins k c d), ← lookup_ne_none_iff (m := d), lookup_ins]
  by_cases h : x = k
  · simp only [h, if_true, true_or, iff_true]; exact Option.some_ne_none c
  · simp only [h, false_or, if_false]

theorem sorted_ins (k : Key) (c : Cell) (d : Data) (h : Sorted d) : Sorted (ins k c d) := by
  induction d with
  | nil => simp [ins, Sorted]
  | cons e r ih =>
    obtain ⟨k0, c0⟩ := e
    have hr : Sorted r := (List.pairwise_cons.mp h).2
    have hlt : ∀ x ∈ r.map (·.1), k0 < x := (List.pairwise_cons.mp h).1
    unfold ins
    by_cases h1 : k < k0
    · simp only [h1, if_true]
      refine List.pairwise_cons.mpr ⟨?_, h⟩
      intro x hx
      simp only [List.map_cons, List.mem_cons] at hx
      rcases hx with rfl | hx
      · exact h1
      · exact Nat.lt_trans h1 (hlt x hx)
    · simp only [h1, if_false]
      by_cases h2 : k = k0
      · subst h2
        simp only [if_true]
        exact List.pairwise_cons.mpr ⟨hlt, hr⟩
      · simp only [h2, if_false]
        refine List.pairwise_cons.mpr ⟨?_, ih hr⟩
        intro x hx
        rcases mem_keys_ins.mp hx with rfl | hx
        · simp only [Key] at *; omega
        · exact hlt x hx

theorem sorted_mergeNewer (base newer : Data) (h : Sorted base) : Sorted (mergeNewer base newer) := by
  unfold mergeNewer
  induction newer generalizing base with
  | nil => exact h
  | cons e r ih => exact ih _ (sorted_ins _ _ _ h)

theorem sorted_mergeOlder (base older : Data) (h : Sorted base) : Sorted (mergeOlder base older) := by
  unfold mergeOlder
  induction older generalizing base with
  | nil => exact h
  | cons e r ih =>
    simp only [List.foldl_cons]
    split
    · exact ih _ h
    · exact ih _ (sorted_ins _ _ _ h)

theorem sorted_mergeSources (S : List Tab) : Sorted (mergeSources S) := by
  unfold mergeSources
  suffices ∀ acc, Sorted acc → Sorted (S.foldl (fun acc t => mergeNewer acc t.data) acc) from this [] sorted_nil
  induction S with
  | nil => intro acc h; exact h
  | cons t r ih => intro acc h; exact ih _ (sorted_mergeNewer _ _ h)

theorem sorted_mergeOverlap (m : Data) (O : List Tab) (h : Sorted m) : Sorted (mergeOverlap m O) := by
  unfold mergeOverlap
  induction O generalizing m with
  | nil => exact h
  | cons t r ih => exact ih _ (sorted_mergeOlder _ _ h)

theorem sorted_filter (p : Key × Cell → Bool) (d : Data) (h : Sorted d) : Sorted (d.filter p) :=
  List.Pairwise.sublist (List.Sublist.map _ List.filter_sublist) h

theorem sorted_dropTombs (d : Data) (h : Sorted d) : Sorted (dropTombs d) := sorted_filter _ d h

theorem lookup_filter (p : Key × Cell → Bool) (d : Data) (hu : Uniq d) (k : Key) :
    (d.filter p).lookup k = match d.lookup k with
      | some c => if p (k, c) then some c else none
      | none => none := by
  induction d with
  | nil => rfl
  | cons e r ih =>
    obtain ⟨k0, c0⟩ := e
    have hu' : Uniq r := (List.nodup_cons.mp hu).2
    have hne : k0 ∉ r.map (·.1) := (List.nodup_cons.mp hu).1
    by_cases hk : k = k0
    · subst hk
      have hr : r.lookup k = none := lookup_none_of_not_mem _ _ hne
      by_cases hp : p (k, c0)
      · simp [hp, List.lookup]
      · have : (r.filter p).lookup k = none := by rw [ih hu', hr]
        simp [hp, List.lookup, this]
    · have hb : (k == k0) = false := by simp [hk]
      by_cases hp : p (k0, c0)
      · simp [hp, List.lookup, hb, ih hu']
      · simp [hp, List.lookup, hb, ih hu']

theorem lookup_dropTombs (d : Data) (hu : Uniq d) (k : Key) :
    (dropTombs d).lookup k = match d.lookup k with
      | some (some v) => some (some v)
      | _ => none := by
  unfold dropTombs
  rw [lookup_filter _ _ hu]
  cases d.lookup k with
  | none => rfl
  | some c => cases c <;> rfl

theorem minKey_le (h : Sorted d) (hk : k ∈ d.map (·.1)) :
    ∃ a, minKey d = some a ∧ a ≤ k := by
  cases d with
  | nil => simp at hk
  | cons e r =>
    refine ⟨e.1, rfl, ?_⟩
    simp only [List.map_cons, List.mem_cons] at hk
    rcases hk with rfl | hk
    · exact Nat.le_refl _
    · exact Nat.le_of_lt ((List.pairwise_cons.mp h).1 k hk)

theorem le_maxKey (h : Sorted d) (hk : k ∈ d.map (·.1)) :
    ∃ a, maxKey d = some a ∧ k ≤ a := by
  induction d generalizing k with
  | nil => simp at hk
  | cons e r ih =>
    cases r with
    | nil =>
      simp only [List.map_cons, List.map_nil, List.mem_cons, List.not_mem_nil, or_false] at hk
      exact ⟨e.1, rfl, by rw [hk]; exact Nat.le_refl _⟩
    | cons e' r' =>
      have hr : Sorted (e' :: r') := (List.pairwise_cons.mp h).2
      have hmax : maxKey (e :: e' :: r') = maxKey (e' :: r') := by
        simp [maxKey, List.getLast?_cons_cons]
      rw [hmax]
      simp only [List.map_cons, List.mem_cons] at hk
      rcases hk with rfl | hk
      · obtain ⟨a, ha, hle⟩ := ih (k := e'.1) hr (by simp)
        refine ⟨a, ha, ?_⟩
        have : e.1 < e'.1 := (List.pairwise_cons.mp h).1 e'.1 (by simp)
        simp only [Key] at *; omega
      · exact ih hr (by simpa using hk)

theorem overlaps_of_common_key {a b : Tab} (ha : Sorted a.data) (hb : Sorted b.data)
    (hka : a.data.lookup k ≠ none) (hkb : b.data.lookup k ≠ none) : overlaps a b = true := by
  obtain ⟨a0, ha0, h1⟩ := minKey_le ha (lookup_ne_none_iff.mp hka)
  obtain ⟨a1, ha1, h2⟩ := le_maxKey ha (lookup_ne_none_iff.mp hka)
  obtain ⟨b0, hb0, h3⟩ := minKey_le hb (lookup_ne_none_iff.mp hkb)
  obtain ⟨b1, hb1, h4⟩ := le_maxKey hb (lookup_ne_none_iff.mp hkb)
  unfold overlaps
  rw [ha0, ha1, hb0, hb1]
  simp only [Bool.and_eq_true, decide_eq_true_eq]
  simp only [Key] at *
  omega

end HappyModel.C14
