import HappyProofs.C09.WaitClosed
import HappyProofs.C02.Init
/-! A process `pid` parked on future slot `f`, followed through the code of one handler invocation of another process at
one clock value `now`.  `Trk` holds for every handler table; `Link` holds as long as the code neither rebinds slot `f`
(`fresh f`, `any_of` / `all_of` into `f`) nor parks another process on it (`segKeeps`) — in the implementation the wake-up
future is a local of the `acquire()` generator, so nothing else can do either. -/
namespace HappyModel.C09.WaitSilent
open HappyModel.C01

def isRes (pid : Nat) : Obs → Bool
  | .resume _ q _ _ => q == pid
  | _ => false

/-- resumptions (`generator.send`) of `pid` in the log -/
def resCount (l : List Obs) (pid : Nat) : Nat := l.countP (isRes pid)

/-- `r0`: the resumptions of `pid` logged before the invocation.  Throughout, `data = pid + 1` on an event or spec marks
    the continuation of process `pid` (`contSpec` of `HappyModel/C01/Process.lean`), `data = 0` an ordinary event. -/
structure Trk (now f pid r0 : Nat) (e : Eff) : Prop where
  onlyF : ∀ g, (futGet e.ps.futs g).parked = some pid → g = f
  contNow : ∀ sp ∈ e.specs, sp.data = pid + 1 → sp.time = now
  obsSame : resCount e.ps.obs pid = r0

section trk
variable {now f pid r0 : Nat} {e : Eff}

theorem Trk.setFut (h : Trk now f pid r0 e) (g : Nat) (x : Fut) (hx : x.parked = some pid → g = f) :
    Trk now f pid r0 (e.setFut g x) := by
  refine ⟨?_, h.contNow, h.obsSame⟩
  intro g' hg'
  simp only [setFut_futs, futGet_futSet] at hg'
  split at hg'
  · rename_i heq; rw [heq]; exact hx hg'
  · exact h.onlyF g' hg'

theorem Trk.setProc (h : Trk now f pid r0 e) (i : Nat) (x : Proc) : Trk now f pid r0 (e.setProc i x) :=
  ⟨h.onlyF, h.contNow, h.obsSame⟩

theorem Trk.push (h : Trk now f pid r0 e) (sp : Spec) (hook : Nat) (tagged : Bool)
    (hs : sp.data = pid + 1 → sp.time = now) : Trk now f pid r0 (e.push sp hook tagged) := by
  refine ⟨h.onlyF, ?_, h.obsSame⟩
  intro s hs'
  simp only [push_specs, List.mem_append, List.mem_singleton] at hs'
  rcases hs' with hs' | rfl
  · exact h.contNow s hs'
  · exact hs

theorem Trk.addObs (h : Trk now f pid r0 e) (o : Obs) (ho : isRes pid o = false) :
    Trk now f pid r0 (addObs e o) := by
  refine ⟨h.onlyF, h.contNow, ?_⟩
  show resCount (o :: e.ps.obs) pid = r0
  simpa [resCount, ho] using h.obsSame

/-- `SimFuture._resume` at clock `now`, of whichever process is parked on `g` -/
theorem Trk.resumeParked (h : Trk now f pid r0 e) (g : Nat) : Trk now f pid r0 (resumeParked e now g) := by
  rcases resumeParked_cases e now g with he | ⟨pid', p, _, _, he⟩ <;> rw [he]
  · exact h
  · exact ((h.push _ 0 false (fun _ => rfl)).setFut g _ (fun hh => by cases hh)).setProc pid' _

end trk

/-- the wake-up link: `pid` is still parked on `f`, or the resolution of `f` has given it its continuation and the value -/
def Link (f pid : Nat) (e : Eff) : Prop :=
  (futGet e.ps.futs f).parked = some pid ∨
  ((futGet e.ps.futs f).resolved = true ∧ (futGet e.ps.futs f).parked = none ∧ 1 ≤ cntSpec e.specs pid ∧
    ∃ q, e.ps.procs[pid]? = some q ∧ q.send = (futGet e.ps.futs f).value)

section link
variable {now f pid : Nat} {e e' : Eff}

theorem Link.frame (h : Link f pid e)
    (hpk : (futGet e'.ps.futs f).parked = (futGet e.ps.futs f).parked)
    (hrs : (futGet e'.ps.futs f).resolved = (futGet e.ps.futs f).resolved)
    (hvl : (futGet e'.ps.futs f).value = (futGet e.ps.futs f).value)
    (hsp : cntSpec e.specs pid ≤ cntSpec e'.specs pid)
    (hpr : e'.ps.procs[pid]? = e.ps.procs[pid]?) : Link f pid e' := by
  rcases h with h | ⟨h1, h2, h3, q, h4, h5⟩
  · left; rw [hpk]; exact h
  · right
    exact ⟨by rw [hrs]; exact h1, by rw [hpk]; exact h2, by omega, q, by rw [hpr]; exact h4,
      by rw [hvl]; exact h5⟩

theorem Link.setFut_ne (h : Link f pid e) (g : Nat) (x : Fut) (hg : g ≠ f) : Link f pid (e.setFut g x) := by
  have hget : futGet (e.setFut g x).ps.futs f = futGet e.ps.futs f := by
    rw [setFut_futs, futGet_futSet_ne _ _ _ _ (Ne.symm hg)]
  exact h.frame (by rw [hget]) (by rw [hget]) (by rw [hget]) (Nat.le_refl _) rfl

theorem Link.setFut_same (h : Link f pid e) (g : Nat) (x : Fut)
    (h1 : x.parked = (futGet e.ps.futs g).parked) (h2 : x.resolved = (futGet e.ps.futs g).resolved)
    (h3 : x.value = (futGet e.ps.futs g).value) : Link f pid (e.setFut g x) := by
  by_cases hg : g = f
  · subst hg
    have hget : futGet (e.setFut g x).ps.futs g = x := by rw [setFut_futs, futGet_futSet_same]
    exact h.frame (by rw [hget]; exact h1) (by rw [hget]; exact h2) (by rw [hget]; exact h3)
      (Nat.le_refl _) rfl
  · exact h.setFut_ne g x hg

theorem Link.setProc_ne (h : Link f pid e) (i : Nat) (x : Proc) (hi : i ≠ pid) :
    Link f pid (e.setProc i x) :=
  h.frame rfl rfl rfl (Nat.le_refl _) (by rw [setProc_procs, List.getElem?_set_ne hi])

theorem Link.push (h : Link f pid e) (sp : Spec) (hook : Nat) (tagged : Bool) :
    Link f pid (e.push sp hook tagged) :=
  h.frame rfl rfl rfl (by rw [push_specs, cntSpec_append]; omega) rfl

theorem Link.addObs (h : Link f pid e) (o : Obs) : Link f pid (addObs e o) :=
  h.frame rfl rfl rfl (Nat.le_refl _) rfl

theorem Link.resumeParked_ne (h : Link f pid e) (g : Nat) (hg : g ≠ f)
    (hpk : (futGet e.ps.futs g).parked ≠ some pid) : Link f pid (resumeParked e now g) := by
  rcases resumeParked_cases e now g with he | ⟨pid', p, hpk', _, he⟩ <;> rw [he]
  · exact h
  · exact ((h.push _ 0 false).setFut_ne g _ hg).setProc_ne pid' _ (fun heq => hpk (heq ▸ hpk'))

/-- `resolve(g, v)`: for `g = f` the parked process gets its continuation and the value; for `g ≠ f`
    nothing of the link changes -/
theorem Link.markResolved {r0 : Nat} (hw : WF e) (ht : Trk now f pid r0 e) (h : Link f pid e) (g : Nat) (v : Val)
    (hr : (futGet e.ps.futs g).resolved = false) : Link f pid (markResolved e now g v) := by
  by_cases hg : g = f
  · subst hg
    rcases h with h | ⟨h1, _⟩
    · have hl : pid < e.ps.procs.length := (hw.park g pid h).2
      have hp : e.ps.procs[pid]? = some e.ps.procs[pid] := by simp [hl]
      have hm : HappyModel.C01.markResolved e now g v =
          resumed (e.setFut g { futGet e.ps.futs g with resolved := true, value := v, cbs := [] })
            now g pid e.ps.procs[pid] := by
        unfold HappyModel.C01.markResolved
        exact resumeParked_some _ now g pid _ (by rw [setFut_futs, futGet_futSet_same]; exact h) hp
      rw [hm]
      unfold resumed
      right
      refine ⟨?_, ?_, ?_, _, List.getElem?_set_self (by simpa using hl), ?_⟩
      · simp [futGet_futSet]
      · simp [futGet_futSet]
      · simp only [setProc_specs, setFut_specs, push_cont_specs]
        rw [cntSpec_append, cntSpec_single]
        simp [contSpec, ind]
      · simp [futGet_futSet]
    · rw [h1] at hr; simp at hr
  · unfold HappyModel.C01.markResolved
    apply Link.resumeParked_ne (h.setFut_ne g _ hg) g hg
    rw [setFut_futs, futGet_futSet_same]
    intro hh
    exact hg (ht.onlyF g hh)

end link

/-! `c` switches the `Link` part on.  It is a parameter, not two lemmas, so that ONE walk over a handler invocation gives
`Trk` unconditionally and `Link` under `stepKeeps`: `wait_step` instantiates it at `False` and at `True`. -/

/-- during the actions of a segment (the accounting bound `Bnd B` of C02 still holds) -/
def PA (c : Prop) (B : Nat → Nat) (now f pid r0 : Nat) (e : Eff) : Prop :=
  Bnd B e ∧ Trk now f pid r0 e ∧ (c → Link f pid e)

/-- after the terminator -/
def PT (c : Prop) (now f pid r0 : Nat) (e : Eff) : Prop := Trk now f pid r0 e ∧ (c → Link f pid e)

/-- both parts read the futures, the processes, the log and the continuation specs of `pid` only -/
theorem PT.frame {c : Prop} {now f pid r0 : Nat} {e e' : Eff} (h : PT c now f pid r0 e) (hf : e'.ps.futs = e.ps.futs)
    (hp : e'.ps.procs = e.ps.procs) (ho : e'.ps.obs = e.ps.obs) (l : List Spec) (hs : e'.specs = e.specs ++ l)
    (hl : ∀ sp ∈ l, sp.data = 0) : PT c now f pid r0 e' := by
  refine ⟨⟨fun g hg => h.1.onlyF g (hf ▸ hg), fun sp hsp hd => ?_, ho ▸ h.1.obsSame⟩,
    fun hc => (h.2 hc).frame (by rw [hf]) (by rw [hf]) (by rw [hf]) (by rw [hs, cntSpec_append]; omega) (by rw [hp])⟩
  rcases List.mem_append.mp (hs ▸ hsp) with hsp | hsp
  · exact h.1.contNow sp hsp hd
  · have := hl sp hsp; omega

/-- … and `Bnd` the held events as well: a change of any other field leaves `PA` alone -/
theorem PA.frame {c : Prop} {B : Nat → Nat} {now f pid r0 : Nat} {e e' : Eff} (h : PA c B now f pid r0 e)
    (hs : e'.specs = e.specs := by rfl) (hf : e'.ps.futs = e.ps.futs := by rfl) (hp : e'.ps.procs = e.ps.procs := by rfl)
    (ho : e'.ps.obs = e.ps.obs := by rfl) (hh : e'.ps.held = e.ps.held := by rfl) : PA c B now f pid r0 e' :=
  ⟨Bnd_congr h.1 hs hf (hp ▸ Nat.le_refl _) hh, PT.frame h.2 hf hp ho [] (hs.trans (List.append_nil _).symm) nofun⟩

theorem PA_sclosed (c : Prop) (B : Nat → Nat) (now f pid r0 : Nat) :
    SClosed now (fun g => c → g ≠ f) (PA c B now f pid r0) where
  resolve := by
    intro e g v ⟨hb, ht, hl⟩ hr
    refine ⟨Bnd_markResolved B e now g v hb hr, ?_, fun hc => Link.markResolved hb.1 ht (hl hc) g v hr⟩
    unfold markResolved
    exact (ht.setFut g _ (by exact fun hh => ht.onlyF g hh)).resumeParked g
  allUpd := fun e g res rem ⟨hb, ht, hl⟩ hr =>
    ⟨Bnd_setFut_same B e g _ hb rfl rfl, ht.setFut g _ (fun hh => ht.onlyF g hh), fun hc => (hl hc).setFut_same g _ rfl rfl rfl⟩
  cbAdd := fun e g cb ⟨hb, ht, hl⟩ hr =>
    ⟨Bnd_setFut_same B e g _ hb rfl rfl, ht.setFut g _ (fun hh => ht.onlyF g hh), fun hc => (hl hc).setFut_same g _ rfl rfl rfl⟩
  bind := fun e g rs rm hok ⟨hb, ht, hl⟩ =>
    ⟨(Bnd_closed B).bind e g rs rm hb, ht.setFut g _ nofun, fun hc => (hl hc).setFut_ne g _ (hok hc)⟩
  push := fun e sp hook tagged hd ⟨hb, ht, hl⟩ =>
    ⟨(Bnd_closed B).push e sp hook tagged hd hb, ht.push sp hook tagged (by omega), fun hc => (hl hc).push sp hook tagged⟩
  release := fun e i sp h hm =>
    ⟨(Bnd_closed B).release e i sp h.1 hm, PT.frame h.2 rfl rfl rfl [sp] rfl (by simpa using h.1.1.held (i, sp) hm)⟩
  crashed := fun _ _ h => h.frame
  cancels := fun _ _ h => h.frame
  hookObs := fun e h ⟨hb, ht, hl⟩ => ⟨Bnd_addObs B e _ hb, ht.addObs _ rfl, fun hc => (hl hc).addObs _⟩
  aux := fun _ _ _ _ _ _ _ h => h.frame

section pa
variable {c : Prop} {B : Nat → Nat} {now f pid r0 : Nat} {e : Eff}

theorem PA.setProc (h : PA c B now f pid r0 e) (i : Nat) (x : Proc) (hi : i ≠ pid) :
    PA c B now f pid r0 (e.setProc i x) :=
  ⟨Bnd_setProc B e i x h.1, h.2.1.setProc i x, fun hc => (h.2.2 hc).setProc_ne i x hi⟩

theorem PA.addObs (h : PA c B now f pid r0 e) (o : Obs) (ho : isRes pid o = false) :
    PA c B now f pid r0 (addObs e o) :=
  ⟨Bnd_addObs B e o h.1, h.2.1.addObs o ho, fun hc => (h.2.2 hc).addObs o⟩

end pa

def actKeeps (f : Nat) : Act → Bool
  | .fresh g => g != f
  | .anyOf g _ => g != f
  | .allOf g _ => g != f
  | _ => true

def termKeeps (f : Nat) : Term → Bool
  | .yieldF g => g != f
  | _ => true

def segKeeps (f : Nat) (seg : Seg) : Bool := seg.acts.all (actKeeps f) && termKeeps f seg.term

theorem binds_of_keeps (c : Prop) (f : Nat) (a : Act) (h : c → actKeeps f a = true) :
    ∀ g, a.binds = some g → c → g ≠ f := by
  intro g hg hc
  have := h hc
  cases a <;> cases hg <;> simpa [actKeeps] using this

theorem segTerm_track (c : Prop) (B : Nat → Nat) (now f pid r0 : Nat) (e1 : Eff) (pid0 : Nat) (p1 : Proc)
    (rest : List Seg) (t : Term) (h : PA c B now f pid r0 e1) (hne : pid0 ≠ pid)
    (hk : c → ∀ g, t = .yieldF g → g ≠ f) : PT c now f pid r0 (segTerm now e1 pid0 p1 rest t) := by
  cases t with
  | yieldD d =>
    simp only [segTerm]
    have h2 := h.setProc pid0 { p1 with segs := rest } hne
    exact ⟨h2.2.1.push _ 0 true (by intro hh; exfalso; apply hne; simpa [contSpec] using hh),
      fun hc => (h2.2.2 hc).push _ 0 true⟩
  | yieldF g =>
    simp only [segTerm]
    have h2 := h.setProc pid0 { p1 with segs := rest } hne
    generalize he2 : e1.setProc pid0 { p1 with segs := rest } = e2 at h2
    have ht3 : Trk now f pid r0 (e2.setFut g { futGet e2.ps.futs g with parked := some pid0 }) :=
      h2.2.1.setFut g _ (by intro hh; exfalso; apply hne; simpa using hh)
    have hl3 : c → Link f pid (e2.setFut g { futGet e2.ps.futs g with parked := some pid0 }) :=
      fun hc => (h2.2.2 hc).setFut_ne g _ (hk hc g rfl)
    split
    · refine ⟨ht3.resumeParked g, fun hc => Link.resumeParked_ne (hl3 hc) g (hk hc g rfl) ?_⟩
      rw [setFut_futs, futGet_futSet_same]
      intro hh; apply hne; simpa using hh
    · exact ⟨ht3, hl3⟩
  | ret =>
    simp only [segTerm]
    -- (`clearLate` only rewrites the table of hooks added in flight)
    have h2a : PA c B now f pid r0 ((e1.setProc pid0 { p1 with segs := [], done := true, hooks := [] }).clearLate pid0) :=
      (h.setProc pid0 { p1 with segs := [], done := true, hooks := [] } hne).frame
    have h2 := h2a.addObs (.finish now pid0) rfl
    have h3 := runHooks_s (PA_sclosed c B now f pid r0) (p1.hooks ++ lateOf e1.ps pid0) _ h2
    exact ⟨h3.2.1, h3.2.2⟩

/-- `ProcessContinuation.invoke` of a process other than `pid` -/
theorem runSegment_track (c : Prop) (B : Nat → Nat) (now f pid r0 : Nat) (e : Eff) (pid0 tag : Nat)
    (h : PA c B now f pid r0 e) (hne : pid0 ≠ pid)
    (hk : c → ∀ p seg rest, e.ps.procs[pid0]? = some p → p.segs = seg :: rest → segKeeps f seg = true) :
    PT c now f pid r0 (runSegment now e pid0 tag) := by
  cases hp : e.ps.procs[pid0]? with
  | none => rw [runSegment_noproc now e pid0 tag hp]; exact ⟨h.2.1, h.2.2⟩
  | some p =>
    cases hs : p.segs with
    | nil => rw [finished_never_runs now e pid0 tag p hp hs]; exact ⟨h.2.1, h.2.2⟩
    | cons seg rest =>
      rw [runSegment_eq now e pid0 tag p seg rest hp hs]
      unfold segBody
      have h0 : PA c B now f pid r0 (segStart now e pid0 tag p) := by
        unfold segStart
        -- (`setCur` only writes the hop count the running handler reads: an instance of `aux`)
        refine (PA_sclosed c B now f pid r0).aux _ _ _ _ _ _ _ ?_
        apply PA.setProc _ _ _ hne
        split
        · exact h.addObs _ (by simp [isRes, hne])
        · exact h
      have hkeep : c → segKeeps f seg = true := fun hc => hk hc p seg rest hp hs
      have hacts : ∀ a ∈ seg.acts, ∀ g, a.binds = some g → c → g ≠ f := by
        intro a ha
        apply binds_of_keeps
        intro hc
        have := hkeep hc
        simp only [segKeeps, Bool.and_eq_true, List.all_eq_true] at this
        exact this.1 a ha
      have h1 := acts_s (PA_sclosed c B now f pid r0) seg.acts _ hacts h0
      apply segTerm_track c B now f pid r0 _ pid0 _ rest seg.term h1 hne
      intro hc g ht
      have := hkeep hc
      simp only [segKeeps, Bool.and_eq_true] at this
      have h2 := this.2
      rw [ht] at h2
      simpa [termKeeps] using h2

def stepSeg (ps : PS) (m : Ev) : Option Seg :=
  if m.data = 0 then
    match ps.defs.find? (fun d => d.ent == m.target && d.kind == m.kind) with
    | none => none
    | some d => d.segs.head?
  else
    match ps.procs[m.data - 1]? with
    | none => none
    | some p => p.segs.head?

def stepKeeps (f : Nat) (ps : PS) (m : Ev) : Bool :=
  match stepSeg ps m with
  | none => true
  | some seg => segKeeps f seg

/-- the handler invocation of any pending event `m`, at any clock value `now`, keeps `Trk` (every handler table) and
    `Link` (if the code leaves slot `f` alone) -/
theorem procEff_track (c : Prop) (s : St PS) (inv : ProcInv s) (f pid : Nat)
    (hpk : (futGet s.ent.futs f).parked = some pid) (m : Ev) (hm : m ∈ s.heap) (now : Nat)
    (hk : c → stepKeeps f s.ent m = true) :
    PT c now f pid (resCount s.ent.obs pid) (procEff s.ent now m) := by
  have hB0 := Bnd_init s inv
  have hpl : pid < s.ent.procs.length := (inv.parkOk f pid hpk).2
  have hmd : m.data ≠ pid + 1 := inv.park_excludes_continuation f pid hpk m hm
  have h0 : PA c (cntPark s.ent.futs) now f pid (resCount s.ent.obs pid) ({ ps := s.ent } : Eff) :=
    ⟨hB0, ⟨fun g hg => inv.park_unique g f pid hg hpk, by intro sp hsp; simp at hsp, rfl⟩,
      fun _ => Or.inl hpk⟩
  rcases procEff_cases s.ent now m with ⟨_, _, he⟩ | ⟨d, hd, hfind, he⟩ | ⟨hd, he⟩ <;> rw [he]
  · have h1 := runHooks_s (PA_sclosed c (cntPark s.ent.futs) now f pid (resCount s.ent.obs pid))
      (hookOfFor s.ent m.id) _ (h0.addObs (.skip now m.target m.kind m.tag) rfl)
    exact ⟨h1.2.1, h1.2.2⟩
  · have h1 := h0.addObs (.start now m.target m.kind m.tag) rfl
    have h2 : PA c (cntPark s.ent.futs) now f pid (resCount s.ent.obs pid)
        (spawn (addObs { ps := s.ent } (.start now m.target m.kind m.tag)) (newProc s.ent m d)) := by
      exact ⟨Bnd_congr h1.1 rfl rfl (by simp), ⟨h1.2.1.onlyF, h1.2.1.contNow, h1.2.1.obsSame⟩, fun _ => Or.inl hpk⟩
    apply runSegment_track c _ now f pid _ _ s.ent.procs.length 0 h2 (by omega)
    intro hc p seg rest hp hs
    have hsd : d.segs = seg :: rest := by rw [spawn_last hp] at hs; exact hs
    have := hk hc
    simpa [stepKeeps, stepSeg, hd, hfind, hsd] using this
  · apply runSegment_track c _ now f pid _ _ (m.data - 1) m.tag h0 (by omega)
    intro hc p seg rest hp hs
    have hp' : s.ent.procs[m.data - 1]? = some p := hp
    have := hk hc
    simpa [stepKeeps, stepSeg, hd, hp', hs] using this

end HappyModel.C09.WaitSilent
