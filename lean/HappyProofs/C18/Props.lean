import HappyProofs.C18.ScalarInst
import HappyProofs.C18.TraceFinal
import HappyProofs.C18.KClock
import HappyProofs.C18.StoreDeliver
/-!
"For any history of local events and message exchanges, if event a happened before event b then
the Lamport and hybrid-logical timestamps of a are smaller than those of b, and vector clocks order
a before b exactly when a happened before b. For any operations and any order, duplication or
grouping of state merges, CRDT replicas that have received the same updates are equal (merge is
commutative, associative and idempotent), and their value is the specified one."

Happened-before is the causal past `Rec.K` that the model computes from the history alone:
`K(e) = {e} ∪ K(previous event of the same node) ∪ K(send event of the received message)`;
`past_transitive` shows it is transitively closed, so it is Lamport's relation →*.
-/
namespace HappyModel.C18

def InPast (a b : Rec) : Prop := a.id ∈ b.K

def HB (a b : Rec) : Prop := a.id ∈ b.K ∧ a.id ≠ b.id

theorem inv_run (es : List Ev) : Inv (run {} es) ∧ LHInv (run {} es) :=
  all_inv es {} init_inv (sinv_init _ _ _ _)

theorem past_transitive (es : List Ev) (a b c : Rec)
    (ha : a ∈ (run {} es).log) (hb : b ∈ (run {} es).log) (hc : c ∈ (run {} es).log)
    (hab : InPast a b) (hbc : InPast b c) : InPast a c :=
  (inv_run es).1.clLog c hc b.id hbc b hb rfl a.id hab

/-- Lamport clocks: a → b ⇒ L(a) < L(b), for every history -/
theorem lamport_hb (es : List Ev) (a b : Rec)
    (ha : a ∈ (run {} es).log) (hb : b ∈ (run {} es).log) (h : HB a b) : a.L < b.L :=
  ((inv_run es).2.sLog b hb a ha h.1 h.2).1

/-- HLC: a → b ⇒ (physical, logical)(a) < (physical, logical)(b) lexicographically, for every
    history and every behaviour of the physical clocks (the readings `pt` are arbitrary inputs) -/
theorem hlc_hb (es : List Ev) (a b : Rec)
    (ha : a ∈ (run {} es).log) (hb : b ∈ (run {} es).log) (h : HB a b) : HTs.lt a.H b.H :=
  ((inv_run es).2.sLog b hb a ha h.1 h.2).2

/-- vector clocks, reflexive form: V(a) ≤ V(b) pointwise ⇔ a is in the causal past of b -/
theorem vector_iff_hb (es : List Ev) (a b : Rec)
    (ha : a ∈ (run {} es).log) (hb : b ∈ (run {} es).log) :
    Vec.le a.V b.V = true ↔ InPast a b := by
  have inv := (inv_run es).1
  generalize run {} es = s at *
  rw [Vec.le_iff]
  constructor
  · -- `a` is the `V(a)[a.node]`-th event of its node (`logSelf`); `V(b)` counts at least that many events of
    -- that node, so by `Pref` of `b` the event itself is in `K(b)`
    intro hle
    obtain ⟨_, a2, a3, a4⟩ := inv.logSelf a ha
    have := (inv.pLog b hb).2 a.node (Vec.get a.V a.node) a2 a3
    rw [a4] at this
    exact this.mp (hle a.node)
  · -- `K(a) ⊆ K(b)` since pasts are closed, and `Pref` turns counts into membership for `a` and back for `b`
    intro hin j
    have hsub : ∀ y ∈ a.K, y ∈ b.K := inv.clLog b hb a.id hin a ha rfl
    by_cases hz : Vec.get a.V j = 0
    · omega
    · have h1 : 1 ≤ Vec.get a.V j := by omega
      have h2 : Vec.get a.V j ≤ s.nev j := (inv.pLog a ha).1 j
      have ina := ((inv.pLog a ha).2 j (Vec.get a.V j) h1 h2).mp (Nat.le_refl _)
      exact ((inv.pLog b hb).2 j (Vec.get a.V j) h1 h2).mpr (hsub _ ina)

/-- vector clocks, the code's `happened_before` (all ≤ and some <) ⇔ strict happened-before -/
theorem vector_strict_iff_hb (es : List Ev) (a b : Rec)
    (ha : a ∈ (run {} es).log) (hb : b ∈ (run {} es).log) :
    vcHappenedBefore a.V b.V = true ↔ HB a b := by
  have inv := (inv_run es).1
  unfold vcHappenedBefore HB
  simp only [Bool.and_eq_true, Bool.not_eq_true']
  rw [vector_iff_hb es a b ha hb]
  constructor
  · rintro ⟨h1, h2⟩
    refine ⟨h1, ?_⟩
    intro heq
    have : Vec.le b.V a.V = true := by
      rw [vector_iff_hb es b a hb ha]
      show b.id ∈ a.K
      exact heq ▸ (inv.logSelf a ha).1
    rw [this] at h2; exact absurd h2 (by simp)
  · rintro ⟨h1, h2⟩
    refine ⟨h1, ?_⟩
    cases hle : Vec.le b.V a.V with
    | false => rfl
    | true =>
      have hba : InPast b a := (vector_iff_hb es b a hb ha).mp hle
      have l1 := (inv.idLog b hb).2 a.id h1
      have l2 := (inv.idLog a ha).2 b.id hba
      exact absurd (Nat.le_antisymm l1 l2) h2

/-- non-vacuity: a concrete history with a receive has related and unrelated pairs -/
example :
    let s := run {} [.send 0 0 5, .loc 1 1, .recv 1 0 2]
    s.log.length = 3 ∧ (s.log.map (·.K)) = [[2, 1, 0], [1], [0]] := by decide +kernel

/-- for every membership assignment (each node constructed with any list of node ids) and every
    history, the dict clocks have the same entries as the dense vectors of `run` … -/
theorem keyed_clock_refines_vector (mem : Nat → List Nat) (es : List Ev) (n i : Nat) :
    ((krun (KSt.init mem) es).vc n).get i = Vec.get ((run {} es).vc n) i :=
  (ksim_run es _ _ (ksim_init mem)).vc n i

/-- … and their `happened_before` orders two logged events exactly when one happened before the other -/
theorem keyed_vector_strict_iff_hb (mem : Nat → List Nat) (es : List Ev) (i j : Nat)
    (ka kb : KVec) (a b : Rec)
    (hka : (krun (KSt.init mem) es).log[i]? = some ka) (ha : (run {} es).log[i]? = some a)
    (hkb : (krun (KSt.init mem) es).log[j]? = some kb) (hb : (run {} es).log[j]? = some b) :
    ka.happenedBefore kb = true ↔ HB a b := by
  obtain ⟨L, z⟩ := (ksim_run es _ _ (ksim_init mem)).logs
  rw [KVec.happenedBefore_eq_dense ka kb a.V b.V (z.get hka ha) (z.get hkb hb)]
  exact vector_strict_iff_hb es a b (List.mem_of_getElem? ha) (List.mem_of_getElem? hb)

/-- non-vacuity: nodes that know only themselves; the send {0:1} and its receive {1:2, 0:1} have
    different key sets and are ordered; the earlier local event of node 1 is concurrent to the send -/
example :
    let k := krun (KSt.init fun n => [n]) [.loc 1 0, .send 0 0 5, .recv 1 0 2]
    k.log = [[(1, 2), (0, 1)], [(0, 1)], [(1, 1)]] ∧
    KVec.happenedBefore [(0, 1)] [(1, 2), (0, 1)] = true ∧
    KVec.concurrent [(0, 1)] [(1, 1)] = true := by decide +kernel

/-- what the model reports for event `i` of a history: the three timestamps of the record and the
    dict clocks' own `happened_before` / `is_concurrent` verdicts against every event (oldest first) -/
def modelClockObs (mem : Nat → List Nat) (es : List Ev) (i : Nat) : Option Obs :=
  let logR := (run {} es).log.reverse
  let klogR := (krun (KSt.init mem) es).log.reverse
  match logR[i]?, klogR[i]? with
  | some r, some kb =>
    some ⟨r.L, r.V, r.H, klogR.map (·.happenedBefore kb), klogR.map (·.concurrent kb)⟩
  | _, _ => none

theorem judgePair_model (es : List Ev) (ra rb : Rec) (ha : ra ∈ (run {} es).log)
    (hb : rb ∈ (run {} es).log) (ka kb : KVec) (va : VEq ka ra.V) (vb : VEq kb rb.V)
    (KL : List KVec) (hka : KL[ra.id]? = some ka) (hA cA : List Bool) :
    judgePair ra rb ⟨ra.L, ra.V, ra.H, hA, cA⟩
      ⟨rb.L, rb.V, rb.H, KL.map (·.happenedBefore kb), KL.map (·.concurrent kb)⟩ = none := by
  by_cases hne : ra.id = rb.id
  · simp [judgePair, hne]
  · have hne' : ¬ rb.id = ra.id := fun e => hne e.symm
    have e3 : vcHappenedBefore ra.V rb.V = decide (ra.id ∈ rb.K) := by
      rw [Bool.eq_iff_iff, vector_strict_iff_hb es ra rb ha hb]
      simp [HB, hne]
    have e4 : vcHappenedBefore rb.V ra.V = decide (rb.id ∈ ra.K) := by
      rw [Bool.eq_iff_iff, vector_strict_iff_hb es rb ra hb ha]
      simp [HB, hne']
    have e1 : ka.happenedBefore kb = decide (ra.id ∈ rb.K) := by
      rw [KVec.happenedBefore_eq_dense ka kb ra.V rb.V va vb, e3]
    have e2 : kb.happenedBefore ka = decide (rb.id ∈ ra.K) := by
      rw [KVec.happenedBefore_eq_dense kb ka rb.V ra.V vb va, e4]
    have hidx1 : (KL.map (·.happenedBefore kb))[ra.id]? = some (decide (ra.id ∈ rb.K)) := by
      simp [List.getElem?_map, hka, e1]
    have hidx2 : (KL.map (·.concurrent kb))[ra.id]? =
        some (!decide (ra.id ∈ rb.K) && !decide (rb.id ∈ ra.K)) := by
      simp [List.getElem?_map, hka, KVec.concurrent, e1, e2]
    by_cases hp : ra.id ∈ rb.K
    · have hL := lamport_hb es ra rb ha hb ⟨hp, hne⟩
      have hH := hlc_hb es ra rb ha hb ⟨hp, hne⟩
      have hH' : HTs.ltb ra.H rb.H = true := by
        simp only [HTs.lt] at hH
        simp only [HTs.ltb, Bool.or_eq_true, Bool.and_eq_true, decide_eq_true_eq, beq_iff_eq]
        exact hH
      have hf : rb.id ∉ ra.K := by
        intro hq
        have inv := (inv_run es).1
        have l1 := (inv.idLog rb hb).2 ra.id hp
        have l2 := (inv.idLog ra ha).2 rb.id hq
        exact hne (Nat.le_antisymm l1 l2)
      simp [judgePair, hne, hp, hL, hH', e3, hidx1, hidx2, hf]
    · simp [judgePair, hne, hp, e3, hidx1, hidx2]

theorem judgeClocks_none (recs : List Rec) (obs : Nat → Option Obs)
    (h : ∀ ra ∈ recs, ∀ rb ∈ recs, ∃ oa ob, obs ra.id = some oa ∧ obs rb.id = some ob ∧
      judgePair ra rb oa ob = none) : judgeClocks recs obs = none := by
  unfold judgeClocks
  rw [List.findSome?_eq_none_iff]
  intro ra hra
  rw [List.findSome?_eq_none_iff]
  intro rb hrb
  obtain ⟨oa, ob, h1, h2, h3⟩ := h ra hra rb hrb
  rw [h1, h2]
  exact h3

/-- the clocks judge accepts the model's own transcript: for every membership assignment and every
    history, all clauses (Lamport, HLC, vector order on the reported vectors, the clocks' own
    `happened_before` and `is_concurrent` verdicts) hold of what the model reports -/
theorem clocks_trace_satisfies_spec (mem : Nat → List Nat) (es : List Ev) :
    judgeClocks (run {} es).log.reverse (modelClockObs mem es) = none := by
  obtain ⟨P, z⟩ := (ksim_run es _ _ (ksim_init mem)).logs
  have hlog : (run {} es).log.reverse = P.map (·.1) := by rw [z.log]; simp
  have hklog : (krun (KSt.init mem) es).log.reverse = P.map (·.2) := by rw [z.klog]; simp
  have hfind : ∀ r ∈ P.map (·.1), ∃ kv, P[r.id]? = some (r, kv) ∧ VEq kv r.V := by
    intro r hr
    obtain ⟨⟨r', kv⟩, hm, rfl⟩ := List.mem_map.mp hr
    obtain ⟨i, hi⟩ := List.getElem?_of_mem hm
    have hp := z.pos i r' kv hi
    exact ⟨kv, hp.1 ▸ hi, hp.2⟩
  have hobs : ∀ (r : Rec) (kv : KVec), P[r.id]? = some (r, kv) →
      modelClockObs mem es r.id =
        some ⟨r.L, r.V, r.H, (P.map (·.2)).map (·.happenedBefore kv), (P.map (·.2)).map (·.concurrent kv)⟩ := by
    intro r kv h
    simp only [modelClockObs, hlog, hklog, List.getElem?_map, h, Option.map_some]
  have hmem : ∀ r ∈ P.map (·.1), r ∈ (run {} es).log := by
    intro r hr
    rw [← hlog] at hr
    exact List.mem_reverse.mp hr
  refine judgeClocks_none _ _ fun ra hra rb hrb => ?_
  rw [hlog] at hra hrb
  obtain ⟨ka, hka, va⟩ := hfind ra hra
  obtain ⟨kb, hkb, vb⟩ := hfind rb hrb
  have hidx : (P.map (·.2))[ra.id]? = some ka := by rw [List.getElem?_map, hka]; rfl
  have hp := fun hA cA => judgePair_model es ra rb (hmem ra hra) (hmem rb hrb) ka kb
    va vb (P.map (·.2)) hidx hA cA
  exact ⟨_, _, hobs ra ka hka, hobs rb kb hkb, hp _ _⟩

/-- non-vacuity: the model's observations for a history with a receive under self-only membership -/
example :
    (modelClockObs (fun n => [n]) [.loc 1 0, .send 0 0 5, .recv 1 0 2] 2).map (fun o => (o.L, o.V, o.hbIn, o.ccIn))
      = some (2, [1, 2], [true, true, false], [false, false, true]) := by decide +kernel

theorem pn_merge_comm (a b : PN) : a.merge b = b.merge a := by
  simp [PN.merge, Vec.vmax_comm a.p b.p, Vec.vmax_comm a.n b.n]

theorem pn_merge_assoc (a b c : PN) : (a.merge b).merge c = a.merge (b.merge c) := by
  simp [PN.merge, Vec.vmax_assoc]

theorem pn_merge_idem (a : PN) : a.merge a = a := by
  simp [PN.merge, Vec.vmax_idem]

theorem orset_reachable_wf (ops : List COp) (r : Nat) : ((Sys.run Sys.init ops).rep r).os.WF := by
  obtain ⟨_, _, _, h⟩ := den_run ops r
  exact h.wf

/-- membership is what the laws are about -/
theorem orset_merge_has (a b c : ORSet) (x : Nat) :
    (a.merge b).has x = (b.merge a).has x ∧
    ((a.merge b).merge c).has x = (a.merge (b.merge c)).has x ∧
    (a.WF → (a.merge a).has x = a.has x) :=
  ⟨(orset_merge_comm a b).has_eq x, (orset_merge_assoc a b c).has_eq x,
   fun h => (orset_merge_idem a h).has_eq x⟩

/-- non-vacuity: three reachable OR-sets, `a ≠ b`, `b ≠ c` (adds, a remove and merges) -/
example :
    let s := Sys.run Sys.init [.oadd 0 7, .oadd 1 7, .merge 2 0, .orem 2 7, .oadd 1 8, .merge 0 2,
      .merge 2 1, .oadd 0 9]
    let a := (s.rep 0).os; let b := (s.rep 1).os; let c := (s.rep 2).os
    a.WF ∧ a.tomb ≠ [] ∧ b.ents.length = 2 ∧ a ≠ b ∧ b ≠ c ∧
    (a.merge b).ents ≠ (b.merge a).ents ∧ (a.merge b).has 7 = true ∧ (a.merge c).has 8 = true := by
  decide +kernel

/-- the well-formedness hypothesis of idempotence cannot be dropped for arbitrary values -/
example : ¬ ((ORSet.mk 1 [(5, ⟨0, 0⟩)] [⟨0, 0⟩]).merge (ORSet.mk 1 [(5, ⟨0, 0⟩)] [⟨0, 0⟩])).has 5
    = (ORSet.mk 1 [(5, ⟨0, 0⟩)] [⟨0, 0⟩]).has 5 := by decide

/-- non-vacuity: coherent registers with different timestamps -/
example : LWW.Coherent ⟨some (⟨3, 0, 1⟩, 10)⟩ ⟨some (⟨3, 1, 0⟩, 20)⟩ ∧
    (LWW.merge ⟨some (⟨3, 0, 1⟩, 10)⟩ ⟨some (⟨3, 1, 0⟩, 20)⟩).cur = some (⟨3, 1, 0⟩, 20) := by
  refine ⟨fun t va vb h1 h2 => ?_, by decide⟩
  cases h1; cases h2

/-- without coherence commutativity fails: two writes with the same timestamp and different
    values — each side keeps its own -/
theorem lww_merge_not_comm_incoherent :
    LWW.merge ⟨some (⟨3, 0, 1⟩, 10)⟩ ⟨some (⟨3, 0, 1⟩, 20)⟩ ≠
    LWW.merge ⟨some (⟨3, 0, 1⟩, 20)⟩ ⟨some (⟨3, 0, 1⟩, 10)⟩ := by decide

/-! ### CRDT values are the specified ones

`SpecSys` (HappyModel/C18/Spec.lean) records every update operation with the set of operation ids
its replica had seen (`K`), and keeps for every replica the set `know r` of update ids in its
causal past; merges only union these sets. The theorems below hold for every operation list. -/

/-- counter value = Σ seen increments − Σ seen decrements -/
theorem counter_value_spec (ops : List COp) (r : Nat) :
    ((Sys.run Sys.init ops).rep r).pn.value = (SpecSys.run {} ops).counter r :=
  pnDen_value (den_run ops r).1

example :
    let ops := [COp.inc 0 2, .dec 1 1, .merge 1 0, .inc 1 3, .merge 0 1, .merge 0 1, .dec 2 4]
    ((Sys.run Sys.init ops).rep 0).pn.value = 4 ∧ (SpecSys.run {} ops).counter 0 = 4 ∧
    ((Sys.run Sys.init ops).rep 2).pn.value = -4 := by decide +kernel

/-- the OR-set contains x exactly when some seen add of x was not observed by a seen remove of x -/
theorem orset_spec (ops : List COp) (r x : Nat) :
    ((Sys.run Sys.init ops).rep r).os.has x = (SpecSys.run {} ops).orHas r x := by
  obtain ⟨_, _, _, h⟩ := den_run ops r
  exact h.has x

/-- non-vacuity: a concurrent add survives a remove (7 at replica 0), an observed add does not
    (7 at replica 0 before it merges from replica 1: `ops'`), on both sides of the equation -/
example :
    let ops := [COp.oadd 0 7, .oadd 1 7, .merge 2 0, .orem 2 7, .merge 0 2, .merge 0 1, .merge 2 0]
    let ops' := [COp.oadd 0 7, .oadd 1 7, .merge 2 0, .orem 2 7, .merge 0 2]
    ((Sys.run Sys.init ops).rep 0).os.has 7 = true ∧ (SpecSys.run {} ops).orHas 0 7 = true ∧
    ((Sys.run Sys.init ops').rep 0).os.has 7 = false ∧ (SpecSys.run {} ops').orHas 0 7 = false := by
  decide +kernel

/-- the register holds a seen write that no seen write beats (`none` iff nothing was seen);
    no hypothesis on the timestamps is needed for this direction -/
theorem lww_spec (ops : List COp) (r : Nat) :
    (SpecSys.run {} ops).lwwOk r ((Sys.run Sys.init ops).rep r).lww.cur = true :=
  (SpecSys.lwwOk_iff _ _ _).mpr (den_run ops r).2.1

example :
    let ops := [COp.lset 0 10 5 0 0, .lset 1 20 5 1 1, .merge 0 1, .lset 2 30 4 9 2, .merge 0 2,
      .merge 2 0]
    ((Sys.run Sys.init ops).rep 2).lww.cur = some (⟨5, 1, 1⟩, 20) ∧
    (SpecSys.run {} ops).writes 2 = [(⟨4, 9, 2⟩, 30), (⟨5, 1, 1⟩, 20), (⟨5, 0, 0⟩, 10)] := by decide +kernel

/-- replicas that have received the same updates have equal values: same counter value, same
    OR-set members, and — when equal timestamps carry equal values — the same register content -/
theorem same_updates_equal_values (ops : List COp) (r1 r2 : Nat)
    (h : SameSet ((SpecSys.run {} ops).know r1) ((SpecSys.run {} ops).know r2)) :
    ((Sys.run Sys.init ops).rep r1).pn.value = ((Sys.run Sys.init ops).rep r2).pn.value ∧
    (∀ x, ((Sys.run Sys.init ops).rep r1).os.has x = ((Sys.run Sys.init ops).rep r2).os.has x) ∧
    (OpsCoherent ops →
      ((Sys.run Sys.init ops).rep r1).lww.cur = ((Sys.run Sys.init ops).rep r2).lww.cur) := by
  refine ⟨?_, fun x => ?_, fun hc => ?_⟩
  · rw [counter_value_spec, counter_value_spec]; exact counter_congr _ _ r1 r2 rfl h
  · rw [orset_spec, orset_spec]; exact orHas_congr _ _ r1 r2 rfl h x
  · exact best_unique ops hc r1 r2 h _ _ (den_run ops r1).2.1 (den_run ops r2).2.1

/-- non-vacuity: after merging in both directions two replicas know the same updates (in a
    different order), the operations are coherent, and the knowledge is not trivial -/
example :
    let ops := [COp.oadd 0 5, .inc 1 2, .lset 0 9 3 0 0, .lset 1 8 3 0 1, .merge 0 1, .merge 1 0]
    let t := SpecSys.run {} ops
    SameSet (t.know 0) (t.know 1) ∧ t.know 0 ≠ t.know 1 ∧ (t.know 0).length = 4 ∧
    OpsCoherent ops := by decide +kernel

/-- without coherent timestamps the register part fails: same updates, different contents -/
example :
    let ops := [COp.lset 0 10 3 0 0, .lset 1 20 3 0 0, .merge 0 1, .merge 1 0]
    SameSet ((SpecSys.run {} ops).know 0) ((SpecSys.run {} ops).know 1) ∧
    ((Sys.run Sys.init ops).rep 0).lww.cur ≠ ((Sys.run Sys.init ops).rep 1).lww.cur := by decide +kernel

/-! ### CRDTStore replicas (gossip of serialised state)

The store model (`HappyModel/C18/Store.lean`, variant `repaired`) keeps one replica system per key:
entity `s < n` is store `s`'s CRDT for the key, entity `n + m` is the serialised copy inside gossip
message `m`.  `store_refines_replicas` shows that, for every script of client writes, gossip ticks
and deliveries (any order, duplication, loss), this *is* a run of the replica system above over the
operations `storeOps … k`; so every store — and every message in flight — has the specified value
of the updates it has received, and stores that have received the same updates agree. -/

def storeOps (kind : Kind) (n : Nat) (peers : List (List Nat)) (steps : List SStep) (k : Nat) :
    List COp :=
  keyOps k (PSt.ops .repaired kind { n := n, peers := peers } steps)

/-- the CRDT of key `k` at entity `e` (store `e < n`, message `e - n`) after a store run -/
def storeRep (kind : Kind) (n : Nat) (peers : List (List Nat)) (steps : List SStep) (e k : Nat) :
    Rep :=
  ((sysAt (SSt.run .repaired kind (SSt.init n peers) steps).sys k).rep e)

theorem store_refines_replicas (kind : Kind) (n : Nat) (peers : List (List Nat))
    (steps : List SStep) (e k : Nat) :
    storeRep kind n peers steps e k = (Sys.run Sys.init (storeOps kind n peers steps k)).rep e := by
  unfold storeRep storeOps
  rw [sysAt_run, runX_base _ _ _ (ops_base kind _ steps)]
  simp [SSt.init, sysAt_nil]

/-- store counters: value = received increments − received decrements -/
theorem store_counter_value_spec (kind : Kind) (n : Nat) (peers : List (List Nat))
    (steps : List SStep) (e k : Nat) :
    (storeRep kind n peers steps e k).pn.value =
      (SpecSys.run {} (storeOps kind n peers steps k)).counter e := by
  rw [store_refines_replicas]; exact counter_value_spec _ e

/-- store OR-sets: x is present exactly when a received add of x is not observed by a received remove -/
theorem store_orset_spec (kind : Kind) (n : Nat) (peers : List (List Nat))
    (steps : List SStep) (e k x : Nat) :
    (storeRep kind n peers steps e k).os.has x =
      (SpecSys.run {} (storeOps kind n peers steps k)).orHas e x := by
  rw [store_refines_replicas]; exact orset_spec _ e x

/-- store registers hold a received write that no received write beats -/
theorem store_lww_spec (kind : Kind) (n : Nat) (peers : List (List Nat))
    (steps : List SStep) (e k : Nat) :
    (SpecSys.run {} (storeOps kind n peers steps k)).lwwOk e (storeRep kind n peers steps e k).lww.cur
      = true := by
  rw [store_refines_replicas]; exact lww_spec _ e

/-- stores that have received the same updates of a key report the same value for it -/
theorem store_same_updates_equal_values (kind : Kind) (n : Nat) (peers : List (List Nat))
    (steps : List SStep) (e1 e2 k : Nat)
    (h : SameSet ((SpecSys.run {} (storeOps kind n peers steps k)).know e1)
                 ((SpecSys.run {} (storeOps kind n peers steps k)).know e2)) :
    (storeRep kind n peers steps e1 k).pn.value = (storeRep kind n peers steps e2 k).pn.value ∧
    (∀ x, (storeRep kind n peers steps e1 k).os.has x = (storeRep kind n peers steps e2 k).os.has x) ∧
    (OpsCoherent (storeOps kind n peers steps k) →
      (storeRep kind n peers steps e1 k).lww.cur = (storeRep kind n peers steps e2 k).lww.cur) := by
  rw [store_refines_replicas, store_refines_replicas]
  exact same_updates_equal_values _ e1 e2 h

/-- non-vacuity: two stores write the same key concurrently, one of them adopts it from the other's
    push first; after a push / response exchange both have received all three updates (in a different
    order) and read 10 -/
example :
    let steps := [SStep.w 0 0 (.inc 5), .tick 0 0, .dl 0, .w 1 0 (.inc 3), .w 0 0 (.inc 2),
      .tick 1 0, .dl 2, .dl 3]
    let t := SpecSys.run {} (storeOps .pn 2 [[1], [0]] steps 0)
    storeOps .pn 2 [[1], [0]] steps 0 =
      [.inc 0 5, .merge 2 0, .merge 1 2, .merge 3 1, .inc 1 3, .inc 0 2, .merge 4 1, .merge 0 4,
       .merge 5 0, .merge 1 5] ∧
    SameSet (t.know 0) (t.know 1) ∧ t.know 0 ≠ t.know 1 ∧ SameSet (t.know 0) (t.know 5) ∧
    (storeRep .pn 2 [[1], [0]] steps 0 0).pn.value = 10 := by decide +kernel

/-- the code before `fixes/C18-store-adopts-remote-node-id.diff` (variant `current`): the adopted
    counter keeps the sender's node id, store 1's increment lands in store 0's slot and is lost —
    both stores read 8 although increments − decrements = 10 -/
theorem store_adoption_current_loses_increment :
    let steps := [SStep.w 0 0 (.inc 5), .tick 0 0, .dl 0, .w 1 0 (.inc 3), .w 0 0 (.inc 2),
      .tick 1 0, .dl 2, .dl 3]
    let cur := SSt.run .current .pn (SSt.init 2 [[1], [0]]) steps
    ((sysAt cur.sys 0).rep 0).pn.value = 8 ∧ ((sysAt cur.sys 0).rep 1).pn.value = 8 ∧
    (SpecSys.run {} (storeOps .pn 2 [[1], [0]] steps 0)).counter 0 = 10 ∧
    (storeRep .pn 2 [[1], [0]] steps 0 0).pn.value = 10 := by decide +kernel

def Rep.Equiv (a b : Rep) : Prop := a.pn = b.pn ∧ a.lww = b.lww ∧ a.os.Equiv b.os

/-- what a delivery does to a key of the receiving store -/
theorem sys_merge_is_rep_merge (s : Sys) (d sr : Nat) :
    (s.step (.merge d sr)).rep d = Rep.merge (s.rep d) (s.rep sr) := by
  simp [Sys.step, Sys.set, Rep.merge]

theorem rep_merge_comm (a b : Rep) (h : LWW.Coherent a.lww b.lww) :
    (Rep.merge a b).Equiv (Rep.merge b a) :=
  ⟨pn_merge_comm _ _, lww_merge_comm _ _ h, orset_merge_comm _ _⟩

theorem rep_merge_assoc (a b c : Rep) :
    (Rep.merge (Rep.merge a b) c).Equiv (Rep.merge a (Rep.merge b c)) :=
  ⟨pn_merge_assoc _ _ _, lww_merge_assoc _ _ _, orset_merge_assoc _ _ _⟩

theorem rep_merge_idem (a : Rep) (h : a.os.WF) : (Rep.merge a a).Equiv a :=
  ⟨pn_merge_idem _, lww_merge_idem _, orset_merge_idem _ h⟩

/-- adoption (repaired): a key the store does not hold becomes the empty CRDT of the store merged
    with the remote state — the remote value, under the store's own identity (`seq = 0`: the
    store has issued no tag of its own yet) -/
theorem rep_adopt (r : Rep) (h : r.os.WF) :
    (Rep.merge {} r).Equiv r ∧ (Rep.merge {} r).os.seq = 0 := by
  refine ⟨⟨?_, ?_, ?_, ?_⟩, rfl⟩
  · simp [Rep.merge, PN.merge]
  · cases r with
    | mk pn lww os =>
      cases lww with
      | mk cur =>
        cases cur with
        | none => rfl
        | some tv => obtain ⟨t, v⟩ := tv; simp [Rep.merge, LWW.merge, LWW.set]
  · intro e
    simp only [Rep.merge, ORSet.mem_merge_ents]
    constructor
    · rintro ⟨h1 | h1, _⟩
      · simp at h1
      · exact h1
    · intro h1
      exact ⟨Or.inr h1, by simp, h e h1⟩
  · intro t
    simp [Rep.merge, ORSet.mem_merge_tomb]

example :
    let r : Rep := ⟨⟨[2, 1], [0, 1]⟩, ⟨some (⟨3, 0, 1⟩, 7)⟩, ⟨2, [(5, ⟨1, 0⟩)], [⟨1, 1⟩]⟩⟩
    r.os.WF ∧ Rep.merge {} r = ⟨r.pn, r.lww, ⟨0, r.os.ents, r.os.tomb⟩⟩ := by decide +kernel

/-- non-vacuity: a push with two keys, one of them new to the receiver, which holds a third key -/
example :
    let st := SSt.run .repaired .pn (SSt.init 2 [[1], [0]])
      [.w 0 0 (.inc 5), .w 0 1 (.dec 2), .w 1 0 (.inc 1), .w 1 2 (.inc 4), .tick 0 0]
    st.p.msgs[0]? = some ⟨0, 1, true, [(0, 0), (1, 0)]⟩ ∧ st.p.holds 1 1 = false ∧
    ((sysAt (st.step .repaired .pn (.dl 0)).sys 1).rep 1).pn.value = -2 ∧
    ((sysAt (st.step .repaired .pn (.dl 0)).sys 0).rep 1).pn.value = 6 ∧
    ((sysAt (st.step .repaired .pn (.dl 0)).sys 2).rep 1).pn.value = 4 := by decide +kernel

/-!
`traceObs` (HappyModel/C18/StoreTrace.lean) is the judge-visible part of what `Driver.runStore`
prints: per step the messages handed to the network and the values the acting stores report.
The judge's bookkeeping (`JSt.advance`) is reconstructed from the script and the observed messages only. -/

/-- the judge, reading the model's transcript, attributes to every store and every message in
    flight exactly the updates the model's replica has received -/
theorem store_judge_knows_model (kind : Kind) (n : Nat) (peers : List (List Nat))
    (steps : List SStep) (k : Nat) :
    specAt (advanceAll kind n {} (traceObs kind (SSt.init n peers) steps)).spec k =
      SpecSys.run {} (storeOps kind n peers steps k) := by
  have := (jinv_run kind steps (jinv_init n peers) (sys_init n peers)).1.spec k
  simpa [storeOps, SSt.init] using this

/-- value clause: in every step of every script, every value the model's acting stores report is
    accepted by the judge (whose state is the one it reached by reading the transcript so far) -/
theorem store_trace_values_accepted (kind : Kind) (n : Nat) (peers : List (List Nat))
    (pre : List SStep) (x : SStep) (mentioned : List Nat) :
    let st := SSt.run .repaired kind (SSt.init n peers) pre
    let j := advanceAll kind n {} (traceObs kind (SSt.init n peers) pre)
    ∀ o ∈ (stepObs kind st x).obs,
      judgeValue kind (specAt (j.advance kind n (stepObs kind st x)).spec o.2.1) o.1 o.2.2 mentioned
        = none := by
  intro st j
  obtain ⟨hj, hsys⟩ := jinv_run kind pre (jinv_init n peers) (sys_init n peers)
  exact val_ok kind x mentioned (jinv_step kind hj x _) (sys_step kind hsys x)

/-- the three per-step clauses (value, reported keys, keys of a gossip message) on the whole transcript of a
    well-formed script -/
theorem store_trace_satisfies_spec_steps (kind : Kind) (n nkeys : Nat) (peers : List (List Nat))
    (steps : List SStep) (mentioned : List Nat) (hp : WFPeers n peers) (hs : ∀ x ∈ steps, WFStep n x) :
    (judgeStore.go kind n nkeys mentioned {} 0 (traceObs kind (SSt.init n peers) steps)).2 = none := by
  rw [(store_trace_steps_accepted kind n nkeys mentioned steps 0 (tinv_init n peers hp) (obnd_nil _) hs).1]

/-- the invariant behind the two bookkeeping clauses: a store has received an update of a key only
    if it holds the key (well-formed scripts) -/
theorem store_received_only_if_held (kind : Kind) (n : Nat) (peers : List (List Nat))
    (steps : List SStep) (hp : WFPeers n peers) (hs : ∀ x ∈ steps, WFStep n x) (a k : Nat) (ha : a < n)
    (hk : (SpecSys.run {} (storeOps kind n peers steps k)).know a ≠ []) :
    (SSt.run .repaired kind (SSt.init n peers) steps).p.holds a k = true := by
  obtain ⟨_, T, _⟩ := store_trace_steps_accepted kind n 0 [] steps 0 (tinv_init n peers hp)
    (obnd_nil _) hs
  refine known_held T.j T.good a k ha ?_
  rw [T.j.spec k]
  simpa [storeOps, SSt.init] using hk

/-- the full statement as a proposition: the store judge returns no violation on the model's own
    transcript — all clauses, the final liveness clause included. Well-formed scripts only: stores named
    in the script and in the peer lists are `< n`, keys are `< nkeys`.  No theorem states it under this
    name; `store_trace_satisfies_spec` (TraceFinal.lean) proves the conclusion without the premise
    `key < nkeys`, and implies it. -/
def store_trace_satisfies_spec_full : Prop :=
  ∀ (kind : Kind) (n nkeys : Nat) (peers : List (List Nat)) (steps : List SStep),
    (∀ ps ∈ peers, ∀ q ∈ ps, q < n) →
    (∀ x ∈ steps, match x with
      | .w s key _ => s < n ∧ key < nkeys | .tick s _ => s < n | .round s _ => s < n | .dl _ => True) →
    judgeStore kind n nkeys peers (traceObs kind (SSt.init n peers) steps)
      ((List.range n).flatMap (storeObs (SSt.run .repaired kind (SSt.init n peers) steps))) = none

/-- knowledge reconstruction and value clause, for every script: no well-formedness is needed for
    these two.  The other clauses (`store/key/missing-after-update`, `store/gossip/state-omits-known-key`,
    the final clause) need well-formed scripts: `store_trace_satisfies_spec`. -/
theorem store_trace_satisfies_spec_partial (kind : Kind) (n : Nat) (peers : List (List Nat))
    (pre : List SStep) (x : SStep) (mentioned : List Nat) :
    (∀ k, specAt (advanceAll kind n {} (traceObs kind (SSt.init n peers) pre)).spec k =
      SpecSys.run {} (storeOps kind n peers pre k)) ∧
    (∀ o ∈ (stepObs kind (SSt.run .repaired kind (SSt.init n peers) pre) x).obs,
      judgeValue kind
        (specAt ((advanceAll kind n {} (traceObs kind (SSt.init n peers) pre)).advance kind n
          (stepObs kind (SSt.run .repaired kind (SSt.init n peers) pre) x)).spec o.2.1)
        o.1 o.2.2 mentioned = none) :=
  ⟨fun k => store_judge_knows_model kind n peers pre k,
   store_trace_values_accepted kind n peers pre x mentioned⟩

/-- after any operations, let the replicas of a group `R` exchange states (list `ex` of merges
    `(dst, src)`, no updates in between) such that members merge only from members and every
    member's state reaches every member (`reach`): directly or through other members — e.g. the
    gossip messages in flight — in any order, with any repetition and any additional merges. Then
    all members have received the same updates and are equal. -/
theorem exchange_all_converges (ops : List COp) (R : List Nat) (ex : List (Nat × Nat))
    (closed : ∀ e ∈ ex, e.1 ∈ R → e.2 ∈ R)
    (full : ∀ a ∈ R, ∀ b ∈ R, b ∈ reach ex [a]) (a b : Nat) (ha : a ∈ R) (hb : b ∈ R) :
    let s := Sys.run Sys.init (ops ++ merges ex)
    (s.rep a).pn.value = (s.rep b).pn.value ∧ (∀ x, (s.rep a).os.has x = (s.rep b).os.has x) ∧
    (OpsCoherent (ops ++ merges ex) → (s.rep a).lww.cur = (s.rep b).lww.cur) := by
  apply same_updates_equal_values
  rw [SpecSys.run_append]
  exact exchange_same_knowledge _ R ex closed full a ha b hb

/-- the same for stores: if the replica operations of key `k` end in an exchange (gossip ticks and
    deliveries emit merges only) that is full for a group of stores and messages, the stores of
    the group agree on the key -/
theorem store_exchange_converges (kind : Kind) (n : Nat) (peers : List (List Nat))
    (steps : List SStep) (k : Nat) (ops : List COp) (R : List Nat) (ex : List (Nat × Nat))
    (hsplit : storeOps kind n peers steps k = ops ++ merges ex)
    (closed : ∀ e ∈ ex, e.1 ∈ R → e.2 ∈ R)
    (full : ∀ a ∈ R, ∀ b ∈ R, b ∈ reach ex [a]) (a b : Nat) (ha : a ∈ R) (hb : b ∈ R) :
    (storeRep kind n peers steps a k).pn.value = (storeRep kind n peers steps b k).pn.value ∧
    (∀ x, (storeRep kind n peers steps a k).os.has x = (storeRep kind n peers steps b k).os.has x) ∧
    (OpsCoherent (ops ++ merges ex) →
      (storeRep kind n peers steps a k).lww.cur = (storeRep kind n peers steps b k).lww.cur) := by
  rw [store_refines_replicas, store_refines_replicas, hsplit]
  exact exchange_all_converges ops R ex closed full a b ha hb

def gossipPairs (kind : Kind) (n : Nat) (peers : List (List Nat)) (pre suf : List SStep) (k : Nat) :
    List (Nat × Nat) :=
  mergePairs (keyOps k (PSt.ops .repaired kind
    (PSt.runP .repaired kind { n := n, peers := peers } pre) suf))

/-- liveness of gossip: let a script end in a gossip-only phase `suf` (ticks, deliveries, lossless
    rounds — no client write), whatever happened and was lost before (`pre`). The phase is, for
    every key, an exchange of states (`gossipPairs`: the merges it performs, through the messages
    it builds); if inside a group `R` of stores and messages every member's state reaches every
    member, the stores of the group end up equal. -/
theorem store_gossip_phase_converges (kind : Kind) (n : Nat) (peers : List (List Nat))
    (pre suf : List SStep) (k : Nat) (hg : ∀ x ∈ suf, x.isGossip = true) (R : List Nat)
    (closed : ∀ e ∈ gossipPairs kind n peers pre suf k, e.1 ∈ R → e.2 ∈ R)
    (full : ∀ a ∈ R, ∀ b ∈ R, b ∈ reach (gossipPairs kind n peers pre suf k) [a])
    (a b : Nat) (ha : a ∈ R) (hb : b ∈ R) :
    (storeRep kind n peers (pre ++ suf) a k).pn.value = (storeRep kind n peers (pre ++ suf) b k).pn.value ∧
    (∀ x, (storeRep kind n peers (pre ++ suf) a k).os.has x =
          (storeRep kind n peers (pre ++ suf) b k).os.has x) ∧
    (OpsCoherent (storeOps kind n peers pre k ++ merges (gossipPairs kind n peers pre suf k)) →
      (storeRep kind n peers (pre ++ suf) a k).lww.cur =
      (storeRep kind n peers (pre ++ suf) b k).lww.cur) := by
  have hsplit : storeOps kind n peers (pre ++ suf) k =
      storeOps kind n peers pre k ++ merges (gossipPairs kind n peers pre suf k) := by
    unfold storeOps gossipPairs
    rw [ops_append, keyOps_append]
    congr 1
    exact keyOps_of_merges k _ (gossip_ops_merge kind _ suf hg)
  exact store_exchange_converges kind n peers (pre ++ suf) k _ R _ hsplit closed full a b ha hb

/-- non-vacuity: both stores write, both pushes are lost; after the heal
    one lossless round per store: every store's state reaches every store -/
example :
    let pre := [SStep.w 0 0 (.inc 5), .w 1 0 (.inc 2), .tick 0 0, .tick 1 0]
    let suf := [SStep.round 0 0, .round 1 0]
    let ex := gossipPairs .g 2 [[1], [0]] pre suf 0
    ex = [(4, 0), (1, 4), (5, 1), (0, 5), (6, 1), (0, 6), (7, 0), (1, 7)] ∧
    (∀ x ∈ suf, x.isGossip = true) ∧
    (∀ a ∈ [0, 1], ∀ b ∈ [0, 1], b ∈ reach ex [a]) ∧
    (storeRep .g 2 [[1], [0]] (pre ++ suf) 0 0).pn.value = 7 ∧
    (storeRep .g 2 [[1], [0]] (pre ++ suf) 1 0).pn.value = 7 := by decide +kernel

/-- non-vacuity: three stores write, then gossip in a ring with one duplicate delivery and five
    responses never delivered; replicas 0–2 are the stores, 3… the messages; every store's state reaches every store -/
example :
    let steps := [SStep.w 0 0 (.add 1), .w 1 0 (.add 2), .w 2 0 (.rem 2), .w 2 0 (.add 3),
      .tick 0 0, .dl 0, .tick 1 1, .dl 2, .dl 2, .tick 2 0, .dl 5, .dl 6, .tick 0 1, .dl 7, .dl 8,
      .tick 1 0, .dl 9, .tick 2 1, .dl 11]
    let peers := [[1, 2], [0, 2], [0, 1]]
    let ex := [(3, 0), (1, 3), (4, 1), (5, 1), (2, 5), (6, 2), (2, 5), (7, 2), (8, 2), (0, 8),
      (9, 0), (2, 9), (10, 0), (2, 10), (11, 2), (0, 11), (12, 1), (0, 12), (13, 0), (14, 2), (1, 14),
      (15, 1)]
    let R := List.range 16
    storeOps .os 3 peers steps 0 = [.oadd 0 1, .oadd 1 2, .orem 2 2, .oadd 2 3] ++ merges ex ∧
    (∀ e ∈ ex, e.1 ∈ R → e.2 ∈ R) ∧ (∀ a ∈ [0, 1, 2], ∀ b ∈ [0, 1, 2], b ∈ reach ex [a]) ∧
    (storeRep .os 3 peers steps 0 0).os.has 2 = true := by decide +kernel

end HappyModel.C18
