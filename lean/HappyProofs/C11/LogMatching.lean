import HappyProofs.C11.Election
import HappyProofs.C11.LogInv
/-! One lemma preserves `LInv` across any handler step, given what the handler did to the log (`LogOk`);
    then `LogOk` for every handler call (`Does.logOk`), `EInv` and `LInv` along every run, and Log Matching in the form
    the Spec judges. -/
namespace HappyModel.C11

/-- What `LInv` needs to know of a handler call at node `i` that returns `r` and enters `cr` in `created`.  `shape`: the log
    stays; or a leader appends one entry of its term, and that log is the one new record; or a node that is not a leader
    afterwards takes a log all of whose prefixes are recorded (an accepted AppendEntries).  `lead`: a leader afterwards was one
    before, in the same term, or has just won a term in which it was not leader before.  `sends`: the AppendEntries sent continue
    records. -/
structure LogOk (g : GSt) (i : Nat) (r : HR) (cr : List (List Entry)) : Prop where
  shape : (r.node.log = (g.s.nodes i).log ∧ cr = [])
        ∨ (∃ c, r.node.log = (g.s.nodes i).log ++ [⟨(g.s.nodes i).term, c⟩] ∧ (g.s.nodes i).role = .leader
              ∧ r.node.role = .leader ∧ r.node.term = (g.s.nodes i).term ∧ cr = [r.node.log])
        ∨ (r.node.role ≠ .leader ∧ Rec g.created r.node.log ∧ cr = [])
  lead : r.node.role = .leader →
        ((g.s.nodes i).role = .leader ∧ r.node.term = (g.s.nodes i).term)
        ∨ ((g.s.nodes i).role ≠ .leader ∧ ((g.s.nodes i).term < r.node.term
              ∨ (r.node.term = (g.s.nodes i).term ∧ (g.s.nodes i).role = .candidate)))
  sends : ∀ d t l pi pt es lc, (d, Body.ae t l pi pt es lc) ∈ r.sends → AEok (cr ++ g.created) pi pt es

theorem LogOk.new_rec {g : GSt} {i : Nat} {r : HR} {cr : List (List Entry)} (ok : LogOk g i r cr) :
    ∀ L ∈ cr, ∃ c, L = (g.s.nodes i).log ++ [⟨(g.s.nodes i).term, c⟩] ∧ (g.s.nodes i).role = .leader
      ∧ r.node.log = L ∧ r.node.role = .leader ∧ r.node.term = (g.s.nodes i).term := by
  intro L hL
  rcases ok.shape with ⟨_, h⟩ | ⟨c, h1, h2, h3, h4, h5⟩ | ⟨_, _, h⟩
  · rw [h] at hL; cases hL
  · rw [h5] at hL; simp only [List.mem_singleton] at hL
    exact ⟨c, by rw [hL, h1], h2, hL.symm, h3, h4⟩
  · rw [h] at hL; cases hL

theorem linv_handler {g : GSt} {i : Nat} {r : HR} {cr : List (List Entry)}
    (einv : EInv g) (einv' : EInv (gApply g i r cr)) (linv : LInv g) (ok : LogOk g i r cr) :
    LInv (gApply g i r cr) := by
  have hmonoC : ∀ L ∈ g.created, L ∈ cr ++ g.created := fun L h => List.mem_append_right _ h
  have hnew := ok.new_rec
  refine ⟨?_, ?_, ?_, ?_, ?_, ?_⟩
  · -- g0
    intro L hL
    simp only [gApply_created] at hL
    rcases List.mem_append.mp hL with h | h
    · obtain ⟨c, hc, _⟩ := hnew L h; rw [hc]; simp
    · exact linv.g0 L h
  · -- g1
    intro L hL L' hL' hlen hterm
    simp only [gApply_created] at hL hL'
    have clash : ∀ N ∈ cr, ∀ M ∈ g.created, N.length = M.length → lastTerm N = lastTerm M → False := by
      intro N hN M hM hl ht
      obtain ⟨c, hc, hlead, _⟩ := hnew N hN
      have := linv.g2 i hlead M hM (by rw [← ht, hc, lastTerm_concat])
      rw [hc] at hl; simp at hl; omega
    rcases List.mem_append.mp hL with h | h <;> rcases List.mem_append.mp hL' with h' | h'
    · obtain ⟨c, hc, _, hl, _⟩ := hnew L h
      obtain ⟨c', hc', _, hl', _⟩ := hnew L' h'
      rw [← hl, ← hl']
    · exact absurd (clash L h L' h' hlen hterm) id
    · exact absurd (clash L' h' L h hlen.symm hterm.symm) id
    · exact linv.g1 L h L' h' hlen hterm
  · -- g2
    intro j hrole L hL hterm
    simp only [gApply_nodes, gApply_created] at hrole hL hterm ⊢
    by_cases hj : j = i
    · rw [hj] at hrole hterm ⊢; simp only [upd_same] at hrole hterm ⊢
      rcases ok.lead hrole with ⟨hl, ht⟩ | ⟨hnl, hcase⟩
      · rcases List.mem_append.mp hL with h | h
        · obtain ⟨c, _, _, hlog, _⟩ := hnew L h
          rw [hlog]; exact ⟨Nat.le_refl _, List.take_length⟩
        · have hold := linv.g2 i hl L h (by rw [hterm, ht])
          rcases ok.shape with ⟨h1, _⟩ | ⟨c, h1, _⟩ | ⟨h1, _⟩
          · rw [h1]; exact hold
          · rw [h1]; refine ⟨by simp; omega, ?_⟩
            rw [List.take_append_of_le_length hold.1]; exact hold.2
          · exact absurd hrole h1
      · -- newly leader: no record of this term exists yet
        exfalso
        have hLold : L ∈ g.created := by
          rcases List.mem_append.mp hL with h | h
          · obtain ⟨_, _, hl, _⟩ := hnew L h; exact absurd hl hnl
          · exact h
        obtain ⟨c, hc⟩ := linv.g3 L hLold
        have h1 : (r.node.term, i) ∈ (gApply g i r cr).leaders := by
          have := einv'.l0 i (by simp only [gApply_nodes, upd_same]; exact hrole)
          simpa only [gApply_nodes, upd_same] using this
        have h2 : (r.node.term, c) ∈ (gApply g i r cr).leaders := by
          rw [← hterm]; exact List.mem_append_right _ hc
        have hci := leaders_unique einv' h2 h1
        rw [hci, hterm] at hc
        obtain ⟨hle, hnc⟩ := einv.l2 _ _ hc
        rcases hcase with hlt | ⟨heq, hcand⟩
        · omega
        · exact hnc heq hcand
    · rw [upd_other _ _ _ _ hj] at hrole hterm ⊢
      rcases List.mem_append.mp hL with h | h
      · exfalso
        obtain ⟨c, hc, hlead, _⟩ := hnew L h
        have h1 := einv.l0 j hrole
        have h2 := einv.l0 i hlead
        rw [hc, lastTerm_concat] at hterm
        rw [← hterm] at h1
        exact hj (leaders_unique einv h1 h2)
      · exact linv.g2 j hrole L h hterm
  · -- g3
    intro L hL
    simp only [gApply_created, gApply_leaders] at hL ⊢
    rcases List.mem_append.mp hL with h | h
    · obtain ⟨c, hc, hlead, _⟩ := hnew L h
      refine ⟨i, List.mem_append_right _ ?_⟩
      rw [hc, lastTerm_concat]; exact einv.l0 i hlead
    · obtain ⟨c, hc⟩ := linv.g3 L h
      exact ⟨c, List.mem_append_right _ hc⟩
  · -- b
    intro j
    simp only [gApply_nodes, gApply_created]
    by_cases hj : j = i
    · rw [hj]; simp only [upd_same]
      rcases ok.shape with ⟨h1, _⟩ | ⟨c, h1, _, _, _, h5⟩ | ⟨_, h2, _⟩
      · rw [h1]; exact (linv.b i).mono hmonoC
      · rw [h1]; apply Rec.concat ((linv.b i).mono hmonoC)
        rw [h5, h1]; simp
      · exact h2.mono hmonoC
    · rw [upd_other _ _ _ _ hj]; exact (linv.b j).mono hmonoC
  · -- m
    intro e he t l pi pt es lc hb
    simp only [gApply_created]
    rcases applyHR_msgs he with h | ⟨_, hmem, _⟩
    · exact (linv.m e h t l pi pt es lc hb).mono hmonoC
    · rw [hb] at hmem; exact ok.sends _ _ _ _ _ _ _ hmem

theorem logOk_same {g : GSt} {i : Nat} {r : HR} (hl : r.node.log = (g.s.nodes i).log)
    (hrole : r.node.role = .leader → (g.s.nodes i).role = .leader ∧ r.node.term = (g.s.nodes i).term)
    (hs : ∀ d t l pi pt es lc, (d, Body.ae t l pi pt es lc) ∈ r.sends → AEok g.created pi pt es) :
    LogOk g i r [] :=
  ⟨Or.inl ⟨hl, rfl⟩, fun h => Or.inl (hrole h), by simpa using hs⟩

theorem logOk_noAE {g : GSt} {i : Nat} {r : HR} (hl : r.node.log = (g.s.nodes i).log)
    (hrole : r.node.role = .leader → (g.s.nodes i).role = .leader ∧ r.node.term = (g.s.nodes i).term)
    (hs : ∀ d t l pi pt es lc, (d, Body.ae t l pi pt es lc) ∉ r.sends) : LogOk g i r [] :=
  logOk_same hl hrole fun d t l pi pt es lc h => absurd h (hs d t l pi pt es lc)

theorem becomeLeader_sends_ok {C : List (List Entry)} {n : Nat} {x : Node} (hr : Rec C x.log) {me : Nat}
    {pre : List (Nat × Body)} (hpre : ∀ d t l pi pt es lc, (d, Body.ae t l pi pt es lc) ∉ pre)
    {d t l pi pt lc : Nat} {es : List Entry} (h : (d, Body.ae t l pi pt es lc) ∈ (becomeLeader n x me pre).sends) :
    AEok C pi pt es := by
  rcases mem_becomeLeader_sends h with h | h
  · exact absurd h (hpre _ _ _ _ _ _ _)
  · exact aeFor_ok (x := leaderInit n x) (by exact hr) me d (mem_sendAEs h).symm

theorem Refusals.noAE {snd : List (Nat × Body)} (h : Refusals snd) : ∀ d t l pi pt es lc, (d, Body.ae t l pi pt es lc) ∉ snd := by
  intro d t l pi pt es lc hm
  rcases h _ _ hm with ⟨_, _, h⟩ | ⟨_, _, _, h⟩ <;> cases h

/-- `hae`: clause `m` of `LInv` for the message the handler is called with -/
theorem Does.logOk {v : Variant} {g : GSt} (linv : LInv g) {i src : Nat} {inp : Inp} {r : HR}
    (h : Does v g.s.n (g.s.nodes i) i src inp r)
    (hae : ∀ t l pi pt es lc, inp = .msg (.ae t l pi pt es lc) → AEok g.created pi pt es) :
    LogOk g i r (inp.created (g.s.nodes i)) := by
  -- a leader that stays what it is and sends AppendEntries built from its state
  have leads : ∀ {y : Node} {snd}, y.log = (g.s.nodes i).log → (g.s.nodes i).role = .leader → y.role = .leader →
      y.term = (g.s.nodes i).term → (∀ d b, (d, b) ∈ snd → ∃ p, b = aeFor y i p) → LogOk g i { node := y, sends := snd } [] :=
    fun hl h1 _ h3 hs => logOk_same hl (fun _ => ⟨h1, h3⟩) fun d t l pi pt es lc hm => by
      obtain ⟨p, hp⟩ := hs _ _ hm
      exact aeFor_ok (hl ▸ linv.b i) i p hp.symm
  cases h with
  | same _ hi => rw [hi.created]; exact logOk_noAE rfl (fun h => ⟨h, rfl⟩) fun d => (Inp.refusals _ _ _ _).noAE d
  | down => exact logOk_noAE rfl (fun h => by cases h) fun d => (Inp.refusals _ _ _ _).noAE d
  | grant t c li lt x1 h1 hg =>
    rcases h1 with ⟨rfl, ht⟩ | ⟨rfl, _⟩
    · exact logOk_noAE rfl (fun h => ⟨h, ht.symm⟩) (by simp)
    · exact logOk_noAE rfl (fun h => by cases h) (by simp)
  | campaign => exact logOk_same rfl (fun h => by cases h) fun d t l pi pt es lc h => nomatch mem_rvsFor h
  | campaignWin hnl _ =>
    refine ⟨Or.inl ⟨rfl, rfl⟩, fun _ => Or.inr ⟨hnl, Or.inl (Nat.lt_succ_self _)⟩, fun d t l pi pt es lc h => ?_⟩
    exact becomeLeader_sends_ok (x := startElection (g.s.nodes i) i) (linv.b i) (fun _ _ _ _ _ _ _ hm => nomatch mem_rvsFor hm) h
  | vote _ _ hc => exact logOk_noAE rfl (fun h => nomatch hc.symm.trans h) (by simp)
  | elect gr f hc _ =>
    refine ⟨Or.inl ⟨rfl, rfl⟩, fun _ => Or.inr ⟨by rw [hc]; decide, Or.inr ⟨rfl, hc⟩⟩, fun d t l pi pt es lc h => ?_⟩
    exact becomeLeader_sends_ok (x := addVote (g.s.nodes i) gr f) (linv.b i) (fun _ _ _ _ _ _ _ h => by cases h) h
  | hb hl => exact leads rfl hl hl rfl fun d b h => ⟨_, mem_sendAEs h⟩
  | accept t l pi pt es lc _ hbad =>
    have hrole : (aeAccept v (stepDown v (g.s.nodes i) t) i src pi es lc).node.role = .follower :=
      (ev_eq (aeAccept_fr v (stepDown v (g.s.nodes i) t) i src pi es lc).ev).2.2.1
    refine ⟨Or.inr (Or.inr ⟨by rw [hrole]; decide, ?_, rfl⟩), (fun h => nomatch hrole.symm.trans h), fun d t' l' pi' pt' es' lc' h => ?_⟩
    · exact aeAccept_rec v linv.g1 (x := stepDown v (g.s.nodes i) t) (linv.b i) (hae _ _ _ _ _ _ rfl) hbad i src lc
    · obtain ⟨_, _, h⟩ := mem_aeAccept_sends h; cases h
  | ack _ f m _ _ hl =>
    have hk := tryAdvance_kept g.s.n (ackNode (g.s.nodes i) f m) i
    exact logOk_same hk.log (fun _ => ⟨hl, (ev_eq hk.fr.ev).1⟩) fun d t' l pi pt es lc h => by rw [hk.sends] at h; cases h
  | nack _ f _ _ _ hl =>
    refine leads (y := nackNode (g.s.nodes i) f) rfl hl hl rfl fun d b h => ?_
    split at h
    · simp only [List.mem_singleton, Prod.mk.injEq] at h; exact ⟨f, h.2⟩
    · cases h
  | append _ c hl =>
    simp only [Inp.created, hl, if_true]
    exact ⟨Or.inr (Or.inl ⟨c, rfl, hl, hl, rfl, rfl⟩), fun _ => Or.inl ⟨hl, rfl⟩, fun d t' l pi pt es lc h => nomatch h⟩

theorem linv_idle {g : GSt} (linv : LInv g) (s' : St) (hn : s'.nodes = g.s.nodes) (hm : ∀ e ∈ s'.msgs, e ∈ g.s.msgs) :
    LInv { g with s := s' } := by
  obtain ⟨n', nodes', cr', msgs', nid'⟩ := s'
  simp only at hn hm
  subst hn
  exact ⟨linv.g0, linv.g1, linv.g2, linv.g3, linv.b, fun e he => linv.m e (hm e he)⟩

theorem Fires.logOk {v : Variant} {g : GSt} (linv : LInv g) {a : Act} {i src : Nat} {inp : Inp} {r : HR} (h : Fires v g.s a i src inp r) :
    LogOk g i r (createdDiff g.s a) := by
  refine h.created ▸ h.does.logOk linv fun t l pi pt es lc hb => ?_
  obtain ⟨_, e, d⟩ := h.msg _ hb
  exact linv.m e d.mem t l pi pt es lc d.body

theorem linv_step (v : Variant) (hk : v.keepVote = true) (g : GSt) (einv : EInv g) (linv : LInv g) (a : Act) :
    LInv (gstep v g a) := by
  have einv' := einv_step v hk g einv a
  rcases step_cases v g.s a with h | ⟨i, src, inp, r, h⟩
  · rw [gstep_idle h.tgt]; exact linv_idle linv _ h.nodes h.msgs
  · rw [gstep_handler h.tgt h.eq] at einv' ⊢
    exact linv_handler einv einv' linv (h.logOk linv)

theorem inv_run (v : Variant) (hk : v.keepVote = true) (as : List Act) :
    ∀ g, EInv g → LInv g → EInv (grun v g as) ∧ LInv (grun v g as) := by
  exact fun g h1 h2 => grun_keeps (P := fun g => EInv g ∧ LInv g)
    (fun g a h => ⟨einv_step v hk g h.1 a, linv_step v hk g h.1 h.2 a⟩) as ⟨h1, h2⟩

open Spec

theorem logsMatch_of {C : List (List Entry)} (hu : Uniq C) {l1 l2 : List Entry} (h1 : Rec C l1) (h2 : Rec C l2) :
    logsMatch (l1.map oe) (l2.map oe) = true := by
  unfold logsMatch
  simp only [List.all_eq_true, List.mem_range, List.length_map]
  intro k hk
  have hk1 : k < l1.length := by omega
  have hk2 : k < l2.length := by omega
  simp only [List.getElem?_map, List.getElem?_eq_getElem hk1, List.getElem?_eq_getElem hk2, Option.map_some]
  by_cases ht : l1[k].term = l2[k].term
  · simp [oe, ht, ← List.map_take, rec_det hu h1 h2 hk1 hk2 ht]
  · simp [oe, ht]

theorem frameLogMatching_of {g : GSt} (linv : LInv g) {f : Frame} (hf : f.views = viewsOf g.s) :
    frameLogMatching f = true := by
  unfold frameLogMatching
  simp only [List.all_eq_true]
  intro a ha b hb
  rw [hf] at ha hb
  obtain ⟨i, _, rfl⟩ := mem_viewsOf ha
  obtain ⟨j, _, rfl⟩ := mem_viewsOf hb
  exact logsMatch_of linv.g1 (linv.b i) (linv.b j)

theorem frames_logMatching (v : Variant) (hk : v.keepVote = true) (as : List Act) (g : GSt) (einv : EInv g) (linv : LInv g) :
    ∀ f ∈ framesFrom v g.s as, frameLogMatching f = true := by
  intro f hf
  obtain ⟨pre, a, post, rfl, rfl⟩ := mem_framesFrom hf
  obtain ⟨e1, l1⟩ := inv_run v hk pre g einv linv
  exact frameLogMatching_of (linv_step v hk _ e1 l1 a) (by rw [gstep_s]; rfl)

/-- LOG MATCHING.  For every cluster size and action list, in every state the run passes through,
    any two logs that hold entries of the same term at the same index are identical up to that index. -/
theorem log_matching (v : Variant) (hk : v.keepVote = true) (n : Nat) (as : List Act) :
    logMatchingOk (frames v n as) = true := by
  unfold logMatchingOk
  simp only [List.all_eq_true]
  intro f hf
  simp only [frames, List.mem_cons] at hf
  rcases hf with hf | hf
  · exact frameLogMatching_of (linv_init n) (by rw [hf]; rfl)
  · exact frames_logMatching v hk as (ginit n) (einv_init n) (linv_init n) f hf

end HappyModel.C11
