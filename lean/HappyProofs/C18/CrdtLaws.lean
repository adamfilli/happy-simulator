import HappyModel.C18.Crdt
/-!
Merge laws of the OR-set and the LWW register.

The OR-set keeps `ents` and `tomb` as duplicate-free lists used as *sets*, and `seq` is the
replica-local tag counter (not part of the replicated value), so the laws are stated
extensionally: `ORSet.Equiv` = same members of `ents` and of `tomb` (hence the same `has`).
-/
namespace HappyModel.C18

def ORSet.Equiv (a b : ORSet) : Prop :=
  (∀ e, e ∈ a.ents ↔ e ∈ b.ents) ∧ (∀ t, t ∈ a.tomb ↔ t ∈ b.tomb)

/-- no live entry carries a tombstoned tag (holds in every reachable state, `orset_reachable_wf`) -/
def ORSet.WF (a : ORSet) : Prop := ∀ e ∈ a.ents, e.2 ∉ a.tomb

instance (a : ORSet) : Decidable a.WF := by unfold ORSet.WF; exact inferInstance

theorem ORSet.mem_merge_tomb (a b : ORSet) (t : Tag) :
    t ∈ (a.merge b).tomb ↔ t ∈ a.tomb ∨ t ∈ b.tomb := by
  simp [ORSet.merge, mem_lunion]

theorem ORSet.mem_merge_ents (a b : ORSet) (e : Nat × Tag) :
    e ∈ (a.merge b).ents ↔ (e ∈ a.ents ∨ e ∈ b.ents) ∧ e.2 ∉ a.tomb ∧ e.2 ∉ b.tomb := by
  simp [ORSet.merge, mem_lunion, List.mem_filter]

theorem ORSet.mem_add_ents (s : ORSet) (node x : Nat) (e : Nat × Tag) :
    e ∈ (s.add node x).ents ↔ e ∈ s.ents ∨ e = (x, ⟨node, s.seq⟩) := by
  simp [ORSet.add, mem_lunion]

theorem ORSet.mem_remove_ents (s : ORSet) (x : Nat) (e : Nat × Tag) :
    e ∈ (s.remove x).ents ↔ e ∈ s.ents ∧ e.1 ≠ x := by
  simp [ORSet.remove, List.mem_filter]

theorem ORSet.mem_remove_tomb (s : ORSet) (x : Nat) (t : Tag) :
    t ∈ (s.remove x).tomb ↔ t ∈ s.tomb ∨ (x, t) ∈ s.ents := by
  simp only [ORSet.remove, mem_lunion, List.mem_map, List.mem_filter, beq_iff_eq]
  constructor
  · rintro (h | ⟨⟨y, u⟩, ⟨h1, h2⟩, h3⟩)
    · exact Or.inl h
    · simp only at h2 h3; subst h2 h3; exact Or.inr h1
  · rintro (h | h)
    · exact Or.inl h
    · exact Or.inr ⟨(x, t), ⟨h, rfl⟩, rfl⟩

theorem ORSet.has_iff (s : ORSet) (x : Nat) : s.has x = true ↔ ∃ t, (x, t) ∈ s.ents := by
  simp only [ORSet.has, List.any_eq_true, beq_iff_eq]
  constructor
  · rintro ⟨⟨y, t⟩, h1, h2⟩
    simp only at h2; subst h2; exact ⟨t, h1⟩
  · rintro ⟨t, h⟩
    exact ⟨(x, t), h, rfl⟩

theorem ORSet.Equiv.has_eq {a b : ORSet} (h : a.Equiv b) (x : Nat) : a.has x = b.has x := by
  rw [Bool.eq_iff_iff, ORSet.has_iff, ORSet.has_iff]
  exact ⟨fun ⟨t, ht⟩ => ⟨t, (h.1 _).mp ht⟩, fun ⟨t, ht⟩ => ⟨t, (h.1 _).mpr ht⟩⟩

theorem orset_merge_comm (a b : ORSet) : (a.merge b).Equiv (b.merge a) := by
  refine ⟨fun e => ?_, fun t => ?_⟩
  · rw [ORSet.mem_merge_ents, ORSet.mem_merge_ents]
    exact ⟨fun ⟨h1, h2, h3⟩ => ⟨h1.symm, h3, h2⟩, fun ⟨h1, h2, h3⟩ => ⟨h1.symm, h3, h2⟩⟩
  · rw [ORSet.mem_merge_tomb, ORSet.mem_merge_tomb]
    exact Or.comm

theorem orset_merge_assoc (a b c : ORSet) : ((a.merge b).merge c).Equiv (a.merge (b.merge c)) := by
  refine ⟨fun e => ?_, fun t => ?_⟩
  · simp only [ORSet.mem_merge_ents, ORSet.mem_merge_tomb, not_or]
    constructor
    · rintro ⟨(⟨h1, h2, h3⟩ | h1), ⟨h4, h5⟩, h6⟩
      · rcases h1 with h1 | h1
        · exact ⟨Or.inl h1, h4, h5, h6⟩
        · exact ⟨Or.inr ⟨Or.inl h1, h5, h6⟩, h4, h5, h6⟩
      · exact ⟨Or.inr ⟨Or.inr h1, h5, h6⟩, h4, h5, h6⟩
    · rintro ⟨(h1 | ⟨h1, h2, h3⟩), h4, h5, h6⟩
      · exact ⟨Or.inl ⟨Or.inl h1, h4, h5⟩, ⟨h4, h5⟩, h6⟩
      · rcases h1 with h1 | h1
        · exact ⟨Or.inl ⟨Or.inr h1, h4, h5⟩, ⟨h4, h5⟩, h6⟩
        · exact ⟨Or.inr h1, ⟨h4, h5⟩, h6⟩
  · simp only [ORSet.mem_merge_tomb]
    exact or_assoc

/-- idempotence, for sets whose live entries are not tombstoned; every reachable replica state is
    such a set (`orset_reachable_wf`) -/
theorem orset_merge_idem (a : ORSet) (h : a.WF) : (a.merge a).Equiv a := by
  refine ⟨fun e => ?_, fun t => ?_⟩
  · rw [ORSet.mem_merge_ents]
    exact ⟨fun ⟨h1, _⟩ => h1.elim id id, fun h1 => ⟨Or.inl h1, h e h1, h e h1⟩⟩
  · rw [ORSet.mem_merge_tomb]
    exact ⟨fun h1 => h1.elim id id, Or.inl⟩

theorem Ts.lt_iff (a b : Ts) : Ts.lt a b = true ↔
    a.p < b.p ∨ (a.p = b.p ∧ (a.l < b.l ∨ (a.l = b.l ∧ a.node < b.node))) := by
  simp only [Ts.lt, Bool.or_eq_true, Bool.and_eq_true, decide_eq_true_eq, beq_iff_eq]

/-- one level of a lexicographic comparison: transitivity -/
theorem lex_trans {a b c : Nat} {R S T : Prop} (h1 : a < b ∨ a = b ∧ R) (h2 : b < c ∨ b = c ∧ S)
    (h : R → S → T) : a < c ∨ a = c ∧ T := by
  rcases h1 with h1 | ⟨rfl, r⟩
  · exact Or.inl (h2.elim (Nat.lt_trans h1) fun e => e.1 ▸ h1)
  · exact h2.elim Or.inl fun ⟨e, s⟩ => Or.inr ⟨e, h r s⟩

/-- one level of a lexicographic comparison: neither side smaller -/
theorem lex_eq {a b : Nat} {R S E : Prop} (h1 : ¬ (a < b ∨ a = b ∧ R)) (h2 : ¬ (b < a ∨ b = a ∧ S))
    (h : ¬ R → ¬ S → E) : a = b ∧ E :=
  have hab : a = b := Nat.le_antisymm (Nat.le_of_not_lt fun h => h2 (Or.inl h))
    (Nat.le_of_not_lt fun h => h1 (Or.inl h))
  ⟨hab, h (fun r => h1 (Or.inr ⟨hab, r⟩)) fun s => h2 (Or.inr ⟨hab.symm, s⟩)⟩

theorem Ts.lt_irrefl (a : Ts) : Ts.lt a a = false :=
  Bool.eq_false_iff.mpr fun h => by
    rcases (Ts.lt_iff a a).mp h with h | ⟨_, h | ⟨_, h⟩⟩ <;> exact Nat.lt_irrefl _ h

theorem Ts.lt_trans {a b c : Ts} (h1 : Ts.lt a b = true) (h2 : Ts.lt b c = true) :
    Ts.lt a c = true :=
  (Ts.lt_iff a c).mpr <| lex_trans ((Ts.lt_iff a b).mp h1) ((Ts.lt_iff b c).mp h2)
    fun r s => lex_trans r s fun r s => Nat.lt_trans r s

theorem Ts.lt_asymm {a b : Ts} (h1 : Ts.lt a b = true) : Ts.lt b a = false :=
  Bool.eq_false_iff.mpr fun h2 => Bool.eq_false_iff.mp (Ts.lt_irrefl a) (Ts.lt_trans h1 h2)

theorem Ts.eq_of_not_lt {a b : Ts} (h1 : Ts.lt a b = false) (h2 : Ts.lt b a = false) : a = b := by
  have h : a.p = b.p ∧ a.l = b.l ∧ a.node = b.node :=
    lex_eq (mt (Ts.lt_iff a b).mpr (Bool.eq_false_iff.mp h1))
      (mt (Ts.lt_iff b a).mpr (Bool.eq_false_iff.mp h2))
      fun r s => lex_eq r s fun r s => Nat.le_antisymm (Nat.le_of_not_lt s) (Nat.le_of_not_lt r)
  obtain ⟨ap, al, an⟩ := a
  obtain ⟨bp, bl, bn⟩ := b
  obtain ⟨rfl, rfl, rfl⟩ := h
  rfl

theorem Ts.not_lt_trans {a b c : Ts} (h1 : Ts.lt a b = false) (h2 : Ts.lt b c = false) :
    Ts.lt a c = false :=
  Bool.eq_false_iff.mpr fun hac => by
    cases hba : Ts.lt b a with
    | true => exact Bool.eq_false_iff.mp h2 (Ts.lt_trans hba hac)
    | false => exact Bool.eq_false_iff.mp h2 (Ts.eq_of_not_lt h1 hba ▸ hac)

/-- equal timestamps carry equal values -/
def LWW.Coherent (a b : LWW) : Prop :=
  ∀ t va vb, a.cur = some (t, va) → b.cur = some (t, vb) → va = vb

theorem lww_merge_idem (a : LWW) : a.merge a = a := by
  cases a with
  | mk cur =>
    cases cur with
    | none => rfl
    | some tv =>
      obtain ⟨t, v⟩ := tv
      simp [LWW.merge, LWW.set, Ts.lt_irrefl]

theorem lww_merge_comm (a b : LWW) (h : LWW.Coherent a b) : a.merge b = b.merge a := by
  cases a with
  | mk ca =>
    cases b with
    | mk cb =>
      cases ca with
      | none => cases cb with
        | none => rfl
        | some tv => obtain ⟨t, v⟩ := tv; simp [LWW.merge, LWW.set]
      | some tva =>
        obtain ⟨ta, va⟩ := tva
        cases cb with
        | none => simp [LWW.merge, LWW.set]
        | some tvb =>
          obtain ⟨tb, vb⟩ := tvb
          simp only [LWW.merge, LWW.set]
          cases hab : Ts.lt ta tb with
          | true => simp [Ts.lt_asymm hab]
          | false =>
            cases hba : Ts.lt tb ta with
            | true => simp
            | false =>
              have e := Ts.eq_of_not_lt hab hba
              subst e
              have := h ta va vb rfl rfl
              subst this
              simp

/-- associativity holds without the coherence hypothesis: merge keeps the first of the greatest timestamps -/
theorem lww_merge_assoc (a b c : LWW) : (a.merge b).merge c = a.merge (b.merge c) := by
  cases a with
  | mk ca =>
  cases b with
  | mk cb =>
  cases c with
  | mk cc =>
  cases cc with
  | none => simp [LWW.merge]
  | some tvc =>
    obtain ⟨tc, vc⟩ := tvc
    cases cb with
    | none =>
      cases ca with
      | none => simp [LWW.merge, LWW.set]
      | some tva => obtain ⟨ta, va⟩ := tva; simp [LWW.merge, LWW.set]
    | some tvb =>
      obtain ⟨tb, vb⟩ := tvb
      cases ca with
      | none =>
        simp only [LWW.merge, LWW.set]
        cases hbc : Ts.lt tb tc <;> simp
      | some tva =>
        obtain ⟨ta, va⟩ := tva
        simp only [LWW.merge, LWW.set]
        cases hab : Ts.lt ta tb <;> cases hbc : Ts.lt tb tc <;> cases hac : Ts.lt ta tc <;>
          simp [hab, hbc, hac]
        · exact absurd (Ts.not_lt_trans hab hbc) (by simp [hac])
        · exact absurd (Ts.lt_trans hab hbc) (by simp [hac])

end HappyModel.C18
