import HappyProofs.C19.WinModelLemmas
/-!
Session windows: what `_add_to_session_window` / `_merge_sessions` do to a list of sessions, function by function.
-/
namespace HappyModel.C19.Win

theorem insertByStart_perm (w : Win) : ∀ l : List Win, (insertByStart w l).Perm (w :: l) := by
  intro l
  induction l with
  | nil => simp [insertByStart]
  | cons a rest ih =>
    by_cases h : w.s ≤ a.s
    · simp [insertByStart, h]
    · simp only [insertByStart, h, if_false]
      exact ((List.Perm.cons a ih).trans (List.Perm.swap w a rest))

theorem sortByStart_perm : ∀ l : List Win, (sortByStart l).Perm l := by
  intro l
  induction l with
  | nil => simp [sortByStart]
  | cons a rest ih =>
    simp only [sortByStart]
    exact (insertByStart_perm a _).trans (List.Perm.cons a ih)

theorem sorted_insertByStart (w : Win) : ∀ l : List Win, l.Pairwise (fun a b => a.s ≤ b.s) →
    (insertByStart w l).Pairwise (fun a b => a.s ≤ b.s) := by
  intro l
  induction l with
  | nil => intro _; simp [insertByStart]
  | cons a rest ih =>
    intro h
    rw [List.pairwise_cons] at h
    by_cases hw : w.s ≤ a.s
    · simp only [insertByStart, hw, if_true, List.pairwise_cons]
      refine ⟨?_, h.1, h.2⟩
      intro x hx
      rw [List.mem_cons] at hx
      cases hx with
      | inl hx => subst hx; exact hw
      | inr hx => exact Nat.le_trans hw (h.1 x hx)
    · simp only [insertByStart, hw, if_false, List.pairwise_cons]
      refine ⟨?_, ih h.2⟩
      intro x hx
      rw [(insertByStart_perm w rest).mem_iff, List.mem_cons] at hx
      cases hx with
      | inl hx => subst hx; omega
      | inr hx => exact h.1 x hx

theorem sorted_sortByStart : ∀ l : List Win, (sortByStart l).Pairwise (fun a b => a.s ≤ b.s) := by
  intro l
  induction l with
  | nil => simp [sortByStart]
  | cons a rest ih => exact sorted_insertByStart a _ ih

theorem mergeFrom_chain : ∀ (l : List Win) (cur : Win), (∀ w ∈ l, cur.s ≤ w.s) → l.Pairwise (fun a b => a.s ≤ b.s) →
    (mergeFrom cur l).Pairwise (fun a b => a.e < b.s) ∧ ∀ x ∈ mergeFrom cur l, cur.s ≤ x.s := by
  intro l
  induction l with
  | nil => intro cur _ _; simp [mergeFrom]
  | cons b rest ih =>
    intro cur hs hsorted
    rw [List.pairwise_cons] at hsorted
    have hcb := hs b (by simp)
    by_cases hm : b.s ≤ cur.e
    · simp only [mergeFrom, hm, if_true]
      exact ih _ (fun w hw => Nat.le_trans hcb (hsorted.1 w hw)) hsorted.2
    · simp only [mergeFrom, hm, if_false, List.pairwise_cons, List.mem_cons]
      obtain ⟨hp, hg⟩ := ih b hsorted.1 hsorted.2
      refine ⟨⟨fun x hx => ?_, hp⟩, ?_⟩
      · have := hg x hx; omega
      · rintro x (rfl | hx)
        · exact Nat.le_refl _
        · exact Nat.le_trans hcb (hg x hx)

theorem mergeSessions_chain (l : List Win) : (mergeSessions l).Pairwise (fun a b => a.e < b.s) := by
  unfold mergeSessions
  have hsorted := sorted_sortByStart l
  cases hs : sortByStart l with
  | nil => exact List.Pairwise.nil
  | cons a rest =>
    rw [hs, List.pairwise_cons] at hsorted
    exact (mergeFrom_chain rest a hsorted.1 hsorted.2).1

/-! `hM`: `_merge_sessions` takes a later overlapping session into the current one; `hJ`: a record joins a session in range;
`h1`: a record's own session. -/

theorem mergeFrom_all {P : Win → Prop}
    (hM : ∀ cur b, P cur → P b → cur.s ≤ b.s → b.s ≤ cur.e → P { cur with e := max cur.e b.e, recs := cur.recs ++ b.recs }) :
    ∀ (l : List Win) (cur : Win), P cur → (∀ w ∈ l, P w) → (∀ w ∈ l, cur.s ≤ w.s) →
      l.Pairwise (fun a b => a.s ≤ b.s) → ∀ x ∈ mergeFrom cur l, P x := by
  intro l
  induction l with
  | nil =>
    intro cur hc _ _ _ x hx
    rw [List.mem_singleton.1 hx]; exact hc
  | cons b rest ih =>
    intro cur hc hl hs hsorted
    rw [List.pairwise_cons] at hsorted
    have hcb := hs b (by simp)
    have hrest : ∀ w ∈ rest, P w := fun w hw => hl w (List.mem_cons_of_mem _ hw)
    by_cases hm : b.s ≤ cur.e
    · simp only [mergeFrom, hm, if_true]
      exact ih _ (hM cur b hc (hl b (by simp)) hcb hm) hrest (fun w hw => Nat.le_trans hcb (hsorted.1 w hw)) hsorted.2
    · simp only [mergeFrom, hm, if_false]
      intro x hx
      rcases List.mem_cons.1 hx with rfl | hx
      · exact hc
      · exact ih b (hl b (by simp)) hrest hsorted.1 hsorted.2 x hx

theorem mergeSessions_all {P : Win → Prop}
    (hM : ∀ cur b, P cur → P b → cur.s ≤ b.s → b.s ≤ cur.e → P { cur with e := max cur.e b.e, recs := cur.recs ++ b.recs })
    (l : List Win) (hl : ∀ w ∈ l, P w) : ∀ x ∈ mergeSessions l, P x := by
  unfold mergeSessions
  have hsorted := sorted_sortByStart l
  have hmem := fun x : Win => (sortByStart_perm l).mem_iff (a := x)
  cases hs : sortByStart l with
  | nil => simp
  | cons a rest =>
    rw [hs] at hsorted hmem
    rw [List.pairwise_cons] at hsorted
    exact mergeFrom_all hM rest a (hl a ((hmem a).mp (by simp)))
      (fun w hw => hl w ((hmem w).mp (List.mem_cons_of_mem _ hw))) hsorted.1 hsorted.2

theorem sessJoin_all {P : Win → Prop} (gap : Nat) (r : Rec)
    (hJ : ∀ w, P w → inSession gap r.et w = true →
      P { w with recs := w.recs ++ [r], e := max w.e (r.et + gap), s := min w.s r.et }) :
    ∀ (l l' : List Win), sessJoin gap r l = some l' → (∀ w ∈ l, P w) → ∀ w ∈ l', P w := by
  intro l
  induction l with
  | nil => intro l' h; simp [sessJoin] at h
  | cons w ws ih =>
    intro l' h hl
    have hw := hl w (by simp)
    by_cases hin : inSession gap r.et w = true
    · simp only [sessJoin, hin, if_true, Option.some.injEq] at h
      subst h
      exact List.forall_mem_cons.2 ⟨hJ w hw hin, fun x hx => hl x (List.mem_cons_of_mem _ hx)⟩
    · simp only [sessJoin, hin, Bool.false_eq_true, if_false, Option.map_eq_some_iff] at h
      obtain ⟨l2, h2, rfl⟩ := h
      exact List.forall_mem_cons.2 ⟨hw, ih l2 h2 fun w hw => hl w (List.mem_cons_of_mem _ hw)⟩

def joinedOf (gap : Nat) (r : Rec) (wins : List Win) : List Win :=
  match sessJoin gap r (wins.filter fun w => w.key == r.key) with
  | some l => l
  | none => (wins.filter fun w => w.key == r.key) ++
      [{ key := r.key, s := r.et, e := r.et + gap, recs := [r], emitted := false }]

theorem sessAdd_eq (gap : Nat) (r : Rec) (wins : List Win) :
    sessAdd gap r wins = (wins.filter fun w => !(w.key == r.key)) ++ mergeSessions (joinedOf gap r wins) := rfl

theorem sessAdd_all {P : Win → Prop} (gap : Nat) (r : Rec)
    (hM : ∀ cur b, P cur → P b → cur.s ≤ b.s → b.s ≤ cur.e → P { cur with e := max cur.e b.e, recs := cur.recs ++ b.recs })
    (hJ : ∀ w, P w → inSession gap r.et w = true →
      P { w with recs := w.recs ++ [r], e := max w.e (r.et + gap), s := min w.s r.et })
    (h1 : P { key := r.key, s := r.et, e := r.et + gap, recs := [r], emitted := false }) (wins : List Win)
    (h : ∀ w ∈ wins, w.key = r.key → P w) : ∀ w ∈ mergeSessions (joinedOf gap r wins), P w := by
  have hmine : ∀ w ∈ wins.filter (fun w => w.key == r.key), P w := fun w hw =>
    h w (List.mem_filter.mp hw).1 (by simpa using (List.mem_filter.mp hw).2)
  refine mergeSessions_all hM _ ?_
  unfold joinedOf
  cases hj : sessJoin gap r (wins.filter fun w => w.key == r.key) with
  | some l => exact sessJoin_all gap r hJ _ l hj hmine
  | none =>
    intro w hw
    rcases List.mem_append.1 hw with hw | hw
    · exact hmine w hw
    · rw [List.mem_singleton.1 hw]; exact h1

def recsOf (wins : List Win) : List Rec := wins.flatMap (·.recs)

theorem recsOf_cons (w : Win) (l : List Win) : recsOf (w :: l) = w.recs ++ recsOf l := by simp [recsOf]
theorem recsOf_append (a b : List Win) : recsOf (a ++ b) = recsOf a ++ recsOf b := by simp [recsOf]

theorem sessJoin_recs (gap : Nat) (r : Rec) : ∀ (l l' : List Win),
    sessJoin gap r l = some l' → (recsOf l').Perm (recsOf l ++ [r]) := by
  intro l
  induction l with
  | nil => intro l' h; simp [sessJoin] at h
  | cons w ws ih =>
    intro l' h
    by_cases hin : inSession gap r.et w = true
    · simp only [sessJoin, hin, if_true, Option.some.injEq] at h
      subst h
      simp only [recsOf_cons, List.append_assoc]
      exact List.Perm.append_left _ List.perm_append_comm
    · simp only [sessJoin, hin, Bool.false_eq_true, if_false, Option.map_eq_some_iff] at h
      obtain ⟨l2, h2, rfl⟩ := h
      simp only [recsOf_cons, List.append_assoc]
      exact List.Perm.append_left _ (ih l2 h2)

theorem mergeFrom_recs : ∀ (l : List Win) (cur : Win), recsOf (mergeFrom cur l) = cur.recs ++ recsOf l := by
  intro l
  induction l with
  | nil => intro cur; simp [mergeFrom, recsOf]
  | cons b rest ih =>
    intro cur
    by_cases hm : b.s ≤ cur.e
    · simp only [mergeFrom, hm, if_true, ih, recsOf_cons, List.append_assoc]
    · simp only [mergeFrom, hm, if_false, recsOf_cons, ih]

theorem mergeSessions_recs (l : List Win) : (recsOf (mergeSessions l)).Perm (recsOf l) := by
  have hp := sortByStart_perm l
  unfold mergeSessions
  cases hs : sortByStart l with
  | nil =>
    rw [hs] at hp
    have : l = [] := List.Perm.eq_nil hp.symm
    subst this; simp [recsOf]
  | cons a rest =>
    rw [hs] at hp
    simp only [mergeFrom_recs]
    have := List.Perm.flatMap_right (·.recs) hp
    simpa [recsOf] using this

theorem sessAdd_recs (gap : Nat) (r : Rec) (wins : List Win) :
    (recsOf (sessAdd gap r wins)).Perm (recsOf wins ++ [r]) := by
  rw [sessAdd_eq, recsOf_append]
  have hsplit : (recsOf (wins.filter fun w => !(w.key == r.key)) ++ recsOf (wins.filter fun w => w.key == r.key)).Perm
      (recsOf wins) := by
    have := List.filter_append_perm (fun w : Win => w.key == r.key) wins
    have := List.Perm.flatMap_right (·.recs) this
    simp only [List.flatMap_append] at this
    exact List.perm_append_comm.trans this
  have hj : (recsOf (joinedOf gap r wins)).Perm (recsOf (wins.filter fun w => w.key == r.key) ++ [r]) := by
    unfold joinedOf
    cases hjn : sessJoin gap r (wins.filter fun w => w.key == r.key) with
    | some l => exact sessJoin_recs gap r _ l hjn
    | none => simp [recsOf]
  refine (List.Perm.append_left _ ((mergeSessions_recs _).trans hj)).trans ?_
  rw [← List.append_assoc]
  exact List.Perm.append_right _ hsplit

end HappyModel.C19.Win
