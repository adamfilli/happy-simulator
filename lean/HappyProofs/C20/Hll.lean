import HappyProofs.C20.Stream
import HappyProofs.C20.Seq
namespace HappyModel.C20

/-- largest run length the stream sends to register `i` (0 if none) -/
def regMax (h : Nat → Nat) (p : Nat) : Stream → Nat → Nat
  | [], _ => 0
  | (x, c) :: rest, i =>
    max (if c ≠ 0 ∧ i = hllIdx p (h x) then hllRun p (h x) else 0) (regMax h p rest i)

theorem regMax_append (h : Nat → Nat) (p : Nat) (xs ys : Stream) (i : Nat) :
    regMax h p (xs ++ ys) i = max (regMax h p xs i) (regMax h p ys i) := by
  induction xs with
  | nil => exact (Nat.zero_max _).symm
  | cons q qs ih => obtain ⟨y, c⟩ := q; simp only [List.cons_append, regMax, ih, Nat.max_assoc]

@[simp] theorem HLL.add_p (h : Nat → Nat) (s : HLL) (x c : Nat) : (s.add h x c).p = s.p := by
  unfold HLL.add; split <;> rfl

theorem HLL.add_n (h : Nat → Nat) (s : HLL) (x c : Nat) : (s.add h x c).n = s.n + c := by
  unfold HLL.add; split
  · next hc => rw [hc]; rfl
  · rfl

theorem HLL.reg_add (h : Nat → Nat) (s : HLL) (x c i : Nat) :
    (s.add h x c).reg i
      = max (s.reg i) (if c ≠ 0 ∧ i = hllIdx s.p (h x) then hllRun s.p (h x) else 0) := by
  unfold HLL.add HLL.reg
  split
  · next hc => simp [hc]
  · next hc =>
    simp only [Vec.get_maxAt]
    by_cases hi : i = hllIdx s.p (h x) <;> simp [hi, hc]

theorem HLL.reg_fold (h : Nat → Nat) (xs : Stream) (s : HLL) (i : Nat) :
    (xs.foldl (fun s q => s.add h q.1 q.2) s).reg i = max (s.reg i) (regMax h s.p xs i) := by
  induction xs generalizing s with
  | nil => simp [regMax]
  | cons q qs ih =>
    obtain ⟨y, c⟩ := q
    simp only [List.foldl_cons, regMax]
    rw [ih, HLL.reg_add, HLL.add_p, Nat.max_assoc]

@[simp] theorem HLL.ofStream_p (h : Nat → Nat) (p : Nat) (xs : Stream) : (HLL.ofStream h p xs).p = p :=
  foldl_keeps HLL.p (fun _ _ => HLL.add_p ..) xs _
@[simp] theorem HLL.ofStream_n (h : Nat → Nat) (p : Nat) (xs : Stream) : (HLL.ofStream h p xs).n = total xs :=
  (foldl_total HLL.n (fun _ _ => HLL.add_n ..) xs _).trans (Nat.zero_add _)

theorem HLL.reg_ofStream (h : Nat → Nat) (p : Nat) (xs : Stream) (i : Nat) :
    (HLL.ofStream h p xs).reg i = regMax h p xs i := by
  unfold HLL.ofStream
  rw [HLL.reg_fold]
  simp [HLL.empty, HLL.reg]

theorem HLL.reg_merge (a b : HLL) (i : Nat) : (a.merge b).reg i = max (a.reg i) (b.reg i) :=
  Vec.get_vmax ..

def HLL.view (s : HLL) : (Nat → Nat) × Nat × Nat := (s.reg, s.n, s.p)

def HLL.Eqv (a b : HLL) : Prop := a.view = b.view

theorem HLL.eqv_iff {a b : HLL} : HLL.Eqv a b ↔ (∀ i, a.reg i = b.reg i) ∧ a.n = b.n ∧ a.p = b.p := by
  simp only [HLL.Eqv, HLL.view, Prod.mk.injEq, funext_iff]

theorem HLL.Eqv.add (h : Nat → Nat) (x c : Nat) {s s' : HLL} (e : HLL.Eqv s s') :
    HLL.Eqv (s.add h x c) (s'.add h x c) := by
  obtain ⟨hr, hn, hp⟩ := HLL.eqv_iff.mp e
  simp only [HLL.eqv_iff, HLL.reg_add, HLL.add_n, HLL.add_p, hr, hn, hp, implies_true, and_self]

theorem HLL.Eqv.merge {a a' b b' : HLL} (ea : HLL.Eqv a a') (eb : HLL.Eqv b b') :
    HLL.Eqv (a.merge b) (a'.merge b') := by
  obtain ⟨ea1, ea2, ea3⟩ := HLL.eqv_iff.mp ea
  obtain ⟨eb1, eb2, -⟩ := HLL.eqv_iff.mp eb
  exact HLL.eqv_iff.mpr ⟨fun i => by rw [HLL.reg_merge, HLL.reg_merge, ea1, eb1], by simp only [HLL.merge, ea2, eb2], ea3⟩

theorem HLL.merge_ofStream_eqv (h : Nat → Nat) (p : Nat) (xs ys : Stream) :
    HLL.Eqv ((HLL.ofStream h p xs).merge (HLL.ofStream h p ys)) (HLL.ofStream h p (xs ++ ys)) :=
  HLL.eqv_iff.mpr ⟨fun i => by simp only [HLL.reg_merge, HLL.reg_ofStream, regMax_append],
    by simp [HLL.merge, total_append]⟩

def hllSame (h : Nat → Nat → Nat) (p : Nat → Nat) (t s : Nat) : Prop := h t = h s ∧ p t = p s

theorem hllAlg_ofStream (h : Nat → Nat → Nat) (p : Nat → Nat) (r : Nat) (xs : Stream) :
    (hllAlg h p).ofStream r xs = HLL.ofStream (h r) (p r) xs := rfl

theorem hll_lawful (h : Nat → Nat → Nat) (p : Nat → Nat) :
    Lawful (hllAlg h p) HLL.Eqv (hllSame h p) :=
  .of_view HLL.view (fun r => HLL.Eqv.add (h r)) HLL.Eqv.merge (fun t => HLL.merge_ofStream_eqv (h t) (p t))
    (fun t s ys ⟨hh, hp⟩ => by rw [hllAlg_ofStream, hllAlg_ofStream, hh, hp]) (fun _ _ => rfl)

end HappyModel.C20
