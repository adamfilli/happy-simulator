import HappyModel.C20.Spec
import HappyModel.C20.Merkle
namespace HappyModel.C20

/-- keys strictly increasing (what `sorted(data.items())` of a dict gives) -/
def SortedKeys (l : List (Nat × Nat)) : Prop := l.Pairwise (fun p q => p.1 < q.1)

namespace MTree

def subs : MTree → List MTree
  | leaf k v => [leaf k v]
  | node l r => node l r :: (subs l ++ subs r)

theorem self_mem_subs (t : MTree) : t ∈ subs t := by cases t <;> simp [subs]

theorem subs_left (l r : MTree) (s : MTree) (h : s ∈ subs l) : s ∈ subs (node l r) := by
  simp [subs, h]
theorem subs_right (l r : MTree) (s : MTree) (h : s ∈ subs r) : s ∈ subs (node l r) := by
  simp [subs, h]

theorem items_ne_nil (t : MTree) : t.items ≠ [] := by
  induction t with
  | leaf k v => simp [items]
  | node l r ihl _ => simp [items, ihl]

end MTree

/-- "the node hash is injective on the values compared": on all pairs of subtrees of the two trees, not only the
    aligned pairs `diffNodes` visits (which is why it restricts to the children at once: `left`, `right`) -/
def HashInjOn (hl hc : Nat → Nat → Nat) (a b : MTree) : Prop :=
  ∀ s ∈ a.subs, ∀ t ∈ b.subs, s.hash hl hc = t.hash hl hc → s = t

/-- hypothesis of the Merkle theorems for the two (possibly empty) trees -/
def HashInjOnOpt (hl hc : Nat → Nat → Nat) : Option MTree → Option MTree → Prop
  | some a, some b => HashInjOn hl hc a b
  | _, _ => True

theorem HashInjOn.left {hl hc : Nat → Nat → Nat} {al ar bl br : MTree}
    (h : HashInjOn hl hc (.node al ar) (.node bl br)) : HashInjOn hl hc al bl :=
  fun s hs t ht => h s (MTree.subs_left _ _ _ hs) t (MTree.subs_left _ _ _ ht)

theorem HashInjOn.right {hl hc : Nat → Nat → Nat} {al ar bl br : MTree}
    (h : HashInjOn hl hc (.node al ar) (.node bl br)) : HashInjOn hl hc ar br :=
  fun s hs t ht => h s (MTree.subs_right _ _ _ hs) t (MTree.subs_right _ _ _ ht)

theorem items_buildF (f : Nat) (l : List (Nat × Nat)) (hne : l ≠ []) (hf : l.length ≤ f) :
    (buildF f l).items = l := by
  fun_induction buildF f l with
  | case1 l => exact absurd (List.eq_nil_of_length_eq_zero (Nat.le_zero.mp hf)) hne
  | case2 => exact absurd rfl hne
  | case3 => rfl
  | case4 f a b l mid ih1 ih2 =>
    have hlen : (a :: b :: l).length = l.length + 2 := rfl
    -- both halves are non-empty and fit the remaining fuel
    have hm : 0 < mid ∧ mid < l.length + 2 ∧ mid ≤ f ∧ l.length + 2 - mid ≤ f := by
      simp only [mid, hlen] at hf ⊢
      omega
    rw [MTree.items, ih1 (List.ne_nil_of_length_pos (by rw [List.length_take, hlen]; omega))
        (by rw [List.length_take]; omega),
      ih2 (List.ne_nil_of_length_pos (by rw [List.length_drop, hlen]; omega))
        (by rw [List.length_drop, hlen]; omega),
      List.take_append_drop]

theorem build_cases (l : List (Nat × Nat)) :
    (l = [] ∧ build l = none) ∨ ∃ t, build l = some t ∧ t.items = l := by
  cases l with
  | nil => exact Or.inl ⟨rfl, rfl⟩
  | cons p l => exact Or.inr ⟨_, rfl, items_buildF _ _ (List.cons_ne_nil _ _) (Nat.le_refl _)⟩

theorem lookupKV_append (l r : List (Nat × Nat)) (k : Nat) :
    lookupKV (l ++ r) k = (lookupKV l k).or (lookupKV r k) := by
  unfold lookupKV
  rw [List.find?_append]
  cases List.find? (fun x => x.1 == k) l <;> simp

theorem lookupKV_cons (k' v' : Nat) (l : List (Nat × Nat)) (k : Nat) :
    lookupKV ((k', v') :: l) k = if k' = k then some v' else lookupKV l k := by
  unfold lookupKV
  by_cases h : k' = k <;> simp [h]

theorem lookupKV_none_of_ne (l : List (Nat × Nat)) (k : Nat) (h : ∀ p ∈ l, p.1 ≠ k) :
    lookupKV l k = none := by
  unfold lookupKV
  rw [Option.map_eq_none_iff, List.find?_eq_none]
  intro p hp; simpa using h p hp

theorem key_mem_of_lookup (l : List (Nat × Nat)) (k : Nat) (h : lookupKV l k ≠ none) :
    ∃ p ∈ l, p.1 = k := by
  unfold lookupKV at h
  cases hf : l.find? (fun x => x.1 == k) with
  | none => simp [hf] at h
  | some p => exact ⟨p, List.mem_of_find?_eq_some hf, by simpa using List.find?_some hf⟩

theorem range_bounds (t : MTree) (hs : SortedKeys t.items) : ∀ p ∈ t.items, t.lo ≤ p.1 ∧ p.1 ≤ t.hi := by
  induction t with
  | leaf k v => simp [MTree.items, MTree.lo, MTree.hi]
  | node l r ihl ihr =>
    simp only [MTree.items, SortedKeys, List.pairwise_append] at hs
    obtain ⟨hsl, hsr, hlr⟩ := hs
    -- any item of the other half bounds a key from the far side
    obtain ⟨pl, hpl⟩ := List.exists_mem_of_ne_nil _ l.items_ne_nil
    obtain ⟨pr, hpr⟩ := List.exists_mem_of_ne_nil _ r.items_ne_nil
    intro p hp
    simp only [MTree.items, List.mem_append] at hp
    simp only [MTree.lo, MTree.hi]
    rcases hp with hp | hp
    · have := hlr p hp pr hpr
      have := (ihr hsr pr hpr).2
      exact ⟨(ihl hsl p hp).1, by omega⟩
    · have := hlr pl hpl p hp
      have := (ihl hsl pl hpl).1
      exact ⟨by omega, (ihr hsr p hp).2⟩

end HappyModel.C20
