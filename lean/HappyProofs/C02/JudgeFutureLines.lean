import HappyProofs.C02.JudgeDelay
import HappyProofs.C02.JudgeFuture
/-!
# C02 — the future lines of the model: which programs, which lines, which views

Programs with plain futures (no combinator, no rebinding of a slot), the `r` line of a `resolve` action, and the two
views written alongside `run`: `futView` (`R` / `r` / `w` lines) and `FV.futTrace` (with the `S` / `K` line that opens
the delivery of a plain event and sets the judge's clock).
-/
namespace HappyModel.C01
open HappyModel.C02.Spec (Line SSt FObj FExpr stepLine settle)

/-- segments of plain futures: no combinator, no rebinding of a slot -/
def PlainAct : Act → Prop
  | .fresh _ => False
  | .anyOf _ _ => False
  | .allOf _ _ => False
  | _ => True

def fActLines : Act → List Line
  | .resolve f v => [Line.resolve f v]
  | _ => []

def resLines (e : Eff) (pid : Nat) : List Line :=
  match e.ps.procs[pid]? with
  | some p =>
    match p.segs with
    | seg :: _ => seg.acts.flatMap fActLines
    | [] => []
  | none => []

theorem resLines_idle {e : Eff} {pid : Nat} (h : ∀ p, e.ps.procs[pid]? = some p → p.segs = []) : resLines e pid = [] := by
  unfold resLines
  cases hp : e.ps.procs[pid]? with
  | none => rfl
  | some p => simp only [h p hp]

theorem resLines_cons {e : Eff} {pid : Nat} {p : Proc} {seg : Seg} {rest : List Seg} (hp : e.ps.procs[pid]? = some p)
    (hs : p.segs = seg :: rest) : resLines e pid = seg.acts.flatMap fActLines := by
  simp only [resLines, hp, hs]

def PlainSeg (seg : Seg) : Prop := ∀ a ∈ seg.acts, PlainAct a

/-- (same case split as `procEff`) -/
def rsLine (ps : PS) (now : Nat) (ev : Ev) : List Line :=
  if ev.data = 0 then
    match ps.defs.find? (fun d => d.ent == ev.target && d.kind == ev.kind) with
    | none => []
    | some d =>
      resLines (spawn (addObs { ps := ps } (.start now ev.target ev.kind ev.tag)) (newProc ps ev d)) ps.procs.length
  else resLines { ps := ps } (ev.data - 1)

def futLines (s : St PS) (m : Ev) : List Line :=
  rLine s.ent m ++ (rsLine s.ent m.time m ++ wLine s.ent m.time m)

def fviewStep (s : St PS) (ls : List Line) (m : Ev) : List Line :=
  if s.cancelled.contains m.id then ls
  else if m.time < s.now then ls
  else if procMachine.crashed s.ent m then ls
  else ls ++ futLines s m

def fviewRun (endT : Option Nat) : Nat → St PS → List Line → List Line
  | 0, _, ls => ls
  | n+1, s, ls =>
    match s.heap with
    | [] => ls
    | x :: xs =>
      if continues endT s then fviewRun endT n (stepWith procMachine s (minOf x xs)) (fviewStep s ls (minOf x xs))
      else ls

def futView (endT : Option Nat) (n : Nat) (s0 : St PS) : List Line := fviewRun endT n s0 []

def Program.PlainFutures (p : Program) : Prop := ∀ d ∈ p.defs, ∀ seg ∈ d.segs, PlainSeg seg

instance (a : Act) : Decidable (PlainAct a) := by
  cases a <;> simp only [PlainAct] <;> infer_instance
instance (seg : Seg) : Decidable (PlainSeg seg) := by unfold PlainSeg; infer_instance
instance (p : Program) : Decidable p.PlainFutures := by unfold Program.PlainFutures; infer_instance

/-- a key of the `R` / `r` / `w` lines, for examples -/
def futKey : Line → Nat × Nat × Nat
  | .resolve f _ => (1, f, 0)
  | .wait pid f _ => (2, pid, f)
  | .resume clk pid _ tag => (3, clk, pid + 100 * tag)
  | _ => (0, 0, 0)

end HappyModel.C01

namespace HappyModel.C01.FV
open HappyModel.C01
open HappyModel.C02.Spec (Line SSt FObj FExpr stepLine settle)

/-- segments of plain futures whose resolved values do not print as an exception (every value is such: `okv_all`) -/
def PlainActV : Act → Prop
  | .resolve _ v => OKV v
  | .fresh _ => False
  | .anyOf _ _ => False
  | .allOf _ _ => False
  | _ => True

theorem PlainActV.plain {a : Act} (hp : PlainActV a) : PlainAct a := by
  cases a <;> first | trivial | exact hp

def PlainSegV (seg : Seg) : Prop := ∀ a ∈ seg.acts, PlainActV a

theorem PlainSegV.plain {seg : Seg} (h : PlainSegV seg) : PlainSeg seg := fun a ha => (h a ha).plain

/-- the line that opens a delivery: `S` / `K` for a plain event, `R` for a continuation -/
def openLine (ps : PS) (m : Ev) : List Line :=
  if m.data = 0 then
    match ps.defs.find? (fun d => d.ent == m.target && d.kind == m.kind) with
    | none => [Line.skipped m.time (m.id + 1)]
    | some _ => [Line.start m.time (m.id + 1)]
  else rLine ps m

def ftLines (s : St PS) (m : Ev) : List Line :=
  openLine s.ent m ++ (rsLine s.ent m.time m ++ wLine s.ent m.time m)

def ftStep (s : St PS) (ls : List Line) (m : Ev) : List Line :=
  if s.cancelled.contains m.id then ls
  else if m.time < s.now then ls
  else if procMachine.crashed s.ent m then ls
  else ls ++ ftLines s m

def ftRun (endT : Option Nat) : Nat → St PS → List Line → List Line
  | 0, _, ls => ls
  | n+1, s, ls =>
    match s.heap with
    | [] => ls
    | x :: xs =>
      if continues endT s then ftRun endT n (stepWith procMachine s (minOf x xs)) (ftStep s ls (minOf x xs))
      else ls

def futTrace (endT : Option Nat) (n : Nat) (s0 : St PS) : List Line := ftRun endT n s0 []

theorem ftRun_isView (endT : Option Nat) : IsView endT ftLines (ftRun endT) := ⟨fun _ _ => rfl, fun _ _ _ => rfl⟩

theorem fviewRun_isView (endT : Option Nat) : IsView endT futLines (fviewRun endT) := ⟨fun _ _ => rfl, fun _ _ _ => rfl⟩

end HappyModel.C01.FV

namespace HappyModel.C01
open HappyModel.C02.Spec (Line SSt FObj FExpr stepLine settle)

/-- (the same programs as `Program.PlainFutures`: `FV.okv_all`) -/
def Program.PlainFuturesV (p : Program) : Prop := ∀ d ∈ p.defs, ∀ seg ∈ d.segs, FV.PlainSegV seg

instance (a : Act) : Decidable (FV.PlainActV a) := by
  cases a <;> simp only [FV.PlainActV] <;> infer_instance
instance (seg : Seg) : Decidable (FV.PlainSegV seg) := by unfold FV.PlainSegV; infer_instance
instance (p : Program) : Decidable p.PlainFuturesV := by unfold Program.PlainFuturesV; infer_instance

/-- a key of the lines of `futTrace`, for examples -/
def ftKey : Line → Nat × Nat × Nat
  | .resolve f _ => (1, f, 0)
  | .wait pid f _ => (2, pid, f)
  | .resume clk pid _ tag => (3, clk, pid + 100 * tag)
  | .start clk _ => (4, clk, 0)
  | .skipped clk _ => (5, clk, 0)
  | _ => (0, 0, 0)

end HappyModel.C01
