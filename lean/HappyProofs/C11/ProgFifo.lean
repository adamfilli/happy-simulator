import HappyProofs.C11.ProgConv
/-! Per-link FIFO implies `noRegressRun`.

`fifoRun v del s as`: along the run, every message handed to a live destination has a larger id
than every message delivered before on the same (src, dst) link (`del` = the envelopes delivered
so far) — deliveries on each link happen in send order, which is what the real `Network` gives
with a constant latency per link.  Acknowledgements carry their sender (`ArSrc`); the per-follower
invariant `KF` gives `noRegress_of_fifo` along a stable run, hence `stable_leader_commits_fifo`:
bounded progress with the FIFO hypothesis in place of `noRegressRun`. -/
namespace HappyModel.C11
open Spec

def fifoOk (del : List Env) (e : Env) : Bool :=
  del.all (fun d => !(d.src == e.src && d.dst == e.dst) || decide (d.id < e.id))

/-- the message an action hands to a live destination -/
def delivered (s : St) : Act → Option Env
  | .deliver m => match findMsg s m with
    | some e => if canDeliver s e then some e else none
    | none => none
  | _ => none

def fifoRun (v : Variant) : List Env → St → List Act → Bool
  | _, _, [] => true
  | del, s, a :: as =>
    match delivered s a with
    | some e => fifoOk del e && fifoRun v (e :: del) (step v s a).1 as
    | none => fifoRun v del (step v s a).1 as

theorem fifoOk_lt {del : List Env} {e d : Env} (h : fifoOk del e = true) (hd : d ∈ del) (hs : d.src = e.src) (hdst : d.dst = e.dst) :
    d.id < e.id := by
  simp only [fifoOk, List.all_eq_true] at h
  have := h d hd
  simpa [hs, hdst] using this

theorem new_ack (v : Variant) (hr : Rep v) (s : St) (a : Act) {e : Env} (he : e ∈ (step v s a).1.msgs) (hnew : e ∉ s.msgs)
    {t f m : Nat} (hb : e.body = .ar t true f m) :
    e.src = f ∧ ∃ e0 l pi pt es lc, delivered s a = some e0 ∧ e0 ∈ s.msgs ∧ e0.dst = f ∧ e0.body = .ae t l pi pt es lc ∧ m = pi + es.length := by
  obtain ⟨src, inp, r, h, hsend, _⟩ := step_new_msg v s a he hnew
  rw [hb] at hsend
  obtain ⟨l, pi, pt, es, lc, h1, h2, h3, _⟩ := (h.does.hk hr).ack_sent hsend
  cases inp with
  | msg b =>
    obtain ⟨m0, e0, d⟩ := h.msg b rfl
    refine ⟨h3.symm, e0, l, pi, pt, es, lc, ?_, d.mem, d.dst.trans h3.symm, d.body.trans (Option.some.inj h1), h2⟩
    rw [d.act]; simp [delivered, d.find, d.can]
  | _ => cases h1

def ArSrc (s : St) : Prop := ∀ e ∈ s.msgs, ∀ t f m, e.body = .ar t true f m → e.src = f

theorem arSrc_step (v : Variant) (hr : Rep v) (s : St) (a : Act) (h : ArSrc s) : ArSrc (step v s a).1 := by
  intro e he t f m hb
  by_cases hold : e ∈ s.msgs
  · exact h e hold t f m hb
  · exact (new_ack v hr s a he hold hb).1

theorem mi_step {v : Variant} {s : St} {a : Act} {L t : Nat} (S : Stable v s a L t) (f : Nat) :
    ((step v s a).1.nodes L).matchIndex.getD f 0 = (s.nodes L).matchIndex.getD f 0
    ∨ ∃ e m, delivered s a = some e ∧ e ∈ s.msgs ∧ e.dst = L ∧ e.body = .ar t true f m
        ∧ ((step v s a).1.nodes L).matchIndex.getD f 0 = m := by
  rcases mi_table_step S with h | ⟨m0, e, f', m, ha, hf, hc, hd, hb, h⟩
  · exact Or.inl (by rw [h])
  · rw [h, getD_set]
    split
    · rename_i hc'
      exact Or.inr ⟨e, m, by rw [ha]; simp [delivered, hf, hc], findMsg_mem hf, hd, hc'.1 ▸ hb, rfl⟩
    · exact Or.inl rfl

/-! With `pl = prev_log_index + len(entries)` for an AppendEntries and `m` for an acknowledgement, call
a message *late* when that number is `≥ k`:  early AppendEntries on the link `L → f` were sent
before late ones (`i1`), early acknowledgements of `f` before late ones (`i2`); once `f` has been
handed a late AppendEntries, FIFO on `L → f` only lets late ones follow, so `f` only sends late
acknowledgements from then on (`i3`); and once `match_index[f] ≥ k`, the acknowledgement that
set it was delivered on `f → L` after which FIFO lets no early one through (`i4`). -/

def AEof (L t f : Nat) (e : Env) (pl : Nat) : Prop :=
  e.src = L ∧ e.dst = f ∧ ∃ l pi pt es lc, e.body = .ae t l pi pt es lc ∧ pl = pi + es.length

def ACKof (t f : Nat) (e : Env) (m : Nat) : Prop := e.body = .ar t true f m

structure KF (s : St) (del : List Env) (L t k f : Nat) : Prop where
  i1 : ∀ e ∈ s.msgs, ∀ e' ∈ s.msgs, ∀ pl pl', AEof L t f e pl → AEof L t f e' pl' → pl < k → k ≤ pl' → e.id < e'.id
  i2 : ∀ e ∈ s.msgs, ∀ e' ∈ s.msgs, ∀ m m', ACKof t f e m → ACKof t f e' m' → m < k → k ≤ m' → e.id < e'.id
  i3 : (∃ H ∈ del, H.src = L ∧ H.dst = f ∧ ∀ e ∈ s.msgs, ∀ pl, AEof L t f e pl → H.id < e.id → k ≤ pl)
       ∨ ((∀ e ∈ s.msgs, ∀ m, ACKof t f e m → m < k) ∧ (s.nodes L).matchIndex.getD f 0 < k)
  i4 : k ≤ (s.nodes L).matchIndex.getD f 0 →
        ∃ d ∈ del, d.src = f ∧ d.dst = L ∧ ∀ e ∈ s.msgs, ∀ m, ACKof t f e m → m < k → e.id < d.id

theorem AEof.pl_eq {L t f : Nat} {e : Env} {pl pl' : Nat} (h : AEof L t f e pl) (h' : AEof L t f e pl') : pl = pl' := by
  obtain ⟨_, _, l, pi, pt, es, lc, hb, hp⟩ := h
  obtain ⟨_, _, l', pi', pt', es', lc', hb', hp'⟩ := h'
  rw [hb] at hb'; cases hb'; rw [hp, hp']

theorem regress_of_fifo {s : St} {del : List Env} {L t k : Nat} {Q : List Nat} (har : ArSrc s) (K : ∀ f ∈ Q, KF s del L t k f) (a : Act)
    (hfifo : ∀ e0, delivered s a = some e0 → fifoOk del e0 = true) : regress s L t k Q a = false := by
  cases a with
  | deliver m0 =>
    cases hf : findMsg s m0 with
    | none => simp [regress, hf]
    | some e =>
      apply Bool.eq_false_iff.mpr
      intro hall
      simp only [regress, hf, Bool.and_eq_true, beq_iff_eq] at hall
      obtain ⟨⟨hc, hd⟩, hbody⟩ := hall
      have hdel : delivered s (.deliver m0) = some e := by simp [delivered, hf, hc]
      have hfo := hfifo e hdel
      cases hb : e.body with
      | ar t' su f mi =>
        rw [hb] at hbody
        cases su with
        | false => simp at hbody
        | true =>
          simp only [Bool.and_eq_true, beq_iff_eq, decide_eq_true_eq, List.contains_eq_mem, decide_eq_true_eq] at hbody
          obtain ⟨⟨⟨ht', hfQ⟩, hmi⟩, hk⟩ := hbody
          subst ht'
          obtain ⟨d, hd1, hd2, hd3, hd4⟩ := (K f hfQ).i4 hk
          have hsrc := har e (findMsg_mem hf) _ _ _ hb
          have h1 := hd4 e (findMsg_mem hf) mi hb hmi
          have h2 := fifoOk_lt hfo hd1 (by rw [hd2, hsrc]) (by rw [hd3, hd])
          omega
      | rv _ _ _ _ => rw [hb] at hbody; simp at hbody
      | vr _ _ _ => rw [hb] at hbody; simp at hbody
      | ae _ _ _ _ _ _ => rw [hb] at hbody; simp at hbody
  | _ => rfl

theorem delivered_mem {s : St} {a : Act} {e : Env} (h : delivered s a = some e) : e ∈ s.msgs := by
  cases a with
  | deliver m =>
    simp only [delivered] at h
    cases hf : findMsg s m with
    | none => rw [hf] at h; cases h
    | some e' =>
      rw [hf] at h
      simp only [] at h
      split at h
      · cases h; exact findMsg_mem hf
      · cases h
  | _ => cases h

theorem kf_step {v : Variant} {s : St} {a : Act} {L t k f : Nat} {del del' : List Env} (S : Stable v s a L t) (har : ArSrc s)
    (hkl : k ≤ ((step v s a).1.nodes L).log.length) (K : KF s del L t k f)
    (hfifo : ∀ e0, delivered s a = some e0 → fifoOk del e0 = true)
    (hsub : ∀ d ∈ del, d ∈ del') (hdeliv : ∀ e0, delivered s a = some e0 → e0 ∈ del') :
    KF (step v s a).1 del' L t k f := by
  have hold : ∀ e ∈ s.msgs, e.id < s.nextId := S.inv.ids
  have hnew_id : ∀ e ∈ (step v s a).1.msgs, e ∉ s.msgs → s.nextId ≤ e.id := fun e he hn =>
    let ⟨_, _, _, _, _, h, _⟩ := step_new_msg v s a he hn
    h
  have hnewAE : ∀ e ∈ (step v s a).1.msgs, e ∉ s.msgs → ∀ pl, AEof L t f e pl → k ≤ pl := by
    intro e he hn pl ⟨_, _, l, pi, pt, es, lc, hb, hp⟩
    obtain ⟨_, hbody⟩ := new_ae_sync S he hn hb
    obtain ⟨l', pi', pt', es', lc', hae, hlen⟩ := aeFor_ae ((step v s a).1.nodes L) L e.dst
    rw [hb, hae] at hbody
    cases hbody
    omega
  have hnewACK : ∀ e ∈ (step v s a).1.msgs, e ∉ s.msgs → ∀ m, ACKof t f e m →
      ∃ e0, delivered s a = some e0 ∧ e0 ∈ s.msgs ∧ AEof L t f e0 m := by
    intro e he hn m hb
    obtain ⟨_, e0, l, pi, pt, es, lc, h1, h2, h3, h4, h5⟩ := new_ack v S.rep s a he hn hb
    exact ⟨e0, h1, h2, S.inv.ae_src S.est h2 h4, h3, l, pi, pt, es, lc, h4, h5⟩
  -- once `f` has been handed a late AppendEntries (left disjunct of `i3`), what it is handed on the link `L → f` is late
  have late : (∃ H ∈ del, H.src = L ∧ H.dst = f ∧ ∀ e ∈ s.msgs, ∀ pl, AEof L t f e pl → H.id < e.id → k ≤ pl) →
      ∀ e0 pl0, delivered s a = some e0 → e0 ∈ s.msgs → AEof L t f e0 pl0 → k ≤ pl0 := by
    intro ⟨H, hH, h1, h2, h3⟩ e0 pl0 hd he0 hae
    have := fifoOk_lt (hfifo e0 hd) hH (by rw [h1, hae.1]) (by rw [h2, hae.2.1])
    exact h3 e0 he0 pl0 hae this
  -- a new early acknowledgement can only appear while that has not happened yet
  have earlyNew : ∀ e ∈ (step v s a).1.msgs, e ∉ s.msgs → ∀ m, ACKof t f e m → m < k →
      (∀ e ∈ s.msgs, ∀ m, ACKof t f e m → m < k) ∧ (s.nodes L).matchIndex.getD f 0 < k := by
    intro e he hn m hb hm
    rcases K.i3 with hFl | hA
    · obtain ⟨e0, hd, he0, hae⟩ := hnewACK e he hn m hb
      have := late hFl e0 m hd he0 hae
      omega
    · exact hA
  refine ⟨?_, ?_, ?_, ?_⟩
  · -- i1
    intro e he e' he' pl pl' hae hae' hlt hge
    by_cases ho : e ∈ s.msgs
    · by_cases ho' : e' ∈ s.msgs
      · exact K.i1 e ho e' ho' pl pl' hae hae' hlt hge
      · have := hold e ho; have := hnew_id e' he' ho'; omega
    · have := hnewAE e he ho pl hae; omega
  · -- i2
    intro e he e' he' m m' hb hb' hlt hge
    by_cases ho : e ∈ s.msgs
    · by_cases ho' : e' ∈ s.msgs
      · exact K.i2 e ho e' ho' m m' hb hb' hlt hge
      · have := hold e ho; have := hnew_id e' he' ho'; omega
    · exfalso
      obtain ⟨hnoLate, _⟩ := earlyNew e he ho m hb hlt
      by_cases ho' : e' ∈ s.msgs
      · have := hnoLate e' ho' m' hb'; omega
      · obtain ⟨e0, hd, _, hae⟩ := hnewACK e he ho m hb
        obtain ⟨e0', hd', _, hae'⟩ := hnewACK e' he' ho' m' hb'
        rw [hd] at hd'; cases hd'
        have := hae.pl_eq hae'; omega
  · -- i3
    rcases K.i3 with ⟨H, hH, h1, h2, h3⟩ | ⟨hnoLate, hmi⟩
    · left
      refine ⟨H, hsub H hH, h1, h2, ?_⟩
      intro e he pl hae hlt
      by_cases ho : e ∈ s.msgs
      · exact h3 e ho pl hae hlt
      · exact hnewAE e he ho pl hae
    · by_cases hlate : ∃ e ∈ (step v s a).1.msgs, e ∉ s.msgs ∧ ∃ m, ACKof t f e m ∧ k ≤ m
      · left
        obtain ⟨e, he, hn, m, hb, hkm⟩ := hlate
        obtain ⟨e0, hd, he0, hae⟩ := hnewACK e he hn m hb
        refine ⟨e0, hdeliv e0 hd, hae.1, hae.2.1, ?_⟩
        intro e' he' pl hae' hlt
        by_cases ho : e' ∈ s.msgs
        · apply Classical.byContradiction
          intro hnk
          have := K.i1 e' ho e0 he0 pl m hae' hae (by omega) hkm
          omega
        · exact hnewAE e' he' ho pl hae'
      · right
        refine ⟨?_, ?_⟩
        · intro e he m hb
          by_cases ho : e ∈ s.msgs
          · exact hnoLate e ho m hb
          · apply Classical.byContradiction
            intro hnk
            exact hlate ⟨e, he, ho, m, hb, by omega⟩
        · rcases mi_step S f with h | ⟨e, m, _, he, _, hb, h⟩
          · rw [h]; exact hmi
          · rw [h]; exact hnoLate e he m hb
  · -- i4
    intro hk
    rcases mi_step S f with h | ⟨ea, m, hda, hea, hdst, hba, h⟩
    · rw [h] at hk
      obtain ⟨d, hd1, hd2, hd3, hd4⟩ := K.i4 hk
      refine ⟨d, hsub d hd1, hd2, hd3, ?_⟩
      intro e he m hb hm
      by_cases ho : e ∈ s.msgs
      · exact hd4 e ho m hb hm
      · have := (earlyNew e he ho m hb hm).2; omega
    · rw [h] at hk
      refine ⟨ea, hdeliv ea hda, har ea hea _ _ _ hba, hdst, ?_⟩
      intro e he m' hb hm
      by_cases ho : e ∈ s.msgs
      · exact K.i2 e ho ea hea m' m hb hba hm hk
      · exfalso
        obtain ⟨e0, hd0, _, hae⟩ := hnewACK e he ho m' hb
        rw [hda] at hd0; cases hd0
        obtain ⟨_, _, _, _, _, _, _, hb0, _⟩ := hae
        rw [hba] at hb0; cases hb0

theorem fifoRun_cons {v : Variant} {del : List Env} {s : St} {a : Act} {as : List Act} (h : fifoRun v del s (a :: as) = true) :
    ∃ del', (∀ e0, delivered s a = some e0 → fifoOk del e0 = true ∧ e0 ∈ del') ∧ (∀ d ∈ del, d ∈ del')
      ∧ fifoRun v del' (step v s a).1 as = true := by
  cases hd : delivered s a with
  | none =>
    simp only [fifoRun, hd] at h
    exact ⟨del, (fun _ h => nomatch h), fun _ h => h, h⟩
  | some e0 =>
    simp only [fifoRun, hd, Bool.and_eq_true] at h
    exact ⟨e0 :: del, fun _ he => Option.some.inj he ▸ ⟨h.1, List.mem_cons_self⟩, fun _ h => List.mem_cons_of_mem _ h, h.2⟩

theorem noRegress_of_fifo (v : Variant) (hr : Rep v) {L t k : Nat} {Q : List Nat} : ∀ (as : List Act) (s : St) (del : List Env),
    Inv s → Est s L t → ArSrc s → k ≤ (s.nodes L).log.length → stableRun v t (L :: Q) s as = true →
    fifoRun v del s as = true → (∀ f ∈ Q, KF s del L t k f) → noRegressRun v L t k Q s as = true := by
  intro as
  induction as with
  | nil => intro s del _ _ _ _ _ _ _; rfl
  | cons a as ih =>
    intro s del inv hest har hkl hst hfifo K
    have hst' := stableRun_cons hst
    have S : Stable v s a L t := ⟨hr, inv, hest, termsLe_mem (stableRun_here hst') List.mem_cons_self⟩
    have hkl' : k ≤ ((step v s a).1.nodes L).log.length := Nat.le_trans hkl S.post.log.length_le
    obtain ⟨del', hd, hsub, hfifo'⟩ := fifoRun_cons hfifo
    simp only [noRegressRun, Bool.and_eq_true, Bool.not_eq_true']
    exact ⟨regress_of_fifo har K a fun e0 h => (hd e0 h).1,
      ih _ del' (inv.step hr a) (est_step S) (arSrc_step v hr s a har) hkl' hst' hfifo' fun f hf =>
        kf_step S har hkl' (K f hf) (fun e0 h => (hd e0 h).1) hsub fun e0 h => (hd e0 h).2⟩

/-- `KF` STARTS.  When neither the AppendEntries from `L` to `f` in flight (`hae`), nor (by the safety invariant) the
    acknowledgements of `f`, nor `match_index[f]` reach beyond `L`'s log, and `k` lies beyond it: every message is early and
    `match_index[f] < k`.  `s'` is the state after a `submit`: same messages, same `match_index`. -/
theorem kf_start {s : St} (hs : Inv s) {L t f k : Nat} (hest : Est s L t)
    (hae : ∀ e ∈ s.msgs, ∀ pl, AEof L t f e pl → pl ≤ (s.nodes L).log.length)
    (hk : (s.nodes L).log.length < k) {s' : St} (hm : s'.msgs = s.msgs) (hmi : (s'.nodes L).matchIndex = (s.nodes L).matchIndex) :
    KF s' [] L t k f := by
  obtain ⟨g, rfl, all, _⟩ := hs.ghost
  have hack : ∀ e ∈ g.s.msgs, ∀ m, ACKof t f e m → m ≤ (g.s.nodes L).log.length := by
    intro e he m hbody
    rcases all.hi.m_ar e he t f m hbody with h | ⟨X, _, hX, hle, _⟩
    · omega
    · have := (hest.ll_prefix all hX).length_le
      omega
  have hmatch : (g.s.nodes L).matchIndex.getD f 0 ≤ (g.s.nodes L).log.length := by
    rcases all.hi.n_ms L hest.role f with h | ⟨h, _⟩
    · omega
    · exact h
  rw [← hm] at hae hack
  rw [← hmi] at hmatch
  refine ⟨?_, ?_, Or.inr ⟨?_, ?_⟩, ?_⟩
  · intro e _ e' he' pl pl' _ hae' _ hge
    have := hae e' he' pl' hae'; omega
  · intro e _ e' he' m m' _ hb' _ hge
    have := hack e' he' m' hb'; omega
  · intro e he m hb'; have := hack e he m hb'; omega
  · omega
  · intro h; omega

theorem noRegress_submit (v : Variant) (hr : Rep v) {n : Nat} {pre : List Act} {L t f : Nat} {c : Cmd} {Q : List Nat} {as : List Act}
    (hest : established (run v (init n) pre) L t = true)
    (hstable : stableRun v t (L :: Q) (run v (init n) pre) (.submit L f c :: as) = true)
    (hfifo : fifoRun v [] (run v (init n) pre) (.submit L f c :: as) = true)
    (hae : ∀ p ∈ Q, ∀ e ∈ (run v (init n) pre).msgs, ∀ pl, AEof L t p e pl → pl ≤ ((run v (init n) pre).nodes L).log.length) :
    noRegressRun v L t (nextIdx (run v (init n) pre) L) Q (run v (init n) pre) (.submit L f c :: as) = true := by
  have inv0 := reachable v hr n pre
  have har0 : ArSrc (run v (init n) pre) := run_keeps (arSrc_step v hr) pre (by intro e he; simp [init] at he)
  generalize run v (init n) pre = s0 at *
  have est0 := established_iff.mp hest
  have hstep : step v s0 (.submit L f c) = applyHR s0 L { node := submitNode (s0.nodes L) f c } :=
    step_submit_leader f c est0.lt est0.role
  have hdel : delivered s0 (.submit L f c) = none := rfl
  simp only [fifoRun, hdel] at hfifo
  simp only [noRegressRun, Bool.and_eq_true, Bool.not_eq_true']
  refine ⟨rfl, noRegress_of_fifo v hr as _ [] (inv0.step hr _)
    (est_step ⟨hr, inv0, est0, termsLe_mem (stableRun_here (stableRun_cons hstable)) List.mem_cons_self⟩)
    (arSrc_step v hr s0 _ har0) (by rw [hstep, applyHR_node, if_pos rfl]; simp [nextIdx, submitNode])
    (stableRun_cons hstable) hfifo fun p hp => ?_⟩
  rw [hstep]
  exact kf_start inv0 est0 (hae p hp) (Nat.lt_succ_self _) rfl (by rw [applyHR_node, if_pos rfl]; rfl)

/-- BOUNDED PROGRESS UNDER PER-LINK FIFO.  `stable_leader_commits` with `noRegressRun` replaced by `fifoRun`: on every
    (src, dst) link messages are delivered in the order they were sent. -/
theorem stable_leader_commits_fifo (v : Variant) (hr : Rep v) (n : Nat) (pre : List Act) (L t f : Nat) (c : Cmd) (Q : List Nat)
    (as : List Act)
    (hest : established (run v (init n) pre) L t = true)
    (hQnd : Q.Nodup) (hQne : Q ≠ []) (hQq : quorum n ≤ Q.length + 1)
    (hsync : ∀ p ∈ Q, inSync (run v (init n) pre) L t p = true)
    (hstable : stableRun v t (L :: Q) (run v (init n) pre) (.submit L f c :: as) = true)
    (hfair : ∀ p ∈ Q, ackedRun v L t (nextIdx (run v (init n) pre) L) p (run v (init n) pre) (.submit L f c :: as) = true)
    (hfifo : fifoRun v [] (run v (init n) pre) (.submit L f c :: as) = true) :
    getE ((run v (run v (init n) pre) (.submit L f c :: as)).nodes L).log (nextIdx (run v (init n) pre) L) = some ⟨t, c⟩
    ∧ (∀ p ∈ Q, getE ((run v (run v (init n) pre) (.submit L f c :: as)).nodes p).log (nextIdx (run v (init n) pre) L) = some ⟨t, c⟩)
    ∧ nextIdx (run v (init n) pre) L ≤ ((run v (run v (init n) pre) (.submit L f c :: as)).nodes L).commit
    ∧ nextIdx (run v (init n) pre) L ≤ ((run v (run v (init n) pre) (.submit L f c :: as)).nodes L).lastApplied
    ∧ Hit (outs v (run v (init n) pre) (.submit L f c :: as)) L (nextIdx (run v (init n) pre) L) f c := by
  apply stable_leader_commits v hr n pre L t f c Q as hest hQnd hQne hQq hsync hstable hfair
  refine noRegress_submit v hr hest hstable hfifo fun p hp e he pl ⟨_, hdst, l, pi, pt, es, lc, hb, hp'⟩ => ?_
  -- a follower in sync: what is in flight to it was cut from a log of `L` at a point it holds
  have h1 := ((sync_of_inSync (hsync p hp)).ae e he hdst l pi pt es lc hb).1.1
  have hest := established_iff.mp hest
  obtain ⟨g0, hs0, all, _⟩ := (reachable v hr n pre).ghost
  rw [← hs0] at he hest h1 ⊢
  obtain ⟨X, hX, hes, _⟩ := all.hi.m_ae e he t l pi pt es lc hb
  have := (hest.ll_prefix all hX).length_le
  rw [hp', hes, List.length_drop]; omega

/-! For the back-off variant the invariant `KF` is started without the in-sync premise: acknowledgements in
    flight never name more than the leader's log holds (`ARM`, part of the safety invariant), and
    `match_index ≤ len(log)` (`n_ms`); for the AppendEntries in flight the same bound is the
    decidable start-state hypothesis `aeBounded` (`prev_log_index + len(entries) ≤ len(L's log)` —
    true of every message the leader builds from a `next_index ≤ len(log) + 1`; that `next_index`
    never overshoots is not part of the proved invariants, hence the hypothesis). -/

/-- no AppendEntries of term `t` in flight from `L` to `f` reaches beyond `L`'s log -/
def aeBounded (s : St) (L t f : Nat) : Bool :=
  s.msgs.all (fun e => match e.body with
    | .ae t' _ pi _ es _ => !(t' == t && e.src == L && e.dst == f) || decide (pi + es.length ≤ (s.nodes L).log.length)
    | _ => true)

/-- `aeBounded` as the hypothesis `noRegress_submit` asks for before `KF` is started (`kf_start`) -/
theorem kf_start_conv {s : St} {L t f : Nat} (hb : aeBounded s L t f = true) :
    ∀ e ∈ s.msgs, ∀ pl, AEof L t f e pl → pl ≤ (s.nodes L).log.length := by
  intro e he pl ⟨hsrc, hdst, l, pi, pt, es, lc, hbody, hp⟩
  simp only [aeBounded, List.all_eq_true] at hb
  have := hb e he
  simp only [hbody, hsrc, hdst, beq_self_eq_true, Bool.and_self, Bool.not_true, Bool.false_or, decide_eq_true_eq] at this
  omega

/-- BOUNDED PROGRESS, BACK-OFF INCLUDED, UNDER PER-LINK FIFO. -/
theorem stable_leader_commits_conv_fifo (v : Variant) (hr : Rep v) (n : Nat) (pre : List Act) (L t f : Nat) (c : Cmd) (Q : List Nat)
    (as : List Act)
    (hest : established (run v (init n) pre) L t = true)
    (hQnd : Q.Nodup) (hQne : Q ≠ []) (hQq : quorum n ≤ Q.length + 1) (hbasic : ∀ p ∈ Q, p < n ∧ p ≠ L)
    (hbound : ∀ p ∈ Q, aeBounded (run v (init n) pre) L t p = true)
    (hstable : stableRun v t (L :: Q) (run v (init n) pre) (.submit L f c :: as) = true)
    (hconv : ∀ p ∈ Q, convRun v L t (nextIdx (run v (init n) pre) L) p (run v (init n) pre) (.submit L f c :: as) = true)
    (hfifo : fifoRun v [] (run v (init n) pre) (.submit L f c :: as) = true) :
    getE ((run v (run v (init n) pre) (.submit L f c :: as)).nodes L).log (nextIdx (run v (init n) pre) L) = some ⟨t, c⟩
    ∧ (∀ p ∈ Q, getE ((run v (run v (init n) pre) (.submit L f c :: as)).nodes p).log (nextIdx (run v (init n) pre) L) = some ⟨t, c⟩)
    ∧ nextIdx (run v (init n) pre) L ≤ ((run v (run v (init n) pre) (.submit L f c :: as)).nodes L).commit
    ∧ nextIdx (run v (init n) pre) L ≤ ((run v (run v (init n) pre) (.submit L f c :: as)).nodes L).lastApplied
    ∧ Hit (outs v (run v (init n) pre) (.submit L f c :: as)) L (nextIdx (run v (init n) pre) L) f c :=
  stable_leader_commits_conv v hr n pre L t f c Q as ⟨hest, hQnd, hQne, hQq, hbasic, hstable, hconv,
    noRegress_submit v hr hest hstable hfifo fun p hp => kf_start_conv (hbound p hp)⟩

end HappyModel.C11
