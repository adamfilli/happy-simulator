import HappyModel.C12.MultiPaxos
/-! Multi-Paxos / Flexible Paxos on the pinned tree: slot agreement is false (leader change
    overwrites a decided slot).  The schedule is the one the real engine produced for
    `corpus/C12/mpaxos-leader-change-overwrites-decided-slot.json` (ballots (1,0) = 3, (2,2) = 8). -/
namespace HappyModel.C12.MP

/-- Slot agreement (the property's clause for Multi-Paxos), as a statement about a step function:
    along every action list, two nodes that report a decided command for one slot report the same
    command.  It is *false* for `step` (the pinned tree, theorem below).  Not proved for any repaired
    variant: the repair (adopt, per slot, the highest-ballot entry reported in the promises before
    proposing; key acks by ballot) is a redesign of `_become_leader` / `_handle_accepted` — known
    finding, see fixes/C12-multipaxos-leader-change.known.md. -/
def slot_agreement_full (stp : St → Act → St × List Msg) (s0 : St) : Prop :=
  ∀ (as : List Act) (i j k : Nat) (c d : Nat),
    let s := as.foldl (fun s a => (stp s a).1) s0
    decidedAt s i k = some c → decidedAt s j k = some d → c = d

def witness : List Act :=
  [ .submit 0 1, .start 0, .prepare 1 3, .prepare 2 3, .promise 0 1,   -- node 0 leads with ballot (1,0)
    .hb 1 3 0, .hb 2 3 0,
    .accept 1 0 3 1 1 0, .accepted 0 1,                               -- slot 1 = command 1 at {0,1}: committed at 0
    .submit 2 2, .start 2, .prepare 1 8, .promise 2 2,                -- node 2 leads with (2,2); node 1's log is ignored
    .hb 1 8 0,
    .accept 1 2 8 1 2 0, .accepted 2 1 ]                              -- node 1 truncates; slot 1 = command 2 committed at 2

/-- node 0 reports command 1 for slot 1, node 2 reports command 2 (MultiPaxosNode, 3 nodes) -/
theorem slot_agreement_current_false :
    decidedAt (run (init 3 2 2 false) witness) 0 1 = some 1 ∧
    decidedAt (run (init 3 2 2 false) witness) 2 1 = some 2 := by decide +kernel

/-- the same schedule with FlexiblePaxosNode, q1 = q2 = 2 (so `q1 + q2 > n` holds) -/
theorem flexible_slot_agreement_current_false :
    (3 < 2 + 2) ∧
    decidedAt (run (init 3 2 2 true) witness) 0 1 = some 1 ∧
    decidedAt (run (init 3 2 2 true) witness) 2 1 = some 2 := by decide +kernel

theorem slot_agreement_full_current_false : ¬ slot_agreement_full step (init 3 2 2 false) := by
  intro h
  have := h witness 0 2 1 1 2
  have e : ∀ (as : List Act) (s : St), List.foldl (fun s a => (step s a).1) s as = run s as := by
    intro as
    induction as with
    | nil => intro s; rfl
    | cons a as ih => intro s; simp only [List.foldl, run]; exact ih _
  simp only [] at this
  rw [e] at this
  have h2 := this slot_agreement_current_false.1 slot_agreement_current_false.2
  exact absurd h2 (by decide)

end HappyModel.C12.MP
