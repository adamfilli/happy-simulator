import HappyModel.C14.SpecTxn
import HappyProofs.C14.TxnSnap
/-!
# Transactions at run level: observations, hypotheses and the two interfaces

The driver executes `runFrames stepT TPc.isDone` under a schedule of generator segments and the judge
(`TxSpec.judgeTxn`) reads the transcript.  This file fixes, for the run-level theorem
`txn_trace_satisfies_spec` (`TxnTrace.lean`):

* `tobsOf`: the observation of a run in the vocabulary of the Spec (mirror of `DriverStore.judgeTxnMode`
  without the text layer);
* the hypotheses on the program (`WFProg`), on the schedule (`SlotSeq`: a client runs the operations of
  its transaction one after the other) and on the end of the run (`Quiesced`);
* `MachFacts`: what the machine guarantees about the final frames and a timed ghost log (proved for every
  run in `TxnLMach*.lean`, `TxnMach.lean`);
* `TxnFacts`: what the judge needs, about observations only (derived from `MachFacts` in `TxnLink*.lean`,
  consumed by `judgeTxn_of_facts` in `TxnJudge*.lean`).
-/
namespace HappyModel.C14.SM
open HappyModel.C14 HappyModel.C14.BT HappyModel.C14.TxSpec

/-! ### observations -/

def lvlOf : Level → ILevel
  | .rc => .rc
  | .si => .si
  | .ser => .ser

def TOp.slot : TOp → Nat
  | .begin s _ => s
  | .read s _ => s
  | .write s _ _ => s
  | .commit s => s
  | .abort s => s

def TOp.isBegin : TOp → Bool
  | .begin _ _ => true
  | _ => false

/-- `commit` or `abort` -/
def TOp.isEnd : TOp → Bool
  | .commit _ => true
  | .abort _ => true
  | _ => false

def resVal : SRes → Option Nat
  | .val c => c
  | _ => none

def resFlag : SRes → Bool
  | .flag b => b
  | _ => false

/-- the initial frames of a program -/
def framesOfT (ops : List (Nat × TOp)) : List (Frame TPc) := ops.map fun o => { id := o.1, pc := .start o.2 }

/-- completed operations in declaration order: id, operation, first segment, last segment, result -/
def completedT (ops : List (Nat × TOp)) (fs : List (Frame TPc)) : List (Nat × TOp × Nat × Nat × SRes) :=
  ops.filterMap fun o =>
    match fs.find? (fun f => f.id == o.1) with
    | some f =>
      match f.b, f.e, f.pc with
      | some b, some e, .done r => some (o.1, o.2, b, e, r)
      | _, _, _ => none
    | none => none

def mineOf (completed : List (Nat × TOp × Nat × Nat × SRes)) (slot : Nat) : List (Nat × TOp × Nat × Nat × SRes) :=
  completed.filter fun c => match c.2.1 with
    | .read s _ => s == slot
    | .write s _ _ => s == slot
    | .commit s => s == slot
    | _ => false

def stepsOf (mine : List (Nat × TOp × Nat × Nat × SRes)) : List TStep :=
  mine.filterMap fun c => match c.2.1 with
    | .read _ k => some (.read k (resVal c.2.2.2.2) c.2.2.1 c.2.2.2.1)
    | .write _ k v => some (.write k v)
    | _ => none

def commitOf (mine : List (Nat × TOp × Nat × Nat × SRes)) : Option (Nat × Bool) :=
  mine.findSome? fun c => match c.2.1 with
    | .commit _ => some (c.2.2.1, resFlag c.2.2.2.2)
    | _ => none

/-- what `judgeTxnMode` builds from the transcript of the run -/
def tobsOf (ops : List (Nat × TOp)) (fs : List (Frame TPc)) : List TObs :=
  ((completedT ops fs).filterMap fun c => match c.2.1 with
    | .begin s l => some (s, lvlOf l)
    | _ => none).map fun sl =>
      { slot := sl.1, level := sl.2,
        steps := stepsOf (mineOf (completedT ops fs) sl.1),
        commit := commitOf (mineOf (completedT ops fs) sl.1) }

/-! ### hypotheses -/

/-- program well-formedness: operation ids are distinct; of two operations of the same slot the later one is
    not a `begin` and the earlier one is not a `commit`/`abort`; every other operation has the `begin` of its
    slot in the program (hence, by the second clause, before it). -/
structure WFProg (ops : List (Nat × TOp)) : Prop where
  ids : (ops.map (·.1)).Nodup
  order : ops.Pairwise fun a b => a.2.slot = b.2.slot → b.2.isBegin = false ∧ a.2.isEnd = false
  begun : ∀ o ∈ ops, o.2.isBegin = false → ∃ b ∈ ops, b.2.isBegin = true ∧ b.2.slot = o.2.slot

instance (ops : List (Nat × TOp)) : Decidable (WFProg ops) :=
  decidable_of_iff
    ((ops.map (·.1)).Nodup ∧
     (ops.Pairwise fun a b => a.2.slot = b.2.slot → b.2.isBegin = false ∧ a.2.isEnd = false) ∧
     ∀ o ∈ ops, o.2.isBegin = false → ∃ b ∈ ops, b.2.isBegin = true ∧ b.2.slot = o.2.slot)
    ⟨fun h => ⟨h.1, h.2.1, h.2.2⟩, fun h => ⟨h.ids, h.order, h.begun⟩⟩

/-- the frame of operation `id` is done -/
def doneIn (fs : List (Frame TPc)) (id : Nat) : Bool :=
  match fs.find? (fun f => f.id == id) with
  | some f => f.pc.isDone
  | none => false

/-- the schedule runs the operations of one slot one after the other (one client per transaction): whenever
    a segment of operation `o` is executed, every operation of the same slot declared before `o` is done -/
def SlotSeq (ops : List (Nat × TOp)) (tm0 : TM) (sched : List Nat) : Prop :=
  ∀ n pre o post, sched[n]? = some o.1 → ops = pre ++ o :: post → ∀ a ∈ pre, a.2.slot = o.2.slot →
    doneIn (runFrames stepT TPc.isDone tm0 (framesOfT ops) 0 (sched.take n)).2 a.1 = true

/-- every operation that started has completed -/
def Quiesced (fs : List (Frame TPc)) : Prop := ∀ f ∈ fs, f.b ≠ none → f.pc.isDone = true

/-! ### interface 1: the machine -/

/-- the write set the transaction of `slot` has built by the writes declared before operation `id` -/
def wsetBefore (ops : List (Nat × TOp)) (id : Nat) (slot : Nat) : KV :=
  (ops.takeWhile fun o => o.1 != id).foldl (fun w o => match o.2 with
    | .write s k v => if s == slot then dictSet k v w else w
    | _ => w) []

/-- final frames `fs`, final manager `tm` and a timed ghost log (segment index, event; oldest first) of a run
    of program `ops` from manager `tm0` -/
structure MachFacts (ok : Store → Prop) (ops : List (Nat × TOp)) (tm0 tm : TM) (fs : List (Frame TPc))
    (tlog : List (Nat × Ev)) : Prop where
  inv : Inv ok tm0.store.getSync tm (tlog.map (·.2))
  inv2 : Inv2 tm0.store.getSync tm (tlog.map (·.2))
  times : (tlog.map (·.1)).Pairwise (· < ·)
  ids : fs.map (·.id) = ops.map (·.1)
  /-- every started operation has completed, in a later or the same segment -/
  done_e : ∀ f ∈ fs, ∀ b, f.b = some b → ∃ e r, f.e = some e ∧ f.pc = .done r ∧ b ≤ e
  /-- operations of one slot ran one after the other -/
  seq : ∀ pre o post, ops = pre ++ o :: post → ∀ f ∈ fs, f.id = o.1 → ∀ b, f.b = some b →
    ∀ a ∈ pre, a.2.slot = o.2.slot → ∃ g ∈ fs, g.id = a.1 ∧ ∃ e, g.e = some e ∧ e < b
  begin_ev : ∀ f ∈ fs, ∀ s l b, ops.lookup f.id = some (.begin s l) → f.b = some b →
    (b, Ev.began s) ∈ tlog ∧ ∃ tx, tm.tx? s = some tx ∧ tx.level = l
  read_res : ∀ f ∈ fs, ∀ s k b e r, ops.lookup f.id = some (.read s k) → f.b = some b → f.e = some e →
    f.pc = .done r → ∃ c, r = .val c ∧
      match (wsetBefore ops f.id s).lookup k with
      | some v => c = some v
      | none => ∃ n, b ≤ n ∧ n ≤ e ∧ (n, Ev.fetched s k c) ∈ tlog
  commit_res : ∀ f ∈ fs, ∀ s b r, ops.lookup f.id = some (.commit s) → f.b = some b → f.pc = .done r →
    ∃ fl, r = .flag fl ∧ (fl = true → (b, Ev.committed s (wsetBefore ops f.id s)) ∈ tlog)
  commit_ev : ∀ n s w, (n, Ev.committed s w) ∈ tlog → ∃ f ∈ fs, ops.lookup f.id = some (.commit s) ∧
    f.b = some n ∧ f.pc = .done (.flag true) ∧ w = wsetBefore ops f.id s

/-! ### interface 2: the judge -/

/-- commit history: position of the commit call, slot, write set; oldest first -/
abbrev Hist := List (Nat × Nat × KV)

def histOf (tlog : List (Nat × Ev)) : Hist :=
  tlog.filterMap fun x => match x.2 with
    | .committed s w => some (x.1, s, w)
    | _ => none

/-- the serial state after all commits -/
def stateEnd (init : Key → Option Nat) (h : Hist) : Key → Option Nat := h.foldl (fun f c => applyF f c.2.2) init

/-- the serial state just before position `n` -/
def stateAt (init : Key → Option Nat) (h : Hist) (n : Nat) : Key → Option Nat :=
  stateEnd init (h.filter fun c => c.1 < n)

structure TxnFacts (init finalF : Key → Option Nat) (ts : List TObs) (h : Hist) : Prop where
  slots : (ts.map (·.slot)).Nodup
  sorted : (h.map (·.1)).Pairwise (· < ·)
  own : ∀ t ∈ ts, t.ownBad = false
  comm_hist : ∀ t ∈ ts, t.committed = true → (t.commitPos, t.slot, t.wset) ∈ h
  hist_comm : ∀ c ∈ h, ∃ t ∈ ts, t.committed = true ∧ t.commitPos = c.1 ∧ t.slot = c.2.1 ∧ t.wset = c.2.2
  final : ∀ k, finalF k = stateEnd init h k
  /-- a committed SERIALIZABLE transaction read the serial state just before its commit -/
  ser : ∀ t ∈ ts, t.committed = true → t.level = .ser → ∀ r ∈ t.ext, r.2.1 = stateAt init h t.commitPos r.1
  /-- a SNAPSHOT_ISOLATION transaction read the serial state at one position `nb` (its `begin`), which is not
      after the end of any of its reads nor after its own commit -/
  si : ∀ t ∈ ts, t.level = .si → ∃ nb, (∀ r ∈ t.ext, nb ≤ r.2.2) ∧ (∀ c ∈ h, c.2.1 = t.slot → nb ≤ c.1) ∧
    ∀ r ∈ t.ext, r.2.1 = stateAt init h nb r.1

end HappyModel.C14.SM
