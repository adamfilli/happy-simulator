import HappyProofs.C14.LsmGhost
import HappyModel.C14.LsmSync
/-! `St.putSync` is the segments of `put` run back to back (`runPc`).  From a quiescent tree (nothing frozen, no
    compaction suspended) the flush and the compaction the call starts it also installs, so it ends quiescent again. -/
namespace HappyModel.C14

/-- segments of `put_sync` still to run; 5 for a program counter it never reaches -/
def putSyncRank : Pc → Nat
  | .pStart _ _ => 4
  | .pMem _ => 3
  | .pFlush _ _ => 2
  | .pCompact _ => 1
  | .done _ => 0
  | _ => 5

/-- what holds between the segments of a `put_sync` after the memtable insert: the only frozen memtable
    is the one this call is flushing, the only compaction the one this call is about to install -/
def PutSyncOk (s : St) : Pc → Prop
  | .pMem _ => s.imms = [] ∧ s.compacting = false
  | .pFlush t _ => s.imms = [t] ∧ s.compacting = false
  | .pCompact _ => s.imms = []
  | .done _ => s.imms = [] ∧ s.compacting = false
  | _ => False

theorem Eff.putSync {s s' : St} {pc pc' : Pc} (e : Eff cfg s pc s' pc') (h : PutSyncOk s pc) (hd : pc.isDone = false) :
    PutSyncOk s' pc' ∧ putSyncRank pc' < putSyncRank pc := by
  cases e with
  | ins k c q s1 hi hc hm hpc _ => rcases hpc with rfl | rfl | rfl <;> cases h
  | wal _ _ _ _ _ _ | sync _ _ _ _ _ _ _ => cases h
  | skip mid => exact ⟨h, show 0 < 3 by decide⟩
  | freeze mid => exact ⟨⟨by show s.imms ++ [_] = [_]; rw [h.1]; rfl, h.2⟩, show 2 < 3 by decide⟩
  | install t b m =>
    have h1 : (flushS1 cfg s t b).imms = [] := by
      show s.imms.filter (fun i => i.id != t.id) = []
      rw [h.1]; simp
    cases m with
    | no => exact ⟨⟨h1, h.2⟩, show 0 < 2 by decide⟩
    | yes j _ _ => exact ⟨h1, show 1 < 2 by decide⟩
  | compact j => exact ⟨⟨h, rfl⟩, show 0 < 1 by decide⟩
  | read hr => cases pc <;> first | exact h.elim | cases hr
  | done r => cases hd

theorem sync_step (cfg : Cfg) (s : St) (pc : Pc) (h : PutSyncOk s pc) (hd : pc.isDone = false) :
    PutSyncOk (stepOp cfg s pc).1 (stepOp cfg s pc).2 ∧ putSyncRank (stepOp cfg s pc).2 < putSyncRank pc :=
  (stepOp_eff cfg s pc).putSync h hd

theorem sync_flushHead {s : St} {pc : Pc} (h : PutSyncOk s pc) : FlushHead s pc := by
  cases pc <;> simp only [FlushHead] <;> try trivial
  rw [h.1]; rfl

theorem sync_insOf (cfg : Cfg) {s : St} {pc : Pc} (h : PutSyncOk s pc) : insOf cfg s pc = none := by
  cases pc <;> first | rfl | cases h

theorem sync_done {s : St} {pc : Pc} (h : PutSyncOk s pc) (hd : pc.isDone = true) :
    s.imms = [] ∧ s.compacting = false := by
  cases pc <;> first | exact h | cases hd

theorem rank_zero_done {pc : Pc} (h : putSyncRank pc ≤ 0) : pc.isDone = true := by
  cases pc <;> first | rfl | (simp only [putSyncRank] at h; omega)

/-- induction over the segments of a `put_sync` after the memtable insert -/
theorem runPc_ind (cfg : Cfg) (I : St → Prop)
    (step : ∀ s pc, SInv cfg s → POk cfg s pc → PutSyncOk s pc → pc.isDone = false → I s → I (stepOp cfg s pc).1) :
    ∀ (n : Nat) (s : St) (pc : Pc), putSyncRank pc ≤ n → SInv cfg s → POk cfg s pc → PutSyncOk s pc → I s →
    I (runPc cfg n s pc) ∧ SInv cfg (runPc cfg n s pc) ∧ (runPc cfg n s pc).imms = [] ∧
      (runPc cfg n s pc).compacting = false
  | 0, s, pc, hr, hs, _, hy, h => by
    obtain ⟨a, b⟩ := sync_done hy (rank_zero_done hr)
    exact ⟨h, hs, a, b⟩
  | n + 1, s, pc, hr, hs, hp, hy, h => by
    unfold runPc
    by_cases hd : pc.isDone = true
    · rw [if_pos hd]
      obtain ⟨a, b⟩ := sync_done hy hd
      exact ⟨h, hs, a, b⟩
    · have hd' : pc.isDone = false := by simpa using hd
      rw [if_neg hd]
      have ho := stepOp_ok hs hp
      obtain ⟨hy', hlt⟩ := sync_step cfg s pc hy hd'
      exact runPc_ind cfg I step n _ _ (by omega) ho.sinv ho.pok hy' (step s pc hs hp hy hd' h)

theorem runPc_sync (cfg : Cfg) (n : Nat) (s : St) (pc : Pc) (hr : putSyncRank pc ≤ n) (hs : SInv cfg s)
    (hp : POk cfg s pc) (hy : PutSyncOk s pc) :
    SInv cfg (runPc cfg n s pc) ∧ (runPc cfg n s pc).imms = [] ∧ (runPc cfg n s pc).compacting = false ∧
    ∀ k', (runPc cfg n s pc).abs k' = s.abs k' := by
  obtain ⟨a, b, c, d⟩ := runPc_ind cfg (fun s' => ∀ k', s'.abs k' = s.abs k')
    (fun s1 pc1 hs1 hp1 hy1 _ h k' => by
      rw [abs_step hs1 hp1 (sync_flushHead hy1) k', sync_insOf cfg hy1]; exact h k') n s pc hr hs hp hy fun _ => rfl
  exact ⟨b, c, d, a⟩

theorem putSync_run (cfg : Cfg) (s : St) (k : Key) (c : Cell) (hw : cfg.wal = none) (hs : SInv cfg s) :
    s.putSync cfg k c = runPc cfg 4 (memInsert s k c).1 (memInsert s k c).2 ∧
    SInv cfg (memInsert s k c).1 ∧ POk cfg (memInsert s k c).1 (memInsert s k c).2 := by
  have hstep : stepOp cfg s (.pStart k c) = memInsert s k c := by simp only [stepOp, putStart, hw]
  have ho := stepOp_ok hs (pc := .pStart k c) trivial
  rw [hstep] at ho
  refine ⟨?_, ho.sinv, ho.pok⟩
  show runPc cfg 4 (stepOp cfg s (.pStart k c)).1 (stepOp cfg s (.pStart k c)).2 = _
  rw [hstep]

/-- `put_sync` on a quiescent tree without a WAL: the invariant is kept, the tree is quiescent again, and `get_sync`
    afterwards is the map update `m[k] := c` -/
theorem putSync_spec (cfg : Cfg) (s : St) (k : Key) (c : Cell) (hw : cfg.wal = none) (hs : SInv cfg s)
    (hi : s.imms = []) (hc : s.compacting = false) :
    SInv cfg (s.putSync cfg k c) ∧ (s.putSync cfg k c).imms = [] ∧ (s.putSync cfg k c).compacting = false ∧
    ∀ k', (s.putSync cfg k c).abs k' = if k' = k then c else s.abs k' := by
  obtain ⟨hrun, hsi, hpo⟩ := putSync_run cfg s k c hw hs
  rw [hrun]
  obtain ⟨a, b, d, e⟩ := runPc_sync cfg 4 (memInsert s k c).1 (memInsert s k c).2 (by show 3 ≤ 4; decide) hsi hpo ⟨hi, hc⟩
  exact ⟨a, b, d, fun k' => by rw [e k', abs_memInsert]⟩

end HappyModel.C14
