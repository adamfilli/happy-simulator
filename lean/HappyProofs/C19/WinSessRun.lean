import HappyProofs.C19.WinSessJudge
import HappyProofs.C19.WinStep
/-!
Session windows as a window kind (`SessRel` has the four laws of `KindLaws`), the run of every kind, and the core clauses
for sessions, which need no hypothesis on ids.
Hypothesis on the schedule for sessions: record ids are distinct (`procIds sched` has no duplicates) — the judge picks the
members of an emitted session by id, so with a repeated id it would (rightly) not recognise the session.
-/
namespace HappyModel.C19.Win

def procIds : List Line → List Nat
  | [] => []
  | ln :: rest =>
    match ln.act with
    | .proc r => r.id :: procIds rest
    | _ => procIds rest

theorem sessEms_sublist (cfg : Cfg) (j : JSt) : ∀ (ems : List Em) (pend : List Rec),
    (sessEms cfg j pend ems).2.Sublist pend := by
  intro ems
  induction ems with
  | nil => intro pend; simp [sessEms]
  | cons em rest ih =>
    intro pend
    simp only [sessEms]
    exact (ih _).trans (by simp only [sessEm]; exact List.filter_sublist)

theorem SessRel.closure (cfg : Cfg) {wins : List Win} {j : JSt} (wm : Nat) (h : SessRel cfg.gap wins j)
    (hopen : ∀ w ∈ wins, wm < w.e) : sessClosure cfg { j with wm := wm } j.pend = true := by
  simp only [sessClosure, List.all_eq_true, Bool.or_eq_true, decide_eq_true_eq]
  intro r hr
  obtain ⟨w, hw, hrw⟩ := h.owner r hr
  cases hs : hasSucc cfg.gap j.pend r with
  | true => exact Or.inr rfl
  | false =>
    left
    have := (h.noSucc r w hw hrw).1 hs
    have := hopen w hw
    omega

theorem sessClosure_wm (cfg : Cfg) (j : JSt) (pend : List Rec) :
    sessClosure cfg j pend = sessClosure cfg { j with wm := j.wm } pend := rfl

theorem sessLaws (cfg : Cfg) (hk : cfg.kind = 2) : KindLaws cfg (SessRel cfg.gap) := by
  have hk2 : (cfg.kind == 2) = true := by simp [hk]
  refine ⟨fun h _ e => ⟨h.inv, e ▸ h.perm, e ▸ h.ids⟩, fun {wins j} t r h ha hf => ?_, fun {wins j} t h => ?_,
    fun h => h.active cfg hk⟩
  · -- law `add`
    have hp : (afterProc cfg t j r).pend = j.pend ++ [r] := by simp only [afterProc, ha, hk2, Bool.and_true, if_true]
    simp only [addWindows, hk, if_true]
    refine ⟨h.inv.add r, ?_, ?_⟩
    · rw [hp]
      exact (List.Perm.append_right _ h.perm).trans (sessAdd_recs cfg.gap r wins).symm
    · rw [hp, List.map_append, List.nodup_append]
      refine ⟨h.ids, by simp, ?_⟩
      intro a ha b hb
      simp only [List.map_cons, List.map_nil, List.mem_singleton] at hb
      subst hb
      intro e; subst e
      exact hf hk ha
  · -- law `fire`: the emitted sessions and the kept ones
    have hperm : ((wins.filter (closable j.wm)) ++ (wins.filter fun w => !closable j.wm w)).Perm wins :=
      List.filter_append_perm _ _
    have hp2 : j.pend.Perm (recsOf ((wins.filter (closable j.wm)) ++ (wins.filter fun w => !closable j.wm w))) :=
      h.perm.trans (by unfold recsOf; exact (List.Perm.flatMap_right (fun w : Win => w.recs) hperm).symm)
    have hloop := sessEms_ok cfg j (wins.filter (closable j.wm)) (wins.filter fun w => !closable j.wm w) j.pend
      hp2 h.ids
      (fun w hw => h.inv.good w (hperm.mem_iff.1 hw))
      ((List.Perm.pairwise_iff (fun {a b} => sepKey_symm) hperm).2 h.inv.sep)
      (fun w hw => by
        have := (List.mem_filter.1 hw).2
        simp only [closable, Bool.and_eq_true, decide_eq_true_eq] at this
        omega)
    have hW : SessRel cfg.gap (wins.filter fun w => !closable j.wm w) (afterFire cfg t j (fired j.wm wins)) := by
      refine ⟨⟨fun w hw => h.inv.good w (List.mem_filter.1 hw).1, h.inv.sep.filter _⟩, ?_, ?_⟩
      · simp only [afterFire, hk2, if_true]
        exact hloop.2
      · simp only [afterFire, hk2, if_true]
        exact List.Nodup.sublist (List.Sublist.map _ (sessEms_sublist cfg j _ j.pend)) h.ids
    refine ⟨fun hh => absurd hk hh, fun _ => ⟨hloop.1, ?_⟩, by simpa only [hk, if_true] using hW⟩
    -- closed sessions were all emitted: the kept ones are still open
    have hopen : ∀ w ∈ wins.filter (fun w => !closable j.wm w), j.wm < w.e := by
      intro w hw
      obtain ⟨hw1, hw2⟩ := List.mem_filter.1 hw
      have hem := (h.inv.good w hw1).em
      simp only [closable, hem, Bool.not_false, Bool.true_and, Bool.not_eq_true', decide_eq_false_iff_not] at hw2
      omega
    have := hW.closure cfg j.wm hopen
    simpa [afterFire, hk2, sessClosure] using this

/-- pending ids followed by the ids still to come: a line only drops some of them -/
theorem ids_step (cfg : Cfg) (hk : cfg.kind = 2) (j : JSt) (ln : Line) (out : Out) (rest : List Line) :
    ((after cfg j ln out).pend.map (·.id) ++ procIds rest).Sublist (j.pend.map (·.id) ++ procIds (ln :: rest)) := by
  have hk2 : (cfg.kind == 2) = true := by simp [hk]
  obtain ⟨t, act⟩ := ln
  cases act with
  | proc r =>
    simp only [after, afterProc, hk2, Bool.and_true, procIds]
    split
    · simp
    · exact List.Sublist.append_left (List.sublist_cons_self _ _) _
  | wmB =>
    cases out with
    | emits n ems st =>
      simp only [after, afterFire, hk2, if_true, procIds]
      exact List.Sublist.append_right ((sessEms_sublist cfg j ems j.pend).map _) _
    | _ => exact List.Sublist.refl _
  | _ => exact List.Sublist.refl _

theorem judge_core_run_sess (cfg : Cfg) (hk : cfg.kind = 2) :
    ∀ (sched : List Line) (s : St) (j : JSt), R0 s j → legit cfg s sched = true →
      judgeCore cfg j (sched.zip (run cfg s sched)) = none :=
  judgeWith_run coreChecks cfg (fun s j _ => R0 s j) fun s j ln _ h hl =>
    have ⟨h0, hc0⟩ := step_ok0 cfg s j ln h hl
    ⟨firstFail_none _ fun c hc => (hc0 c hc).resolve_right fun hh => hh.1 hk, h0⟩

/-- for sessions the ids of the pending records followed by those still to come are distinct -/
theorem judge_safety_run_kind {cfg : Cfg} {W : List Win → JSt → Prop} (L : KindLaws cfg W) (sched : List Line)
    (s : St) (j : JSt) (h0 : R0 s j) (hw : W s.wins j) (hl : legit cfg s sched = true)
    (hid : cfg.kind = 2 → (j.pend.map (·.id) ++ procIds sched).Nodup) :
    judgeSafety cfg j (sched.zip (run cfg s sched)) = none := by
  refine judgeWith_run _ cfg (fun s j sched => (R0 s j ∧ W s.wins j) ∧
    (cfg.kind = 2 → (j.pend.map (·.id) ++ procIds sched).Nodup)) ?_ sched s j ⟨⟨h0, hw⟩, hid⟩ hl
  intro s j ln rest ⟨⟨h0, hw⟩, hid⟩ hl
  obtain ⟨hok, hR⟩ := step_safety L s j ln h0 hw hl fun r hr hk hmem =>
    (List.nodup_append.1 (hid hk)).2.2 _ hmem _ (by simp [procIds, hr]) rfl
  exact ⟨hok, hR, fun hk => (hid hk).sublist (ids_step cfg hk j ln _ rest)⟩

end HappyModel.C19.Win
