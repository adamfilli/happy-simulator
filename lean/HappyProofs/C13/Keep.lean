import HappyProofs.C13.Sched
/-!
Two facts about every handler that the detection bound rests on:

* no handler ever creates an "alive" update, so — the initial state having none — no update anywhere
  in the system says "alive" (`SNoAlive`);
* a handler that processes no "alive" update leaves the probe order, the probe index and the time
  of the next tick alone unless it is the probe tick itself, and never takes a member out of DEAD
  (`Keep`).
-/
set_option linter.unusedSectionVars false
namespace HappyModel.C13
variable {D : Type} [Inhabited D] [Detector D]

def NAl (us : List Update) : Prop := ∀ u ∈ us, u.kind ≠ .alive

theorem NAl.nil : NAl [] := fun _ h => by cases h

theorem NAl.append {us vs : List Update} (h1 : NAl us) (h2 : NAl vs) : NAl (us ++ vs) := by
  intro u hu
  rcases List.mem_append.mp hu with h | h
  · exact h1 u h
  · exact h2 u h

theorem NAl.not_hasAlive {us : List Update} (h : NAl us) (x : Nat) : ¬ hasAlive x us := by
  rintro ⟨u, hu, _, hk⟩
  exact h u hu hk

abbrev SNoAlive (s : Sys D) : Prop := AllUpds (fun u => u.kind ≠ .alive) s

theorem snoalive_step {c : Cfg} {s s' : Sys D} {act : Act} (h : Step c s act s') (I : SNoAlive s) :
    SNoAlive s' :=
  allUpds_step (fun _ _ h => nomatch h) h I (fun _ _ _ _ _ _ _ _ h => nomatch h)

theorem snoalive_run (c : Cfg) (s : Sys D) (acts : List Act) (I : SNoAlive s) : SNoAlive (run c s acts) :=
  run_inv (fun s act => snoalive_step (step_rel c s act)) acts I

structure Keep (nd nd' : Node D) : Prop where
  order : nd'.order = nd.order
  pidx : nd'.pidx = nd.pidx
  tick : nd'.nextTick = nd.nextTick
  dead : ∀ y, nd.view y = .dead → nd'.view y = .dead

theorem Keep.refl (nd : Node D) : Keep nd nd := ⟨rfl, rfl, rfl, fun _ h => h⟩

theorem deadStays_respects {now : Nat} :
    Respects (D := D) now (fun m m' => m.st = .dead → m'.st = .dead) (fun u => u.kind ≠ .alive)
      True True where
  refl _ h := h
  trans h1 h2 h := h2 (h1 h)
  gsuspect _ _ _ _ h hd := nomatch h.symm.trans hd
  gdead _ _ _ _ _ _ := rfl
  galive _ _ hu hk := absurd hk hu
  heard _ m h := by
    show (if m.st = .suspect then MState.alive else m.st) = .dead
    rw [if_neg (by rw [h]; exact fun h => nomatch h)]
    exact h
  suspect _ h h' := by rw [h] at h'; cases h'
  dead _ _ _ _ := rfl

theorem keep_phiCheck (n a now : Nat) (nd : Node D) : Keep nd (phiCheck n a now nd) :=
  have h := sameCtl_phiCheck n a now nd
  ⟨h.order, h.pidx, h.tick, fun y => entry_phiCheck (deadStays_respects (now := now)) y n a now nd⟩

theorem keep_handleMsg {c : Cfg} {a now : Nat} {m : Msg} {nd : Node D} (hm : NAl m.upds) :
    Keep nd (handleMsg c a now m nd).1 :=
  have hd := fun y => entry_handleMsg (c := c) (a := a) (nd := nd) (deadStays_respects (now := now)) y
    (fun u hu _ => hm u hu) (fun _ => trivial)
  match handleMsg_ctl c a now m nd with
  | .inl ⟨h, _⟩ => ⟨h.order, h.pidx, h.tick, hd⟩
  | .inr ⟨_, _, h⟩ => ⟨h.order, h.pidx, h.tick, hd⟩

theorem keep_onIndTimeout {c : Cfg} {a now x : Nat} {shuf : List Nat} {nd : Node D} :
    Keep nd (onIndTimeout c a now x shuf nd).1 :=
  have h := onIndTimeout_ctl c a now x shuf nd
  ⟨h.order, h.pidx, h.tick, fun y => entry_onIndTimeout deadStays_respects y⟩

theorem keep_onSuspTimeout {x : Nat} {nd : Node D} : Keep nd (onSuspTimeout x nd) :=
  have h := onSuspTimeout_ctl x nd
  -- `now := 0` is arbitrary: the suspicion timeout has no clock (`now` matters to `Respects.heard` alone)
  ⟨h.order, h.pidx, h.tick, fun y => entry_onSuspTimeout (deadStays_respects (now := 0)) y fun _ => trivial⟩

theorem Step.keep_or_tick {c : Cfg} {s s' : Sys D} {act : Act} (h : Step c s act s') (hN : SNoAlive s)
    (a : Nat) :
    Keep (s.node a) (s'.node a) ∨ ∃ shuf, act = .tick a act.time shuf ∧
      (s.node a).nextTick = act.time ∧ s'.node a = (onTick c a act.time shuf (s.node a)).1 := by
  rcases h.node a with e | ⟨r, soup, hf, _, e⟩ <;> rw [e]
  · exact .inl (.refl _)
  · cases hf with
    | tick shuf hact ht => exact .inr ⟨shuf, hact, ht, rfl⟩
    | msg m hm hd => exact .inl (keep_handleMsg (hN.soup m hm))
    | ind y shuf t hp hk hf => exact .inl keep_onIndTimeout
    | susp y t hp hk hf => exact .inl keep_onSuspTimeout

end HappyModel.C13
