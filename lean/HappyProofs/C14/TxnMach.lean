import HappyProofs.C14.TxnLMach
import HappyProofs.C14.TxnMain
/-!
# Transactions at run level over a KVStore or B-tree: every quiesced run has `MachFacts`

The store's `get` generator of a KVStore or B-tree only waits (`.wait (.get k) j`) and acts in one segment: its read
laws are `wait_reads`, the side invariant they give is `Waits`, and `machFacts_run` is the theorem of `TxnLMach.lean`
for it.

`RInv` is the run invariant `LM.RInv` with that shape of a suspended read written into `PcOK`; `RInv.toLM` forgets the
shape, and `RInv.inflight` rests on it.  `startedIn`, `FInv`, `FirstFacts` are the `LM.` definitions once more; `PcOK` /
`RInv` differ from them in the read clause only.  Nothing here shows that `RInv` holds along a run (`LM.rinv_run` with
`Waits` would): the run-level theorems are stated and proved over the `LM.` definitions; `startedIn`, `FInv`, `PcOK`, `RInv` are
used by `RInv.toLM` / `RInv.inflight` alone, `FirstFacts` by nothing.

`slotSeqB` is the executable form of the schedule hypothesis `SlotSeq`.
-/
namespace HappyModel.C14.SM
open HappyModel.C14 HappyModel.C14.BT

def startedIn (fs : List (Frame TPc)) (id : Nat) : Bool :=
  match frameOf fs id with
  | some f => f.b.isSome
  | none => false

/-- the state of a started frame, by kind of operation (`b`: its first segment) -/
def PcOK (ops : List (Nat × TOp)) (tm : TM) (tlog : List (Nat × Ev)) (id b : Nat) (f : Frame TPc) : TOp → Prop
  | .begin s l => (∃ r, f.pc = .fin r ∨ f.pc = .done r) ∧ (b, Ev.began s) ∈ tlog ∧
      ∃ tx, tm.tx? s = some tx ∧ tx.level = l
  | .write _ _ _ => ∃ r, f.pc = .fin r ∨ f.pc = .done r
  | .abort _ => ∃ r, f.pc = .done r
  | .read s k =>
    (∃ j, f.pc = .rd s k (.wait (.get k) j) ∧ (wsetBefore ops id s).lookup k = none ∧
      ∃ tx, tm.tx? s = some tx ∧ k ∈ tx.rset) ∨
    (∃ c, f.pc = .done (.val c) ∧ (∀ v, (wsetBefore ops id s).lookup k = some v → c = some v) ∧
      ((wsetBefore ops id s).lookup k = none →
        ∃ m e, f.e = some e ∧ b ≤ m ∧ m ≤ e ∧ (m, Ev.fetched s k c) ∈ tlog))
  | .commit s => (f.pc = .fin (.flag true) ∨ ∃ fl, f.pc = .done (.flag fl)) ∧
      (f.pc = .fin (.flag true) ∨ f.pc = .done (.flag true) →
        (b, Ev.committed s (wsetBefore ops id s)) ∈ tlog)

structure FInv (ops : List (Nat × TOp)) (tm : TM) (tlog : List (Nat × Ev)) (n id : Nat) (op : TOp)
    (f : Frame TPc) : Prop where
  fresh : f.b = none → f.pc = .start op
  blt : ∀ b, f.b = some b → b < n
  fin : ∀ b, f.b = some b → f.pc.isDone = true → ∃ e, f.e = some e ∧ b ≤ e ∧ e < n
  kind : ∀ b, f.b = some b → PcOK ops tm tlog id b f op

structure RInv (ok : Store → Prop) (init : Key → Option Nat) (ops : List (Nat × TOp)) (tm : TM)
    (fs : List (Frame TPc)) (n : Nat) (tlog : List (Nat × Ev)) : Prop where
  inv : Inv ok init tm (tlog.map (·.2))
  inv2 : Inv2 init tm (tlog.map (·.2))
  times : (tlog.map (·.1)).Pairwise (· < ·)
  tlt : ∀ x ∈ tlog, x.1 < n
  ids : fs.map (·.id) = ops.map (·.1)
  frames : ∀ id f op, frameOf fs id = some f → ops.lookup id = some op → FInv ops tm tlog n id op f
  seq : ∀ pre o post f b, ops = pre ++ o :: post → frameOf fs o.1 = some f → f.b = some b →
    ∀ a ∈ pre, a.2.slot = o.2.slot →
      ∃ g e, frameOf fs a.1 = some g ∧ g.pc.isDone = true ∧ g.e = some e ∧ e < b
  front : ∀ pre o post, ops = pre ++ o :: post → startedIn fs o.1 = false →
    (∀ a ∈ pre, a.2.slot = o.2.slot → startedIn fs a.1 = true) →
    curW tm o.2.slot = wsetBefore ops o.1 o.2.slot
  stat : ∀ s tx, tm.tx? s = some tx → tx.stat ≠ .active →
    ∃ o ∈ ops, o.2.slot = s ∧ o.2.isEnd = true ∧ startedIn fs o.1 = true
  hasB : ∀ s tx, tm.tx? s = some tx → ∃ o ∈ ops, o.2.slot = s ∧ o.2.isBegin = true ∧ startedIn fs o.1 = true
  cev : ∀ m s w, (m, Ev.committed s w) ∈ tlog → ∃ id f, frameOf fs id = some f ∧
    ops.lookup id = some (.commit s) ∧ f.b = some m ∧ (f.pc = .fin (.flag true) ∨ f.pc = .done (.flag true)) ∧
    w = wsetBefore ops id s

/-- what holds when operation `(id, op)` is about to run its first segment -/
structure FirstFacts (ops : List (Nat × TOp)) (tm : TM) (fs : List (Frame TPc)) (n : Nat)
    (pre post : List (Nat × TOp)) (id : Nat) (op : TOp) : Prop where
  before : ∀ a ∈ pre, a.2.slot = op.slot →
    ∃ g b e, frameOf fs a.1 = some g ∧ g.b = some b ∧ g.pc.isDone = true ∧ g.e = some e ∧ e < n
  after : ∀ a ∈ post, a.2.slot = op.slot → startedIn fs a.1 = false
  wset : curW tm op.slot = wsetBefore ops id op.slot
  active : op.isBegin = false → ∃ tx, tm.tx? op.slot = some tx ∧ tx.stat = .active
  fresh : op.isBegin = true → tm.tx? op.slot = none

/-- every suspended read sits in the waiting loop of the store's `get` -/
def Waits (fs : List (Frame TPc)) : Prop := LM.Reads (fun _ k p => ∃ j, p = .wait (.get k) j) fs

section bridge
variable {ops : List (Nat × TOp)} {tm : TM} {tlog : List (Nat × Ev)} {n id b : Nat} {f : Frame TPc} {op : TOp}

theorem PcOK.toLM (h : PcOK ops tm tlog id b f op) : LM.PcOK ops tm tlog id b f op := by
  cases op with
  | read s k =>
    rcases h with ⟨j, h⟩ | h
    · exact .inl ⟨_, h⟩
    · exact .inr h
  | _ => exact h

end bridge

variable {ok : Store → Prop} {init : Key → Option Nat} {ops : List (Nat × TOp)} {tm : TM}
  {fs fs' : List (Frame TPc)} {n : Nat} {tlog : List (Nat × Ev)}

theorem RInv.toLM (R : RInv ok init ops tm fs n tlog) : LM.RInv ok init ops tm fs n tlog :=
  { inv := R.inv, inv2 := R.inv2, times := R.times, tlt := R.tlt, ids := R.ids,
    frames := fun id f op hf hl =>
      have F := R.frames id f op hf hl
      ⟨F.fresh, F.blt, F.fin, fun b hb => (F.kind b hb).toLM⟩,
    seq := R.seq, front := R.front, stat := R.stat, hasB := R.hasB, cev := R.cev }

/-- a read that is still inside the store's `get` belongs to an active transaction -/
theorem RInv.inflight (R : RInv ok init ops tm fs n tlog) (hwf : WFProg ops) {id b s : Nat} {k : Key}
    {f : Frame TPc} (hlk : ops.lookup id = some (.read s k)) (hf : frameOf fs id = some f) (hb : f.b = some b)
    (hnd : f.pc.isDone = false) :
    ∃ j tx, f.pc = .rd s k (.wait (.get k) j) ∧ (wsetBefore ops id s).lookup k = none ∧
      tm.tx? s = some tx ∧ tx.stat = .active ∧ k ∈ tx.rset := by
  obtain ⟨_, tx, _, h⟩ := R.toLM.inflight hwf hlk hf hb hnd
  rcases (R.frames id f _ hf hlk).kind b hb with ⟨j, hj, _⟩ | ⟨c, hc, _⟩
  · exact ⟨j, tx, hj, h⟩
  · rw [hc] at hnd
    cases hnd

/-- KVStore / B-tree: a suspended `get` waits and then acts in one segment, at every isolation level -/
theorem wait_reads (nolsm : ∀ s, ok s → ∀ op, lsmStart s op = none) :
    LM.ReadLaws ok (fun _ => True) fun _ _ k p => ∃ j, p = .wait (.get k) j where
  start := fun {tm s k} hok => by
    rcases readAdvance_start tm s k (nolsm _ hok (.get k)) with e | ⟨j, e⟩
    · exact .inl (by rw [e])
    · exact .inr ⟨_, by rw [e], j, rfl⟩
  step := fun {tm s k p _} _ _ h => by
    obtain ⟨j, rfl⟩ := h
    rcases readAdvance_wait tm s k j with e | ⟨j', e⟩
    · exact .inl (by rw [e])
    · exact .inr ⟨_, by rw [e], j', rfl⟩
  keep := fun _ _ h _ _ => h

theorem waits_side (hwf : WFProg ops) (nolsm : ∀ s, ok s → ∀ op, lsmStart s op = none) :
    LM.Side ok init ops fun _ fs => Waits fs :=
  LM.side_of_reads hwf (wait_reads nolsm) fun _ _ _ _ _ => trivial

theorem machFacts_run (ok : Store → Prop) (L : MapLaws ok) (nolsm : ∀ s, ok s → ∀ op, lsmStart s op = none)
    (s0 : Store) (h0 : ok s0) (ops : List (Nat × TOp)) (sched : List Nat)
    (hwf : WFProg ops) (hseq : SlotSeq ops { store := s0 } sched)
    (hq : Quiesced (runFrames stepT TPc.isDone { store := s0 } (framesOfT ops) 0 sched).2) :
    ∃ tlog, MachFacts ok ops { store := s0 }
      (runFrames stepT TPc.isDone { store := s0 } (framesOfT ops) 0 sched).1
      (runFrames stepT TPc.isDone { store := s0 } (framesOfT ops) 0 sched).2 tlog :=
  LM.machFacts_run ok L s0 h0 ops sched hwf hseq (waits_side hwf nolsm) (LM.reads_init _ ops) hq

/-- walking the program: whenever an operation has id `id`, the operations of its slot in the walked
    prefix `pre` are done in `fs` -/
def seqOK (fs : List (Frame TPc)) (id : Nat) : List (Nat × TOp) → List (Nat × TOp) → Bool
  | _, [] => true
  | pre, o :: post =>
    (o.1 != id || pre.all fun a => a.2.slot != o.2.slot || doneIn fs a.1) && seqOK fs id (pre ++ [o]) post

theorem seqOK_sound (fs : List (Frame TPc)) (id : Nat) (rest : List (Nat × TOp)) :
    ∀ pre, seqOK fs id pre rest = true → ∀ p o q, rest = p ++ o :: q → o.1 = id →
      ∀ a ∈ pre ++ p, a.2.slot = o.2.slot → doneIn fs a.1 = true := by
  induction rest with
  | nil => intro pre _ p o q h; simp at h
  | cons x rest ih =>
    intro pre h p o q hsp hid a ha hs
    simp only [seqOK, Bool.and_eq_true, Bool.or_eq_true, bne_iff_ne, ne_eq, List.all_eq_true] at h
    cases p with
    | nil =>
      simp only [List.nil_append, List.cons.injEq] at hsp
      obtain ⟨rfl, _⟩ := hsp
      rcases h.1 with h1 | h1
      · exact absurd hid h1
      · rcases h1 a (by simpa using ha) with h2 | h2
        · exact absurd hs h2
        · exact h2
    | cons y p =>
      simp only [List.cons_append, List.cons.injEq] at hsp
      obtain ⟨rfl, hsp⟩ := hsp
      exact ih (pre ++ [x]) h.2 p o q hsp hid a (by simpa using ha) hs

def slotSeqB (ops : List (Nat × TOp)) (tm0 : TM) (sched : List Nat) : Bool :=
  (List.range sched.length).all fun n =>
    match sched[n]? with
    | some id => seqOK (runFrames stepT TPc.isDone tm0 (framesOfT ops) 0 (sched.take n)).2 id [] ops
    | none => true

theorem slotSeq_of_B (ops : List (Nat × TOp)) (tm0 : TM) (sched : List Nat)
    (h : slotSeqB ops tm0 sched = true) : SlotSeq ops tm0 sched := by
  intro n pre o post hn hsp a ha hs
  obtain ⟨hlt, _⟩ := List.getElem?_eq_some_iff.1 hn
  simp only [slotSeqB, List.all_eq_true, List.mem_range] at h
  have := h n hlt
  rw [hn] at this
  exact seqOK_sound _ _ ops [] this pre o post hsp rfl a (by simpa using ha) hs


/-- a SNAPSHOT_ISOLATION reader (slot 0) and a SERIALIZABLE writer (slot 1) -/
def exOps : List (Nat × TOp) :=
  [(0, .begin 0 .si), (1, .begin 1 .ser), (2, .read 0 0), (3, .write 1 0 99), (4, .write 1 1 98),
   (5, .commit 1), (6, .read 0 1), (7, .commit 0)]

/-- the reader's second read starts before the writer's commit and fetches after it -/
def exSched : List Nat := [0, 1, 0, 1, 2, 3, 2, 3, 4, 4, 6, 5, 5, 6, 7, 7]

def exRun : TM × List (Frame TPc) :=
  runFrames stepT TPc.isDone { store := exStore } (framesOfT exOps) 0 exSched

def exVal (id : Nat) : Option (Option Nat) :=
  match exRun.2.find? fun f => f.id == id with
  | some f => (match f.pc with
    | .done (.val c) => some c
    | _ => none)
  | none => none

def exFlag (id : Nat) : Option Bool :=
  match exRun.2.find? fun f => f.id == id with
  | some f => (match f.pc with
    | .done (.flag b) => some b
    | _ => none)
  | none => none

example : WFProg exOps := ⟨by decide +kernel, by decide +kernel, by decide +kernel⟩

example : slotSeqB exOps { store := exStore } exSched = true := by decide +kernel

/-- all frames are done (hence the run is quiesced); the writer committed (the store holds 98 under key 1)
    and the reader's second read, fetched after that commit, returned the snapshot value 11 -/
example :
    exRun.2.all (fun f => f.pc.isDone) = true ∧
    exRun.2.map (fun f => (f.id, f.b, f.e)) =
      [(0, some 0, some 2), (1, some 1, some 3), (2, some 4, some 6), (3, some 5, some 7),
       (4, some 8, some 9), (5, some 11, some 12), (6, some 10, some 13), (7, some 14, some 15)] ∧
    exFlag 5 = some true ∧ exRun.1.store.getSync 1 = some 98 ∧
    exVal 2 = some (some 10) ∧ exVal 6 = some (some 11) ∧ exFlag 7 = some true := by
  decide +kernel

example : Quiesced exRun.2 := by
  intro f hf _
  have h : exRun.2.all (fun f => f.pc.isDone) = true := by decide +kernel
  exact List.all_eq_true.1 h f hf

/-- the hypotheses of `machFacts_run` hold for the example (`kvOk` stores have no LSM `get`) -/
example : ∃ tlog, MachFacts kvOk exOps { store := exStore } exRun.1 exRun.2 tlog :=
  machFacts_run kvOk ⟨kv_laws.1, kv_laws.2⟩
    (by rintro s ⟨d, rfl, _⟩ op; rfl)
    exStore ⟨_, rfl, by unfold SortedKV; decide +kernel⟩ exOps exSched ⟨by decide +kernel, by decide +kernel, by decide +kernel⟩
    (slotSeq_of_B _ _ _ (by decide +kernel))
    (by
      intro f hf _
      have h : exRun.2.all (fun f => f.pc.isDone) = true := by decide +kernel
      exact List.all_eq_true.1 h f hf)

end HappyModel.C14.SM
