import HappyProofs.C09.BulkheadInv
import HappyProofs.C09.BulkheadDriver
/-! Bulkhead: the judge's books follow the driver (model state + engine layer), one lemma per kind of schedule line. -/
namespace HappyModel.C09.Bulkhead
open HappyModel.C09.Extra (BPend)

theorem skipped_expired (w t : Nat) : ∀ (q : List Entry), ∀ e ∈ skipped w t q, isExpired w t e = true
  | [], _, h => by cases h
  | a :: q, e, h => by
    simp only [skipped] at h
    split at h
    · rename_i ha
      rcases List.mem_cons.mp h with rfl | h'
      · exact ha
      · exact skipped_expired w t q e h'
    · cases h

/-- how the judge sees a queue entry, its "waiting form": (caller tag, clock value of the enqueue); not a
    well-formedness predicate, unlike every other `wf` / `Wf` of the directory -/
def wf (e : Entry) : Nat × Nat := (e.rid, e.enq)

def qtags (s : St) : List Nat := s.queue.map Entry.rid

theorem expire_skipped (wait t : Nat) (sk rest : List Entry) (b : Book)
    (hb : b.waiting = (sk ++ rest).map wf) (hex : ∀ e ∈ sk, isExpired wait t e = true) :
    b.expire wait t sk.length = .ok { b with waiting := rest.map wf, timedOut := b.timedOut ++ sk.map Entry.rid } := by
  induction sk generalizing b with
  | nil =>
    obtain ⟨a1, a2, a3, a4, a5, a6, a7, a8, a9, a10, a11⟩ := b
    simp only [List.nil_append] at hb
    subst hb
    simp [Book.expire]
  | cons e sk ih =>
    obtain ⟨a1, a2, a3, a4, a5, a6, a7, a8, a9, a10, a11⟩ := b
    simp only [List.cons_append, List.map_cons] at hb
    subst hb
    have he := hex e (List.mem_cons_self ..)
    simp only [isExpired, Bool.and_eq_true, bne_iff_ne, ne_eq, decide_eq_true_eq] at he
    have hc : ¬ (wait = 0 ∨ t ≤ (wf e).2 + wait) := by simp only [wf]; omega
    simp only [List.length_cons, Book.expire]
    rw [if_neg hc]
    rw [ih _ rfl (fun x hx => hex x (List.mem_cons_of_mem _ hx))]
    simp [wf]

theorem admitAll_nil (b : Book) (t : Nat) : b.admitAll t [] = .ok b := rfl

theorem admitAll_one (b : Book) (t x enq : Nat) (rest : List (Nat × Nat)) (h1 : x ∉ b.timedOut) (h2 : x ∉ b.admitted)
    (hw : b.waiting = (x, enq) :: rest) :
    b.admitAll t [x] = .ok { b with waiting := rest, toStart := b.toStart ++ [(x, t)], admitted := b.admitted ++ [x] } := by
  obtain ⟨a1, a2, a3, a4, a5, a6, a7, a8, a9, a10, a11⟩ := b
  simp only at hw h1 h2
  subst hw
  simp [Book.admitAll, h1, h2]

/-- the judge's books (kept from observations only) against the model state and the driver's engine layer -/
structure Agree (b : Book) (s : St) (p : BPend) : Prop where
  toStart : b.toStart = p.starts
  running : b.running = p.running
  toResp : b.toResp = p.dones
  waiting : b.waiting = s.queue.map wf
  nTimed : b.timedOut.length = s.timedOut
  nAdm : b.admitted.length = s.accepted
  nReq : b.nReq = s.total
  nRej : b.nRej = s.rejected
  nQueued : b.nQueued = s.queued
  active : s.active = p.starts.length + p.running.length + p.dones.length

/-! What the books, the queue and the engine layer know about caller tags, in four parts that move independently;
`seen` are the tags of all requests so far. -/

/-- an admitted request is in at most one of the stages forwarded / running / finished -/
structure Stages (st : List (Nat × Nat)) (run : List Nat) (dn : List (Nat × Nat)) (adm : List Nat) : Prop where
  startsNd : (st.map (·.1)).Nodup
  runNd : run.Nodup
  donesNd : (dn.map (·.1)).Nodup
  d12 : ∀ x ∈ st.map (·.1), x ∉ run
  d13 : ∀ x ∈ st.map (·.1), x ∉ dn.map (·.1)
  d23 : ∀ x ∈ run, x ∉ dn.map (·.1)
  s1 : ∀ x ∈ st.map (·.1), x ∈ adm
  s2 : ∀ x ∈ run, x ∈ adm
  s3 : ∀ x ∈ dn.map (·.1), x ∈ adm

/-- the waiting requests have distinct tags and were neither admitted nor timed out -/
structure QTags (q adm to : List Nat) : Prop where
  qNd : q.Nodup
  qAdm : ∀ x ∈ q, x ∉ adm
  qTo : ∀ x ∈ q, x ∉ to

structure Seen (adm to q : List Nat) (tm : List (Nat × Nat × Nat)) (seen : List Nat) : Prop where
  admSeen : ∀ x ∈ adm, x ∈ seen
  toSeen : ∀ x ∈ to, x ∈ seen
  qSeen : ∀ x ∈ q, x ∈ seen
  tmSeen : ∀ e ∈ tm, e.1 ∈ seen

/-- the pending timers (tag, bulkhead id, due time) against the queue -/
structure Tmos (tm : List (Nat × Nat × Nat)) (qu : List Entry) (n wait : Nat) : Prop where
  tmFresh : ∀ e ∈ tm, e.2.1 ≤ n
  tmWait : ∀ e ∈ tm, wait ≠ 0
  tmLink : ∀ e ∈ tm, ∀ q ∈ qu, (q.bid = e.2.1 ↔ q.rid = e.1) ∧ (q.bid = e.2.1 → q.enq + wait = e.2.2)

structure Tags (b : Book) (s : St) (p : BPend) (seen : List Nat) : Prop where
  stages : Stages p.starts p.running p.dones b.admitted
  queue : QTags (qtags s) b.admitted b.timedOut
  seen : Seen b.admitted b.timedOut (qtags s) p.tmos seen
  tmos : Tmos p.tmos s.queue s.nextId s.wait

theorem snoc_tags {P : Nat → Prop} {l : List (Nat × Nat)} {a t : Nat} (h : ∀ x ∈ l.map (·.1), P x) (ha : P a) :
    ∀ x ∈ (l ++ [(a, t)]).map (·.1), P x := by
  rw [List.map_append]; exact snoc_all h ha

theorem filter_tags {l : List (Nat × Nat)} (f : Nat × Nat → Bool) : ∀ x ∈ (l.filter f).map (·.1), x ∈ l.map (·.1) :=
  (List.Sublist.map _ List.filter_sublist).subset

section moves
variable {st dn : List (Nat × Nat)} {run adm to q : List Nat}

theorem Stages.admitOne {x : Nat} (h : Stages st run dn adm) (hx : x ∉ adm) (t : Nat) :
    Stages (st ++ [(x, t)]) run dn (adm ++ [x]) :=
  ⟨by rw [List.map_append]; exact nodup_snoc h.startsNd fun hm => hx (h.s1 x hm), h.runNd, h.donesNd,
   snoc_tags h.d12 fun hr => hx (h.s2 _ hr), snoc_tags h.d13 fun hr => hx (h.s3 _ hr), h.d23,
   snoc_tags (fun y hy => List.mem_append_left _ (h.s1 y hy)) (List.mem_append_right _ (.head _)),
   fun y hy => List.mem_append_left _ (h.s2 y hy), fun y hy => List.mem_append_left _ (h.s3 y hy)⟩

theorem Stages.start {rid t : Nat} (h : Stages st run dn adm) (hm : (rid, t) ∈ st) :
    Stages (st.filter (· != (rid, t))) (run ++ [rid]) dn adm := by
  have hrid : rid ∈ st.map (·.1) := List.mem_map.2 ⟨_, hm, rfl⟩
  have hne : ∀ x ∈ (st.filter (· != (rid, t))).map (·.1), x ≠ rid := by
    rw [(keyed_entry h.startsNd hm).2]
    intro x hx
    obtain ⟨y, hy, rfl⟩ := List.mem_map.1 hx
    simpa using (List.mem_filter.1 hy).2
  exact ⟨h.startsNd.sublist (List.Sublist.map _ List.filter_sublist), nodup_snoc h.runNd (h.d12 rid hrid),
    h.donesNd, fun x hx hr => (mem_snoc hr).elim (h.d12 x (filter_tags _ x hx)) (hne x hx),
    fun x hx => h.d13 x (filter_tags _ x hx), snoc_all h.d23 (h.d13 rid hrid), fun x hx => h.s1 x (filter_tags _ x hx),
    snoc_all h.s2 (h.s1 rid hrid), h.s3⟩

theorem Stages.finish {rid : Nat} (h : Stages st run dn adm) (hm : rid ∈ run) (t : Nat) :
    Stages st (run.filter (· != rid)) (dn ++ [(rid, t)]) adm :=
  have hsub : ∀ x ∈ run.filter (· != rid), x ∈ run ∧ x ≠ rid := fun x hx =>
    ⟨(List.mem_filter.1 hx).1, by simpa using (List.mem_filter.1 hx).2⟩
  ⟨h.startsNd, List.Pairwise.filter _ h.runNd, by rw [List.map_append]; exact nodup_snoc h.donesNd (h.d23 rid hm),
   fun x hx hr => h.d12 x hx (hsub x hr).1,
   fun x hx hr => snoc_tags (fun y hy hs => h.d13 y hs hy) (fun hs => h.d12 rid hs hm) x hr hx,
   fun x hx hr => snoc_tags (fun y hy hs => h.d23 y (hsub y hs).1 hy) (fun hs => (hsub rid hs).2 rfl) x hr hx,
   h.s1, fun x hx => h.s2 x (hsub x hx).1, snoc_tags h.s3 (h.s2 rid hm)⟩

/-- the response of a finished request arrives -/
theorem Stages.drop (h : Stages st run dn adm) (f : Nat × Nat → Bool) : Stages st run (dn.filter f) adm :=
  ⟨h.startsNd, h.runNd, h.donesNd.sublist (List.Sublist.map _ List.filter_sublist),
   h.d12, fun x hx hr => h.d13 x hx (filter_tags _ x hr), fun x hx hr => h.d23 x hx (filter_tags _ x hr),
   h.s1, h.s2, fun x hx => h.s3 x (filter_tags _ x hx)⟩

theorem QTags.enqueue {x : Nat} (h : QTags q adm to) (hq : x ∉ q) (ha : x ∉ adm) (ht : x ∉ to) : QTags (q ++ [x]) adm to :=
  ⟨nodup_snoc h.qNd hq, snoc_all h.qAdm ha, snoc_all h.qTo ht⟩

theorem QTags.sub {q' : List Nat} (h : QTags q adm to) (hs : q'.Sublist q) : QTags q' adm to :=
  ⟨h.qNd.sublist hs, fun x hx => h.qAdm x (hs.subset hx), fun x hx => h.qTo x (hs.subset hx)⟩

theorem QTags.admitOne {x : Nat} (h : QTags q adm to) (hx : x ∉ q) : QTags q (adm ++ [x]) to :=
  ⟨h.qNd, fun y hy hm => (mem_snoc hm).elim (h.qAdm y hy) fun e => hx (e ▸ hy), h.qTo⟩

theorem QTags.expire {o : List Nat} (h : QTags q adm to) (ho : ∀ x ∈ q, x ∉ o) : QTags q adm (to ++ o) :=
  ⟨h.qNd, h.qAdm, fun x hx hm => (List.mem_append.1 hm).elim (h.qTo x hx) (ho x hx)⟩

variable {tm tm' : List (Nat × Nat × Nat)} {seen : List Nat} {qu qu' : List Entry} {n n' wait : Nat}

theorem Seen.cons (h : Seen adm to q tm seen) (r : Nat) : Seen adm to q tm (r :: seen) :=
  ⟨fun x hx => .tail _ (h.admSeen x hx), fun x hx => .tail _ (h.toSeen x hx), fun x hx => .tail _ (h.qSeen x hx),
   fun e he => .tail _ (h.tmSeen e he)⟩

theorem Seen.sub {q' : List Nat} (h : Seen adm to q tm seen) (hq : ∀ x ∈ q', x ∈ q) (ht : ∀ e ∈ tm', e ∈ tm) :
    Seen adm to q' tm' seen :=
  ⟨h.admSeen, h.toSeen, fun x hx => h.qSeen x (hq x hx), fun e he => h.tmSeen e (ht e he)⟩

theorem Seen.expire {o : List Nat} (h : Seen adm to q tm seen) (ho : ∀ x ∈ o, x ∈ seen) : Seen adm (to ++ o) q tm seen :=
  ⟨h.admSeen, fun x hx => (List.mem_append.1 hx).elim (h.toSeen x) (ho x), h.qSeen, h.tmSeen⟩

theorem Seen.admitOne {x : Nat} (h : Seen adm to q tm seen) (hx : x ∈ seen) : Seen (adm ++ [x]) to q tm seen :=
  ⟨snoc_all h.admSeen hx, h.toSeen, h.qSeen, h.tmSeen⟩

theorem Tmos.sub (h : Tmos tm qu n wait) (h1 : ∀ e ∈ tm', e ∈ tm) (h2 : ∀ e ∈ qu', e ∈ qu) (hn : n ≤ n') :
    Tmos tm' qu' n' wait :=
  ⟨fun e he => Nat.le_trans (h.tmFresh e (h1 e he)) hn, fun e he => h.tmWait e (h1 e he),
   fun e he c hc => h.tmLink e (h1 e he) c (h2 c hc)⟩

end moves

structure Peaks (b : Book) (s : St) : Prop where
  peakA : b.peakA = s.peakConc
  peakQ : b.peakQ = s.peakQueue
  geA : s.active ≤ s.peakConc
  geQ : s.queue.length ≤ s.peakQueue

structure PeakEv (s s' : St) : Prop where
  evA : s'.peakConc = if s.peakConc < s'.active then s'.active else s.peakConc
  evQ : s'.peakQueue = if s.peakQueue < s'.queue.length then s'.queue.length else s.peakQueue

theorem peak_keep {p p' a a' : Nat} (h : a ≤ p) (ha : a' ≤ a) (hp : p' = p) : p' = if p < a' then a' else p := by
  rw [hp, if_neg (by omega)]

theorem PeakEv.same (s : St) (hA : s.active ≤ s.peakConc) (hQ : s.queue.length ≤ s.peakQueue) : PeakEv s s :=
  ⟨peak_keep hA (Nat.le_refl _) rfl, peak_keep hQ (Nat.le_refl _) rfl⟩

/-- the result of one line: the judge accepts the model's observation, which carries the counters of the model's
    post-state, and its books still follow -/
def StepOK (max maxQ wait : Nat) (b : Book) (s : St) (p : BPend) (seen : List Nat) (c : Cmd) : Prop :=
  ∃ b', b.apply max maxQ wait (obsOf wait s p c) = .ok b'
    ∧ (∃ o0, obsOf wait s p c = cnt (dstep wait s p c).1.1 o0)
    ∧ Agree b' (dstep wait s p c).1.1 (dstep wait s p c).1.2
    ∧ Tags b' (dstep wait s p c).1.1 (dstep wait s p c).1.2 (reqTags [c] ++ seen)
    ∧ b'.peakA = b.peakA ∧ b'.peakQ = b.peakQ
    ∧ PeakEv s (dstep wait s p c).1.1

theorem start_ok (max maxQ wait : Nat) (b : Book) (s : St) (p : BPend) (seen : List Nat) (t rid : Nat)
    (ag : Agree b s p) (tg : Tags b s p seen) (pk : Peaks b s) (hexp : expected s p (.start t rid) = true) :
    StepOK max maxQ wait b s p seen (.start t rid) := by
  have hc : p.starts.contains (rid, t) = true := hexp
  have hm : (rid, t) ∈ p.starts := List.contains_iff_mem.mp hc
  have hl := keyed_entry tg.stages.startsNd hm
  have hlen := filter_ne_length_nodup p.starts (rid, t) (nodup_of_map _ _ tg.stages.startsNd) hm
  simp only [StepOK, obsOf, dstep, hc, if_true]
  refine ⟨{ b with toStart := b.toStart.filter (·.1 != rid), running := b.running ++ [rid] }, ?_, ⟨_, rfl⟩, ?_,
    { tg with stages := tg.stages.start hm }, rfl, rfl, PeakEv.same s pk.geA pk.geQ⟩
  · simp only [Book.apply, cnt, ag.toStart, hl.1]
    simp
  · refine { ag with toStart := ?_, running := by simp [ag.running], active := ?_ }
    · show b.toStart.filter (·.1 != rid) = p.starts.filter (· != (rid, t))
      rw [ag.toStart, hl.2]
    · have := ag.active
      simp only [List.length_append, List.length_singleton]
      omega

theorem done_ok (max maxQ wait : Nat) (b : Book) (s : St) (p : BPend) (seen : List Nat) (t rid : Nat)
    (ag : Agree b s p) (tg : Tags b s p seen) (pk : Peaks b s) (hexp : expected s p (.done t rid) = true) :
    StepOK max maxQ wait b s p seen (.done t rid) := by
  have hc : p.running.contains rid = true := hexp
  have hm : rid ∈ p.running := List.contains_iff_mem.mp hc
  have hlen := filter_ne_length_nodup p.running rid tg.stages.runNd hm
  simp only [StepOK, obsOf, dstep, hc, if_true]
  refine ⟨{ b with running := b.running.filter (· != rid), toResp := b.toResp ++ [(rid, t)] }, ?_, ⟨_, rfl⟩, ?_,
    { tg with stages := tg.stages.finish hm t }, rfl, rfl, PeakEv.same s pk.geA pk.geQ⟩
  · simp only [Book.apply, cnt, ag.running, hc]
    simp
  · refine { ag with running := by simp [ag.running], toResp := by simp [ag.toResp], active := ?_ }
    have := ag.active
    simp only [List.length_append, List.length_singleton]
    omega

theorem fin_ok (max maxQ wait : Nat) (b : Book) (s : St) (p : BPend) (seen : List Nat) (t : Nat) (hw : s.wait = wait)
    (ag : Agree b s p) (tg : Tags b s p seen) (pk : Peaks b s) (hexp : expected s p (.fin t) = true) :
    StepOK max maxQ wait b s p seen (.fin t) := by
  simp only [expected, Bool.and_eq_true, Bool.or_eq_true, List.isEmpty_iff, beq_iff_eq] at hexp
  obtain ⟨⟨h1, h2⟩, h3⟩ := hexp
  simp only [StepOK, obsOf, dstep]
  refine ⟨b, ?_, ⟨_, rfl⟩, ag, tg, rfl, rfl, PeakEv.same s pk.geA pk.geQ⟩
  have h3' : ¬ (wait ≠ 0 ∧ b.waiting ≠ []) := by
    rw [ag.waiting, ← hw]
    rcases h3 with h | h <;> simp [h]
  simp only [Book.apply, cnt, ag.toStart, ag.toResp, h1, h2]
  simp [h3']

theorem Agree.bactive {b : Book} {s : St} {p : BPend} (ag : Agree b s p) : b.active = s.active := by
  rw [Book.active, ag.toStart, ag.running, ag.toResp, ag.active]

theorem req_ok (max maxQ wait : Nat) (b : Book) (s : St) (p : BPend) (seen : List Nat) (t rid : Nat)
    (hm : s.max = max) (hq : s.maxQ = maxQ) (hw : s.wait = wait) (inv : Inv s)
    (ag : Agree b s p) (tg : Tags b s p seen) (pk : Peaks b s) (hfresh : rid ∉ seen) :
    StepOK max maxQ wait b s p seen (.req t rid) := by
  have hnadm : rid ∉ b.admitted := fun h => hfresh (tg.seen.admSeen rid h)
  have hnto : rid ∉ b.timedOut := fun h => hfresh (tg.seen.toSeen rid h)
  have hnq : rid ∉ qtags s := fun h => hfresh (tg.seen.qSeen rid h)
  have sn := tg.seen.cons rid
  have hpA := peak_keep pk.geA (Nat.le_refl _) (rfl : s.peakConc = _)
  simp only [StepOK, obsOf, dstep, reqTags, List.cons_append, List.nil_append]
  by_cases hlt : s.active < s.max
  · simp only [reqStep, step_req_adm s rid t hlt]
    refine ⟨{ b with nReq := b.nReq + 1, toStart := b.toStart ++ [(rid, t)], admitted := b.admitted ++ [rid] }, ?_, ⟨_, rfl⟩, ?_,
      ⟨tg.stages.admitOne hnadm t,
       tg.queue.admitOne hnq, sn.admitOne (.head _),
       tg.tmos.sub (fun _ h => h) (fun _ h => h) (Nat.le_succ _)⟩, rfl, rfl, rfl, peak_keep pk.geQ (Nat.le_refl _) rfl⟩
    · simp only [Book.apply, cnt]
      simp [hnadm]
    · refine { ag with toStart := by simp [ag.toStart], nAdm := by simp [ag.nAdm, forward],
                         nReq := by simp [ag.nReq, forward], active := ?_ }
      have := ag.active
      simp only [forward, List.length_append, List.length_singleton]
      omega
  · by_cases hroom : s.queue.length < s.maxQ
    · simp only [reqStep, step_req_queued s rid t hlt hroom]
      have hqt : qtags (enqueue { s with total := s.total + 1 } rid t) = qtags s ++ [rid] := by simp [qtags, enqueue]
      have hseen : ∀ e ∈ p.tmos, e.1 ≠ rid := fun e he h => hfresh (h ▸ tg.seen.tmSeen e he)
      -- the timers: the old ones do not know the new entry, the new one (if any) knows no old entry
      have htm : ∀ tm', (∀ e ∈ tm', e ∈ p.tmos ∨ (s.wait ≠ 0 ∧ e = (rid, s.nextId + 1, t + s.wait))) →
          Tmos tm' (s.queue ++ [⟨s.nextId + 1, rid, t⟩]) (s.nextId + 1) s.wait := by
        intro tm' h
        refine ⟨fun e he => ?_, fun e he => ?_, fun e he q hq' => ?_⟩
        · rcases h e he with h | h
          · exact Nat.le_succ_of_le (tg.tmos.tmFresh e h)
          · rw [h.2]; exact Nat.le_refl _
        · exact (h e he).elim (tg.tmos.tmWait e) (·.1)
        · rcases h e he with h | h <;> rcases mem_snoc hq' with hq1 | hq1
          · exact tg.tmos.tmLink e h q hq1
          · subst hq1
            have h1 := tg.tmos.tmFresh e h
            have h2 := hseen e h
            exact ⟨⟨fun hh => by simp only at hh; omega, fun hh => absurd hh.symm h2⟩, fun hh => by simp only at hh; omega⟩
          · have h1 := inv.fresh q.bid (List.mem_append_right _ (List.mem_map_of_mem hq1))
            have h2 : q.rid ≠ rid := fun he => hnq (he ▸ List.mem_map_of_mem (f := Entry.rid) hq1)
            rw [h.2]
            exact ⟨⟨fun hh => by simp only at hh; omega, fun hh => absurd hh h2⟩, fun hh => by simp only at hh; omega⟩
          · subst hq1; rw [h.2]
            exact ⟨⟨fun _ => rfl, fun _ => rfl⟩, fun _ => rfl⟩
      refine ⟨{ b with nReq := b.nReq + 1, nQueued := b.nQueued + 1, waiting := b.waiting ++ [(rid, t)] }, ?_, ⟨_, rfl⟩, ?_, ?_,
        rfl, rfl, hpA, by simp [enqueue]⟩
      · simp only [Book.apply, cnt]
        simp
      · have hag : ∀ tm', Agree { b with nReq := b.nReq + 1, nQueued := b.nQueued + 1, waiting := b.waiting ++ [(rid, t)] }
            (enqueue { s with total := s.total + 1 } rid t) { p with tmos := tm' } := fun tm' =>
          { ag with waiting := by simp [ag.waiting, enqueue, wf], nReq := by simp [ag.nReq, enqueue],
                    nQueued := by simp [ag.nQueued, enqueue] }
        split
        · exact hag _
        · exact hag _
      · have htg : ∀ tm', (∀ e ∈ tm', e ∈ p.tmos ∨ (s.wait ≠ 0 ∧ e = (rid, s.nextId + 1, t + s.wait))) →
            Tags { b with nReq := b.nReq + 1, nQueued := b.nQueued + 1, waiting := b.waiting ++ [(rid, t)] }
              (enqueue { s with total := s.total + 1 } rid t) { p with tmos := tm' } (rid :: seen) := fun tm' h =>
          ⟨tg.stages, hqt ▸ tg.queue.enqueue hnq hnadm hnto,
           ⟨sn.admSeen, sn.toSeen, hqt ▸ snoc_all sn.qSeen (.head _),
            fun e he => (h e he).elim (sn.tmSeen e) fun h => h.2 ▸ .head _⟩, htm tm' h⟩
        split
        · exact htg _ fun e he => .inl he
        · rename_i hw0
          refine htg _ fun e he => ?_
          rcases mem_snoc he with h | h
          · exact .inl h
          · exact .inr ⟨by rw [hw]; exact hw0, by rw [h, hw]⟩
    · simp only [reqStep, step_req_rej s rid t hlt hroom]
      refine ⟨{ b with nReq := b.nReq + 1, nRej := b.nRej + 1 }, ?_, ⟨_, rfl⟩, ?_, { tg with seen := sn }, rfl, rfl,
        hpA, peak_keep pk.geQ (Nat.le_refl _) rfl⟩
      · have : ¬ (b.active < max ∨ b.waiting.length < maxQ) := by
          rw [ag.bactive, ag.waiting, ← hm, ← hq]; simp; omega
        simp only [Book.apply, cnt]
        simp [this]
      · exact { ag with nReq := by simp [ag.nReq], nRej := by simp [ag.nRej] }

theorem tmo_ok (max maxQ wait : Nat) (b : Book) (s : St) (p : BPend) (seen : List Nat) (t rid : Nat)
    (hw : s.wait = wait)
    (ag : Agree b s p) (tg : Tags b s p seen) (pk : Peaks b s) (hexp : expected s p (.tmo t rid) = true) :
    StepOK max maxQ wait b s p seen (.tmo t rid) := by
  simp only [expected] at hexp
  cases hf : p.tmos.find? (fun e => e.1 == rid && e.2.2 == t) with
  | none => rw [hf] at hexp; cases hexp
  | some e =>
    have hmem : e ∈ p.tmos := List.mem_of_find?_eq_some hf
    have hprop := List.find?_some hf
    simp only [Bool.and_eq_true, beq_iff_eq] at hprop
    obtain ⟨he1, he2⟩ := hprop
    have hlink := tg.tmos.tmLink e hmem
    have hw0 : wait ≠ 0 := by rw [← hw]; exact tg.tmos.tmWait e hmem
    have hsubT : ∀ x ∈ p.tmos.filter (·.1 != rid), x ∈ p.tmos := fun x hx => (List.mem_filter.mp hx).1
    have hpA := peak_keep pk.geA (Nat.le_refl _) (rfl : s.peakConc = _)
    -- in the queue the timer's id and the tag name the same entry
    have hiff : ∀ q ∈ s.queue, q.bid = e.2.1 ↔ q.rid = rid := fun q hq => he1 ▸ (hlink q hq).1
    simp only [StepOK, obsOf, dstep, tmoStep, hf, reqTags, List.nil_append]
    cases hany : s.queue.any (·.bid == e.2.1) with
    | true =>
      rw [step_tmo_hit s e.2.1 t hany]
      simp only [show (Res.timedOut == Res.timedOut) = true from by decide, if_true]
      have hfilter : (s.queue.map wf).filter (·.1 != rid) = (s.queue.filter (·.bid != e.2.1)).map wf := by
        rw [List.filter_map]
        refine congrArg _ (List.filter_congr fun q hq => ?_)
        rw [Function.comp, bne, bne, Bool.eq_iff_iff]
        simpa [wf] using not_congr (hiff q hq).symm
      have hsubQ : ((s.queue.filter (·.bid != e.2.1)).map Entry.rid).Sublist (qtags s) :=
        List.Sublist.map _ List.filter_sublist
      have hneQ : ∀ x ∈ (s.queue.filter (·.bid != e.2.1)).map Entry.rid, x ∉ [rid] := by
        intro x hx hr
        obtain ⟨q, hq, rfl⟩ := List.mem_map.mp hx
        have hq' := List.mem_filter.1 hq
        exact (by simpa using hq'.2 : q.bid ≠ e.2.1) ((hiff q hq'.1).2 (List.mem_singleton.1 hr))
      -- what the judge finds under the tag
      obtain ⟨q, hq, hb⟩ := List.any_eq_true.1 hany
      have hb : q.bid = e.2.1 := by simpa using hb
      obtain ⟨e', hfe, hdue⟩ : ∃ e', b.waiting.find? (·.1 == rid) = some e' ∧ e'.2 + wait = t := by
        rw [ag.waiting]
        cases hf2 : (s.queue.map wf).find? (·.1 == rid) with
        | none =>
          exact absurd (by simpa [wf] using (hiff q hq).1 hb) (List.find?_eq_none.1 hf2 (wf q) (List.mem_map_of_mem hq))
        | some e' =>
          obtain ⟨q', hq', rfl⟩ := List.mem_map.mp (List.mem_of_find?_eq_some hf2)
          have hb' := (hiff q' hq').2 (by simpa [wf] using List.find?_some hf2)
          exact ⟨_, rfl, by show q'.enq + wait = t; rw [← hw, (hlink q' hq').2 hb', he2]⟩
      refine ⟨{ b with waiting := b.waiting.filter (·.1 != rid), timedOut := b.timedOut ++ [rid] }, ?_, ⟨_, rfl⟩, ?_,
        ⟨tg.stages, (tg.queue.sub hsubQ).expire hneQ,
         (tg.seen.sub hsubQ.subset hsubT).expire fun x hx => List.mem_singleton.1 hx ▸ he1 ▸ tg.seen.tmSeen e hmem,
         tg.tmos.sub hsubT (fun _ h => (List.mem_filter.1 h).1) (Nat.le_refl _)⟩, rfl, rfl, hpA,
        peak_keep pk.geQ (List.length_filter_le _ _) rfl⟩
      · have hc : ¬ (wait = 0 ∨ t < e'.2 + wait) := by omega
        simp only [Book.apply, cnt]
        simp only [ne_eq, not_true_eq_false, if_false]
        rw [hfe]
        simp [hc]
      · exact { ag with waiting := by simp only [ag.waiting, hfilter], nTimed := by simp [ag.nTimed] }
    | false =>
      rw [step_tmo_miss s e.2.1 t hany]
      simp only [show (Res.noop == Res.timedOut) = false from by decide, Bool.false_eq_true, if_false]
      refine ⟨b, ?_, ⟨_, rfl⟩, { ag with },
        { tg with seen := tg.seen.sub (fun _ h => h) hsubT, tmos := tg.tmos.sub hsubT (fun _ h => h) (Nat.le_refl _) },
        rfl, rfl, PeakEv.same s pk.geA pk.geQ⟩
      have hnone : b.waiting.find? (·.1 == rid) = none := by
        rw [ag.waiting, List.find?_eq_none]
        intro x hx hx1
        obtain ⟨q, hq, rfl⟩ := List.mem_map.mp hx
        exact List.any_eq_false.1 hany q hq (by simpa using (hiff q hq).2 (by simpa [wf] using hx1))
      simp only [Book.apply, cnt]
      simp only [ne_eq, not_true_eq_false, if_false]
      rw [hnone]
      simp

theorem resp_ok (max maxQ wait : Nat) (b : Book) (s : St) (p : BPend) (seen : List Nat) (t rid : Nat)
    (hw : s.wait = wait) (inv : Inv s)
    (ag : Agree b s p) (tg : Tags b s p seen) (pk : Peaks b s) (hexp : expected s p (.resp t rid) = true) :
    StepOK max maxQ wait b s p seen (.resp t rid) := by
  simp only [expected, Bool.and_eq_true] at hexp
  obtain ⟨hc, hsome⟩ := hexp
  cases hf : s.inflight.find? (·.2 == rid) with
  | none => rw [hf] at hsome; cases hsome
  | some e =>
    have hmemI : e ∈ s.inflight := List.mem_of_find?_eq_some hf
    have hany : s.inflight.any (·.1 == e.1) = true := List.any_eq_true.mpr ⟨e, hmemI, by simp⟩
    have hm : (rid, t) ∈ p.dones := List.contains_iff_mem.mp hc
    have hl := keyed_entry tg.stages.donesNd hm
    have hlen := filter_ne_length_nodup p.dones (rid, t) (nodup_of_map _ _ tg.stages.donesNd) hm
    have hpos : 0 < s.active := by rw [inv.act]; exact List.length_pos_of_mem hmemI
    have hbound := inv.bound
    have hact := ag.active
    have hsplit := skipped_append_remaining s.wait t s.queue
    have hfindR : b.toResp.find? (·.1 == rid) = some (rid, t) := by rw [ag.toResp]; exact hl.1
    -- the judge's walk over the expired prefix
    have hexpire : ({ b with toResp := b.toResp.filter (·.1 != rid) } : Book).expire wait t (skipped s.wait t s.queue).length
        = .ok { b with toResp := b.toResp.filter (·.1 != rid), waiting := (remaining s.wait t s.queue).map wf,
                       timedOut := b.timedOut ++ (skipped s.wait t s.queue).map Entry.rid } :=
      expire_skipped wait t (skipped s.wait t s.queue) (remaining s.wait t s.queue)
        { b with toResp := b.toResp.filter (·.1 != rid) } (by show b.waiting = _; rw [hsplit, ag.waiting])
        (by rw [← hw]; exact skipped_expired s.wait t s.queue)
    have hqt : qtags s = (skipped s.wait t s.queue).map Entry.rid ++ (remaining s.wait t s.queue).map Entry.rid := by
      rw [qtags, ← List.map_append, hsplit]
    have hdisj := (List.nodup_append.1 (hqt ▸ tg.queue.qNd)).2.2
    have hskt : ∀ x ∈ (skipped s.wait t s.queue).map Entry.rid, x ∈ seen := fun x hx =>
      tg.seen.qSeen x (hqt ▸ List.mem_append_left _ hx)
    have hlenq : (skipped s.wait t s.queue).length + (remaining s.wait t s.queue).length = s.queue.length := by
      rw [← List.length_append, hsplit]
    have hn : s.timedOut + (skipped s.wait t s.queue).length - b.timedOut.length = (skipped s.wait t s.queue).length := by
      rw [ag.nTimed]; omega
    simp only [StepOK, obsOf, dstep, respStep, hc, hf, reqTags, List.nil_append, step_resp_known s e.1 t hany,
      tryProcess_free { s with inflight := s.inflight.eraseP (·.1 == e.1), active := s.active - 1 } t
        (by show s.active - 1 < s.max; omega)]
    cases hrem : remaining s.wait t s.queue with
    | nil =>
      dsimp only
      rw [hrem] at hexpire hlenq
      refine ⟨{ b with toResp := b.toResp.filter (·.1 != rid), waiting := ([] : List Entry).map wf,
                       timedOut := b.timedOut ++ (skipped s.wait t s.queue).map Entry.rid }, ?_, ⟨_, rfl⟩, ?_,
        ⟨tg.stages.drop _, (tg.queue.sub (List.nil_sublist _)).expire nofun,
         (tg.seen.sub (q' := []) nofun fun _ h => h).expire hskt, tg.tmos.sub (fun _ h => h) nofun (Nat.le_refl _)⟩,
        rfl, rfl, peak_keep pk.geA (Nat.sub_le _ 1) rfl, peak_keep pk.geQ (Nat.zero_le _) rfl⟩
      · simp only [Book.apply, cnt]
        rw [hfindR]
        simp only [ne_eq, not_true_eq_false, if_false]
        rw [hn, hexpire]
        rfl
      · exact { ag with toResp := by simp only [ag.toResp, hl.2], waiting := rfl, nTimed := by simp [ag.nTimed],
                        active := by dsimp only; omega }
    | cons e' es =>
      dsimp only
      rw [hrem] at hexpire hqt hdisj hlenq
      have hsub : (es.map Entry.rid).Sublist (qtags s) :=
        hqt ▸ (List.sublist_cons_self _ _).trans (List.sublist_append_right _ _)
      have hremNd := (List.nodup_cons.1 (List.nodup_append.1 (hqt ▸ tg.queue.qNd)).2.1)
      have he'q : e'.rid ∈ qtags s := hqt ▸ List.mem_append_right _ (.head _)
      have he'adm : e'.rid ∉ b.admitted := tg.queue.qAdm _ he'q
      have he'to : e'.rid ∉ b.timedOut ++ (skipped s.wait t s.queue).map Entry.rid := fun h =>
        (List.mem_append.1 h).elim (tg.queue.qTo _ he'q) fun h => hdisj _ h e'.rid (.head _) rfl
      refine ⟨{ b with toResp := b.toResp.filter (·.1 != rid), waiting := es.map wf,
                       timedOut := b.timedOut ++ (skipped s.wait t s.queue).map Entry.rid,
                       toStart := b.toStart ++ [(e'.rid, t)], admitted := b.admitted ++ [e'.rid] }, ?_, ⟨_, rfl⟩, ?_,
        ⟨(tg.stages.drop _).admitOne he'adm t,
         ((tg.queue.sub hsub).admitOne hremNd.1).expire fun x hx h => hdisj _ h x (.tail _ hx) rfl,
         ((tg.seen.sub hsub.subset fun _ h => h).admitOne (tg.seen.qSeen _ he'q)).expire hskt,
         tg.tmos.sub (fun _ h => h) (fun q hq => hsplit ▸ hrem ▸ List.mem_append_right _ (.tail _ hq)) (Nat.le_succ _)⟩,
        rfl, rfl, rfl, ?_⟩
      · simp only [Book.apply, cnt, forward]
        rw [hfindR]
        simp only [ne_eq, not_true_eq_false, if_false]
        rw [hn, hexpire]
        exact admitAll_one _ t e'.rid e'.enq (es.map wf) he'to he'adm rfl
      · exact { ag with toStart := by simp [ag.toStart], toResp := by simp only [ag.toResp, hl.2], waiting := rfl,
                        nTimed := by simp [ag.nTimed, forward], nAdm := by simp [ag.nAdm, forward],
                        active := by simp only [forward, List.length_append, List.length_singleton]; omega }
      · refine peak_keep pk.geQ ?_ rfl
        simp only [forward, List.length_cons] at hlenq ⊢
        omega

end HappyModel.C09.Bulkhead
