import HappyModel.C17.Base
namespace HappyModel.C17

theorem upd_upd {β} (f : Nat → β) (i : Nat) (x y : β) : upd (upd f i x) i y = upd f i y := by
  funext j
  simp only [upd_apply]
  split <;> rfl

theorem upd_some {β} {f : Nat → Option β} {i j : Nat} {x y : β} (h : upd f i (some x) j = some y) :
    (j = i ∧ y = x) ∨ (j ≠ i ∧ f j = some y) := by
  rw [upd_apply] at h
  split at h
  · exact Or.inl ⟨‹_›, (Option.some.inj h).symm⟩
  · exact Or.inr ⟨‹_›, h⟩

theorem lt_of_fresh {β} {f : Nat → Option β} {n i : Nat} {x : β} (hf : ∀ j, n ≤ j → f j = none) (h : f i = some x) :
    i < n :=
  Nat.lt_of_not_le fun c => nomatch h.symm.trans (hf i c)

end HappyModel.C17
