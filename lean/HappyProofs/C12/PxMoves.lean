import HappyProofs.C12.PxBallot
/-!
A step of `Px` is a short sequence of guarded atomic changes of the state (`Move`): a slot is emptied, a promise given
or counted, phase 2 opened, a vote cast or counted, a value decided or learned, a future registered, attached or
resolved, a ballot retired or begun, a ballot number raised by a nack.  `Px.step` is unfolded in this file only: the equations `step_propose_*` …
`step_recvDecided_*` say what it does, action by action, over the state transformers (a `match` on a message slot is
resolved by a hypothesis), and `step_moves` reads them as moves.  An invariant is proved move by move and then holds
along every run (`Moves.keeps`).
-/
namespace HappyModel.C12.Px

/-- a `PaxosNack` raises the owner's ballot number -/
def nackSt (s : St) (b hi : Nat) : St := { s with cur := upd s.cur (b % s.cfg.n) (max (s.cur (b % s.cfg.n)) hi) }

/-- `propose(v)` on node `p` returns a new future -/
def regFut (s : St) (p : Nat) (v : Val) : St :=
  { s with nfut := s.nfut + 1, futOwner := upd s.futOwner s.nfut p, proposedVals := v :: s.proposedVals }

def resolveFut (s : St) (f : Nat) (d : Val) : St := { s with futRes := upd s.futRes f (some d) }

def attachFut (s : St) (b f : Nat) : St := { s with futOf := upd s.futOf b (some f) }

/-- a retry abandons ballot `bo`; its future goes to the new ballot `bn` -/
def retireSt (s : St) (bo bn : Nat) : St :=
  { s with live := upd s.live bo false, futOf := upd (upd s.futOf bn (s.futOf bo)) bo none }

theorem step_propose_out (s : St) (p b : Nat) (v : Val) (hp : ¬ p < s.cfg.n) : step s (.propose p b v) = s := by
  simp only [step, if_neg hp]

theorem step_propose_decided {s : St} {p : Nat} {d : Val} (b : Nat) (v : Val) (hp : p < s.cfg.n) (hd : s.decided p = some d) :
    step s (.propose p b v) = resolveFut (regFut s p v) s.nfut d := by
  simp only [step, if_pos hp, hd]; rfl

theorem step_propose_undecided {s : St} {p : Nat} (b : Nat) (v : Val) (hp : p < s.cfg.n) (hd : s.decided p = none) :
    step s (.propose p b v) =
      if b % s.cfg.n = p ∧ (s.ownVal b).isNone then beginBallot (attachFut (regFut s p v) b s.nfut) p b v
      else regFut s p v := by
  simp only [step, if_pos hp, hd]; rfl

theorem step_retry (s : St) (p bo bn : Nat) : step s (.retry p bo bn) =
    if p < s.cfg.n ∧ bo % s.cfg.n = p ∧ bn % s.cfg.n = p ∧ s.live bo = true ∧ (s.decided p).isNone ∧ (s.ownVal bn).isNone then
      match ballotVal s bo with
      | some v => beginBallot (retireSt s bo bn) p bn v
      | none => s
    else s := rfl

theorem step_recvPrepare (s : St) (b d : Nat) : step s (.recvPrepare b d) =
    if s.mPrep b d = true ∧ d < s.cfg.n then
      if leOpt (s.acc d).promised b then promiseSt s b d else clearPrep s b d
    else s := rfl

theorem step_recvPromise_none {s : St} {b f : Nat} (h : s.mProm b f = none) : step s (.recvPromise b f) = s := by
  simp only [step, h]

theorem step_recvPromise_some {s : St} {b f : Nat} {r : AccV} (h : s.mProm b f = some r) : step s (.recvPromise b f) =
    if (s.ownVal b).isSome ∧ s.live b = true then
      if s.cfg.q1 ≤ ((countSt s b f r).p1 b).length ∧ (s.started2 b).isNone then startPhase2 (countSt s b f r) b
      else countSt s b f r
    else clearProm s b f := by
  simp only [step, h]; rfl

theorem step_recvAccept_none {s : St} {b d : Nat} (h : s.mAcpt b d = none) : step s (.recvAccept b d) = s := by
  simp only [step, h]

theorem step_recvAccept_some {s : St} {b d : Nat} {v : Val} (h : s.mAcpt b d = some v) : step s (.recvAccept b d) =
    if d < s.cfg.n then if leOpt (s.acc d).promised b then voteSt s b d v else clearAcpt s b d else s := by
  simp only [step, h]; rfl

theorem step_recvAccepted (s : St) (b f : Nat) : step s (.recvAccepted b f) =
    if s.mAcptd b f = true then
      if s.live b = true then
        match s.started2 b with
        | some v => if s.cfg.q2 ≤ ((ackSt s b f).acks b).length then decide_ (ackSt s b f) b v else ackSt s b f
        | none => ackSt s b f
      else clearAcptd s b f
    else s := rfl

theorem step_recvDecided_none {s : St} {f d : Nat} (h : s.mDec f d = none) : step s (.recvDecided f d) = s := by
  simp only [step, h]

theorem step_recvDecided_some {s : St} {f d : Nat} {v : Val} (h : s.mDec f d = some v) : step s (.recvDecided f d) =
    if (s.decided d).isSome then clearDec s f d else clearDec (learnSt s d v) f d := by
  simp only [step, h]; rfl

/-- one guarded atomic change; the guards are what the invariants ask for -/
inductive Move : St → St → Prop
  | dropPrep (s b d) : Move s (clearPrep s b d)
  | dropProm (s b f) : Move s (clearProm s b f)
  | dropAcpt (s b d) : Move s (clearAcpt s b d)
  | dropAcptd (s b f) : Move s (clearAcptd s b f)
  | dropDec (s f d) : Move s (clearDec s f d)
  | nack (s b hi) : Move s (nackSt s b hi)
  | promise {s b d} : s.mPrep b d = true → d < s.cfg.n → leOpt (s.acc d).promised b → Move s (promiseSt s b d)
  | count {s b f r} : s.mProm b f = some r → s.ownVal b ≠ none → Move s (countSt s b f r)
  | phase2 {s b} : s.started2 b = none → s.cfg.q1 ≤ (s.p1 b).length → s.ownVal b ≠ none → s.p1 b ≠ [] →
      Move s (phase2St s b)
  | vote {s b d v} : s.mAcpt b d = some v → d < s.cfg.n → leOpt (s.acc d).promised b → Move s (voteSt s b d v)
  | ack {s b f} : s.mAcptd b f = true → Move s (ackSt s b f)
  | decide {s b v} : s.started2 b = some v → s.cfg.q2 ≤ (s.acks b).length → Move s (decide_ s b v)
  | learn {s f d v} : s.mDec f d = some v → ¬ (s.decided d).isSome → Move s (learnSt s d v)
  | regFut {s p} (v) : p < s.cfg.n → Move s (regFut s p v)
  | resolveFut {s f d} : f < s.nfut → s.decided (s.futOwner f) = some d → Move s (resolveFut s f d)
  | attachFut {s b f} : f < s.nfut → s.futOwner f = b % s.cfg.n → Move s (attachFut s b f)
  | retire {s bo bn} : bo % s.cfg.n = bn % s.cfg.n → Move s (retireSt s bo bn)
  | ballot {s p b v} : p < s.cfg.n → s.ownVal b = none →
      (v ∈ s.proposedVals ∨ ∃ bo, ballotVal s bo = some v) → Move s (beginBallot s p b v)

inductive Moves : St → St → Prop
  | refl (s) : Moves s s
  | snoc {s t u} : Moves s t → Move t u → Moves s u

theorem Moves.one {s t : St} (m : Move s t) : Moves s t := .snoc (.refl s) m

theorem Moves.trans {s t u : St} (h1 : Moves s t) (h2 : Moves t u) : Moves s u := by
  induction h2 with
  | refl => exact h1
  | snoc _ m ih => exact .snoc ih m

theorem Moves.keeps {P : St → Prop} (hm : ∀ s t, Move s t → P s → P t) {s t : St} (h : Moves s t) (hs : P s) : P t := by
  induction h with
  | refl => exact hs
  | snoc _ m ih => exact hm _ _ m ih

theorem startPhase2_moves {s t : St} (h : Moves s t) {b : Nat} (h1 : t.started2 b = none)
    (h2 : t.cfg.q1 ≤ (t.p1 b).length) (h3 : t.ownVal b ≠ none) (h4 : t.p1 b ≠ []) :
    Moves s (startPhase2 t b) := by
  rw [startPhase2_eq]
  split
  · rename_i hq; exact (h.snoc (.phase2 h1 h2 h3 h4)).snoc (.decide (upd_same _ _ _) hq)
  · exact h.snoc (.phase2 h1 h2 h3 h4)

theorem step_moves (s : St) (a : Act) : Moves s (step s a) := by
  cases a with
  | propose p b v =>
    by_cases hpn : p < s.cfg.n
    · have m0 : Moves s (regFut s p v) := .one (.regFut v hpn)
      have hown : (regFut s p v).futOwner s.nfut = p := upd_same _ _ _
      cases hd : s.decided p with
      | some d =>
        rw [step_propose_decided b v hpn hd]
        exact m0.snoc (.resolveFut (Nat.lt_succ_self _) (hown.symm ▸ hd))
      | none =>
        rw [step_propose_undecided b v hpn hd]
        split
        · rename_i hc
          exact (m0.snoc (.attachFut (b := b) (Nat.lt_succ_self _) (hown.trans hc.1.symm))).snoc
            (.ballot hpn (Option.isNone_iff_eq_none.mp hc.2) (Or.inl List.mem_cons_self))
        · exact m0
    · rw [step_propose_out s p b v hpn]; exact .refl s
  | retry p bo bn =>
    rw [step_retry]
    split
    · rename_i hc
      cases hv : ballotVal s bo with
      | some v =>
        exact (Moves.one (.retire (hc.2.1.trans hc.2.2.1.symm))).snoc
          (.ballot hc.1 (Option.isNone_iff_eq_none.mp hc.2.2.2.2.2) (Or.inr ⟨bo, hv⟩))
      | none => exact .refl s
    · exact .refl s
  | nack b hi => exact .one (.nack s b hi)
  | recvPrepare b d =>
    rw [step_recvPrepare]
    split
    · rename_i hc
      split
      · rename_i hle; exact .one (.promise hc.1 hc.2 hle)
      · exact .one (.dropPrep s b d)
    · exact .refl s
  | recvPromise b f =>
    cases hslot : s.mProm b f with
    | none => rw [step_recvPromise_none hslot]; exact .refl s
    | some r =>
      rw [step_recvPromise_some hslot]
      split
      · rename_i hown
        have hown' : s.ownVal b ≠ none := fun h => by rw [h] at hown; exact absurd hown.1 (by simp)
        have m0 : Moves s (countSt s b f r) := .one (.count hslot hown')
        split
        · rename_i hc
          exact startPhase2_moves m0 (Option.isNone_iff_eq_none.mp hc.2) hc.1 hown'
            (by show upd s.p1 b _ b ≠ []; rw [upd_same]; nofun)
        · exact m0
      · exact .one (.dropProm s b f)
  | recvAccept b d =>
    cases hslot : s.mAcpt b d with
    | none => rw [step_recvAccept_none hslot]; exact .refl s
    | some v =>
      rw [step_recvAccept_some hslot]
      split
      · rename_i hdn
        split
        · rename_i hle; exact .one (.vote hslot hdn hle)
        · exact .one (.dropAcpt s b d)
      · exact .refl s
  | recvAccepted b f =>
    rw [step_recvAccepted]
    split
    · rename_i hslot
      split
      · have m0 : Moves s (ackSt s b f) := .one (.ack hslot)
        cases hst : s.started2 b with
        | none => exact m0
        | some v =>
          simp only []
          split
          · rename_i hq; exact m0.snoc (.decide hst hq)
          · exact m0
      · exact .one (.dropAcptd s b f)
    · exact .refl s
  | recvDecided f d =>
    cases hv : s.mDec f d with
    | none => rw [step_recvDecided_none hv]; exact .refl s
    | some v =>
      rw [step_recvDecided_some hv]
      split
      · exact .one (.dropDec s f d)
      · rename_i hn; exact (Moves.one (.learn hv hn)).snoc (.dropDec _ f d)
  | dropPrep b d => exact .one (.dropPrep s b d)
  | dropProm b f => exact .one (.dropProm s b f)
  | dropAcpt b d => exact .one (.dropAcpt s b d)
  | dropAcptd b f => exact .one (.dropAcptd s b f)
  | dropDec f d => exact .one (.dropDec s f d)

theorem run_moves (s : St) (as : List Act) : Moves s (runActs s as) := by
  induction as generalizing s with
  | nil => exact .refl s
  | cons a as ih => exact (step_moves s a).trans (ih _)

theorem Move.inv {s t : St} (m : Move s t) (inv : Inv s) : Inv t := by
  cases m with
  | dropPrep b d => exact inv.clearPrep b d
  | dropProm b f => exact inv.clearProm b f
  | dropAcpt b d => exact inv.clearAcpt b d
  | dropAcptd b f => exact inv.clearAcptd b f
  | dropDec f d => exact inv.clearDec f d
  | promise h1 h2 h3 => exact inv.promise h1 h2 h3
  | count h1 h2 => exact inv.count h1 h2
  | phase2 h1 h2 h3 h4 =>
    -- somebody below `n` has promised, so the cluster is not empty and the owner of `b` is one of its nodes
    obtain ⟨⟨f, r⟩, hfr⟩ := List.exists_mem_of_ne_nil _ h4
    exact phase2_inv inv h1 h2 h3 (Nat.mod_lt _ (Nat.zero_lt_of_lt ((inv.n1.p1 _).2 f r hfr).1))
  | vote h1 h2 h3 => exact inv.vote h1 h2 h3
  | ack h1 => exact inv.ack h1
  | decide h1 h2 => exact decide_inv inv _ _ ⟨_, chosen_of_acks inv.n2 h1 h2⟩
  | learn h1 _ => exact inv.adopt h1
  | ballot h1 h2 _ => exact beginBallot_inv inv _ _ _ h1 h2
  | nack | regFut | resolveFut | attachFut | retire => exact inv.frame rfl rfl rfl rfl rfl

theorem step_inv (s : St) (a : Act) (inv : Inv s) : Inv (step s a) :=
  (step_moves s a).keeps (fun _ _ m => m.inv) inv

theorem run_inv (s : St) (as : List Act) (inv : Inv s) : Inv (runActs s as) :=
  (run_moves s as).keeps (fun _ _ m => m.inv) inv

theorem drop_inv (s : St) (inv : Inv s) :
    (∀ b d, Inv (step s (.dropPrep b d))) ∧ (∀ b f, Inv (step s (.dropProm b f))) ∧
    (∀ b d, Inv (step s (.dropAcpt b d))) ∧ (∀ b f, Inv (step s (.dropAcptd b f))) ∧
    (∀ f d, Inv (step s (.dropDec f d))) :=
  ⟨fun _ _ => step_inv s _ inv, fun _ _ => step_inv s _ inv, fun _ _ => step_inv s _ inv, fun _ _ => step_inv s _ inv,
   fun _ _ => step_inv s _ inv⟩

theorem recvDecided_inv (s : St) (f d : Nat) (inv : Inv s) : Inv (step s (.recvDecided f d)) := step_inv s _ inv

theorem recvPrepare_inv (s : St) (b d : Nat) (inv : Inv s) : Inv (step s (.recvPrepare b d)) := step_inv s _ inv

theorem recvAccept_inv (s : St) (b d : Nat) (inv : Inv s) : Inv (step s (.recvAccept b d)) := step_inv s _ inv

theorem recvAccepted_inv (s : St) (b f : Nat) (inv : Inv s) : Inv (step s (.recvAccepted b f)) := step_inv s _ inv

theorem recvPromise_inv (s : St) (b f : Nat) (inv : Inv s) : Inv (step s (.recvPromise b f)) := step_inv s _ inv

theorem propose_inv (s : St) (p b : Nat) (v : Val) (inv : Inv s) : Inv (step s (.propose p b v)) := step_inv s _ inv

end HappyModel.C12.Px
