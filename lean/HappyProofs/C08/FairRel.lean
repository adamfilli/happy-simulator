import HappyProofs.C08.Order
/-!
Fair-share policies (FairQueue, WeightedFairQueue): the relation between the model's `OrderedDict`
of per-flow deques and the specification's single held list with its service tickets.
-/
namespace HappyModel.C08

def flowQ (fs : List FlowSt) (f : Nat) : List Item :=
  match findFlow fs f with
  | some fl => fl.q
  | none => []

def sig3 (fl : FlowSt) : Nat × Nat × Nat := (fl.fid, fl.weight, fl.credits)
def asig3 (a : Act) : Nat × Nat × Nat := (a.fid, a.weight, a.credits)

theorem findFlow_none_iff (fs : List FlowSt) (f : Nat) : findFlow fs f = none ↔ f ∉ fs.map (·.fid) := by
  induction fs with
  | nil => simp [findFlow]
  | cons fl fs ih => rw [findFlow_cons]; grind

theorem flowQ_cons (fl : FlowSt) (fs : List FlowSt) (f : Nat) :
    flowQ (fl :: fs) f = if fl.fid = f then fl.q else flowQ fs f := by
  unfold flowQ; rw [findFlow_cons]; by_cases h : fl.fid = f <;> simp [h]

theorem flowQ_not_mem {fs : List FlowSt} {f : Nat} (h : f ∉ fs.map (·.fid)) : flowQ fs f = [] := by
  unfold flowQ; rw [(findFlow_none_iff fs f).mpr h]

theorem flowQ_append_new (fs : List FlowSt) (nf : FlowSt) (g : Nat) (h : nf.fid ∉ fs.map (·.fid)) :
    flowQ (fs ++ [nf]) g = if nf.fid = g then nf.q else flowQ fs g := by
  induction fs with
  | nil => simp only [List.nil_append, flowQ_cons]
  | cons x xs ih =>
    simp only [List.cons_append, flowQ_cons, List.map_cons, List.mem_cons, not_or] at *
    grind

theorem appendTo_sig (fs : List FlowSt) (f : Nat) (it : Item) : (appendTo fs f it).map sig3 = fs.map sig3 := by
  induction fs with
  | nil => rfl
  | cons x xs ih => grind [appendTo, sig3]

theorem flowQ_appendTo (fs : List FlowSt) (f : Nat) (it : Item) (g : Nat) (h : f ∈ fs.map (·.fid)) :
    flowQ (appendTo fs f it) g = if f = g then flowQ fs f ++ [it] else flowQ fs g := by
  induction fs with
  | nil => simp at h
  | cons x xs ih =>
    simp only [appendTo, flowQ_cons, List.map_cons, List.mem_cons, beq_iff_eq] at *
    grind [flowQ_cons]

theorem minAct_head (a : Act) (as : List Act)
    (h : (a :: as).Pairwise (fun x y => x.ticket < y.ticket)) : minAct (a :: as) = some a := by
  induction as generalizing a with
  | nil => simp [minAct]
  | cons b bs ih =>
    have hb : (b :: bs).Pairwise (fun x y => x.ticket < y.ticket) := (List.pairwise_cons.mp h).2
    have hab : a.ticket < b.ticket := (List.pairwise_cons.mp h).1 b List.mem_cons_self
    simp only [minAct] at ih ⊢
    rw [ih b hb]
    simp only
    rw [if_neg (by omega)]

theorem find?_eq_filter_head {p : Item → Bool} (l : List Item) : l.find? p = (l.filter p).head? := by
  induction l with
  | nil => rfl
  | cons x xs ih => grind

theorem filter_removeFirst_self {p : Item → Bool} (l : List Item) :
    (removeFirst p l).filter p = (l.filter p).tail := by
  induction l with
  | nil => rfl
  | cons x xs ih => grind [removeFirst]

theorem any_eq_filter {p : Item → Bool} : ∀ (l : List Item), l.any p = !(l.filter p).isEmpty
  | [] => rfl
  | x :: xs => by cases hp : p x <;> simp [hp, any_eq_filter xs]

theorem removeFirst_length {p : Item → Bool} {l : List Item} {m : Item} (h : l.find? p = some m) :
    (removeFirst p l).length + 1 = l.length := by
  induction l with
  | nil => simp at h
  | cons x xs ih => grind [removeFirst]

theorem filter_fid_ne_of_nodup (a : Act) (as : List Act) (h : ((a :: as).map (·.fid)).Nodup) :
    (a :: as).filter (·.fid != a.fid) = as := by
  have hn : a.fid ∉ as.map (·.fid) := (List.nodup_cons.mp h).1
  simp only [List.filter_cons, bne_self_eq_false, Bool.false_eq_true, if_false]
  apply List.filter_eq_self.mpr
  intro b hb
  have : b.fid ≠ a.fid := fun e => hn (by rw [← e]; exact List.mem_map_of_mem hb)
  simpa using this

/-- `fair = true` for FairQueue (every flow has weight = credits = 1).  Dictionary order is ticket order
    (`sig` pairs the two lists positionally, `tickets` increase along `act`): the specification's `minAct` is
    the model's first flow, and a rotation is `Dict.tail` then `Dict.snoc` with the clock as fresh ticket. -/
structure FRel (fair : Bool) (s : St) (ss : SSt) : Prop where
  sig : s.flows.map sig3 = ss.act.map asig3
  nodup : (s.flows.map (·.fid)).Nodup
  qs : ∀ f, flowQ s.flows f = ss.held.filter (·.flow == f)
  nonempty : ∀ fl ∈ s.flows, fl.q ≠ []
  tickets : ss.act.Pairwise (fun a b => a.ticket < b.ticket)
  below : ∀ a ∈ ss.act, a.ticket < ss.clock
  credits : ∀ fl ∈ s.flows, 0 < fl.credits ∧ 0 < fl.weight
  one : fair = true → ∀ fl ∈ s.flows, fl.weight = 1 ∧ fl.credits = 1
  total : s.total = ss.held.length

variable {fair : Bool} {s : St} {ss : SSt}

theorem frel_init (fair : Bool) : FRel fair {} {} :=
  ⟨rfl, by simp, by intro f; simp [flowQ, findFlow], by simp, by simp, by simp, by simp, by simp, rfl⟩

theorem sig_fids {fs : List FlowSt} {as : List Act} (h : fs.map sig3 = as.map asig3) :
    fs.map (·.fid) = as.map (·.fid) := by
  have := congrArg (List.map (·.1)) h
  simpa [List.map_map, Function.comp_def, sig3, asig3] using this

theorem sig_length {fs : List FlowSt} {as : List Act} (h : fs.map sig3 = as.map asig3) :
    fs.length = as.length := by
  have := congrArg List.length h
  simpa using this

def FlowOK (fair : Bool) (fl : FlowSt) : Prop :=
  fl.q ≠ [] ∧ (0 < fl.credits ∧ 0 < fl.weight) ∧ (fair = true → fl.weight = 1 ∧ fl.credits = 1)

/-- the dictionary half of `FRel` as a predicate of the two lists alone, so that the ways the
    dictionary changes are facts about lists; the other half
    (`qs`, `total`) says what the deques hold -/
structure Dict (fair : Bool) (fs : List FlowSt) (as : List Act) (clock : Nat) : Prop where
  sig : fs.map sig3 = as.map asig3
  nodup : (fs.map (·.fid)).Nodup
  ok : ∀ fl ∈ fs, FlowOK fair fl
  tickets : as.Pairwise (fun a b => a.ticket < b.ticket)
  below : ∀ a ∈ as, a.ticket < clock

theorem FRel.dict (h : FRel fair s ss) : Dict fair s.flows ss.act ss.clock :=
  ⟨h.sig, h.nodup, fun fl hfl => ⟨h.nonempty fl hfl, h.credits fl hfl, fun hf => h.one hf fl hfl⟩, h.tickets, h.below⟩

theorem Dict.frel (d : Dict fair s.flows ss.act ss.clock) (qs : ∀ f, flowQ s.flows f = ss.held.filter (·.flow == f))
    (total : s.total = ss.held.length) : FRel fair s ss :=
  ⟨d.sig, d.nodup, qs, fun fl hfl => (d.ok fl hfl).1, d.tickets, d.below, fun fl hfl => (d.ok fl hfl).2.1,
    fun hf fl hfl => (d.ok fl hfl).2.2 hf, total⟩

section dict
variable {fl : FlowSt} {rest fs : List FlowSt} {a : Act} {as : List Act} {k : Nat}

theorem Dict.tail (d : Dict fair (fl :: rest) (a :: as) k) : Dict fair rest as k :=
  ⟨(List.cons.inj d.sig).2, (List.nodup_cons.mp d.nodup).2, fun x hx => d.ok x (List.mem_cons_of_mem _ hx),
    (List.pairwise_cons.mp d.tickets).2, fun x hx => d.below x (List.mem_cons_of_mem _ hx)⟩

theorem Dict.snoc (d : Dict fair fs as k) {nf : FlowSt} {na : Act} (hn : nf.fid ∉ fs.map (·.fid))
    (hok : FlowOK fair nf) (hs : sig3 nf = asig3 na) (ht : na.ticket = k) :
    Dict fair (fs ++ [nf]) (as ++ [na]) (k + 1) := by
  refine ⟨by simp [d.sig, hs], ?_, fun x hx => ?_, ?_, fun x hx => ?_⟩
  · rw [List.map_append, List.nodup_append]
    exact ⟨d.nodup, by simp, fun x hx y hy e => hn (by simp at hy; rw [← hy, ← e]; exact hx)⟩
  · rcases List.mem_append.mp hx with hx | hx
    · exact d.ok x hx
    · rw [List.mem_singleton.mp hx]
      exact hok
  · exact List.pairwise_append.mpr ⟨d.tickets, List.pairwise_singleton _ _,
      fun x hx y hy => by rw [List.mem_singleton.mp hy, ht]; exact d.below x hx⟩
  · rcases List.mem_append.mp hx with hx | hx
    · exact Nat.lt_succ_of_lt (d.below x hx)
    · rw [List.mem_singleton.mp hx, ht]
      exact Nat.lt_succ_self k

theorem Dict.head (d : Dict fair (fl :: rest) (a :: as) k) {fl' : FlowSt} {a' : Act} (hf : fl'.fid = fl.fid)
    (ht : a'.ticket = a.ticket) (hs : sig3 fl' = asig3 a') (hok : FlowOK fair fl') :
    Dict fair (fl' :: rest) (a' :: as) k := by
  refine ⟨by rw [List.map_cons, List.map_cons, hs, d.tail.sig], by rw [List.map_cons, hf]; exact d.nodup,
    fun x hx => ?_, ?_, fun x hx => ?_⟩
  · rcases List.mem_cons.mp hx with rfl | hx
    · exact hok
    · exact d.ok x (List.mem_cons_of_mem _ hx)
  · have := List.pairwise_cons.mp d.tickets
    exact List.pairwise_cons.mpr ⟨fun y hy => ht ▸ this.1 y hy, this.2⟩
  · rcases List.mem_cons.mp hx with rfl | hx
    · exact ht ▸ d.below a List.mem_cons_self
    · exact d.below x (List.mem_cons_of_mem _ hx)

theorem Dict.appendTo (d : Dict fair fs as k) (f : Nat) (it : Item) : Dict fair (appendTo fs f it) as k :=
  ⟨by rw [appendTo_sig]; exact d.sig, by rw [appendTo_fids]; exact d.nodup,
    appendTo_forall f it d.ok fun fl hfl => ⟨by simp, (d.ok fl (findFlow_some hfl).1).2⟩, d.tickets, d.below⟩

end dict

theorem FRel.same (h : FRel fair s ss) (s' : St) (hf : s'.flows = s.flows) (ht : s'.total = s.total) : FRel fair s'
    ss :=
  Dict.frel (by rw [hf]; exact h.dict) (by rw [hf]; exact h.qs) (ht.trans h.total)

theorem FRel.flow_none (h : FRel fair s ss) {f : Nat} (hn : findFlow s.flows f = none) : ss.held.filter
    (·.flow == f) = [] := by
  rw [← h.qs f]; unfold flowQ; rw [hn]

theorem FRel.flow_some (h : FRel fair s ss) {f : Nat} {fl : FlowSt} (hs : findFlow s.flows f = some fl) :
    ss.held.filter (·.flow == f) = fl.q ∧ fl.q.isEmpty = false := by
  refine ⟨?_, ?_⟩
  · rw [← h.qs f]; unfold flowQ; rw [hs]
  · cases hq : fl.q with
    | nil => exact absurd hq (h.nonempty fl (findFlow_some hs).1)
    | cons x xs => rfl

theorem FRel.new_flow (h : FRel fair s ss) (it : Item) (w : Nat) (hw : 0 < w) (hfw : fair = true → w = 1)
    (hn : findFlow s.flows it.flow = none) (s' : St) (hf : s'.flows = s.flows ++ [⟨it.flow, [it], w, w⟩])
    (ht : s'.total = s.total + 1) : FRel fair s' ((ss.accept it).activate it.flow w) := by
  have hnot : it.flow ∉ s.flows.map (·.fid) := (findFlow_none_iff _ _).mp hn
  refine Dict.frel ?_ (fun g => ?_) (by rw [ht, h.total]; simp [SSt.accept, SSt.activate])
  · rw [hf]
    exact h.dict.snoc hnot ⟨by simp, ⟨hw, hw⟩, fun e => ⟨hfw e, hfw e⟩⟩ rfl rfl
  · rw [hf, flowQ_append_new _ _ _ hnot]
    simp only [SSt.accept, SSt.activate, List.filter_append]
    by_cases hg : it.flow = g
    · subst hg
      simp [h.flow_none hn]
    · have hb : (it.flow == g) = false := by simpa using hg
      simp [hg, h.qs g, hb]

theorem FRel.more (h : FRel fair s ss) (it : Item) {fl : FlowSt} (hs : findFlow s.flows it.flow = some fl) (s' : St)
    (hf : s'.flows = appendTo s.flows it.flow it) (ht : s'.total = s.total + 1) : FRel fair s' (ss.accept it) := by
  have hmem : it.flow ∈ s.flows.map (·.fid) := by
    have := findFlow_some hs
    rw [← this.2]; exact List.mem_map_of_mem this.1
  refine Dict.frel ?_ (fun g => ?_) (by rw [ht, h.total]; simp [SSt.accept])
  · rw [hf]
    exact h.dict.appendTo it.flow it
  · rw [hf, flowQ_appendTo _ _ _ _ hmem]
    simp only [SSt.accept, List.filter_append]
    by_cases hg : it.flow = g
    · subst hg; simp [h.qs it.flow]
    · have hb : (it.flow == g) = false := by simpa using hg
      simp [hg, h.qs g, hb]


/-- everything `sPop` reads when the first flow is served: `min`, `find`, `any`, `others` are the sub-terms of
    `sPop`/`serveAct`; `self`, `other`, `len` what `removeFirst` does to the per-flow filters and the length -/
structure HeadFacts (ss : SSt) (fl : FlowSt) (rest : List FlowSt) (it : Item) (q' : List Item)
    (a : Act) (as : List Act) : Prop where
  act : ss.act = a :: as
  asig : asig3 a = sig3 fl
  rsig : rest.map sig3 = as.map asig3
  min : minAct ss.act = some a
  find : ss.held.find? (·.flow == a.fid) = some it
  self : (removeFirst (·.flow == a.fid) ss.held).filter (·.flow == a.fid) = q'
  other : ∀ g, g ≠ a.fid → (removeFirst (·.flow == a.fid) ss.held).filter (·.flow == g) = ss.held.filter (·.flow == g)
  len : (removeFirst (·.flow == a.fid) ss.held).length + 1 = ss.held.length
  any : (removeFirst (·.flow == a.fid) ss.held).any (·.flow == a.fid) = !q'.isEmpty
  others : ss.act.filter (·.fid != a.fid) = as
  notin : fl.fid ∉ rest.map (·.fid)

theorem FRel.head (h : FRel fair s ss) {fl : FlowSt} {rest : List FlowSt} {it : Item} {q' : List Item}
    (hfl : s.flows = fl :: rest) (hq : fl.q = it :: q') : ∃ a as, HeadFacts ss fl rest it q' a as := by
  have hsig := h.sig
  rw [hfl] at hsig
  cases hact : ss.act with
  | nil => rw [hact] at hsig; simp at hsig
  | cons a as =>
    rw [hact] at hsig
    simp only [List.map_cons, List.cons.injEq] at hsig
    obtain ⟨ha, hrest⟩ := hsig
    have hafid : a.fid = fl.fid := by simp only [sig3, asig3, Prod.mk.injEq] at ha; exact ha.1.symm
    have hqs : ss.held.filter (·.flow == a.fid) = it :: q' := by
      rw [hafid, ← h.qs fl.fid, hfl, flowQ_cons]; simp [hq]
    have hnd := h.nodup
    rw [hfl] at hnd
    have hnotin : fl.fid ∉ rest.map (·.fid) := (List.nodup_cons.mp hnd).1
    have hfind : ss.held.find? (·.flow == a.fid) = some it := by
      rw [find?_eq_filter_head, hqs]; rfl
    have hndact : ((a :: as).map (·.fid)).Nodup := by
      have := sig_fids h.sig
      rw [hfl, hact] at this
      rw [← this]; exact hnd
    refine ⟨a, as, ⟨hact, ha.symm, hrest, ?_, hfind, ?_, ?_, removeFirst_length hfind, ?_, ?_, hnotin⟩⟩
    · have := h.tickets; rw [hact] at this
      rw [hact]; exact minAct_head a as this
    · rw [filter_removeFirst_self, hqs]; rfl
    · intro g hg
      apply filter_removeFirst hfind
      have hit : it.flow = a.fid := by
        have := List.find?_some hfind
        simpa using this
      simp [hit]; exact fun e => hg e.symm
    · rw [any_eq_filter, filter_removeFirst_self, hqs]
      rfl
    · rw [hact]; exact filter_fid_ne_of_nodup a as hndact

theorem FRel.head_cases (h : FRel fair s ss) :
    (s.flows = [] ∧ ss.act = []) ∨
    ∃ fl rest it q' a as, s.flows = fl :: rest ∧ fl.q = it :: q' ∧ HeadFacts ss fl rest it q' a as := by
  cases hfl : s.flows with
  | nil => exact .inl ⟨rfl, List.eq_nil_of_length_eq_zero (by rw [← sig_length h.sig, hfl]; rfl)⟩
  | cons fl rest =>
    cases hq : fl.q with
    | nil => exact absurd hq (h.nonempty fl (by rw [hfl]; exact List.mem_cons_self))
    | cons it q' =>
      obtain ⟨a, as, hf⟩ := h.head hfl hq
      exact .inr ⟨fl, rest, it, q', a, as, rfl, hq, hf⟩

end HappyModel.C08
