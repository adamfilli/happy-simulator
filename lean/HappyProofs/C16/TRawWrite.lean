import HappyProofs.C16.TRawRead
/-!
Multi-tier read-after-write over every interleaving: the later segments of a write — the backing-store write of a
`put`, the return of `tiers[0].put`, the backing-store delete.
-/
namespace HappyModel.C16.Tier
open HappyModel.C16


/-- the write `i` of key `k` completes: what the final state must look like, relative to the state
    `ms0` before the segment, for the invariant to hold in the extended context -/
theorem write_complete (cfg : MCfg) (hrep : cfg.rep = true) {g : Gh} {ms0 msC : MSt} {i : Nat} {p : MPend}
    {op : OpK} {k : Key} {val : Option Nat} (h : MInv g ms0) (hm : (i, p) ∈ ms0.pend) (hpk : inflKey p = some k)
    (hop : (i, op) ∈ g.ops) (hw : wkv op = some (k, val))
    (K : Option Key) (hK : K = none ∧ mbwKey p = none ∨ K = some k)
    (hp : msC.pend = (ms0.clearPend i).pend) (he : msC.epoch = ms0.epoch) (hi : msC.infl = ms0.infl)
    (hb : ∀ x, aget? msC.back x = aget? ms0.back x ∨ (x = k ∧ aget? msC.back k = val))
    (hbK : K = some k → aget? msC.back k = val)
    (ht : Tiers (fun _ s s' => s'.dirty = [] ∧ (∀ x ∈ s'.pend, x ∈ s.pend) ∧
      (∀ x ∈ s'.pend, (∃ k v, x.2 = Pend.putWT k v) → x.1 ≠ i) ∧
      ∀ x w, aget? s'.cache x = some w → (K ≠ some x ∧ (aget? s.cache x = some w ∨ aget? ms0.back x = some w)))
      ms0.tiers msC.tiers)
    (o : Obs) (hoi : o.i = i) (hres : o.res.isSome) :
    MInv (g.ext o []) (msC.leave cfg k) := by
  obtain ⟨his, hie⟩ := h.pi.pendS _ hm
  have hself : ∀ P, Fresh g k val P := fun P => Fresh.self P his hop hw hie
  have hp' : (msC.leave cfg k).pend = (ms0.clearPend i).pend ++ [] := by rw [leave_pend, hp]; simp
  have hng : ∀ k', op ≠ .get k' := by intro k' e; rw [e] at hw; cases hw
  have hkeyI : ∀ x j, InFl ms0 x j → x ≠ k → j ≠ i := fun x j hj hx =>
    Holds.ne h.pi.pendND hm (by rw [hpk]; exact fun e => hx (Option.some.inj e).symm) hj
  have hbpI : ∀ x j, BPm ms0 x j → K ≠ some x → j ≠ i := by
    rintro x j ⟨q, hq, hk⟩ hx e
    subst e
    rw [ops_unique h.pi.pendND hq hm] at hk
    rcases hK with ⟨_, hn⟩ | hK
    · rw [hn] at hk; cases hk
    · have := inflKey_of_mbwKey hk
      rw [hpk] at this
      exact hx (hK.trans this)
  have hcnt := fun x => inflCount_clear ms0.pend i p x h.pi.pendND hm
  have pi' : MPI g (msC.leave cfg k) := by
    refine mpi_clear h.pi hm hp' (Or.inl rfl) ?_ ?_ ?_ ?_ ?_
    · intro x
      rw [leave_pend, hp]
      show _ = inflCount (ms0.pend.filter (fun y => y.1 != i)) x
      by_cases e : x = k
      · subst e
        rw [leave_infl_self cfg hrep, hi, h.pi.infl x, hcnt x, hpk]; simp
      · rw [leave_infl_other cfg _ _ _ e, hi, h.pi.infl x, hcnt x, hpk]
        have : ¬ k = x := fun e' => e e'.symm
        simp [this]
    · intro x
      by_cases e : x = k
      · subst e; rw [leave_epoch_self cfg hrep, he]; omega
      · rw [leave_epoch_other cfg _ _ _ e, he]; exact Nat.le_refl _
    · intro x j hee hj
      have hx : x ≠ k := by
        intro e; subst e
        rw [leave_epoch_self cfg hrep, he] at hee; omega
      exact Holds.clear hp' (hkeyI x j hj hx) hj
    · intro x
      rw [leave_back]
      rcases hb x with h' | ⟨rfl, h'⟩
      · exact Or.inl h'
      · right; intro P; rw [h']; exact hself P
    · intro t s' hs'
      rw [leave_tiers] at hs'
      obtain ⟨s, hs, _, hsub, _⟩ := ht t s' hs'
      exact ⟨s, hs, fun x hx => Or.inl (hsub x hx)⟩
  have vi' : MVI g (msC.leave cfg k) := by
    refine mvi_update h.vi K (fun x j hx hbj => Holds.clear hp' (hbpI x j hbj hx) hbj) ?_ ?_ ?_ ?_
    · intro t s' x w hs' hw'
      rw [leave_tiers] at hs'
      obtain ⟨s, hs, _, _, _, hc⟩ := ht t s' hs'
      obtain ⟨hKx, hc'⟩ := hc x w hw'
      rcases hc' with hc' | hc'
      · exact Or.inl ⟨hKx, t, s, hs, hc'⟩
      · exact Or.inr (Or.inl ⟨hKx, hc'⟩)
    · intro x
      rw [leave_back]
      by_cases hKx : K = some x
      · have e : x = k := by
          rcases hK with ⟨hn, _⟩ | hK
          · rw [hn] at hKx; cases hKx
          · rw [hK] at hKx; exact (Option.some.inj hKx).symm
        subst e
        right; rw [hbK hKx]; exact hself _
      · rcases hb x with h' | ⟨rfl, h'⟩
        · exact Or.inl ⟨hKx, h'⟩
        · right; rw [h']; exact hself _
    · intro t s' hs'
      rw [leave_tiers] at hs'
      exact (ht t s' hs').choose_spec.2.1
    · intro t s' hs'
      rw [leave_tiers] at hs'
      obtain ⟨s, hs, _, hsub, _⟩ := ht t s' hs'
      exact tp_of_pend (h.vi.tp t s hs) hsub
  refine mext_same h.gi pi' vi' o ?_ ?_ ?_ (fun _ => hoi ▸ his) (hd_nonget h.gi o hoi hop hng)
  · intro j op' k' hj hjm hk
    by_cases e : j = i
    · right; right; rw [if_pos hres, hoi, e]
    · rcases h.lim.elim hj hjm hk with h' | h'
      · exact Or.inl (Holds.clear hp' e h')
      · exact Or.inr (Or.inl h')
  · intro _ x hx
    rw [leave_pend, hp] at hx
    rw [hoi]; exact (mem_clear.mp hx).2
  · intro _ t s' hs' x hx hput
    rw [leave_tiers] at hs'
    obtain ⟨s, hs, _, _, hno, _⟩ := ht t s' hs'
    rw [hoi]; exact hno x hx hput

/-- every tier is configured: `sweepL` stops at the shorter of the two lists, so a tier beyond `cfg.tiers` would never be
    invalidated (`Swept` promises `k ∉ cache` only below `cfg.tiers.length`) -/
def MLen (cfg : MCfg) (ms : MSt) : Prop := ms.tiers.length = cfg.tiers.length

theorem MLen.lt {cfg : MCfg} {ms : MSt} (h : MLen cfg ms) {t : Nat} {s : St} (hs : ms.tiers[t]? = some s) :
    t < cfg.tiers.length := h ▸ getElem?_some_lt hs

theorem mraw_resume_putBack (cfg : MCfg) (hc : SeqCfg cfg) {g : Gh} {ms0 : MSt} (h : MInv g ms0)
    (hlen : MLen cfg ms0) (i k v now : Nat) (hm : (i, MPend.putBack k v) ∈ ms0.pend)
    (o : Obs) (hoi : o.i = i) (hor : o.res = (mresume cfg ms0 i (.putBack k v) now).2) :
    MInv (g.ext o []) (mresume cfg ms0 i (.putBack k v) now).1 := by
  obtain ⟨his, hie⟩ := h.pi.pendS _ hm
  have hop := h.pi.pb i k v hm
  have hself : ∀ P, Fresh g k (some v) P := fun P => Fresh.self P his hop rfl hie
  let msA : MSt := { ms0.clearPend i with back := aset ms0.back k v }
  have hdA : ∀ (t : Nat) (s : St), msA.tiers[t]? = some s → s.dirty = [] := h.vi.d
  obtain ⟨hbB, hsw⟩ := sweep_clean cfg msA (.inv k) (Or.inl ⟨k, rfl⟩) hdA
  -- tier 0 after `tiers[0].put`
  have shape : ∃ ms' : MSt, (mresume cfg ms0 i (.putBack k v) now).1 = ms' ∧
      ms'.pend = (ms0.clearPend i).pend ++ [(i, .putL1 k)] ∧ ms'.epoch = ms0.epoch ∧ ms'.infl = ms0.infl ∧
      ms'.back = aset ms0.back k v ∧
      Tiers (fun t s s' => s'.dirty = [] ∧ (∀ x ∈ s'.pend, x ∈ s.pend ∨ (x = (i, Pend.putWT k v) ∧ t = 0)) ∧
        ∀ x w, aget? s'.cache x = some w → (x ≠ k ∧ aget? s.cache x = some w) ∨ (x = k ∧ w = v))
        ms0.tiers ms'.tiers := by
    have e0 : (mresume cfg ms0 i (.putBack k v) now).1 =
        (onTier cfg (msA.sweep cfg (.inv k)) 0 (fun c s => start c s i (.put k v) now)).1.setPend i (.putL1 k) := rfl
    have swept : Tiers (fun _ s s' => s'.dirty = [] ∧ s'.pend = s.pend ∧ k ∉ akeys s'.cache ∧
        ∀ x w, aget? s'.cache x = some w → aget? s.cache x = some w) ms0.tiers (msA.sweep cfg (.inv k)).tiers := by
      intro t s' hs'
      obtain ⟨s, hs, a1, a2, a3, a4⟩ := hsw t s' hs'
      exact ⟨s, hs, a1, a2, (a4 (Nat.zero_le _) (hlen.lt hs)).1 k rfl, a3⟩
    have sweptC : Tiers (fun t s s' => s'.dirty = [] ∧ (∀ x ∈ s'.pend, x ∈ s.pend ∨ (x = (i, Pend.putWT k v) ∧ t = 0)) ∧
        ∀ x w, aget? s'.cache x = some w → (x ≠ k ∧ aget? s.cache x = some w) ∨ (x = k ∧ w = v))
        ms0.tiers (msA.sweep cfg (.inv k)).tiers := by
      intro t s' hs'
      obtain ⟨s, hs, a1, a2, a3, a4⟩ := swept t s' hs'
      refine ⟨s, hs, a1, fun x hx => Or.inl (a2 ▸ hx), ?_⟩
      intro x w hw
      have hxk : x ≠ k := fun e => a3 (e ▸ mem_akeys_of_some _ _ _ hw)
      exact Or.inl ⟨hxk, a4 x w hw⟩
    rcases onTier_cases cfg (msA.sweep cfg (.inv k)) 0 (fun c s => start c s i (.put k v) now) with
      ⟨c, sB, hcc, hsB, e⟩ | ⟨_, e⟩
    · refine ⟨_, e0, ?_⟩
      rw [e]
      have hwt : c.wt = true := (hc c (List.mem_of_getElem? hcc)).2.1
      obtain ⟨s, hs, a1, a2, a3, a4⟩ := swept 0 sB hsB
      obtain ⟨ts, tp, tg⟩ := startPut_clean c hwt (plug sB (msA.sweep cfg (.inv k)).back) i k v now a1
      refine ⟨rfl, rfl, rfl, ?_, ?_⟩
      · show (start c (plug sB (msA.sweep cfg (.inv k)).back) i (.put k v) now).1.back = _
        rw [ts.back]; exact hbB
      · intro t s' hs'
        have hs' : ((msA.sweep cfg (.inv k)).tiers.set 0
          (start c (plug sB (msA.sweep cfg (.inv k)).back) i (.put k v) now).1)[t]? = some s' := hs'
        rcases getElem?_set_cases hs' with ⟨et, es⟩ | ⟨_, hold⟩
        · subst et; subst es
          refine ⟨s, hs, ts.dirty, ?_, ?_⟩
          · intro x hx
            rw [tp] at hx
            rcases List.mem_append.mp hx with hx | hx
            · exact Or.inl (a2 ▸ hx)
            · simp only [List.mem_singleton] at hx; exact Or.inr ⟨hx, rfl⟩
          · intro x w hw
            rcases ts.cache x w hw with h' | h'
            · have hxk : x ≠ k := fun e' => a3 (e' ▸ mem_akeys_of_some _ _ _ h')
              exact Or.inl ⟨hxk, a4 x w h'⟩
            · cases h'; exact Or.inr ⟨rfl, rfl⟩
        · exact sweptC t s' hold
    · refine ⟨_, e0, ?_⟩
      rw [e]
      exact ⟨rfl, rfl, rfl, hbB, sweptC⟩
  obtain ⟨ms', e0, hp, he, hi, hb, ht⟩ := shape
  rw [e0]
  have hkeyI : ∀ x j, InFl ms0 x j → j = i → x = k := by
    rintro x j ⟨q, hq, hk⟩ e
    subst e
    rw [ops_unique h.pi.pendND hq hm] at hk
    exact (Option.some.inj hk).symm
  have hinfl' : ∀ x j, InFl ms0 x j → InFl ms' x j := by
    intro x j hj
    by_cases e : j = i
    · have := hkeyI x j hj e
      subst this; subst e
      exact ⟨.putL1 x, by rw [hp]; simp, rfl⟩
    · exact Holds.clear hp e hj
  have hcnt := fun x => inflCount_clear ms0.pend i (.putBack k v) x h.pi.pendND hm
  have pi' : MPI g ms' := by
    refine mpi_clear h.pi hm hp (Or.inr ⟨k, v, rfl, hop⟩) ?_ (fun x => by rw [he]; exact Nat.le_refl _)
      (fun x j _ hj => hinfl' x j hj) ?_ ?_
    · intro x
      have e1 : inflCount [(i, MPend.putL1 k)] x = if k = x then 1 else 0 := by
        by_cases e : k = x <;> simp [inflCount, inflKey, e]
      have e2 : (if inflKey (MPend.putBack k v) = some x then 1 else 0) = if k = x then 1 else 0 := by
        simp [inflKey]
      rw [hi, hp, inflCount_append, h.pi.infl x, hcnt x, e1, e2]
      rfl
    · intro x
      rw [hb]
      by_cases e : x = k
      · subst e; right; intro P; rw [aget?_aset_self]; exact hself P
      · exact Or.inl (aget?_aset_other _ _ _ _ e)
    · intro t s' hs'
      obtain ⟨s, hs, _, hsub, _⟩ := ht t s' hs'
      refine ⟨s, hs, fun x hx => ?_⟩
      rcases hsub x hx with h' | ⟨h', _⟩
      · exact Or.inl h'
      · exact Or.inr (by rw [h'])
  have vi' : MVI g ms' := by
    refine mvi_update h.vi (some k) ?_ ?_ ?_ (fun t s' hs' => (ht t s' hs').choose_spec.2.1) ?_
    · intro x j hx hbj
      have hji : j ≠ i := by
        intro e
        have := hkeyI x j ⟨hbj.choose, hbj.choose_spec.1, inflKey_of_mbwKey hbj.choose_spec.2⟩ e
        exact hx (by rw [this])
      exact Holds.clear hp hji hbj
    · intro t s' x w hs' hw
      obtain ⟨s, hs, _, _, hcache⟩ := ht t s' hs'
      rcases hcache x w hw with ⟨hxk, h'⟩ | ⟨rfl, rfl⟩
      · exact Or.inl ⟨fun e => hxk (Option.some.inj e).symm, t, s, hs, h'⟩
      · exact Or.inr (Or.inr (hself _))
    · intro x
      rw [hb]
      by_cases e : x = k
      · subst e; right; rw [aget?_aset_self]; exact hself _
      · exact Or.inl ⟨fun e' => e (Option.some.inj e').symm, aget?_aset_other _ _ _ _ e⟩
    · intro t s' hs' x hx
      obtain ⟨s, hs, _, hsub, _⟩ := ht t s' hs'
      rcases hsub x hx with h' | ⟨h', h0⟩
      · exact h.vi.tp t s hs x h'
      · subst h'
        exact ⟨his, Or.inr (Or.inr ⟨k, v, rfl, h0, hop, hie⟩)⟩
  refine mext_same h.gi pi' vi' o ?_ (Obs.of_res_none hor)
    (Obs.of_res_none hor) (Obs.of_res_none hor)
    (GetDone.of_res_none hor)
  intro j op' k' hj hjm hk
  rcases h.lim.elim hj hjm hk with h' | h'
  · exact Or.inl (hinfl' k' j h')
  · exact Or.inr (Or.inl h')

/-- the completion of a `put`: `tiers[0].put` returns, the lower tiers are invalidated again -/
theorem mraw_resume_putL1 (cfg : MCfg) (hrep : cfg.rep = true) {g : Gh} {ms0 : MSt} (h : MInv g ms0)
    (hlen : MLen cfg ms0) (i k now : Nat) (hm : (i, MPend.putL1 k) ∈ ms0.pend)
    (o : Obs) (hoi : o.i = i) (hor : o.res = (mresume cfg ms0 i (.putL1 k) now).2) :
    MInv (g.ext o []) (mresume cfg ms0 i (.putL1 k) now).1 := by
  obtain ⟨v, hop⟩ := h.pi.pl i k hm
  have hres : o.res.isSome := by rw [hor]; rfl
  have e0 : (mresume cfg ms0 i (.putL1 k) now).1 =
      ((onTier cfg (ms0.clearPend i) 0 (fun c s => step c s (.resume i now))).1.sweepLow cfg (.inv k)).leave cfg k := by
    unfold mresume; simp only [hrep, if_true]
  rw [e0]
  obtain ⟨hp, he, hi, ht, hbr⟩ := onTier_resume_shape cfg h i 0 now
  generalize (onTier cfg (ms0.clearPend i) 0 (fun c s => step c s (.resume i now))).1 = msR at hp he hi ht hbr
  have hdR : ∀ (t : Nat) (s : St), msR.tiers[t]? = some s → s.dirty = [] :=
    fun t s hs => (ht t s hs).choose_spec.2.1.dirty
  obtain ⟨hbL, hsw⟩ := sweepLow_clean cfg msR (.inv k) (Or.inl ⟨k, rfl⟩) hdR
  refine write_complete (msC := msR.sweepLow cfg (.inv k)) cfg hrep h hm rfl hop rfl none (Or.inl ⟨rfl, rfl⟩)
    (show (msR.sweepLow cfg (.inv k)).pend = _ from hp) (show (msR.sweepLow cfg (.inv k)).epoch = _ from he)
    (show (msR.sweepLow cfg (.inv k)).infl = _ from hi) ?_ nofun ?_ o hoi hres
  · intro x
    rw [hbL]
    rcases hbr with ⟨hb, _⟩ | ⟨k', v', ho, hb⟩
    · exact Or.inl (by rw [hb])
    · cases ops_unique h.gi.nd hop ho
      rw [hb]
      by_cases ex : x = k
      · subst ex; exact Or.inr ⟨rfl, aget?_aset_self _ _ _⟩
      · exact Or.inl (aget?_aset_other _ _ _ _ ex)
  · intro t s' hs'
    obtain ⟨s1, hs1, a1, a2, a3, _⟩ := hsw t s' hs'
    obtain ⟨s, hs, e, hno⟩ := ht t s1 hs1
    refine ⟨s, hs, a1, fun x hx => e.pendSub x (a2 ▸ hx), fun x hx ⟨k', v', ex⟩ => ?_,
      fun x w hw => ⟨by simp, e.cache x w (a3 x w hw)⟩⟩
    -- a write-through `put` continuation sits on L1, which keeps none of `i`
    obtain ⟨rfl, _⟩ := (h.vi.tp t s hs).putWT (e.pendSub x (a2 ▸ hx)) ex
    exact hno rfl ⟨_, List.getElem?_eq_getElem (hlen.lt hs)⟩ x (a2 ▸ hx)

/-- the backing-store delete that completes a `delete`; the tiers are invalidated again -/
theorem mraw_resume_delBack (cfg : MCfg) (hrep : cfg.rep = true) {g : Gh} {ms0 : MSt} (h : MInv g ms0)
    (hlen : MLen cfg ms0) (i k now : Nat) (hm : (i, MPend.delBack k) ∈ ms0.pend)
    (o : Obs) (hoi : o.i = i) (hor : o.res = (mresume cfg ms0 i (.delBack k) now).2) :
    MInv (g.ext o []) (mresume cfg ms0 i (.delBack k) now).1 := by
  have hop := h.pi.db i k hm
  have hres : o.res.isSome := by rw [hor]; rfl
  let msA : MSt := { ms0.clearPend i with back := adel ms0.back k, acc := adel ms0.acc k }
  have e0 : (mresume cfg ms0 i (.delBack k) now).1 = (msA.sweep cfg (.inv k)).leave cfg k := by
    unfold mresume; simp only [hrep, if_true]; rfl
  rw [e0]
  have hdA : ∀ (t : Nat) (s : St), msA.tiers[t]? = some s → s.dirty = [] := h.vi.d
  obtain ⟨hbB, hsw⟩ := sweep_clean cfg msA (.inv k) (Or.inl ⟨k, rfl⟩) hdA
  have hbk : ∀ x, aget? (msA.sweep cfg (.inv k)).back x = aget? (adel ms0.back k) x := fun x => by rw [hbB]
  refine write_complete (msC := msA.sweep cfg (.inv k)) cfg hrep h hm rfl hop rfl (some k) (Or.inr rfl)
    rfl rfl rfl ?_ (fun _ => by rw [hbk]; exact aget?_adel_self _ _) ?_ o hoi hres
  · intro x
    rw [hbk]
    by_cases e : x = k
    · subst e; exact Or.inr ⟨rfl, by rw [hbk]; exact aget?_adel_self _ _⟩
    · exact Or.inl (aget?_adel_other _ _ _ e)
  · intro t s' hs'
    obtain ⟨s, hs, a1, a2, a3, a4⟩ := hsw t s' hs'
    have hs0 : ms0.tiers[t]? = some s := hs
    have hk : k ∉ akeys s'.cache := (a4 (Nat.zero_le _) (hlen.lt hs0)).1 k rfl
    refine ⟨s, hs0, a1, fun x hx => a2 ▸ hx, ?_, ?_⟩
    · intro x hx ⟨k', v', e⟩ exi
      cases ops_unique h.gi.nd hop (exi ▸ ((h.vi.tp t s hs0).putWT (a2 ▸ hx) e).2)
    · intro x w hw
      have hxk : x ≠ k := fun e => hk (e ▸ mem_akeys_of_some _ _ _ hw)
      exact ⟨fun e => hxk (Option.some.inj e).symm, Or.inl (a3 x w hw)⟩

theorem mraw_resume (cfg : MCfg) (hrep : cfg.rep = true) (hc : SeqCfg cfg) {g : Gh} {ms0 : MSt} (h : MInv g ms0)
    (hlen : MLen cfg ms0) (i : Nat) (p : MPend) (now : Nat) (hm : (i, p) ∈ ms0.pend)
    (o : Obs) (hoi : o.i = i) (hor : o.res = (mresume cfg ms0 i p now).2) :
    MInv (g.ext o []) (mresume cfg ms0 i p now).1 := by
  cases p with
  | tierGet t k e => exact mraw_resume_read cfg hrep h i _ now hm (Or.inl ⟨t, k, e, rfl⟩) o hoi hor
  | backGet k e => exact mraw_resume_read cfg hrep h i _ now hm (Or.inr (Or.inl ⟨k, e, rfl⟩)) o hoi hor
  | direct t => exact mraw_resume_read cfg hrep h i _ now hm (Or.inr (Or.inr ⟨t, rfl⟩)) o hoi hor
  | putBack k v => exact mraw_resume_putBack cfg hc h hlen i k v now hm o hoi hor
  | putL1 k => exact mraw_resume_putL1 cfg hrep h hlen i k now hm o hoi hor
  | delBack k => exact mraw_resume_delBack cfg hrep h hlen i k now hm o hoi hor

end HappyModel.C16.Tier
