import HappyProofs.C19.IdemJudge
/-!
"nothing is delivered again after it was acknowledged", for the duplicate-suppressing store: for
**every** schedule (any requests — repeated keys, no key —, any interleaving of target receipts,
completions, completion events and sweeps the engine can produce, any ttl, max_entries ≥ 1,
cleanup_interval) the run of the model satisfies the Spec `judgeIdem` — the same function the driver
uses to judge the transcript of the real implementation.  `cfg.legacy = false` is the code after
`fixes/C19-idem-cleanup-chains.diff`; `legacy_idem_chains_witness` shows the clause failing before it.

Hypotheses of the run-level theorems: `Sorted` (the engine's clock never goes backwards, C01) and
`Deliverable` (the engine only delivers events that exist: a forwarded event at its stamp, a
completion event for a finished request whose key is in flight, a sweep that was scheduled).
-/
namespace HappyModel.C19.Idem

instance decSorted : (lo : Nat) → (l : List (Nat × Act)) → Decidable (Sorted lo l)
  | _, [] => isTrue trivial
  | lo, (t, _) :: rest => by
    unfold Sorted
    exact @instDecidableAnd _ _ _ (decSorted t rest)

instance (cfg : Cfg) (s : St) (sched : List (Nat × Act)) : Decidable (Deliverable cfg s sched) := by
  unfold Deliverable
  infer_instance

def histOf (cfg : Cfg) (sched : List (Nat × Act)) : List Obs := (run cfg {} sched).reverse

theorem inv_after (cfg : Cfg) (hl : cfg.legacy = false) (hm : 1 ≤ cfg.maxE) (sched : List (Nat × Act))
    (hs : Sorted 0 sched) (hd : Deliverable cfg {} sched) :
    ∃ lo, Inv cfg (finalSt cfg {} sched) (histOf cfg sched) lo := by
  obtain ⟨_, lo, h⟩ := run_ok hl hm sched {} [] 0 (inv_init cfg 0) hs hd
  exact ⟨lo, by simpa [histOf] using h⟩

/-- **all clauses**: the Spec accepts every run of the model on a sorted, deliverable schedule -/
theorem idem_run_accepted (cfg : Cfg) (hl : cfg.legacy = false) (hm : 1 ≤ cfg.maxE) (sched : List (Nat × Act))
    (hs : Sorted 0 sched) (hd : Deliverable cfg {} sched) :
    judgeIdem cfg [] (run cfg {} sched) = none :=
  (run_ok hl hm sched {} [] 0 (inv_init cfg 0) hs hd).1

/-- **no second delivery**: after any run, a request whose key the observed history shows in flight
    or remembered is suppressed: nothing is handed to the target, the cache and the in-flight set stay as they are -/
theorem idem_no_duplicate_forward (cfg : Cfg) (hl : cfg.legacy = false) (hm : 1 ≤ cfg.maxE)
    (sched : List (Nat × Act)) (hs : Sorted 0 sched) (hd : Deliverable cfg {} sched)
    (t rid : Nat) (k : Key) (hr : remembered cfg (histOf cfg sched) k = true) :
    let s := finalSt cfg {} sched
    (∃ c, (step cfg s t (.req rid (some k))).2 = .sup c) ∧
    (step cfg s t (.req rid (some k))).1.sent = s.sent ∧
    (step cfg s t (.req rid (some k))).1.cache = s.cache ∧
    (step cfg s t (.req rid (some k))).1.infl = s.infl := by
  obtain ⟨lo, I⟩ := inv_after cfg hl hm sched hs hd
  have hk : known (finalSt cfg {} sched) k = true := by rw [← remembered_eq I]; exact hr
  simp only [step, stepReq, hk, if_true]
  exact ⟨⟨_, rfl⟩, trivial, trivial, trivial⟩

/-- **a fresh key is forwarded exactly once, now**: after any run, a request whose key is neither in
    flight nor remembered (never seen, expired by a sweep, evicted) — and every key-less request — hands
    exactly one event to the target, stamped with the current instant; a keyed one is then in flight -/
theorem idem_fresh_key_forwarded (cfg : Cfg) (hl : cfg.legacy = false) (hm : 1 ≤ cfg.maxE)
    (sched : List (Nat × Act)) (hs : Sorted 0 sched) (hd : Deliverable cfg {} sched) (t rid : Nat) :
    let s := finalSt cfg {} sched
    (∀ k, remembered cfg (histOf cfg sched) k = false →
      (∃ cl c, (step cfg s t (.req rid (some k))).2 = .fwd t cl c) ∧
      (step cfg s t (.req rid (some k))).1.sent = s.sent ++ [(rid, some k, t)] ∧
      (step cfg s t (.req rid (some k))).1.infl = s.infl ++ [k]) ∧
    ((∃ cl c, (step cfg s t (.req rid none)).2 = .fwd t cl c) ∧
      (step cfg s t (.req rid none)).1.sent = s.sent ++ [(rid, none, t)]) := by
  obtain ⟨lo, I⟩ := inv_after cfg hl hm sched hs hd
  refine ⟨fun k hr => ?_, ⟨_, _, rfl⟩, rfl⟩
  have hk : known (finalSt cfg {} sched) k = false := by rw [← remembered_eq I]; exact hr
  simp only [step, stepReq, hk, forward]
  exact ⟨⟨_, _, rfl⟩, rfl, rfl⟩

/-- **the statistics add up** after any run: total = hits + misses + key-less requests; total, hits, misses
    and stored equal the number of observed lines of their kind, cache_size = stored − expired = remembered keys,
    in_flight_count = keys in flight -/
theorem idem_counters_add_up (cfg : Cfg) (hl : cfg.legacy = false) (hm : 1 ≤ cfg.maxE)
    (sched : List (Nat × Act)) (hs : Sorted 0 sched) (hd : Deliverable cfg {} sched) :
    let s := finalSt cfg {} sched
    let h := histOf cfg sched
    s.total = s.hits + s.misses + nKeyless h ∧ s.total = nReq h ∧ s.hits = nSup h ∧ s.misses = nMiss h ∧
    s.stored = nStored h ∧ s.cache.length + s.expired = s.stored ∧
    s.cache.length = (live cfg h).length ∧ s.infl.length = (flying h).length := by
  obtain ⟨lo, I⟩ := inv_after cfg hl hm sched hs hd
  exact ⟨I.addup, I.total, I.hits, I.misses, I.stored, I.size, by rw [I.cache], by rw [I.infl]⟩

/-- **cache_size ≤ max_entries** after any run -/
theorem idem_cache_bounded (cfg : Cfg) (hl : cfg.legacy = false) (hm : 1 ≤ cfg.maxE)
    (sched : List (Nat × Act)) (hs : Sorted 0 sched) (hd : Deliverable cfg {} sched) :
    (finalSt cfg {} sched).cache.length ≤ cfg.maxE := by
  obtain ⟨lo, I⟩ := inv_after cfg hl hm sched hs hd
  exact I.bound

/-- **one cleanup chain**: after any run at most one cleanup event is pending, exactly one while a key
    is in flight or remembered (the chain neither dies with entries left nor multiplies), and it is due
    no earlier than `cleanup_interval` after the last sweep -/
theorem idem_single_cleanup_chain (cfg : Cfg) (hl : cfg.legacy = false) (hm : 1 ≤ cfg.maxE)
    (sched : List (Nat × Act)) (hs : Sorted 0 sched) (hd : Deliverable cfg {} sched) :
    let s := finalSt cfg {} sched
    s.pend.length ≤ 1 ∧ ((s.cache ≠ [] ∨ s.infl ≠ []) → s.pend.length = 1) ∧
    (∀ x p, lastSweep (histOf cfg sched) = some x → p ∈ s.pend → x + cfg.interval ≤ p) := by
  obtain ⟨lo, I⟩ := inv_after cfg hl hm sched hs hd
  refine ⟨?_, fun hb => ?_, I.gap⟩
  · rcases I.chain with ⟨_, _, he⟩ | ⟨_, p, hp⟩
    · simp [he]
    · simp [hp]
  · obtain ⟨p, hp⟩ := I.busy hb
    simp [hp]

def isStoreAct (e : Nat × Act) : Bool := match e.2 with | .resp (some _) => true | _ => false

theorem Step.cache_kept {cfg : Cfg} {s : St} {t : Nat} {a : Act} {r : St × Out} (S : Step cfg s t a r)
    (httl : 1 ≤ cfg.ttl) (k : Key) (c : Nat) (hin : (k, c) ∈ s.cache)
    (hsw : a = .sweep → t < c + cfg.ttl) (hcap : isStoreAct (t, a) = true → s.cache.length < cfg.maxE) :
    (k, c) ∈ r.1.cache ∧ r.1.cache.length ≤ s.cache.length + (if isStoreAct (t, a) then 1 else 0) := by
  cases S with
  | resp k' =>
    cases k' with
    | none => exact ⟨hin, by simp [respSt]⟩
    | some k' =>
      have hno : ¬ cfg.maxE ≤ s.cache.length := Nat.not_le.2 (hcap rfl)
      simp only [respSt, remember, hno, if_false, isStoreAct]
      exact ⟨List.mem_append_left _ hin, by simp⟩
  | sweep =>
    have ht := hsw rfl
    simp only [sweepSt, keep, List.mem_filter]
    refine ⟨⟨hin, ?_⟩, Nat.le_trans (List.length_filter_le _ _) (Nat.le_add_right _ _)⟩
    simp only [isExpired, Bool.not_eq_true', decide_eq_false_iff_not]
    omega
  | _ => exact ⟨hin, by simp [forward]⟩

/-- **within a TTL window without eviction each key is processed at most once**: from any state in which
    key `k` is remembered since `c`, after any continuation whose sweeps all run before `c + ttl` and
    whose completions cannot fill the cache beyond `max_entries`, a request for `k` is still suppressed -/
theorem idem_once_per_ttl_window (cfg : Cfg) (httl : 1 ≤ cfg.ttl) (more : List (Nat × Act)) (s : St) (k : Key) (c : Nat)
    (hin : (k, c) ∈ s.cache) (hsw : ∀ e ∈ more, e.2 = .sweep → e.1 < c + cfg.ttl)
    (hcap : s.cache.length + more.countP isStoreAct ≤ cfg.maxE) (t rid : Nat) :
    ∃ ctr, (step cfg (finalSt cfg s more) t (.req rid (some k))).2 = .sup ctr := by
  have key : (k, c) ∈ (finalSt cfg s more).cache := by
    induction more generalizing s with
    | nil => exact hin
    | cons e rest ih =>
      obtain ⟨t', a⟩ := e
      rw [List.countP_cons] at hcap
      have h1 := (step_spec cfg s t' a).cache_kept httl k c hin (fun ha => hsw (t', a) (by simp) ha)
        (fun hst => by rw [if_pos hst] at hcap; omega)
      exact ih (step cfg s t' a).1 h1.1 (fun e he => hsw e (by simp [he])) (by omega)
  have hk : known (finalSt cfg s more) k = true := by
    unfold known hasKey
    simp only [Bool.or_eq_true, List.any_eq_true]
    exact Or.inl ⟨(k, c), key, by simp⟩
  simp only [step, stepReq, hk, if_true]
  exact ⟨_, rfl⟩

def exCfg : Cfg := { ttl := 4, maxE := 1, interval := 4 }

/-- key 0 forwarded, a duplicate while in flight, completion, a duplicate while remembered, key 1
    completes and evicts key 0, a key-less request, key 0 again (fresh), the sweep at 4 expires nothing,
    the sweep at 8 expires key 1 -/
def exSched : List (Nat × Act) :=
  [(0, .req 0 (some 0)), (0, .recv 0), (1, .req 1 (some 0)), (2, .done 0), (2, .resp (some 0)),
   (2, .req 2 (some 0)), (3, .req 3 (some 1)), (3, .recv 3), (3, .done 3), (3, .resp (some 1)),
   (3, .req 4 none), (3, .req 5 (some 0)), (4, .sweep), (8, .sweep)]

example : Sorted 0 exSched ∧ Deliverable exCfg {} exSched := by decide +kernel
example : judgeIdem exCfg [] (run exCfg {} exSched) = none := by decide +kernel
example : ((run exCfg {} exSched).map fun o => match o.out with | .fwd _ _ _ => 1 | .sup _ => 2 | _ => 0)
    = [1, 0, 2, 0, 0, 2, 1, 0, 0, 0, 1, 1, 0, 0] := by decide +kernel
example : (finalSt exCfg {} exSched).cache = [] ∧ (finalSt exCfg {} exSched).expired = 2
    ∧ (finalSt exCfg {} exSched).pend = [12] := by decide +kernel

/-- forwarding a key that is in flight is a violation -/
example : judgeIdem exCfg []
    [⟨0, .req 0 (some 0), .fwd 0 (some 4) ⟨1, 0, 1, 0, 0, 0, 1⟩⟩,
     ⟨1, .req 1 (some 0), .fwd 1 none ⟨2, 0, 2, 0, 0, 0, 1⟩⟩] = some "idem/forward/duplicate-forwarded" := by decide +kernel
/-- … suppressing a key that was evicted is one … -/
example : judgeIdem exCfg []
    ((run exCfg {} (exSched.take 11)) ++ [⟨3, .req 5 (some 0), .sup ⟨6, 3, 2, 1, 2, 1, 0⟩⟩])
    = some "idem/forward/fresh-key-suppressed" := by decide +kernel
/-- … and so is a target that receives an event twice -/
example : judgeIdem exCfg []
    [⟨0, .req 0 (some 0), .fwd 0 (some 4) ⟨1, 0, 1, 0, 0, 0, 1⟩⟩, ⟨0, .recv 0, .got (some 0) 0⟩,
     ⟨0, .recv 0, .got (some 0) 0⟩] = some "idem/target/unforwarded-event-received" := by decide +kernel

/-- **the code before the fix**: a key-less request that arrives while key 0 is in flight starts a second
    cleanup chain; the store sweeps at 4 and at 5 although cleanup_interval is 4 -/
theorem legacy_idem_chains_witness :
    judgeIdem { exCfg with legacy := true } []
      (run { exCfg with legacy := true } {} [(0, .req 0 (some 0)), (0, .recv 0), (1, .req 1 none), (4, .sweep), (5, .sweep)])
      = some "idem/cleanup/sweeps-closer-than-interval" := by decide +kernel

end HappyModel.C19.Idem
