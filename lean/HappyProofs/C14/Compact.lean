import HappyProofs.C14.Basic
namespace HappyModel.C14

theorem read_memInsert (s : St) (k k' : Key) (c : Cell) :
    (memInsert s k c).1.read k' = if k' = k then some c else s.read k' := by
  simp only [memInsert, St.read, lookup_ins]
  by_cases h : k' = k <;> simp [h]

theorem compactStart_cases (cfg : Cfg) (s : St) :
    compactStart cfg s = (s, .done .ok) ∨
    (s.compacting = false ∧ ∃ j, planCompaction cfg s.levels (selectLevel cfg.strat s.levels) = some j ∧
      compactStart cfg s = ({ s with compacting := true }, .pCompact j)) := by
  unfold compactStart
  cases hc : s.compacting with
  | true => exact Or.inl rfl
  | false =>
    cases hp : planCompaction cfg s.levels (selectLevel cfg.strat s.levels) with
    | none => exact Or.inl rfl
    | some j =>
      cases he : j.data.isEmpty with
      | true => left; simp [he]
      | false => right; exact ⟨rfl, j, rfl, by simp [he]⟩

def freezeMem (s : St) : St :=
  { s with imms := s.imms ++ [⟨s.memId, s.mem⟩], frozen := (s.memId, s.mem.length) :: s.frozen,
           mem := [], memId := s.nextId, nextId := s.nextId + 1 }

theorem flushStart_cases (cfg : Cfg) (s : St) :
    flushStart cfg s = (s, .done .ok) ∨
    (s.mem ≠ [] ∧ flushStart cfg s = (freezeMem s, .pFlush ⟨s.memId, s.mem⟩ (truncBound s))) := by
  unfold flushStart
  cases he : s.mem.isEmpty with
  | true => exact Or.inl rfl
  | false => exact Or.inr ⟨fun h0 => (by rw [h0] at he; cases he), rfl⟩

theorem read_congr {s s' : St} (h1 : s'.mem = s.mem) (h2 : s'.imms = s.imms) (h3 : s'.levels = s.levels) (k : Key) :
    s'.read k = s.read k := by
  unfold St.read; rw [h1, h2, h3]

theorem abs_congr {s s' : St} (h1 : s'.mem = s.mem) (h2 : s'.imms = s.imms) (h3 : s'.levels = s.levels) (k : Key) :
    s'.abs k = s.abs k := by
  unfold St.abs; rw [read_congr h1 h2 h3]

theorem abs_memInsert (s : St) (k k' : Key) (c : Cell) :
    (memInsert s k c).1.abs k' = if k' = k then c else s.abs k' := by
  unfold St.abs
  rw [read_memInsert]
  by_cases h : k' = k <;> simp [h]

theorem read_compactStart (cfg : Cfg) (s : St) (k : Key) :
    (compactStart cfg s).1.read k = s.read k := by
  rcases compactStart_cases cfg s with h | ⟨_, j, _, h⟩ <;> rw [h] <;> rfl

theorem read_freeze (s : St) (k : Key) : (freezeMem s).read k = s.read k := by
  rw [read_eq, read_eq]
  simp only [freezeMem, List.reverse_append, List.reverse_cons, List.reverse_nil, List.nil_append, List.singleton_append,
    lookTabs_cons, List.lookup_nil, Option.none_or, Option.or_assoc]

theorem read_flushStart (cfg : Cfg) (s : St) (k : Key) :
    (flushStart cfg s).1.read k = s.read k := by
  rcases flushStart_cases cfg s with h | ⟨_, h⟩ <;> rw [h]
  exact read_freeze s k

/-- the state after the synchronous part of a flush install, before the compaction check -/
def flushS1 (cfg : Cfg) (s : St) (t : Tab) (bound : Nat) : St :=
  { s with levels := modAt s.levels 0 (· ++ [t]),
           imms := s.imms.filter (fun i => i.id != t.id),
           wal := if cfg.wal.isSome then s.wal.filter (fun e => e.seq > bound) else s.wal }

theorem flushInstall_eq (cfg : Cfg) (s : St) (t : Tab) (b : Nat) :
    flushInstall cfg s t b =
      if shouldCompact cfg.strat (flushS1 cfg s t b).levels then compactStart cfg (flushS1 cfg s t b)
      else (flushS1 cfg s t b, .done .ok) := rfl

/-- the oldest frozen memtable is read last among the frozen ones, its SSTable first in level 0 -/
theorem read_flushS1 (cfg : Cfg) (s : St) (t : Tab) (b : Nat) (r : List Tab) (k : Key)
    (himm : s.imms = t :: r) (hid : ∀ i ∈ r, i.id ≠ t.id) (hlv : s.levels ≠ []) :
    (flushS1 cfg s t b).read k = s.read k := by
  obtain ⟨l0, ls, hl⟩ : ∃ l0 ls, s.levels = l0 :: ls := by
    cases h : s.levels with
    | nil => exact absurd h hlv
    | cons a b => exact ⟨a, b, rfl⟩
  have hf : (t :: r).filter (fun i => i.id != t.id) = r := by
    simp [filter_id_ne t.id r hid]
  rw [read_eq, read_eq]
  simp only [flushS1, himm, hf, hl, modAt, lookLevels_cons, List.reverse_append, List.reverse_cons, List.reverse_nil,
    List.nil_append, List.singleton_append, lookTabs_or_append, lookTabs_cons, lookTabs_nil, Option.or_none,
    Option.or_assoc]

theorem read_flushInstall (cfg : Cfg) (s : St) (t : Tab) (b : Nat) (r : List Tab) (k : Key)
    (himm : s.imms = t :: r) (hid : ∀ i ∈ r, i.id ≠ t.id) (hlv : s.levels ≠ []) :
    (flushInstall cfg s t b).1.read k = s.read k := by
  rw [flushInstall_eq]
  split
  · rw [read_compactStart]; exact read_flushS1 cfg s t b r k himm hid hlv
  · exact read_flushS1 cfg s t b r k himm hid hlv

/-- no key twice: the payload is a Python dict or a sorted SSTable -/
def Uniq (d : Data) : Prop := (d.map (·.1)).Nodup

instance (d : Data) : Decidable (Uniq d) := by unfold Uniq; infer_instance

theorem lookup_mergeNewer (k : Key) (base newer : Data) (hu : Uniq newer) :
    (mergeNewer base newer).lookup k = (newer.lookup k).or (base.lookup k) := by
  unfold mergeNewer
  induction newer generalizing base with
  | nil => rfl
  | cons e r ih =>
    obtain ⟨hne, hu'⟩ := List.nodup_cons.mp hu
    obtain ⟨k1, c1⟩ := e
    simp only [List.foldl_cons]
    rw [ih _ hu', lookup_ins, lookup_cons_ite]
    by_cases h : k = k1
    · subst h
      rw [if_pos rfl, if_pos rfl, lookup_none_of_not_mem _ r hne]; rfl
    · rw [if_neg h, if_neg h]

theorem lookup_mergeOlder (k : Key) (base older : Data) :
    (mergeOlder base older).lookup k = (base.lookup k).or (older.lookup k) := by
  unfold mergeOlder
  induction older generalizing base with
  | nil => simp
  | cons e r ih =>
    obtain ⟨k1, c1⟩ := e
    simp only [List.foldl_cons]
    rw [ih, lookup_cons_ite]
    by_cases hb : (base.lookup k1).isSome
    · rw [if_pos hb]
      cases hk : base.lookup k with
      | some c => rfl
      | none =>
        have hne : k ≠ k1 := fun h => by rw [← h, hk] at hb; cases hb
        rw [if_neg hne]
    · rw [if_neg hb, lookup_ins]
      by_cases h : k = k1
      · subst h
        rw [if_pos rfl, if_pos rfl, Option.not_isSome_iff_eq_none.mp hb]; rfl
      · rw [if_neg h, if_neg h]

theorem lookup_mergeSources_acc (k : Key) (S : List Tab) (acc : Data) (hu : ∀ t ∈ S, Uniq t.data) :
    (S.foldl (fun acc t => mergeNewer acc t.data) acc).lookup k = (lookTabs k S.reverse).or (acc.lookup k) := by
  induction S generalizing acc with
  | nil => rfl
  | cons t r ih =>
    simp only [List.foldl_cons, List.reverse_cons, lookTabs_or_append, lookTabs_cons, lookTabs_nil, Option.or_none]
    rw [ih _ (fun x hx => hu x (List.mem_cons_of_mem _ hx)), lookup_mergeNewer _ _ _ (hu t (List.mem_cons_self ..)),
      Option.or_assoc]

theorem lookup_mergeOverlap (k : Key) (m : Data) (O : List Tab) :
    (mergeOverlap m O).lookup k = (m.lookup k).or (lookTabs k O) := by
  unfold mergeOverlap
  induction O generalizing m with
  | nil => simp [lookTabs]
  | cons t r ih =>
    simp only [List.foldl_cons, lookTabs_cons]
    rw [ih, lookup_mergeOlder, Option.or_assoc]

theorem lookup_merge (S O : List Tab) (k : Key) (hu : ∀ t ∈ S, Uniq t.data) :
    (mergeOverlap (mergeSources S) O).lookup k = (lookTabs k S.reverse).or (lookTabs k O) := by
  rw [lookup_mergeOverlap]
  unfold mergeSources
  rw [lookup_mergeSources_acc k S [] hu, List.lookup_nil, Option.or_none]

end HappyModel.C14
