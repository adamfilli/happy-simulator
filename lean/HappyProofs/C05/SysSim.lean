import HappyProofs.C05.Sim
/-!
The EXECUTE phase of all partitions, and the barrier exchange, as executions of the abstract system:
the windows of the partitions, one after the other, extend an abstract execution `E`; restricted to
the entities of one partition, `E` is exactly that partition's delivery log.
-/
namespace HappyModel.C05

variable {τ : Type}

def ownB (c : Cfg) (pid : Nat) (d : PEv) : Bool := c.part d.tgt == pid

structure SSim (c : Cfg) (s : AS τ) (ps : List (Part (Nat → τ))) (R : List PEv) : Prop where
  st : ∀ p ∈ ps, ∀ x, c.part x = p.pid → s.st x = p.st x
  pend : s.pend.Perm ((sysPend ps).map proj ++ R)

theorem filter_ownB_self {c : Cfg} {pid : Nat} {seg : List PEv} (h : ∀ d ∈ seg, c.part d.tgt = pid) :
    seg.filter (ownB c pid) = seg :=
  List.filter_eq_self.mpr fun d hd => by simpa [ownB] using h d hd

theorem filter_ownB_nil {c : Cfg} {pid : Nat} {seg : List PEv} (h : ∀ d ∈ seg, c.part d.tgt ≠ pid) :
    seg.filter (ownB c pid) = [] :=
  List.filter_eq_nil_iff.mpr fun d hd hb => h d hd (by simpa [ownB] using hb)

theorem execAll_cons {σ} (h : Handler σ) (c : Cfg) (strict : Bool) (fuel we : Nat) (q : Part σ)
    (qs : List (Part σ)) :
    execAll h c strict fuel we (q :: qs)
      = runWin h (c.route q.pid) strict we fuel q :: execAll h c strict fuel we qs := by
  simp [execAll]

theorem execAll_sim (hE : EHandler τ) (c : Cfg) (b fuel we : Nat) (strict : Bool) :
    ∀ (ps : List (Part (Nat → τ))) (s : AS τ) (R : List PEv), (ps.map (·.pid)).Nodup →
      (∀ p ∈ ps, WInv (c.route p.pid) (Owns c p.pid) b p) → SSim c s ps R →
      (∀ p ∈ execAll (liftP hE) c strict fuel we ps, p.bad = false) →
      ∃ seg, Valid hE s seg
        ∧ SSim c (arun hE s seg) (execAll (liftP hE) c strict fuel we ps) R
        ∧ (∀ p ∈ ps, (runWin (liftP hE) (c.route p.pid) strict we fuel p).log.reverse.map proj
              = p.log.reverse.map proj ++ seg.filter (ownB c p.pid))
        ∧ (∀ d ∈ seg, c.part d.tgt ∈ ps.map (·.pid)) := by
  intro ps
  induction ps with
  | nil =>
    intro s R _ _ sim _
    exact ⟨[], trivial, sim, by simp, by simp⟩
  | cons q qs ih =>
    intro s R hn hw sim hgood
    rw [execAll_cons] at hgood ⊢
    simp only [List.map_cons, List.nodup_cons] at hn
    -- `q`'s window runs against a remainder that holds what the other partitions hold
    have simQ : PSim (fun x => c.part x = q.pid) s q ((sysPend qs).map proj ++ R) := by
      refine ⟨sim.st q (by simp), ?_⟩
      have := sim.pend
      rw [sysPend_cons, List.map_append, List.append_assoc] at this
      exact this
    obtain ⟨seg1, hv1, sim1, hlog1, hown1, _⟩ :=
      runWin_sim hE (c.route q.pid) (fun x => c.part x = q.pid) (route_loc_owns c q.pid) b strict we
        fuel q s _ (hw q (by simp)) simQ (hgood _ (by simp))
    have hne : ∀ p ∈ qs, p.pid ≠ q.pid := by
      intro p hp he
      exact hn.1 (List.mem_map.mpr ⟨p, hp, he⟩)
    -- the rest of the list sees what `q` now holds as part of the remainder; its entities are not
    -- `q`'s, so their states are untouched by `seg1`
    have simQs : SSim c (arun hE s seg1) qs
        ((pendOf (runWin (liftP hE) (c.route q.pid) strict we fuel q)).map proj ++ R) := by
      refine ⟨?_, ?_⟩
      · intro p hp x hx
        rw [arun_st_other hE x seg1 s ?_]
        · exact sim.st p (by simp [hp]) x hx
        · intro d hd hdx
          have := hown1 d hd
          rw [hdx, hx] at this
          exact hne p hp this
      · exact sim1.pend.trans (List.perm_append_comm_assoc _ _ _)
    obtain ⟨seg2, hv2, sim2, hlog2, hown2⟩ := ih (arun hE s seg1) _ hn.2
      (fun p hp => hw p (by simp [hp])) simQs (fun p hp => hgood p (by simp [hp]))
    refine ⟨seg1 ++ seg2, ?_, ?_, ?_, ?_⟩
    · exact (Valid_append hE seg1 seg2 s).mpr ⟨hv1, hv2⟩
    · rw [arun_append]
      refine ⟨?_, ?_⟩
      · intro p hp x hx
        simp only [List.mem_cons] at hp
        rcases hp with rfl | hp
        · rw [runWin_pid] at hx
          rw [arun_st_other hE x seg2 _ ?_]
          · exact sim1.st x hx
          · intro d hd hdx
            have := hown2 d hd
            rw [hdx, hx] at this
            exact hn.1 this
        · exact sim2.st p hp x hx
      · rw [sysPend_cons, List.map_append, List.append_assoc]
        exact sim2.pend.trans (List.perm_append_comm_assoc _ _ _)
    · intro p hp
      simp only [List.mem_cons] at hp
      rw [List.filter_append]
      rcases hp with rfl | hp
      · rw [filter_ownB_self hown1, filter_ownB_nil (pid := p.pid) fun d hd he => hn.1 (he ▸ hown2 d hd), List.append_nil]
        exact hlog1
      · rw [filter_ownB_nil (pid := p.pid) fun d hd he => hne p hp (he.symm.trans (hown1 d hd)), List.nil_append]
        exact hlog2 p hp
    · intro d hd
      simp only [List.mem_append] at hd
      simp only [List.map_cons, List.mem_cons]
      rcases hd with hd | hd
      · exact Or.inl (hown1 d hd)
      · exact Or.inr (hown2 d hd)

theorem exchange_ssim (c : Cfg) (s : AS τ) (ps : List (Part (Nat → τ))) (R : List PEv)
    (hn : (ps.map (·.pid)).Nodup) (hd : ∀ m ∈ allMsgs ps, c.dest m ∈ ps.map (·.pid))
    (sim : SSim c s ps R) : SSim c s (exchange c ps) R := by
  refine ⟨?_, ?_⟩
  · exact List.forall_mem_map.mpr sim.st
  · exact sim.pend.trans (((sysPend_exchange c ps hn hd).symm.map proj).append_right R)

end HappyModel.C05
