import HappyProofs.C18.StoreRefine
import HappyProofs.C18.Exchange
/-!
Gossip steps (ticks, deliveries, lossless rounds) emit state merges only, so a script that ends in a
gossip-only phase ends, for every key, in an *exchange* in the sense of `Exchange.lean`.
-/
namespace HappyModel.C18

theorem gossip_ops_merge (kind : Kind) (p : PSt) (steps : List SStep)
    (hg : ∀ x ∈ steps, x.isGossip = true) : AllMerge (PSt.ops .repaired kind p steps) := by
  induction steps generalizing p with
  | nil => exact allMerge_nil
  | cons x xs ih =>
    simp only [PSt.ops]
    exact (gossip_step_merge kind p x (hg x List.mem_cons_self)).append
      (ih _ (fun y hy => hg y (List.mem_cons_of_mem _ hy)))

def PSt.runP (v : Variant) (kind : Kind) (p : PSt) : List SStep → PSt
  | [] => p
  | x :: xs => PSt.runP v kind (p.step v kind x).1 xs

theorem ops_append (v : Variant) (kind : Kind) (p : PSt) (a b : List SStep) :
    PSt.ops v kind p (a ++ b) = PSt.ops v kind p a ++ PSt.ops v kind (PSt.runP v kind p a) b := by
  induction a generalizing p with
  | nil => simp [PSt.ops, PSt.runP]
  | cons x xs ih => simp [PSt.ops, PSt.runP, ih, List.append_assoc]

def mergePairs (ops : List COp) : List (Nat × Nat) :=
  ops.filterMap fun | .merge d s => some (d, s) | _ => none

theorem keyOps_of_merges (k : Nat) (ops : List (Nat × XOp)) (h : AllMerge ops) :
    keyOps k ops = merges (mergePairs (keyOps k ops)) := by
  induction ops with
  | nil => simp [keyOps, merges, mergePairs]
  | cons e rest ih =>
    have hr : AllMerge rest := fun e' he' => h e' (List.mem_cons_of_mem _ he')
    have he := h e List.mem_cons_self
    obtain ⟨j, x⟩ := e
    obtain ⟨d, s, rfl⟩ : ∃ d s, x = .base (.merge d s) := by
      cases x with
      | base o => cases o <;> first | exact ⟨_, _, rfl⟩ | exact he.elim
      | _ => exact he.elim
    by_cases hj : j = k
    · subst hj
      have hcons : keyOps j ((j, XOp.base (.merge d s)) :: rest) = .merge d s :: keyOps j rest := by
        simp [keyOps, XOp.toCOp?]
      rw [hcons]
      have hp : mergePairs (COp.merge d s :: keyOps j rest) = (d, s) :: mergePairs (keyOps j rest) := by
        simp [mergePairs]
      rw [hp]
      simp only [merges, List.map_cons]
      congr 1
      exact ih hr
    · have hcons : keyOps k ((j, XOp.base (.merge d s)) :: rest) = keyOps k rest := by
        simp [keyOps, hj]
      rw [hcons]
      exact ih hr

end HappyModel.C18
