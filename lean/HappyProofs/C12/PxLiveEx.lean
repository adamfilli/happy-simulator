import HappyModel.C12.Paxos
namespace HappyModel.C12.Px

/-- 3 nodes, majority quorums, proposer 0 with ballot (1, 0) = 3 and value 7; node 1 is the quorum partner -/
def liveRun : List Act :=
  [.propose 0 3 7, .recvPrepare 3 1, .recvPromise 3 1, .recvAccept 3 1, .recvAccepted 3 1,
   .recvDecided 0 1, .recvDecided 0 2]

theorem single_proposer_example :
    (runActs (init 3 2 2) liveRun).decided 0 = some 7 ∧ (runActs (init 3 2 2) liveRun).futRes 0 = some 7 ∧
    (runActs (init 3 2 2) liveRun).decided 1 = some 7 ∧ (runActs (init 3 2 2) liveRun).decided 2 = some 7 := by
  decide +kernel

/-- duplicates and another interleaving (node 2's Prepare delivered in between, deliveries repeated) change nothing -/
example :
    (runActs (init 3 2 2) [.propose 0 3 7, .recvPrepare 3 2, .recvPrepare 3 1, .recvPrepare 3 1, .recvPromise 3 1,
      .recvPromise 3 1, .recvAccept 3 2, .recvAccept 3 1, .recvAccepted 3 1, .recvAccepted 3 1]).decided 0 = some 7 := by
  decide +kernel

/-- Counter-example: both Prepares are delivered but no Promise ever reaches the proposer; on this schedule, which
    attempts every other delivery, the proposer does not decide and its future stays pending -/
theorem single_proposer_lost_link_undecided :
    (runActs (init 3 2 2) [.propose 0 3 7, .recvPrepare 3 1, .recvPrepare 3 2, .recvAccept 3 1, .recvAccepted 3 1,
      .recvAccept 3 2, .recvAccepted 3 2, .recvDecided 0 1, .recvDecided 0 2]).decided 0 = none ∧
    (runActs (init 3 2 2) [.propose 0 3 7, .recvPrepare 3 1, .recvPrepare 3 2, .recvAccept 3 1, .recvAccepted 3 1,
      .recvAccept 3 2, .recvAccepted 3 2, .recvDecided 0 1, .recvDecided 0 2]).futRes 0 = none := by
  decide +kernel

end HappyModel.C12.Px
