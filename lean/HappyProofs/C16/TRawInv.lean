import HappyProofs.C16.TRawTier
import HappyProofs.C16.TierSeq
/-!
Multi-tier read-after-write over every interleaving: the parts of the invariant (`MInv` itself is in `TRawExt`).

A `put` / `delete` of the multi-tier cache reaches the backing store in its *second* segment and
invalidates the tiers right there; until then (`BPm`) the tiers and the backing store may still hold
what the write is about to replace.  So every tier cache entry and every backing-store value is
`Fresh` against the started writes whose backing-store write has happened (`MVI.c`, `MVI.b`); the
writes completed before a `get` is issued are among them.  A value read from a lower tier is promoted
into L1 only if the key's epoch is unchanged and nothing is in flight — then every started write had
completed before the read was issued (`MPI.tg`), and the value is fresh against all of them.
-/
namespace HappyModel.C16.Tier
open HappyModel.C16

/-- the key a pending continuation will still write to the backing store before the tiers are
    invalidated -/
def mbwKey : MPend → Option Key
  | .putBack k _ => some k
  | .delBack k => some k
  | _ => none

/-- the key a pending continuation keeps "in flight" -/
def inflKey : MPend → Option Key
  | .putBack k _ => some k
  | .putL1 k => some k
  | .delBack k => some k
  | _ => none

theorem inflKey_of_mbwKey {p : MPend} {k : Key} (h : mbwKey p = some k) : inflKey p = some k := by
  cases p <;> simp [mbwKey] at h <;> simp [inflKey, h]

def BPm (ms : MSt) (k : Key) (j : Nat) : Prop := ∃ p, (j, p) ∈ ms.pend ∧ mbwKey p = some k
def InFl (ms : MSt) (k : Key) (j : Nat) : Prop := ∃ p, (j, p) ∈ ms.pend ∧ inflKey p = some k
def inflCount (pend : List (Nat × MPend)) (k : Key) : Nat :=
  (pend.filter fun x => inflKey x.2 == some k).length

/-- `inflCount` is `keyCount` at `inflKey`, written out -/
theorem inflCount_eq : inflCount = keyCount inflKey := rfl

/-- the continuations a tier holds: reads, and on L1 the write-through `put` of a multi-tier `put`
    that has not completed -/
def TP (g : Gh) (t : Nat) (s : St) : Prop :=
  ∀ x ∈ s.pend, x.1 ∈ g.started ∧
    ((∃ v, x.2 = Pend.getHit v) ∨ (∃ k e, x.2 = Pend.getMiss k e) ∨
     (∃ k v, x.2 = Pend.putWT k v ∧ t = 0 ∧ (x.1, OpK.put k v) ∈ g.ops ∧ endIdx g.evs x.1 = none))

theorem TP.putWT {g : Gh} {t : Nat} {s : St} (h : TP g t s) {x : Nat × Pend} (hx : x ∈ s.pend) {k v : Nat}
    (e : x.2 = Pend.putWT k v) : t = 0 ∧ (x.1, OpK.put k v) ∈ g.ops := by
  rcases (h x hx).2 with ⟨_, e'⟩ | ⟨_, _, e'⟩ | ⟨k', v', e', h0, ho, _⟩ <;> rw [e] at e' <;> cases e'
  exact ⟨h0, ho⟩

structure MVI (g : Gh) (ms : MSt) : Prop where
  c : ∀ (t : Nat) (s : St), ms.tiers[t]? = some s → ∀ k v, aget? s.cache k = some v →
        Fresh g k (some v) (fun j => ¬ BPm ms k j)
  b : ∀ k, Fresh g k (aget? ms.back k) (fun j => ¬ BPm ms k j)
  d : ∀ (t : Nat) (s : St), ms.tiers[t]? = some s → s.dirty = []
  tp : ∀ (t : Nat) (s : St), ms.tiers[t]? = some s → TP g t s

structure MPI (g : Gh) (ms : MSt) : Prop where
  pendS : ∀ x ∈ ms.pend, x.1 ∈ g.started ∧ endIdx g.evs x.1 = none
  pendND : (ms.pend.map (·.1)).Nodup
  infl : ∀ k, cnt ms.infl k = inflCount ms.pend k
  pb : ∀ i k v, (i, MPend.putBack k v) ∈ ms.pend → (i, OpK.put k v) ∈ g.ops
  pl : ∀ i k, (i, MPend.putL1 k) ∈ ms.pend → ∃ v, (i, OpK.put k v) ∈ g.ops
  db : ∀ i k, (i, MPend.delBack k) ∈ ms.pend → (i, OpK.del k) ∈ g.ops
  dr : ∀ i t, (i, MPend.direct t) ∈ ms.pend → ∀ k, (i, OpK.get k) ∉ g.ops
  tg : ∀ i t k e, (i, MPend.tierGet t k e) ∈ ms.pend → (i, OpK.get k) ∈ g.ops ∧
        ∃ rs rh, firstIdx g.evs i = some rs ∧ rs ≤ rh ∧ rh ≤ g.evs.length ∧ e ≤ cnt ms.epoch k ∧
          (e = cnt ms.epoch k → ∀ j op, j ∈ g.started → (j, op) ∈ g.ops → wk op = some k →
            CompletedBefore g.evs j rh ∨ InFl ms k j) ∧
          ∀ (s : St) (q : Pend), ms.tiers[t]? = some s → (i, q) ∈ s.pend →
            ∃ v, q = Pend.getHit v ∧ Fresh g k (some v) (fun j => CompletedBefore g.evs j rh)
  bg : ∀ i k e, (i, MPend.backGet k e) ∈ ms.pend → (i, OpK.get k) ∈ g.ops ∧
        ∃ rs, firstIdx g.evs i = some rs ∧
          Fresh g k (aget? ms.back k) (fun j => CompletedBefore g.evs j rs)

/-- a started write is in flight or has completed; `ex` = the id that is completing right now -/
def LimboX (g : Gh) (ms : MSt) (ex : Option Nat) : Prop :=
  ∀ j op k, j ∈ g.started → (j, op) ∈ g.ops → wk op = some k →
    InFl ms k j ∨ (endIdx g.evs j).isSome ∨ ex = some j

abbrev Limbo (g : Gh) (ms : MSt) : Prop := LimboX g ms none

theorem Limbo.elim {g : Gh} {ms : MSt} (h : Limbo g ms) {j : Nat} {op : OpK} {k : Key} (hj : j ∈ g.started)
    (hm : (j, op) ∈ g.ops) (hk : wk op = some k) : InFl ms k j ∨ (endIdx g.evs j).isSome := by
  rcases h j op k hj hm hk with h' | h' | h'
  · exact Or.inl h'
  · exact Or.inr h'
  · cases h'

/-- one generic way to re-establish the value invariant: `K` is the key (if any) whose set of
    writes-yet-to-reach-the-backing-store may have shrunk; values of other keys are old ones -/
theorem mvi_update {g : Gh} {ms ms' : MSt} (h : MVI g ms) (K : Option Key)
    (hbp : ∀ k j, K ≠ some k → BPm ms k j → BPm ms' k j)
    (hc : ∀ (t : Nat) (s' : St) x w, ms'.tiers[t]? = some s' → aget? s'.cache x = some w →
      (K ≠ some x ∧ ∃ (t0 : Nat) (s : St), ms.tiers[t0]? = some s ∧ aget? s.cache x = some w) ∨
      (K ≠ some x ∧ aget? ms.back x = some w) ∨
      Fresh g x (some w) (fun j => ¬ BPm ms' x j))
    (hb : ∀ x, (K ≠ some x ∧ aget? ms'.back x = aget? ms.back x) ∨
      Fresh g x (aget? ms'.back x) (fun j => ¬ BPm ms' x j))
    (hd : ∀ (t : Nat) (s' : St), ms'.tiers[t]? = some s' → s'.dirty = [])
    (htp : ∀ (t : Nat) (s' : St), ms'.tiers[t]? = some s' → TP g t s') : MVI g ms' where
  c := by
    intro t s' hs x w hw
    rcases hc t s' x w hs hw with ⟨hK, t0, s, hs0, hw0⟩ | ⟨hK, hw0⟩ | hf
    · exact (h.c t0 s hs0 x w hw0).anti (fun j _ hn hbj => hn (hbp x j hK hbj))
    · have := h.b x
      rw [hw0] at this
      exact this.anti (fun j _ hn hbj => hn (hbp x j hK hbj))
    · exact hf
  b := by
    intro x
    rcases hb x with ⟨hK, e⟩ | hf
    · rw [e]; exact (h.b x).anti (fun j _ hn hbj => hn (hbp x j hK hbj))
    · exact hf
  d := hd
  tp := htp

theorem onTier_cases (cfg : MCfg) (ms : MSt) (t : Nat) (f : Cfg → St → St × Option Res) :
    (∃ c s, cfg.tiers[t]? = some c ∧ ms.tiers[t]? = some s ∧
      onTier cfg ms t f = ({ ms with tiers := ms.tiers.set t (f c (plug s ms.back)).1, back := (f c (plug s ms.back)).1.back }, (f c (plug s ms.back)).2)) ∨
    ((cfg.tiers[t]? = none ∨ ms.tiers[t]? = none) ∧ onTier cfg ms t f = (ms, none)) := by
  cases ec : cfg.tiers[t]? with
  | none => exact Or.inr ⟨Or.inl rfl, onTier_none cfg ms t f (Or.inl ec)⟩
  | some c =>
    cases es : ms.tiers[t]? with
    | none => exact Or.inr ⟨Or.inr rfl, onTier_none cfg ms t f (Or.inr es)⟩
    | some s => exact Or.inl ⟨c, s, rfl, rfl, onTier_eq cfg ms t f c s ec es⟩

def Tiers (R : Nat → St → St → Prop) (ss ss' : List St) : Prop :=
  ∀ (t : Nat) (s' : St), ss'[t]? = some s' → ∃ s : St, ss[t]? = some s ∧ R t s s'

/-- what a sweep (`invalidate(k)` / `invalidate_all()` on every tier from index `lo` on) leaves -/
def Swept (op : OpK) (lo n : Nat) : List St → List St → Prop :=
  Tiers fun t s s' => s'.dirty = [] ∧ s'.pend = s.pend ∧
    (∀ x w, aget? s'.cache x = some w → aget? s.cache x = some w) ∧
    (lo ≤ t → t < n → (∀ k, op = .inv k → k ∉ akeys s'.cache) ∧ (op = .invAll → s'.cache = []))

theorem sweepFrom_clean (lo : Nat) (op : OpK) (hop : (∃ k, op = .inv k) ∨ op = .invAll) (cs : List Cfg) (ss : List St)
    (b : List (Key × Nat)) (hd : ∀ (t : Nat) (s : St), ss[t]? = some s → s.dirty = []) :
    (sweepL op (cs.drop lo) (ss.drop lo) b).2 = b ∧
      Swept op lo cs.length ss (ss.take lo ++ (sweepL op (cs.drop lo) (ss.drop lo) b).1) := by
  have head : ∀ (c : Cfg) (s : St), s.dirty = [] → TStep (plug s b) (start c (plug s b) 0 op 0).1 none ∧
      (start c (plug s b) 0 op 0).1.pend = s.pend ∧
      ((∀ k, op = .inv k → k ∉ akeys (start c (plug s b) 0 op 0).1.cache) ∧
       (op = .invAll → (start c (plug s b) 0 op 0).1.cache = [])) := by
    intro c s hds
    rcases hop with ⟨k, rfl⟩ | rfl
    · obtain ⟨t, p, hk⟩ := startInv_clean c (plug s b) 0 k 0 hds
      exact ⟨t, p, (fun k' e => by cases e; exact hk), nofun⟩
    · obtain ⟨t, p, hk⟩ := startInvAll_clean c (plug s b) 0 0 hds
      exact ⟨t, p, nofun, (fun _ => hk)⟩
  obtain ⟨h1, _, h3⟩ := sweepFrom_at lo op (· = b) cs ss b
    (fun t c s b0 _ _ es e => by rw [e]; exact (head c s (hd t s es)).1.back) rfl
  refine ⟨h1, fun t s' hs => ?_⟩
  obtain ⟨s, hs0, ⟨hl, rfl⟩ | ⟨c, b', _, _, rfl, rfl⟩⟩ := h3 t s' hs
  · refine ⟨s', hs0, hd t s' hs0, rfl, fun _ _ h => h, fun h1 h2 => ?_⟩
    rcases hl with hl | hl
    · omega
    · rw [List.getElem?_eq_none_iff] at hl; omega
  · obtain ⟨ht, hp, hcl⟩ := head c s (hd t s hs0)
    exact ⟨s, hs0, ht.dirty, hp, fun x w hw => (ht.cache x w hw).elim id nofun, fun _ _ => hcl⟩

theorem sweep_clean (cfg : MCfg) (ms : MSt) (op : OpK) (hop : (∃ k, op = .inv k) ∨ op = .invAll)
    (hd : ∀ (t : Nat) (s : St), ms.tiers[t]? = some s → s.dirty = []) :
    (ms.sweep cfg op).back = ms.back ∧ Swept op 0 cfg.tiers.length ms.tiers (ms.sweep cfg op).tiers :=
  sweepFrom_clean 0 op hop cfg.tiers ms.tiers ms.back hd

theorem sweepLow_clean (cfg : MCfg) (ms : MSt) (op : OpK) (hop : (∃ k, op = .inv k) ∨ op = .invAll)
    (hd : ∀ (t : Nat) (s : St), ms.tiers[t]? = some s → s.dirty = []) :
    (ms.sweepLow cfg op).back = ms.back ∧ Swept op 1 cfg.tiers.length ms.tiers (ms.sweepLow cfg op).tiers :=
  sweepFrom_clean 1 op hop cfg.tiers ms.tiers ms.back hd

end HappyModel.C16.Tier
