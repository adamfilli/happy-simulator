import HappyProofs.C11.ElectInv
import HappyProofs.C11.LogInv
/-! Vocabulary of the Leader Completeness proof: what a node *accepted* in a term (read off the
    history `seen`), quorum-accepted records, the logs a leader of a term can have, committed
    prefixes — all monotone in the history.  Then the invariant `HInv`, and Leader Completeness as a
    consequence of it in any single state (`lc_main`): a record accepted by a quorum in term `T` is
    a prefix of the election-time log of every leader of a later term. -/
namespace HappyModel.C11

/-- node `f`, while in term `T`, held a log starting with `K`, whose last entry is of term `T` -/
def Accepted (g : GSt) (f T : Nat) (K : List Entry) : Prop :=
  K ≠ [] ∧ lastTerm K = T ∧ ∃ L, (f, T, L) ∈ g.seen ∧ K <+: L

/-- a quorum accepted `K` in term `T` -/
def QA (g : GSt) (K : List Entry) (T : Nat) : Prop :=
  ∃ Q : List Nat, Q.Nodup ∧ (∀ f ∈ Q, f < g.s.n ∧ Accepted g f T K) ∧ quorum g.s.n ≤ Q.length

/-- `X` is a log the leader of term `t` had at some moment: its log at election, or a record of its term -/
def LeaderLog (g : GSt) (t : Nat) (X : List Entry) : Prop :=
  ∃ c L, (t, c, L) ∈ g.llogs ∧ L <+: X ∧ (X = L ∨ (X ∈ g.created ∧ lastTerm X = t))

/-- `K` is a prefix of a record that a quorum accepted in some term `≤ b` -/
def CommB (g : GSt) (K : List Entry) (b : Nat) : Prop :=
  K = [] ∨ ∃ T K', T ≤ b ∧ QA g K' T ∧ K <+: K'

/-- the history only grew -/
structure GLe (g g' : GSt) : Prop where
  n : g'.s.n = g.s.n
  seen : ∀ x ∈ g.seen, x ∈ g'.seen
  llogs : ∀ x ∈ g.llogs, x ∈ g'.llogs
  created : ∀ x ∈ g.created, x ∈ g'.created
  cands : ∀ x ∈ g.cands, x ∈ g'.cands
  voted : ∀ x ∈ g.voted, x ∈ g'.voted

theorem gle_apply (g : GSt) (i : Nat) (r : HR) (cr) : GLe g (gApply g i r cr) :=
  ⟨rfl, fun _ h => List.mem_cons_of_mem _ h, fun _ h => List.mem_append_right _ h, fun _ h => List.mem_append_right _ h,
   fun _ h => List.mem_append_right _ h, fun _ h => List.mem_append_right _ h⟩

theorem gle_idle (g : GSt) (s' : St) (hsz : s'.n = g.s.n) : GLe g { g with s := s' } :=
  ⟨hsz, fun _ h => h, fun _ h => h, fun _ h => h, fun _ h => h, fun _ h => h⟩

theorem GLe.refl (g : GSt) : GLe g g := ⟨rfl, fun _ h => h, fun _ h => h, fun _ h => h, fun _ h => h, fun _ h => h⟩

theorem GLe.trans {g1 g2 g3 : GSt} (h1 : GLe g1 g2) (h2 : GLe g2 g3) : GLe g1 g3 :=
  ⟨by rw [h2.n, h1.n], fun x h => h2.seen x (h1.seen x h), fun x h => h2.llogs x (h1.llogs x h),
   fun x h => h2.created x (h1.created x h), fun x h => h2.cands x (h1.cands x h), fun x h => h2.voted x (h1.voted x h)⟩

theorem gle_step (v : Variant) (g : GSt) (a : Act) : GLe g (gstep v g a) := by
  rcases gstep_cases v g a with h | ⟨i, r, _, h⟩ <;> rw [h]
  · exact gle_idle g _ (step_n ..)
  · exact gle_apply g i r _

theorem gle_run (v : Variant) (as : List Act) (g : GSt) : GLe g (grun v g as) :=
  grun_keeps (P := GLe g) (fun g' a h => h.trans (gle_step v g' a)) as (GLe.refl g)

theorem Accepted.mono {g g' : GSt} (h : GLe g g') {f T : Nat} {K : List Entry} (a : Accepted g f T K) : Accepted g' f T K := by
  obtain ⟨h1, h2, L, h3, h4⟩ := a
  exact ⟨h1, h2, L, h.seen _ h3, h4⟩

theorem QA.mono {g g' : GSt} (h : GLe g g') {K : List Entry} {T : Nat} (q : QA g K T) : QA g' K T := by
  obtain ⟨Q, h1, h2, h3⟩ := q
  refine ⟨Q, h1, fun f hf => ⟨by rw [h.n]; exact (h2 f hf).1, (h2 f hf).2.mono h⟩, by rw [h.n]; exact h3⟩

theorem LeaderLog.mono {g g' : GSt} (h : GLe g g') {t : Nat} {X : List Entry} (l : LeaderLog g t X) : LeaderLog g' t X := by
  obtain ⟨c, L, h1, h2, h3⟩ := l
  refine ⟨c, L, h.llogs _ h1, h2, ?_⟩
  rcases h3 with h3 | ⟨h3, h4⟩
  · exact Or.inl h3
  · exact Or.inr ⟨h.created _ h3, h4⟩

theorem CommB.mono {g g' : GSt} (h : GLe g g') {K : List Entry} {b b' : Nat} (hb : b ≤ b') (c : CommB g K b) : CommB g' K b' := by
  rcases c with c | ⟨T, K', h1, h2, h3⟩
  · exact Or.inl c
  · exact Or.inr ⟨T, K', by omega, h2.mono h, h3⟩

theorem CommB.prefix {g : GSt} {K K0 : List Entry} {b : Nat} (c : CommB g K b) (hp : K0 <+: K) : CommB g K0 b := by
  rcases c with c | ⟨T, K', h1, h2, h3⟩
  · left; rw [c] at hp; exact List.prefix_nil.mp hp
  · exact Or.inr ⟨T, K', h1, h2, hp.trans h3⟩

theorem lastTerm_nil : lastTerm [] = 0 := rfl

theorem termAt_eq_lastTerm_take {l : List Entry} {N : Nat} (h1 : 1 ≤ N) (h2 : N ≤ l.length) :
    lastTerm (l.take N) = termAt l N := by
  obtain ⟨k, rfl⟩ : ∃ k, N = k + 1 := ⟨N - 1, by omega⟩
  rw [lastTerm_take h2, termAt_succ h2]

theorem Rec.mem_self {C : List (List Entry)} {l : List Entry} (h : Rec C l) (hne : l ≠ []) : l ∈ C := by
  have hpos : 0 < l.length := List.length_pos_iff.mpr hne
  have := h (l.length - 1) (by omega)
  rwa [show l.length - 1 + 1 = l.length by omega, List.take_length] at this

theorem Rec.mem_prefix {C : List (List Entry)} {l K : List Entry} (h : Rec C l) (hp : K <+: l) (hne : K ≠ []) : K ∈ C := by
  have hpos : 0 < K.length := List.length_pos_iff.mpr hne
  have hle := hp.length_le
  have := h (K.length - 1) (by omega)
  rwa [show K.length - 1 + 1 = K.length by omega, (List.prefix_iff_eq_take.mp hp).symm] at this

theorem Rec.of_prefix {C : List (List Entry)} {l K : List Entry} (h : Rec C l) (hp : K <+: l) : Rec C K := by
  rw [List.prefix_iff_eq_take.mp hp]; exact h.take _

/-- what voter `f` promises a candidate of term `U` whose log is `Lc`: everything `f` accepted before
    is in `Lc`, unless a leader of a term in between already lacked it -/
def VmProp (g : GSt) (f U : Nat) (Lc : List Entry) : Prop :=
  ∀ T K, T < U → Accepted g f T K →
    K <+: Lc ∨ ∃ t' c' L', (t', c', L') ∈ g.llogs ∧ T < t' ∧ t' < U ∧ ¬ K <+: L'

/-- an AppendEntries of term `t` is cut out of a log `X` of the leader of `t` -/
def AEM (g : GSt) (t pi pt : Nat) (es : List Entry) (lc : Nat) : Prop :=
  ∃ X, LeaderLog g t X ∧ es = X.drop pi ∧ pt = (if pi > 0 then termAt X pi else 0) ∧ lc ≤ X.length
    ∧ CommB g (X.take lc) t

/-- a successful acknowledgement `(f, m)` of term `t`: `f` held the first `m` entries of a log of the leader of `t` -/
def ARM (g : GSt) (t f m : Nat) : Prop :=
  m = 0 ∨ ∃ X L, LeaderLog g t X ∧ m ≤ X.length ∧ (f, t, L) ∈ g.seen ∧ X.take m <+: L

/-- The invariant behind Leader Completeness, clause by clause.
    `r_*` records (`created`): the terms along a record do not exceed its last term; records of one term are prefixes of one
      another; a record extends the election-time log of the leader of its term; every non-empty prefix of a record is a record.
    `ll_*` election-time logs (`llogs`): their leader is in the ledger; one per term; recorded; last term below the election
      term; backed by a vote quorum each member of which promised `VmProp`.
    `s_*` states a handler left (`seen`): their term does not exceed the node's; their log is recorded.
    `k0`–`k2`, `kvt`, `vm` candidacies (`cands`) and votes: a candidacy's term does not exceed the candidate's; a candidate's present
      state is a candidacy; its log is recorded, with last term below the candidacy's; a vote's term does not exceed the candidate's;
      a vote for a candidacy carries `VmProp`, unless the term has a leader already.
    `n_*` nodes: last term `≤` term; a leader's log is a `LeaderLog` of its term; `match_index` is sound (`n_ms`); the present
      (term, log) is in `seen`; the committed prefix is `CommB`; `commit ≤ len(log)`; what a node accepted in term `T` is still in
      its log, unless a leader of a term between `T` and the node's lacked it (`n_a1`).
    `m_*` messages: a RequestVote names a candidacy of a term not above the candidate's, and its log; an AppendEntries is cut
      from a log of the leader of its term (`AEM`); a successful acknowledgement names a prefix its sender held (`ARM`). -/
structure HInv (g : GSt) : Prop where
  r_mono : ∀ R ∈ g.created, ∀ K, K <+: R → K ≠ [] → lastTerm K ≤ lastTerm R
  r_same : ∀ R ∈ g.created, ∀ R' ∈ g.created, lastTerm R = lastTerm R' → R.length ≤ R'.length → R <+: R'
  r_ll : ∀ R ∈ g.created, ∃ c L, (lastTerm R, c, L) ∈ g.llogs ∧ L <+: R
  r_closed : ∀ R ∈ g.created, Rec g.created R
  ll_led : ∀ t c L, (t, c, L) ∈ g.llogs → (t, c) ∈ g.leaders
  ll_uniq : ∀ t c L c' L', (t, c, L) ∈ g.llogs → (t, c', L') ∈ g.llogs → L = L'
  ll_rec : ∀ t c L, (t, c, L) ∈ g.llogs → Rec g.created L
  ll_lt : ∀ t c L, (t, c, L) ∈ g.llogs → lastTerm L < t
  ll_q : ∀ U c L, (U, c, L) ∈ g.llogs → ∃ S : List Nat, S.Nodup ∧ quorum g.s.n ≤ S.length ∧
          ∀ f ∈ S, f < g.s.n ∧ U ≤ (g.s.nodes f).term ∧ VmProp g f U L
  s_term : ∀ j T L, (j, T, L) ∈ g.seen → T ≤ (g.s.nodes j).term
  s_rec : ∀ j T L, (j, T, L) ∈ g.seen → Rec g.created L
  k0 : ∀ U c Lc, (U, c, Lc) ∈ g.cands → U ≤ (g.s.nodes c).term
  k1 : ∀ c, (g.s.nodes c).role = .candidate → ((g.s.nodes c).term, c, (g.s.nodes c).log) ∈ g.cands
  k2 : ∀ U c Lc, (U, c, Lc) ∈ g.cands → lastTerm Lc < U ∧ Rec g.created Lc
  kvt : ∀ f U c, (f, U, c) ∈ g.voted → U ≤ (g.s.nodes c).term
  vm : ∀ f U c, (f, U, c) ∈ g.voted → ∀ Lc, (U, c, Lc) ∈ g.cands →
        (∃ c' L', (U, c', L') ∈ g.llogs) ∨ VmProp g f U Lc
  n_lt : ∀ i, lastTerm (g.s.nodes i).log ≤ (g.s.nodes i).term
  n_ldr : ∀ i, (g.s.nodes i).role = .leader → LeaderLog g (g.s.nodes i).term (g.s.nodes i).log
  n_ms : ∀ i, (g.s.nodes i).role = .leader → ∀ j, (g.s.nodes i).matchIndex.getD j 0 = 0 ∨
          ((g.s.nodes i).matchIndex.getD j 0 ≤ (g.s.nodes i).log.length ∧
           ∃ L, (j, (g.s.nodes i).term, L) ∈ g.seen ∧ (g.s.nodes i).log.take ((g.s.nodes i).matchIndex.getD j 0) <+: L)
  n_seen : ∀ i, (g.s.nodes i).log = [] ∨ (i, (g.s.nodes i).term, (g.s.nodes i).log) ∈ g.seen
  n_cn : ∀ i, CommB g ((g.s.nodes i).log.take (g.s.nodes i).commit) (g.s.nodes i).term
  n_cl : ∀ i, (g.s.nodes i).commit ≤ (g.s.nodes i).log.length
  n_a1 : ∀ f T K, Accepted g f T K → K <+: (g.s.nodes f).log ∨
          ∃ t' c' L', (t', c', L') ∈ g.llogs ∧ T < t' ∧ t' ≤ (g.s.nodes f).term ∧ ¬ K <+: L'
  m_rv : ∀ e ∈ g.s.msgs, ∀ U c li lt, e.body = .rv U c li lt → U ≤ (g.s.nodes c).term ∧
          ∀ Lc, (U, c, Lc) ∈ g.cands → li = Lc.length ∧ lt = lastTerm Lc
  m_ae : ∀ e ∈ g.s.msgs, ∀ t l pi pt es lc, e.body = .ae t l pi pt es lc → AEM g t pi pt es lc
  m_ar : ∀ e ∈ g.s.msgs, ∀ t f m, e.body = .ar t true f m → ARM g t f m

theorem hinv_init (n : Nat) : HInv (ginit n) := by
  constructor <;> simp [ginit, init, initNode, lastTerm, CommB, Accepted]

theorem quorum_pos (n : Nat) : 1 ≤ quorum n := by unfold quorum; omega

theorem Accepted.mem_created {g : GSt} (hi : HInv g) {f T : Nat} {K : List Entry} (a : Accepted g f T K) : K ∈ g.created := by
  obtain ⟨h1, _, L, h3, h4⟩ := a
  exact (hi.s_rec f T L h3).mem_prefix h4 h1

theorem QA.mem_created {g : GSt} (hi : HInv g) {K : List Entry} {T : Nat} (q : QA g K T) : K ∈ g.created ∧ lastTerm K = T := by
  obtain ⟨Q, _, h2, h3⟩ := q
  have := quorum_pos g.s.n
  match Q, h2, h3 with
  | [], _, h3 => simp at h3; omega
  | f :: _, h2, _ =>
    have := (h2 f (by simp)).2
    exact ⟨this.mem_created hi, this.2.1⟩

/-- LEADER COMPLETENESS, at the level of records: a record accepted by a quorum in term `T` is a prefix
    of the election-time log of every leader of a later term.  Strong induction on the later term;
    the vote quorum and the acceptance quorum share a node, and that node's vote came with `VmProp`. -/
theorem lc_main {g : GSt} (hi : HInv g) : ∀ U, ∀ K T, QA g K T → ∀ c L, (U, c, L) ∈ g.llogs → T < U → K <+: L := by
  intro U
  induction U using Nat.strongRecOn with
  | _ U ih =>
    intro K T hqa c L hL hTU
    obtain ⟨S, hSnd, hSq, hS⟩ := hi.ll_q U c L hL
    obtain ⟨Q, hQnd, hQ, hQq⟩ := hqa
    obtain ⟨f, hf1, hf2⟩ := quorum_lists_meet g.s.n S Q hSnd hQnd (fun f hf => (hS f hf).1) (fun f hf => (hQ f hf).1) hSq hQq
    rcases (hS f hf1).2.2 T K hTU (hQ f hf2).2 with h | ⟨t', c', L', h1, h2, h3, h4⟩
    · exact h
    · exact absurd (ih t' h3 K T ⟨Q, hQnd, hQ, hQq⟩ c' L' h1 h2) h4

theorem LeaderLog.ext_init {g : GSt} (hi : HInv g) {t : Nat} {X : List Entry} (h : LeaderLog g t X) {c : Nat} {L : List Entry}
    (hL : (t, c, L) ∈ g.llogs) : L <+: X := by
  obtain ⟨c', L', h1, h2, _⟩ := h
  rw [hi.ll_uniq t c L c' L' hL h1]; exact h2

theorem LeaderLog.rec {g : GSt} (hi : HInv g) {t : Nat} {X : List Entry} (h : LeaderLog g t X) : Rec g.created X := by
  obtain ⟨c, L, h1, _, h3⟩ := h
  rcases h3 with h3 | ⟨h3, _⟩
  · rw [h3]; exact hi.ll_rec t c L h1
  · exact hi.r_closed X h3

theorem LeaderLog.lastTerm_le {g : GSt} (hi : HInv g) {t : Nat} {X : List Entry} (h : LeaderLog g t X) : lastTerm X ≤ t := by
  obtain ⟨c, L, h1, _, h3⟩ := h
  rcases h3 with h3 | ⟨_, h3⟩
  · rw [h3]; exact Nat.le_of_lt (hi.ll_lt t c L h1)
  · omega

theorem HInv.r_comparable {g : GSt} (hi : HInv g) {R R' : List Entry} (m : R ∈ g.created) (m' : R' ∈ g.created)
    (ht : lastTerm R = lastTerm R') : R <+: R' ∨ R' <+: R := by
  by_cases hlen : R.length ≤ R'.length
  · exact Or.inl (hi.r_same R m R' m' ht hlen)
  · exact Or.inr (hi.r_same R' m' R m ht.symm (by omega))

theorem LeaderLog.comparable {g : GSt} (hi : HInv g) {t : Nat} {X : List Entry} (h : LeaderLog g t X) {K : List Entry}
    (hK : K ∈ g.created) (hKt : lastTerm K = t) : K <+: X ∨ X <+: K := by
  obtain ⟨c, L, h1, h2, h3⟩ := h
  rcases h3 with h3 | ⟨h3, h4⟩
  · right
    obtain ⟨c', L', h5, h6⟩ := hi.r_ll K hK
    rw [hKt] at h5
    rw [h3, hi.ll_uniq t c L c' L' h1 h5]; exact h6
  · exact hi.r_comparable hK h3 (hKt.trans h4.symm)

theorem LeaderLog.comparable₂ {g : GSt} (hi : HInv g) {t : Nat} {X Y : List Entry} (hX : LeaderLog g t X) (hY : LeaderLog g t Y) :
    X <+: Y ∨ Y <+: X := by
  obtain ⟨c, L, h1, h2, h3⟩ := hY
  rcases h3 with h3 | ⟨h3, h4⟩
  · right; rw [h3]; exact hX.ext_init hi h1
  · exact (hX.comparable hi h3 h4).symm

theorem leaderLog_prefix {g : GSt} (li : LInv g) (hi : HInv g) {j : Nat} (hl : (g.s.nodes j).role = .leader) {X : List Entry}
    (hX : LeaderLog g (g.s.nodes j).term X) : X <+: (g.s.nodes j).log := by
  obtain ⟨k, L, h1, _, h3⟩ := hX
  rcases h3 with h3 | ⟨h3, h4⟩
  · obtain ⟨k', L', h1', h2', _⟩ := hi.n_ldr j hl
    rw [h3, hi.ll_uniq _ k L k' L' h1 h1']; exact h2'
  · exact li.g2_prefix hl h3 h4

theorem CommB.vs_leaderLog {g : GSt} (hi : HInv g) {K : List Entry} {b : Nat} (c : CommB g K b) {t : Nat} {X : List Entry}
    (hX : LeaderLog g t X) (hb : b ≤ t) : K <+: X ∨ X <+: K := by
  rcases c with c | ⟨T, K', h1, h2, h3⟩
  · left; rw [c]; exact List.nil_prefix
  · obtain ⟨hK', hK't⟩ := h2.mem_created hi
    by_cases hT : T = t
    · rcases hX.comparable hi hK' (by omega) with h | h
      · exact Or.inl (h3.trans h)
      · rcases List.prefix_or_prefix_of_prefix h3 h with h' | h'
        · exact Or.inl h'
        · exact Or.inr h'
    · obtain ⟨c', L, hL, hLX, _⟩ := hX
      exact Or.inl ((h3.trans (lc_main hi t K' T h2 c' L hL (by omega))).trans hLX)

/-- recorded in the leader's own term it is a prefix by `g2`; accepted by a quorum of an earlier term it is in the log the leader
    won with (`lc_main`) -/
theorem CommB.in_leader_node {g : GSt} (li : LInv g) (hi : HInv g) {K : List Entry} {b : Nat} (c : CommB g K b) {j : Nat}
    (hl : (g.s.nodes j).role = .leader) (hb : b ≤ (g.s.nodes j).term) : K <+: (g.s.nodes j).log := by
  rcases c with c | ⟨T, K', hT, hqa, hK⟩
  · rw [c]; exact List.nil_prefix
  · refine hK.trans ?_
    obtain ⟨hK', hKt⟩ := hqa.mem_created hi
    by_cases hTt : T = (g.s.nodes j).term
    · exact li.g2_prefix hl hK' (hKt.trans hTt)
    · obtain ⟨c0, L0, hmem, hpre0, _⟩ := hi.n_ldr j hl
      exact (lc_main hi _ K' T hqa c0 L0 hmem (by omega)).trans hpre0

theorem CommB.comparable {g : GSt} (hi : HInv g) {K1 K2 : List Entry} {b1 b2 : Nat} (c1 : CommB g K1 b1) (c2 : CommB g K2 b2) :
    K1 <+: K2 ∨ K2 <+: K1 := by
  rcases c1 with c1 | ⟨T1, K1', _, q1, p1⟩
  · left; rw [c1]; exact List.nil_prefix
  rcases c2 with c2 | ⟨T2, K2', _, q2, p2⟩
  · right; rw [c2]; exact List.nil_prefix
  obtain ⟨m1, t1⟩ := q1.mem_created hi
  obtain ⟨m2, t2⟩ := q2.mem_created hi
  have key : ∀ {Ka Kb Ka' Kb' : List Entry} {Ta Tb : Nat}, QA g Ka' Ta → Kb' ∈ g.created → lastTerm Kb' = Tb → Ta < Tb →
      Ka <+: Ka' → Kb <+: Kb' → Ka <+: Kb ∨ Kb <+: Ka := by
    intro Ka Kb Ka' Kb' Ta Tb qa mb tb hlt pa pb
    obtain ⟨c, L, hL, hLK⟩ := hi.r_ll Kb' mb
    rw [tb] at hL
    have := (lc_main hi Tb Ka' Ta qa c L hL hlt).trans hLK
    exact List.prefix_or_prefix_of_prefix (pa.trans this) pb
  by_cases h : T1 = T2
  · rcases hi.r_comparable m1 m2 (by omega) with hc | hc
    · exact List.prefix_or_prefix_of_prefix (p1.trans hc) p2
    · exact List.prefix_or_prefix_of_prefix p1 (p2.trans hc)
  · by_cases hlt : T1 < T2
    · exact key q1 m2 t2 hlt p1 p2
    · exact (key q2 m1 t1 (by omega) p2 p1).symm

end HappyModel.C11
