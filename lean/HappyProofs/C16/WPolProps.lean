import HappyModel.C16.WPol
/-!
C16 — write policies (`write_policies.py`): for every kind of policy and every call sequence, the
answers of the model satisfy the Spec `judgeWPol` (write-back: the keys to flush are exactly the
keys owed to the backing store — nothing written is forgotten before an `on_flush` names it).
-/
namespace HappyModel.C16.WPol

theorem mem_dedupKeys (l : List Key) (k : Key) : k ∈ dedupKeys l ↔ k ∈ l := by
  induction l generalizing k with
  | nil => simp [dedupKeys]
  | cons a l ih =>
    simp only [dedupKeys]
    split
    · next h =>
      have : a ∈ l := (ih a).mp (List.contains_iff_mem.mp h)
      rw [ih, List.mem_cons]
      exact ⟨Or.inr, fun h' => h'.elim (· ▸ this) id⟩
    · simp [ih]

theorem nodup_dedupKeys (l : List Key) : (dedupKeys l).Nodup := by
  induction l with
  | nil => simp [dedupKeys]
  | cons a l ih =>
    simp only [dedupKeys]
    split
    · exact ih
    · exact List.nodup_cons.mpr ⟨fun hm => ‹¬_› (List.contains_iff_mem.mpr hm), ih⟩

theorem owed_mentioned (hist : List Op) (k : Key) (h : owed hist k = true) : k ∈ mentioned hist := by
  unfold mentioned
  rw [mem_dedupKeys]
  induction hist with
  | nil => simp [owed] at h
  | cons op rest ih =>
    simp only [List.flatMap_cons, List.mem_append]
    cases op with
    | write k' =>
      simp only [owed, Bool.or_eq_true, beq_iff_eq] at h
      rcases h with rfl | h
      · left; simp [opKeys]
      · right; exact ih h
    | onFlush ks =>
      simp only [owed, Bool.and_eq_true] at h
      right; exact ih h.2
    | shouldWT | shouldFlush | keysToFlush | dirtyCount | keysToInvalidate =>
      right; exact ih (by simpa [owed] using h)

theorem mem_owedKeys (hist : List Op) (k : Key) : k ∈ owedKeys hist ↔ owed hist k = true := by
  unfold owedKeys
  rw [List.mem_filter]
  exact ⟨fun h => h.2, fun h => ⟨owed_mentioned hist k h, h⟩⟩

theorem nodup_owedKeys (hist : List Op) : (owedKeys hist).Nodup :=
  (nodup_dedupKeys _).sublist List.filter_sublist

theorem mem_insertSet (l : List Key) (a k : Key) : k ∈ insertSet l a ↔ k ∈ l ∨ k = a := by
  unfold insertSet
  split
  · have := List.contains_iff_mem.mp ‹_›
    exact ⟨Or.inl, fun h => h.elim id (· ▸ this)⟩
  · simp

theorem nodup_insertSet (l : List Key) (a : Key) (h : l.Nodup) : (insertSet l a).Nodup := by
  unfold insertSet
  split
  · exact h
  · exact List.nodup_append.mpr ⟨h, List.pairwise_singleton _ _, fun x hx y hy e =>
      ‹¬_› (List.contains_iff_mem.mpr (List.mem_singleton.mp hy ▸ e ▸ hx))⟩

theorem mem_insertSorted (a k : Key) (l : List Key) : k ∈ insertSorted a l ↔ k = a ∨ k ∈ l := by
  induction l with
  | nil => simp [insertSorted]
  | cons b l ih =>
    simp only [insertSorted]
    split
    · simp
    · simp only [List.mem_cons, ih]
      exact or_left_comm

theorem mem_sortKeys (l : List Key) (k : Key) : k ∈ sortKeys l ↔ k ∈ l := by
  induction l with
  | nil => simp [sortKeys]
  | cons a l ih => simp [sortKeys, mem_insertSorted, ih]

structure Inv (kind : Kind) (s : St) (hist : List Op) : Prop where
  back : ∀ m, kind = .back m → (∀ k, k ∈ s.dirty ↔ owed hist k = true) ∧ s.dirty.Nodup
  around : kind = .around → s.inval = pendingInval hist

theorem inv_init (kind : Kind) : Inv kind {} [] :=
  ⟨fun _ _ => ⟨fun k => by simp [owed], by simp⟩, fun _ => rfl⟩

theorem dirty_length (m : Nat) (s : St) (hist : List Op) (I : Inv (.back m) s hist) :
    s.dirty.length = (owedKeys hist).length := by
  obtain ⟨hm, hn⟩ := I.back m rfl
  apply List.Perm.length_eq
  rw [List.perm_ext_iff_of_nodup hn (nodup_owedKeys hist)]
  intro k
  rw [hm, mem_owedKeys]

theorem step_inv (kind : Kind) (s : St) (hist : List Op) (op : Op) (I : Inv kind s hist) :
    Inv kind (step kind s op).1 (op :: hist) := by
  cases kind with
  | through => exact ⟨fun _ h => (by cases h), fun h => (by cases h)⟩
  | around =>
    refine ⟨fun _ h => (by cases h), fun _ => ?_⟩
    have hi := I.around rfl
    cases op with
    | write k => exact congrArg (· ++ [k]) hi
    | keysToInvalidate => rfl
    | _ => exact hi
  | back m =>
    refine ⟨fun m' _ => ?_, fun h => (by cases h)⟩
    obtain ⟨hm, hn⟩ := I.back m rfl
    cases op with
    | write k =>
      refine ⟨fun x => ?_, nodup_insertSet _ _ hn⟩
      simp only [step, mem_insertSet, owed, Bool.or_eq_true, beq_iff_eq, hm, eq_comm (a := k)]
      exact Or.comm
    | onFlush ks =>
      refine ⟨fun x => ?_, hn.sublist List.filter_sublist⟩
      simp only [step, List.mem_filter, owed, Bool.and_eq_true, hm]
      exact And.comm
    | shouldWT | shouldFlush | keysToFlush | dirtyCount | keysToInvalidate => exact ⟨hm, hn⟩

theorem sameSet_self (l : List Key) : sameSet l l = true := by
  simp [sameSet, List.all_eq_true]

theorem step_ok (kind : Kind) (s : St) (hist : List Op) (op : Op) (I : Inv kind s hist) :
    judgeOne kind hist op (step kind s op).2 = none := by
  cases kind with
  | through => cases op <;> rfl
  | around =>
    cases op with
    | keysToInvalidate =>
      show (if sameSet s.inval (pendingInval hist) then none else _) = none
      rw [I.around rfl, sameSet_self]; rfl
    | _ => rfl
  | back m =>
    obtain ⟨hm, _⟩ := I.back m rfl
    have hl := dirty_length m s hist I
    cases op with
    | write k | onFlush ks | shouldWT | keysToInvalidate => rfl
    | dirtyCount =>
      show (if s.dirty.length == (owedKeys hist).length then none else _) = none
      rw [hl, beq_self_eq_true]; rfl
    | shouldFlush =>
      show (if decide (m ≤ s.dirty.length) == decide (m ≤ (owedKeys hist).length) then none else _) = none
      rw [hl, beq_self_eq_true]; rfl
    | keysToFlush =>
      have h1 : (owedKeys hist).all (sortKeys s.dirty).contains = true := by
        rw [List.all_eq_true]; intro k hk
        rw [List.contains_iff_mem, mem_sortKeys, hm]
        exact (mem_owedKeys hist k).mp hk
      have h2 : (sortKeys s.dirty).all (owed hist) = true := by
        rw [List.all_eq_true]; intro k hk
        rw [mem_sortKeys] at hk
        exact (hm k).mp hk
      show (if (!(owedKeys hist).all (sortKeys s.dirty).contains) = true then some _
        else if (!(sortKeys s.dirty).all (owed hist)) = true then some _ else none) = none
      rw [h1, h2]; rfl

theorem run_ok (kind : Kind) (ops : List Op) (s : St) (hist : List Op) (I : Inv kind s hist) :
    judgeWPol kind hist (ops.zip (run kind s ops)) = none := by
  induction ops generalizing s hist with
  | nil => simp [run, judgeWPol]
  | cons op ops ih =>
    simp only [run, List.zip_cons_cons, judgeWPol, step_ok kind s hist op I]
    exact ih _ _ (step_inv kind s hist op I)

end HappyModel.C16.WPol

namespace HappyModel.C16

/-- **write policies**: for each of the three policies, any `max_dirty`, and any sequence of calls,
    what the policy answers satisfies the Spec — in particular a write-back policy lists exactly the
    keys written and not yet flushed (no written key is forgotten before `on_flush` names it), and a
    write-around policy hands every written key to the next invalidation round. -/
theorem write_policy_never_forgets (kind : WPol.Kind) (ops : List WPol.Op) :
    WPol.judgeWPol kind [] (ops.zip (WPol.run kind {} ops)) = none :=
  WPol.run_ok kind ops {} [] (WPol.inv_init kind)

-- three writes (one repeated), a partial flush, then the policy is asked again
example : WPol.run (.back 2) {} [.write 3, .write 1, .write 3, .shouldFlush, .keysToFlush, .onFlush [3, 7],
    .keysToFlush, .dirtyCount, .shouldFlush]
    = [.unit, .unit, .unit, .bool true, .keys [1, 3], .unit, .keys [1], .num 1, .bool false] := by decide +kernel
-- the Spec is not vacuous: forgetting key 1 is a violation
example : WPol.judgeWPol (.back 2) [] [(.write 3, .unit), (.write 1, .unit), (.keysToFlush, .keys [3])]
    = some "wpol/writeback/dirty-key-forgotten" := by decide +kernel

end HappyModel.C16
