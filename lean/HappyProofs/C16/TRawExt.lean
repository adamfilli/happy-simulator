import HappyProofs.C16.TRawInv
/-!
Multi-tier read-after-write over every interleaving: extending the context by one
observation (`mext_same` for a later segment, `mext_start` for a first segment).
-/
namespace HappyModel.C16.Tier
open HappyModel.C16

structure MInv (g : Gh) (ms : MSt) : Prop where
  gi : GI g
  pi : MPI g ms
  vi : MVI g ms
  lim : Limbo g ms

theorem inflCount_append (a b : List (Nat × MPend)) (k : Key) :
    inflCount (a ++ b) k = inflCount a k + inflCount b k := keyCount_append inflKey a b k

theorem inflCount_cons (x : Nat × MPend) (t : List (Nat × MPend)) (k : Key) :
    inflCount (x :: t) k = (if inflKey x.2 = some k then 1 else 0) + inflCount t k := keyCount_cons inflKey x t k

theorem inflCount_clear (pend : List (Nat × MPend)) (i : Nat) (p : MPend) (k : Key)
    (nd : (pend.map (·.1)).Nodup) (hm : (i, p) ∈ pend) :
    inflCount pend k = inflCount (pend.filter (fun x => x.1 != i)) k + (if inflKey p = some k then 1 else 0) :=
  keyCount_clear inflKey pend i p k nd hm

theorem mext_same {g : Gh} {ms : MSt} (gi : GI g) (pi : MPI g ms) (vi : MVI g ms) (o : Obs)
    (hl : LimboX g ms (if o.res.isSome then some o.i else none))
    (hres : o.res.isSome → ∀ x ∈ ms.pend, x.1 ≠ o.i)
    (htp : o.res.isSome → ∀ (t : Nat) (s : St), ms.tiers[t]? = some s → ∀ x ∈ s.pend,
      (∃ k v, x.2 = Pend.putWT k v) → x.1 ≠ o.i)
    (hst : o.res.isSome → o.i ∈ g.started)
    (hd : GetDone (ReadGood g.ops) g.ops g.evs o) :
    MInv (g.ext o []) ms := by
  have hfx : ∀ {k v} {P : Nat → Prop}, Fresh g k v P → Fresh (g.ext o []) k v P := FreshR.ext_nil nfLaws o gi.s1
  have hold : ∀ {j}, j ∈ (g.ext o []).started → j ∈ g.started := fun hj =>
    (mem_ext_started.mp hj).elim id (fun h => nomatch h)
  refine ⟨gi_ext gi o [] (fun _ hj => nomatch hj) (fun hs => List.mem_append_left _ (hst hs)) hd,
    ⟨fun x hx => ?_, pi.pendND, pi.infl, pi.pb, pi.pl, pi.db, pi.dr, fun i t k e hm => ?_, fun i k e hm => ?_⟩,
    ⟨fun t s hs k v hv => hfx (vi.c t s hs k v hv), fun k => hfx (vi.b k), vi.d, fun t s hs x hx => ?_⟩,
    fun j op k hj hm hk => ?_⟩
  · obtain ⟨h1, h2⟩ := pi.pendS x hx
    exact ⟨mem_ext_started.mpr (Or.inl h1), endIdx_snoc_running o h2 (fun hs e => hres hs x hx e.symm)⟩
  · obtain ⟨hop, rs, rh, h1, h2, h3, h4, h5, h6⟩ := pi.tg i t k e hm
    refine ⟨hop, rs, rh, firstIdx_snoc_some o h1, h2, Nat.le_trans h3 (g.evs.length_append ▸ Nat.le_add_right _ _), h4,
      fun he j op hj hjm hk => (h5 he j op (hold hj) hjm hk).imp (cb_snoc o h3).mpr id, fun s q hs hq => ?_⟩
    obtain ⟨v, hv, hf⟩ := h6 s q hs hq
    exact ⟨v, hv, hf.ext_cb gi o [] h3⟩
  · exact ⟨(pi.bg i k e hm).1, FreshAtR.ext nfLaws gi o [] (pi.bg i k e hm).2⟩
  · obtain ⟨h1, h2⟩ := vi.tp t s hs x hx
    refine ⟨mem_ext_started.mpr (Or.inl h1), h2.imp id (Or.imp id fun ⟨k, v, e1, e2, e3, e4⟩ => ?_)⟩
    exact ⟨k, v, e1, e2, e3, endIdx_snoc_running o e4 (fun hs' e => htp hs' t s hs x hx ⟨k, v, e1⟩ e.symm)⟩
  · rcases hl j op k (hold hj) hm hk with h' | h' | h'
    · exact Or.inl h'
    · exact Or.inr (Or.inl (endIdx_snoc_isSome o h'))
    · split at h'
      · cases h'; exact Or.inr (Or.inl (endIdx_snoc_done g.evs ‹_›))
      · cases h'

/-- the continuation a first segment of `op` may leave.  A direct tier read `tget t k` stands in the table as `.inv k`
    (`MOp.toOpK`: it is neither a read nor a write of the hierarchy), hence the `direct` line -/
def MPendOf : OpK → MPend → Prop
  | .get k, .tierGet _ k' _ => k' = k
  | .get k, .backGet k' _ => k' = k
  | .put k v, .putBack k' v' => k' = k ∧ v' = v
  | .del k, .delBack k' => k' = k
  | .inv _, .direct _ => True
  | _, _ => False

/-- a first segment, relative to a state `msm` that satisfies the invariant in the old context.  The hypotheses in
groups: what it leaves pending and counts (`hpend`, `hextra`, `hinfl`); its own key (`hwres`: the new write is `BPm` at
once; `hke`: its epoch goes strictly up) and the other keys (`hoe`: epoch unchanged); the backing store and the tiers
are untouched but for read continuations of `i` (`hback`, `htiers`); `htg`: a new `tierGet` found a hit on its tier -/
theorem mext_start {g : Gh} {msm ms' : MSt} {i : Nat} {op : OpK} {o : Obs} {extra : List (Nat × MPend)}
    (h : MInv g msm) (hi : i ∉ g.started) (hop : (i, op) ∈ g.ops) (hoi : o.i = i)
    (hpend : ms'.pend = msm.pend ++ extra)
    (hextra : extra = [] ∨ ∃ p, extra = [(i, p)] ∧ o.res = none ∧ MPendOf op p)
    (hres : o.res.isSome → ∀ k, op ≠ .get k)
    (hwres : ∀ k, wk op = some k → BPm ms' k i)
    (hinfl : ∀ k, cnt ms'.infl k = cnt msm.infl k + inflCount extra k)
    (hepoch : ∀ k, cnt msm.epoch k ≤ cnt ms'.epoch k)
    (hke : ∀ k, wk op = some k → cnt msm.epoch k < cnt ms'.epoch k)
    (hoe : ∀ k, wk op ≠ some k → cnt ms'.epoch k = cnt msm.epoch k)
    (hback : ms'.back = msm.back)
    (htiers : Tiers (fun _ s s' => s'.cache = s.cache ∧ s'.dirty = s.dirty ∧
      ∀ x ∈ s'.pend, x ∈ s.pend ∨ (x.1 = i ∧ ((∃ v, x.2 = Pend.getHit v) ∨ ∃ k e, x.2 = Pend.getMiss k e))) msm.tiers ms'.tiers)
    (htg : ∀ t k e, (i, MPend.tierGet t k e) ∈ extra → e = cnt msm.epoch k ∧
      ∀ (s' : St) (q : Pend), ms'.tiers[t]? = some s' → (i, q) ∈ s'.pend →
        ∃ v, ∃ s : St, q = Pend.getHit v ∧ msm.tiers[t]? = some s ∧ aget? s.cache k = some v) :
    MInv (g.ext o [i]) ms' := by
  subst hoi
  obtain ⟨gi, pi, vi, lim⟩ := h
  have hi0 : endIdx g.evs o.i = none := gi.s2 _ hi
  have hopu : ∀ op', (o.i, op') ∈ g.ops → op' = op := fun op' h => ops_unique gi.nd h hop
  have hiS : o.i ∈ (g.ext o [o.i]).started := mem_ext_started.mpr (Or.inr (List.mem_singleton_self _))
  have hstarted' : ∀ j, j ∈ (g.ext o [o.i]).started → j ∈ g.started ∨ j = o.i := fun j hj =>
    (mem_ext_started.mp hj).imp id List.mem_singleton.mp
  have hpendOld : ∀ x ∈ msm.pend, x ∈ ms'.pend := fun x hx => hpend ▸ List.mem_append_left _ hx
  have hbpOld : ∀ k j, BPm msm k j → BPm ms' k j := fun k j ⟨p, hp, hk⟩ => ⟨p, hpendOld _ hp, hk⟩
  have hinOld : ∀ k j, InFl msm k j → InFl ms' k j := fun k j ⟨p, hp, hk⟩ => ⟨p, hpendOld _ hp, hk⟩
  have hiNotPend : ∀ x ∈ msm.pend, x.1 ≠ o.i := fun x hx e => hi (e ▸ (pi.pendS x hx).1)
  have hex : ∀ x ∈ extra, x.1 = o.i ∧ o.res = none ∧ MPendOf op x.2 := by
    rcases hextra with rfl | ⟨p, rfl, h1, h2⟩
    · exact fun _ hx => nomatch hx
    · exact fun x hx => List.mem_singleton.mp hx ▸ ⟨rfl, h1, h2⟩
  have hrunning : ∀ j, endIdx g.evs j = none → j ≠ o.i → endIdx (g.evs ++ [o]) j = none := fun j h1 h2 =>
    endIdx_snoc_running o h1 (fun _ e => h2 e.symm)
  have hget : ∀ {k}, op = .get k → ∀ op', (o.i, op') ∈ g.ops → wk op' ≠ some k := fun e op' hm => by
    rw [hopu op' hm, e]; exact nofun
  have hbpf : ∀ {k v}, Fresh g k v (fun j => ¬ BPm msm k j) →
      Fresh (g.ext o [o.i]) k v (fun j => ¬ BPm ms' k j) := by
    intro k v hf
    refine FreshR.ext nfLaws o [o.i] gi.s1 (fun j _ hn hb => hn (hbpOld k j hb)) ?_ hf
    intro j op' hj _ hjm hk hn
    rw [List.mem_singleton.mp hj] at hjm hn
    exact hn (hwres k (hopu op' hjm ▸ hk))
  -- a read that starts now: every write started so far is in flight or completed, and what the tiers and the
  -- backing store hold is fresh against the completed ones
  have hnewRead : ∀ {k}, op = .get k → (∀ j op', j ∈ (g.ext o [o.i]).started → (j, op') ∈ g.ops → wk op' = some k →
        CompletedBefore (g.evs ++ [o]) j g.evs.length ∨ InFl ms' k j) ∧
      ∀ {v}, Fresh g k v (fun j => ¬ BPm msm k j) → ∀ {r}, r ≤ g.evs.length →
        Fresh (g.ext o [o.i]) k v (fun j => CompletedBefore (g.evs ++ [o]) j r) := by
    intro k hopk
    refine ⟨fun j' op' hj' hjm hk => ?_, fun hf r hr =>
      FreshR.start_cb nfLaws gi o hr (fun j _ hc (hb : BPm msm k j) => Holds.running (fun x hx => (pi.pendS x hx).2) hb hc)
        (hget hopk) hf⟩
    rcases hstarted' j' hj' with hj'' | rfl
    · rcases lim.elim hj'' hjm hk with h' | h'
      · exact Or.inr (hinOld k j' h')
      · obtain ⟨e0, he0⟩ := Option.isSome_iff_exists.mp h'
        exact Or.inl ⟨e0, endIdx_snoc_some o he0, endIdx_lt he0⟩
    · exact absurd hk (hget hopk op' hjm)
  refine ⟨?_, ⟨?_, ?_, ?_, ?_, ?_, ?_, ?_, ?_, ?_⟩, ⟨?_, ?_, ?_, ?_⟩, ?_⟩
  · exact gi_ext gi o [o.i] (fun j hj => List.mem_singleton.mp hj)
      (fun _ => List.mem_append_right _ (List.mem_singleton_self _))
      (fun k rs hm hres' _ _ => absurd (hopu _ hm).symm (hres hres' k))
  · intro x hx
    rcases List.mem_append.mp (hpend ▸ hx) with hx | hx
    · obtain ⟨h1, h2⟩ := pi.pendS x hx
      exact ⟨mem_ext_started.mpr (Or.inl h1), hrunning _ h2 (hiNotPend x hx)⟩
    · obtain ⟨e, hon, _⟩ := hex x hx
      rw [e]
      exact ⟨hiS, endIdx_snoc_running o hi0 (Obs.of_res_none hon)⟩
  · rw [hpend]
    rcases hextra with rfl | ⟨p, rfl, _⟩
    · rw [List.append_nil]; exact pi.pendND
    · exact nodup_fst_snoc pi.pendND hiNotPend p
  · intro k
    rw [hinfl, pi.infl, hpend, inflCount_append]
  · intro j k v hm
    rcases List.mem_append.mp (hpend ▸ hm) with hm | hm
    · exact pi.pb j k v hm
    · obtain ⟨rfl, _, hpo⟩ := hex _ hm
      cases op <;> first | exact absurd hpo id | (obtain ⟨rfl, rfl⟩ := hpo; exact hop)
  · intro j k hm
    rcases List.mem_append.mp (hpend ▸ hm) with hm | hm
    · exact pi.pl j k hm
    · cases op <;> exact absurd (hex _ hm).2.2 id
  · intro j k hm
    rcases List.mem_append.mp (hpend ▸ hm) with hm | hm
    · exact pi.db j k hm
    · obtain ⟨rfl, _, hpo⟩ := hex _ hm
      cases op <;> first | exact absurd hpo id | (cases hpo; exact hop)
  · intro j t hm k hk
    rcases List.mem_append.mp (hpend ▸ hm) with hm | hm
    · exact pi.dr j t hm k hk
    · obtain ⟨rfl, _, hpo⟩ := hex _ hm
      cases hopu _ hk
      exact hpo
  · intro j t k e hm
    rcases List.mem_append.mp (hpend ▸ hm) with hm | hm
    · obtain ⟨hopj, rs, rh, h1, h2, h3, h4, h5, h6⟩ := pi.tg j t k e hm
      refine ⟨hopj, rs, rh, firstIdx_snoc_some o h1, h2, Nat.le_trans h3 (g.evs.length_append ▸ Nat.le_add_right _ _),
        Nat.le_trans h4 (hepoch k), fun he j' op' hj' hjm hk => ?_, fun s' q hs' hq => ?_⟩
      · by_cases hx : wk op = some k
        · have := hke k hx; omega
        · rw [hoe k hx] at he
          rcases hstarted' j' hj' with hj'' | rfl
          · exact (h5 he j' op' hj'' hjm hk).imp (cb_snoc o h3).mpr (hinOld k j')
          · exact absurd (hopu op' hjm ▸ hk) hx
      · obtain ⟨s, hs, _, _, hp⟩ := htiers t s' hs'
        rcases hp _ hq with hq' | ⟨e1, _⟩
        · obtain ⟨v, hv, hf⟩ := h6 s q hs hq'
          exact ⟨v, hv, hf.ext_cb gi o _ h3⟩
        · exact absurd e1 (hiNotPend _ hm)
    · obtain ⟨rfl, _, hpo⟩ := hex _ hm
      have hopk : op = .get k := by
        cases op <;> first | exact absurd hpo id | (cases hpo; rfl)
      obtain ⟨hee, htier⟩ := htg t k e hm
      obtain ⟨rs, hr, hrle⟩ := firstIdx_snoc_self g.evs o
      refine ⟨hopk ▸ hop, rs, g.evs.length, hr, hrle, g.evs.length_append ▸ Nat.le_add_right _ _, hee ▸ hepoch k,
        fun _ => (hnewRead hopk).1, fun s' q hs' hq => ?_⟩
      obtain ⟨v, s, hqv, hs, hc⟩ := htier s' q hs' hq
      exact ⟨v, hqv, (hnewRead hopk).2 (vi.c t s hs k v hc) (Nat.le_refl _)⟩
  · intro j k e hm
    rcases List.mem_append.mp (hpend ▸ hm) with hm | hm
    · exact ⟨(pi.bg j k e hm).1, hback ▸ FreshAtR.ext nfLaws gi o _ (pi.bg j k e hm).2⟩
    · obtain ⟨rfl, _, hpo⟩ := hex _ hm
      have hopk : op = .get k := by
        cases op <;> first | exact absurd hpo id | (cases hpo; rfl)
      obtain ⟨rs, hr, hrle⟩ := firstIdx_snoc_self g.evs o
      exact ⟨hopk ▸ hop, rs, hr, hback ▸ (hnewRead hopk).2 (vi.b k) hrle⟩
  · intro t s' hs' k v hv
    obtain ⟨s, hs, hc, _, _⟩ := htiers t s' hs'
    exact hbpf (vi.c t s hs k v (hc ▸ hv))
  · intro k
    rw [hback]; exact hbpf (vi.b k)
  · intro t s' hs'
    obtain ⟨s, hs, _, hd, _⟩ := htiers t s' hs'
    rw [hd]; exact vi.d t s hs
  · intro t s' hs' x hx
    obtain ⟨s, hs, _, _, hp⟩ := htiers t s' hs'
    rcases hp x hx with hx' | ⟨e1, hq⟩
    · obtain ⟨h1, h2⟩ := vi.tp t s hs x hx'
      refine ⟨mem_ext_started.mpr (Or.inl h1), h2.imp id (Or.imp id fun ⟨k, v, e1, e2, e3, e4⟩ => ?_)⟩
      exact ⟨k, v, e1, e2, e3, hrunning _ e4 (fun e => hi (e ▸ h1))⟩
    · exact ⟨e1 ▸ hiS, hq.imp id Or.inl⟩
  · intro j op' k hj hm hk
    rcases hstarted' j hj with hj' | rfl
    · exact (lim.elim hj' hm hk).imp (hinOld k j) (fun h' => Or.inl (endIdx_snoc_isSome o h'))
    · obtain ⟨p, hp, hk'⟩ := hwres k (hopu op' hm ▸ hk)
      exact Or.inl ⟨p, hp, inflKey_of_mbwKey hk'⟩

end HappyModel.C16.Tier
