import HappyProofs.C13.Keep
import HappyProofs.C13.Detect
/-!
Part (a) of the detection bound: a crashed member falls silent.

After `crash x` at time `cx` the crashed node handles nothing, so
every message from `x` still in flight was sent at or before `cx` (`Down`); under a timely schedule
none of them is in flight when an action later than `cx + δ` happens, and no handler ever creates an
"alive" update.  Together: `QuietTo s a x` before every action later than `cx + δ` (`QuietAfter`), the late part
of which is the `QuietRun` that `failure_detected_partial` asks.
-/
set_option linter.unusedSectionVars false
namespace HappyModel.C13
variable {D : Type} [Inhabited D] [Detector D]

theorem run_now_le (c : Cfg) (s : Sys D) (acts : List Act) (hm : monoRun c s acts = true) :
    s.now ≤ (run c s acts).now :=
  run_along (I := fun s' => s.now ≤ s'.now)
    (fun s' act h hle => step_now (step_rel c s' act) ▸ Nat.le_trans h hle) (Nat.le_refl _)
    (monoRun_iff.mp hm)

theorem crashed_run (c : Cfg) (s : Sys D) (acts : List Act) (y : Nat) (hy : s.isCrashed y = true) :
    (run c s acts).isCrashed y = true :=
  run_inv (fun s act => crashed_step (step_rel c s act) y) acts hy

theorem live_of_run (c : Cfg) (s : Sys D) (acts : List Act) (y : Nat)
    (hy : (run c s acts).isCrashed y = false) : s.isCrashed y = false := by
  cases h : s.isCrashed y with
  | false => rfl
  | true => exact nomatch hy.symm.trans (crashed_run c s acts y h)

theorem crash_crashes (c : Cfg) (s : Sys D) (x cx : Nat) : (step c s (.crash x cx)).isCrashed x = true :=
  lget_lset_same _ _ _ _

def SentLe (s : Sys D) : Prop := ∀ m ∈ s.soup, m.sent ≤ s.now

theorem sentle_step {c : Cfg} {s s' : Sys D} {act : Act} (h : Step c s act s') (I : SentLe s)
    (hn : s.now ≤ act.time) : SentLe s' := by
  cases h with
  | skip crashed cuts soup _ hsoup _ => exact fun m hm => Nat.le_trans (I m (hsoup m hm)) hn
  | fire b r soup hb hf =>
    intro m hm
    rcases mem_commit_soup hm with h | ⟨_, h, _⟩
    · exact Nat.le_trans (I m (hf.soup_sub m h)) hn
    · exact Nat.le_of_eq h

structure Down (x cx : Nat) (s : Sys D) : Prop where
  noAlive : SNoAlive s
  crashed : s.isCrashed x = true
  sentBy : ∀ m ∈ s.soup, m.src = x → m.sent ≤ cx

theorem down_step {c : Cfg} {s s' : Sys D} {act : Act} {x cx : Nat} (h : Step c s act s')
    (I : Down x cx s) : Down x cx s' := by
  refine ⟨snoalive_step h I.noAlive, crashed_step h x I.crashed, ?_⟩
  cases h with
  | skip crashed cuts soup _ hsoup _ => exact fun m hm => I.sentBy m (hsoup m hm)
  | fire b r soup hb hf =>
    intro m hm hsrc
    rcases mem_commit_soup hm with h | ⟨h, _⟩
    · exact I.sentBy m (hf.soup_sub m h) hsrc
    · rw [← h, hsrc, I.crashed] at hb; cases hb

theorem down_crash {c : Cfg} {s : Sys D} {x cx : Nat} (hN : SNoAlive s) (hS : SentLe s)
    (hnow : s.now ≤ cx) : Down x cx (step c s (.crash x cx)) :=
  ⟨snoalive_step (step_rel c s _) hN, crash_crashes c s x cx,
   fun m hm _ => Nat.le_trans (hS m hm) hnow⟩

theorem Down.quiet {x cx : Nat} {s : Sys D} (I : Down x cx s) {δ t : Nat} (ht : TimelyAt δ s t)
    (hlate : cx + δ < t) (a : Nat) : QuietTo s a x := by
  intro m hm _
  refine ⟨fun hsrc => ?_, NAl.not_hasAlive (I.noAlive.soup m hm) x⟩
  have h1 := I.sentBy m hm hsrc
  have h2 := ht m hm
  omega

/-- The last clause of both detection paths.  Were `x` still ALIVE at `a`, something of `a` would be due by `B`
    (`hdue`: the path's phase invariant, and nothing of `a` is overdue); so an action later than `B` finds `x` not
    ALIVE, and the silence of `x` keeps it so. -/
theorem Down.late_step {c : Cfg} {s : Sys D} {act : Act} {a x cx δ B : Nat} (I : Down x cx s)
    (ht : TimelyAt δ s act.time) (hB : cx + δ ≤ B) (hdue : ¬ NA x (s.node a) → act.time ≤ B)
    (hlate : B < (step c s act).now) : NA x ((step c s act).node a) := by
  have hst := step_rel c s act
  rw [step_now hst] at hlate
  exact na_step hst (Classical.byContradiction fun hna => Nat.not_le.mpr hlate (hdue hna))
    (I.quiet ht (Nat.lt_of_le_of_lt hB hlate) a)

theorem quietAfter_run {c : Cfg} {δ : Nat} {s : Sys D} {acts : List Act} (a : Nat) {x cx : Nat}
    (I : Down x cx s)
    (ht : Along c (fun s act => TimelyAt δ s act.time ∧ (step c s act).whole = true) s acts) :
    QuietAfter c a x (cx + δ) s acts :=
  quietAfter_iff.mpr ((ht.inv (fun s act I _ => down_step (step_rel c s act) I) I).imp
    fun _ _ h hlate => h.1.quiet h.2.1 hlate a)

end HappyModel.C13
