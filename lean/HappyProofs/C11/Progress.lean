import HappyProofs.C11.ProgRun
/-! Bounded progress under a stable leader (`stable_leader_commits`), by an induction that works for any per-follower monitor
    (`progress_core`). -/
namespace HappyModel.C11
open Spec

/-- what each step of a run shows -/
def outs (v : Variant) : St → List Act → List StepOut
  | _, [] => []
  | s, a :: as => (step v s a).2 :: outs v (step v s a).1 as

/-- some step of the run applied `c` at index `k` on `L` and resolved future `f` with `k` and that result -/
def Hit (os : List StepOut) (L k f : Nat) (c : Cmd) : Prop :=
  ∃ o ∈ os, o.target = some L ∧ ∃ res, (k, c, res) ∈ o.apps ∧ (f, k, res) ∈ o.ress

/-- `ms` is the monitor's step and `mr` its run; `hstep`: the local invariant is kept follower by follower -/
theorem mprog_run (v : Variant) (hr : Rep v) {μ : Type} {I : St → Nat → μ → Prop} {D : μ → Prop} {L t k f : Nat} {c : Cmd}
    {Q : List Nat} {ms : St → Nat → μ → Act → μ} {mr : Nat → μ → St → List Act → μ} (h0 : ∀ p x s, mr p x s [] = x)
    (h1 : ∀ p x s a as, mr p x s (a :: as) = mr p (ms s p x a) (step v s a).1 as)
    (hstep : ∀ {s m} a, MProg I D s L t k f c Q m → termsLe s t (L :: Q) = true → termsLe (step v s a).1 t (L :: Q) = true →
      ∀ p ∈ Q, I (step v s a).1 p (ms s p (m p) a) ∧ (D (ms s p (m p) a) → D (m p) ∨ AckNow s a L t k p)) :
    ∀ (as : List Act) (s : St) (m : Nat → μ), MProg I D s L t k f c Q m →
      stableRun v t (L :: Q) s as = true → noRegressRun v L t k Q s as = true →
      MProg I D (run v s as) L t k f c Q (fun p => mr p (m p) s as)
      ∧ ((s.nodes L).lastApplied < k → k ≤ ((run v s as).nodes L).lastApplied → Hit (outs v s as) L k f c) := by
  intro as
  induction as with
  | nil =>
    intro s m P _ _
    rw [show (fun p => mr p (m p) s []) = m from funext fun p => h0 ..]
    exact ⟨P, fun h1 h2 => absurd h2 (Nat.not_le.mpr h1)⟩
  | cons a as ih =>
    intro s m P hst hnr
    have hst' := stableRun_cons hst
    simp only [noRegressRun, Bool.and_eq_true, Bool.not_eq_true'] at hnr
    obtain ⟨P1, w1⟩ := mprog_step v hr P a (stableRun_here hst') hnr.1 (hstep a P (stableRun_here hst) (stableRun_here hst'))
    obtain ⟨P2, w2⟩ := ih _ _ P1 hst' hnr.2
    rw [show (fun p => mr p (m p) s (a :: as)) = fun p => mr p (ms s p (m p) a) (step v s a).1 as from funext fun p => h1 ..]
    refine ⟨P2, fun h1 h2 => ?_⟩
    simp only [outs]
    by_cases hk : k ≤ ((step v s a).1.nodes L).lastApplied
    · exact ⟨_, List.mem_cons_self, w1 h1 hk⟩
    · obtain ⟨o, ho, h⟩ := w2 (Nat.not_le.mp hk) h2
      exact ⟨o, List.mem_cons_of_mem _ ho, h⟩

/-- index of the entry a `submit` to `L` creates -/
def nextIdx (s : St) (L : Nat) : Nat := (s.nodes L).log.length + 1

/-- BOUNDED PROGRESS, for any monitor.  A command submitted to the established leader `L` of a reachable state: if the
    followers' monitors keep their local invariant `I` step by step (`hstep`), hold it right after the submit (`hI0`), are not
    done then, a done monitor means the follower holds the leader's first `k` entries (`hrep`), and all are done at the end
    of a stable run without regress, then the command is in the logs of `L` and `Q` at `k`, committed and applied by `L`. -/
theorem progress_core (v : Variant) (hr : Rep v) {μ : Type} {I : St → Nat → μ → Prop} {D : μ → Prop} {n : Nat} {pre : List Act}
    {L t k f : Nat} {c : Cmd} {Q : List Nat} {as : List Act} {ms : St → Nat → μ → Act → μ} {mr : Nat → μ → St → List Act → μ}
    (h0 : ∀ p x s, mr p x s [] = x) (h1 : ∀ p x s a as, mr p x s (a :: as) = mr p (ms s p x a) (step v s a).1 as)
    (hstep : ∀ {s m} a, MProg I D s L t k f c Q m → termsLe s t (L :: Q) = true → termsLe (step v s a).1 t (L :: Q) = true →
      ∀ p ∈ Q, I (step v s a).1 p (ms s p (m p) a) ∧ (D (ms s p (m p) a) → D (m p) ∨ AckNow s a L t k p))
    (hk : k = nextIdx (run v (init n) pre) L) (m0 : Nat → μ)
    (hest : established (run v (init n) pre) L t = true) (hQnd : Q.Nodup) (hQne : Q ≠ []) (hQq : quorum n ≤ Q.length + 1)
    (hbasic : ∀ p ∈ Q, p < n ∧ p ≠ L)
    (hstable : stableRun v t (L :: Q) (run v (init n) pre) (.submit L f c :: as) = true)
    (hnr : noRegressRun v L t k Q (run v (init n) pre) (.submit L f c :: as) = true)
    (hD0 : ∀ p, ¬ D (m0 p)) (hI0 : ∀ p ∈ Q, I (step v (run v (init n) pre) (.submit L f c)).1 p (m0 p))
    (hrep : ∀ s p x, I s p x → D x → Agree (s.nodes L).log (s.nodes p).log k)
    (hdone : ∀ p ∈ Q, D (mr p (m0 p) (step v (run v (init n) pre) (.submit L f c)).1 as)) :
    getE ((run v (run v (init n) pre) (.submit L f c :: as)).nodes L).log k = some ⟨t, c⟩
    ∧ (∀ p ∈ Q, getE ((run v (run v (init n) pre) (.submit L f c :: as)).nodes p).log k = some ⟨t, c⟩)
    ∧ k ≤ ((run v (run v (init n) pre) (.submit L f c :: as)).nodes L).commit
    ∧ k ≤ ((run v (run v (init n) pre) (.submit L f c :: as)).nodes L).lastApplied
    ∧ Hit (outs v (run v (init n) pre) (.submit L f c :: as)) L k f c := by
  have inv0 := reachable v hr n pre
  have hn0 : (run v (init n) pre).n = n := by rw [run_n]; rfl
  generalize run v (init n) pre = s0 at *
  have est0 := established_iff.mp hest
  have hst1 := stableRun_cons hstable
  have hnodeL : (step v s0 (.submit L f c)).1.nodes L = submitNode (s0.nodes L) f c := by
    rw [step_submit_leader f c est0.lt est0.role, applyHR_node, if_pos rfl]
  have hkdef : k = (s0.nodes L).log.length + 1 := hk
  simp only [noRegressRun, Bool.and_eq_true] at hnr
  have P1 : MProg I D (step v s0 (.submit L f c)).1 L t k f c Q m0 := by
    refine ⟨inv0.step hr _, est_step ⟨hr, inv0, est0, termsLe_mem (stableRun_here hst1) List.mem_cons_self⟩, hQnd, ?_, ?_, ?_,
      fun _ => ?_, hI0, fun p _ h => absurd h (hD0 p), fun hall => ?_⟩
    · rw [step_n, hn0]; exact hQq
    · rw [step_n, hn0]; exact hbasic
    · rw [hnodeL, hkdef]
      show getE ((s0.nodes L).log ++ [⟨(s0.nodes L).term, c⟩]) _ = _
      rw [getE_succ, est0.term]; simp
    · rw [hnodeL, hkdef]
      exact getPending_set_same _ _ _
    · -- `submit` never calls `_try_advance_commit`: without a follower to acknowledge (`Q = []`) nothing would commit
      obtain ⟨p, hp⟩ := List.exists_mem_of_ne_nil Q hQne
      exact absurd (hall p hp) (hD0 p)
  obtain ⟨PE, wE⟩ := mprog_run v hr h0 h1 hstep as _ m0 P1 hst1 hnr.2
  have hlaE := PE.alld hdone
  refine ⟨PE.entry, fun p hp => ?_, Nat.le_trans hlaE (PE.inv.la L), hlaE, ?_⟩
  · exact (hrep _ p _ (PE.ok p hp) (hdone p hp)).entry (Nat.le_refl _) PE.entry
  · obtain ⟨o, ho, h⟩ := wE (by
      rw [hnodeL, hkdef]
      exact Nat.lt_succ_of_le (Nat.le_trans (inv0.la L) (inv0.clen L))) hlaE
    exact ⟨o, List.mem_cons_of_mem _ ho, h⟩

/-- BOUNDED PROGRESS.  From any reachable state in which `L` is the established leader of term `t` and the followers of a
    set `Q` (with `L` a quorum) are in sync with it: if along the run no node of `L :: Q` ever sees a term above `t`
    (`stableRun`), and for every `p ∈ Q` the run contains the delivery to `p` of an AppendEntries carrying the new entry and
    the delivery to `L` of `p`'s reply to it (`ackedRun`), and no older acknowledgement overtakes a newer one
    (`noRegressRun`), then a command submitted to `L` is appended at index `k = len(log) + 1`, replicated on `Q`, committed
    and applied by `L` at `k` (exactly once: `stable_leader_commits_obs`), and its future is resolved with `k` and the result of that application — for
    every cluster size, every prefix, every interleaving of other actions (further submits, heartbeats, duplicated or stale
    deliveries, drops, crashes of other nodes, …). -/
theorem stable_leader_commits (v : Variant) (hr : Rep v) (n : Nat) (pre : List Act) (L t f : Nat) (c : Cmd) (Q : List Nat)
    (as : List Act)
    (hest : established (run v (init n) pre) L t = true)
    (hQnd : Q.Nodup) (hQne : Q ≠ []) (hQq : quorum n ≤ Q.length + 1)
    (hsync : ∀ p ∈ Q, inSync (run v (init n) pre) L t p = true)
    (hstable : stableRun v t (L :: Q) (run v (init n) pre) (.submit L f c :: as) = true)
    (hfair : ∀ p ∈ Q, ackedRun v L t (nextIdx (run v (init n) pre) L) p (run v (init n) pre) (.submit L f c :: as) = true)
    (hnr : noRegressRun v L t (nextIdx (run v (init n) pre) L) Q (run v (init n) pre) (.submit L f c :: as) = true) :
    getE ((run v (run v (init n) pre) (.submit L f c :: as)).nodes L).log (nextIdx (run v (init n) pre) L) = some ⟨t, c⟩
    ∧ (∀ p ∈ Q, getE ((run v (run v (init n) pre) (.submit L f c :: as)).nodes p).log (nextIdx (run v (init n) pre) L) = some ⟨t, c⟩)
    ∧ nextIdx (run v (init n) pre) L ≤ ((run v (run v (init n) pre) (.submit L f c :: as)).nodes L).commit
    ∧ nextIdx (run v (init n) pre) L ≤ ((run v (run v (init n) pre) (.submit L f c :: as)).nodes L).lastApplied
    ∧ Hit (outs v (run v (init n) pre) (.submit L f c :: as)) L (nextIdx (run v (init n) pre) L) f c := by
  have inv0 := reachable v hr n pre
  have hn0 : (run v (init n) pre).n = n := by rw [run_n]; rfl
  have est0 := established_iff.mp hest
  have hst1 := stableRun_here (stableRun_cons hstable)
  refine progress_core v hr (I := fun s p x => PhOk s L t _ p x) (D := (· = .done)) (ms := fun s p x a => phStep s L t _ p x a)
    (mr := fun p x s as => phRun v L t _ p x s as) (fun _ _ _ => rfl) (fun _ _ _ _ _ => rfl) ?_ rfl (fun _ => .waitAE)
    hest hQnd hQne hQq (fun p hp => ?_) hstable hnr (fun _ => Ph.noConfusion) (fun p hp => ⟨?_, fun _ => Ph.noConfusion, fun h => absurd rfl h⟩)
    (fun _ _ _ h hd => h.rep (hd ▸ Ph.noConfusion)) (fun p hp => of_decide_eq_true (hfair p hp))
  · intro g m a P _ hst p hp
    exact ph_step ⟨hr, P.inv, P.est, termsLe_mem hst List.mem_cons_self⟩ (P.ok p hp) (termsLe_mem hst (List.mem_cons_of_mem _ hp))
  · have := sync_of_inSync (hsync p hp)
    exact ⟨hn0 ▸ this.pn, this.pne⟩
  · exact sync_step (a := .submit L f c) ⟨hr, inv0, est0, termsLe_mem hst1 List.mem_cons_self⟩
      (sync_of_inSync (hsync p hp)) (termsLe_mem hst1 (List.mem_cons_of_mem _ hp))

end HappyModel.C11
