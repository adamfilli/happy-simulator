import HappyProofs.C11.Basic
/-! Leader Completeness, State-Machine Safety and Commit Monotonicity: the full statements, and the partial form of the first,
    the commit rule. -/
namespace HappyModel.C11
open Spec

/-- FULL STATEMENT (`leader_completeness_full_holds`): committed entries are in the log of every later leader -/
def leader_completeness_full : Prop :=
  ∀ (n : Nat) (as : List Act), leaderCompleteOk (frames Variant.repaired n as) = true

/-- FULL STATEMENT (`state_machine_safety_full_holds`): entries shown committed at one index never differ, hence no two
    nodes apply different commands at one index -/
def state_machine_safety_full : Prop :=
  ∀ (n : Nat) (as : List Act),
    commitAgreeOk (frames Variant.repaired n as) = true ∧ applyAgreeOk (frames Variant.repaired n as) = true

/-- FULL STATEMENT (`commit_monotone_full_holds`): no node's commit index ever decreases -/
def commit_monotone_full : Prop :=
  ∀ (n : Nat) (as : List Act), commitMonotoneOk (frames Variant.repaired n as) = true

/-- THE COMMIT RULE (the partial form of Leader Completeness).  A leader moves its commit index only to an index
    `N` that holds an entry of its *current* term and that a quorum (itself and the peers with
    `match_index ≥ N`) is recorded to hold; and then the new commit index is exactly `N`. -/
theorem leader_completeness_partial (n : Nat) (x : Node) (me : Nat) (hlen : x.commit ≤ x.log.length)
    (hchg : (tryAdvance n x me).node.commit ≠ x.commit) :
    ∃ N, x.commit < N ∧ N ≤ x.log.length ∧ termAt x.log N = x.term ∧ quorum n ≤ countMatch n x me N
      ∧ (tryAdvance n x me).node.commit = N := by
  rcases tryAdvance_cases n x me with ⟨_, h⟩ | ⟨N, hf, h⟩ <;> rw [h] at hchg ⊢
  · exact absurd rfl hchg
  · obtain ⟨h1, h2, h3, _, h5⟩ := findCommit_spec n x me _ N hf
    refine ⟨N, h2, h1, h3, h5, ?_⟩
    rw [advanceCommit_commit, if_neg (by omega)]; omega

/-- non-vacuity of the commit rule: a 3-node leader with one acknowledged entry does commit it -/
def commitRuleNode : Node :=
  { term := 1, role := .leader, log := [⟨1, ⟨1, 0, 0, 1, none⟩⟩], nextIndex := [1, 2, 1], matchIndex := [0, 1, 0] }

example : (tryAdvance 3 commitRuleNode 0).node.commit = 1 := by decide +kernel

end HappyModel.C11
