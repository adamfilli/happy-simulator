import HappyProofs.C12.PxFinal
import HappyModel.C12.Spec
/-!
# C12 — phase-1 reports: a promise names the acceptor's highest accepted proposal

`Spec.promiseCovers` / `Spec.promiseReal` evaluated on the model's own history variables (`votes`: every
(acceptor, ballot, value) ever accepted, self-accepts included; `proms`: every (acceptor, ballot, reported)
ever promised, self-promises included) hold after every action sequence — for every value, in particular
for values the implementation language treats as false (the model's values are opaque naturals).  The judge
evaluates the same predicates on the messages seen on the network, with a lower bound of the votes for
`promiseCovers` and an upper bound for `promiseReal`; both are monotone in the right direction.
-/
namespace HappyModel.C12
open Px

theorem promiseCovers_of_sem {s : St} (sem : Sem s) {p : Spec.Prom} (hp : p ∈ s.proms) :
    Spec.promiseCovers s.votes p = true := by
  obtain ⟨f, b, r⟩ := p
  obtain ⟨_, _, h3, _⟩ := sem.pr f b r hp
  simp only [Spec.promiseCovers, List.all_eq_true]
  intro w hw
  obtain ⟨a, b', v'⟩ := w
  by_cases hc : a = f ∧ b' < b
  · obtain ⟨rfl, hlt⟩ := hc
    obtain ⟨bm, vm, hr, hle⟩ := h3 b' v' hw hlt
    subst hr
    simp [hle]
  · have : (a == f && decide (b' < b)) = false := by
      cases h : (a == f && decide (b' < b))
      · rfl
      · simp only [Bool.and_eq_true, beq_iff_eq, decide_eq_true_eq] at h; exact absurd h hc
    simp [this]

theorem promiseReal_of_sem {s : St} (sem : Sem s) {p : Spec.Prom} (hp : p ∈ s.proms) :
    Spec.promiseReal s.votes p = true := by
  obtain ⟨f, b, r⟩ := p
  obtain ⟨_, _, _, h4⟩ := sem.pr f b r hp
  cases r with
  | none => rfl
  | some x =>
    obtain ⟨bm, vm⟩ := x
    obtain ⟨hv, hle⟩ := h4 bm vm rfl
    simp only [Spec.promiseReal, Bool.and_eq_true, decide_eq_true_eq, List.contains_iff_mem]
    exact ⟨hv, hle⟩

/-- Phase-1 report, all action sequences, all values, flexible quorums: every promise ever made (to another
    node or to itself) reports a proposal that covers every vote the acceptor cast below the promised ballot,
    and a reported proposal is one the acceptor voted for. -/
theorem promise_reports_accepted (n q1 q2 : Nat) (as : List Act) :
    (runActs (init n q1 q2) as).proms.all (Spec.promiseCovers (runActs (init n q1 q2) as).votes) = true ∧
    (runActs (init n q1 q2) as).proms.all (Spec.promiseReal (runActs (init n q1 q2) as).votes) = true := by
  have inv := (reach_run n q1 q2 as).inv
  constructor
  · rw [List.all_eq_true]; intro p hp; exact promiseCovers_of_sem inv.sem hp
  · rw [List.all_eq_true]; intro p hp; exact promiseReal_of_sem inv.sem hp

theorem promiseCovers_anti {lo votes : List Spec.Vote} (h : ∀ w ∈ lo, w ∈ votes) {p : Spec.Prom}
    (hp : Spec.promiseCovers votes p = true) : Spec.promiseCovers lo p = true := by
  simp only [Spec.promiseCovers, List.all_eq_true] at hp ⊢
  intro w hw
  exact hp w (h w hw)

theorem promiseReal_mono {votes hi : List Spec.Vote} (h : ∀ w ∈ votes, w ∈ hi) {p : Spec.Prom}
    (hp : Spec.promiseReal votes p = true) : Spec.promiseReal hi p = true := by
  obtain ⟨f, b, r⟩ := p
  cases r with
  | none => rfl
  | some x =>
    obtain ⟨bm, vm⟩ := x
    simp only [Spec.promiseReal, Bool.and_eq_true, decide_eq_true_eq, List.contains_iff_mem] at hp ⊢
    exact ⟨h _ hp.1, hp.2⟩

/-- the judge is silent on every model run, whatever part of the votes (`lo` ⊆ votes ⊆ `hi`) and of the
    promises the network observer saw -/
theorem promise_judge_silent (pfx : String) (n q1 q2 : Nat) (as : List Act) (lo hi : List Spec.Vote)
    (proms : List Spec.Prom)
    (hlo : ∀ w ∈ lo, w ∈ (runActs (init n q1 q2) as).votes)
    (hhi : ∀ w ∈ (runActs (init n q1 q2) as).votes, w ∈ hi)
    (hpr : ∀ p ∈ proms, p ∈ (runActs (init n q1 q2) as).proms) :
    Spec.judgePromises pfx lo hi proms = none := by
  have inv := (reach_run n q1 q2 as).inv
  have h1 : proms.all (Spec.promiseCovers lo) = true := by
    rw [List.all_eq_true]; intro p hp
    exact promiseCovers_anti hlo (promiseCovers_of_sem inv.sem (hpr p hp))
  have h2 : proms.all (Spec.promiseReal hi) = true := by
    rw [List.all_eq_true]; intro p hp
    exact promiseReal_mono hhi (promiseReal_of_sem inv.sem (hpr p hp))
  simp [Spec.judgePromises, h1, h2]

/-- non-vacuity: a run in which node 1 accepts value 0 (a value Python treats as false) under ballot 3 and
    then promises ballot 5 reporting it -/
def promWitness : List Act :=
  [.propose 0 3 0, .recvPrepare 3 1, .recvPromise 3 1, .recvAccept 3 1, .propose 2 5 7, .recvPrepare 5 1]

example : (runActs (init 3 2 2) promWitness).proms.contains (1, 5, some (3, 0)) = true := by decide +kernel
example : (runActs (init 3 2 2) promWitness).votes.contains (1, 3, 0) = true := by decide +kernel

/-- the Spec flags a promise that hides an accepted proposal (what an acceptor testing the truth value of
    its accepted value does when that value is 0) -/
theorem promise_hiding_accepted_violates_spec :
    Spec.judgePromises "paxos" [(1, 3, 0)] [(1, 3, 0), (0, 3, 0)] [(1, 5, none)]
      = some "paxos/promise/hides-accepted-value" := by decide +kernel

/-- the future returned by `propose()` on a decided node is resolved at once with the decided value — whatever
    that value is (the code tests the `_decided` flag, not the truth value of `_decided_value`) -/
theorem propose_on_decided_resolves (s : St) (p b : Nat) (v d : Val) (hp : p < s.cfg.n)
    (hd : s.decided p = some d) :
    (step s (.propose p b v)).futRes s.nfut = some d ∧ (step s (.propose p b v)).nfut = s.nfut + 1 ∧
    (step s (.propose p b v)).decided p = some d := by
  rw [step_propose_decided b v hp hd]
  exact ⟨upd_same _ _ _, rfl, hd⟩

/-- the judge's clause on any model state: the pair (report before the call, resolution of the new future) is accepted -/
theorem propose_call_judge_silent (s : St) (p b : Nat) (v : Val) (hp : p < s.cfg.n) :
    Spec.proposeCallOk (s.decided p, (step s (.propose p b v)).futRes s.nfut) = true := by
  cases hd : s.decided p with
  | none => simp [Spec.proposeCallOk]
  | some d =>
    have h := (propose_on_decided_resolves s p b v d hp hd).1
    simp [Spec.proposeCallOk, h]

/-- non-vacuity: after node 0 has decided value 0 (ballot 3, acceptors 0 and 1), `propose` on node 0 -/
example : (runActs (init 3 2 2) [.propose 0 3 0, .recvPrepare 3 1, .recvPromise 3 1, .recvAccept 3 1,
    .recvAccepted 3 1]).decided 0 = some 0 := by decide +kernel

/-- the Spec flags a call on a decided node whose future stays pending -/
theorem propose_call_pending_violates_spec :
    Spec.judgeCalls "paxos" [(none, none), (some 0, none)] = some "paxos/future/unresolved-on-decided-node" := by
  decide +kernel

end HappyModel.C12
