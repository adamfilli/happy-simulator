import HappyProofs.C09.PoolHead
/-! The segments beyond acquire / release: abandonment of an acquirer, idle-timeout closes, warm-up, the first waiter
helping itself; with concrete instances that show the hypotheses are satisfiable on non-trivial states. -/
namespace HappyModel.C09.Pool

theorem Inv.noLeak {s : St} (inv : Inv s) :
    s.active.length + s.idle.length + s.creators.length + s.wflight = s.total ∧ s.total ≤ s.max := by
  have hc := inv.conserve
  have hs := inv.split
  exact ⟨by omega, inv.bound⟩

theorem pool_no_leak_all_ops_at (max min : Nat) (h : min ≤ max) (ops : List (Nat × Op)) :
    (runAt { max := max, min := min } ops).active.length + (runAt { max := max, min := min } ops).idle.length
        + (runAt { max := max, min := min } ops).creators.length + (runAt { max := max, min := min } ops).wflight
      = (runAt { max := max, min := min } ops).total
    ∧ (runAt { max := max, min := min } ops).total ≤ max := by
  have := (runAt_inv _ ops (init_inv' max min h)).noLeak
  rwa [runAt_max] at this

/-- an op list with all nine segments -/
example : (run { max := 2, min := 1 }
      [.warm, .wmade, .warm, .acq 0, .acq 1, .acq 2, .abandon 1, .poll 2, .made 2, .rel 1, .acq 3, .rel 2,
       .abandon 3, .idleCheck 2 0, .timeout 9]).idle = []
    ∧ (run { max := 2, min := 1 }
      [.warm, .wmade, .warm, .acq 0, .acq 1, .acq 2, .abandon 1, .poll 2, .made 2, .rel 1, .acq 3, .rel 2,
       .abandon 3, .idleCheck 2 0, .timeout 9]).total = 1 := by decide +kernel

/-- the corner that needs the `active` test of `release()`: connection 1 is released twice while call 1
    has not yet noticed the hand-off; the abandoned call must not park it in the idle list a second time -/
example : (step (run { max := 1 } [.acq 0, .made 0, .acq 1, .rel 1, .rel 1]) (.abandon 1)).2 = .nothing
    ∧ (run { max := 1 } [.acq 0, .made 0, .acq 1, .rel 1, .rel 1, .abandon 1]).idle = [1]
    ∧ (run { max := 1 } [.acq 0, .made 0, .acq 1, .rel 1, .rel 1, .abandon 1]).handed = []
    ∧ (run { max := 1 } [.acq 0, .made 0, .acq 1, .rel 1, .rel 1, .abandon 1]).total = 1 := by decide +kernel

theorem filter_ne_fst (l : List (Nat × Nat)) (id : Nat) : ∀ p ∈ l.filter (·.1 != id), p.1 ≠ id := by
  intro p hp
  simpa using (List.mem_filter.1 hp).2

example : (run { max := 1 } [.acq 0, .made 0, .acq 1, .acq 2, .rel 1]).handed.find? (·.1 == 1) = some (1, 1)
    ∧ (step (run { max := 1 } [.acq 0, .made 0, .acq 1, .acq 2, .rel 1]) (.abandon 1)).2 = .handoff 2
    ∧ (step (run { max := 1 } [.acq 0, .made 0, .acq 1, .acq 2, .rel 1]) (.abandon 1)).1.handed = [(2, 1)]
    ∧ (step (run { max := 1 } [.acq 0, .made 0, .acq 1, .rel 1]) (.abandon 1)).2 = .toIdle
    ∧ (step (run { max := 1 } [.acq 0, .made 0, .acq 1, .rel 1]) (.abandon 1)).1.idle = [1]
    ∧ (step (run { max := 1 } [.acq 0, .made 0, .acq 1, .rel 1]) (.abandon 1)).1.active = [] := by decide +kernel

/-- the other case of `pool_abandoned_handoff_passed_on`: the handed connection is no longer active (it was released a second time); like
    `release()` the pool ignores it: only the hand-off entry is dropped -/
theorem pool_abandoned_handoff_inactive_ignored (s : St) (id c : Nat) (hc : s.creators.contains id = false)
    (hh : s.handed.find? (·.1 == id) = some (id, c)) (ha : s.active.contains c = false) :
    (step s (.abandon id)).2 = .nothing
    ∧ (step s (.abandon id)).1.handed = s.handed.filter (·.1 != id)
    ∧ (∀ p ∈ (step s (.abandon id)).1.handed, p.1 ≠ id)
    ∧ (step s (.abandon id)).1.active = s.active
    ∧ (step s (.abandon id)).1.idle = s.idle
    ∧ (step s (.abandon id)).1.total = s.total
    ∧ (step s (.abandon id)).1.creating = s.creating
    ∧ (step s (.abandon id)).1.waiters = s.waiters := by
  have hs : step s (.abandon id) = ({ s with handed := s.handed.filter (·.1 != id) }, .nothing) := by
    simp only [step, hh, hc, ha, Bool.not_false, Bool.false_eq_true, if_false, if_true]
  rw [hs]
  exact ⟨rfl, rfl, filter_ne_fst _ _, rfl, rfl, rfl, rfl, rfl⟩

example : (run { max := 1 } [.acq 0, .made 0, .acq 1, .rel 1, .rel 1]).handed.find? (·.1 == 1) = some (1, 1)
    ∧ (run { max := 1 } [.acq 0, .made 0, .acq 1, .rel 1, .rel 1]).active.contains 1 = false
    ∧ (run { max := 1 } [.acq 0, .made 0, .acq 1, .rel 1, .rel 1]).idle = [1] := by decide +kernel

/-- when nobody releases a connection that is handed over and not yet noticed (`relOk` along the run), the
    ignored corner never occurs: an abandoned call that was handed a connection always passes it on -/
theorem pool_abandoned_handoff_never_dropped (max min : Nat) (ops : List Op)
    (hr : Sched relOk { max := max, min := min } ops = true) (id c : Nat)
    (hh : (run { max := max, min := min } ops).handed.find? (·.1 == id) = some (id, c)) :
    (run { max := max, min := min } ops).active.contains c = true :=
  List.contains_iff_mem.2
    ((run_handInv _ ops (init_handInv max min) hr).act (id, c) (List.mem_of_find?_eq_some hh))

example : Sched relOk { max := 1 } [.acq 0, .made 0, .acq 1, .acq 2, .rel 1] = true
    ∧ Sched relOk { max := 1 } [.acq 0, .made 0, .acq 1, .rel 1, .rel 1] = false := by decide +kernel

/-! `HeadInv` ("a queued call is never grantable") holds on classic op lists only: -/

example : [Op.acq 0, .acq 1, .made 0, .rel 1, .poll 1, .timeout 2].all Op.classic = true
    ∧ (run { max := 1 } [.acq 0, .acq 1]).waiters ≠ [] := by decide +kernel

/-- it fails once a set-up is abandoned: call 1 is queued although the slot is free again … -/
example : (run { max := 1 } [.acq 0, .acq 1, .abandon 0]).waiters ≠ []
    ∧ (run { max := 1 } [.acq 0, .acq 1, .abandon 0]).total = 0 := by decide +kernel

/-- … and call 1 takes the slot at its next poll -/
example : (step (run { max := 1 } [.acq 0, .acq 1, .abandon 0]) (.poll 1)).2 = .creating
    ∧ (step (run { max := 1 } [.acq 0, .acq 1, .abandon 0]) (.poll 1)).1.waiters = [] := by decide +kernel

/-- it also fails once warm-up parks a connection behind the queue -/
example : (run { max := 2, min := 2 } [.acq 0, .warm, .acq 1, .wmade]).waiters = [1]
    ∧ (run { max := 2, min := 2 } [.acq 0, .warm, .acq 1, .wmade]).idle = [1]
    ∧ (step (run { max := 2, min := 2 } [.acq 0, .warm, .acq 1, .wmade]) (.poll 1)).2 = .idle 1 := by decide +kernel

example : (run { max := 2 } [.acq 0, .made 0, .acq 1]).creators.contains 1 = true
    ∧ (run { max := 2 } [.acq 0, .made 0, .acq 1]).total = 2
    ∧ (step (run { max := 2 } [.acq 0, .made 0, .acq 1]) (.abandon 1)).2 = .rolledBack
    ∧ (step (run { max := 2 } [.acq 0, .made 0, .acq 1]) (.abandon 1)).1.total = 1
    ∧ (step (run { max := 2 } [.acq 0, .made 0, .acq 1]) (.abandon 1)).1.active = [1] := by decide +kernel

example : (run { max := 1 } [.acq 0, .acq 1, .acq 2, .abandon 0]).waiters.head? = some 1
    ∧ (run { max := 1 } [.acq 0, .acq 1, .acq 2, .abandon 0]).total < 1
    ∧ (step (run { max := 1 } [.acq 0, .acq 1, .acq 2, .abandon 0]) (.poll 1)).2 = .creating
    ∧ (step (run { max := 1 } [.acq 0, .acq 1, .acq 2, .abandon 0]) (.poll 1)).1.waiters = [2] := by decide +kernel

example : 1 ∈ (run { max := 1 } [.acq 0, .acq 1, .acq 2]).waiters
    ∧ (step (run { max := 1 } [.acq 0, .acq 1, .acq 2]) (.abandon 1)).2 = .dequeued
    ∧ (step (run { max := 1 } [.acq 0, .acq 1, .acq 2]) (.abandon 1)).1.waiters = [2] := by decide +kernel

example : (step (runAt { max := 2, min := 1 } [(0, .acq 0), (0, .acq 1), (1, .made 0), (1, .made 1), (5, .rel 1), (6, .rel 2)])
      (.idleCheck 1 5)).2 = .closed
    ∧ (step (runAt { max := 2, min := 1 } [(0, .acq 0), (0, .acq 1), (1, .made 0), (1, .made 1), (5, .rel 1), (6, .rel 2)])
      (.idleCheck 1 5)).1.total = 1
    -- a timer armed for an earlier idle session is stale
    ∧ (step (runAt { max := 2, min := 1 } [(0, .acq 0), (0, .acq 1), (1, .made 0), (1, .made 1), (5, .rel 1), (6, .rel 2)])
      (.idleCheck 1 4)).2 = .stale
    -- at `min_connections` the connection is kept
    ∧ (step (runAt { max := 2, min := 1 } [(0, .acq 0), (0, .acq 1), (1, .made 0), (1, .made 1), (5, .rel 1), (6, .rel 2),
        (9, .idleCheck 1 5)]) (.idleCheck 2 6)).2 = .kept := by decide +kernel

example : (step { max := 3, min := 2 } .warm).2 = .creating
    ∧ (run { max := 3, min := 2 } [.warm, .wmade, .warm, .wmade]).total = 2
    ∧ (run { max := 3, min := 2 } [.warm, .wmade, .warm, .wmade]).idle = [1, 2]
    ∧ (step (run { max := 3, min := 2 } [.warm, .wmade, .warm, .wmade]) .warm).2 = .done := by decide +kernel

end HappyModel.C09.Pool

namespace HappyModel.C09

/-- no slot and no connection leaks, whatever happens: for every interleaving of all nine segments
    (abandonments, idle closes, warm-up, double releases included) every counted slot is an active
    connection, an idle connection, an acquirer's set-up in flight or a warm-up set-up in flight, and the
    total stays within `max_connections` -/
theorem pool_no_leak_all_ops (max min : Nat) (h : min ≤ max) (ops : List Pool.Op) :
    (Pool.run { max := max, min := min } ops).active.length + (Pool.run { max := max, min := min } ops).idle.length
        + (Pool.run { max := max, min := min } ops).creators.length + (Pool.run { max := max, min := min } ops).wflight
      = (Pool.run { max := max, min := min } ops).total
    ∧ (Pool.run { max := max, min := min } ops).total ≤ max := by
  have := (Pool.run_inv _ ops (Pool.init_inv' max min h)).noLeak
  rwa [Pool.run_max] at this

example : (Pool.run { max := 2, min := 1 }
      [.warm, .wmade, .warm, .acq 0, .acq 1, .acq 2, .abandon 1, .poll 2, .made 2, .rel 1, .acq 3, .rel 2,
       .abandon 3, .idleCheck 2 0, .timeout 9]).total = 1 := by decide +kernel

/-- an abandoned set-up gives its reserved slot back -/
theorem pool_abandon_returns_slot (s : Pool.St) (id : Nat) (inv : Pool.Inv s)
    (h : s.creators.contains id = true) :
    (Pool.step s (.abandon id)).2 = .rolledBack
    ∧ (Pool.step s (.abandon id)).1.total + 1 = s.total
    ∧ (Pool.step s (.abandon id)).1.creating + 1 = s.creating
    ∧ (Pool.step s (.abandon id)).1.active = s.active
    ∧ (Pool.step s (.abandon id)).1.idle = s.idle := by
  have := List.length_pos_of_mem (List.contains_iff_mem.1 h)
  have hc := inv.conserve
  have hs := inv.split
  rw [Pool.step, if_pos h]
  refine ⟨rfl, ?_, ?_, rfl, rfl⟩
  · simp only [inv.res, if_true]; omega
  · show s.creating - 1 + 1 = s.creating
    omega

example : (Pool.run { max := 2 } [.acq 0, .made 0, .acq 1]).creators.contains 1 = true
    ∧ (Pool.step (Pool.run { max := 2 } [.acq 0, .made 0, .acq 1]) (.abandon 1)).1.total = 1 := by decide +kernel

/-- the first waiter takes capacity that came back without a release (an idle connection parked by
    warm-up, a slot returned by an abandoned set-up) at its next poll -/
theorem pool_head_helps_itself (s : Pool.St) (id : Nat) (hh : s.waiters.head? = some id)
    (hn : s.handed.find? (·.1 == id) = none) (hf : s.idle ≠ [] ∨ s.total < s.max) :
    (Pool.step s (.poll id)).2 ≠ .wait ∧ (Pool.step s (.poll id)).1.waiters = s.waiters.tail := by
  have hb : (s.waiters.head? != some id) = false := by rw [hh]; simp
  simp only [Pool.step, hn, hb, Bool.false_eq_true, if_false]
  cases hi : s.idle with
  | cons c rest => exact ⟨nofun, rfl⟩
  | nil =>
    rw [if_pos (hf.resolve_left (· hi))]
    exact ⟨nofun, rfl⟩

example : (Pool.run { max := 1 } [.acq 0, .acq 1, .acq 2, .abandon 0]).waiters.head? = some 1
    ∧ (Pool.run { max := 1 } [.acq 0, .acq 1, .acq 2, .abandon 0]).total < 1
    ∧ (Pool.step (Pool.run { max := 1 } [.acq 0, .acq 1, .acq 2, .abandon 0]) (.poll 1)).2 = .creating := by decide +kernel

/-- an abandoned queued call leaves the queue -/
theorem pool_abandoned_waiter_leaves (s : Pool.St) (id : Nat) (hc : s.creators.contains id = false)
    (hn : s.handed.find? (·.1 == id) = none) : id ∉ (Pool.step s (.abandon id)).1.waiters := by
  simp only [Pool.step, hn, hc, Bool.false_eq_true, if_false]
  split
  · exact fun hm => by simpa using (List.mem_filter.1 hm).2
  · exact fun hm => ‹¬ _› (List.contains_iff_mem.2 hm)

example : 1 ∈ (Pool.run { max := 1 } [.acq 0, .acq 1, .acq 2]).waiters
    ∧ (Pool.step (Pool.run { max := 1 } [.acq 0, .acq 1, .acq 2]) (.abandon 1)).1.waiters = [2] := by decide +kernel

/-- a connection handed to a call that is abandoned before it notices is passed on: to the next waiter
    if there is one, to the idle list otherwise -/
theorem pool_abandoned_handoff_passed_on (s : Pool.St) (id c : Nat) (hc : s.creators.contains id = false)
    (hh : s.handed.find? (·.1 == id) = some (id, c)) (ha : s.active.contains c = true) :
    (∃ w ws, s.waiters = w :: ws
        ∧ (Pool.step s (.abandon id)).2 = .handoff w
        ∧ (Pool.step s (.abandon id)).1.waiters = ws
        ∧ (Pool.step s (.abandon id)).1.handed = s.handed.filter (·.1 != id) ++ [(w, c)]
        ∧ (w, c) ∈ (Pool.step s (.abandon id)).1.handed
        ∧ (Pool.step s (.abandon id)).1.active = s.active
        ∧ ∀ p ∈ (Pool.step s (.abandon id)).1.handed, p.1 = id → p = (w, c))
    ∨ (s.waiters = []
        ∧ (Pool.step s (.abandon id)).2 = .toIdle
        ∧ c ∈ (Pool.step s (.abandon id)).1.idle
        ∧ (Pool.step s (.abandon id)).1.handed = s.handed.filter (·.1 != id)
        ∧ ∀ p ∈ (Pool.step s (.abandon id)).1.handed, p.1 ≠ id) := by
  simp only [Pool.step, hh, hc, ha, Bool.not_true, Bool.false_eq_true, if_false, Pool.giveBack]
  cases hq : s.waiters with
  | cons w ws =>
    refine .inl ⟨w, ws, rfl, rfl, rfl, rfl, List.mem_append_right _ (.head _), rfl, fun p hp he => ?_⟩
    rcases List.mem_append.1 hp with h | h
    · exact absurd he (Pool.filter_ne_fst _ _ p h)
    · exact List.mem_singleton.1 h
  | nil => exact .inr ⟨rfl, rfl, List.mem_append_right _ (.head _), rfl, Pool.filter_ne_fst _ _⟩

example : (Pool.run { max := 1 } [.acq 0, .made 0, .acq 1, .acq 2, .rel 1]).handed.find? (·.1 == 1) = some (1, 1)
    ∧ (Pool.step (Pool.run { max := 1 } [.acq 0, .made 0, .acq 1, .acq 2, .rel 1]) (.abandon 1)).2 = .handoff 2
    ∧ (Pool.step (Pool.run { max := 1 } [.acq 0, .made 0, .acq 1, .rel 1]) (.abandon 1)).2 = .toIdle := by decide +kernel

/-- the idle timeout closes only an idle connection, in the idle session its timer was armed for, and
    never below `min_connections` -/
theorem pool_idle_close_sound (s : Pool.St) (c e : Nat) (inv : Pool.Inv s)
    (h : (Pool.step s (.idleCheck c e)).2 = .closed) :
    c ∈ s.idle ∧ Pool.stampOf s.stamp c = some e ∧ s.min ≤ (Pool.step s (.idleCheck c e)).1.total
    ∧ (Pool.step s (.idleCheck c e)).1.active = s.active
    ∧ (Pool.step s (.idleCheck c e)).1.total + 1 = s.total
    ∧ (Pool.step s (.idleCheck c e)).1.idle = s.idle.erase c := by
  -- `inv` is not needed: the three tests of the `idleCheck` arm say everything claimed
  have _ := inv
  simp only [Pool.step] at h ⊢
  split at h
  next hcond =>
    split at h
    next hlt =>
      rw [if_pos hcond, if_pos hlt]
      simp only [Bool.and_eq_true, beq_iff_eq] at hcond
      exact ⟨List.contains_iff_mem.1 hcond.1, hcond.2, by show s.min ≤ s.total - 1; omega, rfl,
        by show s.total - 1 + 1 = s.total; omega, rfl⟩
    next => cases h
  next => cases h

example : (Pool.step (Pool.runAt { max := 2, min := 1 }
      [(0, .acq 0), (0, .acq 1), (1, .made 0), (1, .made 1), (5, .rel 1), (6, .rel 2)]) (.idleCheck 1 5)).2 = .closed := by
  decide +kernel

/-- warm-up stops at `min_connections` -/
theorem pool_warmup_stops_at_min (s : Pool.St) :
    ((Pool.step s .warm).2 = .done ↔ s.min ≤ s.total)
    ∧ (s.reserve = true → (Pool.step s .warm).2 = .creating → (Pool.step s .warm).1.total = s.total + 1) := by
  simp only [Pool.step]
  split
  next hlt => exact ⟨⟨nofun, fun h => by omega⟩, fun hres _ => by simp only [hres, if_true]⟩
  next hge => exact ⟨⟨fun _ => by omega, fun _ => rfl⟩, nofun⟩

example : (Pool.step { max := 3, min := 2 } .warm).2 = .creating
    ∧ (Pool.step (Pool.run { max := 3, min := 2 } [.warm, .wmade, .warm, .wmade]) .warm).2 = .done := by decide +kernel

end HappyModel.C09
