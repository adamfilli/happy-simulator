import HappyProofs.C18.VClockInv
/-! Scalar clocks (Lamport, HLC): timestamps strictly increase along happened-before. Generic in the
timestamp order so that the pair (Lamport, HLC) under the componentwise order can be the one instance: both
clocks then go through one induction.  The genericity is for that, not for further clocks. -/
namespace HappyModel.C18

structure TOrd (T : Type) where
  lt : T → T → Prop
  le : T → T → Prop
  le_refl : ∀ a, le a a
  lt_le : ∀ {a b}, lt a b → le a b
  le_lt : ∀ {a b c}, le a b → lt b c → lt a c

structure SInv {T : Type} (o : TOrd T) (ts : Rec → T) (s : St) (cur mcur : Nat → T) : Prop where
  sNode : ∀ n, ∀ r ∈ s.log, r.id ∈ s.know n → o.le (ts r) (cur n)
  sMsg : ∀ m, s.msent m = true → ∀ r ∈ s.log, r.id ∈ s.mknow m → o.le (ts r) (mcur m)
  sLog : ∀ r ∈ s.log, ∀ r' ∈ s.log, r'.id ∈ r.K → r'.id ≠ r.id → o.lt (ts r') (ts r)

theorem sinv_init {T} (o : TOrd T) (ts : Rec → T) (cur mcur : Nat → T) : SInv o ts {} cur mcur := by
  refine ⟨?_, ?_, ?_⟩ <;> simp

theorem sinv_bump {T} (o : TOrd T) (ts : Rec → T) {s : St} {cur mcur cur' : Nat → T}
    (inv : Inv s) (si : SInv o ts s cur mcur) (n l : Nat) (v : Vec) (h : HTs) (K : List Nat)
    (hn : cur' n = ts ⟨s.cnt, n, l, Vec.addAt v n 1, h, s.cnt :: K⟩)
    (ho : ∀ n', n' ≠ n → cur' n' = cur n')
    (hK : ∀ r ∈ s.log, r.id ∈ K → o.lt (ts r) (cur' n)) :
    SInv o ts (bump s n l v h K) cur' mcur := by
  have fresh : ∀ r ∈ s.log, r.id ≠ s.cnt := fun r hr => Nat.ne_of_lt (inv.idLog r hr).1
  refine ⟨fun n' r hr hmem => ?_, fun m hm r hr hmem => ?_, fun r hr r' hr' hin hne => ?_⟩
  · rw [bump_know] at hmem
    by_cases hn' : n' = n
    · subst hn'
      rw [upd_same] at hmem
      rcases List.mem_cons.mp hr with rfl | hr
      · rw [hn]; exact o.le_refl _
      · exact o.lt_le (hK r hr ((List.mem_cons.mp hmem).resolve_left (fresh r hr)))
    · rw [upd_other _ _ _ _ hn'] at hmem
      rw [ho n' hn']
      rcases List.mem_cons.mp hr with rfl | hr
      · exact absurd (inv.idNode n' _ hmem) (Nat.lt_irrefl _)
      · exact si.sNode n' r hr hmem
  · rcases List.mem_cons.mp hr with rfl | hr
    · exact absurd (inv.idMsg m hm _ hmem) (Nat.lt_irrefl _)
    · exact si.sMsg m hm r hr hmem
  · rcases List.mem_cons.mp hr with rfl | hr
    · rcases List.mem_cons.mp hr' with rfl | hr'
      · exact absurd rfl hne
      · rw [← hn]; exact hK r' hr' ((List.mem_cons.mp hin).resolve_left hne)
    · rcases List.mem_cons.mp hr' with rfl | hr'
      · exact absurd (Nat.lt_of_le_of_lt ((inv.idLog r hr).2 _ hin) (inv.idLog r hr).1) (Nat.lt_irrefl _)
      · exact si.sLog r hr r' hr' hin hne

theorem sinv_send {T} (o : TOrd T) (ts : Rec → T) {s1 : St} {cur mcur mcur' : Nat → T}
    (si : SInv o ts s1 cur mcur) (n m : Nat) (a : Nat → Nat) (d : Nat → Vec) (e : Nat → HTs)
    (hm : mcur' m = cur n) (ho : ∀ m', m' ≠ m → mcur' m' = mcur m') :
    SInv o ts { s1 with mlam := a, mvc := d, mhlc := e, mknow := upd s1.mknow m (s1.know n),
                        msent := upd s1.msent m true } cur mcur' := by
  refine ⟨si.sNode, fun m' hm' r hr hmem => ?_, si.sLog⟩
  dsimp only at hm' hmem
  by_cases hmm : m' = m
  · subst hmm
    rw [upd_same] at hmem
    rw [hm]
    exact si.sNode n r hr hmem
  · rw [upd_other _ _ _ _ hmm] at hm' hmem
    rw [ho m' hmm]
    exact si.sMsg m' hm' r hr hmem

end HappyModel.C18
