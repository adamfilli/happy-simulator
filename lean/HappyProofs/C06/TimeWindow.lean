import HappyProofs.C06.Plan
/-!
"Active at step k" (activated and not yet deactivated among the first k processed events) read as a
*time window*: in a schedule ordered by time, a window whose activation was processed at time `s`
and whose deactivation is processed at time `r` is active at every step whose time lies strictly
between `s` and `r`, and only at steps whose time lies in `[s, r]` (at the two boundary instants the
engine's tie order decides, which is C01's subject).  For a partition window this is stated for
schedules in which no `Network.heal_partition()` call cuts windows short (`Clear`).
-/
namespace HappyModel.C06

theorem activeAfter_succ (fs : List Fault) (tr : List Pop) (k : Nat) (p : Pop) (hp : tr[k]? = some p) :
    activeAfter fs (tr.take (k + 1)) = actStep fs (activeAfter fs (tr.take k)) p := by
  unfold activeAfter
  rw [List.take_add_one, hp]
  simp [List.foldl_append]

theorem not_mem_foldl_actStep (fs : List Fault) (f : Nat) : ∀ (tr : List Pop) (act : List Nat),
    (∀ t a, Pop.fault t f a ∉ tr) → f ∉ act → f ∉ tr.foldl (actStep fs) act
  | [], act, _, h => by simpa using h
  | p :: rest, act, hno, h => by
    simp only [List.foldl_cons]
    apply not_mem_foldl_actStep fs f rest
    · intro t a hm; exact hno t a (List.mem_cons_of_mem _ hm)
    · cases p with
      | fault t g a =>
        have hg : g ≠ f := fun hgf => hno t a (by rw [hgf]; exact List.mem_cons_self ..)
        cases a with
        | true => simp only [actStep, List.mem_cons, not_or]; exact ⟨fun h' => hg h'.symm, h⟩
        | false => simp only [actStep]; exact fun hm => h (List.mem_of_mem_erase hm)
      | healall t k => simp only [actStep]; exact fun hm => h (List.mem_filter.mp hm).1
      | _ => simpa [actStep] using h

theorem take_subset_no_fault {f : Nat} {tr : List Pop} (k : Nat)
    (hno : ∀ t a, Pop.fault t f a ∉ tr) : ∀ t a, Pop.fault t f a ∉ tr.take k :=
  fun t a hm => hno t a (List.mem_of_mem_take hm)

def ActIn (f : Nat) (l : List Pop) : Prop := ∃ t, Pop.fault t f true ∈ l
def NoDeact (f : Nat) (l : List Pop) : Prop := ∀ t, Pop.fault t f false ∉ l

/-- no `Network.heal_partition()` call can end window `f` early (vacuous unless `f` is a partition) -/
def Clear (fs : List Fault) (f : Nat) (l : List Pop) : Prop :=
  isPartF fs f = true → ∀ t k, Pop.healall t k ∉ l

theorem noDeact_cons {f : Nat} {p : Pop} {rest : List Pop} :
    NoDeact f (p :: rest) ↔ (∀ t, Pop.fault t f false ≠ p) ∧ NoDeact f rest := by
  simp only [NoDeact, List.mem_cons, not_or, forall_and]

theorem actIn_cons {f : Nat} {p : Pop} {rest : List Pop} :
    ActIn f (p :: rest) ↔ (∃ t, Pop.fault t f true = p) ∨ ActIn f rest := by
  simp only [ActIn, List.mem_cons, exists_or]

/-- `f ∉ ever` in the second alternative: `wfFrom` refuses a second activation, so a window that is not
    active at the start becomes active only by its one activation, inside `l`. -/
theorem mem_active_iff (fs : List Fault) (f : Nat) : ∀ (l : List Pop) (ever act : List Nat),
    wfFrom fs ever act l = true → (∀ x, x ∈ act → x ∈ ever) → act.Nodup → Clear fs f l →
    (f ∈ l.foldl (actStep fs) act ↔
      (f ∈ act ∧ NoDeact f l) ∨ (f ∉ ever ∧ ActIn f l ∧ NoDeact f l))
  | [], ever, act, _, hsub, _, _ => by
    simp only [List.foldl_nil, NoDeact, ActIn, List.not_mem_nil, not_false_eq_true, implies_true,
      and_true, exists_false, and_false, or_false]
  | p :: rest, ever, act, hwf, hsub, nd, hcl => by
    have hk := wfFrom_keeps hwf nd hsub
    rw [List.foldl_cons, noDeact_cons, actIn_cons, mem_active_iff fs f rest _ _
      (wfFrom_tail fs ever act p rest hwf) hk.2 hk.1
      fun hp t k hm => hcl hp t k (List.mem_cons_of_mem _ hm)]
    cases p with
    | fault t g a =>
      cases a with
      | true =>
        simp only [wfFrom, Bool.and_eq_true, Bool.not_eq_true', List.contains_eq_mem,
          decide_eq_false_iff_not] at hwf
        have hga : g ∉ act := fun hm => hwf.1 (hsub g hm)
        by_cases hfg : f = g
        · subst hfg
          -- `f` was never seen before: it is not in `act`, and its window starts here
          simp [actStep, everStep, hga, hwf.1]
        · simp [actStep, everStep, hfg]
      | false =>
        simp only [wfFrom, Bool.and_eq_true, Bool.or_eq_true, List.contains_eq_mem,
          decide_eq_true_eq] at hwf
        have hgev : g ∈ ever := hwf.1.elim (hsub g) (·.2)
        by_cases hfg : f = g
        · subst hfg
          -- `Nodup`: after `erase` it is gone, and `NoDeact` fails at the head
          simp [actStep, everStep, List.Nodup.not_mem_erase nd, hgev]
        · simp [actStep, everStep, hfg, List.mem_erase_of_ne hfg]
    | healall t k =>
      have hnp : partOnF fs k f = false := by
        cases hp : partOnF fs k f with
        | false => rfl
        | true => exact absurd (List.mem_cons_self ..) (hcl (partOnF_isPartF fs k f hp) t k)
      simp [actStep, everStep, List.mem_filter, hnp]
    | _ => simp [actStep, everStep]

theorem wf_take (fs : List Fault) : ∀ (l : List Pop) (ever act : List Nat) (k : Nat),
    wfFrom fs ever act l = true → wfFrom fs ever act (l.take k) = true
  | _, _, _, 0, _ => by simp [wfFrom]
  | [], _, _, _ + 1, _ => by simp [wfFrom]
  | p :: rest, ever, act, k + 1, h => by
    cases p with
    | fault t g a =>
      cases a <;> simp only [List.take_succ_cons, wfFrom, Bool.and_eq_true] at h ⊢ <;>
        exact ⟨h.1, wf_take fs rest _ _ k h.2⟩
    | _ => simp only [List.take_succ_cons, wfFrom] at h ⊢; exact wf_take fs rest _ _ k h

def Sorted (tr : List Pop) : Prop := tr.Pairwise (fun p q => p.time ≤ q.time)

theorem sorted_cut {tr : List Pop} {k : Nat} {p : Pop} (hs : Sorted tr) (hp : tr[k]? = some p) :
    (∀ x ∈ tr.take k, x.time ≤ p.time) ∧ ∀ x ∈ tr, x ∉ tr.take k → p.time ≤ x.time := by
  obtain ⟨hk, rfl⟩ := List.getElem?_eq_some_iff.mp hp
  have hsplit : tr = tr.take k ++ tr[k] :: tr.drop (k + 1) := by
    rw [← List.drop_eq_getElem_cons hk, List.take_append_drop]
  have hpw : (tr.take k ++ tr[k] :: tr.drop (k + 1)).Pairwise (fun p q => p.time ≤ q.time) := hsplit ▸ hs
  obtain ⟨_, hright, hcross⟩ := List.pairwise_append.mp hpw
  refine ⟨fun x hx => hcross x hx _ (List.mem_cons_self ..), fun x hx hnx => ?_⟩
  rw [hsplit] at hx
  rcases List.mem_append.mp hx with h | h
  · exact absurd h hnx
  · rcases List.mem_cons.mp h with rfl | h
    · exact Nat.le_refl _
    · exact (List.pairwise_cons.mp hright).1 x h

theorem active_take_iff {fs : List Fault} {tr : List Pop} (k f : Nat) (hwf : WF fs tr) (hcl : Clear fs f tr) :
    f ∈ activeAfter fs (tr.take k) ↔ ActIn f (tr.take k) ∧ NoDeact f (tr.take k) := by
  have := mem_active_iff fs f (tr.take k) [] [] (wf_take fs tr [] [] k hwf) (by simp) List.nodup_nil
    fun hpf t k' hm => hcl hpf t k' (List.mem_of_mem_take hm)
  simpa [activeAfter] using this

/-- a window whose activation has been processed strictly before the time of step `k` and whose
    deactivation (if any) is processed strictly after it is active at step `k` -/
theorem active_of_inside (fs : List Fault) (tr : List Pop) (k : Nat) (p : Pop) (f s : Nat)
    (hwf : WF fs tr) (hs : Sorted tr) (hcl : Clear fs f tr) (hp : tr[k]? = some p)
    (hact : Pop.fault s f true ∈ tr) (h1 : s < p.time)
    (h2 : ∀ r, Pop.fault r f false ∈ tr → p.time < r) :
    f ∈ activeAfter fs (tr.take k) := by
  obtain ⟨hbefore, hafter⟩ := sorted_cut hs hp
  refine (active_take_iff k f hwf hcl).mpr ⟨⟨s, ?_⟩, fun r hm => ?_⟩
  · exact Classical.byContradiction fun h => Nat.not_le.mpr h1 (hafter _ hact h)
  · exact Nat.lt_irrefl _ (Nat.lt_of_lt_of_le (h2 r (List.mem_of_mem_take hm)) (hbefore _ hm))

/-- conversely, a window that is active at step `k` was activated at a time `≤` the step's time, and
    its deactivation, if it is ever processed, is processed at a time `≥` the step's time -/
theorem inside_of_active (fs : List Fault) (tr : List Pop) (k : Nat) (p : Pop) (f : Nat)
    (hwf : WF fs tr) (hs : Sorted tr) (hcl : Clear fs f tr) (hp : tr[k]? = some p)
    (hact : f ∈ activeAfter fs (tr.take k)) :
    (∃ s, Pop.fault s f true ∈ tr ∧ s ≤ p.time) ∧
    (∀ r, Pop.fault r f false ∈ tr → p.time ≤ r) := by
  obtain ⟨hbefore, hafter⟩ := sorted_cut hs hp
  obtain ⟨⟨s, hs'⟩, hN⟩ := (active_take_iff k f hwf hcl).mp hact
  exact ⟨⟨s, List.mem_of_mem_take hs', hbefore _ hs'⟩, fun r hr => hafter _ hr (hN r)⟩

/-! ### windows are `[s, r)` when fault boundaries come first at their instant

`FaultSchedule.start` gives the fault events the smallest tie-breaking indices, so at an instant the
engine (C01: time order, FIFO by index among equal times) processes the starts and ends of windows
before every other event.  For the event `p` processed at step `k` that is what `hb1` / `hb2` say;
`ht1` / `ht2`: fault events carry their configured times. -/

theorem in_window_of_active (fs : List Fault) (tr : List Pop) (k : Nat) (p : Pop) (f s : Nat)
    (r : Option Nat) (hwf : WF fs tr) (hs : Sorted tr) (hcl : Clear fs f tr) (hp : tr[k]? = some p)
    (ht1 : ∀ t, Pop.fault t f true ∈ tr → t = s)
    (hb2 : ∀ r', r = some r' → r' ≤ p.time → Pop.fault r' f false ∈ tr.take k)
    (hact : f ∈ activeAfter fs (tr.take k)) :
    s ≤ p.time ∧ ∀ r', r = some r' → p.time < r' := by
  obtain ⟨⟨t, ht⟩, hN⟩ := (active_take_iff k f hwf hcl).mp hact
  exact ⟨ht1 t (List.mem_of_mem_take ht) ▸ (sorted_cut hs hp).1 _ ht,
    fun r' hr' => Nat.lt_of_not_le fun h => hN r' (hb2 r' hr' h)⟩

theorem active_of_in_window (fs : List Fault) (tr : List Pop) (k : Nat) (p : Pop) (f s : Nat)
    (r : Option Nat) (hwf : WF fs tr) (hs : Sorted tr) (hcl : Clear fs f tr) (hp : tr[k]? = some p)
    (ht2 : ∀ t, Pop.fault t f false ∈ tr → r = some t)
    (hb1 : s ≤ p.time → Pop.fault s f true ∈ tr.take k)
    (hin : s ≤ p.time ∧ ∀ r', r = some r' → p.time < r') :
    f ∈ activeAfter fs (tr.take k) := by
  refine (active_take_iff k f hwf hcl).mpr ⟨⟨s, hb1 hin.1⟩, fun t hm => ?_⟩
  exact Nat.lt_irrefl _ (Nat.lt_of_lt_of_le (hin.2 t (ht2 t (List.mem_of_mem_take hm)))
    ((sorted_cut hs hp).1 _ hm))

/-- **active_iff_in_window** — when an event that is not a fault boundary is processed at time `t`,
    a scheduled window `[s, r)` is active iff `s ≤ t < r` (`r = none`: iff `s ≤ t`) -/
theorem active_iff_in_window (fs : List Fault) (tr : List Pop) (k : Nat) (p : Pop) (f s : Nat)
    (r : Option Nat) (hwf : WF fs tr) (hs : Sorted tr) (hcl : Clear fs f tr) (hp : tr[k]? = some p)
    (ht1 : ∀ t, Pop.fault t f true ∈ tr → t = s)
    (ht2 : ∀ t, Pop.fault t f false ∈ tr → r = some t)
    (hb1 : s ≤ p.time → Pop.fault s f true ∈ tr.take k)
    (hb2 : ∀ r', r = some r' → r' ≤ p.time → Pop.fault r' f false ∈ tr.take k) :
    f ∈ activeAfter fs (tr.take k) ↔ (s ≤ p.time ∧ ∀ r', r = some r' → p.time < r') :=
  ⟨in_window_of_active fs tr k p f s r hwf hs hcl hp ht1 hb2,
   active_of_in_window fs tr k p f s r hwf hs hcl hp ht2 hb1⟩

end HappyModel.C06
