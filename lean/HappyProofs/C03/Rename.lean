import HappyProofs.C01.Lemmas
/-! Renaming creation indices in the C01 engine model: the run commutes with the renaming, so nothing observable
depends on where the creation counter stood. -/
namespace HappyModel.C03
open HappyModel.C01

variable {σ : Type}

def renEv (g : Nat → Nat) (e : Ev) : Ev := { e with id := g e.id }

def StrictMonoOn (g : Nat → Nat) : Prop := ∀ a b, a < b → g a < g b

theorem StrictMonoOn.lt_iff {g : Nat → Nat} (h : StrictMonoOn g) (a b : Nat) : g a < g b ↔ a < b := by
  have := h a b
  have := h b a
  grind

theorem StrictMonoOn.inj {g : Nat → Nat} (h : StrictMonoOn g) {a b : Nat} (hab : g a = g b) : a = b := by
  have := h a b
  have := h b a
  grind

theorem renEv_inj {g : Nat → Nat} (h : StrictMonoOn g) {a b : Ev} (hab : renEv g a = renEv g b) : a = b := by
  cases a; cases b
  simp only [renEv, Ev.mk.injEq] at hab ⊢
  exact ⟨h.inj hab.1, hab.2⟩

theorem keyLt_ren {g : Nat → Nat} (h : StrictMonoOn g) (a b : Ev) :
    keyLt (renEv g a) (renEv g b) = keyLt a b := by
  unfold keyLt renEv
  simp only []
  have := h.lt_iff a.id b.id
  by_cases hlt : a.id < b.id <;> simp [hlt, this.mpr, this]

theorem minOf_ren {g : Nat → Nat} (h : StrictMonoOn g) (m : Ev) (l : List Ev) :
    minOf (renEv g m) (l.map (renEv g)) = renEv g (minOf m l) := by
  induction l generalizing m with
  | nil => simp [minOf]
  | cons x xs ih =>
    simp only [List.map_cons, minOf, keyLt_ren h]
    split
    · exact ih x
    · exact ih m

theorem map_erase_inj {α β} [DecidableEq α] [DecidableEq β] (f : α → β)
    (hf : ∀ a b, f a = f b → a = b) (l : List α) (a : α) :
    (l.map f).erase (f a) = (l.erase a).map f := by
  induction l with
  | nil => rfl
  | cons x xs ih =>
    by_cases hx : x = a
    · simp [hx]
    · have : f x ≠ f a := fun h => hx (hf _ _ h)
      simp [hx, this, ih]

theorem mem_map_inj (g : Nat → Nat) (hg : ∀ a b, g a = g b → a = b) (l : List Nat) (x : Nat) :
    g x ∈ l.map g ↔ x ∈ l := by
  simp only [List.mem_map]
  exact ⟨fun ⟨y, hy, hxy⟩ => hg _ _ hxy ▸ hy, fun h => ⟨x, h, rfl⟩⟩

theorem mkEvents_ren (g : Nat → Nat) (n N' now : Nat) (specs : List Spec)
    (hfresh : ∀ j, g (n + j) = N' + j) :
    mkEvents N' now specs = (mkEvents n now specs).map (renEv g) := by
  induction specs generalizing n N' with
  | nil => rfl
  | cons s ss ih =>
    have h0 : g n = N' := by simpa using hfresh 0
    rw [mkEvents, mkEvents, List.map_cons,
      ← ih (n + 1) (N' + 1) fun j => by rw [Nat.add_right_comm, Nat.add_assoc, hfresh]; omega]
    simp [renEv, h0]

theorem countPrimary_ren (g : Nat → Nat) (l : List Ev) : countPrimary (l.map (renEv g)) = countPrimary l := by
  simp only [countPrimary, List.filter_map, List.length_map]; rfl

/-- the handler commutes with the renaming of creation indices: it may store ids in its state
    (`rσ` renames them there), receive and return them, cancel them — but not compute with their
    numeric value -/
structure Equivariant (mc : Machine σ) (g : Nat → Nat) (rσ : σ → σ) : Prop where
  handle : ∀ ent now e, mc.handle (rσ ent) now (renEv g e) =
      { ent := rσ (mc.handle ent now e).ent, specs := (mc.handle ent now e).specs,
        cancels := (mc.handle ent now e).cancels.map g }
  crashed : ∀ ent e, mc.crashed (rσ ent) (renEv g e) = mc.crashed ent e

def renSt (g : Nat → Nat) (rσ : σ → σ) (N' : Nat) (s : St σ) : St σ :=
  { heap := s.heap.map (renEv g), now := s.now, nextId := N', cancelled := s.cancelled.map g,
    ent := rσ s.ent, log := s.log.map (renEv g),
    popped := s.popped.map (fun p => (renEv g p.1, p.2)), primary := s.primary,
    processed := s.processed, nCancelled := s.nCancelled, nStale := s.nStale }

/-- what `run_ren` carries: freshness of the images at the start would not do, the hypothesis has to hold again at
    every later counter (`ShiftFrom.le`) -/
def ShiftFrom (g : Nat → Nat) (n : Nat) : Prop := ∀ j, g (n + j) = g n + j

theorem ShiftFrom.le {g : Nat → Nat} {n n' : Nat} (h : ShiftFrom g n) (hle : n ≤ n') : ShiftFrom g n' := by
  intro j
  obtain ⟨k, rfl⟩ := Nat.exists_eq_add_of_le hle
  rw [Nat.add_assoc, h, h, Nat.add_assoc]

/-- Not by `stepWith_cases` and the branch equations, as `stepWith_withHeap` of `Layout.lean` is: both sides are
    records with every field renamed, so each branch needs its `simp [renSt, …]` anyway. -/
theorem stepWith_ren (mc : Machine σ) (g : Nat → Nat) (rσ : σ → σ) (hg : StrictMonoOn g)
    (heq : Equivariant mc g rσ) (s : St σ) (m : Ev) (hfresh : ShiftFrom g s.nextId) :
    stepWith mc (renSt g rσ (g s.nextId) s) (renEv g m) =
      renSt g rσ (g (stepWith mc s m).nextId) (stepWith mc s m) := by
  have herase : (s.heap.map (renEv g)).erase (renEv g m) = (s.heap.erase m).map (renEv g) :=
    map_erase_inj (renEv g) (fun a b h => renEv_inj hg h) s.heap m
  have hmem : g m.id ∈ s.cancelled.map g ↔ m.id ∈ s.cancelled :=
    mem_map_inj g (fun a b h => hg.inj h) s.cancelled m.id
  have hid : (renEv g m).id = g m.id := rfl
  have htime : (renEv g m).time = m.time := rfl
  have hdaemon : (renEv g m).daemon = m.daemon := rfl
  by_cases hc : m.id ∈ s.cancelled
  · simp [stepWith, renSt, List.map_append, *]
  · by_cases hs : m.time < s.now
    · simp [stepWith, renSt, List.map_append, *]
    · by_cases hcr : mc.crashed s.ent m = true
      · simp [stepWith, renSt, List.map_append, heq.crashed, *]
      · have hmk := mkEvents_ren g s.nextId (g s.nextId) m.time (mc.handle s.ent m.time m).specs hfresh
        simp [stepWith, renSt, List.map_append, heq.crashed, heq.handle, countPrimary_ren, hfresh _, *]

theorem step_ren (mc : Machine σ) (g : Nat → Nat) (rσ : σ → σ) (hg : StrictMonoOn g)
    (heq : Equivariant mc g rσ) (endT : Option Nat) (s : St σ) (hfresh : ShiftFrom g s.nextId) :
    step mc endT (renSt g rσ (g s.nextId) s) =
      (step mc endT s).map (fun s' => renSt g rσ (g s'.nextId) s') := by
  unfold step
  cases hh : s.heap with
  | nil => simp [renSt, hh]
  | cons x xs =>
    have hcont : continues endT (renSt g rσ (g s.nextId) s) = continues endT s := by
      simp [continues, renSt, hh]
    have hheap : (renSt g rσ (g s.nextId) s).heap = renEv g x :: xs.map (renEv g) := by simp [renSt, hh]
    simp only [hheap, hcont]
    split
    · simp only [Option.map_some, Option.some.injEq]
      rw [minOf_ren hg, stepWith_ren mc g rσ hg heq s _ hfresh]
    · simp

theorem step_nextId_ge {mc : Machine σ} {endT : Option Nat} {s s' : St σ} (h : step mc endT s = some s') :
    s.nextId ≤ s'.nextId := by
  obtain ⟨m, _, _, _, rfl⟩ := step_eq_some h
  exact stepWith_nextId_ge mc s m

theorem run_ren (mc : Machine σ) (g : Nat → Nat) (rσ : σ → σ) (hg : StrictMonoOn g)
    (heq : Equivariant mc g rσ) (endT : Option Nat) (n : Nat) (s : St σ) (hfresh : ShiftFrom g s.nextId) :
    run mc endT n (renSt g rσ (g s.nextId) s) = renSt g rσ (g (run mc endT n s).nextId) (run mc endT n s) := by
  induction n generalizing s with
  | zero => rfl
  | succ n ih =>
    have hr := step_ren mc g rσ hg heq endT s hfresh
    cases hs : step mc endT s with
    | none => rw [halted_run _ _ _ _ hs, halted_run _ _ _ _ (hr.trans (congrArg _ hs))]
    | some s' => rw [run_succ hs, run_succ (hr.trans (congrArg _ hs))]; exact ih s' (hfresh.le (step_nextId_ge hs))

/-- **index shift**: nothing observable depends on how far the creation counter had advanced -/
theorem run_index_shift (mc : Machine σ) (g : Nat → Nat) (rσ : σ → σ) (hg : StrictMonoOn g)
    (heq : Equivariant mc g rσ) (endT : Option Nat) (n : Nat) (s : St σ) (N' : Nat)
    (hfresh : ∀ j, g (s.nextId + j) = N' + j) :
    (run mc endT n (renSt g rσ N' s)).log = (run mc endT n s).log.map (renEv g) ∧
    (run mc endT n (renSt g rσ N' s)).now = (run mc endT n s).now ∧
    (run mc endT n (renSt g rσ N' s)).processed = (run mc endT n s).processed ∧
    (run mc endT n (renSt g rσ N' s)).nCancelled = (run mc endT n s).nCancelled ∧
    (run mc endT n (renSt g rσ N' s)).nStale = (run mc endT n s).nStale ∧
    (run mc endT n (renSt g rσ N' s)).ent = rσ (run mc endT n s).ent := by
  obtain rfl : g s.nextId = N' := hfresh 0
  rw [run_ren mc g rσ hg heq endT n s hfresh]
  simp [renSt]

def extend (f : Nat → Nat) (n N' : Nat) (i : Nat) : Nat := if i < n then f i else N' + (i - n)

theorem extend_mono (f : Nat → Nat) (n N' : Nat) (hf : ∀ a b, a < b → b < n → f a < f b)
    (hN : ∀ a, a < n → f a < N') : StrictMonoOn (extend f n N') := by
  intro a b hab
  unfold extend
  split
  · split
    · exact hf a b hab ‹_›
    · have := hN a ‹_›
      omega
  · split <;> omega

theorem extend_fresh (f : Nat → Nat) (n N' j : Nat) : extend f n N' (n + j) = N' + j := by
  rw [extend, if_neg (Nat.not_lt.mpr (Nat.le_add_right n j)), Nat.add_sub_cancel_left]

/-- the statement in the property's words: renumber the creation indices of the pending events by any
    strictly monotone map and start the counter anywhere above them — the delivery log is the same up
    to that renumbering -/
theorem index_shift_extend (mc : Machine σ) (rσ : σ → σ) (s : St σ) (f : Nat → Nat) (N' : Nat)
    (hf : ∀ a b, a < b → b < s.nextId → f a < f b) (hN : ∀ a, a < s.nextId → f a < N')
    (heq : Equivariant mc (extend f s.nextId N') rσ) (endT : Option Nat) (n : Nat) :
    (run mc endT n (renSt (extend f s.nextId N') rσ N' s)).log =
      (run mc endT n s).log.map (renEv (extend f s.nextId N')) :=
  (run_index_shift mc _ rσ (extend_mono f s.nextId N' hf hN) heq endT n s N'
    (extend_fresh f s.nextId N')).1

theorem run_shift_const (mc : Machine σ) (k : Nat) (rσ : σ → σ) (heq : Equivariant mc (· + k) rσ)
    (endT : Option Nat) (n : Nat) (s : St σ) :
    (run mc endT n (renSt (· + k) rσ (s.nextId + k) s)).log = (run mc endT n s).log.map (renEv (· + k)) ∧
    (run mc endT n (renSt (· + k) rσ (s.nextId + k) s)).now = (run mc endT n s).now ∧
    (run mc endT n (renSt (· + k) rσ (s.nextId + k) s)).processed = (run mc endT n s).processed ∧
    (run mc endT n (renSt (· + k) rσ (s.nextId + k) s)).nCancelled = (run mc endT n s).nCancelled ∧
    (run mc endT n (renSt (· + k) rσ (s.nextId + k) s)).nStale = (run mc endT n s).nStale ∧
    (run mc endT n (renSt (· + k) rσ (s.nextId + k) s)).ent = rσ (run mc endT n s).ent :=
  run_index_shift mc (· + k) rσ (fun _ _ hab => Nat.add_lt_add_right hab k) heq endT n s (s.nextId + k)
    fun j => Nat.add_right_comm s.nextId j k

theorem run_id_shift_const (mc : Machine σ) (k : Nat) (rσ : σ → σ) (heq : Equivariant mc (· + k) rσ)
    (endT : Option Nat) (n : Nat) (s : St σ) :
    (run mc endT n (renSt (· + k) rσ (s.nextId + k) s)).log = (run mc endT n s).log.map (renEv (· + k)) :=
  (run_shift_const mc k rσ heq endT n s).1

/-- a handler that never looks at creation indices: same output whatever the id, cancels nothing -/
structure IdOblivious (mc : Machine σ) : Prop where
  handle : ∀ ent now e i, mc.handle ent now { e with id := i } = mc.handle ent now e
  nocancel : ∀ ent now e, (mc.handle ent now e).cancels = []
  crashed : ∀ ent e i, mc.crashed ent { e with id := i } = mc.crashed ent e

theorem IdOblivious.equivariant {mc : Machine σ} (h : IdOblivious mc) (g : Nat → Nat) :
    Equivariant mc g id := by
  refine ⟨?_, ?_⟩
  · intro ent now e
    have h1 := h.handle ent now e (g e.id)
    have h2 := h.nocancel ent now e
    simp only [id, renEv, h1, h2, List.map_nil]
    cases hh : mc.handle ent now e
    simp [hh] at h2
    simp [h2]
  · intro ent e
    exact h.crashed ent e (g e.id)

/-- what a user observes of a delivery: (time, target, event type, payload, tag) — not the index -/
def obs (e : Ev) : Nat × Nat × Nat × Nat × Nat := (e.time, e.target, e.kind, e.data, e.tag)

theorem obs_ren (g : Nat → Nat) (e : Ev) : obs (renEv g e) = obs e := rfl

/-- for handlers that do not read ids, the observable delivery sequence is *equal*, wherever the
    creation counter stood when the model was built -/
theorem observable_log_counter_independent (mc : Machine σ) (ho : IdOblivious mc) (s : St σ)
    (f : Nat → Nat) (N' : Nat) (hf : ∀ a b, a < b → b < s.nextId → f a < f b)
    (hN : ∀ a, a < s.nextId → f a < N') (endT : Option Nat) (n : Nat) :
    (run mc endT n (renSt (extend f s.nextId N') id N' s)).log.map obs = (run mc endT n s).log.map obs := by
  rw [index_shift_extend mc id s f N' hf hN (ho.equivariant _) endT n]
  simp [List.map_map, Function.comp_def, obs_ren]

end HappyModel.C03
