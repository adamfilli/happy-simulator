import HappyProofs.C17.MLTGhost
import HappyProofs.C17.MLProg
namespace HappyModel.C17.MLT
open HappyModel.C17.ML (Version Msg Proc MKind PKind vcGet dominates vcMerge vcTick Coherent vlt)
open HappyModel.C17.MLM (Join GK KComplete)
open HappyModel.C17.LN (Res AeShape StepShape)

def St.view (s : St) : ML.St :=
  { n := s.n, nk := s.nk, now := s.now, store := s.store, vers := s.vers, order := s.order, clock := s.clock,
    np := s.np, procs := s.procs, nm := s.nm, msgs := s.msgs, replies := s.replies, err := s.err }

def St.res (s : St) : Res := ⟨takesR s, pickR s, peersOf s, fun node peer => (peersOf s node).contains peer⟩

theorem dominates_irrefl (n : Nat) (a : List Nat) : dominates n a a = false := ML.dominates_irrefl n a

theorem disjoint_concurrent (n : Nat) (a b : List Nat) (ha : ∃ c, c < n ∧ 0 < vcGet a c ∧ vcGet b c = 0)
    (hb : ∃ c, c < n ∧ 0 < vcGet b c ∧ vcGet a c = 0) : dominates n a b = false ∧ dominates n b a = false := by
  constructor
  · cases h : dominates n a b with
    | false => rfl
    | true =>
      obtain ⟨c, hc, h1, h2⟩ := hb
      have := ML.dominates_le h c hc
      omega
  · cases h : dominates n b a with
    | false => rfl
    | true =>
      obtain ⟨c, hc, h1, h2⟩ := ha
      have := ML.dominates_le h c hc
      omega

/-- concurrent versions are decided by the resolver: the last-writer-wins comparison resp. the join -/
theorem concurrent_decided_by_resolver (s : St) (e inc : Version)
    (h1 : dominates s.n inc.vc e.vc = false) (h2 : dominates s.n e.vc inc.vc = false) :
    (s.lww = true → takesR s (some e) inc = ML.lwwLt e inc) ∧
    (s.lww = false → takesR s (some e) inc = true ∧ pickR s (some e) inc = MLM.joinVer s.n s.join e inc) := by
  constructor
  · intro hl
    simp [takesR, hl, ML.takes, h1, h2]
  · intro hl
    simp [takesR, pickR, hl, MLM.takes, MLM.pick, h1, h2]

theorem pickR_lww {s : St} (hl : s.lww = true) (e : Option Version) (inc : Version) : pickR s e inc = inc := by
  unfold pickR; rw [if_pos hl]

theorem takesR_lww {s : St} (hl : s.lww = true) (e : Option Version) (inc : Version) :
    takesR s e inc = ML.takes s.n e inc := by
  unfold takesR; rw [if_pos hl]

theorem inst_vers_lww (s : St) (hl : s.lww = true) (i k : Nat) (v : Version) (i' k' : Nat) :
    (s.res.inst s.view i k v).vers i' k' =
      if (i' = i ∧ k' = k) ∧ ML.takes s.n (s.vers i k) v = true then some v else s.vers i' k' := by
  rw [LN.Res.inst_vers]
  show (if _ then (if takesR s (s.vers i k) v = true then some (pickR s (s.vers i k) v) else s.vers i k) else _) = _
  rw [takesR_lww hl, pickR_lww hl]
  by_cases e : i' = i ∧ k' = k
  · by_cases ht : ML.takes s.n (s.vers i k) v = true
    · rw [if_pos e, if_pos ht, if_pos ⟨e, ht⟩]
    · rw [if_pos e, if_neg ht, if_neg (fun c => ht c.2), e.1, e.2]
  · rw [if_neg e, if_neg (fun c => e c.1)]; rfl

def sig : LN.Sig St where
  view := St.view
  spawn := St.spawn
  setProc := St.setProc
  send := St.send
  reply := St.reply
  fail := St.fail
  setNow s t := { s with now := t }
  setClock s c := { s with clock := c }
  setMsgs s m := { s with msgs := m }
  setVer s i k w := { s with store := upd2 s.store i k (some w.val), vers := upd2 s.vers i k (some w),
                             order := if (s.order i).contains k then s.order else upd s.order i (s.order i ++ [k]) }
  res := St.res
  aeLoop := aeLoop
  noLink s node peer := !(peersOf s node).contains peer
  noLinkDec _ _ _ := inferInstance
  answers s s1 p := p.kind = .aereq ∧ !(sameMap s.nk p.hash (s1.store p.node)) ∧ (peersOf s p.node).contains p.src
  answersDec _ _ _ := inferInstance

theorem step_prog (s : St) (a : Act) : step s a = LN.step sig s a := by cases a <;> rfl

theorem sig_laws : sig.Laws :=
  ⟨fun _ _ => rfl, fun _ _ _ => rfl, fun _ _ => rfl, fun _ _ _ => rfl, fun _ _ => rfl, fun _ _ => rfl, fun _ _ => rfl,
   fun _ _ => rfl, fun _ _ _ _ => rfl, fun _ _ _ _ => rfl, fun _ _ => rfl, fun _ _ => rfl, fun _ _ => rfl, fun _ _ _ _ _ => rfl,
   fun s node peer => by
     show ¬ (!(peersOf s node).contains peer) = true ↔ (peersOf s node).contains peer = true
     cases (peersOf s node).contains peer <;> decide,
   fun _ _ _ h => h.1⟩

theorem step_shape' (s : St) (a : Act) : StepShape s.res s.view a (step s a).view ∧ (step s a).lww = s.lww := by
  obtain ⟨sh, q⟩ := LN.step_does (Q := fun s' => s'.lww = s.lww) sig_laws
    ⟨id, id, id, id, id, id, id, id, id⟩ s a
  rw [step_prog]
  exact ⟨sh, q rfl⟩

theorem step_shape (s : St) (a : Act) : StepShape s.res s.view a (step s a).view := (step_shape' s a).1
theorem step_lww (s : St) (a : Act) : (step s a).lww = s.lww := (step_shape' s a).2
theorem step_n (s : St) (a : Act) : (step s a).n = s.n := (step_shape s a).n

theorem run_n (s : St) : ∀ acts, (run s acts).n = s.n
  | [] => rfl
  | a :: as => by rw [run, run_n (step s a) as, step_n]

theorem run_lww (s : St) : ∀ acts, (run s acts).lww = s.lww
  | [] => rfl
  | a :: as => by rw [run, run_lww (step s a) as, step_lww]

theorem isWR_view (s : St) (a : Act) : isWR s a = LN.isWR s.view a := by
  cases a <;> rfl

end HappyModel.C17.MLT
