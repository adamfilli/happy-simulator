import HappyModel.C08.Indus
/-!
# C08 part 3 — soundness of the judge: what an accepted transcript guarantees, for all transcripts
-/
namespace HappyModel.C08.Indus

/-- in-service population after a prefix of the transcript: starts without a matching end -/
def svcFold (c : Comp) : Svc → List Obs → Svc
  | s, [] => s
  | s, o :: r => svcFold c (svcStep c s o) r

/-- ids delivered at the sink along a transcript -/
def doneFold : List Nat → List Obs → List Nat
  | d, [] => d
  | d, o :: r => doneFold (doneStep d o) r

theorem ite_error_ok {ε α : Type} {c : Prop} [Decidable c] {e : ε} {x : Except ε α} {y : α} :
    (if c then .error e else x) = .ok y ↔ ¬ c ∧ x = .ok y := by
  split <;> simp [*]

theorem ite_some_none {α : Type} {c : Prop} [Decidable c] {v : α} {x : Option α} :
    (if c then some v else x) = none ↔ ¬ c ∧ x = none := by
  split <;> simp [*]

theorem ite_eq_cases {α : Type} {c : Prop} [Decidable c] {a b r : α} (h : (if c then a else b) = r) :
    c ∧ a = r ∨ ¬ c ∧ b = r := by
  split at h
  · exact .inl ⟨‹_›, h⟩
  · exact .inr ⟨‹_›, h⟩

theorem judgeObs_ok {cfg : Cfg} {j j' : Book} {o : Obs} (h : judgeObs cfg j o = .ok j') :
    strandGate cfg j o = none ∧ ∃ j1, judgeAct cfg j o = .ok j1 ∧
      j' = { j1 with svc := svcStep cfg.comp j.svc o, done := doneStep j.done o, lastT := o.t, started := true } ∧
      overLimit cfg (svcStep cfg.comp j.svc o).ids.length = false ∧ judgeCounters cfg j' o = none := by
  simp only [judgeObs, ite_error_ok] at h
  obtain ⟨-, -, -, h⟩ := h
  split at h
  · cases h
  split at h
  · cases h
  rename_i hg _ j1 hact
  simp only [finishObs, ite_error_ok, Bool.not_eq_true] at h
  obtain ⟨hl, h⟩ := h
  split at h <;> cases h
  exact ⟨hg, j1, hact, rfl, hl, ‹_›⟩

theorem judgeObs_strand {cfg : Cfg} {j j' : Book} {o : Obs} (h : judgeObs cfg j o = .ok j')
    (hs : j.started = true) (hl : j.lastT < o.t) : strandCheck cfg j (some o.t) = none := by
  simpa only [strandGate, hs, hl, decide_true, Bool.and_self, if_true] using (judgeObs_ok h).1

theorem judgeObs_done {cfg : Cfg} {j j' : Book} {o : Obs} (h : judgeObs cfg j o = .ok j') :
    j'.done = doneStep j.done o := by
  obtain ⟨-, j1, -, rfl, -, -⟩ := judgeObs_ok h
  rfl

theorem judgeRun_nil {cfg : Cfg} {j : Book} {i : Nat} (h : judgeRun cfg j i [] = none) :
    endCheck cfg j = none := by
  simpa [judgeRun] using h

theorem judgeRun_cons {cfg : Cfg} {j : Book} {i : Nat} {o : Obs} {rest : List Obs}
    (h : judgeRun cfg j i (o :: rest) = none) :
    ∃ j', judgeObs cfg j o = .ok j' ∧ judgeRun cfg j' (i + 1) rest = none := by
  unfold judgeRun at h
  split at h
  · cases h
  · exact ⟨_, ‹_›, h⟩

/-- **Soundness (concurrency clause).** If the judge accepts a transcript, then after every prefix
of it the number of items in service (started, not ended) is within the configured limit. -/
theorem judge_sound_in_service (cfg : Cfg) :
    ∀ (obs : List Obs) (j : Book) (i : Nat), overLimit cfg j.svc.ids.length = false →
      judgeRun cfg j i obs = none →
      ∀ k, overLimit cfg (svcFold cfg.comp j.svc (obs.take k)).ids.length = false := by
  intro obs
  induction obs with
  | nil => intro j i h0 _ k; simpa [svcFold] using h0
  | cons o rest ih =>
    intro j i h0 h k
    cases k with
    | zero => exact h0
    | succ k =>
      obtain ⟨j', hj, h⟩ := judgeRun_cons h
      obtain ⟨_, j1, _, rfl, hl, _⟩ := judgeObs_ok hj
      exact ih _ (i + 1) hl h k

example : judgeRun { comp := .conveyor, limit := 1 } {} 0
    [⟨0, .offer 7 none, .start, [1, 0, 0], false⟩, ⟨5, .fin 7, .dash, [0, 1, 0], false⟩,
     ⟨5, .done 7, .dash, [0, 1, 0], false⟩] = none := by decide +kernel

/-- the judge does reject an over-admission (the theorem is not vacuous) -/
example : judgeRun { comp := .conveyor, limit := 1 } {} 0
    [⟨0, .offer 7 none, .start, [1, 0, 0], false⟩, ⟨0, .offer 8 none, .start, [2, 0, 0], false⟩]
    = some "indus/conveyor/in-service-exceeds-limit at-line 1" := by decide +kernel

/-- following one id through an accepted run whose books keep `I`: from the observation that admits it (`A`) it
stays in the populations `W` of the book, and the end check leaves it in the fold `G` over the observations -/
theorem judgeRun_tracks {cfg : Cfg} {I W : Book → Prop} {A : Obs → Prop} {G : Book → List Obs → Prop}
    (hend : ∀ j, endCheck cfg j = none → I j → W j → G j [])
    (hstep : ∀ j j' o rest, judgeObs cfg j o = .ok j' → I j →
      I j' ∧ (W j → W j') ∧ (A o → W j') ∧ (G j' rest → G j (o :: rest))) :
    ∀ (obs : List Obs) (j : Book) (i : Nat), judgeRun cfg j i obs = none → I j →
      (W j → G j obs) ∧ (∀ o ∈ obs, A o → G j obs) := by
  intro obs
  induction obs with
  | nil => intro j i h hi; exact ⟨hend j (judgeRun_nil h) hi, fun o ho => nomatch ho⟩
  | cons o rest ih =>
    intro j i h hi
    obtain ⟨j', hj, h⟩ := judgeRun_cons h
    obtain ⟨hi', hk, hn, hg⟩ := hstep j j' o rest hj hi
    obtain ⟨g1, g2⟩ := ih j' (i + 1) h hi'
    refine ⟨fun hw => hg (g1 (hk hw)), fun o' ho' ha => ?_⟩
    rcases List.mem_cons.mp ho' with rfl | ho'
    · exact hg (g1 (hn ha))
    · exact hg (g2 o' ho' ha)

theorem judgeDone_ok {c : Comp} {j j1 : Book} {id : Nat} (h : judgeDone c j id = .ok j1) :
    j.done.contains id = false ∧ j1 = { j with finished := j.finished.erase id } := by
  simp only [judgeDone, ite_error_ok, Except.ok.injEq, Bool.not_eq_true] at h
  exact ⟨h.1, h.2.2.2.2.2.2.symm⟩

theorem judgeAct_done {cfg : Cfg} {j j1 : Book} {o : Obs} {id : Nat} (ha : o.act = .done id)
    (h : judgeAct cfg j o = .ok j1) : j.done.contains id = false := by
  cases hc : cfg.comp <;>
    simp only [judgeAct, hc, judgePooled, judgeConveyor, judgeGate, judgeBatch, judgeReneging, ha, ite_error_ok] at h
  case reneging => exact (judgeDone_ok h.2).1
  all_goals exact (judgeDone_ok h).1

/-- **Soundness (completed exactly once).** If the judge accepts a transcript, no id is seen twice
at the downstream sink. -/
theorem judge_sound_done_once (cfg : Cfg) :
    ∀ (obs : List Obs) (j : Book) (i : Nat), j.done.Nodup →
      judgeRun cfg j i obs = none → (doneFold j.done obs).Nodup := by
  intro obs
  induction obs with
  | nil => intro j i h0 _; exact h0
  | cons o rest ih =>
    intro j i h0 h
    obtain ⟨j', hj, h⟩ := judgeRun_cons h
    obtain ⟨_, j1, hact, rfl, _, _⟩ := judgeObs_ok hj
    refine ih _ (i + 1) ?_ h
    show (doneStep j.done o).Nodup
    unfold doneStep
    split
    · rename_i id ha
      exact List.nodup_cons.mpr ⟨by simpa using judgeAct_done ha hact, h0⟩
    · exact h0

example : doneFold [] [⟨0, .offer 7 none, .start, [1, 0, 0], false⟩, ⟨5, .fin 7, .dash, [0, 1, 0], false⟩,
     ⟨5, .done 7, .dash, [0, 1, 0], false⟩] = [7] := by decide

/-- a second delivery of the same id is rejected -/
example : judgeRun { comp := .conveyor, limit := 1 } {} 0
    [⟨0, .offer 7 none, .start, [1, 0, 0], false⟩, ⟨5, .fin 7, .dash, [0, 1, 0], false⟩,
     ⟨5, .done 7, .dash, [0, 1, 0], false⟩, ⟨5, .done 7, .dash, [0, 1, 0], false⟩]
    = some "indus/conveyor/completed-twice at-line 3" := by decide +kernel


def isWork : Act → Bool
  | .work _ => true
  | _ => false

/-- deliveries of a dequeued item to the worker along a transcript -/
def workCount (obs : List Obs) : Nat := (obs.filter (fun o => isWork o.act)).length

theorem workCount_cons (o : Obs) (obs : List Obs) :
    workCount (o :: obs) = (if isWork o.act then 1 else 0) + workCount obs := by
  unfold workCount
  rw [List.filter_cons]
  split <;> simp [Nat.add_comm]

/-- what an accepted observation does to the book of the reneging judge -/
inductive RenOk (cfg : Cfg) (j : Book) (o : Obs) : Book → Prop
  | acc (id : Nat) (pat : Option Nat) : o.act = .offer id pat → o.res = .acc →
      RenOk cfg j o { j with offered := id :: j.offered, waiting := j.waiting ++ [⟨id, o.t, pat⟩],
                             accepted := j.accepted + 1 }
  | rej (id : Nat) (pat : Option Nat) : o.act = .offer id pat → o.res = .rej →
      RenOk cfg j o { j with offered := id :: j.offered, refused := id :: j.refused }
  | idle : o.act = .deq → o.res = .none_ → RenOk cfg j o j
  | deq (w : WItem) (rest : List WItem) : o.act = .deq → o.res = .got w.id → j.waiting = w :: rest →
      RenOk cfg j o { j with waiting := rest, transit := j.transit ++ [w] }
  | serve (id : Nat) : o.act = .work id → o.res = .start →
      RenOk cfg j o { j with transit := j.transit.filter (·.id != id), served := j.served + 1 }
  | renege (id : Nat) : o.act = .work id → o.res = .renege → cfg.rtarget = true →
      RenOk cfg j o { j with transit := j.transit.filter (·.id != id), rpending := j.rpending ++ [id],
                             reneged := j.reneged + 1 }
  | discard (id : Nat) : o.act = .work id → o.res = .renege → cfg.rtarget = false →
      RenOk cfg j o { j with transit := j.transit.filter (·.id != id), rdone := id :: j.rdone,
                             reneged := j.reneged + 1 }
  | fin (id : Nat) : o.act = .fin id →
      RenOk cfg j o { j with finished := j.finished ++ [id], completed := j.completed + 1 }
  | done (id : Nat) : o.act = .done id → RenOk cfg j o { j with finished := j.finished.erase id }
  | rdone (id : Nat) : o.act = .rdone id →
      RenOk cfg j o { j with rpending := j.rpending.erase id, rdone := id :: j.rdone }

theorem judgeReneging_ok {cfg : Cfg} {j j1 : Book} {o : Obs} (h : judgeReneging cfg j o = .ok j1) :
    RenOk cfg j o j1 := by
  unfold judgeReneging at h
  split at h
  · rename_i id pat ha
    replace h := (ite_error_ok.1 h).2
    split at h
    · cases (ite_error_ok.1 h).2
      exact .acc id pat ha ‹_›
    · cases (ite_error_ok.1 h).2
      exact .rej id pat ha ‹_›
    · cases h
  · rename_i ha
    split at h
    · cases (ite_error_ok.1 h).2
      exact .idle ha ‹_›
    · rename_i id hr
      split at h
      · cases h
      · rename_i w rest hw
        split at h
        · rename_i hid
          cases h
          cases (beq_iff_eq.1 hid)
          exact .deq w rest ha hr hw
        · split at h <;> cases h
    · cases h
  · rename_i id ha
    split at h
    · cases h
    · replace h := (ite_error_ok.1 h).2
      split at h
      · cases (ite_error_ok.1 h).2
        exact .serve id ha ‹_›
      · replace h := (ite_error_ok.1 h).2
        split at h <;> cases h
        · exact .renege id ha ‹_› ‹_›
        · exact .discard id ha ‹_› (Bool.not_eq_true _ ▸ ‹¬ cfg.rtarget = true›)
      · cases h
  · cases (ite_error_ok.1 h).2
    exact .fin _ ‹_›
  · rw [(judgeDone_ok (ite_error_ok.1 h).2).2]
    exact .done _ ‹_›
  · simp only [ite_error_ok, Except.ok.injEq] at h
    cases h.2.2.2
    exact .rdone _ ‹_›
  · cases h

theorem judgeReneging_sum {cfg : Cfg} {j j1 : Book} {o : Obs} (h : judgeReneging cfg j o = .ok j1) :
    j1.served + j1.reneged = j.served + j.reneged + (if isWork o.act then 1 else 0) := by
  cases judgeReneging_ok h
  all_goals simp only [*, isWork, if_true, if_false, Bool.false_eq_true]
  all_goals omega

/-- an accepted counter line is the expected one.  `mismatch` zips with the names first, so a name list
shorter than the counters would hide the trailing ones: hence `hn` -/
theorem mismatch_none {c : Comp} {names : List String} {exp obs : List Nat}
    (h : mismatch c names exp obs = none) (hn : exp.length ≤ names.length) : obs = exp := by
  simp only [mismatch, ite_some_none, bne_iff_ne, ne_eq, Decidable.not_not] at h
  obtain ⟨hl, h⟩ := h
  split at h
  · cases h
  rename_i hf
  clear h
  induction exp generalizing names obs with
  | nil => exact List.eq_nil_of_length_eq_zero hl.symm
  | cons e exp ih =>
    cases obs with
    | nil => cases hl
    | cons g obs =>
      cases names with
      | nil => cases hn
      | cons n names =>
        simp only [List.zip_cons_cons, List.find?_cons] at hf
        split at hf
        · cases hf
        · rename_i he
          have : e = g := by simpa using he
          rw [this, ih (Nat.le_of_succ_le_succ hn) (Nat.succ.inj hl) hf]

theorem renegingCounters_ok {cfg : Cfg} {j : Book} {o : Obs} (hc : cfg.comp = .reneging)
    (h : judgeCounters cfg j o = none) :
    o.ctr = [j.waiting.length, j.accepted, j.refused.length, j.served, j.reneged, j.svc.ids.length] := by
  unfold judgeCounters at h
  simp only [hc] at h
  split at h
  · cases h
  · rename_i hm
    exact mismatch_none hm (Nat.le_refl 6)

/-- **Soundness (a dequeued item is counted exactly once).** If the judge accepts a transcript of the
reneging component, then at every line the reported `served + reneged` equals the number of deliveries of a
dequeued item to the worker so far: no item is counted as reneged *and* served, none is dropped uncounted. -/
theorem judge_sound_served_xor_reneged (cfg : Cfg) (hc : cfg.comp = .reneging) :
    ∀ (obs : List Obs) (j : Book) (i : Nat), judgeRun cfg j i obs = none →
      ∀ (k : Nat) (o : Obs), obs[k]? = some o →
        o.ctr.getD 3 0 + o.ctr.getD 4 0 = j.served + j.reneged + workCount (obs.take (k + 1)) := by
  intro obs
  induction obs with
  | nil => intro j i _ k o hk; simp at hk
  | cons o1 rest ih =>
    intro j i h k o hk
    obtain ⟨j', hj, h⟩ := judgeRun_cons h
    obtain ⟨_, j1, hact, rfl, _, hcn⟩ := judgeObs_ok hj
    unfold judgeAct at hact
    simp only [hc] at hact
    have hsum := judgeReneging_sum hact
    cases k with
    | zero =>
      cases hk
      rw [renegingCounters_ok hc hcn]
      simp only [List.take, workCount_cons]
      exact hsum
    | succ k =>
      have := ih _ (i + 1) h k o hk
      simp only [List.take, workCount_cons] at this ⊢
      omega

/-- non-vacuity: an accepted reneging transcript (item 1 reneges without a target) … -/
example : judgeRun { comp := .reneging, limit := 1, rtarget := false } {} 0
    [⟨0, .offer 0 (some 1000), .acc, [1, 1, 0, 0, 0, 0], false⟩, ⟨0, .offer 1 (some 1000), .acc, [2, 2, 0, 0, 0, 0], false⟩,
     ⟨0, .deq, .got 0, [1, 2, 0, 0, 0, 0], false⟩, ⟨0, .work 0, .start, [1, 2, 0, 1, 0, 1], false⟩,
     ⟨4000, .fin 0, .dash, [1, 2, 0, 1, 0, 0], false⟩, ⟨4000, .deq, .got 1, [0, 2, 0, 1, 0, 0], false⟩,
     ⟨4000, .work 1, .renege, [0, 2, 0, 1, 1, 0], false⟩, ⟨4000, .done 0, .dash, [0, 2, 0, 1, 1, 0], false⟩] = none := by decide +kernel

/-- … and the same run with the expired item counted as reneged *and* started is rejected -/
example : judgeRun { comp := .reneging, limit := 1, rtarget := false } {} 0
    [⟨0, .offer 0 (some 1000), .acc, [1, 1, 0, 0, 0, 0], false⟩, ⟨0, .offer 1 (some 1000), .acc, [2, 2, 0, 0, 0, 0], false⟩,
     ⟨0, .deq, .got 0, [1, 2, 0, 0, 0, 0], false⟩, ⟨0, .work 0, .start, [1, 2, 0, 1, 0, 1], false⟩,
     ⟨4000, .fin 0, .dash, [1, 2, 0, 1, 0, 0], false⟩, ⟨4000, .deq, .got 1, [0, 2, 0, 1, 0, 0], false⟩,
     ⟨4000, .work 1, .start, [0, 2, 0, 2, 1, 1], false⟩]
    = some "indus/reneging/item-in-two-states at-line 6" := by decide +kernel


theorem strandCheck_pr {cfg : Cfg} {j : Book} {nx : Option Nat}
    (hc : cfg.comp = .pooled ∨ cfg.comp = .reneging) (h : strandCheck cfg j nx = none) :
    j.transit = [] ∧ j.finished = [] ∧ j.rpending = [] ∧
      ¬ (j.waiting ≠ [] ∧ j.svc.ids.length < cfg.limit) := by
  simp only [strandCheck, ite_some_none] at h
  rcases hc with hc | hc <;> simpa [hc, and_assoc] using h

/-- **Soundness (no strand, pooled / reneging).** If the judge accepts an observation that advances the
clock, then in the instant that is over no item waited while a unit was free, no dequeued item was left
between queue and worker, and no finished / reneged item was left undelivered. -/
theorem judge_sound_no_strand_pooled_reneging {cfg : Cfg} {j j' : Book} {o : Obs}
    (hc : cfg.comp = .pooled ∨ cfg.comp = .reneging) (h : judgeObs cfg j o = .ok j')
    (hs : j.started = true) (hl : j.lastT < o.t) :
    ¬ (j.waiting ≠ [] ∧ j.svc.ids.length < cfg.limit) ∧ j.transit = [] ∧ j.finished = [] ∧
      j.rpending = [] := by
  obtain ⟨h1, h2, h3, h4⟩ := strandCheck_pr hc (judgeObs_strand h hs hl)
  exact ⟨h4, h1, h2, h3⟩

/-- accepted: item 1 waits while the only unit is busy, and is started when the unit is freed -/
example : judgeRun { comp := .pooled, limit := 1 } {} 0
    [⟨0, .offer 0 none, .start, [0, 1, 0, 0, 0], false⟩, ⟨0, .offer 1 none, .wait, [0, 1, 1, 0, 0], false⟩,
     ⟨5, .fin 0, .dash, [1, 0, 0, 1, 0], false⟩, ⟨5, .offer 1 none, .start, [0, 1, 0, 1, 0], false⟩,
     ⟨5, .done 0, .dash, [0, 1, 0, 1, 0], false⟩, ⟨9, .fin 1, .dash, [1, 0, 0, 2, 0], false⟩,
     ⟨9, .done 1, .dash, [1, 0, 0, 2, 0], false⟩] = none := by decide +kernel

/-- rejected: the clock moves on while item 0 waits in the reneging queue and the worker is free -/
example : judgeRun { comp := .reneging, limit := 1 } {} 0
    [⟨0, .offer 0 none, .acc, [1, 1, 0, 0, 0, 0], false⟩, ⟨3, .deq, .got 0, [0, 1, 0, 0, 0, 0], false⟩]
    = some "indus/reneging/strand/waiting-with-free-capacity at-line 1" := by decide +kernel

theorem endCheck_pr {cfg : Cfg} {j : Book} (hc : cfg.comp = .pooled ∨ cfg.comp = .reneging)
    (h : endCheck cfg j = none) :
    j.transit = [] ∧ j.finished = [] ∧ j.rpending = [] ∧ j.svc.ids = [] ∧ j.waiting = [] := by
  unfold endCheck at h
  split at h
  · cases h
  have hs := strandCheck_pr hc ‹_›
  simp only [ite_some_none] at h
  rcases hc with hc | hc <;> simp_all

theorem mem_filter_ne {l : List WItem} {x id : Nat} (h : x ∈ l.map (·.id)) (hne : x ≠ id) :
    x ∈ (l.filter (·.id != id)).map (·.id) := by
  simp only [List.mem_map, List.mem_filter] at h ⊢
  obtain ⟨w, hw, he⟩ := h
  exact ⟨w, ⟨hw, by simp [he, hne]⟩, he⟩

/-- **Soundness (gate, strand against the schedule).** If the judge accepts an observation that lets the clock
advance from `lastT` to `o.t` while items wait behind the gate and no programmatic open()/close() has happened,
then no non-empty window of the schedule meets the stretch `[lastT, o.t)`: an accepted transcript never lets
time pass over waiting items while the schedule says open. -/
theorem judge_sound_gate_window_strand (cfg : Cfg) (hc : cfg.comp = .gate) (j j' : Book) (o : Obs)
    (h : judgeObs cfg j o = .ok j') (hs : j.started = true) (ht : j.lastT < o.t)
    (hw : j.waiting ≠ []) (hctl : j.ctlSeen = false) :
    windowMeets cfg.windows j.lastT (some o.t) = false := by
  have hg := judgeObs_strand h hs ht
  simp only [strandCheck, hc, ite_some_none] at hg
  have hwe : j.waiting.isEmpty = false := by simpa using hw
  simpa [hwe, hctl] using hg.2.2.2.1

/-- the clause is not vacuous: the judge rejects an item left waiting across a window -/
example : judgeRun { comp := .gate, initOpen := false, windows := [(4, 6), (2, 4)] } { isOpen := false } 0
    [⟨2, .openG, .dash, [1, 0, 0, 0, 0, 1], false⟩, ⟨4, .openG, .dash, [1, 0, 0, 0, 0, 1], false⟩,
     ⟨4, .closeG, .dash, [0, 0, 0, 0, 0, 1], false⟩, ⟨5, .offer 0 none, .wait, [0, 1, 0, 1, 0, 1], false⟩,
     ⟨6, .closeG, .dash, [0, 1, 0, 1, 0, 1], false⟩]
    = some "indus/gate/strand/closed-inside-open-window at-line 4" := by decide +kernel

/-- … and accepts the repaired behaviour on the same schedule -/
example : judgeRun { comp := .gate, initOpen := false, windows := [(4, 6), (2, 4)] } { isOpen := false } 0
    [⟨2, .openG, .dash, [1, 0, 0, 0, 0, 1], false⟩, ⟨4, .openG, .dash, [1, 0, 0, 0, 0, 1], false⟩,
     ⟨4, .closeG, .dash, [1, 0, 0, 0, 0, 1], false⟩, ⟨5, .offer 0 none, .pass, [1, 0, 1, 0, 0, 1], false⟩,
     ⟨5, .done 0, .dash, [1, 0, 1, 0, 0, 1], false⟩, ⟨6, .closeG, .dash, [0, 0, 1, 0, 0, 1], false⟩] = none := by decide +kernel


/-- **Soundness (conveyor, exactly one state).** If the judge accepts an observation of a conveyor whose
counters are `items_in_transit, items_transported, items_rejected`, these add up to the number of items
offered so far: no item is counted in two populations (transported *and* still in transit) or in none. -/
theorem judge_sound_conveyor_conservation (cfg : Cfg) (hc : cfg.comp = .conveyor) (j j' : Book) (o : Obs)
    (h : judgeObs cfg j o = .ok j') (it tr rj : Nat) (hctr : o.ctr = [it, tr, rj]) :
    it + tr + rj = j'.offered.length := by
  obtain ⟨_, j1, _, rfl, _, hn⟩ := judgeObs_ok h
  simp only [judgeCounters, hc, hctr, ite_some_none] at hn
  simpa using hn.1

/-- the clause is not vacuous: an item handed over in the instant of its offer and still counted as in transit
is rejected -/
example : judgeRun { comp := .conveyor, limit := 2 } {} 0
    [⟨0, .offer 7 none, .pass, [1, 1, 0], false⟩]
    = some "indus/conveyor/conservation in_transit 1 + transported 1 + rejected 0 != offered 1 at-line 0" := by decide +kernel

/-- … and the same hand-over with exact counters is accepted -/
example : judgeRun { comp := .conveyor, limit := 2 } {} 0
    [⟨0, .offer 7 none, .pass, [0, 1, 0], false⟩, ⟨0, .done 7, .dash, [0, 1, 0], false⟩] = none := by decide +kernel

end HappyModel.C08.Indus
