import HappyModel.C14.Txn
/-!
# Transaction manager: actions with ghost events, serial replay

The atomic actions of `HappyModel.C14.SM.TM` are wrapped into `stepA`, which also emits *ghost events*
(`began`, `fetched`, `committed`); `replay` is the serial execution of the committed write sets in
commit order.  `MapLaws ok` is all that is asked of a store.
-/
namespace HappyModel.C14.SM
open HappyModel.C14 HappyModel.C14.BT

inductive Act where
  | begin (slot : Nat) (lvl : Level)
  | readStart (slot : Nat) (k : Key)
  | readFetch (slot : Nat) (k : Key)
  | write (slot : Nat) (k : Key) (v : Nat)
  | commit (slot : Nat)
  | abort (slot : Nat)
deriving Repr, DecidableEq

inductive Ev where
  | began (slot : Nat)                                   -- `begin` really created the transaction
  | fetched (slot : Nat) (k : Key) (val : Option Nat)    -- a read that went to the store returned `val`
  | committed (slot : Nat) (wset : KV)                   -- commit succeeded and applied `wset`
deriving Repr, DecidableEq

def Ev.slot : Ev → Nat
  | .began s => s
  | .fetched s _ _ => s
  | .committed s _ => s

/-- value a read returns when its fetch happens in state `tm` (`readAdvance`) -/
def fetchVal (tm : TM) (slot : Nat) (k : Key) : Option Nat :=
  match tm.tx? slot with
  | some tx => tm.adjust tx k (tm.store.getSync k)
  | none => tm.store.getSync k

/-- One action with its ghost events.  A fetch is recorded for an active transaction that has `k` in
    its read set.  (Reads of a key the transaction has written itself are answered from the write set
    in `stepT` and never reach the store, so every fetch is an external read; no condition on the
    write set is imposed here, which only makes the theorems stronger.) -/
def stepA (tm : TM) : Act → TM × List Ev
  | .begin slot lvl => (tm.begin slot lvl, match tm.tx? slot with
      | none => [.began slot]
      | some _ => [])
  | .readStart slot k => (tm.readStart slot k, [])
  | .readFetch slot k => (tm, match tm.tx? slot with
      | some tx => if tx.stat = .active ∧ k ∈ tx.rset then [.fetched slot k (fetchVal tm slot k)] else []
      | none => [])
  | .write slot k v => (tm.write slot k v, [])
  | .commit slot => ((tm.commit slot).1, match tm.tx? slot with
      | some tx => if (tm.commit slot).2 then [.committed slot tx.wset] else []
      | none => [])
  | .abort slot => (tm.abort slot, [])

def runA : TM → List Act → TM × List Ev
  | tm, [] => (tm, [])
  | tm, a :: as => ((runA (stepA tm a).1 as).1, (stepA tm a).2 ++ (runA (stepA tm a).1 as).2)

def putF (f : Key → Option Nat) (k : Key) (v : Nat) : Key → Option Nat :=
  fun k' => if k' = k then some v else f k'

/-- a write set applied to the abstract map, in dict order like `applyWrites` -/
def applyF (f : Key → Option Nat) (w : KV) : Key → Option Nat := w.foldl (fun f e => putF f e.1 e.2) f

def replay (init : Key → Option Nat) : List Ev → Key → Option Nat
  | [] => init
  | .committed _ w :: r => replay (applyF init w) r
  | _ :: r => replay init r

def ncommits : List Ev → Nat
  | [] => 0
  | .committed _ _ :: r => ncommits r + 1
  | _ :: r => ncommits r

/-- serial replay of the first `n` commits only -/
def replayN (init : Key → Option Nat) : Nat → List Ev → Key → Option Nat
  | _, [] => init
  | 0, .committed _ _ :: _ => init
  | n + 1, .committed _ w :: r => replayN (applyF init w) n r
  | n, .began _ :: r => replayN init n r
  | n, .fetched _ _ _ :: r => replayN init n r

theorem stepA_begin {tm : TM} {s : Nat} (l : Level) (h : tm.tx? s = none) :
    stepA tm (.begin s l) = (tm.begin s l, [.began s]) := by
  simp only [stepA, h]

theorem stepA_readFetch {tm : TM} {s : Nat} {k : Key} {tx : Tx} (hx : tm.tx? s = some tx) (ha : tx.stat = .active)
    (hk : k ∈ tx.rset) : stepA tm (.readFetch s k) = (tm, [.fetched s k (fetchVal tm s k)]) := by
  simp only [stepA, hx, ha, hk, and_self, if_true]

theorem stepA_commit {tm : TM} {s : Nat} {tx : Tx} (hx : tm.tx? s = some tx) :
    stepA tm (.commit s) = ((tm.commit s).1, if (tm.commit s).2 then [.committed s tx.wset] else []) := by
  simp only [stepA, hx]

structure MapLaws (ok : Store → Prop) : Prop where
  ok_put : ∀ s k v, ok s → ok (s.putSync k v)
  get_put : ∀ s k v k', ok s → (s.putSync k v).getSync k' = if k' = k then some v else s.getSync k'

theorem tx?_mem {tm : TM} {s : Nat} {tx : Tx} (h : tm.tx? s = some tx) : tx.slot = s := by
  simpa using List.find?_some h

theorem tx?_upd {tm tm' : TM} {slot : Nat} {tx tx' : Tx} (hx : tm.tx? slot = some tx)
    (e : tm'.txs = (tm.setTx tx').txs) (hsl : tx'.slot = tx.slot) (s : Nat) :
    tm'.tx? s = if s = slot then some tx' else tm.tx? s := by
  have hs := hsl.trans (tx?_mem hx)
  -- looking up `s` after the `map` is looking it up before and mapping the result
  have hp : ∀ t : Tx, ((if t.slot == tx'.slot then tx' else t).slot == s) = (t.slot == s) := fun t => by
    by_cases h1 : t.slot = tx'.slot <;> simp [h1]
  have e' : tm'.tx? s = (tm.tx? s).map fun t => if t.slot == tx'.slot then tx' else t := by
    simp only [TM.tx?, e, TM.setTx, List.find?_map, Function.comp_def, hp]
  rw [e']
  by_cases h2 : s = slot
  · simp [h2, hx, tx?_mem hx, hs]
  · cases hy : tm.tx? s with
    | none => simp [h2]
    | some t => simp [tx?_mem hy, hs, h2]

theorem tx?_begin (tm : TM) (slot : Nat) (lvl : Level) (h : tm.tx? slot = none) (s : Nat) :
    (tm.begin slot lvl).tx? s =
      if s = slot then some { slot := slot, id := tm.nextId, level := lvl, snap := tm.version } else tm.tx? s := by
  simp only [TM.begin, h]
  simp only [TM.tx?, List.find?_append, List.find?_cons, List.find?_nil]
  by_cases hs : s = slot
  · subst hs
    simp only [TM.tx?] at h
    simp [h]
  · have : (slot == s) = false := by simp; omega
    simp [hs, this]

theorem begin_back {tm : TM} {slot : Nat} {lvl : Level} (hx : tm.tx? slot = none) (s : Nat) (t : Tx)
    (ht : (tm.begin slot lvl).tx? s = some t) :
    (s = slot ∧ t = { slot := slot, id := tm.nextId, level := lvl, snap := tm.version }) ∨
    (s ≠ slot ∧ tm.tx? s = some t) := by
  rw [tx?_begin tm slot lvl hx] at ht
  by_cases hs : s = slot
  · exact .inl ⟨hs, by simpa [hs] using ht.symm⟩
  · exact .inr ⟨hs, by simpa [hs] using ht⟩

theorem begin_fields {tm : TM} {slot : Nat} (lvl : Level) (hx : tm.tx? slot = none) :
    (tm.begin slot lvl).store = tm.store ∧ (tm.begin slot lvl).version = tm.version ∧
    (tm.begin slot lvl).log = tm.log ∧ (tm.begin slot lvl).nextId = tm.nextId + 1 := by
  simp [TM.begin, hx]

theorem applyF_notin (f : Key → Option Nat) (w : KV) (k : Key) (h : k ∉ w.map (·.1)) :
    applyF f w k = f k := by
  induction w generalizing f with
  | nil => rfl
  | cons e w ih =>
    simp only [List.map_cons, List.mem_cons, not_or] at h
    simp only [applyF, List.foldl_cons] at ih ⊢
    rw [ih _ h.2]
    simp [putF, h.1]

theorem applyF_cases (f : Key → Option Nat) (w : KV) (k : Key) :
    applyF f w k = f k ∨ ∃ e ∈ w, e.1 = k ∧ applyF f w k = some e.2 := by
  induction w generalizing f with
  | nil => exact .inl rfl
  | cons e w ih =>
    simp only [applyF, List.foldl_cons] at ih ⊢
    rcases ih (putF f e.1 e.2) with h | ⟨x, hx, h⟩
    · rw [h]
      by_cases hk : k = e.1
      · exact .inr ⟨e, List.mem_cons_self, hk.symm, by simp [putF, hk]⟩
      · exact .inl (by simp [putF, hk])
    · exact .inr ⟨x, List.mem_cons_of_mem _ hx, h⟩

theorem applyWrites_spec {ok : Store → Prop} (L : MapLaws ok) (w : KV) :
    ∀ (s : Store) (f : Key → Option Nat), ok s → (∀ k, s.getSync k = f k) →
      ok (applyWrites s w) ∧ ∀ k, (applyWrites s w).getSync k = applyF f w k := by
  induction w with
  | nil => exact fun s f h1 h2 => ⟨h1, h2⟩
  | cons e w ih =>
    intro s f h1 h2
    simp only [applyWrites, applyF, List.foldl_cons] at ih ⊢
    refine ih _ _ (L.ok_put _ _ _ h1) fun k => ?_
    rw [L.get_put _ _ _ _ h1, h2]
    rfl

theorem applyWrites_notin {ok : Store → Prop} (L : MapLaws ok) {s : Store} (hok : ok s) {w : KV} {k : Key}
    (hk : k ∉ w.map (·.1)) : (applyWrites s w).getSync k = s.getSync k := by
  rw [(applyWrites_spec L w s s.getSync hok fun _ => rfl).2 k, applyF_notin _ _ _ hk]

theorem lookup_prior (w : KV) (g : Key → Option Nat) (k : Key) (h : k ∈ w.map (·.1)) :
    (w.map fun e => (e.1, g e.1)).lookup k = some (g k) := by
  induction w with
  | nil => simp at h
  | cons e w ih =>
    simp only [List.map_cons, List.lookup_cons]
    by_cases h1 : k = e.1
    · simp [h1]
    · have : (k == e.1) = false := by simp [h1]
      rw [this]
      exact ih (by simpa [h1] using h)

theorem replay_append (init : Key → Option Nat) (a b : List Ev) :
    replay init (a ++ b) = replay (replay init a) b := by
  induction a generalizing init with
  | nil => rfl
  | cons e a ih => cases e <;> simp only [List.cons_append, replay, ih]

theorem ncommits_append (a b : List Ev) : ncommits (a ++ b) = ncommits a + ncommits b := by
  induction a with
  | nil => simp [ncommits]
  | cons e a ih => cases e <;> simp only [List.cons_append, ncommits, ih] <;> omega

theorem replayN_zero (init : Key → Option Nat) (b : List Ev) : replayN init 0 b = init := by
  induction b with
  | nil => rfl
  | cons e b ih => cases e <;> simp only [replayN, ih]

theorem replayN_append_le (init : Key → Option Nat) (n : Nat) (a b : List Ev) (h : n ≤ ncommits a) :
    replayN init n (a ++ b) = replayN init n a := by
  induction a generalizing init n with
  | nil =>
    obtain rfl := Nat.le_zero.1 h
    exact replayN_zero init b
  | cons e a ih =>
    cases e with
    | committed s w =>
      cases n with
      | zero => simp only [List.cons_append, replayN]
      | succ n =>
        simp only [List.cons_append, replayN]
        exact ih _ _ (Nat.le_of_succ_le_succ h)
    | _ =>
      simp only [List.cons_append, replayN]
      exact ih _ _ h

theorem replayN_ge (init : Key → Option Nat) (n : Nat) (a : List Ev) (h : ncommits a ≤ n) :
    replayN init n a = replay init a := by
  induction a generalizing init n with
  | nil => cases n <;> rfl
  | cons e a ih =>
    cases e with
    | committed s w =>
      cases n with
      | zero => cases h
      | succ n =>
        simp only [replayN, replay]
        exact ih _ _ (Nat.le_of_succ_le_succ h)
    | _ =>
      simp only [replayN, replay]
      exact ih _ _ h

theorem replayN_prefix (init : Key → Option Nat) (a b : List Ev) :
    replayN init (ncommits a) (a ++ b) = replay init a := by
  rw [replayN_append_le _ _ _ _ (Nat.le_refl _), replayN_ge _ _ _ (Nat.le_refl _)]

theorem snapshotValue_append (n : Nat) (k : Key) (cur : Option Nat) (l1 l2 : List LogE) :
    snapshotValue n k cur (l1 ++ l2) = snapshotValue n k (snapshotValue n k cur l2) l1 := by
  induction l1 with
  | nil => rfl
  | cons e l1 ih =>
    simp only [List.cons_append, snapshotValue, ih]

theorem snapshotValue_cases (n : Nat) (k : Key) (cur : Option Nat) (l : List LogE) :
    snapshotValue n k cur l = cur ∨ ∃ e ∈ l, n < e.version ∧ k ∈ e.wkeys := by
  induction l with
  | nil => exact .inl rfl
  | cons e l ih =>
    by_cases h : n < e.version ∧ k ∈ e.wkeys
    · exact .inr ⟨e, List.mem_cons_self, h⟩
    · rw [Decidable.not_and_iff_not_or_not, Nat.not_lt] at h
      have h' : (decide (e.version ≤ n) || !e.wkeys.contains k) = true := by simpa using h
      rw [snapshotValue, if_pos h']
      exact ih.imp id fun ⟨e', he', h2⟩ => ⟨e', List.mem_cons_of_mem _ he', h2⟩

theorem snapshotValue_all_le (n : Nat) (k : Key) (cur : Option Nat) (l : List LogE)
    (h : ∀ e ∈ l, e.version ≤ n) : snapshotValue n k cur l = cur :=
  (snapshotValue_cases n k cur l).resolve_right fun ⟨e, he, hlt, _⟩ => Nat.not_le.2 hlt (h e he)

theorem mem_addKey {k k' : Key} {l : List Key} (h : k' ∈ l) : k' ∈ addKey k l := by
  unfold addKey
  split <;> simp [h]

theorem mem_addKey_self (k : Key) (l : List Key) : k ∈ addKey k l := by
  unfold addKey
  split
  · next h => simpa using h
  · simp

theorem inter_false {a b : List Key} (h : inter a b = false) : ∀ k ∈ a, k ∉ b := by
  simpa [inter] using h

end HappyModel.C14.SM
