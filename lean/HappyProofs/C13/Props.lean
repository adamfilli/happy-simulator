import HappyProofs.C13.Revive
import HappyProofs.C13.Partition
import HappyProofs.C13.NoDelegate
import HappyProofs.C13.PropsDetect
import HappyProofs.C13.PropsPhi
import HappyProofs.C13.SchedCheck
import HappyProofs.C13.Report
/-! C13 property theorems, stated about `Spec` predicates and model runs only; others stand in `PropsDetect`,
`PropsPhi`, `Report`, `PhiDetect`, `Sched`, `SchedCheck`.  The harness audits by importing this module alone
(`audit_imports` in `hv/props/c13.py`): `SchedCheck` and `Report` are imported for that, nothing here uses them. -/
namespace HappyModel.C13
variable {D : Type} [Inhabited D] [Detector D]

theorem no_false_death_view (c : Cfg) (δ : Nat) (hδ : 2 * δ < c.half + c.susp) (det : D)
    (orders : List (List Nat)) (offs : List Nat) (acts : List Act)
    (ht : timelyRun c δ (Sys.init c det orders offs) acts = true) (a x : Nat)
    (hx : (run c (Sys.init c det orders offs) acts).isCrashed x = false) :
    (run c (Sys.init c det orders offs) acts).view a x ≠ .dead :=
  (inv_run hδ (inv_init c δ det orders offs) (timelyRun_iff.mp ht)).view a x hx

/-- for every cluster size and configuration with `2·δ < half + susp`, every
    initial probe order and start offset, every detector, and every timely action sequence (probe
    ticks, deliveries, timeouts, crashes in any order), the Spec predicate `noDeadLive` holds of
    every node's row in the reached state. -/
theorem no_false_death (c : Cfg) (δ : Nat) (hδ : Spec.boundOk δ c.half c.susp = true) (det : D)
    (orders : List (List Nat)) (offs : List Nat) (acts : List Act)
    (ht : timelyRun c δ (Sys.init c det orders offs) acts = true) (a : Nat) :
    Spec.noDeadLive (run c (Sys.init c det orders offs) acts).crashed a
      (obsRow c.n (run c (Sys.init c det orders offs) acts) a) = true := by
  unfold Spec.noDeadLive
  rw [List.all_eq_true, length_obsRow]
  intro x hx
  rw [lget_obsRow _ _ (List.mem_range.mp hx)]
  cases hc : lget false (run c (Sys.init c det orders offs) acts).crashed x with
  | true => simp
  | false => simp [no_false_death_view c δ (of_decide_eq_true hδ) det orders offs acts ht a x hc]

/-- non-vacuity: a 3-node run in which two probes, their pings and acks happen under `δ = 2` is timely,
    the bound holds, and messages really were exchanged -/
example :
    let c : Cfg := ⟨3, 10, 5, 5, 3, true⟩
    let acts := [Act.tick 0 10 [], .tick 1 10 [], .deliver 0 11, .deliver 1 12, .deliver 2 13,
                 .deliver 3 14, .crash 2 14]
    Spec.boundOk 2 c.half c.susp = true ∧
    timelyRun c 2 (Sys.init c () [[1, 2], [0, 2], [0, 1]] [0, 0, 0]) acts = true ∧
    (run c (Sys.init c () [[1, 2], [0, 2], [0, 1]] [0, 0, 0]) acts).nextId = 4 ∧
    (run c (Sys.init c () [[1, 2], [0, 2], [0, 1]] [0, 0, 0]) acts).soup = [] := by decide +kernel

/-- across any action list (no hypothesis on timing) a cell that was
    DEAD is ALIVE again only with a strictly higher incarnation -/
theorem dead_not_revived_without_incarnation (c : Cfg) (s : Sys D) (acts : List Act) (a x : Nat) :
    Spec.reviveOk (obsCell s a x) (obsCell (run c s acts) a x) = true :=
  reviveOk_of_srev s _ (srev_run c s acts) a x

/-- non-vacuity: a DEAD cell does come back with a higher incarnation (and only then) -/
example : (applyToMember (⟨.dead, 0, ()⟩ : Member Unit) ⟨1, .alive, 1⟩).st = .alive ∧
    (applyToMember (⟨.dead, 1, ()⟩ : Member Unit) ⟨1, .alive, 1⟩).st = .dead := by decide

/-- the scan evaluated by the judge is exactly "every earlier/later
    pair of reports satisfies `reviveOk`" -/
theorem revive_trace_is_pairwise (cs : List Spec.Cell) :
    Spec.reviveTrace none cs = true ↔ cs.Pairwise (fun p q => Spec.reviveOk p q = true) := by
  rw [reviveTrace_iff]
  simp [Spec.aliveOk]

/-- clause 3 over whole histories.  For every configuration, state and
    action list — partitions and heals included, no hypothesis on timing — the list of successive
    reports of any cell passes `Spec.reviveTrace` (the judge's scan): after a DEAD report at
    incarnation `k`, however many SUSPECT/DEAD reports later, no ALIVE report has incarnation `≤ k`. -/
theorem dead_never_alive_again (c : Cfg) (s : Sys D) (acts : List Act) (a x : Nat) :
    Spec.reviveTrace none (cellTrace c a x s acts) = true :=
  (revive_trace_is_pairwise _).mpr (cellTrace_pairwise c a x s acts)

/-- non-vacuity, and the scan sees through an intermediate SUSPECT report, which a comparison of
    consecutive reports does not -/
example : Spec.reviveTrace none [⟨.alive, 0⟩, ⟨.dead, 0⟩, ⟨.suspect, 0⟩, ⟨.alive, 0⟩] = false ∧
    Spec.reviveOk ⟨.dead, 0⟩ ⟨.suspect, 0⟩ = true ∧ Spec.reviveOk ⟨.suspect, 0⟩ ⟨.alive, 0⟩ = true ∧
    Spec.reviveTrace none [⟨.alive, 0⟩, ⟨.dead, 0⟩, ⟨.suspect, 1⟩, ⟨.alive, 1⟩] = true := by decide +kernel

/-- a history of the model in which the cell does become DEAD: node 2 is cut off from node 0, the
    probe of node 0 is refused by the network, both timers fire; after the heal a ping from node 2
    (carrying no update) is delivered to node 0 and leaves it DEAD -/
example :
    let c : Cfg := ⟨3, 10, 5, 5, 3, true⟩
    let acts := [Act.cut 0 [2] [0] 1, .tick 0 10 [], .timeout 0 2 15 [1], .timeout 0 2 20 [], .heal 0 21,
                 .tick 2 10 [], .deliver 2 22]
    (cellTrace c 0 2 (Sys.init c () [[2, 1], [0, 2], [0, 1]] [0, 0, 0]) acts).map (·.st) =
      [.alive, .alive, .alive, .suspect, .dead, .dead, .dead, .dead] := by decide +kernel

/-- after `partition(ga, gb)` every pair across the two groups is blocked in
    both directions -/
theorem partition_blocks (c : Cfg) (s : Sys D) (h : Nat) (ga gb : List Nat) (now a b : Nat)
    (ha : a ∈ ga) (hb : b ∈ gb) :
    (step c s (.cut h ga gb now)).blocked a b = true ∧ (step c s (.cut h ga gb now)).blocked b a = true := by
  have h1 : (step c s (.cut h ga gb now)).blocked a b = true := by
    show (lset [] s.cuts h (cutPairs ga gb)).any (fun ps => pairIn ps a b) = true
    exact List.any_eq_true.mpr ⟨_, mem_lset .., pairIn_cutPairs ga gb a b ha hb⟩
  exact ⟨h1, by rw [blocked_symm]; exact h1⟩

/-- while `a → b` stays blocked, no new message from `a` to `b` is ever in
    flight — whatever is in flight at the end was in flight at the start (so nothing sent across the
    partition is ever delivered) -/
theorem partition_isolates (c : Cfg) (s : Sys D) (acts : List Act) (a b : Nat)
    (hb : BlockedRun c a b s acts) :
    ∀ m ∈ (run c s acts).soup, m.src = a → m.dst = b → m ∈ s.soup :=
  run_along (I := fun s' => ∀ m ∈ s'.soup, m.src = a → m.dst = b → m ∈ s.soup)
    (fun s' act I hbl m hm hs hd =>
      (step_soup_unblocked c s' act m hm).elim (I m · hs hd) fun h => nomatch (hs ▸ hd ▸ h.2).symm.trans hbl)
    (fun _ hm _ _ => hm) (blockedRun_iff.mp hb)

/-- `Partition.heal()` never blocks a pair that was not blocked -/
theorem heal_only_unblocks (c : Cfg) (s : Sys D) (h now a b : Nat)
    (hb : (step c s (.heal h now)).blocked a b = true) : s.blocked a b = true := by
  obtain ⟨ps, hps, hp⟩ := List.any_eq_true.mp (show (lset [] s.cuts h []).any _ = true from hb)
  rcases of_mem_lset hps with rfl | rfl | hps
  · cases hp
  · cases hp
  · exact List.any_eq_true.mpr ⟨ps, hps, hp⟩

/-- non-vacuity: the probe ping `0 → 2` sent during the cut never reaches the soup (it is recorded as
    refused), the pair is unblocked again after the heal, and a pair held by two handles stays blocked
    until both are healed -/
example :
    let c : Cfg := ⟨3, 10, 5, 5, 3, true⟩
    let s0 : Sys Unit := Sys.init c () [[2, 1], [0, 2], [0, 1]] [0, 0, 0]
    let s1 := run c s0 [.cut 0 [2] [0] 1, .tick 0 10 []]
    s1.soup = [] ∧ s1.lost.length = 1 ∧ s1.nextId = 1 ∧
    (step c s1 (.heal 0 11)).blocked 0 2 = false ∧ (step c s1 (.heal 0 11)).whole = true ∧
    (run c s1 [.cut 1 [0, 1] [2] 12, .heal 0 13]).blocked 2 0 = true ∧
    (run c s1 [.cut 1 [0, 1] [2] 12, .heal 0 13, .heal 1 14]).blocked 2 0 = false := by decide +kernel

example :
    let c : Cfg := ⟨3, 10, 5, 5, 3, true⟩
    let s0 : Sys Unit := Sys.init c () [[2, 1], [0, 2], [0, 1]] [0, 0, 0]
    BlockedRun c 0 2 (step c s0 (.cut 0 [2] [0] 1)) [.tick 0 10 [], .timeout 0 2 15 [1]] :=
  ⟨by decide, by decide, trivial⟩

/-- with no heartbeat in between, `phi(now)` is non-decreasing on any increasing sample grid
    (`tail`, `nlog` as parameters) -/
theorem phi_monotone (F : PhiFns) (d : QDet) (H : PhiHyp F d.ivs) (ts : List Nat)
    (hs : ts.Pairwise (· ≤ ·)) :
    Spec.nondecreasing (fun a b => decide (PV.le a b)) (ts.map (d.phi F)) = true := by
  induction ts with
  | nil => rfl
  | cons t rest ih =>
    cases rest with
    | nil => rfl
    | cons u rest' =>
      have hs' := List.pairwise_cons.mp hs
      simp only [List.map_cons, Spec.nondecreasing, Bool.and_eq_true, decide_eq_true_eq]
      exact ⟨phi_mono_core F d H t u (hs'.1 u (List.mem_cons_self ..)), by simpa using ih hs'.2⟩

/-- once the tail probability has underflowed (`phi = +∞`) the suspicion level
    stays `+∞` for every later sample until the next heartbeat -/
theorem phi_inf_absorbing (F : PhiFns) (d : QDet) (H : PhiHyp F d.ivs) (t1 t2 : Nat) (h : t1 ≤ t2)
    (hinf : d.phi F t1 = .inf) : d.phi F t2 = .inf := by
  have hle := phi_mono_core F d H t1 t2 h
  rw [hinf] at hle
  cases h2 : d.phi F t2 with
  | inf => rfl
  | fin v => rw [h2] at hle; exact absurd hle (by simp [PV.le])

/-- the judge's reading of reported bit patterns: ordered like the doubles they encode, `+∞` on top,
    and a finite value after `+∞` is rejected by `nondecreasing` -/
example : Spec.pvOfBits 0x7FF0000000000000 = some .inf ∧
    Spec.pvOfBits 0x4074300000000000 = some (.fin 0x4074300000000000) ∧  -- 323.0
    Spec.pvOfBits 0x40733A0000000000 = some (.fin 0x40733A0000000000) ∧  -- 307.625
    Spec.nondecreasing Spec.pvLe [.fin 0x40733A0000000000, .fin 0x4074300000000000, .inf, .inf] = true ∧
    Spec.nondecreasing Spec.pvLe [.fin 0x4074300000000000, .fin 0x40733A0000000000] = false ∧
    Spec.nondecreasing Spec.pvLe [.inf, .fin 0x40733A0000000000] = false ∧
    Spec.pvOfBits 0x8000000000000000 = some (.fin 0) ∧ Spec.pvOfBits 0xBFF0000000000000 = none ∧
    Spec.pvOfBits 0x7FF8000000000000 = none := by decide +kernel

def exF : PhiFns :=
  { tail := fun y => if y ≤ 0 then 100 else 100 - y, nlog := fun p => 100 - p,
    mean := fun _ => 3, sd := fun _ => 2, scale := 10 }

/-- non-vacuity: the hypotheses are satisfiable, phi takes several values incl. `+∞` -/
example : PhiHyp exF [3] :=
  ⟨by decide,
   by intro y1 y2 h; simp only [exF]; split <;> split <;> omega,
   by intro p1 p2 _ h; simp only [exF]; omega,
   by intro y; simp only [exF]; split <;> omega⟩

example : ((({ last := some 0, ivs := [3] } : QDet).phi exF 2, ({ last := some 0, ivs := [3] } : QDet).phi exF 5,
    ({ last := some 0, ivs := [3] } : QDet).phi exF 40)) = (.fin 0, .fin 10, .inf) := by decide +kernel

/-- non-vacuity: a single heartbeat recorded at the epoch `0` and a bootstrap interval; `PhiHyp` holds
    (above); after `silenceBound 3 2 = 120` the model's phi is `+∞`, the clause accepts it and rejects
    a level that is still `0` there (and accepts `0` one tick earlier, and before any heartbeat the
    clause is not evaluated at all) -/
example : Spec.silenceBound 3 2 = 120 ∧ levelAt exF 39 = .inf ∧
    ({ last := some 0, ivs := [3] } : QDet).phi exF 120 = .inf ∧
    Spec.detectedSample true 3 2 0 120 (.fin 50) (({ last := some 0, ivs := [3] } : QDet).phi exF 120) = true ∧
    Spec.detectedSample true 3 2 0 120 (.fin 50) (.fin 0) = false ∧
    Spec.detectedSample true 3 2 0 119 (.fin 50) (.fin 0) = true ∧
    Spec.detectedSample false 3 2 0 120 (.fin 50) (.fin 0) = true := by decide +kernel

/-- Repaired handler: if the ack timeout of a probe of `x` fires at
    the live node `a` (the probe went un-acked), then after any further actions during which
    nothing from `x` and no "alive" update about `x` is delivered to `a`, node `a` does not report
    `x` ALIVE. -/
theorem failure_detected_partial (c : Cfg) (hfix : c.fix = true) (s : Sys D) (a x now : Nat)
    (shuf : List Nat) (acts : List Act) (ha : s.isCrashed a = false)
    (hp : (s.node a).pendOf x = some ⟨.ind, now⟩)
    (hq : QuietRun c a x (step c s (.timeout a x now shuf)) acts) :
    (run c s (.timeout a x now shuf :: acts)).view a x ≠ .alive := by
  have h1 : NA x ((step c s (.timeout a x now shuf)).node a) := by
    rw [step_indTimeout c shuf ha hp, node_commit_same]
    exact na_onIndTimeout_self c hfix a now x shuf _
  exact (na_run h1 hq :)

/-- Both code variants, the phi path.  *Assuming* the detector that
    `a` keeps for `x` is not available at a probe tick of `a` (this is where "phi exceeds the
    threshold after a bounded silence" enters — a hypothesis on the `Detector` parameter), `a` does
    not report `x` ALIVE after that tick nor after any further quiet run. -/
theorem failure_detected_by_phi_partial (c : Cfg) (s : Sys D) (a x now : Nat) (shuf : List Nat)
    (acts : List Act) (ha : s.isCrashed a = false) (htick : (s.node a).nextTick = now)
    (hx : x < c.n) (hxa : x ≠ a)
    (hav : Detector.avail ((s.node a).member x).det now = false)
    (hq : QuietRun c a x (step c s (.tick a now shuf)) acts) :
    (run c s (.tick a now shuf :: acts)).view a x ≠ .alive := by
  have h1 : NA x ((step c s (.tick a now shuf)).node a) := by
    rw [step_tick c shuf ha htick, node_commit_same]
    exact na_onTick_unavailable c a now x shuf _ hx hxa hav
  exact (na_run h1 hq :)

/-- a detector that is unavailable from time 12 on: the tick at 20 suspects member 2
    (for the example below; a global instance: a `Sys Nat` built on top of this module gets it) -/
instance : Detector Nat := ⟨fun d _ => d, fun d now => decide (now < d)⟩

example :
    let c : Cfg := ⟨3, 10, 5, 50, 3, false⟩
    let s := run c (Sys.init c (12 : Nat) [[1, 2], [0, 2], [0, 1]] [0, 0, 0]) [.tick 0 10 []]
    s.isCrashed 0 = false ∧ (s.node 0).nextTick = 20 ∧
    Detector.avail ((s.node 0).member 2).det 20 = false ∧ s.view 0 2 = .alive ∧
    (run c s [.tick 0 20 []]).view 0 2 = .suspect := by decide +kernel

/-- non-vacuity of `failure_detected_partial`, and the clause does real work: node 2 crashed at
    time 0, node 0 probes it at 10, the ack timeout fires at 15 (SUSPECT under the repaired handler),
    the suspicion timeout at 20: DEAD -/
example :
    let c : Cfg := ⟨3, 10, 5, 5, 3, true⟩
    let s := run c (Sys.init c () [[2, 1], [0, 2], [0, 1]] [0, 0, 0]) [.crash 2 0, .tick 0 10 []]
    s.isCrashed 0 = false ∧ (s.node 0).pendOf 2 = some ⟨.ind, 15⟩ ∧
    (run c s [.timeout 0 2 15 [1], .deliver 1 16, .timeout 0 2 20 []]).view 0 2 = .dead := by decide +kernel

/-- the ack timeout of an un-acked probe of `x` fires at the live node `a`
    and there is no delegate — `indirect_probe_count = 0`, or the candidate list is empty (a pair;
    every other peer DEAD: `no_delegate_candidates`).  Then nothing is sent, the
    suspicion timeout is armed for `now + susp`, and `a` does not report `x` ALIVE after any further
    quiet run. -/
theorem no_delegate_detected (c : Cfg) (hfix : c.fix = true) (s : Sys D) (a x now : Nat)
    (shuf : List Nat) (acts : List Act) (ha : s.isCrashed a = false)
    (hp : (s.node a).pendOf x = some ⟨.ind, now⟩) (hd : c.indirect = 0 ∨ shuf = [])
    (hq : QuietRun c a x (step c s (.timeout a x now shuf)) acts) :
    (step c s (.timeout a x now shuf)).soup = s.soup ∧
    (step c s (.timeout a x now shuf)).nextId = s.nextId ∧
    ((step c s (.timeout a x now shuf)).node a).pendOf x = some ⟨.susp, now + c.susp⟩ ∧
    (run c s (.timeout a x now shuf :: acts)).view a x ≠ .alive := by
  have hnd := onIndTimeout_no_delegate c hfix a now x shuf (s.node a)
    (by rcases hd with h | h <;> simp [h])
  have hs := step_indTimeout c shuf ha hp
  have hc := commit_nothing_sent s a now (onIndTimeout c a now x shuf (s.node a)) s.soup hnd.1
  refine ⟨by rw [hs]; exact hc.1, by rw [hs]; exact hc.2, ?_, ?_⟩
  · rw [hs, node_commit_same]; exact hnd.2.2.1
  · exact failure_detected_partial c hfix s a x now shuf acts ha hp hq

/-- the candidate list handed to `random.shuffle` is empty in a pair and when all others are DEAD -/
theorem no_delegate_candidates (n a x : Nat) (nd : Node D) :
    ((n = 2 ∧ a < 2 ∧ x < 2 ∧ a ≠ x) ∨ (∀ y, y < n → y ≠ a → y ≠ x → nd.view y = .dead)) →
    delegateCands n a x nd = [] := by
  rintro (⟨hn, ha, hx, hax⟩ | h)
  · exact delegateCands_all_dead n a x nd (fun y hy hya hyx => by omega)
  · exact delegateCands_all_dead n a x nd h

/-- ack timeout, then the suspicion timeout it armed (nothing
    in between at `a` about `x`): `a` reports `x` DEAD — whatever the delegates were, none included. -/
theorem unacked_probe_dead_after_suspicion (c : Cfg) (hfix : c.fix = true) (s : Sys D) (a x now : Nat)
    (shuf shuf' : List Nat) (ha : s.isCrashed a = false)
    (hp : (s.node a).pendOf x = some ⟨.ind, now⟩) :
    (run c s [.timeout a x now shuf, .timeout a x (now + c.susp) shuf']).view a x = .dead := by
  have hs := step_indTimeout c shuf ha hp
  show (step c (step c s (.timeout a x now shuf)) (.timeout a x (now + c.susp) shuf')).view a x = .dead
  rw [hs]
  have ha1 : (s.commit a now (onIndTimeout c a now x shuf (s.node a)) s.soup).isCrashed a = false := by
    rw [crashed_commit]; exact ha
  have hp1 : ((s.commit a now (onIndTimeout c a now x shuf (s.node a)) s.soup).node a).pendOf x =
      some ⟨.susp, now + c.susp⟩ := by
    rw [node_commit_same, (onIndTimeout_ctl c a now x shuf _).pendOf, if_pos rfl]
  rw [step_suspTimeout c shuf' ha1 hp1]
  unfold Sys.view
  rw [node_commit_same, node_commit_same]
  exact onSuspTimeout_view_self x _ (na_onIndTimeout_self c hfix a now x shuf _)

/-- a live node whose probe order is `[x]` (a pair; or the rest of the
    cluster is gone) with `x` not DEAD: its next probe tick and the ack timeout of that probe leave
    `x` not-ALIVE for the rest of any quiet run — one probe round, no delegate needed. -/
theorem lone_observer_detects (c : Cfg) (hfix : c.fix = true) (s : Sys D) (a x now : Nat)
    (acts : List Act) (ha : s.isCrashed a = false) (hm : isMember c.n a x = true)
    (hl : Lone x (s.node a)) (ht : (s.node a).nextTick = now)
    (hq : QuietRun c a x (run c s [.tick a now [x], .timeout a x (now + c.half) []]) acts) :
    (run c s (.tick a now [x] :: .timeout a x (now + c.half) [] :: acts)).view a x ≠ .alive := by
  have hs := step_tick c [x] ha ht
  have hl1 := onTick_lone c a now x (s.node a) hm hl
  have ha1 : (step c s (.tick a now [x])).isCrashed a = false := by
    rw [hs, crashed_commit]; exact ha
  have hp1 : ((step c s (.tick a now [x])).node a).pendOf x = some ⟨.ind, now + c.half⟩ := by
    rw [hs, node_commit_same]; exact hl1.1
  exact failure_detected_partial c hfix _ a x _ [] acts ha1 hp1 hq

/-- the round of `lone_observer_detects` ends inside the deadline the judge applies to a
    pair (`Spec.detectDeadline 2 k`) whenever the tick comes at most one interval after `crash + δ` -/
theorem lone_observer_within_deadline (k interval half delta c0 now : Nat)
    (h : now ≤ c0 + delta + interval) :
    now + half ≤ Spec.detectDeadline 2 k interval half delta c0 := by
  unfold Spec.detectDeadline Spec.detectTicks
  have : interval ≤ ((k + 1) * (2 - 1) + 2) * interval := Nat.le_mul_of_pos_left _ (by omega)
  omega

/-- non-vacuity: a pair; node 1 crashes before anybody heard from it; node 0 probes it at its first
    tick, the ack timeout sends nothing (no message id is consumed), arms the suspicion timer, and
    its firing makes node 1 DEAD; the same with three nodes and `indirect_probe_count = 0` -/
example :
    let c : Cfg := ⟨2, 10, 5, 5, 3, true⟩
    let s := run c (Sys.init c () [[1], [0]] [0, 0]) [.crash 1 0]
    s.isCrashed 0 = false ∧ isMember c.n 0 1 = true ∧ (s.node 0).order = [1] ∧ s.view 0 1 ≠ .dead ∧
    (s.node 0).nextTick = 10 ∧ delegateCands 2 0 1 (s.node 0) = [] ∧
    (run c s [.tick 0 10 [1]]).nextId = 1 ∧
    (run c s [.tick 0 10 [1], .timeout 0 1 15 []]).nextId = 1 ∧
    (run c s [.tick 0 10 [1], .timeout 0 1 15 []]).view 0 1 = .suspect ∧
    (run c s [.tick 0 10 [1], .timeout 0 1 15 [], .timeout 0 1 20 []]).view 0 1 = .dead := by decide +kernel

example :
    let c : Cfg := ⟨3, 10, 5, 5, 0, true⟩
    let s := run c (Sys.init c () [[2, 1], [0, 2], [0, 1]] [0, 0, 0]) [.crash 2 0, .tick 0 10 []]
    (s.node 0).pendOf 2 = some ⟨.ind, 15⟩ ∧ (run c s [.timeout 0 2 15 [1]]).nextId = s.nextId ∧
    (run c s [.timeout 0 2 15 [1], .timeout 0 2 20 []]).view 0 2 = .dead := by decide +kernel

/-- witness for the code before /repo commit ff4df56 (`fix = false`): the same schedule leaves the crashed member
    ALIVE — the probe went un-acked, the suspicion timer fired, nothing happened. -/
theorem current_unacked_probe_keeps_alive :
    let c : Cfg := ⟨3, 10, 5, 5, 3, false⟩
    (run c (Sys.init c () [[2, 1], [0, 2], [0, 1]] [0, 0, 0])
      [.crash 2 0, .tick 0 10 [], .timeout 0 2 15 [1], .deliver 1 16, .timeout 0 2 20 []]).view 0 2
      = .alive := by decide +kernel

end HappyModel.C13
