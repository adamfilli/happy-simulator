import HappyProofs.C05.Tree
/-!
The abstract asynchronous system behind both engines, for entity-local stateful handlers.

State: the entities' states and the multiset of pending events (without creation indices).  An
*execution* is a list of deliveries, each taken from what is pending.  Both the sequential engine
and the partitioned coordinator produce executions of this system (`HappyProofs/C05/Sim.lean`).

`confluence`: an execution that always delivers a time-minimal pending event (the sequential
engine) and any execution that delivers to every entity in time order (the partitioned run), both
complete up to `T`, deliver the same multiset of events and end in the same entity states —
provided two deliveries of the second execution to one entity at one timestamp commute for the
handler (`CommAt`; vacuous when the second execution has no such pair).  The proof moves the first
delivery of the sequential execution to the front of the other one: it passes deliveries to other
entities (independent) and same-timestamp deliveries to the same entity (commute by hypothesis);
a delivery to the same entity at an earlier time cannot stand before it.
-/
namespace HappyModel.C05

variable {τ : Type}

abbrev EHandler (τ : Type) := τ → PEv → τ × List Emit

structure AS (τ : Type) where
  st : Nat → τ
  pend : List PEv

def astep (hE : EHandler τ) (s : AS τ) (d : PEv) : AS τ :=
  { st := fun x => if x = d.tgt then (hE (s.st d.tgt) d).1 else s.st x
    pend := s.pend.erase d ++ emitAt d.time (hE (s.st d.tgt) d).2 }

def arun (hE : EHandler τ) : AS τ → List PEv → AS τ
  | s, [] => s
  | s, d :: ds => arun hE (astep hE s d) ds

def Valid (hE : EHandler τ) : AS τ → List PEv → Prop
  | _, [] => True
  | s, d :: ds => d ∈ s.pend ∧ Valid hE (astep hE s d) ds

/-- what the sequential engine produces -/
def MinFirst (hE : EHandler τ) : AS τ → List PEv → Prop
  | _, [] => True
  | s, d :: ds => (∀ e ∈ s.pend, d.time ≤ e.time) ∧ MinFirst hE (astep hE s d) ds

structure AEq (s s' : AS τ) : Prop where
  st : s.st = s'.st
  pend : s.pend.Perm s'.pend

theorem AEq.refl (s : AS τ) : AEq s s := ⟨rfl, List.Perm.refl _⟩
theorem AEq.symm {s s' : AS τ} (h : AEq s s') : AEq s' s := ⟨h.st.symm, h.pend.symm⟩
theorem AEq.trans {a b c : AS τ} (h1 : AEq a b) (h2 : AEq b c) : AEq a c :=
  ⟨h1.st.trans h2.st, h1.pend.trans h2.pend⟩

theorem astep_congr (hE : EHandler τ) {s s' : AS τ} (h : AEq s s') (d : PEv) :
    AEq (astep hE s d) (astep hE s' d) := by
  constructor
  · simp only [astep, h.st]
  · simp only [astep, h.st]
    exact (h.pend.erase d).append (List.Perm.refl _)

theorem arun_congr (hE : EHandler τ) (ds : List PEv) : ∀ {s s' : AS τ}, AEq s s' →
    AEq (arun hE s ds) (arun hE s' ds) := by
  induction ds with
  | nil => intro s s' h; exact h
  | cons d ds ih => intro s s' h; exact ih (astep_congr hE h d)

theorem Valid_congr (hE : EHandler τ) (ds : List PEv) : ∀ {s s' : AS τ}, AEq s s' →
    Valid hE s ds → Valid hE s' ds := by
  induction ds with
  | nil => intro s s' _ _; trivial
  | cons d ds ih =>
    intro s s' h hv
    exact ⟨h.pend.mem_iff.mp hv.1, ih (astep_congr hE h d) hv.2⟩

theorem arun_append (hE : EHandler τ) (a b : List PEv) : ∀ s : AS τ,
    arun hE s (a ++ b) = arun hE (arun hE s a) b := by
  induction a with
  | nil => intro s; rfl
  | cons d ds ih => intro s; exact ih (astep hE s d)

theorem Valid_append (hE : EHandler τ) (a b : List PEv) : ∀ s : AS τ,
    Valid hE s (a ++ b) ↔ Valid hE s a ∧ Valid hE (arun hE s a) b := by
  induction a with
  | nil => intro s; simp [Valid, arun]
  | cons d ds ih =>
    intro s
    simp only [List.cons_append, Valid, arun, ih, and_assoc]

theorem persist (hE : EHandler τ) (e : PEv) (ds : List PEv) : ∀ s : AS τ, e ∈ s.pend →
    e ∈ ds ∨ e ∈ (arun hE s ds).pend := by
  induction ds with
  | nil => intro s h; exact Or.inr h
  | cons d ds ih =>
    intro s h
    by_cases hed : e = d
    · exact Or.inl (by simp [hed])
    · have : e ∈ (astep hE s d).pend := by
        simp only [astep, List.mem_append]
        exact Or.inl ((List.mem_erase_of_ne hed).mpr h)
      rcases ih _ this with h1 | h1
      · exact Or.inl (by simp [h1])
      · exact Or.inr h1

theorem mem_emitAt {t : Nat} {ems : List Emit} {e : PEv} (h : e ∈ emitAt t ems) : t ≤ e.time := by
  simp only [emitAt, List.mem_map] at h
  obtain ⟨x, _, rfl⟩ := h
  simp

theorem pend_ge_step (hE : EHandler τ) (t : Nat) (s : AS τ) (d : PEv) (hp : ∀ e ∈ s.pend, t ≤ e.time)
    (hd : d ∈ s.pend) : ∀ e ∈ (astep hE s d).pend, t ≤ e.time := by
  intro x hx
  simp only [astep, List.mem_append] at hx
  rcases hx with hx | hx
  · exact hp x (List.mem_of_mem_erase hx)
  · exact Nat.le_trans (hp _ hd) (mem_emitAt hx)

theorem ge_of_valid (hE : EHandler τ) (t : Nat) (ds : List PEv) : ∀ s : AS τ,
    (∀ e ∈ s.pend, t ≤ e.time) → Valid hE s ds → ∀ e ∈ ds, t ≤ e.time := by
  induction ds with
  | nil => intro s _ _ e he; simp at he
  | cons d ds ih =>
    intro s hp hv e he
    simp only [List.mem_cons] at he
    rcases he with rfl | he
    · exact hp _ hv.1
    · exact ih (astep hE s d) (pend_ge_step hE t s d hp hv.1) hv.2 e he

def CommAt (hE : EHandler τ) (a d : PEv) : Prop :=
  ∀ σ0 : τ, (hE (hE σ0 a).1 d).1 = (hE (hE σ0 d).1 a).1
    ∧ ((hE σ0 a).2 ++ (hE (hE σ0 a).1 d).2).Perm ((hE σ0 d).2 ++ (hE (hE σ0 d).1 a).2)

theorem emitAt_append (t : Nat) (a b : List Emit) : emitAt t (a ++ b) = emitAt t a ++ emitAt t b := by
  simp [emitAt]

theorem swap (hE : EHandler τ) (s : AS τ) (a d : PEv) (hd : d ∈ s.pend) (ha : a ∈ s.pend) (hne : a ≠ d)
    (hc : a.tgt ≠ d.tgt ∨ (a.time = d.time ∧ a.tgt = d.tgt ∧ CommAt hE a d)) :
    AEq (astep hE (astep hE s a) d) (astep hE (astep hE s d) a) := by
  have hd' : d ∈ s.pend.erase a := (List.mem_erase_of_ne (Ne.symm hne)).mpr hd
  have ha' : a ∈ s.pend.erase d := (List.mem_erase_of_ne hne).mpr ha
  rcases hc with hc | ⟨ht, hx, hcomm⟩
  · have hc' : d.tgt ≠ a.tgt := Ne.symm hc
    constructor
    · funext x
      simp only [astep]
      by_cases h1 : x = d.tgt
      · subst h1; simp [hc']
      · by_cases h2 : x = a.tgt
        · subst h2; simp [hc]
        · simp [h1, h2]
    · simp only [astep, hc, hc', if_false]
      rw [List.erase_append_left _ hd', List.erase_append_left _ ha', List.erase_comm]
      simp only [List.append_assoc]
      exact List.Perm.append (List.Perm.refl _) List.perm_append_comm
  · obtain ⟨h1, h2⟩ := hcomm (s.st a.tgt)
    constructor
    · funext x
      simp only [astep, hx]
      by_cases hxx : x = d.tgt
      · simp only [hxx, if_true]; rw [← hx]; exact h1
      · simp [hxx]
    · simp only [astep, hx, if_true]
      rw [List.erase_append_left _ hd', List.erase_append_left _ ha', List.erase_comm]
      simp only [List.append_assoc, ht]
      refine List.Perm.append (List.Perm.refl _) ?_
      rw [← emitAt_append, ← emitAt_append]
      rw [← hx]
      exact h2.map _

theorem pull (hE : EHandler τ) (d : PEv) (B : List PEv) : ∀ (A : List PEv) (s : AS τ),
    Valid hE s (A ++ d :: B) → d ∈ s.pend →
    (∀ a ∈ A, a ≠ d ∧ (a.tgt ≠ d.tgt ∨ (a.time = d.time ∧ a.tgt = d.tgt ∧ CommAt hE a d))) →
    Valid hE s (d :: (A ++ B)) ∧ AEq (arun hE s (d :: (A ++ B))) (arun hE s (A ++ d :: B)) := by
  intro A
  induction A with
  | nil => intro s hv _ _; exact ⟨hv, AEq.refl _⟩
  | cons a A ih =>
    intro s hv hd hA
    obtain ⟨hne, hc⟩ := hA a (by simp)
    have hva : a ∈ s.pend := hv.1
    have hd1 : d ∈ (astep hE s a).pend := by
      simp only [astep, List.mem_append]
      exact Or.inl ((List.mem_erase_of_ne (Ne.symm hne)).mpr hd)
    obtain ⟨h1, h2⟩ := ih (astep hE s a) hv.2 hd1 (fun b hb => hA b (by simp [hb]))
    have hsw := swap hE s a d hd hva hne hc
    have ha1 : a ∈ (astep hE s d).pend := by
      simp only [astep, List.mem_append]
      exact Or.inl ((List.mem_erase_of_ne hne).mpr hva)
    refine ⟨⟨hd, ha1, Valid_congr hE _ hsw h1.2⟩, ?_⟩
    exact (arun_congr hE (A ++ B) hsw.symm).trans h2

def TgtSorted (E : List PEv) : Prop := E.Pairwise (fun a b => a.tgt = b.tgt → a.time ≤ b.time)

def TieComm (hE : EHandler τ) (E : List PEv) : Prop :=
  ∀ a ∈ E, ∀ d ∈ E, a ≠ d → a.tgt = d.tgt → a.time = d.time → CommAt hE a d

theorem valid_nil_of_gt (hE : EHandler τ) {T : Nat} {s : AS τ} {E : List PEv}
    (hfin : ∀ e ∈ s.pend, T < e.time) (hv : Valid hE s E) (hle : ∀ e ∈ E, e.time ≤ T) : E = [] := by
  cases E with
  | nil => rfl
  | cons a E =>
    have := hfin a hv.1
    have := hle a (by simp)
    omega

theorem pull_head (hE : EHandler τ) (T : Nat) (d : PEv) (E2 : List PEv) (s' : AS τ)
    (hd : d ∈ s'.pend) (hmin : ∀ e ∈ s'.pend, d.time ≤ e.time) (hdT : d.time ≤ T)
    (hv2 : Valid hE s' E2) (hs2 : TgtSorted E2) (hfin2 : ∀ e ∈ (arun hE s' E2).pend, T < e.time)
    (hc : ∀ a ∈ E2, d ∈ E2 → a ≠ d → a.tgt = d.tgt → a.time = d.time → CommAt hE a d) :
    ∃ E2', E2.Perm (d :: E2') ∧ E2'.Sublist E2 ∧ Valid hE (astep hE s' d) E2'
      ∧ AEq (arun hE (astep hE s' d) E2') (arun hE s' E2) := by
  have hdE2 : d ∈ E2 := (persist hE d E2 s' hd).resolve_right fun h => by
    have := hfin2 d h
    omega
  obtain ⟨A, B, rfl, hdA⟩ := List.eq_append_cons_of_mem hdE2
  have hge := ge_of_valid hE d.time _ s' hmin hv2
  have hA : ∀ a ∈ A, a ≠ d ∧ (a.tgt ≠ d.tgt ∨ (a.time = d.time ∧ a.tgt = d.tgt ∧ CommAt hE a d)) := by
    intro a ha
    have hne : a ≠ d := fun h => hdA (h ▸ ha)
    refine ⟨hne, ?_⟩
    by_cases ht : a.tgt = d.tgt
    · have h1 : a.time ≤ d.time := (List.pairwise_append.mp hs2).2.2 a ha d (by simp) ht
      have h2 := hge a (by simp [ha])
      have hte : a.time = d.time := by omega
      exact Or.inr ⟨hte, ht, hc a (by simp [ha]) hdE2 hne ht hte⟩
    · exact Or.inl ht
  obtain ⟨hvp, heqp⟩ := pull hE d B A s' hv2 hd hA
  exact ⟨A ++ B, List.perm_middle, List.Sublist.append (List.Sublist.refl _) (List.sublist_cons_self d B),
    hvp.2, heqp⟩

theorem confluence (hE : EHandler τ) (T : Nat) : ∀ (E1 E2 : List PEv) (s s' : AS τ), AEq s s' →
    Valid hE s E1 → MinFirst hE s E1 → (∀ e ∈ E1, e.time ≤ T) →
    (∀ e ∈ (arun hE s E1).pend, T < e.time) →
    Valid hE s' E2 → TgtSorted E2 → (∀ e ∈ E2, e.time ≤ T) →
    (∀ e ∈ (arun hE s' E2).pend, T < e.time) → TieComm hE E2 →
    E1.Perm E2 ∧ (arun hE s E1).st = (arun hE s' E2).st := by
  intro E1
  induction E1 with
  | nil =>
    intro E2 s s' heq _ _ _ hfin hv2 _ hle2 _ _
    rw [valid_nil_of_gt hE (fun e he => hfin e (heq.pend.mem_iff.mpr he)) hv2 hle2]
    exact ⟨List.Perm.refl _, heq.st⟩
  | cons d E1 ih =>
    intro E2 s s' heq hv1 hm1 hle1 hfin1 hv2 hs2 hle2 hfin2 hc2
    obtain ⟨E2', hperm, hsub, hv2', heq2⟩ := pull_head hE T d E2 s' (heq.pend.mem_iff.mp hv1.1)
      (fun e he => hm1.1 e (heq.pend.mem_iff.mpr he)) (hle1 d (by simp)) hv2 hs2 hfin2
      (fun a ha hd => hc2 a ha d hd)
    have key := ih E2' (astep hE s d) (astep hE s' d) (astep_congr hE heq d) hv1.2 hm1.2
      (fun e he => hle1 e (by simp [he])) hfin1 hv2' (List.Pairwise.sublist hsub hs2)
      (fun e he => hle2 e (hsub.subset he)) (fun e he => hfin2 e (heq2.pend.mem_iff.mp he))
      (fun a ha b hb => hc2 a (hsub.subset ha) b (hsub.subset hb))
    exact ⟨(key.1.cons d).trans hperm.symm, key.2.trans heq2.st⟩

end HappyModel.C05
