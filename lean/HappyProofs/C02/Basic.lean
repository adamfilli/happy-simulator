import HappyModel.C01.Process
import HappyProofs.Lib.Lists
/-!
# C02 — the closure principle for the code of a segment

An invariant of a handler invocation is shown once per primitive state change of the process layer (`Closed`: what a
`resolve` cascade needs ⊂ what the actions need ⊂ what the hooks need as well); the code itself — `runAct`, with the
`resolveFut` cascade and `addCb` inside, and `runHooks` — is walked once, for `GClosed` (fixed clock, permissions), of
which `AClosed` / `Closed` are instances; `CClosed` shares the walk of the cascade (`resolveFut_walk`).
-/
namespace HappyModel.C01

theorem getElem?_concat_cases {α} {l : List α} {k : Nat} {x q : α} (h : (l ++ [x])[k]? = some q) :
    (k < l.length ∧ l[k]? = some q) ∨ (k = l.length ∧ q = x) := by
  by_cases hk : k < l.length
  · rw [List.getElem?_append_left hk] at h
    exact Or.inl ⟨hk, h⟩
  · have hlt := getElem?_some_lt h
    rw [List.length_append, List.length_singleton] at hlt
    have hkl : k = l.length := by omega
    rw [hkl, List.getElem?_concat_length] at h
    exact Or.inr ⟨hkl, (Option.some.inj h).symm⟩

theorem map_set_of_eq {α β} (f : α → β) {l : List α} {i : Nat} {p : α} (q : α) (h : l[i]? = some p) (hq : f q = f p) :
    (l.set i q).map f = l.map f := by
  obtain ⟨hl, rfl⟩ := List.getElem?_eq_some_iff.mp h
  rw [List.map_set, hq, ← List.getElem_map f (h := by rwa [List.length_map]), List.set_getElem_self]

theorem futGet_default (fs : List Fut) (f : Nat) (h : fs.length ≤ f) : futGet fs f = {} := by
  rw [futGet, List.getD_eq_getElem?_getD, List.getElem?_eq_none h, Option.getD_none]

theorem futGet_lt (fs : List Fut) (f : Nat) (h : f < fs.length) : futGet fs f = fs[f] := by
  rw [futGet, List.getD_eq_getElem?_getD, List.getElem?_eq_getElem h, Option.getD_some]

theorem futSet_eq_pad (fs : List Fut) (f : Nat) (x : Fut) :
    futSet fs f x = (fs ++ List.replicate (f + 1 - fs.length) ({} : Fut)).set f x := by
  unfold futSet
  by_cases h : f < fs.length
  · rw [if_pos h, Nat.sub_eq_zero_of_le h, List.replicate_zero, List.append_nil]
  · rw [if_neg h, show f + 1 - fs.length = (f - fs.length) + 1 by omega, List.replicate_succ', ← List.append_assoc]
    have hl : (fs ++ List.replicate (f - fs.length) ({} : Fut)).length = f := by
      rw [List.length_append, List.length_replicate]; omega
    rw [List.set_append_right _ _ (Nat.le_of_eq hl), hl, Nat.sub_self, List.set_cons_zero]

theorem futGet_pad (fs : List Fut) (n g : Nat) :
    futGet (fs ++ List.replicate n ({} : Fut)) g = futGet fs g := by
  by_cases h : g < fs.length
  · rw [futGet, futGet, List.getD_eq_getElem?_getD, List.getD_eq_getElem?_getD, List.getElem?_append_left h]
  · have h' : fs.length ≤ g := Nat.le_of_not_lt h
    rw [futGet_default fs g h', futGet, List.getD_eq_getElem?_getD, List.getElem?_append_right h',
      List.getElem?_replicate]
    split <;> rfl

theorem futGet_futSet (fs : List Fut) (f g : Nat) (x : Fut) :
    futGet (futSet fs f x) g = if g = f then x else futGet fs g := by
  rw [futSet_eq_pad, ← futGet_pad fs (f + 1 - fs.length) g]
  generalize hl : fs ++ List.replicate (f + 1 - fs.length) ({} : Fut) = l
  have hf : f < l.length := by rw [← hl, List.length_append, List.length_replicate]; omega
  by_cases h : g = f
  · rw [if_pos h, h, futGet_lt _ _ (by rw [List.length_set]; exact hf), List.getElem_set_self]
  · rw [if_neg h, futGet, futGet, List.getD_eq_getElem?_getD, List.getD_eq_getElem?_getD,
      List.getElem?_set_ne (Ne.symm h)]

theorem futGet_futSet_same (fs : List Fut) (f : Nat) (x : Fut) : futGet (futSet fs f x) f = x := by
  rw [futGet_futSet, if_pos rfl]

theorem futGet_futSet_ne (fs : List Fut) (f g : Nat) (x : Fut) (h : g ≠ f) :
    futGet (futSet fs f x) g = futGet fs g := by
  rw [futGet_futSet, if_neg h]

def cntPark (fs : List Fut) (pid : Nat) : Nat := fs.countP (fun f => f.parked == some pid)

/-- (`data = pid + 1` marks a continuation of process `pid`) -/
def cntSpec (l : List Spec) (pid : Nat) : Nat := l.countP (fun s => s.data == pid + 1)

def cntHeap (l : List Ev) (pid : Nat) : Nat := l.countP (fun e => e.data == pid + 1)

def ind (b : Bool) : Nat := if b then 1 else 0

theorem ind_le_one (b : Bool) : ind b ≤ 1 := by cases b <;> decide

theorem ind_some (a b : Nat) : ind (some a == some b) = ind (a == b) := by
  by_cases h : a = b <;> simp [ind, h]

theorem ind_succ (a b : Nat) : ind (a + 1 == b + 1) = ind (a == b) := by
  by_cases h : a = b <;> simp [ind, h]

theorem ind_none (b : Nat) : ind ((none : Option Nat) == some b) = 0 := rfl

theorem ind_zero_succ (b : Nat) : ind (0 == b + 1) = 0 := rfl

theorem cntPark_pad (fs : List Fut) (n pid : Nat) :
    cntPark (fs ++ List.replicate n ({} : Fut)) pid = cntPark fs pid := by
  simp [cntPark, List.countP_append, List.countP_replicate]

theorem cntPark_futSet (fs : List Fut) (f pid : Nat) (x : Fut) :
    cntPark (futSet fs f x) pid + ind ((futGet fs f).parked == some pid)
      = cntPark fs pid + ind (x.parked == some pid) := by
  rw [futSet_eq_pad, ← cntPark_pad fs (f + 1 - fs.length) pid, ← futGet_pad fs (f + 1 - fs.length) f]
  generalize hl : fs ++ List.replicate (f + 1 - fs.length) ({} : Fut) = l
  have h : f < l.length := by rw [← hl, List.length_append, List.length_replicate]; omega
  rw [futGet_lt l f h, cntPark, cntPark, List.countP_set h]
  have hle := List.boole_getElem_le_countP (p := fun f : Fut => f.parked == some pid) h
  unfold ind
  omega

theorem cntPark_zero (fs : List Fut) (pid : Nat) :
    cntPark fs pid = 0 ↔ ∀ f, (futGet fs f).parked ≠ some pid := by
  unfold cntPark
  rw [List.countP_eq_zero]
  constructor
  · intro h f
    by_cases hf : f < fs.length
    · rw [futGet_lt fs f hf]
      simpa using h fs[f] (List.getElem_mem hf)
    · rw [futGet_default fs f (Nat.le_of_not_lt hf)]; exact fun h => nomatch h
  · intro h a ha
    obtain ⟨i, hi, rfl⟩ := List.getElem_of_mem ha
    simpa [futGet_lt fs i hi] using h i

def Eff.setFut (e : Eff) (f : Nat) (x : Fut) : Eff := { e with ps := { e.ps with futs := futSet e.ps.futs f x } }

/-- the all_of bookkeeping of one settled input -/
def allStep (rf : Eff → Nat → Val → Eff) (acc : Eff) (comp idx : Nat) (v : Val) : Eff :=
  let c := futGet acc.ps.futs comp
  if c.resolved then acc else
  let res := c.results.set idx v
  let rem := c.remaining - 1
  let acc1 := acc.setFut comp { c with results := res, remaining := rem }
  if rem = 0 then rf acc1 comp (.list res) else acc1

def cbStep (fuel now : Nat) (v : Val) (acc : Eff) (cb : Cb) : Eff :=
  match cb with
  | .anyCb comp idx => resolveFut fuel acc now comp (.pair idx v)
  | .allCb comp idx => allStep (fun a c w => resolveFut fuel a now c w) acc comp idx v

/-- state right after `resolve` marked the future and resumed its parked process, before callbacks -/
def markResolved (e : Eff) (now f : Nat) (v : Val) : Eff :=
  resumeParked (e.setFut f { futGet e.ps.futs f with resolved := true, value := v, cbs := [] }) now f

theorem resolveFut_succ (fuel : Nat) (e : Eff) (now f : Nat) (v : Val) :
    resolveFut (fuel + 1) e now f v =
      if (futGet e.ps.futs f).resolved then e
      else (futGet e.ps.futs f).cbs.foldl (cbStep fuel now v) (markResolved e now f v) := by
  rfl

theorem addCb_eq (e : Eff) (now g : Nat) (cb : Cb) :
    addCb e now g cb =
      if (futGet e.ps.futs g).resolved then cbStep depthFuel now (futGet e.ps.futs g).value e cb
      else e.setFut g { futGet e.ps.futs g with cbs := (futGet e.ps.futs g).cbs ++ [cb] } := by
  unfold addCb
  cases cb <;> rfl

/-- a predicate on effects that a `resolve` cascade preserves -/
structure CClosed (P : Eff → Prop) : Prop where
  resolve : ∀ e now f v, P e → (futGet e.ps.futs f).resolved = false → P (markResolved e now f v)
  allUpd : ∀ e c res rem, P e → (futGet e.ps.futs c).resolved = false →
      P (e.setFut c { futGet e.ps.futs c with results := res, remaining := rem })

/-- a predicate on effects that every action of a segment preserves -/
structure AClosed (P : Eff → Prop) : Prop extends CClosed P where
  cbAdd : ∀ e g cb, P e → (futGet e.ps.futs g).resolved = false →
      P (e.setFut g { futGet e.ps.futs g with cbs := (futGet e.ps.futs g).cbs ++ [cb] })
  bind : ∀ e f rs rm, P e → P (e.setFut f { results := rs, remaining := rm })
  push : ∀ e sp hook tagged, sp.data = 0 → P e → P (e.push sp hook tagged)
  release : ∀ e i sp, P e → (i, sp) ∈ e.ps.held →
      P { e with specs := e.specs ++ [sp],
                 ps := { e.ps with nid := e.ps.nid + 1, held := e.ps.held.filter (fun p => p.1 != i) } }
  crashed : ∀ e l, P e → P { e with ps := { e.ps with crashed := l } }
  cancels : ∀ e l, P e → P { e with cancels := l }
  hookLate : ∀ e pid hook, P e →
      P { e with ps := { e.ps with late := e.ps.late ++ [(pid, hook)], lateAtt := hook :: e.ps.lateAtt } }
  hookEarly : ∀ e id hook, P e → P { e with ps := { e.ps with hookOf := e.ps.hookOf ++ [(id, hook)] } }
  level : ∀ e l, P e → P { e with ps := { e.ps with level := l } }
  hops : ∀ e h, P e → P { e with ps := { e.ps with hopsOf := h } }

/-- … and that does not look at log entries other than `finish` -/
structure Closed (P : Eff → Prop) : Prop extends AClosed P where
  obs : ∀ e o, (∀ t pid, o ≠ .finish t pid) → P e → P (addObs e o)

theorem foldl_closed_mem {α} {P : Eff → Prop} (step : Eff → α → Eff) (l : List α)
    (hs : ∀ e a, a ∈ l → P e → P (step e a)) (e : Eff) (h : P e) : P (l.foldl step e) := by
  induction l generalizing e with
  | nil => exact h
  | cons a t ih =>
    exact ih (fun e b hb => hs e b (List.mem_cons_of_mem _ hb)) _ (hs e a List.mem_cons_self h)

theorem foldl_closed {α} {P : Eff → Prop} (step : Eff → α → Eff) (hs : ∀ e a, P e → P (step e a))
    (l : List α) (e : Eff) (h : P e) : P (l.foldl step e) :=
  foldl_closed_mem step l (fun e a _ => hs e a) e h

def Cb.tgt : Cb → Nat
  | .anyCb c _ => c
  | .allCb c _ => c

/-- `G` is where a cascade argument puts its rank and "not the composite under study" conditions -/
theorem cbStep_guarded {P : Eff → Prop} {G : Nat → Prop} {fuel now : Nat}
    (hr : ∀ e c v, G c → P e → P (resolveFut fuel e now c v))
    (hu : ∀ e c res rem, G c → (futGet e.ps.futs c).resolved = false → P e →
      P (e.setFut c { futGet e.ps.futs c with results := res, remaining := rem }))
    (v : Val) (acc : Eff) (cb : Cb) (hg : G cb.tgt) (h : P acc) : P (cbStep fuel now v acc cb) := by
  cases cb with
  | anyCb comp idx => exact hr _ _ _ hg h
  | allCb comp idx =>
    simp only [cbStep, allStep]
    split
    · exact h
    · rename_i hcr
      have h2 := hu acc comp ((futGet acc.ps.futs comp).results.set idx v)
        ((futGet acc.ps.futs comp).remaining - 1) hg (by simpa using hcr) h
      split
      · exact hr _ _ _ hg h2
      · exact h2

theorem resolveFut_walk {P : Eff → Prop} {now : Nat}
    (hres : ∀ e f v, P e → (futGet e.ps.futs f).resolved = false → P (markResolved e now f v))
    (hupd : ∀ e c res rem, P e → (futGet e.ps.futs c).resolved = false →
      P (e.setFut c { futGet e.ps.futs c with results := res, remaining := rem }))
    (fuel : Nat) : ∀ (e : Eff) (f : Nat) (v : Val), P e → P (resolveFut fuel e now f v) := by
  induction fuel with
  | zero => intro e f v h; exact h
  | succ n ih =>
    intro e f v h
    rw [resolveFut_succ]
    split
    · exact h
    · rename_i hr
      exact foldl_closed _ (fun acc cb => cbStep_guarded (G := fun _ => True) (fun e c w _ => ih e c w)
        (fun e c res rem _ hu he => hupd e c res rem he hu) v acc cb trivial) _ _ (hres e f v h (by simpa using hr))

theorem resolveFut_cclosed {P : Eff → Prop} (hc : CClosed P) (fuel : Nat) (e : Eff) (now f : Nat) (v : Val) (h : P e) :
    P (resolveFut fuel e now f v) :=
  resolveFut_walk (fun e f v => hc.resolve e now f v) hc.allUpd fuel e f v h

theorem resolveFut_closed {P : Eff → Prop} (hc : Closed P) (fuel : Nat)
    (e : Eff) (now f : Nat) (v : Val) (h : P e) : P (resolveFut fuel e now f v) :=
  resolveFut_cclosed hc.toCClosed fuel e now f v h

theorem cbStep_cclosed {P : Eff → Prop} (hc : CClosed P) (fuel now : Nat) (v : Val) (acc : Eff) (cb : Cb)
    (h1 : P acc) : P (cbStep fuel now v acc cb) :=
  cbStep_guarded (G := fun _ => True) (fun e c w _ => resolveFut_cclosed hc fuel e now c w)
    (fun e c res rem _ hu he => hc.allUpd e c res rem he hu) v acc cb trivial h1

theorem cbStep_closed {P : Eff → Prop} (hc : Closed P) (fuel now : Nat) (v : Val) (acc : Eff) (cb : Cb)
    (h1 : P acc) : P (cbStep fuel now v acc cb) := cbStep_cclosed hc.toCClosed fuel now v acc cb h1

def Act.binds : Act → Option Nat
  | .fresh f | .anyOf f _ | .allOf f _ => some f
  | _ => none

/-- (a composite built over a resolved input settles at once) -/
def Act.cascades : Act → Bool
  | .resolve _ _ | .anyOf _ _ | .allOf _ _ => true
  | _ => false

def Act.hooks : Act → Bool
  | .emit _ _ _ _ hook => hook != 0
  | .addHook _ _ => true
  | _ => false

/-- what the code of a segment preserves at the clock `now`, as far as it binds only slots `ok` permits, attaches a
    completion hook only if `hk` and starts a `resolve` cascade only if `cs`.  The permissions let a relation to the
    state the code started from (`HFrame_guarded`: no hook) and a link to a judge that reads a line at each `resolve`
    (`FV.FN_guarded`: no cascade) be instances, which `AClosed` cannot say -/
structure GClosed (now : Nat) (ok : Nat → Prop) (hk cs : Prop) (P : Eff → Prop) : Prop where
  resolve : cs → ∀ e f v, P e → (futGet e.ps.futs f).resolved = false → P (markResolved e now f v)
  allUpd : cs → ∀ e c res rem, P e → (futGet e.ps.futs c).resolved = false →
      P (e.setFut c { futGet e.ps.futs c with results := res, remaining := rem })
  cbAdd : cs → ∀ e g cb, P e → (futGet e.ps.futs g).resolved = false →
      P (e.setFut g { futGet e.ps.futs g with cbs := (futGet e.ps.futs g).cbs ++ [cb] })
  bind : ∀ e f rs rm, ok f → P e → P (e.setFut f { results := rs, remaining := rm })
  push : ∀ e sp hook tagged, sp.data = 0 → (hook ≠ 0 → hk) → P e → P (e.push sp hook tagged)
  release : ∀ e i sp, P e → (i, sp) ∈ e.ps.held →
      P { e with specs := e.specs ++ [sp],
                 ps := { e.ps with nid := e.ps.nid + 1, held := e.ps.held.filter (fun p => p.1 != i) } }
  crashed : ∀ e l, P e → P { e with ps := { e.ps with crashed := l } }
  cancels : ∀ e l, P e → P { e with cancels := l }
  hookLate : ∀ e pid hook, hk → P e →
      P { e with ps := { e.ps with late := e.ps.late ++ [(pid, hook)], lateAtt := hook :: e.ps.lateAtt } }
  hookEarly : ∀ e id hook, hk → P e → P { e with ps := { e.ps with hookOf := e.ps.hookOf ++ [(id, hook)] } }
  level : ∀ e l, P e → P { e with ps := { e.ps with level := l } }
  hops : ∀ e h, P e → P { e with ps := { e.ps with hopsOf := h } }

section guarded
variable {now : Nat} {ok : Nat → Prop} {hk cs : Prop} {P : Eff → Prop}

theorem resolveFut_guarded (hc : GClosed now ok hk cs P) (hcs : cs) (fuel : Nat) (e : Eff) (f : Nat) (v : Val) (h : P e) :
    P (resolveFut fuel e now f v) := resolveFut_walk (hc.resolve hcs) (hc.allUpd hcs) fuel e f v h

theorem addCb_guarded (hc : GClosed now ok hk cs P) (hcs : cs) (e : Eff) (g : Nat) (cb : Cb) (h : P e) :
    P (addCb e now g cb) := by
  rw [addCb_eq]
  split
  · exact cbStep_guarded (G := fun _ => True) (fun e c w _ => resolveFut_guarded hc hcs _ e c w)
      (fun e c res rem _ hu he => hc.allUpd hcs e c res rem he hu) _ _ _ trivial h
  · rename_i hr
    exact hc.cbAdd hcs e g cb h (by simpa using hr)

theorem runAct_guarded (hc : GClosed now ok hk cs P) (e : Eff) (a : Act) (hb : ∀ f, a.binds = some f → ok f)
    (hh : a.hooks = true → hk) (hcs : a.cascades = true → cs) (h : P e) : P (runAct now e a) := by
  cases a with
  | emit tgt kind delay daemon hook => exact hc.push _ _ _ _ rfl (fun h0 => hh (by simpa [Act.hooks] using h0)) h
  | emitPast tgt kind back daemon | emitAbs tgt kind time daemon => exact hc.push _ _ _ _ rfl (fun h0 => absurd rfl h0) h
  | release i =>
    simp only [runAct]
    split
    · exact h
    · rename_i j sp hf
      cases (by simpa using List.find?_some hf : j = i)
      exact hc.release e _ sp h (List.mem_of_find?_eq_some hf)
  | cancel kind =>
    simp only [runAct]
    split
    · exact hc.cancels _ _ h
    · exact h
  | resolve f v => exact resolveFut_guarded hc (hcs rfl) _ _ _ _ h
  | anyOf f gs | allOf f gs =>
    simp only [runAct]
    apply foldl_closed
    · intro e' p h'; exact addCb_guarded hc (hcs (by rfl)) _ _ _ h'
    · exact hc.bind e f _ _ (hb f rfl) h
  | fresh f => exact hc.bind e f [] 0 (hb f rfl) h
  | crash x | restore x => exact hc.crashed _ _ h
  | addHook kind hook =>
    simp only [runAct]
    split
    · unfold addHookTo
      split
      · exact hc.hookLate _ _ _ (hh rfl) h
      · exact hc.hookEarly _ _ _ (hh rfl) h
    · exact h
  | metric x abs v => exact hc.level _ _ h
  | relay tgt kind delay limit daemon =>
    simp only [runAct]
    split
    · exact hc.hops _ _ (hc.push _ _ _ _ rfl (fun h0 => absurd rfl h0) h)
    · exact h

theorem acts_guarded (hc : GClosed now ok hk cs P) (acts : List Act) (e : Eff) (hb : ∀ a ∈ acts, ∀ f, a.binds = some f → ok f)
    (hh : ∀ a ∈ acts, a.hooks = true → hk) (hcs : ∀ a ∈ acts, a.cascades = true → cs) (h : P e) :
    P (acts.foldl (runAct now) e) :=
  foldl_closed_mem _ acts (fun e a ha he => runAct_guarded hc e a (hb a ha) (hh a ha) (hcs a ha) he) e h

theorem runHooks_guarded (hc : GClosed now ok hk cs P) (hobs : ∀ e h, P e → P (addObs e (.hook now h))) (hooks : List Nat)
    (e : Eff) (h : P e) : P (runHooks now e hooks) :=
  foldl_closed _ (fun e' k h' => hc.push _ _ _ _ rfl (fun h0 => absurd rfl h0) (hobs _ k h')) hooks e h

end guarded

theorem AClosed.guarded {P : Eff → Prop} (hc : AClosed P) (now : Nat) : GClosed now (fun _ => True) True True P where
  resolve := fun _ e f v => hc.resolve e now f v
  allUpd := fun _ => hc.allUpd
  cbAdd := fun _ => hc.cbAdd
  bind := fun e f rs rm _ => hc.bind e f rs rm
  push := fun e sp hook tagged hd _ => hc.push e sp hook tagged hd
  release := hc.release
  crashed := hc.crashed
  cancels := hc.cancels
  hookLate := fun e pid hook _ => hc.hookLate e pid hook
  hookEarly := fun e id hook _ => hc.hookEarly e id hook
  level := hc.level
  hops := hc.hops

theorem runAct_aclosed {P : Eff → Prop} (hc : AClosed P) (now : Nat) (e : Eff) (a : Act) (h : P e) :
    P (runAct now e a) := runAct_guarded (hc.guarded now) e a (fun _ _ => trivial) (fun _ => trivial) (fun _ => trivial) h

theorem runAct_closed {P : Eff → Prop} (hc : Closed P) (now : Nat) (e : Eff) (a : Act) (h : P e) :
    P (runAct now e a) := runAct_aclosed hc.toAClosed now e a h

theorem acts_aclosed {P : Eff → Prop} (hc : AClosed P) (now : Nat) (acts : List Act) (e : Eff) (h : P e) :
    P (acts.foldl (runAct now) e) :=
  acts_guarded (hc.guarded now) acts e (fun _ _ _ _ => trivial) (fun _ _ _ => trivial) (fun _ _ _ => trivial) h

theorem acts_closed {P : Eff → Prop} (hc : Closed P) (now : Nat) (acts : List Act) (e : Eff) (h : P e) :
    P (acts.foldl (runAct now) e) := acts_aclosed hc.toAClosed now acts e h

theorem runHooks_closed {P : Eff → Prop} (hc : Closed P) (now : Nat) (hooks : List Nat) (e : Eff) (h : P e) :
    P (runHooks now e hooks) :=
  runHooks_guarded (hc.toAClosed.guarded now) (fun e k => hc.obs e _ (fun _ _ => nofun)) hooks e h

end HappyModel.C01
