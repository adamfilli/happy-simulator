import HappyProofs.C11.Ghost
/-! A node that becomes leader starts with fresh replication bookkeeping: `_become_leader` sets
    `match_index` to 0 and `next_index` to `last_index + 1` for every peer, so nothing a node
    learnt about its followers in an earlier leadership term survives into a later one.
    Holds for every variant, every cluster size and every action list. -/
namespace HappyModel.C11

/-- the bookkeeping `_become_leader` installs -/
def FreshProgress (n : Nat) (x : Node) : Prop :=
  x.matchIndex = List.replicate n 0 ∧ x.nextIndex = List.replicate n (x.log.length + 1)

/-- a handler makes a leader only of a leader, or through `_become_leader` -/
def NewLeader (n : Nat) (x : Node) (r : HR) : Prop := r.node.role = .leader → x.role = .leader ∨ FreshProgress n r.node

theorem Does.newLeader {v : Variant} {n : Nat} {x : Node} {me src : Nat} {inp : Inp} {r : HR} (h : Does v n x me src inp r) :
    NewLeader n x r := by
  cases h with
  | same | hb | nack | append | vote => exact Or.inl
  | ack _ _ _ _ _ hl => exact fun _ => Or.inl hl
  | down | campaign => exact fun h => by cases h
  | grant _ _ _ _ _ h1 => rcases h1 with ⟨rfl, _⟩ | ⟨rfl, _⟩ <;> first | exact Or.inl | exact fun h => by cases h
  | campaignWin | elect => exact fun _ => Or.inr ⟨rfl, rfl⟩
  | accept => exact fun h => nomatch (congrArg EView.role (aeAccept_fr ..).ev).symm.trans h

theorem step_new_leader_fresh (v : Variant) (s : St) (a : Act) (i : Nat)
    (h0 : (s.nodes i).role ≠ .leader) (h1 : ((step v s a).1.nodes i).role = .leader) :
    FreshProgress s.n ((step v s a).1.nodes i) := by
  rcases step_cases v s a with h | ⟨j, src, inp, r, h⟩
  · rw [h.nodes] at h1; exact absurd h1 h0
  · rw [h.node] at h1 ⊢
    split at h1
    · rename_i hj; rw [if_pos hj]; exact (h.does.newLeader h1).resolve_left (hj ▸ h0)
    · exact absurd h1 h0

/-- **fresh progress at every election win**: along any run (any variant, cluster size, action
    list), whenever an action turns a non-leader into a leader, that node's `match_index` is 0 and
    its `next_index` is `last_index + 1` for every peer — whatever it had recorded as leader of an
    earlier term is gone -/
theorem new_leader_progress_reset (v : Variant) (n : Nat) (as : List Act) (a : Act) (i : Nat)
    (h0 : ((run v (init n) as).nodes i).role ≠ .leader)
    (h1 : ((step v (run v (init n) as) a).1.nodes i).role = .leader) :
    FreshProgress n ((step v (run v (init n) as) a).1.nodes i) := by
  have h := step_new_leader_fresh v (run v (init n) as) a i h0 h1
  rwa [run_n] at h

/-- node 0 leads term 1 and learns `match_index[1] = 1`, is deposed by a RequestVote of term 2, and
    is about to win term 3 with the vote of node 1 (message 15) -/
def reelectRun : List Act :=
  [ .timeout 0, .deliver 0, .deliver 2, .submit 0 0 ⟨1, 0, 0, 1, none⟩, .heartbeat 0, .deliver 5, .deliver 7,
    .timeout 2, .timeout 2, .deliver 10, .timeout 0, .deliver 13 ]

/-- non-vacuity: before the winning vote node 0 is a candidate that still remembers `match_index[1] = 1`
    from term 1; the vote makes it leader of term 3 with `match_index = 0`, `next_index = 2` everywhere -/
example : ((run Variant.repaired (init 3) reelectRun).nodes 0).role = .candidate
    ∧ ((run Variant.repaired (init 3) reelectRun).nodes 0).matchIndex = [0, 1, 0]
    ∧ ((step Variant.repaired (run Variant.repaired (init 3) reelectRun) (.deliver 15)).1.nodes 0).role = .leader
    ∧ ((step Variant.repaired (run Variant.repaired (init 3) reelectRun) (.deliver 15)).1.nodes 0).term = 3
    ∧ ((step Variant.repaired (run Variant.repaired (init 3) reelectRun) (.deliver 15)).1.nodes 0).matchIndex = [0, 0, 0]
    ∧ ((step Variant.repaired (run Variant.repaired (init 3) reelectRun) (.deliver 15)).1.nodes 0).nextIndex = [2, 2, 2] := by
  decide +kernel

end HappyModel.C11
