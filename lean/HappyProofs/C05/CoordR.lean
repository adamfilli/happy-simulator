import HappyProofs.C05.ParExec
/-!
`coordLoopR` — the coordinator with the code's creation indices (`HappyModel/C05/Stateful.lean`: an
event injected at a barrier gets a fresh index from the destination's counter) — is an execution of
the abstract system exactly like `coordLoop`: re-indexing changes no event's time, target or kind, so
`Safe`, the pending multiset without indices, logs and states are those of `exchange`.
-/
namespace HappyModel.C05

variable {τ : Type} {σ : Type}

theorem reindex_map_proj (k : Nat) (l : List Ev) : (reindex k l).map proj = l.map proj := by
  induction l generalizing k with
  | nil => rfl
  | cons e es ih => simp [reindex, proj, ih]

theorem mem_reindex {k : Nat} {l : List Ev} {e : Ev} (h : e ∈ reindex k l) :
    ∃ e0 ∈ l, e.time = e0.time ∧ e.tgt = e0.tgt := by
  induction l generalizing k with
  | nil => simp [reindex] at h
  | cons x xs ih =>
    simp only [reindex, List.mem_cons] at h
    rcases h with rfl | h
    · exact ⟨x, by simp, rfl, rfl⟩
    · obtain ⟨e0, h0, h1⟩ := ih h
      exact ⟨e0, by simp [h0], h1⟩

theorem injectR_heap_all (c : Cfg) (msgs : List Msg) (q : Part σ) {P : Ev → Prop}
    (hP : ∀ e e0 : Ev, e.time = e0.time → e.tgt = e0.tgt → P e0 → P e)
    (h : ∀ e ∈ (inject c msgs q).heap, P e) : ∀ e ∈ (injectR c msgs q).heap, P e := by
  intro e he
  simp only [injectR, List.mem_append] at he
  rcases he with he | he
  · exact h e (by simp [inject, he])
  · obtain ⟨e0, h0, ht, hg⟩ := mem_reindex he
    exact hP e e0 ht hg (h e0 (by simp only [inject, List.mem_append]; exact Or.inr h0))

theorem Safe.toR {c : Cfg} {b : Nat} {ps : List (Part σ)} (safe : Safe c b (exchange c ps)) :
    Safe c b (exchangeR c ps) := by
  have inv := List.forall_mem_map.mp safe.inv
  refine ⟨List.forall_mem_map.mpr fun q hq => ⟨?_, ?_, ?_, (inv q hq).noTT, fun x hx => nomatch hx⟩,
    List.forall_mem_map.mpr (List.forall_mem_map.mp safe.clock),
    List.forall_mem_map.mpr fun _ _ => rfl, List.forall_mem_map.mpr (List.forall_mem_map.mp safe.good)⟩
  · exact injectR_heap_all c _ q (fun _ _ ht _ h => ht ▸ h) (inv q hq).geClock
  · exact injectR_heap_all c _ q (fun _ _ ht _ h => ht ▸ h) (inv q hq).geB
  · exact injectR_heap_all c _ q (fun _ _ _ hg h => (congrArg c.part hg).trans h) (inv q hq).owned

theorem heap_gt_exchangeR {c : Cfg} {T : Nat} {ps : List (Part σ)}
    (h : ∀ p ∈ exchange c ps, ∀ e ∈ p.heap, T < e.time) :
    ∀ p ∈ exchangeR c ps, ∀ e ∈ p.heap, T < e.time :=
  List.forall_mem_map.mpr fun q hq =>
    injectR_heap_all c _ q (fun _ _ ht _ h => ht ▸ h) (List.forall_mem_map.mp h q hq)

theorem sysPend_exchangeR_proj (c : Cfg) (ps : List (Part σ)) :
    (sysPend (exchangeR c ps)).map proj = (sysPend (exchange c ps)).map proj := by
  unfold sysPend exchangeR exchange
  generalize allMsgs ps = msgs
  induction ps with
  | nil => rfl
  | cons p ps ih =>
    simp only [List.map_cons, List.flatMap_cons, List.map_append, ih]
    simp [inject, injectR, reindex_map_proj]

theorem exchangeR_ssim (c : Cfg) (s : AS τ) (ps : List (Part (Nat → τ))) (R : List PEv)
    (sim : SSim c s (exchange c ps) R) : SSim c s (exchangeR c ps) R := by
  refine ⟨?_, ?_⟩
  · exact List.forall_mem_map.mpr (List.forall_mem_map.mp sim.st)
  · rw [sysPend_exchangeR_proj]; exact sim.pend

theorem exchangeR_pids (c : Cfg) (ps : List (Part σ)) : (exchangeR c ps).map (·.pid) = ps.map (·.pid) := by
  simp [exchangeR, injectR]

theorem exchangeR_logInv (c : Cfg) (ps : List (Part σ)) (hl : ∀ p ∈ ps, LogInv p) :
    ∀ p ∈ exchangeR c ps, LogInv p :=
  List.forall_mem_map.mpr fun q hq => ⟨(hl q hq).sorted, (hl q hq).leClock⟩

theorem coordLoopR_eq (h : Handler σ) (c : Cfg) (strict : Bool) (fuel wEff endT : Nat) :
    ∀ (n : Nat) (s : Coord σ), coordLoopR h c strict fuel wEff endT n s
      = coordLoopG (windowStepG (exchangeR c) h c strict fuel) wEff endT n s
  | 0, _ => rfl
  | n + 1, s => by
    simp only [coordLoopR, coordLoopG, coordLoopR_eq h c strict fuel wEff endT n]
    rfl

theorem TInv.windowR {hE : EHandler τ} {c : Cfg} {ids : List Nat} {s0 : AS τ} {fuel T b we w : Nat}
    {ps : List (Part (Nat → τ))} (hids : ids.Nodup) (hlinks : ∀ l ∈ c.links, l.dst ∈ ids)
    (hw : WindowLeLat c w) (hb : b ≤ we) (hwe : we ≤ b + w) (hT : we ≤ T)
    (inv : TInv hE c ids s0 T b ps) (ok : WindowOk (liftP hE) c fuel we ps) :
    TInv hE c ids s0 T we (oneWindowR (liftP hE) c true fuel we ps) := by
  have base := inv.window hids hlinks hw hb hwe hT ok
  obtain ⟨E, hv, sim, hlogs, htg⟩ := base.exec
  refine ⟨base.safe.toR, hT, ?_, ?_, E, hv, exchangeR_ssim c _ _ [] sim, ?_, htg⟩
  · have := base.pids
    simp only [oneWindow, oneWindowR, exchange_pids, exchangeR_pids] at this ⊢
    exact this
  · exact exchangeR_logInv c _ (execAll_logInv _ c true fuel we inv.logInv)
  · refine List.forall_mem_map.mpr fun q hq => ?_
    simpa [inject, injectR] using List.forall_mem_map.mp hlogs q hq

theorem par_execR (hE : EHandler τ) (c : Cfg) (ids : List Nat) (fuel wEff endT n : Nat)
    (s : Coord (Nat → τ)) (s0 : AS τ) (hids : ids.Nodup) (hlinks : ∀ l ∈ c.links, l.dst ∈ ids)
    (hw : WindowLeLat c wEff) (hpos : 0 < wEff) (he : s.err = none) (hcur : s.cur ≤ endT)
    (inv : TInv hE c ids s0 endT s.cur s.parts)
    (hres : (coordLoopR (liftP hE) c true fuel wEff endT n s).err = none) :
    ParExecOf hE c ids s0 endT (coordLoopR (liftP hE) c true fuel wEff endT n s).parts := by
  have key := coordLoop_inv (exchangeR c) (liftP hE) c fuel wEff endT _ (coordLoopR_eq _ c true fuel wEff endT)
    (fun b ps => TInv hE c ids s0 endT b ps)
    (fun ps => ∀ p ∈ ps, ∀ e ∈ p.heap, endT < e.time)
    (fun b we ps i hb hle hT ok => i.windowR hids hlinks hw hb hle hT ok)
    (fun _ => heap_gt_of_all_empty)
    (fun _ i ok => heap_gt_exchangeR ((execAll_ran hw (Nat.le_refl _) i.safe ok).heap_gt (by omega)))
    n s he hcur inv hres
  exact key.1.execOf key.2

end HappyModel.C05
