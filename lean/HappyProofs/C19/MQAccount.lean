import HappyProofs.C19.MQStep
/-!
# C19 — "every published message stays accounted for"

`Inv s`: pending and in-flight partition the live keys (`Part`), `live` / `dlq` ids are below `npub`, and
`live + acknowledged + dead-lettered = published`.  Every action of the repaired queue (`cfg.legacy = false`)
preserves `Inv`, enabled or not (nonsense actions too), so the observable counters add up after every step of
every schedule.
-/
namespace HappyModel.C19

/-- pending `p` and in-flight `f` partition the live keys `l` -/
structure Part (p f l : List Nat) : Prop where
  pN : p.Nodup
  fN : f.Nodup
  lN : l.Nodup
  pL : ∀ k ∈ p, k ∈ l ∧ k ∉ f
  fL : ∀ k ∈ f, k ∈ l
  lPF : ∀ k ∈ l, k ∈ p ∨ k ∈ f
  len : p.length + f.length = l.length

theorem Part.nil : Part [] [] [] := by
  refine ⟨?_, ?_, ?_, ?_, ?_, ?_, ?_⟩ <;> simp

theorem Part.not_pending {p f l : List Nat} (h : Part p f l) {k : Nat} (hk : k ∈ f) : k ∉ p :=
  fun hp => (h.pL k hp).2 hk

theorem Part.mem_iff {p f l : List Nat} (h : Part p f l) (k : Nat) : k ∈ l ↔ k ∈ p ∨ k ∈ f :=
  ⟨h.lPF k, fun hk => hk.elim (fun hp => (h.pL k hp).1) (h.fL k)⟩

/-- a partition from membership alone: `p ++ f` and `l` are duplicate-free lists with the same elements, hence
    of the same length -/
theorem Part.of_mem {p f l : List Nat} (pN : p.Nodup) (fN : f.Nodup) (lN : l.Nodup) (hd : ∀ k ∈ p, k ∉ f)
    (hl : ∀ k, k ∈ l ↔ k ∈ p ∨ k ∈ f) : Part p f l := by
  refine ⟨pN, fN, lN, fun k hk => ⟨(hl k).2 (.inl hk), hd k hk⟩, fun k hk => (hl k).2 (.inr hk),
    fun k hk => (hl k).1 hk, ?_⟩
  have hpf : (p ++ f).Nodup := List.nodup_append.2 ⟨pN, fN, fun a ha b hb e => hd a ha (e ▸ hb)⟩
  simpa using ((List.perm_ext_iff_of_nodup hpf lN).2 fun a => by rw [List.mem_append, hl]).length_eq

theorem Part.eraseAll {p f l : List Nat} (h : Part p f l) (k : Nat) :
    Part (p.erase k) (f.erase k) (l.erase k) :=
  .of_mem (h.pN.erase k) (h.fN.erase k) (h.lN.erase k)
    (fun x hx hf => (h.pL x (List.mem_of_mem_erase hx)).2 (List.mem_of_mem_erase hf))
    (fun x => by rw [h.pN.mem_erase_iff, h.fN.mem_erase_iff, h.lN.mem_erase_iff, h.mem_iff]; exact and_or_left)

theorem Part.push {p f l : List Nat} (h : Part p f l) {k : Nat} (hk : k ∉ l) :
    Part (p ++ [k]) f (l ++ [k]) :=
  have hf : k ∉ f := fun hf => hk (h.fL k hf)
  .of_mem (nodup_snoc h.pN fun hp => hk (h.pL k hp).1) h.fN (nodup_snoc h.lN hk)
    (fun x hx => (List.mem_append.1 hx).elim (fun hx => (h.pL x hx).2) fun hx => List.mem_singleton.1 hx ▸ hf)
    (fun x => by simp only [List.mem_append, h.mem_iff, or_right_comm])

theorem Part.toBack {p f l : List Nat} (h : Part p f l) {k : Nat} (hk : k ∈ l) :
    Part (p.erase k ++ [k]) (f.erase k) l :=
  .of_mem (nodup_snoc (h.pN.erase k) h.pN.not_mem_erase) (h.fN.erase k) h.lN
    (fun x hx hf => (List.mem_append.1 hx).elim
      (fun hx => (h.pL x (List.mem_of_mem_erase hx)).2 (List.mem_of_mem_erase hf))
      fun hx => h.fN.not_mem_erase (List.mem_singleton.1 hx ▸ hf))
    (fun x => by
      simp only [List.mem_append, List.mem_singleton, h.pN.mem_erase_iff, h.fN.mem_erase_iff, h.mem_iff]
      have := (h.mem_iff k).1 hk
      grind)

theorem Part.toFront {p f l : List Nat} (h : Part p f l) {k : Nat} (hk : k ∈ f) :
    Part (k :: p) (f.erase k) l :=
  .of_mem (List.nodup_cons.2 ⟨h.not_pending hk, h.pN⟩) (h.fN.erase k) h.lN
    (fun x hx hf => (List.mem_cons.1 hx).elim (fun e => h.fN.not_mem_erase (e ▸ hf))
      fun hx => (h.pL x hx).2 (List.mem_of_mem_erase hf))
    (fun x => by
      simp only [List.mem_cons, h.fN.mem_erase_iff, h.mem_iff]
      grind)

/-- `_deliver_message`; the key may already be in flight (a redelivery event can meet a message a poll re-delivered
    meanwhile), hence `insertNew` -/
theorem Part.toFlight {p f l : List Nat} (h : Part p f l) {k : Nat} (hk : k ∈ l) :
    Part (p.erase k) (insertNew f k) l :=
  .of_mem (h.pN.erase k) (insertNew_nodup h.fN k) h.lN
    (fun x hx hf => ((mem_insertNew f k x).1 hf).elim (h.pL x (List.mem_of_mem_erase hx)).2
      fun e => h.pN.not_mem_erase (e ▸ hx))
    (fun x => by
      simp only [mem_insertNew, h.pN.mem_erase_iff, h.mem_iff]
      have := (h.mem_iff k).1 hk
      grind)

structure Inv (s : MQ) : Prop where
  part : Part s.pending s.inflight s.live
  lB : ∀ k ∈ s.live, k < s.npub
  acc : s.live.length + s.nAck + s.dlq.length = s.npub
  dB : ∀ k ∈ s.dlq, k < s.npub ∧ k ∉ s.live

theorem Inv.init : Inv {} := ⟨Part.nil, by simp, rfl, by simp⟩

theorem Inv.fresh {s : MQ} (inv : Inv s) : s.npub ∉ s.live :=
  fun h => Nat.lt_irrefl _ (inv.lB _ h)

theorem Inv.pub {s : MQ} (inv : Inv s) :
    Inv { s with npub := s.npub + 1, live := s.live ++ [s.npub], pending := s.pending ++ [s.npub] } := by
  refine ⟨inv.part.push inv.fresh, ?_, ?_, ?_⟩
  · intro x hx
    simp only [List.mem_append, List.mem_singleton] at hx
    rcases hx with hx | rfl
    · exact Nat.lt_succ_of_lt (inv.lB x hx)
    · exact Nat.lt_succ_self _
  · have := inv.acc
    simp only [List.length_append, List.length_singleton]
    omega
  · intro x hx
    have hx' := inv.dB x hx
    refine ⟨Nat.lt_succ_of_lt hx'.1, fun hm => ?_⟩
    simp only [List.mem_append, List.mem_singleton] at hm
    rcases hm with hm | rfl
    · exact hx'.2 hm
    · exact Nat.lt_irrefl _ hx'.1

theorem Inv.publish (cfg : Cfg) {s : MQ} (inv : Inv s) : Inv (s.publish cfg).1 := by
  unfold MQ.publish
  split
  · exact inv
  · exact inv.pub

theorem Inv.dispatch {s : MQ} (inv : Inv s) (t k c : Nat) (hk : k ∈ s.live) :
    Inv (s.dispatch t k c) :=
  ⟨inv.part.toFlight hk, inv.lB, inv.acc, inv.dB⟩

theorem Inv.ackMsg (cfg : Cfg) (hl : cfg.legacy = false) {s : MQ} (inv : Inv s) {k : Nat} (hk : k ∈ s.live) :
    Inv { s with inflight := s.inflight.erase k, pending := s.dropPending cfg k, live := s.live.erase k,
                 sched := s.sched.erase k, nAck := s.nAck + 1 } := by
  have hpos := List.length_pos_of_mem hk
  refine ⟨?_, fun x hx => inv.lB x (List.mem_of_mem_erase hx), ?_,
    fun x hx => ⟨(inv.dB x hx).1, fun hm => (inv.dB x hx).2 (List.mem_of_mem_erase hm)⟩⟩
  · simp only [dropPending_eq cfg hl]
    exact inv.part.eraseAll k
  · have := inv.acc
    simp only [List.length_erase_of_mem hk]
    omega

theorem Inv.toDlq (cfg : Cfg) (hl : cfg.legacy = false) {s : MQ} (inv : Inv s) (k : Nat)
    (hk : k ∈ s.live) : Inv (s.toDlq cfg k) := by
  have hpos := List.length_pos_of_mem hk
  unfold MQ.toDlq
  refine ⟨?_, ?_, ?_, ?_⟩
  · simp only [dropPending_eq cfg hl]
    exact inv.part.eraseAll k
  · intro x hx
    exact inv.lB x (List.mem_of_mem_erase hx)
  · have := inv.acc
    simp only [List.length_erase_of_mem hk, List.length_append, List.length_singleton]
    omega
  · intro x hx
    simp only [List.mem_append, List.mem_singleton] at hx
    rcases hx with hx | rfl
    · exact ⟨(inv.dB x hx).1, fun hm => (inv.dB x hx).2 (List.mem_of_mem_erase hm)⟩
    · exact ⟨inv.lB _ hk, inv.part.lN.not_mem_erase⟩

theorem Inv.requeue (cfg : Cfg) (hl : cfg.legacy = false) {s : MQ} (inv : Inv s) (k : Nat)
    (hk : k ∈ s.live) : Inv (s.requeue cfg k) := by
  unfold MQ.requeue
  refine ⟨?_, inv.lB, inv.acc, inv.dB⟩
  simp only [dropPending_eq cfg hl]
  exact inv.part.toBack hk

theorem Step.inv {cfg : Cfg} (hl : cfg.legacy = false) {t : Nat} {s s' : MQ} {a : Act} {o : Out}
    (h : Step cfg t s a s' o) (inv : Inv s) : Inv s' := by
  have frame : ∀ s' : MQ, s'.pending = s.pending → s'.inflight = s.inflight → s'.live = s.live →
      s'.npub = s.npub → s'.nAck = s.nAck → s'.dlq = s.dlq → Inv s' := fun s' h1 h2 h3 h4 h5 h6 =>
    ⟨h1 ▸ h2 ▸ h3 ▸ inv.part, h3 ▸ h4 ▸ inv.lB, h3 ▸ h4 ▸ h5 ▸ h6 ▸ inv.acc, h3 ▸ h4 ▸ h6 ▸ inv.dB⟩
  cases h with
  | stay => exact inv
  | pub => exact inv.pub
  | poll _ hk => exact inv.dispatch t _ _ hk
  | redeliv hk => exact (frame { s with sched := s.sched.erase _ } rfl rfl rfl rfl rfl rfl).dispatch t _ _ hk
  | ack hk => exact inv.ackMsg cfg hl hk
  | requeue hk => exact inv.requeue cfg hl _ hk
  | dlq _ hk => exact inv.toDlq cfg hl _ hk
  | tmoEv hi => exact ⟨inv.part.toFront hi, inv.lB, inv.acc, inv.dB⟩
  | _ => exact frame _ rfl rfl rfl rfl rfl rfl

theorem Inv.step (cfg : Cfg) (hl : cfg.legacy = false) {s : MQ} (inv : Inv s) (t : Nat) (a : Act) :
    Inv (s.step cfg t a).1 :=
  (step_spec cfg t s a).inv hl inv

-- the time `0` is a dummy: `MQ.step` ignores `t` on `.rej` and `.tmo`, so the two sides agree by computation
theorem Inv.reject (cfg : Cfg) (hl : cfg.legacy = false) {s : MQ} (inv : Inv s) (k : Nat)
    (rq : Bool) : Inv (s.reject cfg k rq) :=
  inv.step cfg hl 0 (.rej k rq)

theorem Inv.timeout (cfg : Cfg) (hl : cfg.legacy = false) {s : MQ} (inv : Inv s) (k : Nat) :
    Inv (s.timeout cfg k).1 :=
  inv.step cfg hl 0 (.tmo k)

theorem Inv.exec (cfg : Cfg) (hl : cfg.legacy = false) (sched : List (Nat × Act)) :
    ∀ {s : MQ}, Inv s → Inv (MQ.exec cfg s sched) := by
  induction sched with
  | nil => intro s inv; exact inv
  | cons ta rest ih =>
    intro s inv
    obtain ⟨t, a⟩ := ta
    simp only [MQ.exec]
    exact ih (inv.step cfg hl t a)

theorem Inv.accounted {s : MQ} (inv : Inv s) : s.ctr.accounted = true := by
  have h1 := inv.part.len
  have h2 := inv.acc
  simp only [Ctr.accounted, MQ.ctr, beq_iff_eq]
  omega

theorem run_accounted (cfg : Cfg) (hl : cfg.legacy = false) (sched : List (Nat × Act)) :
    ∀ {s : MQ}, Inv s → jAccounted (MQ.run cfg s sched) = none := by
  induction sched with
  | nil => intro s inv; rfl
  | cons ta rest ih =>
    intro s inv
    obtain ⟨t, a⟩ := ta
    have inv' := inv.step cfg hl t a
    simp only [MQ.run, jAccounted, inv'.accounted, if_true]
    exact ih inv'

theorem message_accounted (cfg : Cfg) (hl : cfg.legacy = false) (sched : List (Nat × Act)) :
    jAccounted (MQ.run cfg {} sched) = none :=
  run_accounted cfg hl sched Inv.init

theorem accounted_partition (cfg : Cfg) (hl : cfg.legacy = false) (sched : List (Nat × Act)) :
    let s := MQ.exec cfg {} sched
    s.pending.Nodup ∧ s.inflight.Nodup ∧ s.live.Nodup ∧
    (∀ k, k ∈ s.live ↔ (k ∈ s.pending ∨ k ∈ s.inflight)) ∧
    (∀ k, ¬ (k ∈ s.pending ∧ k ∈ s.inflight)) ∧
    (∀ k ∈ s.live, k < s.npub) ∧ (∀ k ∈ s.dlq, k < s.npub ∧ k ∉ s.live) ∧
    s.live.length + s.nAck + s.dlq.length = s.npub := by
  intro s
  have inv : Inv s := Inv.exec cfg hl sched Inv.init
  refine ⟨inv.part.pN, inv.part.fN, inv.part.lN, fun k => ⟨inv.part.lPF k, ?_⟩,
    fun k h => (inv.part.pL k h.1).2 h.2, inv.lB, inv.dB, inv.acc⟩
  rintro (h | h)
  · exact (inv.part.pL k h).1
  · exact inv.part.fL k h

/-- a run with a dispatch, a delivery, an acknowledgement, a second message that times out at the redelivery
    limit and is dead-lettered -/
def demoSched : List (Nat × Act) :=
  [(0, .sub 0), (1, .pub), (1, .pub), (2, .poll), (7, .fire 0), (7, .recv 0), (8, .ack 0),
   (9, .poll), (14, .fire 1), (14, .recv 1), (20, .tmo 1)]

example :
    (MQ.run { lat := 5, maxRe := 1 } {} demoSched).map (·.out) =
      [.unit, .pubOk 0, .pubOk 1, .disp 0 0 0 1, .emit 0 0 1 7, .recv 0 0 1, .unit,
       .disp 1 1 0 1, .emit 1 0 1 14, .recv 1 0 1, .tmoNone] ∧
    (MQ.exec { lat := 5, maxRe := 1 } {} demoSched).nAck = 1 ∧
    (MQ.exec { lat := 5, maxRe := 1 } {} demoSched).dlq = [1] ∧
    jAccounted (MQ.run { lat := 5, maxRe := 1 } {} demoSched) = none := by
  decide +kernel

theorem legacy_ghost_pending_witness :
    jAccounted (MQ.run {lat := 0, maxRe := 3, legacy := true} {}
      [(0, .sub 0), (1, .pub), (2, .pub), (3, .poll), (3, .fire 0), (3, .recv 0), (4, .tmo 0),
       (5, .ack 0)])
      = some "mq/accounted/counters-do-not-add-up" := by decide +kernel

/-- the same schedule with the fix: the counters add up -/
example :
    jAccounted (MQ.run {lat := 0, maxRe := 3} {}
      [(0, .sub 0), (1, .pub), (2, .pub), (3, .poll), (3, .fire 0), (3, .recv 0), (4, .tmo 0),
       (5, .ack 0)]) = none := by decide +kernel

end HappyModel.C19
