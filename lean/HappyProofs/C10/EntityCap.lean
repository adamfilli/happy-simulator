import HappyProofs.C10.EntityInv
namespace HappyModel.C10

variable {σ : Type}

def Ent.cobs1 (e e' : Ent σ) : Act → CObs
  | .req _ _ => ⟨true, decide (e.fwd.length < e'.fwd.length), decide (e.dropped.length < e'.dropped.length),
      e'.queue.length⟩
  | .poll _ => ⟨false, decide (e.fwd.length < e'.fwd.length), decide (e.dropped.length < e'.dropped.length),
      e'.queue.length⟩

def Ent.ctrace (P : Policy σ) (qcap : Nat) : Ent σ → List Act → List CObs
  | _, [] => []
  | e, a :: as => e.cobs1 (e.step P qcap a) a :: Ent.ctrace P qcap (e.step P qcap a) as

variable (P : Policy σ) (qcap : Nat) (e : Ent σ)

theorem step_cap (a : Act) (h : e.queue.length ≤ qcap) :
    capStepOK (some qcap) e.queue.length (e.cobs1 (e.step P qcap a) a) = true ∧
    (e.step P qcap a).queue.length ≤ qcap := by
  cases a with
  | req id t =>
    show capStepOK (some qcap) e.queue.length (e.cobs1 (e.onReq P qcap id t) (.req id t)) = true ∧
      (e.onReq P qcap id t).queue.length ≤ qcap
    rcases onReq_obs P qcap e id t with ⟨f, d, q⟩ | ⟨f, d, hc, q⟩ | ⟨f, d, hc, q⟩ <;>
    · simp only [Ent.cobs1, capStepOK, f, d, q]
      simp
      omega
  | poll t =>
    show capStepOK (some qcap) e.queue.length (e.cobs1 (e.onPoll P t) (.poll t)) = true ∧
      (e.onPoll P t).queue.length ≤ qcap
    rcases onPoll_obs P e t with ⟨f, d, q⟩ | ⟨f, d, q⟩ <;>
    · simp only [Ent.cobs1, capStepOK, f, d]
      simp
      omega

theorem step_drop_queue (a : Act) :
    ((e.step P qcap a).dropped.length = e.dropped.length ∨
      ((e.step P qcap a).dropped.length = e.dropped.length + 1 ∧ ¬ e.queue.length < qcap)) ∧
    (e.step P qcap a).queue.length ≤ e.queue.length + 1 := by
  cases a with
  | req id t =>
    show ((e.onReq P qcap id t).dropped.length = _ ∨ _) ∧ (e.onReq P qcap id t).queue.length ≤ _
    rcases onReq_obs P qcap e id t with ⟨_, d, q⟩ | ⟨_, d, _, q⟩ | ⟨_, d, hc, q⟩
    · exact ⟨Or.inl d, q ▸ Nat.le_succ _⟩
    · exact ⟨Or.inl d, Nat.le_of_eq q⟩
    · exact ⟨Or.inr ⟨d, hc⟩, q ▸ Nat.le_succ _⟩
  | poll t =>
    show ((e.onPoll P t).dropped.length = _ ∨ _) ∧ (e.onPoll P t).queue.length ≤ _
    rcases onPoll_obs P e t with ⟨_, d, q⟩ | ⟨_, d, q⟩
    · exact ⟨Or.inl d, q ▸ Nat.le_succ _⟩
    · exact ⟨Or.inl d, by omega⟩

theorem cobs1_drop (a : Act) :
    (e.cobs1 (e.step P qcap a) a).drop = decide (e.dropped.length < (e.step P qcap a).dropped.length) := by
  cases a <;> rfl

theorem cap_trace : ∀ (acts : List Act) (e : Ent σ), e.queue.length ≤ qcap →
    capacityOK (some qcap) e.queue.length (Ent.ctrace P qcap e acts) = true ∧
    (Ent.run P qcap e acts).queue.length ≤ qcap := by
  intro acts
  induction acts with
  | nil => intro e h; exact ⟨rfl, h⟩
  | cons a as ih =>
    intro e h
    obtain ⟨h1, h2⟩ := step_cap P qcap e a h
    obtain ⟨i1, i2⟩ := ih _ h2
    simp only [Ent.ctrace, capacityOK, Bool.and_eq_true, Ent.run]
    refine ⟨⟨h1, ?_⟩, i2⟩
    cases a <;> exact i1

theorem dropped_trace : ∀ (acts : List Act) (e : Ent σ),
    (Ent.run P qcap e acts).dropped.length =
      e.dropped.length + ((Ent.ctrace P qcap e acts).filter (·.drop)).length := by
  intro acts
  induction acts with
  | nil => intro e; simp [Ent.run, Ent.ctrace]
  | cons a as ih =>
    intro e
    simp only [Ent.run, Ent.ctrace]
    rw [ih]
    have hd := (step_drop_queue P qcap e a).1
    rw [List.filter_cons, cobs1_drop]
    rcases hd with h | ⟨h, _⟩
    · rw [h]; simp
    · rw [h]; simp; omega

theorem capStep_none (q db : Nat) (o : CObs) (h : capStepOK (some q) db o = true) (hd : o.drop = false) :
    capStepOK none db o = true := by
  simp only [capStepOK, hd, Bool.false_eq_true, if_false, Bool.and_eq_true, decide_eq_true_eq,
    Bool.true_and, Bool.not_false] at h ⊢
  obtain ⟨_, h2⟩ := h
  by_cases hr : o.req = true
  · simp only [hr, if_true] at h2 ⊢
    by_cases hf : o.fwd = true
    · simp only [hf, if_true] at h2 ⊢; exact h2
    · simp only [hf, Bool.false_eq_true, if_false, Bool.and_eq_true] at h2 ⊢
      simpa using h2.2
  · simp only [hr, Bool.false_eq_true, if_false] at h2 ⊢; exact h2

theorem step_no_drop (a : Act) (h : e.queue.length < qcap) :
    (e.cobs1 (e.step P qcap a) a).drop = false := by
  rw [cobs1_drop]
  rcases (step_drop_queue P qcap e a).1 with d | ⟨_, hc⟩
  · rw [d]; exact decide_eq_false (Nat.lt_irrefl _)
  · exact absurd h hc

theorem cap_trace_unbounded : ∀ (acts : List Act) (e : Ent σ),
    e.queue.length + acts.length ≤ qcap →
    capacityOK none e.queue.length (Ent.ctrace P qcap e acts) = true := by
  intro acts
  induction acts with
  | nil => intro e _; rfl
  | cons a as ih =>
    intro e h
    simp only [List.length_cons] at h
    have h1 := (step_cap P qcap e a (by omega)).1
    have h2 := step_no_drop P qcap e a (by omega)
    have h3 := (step_drop_queue P qcap e a).2
    simp only [Ent.ctrace, capacityOK, Bool.and_eq_true]
    refine ⟨capStep_none qcap _ _ h1 h2, ?_⟩
    have := ih (e.step P qcap a) (by omega)
    cases a <;> exact this

end HappyModel.C10
