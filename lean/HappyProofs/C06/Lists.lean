/-! Sums, products and `filterMap`s over an index list from which one element is erased or a class
    filtered out: what activation, deactivation and heal-all do to the projections of the active list. -/
namespace HappyModel.C06

theorem le_sum_map_of_mem (g : Nat → Nat) : ∀ (l : List Nat) (f : Nat), f ∈ l → g f ≤ (l.map g).sum
  | x :: xs, f, h => by
    simp only [List.map_cons, List.sum_cons]
    rcases List.mem_cons.mp h with rfl | h
    · omega
    · have := le_sum_map_of_mem g xs f h; omega

theorem sum_map_erase (g : Nat → Nat) : ∀ (l : List Nat) (f : Nat), f ∈ l →
    ((l.erase f).map g).sum = (l.map g).sum - g f
  | x :: xs, f, h => by
    by_cases hx : x = f
    · subst hx; simp
    · have hf : f ∈ xs := by
        rcases List.mem_cons.mp h with rfl | h
        · exact absurd rfl hx
        · exact h
      have ih := sum_map_erase g xs f hf
      have hle := le_sum_map_of_mem g xs f hf
      rw [List.erase_cons_tail (by simpa using hx)]
      simp only [List.map_cons, List.sum_cons, ih]
      omega

theorem sum_map_erase_zero (g : Nat → Nat) (l : List Nat) (f : Nat) (h : f ∈ l) (hz : g f = 0) :
    ((l.erase f).map g).sum = (l.map g).sum := by
  rw [sum_map_erase g l f h, hz]; rfl

theorem prod_map_erase_one (g : Nat → Nat) : ∀ (l : List Nat) (f : Nat), g f = 1 →
    ((l.erase f).map g).foldr (· * ·) 1 = (l.map g).foldr (· * ·) 1
  | [], _, _ => rfl
  | x :: xs, f, h => by
    by_cases hx : x = f
    · subst hx; simp [h]
    · rw [List.erase_cons_tail (by simpa using hx)]
      simp only [List.map_cons, List.foldr_cons, prod_map_erase_one g xs f h]

theorem mem_filterMap_fid {β} (fid : β → Nat) (L : Nat → Option β)
    (hL : ∀ g y, L g = some y → fid y = g) (l : List Nat) (y : β) (h : y ∈ l.filterMap L) :
    fid y ∈ l := by
  obtain ⟨g, hg, hy⟩ := List.mem_filterMap.mp h
  rw [hL g y hy]; exact hg

/-- a window that ends takes out its own layer only, wherever it sits in the stack; one that has
    no layer leaves the stack as it is -/
theorem filterMap_erase {β} (fid : β → Nat) (L : Nat → Option β)
    (hL : ∀ g y, L g = some y → fid y = g) : ∀ (l : List Nat) (f : Nat), l.Nodup →
    (l.erase f).filterMap L =
      if (L f).isSome then (l.filterMap L).filter (fun y => fid y != f) else l.filterMap L
  | [], _, _ => by simp only [List.erase_nil, List.filterMap_nil, List.filter_nil, ite_self]
  | x :: xs, f, nd => by
    have hx : x ∉ xs := (List.nodup_cons.mp nd).1
    have ih := filterMap_erase fid L hL xs f (List.nodup_cons.mp nd).2
    by_cases hxf : x = f
    · subst hxf
      -- the layers below are those of other windows
      have keep : (xs.filterMap L).filter (fun y => fid y != x) = xs.filterMap L :=
        List.filter_eq_self.mpr fun y hy => by
          have hne : fid y ≠ x := fun h => hx (h ▸ mem_filterMap_fid fid L hL xs y hy)
          simpa using hne
      rw [List.erase_cons_head, List.filterMap_cons]
      cases hLx : L x with
      | none => rfl
      | some y => simp [hL x y hLx, keep]
    · rw [List.erase_cons_tail (by simpa using hxf), List.filterMap_cons, List.filterMap_cons, ih]
      cases hLx : L x with
      | none => rfl
      | some y =>
        have : (fid y != f) = true := by simpa [hL x y hLx] using hxf
        simp only [List.filter_cons, this, if_true]
        split <;> rfl

theorem sum_map_filter_zero (g : Nat → Nat) (p : Nat → Bool) (hz : ∀ x, p x = false → g x = 0) :
    ∀ l : List Nat, ((l.filter p).map g).sum = (l.map g).sum
  | [] => rfl
  | x :: xs => by
    have ih := sum_map_filter_zero g p hz xs
    by_cases hp : p x = true
    · simp [hp, ih]
    · have : g x = 0 := hz x (by simpa using hp)
      simp [hp, ih, this]

theorem sum_map_zero (g : Nat → Nat) : ∀ l : List Nat, (∀ x ∈ l, g x = 0) → (l.map g).sum = 0
  | [], _ => rfl
  | x :: xs, h => by
    simp [h x (List.mem_cons_self ..), sum_map_zero g xs (fun y hy => h y (List.mem_cons_of_mem _ hy))]

theorem filterMap_filter_none {β} (L : Nat → Option β) (p : Nat → Bool)
    (hz : ∀ x, p x = false → L x = none) : ∀ l : List Nat, (l.filter p).filterMap L = l.filterMap L
  | [] => rfl
  | x :: xs => by
    have ih := filterMap_filter_none L p hz xs
    by_cases hp : p x = true
    · simp [hp, List.filterMap_cons, ih]
    · have : L x = none := hz x (by simpa using hp)
      simp [hp, ih, this]

theorem filterMap_congr {β} {L L' : Nat → Option β} : ∀ {l : List Nat}, (∀ x ∈ l, L x = L' x) →
    l.filterMap L = l.filterMap L'
  | [], _ => rfl
  | x :: xs, h => by
    rw [List.filterMap_cons, List.filterMap_cons, h x (List.mem_cons_self ..),
      filterMap_congr fun y hy => h y (List.mem_cons_of_mem _ hy)]

end HappyModel.C06
