import HappyProofs.C14.LsmGhost
/-! The bookkeeping that ties every frame (its first and last segment, its program counter) to its event in the ghost
    log; it is kept along every in-order run. -/
namespace HappyModel.C14

section

variable {cfg : Cfg} {start : Nat → Pc} {log : List Ev} {n : Nat} {f : Frame}

/-- `logSeq` and the last clause of `hasEv` (WAL sequence numbers) are kept for C15's WAL invariant; nothing in C14 reads
    them, and `ShapeStep.logging` and `Pc.logging` exist to keep them. -/
structure FrameOk (cfg : Cfg) (start : Nat → Pc) (n : Nat) (log : List Ev) (f : Frame) : Prop where
  cons : PcCons (start f.id) f.pc
  unstarted : f.b = none → f.pc = start f.id ∧ f.e = none
  started : ∀ b, f.b = some b → b < n ∧ f.pc.isStart = false
  ended : ∀ e, f.e = some e → f.pc.isDone = true ∧ e < n ∧ ∃ b, f.b = some b ∧ b ≤ e
  doneEnded : f.pc.isDone = true → f.e ≠ none
  noEv : f.pc.applied = false → ∀ ev ∈ log, ev.id ≠ f.id
  hasEv : f.pc.applied = true → ∀ k c, start f.id = .pStart k c →
    ∃ ev ∈ log, ev.id = f.id ∧ ev.key = k ∧ ev.cell = c ∧ (∃ b, f.b = some b ∧ b ≤ ev.n) ∧
      (∀ e, f.e = some e → ev.n ≤ e) ∧ (cfg.wal ≠ none → ev.seq = f.seq0)
  logSeq : ∀ q, f.pc.logging = some q → cfg.wal ≠ none → f.seq0 = q

structure LInv (cfg : Cfg) (start : Nat → Pc) (y : Sys) (log : List Ev) : Prop where
  sys : SysInv cfg y
  ids : (y.frames.map (·.id)).Nodup
  frames : ∀ f ∈ y.frames, FrameOk cfg start y.n log f
  starts : ∀ f ∈ y.frames, (start f.id).isStart = true
  abs : ∀ k, y.st.abs k = (firstOn k log).join
  evn : ∀ e ∈ log, e.n < y.n
  evFrame : ∀ e ∈ log, ∃ f ∈ y.frames, f.id = e.id ∧ start f.id = .pStart e.key e.cell
  sortedN : (log.map (·.n)).Pairwise (· > ·)
  evIds : (log.map (·.id)).Nodup

/-- The bookkeeping of a system and its ghost log, whatever the tree started from.  `Q` holds of the operation
    ids of this system: of every id for a fresh tree (`LInv`), of those below the ids of the base events for a
    recovered one (`LInvB`). -/
structure Book (cfg : Cfg) (Q : Nat → Prop) (start : Nat → Pc) (y : Sys) (log : List Ev) : Prop where
  ids : (y.frames.map (·.id)).Nodup
  own : ∀ f ∈ y.frames, Q f.id
  frames : ∀ f ∈ y.frames, FrameOk cfg start y.n log f
  starts : ∀ f ∈ y.frames, (start f.id).isStart = true
  abs : ∀ k, y.st.abs k = (firstOn k log).join
  evn : ∀ e ∈ log, Q e.id → e.n < y.n
  evFrame : ∀ e ∈ log, Q e.id → ∃ f ∈ y.frames, f.id = e.id ∧ start f.id = .pStart e.key e.cell

theorem FrameOk.later
    (h : FrameOk cfg start n log f) : FrameOk cfg start (n + 1) log f :=
  ⟨h.cons, h.unstarted, fun b hb => ⟨Nat.lt_succ_of_lt (h.started b hb).1, (h.started b hb).2⟩,
   fun e he => ⟨(h.ended e he).1, Nat.lt_succ_of_lt (h.ended e he).2.1, (h.ended e he).2.2⟩,
   h.doneEnded, h.noEv, h.hasEv, h.logSeq⟩

theorem FrameOk.other {g : Frame}
    (h : FrameOk cfg start n log g) (ev : Option Ev) (hid : ∀ e, ev = some e → e.id ≠ g.id) :
    FrameOk cfg start (n + 1) (ev.toList ++ log) g := by
  have h' := h.later
  refine ⟨h'.cons, h'.unstarted, h'.started, h'.ended, h'.doneEnded, ?_, ?_, h'.logSeq⟩
  · intro ha e he
    rcases List.mem_append.mp he with he | he
    · exact hid e (Option.mem_toList.mp he)
    · exact h.noEv ha e he
  · intro ha k c hs
    obtain ⟨e, he, rest⟩ := h.hasEv ha k c hs
    exact ⟨e, List.mem_append_right _ he, rest⟩

theorem isStart_not_done {pc : Pc} (h : pc.isStart = true) : pc.isDone = false ∧ pc.applied = false ∧ pc.logging = none := by
  cases pc <;> simp [Pc.isStart] at h <;> exact ⟨rfl, rfl, rfl⟩

theorem advFrame_b (cfg : Cfg) (st : St) (n : Nat) (f : Frame) : (advFrame cfg st n f).b = some (f.b.getD n) := by
  cases h : f.b <;> simp [advFrame, h]

theorem advFrame_e {st : St} {e : Nat} (h : (advFrame cfg st n f).e = some e) :
    (stepOp cfg st f.pc).2.isDone = true ∧ e = n := by
  have h' : (if (stepOp cfg st f.pc).2.isDone then some n else none) = some e := h
  cases hd : (stepOp cfg st f.pc).2.isDone with
  | true => rw [hd, if_pos rfl] at h'; exact ⟨rfl, (Option.some.inj h').symm⟩
  | false => rw [hd, if_neg Bool.false_ne_true] at h'; cases h'

theorem evOf_eq (cfg : Cfg) (st : St) (n : Nat) (f : Frame) :
    evOf cfg st n f = (insOf cfg st f.pc).map fun x => ⟨n, f.id, x.1, x.2.1, x.2.2⟩ := by
  unfold evOf; cases insOf cfg st f.pc <;> rfl

theorem evOf_some {st : St} {e : Ev}
    (hF : FrameOk cfg start n log f) (he : evOf cfg st n f = some e) :
    e.n = n ∧ e.id = f.id ∧ start f.id = .pStart e.key e.cell ∧ ∀ e' ∈ log, e'.id ≠ f.id := by
  rw [evOf_eq] at he
  cases hins : insOf cfg st f.pc with
  | none => rw [hins] at he; cases he
  | some x =>
    obtain ⟨k, c, q⟩ := x
    rw [hins] at he
    injection he with he
    subst he
    obtain ⟨i1, _, i3, _⟩ := (stepOp_shape cfg st (start f.id) f.pc hF.cons).ins k c q hins
    exact ⟨rfl, rfl, i3, hF.noEv i1⟩

theorem FrameOk.adv
    (hF : FrameOk cfg start n log f) (st : St) (hst : (start f.id).isStart = true)
    (hevn : ∀ e ∈ log, e.id = f.id → e.n < n) :
    FrameOk cfg start (n + 1) ((evOf cfg st n f).toList ++ log) (advFrame cfg st n f) := by
  have hsh := stepOp_shape cfg st (start f.id) f.pc hF.cons
  have hbn : f.b.getD n ≤ n := by
    cases hfb : f.b with
    | none => exact Nat.le_refl _
    | some b0 => exact Nat.le_of_lt (hF.started b0 hfb).1
  have hb := advFrame_b cfg st n f
  have hlogb : ∀ q, f.pc.logging = some q → ∃ b0, f.b = some b0 := by
    intro q hl
    cases hfb : f.b with
    | some b0 => exact ⟨b0, rfl⟩
    | none =>
      rw [(hF.unstarted hfb).1, (isStart_not_done hst).2.2] at hl; cases hl
  refine { cons := hsh.cons, unstarted := fun h0 => (by rw [hb] at h0; cases h0), started := ?started, ended := ?ended,
           doneEnded := ?doneEnded, noEv := ?noEv, hasEv := ?hasEv, logSeq := ?logSeq }
  case started =>
    intro b hb'
    rw [hb] at hb'; injection hb' with hb'
    exact ⟨hb' ▸ Nat.lt_succ_of_le hbn, hsh.notStart⟩
  case ended =>
    intro e he'
    obtain ⟨hd, rfl⟩ := advFrame_e he'
    exact ⟨hd, Nat.lt_succ_self _, _, hb, hbn⟩
  case doneEnded =>
    intro hd
    simp only [advFrame] at hd ⊢
    simp [hd]
  case noEv =>
    intro ha e he'
    cases hins : insOf cfg st f.pc with
    | some x =>
      have := (hsh.ins x.1 x.2.1 x.2.2 hins).2.1
      rw [show (advFrame cfg st n f).pc.applied = true from this] at ha; cases ha
    | none =>
      rw [evOf_eq, hins] at he'
      exact hF.noEv ((hsh.noIns hins).symm.trans ha) e he'
  case hasEv =>
    intro ha k c hs
    cases hins : insOf cfg st f.pc with
    | some x =>
      obtain ⟨k', c', q⟩ := x
      obtain ⟨_, _, i3, i4⟩ := hsh.ins k' c' q hins
      rw [show start f.id = .pStart k c from hs] at i3
      injection i3 with i3a i3b
      subst i3a; subst i3b
      rw [evOf_eq, hins]
      refine ⟨⟨n, f.id, k, c, q⟩, by simp, rfl, rfl, rfl, ⟨_, hb, hbn⟩, fun e he' => (advFrame_e he').2 ▸ Nat.le_refl _, ?_⟩
      intro hw
      obtain ⟨b0, hfb⟩ := hlogb q (i4 hw)
      simp [advFrame, hfb, hF.logSeq q (i4 hw) hw]
    | none =>
      rw [evOf_eq, hins]
      obtain ⟨e, hel, e1, e2, e3, ⟨b, hfb, hbe⟩, _, e6⟩ := hF.hasEv ((hsh.noIns hins).symm.trans ha) k c hs
      refine ⟨e, hel, e1, e2, e3, ⟨b, by rw [hb, hfb]; rfl, hbe⟩, ?_, ?_⟩
      · intro e' he'
        rw [(advFrame_e he').2]
        exact Nat.le_of_lt (hevn e hel e1)
      · intro hw
        rw [e6 hw]
        simp [advFrame, hfb]
  case logSeq =>
    intro q hq hw
    rcases hsh.logging q hq with ⟨hs, rfl⟩ | hl
    · have hfb : f.b = none := by
        cases hfb : f.b with
        | none => rfl
        | some b0 => have := (hF.started b0 hfb).2; rw [hs] at this; cases this
      simp [advFrame, hfb]
    · obtain ⟨b0, hfb⟩ := hlogb q hl
      simp [advFrame, hfb, hF.logSeq q hl hw]

theorem adv_ids (cfg : Cfg) (st : St) (n : Nat) (pre post : List Frame) (f : Frame) :
    (pre ++ advFrame cfg st n f :: post).map (·.id) = (pre ++ f :: post).map (·.id) := by
  simp [advFrame]

theorem Book.step {Q : Nat → Prop} {y : Sys}
    (h : Book cfg Q start y log) (hs : SInv cfg y.st) (hp : ∀ f ∈ y.frames, POk cfg y.st f.pc) (id : Nat)
    (hh : HeadNow y id) :
    Book cfg Q start (y.step cfg id) (logStep cfg y log id) ∧
    (logStep cfg y log id = log ∨
      ∃ e, logStep cfg y log id = e :: log ∧ e.n = y.n ∧ Q e.id ∧ ∀ e' ∈ log, e'.id ≠ e.id) := by
  rcases gstep_cases cfg y id with ⟨h0, hl, _⟩ | ⟨pre, f, post, h1, h2, _, _, h5, h6, _⟩
  · rw [hl, h0]
    exact ⟨⟨h.ids, h.own, fun f hf => (h.frames f hf).later, h.starts, h.abs,
      fun e he hb => Nat.lt_succ_of_lt (h.evn e he hb), h.evFrame⟩, Or.inl rfl⟩
  · rw [h6, h5]
    obtain ⟨st, frames, n⟩ := y
    simp only at h1 hs hp ⊢
    subst h1
    have hfmem : f ∈ pre ++ f :: post := by simp
    have hF := h.frames f hfmem
    have hids := adv_ids cfg st n pre post f
    have hne : ∀ g, g ∈ pre ∨ g ∈ post → g.id ≠ f.id := fun g hg => ne_of_nodup_mid (·.id) h.ids hg
    refine ⟨⟨hids ▸ h.ids, ?_, ?_, ?_, ?_, ?_, ?_⟩, ?_⟩
    · exact forall_ids hids h.own
    · intro g hg
      simp only [List.mem_append, List.mem_cons] at hg
      have other : g ∈ pre ∨ g ∈ post → FrameOk cfg start (n + 1) ((evOf cfg st n f).toList ++ log) g := by
        intro hg'
        refine (h.frames g (by rcases hg' with a | a <;> simp [a])).other _ fun e he => ?_
        rw [(evOf_some hF he).2.1]
        exact (hne g hg').symm
      rcases hg with hg | rfl | hg
      · exact other (Or.inl hg)
      · exact hF.adv st (h.starts f hfmem) fun e he hid => h.evn e he (hid ▸ h.own f hfmem)
      · exact other (Or.inr hg)
    · exact forall_ids (Q := fun i => (start i).isStart = true) hids h.starts
    · -- the one field with content: the abstract map moves by the logged insert (`abs_step`), as `firstOn` of a cons does
      intro k'
      have hhead : FlushHead st f.pc := by
        cases hpc : f.pc with
        | pFlush t b => exact hh f hfmem t b hpc h2
        | _ => trivial
      rw [abs_step hs (hp f hfmem) hhead k', evOf_eq]
      cases hins : insOf cfg st f.pc with
      | none => exact h.abs k'
      | some x =>
        simp only [Option.map, Option.toList, List.singleton_append, firstOn]
        by_cases hk : k' = x.1
        · subst hk; simp
        · rw [if_neg hk, if_neg fun e : x.1 = k' => hk e.symm]; exact h.abs k'
    · intro e he hb
      rcases List.mem_append.mp he with he | he
      · rw [(evOf_some hF (Option.mem_toList.mp he)).1]; exact Nat.lt_succ_self _
      · exact Nat.lt_succ_of_lt (h.evn e he hb)
    · intro e he hb
      have old : ∀ g ∈ pre ++ f :: post, g.id = e.id ∧ start g.id = .pStart e.key e.cell →
          ∃ g' ∈ pre ++ advFrame cfg st n f :: post, g'.id = e.id ∧ start g'.id = .pStart e.key e.cell :=
        fun g hg hge => by
          have : g.id ∈ (pre ++ advFrame cfg st n f :: post).map (·.id) := hids ▸ List.mem_map_of_mem hg
          obtain ⟨g', hg', e'⟩ := List.mem_map.mp this
          exact ⟨g', hg', by rw [e']; exact hge.1, by rw [e']; exact hge.2⟩
      rcases List.mem_append.mp he with he | he
      · obtain ⟨_, e2, e3, _⟩ := evOf_some hF (Option.mem_toList.mp he)
        exact old f hfmem ⟨e2.symm, e3⟩
      · obtain ⟨g, hg, hge⟩ := h.evFrame e he hb
        exact old g hg hge
    · cases hev : evOf cfg st n f with
      | none => exact Or.inl rfl
      | some e =>
        obtain ⟨e1, e2, _, e4⟩ := evOf_some hF hev
        exact Or.inr ⟨e, rfl, e1, e2 ▸ h.own f hfmem, fun e' he' => e2 ▸ e4 e' he'⟩

theorem LInv.book {y : Sys} (h : LInv cfg start y log) :
    Book cfg (fun _ => True) start y log :=
  ⟨h.ids, fun _ _ => trivial, h.frames, h.starts, h.abs, fun e he _ => h.evn e he, fun e he _ => h.evFrame e he⟩

theorem linv_step {y : Sys} (h : LInv cfg start y log) (id : Nat)
    (hh : HeadNow y id) : LInv cfg start (y.step cfg id) (logStep cfg y log id) := by
  obtain ⟨hb, hlog⟩ := h.book.step h.sys.sinv h.sys.pcs id hh
  refine ⟨sysInv_step h.sys id, hb.ids, hb.frames, hb.starts, hb.abs, fun e he => hb.evn e he trivial,
    fun e he => hb.evFrame e he trivial, ?_, ?_⟩
  · rcases hlog with hl | ⟨e, hl, en, _, _⟩
    · rw [hl]; exact h.sortedN
    · rw [hl]
      exact List.pairwise_cons.mpr ⟨List.forall_mem_map.mpr fun e' he' => Nat.lt_of_lt_of_eq (h.evn e' he') en.symm, h.sortedN⟩
  · rcases hlog with hl | ⟨e, hl, _, _, hfresh⟩
    · rw [hl]; exact h.evIds
    · rw [hl]
      exact List.nodup_cons.mpr ⟨fun hx => (List.mem_map.mp hx).elim fun e' he' => hfresh e' he'.1 he'.2, h.evIds⟩

end

/-- the program counter operation `id` started with, when `frames` are the frames of the initial system -/
def startOf (frames : List Frame) (id : Nat) : Pc :=
  match frames.find? (fun f => f.id == id) with
  | some f => f.pc
  | none => .done .ok

theorem startOf_mem {frames : List Frame} (hn : (frames.map (·.id)).Nodup) {f : Frame} (hf : f ∈ frames) :
    startOf frames f.id = f.pc := by
  induction frames with
  | nil => cases hf
  | cons g r ih =>
    simp only [List.map_cons, List.nodup_cons] at hn
    unfold startOf
    simp only [List.find?_cons]
    rcases List.mem_cons.mp hf with rfl | hf'
    · simp
    · have : (g.id == f.id) = false := by
        simp only [beq_eq_false_iff_ne, ne_eq]
        intro e
        exact hn.1 (e ▸ List.mem_map_of_mem hf')
      simp only [this]
      exact ih hn.2 hf'

theorem pcCons_self {pc : Pc} (h : pc.isStart = true) : PcCons pc pc := by
  cases pc <;> simp [Pc.isStart] at h <;> simp [PcCons]

theorem linv_init {cfg : Cfg} {y : Sys} (h : InitSys cfg y) (h2 : 2 ≤ cfg.maxLevels) (hn : (y.frames.map (·.id)).Nodup)
    (start : Nat → Pc) (hstart : ∀ f ∈ y.frames, start f.id = f.pc) : LInv cfg start y [] := by
  refine ⟨sysInv_init h h2, hn, ?_, ?_, ?_, fun e he => (by cases he), fun e he => (by cases he), List.Pairwise.nil, List.nodup_nil⟩
  · intro f hf
    obtain ⟨hs, hb, he⟩ := h.frames f hf
    have hst := hstart f hf
    obtain ⟨d1, d2, d3⟩ := isStart_not_done hs
    refine ⟨(by rw [hst]; exact pcCons_self hs), fun _ => ⟨hst.symm, he⟩, fun b hb' => (by rw [hb] at hb'; cases hb'),
      fun e he' => (by rw [he] at he'; cases he'), fun hd => (by rw [d1] at hd; cases hd), fun _ e he' => (by cases he'),
      fun ha => (by rw [d2] at ha; cases ha), fun q hq => (by rw [d3] at hq; cases hq)⟩
  · intro f hf
    rw [hstart f hf]; exact (h.frames f hf).1
  · intro k
    obtain ⟨oracle, hst⟩ := h.st
    rw [hst]
    simp [St.abs, St.read, St.init, lookTabs_nil, lookLevels_replicate_nil, firstOn]

theorem linv_run {cfg : Cfg} {start : Nat → Pc} (sched : List Nat) (y : Sys) (log : List Ev)
    (h : LInv cfg start y log) (ho : InOrder cfg y sched) : LInv cfg start (y.run cfg sched) (logRun cfg y log sched) :=
  grun_induct (LInv cfg start) (fun _ _ id h hh => linv_step h id hh) sched y log h ho

theorem FrameOk.b_le_e {cfg : Cfg} {start : Nat → Pc} {n : Nat} {log : List Ev} {f : Frame}
    (h : FrameOk cfg start n log f) (b e : Nat) (hb : f.b = some b) (he : f.e = some e) : b ≤ e := by
  obtain ⟨b', hb', hle⟩ := (h.ended e he).2.2
  rw [hb] at hb'
  injection hb' with hb'
  rw [hb']; exact hle

end HappyModel.C14
