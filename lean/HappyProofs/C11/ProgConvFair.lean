import HappyProofs.C11.ProgConv
/-! The fairness predicate `convRun` can always be met, and within a bounded number of deliveries:
    from every reachable state with an established leader `L`, a live follower `p` of a term `≤ t`
    and an AppendEntries of `L`'s term in flight to `p` that reaches index `k`, the schedule
    `convActs` — deliver that message, deliver the reply, deliver the retry, … (nothing else) —
    of at most `2 · (next_index[p] + 2)` deliveries carries the conversation through to a successful
    acknowledgement (`conv_exists`).  This is the finiteness of the log back-off as a statement
    about runs: each refusal lowers `next_index[p]`, and `prev_log_index = 0` is never refused. -/
namespace HappyModel.C11
open Spec

/-- the leader's node after `j` refusals from `p` -/
def nackIter (x : Node) (p : Nat) : Nat → Node
  | 0 => x
  | j + 1 => nackIter (nackNode x p) p j

theorem prev0_not_refused (x : Node) (pt : Nat) : aeBad x 0 pt = false := aeBad_eq_false_iff.mpr (Or.inl rfl)

theorem nack_decrements (x : Node) (p : Nat) (hp : p < x.nextIndex.length) :
    (nackNode x p).nextIndex.getD p 1 = max 1 (x.nextIndex.getD p 1 - 1) := by
  unfold nackNode
  simp only [List.getD_eq_getElem?_getD, List.getElem?_set_self hp, Option.getD_some]

theorem nackNode_len (x : Node) (p : Nat) : (nackNode x p).nextIndex.length = x.nextIndex.length := by
  simp [nackNode]

theorem nackNode_prev (x : Node) (p : Nat) (hp : p < x.nextIndex.length) : aePrev (nackNode x p) p = aePrev x p - 1 := by
  unfold aePrev
  rw [nack_decrements x p hp]
  omega

/-- BACK-OFF IS BOUNDED.  Against a follower `y` (whose log a refusal leaves alone), the leader's `j`-th retry is accepted
    for some `j ≤ next_index[p] - 1`, all earlier ones being refused. -/
theorem backoff_bound (v : Variant) (t : Nat) (y : Node) (p : Nat) : ∀ (d : Nat) (x : Node), p < x.nextIndex.length → aePrev x p = d →
    ∃ j, j ≤ d ∧ aeBad (stepDown v y t) (aePrev (nackIter x p j) p) (aePt (nackIter x p j) p) = false
      ∧ ∀ i, i < j → aeBad (stepDown v y t) (aePrev (nackIter x p i) p) (aePt (nackIter x p i) p) = true := by
  intro d
  induction d with
  | zero =>
    intro x _ hd
    refine ⟨0, Nat.le_refl _, ?_, fun i hi => absurd hi (Nat.not_lt_zero _)⟩
    simp only [nackIter, hd]
    exact prev0_not_refused _ _
  | succ d ih =>
    intro x hp hd
    cases hb : aeBad (stepDown v y t) (aePrev x p) (aePt x p) with
    | false => exact ⟨0, Nat.zero_le _, hb, fun i hi => absurd hi (Nat.not_lt_zero _)⟩
    | true =>
      obtain ⟨j, hj, hacc, hprev⟩ := ih (nackNode x p) (by rw [nackNode_len]; exact hp) (by rw [nackNode_prev x p hp, hd]; rfl)
      refine ⟨j + 1, by omega, hacc, ?_⟩
      intro i hi
      cases i with
      | zero => exact hb
      | succ i => exact hprev i (by omega)

/-- the conversation and nothing else: deliver the AppendEntries `aid`, the reply, and — while `L` answers with a retry — go on -/
def convActs (v : Variant) : Nat → St → Nat → List Act
  | 0, _, _ => []
  | fuel + 1, s, aid =>
    .deliver aid :: .deliver s.nextId ::
      (if (step v (step v s (.deliver aid)).1 (.deliver s.nextId)).1.nextId = (step v s (.deliver aid)).1.nextId then []
       else convActs v fuel (step v (step v s (.deliver aid)).1 (.deliver s.nextId)).1 (step v s (.deliver aid)).1.nextId)

theorem convActs_length (v : Variant) : ∀ (fuel : Nat) (s : St) (aid : Nat), (convActs v fuel s aid).length ≤ 2 * fuel := by
  intro fuel
  induction fuel with
  | zero => intro s aid; simp [convActs]
  | succ fuel ih =>
    intro s aid
    simp only [convActs, List.length_cons]
    split
    · simp; omega
    · have := ih (step v (step v s (.deliver aid)).1 (.deliver s.nextId)).1 (step v s (.deliver aid)).1.nextId
      omega

theorem cvRun_done (v : Variant) (L t k p : Nat) : ∀ (as : List Act) (s : St), cvRun v L t k p .done s as = .done := by
  intro as
  induction as with
  | nil => intro s; rfl
  | cons a as ih => intro s; simp only [cvRun]; rw [show cvStep s L t k p .done a = .done by cases a <;> rfl]; exact ih _

/-- what both halves of a round need to know about a state -/
structure CvSt (s : St) (L t k p : Nat) : Prop where
  est : Est s L t
  pn : p < s.n
  pne : p ≠ L
  pt : (s.nodes p).term ≤ t
  ap : alive s p = true
  aL : alive s L = true
  kl : k ≤ (s.nodes L).log.length

theorem nackNode_prev_le (x : Node) (p : Nat) : aePrev (nackNode x p) p ≤ aePrev x p - 1 := by
  by_cases hp : p < x.nextIndex.length
  · rw [nackNode_prev x p hp]; exact Nat.le_refl _
  · have h1 : (nackNode x p).nextIndex.getD p 1 = 1 := by
      rw [List.getD_eq_getElem?_getD, List.getElem?_eq_none (by rw [nackNode_len]; omega)]; rfl
    unfold aePrev; rw [h1]; omega

theorem alive_applyHR {s : St} {i j : Nat} {r : HR} (h : alive s j = true) : alive (applyHR s i r).1 j = true := h

/-- FINITENESS OF THE BACK-OFF, ON RUNS.  The conversation-only schedule reaches a successful acknowledgement:
    with `fuel ≥ next_index[p]` rounds when the AppendEntries in flight is the one `L` would build now, `+ 1` otherwise. -/
theorem conv_rounds (v : Variant) (hr : Rep v) {L t k p : Nat} : ∀ (fuel : Nat) (s : St) (c : Cv) (aid : Nat)
    (l pi pt lc : Nat) (es : List Entry), CvSt s L t k p → (c = .idle ∨ c = .waitAE aid) →
    findMsg s aid = some ⟨aid, L, p, .ae t l pi pt es lc⟩ → k ≤ pi + es.length →
    ((pi = aePrev (s.nodes L) p ∧ aePrev (s.nodes L) p + 1 ≤ fuel) ∨ aePrev (s.nodes L) p + 2 ≤ fuel) →
    cvRun v L t k p c s (convActs v fuel s aid) = .done := by
  intro fuel
  induction fuel with
  | zero => intro s c aid l pi pt lc es _ _ _ _ hm; rcases hm with ⟨_, h⟩ | h <;> omega
  | succ fuel ih =>
    intro s c aid l pi pt lc es S hc hf hk hm
    have hcd : canDeliver s ⟨aid, L, p, .ae t l pi pt es lc⟩ = true := by
      simp only [canDeliver, Bool.and_eq_true, decide_eq_true_eq]
      exact ⟨⟨S.ap, S.est.lt⟩, fun h => S.pne h.symm⟩
    -- first half: `p` handles the AppendEntries and answers `L` with one message
    obtain ⟨r1, hs1, hterm1, hcase⟩ := deliver_ae v hr S.pt hf hcd rfl rfl
    have hcv1 : cvStep s L t k p c (.deliver aid) = .waitAR s.nextId := by
      rcases hc with rfl | rfl
      · simp [cvStep, hf, hcd, reaches, hk]
      · simp [cvStep, hf, hcd]
    obtain ⟨b, hsnd, hbcase⟩ : ∃ b, r1.sends = [(L, b)] ∧
        ((aeBad (stepDown v (s.nodes p) t) pi pt = true ∧ b = .ar t false p 0) ∨ b = .ar t true p (pi + es.length)) := by
      rcases hcase with ⟨hbad, hsnd⟩ | ⟨_, _, hsnd⟩
      · exact ⟨_, hsnd, Or.inl ⟨hbad, rfl⟩⟩
      · exact ⟨_, hsnd, Or.inr rfl⟩
    have o1 : SentOne s (step v s (.deliver aid)).1 p L b := hs1 ▸ sentOne hsnd
    have hp1 : (step v s (.deliver aid)).1.nodes p = r1.node := step_nodeL hs1
    simp only [convActs, cvRun, hcv1]
    generalize (step v s (.deliver aid)).1 = s1 at o1 hp1 ⊢
    have hL1 : s1.nodes L = s.nodes L := o1.other L fun h => S.pne h.symm
    have est1 : Est s1 L t := ⟨by rw [o1.n]; exact S.est.lt, by rw [hL1]; exact S.est.role, by rw [hL1]; exact S.est.term⟩
    have hf2 := o1.find
    have hcd2 := o1.deliverable S.aL S.pn S.pne
    rcases hbcase with ⟨hbad, rfl⟩ | rfl
    · -- refused: `L` lowers `next_index[p]` and retries at once
      have hs2 := nack_deliver v est1 hf2 hcd2 rfl rfl (by rw [o1.n]; exact S.pn) S.pne
      rw [hL1] at hs2
      have hcv2 : cvStep s1 L t k p (.waitAR s.nextId) (.deliver s.nextId) = .waitAE s1.nextId := by
        simp [cvStep, hf2, hcd2, isAck]
      rw [hcv2]
      have o2 : SentOne s1 (step v s1 (.deliver s.nextId)).1 L p (aeFor (nackNode (s.nodes L) p) L p) := hs2 ▸ sentOne rfl
      have hL2 : (step v s1 (.deliver s.nextId)).1.nodes L = nackNode (s.nodes L) p := step_nodeL hs2
      rw [if_neg (by rw [o2.nextId]; exact Nat.succ_ne_self _)]
      generalize (step v s1 (.deliver s.nextId)).1 = s2 at o2 hL2 ⊢
      have hpi : pi ≠ 0 := by intro h0; rw [h0, prev0_not_refused] at hbad; cases hbad
      have S2 : CvSt s2 L t k p :=
        ⟨⟨by rw [o2.n, o1.n]; exact S.est.lt, by rw [hL2]; exact S.est.role, by rw [hL2]; exact S.est.term⟩,
          by rw [o2.n, o1.n]; exact S.pn, S.pne, by rw [o2.other p S.pne, hp1, hterm1]; exact Nat.le_refl _,
          by rw [o2.alive_eq, o1.alive_eq]; exact S.ap, by rw [o2.alive_eq, o1.alive_eq]; exact S.aL, by rw [hL2]; exact S.kl⟩
      refine ih s2 (.waitAE s1.nextId) s1.nextId L (aePrev (nackNode (s.nodes L) p) p) (aePt (nackNode (s.nodes L) p) p)
        (nackNode (s.nodes L) p).commit ((nackNode (s.nodes L) p).log.drop (aePrev (nackNode (s.nodes L) p) p))
        S2 (Or.inr rfl) ?_ ?_ ?_
      · rw [o2.find, aeFor_prev, show (nackNode (s.nodes L) p).term = t from S.est.term]
      · rw [List.length_drop]
        have : (nackNode (s.nodes L) p).log.length = (s.nodes L).log.length := rfl
        have := S.kl; omega
      · rw [hL2]
        left
        refine ⟨rfl, ?_⟩
        have hle := nackNode_prev_le (s.nodes L) p
        rcases hm with ⟨h1, h2⟩ | h2 <;> omega
    · -- accepted: the acknowledgement ends the conversation
      have hcv2 : cvStep s1 L t k p (.waitAR s.nextId) (.deliver s.nextId) = .done := by
        simp [cvStep, hf2, hcd2, isAck]
      rw [hcv2]
      exact cvRun_done v L t k p _ _

/-- `convRun` CAN BE MET.  From a reachable state with leader `L` of term `t`, a live follower `p` (term `≤ t`) and an AppendEntries
    of term `t` from `L` to `p` in flight that reaches `k`: the conversation-only schedule of `next_index[p] + 2` rounds
    (at most `2 · (next_index[p] + 2)` deliveries) satisfies `convRun`. -/
theorem conv_exists (v : Variant) (hr : Rep v) (n : Nat) (pre : List Act) (L t k p aid : Nat) (e : Env) (l pi pt lc : Nat) (es : List Entry)
    (hest : established (run v (init n) pre) L t = true) (hpn : p < n) (hpne : p ≠ L)
    (hpt : ((run v (init n) pre).nodes p).term ≤ t) (hap : alive (run v (init n) pre) p = true) (haL : alive (run v (init n) pre) L = true)
    (hkl : k ≤ ((run v (init n) pre).nodes L).log.length)
    (hf : findMsg (run v (init n) pre) aid = some e) (he : e = ⟨aid, L, p, .ae t l pi pt es lc⟩) (hk : k ≤ pi + es.length) :
    convRun v L t k p (run v (init n) pre) (convActs v (((run v (init n) pre).nodes L).nextIndex.getD p 1 + 2) (run v (init n) pre) aid) = true
    ∧ (convActs v (((run v (init n) pre).nodes L).nextIndex.getD p 1 + 2) (run v (init n) pre) aid).length
        ≤ 2 * (((run v (init n) pre).nodes L).nextIndex.getD p 1 + 2) := by
  refine ⟨?_, convActs_length v _ _ _⟩
  have hn0 : (run v (init n) pre).n = n := by rw [run_n]; rfl
  have S : CvSt (run v (init n) pre) L t k p := ⟨established_iff.mp hest, by rw [hn0]; exact hpn, hpne, hpt, hap, haL, hkl⟩
  unfold convRun
  exact decide_eq_true (conv_rounds v hr (((run v (init n) pre).nodes L).nextIndex.getD p 1 + 2) _ .idle aid l pi pt lc es S
    (Or.inl rfl) (he ▸ hf) hk (by right; unfold aePrev; omega))

end HappyModel.C11
