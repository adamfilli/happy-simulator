/-!
C13 — model of `happysimulator/components/consensus/membership.py` (`MembershipProtocol`).

Message-passing style (DESIGN §4): per-node handler functions over a node state, plus a soup of
messages in flight.  Actions are "probe tick of node a", "deliver message id", "ack-timeout /
suspicion-timeout of node a for member x fires", "node x crashes".  Every action carries the
simulated time at which it happens; timer actions are only effective at exactly the time the
timer was armed for, and only while it is still the entry of `_pending_acks` (cancellation in the
code = removal/replacement of that entry).

What is an *input* (an oracle, quantified over in the theorems): the results of
`random.shuffle` (probe order, delegate choice), the delivery time of every message, crash times,
and the `Network.partition(group_a, group_b)` / `Partition.heal()` calls made on the network.

The network (`components/network/network.py`) decides when it is handed a message (same instant
as the send) whether to route it: a message whose (unordered) endpoint pair is blocked by a
partition handle that has not been healed is dropped; messages already in flight are delivered.

The failure detector is a parameter (`Detector D`): `hb` = `PhiAccrualDetector.heartbeat`,
`avail` = `is_available`.  The executable driver instantiates it with the float evaluation
(`FloatDet.lean`); theorems hold for every detector.
-/
namespace HappyModel.C13

/-! ### total list maps (index ↦ value with a default; Python dicts keyed by member index) -/

def lget {α} (d : α) : List α → Nat → α
  | [], _ => d
  | x :: _, 0 => x
  | _ :: xs, i+1 => lget d xs i

def lset {α} (d : α) : List α → Nat → α → List α
  | [], 0, v => [v]
  | [], i+1, v => d :: lset d [] i v
  | _ :: xs, 0, v => v :: xs
  | x :: xs, i+1, v => x :: lset d xs i v

theorem lget_nil {α} (d : α) (i : Nat) : lget d [] i = d := by cases i <;> rfl

@[simp] theorem lget_lset_same {α} (d : α) (l : List α) (i : Nat) (v : α) :
    lget d (lset d l i v) i = v := by
  fun_induction lset d l i v <;> simp only [lget, *]

theorem lget_lset_other {α} {d : α} {l : List α} {i j : Nat} {v : α} (h : j ≠ i) :
    lget d (lset d l i v) j = lget d l j := by
  fun_induction lset d l i v generalizing j <;> cases j <;> simp_all [lget]

theorem lget_eq_getD {α} (d : α) (l : List α) (i : Nat) : lget d l i = l.getD i d := by
  fun_induction lget d l i <;> simp_all

theorem lget_default_or_mem {α} (d : α) (l : List α) (i : Nat) : lget d l i = d ∨ lget d l i ∈ l := by
  rw [lget_eq_getD, List.getD_eq_getElem?_getD]
  cases h : l[i]? with
  | none => exact .inl rfl
  | some v => exact .inr (List.mem_of_getElem? h)

theorem lget_map_range {α} (d : α) (f : Nat → α) (n x : Nat) (h : x < n) :
    lget d ((List.range n).map f) x = f x := by
  simp [lget_eq_getD, h]

theorem lget_replicate {α} (d v : α) (n x : Nat) (h : x < n) : lget d (List.replicate n v) x = v := by
  simp [lget_eq_getD, h]

theorem mem_lset {α} (d : α) (l : List α) (i : Nat) (v : α) : v ∈ lset d l i v := by
  fun_induction lset d l i v <;> simp [*]

theorem of_mem_lset {α} {d : α} {l : List α} {i : Nat} {v y : α} (h : y ∈ lset d l i v) :
    y = v ∨ y = d ∨ y ∈ l := by
  fun_induction lset d l i v <;> simp_all <;> grind

/-! ### data -/

inductive MState | alive | suspect | dead
deriving DecidableEq, Repr, Inhabited

inductive UKind | suspect | dead | alive
deriving DecidableEq, Repr, Inhabited

/-- one piggy-backed membership update `{"member":…, "state":…, "incarnation":…}` -/
structure Update where
  member : Nat
  kind : UKind
  inc : Nat
deriving DecidableEq, Repr, Inhabited

inductive TKind | ind | susp
deriving DecidableEq, Repr, Inhabited

/-- the live entry of `_pending_acks[x]`: the ack timeout (`MembershipIndirectPing`) or the
    `MembershipSuspicionTimeout`, with the time it fires -/
structure Timer where
  kind : TKind
  fire : Nat
deriving DecidableEq, Repr, Inhabited

inductive MKind | ping | ack
deriving DecidableEq, Repr, Inhabited

structure Msg where
  id : Nat
  kind : MKind
  src : Nat
  dst : Nat
  sent : Nat
  ifor : Option Nat      -- `indirect_for` (carried, ignored by the receiver — as in the code)
  upds : List Update
deriving DecidableEq, Repr, Inhabited

class Detector (D : Type) where
  hb : D → Nat → D
  avail : D → Nat → Bool

structure Member (D : Type) where
  st : MState := .alive
  inc : Nat := 0
  det : D

instance {D} [Inhabited D] : Inhabited (Member D) := ⟨{ det := default }⟩

structure Node (D : Type) where
  mem : List (Member D) := []
  pend : List (Option Timer) := []
  upds : List Update := []
  order : List Nat := []
  pidx : Nat := 0
  nextTick : Nat := 0
  selfInc : Nat := 0

instance {D} : Inhabited (Node D) := ⟨{}⟩

structure Cfg where
  n : Nat
  interval : Nat
  half : Nat        -- `probe_interval * 0.5` in ns
  susp : Nat
  indirect : Nat
  /-- `true` = repaired code (an un-acked direct probe makes the member SUSPECT);
      `false` = pinned code (the suspicion timer is armed but the member stays ALIVE) -/
  fix : Bool := true
deriving Repr

/-- a message a handler wants to send (the system stamps id and time) -/
structure Out where
  kind : MKind
  dst : Nat
  ifor : Option Nat
  upds : List Update
deriving Repr, Inhabited

section handlers
variable {D : Type} [Inhabited D] [Detector D]

def Node.member (nd : Node D) (x : Nat) : Member D := lget default nd.mem x
def Node.view (nd : Node D) (x : Nat) : MState := (nd.member x).st
def Node.pendOf (nd : Node D) (x : Nat) : Option Timer := lget none nd.pend x
def Node.setMember (nd : Node D) (x : Nat) (m : Member D) : Node D :=
  { nd with mem := lset default nd.mem x m }
def Node.setPend (nd : Node D) (x : Nat) (t : Option Timer) : Node D :=
  { nd with pend := lset none nd.pend x t }

/-- `x in self._members` for node `a` of an `n`-cluster (full mesh, no self entry) -/
def isMember (n a x : Nat) : Bool := x != a && x < n

/-- one iteration of `_apply_updates` on a known member -/
def applyToMember (m : Member D) (u : Update) : Member D :=
  if u.inc < m.inc then m else
  match u.kind with
  | .suspect => if m.st = .alive then { m with st := .suspect, inc := max m.inc u.inc } else m
  | .dead => if m.st ≠ .dead then { m with st := .dead, inc := max m.inc u.inc } else m
  | .alive => if u.inc > m.inc then { m with st := .alive, inc := u.inc } else m

def applyOne (n a : Nat) (nd : Node D) (u : Update) : Node D :=
  if isMember n a u.member then nd.setMember u.member (applyToMember (nd.member u.member) u)
  else nd

/-- `_apply_updates` -/
def applyUpdates (n a : Nat) (nd : Node D) (us : List Update) : Node D :=
  us.foldl (applyOne n a) nd

/-- `detector.heartbeat(now)`; SUSPECT → ALIVE (ping and ack handlers) -/
def heard (nd : Node D) (x now : Nat) : Node D :=
  let m := nd.member x
  nd.setMember x { m with det := Detector.hb m.det now,
                          st := if m.st = .suspect then .alive else m.st }

/-- `_suspect_member` -/
def suspect (nd : Node D) (x : Nat) : Node D :=
  let m := nd.member x
  if m.st = .alive then
    { nd.setMember x { m with st := .suspect } with
      upds := nd.upds ++ [⟨x, .suspect, m.inc⟩] }
  else nd

/-- the phi loop at the start of `_handle_probe_tick`, members in insertion (= index) order -/
def phiStep (a now : Nat) (nd : Node D) (x : Nat) : Node D :=
  if x = a then nd else
  let m := nd.member x
  if m.st = .alive && !Detector.avail m.det now then suspect nd x else nd

def phiCheck (n a now : Nat) (nd : Node D) : Node D :=
  (List.range n).foldl (phiStep a now) nd

/-- the list `alive` of `_next_probe_target` -/
def aliveOrder (n a : Nat) (nd : Node D) : List Nat :=
  nd.order.filter fun x => isMember n a x && nd.view x != .dead

/-- `_next_probe_target`; `shuf` is what `random.shuffle(alive)` produced (used only when the
    round is exhausted) -/
def nextTarget (n a : Nat) (nd : Node D) (shuf : List Nat) : Node D × Option Nat :=
  let al := aliveOrder n a nd
  if al.isEmpty then (nd, none)
  else if nd.pidx ≥ al.length then
    ({ nd with order := shuf, pidx := 1 }, some (lget 0 shuf (0 % shuf.length)))
  else
    ({ nd with pidx := nd.pidx + 1 }, some (lget 0 al (nd.pidx % al.length)))

/-- `_handle_probe_tick` -/
def onTick (c : Cfg) (a now : Nat) (shuf : List Nat) (nd : Node D) : Node D × List Out :=
  let nd1 := phiCheck c.n a now nd
  let r := nextTarget c.n a nd1 shuf
  let nd2 := r.1
  match r.2 with
  | none => ({ nd2 with nextTick := now + c.interval }, [])
  | some t =>
    -- in the code `t` comes from a permutation of the non-DEAD members; a malformed oracle list
    -- cannot make the model probe a non-member
    if isMember c.n a t then
      ({ (nd2.setPend t (some ⟨.ind, now + c.half⟩)) with upds := [], nextTick := now + c.interval },
       [⟨.ping, t, none, nd2.upds⟩])
    else ({ nd2 with nextTick := now + c.interval }, [])

/-- `_handle_ping` (sender is always a member in a full mesh) -/
def onPing (c : Cfg) (a now : Nat) (m : Msg) (nd : Node D) : Node D × List Out :=
  let nd1 := applyUpdates c.n a nd m.upds
  let nd2 := if isMember c.n a m.src then heard nd1 m.src now else nd1
  ({ nd2 with upds := [] }, [⟨.ack, m.src, none, nd2.upds⟩])

/-- `_handle_ack` -/
def onAck (c : Cfg) (a now : Nat) (m : Msg) (nd : Node D) : Node D × List Out :=
  let nd1 := applyUpdates c.n a nd m.upds
  if isMember c.n a m.src then ((heard nd1 m.src now).setPend m.src none, [])
  else (nd1, [])

/-- candidates for indirect probing, in `_members` order -/
def delegateCands (n a x : Nat) (nd : Node D) : List Nat :=
  (List.range n).filter fun y => isMember n a y && y != x && nd.view y != .dead

/-- the indirect pings: the first one drains the pending updates -/
def indirectOuts (x : Nat) (ups : List Update) : List Nat → List Out
  | [] => []
  | d :: ds => ⟨.ping, d, some x, ups⟩ :: ds.map (fun d' => ⟨.ping, d', some x, []⟩)

/-- `_handle_indirect_ping` once the entry of `_pending_acks` is known to be this timer;
    `shuf` is the shuffled delegate list -/
def onIndTimeout (c : Cfg) (_a now x : Nat) (shuf : List Nat) (nd : Node D) : Node D × List Out :=
  let nd0 := if c.fix then suspect nd x else nd
  let ds := shuf.take c.indirect
  let nd1 := if ds.isEmpty then nd0 else { nd0 with upds := [] }
  (nd1.setPend x (some ⟨.susp, now + c.susp⟩), indirectOuts x nd0.upds ds)

/-- `_handle_suspicion_timeout` -/
def onSuspTimeout (x : Nat) (nd : Node D) : Node D :=
  let m := nd.member x
  let nd1 :=
    if m.st = .suspect then
      { nd.setMember x { m with st := .dead } with upds := nd.upds ++ [⟨x, .dead, m.inc⟩] }
    else nd
  nd1.setPend x none

end handlers

/-! ### the cluster -/

inductive Act
  | tick (a now : Nat) (shuf : List Nat)
  | deliver (id now : Nat)
  | timeout (a x now : Nat) (shuf : List Nat)
  | crash (x now : Nat)
  /-- `handle[h] = network.partition(ga, gb)` -/
  | cut (h : Nat) (ga gb : List Nat) (now : Nat)
  /-- `handle[h].heal()` -/
  | heal (h now : Nat)
deriving Repr

def Act.time : Act → Nat
  | .tick _ t _ | .deliver _ t | .timeout _ _ t _ | .crash _ t | .cut _ _ _ t | .heal _ t => t

/-- does a partition handle (its list of pairs) block the unordered pair `{a, b}` -/
def pairIn (ps : List (Nat × Nat)) (a b : Nat) : Bool :=
  ps.any fun p => (p.1 == a && p.2 == b) || (p.1 == b && p.2 == a)

/-- the pairs of `partition(ga, gb)` -/
def cutPairs (ga gb : List Nat) : List (Nat × Nat) :=
  ga.flatMap fun a => gb.map fun b => (a, b)

structure Sys (D : Type) where
  now : Nat := 0
  nodes : List (Node D) := []
  crashed : List Bool := []
  soup : List Msg := []
  nextId : Nat := 0
  /-- partition handles by number: the pairs each one blocks; `[]` = not created yet / healed.
      A pair stays blocked while any handle holds it (the reference counts of `Network`). -/
  cuts : List (List (Nat × Nat)) := []
  /-- the messages of the last commit that the network refused to route -/
  lost : List Msg := []

section sys
variable {D : Type} [Inhabited D] [Detector D]

def Sys.node (s : Sys D) (a : Nat) : Node D := lget default s.nodes a
def Sys.isCrashed (s : Sys D) (a : Nat) : Bool := lget false s.crashed a
def Sys.view (s : Sys D) (a x : Nat) : MState := (s.node a).view x

/-- `Network.is_partitioned` -/
def Sys.blocked (s : Sys D) (a b : Nat) : Bool := s.cuts.any fun ps => pairIn ps a b

/-- the network is whole: no handle blocks anything -/
def Sys.whole (s : Sys D) : Bool := s.cuts.all fun ps => ps.isEmpty

/-- stamp outgoing messages with consecutive ids -/
def stamp (a now : Nat) : Nat → List Out → List Msg
  | _, [] => []
  | k, o :: os => ⟨k, o.kind, a, o.dst, now, o.ifor, o.upds⟩ :: stamp a now (k + 1) os

/-- what the network does with freshly sent messages: those across an active partition vanish -/
def Sys.routed (s : Sys D) (ms : List Msg) : List Msg := ms.filter fun m => !s.blocked m.src m.dst
def Sys.refused (s : Sys D) (ms : List Msg) : List Msg := ms.filter fun m => s.blocked m.src m.dst

/-- install the result of a handler of node `a` -/
def Sys.commit (s : Sys D) (a now : Nat) (r : Node D × List Out) (soup : List Msg) : Sys D :=
  { s with now := now, nodes := lset default s.nodes a r.1,
           soup := soup ++ s.routed (stamp a now s.nextId r.2),
           lost := s.refused (stamp a now s.nextId r.2), nextId := s.nextId + r.2.length }

def handleMsg (c : Cfg) (a now : Nat) (m : Msg) (nd : Node D) : Node D × List Out :=
  match m.kind with
  | .ping => onPing c a now m nd
  | .ack => onAck c a now m nd

/-- one action; anything that is not enabled leaves the state alone (apart from the clock) -/
def step (c : Cfg) (s : Sys D) : Act → Sys D
  | .tick a now shuf =>
    if s.isCrashed a || (s.node a).nextTick != now then { s with now := now }
    else s.commit a now (onTick c a now shuf (s.node a)) s.soup
  | .deliver id now =>
    match s.soup.find? (fun m => m.id == id) with
    | none => { s with now := now }
    | some m =>
      if s.isCrashed m.dst then { s with now := now, soup := s.soup.erase m }
      else s.commit m.dst now (handleMsg c m.dst now m (s.node m.dst)) (s.soup.erase m)
  | .timeout a x now shuf =>
    if s.isCrashed a then { s with now := now } else
    match (s.node a).pendOf x with
    | none => { s with now := now }
    | some t =>
      if t.fire != now then { s with now := now }
      else match t.kind with
        | .ind => s.commit a now (onIndTimeout c a now x shuf (s.node a)) s.soup
        | .susp => s.commit a now (onSuspTimeout x (s.node a), []) s.soup
  | .crash x now => { s with now := now, crashed := lset false s.crashed x true }
  | .cut h ga gb now => { s with now := now, cuts := lset [] s.cuts h (cutPairs ga gb) }
  | .heal h now => { s with now := now, cuts := lset [] s.cuts h [] }

def run (c : Cfg) (s : Sys D) : List Act → Sys D
  | [] => s
  | a :: as => run c (step c s a) as

/-- initial node: every other member ALIVE with a fresh detector; `order` = the shuffled probe
    order of `start()`, first tick at `off + interval` -/
def Node.init (c : Cfg) (det : D) (order : List Nat) (off : Nat) : Node D :=
  { mem := List.replicate c.n { det := det }, pend := List.replicate c.n none,
    order := order, nextTick := off + c.interval }

def Sys.init (c : Cfg) (det : D) (orders : List (List Nat)) (offs : List Nat) : Sys D :=
  { nodes := (List.range c.n).map fun a => Node.init c det (lget [] orders a) (lget 0 offs a),
    crashed := List.replicate c.n false }

end sys

end HappyModel.C13
