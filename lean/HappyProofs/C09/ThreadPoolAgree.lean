import HappyProofs.C09.ThreadPoolInv
import HappyProofs.C09.ThreadPoolTrace
import HappyProofs.C09.Lists
/-! ThreadPool: the extra model invariant `Inv2`, and the judge's books as a function of the model state (`bookOf`) with
what the driver's `due` list has to do with them (`DueOk`). -/
namespace HappyModel.C09.TPool

/-- facts about the ghost lists the judge's checks rely on; `nodup` holds as long as no task id is accepted twice -/
structure Inv2 (s : St) : Prop where
  accLen : s.accepted = s.acceptedL.length
  nodup : s.acceptedL.Nodup
  runSub : s.running.Sublist s.started

/-- `bookOf` and `DueOk` as one relation (`agree_iff`); the proofs go through those two -/
structure Agree (b : Book) (s : St) (due : Due) : Prop where
  inQueue : b.inQueue = s.queue
  transit : b.transit = transit s.pend
  running : b.running.map (·.1) = s.running
  startedL : b.startedL = s.started
  acceptedL : b.acceptedL = s.acceptedL
  nDrop : b.nDrop = s.dropped
  nDone : b.nDone = s.completed
  dueStarted : ∀ x ∈ due, x.1 ∈ s.started
  dueUniq : ∀ e ∈ b.running, ∀ d, (e.1, d) ∈ due → d = e.2

theorem init_inv2 (n : Nat) (qcap : Option Nat) : Inv2 { n := n, qcap := qcap } :=
  ⟨rfl, List.nodup_nil, List.Sublist.refl _⟩

theorem inv2_poll (s : St) (x : Inv2 s) : Inv2 (pollIfReady s).1 := by
  obtain ⟨_, _, _, h, -⟩ := poll_frame s
  rw [h]
  exact { x with }

theorem running_nodup (s : St) (inv : Inv s) (x : Inv2 s) : s.running.Nodup :=
  x.runSub.nodup (inv.started_nodup x.nodup)

/-- the judge's books, read off the model state; `rd` (ghost) lists the tasks in service, each with the clock value at
    which the judge expects its service to end -/
def bookOf (s : St) (rd : List (Nat × Nat)) : Book :=
  { inQueue := s.queue, transit := transit s.pend, running := rd, startedL := s.started, acceptedL := s.acceptedL,
    nDrop := s.dropped, nDone := s.completed }

/-- `rd` lists the running tasks; every entry of `due` is of a started task, and for a task of `rd` `due` holds no
    end-of-service time other than the one in `rd` -/
structure DueOk (s : St) (rd : List (Nat × Nat)) (due : Due) : Prop where
  run : rd.map (·.1) = s.running
  started : ∀ x ∈ due, x.1 ∈ s.started
  uniq : ∀ e ∈ rd, ∀ d, (e.1, d) ∈ due → d = e.2

theorem agree_iff {b : Book} {s : St} {due : Due} : Agree b s due ↔ b = bookOf s b.running ∧ DueOk s b.running due := by
  obtain ⟨a1, a2, a3, a4, a5, a6, a7⟩ := b
  constructor
  · rintro ⟨h1, h2, h3, h4, h5, h6, h7, h8, h9⟩
    simp only at h1 h2 h3 h4 h5 h6 h7
    subst h1 h2 h4 h5 h6 h7
    exact ⟨rfl, h3, h8, h9⟩
  · rintro ⟨h, h3, h8, h9⟩
    injection h with h1 h2 _ h4 h5 h6 h7
    exact ⟨h1, h2, h3, h4, h5, h6, h7, h8, h9⟩

theorem DueOk.congr {s s' : St} {rd : List (Nat × Nat)} {due : Due} (h : DueOk s rd due) (hr : s'.running = s.running)
    (hs : s'.started = s.started) : DueOk s' rd due :=
  ⟨hr ▸ h.run, hs ▸ h.started, h.uniq⟩

/-- `_poll_if_ready` is invisible in the books -/
theorem bookOf_poll (s : St) (rd : List (Nat × Nat)) : bookOf (pollIfReady s).1 rd = bookOf s rd := by
  obtain ⟨_, _, _, h, ht⟩ := poll_frame s
  rw [h]; simp only [bookOf, ht]

theorem DueOk.poll {s : St} {rd : List (Nat × Nat)} {due : Due} (h : DueOk s rd due) : DueOk (pollIfReady s).1 rd due := by
  obtain ⟨_, _, _, hf, -⟩ := poll_frame s
  rw [hf]; exact h.congr rfl rfl

/-- `Inv2` leaf by leaf; an accepted task id must be new -/
theorem Leaf.inv2 {s s' : St} {o : Op} {r : Res} (lf : Leaf s o s' r) (x : Inv2 s)
    (hnew : ∀ tid n, o = .submit tid → r = .accepted n → tid ∉ s.acceptedL) : Inv2 s' := by
  cases lf with
  | room tid => exact { x with accLen := by simp [x.accLen], nodup := nodup_snoc x.nodup (hnew tid _ rfl rfl) }
  | start => exact { x with runSub := x.runSub.append (.refl _) }
  | finish => exact inv2_poll _ { x with runSub := List.erase_sublist.trans x.runSub }
  | notify | recheck | reject | disp => exact inv2_poll _ { x with }
  | _ => exact { x with }

end HappyModel.C09.TPool
