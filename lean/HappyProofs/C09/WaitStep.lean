import HappyProofs.C09.WaitFrame
import HappyProofs.C02.Late
/-! States of the engine + process layer (`St PS`, machine `procMachine`) in which process `pid` is parked on future slot
`f`, and what one loop iteration (`stepWith procMachine s m`, for any pending event `m`) can turn such a state into. -/
namespace HappyModel.C09.WaitSilent
open HappyModel.C01

/-- `noEvent`: whatever the loop pops next is not a delivery to `pid` -/
structure Blocked (f pid : Nat) (s : St PS) : Prop where
  parked : (futGet s.ent.futs f).parked = some pid
  unresolved : (futGet s.ent.futs f).resolved = false
  noEvent : ∀ e ∈ s.heap, e.data ≠ pid + 1

/-- woken in the step that delivered `m`: the handler of `m` ran (it is the last delivery) and exactly one event of `pid`
    is pending — its continuation — created in this step (`born`) and stamped with its clock -/
structure Woken (pid : Nat) (m : Ev) (s' : St PS) : Prop where
  ran : s'.log.getLast? = some m
  clock : s'.now = m.time
  one : cntHeap s'.heap pid = 1
  stamped : ∀ c ∈ s'.heap, c.data = pid + 1 → c.time = m.time ∧ c.born = m.time
  unparked : ∀ g, (futGet s'.ent.futs g).parked ≠ some pid

/-- … and it was the resolution of `f` that woke it -/
structure WokenBy (f pid : Nat) (s' : St PS) : Prop where
  resolved : (futGet s'.ent.futs f).resolved = true
  nobody : (futGet s'.ent.futs f).parked = none
  value : ∃ q, s'.ent.procs[pid]? = some q ∧ q.send = (futGet s'.ent.futs f).value

/-- wake-up lost: slot `f` was overwritten while `pid` was parked on it (rebound by `fresh` / `any_of` / `all_of`, or a
    second process parked on it — the implementation raises `RuntimeError` for the latter and cannot do the former to a
    future that is a local of `acquire()`); `pid` has no pending resumption at all -/
structure Lost (pid : Nat) (s' : St PS) : Prop where
  noEvent : ∀ e ∈ s'.heap, e.data ≠ pid + 1
  unparked : ∀ g, (futGet s'.ent.futs g).parked ≠ some pid

/-- `pops`: no event of `pid` was even popped (cancelled / stale / gated) -/
structure Quiet (pid : Nat) (s s' : St PS) : Prop where
  deliveries : cntHeap s'.log pid = cntHeap s.log pid
  pops : cntHeap (s'.popped.map Prod.fst) pid = cntHeap (s.popped.map Prod.fst) pid
  resumes : resCount s'.ent.obs pid = resCount s.ent.obs pid

theorem Quiet.refl (pid : Nat) (s : St PS) : Quiet pid s s := ⟨rfl, rfl, rfl⟩

theorem Quiet.trans {pid : Nat} {a b c : St PS} (h1 : Quiet pid a b) (h2 : Quiet pid b c) : Quiet pid a c :=
  ⟨h2.deliveries.trans h1.deliveries, h2.pops.trans h1.pops, h2.resumes.trans h1.resumes⟩

theorem blocked_of_parked (s : St PS) (inv : ProcInv s) (f pid : Nat)
    (hpk : (futGet s.ent.futs f).parked = some pid) : Blocked f pid s :=
  ⟨hpk, (inv.parkOk f pid hpk).1, inv.park_excludes_continuation f pid hpk⟩

theorem cntHeap_eq_zero {l : List Ev} {pid : Nat} : cntHeap l pid = 0 ↔ ∀ e ∈ l, e.data ≠ pid + 1 := by
  unfold cntHeap
  rw [List.countP_eq_zero]
  exact forall₂_congr fun e _ => by simp

theorem cntHeap_snoc_other (l : List Ev) (m : Ev) (pid : Nat) (h : m.data ≠ pid + 1) :
    cntHeap (l ++ [m]) pid = cntHeap l pid := by
  rw [cntHeap_append]
  simp [cntHeap, h]

theorem wait_step (s : St PS) (inv : ProcInv s) (f pid : Nat)
    (hpk : (futGet s.ent.futs f).parked = some pid) (m : Ev) (hm : m ∈ s.heap) :
    m.data ≠ pid + 1 ∧
    Quiet pid s (stepWith procMachine s m) ∧
    (Blocked f pid (stepWith procMachine s m) ∨ Woken pid m (stepWith procMachine s m) ∨
      Lost pid (stepWith procMachine s m)) ∧
    (stepKeeps f s.ent m = true →
      Blocked f pid (stepWith procMachine s m) ∨
      (Woken pid m (stepWith procMachine s m) ∧ WokenBy f pid (stepWith procMachine s m))) := by
  have hmd := inv.park_excludes_continuation f pid hpk
  have hmm : m.data ≠ pid + 1 := hmd m hm
  have hunres := (inv.parkOk f pid hpk).1
  have inv' : ProcInv (stepWith procMachine s m) := step_procInv s m inv hm
  generalize hs' : stepWith procMachine s m = s' at inv'
  have hpops : ∀ v, cntHeap ((s.popped ++ [(m, v)]).map Prod.fst) pid = cntHeap (s.popped.map Prod.fst) pid := by
    intro v
    rw [List.map_append]
    exact cntHeap_snoc_other _ m pid hmm
  refine ⟨hmm, ?_⟩
  -- (the fields of `Skips` / `Delivers` of `HappyProofs/C02/Run.lean`, in their order: heap, ent, log, nextId, …)
  rcases hs' ▸ stepWith_proc s m with ⟨hh, he, hl, _, v, hp⟩ | ⟨hh, he, hl, _, hn, hp⟩
  · -- dropped: nothing but the popped event changes
    have hb : Blocked f pid s' :=
      ⟨by rw [he]; exact hpk, by rw [he]; exact hunres,
        by intro e he'; rw [hh] at he'; exact hmd e (List.mem_of_mem_erase he')⟩
    exact ⟨⟨by rw [hl], by rw [hp]; exact hpops v, by rw [he]⟩, Or.inl hb, fun _ => Or.inl hb⟩
  · -- delivered: the handler of `m` ran at clock `m.time`
    have ht := (procEff_track False s inv f pid hpk m hm m.time (fun hc => hc.elim)).1
    generalize hr : procEff s.ent m.time m = r at hh he ht
    have hq : Quiet pid s s' :=
      ⟨by rw [hl]; exact cntHeap_snoc_other _ m pid hmm, by rw [hp]; exact hpops _,
        by rw [he]; exact ht.obsSame⟩
    have herase : cntHeap (s.heap.erase m) pid = 0 := by
      have h1 := cntHeap_erase_le s.heap m pid
      have h2 := cntHeap_eq_zero.mpr (blocked_of_parked s inv f pid hpk).noEvent
      omega
    have hcount : cntHeap s'.heap pid = cntSpec r.specs pid := by
      rw [hh, cntHeap_append, cntHeap_mkEvents, herase]; omega
    have hmk : (futGet s'.ent.futs f).parked = some pid → Blocked f pid s' := fun hpk' =>
      blocked_of_parked s' inv' f pid hpk'
    have hunp : (futGet s'.ent.futs f).parked ≠ some pid → ∀ g, (futGet s'.ent.futs g).parked ≠ some pid := by
      intro hnp g hg
      rw [he] at hg hnp
      have := ht.onlyF g hg
      rw [this] at hg
      exact hnp hg
    have hone := inv'.atMostOne pid
    have hwoken : (futGet s'.ent.futs f).parked ≠ some pid → cntHeap s'.heap pid ≠ 0 → Woken pid m s' := by
      intro hnp hnz
      refine ⟨by rw [hl]; simp, hn, by omega, ?_, hunp hnp⟩
      intro c hc hcd
      rw [hh] at hc
      rcases List.mem_append.mp hc with hc | hc
      · exact absurd hcd (hmd c (List.mem_of_mem_erase hc))
      · obtain ⟨sp, hsp, _, _, heq⟩ := mem_mkEvents hc
        rw [heq] at hcd ⊢
        exact ⟨ht.contNow sp hsp hcd, rfl⟩
    refine ⟨hq, ?_, ?_⟩
    · by_cases hpk' : (futGet s'.ent.futs f).parked = some pid
      · exact Or.inl (hmk hpk')
      · by_cases hz : cntHeap s'.heap pid = 0
        · exact Or.inr (Or.inr ⟨cntHeap_eq_zero.mp hz, hunp hpk'⟩)
        · exact Or.inr (Or.inl (hwoken hpk' hz))
    · intro hkeep
      have hlink := (procEff_track True s inv f pid hpk m hm m.time (fun _ => hkeep)).2 trivial
      rw [hr] at hlink
      rcases hlink with hl1 | ⟨h1, h2, h3, q, h4, h5⟩
      · exact Or.inl (hmk (by rw [he]; exact hl1))
      · right
        have hnp : (futGet s'.ent.futs f).parked ≠ some pid := by rw [he, h2]; simp
        refine ⟨hwoken hnp (by omega), ⟨by rw [he]; exact h1, by rw [he]; exact h2, q, by rw [he]; exact h4, ?_⟩⟩
        rw [he]; exact h5

def SilentRun (endT : Option Nat) (f pid : Nat) (s0 : St PS) (n : Nat) : Prop :=
  -- still waiting: blocked in every state so far, nothing delivered to `pid`
  ((∀ j, j ≤ n → Blocked f pid (run procMachine endT j s0)) ∧
    Quiet pid s0 (run procMachine endT n s0)) ∨
  -- or there is a first iteration `k + 1 ≤ n` that ends the wait: blocked in every state up to `k`,
  -- nothing delivered to `pid` up to and including iteration `k + 1`, which delivers some pending event
  -- `m` (the releaser) and wakes `pid` with a continuation stamped `m.time` (or loses the wake-up by
  -- overwriting slot `f`; excluded if the code of `m` leaves slot `f` alone)
  (∃ k m, k < n ∧ (∀ j, j ≤ k → Blocked f pid (run procMachine endT j s0)) ∧
    m ∈ (run procMachine endT k s0).heap ∧
    run procMachine endT (k + 1) s0 = stepWith procMachine (run procMachine endT k s0) m ∧
    Quiet pid s0 (run procMachine endT (k + 1) s0) ∧
    (Woken pid m (run procMachine endT (k + 1) s0) ∨ Lost pid (run procMachine endT (k + 1) s0)) ∧
    (stepKeeps f (run procMachine endT k s0).ent m = true →
      Woken pid m (run procMachine endT (k + 1) s0) ∧ WokenBy f pid (run procMachine endT (k + 1) s0)))

theorem wait_run (endT : Option Nat) (n : Nat) (s0 : St PS) (inv : ProcInv s0) (f pid : Nat)
    (hpk : (futGet s0.ent.futs f).parked = some pid) : SilentRun endT f pid s0 n := by
  induction n generalizing s0 with
  | zero => exact Or.inl ⟨fun j hj => by rw [Nat.le_zero.mp hj]; exact blocked_of_parked s0 inv f pid hpk, Quiet.refl _ _⟩
  | succ n ih =>
    have hb0 := blocked_of_parked s0 inv f pid hpk
    cases hs : step procMachine endT s0 with
    | none =>
      have hrun : ∀ j, run procMachine endT j s0 = s0 := fun j => by cases j <;> simp [run, hs]
      exact Or.inl ⟨fun j _ => by rw [hrun]; exact hb0, by rw [hrun]; exact Quiet.refl _ _⟩
    | some s1 =>
      have hrun : ∀ j, run procMachine endT (j + 1) s0 = run procMachine endT j s1 := fun j => by simp [run, hs]
      have hall : ∀ k, (∀ j, j ≤ k → Blocked f pid (run procMachine endT j s1)) →
          ∀ j, j ≤ k + 1 → Blocked f pid (run procMachine endT j s0) := fun k h j hj => by
        cases j with
        | zero => exact hb0
        | succ j => rw [hrun]; exact h j (by omega)
      obtain ⟨m, hm, -, -, hs1⟩ := step_eq_some hs
      obtain ⟨_, hq, htri, hkeep⟩ := wait_step s0 inv f pid hpk m hm
      rw [← hs1] at hq htri hkeep
      rcases htri with hb | hwl
      · rcases ih s1 (hs1 ▸ step_procInv s0 m inv hm) hb.parked with ⟨hbl, hq'⟩ | ⟨k, m', hk, hbl, hm', hstep, hq', hout, hcond⟩
        · exact Or.inl ⟨hall n hbl, by rw [hrun]; exact hq.trans hq'⟩
        · refine Or.inr ⟨k + 1, m', by omega, hall k hbl, by rw [hrun]; exact hm', ?_, ?_, ?_, ?_⟩
          · rw [hrun (k + 1), hrun k]; exact hstep
          · rw [hrun (k + 1)]; exact hq.trans hq'
          · rw [hrun (k + 1)]; exact hout
          · rw [hrun (k + 1), hrun k]; exact hcond
      · refine Or.inr ⟨0, m, by omega, fun j hj => by rw [Nat.le_zero.mp hj]; exact hb0, hm, ?_, ?_, ?_, ?_⟩
        · rw [hrun 0]; exact hs1
        · rw [hrun 0]; exact hq
        · rw [hrun 0]; exact hwl
        · rw [hrun 0]
          intro hk
          rcases hkeep hk with hb | hw
          · exact absurd hb.parked (hwl.elim (·.unparked f) (·.unparked f))
          · exact hw

/-- the delivery of the continuation is the resumption, logged at the continuation's time stamp -/
theorem resume_at_stamp (s : St PS) (c : Ev) (pid : Nat) (p : Proc) (hd : c.data = pid + 1)
    (hnc : s.cancelled.contains c.id = false) (hns : ¬ c.time < s.now) (hng : procCrashed s.ent c = false)
    (hp : s.ent.procs[pid]? = some p) (hst : p.started = true) (hsg : p.segs ≠ []) :
    (stepWith procMachine s c).now = c.time ∧
    Obs.resume c.time pid p.send c.tag ∈ (stepWith procMachine s c).ent.obs := by
  obtain ⟨seg, rest, hs⟩ := List.exists_cons_of_ne_nil hsg
  have hobs : Obs.resume c.time pid p.send c.tag ∈ (procEff s.ent c.time c).ps.obs := by
    unfold procEff
    simp only [show c.data ≠ 0 by omega, if_false, show c.data - 1 = pid by omega]
    exact resumed_value_logged c.time { ps := s.ent } pid c.tag p seg rest hp hst hs
  unfold stepWith
  simp only [hnc, hns, show procMachine.crashed s.ent c = false from hng, Bool.false_eq_true, if_false]
  exact ⟨trivial, (congrArg Out.ent (procHandle_eq s.ent c.time c)).symm ▸ hobs⟩

end HappyModel.C09.WaitSilent
