import HappyModel.C12.Paxos
namespace HappyModel.C12.Px

def Voted (s : St) (a c : Nat) (v : Val) : Prop := (a, c, v) ∈ s.votes
def PromGt (s : St) (a c : Nat) : Prop := ∃ q, (s.acc a).promised = some q ∧ c < q
def PromGe (s : St) (a c : Nat) : Prop := ∃ q, (s.acc a).promised = some q ∧ c ≤ q

/-- acceptor `a` either voted for `v` in ballot `c`, or has not voted in `c` and never will -/
def DidOrWont (s : St) (a c : Nat) (v : Val) : Prop :=
  Voted s a c v ∨ ((∀ v', ¬ Voted s a c v') ∧ PromGt s a c)

def SafeAt (s : St) (b : Nat) (v : Val) : Prop :=
  ∀ c, c < b → ∃ Q : List Nat, Q.Nodup ∧ (∀ a ∈ Q, a < s.cfg.n ∧ DidOrWont s a c v) ∧ s.cfg.q1 ≤ Q.length

def Chosen (s : St) (b : Nat) (v : Val) : Prop :=
  ∃ Q : List Nat, Q.Nodup ∧ (∀ a ∈ Q, a < s.cfg.n ∧ Voted s a b v) ∧ s.cfg.q2 ≤ Q.length

/-- phase-1 pipeline: each (ballot, acceptor) is in at most one of: prepare in flight, promise in
    flight, promise counted; the row of a ballot not yet used is empty (`fresh`), which is what lets `openSt1` write a
    broadcast over it -/
structure Net1 (s : St) : Prop where
  prep : ∀ b d, s.mPrep b d = true → d < s.cfg.n ∧ s.mProm b d = none ∧ d ∉ (s.p1 b).map (·.1)
  prom : ∀ b f r, s.mProm b f = some r → f < s.cfg.n ∧ f ∉ (s.p1 b).map (·.1) ∧ (f, b, r) ∈ s.proms
  p1 : ∀ b, ((s.p1 b).map (·.1)).Nodup ∧ ∀ f r, (f, r) ∈ s.p1 b → f < s.cfg.n ∧ (f, b, r) ∈ s.proms
  fresh : ∀ b, s.ownVal b = none → s.p1 b = [] ∧ ∀ d, s.mPrep b d = false ∧ s.mProm b d = none

/-- phase-2 pipeline, `Net1` again (Accept, Accepted, counted acknowledgement); an Accept in flight carries the phase-2
    value, and its acceptor has not voted in the ballot; the row of a ballot not yet in phase 2 is empty (`none_`, for
    `openSt2`) -/
structure Net2 (s : St) : Prop where
  none_ : ∀ b, s.started2 b = none → s.acks b = [] ∧ ∀ d, s.mAcpt b d = none ∧ s.mAcptd b d = false
  acpt : ∀ b d v, s.mAcpt b d = some v → s.started2 b = some v ∧ s.mAcptd b d = false ∧ d ∉ s.acks b ∧
            (∀ v', ¬ Voted s d b v')
  acptd : ∀ b f, s.mAcptd b f = true → f < s.cfg.n ∧ f ∉ s.acks b ∧ ∃ v, s.started2 b = some v ∧ Voted s f b v
  acks : ∀ b, (s.acks b).Nodup ∧ ∀ f ∈ s.acks b, f < s.cfg.n ∧ ∃ v, s.started2 b = some v ∧ Voted s f b v
  fresh : ∀ b, s.ownVal b = none → s.started2 b = none

structure Sem (s : St) : Prop where
  one : ∀ a b v, Voted s a b v → s.started2 b = some v
  vprom : ∀ a b v, Voted s a b v → a < s.cfg.n ∧ PromGe s a b
  vacc : ∀ a b v, (s.acc a).accepted = some (b, v) → Voted s a b v
  vmax : ∀ a b' v', Voted s a b' v' → ∃ b v, (s.acc a).accepted = some (b, v) ∧ b' ≤ b
  -- a promise `(f, b, r)`: `f` is a node; it still holds a promise ≥ `b`; `r` covers every vote of `f` below `b`;
  -- and `r`, if any, is a vote `f` really cast, at a ballot ≤ `b`
  pr : ∀ f b r, (f, b, r) ∈ s.proms →
        f < s.cfg.n ∧ PromGe s f b ∧
        (∀ b' v', Voted s f b' v' → b' < b → ∃ bm vm, r = some (bm, vm) ∧ b' ≤ bm) ∧
        (∀ bm vm, r = some (bm, vm) → Voted s f bm vm ∧ bm ≤ b)
  safe : ∀ b v, s.started2 b = some v → SafeAt s b v

structure Learn (s : St) : Prop where
  node : ∀ d v, s.decided d = some v → ∃ b, Chosen s b v
  msg : ∀ f d v, s.mDec f d = some v → ∃ b, Chosen s b v

structure Inv (s : St) : Prop where
  n1 : Net1 s
  n2 : Net2 s
  sem : Sem s
  learn : Learn s

theorem init_inv (n q1 q2 : Nat) : Inv (init n q1 q2) := by
  refine ⟨⟨?_, ?_, ?_, ?_⟩, ⟨?_, ?_, ?_, ?_, ?_⟩, ⟨?_, ?_, ?_, ?_, ?_, ?_⟩, ⟨?_, ?_⟩⟩ <;> simp [init, Voted]

theorem didOrWont_mono {s s' : St} {a c : Nat} {v : Val}
    (hv : ∀ x, x ∈ s.votes → x ∈ s'.votes)
    (hp : ∀ q, (s.acc a).promised = some q → ∃ q', (s'.acc a).promised = some q' ∧ q ≤ q')
    (hnew : ∀ v', (a, c, v') ∈ s'.votes → (a, c, v') ∈ s.votes ∨ ¬ PromGt s a c)
    (h : DidOrWont s a c v) : DidOrWont s' a c v := by
  rcases h with h | ⟨h1, h2⟩
  · exact Or.inl (hv _ h)
  · right
    refine ⟨?_, ?_⟩
    · intro v' hv'
      rcases hnew v' hv' with h' | h'
      · exact h1 v' h'
      · exact h' h2
    · obtain ⟨q, hq, hlt⟩ := h2
      obtain ⟨q', hq', hle⟩ := hp q hq
      exact ⟨q', hq', by omega⟩

theorem safeAt_mono {s s' : St} {b : Nat} {v : Val} (hn : s'.cfg = s.cfg)
    (hv : ∀ x, x ∈ s.votes → x ∈ s'.votes)
    (hp : ∀ a q, (s.acc a).promised = some q → ∃ q', (s'.acc a).promised = some q' ∧ q ≤ q')
    (hnew : ∀ a c v', (a, c, v') ∈ s'.votes → (a, c, v') ∈ s.votes ∨ ¬ PromGt s a c)
    (h : SafeAt s b v) : SafeAt s' b v := by
  intro c hc
  obtain ⟨Q, h1, h2, h3⟩ := h c hc
  refine ⟨Q, h1, ?_, by rw [hn]; exact h3⟩
  intro a ha
  obtain ⟨ha1, ha2⟩ := h2 a ha
  exact ⟨by rw [hn]; exact ha1, didOrWont_mono hv (hp a) (hnew a c) ha2⟩

theorem chosen_mono {s s' : St} {b : Nat} {v : Val} (hn : s'.cfg = s.cfg)
    (hv : ∀ x, x ∈ s.votes → x ∈ s'.votes) (h : Chosen s b v) : Chosen s' b v := by
  obtain ⟨Q, h1, h2, h3⟩ := h
  exact ⟨Q, h1, fun a ha => ⟨by rw [hn]; exact (h2 a ha).1, hv _ (h2 a ha).2⟩, by rw [hn]; exact h3⟩

theorem Sem.noVote {s : St} (h : Sem s) {b : Nat} (hnone : s.started2 b = none) (a : Nat) (v : Val) : ¬ Voted s a b v := by
  intro hv; have := h.one a b v hv; rw [hnone] at this; cases this

-- the fields `Net1`, `Net2` and `Sem` read
def St.view1 (s : St) := (s.cfg, s.mPrep, s.mProm, s.p1, s.ownVal, s.proms)
def St.view2 (s : St) := (s.cfg, s.started2, s.acks, s.mAcpt, s.mAcptd, s.votes, s.ownVal)
def St.viewSem (s : St) := (s.cfg, s.votes, s.acc, s.started2, s.proms)

theorem Net1.frame {s s' : St} (h : Net1 s) (e : s'.view1 = s.view1) : Net1 s' := by
  cases s; cases s'
  simp only [St.view1, Prod.mk.injEq] at e
  obtain ⟨rfl, rfl, rfl, rfl, rfl, rfl⟩ := e
  exact ⟨h.prep, h.prom, h.p1, h.fresh⟩

theorem Net2.frame {s s' : St} (h : Net2 s) (e : s'.view2 = s.view2) : Net2 s' := by
  cases s; cases s'
  simp only [St.view2, Prod.mk.injEq] at e
  obtain ⟨rfl, rfl, rfl, rfl, rfl, rfl, rfl⟩ := e
  exact ⟨h.none_, h.acpt, h.acptd, h.acks, h.fresh⟩

theorem Sem.frame {s s' : St} (h : Sem s) (e : s'.viewSem = s.viewSem) : Sem s' := by
  cases s; cases s'
  simp only [St.viewSem, Prod.mk.injEq] at e
  obtain ⟨rfl, rfl, rfl, rfl, rfl⟩ := e
  exact ⟨h.one, h.vprom, h.vacc, h.vmax, h.pr, h.safe⟩

theorem Learn.frame {s s' : St} (h : Learn s) (hn : s'.cfg = s.cfg) (e1 : s'.decided = s.decided)
    (e2 : s'.mDec = s.mDec) (hv : ∀ x, x ∈ s.votes → x ∈ s'.votes) : Learn s' := by
  refine ⟨?_, ?_⟩
  · intro d v hd; rw [e1] at hd; obtain ⟨b, hb⟩ := h.node d v hd; exact ⟨b, chosen_mono hn hv hb⟩
  · intro f d v hd; rw [e2] at hd; obtain ⟨b, hb⟩ := h.msg f d v hd; exact ⟨b, chosen_mono hn hv hb⟩

end HappyModel.C12.Px
