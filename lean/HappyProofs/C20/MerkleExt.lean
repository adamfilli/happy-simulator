import HappyProofs.C20.MerkleBase
import HappyModel.C20.MerkleState
/-! Sorted association lists are determined by their lookups: this ties the Spec's pointwise reading of
"the two maps are equal" to equality of the sorted item lists.  `mapVals` renames the values of a map; keys, order
and lookups carry over. -/
namespace HappyModel.C20

theorem sorted_ext (la lb : List (Nat × Nat)) (sa : SortedKeys la) (sb : SortedKeys lb)
    (h : ∀ k, lookupKV la k = lookupKV lb k) : la = lb := by
  induction la generalizing lb with
  | nil =>
    cases lb with
    | nil => rfl
    | cons q l2 =>
      obtain ⟨k2, v2⟩ := q
      have := h k2
      simp [lookupKV] at this
  | cons p l1 ih =>
    obtain ⟨k1, v1⟩ := p
    cases lb with
    | nil =>
      have := h k1
      simp [lookupKV] at this
    | cons q l2 =>
      obtain ⟨k2, v2⟩ := q
      simp only [SortedKeys, List.pairwise_cons] at sa sb
      have h1 := h k1
      have h2 := h k2
      simp only [lookupKV_cons, ↓reduceIte] at h1 h2
      -- if the head keys differed, each would occur in the other list's tail, which sortedness forbids both ways
      have hk : k1 = k2 := by
        by_cases hk : k1 = k2
        · exact hk
        · have hk' : ¬ k2 = k1 := fun e => hk e.symm
          simp only [hk, hk', ↓reduceIte] at h1 h2
          obtain ⟨p1, hp1, he1⟩ := key_mem_of_lookup l2 k1 (by rw [← h1]; simp)
          obtain ⟨p2, hp2, he2⟩ := key_mem_of_lookup l1 k2 (by rw [h2]; simp)
          have := sb.1 p1 hp1
          have := sa.1 p2 hp2
          omega
      subst hk
      simp only [↓reduceIte, Option.some.injEq] at h1
      subst h1
      congr 1
      apply ih l2 sa.2 sb.2
      intro k
      by_cases hkk : k1 = k
      · subst hkk
        rw [lookupKV_none_of_ne l1 k1 (fun p hp => by have := sa.1 p hp; omega),
            lookupKV_none_of_ne l2 k1 (fun p hp => by have := sb.1 p hp; omega)]
      · have := h k
        simpa [lookupKV_cons, hkk] using this

theorem keys_all_iff (la lb : List (Nat × Nat)) (sa : SortedKeys la) (sb : SortedKeys lb) :
    ((la.map (·.1) ++ lb.map (·.1)).all fun k => lookupKV la k == lookupKV lb k) = true ↔ la = lb := by
  constructor
  · intro h
    apply sorted_ext la lb sa sb
    intro k
    rw [List.all_eq_true] at h
    by_cases hk : k ∈ la.map (·.1) ++ lb.map (·.1)
    · simpa using h k hk
    · simp only [List.mem_append, List.mem_map, not_or, not_exists, not_and] at hk
      rw [lookupKV_none_of_ne la k (fun p hp => hk.1 p hp), lookupKV_none_of_ne lb k (fun p hp => hk.2 p hp)]
  · rintro rfl; simp

theorem lookupKV_mapVals (c : Nat → Nat) (m : List (Nat × Nat)) (k : Nat) :
    lookupKV (mapVals c m) k = (lookupKV m k).map c := by
  induction m with
  | nil => rfl
  | cons p rest ih =>
    obtain ⟨k', v'⟩ := p
    have e : mapVals c ((k', v') :: rest) = (k', c v') :: mapVals c rest := rfl
    rw [e, lookupKV_cons, lookupKV_cons]
    by_cases h : k' = k
    · simp [h]
    · simp [h, ih]

theorem mapVals_keys (c : Nat → Nat) (m : List (Nat × Nat)) : (mapVals c m).map (·.1) = m.map (·.1) := by
  simp [mapVals, List.map_map, Function.comp_def]

theorem mapVals_sorted (c : Nat → Nat) (m : List (Nat × Nat)) (h : SortedKeys m) : SortedKeys (mapVals c m) := by
  unfold SortedKeys mapVals at *
  rw [List.pairwise_map]
  exact h

end HappyModel.C20
