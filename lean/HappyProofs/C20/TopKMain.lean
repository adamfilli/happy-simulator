import HappyProofs.C20.TopKInv
namespace HappyModel.C20

/-- `t` = true counts of the stream seen so far, `N` = its total weight.  `untracked` splits on a free slot: while
    one is free nothing was ever evicted, so an untracked item has not occurred at all; once the table is full an
    untracked item was evicted at, or never reached, the minimum. -/
structure TKInv (s : TopK) (t : Nat → Nat) (N : Nat) : Prop where
  nodup : (s.cs.map (·.item)).Nodup
  len : s.cs.length ≤ s.k
  lower : ∀ c ∈ s.cs, t c.item ≤ c.count
  upper : ∀ c ∈ s.cs, c.count ≤ t c.item + c.err
  sum : sumCounts s.cs = N
  cnt : s.n = N
  untracked : ∀ x, isTracked s.cs x = false →
    (if s.cs.length < s.k then t x = 0 else t x ≤ minCount s.cs)

theorem TKInv.init (k : Nat) : TKInv (TopK.empty k) (fun _ => 0) 0 where
  nodup := List.nodup_nil
  len := Nat.zero_le _
  lower := nofun
  upper := nofun
  sum := rfl
  cnt := rfl
  untracked := by intro x _; split <;> simp

/-- A counter `⟨x, n, e⟩` for the untracked item `x` is installed behind a sub-list `base` of the old counters
(all of them if a slot is free, all but the evicted one otherwise).  Distinctness and the two bounds do not
depend on which counters were kept; length, sum and the clause on untracked items do. -/
theorem TKInv.install {s : TopK} {t t' : Nat → Nat} {N x c n e : Nat} {base : List Ctr} (inv : TKInv s t N)
    (ht : ∀ y, t' y = if y = x then t y + c else t y) (hx : isTracked s.cs x = false)
    (hsub : base.Sublist s.cs) (hlo : t x + c ≤ n) (hup : n ≤ t x + c + e) (hlen : base.length < s.k)
    (hsum : sumCounts base + n = N + c)
    (hunt : ∀ y, y ≠ x → isTracked base y = false →
      if base.length + 1 < s.k then t y = 0 else t y ≤ minCount (base ++ [⟨x, n, e⟩])) :
    TKInv ⟨s.k, base ++ [⟨x, n, e⟩], s.n + c⟩ t' (N + c) := by
  have hnx : ∀ a ∈ base, a.item ≠ x := fun a ha => (isTracked_false_iff _ _).mp hx a (hsub.subset ha)
  have both : ∀ a ∈ base ++ [⟨x, n, e⟩], t' a.item ≤ a.count ∧ a.count ≤ t' a.item + a.err := by
    intro a ha
    rw [ht]
    rcases List.mem_append.mp ha with ha | ha
    · rw [if_neg (hnx a ha)]
      exact ⟨inv.lower a (hsub.subset ha), inv.upper a (hsub.subset ha)⟩
    · rw [List.mem_singleton.mp ha, if_pos rfl]
      exact ⟨hlo, hup⟩
  refine ⟨?_, ?_, fun a ha => (both a ha).1, fun a ha => (both a ha).2, ?_, by rw [← inv.cnt], ?_⟩
  · rw [List.map_append, List.nodup_append]
    refine ⟨(hsub.map _).nodup inv.nodup, by simp, ?_⟩
    rintro _ ha _ hb rfl
    obtain ⟨a, ha', rfl⟩ := List.mem_map.mp ha
    exact hnx a ha' (List.mem_singleton.mp hb)
  · rw [List.length_append]; exact hlen
  · rw [sumCounts_append, sumCounts_cons, sumCounts_nil]; omega
  · intro y hy
    have : isTracked base y = false ∧ x ≠ y := by simpa [isTracked] using hy
    rw [ht, if_neg (Ne.symm this.2)]
    simpa using hunt y (Ne.symm this.2) this.1

theorem TKInv.step {s : TopK} {t t' : Nat → Nat} {N x c : Nat} (inv : TKInv s t N) (hk : 0 < s.k) (hc : c ≠ 0)
    (ht : ∀ y, t' y = if y = x then t y + c else t y) : TKInv (s.add x c) t' (N + c) := by
  unfold TopK.add
  rw [if_neg hc]
  split
  · next htr =>
    have both : ∀ b ∈ incr x c s.cs, t' b.item ≤ b.count ∧ b.count ≤ t' b.item + b.err := by
      intro b hb
      obtain ⟨a, ha, rfl⟩ := mem_incr.mp hb
      have := inv.lower a ha
      have := inv.upper a ha
      rw [ht]
      by_cases hax : a.item = x
      · subst hax; simp; omega
      · simp [hax]; omega
    have hlen : (incr x c s.cs).length = s.cs.length := List.length_map _
    refine ⟨by simpa [map_item_incr] using inv.nodup, by simpa [incr] using inv.len,
      fun b hb => (both b hb).1, fun b hb => (both b hb).2, ?_, by simp [inv.cnt], ?_⟩
    · rw [← inv.sum]; exact (sumCounts_incr x c s.cs inv.nodup).trans (by rw [if_pos htr])
    · intro y hy
      rw [isTracked_incr] at hy
      have hyx : y ≠ x := by rintro rfl; rw [htr] at hy; cases hy
      have := inv.untracked y hy
      rw [ht, if_neg hyx]
      show if (incr x c s.cs).length < s.k then t y = 0 else t y ≤ minCount (incr x c s.cs)
      rw [hlen]
      split
      · next hl => rwa [if_pos hl] at this
      · next hl =>
        rw [if_neg hl] at this
        obtain ⟨a, ha, _⟩ := List.mem_map.mp ((isTracked_iff _ _).mp htr)
        -- raising one counter cannot lower the minimum
        refine Nat.le_trans this (minCount_mono (List.ne_nil_of_mem (mem_incr.mpr ⟨a, ha, rfl⟩)) ?_)
        intro b hb
        obtain ⟨a, ha, rfl⟩ := mem_incr.mp hb
        exact ⟨a, ha, by split <;> simp⟩
  · next htr =>
    have htr' : isTracked s.cs x = false := by simpa using htr
    have hx := inv.untracked x htr'
    split
    · next hlen =>
      rw [if_pos hlen] at hx
      refine inv.install ht htr' (List.Sublist.refl _) (by omega) (by omega) hlen (by rw [inv.sum]) ?_
      intro y _ hy
      have := inv.untracked y hy
      rw [if_pos hlen] at this
      split <;> simp [this]
    · next hlen =>
      rw [if_neg hlen] at hx
      obtain ⟨m, hfm, hm, hmc⟩ := firstMin_spec s.cs (by rintro h; rw [h] at hlen; exact hlen hk)
      obtain ⟨hflen, hfsum⟩ := filter_remove s.cs m inv.nodup hm
      have hl := inv.len
      rw [hfm]
      refine inv.install ht htr' List.filter_sublist (by omega) (by omega) (by omega)
        (by rw [← inv.sum]; omega) ?_
      intro y _ hy
      rw [if_neg (by omega)]
      -- the evicted item is bounded by its old counter, which was the minimum; and the minimum cannot drop,
      -- the newcomer starting at `min + c`
      have : t y ≤ minCount s.cs := by
        by_cases hym : y = m.item
        · rw [hym, ← hmc]; exact inv.lower m hm
        · have := inv.untracked y <| (isTracked_false_iff _ _).mpr fun a ha hay =>
            (isTracked_false_iff _ _).mp hy a (List.mem_filter.mpr ⟨ha, by simpa [hay] using hym⟩) hay
          rwa [if_neg hlen] at this
      refine Nat.le_trans this (minCount_mono (by simp) ?_)
      intro b hb
      rcases List.mem_append.mp hb with hb | hb
      · exact ⟨b, (List.mem_filter.mp hb).1, Nat.le_refl _⟩
      · rw [List.mem_singleton.mp hb]; exact ⟨m, hm, Nat.le_add_right _ _⟩

theorem TKInv.fold (xs pre : Stream) (s : TopK) (hk : 0 < s.k)
    (inv : TKInv s (trueCount pre) (total pre)) :
    TKInv (xs.foldl (fun s p => s.add p.1 p.2) s) (trueCount (pre ++ xs)) (total (pre ++ xs)) := by
  induction xs generalizing s pre with
  | nil => simpa using inv
  | cons p ps ih =>
    obtain ⟨x, c⟩ := p
    rw [List.foldl_cons, List.append_cons]
    refine ih _ _ (by simpa using hk) ?_
    have ht : ∀ y, trueCount (pre ++ [(x, c)]) y
        = if y = x then trueCount pre y + c else trueCount pre y := by
      intro y
      simp only [trueCount_append, trueCount, Nat.add_zero, eq_comm (a := x)]
      split <;> rfl
    rw [show total (pre ++ [(x, c)]) = total pre + c by simp [total_append, total]]
    by_cases hc : c = 0
    · subst hc
      rw [show s.add x 0 = s from if_pos rfl]
      exact (funext fun y => by rw [ht]; split <;> rfl : trueCount (pre ++ [(x, 0)]) = trueCount pre) ▸ inv
    · exact inv.step hk hc ht

theorem TKInv.ofStream (k : Nat) (hk : 0 < k) (xs : Stream) :
    TKInv (TopK.ofStream k xs) (trueCount xs) (total xs) := by
  have := TKInv.fold xs [] (TopK.empty k) hk (by simpa [trueCount, total] using TKInv.init k)
  simpa [TopK.ofStream] using this

/-- observation the driver prints for probe `x` -/
def TopK.obs (s : TopK) (x : Nat) : TObs := ⟨x, (s.query x).1, (s.query x).2.1, (s.query x).2.2⟩

theorem TKInv.boundOk {s : TopK} {xs : Stream} (inv : TKInv s (trueCount xs) (total xs)) (x : Nat) :
    topkBoundOk xs (s.obs x) = true := by
  unfold TopK.obs TopK.query TopK.find topkBoundOk
  cases hf : s.cs.find? (fun c => c.item == x) with
  | some c =>
    have hc := List.mem_of_find?_eq_some hf
    have hx : c.item = x := by simpa using List.find?_some hf
    have h1 := inv.lower c hc
    have h2 := inv.upper c hc
    rw [hx] at h1 h2
    simp [h1, h2]
  | none =>
    have hu := inv.untracked x ((find_isTracked _ _).mp hf)
    simp only [Nat.zero_le, decide_true, Bool.false_eq_true, ↓reduceIte, BEq.rfl, Bool.true_and,
      decide_eq_true_eq]
    split at hu
    · omega
    · exact hu

/-- `k · min ≤ Σ counters = N`, so an untracked item, whose count is at most the minimum, has `t x ≤ N / k` -/
theorem TKInv.heavyOk {s : TopK} {xs : Stream} (inv : TKInv s (trueCount xs) (total xs))
    (hk : 0 < s.k) (x : Nat) : topkHeavyOk xs s.k (s.obs x) = true := by
  unfold topkHeavyOk TopK.obs TopK.query TopK.find
  cases hf : s.cs.find? (fun c => c.item == x) with
  | some c => simp
  | none =>
    have hu := inv.untracked x ((find_isTracked _ _).mp hf)
    simp only [Bool.or_false, Bool.not_eq_eq_eq_not, Bool.not_true, decide_eq_false_iff_not, Nat.not_lt]
    split at hu
    · rw [hu]; exact Nat.zero_le _
    · next hlen =>
      have hl : s.cs.length = s.k := by have := inv.len; omega
      have h1 := minCount_mul_le s.cs
      rw [hl, inv.sum] at h1
      exact Nat.le_trans hu ((Nat.le_div_iff_mul_le hk).mpr h1)

theorem sumList_perm {a b : List Nat} (h : a.Perm b) : sumList a = sumList b := by
  induction h with
  | nil => rfl
  | cons x _ ih => simp [sumList, ih]
  | swap x y l => simp only [sumList]; omega
  | trans _ _ ih1 ih2 => rw [ih1, ih2]

theorem TKInv.sumOk {s : TopK} {xs : Stream} (inv : TKInv s (trueCount xs) (total xs)) :
    topkSumOk xs (s.top.map (·.count)) s.n = true := by
  unfold topkSumOk TopK.top
  have hp : (s.cs.mergeSort (fun a b => decide (a.count ≥ b.count))).Perm s.cs := List.mergeSort_perm _ _
  have := sumList_perm (hp.map (·.count))
  rw [this]
  have hs := inv.sum
  unfold sumCounts at hs
  simp [hs, inv.cnt]

end HappyModel.C20
