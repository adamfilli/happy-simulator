import HappyModel.C06.Spec
/-! What the plan says about a window (how `kindOf`, `isPartF`, `partOnF` and `netWF` hang together), and
what one event of a well-formed schedule does to the lists `ever` / `act` that `wfFrom` threads. -/
namespace HappyModel.C06

theorem partOnF_isPartF (fs : List Fault) (k x : Nat) (h : partOnF fs k x = true) :
    isPartF fs x = true := by
  unfold partOnF at h
  unfold isPartF kindOf
  cases hx : fs[x]? with
  | none => simp [hx] at h
  | some ft =>
    simp only [hx, Bool.and_eq_true] at h
    simp only [Option.map_some]
    cases hk : ft.kind <;> simp_all [isPartK]

theorem netWF_members (fs : List Fault) (hn : netWF fs = true) (x : Nat) (ft : Fault)
    (hx : fs[x]? = some ft) (asym : Bool) (A B : List Nat) (hk : ft.kind = .part asym A B) :
    ∀ y, (y ∈ A ∨ y ∈ B) → netOf y = ft.net := by
  intro y hy
  have hm : ft ∈ fs := List.mem_of_getElem? hx
  have h1 := List.all_eq_true.mp hn ft hm
  simp only [hk] at h1
  have h2 := List.all_eq_true.mp h1 y (List.mem_append.mpr hy)
  simpa using h2

theorem isPartK_of_isPartF {fs : List Fault} {f : Nat} {k : Kind} (hk : kindOf fs f = some k)
    (hp : isPartF fs f = true) : isPartK k = true := by
  unfold isPartF at hp; rw [hk] at hp
  cases k <;> simp_all [isPartK]

theorem kindOf_set_ne (fs : List Fault) (f x : Nat) (g : Fault) (h : x ≠ f) :
    kindOf (fs.set f g) x = kindOf fs x := by
  unfold kindOf
  rw [List.getElem?_set_ne (fun h' => h h'.symm)]

def everStep (ever : List Nat) : Pop → List Nat
  | .fault _ f true => f :: ever
  | _ => ever

theorem wfFrom_tail (fs : List Fault) (ever act : List Nat) (p : Pop) (rest : List Pop)
    (h : wfFrom fs ever act (p :: rest) = true) :
    wfFrom fs (everStep ever p) (actStep fs act p) rest = true := by
  cases p with
  | fault t f a => cases a <;> exact (Bool.and_eq_true _ _ ▸ h).2
  | _ => exact h

theorem wfFrom_keeps {fs : List Fault} {ever act : List Nat} {p : Pop} {rest : List Pop}
    (h : wfFrom fs ever act (p :: rest) = true) (nd : act.Nodup) (hsub : ∀ x, x ∈ act → x ∈ ever) :
    (actStep fs act p).Nodup ∧ ∀ x, x ∈ actStep fs act p → x ∈ everStep ever p := by
  cases p with
  | fault t g a =>
    cases a with
    | true =>
      simp only [wfFrom, Bool.and_eq_true, Bool.not_eq_true', List.contains_eq_mem,
        decide_eq_false_iff_not] at h
      exact ⟨List.nodup_cons.mpr ⟨fun hm => h.1 (hsub g hm), nd⟩,
        fun x hx => (List.mem_cons.mp hx).imp id (hsub x) |> List.mem_cons.mpr⟩
    | false => exact ⟨nd.erase g, fun x hx => hsub x (List.mem_of_mem_erase hx)⟩
  | healall t k => exact ⟨nd.sublist List.filter_sublist, fun x hx => hsub x (List.mem_filter.mp hx).1⟩
  | _ => exact ⟨nd, hsub⟩

end HappyModel.C06
