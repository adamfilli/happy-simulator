import HappyModel.C20.Seq
/-!
Sketch programs (`HappyModel/C20/Seq.lean`): whatever a program does *after* a merge, every register
is observationally the sketch of its logical stream.  The lawful instances (Bloom, Count-Min, HyperLogLog) are at
the end of their own files.
-/
namespace HappyModel.C20

theorem seqStep_length {σ α : Type} (A : SeqAlg σ α) (regs : List σ) (op : SeqOp α) :
    (seqStep A regs op).length = regs.length := by
  cases op <;> simp only [seqStep] <;> split <;> simp

theorem seqStep_frame {σ α : Type} (A : SeqAlg σ α) (regs : List σ) (op : SeqOp α) (r : Nat)
    (h : op.target ≠ some r) : (seqStep A regs op)[r]? = regs[r]? := by
  cases op <;> simp only [seqStep] <;> split <;>
    first | rfl | exact List.getElem?_set_ne fun e => h (congrArg some e)

theorem seqInit_get {σ α : Type} (A : SeqAlg σ α) (n r : Nat) (h : r < n) :
    (seqInit A n)[r]? = some (A.empty r) := by
  simp [seqInit, h]

theorem SeqAlg.ofStream_nil {σ α : Type} (A : SeqAlg σ α) (r : Nat) : A.ofStream r [] = A.empty r := rfl

theorem SeqAlg.ofStream_snoc {σ α : Type} (A : SeqAlg σ α) (r : Nat) (xs : List (α × Nat)) (x : α) (c : Nat) :
    A.ofStream r (xs ++ [(x, c)]) = A.add r (A.ofStream r xs) x c := by
  simp [SeqAlg.ofStream, List.foldl_append]

structure Refines {σ α : Type} (A : SeqAlg σ α) (E : σ → σ → Prop)
    (regs : List σ) (ls : List (List (α × Nat))) : Prop where
  len : regs.length = ls.length
  eqv : ∀ r s xs, regs[r]? = some s → ls[r]? = some xs → E s (A.ofStream r xs)

theorem Refines.get {σ α : Type} {A : SeqAlg σ α} {E : σ → σ → Prop} {regs : List σ}
    {ls : List (List (α × Nat))} (R : Refines A E regs ls) (u : Nat) :
    (regs[u]? = none ∧ ls[u]? = none) ∨ ∃ b ys, regs[u]? = some b ∧ ls[u]? = some ys ∧ E b (A.ofStream u ys) := by
  by_cases hu : u < regs.length
  · exact Or.inr ⟨regs[u], ls[u]'(R.len ▸ hu), List.getElem?_eq_getElem hu, List.getElem?_eq_getElem _,
      R.eqv _ _ _ (List.getElem?_eq_getElem hu) (List.getElem?_eq_getElem _)⟩
  · exact Or.inl ⟨List.getElem?_eq_none (Nat.le_of_not_lt hu), List.getElem?_eq_none (R.len ▸ Nat.le_of_not_lt hu)⟩

/-- what an algebra must satisfy (w.r.t. an observational equivalence `E` and a relation `same` on
    registers that may be merged) for programs to respect logical streams -/
structure Lawful {σ α : Type} (A : SeqAlg σ α) (E : σ → σ → Prop) (same : Nat → Nat → Prop) : Prop where
  refl : ∀ s, E s s
  add : ∀ r s s' x c, E s s' → E (A.add r s x c) (A.add r s' x c)
  merge : ∀ t s xs ys a b, same t s → E a (A.ofStream t xs) → E b (A.ofStream s ys) →
    E (A.merge a b) (A.ofStream t (xs ++ ys))
  clear : ∀ r s, E (A.clear r s) (A.empty r)

def SeqOp.okFor {α : Type} (same : Nat → Nat → Prop) : SeqOp α → Prop
  | .merge t s => same t s
  | _ => True

theorem Refines.set {σ α : Type} {A : SeqAlg σ α} {E : σ → σ → Prop} {regs : List σ} {ls : List (List (α × Nat))}
    (R : Refines A E regs ls) (r : Nat) (v : σ) (ys : List (α × Nat)) (h : E v (A.ofStream r ys)) :
    Refines A E (regs.set r v) (ls.set r ys) := by
  refine ⟨by rw [List.length_set, List.length_set, R.len], fun q s xs hs hxs => ?_⟩
  rw [List.getElem?_set] at hs hxs
  by_cases hq : r = q
  · subst hq
    rw [if_pos rfl] at hs hxs
    have hr : r < regs.length := Decidable.byContradiction fun h' => by rw [if_neg h'] at hs; cases hs
    rw [if_pos hr] at hs
    rw [if_pos (R.len ▸ hr)] at hxs
    cases hs; cases hxs; exact h
  · rw [if_neg hq] at hs hxs
    exact R.eqv q s xs hs hxs

theorem seqStep_refines {σ α : Type} (A : SeqAlg σ α) (E : σ → σ → Prop) (same : Nat → Nat → Prop)
    (L : Lawful A E same) (regs : List σ) (ls : List (List (α × Nat))) (op : SeqOp α)
    (hop : op.okFor same) (R : Refines A E regs ls) :
    Refines A E (seqStep A regs op) (seqStep (logicalAlg α) ls op) := by
  cases op with
  | skip => exact R
  | add t x c =>
    rcases R.get t with ⟨h1, h2⟩ | ⟨a, xs, h1, h2, ea⟩ <;> simp only [seqStep, h1, h2]
    · exact R
    · exact R.set t _ _ (SeqAlg.ofStream_snoc A .. ▸ L.add _ _ _ _ _ ea)
  | clear t =>
    rcases R.get t with ⟨h1, h2⟩ | ⟨a, xs, h1, h2, -⟩ <;> simp only [seqStep, h1, h2]
    · exact R
    · exact R.set t _ _ (L.clear _ _)
  | merge t u =>
    -- a missing target or a missing source leaves both sides as they are
    rcases R.get t with ⟨h1, h2⟩ | ⟨a, xs, h1, h2, ea⟩ <;> rcases R.get u with ⟨g1, g2⟩ | ⟨b, ys, g1, g2, eb⟩ <;>
      simp only [seqStep, h1, h2, g1, g2]
    · exact R
    · exact R
    · exact R
    · exact R.set t _ _ (L.merge _ _ _ _ _ _ hop ea eb)

theorem seqInit_refines {σ α : Type} (A : SeqAlg σ α) (E : σ → σ → Prop) (same : Nat → Nat → Prop)
    (L : Lawful A E same) (n : Nat) :
    Refines A E (seqInit A n) (seqInit (logicalAlg α) n) := by
  refine ⟨by simp [seqInit], fun r s xs hs hxs => ?_⟩
  have hr : r < n := by simpa [seqInit] using (List.getElem?_eq_some_iff.mp hs).1
  rw [seqInit_get A n r hr] at hs
  rw [seqInit_get (logicalAlg α) n r hr] at hxs
  cases hs
  cases hxs
  exact L.refl _

theorem seqRun_refines_from {σ α : Type} (A : SeqAlg σ α) (E : σ → σ → Prop) (same : Nat → Nat → Prop)
    (L : Lawful A E same) (ops : List (SeqOp α)) (hops : ∀ op ∈ ops, op.okFor same)
    (regs : List σ) (ls : List (List (α × Nat))) (R : Refines A E regs ls) :
    Refines A E (seqRun A regs ops) (seqRun (logicalAlg α) ls ops) := by
  induction ops generalizing regs ls with
  | nil => exact R
  | cons op ops ih =>
    simp only [seqRun, List.foldl_cons]
    exact ih (fun o ho => hops o (List.mem_cons_of_mem _ ho)) _ _
      (seqStep_refines A E same L regs ls op (hops op (List.mem_cons_self ..)) R)

/-- **every register is, at every moment, the sketch of its logical stream** (up to `E`) -/
theorem seqRun_refines {σ α : Type} (A : SeqAlg σ α) (E : σ → σ → Prop) (same : Nat → Nat → Prop)
    (L : Lawful A E same) (n : Nat) (ops : List (SeqOp α)) (hops : ∀ op ∈ ops, op.okFor same)
    (r : Nat) (s : σ) (xs : List (α × Nat))
    (hs : (seqRun A (seqInit A n) ops)[r]? = some s) (hxs : (logical n ops)[r]? = some xs) :
    E s (A.ofStream r xs) :=
  (seqRun_refines_from A E same L ops hops _ _ (seqInit_refines A E same L n)).eqv r s xs hs hxs

/-- a lawful algebra from an observation `view` of the sketches; `E` is equality under `view`.  `hsame`: a register
    that may be merged into `t` builds the same sketches as `t`, so the source's stream can be re-read in the
    target's configuration -/
theorem Lawful.of_view {σ α V : Type} {A : SeqAlg σ α} {same : Nat → Nat → Prop} (view : σ → V)
    (add : ∀ r x c {s s'}, view s = view s' → view (A.add r s x c) = view (A.add r s' x c))
    (merge : ∀ {a a' b b'}, view a = view a' → view b = view b' → view (A.merge a b) = view (A.merge a' b'))
    (cat : ∀ t xs ys, view (A.merge (A.ofStream t xs) (A.ofStream t ys)) = view (A.ofStream t (xs ++ ys)))
    (hsame : ∀ t s ys, same t s → A.ofStream s ys = A.ofStream t ys)
    (clear : ∀ r s, view (A.clear r s) = view (A.empty r)) : Lawful A (fun a b => view a = view b) same where
  refl _ := rfl
  add r _ _ x c := add r x c
  merge t s xs ys _ _ hs ea eb := (merge ea (hsame t s ys hs ▸ eb)).trans (cat t xs ys)
  clear := clear

end HappyModel.C20
