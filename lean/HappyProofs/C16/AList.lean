import HappyModel.C16.Policies
import HappyProofs.Lib.Lists
import HappyProofs.Lib.Keyed
/-!
Laws of the insertion-ordered association lists that model Python's `dict` (`aset` is `d[k] = v`, `adel` is
`d.pop(k, None)`), and of duplicate-free key lists under `move_to_end` / `del`.
-/
namespace HappyModel.C16

theorem nodup_append_singleton {l : List Key} {k : Key} (h : l.Nodup) (hk : k ∉ l) :
    (l ++ [k]).Nodup := nodup_snoc h hk

theorem nodup_erase_append {l : List Key} {k : Key} (h : l.Nodup) : (l.erase k ++ [k]).Nodup :=
  nodup_append_singleton (h.erase k) (h.not_mem_erase)

theorem mem_erase_append {l : List Key} {k : Key} (h : l.Nodup) (hk : k ∈ l) (x : Key) :
    x ∈ l.erase k ++ [k] ↔ x ∈ l := by
  by_cases e : x = k <;> simp [h.mem_erase_iff, e, hk]

theorem mem_erase_iff' {l : List Key} {k : Key} (h : l.Nodup) (x : Key) :
    x ∈ l.erase k ↔ x ∈ l ∧ x ≠ k := by
  rw [h.mem_erase_iff]; exact And.comm

theorem eraseIdx_eq_erase {l : List Key} (h : l.Nodup) {i : Nat} {k : Key} (hi : l[i]? = some k) :
    l.eraseIdx i = l.erase k := by
  obtain ⟨hlt, rfl⟩ := List.getElem?_eq_some_iff.mp hi
  exact (List.erase_eq_eraseIdx_of_idxOf (h.idxOf_getElem i hlt)).symm

theorem akeys_nil {α} : akeys ([] : List (Key × α)) = [] := rfl

theorem akeys_eq_nil {α} (l : List (Key × α)) : akeys l = [] ↔ l = [] := by
  simp [akeys]

theorem length_akeys {α} (l : List (Key × α)) : (akeys l).length = l.length := by
  simp [akeys]

theorem mem_akeys_of_mem {α} {l : List (Key × α)} {p : Key × α} (h : p ∈ l) : p.1 ∈ akeys l :=
  List.mem_map.mpr ⟨p, h, rfl⟩

theorem akeys_append {α} (l m : List (Key × α)) : akeys (l ++ m) = akeys l ++ akeys m := by
  simp [akeys]

theorem akeys_map_upd {α} (l : List (Key × α)) (k : Key) (v : α) :
    akeys (l.map (fun p => if p.1 = k then (k, v) else p)) = akeys l := by
  induction l with
  | nil => rfl
  | cons p t ih =>
    simp only [akeys, List.map_cons] at ih ⊢
    rw [ih]
    by_cases hp : p.1 = k <;> simp [hp]

theorem akeys_eraseIdx {α} (l : List (Key × α)) (i : Nat) :
    akeys (l.eraseIdx i) = (akeys l).eraseIdx i := by
  induction l generalizing i with
  | nil => rfl
  | cons a t ih =>
    cases i with
    | zero => rfl
    | succ j => simp only [akeys, List.eraseIdx_cons_succ, List.map_cons] at ih ⊢; rw [ih]

theorem akeys_set_fst {α} (l : List (Key × α)) (i : Nat) (p : Key × α) (v : α) (h : l[i]? = some p) :
    akeys (l.set i (p.1, v)) = akeys l := by
  induction l generalizing i with
  | nil => rfl
  | cons a t ih =>
    cases i with
    | zero => simp at h; subst h; simp [akeys]
    | succ j =>
      simp at h
      simp only [akeys, List.set_cons_succ, List.map_cons] at ih ⊢; rw [ih j h]

theorem akeys_aset_mem {α} (l : List (Key × α)) (k : Key) (v : α) (h : k ∈ akeys l) :
    akeys (aset l k v) = akeys l := by
  simp only [aset, h, if_true]
  exact akeys_map_upd l k v

theorem akeys_aset_not_mem {α} (l : List (Key × α)) (k : Key) (v : α) (h : k ∉ akeys l) :
    akeys (aset l k v) = akeys l ++ [k] := by
  simp only [aset, h, if_false]
  simp [akeys]

theorem mem_akeys_aset {α} (l : List (Key × α)) (k x : Key) (v : α) :
    x ∈ akeys (aset l k v) ↔ x = k ∨ x ∈ akeys l := by
  by_cases hk : k ∈ akeys l
  · rw [akeys_aset_mem _ _ _ hk]
    exact ⟨Or.inr, fun h => h.elim (· ▸ hk) id⟩
  · rw [akeys_aset_not_mem _ _ _ hk, List.mem_append, List.mem_singleton]
    exact Or.comm

theorem aset_length_mem {α} (l : List (Key × α)) (k : Key) (v : α) (h : k ∈ akeys l) :
    (aset l k v).length = l.length := by
  simp [aset, h]

theorem aset_length_not_mem {α} (l : List (Key × α)) (k : Key) (v : α) (h : k ∉ akeys l) :
    (aset l k v).length = l.length + 1 := by
  simp [aset, h]

theorem akeys_adel {α} (l : List (Key × α)) (k : Key) :
    akeys (adel l k) = (akeys l).filter (fun x => x != k) := by
  induction l with
  | nil => rfl
  | cons p t ih =>
    simp only [akeys, adel, List.map_cons] at ih ⊢
    by_cases hp : p.1 = k <;> simp [hp, ih]

theorem mem_akeys_adel {α} (l : List (Key × α)) (k x : Key) :
    x ∈ akeys (adel l k) ↔ x ∈ akeys l ∧ x ≠ k := by
  rw [akeys_adel, List.mem_filter]; simp

theorem nodup_akeys_adel {α} (l : List (Key × α)) (k : Key) (h : (akeys l).Nodup) :
    (akeys (adel l k)).Nodup := by
  rw [akeys_adel]; exact h.sublist List.filter_sublist

theorem adel_length_lt {α} (l : List (Key × α)) (k : Key) (h : k ∈ akeys l) :
    (adel l k).length < l.length := by
  obtain ⟨p, hp, rfl⟩ := List.mem_map.mp h
  exact List.length_filter_lt_length_iff_exists.mpr ⟨p, hp, by simp⟩

theorem length_le_adel {α} (l : List (Key × α)) (k : Key) (h : (akeys l).Nodup) :
    l.length ≤ (adel l k).length + 1 := by
  rw [← length_akeys l, ← length_akeys (adel l k), akeys_adel, ← h.erase_eq_filter, List.length_erase]
  split <;> omega

theorem aget?_cons {α} (p : Key × α) (t : List (Key × α)) (k : Key) :
    aget? (p :: t) k = if p.1 = k then some p.2 else aget? t k := by
  by_cases h : p.1 = k <;> simp [aget?, h]

theorem aget?_none_iff {α} (l : List (Key × α)) (k : Key) : aget? l k = none ↔ k ∉ akeys l := by
  rw [aget?, akeys, Option.map_eq_none_iff, List.find?_eq_none, List.mem_map]
  exact ⟨fun h ⟨a, ha, e⟩ => h a ha (beq_iff_eq.mpr e), fun h a ha e => h ⟨a, ha, beq_iff_eq.mp e⟩⟩

theorem mem_akeys_of_some {α} (l : List (Key × α)) (k : Key) (v : α) (h : aget? l k = some v) :
    k ∈ akeys l :=
  Classical.byContradiction fun hn => by rw [(aget?_none_iff l k).mpr hn] at h; cases h

theorem some_of_mem_akeys {α} (l : List (Key × α)) (k : Key) (h : k ∈ akeys l) :
    ∃ v, aget? l k = some v :=
  Option.ne_none_iff_exists'.mp fun hv => (aget?_none_iff l k).mp hv h

theorem aget?_mem_pair {α} (l : List (Key × α)) (k : Key) (c : α) (h : aget? l k = some c) : (k, c) ∈ l := by
  simp only [aget?, Option.map_eq_some_iff] at h
  obtain ⟨⟨a, b⟩, hp, hc⟩ := h
  have h2 := List.find?_some hp
  simp only [beq_iff_eq] at h2 hc
  subst h2; subst hc; exact List.mem_of_find?_eq_some hp

theorem aget?_of_mem_nodup {α} (l : List (Key × α)) (p : Key × α) (hn : (akeys l).Nodup) (hp : p ∈ l) :
    aget? l p.1 = some p.2 := by
  induction l with
  | nil => cases hp
  | cons a t ih =>
    simp only [akeys, List.map_cons, List.nodup_cons] at hn
    rcases List.mem_cons.mp hp with rfl | hp'
    · simp [aget?]
    · have hne : a.1 ≠ p.1 := fun e => hn.1 (e ▸ List.mem_map.mpr ⟨p, hp', rfl⟩)
      have : aget? (a :: t) p.1 = aget? t p.1 := by simp [aget?, hne]
      rw [this]; exact ih hn.2 hp'

theorem aget?_map_self {α} (l : List (Key × α)) (k : Key) (v : α) (h : k ∈ akeys l) :
    aget? (l.map (fun p => if p.1 = k then (k, v) else p)) k = some v := by
  induction l with
  | nil => simp [akeys] at h
  | cons p t ih =>
    rw [List.map_cons, aget?_cons]
    by_cases hp : p.1 = k
    · simp [hp]
    · simp only [akeys, List.map_cons, List.mem_cons] at h
      simp [hp, ih (h.resolve_left (Ne.symm hp))]

theorem aget?_map_other {α} (l : List (Key × α)) (k k' : Key) (v : α) (h : k' ≠ k) :
    aget? (l.map (fun p => if p.1 = k then (k, v) else p)) k' = aget? l k' := by
  induction l with
  | nil => rfl
  | cons p t ih =>
    rw [List.map_cons, aget?_cons, aget?_cons, ih]
    by_cases hp : p.1 = k
    · simp [hp, h.symm]
    · simp [hp]

theorem aget?_append {α} (l : List (Key × α)) (k k' : Key) (v : α) :
    aget? (l ++ [(k, v)]) k' = if k' ∈ akeys l then aget? l k' else if k = k' then some v else none := by
  induction l with
  | nil => simp [akeys, aget?]
  | cons p t ih =>
    rw [List.cons_append, aget?_cons, aget?_cons, ih]
    by_cases hp : p.1 = k'
    · simp [hp, akeys]
    · have e : k' ∈ akeys (p :: t) ↔ k' ∈ akeys t := by
        simp only [akeys, List.map_cons, List.mem_cons]
        exact ⟨fun h => h.resolve_left (Ne.symm hp), Or.inr⟩
      simp only [e, if_neg hp]

theorem aget?_aset_self {α} (l : List (Key × α)) (k : Key) (v : α) :
    aget? (aset l k v) k = some v := by
  unfold aset
  split
  · exact aget?_map_self l k v ‹_›
  · simp [aget?_append, *]

theorem aget?_aset_other {α} (l : List (Key × α)) (k k' : Key) (v : α) (h : k' ≠ k) :
    aget? (aset l k v) k' = aget? l k' := by
  unfold aset
  split
  · exact aget?_map_other l k k' v h
  · rw [aget?_append, if_neg h.symm]
    split
    · rfl
    · exact ((aget?_none_iff l k').mpr ‹_›).symm

theorem aget?_adel_other {α} (l : List (Key × α)) (k k' : Key) (h : k' ≠ k) :
    aget? (adel l k) k' = aget? l k' := by
  unfold aget? adel; rw [find?_filter_ne l h]

theorem aget?_adel_self {α} (l : List (Key × α)) (k : Key) : aget? (adel l k) k = none := by
  simp [aget?_none_iff, akeys, adel]

end HappyModel.C16
