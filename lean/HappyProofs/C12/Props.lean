import HappyProofs.C12.PxFinal
import HappyProofs.C12.PxPromise
import HappyProofs.C12.PxCurExact
import HappyProofs.C12.PxLiveFull
import HappyProofs.C12.PxLiveEx
import HappyProofs.C12.PxJudge
import HappyProofs.C12.LockProof
import HappyProofs.C12.MPWitness
import HappyProofs.C12.MPCommit
import HappyProofs.C12.MPLeader
import HappyProofs.C12.MPDeposed
import HappyProofs.C12.MPJudge
import HappyProofs.C12.ElWitness
import HappyProofs.C12.ElStale
import HappyProofs.C12.ElStaticRun
import HappyModel.C12.Spec
/-!
# C12 — property theorems: single-decree Paxos with flexible quorums, then the Multi- and Flexible-Paxos log, the
distributed lock and leader election

The single-decree theorems quantify over *every* action sequence of the message-passing model
`HappyModel.C12.Px` (any cluster size, any proposers, values and ballots, any interleaving of
deliveries, any retry timing, any loss — a dropped or partitioned message is one that is never
delivered).  The model with `step` is the repaired code (fixes/C12-paxos-phase2-once.diff); for the
pinned tree (`stepCur`) the negations are proved with concrete schedules that are replayed on the
real implementation from `corpus/C12/`.
-/
namespace HappyModel.C12
open Px

/-- decisions reported by the nodes of a model state, as the Spec sees them -/
def Px.decisionsOf (s : St) : List Nat := (List.range s.cfg.n).filterMap s.decided

/-- Agreement, Flexible Paxos form: with phase-1 quorums of size q1 and phase-2 quorums of size q2
    that intersect (`n < q1 + q2`, `0 < q2`), any two nodes that have learned a value learned the
    same value — along every action sequence. -/
theorem flexible_paxos_agreement (n q1 q2 : Nat) (hq : n < q1 + q2) (hq2 : 0 < q2) (as : List Act)
    (d1 d2 : Nat) (v1 v2 : Val)
    (h1 : (runActs (init n q1 q2) as).decided d1 = some v1)
    (h2 : (runActs (init n q1 q2) as).decided d2 = some v2) : v1 = v2 := by
  have r := reach_run n q1 q2 as
  exact r.agree hq hq2 h1 h2

/-- Agreement for `PaxosNode` (majority quorums `n // 2 + 1` in both phases) -/
theorem paxos_agreement (n : Nat) (as : List Act) (d1 d2 : Nat) (v1 v2 : Val)
    (h1 : (runActs (init n (majority n) (majority n)) as).decided d1 = some v1)
    (h2 : (runActs (init n (majority n) (majority n)) as).decided d2 = some v2) : v1 = v2 :=
  flexible_paxos_agreement n (majority n) (majority n) (by unfold majority; omega) (by unfold majority; omega)
    as d1 d2 v1 v2 h1 h2

/-- the same statement through the Spec predicate the judge evaluates on implementation traces -/
theorem paxos_agreement_spec (n : Nat) (as : List Act) :
    Spec.allEq (decisionsOf (runActs (init n (majority n) (majority n)) as)) = true := by
  apply allEq_of_forall
  intro x hx y hy
  simp only [decisionsOf, List.mem_filterMap] at hx hy
  obtain ⟨d1, _, h1⟩ := hx
  obtain ⟨d2, _, h2⟩ := hy
  exact paxos_agreement n as d1 d2 x y h1 h2

/-- Validity: a learned value was handed to `propose()` by some client (flexible quorums) -/
theorem paxos_validity (n q1 q2 : Nat) (hq2 : 0 < q2) (as : List Act) (d : Nat) (v : Val)
    (h : (runActs (init n q1 q2) as).decided d = some v) :
    v ∈ (runActs (init n q1 q2) as).proposedVals := by
  have r := reach_run n q1 q2 as
  exact r.valid hq2 h

/-- Stability: a reported decision never changes, whatever happens afterwards -/
theorem decision_stable (s : St) (as : List Act) (d : Nat) (v : Val) (h : s.decided d = some v) :
    (runActs s as).decided d = some v :=
  decided_stable_run s as d v h

/-- Futures: a future returned by `propose()` resolves only with the value its node decided
    (hence, by agreement, with *the* decided value) -/
theorem future_resolves_decided (n q1 q2 : Nat) (as : List Act) (f : Nat) (v : Val)
    (h : (runActs (init n q1 q2) as).futRes f = some v) :
    (runActs (init n q1 q2) as).decided ((runActs (init n q1 q2) as).futOwner f) = some v :=
  (reach_run n q1 q2 as).fut.res f v h

/-- three nodes, two competing proposers; node 0's first ballot is pre-empted by node 1 (nack,
    retry with a new ballot), node 1's value is chosen, everybody learns it; node 1's future and that of the late
    `propose` on node 0 resolve with it, node 0's first future (moved to the retried ballot) stays pending -/
def demo : List Act :=
  [ .propose 0 3 70, .propose 1 4 71,
    .recvPrepare 4 0, .recvPrepare 4 2, .recvPromise 4 0, .recvAccept 4 0, .recvAccept 4 2,
    .recvPrepare 3 2,                     -- nack: 2 already promised ballot 4
    .nack 3 1, .retry 0 3 6,              -- node 0 abandons ballot 3 for ballot 6
    .recvAccepted 4 0, .recvDecided 1 0, .recvDecided 1 2,
    .propose 0 9 72 ]                     -- proposing after the decision: resolved at once

example :
    let s := runActs (init 3 (majority 3) (majority 3)) demo
    s.decided 0 = some 71 ∧ s.decided 1 = some 71 ∧ s.decided 2 = some 71 ∧
    s.futRes 1 = some 71 ∧ s.futRes 2 = some 71 ∧ s.futRes 0 = none ∧ s.live 3 = false ∧ s.live 6 = true ∧
    71 ∈ s.proposedVals := by decide +kernel

/-- Flexible quorums that satisfy the hypothesis on 4 nodes: q1 = 2, q2 = 3 -/
example : (4 < 2 + 3) ∧ (0 < 3) := by decide +kernel

/-- nodes P=0 Q=1 A=2 B=3 C=4; ballots (1,Q)=6, (2,P)=10, (3,A)=17; the schedule of
    `corpus/C12/paxos-late-promise-restarts-phase2.json` -/
def witnessAgreement : List Act :=
  [ .propose 1 6 71, .recvPrepare 6 3, .recvPrepare 6 4, .recvPrepare 6 0,
    .recvPromise 6 3, .recvPromise 6 4,                 -- Q reaches quorum, sends Accept((1,Q), 71)
    .recvAccept 6 4,                                    -- only C accepts it
    .propose 0 10 70, .recvPrepare 10 2, .recvPrepare 10 3,
    .recvPromise 10 2, .recvPromise 10 3,               -- P reaches quorum {P, A, B}: nothing accepted → 70
    .recvAccept 10 2, .recvAccept 10 3,                 -- A and B accept ((2,P), 70); their acks are in flight
    .recvPrepare 10 4, .recvPromise 10 4,               -- C's late promise reports ((1,Q), 71): phase 2 restarts with 71
    .recvAccepted 10 2, .recvAccepted 10 3,             -- acks for 70 are counted for 71: P decides 71
    .propose 2 17 72, .recvPrepare 17 3, .recvPrepare 17 4,
    .recvPromise 17 3, .recvPromise 17 4,               -- A sees ((2,P), 70) as highest accepted → 70
    .recvAccept 17 3, .recvAccept 17 4, .recvAccepted 17 3, .recvAccepted 17 4 ]

/-- agreement is false of the pinned tree: P learns 71, A learns 70 (only message delays, no loss) -/
theorem paxos_agreement_current_false :
    (runCur (init 5 (majority 5) (majority 5)) witnessAgreement).decided 0 = some 71 ∧
    (runCur (init 5 (majority 5) (majority 5)) witnessAgreement).decided 2 = some 70 := by
  decide +kernel

/-- the same schedule under the repaired rule: both learn 70 -/
example :
    (runActs (init 5 (majority 5) (majority 5)) witnessAgreement).decided 0 = some 70 ∧
    (runActs (init 5 (majority 5) (majority 5)) witnessAgreement).decided 2 = some 70 := by
  decide +kernel

/-- the schedule of `corpus/C12/paxos-retry-decides-none.json`: ballots (1,P)=5, (1,Q)=6, (2,P)=10 -/
def witnessNone : List Act :=
  [ .propose 1 6 71, .recvPrepare 6 4,                  -- node 4 promises (1,Q)
    .propose 0 5 70, .recvPrepare 5 2, .recvPrepare 5 3,
    .recvPromise 5 2, .recvPromise 5 3,                 -- P starts phase 2 of (1,P) with 70
    .recvAccept 5 2, .recvAccept 5 3,                   -- acks in flight
    .recvPrepare 5 4, .nack 5 1, .retry 0 5 10,         -- node 4 nacks; P moves value and future to (2,P)
    .recvAccepted 5 2, .recvAccepted 5 3 ]              -- acks for the abandoned ballot reach quorum

/-- validity is false of the pinned tree: P decides `None` (= 0), which nobody proposed, and the
    proposer's future stays unresolved -/
theorem retry_decides_none :
    (runCur (init 5 (majority 5) (majority 5)) witnessNone).decided 0 = some 0 ∧
    0 ∉ (runCur (init 5 (majority 5) (majority 5)) witnessNone).proposedVals ∧
    (runCur (init 5 (majority 5) (majority 5)) witnessNone).futRes 1 = none := by
  decide +kernel

/-- under the repaired rule the acks for the abandoned ballot are ignored -/
example : (runActs (init 5 (majority 5) (majority 5)) witnessNone).decided 0 = none := by decide +kernel

/-- both witnesses lie in the fragment where `stepCur` mirrors the pinned tree exactly (`PxCurExact.lean`): the late
    promise of `witnessAgreement` does overwrite the undelivered `Accept((2,P))` to Q and C (situation A), but neither
    is ever delivered -/
theorem witnessAgreement_exact : curExact (init 5 (majority 5) (majority 5)) {} witnessAgreement = true := by decide +kernel
theorem witnessNone_exact : curExact (init 5 (majority 5) (majority 5)) {} witnessNone = true := by decide +kernel

/-- a schedule outside the fragment: after the restart, the overwritten `Accept((2,P))` to C is delivered -/
example : curExact (init 5 (majority 5) (majority 5)) {}
    (witnessAgreement.take 16 ++ [.recvAccept 10 4]) = false := by decide +kernel

/-- Quorum intersection (Flexible Paxos): on `n` nodes, any phase-1 quorum (`≥ q1` distinct nodes)
    meets any phase-2 quorum (`≥ q2` distinct nodes) as soon as `q1 + q2 > n`. -/
theorem flexible_quorums_intersect (n q1 q2 : Nat) (Q1 Q2 : List Nat) (h1 : Q1.Nodup) (h2 : Q2.Nodup)
    (b1 : ∀ f ∈ Q1, f < n) (b2 : ∀ f ∈ Q2, f < n) (l1 : q1 ≤ Q1.length) (l2 : q2 ≤ Q2.length)
    (hq : n < q1 + q2) : ∃ f, f ∈ Q1 ∧ f ∈ Q2 :=
  quorum_lists_meet n q1 q2 Q1 Q2 h1 h2 b1 b2 l1 l2 hq

/-- non-vacuity: 4 nodes, q1 = 2 < q2 = 3 (the asymmetric case), quorums {0,1} and {1,2,3} … -/
example : [0, 1].Nodup ∧ [1, 2, 3].Nodup ∧ (∀ f ∈ [0, 1], f < 4) ∧ (∀ f ∈ [1, 2, 3], f < 4) ∧
    2 ≤ [0, 1].length ∧ 3 ≤ [1, 2, 3].length ∧ 4 < 2 + 3 := by decide +kernel

/-- … and the hypothesis `n < q1 + q2` is needed: with q1 = q2 = 2 on 4 nodes {0,1} and {2,3} are disjoint -/
example : ¬ ∃ f, f ∈ [0, 1] ∧ f ∈ [2, 3] := by decide +kernel

/-- A decision needs a phase-2 quorum: along every action sequence of the (single-decree, flexible)
    Paxos model, a node reports `v` as decided only if, for some ballot `b`, at least `q2` *distinct*
    acceptors voted for `(b, v)`.  (`q1` plays no role here; phase 1 is where `q1` is used.) -/
theorem paxos_decision_has_phase2_quorum (n q1 q2 : Nat) (as : List Act) (d : Nat) (v : Val)
    (h : (runActs (init n q1 q2) as).decided d = some v) :
    ∃ (b : Nat) (Q : List Nat), Q.Nodup ∧
      (∀ a ∈ Q, a < n ∧ (a, b, v) ∈ (runActs (init n q1 q2) as).votes) ∧ q2 ≤ Q.length := by
  have r := reach_run n q1 q2 as
  obtain ⟨b, Q, hnd, hQ, hlen⟩ := r.inv.learn.node d v h
  rw [r.cfg] at hQ hlen
  exact ⟨b, Q, hnd, hQ, hlen⟩

/-- non-vacuity: in `demo` node 0 does report a decision -/
example : (runActs (init 3 (majority 3) (majority 3)) demo).decided 0 = some 71 := by decide +kernel

/-- Commit needs a phase-2 quorum of acknowledgements: for every cluster size, every `(q1, q2)`,
    Multi- or Flexible Paxos, and **every** action list (any interleaving, loss, duplication, leader
    changes), the observations of the model run satisfy the Spec clause the judge evaluates on
    implementation transcripts: whenever the delivery of an `Accepted` raises the receiver's commit
    index, at least `q2` acknowledgements for that slot exist (its own entry + the `Accepted`
    messages delivered to it).  The model's phase 1 compares with `q1`, its commit with `q2`. -/
theorem MP.commit_needs_phase2_quorum (n q1 q2 : Nat) (flex : Bool) (as : List MP.Act) :
    Spec.commitQuorum q2 [] (MP.obsRun (MP.init n q1 q2 flex) as) = true :=
  MP.run_commitQuorum as (MP.init n q1 q2 flex) [] (MP.init_inv n q1 q2 flex)

/-- the same through the judge's entry point in its counting form (`strict = false`: acknowledgements, not distinct
    acceptors): no commit-rule signature on any model run.  The distinct-acceptor form is refuted below
    (`commit_distinct_quorum_current_false`). -/
theorem MP.commit_judge_silent (pfx : String) (n q1 q2 : Nat) (flex : Bool) (as : List MP.Act) :
    Spec.judgeCommit pfx q2 false (MP.obsRun (MP.init n q1 q2 flex) as) = none := by
  simp [Spec.judgeCommit, MP.commit_needs_phase2_quorum]

/-- 4 nodes, q1 = 2, q2 = 3, nodes {0,1} cut off from {2,3}: node 0 has a pending command, starts,
    gets the promise of node 1 (phase-1 quorum of exactly q1 = 2), proposes slot 1, node 1 accepts and
    acknowledges: 2 acknowledgements < q2 -/
def MP.minorityLeader : List MP.Act :=
  [ .submit 0 1, .start 0, .prepare 1 4, .promise 0 1, .accept 1 0 4 1 1 0, .accepted 0 1 ]

/-- non-vacuity of `commit_needs_phase2_quorum`: when node 2 accepts as well, node 0 commits slot 1
    (the observation list contains a real commit, `ci 0 → 1`, with 3 acknowledgements) … -/
example :
    MP.decidedAt (MP.run (MP.init 4 2 3 true) (MP.minorityLeader ++ [.accept 2 0 4 1 1 0, .accepted 0 1])) 0 1 = some 1 ∧
    Spec.LogObs.ack 0 1 0 1 4 1 ∈ MP.obsRun (MP.init 4 2 3 true) (MP.minorityLeader ++ [.accept 2 0 4 1 1 0, .accepted 0 1]) := by
  decide +kernel

/-- … and with q1 = 2 acknowledgements only, the model (which compares with q2 = 3) reports nothing -/
example : MP.decidedAt (MP.run (MP.init 4 2 3 true) MP.minorityLeader) 0 1 = none := by decide +kernel

/-- The Spec separates q1 from q2: a node that commits on a *phase-1* quorum of acknowledgements
    (the model run with its commit threshold set to q1 = 2) violates the clause for q2 = 3 on the
    minority-leader schedule — this is the class of defect `fpaxos/commit/without-phase2-quorum`. -/
theorem MP.commit_on_phase1_quorum_violates_spec :
    (4 < 2 + 3) ∧
    MP.decidedAt (MP.run (MP.init 4 2 2 true) MP.minorityLeader) 0 1 = some 1 ∧
    Spec.commitQuorum 3 [] (MP.obsRun (MP.init 4 2 2 true) MP.minorityLeader) = false := by
  decide +kernel

/-- Leadership needs a phase-1 quorum of promises: for every cluster size, every `(q1, q2)` and
    **every** action list, whenever `start()` or a delivered `Promise` turns a node's `is_leader` from
    false to true, at least `q1` phase-1 responses for that ballot number (its own `start()` + the
    promises delivered to it) have reached it. -/
theorem MP.leader_needs_phase1_quorum (n q1 q2 : Nat) (flex : Bool) (as : List MP.Act) :
    Spec.leaderQuorum q1 [] (MP.obsRun (MP.init n q1 q2 flex) as) = true :=
  MP.run_leaderQuorum as (MP.init n q1 q2 flex) [] (MP.init_invL n q1 q2 flex)

theorem MP.leader_judge_silent (pfx : String) (n q1 q2 : Nat) (flex : Bool) (as : List MP.Act) :
    Spec.judgeLeader pfx q1 (MP.obsRun (MP.init n q1 q2 flex) as) = none := by
  simp [Spec.judgeLeader, MP.leader_needs_phase1_quorum]

/-- 4 nodes, q1 = 3 > q2 = 2: node 0 starts and receives the promise of node 1 -/
def MP.onePromise : List MP.Act := [ .start 0, .prepare 1 4, .promise 0 1 ]

/-- non-vacuity: the second promise (3 responses = q1) makes node 0 leader — a real `false → true`
    observation; one promise does not -/
example :
    Spec.LogObs.prom 0 1 false true ∈ MP.obsRun (MP.init 4 3 2 true) (MP.onePromise ++ [.prepare 2 4, .promise 0 1]) ∧
    (MP.getNode (MP.run (MP.init 4 3 2 true) MP.onePromise) 0).isLeader = false := by
  decide +kernel

/-- the mirror image of `commit_on_phase1_quorum_violates_spec`: a node whose phase 1 compares with
    q2 = 2 (the model run with its phase-1 threshold set to 2) leads after one promise and violates the
    clause for q1 = 3 — the class `fpaxos/leader/without-phase1-quorum`. -/
theorem MP.leader_on_phase2_quorum_violates_spec :
    (4 < 3 + 2) ∧
    (MP.getNode (MP.run (MP.init 4 2 2 true) MP.onePromise) 0).isLeader = true ∧
    Spec.leaderQuorum 3 [] (MP.obsRun (MP.init 4 2 2 true) MP.onePromise) = false := by
  decide +kernel

/-- 3 nodes, q1 = 1, q2 = 3: node 0 leads at once, the late promise of node 1 makes `_become_leader`
    replicate slot 1 a second time, node 1 acknowledges twice -/
def MP.duplicateAcks : List MP.Act :=
  [ .submit 0 1, .start 0, .prepare 1 3, .promise 0 1,
    .accept 1 0 3 1 1 0, .accept 1 0 3 1 1 0, .accepted 0 1, .accepted 0 1 ]

/-- The pinned tree counts acknowledgements, not acceptors: on `duplicateAcks` node 0 commits slot 1
    although only nodes {0, 1} ever accepted it (q2 = 3): the distinct-acceptor form
    `Spec.commitQuorumStrict` is false of the code as written, the acknowledgement form holds. -/
theorem MP.commit_distinct_quorum_current_false :
    (3 < 1 + 3) ∧
    MP.decidedAt (MP.run (MP.init 3 1 3 true) MP.duplicateAcks) 0 1 = some 1 ∧
    Spec.commitQuorumStrict 3 [] (MP.obsRun (MP.init 3 1 3 true) MP.duplicateAcks) = false ∧
    Spec.commitQuorum 3 [] (MP.obsRun (MP.init 3 1 3 true) MP.duplicateAcks) = true := by
  decide +kernel

/-- A promise ends leadership: for every cluster size, every `(q1, q2)`, Multi- or Flexible Paxos and
    **every** action list, right after a node answered a `Prepare` with a `Promise` (it adopted the ballot
    of another node) its `is_leader` is false. -/
theorem MP.promise_clears_leadership (n q1 q2 : Nat) (flex : Bool) (as : List MP.Act) :
    Spec.promiseClears [] (MP.obsRun (MP.init n q1 q2 flex) as) = true :=
  MP.run_promiseClears as (MP.init n q1 q2 flex) []

/-- A deposed leader assigns no slot: along every action list over the nodes `0 … n-1` (a handler run for an index
    outside the cluster works on the default record and stores nothing, so the state would not show it), a node that has
    answered a `Prepare` with a `Promise` neither assigns a slot to a command handed to `submit()` nor
    sends an `Accept` until a phase-1 response (its own `start()` or a delivered `Promise`) leaves it leader
    again — with `is_leader` turning from false to true (judged by `leader_needs_phase1_quorum`) or with
    `q1` responses for that ballot number. -/
theorem MP.deposed_leader_never_assigns (n q1 q2 : Nat) (flex : Bool) (as : List MP.Act)
    (hr : ∀ a ∈ as, MP.actor a < n) :
    Spec.deposedSilent q1 [] (MP.obsRun (MP.init n q1 q2 flex) as) = true := by
  refine MP.run_deposedSilent as (MP.init n q1 q2 flex) [] (fun p hd => by simp [Spec.deposed] at hd) ?_
  intro a ha
  rw [MP.init_nodes_length]; exact hr a ha

/-- the same through the judge's entry point: neither deposed-leader signature on any model run -/
theorem MP.deposed_judge_silent (pfx : String) (n q1 q2 : Nat) (flex : Bool) (as : List MP.Act)
    (hr : ∀ a ∈ as, MP.actor a < n) :
    Spec.judgeDeposed pfx q1 (MP.obsRun (MP.init n q1 q2 flex) as) = none := by
  simp [Spec.judgeDeposed, MP.deposed_leader_never_assigns n q1 q2 flex as hr, MP.promise_clears_leadership]

/-- 3 nodes: node 0 leads with ballot (1,0) = 3 and assigns slot 1 to command 8; `Prepare`s stamped (1,1) = 4 then reach
    node 2 and, late, node 0 (a replayed payload: node 1, which has promised 3, moves to (2,1) = 7 at its `start` and never
    leads in this run); node 0, having promised 4, parks command 9 -/
def MP.slowPrepare : List MP.Act :=
  [ .start 0, .prepare 1 3, .promise 0 1, .submit 0 8,
    .start 1, .prepare 2 4, .promise 1 1,
    .prepare 0 4, .submit 0 9 ]

/-- non-vacuity: the run contains a real promise by a sitting leader (`pled 0 4 false`: node 0 was leader and
    assigned slot 1 to command 8 before), afterwards node 0 is not leader and parks command 9 instead of
    assigning slot 2 -/
example :
    Spec.LogObs.asg 0 1 ∈ MP.obsRun (MP.init 3 2 2 false) MP.slowPrepare ∧
    Spec.LogObs.pled 0 4 false ∈ MP.obsRun (MP.init 3 2 2 false) MP.slowPrepare ∧
    Spec.LogObs.asg 0 2 ∉ MP.obsRun (MP.init 3 2 2 false) MP.slowPrepare ∧
    (MP.getNode (MP.run (MP.init 3 2 2 false) MP.slowPrepare) 0).pending = [(9, 1)] ∧
    (∀ a ∈ MP.slowPrepare, MP.actor a < 3) := by
  decide +kernel

/-- The Spec rejects a deposed leader that keeps assigning: the observations of the same schedule on a node
    whose `Prepare` handler leaves `is_leader` set (it promises (1,1) and then assigns slot 2 to command 9
    itself) violate both clauses — the class `mpaxos/leader/deposed-leader-assigns-slot`; a node that was
    re-elected in between (`prom 0 2 false true` with a phase-1 quorum) may assign. -/
theorem MP.deposed_leader_violates_spec :
    Spec.deposedSilent 2 []
      [.prom 0 1 false false, .prom 0 1 false true, .asg 0 1, .pled 0 4 true, .asg 0 2] = false ∧
    Spec.promiseClears []
      [.prom 0 1 false false, .prom 0 1 false true, .asg 0 1, .pled 0 4 true, .asg 0 2] = false ∧
    Spec.deposedSilent 2 []
      [.prom 0 1 false false, .prom 0 1 false true, .asg 0 1, .pled 0 4 false,
       .prom 0 2 false false, .prom 0 2 false true, .asg 0 2] = true := by
  decide +kernel

/-- Fencing: for every operation list (acquire / try_acquire / release / lease expiry, any locks,
    any requesters, any `max_waiters`), the grants a client observes satisfy the Spec: each grant's
    token is above every token seen before, or it is the re-entrant repeat of that lock's latest
    grant to the same holder. -/
theorem fencing_strictly_increasing (maxW : Nat) (ops : List Lock.Op) :
    Spec.fencing [] (Lock.runGrants (Lock.init maxW) ops) = true :=
  Lock.run_ok (Lock.init maxW) [] (Lock.init_linv maxW) ops

/-- non-vacuity: two locks, a queue, a re-entrant acquire, a stale release, a lease expiry that wakes
    a waiter: tokens 1, 2, (1 again, re-entrant), 3 (woken waiter), 4 (woken by expiry) -/
example :
    Lock.runGrants (Lock.init 0)
      [ .acquire 0 7, .acquire 1 8, .acquire 0 7, .acquire 0 9, .acquire 0 5, .release 0 99, .release 0 1,
        .expire 0 3 ]
      = [(0, 7, 1), (1, 8, 2), (0, 7, 1), (0, 9, 3), (0, 5, 4)] := by decide +kernel

/-- the Spec rejects a repeated token for a different holder and a decreasing token -/
example : Spec.fencing [] [(0, 7, 1), (0, 9, 1)] = false ∧ Spec.fencing [] [(0, 7, 2), (1, 9, 1)] = false := by
  decide +kernel

/-- A stale heartbeat changes nothing: in every state, a `LeaderHeartbeat` stamped with a term older than
    the receiver's current term leaves the receiver's state — hence the `(term, leader)` it reports —
    untouched. -/
theorem El.stale_heartbeat_does_not_change_leader (s : El.St) (draw d l t : Nat)
    (h : t < (El.getNode s d).term) :
    (El.step s draw (.lhb d l t)).1 = s ∧ El.report (El.step s draw (.lhb d l t)).1 d = El.report s d := by
  rw [El.stale_heartbeat_ignored s draw d l t h]
  exact ⟨rfl, rfl⟩

/-- Within a term the leader moves only on a heartbeat of that term: for every start state, every list of
    actions and random draws, the per-node observations of the model run raise neither
    `election/leader/changed-within-term-by-stale-heartbeat` nor `…/changed-within-term-without-heartbeat`. -/
theorem El.election_steps_judge_silent (s : El.St) (as : List (Nat × El.Act)) :
    Spec.judgeElSteps (El.obsRun s as) = none :=
  El.run_judgeElSteps as s

/-- node 0 follows node 2 in term 2 -/
def El.followsTwo : El.St :=
  { strat := .bully, nodes := [{ leader := some 2, term := 2, members := [0, 1, 2] }, { members := [0, 1] }, { members := [0, 1, 2] }] }

/-- non-vacuity: a heartbeat of node 1 stamped term 1 < 2 is a real stale heartbeat and is ignored, one
    stamped term 3 is adopted … -/
example :
    El.report (El.step El.followsTwo 1 (.lhb 0 1 1)).1 0 = some (2, 2) ∧
    El.report (El.step El.followsTwo 1 (.lhb 0 1 3)).1 0 = some (3, 1) := by decide +kernel

/-- … and the Spec rejects a node that adopts the sender of the stale heartbeat without moving its term
    (the class `election/leader/changed-within-term-by-stale-heartbeat`), and one that swaps the leader inside
    a term on a `Victory`; it accepts what the model does. -/
theorem El.stale_heartbeat_adopted_violates_spec :
    Spec.staleHbOk { node := 0, isHb := true, hterm := 1, t0 := 2, l0 := some 2, t1 := 2, l1 := some 1 } = false ∧
    Spec.withinTermOk { node := 0, isHb := false, hterm := 0, t0 := 2, l0 := some 2, t1 := 2, l1 := some 1 } = false ∧
    Spec.staleHbOk (El.obsStep El.followsTwo 1 (.lhb 0 1 1)) = true ∧
    Spec.withinTermOk (El.obsStep El.followsTwo 1 (.victory 0 1)) = true := by
  decide +kernel

end HappyModel.C12
