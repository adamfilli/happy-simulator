import HappyProofs.C17.PBInv
/-!
`Good s0 s` (invariant and configuration of `s0`) is what is carried through a handler segment; each elementary
change of the state keeps it, except where the invariant is broken in between and the changes are taken together
(`good_cw`, `good_headPut`).
-/
namespace HappyModel.C17.PB

structure Good (s0 s : St) : Prop where
  inv : Inv s
  nb : s.nb = s0.nb
  mode : s.mode = s0.mode

theorem Good.refl {s : St} (h : Inv s) : Good s s := ⟨h, rfl, rfl⟩

variable {s0 s : St}

theorem good_fail (e : String) (h : Good s0 s) : Good s0 (s.fail e) :=
  ⟨inv_fail _ _ h.inv, h.nb, h.mode⟩

theorem good_reply (op : Nat) (t : String) (h : Good s0 s) : Good s0 (s.reply op t) :=
  ⟨inv_reply _ _ _ h.inv, h.nb, h.mode⟩

/-- a `Replicate` handler may be there before its message is flagged delivered -/
theorem good_spawn (p : Proc) (h : Good s0 s) (hk : p.kind ≠ .write) (hr : p.kind = .repl → ReplProc s p) :
    Good s0 (s.spawn p) :=
  ⟨inv_putProc s _ s.np p h.inv rfl rfl rfl rfl (Nat.le_succ _) (Nat.lt_succ_self _)
    (fun p0 hp0 => by rw [h.inv.procs_none _ (Nat.le_refl _)] at hp0; cases hp0) hr (fun hw => absurd hw hk),
    h.nb, h.mode⟩

theorem good_setProc (pid : Nat) (p p' : Proc) (h : Good s0 s) (hp : s.procs pid = some p)
    (hk : p'.kind = p.kind ∧ p'.seq = p.seq ∧ p'.op = p.op)
    (hr : p'.kind = .repl → ReplProc s p') (hw : p'.kind = .write → WriteProc s p') :
    Good s0 (s.setProc pid p') :=
  ⟨inv_putProc s _ pid p' h.inv rfl rfl rfl rfl (Nat.le_refl _) (h.inv.lt_np hp)
    (fun p0 hp0 => by cases hp.symm.trans hp0; exact hk) hr (fun hkw => ⟨hw hkw, p, hp⟩), h.nb, h.mode⟩

theorem good_send (m : Msg) (h : Good s0 s) (hok : m.kind = .repl → ReplMsg s m ∧ m.delivered = false) :
    Good s0 (s.send m) :=
  have hn := h.inv.msgs_none _ (Nat.le_refl s.nm)
  ⟨inv_putMsg s _ s.nm m h.inv rfl rfl rfl rfl (Nat.le_succ _) (Nat.lt_succ_self _)
    (fun hk => Or.inl (hok hk)) (fun m0 hm0 => by rw [hn] at hm0; cases hm0), h.nb, h.mode⟩

/-- a `Replicate` may be flagged delivered once its handler is there -/
theorem good_flag (mid : Nat) (m : Msg) (h : Good s0 s) (hm : s.msgs mid = some m)
    (hh : m.kind = .repl → ∃ pid p, s.procs pid = some p ∧ p.kind = .repl ∧ p.op = mid) :
    Good s0 { s with msgs := upd s.msgs mid (some { m with delivered := true }) } :=
  ⟨inv_putMsg s _ mid _ h.inv rfl rfl rfl rfl (Nat.le_refl _) (h.inv.lt_nm hm)
    (fun hk => Or.inr ⟨m, hm, Or.inl ⟨rfl, hh hk⟩⟩)
    (fun m0 hm0 => by cases hm.symm.trans hm0; exact ⟨rfl, rfl, rfl, rfl, rfl, id, fun _ => rfl⟩), h.nb, h.mode⟩

/-- a `Replicate` may be flagged acknowledged once the backup has caught up with it -/
theorem good_ackMsg (mid : Nat) (m : Msg) (h : Good s0 s) (hm : s.msgs mid = some m)
    (hle : m.seq ≤ s.kseq m.b m.key) : Good s0 (ackMsg s mid) := by
  rw [ackMsg_eq hm]
  exact ⟨inv_putMsg s _ mid _ h.inv rfl rfl rfl rfl (Nat.le_refl _) (h.inv.lt_nm hm)
    (fun _ => Or.inr ⟨m, hm, Or.inr ⟨rfl, hle⟩⟩)
    (fun m0 hm0 => by cases hm.symm.trans hm0; exact ⟨rfl, rfl, rfl, rfl, rfl, fun _ => rfl, id⟩), h.nb, h.mode⟩

theorem good_applyRepl (b k v q : Nat) (h : Good s0 s) (hq : q ≤ s.applied) (hk : s.wk q = k)
    (hv : s.wv q = v) : Good s0 (applyRepl s b k v q) ∧ q ≤ (applyRepl s b k v q).kseq b k := by
  have hi := h.inv
  rw [applyRepl_eq s b k v q hi.rep]
  by_cases hlt : s.kseq b k < q
  · simp only [if_pos hlt]
    have hs : ∀ b' k', upd2 s.kseq b k q b' k' = if b' = b ∧ k' = k then q else s.kseq b' k' :=
      fun b' k' => upd2_apply _ _ _ _ _ _
    refine ⟨⟨inv_data s _ hi ⟨hi.rep, hi.app_le, ?_, ?_⟩
      ⟨rfl, rfl, Nat.le_refl _, Nat.le_refl _, fun _ _ => rfl, fun _ _ => rfl, ?_, msgsExt_refl _ _ rfl⟩ rfl,
      h.nb, h.mode⟩, ?_⟩
    · intro b' k'
      show upd2 s.kseq b k q b' k' ≤ s.applied ∧
        (upd2 s.kseq b k q b' k' = 0 → upd2 s.store (b + 1) k (some v) (b' + 1) k' = none) ∧
        (upd2 s.kseq b k q b' k' ≠ 0 → s.wk (upd2 s.kseq b k q b' k') = k' ∧
          upd2 s.store (b + 1) k (some v) (b' + 1) k' = some (s.wv (upd2 s.kseq b k q b' k')))
      rw [hs, upd2_apply]
      by_cases hx : b' = b ∧ k' = k
      · rw [if_pos hx, if_pos ⟨congrArg (· + 1) hx.1, hx.2⟩]
        exact ⟨hq, fun h0 => absurd (h0 ▸ hlt) (Nat.not_lt_zero _), fun _ => ⟨hx.2 ▸ hk, by rw [hv]⟩⟩
      · rw [if_neg hx, if_neg (fun c => hx ⟨Nat.succ.inj c.1, c.2⟩)]; exact hi.bk_ok b' k'
    · intro k'
      show upd2 s.store (b + 1) k (some v) 0 k' = _
      rw [upd2_apply, if_neg (fun c => Nat.succ_ne_zero b c.1.symm)]; exact hi.prim_ok k'
    · intro b' k'
      show s.kseq b' k' ≤ upd2 s.kseq b k q b' k'
      rw [hs]; split
      · next hx => rw [hx.1, hx.2]; exact Nat.le_of_lt hlt
      · exact Nat.le_refl _
    · show q ≤ upd2 s.kseq b k q b k
      rw [hs, if_pos ⟨rfl, rfl⟩]; exact Nat.le_refl _
  · simp only [if_neg hlt]
    exact ⟨⟨inv_data s _ hi ⟨hi.rep, hi.app_le, hi.bk_ok, hi.prim_ok⟩
      ⟨rfl, rfl, Nat.le_refl _, Nat.le_refl _, fun _ _ => rfl, fun _ _ => rfl, fun _ _ => Nat.le_refl _,
        msgsExt_refl _ _ rfl⟩ rfl, h.nb, h.mode⟩, Nat.le_of_not_lt hlt⟩

/-- A client write is accepted: the new sequence number `s.seq + 1` is above everything the
    invariant of `s` speaks of, and the new handler carries it. -/
theorem good_cw (op k v : Nat) (h : Good s0 s) :
    Good s0 (({ s with seq := s.seq + 1, wk := upd s.wk (s.seq + 1) k, wv := upd s.wv (s.seq + 1) v }).spawn
      { kind := .write, node := 0, key := k, val := v, seq := s.seq + 1, op := op }) := by
  have hi := h.inv
  let pw : Proc := { kind := .write, node := 0, key := k, val := v, seq := s.seq + 1, op := op }
  let s1 : St := { s with seq := s.seq + 1, wk := upd s.wk (s.seq + 1) k, wv := upd s.wv (s.seq + 1) v }
  have hwk : ∀ q, q ≤ s.seq → s1.wk q = s.wk q := fun q hq =>
    upd_other _ _ _ _ (Nat.ne_of_lt (Nat.lt_succ_of_le hq))
  have hwv : ∀ q, q ≤ s.seq → s1.wv q = s.wv q := fun q hq =>
    upd_other _ _ _ _ (Nat.ne_of_lt (Nat.lt_succ_of_le hq))
  refine ⟨?_, h.nb, h.mode⟩
  apply inv_step s (s1.spawn pw) s.np hi ⟨hi.rep, Nat.le_succ_of_le hi.app_le, ?_, ?_⟩
    ⟨rfl, rfl, Nat.le_refl _, Nat.le_succ _, hwk, hwv, fun _ _ => Nat.le_refl _, msgsExt_refl _ _ rfl⟩
  · intro y hy
    exact (upd_other _ _ _ _ (Nat.ne_of_gt hy)).trans (hi.procs_none y (Nat.le_of_succ_le hy))
  · exact hi.msgs_none
  · intro mid m' hm' _; exact Or.inl hm'
  · intro pid hpid; exact upd_other _ _ _ _ hpid
  · intro p0 hp0; rw [hi.procs_none _ (Nat.le_refl s.np)] at hp0; cases hp0
  · intro p hpp
    cases (upd_same _ _ _).symm.trans hpp
    exact Or.inr ⟨fun e => (by cases e), fun _ => ⟨⟨Nat.succ_le_succ (Nat.zero_le _), Nat.le_refl _, upd_same ..,
      upd_same .., fun _ => Nat.lt_succ_of_le hi.app_le, fun h2 => absurd (show 2 ≤ 1 from h2) (by decide),
      fun hf => (by cases hf), Nat.le_refl _⟩, Or.inr (Nat.lt_succ_self _)⟩⟩
  · intro q hq hq'
    exact ⟨pw, upd_same _ _ _, rfl, Nat.le_antisymm hq hq'⟩
  · intro pid p h1 _ hk hs; exact hi.write_pending h1 hk hs
  · intro b k'
    obtain ⟨a1, a2, a3⟩ := hi.bk_ok b k'
    have hle : s.kseq b k' ≤ s.seq := Nat.le_trans a1 hi.app_le
    refine ⟨a1, a2, fun hne => ?_⟩
    show s1.wk (s.kseq b k') = k' ∧ s.store (b + 1) k' = some (s1.wv (s.kseq b k'))
    rw [hwk _ hle, hwv _ hle]; exact a3 hne
  · intro k'
    show s.store 0 k' = if lastFor s1.wk s.applied k' = 0 then none
      else some (s1.wv (lastFor s1.wk s.applied k'))
    rw [lastFor_congr s.wk s1.wk s.applied k' (fun q hq => hwk q (Nat.le_trans hq hi.app_le)),
      hwv _ (Nat.le_trans (lastFor_le _ _ _) hi.app_le)]
    exact hi.prim_ok k'

/-- The primary's put lands and `Replicate` goes to every backup.  Between the put and the handler's
    move to segment 2 the invariant does not hold (the handler still claims that its put is pending, and
    at segment 2 it claims its messages), so the three changes are taken together. -/
theorem good_headPut (pid : Nat) (p : Proc) (h : Good s0 s) (hp : s.procs pid = some p)
    (hk : p.kind = .write) (hq : p.seq = s.applied + 1) (f : Bool) (hf : f = true → s.nb = 0) :
    Good s0 ((sendRepls { s with applied := s.applied + 1, store := upd2 s.store 0 p.key (some p.val) }
      p.key p.val p.seq).setProc pid { p with mid0 := s.nm, seg := 2, fin := f }) := by
  have hi := h.inv
  obtain ⟨w1, w2, w3, w4, -, -, -, -⟩ := hi.write_ok pid p hp hk
  rw [sendRepls_eq]
  let mr (mid : Nat) : Msg :=
    { kind := .repl, b := mid - s.nm, key := p.key, val := p.val, seq := p.seq, fut := s.mode != .async }
  let p' : Proc := { p with mid0 := s.nm, seg := 2, fin := f }
  let s' : St := { s with applied := s.applied + 1, store := upd2 s.store 0 p.key (some p.val), nm := s.nm + s.nb,
                          msgs := fun mid => if s.nm ≤ mid ∧ mid < s.nm + s.nb then some (mr mid) else s.msgs mid,
                          procs := upd s.procs pid (some p') }
  show Good s0 s'
  have hmsg : ∀ mid, s'.msgs mid = if s.nm ≤ mid ∧ mid < s.nm + s.nb then some (mr mid) else s.msgs mid :=
    fun _ => rfl
  have hold : ∀ mid m, s.msgs mid = some m → s'.msgs mid = some m := fun mid m hm => by
    rw [hmsg, if_neg (fun c => Nat.lt_irrefl _ (Nat.lt_of_lt_of_le (hi.lt_nm hm) c.1))]; exact hm
  refine ⟨?_, h.nb, h.mode⟩
  apply inv_step s s' pid hi ⟨hi.rep, Nat.le_trans (Nat.le_of_eq hq.symm) w2, ?_, ?_⟩
    ⟨rfl, rfl, Nat.le_succ _, Nat.le_refl _, fun _ _ => rfl, fun _ _ => rfl, fun _ _ => Nat.le_refl _,
      fun mid m hm => ⟨m, hold mid m hm, rfl, rfl, rfl, rfl, rfl, id, id⟩⟩
  · intro y hy
    exact (upd_other _ _ _ _ (Nat.ne_of_gt (Nat.lt_of_lt_of_le (hi.lt_np hp) hy))).trans (hi.procs_none y hy)
  · intro mid hmid
    rw [hmsg, if_neg (fun c => Nat.lt_irrefl _ (Nat.lt_of_lt_of_le c.2 hmid))]
    exact hi.msgs_none mid (Nat.le_trans (Nat.le_add_right _ _) hmid)
  · intro mid m' hm' _
    rw [hmsg] at hm'
    by_cases hc : s.nm ≤ mid ∧ mid < s.nm + s.nb
    · rw [if_pos hc] at hm'; cases hm'
      exact Or.inr (Or.inl ⟨⟨Nat.sub_lt_left_of_lt_add hc.1 hc.2, w1, Nat.le_of_eq hq, w3, w4, fun e => (by cases e)⟩,
        rfl⟩)
    · rw [if_neg hc] at hm'; exact Or.inl hm'
  · intro y hy; exact upd_other _ _ _ _ hy
  · intro p0 hp0; cases hp.symm.trans hp0; exact ⟨p', upd_same _ _ _, rfl, rfl, rfl⟩
  · intro r hr
    cases (upd_same _ _ _).symm.trans hr
    refine Or.inr ⟨fun e => (by cases hk.symm.trans e), fun _ => ⟨⟨w1, w2, w3, w4,
      fun h2 => absurd (show 2 ≤ 1 from h2) (by decide), fun _ => ⟨Nat.le_of_eq hq, fun b hb => ?_⟩,
      fun hff => ⟨Nat.le_refl 2, Or.inl (hf hff)⟩, (by decide : 1 ≤ 2)⟩, Or.inl ⟨p, hp, hk⟩⟩⟩
    refine ⟨mr (s.nm + b), ?_, rfl, Nat.add_sub_cancel_left .., rfl, rfl⟩
    rw [hmsg, if_pos ⟨Nat.le_add_right _ _, Nat.add_lt_add_left hb _⟩]
  · intro q h1 h2; exact absurd (Nat.lt_of_lt_of_le h1 h2) (Nat.lt_irrefl _)
  · -- the other pending puts have later sequence numbers
    intro y r h1 h2 hrk hs
    have hne : r.seq ≠ p.seq := by
      intro e
      have hyp := hi.write_uniq y r pid p h1 hp hrk hk e
      rw [hyp] at h2
      cases (upd_same _ _ _).symm.trans h2
      exact absurd (show 2 ≤ 1 from hs) (by decide)
    exact Nat.lt_of_le_of_ne (hi.write_pending h1 hrk hs) (fun e => hne (e.symm.trans hq.symm))
  · intro b k
    show s.kseq b k ≤ s.applied + 1 ∧ (s.kseq b k = 0 → upd2 s.store 0 p.key (some p.val) (b + 1) k = none) ∧
      (s.kseq b k ≠ 0 → s.wk (s.kseq b k) = k ∧
        upd2 s.store 0 p.key (some p.val) (b + 1) k = some (s.wv (s.kseq b k)))
    rw [upd2_apply, if_neg (fun hh => Nat.succ_ne_zero b hh.1)]
    obtain ⟨a1, a2, a3⟩ := hi.bk_ok b k
    exact ⟨Nat.le_succ_of_le a1, a2, a3⟩
  · intro k
    show upd2 s.store 0 p.key (some p.val) 0 k = if lastFor s.wk (s.applied + 1) k = 0 then none
      else some (s.wv (lastFor s.wk (s.applied + 1) k))
    rw [upd2_apply]
    have hkey : s.wk (s.applied + 1) = p.key := hq ▸ w3
    have hval : s.wv (s.applied + 1) = p.val := hq ▸ w4
    by_cases hkk : k = p.key
    · subst hkk
      simp [lastFor, hkey, hval]
    · have : ¬ (s.wk (s.applied + 1) = k) := by rw [hkey]; exact fun e => hkk e.symm
      simp only [lastFor, this, if_false, hkk, and_false]
      exact hi.prim_ok k

theorem step_cw (s : St) (op node k v : Nat) (h : Inv s) : Good s (step s (.cw op node k v)) := by
  simp only [step]
  by_cases hnode : node ≠ 0
  · rw [if_pos hnode]; exact good_fail _ (Good.refl h)
  · rw [if_neg hnode]; exact good_cw op k v (Good.refl h)

theorem step_cr (s : St) (op node k : Nat) (h : Inv s) : Good s (step s (.cr op node k)) := by
  simp only [step]
  by_cases hn : node > s.nb
  · rw [if_pos hn]; exact good_fail _ (Good.refl h)
  · rw [if_neg hn]; exact good_spawn _ (Good.refl h) (fun e => by cases e) (fun e => by cases e)

theorem step_dl (s : St) (mid : Nat) (h : Inv s) : Good s (step s (.dl mid)) := by
  have hg := Good.refl h
  simp only [step, deliver]
  cases hm : s.msgs mid with
  | none => exact good_fail _ hg
  | some m =>
    by_cases hd : m.delivered = true
    · simp only [if_pos hd]; exact good_fail _ hg
    · simp only [if_neg hd]
      cases hk : m.kind
      · -- spawning and flagging touch different tables: the handler may be added first
        have h1 := good_flag mid m (good_spawn { kind := .repl, node := m.b + 1, key := m.key, val := m.val, seq := m.seq, op := mid }
          hg (fun e => by cases e) (fun _ => ⟨Nat.succ_le_succ (Nat.zero_le _), fun e => (by cases e),
            m, hm, hk, rfl, rfl, rfl, rfl, fun e => absurd rfl e⟩)) hm (fun _ => ⟨s.np, _, upd_same _ _ _, rfl, rfl⟩)
        rw [hk] at h1; exact h1
      · have h1 := good_flag mid m hg hm (fun e => by cases hk.symm.trans e)
        rw [hk] at h1
        exact good_spawn _ h1 (fun e => by cases e) (fun e => by cases e)

theorem step_rs_write (s : St) (pid : Nat) (p : Proc) (h : Inv s) (hp : s.procs pid = some p)
    (hk : p.kind = .write) (hfin : ¬ p.fin = true) : Good s (resumeWrite s pid p) := by
  have hg := Good.refl h
  obtain ⟨w1, w2, w3, w4, -, w6, -, w8⟩ := h.write_ok pid p hp hk
  unfold resumeWrite
  by_cases hseg : p.seg = 1
  · rw [if_pos hseg]
    by_cases hfifo : p.seq = s.applied + 1
    · rw [if_neg (not_not_intro hfifo)]
      by_cases hc : s.mode = .async ∧ s.nb = 0
      · rw [if_pos hc]
        -- the model replies and then files the handler; here, and at every reply below, the handler is filed first, in the
        -- state its facts are about: the two record updates commute by `rfl`
        exact good_reply _ _ (good_headPut pid p hg hp hk hfifo true (fun _ => hc.2))
      · rw [if_neg hc]
        exact good_headPut pid p hg hp hk hfifo p.fin (fun hf => absurd hf hfin)
    · rw [if_pos hfifo]; exact good_fail _ hg
  · rw [if_neg hseg]
    have h2 : 2 ≤ p.seg := Nat.lt_of_le_of_ne w8 (Ne.symm hseg)
    -- a later stage `seg := g ≥ 2`, finished only if the acknowledgements allow it
    have stage : ∀ (g : Nat) (f : Bool), 2 ≤ g → (f = true → s.nb = 0 ∨ ackCond s p = true) →
        Good s (s.setProc pid { p with seg := g, fin := f }) := fun g f hg2 hf =>
      good_setProc pid p _ hg hp ⟨rfl, rfl, rfl⟩ (fun hr => by cases hk.symm.trans hr)
        (fun _ => ⟨w1, w2, w3, w4, fun hh => absurd (Nat.le_trans hg2 hh) (by decide),
          fun _ => w6 h2, fun hff => ⟨hg2, hf hff⟩, Nat.le_trans (by decide) hg2⟩)
    by_cases hseg2 : p.seg = 2
    · rw [if_pos hseg2]
      by_cases hc : s.mode = .async ∨ s.nb = 0
      · rw [if_pos hc]
        refine good_reply _ _ (stage 3 true (by decide) (fun _ => ?_))
        rcases hc with hc | hc
        · right; unfold ackCond; rw [hc]
        · left; exact hc
      · rw [if_neg hc]; exact stage 3 p.fin (by decide) (fun hf => absurd hf hfin)
    · rw [if_neg hseg2]
      by_cases hc : ackCond s p = true
      · rw [if_pos hc]; exact good_reply _ _ (stage 4 true (by decide) (fun _ => Or.inr hc))
      · rw [if_neg hc]; exact good_fail _ hg

theorem step_rs_repl (s : St) (pid : Nat) (p : Proc) (h : Inv s) (hp : s.procs pid = some p)
    (hk : p.kind = .repl) : Good s (resumeRepl s pid p) := by
  have hg := Good.refl h
  obtain ⟨r1, -, m, c1, c2, c3, c4, c5, c6, c7⟩ := h.repl_ok pid p hp hk
  have hnw : ¬ p.kind = .write := fun hw => by cases hk.symm.trans hw
  unfold resumeRepl
  by_cases hseg : p.seg = 1
  · -- four elementary changes: apply, flag the `Replicate` acknowledged, send the `Ack`, move the handler on
    rw [if_pos hseg]
    dsimp only
    obtain ⟨-, -, g3, g4, g5, -⟩ := h.msg_ok p.op m c1 c2
    obtain ⟨h1, hge⟩ := good_applyRepl (p.node - 1) p.key p.val p.seq hg (c6 ▸ g3) (by rw [← c6, g4, c4])
      (by rw [← c6, g5, c5])
    have hm1 : (applyRepl s (p.node - 1) p.key p.val p.seq).msgs p.op = some m := by
      rw [applyRepl_eq _ _ _ _ _ h.rep]; exact c1
    have hp1 : (applyRepl s (p.node - 1) p.key p.val p.seq).procs pid = some p := by
      rw [applyRepl_eq _ _ _ _ _ h.rep]; exact hp
    have h2 := good_send { kind := .ack, b := p.node - 1, key := p.key, val := 0, seq := p.seq, fut := false }
      (good_ackMsg p.op m h1 hm1 (by rw [c3, c4, c6]; exact hge)) (fun e => by cases e)
    generalize applyRepl s (p.node - 1) p.key p.val p.seq = s1 at *
    rw [ackMsg_eq hm1] at h2 ⊢
    refine good_setProc pid p _ h2 hp1 ⟨rfl, rfl, rfl⟩ (fun _ => ?_) (fun hw => absurd hw hnw)
    refine ⟨r1, fun _ => Nat.le_refl 2, { m with acked := true }, ?_, c2, c3, c4, c5, c6, fun _ => rfl⟩
    exact (upd_other _ _ _ _ (Nat.ne_of_lt (h1.inv.lt_nm hm1))).trans (upd_same _ _ _)
  · rw [if_neg hseg]
    exact good_setProc pid p _ hg hp ⟨rfl, rfl, rfl⟩
      (fun _ => ⟨r1, fun _ => (by decide : 2 ≤ 3), m, c1, c2, c3, c4, c5, c6, fun _ => c7 hseg⟩)
      (fun hw => absurd hw hnw)

theorem step_good (s : St) (a : Act) (h : Inv s) : Good s (step s a) := by
  cases a with
  | cw op node k v => exact step_cw s op node k v h
  | cr op node k => exact step_cr s op node k h
  | dl mid => exact step_dl s mid h
  | ae n p => exact good_fail _ (Good.refl h)
  | tick t => exact good_fail _ (Good.refl h)
  | rs pid =>
    have hg := Good.refl h
    simp only [step, resume]
    cases hp : s.procs pid with
    | none => exact good_fail _ hg
    | some p =>
      by_cases hfin : p.fin = true
      · simp only [if_pos hfin]; exact good_fail _ hg
      · simp only [if_neg hfin]
        cases hk : p.kind
        · exact step_rs_write s pid p h hp hk hfin
        · exact step_rs_repl s pid p h hp hk
        · exact good_fail _ hg
        · show Good s ((s.setProc pid _).reply _ _)
          exact good_reply _ _ (good_setProc pid p _ hg hp ⟨hk.symm, rfl, rfl⟩
            (fun hr => by cases hr) (fun hw => by cases hw))

theorem step_inv (s : St) (a : Act) (h : Inv s) : Inv (step s a) := (step_good s a h).inv

theorem run_good (s : St) (acts : List Act) (h : Inv s) : Good s (run s acts) := by
  induction acts generalizing s with
  | nil => exact Good.refl h
  | cons a as ih =>
    have g := step_good s a h
    have g' := ih _ g.inv
    exact ⟨g'.inv, g'.nb.trans g.nb, g'.mode.trans g.mode⟩

theorem run_inv (s : St) (acts : List Act) (h : Inv s) : Inv (run s acts) := (run_good s acts h).inv

end HappyModel.C17.PB
