import HappyProofs.C17.PBProps
import HappyProofs.C17.ChainProps
import HappyProofs.C17.MLMGossip
import HappyProofs.C17.MLJudge
import HappyProofs.C17.MLMPhase
import HappyProofs.C17.MLTPhase
/-!
"Primary-backup: when a write is acknowledged it has been applied on every backup in SYNC mode and
on at least one in SEMI_SYNC mode.  Chain replication: an acknowledged write is applied at every
node of the chain and a read never returns a value not yet committed at the tail.  In every scheme,
once writes stop and all in-flight messages are delivered (anti-entropy having run for
multi-leader), all replicas hold the same value for every key, under any message reordering."

All theorems quantify over *every* action list (`List Act`): every interleaving of client events,
message deliveries in any order, and handler resumptions that the model accepts (an action that is
not enabled — unknown id, a put resumed out of FIFO order, a parked handler resumed without its
acks — leaves the state unchanged apart from the error flag).
"Write `q` is applied at replica `r`" is `Reflects`: `r` holds, for the key of `q`, the value of `q`
or of a write to that key accepted later (a newer value may have replaced it, an older one may not
be there) — the same reading as `Spec.reflects` on observed transcripts.
-/
namespace HappyModel.C17
open PB

/-! `init true`: the tree with `fixes/C17-backup-apply-by-seq.diff`, backups apply by per-key sequence
    number. -/

/-- SYNC: a write handler that has replied to its client ⇒ every backup reflects the write. -/
theorem sync_ack_all_backups (nb : Nat) (acts : List Act) (pid : Nat) (p : Proc)
    (hp : (run (init true .sync nb) acts).procs pid = some p) (hk : p.kind = .write)
    (hf : p.fin = true) :
    ∀ b, b < nb → Reflects (run (init true .sync nb) acts) b p.key p.seq := by
  have g := run_good _ acts (init_inv .sync nb)
  intro b hb
  exact sync_reflects _ g.inv g.mode pid p hp hk hf b (g.nb.symm ▸ hb)

/-- SEMI_SYNC with at least one backup: a replied write is reflected by at least one backup. -/
theorem semisync_ack_one_backup (nb : Nat) (hnb : 0 < nb) (acts : List Act) (pid : Nat) (p : Proc)
    (hp : (run (init true .semi nb) acts).procs pid = some p) (hk : p.kind = .write)
    (hf : p.fin = true) :
    ∃ b, b < nb ∧ Reflects (run (init true .semi nb) acts) b p.key p.seq := by
  have g := run_good _ acts (init_inv .semi nb)
  obtain ⟨b, hb, hr⟩ := semi_reflects _ g.inv g.mode (g.nb.symm ▸ hnb) pid p hp hk hf
  exact ⟨b, Nat.lt_of_lt_of_eq hb g.nb, hr⟩

/-- every mode, any reordering: at quiescence every backup's store equals the primary's. -/
theorem pb_quiescent_convergence (mode : Mode) (nb : Nat) (acts : List Act)
    (hq : quiescent (run (init true mode nb) acts)) (b : Nat) (hb : b < nb) (k : Nat) :
    (run (init true mode nb) acts).store (b + 1) k = (run (init true mode nb) acts).store 0 k := by
  have g := run_good _ acts (init_inv mode nb)
  exact converge _ g.inv hq b (g.nb.symm ▸ hb) k

/-- two writes of key 0; the second Replicate (message 1) is delivered before the first (message 0) -/
def reorderWitness : List Act :=
  [.cw 0 0 0 1, .rs 0, .cw 1 0 0 2, .rs 0, .rs 1, .rs 1, .dl 1, .rs 2, .rs 2, .dl 0, .rs 3, .rs 3,
   .dl 2, .dl 3]

/-- pinned tree (`repaired = false`, backups apply in arrival order): the run above is quiescent
    and the backup is left on the older value — convergence is false of the current code. -/
theorem backup_reorder_diverges :
    quiescentB (run (init false .async 1) reorderWitness) = true ∧
    (run (init false .async 1) reorderWitness).err = none ∧
    (run (init false .async 1) reorderWitness).store 0 0 = some 2 ∧
    (run (init false .async 1) reorderWitness).store 1 0 = some 1 := by decide +kernel

/-- non-vacuity: the same schedule on the repaired model is accepted, quiescent, and both replicas
    hold the newer value; in SYNC mode with two backups a write does get acknowledged. -/
example :
    quiescentB (run (init true .async 1) reorderWitness) = true ∧
    (run (init true .async 1) reorderWitness).err = none ∧
    (run (init true .async 1) reorderWitness).store 0 0 = some 2 ∧
    (run (init true .async 1) reorderWitness).store 1 0 = some 2 := by decide +kernel

example :
    let s := run (init true .sync 2)
      [.cw 0 0 0 7, .rs 0, .rs 0, .dl 1, .dl 0, .rs 1, .rs 2, .rs 0]
    (s.procs 0).map (fun p => (p.kind, p.fin, p.seq)) = some (.write, true, 1) ∧ s.err = none ∧
      s.store 1 0 = some 7 ∧ s.store 2 0 = some 7 := by decide +kernel

example :
    let s := run (init true .semi 2)
      [.cw 0 0 0 7, .rs 0, .rs 0, .dl 1, .rs 1, .rs 0]
    (s.procs 0).map (fun p => (p.kind, p.fin, p.seq)) = some (.write, true, 1) ∧ s.err = none ∧
      s.store 1 0 = none ∧ s.store 2 0 = some 7 := by decide +kernel

/-! `Chain` is the repaired tree: apply by per-key sequence, CRAQ dirtiness by sequence, dirty check
    at the instant of the local read. -/

/-- a write handler at the HEAD that has replied ⇒ every node of the chain reflects the write,
    for every schedule (any overtaking of Propagate / WriteAck / CommitNotify messages). -/
theorem chain_ack_all_nodes (craq : Bool) (n : Nat) (hn : 2 ≤ n) (acts : List Act) (pid : Nat)
    (p : Chain.Proc) (hp : (Chain.run (Chain.init craq n) acts).procs pid = some p)
    (hk : p.kind = .write) (hf : p.fin = true) :
    ∀ i, i < n → Chain.Reflects (Chain.run (Chain.init craq n) acts) i p.key p.seq := by
  have g := Chain.run_good _ acts (Chain.init_inv craq n hn)
  intro i hlt
  exact Chain.acked_everywhere _ g.inv pid p hp hk hf i (g.n.symm ▸ hlt)

/-- when the TAIL serves a read, or — with CRAQ on — a node at which the key is clean at the instant the
    value is read, the value it takes from its own store is the TAIL's current value for the key: such
    a read never returns a value that is not committed at the tail.  On a plain chain a node that is
    not the tail also answers from its own store (`resumeRead`, as `_handle_read` does); those reads are
    outside the statement, as they are outside `Spec.judgeChain`. -/
theorem chain_read_committed (craq : Bool) (n : Nat) (hn : 2 ≤ n) (acts : List Act) (i k : Nat)
    (hi : i < n)
    (hc : i = n - 1 ∨ (craq = true ∧ (Chain.run (Chain.init craq n) acts).dirty i k = false)) :
    (Chain.run (Chain.init craq n) acts).store i k = (Chain.run (Chain.init craq n) acts).store (n - 1) k := by
  have g := Chain.run_good _ acts (Chain.init_inv craq n hn)
  have := Chain.local_read_is_tail_value _ g.inv i k (g.n.symm ▸ hi) (by rw [g.n, g.craq]; exact hc)
  rw [g.n] at this; exact this

/-- CRAQ or not, any overtaking of messages: once the head's puts have landed, every message is
    delivered and every handler has finished, every node holds the head's value for every key. -/
theorem chain_quiescent_convergence (craq : Bool) (n : Nat) (hn : 2 ≤ n) (acts : List Act)
    (hq : Chain.quiescent (Chain.run (Chain.init craq n) acts)) (i : Nat) (hi : i < n) (k : Nat) :
    (Chain.run (Chain.init craq n) acts).store i k = (Chain.run (Chain.init craq n) acts).store 0 k := by
  have g := Chain.run_good _ acts (Chain.init_inv craq n hn)
  exact Chain.quiescent_agree _ g.inv (g.fr (Chain.fr_init craq n)) hq i (g.n.symm ▸ hi) k

/-- non-vacuity: CRAQ chain of 3, two writes of key 0 in flight, the second Propagate overtakes the
    first between nodes 1 and 2; both reach the tail, which sends both `WriteAck`s (not delivered here:
    neither write is acknowledged yet), every node ends on the newer value, and with the `CommitNotify`s
    undelivered the key stays dirty at the head (so a read is forwarded). -/
example :
    let s := Chain.run (Chain.init true 3)
      [.cw 0 0 0 1, .rs 0, .rs 0, .cw 1 0 0 2, .rs 1, .rs 1, .dl 0, .rs 2, .rs 2, .dl 1, .rs 3, .rs 3,
       .dl 3, .rs 4, .dl 2, .rs 5, .rs 4, .rs 5]
    s.err = none ∧ s.store 0 0 = some 2 ∧ s.store 1 0 = some 2 ∧ s.store 2 0 = some 2 ∧
      s.dirty 0 0 = true ∧ s.aseq 2 0 = 2 := by decide +kernel

/-- the executable `quiescentB` (what the driver prints) holds of the same run continued until everything is
    delivered; no theorem relates it to the Prop `Chain.quiescent` that `chain_quiescent_convergence` assumes -/
example :
    Chain.quiescentB (Chain.run (Chain.init false 2)
      [.cw 0 0 0 1, .rs 0, .rs 0, .dl 0, .rs 1, .rs 1, .dl 1, .rs 0]) = true := by decide +kernel

theorem ml_install_is_merge (s : ML.St) (i k : Nat) (inc : ML.Version) :
    (ML.install s i k inc).1.vers i k = ML.mergeOpt s.n (s.vers i k) inc := by
  unfold ML.install ML.mergeOpt
  split
  · show upd2 s.vers i k (some inc) i k = some inc
    rw [upd2_apply]; simp
  · rfl

/-- merging is order-, grouping- and duplication-independent: two replicas that have merged the
    same *set* of (coherent) versions of a key, in any orders and multiplicities, hold the same
    version — the greatest one. -/
theorem ml_merge_order_independent (n : Nat) (P : ML.Version → Prop) (hc : ML.Coherent n P)
    (l1 l2 : List ML.Version) (h1 : ∀ v, v ∈ l1 → P v) (hset : ∀ v, v ∈ l1 ↔ v ∈ l2) :
    ML.mergeAll n none l1 = ML.mergeAll n none l2 := by
  have h2 : ∀ v, v ∈ l2 → P v := fun v hv => h1 v ((hset v).mpr hv)
  have m1 := ML.mergeAll_max n P hc l1 h1 [] none (fun _ h => by simp at h) rfl
  have m2 := ML.mergeAll_max n P hc l2 h2 [] none (fun _ h => by simp at h) rfl
  simp only [List.nil_append] at m1 m2
  exact ML.isMax_unique n P hc l1 l2 h1 hset _ _ m1 m2

/-! `ML.created s acts` is the list of `(key, version)` pairs stamped by the client writes of the run (`cw`
deliveries at an existing node; the version carries the write value, the simulated clock `now`, the writer and
the writer's ticked vector clock).  The coherence hypothesis is stated on that list, per key: vector-clock
dominance implies the `(timestamp, writer, own counter)` order, and two versions of one writer with one timestamp
are causally ordered or equal.  It is derived from positive `Replicate` latency
(`ml_coherent_of_positive_latency`) and cannot be dropped (`ml_convergence_needs_coherence`). -/

/-- At quiescence every replica holds, for every key, the **greatest written version**: its version
    is one of the written ones and no written version of that key is above it; a replica has no
    version of a key only if no version of that key was written.  Every action list. -/
theorem ml_quiescent_holds_max (n nk : Nat) (acts : List Act)
    (hcoh : ∀ k, ML.Coherent n (fun v => (k, v) ∈ ML.created (ML.init n nk) acts))
    (hq : ML.quiescentB (ML.run (ML.init n nk) acts) = true) (i : Nat) (hi : i < n) (k : Nat) :
    (∀ v, ML.WrittenC (ML.run (ML.init n nk) acts).core k v →
      ∃ u, (ML.run (ML.init n nk) acts).vers i k = some u ∧ ¬ ML.vlt u v) ∧
    (∀ u, (ML.run (ML.init n nk) acts).vers i k = some u → ML.WrittenC (ML.run (ML.init n nk) acts).core k u) := by
  have hinv : ML.Inv (fun k v => (k, v) ∈ ML.created (ML.init n nk) acts) (ML.run (ML.init n nk) acts) :=
    ML.run_inv acts (ML.init n nk) hcoh (ML.init_inv n nk) (fun _ h => h)
  have hn : (ML.run (ML.init n nk) acts).n = n := ML.run_n _ _
  exact ⟨fun v hv => ML.quiescent_ge _ hinv hq k v hv i (by rw [hn]; exact hi), fun u hu => hinv.versW i k u hu⟩

/-- **Multi-leader quiescent convergence.**  For every action list — writes and reads at any leaders, clock
    readings, anti-entropy ticks between any pairs, messages delivered and handlers resumed in any order — whose
    written versions are coherent: once every message is delivered and every handler has finished, all replicas
    hold the same version and the same value for every key. -/
theorem ml_quiescent_convergence (n nk : Nat) (acts : List Act)
    (hcoh : ∀ k, ML.Coherent n (fun v => (k, v) ∈ ML.created (ML.init n nk) acts))
    (hq : ML.quiescentB (ML.run (ML.init n nk) acts) = true) (i j k : Nat) (hi : i < n) (hj : j < n) :
    (ML.run (ML.init n nk) acts).vers i k = (ML.run (ML.init n nk) acts).vers j k ∧
    (ML.run (ML.init n nk) acts).store i k = (ML.run (ML.init n nk) acts).store j k := by
  have hinv : ML.Inv (fun k v => (k, v) ∈ ML.created (ML.init n nk) acts) (ML.run (ML.init n nk) acts) :=
    ML.run_inv acts (ML.init n nk) hcoh (ML.init_inv n nk) (fun _ h => h)
  have hn : (ML.run (ML.init n nk) acts).n = n := ML.run_n _ _
  exact ML.quiescent_agree _ (by rw [hn]; exact hcoh) hinv hq i j k (by rw [hn]; exact hi) (by rw [hn]; exact hj)

/-- the coherence hypothesis in its plain reading: no two written versions of a key share a
    `(timestamp, writer)` pair, and a causally later version carries a strictly later timestamp
    (positive message latency, non-decreasing clock) -/
theorem ml_coherent_of_distinct_stamps (n : Nat) (P : ML.Version → Prop)
    (hd : ∀ a b, P a → P b → a.ts = b.ts → a.writer = b.writer → a = b)
    (hl : ∀ a b, P a → P b → ML.dominates n b.vc a.vc = true → a.ts < b.ts) : ML.Coherent n P :=
  ⟨fun a b ha hb h => Or.inl (hl a b ha hb h), fun a b ha hb e1 e2 => Or.inl (hd a b ha hb e1 e2)⟩

/-- **Coherence from positive latency.**  If the clock readings of the run never decrease and every
    client write at a leader `i` is stamped strictly after the timestamps of all versions delivered to
    `i` in `Replicate` messages before it (`ML.schedOK`, starting from "nothing heard"; this is what a
    network latency ≥ 1 ns gives: the write happens no earlier than those deliveries, each strictly
    after its version was stamped), the written versions are coherent — for every action list.
    (Anti-entropy messages are unconstrained: they do not merge vector clocks.) -/
theorem ml_coherent_of_positive_latency (n nk : Nat) (acts : List Act)
    (hs : ML.schedOK (ML.init n nk) (fun _ => 0) acts = true) (k : Nat) :
    ML.Coherent n (fun v => (k, v) ∈ ML.created (ML.init n nk) acts) :=
  ML.coherent_of_sched n nk acts hs k

/-- **Multi-leader quiescent convergence under positive latency** — no hypothesis on the versions:
    for every action list whose clock never goes backwards and whose `Replicate` messages take
    positive time, in any delivery order and with any anti-entropy traffic, at quiescence all replicas
    hold the same version and the same value for every key. -/
theorem ml_quiescent_convergence_positive_latency (n nk : Nat) (acts : List Act)
    (hs : ML.schedOK (ML.init n nk) (fun _ => 0) acts = true)
    (hq : ML.quiescentB (ML.run (ML.init n nk) acts) = true) (i j k : Nat) (hi : i < n) (hj : j < n) :
    (ML.run (ML.init n nk) acts).vers i k = (ML.run (ML.init n nk) acts).vers j k ∧
    (ML.run (ML.init n nk) acts).store i k = (ML.run (ML.init n nk) acts).store j k :=
  ml_quiescent_convergence n nk acts (ml_coherent_of_positive_latency n nk acts hs) hq i j k hi hj

/-- two leaders, key 0: `7` written at leader 0 (t = 10) and `8` at leader 1 (t = 12) concurrently;
    leader 0 receives `8`, then writes `9` (t = 25, causally after both); leader 1 receives the
    `Replicate` of `9` *before* the one of `7`; an anti-entropy round 1 → 0 re-delivers `9`. -/
def mlWitness : List Act :=
  [.tick 10, .cw 0 0 0 7, .tick 12, .cw 1 1 0 8, .rs 0, .rs 1, .tick 20, .dl 1, .rs 2, .tick 25, .cw 2 0 0 9, .rs 3,
   .tick 30, .dl 2, .rs 4, .dl 0, .rs 0, .rs 1, .rs 3, .ae 1 0, .rs 6, .dl 3]

/-- non-vacuity: the run is accepted, quiescent, its three written versions are coherent (checked by
    the executable `coherentB`, sound by `ML.coherentB_sound`), and both replicas end on `9` -/
example :
    ML.quiescentB (ML.run (ML.init 2 1) mlWitness) = true ∧ (ML.run (ML.init 2 1) mlWitness).err = none ∧
    (ML.created (ML.init 2 1) mlWitness).map (fun kv => (kv.1, kv.2.val, kv.2.ts, kv.2.writer)) =
      [(0, 7, 10, 0), (0, 8, 12, 1), (0, 9, 25, 0)] ∧
    ML.coherentB 2 ((ML.created (ML.init 2 1) mlWitness).map (·.2)) = true ∧
    (ML.run (ML.init 2 1) mlWitness).store 0 0 = some 9 ∧ (ML.run (ML.init 2 1) mlWitness).store 1 0 = some 9 := by
  decide +kernel

example : ∀ k, ML.Coherent 2 (fun v => (k, v) ∈ ML.created (ML.init 2 1) mlWitness) :=
  ML.coherentB_sound 2 _ (by decide +kernel)

/-- … and the schedule condition holds of it (ticks 10 ≤ 12 ≤ 20 ≤ 25 ≤ 30; leader 0 writes `9` at 25
    after having received the version stamped 12), while the incoherent run below violates it -/
example : ML.schedOK (ML.init 2 1) (fun _ => 0) mlWitness = true := by decide +kernel

/-- three leaders, the clock read backwards (10, then 5, then 7): `1` at leader 0 (t = 10), `2` at
    leader 1 (t = 5) after it has received `1`, `3` at leader 2 (t = 7) concurrently.  Dominance puts
    `1 < 2`, last-writer-wins puts `2 < 3 < 1`: a cycle. -/
def mlIncoherentWitness : List Act :=
  [.tick 10, .cw 0 0 0 1, .rs 0, .dl 0, .rs 1, .tick 5, .cw 1 1 0 2, .rs 2, .tick 7, .cw 2 2 0 3, .rs 3,
   .dl 2, .rs 4, .dl 4, .rs 5, .dl 1, .rs 6, .dl 3, .rs 7, .dl 5, .rs 8, .rs 0, .rs 2, .rs 3]

/-- the coherence hypothesis cannot be dropped: without it (timestamps that do not follow causality)
    a quiescent run leaves leaders 0 and 1 on `3` and leader 2 on `2`: quiescence alone does not give
    agreement. -/
theorem ml_convergence_needs_coherence :
    ¬ (∀ (n nk : Nat), 2 ≤ n → ∀ (acts : List Act),
        ML.quiescentB (ML.run (ML.init n nk) acts) = true →
        ∀ i j k, i < n → j < n →
          (ML.run (ML.init n nk) acts).store i k = (ML.run (ML.init n nk) acts).store j k) := by
  intro h
  have h1 := h 3 1 (by decide) mlIncoherentWitness (by decide +kernel) 0 2 0 (by decide) (by decide)
  revert h1
  decide +kernel

example : (ML.run (ML.init 3 1) mlIncoherentWitness).err = none ∧
    ML.coherentB 3 ((ML.created (ML.init 3 1) mlIncoherentWitness).map (·.2)) = false ∧
    ML.schedOK (ML.init 3 1) (fun _ => 0) mlIncoherentWitness = false := by decide +kernel

/-- non-vacuity of `Coherent`: three versions of one key — a, b concurrent, c causally after a —
    satisfy it, and both merge orders give c. -/
example :
    let a : ML.Version := ⟨1, 10, 0, [1, 0]⟩
    let b : ML.Version := ⟨2, 12, 1, [0, 1]⟩
    let c : ML.Version := ⟨3, 15, 1, [1, 3]⟩
    (∀ x ∈ [a, b, c], ∀ y ∈ [a, b, c], ML.dominates 2 y.vc x.vc = true → ML.vlt x y) ∧
    ML.mergeAll 2 none [a, b, c] = some c ∧ ML.mergeAll 2 none [c, b, a, b] = some c := by decide +kernel

/-! The engine guarantees only that simulated time never goes backwards (a link latency of 0 and a store write
latency of 0 are legal), i.e. `ML.schedOK` with `≤` instead of `<`: a leader may stamp a write at the *same*
instant as a version it has just received.  That is not enough for last-writer-wins: timestamps then tie between
causally ordered versions, and the tie is broken by writer id against the causal order. -/

/-- clock readings never decrease — all the engine promises about the timestamps of a run -/
def clockMonotone : ML.St → List Act → Bool
  | _, [] => true
  | s, a :: as => (match a with | .tick t => decide (s.now ≤ t) | _ => true) && clockMonotone (ML.step s a) as

/-- three leaders, one key, every event at the single instant `t = 10` (zero link and store latency):
    leader 2 writes 7; leader 0 receives it and then writes 8 (causally after 7, same timestamp,
    smaller writer id); leader 1 writes 9 concurrently.  Dominance puts `7 < 8`, the (timestamp, writer)
    order puts `8 < 9 < 7`.  Leader 1 receives 7 then 8 and ends on 8, leader 2 refuses 9 and takes 8,
    leader 0 (holding 8) receives 9 and takes it. -/
def mlZeroLatencyWitness : List Act :=
  [.tick 10, .cw 0 2 0 7, .rs 0, .dl 0, .rs 1, .cw 1 0 0 8, .rs 2, .cw 2 1 0 9, .rs 3,
   .dl 1, .rs 4, .dl 2, .rs 5, .dl 5, .dl 3, .rs 7, .dl 4, .rs 8, .rs 0, .rs 2, .rs 3]

/-- **Positive latency cannot be weakened to the engine's guarantee** (time never goes backwards):
    a run with a monotone clock, accepted by the model and quiescent, in which the leaders end on
    9, 8, 8.  So `ml_quiescent_convergence_positive_latency` needs the strict inequality of
    `ML.schedOK` (a `Replicate` takes at least one clock unit — 1 ns — which the harness guarantees by
    drawing every link latency from values ≥ 1 ns); the convergence clause for last-writer-wins is
    claimed only for positive latencies.  This is a statement about the model, which stamps a write with
    the clock reading: `LeaderNode` as repaired by `fixes/C17-multileader-causal-timestamp.diff` stamps a
    write strictly after every version it has received, and leader 0's second version above does not get
    the timestamp 10 there. -/
theorem ml_positive_latency_needed :
    ¬ (∀ (n nk : Nat) (acts : List Act), clockMonotone (ML.init n nk) acts = true →
        ML.quiescentB (ML.run (ML.init n nk) acts) = true →
        ∀ i j k, i < n → j < n →
          (ML.run (ML.init n nk) acts).store i k = (ML.run (ML.init n nk) acts).store j k) := by
  intro h
  have h1 := h 3 1 mlZeroLatencyWitness (by decide +kernel) (by decide +kernel) 0 1 0 (by decide) (by decide)
  revert h1
  decide +kernel

example : (ML.run (ML.init 3 1) mlZeroLatencyWitness).err = none ∧
    (ML.created (ML.init 3 1) mlZeroLatencyWitness).map (fun kv => (kv.2.val, kv.2.ts, kv.2.writer, kv.2.vc)) =
      [(7, 10, 2, [0, 0, 1]), (8, 10, 0, [2, 0, 1]), (9, 10, 1, [0, 1, 0])] ∧
    ML.schedOK (ML.init 3 1) (fun _ => 0) mlZeroLatencyWitness = false ∧
    (List.range 3).map (fun i => (ML.run (ML.init 3 1) mlZeroLatencyWitness).store i 0) = [some 9, some 8, some 8] := by
  decide +kernel

/-! A merging conflict resolver (`VectorClockMerge(merge_fn)`, `CustomResolver`) returns a *third* version for
two concurrent ones: the join of the values (`|||` on item masks = set union, or `max`), the later timestamp, the
greater writer, the pointwise-max clock (`MLM.joinVer`).  `MLM` is the `LeaderNode` transition system of `ML` with
that `_pick` and with `_install` storing the winner of `_pick`. -/

/-- `_install` stores the winner of `_pick` (value and version), and only at that replica and key -/
theorem mlm_install_is_pick (s : MLM.St) (i k : Nat) (inc : ML.Version) :
    (MLM.install s i k inc).1.vers i k = MLM.mergeOpt s.n s.join (s.vers i k) inc ∧
    ((MLM.install s i k inc).2 = true →
      (MLM.install s i k inc).1.store i k = some (MLM.pick s.n s.join (s.vers i k) inc).val) ∧
    (∀ i' k', ¬ (i' = i ∧ k' = k) → (MLM.install s i k inc).1.vers i' k' = s.vers i' k' ∧
      (MLM.install s i k inc).1.store i' k' = s.store i' k') := by
  unfold MLM.install MLM.mergeOpt
  by_cases ht : MLM.takes s.n (s.vers i k) inc = true
  · rw [if_pos ht, if_pos ht]
    refine ⟨?_, fun _ => ?_, fun i' k' hne => ⟨?_, ?_⟩⟩
    · show upd2 s.vers i k _ i k = _
      rw [upd2_apply]; simp
    · show upd2 s.store i k _ i k = _
      rw [upd2_apply]; simp
    · show upd2 s.vers i k _ i' k' = _
      rw [upd2_apply, if_neg hne]
    · show upd2 s.store i k _ i' k' = _
      rw [upd2_apply, if_neg hne]
  · rw [if_neg ht, if_neg ht]
    refine ⟨rfl, ?_, fun _ _ _ => ⟨rfl, rfl⟩⟩
    intro h; exact absurd h (by simp)

theorem mlm_pick_clock_is_max (n : Nat) (j : MLM.Join) (e inc : ML.Version) (c : Nat) (hc : c < n) :
    ML.vcGet (MLM.pick n j (some e) inc).vc c = max (ML.vcGet e.vc c) (ML.vcGet inc.vc c) :=
  MLM.pick_clock n j e inc c hc

/-- two replicas that merged the same *set* of versions, in any orders and multiplicities, end with
    the same vector clock — no hypothesis on the versions -/
theorem mlm_merge_clock_order_independent (n : Nat) (j : MLM.Join) (l1 l2 : List ML.Version)
    (hset : ∀ v, v ∈ l1 ↔ v ∈ l2) (c : Nat) (hc : c < n) :
    MLM.clkOf (MLM.mergeAll n j none l1) c = MLM.clkOf (MLM.mergeAll n j none l2) c := by
  rw [MLM.mergeAll_clock n j l1 none c hc, MLM.mergeAll_clock n j l2 none c hc, MLM.clkMax_set_eq l1 l2 hset c]

/-- concurrent versions (each neither dominating nor dominated by what was merged before it) merge
    to the join of all their values, whatever the order -/
theorem mlm_concurrent_merge_order_independent (n : Nat) (j : MLM.Join) (l1 l2 : List ML.Version)
    (hp : l1.Perm l2) (h1 : MLM.AllConcurrent n j none l1 = true) (h2 : MLM.AllConcurrent n j none l2 = true) :
    MLM.valD (MLM.mergeAll n j none l1) = MLM.valD (MLM.mergeAll n j none l2) ∧
    MLM.valD (MLM.mergeAll n j none l1) = MLM.joinVals j 0 l1 := by
  rw [MLM.mergeAll_concurrent_val n j l1 none h1, MLM.mergeAll_concurrent_val n j l2 none h2]
  exact ⟨MLM.joinVals_perm j l1 l2 hp _, rfl⟩

/-- non-vacuity: three concurrent writes of item masks 2, 4, 8 at three leaders, merged in two
    different orders, give 14 both times -/
example :
    let a : ML.Version := ⟨2, 10, 0, [1, 0, 0]⟩
    let b : ML.Version := ⟨4, 11, 1, [0, 1, 0]⟩
    let c : ML.Version := ⟨8, 12, 2, [0, 0, 1]⟩
    MLM.AllConcurrent 3 .union none [a, b, c] = true ∧ MLM.AllConcurrent 3 .union none [c, a, b] = true ∧
    MLM.valD (MLM.mergeAll 3 .union none [a, b, c]) = 14 ∧ MLM.valD (MLM.mergeAll 3 .union none [c, a, b]) = 14 := by
  decide +kernel

/-- equal clocks: `_install` joins the values and keeps the clock -/
theorem mlm_same_clock_install_is_join (s : MLM.St) (i k : Nat) (e inc : ML.Version)
    (he : s.vers i k = some e) (hs : MLM.SameClock s.n e inc) :
    (MLM.install s i k inc).1.store i k = some (MLM.joinVal s.join e.val inc.val) ∧
    ∃ u, (MLM.install s i k inc).1.vers i k = some u ∧ u.val = MLM.joinVal s.join e.val inc.val ∧
      MLM.SameClock s.n u e := by
  obtain ⟨ht, hv, hc⟩ := MLM.pick_same_clock s.n s.join e inc hs
  have h := mlm_install_is_pick s i k inc
  have h2 : (MLM.install s i k inc).2 = true := by unfold MLM.install; rw [he, if_pos ht]
  refine ⟨?_, MLM.pick s.n s.join (some e) inc, ?_, hv, hc⟩
  · rw [h.2.1 h2, he, hv]
  · rw [h.1, he]; unfold MLM.mergeOpt; rw [if_pos ht]

/-- **complete gossip ⇒ agreement**, for both joins: if the requests (each a snapshot of its sender
    at the tick, merged by its receiver later, in any interleaving and with any extra traffic of
    values below the global join) carry every leader's value to every leader, all leaders end on
    the same value — the join of everything. -/
theorem mlm_gossip_complete_converges (j : MLM.Join) (n : Nat) (x0 : Nat → Nat) (evs : List MLM.GEv)
    (he : ∀ e, e ∈ evs → MLM.EvOK j n (MLM.bigJoin j x0 n) e)
    (hc : MLM.Complete n (MLM.grun j (MLM.ginit x0) evs)) (i i' : Nat) (hi : i < n) (hi' : i' < n) :
    (MLM.grun j (MLM.ginit x0) evs).x i = (MLM.grun j (MLM.ginit x0) evs).x i' := by
  rw [MLM.gossip_complete_converges j n x0 evs he hc i hi, MLM.gossip_complete_converges j n x0 evs he hc i' hi']

/-- non-vacuity: leaders holding 12, 12, 14; two crossing requests 0 → 1 and 2 → 1, then 1 → 0 and
    1 → 2 (the second round carries leader 2's items to leader 0): complete, leaders 0 and 2 end on 14 -/
example :
    let x0 : Nat → Nat := fun i => if i = 2 then 14 else 12
    let evs : List MLM.GEv := [.tick 0 0, .tick 1 2, .recv 1 1, .recv 0 1, .tick 2 1, .tick 3 1, .recv 2 0, .recv 3 2]
    (∀ i < 3, ∀ h < 3, h ∈ (MLM.grun .union (MLM.ginit x0) evs).k i) ∧
    (MLM.grun .union (MLM.ginit x0) evs).x 0 = 14 ∧ (MLM.grun .union (MLM.ginit x0) evs).x 2 = 14 := by
  decide +kernel

/-- three leaders, key 0, union resolver — a run recorded from the real `LeaderNode`s: leader 0 writes
    item mask 2, leader 1 writes 4 concurrently, leader 0 overwrites with 8.  Leader 2 receives
    2, 4, 8 in that order and merges 2 ∪ 4 ∪ 8; at leader 1 the `Replicate` of 8 overtakes the one of 2
    (which is then dominated and dropped). -/
def mlmWitness : List Act :=
  [.tick 1, .cw 0 0 0 2, .rs 0, .rs 0, .tick 2, .cw 1 1 0 4, .rs 1, .rs 1, .tick 3, .cw 2 0 0 8, .rs 2,
   .dl 1, .rs 2, .rs 3, .dl 3, .rs 4, .dl 4, .rs 5, .dl 5, .rs 6, .dl 2, .rs 7, .dl 0]

/-- delivering every `Replicate` is not enough with a merging resolver: the run is quiescent, all
    three leaders carry the clock `[2,1,0]`, and leaders 0, 1 hold `8 ∪ 4` while leader 2 holds
    `2 ∪ 4 ∪ 8`.  (So the convergence clause is judged after anti-entropy.) -/
theorem mlm_replicate_order_matters :
    MLM.quiescentB (MLM.run (MLM.init 3 1 .union) mlmWitness) = true ∧
    (MLM.run (MLM.init 3 1 .union) mlmWitness).err = none ∧
    (MLM.run (MLM.init 3 1 .union) mlmWitness).store 0 0 = some 12 ∧
    (MLM.run (MLM.init 3 1 .union) mlmWitness).store 1 0 = some 12 ∧
    (MLM.run (MLM.init 3 1 .union) mlmWitness).store 2 0 = some 14 := by
  decide +kernel

/-- non-vacuity of `mlm_same_clock_install_is_join`: in the recorded run leaders 0 and 2 end with the
    same clock `[2,1,0]` and the values 12 and 14; installing leader 2's version at leader 0 (what an
    anti-entropy request does) joins them -/
example :
    let s := MLM.run (MLM.init 3 1 .union) mlmWitness
    (s.vers 0 0).map (·.vc) = some [2, 1, 0] ∧ (s.vers 2 0).map (·.vc) = some [2, 1, 0] ∧
    (s.vers 2 0).map (fun inc => (MLM.install s 0 0 inc).1.store 0 0) = some (some 14) := by
  decide +kernel

/-- … and one anti-entropy request 2 → 0 followed by one 0 → 1 repairs it: all leaders on 14 -/
example :
    let s := MLM.run (MLM.init 3 1 .union) (mlmWitness ++ [.ae 2 0, .rs 9, .dl 6, .rs 10, .ae 0 1, .rs 11, .dl 7, .rs 12])
    s.err = none ∧ s.store 0 0 = some 14 ∧ s.store 1 0 = some 14 ∧ s.store 2 0 = some 14 := by
  decide +kernel

/-- **Merging resolver: at quiescence all leaders carry the same vector clock.**  For every action list and
    with no hypothesis on timestamps or versions: once every message is delivered and every handler has finished,
    for every key all leaders hold a version with the same clock (on the `n` leaders), a leader lacks a key only
    if all do, and every store holds the value of its version.  (The *values* may still differ —
    `mlm_replicate_order_matters` — but from here on `_install` between any two leaders is the pure join,
    `mlm_same_clock_install_is_join`.) -/
theorem mlm_quiescent_clocks_agree (n nk : Nat) (jn : MLM.Join) (acts : List Act)
    (hq : MLM.quiescentB (MLM.run (MLM.init n nk jn) acts) = true) (i j k : Nat) (hi : i < n) (hj : j < n) :
    (∀ c, c < n → MLM.clk ((MLM.run (MLM.init n nk jn) acts).vers i k) c =
      MLM.clk ((MLM.run (MLM.init n nk jn) acts).vers j k) c) ∧
    (((MLM.run (MLM.init n nk jn) acts).vers i k).isSome = ((MLM.run (MLM.init n nk jn) acts).vers j k).isSome) ∧
    (MLM.run (MLM.init n nk jn) acts).store i k = ((MLM.run (MLM.init n nk jn) acts).vers i k).map (·.val) := by
  have hn : (MLM.run (MLM.init n nk jn) acts).n = n := MLM.run_n _ _
  have h := MLM.run_inv n nk jn acts
  obtain ⟨a, b⟩ := MLM.replQuiescent_clocks_agree _ h (MLM.replQuiescent_of_quiescentB _ h hq) i j k
    (by rw [hn]; exact hi) (by rw [hn]; exact hj)
  rw [hn] at a
  exact ⟨a, b, h.store i k⟩

/-- … and every leader's clock covers every written version of the key (no write is unseen) -/
theorem mlm_quiescent_covers (n nk : Nat) (jn : MLM.Join) (acts : List Act)
    (hq : MLM.quiescentB (MLM.run (MLM.init n nk jn) acts) = true) (k : Nat) (w : ML.Version)
    (hw : MLM.Written (MLM.run (MLM.init n nk jn) acts) k w) (i : Nat) (hi : i < n) :
    ∃ u, (MLM.run (MLM.init n nk jn) acts).vers i k = some u ∧ ∀ c, c < n → ML.vcGet w.vc c ≤ ML.vcGet u.vc c :=
  MLM.quiescent_covers n nk jn acts hq k w hw i hi

/-- non-vacuity: the recorded run is quiescent, the three leaders agree on the clock `[2,1,0]` -/
example :
    MLM.quiescentB (MLM.run (MLM.init 3 1 .union) mlmWitness) = true ∧
    (∀ i < 3, ∀ c < 3, MLM.clk ((MLM.run (MLM.init 3 1 .union) mlmWitness).vers i 0) c = [2, 1, 0].getD c 0) := by
  decide +kernel

/-- **Merging resolver: quiescent + anti-entropy having run ⇒ all replicas agree.**  For every action
    list (crossing and overlapping exchanges, stale requests and responses still in flight included), with no
    hypothesis on timestamps: if the run is quiescent and, after its last client-write / `Replicate` handler
    step, the anti-entropy *requests* carry every leader's knowledge to every leader (`MLM.KComplete` of
    `MLM.krun`: a tick snapshots the sender's knowledge into the request it sends, the step that finishes the
    request's handler adds it to the receiver's — the computation of `Spec.gossipComplete`, carried forward along
    the run), then all leaders hold the same value for every key.
    (The common value is the join of what the leaders held when the last `Replicate` handler finished —
    not "the join of all written values": an overwritten value survives only where it had been merged
    before its successor arrived, `mlm_replicate_order_matters`.) -/
theorem mlm_run_gossip_complete_converges (n nk : Nat) (jn : MLM.Join) (acts : List Act)
    (hq : MLM.quiescentB (MLM.run (MLM.init n nk jn) acts) = true)
    (hk : MLM.KComplete n (MLM.krun (MLM.init n nk jn) MLM.GK.reset acts).2)
    (i j k : Nat) (hi : i < n) (hj : j < n) :
    (MLM.run (MLM.init n nk jn) acts).store i k = (MLM.run (MLM.init n nk jn) acts).store j k :=
  MLM.run_gossip_complete_converges n nk jn acts hq hk i j k hi hj

/-- non-vacuity: the recorded run continued by the requests 2 → 0, 0 → 1, 1 → 2, 1 → 0 is quiescent,
    its knowledge is complete, and all three leaders end on 14; after the first two requests the values
    already agree but the knowledge is not complete yet (the criterion is sufficient, not necessary) -/
example :
    let acts := mlmWitness ++ [.ae 2 0, .rs 9, .dl 6, .rs 10, .ae 0 1, .rs 11, .dl 7, .rs 12,
      .ae 1 2, .rs 13, .dl 8, .rs 14, .ae 1 0, .rs 15, .dl 9, .rs 16]
    (MLM.run (MLM.init 3 1 .union) acts).err = none ∧
    MLM.quiescentB (MLM.run (MLM.init 3 1 .union) acts) = true ∧
    MLM.kcompleteB 3 (MLM.krun (MLM.init 3 1 .union) MLM.GK.reset acts).2 = true ∧
    (List.range 3).map (fun i => (MLM.run (MLM.init 3 1 .union) acts).store i 0) = [some 14, some 14, some 14] ∧
    MLM.kcompleteB 3 (MLM.krun (MLM.init 3 1 .union) MLM.GK.reset
      (mlmWitness ++ [.ae 2 0, .rs 9, .dl 6, .rs 10, .ae 0 1, .rs 11, .dl 7, .rs 12])).2 = false := by
  decide +kernel

/-- **The judge's convergence clause for merging resolvers is silent on the model.**  A transcript
    whose last step shows the model's stores and whose `Q` flag is the model's quiescence is accepted
    by `Spec.judgeMLn n true`, provided the judge's reading of the delivery log implies the model's
    knowledge computation (`hlog`; the two are the same computation on two representations of one run —
    printed lines vs. the action list — which is cross-checked by the harness on every run of the
    check, not proved: it would need the decimal print/parse round trip). -/
theorem mlm_judge_convergence_silent (n nk : Nat) (jn : MLM.Join) (acts : List Act) (steps : List Spec.Step)
    (hfin : Spec.finalStores steps = modelStores (MLM.run (MLM.init n nk jn) acts).store n nk)
    (hlog : Spec.gossipComplete n steps = true →
      MLM.KComplete n (MLM.krun (MLM.init n nk jn) MLM.GK.reset acts).2) :
    Spec.judgeMLn n true steps (MLM.quiescentB (MLM.run (MLM.init n nk jn) acts)) = none := by
  unfold Spec.judgeMLn
  simp only [if_true]
  cases hq : MLM.quiescentB (MLM.run (MLM.init n nk jn) acts) with
  | false => simp
  | true =>
    cases hg : Spec.gossipComplete n steps with
    | false => simp
    | true =>
      have hc := converged_of_agree (MLM.run (MLM.init n nk jn) acts).store n nk
        (fun i j k hi hj => MLM.run_gossip_complete_converges n nk jn acts hq (hlog hg) i j k hi hj)
      rw [hfin, hc]; simp

/-! On a star or a line vector-clock snapshots carry different id sets; dominance reads a missing component as 0
over the union of both sets, and is a strict partial order for any supports. -/

theorem ml_dominates_asymm (n : Nat) (a b : List Nat) (h : ML.dominates n a b = true) : ML.dominates n b a = false :=
  ML.dominates_asymm n a b h

theorem ml_dominates_trans (n : Nat) (a b c : List Nat) (h1 : ML.dominates n a b = true)
    (h2 : ML.dominates n b c = true) : ML.dominates n a c = true :=
  ML.dominates_trans n a b c h1 h2

/-- clocks with disjoint non-zero components (two spokes of a star that have not heard of each other)
    are concurrent, and then — on any topology — the resolver decides: the last-writer-wins comparison,
    or the join -/
theorem mlt_disjoint_clocks_go_to_resolver (s : MLT.St) (e inc : ML.Version)
    (ha : ∃ c, c < s.n ∧ 0 < ML.vcGet inc.vc c ∧ ML.vcGet e.vc c = 0)
    (hb : ∃ c, c < s.n ∧ 0 < ML.vcGet e.vc c ∧ ML.vcGet inc.vc c = 0) :
    (s.lww = true → MLT.takesR s (some e) inc = ML.lwwLt e inc) ∧
    (s.lww = false → MLT.takesR s (some e) inc = true ∧ MLT.pickR s (some e) inc = MLM.joinVer s.n s.join e inc) := by
  obtain ⟨h1, h2⟩ := MLT.disjoint_concurrent s.n inc.vc e.vc ha hb
  exact MLT.concurrent_decided_by_resolver s e inc h1 h2

/-- non-vacuity: star of three, the spokes 1 and 2 write key 0 concurrently (clocks `[0,1,0]` and
    `[0,0,1]`); the hub keeps the later one (8, t = 12) and refuses the earlier one that arrives after it;
    spoke 1's anti-entropy request is answered with it, and everybody ends on 8 (a recorded run) -/
example :
    let s := MLT.run (MLT.init 3 1 .union true (MLT.star 3))
      [.tick 10, .cw 0 1 0 7, .rs 0, .rs 0, .tick 12, .cw 1 2 0 8, .rs 1, .rs 1, .dl 1, .rs 2, .dl 0,
       .ae 1 0, .rs 4, .dl 2, .rs 5, .dl 3, .rs 6, .ae 2 0, .rs 7, .dl 4, .ae 1 0, .rs 9, .dl 5]
    s.err = none ∧ MLT.quiescentB s = true ∧ s.store 0 0 = some 8 ∧ s.store 1 0 = some 8 ∧ s.store 2 0 = some 8 := by
  decide +kernel

/-- **Any topology, resolver that returns one of its inputs: anti-entropy having run ⇒ all leaders agree.**
    For every peer topology `adj` (each leader's own peer list, symmetric or not) and every action list (writes
    replicated to the writer's peers only) whose stamped versions are coherent: if, after the last client-write /
    `Replicate` handler step, the anti-entropy *requests* carry every
    leader's knowledge to every leader (`MLM.KComplete` of `MLT.krun`, the forward form of
    `Spec.gossipComplete`), all leaders hold the same version and the same value of every key.
    Quiescence is not needed for the conclusion (a `Replicate` still in flight is not part of what the
    leaders agree on); `mlt_quiescent_gossip_complete_converges` is the form the judge evaluates. -/
theorem mlt_gossip_complete_converges {P : Nat → ML.Version → Prop} (n nk : Nat) (jn : MLM.Join)
    (adj : List (List Nat)) (acts : List Act) (hc : ∀ k, ML.Coherent n (P k))
    (hP : ∀ kv, kv ∈ MLT.created (MLT.init n nk jn true adj) acts → P kv.1 kv.2)
    (hk : MLM.KComplete n (MLT.krun (MLT.init n nk jn true adj) MLM.GK.reset acts).2)
    (i j k : Nat) (hi : i < n) (hj : j < n) :
    (MLT.run (MLT.init n nk jn true adj) acts).vers i k = (MLT.run (MLT.init n nk jn true adj) acts).vers j k ∧
    (MLT.run (MLT.init n nk jn true adj) acts).store i k = (MLT.run (MLT.init n nk jn true adj) acts).store j k :=
  MLT.gossip_complete_converges n nk jn adj acts hc hP hk i j k hi hj

theorem mlt_quiescent_gossip_complete_converges (n nk : Nat) (jn : MLM.Join)
    (adj : List (List Nat)) (acts : List Act)
    (hc : ∀ k, ML.Coherent n (fun v => (k, v) ∈ MLT.created (MLT.init n nk jn true adj) acts))
    (_hq : MLT.quiescentB (MLT.run (MLT.init n nk jn true adj) acts) = true)
    (hk : MLM.KComplete n (MLT.krun (MLT.init n nk jn true adj) MLM.GK.reset acts).2)
    (i j k : Nat) (hi : i < n) (hj : j < n) :
    (MLT.run (MLT.init n nk jn true adj) acts).store i k = (MLT.run (MLT.init n nk jn true adj) acts).store j k :=
  (MLT.gossip_complete_converges (P := fun k v => (k, v) ∈ MLT.created (MLT.init n nk jn true adj) acts)
    n nk jn adj acts hc (fun _ h => h) hk i j k hi hj).2

/-- the judge's off-mesh convergence clause (`Spec.judgeMLt n false false`) is silent on the model, under
    the same two reading hypotheses as on the mesh (`hfin`, `hlog`) -/
theorem mlt_judge_convergence_silent (n nk : Nat) (jn : MLM.Join) (adj : List (List Nat)) (acts : List Act)
    (hc : ∀ k, ML.Coherent n (fun v => (k, v) ∈ MLT.created (MLT.init n nk jn true adj) acts))
    (steps : List Spec.Step)
    (hfin : Spec.finalStores steps = modelStores (MLT.run (MLT.init n nk jn true adj) acts).store n nk)
    (hlog : Spec.gossipComplete n steps = true →
      MLM.KComplete n (MLT.krun (MLT.init n nk jn true adj) MLM.GK.reset acts).2) :
    Spec.judgeMLt n false false steps (MLT.quiescentB (MLT.run (MLT.init n nk jn true adj) acts)) = none := by
  unfold Spec.judgeMLt
  simp only [Bool.false_eq_true, if_false]
  cases hq : MLT.quiescentB (MLT.run (MLT.init n nk jn true adj) acts) with
  | false => simp
  | true =>
    cases hg : Spec.gossipComplete n steps with
    | false => simp
    | true =>
      have hcv := converged_of_agree (MLT.run (MLT.init n nk jn true adj) acts).store n nk
        (fun i j k hi hj => mlt_quiescent_gossip_complete_converges n nk jn adj acts hc hq (hlog hg) i j k hi hj)
      rw [hfin, hcv]; simp

/-- non-vacuity: the star run of the example under `mlt_disjoint_clocks_go_to_resolver` with two ticks at the hub in place of its last one (spokes 1
    and 2 write concurrently, then anti-entropy ticks at 1, 2 and twice at the hub): knowledge complete, versions
    coherent -/
example :
    let acts : List Act := [.tick 10, .cw 0 1 0 7, .rs 0, .rs 0, .tick 12, .cw 1 2 0 8, .rs 1, .rs 1, .dl 1, .rs 2, .dl 0,
       .ae 1 0, .rs 4, .dl 2, .rs 5, .dl 3, .rs 6, .ae 2 0, .rs 7, .dl 4, .ae 0 1, .rs 9, .dl 5, .ae 0 2, .rs 11, .dl 6]
    MLM.kcompleteB 3 (MLT.krun (MLT.init 3 1 .union true (MLT.star 3)) MLM.GK.reset acts).2 = true ∧
    (MLT.created (MLT.init 3 1 .union true (MLT.star 3)) acts).map (fun kv => (kv.2.val, kv.2.ts, kv.2.writer, kv.2.vc)) =
      [(7, 10, 1, [0, 1, 0]), (8, 12, 2, [0, 0, 1])] ∧
    ML.coherentB 3 ((MLT.created (MLT.init 3 1 .union true (MLT.star 3)) acts).map (·.2)) = true := by
  decide +kernel

end HappyModel.C17
