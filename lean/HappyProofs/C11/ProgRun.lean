import HappyProofs.C11.ProgCommit
import HappyProofs.C11.ProgFollow
import HappyProofs.C11.ProgMon
/-! The induction behind the bounded-progress theorem: the invariant `MProg` (leader established, the entry at `k`
    in the leader's log with its future pending, each follower's monitor within its local invariant) is kept by
    every step of a stable run (`mprog_step`), and the step at which the leader's `_last_applied` passes `k` reports
    the application and the resolution.  `PhOk` / `ph_step`: the monitor of `ackedRun` (followers in sync). -/
namespace HappyModel.C11
open Spec

theorem applyFrom_pend {k : Nat} (es : List Entry) : ∀ (r : HR) (idx : Nat), (applyFrom r idx es).node.lastApplied < k →
    getPending (applyFrom r idx es).node.pending k = getPending r.node.pending k := by
  induction es with
  | nil => intro r idx _; rfl
  | cons e es ih =>
    intro r idx h
    simp only [applyFrom] at h ⊢
    rw [ih (applyOne r idx e) (idx + 1) h]
    have hmono := (applyFrom_mono es (applyOne r idx e) (idx + 1)).2.2
    have hla := applyOne_la r idx e
    exact applyOne_pending_ne r e (by omega)

theorem tryAdvance_pend (n : Nat) (y : Node) (me k : Nat) (h : (tryAdvance n y me).node.lastApplied < k) :
    getPending (tryAdvance n y me).node.pending k = getPending y.pending k := by
  obtain ⟨N, hN⟩ := tryAdvance_eq n y me
  rw [hN] at h ⊢
  rcases advanceCommit_cases y N with ⟨_, h'⟩ | ⟨_, h'⟩ <;> rw [h'] at h ⊢
  exact applyFrom_pend _ _ _ h

theorem tryAdvance_hit (n : Nat) (y : Node) (me k f : Nat) (e : Entry) (hcl : y.commit ≤ y.lastApplied) (hla : y.lastApplied < k)
    (he : getE y.log k = some e) (hp : getPending y.pending k = some f) (hk : k ≤ (tryAdvance n y me).node.lastApplied) :
    ∃ res, (k, e.cmd, res) ∈ (tryAdvance n y me).apps ∧ (f, k, res) ∈ (tryAdvance n y me).ress := by
  rcases tryAdvance_cases n y me with ⟨_, h⟩ | ⟨N, hN, h⟩ <;> rw [h] at hk ⊢
  · exact absurd hk (by show ¬ k ≤ y.lastApplied; omega)
  · have hNle := (findCommit_spec n y me _ N hN).1
    have hkN : k ≤ N := by
      rcases (apOk_advance y N hcl).la with h | h
      · rw [h] at hk; omega
      · have := advanceCommit_commit y N
        split at this <;> omega
    obtain ⟨res, r1, r2, _⟩ := advance_hits y N k f e hcl hla hkN hNle he hp
    exact ⟨res, r1, r2⟩

theorem ar_deliver (v : Variant) {s : St} {L t m0 f' m : Nat} {su : Bool} {e : Env} (hest : Est s L t) (hf : findMsg s m0 = some e)
    (hc : canDeliver s e = true) (hd : e.dst = L) (hb : e.body = .ar t su f' m) :
    step v s (.deliver m0) = applyHR s L (bif su then tryAdvance s.n (ackNode (s.nodes L) f' m) L else
      { node := nackNode (s.nodes L) f', sends := if f' < s.n ∧ f' ≠ L then [(f', aeFor (nackNode (s.nodes L) f') L f')] else [] }) := by
  obtain ⟨r, hs, hdoes⟩ := step_deliver (v := v) hf hc
  rw [hd] at hs hdoes
  rw [hb] at hdoes
  rw [hs]
  cases hdoes with
  | same _ hi => exact absurd hest.role (hi.2.resolve_left fun h => absurd hest.term (Nat.ne_of_gt h.2))
  | down _ hdn => exact absurd hest.term (Nat.ne_of_lt hdn)
  | ack | nack => rfl

/-- the step takes `L`'s `_last_applied` past `k` only by applying `c` at `k` and resolving `f` with it -/
def HitNow (v : Variant) (s : St) (a : Act) (L k f : Nat) (c : Cmd) : Prop :=
  (s.nodes L).lastApplied < k → k ≤ ((step v s a).1.nodes L).lastApplied →
    (step v s a).2.target = some L ∧ ∃ res, (k, c, res) ∈ (step v s a).2.apps ∧ (f, k, res) ∈ (step v s a).2.ress

theorem mi_table_step {v : Variant} {s : St} {a : Act} {L t : Nat} (S : Stable v s a L t) :
    ((step v s a).1.nodes L).matchIndex = (s.nodes L).matchIndex
    ∨ ∃ m0 e f' m, a = .deliver m0 ∧ findMsg s m0 = some e ∧ canDeliver s e = true ∧ e.dst = L ∧ e.body = .ar t true f' m
        ∧ ((step v s a).1.nodes L).matchIndex = (s.nodes L).matchIndex.set f' m := by
  cases lstep S with
  | away hn => exact Or.inl (by rw [hn])
  | same r hs h => exact Or.inl (by rw [step_nodeL hs, (lsame_node h).mi])
  | hb hs => exact Or.inl (by rw [step_nodeL hs])
  | submit f2 c2 hs => exact Or.inl (by rw [step_nodeL hs]; rfl)
  | ack m0 e ha hf hc _ hd f' m hb hs =>
    exact Or.inr ⟨m0, e, f', m, ha, hf, hc, hd, S.est.term ▸ hb, by rw [step_nodeL hs]; exact (tryAdvance_kept ..).fr.mi⟩
  | nack f' r hs hn => exact Or.inl (by rw [step_nodeL hs, hn]; rfl)

/-- what the step does to the leader's `_last_applied` and to the pending future for `k` -/
def LFacts (v : Variant) (s : St) (a : Act) (L k f : Nat) (c : Cmd) : Prop :=
    (((step v s a).1.nodes L).lastApplied < k → getPending ((step v s a).1.nodes L).pending k = some f)
    ∧ HitNow v s a L k f c
    ∧ (s.nodes L).lastApplied ≤ ((step v s a).1.nodes L).lastApplied

theorem lfacts {v : Variant} {s : St} {a : Act} {L t k f : Nat} {c : Cmd} (S : Stable v s a L t)
    (hentry : getE (s.nodes L).log k = some ⟨t, c⟩)
    (hpend : (s.nodes L).lastApplied < k → getPending (s.nodes L).pending k = some f) : LFacts v s a L k f c := by
  have hmono : (s.nodes L).lastApplied ≤ ((step v s a).1.nodes L).lastApplied := ((step_apps v s a S.inv.caught).2 L).1
  have same : ((step v s a).1.nodes L).lastApplied = (s.nodes L).lastApplied →
      ((step v s a).1.nodes L).pending = (s.nodes L).pending ∨
        (∃ f2, ((step v s a).1.nodes L).pending = setPending (s.nodes L).pending ((s.nodes L).log.length + 1) f2) →
      LFacts v s a L k f c := by
    intro hla hp
    refine ⟨?_, ?_, hmono⟩
    · intro h
      rw [hla] at h
      rcases hp with hp | ⟨f2, hp⟩
      · rw [hp]; exact hpend h
      · rw [hp, getPending_set (by have := (getE_le hentry).2; omega)]; exact hpend h
    · intro h1 h2; omega
  cases lstep S with
  | away hn => exact same (by rw [hn]) (Or.inl (by rw [hn]))
  | same r hs h =>
    exact same (by rw [step_nodeL hs, (lsame_node h).la]) (Or.inl (by rw [step_nodeL hs, (lsame_node h).pending]))
  | hb hs => exact same (by rw [step_nodeL hs]) (Or.inl (by rw [step_nodeL hs]))
  | submit f2 c2 hs => exact same (by rw [step_nodeL hs]; rfl) (Or.inr ⟨f2, by rw [step_nodeL hs]; rfl⟩)
  | ack m0 e ha hf hc _ hd f' m hb hs =>
    refine ⟨?_, ?_, hmono⟩
    · intro h
      rw [step_nodeL hs] at h ⊢
      rw [tryAdvance_pend _ _ _ _ h]
      exact hpend (by have := hmono; rw [step_nodeL hs] at this; omega)
    · intro h1 h2
      rw [step_nodeL hs] at h2
      obtain ⟨res, r1, r2⟩ := tryAdvance_hit s.n (ackNode (s.nodes L) f' m) L k f ⟨t, c⟩ (S.inv.caught L) h1 hentry (hpend h1) h2
      rw [hs]
      exact ⟨rfl, res, r1, r2⟩
  | nack f' r hs hn => exact same (by rw [step_nodeL hs, hn]; rfl) (Or.inl (by rw [step_nodeL hs, hn]; rfl))

/-! Each follower of `Q` is watched by a monitor of its own (type `μ`: the phases `Ph`, the conversation `Cv`) with a local
invariant `I` and a test `D` for "done"; `MProg` is what does not depend on the monitor, and `mprog_step` the quorum argument: a monitor becomes
done only in the step that hands `L` that follower's acknowledgement of `k` (`AckNow`), and the last of these commits. -/

theorem regress_false {s : St} {L t k m0 f' m : Nat} {Q : List Nat} {e : Env} (h : regress s L t k Q (.deliver m0) = false)
    (hf : findMsg s m0 = some e) (hc : canDeliver s e = true) (hd : e.dst = L) (hb : e.body = .ar t true f' m) (hQ : f' ∈ Q)
    (hk : k ≤ (s.nodes L).matchIndex.getD f' 0) : k ≤ m := by
  simp only [regress, hf, hc, hd, hb, beq_self_eq_true, Bool.true_and, Bool.and_eq_false_iff, decide_eq_false_iff_not] at h
  have hQ' : Q.contains f' = true := by simpa using hQ
  rcases h with (h | h) | h
  · rw [hQ'] at h; cases h
  · omega
  · omega

/-- the action hands `L` follower `p`'s acknowledgement of at least `k` entries -/
def AckNow (s : St) (a : Act) (L t k p : Nat) : Prop :=
  ∃ rid e m, a = .deliver rid ∧ findMsg s rid = some e ∧ canDeliver s e = true ∧ k ≤ m ∧ e = ⟨rid, p, L, .ar t true p m⟩

structure MProg {μ : Type} (I : St → Nat → μ → Prop) (D : μ → Prop) (s : St) (L t k f : Nat) (c : Cmd) (Q : List Nat)
    (m : Nat → μ) : Prop where
  inv : Inv s
  est : Est s L t
  nd : Q.Nodup
  qq : quorum s.n ≤ Q.length + 1
  basic : ∀ p ∈ Q, p < s.n ∧ p ≠ L
  entry : getE (s.nodes L).log k = some ⟨t, c⟩
  pend : (s.nodes L).lastApplied < k → getPending (s.nodes L).pending k = some f
  ok : ∀ p ∈ Q, I s p (m p)
  dn : ∀ p ∈ Q, D (m p) → k ≤ (s.nodes L).matchIndex.getD p 0
  alld : (∀ p ∈ Q, D (m p)) → k ≤ (s.nodes L).lastApplied

theorem mprog_step (v : Variant) (hr : Rep v) {μ : Type} {ok : St → Nat → μ → Prop} {dn : μ → Prop} {s : St} {L t k f : Nat}
    {c : Cmd} {Q : List Nat} {m m' : Nat → μ} (P : MProg ok dn s L t k f c Q m) (a : Act)
    (hst : termsLe (step v s a).1 t (L :: Q) = true) (hnr : regress s L t k Q a = false)
    (hok : ∀ p ∈ Q, ok (step v s a).1 p (m' p) ∧ (dn (m' p) → dn (m p) ∨ AckNow s a L t k p)) :
    MProg ok dn (step v s a).1 L t k f c Q m' ∧ HitNow v s a L k f c := by
  have S : Stable v s a L t := ⟨hr, P.inv, P.est, termsLe_mem hst List.mem_cons_self⟩
  have hpost := S.post
  obtain ⟨lf1, lf2, lf3⟩ := lfacts S P.entry P.pend
  have lf4 := mi_table_step S
  -- the step that hands `L` the acknowledgement of `p`
  have fin : ∀ {p}, p ∈ Q → AckNow s a L t k p → ∃ m0, k ≤ m0 ∧
      (step v s a).1.nodes L = (tryAdvance s.n (ackNode (s.nodes L) p m0) L).node
      ∧ ((s.nodes L).matchIndex.set p m0).getD p 0 = m0 := by
    intro p hp ⟨rid, e, m0, ha, hf, hc, hkm, he⟩
    refine ⟨m0, hkm, ?_, ?_⟩
    · rw [ha, ar_deliver v P.est hf hc (by rw [he]) (by rw [he]), cond_true, applyHR_node, if_pos rfl]
    · rw [getD_set, if_pos ⟨rfl, by rw [P.inv.ml L]; exact (P.basic p hp).1⟩]
  refine ⟨⟨P.inv.step hr a, est_step S, P.nd,
    by rw [step_n]; exact P.qq, by rw [step_n]; exact P.basic, getE_prefix P.entry hpost.log,
    lf1, fun p hp => (hok p hp).1, ?_, ?_⟩, lf2⟩
  · intro p hp hd
    rcases (hok p hp).2 hd with h | h
    · have hold := P.dn p hp h
      rcases lf4 with h4 | ⟨m0, e, f', mm, ha, hf, hc, hd', hb, h4⟩
      · rw [h4]; exact hold
      · rw [h4, getD_set]
        split
        · rename_i hc'
          rw [ha] at hnr
          exact regress_false hnr hf hc hd' hb (hc'.1 ▸ hp) (hc'.1 ▸ hold)
        · exact hold
    · obtain ⟨m0, hkm, hn, hget⟩ := fin hp h
      rw [hn, (tryAdvance_kept ..).fr.mi]
      exact hget.symm ▸ hkm
  · -- all done: the last acknowledgement completes the quorum
    intro hall
    by_cases hold : ∀ p ∈ Q, dn (m p)
    · exact Nat.le_trans (P.alld hold) lf3
    · simp only [Classical.not_forall] at hold
      obtain ⟨p0, hp0, hp0n⟩ := hold
      have hack := ((hok p0 hp0).2 (hall p0 hp0)).resolve_left hp0n
      obtain ⟨m0, hkm, hn, _⟩ := fin hp0 hack
      by_cases hla : (s.nodes L).lastApplied < k
      · have hcount : Q.length + 1 ≤ countMatch s.n (ackNode (s.nodes L) p0 m0) L k := by
          apply countMatch_ge _ _ _ _ _ P.nd
          intro p hp
          refine ⟨(P.basic p hp).1, (P.basic p hp).2, ?_⟩
          show k ≤ ((s.nodes L).matchIndex.set p0 m0).getD p 0
          rw [getD_set]
          split
          · exact hkm
          · rename_i hne
            rcases (hok p hp).2 (hall p hp) with h | ⟨rid, e, _, ha, hf, _, _, he⟩
            · exact P.dn p hp h
            · -- the same delivery cannot be the acknowledgement of two followers
              obtain ⟨rid', e', _, ha', hf', _, _, he'⟩ := hack
              rw [ha] at ha'
              cases ha'
              rw [hf] at hf'
              cases hf'
              rw [he] at he'
              cases he'
              exact absurd ⟨rfl, by rw [P.inv.ml L]; exact (P.basic p0 hp0).1⟩ hne
        obtain ⟨_, _, _, hk', _⟩ := ack_commits s.n (s.nodes L) L p0 m0 k f ⟨t, c⟩ (P.inv.caught L) hla P.entry
          (by rw [P.est.term]) (P.pend hla) (by have := P.qq; omega)
        rw [hn]; exact hk'
      · exact Nat.le_trans (by omega) lf3

/-- what follower `p`'s phase guarantees -/
structure PhOk (s : St) (L t k p : Nat) (ph : Ph) : Prop where
  sync : Sync s L t p
  war : ∀ rid, ph = .waitAR rid → Slot s rid fun e => ∃ m, k ≤ m ∧ e = ⟨rid, p, L, .ar t true p m⟩
  rep : ph ≠ .waitAE → Agree (s.nodes L).log (s.nodes p).log k

theorem ph_step {v : Variant} {s : St} {a : Act} {L t k p : Nat} (S : Stable v s a L t) {ph : Ph}
    (P : PhOk s L t k p ph) (hleP : ((step v s a).1.nodes p).term ≤ t) :
    PhOk (step v s a).1 L t k p (phStep s L t k p ph a)
    ∧ (phStep s L t k p ph a = .done → ph = .done ∨ AckNow s a L t k p) := by
  have keep := fun h => agree_step (k := k) S P.sync.pne P.sync.pterm hleP h
  have hsync := sync_step S P.sync hleP
  rcases phStep_cases s L t k p ph a with h | ⟨_, h, m0, e, ha, hf, hc, hsrc, hdst, hcar⟩ | ⟨rid, e, hph, h, ha, hf, hc⟩
  · -- the phase stays
    rw [h]
    exact ⟨⟨hsync, fun rid hr => (P.war rid hr).step fun _ => id, fun hne => keep (P.rep hne)⟩, Or.inl⟩
  · -- the entry reaches `p`: its reply is awaited
    rw [h]
    subst ha
    obtain ⟨m, hkm, ho, hacc⟩ := accept_step v S.rep S.inv S.est P.sync hf hc hdst hcar
    refine ⟨⟨hsync, fun rid hr => ?_, fun _ => hacc.2⟩, Ph.noConfusion⟩
    cases hr
    exact ho.slot S.inv.ids ⟨m, hkm, by rw [hsrc]⟩
  · -- the reply reaches `L`
    rw [h]
    refine ⟨⟨hsync, (fun _ hr => nomatch hr), fun _ => keep (P.rep (hph ▸ Ph.noConfusion))⟩, fun _ => Or.inr ?_⟩
    obtain ⟨m, hkm, he⟩ := (P.war rid hph).read hf
    exact ⟨rid, e, m, ha, hf, hc, hkm, he⟩

end HappyModel.C11
