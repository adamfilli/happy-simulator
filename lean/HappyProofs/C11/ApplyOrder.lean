import HappyProofs.C11.Ghost
/-! Each node applies indices 1, 2, 3, … in order, without gaps (`ApOk` across every handler shape),
    hence `applyOrderOk` for every run of every variant. -/
namespace HappyModel.C11
open Spec

/-- what a handler does to `lastApplied`, `commit` and the applications it reports -/
structure ApOk (x : Node) (r : HR) : Prop where
  mono : x.lastApplied ≤ r.node.lastApplied
  cle : r.node.commit ≤ r.node.lastApplied
  idx : r.apps.map (·.1) = List.range' (x.lastApplied + 1) (r.node.lastApplied - x.lastApplied)
  la : r.node.lastApplied = x.lastApplied ∨ r.node.lastApplied ≤ r.node.commit

theorem applyOne_next (r : HR) {idx : Nat} (e : Entry) (h : r.node.lastApplied < idx) :
    (applyOne r idx e).node.lastApplied = idx ∧ (applyOne r idx e).apps.map (·.1) = r.apps.map (·.1) ++ [idx] := by
  rw [applyOne_fresh r e h]; exact ⟨rfl, by simp⟩

theorem applyOne_la (r : HR) (idx : Nat) (e : Entry) : (applyOne r idx e).node.lastApplied = max r.node.lastApplied idx := by
  by_cases h : idx ≤ r.node.lastApplied
  · rw [applyOne_skip h]; omega
  · rw [(applyOne_next r e (by omega)).1]; omega

theorem applyFrom_la (es : List Entry) : ∀ (r : HR) (idx : Nat), idx ≤ r.node.lastApplied + 1 →
    (applyFrom r idx es).node.lastApplied = r.node.lastApplied + (idx + es.length - (r.node.lastApplied + 1))
    ∧ (applyFrom r idx es).apps.map (·.1) = r.apps.map (·.1) ++
        List.range' (r.node.lastApplied + 1) (idx + es.length - (r.node.lastApplied + 1)) := by
  induction es with
  | nil =>
    intro r idx h
    rw [List.length_nil, Nat.add_zero, Nat.sub_eq_zero_of_le h, List.range'_zero, List.append_nil]
    exact ⟨rfl, rfl⟩
  | cons e es ih =>
    intro r idx h
    rw [applyFrom, List.length_cons, ← Nat.add_assoc, Nat.add_right_comm]
    by_cases h1 : idx ≤ r.node.lastApplied
    · rw [applyOne_skip h1]
      exact ih r (idx + 1) (Nat.succ_le_succ h1)
    · obtain ⟨a1, a3⟩ := applyOne_next r e (Nat.lt_of_not_le h1)
      obtain ⟨b1, b3⟩ := ih (applyOne r idx e) (idx + 1) (by rw [a1]; exact Nat.le_refl _)
      have hi : idx = r.node.lastApplied + 1 := Nat.le_antisymm h (Nat.lt_of_not_le h1)
      rw [a1, Nat.add_sub_cancel_left] at b1 b3
      have hc : idx + 1 + es.length - idx = es.length + 1 := by rw [Nat.add_assoc, Nat.add_sub_cancel_left, Nat.add_comm]
      rw [← hi, hc, List.range'_succ, b1, b3, a3, List.append_assoc]
      exact ⟨by omega, rfl⟩

theorem apOk_same {x : Node} {r : HR} (h : x.commit ≤ x.lastApplied) (hc : r.node.commit ≤ x.commit)
    (hl : r.node.lastApplied = x.lastApplied) (ha : r.apps = []) : ApOk x r :=
  ⟨by omega, by omega, by rw [ha, hl, Nat.sub_self]; rfl, Or.inl hl⟩

theorem ApOk.congr {x y : Node} {r r' : HR} (h : ApOk y r) (hy : y.lastApplied = x.lastApplied) (hn : r.node = r'.node)
    (ha : r.apps = r'.apps) : ApOk x r' where
  mono := by rw [← hy, ← hn]; exact h.mono
  cle := by rw [← hn]; exact h.cle
  idx := by rw [← hy, ← hn, ← ha]; exact h.idx
  la := by rw [← hy, ← hn]; exact h.la

theorem apOk_advance (x : Node) (new : Nat) (h : x.commit ≤ x.lastApplied) : ApOk x (advanceCommit { node := x } new) := by
  rcases advanceCommit_cases x new with ⟨_, h'⟩ | ⟨_, h'⟩ <;> rw [h']
  · exact apOk_same h (Nat.le_refl _) rfl rfl
  · have hlen : ((x.log.take (min new x.log.length)).drop x.commit).length = min new x.log.length - x.commit := by
      rw [List.length_drop, List.length_take, Nat.min_eq_left (Nat.min_le_right ..)]
    obtain ⟨a1, a3⟩ := applyFrom_la ((x.log.take (min new x.log.length)).drop x.commit)
      { node := { x with commit := min new x.log.length } } (x.commit + 1) (Nat.succ_le_succ h)
    have a2 := applyFrom_commit ((x.log.take (min new x.log.length)).drop x.commit)
      { node := { x with commit := min new x.log.length } } (x.commit + 1)
    rw [hlen] at a1 a3
    dsimp only at a1 a2 a3
    generalize min new x.log.length = c at a1 a2 a3 ⊢
    refine ⟨by omega, by omega, ?_, by omega⟩
    rw [a3, a1, Nat.add_sub_cancel_left]
    rfl

theorem truncateFrom_cl (v : Variant) (x : Node) (idx : Nat) :
    (truncateFrom v x idx).commit ≤ x.commit ∧ (truncateFrom v x idx).lastApplied = x.lastApplied := by
  rcases truncateFrom_cases v x idx with ⟨_, h⟩ | ⟨_, _, h⟩ <;> rw [h]
  · exact ⟨Nat.le_refl _, rfl⟩
  · exact ⟨by simp only []; split <;> omega, rfl⟩

theorem appendLoop_cl (v : Variant) (es : List Entry) (x : Node) (idx : Nat) :
    (appendLoop v x idx es).commit ≤ x.commit ∧ (appendLoop v x idx es).lastApplied = x.lastApplied :=
  appendLoop_keeps (P := fun y => y.commit ≤ x.commit ∧ y.lastApplied = x.lastApplied) v
    (fun y idx h => ⟨Nat.le_trans (truncateFrom_cl v y idx).1 h.1, (truncateFrom_cl v y idx).2.trans h.2⟩) (fun _ _ h => h)
    es x idx ⟨Nat.le_refl _, rfl⟩

theorem Shape.apOk {v : Variant} {n : Nat} {x : Node} {me : Nat} {inp : Inp} {r : HR} (sh : Shape v n x me inp r)
    (h : x.commit ≤ x.lastApplied) : ApOk x r := by
  cases sh with
  | quiet q =>
    obtain ⟨_, hc, hl, _⟩ := dv_eq q.hd
    exact apOk_same h (Nat.le_of_eq hc) hl q.apps
  | adv y N hy hn ha _ =>
    have hy' : y.commit ≤ x.commit ∧ y.lastApplied = x.lastApplied := by
      rcases hy with ⟨t, l, pi, pt, es, lc, _, rfl⟩ | ⟨t, f, m, _, _, rfl⟩
      · exact appendLoop_cl v es (stepDown v x t) (pi + 1)
      · exact ⟨Nat.le_refl _, rfl⟩
    exact (apOk_advance y N (hy'.2 ▸ Nat.le_trans hy'.1 h)).congr hy'.2 hn.symm ha.symm
  | append f c _ _ hr => subst hr; exact apOk_same h (Nat.le_refl _) rfl rfl

theorem consecutive_append : ∀ (l1 l2 : List (Nat × Nat)) (k m : Nat), l1.map (·.1) = List.range' k m →
    consecutiveFrom k (l1 ++ l2) = consecutiveFrom (k + m) l2 := by
  intro l1
  induction l1 with
  | nil =>
    intro l2 k m h
    cases m with
    | zero => simp
    | succ m => simp [List.range'] at h
  | cons a l1 ih =>
    intro l2 k m h
    cases m with
    | zero => simp [List.range'] at h
    | succ m =>
      simp only [List.map_cons, List.range', List.cons.injEq] at h
      simp only [List.cons_append, consecutiveFrom, h.1, beq_self_eq_true, Bool.true_and]
      rw [ih l2 (k + 1) m h.2]
      congr 1; omega

/-- between steps the state machine has caught up with the commit index: `advance_commit` applies what it commits -/
def CaughtUp (s : St) : Prop := ∀ j, (s.nodes j).commit ≤ (s.nodes j).lastApplied

/-- the applications a frame attributes to node `i` -/
def frameApps (f : Frame) (i : Nat) : List (Nat × Nat) := f.apps.filterMap (fun a => if a.1 = i then some a.2 else none)

theorem appsOf_cons (f : Frame) (fs : List Frame) (i : Nat) : appsOf (f :: fs) i = frameApps f i ++ appsOf fs i := by
  simp [appsOf, frameApps]

theorem mem_appsOf {tr : List Frame} {fr : Frame} (hfr : fr ∈ tr) {i k x : Nat} (h : (i, k, x) ∈ fr.apps) : (k, x) ∈ appsOf tr i := by
  unfold appsOf
  rw [List.mem_flatMap]
  refine ⟨fr, hfr, ?_⟩
  rw [List.mem_filterMap]
  exact ⟨(i, k, x), h, by simp⟩

theorem appsOf_mem {tr : List Frame} {i : Nat} {q : Nat × Nat} (h : q ∈ appsOf tr i) : ∃ fr ∈ tr, (i, q.1, q.2) ∈ fr.apps := by
  unfold appsOf at h
  rw [List.mem_flatMap] at h
  obtain ⟨fr, hfr, hq⟩ := h
  rw [List.mem_filterMap] at hq
  obtain ⟨a, ha, hq⟩ := hq
  split at hq
  · rename_i hi
    simp only [Option.some.injEq] at hq
    refine ⟨fr, hfr, ?_⟩
    rw [← hq, ← hi]; exact ha
  · cases hq

theorem frameApps_handler (s : St) (a : Act) (i j : Nat) (r : HR) :
    (frameApps (frameOf (applyHR s i r).1 (applyHR s i r).2 a) j).map (·.1) = if i = j then r.apps.map (·.1) else [] := by
  unfold frameApps
  simp only [frameOf_applyHR, List.filterMap_map]
  split <;> rename_i h <;> simp [h, Function.comp_def]

theorem step_apps (v : Variant) (s : St) (a : Act) (hcl : CaughtUp s) :
    CaughtUp (step v s a).1 ∧ ∀ j, (s.nodes j).lastApplied ≤ ((step v s a).1.nodes j).lastApplied ∧
      (frameApps (frameOf (step v s a).1 (step v s a).2 a) j).map (·.1)
        = List.range' ((s.nodes j).lastApplied + 1) (((step v s a).1.nodes j).lastApplied - (s.nodes j).lastApplied) := by
  rcases step_cases v s a with ⟨hn, _, _, _, _, ha, _, _⟩ | ⟨i, _, inp, r, h⟩
  · constructor
    · intro j; rw [hn]; exact hcl j
    · intro j; rw [hn]
      refine ⟨Nat.le_refl _, ?_⟩
      simp [frameApps, frameOf, ha]
  · have ok := h.does.shape.apOk (hcl i)
    refine ⟨fun j => ?_, fun j => ?_⟩
    · rw [h.node]; split
      · exact ok.cle
      · exact hcl j
    · rw [h.node, h.eq, frameApps_handler]
      by_cases hj : j = i
      · rw [if_pos hj, if_pos hj.symm, hj]; exact ⟨ok.mono, ok.idx⟩
      · rw [if_neg hj, if_neg fun h => hj h.symm]; simp

theorem la_mono_run (v : Variant) (as : List Act) : ∀ s, CaughtUp s → ∀ j, (s.nodes j).lastApplied ≤ ((run v s as).nodes j).lastApplied := by
  induction as with
  | nil => intro s _ j; exact Nat.le_refl _
  | cons a as ih =>
    intro s h j
    obtain ⟨h', hj⟩ := step_apps v s a h
    exact Nat.le_trans (hj j).1 (ih _ h' j)

theorem run_apps_idx (v : Variant) (as : List Act) : ∀ s, CaughtUp s → ∀ j,
    (appsOf (framesFrom v s as) j).map (·.1)
      = List.range' ((s.nodes j).lastApplied + 1) (((run v s as).nodes j).lastApplied - (s.nodes j).lastApplied) := by
  induction as with
  | nil => intro s _ j; simp [framesFrom, appsOf, run]
  | cons a as ih =>
    intro s hcl j
    obtain ⟨hcl', hj⟩ := step_apps v s a hcl
    obtain ⟨hmono, hidx⟩ := hj j
    have hmono2 := la_mono_run v as _ hcl' j
    simp only [framesFrom, run]
    rw [appsOf_cons, List.map_append, hidx, ih _ hcl' j]
    have hsplit := @List.range'_append ((s.nodes j).lastApplied + 1) (((step v s a).1.nodes j).lastApplied - (s.nodes j).lastApplied)
      (((run v (step v s a).1 as).nodes j).lastApplied - ((step v s a).1.nodes j).lastApplied) 1
    simp only [Nat.one_mul] at hsplit
    have e1 : (s.nodes j).lastApplied + 1 + (((step v s a).1.nodes j).lastApplied - (s.nodes j).lastApplied)
        = ((step v s a).1.nodes j).lastApplied + 1 := by omega
    have e2 : ((step v s a).1.nodes j).lastApplied - (s.nodes j).lastApplied
        + (((run v (step v s a).1 as).nodes j).lastApplied - ((step v s a).1.nodes j).lastApplied)
        = ((run v (step v s a).1 as).nodes j).lastApplied - (s.nodes j).lastApplied := by omega
    rw [e1, e2] at hsplit
    exact hsplit

theorem run_apps (v : Variant) (as : List Act) (s : St) (hcl : CaughtUp s) (j : Nat) :
    consecutiveFrom ((s.nodes j).lastApplied + 1) (appsOf (framesFrom v s as) j) = true := by
  have := consecutive_append _ [] _ _ (run_apps_idx v as s hcl j)
  rw [List.append_nil] at this
  exact this

/-- APPLY IN ORDER, NO GAPS.  For every variant, cluster size and action list: the indices each
    node reports to its state machine are 1, 2, 3, … -/
theorem apply_in_order_no_gaps (v : Variant) (n : Nat) (as : List Act) : applyOrderOk (frames v n as) = true := by
  unfold applyOrderOk
  simp only [List.all_eq_true]
  intro i _
  simp only [frames]
  rw [appsOf_cons]
  simp only [frameApps, List.filterMap_nil, List.nil_append]
  have := run_apps v as (init n) (by intro j; simp [init, initNode]) i
  simpa [init, initNode] using this

end HappyModel.C11
