import HappyProofs.C18.CounterSpec
import HappyProofs.C18.LwwSpec
import HappyProofs.C18.OrsetSpec
/-!
The three denotations along a run (`den_run`), and: the specified values depend on the knowledge set only as a set.
-/
namespace HappyModel.C18

theorem den_run (ops : List COp) (r : Nat) :
    PNDen () r (SpecSys.run {} ops) ((Sys.run Sys.init ops).rep r) ∧
    LwwDen () r (SpecSys.run {} ops) ((Sys.run Sys.init ops).rep r) ∧
    ∃ tg, OrDen tg r (SpecSys.run {} ops) ((Sys.run Sys.init ops).rep r) :=
  ⟨(pnDen.run ops Sys.init {} specInv_init ⟨(), pnDen_init⟩).elim fun _ h => h r,
   (lwwDen.run ops Sys.init {} specInv_init ⟨(), winv_init⟩).elim fun _ h => h r,
   (orDen.run ops Sys.init {} specInv_init ⟨_, orDen_init⟩).imp fun _ h => h r⟩

def SameSet (A B : List Nat) : Prop := (∀ x ∈ A, x ∈ B) ∧ (∀ x ∈ B, x ∈ A)

instance (A B : List Nat) : Decidable (SameSet A B) := by unfold SameSet; exact inferInstance

theorem SameSet.iff {A B : List Nat} (h : SameSet A B) (x : Nat) : x ∈ A ↔ x ∈ B :=
  ⟨h.1 x, h.2 x⟩

theorem counter_congr (t1 t2 : SpecSys) (r1 r2 : Nat) (hr : t1.recs = t2.recs)
    (h : SameSet (t1.know r1) (t2.know r2)) : t1.counter r1 = t2.counter r2 := by
  rw [SpecSys.counter_eq, SpecSys.counter_eq, hr,
    wsum_congr (wAll false) t2.recs _ _ (fun rc _ _ => h.iff rc.id),
    wsum_congr (wAll true) t2.recs _ _ (fun rc _ _ => h.iff rc.id)]

theorem seen_congr (t1 t2 : SpecSys) (r1 r2 : Nat) (hr : t1.recs = t2.recs)
    (h : SameSet (t1.know r1) (t2.know r2)) (a : OpRec) : Seen t1 r1 a ↔ Seen t2 r2 a := by
  unfold Seen; rw [hr, h.iff]

theorem orHas_congr (t1 t2 : SpecSys) (r1 r2 : Nat) (hr : t1.recs = t2.recs)
    (h : SameSet (t1.know r1) (t2.know r2)) (x : Nat) : t1.orHas r1 x = t2.orHas r2 x := by
  rw [Bool.eq_iff_iff, SpecSys.orHas_iff, SpecSys.orHas_iff]
  simp only [seen_congr t1 t2 r1 r2 hr h]

theorem writes_congr (t1 t2 : SpecSys) (r1 r2 : Nat) (hr : t1.recs = t2.recs)
    (h : SameSet (t1.know r1) (t2.know r2)) (w : Ts × Nat) : w ∈ t1.writes r1 ↔ w ∈ t2.writes r2 := by
  rw [SpecSys.mem_writes, SpecSys.mem_writes]
  simp only [seen_congr t1 t2 r1 r2 hr h]

/-- two operations do not write different values under the same timestamp -/
def COp.Coh : COp → COp → Prop
  | .lset _ v1 p1 l1 n1, .lset _ v2 p2 l2 n2 => p1 = p2 → l1 = l2 → n1 = n2 → v1 = v2
  | _, _ => True

instance (a b : COp) : Decidable (COp.Coh a b) := by
  cases a <;> cases b <;> simp only [COp.Coh] <;> exact inferInstance

def OpsCoherent (ops : List COp) : Prop := ∀ a ∈ ops, ∀ b ∈ ops, COp.Coh a b

instance (ops : List COp) : Decidable (OpsCoherent ops) := by
  unfold OpsCoherent; exact inferInstance

theorem best_unique (ops : List COp) (hc : OpsCoherent ops) (r1 r2 : Nat)
    (h : SameSet ((SpecSys.run {} ops).know r1) ((SpecSys.run {} ops).know r2))
    (c1 c2 : Option (Ts × Nat))
    (h1 : Best (fun w => w ∈ (SpecSys.run {} ops).writes r1) c1)
    (h2 : Best (fun w => w ∈ (SpecSys.run {} ops).writes r2) c2) : c1 = c2 := by
  have h2' : Best (fun w => w ∈ (SpecSys.run {} ops).writes r1) c2 :=
    h2.congr fun w => writes_congr _ _ r1 r2 rfl h w
  cases c1 with
  | none =>
    cases c2 with
    | none => rfl
    | some tv => obtain ⟨t2, v2⟩ := tv; exact absurd h2'.1 (h1 _)
  | some tv1 =>
    obtain ⟨t1, v1⟩ := tv1
    cases c2 with
    | none => exact absurd h1.1 (h2' _)
    | some tv2 =>
      obtain ⟨t2, v2⟩ := tv2
      have et := Best.ts_eq h1 h2'
      subst et
      obtain ⟨a, ⟨ha, _⟩, ra, hao⟩ := (SpecSys.mem_writes _ _ _).mp h1.1
      obtain ⟨b, ⟨hb, _⟩, rb, hbo⟩ := (SpecSys.mem_writes _ _ _).mp h2'.1
      have hain : a.op ∈ ops := (recs_from_ops ops {} a ha).elim (fun h => by simp at h) id
      have hbin : b.op ∈ ops := (recs_from_ops ops {} b hb).elim (fun h => by simp at h) id
      have := hc _ hain _ hbin
      rw [hao, hbo] at this
      simp only [COp.Coh, forall_const] at this
      rw [this]

end HappyModel.C18
