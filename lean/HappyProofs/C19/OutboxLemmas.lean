import HappyModel.C19.Outbox
/-!
The invariant `Inv` of the repaired OutboxRelay model, coupled with the state of the Spec judge reading the
model's own transcript.

The relayed flags are always a prefix (`replicate n true ++ replicate (w - n) false`, n = entries
relayed); at most one poll generator is suspended and the rest of its batch is `n+1, n+2, …`.
-/
namespace HappyModel.C19.Outbox
open List

theorem pendingFrom_false (b u : Nat) : pendingFrom b (replicate u false) = range' b u := by
  induction u generalizing b with
  | zero => simp [pendingFrom]
  | succ u ih => simp [replicate_succ, pendingFrom, range'_succ, ih]

theorem pendingFrom_prefix (b m u : Nat) :
    pendingFrom b (replicate m true ++ replicate u false) = range' (b + m) u := by
  induction m generalizing b with
  | zero => simpa using pendingFrom_false b u
  | succ m ih =>
    simp only [replicate_succ, cons_append, pendingFrom, if_true]
    rw [ih]; congr 1; omega

theorem markFrom_prefix (b m : Nat) (rest : List Bool) :
    markFrom b (replicate m true ++ false :: rest) (b + m) = replicate (m + 1) true ++ rest := by
  induction m generalizing b with
  | zero => simp [markFrom]
  | succ m ih =>
    have h1 : ¬ (b + (m + 1) = b) := by omega
    have h2 : b + (m + 1) = (b + 1) + m := by omega
    simp only [replicate_succ, cons_append, markFrom, h1, if_false]
    rw [h2, ih]; simp [replicate_succ]

theorem take_range'_min (k a u : Nat) :
    ∃ r, (range' a u).take k = range' a r ∧ r ≤ u ∧ (r < k → r = u) := by
  rcases Nat.le_total u k with h | h
  · exact ⟨u, take_range'_of_length_le h, Nat.le_refl _, fun _ => rfl⟩
  · exact ⟨k, take_range'_of_length_ge h, h, fun h' => absurd h' (Nat.lt_irrefl _)⟩

theorem range'_snoc (c : Nat) : range' 1 c ++ [c + 1] = range' 1 (c + 1) := by
  rw [range'_concat]; simp [Nat.add_comm]

theorem eraseFirst_head (x : Nat × Nat) (l : List (Nat × Nat)) : eraseFirst x (x :: l) = l := by
  simp [eraseFirst]

theorem jevs_append (batch t : Nat) (j : JSt) (a b : List Ev) :
    jevs batch t j (a ++ b) = match jevs batch t j a with
      | .error x => .error x
      | .ok j' => jevs batch t j' b := by
  induction a generalizing j with
  | nil => rfl
  | cons e es ih =>
    simp only [cons_append, jevs]
    cases jev batch t j e with
    | error x => rfl
    | ok j' => exact ih j'

structure Core (s : St) (j : JSt) : Prop where
  flags : s.flags = replicate s.relayedCnt true ++ replicate (s.written - s.relayedCnt) false
  le : s.relayedCnt ≤ s.written
  jw : j.writes = s.written
  sent : j.sent = range' 1 s.relayedCnt
  hi : j.hi = s.relayedCnt
  fl : j.flight = s.flight
  clean : j.clean = true → s.relayedCnt = s.written

/-- a poll cycle is in progress and `r` entries of its batch are still to be relayed.
`drain` is what makes the judge's `clean` flag sound: the batch is the first `batch` pending entries at the start of
the cycle, so a cycle that sends fewer than `batch` relay events in all was not cut off and its batch was everything
pending; if moreover nothing was written since, nothing written is left when the remaining `r` are relayed. -/
structure Busy (batch : Nat) (s : St) (j : JSt) (r : Nat) : Prop where
  core : Core s j
  running : s.running = true
  opn : j.opn = 1
  bound : s.relayedCnt + r ≤ s.written
  drain : j.dirty = false → j.busyEmits + r < batch → s.relayedCnt + r = s.written

inductive Inv (batch : Nat) (s : St) (j : JSt) : Prop
  | idle : Core s j → s.running = false → s.polls = [] → j.opn = 0 → Inv batch s j
  | busy (p r : Nat) : Busy batch s j r → s.polls = [⟨p, range' (s.relayedCnt + 1) r⟩] → Inv batch s j

theorem Inv.core {batch : Nat} {s : St} {j : JSt} (h : Inv batch s j) : Core s j := by
  cases h with
  | idle c _ _ _ => exact c
  | busy _ _ b _ => exact b.core

theorem checkCtr_of_core {s : St} {j : JSt} (h : Core s j) : checkCtr j (ctrOf s) = true := by
  have hl : s.flags.length = s.written := by
    rw [h.flags, length_append, length_replicate, length_replicate]; have := h.le; omega
  have hp : (pendingFrom 1 s.flags).length = s.written - s.relayedCnt := by
    rw [h.flags, pendingFrom_prefix, length_range']
  have := h.le
  simp [checkCtr, ctrOf, hl, hp, h.jw, h.sent]
  omega

theorem Core.frame {s s' : St} {j : JSt} (h : Core s j) (hf : s'.flags = s.flags)
    (hw : s'.written = s.written) (hc : s'.relayedCnt = s.relayedCnt) (hfl : s'.flight = s.flight) :
    Core s' j :=
  ⟨by rw [hf, hc, hw]; exact h.flags, by rw [hc, hw]; exact h.le, by rw [hw]; exact h.jw,
   by rw [hc]; exact h.sent, by rw [hc]; exact h.hi, by rw [hfl]; exact h.fl,
   by rw [hc, hw]; exact h.clean⟩

theorem Inv.frame {batch : Nat} {s s' : St} {j : JSt} (h : Inv batch s j) (hf : s'.flags = s.flags)
    (hw : s'.written = s.written) (hc : s'.relayedCnt = s.relayedCnt) (hfl : s'.flight = s.flight)
    (hr : s'.running = s.running) (hp : s'.polls = s.polls) : Inv batch s' j := by
  cases h with
  | idle c r p o => exact Inv.idle (c.frame hf hw hc hfl) (by rw [hr]; exact r) (by rw [hp]; exact p) o
  | busy p r b q =>
    refine Inv.busy p r ⟨b.core.frame hf hw hc hfl, by rw [hr]; exact b.running, b.opn,
      by rw [hc, hw]; exact b.bound, by rw [hc, hw]; exact b.drain⟩ (by rw [hp, hc]; exact q)

theorem relayOne_busy {batch t : Nat} {s : St} {j : JSt} {r : Nat} (h : Busy batch s j (r + 1)) :
    ∃ j', jev batch t j (.emit (s.relayedCnt + 1) t) = .ok j' ∧
      Busy batch (relayOne t s (s.relayedCnt + 1)) j' r := by
  have hb := h.bound
  have c := h.core
  refine ⟨{ j with sent := j.sent ++ [s.relayedCnt + 1], hi := s.relayedCnt + 1,
                   flight := j.flight ++ [(s.relayedCnt + 1, t)], busyEmits := j.busyEmits + 1 }, ?_, ?_⟩
  · have h1 : ¬ (t < t) := Nat.lt_irrefl t
    have h2 : ¬ (s.relayedCnt + 1 ∈ j.sent) := by
      rw [c.sent, mem_range'_1]; omega
    have h3 : ¬ (s.relayedCnt + 1 = 0 ∨ j.writes < s.relayedCnt + 1) := by
      rw [c.jw]; omega
    have h4 : ¬ (s.relayedCnt + 1 < j.hi) := by rw [c.hi]; omega
    simp only [jev, h1, h2, h3, h4, if_false]
  · have hsplit : s.written - s.relayedCnt = (s.written - (s.relayedCnt + 1)) + 1 := by omega
    have hfl : markFrom 1 s.flags (s.relayedCnt + 1)
        = replicate (s.relayedCnt + 1) true ++ replicate (s.written - (s.relayedCnt + 1)) false := by
      rw [c.flags, hsplit, replicate_succ, Nat.add_comm s.relayedCnt 1, markFrom_prefix]
      simp [Nat.add_comm]
    refine ⟨⟨hfl, ?_, c.jw, ?_, rfl, ?_, ?_⟩, h.running, h.opn, ?_, ?_⟩
    · show s.relayedCnt + 1 ≤ s.written; omega
    · show j.sent ++ [s.relayedCnt + 1] = range' 1 (s.relayedCnt + 1)
      rw [c.sent, range'_snoc]
    · show j.flight ++ [(s.relayedCnt + 1, t)] = s.flight ++ [(s.relayedCnt + 1, t)]
      rw [c.fl]
    · intro hc
      have := c.clean hc
      show s.relayedCnt + 1 = s.written; omega
    · show s.relayedCnt + 1 + r ≤ s.written; omega
    · intro hd hlt
      have := h.drain hd (by show j.busyEmits + (r + 1) < batch; simp only at hlt; omega)
      show s.relayedCnt + 1 + r = s.written; omega

theorem relayAll_polls (t : Nat) (s : St) (l : List Nat) : (relayAll t s l).1.polls = s.polls := by
  induction l generalizing s with
  | nil => rfl
  | cons k ks ih => simp only [relayAll]; rw [ih]; rfl

theorem relayAll_busy {batch t : Nat} (r : Nat) {s : St} {j : JSt} (h : Busy batch s j r) :
    ∃ j', jevs batch t j (relayAll t s (range' (s.relayedCnt + 1) r)).2 = .ok j' ∧
      Busy batch (relayAll t s (range' (s.relayedCnt + 1) r)).1 j' 0 := by
  induction r generalizing s j with
  | zero => exact ⟨j, rfl, h⟩
  | succ r ih =>
    obtain ⟨j1, hj1, hb1⟩ := relayOne_busy (t := t) h
    obtain ⟨j2, hj2, hb2⟩ := ih hb1
    refine ⟨j2, ?_, ?_⟩
    · simp only [range'_succ, relayAll, jevs, hj1]
      exact hj2
    · simp only [range'_succ, relayAll]
      exact hb2

theorem resched_inv {cfg : Cfg} {t : Nat} {s : St} {j : JSt} (h : Inv cfg.batch s j) :
    Inv cfg.batch (resched cfg t s).1 j := by
  unfold resched
  split
  · exact h.frame rfl rfl rfl rfl rfl rfl
  · exact h

theorem resched_evs (cfg : Cfg) (t : Nat) (s : St) :
    ∃ x, (resched cfg t s).2 = [.done, x] ∧ ∀ b t' j, jev b t' j x = .ok j := by
  unfold resched
  split
  · exact ⟨_, rfl, fun _ _ _ => rfl⟩
  · exact ⟨_, rfl, fun _ _ _ => rfl⟩

theorem finish_busy {cfg : Cfg} {t : Nat} {s : St} {j : JSt} (hl : cfg.legacy = false)
    (h : Busy cfg.batch s j 0) (hp : s.polls = []) :
    ∃ j', jevs cfg.batch t j (finish cfg t s).2 = .ok j' ∧ Inv cfg.batch (finish cfg t s).1 j' := by
  have c := h.core
  have hcl : (j.clean || (!j.dirty && decide (j.busyEmits < cfg.batch))) = true →
      s.relayedCnt = s.written := by
    intro hc
    rcases Bool.or_eq_true _ _ |>.mp hc with h1 | h1
    · exact c.clean h1
    · have h2 := Bool.and_eq_true _ _ |>.mp h1
      have hd : j.dirty = false := by simpa using h2.1
      have hlt : j.busyEmits < cfg.batch := by simpa using h2.2
      have := h.drain hd (by omega)
      omega
  have he : endCycle cfg s = { s with running := false, scheduled := false } := by
    simp [endCycle, hl]
  obtain ⟨x, hx, hxj⟩ := resched_evs cfg t (endCycle cfg s)
  refine ⟨{ j with opn := 0, clean := j.clean || (!j.dirty && decide (j.busyEmits < cfg.batch)) }, ?_, ?_⟩
  · have hd : jev cfg.batch t j .done = .ok
        { j with opn := 0, clean := j.clean || (!j.dirty && decide (j.busyEmits < cfg.batch)) } := by
      simp [jev, h.opn]
    unfold finish
    rw [hx]
    simp only [jevs, hd, hxj]
  · unfold finish
    apply resched_inv
    rw [he]
    exact Inv.idle { c with clean := hcl } rfl hp rfl

theorem advance_busy {cfg : Cfg} {t p : Nat} {s : St} {j : JSt} {r : Nat} (hl : cfg.legacy = false)
    (h : Busy cfg.batch s j r) (hp : s.polls = []) :
    ∃ j', jevs cfg.batch t j (advance cfg t s p (range' (s.relayedCnt + 1) r)).2 = .ok j' ∧
      Inv cfg.batch (advance cfg t s p (range' (s.relayedCnt + 1) r)).1 j' := by
  unfold advance
  by_cases hlat : cfg.lat = 0
  · simp only [hlat, if_true]
    obtain ⟨j1, hj1, hb1⟩ := relayAll_busy (t := t) r h
    have hp1 : (relayAll t s (range' (s.relayedCnt + 1) r)).1.polls = [] := by
      rw [relayAll_polls]; exact hp
    obtain ⟨j2, hj2, hinv⟩ := finish_busy (t := t) hl hb1 hp1
    refine ⟨j2, ?_, hinv⟩
    rw [jevs_append, hj1]; exact hj2
  · simp only [hlat, if_false]
    cases r with
    | zero => exact finish_busy hl h hp
    | succ r =>
      obtain ⟨j1, hj1, hb1⟩ := relayOne_busy (t := t) h
      refine ⟨j1, ?_, ?_⟩
      · simp only [range'_succ, jevs, hj1]
      · simp only [range'_succ]
        -- `{ h with }` re-types `h : Core s j` (or `Busy`) at a state and a judge state that differ from `s`, `j` only in
        -- fields the structure does not read: every field is then the old one by computation (here `polls` changed)
        refine Inv.busy p r { hb1 with core := { hb1.core with } } ?_
        show (relayOne t s (s.relayedCnt + 1)).polls ++ [⟨p, range' (s.relayedCnt + 1 + 1) r⟩]
          = [⟨p, range' (s.relayedCnt + 1 + 1) r⟩]
        have : (relayOne t s (s.relayedCnt + 1)).polls = [] := hp
        rw [this]; rfl

end HappyModel.C19.Outbox
