import HappyProofs.C09.PreemptCbInv
namespace HappyModel.C09.PreemptCb
open HappyModel.C09.Preempt

theorem obsAt_acq (m : M) (id : Nat) (amt prio : Int) (pre : Bool) (res : Res) (ev wk : List Nat) :
    obsAt m (.acq id amt prio pre) res ev wk =
      obsOf { m.s with nextId := id } m.gone (.acquire amt prio pre) { res := res, evicted := ev, woke := wk } m.s := rfl

theorem obsAt_rel (m : M) (id : Nat) (res : Res) (ev wk : List Nat) :
    obsAt m (.rel id) res ev wk =
      obsOf m.s m.gone (.release id) { res := res, evicted := ev, woke := wk } m.s := rfl

theorem obsAt_noev (m : M) (k : Kind) (res : Res) (ev wk : List Nat) :
    { obsAt m k res ev wk with evicted := [] } = obsAt m k res [] wk := rfl

theorem jb_apply_query (cap : Int) (j : JB) (cnt : Bool) (o : Obs) (hw : o.woke = []) :
    j.apply cap ⟨.query, cnt, o⟩ = .ok j := by
  simp [JB.apply, hw]

theorem jb_apply_plain (cap : Int) (j : JB) (cnt : Bool) (o : Obs) (he : o.evicted = []) :
    j.apply cap ⟨.call, cnt, o⟩ =
      match j.b.apply cap o with
      | .ok b => .ok { j with b := b }
      | .error e => .error e := by
  simp only [JB.apply, he]
  cases o.k <;> first | rfl | simp

theorem jb_apply_acq_cons (cap : Int) (j : JB) (cnt : Bool) (o : Obs) (id : Nat) (amt prio : Int)
    (cl : Call) (rest : List Call) (hk : o.k = .acq id amt prio true) (hc : j.calls = cl :: rest)
    (he : o.evicted ≠ []) (h1 : cl.evs = o.evicted) (h2 : cl.amt = amt) (h3 : cl.prio = prio) :
    j.apply cap ⟨.call, cnt, o⟩ =
      match j.b.apply cap { o with evicted := [] } with
      | .ok b => .ok { b := b, calls := rest }
      | .error e => .error e := by
  simp only [JB.apply, hk, hc, if_neg he]
  rw [if_neg (by simp [h1, h2, h3])]
  first | rfl | simp

section Finish
variable {cap : Int} {j : JB} {m : M}

/-- the caller `g` has been placed, granted or queued: `b1`, `s1` are books and state after placing it -/
structure Placed (cap : Int) (j : JB) (m : M) (g : G) (res : Res) (b1 : Book) (s1 : St) : Prop where
  core : Core cap b1 s1 m.gone
  app : ∀ (m' : M) (pre : Bool) (wk : List Nat), j.b.apply cap (obsAt m' (.acq g.id g.amt g.prio pre) res [] wk)
    = Book.wakeSet cap b1.waiting.length b1 (Extra.sortIds wk)
  ret : RetOk s1 m.retLog
  head : j.calls = [] → ∀ w ws, s1.waiters = w :: ws → s1.avail < w.amt

theorem placed (ag : Agree cap j m) (amt prio : Int) (hbad : ¬ (amt ≤ 0 ∨ m.s.cap < amt)) :
    ∃ b1, Placed cap j m ⟨m.s.nextId, amt, prio⟩ (place (bumpId m.s) ⟨m.s.nextId, amt, prio⟩).2 b1
      (place (bumpId m.s) ⟨m.s.nextId, amt, prio⟩).1 := by
  have c := ag.core
  have hfr := c.ord.fresh amt prio
  obtain ⟨b1, c1, happ⟩ := core_place m.s.nextId amt prio [] (core_bump c) (evict_nil _ _ _ _)
    (by rw [c.granted]; simpa using (show m.s.nextId ∉ m.s.grantLog from hfr.log)) (c.cap ▸ hbad) hfr
  refine ⟨b1, c1, fun m' pre wk => happ (obsAt m' _ _ [] wk) pre rfl rfl rfl (fun h => absurd rfl h), ?_,
    fun hc => place_head _ _ (ag.head hc) (by show 0 < amt; omega)⟩
  unfold place
  split
  · exact retok_grant _ (retok_bump ag.ret) hfr.log
  · exact retok_enq _ (retok_bump ag.ret)

variable {g : G} {res : Res} {b1 : Book} {s1 : St}

/-- the call ends and nobody was evicted by it -/
theorem finish_plain (cnt : Bool) (ag : Agree cap j m) (pl : Placed cap j m g res b1 s1) (pre : Bool) (ctx : Option Nat)
    (cbs : List (Nat × Nat)) (st : List Frame) (hst : callsOf st = callsOf m.stack) (hv : ∀ f ∈ st, FrameOk cap f) :
    Step cap cnt j
      ({ m with s := s1, cbs := cbs, stack := st },
       some ⟨ctx, .call, obsAt { m with s := s1, cbs := cbs, stack := st } (.acq g.id g.amt g.prio pre) res [] []⟩) := by
  have hag : Agree cap (⟨b1, j.calls⟩ : JB) { m with s := s1, cbs := cbs, stack := st } :=
    { core := pl.core
      calls := by show j.calls = callsOf st; rw [hst]; exact ag.calls
      head := pl.head
      ret := pl.ret
      valid := hv }
  refine Step.loud ?_ (check_obsAt cap cnt _ _ ctx .call _ _ _ _ hag) hag
  show j.apply cap ⟨.call, _, _⟩ = _
  rw [jb_apply_plain cap j _ _ rfl, pl.app, sortIds_nil, wakeSet_nil]

/-- the call ends after a preemption: it leaves the judge's stack, waiters are woken -/
theorem finish_woken (cnt : Bool) (ag : Agree cap j m) (pl : Placed cap j m g res b1 s1) (ctx : Option Nat)
    (cbs : List (Nat × Nat)) (st : List Frame) (snap : List G) (evs : List Nat) (hevs : evs ≠ [])
    (hcalls : callsOf m.stack = ⟨g.amt, g.prio, snap, evs⟩ :: callsOf st) (hv : ∀ f ∈ st, FrameOk cap f) :
    Step cap cnt j
      ({ m with s := (wake s1).1, cbs := cbs, stack := st },
       some ⟨ctx, .call, obsAt { m with s := (wake s1).1, cbs := cbs, stack := st }
               (.acq g.id g.amt g.prio true) res evs (wake s1).2⟩) := by
  obtain ⟨b', hw, c'⟩ := core_wake (Extra.sortIds (wake s1).2) pl.core (fun i => mem_sortIds i _)
  have hjc : j.calls = ⟨g.amt, g.prio, snap, evs⟩ :: callsOf st := by rw [ag.calls]; exact hcalls
  have hag : Agree cap { b := b', calls := callsOf st } { m with s := (wake s1).1, cbs := cbs, stack := st } :=
    { core := c'
      calls := rfl
      head := fun _ => (wake_inv _ pl.core.num).head
      ret := retok_wake pl.ret pl.core.ord.waitNotLogged
      valid := hv }
  refine Step.loud ?_ (check_obsAt cap cnt _ _ ctx .call _ _ _ _ hag) hag
  show j.apply cap ⟨.call, _, _⟩ = _
  rw [jb_apply_acq_cons cap j _ _ g.id g.amt g.prio _ _ rfl hjc hevs rfl rfl rfl, obsAt_noev, pl.app, hw]

end Finish

/-- the end of a call that went through `_try_preempt`: place the caller, then `_wake_waiters` if somebody was evicted -/
theorem finish_eq (m : M) (rest : List Frame) (amt prio : Int) (cb : Nat) (evs : List Nat) :
    finish m rest amt prio cb evs =
      let p := place (bumpId m.s) ⟨m.s.nextId, amt, prio⟩
      let w := wakeIf (!evs.isEmpty) p.1
      let m1 := { m with s := w.1, cbs := m.cbs ++ [(m.s.nextId, cb)], stack := rest }
      (m1, some ⟨ctxOf rest, .call, obsAt m1 (.acq m.s.nextId amt prio true) p.2 evs w.2⟩) := by
  unfold finish
  by_cases hfit : amt ≤ m.s.avail
  · rw [if_pos hfit, place_fit (show (⟨m.s.nextId, amt, prio⟩ : G).amt ≤ (bumpId m.s).avail from hfit)]
    cases evs <;> rfl
  · rw [if_neg hfit, place_full (show ¬ (⟨m.s.nextId, amt, prio⟩ : G).amt ≤ (bumpId m.s).avail from hfit)]
    cases evs <;> rfl

theorem finish_step (cap : Int) (cnt : Bool) (j : JB) (m : M) (rest : List Frame) (amt prio : Int) (cb : Nat)
    (snap : List G) (evs : List Nat) (ag : Agree cap j m) (hst : m.stack = .loop amt prio cb snap evs :: rest) :
    Step cap cnt j (finish m rest amt prio cb evs) := by
  have hfr : FrameOk cap (.loop amt prio cb snap evs) := ag.valid _ (by rw [hst]; exact List.mem_cons_self)
  have hbad : ¬ (amt ≤ 0 ∨ m.s.cap < amt) := by
    have := ag.core.cap; unfold FrameOk at hfr; omega
  have hv : ∀ f ∈ rest, FrameOk cap f := fun f hf => ag.valid f (by rw [hst]; exact List.mem_cons_of_mem _ hf)
  obtain ⟨b1, pl⟩ := placed ag amt prio hbad
  rw [finish_eq]
  cases evs with
  | nil => exact finish_plain cnt ag pl true (ctxOf rest) _ rest (by rw [hst, callsOf_loop_nil]) hv
  | cons v vs =>
    exact finish_woken cnt ag pl (ctxOf rest) _ rest snap _ (List.cons_ne_nil _ _)
      (by rw [hst, callsOf_loop_cons _ _ _ _ _ _ (List.cons_ne_nil _ _)]) hv

theorem doAct_step (cap : Int) (cnt : Bool) (j : JB) (m : M) (ctx : Option Nat) (a : Act) (ag : Agree cap j m) :
    Step cap cnt j (doAct m ctx a) := by
  have c := ag.core
  cases a with
  | query =>
    simp only [doAct]
    refine Step.loud (j' := j) ?_ (check_obsAt cap cnt _ _ ctx .query _ _ _ _ ag) ag
    exact jb_apply_query cap j _ _ sortedIds_nil
  | rel id =>
    cases hf : m.s.active.find? (·.id == id) with
    | none =>
      simp only [doAct, hf]
      refine Step.loud (j' := j) ?_ (check_obsAt cap cnt _ _ ctx .call _ _ _ _ ag) ag
      show j.apply cap ⟨.call, _, _⟩ = _
      rw [jb_apply_plain cap j _ _ rfl, obsAt_rel, apply_noop _ _ _ _ _ _ (by rw [c.held]; exact hf)]
    | some g =>
      simp only [doAct, hf]
      have hm : g ∈ m.s.active := List.mem_of_find?_eq_some hf
      have cf := core_free g c hm
      obtain ⟨b', hw, c'⟩ := core_wake (Extra.sortIds (wake (Preempt.freed m.s g)).2) cf (fun i => mem_sortIds i _)
      have hag : Agree cap { j with b := b' } { m with s := (wake (giveBack m.s g)).1, retLog := m.retLog ++ [g.id] } :=
        { core := c'
          calls := ag.calls
          head := fun _ => (wake_inv _ cf.num).head
          ret := retok_wake (retok_return g c ag.ret hm rfl rfl) cf.ord.waitNotLogged
          valid := ag.valid }
      refine Step.loud ?_ (check_obsAt cap cnt _ _ ctx .call _ _ _ _ hag) hag
      show j.apply cap ⟨.call, _, _⟩ = _
      rw [jb_apply_plain cap j _ _ rfl, obsAt_rel, apply_released _ _ _ _ _ g _ _ (by rw [c.held]; exact hf)]
      show (match Book.wakeSet cap j.b.waiting.length _ (Extra.sortIds (wake (Preempt.freed m.s g)).2) with
            | .ok b => Except.ok { j with b := b }
            | .error e => .error e) = _
      rw [hw]
  | acq amt prio pre cb =>
    by_cases hbad : amt ≤ 0 ∨ m.s.cap < amt
    · simp only [doAct, hbad, if_true]
      have hag : Agree cap j { m with s := bumpId m.s } :=
        { core := core_bump c, calls := ag.calls, head := ag.head, ret := retok_bump ag.ret, valid := ag.valid }
      refine Step.loud (j' := j) ?_ (check_obsAt cap cnt _ _ ctx .call _ _ _ _ hag) hag
      show j.apply cap ⟨.call, _, _⟩ = _
      rw [jb_apply_plain cap j _ _ rfl, obsAt_acq,
        apply_err _ _ _ _ _ _ _ _ (by rw [← c.cap]; exact hbad)]
    · by_cases hfit : amt ≤ m.s.avail
      · simp only [doAct, hbad, if_false, hfit, if_true]
        obtain ⟨b1, pl⟩ := placed ag amt prio hbad
        rw [place_fit (show (⟨m.s.nextId, amt, prio⟩ : G).amt ≤ (bumpId m.s).avail from hfit)] at pl
        exact finish_plain cnt ag pl pre ctx _ m.stack rfl ag.valid
      · cases pre with
        | true =>
          simp only [doAct, hbad, if_false, hfit, if_true]
          apply Step.silent
          apply ag.restack
          · exact callsOf_loop_nil _ _ _ _ _
          · intro f hf
            rcases List.mem_cons.mp hf with h | h
            · rw [h]; have := c.cap; unfold FrameOk; omega
            · exact ag.valid f h
        | false =>
          simp only [doAct, hbad, if_false, hfit, Bool.false_eq_true]
          obtain ⟨b1, pl⟩ := placed ag amt prio hbad
          rw [place_full (show ¬ (⟨m.s.nextId, amt, prio⟩ : G).amt ≤ (bumpId m.s).avail from hfit)] at pl
          exact finish_plain cnt ag pl false ctx _ m.stack rfl ag.valid

theorem tick_step (cap : Int) (cnt : Bool) (P : Progs) (j : JB) (m : M) (ag : Agree cap j m) :
    Step cap cnt j (tick P m) := by
  have c := ag.core
  cases hst : m.stack with
  | nil => simp only [tick, hst]; exact Step.silent ag
  | cons f rest =>
    have hv : ∀ f ∈ rest, FrameOk cap f := fun f hf => ag.valid f (by rw [hst]; exact List.mem_cons_of_mem _ hf)
    cases f with
    | prog o acts =>
      cases acts with
      | nil =>
        simp only [tick, hst]
        exact Step.silent (ag.restack rest (by rw [hst, callsOf_prog]) hv)
      | cons a as =>
        simp only [tick, hst]
        apply doAct_step
        apply ag.restack
        · rw [hst, callsOf_prog, callsOf_prog]
        · intro f hf
          rcases List.mem_cons.mp hf with h | h
          · rw [h]; trivial
          · exact hv f h
    | loop amt prio cb snap evs =>
      have hfr : FrameOk cap (.loop amt prio cb snap evs) := ag.valid _ (by rw [hst]; exact List.mem_cons_self)
      by_cases hfit : amt ≤ m.s.avail
      · simp only [tick, hst, hfit, if_true]
        exact finish_step cap cnt j m rest amt prio cb snap evs ag hst
      · cases hvic : victim prio ((if evs = [] then m.s.active else snap).filter (fun x => m.s.active.contains x)) with
        | none =>
          simp only [tick, hst, hfit, if_false, hvic]
          exact finish_step cap cnt j m rest amt prio cb snap evs ag hst
        | some v =>
          simp only [tick, hst, hfit, if_false, hvic]
          have hvf := victim_mem _ _ _ hvic
          have hm : v ∈ m.s.active := by
            have := (List.mem_filter.mp hvf).2
            simpa using this
          have hpr := victim_prio _ _ _ hvic
          have hfind : j.b.held.find? (·.id == v.id) = some v := by
            rw [c.held]; exact find_by_id _ _ hm c.actNodup
          have hsum := c.heldSum
          have hag : Agree cap
              { b := { j.b with held := j.b.held.erase v, gone := j.b.gone ++ [v.id] },
                calls := ⟨amt, prio, if evs = [] then m.s.active else snap, evs ++ [v.id]⟩ :: callsOf rest }
              { m with s := evict1 m.s v, gone := m.gone ++ [v.id], retLog := m.retLog ++ [v.id],
                       stack := .prog (some v.id) (progOf P m.cbs v.id)
                                  :: .loop amt prio cb (if evs = [] then m.s.active else snap) (evs ++ [v.id]) :: rest } :=
            { core := core_evict1 v c hm
              calls := by
                show _ :: callsOf rest = callsOf _
                rw [callsOf_prog, callsOf_loop_cons _ _ _ _ _ _ (by simp)]
              head := fun h => by cases h
              ret := retok_return v c ag.ret hm rfl rfl
              valid := by
                intro f hf
                rcases List.mem_cons.mp hf with h | h
                · rw [h]; trivial
                · rcases List.mem_cons.mp h with h | h
                  · rw [h]; exact hfr
                  · exact hv f h }
          refine Step.loud ?_ (check_obsAt cap cnt _ _ (some v.id) _ _ _ _ _ hag) hag
          show j.apply cap ⟨.ev v.id (decide (evs = [])) amt prio, _, _⟩ = _
          simp only [JB.apply, obsAt, sortedIds_nil, ne_eq, not_true_eq_false, if_false, hfind]
          rw [if_neg (by omega), if_neg (by rw [hsum]; omega)]
          -- the judge's snapshot: at the first eviction of a call (`evs = []`) it takes its own `held`, which is the machine's
          -- `active` (`c.held`); later it reads the snapshot off the call it put on its stack then (`hjc`)
          by_cases he : evs = []
          · have hjc : j.calls = callsOf rest := by rw [ag.calls, hst, he, callsOf_loop_nil]
            simp only [he, if_true] at hvic
            simp only [he, decide_true, if_true, List.nil_append, not_true_eq_false, or_self, if_false]
            rw [c.held, if_neg (by rw [hvic]; simp), hjc]
          · have hjc : j.calls = ⟨amt, prio, snap, evs⟩ :: callsOf rest := by
              rw [ag.calls, hst, callsOf_loop_cons _ _ _ _ _ _ he]
            simp only [he, if_false] at hvic
            simp only [he, decide_false, Bool.false_eq_true, if_false, hjc, not_true_eq_false, or_self]
            rw [c.held, if_neg (by rw [hvic]; simp)]

end HappyModel.C09.PreemptCb
