import HappyProofs.C08.IndusProps
/-!
# C08 part 3 — soundness of the judge, BatchProcessor: no item is stranded in the buffer

One id is followed through the populations `wherB` of an accepted batch transcript (`batch_step`, with the
invariant `BKeys` of the batches in process): an accepted transcript (flush timeout configured) delivers every
offered id at the sink; and no accepted transcript lets the clock pass the oldest waiting item's flush
deadline while nothing is in process (with `overlap`: whatever is in process).
-/
namespace HappyModel.C08.Indus


structure BKeys (j : Book) : Prop where
  key : ∀ b ∈ j.batches, b.1 ∈ j.svc.ids ∧ b.1 < j.svc.next
  uniq : ∀ b ∈ j.batches, ∀ b' ∈ j.batches, b.1 = b'.1 → b = b'

/-- the populations an accepted id of the batch component can be in -/
def wherB (j : Book) (x : Nat) : Prop :=
  x ∈ j.waiting.map (·.id) ∨ (∃ b ∈ j.batches, x ∈ b.2) ∨ x ∈ j.finished ∨ x ∈ j.done

theorem BKeys.start {j : Book} (hi : BKeys j) (ids : List Nat) :
    (∀ b ∈ j.batches ++ [(j.svc.next, ids)], b.1 ∈ j.svc.ids ++ [j.svc.next] ∧ b.1 < j.svc.next + 1) ∧
    ∀ b ∈ j.batches ++ [(j.svc.next, ids)], ∀ b' ∈ j.batches ++ [(j.svc.next, ids)], b.1 = b'.1 → b = b' := by
  obtain ⟨h2, h3⟩ := hi
  refine ⟨fun b hb => ?_, fun b hb b' hb' he => ?_⟩
  · simp only [List.mem_append, List.mem_singleton] at hb ⊢
    rcases hb with hb | rfl
    · exact ⟨.inl (h2 b hb).1, Nat.lt_succ_of_lt (h2 b hb).2⟩
    · exact ⟨.inr rfl, Nat.lt_succ_self _⟩
  · simp only [List.mem_append, List.mem_singleton] at hb hb'
    rcases hb with hb | rfl <;> rcases hb' with hb' | rfl
    · exact h3 b hb b' hb' he
    · exact absurd (h2 b hb).2 (by rw [he]; exact Nat.lt_irrefl _)
    · exact absurd (h2 b' hb').2 (by rw [← he]; exact Nat.lt_irrefl _)
    · rfl

theorem keyed_split {bs : List (Nat × List Nat)} {k : Nat} {e : Nat × List Nat} {x : Nat}
    (hu : ∀ b ∈ bs, ∀ b' ∈ bs, b.1 = b'.1 → b = b') (hf : bs.find? (·.1 == k) = some e)
    (h : ∃ b ∈ bs, x ∈ b.2) : (∃ b ∈ bs.filter (·.1 != k), x ∈ b.2) ∨ x ∈ e.2 := by
  obtain ⟨b, hb, hx⟩ := h
  have hk : e.1 = k := by simpa using List.find?_some hf
  by_cases hb1 : b.1 = k
  · cases hu b hb e (List.mem_of_find?_eq_some hf) (hb1.trans hk.symm)
    exact .inr hx
  · exact .inl ⟨b, List.mem_filter.2 ⟨hb, by simpa using hb1⟩, hx⟩

/-- the buffer as a function of the observations only -/
def waitStep (w : List Nat) (o : Obs) : List Nat :=
  match o.act, o.res with
  | .offer id _, .wait => w ++ [id]
  | .offer _ _, .start => []
  | .timeout, .start => []
  | _, _ => w

def waitFold : List Nat → List Obs → List Nat
  | w, [] => w
  | w, o :: r => waitFold (waitStep w o) r

/-- an accepted line moves at most the id it names from one population to the next; a batch
start moves the whole buffer under a fresh key (`BKeys.start`), a batch end moves the ids of one keyed
entry to `finished` (`keyed_split`) -/
theorem batch_step {cfg : Cfg} {j j' : Book} {o : Obs} (hc : cfg.comp = .batch) (x : Nat)
    (h : judgeObs cfg j o = .ok j') (hi : BKeys j) :
    BKeys j' ∧ (wherB j x → wherB j' x) ∧ (∀ p, o.act = .offer x p → wherB j' x) ∧
    j'.waiting.map (·.id) = waitStep (j.waiting.map (·.id)) o := by
  obtain ⟨-, j1, hact, rfl, -, -⟩ := judgeObs_ok h
  clear h
  simp only [judgeAct, hc] at hact
  cases ha : o.act with
  | offer id p =>
    simp only [judgeBatch, ha, ite_error_ok] at hact
    replace hact := hact.2
    split at hact
    · rename_i hr
      cases hact
      simp only [wherB, svcStep, doneStep, waitStep, hc, ha, hr]
      refine ⟨⟨hi.key, hi.uniq⟩, ?_, ?_, by simp⟩ <;> grind
    · rename_i hr
      simp only [ite_error_ok, Except.ok.injEq] at hact
      obtain ⟨-, -, rfl⟩ := hact
      simp only [wherB, svcStep, doneStep, waitStep, hc, ha, hr, List.mem_append, List.mem_singleton, or_and_right,
        exists_or, exists_eq_left]
      refine ⟨⟨(hi.start _).1, (hi.start _).2⟩, ?_, ?_, by simp⟩ <;> grind
    · cases hact
  | timeout =>
    simp only [judgeBatch, ha] at hact
    split at hact
    · rename_i hr
      cases hact
      simp only [svcStep, doneStep, waitStep, hc, ha, hr]
      exact ⟨⟨hi.key, hi.uniq⟩, id, nofun, trivial⟩
    · rename_i hr
      split at hact
      · cases hact
      · rename_i w rest hw
        cases (ite_error_ok.1 hact).2
        simp only [wherB, svcStep, doneStep, waitStep, hc, ha, hr, List.mem_append, List.mem_singleton, or_and_right,
          exists_or, exists_eq_left]
        refine ⟨⟨(hi.start _).1, (hi.start _).2⟩, ?_, nofun, rfl⟩
        grind
    · cases hact
  | bfin k =>
    simp only [judgeBatch, ha] at hact
    split at hact
    · cases hact
    · rename_i k' ids hf
      cases (ite_error_ok.1 hact).2
      obtain ⟨h2, h3⟩ := hi
      simp only [wherB, svcStep, doneStep, waitStep, hc, ha]
      refine ⟨⟨fun b hb => ?_, fun b hb b' hb' => h3 b (List.mem_filter.1 hb).1 b' (List.mem_filter.1 hb').1⟩,
        ?_, nofun, trivial⟩
      · simp only [List.mem_filter, bne_iff_ne, ne_eq] at hb
        exact ⟨(List.mem_erase_of_ne hb.2).2 (h2 b hb.1).1, (h2 b hb.1).2⟩
      · rintro (h | h | h | h)
        · exact .inl h
        · exact (keyed_split h3 hf h).elim (fun h => .inr (.inl h)) fun h => .inr (.inr (.inl (List.mem_append_right _ h)))
        · exact .inr (.inr (.inl (List.mem_append_left _ h)))
        · exact .inr (.inr (.inr h))
  | done id =>
    simp only [judgeBatch, ha] at hact
    rw [(judgeDone_ok hact).2]
    simp only [wherB, svcStep, doneStep, waitStep, hc, ha]
    have := List.mem_erase_of_ne (a := x) (b := id) (l := j.finished)
    refine ⟨⟨hi.key, hi.uniq⟩, ?_, nofun, trivial⟩
    grind
  | _ => simp [judgeBatch, ha] at hact


theorem endCheck_batch {cfg : Cfg} {j : Book} (hc : cfg.comp = .batch) (h : endCheck cfg j = none) :
    j.finished = [] ∧ j.svc.ids = [] ∧ (cfg.timeout ≠ 0 → j.waiting = []) := by
  unfold endCheck at h
  split at h
  · cases h
  rename_i hs
  simp only [strandCheck, ite_some_none] at hs
  simp only [hc, ite_some_none] at h
  have hf : j.finished = [] ∧ j.rpending = [] := by simpa using hs.2.1
  exact ⟨hf.1, by simpa using h.1, fun ht => by simpa [ht] using h.2.1⟩

theorem judge_sound_batch_gen (cfg : Cfg) (hc : cfg.comp = .batch) (x : Nat) :
    ∀ (obs : List Obs) (j : Book) (i : Nat), judgeRun cfg j i obs = none → BKeys j →
      (wherB j x → x ∈ doneFold j.done obs ∨ cfg.timeout = 0 ∧ x ∈ waitFold (j.waiting.map (·.id)) obs) ∧
      (∀ o ∈ obs, (∃ p, o.act = .offer x p) →
        x ∈ doneFold j.done obs ∨ cfg.timeout = 0 ∧ x ∈ waitFold (j.waiting.map (·.id)) obs) := by
  refine judgeRun_tracks
    (G := fun j obs => x ∈ doneFold j.done obs ∨ cfg.timeout = 0 ∧ x ∈ waitFold (j.waiting.map (·.id)) obs) ?_ ?_
  · intro j he hi hw
    obtain ⟨hf, hs, hw0⟩ := endCheck_batch hc he
    rcases hw with h | ⟨b, hb, _⟩ | h | h
    · -- with a flush timeout the end check leaves nothing in the buffer
      exact .inr ⟨Decidable.by_contra fun ht => by simp [hw0 ht] at h, h⟩
    · have := (hi.key b hb).1; rw [hs] at this; cases this
    · rw [hf] at h; cases h
    · exact .inl h
  · intro j j' o rest hj hi
    obtain ⟨hi', hk, hn, hwt⟩ := batch_step hc x hj hi
    exact ⟨hi', hk, fun ⟨p, ha⟩ => hn p ha, fun h => by rw [judgeObs_done hj, hwt] at h; exact h⟩

/-- **Soundness (no item is stranded, BatchProcessor with a flush timeout; `overlap` either way).** If the judge
accepts a whole transcript including its end check, every id offered in it was delivered at the sink. -/
theorem judge_sound_batch_all_completed (cfg : Cfg) (hc : cfg.comp = .batch) (ht : cfg.timeout ≠ 0)
    (obs : List Obs) (h : judgeRun cfg {} 0 obs = none) :
    ∀ o ∈ obs, ∀ id p, o.act = .offer id p → id ∈ doneFold [] obs := fun o ho id p ha =>
  ((judge_sound_batch_gen cfg hc id obs {} 0 h ⟨nofun, nofun⟩).2 o ho ⟨p, ha⟩).resolve_right fun h' => ht h'.1

/-- **Soundness, flush timeout disabled or not:** every offered id was delivered at the sink or is still in
the buffer the transcript ends with (`waitFold`: offers answered `wait` since the last batch start). -/
theorem judge_sound_batch_completed_or_buffered (cfg : Cfg) (hc : cfg.comp = .batch)
    (obs : List Obs) (h : judgeRun cfg {} 0 obs = none) :
    ∀ o ∈ obs, ∀ id p, o.act = .offer id p → id ∈ doneFold [] obs ∨ id ∈ waitFold [] obs := fun o ho id p ha =>
  ((judge_sound_batch_gen cfg hc id obs {} 0 h ⟨nofun, nofun⟩).2 o ho ⟨p, ha⟩).imp_right And.right

/-- accepted: a full batch of two; a partial batch flushed by its timeout while batch 0 is in process -/
example : judgeRun { comp := .batch, limit := 2, timeout := 10, overlap := true } {} 0
    [⟨0, .offer 0 none, .wait, [1, 0, 0, 0], false⟩, ⟨1, .offer 1 none, .start, [0, 0, 0, 0], false⟩,
     ⟨2, .offer 2 none, .wait, [1, 0, 0, 0], false⟩, ⟨12, .timeout, .start, [0, 0, 0, 1], false⟩,
     ⟨15, .bfin 0, .dash, [0, 1, 2, 1], false⟩, ⟨15, .done 0, .dash, [0, 1, 2, 1], false⟩,
     ⟨15, .done 1, .dash, [0, 1, 2, 1], false⟩, ⟨20, .bfin 1, .dash, [0, 2, 3, 1], false⟩,
     ⟨20, .done 2, .dash, [0, 2, 3, 1], false⟩] = none := by decide +kernel

/-- rejected: the run ends with an item in the buffer although a flush timeout is configured -/
example : judgeRun { comp := .batch, limit := 2, timeout := 10 } {} 0
    [⟨0, .offer 0 none, .wait, [1, 0, 0, 0], false⟩]
    = some "indus/batch/strand/timeout-overdue at-end" := by decide +kernel

/-- without a timeout the same transcript is accepted, the item is in the final buffer -/
example : judgeRun { comp := .batch, limit := 2 } {} 0 [⟨0, .offer 0 none, .wait, [1, 0, 0, 0], false⟩] = none ∧
    waitFold [] [⟨0, .offer 0 none, .wait, [1, 0, 0, 0], false⟩] = [0] := by decide +kernel


theorem judge_sound_batch_overdue_gen {cfg : Cfg} {j j' : Book} {o : Obs} (hc : cfg.comp = .batch)
    (hfree : cfg.overlap = true ∨ j.svc.ids = []) (ht : cfg.timeout ≠ 0) (h : judgeObs cfg j o = .ok j')
    (hs : j.started = true) (hl : j.lastT < o.t) {w : WItem} {rest : List WItem} (hw : j.waiting = w :: rest) :
    o.t ≤ w.t + cfg.timeout := by
  have hg := judgeObs_strand h hs hl
  simp only [strandCheck, hc, ite_some_none] at hg
  apply Nat.le_of_not_lt
  intro hlt
  rcases hfree with hf | hf <;> simp [hw, hf, ht, hlt] at hg

/-- **Soundness (flush deadline, overlapping batches).** No accepted transcript lets the clock pass the flush
deadline of the oldest waiting item, whatever is in process. -/
theorem judge_sound_batch_overdue {cfg : Cfg} {j j' : Book} {o : Obs} (hc : cfg.comp = .batch)
    (hov : cfg.overlap = true) (ht : cfg.timeout ≠ 0) (h : judgeObs cfg j o = .ok j')
    (hs : j.started = true) (hl : j.lastT < o.t) {w : WItem} {rest : List WItem} (hw : j.waiting = w :: rest) :
    o.t ≤ w.t + cfg.timeout :=
  judge_sound_batch_overdue_gen hc (.inl hov) ht h hs hl hw

/-- the same with one batch at a time, while nothing is in process -/
theorem judge_sound_batch_overdue_idle {cfg : Cfg} {j j' : Book} {o : Obs} (hc : cfg.comp = .batch)
    (hidle : j.svc.ids = []) (ht : cfg.timeout ≠ 0) (h : judgeObs cfg j o = .ok j')
    (hs : j.started = true) (hl : j.lastT < o.t) {w : WItem} {rest : List WItem} (hw : j.waiting = w :: rest) :
    o.t ≤ w.t + cfg.timeout :=
  judge_sound_batch_overdue_gen hc (.inr hidle) ht h hs hl hw

/-- rejected: batch 0 is in process, item 2 waits since 2, the clock moves to 13 > 2 + 10 … -/
example : judgeRun { comp := .batch, limit := 2, timeout := 10, overlap := true } {} 0
    [⟨0, .offer 0 none, .wait, [1, 0, 0, 0], false⟩, ⟨1, .offer 1 none, .start, [0, 0, 0, 0], false⟩,
     ⟨2, .offer 2 none, .wait, [1, 0, 0, 0], false⟩, ⟨13, .bfin 0, .dash, [1, 1, 2, 0], false⟩]
    = some "indus/batch/strand/timeout-overdue at-line 3" := by decide +kernel

/-- … which the one-batch-at-a-time reading (`overlap := false`) lets pass at that line -/
example : judgeRun { comp := .batch, limit := 2, timeout := 10 } {} 0
    [⟨0, .offer 0 none, .wait, [1, 0, 0, 0], false⟩, ⟨1, .offer 1 none, .start, [0, 0, 0, 0], false⟩,
     ⟨2, .offer 2 none, .wait, [1, 0, 0, 0], false⟩, ⟨13, .bfin 0, .dash, [1, 1, 2, 0], false⟩]
    = some "indus/batch/item-lost at-end" := by decide +kernel

end HappyModel.C08.Indus
