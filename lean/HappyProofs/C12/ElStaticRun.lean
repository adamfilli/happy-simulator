import HappyProofs.C12.ElStatic
namespace HappyModel.C12.El

theorem victory_enabled {n : Nat} {y : Sys} {d l : Nat} (h : SInv n y)
    (hen : enabled y (.victory d l) = true) : l = n - 1 := by
  obtain ⟨m, hm, hv⟩ := List.any_eq_true.1 hen
  cases m with
  | victory d' l' t =>
    simp only [isVictoryOf, Bool.and_eq_true, beq_iff_eq] at hv
    have := h.soup _ hm
    simp only [goodMsg] at this
    omega
  | _ => simp [isVictoryOf] at hv

theorem mod_wrap {a n : Nat} (h1 : n ≤ a) (h2 : a < 2 * n) : a % n = a - n := by
  rw [Nat.mod_eq_sub_mod h1, Nat.mod_eq_of_lt (by omega)]

theorem succ_mod_mod (a n : Nat) : (a % n + 1) % n = (a + 1) % n := by
  rw [Nat.add_mod, Nat.mod_mod, ← Nat.add_mod]

theorem ring_back {n init k : Nat} (hi : init < n) (h1 : 1 ≤ k) (h2 : k ≤ n) (h : (init + k) % n = init) : k = n := by
  by_cases hc : init + k < n
  · rw [Nat.mod_eq_of_lt hc] at h; omega
  · rw [mod_wrap (by omega) (by omega)] at h; omega

theorem ring_has_top {n init : Nat} {cands : List Nat} (hi : init < n)
    (h : ∀ j, j < n → (init + j) % n ∈ cands) : n - 1 ∈ cands := by
  have := h (n - 1 - init) (by omega)
  have e : init + (n - 1 - init) = n - 1 := by omega
  rw [e, Nat.mod_eq_of_lt (by omega)] at this
  exact this

/-- the token is back at its initiator: it has collected every node, the highest one wins -/
theorem token_home {n d init t : Nat} {cands : List Nat} (hg : goodMsg n (.token d init cands t)) (he : init = d) :
    maxOf cands = n - 1 := by
  obtain ⟨hi, hc, k, h1, h2, hk, hall⟩ := hg
  have hkn : k = n := ring_back hi h1 h2 (by rw [← hk, he])
  subst hkn
  exact maxOf_eq (ring_has_top hi hall) (fun c hc' => by have := hc c hc'; omega)

/-- the token moves on: one more node collected -/
theorem token_forward {n d init t : Nat} {cands members : List Nat} (hg : goodMsg n (.token d init cands t))
    (hne : ¬ init = d) (hd : d < n) (hnd : members.Nodup) (hm : ∀ x, x ∈ members ↔ x < n) :
    goodMsg n (.token (ringNext members d) init (cands ++ [d]) t) := by
  obtain ⟨hi, hc, k, h1, h2, hk, hall⟩ := hg
  have hkn : k ≠ n := by
    intro e; subst e
    rw [Nat.add_mod_right, Nat.mod_eq_of_lt hi] at hk
    exact hne hk.symm
  refine ⟨hi, ?_, k + 1, by omega, by omega, ?_, ?_⟩
  · intro c hc'
    rcases List.mem_append.1 hc' with h | h
    · exact hc c h
    · simp only [List.mem_singleton] at h; omega
  · rw [ringNext_eq members n d hnd hm hd, hk, succ_mod_mod]; rfl
  · intro j hj
    by_cases hjk : j < k
    · exact List.mem_append.2 (Or.inl (hall j hjk))
    · have : j = k := by omega
      subst this
      exact List.mem_append.2 (Or.inr (by simp [hk]))

theorem sysStep_inv (n : Nat) (y : Sys) (draw : Nat) (a : Act) (h : SInv n y) : SInv n (sysStep y draw a) := by
  unfold sysStep
  split
  · rename_i hc
    obtain ⟨hact, hen⟩ := hc
    rw [h.len] at hact
    have hm := h.mem _ hact
    have hl := h.ldr _ hact
    obtain ⟨r, e, ho⟩ := step_outcome y.st draw a
    rw [e]
    -- every outcome keeps the members, and names a leader or sends a `Victory`, heartbeat or token only if it is good
    suffices r.1.members = (getNode y.st (actor a)).members ∧ LOK n r.1 ∧ ∀ m ∈ r.2, goodMsg n m from
      h.update _ r.1 r.2 this.1 this.2.1 this.2.2
    have timer : ∀ {l : List Msg}, (∀ m ∈ l, goodMsg n m) → ∀ m ∈ l ++ [Msg.timer], goodMsg n m := by
      intro l hg m hmem
      rcases List.mem_append.1 hmem with hmem | hmem
      · exact hg m hmem
      · cases List.mem_singleton.1 hmem; trivial
    cases ho with
    | quiet a hq =>
      refine ⟨rfl, hl, fun m hmem => ?_⟩
      rcases hq m hmem with rfl | ⟨d, rfl, hlead⟩
      · trivial
      · exact hl _ hlead
    | member => cases hen
    | elect p e =>
      obtain ⟨h1, h2, h3⟩ := startElection_ok n y.st.strat p _ draw hact hm hl
      exact ⟨h1, h2, timer h3⟩
    | challenge d c =>
      exact finish_ok n _ d _ _ none true false draw hact hm hl (fun m hm => by cases List.mem_singleton.1 hm; trivial) nofun
    | calm d => exact ⟨rfl, hl, nofun⟩
    | victory d l =>
      exact finish_ok n _ d _ [] (some l) false true draw hact hm hl nofun
        (by intro l' hl'; cases hl'; exact victory_enabled h hen)
    | home d t cs =>
      have hmax := token_home (h.soup _ (List.contains_iff_mem.1 hen)) rfl
      exact finish_ok n _ d _ _ (some (maxOf cs)) false true draw hact hm hl
        (by intro m hm; simp only [List.mem_map] at hm; obtain ⟨x, _, rfl⟩ := hm; exact hmax)
        (by intro l hl'; cases hl'; exact hmax)
    | forward d i t cs hne =>
      have hfw := token_forward (members := (getNode y.st d).members) (h.soup _ (List.contains_iff_mem.1 hen)) hne hact hm.1 hm.2
      exact finish_ok n _ d _ _ none false false draw hact hm hl
        (by intro m hm; simp only [List.mem_singleton] at hm; subst hm; exact hfw) nofun
    | ballot d f t my =>
      exact finish_ok n _ d _ _ none false false draw hact hm hl (fun m hm => by cases List.mem_singleton.1 hm; trivial) nofun
    | heartbeat d l t => exact ⟨rfl, by intro l' hl'; cases hl'; exact h.soup (.lhb d l t) (List.contains_iff_mem.1 hen), nofun⟩
  · exact h

theorem sysRun_inv (n : Nat) (y : Sys) (sched : List (Nat × Act)) (h : SInv n y) : SInv n (sysRun y sched) := by
  induction sched generalizing y with
  | nil => exact h
  | cons x xs ih => obtain ⟨draw, a⟩ := x; exact ih _ (sysStep_inv n y draw a h)

theorem sysInit_inv (n : Nat) (strat : Strat) (views : List (List Nat)) (hu : UniformViews n views) :
    SInv n (sysInit strat views) := by
  obtain ⟨hlen, hv⟩ := hu
  have hget : ∀ i, i < n → getNode (sysInit strat views).st i = { members := views.getD i [] } ∧ views.getD i [] ∈ views := by
    intro i hi
    have hi' : i < views.length := by omega
    constructor
    · simp [getNode, sysInit, List.getD_eq_getElem?_getD, List.getElem?_map, List.getElem?_eq_getElem hi']
    · simp [List.getD_eq_getElem?_getD, List.getElem?_eq_getElem hi']
  refine ⟨by simp [sysInit, hlen], ?_, ?_, by intro m hm; cases hm⟩
  · intro i hi
    obtain ⟨h1, h2⟩ := hget i hi
    unfold MOK; rw [h1]; exact hv _ h2
  · intro i hi l hl
    rw [(hget i hi).1] at hl; cases hl

/-- also for indices outside the cluster (`getNode` then returns an empty node) -/
theorem SInv.ldr_all {n : Nat} {y : Sys} (h : SInv n y) (i : Nat) : LOK n (getNode y.st i) := by
  by_cases hi : i < n
  · exact h.ldr i hi
  · intro l hl
    have : getNode y.st i = { members := [] } := by
      simp [getNode, List.getD_eq_getElem?_getD, List.getElem?_eq_none (show y.st.nodes.length ≤ i by rw [h.len]; omega)]
    rw [this] at hl; cases hl

theorem sysReports_leader (n : Nat) (y : Sys) (sched : List (Nat × Act)) (h : SInv n y) :
    ∀ r ∈ sysReports y sched, r.2.2 = n - 1 := by
  induction sched generalizing y with
  | nil => intro r hr; cases hr
  | cons x xs ih =>
    obtain ⟨draw, a⟩ := x
    have h' := sysStep_inv n y draw a h
    intro r hr
    simp only [sysReports] at hr
    rcases List.mem_append.1 hr with hr | hr
    · cases hrep : report (sysStep y draw a).st (actor a) with
      | none => rw [hrep] at hr; cases hr
      | some tl =>
        obtain ⟨t, l⟩ := tl
        rw [hrep] at hr
        simp only [List.mem_singleton] at hr
        subst hr
        simp only [report, Option.map_eq_some_iff] at hrep
        obtain ⟨l', hl', he⟩ := hrep
        have := h'.ldr_all (actor a) l' hl'
        cases he
        exact this
    · exact ih _ h' r hr

/-- Identical static views, every strategy, every schedule of the message-passing system (any delays,
    reordering, duplication, loss, any timer verdicts, any random ballots): after any number of steps every
    node's `current_leader` is unset or the highest node. -/
theorem static_views_leader_is_highest (n : Nat) (strat : Strat) (views : List (List Nat))
    (hu : UniformViews n views) (sched : List (Nat × Act)) (i l : Nat)
    (h : (getNode (sysRun (sysInit strat views) sched).st i).leader = some l) : l = n - 1 :=
  (sysRun_inv n _ sched (sysInit_inv n strat views hu)).ldr_all i l h

/-- One leader per term for identical static member views: the reports `(node, term, leader)` collected after
    every handler invocation never name two different leaders for one term — the Spec predicate the judge
    evaluates (signature `election/one-leader-per-term/two-leaders-with-identical-static-views`). -/
theorem election_one_leader_per_term_static (n : Nat) (strat : Strat) (views : List (List Nat))
    (hu : UniformViews n views) (sched : List (Nat × Act)) :
    Spec.oneLeaderPerTerm (sysReports (sysInit strat views) sched) = true ∧
    Spec.judgeElectionV true (sysReports (sysInit strat views) sched) = none := by
  have hl := sysReports_leader n _ sched (sysInit_inv n strat views hu)
  have h1 : Spec.oneLeaderPerTerm (sysReports (sysInit strat views) sched) = true := by
    simp only [Spec.oneLeaderPerTerm, List.all_eq_true, Bool.or_eq_true, bne_iff_ne, ne_eq, beq_iff_eq]
    intro a ha b hb
    right
    rw [hl a ha, hl b hb]
  exact ⟨h1, by simp [Spec.judgeElectionV, h1]⟩

example : UniformViews 3 [[0, 1, 2], [1, 0, 2], [2, 1, 0]] := by
  refine ⟨rfl, ?_⟩
  intro m hm
  simp only [List.mem_cons, List.not_mem_nil, or_false] at hm
  rcases hm with rfl | rfl | rfl <;> refine ⟨by decide, ?_⟩ <;> intro x <;> simp <;> omega

/-- Bully: node 2 times out, elects itself, its Victory reaches node 0; then the leader's own tick and its heartbeat to node 1 -/
example : sysReports (sysInit .bully [[0, 1, 2], [1, 0, 2], [2, 1, 0]])
    [(1, .timeout 2 true), (1, .victory 0 2), (1, .timeout 2 false), (1, .lhb 1 2 1)]
    = [(2, 1, 2), (0, 1, 2), (2, 1, 2), (1, 1, 2)] := by decide +kernel

/-- Ring: node 0's token travels 1, 2 and comes home with all three candidates; node 0 announces node 2 -/
example : sysReports (sysInit .ring [[0, 1, 2], [1, 0, 2], [2, 1, 0]])
    [(1, .timeout 0 true), (1, .token 1 0 1 [0]), (1, .token 2 0 1 [0, 1]), (1, .token 0 0 1 [0, 1, 2]), (1, .victory 1 2)]
    = [(0, 2, 2), (1, 1, 2)] := by decide +kernel

/-- a Victory nobody sent is not deliverable: the step is skipped -/
example : sysReports (sysInit .bully [[0, 1, 2], [1, 0, 2], [2, 1, 0]]) [(1, .victory 0 1)] = [] := by decide +kernel

end HappyModel.C12.El
