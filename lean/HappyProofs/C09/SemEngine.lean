import HappyProofs.C09.SemSpec
/-! Engine mode of the Semaphore judge, built like `MutexEngine`.  A release may wake several callers at once; they may
resume in any order. -/
namespace HappyModel.C09.Sync.Sem

inductive Cmd
  | op (t : Nat) (o : Op)
  | got (t : Nat) (id : Nat)
  | fin (t : Nat)
deriving Repr, DecidableEq

def cntObs (t : Nat) (k : SKind) (s : St) : Obs :=
  { t := t, k := k, c1 := s.count, c2 := s.waiters.length }

/-- mirrors `Driver.runSem.go` followed by `Driver.parseSObs true` / `Driver.fillS` -/
def traceE (s : St) (p : Pend) : List Cmd → List Obs
  | [] => []
  | .op t o :: cs =>
    obsE t o (step s o).2 (step s o).1 :: traceE (step s o).1 (p.add t (newlyOf o (step s o).2)) cs
  | .got t id :: cs => cntObs t (.got id 0) s :: traceE s (p.got t id).1 cs
  | .fin t :: cs => cntObs t .fin s :: traceE s p cs

def wfE (s : St) (p : Pend) : List Cmd → Bool
  | [] => true
  | .op t o :: cs => wfE (step s o).1 (p.add t (newlyOf o (step s o).2)) cs
  | .got t id :: cs => decide ((p.got t id).2 = .ok) && wfE s (p.got t id).1 cs
  | .fin _ :: cs => p.isEmpty && wfE s p cs

theorem judge_got (s : St) (b : SBook) (p : Pend) (t id : Nat) (rest : List Obs) (inv : Inv s) (ag : AgreeE b s p)
    (h : (p.got t id).2 = .ok) :
    judgeSem s.cap true b (cntObs t (.got id 0) s :: rest)
      = judgeSem s.cap true { b with resolved := (p.got t id).1 } rest := by
  refine judge_cons_ok rest ?_ (check_ok s { b with resolved := (p.got t id).1 } _ inv ag.out ag.blocked rfl rfl)
  unfold SBook.apply
  rw [ag.resolved, procObs_got "semaphore" p _ id rfl, show (p.got (cntObs t (.got id 0) s).t id) = p.got t id from rfl, h]

theorem judge_fin (s : St) (b : SBook) (p : Pend) (t : Nat) (rest : List Obs) (inv : Inv s) (ag : AgreeE b s p)
    (h : p.isEmpty = true) : judgeSem s.cap true b (cntObs t .fin s :: rest) = judgeSem s.cap true b rest := by
  obtain ⟨ho, hb, rfl⟩ := ag
  refine judge_cons_ok rest ?_ (check_ok s b _ inv ho hb rfl rfl)
  unfold SBook.apply
  rw [procObs_fin "semaphore" b.resolved _ rfl, h]; rfl

theorem judge_modelE (s : St) (b : SBook) (p : Pend) (cs : List Cmd) (inv : Inv s) (ag : AgreeE b s p)
    (wf : wfE s p cs = true) : judgeSem s.cap true b (traceE s p cs) = none := by
  induction cs generalizing s b p with
  | nil => rfl
  | cons c cs ih =>
    cases c with
    | op t o =>
      obtain ⟨b', hj, hag⟩ := judge_op true t s b p o (traceE (step s o).1 (p.add t (newlyOf o (step s o).2)) cs) inv ag
      exact hj.trans (ih _ _ _ (step_inv s o inv) hag wf)
    | got t id =>
      simp only [wfE, Bool.and_eq_true, decide_eq_true_eq] at wf
      exact (judge_got s b p t id _ inv ag wf.1).trans (ih s _ _ inv ⟨ag.out, ag.blocked, rfl⟩ wf.2)
    | fin t =>
      simp only [wfE, Bool.and_eq_true] at wf
      exact (judge_fin s b p t _ inv ag wf.1).trans (ih s b p inv ag wf.2)

def Cmd.line : Cmd → String
  | .op t (.acquire id n) => s!"acq {t} {id} {n}"
  | .op t (.tryAcquire id n) => s!"try {t} {id} {n}"
  | .op t (.release n) => s!"rel {t} {n}"
  | .got t id => s!"got {t} {id}"
  | .fin t => s!"fin {t}"

def viaDriver (cap : Int) (cs : List Cmd) : List Obs :=
  Driver.fillS cap 0 0 ((Driver.runSem cap (cs.map Cmd.line)).filterMap (fun l => Driver.parseSObs true (Proto.toks l)))

def obsEq (a b : Obs) : Bool :=
  a.t == b.t && decide (a.k = b.k) && decide (a.res = b.res) && a.woke == b.woke
    && a.c1 == b.c1 && a.c2 == b.c2 && a.c3 == b.c3

def obsListEq : List Obs → List Obs → Bool
  | [], [] => true
  | a :: as, b :: bs => obsEq a b && obsListEq as bs
  | _, _ => false

/-- capacity 3: two callers block, one release of 2 wakes both; they resume in the other order -/
def demo : List Cmd :=
  [.op 0 (.acquire 0 3), .got 0 0, .op 1 (.acquire 1 1), .op 1 (.acquire 2 1), .op 2 (.tryAcquire 3 1),
   .op 4 (.release 2), .got 4 2, .got 4 1, .op 6 (.release 9), .op 6 (.release 1), .fin 6]

def demoLate : List Cmd :=
  [.op 0 (.acquire 0 3), .got 0 0, .op 1 (.acquire 1 1), .op 4 (.release 2), .got 5 1, .fin 6]

#guard obsListEq (viaDriver 3 demo) (traceE (St.init 3) [] demo)
#guard obsListEq (viaDriver 3 demoLate) (traceE (St.init 3) [] demoLate)
#guard Driver.handle ["judge-sem", "3", "engine"] (Driver.handle ["sem", "3"] (demo.map Cmd.line)) == ["ok"]
#guard Driver.handle ["judge-sem", "3", "engine"] (Driver.handle ["sem", "3"] (demoLate.map Cmd.line))
  == ["viol semaphore/wait/resumed-late"]

end HappyModel.C09.Sync.Sem

namespace HappyModel.C09
open Sync

/-- **C09, engine mode, Semaphore**: for every capacity and every well-formed schedule (`Sem.wfE`: a `got` line only
    for a call that became resumable — granted at once or woken by a release — and has not resumed
    yet, at the clock value at which it became resumable; `fin` only with nobody left parked) the
    judge in ENGINE mode accepts the Semaphore model's own engine transcript -/
theorem semaphore_engine_trace_satisfies_spec (cap : Int) (hcap : 0 < cap) (cs : List Sem.Cmd)
    (wf : Sem.wfE (Sem.St.init cap) [] cs = true) :
    judgeSem cap true {} (Sem.traceE (Sem.St.init cap) [] cs) = none :=
  Sem.judge_modelE (Sem.St.init cap) {} [] cs (Sem.init_inv cap hcap) ⟨by simp [Sem.St.init], rfl, rfl⟩ wf

example : Sem.wfE (Sem.St.init 3) [] Sem.demo = true := by decide +kernel
example : judgeSem 3 true {} (Sem.traceE (Sem.St.init 3) [] Sem.demo) = none := by decide +kernel
example : (Sem.traceE (Sem.St.init 3) [] Sem.demo).map (·.woke)
    = [[], [], [], [], [], [1, 2], [], [], [], [], []] := by decide +kernel
example : Sem.wfE (Sem.St.init 3) [] Sem.demoLate = false
    ∧ judgeSem 3 true {} (Sem.traceE (Sem.St.init 3) [] Sem.demoLate) = some "semaphore/wait/resumed-late" := by decide +kernel

end HappyModel.C09
