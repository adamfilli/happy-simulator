import HappyModel.C11.Observe
import HappyProofs.Lib.Lists
import HappyProofs.Lib.Keyed
/-! What the parts of a handler do — log access, the apply loop, the commit index and the commit rule, truncation and the entry
    loop, `_step_down`, `_become_leader` —, stated once for the proofs above; then the handlers' equations branch by branch.
    The two inductions that follow the index through the entry loop are with their subjects (`appendLoop_commit`, `appendLoop_char`). -/
namespace HappyModel.C11

theorem getE_succ (l : List Entry) (k : Nat) : getE l (k + 1) = l[k]? := by
  simp [getE]

theorem getE_some {l : List Entry} {k : Nat} {e : Entry} (h : getE l (k + 1) = some e) :
    ∃ hk : k < l.length, l[k] = e := by
  rw [getE_succ] at h
  obtain ⟨hk, he⟩ := List.getElem?_eq_some_iff.mp h
  exact ⟨hk, he⟩

theorem getE_none {l : List Entry} {k : Nat} (h : getE l (k + 1) = none) : l.length ≤ k := by
  rw [getE_succ] at h
  exact List.getElem?_eq_none_iff.mp h

theorem getE_pos {l : List Entry} {k : Nat} {e : Entry} (h : getE l k = some e) : ∃ j, k = j + 1 ∧ l[j]? = some e := by
  cases k with
  | zero => cases h
  | succ j => exact ⟨j, rfl, getE_succ l j ▸ h⟩

theorem getE_le {l : List Entry} {k : Nat} {e : Entry} (h : getE l k = some e) : 1 ≤ k ∧ k ≤ l.length := by
  obtain ⟨j, rfl, hj⟩ := getE_pos h
  exact ⟨Nat.succ_pos j, (List.getElem?_eq_some_iff.mp hj).1⟩

theorem getE_prefix {l l' : List Entry} {k : Nat} {e : Entry} (h : getE l k = some e) (hp : l <+: l') : getE l' k = some e := by
  obtain ⟨j, rfl, hj⟩ := getE_pos h
  obtain ⟨t, rfl⟩ := hp
  rw [getE_succ, List.getElem?_append_left (List.getElem?_eq_some_iff.mp hj).1]; exact hj

theorem getE_take {l : List Entry} {k m : Nat} {e0 : Entry} (hk : k ≤ m) (h : getE l k = some e0) :
    getE (l.take m) k = some e0 := by
  obtain ⟨j, rfl, hj⟩ := getE_pos h
  rw [getE_succ, List.getElem?_take_of_lt hk]; exact hj

theorem termAt_of_getE {l : List Entry} {k : Nat} {e : Entry} (h : getE l k = some e) : termAt l k = e.term := by
  unfold termAt; rw [h]

theorem termAt_succ {l : List Entry} {k : Nat} (h : k < l.length) : termAt l (k + 1) = l[k].term :=
  termAt_of_getE (by rw [getE_succ, List.getElem?_eq_getElem h])

/-- the entries `advance_commit` returns for `_apply_committed` are the log's own, from the old commit index on -/
theorem getE_committed (l : List Entry) (c old j : Nat) (hj : j < ((l.take c).drop old).length) :
    getE l (old + 1 + j) = some ((l.take c).drop old)[j] := by
  rw [List.length_drop, List.length_take] at hj
  rw [show old + 1 + j = (old + j) + 1 by omega, getE_succ, List.getElem?_eq_getElem (by omega)]
  simp only [List.getElem_drop, List.getElem_take]

theorem mem_popPending {p : List (Nat × Nat)} {idx : Nat} {q : Nat × Nat} (h : q ∈ popPending p idx) : q ∈ p :=
  (List.mem_filter.mp h).1

theorem getPending_mem {p : List (Nat × Nat)} {idx f : Nat} (h : getPending p idx = some f) : (idx, f) ∈ p := by
  unfold getPending at h
  cases hf : p.find? (fun q => q.1 == idx) with
  | none => rw [hf] at h; cases h
  | some q =>
    rw [hf] at h
    simp only [Option.map_some, Option.some.injEq] at h
    have hm := List.mem_of_find?_eq_some hf
    have hq := List.find?_some hf
    simp only [beq_iff_eq] at hq
    rw [← hq, ← h]; exact hm

theorem getPending_pop {p : List (Nat × Nat)} {idx k : Nat} (h : idx ≠ k) : getPending (popPending p idx) k = getPending p k := by
  unfold getPending popPending
  rw [find?_filter_ne p h.symm]

theorem getPending_set {p : List (Nat × Nat)} {idx k f : Nat} (h : idx ≠ k) : getPending (setPending p idx f) k = getPending p k := by
  rw [← getPending_pop (p := p) h]
  unfold getPending setPending
  rw [List.find?_append]
  have : List.find? (fun q : Nat × Nat => q.1 == k) [(idx, f)] = none := by simp [h]
  rw [this, Option.or_none]

theorem getPending_set_same (p : List (Nat × Nat)) (idx f : Nat) : getPending (setPending p idx f) idx = some f := by
  unfold getPending setPending
  rw [List.find?_append]
  have h1 : List.find? (fun q : Nat × Nat => q.1 == idx) (popPending p idx) = none := by
    rw [List.find?_eq_none]
    intro q hq
    have := (List.mem_filter.mp hq).2
    simpa using this
  rw [h1]; simp

structure EView where
  term : Nat
  votedFor : Option Nat
  role : Role
  votes : List Nat
deriving DecidableEq

def Node.ev (x : Node) : EView := ⟨x.term, x.votedFor, x.role, x.votes⟩

theorem ev_eq {x y : Node} (h : x.ev = y.ev) :
    x.term = y.term ∧ x.votedFor = y.votedFor ∧ x.role = y.role ∧ x.votes = y.votes := by
  simp only [Node.ev, EView.mk.injEq] at h; exact h

/-- `y` is `x` up to log, commit index, state machine and futures -/
structure Fr (x y : Node) : Prop where
  ev : y.ev = x.ev
  ni : y.nextIndex = x.nextIndex
  mi : y.matchIndex = x.matchIndex

theorem Fr.refl (x : Node) : Fr x x := ⟨rfl, rfl, rfl⟩

theorem Fr.trans {x y z : Node} (h : Fr x y) (h' : Fr y z) : Fr x z :=
  ⟨h'.ev.trans h.ev, h'.ni.trans h.ni, h'.mi.trans h.mi⟩

structure Kept (x : Node) (snd : List (Nat × Body)) (r : HR) : Prop where
  fr : Fr x r.node
  log : r.node.log = x.log
  sends : r.sends = snd

theorem Kept.trans {x : Node} {snd : List (Nat × Body)} {r r' : HR} (h : Kept x snd r) (h' : Kept r.node r.sends r') :
    Kept x snd r' := ⟨h.fr.trans h'.fr, h'.log.trans h.log, h'.sends.trans h.sends⟩

theorem applyOne_skip {r : HR} {idx : Nat} {e : Entry} (h : idx ≤ r.node.lastApplied) : applyOne r idx e = r :=
  if_neg (Nat.not_lt.mpr h)

theorem applyOne_fresh (r : HR) {idx : Nat} (e : Entry) (h : r.node.lastApplied < idx) :
    applyOne r idx e =
      { node := { r.node with kv := (kvApply r.node.kv e.cmd).1, lastApplied := idx, applied := (idx, e.cmd) :: r.node.applied,
                              pending := popPending r.node.pending idx },
        sends := r.sends, apps := r.apps ++ [(idx, e.cmd, (kvApply r.node.kv e.cmd).2)],
        ress := r.ress ++ ((getPending r.node.pending idx).map fun f => (f, idx, (kvApply r.node.kv e.cmd).2)).toList } := by
  unfold applyOne
  simp only [if_pos h]
  split <;> simp [*]

theorem applyOne_kept (r : HR) (idx : Nat) (e : Entry) : Kept r.node r.sends (applyOne r idx e) := by
  by_cases h : idx ≤ r.node.lastApplied
  · rw [applyOne_skip h]; exact ⟨.refl _, rfl, rfl⟩
  · rw [applyOne_fresh r e (Nat.lt_of_not_le h)]; exact ⟨⟨rfl, rfl, rfl⟩, rfl, rfl⟩

theorem applyOne_commit (r : HR) (idx : Nat) (e : Entry) : (applyOne r idx e).node.commit = r.node.commit := by
  by_cases h : idx ≤ r.node.lastApplied
  · rw [applyOne_skip h]
  · rw [applyOne_fresh r e (Nat.lt_of_not_le h)]

theorem applyFrom_kept (es : List Entry) : ∀ (r : HR) (idx : Nat), Kept r.node r.sends (applyFrom r idx es) := by
  induction es with
  | nil => exact fun r _ => ⟨.refl _, rfl, rfl⟩
  | cons e es ih => exact fun r idx => (applyOne_kept r idx e).trans (ih _ _)

theorem advanceCommit_kept (r : HR) (k : Nat) : Kept r.node r.sends (advanceCommit r k) := by
  unfold advanceCommit
  simp only []
  split
  · exact ⟨.refl _, rfl, rfl⟩
  · refine Kept.trans ?_ (applyFrom_kept _ _ _)
    exact ⟨⟨rfl, rfl, rfl⟩, rfl, rfl⟩

theorem applyFrom_commit (es : List Entry) (r : HR) (idx : Nat) : (applyFrom r idx es).node.commit = r.node.commit := by
  induction es generalizing r idx with
  | nil => rfl
  | cons e es ih => simp only [applyFrom]; rw [ih, applyOne_commit]

theorem advanceCommit_commit (x : Node) (N : Nat) :
    (advanceCommit { node := x } N).node.commit = if N ≤ x.commit then x.commit else min N x.log.length := by
  unfold advanceCommit
  simp only []
  split
  · rfl
  · rw [applyFrom_commit]

theorem advanceCommit_cases (x : Node) (N : Nat) :
    (N ≤ x.commit ∧ advanceCommit { node := x } N = { node := x })
    ∨ (x.commit < N ∧ advanceCommit { node := x } N
        = applyFrom { node := { x with commit := min N x.log.length } } (x.commit + 1)
            ((x.log.take (min N x.log.length)).drop x.commit)) := by
  unfold advanceCommit
  simp only []
  split
  · exact Or.inl ⟨by assumption, rfl⟩
  · exact Or.inr ⟨by omega, rfl⟩

theorem advanceCommit_zero (r : HR) : advanceCommit r 0 = r := by
  unfold advanceCommit; exact if_pos (Nat.zero_le _)

theorem findCommit_spec (n : Nat) (x : Node) (me : Nat) : ∀ (k N : Nat), findCommit n x me k = some N →
    N ≤ k ∧ x.commit < N ∧ termAt x.log N = x.term ∧ (getE x.log N).isSome = true ∧ quorum n ≤ countMatch n x me N := by
  intro k
  induction k with
  | zero => intro N h; simp [findCommit] at h
  | succ k ih =>
    intro N h
    simp only [findCommit] at h
    split at h
    · cases h
    · split at h
      · rename_i hle hc
        simp only [Option.some.injEq] at h
        subst h
        exact ⟨Nat.le_refl _, by omega, hc.1, hc.2.1, hc.2.2⟩
      · obtain ⟨h1, h2⟩ := ih N h
        exact ⟨by omega, h2⟩

theorem findCommit_ge (n : Nat) (x : Node) (me k : Nat) (hk : x.commit < k)
    (ht : termAt x.log k = x.term) (hs : (getE x.log k).isSome = true) (hq : quorum n ≤ countMatch n x me k) :
    ∀ K, k ≤ K → ∃ N, findCommit n x me K = some N ∧ k ≤ N := by
  intro K
  induction K with
  | zero => intro h; omega
  | succ K ih =>
    intro hK
    simp only [findCommit]
    rw [if_neg (by omega)]
    split
    · exact ⟨K + 1, rfl, hK⟩
    · rename_i hc
      by_cases he : k = K + 1
      · exact absurd ⟨by rw [← he]; exact ht, by rw [← he]; exact hs, by rw [← he]; exact hq⟩ hc
      · exact ih (by omega)

theorem tryAdvance_cases (n : Nat) (x : Node) (me : Nat) :
    (findCommit n x me x.log.length = none ∧ tryAdvance n x me = { node := x })
    ∨ ∃ N, findCommit n x me x.log.length = some N ∧ tryAdvance n x me = advanceCommit { node := x } N := by
  unfold tryAdvance
  cases findCommit n x me x.log.length with
  | none => exact Or.inl ⟨rfl, rfl⟩
  | some N => exact Or.inr ⟨N, rfl, rfl⟩

theorem tryAdvance_eq (n : Nat) (x : Node) (me : Nat) : ∃ N, tryAdvance n x me = advanceCommit { node := x } N := by
  rcases tryAdvance_cases n x me with ⟨_, h⟩ | ⟨N, _, h⟩
  · exact ⟨0, h.trans (advanceCommit_zero _).symm⟩
  · exact ⟨N, h⟩

theorem aeCommit_eq (x : Node) (lc : Nat) : ∃ N, aeCommit x lc = advanceCommit { node := x } N := by
  unfold aeCommit
  split
  · exact ⟨_, rfl⟩
  · exact ⟨0, (advanceCommit_zero _).symm⟩

theorem tryAdvance_kept (n : Nat) (x : Node) (me : Nat) : Kept x [] (tryAdvance n x me) := by
  obtain ⟨N, h⟩ := tryAdvance_eq n x me
  rw [h]; exact advanceCommit_kept { node := x } N

theorem aeCommit_kept (x : Node) (lc : Nat) : Kept x [] (aeCommit x lc) := by
  obtain ⟨N, h⟩ := aeCommit_eq x lc
  rw [h]; exact advanceCommit_kept { node := x } N

theorem aeCommit_commit (x : Node) (lc : Nat) : (aeCommit x lc).node.commit = max x.commit (min lc x.log.length) := by
  unfold aeCommit
  split
  · rw [advanceCommit_commit]; split <;> omega
  · show x.commit = _; omega

theorem truncateFrom_cases (v : Variant) (x : Node) (idx : Nat) :
    ((idx = 0 ∨ x.log.length < idx) ∧ truncateFrom v x idx = x)
    ∨ (1 ≤ idx ∧ idx ≤ x.log.length ∧ truncateFrom v x idx =
        { x with log := x.log.take (idx - 1), commit := if x.commit ≥ idx then idx - 1 else x.commit,
                 pending := if v.dropPending then x.pending.filter (fun q => q.1 < idx) else x.pending }) := by
  unfold truncateFrom; split
  · exact Or.inl ⟨by omega, rfl⟩
  · exact Or.inr ⟨by omega, by omega, rfl⟩

theorem appendLoop_keeps {P : Node → Prop} (v : Variant) (ht : ∀ x idx, P x → P (truncateFrom v x idx))
    (ha : ∀ (x : Node) e, P x → P { x with log := x.log ++ [e] }) (es : List Entry) :
    ∀ (x : Node) (idx : Nat), P x → P (appendLoop v x idx es) := by
  induction es with
  | nil => exact fun _ _ h => h
  | cons e es ih =>
    intro x idx h
    simp only [appendLoop]
    split
    · split
      · exact ih _ _ (ha _ e (ht x idx h))
      · exact ih x _ h
    · exact ih _ _ (ha x e h)

theorem truncateFrom_fr (v : Variant) (x : Node) (idx : Nat) : Fr x (truncateFrom v x idx) := by
  rcases truncateFrom_cases v x idx with ⟨_, h⟩ | ⟨_, _, h⟩ <;> rw [h] <;> exact ⟨rfl, rfl, rfl⟩

theorem appendLoop_fr (v : Variant) (es : List Entry) (x : Node) (idx : Nat) : Fr x (appendLoop v x idx es) :=
  appendLoop_keeps (P := Fr x) v (fun y idx h => h.trans (truncateFrom_fr v y idx)) (fun _ _ h => h.trans ⟨rfl, rfl, rfl⟩)
    es x idx (.refl x)

theorem aeAccept_fr (v : Variant) (x : Node) (me src pi : Nat) (es : List Entry) (lc : Nat) :
    Fr x (aeAccept v x me src pi es lc).node :=
  (appendLoop_fr v es x (pi + 1)).trans (aeCommit_kept _ lc).fr

theorem mem_aeAccept_sends {v : Variant} {x : Node} {me src pi : Nat} {es : List Entry} {lc d : Nat} {b : Body}
    (h : (d, b) ∈ (aeAccept v x me src pi es lc).sends) : ∃ t m, b = .ar t true me m := by
  cases List.mem_singleton.mp h; exact ⟨_, _, rfl⟩

/-- repair D2: the acknowledgement names `prev_log_index + len(entries)` -/
theorem aeAccept_sends {v : Variant} (hms : v.matchSent = true) (x : Node) (me src pi : Nat) (es : List Entry) (lc : Nat) :
    (aeAccept v x me src pi es lc).sends = [(src, .ar x.term true me (pi + es.length))] := by
  have hterm : (aeCommit (appendLoop v x (pi + 1) es) lc).node.term = x.term := (ev_eq (aeAccept_fr v x me src pi es lc).ev).1
  simp only [aeAccept, hms, if_true, hterm]

theorem stepDown_log (v : Variant) (x : Node) (t : Nat) : (stepDown v x t).log = x.log := rfl
theorem stepDown_commit (v : Variant) (x : Node) (t : Nat) : (stepDown v x t).commit = x.commit := rfl

/-- repair D1: `_step_down` clears the vote only when the term rises -/
theorem stepDown_votedFor {v : Variant} (hk : v.keepVote = true) (x : Node) (t : Nat) :
    (stepDown v x t).votedFor = if x.term < t then none else x.votedFor := by
  simp only [stepDown, hk, Bool.true_and]
  by_cases h : x.term < t <;> simp [h]

theorem stepDown_ev (v : Variant) (hk : v.keepVote = true) (x : Node) (t : Nat) :
    (stepDown v x t).term = t ∧ (stepDown v x t).role = .follower ∧ (stepDown v x t).votes = x.votes
    ∧ (t = x.term → (stepDown v x t).votedFor = x.votedFor) :=
  ⟨rfl, rfl, rfl, fun h => by rw [stepDown_votedFor hk, if_neg (by omega)]⟩

theorem stepDown_vf (v : Variant) (hk : v.keepVote = true) (x : Node) (t : Nat) (ht : x.term ≤ t) :
    (stepDown v x t).votedFor = none ∨ ((stepDown v x t).votedFor = x.votedFor ∧ (stepDown v x t).term = x.term) := by
  rw [stepDown_votedFor hk]
  split
  · exact Or.inl rfl
  · exact Or.inr ⟨rfl, show t = x.term by omega⟩

/-- `pre`: the RequestVotes of a one-node election, or nothing -/
theorem mem_becomeLeader_sends {n : Nat} {x : Node} {me : Nat} {pre : List (Nat × Body)} {q : Nat × Body}
    (h : q ∈ (becomeLeader n x me pre).sends) : q ∈ pre ∨ q ∈ sendAEs n (leaderInit n x) me := List.mem_append.mp h

/-- `prev_log_index` / `prev_log_term` of the AppendEntries node `z` builds for `p` -/
def aePrev (z : Node) (p : Nat) : Nat := z.nextIndex.getD p 1 - 1
def aePt (z : Node) (p : Nat) : Nat := if aePrev z p > 0 then termAt z.log (aePrev z p) else 0

theorem aeFor_prev (z : Node) (me p : Nat) : aeFor z me p = .ae z.term me (aePrev z p) (aePt z p) (z.log.drop (aePrev z p)) z.commit := rfl

theorem aeBad_eq_false_iff {x : Node} {pi pt : Nat} :
    aeBad x pi pt = false ↔ pi = 0 ∨ ∃ e, getE x.log pi = some e ∧ e.term = pt := by
  unfold aeBad
  by_cases hpi : pi > 0
  · simp only [hpi, decide_true, Bool.true_and]
    cases getE x.log pi with
    | none => simp; omega
    | some e => simp; omega
  · simp [hpi]; omega

theorem aeFor_ae (x : Node) (me p : Nat) :
    ∃ l pi pt es lc, aeFor x me p = .ae x.term l pi pt es lc ∧ x.log.length ≤ pi + es.length := by
  refine ⟨_, _, _, _, _, rfl, ?_⟩
  rw [List.length_drop]; omega

theorem mem_peers {n me j : Nat} : j ∈ peers n me ↔ j < n ∧ j ≠ me := by
  simp [peers]

theorem peers_nodup (n me : Nat) : (peers n me).Nodup := (List.nodup_range).sublist List.filter_sublist

theorem mem_sendAEs {n : Nat} {x : Node} {me d : Nat} {b : Body} (h : (d, b) ∈ sendAEs n x me) : b = aeFor x me d := by
  obtain ⟨p, _, hp⟩ := List.mem_map.mp h
  cases hp; rfl

theorem mem_rvsFor {n : Nat} {x : Node} {me d : Nat} {b : Body} (h : (d, b) ∈ rvsFor n x me) :
    b = .rv x.term me x.log.length (lastTerm x.log) := by
  obtain ⟨p, _, hp⟩ := List.mem_map.mp h
  cases hp; rfl

/-- the node a successful acknowledgement `(f, m)` leaves before `_try_advance_commit` -/
def ackNode (x : Node) (f m : Nat) : Node :=
  { x with nextIndex := x.nextIndex.set f (m + 1), matchIndex := x.matchIndex.set f m }

/-- the node a refused AppendEntries leaves at the leader -/
def nackNode (x : Node) (f : Nat) : Node := { x with nextIndex := x.nextIndex.set f (max 1 (x.nextIndex.getD f 1 - 1)) }

/-- the node `submit` leaves at a leader -/
def submitNode (x : Node) (f : Nat) (c : Cmd) : Node :=
  { x with log := x.log ++ [⟨x.term, c⟩], pending := setPending x.pending (x.log.length + 1) f }

variable {v : Variant} {n : Nat} {x : Node} {me src t : Nat}

theorem handleAR_newer {s : Bool} {f m : Nat} (h : x.term < t) :
    handleAR v n x me t s f m = { node := stepDown v x t } := if_pos h

theorem handleAR_ignored {s : Bool} {f m : Nat} (h : ¬ x.term < t)
    (h' : (v.staleAck = true ∧ t < x.term) ∨ x.role ≠ .leader) : handleAR v n x me t s f m = { node := x } := by
  unfold handleAR
  rw [if_neg h]
  by_cases hs : v.staleAck = true ∧ t < x.term
  · rw [if_pos hs]
  · rw [if_neg hs, if_pos (h'.resolve_left hs)]

theorem handleAR_ack {f m : Nat} (h : ¬ x.term < t) (hs : ¬ (v.staleAck = true ∧ t < x.term)) (hl : x.role = .leader) :
    handleAR v n x me t true f m = tryAdvance n (ackNode x f m) me := by
  unfold handleAR
  rw [if_neg h, if_neg hs, if_neg (not_not_intro hl), if_pos rfl]
  rfl

theorem handleAR_nack {f m : Nat} (h : ¬ x.term < t) (hs : ¬ (v.staleAck = true ∧ t < x.term)) (hl : x.role = .leader) :
    handleAR v n x me t false f m
      = { node := nackNode x f, sends := if f < n ∧ f ≠ me then [(f, aeFor (nackNode x f) me f)] else [] } := by
  unfold handleAR
  rw [if_neg h, if_neg hs, if_neg (not_not_intro hl), if_neg Bool.false_ne_true]
  show (if f < n ∧ f ≠ me then _ else _) = _
  split <;> rfl

theorem handleAE_stale {pi pt lc : Nat} {es : List Entry} (h : t < x.term) :
    handleAE v x me src t pi pt es lc = { node := x, sends := [(src, .ar x.term false me 0)] } := if_pos h

theorem handleAE_refuse {pi pt lc : Nat} {es : List Entry} (h : ¬ t < x.term) (hb : aeBad (stepDown v x t) pi pt = true) :
    handleAE v x me src t pi pt es lc = { node := stepDown v x t, sends := [(src, .ar t false me 0)] } := by
  unfold handleAE; rw [if_neg h, if_pos hb]

theorem handleAE_accept {pi pt lc : Nat} {es : List Entry} (h : ¬ t < x.term) (hb : aeBad (stepDown v x t) pi pt = false) :
    handleAE v x me src t pi pt es lc = aeAccept v (stepDown v x t) me src pi es lc := by
  unfold handleAE; rw [if_neg h, if_neg (by rw [hb]; exact Bool.false_ne_true)]

theorem handleVR_newer {g : Bool} {f : Nat} (h : x.term < t) : handleVR v n x me t g f = { node := stepDown v x t } := if_pos h

theorem handleVR_ignored {g : Bool} {f : Nat} (h : ¬ x.term < t) (h' : x.role ≠ .candidate ∨ t ≠ x.term) :
    handleVR v n x me t g f = { node := x } := by
  unfold handleVR; rw [if_neg h, if_pos h']

theorem handleVR_count {g : Bool} {f : Nat} (hc : x.role = .candidate) (ht : t = x.term) :
    handleVR v n x me t g f = vrCount n (addVote x g f) me := by
  unfold handleVR
  rw [if_neg (by omega), if_neg]
  exact fun h => h.elim (fun h => h hc) (fun h => h ht)

theorem handleTimeout_leader (h : x.role = .leader) : handleTimeout n x me = { node := x } := if_pos h

theorem handleHB_leader (h : x.role = .leader) : handleHB n x me = { node := x, sends := sendAEs n x me } :=
  if_neg (not_not_intro h)

theorem handleHB_other (h : x.role ≠ .leader) : handleHB n x me = { node := x } := if_pos h

theorem handleSubmit_leader {f : Nat} {c : Cmd} (h : x.role = .leader) : handleSubmit x f c = { node := submitNode x f c } :=
  if_neg (not_not_intro h)

theorem handleSubmit_other {f : Nat} {c : Cmd} (h : x.role ≠ .leader) : handleSubmit x f c = { node := x } := if_pos h

/-- the part of a node that elections and the leader's progress tables never touch -/
structure DView where
  log : List Entry
  commit : Nat
  lastApplied : Nat
  pending : List (Nat × Nat)
  kv : List (Nat × Nat)
  applied : List (Nat × Cmd)

def Node.dv (x : Node) : DView := ⟨x.log, x.commit, x.lastApplied, x.pending, x.kv, x.applied⟩

theorem dv_eq {x y : Node} (h : x.dv = y.dv) :
    x.log = y.log ∧ x.commit = y.commit ∧ x.lastApplied = y.lastApplied ∧ x.pending = y.pending := by
  simp only [Node.dv, DView.mk.injEq] at h
  exact ⟨h.1, h.2.1, h.2.2.1, h.2.2.2.1⟩

/-- what a handler is called with -/
inductive Inp
  | msg (b : Body)
  | timeout
  | hb
  | submit (f : Nat) (c : Cmd)

def Inp.body : Inp → Option Body
  | .msg b => some b
  | _ => none

/-- elections, refusals, heartbeats, ignored messages -/
structure Quiet (n : Nat) (x : Node) (r : HR) : Prop where
  hd : r.node.dv = x.dv
  hmi : r.node.matchIndex = x.matchIndex ∨ r.node.matchIndex = List.replicate n 0
  apps : r.apps = []
  ress : r.ress = []

/-- Every handler result has one of three shapes.  Only the last two touch the log, the commit index, the state machine or the
    futures, so an invariant about those is checked on `appendLoop`, `advanceCommit` and `submitNode` alone. -/
inductive Shape (v : Variant) (n : Nat) (x : Node) (me : Nat) (inp : Inp) (r : HR) : Prop
  | quiet (q : Quiet n x r)
  | adv (y : Node) (N : Nat)
      (hy : (∃ t l pi pt es lc, inp = .msg (.ae t l pi pt es lc) ∧ y = appendLoop v (stepDown v x t) (pi + 1) es)
        ∨ ∃ t f m, inp = .msg (.ar t true f m) ∧ x.role = .leader ∧ y = ackNode x f m)
      (hn : r.node = (advanceCommit { node := y } N).node) (ha : r.apps = (advanceCommit { node := y } N).apps)
      (hr : r.ress = (advanceCommit { node := y } N).ress)
  | append (f : Nat) (c : Cmd) (hin : inp = .submit f c) (hl : x.role = .leader) (hr : r = { node := submitNode x f c })

theorem Shape.same {inp : Inp} {y : Node} {sends : List (Nat × Body)} (hd : y.dv = x.dv) (hmi : y.matchIndex = x.matchIndex) :
    Shape v n x me inp { node := y, sends := sends } := .quiet ⟨hd, Or.inl hmi, rfl, rfl⟩

end HappyModel.C11
