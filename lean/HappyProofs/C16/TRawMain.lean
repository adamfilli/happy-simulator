import HappyProofs.C16.TRawWrite
namespace HappyModel.C16.Tier
open HappyModel.C16

@[simp] theorem onTier_len (cfg : MCfg) (ms : MSt) (t : Nat) (f : Cfg → St → St × Option Res) :
    (onTier cfg ms t f).1.tiers.length = ms.tiers.length := by
  unfold onTier; split
  · simp
  · rfl

@[simp] theorem sweep_len (cfg : MCfg) (ms : MSt) (op : OpK) : (ms.sweep cfg op).tiers.length = ms.tiers.length :=
  (sweepFrom_at 0 op (fun _ => True) cfg.tiers ms.tiers ms.back (fun _ _ _ _ _ _ _ _ => trivial) trivial).2.1

@[simp] theorem sweepLow_len (cfg : MCfg) (ms : MSt) (op : OpK) : (ms.sweepLow cfg op).tiers.length = ms.tiers.length :=
  (sweepFrom_at 1 op (fun _ => True) cfg.tiers ms.tiers ms.back (fun _ _ _ _ _ _ _ _ => trivial) trivial).2.1

@[simp] theorem fillL1_len (cfg : MCfg) (ms : MSt) (k v now : Nat) : (ms.fillL1 cfg k v now).tiers.length = ms.tiers.length :=
  onTier_len _ _ _ _

theorem mstart_len (cfg : MCfg) (ms : MSt) (i : Nat) (op : MOp) (now : Nat) :
    (mstart cfg ms i op now).1.tiers.length = ms.tiers.length := by
  cases op with
  | get k =>
    simp only [mstart]
    split <;> simp [MSt.setPend]
  | _ => simp [mstart, MSt.setPend, enter_tiers]

theorem mresume_len (cfg : MCfg) (ms : MSt) (i : Nat) (p : MPend) (now : Nat) :
    (mresume cfg ms i p now).1.tiers.length = ms.tiers.length := by
  cases p with
  | tierGet t k e =>
    simp only [mresume, afterTierGet]
    split
    · split <;> simp [MSt.clearPend]
    · simp [MSt.clearPend]
  | backGet k e =>
    simp only [mresume]
    split
    · split <;> simp [MSt.clearPend]
    · rfl
  | putL1 k =>
    simp only [mresume]
    split <;> simp [MSt.clearPend, leave_tiers]
  | delBack k =>
    simp only [mresume]
    split <;> simp [MSt.clearPend, leave_tiers]
  | _ => simp [mresume, MSt.clearPend, MSt.setPend]

theorem mstep_len (cfg : MCfg) (ms : MSt) (a : MAct) : (mstep cfg ms a).1.tiers.length = ms.tiers.length := by
  cases a with
  | start i op now => exact mstart_len cfg ms i op now
  | resume i now =>
    unfold mstep
    simp only
    split
    · exact mresume_len cfg ms i _ now
    · rfl

def MAct.opId : MAct → Nat
  | .start i _ _ => i
  | .resume i _ => i

def mnewIds : MAct → List Nat
  | .start i _ _ => [i]
  | .resume _ _ => []

theorem mraw_step (cfg : MCfg) (hrep : cfg.rep = true) (hc : SeqCfg cfg) {g : Gh} {ms : MSt} (h : MInv g ms)
    (hlen : MLen cfg ms) (a : MAct) (hadm : ∀ i op now, a = .start i op now → MAdm g i op)
    (o : Obs) (hoi : o.i = a.opId) (hor : o.res = (mstep cfg ms a).2) :
    MInv (g.ext o (mnewIds a)) (mstep cfg ms a).1 := by
  cases a with
  | start i op now => exact mraw_start cfg hrep h i op now (hadm i op now rfl) o hoi hor
  | resume i now =>
    unfold mstep at hor ⊢
    cases hf : ms.pend.find? (fun x => x.1 == i) with
    | none =>
      simp only [hf] at hor ⊢
      refine mext_same h.gi h.pi h.vi o ?_ (Obs.of_res_none hor)
        (Obs.of_res_none hor) (Obs.of_res_none hor)
        (GetDone.of_res_none hor)
      intro j op k hj hjm hk
      rcases h.lim.elim hj hjm hk with h' | h'
      · exact Or.inl h'
      · exact Or.inr (Or.inl h')
    | some x =>
      obtain ⟨j, p⟩ := x
      simp only [hf] at hor ⊢
      have hmem := List.mem_of_find?_eq_some hf
      have hj : j = i := by simpa using List.find?_some hf
      subst hj
      exact mraw_resume cfg hrep hc h hlen j p now hmem o hoi hor

def mstartIds (as : List MAct) : List Nat :=
  as.filterMap fun a => match a with | .start i _ _ => some i | _ => none

/-- the log of a schedule as the register clauses see it -/
def mobsRunG (cfg : MCfg) (ms : MSt) : List MAct → List Obs
  | [] => []
  | a :: as => ⟨a.opId, [], [], [], (mstep cfg ms a).2⟩ :: mobsRunG cfg (mstep cfg ms a).1 as

structure MAdmAll (g : Gh) (as : List MAct) : Prop where
  nd : (mstartIds as).Nodup
  fresh : ∀ i ∈ mstartIds as, i ∉ g.started
  tab : ∀ i op now, MAct.start i op now ∈ as → (i, op.toOpK) ∈ g.ops

theorem mraw_run (cfg : MCfg) (hrep : cfg.rep = true) (hc : SeqCfg cfg) :
    ∀ (as : List MAct) (g : Gh) (ms : MSt), MInv g ms → MLen cfg ms → MAdmAll g as →
      ∃ g', g'.ops = g.ops ∧ g'.evs = g.evs ++ mobsRunG cfg ms as ∧ MInv g' (mrun cfg ms as) := by
  intro as
  induction as with
  | nil => intro g ms h _ _; exact ⟨g, rfl, by simp [mobsRunG], h⟩
  | cons a as ih =>
    intro g ms h hlen hadm
    have hstep := mraw_step cfg hrep hc h hlen a (by
      intro i op now e
      subst e
      exact ⟨hadm.fresh i (by show i ∈ i :: mstartIds as; exact List.mem_cons_self),
        hadm.tab i op now List.mem_cons_self⟩)
      ⟨a.opId, [], [], [], (mstep cfg ms a).2⟩ rfl rfl
    have hadm' : MAdmAll (g.ext ⟨a.opId, [], [], [], (mstep cfg ms a).2⟩ (mnewIds a)) as := by
      cases a with
      | start i op now =>
        have hnd := hadm.nd
        have e : mstartIds (.start i op now :: as) = i :: mstartIds as := rfl
        rw [e, List.nodup_cons] at hnd
        refine ⟨hnd.2, ?_, fun j op' now' hj => hadm.tab j op' now' (List.mem_cons_of_mem _ hj)⟩
        intro j hj
        simp only [Gh.ext, mnewIds, List.mem_append, List.mem_singleton, not_or]
        refine ⟨hadm.fresh j (by rw [e]; exact List.mem_cons_of_mem _ hj), ?_⟩
        intro e'; subst e'; exact hnd.1 hj
      | resume i now =>
        refine ⟨hadm.nd, ?_, fun j op' now' hj => hadm.tab j op' now' (List.mem_cons_of_mem _ hj)⟩
        intro j hj
        simp only [Gh.ext, mnewIds, List.append_nil]
        exact hadm.fresh j hj
    have hlen' : MLen cfg (mstep cfg ms a).1 := by
      unfold MLen; rw [mstep_len]; exact hlen
    obtain ⟨g', h1, h2, h3⟩ := ih _ _ hstep hlen' hadm'
    refine ⟨g', h1, ?_, h3⟩
    rw [h2]
    simp [Gh.ext, mobsRunG]

theorem minv_init (ops : List (Nat × OpK)) (hnd : (ops.map (·.1)).Nodup) (pols : List Pol) :
    MInv ⟨ops, [], []⟩ (MSt.init pols) := by
  refine ⟨⟨hnd, ?_, ?_, ?_⟩, ⟨?_, ?_, ?_, ?_, ?_, ?_, ?_, ?_, ?_⟩, ⟨?_, ?_, ?_, ?_⟩, ?_⟩
  · intro i hi; cases hi
  · intro i _; rfl
  · intro i k rs re _ hs; simp [firstIdx] at hs
  · intro x hx; cases hx
  · exact List.nodup_nil
  · intro k; rfl
  · intro i k v hm; cases hm
  · intro i k hm; cases hm
  · intro i k hm; cases hm
  · intro i t hm; cases hm
  · intro i t k e hm; cases hm
  · intro i k e hm; cases hm
  · intro t s hs k v hv
    obtain ⟨p, _, rfl⟩ := init_tier hs
    simp [aget?] at hv
  · intro k
    exact Or.inr ⟨rfl, fun j _ hj => by cases hj⟩
  · intro t s hs
    obtain ⟨p, _, rfl⟩ := init_tier hs
    rfl
  · intro t s hs x hx
    obtain ⟨p, _, rfl⟩ := init_tier hs
    cases hx
  · intro j op k hj; cases hj

/-- the operation table as the register clauses see it -/
def opsK (ops : List (Nat × MOp)) : List (Nat × OpK) := ops.map fun (i, o) => (i, o.toOpK)

theorem opsK_ids (ops : List (Nat × MOp)) : (opsK ops).map (·.1) = ops.map (·.1) := by
  unfold opsK
  rw [List.map_map]
  apply List.map_congr_left
  rintro ⟨i, o⟩ _; rfl

theorem mem_opsK {ops : List (Nat × MOp)} {i : Nat} {op : MOp} (h : (i, op) ∈ ops) : (i, op.toOpK) ∈ opsK ops :=
  List.mem_map.mpr ⟨(i, op), h, rfl⟩

theorem tier_judgeReads_none {ops : List (Nat × MOp)} {evs : List MObs}
    (h : ∀ i k rs re, (i, OpK.get k) ∈ opsK ops → firstIdx (evs.map MObs.toObs) i = some rs →
      endIdx (evs.map MObs.toObs) i = some re →
      ∃ v, ((evs.map MObs.toObs).getD re dObs).res = some (resOf v) ∧
        ReadGood (opsK ops) (evs.map MObs.toObs) k rs re v) :
    Tier.judgeReads ops evs = none := by
  unfold Tier.judgeReads
  rw [List.findSome?_eq_none_iff]
  rintro ⟨i, op⟩ hm
  cases op with
  | get k =>
    have hm' : (i, OpK.get k) ∈ opsK ops := mem_opsK hm
    cases hs : firstIdx (evs.map MObs.toObs) i with
    | none => simp only [hs]
    | some rs =>
      cases he : endIdx (evs.map MObs.toObs) i with
      | none => simp only [hs, he]
      | some re =>
        simp only [hs, he]
        obtain ⟨v, hres, hg⟩ := h i k rs re hm' hs he
        have hok : readOk (writesOf (opsK ops) (evs.map MObs.toObs)) k rs re v = true := readOk_of_readGood hg
        have hres' : ((evs.map MObs.toObs).getD re ⟨0, [], [], [], none⟩).res = some (resOf v) := hres
        have hok' : readOk (writesOf (List.map (fun x => match x with | (i, o) => (i, o.toOpK)) ops)
            (evs.map MObs.toObs)) k rs re v = true := hok
        cases v with
        | none => simp only [hres', resOf, hok', if_true]
        | some x => simp only [hres', resOf, hok', if_true]
  | _ => simp

theorem mraw_judge (cfg : MCfg) (hrep : cfg.rep = true) (hc : SeqCfg cfg) (pols : List Pol)
    (hlen : pols.length = cfg.tiers.length) (ops : List (Nat × MOp)) (hnd : (ops.map (·.1)).Nodup)
    (as : List MAct) (htab : ∀ i op now, MAct.start i op now ∈ as → (i, op) ∈ ops)
    (hst : (mstartIds as).Nodup) (evs : List MObs)
    (hevs : evs.map MObs.toObs = mobsRunG cfg (MSt.init pols) as) :
    Tier.judgeReads ops evs = none := by
  have hnd' : ((opsK ops).map (·.1)).Nodup := by rw [opsK_ids]; exact hnd
  have hl : MLen cfg (MSt.init pols) := by
    show (pols.map fun p => ({ pol := p } : St)).length = _
    rw [List.length_map]; exact hlen
  obtain ⟨g', h1, h2, h3⟩ := mraw_run cfg hrep hc as ⟨opsK ops, [], []⟩ (MSt.init pols)
    (minv_init (opsK ops) hnd' pols) hl
    ⟨hst, nofun, (fun i op now hm => mem_opsK (htab i op now hm))⟩
  simp only [List.nil_append] at h1 h2
  apply tier_judgeReads_none
  rw [hevs, ← h2, ← h1]
  exact h3.gi.d

end HappyModel.C16.Tier
