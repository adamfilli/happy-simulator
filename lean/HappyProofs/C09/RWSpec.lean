import HappyProofs.C09.SyncInv
/-! The judge hands the lock to the woken callers one by one (`grantWoken`): exclusion is checked at every single hand-over. -/
namespace HappyModel.C09.Sync.RW

def b01 (b : Bool) : Nat := if b then 1 else 0

/-- `runRW` in the driver prints exactly these fields -/
def obsOf (o : Op) (out : Out) (s' : St) : Obs :=
  { k := match o with
      | .tryRead id => .try_ id 1 0
      | .tryWrite id => .try_ id 1 1
      | .acquireRead id => .acq id 1 0
      | .acquireWrite id => .acq id 1 1
      | .releaseRead => .rel 1 0
      | .releaseWrite => .rel 1 1
    res := out.res, woke := out.woke, c1 := s'.readers, c2 := s'.waiters.length, c3 := b01 s'.writer }

def obsTrace (s : St) : List Op → List Obs
  | [] => []
  | o :: os => obsOf o (step s o).2 (step s o).1 :: obsTrace (step s o).1 os

structure Agree (b : RBook) (s : St) : Prop where
  r : b.r = s.readers
  w : b.w = b01 s.writer
  blocked : b.blocked = s.waiters
  resolved : b.resolved = []

theorem b01_ne_zero (x : Bool) : (b01 x ≠ 0) ↔ x = true := by cases x <;> simp [b01]
theorem b01_eq_zero (x : Bool) : (b01 x = 0) ↔ x = false := by cases x <;> simp [b01]

theorem rAtMax_eq (b : RBook) (s : St) (ag : Agree b s) : rAtMax s.maxR b = atMax s := by
  unfold rAtMax atMax; rw [ag.r]

theorem readBlocked_eq (b : RBook) (s : St) (ag : Agree b s) : readBlocked s.maxR b = !canRead s := by
  unfold readBlocked canRead
  rw [rAtMax_eq b s ag, ag.w, ag.blocked]
  cases s.writer <;> simp [b01]

theorem writeBlocked_eq (b : RBook) (s : St) (ag : Agree b s) : writeBlocked b = !canWrite s := by
  unfold writeBlocked canWrite
  rw [ag.w, ag.r]
  cases s.writer <;> by_cases h : s.readers = 0 <;> simp [b01, h]

theorem check_ok (s : St) (b : RBook) (o : Obs) (inv : Inv s) (ag : Agree b s)
    (h1 : o.c1 = s.readers) (h2 : o.c2 = s.waiters.length) (h3 : o.c3 = b01 s.writer) :
    b.check s.maxR o = none := by
  unfold RBook.check
  have hat := rAtMax_eq b s ag
  rw [hat, ag.r, ag.w, ag.blocked, h1, h2, h3]
  have hw1 : ¬ 1 < b01 s.writer := by cases s.writer <;> simp [b01]
  have hex : ¬ (b01 s.writer = 1 ∧ s.readers ≠ 0) := by
    intro h
    cases hw : s.writer with
    | false => rw [hw] at h; simp [b01] at h
    | true => exact h.2 (inv.excl hw)
  have hmx : ¬ (s.maxR ≠ 0 ∧ s.maxR < s.readers) := by
    intro h; have := inv.maxOk h.1; omega
  rw [if_neg hw1, if_neg hex, if_neg hmx, if_neg (by simp), if_neg (by simp), if_neg (by simp)]
  cases hq : s.waiters with
  | nil => rfl
  | cons x xs =>
    obtain ⟨i, wr⟩ := x
    have hd := inv.head (i, wr) xs hq
    cases wr with
    | true =>
      simp only
      rw [if_neg]
      intro h
      rcases hd.1 rfl with h' | h'
      · rw [h'] at h; simp [b01] at h
      · omega
    | false =>
      simp only
      rw [if_neg]
      intro h
      rcases hd.2 rfl with h' | h'
      · rw [h'] at h; simp [b01] at h
      · rw [h'] at h; simp at h

/-- the reader branch of the wake-up, seen by the judge: handing the lock to the woken readers one by one (`grantWoken`)
    is accepted -/
theorem wakeReaders_grant (maxR : Nat) (r : Nat) (ws : List (Nat × Bool)) (b : RBook)
    (hr : b.r = r) (hw : b.w = 0) :
    (wakeReaders maxR r ws).2.1.length ≤ ws.length ∧
    (wakeReaders maxR r ws).2.1 = (ws.take (wakeReaders maxR r ws).2.1.length).map (·.1) ∧
    (wakeReaders maxR r ws).2.2 = ws.drop (wakeReaders maxR r ws).2.1.length ∧
    grantWoken maxR b (ws.take (wakeReaders maxR r ws).2.1.length)
      = .ok { b with r := (wakeReaders maxR r ws).1 } := by
  induction ws generalizing r b with
  | nil =>
    subst hr
    simp [wakeReaders, grantWoken]
  | cons x xs ih =>
    obtain ⟨i, wr⟩ := x
    unfold wakeReaders
    cases wr with
    | true =>
      subst hr
      simp [grantWoken]
    | false =>
      simp only [Bool.false_eq_true, if_false]
      split
      · subst hr
        simp [grantWoken]
      · rename_i hm
        have ih' := ih (r + 1) { b with r := b.r + 1 } (by show b.r + 1 = r + 1; omega) hw
        obtain ⟨h1, h2, h3, h4⟩ := ih'
        refine ⟨?_, ?_, ?_, ?_⟩
        · simp only [List.length_cons]; omega
        · simp only [List.length_cons, List.take_succ_cons, List.map_cons]
          rw [← h2]
        · simp only [List.length_cons, List.drop_succ_cons]
          exact h3
        · simp only [List.length_cons, List.take_succ_cons]
          unfold grantWoken
          have hnm : rAtMax maxR b = false := by
            unfold rAtMax; rw [hr]; simpa using hm
          rw [if_neg (by omega), hnm]
          simp only [Bool.false_eq_true, if_false]
          rw [h4]

theorem wake_grant (s : St) (b : RBook) (ag : Agree b s) :
    (wake s).2.length ≤ s.waiters.length ∧
    (wake s).2 = (s.waiters.take (wake s).2.length).map (·.1) ∧
    ∃ b2, grantWoken s.maxR { b with blocked := s.waiters.drop (wake s).2.length } (s.waiters.take (wake s).2.length) = .ok b2
      ∧ Agree b2 (wake s).1 := by
  refine wake_cases (motive := fun r => r.2.length ≤ s.waiters.length ∧ r.2 = (s.waiters.take r.2.length).map (·.1) ∧
    ∃ b2, grantWoken s.maxR { b with blocked := s.waiters.drop r.2.length } (s.waiters.take r.2.length) = .ok b2
      ∧ Agree b2 r.1) s ?_ ?_ ?_
  · intro _
    exact ⟨Nat.zero_le _, rfl, _, rfl, ag.r, ag.w, rfl, ag.resolved⟩
  · intro i ws hw hq hr
    rw [hq]
    refine ⟨Nat.le_add_left 1 _, rfl, { b with w := 1, blocked := ws }, ?_, ag.r, rfl, rfl, ag.resolved⟩
    exact if_neg (by rw [ag.w, hw, ag.r, hr]; simp [b01])
  · intro i ws hw hq
    obtain ⟨h1, h2, h3, h4⟩ := wakeReaders_grant s.maxR s.readers s.waiters
      { b with blocked := s.waiters.drop (wakeReaders s.maxR s.readers s.waiters).2.1.length } ag.r (by rw [ag.w, hw]; rfl)
    exact ⟨h1, h2, _, h4, rfl, ag.w, h3.symm, ag.resolved⟩

/-- a release the judge sees held (`m = 1` write, otherwise read); `s1` is the state with the lock given back, before the wake-up -/
theorem apply_release (s s1 : St) (b : RBook) (ag : Agree b s) (m : Nat)
    (hheld : ¬ ((m = 1 ∧ b.w = 0) ∨ (m ≠ 1 ∧ b.r = 0)))
    (ag1 : Agree (if m = 1 then { b with w := 0 } else { b with r := b.r - 1 }) s1)
    (hq : s1.waiters = s.waiters) (hm : s1.maxR = s.maxR) (c1 c2 c3 : Int) :
    ∃ b', b.apply s.maxR false ⟨0, .rel 1 m, .released, (wake s1).2, c1, c2, c3⟩ = .ok b' ∧ Agree b' (wake s1).1 := by
  obtain ⟨hlen, hwk, b2, hg, hag2⟩ := wake_grant _ _ ag1
  refine ⟨{ b2 with resolved := b.resolved }, ?_, ⟨hag2.r, hag2.w, hag2.blocked, ag.resolved⟩⟩
  have hwc := wokeCheck_take "rwlock" s1.waiters (wake s1).2.length
  rw [← hwk, hq] at hwc
  rw [hq, hm, ag.blocked] at hg
  simp only [RBook.apply, procObs]
  rw [if_neg hheld, ag.blocked, hwc]
  simp only []
  rw [hg]; rfl

theorem Agree.grantR {b : RBook} {s : St} (ag : Agree b s) :
    Agree { b with r := b.r + 1 } { s with readers := s.readers + 1 } :=
  ⟨congrArg (· + 1) ag.r, ag.w, ag.blocked, ag.resolved⟩

theorem Agree.grantW {b : RBook} {s : St} (ag : Agree b s) : Agree { b with w := 1 } { s with writer := true } :=
  ⟨ag.r, rfl, ag.blocked, ag.resolved⟩

theorem Agree.queue {b : RBook} {s : St} (ag : Agree b s) (x : Nat × Bool) :
    Agree { b with blocked := b.blocked ++ [x] } { s with waiters := s.waiters ++ [x] } :=
  ⟨ag.r, ag.w, congrArg (· ++ [x]) ag.blocked, ag.resolved⟩

/-- what the judge tests before it accepts a granted read -/
theorem canRead_books {b : RBook} {s : St} (ag : Agree b s) (h : canRead s = true) :
    b.w = 0 ∧ rAtMax s.maxR b = false := by
  obtain ⟨hw, _, hmax⟩ := canRead_iff.mp h
  exact ⟨by rw [ag.w, hw]; rfl, by rw [rAtMax_eq b s ag]; exact hmax⟩

theorem apply_step (s : St) (b : RBook) (o : Op) (ag : Agree b s) :
    ∃ b', b.apply s.maxR false (obsOf o (step s o).2 (step s o).1) = .ok b' ∧ Agree b' (step s o).1 := by
  have hrb := readBlocked_eq b s ag
  have hwb := writeBlocked_eq b s ag
  cases o with
  | tryRead id =>
    simp only [obsOf, step]
    split
    · rename_i h
      obtain ⟨hbw, hat⟩ := canRead_books ag h
      exact ⟨_, by simp [RBook.apply, procObs, hbw, hat], ag.grantR⟩
    · rename_i h
      exact ⟨b, by simp [RBook.apply, procObs, hrb, h], ag⟩
  | tryWrite id =>
    simp only [obsOf, step]
    split
    · rename_i h
      exact ⟨_, by simp [RBook.apply, procObs, hwb, h], ag.grantW⟩
    · rename_i h
      exact ⟨b, by simp [RBook.apply, procObs, hwb, h], ag⟩
  | acquireRead id =>
    simp only [obsOf, step]
    split
    · rename_i h
      obtain ⟨hbw, hat⟩ := canRead_books ag h
      exact ⟨_, by simp [RBook.apply, procObs, hbw, hat], ag.grantR⟩
    · rename_i h
      exact ⟨_, by simp [RBook.apply, procObs, hrb, h], ag.queue (id, false)⟩
  | acquireWrite id =>
    simp only [obsOf, step]
    split
    · rename_i h
      exact ⟨_, by simp [RBook.apply, procObs, hwb, h], ag.grantW⟩
    · rename_i h
      exact ⟨_, by simp [RBook.apply, procObs, hwb, h], ag.queue (id, true)⟩
  | releaseRead =>
    simp only [obsOf, step]
    split
    · rename_i h
      exact ⟨b, by simp [RBook.apply, procObs, ag.r]; omega, ag⟩
    · rename_i h
      exact apply_release s { s with readers := s.readers - 1 } b ag 0 (by rw [ag.r]; omega)
        ⟨congrArg (· - 1) ag.r, ag.w, ag.blocked, ag.resolved⟩ rfl rfl _ _ _
  | releaseWrite =>
    simp only [obsOf, step]
    split
    · rename_i h
      exact ⟨b, by simp [RBook.apply, procObs, ag.w, show s.writer = false by simpa using h, b01], ag⟩
    · rename_i h
      have hw : s.writer = true := by simpa using h
      exact apply_release s { s with writer := false } b ag 1 (by rw [ag.w, hw]; simp [b01])
        ⟨ag.r, rfl, ag.blocked, ag.resolved⟩ rfl rfl _ _ _

theorem judge_model (s : St) (b : RBook) (ops : List Op) (inv : Inv s) (ag : Agree b s) :
    judgeRW s.maxR false b (obsTrace s ops) = none := by
  induction ops generalizing s b with
  | nil => rfl
  | cons o os ih =>
    obtain ⟨b', hap, hag⟩ := apply_step s b o ag
    have hc := check_ok (step s o).1 b' (obsOf o (step s o).2 (step s o).1) (step_inv s o inv) hag rfl rfl rfl
    have := ih (step s o).1 b' (step_inv s o inv) hag
    rw [step_maxR] at hc this
    simp only [obsTrace, judgeRW, hap, hc, this]

end HappyModel.C09.Sync.RW
