import HappyProofs.C01.Props
import HappyModel.C07.Spec
/-! Invariants of C07 on the C01 engine: nothing stale is ever popped; the deliveries of an instant are
paid for by the weight of what is pending for it; an instant cannot feed itself. -/
namespace HappyModel.C07
open HappyModel.C01

variable {σ : Type}

def EmitsGeNow (mc : Machine σ) : Prop :=
  ∀ ent now ev, ∀ sp ∈ (mc.handle ent now ev).specs, now ≤ sp.time

def PreGeStart (start : Nat) (pre : List Spec) : Prop := ∀ sp ∈ pre, start ≤ sp.time

def StrictFuture (mc : Machine σ) : Prop :=
  ∀ ent now ev, ∀ sp ∈ (mc.handle ent now ev).specs, now < sp.time

theorem step_inv {mc : Machine σ} {endT : Option Nat} {s s' : St σ} (h : step mc endT s = some s')
    (inv : Inv s) : Inv s' :=
  inv.step h

structure NoPast (s : St σ) : Prop where
  born_le : ∀ e ∈ s.heap, e.born ≤ e.time
  nstale : s.nStale = 0
  popped_ok : ∀ p ∈ s.popped, p.2 ≠ Verdict.stale

theorem stepWith_noPast (mc : Machine σ) (hE : EmitsGeNow mc) (s : St σ) (m : Ev) (hm : m ∈ s.heap)
    (inv : Inv s) (np : NoPast s) : NoPast (stepWith mc s m) := by
  have hsub : ∀ e ∈ s.heap.erase m, e.born ≤ e.time := fun e he => np.born_le e (List.mem_of_mem_erase he)
  have hpop : ∀ v, v ≠ Verdict.stale → ∀ p ∈ s.popped ++ [(m, v)], p.2 ≠ Verdict.stale := fun v hv =>
    List.forall_mem_append.mpr ⟨np.popped_ok, List.forall_mem_singleton.mpr hv⟩
  refine stepWith_cases mc s m ?_ ?_ ?_ ?_
  · exact fun _ => ⟨hsub, np.nstale, hpop _ Verdict.noConfusion⟩
  · -- `m` was not born stale, so it is not stale now (`Inv.notStale`)
    exact fun _ hs => absurd (inv.notStale m hm (np.born_le m hm)) (Nat.not_le.mpr hs)
  · exact fun _ _ _ => ⟨hsub, np.nstale, hpop _ Verdict.noConfusion⟩
  · refine fun _ _ _ => ⟨List.forall_mem_append.mpr ⟨hsub, fun e he => ?_⟩, np.nstale, hpop _ Verdict.noConfusion⟩
    obtain ⟨sp, hsp, _, _, he⟩ := mem_mkEvents he
    rw [he]
    exact hE s.ent m.time m sp hsp

theorem init_noPast (ent : σ) (start : Nat) (pre : List Spec) (hP : PreGeStart start pre) :
    NoPast (init ent start pre) := by
  refine ⟨fun e he => ?_, rfl, List.forall_mem_nil _⟩
  obtain ⟨sp, hsp, _, _, he⟩ := mem_mkEvents he
  rw [he]
  exact hP sp hsp

theorem engine_no_stale (mc : Machine σ) (hE : EmitsGeNow mc) (ent : σ) (start : Nat) (pre : List Spec)
    (hP : PreGeStart start pre) (endT : Option Nat) (n : Nat) :
    NoPast (runFrom mc ent start pre endT n) :=
  run_induction_inv mc endT (fun s m inv np hm _ _ => stepWith_noPast mc hE s m hm inv np) n _
    (init_inv ent start pre) (init_noPast ent start pre hP)

/-- the engine never pops a stale event, and never counts a discard, when handlers stamp `≥ now` -/
theorem no_stale_pop (mc : Machine σ) (hE : EmitsGeNow mc) (ent : σ) (start : Nat) (pre : List Spec)
    (hP : PreGeStart start pre) (endT : Option Nat) (n : Nat) :
    (runFrom mc ent start pre endT n).nStale = 0 ∧
    ∀ p ∈ (runFrom mc ent start pre endT n).popped, p.2 ≠ Verdict.stale := by
  have np := engine_no_stale mc hE ent start pre hP endT n
  exact ⟨np.nstale, np.popped_ok⟩

def delivAt (s : St σ) (t : Nat) : Nat := (s.log.filter (fun e => e.time == t)).length
def pendingAt (s : St σ) (t : Nat) : Nat := (s.heap.filter (fun e => e.time == t)).length

def weightAt (w : Ev → Nat) (l : List Ev) (t : Nat) : Nat :=
  ((l.filter (fun e => e.time == t)).map w).sum

theorem weightAt_append (w : Ev → Nat) (a b : List Ev) (t : Nat) :
    weightAt w (a ++ b) t = weightAt w a t + weightAt w b t := by
  simp only [weightAt, List.filter_append, List.map_append, List.sum_append]

theorem weightAt_cons (w : Ev → Nat) (x : Ev) (l : List Ev) (t : Nat) :
    weightAt w (x :: l) t = (if x.time = t then w x else 0) + weightAt w l t := by
  by_cases h : x.time = t <;> simp [weightAt, h]

theorem weightAt_erase_le (w : Ev → Nat) (l : List Ev) (m : Ev) (t : Nat) :
    weightAt w (l.erase m) t ≤ weightAt w l t := by
  induction l with
  | nil => exact Nat.le_refl _
  | cons x xs ih =>
    by_cases hx : x = m
    · rw [hx, List.erase_cons_head, weightAt_cons]; omega
    · rw [List.erase_cons_tail (by simpa using hx), weightAt_cons, weightAt_cons]; omega

theorem weightAt_erase_mem (w : Ev → Nat) (l : List Ev) (m : Ev) (hm : m ∈ l) :
    weightAt w (l.erase m) m.time + w m = weightAt w l m.time := by
  induction l with
  | nil => exact absurd hm List.not_mem_nil
  | cons x xs ih =>
    by_cases hx : x = m
    · rw [hx, List.erase_cons_head, weightAt_cons, if_pos rfl]; omega
    · have := ih ((List.mem_cons.mp hm).resolve_left (Ne.symm hx))
      rw [List.erase_cons_tail (by simpa using hx), weightAt_cons, weightAt_cons]; omega

theorem pendingAt_eq_weightAt (s : St σ) (t : Nat) : pendingAt s t = weightAt (fun _ => 1) s.heap t := by
  simp [pendingAt, weightAt, List.map_const', List.sum_replicate_nat]

/-- what the handler of `m` emits weighs nothing for the instants before `m.time`, and less than `m`
    itself for `m.time` -/
structure Lighter (w : Ev → Nat) (mc : Machine σ) : Prop where
  earlier : ∀ ent nextId (m : Ev) t, t < m.time →
    weightAt w (mkEvents nextId m.time (mc.handle ent m.time m).specs) t = 0
  same : ∀ ent nextId (m : Ev),
    weightAt w (mkEvents nextId m.time (mc.handle ent m.time m).specs) m.time + 1 ≤ w m

theorem stepWith_weight (w : Ev → Nat) (mc : Machine σ) (hL : Lighter w mc) (s : St σ) (m : Ev)
    (hm : m ∈ s.heap) (t : Nat) (ht : t ≤ s.now) :
    delivAt (stepWith mc s m) t + weightAt w (stepWith mc s m).heap t ≤ delivAt s t + weightAt w s.heap t := by
  have hle := weightAt_erase_le w s.heap m t
  refine stepWith_cases mc s m (fun _ => ?_) (fun _ _ => ?_) (fun _ _ _ => ?_) (fun _ hnow _ => ?_)
  · exact Nat.add_le_add_left hle _
  · exact Nat.add_le_add_left hle _
  · exact Nat.add_le_add_left hle _
  · show (List.filter _ (s.log ++ [m])).length + weightAt w (s.heap.erase m ++ _) t ≤ _
    rw [weightAt_append, List.filter_append, List.length_append, List.filter_cons, List.filter_nil]
    by_cases hmt : m.time = t
    · subst hmt
      have := weightAt_erase_mem w s.heap m hm
      have := hL.same s.ent s.nextId m
      simp only [delivAt, beq_self_eq_true, if_true, List.length_singleton]
      omega
    · rw [hL.earlier s.ent s.nextId m t (by omega)]
      simp only [delivAt, beq_eq_false_iff_ne.mpr hmt, Bool.false_eq_true, if_false, List.length_nil]
      omega

theorem run_weight (w : Ev → Nat) (mc : Machine σ) (hL : Lighter w mc) (endT : Option Nat) (n : Nat)
    (s : St σ) (t : Nat) (ht : t ≤ s.now) :
    delivAt (run mc endT n s) t + weightAt w (run mc endT n s).heap t ≤ delivAt s t + weightAt w s.heap t :=
  (run_induction (motive := fun s' => s.now ≤ s'.now ∧
      delivAt s' t + weightAt w s'.heap t ≤ delivAt s t + weightAt w s.heap t) mc endT
    (fun s' m h hm _ _ => ⟨Nat.le_trans h.1 (stepWith_now_ge mc s' m),
      Nat.le_trans (stepWith_weight w mc hL s' m hm t (Nat.le_trans ht h.1)) h.2⟩)
    n s ⟨Nat.le_refl _, Nat.le_refl _⟩).2

theorem weightAt_mkEvents_zero (w : Ev → Nat) (n now : Nat) (specs : List Spec) (t : Nat)
    (h : ∀ sp ∈ specs, sp.time ≠ t) : weightAt w (mkEvents n now specs) t = 0 := by
  rw [weightAt, List.filter_eq_nil_iff.mpr, List.map_nil, List.sum_nil]
  intro e he
  obtain ⟨sp, hsp, _, _, he⟩ := mem_mkEvents he
  rw [he]; simpa using h sp hsp

theorem StrictFuture.lighter {mc : Machine σ} (hS : StrictFuture mc) : Lighter (fun _ => 1) mc := by
  have hnil : ∀ ent nextId (m : Ev) t, t ≤ m.time →
      weightAt (fun _ => 1) (mkEvents nextId m.time (mc.handle ent m.time m).specs) t = 0 :=
    fun ent nextId m t ht => weightAt_mkEvents_zero _ _ _ _ _ fun sp hsp =>
      Nat.ne_of_gt (Nat.lt_of_le_of_lt ht (hS ent m.time m sp hsp))
  exact ⟨fun ent nextId m t ht => hnil ent nextId m t (Nat.le_of_lt ht),
    fun ent nextId m => by rw [hnil ent nextId m m.time (Nat.le_refl _)]; exact Nat.le_refl _⟩

theorem instant_budget (mc : Machine σ) (hS : StrictFuture mc) (endT : Option Nat) (n : Nat) (s : St σ)
    (t : Nat) (ht : t ≤ s.now) :
    delivAt (run mc endT n s) t + pendingAt (run mc endT n s) t ≤ delivAt s t + pendingAt s t := by
  rw [pendingAt_eq_weightAt, pendingAt_eq_weightAt]
  exact run_weight _ mc hS.lighter endT n s t ht

/-- the number of deliveries at one clock value is bounded by the number of events pending with that
    timestamp when the clock reached it (plus those already delivered at it) — however long the run -/
theorem deliveries_at_instant_bounded (mc : Machine σ) (hS : StrictFuture mc) (endT : Option Nat)
    (n : Nat) (s : St σ) (t : Nat) (ht : t ≤ s.now) :
    delivAt (run mc endT n s) t ≤ delivAt s t + pendingAt s t :=
  Nat.le_trans (Nat.le_add_right _ _) (instant_budget mc hS endT n s t ht)

/-- created strictly before its own timestamp, or scheduled before the run -/
def Foreseen (npre : Nat) (e : Ev) : Prop := e.born < e.time ∨ e.id < npre

structure Fore (npre : Nat) (s : St σ) : Prop where
  heap : ∀ e ∈ s.heap, Foreseen npre e
  log : ∀ e ∈ s.log, Foreseen npre e

theorem stepWith_fore (mc : Machine σ) (hS : StrictFuture mc) (npre : Nat) (s : St σ) (m : Ev)
    (hm : m ∈ s.heap) (f : Fore npre s) : Fore npre (stepWith mc s m) := by
  have hsub : ∀ e ∈ s.heap.erase m, Foreseen npre e := fun e he => f.heap e (List.mem_of_mem_erase he)
  refine stepWith_cases mc s m (fun _ => ⟨hsub, f.log⟩) (fun _ _ => ⟨hsub, f.log⟩) (fun _ _ _ => ⟨hsub, f.log⟩) ?_
  refine fun _ _ _ => ⟨List.forall_mem_append.mpr ⟨hsub, fun e he => ?_⟩,
    List.forall_mem_append.mpr ⟨f.log, List.forall_mem_singleton.mpr (f.heap m hm)⟩⟩
  obtain ⟨sp, hsp, _, _, he⟩ := mem_mkEvents he
  rw [he]
  exact Or.inl (hS s.ent m.time m sp hsp)

theorem init_fore (ent : σ) (start : Nat) (pre : List Spec) : Fore pre.length (init ent start pre) :=
  ⟨fun e he => Or.inr (Nat.zero_add pre.length ▸ (mkEvents_id 0 start pre e he).2.1), List.forall_mem_nil _⟩

theorem run_fore (mc : Machine σ) (hS : StrictFuture mc) (npre : Nat) (endT : Option Nat) (n : Nat)
    (s : St σ) (f : Fore npre s) : Fore npre (run mc endT n s) :=
  run_induction mc endT (fun s m f hm _ _ => stepWith_fore mc hS npre s m hm f) n s f

end HappyModel.C07
