import HappyModel.C09.Conc
/-! Invariants of the fixed and the weighted concurrency limiter (`Inv` has `kind ≠ 1`); the dynamic limiter, whose limit
moves under the running requests, is covered by the run relation `Rel` of `ConcSpec`. -/
namespace HappyModel.C09.Conc

structure Inv (s : St) : Prop where
  notDyn : s.kind ≠ 1
  lo : 0 ≤ s.active
  hi : s.active ≤ s.limit

/-! `step` in the form the judge reads it: a malformed weight (weighted limiter only), else the weight `weightOf` against the
limit.  For the fixed and the dynamic limiter `limit ≤ active` is `limit < active + 1`. -/

theorem step_acquire (s : St) (w : Int) : step s (.acquire w) =
    if s.kind = 2 ∧ w < 1 then (s, .err)
    else if s.limit < s.active + weightOf s.kind w then (s, .refused)
    else ({ s with active := s.active + weightOf s.kind w }, .granted) := by
  by_cases k2 : s.kind = 2 <;> simp only [step, weightOf, k2, if_true, if_false, true_and, false_and]
  by_cases h : s.limit ≤ s.active
  · rw [if_pos h, if_pos (by omega)]
  · rw [if_neg h, if_neg (by omega)]

theorem step_release (s : St) (w : Int) : step s (.release w) =
    if s.kind = 2 ∧ w < 1 then (s, .err)
    else ({ s with active := max 0 (s.active - weightOf s.kind w) }, .released) := by
  by_cases k2 : s.kind = 2 <;> simp only [step, weightOf, k2, if_true, if_false, true_and, false_and]

theorem weightOf_pos {kind : Nat} {w : Int} (h : ¬ (kind = 2 ∧ w < 1)) : 1 ≤ weightOf kind w := by
  unfold weightOf; split <;> omega

theorem step_inv (s : St) (o : Op) (inv : Inv s) : Inv (step s o).1 ∧ (step s o).1.limit = s.limit := by
  have h1 := inv.notDyn; have h2 := inv.lo; have h3 := inv.hi
  cases o with
  | acquire w =>
    rw [step_acquire]
    split
    · exact ⟨inv, rfl⟩
    next hb =>
      have := weightOf_pos hb
      split
      · exact ⟨inv, rfl⟩
      · exact ⟨⟨h1, by dsimp only; omega, by dsimp only; omega⟩, rfl⟩
  | release w =>
    rw [step_release]
    split
    · exact ⟨inv, rfl⟩
    next hb =>
      have := weightOf_pos hb
      exact ⟨⟨h1, by dsimp only; omega, by dsimp only; omega⟩, rfl⟩
  | setLimit n => rw [step, if_neg h1]; exact ⟨inv, rfl⟩

theorem run_inv (s : St) (ops : List Op) (inv : Inv s) : Inv (run s ops) ∧ (run s ops).limit = s.limit := by
  induction ops generalizing s with
  | nil => exact ⟨inv, rfl⟩
  | cons o os ih =>
    have h := step_inv s o inv
    have := ih _ h.1
    exact ⟨this.1, by rw [run, this.2, h.2]⟩

end HappyModel.C09.Conc
