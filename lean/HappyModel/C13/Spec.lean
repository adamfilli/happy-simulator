import HappyModel.C13.Model
import HappyModel.C13.Phi
/-!
C13 specification predicates — decidable, over *observed* values only.

Property text: "In a cluster whose network delivers every message within a bound well below the
probe interval, no member ever marks a live member DEAD, for any probe order and timing.  If a
member stops responding for good, every other live member stops reporting it ALIVE within a bounded
number of probe rounds, and a member reported DEAD is not reported ALIVE again without a higher
incarnation; the phi-accrual suspicion level never decreases while no heartbeat arrives."

Observables: `get_member_state(x)` (and the member's incarnation) of node `a` for every `x` — a
*row* — after every delivered event; which nodes have been crashed by the harness; send and delivery
times of every message, and which messages the network refused to route (`is_partitioned`);
sampled `phi(now)` values (IEEE-754 bit patterns).
-/
namespace HappyModel.C13.Spec
open HappyModel.C13

/-- one reported cell: state and incarnation of a member as seen by a node -/
structure Cell where
  st : MState
  inc : Nat
deriving DecidableEq, Repr, Inhabited

/-- "a bound well below the probe interval": with one-way delay bound `delta`, a probe's round trip
    (`2·delta`) ends before the suspicion timer armed for it (`half` after the probe, running
    `susp`) can fire.  `delta < probe_interval/2 ≤ suspicion_timeout` implies it. -/
def boundOk (delta half susp : Nat) : Bool := 2 * delta < half + susp

/-- clause 1 on one row of node `a`: no member that has not crashed is DEAD -/
def noDeadLive (crashed : List Bool) (a : Nat) (row : List MState) : Bool :=
  (List.range row.length).all fun x =>
    x == a || lget false crashed x || lget MState.alive row x != .dead

/-- clause 3 on two consecutive reports of the same cell: DEAD → ALIVE needs a higher incarnation -/
def reviveOk (old new : Cell) : Bool :=
  !(old.st == .dead && new.st == .alive && new.inc ≤ old.inc)

/-! clause 3 over the *whole history* of a cell: once DEAD has been reported at incarnation `k`, no
later report — however many SUSPECT/DEAD reports lie in between — is ALIVE with incarnation `≤ k`. -/

/-- the highest incarnation at which the cell has been reported DEAD so far -/
def noteDead (d : Option Nat) (c : Cell) : Option Nat :=
  if c.st == .dead then
    some (match d with | none => c.inc | some k => max k c.inc)
  else d

/-- is a report admissible, DEAD having been reported at incarnation `d` before -/
def aliveOk (d : Option Nat) (c : Cell) : Bool :=
  match d with
  | none => true
  | some k => !(c.st == .alive && c.inc ≤ k)

/-- clause 3 on the list of successive reports of one cell (what the judge evaluates, one report at
    a time).  `revive_trace_is_pairwise` (HappyProofs) shows it is the same as `reviveOk` for every
    earlier/later pair of reports. -/
def reviveTrace : Option Nat → List Cell → Bool
  | _, [] => true
  | d, c :: cs => aliveOk d c && reviveTrace (noteDead d c) cs

/-- "the network delivers every message": nothing was refused by the network (no message crossed
    an active partition).  Clauses 1 and 2 speak about such runs only. -/
def lossless (refused : Nat) : Bool := refused == 0

/-- number of probe ticks after which an un-answering member must have been probed again by a node
    of an `n`-cluster in which at most `k` members crash: every pass over the probe order has at
    most `n-1` ticks, a member can be skipped in a pass only when another member turns DEAD -/
def detectTicks (n k : Nat) : Nat := (k + 1) * (n - 1) + 2

/-- the time after which a member that crashed at `c` may no longer be reported ALIVE -/
def detectDeadline (n k interval half delta c : Nat) : Nat :=
  c + delta + detectTicks n k * interval + half

/-- clause 2 on one row of a live node `a` reported at time `t`: every member whose crash is older
    than the deadline is not ALIVE.  `crashAt x = some c` when `x` crashed at `c`. -/
def detectedRow (n k interval half delta : Nat) (crashAt : List (Option Nat)) (a t : Nat)
    (row : List MState) : Bool :=
  (List.range row.length).all fun x =>
    x == a ||
    match lget none crashAt x with
    | none => true
    | some c => t ≤ detectDeadline n k interval half delta c || lget MState.alive row x != .alive

/-! clause 2, every public report: besides `get_member_state`, a node reports its view through the
lists `alive_members` / `suspected_members` / `dead_members`, the counters of `stats` and the counts
shown by `repr`.  All of them must say what the per-member states say. -/

/-- the public summary reports of one node -/
structure Report where
  /-- `stats.alive_count`, `stats.suspect_count`, `stats.dead_count` -/
  ac : Nat
  sc : Nat
  dc : Nat
  /-- `alive_members`, `suspected_members`, `dead_members` (member indices, in member-table order) -/
  al : List Nat
  sl : List Nat
  dl : List Nat
  /-- the counts printed by `repr` -/
  ra : Nat
  rs : Nat
  rd : Nat
deriving DecidableEq, Repr, Inhabited

/-- the members of node `a` that its row shows in state `st`, in index order -/
def membersIn (a : Nat) (row : List MState) (st : MState) : List Nat :=
  (List.range row.length).filter fun x => x != a && lget MState.alive row x == st

/-- the report that agrees with a row -/
def reportOf (a : Nat) (row : List MState) : Report :=
  let al := membersIn a row .alive
  let sl := membersIn a row .suspect
  let dl := membersIn a row .dead
  ⟨al.length, sl.length, dl.length, al, sl, dl, al.length, sl.length, dl.length⟩

/-- every summary report of node `a` agrees with the per-member states it reports -/
def reportOk (a : Nat) (row : List MState) (r : Report) : Bool := r == reportOf a row

/-- a reported phi value (bit pattern of a binary64) as a `PV`.  Non-negative finite doubles are
    ordered exactly like their bit patterns, so the pattern itself serves as the (scaled) value;
    `0x7FF0000000000000` is `+∞`, `0x8000000000000000` is `-0.0 = 0`; negative numbers and NaNs are
    not suspicion levels. -/
def pvOfBits (b : Nat) : Option PV :=
  if b < 0x7FF0000000000000 then some (.fin b)
  else if b = 0x7FF0000000000000 then some .inf
  else if b = 0x8000000000000000 then some (.fin 0)
  else none

def pvLe (a b : PV) : Bool := decide (PV.le a b)

/-- strictly below (`phi < threshold`, what `is_available` must report) -/
def pvLt (a b : PV) : Bool := !pvLe b a

/-! clause 5 — real failures are detected at the detector level.  Once a heartbeat has been recorded
and the interval window is not empty, the suspicion level is not stuck at its "no data" value: after
a silence that is long for *every* window the history can have produced, it has reached the
threshold.  `m` bounds every interval that was ever recorded (the bootstrap interval and every
positive gap between consecutive heartbeats), so mean ≤ m and max(std, min_std) ≤ max(m, min_std);
a silence of `m + 39·max(m, min_std)` puts the standardised distance at 39 or more, where the normal
tail is below 1e-300 — phi above 300 in exact arithmetic, `+∞` in the code's floats. -/

/-- the silence after which any window bounded by `m` gives phi above 300 -/
def silenceBound (m minStd : Nat) : Nat := m + 39 * max m minStd

/-- 300.0 as a `PV` (bit pattern): thresholds up to here are covered by `silenceBound` -/
def phiCeil : PV := .fin 0x4072C00000000000

/-- clause 5 on one sample `p = phi(t)`: `last` = time of the last recorded heartbeat (whatever its
    value — the epoch `0` is a time like any other), `haveIv` = the window is not empty -/
def detectedSample (haveIv : Bool) (m minStd last t : Nat) (thr p : PV) : Bool :=
  !(haveIv && pvLe thr phiCeil && decide (last + silenceBound m minStd ≤ t)) || pvLe thr p

/-- clause 4: a list of samples is non-decreasing w.r.t. a decidable order -/
def nondecreasing {α} (le : α → α → Bool) : List α → Bool
  | [] => true
  | [_] => true
  | a :: b :: rest => le a b && nondecreasing le (b :: rest)

end HappyModel.C13.Spec
