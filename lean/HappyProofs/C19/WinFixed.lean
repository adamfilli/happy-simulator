import HappyProofs.C19.WinAssign
import HappyProofs.C19.WinFire
import HappyProofs.C19.WinStep
/-!
Tumbling / sliding windows as a window kind: the window ↔ obligation relation `WinRel` has the four laws of `KindLaws`.
-/
namespace HappyModel.C19.Win

theorem addWindows_rel (cfg : Cfg) (hk : cfg.kind ≠ 2) (hs : cfg.kind = 0 ∨ 0 < cfg.slide) (r : Rec)
    (wins : List Win) (obl : List Obl) (h : WinRel wins obl) :
    WinRel (addWindows cfg r wins) (obl ++ (specWindows cfg r.et).map (mkObl r)) := by
  simp only [addWindows, hk, if_false]
  rw [assign_eq_specWindows cfg r.et hs]
  exact addAll_rel r _ _ _ h

theorem aw_fixed (wins : List Win) (obl : List Obl) (h : WinRel wins obl) :
    (wins.filter fun w => !w.emitted).length =
      (dedupIdents ((obl.filter fun o => !o.done).map fun o => (o.key, o.s, o.e))).length := by
  have e : (wins.filter fun w => !w.emitted).length = ((wins.filter fun w => !w.emitted).map ident).length := by simp
  rw [e]
  apply List.Perm.length_eq
  rw [List.perm_ext_iff_of_nodup (List.Nodup.sublist (List.Sublist.map _ List.filter_sublist) h.nodup)
    (nodup_dedupIdents _)]
  intro x
  rw [mem_dedupIdents]
  simp only [List.mem_map, List.mem_filter, Bool.not_eq_eq_eq_not, Bool.not_true]
  constructor
  · rintro ⟨w, ⟨hw, hem⟩, rfl⟩
    obtain ⟨o, ho, hwo, hod⟩ := h.undone_of_open hw hem
    obtain ⟨k1, k2, k3⟩ := (oblFor_iff _ _ _ _).1 hwo
    exact ⟨o, ⟨ho, hod⟩, by simp [ident, k1, k2, k3]⟩
  · rintro ⟨o, ⟨ho, hod⟩, rfl⟩
    obtain ⟨w, hw, hwo⟩ := h.cover o ho
    obtain ⟨k1, k2, k3⟩ := (oblFor_iff _ _ _ _).1 hwo
    exact ⟨w, ⟨hw, h.open_of_undone hw ho hwo hod⟩, by simp [ident, k1, k2, k3]⟩

theorem fixedLaws (cfg : Cfg) (hk : cfg.kind ≠ 2) (hs : cfg.kind = 0 ∨ 0 < cfg.slide) :
    KindLaws cfg fun wins j => WinRel wins j.obl := by
  have hk2 : (cfg.kind == 2) = false := by simp [hk]
  refine ⟨fun h e _ => e ▸ h, fun t r h ha _ => ?_, fun t h => ⟨fun _ => fire_checks _ _ h, fun hh => absurd hh hk, ?_⟩,
    fun h => ?_⟩
  · simp only [afterProc, ha, hk2, Bool.not_false, Bool.and_true, if_true]
    exact addWindows_rel cfg hk hs r _ _ h
  · simp only [afterFire, hk, if_false]
    exact fire_rel _ _ _ h
  · simp only [activeExp, hk2, Bool.false_eq_true, if_false]
    exact aw_fixed _ _ h

theorem judge_run_ok (cfg : Cfg) (hk : cfg.kind ≠ 2) (hs : cfg.kind = 0 ∨ 0 < cfg.slide) :
    ∀ (sched : List Line) (s : St) (j : JSt), R0 s j ∧ WinRel s.wins j.obl → legit cfg s sched = true →
      judgeCore cfg j (sched.zip (run cfg s sched)) = none :=
  judgeWith_run coreChecks cfg (fun s j _ => R0 s j ∧ WinRel s.wins j.obl) fun s j ln _ h hl =>
    have ⟨hok, hR⟩ := step_safety (fixedLaws cfg hk hs) s j ln h.1 h.2 hl fun _ _ hk' => absurd hk' hk
    ⟨((firstFail_append_iff _ _).1 hok).1, hR⟩

end HappyModel.C19.Win
