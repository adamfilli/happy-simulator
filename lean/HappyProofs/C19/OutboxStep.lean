import HappyProofs.C19.OutboxLemmas
/-!
Every segment of the repaired OutboxRelay model keeps the coupled invariant, and the Spec judge
accepts what the segment shows (`step_inv`); hence the judge accepts every run (`judgeFrom_run`).
-/
namespace HappyModel.C19.Outbox
open List

theorem pending_of_core {s : St} {j : JSt} (c : Core s j) :
    pendingFrom 1 s.flags = range' (s.relayedCnt + 1) (s.written - s.relayedCnt) := by
  have := pendingFrom_prefix 1 s.relayedCnt (s.written - s.relayedCnt)
  rw [← c.flags, Nat.add_comm 1 s.relayedCnt] at this
  exact this

theorem pollStart_inv {cfg : Cfg} {t p : Nat} {s : St} {j : JSt} (hl : cfg.legacy = false)
    (h : Inv cfg.batch s j) :
    ∃ j', jevs cfg.batch t j (pollStart cfg t s p).2 = .ok j' ∧
      Inv cfg.batch (pollStart cfg t s p).1 j' := by
  unfold pollStart
  simp only [hl, Bool.false_eq_true, if_false]
  cases h with
  | busy p0 r b q =>
    simp only [b.running, if_true]
    have e1 : jev cfg.batch t j .start = .ok { j with opn := j.opn + 1 } := by simp [jev, b.opn]
    have e2 : jev cfg.batch t { j with opn := j.opn + 1 } .done = .ok { j with opn := 1 } := by
      simp [jev, b.opn]
    refine ⟨{ j with opn := 1 }, ?_, ?_⟩
    · simp only [jevs, e1, e2]; rfl
    · exact Inv.busy p0 r { b with core := { b.core with }, opn := rfl } q
  | idle c r q o =>
    simp only [r, Bool.false_eq_true, if_false]
    obtain ⟨r', hr', hle, hlt⟩ := take_range'_min cfg.batch (s.relayedCnt + 1) (s.written - s.relayedCnt)
    have hpe : (pendingFrom 1 s.flags).take cfg.batch = range' (s.relayedCnt + 1) r' := by
      rw [pending_of_core c]; exact hr'
    have e1 : jev cfg.batch t j .start = .ok { j with opn := 1, busyEmits := 0, dirty := false } := by
      simp [jev, o]
    have hle' := c.le
    have hb : Busy cfg.batch { s with running := true, cycles := s.cycles + 1 }
        { j with opn := 1, busyEmits := 0, dirty := false } r' :=
      ⟨{ c with }, rfl, rfl,
        by show s.relayedCnt + r' ≤ s.written; omega,
        by intro _ h2
           have : r' < cfg.batch := by simp only at h2; omega
           have := hlt this
           show s.relayedCnt + r' = s.written; omega⟩
    obtain ⟨j2, hj2, hinv⟩ := advance_busy (t := t) (p := p) hl hb q
    refine ⟨j2, ?_, ?_⟩
    · simp only [jevs, e1, hpe]; exact hj2
    · simp only [hpe]; exact hinv

theorem resume_inv {cfg : Cfg} {t p : Nat} {s : St} {j : JSt} (hl : cfg.legacy = false)
    (h : Inv cfg.batch s j) :
    ∃ j', jevs cfg.batch t j (step cfg s ⟨t, .resume p⟩).2 = .ok j' ∧
      Inv cfg.batch (step cfg s ⟨t, .resume p⟩).1 j' := by
  simp only [step]
  cases h with
  | idle c r q o =>
    rw [q]; simp only [takePoll]
    exact ⟨j, rfl, Inv.idle c r q o⟩
  | busy p0 r b q =>
    rw [q]
    by_cases hp : p0 = p
    · simp only [takePoll, hp, if_true]
      exact advance_busy (s := { s with polls := [] }) (t := t) (p := p) hl { b with core := { b.core with } } rfl
    · simp only [takePoll, hp, if_false]
      exact ⟨j, rfl, Inv.busy p0 r b q⟩

theorem write_inv {cfg : Cfg} {t : Nat} {s : St} {j : JSt} (h : Inv cfg.batch s j) :
    ∃ j', jevs cfg.batch t j (step cfg s ⟨t, .write⟩).2 = .ok j' ∧
      Inv cfg.batch (step cfg s ⟨t, .write⟩).1 j' := by
  simp only [step]
  have c := h.core
  have hle := c.le
  have hlen : s.flags.length = s.written := by
    rw [c.flags, length_append, length_replicate, length_replicate]; omega
  have e1 : jev cfg.batch t j (.wrote (s.flags.length + 1))
      = .ok { j with writes := j.writes + 1, dirty := true, clean := false } := by
    simp [jev, hlen, c.jw]
  have hfl : s.flags ++ [false]
      = replicate s.relayedCnt true ++ replicate (s.written + 1 - s.relayedCnt) false := by
    have : s.written + 1 - s.relayedCnt = (s.written - s.relayedCnt) + 1 := by omega
    rw [this, replicate_succ', ← append_assoc, ← c.flags]
  have hc : Core { s with flags := s.flags ++ [false], written := s.written + 1 }
      { j with writes := j.writes + 1, dirty := true, clean := false } :=
    ⟨hfl, by show s.relayedCnt ≤ s.written + 1; omega, by show j.writes + 1 = s.written + 1; rw [c.jw],
      c.sent, c.hi, c.fl, by intro hh; cases hh⟩
  refine ⟨{ j with writes := j.writes + 1, dirty := true, clean := false }, by simp only [jevs, e1], ?_⟩
  cases h with
  | idle _ r q o => exact Inv.idle hc r q o
  | busy p0 r b q =>
    exact Inv.busy p0 r ⟨hc, b.running, b.opn, by have := b.bound; show s.relayedCnt + r ≤ s.written + 1; omega,
      by intro hd; cases hd⟩ q

theorem recv_inv {cfg : Cfg} {t : Nat} {s : St} {j : JSt} (h : Inv cfg.batch s j) :
    ∃ j', jevs cfg.batch t j (step cfg s ⟨t, .recv⟩).2 = .ok j' ∧
      Inv cfg.batch (step cfg s ⟨t, .recv⟩).1 j' := by
  simp only [step]
  have c := h.core
  cases hf : s.flight with
  | nil => exact ⟨j, rfl, h⟩
  | cons x rest =>
    obtain ⟨k, st⟩ := x
    by_cases hst : st = t
    · simp only [hst, if_true]
      have hjf : j.flight = (k, t) :: rest := by rw [c.fl, hf, hst]
      have e1 : jev cfg.batch t j (.got k t) = .ok { j with flight := rest } := by
        simp [jev, hjf, eraseFirst]
      have hc : Core { s with flight := rest } { j with flight := rest } := { c with fl := rfl }
      refine ⟨{ j with flight := rest }, by simp only [jevs, e1], ?_⟩
      cases h with
      | idle _ r q o => exact Inv.idle hc r q o
      | busy p0 r b q => exact Inv.busy p0 r { b with core := hc } q
    · simp only [hst, if_false]
      exact ⟨j, rfl, h⟩

theorem fin_ok {batch t : Nat} {s : St} {j : JSt} (c : Core s j) : jev batch t j .fin = .ok j := by
  simp only [jev]
  split
  · rename_i hq
    have hcl : j.clean = true := by
      simp only [Bool.and_eq_true] at hq; exact hq.1.1
    have hall : ((range' 1 j.writes).all fun k => decide (k ∈ j.sent)) = true := by
      rw [all_eq_true]
      intro k hk
      rw [c.sent, c.clean hcl, ← c.jw]
      exact decide_eq_true hk
    simp only [hall, if_true]
  · rfl

theorem step_inv {cfg : Cfg} (hl : cfg.legacy = false) {s : St} {j : JSt} (g : Seg)
    (h : Inv cfg.batch s j) :
    ∃ j', jevs cfg.batch g.t j (step cfg s g).2 = .ok j' ∧ Inv cfg.batch (step cfg s g).1 j' := by
  obtain ⟨t, a⟩ := g
  cases a with
  | write => exact write_inv h
  | prime =>
    simp only [step]
    exact ⟨j, rfl, h.frame rfl rfl rfl rfl rfl rfl⟩
  | nudge =>
    simp only [step]
    split
    · exact ⟨j, rfl, h⟩
    · exact ⟨j, rfl, h.frame rfl rfl rfl rfl rfl rfl⟩
  | poll p => simp only [step]; exact pollStart_inv hl h
  | resume p => exact resume_inv hl h
  | recv => exact recv_inv h
  | fin =>
    simp only [step]
    exact ⟨j, by simp only [jevs, fin_ok h.core], h⟩

theorem init_inv (batch : Nat) : Inv batch {} {} :=
  Inv.idle ⟨rfl, Nat.le_refl _, rfl, rfl, rfl, rfl, fun h => by cases h⟩ rfl rfl rfl

theorem judgeFrom_run {cfg : Cfg} (hl : cfg.legacy = false) (segs : List Seg) :
    ∀ (s : St) (j : JSt), Inv cfg.batch s j →
      ∃ jf, judgeFrom cfg.batch j (run cfg s segs) = .ok jf ∧ Inv cfg.batch (runSt cfg s segs) jf := by
  induction segs with
  | nil => intro s j h; exact ⟨j, rfl, h⟩
  | cons g gs ih =>
    intro s j h
    obtain ⟨j1, hj1, h1⟩ := step_inv hl g h
    obtain ⟨jf, hjf, hf⟩ := ih _ _ h1
    refine ⟨jf, ?_, hf⟩
    simp only [run, judgeFrom, hj1, checkCtr_of_core h1.core, if_true]
    exact hjf

end HappyModel.C19.Outbox
