import HappyProofs.C11.ProgLeader
/-! The schedule predicates and state hypotheses of the bounded-progress theorem, as decidable
    `Bool`s, and their `Prop` readings.

* `established s L t`     node `L` is leader of term `t`
* `stableRun v t ns s as` along the run no node in `ns` ever has a term above `t` (no election
                          timeout reaches them: a stable leader)
* `inSync s L t p`        follower `p` knows term `t`, and the leader's `next_index[p]`, and every
                          AppendEntries / acknowledgement in flight between them, refer to a prefix of
                          the leader's log that `p` holds (no back-off is pending)

Then one step under a stable leader (`Stable`) and what it can do at the leader (`LStep`): what every later `Prog*` file stands on. -/
namespace HappyModel.C11
open Spec

def Agree (Ll pl : List Entry) (a : Nat) : Prop := a ≤ Ll.length ∧ Ll.take a <+: pl

def agreeB (Ll pl : List Entry) (a : Nat) : Bool := decide (a ≤ Ll.length) && (Ll.take a).isPrefixOf pl

theorem agreeB_iff {Ll pl : List Entry} {a : Nat} : agreeB Ll pl a = true ↔ Agree Ll pl a := by
  simp [agreeB, Agree, List.isPrefixOf_iff_prefix]

theorem Agree.left {Ll Ll' pl : List Entry} {a : Nat} (h : Agree Ll pl a) (hp : Ll <+: Ll') : Agree Ll' pl a := by
  obtain ⟨h1, h2⟩ := h
  refine ⟨Nat.le_trans h1 hp.length_le, ?_⟩
  rw [take_eq_of_prefix hp h1]; exact h2

theorem Agree.le {Ll pl : List Entry} {a b : Nat} (h : Agree Ll pl a) (hb : b ≤ a) : Agree Ll pl b := by
  obtain ⟨h1, h2⟩ := h
  refine ⟨by omega, List.IsPrefix.trans ?_ h2⟩
  rw [List.prefix_take_iff]
  exact ⟨List.take_prefix _ _, by rw [List.length_take]; omega⟩

theorem Agree.replace {Ll pl X : List Entry} {a : Nat} (h : Agree Ll pl a) (hX : X <+: Ll) (hn : ¬ X <+: pl) : Agree Ll X a := by
  obtain ⟨h1, h2⟩ := h
  refine ⟨h1, ?_⟩
  by_cases ha : a ≤ X.length
  · rw [take_eq_of_prefix hX ha]; exact List.take_prefix _ _
  · exfalso; apply hn
    refine List.IsPrefix.trans ?_ h2
    rw [List.prefix_take_iff]
    exact ⟨hX, by omega⟩

theorem Agree.entry {Ll pl : List Entry} {a k : Nat} (h : Agree Ll pl a) (hk : k ≤ a) {e : Entry} (he : getE Ll k = some e) :
    getE pl k = some e := by
  exact getE_prefix (getE_take hk he) h.2

def established (s : St) (L t : Nat) : Bool :=
  decide (L < s.n) && decide ((s.nodes L).role = .leader) && decide ((s.nodes L).term = t)

structure Est (s : St) (L t : Nat) : Prop where
  lt : L < s.n
  role : (s.nodes L).role = .leader
  term : (s.nodes L).term = t

theorem Est.ll_prefix {g : GSt} {L t : Nat} (hest : Est g.s L t) (all : AllInv g) {X : List Entry} (hX : LeaderLog g t X) :
    X <+: (g.s.nodes L).log := leaderLog_prefix all.li all.hi hest.role (hest.term.symm ▸ hX)

theorem established_iff {s : St} {L t : Nat} : established s L t = true ↔ Est s L t := by
  simp only [established, Bool.and_eq_true, decide_eq_true_eq]
  exact ⟨fun h => ⟨h.1.1, h.1.2, h.2⟩, fun h => ⟨⟨h.lt, h.role⟩, h.term⟩⟩

theorem Inv.ae_src {s : St} (inv : Inv s) {L t : Nat} (hest : Est s L t) {e : Env} (he : e ∈ s.msgs) {l pi pt lc : Nat}
    {es : List Entry} (hb : e.body = .ae t l pi pt es lc) : e.src = L := by
  obtain ⟨g, rfl, all, src⟩ := inv.ghost
  exact leaders_unique all.ei (src e he t l pi pt es lc hb) (hest.term ▸ all.ei.l0 L hest.role)

def termsLe (s : St) (t : Nat) (ns : List Nat) : Bool := ns.all (fun i => decide ((s.nodes i).term ≤ t))

def stableRun (v : Variant) (t : Nat) (ns : List Nat) : St → List Act → Bool
  | s, [] => termsLe s t ns
  | s, a :: as => termsLe s t ns && stableRun v t ns (step v s a).1 as

theorem termsLe_mem {s : St} {t : Nat} {ns : List Nat} (h : termsLe s t ns = true) {i : Nat} (hi : i ∈ ns) : (s.nodes i).term ≤ t := by
  simp only [termsLe, List.all_eq_true, decide_eq_true_eq] at h
  exact h i hi

theorem stableRun_here {v : Variant} {t : Nat} {ns : List Nat} {s : St} {as : List Act} (h : stableRun v t ns s as = true) :
    termsLe s t ns = true := by
  cases as with
  | nil => exact h
  | cons a as => simp only [stableRun, Bool.and_eq_true] at h; exact h.1

theorem stableRun_cons {v : Variant} {t : Nat} {ns : List Nat} {s : St} {a : Act} {as : List Act}
    (h : stableRun v t ns s (a :: as) = true) : stableRun v t ns (step v s a).1 as = true := by
  simp only [stableRun, Bool.and_eq_true] at h; exact h.2

def msgSync (s : St) (L t p : Nat) (e : Env) : Bool :=
  match e.body with
  | .ae t' _ pi pt _ _ =>
    !(t' == t && e.dst == p) ||
      (agreeB (s.nodes L).log (s.nodes p).log pi && pt == (if pi > 0 then termAt (s.nodes L).log pi else 0))
  | .ar t' true f m => !(t' == t && f == p) || agreeB (s.nodes L).log (s.nodes p).log m
  | _ => true

def inSync (s : St) (L t p : Nat) : Bool :=
  decide (p < s.n) && decide (p ≠ L) && decide ((s.nodes p).term = t)
    && agreeB (s.nodes L).log (s.nodes p).log ((s.nodes L).nextIndex.getD p 1 - 1)
    && s.msgs.all (msgSync s L t p)

structure Sync (s : St) (L t p : Nat) : Prop where
  pn : p < s.n
  pne : p ≠ L
  pterm : (s.nodes p).term = t
  nx : Agree (s.nodes L).log (s.nodes p).log ((s.nodes L).nextIndex.getD p 1 - 1)
  ae : ∀ e ∈ s.msgs, e.dst = p → ∀ l pi pt es lc, e.body = .ae t l pi pt es lc →
        Agree (s.nodes L).log (s.nodes p).log pi ∧ pt = (if pi > 0 then termAt (s.nodes L).log pi else 0)
  ar : ∀ e ∈ s.msgs, ∀ m, e.body = .ar t true p m → Agree (s.nodes L).log (s.nodes p).log m

theorem sync_of_inSync {s : St} {L t p : Nat} (h : inSync s L t p = true) : Sync s L t p := by
  simp only [inSync, Bool.and_eq_true, decide_eq_true_eq, List.all_eq_true] at h
  obtain ⟨⟨⟨⟨h1, h2⟩, h3⟩, h4⟩, h5⟩ := h
  refine ⟨h1, h2, h3, agreeB_iff.mp h4, ?_, ?_⟩
  · intro e he hd l pi pt es lc hb
    have := h5 e he
    simp only [msgSync, hb, hd, beq_self_eq_true, Bool.and_self, Bool.not_true, Bool.false_or, Bool.and_eq_true, beq_iff_eq] at this
    exact ⟨agreeB_iff.mp this.1, this.2⟩
  · intro e he m hb
    have := h5 e he
    simp only [msgSync, hb, beq_self_eq_true, Bool.and_self, Bool.not_true, Bool.false_or] at this
    exact agreeB_iff.mp this

theorem applyHR_inj {s : St} {i j : Nat} {r r' : HR} (h : applyHR s i r = applyHR s j r') :
    i = j ∧ r.node = r'.node ∧ r.apps = r'.apps ∧ r.ress = r'.ress := by
  have h2 := congrArg (·.2) h
  have h1 := congrArg (·.1.nodes) h
  simp only [applyHR] at h1 h2
  have ht : i = j := by have := congrArg (·.target) h2; simpa using this
  subst ht
  refine ⟨rfl, ?_, by have := congrArg (·.apps) h2; simpa using this, by have := congrArg (·.ress) h2; simpa using this⟩
  have := congrFun h1 i
  simpa using this

/-- a handler result that leaves the node as it is — up to a vote granted in its own term — and sends only vote replies or
    refusals -/
structure LSame (x : Node) (r : HR) : Prop where
  node : r.node = x ∨ ∃ c, r.node = { x with votedFor := some c }
  snd : ∀ d b, (d, b) ∈ r.sends → (∃ t g f, b = .vr t g f) ∨ ∃ t f m, b = .ar t false f m

/-- what a step does at node `L` -/
inductive LStep (v : Variant) (s : St) (a : Act) (L : Nat) : Prop
  /-- nothing: no handler ran, or another node's did -/
  | away (hn : (step v s a).1.nodes L = s.nodes L) (hsrc : ∀ e ∈ (step v s a).1.msgs, e ∈ s.msgs ∨ e.src ≠ L)
  | same (r : HR) (hs : step v s a = applyHR s L r) (h : LSame (s.nodes L) r)
  | hb (hs : step v s a = applyHR s L { node := s.nodes L, sends := sendAEs s.n (s.nodes L) L })
  | submit (f : Nat) (c : Cmd) (hs : step v s a = applyHR s L { node := submitNode (s.nodes L) f c })
  | ack (m0 : Nat) (e : Env) (ha : a = .deliver m0) (hf : findMsg s m0 = some e) (hc : canDeliver s e = true)
      (he : e ∈ s.msgs) (hd : e.dst = L) (f m : Nat) (hb : e.body = .ar (s.nodes L).term true f m)
      (hs : step v s a = applyHR s L (tryAdvance s.n (ackNode (s.nodes L) f m) L))
  | nack (f : Nat) (r : HR) (hs : step v s a = applyHR s L r) (hn : r.node = nackNode (s.nodes L) f)
      (snd : r.sends = [(f, aeFor (nackNode (s.nodes L) f) L f)] ∨ r.sends = [])

/-- a step `a` from `s` under the established leader `L` of term `t`, whose term the step does not raise -/
structure Stable (v : Variant) (s : St) (a : Act) (L t : Nat) : Prop where
  rep : Rep v
  inv : Inv s
  est : Est s L t
  le : ((step v s a).1.nodes L).term ≤ t

/-- As long as no term in the cluster exceeds the leader's, the leader keeps role and term: of what a handler call can do
    (`Does`) only six things are left at `L`. -/
theorem lstep {v : Variant} {s : St} {a : Act} {L t : Nat} (S : Stable v s a L t) : LStep v s a L := by
  rcases step_cases v s a with h | ⟨i, src, inp, r, h⟩
  · exact .away (by rw [h.nodes]) fun e he => Or.inl (h.msgs e he)
  by_cases hi : i ≠ L
  · exact .away (by rw [h.eq, applyHR_node, if_neg fun e => hi e.symm]) fun e he =>
      (applyHR_msgs (h.eq ▸ he)).imp_right fun ⟨h', _⟩ => h' ▸ hi
  obtain rfl : L = i := (Classical.not_not.mp hi).symm
  have hs := h.eq
  have hle : r.node.term ≤ (s.nodes L).term := by have := S.le; rwa [h.node, if_pos rfl, ← S.est.term] at this
  have hl := S.est.role
  -- an AppendEntries of the leader's own term would have been sent by the leader itself
  have noAE : ∀ l pi pt es lc, inp ≠ .msg (.ae (s.nodes L).term l pi pt es lc) := by
    intro l pi pt es lc hin
    obtain ⟨_, e, d⟩ := h.msg _ hin
    exact d.ne (d.sender ▸ S.inv.ae_src ⟨S.est.lt, hl, rfl⟩ d.mem d.body)
  cases h.does with
  | same => exact .same _ hs ⟨Or.inl rfl, fun d b hm => (Inp.refusals _ _ _ _ d b hm).imp_left fun ⟨t, f, e⟩ => ⟨t, false, f, e⟩⟩
  | down b hd =>
    obtain ⟨l, pi, pt, es, lc, rfl⟩ := hd.ae_of_eq (Nat.le_antisymm hle hd.le)
    exact absurd rfl (noAE l pi pt es lc)
  | grant t' c li lt x1 h1 =>
    rcases h1 with ⟨rfl, rfl⟩ | ⟨rfl, ht⟩
    · exact .same _ hs ⟨Or.inr ⟨c, rfl⟩, fun d b hm => Or.inl ⟨_, _, _, (Prod.mk.inj (List.mem_singleton.mp hm)).2⟩⟩
    · exact absurd hle (Nat.not_le.mpr ht)
  | campaign hnl | campaignWin hnl => exact absurd hl hnl
  | vote _ _ hc | elect _ _ hc => exact absurd (hc.symm.trans hl) nofun
  | hb => exact .hb hs
  | accept t' l pi pt es lc hle' =>
    have : t' = (s.nodes L).term := Nat.le_antisymm (by rwa [(ev_eq (aeAccept_fr ..).ev).1] at hle) hle'
    exact absurd rfl (this ▸ noAE l pi pt es lc)
  | ack t' f m _ hsa =>
    obtain ⟨m0, e, d⟩ := h.msg _ rfl
    exact .ack m0 e d.act d.find d.can d.mem d.dst f m (hsa S.rep.sa ▸ d.body) hs
  | nack t' f m =>
    refine .nack f _ hs rfl ?_
    show (if _ then _ else _) = _ ∨ _
    split
    · exact Or.inl rfl
    · exact Or.inr rfl
  | append f c =>
    exact .submit f c hs

/-- the leader's node after the step, in the terms the progress proof needs -/
structure LPost (x x' : Node) : Prop where
  role : x'.role = x.role
  term : x'.term = x.term
  log : x.log <+: x'.log
  commit : x.commit ≤ x'.commit

theorem step_nodeL {v : Variant} {s : St} {a : Act} {L : Nat} {r : HR} (hs : step v s a = applyHR s L r) :
    (step v s a).1.nodes L = r.node := by
  rw [hs, applyHR_node, if_pos rfl]

structure VoteOnly (x y : Node) : Prop where
  role : y.role = x.role
  term : y.term = x.term
  log : y.log = x.log
  commit : y.commit = x.commit
  ni : y.nextIndex = x.nextIndex
  mi : y.matchIndex = x.matchIndex
  la : y.lastApplied = x.lastApplied
  pending : y.pending = x.pending

theorem lsame_node {x : Node} {r : HR} (h : LSame x r) : VoteOnly x r.node := by
  rcases h.node with h | ⟨c, h⟩ <;> rw [h] <;> exact ⟨rfl, rfl, rfl, rfl, rfl, rfl, rfl, rfl⟩

theorem Stable.post {v : Variant} {s : St} {a : Act} {L t : Nat} (S : Stable v s a L t) :
    LPost (s.nodes L) ((step v s a).1.nodes L) := by
  cases lstep S with
  | away hn => rw [hn]; exact ⟨rfl, rfl, List.prefix_rfl, Nat.le_refl _⟩
  | same r hs h =>
    rw [step_nodeL hs]
    have k := lsame_node h
    exact ⟨k.role, k.term, by rw [k.log]; exact List.prefix_rfl, by rw [k.commit]; exact Nat.le_refl _⟩
  | hb hs => rw [step_nodeL hs]; exact ⟨rfl, rfl, List.prefix_rfl, Nat.le_refl _⟩
  | submit f c hs => rw [step_nodeL hs]; exact ⟨rfl, rfl, List.prefix_append _ _, Nat.le_refl _⟩
  | ack _ e _ _ _ _ _ f m _ hs =>
    rw [step_nodeL hs]
    have hf := ack_facts s.n (s.nodes L) L f m (S.inv.clen L)
    refine ⟨hf.role, hf.term, by rw [hf.log]; exact List.prefix_rfl, ?_⟩
    rcases hf.commit with h | ⟨N, h1, _, _, _, h5⟩ <;> omega
  | nack f r hs hn => rw [step_nodeL hs, hn]; exact ⟨rfl, rfl, List.prefix_rfl, Nat.le_refl _⟩

theorem est_step {v : Variant} {s : St} {a : Act} {L t : Nat} (S : Stable v s a L t) : Est (step v s a).1 L t := by
  have hp := S.post
  exact ⟨by rw [step_n]; exact S.est.lt, by rw [hp.role]; exact S.est.role, by rw [hp.term]; exact S.est.term⟩

end HappyModel.C11
