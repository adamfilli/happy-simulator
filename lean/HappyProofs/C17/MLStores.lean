import HappyModel.C17.Spec
/-!
`storeOf st nk` is the content of one replica's part of an `S` line (the present keys `< nk`, in order, with their
values): what `showStore` (`HappyModel/C17/Base.lean`) prints and `Spec.parseStore` reads back.  That a printed
line parses back to `storeOf` (decimal printing / `String.splitOn` round trip) is not proved.
-/
namespace HappyModel.C17

def storeOf (st : Nat → Option Val) (nk : Nat) : Spec.Store :=
  (List.range nk).filterMap fun k => (st k).map fun v => (k, v)

theorem mem_storeOf (st : Nat → Option Val) (nk : Nat) (kv : Nat × Nat) :
    kv ∈ storeOf st nk ↔ kv.1 < nk ∧ st kv.1 = some kv.2 := by
  unfold storeOf
  rw [List.mem_filterMap]
  constructor
  · rintro ⟨k, hk, he⟩
    rw [List.mem_range] at hk
    cases hs : st k with
    | none => rw [hs] at he; cases he
    | some v =>
      rw [hs] at he
      cases he
      exact ⟨hk, hs⟩
  · rintro ⟨h1, h2⟩
    exact ⟨kv.1, List.mem_range.mpr h1, by rw [h2]; rfl⟩

theorem storeOf_succ (st : Nat → Option Val) (nk : Nat) :
    storeOf st (nk + 1) = storeOf st nk ++ (match st nk with | some v => [(nk, v)] | none => []) := by
  unfold storeOf
  rw [List.range_succ, List.filterMap_append]
  congr 1
  cases h : st nk <;> simp [h]

theorem lookup_storeOf_ge (st : Nat → Option Val) (nk k : Nat) (hk : nk ≤ k) :
    (storeOf st nk).find? (·.1 == k) = none := by
  rw [List.find?_eq_none]
  intro kv hkv
  have := (mem_storeOf st nk kv).mp hkv
  simp only [beq_iff_eq]
  omega

theorem lookup_storeOf (st : Nat → Option Val) (nk k : Nat) (hk : k < nk) :
    Spec.lookup (storeOf st nk) k = st k := by
  show ((storeOf st nk).find? (·.1 == k)).map (·.2) = st k
  induction nk with
  | zero => omega
  | succ m ih =>
    rw [storeOf_succ, List.find?_append]
    by_cases e : k = m
    · subst e
      rw [lookup_storeOf_ge st k k (Nat.le_refl _)]
      cases hs : st k <;> simp
    · have hlt : k < m := by omega
      have ih' := ih hlt
      cases hf : (storeOf st m).find? (·.1 == k) with
      | some x => rw [hf] at ih'; simpa using ih'
      | none =>
        rw [hf] at ih'
        have h0 : st k = none := by simpa using ih'.symm
        rw [h0]
        cases hs : st m with
        | none => simp
        | some v =>
          have : (m == k) = false := by simp; omega
          simp [this]

theorem sameMap_storeOf_self (st : Nat → Option Val) (nk : Nat) :
    Spec.sameMap (storeOf st nk) (storeOf st nk) = true := by
  have h : (storeOf st nk).all (fun kv => Spec.lookup (storeOf st nk) kv.1 == some kv.2) = true := by
    rw [List.all_eq_true]
    intro kv hkv
    obtain ⟨h1, h2⟩ := (mem_storeOf st nk kv).mp hkv
    rw [lookup_storeOf st nk kv.1 h1, h2]
    simp
  unfold Spec.sameMap
  rw [h]; rfl

theorem storeOf_congr (a b : Nat → Option Val) (nk : Nat) (h : ∀ k, k < nk → a k = b k) :
    storeOf a nk = storeOf b nk := by
  induction nk with
  | zero => rfl
  | succ m ih =>
    rw [storeOf_succ, storeOf_succ, ih (fun k hk => h k (by omega)), h m (by omega)]

/-- the stores of all `n` replicas, as the last `S` line shows them -/
def modelStores (store : Nat → Nat → Option Val) (n nk : Nat) : List Spec.Store :=
  (List.range n).map fun i => storeOf (store i) nk

theorem converged_of_agree (store : Nat → Nat → Option Val) (n nk : Nat)
    (h : ∀ i j k, i < n → j < n → store i k = store j k) : Spec.converged (modelStores store n nk) = true := by
  unfold modelStores
  cases hn : List.range n with
  | nil => rfl
  | cons i0 rest =>
    show (rest.map fun i => storeOf (store i) nk).all (Spec.sameMap (storeOf (store i0) nk)) = true
    rw [List.all_eq_true]
    intro x hx
    obtain ⟨i, hi, rfl⟩ := List.mem_map.mp hx
    have hi0 : i0 < n := List.mem_range.mp (by rw [hn]; simp)
    have hin : i < n := List.mem_range.mp (by rw [hn]; simp [hi])
    rw [storeOf_congr (store i) (store i0) nk (fun k _ => h i i0 k hin hi0)]
    exact sameMap_storeOf_self _ _

end HappyModel.C17
