import HappyProofs.C16.RawMut
/-!
Read-after-write over every interleaving: extending the context by one observation.  A later segment starts no
id (`ext_same`: the state already satisfies the invariant in the old context); a first segment makes its id join
`started`, and the state differs from one that satisfies the invariant in the old context by what the first segment
of a `get` / `put` / `delete` / `flush` does after its evictions and write-backs (`ext_start`).
-/
namespace HappyModel.C16

variable {R : WOrd}

theorem nodup_fst_snoc {β} {l : List (Nat × β)} (nd : (l.map (·.1)).Nodup) {i : Nat} (h : ∀ x ∈ l, x.1 ≠ i)
    (p : β) : ((l ++ [(i, p)]).map (·.1)).Nodup := by
  rw [List.map_append]
  exact nodup_snoc nd fun hm => by obtain ⟨x, hx, e⟩ := List.mem_map.mp hm; exact h x hx e

theorem readGood_of_fresh (L : OrdLaws R) {g : Gh} (gi : GI g) (o : Obs) {k : Key} {v : Option Nat} {r : Nat}
    (hr : r ≤ g.evs.length) (h : FreshR R g k v (fun j => CompletedBefore g.evs j r)) :
    ReadGoodP R g.ops (g.evs ++ [o]) k r g.evs.length v := by
  have hcb : ∀ j, CompletedBefore (g.evs ++ [o]) j r → CompletedBefore g.evs j r ∧ j ∈ g.started := by
    intro j hc
    have hc' := (cb_snoc o hr).mp hc
    refine ⟨hc', Classical.byContradiction fun hn => ?_⟩
    obtain ⟨e, he, _⟩ := hc'
    rw [gi.s2 j hn] at he; cases he
  rcases h with ⟨i, op, hi, hm, hw, hall⟩ | ⟨hv, hall⟩
  · refine Or.inl ⟨i, op, hm, hw, ?_, ?_⟩
    · cases hs : firstIdx g.evs i with
      | none => have := gi.s1 i hi; rw [hs] at this; cases this
      | some s => exact ⟨s, firstIdx_snoc_some o hs, firstIdx_lt hs⟩
    · intro j op' hjm hk hc
      obtain ⟨hc', hj⟩ := hcb j hc
      exact L.snoc o (gi.s1 j hj) (hall j op' hj hjm hk hc')
  · refine Or.inr ⟨hv, ?_⟩
    intro j op' hjm hk hc
    obtain ⟨hc', hj⟩ := hcb j hc
    exact hall j op' hj hjm hk hc'

theorem gi_ext {g : Gh} (gi : GI g) (o : Obs) (new : List Nat)
    (hnew : ∀ j ∈ new, j = o.i)
    (hst : o.res.isSome → o.i ∈ g.started ++ new)
    (hd : GetDone (ReadGood g.ops) g.ops g.evs o) :
    GI (g.ext o new) where
  nd := gi.nd
  s1 := by
    intro j hj
    rcases mem_ext_started.mp hj with hj | hj
    · exact (firstIdx_snoc_isSome o (gi.s1 j hj)).symm ▸ gi.s1 j hj
    · obtain ⟨r, hr, _⟩ := firstIdx_snoc_self g.evs o
      rw [hnew j hj]; exact hr ▸ rfl
  s2 := fun j hj =>
    endIdx_snoc_running o (gi.s2 j fun h => hj (mem_ext_started.mpr (Or.inl h)))
      (fun hs e => hj (e ▸ hst hs))
  d := ReadsOk.snoc (fun o hr h => readGoodP_snoc nfLaws o hr h) gi.d o hd

theorem log_ext (L : OrdLaws R) {g : Gh} (gi : GI g) (d : ReadsOk (ReadGoodP R g.ops) g.ops g.evs) (o : Obs) (new : List Nat)
    (hnew : ∀ j ∈ new, j = o.i) (hst : o.res.isSome → o.i ∈ g.started ++ new)
    (hd : GetDone (ReadGoodP R g.ops) g.ops g.evs o) :
    GI (g.ext o new) ∧ ReadsOk (ReadGoodP R g.ops) g.ops (g.evs ++ [o]) :=
  ⟨gi_ext gi o new hnew hst (hd.mono fun h => ReadGoodP.mono (Q := NotFollowed) L.nf h),
   ReadsOk.snoc (fun o hr h => readGoodP_snoc L o hr h) d o hd⟩

theorem ext_same (L : OrdLaws R) {g : Gh} {s : St} (h : RInvG R g s) (o : Obs)
    (hres : o.res.isSome → ∀ x ∈ s.pend, x.1 ≠ o.i)
    (hst : o.res.isSome → o.i ∈ g.started)
    (hd : GetDone (ReadGoodP R g.ops) g.ops g.evs o) :
    RInvG R (g.ext o []) s := by
  obtain ⟨gi, pi, vi, d⟩ := h
  have hfx : ∀ {k v} {P : Nat → Prop}, FreshR R g k v P → FreshR R (g.ext o []) k v P := FreshR.ext_nil L o gi.s1
  obtain ⟨gi', d'⟩ := log_ext L gi d o [] (fun _ hj => nomatch hj) (fun hs => List.mem_append_left _ (hst hs)) hd
  refine ⟨gi',
    ⟨fun x hx => ?_, pi.pendND, pi.infl, pi.pOp, fun i v hm k hk => (pi.hit i v hm k hk).ext L gi o []⟩,
    ⟨vi.dsub, fun k v hv => hfx (vi.c k v hv), fun k hk => hfx (vi.b k hk), fun i k e hm => ?_⟩, d'⟩
  · obtain ⟨h1, h2⟩ := pi.pendS x hx
    exact ⟨mem_ext_started.mpr (Or.inl h1), endIdx_snoc_running o h2 (fun hs e => hres hs x hx e.symm)⟩
  · obtain ⟨hf, h2, h3⟩ := vi.miss i k e hm
    exact ⟨hf.ext L gi o [], h2, h3⟩

/-- a first segment, relative to a state `sm` that satisfies the invariant in the old context.  The hypotheses come in
groups: what the segment leaves pending and counts (`hpend` … `hepoch`), the keys it does not write (`hoc`, `hod`,
`hoe`: untouched), its own key (`hkc`, `hkd`, `hkm`: the cache holds its value, the key is dirty or its backing-store
write in flight, every pending miss of the key is now stale), and the continuation of a `get` (`hhit`, `hmiss`). -/
theorem ext_start (L : OrdLaws R) {g : Gh} {sm s' : St} {i : Nat} {op : OpK} {o : Obs} {extra : List (Nat × Pend)}
    (h : RInvG R g sm) (hi : i ∉ g.started) (hop : (i, op) ∈ g.ops) (hoi : o.i = i)
    (hpend : s'.pend = sm.pend ++ extra)
    (hextra : extra = [] ∨ ∃ p, extra = [(i, p)] ∧ PendOf op p ∧ o.res = none)
    (hres : o.res.isSome → ∀ k, op ≠ .get k)
    (hinfl : ∀ k, cnt s'.infl k = cnt sm.infl k + keyCount bwKey extra k)
    (hepoch : ∀ k, cnt sm.epoch k ≤ cnt s'.epoch k)
    (hback : s'.back = sm.back)
    (hdsup : ∀ x, x ∈ sm.dirty → x ∈ s'.dirty)
    (hoc : ∀ x, wk op ≠ some x → aget? s'.cache x = aget? sm.cache x)
    (hod : ∀ x, wk op ≠ some x → x ∈ s'.dirty → x ∈ sm.dirty)
    (hoe : ∀ x, wk op ≠ some x → cnt s'.epoch x = cnt sm.epoch x)
    (hkc : ∀ k v, wk op = some k → aget? s'.cache k = some v → wkv op = some (k, some v))
    (hkd : ∀ k, wk op = some k → k ∈ s'.dirty ∨ BP s' k i)
    (hkm : ∀ k, wk op = some k → ∀ j e, (j, Pend.getMiss k e) ∈ sm.pend → e < cnt s'.epoch k)
    (hds : ∀ x ∈ s'.dirty, x ∈ akeys s'.cache)
    (hhit : ∀ v, (i, Pend.getHit v) ∈ extra → ∀ k, op = .get k → aget? sm.cache k = some v)
    (hmiss : ∀ k e, (i, Pend.getMiss k e) ∈ extra → k ∉ akeys sm.cache ∧ e = cnt sm.epoch k)
    (hissue : (wk op).isSome → ∀ j, j ∈ (g.ext o [i]).started → R (g.evs ++ [o]) i j) :
    RInvG R (g.ext o [i]) s' := by
  subst hoi
  obtain ⟨gi, pi, vi, d⟩ := h
  have hi0 : endIdx g.evs o.i = none := gi.s2 _ hi
  have hopu : ∀ op', (o.i, op') ∈ g.ops → op' = op := fun op' h => ops_unique gi.nd h hop
  have hiS : o.i ∈ (g.ext o [o.i]).started := mem_ext_started.mpr (Or.inr (List.mem_singleton_self _))
  have hiNotPend : ∀ x ∈ sm.pend, x.1 ≠ o.i := fun x hx e => hi (e ▸ (pi.pendS x hx).1)
  have hex : ∀ x ∈ extra, x.1 = o.i ∧ PendOf op x.2 ∧ o.res = none := by
    rcases hextra with rfl | ⟨p, rfl, h1, h2⟩
    · exact fun _ hx => nomatch hx
    · exact fun x hx => List.mem_singleton.mp hx ▸ ⟨rfl, h1, h2⟩
  -- a value fresh for `k` stays so if the new operation does not write `k`, or is one of those it is fresh against
  have hfx : ∀ {k v} {P P' : Nat → Prop}, (∀ j, j ∈ g.started → P' j → P j) → (wk op = some k → ¬ P' o.i) →
      FreshR R g k v P → FreshR R (g.ext o [o.i]) k v P' := by
    intro k v P P' hP hn hf
    refine FreshR.ext L o [o.i] gi.s1 hP ?_ hf
    intro j op' hj _ hjm hk
    rw [List.mem_singleton.mp hj] at hjm ⊢
    exact hn (hopu op' hjm ▸ hk)
  have hget : ∀ {k}, op = .get k → ∀ op', (o.i, op') ∈ g.ops → wk op' ≠ some k := fun e op' hm => by
    rw [hopu op' hm, e]; exact nofun
  obtain ⟨gi', d'⟩ := log_ext L gi d o [o.i] (fun j hj => List.mem_singleton.mp hj)
    (fun _ => List.mem_append_right _ (List.mem_singleton_self _))
    (fun k rs hm hres' _ _ => absurd (hopu _ hm).symm (hres hres' k))
  refine ⟨gi', ⟨?_, ?_, ?_, ?_, ?_⟩, ⟨hds, ?_, ?_, ?_⟩, d'⟩
  · intro x hx
    rcases List.mem_append.mp (hpend ▸ hx) with hx | hx
    · obtain ⟨h1, h2⟩ := pi.pendS x hx
      exact ⟨mem_ext_started.mpr (Or.inl h1), endIdx_snoc_running o h2 (fun _ e => hiNotPend x hx e.symm)⟩
    · obtain ⟨e, _, hon⟩ := hex x hx
      rw [e]
      exact ⟨hiS, endIdx_snoc_running o hi0 (Obs.of_res_none hon)⟩
  · rw [hpend]
    rcases hextra with rfl | ⟨p, rfl, _⟩
    · rw [List.append_nil]; exact pi.pendND
    · exact nodup_fst_snoc pi.pendND hiNotPend p
  · intro k
    rw [hinfl, pi.infl, hpend, keyCount_append]
  · intro x hx
    rcases List.mem_append.mp (hpend ▸ hx) with hx | hx
    · exact pi.pOp x hx
    · exact ⟨op, (hex x hx).1 ▸ hop, (hex x hx).2.1⟩
  · intro j v hm k hk
    rcases List.mem_append.mp (hpend ▸ hm) with hm | hm
    · exact (pi.hit j v hm k hk).ext L gi o _
    · obtain rfl : j = o.i := (hex _ hm).1
      have hopk := (hopu _ hk).symm
      exact FreshAtR.start L gi o (fun _ _ _ _ => trivial) (hget hopk) (vi.c k v (hhit v hm k hopk))
  · intro x v hv
    by_cases hx : wk op = some x
    · exact FreshR.self hiS hop (hkc x v hx hv) (fun j _ hj _ _ _ => hissue (by rw [hx]; rfl) j hj)
    · rw [hoc x hx] at hv
      exact hfx (fun _ _ h => h) (fun e => absurd e hx) (vi.c x v hv)
  · intro x hxd
    rw [hback]
    refine hfx (P := fun j => ¬ BP sm x j) (P' := fun j => ¬ BP s' x j) (fun j _ hp hb => hp ?_) (fun hx hp => ?_)
      (vi.b x fun h => hxd (hdsup x h))
    · obtain ⟨p, hp, hk⟩ := hb
      exact ⟨p, hpend ▸ List.mem_append_left _ hp, hk⟩
    · exact (hkd x hx).elim hxd hp
  · intro j k e hm
    rcases List.mem_append.mp (hpend ▸ hm) with hm | hm
    · obtain ⟨hf, h2, h3⟩ := vi.miss j k e hm
      refine ⟨hback ▸ hf.ext L gi o _, Nat.le_trans h2 (hepoch k), fun he => ?_⟩
      by_cases hx : wk op = some k
      · have := hkm k hx j e hm; omega
      · rw [hoe k hx] at he
        exact fun hd => h3 he (hod k hx hd)
    · obtain ⟨rfl, hpo, _⟩ := hex _ hm
      obtain ⟨hkc', hee⟩ := hmiss k e hm
      have hopk : op = .get k := by
        cases op <;> first | exact absurd hpo id | (cases hpo; rfl)
      have hkd' : k ∉ sm.dirty := fun h => hkc' (vi.dsub k h)
      refine ⟨hback ▸ FreshAtR.start L gi o (fun j r _ hc hb => Holds.running (fun x hx => (pi.pendS x hx).2) hb hc) (hget hopk) (vi.b k hkd'),
        hee ▸ hepoch k, fun _ hd => hkd' (hod k (hopk ▸ nofun) hd)⟩

end HappyModel.C16
