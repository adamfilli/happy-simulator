import HappyProofs.C19.MQOrder
/-!
`RedelivLegit` is a condition on *model states*.  It follows from the plain engine fact `TimerCausal`: a
`message_redelivery` event is delivered only if one that `schedule_redelivery` handed out is still outstanding (the
engine delivers only events that exist) — `causal_legit`: a timer is handed out only for a message in flight
(`Step.tmoEv_inflight`), which was dispatched, and counts never decrease (`Step.cnt`).
-/
namespace HappyModel.C19

/-- timers outstanding after one step: a `tmo k` that answered with an event adds one, a delivered
    `message_redelivery` consumes one -/
def timersAfter (out : List Nat) (a : Act) (o : Out) : List Nat :=
  match a with
  | .tmo k => if o = .tmoEv then k :: out else out
  | .redeliv k => out.erase k
  | _ => out

/-- the engine delivers a `message_redelivery` event only if one is outstanding -/
def TimerCausal (cfg : Cfg) : MQ → List Nat → List (Nat × Act) → Prop
  | _, _, [] => True
  | s, out, (t, a) :: rest =>
    (match a with | .redeliv k => k ∈ out | _ => True) ∧
      TimerCausal cfg (s.step cfg t a).1 (timersAfter out a (s.step cfg t a).2) rest

theorem causal_legit (cfg : Cfg) : ∀ (sched : List (Nat × Act)) (s : MQ) (out : List Nat),
    (∀ x ∈ s.inflight, 1 ≤ s.cnt x) → (∀ k ∈ out, 1 ≤ s.cnt k) → TimerCausal cfg s out sched →
      RedelivLegit cfg s sched
  | [], _, _, _, _, _ => trivial
  | (t, a) :: rest, s, out, hI, hO, hc => by
    obtain ⟨hc1, hc2⟩ := hc
    obtain ⟨hmono, hinf⟩ := (step_spec cfg t s a).cnt
    refine ⟨?_, causal_legit cfg rest _ _ (hinf hI) ?_ hc2⟩
    · cases a with
      | redeliv k => exact hO k hc1
      | _ => trivial
    · intro k hk
      cases a with
      | tmo k' =>
        simp only [timersAfter] at hk
        split at hk
        · next ho =>
          rcases List.mem_cons.1 hk with rfl | hk
          · have := hI k ((step_spec cfg t s (.tmo k)).tmoEv_inflight ho rfl)
            have := hmono k; omega
          · have := hO k hk; have := hmono k; omega
        · have := hO k hk; have := hmono k; omega
      | redeliv k' =>
        have := hO k (List.mem_of_mem_erase hk); have := hmono k; omega
      | _ => have := hO k hk; have := hmono k; omega

theorem first_deliveries_in_publish_order_causal (cfg : Cfg) (hl : cfg.legacy = false)
    (sched : List (Nat × Act)) (h : TimerCausal cfg {} [] sched) :
    jOrder {} (MQ.run cfg {} sched) = none :=
  first_deliveries_in_publish_order cfg hl sched (causal_legit cfg sched {} [] (by simp) (by simp) h)

-- one case per constructor, as for `decRedelivLegit`
instance decTimerCausal (cfg : Cfg) : ∀ s out sched, Decidable (TimerCausal cfg s out sched)
  | _, _, [] => isTrue trivial
  | s, out, (t, a) :: rest =>
    have : Decidable (TimerCausal cfg (s.step cfg t a).1 (timersAfter out a (s.step cfg t a).2) rest) :=
      decTimerCausal cfg _ _ rest
    match a with
    | .redeliv k => (inferInstance : Decidable (k ∈ out ∧ TimerCausal cfg _ _ rest))
    | .pub | .poll | .fire _ | .recv _ | .ack _ | .rej _ _ | .tmo _ | .sub _ | .unsub _ =>
      (inferInstance : Decidable (True ∧ TimerCausal cfg _ _ rest))

/-- the demo schedule of `MQOrder` (a timeout hands out an event, the event is delivered) is causal; delivering a
    redelivery event nobody handed out, or the same one twice, is not -/
example : TimerCausal ordDemoCfg {} [] ordDemoSched := by decide +kernel
example : ¬ TimerCausal ordDemoCfg {} [] [(0, .sub 7), (1, .pub), (2, .poll), (3, .redeliv 0)] := by decide +kernel
example : ¬ TimerCausal ordDemoCfg {} []
    [(0, .sub 7), (1, .pub), (3, .poll), (4, .tmo 0), (5, .redeliv 0), (6, .redeliv 0)] := by decide +kernel

end HappyModel.C19
