import HappyProofs.C17.MLShape
/-!
Run invariants of every `LeaderNode` model, on the common view.

* `AuxInv` — anti-entropy messages and handlers name leaders, every key that has a version is in the dict order
  (so `versionsOf` copies it), a request handler's message id is an id already handed out;
* `SubInv R` — every anti-entropy copy is `R`-below the current version of its sender; of the model's order `R`
  (`MLM.Sub`, `MLT.OGe`) only reflexivity and "`_install` never moves a version down" (`hst`) are needed;
* `VersChange`, `SameWR` — a step that runs no client-write / `Replicate` handler changes a version only by the
  `_install` of the head item of an anti-entropy handler, and leaves the `Replicate` messages and the write /
  `Replicate` handlers as they are: what it adds is of another kind.
-/
namespace HappyModel.C17.LN
open HappyModel.C17.ML (St Version Msg Proc MKind PKind versionsOf)

structure AuxInv (c : Core) : Prop where
  msgN : ∀ mid m, c.msgs mid = some m → (m.kind = .aereq ∨ m.kind = .aeresp) → m.src < c.n ∧ m.dst < c.n
  procN : ∀ pid p, c.procs pid = some p → (p.kind = .aereq ∨ p.kind = .aeresp) → p.node < c.n ∧ p.src < c.n
  ord : ∀ i k, (c.vers i k).isSome = true → k ∈ c.order i
  opLt : ∀ pid p, c.procs pid = some p → p.kind = .aereq → p.op < c.nm

theorem aux_setProc {s : St} (h : AuxInv (core s)) (pid : Nat) (p : Proc)
    (hn : (p.kind = .aereq ∨ p.kind = .aeresp) → p.node < s.n ∧ p.src < s.n)
    (ho : p.kind = .aereq → p.op < s.nm) : AuxInv (core (s.setProc pid p)) := by
  refine ⟨h.msgN, fun pid1 q hq hk => ?_, h.ord, fun pid1 q hq hk => ?_⟩
  · rcases upd_some hq with ⟨_, rfl⟩ | ⟨_, hq⟩
    · exact hn hk
    · exact h.procN pid1 q hq hk
  · rcases upd_some hq with ⟨_, rfl⟩ | ⟨_, hq⟩
    · exact ho hk
    · exact h.opLt pid1 q hq hk

theorem aux_spawn {s : St} (h : AuxInv (core s)) (p : Proc)
    (hn : (p.kind = .aereq ∨ p.kind = .aeresp) → p.node < s.n ∧ p.src < s.n)
    (ho : p.kind = .aereq → p.op < s.nm) : AuxInv (core (s.spawn p)) :=
  have h' := aux_setProc h s.np p hn ho
  ⟨h'.msgN, h'.procN, h'.ord, h'.opLt⟩

theorem aux_setProc_other {s : St} (h : AuxInv (core s)) (pid : Nat) (p : Proc)
    (hk : p.kind = .write ∨ p.kind = .repl ∨ p.kind = .read ∨ p.kind = .ae) : AuxInv (core (s.setProc pid p)) :=
  aux_setProc h pid p (fun e => absurd e (PKind.not_ae hk)) (fun e => absurd (.inl e) (PKind.not_ae hk))

theorem aux_spawn_other {s : St} (h : AuxInv (core s)) (p : Proc)
    (hk : p.kind = .write ∨ p.kind = .repl ∨ p.kind = .read ∨ p.kind = .ae) : AuxInv (core (s.spawn p)) :=
  aux_spawn h p (fun e => absurd e (PKind.not_ae hk)) (fun e => absurd (.inl e) (PKind.not_ae hk))

theorem aux_setMsg {s : St} (h : AuxInv (core s)) (mid : Nat) (m : Msg)
    (hn : (m.kind = .aereq ∨ m.kind = .aeresp) → m.src < s.n ∧ m.dst < s.n) : AuxInv (core (s.setMsg mid m)) := by
  refine ⟨fun mid1 q hq hk => ?_, h.procN, h.ord, h.opLt⟩
  rcases upd_some hq with ⟨_, rfl⟩ | ⟨_, hq⟩
  · exact hn hk
  · exact h.msgN mid1 q hq hk

theorem aux_send {s : St} (h : AuxInv (core s)) (m : Msg)
    (hn : (m.kind = .aereq ∨ m.kind = .aeresp) → m.src < s.n ∧ m.dst < s.n) : AuxInv (core (s.send m)) :=
  have h' := aux_setMsg h s.nm m hn
  ⟨h'.msgN, h'.procN, h'.ord, fun pid q hq hk => Nat.lt_succ_of_lt (h'.opLt pid q hq hk)⟩

theorem aux_inst {s : St} (h : AuxInv (core s)) (r : Res) (i k : Nat) (v : Version) : AuxInv (core (r.inst s i k v)) := by
  unfold Res.inst
  split
  · refine ⟨h.msgN, h.procN, ?_, h.opLt⟩
    intro i' k' hs
    have hs' : (upd2 s.vers i k (some (r.pick (s.vers i k) v)) i' k').isSome = true := hs
    show k' ∈ (if (s.order i).contains k then s.order else upd s.order i (s.order i ++ [k])) i'
    rw [upd2_apply] at hs'
    by_cases e : i' = i ∧ k' = k
    · obtain ⟨e1, e2⟩ := e
      subst e1; subst e2
      split
      · exact List.contains_iff_mem.mp ‹_›
      · rw [upd_same]; exact List.mem_append_right _ (List.mem_singleton.mpr rfl)
    · rw [if_neg e] at hs'
      have := h.ord i' k' hs'
      split
      · exact this
      · rw [upd_apply]; split
        · rename_i e1; subst e1; exact List.mem_append_left _ this
        · exact this
  · exact h

theorem aux_aeContinue {r : Res} {s s' : St} {pid : Nat} {p p' : Proc} {items : List (Nat × Version)}
    (sh : AeShape r s pid p items p' s') (h : AuxInv (core s)) (hn : p.node < s.n ∧ p.src < s.n)
    (ho : p.kind = .aereq → p.op < s.nm) : AuxInv (core s') := by
  have hn' : (p'.kind = .aereq ∨ p'.kind = .aeresp) → p'.node < s.n ∧ p'.src < s.n := by
    rw [sh.node, sh.src]; exact fun _ => hn
  have ho' : p'.kind = .aereq → p'.op < s.nm := by
    rw [sh.kind, sh.op]; exact ho
  rcases sh.eq with e | ⟨_, _, e⟩
  · rw [e]; exact aux_setProc h pid p' hn' ho'
  · rw [e]
    exact aux_setProc (aux_send h _ (fun _ => hn)) pid p' hn' (fun hk' => Nat.lt_succ_of_lt (ho' hk'))

theorem step_aux {r : Res} {s s' : St} {a : Act} (sh : StepShape r s a s') (h : AuxInv (core s))
    (hlt : ∀ mid m, s.msgs mid = some m → mid < s.nm) : AuxInv (core s') := by
  cases sh with
  | fail e hv he => rw [he]; exact h
  | tick t ha he => rw [he]; exact h
  | cw op node k v ha hn he => rw [he]; exact aux_spawn_other h _ (.inl rfl)
  | cr op node k ha hn he => rw [he]; exact aux_spawn_other h _ (.inr (.inr (.inl rfl)))
  | ae node peer ha hn hp hl he =>
    rw [he]; exact aux_spawn_other (aux_send h _ (fun _ => ⟨hn, hp⟩)) _ (.inr (.inr (.inr rfl)))
  | dlRepl mid m fin ha h0 hd hk hfin he =>
    rw [he]
    exact aux_spawn_other (aux_setMsg h mid { m with delivered := true } (h.msgN mid m h0)) _ (.inr (.inl rfl))
  | dlAe mid m p p' ha h0 hd hk hpk hpk2 hnode hsrc hop hfin hsent hitems sh =>
    obtain ⟨hN1, hN2⟩ := h.msgN mid m h0 hk
    have hn : p.node < s.n ∧ p.src < s.n := by rw [hnode, hsrc]; exact ⟨hN2, hN1⟩
    have ho : p.kind = .aereq → p.op < s.nm := fun _ => hop ▸ hlt mid m h0
    exact aux_aeContinue sh (aux_spawn (aux_setMsg h mid { m with delivered := true } (h.msgN mid m h0)) p (fun _ => hn) ho) hn ho
  | write1 pid p0 ha h0 hf hk hs he =>
    rw [he]
    exact aux_setProc_other (foldl_send_ind (fun s => AuxInv (core s)) _
      (fun _ _ hs' => aux_send hs' _ (fun e => by rcases e with e | e <;> cases e)) _ _ (aux_inst h r ..)) pid _ (.inl hk)
  | write2 pid p0 ha h0 hf hk hs he => rw [he]; exact aux_setProc_other h pid _ (.inl hk)
  | repl pid p0 ha h0 hf hk he => rw [he]; exact aux_setProc_other (aux_inst h r ..) pid _ (.inr (.inl hk))
  | quiet pid p0 rep ha h0 hf hk he => rw [he]; exact aux_setProc_other h pid _ (.inr (.inr hk))
  | sent pid p0 ha h0 hf hk hs he =>
    rw [he]; exact aux_setProc h pid _ (fun _ => h.procN pid p0 h0 hk) (h.opLt pid p0 h0)
  | wait pid p0 p' k v rest ha h0 hf hk hs hit sh =>
    obtain ⟨f1, _, _, f4, _⟩ := r.inst_frame s p0.node k v
    exact aux_aeContinue sh (aux_inst h r p0.node k v) (f1 ▸ h.procN pid p0 h0 hk) (f4 ▸ h.opLt pid p0 h0)

section
variable {R : Option Version → Version → Prop}

/-- the anti-entropy copies `items`, taken at `src`, are `R`-below what `src` holds now -/
def ItemsS (R : Option Version → Version → Prop) (c : Core) (src : Nat) (items : List (Nat × Version)) : Prop :=
  ∀ kv, kv ∈ items → R (c.vers src kv.1) kv.2

structure SubInv (R : Option Version → Version → Prop) (c : Core) : Prop where
  msgS : ∀ mid m, c.msgs mid = some m → (m.kind = .aereq ∨ m.kind = .aeresp) → ItemsS R c m.src m.items
  procS : ∀ pid p, c.procs pid = some p → (p.kind = .aereq ∨ p.kind = .aeresp) → ItemsS R c p.src p.items

theorem sub_setProc {s : St} (h : SubInv R (core s)) (pid : Nat) (p : Proc)
    (hp : (p.kind = .aereq ∨ p.kind = .aeresp) → ItemsS R (core s) p.src p.items) : SubInv R (core (s.setProc pid p)) := by
  refine ⟨h.msgS, fun pid1 q hq hk => ?_⟩
  rcases upd_some hq with ⟨_, rfl⟩ | ⟨_, hq⟩
  · exact hp hk
  · exact h.procS pid1 q hq hk

theorem sub_spawn {s : St} (h : SubInv R (core s)) (p : Proc)
    (hp : (p.kind = .aereq ∨ p.kind = .aeresp) → ItemsS R (core s) p.src p.items) : SubInv R (core (s.spawn p)) :=
  ⟨h.msgS, (sub_setProc h s.np p hp).procS⟩

theorem sub_setMsg {s : St} (h : SubInv R (core s)) (mid : Nat) (m : Msg)
    (hm : (m.kind = .aereq ∨ m.kind = .aeresp) → ItemsS R (core s) m.src m.items) : SubInv R (core (s.setMsg mid m)) := by
  refine ⟨fun mid1 q hq hk => ?_, h.procS⟩
  rcases upd_some hq with ⟨_, rfl⟩ | ⟨_, hq⟩
  · exact hm hk
  · exact h.msgS mid1 q hq hk

theorem sub_send {s : St} (h : SubInv R (core s)) (m : Msg)
    (hm : (m.kind = .aereq ∨ m.kind = .aeresp) → ItemsS R (core s) m.src m.items) : SubInv R (core (s.send m)) :=
  ⟨(sub_setMsg h s.nm m hm).msgS, h.procS⟩

theorem versionsOf_sub (hrefl : ∀ v, R (some v) v) (s : St) (i : Nat) : ItemsS R (core s) i (versionsOf s i) := by
  intro kv hkv
  obtain ⟨k, _, hk⟩ := List.mem_filterMap.mp hkv
  cases hv : s.vers i k with
  | none => rw [hv] at hk; cases hk
  | some v =>
    rw [hv] at hk; cases hk
    show R (s.vers i k) v
    rw [hv]; exact hrefl v

theorem sub_aeContinue {r : Res} {s s' : St} {pid : Nat} {p p' : Proc} {items : List (Nat × Version)}
    (sh : AeShape r s pid p items p' s') (hrefl : ∀ v, R (some v) v) (h : SubInv R (core s))
    (hi : ItemsS R (core s) p.src items) : SubInv R (core s') := by
  rcases sh.eq with e | ⟨_, _, e⟩
  · rw [e]
    exact sub_setProc h _ _ (fun _ kv hkv => sh.src ▸ hi kv (sh.sub kv hkv))
  · rw [e]
    exact sub_setProc (sub_send h _ (fun _ => versionsOf_sub hrefl s p.node)) _ _
      (fun _ kv hkv => sh.src ▸ hi kv (sh.sub kv hkv))

/-- `Ok k v`: a version that a handler may install (what the model's other invariant says of the versions
handlers carry); `hst`: installing such a version moves no replica's version down -/
theorem step_sub {r : Res} {s s' : St} {a : Act} (sh : StepShape r s a s') (hrefl : ∀ v, R (some v) v)
    (h : SubInv R (core s)) (Ok : Nat → Version → Prop)
    (hok : ∀ pid p, s.procs pid = some p →
      ((p.kind = .write ∨ p.kind = .repl) → Ok p.key p.ver) ∧ ∀ kv, kv ∈ p.items → Ok kv.1 kv.2)
    (hst : ∀ i k inc, Ok k inc → ∀ src k' w, R (s.vers src k') w → R ((r.inst s i k inc).vers src k') w) :
    SubInv R (core s') := by
  have inst : ∀ i k inc, Ok k inc → SubInv R (core (r.inst s i k inc)) := by
    intro i k inc hinc
    obtain ⟨_, _, f3, _, f5⟩ := r.inst_frame s i k inc
    exact ⟨fun mid m hm hk kv hkv => hst i k inc hinc _ _ _ (h.msgS mid m (f5 ▸ hm : s.msgs mid = some m) hk kv hkv),
      fun pid p hp hk kv hkv => hst i k inc hinc _ _ _ (h.procS pid p (f3 ▸ hp : s.procs pid = some p) hk kv hkv)⟩
  cases sh with
  | fail e hv he => rw [he]; exact h
  | tick t ha he => rw [he]; exact h
  | cw op node k v ha hn he => rw [he]; exact sub_spawn h _ nofun
  | cr op node k ha hn he => rw [he]; exact sub_spawn h _ nofun
  | ae node peer ha hn hp hl he =>
    rw [he]
    exact sub_spawn (sub_send h _ (fun _ => versionsOf_sub hrefl s node)) _ nofun
  | dlRepl mid m fin ha h0 hd hk hfin he =>
    rw [he]
    exact sub_spawn (sub_setMsg h mid { m with delivered := true }
      (fun e => by rw [show ({ m with delivered := true } : Msg).kind = .repl from hk] at e
                   rcases e with e | e <;> cases e)) _ nofun
  | dlAe mid m p p' ha h0 hd hk hpk hpk2 hnode hsrc hop hfin hsent hitems sh =>
    have hm := h.msgS mid m h0 hk
    have h1 : SubInv R (core (s.setMsg mid { m with delivered := true })) := sub_setMsg h mid _ (fun _ => hm)
    refine sub_aeContinue sh hrefl (sub_spawn h1 p (fun _ => by rw [hitems]; exact fun _ hkv => nomatch hkv)) ?_
    rw [hsrc]; exact hm
  | write1 pid p0 ha h0 hf hk hs he =>
    rw [he]
    exact sub_setProc (foldl_send_ind (fun s => SubInv R (core s)) _
      (fun _ _ hs' => sub_send hs' _ (fun e => by rcases e with e | e <;> cases e)) _ _
      (inst _ _ _ ((hok pid p0 h0).1 (.inl hk)))) _ _ (fun e => absurd e (PKind.not_ae (.inl hk)))
  | write2 pid p0 ha h0 hf hk hs he =>
    rw [he]; exact sub_setProc h _ _ (fun e => absurd e (PKind.not_ae (.inl hk)))
  | repl pid p0 ha h0 hf hk he =>
    rw [he]
    exact sub_setProc (inst _ _ _ ((hok pid p0 h0).1 (.inr hk))) _ _ (fun e => absurd e (PKind.not_ae (.inr (.inl hk))))
  | quiet pid p0 rep ha h0 hf hk he =>
    rw [he]; exact sub_setProc h _ _ (fun e => absurd e (PKind.not_ae (.inr (.inr hk))))
  | sent pid p0 ha h0 hf hk hs he => rw [he]; exact sub_setProc h _ _ (fun _ => h.procS pid p0 h0 hk)
  | wait pid p0 p' k v rest ha h0 hf hk hs hit sh =>
    have hkv : Ok k v := (hok pid p0 h0).2 (k, v) (by rw [hit]; exact List.mem_cons_self ..)
    have hps := (inst p0.node k v hkv).procS pid p0
      ((r.inst_frame s p0.node k v).2.2.1 ▸ h0 : (r.inst s p0.node k v).procs pid = some p0) hk
    rw [hit] at hps
    exact sub_aeContinue sh hrefl (inst p0.node k v hkv) (fun kv hkv' => hps kv (List.mem_cons_of_mem _ hkv'))

end

def VersChange (r : Res) (s s' : St) : Prop :=
  s'.vers = s.vers ∨ ∃ pid p0 k v rest, s.procs pid = some p0 ∧ (p0.kind = .aereq ∨ p0.kind = .aeresp) ∧
    p0.items = (k, v) :: rest ∧ s'.vers = (r.inst s p0.node k v).vers

theorem step_versChange {r : Res} {s s' : St} {a : Act} (sh : StepShape r s a s') (hw : isWR s a = false) :
    VersChange r s s' := by
  cases sh with
  | cw op node k v ha hn he => subst ha; cases hw
  | dlRepl mid m fin ha h0 hd hk hfin he => subst ha; exact absurd hk (not_repl_of_not_isWR hw h0)
  | dlAe mid m p p' ha h0 hd hk hpk hpk2 hnode hsrc hop hfin hsent hitems sh => exact Or.inl sh.vers
  | write1 pid p0 ha h0 hf hk hs he => subst ha; exact absurd (.inl hk) (not_wr_of_not_isWR hw h0)
  | write2 pid p0 ha h0 hf hk hs he => subst ha; exact absurd (.inl hk) (not_wr_of_not_isWR hw h0)
  | repl pid p0 ha h0 hf hk he => subst ha; exact absurd (.inr hk) (not_wr_of_not_isWR hw h0)
  | wait pid p0 p' k v rest ha h0 hf hk hs hit sh => exact Or.inr ⟨pid, p0, k, v, rest, h0, hk, hit, sh.vers⟩
  | _ => rename_i he; rw [he]; exact Or.inl rfl

structure SameWR (s s' : St) : Prop where
  msg : ∀ mid m, m.kind = .repl → (s.msgs mid = some m ↔ s'.msgs mid = some m)
  proc : ∀ pid p, (p.kind = .write ∨ p.kind = .repl) → (s.procs pid = some p ↔ s'.procs pid = some p)

theorem SameWR.of_eq {s s' : St} (hm : s'.msgs = s.msgs) (hp : s'.procs = s.procs) : SameWR s s' :=
  ⟨fun _ _ _ => by rw [hm], fun _ _ _ => by rw [hp]⟩

theorem SameWR.trans {a b c : St} (h1 : SameWR a b) (h2 : SameWR b c) : SameWR a c :=
  ⟨fun mid m hk => (h1.msg mid m hk).trans (h2.msg mid m hk),
   fun pid p hk => (h1.proc pid p hk).trans (h2.proc pid p hk)⟩

theorem SameWR.replQuiet_iff {s s' : St} (h : SameWR s s') : ReplQuiet (core s) ↔ ReplQuiet (core s') :=
  ⟨fun ⟨qm, qp⟩ => ⟨fun mid m hm hk => qm mid m ((h.msg mid m hk).2 hm) hk,
      fun pid p hp hk => qp pid p ((h.proc pid p hk).2 hp) hk⟩,
   fun ⟨qm, qp⟩ => ⟨fun mid m hm hk => qm mid m ((h.msg mid m hk).1 hm) hk,
      fun pid p hp hk => qp pid p ((h.proc pid p hk).1 hp) hk⟩⟩

theorem upd_iff_of_not {β} {f : Nat → Option β} {i : Nat} {x : β} {K : β → Prop} (hx : ¬ K x)
    (hold : ∀ y, f i = some y → ¬ K y) (j : Nat) (y : β) (hy : K y) :
    f j = some y ↔ upd f i (some x) j = some y := by
  rw [upd_apply]
  split
  · rename_i e
    subst e
    exact ⟨fun h => absurd hy (hold y h), fun h => absurd hy (Option.some.inj h ▸ hx)⟩
  · exact Iff.rfl

theorem sameWR_setProc {s : St} {pid : Nat} (hold : ∀ p0, s.procs pid = some p0 → ¬(p0.kind = .write ∨ p0.kind = .repl))
    (p' : Proc) (hp : ¬(p'.kind = .write ∨ p'.kind = .repl)) : SameWR s (s.setProc pid p') :=
  ⟨fun _ _ _ => Iff.rfl, upd_iff_of_not (K := fun p : Proc => p.kind = .write ∨ p.kind = .repl) hp hold⟩

theorem sameWR_spawn {s : St} (hf : s.procs s.np = none) (p : Proc) (hp : ¬(p.kind = .write ∨ p.kind = .repl)) :
    SameWR s (s.spawn p) :=
  ⟨fun _ _ _ => Iff.rfl, upd_iff_of_not (K := fun p : Proc => p.kind = .write ∨ p.kind = .repl) hp
    (fun y hy => by rw [hf] at hy; cases hy)⟩

theorem sameWR_setMsg {s : St} {mid : Nat} (hold : ∀ m0, s.msgs mid = some m0 → m0.kind ≠ .repl)
    (m' : Msg) (hm : m'.kind ≠ .repl) : SameWR s (s.setMsg mid m') :=
  ⟨upd_iff_of_not (K := fun m : Msg => m.kind = .repl) hm hold, fun _ _ _ => Iff.rfl⟩

theorem sameWR_send {s : St} (hf : s.msgs s.nm = none) (m : Msg) (hm : m.kind ≠ .repl) : SameWR s (s.send m) :=
  ⟨upd_iff_of_not (K := fun m : Msg => m.kind = .repl) hm (fun y hy => by rw [hf] at hy; cases hy),
   fun _ _ _ => Iff.rfl⟩

theorem sameWR_aeContinue {r : Res} {s s' : St} {pid : Nat} {p p' : Proc} {items : List (Nat × Version)}
    (sh : AeShape r s pid p items p' s') (hf : s.msgs s.nm = none)
    (hold : ∀ q, s.procs pid = some q → ¬(q.kind = .write ∨ q.kind = .repl))
    (hpk : p.kind = .aereq ∨ p.kind = .aeresp) : SameWR s s' := by
  have hp' : ¬(p'.kind = .write ∨ p'.kind = .repl) := by
    rw [sh.kind]
    rcases hpk with e | e <;> rw [e] <;> exact fun c => by rcases c with c | c <;> cases c
  rcases sh.eq with e | ⟨_, _, e⟩
  · rw [e]; exact sameWR_setProc hold _ hp'
  · rw [e]; exact (sameWR_send hf { kind := .aeresp, src := p.node, dst := p.src, items := versionsOf s p.node }
      (fun c => nomatch c)).trans (sameWR_setProc (s := s.send _) hold _ hp')

theorem step_sameWR {r : Res} {s s' : St} {a : Act} (sh : StepShape r s a s') (hw : isWR s a = false)
    (fp : s.procs s.np = none) (fm : s.msgs s.nm = none) (hlt : ∀ mid m, s.msgs mid = some m → mid < s.nm) :
    SameWR s s' := by
  cases sh with
  | fail e hv he => rw [he]; exact .of_eq rfl rfl
  | tick t ha he => rw [he]; exact .of_eq rfl rfl
  | cw op node k v ha hn he => subst ha; cases hw
  | cr op node k ha hn he => rw [he]; exact sameWR_spawn fp _ (PKind.not_wr (.inl rfl))
  | ae node peer ha hn hp hl he =>
    rw [he]
    have a1 := sameWR_send fm
      ({ kind := .aereq, src := node, dst := peer, items := versionsOf s node, hash := s.store node } : Msg)
      (fun e => nomatch e)
    exact a1.trans (sameWR_spawn (s := s.send _) fp _ (PKind.not_wr (.inr (.inl rfl))))
  | dlRepl mid m fin ha h0 hd hk hfin he => subst ha; exact absurd hk (not_repl_of_not_isWR hw h0)
  | dlAe mid m p p' ha h0 hd hk hpk hpk2 hnode hsrc hop hfin hsent hitems sh =>
    subst ha
    have hnk : m.kind ≠ .repl := not_repl_of_not_isWR hw h0
    have a1 : SameWR s (s.setMsg mid { m with delivered := true }) :=
      sameWR_setMsg (fun m0 h => by rw [h0] at h; cases h; exact hnk) _ hnk
    have a2 := sameWR_spawn (s := s.setMsg mid { m with delivered := true }) fp p (PKind.not_wr (.inr (.inr hpk2)))
    refine (a1.trans a2).trans (sameWR_aeContinue sh ?_ ?_ hpk2)
    · exact (upd_other _ _ _ _ (Nat.ne_of_gt (hlt mid m h0))).trans fm
    · intro q hq
      have : upd s.procs s.np (some p) s.np = some q := hq
      rw [upd_same] at this; cases this
      exact PKind.not_wr (.inr (.inr hpk2))
  | write1 pid p0 ha h0 hf hk hs he => subst ha; exact absurd (.inl hk) (not_wr_of_not_isWR hw h0)
  | write2 pid p0 ha h0 hf hk hs he => subst ha; exact absurd (.inl hk) (not_wr_of_not_isWR hw h0)
  | repl pid p0 ha h0 hf hk he => subst ha; exact absurd (.inr hk) (not_wr_of_not_isWR hw h0)
  | quiet pid p0 rep ha h0 hf hk he =>
    subst ha; rw [he]
    have hnk := not_wr_of_not_isWR hw h0
    exact SameWR.trans (b := { s with replies := rep }) (.of_eq rfl rfl) (sameWR_setProc
      (fun q hq => by rw [h0] at hq; cases hq; exact hnk) { p0 with seg := p0.seg + 1, fin := true } hnk)
  | sent pid p0 ha h0 hf hk hs he =>
    subst ha; rw [he]
    have hnk := not_wr_of_not_isWR hw h0
    exact sameWR_setProc (fun q hq => by rw [h0] at hq; cases hq; exact hnk)
      { p0 with seg := p0.seg + 1, fin := true } hnk
  | wait pid p0 p' k v rest ha h0 hf hk hs hit sh =>
    subst ha
    obtain ⟨_, _, f3, f4, f5⟩ := r.inst_frame s p0.node k v
    refine (SameWR.of_eq f5 f3).trans (sameWR_aeContinue sh ?_ ?_ hk)
    · rw [f5, f4]; exact fm
    · intro q hq
      rw [f3, h0] at hq; cases hq
      exact not_wr_of_not_isWR hw h0

end HappyModel.C17.LN
