import HappyProofs.C01.Inv
/-!
"During a run, every scheduled event that is live (not cancelled, target not crashed, timestamp not
earlier than the clock at the moment it was scheduled and not later than end_time) is delivered to
its target exactly once, in non-decreasing timestamp order, and events with equal timestamps are
delivered in the order they were created, whether they were scheduled before the run or during it.
At each delivery the simulation clock equals the event's timestamp and it never moves backwards; a
cancelled event is never delivered. With no end_time the run stops exactly when no non-daemon event
is pending, and daemon events alone never keep it alive."

The general theorems hold for every `Machine` (every handler function and crash predicate), every pre-run
schedule, every `endT` and every number of loop iterations.
-/
namespace HappyModel.C01

variable {σ : Type}

abbrev runFrom (mc : Machine σ) (ent : σ) (start : Nat) (pre : List Spec) (endT : Option Nat) (n : Nat) :=
  run mc endT n (init ent start pre)

/-- deliveries are strictly increasing in (time, creation index): time order, FIFO ties by creation,
    pre-run and in-run events alike -/
theorem delivered_sorted (mc : Machine σ) (ent : σ) (start : Nat) (pre : List Spec) (endT : Option Nat)
    (n : Nat) : (runFrom mc ent start pre endT n).log.Pairwise (fun a b => keyLt a b = true) :=
  logSorted_pairwise _ (run_inv mc endT n _ (init_inv ent start pre)).sorted

theorem delivery_times_nondecreasing (mc : Machine σ) (ent : σ) (start : Nat) (pre : List Spec)
    (endT : Option Nat) (n : Nat) :
    (runFrom mc ent start pre endT n).log.Pairwise (fun a b => a.time ≤ b.time) :=
  (delivered_sorted mc ent start pre endT n).imp keyLt_time

/-- among deliveries with the same timestamp, creation order is delivery order -/
theorem fifo_ties (mc : Machine σ) (ent : σ) (start : Nat) (pre : List Spec) (endT : Option Nat)
    (n : Nat) :
    (runFrom mc ent start pre endT n).log.Pairwise (fun a b => a.time = b.time → a.id < b.id) :=
  (delivered_sorted mc ent start pre endT n).imp (by
    intro a b h heq; rw [keyLt_iff] at h; omega)

theorem at_most_once (mc : Machine σ) (ent : σ) (start : Nat) (pre : List Spec) (endT : Option Nat)
    (n : Nat) : ((runFrom mc ent start pre endT n).log.map (·.id)).Nodup :=
  (run_inv mc endT n _ (init_inv ent start pre)).log_ids_nodup

/-- one loop iteration: what a pop does.  A popped event is handed to its handler iff it is not
    cancelled, not in the past and its target is not crashed; then the
    clock becomes exactly the event's timestamp; the clock never moves backwards. -/
theorem pop_verdict (mc : Machine σ) (s : St σ) (e : Ev) :
    let s' := stepWith mc s e
    s.now ≤ s'.now ∧
    (s'.log = s.log ∨ (s'.log = s.log ++ [e] ∧ s'.now = e.time ∧ e.id ∉ s.cancelled ∧ s.now ≤ e.time
        ∧ mc.crashed s.ent e = false)) ∧
    ((e.id ∉ s.cancelled ∧ s.now ≤ e.time ∧ mc.crashed s.ent e = false) → s'.log = s.log ++ [e]) := by
  refine stepWith_cases mc s e ?_ ?_ ?_ ?_
  · exact fun hc => ⟨Nat.le_refl _, .inl rfl, fun h => absurd hc h.1⟩
  · exact fun _ hs => ⟨Nat.le_refl _, .inl rfl, fun h => absurd hs (Nat.not_lt.mpr h.2.1)⟩
  · exact fun _ hn hg => ⟨hn, .inl rfl, fun h => absurd (hg.symm.trans h.2.2) Bool.noConfusion⟩
  · exact fun hc hn hg => ⟨hn, .inr ⟨rfl, rfl, hc, hn, hg⟩, fun _ => rfl⟩

theorem clock_monotone (mc : Machine σ) (endT : Option Nat) (n : Nat) (s : St σ) :
    s.now ≤ (run mc endT n s).now := by
  refine run_induction (motive := fun s' => s.now ≤ s'.now) mc endT ?_ n s (Nat.le_refl _)
  exact fun s' m h _ _ _ => Nat.le_trans h (stepWith_now_ge mc s' m)

theorem popped_unique (mc : Machine σ) (ent : σ) (start : Nat) (pre : List Spec) (endT : Option Nat)
    (n : Nat) : ((runFrom mc ent start pre endT n).popped.map (·.1.id)).Nodup :=
  (run_inv mc endT n _ (init_inv ent start pre)).popped_nodup

theorem primary_count_eq (mc : Machine σ) (ent : σ) (start : Nat) (pre : List Spec) (endT : Option Nat)
    (n : Nat) :
    (runFrom mc ent start pre endT n).primary = countPrimary (runFrom mc ent start pre endT n).heap :=
  (run_inv mc endT n _ (init_inv ent start pre)).prim

/-- an event that was not stale when it was scheduled is never stale while it waits in the heap -/
theorem pending_never_stale (mc : Machine σ) (ent : σ) (start : Nat) (pre : List Spec)
    (endT : Option Nat) (n : Nat) :
    ∀ e ∈ (runFrom mc ent start pre endT n).heap, e.born ≤ e.time →
      (runFrom mc ent start pre endT n).now ≤ e.time :=
  (run_inv mc endT n _ (init_inv ent start pre)).notStale

/-- **completeness with an end time**: when the loop has halted, no event that is still pending is
    live — every pending event is beyond the horizon or was already in the past when scheduled.
    Together with `pop_verdict` (a popped live event is delivered) and `at_most_once`: every live
    event is delivered exactly once. -/
theorem halt_no_live_pending (mc : Machine σ) (ent : σ) (start : Nat) (pre : List Spec) (t : Nat)
    (n : Nat) (hhalt : step mc (some t) (runFrom mc ent start pre (some t) n) = none) :
    ∀ e ∈ (runFrom mc ent start pre (some t) n).heap, e.time < e.born ∨ t < e.time := by
  intro e he
  have hns := pending_never_stale mc ent start pre (some t) n e he
  have : t < _ := halted_of_mem hhalt he
  omega

/-- **auto-termination (the code's notion)**: with no end time the loop halts exactly when the heap
    holds no non-daemon event — daemon events alone never keep it alive -/
theorem autoterm_iff_no_primary_in_heap (mc : Machine σ) (ent : σ) (start : Nat) (pre : List Spec)
    (n : Nat) :
    step mc none (runFrom mc ent start pre none n) = none ↔
      ∀ e ∈ (runFrom mc ent start pre none n).heap, e.daemon = true := by
  have hp := primary_count_eq mc ent start pre none n
  generalize runFrom mc ent start pre none n = s at *
  rw [step_eq_none, ← countPrimary_eq_zero, ← hp]
  cases hh : s.heap with
  | nil => simp [continues, hh, hp, countPrimary]
  | cons x xs => simp [continues, hh]

/-- the property's reading of auto-termination counts only *non-cancelled* non-daemon events as
    pending.  The code counts cancelled ones too (lazy deletion): in this state the only pending
    non-daemon event is cancelled, yet the loop goes on and delivers the daemon tick.
    This is the known finding `engine/autoterm/ran-with-no-primary-pending`. -/
theorem autoterm_cancelled_primary_keeps_alive :
    let mc : Machine Unit := { handle := fun _ _ _ => { ent := () } }
    let s : St Unit := { heap := [⟨0, 10, 0, 0, true, 0, 0, 0⟩, ⟨1, 50, 0, 1, false, 0, 0, 0⟩], now := 0,
                         nextId := 2, cancelled := [1], ent := (), primary := 1 }
    (∀ e ∈ s.heap, e.daemon = false → e.id ∈ s.cancelled) ∧
    (step mc none s).map (·.log.map (·.id)) = some [0] := by
  decide

/-- non-vacuity: a model with ties between pre-run and in-run events; the in-run child (id 3) is
    delivered after both earlier-created pre-run events of the same nanosecond -/
example :
    let mc : Machine Unit :=
      { handle := fun _ now e => { ent := (), specs := if e.kind = 0 then [⟨now + 1, 0, 9, false, 0, 0⟩] else [] } }
    (runFrom mc () 0 [⟨1, 0, 0, false, 0, 0⟩, ⟨2, 0, 1, false, 0, 0⟩, ⟨2, 0, 2, false, 0, 0⟩] (some 10) 10).log.map (·.id)
      = [0, 1, 2, 3] := by decide +kernel

end HappyModel.C01
