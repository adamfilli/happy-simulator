import HappyProofs.C11.ProgObs
/-! Bounded progress WITHOUT the in-sync premise (`stable_leader_commits_conv`).

The fairness predicate `convRun` follows the whole AppendEntries conversation between the leader
and a follower `p`: an AppendEntries of term `t` built from a log that already holds index `k`
is delivered to `p`; `p`'s reply is delivered to `L`; if it is a refusal, the retry `L` sends at
once (with `next_index[p]` decremented) is delivered to `p`, its reply to `L`, … until a reply
is a successful acknowledgement.  Nothing is assumed about the follower's log or about
`next_index`: the log back-off rounds are part of the conversation.  (The predicate asks for the
conversation to be carried through within the run.  That it is finite — at most `next_index[p] + 1` rounds (`next_index[p]` when the message in flight is the one `L` would build now) —
is proved for the schedule that delivers nothing else, `conv_rounds`/`conv_exists` in `ProgConvFair`; under an
arbitrary interleaving it is not.) -/
namespace HappyModel.C11
open Spec

/-- an AppendEntries of term `t` built from a log that reaches index `k` -/
def reaches (t k : Nat) : Body → Bool
  | .ae t' _ pi _ es _ => t' == t && decide (k ≤ pi + es.length)
  | _ => false

/-- as `Ph`, with the retry `L` sends on a refusal awaited by the id it will get (`aid`) -/
inductive Cv
  | idle
  | waitAR (rid : Nat)
  | waitAE (aid : Nat)
  | done
deriving DecidableEq, Repr

def isAck : Body → Bool
  | .ar _ true _ _ => true
  | _ => false

def cvStep (s : St) (L t k p : Nat) : Cv → Act → Cv
  | .idle, .deliver m =>
    match findMsg s m with
    | some e => if canDeliver s e && e.src == L && e.dst == p && reaches t k e.body then .waitAR s.nextId else .idle
    | none => .idle
  | .waitAE aid, .deliver m =>
    if m = aid then
      match findMsg s m with
      | some e => if canDeliver s e then .waitAR s.nextId else .waitAE aid
      | none => .waitAE aid
    else .waitAE aid
  | .waitAR rid, .deliver m =>
    if m = rid then
      match findMsg s m with
      | some e => if canDeliver s e then (if isAck e.body then .done else .waitAE s.nextId) else .waitAR rid
      | none => .waitAR rid
    else .waitAR rid
  | c, _ => c

def cvRun (v : Variant) (L t k p : Nat) : Cv → St → List Act → Cv
  | c, _, [] => c
  | c, s, a :: as => cvRun v L t k p (cvStep s L t k p c a) (step v s a).1 as

/-- FAIRNESS for follower `p`, back-off included: the conversation is carried through to a successful acknowledgement -/
def convRun (v : Variant) (L t k p : Nat) (s : St) (as : List Act) : Bool :=
  decide (cvRun v L t k p .idle s as = .done)

theorem cvStep_cases (s : St) (L t k p : Nat) (c : Cv) (a : Act) :
    cvStep s L t k p c a = c
    ∨ (c = .idle ∧ cvStep s L t k p c a = .waitAR s.nextId ∧
        ∃ m e, a = .deliver m ∧ findMsg s m = some e ∧ canDeliver s e = true ∧ e.src = L ∧ e.dst = p ∧ reaches t k e.body = true)
    ∨ (∃ aid e, c = .waitAE aid ∧ cvStep s L t k p c a = .waitAR s.nextId ∧ a = .deliver aid ∧ findMsg s aid = some e ∧ canDeliver s e = true)
    ∨ (∃ rid e, c = .waitAR rid ∧ a = .deliver rid ∧ findMsg s rid = some e ∧ canDeliver s e = true
        ∧ cvStep s L t k p c a = (if isAck e.body then .done else .waitAE s.nextId)) := by
  cases c with
  | done => left; cases a <;> rfl
  | idle =>
    cases a with
    | deliver m =>
      cases hf : findMsg s m with
      | none => left; simp [cvStep, hf]
      | some e =>
        by_cases hc : (canDeliver s e && e.src == L && e.dst == p && reaches t k e.body) = true
        · right; left
          have hc' := hc
          simp only [Bool.and_eq_true, beq_iff_eq] at hc'
          exact ⟨rfl, by simp only [cvStep, hf, hc, if_true], m, e, rfl, hf, hc'.1.1.1, hc'.1.1.2, hc'.1.2, hc'.2⟩
        · left; simp only [cvStep, hf, hc]; rfl
    | _ => left; rfl
  | waitAE aid =>
    cases a with
    | deliver m =>
      by_cases hm : m = aid
      · subst hm
        cases hf : findMsg s m with
        | none => left; simp [cvStep, hf]
        | some e =>
          by_cases hc : canDeliver s e = true
          · right; right; left
            exact ⟨m, e, rfl, by simp only [cvStep, hf, hc, if_true], rfl, hf, hc⟩
          · left; simp only [cvStep, hf, hc, if_true]; rfl
      · left; simp only [cvStep, hm, if_false]
    | _ => left; rfl
  | waitAR rid =>
    cases a with
    | deliver m =>
      by_cases hm : m = rid
      · subst hm
        cases hf : findMsg s m with
        | none => left; simp [cvStep, hf]
        | some e =>
          by_cases hc : canDeliver s e = true
          · right; right; right
            exact ⟨m, e, rfl, rfl, hf, hc, by simp only [cvStep, hf, hc, if_true]⟩
          · left; simp only [cvStep, hf, hc, if_true]; rfl
      · left; simp only [cvStep, hm, if_false]
    | _ => left; rfl

theorem acc_keep {v : Variant} {s : St} {a : Act} {L t k p : Nat} (S : Stable v s a L t) (hpne : p ≠ L)
    (hleP : ((step v s a).1.nodes p).term ≤ t) (h : Acc s L t k p) : Acc (step v s a).1 L t k p :=
  ⟨(fstep_log S hpne h.1 hleP).1, agree_step S hpne h.1 hleP h.2⟩

theorem reaches_ae {t k : Nat} {b : Body} (h : reaches t k b = true) :
    ∃ l pi pt es lc, b = .ae t l pi pt es lc ∧ k ≤ pi + es.length := by
  cases b with
  | ae t' l pi pt es lc =>
    simp only [reaches, Bool.and_eq_true, beq_iff_eq, decide_eq_true_eq] at h
    exact ⟨l, pi, pt, es, lc, by rw [h.1], h.2⟩
  | _ => cases h

theorem nack_deliver (v : Variant) {s : St} {L t m0 f' m : Nat} {e : Env} (hest : Est s L t) (hf : findMsg s m0 = some e)
    (hc : canDeliver s e = true) (hd : e.dst = L) (hb : e.body = .ar t false f' m) (hf' : f' < s.n) (hne : f' ≠ L) :
    step v s (.deliver m0)
      = applyHR s L { node := nackNode (s.nodes L) f', sends := [(f', aeFor (nackNode (s.nodes L) f') L f')] } := by
  rw [ar_deliver v hest hf hc hd hb, cond_false, if_pos ⟨hf', hne⟩]

/-- what the state of the conversation with `p` means: the reply awaited is an acknowledgement of `≥ k` entries from a follower
    that holds them, or a refusal; the AppendEntries awaited is the leader's and reaches `k` -/
def CvOk (s : St) (L t k p : Nat) : Cv → Prop
  | .idle => True
  | .waitAR rid => Slot s rid fun e =>
      (∃ m, k ≤ m ∧ e = ⟨rid, p, L, .ar t true p m⟩ ∧ Acc s L t k p) ∨ e = ⟨rid, p, L, .ar t false p 0⟩
  | .waitAE aid => Slot s aid fun e => ∃ l pi pt es lc, e = ⟨aid, L, p, .ae t l pi pt es lc⟩ ∧ k ≤ pi + es.length
  | .done => Acc s L t k p

theorem cv_step {v : Variant} {s : St} {a : Act} {L t k p : Nat} (S : Stable v s a L t) (hpn : p < s.n)
    (hpne : p ≠ L) (hklen : k ≤ (s.nodes L).log.length) {c : Cv} (hok : CvOk s L t k p c)
    (hle0 : (s.nodes p).term ≤ t) (hleP : ((step v s a).1.nodes p).term ≤ t) :
    CvOk (step v s a).1 L t k p (cvStep s L t k p c a)
    ∧ (cvStep s L t k p c a = .done → c = .done ∨ AckNow s a L t k p) := by
  have keep : Acc s L t k p → Acc (step v s a).1 L t k p := acc_keep S hpne hleP
  -- the step that hands `p` an AppendEntries of the conversation: its reply is awaited
  have toAE : ∀ m0 e, a = .deliver m0 → findMsg s m0 = some e → canDeliver s e = true → e.src = L → e.dst = p →
      (∃ l pi pt es lc, e.body = .ae t l pi pt es lc ∧ k ≤ pi + es.length) → CvOk (step v s a).1 L t k p (.waitAR s.nextId) := by
    intro m0 e ha hf hc hsrc hdst ⟨l, pi, pt, es, lc, hb, hk⟩
    subst ha
    obtain ⟨b, ho, _, hbcase⟩ := follower_ae v S.rep S.inv S.est hpne hle0 hf hc hdst hb hk
    refine ho.slot S.inv.ids ?_
    rw [hsrc]
    rcases hbcase with ⟨_, rfl⟩ | ⟨_, m, hkm, rfl, hacc, _⟩
    · exact Or.inr rfl
    · exact Or.inl ⟨m, hkm, rfl, hacc⟩
  rcases cvStep_cases s L t k p c a with h | ⟨_, h, m0, e, ha, hf, hc, hsrc, hdst, hre⟩ | ⟨aid, e, hph, h, ha, hf, hc⟩
    | ⟨rid, e, hph, ha, hf, hc, h⟩
  · rw [h]
    refine ⟨?_, Or.inl⟩
    cases c with
    | idle => trivial
    | waitAR rid => exact Slot.step hok fun e he => he.imp_left fun ⟨m, hkm, he', hacc⟩ => ⟨m, hkm, he', keep hacc⟩
    | waitAE aid => exact Slot.step hok fun _ => id
    | done => exact keep hok
  · rw [h]; exact ⟨toAE m0 e ha hf hc hsrc hdst (reaches_ae hre), Cv.noConfusion⟩
  · rw [h]
    rw [hph] at hok
    obtain ⟨l, pi, pt, es, lc, he, hk⟩ := Slot.read hok hf
    exact ⟨toAE aid e ha hf hc (by rw [he]) (by rw [he]) ⟨l, pi, pt, es, lc, by rw [he], hk⟩, Cv.noConfusion⟩
  · rw [h]
    rw [hph] at hok
    rcases Slot.read hok hf with ⟨m, hkm, he, hacc⟩ | he
    · rw [show isAck e.body = true by rw [he]; rfl, if_pos rfl]
      exact ⟨keep hacc, fun _ => Or.inr ⟨rid, e, m, ha, hf, hc, hkm, he⟩⟩
    · -- a refusal: `L` sends the retry at once
      rw [show isAck e.body = false by rw [he]; rfl, if_neg Bool.false_ne_true]
      refine ⟨?_, Cv.noConfusion⟩
      have hs := nack_deliver v S.est hf hc (by rw [he]) (by rw [he]) hpn hpne
      rw [← ha] at hs
      obtain ⟨l, pi, pt, es, lc, hae, hlen⟩ := aeFor_ae (nackNode (s.nodes L) p) L p
      have ho : SentOne s (step v s a).1 L p (aeFor (nackNode (s.nodes L) p) L p) := hs ▸ sentOne rfl
      refine ho.slot S.inv.ids ⟨l, pi, pt, es, lc, ?_, ?_⟩
      · rw [hae, show (nackNode (s.nodes L) p).term = t from S.est.term]
      · have : (nackNode (s.nodes L) p).log.length = (s.nodes L).log.length := rfl
        omega

/-- the hypotheses of `stable_leader_commits_conv`, bundled (all decidable) -/
structure StableConv (v : Variant) (n : Nat) (pre : List Act) (L t f : Nat) (c : Cmd) (Q : List Nat) (as : List Act) : Prop where
  est : established (run v (init n) pre) L t = true
  qnd : Q.Nodup
  qne : Q ≠ []
  qq : quorum n ≤ Q.length + 1
  basic : ∀ p ∈ Q, p < n ∧ p ≠ L
  stable : stableRun v t (L :: Q) (run v (init n) pre) (.submit L f c :: as) = true
  conv : ∀ p ∈ Q, convRun v L t (nextIdx (run v (init n) pre) L) p (run v (init n) pre) (.submit L f c :: as) = true
  nr : noRegressRun v L t (nextIdx (run v (init n) pre) L) Q (run v (init n) pre) (.submit L f c :: as) = true

instance (v : Variant) (n : Nat) (pre : List Act) (L t f : Nat) (c : Cmd) (Q : List Nat) (as : List Act) :
    Decidable (StableConv v n pre L t f c Q as) :=
  decidable_of_iff (established (run v (init n) pre) L t = true ∧ Q.Nodup ∧ Q ≠ [] ∧ quorum n ≤ Q.length + 1
      ∧ (∀ p ∈ Q, p < n ∧ p ≠ L)
      ∧ stableRun v t (L :: Q) (run v (init n) pre) (.submit L f c :: as) = true
      ∧ (∀ p ∈ Q, convRun v L t (nextIdx (run v (init n) pre) L) p (run v (init n) pre) (.submit L f c :: as) = true)
      ∧ noRegressRun v L t (nextIdx (run v (init n) pre) L) Q (run v (init n) pre) (.submit L f c :: as) = true)
    ⟨fun ⟨a, b, c, d, e, f, g, h⟩ => ⟨a, b, c, d, e, f, g, h⟩, fun h => ⟨h.est, h.qnd, h.qne, h.qq, h.basic, h.stable, h.conv, h.nr⟩⟩

/-- BOUNDED PROGRESS, BACK-OFF INCLUDED.  From any reachable state with an established leader `L` of term `t`, whatever the
    followers' logs and `next_index` are: along a run in which no node of `L :: Q` sees a term above `t`, each follower of `Q`
    (with `L` a quorum) has its AppendEntries conversation carried through to a successful acknowledgement (`convRun`), and no
    older acknowledgement overtakes a newer one, the command submitted to `L` is appended at `k = len(log) + 1`, replicated on
    `Q`, committed and applied by `L` at `k`, and its future resolved with `k` and the result of that application. -/
theorem stable_leader_commits_conv (v : Variant) (hr : Rep v) (n : Nat) (pre : List Act) (L t f : Nat) (c : Cmd) (Q : List Nat)
    (as : List Act) (h : StableConv v n pre L t f c Q as) :
    getE ((run v (run v (init n) pre) (.submit L f c :: as)).nodes L).log (nextIdx (run v (init n) pre) L) = some ⟨t, c⟩
    ∧ (∀ p ∈ Q, getE ((run v (run v (init n) pre) (.submit L f c :: as)).nodes p).log (nextIdx (run v (init n) pre) L) = some ⟨t, c⟩)
    ∧ nextIdx (run v (init n) pre) L ≤ ((run v (run v (init n) pre) (.submit L f c :: as)).nodes L).commit
    ∧ nextIdx (run v (init n) pre) L ≤ ((run v (run v (init n) pre) (.submit L f c :: as)).nodes L).lastApplied
    ∧ Hit (outs v (run v (init n) pre) (.submit L f c :: as)) L (nextIdx (run v (init n) pre) L) f c := by
  obtain ⟨hest, hQnd, hQne, hQq, hbasic, hstable, hconv, hnr⟩ := h
  generalize hk : nextIdx (run v (init n) pre) L = k at hconv hnr ⊢
  refine progress_core v hr (I := fun s p x => CvOk s L t k p x) (D := (· = .done)) (ms := fun s p x a => cvStep s L t k p x a)
    (mr := fun p x s as => cvRun v L t k p x s as) (fun _ _ _ => rfl) (fun _ _ _ _ _ => rfl) ?_ hk.symm (fun _ => .idle)
    hest hQnd hQne hQq hbasic hstable hnr (fun _ => Cv.noConfusion) (fun _ _ => trivial) (fun _ _ _ h hd => ?_)
    (fun p hp => of_decide_eq_true (hconv p hp))
  · intro g m a P hst0 hst p hp
    exact cv_step ⟨hr, P.inv, P.est, termsLe_mem hst List.mem_cons_self⟩ (P.basic p hp).1 (P.basic p hp).2 (getE_le P.entry).2 (P.ok p hp)
      (termsLe_mem hst0 (List.mem_cons_of_mem _ hp)) (termsLe_mem hst (List.mem_cons_of_mem _ hp))
  · subst hd; exact h.2

/-- … and as observed: exactly one application at `k` on `L`, the future resolved with `k`, no other command at `k` anywhere -/
theorem stable_leader_commits_conv_obs (v : Variant) (hr : Rep v) (n : Nat) (pre : List Act) (L t f : Nat) (c : Cmd) (Q : List Nat)
    (as : List Act) (h : StableConv v n pre L t f c Q as) :
    (appsOf (framesFrom v (run v (init n) pre) (.submit L f c :: as)) L).filter (fun q => q.1 == nextIdx (run v (init n) pre) L)
        = [(nextIdx (run v (init n) pre) L, c.id)]
    ∧ (L, f, nextIdx (run v (init n) pre) L) ∈ (framesFrom v (run v (init n) pre) (.submit L f c :: as)).flatMap (·.ress)
    ∧ ∀ x ∈ allApps (frames v n (pre ++ .submit L f c :: as)), x.2.1 = nextIdx (run v (init n) pre) L → x.2.2 = c.id :=
  obs_of_hit v hr n pre L f _ c _ (stable_leader_commits_conv v hr n pre L t f c Q as h).2.2.2.2

end HappyModel.C11
