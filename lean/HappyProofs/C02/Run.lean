import HappyProofs.C02.SegmentSpec
import HappyProofs.C01.Lemmas
/-!
# C02 — the run-level invariant: at most one pending resumption per process

A pending resumption of process `pid` is a continuation event in the heap (`data = pid + 1`) or a
future the process is parked on.  `ProcInv` says: every process has at most one of them, parks are
only on unresolved futures and only by existing processes, continuation events refer to existing
processes, and a finished process has none (and no code left).
-/
namespace HappyModel.C01

structure ProcInv (s : St PS) : Prop where
  atMostOne : ∀ pid, cntHeap s.heap pid + cntPark s.ent.futs pid ≤ 1
  heapProc : ∀ e ∈ s.heap, e.data ≤ s.ent.procs.length
  parkOk : ∀ f pid, (futGet s.ent.futs f).parked = some pid →
      (futGet s.ent.futs f).resolved = false ∧ pid < s.ent.procs.length
  doneNone : ∀ pid p, s.ent.procs[pid]? = some p → p.done = true →
      p.segs = [] ∧ cntHeap s.heap pid = 0 ∧ cntPark s.ent.futs pid = 0
  heldPlain : ∀ q ∈ s.ent.held, q.2.data = 0

theorem cntHeap_append (a b : List Ev) (q : Nat) : cntHeap (a ++ b) q = cntHeap a q + cntHeap b q := by
  simp [cntHeap, List.countP_append]

theorem cntHeap_mkEvents (n t : Nat) (specs : List Spec) (q : Nat) :
    cntHeap (mkEvents n t specs) q = cntSpec specs q := by
  induction specs generalizing n with
  | nil => rfl
  | cons s ss ih =>
    simp only [mkEvents, cntHeap, cntSpec, List.countP_cons] at ih ⊢
    rw [ih]

theorem mkEvents_mem (n t : Nat) (specs : List Spec) :
    ∀ e ∈ mkEvents n t specs, ∃ sp ∈ specs, e.data = sp.data ∧ e.tag = sp.tag ∧ e.time = sp.time := by
  intro e he
  obtain ⟨sp, hsp, _, _, heq⟩ := mem_mkEvents he
  exact ⟨sp, hsp, by rw [heq], by rw [heq], by rw [heq]⟩

theorem cntHeap_erase_le (l : List Ev) (m : Ev) (q : Nat) : cntHeap (l.erase m) q ≤ cntHeap l q :=
  List.Sublist.countP_le List.erase_sublist

theorem cntHeap_erase_mem (l : List Ev) (m : Ev) (q : Nat) (hm : m ∈ l) :
    cntHeap (l.erase m) q + ind (m.data == q + 1) = cntHeap l q := by
  unfold cntHeap ind
  rw [(List.perm_cons_erase hm).countP_eq, List.countP_cons]

/-- `_start_process`: a new process record -/
def spawn (e : Eff) (p : Proc) : Eff := { e with ps := { e.ps with procs := e.ps.procs ++ [p] } }

@[simp] theorem spawn_specs (e : Eff) (p : Proc) : (spawn e p).specs = e.specs := rfl
@[simp] theorem spawn_futs (e : Eff) (p : Proc) : (spawn e p).ps.futs = e.ps.futs := rfl
@[simp] theorem spawn_procs (e : Eff) (p : Proc) : (spawn e p).ps.procs = e.ps.procs ++ [p] := rfl
@[simp] theorem spawn_held (e : Eff) (p : Proc) : (spawn e p).ps.held = e.ps.held := rfl
@[simp] theorem spawn_obs (e : Eff) (p : Proc) : (spawn e p).ps.obs = e.ps.obs := rfl

theorem spawn_last {e : Eff} {p0 p : Proc} (hp : (spawn e p0).ps.procs[e.ps.procs.length]? = some p) : p = p0 := by
  rw [spawn_procs, List.getElem?_concat_length] at hp
  exact (Option.some.inj hp).symm

/-- hooks attached to event `id` and not yet handed to a process (what `newProc` and `procEff` take for the
    delivered event) -/
def hookOfFor (ps : PS) (id : Nat) : List Nat := (ps.hookOf.filter (fun p => p.1 == id)).map (·.2)

def newProc (ps : PS) (ev : Ev) (d : HandlerDef) : Proc :=
  { ent := ev.target, kind := ev.kind, daemon := ev.daemon, segs := d.segs,
    hooks := (ps.hookOf.filter (fun p => p.1 == ev.id)).map (·.2), ev := ev.id,
    hops := hopsAt ps.hopsOf ev.tag }

def procEff (ps : PS) (now : Nat) (ev : Ev) : Eff :=
  let e0 : Eff := { ps := ps }
  let hooks := (ps.hookOf.filter (fun p => p.1 == ev.id)).map (·.2)
  if ev.data = 0 then
    match ps.defs.find? (fun d => d.ent == ev.target && d.kind == ev.kind) with
    | none => runHooks now (addObs e0 (.skip now ev.target ev.kind ev.tag)) hooks
    | some d =>
      runSegment now (spawn (addObs e0 (.start now ev.target ev.kind ev.tag)) (newProc ps ev d)) ps.procs.length
  else runSegment now e0 (ev.data - 1) ev.tag

theorem procHandle_eq (ps : PS) (now : Nat) (ev : Ev) :
    procHandle ps now ev =
      { ent := (procEff ps now ev).ps, specs := (procEff ps now ev).specs, cancels := (procEff ps now ev).cancels } := by
  unfold procHandle procEff
  by_cases hd : ev.data = 0
  · simp only [hd, if_true]
    cases ps.defs.find? (fun d => d.ent == ev.target && d.kind == ev.kind) <;> rfl
  · simp only [hd, if_false]

/-- each case with the tests that select it, so that the line functions defined by the same split (`wLine`, `invLines`,
    `rsLine`, …) reduce alongside -/
theorem procEff_cases (ps : PS) (now : Nat) (ev : Ev) :
    (ev.data = 0 ∧ ps.defs.find? (fun d => d.ent == ev.target && d.kind == ev.kind) = none ∧
      procEff ps now ev = runHooks now (addObs { ps := ps } (.skip now ev.target ev.kind ev.tag)) (hookOfFor ps ev.id)) ∨
    (∃ d, ev.data = 0 ∧ ps.defs.find? (fun d => d.ent == ev.target && d.kind == ev.kind) = some d ∧
      procEff ps now ev = runSegment now
        (spawn (addObs { ps := ps } (.start now ev.target ev.kind ev.tag)) (newProc ps ev d)) ps.procs.length) ∨
    (ev.data ≠ 0 ∧ procEff ps now ev = runSegment now { ps := ps } (ev.data - 1) ev.tag) := by
  unfold procEff
  by_cases hd : ev.data = 0
  · rw [if_pos hd]
    cases hf : ps.defs.find? (fun d => d.ent == ev.target && d.kind == ev.kind) with
    | none => exact Or.inl ⟨hd, rfl, rfl⟩
    | some d => exact Or.inr (Or.inl ⟨d, hd, rfl, rfl⟩)
  · rw [if_neg hd]; exact Or.inr (Or.inr ⟨hd, rfl⟩)

theorem handle_ent (ps : PS) (now : Nat) (m : Ev) : (procMachine.handle ps now m).ent = (procEff ps now m).ps :=
  congrArg Out.ent (procHandle_eq ps now m)

theorem handle_specs (ps : PS) (now : Nat) (m : Ev) :
    (procMachine.handle ps now m).specs = (procEff ps now m).specs :=
  congrArg Out.specs (procHandle_eq ps now m)

/-- what one loop iteration adds to a view that writes the lines `L s m` for a delivery (`viewStep`, `hviewStep`,
    `tStep`, … are this for their `L`) -/
def viewOf {α : Type} (L : St PS → Ev → List α) (s : St PS) (ls : List α) (m : Ev) : List α :=
  if s.cancelled.contains m.id then ls
  else if m.time < s.now then ls
  else if procMachine.crashed s.ent m then ls
  else ls ++ L s m

/-- a pop that is not delivered (cancelled, stale, gated).  (`step_procInv`, `step_hookInv` and C09's `wait_step` match the
    fields of `Skips` / `Delivers` by position.) -/
structure Skips (s : St PS) (m : Ev) (s' : St PS) : Prop where
  heap : s'.heap = s.heap.erase m
  ent : s'.ent = s.ent
  log : s'.log = s.log
  nextId : s'.nextId = s.nextId
  popped : ∃ v, s'.popped = s.popped ++ [(m, v)]

structure Delivers (s : St PS) (m : Ev) (s' : St PS) : Prop where
  heap : s'.heap = s.heap.erase m ++ mkEvents s.nextId m.time (procEff s.ent m.time m).specs
  ent : s'.ent = (procEff s.ent m.time m).ps
  log : s'.log = s.log ++ [m]
  nextId : s'.nextId = s.nextId + (procEff s.ent m.time m).specs.length
  now : s'.now = m.time
  popped : s'.popped = s.popped ++ [(m, .delivered)]

theorem stepWith_view {α : Type} {P : St PS → List α → Prop} (L : St PS → Ev → List α) (s : St PS) (ls : List α) (m : Ev)
    (hskip : ∀ s', Skips s m s' → P s' ls) (hdel : ∀ s', Delivers s m s' → P s' (ls ++ L s m)) :
    P (stepWith procMachine s m) (viewOf L s ls m) := by
  unfold viewOf
  refine stepWith_cases procMachine s m (fun hc => ?_) (fun hc hs => ?_) (fun hc hn hg => ?_) (fun hc hn hg => ?_)
  · rw [if_pos (List.contains_iff_mem.mpr hc)]; exact hskip _ ⟨rfl, rfl, rfl, rfl, _, rfl⟩
  · rw [if_neg (mt List.contains_iff_mem.mp hc), if_pos hs]; exact hskip _ ⟨rfl, rfl, rfl, rfl, _, rfl⟩
  · rw [if_neg (mt List.contains_iff_mem.mp hc), if_neg (Nat.not_lt.mpr hn), if_pos hg]
    exact hskip _ ⟨rfl, rfl, rfl, rfl, _, rfl⟩
  · rw [if_neg (mt List.contains_iff_mem.mp hc), if_neg (Nat.not_lt.mpr hn), if_neg (by simp [hg])]
    exact hdel _ ⟨by rw [← handle_specs], handle_ent s.ent m.time m, rfl, by rw [← handle_specs], rfl, rfl⟩

theorem stepWith_proc (s : St PS) (m : Ev) :
    Skips s m (stepWith procMachine s m) ∨ Delivers s m (stepWith procMachine s m) :=
  stepWith_view (P := fun s' _ => Skips s m s' ∨ Delivers s m s') (fun _ _ => ([] : List Unit)) s [] m
    (fun _ => Or.inl) (fun _ => Or.inr)

/-- `gr` writes the view with the lines `L` alongside `run` (both equations hold by `rfl`) -/
structure IsView {α : Type} (endT : Option Nat) (L : St PS → Ev → List α) (gr : Nat → St PS → List α → List α) : Prop where
  zero : ∀ s ls, gr 0 s ls = ls
  succ : ∀ n s ls, gr (n + 1) s ls = match s.heap with
    | [] => ls
    | x :: xs => if continues endT s then gr n (stepWith procMachine s (minOf x xs)) (viewOf L s ls (minOf x xs)) else ls

theorem run_view {α : Type} {endT : Option Nat} {L : St PS → Ev → List α} {gr : Nat → St PS → List α → List α}
    {I : St PS → Prop} {P : St PS → List α → Prop} (hv : IsView endT L gr)
    (hI : ∀ s m, m ∈ s.heap → (∀ y ∈ s.heap, keyLt y m = false) → I s → I (stepWith procMachine s m))
    (hskip : ∀ s ls m s', I s → P s ls → Skips s m s' → P s' ls)
    (hdel : ∀ s ls m s', m ∈ s.heap → I s → P s ls → Delivers s m s' → P s' (ls ++ L s m)) :
    ∀ n s ls, I s → P s ls → P (run procMachine endT n s) (gr n s ls) := fun n s ls hi h =>
  (run_ghost_induction (motive := fun s ls => I s ∧ P s ls) procMachine endT (viewOf L) gr hv.zero hv.succ
    (fun s ls m h hm hmin _ => ⟨hI s m hm hmin h.1, stepWith_view L s ls m (fun s' k => hskip s ls m s' h.1 h.2 k)
      (fun s' k => hdel s ls m s' hm h.1 h.2 k)⟩) n s ls ⟨hi, h⟩).2

theorem view_filter {α : Type} {endT : Option Nat} {L1 L2 : St PS → Ev → List α} {g1 g2 : Nat → St PS → List α → List α}
    (h1 : IsView endT L1 g1) (h2 : IsView endT L2 g2) (p : α → Bool) (hL : ∀ s m, (L1 s m).filter p = L2 s m) :
    ∀ n s ls, (g1 n s ls).filter p = g2 n s (ls.filter p) := by
  intro n
  induction n with
  | zero => intro s ls; rw [h1.zero, h2.zero]
  | succ n ih =>
    intro s ls
    rw [h1.succ, h2.succ]
    cases s.heap with
    | nil => rfl
    | cons x xs =>
      simp only []
      by_cases hc : continues endT s = true
      · simp only [hc, if_true]
        rw [ih]
        congr 1
        simp only [viewOf, apply_ite (List.filter p), List.filter_append, hL]
      · simp only [hc, Bool.false_eq_true, if_false]

theorem foldl_fixed {α β : Type _} (f : β → α → β) (l : List α) (b : β) (h : ∀ a ∈ l, f b a = b) : l.foldl f b = b := by
  induction l with
  | nil => rfl
  | cons a r ih =>
    rw [List.foldl_cons, h a (List.mem_cons_self ..)]
    exact ih (fun x hx => h x (List.mem_cons_of_mem _ hx))

theorem foldl_filter_of_skip {α β : Type _} (f : β → α → β) (p : α → Bool)
    (hskip : ∀ b a, p a = false → f b a = b) (l : List α) (b : β) :
    l.foldl f b = (l.filter p).foldl f b := by
  induction l generalizing b with
  | nil => rfl
  | cons a r ih =>
    cases hp : p a with
    | false => rw [List.filter_cons_of_neg (by simp [hp]), List.foldl_cons, hskip b a hp, ih]
    | true => rw [List.filter_cons_of_pos hp, List.foldl_cons, List.foldl_cons, ih]

/-- the run invariant after a delivery, from what the invocation leaves (`Ran`): `pid0` is the process it ran, which had
    nothing pending once `m` was popped (`h0`, `h0'`); `n`, `t` are the creation counter and the clock the new events are
    made with -/
theorem ProcInv_assemble (s s' : St PS) (m : Ev) (r : Eff) (pid0 n t : Nat) (inv : ProcInv s)
    (hh : s'.heap = s.heap.erase m ++ mkEvents n t r.specs) (he : s'.ent = r.ps)
    (h0 : cntHeap (s.heap.erase m) pid0 = 0) (h0' : cntPark s.ent.futs pid0 = 0)
    (hr : Ran (cntPark s.ent.futs) s.ent.procs pid0 r) : ProcInv s' := by
  have hcount : ∀ q, cntHeap s'.heap q = cntHeap (s.heap.erase m) q + cntSpec r.specs q := by
    intro q; rw [hh, cntHeap_append, cntHeap_mkEvents]
  have hoth : ∀ q, q ≠ pid0 → cntSpec r.specs q + cntPark r.ps.futs q ≤ cntPark s.ent.futs q := by
    intro q hq
    have := hr.bound q
    rwa [show ind (pid0 == q) = 0 by simp [ind, Ne.symm hq]] at this
  refine ⟨?_, ?_, he ▸ hr.wf.park, ?_, he ▸ hr.wf.held⟩
  · intro q
    rw [hcount, he]
    have h2 := inv.atMostOne q
    have h3 := cntHeap_erase_le s.heap m q
    by_cases hq : q = pid0
    · subst hq
      have := hr.bound q
      have := ind_le_one (q == q)
      unfold cnt at *
      omega
    · have := hoth q hq; omega
  · intro e hemem
    rw [hh] at hemem
    rw [he]
    rcases List.mem_append.mp hemem with h | h
    · exact Nat.le_trans (inv.heapProc e (List.mem_of_mem_erase h)) hr.len
    · obtain ⟨sp, hsp, hd, _, _⟩ := mkEvents_mem n t r.specs e h
      rw [hd]; exact hr.wf.specs sp hsp
  · intro q p' hp' hd
    rw [he] at hp'
    rw [hcount, he]
    by_cases hq : q = pid0
    · subst hq
      have ⟨hs, hz⟩ := hr.done p' hp' hd
      unfold cnt at hz
      exact ⟨hs, by omega, by omega⟩
    · have hfr := hr.frame q hq
      rw [hp'] at hfr
      cases hp : s.ent.procs[q]? with
      | none => rw [hp] at hfr; cases hfr
      | some p =>
        rw [hp] at hfr
        have hst : strip p' = strip p := Option.some.inj hfr
        have ⟨a, b, c⟩ := inv.doneNone q p hp ((congrArg (·.done) hst).symm.trans hd)
        have := hoth q hq
        have := cntHeap_erase_le s.heap m q
        exact ⟨(congrArg (·.segs) hst).trans a, by omega, by omega⟩

theorem Bnd_init (s : St PS) (inv : ProcInv s) : Bnd (cntPark s.ent.futs) ({ ps := s.ent } : Eff) :=
  ⟨⟨inv.parkOk, (fun _ h => nomatch h), inv.heldPlain⟩, fun _ => Nat.le_of_eq (Nat.zero_add _)⟩

theorem fresh_pid_nothing (s : St PS) (inv : ProcInv s) :
    cntHeap s.heap s.ent.procs.length = 0 ∧ cntPark s.ent.futs s.ent.procs.length = 0 := by
  constructor
  · unfold cntHeap
    rw [List.countP_eq_zero]
    intro e he
    have := inv.heapProc e he
    simp; omega
  · rw [cntPark_zero]
    intro f hf
    have := (inv.parkOk f _ hf).2
    omega

theorem ProcInv_erase (s s' : St PS) (m : Ev) (inv : ProcInv s)
    (hh : s'.heap = s.heap.erase m) (he : s'.ent = s.ent) : ProcInv s' := by
  have ⟨hf1, hf2⟩ := fresh_pid_nothing s inv
  exact ProcInv_assemble s s' m { ps := s.ent } _ 0 0 inv (hh.trans (List.append_nil _).symm) he
    (Nat.eq_zero_of_le_zero (hf1 ▸ cntHeap_erase_le s.heap m _)) hf2
    (Ran.of_frame (Bnd_init s inv) rfl (fun p' hp' => absurd (getElem?_some_lt hp') (Nat.lt_irrefl _)))

theorem Ran.of_spawn {B : Nat → Nat} {L : List Proc} {pn : Proc} {r : Eff} (h : Ran B (L ++ [pn]) L.length r) :
    Ran B L L.length r := by
  refine ⟨h.wf, h.bound, Nat.le_trans (by simp) h.len, fun q hq => (h.frame q hq).trans ?_, h.done⟩
  rw [List.getElem?_append]
  split
  · rfl
  · rw [List.getElem?_eq_none (by simp; omega), List.getElem?_eq_none (by omega)]

/-- `pid0`: the process the invocation runs (a fresh id if it runs none) -/
theorem procEff_inv (s : St PS) (m : Ev) (now : Nat) (inv : ProcInv s) (hm : m ∈ s.heap) :
    ∃ pid0, cntHeap (s.heap.erase m) pid0 = 0 ∧ cntPark s.ent.futs pid0 = 0 ∧
      Ran (cntPark s.ent.futs) s.ent.procs pid0 (procEff s.ent now m) := by
  have hB0 := Bnd_init s inv
  have ⟨hf1, hf2⟩ := fresh_pid_nothing s inv
  have hf1' : cntHeap (s.heap.erase m) s.ent.procs.length = 0 :=
    Nat.eq_zero_of_le_zero (hf1 ▸ cntHeap_erase_le s.heap m s.ent.procs.length)
  rcases procEff_cases s.ent now m with ⟨_, _, h⟩ | ⟨d, _, _, h⟩ | ⟨hd, h⟩ <;> rw [h]
  · have hp1 : ProcsAre (s.ent.procs.map strip) _ := runHooks_closed (ProcsAre_closed _) now
      (hookOfFor s.ent m.id) (addObs { ps := s.ent } (.skip now m.target m.kind m.tag)) rfl
    refine ⟨_, hf1', hf2, Ran.of_frame (runHooks_closed (Bnd_closed _) now _ _ (Bnd_addObs _ _ _ hB0)) hp1 (fun p' hp' => ?_)⟩
    have := getElem?_some_lt hp'
    have := ProcsAre_length hp1
    rw [List.length_map] at this
    omega
  · have hB2 : Bnd (cntPark s.ent.futs)
        (spawn (addObs { ps := s.ent } (.start now m.target m.kind m.tag)) (newProc s.ent m d)) :=
      Bnd_congr hB0 rfl rfl (by simp)
    refine ⟨_, hf1', hf2, (runSegment_spec _ now _ s.ent.procs.length 0 hB2 hf2 ?_).of_spawn⟩
    intro p hp hdn
    rw [show (spawn (addObs { ps := s.ent } (.start now m.target m.kind m.tag)) (newProc s.ent m d)).ps.procs[s.ent.procs.length]?
      = some (newProc s.ent m d) from List.getElem?_concat_length] at hp
    cases hp; cases hdn
  · have hdat : m.data = (m.data - 1) + 1 := by omega
    generalize m.data - 1 = pid at hdat
    have h1 := cntHeap_erase_mem s.heap m pid hm
    have h2 := inv.atMostOne pid
    have hi : ind (m.data == pid + 1) = 1 := by simp [ind, hdat]
    have hz2 : cntPark s.ent.futs pid = 0 := by omega
    exact ⟨pid, by omega, hz2, runSegment_spec _ now { ps := s.ent } pid m.tag hB0 hz2
      (fun p hp hdn => (inv.doneNone pid p hp hdn).1)⟩

theorem step_procInv (s : St PS) (m : Ev) (inv : ProcInv s) (hm : m ∈ s.heap) :
    ProcInv (stepWith procMachine s m) := by
  rcases stepWith_proc s m with ⟨hh, he, _, _⟩ | ⟨hh, he, _, _⟩
  · exact ProcInv_erase s _ m inv hh he
  · obtain ⟨pid0, h0, h0', hr⟩ := procEff_inv s m m.time inv hm
    exact ProcInv_assemble s _ m _ pid0 s.nextId m.time inv hh he h0 h0' hr

theorem cont_not_parked (s : St PS) (ev : Ev) (pinv : ProcInv s) (he : ev ∈ s.heap) (hd : ev.data ≠ 0) :
    ∀ f, (futGet s.ent.futs f).parked ≠ some (ev.data - 1) := by
  have h1 : 0 < cntHeap s.heap (ev.data - 1) :=
    List.countP_pos_iff.mpr ⟨ev, he, beq_iff_eq.mpr (Nat.succ_pred_eq_of_ne_zero hd).symm⟩
  have h2 := pinv.atMostOne (ev.data - 1)
  exact (cntPark_zero _ _).mp (by omega)

theorem cont_sole (s : St PS) (m : Ev) (pinv : ProcInv s) (hm : m ∈ s.heap) (hd : m.data ≠ 0) :
    (∀ ev ∈ s.heap.erase m, ev.data ≠ m.data) ∧ ∀ f, (futGet s.ent.futs f).parked ≠ some (m.data - 1) := by
  refine ⟨?_, cont_not_parked s m pinv hm hd⟩
  intro ev he heq
  have hdat : m.data = (m.data - 1) + 1 := (Nat.succ_pred_eq_of_ne_zero hd).symm
  have h0 : 0 < cntHeap (s.heap.erase m) (m.data - 1) :=
    List.countP_pos_iff.mpr ⟨ev, he, beq_iff_eq.mpr (heq.trans hdat)⟩
  have h1 := cntHeap_erase_mem s.heap m (m.data - 1) hm
  have h2 := pinv.atMostOne (m.data - 1)
  have hi : ind (m.data == m.data - 1 + 1) = 1 := by rw [← hdat, beq_self_eq_true]; rfl
  omega

end HappyModel.C01
