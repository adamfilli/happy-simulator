import HappyProofs.C14.Basic
/-! The ghost log of a run: the writes in the order in which they took effect (newest first), each with the segment in
    which it did.  The LSM tree logs its memtable inserts, the B-tree and the KVStore the segment in which a put or delete acts. -/
namespace HappyModel.C14

/-- segment index, operation id, key, cell, WAL sequence number (`0`, and meaningless, without a WAL) -/
structure Ev where
  n : Nat
  id : Nat
  key : Key
  cell : Cell
  seq : Nat
deriving Repr, DecidableEq

def firstOn (k : Key) : List Ev → Option Cell
  | [] => none
  | e :: r => if e.key = k then some e.cell else firstOn k r

variable {k : Key} {c : Cell}

theorem firstOn_none : ∀ {l : List Ev}, firstOn k l = none → ∀ ev ∈ l, ev.key ≠ k
  | [], _, ev, hev => by cases hev
  | e :: r, h, ev, hev => by
    unfold firstOn at h
    by_cases hk : e.key = k
    · rw [if_pos hk] at h; cases h
    · rw [if_neg hk] at h
      exact (List.forall_mem_cons (p := fun ev => ev.key ≠ k)).mpr ⟨hk, firstOn_none h⟩ ev hev

/-- the value of `k` just before segment `a` -/
def valAt (log : List Ev) (k : Key) (a : Nat) : Option Nat := (firstOn k (log.filter fun ev => ev.n < a)).join

theorem valAt_cons {log : List Ev} {ev : Ev} {a : Nat} (h : a ≤ ev.n) (k : Key) : valAt (ev :: log) k a = valAt log k a := by
  unfold valAt
  rw [List.filter_cons, if_neg (by simpa using h)]

theorem valAt_now {log : List Ev} {n : Nat} (h : ∀ ev ∈ log, ev.n < n) (k : Key) : valAt log k n = (firstOn k log).join := by
  unfold valAt
  rw [List.filter_eq_self.mpr fun ev hev => decide_eq_true (h ev hev)]

def cellKind (k : Key) : Cell → OKind
  | some v => .put k v
  | none => .del k

theorem firstOn_append (k : Key) (a b : List Ev) : firstOn k (a ++ b) = (firstOn k a).or (firstOn k b) := by
  induction a with
  | nil => simp [firstOn]
  | cons e r ih =>
    simp only [List.cons_append, firstOn]
    split
    · rfl
    · exact ih

theorem firstOn_someR {R : Ev → Ev → Prop} {k : Key} {c : Cell} : ∀ {l : List Ev}, l.Pairwise R → firstOn k l = some c →
    ∃ ev ∈ l, ev.key = k ∧ ev.cell = c ∧ ∀ ev' ∈ l, ev'.key = k → ev' = ev ∨ R ev ev'
  | [], _, h => by cases h
  | e :: r, hs, h => by
    unfold firstOn at h
    have hs' := List.pairwise_cons.mp hs
    by_cases hk : e.key = k
    · rw [if_pos hk] at h
      injection h with h
      refine ⟨e, List.mem_cons_self .., hk, h, ?_⟩
      intro ev' hev' _
      rcases List.mem_cons.mp hev' with h1 | hev'
      · exact Or.inl h1
      · exact Or.inr (hs'.1 ev' hev')
    · rw [if_neg hk] at h
      obtain ⟨ev, hev, h1, h2, h3⟩ := firstOn_someR hs'.2 h
      refine ⟨ev, List.mem_cons_of_mem _ hev, h1, h2, ?_⟩
      intro ev' hev' hk'
      rcases List.mem_cons.mp hev' with h1 | hev'
      · rw [h1] at hk'; exact absurd hk' hk
      · exact h3 ev' hev' hk'

theorem firstOn_some {l : List Ev} (hs : l.Pairwise (fun a b => a.n > b.n)) (h : firstOn k l = some c) :
    ∃ ev ∈ l, ev.key = k ∧ ev.cell = c ∧ ∀ ev' ∈ l, ev'.key = k → ev'.n ≤ ev.n := by
  obtain ⟨ev, hev, h1, h2, h3⟩ := firstOn_someR hs h
  exact ⟨ev, hev, h1, h2, fun ev' hev' hk => (h3 ev' hev' hk).elim (fun e => e ▸ Nat.le_refl _) Nat.le_of_lt⟩

theorem firstOn_eq_none {k : Key} : ∀ {l : List Ev}, (∀ ev ∈ l, ev.key ≠ k) → firstOn k l = none
  | [], _ => rfl
  | e :: r, h => by
    unfold firstOn
    rw [if_neg (h e (List.mem_cons_self ..))]
    exact firstOn_eq_none (fun ev hev => h ev (List.mem_cons_of_mem _ hev))

end HappyModel.C14
