import HappyProofs.C14.LsmGhost
/-! What a suspended reader can still return is an allowed cell.  `Pre` is the one invariant that meets the state: the
    segments of other frames and the reader's own are checked against it alone. -/
namespace HappyModel.C14

variable {cfg : Cfg} {s : St} {mem : Data} {imms : List Tab} {lv : List (List Tab)} {k : Key} {i : Nat} {snap : List Tab}
  {Al : Cell → Prop}

/-- a reader of `k` about to enter level `i0`: reading on from there gives an allowed cell, and so does everything
    held above (a compaction may push it down into the reader's way) -/
structure Pre (mem : Data) (imms : List Tab) (lv : List (List Tab)) (k : Key) (i0 : Nat) (Al : Cell → Prop) : Prop where
  cont : Al (lookLevels k (lv.drop i0)).join
  mem : ∀ c, mem.lookup k = some c → Al c
  imm : ∀ u ∈ imms, ∀ c, u.data.lookup k = some c → Al c
  low : ∀ j, j < i0 → ∀ T ∈ lv.getD j [], ∀ c, T.data.lookup k = some c → Al c

/-- A reader of `k` suspended at level `i` with the rest `snap` of that level's snapshot.  The tables of the snapshot
    are objects nobody changes, so taking the snapshot was reading it: the answer is decided, or the key is not in the
    snapshot and the reader is one about to enter level `i + 1`. -/
def RB (mem : Data) (imms : List Tab) (lv : List (List Tab)) (k : Key) (i : Nat) (snap : List Tab)
    (Al : Cell → Prop) : Prop :=
  match lookTabs k snap with
  | some c => Al c
  | none => Pre mem imms lv k (i + 1) Al

/-- the same for a reader that holds `found` for `k` already (a scan's accumulator) -/
def RInv (s : St) (k : Key) (i : Nat) (snap : List Tab) (found : Option Cell) (Al : Cell → Prop) : Prop :=
  match found with
  | some c => Al c
  | none => RB s.mem s.imms s.levels k i snap Al

/-- per key, before the walk chooses the next position from level `start` on -/
def KeyPre (s : St) (k : Key) (start : Nat) (found : Option Cell) (Al : Cell → Prop) : Prop :=
  match found with
  | some c => Al c
  | none => Pre s.mem s.imms s.levels k start Al

theorem rb_some {c : Cell} (h : lookTabs k snap = some c) : RB mem imms lv k i snap Al ↔ Al c := by
  unfold RB; rw [h]

theorem rb_none (h : lookTabs k snap = none) : RB mem imms lv k i snap Al ↔ Pre mem imms lv k (i + 1) Al := by
  unfold RB; rw [h]

theorem rinv_iff {found : Option Cell} :
    RInv s k i snap found Al ↔ KeyPre s k (i + 1) (found.or (lookTabs k snap)) Al := by
  cases found with
  | some c => exact Iff.rfl
  | none => unfold RInv KeyPre RB; rw [Option.none_or]

theorem Pre.mono {i0 : Nat} {Al' : Cell → Prop} (h : Pre mem imms lv k i0 Al) (hm : ∀ c, Al c → Al' c) :
    Pre mem imms lv k i0 Al' :=
  ⟨hm _ h.cont, fun c hc => hm c (h.mem c hc), fun u hu c hc => hm c (h.imm u hu c hc),
   fun j hj T hT c hc => hm c (h.low j hj T hT c hc)⟩

/-- a change of the state acts on a suspended reader through `Pre` alone -/
theorem RB.lift {mem' : Data} {imms' : List Tab} {lv' : List (List Tab)} {Al' : Cell → Prop}
    (h : RB mem imms lv k i snap Al) (hm : ∀ c, Al c → Al' c)
    (hp : Pre mem imms lv k (i + 1) Al → Pre mem' imms' lv' k (i + 1) Al') : RB mem' imms' lv' k i snap Al' := by
  cases hl : lookTabs k snap with
  | some c => exact (rb_some hl).mpr (hm c ((rb_some hl).mp h))
  | none => exact (rb_none hl).mpr (hp ((rb_none hl).mp h))

theorem RB.mono {Al' : Cell → Prop} (h : RB mem imms lv k i snap Al) (hm : ∀ c, Al c → Al' c) :
    RB mem imms lv k i snap Al' :=
  h.lift hm fun p => p.mono hm

theorem RInv.lift {s' : St} {found : Option Cell} {Al' : Cell → Prop} (h : RInv s k i snap found Al)
    (hm : ∀ c, Al c → Al' c)
    (hp : Pre s.mem s.imms s.levels k (i + 1) Al → Pre s'.mem s'.imms s'.levels k (i + 1) Al') :
    RInv s' k i snap found Al' := by
  cases found with
  | some c => exact hm c h
  | none => exact RB.lift h hm hp

theorem RInv.mono {found : Option Cell} {Al' : Cell → Prop}
    (h : RInv s k i snap found Al) (hm : ∀ c, Al c → Al' c) : RInv s k i snap found Al' :=
  h.lift hm fun p => p.mono hm

theorem RInv.congr {s' : St} {found : Option Cell}
    (h : RInv s k i snap found Al) (e1 : s'.mem = s.mem) (e2 : s'.imms = s.imms) (e3 : s'.levels = s.levels) :
    RInv s' k i snap found Al :=
  h.lift (fun _ hc => hc) fun p => by rw [e1, e2, e3]; exact p

theorem pre_enter {i0 : Nat} (hP : Pre mem imms lv k i0 Al) (skip : Tab → Bool)
    (hskip : ∀ t, skip t = true → t.data.lookup k = none) :
    match walkLG skip (lv.drop i0) i0 with
    | some (i, t, r) => RB mem imms lv k i (t :: r) Al
    | none => Al none := by
  cases hw : walkLG skip (lv.drop i0) i0 with
  | none =>
    have hn := walkLG_none hw
    have h1 := lookLevels_skip k lv i0 lv.length (fun j _ x hx => hskip x (hn j x (by rw [getD_drop]; exact hx)))
    have hc := hP.cont
    rw [h1, List.drop_of_length_le (Nat.le_add_left ..)] at hc
    exact hc
  | some itr =>
    obtain ⟨i, t, r⟩ := itr
    obtain ⟨m, rfl, e2, sk, e3, e4⟩ := walkLG_some hw
    rw [getD_drop] at e3
    have hlow : ∀ j, j < m → ∀ x ∈ lv.getD (i0 + j) [], x.data.lookup k = none :=
      fun j hj x hx => hskip x (e2 j hj x (by rw [getD_drop]; exact hx))
    have hlen : i0 + m < lv.length := by
      refine Nat.lt_of_not_le fun h => ?_
      rw [getD_of_ge lv _ h] at e3
      cases sk <;> simp at e3
    -- the skipped tables of the level do not hold the key: the level answers like the snapshot
    have hsnap : lookTabs k (lv.getD (i0 + m) []).reverse = lookTabs k (t :: r) := by
      rw [e3, lookTabs_or_append, lookTabs_none_iff.mpr fun x hx => hskip x (e4 x hx), Option.none_or]
    have hc := hP.cont
    rw [lookLevels_skip k lv i0 m hlow, drop_eq_getD_cons lv (i0 + m) hlen, lookLevels_cons, hsnap] at hc
    cases hl : lookTabs k (t :: r) with
    | some c => rw [hl] at hc; exact (rb_some hl).mpr hc
    | none =>
      rw [hl, Option.none_or] at hc
      refine (rb_none hl).mpr ⟨hc, hP.mem, hP.imm, fun j hj T hT c hTc => ?_⟩
      by_cases hj0 : j < i0
      · exact hP.low j hj0 T hT c hTc
      · obtain ⟨d, rfl⟩ := Nat.exists_eq_add_of_le (Nat.le_of_not_lt hj0)
        have : T.data.lookup k = none := by
          by_cases hd : d < m
          · exact hlow d hd T hT
          · obtain rfl : d = m := by omega
            rw [← hsnap] at hl
            exact lookTabs_none_iff.mp hl T (List.mem_reverse.mpr hT)
        rw [this] at hTc; cases hTc

theorem KeyPre.enter {start : Nat} {found : Option Cell}
    (h : KeyPre s k start found Al) (skip : Tab → Bool)
    (hskip : ∀ t, skip t = true → t.data.lookup k = none) :
    match walkLG skip (s.levels.drop start) start with
    | some (i, t, r) => RInv s k i (t :: r) found Al
    | none => Al found.join := by
  cases found with
  | some c => split <;> exact h
  | none => exact pre_enter h skip hskip

/-- Past the table `t`.  Inside the snapshot nothing is left to prove: the invariant after the step is the invariant
    before it. -/
theorem RInv.past {t : Tab} {r : List Tab} {found : Option Cell}
    (h : RInv s k i (t :: r) found Al) (skip : Tab → Bool)
    (hskip : ∀ t, skip t = true → t.data.lookup k = none) :
    match walkG skip r with
    | some (t', r') => RInv s k i (t' :: r') (found.or (t.data.lookup k)) Al
    | none => KeyPre s k (i + 1) (found.or (t.data.lookup k)) Al := by
  rw [rinv_iff, lookTabs_cons, ← Option.or_assoc] at h
  cases hw : walkG skip r with
  | some tr =>
    obtain ⟨t', r'⟩ := tr
    obtain ⟨sk, e, hsk⟩ := walkG_some hw
    rw [e, lookTabs_or_append, lookTabs_none_iff.mpr fun x hx => hskip x (hsk x hx), Option.none_or] at h
    exact rinv_iff.mpr h
  | none =>
    rwa [lookTabs_none_iff.mpr fun x hx => hskip x (walkG_none hw x hx), Option.or_none] at h

theorem pre_ins {i0 : Nat} (h : Pre mem imms lv k i0 Al) (k' : Key) (c' : Cell) :
    Pre (ins k' c' mem) imms lv k i0 (fun c => Al c ∨ (k' = k ∧ c = c')) := by
  have h' := h.mono (Al' := fun c => Al c ∨ (k' = k ∧ c = c')) (fun c hc => Or.inl hc)
  refine ⟨h'.cont, fun c hc => ?_, h'.imm, h'.low⟩
  rw [lookup_ins] at hc
  by_cases hk : k = k'
  · rw [if_pos hk] at hc
    exact Or.inr ⟨hk.symm, (Option.some.inj hc).symm⟩
  · rw [if_neg hk] at hc
    exact Or.inl (h.mem c hc)

theorem pre_freeze {i0 : Nat} (h : Pre mem imms lv k i0 Al) (id : Nat) : Pre [] (imms ++ [⟨id, mem⟩]) lv k i0 Al := by
  refine ⟨h.cont, fun c hc => (nomatch hc), fun u hu c hc => ?_, h.low⟩
  rcases List.mem_append.mp hu with hu | hu
  · exact h.imm u hu c hc
  · rw [List.mem_singleton] at hu; subst hu; exact h.mem c hc

theorem drop_modAt0 (lv : List (List Tab)) (f : List Tab → List Tab) (i : Nat) :
    (modAt lv 0 f).drop (i + 1) = lv.drop (i + 1) := by
  cases lv <;> rfl

/-- a flush installs into level 0, above every suspended reader's next level: the table moves from `imm` to `low` -/
theorem pre_install0 (h : Pre mem imms lv k (i + 1) Al) {t : Tab} (ht : t ∈ imms) (hlen : 0 < lv.length) (p : Tab → Bool) :
    Pre mem (imms.filter p) (modAt lv 0 (· ++ [t])) k (i + 1) Al := by
  refine ⟨by rw [drop_modAt0]; exact h.cont, h.mem, fun u hu => h.imm u (List.mem_filter.mp hu).1, fun j hj T hT c hc => ?_⟩
  rw [getD_modAt _ _ _ _ hlen] at hT
  by_cases hj0 : j = 0
  · rw [if_pos hj0] at hT
    rcases List.mem_append.mp hT with hT | hT
    · exact h.low 0 (Nat.succ_pos i) T hT c hc
    · rw [List.mem_singleton] at hT; subst hT; exact h.imm T ht c hc
  · rw [if_neg hj0] at hT
    exact h.low j hj T hT c hc

theorem pre_compact {i0 : Nat} {j : Job} (h : Pre mem imms lv k i0 Al) (hI : LvInv cfg lv) (hP : Planned cfg lv j)
    (newId : Nat) : Pre mem imms (installCompaction lv j newId) k i0 Al := by
  obtain ⟨⟨e0, e0'⟩, e2, e3⟩ := install_effect hI hP newId k
  refine ⟨?_, h.mem, h.imm, fun x hx T hT c hc => ?_⟩
  · by_cases hle : i0 ≤ j.src
    · rw [lookLevels_install hI hP newId k i0 hle]; exact h.cont
    · by_cases hgt : j.tgt < i0
      · obtain ⟨m, rfl⟩ : ∃ m, i0 = m + 1 := ⟨i0 - 1, by omega⟩
        rw [e2 m (by omega)]; exact h.cont
      · -- `i0` is the target level, one below the source level: what the merged table took from the source
        -- level was held above the reader
        have hi : i0 = j.src + 1 := by omega
        obtain ⟨S, hS, hjoin⟩ := e3 (by omega)
        rw [hi, hjoin]
        cases ha : lookTabs k S.reverse with
        | none => rw [Option.none_or, ← hi]; exact h.cont
        | some c =>
          obtain ⟨T, hT, hTc⟩ := lookTabs_some_mem ha
          exact h.low j.src (by omega) T (hS T (List.mem_reverse.mp hT)) c hTc
  · rcases install_level hI hP newId x T hT with h1 | ⟨hxt, -, hk⟩
    · exact h.low x hx T h1 c hc
    obtain ⟨T', hT'c, hT' | hT'⟩ := hk k c hc
    · exact h.low j.src (by omega) T' hT' c hT'c
    · exact h.low j.tgt (by omega) T' hT' c hT'c

theorem rinv_memInsert {found : Option Cell} (h : RInv s k i snap found Al) (k' : Key) (c' : Cell) :
    RInv (memInsert s k' c').1 k i snap found (fun c => Al c ∨ (k' = k ∧ c = c')) :=
  h.lift (fun _ hc => Or.inl hc) fun p => pre_ins p k' c'

theorem Eff.rinv {s' : St} {pc pc' : Pc} (h : Eff cfg s pc s' pc') (hs : SInv cfg s) (hp : POk cfg s pc)
    {found : Option Cell} (hR : RInv s k i snap found Al) :
    RInv s' k i snap found (fun c => Al c ∨ ∃ q, insOf cfg s pc = some (k, c, q)) := by
  have hR' := hR.mono (Al' := fun c => Al c ∨ ∃ q, insOf cfg s pc = some (k, c, q)) fun c hc => Or.inl hc
  cases h with
  | ins k' c' q s1 hi hc hm _ _ =>
    refine (rinv_memInsert (hR.congr hm hc.imms hc.levels) k' c').mono ?_
    rintro c (h | ⟨rfl, rfl⟩)
    · exact Or.inl h
    · exact Or.inr ⟨q, hi⟩
  | wal k' c' s1 hi hc hm => exact hR'.congr hm hc.imms hc.levels
  | sync k' c' q s1 hi hc hm => exact hR'.congr hm hc.imms hc.levels
  | skip mid => exact hR'
  | freeze mid => exact hR'.lift (fun _ hc => hc) fun p => pre_freeze p s.memId
  | install t b h =>
    have h1 : RInv (flushS1 cfg s t b) k i snap found (fun c => Al c ∨ ∃ q, insOf cfg s (.pFlush t b) = some (k, c, q)) :=
      hR'.lift (fun _ hc => hc) fun p => pre_install0 p hp hs.lv.pos _
    cases h with
    | no => exact h1
    | yes j _ _ => exact h1.congr rfl rfl rfl
  | compact j => exact hR'.lift (fun _ hc => hc) fun p => pre_compact p hs.lv hp.1 s.nextId
  | read h => exact hR'
  | done r => exact hR'

theorem rinv_other {pc : Pc} (hs : SInv cfg s) (hp : POk cfg s pc) {found : Option Cell} (hR : RInv s k i snap found Al) :
    RInv (stepOp cfg s pc).1 k i snap found (fun c => Al c ∨ ∃ q, insOf cfg s pc = some (k, c, q)) :=
  (stepOp_eff cfg s pc).rinv hs hp hR

theorem abs_of_read : s.abs k = ((s.mem.lookup k).or ((lookTabs k s.imms.reverse).or (lookLevels k s.levels))).join := by
  unfold St.abs; rw [read_eq]

theorem pre_zero (hm : s.mem.lookup k = none) (hi : lookTabs k s.imms.reverse = none)
    (hal : Al (s.abs k)) : Pre s.mem s.imms s.levels k 0 Al := by
  rw [abs_of_read, hm, Option.none_or, hi, Option.none_or] at hal
  refine ⟨hal, fun c hc => (by rw [hm] at hc; cases hc), fun u hu c hc => ?_, fun j hj => (nomatch hj)⟩
  rw [lookTabs_none_iff.mp hi u (List.mem_reverse.mpr hu)] at hc; cases hc

theorem RInv.next {t : Tab} {r : List Tab} {found : Option Cell}
    (h : RInv s k i (t :: r) found Al) (skip : Tab → Bool)
    (hskip : ∀ t, skip t = true → t.data.lookup k = none) :
    match nextStop skip s.levels i r with
    | some (i', t', r') => RInv s k i' (t' :: r') (found.or (t.data.lookup k)) Al
    | none => Al (found.or (t.data.lookup k)).join := by
  have hp := h.past skip hskip
  unfold nextStop
  cases hw : walkG skip r with
  | some tr => rw [hw] at hp; exact hp
  | none => rw [hw] at hp; exact hp.enter skip hskip

/-- a `get k` in progress that can only return cells in `Al` -/
def GetAl (s : St) (k : Key) (Al : Cell → Prop) : Pc → Prop
  | .gStart k' => k' = k ∧ Al (s.abs k)
  | .gAt k' i t r => k' = k ∧ RB s.mem s.imms s.levels k i (t :: r) Al
  | .done (.val c) => Al c
  | _ => False

theorem getAl_gPc {o : Option (Nat × Tab × List Tab)}
    (h : match o with
      | some (i, t, r) => RB s.mem s.imms s.levels k i (t :: r) Al
      | none => Al none) : GetAl s k Al (gPc k o) := by
  cases o with
  | some itr => exact ⟨rfl, h⟩
  | none => exact h

theorem getAl_step {pc : Pc} (h : GetAl s k Al pc) : GetAl s k Al (stepOp cfg s pc).2 := by
  cases pc with
  | gStart k' =>
    obtain ⟨rfl, hal⟩ : k' = k ∧ _ := h
    show GetAl s k' Al (getStart cfg s k').2
    rw [getStart_eq]
    cases hm : (s.mem.lookup k').or (lookTabs k' s.imms.reverse) with
    | some c => rw [abs_of_read, ← Option.or_assoc, hm] at hal; exact hal
    | none =>
      obtain ⟨h1, h2⟩ := Option.or_eq_none_iff.mp hm
      exact getAl_gPc (pre_enter (pre_zero h1 h2 hal) _ (skip_maybe cfg k'))
  | gAt k' i t r =>
    obtain ⟨rfl, hr⟩ : k' = k ∧ _ := h
    show GetAl s k' Al (getResume cfg s k' i t r).2
    rw [getResume_eq]
    have hn := RInv.next (s := s) (found := none) hr (noKey cfg k') (skip_maybe cfg k')
    cases ht : t.data.lookup k' with
    | some c => exact (rb_some (by rw [lookTabs_cons, ht]; rfl)).mp hr
    | none => rw [ht] at hn; exact getAl_gPc hn
  | done r => exact h
  | _ => cases h

end HappyModel.C14
