import HappyModel.C16.SoftTtl
import HappyProofs.C16.AList
/-!
`soft_ttl_age_le_hard` for the repaired variant, in two forms.  A pending cache hit is only ever
decided on an entry younger than the hard TTL, and the coalesced path re-validates, so every served
value is younger than the hard TTL at the instant `issued` the decision to serve it was taken.

`TRes.served v cat issued` reaches the caller when the generator returns, one `cache_read_latency`
(a hit) or nothing (a coalesced request: it decides when its wait ends) later.  The second form ties
`issued` to the clock readings of the operation's own segments: for a hit it is the reading of the
operation's first segment, for a coalesced request the reading of the segment that returns.  Hence
the age of a served value *at return* is below `hard_ttl` plus the time the operation spent between
its first and its returning segment.

Both forms are one invariant `HInv cfg Q`: `Q i t` says that `t` is an acceptable decision reading
for operation `i` — anything for the first form, "`t` is the reading of `i`'s first segment" for the
second.
-/
namespace HappyModel.C16

def tActId : TAct → Nat
  | .start i _ _ => i
  | .resume i _ => i

def tActTime : TAct → Nat
  | .start _ _ t => t
  | .resume _ t => t

/-- the first-segment readings recorded so far -/
def tStarts (st : List (Nat × Nat)) : TAct → List (Nat × Nat)
  | .start i _ t => st ++ [(i, t)]
  | .resume _ _ => st

def tStartIds (as : List TAct) : List Nat :=
  as.filterMap fun a => match a with | .start i _ _ => some i | _ => none

/-- run a schedule, collecting for every completed operation what it reported, the clock reading of
    its first segment and the clock reading of the segment in which it returned -/
def tRunT (cfg : TCfg) : TSt → List (Nat × Nat) → List TAct → List (TRes × Nat × Nat)
  | _, _, [] => []
  | s, st, a :: as =>
    (match (tStep cfg s a).2 with
      | some x => [(x, (aget? (tStarts st a) (tActId a)).getD 0, tActTime a)]
      | none => []) ++ tRunT cfg (tStep cfg s a).1 (tStarts st a) as

theorem tEvict_pend (fuel cap : Nat) (s : TSt) : (tEvict fuel cap s).pend = s.pend := by
  induction fuel generalizing s with
  | zero => rfl
  | succ f ih =>
    unfold tEvict
    split
    · rfl
    · split
      · rfl
      · rw [ih]

theorem tStore_pend (cfg : TCfg) (s : TSt) (k v now : Nat) : (tStore cfg s k v now).pend = s.pend := by
  unfold tStore
  cases cfg.cap with
  | none => rfl
  | some c =>
    simp only []
    split
    · rfl
    · exact tEvict_pend _ _ _

theorem ite_ind {α} {c : Prop} [Decidable c] {a b : α} (P : α → Prop) (ha : c → P a) (hb : ¬c → P b) :
    P (if c then a else b) := by
  split
  · exact ha ‹_›
  · exact hb ‹_›

/-- what the first segment of a `get` may produce, for the age invariant (last clause) and for the size
    invariant (`cache`, `order`) alike -/
def GetStart (cfg : TCfg) (s : TSt) (i k now : Nat) (r : TSt × Option TRes) : Prop :=
  ∃ (s' : TSt) (p : TPend), r = (s'.setPend i p, none) ∧
    s'.cache = s.cache ∧ s'.pend = s.pend ∧
    (s'.order = s.order ∨ s'.order = lruTouch s.order k) ∧
    ∀ v cat iss, p = .hit v cat iss → iss = now ∧ (now - cat < cfg.soft ∨ now - cat < cfg.hard)

theorem tStart_get (cfg : TCfg) (s : TSt) (i k now : Nat) :
    GetStart cfg s i k now (tStart cfg s i (.get k) now) := by
  have nohit : ∀ p : TPend, (∀ v cat iss, p ≠ .hit v cat iss) → ∀ v cat iss, p = .hit v cat iss →
      iss = now ∧ (now - cat < cfg.soft ∨ now - cat < cfg.hard) :=
    fun p hp v cat iss e => absurd e (hp v cat iss)
  have miss : ∀ s' : TSt, s'.cache = s.cache → s'.pend = s.pend →
      (s'.order = s.order ∨ s'.order = lruTouch s.order k) →
      GetStart cfg s i k now (if k ∈ s'.refreshing then (s'.setPend i (.coalesced k now), none)
        else (s'.setPend i (.miss k), none)) := fun s' h1 h2 h3 =>
    ite_ind _ (fun _ => ⟨_, _, rfl, h1, h2, h3, nohit _ (fun _ _ _ e => by cases e)⟩)
      (fun _ => ⟨_, _, rfl, h1, h2, h3, nohit _ (fun _ _ _ e => by cases e)⟩)
  unfold tStart
  simp only
  cases aget? s.cache k with
  | none => exact miss s rfl rfl (Or.inl rfl)
  | some e =>
    obtain ⟨v, cat⟩ := e
    have hit : ∀ h : now - cat < cfg.soft ∨ now - cat < cfg.hard, ∀ v' cat' iss,
        TPend.hit v cat now = .hit v' cat' iss → iss = now ∧ (now - cat' < cfg.soft ∨ now - cat' < cfg.hard) :=
      fun h _ _ _ e => by cases e; exact ⟨rfl, h⟩
    simp only []
    refine ite_ind _ (fun h => ⟨_, _, rfl, rfl, rfl, Or.inr rfl, hit (Or.inl h)⟩) (fun _ => ?_)
    refine ite_ind _ (fun h => ?_) (fun _ => miss { s with order := lruTouch s.order k } rfl rfl (Or.inr rfl))
    exact ite_ind _ (fun _ => ⟨_, _, rfl, rfl, rfl, Or.inr rfl, hit (Or.inr h)⟩)
      (fun _ => ⟨_, _, rfl, rfl, rfl, Or.inr rfl, hit (Or.inr h)⟩)

theorem tStart_pend (cfg : TCfg) (s : TSt) (i : Nat) (op : TOp) (now : Nat) :
    ((tStart cfg s i op now).1.pend = s.pend ∨
      ∃ p, (tStart cfg s i op now).1.pend = s.pend ++ [(i, p)] ∧
        ∀ v cat iss, p = .hit v cat iss → iss = now ∧ (now - cat < cfg.soft ∨ now - cat < cfg.hard)) ∧
    ((tStart cfg s i op now).2 = none ∨ (tStart cfg s i op now).2 = some .done) := by
  cases op with
  | get k =>
    obtain ⟨s', p, e, _, hp, _, hhit⟩ := tStart_get cfg s i k now
    rw [e]
    exact ⟨Or.inr ⟨p, by simp only [TSt.setPend, hp], hhit⟩, Or.inl rfl⟩
  | put k v => exact ⟨Or.inr ⟨_, rfl, fun _ _ _ e => by cases e⟩, Or.inl rfl⟩
  | inv k =>
    exact ite_ind (fun r : TSt × Option TRes => (r.1.pend = s.pend ∨ _) ∧ (r.2 = none ∨ r.2 = some .done))
      (fun _ => ⟨Or.inl rfl, Or.inr rfl⟩) (fun _ => ⟨Or.inl rfl, Or.inr rfl⟩)
  | invAll => exact ⟨Or.inl rfl, Or.inr rfl⟩
  | bput k v => exact ⟨Or.inl rfl, Or.inr rfl⟩
  | bdel k => exact ⟨Or.inl rfl, Or.inr rfl⟩
  | refresh k => exact ⟨Or.inr ⟨_, rfl, fun _ _ _ e => by cases e⟩, Or.inl rfl⟩

/-- what a later segment may produce: a blocking fetch may replace its request; cache and LRU order went
    through at most one `_store`; it serves the hit it was pending on or, on the coalesced path, an entry it has
    just looked at (re-validated against the hard TTL by the repaired variant) -/
def ResumeOk (cfg : TCfg) (s : TSt) (i : Nat) (p : TPend) (now : Nat) (r : TSt × Option TRes) : Prop :=
  (∀ x ∈ r.1.pend, x ∈ s.pend ∨ ∃ k, x = (i, .miss k)) ∧
  ((r.1.cache = s.cache ∧ r.1.order = s.order) ∨
    ∃ s' k v, s'.cache = s.cache ∧ s'.order = s.order ∧
      r.1.cache = (tStore cfg s' k v now).cache ∧ r.1.order = (tStore cfg s' k v now).order) ∧
  ∀ v cat iss, r.2 = some (.served v cat iss) →
    p = .hit v cat iss ∨ (iss = now ∧ (cfg.rep = true → now - cat < cfg.hard))

theorem tResume_spec (cfg : TCfg) (s : TSt) (i : Nat) (p : TPend) (now : Nat) :
    ResumeOk cfg s i p now (tResume cfg s i p now) := by
  have hc : ∀ x ∈ (s.clearPend i).pend, x ∈ s.pend ∨ ∃ k, x = (i, TPend.miss k) :=
    fun x hx => Or.inl (List.mem_filter.mp hx).1
  have hset : ∀ k, ∀ x ∈ ((s.clearPend i).setPend i (.miss k)).pend,
      x ∈ s.pend ∨ ∃ k, x = (i, TPend.miss k) := by
    intro k x hx
    rcases List.mem_append.mp hx with hx | hx
    · exact hc x hx
    · exact Or.inr ⟨k, List.mem_singleton.mp hx⟩
  have hstore : ∀ (s' : TSt) k v, s'.pend = (s.clearPend i).pend →
      ∀ x ∈ (tStore cfg s' k v now).pend, x ∈ s.pend ∨ ∃ k, x = (i, TPend.miss k) :=
    fun s' k v e x hx => hc x (e ▸ tStore_pend cfg s' k v now ▸ hx)
  have same : ∀ s' : TSt, s'.cache = s.cache → s'.order = s.order →
      (s'.cache = s.cache ∧ s'.order = s.order) ∨
        ∃ s'' k v, s''.cache = s.cache ∧ s''.order = s.order ∧
          s'.cache = (tStore cfg s'' k v now).cache ∧ s'.order = (tStore cfg s'' k v now).order :=
    fun _ h1 h2 => Or.inl ⟨h1, h2⟩
  cases p with
  | hit v cat issued => exact ⟨hc, same _ rfl rfl, fun _ _ _ e => by cases e; exact Or.inl rfl⟩
  | coalesced k issued =>
    unfold tResume
    simp only
    cases aget? (s.clearPend i).cache k with
    | none =>
      exact ite_ind _ (fun _ => ⟨hset k, same _ rfl rfl, fun _ _ _ e => by cases e⟩)
        (fun _ => ⟨hc, same _ rfl rfl, fun _ _ _ e => by cases e⟩)
    | some e =>
      refine ite_ind _ (fun _ => ?_) (fun hrep => ⟨hc, same _ rfl rfl, fun _ _ _ e => by
        cases e; exact Or.inr ⟨rfl, fun h => absurd h hrep⟩⟩)
      exact ite_ind _ (fun h => ⟨hc, same _ rfl rfl, fun _ _ _ e => by cases e; exact Or.inr ⟨rfl, fun _ => h⟩⟩)
        (fun _ => ⟨hset k, same _ rfl rfl, fun _ _ _ e => by cases e⟩)
  | miss k =>
    unfold tResume
    simp only
    cases aget? (s.clearPend i).back k with
    | none => exact ⟨hc, same _ rfl rfl, fun _ _ _ e => by cases e⟩
    | some v => exact ⟨hstore _ k v rfl, Or.inr ⟨s.clearPend i, k, v, rfl, rfl, rfl, rfl⟩, fun _ _ _ e => by cases e⟩
  | put k v =>
    exact ⟨hstore _ k v rfl, Or.inr ⟨{ s.clearPend i with back := aset (s.clearPend i).back k v }, k, v, rfl, rfl, rfl, rfl⟩,
      fun _ _ _ e => by cases e⟩
  | refresh k =>
    unfold tResume
    simp only
    cases aget? (s.clearPend i).back k with
    | none => exact ⟨hc, same _ rfl rfl, fun _ _ _ e => by cases e⟩
    | some v => exact ⟨hstore _ k v rfl, Or.inr ⟨s.clearPend i, k, v, rfl, rfl, rfl, rfl⟩, fun _ _ _ e => by cases e⟩

/-- every pending hit was decided on an entry younger than the hard TTL, at a reading that `Q`
    accepts for its operation -/
def HInv (cfg : TCfg) (Q : Nat → Nat → Prop) (s : TSt) : Prop :=
  ∀ i v cat iss, (i, TPend.hit v cat iss) ∈ s.pend → Q i iss ∧ iss < cat + cfg.hard

theorem hstart (cfg : TCfg) (hsh : cfg.soft ≤ cfg.hard) {Q Q' : Nat → Nat → Prop} (s : TSt) (i : Nat)
    (op : TOp) (now : Nat) (hQ : ∀ j t, Q j t → Q' j t) (hnew : Q' i now) (h : HInv cfg Q s) :
    HInv cfg Q' (tStart cfg s i op now).1 ∧
      ∀ v cat iss, (tStart cfg s i op now).2 ≠ some (.served v cat iss) := by
  obtain ⟨hp, hr⟩ := tStart_pend cfg s i op now
  have old : ∀ j v cat iss, (j, TPend.hit v cat iss) ∈ s.pend → Q' j iss ∧ iss < cat + cfg.hard :=
    fun j v cat iss hm => ⟨hQ _ _ (h j v cat iss hm).1, (h j v cat iss hm).2⟩
  refine ⟨fun j v cat iss hm => ?_, fun v cat iss e => ?_⟩
  · rcases hp with hp | ⟨p, hp, hhit⟩
    · exact old j v cat iss (hp ▸ hm)
    · rw [hp] at hm
      rcases List.mem_append.mp hm with hm | hm
      · exact old j v cat iss hm
      · cases List.mem_singleton.mp hm
        obtain ⟨rfl, hlt⟩ := hhit v cat iss rfl
        exact ⟨hnew, by omega⟩
  · rcases hr with hr | hr <;> rw [hr] at e <;> cases e

theorem hresume (cfg : TCfg) (hrep : cfg.rep = true) {Q : Nat → Nat → Prop} (s : TSt) (i : Nat)
    (p : TPend) (now : Nat) (h : HInv cfg Q s) (hm : (i, p) ∈ s.pend) :
    HInv cfg Q (tResume cfg s i p now).1 ∧
      ∀ v cat iss, (tResume cfg s i p now).2 = some (.served v cat iss) →
        iss < cat + cfg.hard ∧ (Q i iss ∨ iss = now) := by
  obtain ⟨hp, _, hr⟩ := tResume_spec cfg s i p now
  refine ⟨fun j v cat iss hx => ?_, fun v cat iss e => ?_⟩
  · rcases hp _ hx with hx | ⟨k, hk⟩
    · exact h j v cat iss hx
    · cases hk
  · rcases hr v cat iss e with rfl | ⟨rfl, hlt⟩
    · exact ⟨(h i v cat iss hm).2, Or.inl (h i v cat iss hm).1⟩
    · exact ⟨by have := hlt hrep; omega, Or.inr rfl⟩

theorem hstep (cfg : TCfg) (hrep : cfg.rep = true) (hsh : cfg.soft ≤ cfg.hard) {Q Q' : Nat → Nat → Prop}
    (s : TSt) (a : TAct) (hQ : ∀ j t, Q j t → Q' j t)
    (hnew : ∀ i op t, a = .start i op t → Q' i t) (h : HInv cfg Q s) :
    HInv cfg Q' (tStep cfg s a).1 ∧
      ∀ v cat iss, (tStep cfg s a).2 = some (.served v cat iss) →
        iss < cat + cfg.hard ∧ (Q' (tActId a) iss ∨ iss = tActTime a) := by
  have h' : HInv cfg Q' s := fun j v cat iss hm => ⟨hQ _ _ (h j v cat iss hm).1, (h j v cat iss hm).2⟩
  cases a with
  | start i op now =>
    obtain ⟨h1, h2⟩ := hstart cfg hsh s i op now hQ (hnew i op now rfl) h
    exact ⟨h1, fun v cat iss e => absurd e (h2 v cat iss)⟩
  | resume i now =>
    unfold tStep
    simp only
    cases hf : s.pend.find? (fun x => x.1 == i) with
    | none => exact ⟨h', fun _ _ _ e => by cases e⟩
    | some y =>
      obtain ⟨j, p⟩ := y
      have hj : j = i := by simpa using List.find?_some hf
      subst hj
      exact hresume cfg hrep s j p now h' (List.mem_of_find?_eq_some hf)

theorem tRun_ok (cfg : TCfg) (hrep : cfg.rep = true) (hsh : cfg.soft ≤ cfg.hard) (s : TSt) (as : List TAct)
    (h : HInv cfg (fun _ _ => True) s) : ∀ r ∈ (tRun cfg s as).2, r.ageOk cfg.hard = true := by
  induction as generalizing s with
  | nil => intro r hr; cases hr
  | cons a as ih =>
    intro r hr
    obtain ⟨h1, h2⟩ := hstep cfg hrep hsh s a (fun _ _ t => t) (fun _ _ _ _ => trivial) h
    rcases List.mem_append.mp hr with hr | hr
    · cases hres : (tStep cfg s a).2 with
      | none => rw [hres] at hr; cases hr
      | some x =>
        rw [hres] at hr
        rw [List.mem_singleton.mp hr]
        cases x with
        | served v cat iss => exact decide_eq_true (h2 v cat iss hres).1
        | _ => rfl
    · exact ih _ h1 r hr

/-- the `Nodup` hypothesis: `aget?` returns the first reading recorded for an id, which is the operation's own first
    segment only if no id is started twice -/
theorem tRunT_ok (cfg : TCfg) (hrep : cfg.rep = true) (hsh : cfg.soft ≤ cfg.hard) :
    ∀ (as : List TAct) (s : TSt) (st : List (Nat × Nat)), HInv cfg (fun i t => (i, t) ∈ st) s →
      ((st.map (·.1)) ++ tStartIds as).Nodup →
      ∀ v cat iss ts tr, (TRes.served v cat iss, ts, tr) ∈ tRunT cfg s st as →
        iss < cat + cfg.hard ∧ (iss = ts ∨ iss = tr) := by
  intro as
  induction as with
  | nil => intro s st _ _ v cat iss ts tr hm; cases hm
  | cons a as ih =>
    intro s st h hnd v cat iss ts tr hm
    have hnd' : (((tStarts st a).map (·.1)) ++ tStartIds as).Nodup := by
      cases a with
      | start i op now =>
        have e : tStartIds (.start i op now :: as) = i :: tStartIds as := rfl
        rw [e] at hnd
        simpa [tStarts, List.map_append, List.append_assoc] using hnd
      | resume i now => exact hnd
    have hsub : ∀ j t, (j, t) ∈ st → (j, t) ∈ tStarts st a := by
      intro j t hjt
      cases a with
      | start i op now => exact List.mem_append_left _ hjt
      | resume i now => exact hjt
    have hnew : ∀ i op t, a = .start i op t → (i, t) ∈ tStarts st a := by
      rintro i op t rfl
      exact List.mem_append_right _ List.mem_cons_self
    obtain ⟨h1, h2⟩ := hstep cfg hrep hsh s a hsub hnew h
    rcases List.mem_append.mp hm with hm | hm
    · cases hres : (tStep cfg s a).2 with
      | none => rw [hres] at hm; cases hm
      | some x =>
        rw [hres] at hm
        simp only [List.mem_singleton, Prod.mk.injEq] at hm
        obtain ⟨rfl, rfl, rfl⟩ := hm
        obtain ⟨hage, hwhere⟩ := h2 v cat iss hres
        refine ⟨hage, hwhere.imp (fun hw => ?_) id⟩
        rw [aget?_of_mem_nodup _ _ (List.nodup_append.mp hnd').1 hw]; rfl
    · exact ih _ _ h1 hnd' v cat iss ts tr hm

end HappyModel.C16
