import HappyProofs.C12.PxMoves
import HappyProofs.C12.PxAgree
/-!
What a client of `Px` can see, move by move: the configuration is constant, a decision is written once, decided values
were handed to `propose()` (`Valid`), futures resolve with their node's decision (`FutInv`).  `Reach` collects what
holds of every state reachable from `init`.
-/
namespace HappyModel.C12.Px

theorem decide_cfg (s : St) (b : Nat) (v : Val) : (decide_ s b v).cfg = s.cfg := by
  unfold decide_; split <;> rfl

theorem Move.cfg {s t : St} (m : Move s t) : t.cfg = s.cfg := by
  cases m with
  | decide => exact decide_cfg _ _ _
  | _ => rfl

theorem decide_stable (t : St) (b : Nat) (w : Val) (d : Nat) (v : Val) (ht : t.decided d = some v) :
    (decide_ t b w).decided d = some v := by
  unfold decide_; split
  · exact ht
  · rename_i hn
    by_cases hdp : d = b % t.cfg.n
    · subst hdp; rw [ht] at hn; simp at hn
    · simp [upd_other _ _ _ _ hdp]; exact ht

theorem Move.stable {s t : St} (m : Move s t) {d : Nat} {v : Val} (h : s.decided d = some v) : t.decided d = some v := by
  cases m with
  | decide => exact decide_stable _ _ _ _ _ h
  | learn _ hn =>
    show upd _ _ _ _ = _
    rw [upd_other _ _ _ _ (fun e => by rw [← e, h] at hn; exact hn rfl)]
    exact h
  | _ => exact h

theorem decided_stable_step (s : St) (a : Act) (d : Nat) (v : Val) (h : s.decided d = some v) :
    (step s a).decided d = some v :=
  (step_moves s a).keeps (P := fun t => t.decided d = some v) (fun _ _ m => m.stable) h

theorem decided_stable_run (s : St) (as : List Act) (d : Nat) (v : Val) (h : s.decided d = some v) :
    (runActs s as).decided d = some v :=
  (run_moves s as).keeps (P := fun t => t.decided d = some v) (fun _ _ m => m.stable) h

/-- every phase-2 value, hence every decision, was handed to `propose()` -/
structure Valid (s : St) : Prop where
  own : ∀ b v, s.ownVal b = some v → v ∈ s.proposedVals
  st : ∀ b v, s.started2 b = some v → v ∈ s.proposedVals

theorem decide_valid {s : St} (h : Valid s) (b : Nat) (v : Val) : Valid (decide_ s b v) := by
  unfold decide_; split
  · exact h
  · exact ⟨h.own, h.st⟩

theorem phase2Val_proposed {s : St} (inv : Inv s) (val : Valid s) (b : Nat) (hown : s.ownVal b ≠ none) :
    phase2Val s b ∈ s.proposedVals := by
  unfold phase2Val
  cases hpick : pickVal (s.p1 b) none with
  | none =>
    simp only []
    cases ho : s.ownVal b with
    | none => exact absurd ho hown
    | some w => simpa using val.own b w ho
  | some bv =>
    obtain ⟨bm, vm⟩ := bv
    simp only []
    obtain ⟨hwit, _, _⟩ := pickVal_some hpick
    rcases hwit with ⟨f0, hf0⟩ | h
    · obtain ⟨_, hpr0⟩ := (inv.n1.p1 b).2 f0 _ hf0
      obtain ⟨_, _, _, c4⟩ := inv.sem.pr f0 b _ hpr0
      obtain ⟨hv0, _⟩ := c4 bm vm rfl
      exact val.st bm vm (inv.sem.one f0 bm vm hv0)
    · cases h

theorem beginBallot_valid {s : St} (val : Valid s) (p b : Nat) (v : Val) (hv : v ∈ s.proposedVals) :
    Valid (beginBallot s p b v) := by
  unfold beginBallot; simp only []
  refine ⟨?_, val.st⟩
  intro b' v' hb'
  by_cases hbb : b' = b
  · subst hbb; simp at hb'; subst hb'; exact hv
  · simp [upd_other _ _ _ _ hbb] at hb'; exact val.own b' v' hb'

theorem Valid.ballotVal {s : St} (val : Valid s) {b : Nat} {v : Val} (h : ballotVal s b = some v) :
    v ∈ s.proposedVals := by
  unfold Px.ballotVal at h
  split at h
  · rename_i w hs; cases h; exact val.st b _ hs
  · exact val.own b v h

theorem Move.valid {s t : St} (m : Move s t) (inv : Inv s) (val : Valid s) : Valid t := by
  cases m with
  | decide => exact decide_valid val _ _
  | phase2 _ _ h3 _ =>
    refine ⟨val.own, fun b' v' hb' => ?_⟩
    simp only [phase2St, upd_apply] at hb'
    split at hb'
    · cases hb'; exact phase2Val_proposed inv val _ h3
    · exact val.st b' v' hb'
  | regFut v _ => exact ⟨fun b w h => List.mem_cons_of_mem _ (val.own b w h), fun b w h => List.mem_cons_of_mem _ (val.st b w h)⟩
  | ballot _ _ hv => exact beginBallot_valid val _ _ _ (hv.elim id fun ⟨_, h⟩ => val.ballotVal h)
  | _ => exact ⟨val.own, val.st⟩

/-- a learned value was chosen, so it is the phase-2 value of a ballot, and those were all handed to `propose()` -/
theorem Valid.decided {s : St} (val : Valid s) (inv : Inv s) (hq2 : 0 < s.cfg.q2) {d : Nat} {w : Val}
    (hd : s.decided d = some w) : w ∈ s.proposedVals := by
  obtain ⟨b, Q, _, hQ, hlen⟩ := inv.learn.node d w hd
  obtain ⟨a, ha⟩ := quorum_nonempty hq2 hlen
  exact val.st b w (inv.sem.one a b w (hQ a ha).2)

theorem init_valid (n q1 q2 : Nat) : Valid (init n q1 q2) := by
  refine ⟨?_, ?_⟩ <;> simp [init]

/-- a future returned by `propose()` belongs to a node of the cluster and resolves only with the value its node decided -/
structure FutInv (s : St) : Prop where
  res : ∀ f v, s.futRes f = some v → s.decided (s.futOwner f) = some v
  own : ∀ b f, s.futOf b = some f → s.futOwner f = b % s.cfg.n ∧ f < s.nfut
  fresh : ∀ f, s.nfut ≤ f → s.futRes f = none
  lt : ∀ f, f < s.nfut → s.futOwner f < s.cfg.n

theorem init_fut (n q1 q2 : Nat) : FutInv (init n q1 q2) := by
  refine ⟨?_, ?_, ?_, ?_⟩ <;> simp [init]

/-- a node that has not decided owns no resolved future, so its deciding keeps `res` -/
theorem FutInv.res_upd {s : St} (h : FutInv s) {d : Nat} (hd : ¬ (s.decided d).isSome) (v : Val) {f : Nat} {w : Val}
    (hf : s.futRes f = some w) : upd s.decided d (some v) (s.futOwner f) = some w := by
  rw [upd_other _ _ _ _ (fun hp => by rw [← hp, h.res f w hf] at hd; exact hd rfl)]
  exact h.res f w hf

theorem decide_fut {s : St} (h : FutInv s) (b : Nat) (v : Val) : FutInv (decide_ s b v) := by
  unfold decide_
  split
  · exact h
  · rename_i hn
    cases hfo : s.futOf b with
    | none => exact ⟨fun f w hf => h.res_upd hn v hf, h.own, h.fresh, h.lt⟩
    | some fid =>
      refine ⟨?_, h.own, ?_, h.lt⟩
      · intro f w hf
        simp only [upd_apply] at hf
        split at hf
        · rename_i hff; cases hf; subst hff
          show upd s.decided _ _ (s.futOwner f) = _
          rw [(h.own b f hfo).1, upd_same]
        · exact h.res_upd hn v hf
      · intro f hf
        show upd s.futRes fid (some v) f = none
        rw [upd_other _ _ _ _ (by have := (h.own b fid hfo).2; have : s.nfut ≤ f := hf; omega)]
        exact h.fresh f hf

theorem Move.fut {s t : St} (m : Move s t) (h : FutInv s) : FutInv t := by
  cases m with
  | decide => exact decide_fut h _ _
  | learn _ hn => exact ⟨fun f w hf => h.res_upd hn _ hf, h.own, h.fresh, h.lt⟩
  | @regFut p v hpn =>
    have hfr := h.fresh s.nfut (Nat.le_refl _)
    refine ⟨fun f w hf => ?_, fun b' f hf => ?_, fun f hf => h.fresh f (Nat.le_of_succ_le hf), fun f hf => ?_⟩
    · show s.decided (upd s.futOwner s.nfut p f) = some w
      rw [upd_other _ _ _ _ (fun e => by rw [e] at hf; exact absurd (hfr.symm.trans hf) nofun)]; exact h.res f w hf
    · obtain ⟨a1, a2⟩ := h.own b' f hf
      refine ⟨?_, Nat.lt_succ_of_lt a2⟩
      show upd s.futOwner s.nfut p f = b' % s.cfg.n
      rw [upd_other _ _ _ _ (Nat.ne_of_lt a2)]; exact a1
    · show upd s.futOwner s.nfut p f < s.cfg.n
      rw [upd_apply]; split
      · exact hpn
      · exact h.lt f (by have : f < s.nfut + 1 := hf; omega)
  | @resolveFut f d hf hd =>
    refine ⟨fun f' w hf' => ?_, h.own, fun f' hf' => ?_, h.lt⟩
    · simp only [Px.resolveFut, upd_apply] at hf'
      split at hf'
      · rename_i e; cases hf'; rw [e]; exact hd
      · exact h.res f' w hf'
    · show upd s.futRes f (some d) f' = none
      rw [upd_other _ _ _ _ (by have : s.nfut ≤ f' := hf'; omega)]; exact h.fresh f' hf'
  | @attachFut b f hf ho =>
    refine ⟨h.res, fun b' f' hf' => ?_, h.fresh, h.lt⟩
    simp only [Px.attachFut, upd_apply] at hf'
    split at hf'
    · rename_i e; cases hf'; rw [e]; exact ⟨ho, hf⟩
    · exact h.own b' f' hf'
  | @retire bo bn hb =>
    -- the future of the abandoned ballot moves to a ballot of the same node
    refine ⟨h.res, fun b' f hf => ?_, h.fresh, h.lt⟩
    simp only [retireSt, upd_apply] at hf
    split at hf
    · cases hf
    · split at hf
      · rename_i e; subst e
        obtain ⟨a1, a2⟩ := h.own bo f hf
        exact ⟨a1.trans hb, a2⟩
      · exact h.own b' f hf
  | _ => exact ⟨h.res, h.own, h.fresh, h.lt⟩

structure Reach (n q1 q2 : Nat) (s : St) : Prop where
  cfg : s.cfg = ⟨n, q1, q2⟩
  inv : Inv s
  val : Valid s
  fut : FutInv s

theorem reach_run (n q1 q2 : Nat) (as : List Act) : Reach n q1 q2 (runActs (init n q1 q2) as) :=
  (run_moves _ as).keeps (fun _ _ m h => ⟨m.cfg.trans h.cfg, m.inv h.inv, m.valid h.inv h.val, m.fut h.fut⟩)
    ⟨rfl, init_inv n q1 q2, init_valid n q1 q2, init_fut n q1 q2⟩

theorem Reach.agree {n q1 q2 : Nat} {s : St} (r : Reach n q1 q2 s) (hq : n < q1 + q2) (hq2 : 0 < q2) {d1 d2 : Nat}
    {v1 v2 : Val} (h1 : s.decided d1 = some v1) (h2 : s.decided d2 = some v2) : v1 = v2 :=
  agreement_of_inv r.inv (by rw [r.cfg]; exact hq) (by rw [r.cfg]; exact hq2) h1 h2

theorem Reach.valid {n q1 q2 : Nat} {s : St} (r : Reach n q1 q2 s) (hq2 : 0 < q2) {d : Nat} {w : Val}
    (hd : s.decided d = some w) : w ∈ s.proposedVals :=
  r.val.decided r.inv (by rw [r.cfg]; exact hq2) hd

end HappyModel.C12.Px
