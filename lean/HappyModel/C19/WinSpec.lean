import HappyModel.C19.WinModel
/-!
Spec for the stream-processor windows: a judge over an *observed* transcript (the actions the engine ran and
what the public API / the harness sinks showed after each), with bookkeeping of its own that never looks at
a model state.

Bookkeeping.  Every accepted record (on time, or late under UPDATE) *owes* one appearance to every window
that contains its event time: `specWindows` lists them from the definition (tumbling: the size-aligned
window; sliding: every multiple of the slide `s ≤ et < s + size`).  An obligation is `done` once a
WindowResult for that window was seen after the record arrived.

Core clauses (`coreChecks`; proved of the model for every window kind):
* late classification: a record is late exactly when `et + lateness < watermark`; the reported outcome is
  the policy's; the six counters equal the judge's own counts after every action, `late = dropped + updated +
  side_output`; the watermark only moves at a Watermark event and then to `max(current, incoming)`;
* a firing delivers as many results as the processor returned, all for distinct windows, none before the
  watermark reached the window's end;
* a WindowResult carries exactly the records owed to that window so far (ids, count, sum) and at least one
  of them was not shown before (no second emission without a new record);
* after a firing no closed window with an unshown record is left (never silently dropped);
* a side-output LateEvent is received only for a record classified late/side, once, with its data.

Extra clauses (`extraChecks`; proved of the model too, for sessions when record ids are distinct): `active_windows` equals the number
of windows with an unshown record; the session clauses (an emitted session consists of pending records of
its key, spans `[min et, max et + gap]`, every member but the last has a successor within the gap, no pending
record of the key lies within the gap of the span, after a firing every pending record is either still open
or has a pending successor within the gap).  Progress clause (`progressChecks`, a fact about the engine's
schedule, judged on the real run only): at the end of the run the daemon fired within one interval.
-/
namespace HappyModel.C19.Win

/-- the windows containing event time `et`, from the definition -/
def specWindows (cfg : Cfg) (et : Nat) : List (Nat × Nat) :=
  if cfg.kind = 0 then [(et / cfg.size * cfg.size, et / cfg.size * cfg.size + cfg.size)]
  else ((List.range (et / cfg.slide + 1)).filter fun j => decide (et < j * cfg.slide + cfg.size)).map
    fun j => (j * cfg.slide, j * cfg.slide + cfg.size)

structure Obl where
  id : Nat
  key : Nat
  val : Nat
  s : Nat
  e : Nat
  done : Bool
deriving Repr, DecidableEq

structure JSt where
  obl : List Obl := []
  pend : List Rec := []         -- sessions: accepted records not yet seen in a result
  wm : Nat := 0
  fly : List Rec := []
  ep : Nat := 0
  we : Nat := 0
  le : Nat := 0
  ld : Nat := 0
  lu : Nat := 0
  ls : Nat := 0
  started : Option Nat := none  -- when the watermark daemon should have started
  lastWb : Option Nat := none
deriving Repr

def mkObl (r : Rec) (se : Nat × Nat) : Obl :=
  { id := r.id, key := r.key, val := r.val, s := se.1, e := se.2, done := false }

def oblFor (k s e : Nat) (o : Obl) : Bool := o.key == k && o.s == s && o.e == e

def emIdent (em : Em) : Nat × Nat × Nat := (em.key, em.s, em.e)

def insertNat (k : Nat) : List Nat → List Nat
  | [] => [k]
  | a :: l => if k ≤ a then k :: a :: l else a :: insertNat k l

def sortNat : List Nat → List Nat
  | [] => []
  | a :: l => insertNat a (sortNat l)

/-- first failing check -/
def firstFail : List (Bool × String) → Option String
  | [] => none
  | (ok, sig) :: rest => if ok then firstFail rest else some sig

def countersOk (j : JSt) (st : Stats) : Bool :=
  st.ep == j.ep && st.we == j.we && st.le == j.le && st.ld == j.ld && st.lu == j.lu && st.ls == j.ls

def statChecks (j : JSt) (st : Stats) : List (Bool × String) :=
  [(countersOk j st, "win/stats/counters-do-not-add-up"),
   (st.le == st.ld + st.lu + st.ls, "win/stats/late-kinds-do-not-sum"),
   (st.wm == j.wm, "win/watermark/not-max-of-incoming-and-current")]

/-! ### a Process -/

def lateExp (cfg : Cfg) (j : JSt) (r : Rec) : Bool := decide (r.et + cfg.late < j.wm)

def expStatus (cfg : Cfg) (j : JSt) (r : Rec) : Nat := if lateExp cfg j r then min cfg.policy 2 + 1 else 0

def accepted (cfg : Cfg) (j : JSt) (r : Rec) : Bool := !lateExp cfg j r || decide (2 ≤ cfg.policy)

def afterProc (cfg : Cfg) (t : Nat) (j : JSt) (r : Rec) : JSt :=
  let late := lateExp cfg j r
  let st := expStatus cfg j r
  { j with
    ep := j.ep + 1
    le := if late then j.le + 1 else j.le
    ld := if st = 1 then j.ld + 1 else j.ld
    ls := if st = 2 then j.ls + 1 else j.ls
    lu := if st = 3 then j.lu + 1 else j.lu
    fly := if st = 2 && cfg.side then j.fly ++ [r] else j.fly
    obl := if accepted cfg j r && !(cfg.kind == 2) then j.obl ++ (specWindows cfg r.et).map (mkObl r) else j.obl
    pend := if accepted cfg j r && cfg.kind == 2 then j.pend ++ [r] else j.pend
    started := if accepted cfg j r && j.started.isNone then some t else j.started }

/-! ### a firing (second segment of a Watermark event) -/

def emOk (j : JSt) (em : Em) : List (Bool × String) :=
  let os := j.obl.filter (oblFor em.key em.s em.e)
  [(decide (em.e ≤ j.wm), "win/emit/window-emitted-before-watermark"),
   (sortNat em.ids == sortNat (os.map (·.id)), "win/emit/records-not-those-assigned"),
   (os.any (fun o => !o.done), "win/emit/window-emitted-twice"),
   (em.cnt == os.length && em.sum == (os.map (·.val)).sum, "win/emit/aggregate-wrong")]

def closureOk (j : JSt) (ems : List Em) : Bool :=
  j.obl.all fun o => o.done || decide (j.wm < o.e) || ems.any fun em => oblFor em.key em.s em.e o

def markDone (wm : Nat) (o : Obl) : Obl := if o.e ≤ wm then { o with done := true } else o

def distinctIdents : List Em → Bool
  | [] => true
  | em :: rest => !(rest.any fun x => emIdent x == emIdent em) && distinctIdents rest

def fixedChecks (j : JSt) (n : Nat) (ems : List Em) : List (Bool × String) :=
  [(n == ems.length, "win/emit/result-not-delivered"),
   (distinctIdents ems, "win/emit/window-emitted-twice")] ++
  ems.flatMap (emOk j) ++
  [(closureOk j ems, "win/emit/closed-window-not-emitted")]

/-! sessions (extra) -/

def hasSucc (gap : Nat) (l : List Rec) (r : Rec) : Bool :=
  l.any fun r' => r'.key == r.key && decide (r.et < r'.et) && decide (r'.et ≤ r.et + gap)

def minEt : List Rec → Nat
  | [] => 0
  | r :: l => l.foldl (fun m x => min m x.et) r.et

def maxEt (l : List Rec) : Nat := l.foldl (fun m x => max m x.et) 0

/-- one emitted session against the pending records; returns the pending records left -/
def sessEm (cfg : Cfg) (j : JSt) (pend : List Rec) (em : Em) : List (Bool × String) × List Rec :=
  let members := pend.filter fun r => r.key == em.key && em.ids.contains r.id
  let rest := pend.filter fun r => !(r.key == em.key && em.ids.contains r.id)
  ([(decide (em.e ≤ j.wm), "win/emit/window-emitted-before-watermark"),
    (!members.isEmpty && sortNat em.ids == sortNat (members.map (·.id)), "win/session/records-not-pending-records-of-the-key"),
    (em.cnt == members.length && em.sum == sumVals members, "win/emit/aggregate-wrong"),
    (em.s == minEt members && em.e == maxEt members + cfg.gap, "win/session/bounds-do-not-span-the-records"),
    (members.all (fun m => m.et + cfg.gap == em.e || hasSucc cfg.gap members m), "win/session/records-further-apart-than-the-gap-merged"),
    (rest.all (fun r => !(r.key == em.key) || decide (r.et + cfg.gap < em.s) || decide (em.e < r.et)),
      "win/session/record-within-gap-left-out")], rest)

def sessEms (cfg : Cfg) (j : JSt) : List Rec → List Em → List (Bool × String) × List Rec
  | pend, [] => ([], pend)
  | pend, em :: rest =>
    ((sessEm cfg j pend em).1 ++ (sessEms cfg j (sessEm cfg j pend em).2 rest).1,
     (sessEms cfg j (sessEm cfg j pend em).2 rest).2)

def sessClosure (cfg : Cfg) (j : JSt) (pend : List Rec) : Bool :=
  pend.all fun r => decide (j.wm < r.et + cfg.gap) || hasSucc cfg.gap pend r

def afterFire (cfg : Cfg) (t : Nat) (j : JSt) (ems : List Em) : JSt :=
  { j with
    obl := j.obl.map (markDone j.wm)
    pend := if cfg.kind == 2 then (sessEms cfg j j.pend ems).2 else j.pend
    we := j.we + ems.length
    lastWb := some t }

/-! ### active windows (extra) -/

def dedupIdents : List (Nat × Nat × Nat) → List (Nat × Nat × Nat)
  | [] => []
  | x :: l => if (dedupIdents l).contains x then dedupIdents l else x :: dedupIdents l

def activeExp (cfg : Cfg) (j : JSt) : Nat :=
  if cfg.kind == 2 then
    (dedupIdents ((j.pend.filter fun r => !hasSucc cfg.gap j.pend r).map fun r => (r.key, r.et, 0))).length
  else (dedupIdents ((j.obl.filter fun o => !o.done).map fun o => (o.key, o.s, o.e))).length

def awCheck (cfg : Cfg) (j : JSt) (st : Stats) : List (Bool × String) :=
  [(st.aw == activeExp cfg j,
    if cfg.kind == 2 then "win/session/active-sessions-are-not-the-gap-groups" else "win/stats/active-windows-wrong")]

/-! ### one observed line -/

/-- state after the line (computed from the action and, for a firing, the results seen) -/
def after (cfg : Cfg) (j : JSt) (ln : Line) (out : Out) : JSt :=
  match ln.act, out with
  | .proc r, _ => afterProc cfg ln.t j r
  | .wmA _ w, _ => { j with wm := max j.wm w }
  | .wmB, .emits _ ems _ => afterFire cfg ln.t j ems
  | .lateRecv id, _ => { j with fly := j.fly.filter fun x => !(x.id == id) }
  | _, _ => j

def coreChecks (cfg : Cfg) (j : JSt) (ln : Line) (out : Out) : List (Bool × String) :=
  match ln.act, out with
  | .proc r, .proc status st =>
    (status == expStatus cfg j r, "win/late/misclassified") :: statChecks (after cfg j ln out) st
  | .wmA _ _, .wm _ st => statChecks (after cfg j ln out) st
  | .wmB, .emits n ems st =>
    (if cfg.kind == 2 then [(n == ems.length, "win/emit/result-not-delivered")] else fixedChecks j n ems) ++
    statChecks (after cfg j ln out) st
  | .lateRecv id, .late known r =>
    [(known && j.fly.any (fun x => x == r && x.id == id), "win/late/side-output-unexpected")]
  | .fin, .fin st fly =>
    (fly == j.fly.length && j.fly.isEmpty, "win/late/side-output-not-delivered") :: statChecks j st
  | _, _ => [(false, "win/malformed-observation")]

def extraChecks (cfg : Cfg) (j : JSt) (ln : Line) (out : Out) : List (Bool × String) :=
  match ln.act, out with
  | .proc _, .proc _ st => awCheck cfg (after cfg j ln out) st
  | .wmA _ _, .wm _ st => awCheck cfg (after cfg j ln out) st
  | .wmB, .emits _ ems st =>
    (if cfg.kind == 2 then
      (sessEms cfg j j.pend ems).1 ++
      [(sessClosure cfg j (sessEms cfg j j.pend ems).2, "win/emit/closed-window-not-emitted")]
     else []) ++ awCheck cfg (after cfg j ln out) st
  | .fin, .fin st _ => awCheck cfg j st
  | _, _ => []

/-- progress (engine fairness, judged on the real run only): once a record has started the watermark
daemon, the last firing is at most one interval before the end of the run -/
def progressChecks (cfg : Cfg) (j : JSt) (ln : Line) (out : Out) : List (Bool × String) :=
  match ln.act, out with
  | .fin, .fin _ _ =>
    [(match j.started with
      | none => true
      | some t0 => decide (ln.t < (match j.lastWb with | some tb => max tb t0 | none => t0) + cfg.interval + 1),
      "win/watermark/daemon-stalled")]
  | _, _ => []

/-- judge a transcript with the given checks: first violated clause, or `none` -/
def judgeWith (checks : Cfg → JSt → Line → Out → List (Bool × String)) (cfg : Cfg) :
    JSt → List (Line × Out) → Option String
  | _, [] => none
  | j, (ln, out) :: rest =>
    match firstFail (checks cfg j ln out) with
    | some sig => some sig
    | none => judgeWith checks cfg (after cfg j ln out) rest

def judgeCore := judgeWith coreChecks

/-- core and extra clauses: everything that is a statement about the processor alone -/
def judgeSafety := judgeWith fun cfg j ln out => coreChecks cfg j ln out ++ extraChecks cfg j ln out

def judgeFull := judgeWith fun cfg j ln out =>
  coreChecks cfg j ln out ++ extraChecks cfg j ln out ++ progressChecks cfg j ln out

end HappyModel.C19.Win
