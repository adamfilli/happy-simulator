import HappyProofs.C20.Stream
import HappyModel.C20.TopK
namespace HappyModel.C20

def sumCounts (cs : List Ctr) : Nat := sumList (cs.map (·.count))

@[simp] theorem sumCounts_nil : sumCounts [] = 0 := rfl
@[simp] theorem sumCounts_cons (c : Ctr) (cs : List Ctr) : sumCounts (c :: cs) = c.count + sumCounts cs := rfl
theorem sumCounts_append (a b : List Ctr) : sumCounts (a ++ b) = sumCounts a + sumCounts b := by
  induction a with
  | nil => simp
  | cons c cs ih => simp [ih]; omega

theorem minCount_le (cs : List Ctr) (c : Ctr) (h : c ∈ cs) : minCount cs ≤ c.count := by
  induction cs with
  | nil => simp at h
  | cons a l ih =>
    cases l with
    | nil => simp at h; subst h; simp [minCount]
    | cons b l =>
      simp only [minCount]
      rcases List.mem_cons.mp h with rfl | h
      · exact Nat.min_le_left _ _
      · exact Nat.le_trans (Nat.min_le_right _ _) (ih h)

theorem exists_minCount (cs : List Ctr) (hne : cs ≠ []) : ∃ c ∈ cs, c.count = minCount cs := by
  induction cs with
  | nil => exact absurd rfl hne
  | cons a l ih =>
    cases l with
    | nil => exact ⟨a, by simp, by simp [minCount]⟩
    | cons b l =>
      obtain ⟨c, hc, he⟩ := ih (by simp)
      simp only [minCount]
      by_cases hle : a.count ≤ minCount (b :: l)
      · exact ⟨a, by simp, by rw [Nat.min_eq_left hle]⟩
      · exact ⟨c, List.mem_cons_of_mem _ hc, by rw [Nat.min_eq_right (by omega)]; exact he⟩

theorem le_minCount (cs : List Ctr) (m : Nat) (hne : cs ≠ []) (h : ∀ c ∈ cs, m ≤ c.count) :
    m ≤ minCount cs := by
  obtain ⟨c, hc, he⟩ := exists_minCount cs hne
  exact he ▸ h c hc

theorem minCount_mono {cs cs' : List Ctr} (hne : cs' ≠ []) (h : ∀ b ∈ cs', ∃ a ∈ cs, a.count ≤ b.count) :
    minCount cs ≤ minCount cs' :=
  le_minCount cs' _ hne fun b hb =>
    let ⟨a, ha, hab⟩ := h b hb
    Nat.le_trans (minCount_le cs a ha) hab

theorem firstMin_spec (cs : List Ctr) (hne : cs ≠ []) :
    ∃ m, firstMin cs = some m ∧ m ∈ cs ∧ m.count = minCount cs := by
  obtain ⟨c, hc, he⟩ := exists_minCount cs hne
  cases hf : firstMin cs with
  | none => exact absurd (by simpa using he) (List.find?_eq_none.mp hf c hc)
  | some m => exact ⟨m, rfl, List.mem_of_find?_eq_some hf, by simpa using List.find?_some hf⟩

theorem mul_length_le_sumCounts (m : Nat) (cs : List Ctr) (h : ∀ c ∈ cs, m ≤ c.count) :
    m * cs.length ≤ sumCounts cs := by
  induction cs with
  | nil => simp
  | cons a l ih =>
    have := h a (by simp)
    have := ih fun c hc => h c (List.mem_cons_of_mem _ hc)
    simp only [List.length_cons, sumCounts_cons, Nat.mul_succ]
    omega

theorem minCount_mul_le (cs : List Ctr) : minCount cs * cs.length ≤ sumCounts cs :=
  mul_length_le_sumCounts _ cs (minCount_le cs)

theorem isTracked_iff (cs : List Ctr) (x : Nat) : isTracked cs x = true ↔ x ∈ cs.map (·.item) := by
  simp [isTracked]

theorem isTracked_false_iff (cs : List Ctr) (x : Nat) : isTracked cs x = false ↔ ∀ c ∈ cs, c.item ≠ x := by
  simp [isTracked]

theorem isTracked_cons (a : Ctr) (l : List Ctr) (x : Nat) :
    isTracked (a :: l) x = (a.item == x || isTracked l x) := rfl

theorem mem_incr {x c : Nat} {cs : List Ctr} {b : Ctr} :
    b ∈ incr x c cs ↔ ∃ a ∈ cs, (if a.item = x then { a with count := a.count + c } else a) = b :=
  List.mem_map

theorem map_item_incr (x c : Nat) (cs : List Ctr) : (incr x c cs).map (·.item) = cs.map (·.item) := by
  unfold incr
  rw [List.map_map]
  apply List.map_congr_left
  intro a _
  simp only [Function.comp]
  split <;> rfl

theorem isTracked_incr (x c : Nat) (cs : List Ctr) (y : Nat) : isTracked (incr x c cs) y = isTracked cs y := by
  rw [Bool.eq_iff_iff, isTracked_iff, isTracked_iff, map_item_incr]

theorem sumCounts_incr (x c : Nat) (cs : List Ctr) (nd : (cs.map (·.item)).Nodup) :
    sumCounts (incr x c cs) = sumCounts cs + if isTracked cs x then c else 0 := by
  induction cs with
  | nil => rfl
  | cons a l ih =>
    rw [List.map_cons, List.nodup_cons, ← isTracked_iff] at nd
    show (if a.item = x then { a with count := a.count + c } else a).count + sumCounts (incr x c l) = _
    rw [ih nd.2]
    by_cases ha : a.item = x
    · subst ha
      simp [isTracked_cons, Bool.not_eq_true _ ▸ nd.1]
      omega
    · simp [isTracked_cons, ha]
      omega

theorem filter_remove (cs : List Ctr) (m : Ctr) (nd : (cs.map (·.item)).Nodup) (hm : m ∈ cs) :
    (cs.filter (fun ct => ct.item != m.item)).length + 1 = cs.length ∧
    sumCounts (cs.filter (fun ct => ct.item != m.item)) + m.count = sumCounts cs := by
  induction cs with
  | nil => simp at hm
  | cons a l ih =>
    rw [List.map_cons, List.nodup_cons, ← isTracked_iff, Bool.not_eq_true, isTracked_false_iff] at nd
    rcases List.mem_cons.mp hm with rfl | hm'
    · have : l.filter (fun ct => ct.item != m.item) = l :=
        List.filter_eq_self.mpr fun b hb => by simpa using nd.1 b hb
      simp [this, Nat.add_comm]
    · have ha : (a.item != m.item) = true := by simpa using Ne.symm (nd.1 m hm')
      have := ih nd.2 hm'
      simp only [List.filter_cons, ha, ↓reduceIte, List.length_cons, sumCounts_cons]
      omega

@[simp] theorem TopK.add_k (s : TopK) (x c : Nat) : (s.add x c).k = s.k := by
  unfold TopK.add
  split; · rfl
  split; · rfl
  split; · rfl
  split <;> rfl

@[simp] theorem TopK.ofStream_k (k : Nat) (xs : Stream) : (TopK.ofStream k xs).k = k :=
  foldl_keeps TopK.k (fun _ _ => TopK.add_k ..) xs _

theorem find_isTracked (cs : List Ctr) (x : Nat) :
    (cs.find? (fun c => c.item == x) = none ↔ isTracked cs x = false) := by
  rw [List.find?_eq_none, isTracked_false_iff]; simp

end HappyModel.C20
