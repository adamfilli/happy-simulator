import HappyProofs.C16.PageLemmas
namespace HappyModel.C16.Page

def DirtyIn (ps : List Pg) (p : Nat) : Prop := ∃ q ∈ ps, q.id = p ∧ q.dirty = true

theorem DirtyIn.perm {a b : List Pg} {p : Nat} (hd : DirtyIn a p) (h : a.Perm b) : DirtyIn b p :=
  hd.imp fun _ hq => ⟨h.mem_iff.mp hq.1, hq.2⟩

theorem assign_dirtyIn (s : St) (p : Nat) : DirtyIn (s.assign p true).pages p := by
  unfold St.assign
  split
  · obtain ⟨q, hq⟩ := find_of_has_true ‹_›
    exact ⟨_, (replace1_perm _ hq).mem_iff.mpr List.mem_cons_self, rfl, rfl⟩
  · exact ⟨⟨p, true, s.gen⟩, by simp, rfl, rfl⟩

theorem setDirty_dirtyIn (s : St) (p : Nat) (hh : has s.pages p = true) : DirtyIn (s.setDirty p true).pages p := by
  obtain ⟨q, hq⟩ := find_of_has_true hh
  unfold St.setDirty
  rw [hq]
  exact ⟨_, (replace1_perm _ hq).mem_iff.mpr List.mem_cons_self, (mem_of_find hq).2, rfl⟩

theorem withRoom_write_dirty (cfg : Cfg) (s : St) (idx p : Nat) (h : (withRoom cfg s idx (.write p)).2 = some .ok) :
    DirtyIn (withRoom cfg s idx (.write p)).1.pages p := by
  revert h
  exact withRoom_ind cfg s idx (.write p) (fun r => r.2 = some .ok → DirtyIn r.1.pages p) (fun q hq _ => by cases hq)
    (fun s1 _ _ _ => assign_dirtyIn s1 p) (fun _ _ _ h => by cases h)

/-- **write-back, per page** (both variants, every state): the segment in which a `write_page(p)` returns leaves
    `p` cached and dirty — whatever happened to the page while the call was stalled on a victim's write-back (a
    concurrent read may have loaded it clean, a concurrent write may have dirtied it, it may have been evicted
    again); in the repaired variant `pagecache_dirty_never_dropped` accounts for every dirtied page: written back,
    still dirty, or a victim in write-back. -/
theorem pagecache_write_leaves_page_dirty (cfg : Cfg) (s : St) (a : Act) (p : Nat)
    (hw : (∃ i, a = .start i (.write p)) ∨
          (∃ i v, a = .resume i ∧ findPend s.pend i = some (.evict v (.write p))))
    (hr : (step cfg s a).2 = some .ok) : DirtyIn (step cfg s a).1.pages p := by
  revert hr
  rcases hw with ⟨i, rfl⟩ | ⟨i, v, rfl, hp⟩
  · simp only [step, start]
    split
    · -- `dirty = True`, then `move_to_end`
      intro _
      refine DirtyIn.perm ?_ (touch_perm _ p).symm
      exact setDirty_dirtyIn _ p ‹_›
    · exact withRoom_write_dirty cfg _ i p
  · simp only [step, hp, resume]
    split
    · exact withRoom_write_dirty cfg _ i p
    · split
      · exact withRoom_write_dirty cfg _ i p
      · nofun

theorem run_snoc (cfg : Cfg) (s : St) (pre : List Act) (a : Act) :
    run cfg s (pre ++ [a]) = (step cfg (run cfg s pre) a).1 := by
  induction pre generalizing s with
  | nil => rfl
  | cons b bs ih => simp only [List.cons_append, run]; exact ih _

/-- along every schedule, the segment in which a `write_page(p)` returns leaves `p` cached and dirty -/
theorem pagecache_trace_write_leaves_page_dirty (cfg : Cfg) (pre : List Act) (a : Act) (p : Nat)
    (hw : WriteSeg (run cfg {} pre) a p) (hr : (step cfg (run cfg {} pre) a).2 = some .ok) :
    DirtyIn (run cfg {} (pre ++ [a])).pages p := by
  rw [run_snoc]
  exact pagecache_write_leaves_page_dirty cfg _ a p hw hr

/-- non-vacuity (the schedule of seeded/C16-r4-m3): capacity 2, page 1 dirty, page 2 clean;
    `write_page(7)` stalls on the write-back of 1; meanwhile `read_page(7)` loads 7 clean; the write
    resumes: 7 is dirty, and a flush then writes back exactly that page -/
example :
    let acts := [Act.start 0 (.write 1), .start 1 (.read 2), .resume 1, .start 2 (.write 7), .start 3 (.read 7),
                 .resume 3, .resume 2]
    let s := run ⟨2, 0, true⟩ {} acts
    (s.pages.map fun q => (q.id, q.dirty)) = [(7, true)] ∧ s.dwb = 1 ∧
    (step ⟨2, 0, true⟩ s (.start 4 .flush)).2 = none ∧
    (run ⟨2, 0, true⟩ s [.start 4 .flush, .resume 4]).dwb = 2 := by decide +kernel

end HappyModel.C16.Page
