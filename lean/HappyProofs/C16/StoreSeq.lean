import HappyModel.C16.Store
/-!
Scripts: schedules in which operations do not overlap (every operation runs all its segments before the
next one starts, `execOp`), and what `read_after_write` says of them (`SeqOk`): the store behaves like a
map — every `get` returns the value of the latest `put` of its key, or nothing after a `delete` / before
any `put`.  Proved in `RawSeq` (`seqOk_init`), stated in `Props`.
-/
namespace HappyModel.C16

/-- resume operation `i` until it reports a result (a flush needs one resume per dirty key) -/
def resumeAll (cfg : Cfg) : Nat → St → Nat → Nat → St × Option Res
  | 0, s, _, _ => (s, none)
  | fuel + 1, s, i, now =>
    match s.pend.find? (·.1 == i) with
    | none => (s, none)
    | some (_, p) =>
      match (resume cfg s i p now).2 with
      | some r => ((resume cfg s i p now).1, some r)
      | none => resumeAll cfg fuel (resume cfg s i p now).1 i now

def execOp (cfg : Cfg) (s : St) (i : Nat) (op : OpK) (now : Nat) : St × Option Res :=
  match (start cfg s i op now).2 with
  | some r => ((start cfg s i op now).1, some r)
  | none =>
    resumeAll cfg ((match op with | .flush order => order.length | _ => 0) + 2) (start cfg s i op now).1 i now

/-- the map the store is supposed to implement -/
def absStep (M : List (Key × Nat)) : OpK → List (Key × Nat)
  | .put k v => aset M k v
  | .del k => adel M k
  | _ => M

def expected (M : List (Key × Nat)) (k : Key) : Res :=
  match aget? M k with
  | some v => .val v
  | none => .none

def SeqOk (cfg : Cfg) : St → List (Key × Nat) → Nat → List (OpK × Nat) → Prop
  | _, _, _, [] => True
  | s, M, i, (op, now) :: rest =>
    (match op with
     | .get k => (execOp cfg s i op now).2 = some (expected M k)
     | _ => True) ∧
    SeqOk cfg (execOp cfg s i op now).1 (absStep M op) (i + 1) rest

end HappyModel.C16
