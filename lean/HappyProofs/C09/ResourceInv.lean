import HappyModel.C09.Spec
import HappyProofs.C09.Lists
namespace HappyModel.C09.Res

@[simp] theorem amtSum_nil : amtSum [] = 0 := rfl
@[simp] theorem amtSum_cons (a : Nat × Int) (l : List (Nat × Int)) : amtSum (a :: l) = a.2 + amtSum l := by
  simp [amtSum]
@[simp] theorem amtSum_append (a b : List (Nat × Int)) : amtSum (a ++ b) = amtSum a + amtSum b := by
  induction a with
  | nil => simp
  | cons x xs ih => simp [ih]; omega

theorem amtSum_take_drop (n : Nat) (l : List (Nat × Int)) : amtSum (l.take n) + amtSum (l.drop n) = amtSum l := by
  rw [← amtSum_append, List.take_append_drop]

theorem findHeld_mem {id : Nat} {l : List (Nat × Int)} {g : Nat × Int} (h : findHeld id l = some g) :
    g ∈ l ∧ g.1 = id := by
  induction l with
  | nil => simp [findHeld] at h
  | cons x xs ih =>
    unfold findHeld at h
    split at h
    · cases h; exact ⟨List.mem_cons_self, by assumption⟩
    · exact ⟨List.mem_cons_of_mem _ (ih h).1, (ih h).2⟩

theorem amtSum_eraseHeld {id : Nat} {l : List (Nat × Int)} {g : Nat × Int} (h : findHeld id l = some g) :
    amtSum (eraseHeld id l) + g.2 = amtSum l := by
  induction l with
  | nil => simp [findHeld] at h
  | cons x xs ih =>
    unfold findHeld at h
    unfold eraseHeld
    split at h
    · rename_i hx; cases h; simp [hx]; omega
    · rename_i hx; simp [hx]; have := ih h; omega

theorem mem_eraseHeld {id : Nat} {l : List (Nat × Int)} {x : Nat × Int} (h : x ∈ eraseHeld id l) : x ∈ l := by
  induction l with
  | nil => simp [eraseHeld] at h
  | cons y ys ih =>
    unfold eraseHeld at h
    split at h
    · exact List.mem_cons_of_mem _ h
    · rcases List.mem_cons.mp h with h | h
      · subst h; exact List.mem_cons_self
      · exact List.mem_cons_of_mem _ (ih h)

theorem wakeN_le_length (a : Int) (l : List (Nat × Int)) : wakeN a l ≤ l.length := by
  induction l generalizing a with
  | nil => simp [wakeN]
  | cons w ws ih =>
    unfold wakeN; split
    · have := ih (a - w.2); simp; omega
    · simp

theorem wakeN_take_length (a : Int) (l : List (Nat × Int)) : ((l.take (wakeN a l)).map (·.1)).length = wakeN a l := by
  rw [List.length_map, List.length_take]; exact Nat.min_eq_left (wakeN_le_length a l)

theorem wakeN_sum_le (a : Int) (l : List (Nat × Int)) (hpos : ∀ w ∈ l, 0 < w.2) (ha : 0 ≤ a) :
    amtSum (l.take (wakeN a l)) ≤ a := by
  induction l generalizing a with
  | nil => simpa [wakeN] using ha
  | cons w ws ih =>
    unfold wakeN; split
    · rename_i hfit
      have := ih (a - w.2) (fun x hx => hpos x (List.mem_cons_of_mem _ hx)) (by omega)
      simp; omega
    · simpa using ha

theorem wakeN_head_blocked (a : Int) (l : List (Nat × Int)) (w : Nat × Int) (ws : List (Nat × Int))
    (h : l.drop (wakeN a l) = w :: ws) : a - amtSum (l.take (wakeN a l)) < w.2 := by
  induction l generalizing a with
  | nil => simp at h
  | cons x xs ih =>
    unfold wakeN at h ⊢; split
    · rename_i hfit
      rw [if_pos hfit] at h
      simp only [List.drop_succ_cons] at h
      have := ih (a - x.2) h
      simp; omega
    · rename_i hnf
      rw [if_neg hnf] at h
      simp at h
      obtain ⟨rfl, _⟩ := h
      simp; omega

/-- No clause `0 ≤ avail`: `set_capacity` below the held amount over-commits (`available` goes negative);
    conservation stays exact. -/
structure Inv (s : St) : Prop where
  capPos : 0 < s.cap
  conserve : s.avail + amtSum s.held = s.cap
  heldPos : ∀ g ∈ s.held, 0 < g.2
  waitPos : ∀ w ∈ s.waiters, 0 < w.2
  headBlocked : ∀ w ws, s.waiters = w :: ws → s.avail < w.2

theorem init_inv (cap : Int) (h : 0 < cap) : Inv (St.init cap) :=
  ⟨h, by simp [St.init], by simp [St.init], by simp [St.init],
   by intro w ws hw; simp [St.init] at hw⟩

/-- `held ≤ capacity`; holds only while nobody has lowered the capacity below the held amount -/
def Within (s : St) : Prop := 0 ≤ s.avail

theorem amtSum_nonneg (l : List (Nat × Int)) (h : ∀ g ∈ l, 0 < g.2) : 0 ≤ amtSum l := by
  induction l with
  | nil => simp
  | cons x xs ih =>
    have := ih (fun g hg => h g (List.mem_cons_of_mem _ hg))
    have := h x List.mem_cons_self
    simp; omega

/-- a live grant always fits back: `_do_release` never raises -/
theorem Inv.no_raise {s : St} (inv : Inv s) {id : Nat} {g : Nat × Int} (hg : findHeld id s.held = some g) :
    ¬ s.cap < s.avail + g.2 := by
  have := amtSum_eraseHeld hg
  have := amtSum_nonneg (eraseHeld id s.held) (fun x hx => inv.heldPos x (mem_eraseHeld hx))
  have := inv.conserve
  omega

/-- `_wake_waiters` with `a` available: the requests that fit, from the head, move from the line to the holders -/
def woken (cap a : Int) (held ws : List (Nat × Int)) (r : Res) : St × Out :=
  ({ cap := cap, avail := a - amtSum (ws.take (wakeN a ws)), waiters := ws.drop (wakeN a ws),
     held := held ++ ws.take (wakeN a ws) }, ⟨r, (ws.take (wakeN a ws)).map (·.1)⟩)

/-- One call, by outcome: the call, what the model tested on the way, the state and the result it leaves. -/
inductive Leaf (s : St) : Op → St × Out → Prop
  | acqBad (id a) (hb : badAmount s a = true) : Leaf s (.acquire id a) (s, ⟨.err, []⟩)
  | acqGrant (id a) (hb : badAmount s a = false) (hf : a ≤ s.avail) :
    Leaf s (.acquire id a) ({ s with avail := s.avail - a, held := s.held ++ [(id, a)] }, ⟨.granted, []⟩)
  | acqQueue (id a) (hb : badAmount s a = false) (hf : ¬ a ≤ s.avail) :
    Leaf s (.acquire id a) ({ s with waiters := s.waiters ++ [(id, a)] }, ⟨.queued, []⟩)
  | tryBad (id a) (hb : badAmount s a = true) : Leaf s (.tryAcquire id a) (s, ⟨.err, []⟩)
  | tryGrant (id a) (hb : badAmount s a = false) (hf : a ≤ s.avail) :
    Leaf s (.tryAcquire id a) ({ s with avail := s.avail - a, held := s.held ++ [(id, a)] }, ⟨.granted, []⟩)
  | tryRefused (id a) (hb : badAmount s a = false) (hf : ¬ a ≤ s.avail) : Leaf s (.tryAcquire id a) (s, ⟨.refused, []⟩)
  | relNoop (id) (hg : findHeld id s.held = none) : Leaf s (.release id) (s, ⟨.noop, []⟩)
  | relRaised (id) {g} (hg : findHeld id s.held = some g) (hex : s.cap < s.avail + g.2) :
    Leaf s (.release id) ({ s with held := eraseHeld id s.held }, ⟨.err, []⟩)
  | released (id) {g} (hg : findHeld id s.held = some g) (hex : ¬ s.cap < s.avail + g.2) :
    Leaf s (.release id) (woken s.cap (s.avail + g.2) (eraseHeld id s.held) s.waiters .released)
  | capBad (c) (hc : c ≤ 0) : Leaf s (.setCapacity c) (s, ⟨.err, []⟩)
  | grown (c) (hc : 0 < c) (hup : s.cap < c) :
    Leaf s (.setCapacity c) (woken c (s.avail + (c - s.cap)) s.held s.waiters .resized)
  | shrunk (c) (hc : 0 < c) (hle : c ≤ s.cap) :
    Leaf s (.setCapacity c) ({ s with cap := c, avail := s.avail + (c - s.cap) }, ⟨.resized, []⟩)

theorem step_leaf (s : St) (o : Op) : Leaf s o (step s o) := by
  have nb {a} : ¬ badAmount s a = true → badAmount s a = false := (Bool.not_eq_true _).mp
  cases o with
  | acquire id a =>
    show Leaf s _ (if badAmount s a then _ else _)
    split
    · exact .acqBad id a ‹_›
    split
    · exact .acqGrant id a (nb ‹_›) ‹_›
    · exact .acqQueue id a (nb ‹_›) ‹_›
  | tryAcquire id a =>
    show Leaf s _ (if badAmount s a then _ else _)
    split
    · exact .tryBad id a ‹_›
    split
    · exact .tryGrant id a (nb ‹_›) ‹_›
    · exact .tryRefused id a (nb ‹_›) ‹_›
  | release id =>
    show Leaf s _ (release s id)
    unfold release
    split
    · exact .relNoop id ‹_›
    split
    · exact .relRaised id ‹_› ‹_›
    · exact .released id ‹_› ‹_›
  | setCapacity c =>
    show Leaf s _ (setCapacity s c)
    unfold setCapacity
    split
    · exact .capBad c ‹_›
    dsimp only
    split
    · exact .grown c (by omega) ‹_›
    · exact .shrunk c (by omega) (by omega)

theorem grant_inv (s : St) (inv : Inv s) (id : Nat) (a : Int) (hbad : badAmount s a = false) (hfit : a ≤ s.avail) :
    Inv { s with avail := s.avail - a, held := s.held ++ [(id, a)] } := by
  have hpos : 0 < a := by simp [badAmount] at hbad; omega
  refine ⟨inv.capPos, ?_, ?_, inv.waitPos, ?_⟩
  · simp; have := inv.conserve; omega
  · exact snoc_all inv.heldPos hpos
  · intro w ws hw; have := inv.headBlocked w ws hw; simp; omega

theorem wake_inv (cap a : Int) (held ws : List (Nat × Int)) (r : Res) (hcap : 0 < cap) (hcons : a + amtSum held = cap)
    (hheld : ∀ g ∈ held, 0 < g.2) (hws : ∀ w ∈ ws, 0 < w.2) : Inv (woken cap a held ws r).1 := by
  have htd := amtSum_take_drop (wakeN a ws) ws
  refine ⟨hcap, ?_, ?_, fun w hw => hws w (List.mem_of_mem_drop hw), fun w r hw => wakeN_head_blocked a ws w r hw⟩
  · simp [woken]; omega
  · intro x hx
    rcases List.mem_append.mp hx with h | h
    · exact hheld x h
    · exact hws x (List.mem_of_mem_take h)

section
variable {s : St} {o : Op} {r : St × Out}

theorem Leaf.inv (h : Leaf s o r) (inv : Inv s) : Inv r.1 := by
  have hcons := inv.conserve
  have hcap := inv.capPos
  cases h with
  | acqGrant id a hb hf | tryGrant id a hb hf => exact grant_inv s inv id a hb hf
  | acqQueue id a hb hf =>
    have hv : 0 < a := by simp [badAmount] at hb; omega
    exact ⟨inv.capPos, inv.conserve, inv.heldPos, snoc_all inv.waitPos hv,
      head_snoc inv.headBlocked (fun _ => by show s.avail < a; omega)⟩
  | relRaised id hg hex => exact absurd hex (inv.no_raise hg)
  | released id hg =>
    have := amtSum_eraseHeld hg
    exact wake_inv s.cap _ _ s.waiters _ hcap (by omega) (fun x hx => inv.heldPos x (mem_eraseHeld hx)) inv.waitPos
  | grown c hc => exact wake_inv c _ s.held s.waiters _ hc (by omega) inv.heldPos inv.waitPos
  | shrunk c hc =>
    exact ⟨hc, by simp; omega, inv.heldPos, inv.waitPos, fun w ws hw => by have := inv.headBlocked w ws hw; simp; omega⟩
  | _ => exact inv

theorem Leaf.cap (h : Leaf s o r) (ho : ∀ c, o ≠ .setCapacity c) : r.1.cap = s.cap := by
  cases h with
  | capBad c | grown c | shrunk c => exact absurd rfl (ho c)
  | _ => rfl

theorem Leaf.within (h : Leaf s o r) (inv : Inv s) (ho : ∀ c, o ≠ .setCapacity c) (hw : 0 ≤ s.avail) : 0 ≤ r.1.avail := by
  cases h with
  | acqGrant _ a _ hf | tryGrant _ a _ hf => show 0 ≤ s.avail - a; omega
  | @released id g hg =>
    have := inv.heldPos g (findHeld_mem hg).1
    have := wakeN_sum_le (s.avail + g.2) s.waiters inv.waitPos (by omega)
    simp [woken]; omega
  | grown c | shrunk c => exact absurd rfl (ho c)
  | _ => exact hw

theorem Leaf.waitFits (h : Leaf s o r) (ho : ∀ c, o ≠ .setCapacity c) (f : ∀ w ∈ s.waiters, w.2 ≤ s.cap) :
    ∀ w ∈ r.1.waiters, w.2 ≤ s.cap := by
  cases h with
  | acqQueue id a hb => exact snoc_all f (by simp [badAmount] at hb; omega)
  | released => exact fun w hw => f w (List.mem_of_mem_drop hw)
  | grown c | shrunk c => exact absurd rfl (ho c)
  | _ => exact f

end

theorem step_inv (s : St) (o : Op) (inv : Inv s) : Inv (step s o).1 := (step_leaf s o).inv inv

theorem step_cap (s : St) (o : Op) (ho : ∀ c, o ≠ .setCapacity c) : (step s o).1.cap = s.cap := (step_leaf s o).cap ho

theorem run_inv (s : St) (ops : List Op) (inv : Inv s) : Inv (run s ops) := by
  induction ops generalizing s with
  | nil => exact inv
  | cons o os ih => exact ih _ (step_inv s o inv)

def FixedCap (ops : List Op) : Prop := ∀ o ∈ ops, ∀ c, o ≠ .setCapacity c

theorem run_cap (s : St) (ops : List Op) (hf : FixedCap ops) : (run s ops).cap = s.cap := by
  induction ops generalizing s with
  | nil => rfl
  | cons o os ih =>
    simp only [run]
    rw [ih _ (fun o' ho' => hf o' (List.mem_cons_of_mem _ ho')), step_cap s o (hf o List.mem_cons_self)]

/-- invariant as long as `set_capacity` is not called: over-commitment comes from lowering the capacity only -/
structure Fixed (s : St) : Prop where
  within : 0 ≤ s.avail
  waitFits : ∀ w ∈ s.waiters, w.2 ≤ s.cap

theorem step_within (s : St) (o : Op) (inv : Inv s) (ho : ∀ c, o ≠ .setCapacity c) (h : 0 ≤ s.avail) :
    0 ≤ (step s o).1.avail := (step_leaf s o).within inv ho h

theorem step_fixed (s : St) (o : Op) (inv : Inv s) (ho : ∀ c, o ≠ .setCapacity c) (f : Fixed s) :
    Fixed (step s o).1 :=
  ⟨step_within s o inv ho f.within, step_cap s o ho ▸ (step_leaf s o).waitFits ho f.waitFits⟩

theorem run_fixed (s : St) (ops : List Op) (inv : Inv s) (hf : FixedCap ops) (f : Fixed s) : Fixed (run s ops) := by
  induction ops generalizing s with
  | nil => exact f
  | cons o os ih =>
    exact ih _ (step_inv s o inv) (fun o' ho' => hf o' (List.mem_cons_of_mem _ ho'))
      (step_fixed s o inv (hf o List.mem_cons_self) f)

theorem run_append (s : St) (a b : List Op) : run s (a ++ b) = run (run s a) b := by
  induction a generalizing s with
  | nil => rfl
  | cons o os ih => simp [run, ih]

end HappyModel.C09.Res
