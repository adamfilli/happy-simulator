import HappyModel.C09.Pool
import HappyProofs.C09.Lists
/-! Invariants of the repaired connection-pool model (`reserve = true`), kept by each of the nine segments in every state. -/
namespace HappyModel.C09.Pool

structure Inv (s : St) : Prop where
  res : s.reserve = true
  bound : s.total ≤ s.max
  conserve : s.active.length + s.idle.length + s.creating = s.total
  split : s.creating = s.creators.length + s.wflight
  minle : s.min ≤ s.max

theorem init_inv' (max min : Nat) (h : min ≤ max) : Inv { max := max, min := min } :=
  ⟨rfl, Nat.zero_le _, rfl, rfl, h⟩

theorem init_inv (max : Nat) : Inv { max := max } := init_inv' max 0 (Nat.zero_le _)

/-! One constructor per leaf of the `if`/`match` tree of `step`, with what its guards say.  Every fact about all
steps is a case analysis over `Leaf`. -/

inductive Leaf (s : St) : Op → St → Res → Prop
  | acqIdle (id) {c rest} (hi : s.idle = c :: rest) :
    Leaf s (.acq id) { s with idle := rest, active := s.active ++ [c] } (.idle c)
  | acqCreate (id) (hi : s.idle = []) (hlt : s.total < s.max) : Leaf s (.acq id) (startCreate s id) .creating
  | acqWait (id) (hi : s.idle = []) (hge : ¬ s.total < s.max) :
    Leaf s (.acq id) { s with waiters := s.waiters ++ [id] } .waiting
  | madeBad (id) (hm : id ∉ s.creators) : Leaf s (.made id) s .bad
  | made (id) (hm : id ∈ s.creators) :
    Leaf s (.made id)
      { s with creating := s.creating - 1, creators := s.creators.erase id, nextConn := s.nextConn + 1,
               total := if s.reserve then s.total else s.total + 1,
               active := s.active ++ [s.nextConn + 1] } (.conn (s.nextConn + 1))
  | pollGot (id) {h} (hf : s.handed.find? (·.1 == id) = some h) :
    Leaf s (.poll id) { s with handed := s.handed.filter (·.1 != id) } (.got h.2)
  | pollBehind (id) (hf : s.handed.find? (·.1 == id) = none) (hh : s.waiters.head? ≠ some id) :
    Leaf s (.poll id) s .wait
  | pollIdle (id) {c rest} (hf : s.handed.find? (·.1 == id) = none) (hh : s.waiters.head? = some id)
      (hi : s.idle = c :: rest) :
    Leaf s (.poll id) { s with waiters := s.waiters.tail, idle := rest, active := s.active ++ [c] } (.idle c)
  | pollCreate (id) (hf : s.handed.find? (·.1 == id) = none) (hh : s.waiters.head? = some id)
      (hi : s.idle = []) (hlt : s.total < s.max) :
    Leaf s (.poll id) (startCreate { s with waiters := s.waiters.tail } id) .creating
  | pollFull (id) (hf : s.handed.find? (·.1 == id) = none) (hh : s.waiters.head? = some id)
      (hi : s.idle = []) (hge : ¬ s.total < s.max) : Leaf s (.poll id) s .wait
  | timeoutBad (id) {h} (hf : s.handed.find? (·.1 == id) = some h) : Leaf s (.timeout id) s .bad
  | timeout (id) (hf : s.handed.find? (·.1 == id) = none) :
    Leaf s (.timeout id) { s with waiters := s.waiters.filter (· != id) } .timedOut
  | relUnknown (c) (hm : c ∉ s.active) : Leaf s (.rel c) s .unknown
  | relHand (c) {w ws} (hm : c ∈ s.active) (hq : s.waiters = w :: ws) :
    Leaf s (.rel c) { s with waiters := ws, handed := s.handed ++ [(w, c)] } (.handoff w)
  | relIdle (c) (hm : c ∈ s.active) (hq : s.waiters = []) :
    Leaf s (.rel c)
      { s with active := s.active.erase c, idle := s.idle ++ [c], stamp := setStamp s.stamp c s.now } .toIdle
  | abCreator (id) (hm : id ∈ s.creators) :
    Leaf s (.abandon id)
      { s with creating := s.creating - 1, creators := s.creators.erase id,
               total := if s.reserve then s.total - 1 else s.total } .rolledBack
  | abStale (id) {h} (hc : id ∉ s.creators) (hf : s.handed.find? (·.1 == id) = some h) (hm : h.2 ∉ s.active) :
    Leaf s (.abandon id) { s with handed := s.handed.filter (·.1 != id) } .nothing
  | abHand (id) {h w ws} (hc : id ∉ s.creators) (hf : s.handed.find? (·.1 == id) = some h) (hm : h.2 ∈ s.active)
      (hq : s.waiters = w :: ws) :
    Leaf s (.abandon id) { s with waiters := ws, handed := s.handed.filter (·.1 != id) ++ [(w, h.2)] } (.handoff w)
  | abIdle (id) {h} (hc : id ∉ s.creators) (hf : s.handed.find? (·.1 == id) = some h) (hm : h.2 ∈ s.active)
      (hq : s.waiters = []) :
    Leaf s (.abandon id)
      { s with handed := s.handed.filter (·.1 != id), active := s.active.erase h.2, idle := s.idle ++ [h.2],
               stamp := setStamp s.stamp h.2 s.now } .toIdle
  | abWaiter (id) (hc : id ∉ s.creators) (hf : s.handed.find? (·.1 == id) = none) (hw : id ∈ s.waiters) :
    Leaf s (.abandon id) { s with waiters := s.waiters.filter (· != id) } .dequeued
  | abNothing (id) (hc : id ∉ s.creators) (hf : s.handed.find? (·.1 == id) = none) (hw : id ∉ s.waiters) :
    Leaf s (.abandon id) s .nothing
  | closed (c e) (hm : c ∈ s.idle) (hst : stampOf s.stamp c = some e) (hlt : s.min < s.total) :
    Leaf s (.idleCheck c e)
      { s with idle := s.idle.erase c, total := s.total - 1, closed := s.closed ++ [c] } .closed
  | kept (c e) (hm : c ∈ s.idle) (hst : stampOf s.stamp c = some e) (hge : ¬ s.min < s.total) :
    Leaf s (.idleCheck c e) s .kept
  | stale (c e) (h : ¬ (c ∈ s.idle ∧ stampOf s.stamp c = some e)) : Leaf s (.idleCheck c e) s .stale
  | warm (hlt : s.total < s.min) :
    Leaf s .warm
      { s with creating := s.creating + 1, wflight := s.wflight + 1,
               total := if s.reserve then s.total + 1 else s.total } .creating
  | warmDone (hge : ¬ s.total < s.min) : Leaf s .warm s .done
  | wmadeBad (hw : s.wflight = 0) : Leaf s .wmade s .bad
  | wmade (hw : s.wflight ≠ 0) :
    Leaf s .wmade
      { s with creating := s.creating - 1, wflight := s.wflight - 1, nextConn := s.nextConn + 1,
               total := if s.reserve then s.total else s.total + 1,
               idle := s.idle ++ [s.nextConn + 1], stamp := setStamp s.stamp (s.nextConn + 1) s.now }
      (.conn (s.nextConn + 1))

theorem step_leaf (s : St) (o : Op) : Leaf s o (step s o).1 (step s o).2 := by
  cases o with
  | acq id =>
    simp only [step]
    split
    · exact .acqIdle id ‹_›
    · split
      · exact .acqCreate id ‹_› ‹_›
      · exact .acqWait id ‹_› ‹_›
  | made id =>
    simp only [step]
    split
    next h => exact .madeBad id (by simpa using h)
    next h => exact .made id (by simpa using h)
  | poll id =>
    simp only [step]
    split
    · exact .pollGot id ‹_›
    · split
      next h => exact .pollBehind id ‹_› (by simpa using h)
      next h =>
        have hh : s.waiters.head? = some id := by simpa using h
        split
        · exact .pollIdle id ‹_› hh ‹_›
        · split
          · exact .pollCreate id ‹_› hh ‹_› ‹_›
          · exact .pollFull id ‹_› hh ‹_› ‹_›
  | timeout id =>
    simp only [step]
    split
    next h =>
      obtain ⟨_, hf⟩ := Option.isSome_iff_exists.1 h
      exact .timeoutBad id hf
    next h => exact .timeout id (Option.not_isSome_iff_eq_none.1 h)
  | rel c =>
    simp only [step]
    split
    next h => exact .relUnknown c (by simpa using h)
    next h =>
      have hm : c ∈ s.active := by simpa using h
      unfold giveBack
      split
      · exact .relHand c hm ‹_›
      · exact .relIdle c hm ‹_›
  | abandon id =>
    simp only [step]
    split
    next h => exact .abCreator id (by simpa using h)
    next h =>
      have hc : id ∉ s.creators := by simpa using h
      split
      next x hf =>
        split
        next h => exact .abStale id hc hf (by simpa using h)
        next h =>
          have hm : x.2 ∈ s.active := by simpa using h
          unfold giveBack
          split
          · exact .abHand id hc hf hm ‹_›
          · exact .abIdle id hc hf hm ‹_›
      · split
        next h => exact .abWaiter id hc ‹_› (by simpa using h)
        next h => exact .abNothing id hc ‹_› (by simpa using h)
  | idleCheck c e =>
    simp only [step]
    split
    next h =>
      have h : c ∈ s.idle ∧ stampOf s.stamp c = some e := by simpa using h
      split
      · exact .closed c e h.1 h.2 ‹_›
      · exact .kept c e h.1 h.2 ‹_›
    next h => exact .stale c e (by simpa using h)
  | warm =>
    simp only [step]
    split
    · exact .warm ‹_›
    · exact .warmDone ‹_›
  | wmade =>
    simp only [step]
    split
    · exact .wmadeBad ‹_›
    · exact .wmade ‹_›

variable {s s' : St} {o : Op} {r : Res}

theorem Leaf.inv (h : Leaf s o s' r) (inv : Inv s) : Inv s' := by
  obtain ⟨hres, hb, hc, hs, hmin⟩ := inv
  cases h with
  | acqIdle _ hi | pollIdle _ _ _ hi =>
    refine ⟨hres, hb, ?_, hs, hmin⟩
    simp only [hi, List.length_append, List.length_cons, List.length_nil] at hc ⊢
    omega
  | acqCreate | pollCreate | warm | wmade =>
    refine ⟨hres, ?_, ?_, ?_, hmin⟩ <;>
      simp only [startCreate, hres, if_true, List.length_append, List.length_singleton] <;> omega
  | made _ hm | abCreator _ hm | closed _ _ hm =>
    have := List.length_pos_of_mem hm
    refine ⟨hres, ?_, ?_, ?_, hmin⟩ <;>
      simp only [hres, if_true, List.length_append, List.length_singleton, List.length_erase_of_mem hm] <;> omega
  | relIdle _ hm | abIdle _ _ _ hm =>
    have := List.length_pos_of_mem hm
    refine ⟨hres, hb, ?_, hs, hmin⟩
    simp only [List.length_append, List.length_singleton, List.length_erase_of_mem hm]
    omega
  | _ => exact ⟨hres, hb, hc, hs, hmin⟩

theorem step_inv (s : St) (o : Op) (inv : Inv s) : Inv (step s o).1 := (step_leaf s o).inv inv

theorem run_inv (s : St) (ops : List Op) (inv : Inv s) : Inv (run s ops) := by
  induction ops generalizing s with
  | nil => exact inv
  | cons o os ih => exact ih _ (step_inv s o inv)

theorem inv_now {s : St} (t : Nat) (inv : Inv s) : Inv { s with now := t } :=
  { inv with }

theorem stepAt_inv (s : St) (t : Nat) (o : Op) (inv : Inv s) : Inv (stepAt s t o).1 :=
  step_inv _ o (inv_now t inv)

theorem runAt_inv (s : St) (ops : List (Nat × Op)) (inv : Inv s) : Inv (runAt s ops) := by
  induction ops generalizing s with
  | nil => exact inv
  | cons e os ih => exact ih _ (stepAt_inv s e.1 e.2 inv)

theorem Leaf.params (h : Leaf s o s' r) : s'.max = s.max ∧ s'.min = s.min := by
  cases h <;> exact ⟨rfl, rfl⟩

theorem step_params (s : St) (o : Op) : (step s o).1.max = s.max ∧ (step s o).1.min = s.min :=
  (step_leaf s o).params

theorem run_params (s : St) (ops : List Op) : (run s ops).max = s.max ∧ (run s ops).min = s.min := by
  induction ops generalizing s with
  | nil => exact ⟨rfl, rfl⟩
  | cons o os ih => exact ⟨(ih _).1.trans (step_params s o).1, (ih _).2.trans (step_params s o).2⟩

theorem runAt_params (s : St) (ops : List (Nat × Op)) : (runAt s ops).max = s.max ∧ (runAt s ops).min = s.min := by
  induction ops generalizing s with
  | nil => exact ⟨rfl, rfl⟩
  | cons e os ih => exact ⟨(ih _).1.trans (step_params _ e.2).1, (ih _).2.trans (step_params _ e.2).2⟩

theorem run_max (s : St) (ops : List Op) : (run s ops).max = s.max := (run_params s ops).1

theorem run_min (s : St) (ops : List Op) : (run s ops).min = s.min := (run_params s ops).2

theorem runAt_max (s : St) (ops : List (Nat × Op)) : (runAt s ops).max = s.max := (runAt_params s ops).1

theorem runAt_min (s : St) (ops : List (Nat × Op)) : (runAt s ops).min = s.min := (runAt_params s ops).2

end HappyModel.C09.Pool
