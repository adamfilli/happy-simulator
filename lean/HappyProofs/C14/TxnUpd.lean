import HappyProofs.C14.TxnObs
import HappyProofs.C14.Frames
import HappyProofs.C14.TxnLists
/-!
# Transactions at run level: write sets, one segment on the transaction table

`stepT` against the atomic actions (`stepT_state`: a segment changes the manager like one action of `stepA` or not at
all; the acting segment of a read returns `fetchVal`), `wsetBefore` as a fold, and `Upd tm tm' op`: the first segment
of `op` replaced (or created) the record of its slot and nothing else.
-/
namespace HappyModel.C14.SM
open HappyModel.C14 HappyModel.C14.BT

/-- one operation's effect on the write set being built for `slot`: the step function inside `wsetBefore`, under a name
    (`wsetBefore_eqM`).  The write set of a slot appears in three places: in the program (`wsetBefore`, a fold of
    `wstepM`; `opW` is `wstepM` on the slot's own operations, `wstep_eq`), in the manager (`curW`, which the first
    segment of an operation moves by `opW`: `Upd.w`), and in the judge's reconstruction from the completed frames
    (`wstep` / `wsetC` in `TxnObsMaps.lean`, equal to the program's by `wsetC_eq_before`). -/
def wstepM (slot : Nat) (w : KV) (o : Nat × TOp) : KV :=
  match o.2 with
  | .write s k v => if s == slot then dictSet k v w else w
  | _ => w

/-- effect of an operation on the write set of its own transaction -/
def opW : TOp → KV → KV
  | .write _ k v, w => dictSet k v w
  | _, w => w

theorem TOp.eq_begin {op : TOp} (h : op.isBegin = true) : ∃ l, op = .begin op.slot l := by
  cases op <;> first | exact ⟨_, rfl⟩ | cases h

theorem wsetBefore_eqM (ops : List (Nat × TOp)) (id slot : Nat) :
    wsetBefore ops id slot = (ops.takeWhile fun o => o.1 != id).foldl (wstepM slot) [] := rfl

theorem wstep_eq (slot : Nat) (w : KV) (o : Nat × TOp) :
    wstepM slot w o = if o.2.slot = slot then opW o.2 w else w := by
  obtain ⟨i, op⟩ := o
  by_cases h : op.slot = slot
  · rw [if_pos h]; cases op <;> simp_all [wstepM, opW, TOp.slot]
  · rw [if_neg h]; cases op <;> simp_all [wstepM, TOp.slot]

theorem foldl_wstep_none (slot : Nat) (l : List (Nat × TOp)) (w : KV) (h : ∀ a ∈ l, a.2.slot ≠ slot) :
    l.foldl (wstepM slot) w = w := by
  induction l generalizing w with
  | nil => rfl
  | cons a l ih =>
    simp only [List.foldl_cons]
    rw [wstep_eq, if_neg (h a (by simp))]
    exact ih w fun a ha => h a (by simp [ha])

theorem wsetBefore_split {ops pre post : List (Nat × TOp)} {o : Nat × TOp} (hnd : (ops.map (·.1)).Nodup)
    (h : ops = pre ++ o :: post) (slot : Nat) : wsetBefore ops o.1 slot = pre.foldl (wstepM slot) [] := by
  subst h
  have hp := (split_notin hnd).1
  rw [wsetBefore_eqM]
  congr 1
  clear hnd
  induction pre with
  | nil => simp
  | cons a pre ih =>
    have : (a.1 != o.1) = true := by simpa using hp a (by simp)
    simp only [List.cons_append, List.takeWhile_cons, this, if_true]
    rw [ih fun a ha => hp a (by simp [ha])]

theorem isDone_done {pc : TPc} (h : pc.isDone = true) : ∃ r, pc = .done r := by
  cases pc with
  | done r => exact ⟨r, rfl⟩
  | _ => cases h

theorem doneIn_frame {fs : List (Frame TPc)} {id : Nat} (h : doneIn fs id = true) :
    ∃ g, frameOf fs id = some g ∧ g.pc.isDone = true := by
  unfold doneIn at h
  split at h
  · next g hg => exact ⟨g, hg, h⟩
  · cases h

theorem framesOfT_mem {ops : List (Nat × TOp)} {f : Frame TPc} (h : f ∈ framesOfT ops) :
    f.b = none ∧ ∃ o ∈ ops, f.id = o.1 ∧ f.pc = .start o.2 := by
  obtain ⟨o, ho, rfl⟩ := List.mem_map.1 h
  exact ⟨rfl, o, ho, rfl, rfl⟩

theorem framesOfT_ids (ops : List (Nat × TOp)) : (framesOfT ops).map (·.id) = ops.map (·.1) :=
  List.map_map

theorem log_map_snd (tlog : List (Nat × Ev)) (n : Nat) (evs : List Ev) :
    (tlog ++ evs.map fun e => (n, e)).map (·.2) = tlog.map (·.2) ++ evs := by
  rw [List.map_append, List.map_map]
  exact congrArg _ (List.map_id _)

theorem times_snoc {tlog : List (Nat × Ev)} {n : Nat} {evs : List Ev}
    (h : (tlog.map (·.1)).Pairwise (· < ·)) (hlt : ∀ x ∈ tlog, x.1 < n) (one : evs.length ≤ 1) :
    ((tlog ++ evs.map fun e => (n, e)).map (·.1)).Pairwise (· < ·) ∧
    ∀ x ∈ tlog ++ evs.map fun e => (n, e), x.1 < n + 1 := by
  constructor
  · rw [List.map_append, List.pairwise_append]
    refine ⟨h, ?_, ?_⟩
    · match evs, one with
      | [], _ => simp
      | [e], _ => simp
    · intro a ha b hb
      simp only [List.mem_map] at ha hb
      obtain ⟨x, hx, rfl⟩ := ha
      obtain ⟨y, hy, rfl⟩ := hb
      obtain ⟨e, _, rfl⟩ := hy
      exact hlt x hx
  · intro x hx
    rcases List.mem_append.1 hx with hx | hx
    · exact Nat.lt_succ_of_lt (hlt x hx)
    · simp only [List.mem_map] at hx
      obtain ⟨e, _, rfl⟩ := hx
      exact Nat.lt_succ_self n

theorem mem_tag {n m : Nat} {ev : Ev} {evs : List Ev} (h : (m, ev) ∈ evs.map fun e => (n, e)) :
    m = n ∧ ev ∈ evs := by
  simp only [List.mem_map, Prod.mk.injEq] at h
  obtain ⟨e, he, rfl, rfl⟩ := h
  exact ⟨rfl, he⟩

theorem readAdvance_state (tm : TM) (slot : Nat) (k : Key) (pc : SPc) : (readAdvance tm slot k pc).1 = tm := by
  unfold readAdvance
  split <;> rfl

theorem readStart_store (tm : TM) (s : Nat) (k : Key) :
    (tm.readStart s k).store = tm.store ∧ (tm.readStart s k).log = tm.log := by
  unfold TM.readStart
  split
  · split <;> exact ⟨rfl, rfl⟩
  · exact ⟨rfl, rfl⟩

theorem stepT_state (tm : TM) :
    (∀ s l, (stepT tm (.start (.begin s l))).1 = (stepA tm (.begin s l)).1) ∧
    (∀ s k, (stepT tm (.start (.read s k))).1 = (stepA tm (.readStart s k)).1) ∧
    (∀ s k v, (stepT tm (.start (.write s k v))).1 = (stepA tm (.write s k v)).1) ∧
    (∀ s, (stepT tm (.start (.commit s))).1 = (stepA tm (.commit s)).1) ∧
    (∀ s, (stepT tm (.start (.abort s))).1 = (stepA tm (.abort s)).1) ∧
    (∀ s k pc, (stepT tm (.rd s k pc)).1 = tm) ∧ (∀ r, (stepT tm (.fin r)).1 = tm) ∧
    (∀ r, (stepT tm (.done r)).1 = tm) := by
  refine ⟨fun _ _ => rfl, fun s k => ?_, fun _ _ _ => rfl, fun _ => rfl, fun _ => rfl,
    fun s k pc => readAdvance_state tm s k pc, fun _ => rfl, fun _ => rfl⟩
  simp only [stepT, stepA]
  split
  · rfl
  · exact readAdvance_state _ _ _ _

theorem stepT_start_store (tm : TM) (op : TOp) :
    ((stepT tm (.start op)).1.store = tm.store ∧ (stepT tm (.start op)).1.log = tm.log) ∨
    ∃ s tx, CommitOk tm s tx (stepT tm (.start op)).1 := by
  cases op with
  | «begin» s l => exact stepA_store tm (.begin s l)
  | read s k => rw [(stepT_state tm).2.1]; exact stepA_store tm _
  | write s k v => exact stepA_store tm (.write s k v)
  | commit s => exact stepA_store tm (.commit s)
  | abort s => exact stepA_store tm (.abort s)

theorem stepT_read_own {tm : TM} {s : Nat} {k : Key} {v : Nat}
    (h : ((tm.tx? s).bind fun tx => tx.wset.lookup k) = some v) :
    stepT tm (.start (.read s k)) = (tm.readStart s k, .done (.val (some v))) := by
  simp only [stepT, h]

theorem stepT_read_store {tm : TM} {s : Nat} {k : Key} (h : ((tm.tx? s).bind fun tx => tx.wset.lookup k) = none) :
    stepT tm (.start (.read s k)) = readAdvance (tm.readStart s k) s k (.start (.get k)) := by
  simp only [stepT, h]

theorem readAdvance_fetch (tm : TM) (slot : Nat) (k : Key) :
    readAdvance tm slot k (.wait (.get k) 0) = (tm, .done (.val (fetchVal tm slot k))) := by
  simp only [readAdvance, stepS, doAct, act, fetchVal]
  cases tm.tx? slot <;> simp

/-- the write set of the transaction of slot `s` (empty before `begin`) -/
def curW (tm : TM) (s : Nat) : KV :=
  match tm.tx? s with
  | some tx => tx.wset
  | none => []

def TMle (tm tm' : TM) : Prop :=
  ∀ s tx, tm.tx? s = some tx → ∃ tx', tm'.tx? s = some tx' ∧ tx'.level = tx.level ∧ ∀ k ∈ tx.rset, k ∈ tx'.rset

theorem TMle.refl (tm : TM) : TMle tm tm := fun _ tx h => ⟨tx, h, rfl, fun _ h => h⟩

def Upd (tm tm' : TM) (op : TOp) : Prop :=
  ∃ tx', (∀ s', tm'.tx? s' = if s' = op.slot then some tx' else tm.tx? s') ∧
    (∀ tx, tm.tx? op.slot = some tx → tx'.level = tx.level ∧ ∀ k ∈ tx.rset, k ∈ tx'.rset) ∧
    tx'.wset = opW op (curW tm op.slot) ∧ (op.isEnd = false → tx'.stat = .active) ∧
    (∀ l, op = .begin op.slot l → tx'.level = l) ∧ (∀ k, op = .read op.slot k → k ∈ tx'.rset)

variable {tm tm' : TM} {op : TOp}

theorem Upd.other (u : Upd tm tm' op) {s : Nat} (hs : s ≠ op.slot) : tm'.tx? s = tm.tx? s := by
  obtain ⟨tx', h, _⟩ := u
  rw [h, if_neg hs]

theorem Upd.self (u : Upd tm tm' op) : ∃ tx', tm'.tx? op.slot = some tx' ∧
    (∀ tx, tm.tx? op.slot = some tx → tx'.level = tx.level ∧ ∀ k ∈ tx.rset, k ∈ tx'.rset) ∧
    tx'.wset = opW op (curW tm op.slot) ∧ (op.isEnd = false → tx'.stat = .active) ∧
    (∀ l, op = .begin op.slot l → tx'.level = l) ∧ (∀ k, op = .read op.slot k → k ∈ tx'.rset) := by
  obtain ⟨tx', h, r⟩ := u
  exact ⟨tx', by rw [h, if_pos rfl], r⟩

theorem Upd.le (u : Upd tm tm' op) : TMle tm tm' := by
  intro s tx hx
  by_cases hs : s = op.slot
  · subst hs
    obtain ⟨tx', h1, h2, _⟩ := u.self
    exact ⟨tx', h1, (h2 tx hx).1, (h2 tx hx).2⟩
  · exact ⟨tx, by rw [u.other hs]; exact hx, rfl, fun _ h => h⟩

theorem Upd.w (u : Upd tm tm' op) : curW tm' op.slot = opW op (curW tm op.slot) := by
  obtain ⟨tx', h1, _, h3, _⟩ := u.self
  rw [← h3]
  simp only [curW, h1]

theorem Upd.w_other (u : Upd tm tm' op) {s : Nat} (hs : s ≠ op.slot) : curW tm' s = curW tm s := by
  simp only [curW, u.other hs]

theorem Upd.act (u : Upd tm tm' op) (tx' : Tx) (hx : tm'.tx? op.slot = some tx') (he : op.isEnd = false) :
    tx'.stat = .active := by
  obtain ⟨t, h1, _, _, h4, _⟩ := u.self
  rw [h1] at hx
  cases hx
  exact h4 he

theorem upd_of {tx tx' : Tx} (hx : tm.tx? op.slot = some tx)
    (htx : ∀ s', tm'.tx? s' = if s' = op.slot then some tx' else tm.tx? s')
    (hl : tx'.level = tx.level) (hr : ∀ k ∈ tx.rset, k ∈ tx'.rset) (hw : tx'.wset = opW op tx.wset)
    (ha : op.isEnd = false → tx'.stat = .active) (hb : op.isBegin = false)
    (hk : ∀ k, op = .read op.slot k → k ∈ tx'.rset) : Upd tm tm' op := by
  refine ⟨tx', htx, ?_, ?_, ha, ?_, hk⟩
  · intro t ht
    rw [hx] at ht
    cases ht
    exact ⟨hl, hr⟩
  · simp only [curW, hx, hw]
  · intro l h
    rw [h] at hb
    cases hb

theorem upd_start (hb : op.isBegin = true → tm.tx? op.slot = none)
    (ha : op.isBegin = false → ∃ tx, tm.tx? op.slot = some tx ∧ tx.stat = .active) :
    Upd tm (stepT tm (.start op)).1 op := by
  cases op with
  | «begin» s l =>
    have hx : tm.tx? s = none := hb rfl
    refine ⟨{ slot := s, id := tm.nextId, level := l, snap := tm.version }, tx?_begin tm s l hx, ?_, ?_,
      fun _ => rfl, ?_, ?_⟩
    · intro tx h
      simp only [TOp.slot] at h
      rw [hx] at h
      cases h
    · simp [opW, curW, TOp.slot, hx]
    · intro l' h
      cases h
      rfl
    · intro k h
      cases h
  | read s k =>
    obtain ⟨tx, hx, ha⟩ : ∃ tx, tm.tx? s = some tx ∧ tx.stat = .active := ha rfl
    rw [(stepT_state tm).2.1]
    refine upd_of (tm' := tm.readStart s k) (tx := tx) (tx' := { tx with rset := addKey k tx.rset }) hx
      (tx?_upd hx (by simp [TM.readStart, hx, ha]) rfl) rfl (fun _ => mem_addKey) rfl (fun _ => ha) rfl ?_
    intro k' h
    cases h
    exact mem_addKey_self _ _
  | write s k v =>
    obtain ⟨tx, hx, ha⟩ : ∃ tx, tm.tx? s = some tx ∧ tx.stat = .active := ha rfl
    exact upd_of (tm' := tm.write s k v) (tx := tx) (tx' := { tx with wset := dictSet k v tx.wset }) hx
      (tx?_upd hx (by simp [TM.write, hx, ha]) rfl) rfl (fun _ h => h) rfl (fun _ => ha) rfl nofun
  | abort s =>
    obtain ⟨tx, hx, ha⟩ : ∃ tx, tm.tx? s = some tx ∧ tx.stat = .active := ha rfl
    exact upd_of (tm' := tm.abort s) (tx := tx) (tx' := { tx with stat := .aborted }) hx
      (tx?_upd hx (by simp [TM.abort, hx, ha]) rfl) rfl (fun _ h => h) rfl (fun h => by cases h) rfl nofun
  | commit s =>
    obtain ⟨tx, hx, ha⟩ : ∃ tx, tm.tx? s = some tx ∧ tx.stat = .active := ha rfl
    cases hc : checkConflict tm tx with
    | true =>
      exact upd_of (tm' := (tm.commit s).1) (tx := tx) (tx' := { tx with stat := .aborted }) hx
        (tx?_upd hx (by simp [TM.commit, hx, ha, hc]) rfl) rfl (fun _ h => h) rfl (fun h => by cases h) rfl nofun
    | false =>
      obtain ⟨_, c⟩ := commit_ok hx ha hc
      exact upd_of (tm' := (tm.commit s).1) (tx := tx) (tx' := { tx with stat := .committed }) hx c.txs rfl
        (fun _ h => h) rfl (fun h => by cases h) rfl nofun

theorem readAdvance_start (tm : TM) (s : Nat) (k : Key) (hn : lsmStart tm.store (.get k) = none) :
    readAdvance tm s k (.start (.get k)) = (tm, .done (.val (fetchVal tm s k))) ∨
    ∃ j, readAdvance tm s k (.start (.get k)) = (tm, .rd s k (.wait (.get k) j)) := by
  cases hy : yieldsBefore tm.store (.get k) with
  | zero =>
    refine .inl ?_
    simp only [readAdvance, stepS, hn, hy, doAct, act, fetchVal]
    cases tm.tx? s <;> simp
  | succ j => exact .inr ⟨j, by simp only [readAdvance, stepS, hn, hy]⟩

theorem readAdvance_wait (tm : TM) (s : Nat) (k : Key) (j : Nat) :
    readAdvance tm s k (.wait (.get k) j) = (tm, .done (.val (fetchVal tm s k))) ∨
    ∃ j', readAdvance tm s k (.wait (.get k) j) = (tm, .rd s k (.wait (.get k) j')) := by
  cases j with
  | zero => exact .inl (readAdvance_fetch tm s k)
  | succ j => exact .inr ⟨j, by simp only [readAdvance, stepS]⟩

end HappyModel.C14.SM
