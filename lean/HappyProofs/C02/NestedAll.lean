import HappyProofs.C02.NestedAny
import HappyProofs.C02.AllOf
/-!
# C02 — nested `all_of`: inputs may be composites that settle inside a callback cascade

The cascade argument is `Family.other_succ` of `NestedAny.lean`; what is particular to all_of is its bookkeeping
between complete `resolve` calls (`AllCore`: `remaining` counts the inputs not yet accounted for — unresolved, or
resolved with their callback still pending, `missing` — and the others have their value in their slot) and the one
callback per input that updates it (`AllCore_slot`).
-/
namespace HappyModel.C01

/-- input `g` has not been accounted for by `f` yet: unresolved, or resolved with its callback pending -/
def missing (x : Eff) (P : List Nat) (g : Nat) : Bool := !(futGet x.ps.futs g).resolved || P.contains g

/-- the callbacks of an unresolved input `gs[i]` of `f = all_of(gs)`: exactly one into `f`, its own -/
def AllCbs (f i : Nat) (l : List Cb) : Prop :=
  l.countP (fun cb => cb.tgt == f) = 1 ∧ ∀ cb ∈ l, cb.tgt = f → cb = .allCb f i

/-- the all_of bookkeeping between complete `resolve` calls, except the "something is still missing" part -/
structure AllCore (rk : Nat → Nat) (f : Nat) (gs : List Nat) (P : List Nat) (x : Eff) : Prop
    extends Wired rk f gs (AllCbs f) x where
  nodup : gs.Nodup
  pres : ∀ g ∈ P, (futGet x.ps.futs g).resolved = true
  len : (futGet x.ps.futs f).results.length = gs.length
  A : (futGet x.ps.futs f).resolved = false → (futGet x.ps.futs f).remaining = gs.countP (missing x P)
  /-- an input that is accounted for has its value in its slot -/
  B : (futGet x.ps.futs f).resolved = false → ∀ i (hi : i < gs.length),
    (futGet x.ps.futs gs[i]).resolved = true → gs[i] ∉ P →
    (futGet x.ps.futs f).results[i]? = some (futGet x.ps.futs gs[i]).value
  C : (futGet x.ps.futs f).resolved = true → (∀ g ∈ gs, (futGet x.ps.futs g).resolved = true) ∧
    (futGet x.ps.futs f).value = .list (gs.map (fun g => (futGet x.ps.futs g).value))

structure AllInv (rk : Nat → Nat) (f : Nat) (gs : List Nat) (P : List Nat) (x : Eff) : Prop
    extends AllCore rk f gs P x where
  /-- between complete `resolve` calls an unresolved `f` still misses an input (so `remaining - 1 = 0` is reached exactly
      at the last one) -/
  D : (futGet x.ps.futs f).resolved = false → P = [] → 1 ≤ (futGet x.ps.futs f).remaining

theorem map_value_later {x x' : Eff} (hl : Later x x') (gs : List Nat)
    (hall : ∀ g ∈ gs, (futGet x.ps.futs g).resolved = true) :
    gs.map (fun g => (futGet x'.ps.futs g).value) = gs.map (fun g => (futGet x.ps.futs g).value) :=
  List.map_congr_left (fun g hg => (hl.res g (hall g hg)).2)

theorem missing_false {x : Eff} {P : List Nat} {g : Nat} :
    missing x P g = false ↔ (futGet x.ps.futs g).resolved = true ∧ g ∉ P := by
  simp [missing]

theorem AllCore.later {rk : Nat → Nat} {f : Nat} {gs P P' : List Nat} {x x' : Eff} (h : AllCore rk f gs P x)
    (hl : Later x x') (hf : futGet x'.ps.futs f = futGet x.ps.futs f)
    (hP : ∀ g ∈ P', (futGet x'.ps.futs g).resolved = true)
    (hmiss : ∀ g ∈ gs, missing x' P' g = missing x P g) : AllCore rk f gs P' x' := by
  refine ⟨h.toWired.later hl, h.nodup, hP, hf ▸ h.len, ?_, ?_, ?_⟩ <;> rw [hf]
  · intro hfu
    rw [h.A hfu]
    exact (List.countP_congr (fun g hg => by rw [hmiss g hg])).symm
  · intro hfu i hi hr hPi
    have hm := missing_false.mp ((hmiss _ (List.getElem_mem hi)).symm.trans (missing_false.mpr ⟨hr, hPi⟩))
    rw [(hl.res _ hm.1).2]
    exact h.B hfu i hi hm.1 hm.2
  · intro hfr
    have ⟨c1, c2⟩ := h.C hfr
    exact ⟨fun g hg => (hl.res g (c1 g hg)).1, by rw [c2, map_value_later hl gs c1]⟩

theorem AllInv_mark {rk : Nat → Nat} {f : Nat} {gs P : List Nat} {x : Eff} (h : AllInv rk f gs P x)
    (now g : Nat) (w : Val) (hun : (futGet x.ps.futs g).resolved = false) (hgf : g ≠ f) :
    AllInv rk f gs (if g ∈ gs then g :: P else P) (markResolved x now g w) := by
  have hl := Later_mark x now g w hun
  have hf := markResolved_futGet_ne x now g f w (Ne.symm hgf)
  have hgP : g ∉ P := fun hm => by have := h.pres g hm; rw [hun] at this; cases this
  refine ⟨h.toAllCore.later hl hf ?_ ?_, ?_⟩
  · intro g' hg'
    have hg' : g' = g ∨ g' ∈ P := by
      split at hg'
      · exact List.mem_cons.mp hg'
      · exact Or.inr hg'
    rcases hg' with rfl | hg'
    · exact (markResolved_futGet_same x now g' w).1
    · exact (hl.res g' (h.pres g' hg')).1
  · intro g' hg'
    unfold missing
    by_cases heq : g' = g
    · subst heq; simp [hg', hun]
    · rw [markResolved_futGet_ne x now g g' w heq]
      by_cases hgs : g ∈ gs <;> simp [hgs, heq]
  · intro hfu hPe
    rw [hf] at hfu ⊢
    by_cases hgs : g ∈ gs
    · simp [hgs] at hPe
    · rw [if_neg hgs] at hPe; exact h.D hfu hPe

theorem AllInv_allUpd {rk : Nat → Nat} {f : Nat} {gs P : List Nat} {x : Eff} (h : AllInv rk f gs P x)
    (c : Nat) (hc : c ≠ f) (res : List Val) (rem : Nat) :
    AllInv rk f gs P (x.setFut c { futGet x.ps.futs c with results := res, remaining := rem }) := by
  have hsame := allUpd_same x c res rem
  have hf : futGet (x.setFut c { futGet x.ps.futs c with results := res, remaining := rem }).ps.futs f
      = futGet x.ps.futs f := futGet_futSet_ne _ _ _ _ (Ne.symm hc)
  refine ⟨h.toAllCore.later (Later_allUpd x c res rem) hf (fun g hg => (hsame g).1.trans (h.pres g hg))
    (fun g _ => by unfold missing; rw [(hsame g).1]), fun hfu hPe => ?_⟩
  rw [hf] at hfu ⊢; exact h.D hfu hPe

theorem allFamily {rk : Nat → Nat} {f : Nat} {gs : List Nat} {now : Nat} :
    Family rk f gs now (AllCbs f) (AllInv rk f gs) :=
  ⟨fun h => h.toWired, fun g w h hun hgf => AllInv_mark h now g w hun hgf, fun c res rem h hc => AllInv_allUpd h c hc res rem⟩

theorem AllInv_drop {rk : Nat → Nat} {f : Nat} {gs P : List Nat} {x : Eff} {g : Nat} (h : AllInv rk f gs (g :: P) x)
    (hr : (futGet x.ps.futs f).resolved = true) : AllInv rk f gs P x := by
  have hfu : (futGet x.ps.futs f).resolved = false → False := fun hfu => by rw [hr] at hfu; cases hfu
  exact ⟨⟨h.toWired, h.nodup, fun g' hg' => h.pres g' (List.mem_cons_of_mem _ hg'), h.len, fun h => (hfu h).elim,
    fun h => (hfu h).elim, h.C⟩, fun h => (hfu h).elim⟩

theorem AllInv_mark_f {rk : Nat → Nat} {f : Nat} {gs P : List Nat} {x : Eff} (h : AllCore rk f gs P x)
    (now : Nat) (hun : (futGet x.ps.futs f).resolved = false) (hrem : (futGet x.ps.futs f).remaining = 0) :
    AllInv rk f gs P (markResolved x now f (.list (futGet x.ps.futs f).results)) := by
  have hl := Later_mark x now f (.list (futGet x.ps.futs f).results) hun
  have hs := markResolved_futGet_same x now f (.list (futGet x.ps.futs f).results)
  have hfu : (futGet (markResolved x now f (.list (futGet x.ps.futs f).results)).ps.futs f).resolved = false → False :=
    fun hfu => by rw [hs.1] at hfu; cases hfu
  have hall : ∀ g ∈ gs, (futGet x.ps.futs g).resolved = true ∧ g ∉ P := fun g hg =>
    missing_false.mp (by simpa using List.countP_eq_zero.mp ((h.A hun).symm.trans hrem) g hg)
  refine ⟨⟨h.toWired.later hl, h.nodup, fun g hg => (hl.res g (h.pres g hg)).1, by rw [hs.2.2.2.1]; exact h.len,
    fun h => (hfu h).elim, fun h => (hfu h).elim, fun _ => ⟨fun g hg => (hl.res g (hall g hg).1).1, ?_⟩⟩,
    fun h => (hfu h).elim⟩
  rw [hs.2.1]; congr 1
  refine slots_eq_map h.len (fun j hj => ?_)
  have hg := hall _ (List.getElem_mem hj)
  rw [h.B hun j hj hg.1 hg.2, (hl.res _ hg.1).2]

/-- `f`'s record after the callback of input `i` stored `v` -/
def slotFut (x : Eff) (f i : Nat) (v : Val) : Fut :=
  { futGet x.ps.futs f with results := (futGet x.ps.futs f).results.set i v, remaining := (futGet x.ps.futs f).remaining - 1 }

theorem AllCore_slot {rk : Nat → Nat} {f : Nat} {gs P : List Nat} {x : Eff} (i : Nat) (hi : i < gs.length)
    (v : Val) (h : AllInv rk f gs (gs[i] :: P) x) (hP : gs[i] ∉ P)
    (hun : (futGet x.ps.futs f).resolved = false)
    (hri : (futGet x.ps.futs gs[i]).resolved = true) (hvi : (futGet x.ps.futs gs[i]).value = v) :
    AllCore rk f gs P (x.setFut f (slotFut x f i v)) ∧
    (futGet x.ps.futs f).remaining = gs.countP (missing x P) + 1 := by
  have hl : Later x (x.setFut f (slotFut x f i v)) :=
    Later_allUpd x f ((futGet x.ps.futs f).results.set i v) ((futGet x.ps.futs f).remaining - 1)
  have hne : ∀ g ∈ gs, g ≠ f := fun g hg heq => h.notin (heq ▸ hg)
  have hff : futGet (x.setFut f (slotFut x f i v)).ps.futs f = slotFut x f i v := futGet_futSet_same _ _ _
  have hoth : ∀ g, g ≠ f → futGet (x.setFut f (slotFut x f i v)).ps.futs g = futGet x.ps.futs g :=
    fun g hg => futGet_futSet_ne _ _ _ _ hg
  have hrem : (futGet x.ps.futs f).remaining = gs.countP (missing x P) + 1 := by
    rw [h.A hun]
    refine (countP_flip_one gs gs[i] _ _ h.nodup (List.getElem_mem hi) ?_ ?_ ?_).symm
    · simp [missing]
    · simp [missing, hri, hP]
    · intro g hg; simp [missing, hg]
  have hmiss : ∀ g ∈ gs, missing (x.setFut f (slotFut x f i v)) P g = missing x P g := by
    intro g hg; unfold missing; rw [hoth g (hne g hg)]
  refine ⟨⟨h.toWired.later hl, h.nodup, ?_, ?_, ?_, ?_, ?_⟩, hrem⟩
  · intro g hg
    have hgf : g ≠ f := by
      intro heq; subst heq
      have := h.pres g (List.mem_cons_of_mem _ hg); rw [hun] at this; cases this
    rw [hoth g hgf]; exact h.pres g (List.mem_cons_of_mem _ hg)
  · rw [hff]; simp [slotFut, h.len]
  · intro _
    rw [hff, List.countP_congr (fun g hg => by rw [hmiss g hg])]
    show (futGet x.ps.futs f).remaining - 1 = _
    omega
  · intro _ j hj hr hPj
    rw [hoth _ (hne _ (List.getElem_mem hj))] at hr ⊢
    rw [hff]
    show ((futGet x.ps.futs f).results.set i v)[j]? = _
    by_cases hji : j = i
    · subst hji
      rw [hvi, List.getElem?_set_self (by rw [h.len]; exact hj)]
    · rw [List.getElem?_set_ne (Ne.symm hji)]
      have hne' : gs[j] ≠ gs[i] := fun heq => hji ((List.getElem_inj h.nodup).mp heq)
      exact h.B hun j hj hr (by simp [hne', hPj])
  · intro hfr; rw [hff] at hfr; rw [show (slotFut x f i v).resolved = (futGet x.ps.futs f).resolved from rfl, hun] at hfr; cases hfr

/-- what complete `resolve` calls with fuel `n` do to the all_of bookkeeping -/
structure AllClaim (rk : Nat → Nat) (f : Nat) (gs : List Nat) (now n : Nat) : Prop where
  other : Other rk f now (AllInv rk f gs) n
  comp : ∀ (x : Eff) (P : List Nat), rk f < n → AllCore rk f gs P x →
    (futGet x.ps.futs f).resolved = false → (futGet x.ps.futs f).remaining = 0 →
    AllInv rk f gs P (resolveFut n x now f (.list (futGet x.ps.futs f).results))

theorem all_cb_f {rk : Nat → Nat} {f : Nat} {gs : List Nat} {now n : Nat} (cl : AllClaim rk f gs now n)
    (i : Nat) (hi : i < gs.length) (v : Val) (P : List Nat) (acc : Eff) (hrf : rk f < n)
    (h : AllInv rk f gs (gs[i] :: P) acc) (hP : gs[i] ∉ P) (hres : ResolvedIs gs[i] v acc) :
    AllInv rk f gs P (cbStep n now v acc (.allCb f i)) := by
  simp only [cbStep, allStep]
  by_cases hr : (futGet acc.ps.futs f).resolved = true
  · rw [if_pos hr]; exact AllInv_drop h hr
  · rw [if_neg hr]
    have hun := Bool.eq_false_iff.mpr hr
    have ⟨hcore, hrem⟩ := AllCore_slot i hi v h hP hun hres.1 hres.2
    have hff : futGet (acc.setFut f (slotFut acc f i v)).ps.futs f = slotFut acc f i v := futGet_futSet_same _ _ _
    change AllInv rk f gs P (if (futGet acc.ps.futs f).remaining - 1 = 0
      then resolveFut n (acc.setFut f (slotFut acc f i v)) now f (.list ((futGet acc.ps.futs f).results.set i v))
      else acc.setFut f (slotFut acc f i v))
    split
    · rename_i hz
      have := cl.comp (acc.setFut f (slotFut acc f i v)) P hrf hcore (by rw [hff]; exact hun)
        (by rw [hff]; exact hz)
      rw [hff] at this
      exact this
    · refine ⟨hcore, fun _ _ => ?_⟩
      rw [hff]
      show 1 ≤ (futGet acc.ps.futs f).remaining - 1
      omega

theorem all_fold_input {rk : Nat → Nat} {f : Nat} {gs : List Nat} {now n : Nat} (cl : AllClaim rk f gs now n)
    (i : Nat) (hi : i < gs.length) (v : Val) (P : List Nat) (hP : gs[i] ∉ P) (l : List Cb) :
    ∀ (acc : Eff), (∀ cb ∈ l, rk cb.tgt < n) → (∀ cb ∈ l, cb.tgt = f → cb = .allCb f i) →
    ResolvedIs gs[i] v acc → l.countP (fun cb => cb.tgt == f) = 1 →
    AllInv rk f gs (gs[i] :: P) acc → AllInv rk f gs P (l.foldl (cbStep n now v) acc) := by
  induction l with
  | nil => intro acc _ _ _ hc; simp at hc
  | cons cb t ih =>
    intro acc hrk hf hres hc h
    have hrk0 := hrk cb List.mem_cons_self
    rw [List.countP_cons] at hc
    simp only [List.foldl_cons]
    by_cases ht : cb.tgt = f
    · cases hf cb List.mem_cons_self ht
      have hc0 : ∀ cb' ∈ t, ¬ (cb'.tgt == f) = true :=
        List.countP_eq_zero.mp (by simp only [ht, beq_self_eq_true, if_true] at hc; omega)
      exact allFamily.fold_other cl.other v t _ P
        (fun cb' hcb' => ⟨hrk cb' (List.mem_cons_of_mem _ hcb'), by simpa using hc0 cb' hcb'⟩)
        (all_cb_f cl i hi v P acc (ht ▸ hrk0) h hP hres)
    · have hb : (cb.tgt == f) = false := by simp [ht]
      rw [hb] at hc
      exact ih _ (fun cb' hcb' => hrk cb' (List.mem_cons_of_mem _ hcb'))
        (fun cb' hcb' => hf cb' (List.mem_cons_of_mem _ hcb'))
        (cbStep_cclosed (ResolvedIs_cclosed gs[i] v) n now v acc cb hres) (by simpa using hc)
        (allFamily.fold_other cl.other v [cb] acc (gs[i] :: P) (by simpa using ⟨hrk0, ht⟩) h)

theorem allClaim (rk : Nat → Nat) (f : Nat) (gs : List Nat) (now : Nat) : ∀ n, AllClaim rk f gs now n := by
  intro n
  induction n with
  | zero => exact ⟨fun _ _ _ _ h => absurd h (Nat.not_lt_zero _), fun _ _ h => absurd h (Nat.not_lt_zero _)⟩
  | succ n ih =>
    refine ⟨allFamily.other_succ ih.other ?_, ?_⟩
    · intro x i hi w P inv hun l acc hq hrk hres h
      have hP : gs[i] ∉ P := fun hmem => by have := inv.pres _ hmem; rw [hun] at this; cases this
      exact all_fold_input ih i hi w P hP l acc hrk hq.2 hres hq.1 h
    · intro x P hrk core hun hrem
      rw [resolveFut_succ, hun, if_neg Bool.false_ne_true]
      refine allFamily.fold_other ih.other _ _ _ P ?_ (AllInv_mark_f core now hun hrem)
      intro cb hcb
      have := core.rank f cb hcb
      exact ⟨by omega, by intro heq; rw [heq] at this; omega⟩

/-- **nested all_of.**  Pairwise distinct inputs; each unresolved input carries exactly one callback
    into `f`, `allCb f i`; a settled input has its value in its slot; `remaining` = number of unresolved
    inputs ≥ 1.  After any `resolve` call on `h ≠ f`: `f` is resolved iff every input is, and then its
    value is the list of the inputs' values in argument order -/
theorem allof_all_nested (rk : Nat → Nat) (fuel : Nat) (e : Eff) (now f h : Nat) (gs : List Nat) (w : Val)
    (hrank : RankOk rk e) (hfuel : rk h < fuel) (hhf : h ≠ f) (hnd : gs.Nodup) (hf : f ∉ gs)
    (hunf : (futGet e.ps.futs f).resolved = false)
    (hlen : (futGet e.ps.futs f).results.length = gs.length)
    (hrem : (futGet e.ps.futs f).remaining = gs.countP (fun g => !(futGet e.ps.futs g).resolved))
    (hpos : 1 ≤ (futGet e.ps.futs f).remaining)
    (hin : ∀ i (hi : i < gs.length),
      ((futGet e.ps.futs gs[i]).resolved = true →
        (futGet e.ps.futs f).results[i]? = some (futGet e.ps.futs gs[i]).value) ∧
      ((futGet e.ps.futs gs[i]).resolved = false →
        (futGet e.ps.futs gs[i]).cbs.countP (fun cb => cb.tgt == f) = 1 ∧
        ∀ cb ∈ (futGet e.ps.futs gs[i]).cbs, cb.tgt = f → cb = .allCb f i))
    (hoth : ∀ g, g ∉ gs → ∀ cb ∈ (futGet e.ps.futs g).cbs, cb.tgt ≠ f) :
    ((futGet (resolveFut fuel e now h w).ps.futs f).resolved = true ↔
      ∀ g ∈ gs, (futGet (resolveFut fuel e now h w).ps.futs g).resolved = true) ∧
    ((futGet (resolveFut fuel e now h w).ps.futs f).resolved = true →
      (futGet (resolveFut fuel e now h w).ps.futs f).value
        = .list (gs.map (fun g => (futGet (resolveFut fuel e now h w).ps.futs g).value))) := by
  have inv0 : AllInv rk f gs [] e := by
    refine ⟨⟨⟨hrank, hf, fun i hi hu => (hin i hi).2 hu, hoth⟩, hnd, by simp, hlen, ?_, ?_, ?_⟩, fun _ _ => hpos⟩
    · intro _; rw [hrem]; apply List.countP_congr; intro g _; simp [missing]
    · intro _ i hi hr _; exact (hin i hi).1 hr
    · intro hr; rw [hunf] at hr; simp at hr
  have inv := (allClaim rk f gs now fuel).other e h w [] hfuel hhf inv0
  generalize resolveFut fuel e now h w = r at inv
  refine ⟨⟨fun hr => (inv.C hr).1, ?_⟩, fun hr => (inv.C hr).2⟩
  intro hall
  cases hfr : (futGet r.ps.futs f).resolved with
  | true => rfl
  | false =>
    exfalso
    have h1 := inv.A hfr
    have h2 := inv.D hfr rfl
    have hz : gs.countP (missing r []) = 0 := by
      rw [List.countP_eq_zero]; intro g hg; simp [missing, hall g hg]
    omega

end HappyModel.C01
