import HappyProofs.C14.LsmInv
import HappyProofs.C14.EvLog
namespace HappyModel.C14

variable {cfg : Cfg} {y : Sys}

def advFrame (cfg : Cfg) (st : St) (n : Nat) (f : Frame) : Frame :=
  { f with pc := (stepOp cfg st f.pc).2, b := f.b.orElse (fun _ => some n),
           seq0 := if f.b.isNone then st.nextSeq else f.seq0,
           e := if (stepOp cfg st f.pc).2.isDone then some n else none }

def evOf (cfg : Cfg) (st : St) (n : Nat) (f : Frame) : Option Ev :=
  match insOf cfg st f.pc with
  | some (k, c, q) => some ⟨n, f.id, k, c, q⟩
  | none => none

def logStepF (cfg : Cfg) (st : St) (n id : Nat) : List Frame → List Ev → List Ev
  | [], log => log
  | f :: fs, log =>
    if f.id == id then (if f.pc.isDone then log else (evOf cfg st n f).toList ++ log)
    else logStepF cfg st n id fs log

def logStep (cfg : Cfg) (y : Sys) (log : List Ev) (id : Nat) : List Ev := logStepF cfg y.st y.n id y.frames log

def logRun (cfg : Cfg) (y : Sys) (log : List Ev) : List Nat → List Ev
  | [] => log
  | id :: ids => logRun cfg (y.step cfg id) (logStep cfg y log id) ids

theorem gstepFrames_spec (cfg : Cfg) (st : St) (n id : Nat) (fs : List Frame) :
    (stepFrames cfg st n id fs = (st, fs) ∧ (∀ log, logStepF cfg st n id fs log = log) ∧
      ∀ f, fs.find? (fun f => f.id == id) = some f → f.pc.isDone = true) ∨
    ∃ pre f post, fs = pre ++ f :: post ∧ f.id = id ∧ f.pc.isDone = false ∧ (∀ g ∈ pre, g.id ≠ id) ∧
      stepFrames cfg st n id fs = ((stepOp cfg st f.pc).1, pre ++ advFrame cfg st n f :: post) ∧
      (∀ log, logStepF cfg st n id fs log = (evOf cfg st n f).toList ++ log) ∧
      fs.find? (fun f => f.id == id) = some f := by
  induction fs with
  | nil => exact Or.inl ⟨rfl, fun _ => rfl, fun _ h => (nomatch h)⟩
  | cons f fs ih =>
    unfold stepFrames logStepF
    by_cases hid : (f.id == id) = true
    · have hfind : (f :: fs).find? (fun f => f.id == id) = some f := List.find?_cons_of_pos hid
      simp only [hid, if_true]
      by_cases hd : f.pc.isDone = true
      · exact Or.inl ⟨by simp only [hd, if_true], fun _ => by simp only [hd, if_true],
          fun g hg => by cases hfind.symm.trans hg; exact hd⟩
      · refine Or.inr ⟨[], f, fs, rfl, eq_of_beq hid, Bool.eq_false_iff.mpr hd, fun g hg => (nomatch hg), ?_,
          fun log => by simp [hd], hfind⟩
        simp only [hd, Bool.false_eq_true, if_false, List.nil_append]
        rfl
    · have hfind : (f :: fs).find? (fun f => f.id == id) = fs.find? (fun f => f.id == id) := List.find?_cons_of_neg hid
      simp only [hid, Bool.false_eq_true, if_false]
      rcases ih with ⟨h, hl, hf⟩ | ⟨pre, g, post, h1, h2, h3, h4, h5, h6, h7⟩
      · left; rw [h]; exact ⟨rfl, hl, fun g hg => hf g (hfind ▸ hg)⟩
      · exact Or.inr ⟨f :: pre, g, post, by rw [h1]; rfl, h2, h3,
          List.forall_mem_cons.mpr ⟨fun e => hid (beq_iff_eq.mpr e), h4⟩, by rw [h5]; rfl, h6, hfind.trans h7⟩

theorem gstep_cases (cfg : Cfg) (y : Sys) (id : Nat) :
    (y.step cfg id = { y with n := y.n + 1 } ∧ (∀ log, logStep cfg y log id = log) ∧
      ∀ f, y.frames.find? (fun f => f.id == id) = some f → f.pc.isDone = true) ∨
    ∃ pre f post, y.frames = pre ++ f :: post ∧ f.id = id ∧ f.pc.isDone = false ∧ (∀ g ∈ pre, g.id ≠ id) ∧
      y.step cfg id = { st := (stepOp cfg y.st f.pc).1, frames := pre ++ advFrame cfg y.st y.n f :: post, n := y.n + 1 } ∧
      (∀ log, logStep cfg y log id = (evOf cfg y.st y.n f).toList ++ log) ∧
      y.frames.find? (fun f => f.id == id) = some f := by
  rcases gstepFrames_spec cfg y.st y.n id y.frames with ⟨h, hl⟩ | ⟨pre, f, post, h1, h2, h3, h4, h5, h6⟩
  · left; refine ⟨?_, hl⟩; unfold Sys.step; simp only [h]
  · right; refine ⟨pre, f, post, h1, h2, h3, h4, ?_, h6⟩
    unfold Sys.step; simp only [h5]

theorem step_cases (cfg : Cfg) (y : Sys) (id : Nat) :
    y.step cfg id = { y with n := y.n + 1 } ∨
    ∃ pre f post, y.frames = pre ++ f :: post ∧ f.id = id ∧ f.pc.isDone = false ∧ (∀ g ∈ pre, g.id ≠ id) ∧
      y.step cfg id = { st := (stepOp cfg y.st f.pc).1, frames := pre ++ advFrame cfg y.st y.n f :: post, n := y.n + 1 } := by
  rcases gstep_cases cfg y id with ⟨h, _⟩ | ⟨pre, f, post, h1, h2, h3, h4, h5, _⟩
  · exact Or.inl h
  · exact Or.inr ⟨pre, f, post, h1, h2, h3, h4, h5⟩

/-! `SysInvB` is `SysInv` with the exclusivity clause weakened to `≤`: a crash does not reset `compacting`, and the
    frame that was compacting is abandoned. -/

structure SysInv (cfg : Cfg) (y : Sys) : Prop where
  sinv : SInv cfg y.st
  pcs : ∀ f ∈ y.frames, POk cfg y.st f.pc
  excl : y.frames.countP (fun f => f.pc.isCompact) = b2n y.st.compacting
  flushIds : (y.frames.filterMap (fun f => flushId f.pc)).Nodup

structure SysInvB (cfg : Cfg) (y : Sys) : Prop where
  sinv : SInv cfg y.st
  pcs : ∀ f ∈ y.frames, POk cfg y.st f.pc
  excl : y.frames.countP (fun f => f.pc.isCompact) ≤ b2n y.st.compacting
  flushIds : (y.frames.filterMap (fun f => flushId f.pc)).Nodup

theorem SysInv.toB (h : SysInv cfg y) : SysInvB cfg y :=
  ⟨h.sinv, h.pcs, Nat.le_of_eq h.excl, h.flushIds⟩

theorem nodup_insert_mid {A B : List Nat} {x : Nat} (h : (A ++ B).Nodup) (ha : x ∉ A) (hb : x ∉ B) :
    (A ++ x :: B).Nodup := by
  have h' := List.nodup_append.mp h
  refine List.nodup_append.mpr ⟨h'.1, List.nodup_cons.mpr ⟨hb, h'.2.1⟩, ?_⟩
  intro a haA b hbB
  rcases List.mem_cons.mp hbB with rfl | hbB
  · exact fun e => ha (e ▸ haA)
  · exact h'.2.2 a haA b hbB

theorem compat_of_invB {st : St} {pre post : List Frame} {f : Frame} {n : Nat}
    (h : SysInvB cfg ⟨st, pre ++ f :: post, n⟩) {g : Frame} (hg : g ∈ pre ∨ g ∈ post) : Compat f.pc g.pc := by
  have hex := h.excl
  have hfl := h.flushIds
  simp only [List.countP_append, List.countP_cons, List.filterMap_append, List.filterMap_cons] at hex hfl
  cases hf : f.pc with
  | pFlush t b =>
    cases hgp : g.pc with
    | pFlush t' b' =>
      -- both identities occur in the duplicate-free list of flush ids
      rw [hf] at hfl
      simp only [flushId] at hfl
      have hmem : ∀ l : List Frame, g ∈ l → t'.id ∈ l.filterMap (fun f => flushId f.pc) :=
        fun l hl => List.mem_filterMap.mpr ⟨g, hl, by rw [hgp]; rfl⟩
      have h' := List.nodup_append.mp hfl
      rcases hg with hg | hg
      · exact fun e => h'.2.2 _ (hmem pre hg) _ (List.mem_cons_self ..) e.symm
      · exact fun e => (List.nodup_cons.mp h'.2.1).1 (e ▸ hmem post hg)
    | _ => trivial
  | pCompact j =>
    cases hgp : g.pc with
    | pCompact j' =>
      -- two compacting frames, but `b2n _ ≤ 1`
      rw [hf] at hex
      have hpos : ∀ l : List Frame, g ∈ l → 0 < l.countP (fun f => f.pc.isCompact) :=
        fun l hl => List.countP_pos_iff.mpr ⟨g, hl, by rw [hgp]; rfl⟩
      have hb : b2n st.compacting ≤ 1 := by unfold b2n; split <;> omega
      simp only [show (Pc.pCompact j).isCompact = true from rfl, if_true] at hex
      rcases hg with hg | hg
      · have := hpos pre hg; omega
      · have := hpos post hg; omega
    | _ => trivial
  | _ => trivial

/-- what `SysInv` and `SysInvB` share: everything but the exclusivity clause, and in its place the conservation of
    "suspended compactions minus the flag" -/
theorem sysInvB_adv {st : St} {pre post : List Frame} {f : Frame} {n : Nat}
    (h : SysInvB cfg ⟨st, pre ++ f :: post, n⟩) :
    SInv cfg (stepOp cfg st f.pc).1 ∧
    (∀ g ∈ pre ++ advFrame cfg st n f :: post, POk cfg (stepOp cfg st f.pc).1 g.pc) ∧
    ((pre ++ advFrame cfg st n f :: post).filterMap fun g => flushId g.pc).Nodup ∧
    (pre ++ advFrame cfg st n f :: post).countP (fun g => g.pc.isCompact) + b2n st.compacting =
      (pre ++ f :: post).countP (fun g => g.pc.isCompact) + b2n (stepOp cfg st f.pc).1.compacting := by
  have ok := stepOp_ok (s := st) h.sinv (h.pcs f (by simp))
  refine ⟨ok.sinv, ?_, ?_, ?_⟩
  · intro g hg
    simp only [List.mem_append, List.mem_cons] at hg
    rcases hg with hg | rfl | hg
    · exact ok.other _ (h.pcs g (by simp [hg])) (compat_of_invB h (Or.inl hg))
    · exact ok.pok
    · exact ok.other _ (h.pcs g (by simp [hg])) (compat_of_invB h (Or.inr hg))
  · have hfl := h.flushIds
    simp only [List.filterMap_append, List.filterMap_cons, advFrame] at hfl ⊢
    cases hx : flushId (stepOp cfg st f.pc).2 with
    | none =>
      cases hy : flushId f.pc with
      | none => rw [hy] at hfl; exact hfl
      | some z =>
        rw [hy] at hfl
        exact List.Nodup.sublist (List.Sublist.append (List.Sublist.refl _) (List.sublist_cons_self ..)) hfl
    | some x =>
      -- the flush id this segment creates is the identity of the memtable just frozen: no suspended flush carries it
      obtain ⟨hx1, hx2⟩ := ok.fid x hx
      rw [hx2] at hfl
      have hnot : ∀ l : List Frame, (∀ g ∈ l, POk cfg st g.pc) → x ∉ l.filterMap (fun f => flushId f.pc) := by
        intro l hl hm
        obtain ⟨g, hg, hgx⟩ := List.mem_filterMap.mp hm
        have hgp := hl g hg
        cases hgpc : g.pc with
        | pFlush t b =>
          rw [hgpc] at hgx hgp
          injection hgx with hgx
          exact (h.sinv.immFresh _ hgp).2 (hgx.trans hx1)
        | _ => rw [hgpc] at hgx; cases hgx
      exact nodup_insert_mid hfl (hnot pre fun g hg => h.pcs g (by simp [hg])) (hnot post fun g hg => h.pcs g (by simp [hg]))
  · have := ok.cnt
    simp only [List.countP_append, List.countP_cons, advFrame]
    unfold b2n at this ⊢
    omega

theorem sysInvB_step_adv (h : SysInvB cfg y) (id : Nat) :
    SInv cfg (y.step cfg id).st ∧ (∀ g ∈ (y.step cfg id).frames, POk cfg (y.step cfg id).st g.pc) ∧
    ((y.step cfg id).frames.filterMap fun g => flushId g.pc).Nodup ∧
    (y.step cfg id).frames.countP (fun g => g.pc.isCompact) + b2n y.st.compacting =
      y.frames.countP (fun g => g.pc.isCompact) + b2n (y.step cfg id).st.compacting := by
  rcases step_cases cfg y id with h0 | ⟨pre, f, post, h1, _, _, _, h5⟩
  · rw [h0]; exact ⟨h.sinv, h.pcs, h.flushIds, rfl⟩
  · rw [h5]
    obtain ⟨st, frames, n⟩ := y
    simp only at h1
    subst h1
    exact sysInvB_adv h

theorem sysInvB_step (h : SysInvB cfg y) (id : Nat) : SysInvB cfg (y.step cfg id) := by
  obtain ⟨a, b, c, d⟩ := sysInvB_step_adv h id
  have := h.excl
  exact ⟨a, b, by omega, c⟩

theorem sysInv_step (h : SysInv cfg y) (id : Nat) : SysInv cfg (y.step cfg id) := by
  obtain ⟨a, b, c, d⟩ := sysInvB_step_adv h.toB id
  have := h.excl
  exact ⟨a, b, by omega, c⟩

theorem sysInv_run (h : SysInv cfg y) (sched : List Nat) : SysInv cfg (y.run cfg sched) := by
  induction sched generalizing y with
  | nil => exact h
  | cons id ids ih => exact ih (sysInv_step h id)

theorem sysInvB_run {cfg : Cfg} {y : Sys} (h : SysInvB cfg y) (sched : List Nat) : SysInvB cfg (y.run cfg sched) := by
  induction sched generalizing y with
  | nil => exact h
  | cons id ids ih => exact ih (sysInvB_step h id)

def Pc.isStart : Pc → Bool
  | .pStart _ _ => true
  | .gStart _ => true
  | .sStart _ _ => true
  | _ => false

structure InitSys (cfg : Cfg) (y : Sys) : Prop where
  st : ∃ oracle, y.st = St.init cfg oracle
  frames : ∀ f ∈ y.frames, f.pc.isStart = true ∧ f.b = none ∧ f.e = none
  n : y.n = 0

theorem sinv_init (cfg : Cfg) (oracle : List Bool) (h2 : 2 ≤ cfg.maxLevels) : SInv cfg (St.init cfg oracle) := by
  have hno : ∀ i, (St.init cfg oracle).levels.getD i [] = [] := fun i => by
    simp only [St.init, List.getD_eq_getElem?_getD, List.getElem?_replicate]; split <;> rfl
  refine ⟨⟨by simp [St.init], h2, ?_, ?_, ?_⟩, sorted_nil, nofun, List.nodup_nil, ?_, ?_, nofun, by simp [St.init]⟩
  · intro i t ht; rw [hno] at ht; cases ht
  · intro i _; rw [hno]; exact fun t ht => nomatch ht
  · intro i; rw [hno]; exact List.nodup_nil
  · intro i t ht; rw [hno] at ht; cases ht
  · intro i t ht; rw [hno] at ht; cases ht

theorem start_plain {pc : Pc} (h : pc.isStart = true) : pc.plain = true := by
  cases pc <;> simp [Pc.isStart] at h <;> rfl

theorem sysInv_init (h : InitSys cfg y) (h2 : 2 ≤ cfg.maxLevels) : SysInv cfg y := by
  obtain ⟨oracle, hst⟩ := h.st
  refine ⟨by rw [hst]; exact sinv_init cfg oracle h2, fun f hf => (plain_ok (start_plain (h.frames f hf).1)).1, ?_, ?_⟩
  · rw [hst]
    show _ = 0
    apply List.countP_eq_zero.mpr
    intro f hf
    rw [(plain_ok (cfg := cfg) (s := y.st) (start_plain (h.frames f hf).1)).2.1]
    simp
  · have : y.frames.filterMap (fun f => flushId f.pc) = [] := by
      apply List.filterMap_eq_nil_iff.mpr
      intro f hf
      exact (plain_ok (cfg := cfg) (s := y.st) (start_plain (h.frames f hf).1)).2.2
    rw [this]; exact List.nodup_nil

theorem lsm_inv_run (h : InitSys cfg y) (h2 : 2 ≤ cfg.maxLevels) (sched : List Nat) :
    SysInv cfg (y.run cfg sched) := sysInv_run (sysInv_init h h2) sched

theorem forall_ids {l l' : List Frame} (h : l'.map (·.id) = l.map (·.id)) {Q : Nat → Prop}
    (hq : ∀ f ∈ l, Q f.id) : ∀ f ∈ l', Q f.id := by
  intro f hf
  have : f.id ∈ l.map (·.id) := h ▸ List.mem_map_of_mem hf
  obtain ⟨g, hg, e⟩ := List.mem_map.mp this
  exact e ▸ hq g hg

section
variable (cfg : Cfg) (y : Sys)

theorem step_ids (id : Nat) :
    (y.step cfg id).frames.map (·.id) = y.frames.map (·.id) := by
  rcases step_cases cfg y id with h0 | ⟨pre, f, post, h1, _, _, _, h5⟩
  · rw [h0]
  · rw [h5, h1]
    simp only [List.map_append, List.map_cons, advFrame]

theorem run_ids (sched : List Nat) :
    (y.run cfg sched).frames.map (·.id) = y.frames.map (·.id) := by
  induction sched generalizing y with
  | nil => rfl
  | cons id ids ih =>
    show ((y.step cfg id).run cfg ids).frames.map (·.id) = _
    rw [ih, step_ids]

theorem logStep_cases (log : List Ev) (id : Nat) :
    logStep cfg y log id = log ∨
    ∃ ev f, f ∈ y.frames ∧ ev.id = f.id ∧ logStep cfg y log id = ev :: log := by
  rcases gstep_cases cfg y id with ⟨_, hl, _⟩ | ⟨pre, f, post, h1, _, _, _, _, h6, _⟩
  · exact Or.inl (hl log)
  · rw [h6 log]
    unfold evOf
    split
    · rename_i k c q _
      right
      exact ⟨⟨y.n, f.id, k, c, q⟩, f, by rw [h1]; simp, rfl, rfl⟩
    · left; rfl

theorem logRun_new {B : Nat} (sched : List Nat) : ∀ (y : Sys) (log : List Ev), (∀ f ∈ y.frames, f.id < B) →
    ∃ new, logRun cfg y log sched = new ++ log ∧ ∀ e ∈ new, e.id < B := by
  induction sched with
  | nil => exact fun _ log _ => ⟨[], rfl, nofun⟩
  | cons id ids ih =>
    intro y log hB
    obtain ⟨new, hn, hb⟩ := ih (y.step cfg id) (logStep cfg y log id) (forall_ids (Q := (· < B)) (step_ids cfg y id) hB)
    show ∃ new, logRun cfg (y.step cfg id) (logStep cfg y log id) ids = new ++ log ∧ ∀ e ∈ new, e.id < B
    rcases logStep_cases cfg y log id with e | ⟨ev, f, hf, hid, e⟩ <;> rw [e] at hn ⊢
    · exact ⟨new, hn, hb⟩
    · refine ⟨new ++ [ev], by rw [List.append_assoc]; exact hn, fun x hx => ?_⟩
      rcases List.mem_append.mp hx with h1 | h1
      · exact hb x h1
      · rw [List.mem_singleton.mp h1, hid]; exact hB f hf

end

end HappyModel.C14
