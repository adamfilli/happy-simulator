import HappyModel.C18.KClock
/-! The keyed (dict) vector clock agrees with the dense one, and its `happened_before` over the key
union is the componentwise order with absent = 0. -/
namespace HappyModel.C18
namespace KVec

theorem get_set_self (v : KVec) (k x : Nat) : (v.set k x).get k = x := by
  induction v with
  | nil => simp [set, get]
  | cons e rest ih =>
    obtain ⟨k', y⟩ := e
    by_cases h : k' = k
    · simp [set, get, h]
    · simp [set, get, h, ih]

theorem get_set_other (v : KVec) (k j x : Nat) (h : j ≠ k) : (v.set k x).get j = v.get j := by
  have h' : ¬ k = j := fun e => h e.symm
  induction v with
  | nil => simp [set, get, h']
  | cons e rest ih =>
    obtain ⟨k', y⟩ := e
    by_cases h1 : k' = k
    · subst h1
      simp [set, get, h']
    · by_cases h2 : k' = j
      · subst h2
        simp [set, get, h1]
      · simp [set, get, h1, h2, ih]

theorem get_of_not_mem (v : KVec) (k : Nat) (h : k ∉ v.keys) : v.get k = 0 := by
  induction v with
  | nil => rfl
  | cons e rest ih =>
    obtain ⟨k', y⟩ := e
    simp only [keys, List.map_cons, List.mem_cons, not_or] at h
    have h' : ¬ k' = k := fun e => h.1 e.symm
    simp only [get, h', if_false]
    exact ih h.2

theorem get_foldl_zero (ms : List Nat) (acc : KVec) (i : Nat) (h : acc.get i = 0) :
    KVec.get (ms.foldl (fun (a : KVec) k => KVec.set a k 0) acc) i = 0 := by
  induction ms generalizing acc with
  | nil => exact h
  | cons m rest ih =>
    apply ih
    by_cases hm : i = m
    · subst hm; exact get_set_self _ _ _
    · rw [get_set_other _ _ _ _ hm]; exact h

theorem get_init (node : Nat) (members : List Nat) (i : Nat) : (init node members).get i = 0 := by
  unfold init
  by_cases h : i = node
  · subst h; exact get_set_self _ _ _
  · rw [get_set_other _ _ _ _ h]; exact get_foldl_zero _ _ _ rfl

theorem get_tick (v : KVec) (node i : Nat) :
    (v.tick node).get i = v.get i + (if i = node then 1 else 0) := by
  unfold tick
  by_cases h : i = node
  · subst h; simp [get_set_self]
  · simp [get_set_other _ _ _ _ h, h]

theorem get_absorb (remote v : KVec) (es : List (Nat × Nat)) (i : Nat) :
    (absorb remote v es).get i =
      if i ∈ es.map (·.1) then max (v.get i) (remote.get i) else v.get i := by
  induction es generalizing v with
  | nil => simp [absorb]
  | cons e rest ih =>
    simp only [absorb, List.map_cons, List.mem_cons]
    rw [ih]
    by_cases h : i = e.1
    · subst h
      simp only [get_set_self, true_or, if_true]
      split <;> omega
    · simp only [get_set_other _ _ _ _ h, h, false_or]

theorem get_receive (v : KVec) (node : Nat) (remote : KVec) (i : Nat) :
    (v.receive node remote).get i = max (v.get i) (remote.get i) + (if i = node then 1 else 0) := by
  unfold receive
  rw [get_tick, get_absorb]
  by_cases h : i ∈ remote.map (·.1)
  · simp [h]
  · have : remote.get i = 0 := get_of_not_mem remote i h
    simp [h, this]

end KVec

/-- the code's `happened_before` walks the union of the two key sets and reads absent entries
    as 0: it is the componentwise order, whatever the key sets are -/
theorem kvec_happened_before_spec (a b : KVec) :
    a.happenedBefore b = true ↔ (∀ k, a.get k ≤ b.get k) ∧ (∃ k, a.get k < b.get k) := by
  simp only [KVec.happenedBefore, Bool.and_eq_true, List.all_eq_true, List.any_eq_true,
    decide_eq_true_eq, List.mem_append]
  constructor
  · rintro ⟨h1, k, _, h2⟩
    refine ⟨fun j => ?_, k, h2⟩
    by_cases hj : j ∈ a.keys ∨ j ∈ b.keys
    · exact h1 j hj
    · have := KVec.get_of_not_mem a j (fun h => hj (Or.inl h))
      omega
  · rintro ⟨h1, k, h2⟩
    refine ⟨fun j _ => h1 j, k, ?_, h2⟩
    by_cases hk : k ∈ b.keys
    · exact Or.inr hk
    · have := KVec.get_of_not_mem b k hk
      omega

theorem KVec.happenedBefore_eq_dense (a b : KVec) (va vb : Vec)
    (ha : ∀ i, a.get i = Vec.get va i) (hb : ∀ i, b.get i = Vec.get vb i) :
    a.happenedBefore b = vcHappenedBefore va vb := by
  rw [Bool.eq_iff_iff, kvec_happened_before_spec, vcHappenedBefore_iff]
  simp only [ha, hb]

def VEq (k : KVec) (v : Vec) : Prop := ∀ i, k.get i = Vec.get v i

/-- the two logs of a clock run as one list, oldest first: the record at position `i` has id `i` (the
    clocks judge looks observations up by id), and the dict clock beside it has the entries of the record's
    vector -/
structure Logs (s : St) (k : KSt) (P : List (Rec × KVec)) : Prop where
  log : s.log = (P.map (·.1)).reverse
  klog : k.log = (P.map (·.2)).reverse
  len : P.length = s.cnt
  pos : ∀ (i : Nat) (r : Rec) (kv : KVec), P[i]? = some (r, kv) → r.id = i ∧ VEq kv r.V

structure KSim (k : KSt) (s : St) : Prop where
  vc : ∀ n, VEq (k.vc n) (s.vc n)
  mvc : ∀ m, VEq (k.mvc m) (s.mvc m)
  sent : ∀ m, k.msent m = s.msent m
  logs : ∃ L, Logs s k L

theorem ksim_init (mem : Nat → List Nat) : KSim (KSt.init mem) {} :=
  ⟨fun n i => by simp [KSt.init, KVec.get_init], fun m i => by simp [KSt.init, KVec.get],
   fun _ => rfl, [], rfl, rfl, rfl, by simp⟩

theorem Logs.push {s s' : St} {k k' : KSt} (h : ∃ L, Logs s k L) (r : Rec) (kv : KVec)
    (hid : r.id = s.cnt) (hv : VEq kv r.V) (hs : s'.log = r :: s.log) (hk : k'.log = kv :: k.log)
    (hc : s'.cnt = s.cnt + 1) : ∃ L, Logs s' k' L := by
  obtain ⟨P, h⟩ := h
  refine ⟨P ++ [(r, kv)], by simp [hs, h.log], by simp [hk, h.klog], by simp [h.len, hc], fun i r' kv' hi => ?_⟩
  by_cases hlt : i < P.length
  · rw [List.getElem?_append_left hlt] at hi
    exact h.pos i r' kv' hi
  · rw [List.getElem?_append_right (Nat.le_of_not_lt hlt)] at hi
    cases hz : i - P.length with
    | zero =>
      rw [hz] at hi
      obtain ⟨rfl, rfl⟩ := Prod.mk.inj (Option.some.inj hi)
      exact ⟨by rw [hid, ← h.len]; omega, hv⟩
    | succ z => rw [hz] at hi; cases hi

theorem Logs.get {s : St} {k : KSt} {P : List (Rec × KVec)} (h : Logs s k P) {i : Nat} {kv : KVec} {r : Rec}
    (hk : k.log[i]? = some kv) (hr : s.log[i]? = some r) : VEq kv r.V := by
  rw [h.klog, ← List.map_reverse, List.getElem?_map] at hk
  rw [h.log, ← List.map_reverse, List.getElem?_map] at hr
  cases hL : P.reverse[i]? with
  | none => simp [hL] at hk
  | some rk =>
    simp only [hL, Option.map_some, Option.some.injEq] at hk hr
    subst hk hr
    obtain ⟨j, hj⟩ := List.getElem?_of_mem (List.mem_reverse.mp (List.mem_of_getElem? hL))
    exact (h.pos j _ _ hj).2

theorem veq_tick {k : KVec} {v : Vec} (h : VEq k v) (n : Nat) : VEq (k.tick n) (Vec.addAt v n 1) :=
  fun i => by rw [KVec.get_tick, Vec.get_addAt, h i]

theorem veq_receive {k r : KVec} {v w : Vec} (h : VEq k v) (hr : VEq r w) (n : Nat) :
    VEq (k.receive n r) (Vec.addAt (Vec.vmax v w) n 1) :=
  fun i => by rw [KVec.get_receive, Vec.get_addAt, Vec.get_vmax, h i, hr i]

theorem veq_upd {f : Nat → KVec} {g : Nat → Vec} (h : ∀ n, VEq (f n) (g n)) (n : Nat)
    {k : KVec} {v : Vec} (hv : VEq k v) : ∀ n', VEq (upd f n k n') (upd g n v n') := by
  intro n'
  by_cases hn : n' = n
  · subst hn; simpa using hv
  · simpa [upd_other _ _ _ _ hn] using h n'

theorem ksim_step (k : KSt) (s : St) (h : KSim k s) (e : Ev) : KSim (kstep k e) (step s e) := by
  cases e with
  | loc n pt =>
    have hv := veq_tick (h.vc n) n
    exact ⟨veq_upd h.vc n hv, h.mvc, h.sent, Logs.push h.logs _ _ rfl hv rfl rfl rfl⟩
  | send n m pt =>
    simp only [kstep, step, h.sent m]
    cases hs : s.msent m with
    | true => simpa using h
    | false =>
      have hv := veq_tick (h.vc n) n
      simp only [Bool.false_eq_true, if_false]
      refine ⟨veq_upd h.vc n hv, ?_, ?_, Logs.push h.logs _ _ rfl hv rfl rfl rfl⟩
      · intro m'
        by_cases hm : m' = m
        · subst hm; simpa [bump] using hv
        · simpa [bump, upd_other _ _ _ _ hm] using h.mvc m'
      · intro m'
        by_cases hm : m' = m
        · subst hm; simp
        · simpa [bump, upd_other _ _ _ _ hm] using h.sent m'
  | recv n m pt =>
    simp only [kstep, step, h.sent m]
    cases hs : s.msent m with
    | false => simpa using h
    | true =>
      have hv := veq_receive (h.vc n) (h.mvc m) n
      simp only [if_true]
      exact ⟨veq_upd h.vc n hv, h.mvc, h.sent, Logs.push h.logs _ _ rfl hv rfl rfl rfl⟩

theorem ksim_run (es : List Ev) (k : KSt) (s : St) (h : KSim k s) : KSim (krun k es) (run s es) := by
  induction es generalizing k s with
  | nil => exact h
  | cons e es ih => exact ih _ _ (ksim_step k s h e)

end HappyModel.C18
