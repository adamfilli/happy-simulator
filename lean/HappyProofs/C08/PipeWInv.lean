import HappyModel.C08.PipeW
import HappyProofs.Lib.Lists
/-!
C08 part 2b — basic facts about the capacity-unit pipeline model (`HappyModel.C08.PipeW`) and the one
analysis of a delivery (`Eff`, `step_eff`) that every step lemma of the family goes through (only two
theorems of `PipeWProps` that assume the event is due open their handler themselves).
-/
namespace HappyModel.C08.PipeW

theorem wOf_pos (c : WCfg) (it : WItem) : 1 ≤ wOf c it := by
  unfold wOf
  split
  · exact Nat.le_max_right _ _
  · exact Nat.le_refl 1

theorem sumW_append (c : WCfg) (l1 l2 : List WItem) : sumW c (l1 ++ l2) = sumW c l1 + sumW c l2 := by
  induction l1 with
  | nil => simp [sumW]
  | cons x xs ih => simp only [List.cons_append, sumW, ih]; omega

theorem sumW_singleton (c : WCfg) (it : WItem) : sumW c [it] = wOf c it := by
  simp [sumW]

theorem sumW_erase (c : WCfg) {it : WItem} :
    ∀ {l : List WItem}, it ∈ l → sumW c (l.erase it) + wOf c it = sumW c l
  | [], h => by cases h
  | x :: xs, h => by
    by_cases hx : x = it
    · subst hx
      rw [List.erase_cons_head]
      simp only [sumW]; omega
    · have hm : it ∈ xs := by
        cases h with
        | head => exact absurd rfl hx
        | tail _ h => exact h
      have ih := sumW_erase c hm
      rw [List.erase_cons_tail (by simpa using hx)]
      simp only [sumW]; omega

theorem wOf_le_sumW (c : WCfg) {it : WItem} {l : List WItem} (h : it ∈ l) : wOf c it ≤ sumW c l := by
  have := sumW_erase c h; omega

theorem byId_mem {l : List WItem} {i : Nat} {it : WItem} (h : byId l i = some it) : it ∈ l :=
  List.mem_of_find?_eq_some h

theorem byId_id {l : List WItem} {i : Nat} {it : WItem} (h : byId l i = some it) : it.id = i := by
  have := List.find?_some h
  simpa using this

theorem firstMinW_mem {q : List WItem} {it : WItem} (h : firstMinW q = some it) : it ∈ q := by
  induction q generalizing it with
  | nil => cases h
  | cons x xs ih =>
    unfold firstMinW at h
    grind

theorem firstMinW_cons_isSome (x : WItem) (xs : List WItem) : ∃ it, firstMinW (x :: xs) = some it := by
  unfold firstMinW
  cases firstMinW xs with
  | none => exact ⟨x, rfl⟩
  | some m =>
    simp only
    split
    · exact ⟨m, rfl⟩
    · exact ⟨x, rfl⟩

theorem pick_nil (k : QKind) : pick k [] = none := by
  cases k <;> rfl

theorem pick_mem {k : QKind} {q : List WItem} {it : WItem} (h : pick k q = some it) : it ∈ q := by
  cases k with
  | fifo => exact List.mem_of_head? h
  | lifo => exact List.mem_of_getLast? h
  | prio => exact firstMinW_mem h

theorem pick_ne_none {k : QKind} {q : List WItem} (hq : q ≠ []) : ∃ it, pick k q = some it := by
  cases k with
  | fifo => exact ⟨_, List.head?_eq_some_head hq⟩
  | lifo => exact ⟨_, List.getLast?_eq_some_getLast hq⟩
  | prio =>
    cases q with
    | nil => exact absurd rfl hq
    | cons x xs => exact firstMinW_cons_isSome x xs

theorem pick_fifo_append {q : List WItem} (x : WItem) (hq : q ≠ []) :
    pick .fifo (q ++ [x]) = pick .fifo q := by
  cases q with
  | nil => exact absurd rfl hq
  | cons y ys => rfl

theorem fits_iff (s : WSt) (k : Nat) : fits s k = true ↔ s.used + k ≤ s.limit := by
  simp [fits]

theorem pollIfReady_frame (s : WSt) :
    ∃ b r n, (pollIfReady s).1 = { s with busy := b, recheck := r, nPoll := n } := by
  unfold pollIfReady
  split
  · exact ⟨_, _, _, rfl⟩
  · split
    · exact ⟨_, _, _, rfl⟩
    · exact ⟨_, _, _, rfl⟩

theorem pollIfReady_used (s : WSt) : (pollIfReady s).1.used = s.used := by
  obtain ⟨_, _, _, e⟩ := pollIfReady_frame s
  rw [e]

theorem pollIfReady_limit (s : WSt) : (pollIfReady s).1.limit = s.limit := by
  obtain ⟨_, _, _, e⟩ := pollIfReady_frame s
  rw [e]

theorem pollIfReady_inService (s : WSt) : (pollIfReady s).1.inService = s.inService := by
  obtain ⟨_, _, _, e⟩ := pollIfReady_frame s
  rw [e]

theorem pollIfReady_completed (s : WSt) : (pollIfReady s).1.completed = s.completed := by
  obtain ⟨_, _, _, e⟩ := pollIfReady_frame s
  rw [e]

theorem pollIfReady_rejected (s : WSt) : (pollIfReady s).1.rejected = s.rejected := by
  obtain ⟨_, _, _, e⟩ := pollIfReady_frame s
  rw [e]

theorem pollIfReady_q (s : WSt) : (pollIfReady s).1.q = s.q := by
  obtain ⟨_, _, _, e⟩ := pollIfReady_frame s
  rw [e]

/-- What one delivery does (the shape of `Pipe.Eff`): handling `a` in `s` answers `r` and builds `b`,
    after which `_poll_if_ready` runs iff `p`, with what the handler's tests found; a delivery that is
    not due (no such event pending, unknown id) changes nothing.  The answers of `notify`, `again`
    and `disp` report what that `_poll_if_ready` did and are left open. -/
inductive Eff (c : WCfg) (s : WSt) : Act → WSt → Res → Bool → Prop
  | idle (a : Act) : Eff c s a s .err false
  | drop (it : WItem) : Eff c s (.arr it) { s with dropped := s.dropped + 1 } (.accepted false) false
  | arr (it : WItem) : Eff c s (.arr it)
      { s with q := s.q ++ [it], acc := s.acc + 1,
               nNotify := if s.q.isEmpty then s.nNotify + 1 else s.nNotify } (.accepted true) false
  | notify (r : Res) (hn : ¬ s.nNotify = 0) : Eff c s .notify { s with nNotify := s.nNotify - 1 } r true
  | empty (hn : ¬ s.nPoll = 0) (hp : ∀ it, pick c.kind s.q = some it → ¬ admits c s it = true) :
      Eff c s .poll { s with nPoll := s.nPoll - 1, nEmpty := s.nEmpty + 1 } (.popped none) false
  | pop (it : WItem) (hn : ¬ s.nPoll = 0) (hp : pick c.kind s.q = some it) (had : admits c s it = true) :
      Eff c s .poll { s with nPoll := s.nPoll - 1, q := s.q.erase it, delivers := s.delivers ++ [it] }
        (.popped (some it.id)) false
  | deliver (i : Nat) (it : WItem) (hb : byId s.delivers i = some it) : Eff c s (.deliver (some i))
      { s with delivers := s.delivers.erase it, works := s.works ++ [it], nDisp := s.nDisp + 1 } .done false
  | again (r : Res) (hn : ¬ s.nEmpty = 0) (hr : s.recheck = true) :
      Eff c s (.deliver none) { s with nEmpty := s.nEmpty - 1, busy := false } r true
  | settle (hn : ¬ s.nEmpty = 0) (hr : ¬ s.recheck = true) :
      Eff c s (.deliver none) { s with nEmpty := s.nEmpty - 1, busy := false } (.polled false) false
  | start (i : Nat) (it : WItem) (hb : byId s.works i = some it) (hf : s.used + wOf c it ≤ s.limit) :
      Eff c s (.work i)
        { s with works := s.works.erase it, used := s.used + wOf c it, inService := s.inService ++ [it] }
        (.started true) false
  | reject (i : Nat) (it : WItem) (hb : byId s.works i = some it) (hf : ¬ fits s (wOf c it) = true) :
      Eff c s (.work i) { s with works := s.works.erase it, rejected := s.rejected + 1 } (.started false) true
  | disp (r : Res) (hn : ¬ s.nDisp = 0) : Eff c s .disp { s with nDisp := s.nDisp - 1, busy := false } r true
  | fin (i : Nat) (it : WItem) (hb : byId s.inService i = some it) : Eff c s (.fin i)
      { s with inService := s.inService.erase it, used := s.used - wOf c it, completed := s.completed + 1 } .done true
  | raise (n : Nat) (hc : c.wake = true ∧ s.limit < newLimit c s n ∧ s.q ≠ []) :
      Eff c s (.limit n) { s with limit := newLimit c s n, nNotify := s.nNotify + 1 } (.polled true) false
  | limit (n : Nat) (hc : ¬ (c.wake = true ∧ s.limit < newLimit c s n ∧ s.q ≠ [])) :
      Eff c s (.limit n) { s with limit := newLimit c s n } (.polled false) false

def after (b : WSt) (p : Bool) : WSt := if p then (pollIfReady b).1 else b

theorem step_eff (c : WCfg) (s : WSt) (a : Act) :
    ∃ b p, Eff c s a b (step c s a).2 p ∧ (step c s a).1 = after b p := by
  cases a with
  | arr it =>
    simp only [step]
    unfold stepArr
    split
    · exact ⟨_, _, .drop it, rfl⟩
    · exact ⟨_, _, .arr it, rfl⟩
  | notify =>
    simp only [step]
    unfold stepNotify
    split
    · exact ⟨_, _, .idle _, rfl⟩
    next hn => exact ⟨_, _, .notify _ hn, rfl⟩
  | poll =>
    simp only [step]
    unfold stepPoll
    split
    · exact ⟨_, _, .idle _, rfl⟩
    next hn =>
      split
      next hit => exact ⟨_, _, .empty hn (fun _ h => by rw [hit] at h; cases h), rfl⟩
      next it hit =>
        split
        next had => exact ⟨_, _, .pop it hn hit had, rfl⟩
        next had => exact ⟨_, _, .empty hn (fun _ h => by rw [hit] at h; cases h; exact had), rfl⟩
  | deliver x =>
    simp only [step]
    unfold stepDeliver
    split
    · split
      · exact ⟨_, _, .idle _, rfl⟩
      next it hb => exact ⟨_, _, .deliver _ it hb, rfl⟩
    · split
      · exact ⟨_, _, .idle _, rfl⟩
      next hn =>
        split
        next hr => exact ⟨_, _, .again _ hn hr, rfl⟩
        next hr => exact ⟨_, _, .settle hn hr, rfl⟩
  | work i =>
    simp only [step]
    unfold stepWork
    split
    · exact ⟨_, _, .idle _, rfl⟩
    next it hb =>
      split
      next hf => exact ⟨_, _, .start i it hb ((fits_iff _ _).1 hf), rfl⟩
      next hf => exact ⟨_, _, .reject i it hb hf, rfl⟩
  | disp =>
    simp only [step]
    unfold stepDisp
    split
    · exact ⟨_, _, .idle _, rfl⟩
    next hn => exact ⟨_, _, .disp _ hn, rfl⟩
  | fin i =>
    simp only [step]
    unfold stepFin
    split
    · exact ⟨_, _, .idle _, rfl⟩
    next it hb => exact ⟨_, _, .fin i it hb, rfl⟩
  | limit n =>
    simp only [step]
    unfold stepLimit
    split
    next hc => exact ⟨_, _, .raise n hc, rfl⟩
    next hc => exact ⟨_, _, .limit n hc, rfl⟩

/-- what `_poll_if_ready` keeps, a delivery keeps if every state it is run on has it -/
theorem step_ind {c : WCfg} {s : WSt} {a : Act} {I : WSt → Prop} (hp : ∀ b, I b → I (pollIfReady b).1)
    (hb : ∀ b r p, Eff c s a b r p → I b) : I (step c s a).1 := by
  obtain ⟨b, p, e, hs⟩ := step_eff c s a
  rw [hs]
  cases p
  · exact hb b _ _ e
  · exact hp b (hb b _ _ e)

theorem final_ind {c : WCfg} {S : WSt → List Act → Prop} {I : WSt → Prop}
    (hS : ∀ {s a as}, S s (a :: as) → S (step c s a).1 as)
    (hI : ∀ {s a as}, S s (a :: as) → I s → I (step c s a).1) :
    ∀ (as : List Act) {s : WSt}, S s as → I s → I (final c s as)
  | [], _, _, h => h
  | _ :: as, _, hs, h => final_ind hS hI as (hS hs) (hI hs h)

theorem step_act (c : WCfg) (s : WSt) (a : Act) (h : s.used = sumW c s.inService) :
    (step c s a).1.used = sumW c (step c s a).1.inService := by
  refine step_ind (I := fun b => b.used = sumW c b.inService) (fun b hb => ?_) fun b r p e => ?_
  · rw [pollIfReady_used, pollIfReady_inService]
    exact hb
  · cases e with
    | start i it =>
      dsimp only
      rw [sumW_append, sumW_singleton, h]
    | fin i it hb =>
      have := sumW_erase c (byId_mem hb)
      dsimp only
      omega
    | _ => exact h


def NoLowerAct (c : WCfg) (s : WSt) : Act → Prop
  | .limit n => s.limit ≤ newLimit c s n
  | _ => True

instance instDecNoLowerAct (c : WCfg) (s : WSt) (a : Act) : Decidable (NoLowerAct c s a) := by
  cases a <;> dsimp only [NoLowerAct] <;> infer_instance

/-- every `set_limit` met along the run leaves the limit where it is or raises it -/
def NoLower (c : WCfg) : WSt → List Act → Prop
  | _, [] => True
  | s, a :: as => NoLowerAct c s a ∧ NoLower c (step c s a).1 as

instance instDecNoLower (c : WCfg) : ∀ (as : List Act) (s : WSt), Decidable (NoLower c s as)
  | [], _ => isTrue trivial
  | a :: as, s =>
    match (inferInstance : Decidable (NoLowerAct c s a)), instDecNoLower c as (step c s a).1 with
    | isTrue h1, isTrue h2 => isTrue ⟨h1, h2⟩
    | isFalse h1, _ => isFalse fun h => h1 h.1
    | _, isFalse h2 => isFalse fun h => h2 h.2

theorem step_le (c : WCfg) (s : WSt) (a : Act) (hn : NoLowerAct c s a) (h : s.used ≤ s.limit) :
    (step c s a).1.used ≤ (step c s a).1.limit := by
  refine step_ind (I := fun b => b.used ≤ b.limit) (fun b hb => ?_) fun b r p e => ?_
  · rw [pollIfReady_used, pollIfReady_limit]
    exact hb
  · cases e with
    | start i it hb hf => exact hf
    | fin => exact Nat.le_trans (Nat.sub_le _ _) h
    | raise | limit => exact Nat.le_trans h hn
    | _ => exact h

end HappyModel.C08.PipeW
