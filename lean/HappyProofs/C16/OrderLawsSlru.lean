import HappyProofs.C16.OrderLaws
/-!
The order law of segmented LRU: the probationary segment is exactly the list of held keys that were
never re-accessed, in insertion order; the protected segment holds the re-accessed keys sorted by
their last touch.
-/
namespace HappyModel.C16

def once (r : HRec) : Bool := r.cnt == 1

def SlruRel (p : Pol) (held : List HRec) : Prop :=
  (∀ r ∈ held, 1 ≤ r.cnt) ∧ ∃ s, p = .slru s ∧
    s.prob = (held.filter once).map (·.key) ∧ LruSeg (fun r => !once r) s.prot held

theorem once_touch {t : Nat} {k : Key} {r : HRec} (h : 1 ≤ r.cnt) :
    once (touch t k r) = (once r && (r.key != k)) := by
  unfold touch once
  by_cases e : r.key = k
  · simp [e]; omega
  · simp [e]

theorem prob_nodup {s : SpecSt} (hi : SpecInv s) : ((s.held.filter once).map (·.key)).Nodup :=
  hi.nodup.sublist (List.filter_sublist.map _)

/-- the never-re-accessed keys after dropping / touching key `k` -/
theorem prob_erase {s : SpecSt} (hi : SpecInv s) (k : Key) :
    ((s.held.filter once).map (·.key)).erase k =
      (s.held.filter (fun r => once r && (r.key != k))).map (·.key) := by
  rw [(prob_nodup hi).erase_eq_filter, ← keys_filter, List.filter_filter]
  congr 1
  apply List.filter_congr
  intro r _
  exact Bool.and_comm _ _

theorem slru_mem_cases {s : SpecSt} {prot : List Key} (h : LruSeg (fun r => !once r) prot s.held)
    {r : HRec} (hr : r ∈ s.held) : r.key ∈ (s.held.filter once).map (·.key) ∨ r.key ∈ prot := by
  cases h1 : once r
  · exact Or.inr ((h.mem r.key).mpr ⟨r, hr, rfl, by simp [h1]⟩)
  · exact Or.inl (List.mem_map_of_mem (List.mem_filter.mpr ⟨hr, h1⟩))

theorem slruRel_drop (s : SpecSt) (prob prot : List Key) (k : Key) (hi : SpecInv s)
    (h : SlruRel (.slru ⟨prob, prot⟩) s.held) :
    SlruRel (.slru ⟨prob.erase k, prot.erase k⟩) (s.held.filter (fun r => r.key != k)) := by
  obtain ⟨hc, s0, he, hpb, hp⟩ := h
  cases he
  simp only at hpb hp
  refine ⟨fun r hr => hc r (List.mem_filter.mp hr).1, _, rfl, ?_, hp.drop k⟩
  show prob.erase k = ((s.held.filter (fun r => r.key != k)).filter once).map (·.key)
  rw [hpb, prob_erase hi k, List.filter_filter]

theorem slruRel_touch (s : SpecSt) (prob prot : List Key) (k : Key) (hi : SpecInv s)
    (h : SlruRel (.slru ⟨prob, prot⟩) s.held) (hk : k ∈ s.keys) :
    SlruRel (.slru ⟨prob.erase k, prot.erase k ++ [k]⟩) (s.held.map (touch s.tick k)) := by
  obtain ⟨hc, s0, he, hpb, hp⟩ := h
  cases he
  simp only at hpb hp
  refine ⟨?_, _, rfl, ?_, hp.touch hk hi.last_lt fun r hr => by simp [once_touch (hc r hr), bne]⟩
  · simp only [List.forall_mem_map]
    exact fun r hr => Nat.le_trans (hc r hr) (by unfold touch; split <;> simp)
  · show prob.erase k = ((s.held.map (touch s.tick k)).filter once).map (·.key)
    rw [hpb, prob_erase hi k, List.filter_map, List.map_map,
      List.filter_congr (p := once ∘ touch s.tick k) fun r hr => once_touch (hc r hr)]
    simp [Function.comp_def]

theorem slruRel_evict (p : Pol) (s : SpecSt) (now : Nat) (pick : List Key) (k : Key)
    (hi : SpecInv s) (h : SlruRel p s.held) (he : (p.evict now pick).1 = some k) :
    ∃ v, s.rec? k = some v ∧ orderOk .slru s now pick v = true := by
  obtain ⟨hc, ⟨prob, prot⟩, rfl, hpb, hp⟩ := h
  simp only at hpb hp
  simp only [Pol.evict, SLRU.evict] at he
  cases hpr : prob with
  | cons a rest =>
    simp only [hpr, Option.some.injEq] at he; subst he
    -- the head of probation is the first never-re-accessed record
    cases hf : s.held.filter once with
    | nil => rw [hpr, hf] at hpb; cases hpb
    | cons v vs =>
      rw [hpr, hf] at hpb
      obtain ⟨rfl, _⟩ := List.cons.inj hpb
      have hs : (v :: vs).Pairwise (fun a b => a.ins < b.ins) := hf ▸ hi.sorted.sublist List.filter_sublist
      obtain ⟨hv, hv1⟩ := List.mem_filter.mp (hf ▸ List.mem_cons_self : v ∈ s.held.filter once)
      have hv1' : v.cnt = 1 := by simpa [once] using hv1
      refine ⟨v, rec?_of_mem hi.nodup hv, ?_⟩
      have hany : (s.held.any fun r => r.cnt == 1) = true :=
        List.any_eq_true.mpr ⟨v, hv, by simp [hv1']⟩
      simp only [orderOk, hany, if_true, Bool.and_eq_true, beq_iff_eq, List.all_eq_true,
        Bool.or_eq_true, bne_iff_ne, ne_eq, decide_eq_true_eq]
      refine ⟨hv1', fun r hr => ?_⟩
      by_cases hr1 : r.cnt = 1
      · right
        have hrm : r ∈ s.held.filter once := List.mem_filter.mpr ⟨hr, by simp [once, hr1]⟩
        rw [hf] at hrm
        rcases List.mem_cons.mp hrm with rfl | hrm
        · exact Nat.le_refl _
        · exact Nat.le_of_lt ((List.pairwise_cons.mp hs).1 r hrm)
      · exact Or.inl hr1
  | nil =>
    have hall : ∀ r ∈ s.held, ¬ once r = true := by
      rw [hpr] at hpb
      exact List.filter_eq_nil_iff.mp (List.map_eq_nil_iff.mp hpb.symm)
    cases hpt : prot with
    | nil => simp [hpr, hpt] at he
    | cons a rest =>
      simp only [hpr, hpt, Option.some.injEq] at he; subst he
      obtain ⟨v, hv, rfl, _, hle⟩ := (hpt ▸ hp).head hi.nodup
      refine ⟨v, rec?_of_mem hi.nodup hv, ?_⟩
      have hany : (s.held.any fun r => r.cnt == 1) = false := List.any_eq_false.mpr hall
      simp only [orderOk, hany, Bool.false_eq_true, if_false, List.all_eq_true, decide_eq_true_eq]
      exact fun r hr => hle r hr (by simpa using hall r hr)

/-- segmented LRU evicts the oldest never-re-accessed key if one is held, else the least recently
    touched key -/
theorem slru_evicts_probation_first : OrderLaw (.slru {}) := by
  refine orderLaw_of_held _ rfl rfl SlruRel ⟨nofun, {}, rfl, rfl, LruSeg.nil _⟩ ?_ ?_ ?_ slruRel_evict
  · rintro _ s k hi ⟨hc, ⟨prob, prot⟩, rfl, hpb, hp⟩
    have h0 : SlruRel (.slru ⟨prob, prot⟩) s.held := ⟨hc, _, rfl, hpb, hp⟩
    simp only at hpb hp
    simp only [Pol.access, SLRU.access]
    by_cases hk1 : k ∈ prob
    · rw [if_pos hk1]
      exact slruRel_touch s prob prot k hi h0 ((List.filter_sublist.map _).subset (hpb ▸ hk1))
    · rw [if_neg hk1]
      by_cases hk2 : k ∈ prot
      · rw [if_pos hk2]
        obtain ⟨r, hr, e, _⟩ := (hp.mem k).mp hk2
        have := slruRel_touch s prob prot k hi h0 (e ▸ mem_keys_of_mem hr)
        rwa [List.erase_of_not_mem hk1] at this
      · rw [if_neg hk2]
        have hk : k ∉ s.held.map (·.key) := by
          intro hmem
          obtain ⟨r, hr, rfl⟩ := List.mem_map.mp hmem
          exact (slru_mem_cases hp hr).elim (fun h' => hk1 (hpb ▸ h')) hk2
        rw [map_touch_not_mem hk]
        exact h0
  · rintro _ s k now hi hk ⟨hc, ⟨prob, prot⟩, rfl, hpb, hp⟩
    simp only at hpb hp
    simp only [Pol.insert, SLRU.insert]
    rw [if_neg fun h => hk ((List.filter_sublist.map _).subset (hpb ▸ h))]
    refine ⟨?_, _, rfl, ?_, hp.snoc (r := ⟨k, s.tick, s.tick, 1, now⟩) hk hi.last_lt⟩
    · intro r hr
      rcases List.mem_append.mp hr with hr | hr
      · exact hc r hr
      · cases List.mem_singleton.mp hr; exact Nat.le_refl _
    · show prob ++ [k] = _
      rw [List.filter_append, List.map_append, hpb]; rfl
  · rintro _ s k hi ⟨hc, ⟨prob, prot⟩, rfl, hpb, hp⟩
    exact slruRel_drop s prob prot k hi ⟨hc, _, rfl, hpb, hp⟩

end HappyModel.C16
