import HappyProofs.C12.PxMoves
/-!
# C12 — single-decree Paxos, bounded progress: a single proposer whose quorum traffic is delivered decides

Message-soup model `Px` (repaired code).  One ballot `b` of proposer `p = b % n` exists; the schedule after
`propose` consists of deliveries of ballot-`b` traffic and of `Decided` messages, to any nodes, in any order, with
repetitions (a delivery from an empty slot is a no-op).  Loss = a message that is never delivered.
-/
namespace HappyModel.C12.Px

def DelivB (b : Nat) : Act → Prop
  | .recvPrepare b' _ => b' = b
  | .recvPromise b' _ => b' = b
  | .recvAccept b' _ => b' = b
  | .recvAccepted b' _ => b' = b
  | .recvDecided _ _ => True
  | _ => False

/-- `Decided` messages are never addressed to the node that decided -/
def NotTo (p : Nat) : Act → Prop
  | .recvDecided _ d => d ≠ p
  | _ => True

section
variable (n q1 q2 p b : Nat) (v : Val)

/-- cumulative stages of acceptor `d` in phase 1 / phase 2 of ballot `b` -/
def S2 (s : St) (d : Nat) : Prop := d ∈ (s.p1 b).map (·.1)
def S1 (s : St) (d : Nat) : Prop := (s.mProm b d).isSome ∨ S2 b s d
def S0 (s : St) (d : Nat) : Prop := s.mPrep b d = true ∨ S1 b s d
def T2 (s : St) (d : Nat) : Prop := d ∈ s.acks b
def T1 (s : St) (d : Nat) : Prop := s.mAcptd b d = true ∨ T2 b s d
def T0 (s : St) (d : Nat) : Prop := (s.mAcpt b d).isSome ∨ T1 b s d

/-- what holds of the single ballot at every moment, also between counting a promise and starting phase 2 -/
structure Gw (s : St) : Prop where
  cfg : s.cfg = ⟨n, q1, q2⟩
  own : (s.ownVal b).isSome
  live : s.live b = true
  fut : s.futOf b = some 0
  pl : ∀ d, leOpt (s.acc d).promised b
  selfp : (s.acc p).promised = some b
  pdec : (s.decided p).isSome → s.futRes 0 = s.decided p
  pre : (s.started2 b).isNone → s.acks b = [] ∧ ∀ d, s.mAcptd b d = false ∧ s.mAcpt b d = none
  dec : (s.decided p).isSome → ∀ d, d ≠ p → d < n → (s.decided d).isSome ∨ s.mDec p d = s.decided p
  pv : s.proposedVals = [v]

/-- with the two quorum guards: a quorum of promises has started phase 2, a quorum of votes has decided -/
structure G (s : St) : Prop extends Gw n q1 q2 p b v s where
  i1 : q1 ≤ (s.p1 b).length → (s.started2 b).isSome
  i2 : (s.started2 b).isSome → T2 b s p ∧ (∀ d, d ≠ p → d < n → T0 b s d) ∧
        (q2 ≤ (s.acks b).length → (s.decided p).isSome)

structure Mono (s s' : St) : Prop where
  s0 : ∀ d, S0 b s d → S0 b s' d
  s1 : ∀ d, S1 b s d → S1 b s' d
  s2 : ∀ d, S2 b s d → S2 b s' d
  t0 : ∀ d, T0 b s d → T0 b s' d
  t1 : ∀ d, T1 b s d → T1 b s' d
  t2 : ∀ d, T2 b s d → T2 b s' d
  st : (s.started2 b).isSome → (s'.started2 b).isSome

theorem Mono.refl (s : St) : Mono b s s :=
  ⟨fun _ h => h, fun _ h => h, fun _ h => h, fun _ h => h, fun _ h => h, fun _ h => h, fun h => h⟩

theorem Mono.trans {s s' s'' : St} (h1 : Mono b s s') (h2 : Mono b s' s'') : Mono b s s'' :=
  ⟨fun d h => h2.s0 d (h1.s0 d h), fun d h => h2.s1 d (h1.s1 d h), fun d h => h2.s2 d (h1.s2 d h),
   fun d h => h2.t0 d (h1.t0 d h), fun d h => h2.t1 d (h1.t1 d h), fun d h => h2.t2 d (h1.t2 d h),
   fun h => h2.st (h1.st h)⟩

variable {n q1 q2 p b v}

theorem Gw.pl_upd {s : St} (g : Gw n q1 q2 p b v s) (d : Nat) (a : Acceptor) (ha : a.promised = some b) (d' : Nat) :
    leOpt ((upd s.acc d a) d').promised b := by
  rw [upd_apply]; split
  · rw [ha]; exact Nat.le_refl b
  · exact g.pl d'

theorem Gw.selfp_upd {s : St} (g : Gw n q1 q2 p b v s) (d : Nat) (a : Acceptor) (ha : a.promised = some b) :
    ((upd s.acc d a) p).promised = some b := by
  rw [upd_apply]; split
  · exact ha
  · exact g.selfp

theorem not_isNone {α} {o : Option α} {P : Prop} (h : o.isSome) (h' : o.isNone) : P := by
  cases o <;> simp_all

theorem Gw.started {s : St} (g : Gw n q1 q2 p b v s) {d : Nat} (h : s.mAcptd b d = true ∨ (s.mAcpt b d).isSome) :
    (s.started2 b).isSome := by
  cases hs : s.started2 b with
  | some _ => rfl
  | none =>
    obtain ⟨h1, h2⟩ := (g.pre (by rw [hs]; rfl)).2 d
    rw [h1, h2] at h; simp at h

theorem prepare_step (s : St) (d : Nat) (g : G n q1 q2 p b v s) :
    G n q1 q2 p b v (step s (.recvPrepare b d)) ∧ Mono b s (step s (.recvPrepare b d)) ∧
    (d < n → S0 b s d → S1 b (step s (.recvPrepare b d)) d) := by
  by_cases hc : s.mPrep b d = true ∧ d < s.cfg.n
  · rw [step_recvPrepare, if_pos hc, if_pos (g.pl d)]
    have s1m : ∀ d', S1 b s d' → S1 b (promiseSt s b d) d' := by
      intro d' h; by_cases hd : d' = d <;> simp_all [S1, S2, promiseSt, upd2_apply]
    refine ⟨{ g with pl := g.pl_upd d _ rfl, selfp := g.selfp_upd d _ rfl },
      { Mono.refl b s with s0 := ?_, s1 := s1m }, fun _ _ => Or.inl (by simp [promiseSt, upd2_apply])⟩
    intro d' h
    by_cases hd : d' = d
    · exact Or.inr (Or.inl (by simp [hd, promiseSt, upd2_apply]))
    · rcases h with h | h
      · exact Or.inl (by simp only [promiseSt, upd2_other _ _ _ _ _ _ hd]; exact h)
      · exact Or.inr (s1m d' h)
  · rw [step_recvPrepare, if_neg hc]
    refine ⟨g, Mono.refl b s, fun hd h => h.resolve_left fun h => hc ⟨h, by rw [g.cfg]; exact hd⟩⟩

theorem accept_step (s : St) (d : Nat) (g : G n q1 q2 p b v s) :
    G n q1 q2 p b v (step s (.recvAccept b d)) ∧ Mono b s (step s (.recvAccept b d)) ∧
    (d < n → T0 b s d → T1 b (step s (.recvAccept b d)) d) := by
  cases hm : s.mAcpt b d with
  | none =>
    rw [step_recvAccept_none hm]
    refine ⟨g, Mono.refl b s, fun _ h => h.resolve_left fun h => by rw [hm] at h; cases h⟩
  | some w =>
    by_cases hd : d < s.cfg.n
    · rw [step_recvAccept_some hm, if_pos hd, if_pos (g.pl d)]
      have hst := g.started (d := d) (Or.inr (by rw [hm]; rfl))
      have t1m : ∀ d', T1 b s d' → T1 b (voteSt s b d w) d' := by
        intro d' h; by_cases hd : d' = d <;> simp_all [T1, T2, voteSt, upd2_apply]
      have t0m : ∀ d', T0 b s d' → T0 b (voteSt s b d w) d' := by
        intro d' h
        by_cases hdd : d' = d
        · exact Or.inr (Or.inl (by simp [hdd, voteSt, upd2_apply]))
        · rcases h with h | h
          · exact Or.inl (by simp only [voteSt, upd2_other _ _ _ _ _ _ hdd]; exact h)
          · exact Or.inr (t1m d' h)
      refine ⟨{ g with pl := g.pl_upd d _ rfl, selfp := g.selfp_upd d _ rfl, i2 := ?_,
                       pre := not_isNone hst },
        { Mono.refl b s with t0 := t0m, t1 := t1m }, fun _ _ => Or.inl (by simp [voteSt, upd2_apply])⟩
      intro hs
      obtain ⟨a1, a2, a3⟩ := g.i2 hs
      exact ⟨a1, fun d' h1 h2 => t0m d' (a2 d' h1 h2), a3⟩
    · rw [step_recvAccept_some hm, if_neg hd]
      exact ⟨g, Mono.refl b s, fun hdn _ => absurd (by rw [g.cfg]; exact hdn) hd⟩

theorem decided_step (s : St) (f d : Nat) (hd : d ≠ p) (g : G n q1 q2 p b v s) :
    G n q1 q2 p b v (step s (.recvDecided f d)) ∧ Mono b s (step s (.recvDecided f d)) := by
  cases hm : s.mDec f d with
  | none =>
    rw [step_recvDecided_none hm]; exact ⟨g, Mono.refl b s⟩
  | some w =>
    by_cases hdec : (s.decided d).isSome
    · rw [step_recvDecided_some hm, if_pos hdec, clearDec]
      refine ⟨{ g with dec := ?_ }, { Mono.refl b s with }⟩
      intro h d' h1 h2
      by_cases hdd : d' = d
      · exact Or.inl (hdd ▸ hdec)
      · simp only [upd2_other _ _ _ _ _ _ hdd]; exact g.dec h d' h1 h2
    · rw [step_recvDecided_some hm, if_neg hdec, clearDec, learnSt]
      have hp : upd s.decided d (some w) p = s.decided p := upd_other _ _ _ _ (fun e => hd e.symm)
      refine ⟨{ g with pdec := ?_, dec := ?_, i2 := ?_ }, { Mono.refl b s with }⟩
      · simp only [hp]; exact g.pdec
      · simp only [hp]
        intro h d' h1 h2
        by_cases hdd : d' = d
        · exact Or.inl (by simp [hdd])
        · simp only [upd2_other _ _ _ _ _ _ hdd, upd_other _ _ _ _ hdd]; exact g.dec h d' h1 h2
      · simp only [hp]; exact g.i2

theorem decide_G (t : St) (w : Val) (hb : b % n = p) (g : Gw n q1 q2 p b v t)
    (i1 : q1 ≤ (t.p1 b).length → (t.started2 b).isSome)
    (i2 : (t.started2 b).isSome → T2 b t p ∧ (∀ d, d ≠ p → d < n → T0 b t d)) :
    G n q1 q2 p b v (decide_ t b w) ∧ Mono b t (decide_ t b w) := by
  by_cases hdec : (t.decided p).isSome
  · have e : decide_ t b w = t := by simp only [decide_, g.cfg, hb, if_pos hdec]
    rw [e]
    exact ⟨⟨g, i1, fun hs => ⟨(i2 hs).1, (i2 hs).2, fun _ => hdec⟩⟩, Mono.refl b t⟩
  · have e : decide_ t b w =
        { t with decided := upd t.decided p (some w), futRes := upd t.futRes 0 (some w),
                 mDec := fun f d => if f = p ∧ d ≠ p ∧ d < n then some w else t.mDec f d } := by
      simp only [decide_, g.cfg, hb, if_neg hdec, g.fut]
    rw [e]
    refine ⟨⟨{ g with pdec := fun _ => (by simp), dec := fun _ d h1 h2 => Or.inr (by simp [h1, h2]) }, i1,
      fun hs => ⟨(i2 hs).1, (i2 hs).2, fun _ => by simp⟩⟩, { Mono.refl b t with }⟩

theorem accepted_step (s : St) (f : Nat) (hb : b % n = p) (g : G n q1 q2 p b v s) :
    G n q1 q2 p b v (step s (.recvAccepted b f)) ∧ Mono b s (step s (.recvAccepted b f)) ∧
    (T1 b s f → T2 b (step s (.recvAccepted b f)) f) := by
  by_cases hm : s.mAcptd b f = true
  · have hacks : (ackSt s b f).acks b = f :: s.acks b := upd_same _ _ _
    have t2f : T2 b (ackSt s b f) f := by simp [T2, hacks]
    have t2m : ∀ d', T2 b s d' → T2 b (ackSt s b f) d' := by
      intro d' h; simp only [T2, hacks]; exact List.mem_cons_of_mem _ h
    have t1m : ∀ d', T1 b s d' → T1 b (ackSt s b f) d' := by
      intro d' h
      by_cases hd : d' = f
      · exact Or.inr (hd ▸ t2f)
      · exact h.imp (fun h => by simp only [ackSt, upd2_other _ _ _ _ _ _ hd]; exact h) (t2m d')
    have mono1 : Mono b s (ackSt s b f) :=
      { Mono.refl b s with t0 := fun d' h => h.imp_right (t1m d'), t1 := t1m, t2 := t2m }
    have hs := g.started (d := f) (Or.inl hm)
    obtain ⟨a1, a2, a3⟩ := g.i2 hs
    have i2' : ((ackSt s b f).started2 b).isSome → T2 b (ackSt s b f) p ∧ ∀ d, d ≠ p → d < n → T0 b (ackSt s b f) d :=
      fun _ => ⟨t2m p a1, fun d h1 h2 => mono1.t0 d (a2 d h1 h2)⟩
    have gw : Gw n q1 q2 p b v (ackSt s b f) :=
      { g with pre := not_isNone hs }
    obtain ⟨w, hw⟩ := Option.isSome_iff_exists.mp hs
    by_cases hq : s.cfg.q2 ≤ (f :: s.acks b).length
    · rw [step_recvAccepted, if_pos hm, if_pos g.live, hw]; simp only [hacks, if_pos hq]
      obtain ⟨g', m'⟩ := decide_G (ackSt s b f) w hb gw g.i1 i2'
      exact ⟨g', Mono.trans b mono1 m', fun _ => m'.t2 f t2f⟩
    · rw [step_recvAccepted, if_pos hm, if_pos g.live, hw]; simp only [hacks, if_neg hq]
      refine ⟨⟨gw, g.i1, fun h => ⟨(i2' h).1, (i2' h).2, fun hq' => absurd ?_ hq⟩⟩, mono1, fun _ => t2f⟩
      rw [g.cfg, ← hacks]; exact hq'
  · rw [step_recvAccepted, if_neg hm]
    exact ⟨g, Mono.refl b s, fun h => h.resolve_left hm⟩

theorem start_G (t : St) (hb : b % n = p) (g : Gw n q1 q2 p b v t) (hnone : t.started2 b = none) :
    G n q1 q2 p b v (startPhase2 t b) ∧ Mono b t (startPhase2 t b) ∧ ((startPhase2 t b).started2 b).isSome := by
  obtain ⟨hacks, hpre⟩ := g.pre (by rw [hnone]; rfl)
  have hst : ((phase2St t b).started2 b).isSome := by simp [phase2St]
  have t0 : ∀ d, ¬ T0 b t d := by
    intro d h; simp [T0, T1, T2, hpre d, hacks] at h
  have mono : Mono b t (phase2St t b) :=
    { Mono.refl b t with t0 := fun d h => absurd h (t0 d), t1 := fun d h => absurd (Or.inr h) (t0 d),
                         t2 := fun d h => absurd (Or.inr (Or.inr h)) (t0 d), st := fun _ => hst }
  -- the proposer has promised its own ballot (`g.selfp`), so it votes for its own proposal
  have hacks' : (phase2St t b).acks b = [p] := by simp [phase2St, g.cfg, hb, g.selfp]
  have hacc : (phase2St t b).acc = upd t.acc p { (t.acc p) with accepted := some (b, phase2Val t b) } := by
    simp [phase2St, g.cfg, hb, g.selfp]
  have gw : Gw n q1 q2 p b v (phase2St t b) :=
    { g with pl := by rw [hacc]; exact g.pl_upd p _ g.selfp, selfp := by rw [hacc]; exact g.selfp_upd p _ g.selfp,
             pre := not_isNone hst }
  have i2 : ((phase2St t b).started2 b).isSome → T2 b (phase2St t b) p ∧ ∀ d, d ≠ p → d < n → T0 b (phase2St t b) d :=
    fun _ => ⟨by simp [T2, hacks'], fun d h1 h2 => Or.inl (by simp [phase2St, g.cfg, hb, h1, h2])⟩
  simp only [startPhase2_eq, hacks', g.cfg, List.length_singleton]
  by_cases hq : q2 ≤ 1
  · rw [if_pos hq]
    obtain ⟨g', m'⟩ := decide_G (phase2St t b) (phase2Val t b) hb gw (fun _ => hst) i2
    exact ⟨g', Mono.trans b mono m', m'.st hst⟩
  · rw [if_neg hq]
    exact ⟨⟨gw, fun _ => hst, fun h => ⟨(i2 h).1, (i2 h).2, fun h => by rw [hacks'] at h; exact absurd h hq⟩⟩, mono, hst⟩

theorem promise_step (s : St) (f : Nat) (hb : b % n = p) (g : G n q1 q2 p b v s) :
    G n q1 q2 p b v (step s (.recvPromise b f)) ∧ Mono b s (step s (.recvPromise b f)) ∧
    (S1 b s f → S2 b (step s (.recvPromise b f)) f) := by
  cases hm : s.mProm b f with
  | none =>
    rw [step_recvPromise_none hm]
    exact ⟨g, Mono.refl b s, fun h => h.resolve_left fun h => by rw [hm] at h; cases h⟩
  | some a =>
    have hp1 : (countSt s b f a).p1 b = (f, a) :: s.p1 b := upd_same _ _ _
    have s2f : S2 b (countSt s b f a) f := by simp [S2, hp1]
    have s2m : ∀ d, S2 b s d → S2 b (countSt s b f a) d := by
      intro d h; simp only [S2, hp1, List.map_cons]; exact List.mem_cons_of_mem _ h
    have s1m : ∀ d, S1 b s d → S1 b (countSt s b f a) d := by
      intro d h
      by_cases hd : d = f
      · exact Or.inr (hd ▸ s2f)
      · exact h.imp (fun h => by simp only [countSt, upd2_other _ _ _ _ _ _ hd]; exact h) (s2m d)
    have mono1 : Mono b s (countSt s b f a) :=
      { Mono.refl b s with s0 := fun d h => h.imp_right (s1m d), s1 := s1m, s2 := s2m }
    by_cases hc : s.cfg.q1 ≤ ((f, a) :: s.p1 b).length ∧ (s.started2 b).isNone
    · rw [step_recvPromise_some hm, if_pos ⟨g.own, g.live⟩, hp1, if_pos hc]
      obtain ⟨g2, m2, _⟩ := start_G (countSt s b f a) hb { g with } (Option.isNone_iff_eq_none.mp hc.2)
      exact ⟨g2, Mono.trans b mono1 m2, fun _ => m2.s2 f s2f⟩
    · rw [step_recvPromise_some hm, if_pos ⟨g.own, g.live⟩, hp1, if_neg hc]
      refine ⟨{ g with i1 := fun hq => ?_ }, mono1, fun _ => s2f⟩
      rw [hp1] at hq
      by_cases hs : (s.started2 b).isNone
      · exact absurd ⟨by rw [g.cfg]; exact hq, hs⟩ hc
      · show (s.started2 b).isSome; simpa [Option.isSome_iff_ne_none] using hs

end

def Before (x y : Act) (as : List Act) : Prop := ∃ l1 l2, as = l1 ++ l2 ∧ x ∈ l1 ∧ y ∈ l2

/-- Single proposer decides, bounded-progress form (proved in `PxLiveFull.lean`).  `2 ≤ q1`: the code enters phase 2 when a
    delivered Promise completes the quorum, never on the proposer's own promise alone (`PaxosNode` has `q ≥ 2` as soon as there are two nodes).
    From the initial state, `p` proposes `v` under ballot `b`; nobody else proposes; `as1` delivers the Prepare to the
    acceptors of `Q1` and their Promises back, `as2` the Accepts to those of `Q2` and their Accepted back — in any
    order, with repetitions, among any other deliveries of existing traffic.  Then `p` decides `v`, its future
    resolves with `v`, no node decides anything else, and every other node has decided `v` or has the `Decided(v)`
    message of `p` waiting for it.  (The proof does not use `n < q1 + q2`: that nobody decides anything else follows
    from validity, `v` being the only value ever proposed.) -/
def single_proposer_decides_full : Prop :=
  ∀ (n q1 q2 p b : Nat) (v : Val) (as1 as2 : List Act) (Q1 Q2 : List Nat),
    p < n → b % n = p → n < q1 + q2 → 2 ≤ q1 → 1 ≤ q2 →
    Q1.Nodup → p ∉ Q1 → (∀ d ∈ Q1, d < n) → q1 ≤ Q1.length + 1 →
    Q2.Nodup → p ∉ Q2 → (∀ d ∈ Q2, d < n) → q2 ≤ Q2.length + 1 →
    (∀ a ∈ as1 ++ as2, DelivB b a ∧ NotTo p a) →
    (∀ d ∈ Q1, Before (.recvPrepare b d) (.recvPromise b d) as1) →
    (∀ d ∈ Q2, Before (.recvAccept b d) (.recvAccepted b d) as2) →
    (runActs (init n q1 q2) (.propose p b v :: (as1 ++ as2))).decided p = some v ∧
    (runActs (init n q1 q2) (.propose p b v :: (as1 ++ as2))).futRes 0 = some v ∧
    (∀ d w, (runActs (init n q1 q2) (.propose p b v :: (as1 ++ as2))).decided d = some w → w = v) ∧
    (∀ d, d ≠ p → d < n →
      (runActs (init n q1 q2) (.propose p b v :: (as1 ++ as2))).decided d = some v ∨
      (runActs (init n q1 q2) (.propose p b v :: (as1 ++ as2))).mDec p d = some v)

/-- the two `Before` hypotheses of the full statement on the concrete run of `PxLiveEx.lean` (n = 3, p = 0, b = 3, Q1 = Q2 = [1]) -/
example : Before (.recvPrepare 3 1) (.recvPromise 3 1) [.recvPrepare 3 1, .recvPromise 3 1] ∧
    Before (.recvAccept 3 1) (.recvAccepted 3 1) [.recvAccept 3 1, .recvAccepted 3 1, .recvDecided 0 1, .recvDecided 0 2] :=
  ⟨⟨[.recvPrepare 3 1], [.recvPromise 3 1], rfl, by simp, by simp⟩,
   ⟨[.recvAccept 3 1], [.recvAccepted 3 1, .recvDecided 0 1, .recvDecided 0 2], rfl, by simp, by simp⟩⟩

end HappyModel.C12.Px
