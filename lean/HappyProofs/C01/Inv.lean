import HappyProofs.C01.Lemmas

/-! Two fields of `Inv` are guarded.  A handler may stamp an event before the clock; such an event sits in the heap, with a key below
those of logged events, until it is popped and discarded as stale.  So "logged events come before pending ones"
(`log_lt_heap`) is claimed only of pending events not before the clock, and "pending events are not in the past"
(`notStale`) only of events that were not born stale. -/

namespace HappyModel.C01

structure Inv {σ} (s : St σ) : Prop where
  fresh_heap : ∀ e ∈ s.heap, e.id < s.nextId
  fresh_log  : ∀ e ∈ s.log, e.id < s.nextId
  nodup      : (s.heap.map (·.id)).Nodup
  sorted     : LogSorted s.log
  log_le_now : ∀ d ∈ s.log, d.time ≤ s.now
  log_lt_heap : ∀ d ∈ s.log, ∀ e ∈ s.heap, s.now ≤ e.time → keyLt d e = true
  log_ne_heap : ∀ d ∈ s.log, ∀ e ∈ s.heap, d.id ≠ e.id
  prim       : s.primary = countPrimary s.heap
  notStale   : ∀ e ∈ s.heap, e.born ≤ e.time → s.now ≤ e.time
  popped_ne_heap : ∀ p ∈ s.popped, ∀ e ∈ s.heap, p.1.id ≠ e.id
  fresh_popped : ∀ p ∈ s.popped, p.1.id < s.nextId
  popped_nodup : (s.popped.map (·.1.id)).Nodup
  log_popped : ∀ e, e ∈ s.log ↔ (e, Verdict.delivered) ∈ s.popped

variable {σ : Type}

theorem Inv.log_ids_nodup {s : St σ} (inv : Inv s) : (s.log.map (·.id)).Nodup := by
  refine List.pairwise_map.mpr ((logSorted_pairwise _ inv.sorted).imp_of_mem ?_)
  intro a b ha hb hlt heq
  have := inj_of_nodup_map (fun p : Ev × Verdict => p.1.id) inv.popped_nodup
    ((inv.log_popped a).mp ha) ((inv.log_popped b).mp hb) heq
  rw [(Prod.mk.inj this).1, keyLt_irrefl] at hlt
  exact Bool.noConfusion hlt

theorem Inv.prim_erase {s : St σ} (inv : Inv s) {m : Ev} (hm : m ∈ s.heap) :
    (if m.daemon then s.primary else s.primary - 1) = countPrimary (s.heap.erase m) := by
  have := countPrimary_erase hm
  have := inv.prim
  split <;> simp_all <;> omega

theorem Inv.popped_nodup_concat {s : St σ} (inv : Inv s) {m : Ev} (hm : m ∈ s.heap) (v : Verdict) :
    ((s.popped ++ [(m, v)]).map (·.1.id)).Nodup := by
  rw [List.map_append, List.nodup_append]
  refine ⟨inv.popped_nodup, List.pairwise_singleton _ _, fun a ha b hb => ?_⟩
  obtain ⟨p, hp, rfl⟩ := List.mem_map.mp ha
  rw [List.mem_singleton.mp hb]
  exact inv.popped_ne_heap p hp m hm

/-- the three pops that run no handler: the clock stays, or (gate) moves to the timestamp of the minimal event `m` -/
theorem inv_skip (s : St σ) (m : Ev) (v : Verdict) (hv : v ≠ .delivered) (now' : Nat)
    (hnow : s.now ≤ now') (hnowm : now' = s.now ∨ (now' = m.time ∧ ∀ e ∈ s.heap, keyLt e m = false))
    (hm : m ∈ s.heap) (a b c : Nat) (inv : Inv s) : Inv (s.skip m v now' a b c) := by
  have hsub : ∀ e ∈ s.heap.erase m, e ∈ s.heap := fun e => List.mem_of_mem_erase
  have hne : ∀ e ∈ s.heap.erase m, m.id ≠ e.id := fun e he => (ne_id_of_mem_erase inv.nodup hm he).symm
  exact
    { fresh_heap := fun e he => inv.fresh_heap e (hsub e he)
      fresh_log := inv.fresh_log
      nodup := erase_ids_nodup m inv.nodup
      sorted := inv.sorted
      log_le_now := fun d hd => Nat.le_trans (inv.log_le_now d hd) hnow
      log_lt_heap := fun d hd e he hge => inv.log_lt_heap d hd e (hsub e he) (Nat.le_trans hnow hge)
      log_ne_heap := fun d hd e he => inv.log_ne_heap d hd e (hsub e he)
      prim := inv.prim_erase hm
      notStale := fun e he hb => by
        have h0 := inv.notStale e (hsub e he) hb
        rcases hnowm with h | ⟨h, hmin⟩
        · exact h ▸ h0
        · exact h ▸ time_ge_of_not_keyLt (hmin e (hsub e he))
      popped_ne_heap := List.forall_mem_append.mpr
        ⟨fun p hp e he => inv.popped_ne_heap p hp e (hsub e he), List.forall_mem_singleton.mpr hne⟩
      fresh_popped := List.forall_mem_append.mpr
        ⟨inv.fresh_popped, List.forall_mem_singleton.mpr (inv.fresh_heap m hm)⟩
      popped_nodup := inv.popped_nodup_concat hm v
      log_popped := fun e => by
        rw [inv.log_popped e, List.mem_append, List.mem_singleton, Prod.mk.injEq]
        exact ⟨Or.inl, fun h => h.resolve_right fun h => hv h.2.symm⟩ }

theorem inv_move (s : St σ) (m : Ev) (hm : m ∈ s.heap) (hmin : ∀ y ∈ s.heap, keyLt y m = false)
    (hnow : s.now ≤ m.time) (a b c : Nat) (inv : Inv s) :
    Inv { s.skip m .delivered m.time a b c with log := s.log ++ [m] } := by
  have hsub : ∀ e ∈ s.heap.erase m, e ∈ s.heap := fun e => List.mem_of_mem_erase
  have hne : ∀ e ∈ s.heap.erase m, m.id ≠ e.id := fun e he => (ne_id_of_mem_erase inv.nodup hm he).symm
  have hold : ∀ e ∈ s.heap.erase m, keyLt m e = true := fun e he =>
    keyLt_of_not (hne e he).symm (hmin e (hsub e he))
  have hlogm : ∀ d ∈ s.log, keyLt d m = true := fun d hd => inv.log_lt_heap d hd m hm hnow
  exact
    { fresh_heap := fun e he => inv.fresh_heap e (hsub e he)
      fresh_log := List.forall_mem_append.mpr ⟨inv.fresh_log, List.forall_mem_singleton.mpr (inv.fresh_heap m hm)⟩
      nodup := erase_ids_nodup m inv.nodup
      sorted := logSorted_append_one _ _ inv.sorted hlogm
      log_le_now := List.forall_mem_append.mpr
        ⟨fun d hd => keyLt_time (hlogm d hd), List.forall_mem_singleton.mpr (Nat.le_refl _)⟩
      log_lt_heap := List.forall_mem_append.mpr
        ⟨fun d hd e he _ => keyLt_trans (hlogm d hd) (hold e he), List.forall_mem_singleton.mpr fun e he _ => hold e he⟩
      log_ne_heap := List.forall_mem_append.mpr
        ⟨fun d hd e he => inv.log_ne_heap d hd e (hsub e he), List.forall_mem_singleton.mpr hne⟩
      prim := inv.prim_erase hm
      notStale := fun e he _ => time_ge_of_not_keyLt (hmin e (hsub e he))
      popped_ne_heap := List.forall_mem_append.mpr
        ⟨fun p hp e he => inv.popped_ne_heap p hp e (hsub e he), List.forall_mem_singleton.mpr hne⟩
      fresh_popped := List.forall_mem_append.mpr
        ⟨inv.fresh_popped, List.forall_mem_singleton.mpr (inv.fresh_heap m hm)⟩
      popped_nodup := inv.popped_nodup_concat hm _
      log_popped := fun e => by
        rw [List.mem_append, List.mem_append, inv.log_popped e, List.mem_singleton, List.mem_singleton,
          Prod.mk.injEq, and_iff_left rfl] }

abbrev St.emit (s : St σ) (specs : List Spec) (cancelled : List Nat) (ent : σ) : St σ :=
  { s with heap := s.heap ++ mkEvents s.nextId s.now specs, nextId := s.nextId + specs.length,
           cancelled := cancelled, ent := ent, primary := s.primary + countPrimary (mkEvents s.nextId s.now specs) }

/-- the new events are younger than everything created so far, so they sort after every pending or
    logged event with a timestamp not after their own -/
theorem inv_emit (s : St σ) (specs : List Spec) (cancelled : List Nat) (ent : σ) (inv : Inv s) :
    Inv (s.emit specs cancelled ent) := by
  have hnew := mkEvents_id s.nextId s.now specs
  have hnewid : ∀ {i : Nat}, i < s.nextId → ∀ e ∈ mkEvents s.nextId s.now specs, i ≠ e.id :=
    fun hi e he => Nat.ne_of_lt (Nat.lt_of_lt_of_le hi (hnew e he).1)
  exact
    { fresh_heap := List.forall_mem_append.mpr
        ⟨fun e he => Nat.lt_add_right _ (inv.fresh_heap e he), fun e he => (hnew e he).2.1⟩
      fresh_log := fun e he => Nat.lt_add_right _ (inv.fresh_log e he)
      nodup := by
        rw [List.map_append, List.nodup_append]
        refine ⟨inv.nodup, mkEvents_ids_nodup _ _ _, fun a ha b hb => ?_⟩
        obtain ⟨ea, hea, rfl⟩ := List.mem_map.mp ha
        obtain ⟨eb, heb, rfl⟩ := List.mem_map.mp hb
        exact hnewid (inv.fresh_heap ea hea) eb heb
      sorted := inv.sorted
      log_le_now := inv.log_le_now
      log_lt_heap := fun d hd => List.forall_mem_append.mpr
        ⟨inv.log_lt_heap d hd, fun e he (hge : s.now ≤ e.time) => by
          have := inv.fresh_log d hd
          have := (hnew e he).1
          have := inv.log_le_now d hd
          rw [keyLt_iff]; omega⟩
      log_ne_heap := fun d hd => List.forall_mem_append.mpr
        ⟨inv.log_ne_heap d hd, hnewid (inv.fresh_log d hd)⟩
      prim := (congrArg (· + countPrimary _) inv.prim).trans (countPrimary_append _ _).symm
      notStale := List.forall_mem_append.mpr
        ⟨inv.notStale, fun e he hb => Nat.le_trans (Nat.le_of_eq (hnew e he).2.2.symm) hb⟩
      popped_ne_heap := fun p hp => List.forall_mem_append.mpr
        ⟨inv.popped_ne_heap p hp, hnewid (inv.fresh_popped p hp)⟩
      fresh_popped := fun p hp => Nat.lt_add_right _ (inv.fresh_popped p hp)
      popped_nodup := inv.popped_nodup
      log_popped := inv.log_popped }

theorem inv_deliver (s : St σ) (m : Ev) (o : Out σ) (hm : m ∈ s.heap)
    (hmin : ∀ y ∈ s.heap, keyLt y m = false) (hnow : s.now ≤ m.time) (inv : Inv s) :
    Inv (s.deliver m o) :=
  inv_emit _ o.specs (s.cancelled ++ o.cancels) o.ent (inv_move s m hm hmin hnow _ _ _ inv)

theorem stepWith_inv (mc : Machine σ) (s : St σ) (m : Ev) (hm : m ∈ s.heap)
    (hmin : ∀ y ∈ s.heap, keyLt y m = false) (inv : Inv s) : Inv (stepWith mc s m) :=
  stepWith_cases mc s m
    (fun _ => inv_skip s m .cancelled nofun s.now (Nat.le_refl _) (.inl rfl) hm _ _ _ inv)
    (fun _ _ => inv_skip s m .stale nofun s.now (Nat.le_refl _) (.inl rfl) hm _ _ _ inv)
    (fun _ hnow _ => inv_skip s m .gated nofun m.time hnow (.inr ⟨rfl, hmin⟩) hm _ _ _ inv)
    (fun _ hnow _ => inv_deliver s m _ hm hmin hnow inv)

theorem Inv.step {mc : Machine σ} {endT : Option Nat} {s s' : St σ} (inv : Inv s) (h : step mc endT s = some s') :
    Inv s' := by
  obtain ⟨m, hm, hmin, _, rfl⟩ := step_eq_some h
  exact stepWith_inv mc s m hm hmin inv

theorem step_preserves {σ} (mc : Machine σ) (s : St σ) (x : Ev) (xs : List Ev)
    (hheap : s.heap = x :: xs) (inv : Inv s) : Inv (stepWith mc s (minOf x xs)) :=
  stepWith_inv mc s _ (hheap ▸ (pop_is_min x xs).1) (hheap ▸ (pop_is_min x xs).2) inv

/-- a state that holds nothing but a freshly numbered schedule: the initial state, and the state after a
    `reset()` (C04), where the numbering goes on from `base` -/
theorem fresh_inv (base start : Nat) (ent : σ) (pre : List Spec) :
    Inv { heap := mkEvents base start pre, now := start, nextId := base + pre.length, ent := ent,
          primary := countPrimary (mkEvents base start pre) : St σ } := by
  have hnew := mkEvents_id base start pre
  exact
    { fresh_heap := fun e he => (hnew e he).2.1
      fresh_log := List.forall_mem_nil _, nodup := mkEvents_ids_nodup _ _ _, sorted := trivial, log_le_now := List.forall_mem_nil _,
      log_lt_heap := List.forall_mem_nil _, log_ne_heap := List.forall_mem_nil _, prim := rfl,
      notStale := fun e he hb => Nat.le_trans (Nat.le_of_eq (hnew e he).2.2.symm) hb
      popped_ne_heap := List.forall_mem_nil _, fresh_popped := List.forall_mem_nil _, popped_nodup := .nil,
      log_popped := fun e => ⟨fun h => (List.not_mem_nil h).elim, fun h => (List.not_mem_nil h).elim⟩ }

theorem init_inv {σ} (ent : σ) (start : Nat) (pre : List Spec) : Inv (init ent start pre) := by
  have := fresh_inv 0 start ent pre
  rw [Nat.zero_add] at this
  exact this

theorem run_inv {σ} (mc : Machine σ) (endT : Option Nat) (n : Nat) (s : St σ) (inv : Inv s) :
    Inv (run mc endT n s) :=
  run_induction mc endT (fun s m inv hm hmin _ => stepWith_inv mc s m hm hmin inv) n s inv

theorem run_induction_inv {motive : St σ → Prop} (mc : Machine σ) (endT : Option Nat)
    (pop : ∀ s m, Inv s → motive s → m ∈ s.heap → (∀ y ∈ s.heap, keyLt y m = false) →
      continues endT s = true → motive (stepWith mc s m))
    (n : Nat) (s : St σ) (inv : Inv s) (h : motive s) : motive (run mc endT n s) :=
  (run_induction (motive := fun s => Inv s ∧ motive s) mc endT
    (fun s m h hm hmin hc => ⟨stepWith_inv mc s m hm hmin h.1, pop s m h.1 h.2 hm hmin hc⟩) n s ⟨inv, h⟩).2

end HappyModel.C01
