import HappyModel.C17.MLM
import HappyProofs.C17.MLMerge
/-!
The algebra of `pick` (`LeaderNode._pick` when the resolver returns the join of two concurrent versions).  The
vector-clock component of `pick` is the pointwise maximum whichever branch is taken, so on clocks merging is a
semilattice join and installing anything only moves a replica's clock up (`Ge`); no coherence hypothesis is
needed.  When the two clocks are equal (`SameClock`: every pair of leaders once all `Replicate`s are done,
`replQuiescent_clocks_agree`) `pick` is the pure join of the values under the same clock: from then on
anti-entropy only joins values.
-/
namespace HappyModel.C17.MLM
open HappyModel.C17.ML (Version vcGet dominates vcMerge vcGet_merge dominates_iff dominates_le dominates_strict
  dominates_eq_false_of_le)

theorem joinVal_comm (j : Join) (a b : Nat) : joinVal j a b = joinVal j b a := by
  cases j
  · exact Nat.or_comm a b
  · exact Nat.max_comm a b

theorem joinVal_assoc (j : Join) (a b c : Nat) : joinVal j (joinVal j a b) c = joinVal j a (joinVal j b c) := by
  cases j
  · exact Nat.or_assoc a b c
  · exact Nat.max_assoc a b c

theorem joinVal_idem (j : Join) (a : Nat) : joinVal j a a = a := by
  cases j
  · exact Nat.or_self a
  · exact Nat.max_self a

theorem joinVal_zero (j : Join) (a : Nat) : joinVal j 0 a = a := by
  cases j
  · exact Nat.zero_or a
  · exact Nat.zero_max a

def SameClock (n : Nat) (a b : Version) : Prop := ∀ c, c < n → vcGet a.vc c = vcGet b.vc c

theorem not_dominates_of_same {n : Nat} {a b : Version} (h : SameClock n a b) : dominates n a.vc b.vc = false :=
  dominates_eq_false_of_le fun c hc => Nat.le_of_eq (h c hc)

/-- in every branch of `_pick` -/
theorem pick_clock (n : Nat) (j : Join) (e inc : Version) (c : Nat) (hc : c < n) :
    vcGet (pick n j (some e) inc).vc c = max (vcGet e.vc c) (vcGet inc.vc c) := by
  show vcGet (if dominates n inc.vc e.vc then inc else if dominates n e.vc inc.vc then e else joinVer n j e inc).vc c = _
  split
  · exact (Nat.max_eq_right (dominates_le ‹_› c hc)).symm
  · split
    · exact (Nat.max_eq_left (dominates_le ‹_› c hc)).symm
    · exact vcGet_merge n _ _ c hc

/-- the local version never "wins": the handler pays the write latency and installs the join under the same clock -/
theorem pick_same_clock (n : Nat) (j : Join) (e inc : Version) (h : SameClock n e inc) :
    takes n (some e) inc = true ∧ (pick n j (some e) inc).val = joinVal j e.val inc.val ∧
    SameClock n (pick n j (some e) inc) e := by
  have h1 : dominates n inc.vc e.vc = false := not_dominates_of_same (fun c hc => (h c hc).symm)
  have h2 : dominates n e.vc inc.vc = false := not_dominates_of_same h
  refine ⟨by simp only [takes, h1, h2, Bool.not_false, Bool.or_true],
    by simp only [pick, h1, h2, Bool.false_eq_true, if_false, joinVer], ?_⟩
  intro c hc
  rw [pick_clock n j e inc c hc, h c hc, Nat.max_self]

def mergeOpt (n : Nat) (j : Join) (cur : Option Version) (inc : Version) : Option Version :=
  if takes n cur inc then some (pick n j cur inc) else cur

def mergeAll (n : Nat) (j : Join) (cur : Option Version) (l : List Version) : Option Version :=
  l.foldl (mergeOpt n j) cur

def clkOf (o : Option Version) (c : Nat) : Nat :=
  match o with
  | none => 0
  | some u => vcGet u.vc c

theorem dominates_of_not_takes {n : Nat} {e inc : Version} (ht : takes n (some e) inc = false) :
    dominates n e.vc inc.vc = true := by
  simp only [takes, Bool.or_eq_false_iff, Bool.not_eq_false'] at ht
  exact ht.2

theorem mergeOpt_clock (n : Nat) (j : Join) (cur : Option Version) (inc : Version) (c : Nat) (hc : c < n) :
    clkOf (mergeOpt n j cur inc) c = max (clkOf cur c) (vcGet inc.vc c) := by
  unfold mergeOpt
  cases cur with
  | none => exact (Nat.zero_max _).symm
  | some e =>
    cases ht : takes n (some e) inc with
    | true => exact pick_clock n j e inc c hc
    | false => exact (Nat.max_eq_left (dominates_le (dominates_of_not_takes ht) c hc)).symm

def Ge (n : Nat) (cur : Option Version) (v : Version) : Prop :=
  ∃ u, cur = some u ∧ ∀ c, c < n → vcGet v.vc c ≤ vcGet u.vc c

theorem ge_iff {n : Nat} {cur : Option Version} {v : Version} :
    Ge n cur v ↔ cur.isSome = true ∧ ∀ c, c < n → vcGet v.vc c ≤ clkOf cur c := by
  cases cur with
  | none => exact ⟨fun ⟨_, h, _⟩ => (by cases h), fun h => (by cases h.1)⟩
  | some u => exact ⟨fun ⟨_, h, hle⟩ => by cases h; exact ⟨rfl, hle⟩, fun h => ⟨u, rfl, h.2⟩⟩

theorem mergeOpt_isSome (n : Nat) (j : Join) (cur : Option Version) (inc : Version) :
    (mergeOpt n j cur inc).isSome = true := by
  unfold mergeOpt
  cases cur with
  | none => rfl
  | some e => split <;> rfl

theorem ge_merge {n : Nat} {jn : Join} {cur : Option Version} {inc v : Version} (hg : Ge n cur v) :
    Ge n (mergeOpt n jn cur inc) v := by
  rw [ge_iff] at hg ⊢
  refine ⟨mergeOpt_isSome n jn cur inc, fun c hc => ?_⟩
  rw [mergeOpt_clock n jn cur inc c hc]
  exact Nat.le_trans (hg.2 c hc) (Nat.le_max_left _ _)

theorem ge_merge_self {n : Nat} {jn : Join} {cur : Option Version} {inc : Version} :
    Ge n (mergeOpt n jn cur inc) inc := by
  rw [ge_iff]
  refine ⟨mergeOpt_isSome n jn cur inc, fun c hc => ?_⟩
  rw [mergeOpt_clock n jn cur inc c hc]
  exact Nat.le_max_right _ _

theorem ge_of_not_takes {n : Nat} {cur : Option Version} {inc : Version} (ht : takes n cur inc = false) :
    Ge n cur inc := by
  cases cur with
  | none => cases ht
  | some u => exact ⟨u, rfl, dominates_le (dominates_of_not_takes ht)⟩

def clkMax : List Version → Nat → Nat
  | [], _ => 0
  | v :: l, c => max (vcGet v.vc c) (clkMax l c)

theorem mergeAll_clock (n : Nat) (j : Join) (l : List Version) (cur : Option Version) (c : Nat) (hc : c < n) :
    clkOf (mergeAll n j cur l) c = max (clkOf cur c) (clkMax l c) := by
  induction l generalizing cur with
  | nil => exact (Nat.max_zero _).symm
  | cons x xs ih =>
    show clkOf (mergeAll n j (mergeOpt n j cur x) xs) c = max (clkOf cur c) (max (vcGet x.vc c) (clkMax xs c))
    rw [ih, mergeOpt_clock n j cur x c hc, Nat.max_assoc]

theorem clkMax_le_of_mem (l : List Version) (c : Nat) (v : Version) (hv : v ∈ l) : vcGet v.vc c ≤ clkMax l c := by
  induction l with
  | nil => cases hv
  | cons x xs ih =>
    rcases List.mem_cons.mp hv with h | h
    · subst h; exact Nat.le_max_left _ _
    · exact Nat.le_trans (ih h) (Nat.le_max_right _ _)

theorem clkMax_le (l : List Version) (c b : Nat) (h : ∀ v, v ∈ l → vcGet v.vc c ≤ b) : clkMax l c ≤ b := by
  induction l with
  | nil => exact Nat.zero_le b
  | cons x xs ih =>
    exact Nat.max_le.mpr ⟨h x (List.mem_cons_self ..), ih (fun v hv => h v (List.mem_cons_of_mem _ hv))⟩

theorem clkMax_set_eq (l1 l2 : List Version) (hset : ∀ v, v ∈ l1 ↔ v ∈ l2) (c : Nat) : clkMax l1 c = clkMax l2 c :=
  Nat.le_antisymm
    (clkMax_le l1 c _ (fun v hv => clkMax_le_of_mem l2 c v ((hset v).mp hv)))
    (clkMax_le l2 c _ (fun v hv => clkMax_le_of_mem l1 c v ((hset v).mpr hv)))

/-- `0` is the unit of both joins -/
def valD (o : Option Version) : Nat :=
  match o with
  | none => 0
  | some u => u.val

def joinVals (j : Join) (a : Nat) (l : List Version) : Nat := l.foldl (fun acc v => joinVal j acc v.val) a

def concWith (n : Nat) (cur : Option Version) (x : Version) : Bool :=
  match cur with
  | none => true
  | some e => !dominates n x.vc e.vc && !dominates n e.vc x.vc

/-- every version of `l` is concurrent with what has been merged before it, e.g. writes taken at different
    leaders before any `Replicate` arrived -/
def AllConcurrent (n : Nat) (j : Join) : Option Version → List Version → Bool
  | _, [] => true
  | cur, x :: xs => concWith n cur x && AllConcurrent n j (mergeOpt n j cur x) xs

theorem mergeOpt_concurrent_val (n : Nat) (j : Join) (cur : Option Version) (x : Version)
    (h : concWith n cur x = true) : valD (mergeOpt n j cur x) = joinVal j (valD cur) x.val := by
  cases cur with
  | none => exact (joinVal_zero j x.val).symm
  | some e =>
    simp only [concWith, Bool.and_eq_true, Bool.not_eq_true'] at h
    simp only [mergeOpt, takes, pick, h.1, h.2, Bool.not_false, Bool.or_true, Bool.false_eq_true, if_true,
      if_false, valD, joinVer]

theorem mergeAll_concurrent_val (n : Nat) (j : Join) (l : List Version) (cur : Option Version)
    (h : AllConcurrent n j cur l = true) : valD (mergeAll n j cur l) = joinVals j (valD cur) l := by
  induction l generalizing cur with
  | nil => rfl
  | cons x xs ih =>
    have h' : (concWith n cur x && AllConcurrent n j (mergeOpt n j cur x) xs) = true := h
    rw [Bool.and_eq_true] at h'
    show valD (mergeAll n j (mergeOpt n j cur x) xs) = joinVals j (joinVal j (valD cur) x.val) xs
    rw [ih _ h'.2, mergeOpt_concurrent_val n j cur x h'.1]

theorem joinVals_perm (j : Join) (l1 l2 : List Version) (hp : l1.Perm l2) (a : Nat) :
    joinVals j a l1 = joinVals j a l2 := by
  induction hp generalizing a with
  | nil => rfl
  | cons x _ ih => exact ih (joinVal j a x.val)
  | swap x y l =>
    show joinVals j (joinVal j (joinVal j a y.val) x.val) l = joinVals j (joinVal j (joinVal j a x.val) y.val) l
    rw [joinVal_assoc, joinVal_comm j y.val x.val, ← joinVal_assoc]
  | trans _ _ ih1 ih2 => rw [ih1, ih2]

def Le (j : Join) (a b : Nat) : Prop := joinVal j a b = b

theorem le_refl (j : Join) (a : Nat) : Le j a a := joinVal_idem j a

theorem le_trans {j : Join} {a b c : Nat} (h1 : Le j a b) (h2 : Le j b c) : Le j a c := by
  unfold Le at *
  rw [← h2, ← joinVal_assoc, h1]

theorem le_antisymm {j : Join} {a b : Nat} (h1 : Le j a b) (h2 : Le j b a) : a = b := by
  unfold Le at *
  rw [← h2, joinVal_comm, h1]

theorem le_join_left (j : Join) (a b : Nat) : Le j a (joinVal j a b) := by
  unfold Le
  rw [← joinVal_assoc, joinVal_idem]

theorem le_join_right (j : Join) (a b : Nat) : Le j b (joinVal j a b) := by
  unfold Le
  rw [joinVal_comm j a b, ← joinVal_assoc, joinVal_idem]

theorem join_le {j : Join} {a b c : Nat} (h1 : Le j a c) (h2 : Le j b c) : Le j (joinVal j a b) c := by
  unfold Le at *
  rw [joinVal_assoc, h2, h1]

theorem zero_le (j : Join) (a : Nat) : Le j 0 a := joinVal_zero j a

theorem le_zero_eq {j : Join} {a : Nat} (h : Le j a 0) : a = 0 := by
  unfold Le at h
  rw [joinVal_comm, joinVal_zero] at h
  exact h

end HappyModel.C17.MLM
