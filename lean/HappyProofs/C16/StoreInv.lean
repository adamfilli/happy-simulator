import HappyProofs.C16.StoreBase
import HappyProofs.C16.PolicyCalls
/-!
`SInv` (the policy tracks exactly the cached keys; at most `capacity` entries) for both variants and every
interleaving of segments.  On the way the `break` of `_cache_put` ("policy returned nothing") is unreachable:
with the key sets equal, `evict` returns `None` only for an empty cache, which is below any capacity ≥ 1.
-/
namespace HappyModel.C16

structure SInv (cfg : Cfg) (s : St) : Prop where
  pinv : s.pol.Inv
  nodup : (akeys s.cache).Nodup
  same : ∀ x, x ∈ s.pol.tracked ↔ x ∈ akeys s.cache
  size : s.cache.length ≤ cfg.cap

/-- the invariant without the size bound (it is broken and restored inside `_cache_put`) -/
structure KInv (s : St) : Prop where
  pinv : s.pol.Inv
  nodup : (akeys s.cache).Nodup
  same : ∀ x, x ∈ s.pol.tracked ↔ x ∈ akeys s.cache

theorem SInv.k {cfg : Cfg} {s : St} (h : SInv cfg s) : KInv s := ⟨h.pinv, h.nodup, h.same⟩

@[simp] theorem writeBack_nEv (s : St) (k : Key) : (s.writeBack k).nEv = s.nEv := by
  unfold St.writeBack; split
  · split <;> rfl
  · rfl

/-- `hf`: each round drops one cached key, so `cache.length + 1` rounds suffice (the model's fuel adds
    `pol.tracked.length`, which is slack) -/
theorem evictLoop_inv (cfg : Cfg) (hcap : 1 ≤ cfg.cap) (fuel : Nat) (s : St) (now : Nat)
    (h : KInv s) (hf : s.cache.length < cfg.cap + fuel) :
    KInv (evictLoop cfg fuel s now) ∧ (evictLoop cfg fuel s now).cache.length < cfg.cap ∧
      ∀ x, x ∈ akeys (evictLoop cfg fuel s now).cache → x ∈ akeys s.cache := by
  induction fuel generalizing s with
  | zero => exact ⟨h, by simpa [evictLoop] using hf, fun x hx => hx⟩
  | succ f ih =>
    unfold evictLoop
    by_cases hlt : s.cache.length < cfg.cap
    · rw [if_pos hlt]; exact ⟨h, hlt, fun x hx => hx⟩
    · rw [if_neg hlt]
      cases hev : (s.pol.evict now (s.pick cfg)).1 with
      | none =>
        -- unreachable: nothing tracked means nothing cached
        have ht := (Pol.evict_none_iff s.pol h.pinv now (s.pick cfg)).mp hev
        cases hk : s.cache with
        | nil => rw [hk] at hlt; exact absurd hcap hlt
        | cons a t =>
          have := (h.same a.1).mpr (by simp [hk, akeys])
          rw [ht] at this; cases this
      | some ek =>
        have law := Pol.evict_some_law s.pol h.pinv now (s.pick cfg) ek hev
        have hek : ek ∈ akeys s.cache := (h.same ek).mp law.1
        have key := ih (evictOne cfg s ek (s.pol.evict now (s.pick cfg)).2) ?_ ?_
        · refine ⟨key.1, key.2.1, fun x hx => ?_⟩
          have := key.2.2 x hx
          exact ((mem_akeys_adel _ _ _).mp this).1
        · refine ⟨law.2.1, nodup_akeys_adel _ _ h.nodup, ?_⟩
          intro x
          show x ∈ (s.pol.evict now (s.pick cfg)).2.tracked ↔ x ∈ akeys (adel s.cache ek)
          rw [law.2.2 x, mem_akeys_adel, h.same x]
        · show (adel s.cache ek).length < cfg.cap + f
          have := adel_length_lt s.cache ek hek
          omega

theorem cachePut_inv (cfg : Cfg) (hcap : 1 ≤ cfg.cap) (s : St) (k v now : Nat) (h : SInv cfg s) :
    SInv cfg (cachePut cfg s k v now) := by
  unfold cachePut
  by_cases hk : k ∈ akeys s.cache
  · simp only [hk, if_true]
    have law := Pol.access_law s.pol h.pinv k
    refine ⟨law.1, ?_, ?_, ?_⟩
    · show (akeys (aset s.cache k v)).Nodup
      rw [akeys_aset_mem _ _ _ hk]; exact h.nodup
    · intro x
      rw [akeys_aset_mem _ _ _ hk, law.2 x, h.same x]
    · show (aset s.cache k v).length ≤ cfg.cap
      rw [aset_length_mem _ _ _ hk]; exact h.size
  · simp only [hk, if_false]
    have hl := evictLoop_inv cfg hcap (s.cache.length + s.pol.tracked.length + 1) s now h.k (by omega)
    generalize evictLoop cfg (s.cache.length + s.pol.tracked.length + 1) s now = s1 at hl
    -- the loop only removes keys, so k is still absent
    have hk1 : k ∉ akeys s1.cache := fun hx => hk (hl.2.2 k hx)
    have hkt : k ∉ s1.pol.tracked := fun hx => hk1 ((hl.1.same k).mp hx)
    have law := Pol.insert_law s1.pol hl.1.pinv k now hkt
    have al := aset_insert_law s1.cache k v hl.1.nodup hk1
    refine ⟨law.1, al.1, ?_, ?_⟩
    · intro x
      rw [law.2 x, al.2 x, hl.1.same x]
    · show (aset s1.cache k v).length ≤ cfg.cap
      rw [aset_length_not_mem _ _ _ hk1]; have := hl.2.1; omega

theorem cacheRemove_inv (cfg : Cfg) (s : St) (k : Key) (h : SInv cfg s) : SInv cfg (cacheRemove s k) := by
  have law := Pol.remove_law s.pol h.pinv k
  refine ⟨law.1, nodup_akeys_adel _ _ h.nodup, ?_, ?_⟩
  · intro x
    show x ∈ (s.pol.remove k).tracked ↔ x ∈ akeys (adel s.cache k)
    rw [law.2 x, mem_akeys_adel, h.same x]
  · show (adel s.cache k).length ≤ cfg.cap
    have : (adel s.cache k).length ≤ s.cache.length := List.length_filter_le _ _
    have := h.size; omega

def Same (s s' : St) : Prop := s'.cache = s.cache ∧ s'.pol = s.pol

theorem Same.refl (s : St) : Same s s := ⟨rfl, rfl⟩
theorem SInv.same' {cfg : Cfg} {s s' : St} (h : SInv cfg s) (hs : Same s s') : SInv cfg s' := by
  obtain ⟨hc, hp⟩ := hs
  exact ⟨hp ▸ h.pinv, hc ▸ h.nodup, by rw [hc, hp]; exact h.same, hc ▸ h.size⟩

theorem same_setPend (s : St) (i : Nat) (p : Pend) : Same s (s.setPend i p) := ⟨rfl, rfl⟩
theorem same_clearPend (s : St) (i : Nat) : Same s (s.clearPend i) := ⟨rfl, rfl⟩
theorem same_bump (cfg : Cfg) (s : St) (k : Key) : Same s (s.bump cfg k) := by
  unfold St.bump; split <;> exact ⟨rfl, rfl⟩
theorem same_inflInc (cfg : Cfg) (s : St) (k : Key) : Same s (s.inflInc cfg k) := by
  unfold St.inflInc; split <;> exact ⟨rfl, rfl⟩
theorem same_inflDec (cfg : Cfg) (s : St) (k : Key) : Same s (s.inflDec cfg k) := by
  unfold St.inflDec; split <;> exact ⟨rfl, rfl⟩
theorem same_writeBack (s : St) (k : Key) : Same s (s.writeBack k) := ⟨writeBack_cache s k, writeBack_pol s k⟩
theorem same_writeBackAll (s : St) (l : List Key) : Same s (s.writeBackAll l) :=
  ⟨writeBackAll_cache s l, writeBackAll_pol s l⟩
theorem same_repWriteBack (cfg : Cfg) (s : St) (k : Key) : Same s (if cfg.rep then s.writeBack k else s) := by
  split
  · exact same_writeBack s k
  · exact Same.refl s

theorem same_flushNext (cfg : Cfg) (s : St) (i : Nat) (l : List Key) (n : Nat) :
    Same s (flushNext cfg s i l n).1 := by
  rcases flushNext_shape cfg s i l n with ⟨p, e, _⟩ | ⟨n', e⟩ <;> rw [e]
  · exact same_setPend _ _ _
  · exact Same.refl s

theorem start_inv (cfg : Cfg) (hcap : 1 ≤ cfg.cap) (s : St) (i : Nat) (op : OpK) (now : Nat)
    (h : SInv cfg s) : SInv cfg (start cfg s i op now).1 := by
  cases op with
  | get k =>
    simp only [start]
    split
    · refine SInv.same' ?_ (same_setPend _ _ _)
      have law := Pol.access_law s.pol h.pinv k
      exact ⟨law.1, h.nodup, fun x => by show x ∈ (s.pol.access k).tracked ↔ _; rw [law.2 x, h.same x], h.size⟩
    · exact h.same' (same_setPend _ _ _)
  | put k v =>
    simp only [start]
    have h1 := cachePut_inv cfg hcap (s.bump cfg k) k v now (h.same' (same_bump cfg s k))
    split
    · exact (h1.same' (same_inflInc cfg _ k)).same' (same_setPend _ _ _)
    · exact SInv.same' (h1.same' ⟨rfl, rfl⟩) (same_setPend _ _ _)
  | del k =>
    have h0 := h.same' (same_bump cfg s k)
    refine SInv.same' (SInv.same' ?_ (same_inflInc cfg _ k)) (same_setPend _ _ _)
    split
    · exact cacheRemove_inv cfg _ k (h0.same' (same_repWriteBack cfg _ k))
    · exact h0
  | inv k =>
    simp only [start]
    split
    · exact cacheRemove_inv cfg _ k (h.same' (same_repWriteBack cfg _ k))
    · exact h
  | invAll =>
    have hp : (if cfg.rep then s.writeBackAll s.dirty else s).pol = s.pol := by
      split
      · exact writeBackAll_pol _ _
      · rfl
    have law := Pol.clear_law s.pol
    simp only [start]
    exact ⟨by simpa only [hp] using law.1, List.nodup_nil, fun x => by simp [hp, law.2, akeys], Nat.zero_le _⟩
  | flush order =>
    exact h.same' (same_flushNext cfg s i order 0)

theorem resume_inv (cfg : Cfg) (hcap : 1 ≤ cfg.cap) (s : St) (i : Nat) (p : Pend) (now : Nat)
    (h : SInv cfg s) : SInv cfg (resume cfg s i p now).1 := by
  have hc := h.same' (same_clearPend s i)
  cases p with
  | getHit v => exact hc
  | getMiss k e =>
    simp only [resume]
    split
    · split
      · exact cachePut_inv cfg hcap _ k _ now hc
      · exact hc
    · exact hc
  | putWT k v =>
    exact SInv.same' (hc.same' ⟨rfl, rfl⟩) (same_inflDec cfg _ k)
  | putWB => exact hc
  | del k inC =>
    exact SInv.same' (hc.same' ⟨rfl, rfl⟩) (same_inflDec cfg _ k)
  | flushCur k v rest n =>
    exact SInv.same' (hc.same' ⟨rfl, rfl⟩) (same_flushNext cfg _ i rest (n + 1))
  | flushRep k rest n =>
    simp only [resume]
    split
    · exact SInv.same' (hc.same' (same_writeBack _ k)) (same_flushNext cfg _ i rest (n + 1))
    · exact hc.same' (same_flushNext cfg _ i rest n)

theorem step_inv (cfg : Cfg) (hcap : 1 ≤ cfg.cap) (s : St) (a : Act) (h : SInv cfg s) :
    SInv cfg (step cfg s a).1 := by
  cases a with
  | start i op now => exact start_inv cfg hcap s i op now h
  | resume i now =>
    simp only [step]
    split
    · exact resume_inv cfg hcap s i _ now h
    · exact h

theorem run_inv (cfg : Cfg) (hcap : 1 ≤ cfg.cap) (s : St) (as : List Act) (h : SInv cfg s) :
    SInv cfg (run cfg s as) := by
  induction as generalizing s with
  | nil => exact h
  | cons a as ih => exact ih _ (step_inv cfg hcap s a h)

theorem init_inv (cfg : Cfg) (name : String) (arg : Nat) (p : Pol) (hp : Pol.ofName name arg = some p) :
    SInv cfg { pol := p } := by
  have := Pol.ofName_inv name arg p hp
  exact ⟨this.1, by simp [akeys], fun x => by simp [this.2, akeys], by simp⟩

end HappyModel.C16
