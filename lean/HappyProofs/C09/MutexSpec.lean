import HappyProofs.C09.SyncInv
import HappyModel.C09.Driver
/-! The Mutex model satisfies the executable Spec predicate `judgeMutex`.  One operation is judged for both modes of the
judge at once (`Leaf.follows`); the `got` / `fin` lines of the engine mode are in `MutexEngine`. -/
namespace HappyModel.C09.Sync.Mutex

def b01 (b : Bool) : Nat := if b then 1 else 0

def obsOf (o : Op) (out : Out) (s' : St) : Obs :=
  { k := match o with
      | .tryAcquire id => .try_ id 1 0
      | .acquire id => .acq id 1 0
      | .release => .rel 1 0
    res := out.res, woke := out.woke, c1 := b01 s'.locked, c2 := s'.waiters.length }

def obsTrace (s : St) : List Op → List Obs
  | [] => []
  | o :: os => obsOf o (step s o).2 (step s o).1 :: obsTrace (step s o).1 os

/-- `AgreeE b s []` field for field: the direct mode has no pending list -/
structure Agree (b : MBook) (s : St) : Prop where
  holders : b.holders = b01 s.locked
  blocked : b.blocked = s.waiters
  resolved : b.resolved = []

/-- the calls an operation makes resumable, as `Driver.runMutex` computes them -/
def newlyOf (o : Op) (out : Out) : List Nat :=
  match o with
  | .acquire id => Driver.newly true id out
  | _ => out.woke

def obsE (t : Nat) (o : Op) (out : Out) (s' : St) : Obs := { obsOf o out s' with t := t }

structure AgreeE (b : MBook) (s : St) (p : Pend) : Prop where
  holders : b.holders = b01 s.locked
  blocked : b.blocked = s.waiters
  resolved : b.resolved = p

theorem check_ok (s : St) (b : MBook) (o : Obs) (inv : Inv s) (hh : b.holders = b01 s.locked) (hb : b.blocked = s.waiters)
    (h1 : o.c1 = b01 s.locked) (h2 : o.c2 = s.waiters.length) : b.check o = none := by
  unfold MBook.check
  rw [hh, hb, h1, h2]
  cases hl : s.locked with
  | true => simp [b01]
  | false => simp [b01, inv.free hl]

theorem Leaf.follows {s : St} {o : Op} {r : St × Out} (h : Leaf s o r) (eng : Bool) (t : Nat) (b : MBook) (p : Pend)
    (ag : AgreeE b s p) :
    ∃ b', b.apply eng (obsE t o r.2 r.1) = .ok b' ∧ AgreeE b' r.1 (if eng then p.add t (newlyOf o r.2) else p) := by
  have same : AgreeE b s (if eng then p.add t [] else p) := by rw [Pend.add_nil, ite_self]; exact ag
  have h0 : s.locked = false → b.holders = 0 := fun hl => by rw [ag.holders, hl]; rfl
  have h1 : s.locked = true → b.holders = 1 := fun hl => by rw [ag.holders, hl]; rfl
  have h10 : s.locked = true → ¬ b.holders = 0 := fun hl => by rw [h1 hl]; exact Nat.one_ne_zero
  cases h with
  | tryRefused id hl => exact ⟨b, if_neg (h10 hl), same⟩
  | tryGranted id hl => exact ⟨{ b with holders := 1 }, if_neg (fun h => h (h0 hl)), rfl, ag.blocked, same.resolved⟩
  | queued id hl =>
    exact ⟨{ b with blocked := b.blocked ++ [id] }, if_neg (h10 hl), (h1 hl).trans (by rw [hl]; rfl),
      by show b.blocked ++ [id] = s.waiters ++ [id]; rw [ag.blocked], same.resolved⟩
  | granted id hl =>
    exact ⟨{ b with holders := 1, resolved := if eng then b.resolved.add t [id] else b.resolved },
      if_neg (fun h => h (h0 hl)), rfl, ag.blocked, by
        show (if eng then b.resolved.add t [id] else b.resolved) = _; rw [ag.resolved]; rfl⟩
  | relFree hl => exact ⟨b, if_neg (fun h => h (h0 hl)), same⟩
  | relLast hl hq =>
    refine ⟨{ holders := 0, blocked := b.blocked, resolved := if eng then b.resolved.add t [] else b.resolved }, ?_,
      rfl, ag.blocked, by show (if eng then b.resolved.add t [] else b.resolved) = _; rw [ag.resolved]; rfl⟩
    simp only [obsE, obsOf, MBook.apply, procObs]
    rw [if_neg (h10 hl), show wokeCheck "mutex" b.blocked [] = none from wokeCheck_prefix "mutex" [] b.blocked, h1 hl]; rfl
  | @relHand hl w ws hq =>
    refine ⟨{ holders := 1, blocked := ws, resolved := if eng then b.resolved.add t [w] else b.resolved }, ?_,
      by show 1 = b01 s.locked; rw [hl]; rfl, rfl, by show (if eng then b.resolved.add t [w] else b.resolved) = _; rw [ag.resolved]; rfl⟩
    simp only [obsE, obsOf, MBook.apply, procObs]
    rw [if_neg (h10 hl), ag.blocked, hq, show wokeCheck "mutex" (w :: ws) [w] = none from wokeCheck_prefix "mutex" [w] ws, h1 hl]; rfl

theorem judge_cons_ok {eng : Bool} {b b' : MBook} {o : Obs} (os : List Obs) (h : b.apply eng o = .ok b')
    (hc : b'.check o = none) : judgeMutex eng b (o :: os) = judgeMutex eng b' os := by
  simp only [judgeMutex, h, hc]

theorem judge_cons_err {eng : Bool} {b : MBook} {o : Obs} {e : String} (os : List Obs) (h : b.apply eng o = .error e) :
    judgeMutex eng b (o :: os) = some e := by
  simp only [judgeMutex, h]

theorem judge_op (eng : Bool) (t : Nat) (s : St) (b : MBook) (p : Pend) (o : Op) (rest : List Obs) (inv : Inv s)
    (ag : AgreeE b s p) :
    ∃ b', judgeMutex eng b (obsE t o (step s o).2 (step s o).1 :: rest) = judgeMutex eng b' rest
      ∧ AgreeE b' (step s o).1 (if eng then p.add t (newlyOf o (step s o).2) else p) := by
  obtain ⟨b', hap, hag⟩ := (step_leaf s o).follows eng t b p ag
  exact ⟨b', judge_cons_ok rest hap (check_ok (step s o).1 b' _ (step_inv s o inv) hag.holders hag.blocked rfl rfl), hag⟩

theorem judge_model (s : St) (b : MBook) (ops : List Op) (inv : Inv s) (ag : Agree b s) :
    judgeMutex false b (obsTrace s ops) = none := by
  induction ops generalizing s b with
  | nil => rfl
  | cons o os ih =>
    obtain ⟨b', hj, hag⟩ := judge_op false 0 s b [] o (obsTrace (step s o).1 os) inv ⟨ag.holders, ag.blocked, ag.resolved⟩
    exact hj.trans (ih _ _ (step_inv s o inv) ⟨hag.holders, hag.blocked, hag.resolved⟩)

end HappyModel.C09.Sync.Mutex
