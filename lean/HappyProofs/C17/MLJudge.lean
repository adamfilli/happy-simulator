import HappyProofs.C17.MLConv
import HappyProofs.C17.MLSched
import HappyProofs.C17.MLStores
namespace HappyModel.C17

/-- **The judge's multi-leader convergence clause is silent on the model** (resolvers that return one
    of their inputs): for every action list with a non-decreasing clock and positive `Replicate`
    latency, a transcript whose last step shows the model's stores and whose `Q` flag is the model's
    quiescence is accepted by `Spec.judgeML` and by `Spec.judgeMLn n false`. -/
theorem ml_judge_convergence_silent (n nk : Nat) (acts : List Act)
    (hs : ML.schedOK (ML.init n nk) (fun _ => 0) acts = true) (steps : List Spec.Step)
    (hfin : Spec.finalStores steps = modelStores (ML.run (ML.init n nk) acts).store n nk) :
    Spec.judgeML steps (ML.quiescentB (ML.run (ML.init n nk) acts)) = none ∧
    Spec.judgeMLn n false steps (ML.quiescentB (ML.run (ML.init n nk) acts)) = none := by
  have key : Spec.convergence "ml" steps (ML.quiescentB (ML.run (ML.init n nk) acts)) = none := by
    unfold Spec.convergence
    cases hq : ML.quiescentB (ML.run (ML.init n nk) acts) with
    | false => simp
    | true =>
      have hcoh := ML.coherent_of_sched n nk acts hs
      have hinv : ML.Inv (fun k v => (k, v) ∈ ML.created (ML.init n nk) acts) (ML.run (ML.init n nk) acts) :=
        ML.run_inv acts (ML.init n nk) hcoh (ML.init_inv n nk) (fun _ h => h)
      have hn : (ML.run (ML.init n nk) acts).n = n := ML.run_n _ _
      have hc := converged_of_agree (ML.run (ML.init n nk) acts).store n nk (fun i j k hi hj =>
        (ML.quiescent_agree _ (by rw [hn]; exact hcoh) hinv hq i j k (by rw [hn]; exact hi) (by rw [hn]; exact hj)).2)
      rw [hfin, hc]; simp
  exact ⟨key, by unfold Spec.judgeMLn; simpa using key⟩

end HappyModel.C17
