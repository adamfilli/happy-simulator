import HappyProofs.C18.StorePhase
import HappyProofs.C18.SameUpdates
namespace HappyModel.C18

theorem judgeStep_ok (kind : Kind) (n nkeys : Nat) (mentioned : List Nat) (j : JSt) (so : StepObs)
    (hinc : ∀ mo ∈ so.created, ∀ k,
      (specAt (j.apply kind n so.step).spec k).know mo.src ≠ [] → k ∈ mo.keys)
    (hmiss : ∀ r, actingOf j so.step = some r →
      ∀ a ∈ (if isRound so.step then (r :: so.created.map (·.dst)).eraseDups else [r]), ∀ k,
        (specAt (j.advance kind n so).spec k).know a ≠ [] → ∃ o ∈ so.obs, o.1 = a ∧ o.2.1 = k)
    (hval : ∀ o ∈ so.obs,
      judgeValue kind (specAt (j.advance kind n so).spec o.2.1) o.1 o.2.2 mentioned = none) :
    judgeStep kind n nkeys mentioned j so = (j.advance kind n so, none) := by
  unfold judgeStep
  have h1 : so.created.find? (fun mo => (List.range nkeys).any fun k =>
      !((specAt (j.apply kind n so.step).spec k).know mo.src).isEmpty && !mo.keys.contains k) = none := by
    rw [List.find?_eq_none]
    intro mo hmo hany
    simp only [List.any_eq_true, Bool.and_eq_true, Bool.not_eq_true', List.isEmpty_eq_false_iff,
      List.contains_eq_mem, decide_eq_false_iff_not] at hany
    obtain ⟨k, _, hk1, hk2⟩ := hany
    exact hk2 (hinc mo hmo k hk1)
  simp only [h1]
  cases hact : actingOf j so.step with
  | none => rfl
  | some r =>
    simp only
    have h2 : (if isRound so.step then (r :: so.created.map (·.dst)).eraseDups else [r]).findSome?
        (fun a => ((List.range nkeys).find? fun k =>
          !((specAt (j.advance kind n so).spec k).know a).isEmpty &&
            !(so.obs.any fun o => o.1 == a && o.2.1 == k)).map fun k => (a, k)) = none := by
      rw [List.findSome?_eq_none_iff]
      intro a ha
      simp only [Option.map_eq_none_iff]
      rw [List.find?_eq_none]
      intro k _ hk
      simp only [Bool.and_eq_true, Bool.not_eq_true', List.isEmpty_eq_false_iff,
        List.any_eq_false, beq_iff_eq, not_and] at hk
      obtain ⟨o, ho, h3, h4⟩ := hmiss r hact a ha k hk.1
      exact hk.2 o ho h3 h4
    simp only [h2]
    have h3 : so.obs.findSome? (fun o =>
        (judgeValue kind (specAt (j.advance kind n so).spec o.2.1) o.1 o.2.2 mentioned).map
          fun sig => s!"{sig} store {o.1} key {o.2.1}") = none := by
      rw [List.findSome?_eq_none_iff]
      intro o ho
      rw [hval o ho]; rfl
    rw [h3]

theorem known_held {n : Nat} {j : JSt} {p : PSt} {ops : List (Nat × XOp)} (hj : JInv n j p ops)
    (hg : Good p ops) (a k : Nat) (ha : a < n) (hk : (specAt j.spec k).know a ≠ []) :
    p.holds a k = true := by
  rw [hj.spec k] at hk
  rcases know_origin _ _ a hk with h | ⟨o, ho, hr⟩
  · exact absurd rfl h
  · rw [mem_keyOps] at ho
    have := hg _ ho o rfl (by rw [hr, hj.n_eq]; exact ha)
    rw [hr] at this
    exact this

theorem known_in_keys {n : Nat} {j : JSt} {p q : PSt} {ops : List (Nat × XOp)} (hj : JInv n j p ops)
    (hg : Good p ops) (hq : Grows p q) (a k id : Nat) (ha : a < n) (msg : Msg)
    (hkeys : msg.keys = q.keysOf a) (hk : (specAt j.spec k).know a ≠ []) :
    k ∈ (msgObsOf id msg).keys := by
  simp only [msgObsOf, mem_sortNat, hkeys]
  exact (holds_keysOf q a k).mp (hq.2 _ _ (known_held hj hg a k ha hk))

theorem elemsOf_contains (s : ORSet) (x : Nat) : (elemsOf s).contains x = s.has x := by
  rw [Bool.eq_iff_iff, ORSet.has_iff]
  simp only [List.contains_eq_mem, decide_eq_true_eq, elemsOf, List.mem_eraseDups, mem_sortNat,
    List.mem_map]
  constructor
  · rintro ⟨⟨y, t⟩, h, rfl⟩; exact ⟨t, h⟩
  · rintro ⟨t, h⟩; exact ⟨(x, t), h, rfl⟩

theorem judgeValue_replica (kind : Kind) (ops : List COp) (a : Nat) (mentioned : List Nat) :
    judgeValue kind (SpecSys.run {} ops) a (kobsOf ((Sys.run Sys.init ops).rep a)) mentioned = none := by
  obtain ⟨hc, hl, tg, ho⟩ := den_run ops a
  cases kind with
  | g => simp [judgeValue, kobsOf, pnDen_value hc]
  | pn => simp [judgeValue, kobsOf, pnDen_value hc]
  | lww => simp [judgeValue, kobsOf, (SpecSys.lwwOk_iff _ _ _).mpr hl]
  | os =>
    simp only [judgeValue, kobsOf]
    rw [List.find?_eq_none.mpr fun x _ => by rw [elemsOf_contains, ho.has]; simp]

theorem val_ok (kind : Kind) {n : Nat} {j : JSt} {st : SSt} {ops : List (Nat × XOp)} (x : SStep)
    (mentioned : List Nat)
    (hj : JInv n (j.advance kind n (stepObs kind st x)) (st.step .repaired kind x).p ops)
    (hsys : ∀ k, sysAt (st.step .repaired kind x).sys k = Sys.run Sys.init (keyOps k ops)) :
    ∀ o ∈ (stepObs kind st x).obs,
      judgeValue kind (specAt (j.advance kind n (stepObs kind st x)).spec o.2.1) o.1 o.2.2 mentioned = none := by
  intro o ho
  simp only [stepObs, List.mem_flatMap, storeObs, List.mem_map] at ho
  obtain ⟨a, _, kn, _, rfl⟩ := ho
  simp only
  rw [hj.spec, hsys]
  exact judgeValue_replica kind _ a mentioned

theorem miss_ok (kind : Kind) {n : Nat} {j : JSt} {st : SSt} {ops : List (Nat × XOp)} (x : SStep)
    (T : TInv n (j.advance kind n (stepObs kind st x)) (st.step .repaired kind x) ops)
    (a : Nat) (ha : a ∈ st.p.actors x) (hlt : a < n) (k : Nat)
    (hk : (specAt (j.advance kind n (stepObs kind st x)).spec k).know a ≠ []) :
    ∃ o ∈ (stepObs kind st x).obs, o.1 = a ∧ o.2.1 = k := by
  have hh := known_held T.j T.good a k hlt hk
  rw [holds_keysOf] at hh
  obtain ⟨kn, hkn, rfl⟩ := List.mem_map.mp hh
  refine ⟨(a, kn.1, kobsOf ((sysAt (st.step .repaired kind x).sys kn.1).rep a)), ?_, rfl, rfl⟩
  simp only [stepObs, List.mem_flatMap, storeObs, List.mem_map]
  exact ⟨a, ha, kn, hkn, rfl⟩

/-- a step described by a phase passes `judgeStep`, given the two facts that depend on the kind of
    step: the messages it builds list every key their sender has received an update for, and the
    stores the judge looks at (the acting store; in a round also the receivers of the messages
    built) are stores that acted -/
theorem step_ok_of_phase (kind : Kind) (nkeys : Nat) (mentioned : List Nat) {n : Nat} {j : JSt}
    {st : SSt} {ops : List (Nat × XOp)} (h : TInv n j st ops) (x : SStep) (new : List Msg)
    (ph : Phase n st.p (st.p.step .repaired kind x) new)
    (hinc : ∀ mo ∈ obsFrom st.p.msgs.length new, ∀ k,
      (specAt (j.apply kind n x).spec k).know mo.src ≠ [] → k ∈ mo.keys)
    (hact : ∀ r, actingOf j x = some r → r ∈ st.p.actors x ∧ r < n)
    (hdst : isRound x = true → ∀ mo ∈ obsFrom st.p.msgs.length new, mo.dst ∈ st.p.actors x ∧ mo.dst < n) :
    TInv n (j.advance kind n (stepObs kind st x)) (st.step .repaired kind x)
      (ops ++ (st.p.step .repaired kind x).2) ∧
    (Fresh st.p ops → Fresh (st.p.step .repaired kind x).1 (ops ++ (st.p.step .repaired kind x).2)) ∧
    judgeStep kind n nkeys mentioned j (stepObs kind st x) =
      (j.advance kind n (stepObs kind st x), none) := by
  obtain ⟨T, F⟩ := tinv_next kind h x new ph
  have hc : (stepObs kind st x).created = obsFrom st.p.msgs.length new :=
    createdObs_of_append st.p (st.p.step .repaired kind x).1 new ph.msgs
  refine ⟨T, F, judgeStep_ok _ _ _ _ _ _ (fun mo hmo => hinc mo (hc ▸ hmo)) ?_ (val_ok kind x mentioned T.j T.sys)⟩
  intro r hr a ha k hk
  have : a ∈ st.p.actors x ∧ a < n := by
    show a ∈ st.p.actors (stepObs kind st x).step ∧ a < n
    split at ha
    · next hrd =>
      rw [hc, List.mem_eraseDups, List.mem_cons, List.mem_map] at ha
      rcases ha with rfl | ⟨mo, hmo, rfl⟩
      · exact hact _ hr
      · exact hdst hrd mo hmo
    · exact List.mem_singleton.mp ha ▸ hact r hr
  exact miss_ok kind x T a this.1 this.2 k hk

theorem step_ok (kind : Kind) (nkeys : Nat) (mentioned : List Nat)
    {n : Nat} {j : JSt} {st : SSt} {ops : List (Nat × XOp)} (h : TInv n j st ops) (x : SStep)
    (hx : WFStep n x) :
    TInv n (j.advance kind n (stepObs kind st x)) (st.step .repaired kind x)
      (ops ++ (st.p.step .repaired kind x).2) ∧
    (Fresh st.p ops → Fresh (st.p.step .repaired kind x).1 (ops ++ (st.p.step .repaired kind x).2)) ∧
    judgeStep kind n nkeys mentioned j (stepObs kind st x) =
      (j.advance kind n (stepObs kind st x), none) := by
  have nonew : ∀ mo ∈ obsFrom st.p.msgs.length [], ∀ k,
      (specAt (j.apply kind n x).spec k).know mo.src ≠ [] → k ∈ mo.keys := fun _ hmo => nomatch hmo
  cases x with
  | w s key op =>
    exact step_ok_of_phase kind nkeys mentioned h _ [] (step_w_phase kind st.p s key op hx) nonew
      (fun r hr => Option.some.inj hr ▸ ⟨List.mem_singleton.mpr rfl, hx⟩) (fun hr => nomatch hr)
  | tick s jx =>
    have hact : ∀ r, actingOf j (.tick s jx) = some r → r ∈ st.p.actors (.tick s jx) ∧ r < n :=
      fun r hr => Option.some.inj hr ▸ ⟨List.mem_singleton.mpr rfl, hx⟩
    rcases step_tick_phase (n := n) kind st.p s jx hx h.wfp with ph | ⟨d, hd, ph⟩
    · exact step_ok_of_phase kind nkeys mentioned h _ _ ph nonew hact (fun hr => nomatch hr)
    · refine step_ok_of_phase kind nkeys mentioned h _ _ ph ?_ hact (fun hr => nomatch hr)
      intro mo hmo k hk
      obtain rfl := List.mem_singleton.mp hmo
      exact known_in_keys h.j h.good (Grows.refl _) s k _ hx _ rfl hk
  | dl m =>
    rcases step_dl_phase (n := n) kind st.p m h.lt with ⟨hm, ph⟩ | ⟨msg, hm, hph⟩
    · refine step_ok_of_phase kind nkeys mentioned h _ _ ph nonew ?_ (fun hr => nomatch hr)
      intro r hr
      simp [actingOf, jinv_find h.j m, hm] at hr
    · have hmlt := h.lt msg (List.mem_of_getElem? hm)
      have hact : ∀ r, actingOf j (.dl m) = some r → r ∈ st.p.actors (.dl m) ∧ r < n := by
        intro r hr
        simp only [actingOf, jinv_find h.j m, hm, Option.map_some, msgObsOf, Option.some.injEq] at hr
        subst hr
        exact ⟨by simp [PSt.actors, PSt.acting, hm], hmlt.2⟩
      rcases hph with ph | ph
      · exact step_ok_of_phase kind nkeys mentioned h _ _ ph nonew hact (fun hr => nomatch hr)
      · refine step_ok_of_phase kind nkeys mentioned h _ _ ph ?_ hact (fun hr => nomatch hr)
        intro mo hmo k hk
        obtain rfl := List.mem_singleton.mp hmo
        -- the judge's state after applying the delivery = the model after `mergeKeys`
        have hk' : (specAt (j.mergeAll msg.dst (n + m) (sortNat (msg.keys.map (·.1)))).spec k).know msg.dst ≠ [] := by
          simpa [JSt.apply, jinv_find h.j m, hm, msgObsOf, respOf] using hk
        exact known_in_keys (jinv_deliver h.j m msg hm)
          ((h.good.mono (grows_mergeKeys _ _ _ _).1).append (good_mergeKeys _ _ _ _))
          (Grows.refl _) msg.dst k _ hmlt.2 _ rfl hk'
  | round s jx =>
    rcases step_round_phase (n := n) kind st.p s jx hx h.wfp with ⟨hps, ph⟩ | ⟨q, qs, d, hps, hdd, hd, hph⟩
    · exact step_ok_of_phase kind nkeys mentioned h _ _ ph nonew
        (fun r hr => Option.some.inj hr ▸ ⟨by simp [PSt.actors, hps], hx⟩) (fun _ _ hmo => nomatch hmo)
    · have hs : s ∈ st.p.actors (.round s jx) ∧ s < n := ⟨by simp only [PSt.actors, hps, ← hdd]; split <;> simp, hx⟩
      have hdm : d ∈ st.p.actors (.round s jx) ∧ d < n := by
        refine ⟨?_, hd⟩
        simp only [PSt.actors, hps, ← hdd]
        split
        · next e => exact List.mem_singleton.mpr e
        · simp
      have hact : ∀ r, actingOf j (.round s jx) = some r → r ∈ st.p.actors (.round s jx) ∧ r < n :=
        fun r hr => Option.some.inj hr ▸ hs
      have hpush : ∀ k, (specAt j.spec k).know s ≠ [] →
          k ∈ (msgObsOf st.p.msgs.length ⟨s, d, true, st.p.keysOf s⟩).keys :=
        fun k hk => known_in_keys h.j h.good (Grows.refl _) s k _ hx _ rfl hk
      rcases hph with ph | ph
      · refine step_ok_of_phase kind nkeys mentioned h _ _ ph ?_ hact ?_
        · intro mo hmo k hk
          obtain rfl := List.mem_singleton.mp hmo
          exact hpush k hk
        · intro _ mo hmo
          obtain rfl := List.mem_singleton.mp hmo
          exact hdm
      · refine step_ok_of_phase kind nkeys mentioned h _ _ ph ?_ hact ?_
        · intro mo hmo k hk
          rcases List.mem_cons.mp hmo with rfl | hmo
          · exact hpush k hk
          · -- the answer is built by the peer after it merged the push: it holds at least what it held before
            obtain rfl := List.mem_singleton.mp hmo
            exact known_in_keys h.j h.good ((grows_emit _ _ _ _).trans (grows_mergeKeys _ _ _ _).1)
              _ k _ hd _ rfl hk
        · intro _ mo hmo
          rcases List.mem_cons.mp hmo with rfl | hmo
          · exact hdm
          · exact List.mem_singleton.mp hmo ▸ hs

end HappyModel.C18
