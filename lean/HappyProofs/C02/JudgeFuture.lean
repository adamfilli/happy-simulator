import HappyModel.C02.Spec
import HappyProofs.Lib.Keyed
/-!
# C02 — the settle fold of the judge: what each line does to the table of future objects

The last part of the C02 judge (`Spec.stepLine`, folded over the numbered lines) keeps a table of future
objects (`n` / `a` / `l` / `r` lines), the futures processes wait on (`w` lines) and checks every untagged
resumption (`R` line) against it.  This file is about the judge alone, for plain futures (no combinator, no
rebinding of a slot: `settle` is then the identity): the effect of an `r`, `w`, `S` / `K` and `R` line on the table.
-/
namespace HappyModel.C01
open HappyModel.C02.Spec (Line SSt FObj FExpr stepLine settle)

/-- the clause `B`efore-`R`esolved, the one the weaker mode of the link is about -/
def BR : String := "future/resumed-before-resolved"

def resOf (j : SSt) (o : Nat) : Option (Nat × Val) := (j.objs[o]?).bind (·.res)

/-- the fold of the judge, positions made explicit -/
def foldFrom : Nat → List Line → SSt → SSt
  | _, [], j => j
  | k, l :: r, j => foldFrom (k + 1) r (stepLine j k l)

theorem foldFrom_append (k : Nat) (a b : List Line) (j : SSt) :
    foldFrom k (a ++ b) j = foldFrom (k + a.length) b (foldFrom k a j) := by
  induction a generalizing k j with
  | nil => simp [foldFrom]
  | cons x r ih =>
    simp only [List.cons_append, foldFrom, List.length_cons]
    rw [ih]
    congr 1
    omega

theorem fold_enum_eq (ls : List Line) (j : SSt) :
    (enum ls).foldl (fun st p => stepLine st p.1 p.2) j = foldFrom 0 ls j := by
  unfold enum
  rw [List.range_eq_range']
  generalize 0 = k
  induction ls generalizing k j with
  | nil => simp [foldFrom]
  | cons x r ih =>
    simp only [List.length_cons, List.range'_succ, List.zip_cons_cons, List.foldl_cons, foldFrom]
    exact ih _ _

theorem settle_plain (pos fuel : Nat) (objs : List FObj) (h : ∀ o ∈ objs, o.expr = FExpr.plain) :
    settle pos fuel objs = objs := by
  have hm : ∀ g : FObj → FObj, (∀ o ∈ objs, g o = o) → objs.map g = objs := by
    intro g hg
    rw [List.map_congr_left hg, List.map_id']
  induction fuel with
  | zero => rfl
  | succ n ih =>
    unfold settle
    refine Eq.trans (congrArg (settle pos n) (hm _ ?_)) ih
    intro o ho
    have he := h o ho
    cases o.res with
    | some r => rfl
    | none => simp only [he]

theorem find?_filter_self {α} (l : List (Nat × α)) (f : Nat) :
    (l.filter (fun x => x.1 != f)).find? (fun x => x.1 == f) = none := by
  rw [List.find?_eq_none]
  intro x hx
  have := (List.mem_filter.mp hx).2
  simpa using this

theorem obj_bind_same (j : SSt) (f : Nat) (e : FExpr) (pos : Nat) :
    (j.bind f e pos).obj f = some j.objs.length := by
  simp [SSt.obj, SSt.bind]

theorem obj_bind_ne (j : SSt) (f g : Nat) (e : FExpr) (pos : Nat) (h : g ≠ f) :
    (j.bind f e pos).obj g = j.obj g := by
  have hg : (f == g) = false := by simp; omega
  simp only [SSt.obj, SSt.bind, List.find?_cons, hg]
  rw [find?_filter_ne _ h]

theorem ensure_cases (s : SSt) (f pos : Nat) :
    (∃ o, s.obj f = some o ∧ s.ensure f pos = (s, o)) ∨
    (s.obj f = none ∧ s.ensure f pos = (s.bind f .plain pos, s.objs.length)) := by
  unfold SSt.ensure
  cases h : s.obj f with
  | some o => left; exact ⟨o, rfl, rfl⟩
  | none => right; exact ⟨rfl, rfl⟩

theorem err_or (e : Option String) (x : String) (h : e ≠ some BR) (hx : x ≠ BR) : (e <|> some x) ≠ some BR := by
  cases e with
  | none => simpa using hx
  | some y => simpa using h

end HappyModel.C01

namespace HappyModel.C01.FV
open HappyModel.C01
open HappyModel.C02.Spec (Line SSt FObj FExpr stepLine settle)

def OKV (v : Val) : Prop := v.show.startsWith "raised:" = false
instance (v : Val) : Decidable (OKV v) := by unfold OKV; infer_instance

/-- every value prints with one of the heads `n`, `p`, `l`, `a`, never as `raised:…`: the clause
    `future/value-raised-instead-of-sent` cannot fire on a value the model sends -/
theorem okv_all (v : Val) : OKV v := by
  unfold OKV
  cases v <;> unfold Val.show <;> simp
  · exact fun h => absurd (List.cons_prefix_cons.mp (show _ <+: 'n' :: _ from h)).1 (by decide)
  · exact fun h => absurd (List.cons_prefix_cons.mp (show _ <+: 'p' :: _ from h)).1 (by decide)
  · exact fun h => absurd (List.cons_prefix_cons.mp (show _ <+: 'a' :: _ from h)).1 (by decide)

/-- the clock the judge recorded at position `i` -/
def cAt (j : SSt) (i : Nat) : Option Nat := j.clockAt.reverse[i]?

/-- a line is read: the clock is recorded -/
def tick (j : SSt) : SSt := { j with clockAt := j.clock :: j.clockAt }

theorem cAt_tick_old (j : SSt) (i c : Nat) (h : cAt j i = some c) : cAt (tick j) i = some c := by
  unfold cAt tick at *
  simp only [List.reverse_cons]
  obtain ⟨hlt, _⟩ := List.getElem?_eq_some_iff.mp h
  rw [List.getElem?_append_left hlt]; exact h

theorem cAt_tick_new (j : SSt) : cAt (tick j) j.clockAt.length = some j.clock := by
  unfold cAt tick
  simp only [List.reverse_cons]
  have : j.clockAt.length = j.clockAt.reverse.length := by simp
  rw [this, List.getElem?_concat_length]

theorem cAt_lt (j : SSt) (i c : Nat) (h : cAt j i = some c) : i < j.clockAt.length := by
  unfold cAt at h
  obtain ⟨hlt, _⟩ := List.getElem?_eq_some_iff.mp h
  simpa using hlt

/-- `J`udge table, `S`tructure: every object is plain, a bound slot names an object of the table, no object has two slots -/
structure JS (j : SSt) : Prop where
  plain : ∀ o ∈ j.objs, o.expr = FExpr.plain
  rng : ∀ g o, j.obj g = some o → o < j.objs.length
  inj : ∀ f g o, j.obj f = some o → j.obj g = some o → f = g

theorem resOf_ge (j : SSt) (o : Nat) (h : j.objs.length ≤ o) : resOf j o = none := by
  unfold resOf
  rw [List.getElem?_eq_none_iff.mpr h]; rfl

theorem ensure_facts (s : SSt) (f pos : Nat) (hk : JS s) :
    JS (s.ensure f pos).1 ∧ (s.ensure f pos).1.obj f = some (s.ensure f pos).2 ∧
    (s.ensure f pos).1.waits = s.waits ∧ (s.ensure f pos).1.err = s.err ∧
    (s.ensure f pos).1.clock = s.clock ∧ (s.ensure f pos).1.clockAt = s.clockAt ∧
    (∀ g o, s.obj g = some o → (s.ensure f pos).1.obj g = some o) ∧
    (∀ g o, g ≠ f → (s.ensure f pos).1.obj g = some o → s.obj g = some o) ∧
    (∀ o, resOf (s.ensure f pos).1 o = resOf s o) ∧
    (s.obj f = none → resOf s (s.ensure f pos).2 = none) := by
  rcases ensure_cases s f pos with ⟨o, ho, he⟩ | ⟨hn, he⟩
  · rw [he]
    exact ⟨hk, ho, rfl, rfl, rfl, rfl, fun _ _ h => h, fun _ _ _ h => h, fun _ => rfl,
      fun hn => by rw [hn] at ho; cases ho⟩
  · rw [he]
    -- the other slots are bound as before, below the new object
    have hold : ∀ g o, g ≠ f → (s.bind f .plain pos).obj g = some o → s.obj g = some o ∧ o < s.objs.length := by
      intro g o hg h
      rw [obj_bind_ne _ _ _ _ _ hg] at h
      exact ⟨h, hk.rng g o h⟩
    have hnew : ∀ o, (s.bind f .plain pos).obj f = some o → o = s.objs.length := by
      intro o h
      rw [obj_bind_same] at h
      exact (Option.some.inj h).symm
    refine ⟨⟨?_, ?_, ?_⟩, obj_bind_same _ _ _ _, rfl, rfl, rfl, rfl, ?_, fun g o hg h => (hold g o hg h).1, ?_,
      fun _ => resOf_ge s _ (Nat.le_refl _)⟩
    · intro o ho
      rcases List.mem_append.mp (show o ∈ s.objs ++ [(⟨FExpr.plain, pos, none⟩ : FObj)] from ho) with ho | ho
      · exact hk.plain o ho
      · rw [List.mem_singleton.mp ho]
    · intro g o hg
      show o < (s.objs ++ [(⟨FExpr.plain, pos, none⟩ : FObj)]).length
      rw [List.length_append, List.length_singleton]
      by_cases hgf : g = f
      · rw [hnew o (hgf ▸ hg)]; exact Nat.lt_succ_self _
      · exact Nat.lt_succ_of_lt (hold g o hgf hg).2
    · intro a b o ha hb
      by_cases haf : a = f
      · by_cases hbf : b = f
        · rw [haf, hbf]
        · have h1 := hnew o (haf ▸ ha)
          have h2 := (hold b o hbf hb).2
          omega
      · by_cases hbf : b = f
        · have h1 := hnew o (hbf ▸ hb)
          have h2 := (hold a o haf ha).2
          omega
        · exact hk.inj a b o (hold a o haf ha).1 (hold b o hbf hb).1
    · intro g o hg
      have hgf : g ≠ f := by
        intro heq; subst heq; rw [hn] at hg; cases hg
      rw [obj_bind_ne _ _ _ _ _ hgf]; exact hg
    · intro o
      unfold resOf
      show ((s.objs ++ [(⟨FExpr.plain, pos, none⟩ : FObj)])[o]?).bind (·.res) = _
      by_cases hlt : o < s.objs.length
      · rw [List.getElem?_append_left hlt]
      · by_cases heq : o = s.objs.length
        · subst heq
          rw [List.getElem?_concat_length, List.getElem?_eq_none_iff.mpr (Nat.le_refl _)]; rfl
        · have h1 : (s.objs ++ [(⟨FExpr.plain, pos, none⟩ : FObj)]).length ≤ o := by simp; omega
          rw [List.getElem?_eq_none_iff.mpr h1, List.getElem?_eq_none_iff.mpr (by omega)]

theorem set_facts (s : SSt) (o : Nat) (ob : FObj) (r : Nat × Val) (pos fuel : Nat) (hk : JS s)
    (ho : s.objs[o]? = some ob) :
    JS { s with objs := settle pos fuel (s.objs.set o { ob with res := some r }) } ∧
    resOf { s with objs := settle pos fuel (s.objs.set o { ob with res := some r }) } o = some r ∧
    ∀ o', o' ≠ o → resOf { s with objs := settle pos fuel (s.objs.set o { ob with res := some r }) } o' = resOf s o' := by
  have hpl : ∀ x ∈ s.objs.set o { ob with res := some r }, x.expr = FExpr.plain := by
    intro x hx
    rcases List.mem_or_eq_of_mem_set hx with hx | rfl
    · exact hk.plain x hx
    · exact hk.plain ob (List.mem_of_getElem? ho)
  have hobjs : settle pos fuel (s.objs.set o { ob with res := some r }) = s.objs.set o { ob with res := some r } :=
    settle_plain _ _ _ hpl
  obtain ⟨hlt, _⟩ := List.getElem?_eq_some_iff.mp ho
  rw [hobjs]
  refine ⟨⟨hpl, ?_, fun a b o' ha hb => hk.inj a b o' ha hb⟩, ?_, ?_⟩
  · intro g o' h
    rw [List.length_set]
    exact hk.rng g o' h
  · unfold resOf
    rw [List.getElem?_set_self hlt]; rfl
  · intro o' hne
    unfold resOf
    rw [List.getElem?_set_ne (Ne.symm hne)]

/-- what an `r` or `w` line leaves alone -/
structure Keep (j j' : SSt) (f : Nat) : Prop where
  js : JS j'
  err : j'.err = j.err
  clock : j'.clock = j.clock
  clockAt : j'.clockAt = j.clock :: j.clockAt
  obj : ∀ g o, j.obj g = some o → j'.obj g = some o
  objr : ∀ g o, g ≠ f → j'.obj g = some o → j.obj g = some o

theorem step_resolve (j : SSt) (pos f : Nat) (v : Val) (hk : JS j) :
    Keep j (stepLine j pos (.resolve f v)) f ∧ (stepLine j pos (.resolve f v)).waits = j.waits ∧
    ∃ o, (stepLine j pos (.resolve f v)).obj f = some o ∧ (j.obj f = none → resOf j o = none) ∧
      ((resOf j o).isSome = true → ∀ o', resOf (stepLine j pos (.resolve f v)) o' = resOf j o') ∧
      (resOf j o = none → resOf (stepLine j pos (.resolve f v)) o = some (pos, v) ∧
        ∀ o', o' ≠ o → resOf (stepLine j pos (.resolve f v)) o' = resOf j o') := by
  have h := ensure_facts (tick j) f pos ⟨hk.plain, hk.rng, hk.inj⟩
  simp only [stepLine]
  unfold tick at h
  generalize hE : SSt.ensure { j with clockAt := j.clock :: j.clockAt } f pos = E at h
  obtain ⟨s1, o⟩ := E
  simp only [] at h ⊢
  obtain ⟨hjs, hobj, hw, herr, hclock, hcat, hmono, hrev, hreq, hnone⟩ := h
  have hreq' : ∀ o', resOf s1 o' = resOf j o' := hreq
  have hlt := hjs.rng f o hobj
  cases hob : s1.objs[o]? with
  | none =>
    have := List.getElem?_eq_none_iff.mp hob
    omega
  | some ob =>
    simp only []
    have hres1 : resOf s1 o = ob.res := by unfold resOf; rw [hob]; rfl
    by_cases hres : ob.res.isSome = true
    · simp only [hres, if_true]
      refine ⟨⟨hjs, herr, hclock, hcat, hmono, hrev⟩, hw, o, hobj, hnone, fun _ => hreq', ?_⟩
      intro hn
      rw [← hreq' o, hres1] at hn
      rw [hn] at hres; simp at hres
    · simp only [hres, Bool.false_eq_true, if_false]
      obtain ⟨h1, h2, h3⟩ := set_facts s1 o ob (pos, v) pos ((s1.objs.set o { ob with res := some (pos, v) }).length + 1) hjs hob
      refine ⟨⟨h1, herr, hclock, hcat, hmono, hrev⟩, hw, o, hobj, hnone, ?_, ?_⟩
      · intro hs
        rw [← hreq' o, hres1] at hs
        exact absurd hs hres
      · intro _
        exact ⟨h2, fun o' hne => (h3 o' hne).trans (hreq' o')⟩

theorem step_wait (j : SSt) (pos pid f : Nat) (dm : Bool) (hk : JS j) :
    Keep j (stepLine j pos (.wait pid f dm)) f ∧
    ∃ o, (stepLine j pos (.wait pid f dm)).waits = (pid, o, pos) :: j.waits ∧
      (stepLine j pos (.wait pid f dm)).obj f = some o ∧ (j.obj f = none → resOf j o = none) ∧
      ∀ o', resOf (stepLine j pos (.wait pid f dm)) o' = resOf j o' := by
  obtain ⟨hjs, hobj, hw, herr, hclock, hcat, hmono, hrev, hreq, hnone⟩ :=
    ensure_facts (tick j) f pos ⟨hk.plain, hk.rng, hk.inj⟩
  unfold stepLine
  refine ⟨⟨⟨hjs.plain, hjs.rng, hjs.inj⟩, herr, hclock, hcat, hmono, hrev⟩, _, ?_, hobj, hnone, hreq⟩
  exact congrArg (List.cons _) hw

/-- a line that only sets the clock (`S`, `K`) -/
theorem step_start (j : SSt) (pos clk tag : Nat) :
    stepLine j pos (.start clk tag) = { tick j with clock := clk } := rfl
theorem step_skipped (j : SSt) (pos clk tag : Nat) :
    stepLine j pos (.skipped clk tag) = { tick j with clock := clk } := rfl

/-- an `R` line: `future/resumed-before-resolved` is not raised if the wait it uses up names a resolved object, and
    nothing is raised if (`chk`) the value sent is the one of its `r` line and the clock of the later of the two lines is
    the instant of the resumption -/
theorem step_resume (chk : Bool) (j : SSt) (pos clk pid tag : Nat) (val : String)
    (herrB : j.err ≠ some BR) (herrN : chk = true → j.err = none)
    (hres : tag = 0 → ∀ w, j.waits.find? (fun w => w.1 == pid) = some w →
      ∃ rp v, resOf j w.2.1 = some (rp, v) ∧ (chk = true → cAt j (max rp w.2.2) = some clk ∧ v.show = val)) :
    (stepLine j pos (.resume clk pid val tag)).objs = j.objs ∧
    (stepLine j pos (.resume clk pid val tag)).slot = j.slot ∧
    (stepLine j pos (.resume clk pid val tag)).err ≠ some BR ∧
    (chk = true → (stepLine j pos (.resume clk pid val tag)).err = none) ∧
    (stepLine j pos (.resume clk pid val tag)).clock = clk ∧
    (stepLine j pos (.resume clk pid val tag)).clockAt = j.clock :: j.clockAt ∧
    (∀ w ∈ (stepLine j pos (.resume clk pid val tag)).waits, w ∈ j.waits) ∧
    (∀ q, (tag = 0 → q ≠ pid) →
      (stepLine j pos (.resume clk pid val tag)).waits.find? (fun w => w.1 == q) = j.waits.find? (fun w => w.1 == q)) ∧
    (tag = 0 → (stepLine j pos (.resume clk pid val tag)).waits.find? (fun w => w.1 == pid) = none) := by
  -- the line is unfolded once, in an equation, and not in each of the nine claims
  generalize hj' : stepLine j pos (.resume clk pid val tag) = j'
  simp only [stepLine] at hj'
  by_cases htag : tag = 0
  · have ht : (tag != 0) = false := by simp [htag]
    simp only [ht, Bool.false_eq_true, if_false] at hj'
    cases hf : j.waits.find? (fun w => w.1 == pid) with
    | none =>
      rw [hf] at hj'
      subst hj'
      exact ⟨rfl, rfl, herrB, herrN, rfl, rfl, fun w hw => hw, fun q _ => rfl, fun _ => hf⟩
    | some w =>
      obtain ⟨rp, v, hr, hc⟩ := hres htag w hf
      unfold resOf at hr
      rw [hf] at hj'
      simp only [hr] at hj'
      have hq : ∀ q, (tag = 0 → q ≠ pid) →
          (j.waits.filter (fun x => x.1 != pid)).find? (fun w => w.1 == q) = j.waits.find? (fun w => w.1 == q) :=
        fun q hq => find?_filter_ne _ (hq htag)
      have hs : tag = 0 → (j.waits.filter (fun x => x.1 != pid)).find? (fun w => w.1 == pid) = none :=
        fun _ => find?_filter_self _ _
      have hsub : ∀ w ∈ j.waits.filter (fun x => x.1 != pid), w ∈ j.waits := fun w hw => (List.mem_filter.mp hw).1
      by_cases hra : val.startsWith "raised:" = true
      · rw [if_pos hra] at hj'
        subst hj'
        refine ⟨rfl, rfl, err_or _ _ herrB (by decide), fun c => ?_, rfl, rfl, hsub, hq, hs⟩
        rw [← (hc c).2, okv_all v] at hra; cases hra
      · rw [if_neg hra] at hj'
        by_cases hv : (v.show != val) = true
        · rw [if_pos hv] at hj'
          subst hj'
          refine ⟨rfl, rfl, err_or _ _ herrB (by decide), fun c => ?_, rfl, rfl, hsub, hq, hs⟩
          rw [(hc c).2] at hv; simp at hv
        · rw [if_neg hv] at hj'
          split at hj'
          · rename_i hd
            subst hj'
            refine ⟨rfl, rfl, err_or _ _ herrB (by decide), fun c => ?_, rfl, rfl, hsub, hq, hs⟩
            have := cAt_tick_old j _ _ (hc c).1
            unfold cAt tick at this
            rw [List.getD_eq_getElem?_getD, this] at hd
            simp at hd
          · subst hj'
            exact ⟨rfl, rfl, herrB, herrN, rfl, rfl, hsub, hq, hs⟩
  · have ht : (tag != 0) = true := by simp [htag]
    simp only [ht, if_true] at hj'
    subst hj'
    exact ⟨rfl, rfl, herrB, herrN, rfl, rfl, fun w hw => hw, fun q _ => rfl, fun h => absurd h htag⟩

end HappyModel.C01.FV
