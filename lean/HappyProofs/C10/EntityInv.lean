import HappyModel.C10.Spec
namespace HappyModel.C10

variable {σ : Type}

/-- chronological views of the logs (the model stores them newest first) -/
def Ent.F (e : Ent σ) : List Nat := (e.fwd.map (·.1)).reverse
def Ent.D (e : Ent σ) : List Nat := e.dropped.reverse
def Ent.R (e : Ent σ) : List Nat := e.recv.reverse

variable (P : Policy σ) (qcap : Nat) (e : Ent σ)

@[simp] theorem ensurePoll_fwd (t : Nat) : (e.ensurePoll P t).fwd = e.fwd := by
  unfold Ent.ensurePoll; split <;> rfl
@[simp] theorem ensurePoll_dropped (t : Nat) : (e.ensurePoll P t).dropped = e.dropped := by
  unfold Ent.ensurePoll; split <;> rfl
@[simp] theorem ensurePoll_recv (t : Nat) : (e.ensurePoll P t).recv = e.recv := by
  unfold Ent.ensurePoll; split <;> rfl
@[simp] theorem ensurePoll_queue (t : Nat) : (e.ensurePoll P t).queue = e.queue := by
  unfold Ent.ensurePoll; split <;> rfl

theorem onReq_cases (id t : Nat) :
    (e.onReq P qcap id t).R = e.R ++ [id] ∧
    (((e.onReq P qcap id t).F ++ (e.onReq P qcap id t).queue = e.F ++ e.queue ++ [id] ∧
        (e.onReq P qcap id t).D = e.D) ∨
     ((e.onReq P qcap id t).F ++ (e.onReq P qcap id t).queue = e.F ++ e.queue ∧
        (e.onReq P qcap id t).D = e.D ++ [id])) := by
  unfold Ent.onReq
  split <;> split <;> simp_all [Ent.F, Ent.D, Ent.R]

theorem onPoll_cases (t : Nat) :
    (e.onPoll P t).R = e.R ∧ (e.onPoll P t).D = e.D ∧
    (e.onPoll P t).F ++ (e.onPoll P t).queue = e.F ++ e.queue := by
  unfold Ent.onPoll
  split
  · exact ⟨rfl, rfl, rfl⟩
  · split
    · split <;> simp_all [Ent.F, Ent.D, Ent.R]
    · simp [Ent.F, Ent.D, Ent.R]

theorem onReq_obs (id t : Nat) :
    ((e.onReq P qcap id t).fwd.length = e.fwd.length + 1 ∧
      (e.onReq P qcap id t).dropped.length = e.dropped.length ∧
      (e.onReq P qcap id t).queue.length = e.queue.length) ∨
    ((e.onReq P qcap id t).fwd.length = e.fwd.length ∧
      (e.onReq P qcap id t).dropped.length = e.dropped.length ∧ e.queue.length < qcap ∧
      (e.onReq P qcap id t).queue.length = e.queue.length + 1) ∨
    ((e.onReq P qcap id t).fwd.length = e.fwd.length ∧
      (e.onReq P qcap id t).dropped.length = e.dropped.length + 1 ∧ ¬ e.queue.length < qcap ∧
      (e.onReq P qcap id t).queue.length = e.queue.length) := by
  unfold Ent.onReq
  split <;> split <;> simp_all

theorem onPoll_obs (t : Nat) :
    ((e.onPoll P t).fwd.length = e.fwd.length ∧ (e.onPoll P t).dropped.length = e.dropped.length ∧
      (e.onPoll P t).queue.length = e.queue.length) ∨
    ((e.onPoll P t).fwd.length = e.fwd.length + 1 ∧ (e.onPoll P t).dropped.length = e.dropped.length ∧
      (e.onPoll P t).queue.length + 1 = e.queue.length) := by
  unfold Ent.onPoll
  split
  · exact Or.inl ⟨rfl, rfl, rfl⟩
  · split
    · split <;> simp_all
    · simp

structure EInv (e : Ent σ) : Prop where
  count : ∀ x, (e.F ++ e.queue ++ e.D).count x = e.R.count x
  order : (e.F ++ e.queue).Sublist e.R

theorem init_inv (s : σ) : EInv (Ent.init s) := by
  constructor
  · intro x; simp [Ent.init, Ent.F, Ent.D, Ent.R]
  · simp [Ent.init, Ent.F, Ent.R]

theorem step_inv (P : Policy σ) (qcap : Nat) (e : Ent σ) (a : Act) (h : EInv e) :
    EInv (e.step P qcap a) := by
  obtain ⟨hc, ho⟩ := h
  cases a with
  | req id t =>
    show EInv (e.onReq P qcap id t)
    obtain ⟨r, ⟨fq, d⟩ | ⟨fq, d⟩⟩ := onReq_cases P qcap e id t
    · refine ⟨fun x => ?_, by rw [r, fq]; exact ho.append (List.Sublist.refl [id])⟩
      have := hc x
      rw [r, fq, d]
      simp only [List.count_append] at this ⊢
      omega
    · refine ⟨fun x => ?_, by rw [r, fq]; exact ho.trans (List.sublist_append_left _ _)⟩
      have := hc x
      rw [r, fq, d]
      simp only [List.count_append] at this ⊢
      omega
  | poll t =>
    show EInv (e.onPoll P t)
    obtain ⟨r, d, fq⟩ := onPoll_cases P e t
    exact ⟨fun x => by rw [r, d, fq]; exact hc x, by rw [r, fq]; exact ho⟩

theorem run_inv (P : Policy σ) (qcap : Nat) : ∀ (acts : List Act) (e : Ent σ), EInv e →
    EInv (Ent.run P qcap e acts)
  | [], _, h => h
  | a :: as, e, h => run_inv P qcap as _ (step_inv P qcap e a h)

theorem step_R (a : Act) :
    (e.step P qcap a).R = e.R ++ reqIds [a] := by
  cases a with
  | req id t => simp only [Ent.step, reqIds]; exact (onReq_cases P qcap e id t).1
  | poll t => simp only [Ent.step, reqIds, List.append_nil]; exact (onPoll_cases P e t).1

theorem reqIds_cons (a : Act) (as : List Act) : reqIds (a :: as) = reqIds [a] ++ reqIds as := by
  cases a <;> simp [reqIds]

theorem run_R (P : Policy σ) (qcap : Nat) : ∀ (acts : List Act) (e : Ent σ),
    (Ent.run P qcap e acts).R = e.R ++ reqIds acts
  | [], e => by simp [Ent.run, reqIds]
  | a :: as, e => by
    rw [Ent.run, run_R P qcap as, step_R, reqIds_cons a as, List.append_assoc]

theorem nodupB_iff (l : List Nat) : nodupB l = true ↔ l.Nodup := by
  induction l with
  | nil => simp [nodupB]
  | cons x xs ih => simp [nodupB, List.nodup_cons, ih]

end HappyModel.C10
