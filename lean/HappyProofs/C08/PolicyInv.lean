import HappyModel.C08.PolicySpec
/-! Conservation (enqueued = dequeued + dropped + held) as an invariant of every operation of the queue-policy model. -/
namespace HappyModel.C08

def flowSum : List FlowSt → Nat
  | [] => 0
  | fl :: fs => fl.q.length + flowSum fs

theorem flowSum_append (a b : List FlowSt) : flowSum (a ++ b) = flowSum a + flowSum b := by
  induction a with
  | nil => simp [flowSum]
  | cons x xs ih => simp [flowSum, ih]; omega

theorem flowSum_appendTo (fs : List FlowSt) (f : Nat) (it : Item) (fl : FlowSt)
    (h : findFlow fs f = some fl) : flowSum (appendTo fs f it) = flowSum fs + 1 := by
  induction fs with
  | nil => simp [findFlow] at h
  | cons x xs ih =>
    by_cases hx : (x.fid == f) = true
    · simp [appendTo, hx, flowSum]; omega
    · have h' : findFlow xs f = some fl := by simpa [findFlow, List.find?, hx] using h
      have := ih h'
      simp [appendTo, hx, flowSum, this]; omega

theorem findFlow_cons (fl : FlowSt) (fs : List FlowSt) (f : Nat) :
    findFlow (fl :: fs) f = if fl.fid = f then some fl else findFlow fs f := by
  simp only [findFlow, List.find?_cons]
  split <;> simp_all

theorem findFlow_some {fs : List FlowSt} {f : Nat} {fl : FlowSt} (h : findFlow fs f = some fl) :
    fl ∈ fs ∧ fl.fid = f := by
  induction fs with
  | nil => simp [findFlow] at h
  | cons x xs ih => rw [findFlow_cons] at h; grind

theorem appendTo_fids (fs : List FlowSt) (f : Nat) (it : Item) :
    (appendTo fs f it).map (·.fid) = fs.map (·.fid) := by
  induction fs with
  | nil => rfl
  | cons x xs ih => grind [appendTo]

theorem appendTo_forall {P : FlowSt → Prop} (f : Nat) (it : Item) : ∀ {fs : List FlowSt}, (∀ x ∈ fs, P x) →
    (∀ fl, findFlow fs f = some fl → P { fl with q := fl.q ++ [it] }) → ∀ x ∈ appendTo fs f it, P x
  | [], h, _ => h
  | y :: ys, h, hp => by
    have hys := fun x hx => h x (List.mem_cons_of_mem _ hx)
    simp only [findFlow_cons] at hp
    simp only [appendTo]
    by_cases hy : y.fid = f
    · rw [if_pos (by simpa using hy)]
      exact List.forall_mem_cons.mpr ⟨hp y (if_pos hy), hys⟩
    · rw [if_neg (by simpa using hy)]
      exact List.forall_mem_cons.mpr
        ⟨h y List.mem_cons_self, appendTo_forall f it hys fun fl hfl => hp fl ((if_neg hy).trans hfl)⟩

theorem extractMin_none : ∀ l, extractMin l = none → l = []
  | [], _ => rfl
  | x :: xs, h => by
    simp only [extractMin] at h
    cases hx : extractMin xs with
    | none => rw [hx] at h; simp at h
    | some p => rw [hx] at h; simp only at h; split at h <;> simp at h

theorem entLt_iff (a b : Ent) :
    entLt a b = true ↔ a.item.key < b.item.key ∨ a.item.key = b.item.key ∧ a.seq < b.seq := by
  simp [entLt]

theorem extractMin_split : ∀ (l : List Ent) (m : Ent) (rest : List Ent), extractMin l = some (m, rest) →
    ∃ pre post, l = pre ++ m :: post ∧ rest = pre ++ post ∧
      (∀ x ∈ pre, entLt m x = true) ∧ ∀ x ∈ post, ¬ entLt x m = true
  | [], _, _, h => by simp [extractMin] at h
  | e :: es, m, rest, h => by
    simp only [extractMin] at h
    cases hx : extractMin es with
    | none =>
      rw [hx] at h
      cases h
      exact ⟨[], [], by rw [extractMin_none es hx]; rfl, rfl, by simp, by simp⟩
    | some p =>
      obtain ⟨m', r'⟩ := p
      obtain ⟨pre, post, rfl, rfl, h1, h2⟩ := extractMin_split es m' r' hx
      rw [hx] at h
      dsimp only at h
      by_cases hlt : entLt m' e = true
      · rw [if_pos hlt] at h
        cases h
        exact ⟨e :: pre, post, rfl, rfl, List.forall_mem_cons.mpr ⟨hlt, h1⟩, h2⟩
      · rw [if_neg hlt] at h
        cases h
        refine ⟨[], _, rfl, rfl, by simp, fun x hx => ?_⟩
        -- `entLt` is a strict total order: nothing is below the minimum of the tail, which is not below `m`
        rw [entLt_iff] at hlt ⊢
        rcases List.mem_append.mp hx with hx | hx
        · have := (entLt_iff _ _).mp (h1 x hx)
          omega
        · rcases List.mem_cons.mp hx with rfl | hx
          · exact hlt
          · have := h2 x hx
            rw [entLt_iff] at this
            omega

theorem extractMin_length (l : List Ent) (m : Ent) (rest : List Ent) (h : extractMin l = some (m, rest)) :
    rest.length + 1 = l.length := by
  obtain ⟨pre, post, rfl, rfl, -, -⟩ := extractMin_split l m rest h
  simp only [List.length_append, List.length_cons]
  omega

theorem extractMin_sublist {l : List Ent} {m : Ent} {rest : List Ent} (h : extractMin l = some (m, rest)) :
    rest.Sublist l := by
  obtain ⟨pre, post, rfl, rfl, -, -⟩ := extractMin_split l m rest h
  exact (List.Sublist.refl pre).append (List.sublist_cons_self m post)

def Kind.isFlow : Kind → Bool
  | .fair | .wfq => true
  | _ => false

variable {c : Cfg} {s : St}

theorem len_q (h : c.kind.isFlow = false) : len c s = s.q.length := by
  unfold len; cases hk : c.kind <;> simp_all [Kind.isFlow]

theorem len_total (h : c.kind.isFlow = true) : len c s = s.total := by
  unfold len; cases hk : c.kind <;> simp_all [Kind.isFlow]

structure Cons (c : Cfg) (s : St) : Prop where
  cons : s.enq = s.deq + s.deqL + s.drp + len c s
  tot : s.total = flowSum s.flows

theorem cons_init (c : Cfg) : Cons c {} := by
  constructor
  · cases hk : c.kind <;> simp [len, hk]
  · rfl

theorem Cons.of_q {s s' : St} (hk : c.kind.isFlow = false) (h : Cons c s)
    (hb : s'.enq + (s.deq + s.deqL + s.drp + s.q.length) = s.enq + (s'.deq + s'.deqL + s'.drp + s'.q.length))
    (ht : s'.total = s.total) (hf : s'.flows = s.flows) : Cons c s' := by
  have h1 := h.cons
  rw [len_q hk] at h1
  exact ⟨by rw [len_q hk]; omega, by rw [ht, hf]; exact h.tot⟩

theorem Cons.of_flows {s s' : St} (hk : c.kind.isFlow = true) (h : Cons c s)
    (hb : s'.enq + (s.deq + s.deqL + s.drp + s.total) = s.enq + (s'.deq + s'.deqL + s'.drp + s'.total))
    (ht : s'.total = flowSum s'.flows) : Cons c s' := by
  have h1 := h.cons
  rw [len_total hk] at h1
  exact ⟨by rw [len_total hk]; omega, ht⟩

/-- `FIFOQueue.push` (and every policy that pushes like it) is `REDQueue.push` without an early drop -/
theorem pushList_eq (c : Cfg) (s : St) (it : Item) : pushList c s it = pushRed c s it false := by
  unfold pushList pushRed
  split <;> rfl

theorem pushRed_cons (it : Item) (rd : Bool) (hk : c.kind.isFlow = false) (h : Cons c s) : Cons c
    (pushRed c s it rd).1 := by
  unfold pushRed
  split
  · exact h.of_q hk rfl rfl rfl
  · split
    · exact h.of_q hk rfl rfl rfl
    · exact h.of_q hk (by simp; omega) rfl rfl

theorem pushFair_cons (it : Item) (hk : c.kind.isFlow = true) (h : Cons c s) : Cons c (pushFair c s it).1 := by
  have ht := h.tot
  unfold pushFair
  split
  · split
    · exact h.of_flows hk rfl ht
    · exact h.of_flows hk (by simp; omega) (by simp [flowSum_append, flowSum, ht])
  · rename_i fl hf
    split
    · exact h.of_flows hk rfl ht
    · exact h.of_flows hk (by simp; omega) (by simp [flowSum_appendTo _ _ _ fl hf, ht])

theorem pushWfq_cons (it : Item) (hk : c.kind.isFlow = true) (h : Cons c s) : Cons c (pushWfq c s it).1 := by
  have ht := h.tot
  unfold pushWfq
  split
  · exact h.of_flows hk rfl ht
  · split
    · exact h.of_flows hk (by simp; omega) (by simp [flowSum_append, flowSum, ht])
    · rename_i fl hf
      split
      · exact h.of_flows hk rfl ht
      · exact h.of_flows hk (by simp; omega) (by simp [flowSum_appendTo _ _ _ fl hf, ht])

theorem pushInner_cons (it : Item) (rd : Bool) (h : Cons c s) : Cons c (pushInner c s it rd).1 := by
  cases hk : c.kind <;> simp only [pushInner, hk]
  case fair => exact pushFair_cons it (congrArg Kind.isFlow hk) h
  case wfq => exact pushWfq_cons it (congrArg Kind.isFlow hk) h
  case red => exact pushRed_cons it rd (congrArg Kind.isFlow hk) h
  all_goals exact pushList_eq c s it ▸ pushRed_cons it false (congrArg Kind.isFlow hk) h

theorem len_balked (c : Cfg) (s : St) : len c { s with balked := s.balked + 1 } = len c s := by
  unfold len; cases c.kind <;> rfl

theorem cons_balked (h : Cons c s) : Cons c { s with balked := s.balked + 1 } :=
  ⟨by rw [len_balked]; exact h.cons, h.tot⟩

/-- `BalkingQueue.push` as a case principle: the balk that is only counted, or the inner policy's push -/
theorem push_ind {P : St → Prop} (it : Item) (coin rd : Bool) (hb : P { s with balked := s.balked + 1 })
    (hi : P (pushInner c s it rd).1) : P (push c s it coin rd).1 := by
  unfold push
  split
  · split
    · exact hb
    · exact hi
  · exact hi

theorem push_cons (it : Item) (coin rd : Bool) (h : Cons c s) : Cons c (push c s it coin rd).1 :=
  push_ind (P := Cons c) it coin rd (cons_balked h) (pushInner_cons it rd h)

theorem getLast?_some_length {α} {l : List α} {e : α} (h : l.getLast? = some e) : l.dropLast.length + 1 = l.length := by
  cases l with
  | nil => simp at h
  | cons x xs => simp

/-- What a fair-share pop does to the books: it rearranges the dictionary (an empty flow is deleted, a
    flow out of credits goes to the end with fresh ones), which moves no item, then serves at most one. -/
inductive FlowPop (s : St) : St → Prop
  | idle (fs : List FlowSt) (r : Nat) : flowSum fs = flowSum s.flows → FlowPop s { s with flows := fs, removed := r }
  | serve (fs : List FlowSt) (r : Nat) : flowSum fs + 1 = flowSum s.flows →
      FlowPop s { s with flows := fs, removed := r, total := s.total - 1, deq := s.deq + 1 }

theorem FlowPop.after {s s' : St} (fs : List FlowSt) (r : Nat) (e : flowSum fs = flowSum s.flows)
    (h : FlowPop { s with flows := fs, removed := r } s') : FlowPop s s' := by
  cases h with
  | idle fs' r' e' => exact .idle fs' r' (e'.trans e)
  | serve fs' r' e' => exact .serve fs' r' (e'.trans e)

theorem FlowPop.total_le {s s' : St} (h : FlowPop s s') : s'.total ≤ s.total := by
  cases h with
  | idle => exact Nat.le_refl _
  | serve => exact Nat.sub_le _ _

theorem FlowPop.cons {s s' : St} (hp : FlowPop s s') (hk : c.kind.isFlow = true) (h : Cons c s) : Cons c s' := by
  have ht := h.tot
  cases hp with
  | idle fs r e => exact h.of_flows hk rfl (ht.trans e.symm)
  | serve fs r e => exact h.of_flows hk (by dsimp only; omega) (by dsimp only; omega)

theorem popFair_flowPop : ∀ (fuel : Nat) (s : St), FlowPop s (popFair fuel s).1
  | 0, s => .idle s.flows s.removed rfl
  | fuel + 1, s => by
    unfold popFair
    split
    · exact .idle s.flows s.removed rfl
    · rename_i fl rest hf
      split
      · rename_i hq
        exact .after _ _ (by simp [hf, hq, flowSum]) (popFair_flowPop fuel _)
      · rename_i it q' hq
        split
        · rename_i he
          exact .serve _ _ (by simp [hf, hq, flowSum, List.isEmpty_iff.mp he]; omega)
        · exact .serve _ _ (by simp [hf, hq, flowSum, flowSum_append]; omega)

theorem popWfq_flowPop : ∀ (fuel : Nat) (s : St), FlowPop s (popWfq fuel s).1
  | 0, s => .idle s.flows s.removed rfl
  | fuel + 1, s => by
    unfold popWfq
    split
    · exact .idle s.flows s.removed rfl
    · rename_i fl rest hf
      split
      · rename_i hq
        exact .after _ _ (by simp [hf, hq, flowSum]) (popWfq_flowPop fuel _)
      · rename_i it q' hq
        split
        · simp only
          split
          · rename_i he
            exact .serve _ _ (by simp [hf, hq, flowSum, List.isEmpty_iff.mp he]; omega)
          · split
            · exact .serve _ _ (by simp [hf, hq, flowSum, flowSum_append]; omega)
            · exact .serve _ _ (by simp [hf, hq, flowSum]; omega)
        · exact .after _ s.removed (by simp [hf, hq, flowSum, flowSum_append]; omega) (popWfq_flowPop fuel _)

theorem pop_flowPop (hk : c.kind.isFlow = true) (s : St) (now k : Nat) : FlowPop s (pop c s now k).1 := by
  cases hkk : c.kind <;> simp only [pop, hkk] <;> first | exact popFair_flowPop _ s | exact popWfq_flowPop _ s | skip
  all_goals rw [hkk] at hk; cases hk

theorem popDeadline_books (now : Nat) (hk : c.kind.isFlow = false) : ∀ (fuel : Nat) (s : St),
    (Cons c s → Cons c (popDeadline now fuel s).1) ∧ (popDeadline now fuel s).1.q.length ≤ s.q.length
  | 0, _ => ⟨id, Nat.le_refl _⟩
  | fuel + 1, s => by
    unfold popDeadline
    split
    · exact ⟨id, Nat.le_refl _⟩
    · rename_i m rest hq
      have hl := extractMin_length _ _ _ hq
      split
      · have ih := popDeadline_books now hk fuel { s with q := rest, drp := s.drp + 1 }
        exact ⟨fun h => ih.1 (h.of_q hk (by simp; omega) rfl rfl), Nat.le_trans ih.2 (Nat.le.intro hl)⟩
      · exact ⟨fun h => h.of_q hk (by simp; omega) rfl rfl, Nat.le.intro hl⟩

theorem pop_books (c : Cfg) (s : St) (now k : Nat) :
    (Cons c s → Cons c (pop c s now k).1) ∧ len c (pop c s now k).1 ≤ len c s := by
  cases hf : c.kind.isFlow
  case true =>
    rw [len_total hf, len_total hf]
    exact ⟨(pop_flowPop hf s now k).cons hf, (pop_flowPop hf s now k).total_le⟩
  rw [len_q hf, len_q hf]
  cases hk : c.kind <;> simp only [pop, hk]
  case fifo | red =>
    unfold popHead
    split
    · exact ⟨id, Nat.le_refl _⟩
    · rename_i e es hq
      exact ⟨fun h => h.of_q hf (by simp [hq]; omega) rfl rfl, by simp [hq]⟩
  case lifo =>
    unfold popLast
    split
    · exact ⟨id, Nat.le_refl _⟩
    · rename_i e hq
      have := getLast?_some_length hq
      exact ⟨fun h => h.of_q hf (by simp; omega) rfl rfl, by simp⟩
  case codel =>
    unfold popCodel
    split
    · exact ⟨id, Nat.le_refl _⟩
    · rename_i e es hq
      exact ⟨fun h => h.of_q hf (by simp [hq]; omega) rfl rfl, by simp [hq]; omega⟩
  case adaptive =>
    unfold popAdaptive
    split
    · exact ⟨id, Nat.le_refl _⟩
    · rename_i e es hq
      dsimp only
      split
      · split
        · exact ⟨id, Nat.le_refl _⟩
        · rename_i l hl
          have := getLast?_some_length hl
          exact ⟨fun h => h.of_q hf (by simp [hq] at this ⊢; omega) rfl rfl, by simp [hq]⟩
      · exact ⟨fun h => h.of_q hf (by simp [hq]; omega) rfl rfl, by simp [hq]⟩
  case prio =>
    unfold popPrio
    split
    · exact ⟨id, Nat.le_refl _⟩
    · rename_i m rest hq
      have hl := extractMin_length _ _ _ hq
      exact ⟨fun h => h.of_q hf (by simp; omega) rfl rfl, Nat.le.intro hl⟩
  case deadline => exact popDeadline_books now hf _ s
  all_goals rw [hk] at hf; cases hf

theorem pop_len_le (c : Cfg) (s : St) (now k : Nat) : len c (pop c s now k).1 ≤ len c s :=
  (pop_books c s now k).2

theorem purge_other (hk : c.kind ≠ .deadline) (s : St) (now : Nat) : purge c s now = (s, 0) := by
  cases h : c.kind <;> simp only [purge, h]
  exact absurd h hk

theorem purge_cons (now : Nat) (h : Cons c s) : Cons c (purge c s now).1 := by
  cases hk : c.kind <;> simp only [purge, hk] <;> try exact h
  have := List.length_filter_le (isLive now) s.q
  exact h.of_q (congrArg Kind.isFlow hk) (by dsimp only; omega) rfl rfl

theorem step_cons (o : Op) (h : Cons c s) : Cons c (step c s o).1 := by
  cases o with
  | push it now coin rd => exact push_cons it coin rd h
  | pop now k => exact (pop_books c s now k).1 h
  | peek now => exact h
  | purge now => exact purge_cons now h
  | query now f => exact h

theorem finalSt_ind {P : St → Prop} (hstep : ∀ {s : St} {o : Op}, P s → P (step c s o).1) :
    ∀ (ops : List Op) {s : St}, P s → P (finalSt c s ops)
  | [], _, h => h
  | _ :: os, _, h => finalSt_ind hstep os (hstep h)

end HappyModel.C08
