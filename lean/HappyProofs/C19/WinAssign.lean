import HappyModel.C19.WinSpec
/-!
Window assignment: the code's loops (`assign`) against the definition (`specWindows`).
-/
namespace HappyModel.C19.Win

/-- a tumbling window processor puts an event time into exactly one window: the size-aligned one
that contains it -/
theorem tumbling_assigns_exactly_one (cfg : Cfg) (et : Nat) (hk : cfg.kind = 0) (hs : 0 < cfg.size) :
    ∃ s, assign cfg et = [(s, s + cfg.size)] ∧ s ≤ et ∧ et < s + cfg.size ∧ cfg.size ∣ s := by
  refine ⟨et / cfg.size * cfg.size, ?_, Nat.div_mul_le_self _ _, Nat.lt_div_mul_add hs, Nat.dvd_mul_left _ _⟩
  simp [assign, hk]

example : assign { kind := 0, size := 4, slide := 0, gap := 0, late := 0, policy := 0, side := false, interval := 1 } 11
    = [(8, 12)] := by decide +kernel

/-- membership in `specWindows` for sliding windows is the definition of "the window contains `et`" -/
theorem mem_specWindows_iff (cfg : Cfg) (et s e : Nat) (hk : cfg.kind ≠ 0) (hs : 0 < cfg.slide) :
    (s, e) ∈ specWindows cfg et ↔ (∃ j, s = j * cfg.slide) ∧ e = s + cfg.size ∧ s ≤ et ∧ et < e := by
  simp only [specWindows, hk, if_false, List.mem_map, List.mem_filter, List.mem_range, decide_eq_true_eq,
    Prod.mk.injEq]
  constructor
  · rintro ⟨j, ⟨hj, hlt⟩, rfl, rfl⟩
    refine ⟨⟨j, rfl⟩, rfl, ?_, hlt⟩
    have := (Nat.le_div_iff_mul_le hs).mp (Nat.lt_succ_iff.mp hj)
    exact this
  · rintro ⟨⟨j, rfl⟩, rfl, hle, hlt⟩
    exact ⟨j, ⟨Nat.lt_succ_iff.mpr ((Nat.le_div_iff_mul_le hs).mpr hle), hlt⟩, rfl, rfl⟩

example : specWindows { kind := 1, size := 4, slide := 2, gap := 0, late := 0, policy := 0, side := false, interval := 1 } 7
    = [(4, 8), (6, 10)] := by decide +kernel

theorem filter_range_eq_nil (P : Nat → Bool) (hmono : ∀ j, P j = true → P (j + 1) = true) :
    ∀ n, P n = false → (List.range (n + 1)).filter P = [] := by
  intro n
  induction n with
  | zero => intro h; simp [List.range_succ, h]
  | succ m ih =>
    intro h
    have hm : P m = false := by
      cases hpm : P m with
      | false => rfl
      | true => rw [hmono m hpm] at h; exact absurd h (by decide)
    rw [List.range_succ, List.filter_append, ih hm]
    simp [h]

theorem slideLoop_succ (size slide et f start : Nat) :
    slideLoop size slide et (f + 1) start =
      if et < start + size then
        start :: (if start < slide then [] else slideLoop size slide et f (start - slide))
      else [] := rfl

theorem slideLoop_eq (size slide et : Nat) (hs : 0 < slide) :
    ∀ n, (slideLoop size slide et (n + 1) (n * slide)).reverse =
      ((List.range (n + 1)).filter fun j => decide (et < j * slide + size)).map (· * slide) := by
  have hmono : ∀ j, decide (et < j * slide + size) = true → decide (et < (j + 1) * slide + size) = true := by
    intro j h
    have h' := of_decide_eq_true h
    have : (j + 1) * slide = j * slide + slide := Nat.succ_mul j slide
    exact decide_eq_true (by omega)
  intro n
  induction n with
  | zero =>
    by_cases h : et < size
    · simp [slideLoop, h, hs, List.range_succ]
    · simp [slideLoop, h, List.range_succ]
  | succ m ih =>
    by_cases h : et < (m + 1) * slide + size
    · have hge : ¬ (m + 1) * slide < slide := by
        have : (m + 1) * slide = m * slide + slide := Nat.succ_mul m slide
        omega
      have hsub : (m + 1) * slide - slide = m * slide := by
        have : (m + 1) * slide = m * slide + slide := Nat.succ_mul m slide
        omega
      rw [List.range_succ (n := m + 1), List.filter_append, List.map_append, slideLoop_succ]
      simp only [h, if_true, hge, if_false, hsub, List.reverse_cons, ih]
      simp [h]
    · have hf : (fun j => decide (et < j * slide + size)) (m + 1) = false := by simp [h]
      rw [filter_range_eq_nil _ hmono (m + 1) hf, slideLoop_succ]
      simp [h]

/-- for every event time the windows the code's `assign_windows` returns are exactly the windows that
contain it (same list, ascending) -/
theorem assign_eq_specWindows (cfg : Cfg) (et : Nat) (hs : cfg.kind = 0 ∨ 0 < cfg.slide) :
    assign cfg et = specWindows cfg et := by
  by_cases hk : cfg.kind = 0
  · simp [assign, specWindows, hk]
  · have hs' : 0 < cfg.slide := by cases hs with
      | inl h => exact absurd h hk
      | inr h => exact h
    simp only [assign, specWindows, hk, if_false]
    rw [slideLoop_eq cfg.size cfg.slide et hs' (et / cfg.slide)]
    simp [List.map_map, Function.comp_def]

theorem filter_ge_range_length (a : Nat) : ∀ n, ((List.range n).filter fun j => decide (a ≤ j)).length = n - a := by
  intro n
  induction n with
  | zero => simp
  | succ m ih =>
    rw [List.range_succ, List.filter_append, List.length_append, ih]
    by_cases h : a ≤ m
    · simp [h]; omega
    · simp [h]; omega

/-- a sliding window whose size is `m` slides puts every event time (late enough that no window would
start before 0) into exactly `m = size / slide` windows -/
theorem sliding_assigns_size_div_slide (cfg : Cfg) (et m : Nat) (hk : cfg.kind ≠ 0) (hs : 0 < cfg.slide)
    (hm : cfg.size = m * cfg.slide) (hearly : cfg.size ≤ et + cfg.slide) :
    (assign cfg et).length = m := by
  rw [assign_eq_specWindows cfg et (Or.inr hs)]
  simp only [specWindows, hk, if_false, List.length_map]
  have hq : m ≤ et / cfg.slide + 1 := by
    rcases Nat.eq_zero_or_pos m with h0 | hpos
    · rw [h0]; exact Nat.zero_le _
    · have h1 : (m - 1) * cfg.slide ≤ et := by
        have : m * cfg.slide = (m - 1) * cfg.slide + cfg.slide := by
          have : m = (m - 1) + 1 := by omega
          conv => lhs; rw [this, Nat.succ_mul]
        omega
      have := (Nat.le_div_iff_mul_le hs).mpr h1
      generalize et / cfg.slide = q at this ⊢
      omega
  -- with `q = et / slide`: window `j` holds `et` iff `q + 1 - m ≤ j`, so the filter keeps the last `m` of the `q + 1` indices
  have hP : (fun j => decide (et < j * cfg.slide + cfg.size)) =
      fun j => decide (et / cfg.slide + 1 - m ≤ j) := by
    funext j
    have e1 : j * cfg.slide + cfg.size = (j + m) * cfg.slide := by rw [hm, Nat.add_mul]
    have e2 : et < (j + m) * cfg.slide ↔ et / cfg.slide < j + m := (Nat.div_lt_iff_lt_mul hs).symm
    rw [e1]
    generalize et / cfg.slide = q at e2 hq ⊢
    by_cases h : q < j + m
    · have h2 : q + 1 - m ≤ j := by omega
      simp [e2.mpr h, h2]
    · have h2 : ¬ q + 1 - m ≤ j := by omega
      have h3 : ¬ et < (j + m) * cfg.slide := fun hh => h (e2.mp hh)
      simp [h3, h2]
  rw [hP, filter_ge_range_length]
  generalize et / cfg.slide = q at hq ⊢
  omega

example : (assign { kind := 1, size := 6, slide := 2, gap := 0, late := 0, policy := 0, side := false, interval := 1 } 9).length = 3 := by
  decide +kernel

/-- early event times belong to fewer windows (the code stops at a negative start) -/
example : (assign { kind := 1, size := 6, slide := 2, gap := 0, late := 0, policy := 0, side := false, interval := 1 } 1).length = 1 := by
  decide +kernel

end HappyModel.C19.Win
