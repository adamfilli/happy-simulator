import HappyModel.C04.Control
import HappyProofs.C01.Lemmas
/-!
One call of the instrumented loop: the one induction principle every statement about `ctlLoop` goes through, and
what it gives for breakpoints.
-/
namespace HappyModel.C04
open HappyModel.C01

variable {σ : Type} [Probe σ]

/-- ghost view of one call of run()/resume()/step(n): the deliveries it makes, in order, each with
    the engine state right after it and the breakpoints registered at that moment — those of the
    start of the call plus what on_event hooks have added since, the hooks of this very delivery
    included (what `_check_breakpoints` looks at).  Same recursion as `ctlLoop`. -/
def ctlDelivs (m : Machine σ) (endT : Option Nat) : Nat → St σ → Ctl → List ((St σ × Ev) × List Bp)
  | 0, _, _ => []
  | fuel+1, s, c =>
    if !loopCond endT s then []
    else if shouldPause c then []
    else if endT.isNone && s.primary == 0 then []
    else
      match s.heap with
      | [] => []
      | x :: xs =>
        let e := minOf x xs
        let s' := stepWith m s e
        if s'.processed == s.processed then ctlDelivs m endT fuel s' c
        else
          let c1 := { c with steps := c.steps.map (· - 1),
                             pauseReq := c.pauseReq || c.pauseAt.contains s'.processed,
                             bps := c.bps ++ added c s'.processed }
          let hits := c1.bps.filter (Bp.hit s' e)
          if hits.isEmpty then ((s', e), c1.bps) :: ctlDelivs m endT fuel s' c1
          else [((s', e), c1.bps)]

def fires (bps : List Bp) (p : St σ × Ev) : Prop := ∃ b ∈ bps, b.hit p.1 p.2 = true

theorem filter_isEmpty_iff_not_fires (bps : List Bp) (p : St σ × Ev) :
    (bps.filter (Bp.hit p.1 p.2)).isEmpty = true ↔ ¬ fires bps p := by
  simp [List.isEmpty_iff, List.filter_eq_nil_iff, fires]

theorem mem_added {c : Ctl} {a : Nat × Bp} (h : a ∈ c.addAt) : a.2 ∈ added c a.1 :=
  List.mem_map.mpr ⟨a, List.mem_filter.mpr ⟨h, beq_self_eq_true _⟩, rfl⟩

theorem stepWith_processed (m : Machine σ) (s : St σ) (e : Ev) :
    (stepWith m s e).processed = s.processed ∨ (stepWith m s e).processed = s.processed + 1 :=
  C01.stepWith_processed m s e

/-- the control state after the on_event hooks of the delivery that made `processed = n` have run
    (`_notify_event_processed`) -/
abbrev Ctl.delivered (c : Ctl) (n : Nat) : Ctl :=
  { c with steps := c.steps.map (· - 1), pauseReq := c.pauseReq || c.pauseAt.contains n,
           bps := c.bps ++ added c n }

/-- induction over one call of run()/resume()/step(n), result (`ctlLoop`) and deliveries (`ctlDelivs`)
    together.  The call ends at once (out of fuel; the plain loop has halted; a pause is due), or it makes
    an iteration of the plain loop — `step m endT s = some s'` — and then goes on from `s'` (a pop that
    delivers nothing; a delivery on which no breakpoint fires) or pauses there (one fires).  The cases state what
    the users of the principle read: `shouldPause c = false` holds in `skip` and `hit` too and is given in `quiet` only. -/
@[elab_as_elim]
theorem ctl_induction {motive : St σ → Ctl → St σ × Ctl × Outcome → List ((St σ × Ev) × List Bp) → Prop}
    (m : Machine σ) (endT : Option Nat)
    (fuel : ∀ s c, motive s c (s, c, .fuel) [])
    (complete : ∀ s c, step m endT s = none → motive s c (s, c, .complete) [])
    (paused : ∀ s c, shouldPause c = true → motive s c (s, c, .paused) [])
    (skip : ∀ s c s' r D, step m endT s = some s' → s'.processed = s.processed → motive s' c r D → motive s c r D)
    (quiet : ∀ s c s' e c' r D, step m endT s = some s' → shouldPause c = false →
      s'.processed = s.processed + 1 → c' = c.delivered s'.processed → ¬ fires c'.bps (s', e) →
      motive s' c' r D → motive s c r (((s', e), c'.bps) :: D))
    (hit : ∀ s c s' e c', step m endT s = some s' → c' = c.delivered s'.processed → fires c'.bps (s', e) →
      motive s c (s', { c' with bps := c'.bps.filter fun b => !(b.hit s' e && b.oneShot) }, .paused)
        [((s', e), c'.bps)])
    (n : Nat) (s : St σ) (c : Ctl) : motive s c (ctlLoop m endT n s c) (ctlDelivs m endT n s c) := by
  induction n generalizing s c with
  | zero => exact fuel s c
  | succ n ih =>
    -- the two exits of the control loop (loop condition, auto-termination) are together the one exit of the plain
    -- loop: this is what lets `complete` promise `step m endT s = none`
    have hcont : continues endT s = (loopCond endT s && !(endT.isNone && s.primary == 0)) := by
      cases endT with
      | some t => simp [continues, loopCond]
      | none => simp [continues, loopCond, Nat.pos_iff_ne_zero]; rfl
    unfold ctlLoop ctlDelivs
    cases h1 : loopCond endT s with
    | false => exact complete s c (step_eq_none.mpr (by rw [hcont, h1]; rfl))
    | true =>
      cases hp : shouldPause c with
      | true => exact paused s c hp
      | false =>
        cases h2 : (endT.isNone && s.primary == 0) with
        | true => exact complete s c (step_eq_none.mpr (by rw [hcont, h1, h2]; rfl))
        | false =>
          cases hh : s.heap with
          | nil => simp [loopCond, hh] at h1
          | cons x xs =>
            have hstep : step m endT s = some (stepWith m s (minOf x xs)) := by
              simp [step, hh, hcont, h1, h2]
            have hproc := stepWith_processed m s (minOf x xs)
            simp only [Bool.not_true, Bool.false_eq_true, if_false, beq_iff_eq]
            generalize stepWith m s (minOf x xs) = s' at hstep hproc ⊢
            by_cases hq : s'.processed = s.processed
            · simp only [hq, if_true]
              exact skip s c s' _ _ hstep hq (ih s' c)
            · simp only [hq, if_false]
              have hq' := hproc.resolve_left hq
              by_cases hf : fires (c.delivered s'.processed).bps (s', minOf x xs)
              · rw [if_neg (mt (filter_isEmpty_iff_not_fires _ (s', _)).mp (not_not_intro hf)),
                  if_neg (mt (filter_isEmpty_iff_not_fires _ (s', _)).mp (not_not_intro hf))]
                exact hit s c s' _ _ hstep rfl hf
              · rw [if_pos ((filter_isEmpty_iff_not_fires _ (s', _)).mpr hf),
                  if_pos ((filter_isEmpty_iff_not_fires _ (s', _)).mpr hf)]
                exact quiet s c s' _ _ _ _ hstep hp hq' rfl hf (ih s' _)

structure CallFacts (bps : List Bp) (addAt : List (Nat × Bp)) (D : List ((St σ × Ev) × List Bp))
    (r : St σ × Ctl × Outcome) : Prop where
  /-- the registry only grows while nothing fires: what was registered at the start of the call is
      registered at every delivery of the call -/
  grow : ∀ x ∈ D, ∀ b ∈ bps, b ∈ x.2
  /-- … and a breakpoint that a hook adds on a delivery (`processed = k`) is in force for that very delivery -/
  hooked : ∀ x ∈ D, ∀ a ∈ addAt, a.1 = x.1.1.processed → a.2 ∈ x.2
  /-- either no delivery fired a breakpoint registered at that moment: then every breakpoint registered at
      the start of the call still is (hooks may have added more) and a pause can only come from a pause
      request or an exhausted step budget; or the last delivery is the only one that fired: then the call
      comes back paused in the state right after it, and exactly the one-shot breakpoints that fired on it
      are unregistered -/
  ends : ((∀ x ∈ D, ¬ fires x.2 x.1) ∧ (∀ b ∈ bps, b ∈ r.2.1.bps) ∧
        (r.2.2 = .paused → shouldPause r.2.1 = true)) ∨
      ∃ pre x, D = pre ++ [x] ∧ (∀ q ∈ pre, ¬ fires q.2 q.1) ∧ fires x.2 x.1 ∧ r.2.2 = .paused ∧
        r.1 = x.1.1 ∧ r.2.1.bps = x.2.filter (fun b => !(b.hit x.1.1 x.1.2 && b.oneShot))

theorem callFacts (m : Machine σ) (endT : Option Nat) (fuel : Nat) (s : St σ) (c : Ctl) :
    CallFacts c.bps c.addAt (ctlDelivs m endT fuel s c) (ctlLoop m endT fuel s c) := by
  have stop : ∀ (s : St σ) (c : Ctl) (o : Outcome), (o = .paused → shouldPause c = true) →
      CallFacts c.bps c.addAt [] (s, c, o) :=
    fun s c o ho => ⟨nofun, nofun, .inl ⟨nofun, fun _ hb => hb, ho⟩⟩
  have reg : ∀ (c : Ctl) (n : Nat), (∀ b ∈ c.bps, b ∈ (c.delivered n).bps) ∧
      ∀ a ∈ c.addAt, a.1 = n → a.2 ∈ (c.delivered n).bps :=
    fun c n => ⟨fun b => List.mem_append_left _, fun a ha hn => List.mem_append_right _ (hn ▸ mem_added ha)⟩
  refine ctl_induction (motive := fun s c r D => CallFacts c.bps c.addAt D r) m endT
    (fun s c => stop s c _ nofun) (fun s c _ => stop s c _ nofun) (fun s c hp => stop s c _ fun _ => hp)
    (fun _ _ _ _ _ _ _ ih => ih) ?_ ?_ fuel s c
  · rintro s c s' e c' r D - - - rfl hnf ih
    obtain ⟨hsub, hadd⟩ := reg c s'.processed
    refine ⟨List.forall_mem_cons.mpr ⟨hsub, fun y hy b hb => ih.grow y hy b (hsub b hb)⟩,
      List.forall_mem_cons.mpr ⟨hadd, ih.hooked⟩, ?_⟩
    exact ih.ends.imp
      (fun h => ⟨List.forall_mem_cons.mpr ⟨hnf, h.1⟩, fun b hb => h.2.1 b (hsub b hb), h.2.2⟩)
      fun ⟨pre, x, hD, hpre, rest⟩ => ⟨_ :: pre, x, by rw [hD]; rfl, List.forall_mem_cons.mpr ⟨hnf, hpre⟩, rest⟩
  · rintro s c s' e c' - rfl hf
    obtain ⟨hsub, hadd⟩ := reg c s'.processed
    exact ⟨List.forall_mem_singleton.mpr hsub, List.forall_mem_singleton.mpr hadd,
      .inr ⟨[], _, rfl, nofun, hf, rfl, rfl, rfl⟩⟩

end HappyModel.C04
