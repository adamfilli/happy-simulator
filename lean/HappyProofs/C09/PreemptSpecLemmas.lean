import HappyProofs.C09.PreemptOrder
namespace HappyModel.C09.Preempt

/-- arrival order of the judge's `waiting` list: call ids ascend -/
def idLt (a c : G) : Prop := a.id < c.id

theorem sortedIds_sorted (l : List Nat) : (sortedIds l).Pairwise (fun a b => decide (a ≤ b) = true) :=
  List.pairwise_mergeSort (fun a b c h1 h2 => by simp only [decide_eq_true_eq] at *; omega)
    (fun a b => by simp only [Bool.or_eq_true, decide_eq_true_eq]; omega) l

theorem sortedIds_idem (l : List Nat) : sortedIds (sortedIds l) = sortedIds l :=
  List.mergeSort_of_pairwise (sortedIds_sorted l)

theorem sortedIds_nil : sortedIds [] = [] := by unfold sortedIds; simp

/-! `List.mergeSort` is defined by well-founded recursion, which `decide` cannot evaluate: for the concrete
examples the sorted id lists are computed by a structurally recursive insertion sort that returns the same list. -/

def insertId (x : Nat) : List Nat → List Nat
  | [] => [x]
  | y :: ys => if x ≤ y then x :: y :: ys else y :: insertId x ys

def isortIds : List Nat → List Nat
  | [] => []
  | x :: xs => insertId x (isortIds xs)

theorem insertId_perm (x : Nat) (l : List Nat) : (insertId x l).Perm (x :: l) := by
  induction l with
  | nil => exact List.Perm.refl _
  | cons y ys ih =>
    simp only [insertId]
    split
    · exact List.Perm.refl _
    · exact (List.Perm.cons y ih).trans (List.Perm.swap x y ys)

theorem insertId_sorted (x : Nat) (l : List Nat) (h : l.Pairwise (· ≤ ·)) : (insertId x l).Pairwise (· ≤ ·) := by
  induction l with
  | nil => simp [insertId]
  | cons y ys ih =>
    rw [List.pairwise_cons] at h
    simp only [insertId]
    split
    · rename_i hxy
      exact List.pairwise_cons.mpr
        ⟨List.forall_mem_cons.mpr ⟨hxy, fun z hz => Nat.le_trans hxy (h.1 z hz)⟩, List.pairwise_cons.mpr h⟩
    · rename_i hxy
      refine List.pairwise_cons.mpr ⟨fun z hz => ?_, ih h.2⟩
      exact List.forall_mem_cons.mpr ⟨by omega, h.1⟩ z ((insertId_perm x ys).mem_iff.mp hz)

theorem isortIds_perm (l : List Nat) : (isortIds l).Perm l := by
  induction l with
  | nil => exact List.Perm.refl _
  | cons x xs ih => exact (insertId_perm x _).trans (List.Perm.cons x ih)

theorem isortIds_sorted (l : List Nat) : (isortIds l).Pairwise (· ≤ ·) := by
  induction l with
  | nil => simp [isortIds]
  | cons x xs ih => exact insertId_sorted x _ ih

theorem sortedIds_eq_isort (l : List Nat) : sortedIds l = isortIds l := by
  apply List.Perm.eq_of_pairwise (le := fun a b => a ≤ b)
  · intro a b _ _ h1 h2; omega
  · simpa using sortedIds_sorted l
  · exact isortIds_sorted l
  · exact (List.mergeSort_perm l _).trans (isortIds_perm l).symm

theorem headOf_cons (w : G) (ws : List G) :
    headOf (w :: ws) = match headOf ws with
      | none => some w
      | some h => if h.prio < w.prio then some h else some w := rfl

theorem before_asymm (a c : G) (h1 : before a c) (h2 : before c a) : False := by
  unfold before at h1 h2; omega

theorem before_trans (a c d : G) (h1 : before a c) (h2 : before c d) : before a d := by
  unfold before at *; omega

theorem headOf_spec (l : List G) (hl : l.Pairwise idLt) (hne : l ≠ []) :
    ∃ m, headOf l = some m ∧ m ∈ l ∧ ∀ x ∈ l, x = m ∨ before m x := by
  induction l with
  | nil => exact absurd rfl hne
  | cons w ws ih =>
    rw [List.pairwise_cons] at hl
    cases ws with
    | nil => exact ⟨w, rfl, by simp, by simp⟩
    | cons w2 ws2 =>
      obtain ⟨m, hm, hmem, hmin⟩ := ih hl.2 (by simp)
      rw [headOf_cons, hm]
      have hwm : w.id < m.id := hl.1 m hmem
      by_cases hp : m.prio < w.prio
      · refine ⟨m, by simp [hp], List.mem_cons_of_mem _ hmem, ?_⟩
        intro x hx
        rcases List.mem_cons.mp hx with hxw | hxt
        · rw [hxw]; exact Or.inr (Or.inl hp)
        · exact hmin x hxt
      · refine ⟨w, by simp [hp], List.mem_cons_self, ?_⟩
        intro x hx
        rcases List.mem_cons.mp hx with hxw | hxt
        · exact Or.inl hxw
        · have hbm : before w m := by unfold before; omega
          rcases hmin x hxt with hxm | hxm
          · rw [hxm]; exact Or.inr hbm
          · exact Or.inr (before_trans _ _ _ hbm hxm)

theorem headOf_min (l : List G) (hl : l.Pairwise idLt) (m : G) (hm : m ∈ l)
    (hmin : ∀ x ∈ l, x = m ∨ before m x) : headOf l = some m := by
  have hne : l ≠ [] := by intro h; rw [h] at hm; cases hm
  obtain ⟨m', h', hmem', hmin'⟩ := headOf_spec l hl hne
  rcases hmin m' hmem' with h | h
  · rw [h', h]
  · rcases hmin' m hm with h2 | h2
    · rw [h', h2]
    · exact absurd (before_asymm _ _ h h2) id

theorem headOf_perm_cons (l : List G) (w : G) (ws : List G) (hl : l.Pairwise idLt) (hp : l.Perm (w :: ws))
    (hs : (w :: ws).Pairwise before) : headOf l = some w := by
  apply headOf_min l hl w (hp.mem_iff.mpr List.mem_cons_self)
  intro x hx
  rcases List.mem_cons.mp (hp.mem_iff.mp hx) with h | h
  · exact Or.inl h
  · exact Or.inr ((List.pairwise_cons.mp hs).1 x h)

theorem find_by_id (l : List G) (g : G) (hm : g ∈ l) (hn : (l.map G.id).Nodup) :
    l.find? (·.id == g.id) = some g := find_key G.id hn hm

theorem find_id_eq (l : List G) (id : Nat) (g : G) (h : l.find? (·.id == id) = some g) : g.id = id := by
  have := List.find?_some h
  simpa using this

theorem nodup_ids_erase (l : List G) (g : G) (hn : (l.map G.id).Nodup) : ((l.erase g).map G.id).Nodup :=
  List.Nodup.sublist (List.Sublist.map _ List.erase_sublist) hn

theorem evict_nil (cap : Int) (b : Book) (amt prio : Int) : b.evict cap amt prio [] = .ok b := rfl

theorem evict_cons (cap : Int) (b : Book) (amt prio : Int) (v : Nat) (vs : List Nat) :
    b.evict cap amt prio (v :: vs) =
      match b.held.find? (·.id == v) with
      | none => .error "preempt/preempt/victim-not-holding"
      | some g =>
        if g.prio ≤ prio then .error "preempt/order/preempted-equal-or-higher-priority"
        else if amt ≤ cap - heldSum b then .error "preempt/preempt/more-than-needed"
        else if victim prio b.held ≠ some g then .error "preempt/order/wrong-victim"
        else Book.evict cap { b with held := b.held.erase g, gone := b.gone ++ [v] } amt prio vs := rfl

theorem wakeSet_nil (cap : Int) (n : Nat) (b : Book) : Book.wakeSet cap n b [] = .ok b := by
  cases n <;> rfl

theorem wakeSet_succ (cap : Int) (n : Nat) (b : Book) (x : Nat) (xs : List Nat) :
    Book.wakeSet cap (n + 1) b (x :: xs) =
      match headOf b.waiting with
      | none => .error "preempt/grant/not-waiting"
      | some h =>
        if !(x :: xs).contains h.id then
          (if (x :: xs).any (fun i => b.granted.contains i) then .error "preempt/grant/twice"
           else if (x :: xs).any (fun i => !(b.waiting.any (·.id == i))) then .error "preempt/grant/not-waiting"
           else .error "preempt/order/out-of-order")
        else if b.granted.contains h.id then .error "preempt/grant/twice"
        else if cap - heldSum b < h.amt then .error "preempt/held/exceeds-capacity"
        else Book.wakeSet cap n { b with waiting := b.waiting.erase h, held := b.held ++ [h], granted := b.granted ++ [h.id] }
                          ((x :: xs).filter (· != h.id)) := rfl

theorem heldSum_snoc (b : Book) (w : G) (wt : List G) (gr : List Nat) :
    heldSum { b with waiting := wt, held := b.held ++ [w], granted := gr } = heldSum b + w.amt := by
  unfold heldSum
  show amtSum (b.held ++ [w]) = amtSum b.held + w.amt
  rw [amtSum_append]; simp [amtSum]

/-- `Book.wakeSet` accepts the ids `_wake_waiters` granted, in any order, and moves the same waiters to the holders -/
theorem wakeSet_ok (cap : Int) (ws : List G) : ∀ (a : Int) (fuel : Nat) (b : Book) (woke : List Nat),
    b.waiting.Perm ws → b.waiting.Pairwise idLt → ws.Pairwise before → (ws.map G.id).Nodup →
    (∀ g ∈ ws, g.id ∉ b.granted) → ws.length ≤ fuel → a = cap - heldSum b →
    (∀ i, i ∈ woke ↔ i ∈ (wokenOf a ws).map G.id) →
    ∃ b', Book.wakeSet cap fuel b woke = .ok b'
      ∧ b'.held = b.held ++ wokenOf a ws
      ∧ b'.granted = b.granted ++ (wokenOf a ws).map G.id
      ∧ b'.waiting.Perm (restOf a ws) ∧ b'.waiting.Pairwise idLt
      ∧ b'.gone = b.gone ∧ b'.nRel = b.nRel ∧ b'.nCon = b.nCon := by
  induction ws with
  | nil =>
    intro a fuel b woke hp hl _ _ _ _ _ hw
    have hnil : woke = [] := List.eq_nil_iff_forall_not_mem.mpr fun i hi => by simpa [wokenOf] using (hw i).mp hi
    subst hnil
    exact ⟨b, wakeSet_nil _ _ _, by simp [wokenOf], by simp [wokenOf], by simpa [restOf] using hp, hl, rfl, rfl, rfl⟩
  | cons w ws' ih =>
    intro a fuel b woke hp hl hs hnd hng hfuel ha hw
    by_cases hfit : w.amt ≤ a
    · have hwk : wokenOf a (w :: ws') = w :: wokenOf (a - w.amt) ws' := by simp [wokenOf, hfit]
      have hrs : restOf a (w :: ws') = restOf (a - w.amt) ws' := by simp [restOf, hfit]
      rw [hwk, hrs]
      rw [hwk] at hw
      have hwin : w.id ∈ woke := (hw w.id).mpr (by simp)
      obtain ⟨x, xs, hwoke⟩ := List.exists_cons_of_ne_nil (List.ne_nil_of_mem hwin)
      obtain ⟨n, hn⟩ := Nat.exists_eq_add_one_of_ne_zero (Nat.ne_zero_of_lt hfuel)
      -- the one idea: the judge's `headOf` of its arrival-ordered list is the head `w` of the model's queue, because the
      -- two lists are permutations of each other and `before` is a strict order on distinct ids
      have hhead : headOf b.waiting = some w := headOf_perm_cons _ _ _ hl hp hs
      rw [List.map_cons, List.nodup_cons] at hnd
      have hwmem : w ∈ b.waiting := hp.mem_iff.mpr List.mem_cons_self
      obtain ⟨b', h1, h2, h3, h4, h5, h6, h7, h8⟩ :=
        ih (a - w.amt) n { b with waiting := b.waiting.erase w, held := b.held ++ [w], granted := b.granted ++ [w.id] }
          (woke.filter (· != w.id))
          (by have := hp.erase w; simpa using this)
          (List.Pairwise.sublist List.erase_sublist hl)
          (List.pairwise_cons.mp hs).2 hnd.2
          (by intro g hg hmem
              have hmem' : g.id ∈ b.granted ++ [w.id] := hmem
              rcases List.mem_append.mp hmem' with h | h
              · exact hng g (List.mem_cons_of_mem _ hg) h
              · simp at h; apply hnd.1; rw [← h]; exact List.mem_map_of_mem hg)
          (by simp at hfuel; omega)
          (by rw [heldSum_snoc]; omega)
          (by intro i
              rw [List.mem_filter, hw i]
              simp only [List.map_cons, List.mem_cons, bne_iff_ne, ne_eq]
              constructor
              · rintro ⟨h | h, hne⟩
                · exact absurd h hne
                · exact h
              · intro h
                refine ⟨Or.inr h, ?_⟩
                intro he
                obtain ⟨g, hg, hge⟩ := List.mem_map.mp h
                apply hnd.1; rw [← he, ← hge]; exact List.mem_map_of_mem ((woken_sublist _ _).subset hg))
      refine ⟨b', ?_, ?_, ?_, h4, h5, h6, h7, h8⟩
      · rw [hn, hwoke, wakeSet_succ, hhead]
        dsimp only
        rw [← hwoke]
        have hc : woke.contains w.id = true := by simpa using hwin
        have hg : b.granted.contains w.id = false := by
          simpa using hng w List.mem_cons_self
        rw [hc, hg]
        simp only [Bool.not_true, Bool.false_eq_true, if_false]
        rw [if_neg (by omega)]
        exact h1
      · rw [h2]; simp
      · rw [h3]; simp
    · have hwk : wokenOf a (w :: ws') = [] := by simp [wokenOf, hfit]
      have hrs : restOf a (w :: ws') = w :: ws' := by simp [restOf, hfit]
      rw [hwk, hrs]
      rw [hwk] at hw
      have hnil : woke = [] := List.eq_nil_iff_forall_not_mem.mpr fun i hi => by simpa using (hw i).mp hi
      subst hnil
      exact ⟨b, wakeSet_nil _ _ _, by simp, by simp, hp, hl, rfl, rfl, rfl⟩

end HappyModel.C09.Preempt
