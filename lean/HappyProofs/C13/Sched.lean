import HappyProofs.C13.Step
/-!
Every recursive predicate a property theorem assumes of a schedule (an action list run from a state).  Each is a
recursion over the action list — Boolean where the driver or an example evaluates it — and each has its reading as
an `Along`: a condition on every action and on the state the action meets.
-/
set_option linter.unusedSectionVars false
namespace HappyModel.C13

section
variable {D : Type} [Inhabited D] [Detector D]

def TimelyAt (δ : Nat) (s : Sys D) (now : Nat) : Prop := ∀ m ∈ s.soup, now ≤ m.sent + δ

def monoRun (c : Cfg) : Sys D → List Act → Bool
  | _, [] => true
  | s, act :: rest => decide (s.now ≤ act.time) && monoRun c (step c s act) rest

/-- "every sent message is delivered within δ": when an action happens at time `t`, every message still in flight
    was sent at most `δ` before `t`; and no partition is active AFTER the action (unlike the other predicates, which
    look at the state the action meets: the initial state is whole, and `inv_step` needs the new state whole) -/
def timelyRun (c : Cfg) (δ : Nat) : Sys D → List Act → Bool
  | _, [] => true
  | s, act :: rest => s.soup.all (fun m => decide (act.time ≤ m.sent + δ)) && (step c s act).whole &&
      timelyRun c δ (step c s act) rest

theorem monoRun_iff {c : Cfg} {s : Sys D} {acts : List Act} :
    monoRun c s acts = true ↔ Along c (fun s act => s.now ≤ act.time) s acts := by
  induction acts generalizing s with
  | nil => exact iff_of_true rfl trivial
  | cons act rest ih => simp only [monoRun, Along, Bool.and_eq_true, decide_eq_true_eq, ih]

theorem timelyRun_iff {c : Cfg} {δ : Nat} {s : Sys D} {acts : List Act} :
    timelyRun c δ s acts = true ↔
      Along c (fun s act => TimelyAt δ s act.time ∧ (step c s act).whole = true) s acts := by
  induction acts generalizing s with
  | nil => exact iff_of_true rfl trivial
  | cons act rest ih =>
    simp only [timelyRun, Along, Bool.and_eq_true, List.all_eq_true, decide_eq_true_eq, TimelyAt, ih]

def dueOk (c : Cfg) (s : Sys D) (a t : Nat) : Bool :=
  decide (t ≤ (s.node a).nextTick) &&
  (List.range c.n).all fun x =>
    match (s.node a).pendOf x with
    | none => true
    | some tm => decide (t ≤ tm.fire)

/-- a probe tick of `a` that starts a new pass is handed a permutation of the list it shuffles -/
def shufOk (c : Cfg) (s : Sys D) (a : Nat) : Act → Bool
  | .tick b now shuf =>
    b != a || decide ((aliveOrder c.n a (phiCheck c.n a now (s.node a))).length ≤ (s.node a).pidx →
      shuf.Perm (aliveOrder c.n a (phiCheck c.n a now (s.node a))))
  | _ => true

/-- the observer's own events are not skipped: an action at time `t` finds `t ≤ nextTick` and `t ≤ fire` for every
    armed timer of `a` (the engine delivers events in time order), and what the oracle returns for
    `random.shuffle(alive)` is a permutation of that list -/
def punctualRun (c : Cfg) (a : Nat) : Sys D → List Act → Bool
  | _, [] => true
  | s, act :: rest =>
    (s.isCrashed a || dueOk c s a act.time) && shufOk c s a act && punctualRun c a (step c s act) rest

theorem shufOk_tick {c : Cfg} {s : Sys D} {a now : Nat} {shuf : List Nat}
    (h : shufOk c s a (.tick a now shuf) = true) :
    (aliveOrder c.n a (phiCheck c.n a now (s.node a))).length ≤ (s.node a).pidx →
      shuf.Perm (aliveOrder c.n a (phiCheck c.n a now (s.node a))) := by
  intro hle
  have h' : (s.node a).pidx < (aliveOrder c.n a (phiCheck c.n a now (s.node a))).length ∨
      shuf.Perm (aliveOrder c.n a (phiCheck c.n a now (s.node a))) := by simpa [shufOk] using h
  exact h'.resolve_left (Nat.not_lt.mpr hle)

theorem dueOk_tick {c : Cfg} {s : Sys D} {a t : Nat} (h : dueOk c s a t = true) :
    t ≤ (s.node a).nextTick := by
  simp only [dueOk, Bool.and_eq_true, decide_eq_true_eq] at h
  exact h.1

theorem dueOk_pend {c : Cfg} {s : Sys D} {a t x : Nat} (h : dueOk c s a t = true) (hx : x < c.n)
    (tm : Timer) (hp : (s.node a).pendOf x = some tm) : t ≤ tm.fire := by
  simp only [dueOk, Bool.and_eq_true, decide_eq_true_eq, List.all_eq_true, List.mem_range] at h
  have := h.2 x hx
  rw [hp] at this
  simpa using this

theorem or_true_iff_imp {b : Bool} {p : Prop} : (b = true ∨ p) ↔ (b = false → p) := by
  cases b <;> simp

theorem punctualRun_iff {c : Cfg} {a : Nat} {s : Sys D} {acts : List Act} :
    punctualRun c a s acts = true ↔
      Along c (fun s act => (s.isCrashed a = false → dueOk c s a act.time = true) ∧
        shufOk c s a act = true) s acts := by
  induction acts generalizing s with
  | nil => exact iff_of_true rfl trivial
  | cons act rest ih =>
    simp only [punctualRun, Along, Bool.and_eq_true, Bool.or_eq_true, or_true_iff_imp, ih]

structure Sched (c : Cfg) (δ a : Nat) (s : Sys D) (act : Act) : Prop where
  mono : s.now ≤ act.time
  timely : TimelyAt δ s act.time
  whole : (step c s act).whole = true
  due : s.isCrashed a = false → dueOk c s a act.time = true
  shuf : shufOk c s a act = true

theorem sched_along {c : Cfg} {δ a : Nat} {s : Sys D} {acts : List Act} (hm : monoRun c s acts = true)
    (ht : timelyRun c δ s acts = true) (hp : punctualRun c a s acts = true) :
    Along c (Sched c δ a) s acts :=
  ((monoRun_iff.mp hm).and ((timelyRun_iff.mp ht).and (punctualRun_iff.mp hp))).imp
    fun _ _ h => ⟨h.1, h.2.1.1, h.2.1.2, h.2.2.1, h.2.2.2⟩

/-- the probe order handed to `start()` is a permutation of the other members -/
def orderOk (n a : Nat) (l : List Nat) : Bool :=
  decide (l.Perm ((List.range n).filter (isMember n a)))

def hasAlive (x : Nat) (us : List Update) : Prop := ∃ u ∈ us, u.member = x ∧ u.kind = .alive

theorem hasAlive_cons (x : Nat) (u : Update) (us : List Update) :
    hasAlive x (u :: us) ↔ (u.member = x ∧ u.kind = .alive) ∨ hasAlive x us := by
  simp [hasAlive]

def QuietTo (s : Sys D) (a x : Nat) : Prop :=
  ∀ m ∈ s.soup, m.dst = a → m.src ≠ x ∧ ¬ hasAlive x m.upds

def QuietRun (c : Cfg) (a x : Nat) : Sys D → List Act → Prop
  | _, [] => True
  | s, act :: rest => QuietTo s a x ∧ QuietRun c a x (step c s act) rest

def QuietAfter (c : Cfg) (a x T : Nat) : Sys D → List Act → Prop
  | _, [] => True
  | s, act :: rest => (T < act.time → QuietTo s a x) ∧ QuietAfter c a x T (step c s act) rest

def BlockedRun (c : Cfg) (a b : Nat) : Sys D → List Act → Prop
  | _, [] => True
  | s, act :: rest => s.blocked a b = true ∧ BlockedRun c a b (step c s act) rest

theorem quietRun_iff {c : Cfg} {a x : Nat} {s : Sys D} {acts : List Act} :
    QuietRun c a x s acts ↔ Along c (fun s _ => QuietTo s a x) s acts := by
  induction acts generalizing s with
  | nil => exact Iff.rfl
  | cons act rest ih => simp only [QuietRun, Along, ih]

theorem quietAfter_iff {c : Cfg} {a x T : Nat} {s : Sys D} {acts : List Act} :
    QuietAfter c a x T s acts ↔ Along c (fun s act => T < act.time → QuietTo s a x) s acts := by
  induction acts generalizing s with
  | nil => exact Iff.rfl
  | cons act rest ih => simp only [QuietAfter, Along, ih]

theorem blockedRun_iff {c : Cfg} {a b : Nat} {s : Sys D} {acts : List Act} :
    BlockedRun c a b s acts ↔ Along c (fun s _ => s.blocked a b = true) s acts := by
  induction acts generalizing s with
  | nil => exact Iff.rfl
  | cons act rest ih => simp only [BlockedRun, Along, ih]

end

/-- the phi path asks less of the observer: only its probe ticks are not skipped -/
def tickDueRun {D : Type} [Inhabited D] [Detector D] (c : Cfg) (a : Nat) : Sys D → List Act → Bool
  | _, [] => true
  | s, act :: rest =>
    (s.isCrashed a || decide (act.time ≤ (s.node a).nextTick)) && tickDueRun c a (step c s act) rest

theorem tickDueRun_iff {D : Type} [Inhabited D] [Detector D] {c : Cfg} {a : Nat} {s : Sys D}
    {acts : List Act} :
    tickDueRun c a s acts = true ↔
      Along c (fun s act => s.isCrashed a = false → act.time ≤ (s.node a).nextTick) s acts := by
  induction acts generalizing s with
  | nil => exact iff_of_true rfl trivial
  | cons act rest ih =>
    simp only [tickDueRun, Along, Bool.and_eq_true, Bool.or_eq_true, decide_eq_true_eq,
      or_true_iff_imp, ih]

theorem tickDueRun_of_punctual {D : Type} [Inhabited D] [Detector D] (c : Cfg) (a : Nat) (s : Sys D)
    (acts : List Act) (h : punctualRun c a s acts = true) : tickDueRun c a s acts = true :=
  tickDueRun_iff.mpr ((punctualRun_iff.mp h).imp fun _ _ h hl => dueOk_tick (h.1 hl))

def PhiSched {D : Type} [Inhabited D] [Detector D] (δ a : Nat) (s : Sys D) (act : Act) : Prop :=
  s.now ≤ act.time ∧ TimelyAt δ s act.time ∧ (s.isCrashed a = false → act.time ≤ (s.node a).nextTick)

theorem phiSched_along {D : Type} [Inhabited D] [Detector D] {c : Cfg} {δ a : Nat} {s : Sys D}
    {acts : List Act} (hm : monoRun c s acts = true) (ht : timelyRun c δ s acts = true)
    (hd : tickDueRun c a s acts = true) : Along c (PhiSched δ a) s acts :=
  ((monoRun_iff.mp hm).and ((timelyRun_iff.mp ht).and (tickDueRun_iff.mp hd))).imp
    fun _ _ h => ⟨h.1, h.2.1.1, h.2.2⟩

end HappyModel.C13
