import HappyProofs.C08.PipeGhost
/-!
FIFO end to end (repaired driver, any worker, FIFO queue, admissible schedule): the accepted
ids, in acceptance order, are

  started ++ (delivers ++ works) ++ waiting          (any limit)
  started = done ++ inService                        (limit 1)

as **lists**: items start service in the order they were accepted, and with one slot they also
complete in that order.  The protocol invariant `PInv` supplies "at most one item in transit" and,
with limit 1, "at most one item in service".
-/
namespace HappyModel.C08.Pipe

structure FInv (s : PSt) (g : Gh) (ss : SSt) : Prop where
  ord : g.accepted = g.started ++ ((s.delivers ++ s.works) ++ ss.held.map (·.id))
  one : s.limit = 1 → g.started = g.done ++ s.inService

theorem finv_init (lim : Nat) : FInv { limit := lim } {} {} := ⟨rfl, fun _ => rfl⟩

theorem eq_singleton_of_mem {l : List Nat} {i : Nat} (hl : l.length ≤ 1) (hm : i ∈ l) : l = [i] := by
  match l, hl, hm with
  | [x], _, hm => rw [List.mem_singleton.mp hm]

section
variable {c : PCfg} {s b : PSt} {g : Gh} {ss : SSt} {a : Act} {r : Res} {p : Bool}

/-- the round trip holds one item at a time: while a poll is pending nothing is in transit -/
theorem transit_nil_of_poll (hi : PInv c s) (hp : s.nPoll ≠ 0) : s.delivers = [] ∧ s.works = [] := by
  have := hi.toPInv0.busy_iff
  have := hi.wf
  exact ⟨List.eq_nil_of_length_eq_zero (by omega), List.eq_nil_of_length_eq_zero (by omega)⟩

theorem transit_of_deliver (hi : PInv c s) {i : Nat} (hm : i ∈ s.delivers) : s.delivers = [i] ∧ s.works = [] := by
  have := hi.toPInv0.transit_le_one
  have := List.length_pos_of_mem hm
  exact ⟨eq_singleton_of_mem (by omega) hm, List.eq_nil_of_length_eq_zero (by omega)⟩

theorem transit_of_work (hi : PInv c s) {i : Nat} (hm : i ∈ s.works) : s.delivers = [] ∧ s.works = [i] := by
  have := hi.toPInv0.transit_le_one
  have := List.length_pos_of_mem hm
  exact ⟨List.eq_nil_of_length_eq_zero (by omega), eq_singleton_of_mem (by omega) hm⟩

theorem Eff.finv (hk : c.pol.kind = .fifo) (hr : PolRel c.pol s.q ss) (hi : PInv c s) (ha : Adm s a)
    (d : Eff c s a b r p) (h : FInv s g ss) : FInv b (gstep g a r) (sstep c s ss a) := by
  cases d with
  | err a h1 h2 =>
    rw [sstep_err h1 h2]
    cases a <;> first | exact h | exact absurd rfl (h1 _)
  | accept it hok =>
    have hh := rel_push_held hr it false false
    rw [hok, if_pos rfl] at hh
    refine ⟨?_, h.one⟩
    dsimp only [gstep, sstep]
    rw [hh, h.ord, List.map_append, List.map_cons, List.map_nil]
    simp only [List.append_assoc]
  | refuse it hok =>
    have hh := rel_push_held hr it false false
    rw [hok, if_neg (by decide)] at hh
    exact ⟨by dsimp only [sstep]; rw [hh]; exact h.ord, h.one⟩
  | dequeue it hp hit =>
    -- the head of the waiting list becomes the one item in transit
    have hhd := sPop_held_fifo c.pol hk ss it ((polrel_pop hr 0 0).1 ▸ hit)
    obtain ⟨hd, hw⟩ := transit_nil_of_poll hi hp
    rw [sstep, if_neg hp]
    refine ⟨?_, h.one⟩
    dsimp only [gstep]
    rw [h.ord, hhd, hd, hw]
    rfl
  | empty hp hit =>
    obtain ⟨h1, h2⟩ := rel_pop_none hr hit
    rw [sstep, if_neg hp]
    exact ⟨by rw [h2]; exact h1 ▸ h.ord, h.one⟩
  | hand i hm =>
    obtain ⟨hd, hw⟩ := transit_of_deliver hi hm
    refine ⟨?_, h.one⟩
    dsimp only [gstep]
    rw [h.ord, hd, hw, List.erase_cons_head]
    rfl
  | start i hm hc =>
    obtain ⟨hd, hw⟩ := transit_of_work hi hm
    have hlt := hi.toPInv0.reserved hm
    refine ⟨?_, fun h1 => ?_⟩
    · dsimp only [gstep]
      rw [h.ord, hd, hw, List.erase_cons_head]
      simp only [List.nil_append, List.append_assoc, sstep]
    · -- with one slot, a free slot means nothing is in service
      have h1' : s.limit = 1 := h1
      have hact := hi.act
      have hin : s.inService = [] := List.eq_nil_of_length_eq_zero (by omega)
      dsimp only [gstep]
      rw [h.one h1', hin, List.append_nil]
      rfl
  | reject i hm hc => exact absurd (.inr (hi.toPInv0.reserved hm)) hc
  | fin i hm =>
    refine ⟨h.ord, fun h1 => ?_⟩
    -- with one slot, the item in service is the one that finishes
    have h1' : s.limit = 1 := h1
    have hact := hi.act
    have hle := hi.le
    have hin : s.inService = [i] := eq_singleton_of_mem (by omega) hm
    dsimp only [gstep]
    rw [h.one h1', hin, List.erase_cons_head, List.append_nil]
  | notify | answer | disp => exact ⟨h.ord, h.one⟩
  | shift => exact absurd ha.2 (by simp [Act.isShift])

theorem step_finv (hk : c.pol.kind = .fifo) (hr : PolRel c.pol s.q ss) (hi : PInv c s) (h : FInv s g ss) (a : Act)
    (ha : Adm s a) : FInv (step c s a).1 (gstep g a (step c s a).2) (sstep c s ss a) :=
  step_ind (I := fun b => FInv b (gstep g a (step c s a).2) (sstep c s ss a)) (fun _ _ _ _ h => ⟨h.ord, h.one⟩)
    fun _ _ d => d.finv hk hr hi ha h

end

/-- what holds of the state, the ghost record and the ghost specification state after every
    admissible schedule of the repaired driver -/
structure Run (c : PCfg) (s : PSt) (g : Gh) (ss : SSt) : Prop where
  rel : PolRel c.pol s.q ss
  inv : PInv c s
  ids : GInv s g ss
  ord : c.pol.kind = .fifo → FInv s g ss

theorem run_init (c : PCfg) (lim : Nat) : Run c { limit := lim } {} {} :=
  ⟨polrel_init _, inv_init c lim, ginv_init lim, fun _ => finv_init lim⟩

theorem final_run {c : PCfg} (hv : c.variant = .repaired) (as : List Act) {s : PSt} {g : Gh} {ss : SSt}
    (hs : Sched c s as) (h : Run c s g ss) : Run c (final c s as) (ghost c s g as) (sfinal c s ss as) :=
  final_ind (fun h => h.2)
    (fun ha h => ⟨step_rel h.rel _, step_pinv hv h.rel _ ha.1 h.inv, step_ginv h.rel h.ids _,
      fun hk => step_finv hk h.rel h.inv (h.ord hk) _ ha.1⟩) as hs h

end HappyModel.C08.Pipe
