import HappyModel.C02.Spec
import HappyProofs.C02.HooksRun
/-!
# C02 — the hook clauses of the trace Spec are silent on the trace of the process model

`Spec.hookMonitor` (`process/hook/not-run-at-finish`, `…/ran-without-being-due`, `…/ran-out-of-order`,
`…/ran-at-wrong-instant`) reads the `h` (hook attached), `H` (hook ran), `S` / `K` / `F` and `c` lines
of a trace.  `hookView` is that part of the trace the model itself writes, built along `run`, with the
creation index of an event (+ 1) as its tag: per delivery the `S` or `K` line, one `h` line per hook
attached by the actions of the segment *in action order* (`emit` with a hook; `add_completion_hook` on
an event that is pending, done, or — `in flight` — being processed by a generator), then for a
finishing segment the `F` line and one `H` (+ `c`) line per hook the model runs, and a closing
neutral line (anything else that follows in a full trace).
-/
namespace HappyModel.C01
open HappyModel.C02.Spec (Line HSt hookStep hookMonitor)

def hAddLines (e : Eff) : Act → List Line
  | .emit _ _ _ _ hook => if hook = 0 then [] else [Line.hookAdd (e.ps.nid + 1) hook]
  | .addHook kind hook =>
    match e.ps.lastKind.find? (fun p => p.1 == kind) with
    | some (_, id) => [Line.hookAdd (id + 1) hook]
    | none => []
  | _ => []

def actsHookLines (now : Nat) : Eff → List Act → List Line
  | _, [] => []
  | e, a :: r => hAddLines e a ++ actsHookLines now (runAct now e a) r

def hRunLines (now : Nat) (hooks : List Nat) : List Line :=
  hooks.flatMap (fun k => [Line.hookRun now k, Line.created])

def segHookLines (now : Nat) (e : Eff) (pid tag : Nat) : List Line :=
  match e.ps.procs[pid]? with
  | some p =>
    match p.segs with
    | seg :: _ =>
      actsHookLines now (segStart now e pid tag p) seg.acts ++
        (match seg.term with
         | .ret => Line.finish now pid ::
             hRunLines now (p.hooks ++ lateOf (seg.acts.foldl (runAct now) (segStart now e pid tag p)).ps pid)
         | _ => [])
    | [] => []
  | none => []

def hookLines (ps : PS) (now : Nat) (ev : Ev) : List Line :=
  (if ev.data = 0 then
    match ps.defs.find? (fun d => d.ent == ev.target && d.kind == ev.kind) with
    | none => Line.skipped now (ev.id + 1) :: hRunLines now (hookOfFor ps ev.id)
    | some d =>
      Line.start now (ev.id + 1) ::
        segHookLines now (spawn (addObs { ps := ps } (.start now ev.target ev.kind ev.tag)) (newProc ps ev d))
          ps.procs.length 0
  else segHookLines now { ps := ps } (ev.data - 1) ev.tag) ++ [Line.other]

/-- `segHookLines` / `hookLines` over any lines `A` written for the actions of a segment: the trace with the
    `r` lines in between (`actsAllLines`) has the same shape -/
def segLines (A : Eff → List Act → List Line) (now : Nat) (e : Eff) (pid tag : Nat) : List Line :=
  match e.ps.procs[pid]? with
  | some p =>
    match p.segs with
    | seg :: _ =>
      A (segStart now e pid tag p) seg.acts ++
        (match seg.term with
         | .ret => Line.finish now pid ::
             hRunLines now (p.hooks ++ lateOf (seg.acts.foldl (runAct now) (segStart now e pid tag p)).ps pid)
         | _ => [])
    | [] => []
  | none => []

def invLines (A : Eff → List Act → List Line) (ps : PS) (now : Nat) (ev : Ev) : List Line :=
  (if ev.data = 0 then
    match ps.defs.find? (fun d => d.ent == ev.target && d.kind == ev.kind) with
    | none => Line.skipped now (ev.id + 1) :: hRunLines now (hookOfFor ps ev.id)
    | some d =>
      Line.start now (ev.id + 1) ::
        segLines A now (spawn (addObs { ps := ps } (.start now ev.target ev.kind ev.tag)) (newProc ps ev d))
          ps.procs.length 0
  else segLines A now { ps := ps } (ev.data - 1) ev.tag) ++ [Line.other]

def hviewStep (s : St PS) (ls : List Line) (m : Ev) : List Line :=
  if s.cancelled.contains m.id then ls
  else if m.time < s.now then ls
  else if procMachine.crashed s.ent m then ls
  else ls ++ hookLines s.ent m.time m

def hviewRun (endT : Option Nat) : Nat → St PS → List Line → List Line
  | 0, _, ls => ls
  | n+1, s, ls =>
    match s.heap with
    | [] => ls
    | x :: xs =>
      if continues endT s then hviewRun endT n (stepWith procMachine s (minOf x xs)) (hviewStep s ls (minOf x xs))
      else ls

/-- the `h` lines of the hooks the pre-run events were created with -/
def initHookLines (ps : PS) : List Line := ps.hookOf.map (fun x => Line.hookAdd (x.1 + 1) x.2)

def hookView (endT : Option Nat) (n : Nat) (s0 : St PS) : List Line := hviewRun endT n s0 (initHookLines s0.ent)

def hooksFor (h : HSt) (t : Nat) : List Nat := (h.hooks.filter (fun p => p.1 == t)).map (·.2)

/-- what the hook clauses see of a process -/
def hproj (p : Proc) : Nat × Bool × List Nat := (p.ev, p.done, p.hooks)

/-- `closed`: the ids of the plain events already handed to a handler, or found without one (`closedOf` at run level);
    `h1` speaks of the others, `h2` of those whose process lives -/
structure HR (closed : List Nat) (ps : PS) (h : HSt) : Prop where
  err : h.err = none
  due : h.due = []
  /-- an event that has not been handed to a handler: the monitor's list is the model's -/
  h1 : ∀ id, id ∉ closed → hooksFor h (id + 1) = hookOfFor ps id
  /-- an event whose process is in flight: what it started with, then what was added since -/
  h2 : ∀ (pid : Nat) (p : Proc), ps.procs[pid]? = some p → p.done = false → hooksFor h (p.ev + 1) = p.hooks ++ lateOf ps pid
  /-- every tag the monitor knows, every attachment, every handle of `lastKind` and every closed event is below the
      creation counter (`f1`, `f2`, `lk`, `cl`): the next event created is new to all of them -/
  f1 : ∀ x ∈ h.hooks, x.1 ≤ ps.nid
  f2 : ∀ x ∈ ps.hookOf, x.1 < ps.nid
  lk : ∀ x ∈ ps.lastKind, x.2 < ps.nid
  cl : ∀ id ∈ closed, id < ps.nid
  /-- one process per event -/
  u : ∀ (i j : Nat) (p q : Proc), ps.procs[i]? = some p → ps.procs[j]? = some q → p.ev = q.ev → i = j
  /-- an event that started a process has been handed to its handler -/
  v : ∀ (pid : Nat) (p : Proc), ps.procs[pid]? = some p → p.ev ∈ closed
  /-- the monitor numbers the processes as the model does (`pt`, `np`) -/
  pt : ∀ (pid : Nat) (p : Proc), ps.procs[pid]? = some p → h.pidTag.find? (fun x => x.1 == pid) = some (pid, p.ev + 1)
  np : h.nProc = ps.procs.length
  /-- hooks added in flight name existing processes -/
  lb : ∀ x ∈ ps.late, x.1 < ps.procs.length

/-- a change of the process state the hook clauses do not see (only the creation counter grows) -/
structure HFrame (a b : PS) : Prop where
  hookOf : b.hookOf = a.hookOf
  late : b.late = a.late
  lastKind : ∀ x ∈ b.lastKind, x ∈ a.lastKind ∨ (a.nid ≤ x.2 ∧ x.2 < b.nid)
  procs : b.procs.map hproj = a.procs.map hproj
  nid : a.nid ≤ b.nid

theorem HFrame_of_eqs {a b : PS} (h1 : b.hookOf = a.hookOf := by rfl) (h2 : b.late = a.late := by rfl)
    (h3 : b.lastKind = a.lastKind := by rfl) (h4 : b.procs = a.procs := by rfl) (h5 : b.nid = a.nid := by rfl) :
    HFrame a b :=
  ⟨h1, h2, fun y hy => Or.inl (by rw [← h3]; exact hy), by rw [h4], by rw [h5]; exact Nat.le_refl _⟩

theorem HFrame.refl (a : PS) : HFrame a a :=
  HFrame_of_eqs

theorem HFrame.trans {a b c : PS} (h1 : HFrame a b) (h2 : HFrame b c) : HFrame a c := by
  refine ⟨by rw [h2.hookOf, h1.hookOf], by rw [h2.late, h1.late], ?_, by rw [h2.procs, h1.procs],
    Nat.le_trans h1.nid h2.nid⟩
  intro x hx
  have n1 := h1.nid
  have n2 := h2.nid
  rcases h2.lastKind x hx with h | h
  · rcases h1.lastKind x h with h' | h'
    · exact Or.inl h'
    · exact Or.inr ⟨h'.1, by omega⟩
  · exact Or.inr ⟨by omega, h.2⟩

theorem getElem?_of_map_hproj {a b : List Proc} (h : b.map hproj = a.map hproj) (i : Nat) (q : Proc)
    (hq : b[i]? = some q) : ∃ p, a[i]? = some p ∧ p.ev = q.ev ∧ p.done = q.done ∧ p.hooks = q.hooks := by
  have := congrArg (fun l => l[i]?) h
  simp only [List.getElem?_map, hq, Option.map_some] at this
  cases ha : a[i]? with
  | none => rw [ha] at this; simp at this
  | some p => rw [ha] at this; simpa [hproj, eq_comm] using this

theorem HR_frame {closed : List Nat} {a b : PS} {h : HSt} (hr : HR closed a h) (hf : HFrame a b) : HR closed b h := by
  have hlk : ∀ x ∈ b.lastKind, x.2 < b.nid := by
    intro x hx
    rcases hf.lastKind x hx with h' | h'
    · have := hr.lk x h'; have := hf.nid; omega
    · exact h'.2
  have hlen : b.procs.length = a.procs.length := by
    have := congrArg List.length hf.procs; simpa using this
  have hget := getElem?_of_map_hproj hf.procs
  refine
    { err := hr.err, due := hr.due, h1 := ?_, h2 := ?_, f1 := ?_, f2 := ?_, lk := hlk, cl := ?_, u := ?_, v := ?_,
      pt := ?_, np := by rw [hr.np, hlen], lb := ?_ }
  · intro id hid; unfold hookOfFor; rw [hf.hookOf]; exact hr.h1 id hid
  · intro pid q hq hd
    obtain ⟨p, hp, hev, hdn, hhk⟩ := hget pid q hq
    unfold lateOf; rw [hf.late, ← hev, ← hhk]
    exact hr.h2 pid p hp (hdn.trans hd)
  · intro x hx; have := hr.f1 x hx; have := hf.nid; omega
  · intro x hx; rw [hf.hookOf] at hx; have := hr.f2 x hx; have := hf.nid; omega
  · intro id hid; have := hr.cl id hid; have := hf.nid; omega
  · intro i j p q hp hq hev
    obtain ⟨p', hp', hpp, _⟩ := hget i p hp
    obtain ⟨q', hq', hqq, _⟩ := hget j q hq
    exact hr.u i j p' q' hp' hq' (hpp.trans (hev.trans hqq.symm))
  · intro pid q hq
    obtain ⟨p, hp, hev, _⟩ := hget pid q hq
    exact hev ▸ hr.v pid p hp
  · intro pid q hq
    obtain ⟨p, hp, hev, _⟩ := hget pid q hq
    exact hev ▸ hr.pt pid p hp
  · intro x hx; rw [hf.late] at hx; rw [hlen]; exact hr.lb x hx

theorem hookStep_add (h : HSt) (t k : Nat) (hd : h.due = []) :
    hookStep h (.hookAdd t k) = { h with hooks := h.hooks ++ [(t, k)] } := by
  cases h; cases hd; rfl

theorem hookStep_other (h : HSt) (hd : h.due = []) : hookStep h .other = h := by
  cases h; cases hd; rfl

theorem hookStep_start (h : HSt) (c t : Nat) (hd : h.due = []) :
    hookStep h (.start c t) = { h with pidTag := (h.nProc, t) :: h.pidTag, nProc := h.nProc + 1 } := by
  cases h; cases hd; rfl

theorem hookStep_skipped (h : HSt) (c t : Nat) (hd : h.due = []) :
    hookStep h (.skipped c t) = { h with due := hooksFor h t, dueClock := c, hooks := h.hooks.filter (fun x => x.1 != t) } := by
  cases h; cases hd; rfl

theorem hookStep_finish (h : HSt) (c pid : Nat) (hd : h.due = []) :
    hookStep h (.finish c pid) =
      match h.pidTag.find? (fun x => x.1 == pid) with
      | some (_, tag) => { h with due := hooksFor h tag, dueClock := c, hooks := h.hooks.filter (fun x => x.1 != tag) }
      | none => h := by
  cases h; cases hd; rfl

theorem hooksFor_add (h : HSt) (t k t' : Nat) :
    hooksFor { h with hooks := h.hooks ++ [(t, k)] } t' = hooksFor h t' ++ (if t = t' then [k] else []) := by
  unfold hooksFor
  by_cases htt : t = t' <;> simp [List.filter_append, htt]

theorem hRun_ok (now : Nat) (hooks : List Nat) (h : HSt) (hd : h.due = hooks) (hc : h.dueClock = now) :
    (hRunLines now hooks).foldl hookStep h = { h with due := [] } := by
  induction hooks generalizing h with
  | nil =>
    cases h with
    | mk a b c d e f => simp only at hd; subst hd; rfl
  | cons k r ih =>
    simp only [hRunLines, List.flatMap_cons, List.cons_append, List.nil_append, List.foldl_cons]
    have h1 : hookStep h (.hookRun now k) = { h with due := r } := by
      simp [hookStep, hd, hc]
    have h2 : hookStep { h with due := r } .created = { h with due := r } := by
      simp [hookStep]
    rw [h1, h2]
    have := ih { h with due := r } rfl hc
    simpa [hRunLines] using this

theorem HFrame_setFut (e : Eff) (f : Nat) (x : Fut) : HFrame e.ps (e.setFut f x).ps :=
  HFrame_of_eqs

theorem HFrame_push0 (e : Eff) (sp : Spec) (tagged : Bool) : HFrame e.ps (e.push sp 0 tagged).ps := by
  refine ⟨by simp [Eff.push], rfl, ?_, rfl, by simp [Eff.push]⟩
  intro x hx
  simp only [Eff.push] at hx
  split at hx
  · rcases List.mem_cons.mp hx with rfl | hx
    · right; simp [Eff.push]
    · left; exact (List.mem_filter.mp hx).1
  · left; exact hx

theorem HFrame_setProc (e : Eff) (i : Nat) (p q : Proc) (hp : e.ps.procs[i]? = some p) (hq : hproj q = hproj p) :
    HFrame e.ps (e.setProc i q).ps :=
  ⟨rfl, rfl, fun y hy => Or.inl hy, by simp only [setProc_procs]; exact map_set_of_eq hproj _ hp hq, Nat.le_refl _⟩

theorem HFrame_resumeParked (e : Eff) (now f : Nat) : HFrame e.ps (resumeParked e now f).ps := by
  rcases resumeParked_cases e now f with he | ⟨pid, p, _, hp, he⟩
  · rw [he]; exact HFrame.refl _
  · rw [he]
    exact (HFrame_push0 e (contSpec p pid now) false).trans ((HFrame_setFut _ f _).trans
      (HFrame_setProc _ pid p { p with send := (futGet e.ps.futs f).value } hp rfl))

/-- code that attaches no hook keeps `HFrame` to the state it started from -/
theorem HFrame_guarded (a : PS) (now : Nat) : GClosed now (fun _ => True) False True (fun e => HFrame a e.ps) where
  resolve := fun _ e f _ h _ => h.trans ((HFrame_setFut e f _).trans (HFrame_resumeParked _ now f))
  allUpd := fun _ e c _ _ h _ => h.trans (HFrame_setFut e c _)
  cbAdd := fun _ e g _ h _ => h.trans (HFrame_setFut e g _)
  bind := fun e f _ _ _ h => h.trans (HFrame_setFut e f _)
  push := fun e sp hook tagged _ h0 h => by
    cases Decidable.not_not.mp (fun hne => h0 hne)
    exact h.trans (HFrame_push0 e sp tagged)
  release := fun _ _ _ h _ => h.trans ⟨rfl, rfl, fun _ hy => Or.inl hy, rfl, Nat.le_succ _⟩
  crashed := fun _ _ h => h.trans HFrame_of_eqs
  cancels := fun _ _ h => h.trans HFrame_of_eqs
  hookLate := fun _ _ _ hf _ => hf.elim
  hookEarly := fun _ _ _ hf _ => hf.elim
  level := fun _ _ h => h.trans HFrame_of_eqs
  hops := fun _ _ h => h.trans HFrame_of_eqs

theorem runAct_HFrame (now : Nat) (e : Eff) (a : Act) (ha : a.hooks = false) : HFrame e.ps (runAct now e a).ps :=
  runAct_guarded (HFrame_guarded e.ps now) e a (fun _ _ => trivial) (fun h => by rw [ha] at h; cases h) (fun _ => trivial)
    (HFrame.refl _)

theorem hookOfFor_cons (ps : PS) (x : Nat × Nat) (id : Nat) :
    ((x :: ps.hookOf).filter (fun p => p.1 == id)).map (·.2)
      = (if x.1 = id then [x.2] else []) ++ hookOfFor ps id := by
  unfold hookOfFor
  by_cases h : x.1 = id <;> simp [h]

theorem hookOfFor_append (ps : PS) (x : Nat × Nat) (id : Nat) :
    ((ps.hookOf ++ [x]).filter (fun p => p.1 == id)).map (·.2)
      = hookOfFor ps id ++ (if x.1 = id then [x.2] else []) := by
  unfold hookOfFor
  by_cases h : x.1 = id <;> simp [List.filter_append, h]

theorem filter_key_nil {α} (l : List (Nat × α)) (t : Nat) (hf : ∀ x ∈ l, x.1 < t) :
    (l.filter (fun p => p.1 == t)).map (·.2) = [] := by
  rw [List.filter_eq_nil_iff.mpr]
  · rfl
  · intro x hx
    have := hf x hx
    simp; omega

theorem emitHook_HR {closed : List Nat} (now : Nat) (e : Eff) (h : HSt) (tgt kind delay : Nat) (dm : Bool) (hook : Nat)
    (hk : hook ≠ 0) (hr : HR closed e.ps h) :
    HR closed (runAct now e (.emit tgt kind delay dm hook)).ps (hookStep h (.hookAdd (e.ps.nid + 1) hook)) := by
  rw [hookStep_add h _ _ hr.due]
  have hho : (runAct now e (.emit tgt kind delay dm hook)).ps.hookOf = (e.ps.nid, hook) :: e.ps.hookOf :=
    (push_hookOf ..).trans (if_neg hk)
  refine { hr with h1 := ?_, h2 := ?_, f1 := ?_, f2 := ?_, lk := ?_, cl := ?_ }
  · intro id hid
    unfold hookOfFor
    rw [hooksFor_add, hho, hookOfFor_cons]
    by_cases hidn : e.ps.nid = id
    · subst hidn
      unfold hooksFor hookOfFor
      rw [filter_key_nil h.hooks _ (fun x hx => Nat.lt_succ_of_le (hr.f1 x hx)),
        filter_key_nil e.ps.hookOf _ hr.f2, if_pos rfl, if_pos rfl]
      rfl
    · rw [if_neg (by omega), if_neg hidn, List.append_nil]
      exact hr.h1 id hid
  · intro pid p hp hd
    have hlt := hr.cl _ (hr.v pid p hp)
    rw [hooksFor_add, if_neg (by omega), List.append_nil]
    exact hr.h2 pid p hp hd
  · intro x hx
    rcases List.mem_append.mp hx with hx | hx
    · exact Nat.le_succ_of_le (hr.f1 x hx)
    · rw [List.mem_singleton.mp hx]; exact Nat.le_refl _
  · intro x hx
    rw [hho] at hx
    rcases List.mem_cons.mp hx with rfl | hx
    · exact Nat.lt_succ_self _
    · exact Nat.lt_succ_of_lt (hr.f2 x hx)
  · intro x hx
    simp only [runAct, Eff.push] at hx
    split at hx
    · rcases List.mem_cons.mp hx with rfl | hx
      · exact Nat.lt_succ_self _
      · exact Nat.lt_succ_of_lt (hr.lk x (List.mem_filter.mp hx).1)
    · exact Nat.lt_succ_of_lt (hr.lk x hx)
  · intro id hid
    exact Nat.lt_succ_of_lt (hr.cl id hid)

theorem addHook_HR {closed : List Nat} (e : Eff) (h : HSt) (id hook : Nat) (hid : id < e.ps.nid)
    (hr : HR closed e.ps h) : HR closed (addHookTo e id hook).ps (hookStep h (.hookAdd (id + 1) hook)) := by
  rw [hookStep_add h _ _ hr.due]
  have hf1 : ∀ x ∈ h.hooks ++ [(id + 1, hook)], x.1 ≤ e.ps.nid := by
    intro x hx
    rcases List.mem_append.mp hx with hx | hx
    · exact hr.f1 x hx
    · rw [List.mem_singleton.mp hx]; exact hid
  unfold addHookTo
  cases hfi : e.ps.procs.findIdx? (fun p => p.ev == id && !p.done) with
  | some pid =>
    -- in flight: the hook joins the late list of that process
    simp only []
    obtain ⟨hl, hP, _⟩ := List.findIdx?_eq_some_iff_getElem.mp hfi
    have hp0 := List.getElem?_eq_getElem hl
    simp only [Bool.and_eq_true, beq_iff_eq, Bool.not_eq_true'] at hP
    generalize e.ps.procs[pid] = p0 at hp0 hP
    have hclosed : id ∈ closed := by rw [← hP.1]; exact hr.v pid p0 hp0
    refine { hr with h1 := ?_, h2 := ?_, f1 := hf1, lb := ?_ }
    · intro id' hid'
      have hne' : id ≠ id' := by intro heq; rw [heq] at hclosed; exact hid' hclosed
      rw [hooksFor_add, if_neg (by omega), List.append_nil]
      exact hr.h1 id' hid'
    · intro pid' p hp hd
      have hl : lateOf { e.ps with late := e.ps.late ++ [(pid, hook)], lateAtt := hook :: e.ps.lateAtt } pid'
          = lateOf e.ps pid' ++ if pid = pid' then [hook] else [] := by
        by_cases hpp : pid = pid' <;> simp [lateOf, List.filter_append, hpp]
      rw [hooksFor_add, hl, ← List.append_assoc, ← hr.h2 pid' p hp hd]
      by_cases hpp : pid = pid'
      · subst hpp
        cases Option.some.inj (hp0.symm.trans hp)
        rw [if_pos rfl, if_pos (by rw [hP.1])]
      · rw [if_neg hpp, if_neg (fun heq => hpp (hr.u pid pid' p0 p hp0 hp (by omega)))]
    · intro x hx
      rcases List.mem_append.mp hx with hx | hx
      · exact hr.lb x hx
      · rw [List.mem_singleton.mp hx]; exact hl
  | none =>
    -- pending, done or dropped: the hook joins the event's own list
    simp only []
    have hnone := List.findIdx?_eq_none_iff.mp hfi
    refine { hr with h1 := ?_, h2 := ?_, f1 := hf1, f2 := ?_ }
    · intro id' hid'
      rw [hooksFor_add]
      show _ = ((e.ps.hookOf ++ [(id, hook)]).filter (fun p => p.1 == id')).map (·.2)
      rw [hookOfFor_append, hr.h1 id' hid']
      by_cases hii : id = id' <;> simp [hii]
    · intro pid p hp hd
      have hne : id ≠ p.ev := by
        intro heq
        have := hnone p (List.mem_of_getElem? hp)
        simp [heq, hd] at this
      rw [hooksFor_add, if_neg (by omega), List.append_nil]
      exact hr.h2 pid p hp hd
    · intro x hx
      rcases List.mem_append.mp hx with hx | hx
      · exact hr.f2 x hx
      · rw [List.mem_singleton.mp hx]; exact hid

theorem runAct_HR {closed : List Nat} (now : Nat) (e : Eff) (h : HSt) (a : Act) (hr : HR closed e.ps h) :
    HR closed (runAct now e a).ps ((hAddLines e a).foldl hookStep h) := by
  -- an `h` line is written by `emit` with a hook and by `add_completion_hook` on a known event; anything else is a frame
  have frame : ∀ a, a.hooks = false → hAddLines e a = [] → HR closed (runAct now e a).ps ((hAddLines e a).foldl hookStep h) :=
    fun a ha hl => hl ▸ HR_frame hr (runAct_HFrame now e a ha)
  cases a with
  | emit t k d dm hk =>
    by_cases h0 : hk = 0
    · exact frame _ (by simp [Act.hooks, h0]) (by simp [hAddLines, h0])
    · simp only [hAddLines, h0, if_false, List.foldl_cons, List.foldl_nil]
      exact emitHook_HR now e h t k d dm hk h0 hr
  | addHook k hk =>
    simp only [hAddLines, runAct]
    cases hf : e.ps.lastKind.find? (fun p => p.1 == k) with
    | none => simpa using hr
    | some x =>
      obtain ⟨k', id⟩ := x
      simp only [List.foldl_cons, List.foldl_nil]
      exact addHook_HR e h id hk (hr.lk _ (List.mem_of_find?_eq_some hf)) hr
  | _ => exact frame _ rfl rfl

theorem acts_HR {closed : List Nat} (now : Nat) (acts : List Act) (e : Eff) (h : HSt) (hr : HR closed e.ps h) :
    HR closed (acts.foldl (runAct now) e).ps ((actsHookLines now e acts).foldl hookStep h) := by
  induction acts generalizing e h with
  | nil => simpa [actsHookLines] using hr
  | cons a r ih =>
    simp only [List.foldl_cons, actsHookLines, List.foldl_append]
    exact ih _ _ (runAct_HR now e h a hr)

theorem HFrame_runHooks (now : Nat) (hooks : List Nat) (e : Eff) : HFrame e.ps (runHooks now e hooks).ps :=
  runHooks_guarded (HFrame_guarded e.ps now) (fun _ _ h => h.trans HFrame_of_eqs) hooks e (HFrame.refl _)

theorem HFrame_segStart (now : Nat) (e : Eff) (pid tag : Nat) (p : Proc) (hp : e.ps.procs[pid]? = some p) :
    HFrame e.ps (segStart now e pid tag p).ps := by
  unfold segStart
  split
  · have h1 : HFrame e.ps (addObs e (.resume now pid p.send tag)).ps := HFrame_of_eqs
    have h2 := HFrame_setProc (addObs e (.resume now pid p.send tag)) pid p { p with started := true, send := .none }
      (by simpa using hp) rfl
    exact h1.trans (h2.trans HFrame_of_eqs)
  · have h2 := HFrame_setProc e pid p { p with started := true, send := .none } hp rfl
    exact h2.trans HFrame_of_eqs

theorem filter_ne_key {α} (l : List (Nat × α)) (t t' : Nat) (hne : t' ≠ t) :
    ((l.filter (fun x => x.1 != t)).filter (fun x => x.1 == t')).map (·.2) = (l.filter (fun x => x.1 == t')).map (·.2) := by
  rw [List.filter_filter]
  congr 1
  apply List.filter_congr
  intro x _
  by_cases hx : x.1 = t' <;> simp [hx, hne]

theorem hooksFor_remove_ne (h : HSt) (t t' : Nat) (d : List Nat) (c : Nat) (hne : t' ≠ t) :
    hooksFor { h with due := d, dueClock := c, hooks := h.hooks.filter (fun x => x.1 != t) } t' = hooksFor h t' :=
  filter_ne_key h.hooks t t' hne

/-- the finishing step: the `F` line makes exactly the hooks the model runs fall due, the `H` lines run
    them in order at that instant, and afterwards the finished process is out of the picture -/
theorem finish_HR {closed : List Nat} (now : Nat) (e1 : Eff) (h1 : HSt) (pid : Nat) (p' p1 : Proc)
    (hr : HR closed e1.ps h1) (hp' : e1.ps.procs[pid]? = some p') (hd : p'.done = false)
    (hev : p1.ev = p'.ev) (hhk : p1.hooks = p'.hooks) :
    HR closed
      (runHooks now (addObs ((e1.setProc pid { p1 with segs := [], done := true, hooks := [] }).clearLate pid)
        (.finish now pid)) (p1.hooks ++ lateOf e1.ps pid)).ps
      ((Line.finish now pid :: hRunLines now (p1.hooks ++ lateOf e1.ps pid)).foldl hookStep h1) := by
  have hpl : pid < e1.ps.procs.length := getElem?_some_lt hp'
  have hfin : hookStep h1 (.finish now pid)
      = { h1 with due := hooksFor h1 (p'.ev + 1), dueClock := now,
                  hooks := h1.hooks.filter (fun x => x.1 != p'.ev + 1) } := by
    rw [hookStep_finish _ _ _ hr.due, hr.pt pid p' hp']
  have hdue : hooksFor h1 (p'.ev + 1) = p1.hooks ++ lateOf e1.ps pid := by
    rw [hhk]; exact hr.h2 pid p' hp' hd
  simp only [List.foldl_cons]
  rw [hfin, hRun_ok now _ _ hdue rfl]
  -- the model, up to the creations of the hooks
  refine HR_frame ?_ (HFrame_runHooks now _ _)
  have hget : ∀ i q, (e1.ps.procs.set pid { p1 with segs := [], done := true, hooks := [] })[i]? = some q →
      (i = pid ∧ q = { p1 with segs := [], done := true, hooks := [] }) ∨ (i ≠ pid ∧ e1.ps.procs[i]? = some q) :=
    fun i q => getElem?_set_cases
  refine { hr with due := rfl, h1 := ?_, h2 := ?_, f1 := ?_, u := ?_, v := ?_, pt := ?_, np := ?_, lb := ?_ }
  · intro id hid
    have hne : id ≠ p'.ev := fun heq => hid (heq ▸ hr.v pid p' hp')
    exact (hooksFor_remove_ne h1 _ _ _ _ (by omega)).trans (hr.h1 id hid)
  · intro pid' q hq hqd
    rcases hget pid' q hq with ⟨_, rfl⟩ | ⟨hne, hq'⟩
    · cases hqd
    · have hev' : q.ev ≠ p'.ev := fun heq => hne (hr.u pid' pid q p' hq' hp' heq)
      show hooksFor _ (q.ev + 1) = q.hooks ++ ((e1.ps.late.filter (fun x => x.1 != pid)).filter (fun x => x.1 == pid')).map (·.2)
      rw [hooksFor_remove_ne h1 _ _ _ _ (by omega), filter_ne_key e1.ps.late pid pid' hne]
      exact hr.h2 pid' q hq' hqd
  · intro x hx; exact hr.f1 x (List.mem_filter.mp hx).1
  · intro i j a b ha hb hab
    rcases hget i a ha with ⟨hi, rfl⟩ | ⟨hi, ha'⟩ <;> rcases hget j b hb with ⟨hj, rfl⟩ | ⟨hj, hb'⟩
    · rw [hi, hj]
    · exact (hr.u pid j p' b hp' hb' (by rw [← hev]; exact hab)) ▸ hi
    · exact (hr.u i pid a p' ha' hp' (by rw [← hev]; exact hab)).trans hj.symm
    · exact hr.u i j a b ha' hb' hab
  · intro i a ha
    rcases hget i a ha with ⟨_, rfl⟩ | ⟨_, ha'⟩
    · show p1.ev ∈ closed; rw [hev]; exact hr.v pid p' hp'
    · exact hr.v i a ha'
  · intro i a ha
    rcases hget i a ha with ⟨hi, rfl⟩ | ⟨_, ha'⟩
    · rw [hi, hev]; exact hr.pt pid p' hp'
    · exact hr.pt i a ha'
  · show h1.nProc = (e1.ps.procs.set pid _).length
    rw [List.length_set]; exact hr.np
  · intro x hx
    show x.1 < (e1.ps.procs.set pid _).length
    rw [List.length_set]
    exact hr.lb x (List.mem_filter.mp hx).1

theorem segLines_idle {A : Eff → List Act → List Line} {now : Nat} {e : Eff} {pid tag : Nat}
    (h : ∀ p, e.ps.procs[pid]? = some p → p.segs = []) : segLines A now e pid tag = [] := by
  unfold segLines
  cases hp : e.ps.procs[pid]? with
  | none => rfl
  | some p => simp only [h p hp]

theorem segLines_cons {A : Eff → List Act → List Line} {now : Nat} {e : Eff} {pid tag : Nat} {p : Proc} {seg : Seg}
    {rest : List Seg} (hp : e.ps.procs[pid]? = some p) (hs : p.segs = seg :: rest) :
    segLines A now e pid tag = A (segStart now e pid tag p) seg.acts ++
      match seg.term with
      | .ret => Line.finish now pid ::
          hRunLines now (p.hooks ++ lateOf (seg.acts.foldl (runAct now) (segStart now e pid tag p)).ps pid)
      | _ => [] := by
  simp only [segLines, hp, hs]

theorem seg_HR {closed : List Nat} (A : Eff → List Act → List Line) (now : Nat)
    (hA : ∀ (acts : List Act) (e : Eff) (h : HSt), HR closed e.ps h →
      HR closed (acts.foldl (runAct now) e).ps ((A e acts).foldl hookStep h))
    (e : Eff) (h : HSt) (pid tag : Nat) (hr : HR closed e.ps h)
    (hdn : ∀ p, e.ps.procs[pid]? = some p → p.done = true → p.segs = []) :
    HR closed (runSegment now e pid tag).ps ((segLines A now e pid tag).foldl hookStep h) := by
  rcases runSegment_cases now e pid tag with ⟨he, hidle⟩ | ⟨p, seg, rest, hp, hs, he⟩
  · rw [he, segLines_idle hidle]; exact hr
  · rw [he, segLines_cons hp hs, List.foldl_append]
    have hpd : p.done = false := by
      cases hpd : p.done with
      | false => rfl
      | true => rw [hdn p hp hpd] at hs; cases hs
    unfold segBody
    have hr1 := hA seg.acts _ h (HR_frame hr (HFrame_segStart now e pid tag p hp))
    obtain ⟨p', hp', hst⟩ := acts_proc now e pid tag p seg.acts hp
    generalize seg.acts.foldl (runAct now) (segStart now e pid tag p) = e1 at hr1 hp'
    generalize (A (segStart now e pid tag p) seg.acts).foldl hookStep h = h1 at hr1
    have hev : p'.ev = p.ev := (congrArg Proc.ev hst :)
    have hdone : p'.done = p.done := (congrArg Proc.done hst :)
    have hhooks : p'.hooks = p.hooks := (congrArg Proc.hooks hst :)
    have h2 := HFrame_setProc e1 pid p' { ({ p with started := true, send := .none } : Proc) with segs := rest } hp'
      (by simp [hproj, hev, hdone, hhooks])
    cases ht : seg.term with
    | yieldD d => exact HR_frame hr1 (h2.trans (HFrame_push0 _ _ true))
    | yieldF f =>
      have h3 := h2.trans (HFrame_setFut (e1.setProc pid { ({ p with started := true, send := .none } : Proc) with segs := rest }) f
        { futGet (e1.setProc pid { ({ p with started := true, send := .none } : Proc) with segs := rest }).ps.futs f with
          parked := some pid })
      simp only [segTerm, List.foldl_nil]
      split
      · exact HR_frame hr1 (h3.trans (HFrame_resumeParked _ now f))
      · exact HR_frame hr1 h3
    | ret =>
      exact finish_HR now e1 h1 pid p' { p with started := true, send := .none } hr1 hp' (hdone.trans hpd) hev.symm
        hhooks.symm

theorem HR_close {closed : List Nat} {ps : PS} {h : HSt} (hr : HR closed ps h) (id : Nat) (hlt : id < ps.nid) :
    HR (id :: closed) ps h :=
  { hr with
    h1 := fun i hi => hr.h1 i (fun hc => hi (List.mem_cons_of_mem _ hc))
    cl := fun i hi => (List.mem_cons.mp hi).elim (fun heq => heq ▸ hlt) (hr.cl i)
    v := fun pid p hp => List.mem_cons_of_mem _ (hr.v pid p hp) }

theorem HR_congr {c c' : List Nat} {ps : PS} {h : HSt} (hr : HR c ps h) (hcc : ∀ id, id ∈ c' ↔ id ∈ c) : HR c' ps h :=
  { hr with
    h1 := fun i hi => hr.h1 i (fun hc => hi ((hcc i).mpr hc))
    cl := fun i hi => hr.cl i ((hcc i).mp hi)
    v := fun pid p hp => (hcc _).mpr (hr.v pid p hp) }

theorem skip_HR {closed : List Nat} (ps : PS) (now : Nat) (m : Ev) (h : HSt) (hr : HR closed ps h)
    (hm : m.id ∉ closed) (hlt : m.id < ps.nid) :
    HR (m.id :: closed) ps
      ((Line.skipped now (m.id + 1) :: hRunLines now (hookOfFor ps m.id)).foldl hookStep h) := by
  rw [List.foldl_cons, hookStep_skipped _ _ _ hr.due, hRun_ok now _ _ (hr.h1 m.id hm) rfl]
  refine { HR_close hr m.id hlt with due := rfl, h1 := ?_, h2 := ?_, f1 := fun x hx => hr.f1 x (List.mem_filter.mp hx).1 }
  · intro id hid
    have hne : id ≠ m.id := fun heq => hid (heq ▸ List.mem_cons_self ..)
    rw [hooksFor_remove_ne h _ _ _ _ (by omega)]
    exact hr.h1 id (fun hc => hid (List.mem_cons_of_mem _ hc))
  · intro pid p hp hd
    have hne : p.ev ≠ m.id := fun heq => hm (heq ▸ hr.v pid p hp)
    rw [hooksFor_remove_ne h _ _ _ _ (by omega)]
    exact hr.h2 pid p hp hd

theorem spawn_HR {closed : List Nat} (ps : PS) (now : Nat) (m : Ev) (d : HandlerDef) (h : HSt) (hr : HR closed ps h)
    (hm : m.id ∉ closed) (hlt : m.id < ps.nid) :
    HR (m.id :: closed) (spawn (addObs { ps := ps } (.start now m.target m.kind m.tag)) (newProc ps m d)).ps
      (hookStep h (.start now (m.id + 1))) := by
  rw [hookStep_start _ _ _ hr.due]
  have hget : ∀ i q, (ps.procs ++ [newProc ps m d])[i]? = some q →
      (i < ps.procs.length ∧ ps.procs[i]? = some q) ∨ (i = ps.procs.length ∧ q = newProc ps m d) :=
    fun i q => getElem?_concat_cases
  have hnew : (newProc ps m d).ev = m.id ∧ (newProc ps m d).done = false ∧ (newProc ps m d).hooks = hookOfFor ps m.id :=
    ⟨rfl, rfl, rfl⟩
  refine { HR_close hr m.id hlt with h2 := ?_, u := ?_, v := ?_, pt := ?_, np := ?_, lb := ?_ }
  · intro pid q hq hqd
    rcases hget pid q hq with ⟨_, hq'⟩ | ⟨hi, rfl⟩
    · exact hr.h2 pid q hq' hqd
    · have hl : lateOf ps pid = [] := filter_key_nil ps.late pid (fun x hx => hi ▸ hr.lb x hx)
      show hooksFor h ((newProc ps m d).ev + 1) = (newProc ps m d).hooks ++ lateOf ps pid
      rw [hl, hnew.1, hnew.2.2, List.append_nil]
      exact hr.h1 m.id hm
  · intro i j a b ha hb hab
    rcases hget i a ha with ⟨hi, ha'⟩ | ⟨hi, rfl⟩ <;> rcases hget j b hb with ⟨hj, hb'⟩ | ⟨hj, rfl⟩
    · exact hr.u i j a b ha' hb' hab
    · exfalso; apply hm; rw [← hnew.1, ← hab]; exact hr.v i a ha'
    · exfalso; apply hm; rw [← hnew.1, hab]; exact hr.v j b hb'
    · rw [hi, hj]
  · intro i a ha
    rcases hget i a ha with ⟨_, ha'⟩ | ⟨_, rfl⟩
    · exact List.mem_cons_of_mem _ (hr.v i a ha')
    · exact List.mem_cons_self ..
  · intro i a ha
    rcases hget i a ha with ⟨hi, ha'⟩ | ⟨hi, rfl⟩
    · have hne : (h.nProc == i) = false := by rw [hr.np]; simp; omega
      simp only [List.find?_cons, hne]
      exact hr.pt i a ha'
    · have heq : (h.nProc == i) = true := by rw [hr.np, hi]; simp
      simp only [List.find?_cons, heq]
      rw [hr.np, hi]; rfl
  · rw [hr.np]; simp
  · intro x hx
    have := hr.lb x hx
    simp; omega

theorem procEff_HR {closed : List Nat} (A : Eff → List Act → List Line) (ps : PS) (now : Nat)
    (hA : ∀ (c : List Nat) (acts : List Act) (e : Eff) (h : HSt), HR c e.ps h →
      HR c (acts.foldl (runAct now) e).ps ((A e acts).foldl hookStep h))
    (m : Ev) (h : HSt) (hr : HR closed ps h)
    (hm : m.data = 0 → m.id ∉ closed ∧ m.id < ps.nid)
    (hdn : ∀ (pid : Nat) (p : Proc), ps.procs[pid]? = some p → p.done = true → p.segs = []) :
    HR (if m.data = 0 then m.id :: closed else closed) (procEff ps now m).ps
      ((invLines A ps now m).foldl hookStep h) := by
  rcases procEff_cases ps now m with ⟨hd, hf, he⟩ | ⟨d, hd, hf, he⟩ | ⟨hd, he⟩
  · simp only [he, invLines, hd, hf, if_true, List.foldl_append, List.foldl_cons, List.foldl_nil]
    have h1 := skip_HR ps now m h hr (hm hd).1 (hm hd).2
    simp only [List.foldl_cons] at h1
    rw [hookStep_other _ h1.due]
    refine HR_frame h1 ?_
    exact (HFrame_of_eqs (a := ps) (b := (addObs ({ ps := ps } : Eff) (.skip now m.target m.kind m.tag)).ps)).trans (HFrame_runHooks now _ _)
  · simp only [he, invLines, hd, hf, if_true, List.foldl_append, List.foldl_cons, List.foldl_nil]
    have h1 := spawn_HR ps now m d h hr (hm hd).1 (hm hd).2
    have h2 := seg_HR A now (hA _) _ _ ps.procs.length 0 h1 (fun p hp hpd => by rw [spawn_last hp] at hpd; cases hpd)
    rw [hookStep_other _ h2.due]
    exact h2
  · simp only [he, invLines, hd, if_false, List.foldl_append, List.foldl_cons, List.foldl_nil]
    have h2 := seg_HR A now (hA _) ({ ps := ps } : Eff) h (m.data - 1) m.tag hr (hdn (m.data - 1))
    rw [hookStep_other _ h2.due]
    exact h2

/-- the events that have been handed to a handler (or found none) -/
def closedOf (s : St PS) : List Nat := (s.log.filter (fun e => e.data == 0)).map (·.id)

theorem HR_skipStep (s : St PS) (h : HSt) (m : Ev) (now' a b c prim : Nat) (pp : List (Ev × Verdict))
    (hr : HR (closedOf s) s.ent h) :
    HR (closedOf { s with heap := s.heap.erase m, primary := prim, now := now', processed := a, nCancelled := b,
                          nStale := c, popped := pp }) s.ent h := hr

theorem HR_deliver (A : Nat → Eff → List Act → List Line)
    (hA : ∀ (now : Nat) (c : List Nat) (acts : List Act) (e : Eff) (h : HSt), HR c e.ps h →
      HR c (acts.foldl (runAct now) e).ps ((A now e acts).foldl hookStep h))
    (s s' : St PS) (h : HSt) (m : Ev) (hm : m ∈ s.heap) (inv : Inv s) (hk : HookInv s) (pinv : ProcInv s)
    (hr : HR (closedOf s) s.ent h) (k : Delivers s m s') :
    HR (closedOf s') s'.ent ((invLines (A m.time) s.ent m.time m).foldl hookStep h) := by
  have hmc : m.data = 0 → m.id ∉ closedOf s ∧ m.id < s.ent.nid := by
    intro _
    refine ⟨fun hc => ?_, by rw [hk.nid]; exact inv.fresh_heap m hm⟩
    obtain ⟨e, he, hid⟩ := List.mem_map.mp hc
    exact inv.log_ne_heap e (List.mem_filter.mp he).1 m hm hid
  rw [k.ent]
  refine HR_congr (procEff_HR (A m.time) s.ent m.time (hA m.time) m h hr hmc
    (fun pid p hp hd => (pinv.doneNone pid p hp hd).1)) ?_
  intro id
  unfold closedOf
  rw [k.log, List.filter_append, List.map_append, List.mem_append]
  by_cases hd : m.data = 0
  · simp only [hd, if_true, List.filter_cons, List.filter_nil, beq_self_eq_true, List.map_cons, List.map_nil,
      List.mem_cons, List.not_mem_nil, or_false]
    exact Or.comm
  · have hb : (m.data == 0) = false := by simpa using hd
    simp only [hd, if_false, List.filter_cons, List.filter_nil, hb, Bool.false_eq_true, List.map_nil,
      List.not_mem_nil, or_false]

/-- the link along `run`, for every view whose lines `L` of a delivery act on the monitor like the hook lines
    over some action lines `A` (whenever nothing is due before and after) -/
theorem HR_run {endT : Option Nat} {L : St PS → Ev → List Line} {gr : Nat → St PS → List Line → List Line}
    (hv : IsView endT L gr) (A : Nat → Eff → List Act → List Line)
    (hA : ∀ (now : Nat) (c : List Nat) (acts : List Act) (e : Eff) (h : HSt), HR c e.ps h →
      HR c (acts.foldl (runAct now) e).ps ((A now e acts).foldl hookStep h))
    (hL : ∀ (s : St PS) (m : Ev) (h : HSt), h.due = [] →
      ((invLines (A m.time) s.ent m.time m).foldl hookStep h).due = [] →
      (L s m).foldl hookStep h = (invLines (A m.time) s.ent m.time m).foldl hookStep h)
    (n : Nat) (s : St PS) (ls : List Line) (inv : Inv s) (hk : HookInv s) (pinv : ProcInv s)
    (hr : HR (closedOf s) s.ent (ls.foldl hookStep {})) :
    HR (closedOf (run procMachine endT n s)) (run procMachine endT n s).ent ((gr n s ls).foldl hookStep {}) :=
  run_view hv (I := fun s => Inv s ∧ HookInv s ∧ ProcInv s) (P := fun s ls => HR (closedOf s) s.ent (ls.foldl hookStep {}))
    (fun s m hm hmin i => ⟨stepWith_inv procMachine s m hm hmin i.1, step_hookInv s m i.1 i.2.1 hm, step_procInv s m i.2.2 hm⟩)
    (fun s ls m s' i h k => by unfold closedOf at h ⊢; rw [k.log, k.ent]; exact h)
    (fun s ls m s' hm i h k => by
      have h1 := HR_deliver A hA s s' _ m hm i.1 i.2.1 i.2.2 h k
      rw [List.foldl_append, hL s m _ h.due h1.due]; exact h1)
    n s ls ⟨inv, hk, pinv⟩ hr

theorem hviewRun_isView (endT : Option Nat) : IsView endT (fun s m => hookLines s.ent m.time m) (hviewRun endT) :=
  ⟨fun _ _ => rfl, fun _ _ _ => rfl⟩

theorem initHookLines_fold (ps : PS) :
    (initHookLines ps).foldl hookStep {} = { hooks := ps.hookOf.map (fun x => (x.1 + 1, x.2)) } := by
  have key : ∀ (l : List (Nat × Nat)) (h : HSt), h.due = [] →
      (l.map (fun x => Line.hookAdd (x.1 + 1) x.2)).foldl hookStep h
        = { h with hooks := h.hooks ++ l.map (fun x => (x.1 + 1, x.2)) } := by
    intro l
    induction l with
    | nil => intro h _; simp
    | cons a r ih =>
      intro h hd
      rw [List.map_cons, List.foldl_cons, hookStep_add h _ _ hd, ih _ (by exact hd), List.map_cons, List.append_assoc]
      rfl
  exact key ps.hookOf {} rfl

theorem HR_init (s0 : St PS) (h0 : InitOk s0) (hlog : s0.log = []) (hlate : s0.ent.late = [])
    (hf2 : ∀ x ∈ s0.ent.hookOf, x.1 < s0.ent.nid) (hlk : ∀ x ∈ s0.ent.lastKind, x.2 < s0.ent.nid) :
    HR (closedOf s0) s0.ent ((initHookLines s0.ent).foldl hookStep {}) := by
  have hnp : ∀ {P : Prop} (pid : Nat) (p : Proc), s0.ent.procs[pid]? = some p → P := by
    intro P pid p hp; rw [h0.noProcs] at hp; cases hp
  rw [initHookLines_fold]
  refine
    { err := rfl, due := rfl, h1 := ?_, h2 := fun pid p hp => hnp pid p hp, f1 := ?_, f2 := hf2, lk := hlk,
      cl := by simp [closedOf, hlog], u := fun i j p q hp => hnp i p hp, v := fun pid p hp => hnp pid p hp,
      pt := fun pid p hp => hnp pid p hp, np := by rw [h0.noProcs]; rfl, lb := by rw [hlate]; exact nofun }
  · intro id _
    unfold hooksFor hookOfFor
    simp only [List.filter_map, List.map_map]
    congr 1
    exact List.filter_congr (fun x _ => by simp)
  · intro x hx
    obtain ⟨y, hy, rfl⟩ := List.mem_map.mp hx
    exact hf2 y hy

/-- **the hook clauses of the C02 judge are silent on the trace of the model**: for every handler table,
    from every initial state that satisfies the engine invariant `Inv` and the hook accounting `HookInv`, with an empty
    delivery log, no process, no pending late hook, plain pending events (`InitOk`) and attachments and handles below
    the creation counter, for every end time and number of iterations: when the processing of an event
    finishes, the hooks the model runs are exactly the hooks attached to the event up to that moment, in
    attachment order, at that instant — and the model runs no hook at any other time -/
theorem hook_clauses_silent_on_model (endT : Option Nat) (n : Nat) (s0 : St PS) (inv : Inv s0) (hk : HookInv s0)
    (h0 : InitOk s0) (hlog : s0.log = []) (hlate : s0.ent.late = [])
    (hf2 : ∀ x ∈ s0.ent.hookOf, x.1 < s0.ent.nid) (hlk : ∀ x ∈ s0.ent.lastKind, x.2 < s0.ent.nid) :
    hookMonitor (hookView endT n s0) = none := by
  have hr := HR_run (hviewRun_isView endT) actsHookLines (fun now c acts e h hr => acts_HR now acts e h hr)
    (fun _ _ _ _ _ => rfl) n s0 _ inv hk h0.procInv (HR_init s0 h0 hlog hlate hf2 hlk)
  unfold hookMonitor hookView
  simp [hr.err, hr.due]

theorem initState_hookOf_fresh (p : Program) (gateCont : Bool) :
    ∀ x ∈ (p.initState gateCont).ent.hookOf, x.1 < (p.initState gateCont).ent.nid := by
  intro x hx
  have hx' : x ∈ ((List.range (p.pre.map (·.1)).length).zip p.pre).filterMap
      (fun q => if q.2.2.1 = 0 then none else some (q.1, q.2.2.1)) := hx
  show x.1 < (p.pre.map (·.1)).length
  obtain ⟨y, hy, hfy⟩ := List.mem_filterMap.mp hx'
  have hr := (List.of_mem_zip hy).1
  split at hfy
  · simp at hfy
  · simp only [Option.some.injEq] at hfy
    subst hfy
    simpa using hr

theorem initState_lastKind_fresh (p : Program) (gateCont : Bool) :
    ∀ x ∈ (p.initState gateCont).ent.lastKind, x.2 < (p.initState gateCont).ent.nid := by
  intro x hx
  show x.2 < (p.pre.map (·.1)).length
  -- the handles of the pre-run events are their creation indices
  have hx' : x ∈ ((List.range (p.pre.map (·.1)).length).zip (p.pre.map (·.1))).foldl
      (fun acc q => (q.2.kind, q.1) :: acc.filter (fun y => y.1 != q.2.kind)) [] := hx
  have key : ∀ (l : List (Nat × Spec)) (acc : List (Nat × Nat)) (N : Nat), (∀ q ∈ l, q.1 < N) → (∀ y ∈ acc, y.2 < N) →
      ∀ y ∈ l.foldl (fun acc q => (q.2.kind, q.1) :: acc.filter (fun y => y.1 != q.2.kind)) acc, y.2 < N := by
    intro l
    induction l with
    | nil => intro acc N _ ha y hy; exact ha y hy
    | cons q r ih =>
      intro acc N hl ha y hy
      simp only [List.foldl_cons] at hy
      refine ih _ N (fun z hz => hl z (List.mem_cons_of_mem _ hz)) ?_ y hy
      intro z hz
      rcases List.mem_cons.mp hz with rfl | hz
      · exact hl q (by simp)
      · exact ha z (List.mem_filter.mp hz).1
  refine key _ [] _ ?_ (by simp) x hx'
  intro q hq
  have := (List.of_mem_zip hq).1
  simpa using this

theorem hook_clauses_silent_on_program (p : Program) (gateCont : Bool) (hp : p.Plain) (endT : Option Nat) (n : Nat) :
    hookMonitor (hookView endT n (p.initState gateCont)) = none :=
  hook_clauses_silent_on_model endT n _ (initState_inv p gateCont) (initState_hookInv p gateCont)
    (initState_ok p gateCont hp) rfl rfl (initState_hookOf_fresh p gateCont) (initState_lastKind_fresh p gateCont)

end HappyModel.C01
