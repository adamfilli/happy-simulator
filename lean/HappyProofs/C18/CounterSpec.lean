import HappyProofs.C18.SpecInv
/-!
PN-counter: the vector entry `p[i]` of replica `r` is the sum of the increments performed at
replica `i` that `r` has seen. Seen increments of one origin form a prefix of that origin's
increments, so what two replicas have seen of it is comparable by inclusion (`know_comparable`), and the
pointwise maximum taken by `merge` is the sum over the union.
The second half (`sumTo` …) passes from the per-slot sums to `Vec.sum`, i.e. to `PN.value` (`pnDen_value`):
a sum over slots `< B` of sums over records, exchanged, for every `B` beyond the slots that occur.
-/
namespace HappyModel.C18

def wsum (w : OpRec → Nat) : List OpRec → List Nat → Nat
  | [], _ => 0
  | rc :: rest, K => (if rc.id ∈ K then w rc else 0) + wsum w rest K

theorem wsum_le (w : OpRec → Nat) (recs : List OpRec) (A B : List Nat)
    (h : ∀ rc ∈ recs, w rc ≠ 0 → rc.id ∈ A → rc.id ∈ B) : wsum w recs A ≤ wsum w recs B := by
  induction recs with
  | nil => simp [wsum]
  | cons rc rest ih =>
    have ih' := ih (fun x hx => h x (List.mem_cons_of_mem _ hx))
    have h0 := h rc List.mem_cons_self
    simp only [wsum]
    by_cases hA : rc.id ∈ A
    · by_cases hw : w rc = 0
      · simp only [hw, ite_self]; omega
      · simp only [hA, h0 hw hA, if_true]; omega
    · simp only [hA, if_false]; omega

theorem wsum_congr (w : OpRec → Nat) (recs : List OpRec) (A B : List Nat)
    (h : ∀ rc ∈ recs, w rc ≠ 0 → (rc.id ∈ A ↔ rc.id ∈ B)) : wsum w recs A = wsum w recs B :=
  Nat.le_antisymm (wsum_le w recs A B fun rc hrc hw => (h rc hrc hw).mp)
    (wsum_le w recs B A fun rc hrc hw => (h rc hrc hw).mpr)

theorem wsum_union_max (w : OpRec → Nat) (recs : List OpRec) (A B U : List Nat)
    (hU : ∀ x, x ∈ U ↔ x ∈ A ∨ x ∈ B)
    (hc : (∀ rc ∈ recs, w rc ≠ 0 → rc.id ∈ A → rc.id ∈ B) ∨
          (∀ rc ∈ recs, w rc ≠ 0 → rc.id ∈ B → rc.id ∈ A)) :
    wsum w recs U = max (wsum w recs A) (wsum w recs B) := by
  rcases hc with hc | hc
  · have h1 := wsum_le w recs A B hc
    have h2 : wsum w recs U = wsum w recs B :=
      wsum_congr w recs U B fun rc hrc hw => by
        rw [hU]; exact ⟨fun h => h.elim (hc rc hrc hw) id, Or.inr⟩
    omega
  · have h1 := wsum_le w recs B A hc
    have h2 : wsum w recs U = wsum w recs A :=
      wsum_congr w recs U A fun rc hrc hw => by
        rw [hU]; exact ⟨fun h => h.elim id (hc rc hrc hw), Or.inl⟩
    omega

theorem know_comparable (t : SpecSys) (h : SpecInv t) (i d s : Nat) :
    (∀ rc ∈ t.recs, rc.op.origin = i → rc.id ∈ t.know d → rc.id ∈ t.know s) ∨
    (∀ rc ∈ t.recs, rc.op.origin = i → rc.id ∈ t.know s → rc.id ∈ t.know d) := by
  by_cases hc : ∀ rc ∈ t.recs, rc.op.origin = i → rc.id ∈ t.know d → rc.id ∈ t.know s
  · exact Or.inl hc
  · right
    simp only [Classical.not_forall] at hc
    obtain ⟨a, ha, hai, had, has⟩ := hc
    intro b hb hbi hbs
    rcases Nat.lt_trichotomy a.id b.id with hlt | heq | hgt
    · exact absurd (h.closed s b hb hbs a.id (h.ownK a ha b hb (hai.trans hbi.symm) hlt)) has
    · rw [← heq]; exact had
    · exact h.closed d a ha had b.id (h.ownK b hb a ha (hbi.trans hai.symm) hgt)

theorem wsum_local (w : OpRec → Nat) (t : SpecSys) (h : SpecInv t) (r : Nat) (op : COp) (r' : Nat) :
    wsum w (t.local r op).recs ((t.local r op).know r') =
      wsum w t.recs (t.know r') + (if r' = r then w ⟨t.cnt, op, t.know r⟩ else 0) := by
  rw [SpecSys.local_recs]
  simp only [wsum]
  have h1 : wsum w t.recs ((t.local r op).know r') = wsum w t.recs (t.know r') :=
    wsum_congr w t.recs _ _ fun rc hrc _ => t.mem_know_local_old h r op r' hrc
  have h2 := t.cnt_mem_know_local h r op r'
  rw [h1]
  by_cases hr : r' = r
  · have := h2.mpr hr
    subst hr
    simp only [this, if_true]; omega
  · have : ¬ (t.cnt ∈ (t.local r op).know r') := fun hh => hr (h2.mp hh)
    simp only [this, hr, if_false]; omega

def PN.side (c : PN) (dec : Bool) : Vec := if dec then c.n else c.p

def wOf (dec : Bool) (i : Nat) (rc : OpRec) : Nat :=
  match rc.op with
  | .inc r k => if dec = false ∧ r = i then k else 0
  | .dec r k => if dec = true ∧ r = i then k else 0
  | _ => 0

theorem wOf_origin (dec : Bool) (i : Nat) (rc : OpRec) (h : wOf dec i rc ≠ 0) : rc.op.origin = i := by
  unfold wOf at h
  split at h
  · rename_i heq; rw [heq]; exact (Decidable.of_not_not fun hn => h (if_neg hn)).2
  · rename_i heq; rw [heq]; exact (Decidable.of_not_not fun hn => h (if_neg hn)).2
  · exact absurd rfl h

def PNDen (_ : Unit) (r : Nat) (t : SpecSys) (x : Rep) : Prop :=
  ∀ dec i, Vec.get (x.pn.side dec) i = wsum (wOf dec i) t.recs (t.know r)

theorem pnDen_init (r : Nat) : PNDen () r {} {} := by
  intro dec i; cases dec <;> rfl

theorem apply_pn (x : Rep) (r : Nat) (op : COp) (id : Nat) (K : List Nat) (hr : op.origin = r)
    (dec : Bool) (i : Nat) :
    Vec.get ((x.apply r op).pn.side dec) i = Vec.get (x.pn.side dec) i + wOf dec i ⟨id, op, K⟩ := by
  cases op <;> cases dec <;>
    simp [Rep.apply, PN.side, PN.inc, PN.dec, Vec.get_addAt, wOf, eq_comm, ← hr, COp.origin]

theorem pnDen : Den PNDen where
  loc := by
    intro t hi _ r op x hr h
    refine ⟨(), fun dec i => ?_, fun r' hr' y hy dec i => ?_⟩
    · rw [wsum_local _ t hi, apply_pn x r op t.cnt (t.know r) hr, h]; simp
    · rw [wsum_local _ t hi, hy]; simp [hr']
  mrg := by
    intro t hi _ d sr x y hx hy dec i
    have hm : ∀ a b : PN, (a.merge b).side dec = Vec.vmax (a.side dec) (b.side dec) := fun a b => by
      cases dec <;> rfl
    show Vec.get ((x.pn.merge y.pn).side dec) i = _
    -- what the two replicas have seen of one origin is comparable (`know_comparable`), so the maximum is the sum over the union
    rw [hm, Vec.get_vmax, hx, hy]
    refine (wsum_union_max _ _ _ _ _ (fun z => ?_) ?_).symm
    · rw [SpecSys.mem_know_merge]; simp
    · rcases know_comparable t hi i d sr with hc | hc
      · exact Or.inl fun rc hrc hw => hc rc hrc (wOf_origin dec i rc hw)
      · exact Or.inr fun rc hrc hw => hc rc hrc (wOf_origin dec i rc hw)
  keep := by
    intro t _ d sr r' x hr h dec i
    rw [h]
    exact wsum_congr _ _ _ _ fun rc _ _ => by rw [SpecSys.mem_know_merge]; simp [hr]

def sumTo (f : Nat → Nat) : Nat → Nat
  | 0 => 0
  | B + 1 => sumTo f B + f B

theorem sumTo_shift (f : Nat → Nat) (B : Nat) :
    sumTo f (B + 1) = f 0 + sumTo (fun i => f (i + 1)) B := by
  induction B with
  | zero => simp [sumTo]
  | succ B ih => rw [sumTo, ih]; simp only [sumTo]; omega

theorem sumTo_add (f g : Nat → Nat) (B : Nat) :
    sumTo (fun i => f i + g i) B = sumTo f B + sumTo g B := by
  induction B with
  | zero => simp [sumTo]
  | succ B ih => simp only [sumTo, ih]; omega

theorem sumTo_zero (B : Nat) : sumTo (fun _ => 0) B = 0 := by
  induction B with
  | zero => rfl
  | succ B ih => simp [sumTo, ih]

theorem sumTo_single (r k B : Nat) :
    sumTo (fun i => if r = i then k else 0) B = if r < B then k else 0 := by
  induction B with
  | zero => rfl
  | succ B ih =>
    rw [sumTo, ih]
    rcases Nat.lt_trichotomy r B with h | h | h
    · rw [if_pos h, if_neg (Nat.ne_of_lt h), if_pos (Nat.lt_succ_of_lt h)]; rfl
    · rw [if_neg (h ▸ Nat.lt_irrefl _), if_pos h, if_pos (h ▸ Nat.lt_succ_self _), Nat.zero_add]
    · rw [if_neg (Nat.lt_asymm h), if_neg (Nat.ne_of_gt h), if_neg (by omega)]

theorem foldl_add (v : List Nat) (a : Nat) : v.foldl (· + ·) a = a + v.foldl (· + ·) 0 := by
  induction v generalizing a with
  | nil => simp
  | cons x xs ih => simp only [List.foldl_cons]; rw [ih (a + x), ih (0 + x)]; omega

theorem Vec.sum_eq_sumTo (v : Vec) (B : Nat) (h : v.length ≤ B) :
    Vec.sum v = sumTo (Vec.get v) B := by
  induction v generalizing B with
  | nil =>
    have : Vec.get [] = fun _ => 0 := funext fun i => Vec.get_nil i
    rw [this, sumTo_zero]; rfl
  | cons x xs ih =>
    cases B with
    | zero => simp at h
    | succ B =>
      rw [sumTo_shift]
      simp only [Vec.get_cons_zero, Vec.get_cons_succ]
      rw [← ih B (by simpa using h)]
      simp only [Vec.sum, List.foldl_cons]
      rw [foldl_add]; omega

def wAll (dec : Bool) (rc : OpRec) : Nat :=
  match rc.op with
  | .inc _ k => if dec = false then k else 0
  | .dec _ k => if dec = true then k else 0
  | _ => 0

theorem sumTo_wOf (dec : Bool) (rc : OpRec) :
    ∃ B0, ∀ B, B0 ≤ B → sumTo (fun i => wOf dec i rc) B = wAll dec rc := by
  unfold wOf wAll
  split
  · rename_i r k _
    exact ⟨r + 1, fun B hB => by cases dec <;> simp [sumTo_single, sumTo_zero, show r < B by omega]⟩
  · rename_i r k _
    exact ⟨r + 1, fun B hB => by cases dec <;> simp [sumTo_single, sumTo_zero, show r < B by omega]⟩
  · exact ⟨0, fun B _ => sumTo_zero B⟩

/-- summing the per-origin sums over all origins gives the total -/
theorem sumTo_wsum (wi : Nat → OpRec → Nat) (wa : OpRec → Nat)
    (hw : ∀ rc, ∃ B0, ∀ B, B0 ≤ B → sumTo (fun i => wi i rc) B = wa rc)
    (recs : List OpRec) (K : List Nat) :
    ∃ B0, ∀ B, B0 ≤ B → sumTo (fun i => wsum (wi i) recs K) B = wsum wa recs K := by
  induction recs with
  | nil => exact ⟨0, fun B _ => by simp only [wsum]; exact sumTo_zero B⟩
  | cons rc rest ih =>
    obtain ⟨B1, h1⟩ := ih
    obtain ⟨B2, h2⟩ := hw rc
    refine ⟨max B1 B2, fun B hB => ?_⟩
    simp only [wsum]
    rw [sumTo_add, h1 B (by omega)]
    by_cases hK : rc.id ∈ K
    · simp only [hK, if_true]; rw [h2 B (by omega)]
    · simp only [hK, if_false]; rw [sumTo_zero]

theorem counter_foldl (recs : List OpRec) (K : List Nat) (acc : Int) :
    recs.foldl (fun acc rc =>
      if K.contains rc.id then
        match rc.op with
        | .inc _ k => acc + k
        | .dec _ k => acc - k
        | _ => acc
      else acc) acc = acc + (wsum (wAll false) recs K : Int) - (wsum (wAll true) recs K : Int) := by
  induction recs generalizing acc with
  | nil => simp [wsum]
  | cons rc rest ih =>
    simp only [List.foldl_cons, wsum]
    rw [ih]
    obtain ⟨id, op, K'⟩ := rc
    by_cases hK : id ∈ K
    · have hc : K.contains id = true := by simpa using hK
      simp only [hc, hK, if_true, wAll]
      cases op <;> simp <;> omega
    · simp [hK]

theorem SpecSys.counter_eq (t : SpecSys) (r : Nat) :
    t.counter r = (wsum (wAll false) t.recs (t.know r) : Int) - (wsum (wAll true) t.recs (t.know r) : Int) := by
  unfold SpecSys.counter
  exact (counter_foldl t.recs (t.know r) 0).trans (by omega)

theorem pnDen_sum {r : Nat} {t : SpecSys} {x : Rep} (h : PNDen () r t x) (dec : Bool) :
    Vec.sum (x.pn.side dec) = wsum (wAll dec) t.recs (t.know r) := by
  obtain ⟨B, hB⟩ := sumTo_wsum (wOf dec) (wAll dec) (sumTo_wOf dec) t.recs (t.know r)
  rw [Vec.sum_eq_sumTo _ _ (Nat.le_max_left _ B), ← hB _ (Nat.le_max_right _ _)]
  exact congrArg (sumTo · _) (funext (h dec))

theorem pnDen_value {r : Nat} {t : SpecSys} {x : Rep} (h : PNDen () r t x) : x.pn.value = t.counter r := by
  rw [SpecSys.counter_eq, ← pnDen_sum h false, ← pnDen_sum h true]
  rfl

end HappyModel.C18
