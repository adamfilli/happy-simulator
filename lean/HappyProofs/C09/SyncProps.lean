import HappyProofs.C09.SemSpec
import HappyProofs.C09.RWSpec
import HappyProofs.C09.BarrierSpec
import HappyProofs.C09.CondSpec
/-! C09 for Semaphore, RWLock, Barrier and Condition.  The executable Spec judge that is run on the implementation's
transcripts (`judgeSem`, `judgeRW`, `judgeBarrier`, `judgeCond` in `HappyModel/C09/SyncSpec.lean`) returns `none` on the
model's own transcript of every operation list: the clauses it checks are theorems about the model, and the differential
check ties the model to the code.  Barrier and Condition clauses are in addition stated directly on the model. -/
namespace HappyModel.C09
open Sync

/-- the Semaphore model's observable trace satisfies the executable Spec predicate (0 ≤ permits out
    ≤ capacity, out + available = capacity, release never exceeds, FIFO wake-up, head not grantable,
    malformed counts rejected) for every capacity and every operation list -/
theorem semaphore_trace_satisfies_spec (cap : Int) (hcap : 0 < cap) (ops : List Sem.Op) :
    judgeSem cap false {} (Sem.obsTrace (Sem.St.init cap) ops) = none :=
  Sem.judge_model (Sem.St.init cap) {} ops (Sem.init_inv cap hcap) ⟨by simp [Sem.St.init], rfl, rfl⟩

example : judgeSem 3 false {} (Sem.obsTrace (Sem.St.init 3)
    [.acquire 0 2, .acquire 1 2, .acquire 2 1, .tryAcquire 3 1, .tryAcquire 4 5, .release 1, .release 1, .release 4,
     .acquire 5 0, .acquire 6 4, .release 2, .release 1, .release 1]) = none := by decide +kernel

/-- somebody really waits and is woken in that list -/
example : (Sem.step (Sem.run (Sem.St.init 3) [.acquire 0 2, .acquire 1 2, .acquire 2 1, .tryAcquire 3 1, .tryAcquire 4 5,
    .release 1]) (.release 1)).2.woke = [1] := by decide +kernel

/-- the judge rejects an over-admission … -/
example : judgeSem 2 false {} [⟨0, .acq 0 2 0, .granted, [], 0, 0, 0⟩, ⟨0, .acq 1 1 0, .granted, [], 0, 0, 0⟩]
    = some "semaphore/held/exceeds-capacity" := by decide +kernel

/-- … and a wake-up out of arrival order -/
example : judgeSem 1 false {} [⟨0, .acq 0 1 0, .granted, [], 0, 0, 0⟩, ⟨0, .acq 1 1 0, .queued, [], 0, 1, 0⟩,
    ⟨0, .acq 2 1 0, .queued, [], 0, 2, 0⟩, ⟨0, .rel 1 0, .released, [2], 0, 1, 0⟩]
    = some "semaphore/fifo/out-of-order" := by decide +kernel

/-- the RWLock model's observable trace satisfies the executable Spec predicate (one writer at most,
    a writer excludes all readers, readers ≤ max_readers, exclusion checked at every single
    hand-over of a wake-up, FIFO wake-up, head of the line not grantable) for every `max_readers`
    (`0` = unlimited) and every operation list -/
theorem rwlock_trace_satisfies_spec (maxR : Nat) (ops : List RW.Op) :
    judgeRW maxR false {} (RW.obsTrace { maxR := maxR } ops) = none :=
  RW.judge_model { maxR := maxR } {} ops (RW.init_inv maxR) ⟨rfl, rfl, rfl, rfl⟩

example : judgeRW 2 false {} (RW.obsTrace { maxR := 2 }
    [.acquireWrite 0, .acquireRead 1, .acquireRead 2, .acquireRead 3, .acquireWrite 4, .tryRead 5, .tryWrite 6,
     .releaseWrite, .releaseRead, .releaseRead, .releaseRead, .releaseRead, .releaseWrite, .releaseWrite]) = none := by decide +kernel

/-- in that list the writer's release wakes two readers together (`max_readers = 2`), the next
    reader follows when a slot frees, the queued writer when the last reader leaves -/
example : (RW.trace { maxR := 2 }
    [.acquireWrite 0, .acquireRead 1, .acquireRead 2, .acquireRead 3, .acquireWrite 4, .tryRead 5, .tryWrite 6,
     .releaseWrite, .releaseRead, .releaseRead, .releaseRead, .releaseRead, .releaseWrite, .releaseWrite]).map (·.2.woke)
    = [[], [], [], [], [], [], [], [1, 2], [3], [], [4], [], [], []] := by decide +kernel

/-- the judge rejects a reader admitted next to a writer -/
example : judgeRW 0 false {} [⟨0, .acq 0 1 1, .granted, [], 0, 0, 1⟩, ⟨0, .acq 1 1 0, .granted, [], 1, 0, 1⟩]
    = some "rwlock/read/granted-while-writer" := by decide +kernel

/-- the Barrier model's observable trace satisfies the executable Spec predicate (a `wait` blocks
    only while the cohort is incomplete, trips only when it is complete and then releases exactly the
    waiting parties in arrival order, fewer than `parties` are ever waiting, `reset`/`abort` flush
    everybody, a `wait` is rejected only by a broken barrier) for every number of parties and every operation list -/
theorem barrier_trace_satisfies_spec (parties : Nat) (hp : 0 < parties) (ops : List Barrier.Op) :
    judgeBarrier parties false {} (Barrier.obsTrace { parties := parties } ops) = none :=
  Barrier.judge_model { parties := parties } {} ops (Barrier.init_inv parties hp) ⟨rfl, rfl, rfl⟩

example : judgeBarrier 3 false {} (Barrier.obsTrace { parties := 3 }
    [.wait 0, .wait 1, .wait 2, .wait 3, .reset, .wait 4, .abort, .wait 5, .reset, .wait 6, .wait 7, .wait 8]) = none := by
  decide +kernel

/-- the judge rejects a barrier that lets a party through before the cohort is complete -/
example : judgeBarrier 3 false {} [⟨0, .acq 0 1 0, .queued, [], 1, 0, 0⟩, ⟨0, .acq 1 1 0, .passed, [0], 0, 1, 0⟩]
    = some "barrier/release/too-early" := by decide +kernel

/-- **a barrier releases exactly when the n-th party arrives**: in every reachable unbroken state a
    `wait` trips the barrier iff it is the `parties`-th arrival of the cohort; it then releases all
    waiting parties of the cohort, in arrival order, empties the line and starts the next generation;
    any earlier arrival is queued and releases nobody -/
theorem barrier_trips_exactly_at_nth_arrival (parties : Nat) (hp : 0 < parties) (ops : List Barrier.Op) (id : Nat)
    (hb : (Barrier.run { parties := parties } ops).broken = false) :
    let s := Barrier.run { parties := parties } ops
    let r := Barrier.step s (.wait id)
    (r.2.1.res = .passed ↔ s.waiters.length + 1 = parties) ∧
    (r.2.1.res = .queued ↔ s.waiters.length + 1 < parties) ∧
    (r.2.1.res = .passed → r.2.1.woke = s.waiters ∧ r.1.waiters = [] ∧ r.1.generation = s.generation + 1) ∧
    (r.2.1.res = .queued → r.2.1.woke = [] ∧ r.1.waiters = s.waiters ++ [id] ∧ r.1.generation = s.generation) := by
  intro s r
  have inv : s.waiters.length < s.parties := (Barrier.run_inv _ ops (Barrier.init_inv parties hp)).below
  have hpar : s.parties = parties := Barrier.run_parties _ ops
  have h : Barrier.Leaf s (.wait id) r := Barrier.step_leaf s (.wait id)
  generalize r = r' at h ⊢
  cases h with
  | broken _ hb' => exact absurd (hb.symm.trans hb') Bool.false_ne_true
  | trip _ _ hn =>
    exact ⟨⟨fun _ => by omega, fun _ => rfl⟩, ⟨nofun, fun h => by omega⟩, fun _ => ⟨rfl, rfl, rfl⟩, nofun⟩
  | queue _ _ hn =>
    exact ⟨⟨nofun, fun h => by omega⟩, ⟨fun _ => by omega, fun _ => rfl⟩, nofun, fun _ => ⟨rfl, rfl, rfl⟩⟩

example : (Barrier.run { parties := 3 } [.wait 0, .wait 1]).broken = false
    ∧ (Barrier.step (Barrier.run { parties := 3 } [.wait 0, .wait 1]) (.wait 2)).2.1 = ⟨.passed, [0, 1]⟩
    ∧ (Barrier.step (Barrier.run { parties := 3 } [.wait 0]) (.wait 1)).2.1 = ⟨.queued, []⟩ := by decide +kernel

/-- **all parties of a generation together, generations do not mix**: the sequence of arrivals is
    cut into consecutive cohorts — it equals the released groups concatenated in release order,
    followed by the parties still waiting; every group released by a trip has exactly `parties`
    members (the whole cohort: its waiting members and the last arrival), so no party is released
    with another cohort, none is released twice and none is left behind; the generation counter
    counts the trips and resets (`reset` / `abort` flush the incomplete cohort as a group of its own) -/
theorem barrier_cohorts (parties : Nat) (hp : 0 < parties) (ops : List Barrier.Op) :
    Barrier.arrivals (Barrier.trace { parties := parties } ops)
      = (Barrier.groups (Barrier.trace { parties := parties } ops)).flatten ++ (Barrier.run { parties := parties } ops).waiters
    ∧ (∀ g ∈ Barrier.trips (Barrier.trace { parties := parties } ops), g.length = parties)
    ∧ (Barrier.run { parties := parties } ops).generation = Barrier.genSteps (Barrier.trace { parties := parties } ops) := by
  refine ⟨?_, Barrier.trips_full _ ops (Barrier.init_inv parties hp), ?_⟩
  · simpa using Barrier.cohort_ledger { parties := parties } ops
  · simpa using Barrier.generation_ledger { parties := parties } ops

example : Barrier.groups (Barrier.trace { parties := 2 } [.wait 0, .wait 1, .wait 2, .wait 3, .wait 4, .reset, .wait 5])
      = [[0, 1], [2, 3], [4]]
    ∧ Barrier.trips (Barrier.trace { parties := 2 } [.wait 0, .wait 1, .wait 2, .wait 3, .wait 4, .reset, .wait 5])
      = [[0, 1], [2, 3]]
    ∧ (Barrier.run { parties := 2 } [.wait 0, .wait 1, .wait 2, .wait 3, .wait 4, .reset, .wait 5]).waiters = [5]
    ∧ (Barrier.run { parties := 2 } [.wait 0, .wait 1, .wait 2, .wait 3, .wait 4, .reset, .wait 5]).generation = 3 := by decide +kernel

/-- the Condition + Mutex model's observable trace satisfies the executable Spec predicate (the
    Mutex clauses; `wait` only with the lock held, releasing it with a FIFO hand-off; `notify(n)`
    wakes exactly the first n condition waiters in arrival order; a notified waiter goes through an
    ordinary mutex acquire) for every operation list -/
theorem condition_trace_satisfies_spec (ops : List Cond.Op) :
    judgeCond false {} (Cond.obsTrace {} ops) = none :=
  Cond.judge_model {} {} ops ⟨by simp⟩ ⟨⟨rfl, rfl, rfl⟩, rfl⟩

example : judgeCond false {} (Cond.obsTrace {}
    [.mutex (.acquire 0), .cwait 0, .mutex (.acquire 1), .cwait 1, .mutex (.acquire 2), .cwait 2, .cwait 9,
     .mutex (.acquire 3), .notify 1, .reacq 0, .notify 1000000, .reacq 1, .mutex .release, .reacq 2, .mutex .release,
     .mutex .release, .mutex .release, .mutex .release]) = none := by decide +kernel

/-- the judge rejects a `notify` that wakes the second waiter instead of the first -/
example : judgeCond false {} [⟨0, .acq 0 1 0, .granted, [], 1, 0, 0⟩, ⟨0, .acq 0 1 2, .queued, [], 0, 0, 1⟩,
    ⟨0, .acq 1 1 0, .granted, [], 1, 0, 1⟩, ⟨0, .acq 1 1 2, .queued, [], 0, 0, 2⟩, ⟨0, .ctl 1, .ok, [1], 0, 0, 1⟩]
    = some "condition/notify/wrong-waiters" := by decide +kernel

/-- **a condition wakes waiters in FIFO order**, each at most once and nobody is skipped: the calls
    notified so far, in wake-up order, followed by the calls still waiting on the condition are
    exactly the calls that started waiting, in arrival order -/
theorem condition_notify_fifo (ops : List Cond.Op) :
    Cond.cwaitIds (Cond.trace {} ops) = Cond.notifiedIds (Cond.trace {} ops) ++ (Cond.run {} ops).cw := by
  simpa using Cond.notify_ledger {} ops

example : Cond.notifiedIds (Cond.trace {} [.mutex (.acquire 0), .cwait 0, .mutex (.acquire 1), .cwait 1,
    .mutex (.acquire 2), .cwait 2, .notify 1, .notify 1]) = [0, 1]
  ∧ (Cond.run {} [.mutex (.acquire 0), .cwait 0, .mutex (.acquire 1), .cwait 1,
    .mutex (.acquire 2), .cwait 2, .notify 1, .notify 1]).cw = [2] := by decide +kernel

/-- **`notify` wakes at most one, `notify_all` all current waiters**: in every state `notify(n)`
    wakes exactly the first `min n (number waiting)` condition waiters, in arrival order, the others
    keep waiting in their order, and the mutex is not touched; so `notify()` (`n = 1`) wakes at most
    one — the longest-waiting — and `notify_all()` (any `n ≥` the number waiting) wakes all the
    current waiters and nobody who starts waiting later -/
theorem condition_notify_wakes_first_n (s : Cond.St) (n : Nat) :
    (Cond.step s (.notify n)).2.woke = s.cw.take n
    ∧ (Cond.step s (.notify n)).2.woke.length = min n s.cw.length
    ∧ (Cond.step s (.notify n)).1.cw = s.cw.drop n
    ∧ (Cond.step s (.notify n)).1.m = s.m
    ∧ (n = 1 → (Cond.step s (.notify n)).2.woke = s.cw.head?.toList)
    ∧ (s.cw.length ≤ n → (Cond.step s (.notify n)).2.woke = s.cw ∧ (Cond.step s (.notify n)).1.cw = []) := by
  rw [Cond.step_notify]
  refine ⟨rfl, by simp [List.length_take], rfl, rfl, ?_, ?_⟩
  · intro h; subst h; cases s.cw <;> simp
  · intro h; exact ⟨List.take_of_length_le h, List.drop_of_length_le h⟩

example : (Cond.step { cw := [4, 5, 6] } (.notify 1)).2.woke = [4]
    ∧ (Cond.step { cw := [4, 5, 6] } (.notify 1000000)).2.woke = [4, 5, 6]
    ∧ (Cond.step { cw := [] } (.notify 1)).2.woke = [] := by decide +kernel

/-- **a woken waiter re-acquires the mutex before returning**: the continuation of a notified
    `wait()` is an ordinary mutex acquire.  In every reachable state it is granted only if the mutex
    is free and then holds it; otherwise it queues at the tail of the mutex line (behind everybody
    already waiting there), and a caller that leaves that line — handed the lock by a `release` or by
    another `wait()` giving the lock up — leaves it with the mutex locked for it -/
theorem condition_woken_reacquires_mutex (ops : List Cond.Op) (id : Nat) :
    let s := Cond.run {} ops
    let r := Cond.step s (.reacq id)
    (r.2.res = .granted ∨ r.2.res = .queued) ∧
    (r.2.res = .granted → s.m.locked = false ∧ s.m.waiters = [] ∧ r.1.m.locked = true) ∧
    (r.2.res = .queued → s.m.locked = true ∧ r.1.m.waiters = s.m.waiters ++ [id] ∧ r.1.m.locked = true) ∧
    (∀ o, (o = .mutex .release ∨ ∃ j, o = .cwait j) → (Cond.step s o).2.woke ≠ [] →
        (Cond.step s o).2.woke = s.m.waiters.take 1 ∧ (Cond.step s o).1.m.locked = true) := by
  intro s r
  have inv : Mutex.Inv s.m := Cond.run_minv {} ops ⟨by simp⟩
  have key : (Mutex.step s.m .release).2.woke ≠ [] →
      (Mutex.step s.m .release).2.woke = s.m.waiters.take 1 ∧ (Mutex.step s.m .release).1.locked = true := by
    have h := Mutex.step_leaf s.m .release
    generalize Mutex.step s.m .release = q at h ⊢
    cases h with
    | relHand hl hq => exact fun _ => ⟨by rw [hq]; rfl, hl⟩
    | _ => exact fun h => absurd rfl h
  have h := Mutex.step_leaf s.m (.acquire id)
  have hr : r = ({ s with m := (Mutex.step s.m (.acquire id)).1 }, (Mutex.step s.m (.acquire id)).2) := rfl
  generalize Mutex.step s.m (.acquire id) = q at h hr
  refine hr ▸ ⟨?_, ?_, ?_, ?_⟩
  · cases h <;> simp
  · cases h with
    | granted _ hl => exact fun _ => ⟨hl, inv.free hl, rfl⟩
    | queued => exact nofun
  · cases h with
    | granted => exact nofun
    | queued _ hl => exact fun _ => ⟨hl, rfl, hl⟩
  · intro o ho hw
    rcases ho with rfl | ⟨j, rfl⟩
    · rw [Cond.step_mutex] at hw ⊢; exact key hw
    · rw [Cond.step_cwait] at hw ⊢
      cases hl : s.m.locked with
      | false => simp [hl] at hw
      | true =>
        simp only [hl, Bool.not_true, Bool.false_eq_true, if_false] at hw ⊢
        exact key hw

example : (Cond.step (Cond.run {} [.mutex (.acquire 0), .cwait 0, .mutex (.acquire 1), .notify 1]) (.reacq 0)).2.res = .queued
    ∧ (Cond.step (Cond.run {} [.mutex (.acquire 0), .cwait 0, .mutex (.acquire 1), .notify 1, .reacq 0]) (.mutex .release)).2.woke = [0]
    ∧ (Cond.step (Cond.run {} [.mutex (.acquire 0), .cwait 0, .notify 1]) (.reacq 0)).2.res = .granted := by decide +kernel

end HappyModel.C09
