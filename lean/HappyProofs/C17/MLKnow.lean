import HappyModel.C17.MLMK
import HappyProofs.C17.MLAux
/-!
The knowledge computation of `Spec.gossipComplete` carried forward along a run (`kstep`: `MLM.kstep`, `MLT.kstep`
on the view) and what its lists mean (`GI`): `h ∈ g.k b` — leader `b` now holds, for every key, a version that
covers the one leader `h` held at the start of the phase (`K`); `h ∈ g.sk mid` — request `mid`, or the handler
working on it, still carries a witness of such a version (`W`).  What `K` and `W` are depends on the resolver; a
model supplies them with `Facts`.
-/
namespace HappyModel.C17.LN
open HappyModel.C17.ML (St Version Msg Proc MKind PKind versionsOf)
open HappyModel.C17.MLM (GK)

def _root_.HappyModel.C17.MLM.GK.learn (g : GK) (b mid : Nat) : GK := { g with k := upd g.k b (g.k b ++ g.sk mid) }

def finishedReq (s s' : St) : Act → Option (Nat × Nat)
  | .dl _ =>
    (match s'.procs s.np with
     | some p => if p.kind = .aereq ∧ p.fin = true then some (p.node, p.op) else none
     | none => none)
  | .rs pid =>
    (match s.procs pid, s'.procs pid with
     | some p0, some p => if p0.fin = false ∧ p.kind = .aereq ∧ p.fin = true then some (p.node, p.op) else none
     | _, _ => none)
  | _ => none

def kstep (r : Res) (s s' : St) (g : GK) (a : Act) : GK :=
  if isWR s a then GK.reset else
  match a with
  | .ae node peer =>
    if node < s.n ∧ peer < s.n ∧ r.link node peer = true then { g with sk := upd g.sk s.nm (g.k node) } else g
  | _ =>
    (match finishedReq s s' a with
     | some (b, mid) => { g with k := upd g.k b (g.k b ++ g.sk mid) }
     | none => g)

section
variable {r : Res} {s s' : St} {g : GK} {a : Act}

theorem kstep_of_finishedReq (hw : isWR s a = false) (hne : ∀ node peer, a ≠ .ae node peer) :
    kstep r s s' g a = match finishedReq s s' a with
      | some (b, mid) => g.learn b mid
      | none => g := by
  unfold kstep
  rw [hw]
  cases a with
  | ae node peer => exact absurd rfl (hne node peer)
  | _ => rfl

theorem kstep_none (hw : isWR s a = false) (hne : ∀ node peer, a ≠ .ae node peer)
    (hf : finishedReq s s' a = none) : kstep r s s' g a = g := by
  rw [kstep_of_finishedReq hw hne, hf]

theorem kstep_handler (hw : isWR s a = false) (hne : ∀ node peer, a ≠ .ae node peer) (C : Prop) [Decidable C]
    (b mid : Nat) (hf : finishedReq s s' a = if C then some (b, mid) else none) :
    kstep r s s' g a = if C then g.learn b mid else g := by
  rw [kstep_of_finishedReq hw hne, hf]
  by_cases hc : C
  · rw [if_pos hc, if_pos hc]
  · rw [if_neg hc, if_neg hc]

theorem finishedReq_dl (mid : Nat) (p' : Proc) (hp : s'.procs s.np = some p') :
    finishedReq s s' (.dl mid) = if p'.kind = .aereq ∧ p'.fin = true then some (p'.node, p'.op) else none := by
  simp only [finishedReq, hp]

theorem finishedReq_rs (pid : Nat) (p0 p' : Proc) (h0 : s.procs pid = some p0) (hp : s'.procs pid = some p') :
    finishedReq s s' (.rs pid) =
      if p0.fin = false ∧ p'.kind = .aereq ∧ p'.fin = true then some (p'.node, p'.op) else none := by
  simp only [finishedReq, h0, hp]

end

theorem if_fin_eq {α} (p' : Proc) (hk : p'.kind = .aereq) (a b : α) :
    (if p'.kind = .aereq ∧ p'.fin = true then a else b) = if p'.fin = true then a else b := by
  by_cases hf : p'.fin = true
  · rw [if_pos ⟨hk, hf⟩, if_pos hf]
  · rw [if_neg (fun c => hf c.2), if_neg hf]

/-- a model's `run`, `krun`, `noWR` with their defining equations: all that the run-level lemmas read of it -/
structure RunEqs (σ : Type) where
  step : σ → Act → σ
  wr : σ → Act → Bool
  ks : σ → GK → Act → GK
  run : σ → List Act → σ
  krun : σ → GK → List Act → σ × GK
  noWR : σ → List Act → Bool
  run_nil : ∀ s, run s [] = s
  run_cons : ∀ s a as, run s (a :: as) = run (step s a) as
  krun_nil : ∀ s g, krun s g [] = (s, g)
  krun_cons : ∀ s g a as, krun s g (a :: as) = krun (step s a) (ks s g a) as
  noWR_nil : ∀ s, noWR s [] = true
  noWR_cons : ∀ s a as, noWR s (a :: as) = (!wr s a && noWR (step s a) as)
  ks_wr : ∀ s g a, wr s a = true → ks s g a = GK.reset

namespace RunEqs
variable {σ : Type} (E : RunEqs σ)

theorem run_append : ∀ (a b : List Act) (s : σ), E.run s (a ++ b) = E.run (E.run s a) b
  | [], _, _ => by rw [E.run_nil]; rfl
  | x :: a, b, s => by rw [List.cons_append, E.run_cons, E.run_cons]; exact run_append a b (E.step s x)

theorem run_ind (I : σ → Prop) (hstep : ∀ s a, I s → I (E.step s a)) : ∀ (acts : List Act) (s : σ), I s → I (E.run s acts)
  | [], s, h => by rw [E.run_nil]; exact h
  | a :: as, s, h => by rw [E.run_cons]; exact run_ind I hstep as _ (hstep s a h)

theorem krun_fst : ∀ (acts : List Act) (s : σ) (g : GK), (E.krun s g acts).1 = E.run s acts
  | [], _, _ => by rw [E.krun_nil, E.run_nil]
  | a :: as, s, g => by rw [E.krun_cons, E.run_cons]; exact krun_fst as (E.step s a) (E.ks s g a)

theorem noWR_head {s : σ} {a : Act} {as : List Act} (hn : E.noWR s (a :: as) = true) :
    E.wr s a = false ∧ E.noWR (E.step s a) as = true := by
  rw [E.noWR_cons, Bool.and_eq_true, Bool.not_eq_true'] at hn
  exact hn

theorem krun_ind (I : σ → GK → Prop) (hstep : ∀ s g a, I s g → E.wr s a = false → I (E.step s a) (E.ks s g a)) :
    ∀ (acts : List Act) (s : σ) (g : GK), I s g → E.noWR s acts = true → I (E.krun s g acts).1 (E.krun s g acts).2
  | [], s, g, h, _ => by rw [E.krun_nil]; exact h
  | a :: as, s, g, h, hno => by
    obtain ⟨hw, hno'⟩ := E.noWR_head hno
    rw [E.krun_cons]
    exact krun_ind I hstep as _ _ (hstep s g a h hw) hno'

/-- `krun` resets the knowledge at every client-write / `Replicate` handler step: what a whole run computes is
what the suffix after the last such step computes, from scratch (or from the start value if there is none) -/
theorem krun_split_from : ∀ (acts : List Act) (s : σ) (g : GK),
    ∃ acts1 acts2 g', acts = acts1 ++ acts2 ∧ E.noWR (E.run s acts1) acts2 = true ∧
      (E.krun s g acts).2 = (E.krun (E.run s acts1) g' acts2).2 ∧ ((acts1 = [] ∧ g' = g) ∨ g' = GK.reset)
  | [], s, g => ⟨[], [], g, rfl, by rw [E.run_nil, E.noWR_nil], by rw [E.run_nil], .inl ⟨rfl, rfl⟩⟩
  | a :: as, s, g => by
    obtain ⟨a1, a2, g', e, hno, hke, hg⟩ := krun_split_from as (E.step s a) (E.ks s g a)
    cases hw : E.wr s a with
    | true =>
      -- the knowledge is reset here: whatever the suffix started from, it started from scratch
      refine ⟨a :: a1, a2, g', by rw [e]; rfl, by rw [E.run_cons]; exact hno, by rw [E.krun_cons, E.run_cons]; exact hke,
        .inr ?_⟩
      rcases hg with ⟨_, h⟩ | h
      · rw [h, E.ks_wr s g a hw]
      · exact h
    | false =>
      cases a1 with
      | nil =>
        have e : as = a2 := e
        subst e
        rw [E.run_nil] at hno hke
        refine ⟨[], a :: as, g, rfl, ?_, by rw [E.run_nil], .inl ⟨rfl, rfl⟩⟩
        rw [E.run_nil, E.noWR_cons, hw]
        exact hno
      | cons b bs =>
        refine ⟨a :: b :: bs, a2, g', by rw [e]; rfl, by rw [E.run_cons]; exact hno,
          by rw [E.krun_cons, E.run_cons]; exact hke, .inr ?_⟩
        rcases hg with ⟨h, _⟩ | h
        · cases h
        · exact h

theorem krun_split (acts : List Act) (s : σ) :
    ∃ acts1 acts2, acts = acts1 ++ acts2 ∧ E.noWR (E.run s acts1) acts2 = true ∧
      (E.krun s GK.reset acts).2 = (E.krun (E.run s acts1) GK.reset acts2).2 := by
  obtain ⟨a1, a2, g', e, hno, hk, hg⟩ := E.krun_split_from acts s GK.reset
  have : g' = GK.reset := hg.elim And.right id
  exact ⟨a1, a2, e, hno, this ▸ hk⟩

end RunEqs

section
variable (K : Nat → Nat → Option Version → Prop) (W : Nat → Nat → List (Nat × Version) → Prop) (n : Nat)

def Lc (s : St) (g : GK) (b : Nat) : Prop := ∀ h, h ∈ g.k b → ∀ k, K h k (s.vers b k)

def SMc (g : GK) (mid : Nat) (m : Msg) : Prop := ∀ h, h ∈ g.sk mid → ∀ k, W h k m.items

/-- the witness disjunct asks for `p.sent = false`: once the answer is sent the loop is over (`items = []`) and only
the cover disjunct can hold; the `sent` case of `GI_step` turns on it -/
def SPc (s : St) (g : GK) (p : Proc) : Prop :=
  ∀ h, h ∈ g.sk p.op → ∀ k, K h k (s.vers p.node k) ∨ (p.sent = false ∧ W h k p.items)

structure GI (s : St) (g : GK) : Prop where
  l : ∀ b, b < n → Lc K s g b
  sm : ∀ mid m, s.msgs mid = some m → m.kind = .aereq → m.delivered = false → SMc W g mid m
  spr : ∀ pid p, s.procs pid = some p → p.kind = .aereq → p.fin = false → SPc K W s g p

def Mono (s s' : St) : Prop := ∀ b, b < n → ∀ h k, K h k (s.vers b k) → K h k (s'.vers b k)

/-- a merge loop from `items` to `left`: what was witnessed is covered or still witnessed -/
def LoopOK (V : Nat → Nat → Option Version) (node : Nat) (items left : List (Nat × Version)) : Prop :=
  ∀ h k, K h k (V node k) ∨ W h k items → K h k (V node k) ∨ W h k left

/-- `loop` speaks of the versions of `s'`: a merge loop runs after the `_install` of the head item and installs
nothing itself -/
structure Facts (r : Res) (s s' : St) : Prop where
  mono : Mono K n s s'
  nil : ∀ h k cur, W h k [] → K h k cur
  tick : ∀ node, node < n → ∀ h k, K h k (s.vers node k) → W h k (versionsOf s node)
  loop : ∀ node, node < n → ∀ items left,
    (∀ kv, kv ∈ items → kv ∈ left ∨ r.takes (s'.vers node kv.1) kv.2 = false) → LoopOK K W s'.vers node items left
  head : ∀ pid p0 k v rest, s.procs pid = some p0 → p0.kind = .aereq → p0.items = (k, v) :: rest →
    ∀ h k', W h k' ((k, v) :: rest) → K h k' ((r.inst s p0.node k v).vers p0.node k') ∨ W h k' rest

variable {K W n}
variable {r : Res} {s s' : St} {g g' : GK}

/-- each knowledge list, undelivered request and running request handler is untouched (and versions only went
up) or re-established by hand -/
theorem GI_frame (h : GI K W n s g) (haux : AuxInv (core s)) (hn : s.n = n) (mono : Mono K n s s')
    (hL : ∀ b, b < n → g'.k b = g.k b ∨ Lc K s' g' b)
    (hM : ∀ mid m, s'.msgs mid = some m → m.kind = .aereq → m.delivered = false →
      (s.msgs mid = some m ∧ g'.sk mid = g.sk mid) ∨ SMc W g' mid m)
    (hP : ∀ pid p, s'.procs pid = some p → p.kind = .aereq → p.fin = false →
      (s.procs pid = some p ∧ g'.sk p.op = g.sk p.op) ∨ SPc K W s' g' p) : GI K W n s' g' := by
  refine ⟨?_, ?_, ?_⟩
  · intro b hb
    rcases hL b hb with e | e
    · intro x hx k
      rw [e] at hx
      exact mono b hb x k (h.l b hb x hx k)
    · exact e
  · intro mid m hm hk hd
    rcases hM mid m hm hk hd with ⟨e1, e2⟩ | e
    · intro x hx k
      rw [e2] at hx
      exact h.sm mid m e1 hk hd x hx k
    · exact e
  · intro pid p hp hk hf
    rcases hP pid p hp hk hf with ⟨e1, e2⟩ | e
    · intro x hx k
      rw [e2] at hx
      have hN : p.node < n := hn ▸ (haux.procN pid p e1 (Or.inl hk)).1
      rcases h.spr pid p e1 hk hf x hx k with c | c
      · exact Or.inl (mono p.node hN x k c)
      · exact Or.inr c
    · exact e

theorem GI_quiet (h : GI K W n s g) (haux : AuxInv (core s)) (hn : s.n = n) (mono : Mono K n s s')
    (hM : ∀ mid m, s'.msgs mid = some m → m.kind = .aereq → m.delivered = false → s.msgs mid = some m)
    (hP : ∀ pid p, s'.procs pid = some p → p.kind = .aereq → p.fin = false → s.procs pid = some p) :
    GI K W n s' g :=
  GI_frame h haux hn mono (fun _ _ => Or.inl rfl)
    (fun mid m hm hk hd => Or.inl ⟨hM mid m hm hk hd, rfl⟩)
    (fun pid p hp hk hf => Or.inl ⟨hP pid p hp hk hf, rfl⟩)

theorem GI_handler (hg : GI K W n s g) (haux : AuxInv (core s)) (hn : s.n = n) (mono : Mono K n s s')
    (PID : Nat) (p' : Proc) (hprocs : s'.procs = upd s.procs PID (some p'))
    (hmsgs : ∀ mid m, s'.msgs mid = some m → m.kind = .aereq → m.delivered = false → s.msgs mid = some m)
    (post : ∀ h, h ∈ g.sk p'.op → ∀ k, K h k (s'.vers p'.node k) ∨
      (p'.fin = false ∧ p'.sent = false ∧ W h k p'.items))
    (hg' : g' = if p'.fin = true then g.learn p'.node p'.op else g) : GI K W n s' g' := by
  subst hg'
  by_cases hf : p'.fin = true
  · rw [if_pos hf]
    refine GI_frame hg haux hn mono ?_ (fun mid m hm hk hd => Or.inl ⟨hmsgs mid m hm hk hd, rfl⟩) ?_
    · intro b hb
      by_cases e : b = p'.node
      · right
        subst e
        intro x hx k
        have hx' : x ∈ upd g.k p'.node (g.k p'.node ++ g.sk p'.op) p'.node := hx
        rw [upd_same] at hx'
        rcases List.mem_append.mp hx' with m | m
        · exact mono p'.node hb x k (hg.l p'.node hb x m k)
        · rcases post x m k with c | ⟨c, _⟩
          · exact c
          · rw [hf] at c; cases c
      · left
        exact upd_other _ _ _ _ e
    · intro pid p hp hk hfp
      rw [hprocs] at hp
      rcases upd_some hp with ⟨_, rfl⟩ | ⟨_, hp⟩
      · rw [hf] at hfp; cases hfp
      · exact Or.inl ⟨hp, rfl⟩
  · rw [if_neg hf]
    refine GI_frame hg haux hn mono (fun _ _ => Or.inl rfl)
      (fun mid m hm hk hd => Or.inl ⟨hmsgs mid m hm hk hd, rfl⟩) ?_
    intro pid p hp hk hfp
    rw [hprocs] at hp
    rcases upd_some hp with ⟨_, rfl⟩ | ⟨_, hp⟩
    · right
      intro x hx k
      rcases post x hx k with c | ⟨_, c2, c3⟩
      · exact Or.inl c
      · exact Or.inr ⟨c2, c3⟩
    · exact Or.inl ⟨hp, rfl⟩

theorem GI_setProc (hg : GI K W n s g) (haux : AuxInv (core s)) (hn : s.n = n) (mono : Mono K n s s')
    (pid : Nat) (p' : Proc) (hprocs : s'.procs = upd s.procs pid (some p'))
    (hmsgs : ∀ mid m, s'.msgs mid = some m → m.kind = .aereq → m.delivered = false → s.msgs mid = some m)
    (hk : p'.kind ≠ .aereq) : GI K W n s' g := by
  refine GI_quiet hg haux hn mono hmsgs ?_
  intro pid' q hq hk' _
  rw [hprocs] at hq
  rcases upd_some hq with ⟨_, rfl⟩ | ⟨_, hq⟩
  · exact absurd hk' hk
  · exact hq

/-- after its merge loop a request handler covers what `items` witnessed, or waits and still holds a witness -/
theorem post_of_loop {s1 : St} {pid : Nat} {p p' : Proc} {items : List (Nat × Version)}
    (F : Facts K W n r s s') (sh : AeShape r s1 pid p items p' s') (hN : p.node < n)
    (hfin : p.fin = false) (hsent : p.sent = false) (x k : Nat)
    (pre : K x k (s'.vers p.node k) ∨ W x k items) :
    K x k (s'.vers p'.node k) ∨ (p'.fin = false ∧ p'.sent = false ∧ W x k p'.items) := by
  rw [sh.node]
  have skip := sh.skip
  rw [← sh.vers] at skip
  rcases F.loop p.node hN items p'.items skip x k pre with c | c
  · exact Or.inl c
  · cases hi : p'.items with
    | nil => exact Or.inl (F.nil x k _ (hi ▸ c))
    | cons y ys =>
      obtain ⟨k1, k2⟩ := sh.keep (fun e => by rw [e] at hi; cases hi)
      exact Or.inr ⟨k1.trans hfin, k2.trans hsent, hi ▸ c⟩

theorem GI_tick (F : Facts K W n r s s') (haux : AuxInv (core s)) (hn : s.n = n) (hg : GI K W n s g)
    (node peer : Nat) (hnode : node < n)
    (hm : s'.msgs = upd s.msgs s.nm
      (some { kind := .aereq, src := node, dst := peer, items := versionsOf s node, hash := s.store node }))
    (hP : ∀ pid p, s'.procs pid = some p → p.kind = .aereq → p.fin = false → s.procs pid = some p) :
    GI K W n s' { g with sk := upd g.sk s.nm (g.k node) } := by
  refine GI_frame hg haux hn F.mono (fun _ _ => Or.inl rfl) ?_ ?_
  · intro mid m hmm hk hd
    rw [hm] at hmm
    rcases upd_some hmm with ⟨e, rfl⟩ | ⟨e, hmm⟩
    · subst e
      right
      intro x hx k
      have hx' : x ∈ upd g.sk s.nm (g.k node) s.nm := hx
      rw [upd_same] at hx'
      exact F.tick node hnode x k (hg.l node hnode x hx' k)
    · exact Or.inl ⟨hmm, upd_other _ _ _ _ e⟩
  · intro pid p hp hk hf
    have h0 := hP pid p hp hk hf
    exact Or.inl ⟨h0, upd_other _ _ _ _ (Nat.ne_of_lt (haux.opLt pid p h0 hk))⟩

theorem GI_dlAe {mid : Nat} {m : Msg} {p p' : Proc} (F : Facts K W n r s s') (haux : AuxInv (core s))
    (hn : s.n = n) (hg : GI K W n s g) (h0 : s.msgs mid = some m) (hd : m.delivered = false)
    (hpk : p.kind = .aereq ↔ m.kind = .aereq) (hnode : p.node = m.dst) (hop : p.op = mid)
    (hfin : p.fin = false) (hsent : p.sent = false)
    (sh : AeShape r ((s.setMsg mid { m with delivered := true }).spawn p) s.np p m.items p' s') :
    GI K W n s' (if p'.kind = .aereq ∧ p'.fin = true then g.learn p'.node p'.op else g) := by
  have hprocs : s'.procs = upd s.procs s.np (some p') :=
    sh.procs.trans (upd_upd s.procs s.np (some p) (some p'))
  have hmsgs : ∀ mid' q, s'.msgs mid' = some q → q.kind = .aereq → q.delivered = false →
      s.msgs mid' = some q := by
    intro mid' q hq hk' hd'
    have h2 : upd s.msgs mid (some { m with delivered := true }) mid' = some q := sh.msgs_aereq mid' q hq hk'
    rcases upd_some h2 with ⟨_, rfl⟩ | ⟨_, h2⟩
    · cases hd'
    · exact h2
  by_cases hkq : m.kind = .aereq
  · have hN : p.node < n := hnode ▸ hn ▸ (haux.msgN mid m h0 (Or.inl hkq)).2
    rw [if_fin_eq p' (sh.kind.trans (hpk.mpr hkq))]
    refine GI_handler hg haux hn F.mono s.np p' hprocs hmsgs ?_ rfl
    intro x hx k
    rw [sh.op, hop] at hx
    exact post_of_loop F sh hN hfin hsent x k (Or.inr (hg.sm mid m h0 hkq hd x hx k))
  · have hp'k : p'.kind ≠ .aereq := by rw [sh.kind]; exact fun e => hkq (hpk.mp e)
    rw [if_neg (fun c => hp'k c.1)]
    exact GI_setProc hg haux hn F.mono s.np p' hprocs hmsgs hp'k

theorem GI_wait {pid : Nat} {p0 p' : Proc} {k : Nat} {v : Version} {rest : List (Nat × Version)}
    (F : Facts K W n r s s') (haux : AuxInv (core s)) (hn : s.n = n) (hg : GI K W n s g)
    (h0 : s.procs pid = some p0) (hf : p0.fin = false) (hk : p0.kind = .aereq ∨ p0.kind = .aeresp)
    (hsent : p0.sent = false) (hit : p0.items = (k, v) :: rest)
    (sh : AeShape r (r.inst s p0.node k v) pid { p0 with seg := p0.seg + 1 } rest p' s') :
    GI K W n s' (if p'.kind = .aereq ∧ p'.fin = true then g.learn p'.node p'.op else g) := by
  obtain ⟨_, _, f3, _, f5⟩ := r.inst_frame s p0.node k v
  have hprocs : s'.procs = upd s.procs pid (some p') := by rw [sh.procs, f3]
  have hmsgs : ∀ mid' q, s'.msgs mid' = some q → q.kind = .aereq → q.delivered = false →
      s.msgs mid' = some q := fun mid' q hq hk' _ => f5 ▸ sh.msgs_aereq mid' q hq hk'
  by_cases hkq : p0.kind = .aereq
  · have hN : p0.node < n := hn ▸ (haux.procN pid p0 h0 hk).1
    rw [if_fin_eq p' (sh.kind.trans hkq)]
    refine GI_handler hg haux hn F.mono pid p' hprocs hmsgs ?_ rfl
    intro x hx k'
    rw [sh.op] at hx
    refine post_of_loop F sh hN hf hsent x k' ?_
    rcases hg.spr pid p0 h0 hkq hf x hx k' with c | ⟨_, c⟩
    · exact Or.inl (F.mono p0.node hN x k' c)
    · rw [sh.vers]
      exact hit ▸ F.head pid p0 k v rest h0 hkq hit x k' (hit ▸ c)
  · have hp'k : p'.kind ≠ .aereq := by rw [sh.kind]; exact hkq
    rw [if_neg (fun c => hp'k c.1)]
    exact GI_setProc hg haux hn F.mono pid p' hprocs hmsgs hp'k

theorem kstep_fail {a : Act} (e : String) (hw : isWR s a = false) (hfp : s.procs s.np = none)
    (hv : ¬ Enabled r s a) : kstep r s (s.fail e) g a = g := by
  cases a with
  | tick t => rfl
  | cw op node k v => cases hw
  | cr op node k => rfl
  | dl mid =>
    refine kstep_none hw (fun _ _ c => nomatch c) ?_
    show (match s.procs s.np with | some p => _ | none => none) = none
    rw [hfp]
  | rs pid =>
    refine kstep_none hw (fun _ _ c => nomatch c) ?_
    cases h0 : s.procs pid with
    | none => simp only [finishedReq, h0]
    | some p0 =>
      rw [finishedReq_rs (s' := s.fail e) pid p0 p0 h0 h0]
      cases hf : p0.fin <;> simp
  | ae node peer =>
    have hv : ¬(node < s.n ∧ peer < s.n ∧ r.link node peer = true) := hv
    simp only [kstep, isWR, Bool.false_eq_true, if_false, if_neg hv]

theorem GI_step {a : Act} (sh : StepShape r s a s') (F : Facts K W n r s s') (haux : AuxInv (core s))
    (hn : s.n = n) (hfp : s.procs s.np = none) (hg : GI K W n s g) (hw : isWR s a = false) :
    GI K W n s' (kstep r s s' g a) := by
  have same : ∀ {t : St}, t.msgs = s.msgs → ∀ mid m, t.msgs mid = some m → m.kind = .aereq →
      m.delivered = false → s.msgs mid = some m := fun e _ _ hm _ _ => e ▸ hm
  have mono := F.mono
  cases sh with
  | fail e hv he =>
    subst he
    rw [kstep_fail e hw hfp hv]
    exact GI_quiet hg haux hn mono (same rfl) (fun _ _ hp _ _ => hp)
  | tick t ha he =>
    subst ha he
    exact GI_quiet hg haux hn mono (same rfl) (fun _ _ hp _ _ => hp)
  | cw op node k v ha hn he => subst ha; cases hw
  | cr op node k ha hn' he =>
    subst ha he
    exact GI_setProc hg haux hn mono s.np _ rfl (same rfl) (fun c => nomatch c)
  | ae node peer ha hn' hp hl he =>
    subst ha
    have ek : kstep r s s' g (.ae node peer) = { g with sk := upd g.sk s.nm (g.k node) } := by
      simp only [kstep, isWR, Bool.false_eq_true, if_false,
        if_pos (⟨hn', hp, hl⟩ : node < s.n ∧ peer < s.n ∧ r.link node peer = true)]
    rw [ek]
    refine GI_tick F haux hn hg node peer (hn ▸ hn') (by rw [he]; rfl) ?_
    intro pid q hq hk _
    rw [he] at hq
    rcases upd_some hq with ⟨_, rfl⟩ | ⟨_, hq⟩
    · cases hk
    · exact hq
  | dlRepl mid m fin ha h0 hd hk hfin he => subst ha; exact absurd hk (not_repl_of_not_isWR hw h0)
  | dlAe mid m p p' ha h0 hd hk hpk hpk2 hnode hsrc hop hfin hsent hitems sh =>
    subst ha
    have hnp : s'.procs s.np = some p' := by rw [sh.procs]; exact upd_same ..
    rw [kstep_handler hw (fun _ _ c => nomatch c) _ p'.node p'.op (finishedReq_dl mid p' hnp)]
    exact GI_dlAe F haux hn hg h0 hd hpk hnode hop hfin hsent sh
  | write1 pid p0 ha h0 hf hk hs he => subst ha; exact absurd (.inl hk) (not_wr_of_not_isWR hw h0)
  | write2 pid p0 ha h0 hf hk hs he => subst ha; exact absurd (.inl hk) (not_wr_of_not_isWR hw h0)
  | repl pid p0 ha h0 hf hk he => subst ha; exact absurd (.inr hk) (not_wr_of_not_isWR hw h0)
  | quiet pid p0 rep ha h0 hf hk he =>
    subst ha he
    have hnk : p0.kind ≠ .aereq := fun c => by rcases hk with e | e <;> rw [e] at c <;> cases c
    rw [kstep_none hw (fun _ _ c => nomatch c)
      (by rw [finishedReq_rs pid p0 _ h0 (upd_same ..), if_neg (fun c => hnk c.2.1)])]
    exact GI_setProc hg haux hn mono pid _ rfl (same rfl) hnk
  | sent pid p0 ha h0 hf hk hsent he =>
    subst ha he
    have hfr := finishedReq_rs (s' := s.setProc pid { p0 with seg := p0.seg + 1, fin := true }) pid p0 _ h0 (upd_same ..)
    by_cases hkq : p0.kind = .aereq
    · rw [kstep_handler hw (fun _ _ c => nomatch c) _ _ _ hfr, if_pos ⟨hf, hkq, rfl⟩]
      refine GI_handler hg haux hn mono pid _ rfl (same rfl) ?_ (if_pos rfl).symm
      intro x hx k
      rcases hg.spr pid p0 h0 hkq hf x hx k with c | ⟨c, _⟩
      · exact Or.inl c
      · rw [hsent] at c; cases c
    · rw [kstep_none hw (fun _ _ c => nomatch c) (by rw [hfr, if_neg (fun c => hkq c.2.1)])]
      exact GI_setProc hg haux hn mono pid _ rfl (same rfl) hkq
  | wait pid p0 p' k v rest ha h0 hf hk hsent hit sh =>
    subst ha
    have hpp : s'.procs pid = some p' := by rw [sh.procs]; exact upd_same ..
    rw [kstep_handler hw (fun _ _ c => nomatch c) _ p'.node p'.op (finishedReq_rs pid p0 p' h0 hpp),
      ite_congr (propext (and_iff_right hf)) (fun _ => rfl) (fun _ => rfl)]
    exact GI_wait F haux hn hg h0 hf hk hsent hit sh

end

end HappyModel.C17.LN
