import HappyModel.C09.PreemptCb
import HappyProofs.C09.Lists
/-! Invariants of the PreemptibleResource model (`wakeAfterPreempt = true`), for every operation list. -/
namespace HappyModel.C09.Preempt

theorem amtSum_append (a b : List G) : amtSum (a ++ b) = amtSum a + amtSum b := by
  induction a with
  | nil => simp [amtSum]
  | cons g gs ih => simp [amtSum, ih]; omega

theorem amtSum_erase (l : List G) (g : G) (h : g ∈ l) : amtSum (l.erase g) = amtSum l - g.amt := by
  induction l with
  | nil => cases h
  | cons a as ih =>
    by_cases hag : a = g
    · simp [hag, amtSum]; omega
    · rw [List.erase_cons_tail (by simpa using hag)]
      simp [amtSum, ih ((List.mem_cons.mp h).resolve_left (Ne.symm hag))]; omega

theorem amtSum_nonneg (l : List G) (h : ∀ g ∈ l, 0 < g.amt) : 0 ≤ amtSum l := by
  induction l with
  | nil => simp [amtSum]
  | cons a as ih =>
    have h1 := h a (List.mem_cons_self)
    have h2 := ih (fun g hg => h g (List.mem_cons_of_mem _ hg))
    simp [amtSum]; omega

theorem victim_spec (p : Int) (l : List G) (v : G) (h : victim p l = some v) : v ∈ l ∧ p < v.prio := by
  induction l generalizing v with
  | nil => cases h
  | cons g gs ih =>
    cases hv : victim p gs with
    | none =>
      simp only [victim, hv] at h
      split at h
      · rename_i hp; cases h; exact ⟨List.mem_cons_self, hp⟩
      · cases h
    | some v' =>
      simp only [victim, hv] at h
      split at h
      · rename_i hp; cases h; exact ⟨List.mem_cons_self, hp.1⟩
      · cases h; exact ⟨List.mem_cons_of_mem _ (ih _ hv).1, (ih _ hv).2⟩

theorem victim_mem (p : Int) (l : List G) (v : G) (h : victim p l = some v) : v ∈ l := (victim_spec p l v h).1

theorem victim_prio (p : Int) (l : List G) (v : G) (h : victim p l = some v) : p < v.prio := (victim_spec p l v h).2

theorem woken_append_rest (a : Int) (l : List G) : wokenOf a l ++ restOf a l = l := by
  induction l generalizing a with
  | nil => rfl
  | cons w ws ih =>
    simp only [wokenOf, restOf]
    split
    · simp [ih]
    · rfl

theorem woken_sublist (a : Int) (l : List G) : (wokenOf a l).Sublist l := by
  have := List.sublist_append_left (wokenOf a l) (restOf a l)
  rwa [woken_append_rest] at this

theorem rest_sublist (a : Int) (l : List G) : (restOf a l).Sublist l := by
  have := List.sublist_append_right (wokenOf a l) (restOf a l)
  rwa [woken_append_rest] at this

theorem woken_sum_le (a : Int) (l : List G) (ha : 0 ≤ a) : amtSum (wokenOf a l) ≤ a := by
  induction l generalizing a with
  | nil => simpa [wokenOf, amtSum] using ha
  | cons w ws ih =>
    simp only [wokenOf]
    split
    · rename_i hfit
      have := ih (a - w.amt) (by omega)
      simp [amtSum]; omega
    · simpa [amtSum] using ha

theorem rest_head_blocked (a : Int) (l : List G) (w : G) (ws : List G) (h : restOf a l = w :: ws) :
    a - amtSum (wokenOf a l) < w.amt := by
  induction l generalizing a with
  | nil => simp [restOf] at h
  | cons x xs ih =>
    simp only [restOf] at h
    simp only [wokenOf]
    split
    · rename_i hfit
      simp only [hfit, if_true] at h
      have := ih (a - x.amt) h
      simp [amtSum]; omega
    · rename_i hno
      simp only [hno, if_false] at h
      cases h
      simp [amtSum]; omega

/-! The phases of `step`, named.  `bump`, `enqueue`, `freed` are the re-entrant model's `PreemptCb.bumpId`, `enq`,
`giveBack` definitionally: the proofs about that model use either spelling. -/

def bump (s : St) : St := { s with nextId := s.nextId + 1 }

def enqueue (s : St) (g : G) : St :=
  { s with contentions := s.contentions + 1, waiters := insWaiter g s.waiters }

def freed (s : St) (g : G) : St :=
  { s with active := s.active.erase g, avail := s.avail + g.amt, releases := s.releases + 1 }

def wakeIf (b : Bool) (t : St) : St × List Nat := if b then wake t else (t, [])

theorem wakeIf_fst {P : St → Prop} (b : Bool) (t : St) (h : P t) (hw : P (wake t).1) : P (wakeIf b t).1 := by
  cases b
  · exact h
  · exact hw

/-- `_try_preempt`, if the caller may preempt -/
def tryPreempt (pre : Bool) (amt prio : Int) (s : St) : St × List Nat :=
  if pre then preemptLoop amt prio s.active.length s else (s, [])

theorem step_acquire (s : St) (amt prio : Int) (pre : Bool) :
    step s (.acquire amt prio pre) =
      if amt ≤ 0 ∨ s.cap < amt then (bump s, { res := .err })
      else if amt ≤ s.avail then (grantNow (bump s) ⟨s.nextId, amt, prio⟩, { res := .granted })
      else
        let r := tryPreempt pre amt prio (bump s)
        if pre ∧ amt ≤ r.1.avail then
          if s.wakeAfterPreempt ∧ r.2 ≠ [] then
            ((wake (grantNow r.1 ⟨s.nextId, amt, prio⟩)).1,
              { res := .granted, evicted := r.2, woke := (wake (grantNow r.1 ⟨s.nextId, amt, prio⟩)).2 })
          else (grantNow r.1 ⟨s.nextId, amt, prio⟩, { res := .granted, evicted := r.2 })
        else
          if s.wakeAfterPreempt ∧ r.2 ≠ [] then
            ((wake (enqueue r.1 ⟨s.nextId, amt, prio⟩)).1,
              { res := .queued, evicted := r.2, woke := (wake (enqueue r.1 ⟨s.nextId, amt, prio⟩)).2 })
          else (enqueue r.1 ⟨s.nextId, amt, prio⟩, { res := .queued, evicted := r.2 }) := rfl

theorem step_release_none (s : St) (id : Nat) (h : s.active.find? (·.id == id) = none) :
    step s (.release id) = (s, { res := .noop }) := by
  simp only [step, h]

theorem step_release_some (s : St) (id : Nat) (g : G) (h : s.active.find? (·.id == id) = some g) :
    step s (.release id) = ((wake (freed s g)).1, { res := .released, woke := (wake (freed s g)).2 }) := by
  simp only [step, h]; rfl

/-- `_try_preempt` is a sequence of single evictions (`PreemptCb.evict1`): a relation between the state before and the
    state and victims after that holds of doing nothing, and of an eviction followed by related ones, holds of the loop -/
theorem preemptLoop_rel {R : St → St → List Nat → Prop} (needed p : Int) (n : Nat) (s : St) (refl : ∀ s, R s s [])
    (head : ∀ s v r evs, ¬ needed ≤ s.avail → victim p s.active = some v → R (PreemptCb.evict1 s v) r evs →
      R s r (v.id :: evs)) :
    R s (preemptLoop needed p n s).1 (preemptLoop needed p n s).2 := by
  induction n generalizing s with
  | zero => exact refl s
  | succ n ih =>
    simp only [preemptLoop]
    split
    · exact refl s
    · split
      · exact refl s
      · rename_i hna _ v hv
        exact head s v _ _ hna hv (ih (PreemptCb.evict1 s v))

structure LoopFacts (s r : St) : Prop where
  cap : r.cap = s.cap
  fix : r.wakeAfterPreempt = s.wakeAfterPreempt
  sum : r.avail + amtSum r.active = s.avail + amtSum s.active
  mono : s.avail ≤ r.avail
  sub : ∀ g ∈ r.active, g ∈ s.active
  waiters : r.waiters = s.waiters
  nextId : r.nextId = s.nextId
  log : r.grantLog = s.grantLog
  cont : r.contentions = s.contentions

theorem preemptLoop_facts (needed p : Int) (n : Nat) (s : St) (hpos : ∀ g ∈ s.active, 0 < g.amt) :
    LoopFacts s (preemptLoop needed p n s).1 := by
  refine preemptLoop_rel (R := fun s r _ => (∀ g ∈ s.active, 0 < g.amt) → LoopFacts s r) needed p n s
    (fun s _ => ⟨rfl, rfl, rfl, Int.le_refl _, fun _ h => h, rfl, rfl, rfl, rfl⟩) ?_ hpos
  intro s v r evs _ hv ih hpos
  have hm := victim_mem _ _ _ hv
  have f := ih (fun g hg => hpos g (List.mem_of_mem_erase hg))
  have := amtSum_erase s.active v hm
  have := hpos v hm
  have hs := f.sum
  have hmo := f.mono
  dsimp only [PreemptCb.evict1] at hs hmo
  exact ⟨f.cap, f.fix, by omega, by omega, fun g hg => List.mem_of_mem_erase (f.sub g hg), f.waiters, f.nextId, f.log, f.cont⟩

/-- `_grant_immediate` if the caller fits, the waiter queue otherwise -/
def place (s : St) (g : G) : St × Res := if g.amt ≤ s.avail then (grantNow s g, .granted) else (enqueue s g, .queued)

theorem place_fit {s : St} {g : G} (h : g.amt ≤ s.avail) : place s g = (grantNow s g, .granted) := if_pos h

theorem place_full {s : St} {g : G} (h : ¬ g.amt ≤ s.avail) : place s g = (enqueue s g, .queued) := if_neg h

/-- the same principle for `tryPreempt`; a caller that evicts may preempt -/
theorem tryPreempt_rel {R : St → St → List Nat → Prop} (pre : Bool) (amt p : Int) (s : St) (refl : ∀ s, R s s [])
    (head : ∀ s v r evs, pre = true → ¬ amt ≤ s.avail → victim p s.active = some v → R (PreemptCb.evict1 s v) r evs →
      R s r (v.id :: evs)) :
    R s (tryPreempt pre amt p s).1 (tryPreempt pre amt p s).2 := by
  cases pre
  · exact refl s
  · exact preemptLoop_rel amt p _ s refl (fun s v r evs => head s v r evs rfl)

theorem tryPreempt_keeps {P : St → Prop} (pre : Bool) (amt prio : Int) (s : St)
    (h1 : ∀ s v, v ∈ s.active → P s → P (PreemptCb.evict1 s v)) (h : P s) : P (tryPreempt pre amt prio s).1 :=
  tryPreempt_rel (R := fun s r _ => P s → P r) pre amt prio s (fun _ h => h)
    (fun s v _ _ _ _ hv ih h => ih (h1 s v (victim_mem _ _ _ hv) h)) h

theorem tryPreempt_nil (pre : Bool) (amt prio : Int) (s : St) (h : (tryPreempt pre amt prio s).2 = []) :
    (tryPreempt pre amt prio s).1 = s :=
  tryPreempt_rel (R := fun s r evs => evs = [] → r = s) pre amt prio s (fun _ _ => rfl)
    (fun _ _ _ _ _ _ _ _ h => nomatch h) h

/-- A call that is not rejected, as the sequence it is: take the call id, `_try_preempt`, place the caller, and (in the
    repaired code) `_wake_waiters` if somebody was evicted.  The loop returns at once when the amount fits. -/
theorem step_acquire_seq (s : St) (amt prio : Int) (pre : Bool) :
    step s (.acquire amt prio pre) =
      if amt ≤ 0 ∨ s.cap < amt then (bump s, { res := .err })
      else
        let r := tryPreempt pre amt prio (bump s)
        let p := place r.1 ⟨s.nextId, amt, prio⟩
        let w := wakeIf (!r.2.isEmpty && s.wakeAfterPreempt) p.1
        (w.1, { res := p.2, evicted := r.2, woke := w.2 }) := by
  have wk : ∀ (t : St) (res : Res) (evs : List Nat),
      (if s.wakeAfterPreempt ∧ evs ≠ [] then ((wake t).1, ({ res := res, evicted := evs, woke := (wake t).2 } : Out))
        else (t, { res := res, evicted := evs }))
      = ((wakeIf (!evs.isEmpty && s.wakeAfterPreempt) t).1,
          { res := res, evicted := evs, woke := (wakeIf (!evs.isEmpty && s.wakeAfterPreempt) t).2 }) := by
    intro t res evs; cases evs <;> cases s.wakeAfterPreempt <;> rfl
  rw [step_acquire]
  by_cases hbad : amt ≤ 0 ∨ s.cap < amt
  · rw [if_pos hbad, if_pos hbad]
  rw [if_neg hbad, if_neg hbad]
  by_cases hfit : amt ≤ s.avail
  · have hl : tryPreempt pre amt prio (bump s) = (bump s, []) := by
      cases pre
      · rfl
      · show preemptLoop amt prio s.active.length (bump s) = _
        cases s.active.length
        · rfl
        · exact if_pos hfit
    rw [if_pos hfit, hl]
    show _ = ((place (bump s) ⟨s.nextId, amt, prio⟩).1, ({ res := (place (bump s) ⟨s.nextId, amt, prio⟩).2 } : Out))
    rw [place_fit hfit]
  rw [if_neg hfit]
  have hpre : pre = false → ¬ amt ≤ (tryPreempt pre amt prio (bump s)).1.avail := fun h => by subst h; exact hfit
  show (if pre = true ∧ _ then _ else _) = _
  generalize tryPreempt pre amt prio (bump s) = r at hpre ⊢
  by_cases hav : amt ≤ r.1.avail
  · have hp : pre = true := by
      cases pre
      · exact absurd hav (hpre rfl)
      · rfl
    rw [if_pos ⟨hp, hav⟩, wk]
    show _ = ((wakeIf _ (place r.1 ⟨s.nextId, amt, prio⟩).1).1, _)
    rw [place_fit hav]
  · rw [if_neg (fun h => hav h.2), wk]
    show _ = ((wakeIf _ (place r.1 ⟨s.nextId, amt, prio⟩).1).1, _)
    rw [place_full hav]

structure Num (s : St) : Prop where
  fix : s.wakeAfterPreempt = true
  capPos : 0 < s.cap
  conserve : s.avail + amtSum s.active = s.cap
  availNonneg : 0 ≤ s.avail
  actPos : ∀ g ∈ s.active, 0 < g.amt
  waitPos : ∀ g ∈ s.waiters, 0 < g.amt

structure Inv (s : St) : Prop where
  num : Num s
  head : ∀ w ws, s.waiters = w :: ws → s.avail < w.amt

theorem init_inv (cap : Int) (h : 0 < cap) : Inv (St.init cap) :=
  ⟨⟨rfl, h, by simp [St.init, amtSum], by simp [St.init]; omega, by simp [St.init], by simp [St.init]⟩,
   by simp [St.init]⟩

theorem wake_inv (s : St) (n : Num s) : Inv (wake s).1 := by
  have hsum := woken_sum_le s.avail s.waiters n.availNonneg
  refine ⟨⟨n.fix, n.capPos, ?_, ?_, ?_, ?_⟩, ?_⟩
  · show s.avail - amtSum (wokenOf s.avail s.waiters) + amtSum (s.active ++ wokenOf s.avail s.waiters) = s.cap
    rw [amtSum_append]; have := n.conserve; omega
  · show 0 ≤ s.avail - amtSum (wokenOf s.avail s.waiters); omega
  · intro g hg
    rcases List.mem_append.mp (show g ∈ s.active ++ wokenOf s.avail s.waiters from hg) with h | h
    · exact n.actPos g h
    · exact n.waitPos g ((woken_sublist _ _).subset h)
  · exact fun g hg => n.waitPos g ((rest_sublist _ _).subset hg)
  · intro w ws hw
    exact rest_head_blocked s.avail s.waiters w ws hw

theorem mem_insWaiter (w x : G) (l : List G) : x ∈ insWaiter w l ↔ x = w ∨ x ∈ l := by
  induction l with
  | nil => simp [insWaiter]
  | cons h t ih =>
    simp only [insWaiter]
    split
    · rw [List.mem_cons, ih, List.mem_cons, or_left_comm]
    · rw [List.mem_cons]

theorem insWaiter_head (w : G) (l : List G) (x : G) (xs : List G) (h : insWaiter w l = x :: xs) :
    x = w ∨ ∃ ys, l = x :: ys := by
  cases l with
  | nil => simp [insWaiter] at h; exact Or.inl h.1.symm
  | cons a as =>
    simp only [insWaiter] at h
    split at h
    · cases h; exact Or.inr ⟨as, rfl⟩
    · cases h; exact Or.inl rfl

theorem bump_num {s : St} (n : Num s) : Num (bump s) :=
  ⟨n.fix, n.capPos, n.conserve, n.availNonneg, n.actPos, n.waitPos⟩

theorem grantNow_num (s : St) (g : G) (n : Num s) (hpos : 0 < g.amt) (hfit : g.amt ≤ s.avail) : Num (grantNow s g) := by
  refine ⟨n.fix, n.capPos, ?_, ?_, ?_, n.waitPos⟩
  · show s.avail - g.amt + amtSum (s.active ++ [g]) = s.cap
    rw [amtSum_append]; have := n.conserve; simp [amtSum]; omega
  · show 0 ≤ s.avail - g.amt; omega
  · exact snoc_all n.actPos hpos

theorem enqueue_num {s : St} (g : G) (n : Num s) (hpos : 0 < g.amt) : Num (enqueue s g) := by
  refine ⟨n.fix, n.capPos, n.conserve, n.availNonneg, n.actPos, fun x hx => ?_⟩
  rcases (mem_insWaiter _ _ _).mp hx with h | h
  · rw [h]; exact hpos
  · exact n.waitPos x h

theorem freed_num {s : St} (g : G) (n : Num s) (hm : g ∈ s.active) : Num (freed s g) := by
  refine ⟨n.fix, n.capPos, ?_, ?_, fun x hx => n.actPos x (List.mem_of_mem_erase hx), n.waitPos⟩
  · show s.avail + g.amt + amtSum (s.active.erase g) = s.cap
    rw [amtSum_erase _ _ hm]; have := n.conserve; omega
  · show 0 ≤ s.avail + g.amt
    have := n.actPos g hm; have := n.availNonneg; omega

/-- an eviction gives the amount back as a release does; `Num` reads neither `releases` nor `preemptions` -/
theorem evict1_num {s : St} (v : G) (n : Num s) (hm : v ∈ s.active) : Num (PreemptCb.evict1 s v) :=
  have h := freed_num v n hm
  ⟨h.fix, h.capPos, h.conserve, h.availNonneg, h.actPos, h.waitPos⟩

theorem place_num (s : St) (g : G) (n : Num s) (hpos : 0 < g.amt) : Num (place s g).1 := by
  unfold place; split
  · exact grantNow_num s g n hpos ‹_›
  · exact enqueue_num g n hpos

/-- a grant only takes capacity away, and a queued caller did not fit -/
theorem place_head (s : St) (g : G) (h : ∀ w ws, s.waiters = w :: ws → s.avail < w.amt) (hpos : 0 < g.amt) :
    ∀ w ws, (place s g).1.waiters = w :: ws → (place s g).1.avail < w.amt := by
  unfold place; split
  · intro w ws hw; have := h w ws hw; show s.avail - g.amt < w.amt; omega
  · intro w ws hw
    rcases insWaiter_head _ _ _ _ hw with h' | ⟨ys, h'⟩
    · rw [h']; show s.avail < g.amt; omega
    · exact h w ys h'

theorem step_inv (s : St) (o : Op) (inv : Inv s) : Inv (step s o).1 := by
  have n := inv.num
  cases o with
  | release id =>
    cases hf : s.active.find? (·.id == id) with
    | none => rw [step_release_none s id hf]; exact inv
    | some g => rw [step_release_some s id g hf]; exact wake_inv _ (freed_num g n (List.mem_of_find?_eq_some hf))
  | acquire amt prio pre =>
    rw [step_acquire_seq]
    split
    · exact ⟨bump_num n, inv.head⟩
    · rename_i hbad
      have hpos : 0 < amt := by omega
      have hnil := tryPreempt_nil pre amt prio (bump s)
      have np := place_num _ ⟨s.nextId, amt, prio⟩
        (tryPreempt_keeps pre amt prio _ (fun _ v hm n => evict1_num v n hm) (bump_num n)) hpos
      generalize tryPreempt pre amt prio (bump s) = r at hnil np
      show Inv (wakeIf (!r.2.isEmpty && s.wakeAfterPreempt) (place r.1 ⟨s.nextId, amt, prio⟩).1).1
      cases he : r.2 with
      | cons v vs => rw [n.fix]; exact wake_inv _ np
      | nil => exact ⟨np, hnil he ▸ place_head (bump s) _ inv.head hpos⟩

theorem run_inv (s : St) (ops : List Op) (inv : Inv s) : Inv (run s ops) := by
  induction ops generalizing s with
  | nil => exact inv
  | cons o os ih => exact ih _ (step_inv s o inv)

theorem step_cap (s : St) (o : Op) : (step s o).1.cap = s.cap := by
  cases o with
  | release id =>
    cases hf : s.active.find? (·.id == id) with
    | none => rw [step_release_none s id hf]
    | some g => rw [step_release_some s id g hf]; rfl
  | acquire amt prio pre =>
    rw [step_acquire_seq]
    split
    · rfl
    · have hc : (place (tryPreempt pre amt prio (bump s)).1 ⟨s.nextId, amt, prio⟩).1.cap = s.cap := by
        unfold place
        split <;> exact tryPreempt_keeps (P := fun t => t.cap = s.cap) pre amt prio _ (fun _ _ _ h => h) rfl
      exact wakeIf_fst (P := fun t => t.cap = s.cap) _ _ hc hc

theorem run_cap (s : St) (ops : List Op) : (run s ops).cap = s.cap := by
  induction ops generalizing s with
  | nil => rfl
  | cons o os ih => rw [run, ih, step_cap]

end HappyModel.C09.Preempt
