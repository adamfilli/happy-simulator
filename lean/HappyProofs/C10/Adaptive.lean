import HappyProofs.C10.Bucket
/-! Adaptive policy: the rate stays in `[pmin, pmax]`; between feedback calls it is a token bucket at
    the current rate; admissions satisfy the bucket bound of `pmax`. -/
namespace HappyModel.C10

structure ADOk (c : ADCfg) : Prop where
  range : c.pmin ≤ c.pmax
  factor : c.fn ≤ c.fd

def AD.InRange (c : ADCfg) (s : AD) : Prop := c.pmin ≤ s.p ∧ s.p ≤ c.pmax

variable (c : ADCfg) (s : AD) (t : Nat)

theorem ADCfg.cap_mono (c : ADCfg) {p q : Nat} (h : p ≤ q) : c.cap p ≤ c.cap q :=
  Nat.div_le_div_right (Nat.mul_le_mul_right _ h)

def AD.toTB (s : AD) : TB := ⟨s.tok, s.last⟩
def AD.ofTB (p : Nat) (b : TB) : AD := ⟨p, b.tok, b.last⟩
def ADCfg.tb (c : ADCfg) (p : Nat) : TBCfg := ⟨c.cap p, p, c.one⟩

theorem AD.refill_eq : s.refill c t = .ofTB s.p (s.toTB.refill (c.tb s.p) t) := by
  obtain ⟨p, tok, last⟩ := s
  cases last with
  | none => rfl
  | some l =>
    simp only [AD.refill, TB.refill, AD.toTB, ADCfg.tb]
    split <;> rfl

theorem AD.acquire_eq :
    s.acquire c t = (.ofTB s.p (s.toTB.acquire (c.tb s.p) t).1, (s.toTB.acquire (c.tb s.p) t).2) := by
  unfold AD.acquire TB.acquire
  simp only [AD.refill_eq, AD.ofTB, ADCfg.tb]
  split <;> simp only [*, if_true, if_false]

theorem AD.tua_eq :
    s.tua c t = (.ofTB s.p (s.toTB.tua (c.tb s.p) t).1, (s.toTB.tua (c.tb s.p) t).2) := by
  unfold AD.tua TB.tua
  simp only [AD.refill_eq, AD.ofTB, ADCfg.tb]
  split <;> simp only [*, if_true, if_false]

theorem AD.refill_p : (s.refill c t).p = s.p := by
  rw [AD.refill_eq]; rfl

theorem AD.acquire_p : (s.acquire c t).1.p = s.p := by
  rw [AD.acquire_eq]; rfl

theorem AD.tua_p : (s.tua c t).1.p = s.p := by
  rw [AD.tua_eq]; rfl

theorem AD.tua_fst : (AD.tua c s t).1 = s.refill c t := by
  rw [AD.tua_eq, AD.refill_eq, TB.tua_fst]

def adNorm (c : ADCfg) : Norm (adPolicy c) where
  adv := AD.refill c
  ok r _ := c.one ≤ r.tok
  take r _ := ⟨r.p, r.tok - c.one, r.last⟩
  wait r _ := waitOf (c.one - r.tok) r.p
  acq_eq s t := by show AD.acquire c s t = _; unfold AD.acquire; rw [AD.refill_p]
  tua_eq s t := by show AD.tua c s t = _; unfold AD.tua; rw [AD.refill_p]; split <;> rfl
  idem s t := by rw [AD.refill_eq, AD.refill_eq]; exact congrArg (AD.ofTB s.p) (TB.refill_idem (c.tb s.p) s.toTB t)

theorem AD.acquire_refused (h : (s.refill c t).tok < c.one) : AD.acquire c s t = (s.refill c t, false) :=
  (adNorm c).acq_refused (Nat.not_le.mpr h)

theorem AD.refill_last (h : NotBefore s.last t) : (s.refill c t).last = some t := by
  rw [AD.refill_eq]; exact TB.refill_last _ _ t h

theorem AD.step_call {o : Op} (ho : o.isCall) :
    (s.step c o).p = s.p ∧ (s.step c o).tok ≤ (s.refill c o.time).tok ∧
    (NotBefore s.last o.time → (s.step c o).last = some o.time) := by
  cases o with
  | acq t =>
    refine ⟨AD.acquire_p c s t, ?_, fun h => by rw [AD.step, AD.acquire_eq]; exact TB.acquire_last _ _ t h⟩
    show (s.acquire c t).1.tok ≤ _
    unfold AD.acquire; split
    · exact Nat.sub_le _ _
    · exact Nat.le_refl _
  | tua t =>
    rw [AD.step, AD.tua_fst]
    exact ⟨AD.refill_p c s t, Nat.le_refl _, fun h => by rw [AD.refill_eq]; exact TB.refill_last _ _ t h⟩
  | succ _ | fail _ => exact ho.elim

theorem AD.InRange.of_p {c : ADCfg} {s s' : AD} (h : s.InRange c) (hp : s'.p = s.p) : s'.InRange c := by
  unfold AD.InRange at *; rw [hp]; exact h

theorem AD.step_range (hc : ADOk c) (s : AD) (o : Op) (h : s.InRange c) :
    (s.step c o).InRange c := by
  have := hc.range
  cases o with
  | acq t | tua t => exact h.of_p (AD.step_call c s (by trivial)).1
  | succ t => exact ⟨Nat.le_min.mpr ⟨this, Nat.le_trans h.1 (Nat.le_add_right _ _)⟩, Nat.min_le_left _ _⟩
  | fail t =>
    have hd : s.p * c.fn / c.fd ≤ s.p :=
      Nat.div_le_of_le_mul (Nat.mul_comm c.fd s.p ▸ Nat.mul_le_mul_left _ hc.factor)
    exact ⟨Nat.le_max_left _ _, Nat.max_le.mpr ⟨this, Nat.le_trans hd h.2⟩⟩

theorem AD.step_notBefore (now : Nat) (o : Op) (h : NotBefore s.last now)
    (ht : now ≤ o.time) : NotBefore (s.step c o).last o.time := by
  have h' : ∀ l, s.last = some l → l ≤ o.time := fun l hl => Nat.le_trans (h l hl) ht
  cases o with
  | acq t | tua t => exact fun l hl => Nat.le_of_eq (eq_of_some ((AD.step_call c s (by trivial)).2.2 h') l hl)
  | succ t | fail t => exact h'

theorem ad_admitted_cons (o : Op) (os : List Op) :
    AD.admitted c s (o :: os) = AD.admitted c s [o] ++ AD.admitted c (s.step c o) os := by
  cases o with
  | acq t => simp only [AD.admitted, AD.step]; split <;> rfl
  | tua t | succ t | fail t => rfl

theorem AD.call_eq {o : Op} (ho : o.isCall) :
    s.step c o = .ofTB s.p ((tbPolicy (c.tb s.p)).step s.toTB o) ∧
    AD.admitted c s [o] = (tbPolicy (c.tb s.p)).admitted s.toTB [o] := by
  cases o with
  | acq t => simp only [AD.step, AD.admitted, AD.acquire_eq]; exact ⟨rfl, rfl⟩
  | tua t => simp only [AD.step, AD.tua_eq]; exact ⟨rfl, rfl⟩
  | succ _ | fail _ => exact ho.elim

theorem AD.call_pot {o : Op} {B R l : Nat} (hB : c.cap s.p ≤ B) (hR : s.p ≤ R) (hs : s.tok ≤ B)
    (hl : ∀ l', s.last = some l' → l' = l) (h1 : l ≤ o.time) (ho : o.isCall := by trivial) :
    (s.step c o).p = s.p ∧ (s.step c o).tok ≤ B ∧ (s.step c o).last = some o.time ∧
    ∀ {ts}, Pot B R c.one (s.step c o).tok o.time ts → Pot B R c.one s.tok l (AD.admitted c s [o] ++ ts) := by
  obtain ⟨e1, e2⟩ := AD.call_eq c s ho
  rw [e1, e2]
  exact ⟨rfl, TB.call_pot (c.tb s.p) s.toTB hB hR hs hl h1 ho⟩

/-- the admissions of a run, whatever the feedback, are those of a bucket refilled at `pmax` -/
theorem ad_pot (c : ADCfg) (hc : ADOk c) (B : Nat) (hB : c.cap c.pmax ≤ B) :
    ∀ (ops : List Op) (s : AD) (l : Nat), s.InRange c → s.tok ≤ B →
    (∀ l', s.last = some l' → l' = l) → MonoOps l ops → Pot B c.pmax c.one s.tok l (AD.admitted c s ops)
  | [], _, _, _, _, _, _ => .nil _ _
  | .acq t :: os, s, l, hr, hs, hl, hm | .tua t :: os, s, l, hr, hs, hl, hm => by
    obtain ⟨hp, ht, hlast, w⟩ := AD.call_pot c s (Nat.le_trans (c.cap_mono hr.2) hB) hr.2 hs hl hm.1
    rw [ad_admitted_cons]
    exact w (ad_pot c hc B hB os _ _ (hr.of_p hp) ht (eq_of_some hlast) hm.2)
  | .succ t :: os, s, l, hr, hs, hl, hm =>
    ad_pot c hc B hB os _ l (AD.step_range c hc s (.succ t) hr) hs hl (hm.2.weaken hm.1)
  | .fail t :: os, s, l, hr, hs, hl, hm =>
    -- `record_failure` only discards tokens
    (ad_pot c hc B hB os _ l (AD.step_range c hc s (.fail t) hr) (Nat.le_trans (Nat.min_le_left _ _) hs) hl
      (hm.2.weaken hm.1)).weaken (Nat.le_refl l) (Nat.le_trans (Nat.min_le_left _ _) (Nat.le_add_right _ _))

def AD.Full (c : ADCfg) (s : AD) : Prop := s.tok ≤ c.cap s.p

theorem AD.step_full (c : ADCfg) (s : AD) (o : Op) (hr : s.InRange c) (h : s.Full c) : (s.step c o).Full c := by
  unfold AD.Full at *
  have call : ∀ o : Op, o.isCall → (s.step c o).tok ≤ c.cap (s.step c o).p := fun o ho => by
    obtain ⟨hp, ht, -⟩ := AD.step_call c s ho
    rw [AD.refill_eq] at ht
    rw [hp]; exact Nat.le_trans ht (TB.refill_tok_le_of (c.tb s.p) s.toTB _ (Nat.le_refl _) h)
  cases o with
  | acq t | tua t => exact call _ (by trivial)
  | succ t => exact Nat.le_trans h (c.cap_mono (Nat.le_min.mpr ⟨hr.2, Nat.le_add_right _ _⟩))
  | fail t => exact Nat.min_le_right _ _

def AD.run (c : ADCfg) : AD → List Op → AD
  | s, [] => s
  | s, o :: os => AD.run c (s.step c o) os

theorem AD.run_inv (c : ADCfg) (hc : ADOk c) : ∀ (ops : List Op) (s : AD), s.InRange c →
    (AD.run c s ops).InRange c ∧ (s.Full c → (AD.run c s ops).Full c) ∧
    ∀ now, NotBefore s.last now → MonoOps now ops → NotBefore (AD.run c s ops).last (endTime now ops)
  | [], _, hr => ⟨hr, id, fun _ h _ => h⟩
  | o :: os, s, hr =>
    have ⟨a, b, d⟩ := AD.run_inv c hc os _ (AD.step_range c hc s o hr)
    ⟨a, fun hf => b (AD.step_full c s o hr hf), fun now h hm => d _ (AD.step_notBefore c s now o h hm.1) hm.2⟩

def NoFeedback (ops : List Op) : Prop := ∀ o ∈ ops, (∃ t, o = .acq t) ∨ (∃ t, o = .tua t)

theorem NoFeedback.nil : NoFeedback [] := fun _ h => nomatch h

theorem NoFeedback.acq {t : Nat} {os : List Op} (h : NoFeedback os) : NoFeedback (.acq t :: os) :=
  fun o ho => (List.mem_cons.mp ho).elim (fun e => Or.inl ⟨t, e⟩) (h o)

theorem NoFeedback.tua {t : Nat} {os : List Op} (h : NoFeedback os) : NoFeedback (.tua t :: os) :=
  fun o ho => (List.mem_cons.mp ho).elim (fun e => Or.inr ⟨t, e⟩) (h o)

theorem NoFeedback.tail {o : Op} {os : List Op} (h : NoFeedback (o :: os)) : NoFeedback os :=
  fun o' ho' => h o' (List.mem_cons_of_mem _ ho')

theorem NoFeedback.head {o : Op} {os : List Op} (h : NoFeedback (o :: os)) : o.isCall := by
  rcases h o List.mem_cons_self with ⟨_, rfl⟩ | ⟨_, rfl⟩ <;> trivial

theorem ad_admitted_eq (c : ADCfg) : ∀ (ops : List Op) (s : AD), NoFeedback ops →
    AD.admitted c s ops = (adPolicy c).admitted s ops
  | [], _, _ => rfl
  | .acq t :: os, s, hn => by
    simp only [AD.admitted, Policy.admitted, adPolicy]; rw [ad_admitted_eq c os _ hn.tail]; rfl
  | .tua t :: os, s, hn => by
    simp only [AD.admitted, Policy.admitted, adPolicy, AD.step]; rw [ad_admitted_eq c os _ hn.tail]; rfl
  | .succ _ :: _, _, hn | .fail _ :: _, _, hn => hn.head.elim

/-- what a caller of the adaptive policy observes (`fb` = feedback, with `current_rate` afterwards) -/
def AD.obs (c : ADCfg) : AD → List Op → List Obs
  | _, [] => []
  | s, .acq t :: os => .acq t (s.acquire c t).2 :: AD.obs c (s.acquire c t).1 os
  | s, .tua t :: os => .tua t (s.tua c t).2 :: AD.obs c (s.tua c t).1 os
  | s, .succ t :: os => .fb t (s.success c).p :: AD.obs c (s.success c) os
  | s, .fail t :: os => .fb t (s.failure c).p :: AD.obs c (s.failure c) os

end HappyModel.C10
