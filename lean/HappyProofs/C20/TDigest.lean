import HappyModel.C20.TDigest
namespace HappyModel.C20

theorem Frac.le_via (x y : Frac) (k : Int)
    (h1 : x.num ≤ k * (x.den : Int)) (h2 : k * (y.den : Int) ≤ y.num) : x.le y := by
  unfold Frac.le
  have a : x.num * (y.den : Int) ≤ k * (x.den : Int) * (y.den : Int) :=
    Int.mul_le_mul_of_nonneg_right h1 (by omega)
  have b : k * (y.den : Int) * (x.den : Int) ≤ y.num * (x.den : Int) :=
    Int.mul_le_mul_of_nonneg_right h2 (by omega)
  grind

/-! Every rule of the walk either returns a mean (`QAns.flat`) or interpolates between the two ends of
its bracket (`QAns.interp`).  Two answers are compared either inside one bracket (`interp_le`) or
across brackets that do not overlap (`Good.le_of_sep`). -/

/-- `L + (X / D) · (H − L)` with its bracket `[L, H]` -/
def QAns.interp (L H X : Int) (D : Nat) : QAns := ⟨L, H, ⟨L * (D : Int) + X * (H - L), D⟩⟩

def QAns.Good (prev hi : Int) (r : QAns) : Prop :=
  prev ≤ r.lo ∧ r.lo ≤ r.hi ∧ r.hi ≤ hi ∧ r.v.within r.lo r.hi

theorem QAns.Good.flat {p h m : Int} (hpm : p ≤ m) (hmh : m ≤ h) : QAns.Good p h (.flat m) :=
  ⟨hpm, Int.le_refl _, hmh, Int.le_of_eq (Int.mul_one m), Int.le_of_eq (Int.mul_one m).symm⟩

theorem QAns.Good.interp {p h L H X : Int} {D : Nat} (h0 : 0 ≤ X) (h1 : X ≤ D)
    (hpL : p ≤ L) (hLH : L ≤ H) (hHh : H ≤ h) : QAns.Good p h (.interp L H X D) := by
  have a : 0 ≤ X * (H - L) := Int.mul_nonneg h0 (by omega)
  have b : X * (H - L) ≤ D * (H - L) := Int.mul_le_mul_of_nonneg_right h1 (by omega)
  refine ⟨hpL, hLH, hHh, ?_, ?_⟩
  · show L * (D : Int) ≤ L * D + X * (H - L); omega
  · show L * (D : Int) + X * (H - L) ≤ H * D; grind

theorem QAns.interp_le {L H X1 X2 : Int} (D : Nat) (hX : X1 ≤ X2) (hLH : L ≤ H) :
    (QAns.interp L H X1 D).v.le (QAns.interp L H X2 D).v := by
  have := Int.mul_le_mul_of_nonneg_right hX (show 0 ≤ H - L by omega)
  exact Int.mul_le_mul_of_nonneg_right (Int.add_le_add_left this _) (Int.natCast_nonneg D)

theorem QAns.Good.le_of_sep {p1 h1 p2 h2 : Int} {r1 r2 : QAns} (g1 : QAns.Good p1 h1 r1)
    (g2 : QAns.Good p2 h2 r2) (h : r1.hi ≤ r2.lo) : r1.v.le r2.v :=
  Frac.le_via _ _ r1.hi g1.2.2.2.2
    (Int.le_trans (Int.mul_le_mul_of_nonneg_right h (Int.natCast_nonneg _)) g2.2.2.2.1)

/-! `headAns` is the answer `tdWalk` gives when the target falls into the head centroid's range: the
first centroid rises from `lo` to its mean over its first half, the last one from its mean to `hi`
over its second half, every other one from the previous mean to its own over its first half. -/

def headAns (T b : Nat) (lo hi : Int) (first : Bool) (prev : Int) (run : Nat) (m : Int) (c : Nat)
    (last : Bool) : QAns :=
  if first then
    if T < b * c then .interp lo m T (b * c) else .flat m
  else if last then
    if 2 * b * run + b * c < T then .interp m hi ((T : Int) - ((2 * b * run + b * c : Nat) : Int)) (b * c)
    else .flat m
  else
    if T < 2 * b * run + b * c then
      .interp prev m (((b * c : Nat) : Int) + (T : Int) - ((2 * b * run : Nat) : Int)) (2 * b * c)
    else .flat m

theorem tdWalk_cons (T b : Nat) (lo hi : Int) (first : Bool) (prev : Int) (run : Nat) (m : Int) (c : Nat)
    (rest : List (Int × Nat)) :
    tdWalk T b lo hi first prev run ((m, c) :: rest) =
      if 2 * b * run ≤ T ∧ T ≤ 2 * b * (run + c) then headAns T b lo hi first prev run m c rest.isEmpty
      else tdWalk T b lo hi false m (run + c) rest := by
  -- the model writes the middle rule as `(m − prev) · X`, `QAns.interp` as `X · (H − L)`
  simp only [tdWalk, headAns, QAns.interp, Int.mul_comm (m - prev)]

theorem headAns_bounds (T b : Nat) (lo hi : Int) (first : Bool) (prev : Int) (run : Nat)
    (m : Int) (c : Nat) (last : Bool) (hpm : prev ≤ m) (hmh : m ≤ hi)
    (hf : first = true → prev = lo) (hT : 2 * b * run ≤ T ∧ T ≤ 2 * b * (run + c)) :
    QAns.Good prev hi (headAns T b lo hi first prev run m c last) := by
  have h3 : 2 * b * c = b * c + b * c := by rw [Nat.mul_assoc, Nat.two_mul]
  have h2 : 2 * b * (run + c) = 2 * b * run + b * c + b * c := by rw [Nat.mul_add, h3, Nat.add_assoc]
  cases first with
  | true =>
    cases hf rfl
    simp only [headAns, ↓reduceIte]
    split
    · next hlt =>
      exact .interp (Int.natCast_nonneg T) (Int.ofNat_le.mpr (Nat.le_of_lt hlt)) (Int.le_refl _) hpm hmh
    · exact .flat hpm hmh
  | false =>
    cases last with
    | true =>
      simp only [headAns, ↓reduceIte, Bool.false_eq_true]
      split
      · next hlt =>
        exact .interp (Int.sub_nonneg.mpr (Int.ofNat_le.mpr (Nat.le_of_lt hlt))) (by omega) hpm hmh
          (Int.le_refl _)
      · exact .flat hpm hmh
    | false =>
      simp only [headAns, ↓reduceIte, Bool.false_eq_true]
      split
      · next hlt =>
        have hX : (0 : Int) ≤ ((b * c : Nat) : Int) + (T : Int) - ((2 * b * run : Nat) : Int) ∧
            ((b * c : Nat) : Int) + (T : Int) - ((2 * b * run : Nat) : Int) ≤ ((2 * b * c : Nat) : Int) := by
          omega
        exact .interp hX.1 hX.2 (Int.le_refl _) hpm hmh
      · exact .flat hpm hmh

theorem headAns_hi (T b : Nat) (lo hi : Int) (first : Bool) (prev : Int) (run : Nat) (m : Int) (c : Nat)
    (last : Bool) (h : first = true ∨ last = false) :
    (headAns T b lo hi first prev run m c last).hi = m := by
  cases first with
  | true => simp only [headAns, ↓reduceIte]; split <;> rfl
  | false =>
    cases h.resolve_left Bool.false_ne_true
    simp only [headAns, ↓reduceIte, Bool.false_eq_true]; split <;> rfl

theorem QAns.rise_flat_le {p h L m X1 X2 : Int} {D : Nat} {P1 P2 : Prop} [Decidable P1] [Decidable P2]
    (g1 : QAns.Good p h (if P1 then .interp L m X1 D else .flat m))
    (g2 : QAns.Good p h (if P2 then .interp L m X2 D else .flat m))
    (hLm : L ≤ m) (hX : X1 ≤ X2) (h21 : P2 → P1) :
    (if P1 then QAns.interp L m X1 D else .flat m).v.le (if P2 then QAns.interp L m X2 D else .flat m).v := by
  by_cases h2 : P2
  · rw [if_pos (h21 h2), if_pos h2]; exact QAns.interp_le D hX hLm
  · refine g1.le_of_sep g2 ?_
    rw [if_neg h2]; split <;> exact Int.le_refl m

theorem QAns.flat_rise_le {p h H m X1 X2 : Int} {D : Nat} {P1 P2 : Prop} [Decidable P1] [Decidable P2]
    (g1 : QAns.Good p h (if P1 then .interp m H X1 D else .flat m))
    (g2 : QAns.Good p h (if P2 then .interp m H X2 D else .flat m))
    (hmH : m ≤ H) (hX : X1 ≤ X2) (h12 : P1 → P2) :
    (if P1 then QAns.interp m H X1 D else .flat m).v.le (if P2 then QAns.interp m H X2 D else .flat m).v := by
  by_cases h1 : P1
  · rw [if_pos h1, if_pos (h12 h1)]; exact QAns.interp_le D hX hmH
  · refine g1.le_of_sep g2 ?_
    rw [if_neg h1]; split <;> exact Int.le_refl m

theorem headAns_mono (T1 T2 b : Nat) (lo hi : Int) (first : Bool) (prev : Int) (run : Nat)
    (m : Int) (c : Nat) (last : Bool) (hpm : prev ≤ m) (hmh : m ≤ hi)
    (hf : first = true → prev = lo) (h12 : T1 ≤ T2)
    (hT1 : 2 * b * run ≤ T1 ∧ T1 ≤ 2 * b * (run + c)) (hT2 : 2 * b * run ≤ T2 ∧ T2 ≤ 2 * b * (run + c)) :
    (headAns T1 b lo hi first prev run m c last).v.le (headAns T2 b lo hi first prev run m c last).v := by
  have B1 := headAns_bounds T1 b lo hi first prev run m c last hpm hmh hf hT1
  have B2 := headAns_bounds T2 b lo hi first prev run m c last hpm hmh hf hT2
  have h12' : (T1 : Int) ≤ T2 := Int.ofNat_le.mpr h12
  cases first with
  | true =>
    cases hf rfl
    exact QAns.rise_flat_le B1 B2 hpm h12' (Nat.lt_of_le_of_lt h12)
  | false =>
    cases last with
    | true => exact QAns.flat_rise_le B1 B2 hmh (Int.sub_le_sub_right h12' _) fun h => Nat.lt_of_lt_of_le h h12
    | false =>
      exact QAns.rise_flat_le B1 B2 hpm (Int.sub_le_sub_right (Int.add_le_add_left h12' _) _)
        (Nat.lt_of_le_of_lt h12)

theorem tdWalk_bounds (T b : Nat) (lo hi : Int) :
    ∀ (cs : List (Int × Nat)) (first : Bool) (prev : Int) (run : Nat),
      sortedFrom prev cs → (∀ mc ∈ cs, mc.1 ≤ hi) → prev ≤ hi → (first = true → prev = lo) →
      QAns.Good prev hi (tdWalk T b lo hi first prev run cs) := by
  intro cs
  induction cs with
  | nil =>
    intro first prev run _ _ hph _
    exact .flat (Int.le_refl _) hph
  | cons mc rest ih =>
    intro first prev run hs ht hph hf
    obtain ⟨m, c⟩ := mc
    obtain ⟨hpm, -, hs'⟩ := hs
    have hmh : m ≤ hi := ht (m, c) (List.mem_cons_self)
    rw [tdWalk_cons]
    split
    · next hT => exact headAns_bounds T b lo hi first prev run m c rest.isEmpty hpm hmh hf hT
    · have := ih false m (run + c) hs' (fun x hx => ht x (List.mem_cons_of_mem _ hx)) hmh (by simp)
      exact ⟨Int.le_trans hpm this.1, this.2⟩

theorem tdWalk_mono (b : Nat) (lo hi : Int) :
    ∀ (cs : List (Int × Nat)) (first : Bool) (prev : Int) (run T1 T2 : Nat),
      sortedFrom prev cs → (∀ mc ∈ cs, mc.1 ≤ hi) → (first = true → prev = lo) →
      T1 ≤ T2 → 2 * b * run ≤ T1 → T2 ≤ 2 * b * (run + sumW cs) →
      (tdWalk T1 b lo hi first prev run cs).v.le (tdWalk T2 b lo hi first prev run cs).v := by
  intro cs
  induction cs with
  | nil => intro first prev run T1 T2 _ _ _ _ _ _; simp [tdWalk, QAns.flat, Frac.le]
  | cons mc rest ih =>
    intro first prev run T1 T2 hs ht hf h12 hlo hup
    obtain ⟨m, c⟩ := mc
    obtain ⟨hpm, -, hs'⟩ := hs
    have hmh : m ≤ hi := ht (m, c) (List.mem_cons_self)
    have ht' : ∀ x ∈ rest, x.1 ≤ hi := fun x hx => ht x (List.mem_cons_of_mem _ hx)
    simp only [sumW] at hup
    rw [tdWalk_cons, tdWalk_cons]
    by_cases c1 : 2 * b * run ≤ T1 ∧ T1 ≤ 2 * b * (run + c)
    · by_cases c2 : 2 * b * run ≤ T2 ∧ T2 ≤ 2 * b * (run + c)
      · rw [if_pos c1, if_pos c2]
        exact headAns_mono T1 T2 b lo hi first prev run m c rest.isEmpty hpm hmh hf h12 c1 c2
      · rw [if_pos c1, if_neg c2]
        -- the second target lies beyond this centroid: its answer is at least `m`; it also lies in the weight still
        -- ahead (`hup`), so `rest` is not empty
        have B1 := headAns_bounds T1 b lo hi first prev run m c rest.isEmpty hpm hmh hf c1
        have B2 := tdWalk_bounds T2 b lo hi rest false m (run + c) hs' ht' hmh (by simp)
        have hne : rest.isEmpty = false := by
          cases rest with
          | nil => simp only [sumW, Nat.add_zero] at hup; exact absurd ⟨by omega, hup⟩ c2
          | cons _ _ => rfl
        have hh : (headAns T1 b lo hi first prev run m c rest.isEmpty).hi = m :=
          headAns_hi _ _ _ _ _ _ _ _ _ _ (Or.inr hne)
        exact B1.le_of_sep B2 (by rw [hh]; exact B2.1)
    · have c2 : ¬ (2 * b * run ≤ T2 ∧ T2 ≤ 2 * b * (run + c)) := by
        intro h; exact c1 ⟨hlo, by omega⟩
      rw [if_neg c1, if_neg c2]
      have hgt : 2 * b * (run + c) ≤ T1 := by
        have : ¬ T1 ≤ 2 * b * (run + c) := fun h => c1 ⟨hlo, h⟩
        omega
      exact ih false m (run + c) T1 T2 hs' ht' (by simp) h12 hgt (by rw [Nat.add_assoc]; exact hup)

theorem quantile_in_bracket (d : TD) (wf : d.WF) (a b : Nat) :
    QAns.Good d.lo d.hi (d.quantile a b) := by
  unfold TD.quantile
  split
  · exact .flat (Int.le_refl _) wf.lohi
  · split
    · exact .flat wf.lohi (Int.le_refl _)
    · exact tdWalk_bounds _ b d.lo d.hi d.cs true d.lo 0 wf.sorted wf.top wf.lohi (fun _ => rfl)

theorem Frac.within_widen (v : Frac) (lo hi lo' hi' : Int) (h : v.within lo hi) (h1 : lo' ≤ lo) (h2 : hi ≤ hi') :
    v.within lo' hi' := by
  unfold Frac.within at *
  have a : lo' * (v.den : Int) ≤ lo * (v.den : Int) := Int.mul_le_mul_of_nonneg_right h1 (by omega)
  have b : hi * (v.den : Int) ≤ hi' * (v.den : Int) := Int.mul_le_mul_of_nonneg_right h2 (by omega)
  omega

theorem sortedFromB_iff (prev : Int) (cs : List (Int × Nat)) : sortedFromB prev cs = true ↔ sortedFrom prev cs := by
  induction cs generalizing prev with
  | nil => simp [sortedFromB, sortedFrom]
  | cons mc rest ih =>
    obtain ⟨m, c⟩ := mc
    simp [sortedFromB, sortedFrom, ih, and_assoc]

theorem TD.wf_of_wfB (d : TD) (h : d.wfB = true) : d.WF := by
  simp only [TD.wfB, Bool.and_eq_true, List.all_eq_true, decide_eq_true_eq] at h
  exact ⟨(sortedFromB_iff _ _).1 h.1.1, fun mc hm => h.1.2 mc hm, h.2⟩

end HappyModel.C20
